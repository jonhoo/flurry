import Flurry.Driver
import Flurry.Gen.Api
import Flurry.Gen.Arith
import Flurry.Gen.Atomics
import Flurry.Gen.Consts
import Flurry.Gen.Guards
import Flurry.Gen.Serde
import Flurry.Lemmas.Arith
import Flurry.Lemmas.Bin
import Flurry.Lemmas.BinBasic
import Flurry.Lemmas.BinChain
import Flurry.Lemmas.BinGhost
import Flurry.Lemmas.BinInv
import Flurry.Lemmas.BinKBasic
import Flurry.Lemmas.BinKChain
import Flurry.Lemmas.BinKEmbed
import Flurry.Lemmas.BinKEmbedInv
import Flurry.Lemmas.BinKEmbedMain
import Flurry.Lemmas.BinKGhost
import Flurry.Lemmas.GhostSig
import Flurry.Lemmas.GhostView
import Flurry.Lemmas.BinKHeapAux
import Flurry.Lemmas.BinKInv
import Flurry.Lemmas.BinKInvQ
import Flurry.Lemmas.BinKLin
import Flurry.Lemmas.BinKLock
import Flurry.Lemmas.BinKStep
import Flurry.Lemmas.BinLock
import Flurry.Lemmas.BinSeq
import Flurry.Lemmas.BinStep
import Flurry.Lemmas.BinEmbed
import Flurry.Lemmas.BinTBasic
import Flurry.Lemmas.BinTChain
import Flurry.Lemmas.BinTGhost
import Flurry.Lemmas.BinTInv
import Flurry.Lemmas.BinTInvStep
import Flurry.Lemmas.BinTLin
import Flurry.Lemmas.BinTStep
import Flurry.Lemmas.BinUBasic
import Flurry.Lemmas.BinUChain
import Flurry.Lemmas.BinUGhost
import Flurry.Lemmas.BinUInv
import Flurry.Lemmas.BinUInvStep
import Flurry.Lemmas.BinULin
import Flurry.Lemmas.BinUStep
import Flurry.Lemmas.SharedBasic
import Flurry.Lemmas.BinW
import Flurry.Lemmas.BinWExamples
import Flurry.Lemmas.BinWLin
import Flurry.Lemmas.BinWEmbed
import Flurry.Lemmas.BinWProj
import Flurry.Lemmas.BinWStep
import Flurry.Lemmas.BinWWalk
import Flurry.Lemmas.BinXBasic
import Flurry.Lemmas.BinXCDefs
import Flurry.Lemmas.BinXCExamples
import Flurry.Lemmas.BinXCGhost
import Flurry.Lemmas.BinXCInv
import Flurry.Lemmas.BinXCLin
import Flurry.Lemmas.BinXCMem
import Flurry.Lemmas.BinXCProj
import Flurry.Lemmas.BinXCStep
import Flurry.Lemmas.BinXCThreads
import Flurry.Lemmas.BinXChain
import Flurry.Lemmas.BinXDefs
import Flurry.Lemmas.BinXExamples
import Flurry.Lemmas.BinXGhost
import Flurry.Lemmas.BinXMem
import Flurry.Lemmas.BinXMemStep
import Flurry.Lemmas.BinXRetire
import Flurry.Lemmas.BinXSplit
import Flurry.Lemmas.BinXStep
import Flurry.Lemmas.BinXStore
import Flurry.Lemmas.BinXSurgery
import Flurry.Lemmas.BinXThreads
import Flurry.Lemmas.BinXTransfer
import Flurry.Lemmas.Bits
import Flurry.Lemmas.C12BinT
import Flurry.Lemmas.C12BinTRun
import Flurry.Lemmas.C12BinX
import Flurry.Lemmas.C12BinXRun
import Flurry.Lemmas.IdSet
import Flurry.Lemmas.Iter
import Flurry.Lemmas.IterBasic
import Flurry.Lemmas.IterCases
import Flurry.Lemmas.IterFrozen
import Flurry.Lemmas.Lin
import Flurry.Lemmas.LinBasic
import Flurry.Lemmas.LinLocal
import Flurry.Lemmas.LinGen
import Flurry.Lemmas.LinEmbed
import Flurry.Lemmas.LinPoints
import Flurry.Lemmas.LinSearch
import Flurry.Lemmas.LinTrace
import Flurry.Lemmas.Pow2
import Flurry.Lemmas.RBBasic
import Flurry.Lemmas.RBDelete
import Flurry.Lemmas.RBDeleteInv
import Flurry.Lemmas.RBDeleteSmall
import Flurry.Lemmas.RBInsert
import Flurry.Lemmas.RBInsertFind
import Flurry.Lemmas.RBInsertHeight
import Flurry.Lemmas.Reclaim
import Flurry.Lemmas.ReclaimBasic
import Flurry.Lemmas.ReclaimExamples
import Flurry.Lemmas.ReclaimFree
import Flurry.Lemmas.ReclaimSafe
import Flurry.Lemmas.Resize
import Flurry.Lemmas.ResizeBasic
import Flurry.Lemmas.ResizeExamples
import Flurry.Lemmas.ResizeInv
import Flurry.Lemmas.ResizeProgress
import Flurry.Lemmas.ResizeThms
import Flurry.Lemmas.RwLock
import Flurry.Lemmas.RwLockBasic
import Flurry.Lemmas.RwLockDrain
import Flurry.Lemmas.RwLockInv
import Flurry.Lemmas.RwLockProgress
import Flurry.Lemmas.RwLockRuns
import Flurry.Lemmas.RwLockThms
import Flurry.Lemmas.SeqBins
import Flurry.Lemmas.SeqBinsList
import Flurry.Lemmas.SeqBinsSplit
import Flurry.Lemmas.SeqBinsUpdate
import Flurry.Lemmas.SeqOps
import Flurry.Lemmas.SeqOpsBulk
import Flurry.Lemmas.SeqOpsCap
import Flurry.Lemmas.SeqOpsCip
import Flurry.Lemmas.SeqOpsCore
import Flurry.Lemmas.SeqOpsPut
import Flurry.Lemmas.SeqOpsRead
import Flurry.Lemmas.SeqOpsRemove
import Flurry.Lemmas.SeqOpsRetain
import Flurry.Lemmas.SeqOpsRoom
import Flurry.Lemmas.SeqOpsUpd
import Flurry.Lemmas.SeqTable
import Flurry.Lemmas.SeqTableAddCount
import Flurry.Lemmas.SeqTableBasic
import Flurry.Lemmas.SeqTableCtl
import Flurry.Lemmas.SeqTableLookup
import Flurry.Lemmas.SeqTablePresize
import Flurry.Lemmas.SeqTableTransfer
import Flurry.Lemmas.TableK
import Flurry.Lemmas.TableKExamples
import Flurry.Lin
import Flurry.LinMap
import Flurry.Prelude
import Flurry.Props.C01
import Flurry.Props.C01Bin
import Flurry.Props.C01BinK
import Flurry.Props.C01BinT
import Flurry.Props.C01BinU
import Flurry.Props.C01BinW
import Flurry.Props.C01BinX
import Flurry.Props.C01BinXC
import Flurry.Props.C01Local
import Flurry.Props.C01Source
import Flurry.Props.C01TableK
import Flurry.Props.C02
import Flurry.Props.C03
import Flurry.Props.C04
import Flurry.Props.C05
import Flurry.Props.C06
import Flurry.Props.C07
import Flurry.Props.C08
import Flurry.Props.C09
import Flurry.Props.C10
import Flurry.Props.C10Arith
import Flurry.Props.C11
import Flurry.Props.C12
import Flurry.Props.C12Bins
import Flurry.Props.C13
import Flurry.Props.C14
import Flurry.Props.C14Arith
import Flurry.Props.C16
import Flurry.Props.C17
import Flurry.Props.C17Defs
import Flurry.Props.C18
import Flurry.Props.C19
import Flurry.Proto.Bin
import Flurry.Proto.BinG
import Flurry.Proto.BinK
import Flurry.Proto.BinT
import Flurry.Proto.BinU
import Flurry.Proto.BinW
import Flurry.Proto.BinX
import Flurry.Proto.BinXC
import Flurry.Proto.Reclaim
import Flurry.Proto.Resize
import Flurry.Proto.RwLock
import Flurry.Proto.RwLockMonitor
import Flurry.Proto.TableK
import Flurry.RB
import Flurry.RBInv
import Flurry.Seq.Inv
import Flurry.Seq.Iter
import Flurry.Seq.Model
import Flurry.Seq.Step
import Flurry.SigDefs
import Flurry.Spec.Bulk
import Flurry.Lemmas.BinGEmbed
import Flurry.Lemmas.BinGEmbedGhost
import Flurry.Lemmas.BinGEmbedInv
import Flurry.Lemmas.BinGEmbedMain
import Flurry.Lemmas.BinGEmbedSim
import Flurry.Lemmas.BinGExamples
import Flurry.Lemmas.BinGFacts
import Flurry.Lemmas.BinGFactsBase
import Flurry.Lemmas.BinGFactsL
import Flurry.Lemmas.BinGFactsX
import Flurry.Lemmas.BinGGhost
import Flurry.Lemmas.BinGGhostL
import Flurry.Lemmas.BinGInit
import Flurry.Lemmas.BinGShared
import Flurry.Lemmas.BinGInv
import Flurry.Lemmas.BinGInvBasic
import Flurry.Lemmas.BinGInvQ
import Flurry.Lemmas.BinGLin
import Flurry.Lemmas.LockWord
import Flurry.Lemmas.BinGLock
import Flurry.Lemmas.BinGPlan
import Flurry.Lemmas.BinGSide
import Flurry.Lemmas.BinGSplit
import Flurry.Lemmas.BinGStep
import Flurry.Lemmas.BinGStepN
import Flurry.Lemmas.BinGStore
import Flurry.Props.C01BinG
import Flurry.Proto.Count
import Flurry.Proto.TableG
import Flurry.Lemmas.TableG
import Flurry.Lemmas.TableGExamples
import Flurry.Props.C01TableG
import Flurry.Lemmas.BinGProgAll
import Flurry.Lemmas.BinGProgBase
import Flurry.Lemmas.BinGProgEn
import Flurry.Lemmas.BinGProgInv
import Flurry.Lemmas.BinGProgReach
import Flurry.Lemmas.BinGProgRead
import Flurry.Lemmas.BinGProgSolo
import Flurry.Lemmas.BinGProgSoloW
import Flurry.Lemmas.BinGProgStepW
import Flurry.Lemmas.BinGProgStuck
import Flurry.Props.C11BinG
import Flurry.Props.C12BinG
import Flurry.Lemmas.BinGQuiescent
import Flurry.Lemmas.BinGCommit
import Flurry.Lemmas.BinGQuiescentExamples
import Flurry.Lemmas.BinGHeapFrame
import Flurry.Lemmas.BinGHeapKeys
import Flurry.Lemmas.BinGHeapPlan
import Flurry.Lemmas.BinGHeapSize
import Flurry.Lemmas.BinGHeapStore
import Flurry.Lemmas.TableGQuiescent
import Flurry.Lemmas.TableGHeapKeys
import Flurry.Lemmas.TableGQuiescentExamples
import Flurry.Props.C05BinG
import Flurry.Props.C05TableG
import Flurry.Lemmas.BinGDrainDefs
import Flurry.Lemmas.BinGDrainCalm
import Flurry.Lemmas.BinGDrainStep
import Flurry.Lemmas.BinGDrainRun
import Flurry.Props.C11BinGDrain
import Flurry.Lemmas.LinCounter
import Flurry.Props.C08Table
import Flurry.Proto.BinN
import Flurry.Proto.BinNA
import Flurry.Lemmas.BinNAAbs
import Flurry.Lemmas.BinNABasic
import Flurry.Lemmas.BinNAExamples
import Flurry.Lemmas.BinNAGhost
import Flurry.Lemmas.BinNAInv
import Flurry.Lemmas.BinNAInvStep
import Flurry.Lemmas.BinNALin
import Flurry.Lemmas.BinNALock
import Flurry.Lemmas.BinNAStep
import Flurry.Lemmas.BinNATransfer
import Flurry.Lemmas.BinNAWF
import Flurry.Lemmas.BinNShape
import Flurry.Lemmas.BinNBasic
import Flurry.Lemmas.BinNCells
import Flurry.Lemmas.BinNChain
import Flurry.Lemmas.BinNRank
import Flurry.Lemmas.BinNDefs
import Flurry.Lemmas.BinNExamples
import Flurry.Lemmas.BinNExt
import Flurry.Lemmas.BinNGInv
import Flurry.Lemmas.BinNGenDefs
import Flurry.Lemmas.BinNGenFrame
import Flurry.Lemmas.BinNGenInv
import Flurry.Lemmas.BinNGenReach
import Flurry.Lemmas.BinNGenStep
import Flurry.Lemmas.BinNGhost
import Flurry.Lemmas.BinNInvAux
import Flurry.Lemmas.BinNInvDefs
import Flurry.Lemmas.BinNInvStep
import Flurry.Lemmas.BinNLin
import Flurry.Lemmas.BinNLive
import Flurry.Lemmas.BinNOrd
import Flurry.Lemmas.BinNSplit
import Flurry.Lemmas.BinNStep
import Flurry.Lemmas.BinNStore
import Flurry.Lemmas.BinNSurgery
import Flurry.Lemmas.BinNSurgeryDefs
import Flurry.Lemmas.BinNThreads
import Flurry.Lemmas.BinNTransfer
import Flurry.Props.C01BinN
import Flurry.Props.C01BinNA
import Flurry.Proto.TableN
import Flurry.Lemmas.TableN
import Flurry.Lemmas.TableNExamples
import Flurry.Props.C01TableN
import Flurry.Proto.BinNH
import Flurry.Lemmas.BinNHExamples
import Flurry.Lemmas.BinNHDefs
import Flurry.Lemmas.BinNHStepRW
import Flurry.Lemmas.BinNHStep
import Flurry.Lemmas.BinNHInv
import Flurry.Lemmas.BinNHReach
import Flurry.Lemmas.BinNHEff
import Flurry.Props.C01BinNH
import Flurry.Proto.BinNI
import Flurry.Lemmas.BinNIExamples
import Flurry.Lemmas.BinNIBasic
import Flurry.Lemmas.BinNIStep
import Flurry.Lemmas.BinNIGood
import Flurry.Lemmas.BinNIInv
import Flurry.Lemmas.BinNITerm
import Flurry.Props.C07BinNI
import Flurry.Proto.BinNR
import Flurry.Lemmas.BinNRFacts
import Flurry.Lemmas.BinNRRetired
import Flurry.Lemmas.BinNRInv
import Flurry.Lemmas.BinNRExamples
import Flurry.Lemmas.BinNRRuns
import Flurry.Props.C03BinNR
import Flurry.Lemmas.BinNHMBasic
import Flurry.Lemmas.BinNHMDefs
import Flurry.Lemmas.BinNHMGInv
import Flurry.Lemmas.BinNHMGhost
import Flurry.Lemmas.BinNHMGhostCleared
import Flurry.Lemmas.BinNHMGhostMoved
import Flurry.Lemmas.BinNHMInv
import Flurry.Lemmas.BinNHMInvDefs
import Flurry.Lemmas.BinNHMInvFrame
import Flurry.Lemmas.BinNHMInvStep
import Flurry.Lemmas.BinNHMLin
import Flurry.Lemmas.BinNHMStore
import Flurry.Lemmas.BinNHMSurgery
import Flurry.Lemmas.BinNHMSurgeryDefs
import Flurry.Lemmas.BinNHMTransfer
import Flurry.Lemmas.BinNHFull
import Flurry.Lemmas.BinNHFullCases
import Flurry.Lemmas.BinNHFullReach
import Flurry.Lemmas.BinNHFullStep
import Flurry.Props.C01BinNHLin
import Flurry.Lemmas.BinNIFrames
import Flurry.Props.C07BinNIOnce
import Flurry.Proto.BinGN
import Flurry.Lemmas.BinGNExamples
import Flurry.Lemmas.BinGNGenDefs
import Flurry.Lemmas.BinGNGenFrame
import Flurry.Lemmas.BinGNGenReach
import Flurry.Lemmas.BinGNGenStepR
import Flurry.Lemmas.BinGNGenStepW
import Flurry.Lemmas.BinGNGenStepX
import Flurry.Lemmas.BinGNInvDefs
import Flurry.Lemmas.BinGNLive
import Flurry.Lemmas.BinGNNext
import Flurry.Lemmas.BinGNNextDefs
import Flurry.Lemmas.BinGNOwn
import Flurry.Lemmas.BinGNOwnDefs
import Flurry.Lemmas.BinGNQuiet
import Flurry.Lemmas.BinGNRwDefs
import Flurry.Lemmas.BinGNStepTools
import Flurry.Lemmas.BinGNTimeDefs
import Flurry.Props.C01BinGN
import Flurry.Lemmas.BinNRInv2
import Flurry.Props.C04BinNR
import Flurry.Proto.Reclaim2
import Flurry.Lemmas.Reclaim2
import Flurry.Props.C03Reclaim2
import Flurry.Lemmas.BinNRRefine
import Flurry.Lemmas.BinNRRefineExamples
import Flurry.Lemmas.BinNIUnique
import Flurry.Props.C07BinNIOnce2
import Flurry.Lemmas.BinNRRefineProofBatch
import Flurry.Lemmas.BinNRRefineProofSim
import Flurry.Lemmas.BinNRRefineProofStep
import Flurry.Lemmas.BinNRRefineProofMain
import Flurry.Props.C03BinNRRefine
import Flurry.Proto.TableNH
import Flurry.Lemmas.TableNH
import Flurry.Props.C01TableNH
import Flurry.Proto.TableNI
import Flurry.Lemmas.TableNI
import Flurry.Lemmas.TableNIExamples
import Flurry.Props.C07TableNI
import Flurry.Lin2
import Flurry.Lemmas.Lin2Basic
import Flurry.Lemmas.Lin2CondRm
import Flurry.Lemmas.Lin2Points
import Flurry.Lemmas.Lin2Search
import Flurry.Lemmas.Lin2Trace
import Flurry.Lemmas.ListHeap
import Flurry.Lemmas.ListSet
import Flurry.Lemmas.ListSplit
import Flurry.Proto.BinRBase
import Flurry.Proto.BinR
import Flurry.Lemmas.BinRB
import Flurry.Lemmas.BinRBBasic
import Flurry.Lemmas.BinRBChain
import Flurry.Lemmas.BinRBGhost
import Flurry.Lemmas.BinRBInv
import Flurry.Lemmas.BinRBLin
import Flurry.Lemmas.BinRBLock
import Flurry.Lemmas.BinRBMain
import Flurry.Lemmas.BinRBStep
import Flurry.Lemmas.BinRProj
import Flurry.Lemmas.BinRStep
import Flurry.Lemmas.BinRWalk
import Flurry.Lemmas.BinRInv
import Flurry.Lemmas.BinRLin
import Flurry.Lemmas.BinRMain
import Flurry.Lemmas.BinRStore
import Flurry.Lemmas.BinRExamples
import Flurry.Props.C13BinR
import Flurry.Lemmas.BinGNFresh
import Flurry.Lemmas.BinGNFreshDefs
import Flurry.Lemmas.BinGNPArith
import Flurry.Lemmas.BinGNPBase
import Flurry.Lemmas.BinGNPBundle
import Flurry.Lemmas.BinGNPTwo
import Flurry.Lemmas.BinGNPFactsBase
import Flurry.Lemmas.BinGNPFactsK
import Flurry.Lemmas.BinGNPFactsL
import Flurry.Lemmas.BinGNPFactsT1
import Flurry.Lemmas.BinGNPFactsT2
import Flurry.Lemmas.BinGNPFactsX
import Flurry.Lemmas.BinGNPGhost
import Flurry.Lemmas.BinGNPGhostL
import Flurry.Lemmas.BinGNPInit
import Flurry.Lemmas.BinGNPInitG
import Flurry.Lemmas.BinGNPInv
import Flurry.Lemmas.BinGNPInvBasic
import Flurry.Lemmas.BinGNPInvQ
import Flurry.Lemmas.BinGNPInvQB
import Flurry.Lemmas.BinGNPInvW
import Flurry.Lemmas.BinGNPLin
import Flurry.Lemmas.BinGNPLinBase
import Flurry.Lemmas.BinGNPLinQ
import Flurry.Lemmas.BinGNPLock
import Flurry.Lemmas.BinGNPPlan
import Flurry.Lemmas.BinGNPPlanSep
import Flurry.Lemmas.BinGNPShape
import Flurry.Lemmas.BinGNPSplit
import Flurry.Lemmas.BinGNPStep
import Flurry.Lemmas.BinGNPStepN
import Flurry.Lemmas.BinGNPStore
import Flurry.Lemmas.BinGNPre
import Flurry.Props.C01BinGNLin
import Flurry.Lemmas.TableGP
import Flurry.Lemmas.TableLineages
import Flurry.Lemmas.TableEntries
import Flurry.Lemmas.LineagesDrain
import Flurry.Lemmas.Descent
import Flurry.Props.C11TableG
import Flurry.Props.C12TableG
import Flurry.Lemmas.BinGNQuiescent
import Flurry.Lemmas.BinGNQuiescentExamples
import Flurry.Props.C05BinGN
import Flurry.Proto.TableGN
import Flurry.Lemmas.TableGN
import Flurry.Lemmas.TableGNExamples
import Flurry.Props.C01TableGN
import Flurry.Lemmas.BinGNProgInv
import Flurry.Lemmas.BinGNProgReach
import Flurry.Lemmas.BinGNProgEn
import Flurry.Lemmas.BinGNProgRead
import Flurry.Lemmas.BinGNProgSolo
import Flurry.Lemmas.BinGNProgStuck
import Flurry.Lemmas.BinGNProgExamples
import Flurry.Props.C12BinGN
import Flurry.Props.C11BinGN
import Flurry.Lemmas.TableGNL
import Flurry.Lemmas.TableGNLExamples
import Flurry.Props.C05TableGN
import Flurry.Props.C11TableGN
import Flurry.Props.C12TableGN
import Flurry.Lemmas.BinGNDrainDefs
import Flurry.Lemmas.BinGNDrainCalm
import Flurry.Lemmas.BinGNDrainStep
import Flurry.Lemmas.BinGNDrainRun
import Flurry.Lemmas.BinGNDrainBound
import Flurry.Props.C11BinGNDrain
import Flurry.Lemmas.TableGND
import Flurry.Props.C11TableGNDrain
