import Flurry.RB
/-! # Invariants of tree bins (definitions only; proofs live in `Flurry/Lemmas/RB*.lean`)

`TreeInv t` is what property C06 calls "a balanced search tree": ordered by `(hash, key)`, black
root, no red node with a red child, equal black height on every path. -/
namespace Flurry.RB
open T

/-- every entry of `t` satisfies `p` -/
def All (p : Node → Prop) : T → Prop
  | nil => True
  | node _ l e r => p e ∧ All p l ∧ All p r

/-- binary search tree by the strict `(hash, key)` order `lt` -/
def BST : T → Prop
  | nil => True
  | node _ l e r => All (fun x => lt x e) l ∧ All (fun x => lt e x) r ∧ BST l ∧ BST r

/-- no red node has a red child -/
def NoRedRed : T → Prop
  | nil => True
  | node c l _ r => (c = true → isRed l = false ∧ isRed r = false) ∧ NoRedRed l ∧ NoRedRed r

/-- `BH t n`: every path from the root of `t` to a leaf crosses exactly `n` black nodes -/
inductive BH : T → Nat → Prop
  | nil : BH nil 0
  | red {l e r n} : BH l n → BH r n → BH (node true l e r) n
  | black {l e r n} : BH l n → BH r n → BH (node false l e r) (n + 1)

/-- the red-black invariant of a tree bin -/
def TreeInv (t : T) : Prop := BST t ∧ isRed t = false ∧ NoRedRed t ∧ ∃ n, BH t n

/-- executable check of `TreeInv` (used on dumped trees; proved equivalent in `Lemmas/RBBasic.lean`: `treeInvB_iff`) -/
def allB (p : Node → Bool) : T → Bool
  | nil => true
  | node _ l e r => p e && allB p l && allB p r

def bstB : T → Bool
  | nil => true
  | node _ l e r => allB (fun x => decide (lt x e)) l && allB (fun x => decide (lt e x)) r && bstB l && bstB r

def noRedRedB : T → Bool
  | nil => true
  | node c l _ r => (!c || (!isRed l && !isRed r)) && noRedRedB l && noRedRedB r

/-- black height if uniform -/
def bhB : T → Option Nat
  | nil => some 0
  | node c l _ r =>
    match bhB l, bhB r with
    | some a, some b => if a == b then some (if c then a else a + 1) else none
    | _, _ => none

def treeInvB (t : T) : Bool := bstB t && !isRed t && noRedRedB t && (bhB t).isSome

end Flurry.RB
