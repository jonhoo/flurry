/-! # Histories and linearizability of the per-key API with `condRm` (C13)

`Flurry/Lin.lean` with one more operation, `retain`'s conditional removal `condRm` (C13); `Lemmas/LinEmbed.lean`
embeds `Lin` into this file.

By locality (Herlihy & Wing) a history of a map whose operations each touch one key is
linearizable iff its projection on every key is; this file therefore treats one key.
The sequential specification of one key is `specStep2`; `Linearizable2` is the usual definition
(a total order of all calls that respects real-time order and replays through the specification);
`validate` is an executable certificate checker (`validate_sound` says an accepted certificate
proves `Linearizable2`); harness and driver run the checker of `Flurry/Lin.lean`, `validate` and `search`
of this file are used in Lean proofs and examples only. `lin_of_points` is the generic
"linearization points" lemma; the models reach `Linearizable2` through `lin_of_trace`, which no model
calls itself: its callers are in `Lemmas/GhostSig.lean`.

Definitions (and the executable checker) only; proofs are in `Flurry/Lemmas/Lin2*.lean`. -/
namespace Flurry.Lin2

/-- state of one key: absent, or `(payload, value id)` -/
abbrev KSt := Option (Nat × Nat)

inductive KOp2 where
  | ins (v vi : Nat)
  | tryIns (v vi : Nat)
  | get
  | has
  | rm
  /-- compute_if_present with `|v| Some(v + 1)`; the new value gets id `nvi` -/
  | cipInc (nvi : Nat)
  /-- compute_if_present with `|_| None` -/
  | cipRm
  /-- `retain`'s conditional removal (`replace_node(k, None, Some(v))`): remove the key iff its
  current value is the one with id `vi` (pointer identity of the value the predicate inspected) -/
  | condRm (vi : Nat)
deriving DecidableEq, Repr

inductive KRes where
  | none
  | some (v vi : Nat)
  | exists_ (v vi : Nat)
  | bool (b : Bool)
deriving DecidableEq, Repr

def resOf : KSt → KRes
  | .none => .none
  | .some (v, vi) => .some v vi

/-- the sequential specification of one key -/
def specStep2 (st : KSt) : KOp2 → KSt × KRes
  | .ins v vi => (some (v, vi), resOf st)
  | .tryIns v vi =>
    match st with
    | none => (some (v, vi), .none)
    | some (v0, vi0) => (st, .exists_ v0 vi0)
  | .get => (st, resOf st)
  | .has => (st, .bool st.isSome)
  | .rm => (none, resOf st)
  | .cipInc nvi =>
    match st with
    | none => (none, .none)
    | some (v, _) => (some (v + 1, nvi), .some (v + 1) nvi)
  | .cipRm => (none, .none)
  | .condRm vi =>
    match st with
    | none => (none, .none)
    | some (v, vi0) => (if vi0 = vi then none else some (v, vi0), .none)

structure Call2 where
  tid : Nat
  op : KOp2
  res : KRes
  /-- invocation and response times (positions in the global event order) -/
  inv : Nat
  resp : Nat
deriving DecidableEq, Repr

abbrev History2 := List Call2

/-- replay the calls `order` (indices into `h`) through the specification, checking results -/
def replay2 (h : History2) : List Nat → KSt → Option KSt
  | [], st => some st
  | i :: rest, st =>
    match h[i]? with
    | none => none
    | some c =>
      let r := specStep2 st c.op
      if r.2 = c.res then replay2 h rest r.1 else none

/-- `a` may be ordered before `b` unless `b` responded before `a` was invoked -/
def mayPrecede (a b : Call2) : Bool := !(b.resp < a.inv)

/-- every earlier element of the order may precede every later one -/
def realTimeOk (h : History2) : List Nat → Bool
  | [] => true
  | i :: rest =>
    (rest.all fun j => match h[i]?, h[j]? with
      | some a, some b => mayPrecede a b
      | _, _ => false) && realTimeOk h rest

def isPermOfRange (order : List Nat) (n : Nat) : Bool :=
  order.length == n && (List.range n).all (fun i => order.contains i)

/-- executable certificate check -/
def validate (h : History2) (order : List Nat) (init fin : KSt) : Bool :=
  isPermOfRange order h.length && realTimeOk h order && replay2 h order init == some fin

/-- the definition: some total order of all calls respects real time and is a legal sequential
execution from `init` to `fin` with exactly the observed results -/
def Linearizable2 (h : History2) (init fin : KSt) : Prop :=
  ∃ order : List Nat,
    order.Perm (List.range h.length) ∧
    (∀ (p q : Nat) (a b : Call2), p < q → order[p]? >>= (h[·]?) = some a → order[q]? >>= (h[·]?) = some b →
        ¬ (b.resp < a.inv)) ∧
    replay2 h order init = some fin

/-- brute-force search for a witness (sound and complete, `Lemmas/Lin2Search.lean`; used in Lean
proofs and examples, the driver runs `Lin.search`) -/
def search (h : History2) (init fin : KSt) : Option (List Nat) :=
  go (h.length + 1) (List.range h.length) [] init
where
  go : Nat → List Nat → List Nat → KSt → Option (List Nat)
    | 0, _, _, _ => none
    | fuel + 1, remaining, acc, st =>
      match remaining with
      | [] => if st = fin then some acc.reverse else none
      | _ =>
        remaining.firstM fun i =>
          match h[i]? with
          | none => none
          | some c =>
            -- `i` may go next only if no other remaining call responded before `i` was invoked
            if remaining.all (fun j => j == i || match h[j]? with | some d => mayPrecede c d | none => false) then
              let r := specStep2 st c.op
              if r.2 = c.res then go fuel (remaining.erase i) (i :: acc) r.1 else none
            else none

end Flurry.Lin2
