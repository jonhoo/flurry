import Flurry.Lemmas.BinNRInv2
import Flurry.Props.C03BinNR
/-! # C04 on the concrete heap (`Proto/BinNR`): freed at most once, never before the last guard that could observe it

`w0 i` is the set of threads under a guard at the moment node `i` was retired (`retire_records_guards`,
`response_retires`), fixed from then on (`w0_stable`); a step adds to `exited i` at most the thread whose guard it ends
(`exited_only_by_response`). For every reachable state, every interleaving:

* `freed_stays_freed`, `freed_at_most_once`: after `free i` no transition makes `life i` anything but `freed`; `free i`
  is never enabled again;
* `free_waits_for_guards`: at the `free` step every thread that was under a guard at the retirement has responded since;
  `awaited_or_exited`: until then each of them is still in `waitFor` or has responded;
* `retired_eventually_freeable`: once every thread of `w0 i` has left its guard, `free i` is enabled;
  `quiescent_freeable`: in particular when no thread is under a guard;
* `obligation_once`: a retire obligation is a `live` node held by exactly one thread, once. -/
namespace Flurry.Props.C04BinNR
open Flurry.Lin
open Flurry.Proto.BinN (Local)
open Flurry.Proto.BinNR

inductive Steps : State → State → Prop
  | refl (s : State) : Steps s s
  | tail {s s1 s2 : State} (t : Nat) (a : Act) : Steps s s1 → step s1 t a = some s2 → Steps s s2

theorem Steps.reachable {nt : Nat} {s s' : State} (hr : Reachable nt s) (h : Steps s s') : Reachable nt s' := by
  induction h with
  | refl => exact hr
  | tail t a _ hs ih => exact .step t a ih hs

/-- a retire obligation is a `live` node, in exactly one retire list, once -/
theorem obligation_once {nt : Nat} {s : State} (hr : Reachable nt s) {t i : Nat} (hi : i ∈ s.pend t) :
    s.life i = .live ∧ (s.pend t).Nodup ∧ ∀ t', i ∈ s.pend t' → t' = t := by
  have K := reachable_rinv2 hr
  exact ⟨K.k1 t i hi, K.k2 t, fun t' h => K.k3 t' t i h hi⟩

/-- what a step hands to `retire`, and what is already on the retire list, is `live` -/
theorem pend1_live {nt : Nat} {s : State} (hr : Reachable nt s) {t : Nat} {inv : Option (Nat × KOp)} {rz : Bool}
    {pick : Nat} {n' : Flurry.Proto.BinN.State} (hb : Flurry.Proto.BinN.step s.n t inv rz pick = some n')
    {i : Nat} (hi : i ∈ pend1 s t) : s.life i = .live := by
  rcases List.mem_append.1 hi with hi | hi
  · exact (reachable_rinv2 hr).k1 t i hi
  · have h1 := (C03BinNR.unlink_before_retire hr hb i hi).1
    cases hl : s.life i with
    | live => rfl
    | retired w =>
      have := (C03BinNR.retire_only_unreachable hr (i := i) (by rw [hl]; simp)).1
      rw [h1] at this; cases this
    | freed =>
      have := (C03BinNR.retire_only_unreachable hr (i := i) (by rw [hl]; simp)).1
      rw [h1] at this; cases this

/-- the reclamation state of a node that is not `live` after one transition -/
theorem step_not_live {nt : Nat} {s s' : State} (hr : Reachable nt s) {t : Nat} {a : Act} {i : Nat}
    (hs : step s t a = some s') (hl : s.life i ≠ .live) :
    s'.w0 i = s.w0 i ∧ (∀ x ∈ s.exited i, x ∈ s'.exited i) ∧
    (s.life i = .freed → s'.life i = .freed ∨ a = .free i) ∧ (s.life i = .freed → s'.life i = .freed) := by
  cases a with
  | base inv rz pick =>
    obtain ⟨n', -, -, hb, rfl⟩ := base_some hs
    have hnc : ¬ (exitsB s t n' && (pend1 s t).contains i) = true := by
      intro hc
      simp only [Bool.and_eq_true, List.contains_iff_mem] at hc
      exact hl (pend1_live hr hb hc.2)
    rw [afterBase_w0, afterBase_exited, afterBase_life, if_neg hnc, if_neg hnc, if_neg hnc]
    refine ⟨rfl, ?_, ?_, ?_⟩
    · intro x hx
      by_cases he : exitsB s t n' = true
      · rw [if_pos he]; exact List.mem_cons_of_mem _ hx
      · rw [if_neg he]; exact hx
    · intro hf; left; rw [hf]; rfl
    · intro hf; rw [hf]; rfl
  | retire j =>
    obtain ⟨hj, rfl⟩ := retire_some hs
    have hne : i ≠ j := by
      intro e; subst e; exact hl ((reachable_rinv2 hr).k1 t i hj)
    refine ⟨?_, ?_, ?_, ?_⟩
    · show (if i = j then _ else s.w0 i) = s.w0 i
      rw [if_neg hne]
    · intro x hx
      show x ∈ (if i = j then [] else s.exited i)
      rw [if_neg hne]; exact hx
    · intro hf; left
      show (if i = j then _ else s.life i) = Life.freed
      rw [if_neg hne]; exact hf
    · intro hf
      show (if i = j then _ else s.life i) = Life.freed
      rw [if_neg hne]; exact hf
  | free j =>
    obtain ⟨hc, rfl⟩ := free_some hs
    refine ⟨rfl, fun x hx => hx, ?_, ?_⟩
    · intro hf
      by_cases e : i = j
      · right; rw [e]
      · left; simp only [if_neg e]; exact hf
    · intro hf
      by_cases e : i = j
      · simp only [if_pos e]
      · simp only [if_neg e]; exact hf

/-- after `freed`, no transition makes `life i` anything else -/
theorem freed_stays_freed {nt : Nat} {s s' : State} (hr : Reachable nt s) {t : Nat} {a : Act} {i : Nat}
    (hf : s.life i = .freed) (hs : step s t a = some s') : s'.life i = .freed :=
  (step_not_live hr hs (by rw [hf]; simp)).2.2.2 hf

theorem freed_for_ever {nt : Nat} {s s' : State} (hr : Reachable nt s) {i : Nat} (hf : s.life i = .freed)
    (h : Steps s s') : s'.life i = .freed := by
  induction h with
  | refl => exact hf
  | tail t a h1 hs ih => exact freed_stays_freed (h1.reachable hr) ih hs

/-- **freed at most once**: after a `free i` step, `free i` is never enabled again, in any continuation of the run -/
theorem freed_at_most_once {nt : Nat} {s s1 s2 : State} (hr : Reachable nt s) {t t' i : Nat}
    (hs : step s t (.free i) = some s1) (h : Steps s1 s2) : step s2 t' (.free i) = none := by
  have h1 : s1.life i = .freed := (C03BinNR.free_only_when_unheld hr hs).2.1
  have h2 := freed_for_ever (.step t _ hr hs) h1 h
  unfold step stepG
  simp only
  rw [if_neg (by rw [h2]; simp)]

/-- an explicit `retire` records the threads under a guard now -/
theorem retire_records_guards {s s' : State} {t i : Nat} (hs : step s t (.retire i) = some s') :
    s'.life i = .retired (guardedSet s.n) ∧ s'.w0 i = guardedSet s.n ∧ s'.exited i = [] := by
  obtain ⟨-, rfl⟩ := retire_some hs
  simp

/-- a node that becomes retired in a `BinN` step is retired by the response (end of the guard) of the stepping thread,
and the threads under a guard after that response are recorded -/
theorem response_retires {s : State} {t : Nat} {n' : Flurry.Proto.BinN.State} {i : Nat} {w : List Nat}
    (hl : s.life i = .live) (hw : (afterBase false s t n').life i = .retired w) :
    w = guardedSet n' ∧ (afterBase false s t n').w0 i = guardedSet n' ∧ (afterBase false s t n').exited i = [] ∧
    guarded s.n t = true ∧ guarded n' t = false ∧ i ∈ pend1 s t := by
  rw [afterBase_life] at hw
  by_cases hc : (exitsB s t n' && (pend1 s t).contains i) = true
  · rw [if_pos hc] at hw
    rw [afterBase_w0, afterBase_exited, if_pos hc, if_pos hc]
    cases hw
    simp only [exitsB, Bool.and_eq_true, Bool.not_eq_true', List.contains_iff_mem] at hc
    exact ⟨rfl, rfl, rfl, hc.1.1, hc.1.2, hc.2⟩
  · rw [if_neg hc, hl] at hw; cases hw

/-- `exited i` only grows by the thread whose step ends its guard (a response / the commit of the resize) -/
theorem exited_only_by_response {s s' : State} {t : Nat} {a : Act} {i x : Nat} (hs : step s t a = some s')
    (hx : x ∈ s'.exited i) : x ∈ s.exited i ∨ (x = t ∧ guarded s.n t = true ∧ guarded s'.n t = false) := by
  cases a with
  | base inv rz pick =>
    obtain ⟨n', -, -, hb, rfl⟩ := base_some hs
    rw [afterBase_exited] at hx
    by_cases hc : (exitsB s t n' && (pend1 s t).contains i) = true
    · rw [if_pos hc] at hx; cases hx
    · rw [if_neg hc] at hx
      by_cases he : exitsB s t n' = true
      · rw [if_pos he] at hx
        rcases List.mem_cons.1 hx with rfl | hx
        · right
          simp only [exitsB, Bool.and_eq_true, Bool.not_eq_true'] at he
          exact ⟨rfl, he.1, he.2⟩
        · exact Or.inl hx
      · rw [if_neg he] at hx; exact Or.inl hx
  | retire j =>
    obtain ⟨-, rfl⟩ := retire_some hs
    left
    by_cases e : i = j
    · simp only [if_pos e] at hx; cases hx
    · simp only [if_neg e] at hx; exact hx
  | free j =>
    obtain ⟨-, rfl⟩ := free_some hs
    exact Or.inl hx

/-- once a node is retired, the recorded set of guards is fixed and `exited` only grows -/
theorem w0_stable {nt : Nat} {s s' : State} (hr : Reachable nt s) {t : Nat} {a : Act} {i : Nat}
    (hs : step s t a = some s') (hl : s.life i ≠ .live) :
    s'.w0 i = s.w0 i ∧ ∀ x ∈ s.exited i, x ∈ s'.exited i :=
  ⟨(step_not_live hr hs hl).1, (step_not_live hr hs hl).2.1⟩

/-- every thread that was under a guard at the retirement is still awaited or has responded since; `waitFor` only
contains threads that were under a guard at the retirement, are still under (that) guard, and have not responded -/
theorem awaited_or_exited {nt : Nat} {s : State} (hr : Reachable nt s) {i : Nat} {w : List Nat}
    (hw : s.life i = .retired w) :
    (∀ x ∈ s.w0 i, x ∈ w ∨ x ∈ s.exited i) ∧ (∀ x ∈ w, x ∈ s.w0 i ∧ x ∉ s.exited i ∧ guarded s.n x = true) := by
  have K := reachable_rinv2 hr
  exact ⟨K.w1 i w hw, fun x hx => ⟨(K.w4 i w hw x hx).1, (K.w4 i w hw x hx).2, K.w3 i w hw x hx⟩⟩

/-- **C04: a node is freed only after every thread that was under a guard at its retirement has responded** -/
theorem free_waits_for_guards {nt : Nat} {s s' : State} (hr : Reachable nt s) {t' i : Nat}
    (hs : step s t' (.free i) = some s') : ∀ x ∈ s.w0 i, x ∈ s.exited i := by
  have h := (C03BinNR.free_only_when_unheld hr hs).1
  intro x hx
  rcases (awaited_or_exited hr h).1 x hx with h | h
  · cases h
  · exact h

/-- the same for every freed node, in every later state -/
theorem freed_after_guards {nt : Nat} {s : State} (hr : Reachable nt s) {i : Nat} (hf : s.life i = .freed) :
    ∀ x ∈ s.w0 i, x ∈ s.exited i := (reachable_rinv2 hr).w2 i hf

/-- **once every thread that was under a guard at the retirement has left its guard, `free i` is enabled** -/
theorem retired_eventually_freeable {nt : Nat} {s : State} (hr : Reachable nt s) {i : Nat} {w : List Nat}
    (hw : s.life i = .retired w) (hall : ∀ x ∈ s.w0 i, x ∈ s.exited i) (t' : Nat) :
    ∃ s', step s t' (.free i) = some s' ∧ s'.life i = .freed := by
  have hnil : w = [] := by
    cases w with
    | nil => rfl
    | cons x _ =>
      obtain ⟨h1, h2, -⟩ := (awaited_or_exited hr hw).2 x List.mem_cons_self
      exact absurd (hall x h1) h2
  subst hnil
  unfold step stepG
  simp only
  rw [if_pos hw]
  exact ⟨_, rfl, by simp⟩

/-- in particular: when no thread is under a guard, every retired node can be freed -/
theorem quiescent_freeable {nt : Nat} {s : State} (hr : Reachable nt s) (hq : ∀ t, guarded s.n t = false)
    {i : Nat} {w : List Nat} (hw : s.life i = .retired w) (t' : Nat) :
    ∃ s', step s t' (.free i) = some s' ∧ s'.life i = .freed := by
  refine retired_eventually_freeable hr hw ?_ t'
  intro x hx
  rcases (awaited_or_exited hr hw).1 x hx with h | h
  · have := (awaited_or_exited hr hw).2 x h
    rw [hq x] at this; cases this.2.2
  · exact h

end Flurry.Props.C04BinNR

#print axioms Flurry.Props.C04BinNR.obligation_once
#print axioms Flurry.Props.C04BinNR.freed_stays_freed
#print axioms Flurry.Props.C04BinNR.freed_at_most_once
#print axioms Flurry.Props.C04BinNR.retire_records_guards
#print axioms Flurry.Props.C04BinNR.response_retires
#print axioms Flurry.Props.C04BinNR.exited_only_by_response
#print axioms Flurry.Props.C04BinNR.w0_stable
#print axioms Flurry.Props.C04BinNR.awaited_or_exited
#print axioms Flurry.Props.C04BinNR.free_waits_for_guards
#print axioms Flurry.Props.C04BinNR.freed_after_guards
#print axioms Flurry.Props.C04BinNR.retired_eventually_freeable
#print axioms Flurry.Props.C04BinNR.quiescent_freeable
