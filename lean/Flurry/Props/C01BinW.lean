import Flurry.Lemmas.BinWLin
import Flurry.Props.C01Bin
/-! # C01 / C08 (bin level, writer traversal spelled out): the list bin is linearizable

`Proto/BinW.lean` is `Proto/Bin.lean` with the walk of a validated writer made explicit: one `next`
load per transition, then a single store *through the positions remembered during the walk*. Here
the lock inside the first node and the re-check of the bin cell are load-bearing: the proof needs
that nobody else changes the chain between the walk and the store (`BinR.Base.stepK_frozen`, from the
lock invariant), so that the remembered positions are the current ones
(`storeAt_eq_writerStore`). This is proved for `Proto/BinR` (the same model with one more operation,
`Lemmas/BinR*.lean`): there every transition is a `BinR.Base` transition on the projected state or a
stutter step (`BinR.stepW_proj`), so the invariants of `Proto/BinRBase` hold on the projection. Along
`embW` (`Lemmas/BinWEmbed.lean`) the invariants of `Proto/Bin`, the ghost invariant among them, hold on
`proj s` for every reachable `s` (`reachable_sim`), and the theorem follows as for `Proto/Bin`; that
every `BinW` transition is a `Bin` transition on `proj s` is not stated. The variant without the
re-check is refuted in `Lemmas/BinWExamples.lean`. -/
namespace Flurry.Proto.BinW
open Flurry.Lin

theorem reachable_ginv {n : Nat} {s : State} (hr : Reachable n s) (k : Nat) :
    ∃ A pt, Bin.GInv k (proj s) A pt :=
  (reachable_sim hr).2.2 k

/-- `reachable_sim` (`Lemmas/BinWEmbed.lean`): invariants on `proj s`, not a statement about transitions -/
theorem binw_simulated {n : Nat} {s : State} (hr : Reachable n s) :
    Bin.Inv (proj s) ∧ Bin.LInv (proj s) ∧ ∀ k, ∃ A pt, Bin.GInv k (proj s) A pt :=
  reachable_sim hr

/-- at most one thread is walking the list or about to store: validated writers exclude each other -/
theorem walkers_mutex {n : Nat} {s : State} (hr : Reachable n s) {t1 t2 : Nat} {l1 l2 : Local}
    (hl1 : s.threads[t1]? = some l1) (hl2 : s.threads[t2]? = some l2)
    (hp1 : walkPc l1.pc) (hp2 : walkPc l2.pc) : t1 = t2 := by
  obtain ⟨h1, hh1⟩ := BinR.walkPc_iff.1 (walkPc_wPc.2 hp1)
  obtain ⟨h2, hh2⟩ := BinR.walkPc_iff.1 (walkPc_wPc.2 hp2)
  exact ((reachable_base hr).1.linv.mutex (BinR.proj_thread (thr_embW hl1)) (BinR.proj_thread (thr_embW hl2))
    hh1 hh2).1

/-- **the store through the remembered positions is the store on the current chain**: when a writer
reaches `wStore`, what `storeAt` does with the positions it remembered is exactly what
`Bin.writerStore` does on the current state -/
theorem storeAt_eq_writerStore_reachable {n : Nat} {s : State} (hr : Reachable n s) {t : Nat} {l : Local}
    {p : Pending} {h : Nat} {pred hit hnext : Option Nat}
    (hl : s.threads[t]? = some l) (hpc : l.pc = .wStore h pred hit hnext) (hc : l.call = some p) :
    proj (storeAt s p pred hit hnext).1 = (Bin.writerStore (proj s) (cP p)).1 ∧
    (storeAt s p pred hit hnext).2 = (Bin.writerStore (proj s) (cP p)).2 :=
  storeAt_eq_writerStore_of_reachable hr hl hpc hc

/-- **C01, bin level, with the writer's walk spelled out.** Under every interleaving of any number
of threads, the per-key history (completed calls plus stored-but-not-yet-unlocked writers) is
linearizable and ends in the abstract content of the bin. -/
theorem binw_linearizable {n : Nat} {s : State} (hr : Reachable n s) (k : Nat) :
    Lin.Linearizable (callsOnExt s k) none (absOf s k) := by
  obtain ⟨A, pt, g⟩ := reachable_ginv hr k
  have := g.linearizable (reachable_sim hr).1
  rw [callsOnExt_proj, absOf_proj] at this
  exact this

theorem binw_linearizable_quiescent {n : Nat} {s : State} (hr : Reachable n s) (hq : quiescent s) (k : Nat) :
    Lin.Linearizable (callsOn s k) none (absOf s k) := by
  have := binw_linearizable hr k
  rw [callsOnExt_quiescent hq] at this
  exact this

end Flurry.Proto.BinW
