import Flurry.SigDefs
import Flurry.Gen.Atomics
import Flurry.Lemmas.RwLock
import Flurry.Gen.Arith
import Flurry.Lemmas.IdSet
/-! # C12 — reads never block and never take locks


* **Table theorem** over `Flurry.Gen.atomicSites` / `callEdges` (regenerated from /repo/src on
  every run): no function reachable from a read entry point (`get`, `get_key_value`,
  `contains_key`, `contains`, iteration, `len`, `is_empty`, equality) contains a `lock()`, `park`,
  `yield_now`, `spin_loop` or `sleep` site. Calls are resolved by method name, which
  over-approximates reachability.
* **Protocol theorem** (`Proto/RwLock`): a reader's steps are always enabled, whatever the writer
  is doing — suspended while holding the write lock, while waiting, or in between — and a reader
  that takes the fast path never meets a restructuring writer (`mutual_exclusion`), while one that
  sees `WRITER`/`WAITER` walks the `next` list.
* **Tie of the reader to the source** (`TreeBin::find`, on tables regenerated from it): the branch
  conditions of its loop are the model's decision (`find_loop_never_idles`,
  `model_decision_is_source_decision`), and the tree is searched only between the reader CAS and
  the release of the read lock (`find_searches_tree_under_read_lock`).
* **Bin theorems** (`Props/C12Bins.lean`, models `Proto/BinT` and `Proto/BinX`): in every reachable
  state a reader's step is enabled, it changes no lock, no node and no other thread, and a reader
  run alone finishes within `2·|heap| + 5` (tree bin) / `|heap| + 4` (list bin under resize) of
  its own steps. The same three statements for a whole bin lineage are in `Props/C12BinG.lean`
  (`Proto/BinG`: list ⇄ tree conversions and one resize) and `Props/C12BinGN.lean` (`Proto/BinGN`:
  any number of resizes), and for tables of such lineages in `Props/C12TableG.lean` and
  `Props/C12TableGN.lean`.

**Partial:** that every read finishes within a *bounded* number of its own steps from any
reachable state of the *whole map* (iteration, `len`, forwarding chains across several nested
resizes, many bins) is checked on the implementation: the harness suspends writers at every
yield point and runs each read alone (`harness solo`). -/
namespace Flurry.C12
open Flurry.Sig Flurry.Gen

def blocking (k : String) : Bool := k == "lock" || k == "park" || k == "yield" || k == "spin" || k == "sleep"

/-- `readRoots` / `readClosure` are emitted by the translator (read entry points by name and the
functions reachable from them); they are a *certificate* that is re-checked here: -/
theorem roots_in_closure : readRoots.all readClosure.contains = true := by
  simp only [List.all_eq_true, contains_eq_testBit]
  decide +kernel

/-- the root ids are the ids of the named entry points -/
theorem roots_named : readRoots.map (fun i => crateFns.getD i "") = readRootNames := by decide +kernel

/-- the closure is closed under the call relation -/
theorem reach_closed :
    callEdges.all (fun e => !readClosure.contains e.1 || readClosure.contains e.2) = true := by
  simp only [contains_eq_testBit]
  decide +kernel

/-- **no read path contains a blocking site**: no function reachable from a read entry point
contains a `lock()`, `park`, `yield_now`, `spin_loop` or `sleep` -/
theorem reader_lock_free :
    atomicSites.all (fun s => !(readClosure.contains s.fnId && blocking s.kind)) = true := by
  simp only [contains_eq_testBit]
  decide +kernel

/-- the statement is not vacuous: the entry points the property names are roots, the tree search
is reachable, and writers do contain blocking sites -/
theorem roots_present :
    ["HashMap::get", "HashMap::get_key_value", "HashMap::contains_key", "HashMap::len", "HashMap::guarded_eq",
     "NodeIter::next", "HashSet::contains"].all readRootNames.contains = true ∧
    (atomicSites.any fun s => readClosure.contains s.fnId && s.fn == "TreeBin::find") = true ∧
    (atomicSites.any fun s => blocking s.kind) = true := by
  simp only [contains_eq_testBit]
  decide +kernel

open Flurry.Proto.RwLock in
/-- a reader is never disabled, in any state of the tree-bin lock protocol -/
theorem reader_never_blocked (s : State) (i : Nat) (more : Bool) (hi : i < s.readers.length) :
    (stepReader s i more).isSome = true := reader_always_enabled s i more hi

open Flurry.Proto.RwLock in
/-- a reader searching the tree never overlaps a writer that restructures it -/
theorem tree_readers_exclude_writer {n : Nat} {s : State} (h : Reachable n s)
    (hw : s.wpc = .hold ∨ s.wpc = .swapOut) : numHolding s.readers = 0 := mutual_exclusion h hw

/-! ## the tie of the reader's loop to the source (`TreeBin::find`)

The translator regenerates, from the loop over list elements in `TreeBin::find`, the condition
under which the reader takes one *linear* step (`findLinearCond`) and what — besides the
`compare_exchange` itself — guards the attempt to take the read lock (`findCasGuard`; `true` when
the `else if` is the bare CAS). -/
section FindLoop
open Flurry.Gen.BV

/-- **the reader never idles**: in every iteration, whatever the lock word holds, it either takes a
linear step or attempts the CAS. (A lock word for which neither applies would make the reader
re-read the word until another thread changes it: it would *wait* — seeded change
`C12-find-waiter-spin`.) -/
theorem find_loop_never_idles (s : BitVec 64) : (findLinearCond s || findCasGuard s) = true := by
  simp [findCasGuard]

/-- the linear step is taken exactly when the `WRITER` bit (bit 0) or the `WAITER` bit (bit 1) is set -/
theorem find_linear_iff_bits (s : BitVec 64) : findLinearCond s = (s.getLsbD 0 || s.getLsbD 1) := by
  have e0 : 1#64 = BitVec.twoPow 64 0 := rfl
  have e1 : 2#64 = BitVec.twoPow 64 1 := rfl
  simp only [findLinearCond, BV.WAITER, BV.WRITER, e0, e1, BitVec.and_or_distrib_left, BitVec.and_twoPow]
  cases s.getLsbD 0 <;> cases s.getLsbD 1 <;> rfl

open Flurry.Proto.RwLock in
/-- the model's test of a bit of the lock word is `Nat.testBit` -/
theorem hasBit_two_pow (n i : Nat) : hasBit (n : Int) (2 ^ i : Nat) = n.testBit i := by
  rw [Nat.testBit_eq_decide_div_mod_eq, hasBit, ← Int.natCast_ediv, Bool.beq_eq_decide_eq]
  exact decide_eq_decide.2 (by omega)

open Flurry.Proto.RwLock in
/-- the decision of the lock model's reader (`Proto/RwLock.stepReader`, pc `decide st`, and the
`rState` step of `Proto/BinT` / `Proto/BinU`) is the decision of the source, for every lock word -/
theorem model_decision_is_source_decision (st : Nat) (h : st < 2 ^ 64) :
    (hasBit (st : Int) Flurry.Gen.WAITER || hasBit (st : Int) Flurry.Gen.WRITER) = findLinearCond (BitVec.ofNat 64 st) := by
  simp only [find_linear_iff_bits, BitVec.getLsbD, BitVec.toNat_ofNat, Nat.mod_eq_of_lt h]
  -- `WRITER` is `2 ^ 0` and `WAITER` is `2 ^ 1`
  rw [Bool.or_comm]
  exact congr (congrArg _ (hasBit_two_pow st 0)) (hasBit_two_pow st 1)

end FindLoop

/-! ## `TreeBin::find`: the tree is searched only under the read lock

`Proto/BinU` / `BinK` / `BinT`: a lock-protocol reader takes the read lock (`rCas`), searches the
tree (`rTree`), releases (`rRelease`); a writer restructures the tree only while no reader holds the
read lock. The search starts at `root`, which rotations and removals of the root node change — so the
load of `root` belongs inside the read lock like every other tree link. Regenerated from the source:
the accesses of `TreeBin::find` to the bin's words and the call of the tree search, in source order. -/
section FindOrder
open Flurry.Gen

def idxOf (x : String) (l : List String) : Nat := l.findIdx (· == x)

/-- every load of `root` and every call of the tree search stands after the reader CAS and before
the release of the read lock (the `fetch_add(-READER)`), and both of those are there -/
def treeSearchedUnderReadLock (o : List String) : Bool :=
  let cas := idxOf "cas:lock_state" o
  let rel := idxOf "rmw:lock_state" o
  cas < o.length && rel < o.length && cas < rel &&
  (List.range o.length).all fun i =>
    let x := o.getD i ""
    if x == "load:root" || x == "call:find_tree_node" || x == "load:left" || x == "load:right" || x == "load:parent"
    then cas < i && i < rel else true

theorem find_searches_tree_under_read_lock : treeSearchedUnderReadLock treeBinFindOrder = true := by decide +kernel

/-- the reader never writes a list cell or a tree link: its only accesses are loads, the tree search,
and the CAS / fetch-add on the lock word -/
theorem find_writes_nothing_but_the_lock_word :
    treeBinFindOrder.all (fun x => ["load:first", "load:lock_state", "load:next", "load:root", "load:waiter", "load:left",
      "load:right", "load:parent", "call:find_tree_node", "cas:lock_state", "rmw:lock_state"].contains x) = true := by
  decide +kernel

-- non-vacuity: the search and the root load are in the table; a root loaded before the CAS is rejected
example : treeBinFindOrder.contains "load:root" = true ∧ treeBinFindOrder.contains "call:find_tree_node" = true := by decide +kernel
example : treeSearchedUnderReadLock ["load:root", "load:first", "load:lock_state", "load:next", "cas:lock_state",
    "call:find_tree_node", "rmw:lock_state", "load:waiter"] = false := by decide +kernel
end FindOrder

end Flurry.C12
