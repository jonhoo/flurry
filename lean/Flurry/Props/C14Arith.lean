import Flurry.Gen.Arith
import Flurry.Lemmas.Arith
/-! # C14 (arithmetic half): capacity rounding and thresholds

Statements about the definitions generated from `presize`, `try_presize`, `init_table`,
`add_count` and `load_factor!` in `/repo/src/map.rs`. -/
namespace Flurry.C14
open Flurry.Gen

/-- table lengths chosen by `with_capacity` / `reserve` are powers of two `≤ 2^30` -/
theorem table_size_pow2 (c : Nat) : ∃ k, presizeCap c = 2 ^ k ∧ k ≤ 30 := presizeCap_pow2 c

theorem table_size_le_max (c : Nat) : presizeCap c ≤ MAXIMUM_CAPACITY := by
  obtain ⟨k, hk, hle⟩ := presizeCap_pow2 c
  rw [hk, max_cap_eq]; exact Nat.pow_le_pow_right (by decide) hle

/-- `with_capacity(c)` and `reserve` use the same rounding -/
theorem same_rounding (c : Nat) : tryPresizeCap c = Int.ofNat (presizeCap c) := tryPresizeCap_eq c

/-- **room as requested**: after `with_capacity(c)` (`c < 2^29`) the growth threshold is
strictly above `c`, so the `c`-th insert (which makes the count `c`) does not reach it. -/
theorem with_capacity_room (c : Nat) (h : c < MAXIMUM_CAPACITY / 2) :
    (c : Int) < presizeThreshold (presizeCap c) := by
  rw [presizeCap_small c h]
  have := le_npow2 (c + c / 2 + 1)
  simp only [presizeThreshold, loadFactor, Int.ofNat_eq_natCast]
  omega

/-- the first table made by `reserve`/`try_presize` on an empty map has the same room -/
theorem reserve_room_uninit (c : Nat) (h : c < MAXIMUM_CAPACITY / 2) (sc : Int) (hsc : 0 ≤ sc) :
    (c : Int) < tryPresizeThreshold (tryPresizeInitCap (tryPresizeCap c) sc) := by
  rw [tryPresizeCap_eq, presizeCap_small c h]
  have := le_npow2 (c + c / 2 + 1)
  simp only [tryPresizeThreshold, tryPresizeInitCap, loadFactor, Int.ofNat_eq_natCast]
  omega

/-- `try_presize` stops only when the rounded request is within the threshold (or the table is
at the maximum): so on return, without a race, `requested ≤ size_ctl`. -/
theorem reserve_done_iff (req sc : Int) (cap : Nat) :
    tryPresizeDone req sc cap = true ↔ (req ≤ sc ∨ cap ≥ MAXIMUM_CAPACITY) := by
  simp [tryPresizeDone]

/-- … and a rounded request within the threshold leaves room for the requested entries -/
theorem reserve_room (c : Nat) (h : c < MAXIMUM_CAPACITY / 2) (sc : Int)
    (hdone : tryPresizeCap c ≤ sc) : (c : Int) < sc := by
  rw [tryPresizeCap_eq, presizeCap_small c h] at hdone
  have := le_npow2 (c + c / 2 + 1)
  simp only [Int.ofNat_eq_natCast] at hdone
  omega

/-- lazily created tables: 16 bins by default, threshold 12 -/
theorem init_default : initCapacity 0 = 16 ∧ initThreshold 16 = 12 := by decide

theorem add_count_stored (old n : Int) : addCountStored old n = old + n := by
  simp only [addCountStored, Int.ofNat_eq_natCast]
  split
  · omega
  · split
    · have : (n.natAbs : Int) = -n := by omega
      omega
    · omega

theorem add_count_local (old n : Int) : addCountLocal old n = old + n := by
  simp only [addCountLocal]
  by_cases h1 : n > 0 <;> by_cases h2 : n < 0 <;> simp [h1, h2] <;> omega

/-- The count that `add_count` compares with the threshold is the count it stored. This is the
statement that fails on the code before the repair of finding F3 (`fetch_sub(|n|) - n`). -/
theorem add_count_local_eq_stored (old n : Int) : addCountLocal old n = addCountStored old n := by
  rw [add_count_local, add_count_stored]

/-- removing never makes the compared count reach a threshold it was below -/
theorem removal_count_decreases (old n sc : Int) (hn : n < 0) (hb : addCountBelow old sc = true) :
    addCountBelow (addCountLocal old n) sc = true := by
  rw [add_count_local_eq_stored, add_count_stored]
  simp only [addCountBelow, decide_eq_true_eq] at *
  omega

/-- growth is checked with `≥ threshold` -/
theorem grow_test (count sc : Int) : addCountBelow count sc = true ↔ count < sc := by
  simp [addCountBelow]

/-- the generated tests are the thresholds of the source: treeify at 8 nodes, but resize instead while
the table has fewer than 64 bins (asking for twice its length); untreeify at 6 -/
theorem thresholds :
    (∀ b, treeifyCond b = true ↔ 8 ≤ b) ∧ (∀ n, treeifyTooSmall n = true ↔ n < 64) ∧
    (∀ c, untreeifyLow c = true ↔ c ≤ 6) ∧ (∀ c, untreeifyHigh c = true ↔ c ≤ 6) ∧
    (∀ n, treeifyPresizeArg n = 2 * n) := by
  refine ⟨?_, ?_, ?_, ?_, ?_⟩
  · intro x; simp [treeifyCond, TREEIFY_THRESHOLD]
  · intro x; simp only [treeifyTooSmall, MIN_TREEIFY_CAPACITY]; exact decide_eq_true_iff
  · intro x; simp only [untreeifyLow, UNTREEIFY_THRESHOLD]; exact decide_eq_true_iff
  · intro x; simp only [untreeifyHigh, UNTREEIFY_THRESHOLD]; exact decide_eq_true_iff
  · intro x; simp [treeifyPresizeArg]; omega

-- non-vacuity
example : presizeCap 10 = 16 ∧ presizeThreshold 16 = 12 := by
  constructor
  · simp [presizeCap, npow2, npow2Go, MAXIMUM_CAPACITY]
  · decide
example : addCountBelow 10 12 = true := by decide

end Flurry.C14
