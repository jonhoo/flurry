import Flurry.Lemmas.BinLock
import Flurry.Lemmas.BinSeq
/-! # C01 / C08 (bin level): one list bin is linearizable under every interleaving

`Proto/Bin.lean` models one list bin with any number of threads performing `get`, `contains_key`,
`insert`, `try_insert`, `remove`, `compute_if_present` (increment / remove), one shared-memory
access per transition. For every reachable state and every key, the history of that key — the
completed calls, plus the calls of writers that have done their store and only have to unlock —
is linearizable from "absent" to the key's current abstract state. For C08 this is the statement
that no `compute_if_present` increment is lost: the increments are calls of the history.

Linearization points: lock-holding writers at their single store (`wWrite`), the lock-free insert
into an empty bin at its successful CAS, writers that see an empty bin at the load of the bin cell,
readers *in hindsight* (`Good` in `Lemmas/BinGhost.lean`, `Good.step` in `Lemmas/BinRBGhost.lean`).
The invariants are proved once, for `Proto/BinRBase` (the same model with one more operation), and
carried over along `emb` (`Lemmas/BinEmbed.lean`). -/
namespace Flurry.Proto.Bin
open Flurry.Lin

theorem reachable_ginv {n : Nat} {s : State} (hr : Reachable n s) (k : Nat) :
    ∃ A pt, GInv k s A pt :=
  let ⟨A, pt, g⟩ := (reachable_base hr).2.2 k
  ⟨A, pt, .of_emb g⟩

/-- from the ghost invariant to linearizability (the trace lemma), for any part of the history that
contains its writer calls -/
theorem GInv.linearizable_part {k : Nat} {s : State} {A : Nat → KSt} {pt : Nat → Nat}
    (g : GInv k s A pt) (I : Inv s) (q : Call → Bool)
    (hq : ∀ c ∈ callsOnExt s k, isRead c.op = false → q c = true) :
    Linearizable ((callsOnExt s k).filter q) none (absOf s k) := by
  rw [callsOnExt_eq] at hq ⊢
  exact (g.trace.sub (fun _ h => (List.mem_filter.1 h).1)
      (fun c hc hw => List.mem_filter.2 ⟨hc, hq c hc hw⟩)).linearizable
    (fun _ hc => I.thr.gen.resp_le (List.mem_filter.1 hc).1) ((I.thr.gen.pairwise k).filter _)

theorem GInv.linearizable {k : Nat} {s : State} {A : Nat → KSt} {pt : Nat → Nat}
    (g : GInv k s A pt) (I : Inv s) : Linearizable (callsOnExt s k) none (absOf s k) :=
  callsOnExt_eq s k ▸ g.trace.lin I.thr.gen

/-- the writer calls (`insert`, `try_insert`, `remove`, `compute_if_present`) of the extended history -/
def writerCallsOn (s : State) (k : Nat) : History := (callsOnExt s k).filter (fun c => !isRead c.op)

/-- writers only: the points are the store steps -/
theorem GInv.linearizable_writers {k : Nat} {s : State} {A : Nat → KSt} {pt : Nat → Nat}
    (g : GInv k s A pt) (I : Inv s) : Linearizable (writerCallsOn s k) none (absOf s k) :=
  g.linearizable_part I _ (fun _ _ hw => by rw [hw]; rfl)

/-- **writers-only linearizability**: the sub-history of the writer calls on `k` is linearizable from
"absent" to the current abstract state (linearization points = the store steps). -/
theorem bin_linearizable_writers {n : Nat} {s : State} (hr : Reachable n s) (k : Nat) :
    Lin.Linearizable (writerCallsOn s k) none (absOf s k) := by
  obtain ⟨A, pt, g⟩ := reachable_ginv hr k
  exact g.linearizable_writers (reachable_inv hr)

/-- **C01, bin level.** Under every interleaving of any number of threads, the per-key history of
a list bin (completed calls plus stored-but-not-yet-unlocked writers) is linearizable and ends in
the abstract content of the bin. -/
theorem bin_linearizable {n : Nat} {s : State} (hr : Reachable n s) (k : Nat) :
    Lin.Linearizable (callsOnExt s k) none (absOf s k) := by
  obtain ⟨A, pt, g⟩ := reachable_ginv hr k
  exact g.linearizable (reachable_inv hr)

theorem bin_linearizable_quiescent {n : Nat} {s : State} (hr : Reachable n s) (hq : quiescent s) (k : Nat) :
    Lin.Linearizable (callsOn s k) none (absOf s k) := by
  have := bin_linearizable hr k
  rw [callsOnExt_quiescent hq] at this
  exact this

/-! ## the link to the sequential model (`Seq/Model.lean`), restated for reachable states

`Lemmas/BinSeq.lean`: `binNodes s` is the bin as `Seq/Model.lean` sees it (the nodes on the chain in
list order), `seqStore` transcribes what `Seq.put` / `Seq.replaceNode` / `Seq.computeIfPresent` do to a
list bin (`listFind`, `listSetVal`, `listRemove`, `ns ++ [nd]`) together with the result of the call;
the transcription is by hand, and no theorem relates `seqStore` to these functions. -/

/-- **every transition of a reachable state is a step of the sequential list bin or leaves it
alone**: `binNodes` changes only at the single store of a validated writer (`wWrite`) and at the
successful CAS into an empty bin (`wCas`), and there it changes by `seqStore` of that thread's call. -/
theorem bin_step_refines_seq {n : Nat} {s s' : State} (hr : Reachable n s) {t : Nat}
    {inv : Option (Nat × KOp)} (hs : step s t inv = some s') :
    binNodes s' = binNodes s ∨
      ∃ l p, s.threads[t]? = some l ∧ l.call = some p ∧ (l.pc = .wCas ∨ ∃ h, l.pc = .wWrite h) ∧
        binNodes s' = (seqStore (binNodes s) p.key p.op).1 := by
  cases hl : s.threads[t]? with
  | none => unfold step at hs; rw [hl] at hs; cases hs
  | some l =>
    rcases stepK_refines_seq (reachable_inv hr).heap (step_stepK hl hs) with h | ⟨p, h1, h2, h3⟩
    · exact Or.inl h
    · exact Or.inr ⟨l, p, rfl, h1, h2, h3⟩

/-- **the store step of a writer**: the new bin *and* the result the writer goes on to return (the
`res` of its `wUnlock`, which `finish` records in the history) are those of the sequential model -/
theorem bin_write_refines_seq {n : Nat} {s s' : State} (hr : Reachable n s) {t : Nat} {l : Local}
    {p : Pending} {h : Nat} {inv : Option (Nat × KOp)}
    (hl : s.threads[t]? = some l) (hpc : l.pc = .wWrite h) (hc : l.call = some p)
    (hs : step s t inv = some s') :
    binNodes s' = (seqStore (binNodes s) p.key p.op).1 ∧
      s'.threads[t]? = some { l with pc := .wUnlock h (seqStore (binNodes s) p.key p.op).2 false } := by
  have Ht : HInv (tick s) := (reachable_inv hr).heap.congr rfl rfl
  have hbt : binNodes (tick s) = binNodes s := binNodes_congr rfl rfl
  obtain ⟨e1, e2⟩ := writerStore_refines_seq Ht p
  rw [hbt] at e1 e2
  have ht : t < s.threads.length := (List.getElem?_eq_some_iff.1 hl).1
  unfold step at hs
  rw [hl] at hs
  obtain ⟨pc, call⟩ := l
  simp only at hpc hc
  subst hpc hc
  simp only [Option.some.injEq] at hs
  subst hs
  refine ⟨(binNodes_congr rfl rfl).trans e1, ?_⟩
  have hthr : (writerStore (tick s) p).1.threads = s.threads := (writerStore_frame (tick s) p).1
  show ((writerStore (tick s) p).1.threads.set t _)[t]? = _
  rw [hthr, List.getElem?_set_self ht]
  exact congrArg (fun r => some (Local.mk (.wUnlock h r false) (some p))) e2

end Flurry.Proto.Bin
