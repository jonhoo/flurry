import Flurry.Lemmas.RBInsertHeight
import Flurry.Lemmas.RBDeleteSmall
/-! # C06 — crowded bins are balanced search trees

Property-level statements about the tree-bin model `Flurry/RB.lean` (a case-for-case rendition
of `TreeBin::new`, `find_or_put_tree_val`, `remove_tree_node`, `balance_insertion`,
`balance_deletion`, `find_tree_node` in `src/node.rs`; tied to the code by exact comparison of
dumped trees, colours included, after every operation of the correspondence runs).
The lemmas are in `Flurry/Lemmas/RB*.lean`; this file only states what C06 needs. -/
namespace Flurry.C06
open Flurry Flurry.RB

/-- distinct `(hash, key)` pairs: what holds for the nodes of one bin -/
def Distinct (ns : List Node) : Prop := ns.Pairwise (fun a b => ¬(a.hash = b.hash ∧ a.key = b.key))

/-- **treeification** (`TreeBin::new`): the tree built from a bin's node list is a red-black
search tree holding exactly those nodes. -/
theorem treeify_inv (ns : List Node) (hd : Distinct ns) :
    TreeInv (ofList ns) ∧ (toList (ofList ns)).Perm ns := ⟨ofList_inv ns hd, ofList_perm ns hd⟩

/-- **insertion** (`find_or_put_tree_val`, absent key): invariant kept, entry set grows by `e`. -/
theorem insert_preserves (t : T) (e : Node) (hi : TreeInv t)
    (h : ∀ x ∈ toList t, ¬(x.hash = e.hash ∧ x.key = e.key)) :
    TreeInv (putNew t e) ∧ (toList (putNew t e)).Perm (e :: toList t) :=
  ⟨putNew_inv t e hi h, insertNew_toList_perm t e h⟩

/-- **removal** (`remove_tree_node`, the restructuring path, taken exactly when the shape test
`tooSmall` fails): invariant kept, in-order sequence loses exactly that entry. -/
theorem remove_preserves {h k : Nat} {t : T} (hi : TreeInv t) (hs : tooSmall t = false)
    (he : ∃ e ∈ toList t, e.hash = h ∧ e.key = k) :
    TreeInv (removeNode h k t) ∧
      toList (removeNode h k t) = (toList t).filter (fun x => !(x.hash == h && x.key == k)) :=
  ⟨removeNode_inv hi hs he, removeNode_toList hi.1 he⟩

/-- the shape test only fires on small trees (≤ 10 nodes, the maximum is attained), and
restructuring only happens on trees of at least 4 nodes -/
theorem untreeify_sizes {t : T} (hi : TreeInv t) :
    (tooSmall t = true → size t ≤ 10) ∧ (tooSmall t = false → 4 ≤ size t) :=
  ⟨tooSmall_small hi, not_tooSmall_big⟩

/-- **value replacement** keeps shape, colours and order -/
theorem set_value_preserves (h k v vi : Nat) (t : T) (hi : TreeInv t) : TreeInv (setVal h k v vi t) :=
  setVal_inv h k v vi t hi

/-- **tree and list readers agree**: the ordered descent of `find_tree_node` (with its
only-child shortcut) finds an entry iff it is in the tree's entry list; with
`(toList t).Perm order` (part of the bin invariant) that is what the `next`-list scan finds. -/
theorem tree_find_iff_mem (h k : Nat) (t : T) (e : Node) (hi : TreeInv t) :
    find h k t = some e ↔ e ∈ toList t ∧ e.hash = h ∧ e.key = k := find_iff h k t e hi.1

theorem tree_find_none_iff (h k : Nat) (t : T) (hi : TreeInv t) :
    find h k t = none ↔ ∀ x ∈ toList t, ¬(x.hash = h ∧ x.key = k) := find_none_iff h k t hi.1

/-- **logarithmic lookups**: on a valid tree of `n` entries a lookup (present or absent key)
makes at most `2·height ≤ 4·log2(n+1)` key comparisons (`Eq` + `Ord` calls). -/
theorem lookup_cost (h k : Nat) (t : T) (hi : TreeInv t) :
    (findNode h k t 0).2 ≤ 4 * Nat.log2 (size t + 1) := findNode_cost_log h k t hi

theorem height_log (t : T) (hi : TreeInv t) : height t ≤ 2 * Nat.log2 (size t + 1) := height_bound t hi

/-- the executable validator run on every dumped tree is equivalent to the invariant -/
theorem validator_iff (t : T) : treeInvB t = true ↔ TreeInv t := treeInvB_iff t

/-- any sequence of insertions of distinct keys starting from a treeified bin keeps the invariant -/
theorem inserts_preserve (ns es : List Node) (hd : Distinct (ns ++ es)) :
    TreeInv (es.foldl putNew (ofList ns)) := by
  have hp : putNew = insertNew := by funext t e; rfl
  have : es.foldl putNew (ofList ns) = ofList (ns ++ es) := by
    simp [ofList, hp, List.foldl_append]
  rw [this]; exact ofList_inv _ hd

-- non-vacuity: ten colliding keys
example : TreeInv (ofList ((List.range 10).map fun i => ⟨7, i, i, 0, i⟩)) := by
  rw [← treeInvB_iff]; decide +kernel

end Flurry.C06
