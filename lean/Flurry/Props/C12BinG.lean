import Flurry.Lemmas.BinGProgSolo
import Flurry.Lemmas.BinGExamples
/-! # C12 for `Proto/BinG`: reads never block and finish in a bounded number of their own steps

> `get`, `get_key_value`, `contains_key`, iterators … never acquire a bin lock and never wait for a
> writer: a reader finishes in a bounded number of its own steps even while any other thread is
> suspended at an arbitrary point — including while holding a bin lock, while holding or waiting for a
> tree bin's write lock, in the middle of moving a bin, or in the middle of a treeify.

Proved for the small-step model `Proto/BinG` (one bin lineage through list ⇄ tree conversions and one
resize; lock-free readers of list bins, lock-protocol readers and list-only readers (iterators) of
`TreeBin`s), over **all** reachable states — any number of threads, any number of steps, any
interleaving; the other threads are "suspended at an arbitrary point" simply because the theorems
quantify over every reachable state and then move only thread `t`:

1. `reader_step_enabled` — the step of a thread at a reader pc is enabled in every reachable state, for
   every value of the scheduler's arguments;
2. `reader_step_frame` — that step takes no lock and stores nothing: `Frame`;
3. `reader_solo_terminates` — running alone (`runSolo`), the reader is `idle` again, with its call
   appended to `hist`, after at most `soloBound s = 4 * s.heap.length + 10` steps;
4. non-vacuity examples evaluated by the kernel (`decide`).

Proofs: `Lemmas/BinGProgInv.lean` (auxiliary invariant `BInv`), `Lemmas/BinGProgEn.lean` (when is a step
enabled), `Lemmas/BinGProgRead.lean` (the measure `mu`), `Lemmas/BinGProgSolo.lean` (the induction). -/
namespace Flurry.Proto.BinG
open Flurry.Lin

/-- **C12.1: a reader's step is never disabled.** In every reachable state, for every thread at a
reader pc (`rTable, rCell, rNode, rFirst, rState, rLin, rCas, rTree, rRelease, rVal` and the list-only
readers `lFirst, lNode`) and every value of the scheduler's arguments, the step of that thread is
enabled: no state of the other threads — holding a node lock or a bin mutex, holding or waiting for
the write lock (`WAITER` set), mid-transfer, mid-treeify — disables a reader. -/
theorem reader_step_enabled {n : Nat} {s : State} (hr : Reachable n s) {t : Nat} {l : Local}
    (hl : s.threads[t]? = some l) (hrd : readerPc l.pc = true) (inv : Option (Nat × KOp)) (lo : Bool)
    (mt : Option Nat) (rz sm sm2 : Bool) : (step s t inv lo mt rz sm sm2).isSome = true := by
  obtain ⟨p, s', -, hs, -⟩ := reader_step_aux (reachable_inv hr) (reachable_binv hr) hl hrd inv lo mt rz sm sm2
  rw [hs]; rfl

/-- **C12.2: a reader takes no lock and stores nothing.** A step of a thread at a reader pc leaves the
heap (hence every lock word, value and `next`), the three cells, the table pointer, the `first` field,
the mutex, the `WRITER` and the `WAITER` bit of every `TreeBin`, and all other threads as they are; only
the reader count of one `TreeBin`, the thread's own local state, the clock and `hist` may change (no
reachability assumption needed). -/
theorem reader_step_frame {s s' : State} {t : Nat} {l : Local} (hl : s.threads[t]? = some l)
    (hrd : readerPc l.pc = true) {inv : Option (Nat × KOp)} {lo : Bool} {mt : Option Nat} {rz sm sm2 : Bool}
    (hs : step s t inv lo mt rz sm sm2 = some s') : Frame t s s' := reader_step_frame_aux hl hrd hs

/-- one step of a reader in full: enabled; the thread has returned (`idle`, one entry added to `hist`)
or is at a reader pc with a strictly smaller measure `mu` -/
theorem reader_step {n : Nat} {s : State} (hr : Reachable n s) {t : Nat} {l : Local}
    (hl : s.threads[t]? = some l) (hrd : readerPc l.pc = true) (inv : Option (Nat × KOp)) (lo : Bool)
    (mt : Option Nat) (rz sm sm2 : Bool) :
    ∃ p s', l.call = some p ∧ step s t inv lo mt rz sm sm2 = some s' ∧ Outcome s t p l.pc s' :=
  reader_step_aux (reachable_inv hr) (reachable_binv hr) hl hrd inv lo mt rz sm sm2

/-- **C12.3: bounded own steps.** From every reachable state, a thread at a reader pc that runs alone
— all other threads suspended wherever they are: a writer holding the bin lock or waiting for it, a
tree writer holding the mutex, holding the write lock or parked with `WAITER` set, the resizing thread
anywhere in the middle of moving the bin, a treeify in progress — has returned (`idle`, its call
appended to `hist`) after at most `soloBound s = 4 * s.heap.length + 10` of its own steps (table
pointer, old cell, one forwarding hop, new cell, `first`, then at most two steps per node of a chain
whose length is bounded through `rank` by twice the heap size, with at most one failed CAS on the lock
word: running alone the word no longer changes, so the CAS cannot fail twice), all of them enabled,
and has touched nothing but a reader count (`Frame`). -/
theorem reader_solo_terminates {n : Nat} {s : State} (hr : Reachable n s) {t : Nat} {l : Local}
    (hl : s.threads[t]? = some l) (hrd : readerPc l.pc = true) (sm sm2 : Bool) :
    ∃ k, k ≤ soloBound s ∧ ∃ s' p res resp, l.call = some p ∧ runSolo t sm sm2 k s = some s' ∧
      Frame t s s' ∧ s'.threads[t]? = some { pc := .idle, call := none } ∧
      s'.hist = (p.key, { tid := t, op := p.op, res := res, inv := p.inv, resp := resp }) :: s.hist :=
  reader_solo_terminates_aux hr hl hrd sm sm2

/-- the bound is an explicit function of the heap size -/
theorem soloBound_eq (s : State) : soloBound s = 4 * s.heap.length + 10 := rfl

/-! ## non-vacuity: the resizing thread suspended in the middle of moving a list bin, holding its lock -/

/-- thread 0 fills the bin (`ins 1`, `ins 2`, `ins 3`: list `0 → 1 → 2`); thread 1 starts the resize,
locks the head and validates; thread 3 (`rm 1`) gets as far as `wLock`: it **waits for the bin lock**;
thread 1 goes on — splits the list (copies of nodes 0 and 1 are nodes 3 and 4), stores the low list —
and is suspended at `xStoreHigh`, between `xStoreLow` and `xStoreMoved`: **mid-transfer, holding the
bin lock**; thread 2 invokes `get 3`. -/
def midSched : Sched :=
  call 0 1 (.ins 10 100) ++ rep 0 3 ++ call 0 2 (.ins 20 101) ++ rep 0 8 ++ call 0 3 (.ins 30 102) ++ rep 0 9 ++
  [{ t := 1, rz := true }] ++ rep 1 2 ++ call 3 1 .rm ++ rep 3 2 ++ rep 1 3 ++ call 2 3 .get

def midState : Option State := run step (init 4) midSched

/-- two more steps of the transfer: the high list and the forwarding marker are stored, the lock is
not yet released (`xUnlock`) -/
def fwdState : Option State := run step (init 4) (midSched ++ rep 1 2)

/-- the premises of the theorems are satisfiable by a state with a transfer in progress -/
theorem midState_spec : ∃ s, midState = some s ∧ Reachable 4 s ∧
    s.threads[1]? = some { pc := .xStoreHigh (.inl 0) (.list 3), call := none } ∧
    s.threads[3]? = some { pc := .wLock .old 0, call := some ⟨1, .rm, 27⟩ } ∧
    s.threads[2]? = some { pc := .rTable false, call := some ⟨3, .get, 33⟩ } ∧
    (s.heap[0]?).map (·.lock) = some (some 1) ∧ s.cell0 = .list 0 ∧ s.lowCell = .list 4 ∧ s.highCell = .empty := by
  have h : (midState.map fun s => (s.threads, (s.heap[0]?).map (·.lock), s.cell0, s.lowCell, s.highCell)) =
      some ([ { pc := .idle, call := none }, { pc := .xStoreHigh (.inl 0) (.list 3), call := none },
              { pc := .rTable false, call := some ⟨3, .get, 33⟩ },
              { pc := .wLock .old 0, call := some ⟨1, .rm, 27⟩ } ],
            some (some 1), .list 0, .list 4, .empty) := by decide +kernel
  cases hs : midState with
  | none => rw [hs] at h; cases h
  | some s =>
    rw [hs] at h
    simp only [Option.map_some, Option.some.injEq, Prod.mk.injEq] at h
    obtain ⟨h1, h2, h3, h4, h5⟩ := h
    refine ⟨s, rfl, run_reachable midSched Reachable.init hs, ?_, ?_, ?_, ?_, h3, h4, h5⟩
    · rw [h1]; rfl
    · rw [h1]; rfl
    · rw [h1]; rfl
    · rw [h2]

/-- in that state the *writer* `rm 1` is blocked (it waits for the bin lock) … -/
example : (midState.map fun s => (act step s { t := 3 }).isSome) = some false := by decide +kernel

/-- … but the reader, running alone, walks the old list `0 → 1 → 2` and answers `some (30, 102)` in 5
steps (table pointer, old cell, three nodes) — within `soloBound = 30` -/
example : (midState.bind fun s => (runSolo 2 false false 5 s).map fun s' =>
      (decide (5 ≤ soloBound s), s'.threads[2]?, s'.hist.head?)) =
    some (true, some { pc := .idle, call := none },
      some (3, { tid := 2, op := .get, res := .some 30 102, inv := 33, resp := 38 })) := by decide +kernel

/-- … while the transfer still holds the lock, where it was suspended -/
example : (midState.bind fun s => (runSolo 2 false false 5 s).map fun s' =>
      ((s'.heap[0]?).map (·.lock), s'.cell0, s'.threads[1]?)) =
    some (some (some 1), .list 0, some { pc := .xStoreHigh (.inl 0) (.list 3), call := none }) := by decide +kernel

/-- with the forwarding marker stored and the lock still held (`xUnlock`), the reader follows the
marker into the new table: table pointer (still `old`), old cell (`moved`), new high cell, nodes 3
(the copy of key 1) and 2: 5 steps again -/
example : (fwdState.map fun s => (s.cell0, s.threads[1]?, (s.heap[0]?).map (·.lock))) =
    some (.moved, some { pc := .xUnlock (.inl 0), call := none }, some (some 1)) := by decide +kernel

example : (fwdState.bind fun s => (runSolo 2 false false 5 s).map fun s' =>
      (decide (5 ≤ soloBound s), s'.threads[2]?, s'.hist.head?)) =
    some (true, some { pc := .idle, call := none },
      some (3, { tid := 2, op := .get, res := .some 30 102, inv := 33, resp := 40 })) := by decide +kernel

/-- the general theorem instantiated at `midState` -/
example : ∃ s, midState = some s ∧ ∃ k, k ≤ soloBound s ∧
    ∃ (s' : State) (p : Pending) (res : KRes) (resp : Nat), runSolo 2 false false k s = some s' ∧
    s'.threads[2]? = some { pc := .idle, call := none } ∧
    s'.threads[1]? = some { pc := .xStoreHigh (.inl 0) (.list 3), call := none } ∧
    s'.hist = (p.key, { tid := 2, op := p.op, res := res, inv := p.inv, resp := resp }) :: s.hist := by
  obtain ⟨s, hs, hr, h1, _, h2, _⟩ := midState_spec
  obtain ⟨k, hk, s', p, res, resp, _, hrun, hf, hidle, hh⟩ := reader_solo_terminates hr h2 rfl false false
  exact ⟨s, hs, k, hk, s', p, res, resp, hrun, hidle, (hf.others 1 (by decide)).trans h1, hh⟩

/-! ## non-vacuity: a tree writer parked with `WAITER` set, behind a reader that holds the read lock -/

/-- thread 0: `ins 0`, `ins 2`; thread 1 treeifies (`TreeBin` 0 over nodes 2, 3); thread 2: `get 0` —
takes the read lock and is suspended at `rTree`; thread 0: `rm 2` — mutex, find, `lock_root` fails, sets
`WAITER` and is **parked** at `lrLoop` (its step is not enabled while the reader remains); thread 1:
`ins 4` — **blocked at `tMutex`** behind the parked writer; thread 3 invokes `get 2`. -/
def parkSched : Sched :=
  setupLow ++ call 2 0 .get ++ rep 2 5 ++ call 0 2 .rm ++ rep 0 7 ++ call 1 4 (.ins 7 7) ++ rep 1 2 ++ call 3 2 .get

def parkState : Option State := run step (init 4) parkSched

theorem parkState_spec : ∃ s, parkState = some s ∧ Reachable 4 s ∧
    s.threads[0]? = some { pc := .lrLoop .old 0 (.remove 3) (.some 6 101), call := some ⟨2, .rm, 28⟩ } ∧
    s.threads[1]? = some { pc := .tMutex .old 0, call := some ⟨4, .ins 7 7, 36⟩ } ∧
    s.threads[2]? = some { pc := .rTree 0, call := some ⟨0, .get, 22⟩ } ∧
    s.threads[3]? = some { pc := .rTable false, call := some ⟨2, .get, 39⟩ } ∧
    s.tbins = [{ first := some 2, mutex := some 0, writer := false, waiter := true, readers := 1 }] := by
  have h : (parkState.map fun s => (s.threads, s.tbins)) =
      some ([ { pc := .lrLoop .old 0 (.remove 3) (.some 6 101), call := some ⟨2, .rm, 28⟩ },
              { pc := .tMutex .old 0, call := some ⟨4, .ins 7 7, 36⟩ },
              { pc := .rTree 0, call := some ⟨0, .get, 22⟩ },
              { pc := .rTable false, call := some ⟨2, .get, 39⟩ } ],
            [{ first := some 2, mutex := some 0, writer := false, waiter := true, readers := 1 }]) := by decide +kernel
  cases hs : parkState with
  | none => rw [hs] at h; cases h
  | some s =>
    rw [hs] at h
    simp only [Option.map_some, Option.some.injEq, Prod.mk.injEq] at h
    obtain ⟨h1, h2⟩ := h
    refine ⟨s, rfl, run_reachable parkSched Reachable.init hs, ?_, ?_, ?_, ?_, h2⟩ <;> rw [h1] <;> rfl

/-- the parked writer and the writer queued on the mutex cannot move … -/
example : (parkState.map fun s => ((act step s { t := 0 }).isSome, (act step s { t := 1 }).isSome)) =
    some (false, false) := by decide +kernel

/-- … the other reader can, and returns after 8 of its own steps (table pointer, cell, `first`; it
sees `WAITER` and walks the list: two nodes, two steps each; the value load) — within `soloBound = 26` -/
example : (parkState.bind fun s => (runSolo 3 false false 8 s).map fun s' =>
      (decide (8 ≤ soloBound s), s'.threads[3]?, s'.hist.head?)) =
    some (true, some { pc := .idle, call := none },
      some (2, { tid := 3, op := .get, res := .some 6 101, inv := 39, resp := 47 })) := by decide +kernel

/-- … while the lock word of the `TreeBin` is as it was: mutex held by the parked writer, `WAITER`
set, one reader inside -/
example : (parkState.bind fun s => (runSolo 3 false false 8 s).map fun s' => s'.tbins) =
    some [{ first := some 2, mutex := some 0, writer := false, waiter := true, readers := 1 }] := by decide +kernel

/-- the general theorem instantiated at `parkState` -/
example : ∃ s, parkState = some s ∧ ∃ k, k ≤ soloBound s ∧
    ∃ (s' : State) (p : Pending) (res : KRes) (resp : Nat), runSolo 3 false false k s = some s' ∧
    s'.threads[3]? = some { pc := .idle, call := none } ∧
    s'.threads[0]? = some { pc := .lrLoop .old 0 (.remove 3) (.some 6 101), call := some ⟨2, .rm, 28⟩ } ∧
    s'.hist = (p.key, { tid := 3, op := p.op, res := res, inv := p.inv, resp := resp }) :: s.hist := by
  obtain ⟨s, hs, hr, h0, _, _, h3, _⟩ := parkState_spec
  obtain ⟨k, hk, s', p, res, resp, _, hrun, hf, hidle, hh⟩ := reader_solo_terminates hr h3 rfl false false
  exact ⟨s, hs, k, hk, s', p, res, resp, hrun, hidle, (hf.others 0 (by decide)).trans h0, hh⟩

end Flurry.Proto.BinG
