import Flurry.Lemmas.SeqOps
/-! # C18 — panicking callbacks leave the map consistent

Callbacks are data in the model: `compute_if_present` carries the closure's behaviour `f key value
value_id : CbRes` (`keep`, `remove` or `panic`), `retain` the predicate's
(`Option Bool`, `none` = panic). The lemmas are in `Flurry/Lemmas/SeqOpsCip.lean`,
`SeqOpsRetain.lean`. -/
namespace Flurry.C18
open Flurry Flurry.Seq

/-- **a panicking `compute_if_present` changes nothing**: the state is *the same state* (a present
key means the table exists, so not even the lazy allocation happens) -/
theorem cip_panic_unchanged (m : Map) (hg : Good m) (k : Nat) (f : Nat → Nat → Nat → CbRes)
    (hp : (computeIfPresent k f m).2 = .panic) :
    (computeIfPresent k f m).1 = m ∧ absMap (computeIfPresent k f m).1 = absMap m ∧
    Good (computeIfPresent k f m).1 := by
  have h1 := cip_unchanged hg (Or.inl hp)
  obtain ⟨ki, v, vi, ha, -⟩ := (cip_panic_iff hg).1 hp
  have hne : m.table ≠ none := by
    intro hn
    simp [absMap, get_of_table_none hn] at ha
  have h2 : (computeIfPresent k f m).1 = m := by rw [h1, hg.initTable_eq hne]
  rw [h2]
  exact ⟨rfl, rfl, hg⟩

/-- when exactly the answer is `panic` -/
theorem cip_panics_iff (m : Map) (hg : Good m) (k : Nat) (f : Nat → Nat → Nat → CbRes) :
    (computeIfPresent k f m).2 = .panic ↔
      ∃ ki v vi, absMap m k = some (ki, v, vi) ∧ f k v vi = .panic :=
  cip_panic_iff hg

/-- **no write before the callback**: if the key is absent (the callback is not called) or the
callback panics on the value it is shown, the resulting state is exactly `initTable m` — the state
in which the callback was (or would have been) called; and that is `m` itself once the table
exists. So everything `compute_if_present` writes, it writes after the callback has returned. -/
theorem cip_no_write_before_callback (m : Map) (hg : Good m) (k : Nat) (f : Nat → Nat → Nat → CbRes)
    (h : absMap m k = none ∨ ∃ ki v vi, absMap m k = some (ki, v, vi) ∧ f k v vi = .panic) :
    (computeIfPresent k f m).1 = initTable m ∧ (m.table ≠ none → initTable m = m) ∧
    absMap (initTable m) = absMap m := by
  refine ⟨?_, hg.initTable_eq, (initTable_same m).absMap_eq⟩
  rcases h with h | h
  · exact cip_unchanged hg (Or.inr h)
  · exact cip_unchanged hg (Or.inl ((cip_panic_iff hg).2 h))

/-- **`retain` with a predicate that panics part-way**: if the predicate first panics at the entry
`nd` (it answers on all entries `l₁` iterated before), then `retain` answers `panic` and the state
is what processing exactly `l₁` gives: a `Good` state in which the entries of `l₁` that the
predicate rejected are gone and every other entry — in particular `nd` and everything after it —
is untouched; table, threshold and resize counter are untouched. -/
theorem retain_panic_prefix (m : Map) (hg : Good m) (force : Bool) (f : Nat → Nat → Nat → Option Bool)
    (l₁ l₂ : List Node) (nd : Node) (he : entries m = l₁ ++ nd :: l₂)
    (ht : ∀ x ∈ l₁, (f x.key x.val x.vi).isSome) (hp : f nd.key nd.val nd.vi = none) :
    retain force f m = ((retainGo force f l₁ m).1, .panic) ∧
    Good (retain force f m).1 ∧
    (∀ k, absMap (retain force f m).1 k =
      match absMap m k with
      | some (ki, v, vi) =>
        if (∃ x ∈ l₁, x.key = k) ∧ f k v vi = some false then none else some (ki, v, vi)
      | none => none) ∧
    tableLen (retain force f m).1 = tableLen m ∧ (retain force f m).1.resizes = m.resizes := by
  obtain ⟨hr, hs⟩ := retain_first_panic force hg he ht hp
  rw [hr]
  exact ⟨rfl, hs.good, hs.absMap_apply hg fun x hx => he ▸ List.mem_append_left _ hx,
    hs.tableLen_eq, hs.resizes_eq⟩

/-- the loop, structurally: processing `l₁ ++ l₂` is processing `l₁` and, unless the predicate
panicked, going on with `l₂` -/
theorem retain_loop_append (force : Bool) (f : Nat → Nat → Nat → Option Bool) (l₁ l₂ : List Node)
    (m : Map) :
    retainGo force f (l₁ ++ l₂) m =
      if (retainGo force f l₁ m).2 = .panic then retainGo force f l₁ m
      else retainGo force f l₂ (retainGo force f l₁ m).1 :=
  retainGo_append force f l₁ l₂ m

/-- **after a panic the map goes on working**: the state after *any* operation (in particular one
that answered `panic`) is `Good`, so every later operation sequence refines the reference map
started from that state's abstract map. -/
theorem after_panic_continues (m : Map) (hg : Good m) (op : Op) (_hp : (step m op).2 = .panic)
    (ops : List Op) (ht : ∀ o ∈ ops, o.total) :
    Good (step m op).1 ∧ Good (run (step m op).1 ops).1 ∧
    absMap (run (step m op).1 ops).1 = (Ref.run (absMap (step m op).1) ops).1 ∧
    ∀ (i : Nat) (o : Op), ops[i]? = some o → o.answered = true →
      (run (step m op).1 ops).2[i]? = (Ref.run (absMap (step m op).1) ops).2[i]? := by
  have hg' := step_good hg op
  obtain ⟨a, b, _, _, e⟩ := run_refines hg' ops ht
  exact ⟨hg', a, b, e⟩

/-- what the abstract map is after a panicking operation: unchanged for `compute_if_present` -/
theorem cip_panic_absMap (m : Map) (hg : Good m) (k : Nat) (f : Nat → Nat → Nat → CbRes)
    (hp : (step m (.cip k f)).2 = .panic) : absMap (step m (.cip k f)).1 = absMap m := by
  have : (computeIfPresent k f m).2 = .panic := by
    simp only [step] at hp
    cases h : (computeIfPresent k f m).2 <;> rw [h] at hp <;> first | rfl | cases hp
  exact (cip_panic_unchanged m hg k f this).2.1

example : Good ex2 := ex2_good
example : (computeIfPresent 1 (fun _ _ _ => .panic) ex2).2 = .panic := by decide +kernel
example : (computeIfPresent 1 (fun _ _ _ => .panic) ex2).1 = ex2 :=
  (cip_panic_unchanged ex2 ex2_good 1 _ (by decide +kernel)).1
/-- a predicate that drops key `1` and panics at key `2`: key `1` is gone, key `2` is still there -/
example : let r := retain false (fun k _ _ => if k = 1 then some false else none) ex2
    r.2 = .panic ∧ absMap r.1 1 = none ∧ absMap r.1 2 = some (8, 20, 200) := by decide +kernel

end Flurry.C18
