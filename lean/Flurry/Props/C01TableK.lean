import Flurry.Proto.TableK
import Flurry.Props.C01BinK
import Flurry.Props.C01Local
import Flurry.Lemmas.TableK
import Flurry.Lemmas.TableKExamples
/-! # C01 (table level, fixed length): ONE sequential order of ALL calls on ALL keys

`Proto/TableK`: `m` bins, each a `Proto/BinK` bin (empty / list / tree with both conversions,
lock-free readers, iterators, locked writers), key `k` in bin `k % m`, any number of threads, a
thread inside at most one bin at a time, one clock shared by all bins. The history of the table is
the history of the *map* (`LinMap.MHistory`): the calls on all keys of all bins, with comparable
times.

How the bin-level theorem lifts: the clock of a bin in which nothing happens advances by a `tick`,
and a tick is *itself* a transition of `Proto/BinK` — the step of a thread that is idle in that bin
and starts nothing (`tableK_tick_is_bin_step`); `TableK.step` lets a thread act in a bin only while
it is idle in all others. So every bin of a reachable table is literally `BinK.Reachable`
(`tableK_bin_reachable`) and `binK_linearizable_quiescent` applies to it as it stands. Keys stay in
their own bin (`tableK_key_in_own_bin`), so the projection of the map history on key `k` IS the
per-key history of bin `k % m` (`tableK_proj_eq`);
locality (`LinMap.map_linearizable_of_proj`, which `C01.locality` states) does the rest.
Proofs: `Lemmas/TableK.lean`, `Lemmas/TableKExamples.lean`. -/
namespace Flurry.Proto.TableK
open Flurry.Lin Flurry.LinMap

theorem bins_length {m n : Nat} {S : State} (hr : Reachable m n S) : S.bins.length = m :=
  (reachable_tblInv hr).len

/-- a tick (the clock of a bin advances while a thread acts elsewhere) is a transition of the bin:
the step of a thread that is idle there and starts nothing -/
theorem tableK_tick_is_bin_step {b : BinK.State} {t : Nat} (h : idleIn b t = true) :
    BinK.step b t none false false false = some (tick b) := tick_is_step h

/-- every bin of a reachable table is a reachable `Proto/BinK` bin: all bin-level theorems
(`binK_inv`, `binK_linearizable`, `quiescent_tree_eq_list`, `conversion_abs_invariant`, …) hold for it -/
theorem tableK_bin_reachable {m n : Nat} {S : State} (hr : Reachable m n S) {i : Nat} {b : BinK.State}
    (hb : S.bins[i]? = some b) : BinK.Reachable n b := (reachable_tblInv hr).reach i b hb

/-- every call recorded in bin `i` is on a key of bin `i` -/
theorem tableK_key_in_own_bin {m n : Nat} {S : State} (hr : Reachable m n S) {i : Nat} {b : BinK.State}
    (hb : S.bins[i]? = some b) {k : Nat} {c : Call} (hc : (k, c) ∈ b.hist) : k % m = i :=
  ((reachable_tblInv hr).keys i b hb).hist (k, c) hc

/-- … and so is every call in flight in bin `i` -/
theorem tableK_pending_in_own_bin {m n : Nat} {S : State} (hr : Reachable m n S) {i : Nat} {b : BinK.State}
    (hb : S.bins[i]? = some b) {t : Nat} {l : BinK.Local} {p : BinK.Pending}
    (hl : b.threads[t]? = some l) (hp : l.call = some p) : p.key % m = i :=
  ((reachable_tblInv hr).keys i b hb).pend t l p hl hp

/-- calls on a key of another bin never appear in a bin's history -/
theorem tableK_other_bin_silent {m n : Nat} {S : State} (hr : Reachable m n S) {i : Nat} {b : BinK.State}
    (hb : S.bins[i]? = some b) {k : Nat} (hk : k % m ≠ i) : BinK.callsOn b k = [] :=
  callsOn_other_bin (reachable_tblInv hr) hb hk

/-- a thread is active in at most one bin: of two different bins it is idle in one -/
theorem tableK_one_bin_per_thread {m n : Nat} {S : State} (hr : Reachable m n S) {t i j : Nat}
    {bi bj : BinK.State} {li lj : BinK.Local} (hne : i ≠ j) (hi : S.bins[i]? = some bi) (hj : S.bins[j]? = some bj)
    (hli : bi.threads[t]? = some li) (hlj : bj.threads[t]? = some lj) : li.pc = .idle ∨ lj.pc = .idle :=
  reachable_oneBin hr t i j bi bj li lj hne hi hj hli hlj

/-- no call responds before it is invoked (one clock for all bins) -/
theorem tableK_inv_le_resp {m n : Nat} {S : State} (hr : Reachable m n S) :
    ∀ c ∈ mhist S, c.call.inv ≤ c.call.resp := mhist_wf hr

/-- the projection of the map history on key `k` is — as a list — the per-key history of bin `k % m` -/
theorem tableK_proj_eq {m n : Nat} {S : State} (hr : Reachable m n S) {k : Nat} {b : BinK.State}
    (hb : S.bins[k % m]? = some b) : proj (mhist S) k = BinK.callsOn b k :=
  proj_mhist (reachable_tblInv hr) hb

/-- per key, in every reachable state (completed calls plus writers past their linearization point) -/
theorem tableK_key_linearizable_ext {m n : Nat} {S : State} (hr : Reachable m n S) {k : Nat} {b : BinK.State}
    (hb : S.bins[k % m]? = some b) : Lin.Linearizable (BinK.callsOnExt b k) none (BinK.absOf b k) :=
  BinK.binK_linearizable (tableK_bin_reachable hr hb) k

/-- per key, at quiescence -/
theorem tableK_key_linearizable {m n : Nat} (hm : 0 < m) {S : State} (hr : Reachable m n S) (hq : quiescent S)
    (k : Nat) : Lin.Linearizable (proj (mhist S) k) none (absMap S k) := by
  have I := reachable_tblInv hr
  obtain ⟨b, hb, hd⟩ := bin_of_key hm I k
  rw [proj_mhist I hb]
  unfold absMap
  rw [hd]
  exact BinK.binK_linearizable_quiescent (I.reach _ b hb) (hq b (List.mem_of_getElem? hb)) k

/-- **C01 for a whole table of fixed length: ONE sequential order of ALL calls on ALL keys** respects
real time and replays through the sequential specification of a map, from the empty map to the
abstract map of the table. -/
theorem tableK_map_linearizable {m n : Nat} (hm : 0 < m) {S : State} (hr : Reachable m n S) (hq : quiescent S) :
    LinMap.MapLinearizable (mhist S) (fun _ => none) (absMap S) :=
  LinMap.map_linearizable_of_proj (mhist_wf hr) (fun k => tableK_key_linearizable hm hr hq k)

/-- non-vacuity: two bins, two threads; `ins 1` (bin 1) overlaps `ins 2` (bin 0), then `get 2`
(bin 0) overlaps `rm 1` (bin 1); the state is reachable and quiescent, both bins have a history -/
example : ∃ S : State, Reachable 2 2 S ∧ quiescent S ∧
    mhist S = [ ⟨2, ⟨1, .ins 20 200, .none, 2, 5⟩⟩, ⟨2, ⟨0, .get, .some 20 200, 7, 13⟩⟩,
                ⟨1, ⟨0, .ins 10 100, .none, 1, 6⟩⟩, ⟨1, ⟨1, .rm, .some 10 100, 8, 16⟩⟩ ] ∧
    absMap S 1 = none ∧ absMap S 2 = some (20, 200) ∧
    S.bins.map (fun b => b.hist.map (·.1)) = [[2, 2], [1, 1]] ∧
    LinMap.MapLinearizable (mhist S) (fun _ => none) (absMap S) := by
  obtain ⟨S, hr, hq, hh, h1, h2, hb⟩ := example_state
  exact ⟨S, hr, hq, hh, h1, h2, hb, tableK_map_linearizable (by decide) hr hq⟩

/-- the model refuses a call on a key of another bin, and a thread that is busy in another bin -/
example : (step (init 2 2) 0 0 (some (1, .ins 1 1)) false false false).isNone = true ∧
    (run (init 2 2) [call 0 0 2 (.ins 1 1), call 1 0 1 .get]).isNone = true := example_refused

end Flurry.Proto.TableK
