import Flurry.SigDefs
import Flurry.Gen.Serde
import Flurry.Spec.Bulk
/-! # C19 — optional bulk paths (serde, rayon), at the level of the abstract map

`mapDupPolicy` / `setDupPolicy` are regenerated from `src/serde_impls.rs` on every run (what
`visit_map` / `visit_seq` do when `insert` reports that the key was already present).
The abstract map is an association list with `lookup`/`insert` (replace or append); that the real
map behaves like it sequentially is C02, that parallel inserts are equivalent to *some* sequential
order of the same inserts is C01. -/
namespace Flurry.C19
open Flurry.Sig Flurry.Gen

theorem lookup_insert_same (m : AMap) (k v : Nat) : lookup k (insert m k v) = some v := by
  induction m with
  | nil => simp [insert, lookup]
  | cons p rest ih =>
    obtain ⟨k', v'⟩ := p
    by_cases h : k' = k <;> simp [insert, lookup, h, ih]

theorem lookup_insert_other (m : AMap) (k v k2 : Nat) (h : k2 ≠ k) :
    lookup k2 (insert m k v) = lookup k2 m := by
  induction m with
  | nil => simp [insert, lookup, Ne.symm h]
  | cons p rest ih =>
    obtain ⟨k', v'⟩ := p
    by_cases h1 : k' = k
    · subst h1; simp [insert, lookup, Ne.symm h]
    · by_cases h2 : k' = k2
      · subst h2; simp [insert, lookup, h1]
      · simp [insert, lookup, h1, h2, ih]

/-- a lookup in a concatenation asks the front part first -/
theorem lookup_append (k : Nat) (l1 l2 : AMap) :
    lookup k (l1 ++ l2) = (match lookup k l1 with | some v => some v | none => lookup k l2) := by
  induction l1 with
  | nil => rfl
  | cons q l ihl =>
    obtain ⟨a, b⟩ := q
    by_cases hab : a = k <;> simp [lookup, hab, ihl]

/-- **never panics**: with the extracted policy, deserialising *any* entry list — repeated keys
included — yields a value or an error. -/
theorem deserialize_total (doc : List (Nat × Nat)) : deserialize mapDupPolicy doc ≠ .panic := by
  have hp : mapDupPolicy ≠ .panic := by decide +kernel
  unfold deserialize
  generalize ([] : AMap) = acc
  induction doc generalizing acc with
  | nil => simp [deserializeFrom]
  | cons p rest ih =>
    obtain ⟨k, v⟩ := p
    simp only [deserializeFrom]
    split
    · cases hpol : mapDupPolicy with
      | lastWins => simpa [hpol] using ih _
      | error => simp
      | panic => exact absurd hpol hp
    · exact ih _

theorem set_policy_no_failure : setDupPolicy = .lastWins := by decide +kernel

/-- deserialising yields, for every key, the *last* value the document gives it
(policy `lastWins`), on top of what the accumulator already holds -/
theorem deserializeFrom_lastWins (doc : List (Nat × Nat)) (acc : AMap) :
    ∃ m, deserializeFrom .lastWins doc acc = .ok m ∧
      ∀ k, lookup k m = (match lookup k doc.reverse with | some v => some v | none => lookup k acc) := by
  induction doc generalizing acc with
  | nil => exact ⟨acc, rfl, fun k => by simp [lookup]⟩
  | cons p rest ih =>
    obtain ⟨k0, v0⟩ := p
    obtain ⟨m, hm, hl⟩ := ih (insert acc k0 v0)
    refine ⟨m, ?_, ?_⟩
    · simp only [deserializeFrom]; split <;> exact hm
    · intro k
      rw [hl k]
      rw [List.reverse_cons, lookup_append]
      cases hr : lookup k rest.reverse with
      | some v => rfl
      | none =>
        by_cases hk : k0 = k
        · subst hk; simp [lookup, lookup_insert_same]
        · simp [lookup, hk, lookup_insert_other _ _ _ _ (Ne.symm hk)]

theorem lookup_reverse_nodup (m : AMap) (h : (m.map Prod.fst).Nodup) (k : Nat) :
    lookup k m.reverse = lookup k m := by
  induction m with
  | nil => rfl
  | cons p rest ih =>
    obtain ⟨a, b⟩ := p
    simp only [List.map_cons, List.nodup_cons] at h
    rw [List.reverse_cons, lookup_append, ih h.2]
    by_cases hak : a = k
    · subst hak
      have : lookup a rest = none := by
        have hn := h.1
        clear ih h
        induction rest with
        | nil => rfl
        | cons q l ihl =>
          obtain ⟨c, d⟩ := q
          simp only [List.map_cons, List.mem_cons, not_or] at hn
          simp [lookup, Ne.symm hn.1, ihl hn.2]
      simp [this, lookup]
    · cases hl : lookup k rest <;> simp [lookup, hak, hl]

/-- **round trip**: serialising a map (each key once) and deserialising the result yields a map
with the same lookups. -/
theorem roundtrip (m : AMap) (h : (m.map Prod.fst).Nodup) (hpol : mapDupPolicy = .lastWins) :
    ∃ m', deserialize mapDupPolicy (serialize m) = .ok m' ∧ ∀ k, lookup k m' = lookup k m := by
  obtain ⟨m', hm, hl⟩ := deserializeFrom_lastWins m []
  refine ⟨m', by rw [hpol]; exact hm, ?_⟩
  intro k
  rw [hl k, lookup_reverse_nodup m h k]
  cases lookup k m <;> simp [lookup]

theorem roundtrip_current (m : AMap) (h : (m.map Prod.fst).Nodup) :
    ∃ m', deserialize mapDupPolicy (serialize m) = .ok m' ∧ ∀ k, lookup k m' = lookup k m :=
  roundtrip m h (by decide +kernel)

def insertAll (m : AMap) (items : List (Nat × Nat)) : AMap :=
  items.foldl (fun a p => insert a p.1 p.2) m

theorem lookup_insertAll (items : List (Nat × Nat)) (m : AMap) (k : Nat) :
    lookup k (insertAll m items) =
      (match lookup k items.reverse with | some v => some v | none => lookup k m) := by
  have := deserializeFrom_lastWins items m
  obtain ⟨m', hm, hl⟩ := this
  have heq : ∀ (its : List (Nat × Nat)) (acc : AMap),
      deserializeFrom .lastWins its acc = .ok (insertAll acc its) := by
    intro its
    induction its with
    | nil => intro acc; rfl
    | cons p rest ih =>
      intro acc
      obtain ⟨a, b⟩ := p
      simp only [deserializeFrom, insertAll, List.foldl_cons]
      split <;> exact ih _
  rw [heq] at hm
  injection hm with hm
  rw [hm]; exact hl k

theorem lookup_some_mem (k v : Nat) (l : AMap) (h : lookup k l = some v) : (k, v) ∈ l := by
  induction l with
  | nil => simp [lookup] at h
  | cons p rest ih =>
    obtain ⟨a, b⟩ := p
    by_cases hak : a = k
    · subst hak; simp [lookup] at h; subst h; simp
    · simp [lookup, hak] at h; exact List.mem_cons_of_mem _ (ih h)

theorem lookup_none_iff (k : Nat) (l : AMap) : lookup k l = none ↔ k ∉ l.map Prod.fst := by
  induction l with
  | nil => simp [lookup]
  | cons p rest ih =>
    obtain ⟨a, b⟩ := p
    rw [List.map_cons, List.mem_cons, not_or]
    show (if a = k then some b else lookup k rest) = none ↔ _
    by_cases hak : a = k
    · rw [if_pos hak]; exact ⟨nofun, fun h => absurd hak.symm h.1⟩
    · rw [if_neg hak, ih]; exact ⟨fun h => ⟨fun e => hak e.symm, h⟩, (·.2)⟩

/-- **parallel extend / collect**: whatever order `π` the workers' inserts take effect in, the
resulting key set is `keys m ∪ keys items`, every key of `items` is mapped to one of the values
supplied for it, and every other key keeps its value. -/
theorem par_extend_any_order (m : AMap) (items π : List (Nat × Nat)) (hπ : π.Perm items) (k : Nat) :
    ((lookup k (insertAll m π)).isSome ↔ ((lookup k m).isSome ∨ k ∈ items.map Prod.fst)) ∧
    (k ∈ items.map Prod.fst → ∃ v, lookup k (insertAll m π) = some v ∧ (k, v) ∈ items) ∧
    (k ∉ items.map Prod.fst → lookup k (insertAll m π) = lookup k m) := by
  rw [lookup_insertAll]
  have hmem : ∀ x, x ∈ π.reverse ↔ x ∈ items := fun x => by
    rw [List.mem_reverse]; exact hπ.mem_iff
  have hkeys : k ∈ (π.reverse).map Prod.fst ↔ k ∈ items.map Prod.fst := by
    simp only [List.mem_map]
    constructor <;> (rintro ⟨x, hx, rfl⟩; exact ⟨x, (by first | exact (hmem x).1 hx | exact (hmem x).2 hx), rfl⟩)
  cases hl : lookup k π.reverse with
  | some v =>
    have hin := (hmem _).1 (lookup_some_mem k v _ hl)
    have hk : k ∈ items.map Prod.fst := List.mem_map.2 ⟨(k, v), hin, rfl⟩
    refine ⟨by simp [hk], fun _ => ⟨v, rfl, hin⟩, fun hn => absurd hk hn⟩
  | none =>
    have hk : k ∉ items.map Prod.fst := by
      rw [← hkeys]; exact (lookup_none_iff k _).1 hl
    refine ⟨by simp [hk], fun h => absurd h hk, fun _ => rfl⟩

-- non-vacuity: a document that repeats a key
example : deserialize mapDupPolicy [(1, 1), (1, 2)] = .ok [(1, 2)] := by decide +kernel
example : deserialize .panic [(1, 1), (1, 2)] = .panic := by decide +kernel

end Flurry.C19
