import Flurry.Lemmas.BinGDrainRun
import Flurry.Lemmas.BinGExamples
/-! # C11 for `Proto/BinG`, termination: every operation terminates under ANY schedule once no new work is started

> Once no new call, treeify or resize is started, every run of the threads in flight is finite — whatever
> the scheduler does, fair or not — and ends with every call answered.

Proved for the small-step model `Proto/BinG` over **all** reachable states and **all** schedules:

1. `gmu : State → Nat` (`Lemmas/BinGDrainDefs.lean`), `gmu s = W s * DA s + PS s`:
   * `DA`: the number of *disturbing* steps (stores into nodes / cells / the table pointer, allocations,
     changes of the read-write lock word of a `TreeBin`) the threads in flight still have ahead: at most
     5 per call / treeify / transfer, and a retry loop (failed re-check → unlock → reload; failed reader
     CAS → reload of the lock word) contains none;
   * `PS`: per thread, the number of *calm* steps (loads, lock / unlock of a node or of a bin mutex,
     local moves) until its next disturbing step / return / block, accounting for a possibly stale view
     with a pending retry; it reads the shared state only through the cells, the `next` pointers and the
     read-write lock words (`View`), which calm steps leave alone;
   * `W > threads.length * PM ≥ PS`: one disturbing step of `A` may make the view of EVERY other thread
     stale; it pays for all their retries out of `DA`;
   * walks are bounded through `rankL` relative to `N s = (heap.length + 1) * 4 ^ G s`, a bound on the
     heap length of every later state (`G`: the threads that may still allocate; an allocation at most
     quadruples `heap.length + 1`: a copied chain is no longer than the heap, and a tree split, the largest
     allocation, may triple the heap).
   `quiet_step_decreases`: EVERY enabled quiet step of a thread that is not `idle` strictly decreases
   `gmu`, with no exception among the transitions: unbounded
   re-tries without new work are impossible, because every failed re-check / failed CAS is caused by a
   disturbing step of another thread, and those are bounded.
2. `quiet_run_bounded`: a run of `k` quiet steps of non-idle threads from a reachable state has
   `k ≤ gmu s ≤ drainBound s`, an explicit function of the heap length and the number of threads.
3. `binG_drains`: any maximal such run ends, after at most `gmu s` steps, in a QUIESCENT state; no
   fairness assumption is needed. `binG_drain_exists`, `no_infinite_quiet_run`.
4. `every_call_returns`: along any maximal quiet run the call of every thread is answered.
5. an example. -/
namespace Flurry.Proto.BinG
open Flurry.Lin

/-- **C11.1: the global measure strictly decreases.** In every reachable state, every enabled quiet
step (`stepQuiet`: no call, treeify or resize is started) of a thread that is not `idle` strictly
decreases `gmu` — for every thread, every program counter, every value of `lo sm sm2`. -/
theorem quiet_step_decreases {n : Nat} {s s' : State} (hr : Reachable n s) (h : QStep s s') : gmu s' < gmu s :=
  h.gmu_lt hr

/-- the same for any enabled step of a thread that is not `idle` (the scheduler's arguments `inv`, `mt`,
`rz` are ignored by such a thread) -/
theorem nonidle_step_decreases {n : Nat} {s s' : State} (hr : Reachable n s) {t : Nat} {l : Local}
    (hl : s.threads[t]? = some l) (hne : l.pc ≠ .idle) {inv : Option (Nat × KOp)} {lo : Bool} {mt : Option Nat}
    {rz sm sm2 : Bool} (hs : step s t inv lo mt rz sm sm2 = some s') : gmu s' < gmu s :=
  step_gmu_lt hr hl hne hs

/-- `gmu` is bounded by `drainBound`, an explicit function of the heap length `n` and the number of
threads `T`: `(T * (4 * ((n + 1) * 4 ^ T) + 20) + 1) * (5 * T) + T * (4 * ((n + 1) * 4 ^ T) + 20)` -/
theorem gmu_le_bound {n : Nat} {s : State} (hr : Reachable n s) : gmu s ≤ drainBound s := gmu_le_drainBound hr

/-- **C11.2: quiet runs are bounded.** Any sequence of `k` enabled quiet steps of threads that are not
`idle`, from a reachable state `s`, has `k + gmu s' ≤ gmu s`; in particular `k ≤ gmu s ≤ drainBound s`. -/
theorem quiet_run_bounded {n : Nat} {s s' : State} {k : Nat} (hr : Reachable n s) (h : QRun s k s') :
    k + gmu s' ≤ gmu s ∧ k ≤ drainBound s := by
  have h1 := (qdrains n).bounded hr (qrun_iff.1 h)
  have h2 := gmu_le_drainBound hr
  exact ⟨h1, by omega⟩

theorem quiet_run_extends {n : Nat} {s s' : State} {k : Nat} (hr : Reachable n s) (h : QRun s k s')
    (hq : ¬ quiescent s') : ∃ s'', QRun s (k + 1) s'' := by
  obtain ⟨s'', h''⟩ := (qdrains n).extends hr (qrun_iff.1 h) hq
  exact ⟨s'', qrun_iff.2 h''⟩

/-- **C11.3: every maximal quiet run drains the lineage.** From every reachable state, ANY sequence of
quiet steps of threads that are not `idle` that cannot be extended ends in a QUIESCENT state, after at
most `gmu s ≤ drainBound s` steps. No fairness assumption: every schedule that keeps running enabled
non-idle threads terminates all calls, treeifies and the transfer. -/
theorem binG_drains {n : Nat} {s s' : State} {k : Nat} (hr : Reachable n s) (h : QRun s k s')
    (hmax : ∀ s'', ¬ QStep s' s'') : quiescent s' ∧ k ≤ gmu s ∧ k ≤ drainBound s := by
  have h1 := (qdrains n).bounded hr (qrun_iff.1 h)
  have h2 := gmu_le_drainBound hr
  exact ⟨(qdrains n).maximal hr (qrun_iff.1 h) hmax, by omega, by omega⟩

theorem quiescent_iff_maximal {n : Nat} {s : State} (hr : Reachable n s) :
    quiescent s ↔ ∀ s', ¬ QStep s s' :=
  (qdrains n).done_iff hr

theorem binG_drain_exists {n : Nat} {s : State} (hr : Reachable n s) :
    ∃ k s', QRun s k s' ∧ quiescent s' ∧ k ≤ gmu s := by
  obtain ⟨k, s', h, hq, hb⟩ := (qdrains n).exists_run hr
  exact ⟨k, s', qrun_iff.2 h, hq, by omega⟩

/-- there is no infinite execution in which no new call / treeify / resize is started and only
threads that are not `idle` take steps -/
theorem no_infinite_quiet_run {n : Nat} {s : State} (hr : Reachable n s) (f : Nat → State) (h0 : f 0 = s) :
    ¬ ∀ i, QStep (f i) (f (i + 1)) := (qdrains n).no_infinite hr f h0

/-- **C11.4: every call returns.** For a thread `t` with the call `p` in flight in a reachable state
`s`: at the end of any maximal quiet run from `s` the call has been answered — `hist` has an entry with
the thread, key, operation and invocation time of `p`. (Along the run the call stays pending until it
is answered: `QRun.pendOrAns`.) -/
theorem every_call_returns {n : Nat} {s s' : State} {k : Nat} (hr : Reachable n s) (h : QRun s k s')
    (hmax : ∀ s'', ¬ QStep s' s'') {t : Nat} {l : Local} {p : Pending} (hl : s.threads[t]? = some l)
    (hp : l.call = some p) : Answered s' t p :=
  answered_of_quiescent (h.reachable hr) ((qdrains n).maximal hr (qrun_iff.1 h) hmax) (h.pendOrAns (.inl ⟨l, hl, hp⟩))

/-- run the quiet steps of the listed threads (`lo = sm = sm2 = false`); `none` if a listed thread is
`idle` or its step is not enabled -/
def runQuiet : State → List Nat → Option State
  | s, [] => some s
  | s, t :: rest =>
    match s.threads[t]? with
    | none => none
    | some l =>
      if l.pc = .idle then none
      else
        match stepQuiet s t false false false with
        | none => none
        | some s' => runQuiet s' rest

theorem runQuiet_qrun : ∀ (sc : List Nat) {s s' : State}, runQuiet s sc = some s' → QRun s sc.length s'
  | [], s, s', h => by
    simp only [runQuiet, Option.some.injEq] at h
    subst h
    exact .nil s
  | t :: rest, s, s', h => by
    unfold runQuiet at h
    cases hl : s.threads[t]? with
    | none => rw [hl] at h; cases h
    | some l =>
      rw [hl] at h
      dsimp only at h
      by_cases hid : l.pc = .idle
      · rw [if_pos hid] at h; cases h
      · rw [if_neg hid] at h
        cases hs : stepQuiet s t false false false with
        | none => rw [hs] at h; cases h
        | some s1 =>
          rw [hs] at h
          exact .cons ⟨t, l, false, false, false, hl, hid, hs⟩ (runQuiet_qrun rest h)

/-- thread 0: `ins 0`, `ins 2`; thread 1 treeifies (`TreeBin` 0); thread 2: `get 0` — holds the read
lock, suspended at `rTree`; thread 0: `rm 2` — **parked at `lrLoop`** (`WAITER` set); thread 1: `ins 4` —
**blocked at `tMutex`**; thread 3 has started the resize, loaded the old cell (`tree 0`) and is
**blocked at `yMutex`**, about to transfer the bin: four threads in flight, three of them waiting. -/
def busySched : Sched :=
  setupLow ++ call 2 0 .get ++ rep 2 5 ++ call 0 2 .rm ++ rep 0 7 ++ call 1 4 (.ins 7 7) ++ rep 1 2 ++
  [{ t := 3, rz := true }] ++ rep 3 1

def busyState : Option State := run step (init 4) busySched

/-- the reader leaves (3 steps); the parked writer takes the write lock and finishes `rm 2` (5 steps);
the resizer takes the mutex and transfers the bin (the old `TreeBin` is re-used in the low cell), 8 steps;
the queued writer takes the mutex, **fails its re-check**, unlocks, follows the marker, locks the same
`TreeBin` again in the new table and inserts (13 steps): 29 quiet steps of non-idle threads -/
def drainSched : List Nat :=
  List.replicate 3 2 ++ List.replicate 5 0 ++ List.replicate 8 3 ++ List.replicate 13 1

theorem busy_facts :
    (decide ((busyState.map fun s =>
        (s.threads.map (·.pc), (List.range 4).map fun t => (act step s { t := t }).isSome)) =
      some ([.lrLoop .old 0 (.remove 3) (.some 6 101), .tMutex .old 0, .rTree 0, .yMutex 0],
        [false, false, true, false])) &&
    decide ((busyState.bind fun s => (runQuiet s drainSched).map fun s' =>
        (quiescentB s', drainSched.length, gmu s, drainBound s, gmu s')) =
      some (true, 29, 78041, 431780, 0)) &&
    decide ((busyState.bind fun s => (runQuiet s drainSched).map fun s' => (s'.cell0, s'.lowCell, s'.cur)) =
      some (.moved, .tree 0, .new)) &&
    decide ((busyState.bind fun s => (runQuiet s drainSched).map fun s' =>
        (s'.hist.take 3).map fun x => (x.1, x.2.tid, x.2.res)) =
      some [(4, 1, .none), (2, 0, .some 6 101), (0, 2, .some 5 100)]) &&
    decide (((List.range 6).map fun k => busyState.bind fun s => (runQuiet s (drainSched.take k)).map gmu) =
      [some 78041, some 78040, some 72838, some 72837, some 67635, some 16353])) = true := by
  decide +kernel

example : (busyState.map fun s => (s.threads.map (·.pc), (List.range 4).map fun t => (act step s { t := t }).isSome)) =
    some ([.lrLoop .old 0 (.remove 3) (.some 6 101), .tMutex .old 0, .rTree 0, .yMutex 0],
      [false, false, true, false]) := by
  have h := busy_facts
  simp only [Bool.and_eq_true, decide_eq_true_eq] at h
  exact h.1.1.1.1

/-- the run drains the lineage: quiescent, all three calls answered, the bin transferred; its length
29 is within `gmu = 78041 ≤ drainBound = 431780` -/
theorem busy_drained : (busyState.bind fun s => (runQuiet s drainSched).map fun s' =>
      (quiescentB s', drainSched.length, gmu s, drainBound s, gmu s')) =
    some (true, 29, 78041, 431780, 0) := by
  have h := busy_facts
  simp only [Bool.and_eq_true, decide_eq_true_eq] at h
  exact h.1.1.1.2

example : (busyState.bind fun s => (runQuiet s drainSched).map fun s' => (s'.cell0, s'.lowCell, s'.cur)) =
    some (.moved, .tree 0, .new) := by
  have h := busy_facts
  simp only [Bool.and_eq_true, decide_eq_true_eq] at h
  exact h.1.1.2

example : (busyState.bind fun s => (runQuiet s drainSched).map fun s' =>
      (s'.hist.take 3).map fun x => (x.1, x.2.tid, x.2.res)) =
    some [(4, 1, .none), (2, 0, .some 6 101), (0, 2, .some 5 100)] := by
  have h := busy_facts
  simp only [Bool.and_eq_true, decide_eq_true_eq] at h
  exact h.1.2

/-- `gmu` along the first steps of that run: strictly decreasing -/
example : ((List.range 6).map fun k => busyState.bind fun s => (runQuiet s (drainSched.take k)).map gmu) =
    [some 78041, some 78040, some 72838, some 72837, some 67635, some 16353] := by
  have h := busy_facts
  simp only [Bool.and_eq_true, decide_eq_true_eq] at h
  exact h.2

/-- the general theorems instantiated at `busyState` -/
example : ∃ s s', busyState = some s ∧ Reachable 4 s ∧ QRun s 29 s' ∧ quiescent s' ∧ 29 ≤ gmu s ∧
    (∀ s'', ¬ QStep s' s'') := by
  obtain ⟨s, hs, h⟩ := Option.bind_eq_some_iff.1 busy_drained
  obtain ⟨s', hs', h⟩ := Option.map_eq_some_iff.1 h
  have hr : Reachable 4 s := run_reachable busySched Reachable.init hs
  have hrun : QRun s 29 s' := runQuiet_qrun drainSched hs'
  have hq : quiescent s' := (quiescentB_iff s').1 (Prod.mk.inj h).1
  have hb := (quiet_run_bounded hr hrun).1
  exact ⟨s, s', hs, hr, hrun, hq, by omega, fun _ => no_qstep_of_quiescent hq⟩

end Flurry.Proto.BinG
