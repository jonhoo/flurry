import Flurry.Lemmas.TableGNL
import Flurry.Lemmas.TableGNLExamples
import Flurry.Props.C11BinGN
import Flurry.Props.C01TableGN
/-! # C11 for `Proto/TableGN`: no reachable state of the whole table is a deadlock — list and tree bins, ANY number
of resizes

> A thread holds at most one bin lock at a time; … a thread that waits for a lock waits for a holder that can itself
> move.

`Proto/TableGN`: `m` lineages of `Proto/BinGN` on one clock; one transition of the table is one `BinGN.step` of one
thread in one lineage (the keys it names translated to their local names), every other lineage ticks; a thread can act
in lineage `i` only while it is `idle` in every other lineage.

* `tableGN_active_idle_elsewhere` — a thread that is not `idle` in lineage `i` of a reachable table is `idle` in every
  other lineage (`tableGN_one_lineage_per_thread` + all lineages have the same number of threads);
* `tableGN_step_is_lineage_step` — hence `TableGN.step` lets it take, in lineage `i`, exactly the steps `BinGN.step`
  lets it take there (the `inLineage` conditions concern invocations and treeify keys only);
* `tableGN_never_stuck_all` / `tableGN_never_stuck` — a table that is not quiescent has a lineage that is not
  quiescent; the witness of `binGN_never_stuck_all` there — a thread that is NOT idle and whose lineage step is enabled
  whatever the scheduler's arguments are — is idle in all other lineages, so its table step is enabled whatever the
  scheduler's arguments are (`TEnabled`).

Proofs: `Lemmas/TableGNL.lean` over `Props/C11BinGN.lean`. -/
namespace Flurry.Proto.TableGNL
open Flurry.Lin Flurry.LinMap Flurry.Proto.TableGN
open Flurry.Proto.TableN (inLineage localInv)

/-- **a thread is inside at most one lineage**: a thread that is not `idle` in lineage `i` of a reachable table — it
has a call in flight there, treeifies a bin of it, or resizes it — is `idle` in every other lineage -/
theorem tableGN_active_idle_elsewhere {m n : Nat} {S : State} (hr : Reachable m n S) {i t : Nat} {b : BinGN.State}
    {l : BinGN.Local} (hb : S.bins[i]? = some b) (hl : b.threads[t]? = some l) (hne : l.pc ≠ .idle)
    {j : Nat} {bj : BinGN.State} (hji : j ≠ i) (hj : S.bins[j]? = some bj) : idleIn bj t = true :=
  idleElse_of_active hr hb hl hne j bj hji hj

/-- **the table does not get in the way**: an enabled lineage step of a thread that is not `idle` in lineage `i` — with
any scheduler arguments; the keys they name (an invoked key, a treeify key: ignored by a thread that is not `idle`)
must be keys of lineage `i` and are handed to the lineage under their local names — is an enabled table step; lineage
`i` makes that step, every other lineage ticks -/
theorem tableGN_step_is_lineage_step {m n : Nat} {S : State} (hr : Reachable m n S) {i t : Nat} {b b' : BinGN.State}
    {l : BinGN.Local} (hb : S.bins[i]? = some b) (hl : b.threads[t]? = some l) (hne : l.pc ≠ .idle)
    {inv : Option (Nat × KOp)} {lo : Bool} {mt : Option Nat} {rz sm sm2 : Bool} {pick : Nat}
    (h1 : inLineage S.bins.length i (inv.map (·.1)) = true) (h2 : inLineage S.bins.length i mt = true)
    (hs : BinGN.step b t (localInv S.bins.length inv) lo (localMt S.bins.length mt) rz sm sm2 pick = some b') :
    step S i t inv lo mt rz sm sm2 pick = some { bins := (S.bins.map tick).set i b' } :=
  step_lift hb (idleElse_of_active hr hb hl hne) h1 h2 hs

/-- `TEnabled` spelled out: the table step of thread `t` in lineage `i` is enabled for every value of the scheduler's
arguments whose keys (if any) are keys of lineage `i` -/
theorem tenabled_iff (S : State) (i t : Nat) : TEnabled S i t ↔
    ∀ (inv : Option (Nat × KOp)) (lo : Bool) (mt : Option Nat) (rz sm sm2 : Bool) (pick : Nat),
      inLineage S.bins.length i (inv.map (·.1)) = true → inLineage S.bins.length i mt = true →
      (step S i t inv lo mt rz sm sm2 pick).isSome = true := Iff.rfl

/-- in particular, with no key named (`inv = none`, `maint = none`), for all `lo rz sm sm2 pick` -/
theorem TEnabled.quiet {S : State} {i t : Nat} (h : TEnabled S i t) (lo rz sm sm2 : Bool) (pick : Nat) :
    (step S i t none lo none rz sm sm2 pick).isSome = true := h none lo none rz sm sm2 pick rfl rfl

/-- an enabled lineage thread that is not `idle` is an enabled table thread -/
theorem tableGN_enabled_lifts {m n : Nat} {S : State} (hr : Reachable m n S) {i t : Nat} {b : BinGN.State}
    {l : BinGN.Local} (hb : S.bins[i]? = some b) (hl : b.threads[t]? = some l) (hne : l.pc ≠ .idle)
    (he : BinGNP.Enabled b t) : TEnabled S i t := tenabled_of_enabled hr hb hl hne he

/-- **C11 for the table, strong form**: in every reachable table state that is not quiescent, some thread that is not
`idle` in some lineage `i` — and therefore `idle` in every other lineage — has a table step in lineage `i` that is
enabled whatever the scheduler's arguments are (the keys they name, if any, being keys of lineage `i`) -/
theorem tableGN_never_stuck_all {m n : Nat} {S : State} (hr : Reachable m n S) (hq : ¬ quiescent S) :
    ∃ (i : Nat) (b : BinGN.State) (t : Nat) (l : BinGN.Local), S.bins[i]? = some b ∧ b.threads[t]? = some l ∧
      l.pc ≠ .idle ∧ (∀ (j : Nat) (bj : BinGN.State), j ≠ i → S.bins[j]? = some bj → idleIn bj t = true) ∧
      TEnabled S i t := never_stuck_aux hr hq

/-- **C11 for the table: no deadlock.** In every reachable table state that is not quiescent, some thread that is NOT
idle in some lineage has an enabled table step there. -/
theorem tableGN_never_stuck {m n : Nat} {S : State} (hr : Reachable m n S) (hq : ¬ quiescent S) :
    ∃ (i : Nat) (b : BinGN.State) (t : Nat) (l : BinGN.Local), S.bins[i]? = some b ∧ b.threads[t]? = some l ∧
      l.pc ≠ .idle ∧ ∃ S', step S i t none false none false false false 0 = some S' ∧ Reachable m n S' := by
  obtain ⟨i, b, t, l, hb, hl, hne, _, he⟩ := never_stuck_aux hr hq
  obtain ⟨S', hs⟩ := Option.isSome_iff_exists.1 (he.quiet false false false false 0)
  exact ⟨i, b, t, l, hb, hl, hne, S', hs, .step i t none false none false false false 0 hr hs⟩

/-- a quiescent table is exactly a table in which no thread is inside a lineage -/
theorem tableGN_quiescent_iff (S : State) :
    quiescent S ↔ ∀ (i : Nat) (b : BinGN.State) (t : Nat) (l : BinGN.Local), S.bins[i]? = some b →
      b.threads[t]? = some l → l.pc = .idle := by
  constructor
  · intro hq i b t l hb hl
    exact hq b (List.mem_of_getElem? hb) l (List.mem_of_getElem? hl)
  · intro h b hb l hl
    obtain ⟨i, hi⟩ := List.mem_iff_getElem?.1 hb
    obtain ⟨t, ht⟩ := List.mem_iff_getElem?.1 hl
    exact h i b t l hi ht

/-! ## non-vacuity (`Lemmas/TableGNLExamples.lean`) -/

/-- `busyState` (thread 0 in the middle of the transfer of the tree bin of lineage 0, holding the mutex of the old
`TreeBin`; thread 1 a reader inside it) is reachable and not quiescent: some thread that is not idle has an enabled
table step -/
example : ∃ S : State, busyState = some S ∧ Reachable 2 2 S ∧ ¬ quiescent S ∧
    ∃ (i : Nat) (b : BinGN.State) (t : Nat) (l : BinGN.Local), S.bins[i]? = some b ∧ b.threads[t]? = some l ∧
      l.pc ≠ .idle ∧ TEnabled S i t := by
  obtain ⟨S, hs, hr, hp, -, -, hb⟩ := example_busy
  have hnq : ¬ quiescent S := by
    intro hq
    cases h0 : S.bins[0]? with
    | none => rw [h0] at hb; cases hb
    | some b =>
      rw [h0] at hb
      simp only [Option.map_some, Option.some.injEq, Prod.mk.injEq] at hb
      have := (tableGN_quiescent_iff S).1 hq 0 b 1 _ h0 hb.1
      cases this
  obtain ⟨i, b, t, l, h1, h2, h3, -, h4⟩ := tableGN_never_stuck_all hr hnq
  exact ⟨S, hs, hr, hnq, i, b, t, l, h1, h2, h3, h4⟩

end Flurry.Proto.TableGNL
