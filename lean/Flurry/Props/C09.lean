import Flurry.SigDefs
import Flurry.Gen.Guards
/-! # C09 — every guard-taking operation rejects guards of a foreign collector

`Flurry.Gen.guardFns` is regenerated from /repo/src on every run: one row per function of
`HashMap`, `HashSet`, `HashMapRef`, `HashSetRef` (and their trait impls) and per guard it has in
scope, with the ordered list of what it does with that guard. -/
namespace Flurry.C09
open Flurry.Sig Flurry.Gen

/-- call depth bound: the number of rows -/
def fuel : Nat := guardFns.length

/-- the public rows: `pub fn`s and trait-impl methods -/
def publicRows : List GFn := guardFns.filter (·.pub)

/-- **table theorem**: every public function, for every guard it has in scope, is `Checked`:
before any use of that guard other than passing it on, `check_guard` has run — in the function
itself or in every callee the guard is handed to. -/
theorem all_public_guarded : publicRows.all (checkedB guardFns fuel) = true := by decide +kernel

/-- **the check itself rejects in every build profile**: the body of every `check_guard` is an
unconditional `assert!(Collector::ptr_eq(..))` (not `debug_assert!`, not under `cfg`), or a call of
another `check_guard`; and there is at least one (the map's). -/
theorem check_guard_unconditional :
    checkGuardBodies.all (·.2) = true ∧ checkGuardBodies.any (·.1 == "HashMap") = true := by decide +kernel

/-- one level: if every callee that is `Checked` runs without a foreign use, so do the uses -/
theorem checkedUsesWith_sound (ck : Nat → Bool) (run : Nat → List GEv × Bool)
    (hc : ∀ i, ck i = true → ((run i).1.all (fun e => !isForeign e)) = true) :
    ∀ us, checkedUsesWith ck us = true →
      ((runUsesWith run us).1.all (fun e => !isForeign e)) = true := by
  intro us
  induction us with
  | nil => intro _; simp [runUsesWith]
  | cons u rest ih =>
    intro h
    cases u with
    | check => simp [runUsesWith, isForeign]
    | store => simpa [runUsesWith, checkedUsesWith] using ih (by simpa [checkedUsesWith] using h)
    | raw w => simp [checkedUsesWith] at h
    | call row name =>
      simp only [checkedUsesWith, Bool.and_eq_true] at h
      obtain ⟨h1, h2⟩ := h
      have e1 := hc row h1
      have e2 := ih h2
      simp only [runUsesWith]
      split
      · exact e1
      · simp only [List.all_append, Bool.and_eq_true]; exact ⟨e1, e2⟩

/-- general lemma: in the call semantics of `SigDefs`, running a `Checked` row with a foreign
guard produces no foreign use of the guard: it either panics first or never touches the map
through that guard. -/
theorem checkedRow_sound (tbl : List GFn) :
    ∀ (fuel i : Nat), checkedRow tbl fuel i = true →
      ((runRow tbl fuel i).1.all (fun e => !isForeign e)) = true := by
  intro fuel
  induction fuel with
  | zero => intro i h; simp [checkedRow] at h
  | succ n ih =>
    intro i h
    simp only [checkedRow] at h
    simp only [runRow]
    cases hl : tbl[i]? with
    | none => simp [hl] at h
    | some r =>
      simp only [hl] at h ⊢
      exact checkedUsesWith_sound _ _ (fun j hj => ih j hj) r.uses h

theorem checked_sound (tbl : List GFn) (fuel : Nat) (r : GFn) (h : checkedB tbl fuel r = true) :
    ((runFn tbl fuel r).1.all (fun e => !isForeign e)) = true :=
  checkedUsesWith_sound _ _ (fun j hj => checkedRow_sound tbl fuel j hj) r.uses h

/-- what C09 says, for the extracted table: calling any public guard-taking function with a
foreign guard never uses that guard on the map. -/
theorem no_foreign_use (r : GFn) (hr : r ∈ publicRows) :
    ((runFn guardFns fuel r).1.all (fun e => !isForeign e)) = true :=
  checked_sound guardFns fuel r (List.all_eq_true.1 all_public_guarded r hr)

/-- … and a function that reads through the guard panics (the statement is not vacuous):
`HashMap::get` run with a foreign guard yields exactly one event, the panic. -/
example : (runRow guardFns fuel row_HashMap_get_guard).2 = true := by decide +kernel
example : (runRow guardFns fuel row_HashMap_try_insert_guard).2 = true := by decide +kernel
example : (runRow guardFns fuel row_HashMap_clear_guard).2 = true := by decide +kernel
example : (runRow guardFns fuel row_HashSetRef_clear_self_guard).2 = true := by decide +kernel

-- the table is not empty
example : 60 ≤ publicRows.length := by decide +kernel

end Flurry.C09
