import Flurry.Lemmas.BinGNLive
import Flurry.Lemmas.BinGNOwn
import Flurry.Lemmas.BinGNQuiet
import Flurry.Lemmas.BinGNInvDefs
import Flurry.Lemmas.BinGNExamples
/-! # C01 / C05 / C07 / C08 / C10 (bin level): one bin lineage with list AND tree bins through ANY NUMBER of
successive resizes — the model, its validation by execution, and the generation / lock invariant

`Proto/BinGN.lean` is the union of `Proto/BinG` (per cell: empty / list bin / tree bin / forwarding marker;
treeify, untreeify, tree writers with the bin mutex + write lock + WAITER / park, lock-protocol readers, list
readers and iterators; the transfer of an empty cell (CAS of the marker), of a list bin (split with the re-used
last run) and of a tree bin (per side: nothing / a plain list of fresh nodes / the OLD `TreeBin` object re-used
when the other side is empty / a fresh `TreeBin`)) and of `Proto/BinN` (generations `0, 1, 2, …`; the cells of
generation `g` are `(g, j)`, `j < 2^g`; one resizing thread per generation, the cells in any order, commit when
all are forwarded; a thread may hold a pointer to a table that is arbitrarily many generations old and follows
marker after marker). One transition = one shared-memory access; any number of threads; every interleaving.

**What is proved here** (for every reachable state, any number of threads, any number of resizes):
* the *generation structure* (`GenInv`; its shape half `ShapeInv` by `Lemmas/BinGNGen*.lean`): generations do not
  overlap, old generations are forwarded for ever, cells of the generation being filled are never forwarded, a lookup follows at most one
  marker from `cur`, *a thread that follows the markers and finds a cell that is not forwarded has reached the
  live cell of its key, whatever the age of its table pointer*; the resizing thread commits only when every
  cell is forwarded; every `TreeBin` a cell refers to exists;
* the *bin locks of both kinds*: the node lock of a list bin and the mutex of a `TreeBin` match the program
  counters; a thread past its re-check (list writer, tree writer, treeify, the transfer of a list bin, the
  transfer of a tree bin — also of a `TreeBin` that earlier transfers re-used) still sees its structure in its
  cell; at most one thread is validated on a cell, in every generation (`validated_mutex`); this half of `GenInv` is
  what the lock part of `BinGNP.Inv` says, in the vocabulary of `desc` (`BinGNP.geninv_of`, `Lemmas/BinGNPShape.lean`);
* *ownership* (`OwnInv`, `Lemmas/BinGNOwn.lean`): a node lock / `TreeBin` mutex that is taken is taken by a thread
  whose program counter holds it; while `resizing` is set there is a resizing thread. Hence in a *quiescent*
  state no resize is half done (the tables are exactly the generations `0 … cur`, no forwarding marker in
  generation `cur`, every lookup ends there) and nothing is left locked (`quiescent_shape`);
* the *read-write lock of a `TreeBin`* (`RwInv`, `Lemmas/BinGNOwn.lean`): the reader count of every `TreeBin` is
  the number of threads between `rCas` and `rRelease` on it, it is zero while the write bit is set, and a tree
  writer in its locked section has the write bit of its bin set — so it excludes every lock-protocol reader
  from the tree of its bin, in every generation, also for a re-used `TreeBin` (`writer_excludes_tree_readers`);
* *threads, calls and times* (`TInv`, `Lemmas/BinGNOwn.lean`): a thread has a call in flight iff its program
  counter is a reader's or a writer's, read operations go with reader program counters, the history is
  well-timed and all invocation stamps are pairwise distinct (`threads_and_times`);
* the cells of the generation being filled are `empty` until the transfer of their parent stores them
  (`next_generation_empty_until_transferred`);
* two special cases of `transfer_abs_invariant` (`Props/C01BinGNLin.lean`, every step of the resizing thread): starting a
  resize, choosing and loading a cell, the CAS of the forwarding marker into an EMPTY cell, locking / re-checking /
  unlocking a list bin or a tree bin, and the commit change the abstract state of no key
  (`transfer_quiet_steps_abs_invariant`, `alloc_commit_abs_invariant`);
* the re-checks are load-bearing across any number of forwardings, also inside tree bins (`noCheck_refutes`);
* kernel-checked runs: a `TreeBin` re-used by the first resize and re-used AGAIN by the second, with a writer
  queued on its mutex and a reader holding its read lock across both; a reader and a writer inside a `TreeBin`
  that is two generations old (`example_runs_linearizable`).

**Proved elsewhere, on top of this file:** the structural invariant `BinGNP.Inv` (chains, `side` = `key % 2^g = j`,
`CopyOK` of the planned children, synchronisation words, walks, tree = list; `binGN_inv`), the linearizability theorems
`binGN_linearizable_quiescent : Reachable n s → quiescent s → Linearizable (callsOn s k) none (absOf s k)` and
`binGN_linearizable`, `transfer_abs_invariant` for every step of the resizing thread and `quiescent_tree_eq_list` are in
`Props/C01BinGNLin.lean`. `GenInv` and `BinGNP.Inv` are established in one induction (`BinGNP.reachable_bundle`), so the
theorems of this file rest on that invariant too. `Lemmas/BinGNInvDefs.lean` restates `BinGNP.Inv` with cells spelt
`(g, j)` as `BinGN.Inv`; its Boolean mirror `Lemmas/BinGNInvCheck.lean` is evaluated after every step of 6 400 random
schedules (10^6 states, never violated; violated within 100 runs by `stepNoCheck`).

**Validation by execution** (`Lemmas/BinGNExamples.lean`): 62 000 random schedules of `step` (2, 3 and 4 threads, 250–450 random steps + drain, up to 14 calls
on 6 keys, up to 5 treeify starts, up to 3 resizes, sleepers woken in generation 2 / 3), every run drained to
quiescence, every per-key history (up to 9 calls) decided linearizable by the complete procedure `Lin.search`;
all 63 program-counter tags reached; 118 000 tree-bin transfers, all nine combinations of per-side outcomes
(empty / small list / re-used `TreeBin` / fresh `TreeBin`) reached in generations 0, 1 AND 2 (the rarest 248
times); a `TreeBin` re-used by two successive transfers 7 700 times; readers inside a `TreeBin` while the table
pointer is two generations ahead 750 times (68 of them inside a bin that is still live because it was re-used),
stale tree writers (`tMutex` / `tCheck` two generations behind) 560 times, 123 000 failed re-checks. With
`stepNoCheck` a non-linearizable run is found within 300 runs. -/
namespace Flurry.Proto.BinGN
open Flurry.Lin

/-- the generation / lock invariant holds in every reachable state -/
theorem reachable_gen_inv {n : Nat} {s : State} (hr : Reachable n s) : GenInv s := reachable_geninv hr

/-- **generations do not overlap**: the tables are the generations `0 … cur`, plus generation `cur + 1`
exactly while a resize runs; generation `g` has `2^g` cells; at most one thread is resizing, and only while
`resizing` is set -/
theorem generations_do_not_overlap {n : Nat} {s : State} (hr : Reachable n s) :
    s.tabs.length = s.cur + 1 + (if s.resizing then 1 else 0) ∧
    (∀ g row, s.tabs[g]? = some row → row.length = 2 ^ g) ∧
    (∀ (t t' : Nat) (l l' : Local), s.threads[t]? = some l → s.threads[t']? = some l' →
      (desc s.cur l).isX = true → (desc s.cur l').isX = true → t = t') ∧
    (∀ (t : Nat) (l : Local), s.threads[t]? = some l → (desc s.cur l).isX = true → s.resizing = true) :=
  let I := reachable_geninv hr
  ⟨I.len, I.rows, I.uniqX, fun t l hl => (I.thr t l hl).tres⟩

/-- **old generations are forwarded**: every cell of a generation older than `cur` is `moved`, for ever -/
theorem old_generations_forwarded {n : Nat} {s : State} (hr : Reachable n s) {g j : Nat} (hg : g < s.cur)
    (hj : j < 2 ^ g) : cellAt s g j = .moved :=
  (reachable_geninv hr).old g j hg hj

/-- no cell of the generation that is being filled is forwarded; a forwarding marker in generation `cur`
exists only while a resize runs -/
theorem next_generation_not_forwarded {n : Nat} {s : State} (hr : Reachable n s) :
    (∀ j, cellAt s (s.cur + 1) j ≠ .moved) ∧ (∀ j, cellAt s s.cur j = .moved → s.resizing = true) :=
  ⟨(reachable_geninv hr).nextOK, (reachable_geninv hr).curMoved⟩

/-- a lookup that starts now follows at most one forwarding marker -/
theorem liveCell_one_hop {n : Nat} {s : State} (hr : Reachable n s) (k : Nat) :
    liveCell s k = if cellOf s s.cur k = .moved then cellOf s (s.cur + 1) k else cellOf s s.cur k :=
  (reachable_geninv hr).liveCell_eq k

/-- the generation a reader, writer or treeify works in (for key `k`) is at most `cur + 1`, and it is
`cur + 1` only behind a forwarding marker of `k` in generation `cur` that is still there -/
theorem thread_generation {n : Nat} {s : State} (hr : Reachable n s) {t : Nat} {l : Local} {g k : Nat}
    (hl : s.threads[t]? = some l) (hg : (desc s.cur l).gen = some (g, k)) :
    g ≤ s.cur + 1 ∧ (g = s.cur + 1 → cellOf s s.cur k = .moved) :=
  ((reachable_geninv hr).thr t l hl).gen g k hg

/-- **follow the markers until a live cell**: a reader, writer or treeify that works in generation `g` —
however old the table pointer it once loaded — and sees a cell of its key that is not forwarded has reached
the cell in which a lookup started now would end; in an older generation it can only see `moved` -/
theorem follow_markers_until_live {n : Nat} {s : State} (hr : Reachable n s) {t : Nat} {l : Local} {g k : Nat}
    (hl : s.threads[t]? = some l) (hg : (desc s.cur l).gen = some (g, k)) :
    (cellOf s g k ≠ .moved → liveCell s k = cellOf s g k) ∧ (g < s.cur → cellOf s g k = .moved) :=
  ⟨(reachable_geninv hr).live_of_gen hl hg, fun h => (reachable_geninv hr).stale_sees_moved h _⟩

/-- **node locks match program counters**: a thread whose program counter says it holds the lock of node `h`
(a list writer, treeify, the transfer of a list bin) is the owner recorded in the node -/
theorem node_lock_owner {n : Nat} {s : State} (hr : Reachable n s) {t : Nat} {l : Local} {h : Nat}
    (hl : s.threads[t]? = some l) (hh : (desc s.cur l).holdN = some h) :
    h < s.heap.length ∧ lockAt s.heap h = some t :=
  ((reachable_geninv hr).thr t l hl).heldN h hh

/-- **`TreeBin` mutexes match program counters**: a thread whose program counter says it holds the mutex of
bin `b` (a tree writer, the transfer of a tree bin — from `yCheck` until after the forwarding marker is stored,
also when `b` itself goes to the new table) is the owner recorded in the bin -/
theorem bin_mutex_owner {n : Nat} {s : State} (hr : Reachable n s) {t : Nat} {l : Local} {b : Nat}
    (hl : s.threads[t]? = some l) (hh : (desc s.cur l).holdM = some b) :
    b < s.tbins.length ∧ mutexAt s.tbins b = some t :=
  ((reachable_geninv hr).thr t l hl).heldM b hh

/-- a validated lock holder (a writer between its re-check and its store, treeify from `kBuild` to `kStore`,
the resizing thread from `xBuild` / `yBuild` to the store of the forwarding marker) still sees its structure
in its cell, and holds the lock that goes with it -/
theorem validated_structure {n : Nat} {s : State} (hr : Reachable n s) {t : Nat} {l : Local} {g j : Nat} {c : Cell}
    (hl : s.threads[t]? = some l) (hv : (desc s.cur l).valid = some (g, j, c)) :
    cellAt s g j = c ∧ ((∃ h, c = .list h ∧ (desc s.cur l).holdN = some h) ∨
      (∃ b, c = .tree b ∧ (desc s.cur l).holdM = some b)) :=
  ((reachable_geninv hr).thr t l hl).valid g j c hv

/-- **mutual exclusion**: at most one thread holds a validated lock on a cell — in particular a writer (list
or tree form), a treeify and the transfer of the same cell exclude each other, in every generation -/
theorem validated_mutex {n : Nat} {s : State} (hr : Reachable n s) {t t1 : Nat} {l l1 : Local} {g j : Nat}
    {c c1 : Cell} (hl : s.threads[t]? = some l) (hl1 : s.threads[t1]? = some l1)
    (hv : (desc s.cur l).valid = some (g, j, c)) (hv1 : (desc s.cur l1).valid = some (g, j, c1)) : t = t1 :=
  (reachable_geninv hr).mutex hl hl1 hv hv1

/-- **a validated writer works in the live cell of its key**: a list writer, tree writer or treeify past its
re-check (in whatever generation it is, from however old a table pointer it started) sees, in its cell, exactly
the structure in which a lookup of its key started now would end — stale threads can never write -/
theorem validated_writer_in_live_cell {n : Nat} {s : State} (hr : Reachable n s) {t : Nat} {l : Local} {g j : Nat}
    {c : Cell} (hl : s.threads[t]? = some l) (hv : (desc s.cur l).valid = some (g, j, c))
    (hX : (desc s.cur l).isX = false) :
    ∃ k, (desc s.cur l).gen = some (g, k) ∧ j = k % 2 ^ g ∧ liveCell s k = c ∧ c ≠ .moved := by
  have I := reachable_geninv hr
  obtain ⟨k, hg, hj⟩ := valid_writer hv hX
  obtain ⟨hc, hh⟩ := (I.thr t l hl).valid g j c hv
  have hnm : c ≠ .moved := by
    rcases hh with ⟨h, rfl, -⟩ | ⟨b, rfl, -⟩ <;> simp
  have hc' : cellOf s g k = c := by rw [← hc, hj]; rfl
  exact ⟨k, hg, hj, by rw [I.live_of_gen hl hg (by rw [hc']; exact hnm), hc'], hnm⟩

/-- the resizing thread commits only when every cell of generation `cur` is forwarded -/
theorem commit_only_when_all_forwarded {n : Nat} {s : State} (hr : Reachable n s) {t : Nat} {c : Option Pending}
    (hl : s.threads[t]? = some { pc := .xCommit, call := c }) : ∀ j, j < 2 ^ s.cur → cellAt s s.cur j = .moved :=
  ((reachable_geninv hr).thr t _ hl).commit rfl

/-- every `TreeBin` a cell (of any generation) refers to exists; the cells a transfer has planned are not
forwarding markers and refer to existing `TreeBin`s -/
theorem tree_bins_exist {n : Nat} {s : State} (hr : Reachable n s) :
    (∀ g j b, cellAt s g j = .tree b → b < s.tbins.length) ∧
    ∀ (t : Nat) (l : Local), s.threads[t]? = some l → ∀ c ∈ (desc s.cur l).plan,
      c ≠ .moved ∧ ∀ b, c = .tree b → b < s.tbins.length :=
  ⟨(reachable_geninv hr).bins, fun t l hl => ((reachable_geninv hr).thr t l hl).plan⟩

/-- **allocation and publication of a generation have no abstract effect** (a special case of
`transfer_abs_invariant`, `Props/C01BinGNLin.lean`): starting a resize (allocating generation
`cur + 1`) and committing (`cur := cur + 1`) change the abstract state of no key -/
theorem alloc_commit_abs_invariant {n : Nat} {s s' : State} (hr : Reachable n s) {t : Nat} {l : Local}
    {inv : Option (Nat × KOp)} {lo : Bool} {mt : Option Nat} {rz sm sm2 : Bool} {pick : Nat}
    (hl : s.threads[t]? = some l) (hpc : (l.pc = .idle ∧ rz = true) ∨ l.pc = .xCommit)
    (hs : step s t inv lo mt rz sm sm2 pick = some s') (k : Nat) : absOf s' k = absOf s k :=
  BinGNP.nocall_abs_invariant hr hl
    (((reachable_tinv hr).callOK t l hl).2 (by rcases hpc with ⟨h, -⟩ | h <;> rw [h] <;> rfl)) hs k

/-- **cells of the generation being filled are empty until the transfer of their parent stores them**: a cell
`(cur + 1, j')` that is not `empty` has a forwarded parent `(cur, j' % 2^cur)`, or is a child that the resizing
thread has just stored (it is at `xStoreHigh j'` / `xStoreMoved j'`, or at `xStoreMoved j` with `j' = j + 2^cur`) -/
theorem next_generation_empty_until_transferred {n : Nat} {s : State} (hr : Reachable n s) : NextEmpty s :=
  reachable_nextEmpty hr

/-- **the steps of a transfer between the cells and around the locks have no abstract effect** (a special case of
`transfer_abs_invariant`, `Props/C01BinGNLin.lean`, which also covers the split and the three stores): starting a resize (allocation of generation `cur + 1`), `xNext`, loading a cell, the CAS `empty → moved` (the live
cell of every key of the cell switches to an — empty — child), taking / re-checking / releasing the lock of a list
bin or the mutex of a tree bin, and the commit `cur := cur + 1` leave the abstract state of every key as it was. -/
theorem transfer_quiet_steps_abs_invariant {n : Nat} {s s' : State} (hr : Reachable n s) {t : Nat} {l : Local}
    {inv : Option (Nat × KOp)} {lo : Bool} {mt : Option Nat} {rz sm sm2 : Bool} {pick : Nat}
    (hl : s.threads[t]? = some l) (hpc : quietX l.pc = true ∨ (l.pc = .idle ∧ rz = true))
    (hs : step s t inv lo mt rz sm sm2 pick = some s') (k : Nat) : absOf s' k = absOf s k :=
  BinGNP.nocall_abs_invariant hr hl
    (((reachable_tinv hr).callOK t l hl).2 (by rcases hpc with h | ⟨h, -⟩; exact quietX_nocall h; rw [h]; rfl)) hs k

/-- **C05 at quiescence (shape and locks)**: in a reachable quiescent state no resize is half done — `resizing` is
clear, the tables are exactly the generations `0 … cur`, generation `cur` holds no forwarding marker and every
lookup ends there (all-or-nothing resize) — and nothing is left locked: no node lock and no `TreeBin` mutex is
taken -/
theorem quiescent_shape {n : Nat} {s : State} (hr : Reachable n s) (hq : quiescent s) :
    s.resizing = false ∧ s.tabs.length = s.cur + 1 ∧ (∀ j, cellAt s s.cur j ≠ .moved) ∧
    (∀ k, liveCell s k = cellOf s s.cur k) ∧ (∀ h, lockAt s.heap h = none) ∧ (∀ b, mutexAt s.tbins b = none) :=
  quiescent_shape_aux hr hq

/-- every lock word has an owner whose program counter says so (the converse of `node_lock_owner` /
`bin_mutex_owner`), and while `resizing` is set some thread is resizing -/
theorem lock_words_have_owners {n : Nat} {s : State} (hr : Reachable n s) :
    (∀ h x, lockAt s.heap h = some x → ∃ l : Local, s.threads[x]? = some l ∧ (desc s.cur l).holdN = some h) ∧
    (∀ b x, mutexAt s.tbins b = some x → ∃ l : Local, s.threads[x]? = some l ∧ (desc s.cur l).holdM = some b) ∧
    (s.resizing = true → ∃ (t : Nat) (l : Local), s.threads[t]? = some l ∧ (desc s.cur l).isX = true) := by
  have O := reachable_owninv hr
  refine ⟨fun h x hx => ?_, fun b x hx => ?_, fun hres => ?_⟩
  · obtain ⟨l, a, c⟩ := O.ownN h x hx; exact ⟨l, a, (desc_holds_indep _ l).1.trans c⟩
  · obtain ⟨l, a, c⟩ := O.ownM b x hx; exact ⟨l, a, (desc_holds_indep _ l).2.1.trans c⟩
  · obtain ⟨t, l, a, c⟩ := O.resX hres; exact ⟨t, l, a, (desc_holds_indep _ l).2.2.trans c⟩

/-- **the read-write lock of a `TreeBin`**: every `TreeBin` a reader refers to exists; its reader count is the
number of threads that hold a read lock on it; while its write bit is set the reader count is zero; a tree
writer in its locked section has the write bit of its bin set -/
theorem tree_bin_rwlock {n : Nat} {s : State} (hr : Reachable n s) : RwInv s := reachable_rwinv hr

/-- **C06 / C07, any number of resizes: a tree writer in its locked section (`tPrependLocked` … `tUntreeify` on
bin `b`) excludes every lock-protocol reader from the tree of `b`** (no thread is at `rTree b` / `rRelease b`) —
whatever the generations the two threads started in, also when `b` has been re-used by transfers -/
theorem writer_excludes_tree_readers {n : Nat} {s : State} (hr : Reachable n s) {t t1 : Nat} {l l1 : Local}
    {b : Nat} (hl : s.threads[t]? = some l) (hw : wrSec l.pc = some b) (hl1 : s.threads[t1]? = some l1) :
    holdsRead l1.pc ≠ some b :=
  writer_excludes_readers_aux hr hl hw hl1

/-- **threads, calls and times**: a thread has a call in flight iff its program counter is a reader's or a
writer's (idle, treeify and resizing threads have none); read operations go with reader program counters; every
completed call has `inv ≤ resp ≤ now`, every pending call was invoked in the past, and all invocation stamps —
completed and pending — are pairwise distinct (so the per-key histories `callsOn s k` are well-formed) -/
theorem threads_and_times {n : Nat} {s : State} (hr : Reachable n s) : TInv s := reachable_tinv hr

/-- the clauses of `BinGN.Inv` (`Lemmas/BinGNInvDefs.lean`) that are stated in the vocabulary of `desc`. Its other clauses
(`HInv`, `PlanInv`, `BitsInv`, `DInv`) restate `BinGNP.Inv`, which holds in every reachable state (`binGN_inv`,
`Props/C01BinGNLin.lean`). -/
theorem structural_invariant_proved_part {n : Nat} {s : State} (hr : Reachable n s) :
    GenInv s ∧ OwnInv s ∧ RwInv s ∧ TInv s ∧ NextEmpty s := reachable_inv_proved_part hr

/-! ## validation by execution (see `Lemmas/BinGNExamples.lean`) -/

/-- the two kernel-checked runs of the checked model (the `TreeBin` that is re-used twice; the reader and the
writer inside a `TreeBin` that is two generations old) are reachable quiescent states in generation 2 whose
histories are linearizable for the keys `0 … 5` (complete decision procedure, kernel-checked) -/
theorem example_runs_linearizable :
    ∀ sc ∈ [schedReuse2, schedStale2], ∃ s, run step (init 4) sc = some s ∧ Reachable 4 s ∧
      quiescent s ∧ s.cur = 2 ∧ ∀ k, k < 6 → Linearizable (callsOn s k) none (absOf s k) :=
  runs_linearizable

/-- **the re-checks of the cell are load-bearing across any number of forwardings, also inside tree bins**: if
writers, treeify and transfer trust the lock they took (`stepNoCheck`), some reachable quiescent state (after two
complete resizes) has a history that is not linearizable (a completed insert is lost in a `TreeBin` that died
two generations ago) -/
theorem noCheck_refutes :
    ∃ (n : Nat) (s : State) (k : Nat), ReachableNoCheck n s ∧ quiescent s ∧
      ¬ Lin.Linearizable (callsOn s k) none (absOf s k) :=
  noCheck_refutes_aux

end Flurry.Proto.BinGN
