import Flurry.Lemmas.Lin
/-! # C01 — single-key operations are linearizable under every interleaving

What is machine-checked here:

* the sequential specification of one key (`Lin.specStep`) and the definition of
  `Linearizable` (by locality, per key);
* the decision procedure applied to every invocation/response history recorded from the real
  implementation under the deterministic scheduler is *sound and complete* for that definition:
  a certificate accepted by `Lin.validate` proves `Linearizable`, and `Lin.search` finds a
  certificate iff one exists — so "the Lean checker answered not-linearizable" is a proof that the
  recorded history violates C01, and "ok" a proof that it does not;
* the generic linearization-point lemma `lin_of_points`, and the consequences of the
  specification the property text names (no lost / duplicated / resurrected update).

That every execution yields a linearizable history is proved for small-step models of the bins and
of the table, under every interleaving (the `Props/C01Bin*.lean` and `Props/C01Table*.lean` files). For the real
implementation the quantifier "for all interleavings" is covered by schedule exploration only,
which is testing, not proof; see `c01_statement`. -/
namespace Flurry.C01
open Flurry.Lin

/-- the full statement, for an abstract execution model: a function from schedules to the
per-key history they produce. C01 says every such history is linearizable from the key's
initial state to its final state. -/
def c01_statement (Schedule : Type) (historyOf : Schedule → History) (initOf finOf : Schedule → KSt) : Prop :=
  ∀ σ : Schedule, Linearizable (historyOf σ) (initOf σ) (finOf σ)

/-- an accepted certificate proves linearizability -/
theorem certificate_sound {h : History} {order : List Nat} {init fin : KSt}
    (hv : validate h order init fin = true) : Linearizable h init fin := validate_sound hv

/-- the search is a decision procedure: it finds a witness iff the history is linearizable -/
theorem decision_correct {h : History} {init fin : KSt} :
    (search h init fin).isSome = true ↔ Linearizable h init fin := search_isSome_iff

theorem not_linearizable_iff {h : History} {init fin : KSt} :
    search h init fin = none ↔ ¬ Linearizable h init fin := search_eq_none_iff

/-- linearization points: if every call can be given a point inside its interval such that
replaying the calls in point order is a legal sequential execution with the observed results,
the history is linearizable -/
theorem linearization_points {h : History} {init fin : KSt} (pt : Nat → Nat)
    (hpt : ∀ i (hi : i < h.length), h[i].inv ≤ pt i ∧ pt i ≤ h[i].resp)
    (hinj : ∀ i j, i < h.length → j < h.length → pt i = pt j → i = j)
    (hrep : replay h (pointOrder h pt) init = some fin) : Linearizable h init fin :=
  lin_of_points_sorted pt hpt hinj hrep

/-- "no completed update is lost, duplicated or resurrected", at the level of the specification
every linearizable history replays through: an absent key stays absent unless inserted -/
theorem no_resurrection {op : KOp} (hop : (specStep none op).1 ≠ none) :
    (∃ v vi, op = .ins v vi) ∨ (∃ v vi, op = .tryIns v vi) := spec_absent_stays hop

/-- reads do not change anything -/
theorem reads_pure (st : KSt) : (specStep st .get).1 = st ∧ (specStep st .has).1 = st := ⟨rfl, rfl⟩

theorem insert_then_read (st : KSt) (v vi : Nat) :
    (specStep (specStep st (.ins v vi)).1 .get).2 = .some v vi := rfl

theorem remove_then_read (st : KSt) :
    (specStep (specStep st .rm).1 .get).2 = .none ∧ (specStep (specStep st .rm).1 .has).2 = .bool false :=
  ⟨rfl, rfl⟩

/-- the final `get` of every key after all threads joined can be appended to the history -/
theorem final_read {h : History} {init fin : KSt} {c : Call}
    (hl : Linearizable h init fin) (hop : c.op = .get) (hres : c.res = resOf fin)
    (hafter : ∀ d ∈ h, d.resp < c.inv) (hwf : ∀ d ∈ h, d.inv ≤ d.resp) (hc : c.inv ≤ c.resp) :
    Linearizable (h ++ [c]) init fin := lin_final_read hl hop hres hafter hwf hc

-- non-vacuity: a concurrent history with an overlapping read that is linearizable, and one that is not
example : Linearizable [⟨0, .ins 1 10, .none, 0, 3⟩, ⟨1, .get, .some 1 10, 1, 2⟩, ⟨1, .rm, .some 1 10, 4, 5⟩] none none := by decide
example : ¬ Linearizable [⟨0, .get, .some 1 10, 0, 1⟩, ⟨1, .ins 1 10, .none, 2, 3⟩] none (some (1, 10)) := by decide

end Flurry.C01
