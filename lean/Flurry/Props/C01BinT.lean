import Flurry.Proto.BinT
import Flurry.Lemmas.LinSearch
import Flurry.Lemmas.BinTLin
import Flurry.Gen.Atomics
/-! # C01 (tree-bin level), `Proto/BinT`: the original removal order (`stepOld`) is **not** linearizable — a
machine-checked counterexample (finding F8); the repaired order (`step`) is linearizable under every interleaving
(second half of the file)

The statement

    theorem bint_linearizable_quiescent (hr : Reachable n s) (hq : quiescent s) (k : Nat) :
        Lin.Linearizable (callsOn s k) none (absOf s k)

proved below for `step` / `Reachable`, is **false** for the original removal order `stepOld` / `ReachableOld` of
`Proto/BinT` (faithful to the code before the repair of F8: `TreeBin::find` / `TreeBin::remove_tree_node` in
`src/node.rs` on this point). `cexSchedule` is a 41-step schedule of
three threads that ends in a quiescent state whose history on key `1` is

    ins 1        [ 1,  6] → none          (thread 0)
    get 1        [13, 30] → none          (thread 1, "R1")
    get 1        [31, 37] → some (10,100) (thread 2, "R2", invoked after R1 returned)
    rm  1        [25, 41] → some (10,100) (thread 0, "W2")

R1 answers "absent", so the removal has to be ordered before R1; R2 starts after R1 has returned and
answers "present", and there is no second insert: no legal order exists.

The window. A reader of a tree bin looks at `lock_state` for every list element and, if a writer
holds or waits for the tree lock, takes a *linear* step: compare the key of the element, load its
`next`. These are separate memory accesses (`rState`, then `rLin`), so the decision "linear" can be
**stale**:

1. R1 (`get 1`) stands on list element `1` and reads `lock_state` while W1 (an insert of key `2` that
   rebalances) holds the write lock: R1 decides to take a linear step (`rLin 1`) — and is preempted.
2. W1 finishes (`unlock_root`, mutex released). W2 (`rm 1`) takes the mutex, finds node `0` (key `1`)
   and **unlinks it from the list** (`node 1 .next := none`) — it has not yet called `lock_root`, so
   `lock_state = 0` and node `0` is still in the tree.
3. R1 resumes its linear step: key of element `1` is `0 ≠ 1`, `next = none`: R1 returns **absent**.
4. R2 (`get 1`) is invoked, sees `lock_state = 0`, takes the read lock, searches the *tree*, finds
   node `0`, and returns **present** (value `(10, 100)`).
5. W2 goes on: `lock_root`, tree removal, `unlock_root`, unlock, returns `some (10, 100)`.

Between the list unlink and `lock_root` of a removal the two views of the bin disagree (the list
misses the node, the tree has it); readers are meant to be on the tree side of this window (no
writer/waiter bit is set), but a reader whose "linear" decision dates from the *previous* writer is on
the list side. Everything is sequentially consistent; the anomaly needs R1 to be descheduled between
two adjacent loads for a whole writer hand-over, and W2 to be descheduled between its unlink and its
`lock_root` for a whole `get`.

`bint_not_linearizable` is proved by kernel evaluation (`decide +kernel`) of the schedule and of the
(sound and complete, `Lin.search_eq_none_iff`) linearizability checker. -/
namespace Flurry.Proto.BinT
open Flurry.Lin Flurry.Shared Flurry.GhostView

/-- run a schedule of `(thread, invocation, bal)` triples; `none` if some step is not enabled -/
def run (s : State) : List (Nat × Option (Nat × KOp) × Bool) → Option State
  | [] => some s
  | (t, inv, bal) :: rest =>
    match stepOld s t inv bal with
    | some s' => run s' rest
    | none => none

theorem run_reachable {n : Nat} : ∀ (sched : List (Nat × Option (Nat × KOp) × Bool)) {s s' : State},
    ReachableOld n s → run s sched = some s' → ReachableOld n s'
  | [], s, s', hr, h => by
    simp only [run, Option.some.injEq] at h
    exact h ▸ hr
  | (t, inv, bal) :: rest, s, s', hr, h => by
    simp only [run] at h
    cases hs : stepOld s t inv bal with
    | none => rw [hs] at h; cases h
    | some s1 =>
      rw [hs] at h
      exact run_reachable rest (ReachableOld.step t inv bal hr hs) h

/-- a step of thread `t` that is not an invocation (`bal = false`) -/
abbrev go (t : Nat) : Nat × Option (Nat × KOp) × Bool := (t, none, false)

/-- thread 0: the writers (set-up, W1, W2); thread 1: R1; thread 2: R2 -/
def cexSchedule : List (Nat × Option (Nat × KOp) × Bool) :=
  [ -- set-up: `ins 1` (node 0), `ins 0` (node 1): list `1 → 0`, both in the tree
    (0, some (1, .ins 10 100), false), go 0, go 0, go 0, go 0, go 0,
    (0, some (0, .ins 20 101), false), go 0, go 0, go 0, go 0, go 0,
    -- R1 = `get 1`: invoked, loads `first`: stands on element 1
    (1, some (1, .get), false), go 1,
    -- W1 = `ins 2` with rebalancing: mutex, find, prepend node 2, tree link, `lock_root` succeeds
    (0, some (2, .ins 30 102), false), go 0, go 0, go 0, (0, none, true), go 0,
    -- R1 reads `lock_state`: WRITER is set: decides on a linear step (`rLin 1`)
    go 1,
    -- W1: rebalance, `unlock_root`, unlock the mutex
    go 0, go 0, go 0,
    -- W2 = `rm 1`: invoked, mutex, find (node 0), unlink node 0 from the list (`node 1 .next := none`)
    (0, some (1, .rm), false), go 0, go 0, go 0,
    -- R1: the (stale) linear step on element 1: other key, `next = none`; returns "absent"
    go 1, go 1,
    -- R2 = `get 1`: invoked, `first`, `lock_state = 0`, CAS in as reader, tree search finds node 0,
    -- release, load the value: returns `some (10, 100)`
    (2, some (1, .get), false), go 2, go 2, go 2, go 2, go 2, go 2,
    -- W2: `lock_root`, tree removal, `unlock_root`, unlock the mutex: returns `some (10, 100)`
    go 0, go 0, go 0, go 0 ]

/-- the executable form of the counterexample: the schedule runs, ends quiescent, and the complete
search finds no linearization of the calls on key `1` -/
def cexCheck : Bool :=
  match run (init 3) cexSchedule with
  | some s => s.threads.all (fun l => l.pc == .idle) && (search (callsOn s 1) none (absOf s 1)).isNone
  | none => false

theorem cexCheck_true : cexCheck = true := by decide +kernel

/-- the history of key `1` at the end of the schedule -/
theorem cex_history : (run (init 3) cexSchedule).map (fun s => (callsOn s 1, absOf s 1)) =
    some ([ ⟨0, .ins 10 100, .none, 1, 6⟩, ⟨1, .get, .none, 13, 30⟩, ⟨2, .get, .some 10 100, 31, 37⟩,
            ⟨0, .rm, .some 10 100, 25, 41⟩ ], none) := by decide +kernel

/-- **Counterexample.** A reachable quiescent state of the tree-bin model whose history on key `1`
is not linearizable. -/
theorem bint_not_linearizable :
    ∃ s : State, ReachableOld 3 s ∧ quiescent s ∧ ¬ Lin.Linearizable (callsOn s 1) none (absOf s 1) := by
  have h := cexCheck_true
  unfold cexCheck at h
  cases hrun : run (init 3) cexSchedule with
  | none => rw [hrun] at h; cases h
  | some s =>
    rw [hrun] at h
    simp only [Bool.and_eq_true, List.all_eq_true, beq_iff_eq, Option.isNone_iff_eq_none] at h
    exact ⟨s, run_reachable cexSchedule ReachableOld.init hrun, h.1, search_eq_none_iff.1 h.2⟩

/-- the statement of `bint_linearizable_quiescent` fails for `ReachableOld` -/
theorem not_bint_linearizable_quiescent :
    ¬ ∀ (n : Nat) (s : State), ReachableOld n s → quiescent s → ∀ k : Nat,
        Lin.Linearizable (callsOn s k) none (absOf s k) := by
  intro hall
  obtain ⟨s, hr, hq, hn⟩ := bint_not_linearizable
  exact hn (hall 3 s hr hq 1)

/-! ## The repaired order: one tree bin is linearizable under every interleaving

`Reachable` is reachability under `step = stepG true`: a removal takes the tree's write lock
*before* it unlinks the node from the list (`wUnlinkLocked`). For every reachable state and every
key, the history of that key — the completed calls, plus the calls of writers that are past their
linearization point (`callsOnExt`) — is linearizable from "absent" to the **ghost** abstract state
`gAbs` (the node with that key that is both on the list and in the tree); `gAbs = absOf` whenever no
thread holds the write lock, in particular in quiescent states.

Linearization points: a value store (`insert` on a present key, `compute_if_present`) at `wVal`; an
insert of a new key at `wTreeLink` (the prepended node counts once it is in the tree: a list-walking
reader can only stand on it after that, because the lock bits are clear until then); a removal at
`wUnlinkLocked` (the list unlink under the write lock: no tree-mode reader exists, and list-walking
readers — also those whose "linear" decision is stale — see the list); writers that change nothing at
`wFind`; readers in hindsight (`Good`, `ValWit` in `Lemmas/BinTGhost.lean`). The structural
invariant is `Inv` (`Lemmas/BinTInv.lean`, `reachable_inv`). `init_ginv`, `reachable_ginv`, `GInv.linearizable` and
`writer_false_of_quiescent` close the induction over `Reachable` here; for `Proto/BinU` the lemmas of these names are
in `Lemmas/BinULin.lean`. -/

theorem init_ginv (n k : Nat) : GInv k (init n) (fun _ => none) id := by
  have hthr : ∀ (t : Nat) (l : Local), (init n).threads[t]? = some l → l = {} := fun t l h => init_threads h
  have ha : gAbs (init n) k = none := by
    rw [gAbs_eq_none_iff]
    intro i hi
    simp [chain, init, chainFrom] at hi
  have tr := GhostView.Trace.init (S := Lin.sig) (V := view) (ts := (init n).threads) k (fun l hl => by
    obtain ⟨t, hl⟩ := List.mem_iff_getElem?.1 hl; rw [hthr t l hl]; rfl)
  rw [← ha] at tr
  rw [show ([] : List (Nat × Call)) = (init n).hist from rfl, show 0 = (init n).now from rfl, ← callsOnExt_eq] at tr
  refine ⟨tr.h0, tr.hA, tr.calls, tr.stab, tr.inj, ?_⟩
  · intro t l p hl hc
    rw [hthr t l hl] at hc
    cases hc

theorem reachable_ginv {n : Nat} {s : State} (hr : Reachable n s) (k : Nat) :
    ∃ A pt, GInv k s A pt := by
  induction hr with
  | init => exact ⟨_, _, init_ginv n k⟩
  | @step s s' t inv bal hr hs ih =>
    obtain ⟨A, pt, g⟩ := ih
    cases hl : s.threads[t]? with
    | none => unfold step stepG at hs; rw [hl] at hs; cases hs
    | some l => exact ginv_step g (reachable_inv hr) hl (step_stepK hl hs)

theorem GInv.linearizable {k : Nat} {s : State} {A : Nat → KSt} {pt : Nat → Nat}
    (g : GInv k s A pt) (I : Inv s) : Linearizable (callsOnExt s k) none (gAbs s k) :=
  callsOnExt_eq s k ▸ g.trace.lin I.thr.gen

def writerCallsOn (s : State) (k : Nat) : History := (callsOnExt s k).filter (fun c => !isRead c.op)

theorem GInv.linearizable_writers {k : Nat} {s : State} {A : Nat → KSt} {pt : Nat → Nat}
    (g : GInv k s A pt) (I : Inv s) : Linearizable (writerCallsOn s k) none (gAbs s k) :=
  show Linearizable ((callsOnExt s k).filter _) none _ from callsOnExt_eq s k ▸ g.trace.writers.linearizable
    (fun _ hc => I.thr.gen.resp_le (List.mem_filter.1 hc).1) ((I.thr.gen.pairwise k).filter _)

/-- **Structural invariant** of the repaired tree-bin model (heap, threads and times, locks, and the
relation between list and tree): `Inv` holds in every reachable state. -/
theorem bint_inv {n : Nat} {s : State} (hr : Reachable n s) : Inv s := reachable_inv hr

/-- in a state in which no thread holds the tree's write lock the ghost state is the abstract state -/
theorem gAbs_eq_absOf_of_reachable {n : Nat} {s : State} (hr : Reachable n s) (hw : s.writer = false) (k : Nat) :
    gAbs s k = absOf s k :=
  (reachable_inv hr).gAbs_eq_absOf_of_no_writer hw k

theorem writer_false_of_quiescent {n : Nat} {s : State} (hr : Reachable n s) (hq : quiescent s) :
    s.writer = false := by
  have I := reachable_inv hr
  cases hw : s.writer with
  | false => rfl
  | true =>
    have hb : (s.writer || s.waiter) = true := by rw [hw]; rfl
    obtain ⟨h, l, hl, _, hpc⟩ := I.lock.bits_holder hb
    rw [hq l (List.mem_of_getElem? hl)] at hpc
    rcases hpc with h | h <;> cases h

/-- **writers-only linearizability** (ghost state; = `absOf` when `writer` is clear) -/
theorem bint_linearizable_writers {n : Nat} {s : State} (hr : Reachable n s) (k : Nat) :
    Lin.Linearizable (writerCallsOn s k) none (gAbs s k) := by
  obtain ⟨A, pt, g⟩ := reachable_ginv hr k
  exact g.linearizable_writers (reachable_inv hr)

/-- **C01, tree-bin level (repaired order).** Under every interleaving of any number of threads, the
per-key history of a tree bin (completed calls plus writers past their linearization point) is
linearizable and ends in the ghost abstract state. -/
theorem bint_linearizable {n : Nat} {s : State} (hr : Reachable n s) (k : Nat) :
    Lin.Linearizable (callsOnExt s k) none (gAbs s k) := by
  obtain ⟨A, pt, g⟩ := reachable_ginv hr k
  exact g.linearizable (reachable_inv hr)

/-- … and in the abstract state (tree membership) whenever no thread holds the tree's write lock -/
theorem bint_linearizable_unlocked {n : Nat} {s : State} (hr : Reachable n s) (hw : s.writer = false) (k : Nat) :
    Lin.Linearizable (callsOnExt s k) none (absOf s k) := by
  rw [← gAbs_eq_absOf_of_reachable hr hw k]
  exact bint_linearizable hr k

/-- **C01, tree-bin level, quiescent form.** -/
theorem bint_linearizable_quiescent {n : Nat} {s : State} (hr : Reachable n s) (hq : quiescent s) (k : Nat) :
    Lin.Linearizable (callsOn s k) none (absOf s k) := by
  have := bint_linearizable_unlocked hr (writer_false_of_quiescent hr hq) k
  rw [callsOnExt_eq, GhostView.callsOnExt_quiescent k s.now (fun l hl => congrArg resOfPc (hq l hl))] at this
  exact this

/-! ## the tie to the source: the removal order of the model is the order of the code

`Proto/BinT.step` removes a node by `lock_root`, list unlink, tree removal, `unlock_root`: the order of
`remove_tree_node` in `src/node.rs` (`remove_locks_before_unlink`). Insertion is not tied in this way: the source
takes `lock_root` before the store to `first`, `Proto/BinT.step` prepends, links the leaf and only then (if it has to
rebalance) takes `lock_root`; `insert_locks_before_prepend` records the order of the source, which is the order
`Proto/BinU` takes. Both orders are regenerated from `src/node.rs` on every run (`Gen/Atomics.lean`: `lock_root` /
`unlock_root` and the runs of stores to list cells `first`/`next`/`prev` and to tree links
`left`/`right`/`root`/`parent`/`red`, in source order). With the original order of
`remove_tree_node` (`["store:list", "lock_root", "store:tree", "unlock_root"]`, finding F8)
`remove_locks_before_unlink` fails. -/
section Tie
open Flurry.Gen

theorem remove_locks_before_unlink :
    removeTreeNodeOrder = ["lock_root", "store:list", "store:tree", "unlock_root"] := by decide +kernel

/-- (the leading `store:tree`, `store:list` is the empty-bin case: `root` and `first` of a bin
that no reader can have reached through the tree yet). The source takes the write lock *before* the store to
`first` (the repair of finding F9); `Proto/BinT` prepends and links before it locks (linearizable for readers
that follow the lock protocol, which is what the theorems of this file are about). The model of this order of the
source — lock first, and readers that walk the list without the lock (iterators) — is `Proto/BinU`
(`Props/C01BinU.lean`). -/
theorem insert_locks_before_prepend :
    findOrPutTreeValOrder = ["store:tree", "store:list", "lock_root", "store:list", "store:tree", "unlock_root"] := by
  decide +kernel

end Tie

end Flurry.Proto.BinT
