import Flurry.Proto.BinK
import Flurry.Lemmas.LinSearch
import Flurry.Lemmas.BinKLin
/-! # C01 / C05 / C06 / C07 / C08 (bin level): a bin that is converted between a list and a tree under
concurrency is linearizable under every interleaving

`Proto/BinK`: one bin cell — empty, list bin, tree bin — with the lock-free readers, iterators and
locked writers of both forms (`Proto/BinW`, `Proto/BinU`) and the two conversions (`treeify_bin`;
the untreeify path of `replace_node` / `compute_if_present`), each of which replaces the structure
in the cell by a copy while holding the lock of the old one. Threads that loaded the cell before a
conversion go on with the old structure: readers finish on it, writers notice at their re-check of
the cell and start over. The theorems below hold for every number of threads, every interleaving,
every number of conversions in either direction, with treeify allowed on any list bin at any time
and untreeify allowed after any removal (both over-approximate the real thresholds). -/
namespace Flurry.Proto.BinK
open Flurry.Lin

/-- **Structural invariant** (`Lemmas/BinKInv.lean`) in every reachable state. -/
theorem binK_inv {n : Nat} {s : State} (hr : Reachable n s) : Inv s := reachable_inv hr

/-- a conversion does not change what the bin contains: the step that stores the new `TreeBin`
into the cell (treeify) and the step that stores the list copy (untreeify) leave the abstract
state of every key as it was -/
theorem conversion_abs_invariant {n : Nat} {s s' : State} (hr : Reachable n s) {t : Nat}
    {inv : Option (Nat × KOp)} {lo mt sm : Bool} {l : Local}
    (hl : s.threads[t]? = some l)
    (hpc : (∃ h b, l.pc = .kStore h b) ∨ (∃ b res, l.pc = .tUntreeify b res))
    (hs : step s t inv lo mt sm = some s') (k : Nat) : absOf s' k = absOf s k :=
  BinKE.conversion_abs hr hl hpc hs k

/-- **C01, bin level, across kind changes.** The per-key history (completed calls plus writers
past their linearization point) is linearizable and ends in the abstract state of the live
structure. -/
theorem binK_linearizable {n : Nat} {s : State} (hr : Reachable n s) (k : Nat) :
    Lin.Linearizable (callsOnExt s k) none (absOf s k) :=
  BinKE.linearizable hr k

/-- when no call is in flight no writer is past its point: the completed calls alone are linearizable -/
theorem binK_linearizable_quiescent {n : Nat} {s : State} (hr : Reachable n s) (hq : quiescent s) (k : Nat) :
    Lin.Linearizable (callsOn s k) none (absOf s k) := by
  have := binK_linearizable hr k
  rw [callsOnExt_quiescent hq] at this
  exact this

/-- C06 at quiescence: if the cell holds a tree bin, nobody holds its write lock and its tree
holds exactly the nodes of its list -/
theorem quiescent_tree_eq_list {n : Nat} {s : State} (hr : Reachable n s) (hq : quiescent s) {b : Nat}
    (hc : s.cell = .tree b) :
    (s.tbins.getD b dfltB).writer = false ∧
    ∀ i, i < s.heap.length → ((s.heap.getD i dflt).owner = some b ∧ (s.heap.getD i dflt).inTree = true ↔ i ∈ chainOfBin s b) := by
  exact ((BinKE.reachable_bundle hr).1.inv.quiescent_tree_eq_list (BinKE.quiescent_emb hq) (id := (0, 0))
    ((BinKE.cellAt_emb s).trans (congrArg BinKE.embCell hc))).2

/-- **the re-check of the cell is load-bearing**: if writers and treeify trust the lock they took
(`stepNoCheck`), some reachable quiescent state has a history that is not linearizable -/
theorem noCheck_refutes :
    ∃ (n : Nat) (s : State) (k : Nat), ReachableNoCheck n s ∧ quiescent s ∧ ¬ Lin.Linearizable (callsOn s k) none (absOf s k) := by
  obtain ⟨s, hrun, h⟩ := (Option.any_eq_true _ _).1 ncCheck_true
  simp only [Bool.and_eq_true, List.all_eq_true, beq_iff_eq, Option.isNone_iff_eq_none] at h
  exact ⟨2, s, 1, runNC_reachable ncSchedule ReachableNoCheck.init hrun, h.1, search_eq_none_iff.1 h.2⟩

end Flurry.Proto.BinK
