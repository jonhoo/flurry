import Flurry.Lemmas.BinRExamples
import Flurry.Lemmas.Lin2CondRm
/-! # C13 (bin level): `retain` removes an entry only if the predicate rejected exactly the value
that is still associated with the key at the moment of removal

> retain(f) removes an entry only if f returned false for exactly the value that is still associated
> with the key at the moment of removal: an entry whose value was replaced after f inspected it, or
> for which f returned true, is never removed by that call.

**Specification** (`Flurry/Lin2.lean`): the per-key operations of `Flurry/Lin.lean` plus
`condRm vi` — "remove the key iff its current value has id `vi`", result `.none`. A value is
`(payload, id)`; every `ins` / `tryIns` / `cipInc` is meant to bring a fresh id, so that the id plays the
role of the pointer identity that `replace_node(k, None, Some(v))` compares under the bin lock. The
specification does not enforce freshness: where it matters it is a hypothesis (`hab` of
`replaced_value_survives`).

**Model** (`Flurry/Proto/BinR.lean`): `Proto/BinW` (the list bin with the writer's walk spelled out:
load the bin cell, lock the head node, re-check the cell, walk `wFind` one `next` load at a time, one
store `wStore` through the remembered positions, unlock) with
* the extra writer operation `condRm vi`: same walk; at `wStore` with hit node `i` it unlinks `i`
  iff `heap[i].val.2 = vi`, else stores nothing; result `.none`;
* the first half of a `retain` visit as its own steps: a thread asked to visit key `k` walks to the
  node like a reader (`vHead`, `vNode`), loads the id of the node's value (`vLoaded k vi`), and the
  scheduler plays the predicate: "keep" ends the visit without any call, "drop" turns the thread
  into a writer executing `condRm vi` (invoked at that moment). `condRm vi` can also be invoked
  directly with an arbitrary `vi`, so the theorems do not depend on where the id came from;
* the refuted variant `stepNoCompare`, whose `condRm` unlinks without comparing the id (what a
  `retain` that forgets the observed value — or `retain_force` used in its place — would do).

**Proof**: simulation into `Proto/BinRBase` (namespace `BinR.Base`; `Proto/Bin` over the extended operations: a writer
stores in one atomic transition under the lock), whose ghost invariant gives linearization points;
the visit steps are invisible on the projection (no call is in flight) and "drop" is an invocation.
All of it is `Lemmas/BinRB*.lean` (Base), `Lemmas/BinR*.lean`, `Lemmas/Lin2*.lean`. -/
namespace Flurry.C13R
open Flurry.Lin2 Flurry.Proto.BinR

/-- **Linearizability with conditional removals mixed in.** Under every interleaving of any number
of threads doing `ins` / `tryIns` / `rm` / `cipInc` / `cipRm` / `get` / `has`, direct `condRm` calls
and `retain` visits, in every reachable state in which no call is in flight, the history of each key
is linearizable with respect to the specification with `condRm`, from "absent" to the content the
bin has for that key. -/
theorem binR_linearizable_quiescent {n : Nat} {s : State} (hr : Reachable n s) (hq : quiescent s) (k : Nat) :
    Lin2.Linearizable2 (callsOn s k) none (absOf s k) :=
  Flurry.Proto.BinR.binR_linearizable_quiescent hr hq k

/-- the same in every reachable state, counting writers that have stored and only have to unlock as
responding now -/
theorem binR_linearizable {n : Nat} {s : State} (hr : Reachable n s) (k : Nat) :
    Lin2.Linearizable2 (callsOnExt s k) none (absOf s k) :=
  Flurry.Proto.BinR.binR_linearizable hr k

/-- one step of the specification: `condRm vi` reports nothing; it leaves the state as it is unless
the state is `some (v, vi)` — the observed value itself — and then the key becomes absent -/
theorem spec_condRm (st : KSt) (vi : Nat) :
    (specStep2 st (.condRm vi)).2 = .none ∧
    ((specStep2 st (.condRm vi)).1 = st ∨
      ∃ v, st = some (v, vi) ∧ (specStep2 st (.condRm vi)).1 = none) :=
  Flurry.Lin2.spec_condRm st vi

/-- **A conditional removal removes only the observed value** (any linearizable history). In the
witness order, cut at any `condRm vi` call `c`: the calls before it lead from `init` to a state
`st`; `c` reports `.none`; either `c` leaves `st` unchanged, or `st = some (v, vi)` — the value with
exactly the observed id, not one that replaced it (`ins` / `cipInc` create fresh ids) — and `c`
makes the key absent; the calls after it lead on to `fin`. -/
theorem condRm_removes_only_observed {h : History2} {init fin : KSt} (hl : Linearizable2 h init fin) :
    ∃ order : List Nat, order.Perm (List.range h.length) ∧
      (∀ (p q : Nat) (a b : Call2), p < q → order[p]? >>= (h[·]?) = some a →
        order[q]? >>= (h[·]?) = some b → ¬ (b.resp < a.inv)) ∧
      replay2 h order init = some fin ∧
      ∀ (pre post : List Nat) (i : Nat) (c : Call2) (vi : Nat),
        order = pre ++ i :: post → h[i]? = some c → c.op = .condRm vi →
        ∃ st, replay2 h pre init = some st ∧ c.res = .none ∧
          replay2 h post (specStep2 st (.condRm vi)).1 = some fin ∧
          ((specStep2 st (.condRm vi)).1 = st ∨
            ∃ v, st = some (v, vi) ∧ (specStep2 st (.condRm vi)).1 = none) :=
  Flurry.Lin2.condRm_removes_only_observed hl

/-- **The store of a conditional removal** (model level, any reachable state). When a writer
executing `condRm vi` is about to store (`wStore h pred hit hnext`): the bin cell still holds `h` and
the writer holds the lock in node `h` (the validated bin lock); the node it remembered, `hit`, is the
node of its key on the live chain; it reports `.none`; and the store takes the key from that node's
value to absent if and only if the node's current value id is `vi`: with another
id, or without a node, the state is left exactly as it is. No other key is affected. -/
theorem condRm_store_spec {n : Nat} {s : State} (hr : Reachable n s) {t : Nat} {l : Local} {p : Pending}
    {h : Nat} {pred hit hnext : Option Nat} {vi : Nat}
    (hl : s.threads[t]? = some l) (hpc : l.pc = .wStore h pred hit hnext) (hc : l.call = some p)
    (hop : p.op = .condRm vi) :
    (s.head = some h ∧ (s.heap.getD h ⟨0, (0, 0), none, none⟩).lock = some t) ∧
    (chain s).find? (fun i => (s.heap.getD i ⟨0, (0, 0), none, none⟩).key == p.key) = hit ∧
    (storeAt s p pred hit hnext).2 = .none ∧
    (match hit with
      | some i =>
        if (s.heap.getD i ⟨0, (0, 0), none, none⟩).val.2 = vi then
          absOf s p.key = some (s.heap.getD i ⟨0, (0, 0), none, none⟩).val ∧
          absOf (storeAt s p pred hit hnext).1 p.key = none
        else (storeAt s p pred hit hnext).1 = s
      | none => (storeAt s p pred hit hnext).1 = s) ∧
    ∀ k, k ≠ p.key → absOf (storeAt s p pred hit hnext).1 k = absOf s k :=
  condRm_store hr hl hpc hc hop

/-- **A value that replaced the observed one survives.** `ins (v, a)` completes; then a `retain`
whose predicate saw the value with id `a` removes conditionally (`condRm a`) while a concurrent
`ins (w, b)` with a fresh id `b ≠ a` replaces the value. In every linearizable outcome the key ends
up holding `(w, b)` — never absent with the insert's effect lost — in one of two ways: the insert
came first (it reports the old value `(v, a)`, and the conditional removal finds another id and does
nothing), or the removal came first (it removed `(v, a)`; the insert reports `none` and inserts). -/
theorem replaced_value_survives {v w a b : Nat} {c0 c1 c2 : Call2} {init fin : KSt} (hab : a ≠ b)
    (h0 : c0.op = .ins v a) (h1 : c1.op = .condRm a) (h2 : c2.op = .ins w b)
    (hb1 : c0.resp < c1.inv) (hb2 : c0.resp < c2.inv)
    (hl : Linearizable2 [c0, c1, c2] init fin) :
    fin = some (w, b) ∧ c0.res = resOf init ∧ c1.res = .none ∧
      (c2.res = .some v a ∨ c2.res = .none) :=
  Flurry.Lin2.replaced_value_survives hab h0 h1 h2 hb1 hb2 hl

/-- the load of a `retain` visit: from `vNode k (some c)` the thread reads node `c`; if its key is
`k` the visit goes to `vLoaded k vi` with `vi` the id of the value node `c` holds right now,
otherwise it moves on to the next node -/
theorem visit_load {s s' : State} {t : Nat} {l : Local} {inv : Option Inv} {k c : Nat}
    (hl : s.threads[t]? = some l) (hpc : l.pc = .vNode k (some c)) (hs : step s t inv = some s') :
    ∃ nd, s.heap[c]? = some nd ∧
      s' = setT (tick s) t { l with pc := if nd.key = k then .vLoaded k nd.val.2 else .vNode k nd.next } :=
  Flurry.Proto.BinR.visit_load hl hpc hs

/-- the predicate returned false: the visit turns into the call `condRm vi` for the id it loaded -/
theorem visit_drop {s : State} {t : Nat} {l : Local} {k vi : Nat}
    (hl : s.threads[t]? = some l) (hpc : l.pc = .vLoaded k vi) :
    step s t (some .drop) =
      some (setT (tick s) t { pc := .wHead, call := some ⟨k, .condRm vi, s.now + 1⟩ }) :=
  Flurry.Proto.BinR.visit_drop hl hpc

/-- the predicate returned true: the visit ends, no call is made, heap, bin cell and history stay as
they are (only the clock and this thread's program counter change) -/
theorem visit_keep {s : State} {t : Nat} {l : Local} {k vi : Nat} {inv : Option Inv}
    (hl : s.threads[t]? = some l) (hpc : l.pc = .vLoaded k vi) (hinv : inv ≠ some .drop) :
    step s t inv = some (setT (tick s) t { l with pc := .idle }) :=
  Flurry.Proto.BinR.visit_keep hl hpc hinv

/-- **The comparison is load-bearing.** In the variant whose `condRm` unlinks without comparing the
value id there is a reachable state with no call in flight whose history of key 0 is not
linearizable: `insert (5, id 1)`; a `retain` visit loads id 1; `insert (7, id 2)` replaces the value
and returns; the visit's removal then deletes `(7, 2)`, which its predicate never saw. -/
theorem noCompare_not_linearizable :
    ∃ s, ReachableNoCompare 2 s ∧ quiescent s ∧ ¬ Lin2.Linearizable2 (callsOn s 0) none (absOf s 0) :=
  noCompare_not_linearizable_replaced

/-- hence the linearizability theorem is false for the variant without the comparison -/
theorem noCompare_refutes :
    ¬ ∀ (n : Nat) (s : State), ReachableNoCompare n s → quiescent s → ∀ k,
      Lin2.Linearizable2 (callsOn s k) none (absOf s k) :=
  Flurry.Proto.BinR.noCompare_refutes

/-! ## non-vacuity (kernel evaluation) -/

/-- the run of `noCompare_not_linearizable` in the real model: all steps are enabled, the final
state is reachable and quiescent, the replaced value `(7, 2)` is still there and the search finds a
linearization -/
theorem replaced_run :
    (run step (init 2) schedReplaced).map (fun s => (callsOn s 0, absOf s 0)) =
      some ([⟨0, .ins 5 1, .none, 1, 3⟩, ⟨0, .ins 7 2, .some 5 1, 7, 13⟩, ⟨1, .condRm 1, .none, 14, 20⟩],
        some (7, 2)) ∧
    ∃ s, run step (init 2) schedReplaced = some s ∧ Reachable 2 s ∧ quiescent s ∧
      (search (callsOn s 0) none (absOf s 0)).isSome = true :=
  ⟨replaced_history, compare_replaced⟩

/-- the same run without the comparison: the key is gone -/
theorem replaced_run_noCompare :
    (run stepNoCompare (init 2) schedReplaced).map (fun s => (callsOn s 0, absOf s 0)) =
      some ([⟨0, .ins 5 1, .none, 1, 3⟩, ⟨0, .ins 7 2, .some 5 1, 7, 13⟩, ⟨1, .condRm 1, .none, 14, 20⟩],
        none) :=
  replaced_noCompare_history

/-- the conditional removal is not a no-op: when nothing replaced the observed value, the visit's
`condRm 1` removes the key (bin empty afterwards, a later `get` sees nothing) -/
theorem removes_run :
    (run step (init 2) schedRemoves).map (fun s => (callsOn s 0, absOf s 0, s.head)) =
      some ([⟨0, .ins 5 1, .none, 1, 3⟩, ⟨1, .condRm 1, .none, 7, 13⟩, ⟨0, .get, .none, 14, 16⟩],
        none, none) :=
  removes_history

/-- a visit whose predicate says "keep" leaves no trace -/
theorem keep_run :
    (run step (init 2) schedKeep).map (fun s => (callsOn s 0, absOf s 0)) =
      some ([⟨0, .ins 5 1, .none, 1, 3⟩, ⟨0, .get, .some 5 1, 8, 10⟩], some (5, 1)) :=
  keep_history

/-- an instance of `replaced_value_survives`'s hypotheses that is linearizable both ways -/
example : Linearizable2 [⟨0, .ins 5 1, .none, 0, 1⟩, ⟨1, .condRm 1, .none, 2, 5⟩, ⟨0, .ins 7 2, .some 5 1, 3, 4⟩]
    none (some (7, 2)) := by decide
example : Linearizable2 [⟨0, .ins 5 1, .none, 0, 1⟩, ⟨1, .condRm 1, .none, 2, 5⟩, ⟨0, .ins 7 2, .none, 3, 4⟩]
    none (some (7, 2)) := by decide
/-- and the outcome it excludes is indeed not linearizable -/
example : ¬ Linearizable2 [⟨0, .ins 5 1, .none, 0, 1⟩, ⟨1, .condRm 1, .none, 2, 5⟩, ⟨0, .ins 7 2, .some 5 1, 3, 4⟩]
    none none := by decide

end Flurry.C13R
