import Flurry.Lemmas.Iter
/-! # C07 — iterators are weakly consistent, also across resizes

This file: frozen structures. `Seq/Iter.lean` is the
traverser (`NodeIter` with its `TableStack`, `push_state`, `recover_state`) over a chain of tables
in which any subset of bins has been forwarded, to any depth. Proved: it terminates and yields
exactly the entries a lookup would find (`traverse_frozen`), each once if no node sits in two
places of the chain (`yields_each_once`) — the situation of an
iterator running while one or several nested resizes are paused between bins. The model is
compared with the real iterator on dumped table chains. Iteration concurrent with writers and resizes of
list bins is proved in `Props/C07BinNI.lean`, `C07BinNIOnce.lean`, `C07BinNIOnce2.lean` (one lineage) and
`Props/C07TableNI.lean` (the table): a key present and untouched throughout is yielded exactly once, and every
yielded pair was in the map at some moment of the iteration. With tree conversions this is judged on recorded
histories of the real code (`[iter]` oracle of the harness). -/
namespace Flurry.C07
open Flurry.Seq.Iter

/-- the traverser terminates (within `fuelFor c` turns) and yields exactly `contents c` -/
theorem traverse_frozen (c : Chain) (h : ChainWF c) :
    traverse c (fuelFor c) (initSt c) = contents c := Flurry.Seq.Iter.traverse_frozen h

/-- if no node sits in two places of the chain, the traverser yields no node twice -/
theorem yields_each_once (c : Chain) (h : ChainWF c) (hn : (contents c).Nodup) :
    (traverse c (fuelFor c) (initSt c)).Nodup := traverse_nodup h hn

/-- more fuel changes nothing: the traversal has ended -/
theorem terminates (c : Chain) (h : ChainWF c) (k : Nat) :
    traverse c (fuelFor c + k) (initSt c) = traverse c (fuelFor c) (initSt c) := no_fuel_needed_more h k

/-- without forwarding the order is bin by bin (the iteration order of the sequential model) -/
theorem quiescent_order (t : FTable) (h : ∀ b ∈ t, b ≠ .moved) :
    traverse [t] (fuelFor [t]) (initSt [t]) = t.flatMap FBin.toList := traverse_single t h

end Flurry.C07
