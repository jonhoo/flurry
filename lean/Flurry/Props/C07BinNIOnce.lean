import Flurry.Lemmas.BinNIUnique
/-! # C07 (bin level, CONCURRENT): untouched keys and completed iterations

For a COMPLETED iteration `(t, τ0, τ1) ∈ s.ends` of `Proto/BinNI` (thread, creation time, end time; the
traverser running while writers and any number of resizes proceed), in every reachable state, for any number
of threads and every interleaving. "During the whole iteration" = in every state `s₁` of the run (a reachable
prefix, `Steps s₁ s`) whose clock lies in `[τ0, τ1]`.

* `iter_untouched_yielded`: a key that maps to `v` during the whole iteration is yielded by it (at least
  once), and every yield of that key by this iteration carries `v`;
* `iter_untouched_absent_not_yielded`: a key that is absent during the whole iteration is not yielded by it;
* `iter_yields_before_end`: the yields of a completed iteration all happened between its creation and its end;
* `iter_frames_disjoint`: the pending cells of a live iterator have pairwise disjoint key classes (at most
  one pending cell covers a key; a popped cell is never pushed again).
"Exactly once" (an untouched key is not yielded twice): `Props/C07BinNIOnce2.lean`.

How: for every untouched key a live iterator is in one of three phases (`Phase`, `Lemmas/BinNIUnique.lean`):
a pending cell covers the key (a forwarded cell hands the key to exactly one of its two children; a cell that
is not forwarded is the live cell of the key), or the pointer is justified as a lock-free reader of that key
would be (`BinN.Good` with a history that is never "absent", carried over every transition by
`MemStep.carries`) — such a walk cannot end without meeting the key — or the key has been yielded. -/
namespace Flurry.Proto.BinNI
open Flurry.Lin

/-- **C07, present and untouched ⇒ yielded, with its value.** -/
theorem iter_untouched_yielded {nt : Nat} {s : State} (hr : Reachable nt s) {t τ0 τ1 k : Nat} {v : Nat × Nat}
    (he : (t, τ0, τ1) ∈ s.ends)
    (hun : ∀ s₁, Reachable nt s₁ → Steps s₁ s → τ0 ≤ s₁.n.now → s₁.n.now ≤ τ1 → absOf s₁ k = some v) :
    (∃ y ∈ s.yields, y.tid = t ∧ y.t0 = τ0 ∧ y.key = k ∧ y.val = v) ∧
    ∀ y ∈ s.yields, y.tid = t → y.t0 = τ0 → y.key = k → y.val = v := by
  refine ⟨let ⟨_, K⟩ := reachable_kinv hr; (K.done _ he k v hun).1, ?_⟩
  intro y hy h1 h2 h3
  obtain ⟨s₁, r, st, a, b, hv⟩ := yield_within hr he hy h1 h2
  rw [h3, hun s₁ r st a b] at hv
  exact (Option.some.inj hv).symm

/-- **C07, absent throughout ⇒ not yielded.** -/
theorem iter_untouched_absent_not_yielded {nt : Nat} {s : State} (hr : Reachable nt s) {t τ0 τ1 k : Nat}
    (he : (t, τ0, τ1) ∈ s.ends)
    (habs : ∀ s₁, Reachable nt s₁ → Steps s₁ s → τ0 ≤ s₁.n.now → s₁.n.now ≤ τ1 → absOf s₁ k = none) :
    ∀ y ∈ s.yields, y.tid = t → y.t0 = τ0 → y.key ≠ k := by
  intro y hy h1 h2 h3
  obtain ⟨s₁, r, st, a, b, hv⟩ := yield_within hr he hy h1 h2
  rw [h3, habs s₁ r st a b] at hv
  cases hv

/-- the yields of a completed iteration lie between its creation and its end -/
theorem iter_yields_before_end {nt : Nat} {s : State} (hr : Reachable nt s) {t τ0 τ1 : Nat}
    (he : (t, τ0, τ1) ∈ s.ends) : τ0 ≤ τ1 ∧ ∀ y ∈ s.yields, y.tid = t → y.t0 = τ0 → y.time ≤ τ1 :=
  ⟨((reachable_time hr).et _ he).1, fun y hy h1 h2 => (reachable_time hr).ye _ he y hy h1 h2⟩

/-- the pending cells of a live iterator have pairwise disjoint key classes `{k | k % 2^g = j}` -/
theorem iter_frames_disjoint {nt : Nat} {s : State} (hr : Reachable nt s) {t : Nat} {it : Iter}
    (hi : s.its[t]? = some (some it)) :
    it.todo.Pairwise fun a b => ∀ k, ¬ (k % 2 ^ a.1 = a.2 ∧ k % 2 ^ b.1 = b.2) :=
  reachable_frames_disjoint hr t it hi

end Flurry.Proto.BinNI
