import Flurry.Lemmas.BinGNProgStuck
import Flurry.Props.C12BinGN
/-! # C11 for `Proto/BinGN`: no reachable state of a bin lineage is a deadlock — through ANY number of resizes

> A thread holds at most one bin lock at a time (plus, nested inside one `TreeBin`, mutex → write lock); the resizing
> thread holds one lock, and none between two cells; readers hold only a read count and never wait. Hence a thread
> that waits for a lock waits for a holder that can itself move.

The statements of `Props/C11BinG.lean` for the small-step model `Proto/BinGN` (list-bin writers locking the head node, tree-bin
writers with bin mutex + read-write lock + `WAITER`/park, treeify, one resizing thread per generation moving the cells
`(cur, j)` in any order — empty, list and tree bins —, lock-free and lock-protocol readers) over **all** reachable states:

* `step_disabled_only_by_lock` — the step of a thread that is not `idle` is enabled unless the thread is at one of the
  six waiting pcs and what it waits for is taken (`Blocked`): `stepG` never returns `none` for any other reason in a
  reachable state (no missing call, no index outside the heap, no call that does not fit the pc);
* `holder_exists` — a taken node lock / bin mutex has a holder: a thread of the state at a pc that holds it;
  `holders_do_not_wait`;
* `resizer_between_cells_holds_no_lock` — the resizing thread at `xNext`, `xCell j`, `xCasMoved j`, `xCommit` is the
  owner of no lock word and of no mutex;
* `parked_writer_waits_for_reader`, `blocked_waits_for_other`, `blocked_waits_for_enabled` — from any thread that is not
  `idle`, the wait-for relation (`wLock`, `kLock`, `xLock` → holder of the node lock; `tMutex`, `yMutex` → holder of the
  mutex; parked `lrLoop` → a reader inside the bin) leads in at most two hops to a thread whose step is enabled;
* `binGN_never_stuck_all` / `binGN_never_stuck` — in every reachable state that is not quiescent some thread that is
  NOT idle has an enabled step.

Proofs: `Lemmas/BinGNProgInv.lean`, `Lemmas/BinGNProgEn.lean`, `Lemmas/BinGNProgStuck.lean` (namespace
`Flurry.Proto.BinGNP`). The theorems live in `Flurry.Proto.BinGNProg`. -/
namespace Flurry.Proto.BinGNProg
open Flurry.Lin
open Flurry.Proto.BinGNP
open Flurry.Proto.BinK (nodeAt binAt)

/-- **the only reason for a disabled step is a taken lock.** In every reachable state, for every thread that is not
`idle` and every value of the scheduler's arguments: the step is enabled, or the thread is at `wLock g h` /
`kLock g k h` / `xLock j h` and the lock word of node `h` is taken, or at `tMutex g b` / `yMutex j b` and the mutex of
`TreeBin` `b` is taken, or parked at `lrLoop g b` with `WAITER` set while the write lock is held or readers remain
(`Blocked`). -/
theorem step_disabled_only_by_lock {n : Nat} {s : State} (hr : Reachable n s) {t : Nat} {l : Local}
    (hl : s.threads[t]? = some l) (hne : l.pc ≠ .idle) (inv : Option (Nat × KOp)) (lo : Bool)
    (mt : Option Nat) (rz sm sm2 : Bool) (pick : Nat) :
    (step s t inv lo mt rz sm sm2 pick).isSome = true ∨ Blocked s l.pc :=
  step_enabled_or_blocked (reachable_inv hr) (reachable_binv hr) hl hne inv lo mt rz sm sm2 pick

/-- `Blocked` spelled out -/
theorem blocked_iff (s : State) (pc : Pc) : Blocked s pc ↔
    ((∃ g h, pc = .wLock g h ∧ (nodeAt s.heap h).lock.isSome = true) ∨
     (∃ g k h, pc = .kLock g k h ∧ (nodeAt s.heap h).lock.isSome = true) ∨
     (∃ j h, pc = .xLock j h ∧ (nodeAt s.heap h).lock.isSome = true) ∨
     (∃ g b, pc = .tMutex g b ∧ (binAt s.tbins b).mutex.isSome = true) ∨
     (∃ j b, pc = .yMutex j b ∧ (binAt s.tbins b).mutex.isSome = true) ∨
     (∃ g b k res, pc = .lrLoop g b k res ∧ (binAt s.tbins b).waiter = true ∧
        ((binAt s.tbins b).writer = true ∨ (binAt s.tbins b).readers ≠ 0))) := by
  constructor
  · intro h
    cases pc with
    | wLock g h' => exact Or.inl ⟨g, h', rfl, h⟩
    | kLock g k h' => exact Or.inr (Or.inl ⟨g, k, h', rfl, h⟩)
    | xLock j h' => exact Or.inr (Or.inr (Or.inl ⟨j, h', rfl, h⟩))
    | tMutex g b => exact Or.inr (Or.inr (Or.inr (Or.inl ⟨g, b, rfl, h⟩)))
    | yMutex j b => exact Or.inr (Or.inr (Or.inr (Or.inr (Or.inl ⟨j, b, rfl, h⟩))))
    | lrLoop g b k res => exact Or.inr (Or.inr (Or.inr (Or.inr (Or.inr ⟨g, b, k, res, rfl, h⟩))))
    | _ => exact absurd h id
  · rintro (⟨g, h, rfl, hh⟩ | ⟨g, k, h, rfl, hh⟩ | ⟨j, h, rfl, hh⟩ | ⟨g, b, rfl, hh⟩ | ⟨j, b, rfl, hh⟩ |
      ⟨g, b, k, res, rfl, hh⟩) <;> exact hh

/-- **a taken lock has a holder.** In every reachable state: if the lock word of node `h` is `some x`, thread `x`
exists and is at a pc that holds that lock (`holdsLock`: `wCheck … wUnlock`, `kCheck … kUnlock`, `xCheck`, `xBuild`,
`xStoreLow … xUnlock (inl h)`); if the mutex of `TreeBin` `b` is `some x`, thread `x` exists and is at a pc that holds
that mutex (`holdsMutex`: `tCheck … tUnlockM`, `yCheck`, `yBuild`, `xStoreLow … xUnlock (inr b)`). -/
theorem holder_exists {n : Nat} {s : State} (hr : Reachable n s) :
    (∀ h x, (nodeAt s.heap h).lock = some x → ∃ l, s.threads[x]? = some l ∧ holdsLock l.pc = some h) ∧
    (∀ b x, (binAt s.tbins b).mutex = some x → ∃ l, s.threads[x]? = some l ∧ holdsMutex l.pc = some b) :=
  ⟨fun _ _ hx => lock_holder_exists (reachable_inv hr) hx, fun _ _ hx => mutex_holder_exists (reachable_inv hr) hx⟩

/-- holders do not wait: the holder of a node lock is never at a waiting pc; the holder of a mutex is at a waiting pc
only when it is at `lrLoop` of that very `TreeBin` (the nesting mutex → write lock) -/
theorem holders_do_not_wait {pc : Pc} :
    (∀ h, holdsLock pc = some h → pc ≠ .idle ∧ waitPc pc = false) ∧
    (∀ b, holdsMutex pc = some b → pc ≠ .idle ∧ (waitPc pc = false ∨ ∃ g k res, pc = .lrLoop g b k res)) :=
  ⟨fun _ h => holdsLock_not_wait h, fun _ h => holdsMutex_not_wait h⟩

/-- **the resizing thread holds no lock between two cells**: in every reachable state a thread at `xNext` (choosing
the next cell / about to commit), `xCell j` (about to load a cell), `xCasMoved j` (about to forward an empty cell) or
`xCommit` is the owner of no lock word and of no bin mutex — so nobody ever waits for it there -/
theorem resizer_between_cells_holds_no_lock {n : Nat} {s : State} (hr : Reachable n s) {t : Nat} {l : Local}
    (hl : s.threads[t]? = some l)
    (hpc : l.pc = .xNext ∨ (∃ j, l.pc = .xCell j) ∨ (∃ j, l.pc = .xCasMoved j) ∨ l.pc = .xCommit) :
    (∀ h, (nodeAt s.heap h).lock ≠ some t) ∧ (∀ b, (binAt s.tbins b).mutex ≠ some t) := by
  have hL : ∀ h, holdsLock l.pc ≠ some h := by
    intro h e
    rcases hpc with h1 | ⟨j, h1⟩ | ⟨j, h1⟩ | h1 <;> rw [h1] at e <;> cases e
  have hM : ∀ b, holdsMutex l.pc ≠ some b := by
    intro b e
    rcases hpc with h1 | ⟨j, h1⟩ | ⟨j, h1⟩ | h1 <;> rw [h1] at e <;> cases e
  constructor
  · intro h hx
    obtain ⟨l', hl', hh⟩ := lock_holder_exists (reachable_inv hr) hx
    rw [hl] at hl'; cases hl'
    exact hL h hh
  · intro b hx
    obtain ⟨l', hl', hh⟩ := mutex_holder_exists (reachable_inv hr) hx
    rw [hl] at hl'; cases hl'
    exact hM b hh

/-- **a parked writer waits for a reader that can move.** In every reachable state, a thread blocked at `lrLoop g b`
holds the mutex of `b` and not the write lock, so `readers ≠ 0`, so some thread is at `rTree b` / `rRelease b _` —
and its step is enabled for every value of the scheduler's arguments. -/
theorem parked_writer_waits_for_reader {n : Nat} {s : State} (hr : Reachable n s) {t : Nat} {l : Local}
    (hl : s.threads[t]? = some l) {g : Nat} {b : Nat} {k : After} {res : KRes}
    (hpc : l.pc = .lrLoop g b k res) (hbl : Blocked s l.pc) :
    ∃ (t' : Nat) (l' : Local), s.threads[t']? = some l' ∧ holdsRead l'.pc = some b ∧ Enabled s t' :=
  parked_waits_for_reader (reachable_inv hr) (reachable_binv hr) hl hpc hbl

/-- **a blocked thread waits for ANOTHER thread**: in every reachable state, a thread that is `Blocked` waits for a
thread different from itself that is not `idle` and holds a node lock, a bin mutex or a read lock -/
theorem blocked_waits_for_other {n : Nat} {s : State} (hr : Reachable n s) {t : Nat} {l : Local}
    (hl : s.threads[t]? = some l) (hbl : Blocked s l.pc) :
    ∃ (t' : Nat) (l' : Local), t' ≠ t ∧ s.threads[t']? = some l' ∧ l'.pc ≠ .idle ∧
      ((∃ h, holdsLock l'.pc = some h) ∨ (∃ b, holdsMutex l'.pc = some b) ∨ (∃ b, holdsRead l'.pc = some b)) :=
  blocked_on_other (reachable_inv hr) (reachable_binv hr) hl hbl

/-- **the wait-for relation is well-founded of depth ≤ 2**: from any thread that is not `idle` one reaches — in zero
hops (its own step is enabled), one hop (the holder of the lock it waits for) or two hops (waiter → mutex holder
parked at `lrLoop` → reader) — a thread that is not `idle` and whose step is enabled for every value of the
scheduler's arguments -/
theorem blocked_waits_for_enabled {n : Nat} {s : State} (hr : Reachable n s) {t : Nat} {l : Local}
    (hl : s.threads[t]? = some l) (hne : l.pc ≠ .idle) :
    ∃ (t' : Nat) (l' : Local), s.threads[t']? = some l' ∧ l'.pc ≠ .idle ∧ Enabled s t' :=
  waits_for_enabled (reachable_inv hr) (reachable_binv hr) hl hne

/-- readers are always enabled (C12.1 in the vocabulary of this file) -/
theorem reader_enabled {n : Nat} {s : State} (hr : Reachable n s) {t : Nat} {l : Local}
    (hl : s.threads[t]? = some l) (hrd : readerPc l.pc = true) : Enabled s t :=
  fun inv lo mt rz sm sm2 pick => reader_step_enabled hr hl hrd inv lo mt rz sm sm2 pick

/-- **C11: no deadlock**, strong form: in every reachable state that is not quiescent some thread that is not `idle`
has a step that is enabled whatever the scheduler's arguments are -/
theorem binGN_never_stuck_all {n : Nat} {s : State} (hr : Reachable n s) (hq : ¬ quiescent s) :
    ∃ (t : Nat) (l : Local), s.threads[t]? = some l ∧ l.pc ≠ .idle ∧ Enabled s t :=
  binGN_never_stuck_aux (reachable_inv hr) (reachable_binv hr) hq

/-- **C11: no deadlock.** In every reachable state that is not quiescent, some thread that is NOT idle has an enabled
step. -/
theorem binGN_never_stuck {n : Nat} {s : State} (hr : Reachable n s) (hq : ¬ quiescent s) :
    ∃ (t : Nat) (l : Local), s.threads[t]? = some l ∧ l.pc ≠ .idle ∧
      ∃ (inv : Option (Nat × KOp)) (lo : Bool) (mt : Option Nat) (rz sm sm2 : Bool) (pick : Nat) (s' : State),
        step s t inv lo mt rz sm sm2 pick = some s' := by
  obtain ⟨t, l, hl, hne, he⟩ := binGN_never_stuck_all hr hq
  obtain ⟨s', hs⟩ := Option.isSome_iff_exists.1 (he none false none false false false 0)
  exact ⟨t, l, hl, hne, none, false, none, false, false, false, 0, s', hs⟩

/-- `Enabled` spelled out -/
theorem enabled_iff (s : State) (t : Nat) : Enabled s t ↔
    ∀ (inv : Option (Nat × KOp)) (lo : Bool) (mt : Option Nat) (rz sm sm2 : Bool) (pick : Nat),
      (step s t inv lo mt rz sm sm2 pick).isSome = true := Iff.rfl

end Flurry.Proto.BinGNProg
