import Flurry.Lemmas.SeqOps
import Flurry.Props.C14Arith
/-! # C14 — capacity: never shrinks, removals never grow, growth only at the threshold

`tableLen m` is the number of bins (`0` before the table exists); `m.resizes` counts how many
times a table was replaced by a longer one (the first allocation is not a resize); `m.sizeCtl` is
the growth threshold (three quarters of the length) once the table exists. The arithmetic half
(rounding, thresholds) is `Flurry/Props/C14Arith.lean`. `never_shrinks` and `removal_never_grows` are
read off `step_spec` (`Flurry/Lemmas/SeqOpsCap.lean`), `grow_only_when` and `no_growth_below_threshold`
off `put_spec` (`SeqOpsPut.lean`). The `no_growth_*` theorems put `putAll_no_growth` /
`putAll_no_growth_bins` behind `withCapacity_room` or `reserve_threshold_room` (all in `SeqOpsCap.lean`);
`no_growth_with_room_hash` is an induction of its own over `bin_length_le` (`SeqOpsRoom.lean`: a bin
holds no more nodes than keys hash to it). The last section is about every state of the
concurrent map, on the regenerated table of `add_count` calls: removals pass no resize hint. -/
namespace Flurry.C14
open Flurry Flurry.Gen Flurry.Seq

/-- **the table never shrinks**: no operation shortens it or lowers the resize counter -/
theorem never_shrinks (m : Map) (hg : Good m) (op : Op) :
    tableLen m ≤ tableLen (step m op).1 ∧ m.resizes ≤ (step m op).1.resizes :=
  ⟨(step_post hg op).len_le, (step_post hg op).resizes_le⟩

/-- **removals never grow the table**: `remove`, `remove_entry`, `compute_if_present` (whatever the
callback does), `retain`/`retain_force` (whatever the predicate does), `clear` and the reads never
resize; if the table exists its length and threshold are untouched. (If it does not exist yet,
`compute_if_present` allocates it: an allocation, not growth.) This is the statement that fails on
the code before the repair of finding F3. -/
theorem removal_never_grows (m : Map) (hg : Good m) (op : Op) (hop : op.nonGrowing = true) :
    (step m op).1.resizes = m.resizes ∧
    (m.table ≠ none → tableLen (step m op).1 = tableLen m ∧ (step m op).1.sizeCtl = m.sizeCtl) :=
  step_removal_never_grows hg op hop

/-- the threshold of a well-formed state is three quarters of the table length -/
theorem threshold_three_quarters (m : Map) (t : Table) (hw : WF m) (ht : m.table = some t) :
    m.sizeCtl = (t.length : Int) - (t.length : Int) / 4 := by
  have := (hw.preWF ht).sc
  simpa [loadFactor] using this

/-- **growth only when**: if `insert` / `try_insert` (`nr = true`) resized or lengthened an
existing table, then either the operation met a crowded bin (`treeifyCond` of the bin count the
model computes: the 1-based position of the key in its list bin, the bin length for a new key) in
a small table (`treeifyTooSmall`: fewer than 64 bins), or the key was new and the count reached the
threshold (`size_ctl ≤ count + 1`) with the table below its maximum length. -/
theorem grow_only_when (m : Map) (hg : Good m) (hne : m.table ≠ none) (k ki v vi : Nat) (nr : Bool)
    (h : m.resizes < (put k ki v vi nr m).1.resizes ∨ tableLen m < tableLen (put k ki v vi nr m).1) :
    (treeifyCond (putBinCount k m) = true ∧ treeifyTooSmall (tableLen m) = true) ∨
    (absMap m k = none ∧ m.sizeCtl ≤ m.count + 1 ∧ tableLen m ≠ MAXIMUM_CAPACITY) := by
  by_cases h1 : treeifyCond (putBinCount k m) = false ∨ treeifyTooSmall (tableLen m) = false
  · by_cases h2 : (get k m).isSome = true ∨ m.count + 1 < m.sizeCtl ∨ tableLen m = MAXIMUM_CAPACITY
    · have := (put_spec k ki v vi nr hg).1.noGrow ⟨hne, h1, h2⟩
      omega
    · simp only [not_or, Bool.not_eq_true, Option.isSome_eq_false_iff, Option.isNone_iff_eq_none] at h2
      exact Or.inr ⟨by rw [absMap_apply, h2.1]; rfl, Int.not_lt.1 h2.2.1, h2.2.2⟩
  · simp only [not_or, Bool.not_eq_false] at h1
    exact Or.inl h1

/-- `grow_only_when` in terms of `step`, for `insert` -/
theorem grow_only_when_ins (m : Map) (hg : Good m) (hne : m.table ≠ none) (k ki v vi : Nat)
    (h : m.resizes < (step m (.ins k ki v vi)).1.resizes) :
    (treeifyCond (putBinCount k m) = true ∧ treeifyTooSmall (tableLen m) = true) ∨
    (absMap m k = none ∧ m.sizeCtl ≤ m.count + 1 ∧ tableLen m ≠ MAXIMUM_CAPACITY) :=
  grow_only_when m hg hne k ki v vi false (Or.inl h)

/-- `grow_only_when` when the table does not exist yet (`insert` first allocates it; the allocation is not a
resize): the same with the freshly allocated table's length and threshold -/
theorem grow_only_when_uninit (m : Map) (hg : Good m) (k ki v vi : Nat) (nr : Bool)
    (h : m.resizes < (put k ki v vi nr m).1.resizes) :
    (treeifyCond (putBinCount k m) = true ∧ treeifyTooSmall (tableLen (initTable m)) = true) ∨
    (absMap m k = none ∧ (initTable m).sizeCtl ≤ m.count + 1 ∧
      tableLen (initTable m) ≠ MAXIMUM_CAPACITY) := by
  have := grow_only_when (initTable m) hg.init (initTable_table_ne_none m) k ki v vi nr
    (Or.inl (by rw [← put_initTable k ki v vi nr hg, initTable_resizes]; exact h))
  rw [putBinCount_initTable k hg, (initTable_same m).absMap_eq, initTable_count] at this
  exact this

/-- conversely: with room for one more entry and no crowded bin an insert leaves the table alone -/
theorem no_growth_below_threshold (m : Map) (hg : Good m) (hne : m.table ≠ none) (k ki v vi : Nat)
    (nr : Bool) (hbin : treeifyCond (putBinCount k m) = false) (hroom : m.count + 1 < m.sizeCtl) :
    tableLen (put k ki v vi nr m).1 = tableLen m ∧ (put k ki v vi nr m).1.resizes = m.resizes :=
  have h := (put_spec k ki v vi nr hg).1.noGrow ⟨hne, Or.inl hbin, Or.inr (Or.inl hroom)⟩
  ⟨h.1, h.2.1⟩

/-- **room as requested**: at most `c` inserts into `with_capacity(c)` (`0 < c < 2^29`), none of
which meets a crowded bin, never resize: the table keeps the `presizeCap c` bins it was given. -/
theorem no_growth_with_room (hash : Nat → Nat) (c : Nat) (hc0 : 0 < c) (hc : c < MAXIMUM_CAPACITY / 2)
    (items : List (Nat × Nat × Nat × Nat)) (hlen : items.length ≤ c)
    (hbins : ∀ pre it post, items = pre ++ it :: post →
      treeifyCond (putBinCount it.1 (putAll pre (withCapacity hash c))) = false) :
    tableLen (putAll items (withCapacity hash c)) = presizeCap c ∧
    (putAll items (withCapacity hash c)).resizes = 0 :=
  Seq.no_growth_with_room hash c hc0 hc items hlen hbins

/-- `no_growth_with_room` when no bin ever holds 8 (`TREEIFY_THRESHOLD`) nodes -/
theorem no_growth_with_room_bins (hash : Nat → Nat) (c : Nat) (hc0 : 0 < c)
    (hc : c < MAXIMUM_CAPACITY / 2) (items : List (Nat × Nat × Nat × Nat)) (hlen : items.length ≤ c)
    (hbins : ∀ pre it post, items = pre ++ it :: post →
      BinsBelow TREEIFY_THRESHOLD (putAll pre (withCapacity hash c))) :
    tableLen (putAll items (withCapacity hash c)) = presizeCap c ∧
    (putAll items (withCapacity hash c)).resizes = 0 := by
  obtain ⟨hne, hroom, hl, hr⟩ := withCapacity_room hash hc0 hc hlen
  obtain ⟨h1, h2, _⟩ := putAll_no_growth_bins items (good_withCapacity hash c) hne hroom hbins
  exact ⟨h1.trans hl, h2.trans hr⟩

/-- `no_growth_with_room` with a hypothesis on the inputs only: fewer than 8 of the inserted keys hash to any one
of the `presizeCap c` bins (`keysInBin`: how many of the keys `bini (hash k) n` sends to bin `i`) -/
theorem no_growth_with_room_hash (hash : Nat → Nat) (c : Nat) (hc0 : 0 < c)
    (hc : c < MAXIMUM_CAPACITY / 2) (items : List (Nat × Nat × Nat × Nat)) (hlen : items.length ≤ c)
    (hbins : ∀ i, keysInBin hash (presizeCap c) i (items.map (·.1)) < TREEIFY_THRESHOLD) :
    tableLen (putAll items (withCapacity hash c)) = presizeCap c ∧
    (putAll items (withCapacity hash c)).resizes = 0 := by
  -- by induction on the number of items: the table of every proper prefix has kept its length,
  -- so its bins are the `presizeCap c` bins the hypothesis speaks of
  suffices h : ∀ (n : Nat) (items : List (Nat × Nat × Nat × Nat)), items.length = n →
      items.length ≤ c →
      (∀ i, keysInBin hash (presizeCap c) i (items.map (·.1)) < TREEIFY_THRESHOLD) →
      tableLen (putAll items (withCapacity hash c)) = presizeCap c ∧
      (putAll items (withCapacity hash c)).resizes = 0 from h _ items rfl hlen hbins
  intro n
  induction n using Nat.strongRecOn with
  | _ n ih =>
    intro items hn hlen hbins
    refine no_growth_with_room_bins hash c hc0 hc items hlen ?_
    intro pre it post he
    have hlt : pre.length < n := by rw [← hn, he]; simp
    have hle : ∀ i, keysInBin hash (presizeCap c) i (pre.map (·.1)) ≤
        keysInBin hash (presizeCap c) i (items.map (·.1)) := by
      intro i; rw [he, List.map_append, keysInBin_append]; omega
    obtain ⟨hl, -⟩ := ih pre.length hlt pre rfl (by omega)
      (fun i => Nat.lt_of_le_of_lt (hle i) (hbins i))
    obtain ⟨hsp, habs⟩ := putAll_spec pre (good_withCapacity hash c)
    intro t ht i
    have hkeys : ∀ k, (absMap (putAll pre (withCapacity hash c)) k).isSome = true →
        k ∈ pre.map (·.1) := by
      intro k hk
      rw [habs, absMap_withCapacity] at hk
      exact (Ref.insertAll_isSome hk).resolve_left (fun h => nomatch h)
    have := bin_length_le hsp.good ht (pre.map (·.1)) hkeys i
    rw [hsp.hash, withCapacity_hash, ← tableLen_of_some ht, hl] at this
    exact Nat.lt_of_le_of_lt this (Nat.lt_of_le_of_lt (hle i) (hbins i))

/-- **`reserve`: room as requested.** After `reserve(a)` on a map holding `len m` entries
(`len m + a < 2^29`) the table exists and the growth threshold is strictly above `count + a`.
No hypothesis on the table length: if `try_presize` stopped because the table is at its maximum
length `2^30`, the threshold is `3 * 2^28 > 2^29`. -/
theorem reserve_threshold_room (m : Map) (hg : Good m) (a : Nat)
    (hs : len m + a < MAXIMUM_CAPACITY / 2) :
    (reserve a m).table ≠ none ∧ (reserve a m).count + (a : Int) < (reserve a m).sizeCtl :=
  Seq.reserve_threshold_room a hg hs

/-- **a map on which `reserve(a)` returned holds a further `a` entries without growing its
table**: at most `a` inserts after `reserve(a)` (`len m + a < 2^29`), none of which meets a crowded
bin, never resize; the table keeps the length `reserve` left it with. -/
theorem no_growth_after_reserve (m : Map) (hg : Good m) (a : Nat)
    (hs : len m + a < MAXIMUM_CAPACITY / 2)
    (items : List (Nat × Nat × Nat × Nat)) (hlen : items.length ≤ a)
    (hbins : ∀ pre it post, items = pre ++ it :: post →
      treeifyCond (putBinCount it.1 (putAll pre (reserve a m))) = false) :
    tableLen (putAll items (reserve a m)) = tableLen (reserve a m) ∧
    (putAll items (reserve a m)).resizes = (reserve a m).resizes :=
  Seq.no_growth_after_reserve hg a hs items hlen hbins

/-- `no_growth_after_reserve` when no bin ever holds 8 (`TREEIFY_THRESHOLD`) nodes -/
theorem no_growth_after_reserve_bins (m : Map) (hg : Good m) (a : Nat)
    (hs : len m + a < MAXIMUM_CAPACITY / 2)
    (items : List (Nat × Nat × Nat × Nat)) (hlen : items.length ≤ a)
    (hbins : ∀ pre it post, items = pre ++ it :: post →
      BinsBelow TREEIFY_THRESHOLD (putAll pre (reserve a m))) :
    tableLen (putAll items (reserve a m)) = tableLen (reserve a m) ∧
    (putAll items (reserve a m)).resizes = (reserve a m).resizes := by
  obtain ⟨hne, hroom⟩ := Seq.reserve_threshold_room a hg hs
  obtain ⟨h1, h2, _⟩ := putAll_no_growth_bins items (reserve_good a hg) hne
    (Int.lt_of_le_of_lt (Int.add_le_add_left (Int.ofNat_le.2 hlen) _) hroom) hbins
  exact ⟨h1, h2⟩

/-- **the table length is a power of two `≤ 2^30`** (or the table does not exist yet) -/
theorem table_len_pow2 (m : Map) (hw : WF m) :
    m.table = none ∨ ((∃ k, tableLen m = 2 ^ k) ∧ tableLen m ≤ MAXIMUM_CAPACITY) := by
  cases ht : m.table with
  | none => exact Or.inl rfl
  | some t =>
    right
    rw [tableLen_of_some ht]
    exact ⟨(hw.tableWF ht).1, (hw.tableWF ht).2.1⟩

/-- never shrinks along any run: a longer run has a table at least as long -/
theorem reachable_never_shrinks (hash : Nat → Nat) (c : Nat) (ops₁ ops₂ : List Op) :
    tableLen (run (withCapacity hash c) ops₁).1 ≤ tableLen (run (withCapacity hash c) (ops₁ ++ ops₂)).1 ∧
    (run (withCapacity hash c) ops₁).1.resizes ≤ (run (withCapacity hash c) (ops₁ ++ ops₂)).1.resizes := by
  rw [run_append]
  exact ⟨(run_post (run_good (good_withCapacity hash c) ops₁) ops₂).len_le,
    (run_post (run_good (good_withCapacity hash c) ops₁) ops₂).resizes_le⟩

/-- after any run, a run of removals and reads does not resize -/
theorem reachable_removal_never_grows (hash : Nat → Nat) (c : Nat) (ops₁ ops₂ : List Op)
    (hops : ∀ op ∈ ops₂, op.nonGrowing = true) :
    (run (withCapacity hash c) (ops₁ ++ ops₂)).1.resizes = (run (withCapacity hash c) ops₁).1.resizes ∧
    ((run (withCapacity hash c) ops₁).1.table ≠ none →
      tableLen (run (withCapacity hash c) (ops₁ ++ ops₂)).1 = tableLen (run (withCapacity hash c) ops₁).1) := by
  rw [run_append]
  exact run_removal_never_grows (run_good (good_withCapacity hash c) ops₁) ops₂ hops

/-- every reachable table length is a power of two `≤ 2^30` -/
theorem reachable_table_len_pow2 (hash : Nat → Nat) (c : Nat) (ops : List Op) :
    (run (withCapacity hash c) ops).1.table = none ∨
    ((∃ k, tableLen (run (withCapacity hash c) ops).1 = 2 ^ k) ∧
      tableLen (run (withCapacity hash c) ops).1 ≤ MAXIMUM_CAPACITY) :=
  table_len_pow2 _ (run_good (good_withCapacity hash c) ops).wf

example : Good ex2 ∧ tableLen ex2 = 8 ∧ ex2.sizeCtl = 6 ∧ ex2.count = 2 :=
  ⟨ex2_good, by decide +kernel, by decide +kernel, by decide +kernel⟩
/-- the sixth entry reaches the threshold: the table is doubled, once -/
example : let r := (run ex2 [.ins 3 0 0 0, .ins 4 0 0 0, .ins 5 0 0 0]).1
    tableLen r = 8 ∧ tableLen (step r (.ins 6 0 0 0)).1 = 16 ∧ (step r (.ins 6 0 0 0)).1.resizes = 1 := by
  decide +kernel
/-- four keys into `with_capacity(4)`: no bin gets 8 of them, whatever the hash function -/
example (hash : Nat → Nat) :
    tableLen (putAll [(1, 0, 0, 0), (2, 0, 0, 0), (3, 0, 0, 0), (4, 0, 0, 0)] (withCapacity hash 4)) =
      presizeCap 4 :=
  (no_growth_with_room_hash hash 4 (by decide +kernel) (by decide +kernel) _ (by decide +kernel)
    (fun i => Nat.lt_of_le_of_lt (List.length_filter_le _ _) (by decide +kernel))).1
/-- removing all of them again does not change the length -/
example : tableLen (run ex2 [.rm 1, .cip 2 (fun _ _ _ => .remove), .clear]).1 = 8 := by decide +kernel

/-- the rounding of the request (`npow2` is defined by well-founded recursion, so `decide` does not
evaluate it): `reserve(5)` with 2 entries asks for `npow2 (7 + 3 + 1) = 16` -/
theorem reserve_5_ex2 : reserve 5 ex2 = tryPresize.go 16 64 ex2 := by
  have h1 : len ex2 = 2 := by decide +kernel
  have h2 : tryPresizeCap 7 = 16 := by simp [tryPresizeCap, npow2, npow2Go, MAXIMUM_CAPACITY]
  unfold reserve tryPresize
  rw [h1]
  exact congrArg (fun r => tryPresize.go r 64 ex2) h2

/-- it doubles the table twice (threshold 12 is below 16): 32 bins, threshold 24, still 2 entries -/
example : tableLen (reserve 5 ex2) = 32 ∧ (reserve 5 ex2).sizeCtl = 24 ∧ (reserve 5 ex2).count = 2 ∧
    (reserve 5 ex2).resizes = 2 := by
  rw [reserve_5_ex2]; decide

/-- the hypotheses of `no_growth_after_reserve` hold for five new keys, among them the insert
that doubled the table of `ex2` above: after `reserve(5)` the table keeps its 32 bins -/
example :
    tableLen (putAll [(3, 0, 0, 0), (4, 0, 0, 0), (5, 0, 0, 0), (6, 0, 0, 0), (7, 0, 0, 0)]
      (reserve 5 ex2)) = 32 := by
  have h : tableLen (reserve 5 ex2) = 32 := by rw [reserve_5_ex2]; decide
  rw [← h]
  refine (no_growth_after_reserve ex2 ex2_good 5 (by decide +kernel) _ (by decide +kernel) ?_).1
  intro pre it post he
  rw [reserve_5_ex2]
  match pre, he with
  | [], he => cases he; decide
  | [_], he => cases he; decide
  | [_, _], he => cases he; decide
  | [_, _, _], he => cases he; decide
  | [_, _, _, _], he => cases he; decide
  | _ :: _ :: _ :: _ :: _ :: _, he => simp at he

/-! ## removals never ask for a resize (finding F10)

Under concurrency the map can come to rest with `count ≥ size_ctl` (inserts that race with the
final phase of a resize started by `reserve` / `try_presize` neither join it nor start the next
one, and `try_presize` does not look at the count when it is done). `removal_never_grows` above is
about the sequential model, where that state is unreachable; what keeps a removal from growing the
table in *every* state is that no removing call hands `add_count` a resize hint, and that
`add_count` without a hint returns before it looks at `size_ctl`. Both facts are regenerated from
`src/map.rs` on every run (`Gen/Arith.lean`: `addCountCalls`, one row per call of `add_count`:
enclosing function, sign of the delta as written, "the hint is `None`"). On the code before the
repair of F10 the row of `compute_if_present` is `("compute_if_present", "neg", false)` and the
first theorem is false; the scheduled scenario `overdue-then-removing-compute` shows the table
growing from 64 to 128 bins inside `compute_if_present(.., |..| None)` on that code. -/
section RemovalHints
open Flurry.Gen

/-- every call of `add_count` whose delta is not a positive literal passes `None` as its hint,
and `add_count` returns early without a hint -/
theorem removals_pass_no_hint :
    (addCountCalls.all fun c => c.2.1 == "pos" || c.2.2) = true ∧ addCountNoHintReturns = true := by decide +kernel

/-- not vacuous: the removing paths are in the table, and only `put` passes a hint -/
theorem removal_calls_present :
    (addCountCalls.any fun c => c.1 == "compute_if_present" && c.2.1 == "neg") = true ∧
    (addCountCalls.any fun c => c.1 == "replace_node" && c.2.1 == "neg") = true ∧
    (addCountCalls.any fun c => c.1 == "clear") = true ∧
    (addCountCalls.all fun c => c.2.2 || c.1 == "put") = true := by decide +kernel

end RemovalHints

end Flurry.C14
