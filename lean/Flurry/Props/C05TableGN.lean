import Flurry.Proto.TableGN
import Flurry.Props.C01TableGN
import Flurry.Props.C05BinGN
import Flurry.Lemmas.TableGNL
import Flurry.Lemmas.TableGNLExamples
/-! # C05 (table level, concurrent model, list AND tree bins, ANY NUMBER of resizes): at quiescence iteration over the
table = lookup, nothing half-done is left behind

> Whenever no operation is in flight, iteration yields exactly the keys for which lookup succeeds —
> each exactly once and with the value lookup returns. Every entry then resides where a lookup for its
> hash searches, no key occurs twice, no forwarding marker or half-finished resize is left behind, and
> no lock is left held.

`Proto/TableGN`: `m` lineages (`Proto/BinGN`: list bins, tree bins, any number of resizes), key `k` of the table in
lineage `k % m` (`lineageOf m k`) under the local name `k / m` (`localKey m k`), one clock, any number of threads.
`quiescent S`: every thread is idle in every lineage. Inside lineage `i` the nodes hold LOCAL keys `q`; the key of
the table such a node stands for is `globalKey m i q = i + m * q`.

* `entries S`: the entries of all lineages, lineage by lineage (`BinGNQ.entries`: the lists of the live cells of the
  lineage — at quiescence the cells `(cur, 0) … (cur, 2^cur − 1)`), each re-keyed to the key of the table
  (`rekey m i (q, v) = (i + m * q, v)`) — what an iterator over the whole table that starts now and runs alone yields;
* `absMap S k`: what a lookup of `k` finds (the abstract state of `k / m` in lineage `k % m`); by
  `tableGN_map_linearizable` it is the map the ONE sequential order of all completed calls leads to.

Lineage-local facts lift through `tableGN_lineage_reachable`. What is global — no key twice ACROSS lineages, an entry
is in the lineage of its key — is the arithmetic of the key translation: `i + m * q` determines `i < m` and `q`
(`TableN.tableN_key_translation`); no "keys stay in their lineage" invariant is needed (unlike `Props/C05TableG.lean`,
where the lineages store the keys of the table). Hence the list facts hold in every reachable state
(`tableGN_reachable_iter_agrees`); quiescence is what makes the abstract map the outcome of the linearization of the
completed calls, and what leaves nothing locked or half-resized. The bin: an entry with key `k` sits in lineage
`k % m`, cell `(cur, (k / m) % 2^cur)`, which is bin `k % (m * 2^cur)` of the table of length `m * 2^cur`
(`TableN.bin_index_eq_mod`). Proofs: `Lemmas/TableGNL.lean`. -/
namespace Flurry.Proto.TableGNL
open Flurry.Lin Flurry.LinMap Flurry.Proto.TableGN
open Flurry.Proto.TableN (lineageOf localKey globalKey)
open Flurry.Proto.BinK (nodeAt binAt)

/-- every lineage of a reachable quiescent table is a reachable quiescent `Proto/BinGN` lineage: all of
`Props/C05BinGN.lean` applies to it -/
theorem tableGN_lineage_quiescent {m n : Nat} {S : State} (hr : Reachable m n S) (hq : quiescent S)
    {b : BinGN.State} (hb : b ∈ S.bins) : BinGN.Reachable n b ∧ BinGN.quiescent b := lineage_quiescent hr hq hb

/-- `entries S`, spelled out: the concatenation over the lineages `i = 0 … m − 1` of the lineage's entries
(`BinGNQ.entries`), the local key `q` of an entry replaced by the key `i + m * q` of the table -/
theorem tableGN_entries_eq {m n : Nat} {S : State} (hr : Reachable m n S) :
    entries S = (List.range m).flatMap fun i =>
      (BinGNQ.entries (S.bins.getD i (BinGN.init 0))).map fun e => (globalKey m i e.1, e.2) := by
  unfold entries lineageEntries
  rw [bins_length hr]
  rfl

/-- … as a membership: `(k, v)` is yielded iff some lineage `i` yields `(q, v)` with `k = i + m * q` -/
theorem tableGN_mem_entries {m n : Nat} {S : State} (hr : Reachable m n S) {k : Nat} {v : Nat × Nat} :
    (k, v) ∈ entries S ↔ ∃ (i : Nat) (b : BinGN.State) (q : Nat), S.bins[i]? = some b ∧
      (q, v) ∈ BinGNQ.entries b ∧ k = globalKey m i q := by
  rw [mem_entries, bins_length hr]

/-- **iteration over the whole table yields exactly the keys for which lookup succeeds, with the value lookup
returns** -/
theorem tableGN_quiescent_iter_agrees {m n : Nat} {S : State} (hr : Reachable m n S) (_hq : quiescent S)
    (hm : 0 < m) : ∀ k v, (k, v) ∈ entries S ↔ absMap S k = some v := mem_entries_iff_absMap hr hm

/-- **no key occurs twice**, across ALL lineages and all their cells: within a lineage the local keys are distinct
(`BinGN.quiescent_keys_distinct`) and `q ↦ i + m * q` is injective; the keys of different lineages differ modulo `m` -/
theorem tableGN_quiescent_keys_distinct {m n : Nat} {S : State} (hr : Reachable m n S) (_hq : quiescent S) :
    ((entries S).map (·.1)).Nodup := entries_keys_nodup hr

/-- no entry is yielded twice -/
theorem tableGN_quiescent_entries_nodup {m n : Nat} {S : State} (hr : Reachable m n S) (_hq : quiescent S) :
    (entries S).Nodup := nodup_of_keys_nodup (entries_keys_nodup hr)

/-- **each exactly once — the count**: the keys yielded are the keys of the abstract map, without repetition; any
duplicate-free enumeration of the keys of the abstract map is a permutation of the keys yielded, and the number of
entries is the number of keys of the map -/
theorem tableGN_quiescent_len {m n : Nat} {S : State} (hr : Reachable m n S) (_hq : quiescent S) (hm : 0 < m) :
    ((entries S).map (·.1)).Nodup ∧ (∀ k, k ∈ (entries S).map (·.1) ↔ absMap S k ≠ none) ∧
    ∀ ks : List Nat, ks.Nodup → (∀ k, k ∈ ks ↔ absMap S k ≠ none) →
      ks.Perm ((entries S).map (·.1)) ∧ ks.length = (entries S).length :=
  entries_len (entries_keys_nodup hr) (mem_entries_iff_absMap hr hm)

/-- iteration yields the map that the one sequential order of all completed calls on all keys leads to -/
theorem tableGN_quiescent_iter_is_linearized_map {m n : Nat} {S : State} (hr : Reachable m n S) (hq : quiescent S)
    (hm : 0 < m) :
    LinMap.MapLinearizable (mhist S) (fun _ => none) (absMap S) ∧ ∀ k v, (k, v) ∈ entries S ↔ absMap S k = some v :=
  ⟨tableGN_map_linearizable hm hr hq, mem_entries_iff_absMap hr hm⟩

/-- **no forwarding marker or half-finished resize is left behind**: at quiescence, in every lineage, no resize is
running, exactly the generations `0 … cur` exist (generation `g` with `2^g` cells), every older generation is entirely
forwarded, generation `cur` holds no forwarding marker, every lookup ends in generation `cur`, and the live cells are
exactly the cells `(cur, 0) … (cur, 2^cur − 1)`. (Different lineages may be at different generations: the table
pointer is modelled per lineage, see `Proto/TableGN.lean`.) -/
theorem tableGN_quiescent_no_half_resize {m n : Nat} {S : State} (hr : Reachable m n S) (hq : quiescent S) :
    ∀ b ∈ S.bins, b.resizing = false ∧ b.tabs.length = b.cur + 1 ∧
      (∀ g row, b.tabs[g]? = some row → row.length = 2 ^ g) ∧
      (∀ g j, g < b.cur → j < 2 ^ g → BinGN.cellAt b g j = .moved) ∧
      (∀ j, BinGN.cellAt b b.cur j ≠ .moved) ∧
      (∀ k, BinGN.liveCell b k = BinGN.cellOf b b.cur k) ∧
      BinGNQ.liveCells b = (List.range (2 ^ b.cur)).map (fun j => BinGN.cellAt b b.cur j) :=
  fun _ hb => BinGN.quiescent_no_half_resize (lineage_quiescent hr hq hb).1 (lineage_quiescent hr hq hb).2

/-- **no lock is left held**, in any lineage: every lock word of every node is free, every mutex is free, no `TreeBin`
has a reader inside, every `TreeBin` in a cell (of any generation) has its write lock and waiter bit clear -/
theorem tableGN_quiescent_unlocked {m n : Nat} {S : State} (hr : Reachable m n S) (hq : quiescent S) :
    ∀ b ∈ S.bins, (∀ j, (nodeAt b.heap j).lock = none) ∧ (∀ x, (binAt b.tbins x).mutex = none) ∧
      (∀ x, x < b.tbins.length → (binAt b.tbins x).readers = 0) ∧
      ∀ g j x, BinGN.cellAt b g j = .tree x → (binAt b.tbins x).writer = false ∧ (binAt b.tbins x).waiter = false :=
  fun _ hb => BinGN.quiescent_unlocked (lineage_quiescent hr hq hb).1 (lineage_quiescent hr hq hb).2

/-- for every `TreeBin` in a live cell of any lineage the tree set is the list set -/
theorem tableGN_quiescent_tree_eq_list {m n : Nat} {S : State} (hr : Reachable m n S) (hq : quiescent S)
    {b : BinGN.State} (hb : b ∈ S.bins) {x : Nat} (hc : Flurry.Proto.BinG.Cell.tree x ∈ BinGNQ.liveCells b) :
    (binAt b.tbins x).mutex = none ∧ (binAt b.tbins x).writer = false ∧
    ∀ i, i < b.heap.length → ((nodeAt b.heap i).owner = some x ∧ (nodeAt b.heap i).inTree = true ↔
      i ∈ BinGN.chainOfBin b x) :=
  BinGN.quiescent_live_tree_eq_list (lineage_quiescent hr hq hb).1 (lineage_quiescent hr hq hb).2 hc

/-- **every entry resides where a lookup for its key searches**: an entry with key `k` is in lineage `k % m`, under
the local name `k / m`, on the list of cell `(cur, (k / m) % 2^cur)` of that lineage — the cell in which a lookup of
`k` ends — and that cell is bin `k % (m * 2^cur)` of the table of length `m * 2^cur`
(`k % m + m * ((k / m) % 2^cur) = k % (m * 2^cur)`) -/
theorem tableGN_quiescent_entry_in_own_bin {m n : Nat} {S : State} (hr : Reachable m n S) (hq : quiescent S)
    (hm : 0 < m) {k : Nat} {v : Nat × Nat} (he : (k, v) ∈ entries S) :
    ∃ b, S.bins[lineageOf m k]? = some b ∧ (localKey m k, v) ∈ BinGNQ.entries b ∧
      (localKey m k, v) ∈ BinGNQ.entriesOfCell b (BinGN.cellAt b b.cur (localKey m k % 2 ^ b.cur)) ∧
      BinGN.liveCell b (localKey m k) = BinGN.cellAt b b.cur (localKey m k % 2 ^ b.cur) ∧
      lineageOf m k + m * (localKey m k % 2 ^ b.cur) = k % (m * 2 ^ b.cur) := by
  obtain ⟨b, hb, hent, hcell⟩ := entry_lineage hr hm he
  have hrb := (reachable_tblInv hr).reach _ b hb
  have hqb : BinGN.quiescent b := hq b (List.mem_of_getElem? hb)
  have hlive := (BinGN.quiescent_no_half_resize hrb hqb).2.2.2.2.2.1 (localKey m k)
  refine ⟨b, hb, hent, ?_, hlive, TableN.bin_index_eq_mod m b.cur k⟩
  rw [hlive] at hcell
  exact hcell

/-- conversely, cell by cell: an entry found on the list of cell `(cur, j)` of lineage `i` — local key `q`, key
`i + m * q` of the table — has `q % 2^cur = j`, i.e. its key selects bin `i + m * j` of the table of length
`m * 2^cur`: `(i + m * q) % (m * 2^cur) = i + m * j` -/
theorem tableGN_quiescent_cell_keys {m n : Nat} {S : State} (hr : Reachable m n S) (hq : quiescent S)
    {i : Nat} {b : BinGN.State} (hb : S.bins[i]? = some b) {j q : Nat} {v : Nat × Nat}
    (he : (q, v) ∈ BinGNQ.entriesOfCell b (BinGN.cellAt b b.cur j)) :
    q % 2 ^ b.cur = j ∧ lineageOf m (globalKey m i q) = i ∧ localKey m (globalKey m i q) = q ∧
      globalKey m i q % (m * 2 ^ b.cur) = i + m * j := by
  have I := reachable_tblInv hr
  have hrb := I.reach i b hb
  have hqb : BinGN.quiescent b := hq b (List.mem_of_getElem? hb)
  have hi : i < m := I.len ▸ (List.getElem?_eq_some_iff.1 hb).1
  have hj := (BinGN.quiescent_entry_in_own_cell hrb hqb (k := q) (v := v)).1 j he
  have h1 := TableN.lineageOf_globalKey hi q
  have h2 := TableN.localKey_globalKey hi q
  refine ⟨hj, h1, h2, ?_⟩
  have := TableN.bin_index_eq_mod m b.cur (globalKey m i q)
  rw [h1, h2, hj] at this
  exact this.symm

/-! ## the same without quiescence -/

/-- in every reachable state — also while resizes are running in some lineages and calls are in flight — the entries on
the live lists of the whole table are exactly the abstract map, no key twice across all lineages, and every entry is
in the lineage of its key, on the list of the cell a lookup of the key ends in -/
theorem tableGN_reachable_iter_agrees {m n : Nat} {S : State} (hr : Reachable m n S) (hm : 0 < m) :
    ((entries S).map (·.1)).Nodup ∧ (∀ k v, (k, v) ∈ entries S ↔ absMap S k = some v) ∧
    ∀ k v, (k, v) ∈ entries S → ∃ b, S.bins[lineageOf m k]? = some b ∧ (localKey m k, v) ∈ BinGNQ.entries b ∧
      (localKey m k, v) ∈ BinGNQ.entriesOfCell b (BinGN.liveCell b (localKey m k)) :=
  ⟨entries_keys_nodup hr, mem_entries_iff_absMap hr hm, fun _ _ he => entry_lineage hr hm he⟩

/-! ## non-vacuity (`Lemmas/TableGNLExamples.lean`, kernel-checked by `decide`) -/

/-- the end of the run of `Lemmas/TableGNExamples.lean` (two lineages, two threads; lineage 0 resized once with a tree
bin transferred, lineage 1 still at generation 0): reachable, quiescent, the iterator yields the keys 0, 4 (lineage 0,
cell `(1, 0)`, a `TreeBin`: local keys 0, 2) and 2, 6 (lineage 0, cell `(1, 1)`, a list: local keys 1, 3), nothing in
lineage 1 — exactly the abstract map on the keys `0 … 7` —, and, as the theorems say, iteration = lookup for EVERY key,
no key twice, no resize left half-done -/
example : ∃ S : State, Reachable 2 2 S ∧ quiescent S ∧
    entries S = [(0, (10, 100)), (4, (40, 400)), (2, (20, 200)), (6, (60, 600))] ∧
    S.bins.map BinGNQ.liveCells = [[.tree 1, .list 8], [.empty]] ∧
    (List.range 8).map (absMap S) =
      [some (10, 100), none, some (20, 200), none, some (40, 400), none, some (60, 600), none] ∧
    (∀ k v, (k, v) ∈ entries S ↔ absMap S k = some v) ∧ ((entries S).map (·.1)).Nodup ∧
    (∀ b ∈ S.bins, b.resizing = false) := by
  obtain ⟨S, hr, hq, he, hl, ha⟩ := example_end
  exact ⟨S, hr, hq, he, hl, ha, tableGN_quiescent_iter_agrees hr hq (by decide), tableGN_quiescent_keys_distinct hr hq,
    fun b hb => (tableGN_quiescent_no_half_resize hr hq b hb).1⟩

/-- a NON-quiescent state, the middle of that run: thread 0 is in the middle of the transfer of the tree bin of lineage
0 (the two new bins are stored, the old cell is forwarded, it still holds the old mutex), thread 1 reads inside the old
`TreeBin`; the entries on the live lists — lineage 0: the two cells of generation 1; lineage 1: key 1 — are the
abstract map (`tableGN_reachable_iter_agrees`) -/
example : ∃ S : State, Reachable 2 2 S ∧ pcs S = [[.xUnlock (.inr 0), .rTree 0], [.idle, .idle]] ∧
    entries S = [(0, (10, 100)), (4, (40, 400)), (2, (20, 200)), (1, (11, 101))] ∧
    (∀ k v, (k, v) ∈ entries S ↔ absMap S k = some v) := by
  obtain ⟨S, -, hr, hp, he, -, -⟩ := example_busy
  exact ⟨S, hr, hp, he, (tableGN_reachable_iter_agrees hr (by decide)).2.1⟩

end Flurry.Proto.TableGNL
