import Flurry.Lemmas.SeqOps
/-! # C02 — sequential operations refine a reference map

`Flurry.Seq.step` (`Flurry/Seq/Step.lean`, with `run`, `Op.total`, `Op.answered`) runs one public
operation of `src/map.rs` on the sequential model (`Flurry/Seq/Model.lean`, tied to the code by
differential testing); `Ref.step` (same file) does it on the reference map
`key ↦ (stored key instance, value, value id)`, and `Ref.run`, its run over a list of operations, is
defined in `Flurry/Lemmas/SeqOps.lean`. `absMap m` (`Flurry/Seq/Inv.lean`) is the abstraction of a model state.
`Good m` is the invariant: `WF m` (well formed at quiescence, see C05) and `InitOk m`
(`size_ctl` is `0` or a requested power-of-two capacity while the table does not exist).

The lemmas are in `Flurry/Lemmas/SeqOps*.lean`; this file only states what C02 needs. -/
namespace Flurry.C02
open Flurry Flurry.Seq

/-- **one operation**: from a `Good` state every operation (with a predicate that does not
panic) leads to a `Good` state, changes the abstract map exactly as the reference map does, and
gives the reference's answer. -/
theorem step_refines (m : Map) (hg : Good m) (op : Op) (ht : op.total) :
    Good (step m op).1 ∧ absMap (step m op).1 = (Ref.step (absMap m) op).1 ∧
    (op.answered = true → (step m op).2 = (Ref.step (absMap m) op).2) :=
  step_refines_lemma hg op ht

/-- the two operations the reference does not answer by itself: `len` is the number of keys
present in the abstract map (no key counted twice), `is_empty` says whether that is `0` -/
theorem len_spec (m : Map) (hg : Good m) :
    ∃ keys : List Nat, keys.Nodup ∧ (∀ k, k ∈ keys ↔ (absMap m k).isSome = true) ∧
      step m .len = (m, .nat keys.length) ∧ step m .isEmpty = (m, .bool (keys.length == 0)) := by
  refine ⟨(entries m).map (·.key), entries_keys_nodup_of_good hg,
    fun k => (absMap_isSome_iff hg k).symm, ?_, ?_⟩
  · rw [step_len, len_eq_keys_length hg]
  · rw [step_isEmpty, len_eq_keys_length hg]

/-- **operation sequences**: for *every* hash function, every requested capacity and every list
of operations, running the operations on `with_capacity(c)` gives a `Good` state whose abstract
map is the one the reference map reaches from the empty map, and the same answers (position by
position, for the operations the reference answers). -/
theorem seq_refines (hash : Nat → Nat) (c : Nat) (ops : List Op) (ht : ∀ op ∈ ops, op.total) :
    let r := run (withCapacity hash c) ops
    let s := Ref.run Ref.empty ops
    Good r.1 ∧ absMap r.1 = s.1 ∧ r.2.length = ops.length ∧ s.2.length = ops.length ∧
    ∀ (i : Nat) (op : Op), ops[i]? = some op → op.answered = true → r.2[i]? = s.2[i]? := by
  have := run_refines (good_withCapacity hash c) ops ht
  rw [absMap_withCapacity] at this
  exact this

/-- the same from any `Good` state -/
theorem seq_refines_from (m : Map) (hg : Good m) (ops : List Op) (ht : ∀ op ∈ ops, op.total) :
    Good (run m ops).1 ∧ absMap (run m ops).1 = (Ref.run (absMap m) ops).1 ∧
    ∀ (i : Nat) (op : Op), ops[i]? = some op → op.answered = true →
      (run m ops).2[i]? = (Ref.run (absMap m) ops).2[i]? := by
  obtain ⟨a, b, _, _, e⟩ := run_refines hg ops ht
  exact ⟨a, b, e⟩

/-- **the first key instance is kept**: `insert(k', v)` with `k' == k` for a present key `k`
replaces the value but keeps the key object stored first. -/
theorem first_key_kept (m : Map) (hg : Good m) (k ki ki' v vi v0 vi0 : Nat)
    (hpre : absMap m k = some (ki, v0, vi0)) :
    absMap (step m (.ins k ki' v vi)).1 k = some (ki, v, vi) := by
  show absMap (put k ki' v vi false m).1 k = _
  rw [put_absMap k ki' v vi false hg]
  simp [Ref.insert, hpre]

/-- `try_insert` of a present key changes nothing and reports the current value -/
theorem try_insert_present (m : Map) (hg : Good m) (k ki ki' v vi v0 vi0 : Nat)
    (hpre : absMap m k = some (ki, v0, vi0)) :
    absMap (step m (.tryIns k ki' v vi)).1 = absMap m ∧
    (step m (.tryIns k ki' v vi)).2 = .exists_ v0 vi0 := by
  obtain ⟨_, h2, h3⟩ := step_refines m hg (.tryIns k ki' v vi) trivial
  rw [h2, h3 rfl]
  simp [Ref.step, hpre]

example : Good ex2 ∧ ex2 = (run (withCapacity (fun k => k) 4) [.ins 1 7 10 100, .ins 2 8 20 200]).1 :=
  ⟨ex2_good, by rw [withCapacity_id_4]; rfl⟩
example : absMap ex2 1 = some (7, 10, 100) ∧ absMap ex2 3 = none ∧ len ex2 = 2 := by decide +kernel
example : absMap (step ex2 (.ins 1 9 11 101)).1 1 = some (7, 11, 101) :=
  first_key_kept ex2 ex2_good 1 7 9 11 101 10 100 (by decide +kernel)
example : (run ex0 [.ins 1 7 10 100, .tryIns 1 8 20 200, .rm 1, .get 1]).2 =
    [.none, .exists_ 10 100, .some 10 100, .none] := by decide +kernel

end Flurry.C02
