import Flurry.Gen.Arith
import Flurry.Lemmas.Arith
/-! # C10 (arithmetic half): the resize stamp and the `size_ctl` word

All statements are about the definitions *generated* from `/repo/src/map.rs`
(`resize_stamp`, `RESIZE_STAMP_SHIFT`, `MAX_RESIZERS`, the `rs + 2` initiation, the join
refusals, the `(sc - 2) != rs` finisher test, the post-resize threshold), on `BitVec 64` with
Rust's wrapping semantics. "All 31 legal table lengths" = `2^k`, `k ≤ 30`. -/
namespace Flurry.C10
open Flurry.Gen

/-- the table length `2^k` as a machine word -/
def len (k : Fin 31) : BitVec 64 := 1#64 <<< k.val

/-- the stamp as a number: bit 63, `clz (2^k) = 63 - k` in the bits above 32, nothing below
(the three facts below are arithmetic on this value) -/
theorem stamp_val : ∀ k : Fin 31, (BV.rsOf (len k)).toNat = (2 ^ 31 + 63 - k.val) * 2 ^ 32 := by
  decide +kernel

/-- `rs` is negative for every legal table length (`size_ctl < 0` ⇔ "resizing"). -/
theorem stamp_negative : ∀ k : Fin 31, (BV.rsOf (len k)).msb = true := by
  intro k
  rw [BitVec.msb_eq_decide, stamp_val, decide_eq_true_eq]
  omega

/-- the low half of `rs` is zero: it is room for the participant count. -/
theorem stamp_low_zero : ∀ k : Fin 31, (BV.rsOf (len k)).toNat % 2 ^ 32 = 0 := by
  intro k
  rw [stamp_val, Nat.mul_mod_left]

/-- different table lengths have different stamps: generations never share a stamp. -/
theorem stamp_injective : ∀ j k : Fin 31, BV.rsOf (len j) = BV.rsOf (len k) → j = k := by
  intro j k h
  have := congrArg BitVec.toNat h
  rw [stamp_val, stamp_val] at this
  omega

theorem max_resizers_val : BV.MAX_RESIZERS.toNat = 2 ^ 32 - 1 := by decide

/-- Adding any participant count `1 ≤ 1 + h ≤ MAX_RESIZERS` to `rs` keeps the word negative and
leaves the stamp bits untouched: the helper count cannot carry into the stamp. -/
theorem stamp_room (k : Fin 31) (h : BitVec 64) (hh : h.toNat ≤ BV.MAX_RESIZERS.toNat) :
    (BV.rsOf (len k) + h).msb = true ∧
    (BV.rsOf (len k) + h).toNat / 2 ^ 32 = (BV.rsOf (len k)).toNat / 2 ^ 32 ∧
    (BV.rsOf (len k) + h).toNat % 2 ^ 32 = h.toNat := by
  have h0 := stamp_low_zero k
  have h1 := stamp_negative k
  rw [max_resizers_val] at hh
  rw [BitVec.msb_eq_decide] at h1 ⊢
  simp only [decide_eq_true_eq] at h1 ⊢
  have hlt := (BV.rsOf (len k)).isLt
  rw [BitVec.toNat_add]
  omega

/-- initiation puts exactly one participant (+1 bias) into the word -/
theorem initiate_is_two (rs : BitVec 64) :
    BV.initiateAddCount rs = rs + 2#64 ∧ BV.initiatePresize rs = rs + 2#64 := ⟨rfl, rfl⟩

/-- the last participant to leave (and only it) passes the finisher test:
`sc = rs + 1 + p` with `p` participants; the test is `sc - 2 ≠ rs`. -/
theorem finisher_iff (k : Fin 31) (sc : BitVec 64) :
    BV.notLastResizer sc (len k) = false ↔ sc = BV.rsOf (len k) + 2#64 := by
  simp only [BV.notLastResizer, BV.rsOf, bne_eq_false_iff_eq]
  constructor
  · intro h; rw [← h]; simp [BitVec.sub_add_cancel]
  · intro h; rw [h]; simp [BitVec.add_sub_cancel]

/-- leaving (`-1`) undoes joining (`+1`) -/
theorem join_leave (sc : BitVec 64) : BV.leaveSc (BV.joinSc sc) = sc := by
  simp [BV.leaveSc, BV.joinSc, BitVec.add_sub_cancel]

theorem shift_val : Flurry.Gen.RESIZE_STAMP_SHIFT = 32 := by decide

/-- the arithmetic right shift by the stamp shift compares exactly the stamp halves of two
negative words -/
theorem sshift_eq_iff (x y : BitVec 64) (hx : x.msb = true) (hy : y.msb = true) :
    BitVec.sshiftRight x 32 = BitVec.sshiftRight y 32 ↔ x.toNat / 2 ^ 32 = y.toNat / 2 ^ 32 := by
  rw [← BitVec.toNat_inj, BitVec.toNat_sshiftRight, BitVec.toNat_sshiftRight]
  simp only [hx, hy, if_true, Nat.shiftRight_eq_div_pow]
  have := x.isLt; have := y.isLt
  omega

/-- **a helper of another generation is refused** (finding F6). `help_transfer` computes `rs`
from the table *it* holds and loads `size_ctl` after it has validated `(table, next_table)`; if
the resize it validated has finished and the next one has started in between, the word it loads
is `rs(2^j) + h` of the new table while its own stamp is `rs(2^k)`, `j ≠ k`. Whatever the
participant count `h`, the refusal test of `help_transfer` (generated from the source) must say
"do not join". Without the generation comparison this is false: `rs(2^j) + 1` ("the finisher has
been elected") is neither `rs(2^k) + 1` nor `rs(2^k) + MAX_RESIZERS`, the stale helper is
admitted, and the accounting of generation `j` (and of the one after it) is corrupted. -/
theorem help_refuses_other_generation (j k : Fin 31) (hjk : j ≠ k) (h : BitVec 64)
    (hh : h.toNat ≤ BV.MAX_RESIZERS.toNat) :
    BV.joinRefusedHelp (BV.rsOf (len j) + h) (BV.rsOf (len k)) = true := by
  have hr := stamp_room j h hh
  have hne : BV.rsOf (len j) ≠ BV.rsOf (len k) := fun e => hjk (stamp_injective j k e)
  have h0j := stamp_low_zero j
  have h0k := stamp_low_zero k
  have hdiv : (BV.rsOf (len j) + h).toNat / 2 ^ 32 ≠ (BV.rsOf (len k)).toNat / 2 ^ 32 := by
    rw [hr.2.1]
    intro e
    apply hne
    rw [← BitVec.toNat_inj]
    omega
  simp only [BV.joinRefusedHelp, shift_val, Bool.or_eq_true, bne_iff_ne, ne_eq]
  left; left
  rw [sshift_eq_iff _ _ hr.1 (stamp_negative k)]
  exact hdiv

/-- within its own generation a helper is refused exactly when the word says "the finisher has
been elected" (`rs + 1`) or "full" (`rs + MAX_RESIZERS`) -/
theorem help_same_generation_iff (k : Fin 31) (sc : BitVec 64)
    (hs : BitVec.sshiftRight sc 32 = BitVec.sshiftRight (BV.rsOf (len k)) 32) :
    BV.joinRefusedHelp sc (BV.rsOf (len k)) =
      (sc == BV.rsOf (len k) + BV.MAX_RESIZERS || sc == BV.rsOf (len k) + 1#64) := by
  simp [BV.joinRefusedHelp, shift_val, hs]

/-- `add_count` compares the word it loaded *before* it loaded the table, and then CASes on that
same word: a word of another generation fails the CAS. Its refusal test is the plain one. -/
theorem join_refused_add_count (sc rs : BitVec 64) :
    BV.joinRefusedAddCount sc rs = (sc == rs + BV.MAX_RESIZERS || sc == rs + 1#64) := rfl

/-- The threshold stored after a resize of an `n`-bin table is three quarters of the new length
`2n`, and equals what `load_factor!` gives for the new length. -/
theorem threshold_after (n : Nat) :
    postResizeThreshold n = loadFactor (Int.ofNat (nextTableLen n)) ∧
    (2 ≤ n → n % 2 = 0 → 4 * postResizeThreshold n = 3 * Int.ofNat (nextTableLen n)) := by
  simp only [postResizeThreshold, loadFactor, nextTableLen]
  constructor
  · simp only [Int.ofNat_eq_natCast]; omega
  · intro _ _; simp only [Int.ofNat_eq_natCast]; omega

theorem double_exact (n : Nat) : nextTableLen n = 2 * n := by simp [nextTableLen]; omega

-- non-vacuity: a concrete length, stamp and helper count
example : BV.rsOf (len 4) = 0x8000003b00000000#64 := by decide
example : BV.notLastResizer (BV.rsOf (len 4) + 3#64) (len 4) = true := by decide
-- a helper holding the 16-bin table meets the word "32-bin resize, finisher elected": refused
example : BV.joinRefusedHelp (BV.rsOf (len 5) + 1#64) (BV.rsOf (len 4)) = true := by decide

end Flurry.C10
