import Flurry.Props.C01BinGN
import Flurry.Lemmas.BinGNPLin
/-! # C01 / C05 / C07 / C08 / C10 (bin level): one bin lineage with list AND tree bins through ANY NUMBER of
successive resizes is linearizable under every interleaving

`Proto/BinGN.lean` (see `Props/C01BinGN.lean` for the model, its validation by execution and the generation / lock
invariants: their shape half is proved directly on the model, what they say of lock words is read off `BinGNP.Inv`). Here: the structural invariant, the abstract invariance of EVERY step of a
transfer, and linearizability.

**Main theorem** (`binGN_linearizable_quiescent`): for every reachable quiescent state and every key, the completed
calls on that key are linearizable from "absent" to the key's abstract state — any number of threads, any number of
successive resizes, list bins and tree bins (treeify, untreeify, tree writers with bin mutex + write lock + WAITER,
lock-protocol readers, list readers / iterators), transfers of empty / list / tree bins including the `TreeBin`
object that is re-used by a transfer — and re-used again by the next one —, readers and writers that hold a table
pointer / sit inside a `TreeBin` arbitrarily many generations old. `binGN_linearizable` is the same for every
reachable state, with the writers past their linearization point counted as completed (`callsOnExt`).

**What `BinGNP.Inv` is.** `Lemmas/BinGNP*.lean` works in the namespace `Flurry.Proto.BinGNP`, where the model is
re-exported with cells `(g, j) : Cid = Nat × Nat` (a "table" is a generation). `BinGNP.Inv s` (`Lemmas/BinGNPInv.lean`)
has the fields `heap : HInv s` (well-formed chains in every cell, `HInv.side`: `key % 2^g = j` for ALL cells, which
makes the structures of any two cells disjoint but for a parent under transfer and its children), `thr : TInv s`
(calls and history), `rsz : XInv s` (generation structure + the plan of every transfer), `lock : LInv s` (lock
words, mutexes, read-write lock bits) and `data : DInv s` (what the program counters say about the structures; tree = list). The generation structure (`XShape`) and "a
planned fresh `TreeBin` is in no cell" (`FreshInv` → `PlanSep` → `PubRead`) are proved directly on the model
(`Lemmas/BinGNGen*.lean`, `BinGNNext.lean`, `BinGNPre.lean`, `BinGNFresh.lean`) and are hypotheses of the per-transition
lemmas, `XShape s'` about the successor state, `PubRead s` and `PlanSep s` about the state before the step
(`Lemmas/BinGNPShape.lean`, `BinGNPPlanSep.lean`); the induction is
`Lemmas/BinGNPLin.lean`, which lists the linearization points. Readers are justified in hindsight (`Good`), across
any number of forwardings: `Foreign s k j` is "on the chain of ANY cell in which `k` does not live". The ghost layer is
`Lemmas/BinGNPGhost*.lean` / `BinGNPLin*.lean`. -/
namespace Flurry.Proto.BinGN
open Flurry.Lin

/-- **Structural invariant** (`Lemmas/BinGNPInv.lean`: well-formed chains in all
cells of all generations, distinct keys, every key of cell `(g, j)` satisfies `key % 2^g = j`, lock words / mutexes /
read-write lock bits match the program counters, validated holders see their structure in their cell, tree = list
for every `TreeBin` in a cell whose write lock is free, the planned / stored children of a cell under transfer hold
exactly its two sides, the generation structure, …) in every reachable state -/
theorem binGN_inv {n : Nat} {s : State} (hr : Reachable n s) : Flurry.Proto.BinGNP.Inv s :=
  Flurry.Proto.BinGNP.reachable_inv hr

/-- **a transfer does not change what the bins contain**: NO step of a resizing thread — in any generation:
choosing and loading a cell, the CAS of the marker into an empty cell, lock / re-check, the split of a list bin or of
a tree bin (`xBuild`, `yBuild`), the stores of the low child, of the high child and of the forwarding marker (where
the live structure of every key of the cell switches from the old list / `TreeBin` to a new one), unlock, the commit —
and no start of a resize (allocation of the next generation) changes the abstract state of any key -/
theorem transfer_abs_invariant {n : Nat} {s s' : State} (hr : Reachable n s) {t : Nat}
    {inv : Option (Nat × KOp)} {lo : Bool} {mt : Option Nat} {rz sm sm2 : Bool} {pick : Nat} {l : Local}
    (hl : s.threads[t]? = some l)
    (hpc : Flurry.Proto.BinGNP.xPc l.pc = true ∨ (l.pc = .idle ∧ rz = true ∧ s.resizing = false))
    (hs : step s t inv lo mt rz sm sm2 pick = some s') (k : Nat) : absOf s' k = absOf s k := by
  refine Flurry.Proto.BinGNP.nocall_abs_invariant hr hl
    (((Flurry.Proto.BinGNP.reachable_inv hr).thr.callOK t l hl).2 ?_) hs k
  rcases hpc with h | ⟨h, -, -⟩
  · unfold Flurry.Proto.BinGNP.noCallPc; rw [h]; simp
  · rw [h]; rfl

/-- no step of a thread without a call in flight (the resizing thread, a treeify thread, an idle thread) changes the
abstract state of any key -/
theorem nocall_abs_invariant {n : Nat} {s s' : State} (hr : Reachable n s) {t : Nat}
    {inv : Option (Nat × KOp)} {lo : Bool} {mt : Option Nat} {rz sm sm2 : Bool} {pick : Nat} {l : Local}
    (hl : s.threads[t]? = some l) (hc : l.call = none)
    (hs : step s t inv lo mt rz sm sm2 pick = some s') (k : Nat) : absOf s' k = absOf s k :=
  Flurry.Proto.BinGNP.nocall_abs_invariant hr hl hc hs k

/-- **C01, bin level, list and tree bins, any number of resizes.** The per-key history (completed calls plus writers
past their linearization point) is linearizable and ends in the abstract state of the live structure of the key. -/
theorem binGN_linearizable {n : Nat} {s : State} (hr : Reachable n s) (k : Nat) :
    Lin.Linearizable (Flurry.Proto.BinGNP.callsOnExt s k) none (absOf s k) := by
  obtain ⟨A, pt, g⟩ := Flurry.Proto.BinGNP.reachable_ginv hr k
  exact g.linearizable (Flurry.Proto.BinGNP.reachable_inv hr).thr

/-- **C01 in a quiescent state**: the completed calls alone are linearizable -/
theorem binGN_linearizable_quiescent {n : Nat} {s : State} (hr : Reachable n s) (hq : quiescent s) (k : Nat) :
    Lin.Linearizable (callsOn s k) none (absOf s k) :=
  Flurry.Proto.BinGNP.binGN_linearizable_quiescent_aux hr hq k

/-- in a quiescent state the extended history is the history of the completed calls -/
theorem callsOnExt_quiescent {s : State} (hq : quiescent s) (k : Nat) :
    Flurry.Proto.BinGNP.callsOnExt s k = callsOn s k :=
  Flurry.Proto.BinGNP.callsOnExt_quiescent hq k

/-- C06 at quiescence: a `TreeBin` that is in a cell (of any generation) is unlocked (mutex and write lock free) and
its tree holds exactly the nodes of its list -/
theorem quiescent_tree_eq_list {n : Nat} {s : State} (hr : Reachable n s) (hq : quiescent s) {g j b : Nat}
    (hc : cellAt s g j = .tree b) :
    (Flurry.Proto.BinK.binAt s.tbins b).mutex = none ∧ (Flurry.Proto.BinK.binAt s.tbins b).writer = false ∧
    ∀ i, i < s.heap.length → ((Flurry.Proto.BinK.nodeAt s.heap i).owner = some b ∧
      (Flurry.Proto.BinK.nodeAt s.heap i).inTree = true ↔ i ∈ chainOfBin s b) :=
  Flurry.Proto.BinGNP.quiescent_tree_eq_list_aux (id := (g, j)) hr hq hc

/-- the kernel-checked runs of `Lemmas/BinGNExamples.lean` (the `TreeBin` re-used by two successive resizes with a
writer queued on its mutex and a reader holding its read lock across both; the reader and the writer inside a
`TreeBin` that is two generations old) are reachable quiescent states in generation 2, and — as
`binGN_linearizable_quiescent` says they must be — linearizable for EVERY key -/
theorem example_runs_linearizable_all :
    ∀ sc ∈ [schedReuse2, schedStale2], ∃ s, run step (init 4) sc = some s ∧ Reachable 4 s ∧
      quiescent s ∧ s.cur = 2 ∧ ∀ k, Lin.Linearizable (callsOn s k) none (absOf s k) := by
  intro sc hsc
  obtain ⟨s, hrun, hreach, hq, hc, -⟩ := runs_linearizable sc hsc
  exact ⟨s, hrun, hreach, hq, hc, fun k => binGN_linearizable_quiescent hreach hq k⟩

end Flurry.Proto.BinGN
