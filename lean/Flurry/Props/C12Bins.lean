import Flurry.Lemmas.C12BinTRun
import Flurry.Lemmas.C12BinXRun
/-! # C12 at the bin level: reads never block and finish in a bounded number of their own steps

> `get`, `get_key_value`, `contains_key` … never acquire a bin lock and never wait for a writer: a
> reader finishes in a bounded number of its own steps even while any other thread is suspended at an
> arbitrary point — including while holding a bin lock, while holding or waiting for a tree bin's
> write lock, or in the middle of moving a bin.

Proved here for the two small-step bin models, over **all** reachable states (any number of threads,
any number of steps, any interleaving — the other threads are "suspended at an arbitrary point" simply
because the theorems quantify over every reachable state and then move only thread `t`):

* `Proto/BinT` (a tree bin: list + tree + read/write lock word + bin mutex), this namespace;
* `Proto/BinX` (a list bin under resize: old cell / forwarding marker / new cells), below.

For each model:
1. `reader_step_enabled` — the step of a thread at a reader pc is enabled in every reachable state, for
   every value of the scheduler's arguments (no state of the other threads — holding the mutex, holding
   the write lock, parked with `WAITER` set, mid-transfer — disables it);
2. `reader_step_frame` — that step takes no lock: it leaves the mutex / the lock bits / the heap (hence
   every node's lock word) / the cells and all other threads untouched;
3. `reader_solo_terminates` — running alone (`runSolo`), the reader is `idle` again, with its call
   appended to `hist`, after at most `soloBound s` steps, an explicit function of the heap size only;
4. non-vacuity examples: a concrete reachable state with a writer suspended while holding the write
   lock (BinT) / mid-transfer holding the bin lock (BinX), and the suspended-writer run of the reader
   evaluated by `decide`. -/
namespace Flurry.Proto.BinT
open Flurry.Lin

/-- thread `t` runs alone for `k` steps; `none` if one of these steps is not enabled -/
def runSolo (t : Nat) (bal : Bool) : Nat → State → Option State
  | 0, s => some s
  | k + 1, s =>
    match step s t none bal with
    | some s' => runSolo t bal k s'
    | none => none

/-- what a reader's steps leave alone: the heap, `first`, the bin mutex, the `WRITER` and `WAITER`
bits, and every other thread (only `readers`, its own local state, the clock and `hist` change) -/
structure Frame (t : Nat) (s s' : State) : Prop where
  heap : s'.heap = s.heap
  first : s'.first = s.first
  mutex : s'.mutex = s.mutex
  writer : s'.writer = s.writer
  waiter : s'.waiter = s.waiter
  others : ∀ t', t' ≠ t → s'.threads[t']? = s.threads[t']?

theorem Frame.refl (t : Nat) (s : State) : Frame t s s := ⟨rfl, rfl, rfl, rfl, rfl, fun _ _ => rfl⟩

theorem Frame.trans {t : Nat} {s1 s2 s3 : State} (a : Frame t s1 s2) (b : Frame t s2 s3) : Frame t s1 s3 :=
  ⟨b.heap.trans a.heap, b.first.trans a.first, b.mutex.trans a.mutex, b.writer.trans a.writer,
    b.waiter.trans a.waiter, fun t' h => (b.others t' h).trans (a.others t' h)⟩

/-- **C12.1, tree bin: a reader's step is never disabled.** In every reachable state, for every
thread at a reader pc (`rFirst, rState, rLin, rCas, rTree, rRelease, rVal`) and both values of `bal`
(and any `inv`), the step of that thread is enabled. -/
theorem reader_step_enabled {n : Nat} {s : State} (hr : Reachable n s) {t : Nat} {l : Local}
    (hl : s.threads[t]? = some l) (hrd : readerPc l.pc = true) (inv : Option (Nat × KOp)) (bal : Bool) :
    (step s t inv bal).isSome = true := by
  obtain ⟨p, s', -, hs, -⟩ := reader_step hr hl hrd inv bal
  rw [hs]; rfl

/-- **C12.2, tree bin: a reader takes no lock.** A step of a thread at a reader pc leaves the mutex,
the `WRITER`/`WAITER` bits, the heap, `first` and all other threads as they are (no reachability
assumption needed). -/
theorem reader_step_frame {s s' : State} {t : Nat} {l : Local} (hl : s.threads[t]? = some l)
    (hrd : readerPc l.pc = true) {inv : Option (Nat × KOp)} {bal : Bool} (hs : step s t inv bal = some s') :
    Frame t s s' := by
  obtain ⟨pc, call⟩ := l
  have hoth : ∀ (l' : Local) (t' : Nat), t' ≠ t → (s.threads.set t l')[t']? = s.threads[t']? :=
    fun _ _ h => Shared.get_set_ne h
  cases step_stepK hl hs with
  | move p pc' m w a r hm =>
    have h3 : m = s.mutex ∧ w = s.writer ∧ a = s.waiter := by
      cases hm <;> first | exact ⟨rfl, rfl, rfl⟩ | cases hrd
    obtain ⟨rfl, rfl, rfl⟩ := h3
    exact ⟨rfl, rfl, rfl, rfl, rfl, hoth _⟩
  | fin p res m r hf =>
    have h1 : m = s.mutex := by cases hf <;> first | rfl | cases hrd
    subst h1
    exact ⟨rfl, rfl, rfl, rfl, rfl, hoth _⟩
  | _ => cases hrd

/-- the induction behind `reader_solo_terminates`: `mu` bounds the number of solo steps -/
theorem solo_aux {n : Nat} {t : Nat} (bal : Bool) : ∀ (m : Nat) {s : State} {l : Local} {p : Pending},
    Reachable n s → s.threads[t]? = some l → readerPc l.pc = true → l.call = some p → mu s l.pc ≤ m →
    ∃ k, k ≤ m ∧ ∃ s' res resp, runSolo t bal k s = some s' ∧ Reachable n s' ∧ Frame t s s' ∧
      s'.threads[t]? = some { pc := .idle, call := none } ∧
      s'.hist = (p.key, { tid := t, op := p.op, res := res, inv := p.inv, resp := resp }) :: s.hist
  | 0, s, l, p, _, _, hrd, _, hm => by
    have := mu_pos (s := s) hrd
    omega
  | m + 1, s, l, p, hr, hl, hrd, hp, hm => by
    obtain ⟨p', s1, hp', hs, ho⟩ := reader_step hr hl hrd none bal
    rw [hp] at hp'
    cases hp'
    have hr1 : Reachable n s1 := Reachable.step t none bal hr hs
    have hf1 : Frame t s s1 := reader_step_frame hl hrd hs
    rcases ho with ⟨hidle, res, hh⟩ | ⟨pc', hl1, hrd1, hh1, hmu⟩
    · refine ⟨1, by omega, s1, res, _, ?_, hr1, hf1, hidle, hh⟩
      simp only [runSolo, hs]
    · obtain ⟨k, hk, s', res, resp, hrun, hr', hf', hidle, hh⟩ :=
        solo_aux bal m (p := p) hr1 hl1 hrd1 rfl (by show mu s1 pc' ≤ m; omega)
      refine ⟨k + 1, by omega, s', res, resp, ?_, hr', hf1.trans hf', hidle, ?_⟩
      · simp only [runSolo, hs]; exact hrun
      · rw [hh, hh1]

/-- **C12.3, tree bin: bounded own steps.** From every reachable state, a thread at a reader pc that
runs alone — all other threads suspended wherever they are: holding the bin mutex, holding the write
lock, parked with `WAITER` set — has returned (`idle`, its call appended to `hist`) after at most
`soloBound s = 2 * s.heap.length + 5` of its own steps, all of them enabled, and has touched neither
the mutex nor the `WRITER`/`WAITER` bits nor the heap nor any other thread. -/
theorem reader_solo_terminates {n : Nat} {s : State} (hr : Reachable n s) {t : Nat} {l : Local}
    (hl : s.threads[t]? = some l) (hrd : readerPc l.pc = true) (bal : Bool) :
    ∃ k, k ≤ soloBound s ∧ ∃ s' p res resp, l.call = some p ∧ runSolo t bal k s = some s' ∧
      Frame t s s' ∧ s'.threads[t]? = some { pc := .idle, call := none } ∧
      s'.hist = (p.key, { tid := t, op := p.op, res := res, inv := p.inv, resp := resp }) :: s.hist := by
  obtain ⟨p, _, hp, _, _⟩ := reader_step hr hl hrd none bal
  obtain ⟨k, hk, s', res, resp, hrun, _, hf, hidle, hh⟩ :=
    solo_aux (n := n) bal (soloBound s) hr hl hrd hp (mu_le_soloBound ((reachable_rinv hr).bound t l hl))
  exact ⟨k, hk, s', p, res, resp, hp, hrun, hf, hidle, hh⟩

/-- the `bal` argument is irrelevant for a reader -/
theorem reader_step_bal {s : State} {t : Nat} {l : Local} (hl : s.threads[t]? = some l)
    (hrd : readerPc l.pc = true) (inv : Option (Nat × KOp)) (b b' : Bool) : step s t inv b = step s t inv b' := by
  unfold step stepG
  rw [hl]
  obtain ⟨pc, call⟩ := l
  cases pc with
  | rFirst | rLin _ | rCas _ _ | rTree | rVal _ => cases call <;> rfl
  | rState cur | rRelease cur => cases cur <;> cases call <;> rfl
  | _ => cases hrd

/-! ## non-vacuity: a writer suspended while holding the write lock -/

/-- run a schedule of `(thread, invocation, bal)` triples; `none` if some step is not enabled -/
def runSched (s : State) : List (Nat × Option (Nat × KOp) × Bool) → Option State
  | [] => some s
  | (t, inv, bal) :: rest =>
    match step s t inv bal with
    | some s' => runSched s' rest
    | none => none

theorem runSched_reachable {n : Nat} : ∀ (sched : List (Nat × Option (Nat × KOp) × Bool)) {s s' : State},
    Reachable n s → runSched s sched = some s' → Reachable n s'
  | [], s, s', hr, h => by
    simp only [runSched, Option.some.injEq] at h
    exact h ▸ hr
  | (t, inv, bal) :: rest, s, s', hr, h => by
    simp only [runSched] at h
    cases hs : step s t inv bal with
    | none => rw [hs] at h; cases h
    | some s1 =>
      rw [hs] at h
      exact runSched_reachable rest (Reachable.step t inv bal hr hs) h

/-- thread 0: `ins 1` that has to rebalance — mutex, find, prepend node 0, tree link, `lock_root`
succeeds: suspended at `wRestructure` **holding the write lock and the mutex**; thread 2: `rm 1` —
suspended at `wMutex`, **waiting for the bin lock**; thread 1: `get 1` — loads `first`, stands on
node 0 at `rState`. -/
def lockedSchedule : List (Nat × Option (Nat × KOp) × Bool) :=
  [ (0, some (1, .ins 10 100), false), (0, none, false), (0, none, false), (0, none, false),
    (0, none, true), (0, none, false),
    (2, some (1, .rm), false),
    (1, some (1, .get), false), (1, none, false) ]

/-- the state after `lockedSchedule` (an `Option`; `lockedState_spec` shows it is `some`) -/
def lockedState : Option State := runSched (init 3) lockedSchedule

/-- the premises of the theorems are satisfiable by a state with a writer inside the write lock -/
theorem lockedState_spec : ∃ s, lockedState = some s ∧ Reachable 3 s ∧
    s.threads[0]? = some { pc := .wRestructure none .none, call := some ⟨1, .ins 10 100, 1⟩ } ∧
    s.threads[2]? = some { pc := .wMutex, call := some ⟨1, .rm, 7⟩ } ∧
    s.threads[1]? = some { pc := .rState (some 0), call := some ⟨1, .get, 8⟩ } ∧
    s.writer = true ∧ s.mutex = some 0 := by
  have h : (lockedState.map fun s => (s.threads, s.writer, s.mutex)) =
      some ([ { pc := .wRestructure none .none, call := some ⟨1, .ins 10 100, 1⟩ },
              { pc := .rState (some 0), call := some ⟨1, .get, 8⟩ },
              { pc := .wMutex, call := some ⟨1, .rm, 7⟩ } ], true, some 0) := by decide +kernel
  cases hs : lockedState with
  | none => rw [hs] at h; cases h
  | some s =>
    rw [hs] at h
    simp only [Option.map_some, Option.some.injEq, Prod.mk.injEq] at h
    obtain ⟨h1, h2, h3⟩ := h
    refine ⟨s, rfl, runSched_reachable lockedSchedule Reachable.init hs, ?_, ?_, ?_, h2, h3⟩ <;> rw [h1] <;> rfl

/-- … and the reader, running alone against the suspended writer, answers `some (10, 100)` in 3 steps
(`rState` sees `WRITER`; one linear step finds the key; the value load) — within `soloBound = 7` -/
example : (lockedState.bind fun s => (runSolo 1 false 3 s).map fun s' =>
      (decide (3 ≤ soloBound s), s'.threads[1]?, s'.hist.head?)) =
    some (true, some { pc := .idle, call := none },
      some (1, { tid := 1, op := .get, res := .some 10 100, inv := 8, resp := 12 })) := by decide +kernel

/-- … while the writer still holds the write lock and the mutex, where it was suspended -/
example : (lockedState.bind fun s => (runSolo 1 false 3 s).map fun s' =>
      (s'.writer, s'.mutex, s'.threads[0]?)) =
    some (true, some 0,
      some { pc := .wRestructure none .none, call := some ⟨1, .ins 10 100, 1⟩ }) := by decide +kernel

/-- the general theorem instantiated at this state -/
example : ∃ s, lockedState = some s ∧ ∃ k, k ≤ soloBound s ∧ ∃ (s' : State) (p : Pending) (res : KRes) (resp : Nat), runSolo 1 false k s = some s' ∧
    s'.threads[1]? = some { pc := .idle, call := none } ∧ s'.writer = true ∧ s'.mutex = some 0 ∧
    s'.hist = (p.key, { tid := 1, op := p.op, res := res, inv := p.inv, resp := resp }) :: s.hist := by
  obtain ⟨s, hs, hr, _, _, h1, hw, hm⟩ := lockedState_spec
  obtain ⟨k, hk, s', p, res, resp, _, hrun, hf, hidle, hh⟩ := reader_solo_terminates hr h1 rfl false
  exact ⟨s, hs, k, hk, s', p, res, resp, hrun, hidle, hf.writer.trans hw, hf.mutex.trans hm, hh⟩

/-! ## non-vacuity: a writer parked with `WAITER` set, behind a reader that holds the read lock -/

/-- thread 0: `ins 1`, complete; thread 1: `get 1` — takes the read lock and is suspended at `rTree`;
thread 2: `rm 1` — mutex, find, `lock_root` fails, sets `WAITER` and is **parked** at `lrLoop` (its step
is not enabled while the reader remains); thread 3: `get 1` — stands on node 0 at `rState`. -/
def parkedSchedule : List (Nat × Option (Nat × KOp) × Bool) :=
  [ (0, some (1, .ins 10 100), false), (0, none, false), (0, none, false), (0, none, false),
    (0, none, false), (0, none, false),
    (1, some (1, .get), false), (1, none, false), (1, none, false), (1, none, false),
    (2, some (1, .rm), false), (2, none, false), (2, none, false), (2, none, false), (2, none, false),
    (3, some (1, .get), false), (3, none, false) ]

def parkedState : Option State := runSched (init 4) parkedSchedule

example : (parkedState.map fun s => (s.threads, s.waiter, s.readers)) =
    some ([ { pc := .idle, call := none }, { pc := .rTree, call := some ⟨1, .get, 7⟩ },
            { pc := .lrLoop (some 0) (.some 10 100), call := some ⟨1, .rm, 11⟩ },
            { pc := .rState (some 0), call := some ⟨1, .get, 16⟩ } ], true, 1) := by decide +kernel

/-- the parked *writer* cannot move … -/
example : (parkedState.map fun s => (step s 2 none false).isSome) = some false := by decide +kernel

/-- … the reader can, and returns after 3 of its own steps (it sees `WAITER` and walks the list) -/
example : (parkedState.bind fun s => (runSolo 3 false 3 s).map fun s' =>
      (decide (3 ≤ soloBound s), s'.threads[3]?, s'.hist.head?)) =
    some (true, some { pc := .idle, call := none },
      some (1, { tid := 3, op := .get, res := .some 10 100, inv := 16, resp := 20 })) := by decide +kernel

end Flurry.Proto.BinT

/-! # The list bin under resize (`Proto/BinX`) -/
namespace Flurry.Proto.BinX
open Flurry.Lin

/-- thread `t` runs alone for `k` steps; `none` if one of these steps is not enabled -/
def runSolo (t : Nat) (rz : Bool) : Nat → State → Option State
  | 0, s => some s
  | k + 1, s =>
    match step s t none rz with
    | some s' => runSolo t rz k s'
    | none => none

/-- what a reader's steps leave alone: the heap (so every node's lock word, value and `next`), the
three bin cells, the table pointer, the resize flag, and every other thread (only its own local
state, the clock and `hist` change) -/
structure Frame (t : Nat) (s s' : State) : Prop where
  heap : s'.heap = s.heap
  cell0 : s'.cell0 = s.cell0
  lowCell : s'.lowCell = s.lowCell
  highCell : s'.highCell = s.highCell
  cur : s'.cur = s.cur
  resizing : s'.resizing = s.resizing
  others : ∀ t', t' ≠ t → s'.threads[t']? = s.threads[t']?

theorem Frame.refl (t : Nat) (s : State) : Frame t s s := ⟨rfl, rfl, rfl, rfl, rfl, rfl, fun _ _ => rfl⟩

theorem Frame.trans {t : Nat} {s1 s2 s3 : State} (a : Frame t s1 s2) (b : Frame t s2 s3) : Frame t s1 s3 :=
  ⟨b.heap.trans a.heap, b.cell0.trans a.cell0, b.lowCell.trans a.lowCell, b.highCell.trans a.highCell,
    b.cur.trans a.cur, b.resizing.trans a.resizing, fun t' h => (b.others t' h).trans (a.others t' h)⟩

/-- **C12.1, list bin under resize: a reader's step is never disabled.** In every reachable state,
for every thread at a reader pc (`rTable`, `rCell tab` — including the hop through the forwarding
marker into the new table —, `rNode cur`) and both values of `resize` (and any `inv`), the step of
that thread is enabled. -/
theorem reader_step_enabled {n : Nat} {s : State} (hr : Reachable n s) {t : Nat} {l : Local}
    (hl : s.threads[t]? = some l) (hrd : readerPc l.pc = true) (inv : Option (Nat × KOp)) (resize : Bool) :
    (step s t inv resize).isSome = true := by
  obtain ⟨p, s', -, hs, -⟩ := reader_step hr hl hrd inv resize
  rw [hs]; rfl

/-- **C12.2, list bin under resize: a reader takes no lock and stores nothing.** A step of a thread at
a reader pc leaves the heap (hence all lock words), the cells, the table pointer and all other threads
as they are (no reachability assumption needed). -/
theorem reader_step_frame {s s' : State} {t : Nat} {l : Local} (hl : s.threads[t]? = some l)
    (hrd : readerPc l.pc = true) {inv : Option (Nat × KOp)} {resize : Bool}
    (hs : step s t inv resize = some s') : Frame t s s' := by
  have hoth : ∀ (ths : List Local) (l' : Local) (t' : Nat), t' ≠ t → (ths.set t l')[t']? = ths[t']? :=
    fun ths l' t' h => get_set_ne h
  have hk := step_stepK hl hs
  cases hk with
  | idle hpc => rw [hpc] at hrd; cases hrd
  | invoke k op hpc => rw [hpc] at hrd; cases hrd
  | resize hpc hr => rw [hpc] at hrd; cases hrd
  | move p pc' hp hm => exact ⟨rfl, rfl, rfl, rfl, rfl, rfl, fun t' h => hoth _ _ t' h⟩
  | tmove pc' hp hm => exact ⟨rfl, rfl, rfl, rfl, rfl, rfl, fun t' h => hoth _ _ t' h⟩
  | lockMove p h x pc' hp hm =>
    exfalso
    generalize l.pc = pc0 at hm hrd
    cases hm <;> cases hrd
  | tlockMove h x pc' hp hm =>
    exfalso
    generalize l.pc = pc0 at hm hrd
    cases hm <;> cases hrd
  | fin p res hp hf => exact ⟨rfl, rfl, rfl, rfl, rfl, rfl, fun t' h => hoth _ _ t' h⟩
  | cas p tab v vi hp hpc hc hop => rw [hpc] at hrd; cases hrd
  | store p tab h pred hit hnext hp hpc => rw [hpc] at hrd; cases hrd
  | unlockFin p tab h res hp hpc => rw [hpc] at hrd; cases hrd
  | casMoved hp hpc hc0 => rw [hpc] at hrd; cases hrd
  | build h hp hpc => rw [hpc] at hrd; cases hrd
  | storeLow h lo hg hp hpc => rw [hpc] at hrd; cases hrd
  | storeHigh h hg hp hpc => rw [hpc] at hrd; cases hrd
  | storeMoved h hp hpc => rw [hpc] at hrd; cases hrd
  | commit hp hpc => rw [hpc] at hrd; cases hrd

/-- the induction behind `reader_solo_terminates`: `mu` bounds the number of solo steps -/
theorem solo_aux {n : Nat} {t : Nat} (rz : Bool) : ∀ (m : Nat) {s : State} {l : Local} {p : Pending},
    Reachable n s → s.threads[t]? = some l → readerPc l.pc = true → l.call = some p → mu s l.pc ≤ m →
    ∃ k, k ≤ m ∧ ∃ s' res resp, runSolo t rz k s = some s' ∧ Reachable n s' ∧ Frame t s s' ∧
      s'.threads[t]? = some { pc := .idle, call := none } ∧
      s'.hist = (p.key, { tid := t, op := p.op, res := res, inv := p.inv, resp := resp }) :: s.hist
  | 0, s, l, p, _, _, hrd, _, hm => by
    have := mu_pos (s := s) hrd
    omega
  | m + 1, s, l, p, hr, hl, hrd, hp, hm => by
    obtain ⟨p', s1, hp', hs, ho⟩ := reader_step hr hl hrd none rz
    rw [hp] at hp'
    cases hp'
    have hr1 : Reachable n s1 := Reachable.step t none rz hr hs
    have hf1 : Frame t s s1 := reader_step_frame hl hrd hs
    rcases ho with ⟨hidle, res, hh⟩ | ⟨pc', hl1, hrd1, hh1, hmu⟩
    · refine ⟨1, by omega, s1, res, _, ?_, hr1, hf1, hidle, hh⟩
      simp only [runSolo, hs]
    · obtain ⟨k, hk, s', res, resp, hrun, hr', hf', hidle, hh⟩ :=
        solo_aux rz m (p := p) hr1 hl1 hrd1 rfl (by show mu s1 pc' ≤ m; omega)
      refine ⟨k + 1, by omega, s', res, resp, ?_, hr', hf1.trans hf', hidle, ?_⟩
      · simp only [runSolo, hs]; exact hrun
      · rw [hh, hh1]

/-- **C12.3, list bin under resize: bounded own steps.** From every reachable state, a thread at a
reader pc that runs alone — all other threads suspended wherever they are: a writer holding the bin
lock, a writer waiting for it, the resizing thread anywhere in the middle of moving the bin — has
returned (`idle`, its call appended to `hist`) after at most `soloBound s = s.heap.length + 4` of its
own steps (table pointer, old cell, one forwarding hop, new cell, then the chain, which is no longer
than the heap), all of them enabled, and has stored nothing. -/
theorem reader_solo_terminates {n : Nat} {s : State} (hr : Reachable n s) {t : Nat} {l : Local}
    (hl : s.threads[t]? = some l) (hrd : readerPc l.pc = true) (resize : Bool) :
    ∃ k, k ≤ soloBound s ∧ ∃ s' p res resp, l.call = some p ∧ runSolo t resize k s = some s' ∧
      Frame t s s' ∧ s'.threads[t]? = some { pc := .idle, call := none } ∧
      s'.hist = (p.key, { tid := t, op := p.op, res := res, inv := p.inv, resp := resp }) :: s.hist := by
  obtain ⟨p, _, hp, _, _⟩ := reader_step hr hl hrd none resize
  obtain ⟨k, hk, s', res, resp, hrun, _, hf, hidle, hh⟩ :=
    solo_aux (n := n) resize (soloBound s) hr hl hrd hp (mu_le_soloBound hr hl)
  exact ⟨k, hk, s', p, res, resp, hp, hrun, hf, hidle, hh⟩

/-- the `resize` argument is irrelevant for a reader -/
theorem reader_step_resize {s : State} {t : Nat} {l : Local} (hl : s.threads[t]? = some l)
    (hrd : readerPc l.pc = true) (inv : Option (Nat × KOp)) (b b' : Bool) : step s t inv b = step s t inv b' := by
  unfold step stepG
  rw [hl]
  obtain ⟨pc, call⟩ := l
  cases pc with
  | rTable | rCell _ => cases call <;> rfl
  | rNode cur => cases cur <;> cases call <;> rfl
  | _ => cases hrd

/-! ## non-vacuity: the resizing thread suspended in the middle of moving the bin, holding its lock -/

/-- run a schedule of `(thread, invocation, resize)` triples; `none` if some step is not enabled -/
def runSched (s : State) : List (Nat × Option (Nat × KOp) × Bool) → Option State
  | [] => some s
  | (t, inv, rz) :: rest =>
    match step s t inv rz with
    | some s' => runSched s' rest
    | none => none

theorem runSched_reachable {n : Nat} : ∀ (sched : List (Nat × Option (Nat × KOp) × Bool)) {s s' : State},
    Reachable n s → runSched s sched = some s' → Reachable n s'
  | [], s, s', hr, h => by
    simp only [runSched, Option.some.injEq] at h
    exact h ▸ hr
  | (t, inv, rz) :: rest, s, s', hr, h => by
    simp only [runSched] at h
    cases hs : step s t inv rz with
    | none => rw [hs] at h; cases h
    | some s1 =>
      rw [hs] at h
      exact runSched_reachable rest (Reachable.step t inv rz hr hs) h

/-- `n` steps of thread `t` -/
def stepsOf (t n : Nat) : List (Nat × Option (Nat × KOp) × Bool) := List.replicate n (t, none, false)

/-- thread 0 fills the bin (`ins 1`, `ins 2`, `ins 3`: list `0 → 1 → 2`); thread 1 starts the resize,
locks the head, and is suspended; thread 3 (`rm 1`) gets as far as `wLock`: it **waits for the bin
lock**; thread 1 goes on — validates, splits the list (copies of nodes 0 and 1 are nodes 3 and 4),
stores the low and the high list — and is suspended at `tStoreMoved`: **mid-transfer, holding the bin
lock**; thread 2 invokes `get 3`. -/
def midSchedule : List (Nat × Option (Nat × KOp) × Bool) :=
  [(0, some (1, .ins 10 100), false)] ++ stepsOf 0 3 ++ [(0, some (2, .ins 20 101), false)] ++ stepsOf 0 8 ++
  [(0, some (3, .ins 30 102), false)] ++ stepsOf 0 9 ++
  [(1, none, true)] ++ stepsOf 1 2 ++ [(3, some (1, .rm), false)] ++ stepsOf 3 2 ++ stepsOf 1 4 ++
  [(2, some (3, .get), false)]

def midState : Option State := runSched (init 4) midSchedule

/-- one more step of the transfer: the forwarding marker is stored, the lock not yet released -/
def fwdState : Option State := runSched (init 4) (midSchedule ++ stepsOf 1 1)

/-- the premises of the theorems are satisfiable by a state with a transfer in progress -/
theorem midState_spec : ∃ s, midState = some s ∧ Reachable 4 s ∧
    s.threads[1]? = some { pc := .tStoreMoved 0, call := none } ∧
    s.threads[3]? = some { pc := .wLock .old 0, call := some ⟨1, .rm, 27⟩ } ∧
    s.threads[2]? = some { pc := .rTable, call := some ⟨3, .get, 34⟩ } ∧
    (s.heap[0]?).map (·.lock) = some (some 1) ∧ s.cell0 = .node 0 ∧ s.lowCell = .node 4 ∧ s.highCell = .node 3 := by
  have h : (midState.map fun s => (s.threads, (s.heap[0]?).map (·.lock), s.cell0, s.lowCell, s.highCell)) =
      some ([ { pc := .idle, call := none }, { pc := .tStoreMoved 0, call := none },
              { pc := .rTable, call := some ⟨3, .get, 34⟩ },
              { pc := .wLock .old 0, call := some ⟨1, .rm, 27⟩ } ],
            some (some 1), .node 0, .node 4, .node 3) := by decide +kernel
  cases hs : midState with
  | none => rw [hs] at h; cases h
  | some s =>
    rw [hs] at h
    simp only [Option.map_some, Option.some.injEq, Prod.mk.injEq] at h
    obtain ⟨h1, h2, h3, h4, h5⟩ := h
    refine ⟨s, rfl, runSched_reachable midSchedule Reachable.init hs, ?_, ?_, ?_, ?_, h3, h4, h5⟩
    · rw [h1]; rfl
    · rw [h1]; rfl
    · rw [h1]; rfl
    · rw [h2]

/-- in that state the *writer* `rm 1` is blocked (it waits for the bin lock) … -/
example : (midState.map fun s => (step s 3 none false).isSome) = some false := by decide +kernel

/-- … but the reader, running alone, walks the old list `0 → 1 → 2` and answers `some (30, 102)` in 5
steps (table pointer, old cell, three nodes) — within `soloBound = 9` -/
example : (midState.bind fun s => (runSolo 2 false 5 s).map fun s' =>
      (decide (5 ≤ soloBound s), s'.threads[2]?, s'.hist.head?)) =
    some (true, some { pc := .idle, call := none },
      some (3, { tid := 2, op := .get, res := .some 30 102, inv := 34, resp := 39 })) := by decide +kernel

/-- … while the transfer still holds the lock, where it was suspended -/
example : (midState.bind fun s => (runSolo 2 false 5 s).map fun s' =>
      ((s'.heap[0]?).map (·.lock), s'.cell0, s'.threads[1]?)) =
    some (some (some 1), .node 0, some { pc := .tStoreMoved 0, call := none }) := by decide +kernel

/-- with the forwarding marker stored and the lock still held (`tUnlock`), the reader follows the
marker into the new table: table pointer (still `old`), old cell (`moved`), new high cell, nodes 3
(the copy of key 1) and 2: 5 steps again -/
example : (fwdState.map fun s => (s.cell0, s.threads[1]?, (s.heap[0]?).map (·.lock))) =
    some (.moved, some { pc := .tUnlock 0, call := none }, some (some 1)) := by decide +kernel

example : (fwdState.bind fun s => (runSolo 2 false 5 s).map fun s' =>
      (decide (5 ≤ soloBound s), s'.threads[2]?, s'.hist.head?)) =
    some (true, some { pc := .idle, call := none },
      some (3, { tid := 2, op := .get, res := .some 30 102, inv := 34, resp := 40 })) := by decide +kernel

/-- the general theorem instantiated at `midState` -/
example : ∃ s, midState = some s ∧ ∃ k, k ≤ soloBound s ∧
    ∃ (s' : State) (p : Pending) (res : KRes) (resp : Nat), runSolo 2 false k s = some s' ∧
    s'.threads[2]? = some { pc := .idle, call := none } ∧
    s'.threads[1]? = some { pc := .tStoreMoved 0, call := none } ∧
    s'.hist = (p.key, { tid := 2, op := p.op, res := res, inv := p.inv, resp := resp }) :: s.hist := by
  obtain ⟨s, hs, hr, h1, _, h2, _⟩ := midState_spec
  obtain ⟨k, hk, s', p, res, resp, _, hrun, hf, hidle, hh⟩ := reader_solo_terminates hr h2 rfl false
  exact ⟨s, hs, k, hk, s', p, res, resp, hrun, hidle, (hf.others 1 (by decide)).trans h1, hh⟩

end Flurry.Proto.BinX
