import Flurry.Lemmas.BinNALin
import Flurry.Lemmas.BinNATransfer
import Flurry.Lemmas.BinNAWF
import Flurry.Lemmas.BinNALock
/-! # C01 / C10 (generation structure): linearizability across ANY NUMBER of successive resizes

`Proto/BinNA.lean` models a table that is resized again and again (generations `0, 1, 2, …`,
generation `g` has `2^g` cells) while any number of threads perform `get`, `contains_key`, `insert`,
`try_insert`, `remove`, `compute_if_present`. One transition = one shared-memory access. Bins are
ATOMIC copy-on-write lists (a reader gets the whole bin with ONE load of the cell, a writer replaces it
with ONE store under the cell's lock), so the in-bin pointer walking that `Proto/BinX` / `Proto/BinG`
cover for one resize is not interleaved here; what is new is the generation structure: a slow thread may
hold a pointer to a table that is several generations old, every cell of which is a forwarding marker
for ever, and follows marker after marker until it reaches a live cell.

For every reachable state and every key, the history of that key — the completed calls, plus the calls
of writers that have done their store and only have to unlock — is linearizable from "absent" to the
key's current abstract content (`binNA_linearizable`; quiescent form `binNA_linearizable_quiescent`).

Linearization points (no hindsight needed in this model): readers at the load that returns a cell that
is not a marker; writers that see an empty cell and have nothing to insert at that load; the lock-free
insert at its successful CAS; lock-holding writers at their one store. No step of a resize has an
abstract effect (`transfer_abs_invariant`). -/
namespace Flurry.Proto.BinNA
open Flurry.Lin

theorem init_ginv (n k : Nat) : GInv k (init n) (fun _ => none) id := by
  have tr := GhostView.Trace.init (S := Lin.sig) (V := view) (ts := (init n).threads) k (fun l hl => by
    obtain ⟨t, hl⟩ := List.mem_iff_getElem?.1 hl
    cases init_thread hl; rfl)
  have ha : absOf (init n) k = none := by
    show cellAbs k (liveFrom (init n) 1 0 k) = none
    rw [liveFrom, getCell_init]; rfl
  refine .of_trace ?_
  show GhostView.Trace Lin.sig _ 0 (absOf (init n) k) (fun _ => none) id
  rw [ha]; exact tr

theorem reachable_ginv {n : Nat} {s : State} (hr : Reachable n s) (k : Nat) :
    Inv s ∧ ∃ A pt, GInv k s A pt :=
  reachable_induction (P := fun s => Inv s ∧ ∃ A pt, GInv k s A pt) ⟨inv_init n, _, _, init_ginv n k⟩
    (fun _ ⟨I, _, _, g⟩ hl h => ⟨stepK_inv I hl h, ginv_step g I hl h⟩) hr

/-- from the ghost invariant to linearizability (the trace lemma) -/
theorem GInv.linearizable {k : Nat} {s : State} {A : Nat → KSt} {pt : Nat → Nat}
    (g : GInv k s A pt) (T : TInv s) : Linearizable (callsOnExt s k) none (absOf s k) :=
  callsOnExt_eq s k ▸ g.trace.lin T.gen

/-- **C01 / C10 across any number of resizes.** Under every interleaving of any number of
threads and any number of successive resizes, the per-key history (completed calls plus
stored-but-not-yet-unlocked writers) is linearizable and ends in what a lookup of the key started now
would find (`absOf`: start at the table pointer, follow the forwarding markers). -/
theorem binNA_linearizable {n : Nat} {s : State} (hr : Reachable n s) (k : Nat) :
    Lin.Linearizable (callsOnExt s k) none (absOf s k) := by
  obtain ⟨I, A, pt, g⟩ := reachable_ginv hr k
  exact g.linearizable I.thr

/-- **quiescent form**: when no thread is inside a call or a resize, the completed calls on every key
are linearizable and end in the key's abstract content. -/
theorem binNA_linearizable_quiescent {n : Nat} {s : State} (hr : Reachable n s) (hq : quiescent s) (k : Nat) :
    Lin.Linearizable (callsOn s k) none (absOf s k) := by
  have := binNA_linearizable hr k
  rw [callsOnExt_quiescent hq] at this
  exact this

/-! ## the generation structure -/

/-- **generations do not overlap**: at most one generation is being filled and it is `cur + 1`: the
allocated generations are `0 … cur` or `0 … cur + 1`, the latter exactly while a resize is in progress;
generation `g` has `2^g` cells (and as many mutexes); at most one thread is resizing, and only while
`resizing` is set. -/
theorem generations_do_not_overlap {n : Nat} {s : State} (hr : Reachable n s) :
    s.tabs.length ≤ s.cur + 2 ∧ s.cur + 1 ≤ s.tabs.length ∧
    (s.tabs.length = s.cur + 2 ↔ s.resizing = true) ∧
    s.locks.length = s.tabs.length ∧
    (∀ g, g < s.tabs.length → (s.tabs.getD g []).length = 2 ^ g ∧ (s.locks.getD g []).length = 2 ^ g) ∧
    (∀ (t t' : Nat) (l l' : Local), s.threads[t]? = some l → s.threads[t']? = some l' → isT l.pc → isT l'.pc →
      t = t') ∧
    (∀ (t : Nat) (l : Local), s.threads[t]? = some l → isT l.pc → s.resizing = true) := by
  have I := reachable_inv hr
  have hlen := I.shape.len
  refine ⟨?_, I.len_ge, ?_, I.shape.llen, fun g hg => ⟨I.shape.row g hg, I.shape.lrow g hg⟩, I.uniqT,
    fun t l hl => (I.pc t l hl).rz_of_isT⟩
  · rw [hlen]
    split
    · exact Nat.le_refl _
    · exact Nat.le_succ _
  · cases hr : s.resizing with
    | true => exact ⟨fun _ => rfl, fun _ => I.len_rz hr⟩
    | false =>
      rw [hr, if_neg Bool.false_ne_true] at hlen
      exact ⟨fun h => absurd (hlen.symm.trans h) (Nat.ne_of_lt (Nat.lt_succ_self _)), nofun⟩

/-- **old generations are forwarded for ever**: every cell of a generation below the table pointer
is a forwarding marker; no cell of a generation above it (the one being filled) is a marker; and the
cells of the current generation are forwarded only while a resize is in progress. -/
theorem old_generations_forwarded {n : Nat} {s : State} (hr : Reachable n s) :
    (∀ g j, g < s.cur → j < 2 ^ g → getCell s g j = .moved) ∧
    (∀ g j, s.cur < g → getCell s g j ≠ .moved) ∧
    (s.resizing = false → ∀ j, getCell s s.cur j ≠ .moved) := by
  have I := reachable_inv hr
  exact ⟨I.old, I.newer, I.noRz⟩

/-- the generation a program counter works in -/
def genOf : Pc → Option Nat
  | .rCell g | .wCell g | .wCas g | .wLock g | .wCheck g | .wStore g | .wUnlock g _ _ => some g
  | _ => none

/-- **follow markers until a live cell**: a thread that works in generation `g` (it got there from the
table pointer it loaded, marker after marker) has `g ≤ cur + 1`; and if the cell of its key in
generation `g` is not a marker, it IS the cell a lookup started now would end in — so what the thread
reads there is the abstract content of its key. -/
theorem follow_markers_live_cell {n : Nat} {s : State} (hr : Reachable n s) {t g : Nat} {l : Local} {p : Pending}
    (hl : s.threads[t]? = some l) (hp : l.call = some p) (hg : genOf l.pc = some g) :
    g ≤ s.cur + 1 ∧
    (getCell s g (ix g p.key) ≠ .moved →
      liveFrom s s.tabs.length s.cur p.key = getCell s g (ix g p.key) ∧
      absOf s p.key = cellAbs p.key (getCell s g (ix g p.key))) := by
  have I := reachable_inv hr
  have h := I.pc t l hl
  rw [keyOf_some hp] at h
  have hf : Fwd s g (ix g p.key) := by
    generalize l.pc = pc at hg h
    cases pc <;> cases hg <;> first | exact h | exact h.1
  refine ⟨hf.1, fun hnm => ⟨?_, I.absOf_of_fwd hf hnm⟩⟩
  rw [I.liveFrom_eq, I.live_of_fwd hf hnm]

/-- **a resize has no abstract effect**: no step of a thread that is not executing a call — the
resizing thread (allocation of the next generation, CAS `empty → moved`, locking, the stores of the low
and the high child, the store of the marker, unlocking, `cur := cur + 1`) or an idle thread — changes
the abstract content of any key. -/
theorem transfer_abs_invariant {n : Nat} {s s' : State} (hr : Reachable n s) {t : Nat} {l : Local}
    {inv : Option (Nat × KOp)} {rz : Bool} {pick : Nat} (hl : s.threads[t]? = some l)
    (hT : isT l.pc ∨ (l.pc = .idle ∧ rz = true))
    (hs : step s t inv rz pick = some s') (k : Nat) : absOf s' k = absOf s k := by
  have I := reachable_inv hr
  refine stepK_abs I hl (step_stepK hl hs) k ?_
  intro p hp
  have hop : isOp l.pc := (I.thr.callOK t l hl).2 (by rw [hp]; rfl)
  rcases hT with hT | ⟨hT, _⟩
  · exact absurd hop (not_isOp_of_isT hT)
  · rw [hT] at hop; exact hop.elim

/-- **mutual exclusion under a validated lock**: two threads that hold a validated lock on the same
cell (a writer between its successful re-check and its store, the resizing thread between its
successful re-check and the store of the marker) are the same thread. -/
theorem validated_mutex {n : Nat} {s : State} (hr : Reachable n s) {t t1 : Nat} {l l1 : Local} {c : Nat × Nat}
    (hl : s.threads[t]? = some l) (hl1 : s.threads[t1]? = some l1)
    (hv : vcell s l = some c) (hv1 : vcell s l1 = some c) : t = t1 := by
  have I := reachable_inv hr
  obtain ⟨g, j⟩ := c
  have h1 := (vcell_spec hv (I.pc t l hl)).1
  have h2 := (vcell_spec hv1 (I.pc t1 l1 hl1)).1
  rw [h1] at h2
  exact Option.some.inj h2

/-- under a validated lock the cell is a list (it has not been forwarded and cannot be until the lock
is released), its mutex is held by the thread, and for a writer it is the LIVE cell of its key: its
content is the abstract content of the key. -/
theorem validated_live {n : Nat} {s : State} (hr : Reachable n s) {t g j : Nat} {l : Local}
    (hl : s.threads[t]? = some l) (hv : vcell s l = some (g, j)) :
    getLock s g j = some t ∧ isList (getCell s g j) = true ∧
    (∀ p, l.call = some p → j = ix g p.key ∧ absOf s p.key = cellAbs p.key (getCell s g j)) := by
  have I := reachable_inv hr
  obtain ⟨h1, h2, h3⟩ := vcell_spec hv (I.pc t l hl)
  refine ⟨h1, h2, ?_⟩
  intro p hp
  have hj : j = ix g p.key := by
    obtain ⟨pc, call⟩ := l
    cases hp
    have hop := (I.thr.callOK t _ hl).2 rfl
    cases pc <;> cases hv <;> first | rfl | exact hop.elim
  subst hj
  exact ⟨rfl, I.absOf_of_fwd h3 (isList_ne_moved h2)⟩

/-- **lock words**: the mutex of cell `(g, j)` is held by thread `t` exactly when `t` is in a critical
section on that cell (a writer from its lock acquisition to its unlock, the resizing thread from its
lock acquisition to its unlock) — no lock word is ever left behind, in particular none in a table of an
old generation. -/
theorem lock_iff_critical_section {n : Nat} {s : State} (hr : Reachable n s) (g j t : Nat) :
    getLock s g j = some t ↔ ∃ l, s.threads[t]? = some l ∧ HoldsAt s l g j := by
  have I := reachable_inv hr
  exact ⟨reachable_linv hr g j t, fun ⟨l, hl, hh⟩ => hh.locked (I.pc t l hl)⟩

/-- **bins are well-formed**: the content of every list cell `(g, j)` is non-empty, its keys are
pairwise distinct and all of them belong to cell `j` of generation `g` (so a split sends every entry to
the right child). -/
theorem content_wellformed {n : Nat} {s : State} (hr : Reachable n s) {g j : Nat} {xs : List Entry}
    (h : getCell s g j = .list xs) :
    xs ≠ [] ∧ (xs.map (·.1)).Nodup ∧ ∀ e ∈ xs, e.1 % 2 ^ g = j := by
  have := reachable_wf hr g j
  rw [h] at this
  exact this

end Flurry.Proto.BinNA
