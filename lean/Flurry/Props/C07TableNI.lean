import Flurry.Proto.TableNI
import Flurry.Lemmas.TableNI
import Flurry.Lemmas.TableNIExamples
import Flurry.Props.C07BinNI
import Flurry.Props.C07BinNIOnce2
/-! # C07 / C01 (table level, CONCURRENT): table iterations running while the table is written and resized

`Proto/TableNI`: `m` `Proto/BinNI` lineages (key `k` in lineage `k % m` under the local name `k / m`; one
clock; ticks are the no-op steps of a dedicated clock thread, so every lineage is literally
`BinNI.Reachable (n + 1)`), a TABLE ITERATION of thread `t` = one `BinNI` iterator per lineage, the `m`
per-lineage walks interleaved arbitrarily (an over-approximation of the real bin order, see the header of
the model). Yields are re-keyed to the keys of the table (`tyields`).

"A past state" (`Before n S₁ S`) is the lineage-wise form of the prefix states of `Props/C07BinNI*.lean`:
every lineage of `S₁` is a reachable `BinNI` state from which the lineage of `S` is reached. Every state of
the run of the table leading to `S` is one (`tableNI_run_states_are_past_states`), but — exactly as in the
lineage-level theorems, whose hypotheses range over all `s₁` with `Reachable nt s₁ ∧ Steps s₁ s` — the
hypotheses "during the whole iteration" range over ALL past states in this sense, not only over those of
one particular run. The time of a past state, for key `k`, is the clock of lineage `k % m` (`clockAt`; in a
state of the run all clocks agree: `clocks_agree`).

The three statements of C07 at table level — a yield was present at some moment of the iteration
(`tableNI_yield_was_present`), a key untouched and present throughout is yielded exactly once
(`tableNI_untouched_yielded_once`), one absent throughout is not yielded (`tableNI_untouched_absent_not_yielded`) —
are the lineage's (`Props/C07BinNI*.lean`) at the lineage of the key: the other lineages yield keys of their own
class only (`tableNI_yield_own_lineage`, `Lemmas/TableNI.filter_tyields`), and "during the whole iteration" comes
down to the lineage by `during_lineage`. Beside them C01 with iterators alive (`tableNI_map_linearizable`) and
"a table iteration never blocks" (`tableNI_iter_step_enabled`). -/
namespace Flurry.Proto.TableNI
open Flurry.Lin Flurry.LinMap
open Flurry.Proto.TableN (lineageOf localKey globalKey)

theorem bins_length {m n : Nat} {S : State} (hr : Reachable m n S) : S.bins.length = m :=
  (reachable_tblInv hr).len

/-- every lineage of a reachable table is a reachable `Proto/BinNI` lineage (with the clock thread) -/
theorem tableNI_lineage_reachable {m n : Nat} {S : State} (hr : Reachable m n S) {i : Nat} {b : BinNI.State}
    (hb : S.bins[i]? = some b) : BinNI.Reachable (n + 1) b := (reachable_tblInv hr).reach i b hb

/-- **one clock**: all lineages of a reachable table show the same time -/
theorem clocks_agree {m n : Nat} {S : State} (hr : Reachable m n S) {i j : Nat} {bi bj : BinNI.State}
    (hi : S.bins[i]? = some bi) (hj : S.bins[j]? = some bj) : bi.n.now = bj.n.now := by
  obtain ⟨τ, h⟩ := (reachable_tblInv hr).now
  rw [h i bi hi, h j bj hj]

/-- a tick is the no-op step of the clock thread, which is idle and not iterating in every lineage for ever -/
theorem tableNI_tick_is_lineage_step {m n : Nat} {S : State} (hr : Reachable m n S) {i : Nat} {b : BinNI.State}
    (hb : S.bins[i]? = some b) : BinNI.step b n false none false 0 = some (tick b) :=
  tick_is_step ((reachable_tblInv hr).clock i b hb)

/-- every state of the run of the table is a past state, lineage by lineage -/
theorem tableNI_run_states_are_past_states {m n : Nat} {S₁ S : State} (hr : Reachable m n S₁) (h : Steps S₁ S) :
    Before n S₁ S := before_of_steps hr h

/-- other lineages yield only keys of their own class: a yield of the table with key `k` comes from lineage
`k % m`, where it is a yield of local key `k / m` -/
theorem tableNI_yield_own_lineage {m n : Nat} {S : State} (hr : Reachable m n S) {y : BinNI.Yield}
    (hy : y ∈ tyields S) :
    ∃ b y0, S.bins[lineageOf m y.key]? = some b ∧ y0 ∈ b.yields ∧ y0.key = localKey m y.key ∧
      y = rekey m (lineageOf m y.key) y0 := by
  have I := reachable_tblInv hr
  obtain ⟨i, b, y0, hb, hy0, rfl⟩ := mem_tyields hy
  have hi : i < m := I.len ▸ (List.getElem?_eq_some_iff.1 hb).1
  rw [I.len]
  have e1 : lineageOf m (rekey m i y0).key = i := TableN.lineageOf_globalKey hi y0.key
  have e2 : localKey m (rekey m i y0).key = y0.key := TableN.localKey_globalKey hi y0.key
  rw [e1, e2]
  exact ⟨b, y0, hb, hy0, rfl, rfl⟩

/-- **C07, table level: never a pair that was not in the map.** Every yield `(k, v)` (key of the table) at
time `y.time` of a per-lineage iteration created at `y.t0`: in some past state of the table, at a time in
`[y.t0, y.time]`, the map had `k ↦ v` — whatever writers and however many resizes of whichever lineages ran
in between. For a table iteration created at `τ0` (`τ0 ≤` the creation time of each of its per-lineage
iterations, in particular `τ0 ≤ y.t0`) that moment lies between the table iteration's creation and the yield. -/
theorem tableNI_yield_was_present {m n : Nat} {S : State} (hr : Reachable m n S) {y : BinNI.Yield}
    (hy : y ∈ tyields S) {τ0 : Nat} (h0 : τ0 ≤ y.t0) :
    ∃ S₁, Before n S₁ S ∧ τ0 ≤ clockAt S₁ (lineageOf m y.key) ∧ clockAt S₁ (lineageOf m y.key) ≤ y.time ∧
      absMap S₁ y.key = some y.val := by
  have I := reachable_tblInv hr
  obtain ⟨i, b, y0, hb, hy0, rfl⟩ := mem_tyields hy
  have hil : i < S.bins.length := (List.getElem?_eq_some_iff.1 hb).1
  have hi : i < m := I.len ▸ hil
  rw [I.len]
  have e1 : lineageOf m (rekey m i y0).key = i := TableN.lineageOf_globalKey hi y0.key
  have e2 : localKey m (rekey m i y0).key = y0.key := TableN.localKey_globalKey hi y0.key
  obtain ⟨s₁, r1, st1, t1, t2, ha⟩ := BinNI.iter_yield_was_present (I.reach i b hb) hy0
  have hget : (S.bins.set i s₁)[i]? = some s₁ := List.getElem?_set_self hil
  refine ⟨{ S with bins := S.bins.set i s₁ }, before_set I hb r1 st1, ?_, ?_, ?_⟩
  · rw [e1]; unfold clockAt; rw [getD_of_get hget]; exact Nat.le_trans h0 t1
  · rw [e1]; unfold clockAt; rw [getD_of_get hget]; exact t2
  · have hlen : ({ S with bins := S.bins.set i s₁ } : State).bins.length = m := by
      show (S.bins.set i s₁).length = m
      rw [List.length_set]; exact I.len
    rw [absMap_eq hlen (k := (rekey m i y0).key) (b := s₁) (by rw [e1]; exact hget), e2]
    exact ha

/-- the hypothesis "during the whole table iteration", brought down to the lineage of the key -/
theorem during_lineage {m n : Nat} {S : State} (I : TblInv m n S) {k : Nat} {b : BinNI.State}
    (hb : S.bins[lineageOf m k]? = some b) {τ0 τ1 c e : Nat} (hc : τ0 ≤ c) (he : e ≤ τ1) {r : KSt}
    (hun : ∀ S₁, Before n S₁ S → τ0 ≤ clockAt S₁ (lineageOf m k) → clockAt S₁ (lineageOf m k) ≤ τ1 →
      absMap S₁ k = r) :
    ∀ s₁, BinNI.Reachable (n + 1) s₁ → BinNI.Steps s₁ b → c ≤ s₁.n.now → s₁.n.now ≤ e →
      BinNI.absOf s₁ (localKey m k) = r := by
  intro s₁ r1 st1 t1 t2
  have hil : lineageOf m k < S.bins.length := (List.getElem?_eq_some_iff.1 hb).1
  have hget : (S.bins.set (lineageOf m k) s₁)[lineageOf m k]? = some s₁ := List.getElem?_set_self hil
  have hlen : ({ S with bins := S.bins.set (lineageOf m k) s₁ } : State).bins.length = m := by
    show (S.bins.set (lineageOf m k) s₁).length = m
    rw [List.length_set]; exact I.len
  have hclk : clockAt { S with bins := S.bins.set (lineageOf m k) s₁ } (lineageOf m k) = s₁.n.now := by
    unfold clockAt; rw [getD_of_get hget]
  have := hun _ (before_set I hb r1 st1) (by rw [hclk]; omega) (by rw [hclk]; omega)
  rw [absMap_eq hlen hget] at this
  exact this

/-- **C07, table level: present and untouched ⇒ yielded EXACTLY once, with its value.** For a completed
table iteration of thread `t` (per-lineage creation times `c`, end times `e`, all within `[τ0, τ1]`): a key
`k` of the table that maps to `v` in every past state between `τ0` and `τ1` is yielded exactly once overall
by this table iteration — the yields of the table with thread `t`, creation time `c (key % m)` and key `k`
are exactly one record (it comes from the iterator of lineage `k % m`; the other lineages yield keys of
their own class only: `tableNI_yield_own_lineage`), and it carries `v` — whatever writers (on other keys)
and however many resizes of whichever lineages ran during the iteration. -/
theorem tableNI_untouched_yielded_once {m n : Nat} (hm : 0 < m) {S : State} (hr : Reachable m n S)
    {t τ0 τ1 : Nat} {c e : Nat → Nat} (hC : Completed S t c e τ0 τ1) {k : Nat} {v : Nat × Nat}
    (hun : ∀ S₁, Before n S₁ S → τ0 ≤ clockAt S₁ (lineageOf m k) → clockAt S₁ (lineageOf m k) ≤ τ1 →
      absMap S₁ k = some v) :
    ∃ y, yieldsOf S t c k = [y] ∧ y.val = v ∧ y.key = k := by
  have I := reachable_tblInv hr
  obtain ⟨b, hb⟩ := bin_of_key hm I k
  have hil : lineageOf m k < S.bins.length := (List.getElem?_eq_some_iff.1 hb).1
  have hlin := during_lineage I hb (hC.lo _ hil) (hC.hi _ hil) hun
  obtain ⟨y0, hy0, hv⟩ := BinNI.iter_untouched_yielded_once (I.reach _ b hb) (hC.ends _ b hb) hlin
  refine ⟨rekey m (lineageOf m k) y0, ?_, hv, ?_⟩
  · unfold yieldsOf
    rw [I.len]
    have := filter_tyields I k (fun y => decide (y.tid = t ∧ y.t0 = c (lineageOf m y.key))) hb
    have e1 : ((tyields S).filter fun y => decide (y.tid = t ∧ y.t0 = c (lineageOf m y.key) ∧ y.key = k)) =
        (tyields S).filter (fun y => decide (y.tid = t ∧ y.t0 = c (lineageOf m y.key)) && decide (y.key = k)) := by
      apply List.filter_congr
      intro y _
      rw [Bool.eq_iff_iff]
      simp only [Bool.and_eq_true, decide_eq_true_eq]
      exact ⟨fun h => ⟨⟨h.1, h.2.1⟩, h.2.2⟩, fun h => ⟨h.1.1, h.1.2, h.2⟩⟩
    rw [e1, this]
    have e2 : (b.yields.filter fun y0 => decide ((rekey m (lineageOf m k) y0).tid = t ∧
          (rekey m (lineageOf m k) y0).t0 = c (lineageOf m (rekey m (lineageOf m k) y0).key)) &&
          decide (y0.key = localKey m k)) =
        b.yields.filter fun y => decide (y.tid = t ∧ y.t0 = c (lineageOf m k) ∧ y.key = localKey m k) := by
      apply List.filter_congr
      intro y _
      have hl : lineageOf m (rekey m (lineageOf m k) y).key = lineageOf m k :=
        TableN.lineageOf_globalKey (Nat.mod_lt _ hm) y.key
      rw [hl, Bool.eq_iff_iff]
      simp only [Bool.and_eq_true, decide_eq_true_eq]
      exact ⟨fun h => ⟨h.1.1, h.1.2, h.2⟩, fun h => ⟨⟨h.1, h.2.1⟩, h.2.2⟩⟩
    rw [e2, hy0]
    rfl
  · have hmem : y0 ∈ b.yields.filter fun y => decide (y.tid = t ∧ y.t0 = c (lineageOf m k) ∧ y.key = localKey m k) := by
      rw [hy0]; exact List.mem_singleton.2 rfl
    have := (List.mem_filter.1 hmem).2
    simp only [decide_eq_true_eq] at this
    show globalKey m (lineageOf m k) y0.key = k
    rw [this.2.2]
    exact TableN.globalKey_lineage_local m k

/-- **C07, table level: absent throughout ⇒ not yielded.** -/
theorem tableNI_untouched_absent_not_yielded {m n : Nat} (hm : 0 < m) {S : State} (hr : Reachable m n S)
    {t τ0 τ1 : Nat} {c e : Nat → Nat} (hC : Completed S t c e τ0 τ1) {k : Nat}
    (habs : ∀ S₁, Before n S₁ S → τ0 ≤ clockAt S₁ (lineageOf m k) → clockAt S₁ (lineageOf m k) ≤ τ1 →
      absMap S₁ k = none) :
    yieldsOf S t c k = [] := by
  have I := reachable_tblInv hr
  obtain ⟨b, hb⟩ := bin_of_key hm I k
  have hil : lineageOf m k < S.bins.length := (List.getElem?_eq_some_iff.1 hb).1
  have hlin := during_lineage I hb (hC.lo _ hil) (hC.hi _ hil) habs
  have hno := BinNI.iter_untouched_absent_not_yielded (I.reach _ b hb) (hC.ends _ b hb) hlin
  unfold yieldsOf
  rw [List.filter_eq_nil_iff]
  intro y hy hp
  simp only [decide_eq_true_eq] at hp
  obtain ⟨b', y0, hb', hy0, hk0, e0⟩ := tableNI_yield_own_lineage hr hy
  rw [I.len] at hp
  obtain ⟨h1, h2, h3⟩ := hp
  rw [h3] at hb' hk0 h2
  rw [hb] at hb'; cases hb'
  have a1 : y.tid = y0.tid := by rw [e0]; rfl
  have a2 : y.t0 = y0.t0 := by rw [e0]; rfl
  exact hno y0 hy0 (by rw [← a1]; exact h1) (by rw [← a2]; exact h2) hk0

/-- the yields of a completed table iteration lie between its creation and its end -/
theorem tableNI_yields_within {m n : Nat} {S : State} (hr : Reachable m n S)
    {t τ0 τ1 : Nat} {c e : Nat → Nat} (hC : Completed S t c e τ0 τ1) {y : BinNI.Yield} (hy : y ∈ tyields S)
    (ht : y.tid = t) (h0 : y.t0 = c (lineageOf m y.key)) : τ0 ≤ y.t0 ∧ y.time ≤ τ1 := by
  have I := reachable_tblInv hr
  obtain ⟨b, y0, hb, hy0, hk0, e0⟩ := tableNI_yield_own_lineage hr hy
  have hil : lineageOf m y.key < S.bins.length := (List.getElem?_eq_some_iff.1 hb).1
  have h1 : y.tid = y0.tid := by rw [e0]; rfl
  have h2 : y.t0 = y0.t0 := by rw [e0]; rfl
  have h3 : y.time = y0.time := by rw [e0]; rfl
  have := (BinNI.iter_yields_before_end (I.reach _ b hb) (hC.ends _ b hb)).2 y0 hy0 (by rw [← h1]; exact ht)
    (by rw [← h2]; exact h0)
  exact ⟨by rw [h0]; exact hC.lo _ hil, by rw [h3]; exact Nat.le_trans this (hC.hi _ hil)⟩

/-- **C01 with iterators present**: at a moment without calls and resizes in progress (iterators may be
alive), ONE sequential order of ALL calls on ALL keys respects real time and replays through the sequential
specification of a map, from the empty map to the abstract map of the table -/
theorem tableNI_map_linearizable {m n : Nat} (hm : 0 < m) {S : State} (hr : Reachable m n S) (hq : quiescent S) :
    LinMap.MapLinearizable (mhist S) (fun _ => none) (absMap S) :=
  map_linearizable_aux hm hr hq

/-- **a table iteration never blocks**: in every reachable state, a thread `t` (not the clock thread) that
has an iterator in lineage `i` and is not itself in the middle of a call or a resize in another lineage can
take the next step of that iterator — whatever locks the other threads hold, whatever resizes are running;
the step leaves the shared memory of every lineage as it is (all clocks tick) -/
theorem tableNI_iter_step_enabled {m n : Nat} {S : State} (hr : Reachable m n S) {i t : Nat} {b : BinNI.State}
    {it : BinNI.Iter} (hb : S.bins[i]? = some b) (hi : b.its[t]? = some (some it))
    (hidle : ∀ j c, j ≠ i → S.bins[j]? = some c → idleIn c t = true)
    (mk : Bool) (rz : Bool) (pick : Nat) :
    ∃ S', step S i t mk none rz pick = some S' ∧
      ∀ (j : Nat) (c c' : BinNI.State), S.bins[j]? = some c → S'.bins[j]? = some c' →
        c'.n = { c.n with now := c.n.now + 1 } := by
  have I := reachable_tblInv hr
  obtain ⟨b', hs, hn⟩ := BinNI.iter_step_enabled (I.reach i b hb) hi mk none rz pick
  have htc : t ≠ S.clk := by
    intro e
    have := (I.clock i b hb).1
    rw [← I.clk, ← e, hi] at this
    cases this
  have hall : ((List.range S.bins.length).all fun j => j == i || idleIn (S.bins.getD j (BinNI.init 0)) t) = true :=
    (Lineages.all_idle_iff S.bins _ (idleIn · t) i).2 hidle
  refine ⟨{ S with bins := (S.bins.map tick).set i b' }, ?_, ?_⟩
  · unfold step
    simp only [hb]
    rw [if_neg (by simpa using htc), hall]
    simp only [Bool.not_true, Bool.false_eq_true, if_false]
    have : TableN.localInv S.bins.length (none : Option (Nat × KOp)) = none := rfl
    rw [show TableN.inLineage S.bins.length i ((none : Option (Nat × KOp)).map (·.1)) = true from rfl]
    simp only [Bool.not_true, Bool.false_eq_true, if_false]
    rw [this, hs]
  · intro j c c' hc hc'
    rcases Lineages.of_set_map_any tick j c' hc' with ⟨rfl, rfl⟩ | ⟨_, b0, hj, rfl⟩
    · rw [hb] at hc; cases hc; exact hn
    · rw [hj] at hc; cases hc; rfl

/-! ## non-vacuity (`Lemmas/TableNIExamples.lean`, kernel-checked run) -/

/-- `m = 2`, two threads, 72 transitions: thread 1's table iteration is created (clock 27, 28) before thread 0
resizes lineage 0 and then lineage 1 and overwrites key 2, and finishes after (clock 68, 72), descending through
the forwarding markers of both lineages. The state is reachable, the table iteration is completed within
`[27, 72]`, and it yields every key exactly once: the untouched keys 0, 1, 3 with their values, key 2 with the
value written during the iteration; the history of the map is linearizable -/
example : ∃ S : State, Reachable 2 2 S ∧ Completed S 1 exC exE 27 72 ∧
    tyields S = [⟨1, 27, 2, (21, 201), 67⟩, ⟨1, 27, 0, (10, 100), 65⟩, ⟨1, 28, 3, (30, 300), 71⟩, ⟨1, 28, 1, (11, 101), 69⟩] ∧
    (List.range 6).map (absMap S) = [some (10, 100), some (11, 101), some (21, 201), some (30, 300), none, none] ∧
    shape S = [(1, false, 72, [none, none, none]), (1, false, 72, [none, none, none])] ∧
    (List.range 4).map (fun k => (yieldsOf S 1 exC k).length) = [1, 1, 1, 1] ∧
    LinMap.MapLinearizable (mhist S) (fun _ => none) (absMap S) := by
  obtain ⟨S, hr, hq, hC, hy, ha, hs, h1⟩ := example_state
  exact ⟨S, hr, hC, hy, ha, hs, h1, tableNI_map_linearizable (by decide) hr hq⟩

/-- at clock 40 of that run lineage 0 has been resized, lineage 1 not yet, and both iterators of thread 1 —
created before — still are at their first cell -/
example : exDuring = true := exDuring_true

end Flurry.Proto.TableNI
