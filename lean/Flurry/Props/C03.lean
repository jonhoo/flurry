import Flurry.Lemmas.Reclaim
/-! # C03 — references handed out under a guard never dangle; freed memory is never touched

**Strength: full for the reclamation discipline (`Proto/Reclaim`), partial for its embedding.**
`Proto/Reclaim` is the ownership protocol flurry follows on top of seize: a pointer is picked up
only from a *linked* object and only under a guard, is given up when the guard is released or
refreshed, an object is unlinked before it is retired, and the collector frees it only when every
guard that was active at its retirement has been released. Proved for every number of threads and
every event sequence allowed by the protocol: no pointer a thread holds refers to freed memory.
With `Guard::unprotected()` (retire = free) the same sequence touches freed memory: finding F1.

That the implementation's events *are* sequences of this protocol is checked on recorded event
streams of the real code (`harness/src/life.rs`): every hook address against the quarantine
allocator's free log ([uaf]), frees against the guards active at retirement ([early-free]),
retirement against a reachability snapshot ([retire-reachable]), double frees. -/
namespace Flurry.C03
open Flurry.Proto.Reclaim

/-- **a reference obtained under a guard stays valid until that guard is released**: in every
protected run (objects are published by guarded threads), no pointer held by any thread refers
to a freed object -/
theorem held_references_valid {n : Nat} {es : List Ev} {s : State}
    (h : run (init n) es = some s) (hp : Protected es) (hg : publishGuarded (init n) es = true) :
    ∀ (t : Nat) (th : Thread) (o : Nat), s.threads[t]? = some th → o ∈ th.holds → s.objs[o]? ≠ some .freed :=
  held_pointers_valid_of_publishGuarded h hp hg

/-- **freed memory is never touched** -/
theorem no_touch_after_free {n : Nat} {es : List Ev} {s : State}
    (h : run (init n) es = some s) (hp : Protected es) (hg : publishGuarded (init n) es = true) :
    s.badTouches = 0 := no_touch_after_free_of_publishGuarded h hp hg

/-- the collector cannot free an object somebody still holds -/
theorem free_waits_for_holders {n : Nat} {es : List Ev} {s : State}
    (h : run (init n) es = some s) (hp : Protected es) (hg : publishGuarded (init n) es = true)
    {t : Nat} {th : Thread} {o : Nat} (ht : s.threads[t]? = some th) (hm : o ∈ th.holds) :
    step s (.free o) = none := free_refused_while_held h hp hg ht hm

/-- unlink first, retire afterwards, under a guard -/
theorem retire_only_after_unlink {s s' : State} {t o : Nat} (h : step s (.retire t o) = some s') :
    s.objs[o]? = some .unlinked ∧ guardedB s t = true := retire_after_unlink h

/-- nobody can pick the pointer up after the unlink -/
theorem unlinked_not_acquirable {s s1 s' : State} {es : List Ev} {t0 o : Nat}
    (h0 : step s (.unlink t0 o) = some s1) (h : run s1 es = some s') (t : Nat) :
    step s' (.acquire t o) = none := no_acquire_after_unlink_event h0 h t

/-- **finding F1 as a theorem about the protocol**: one thread that acquires a node, unlinks it,
retires it through an unprotected guard and then touches it (what `FromIterator` does through
`transfer` on the code before the repair of F1: the head node is retired and afterwards the mutex
inside it is released) touches freed memory. -/
theorem unprotected_guard_is_unsafe :
    (run (init 1) f1Trace).map (·.badTouches) = some 1 ∧ ¬ Protected f1Trace :=
  ⟨unprotected_unsafe.1, unprotected_unsafe.2.2⟩

/-- the guard hypothesis on publication is needed -/
theorem publication_needs_guard : ∃ es s, run (init 2) es = some s ∧ Protected es ∧ s.badTouches = 1 :=
  no_touch_after_free_needs_guard

end Flurry.C03
