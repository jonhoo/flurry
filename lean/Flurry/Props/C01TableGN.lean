import Flurry.Proto.TableGN
import Flurry.Props.C01BinGNLin
import Flurry.Props.C01TableN
import Flurry.Props.C01Local
import Flurry.Lemmas.TableGN
import Flurry.Lemmas.TableLineages
import Flurry.Lemmas.TableGNExamples
/-! # C01 (table level, list AND tree bins, across ANY NUMBER of resizes): ONE sequential order of ALL calls on ALL keys

`Proto/TableGN`: a whole table with list and tree bins through any number of resizes. `m` lineages, each a
`Proto/BinGN` lineage — bin `i` of the initial table and everything it is split into: at generation `g` the cells
`(g, j)`, `j < 2^g`, which are the bins `i + m * j` of the table of length `m * 2^g`; per cell empty / list bin /
tree bin / forwarding marker; lock-free readers, lock-protocol readers of tree bins, list readers / iterators,
locked list writers with the re-check, lock-free CAS into an empty cell, tree writers with the bin mutex + write
lock + WAITER, treeify, untreeify, the transfer of an empty, a list and a tree bin (the `TreeBin` object re-used
when one side is empty), forwarding markers followed generation after generation. Key `k` lives in lineage `k % m`
under the local name `k / m` (the hash is the key), i.e. in bin `k % m + m * ((k / m) % 2^g)` of generation `g`,
which is `k % (m * 2^g)` (`TableN.bin_index_eq_mod`; for `m = 2^a`: `k % 2^(a+g)`, `TableN.bin_index_eq` — pure
arithmetic, re-used from `Props/C01TableN.lean`). `TableGN.step` translates the key of a call AND the key of a
treeify into their local names, the map history records the ORIGINAL key. Any number of threads, a thread inside at
most one lineage at a time (so a thread resizes the lineages one at a time; different lineages may be resized by
different threads), one clock shared by all lineages. The table pointer / generation counter is modelled per
lineage, which over-approximates the single pointer of the code (lineages may be at different generations in the
model — `tableGN_lineages_at_different_generations` —, never in the code; the allocations and the commits of all
lineages may happen consecutively when the real allocation and the real `table := next` happen; see the header of
`Proto/TableGN.lean`). The history of the table is the history of the *map* (`LinMap.MHistory`): the calls on all
keys of all lineages, with comparable times.

How the lineage-level theorem lifts: the clock of a lineage in which nothing happens advances by a `tick`, and a
tick is *itself* a transition of `Proto/BinGN` — the step of a thread that is idle in that lineage and starts nothing
(`tableGN_tick_is_lineage_step`); `TableGN.step` lets a thread act in a lineage only while it is idle in all others.
So every lineage of a reachable table is literally `BinGN.Reachable` (`tableGN_lineage_reachable`) and
`binGN_linearizable_quiescent`, `generations_do_not_overlap`, `old_generations_forwarded`, `transfer_abs_invariant`,
`quiescent_tree_eq_list`, … apply to it as they stand. The key translation `q ↦ i + m * q` is injective on a lineage
and separates the lineages (`tableGN_key_translation`), so the projection of the map history on key `k` IS the
history of local key `k / m` in lineage `k % m` (`tableGN_proj_eq`);
locality (`LinMap.map_linearizable_of_proj`, which `C01.locality` states) does the rest.
Proofs: `Lemmas/TableGN.lean`, `Lemmas/TableGNExamples.lean`. -/
namespace Flurry.Proto.TableGN
open Flurry.Lin Flurry.LinMap
open Flurry.Proto.TableN (lineageOf localKey globalKey)

theorem bins_length {m n : Nat} {S : State} (hr : Reachable m n S) : S.bins.length = m :=
  (reachable_tblInv hr).len

/-! ## where a key lives (the arithmetic is `TableN`'s: `TableN.bin_index_eq`, `TableN.bin_index_eq_mod`) -/

/-- **the key translation**: lineage `i < m` and local name `q` stand for the key `i + m * q` and for no other;
conversely every key `k` is `globalKey m (k % m) (k / m)` -/
theorem tableGN_key_translation {m i : Nat} (hi : i < m) (q k : Nat) :
    (globalKey m i q = k ↔ i = lineageOf m k ∧ q = localKey m k) ∧
    globalKey m (lineageOf m k) (localKey m k) = k :=
  TableN.tableN_key_translation hi q k

/-- the bin of key `k` in the table of generation `g` — cell `(k / m) % 2^g` of lineage `k % m`, where
`Proto/BinGN` puts local key `k / m` — is bin `k % (m * 2^g)` of the table of length `m * 2^g`; for `m = 2^a` it is
`k % 2^(a+g)`, the index the code computes -/
theorem tableGN_bin_index (m g k : Nat) :
    lineageOf m k + m * (localKey m k % 2 ^ g) = k % (m * 2 ^ g) ∧
    ∀ a, m = 2 ^ a → k % m + m * ((k / m) % 2 ^ g) = k % 2 ^ (a + g) :=
  ⟨TableN.bin_index_eq_mod m g k, fun _ hm => TableN.bin_index_eq hm g k⟩

/-- at the resize of generation `g` key `k` stays in its bin (low) or moves up by the old length `m * 2^g` (high),
according to the split bit of `Proto/BinGN` taken at its local name -/
theorem tableGN_bin_index_split (m g k : Nat) :
    TableN.binIndex m (g + 1) k =
      TableN.binIndex m g k + (if BinGN.bitAt g (localKey m k) then m * 2 ^ g else 0) :=
  TableN.bin_index_split m g k

/-! ## the lineages -/

/-- a tick (the clock of a lineage advances while a thread acts elsewhere) is a transition of the lineage: the step
of a thread that is idle there and starts nothing (no call, no treeify, no resize) -/
theorem tableGN_tick_is_lineage_step {b : BinGN.State} {t : Nat} (h : idleIn b t = true) :
    BinGN.step b t none false none false false false 0 = some (tick b) := tick_is_step h

/-- every lineage of a reachable table is a reachable `Proto/BinGN` lineage: all lineage-level theorems
(`binGN_linearizable`, `binGN_inv`, `transfer_abs_invariant`, `follow_markers_until_live`, `tree_bin_rwlock`, …)
hold for it -/
theorem tableGN_lineage_reachable {m n : Nat} {S : State} (hr : Reachable m n S) {i : Nat} {b : BinGN.State}
    (hb : S.bins[i]? = some b) : BinGN.Reachable n b := (reachable_tblInv hr).reach i b hb

/-- the structural invariant of `Proto/BinGN` (`binGN_inv`) holds in every lineage -/
theorem tableGN_lineage_inv {m n : Nat} {S : State} (hr : Reachable m n S) {i : Nat} {b : BinGN.State}
    (hb : S.bins[i]? = some b) : Flurry.Proto.BinGNP.Inv b := BinGN.binGN_inv (tableGN_lineage_reachable hr hb)

/-- a call is started in the lineage of its key, under its local name: what `step` hands to `BinGN.step` -/
theorem tableGN_call_in_own_lineage {S S' : State} {i t k : Nat} {op : KOp} {lo : Bool} {mt : Option Nat}
    {rz sm sm2 : Bool} {pick : Nat} (hs : step S i t (some (k, op)) lo mt rz sm sm2 pick = some S') :
    lineageOf S.bins.length k = i ∧ ∃ b b', S.bins[i]? = some b ∧
      BinGN.step b t (some (localKey S.bins.length k, op)) lo (localMt S.bins.length mt) rz sm sm2 pick = some b' ∧
      S'.bins[i]? = some b' := by
  obtain ⟨b, b', hb, -, hkey, -, hb', rfl⟩ := step_eq_some hs
  exact ⟨hkey k op rfl, b, b', hb, hb', (Lineages.set_map_getElem? tick b' hb).1⟩

/-- **the treeify key is translated like the invocation key**: a treeify of "the bin of key `k`" is started in
lineage `k % m`, for the bin of the local key `k / m` -/
theorem tableGN_treeify_in_own_lineage {S S' : State} {i t k : Nat} {inv : Option (Nat × KOp)} {lo : Bool}
    {rz sm sm2 : Bool} {pick : Nat} (hs : step S i t inv lo (some k) rz sm sm2 pick = some S') :
    lineageOf S.bins.length k = i ∧ ∃ b b', S.bins[i]? = some b ∧
      BinGN.step b t (TableN.localInv S.bins.length inv) lo (some (localKey S.bins.length k)) rz sm sm2 pick
        = some b' ∧ S'.bins[i]? = some b' := by
  obtain ⟨b, b', hb, -, -, hkey, hb', rfl⟩ := step_eq_some hs
  exact ⟨hkey k rfl, b, b', hb, hb', (Lineages.set_map_getElem? tick b' hb).1⟩

/-- every call of the map history on key `k` is recorded in lineage `k % m`, under the local name `k / m` -/
theorem tableGN_key_in_own_lineage {m n : Nat} {S : State} (hr : Reachable m n S) {c : MCall} (hc : c ∈ mhist S) :
    ∃ b, S.bins[lineageOf m c.key]? = some b ∧ (localKey m c.key, c.call) ∈ b.hist :=
  mhist_own_lineage (reachable_tblInv hr) hc

/-- … and every call recorded in lineage `i` under the local name `q` is in the map history under the key
`i + m * q` — a key of lineage `i` whose local name is `q` -/
theorem tableGN_lineage_call_in_history {m n : Nat} {S : State} (hr : Reachable m n S) {i : Nat} {b : BinGN.State}
    {q : Nat} {c : Call} (hb : S.bins[i]? = some b) (h : (q, c) ∈ b.hist) :
    (⟨globalKey m i q, c⟩ : MCall) ∈ mhist S ∧ lineageOf m (globalKey m i q) = i ∧ localKey m (globalKey m i q) = q :=
  mem_mhist_of_hist (reachable_tblInv hr) hb h

/-- calls on a key of another lineage never appear in a lineage's part of the history -/
theorem tableGN_other_lineage_silent {m i : Nat} (hi : i < m) (b : BinGN.State) {k : Nat} (hk : i ≠ lineageOf m k) :
    proj (binCalls m i b) k = [] :=
  Lineages.proj_calls_nil fun e _ he => hk ((TableN.globalKey_eq_iff hi e.1 k).1 he).1

/-- a thread is active in at most one lineage: of two different lineages it is idle in one -/
theorem tableGN_one_lineage_per_thread {m n : Nat} {S : State} (hr : Reachable m n S) {t i j : Nat}
    {bi bj : BinGN.State} {li lj : BinGN.Local} (hne : i ≠ j) (hi : S.bins[i]? = some bi) (hj : S.bins[j]? = some bj)
    (hli : bi.threads[t]? = some li) (hlj : bj.threads[t]? = some lj) : li.pc = .idle ∨ lj.pc = .idle :=
  reachable_oneBin hr t i j bi bj li lj hne hi hj hli hlj

/-- the resizing thread of a lineage is inside it from the allocation of the next generation to the commit: while
it is anywhere between `xNext` and `xCommit` there, it is idle in every other lineage -/
theorem tableGN_resizer_inside_one_lineage {m n : Nat} {S : State} (hr : Reachable m n S) {t i j : Nat}
    {bi bj : BinGN.State} {li lj : BinGN.Local} (hne : i ≠ j) (hi : S.bins[i]? = some bi) (hj : S.bins[j]? = some bj)
    (hli : bi.threads[t]? = some li) (hlj : bj.threads[t]? = some lj) (hT : Flurry.Proto.BinGNP.xPc li.pc = true) :
    lj.pc = .idle :=
  busy_idle_elsewhere (reachable_oneBin hr) hne hi hj hli hlj (by intro h; rw [h] at hT; cases hT)

/-- **generations do not overlap, lineage by lineage**: the tables of a lineage are its generations `0 … cur`, plus
generation `cur + 1` exactly while its resize runs; generation `g` has `2^g` cells (the table of length `m * 2^g`
has `2^g` bins of each lineage); at most one thread is resizing the lineage, and only while `resizing` is set -/
theorem tableGN_generations_do_not_overlap {m n : Nat} {S : State} (hr : Reachable m n S) {i : Nat} {b : BinGN.State}
    (hb : S.bins[i]? = some b) :
    b.tabs.length = b.cur + 1 + (if b.resizing then 1 else 0) ∧
    (∀ g row, b.tabs[g]? = some row → row.length = 2 ^ g) ∧
    (∀ (t t' : Nat) (l l' : BinGN.Local), b.threads[t]? = some l → b.threads[t']? = some l' →
      (BinGN.desc b.cur l).isX = true → (BinGN.desc b.cur l').isX = true → t = t') ∧
    (∀ (t : Nat) (l : BinGN.Local), b.threads[t]? = some l → (BinGN.desc b.cur l).isX = true → b.resizing = true) :=
  BinGN.generations_do_not_overlap (tableGN_lineage_reachable hr hb)

/-- **old generations are forwarded, lineage by lineage**: every cell of a generation older than the lineage's `cur`
is `moved`, for ever -/
theorem tableGN_old_generations_forwarded {m n : Nat} {S : State} (hr : Reachable m n S) {i : Nat} {b : BinGN.State}
    (hb : S.bins[i]? = some b) {g j : Nat} (hg : g < b.cur) (hj : j < 2 ^ g) : BinGN.cellAt b g j = .moved :=
  BinGN.old_generations_forwarded (tableGN_lineage_reachable hr hb) hg hj

/-- no cell of the generation a lineage is filling is forwarded; a forwarding marker in its generation `cur` exists
only while its resize runs -/
theorem tableGN_next_generation_not_forwarded {m n : Nat} {S : State} (hr : Reachable m n S) {i : Nat}
    {b : BinGN.State} (hb : S.bins[i]? = some b) :
    (∀ j, BinGN.cellAt b (b.cur + 1) j ≠ .moved) ∧ (∀ j, BinGN.cellAt b b.cur j = .moved → b.resizing = true) :=
  BinGN.next_generation_not_forwarded (tableGN_lineage_reachable hr hb)

/-- **no step of a resize of any lineage changes the abstract state of any key of that lineage** (list bins and
tree bins: the split, the stores of the low child, of the high child and of the marker, the commit, …) -/
theorem tableGN_transfer_abs_invariant {m n : Nat} {S : State} (hr : Reachable m n S) {i : Nat} {b b' : BinGN.State}
    (hb : S.bins[i]? = some b) {t : Nat} {l : BinGN.Local} {inv : Option (Nat × KOp)} {lo : Bool} {mt : Option Nat}
    {rz sm sm2 : Bool} {pick : Nat} (hl : b.threads[t]? = some l)
    (hpc : Flurry.Proto.BinGNP.xPc l.pc = true ∨ (l.pc = .idle ∧ rz = true ∧ b.resizing = false))
    (hs : BinGN.step b t inv lo mt rz sm sm2 pick = some b') (q : Nat) : BinGN.absOf b' q = BinGN.absOf b q :=
  BinGN.transfer_abs_invariant (tableGN_lineage_reachable hr hb) hl hpc hs q

/-- … hence **no step of a resize of any lineage changes the abstract MAP**: a transition of the table taken by a
resizing thread (or the start of a resize) leaves the abstract state of every key of the table as it was -/
theorem tableGN_transfer_absMap_invariant {m n : Nat} {S S' : State} (hr : Reachable m n S) {i t : Nat}
    {inv : Option (Nat × KOp)} {lo : Bool} {mt : Option Nat} {rz sm sm2 : Bool} {pick : Nat}
    {b : BinGN.State} {l : BinGN.Local} (hb : S.bins[i]? = some b) (hl : b.threads[t]? = some l)
    (hpc : Flurry.Proto.BinGNP.xPc l.pc = true ∨ (l.pc = .idle ∧ rz = true ∧ b.resizing = false))
    (hs : step S i t inv lo mt rz sm sm2 pick = some S') : absMap S' = absMap S := by
  obtain ⟨b0, b', hb0, -, -, -, hb', rfl⟩ := step_eq_some hs
  rw [hb] at hb0
  cases hb0
  funext k
  have hlen : ((S.bins.map tick).set i b').length = S.bins.length := by rw [List.length_set, List.length_map]
  show BinGN.absOf (((S.bins.map tick).set i b').getD (lineageOf ((S.bins.map tick).set i b').length k)
      (BinGN.init 0)) (localKey ((S.bins.map tick).set i b').length k) =
    BinGN.absOf (S.bins.getD (lineageOf S.bins.length k) (BinGN.init 0)) (localKey S.bins.length k)
  rw [hlen]
  generalize lineageOf S.bins.length k = j
  generalize localKey S.bins.length k = q
  rw [List.getD_eq_getElem?_getD, List.getD_eq_getElem?_getD]
  by_cases hj : j = i
  · subst hj
    rw [(Lineages.set_map_getElem? tick b' hb).1, hb]
    exact BinGN.transfer_abs_invariant (tableGN_lineage_reachable hr hb) hl hpc hb' q
  · rw [List.getElem?_set_ne (fun e => hj e.symm), List.getElem?_map]
    cases S.bins[j]? with
    | none => rfl
    | some c =>
      show BinGN.absOf (tick c) q = BinGN.absOf c q
      exact BinGN.absOf_congr (s := c) (s' := tick c) rfl rfl
        (BinGN.liveCell_congr (s := c) (s' := tick c) rfl rfl q)

/-- **C06 at quiescence, lineage by lineage**: in a quiescent table a `TreeBin` that is in a cell (of any
generation of any lineage) is unlocked (mutex and write lock free) and its tree holds exactly the nodes of its list -/
theorem tableGN_quiescent_tree_eq_list {m n : Nat} {S : State} (hr : Reachable m n S) (hq : quiescent S) {i : Nat}
    {b : BinGN.State} (hb : S.bins[i]? = some b) {g j tb : Nat} (hc : BinGN.cellAt b g j = .tree tb) :
    (Flurry.Proto.BinK.binAt b.tbins tb).mutex = none ∧ (Flurry.Proto.BinK.binAt b.tbins tb).writer = false ∧
    ∀ x, x < b.heap.length → ((Flurry.Proto.BinK.nodeAt b.heap x).owner = some tb ∧
      (Flurry.Proto.BinK.nodeAt b.heap x).inTree = true ↔ x ∈ BinGN.chainOfBin b tb) :=
  BinGN.quiescent_tree_eq_list (tableGN_lineage_reachable hr hb) (hq b (List.mem_of_getElem? hb)) hc

/-- at quiescence no resize of any lineage is half done and nothing is left locked (`BinGN.quiescent_shape`) -/
theorem tableGN_quiescent_shape {m n : Nat} {S : State} (hr : Reachable m n S) (hq : quiescent S) {i : Nat}
    {b : BinGN.State} (hb : S.bins[i]? = some b) :
    b.resizing = false ∧ b.tabs.length = b.cur + 1 ∧ (∀ j, BinGN.cellAt b b.cur j ≠ .moved) ∧
    (∀ k, BinGN.liveCell b k = BinGN.cellOf b b.cur k) ∧ (∀ h, BinGN.lockAt b.heap h = none) ∧
    (∀ tb, BinGN.mutexAt b.tbins tb = none) :=
  BinGN.quiescent_shape (tableGN_lineage_reachable hr hb) (hq b (List.mem_of_getElem? hb))

/-! ## the history of the map -/

/-- no call responds before it is invoked (one clock for all lineages) -/
theorem tableGN_inv_le_resp {m n : Nat} {S : State} (hr : Reachable m n S) :
    ∀ c ∈ mhist S, c.call.inv ≤ c.call.resp := mhist_wf hr

/-- the projection of the map history on key `k` is — as a list — the history of the local key `k / m` in lineage
`k % m` -/
theorem tableGN_proj_eq {m n : Nat} (hm : 0 < m) {S : State} (hr : Reachable m n S) {k : Nat} {b : BinGN.State}
    (hb : S.bins[lineageOf m k]? = some b) : proj (mhist S) k = BinGN.callsOn b (localKey m k) :=
  proj_mhist (reachable_tblInv hr) hb

/-- per key, in every reachable state (completed calls plus writers past their linearization point) -/
theorem tableGN_key_linearizable_ext {m n : Nat} {S : State} (hr : Reachable m n S) {k : Nat} {b : BinGN.State}
    (hb : S.bins[lineageOf m k]? = some b) :
    Lin.Linearizable (Flurry.Proto.BinGNP.callsOnExt b (localKey m k)) none (BinGN.absOf b (localKey m k)) :=
  BinGN.binGN_linearizable (tableGN_lineage_reachable hr hb) (localKey m k)

/-- per key, at quiescence -/
theorem tableGN_key_linearizable {m n : Nat} (hm : 0 < m) {S : State} (hr : Reachable m n S) (hq : quiescent S)
    (k : Nat) : Lin.Linearizable (proj (mhist S) k) none (absMap S k) := by
  have I := reachable_tblInv hr
  obtain ⟨b, hb, hd⟩ := bin_of_key hm I k
  rw [proj_mhist I hb]
  unfold absMap
  rw [hd, I.len]
  exact BinGN.binGN_linearizable_quiescent (I.reach _ b hb) (hq b (List.mem_of_getElem? hb)) (localKey m k)

/-- **C01 for a whole table with list and tree bins through any number of resizes: ONE sequential order of ALL
calls on ALL keys** respects real time and replays through the sequential specification of a map, from the empty
map to the abstract map of the table — list bins, tree bins, treeify / untreeify conversions, transfers of empty,
list and tree bins, any number of threads, every interleaving. -/
theorem tableGN_map_linearizable {m n : Nat} (hm : 0 < m) {S : State} (hr : Reachable m n S) (hq : quiescent S) :
    LinMap.MapLinearizable (mhist S) (fun _ => none) (absMap S) :=
  LinMap.map_linearizable_of_proj (mhist_wf hr) (fun k => tableGN_key_linearizable hm hr hq k)

/-! ## non-vacuity (`Lemmas/TableGNExamples.lean`) -/

/-- two lineages, two threads, 91 transitions. Before: `ins 0`, `ins 2`, `ins 4` (lineage 0) overlap `ins 1`
(lineage 1); thread 0 treeifies the bin of key 4 (lineage 0, local key 2): cell `(0,0)` of lineage 0 is `TreeBin` 0.
Lineage 0 is resized by thread 0 (0 → 1), a TREE-bin transfer (low side a fresh `TreeBin` 1, high side a plain list),
with thread 1's `get 2` (36–53) holding the read lock of the old `TreeBin` across the split and the three stores, and
thread 1's `ins 6` (54–66) invoked after the marker is stored, following it into the unpublished generation 1 and
completing after the commit. After: `get 4` (through `TreeBin` 1), `rm 1`, `get 6`, `has 3`. The state is reachable
and quiescent, lineage 0 is at generation 1 (generation 0 forwarded), lineage 1 at generation 0, the history has the
ten calls under their original keys, and it is map-linearizable -/
example : ∃ S : State, Reachable 2 2 S ∧ quiescent S ∧
    mhist S = [ ⟨0, ⟨0, .ins 10 100, .none, 1, 5⟩⟩, ⟨2, ⟨0, .ins 20 200, .none, 9, 17⟩⟩,
                ⟨4, ⟨0, .ins 40 400, .none, 18, 27⟩⟩, ⟨2, ⟨1, .get, .some 20 200, 36, 53⟩⟩,
                ⟨6, ⟨1, .ins 60 600, .none, 54, 66⟩⟩, ⟨4, ⟨0, .get, .some 40 400, 67, 76⟩⟩,
                ⟨6, ⟨1, .get, .some 60 600, 84, 89⟩⟩,
                ⟨1, ⟨1, .ins 11 101, .none, 2, 8⟩⟩, ⟨1, ⟨1, .rm, .some 11 101, 68, 83⟩⟩,
                ⟨3, ⟨0, .has, .bool false, 85, 91⟩⟩ ] ∧
    (List.range 8).map (absMap S) =
      [some (10, 100), none, some (20, 200), none, some (40, 400), none, some (60, 600), none] ∧
    S.bins.map (fun b => (b.tabs, b.cur, b.resizing, b.now)) =
      [([[.moved], [.tree 1, .list 8]], 1, false, 91), ([[.empty]], 0, false, 91)] ∧
    LinMap.MapLinearizable (mhist S) (fun _ => none) (absMap S) := by
  obtain ⟨S, hr, hq, hh, ha, hs⟩ := example_state
  exact ⟨S, hr, hq, hh, ha, hs, tableGN_map_linearizable (by decide) hr hq⟩

/-- in the model the lineages may be at different generations (never in the code, see `Proto/TableGN.lean`): a
reachable quiescent table whose lineage 0 is at generation 1 and whose lineage 1 is at generation 0 -/
theorem tableGN_lineages_at_different_generations :
    ∃ S : State, Reachable 2 2 S ∧ quiescent S ∧ S.bins.map (·.cur) = [1, 0] := example_generations

/-- after the treeify of "the bin of key 4" (clock 35) the bin of lineage 0 is a tree bin -/
example : exTreeified = true := example_treeified

/-- during the transfer of the tree bin (clock 50): fresh `TreeBin` (low), plain list (high) and the forwarding
marker are stored, `cur` still is generation 0, the resizing thread holds the mutex of the old `TreeBin`, the reader
sits inside its tree -/
example : exDuring = true := example_during

/-- a writer invoked during the resize walks a list of the unpublished generation 1 (clock 59) -/
example : exStraddle = true := example_straddle

/-- the model refuses a call on a key of another lineage (key 1 is in lineage 1, key 2 in lineage 0), a treeify for
the bin of a key of another lineage (key 1 in lineage 0, key 4 in lineage 1; key 4 in lineage 0 is accepted), and a
thread that is busy in another lineage — with a call (whether it wants to start another call there or just to take a
step), with a treeify, or in the middle of a resize; another thread may resize another lineage meanwhile -/
example : (step (init 2 2) 0 0 (some (1, .ins 1 1)) false none false false false 0).isNone = true ∧
    (step (init 2 2) 1 0 (some (2, .ins 1 1)) false none false false false 0).isNone = true ∧
    (step (init 2 2) 0 0 none false (some 1) false false false 0).isNone = true ∧
    (step (init 2 2) 1 0 none false (some 4) false false false 0).isNone = true ∧
    (step (init 2 2) 0 0 none false (some 4) false false false 0).isSome = true ∧
    (run (init 2 2) (call 0 0 2 (.ins 1 1) ++ call 1 0 1 .get)).isNone = true ∧
    (run (init 2 2) (call 0 0 2 (.ins 1 1) ++ go 1 0 1)).isNone = true ∧
    (run (init 2 2) (treeify 0 0 4 ++ treeify 1 0 1)).isNone = true ∧
    (run (init 2 2) (resize 0 0 ++ go 0 0 1 ++ resize 1 0)).isNone = true ∧
    (run (init 2 2) (resize 0 0 ++ go 0 0 1 ++ resize 1 1 ++ go 1 1 1 ++ go 0 0 1)).isSome = true :=
  example_refused

end Flurry.Proto.TableGN
