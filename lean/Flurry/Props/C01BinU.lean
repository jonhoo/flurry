import Flurry.Proto.BinU
import Flurry.Lemmas.LinSearch
import Flurry.Lemmas.BinULin
import Flurry.Gen.Atomics
/-! # C01 / C07 (tree-bin level, the code after the repairs of F8 and F9): a tree bin with lock-protocol readers, **list
readers (iterators)** and writers is linearizable under every interleaving; the insertion order
before the repair of finding F9 is not

`Proto/BinU` is `Proto/BinT` with (i) the insertion of a new key performed under the tree's write
lock (`lock_root`, list prepend, tree link, rebalance, `unlock_root` — `find_or_put_tree_val` since
the repair of F9), and (ii) readers that walk the `next` list without ever looking at the lock
(`listOnly`): what `NodeIter`, `transfer` and `clear` do with a tree bin. A list reader invoked for
key `k` is the harness' pseudo-operation `iterator-yield k`: C07's "never yields a pair that was
not in the map at some moment between the iterator's creation and the yield" *and* C01's single
order for everything done to `k`.

## the refutation (finding F9)

With the original insertion order (`stepF8`, the code after the repair of F8 and before that of F9: prepend, link,
lock only to rebalance) a list reader
finds the new node as soon as it is prepended, while a lock-protocol reader that arrives next sees
a clear lock word, enters the tree and misses it — and the only insert is still in flight:

    ins 1   [ 1, 16] → none            (thread 0)
    get 1   [ 5,  8] → some (10,100)   (thread 1, list reader = iterator yield)
    get 1   [ 9, 14] → none            (thread 2, invoked after thread 1 returned)

No order of these three calls is a sequential execution. `binu_f8order_not_linearizable` is proved
by kernel evaluation of the schedule and of the complete checker `Lin.search`. -/
namespace Flurry.Proto.BinU
open Flurry.Lin Flurry.Shared

abbrev Sch := Nat × Option (Nat × KOp) × Bool × Bool

/-- run a schedule of `(thread, invocation, bal, listOnly)` under the ORIGINAL insertion order -/
def runF8 (s : State) : List Sch → Option State
  | [] => some s
  | (t, inv, bal, lo) :: rest =>
    match stepF8 s t inv bal lo with
    | some s' => runF8 s' rest
    | none => none

theorem runF8_reachable {n : Nat} : ∀ (sched : List Sch) {s s' : State},
    ReachableF8 n s → runF8 s sched = some s' → ReachableF8 n s'
  | [], s, s', hr, h => by
    simp only [runF8, Option.some.injEq] at h
    exact h ▸ hr
  | (t, inv, bal, lo) :: rest, s, s', hr, h => by
    simp only [runF8] at h
    cases hs : stepF8 s t inv bal lo with
    | none => rw [hs] at h; cases h
    | some s1 =>
      rw [hs] at h
      exact runF8_reachable rest (ReachableF8.step t inv bal lo hr hs) h

abbrev go (t : Nat) : Sch := (t, none, false, false)

/-- thread 0: the insert; thread 1: the list reader; thread 2: the lock-protocol reader -/
def f9Schedule : List Sch :=
  [ -- thread 0: `ins 1`: mutex, find, prepend: node 0 is on the list, not yet in the tree
    (0, some (1, .ins 10 100), false, false), go 0, go 0, go 0,
    -- thread 1: a list reader (iterator) looks for key 1: `first`, node 0 matches, value: "present"
    (1, some (1, .get), false, true), go 1, go 1, go 1,
    -- thread 2: `get 1` by the lock protocol: `first`, lock word clear, CAS in, tree search misses,
    -- release: "absent"
    (2, some (1, .get), false, false), go 2, go 2, go 2, go 2, go 2,
    -- thread 0: tree link, unlock the mutex
    go 0, go 0 ]

/-- the executable form of the counterexample: the schedule runs under `stepF8`, ends quiescent, and the complete
search finds no linearization of the calls on key `1` -/
def f9Check : Bool :=
  match runF8 (init 3) f9Schedule with
  | some s => s.threads.all (fun l => l.pc == .idle) && (search (callsOn s 1) none (absOf s 1)).isNone
  | none => false

theorem f9Check_true : f9Check = true := by decide +kernel

theorem f9_history : (runF8 (init 3) f9Schedule).map (fun s => (callsOn s 1, absOf s 1)) =
    some ([ ⟨1, .get, .some 10 100, 5, 8⟩, ⟨2, .get, .none, 9, 14⟩, ⟨0, .ins 10 100, .none, 1, 16⟩ ],
          some (10, 100)) := by decide +kernel

/-- **Counterexample (F9).** With the insertion order before the repair, a reachable quiescent
state whose history on key `1` — an insert, an iterator's read, a `get` — is not linearizable. -/
theorem binu_f8order_not_linearizable :
    ∃ s : State, ReachableF8 3 s ∧ quiescent s ∧ ¬ Lin.Linearizable (callsOn s 1) none (absOf s 1) := by
  have h := f9Check_true
  unfold f9Check at h
  cases hrun : runF8 (init 3) f9Schedule with
  | none => rw [hrun] at h; cases h
  | some s =>
    rw [hrun] at h
    simp only [Bool.and_eq_true, List.all_eq_true, beq_iff_eq, Option.isNone_iff_eq_none] at h
    exact ⟨s, runF8_reachable f9Schedule ReachableF8.init hrun, h.1, search_eq_none_iff.1 h.2⟩

/-! ## the repaired order

The induction over `Reachable` is closed in `Lemmas/BinULin.lean` (`init_ginv`, `reachable_ginv`, `GInv.linearizable`,
`writer_false_of_quiescent`; for `Proto/BinT` the lemmas of these names are in `Props/C01BinT.lean`). -/

/-- **Structural invariant** (`Lemmas/BinUInv.lean`): holds in every reachable state. It gives
(`Inv.sets_eq_of_no_writer`): whenever nobody holds the write lock, the tree holds exactly the nodes of the list. -/
theorem binu_inv {n : Nat} {s : State} (hr : Reachable n s) : Inv s := reachable_inv hr

/-- the list is the truth, and the tree agrees with it whenever the write lock is free (C06: "the
bin's tree and its traversal list always hold exactly the same entries") -/
theorem tree_eq_list_unlocked {n : Nat} {s : State} (hr : Reachable n s) (hw : s.writer = false) (k : Nat) :
    absTree s k = absOf s k := (reachable_inv hr).absTree_eq_absOf_of_no_writer hw k

/-- **C01 + C07, tree-bin level.** Under every interleaving of any number of threads, the per-key
history of a tree bin — lock-protocol reads, list reads (iterator yields) and writes; the completed
calls plus the writers past their linearization point — is linearizable and ends in the abstract
state (list membership). -/
theorem binu_linearizable {n : Nat} {s : State} (hr : Reachable n s) (k : Nat) :
    Lin.Linearizable (callsOnExt s k) none (absOf s k) := by
  obtain ⟨A, pt, g⟩ := reachable_ginv hr k
  exact g.linearizable (reachable_inv hr)

/-- quiescent form -/
theorem binu_linearizable_quiescent {n : Nat} {s : State} (hr : Reachable n s) (hq : quiescent s) (k : Nat) :
    Lin.Linearizable (callsOn s k) none (absOf s k) ∧ absTree s k = absOf s k := by
  refine ⟨?_, tree_eq_list_unlocked hr (writer_false_of_quiescent hr hq) k⟩
  have := binu_linearizable hr k
  rw [callsOnExt_eq, GhostView.callsOnExt_quiescent k s.now (fun l hl => congrArg resOfPc (hq l hl))] at this
  exact this

/-! ## the tie to the source

The order of the model's writer steps is the order of the stores in `src/node.rs`, regenerated on
every run (`Gen/Atomics.lean`): both `remove_tree_node` and `find_or_put_tree_val` take the write
lock before their first store to a list cell of a bin readers can be in (the leading
`store:tree`, `store:list` of the insertion is the empty-bin case: `root` and `first` of a bin no
reader can have entered through the tree). With the order before F9
(`["store:tree", "store:list", "store:list", "store:tree", "lock_root", "store:tree", "unlock_root"]`)
`insert_locks_before_prepend` fails. The two theorems speak of the source only (no state of a model occurs): they are
those of `Props/C01BinT.lean`, stated here for the model that takes both orders. -/
section Tie
open Flurry.Gen

theorem remove_locks_before_unlink :
    removeTreeNodeOrder = ["lock_root", "store:list", "store:tree", "unlock_root"] := by decide +kernel

theorem insert_locks_before_prepend :
    findOrPutTreeValOrder = ["store:tree", "store:list", "lock_root", "store:list", "store:tree", "unlock_root"] := by
  decide +kernel

end Tie

end Flurry.Proto.BinU
