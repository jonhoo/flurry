import Flurry.Proto.TableN
import Flurry.Props.C01BinN
import Flurry.Props.C01Local
import Flurry.Lemmas.TableN
import Flurry.Lemmas.TableNExamples
/-! # C01 (table level, across ANY NUMBER of resizes): ONE sequential order of ALL calls on ALL keys

`Proto/TableN`: a whole table through any number of resizes. `m` lineages, each a `Proto/BinN` lineage —
bin `i` of the initial table and everything it is split into: at generation `g` the cells `(g, j)`,
`j < 2^g`, which are the bins `i + m * j` of the table of length `m * 2^g`; list bins, lock-free readers,
locked writers with the re-check, lock-free CAS into an empty cell, per-cell transfer with the re-used last
run, forwarding markers followed generation after generation. Key `k` lives in lineage `k % m` under the
local name `k / m` (the hash is the key), i.e. in bin `k % m + m * ((k / m) % 2^g)` of generation `g`, which
is `k % (m * 2^g)` (`bin_index_eq_mod`; for `m = 2^a`: `k % 2^(a+g)`, `bin_index_eq`). `TableN.step`
translates the key of a call into its local name, the map history records the ORIGINAL key. Any number of
threads, a thread inside at most one lineage at a time (so a thread resizes the lineages one at a time;
different lineages may be resized by different threads), one clock shared by all lineages. The table
pointer / generation counter is modelled per lineage, which over-approximates the single pointer of the code
(lineages may be at different generations in the model — `lineages_at_different_generations` —, never in the
code; the allocations and the commits of all lineages may happen consecutively when the real allocation and
the real `table := next` happen; see the header of `Proto/TableN.lean`). The history of the table is the
history of the *map* (`LinMap.MHistory`): the calls on all keys of all lineages, with comparable times.

How the lineage-level theorem lifts: the clock of a lineage in which nothing happens advances by a `tick`,
and a tick is *itself* a transition of `Proto/BinN` — the step of a thread that is idle in that lineage and
starts nothing (`tableN_tick_is_lineage_step`); `TableN.step` lets a thread act in a lineage only while it is
idle in all others. So every lineage of a reachable table is literally `BinN.Reachable`
(`tableN_lineage_reachable`) and `binN_linearizable_quiescent`, `generations_do_not_overlap`,
`old_generations_forwarded`, … apply to it as they stand. The key translation `q ↦ i + m * q` is injective
on a lineage and separates the lineages (`tableN_key_translation`), so the projection of the map history on
key `k` IS the history of local key `k / m` in lineage `k % m` (`tableN_proj_eq`);
locality (`LinMap.map_linearizable_of_proj`, which `C01.locality` states)
does the rest. Proofs: `Lemmas/TableN.lean`, `Lemmas/TableNExamples.lean`. -/
namespace Flurry.Proto.TableN
open Flurry.Lin Flurry.LinMap

theorem bins_length {m n : Nat} {S : State} (hr : Reachable m n S) : S.bins.length = m :=
  (reachable_tblInv hr).len

/-! ## where a key lives -/

/-- **the bin index of the code**: when the initial length is a power of two, `m = 2^a`, the bin of key `k`
in the table of generation `g` — cell `(k / m) % 2^g` of lineage `k % m`, i.e. bin
`k % m + m * ((k / m) % 2^g)` of the table of length `m * 2^g = 2^(a+g)` — is `k % 2^(a+g)` -/
theorem bin_index_eq {m a : Nat} (hm : m = 2 ^ a) (g k : Nat) :
    k % m + m * ((k / m) % 2 ^ g) = k % 2 ^ (a + g) := by
  subst hm
  rw [Nat.pow_add, Nat.mod_mul]

/-- for any `m`: the bin of key `k` in the table of length `m * 2^g` is `k % (m * 2^g)` -/
theorem bin_index_eq_mod (m g k : Nat) :
    lineageOf m k + m * (localKey m k % 2 ^ g) = k % (m * 2 ^ g) := by
  unfold lineageOf localKey
  rw [Nat.mod_mul]

/-- at the resize of generation `g` key `k` stays in its bin (low) or moves up by the old length `m * 2^g`
(high), according to the split bit of `Proto/BinN` taken at its local name -/
theorem bin_index_split (m g k : Nat) :
    binIndex m (g + 1) k = binIndex m g k + (if BinN.bitAt g (localKey m k) then m * 2 ^ g else 0) := by
  unfold binIndex BinN.bitAt
  rw [Nat.pow_succ, Nat.mod_mul]
  rcases Nat.mod_two_eq_zero_or_one (localKey m k / 2 ^ g) with h | h
  · simp [h]
  · simp [h, Nat.mul_add, Nat.add_assoc]

/-- **the key translation**: lineage `i < m` and local name `q` stand for the key `i + m * q` and for no
other; conversely every key `k` is `globalKey m (k % m) (k / m)` -/
theorem tableN_key_translation {m i : Nat} (hi : i < m) (q k : Nat) :
    (globalKey m i q = k ↔ i = lineageOf m k ∧ q = localKey m k) ∧
    globalKey m (lineageOf m k) (localKey m k) = k :=
  ⟨globalKey_eq_iff hi q k, globalKey_lineage_local m k⟩

/-! ## the lineages -/

/-- a tick (the clock of a lineage advances while a thread acts elsewhere) is a transition of the lineage:
the step of a thread that is idle there and starts nothing (no call, no resize) -/
theorem tableN_tick_is_lineage_step {b : BinN.State} {t : Nat} (h : idleIn b t = true) :
    BinN.step b t none false 0 = some (tick b) := tick_is_step h

/-- every lineage of a reachable table is a reachable `Proto/BinN` lineage: all lineage-level theorems
(`binN_linearizable`, `transfer_abs_invariant`, `follow_markers_until_live`, `chains_wellformed`, …) hold for it -/
theorem tableN_lineage_reachable {m n : Nat} {S : State} (hr : Reachable m n S) {i : Nat} {b : BinN.State}
    (hb : S.bins[i]? = some b) : BinN.Reachable n b := (reachable_tblInv hr).reach i b hb

/-- a call is started in the lineage of its key, under its local name: what `step` hands to `BinN.step` -/
theorem tableN_call_in_own_lineage {S S' : State} {i t k : Nat} {op : KOp} {rz : Bool} {pick : Nat}
    (hs : step S i t (some (k, op)) rz pick = some S') :
    lineageOf S.bins.length k = i ∧ ∃ b b', S.bins[i]? = some b ∧
      BinN.step b t (some (localKey S.bins.length k, op)) rz pick = some b' ∧ S'.bins[i]? = some b' := by
  obtain ⟨b, b', hb, -, hkey, hb', rfl⟩ := step_eq_some hs
  exact ⟨hkey k op rfl, b, b', hb, hb', (Lineages.set_map_getElem? tick b' hb).1⟩

/-- every call of the map history on key `k` is recorded in lineage `k % m`, under the local name `k / m` -/
theorem tableN_key_in_own_lineage {m n : Nat} {S : State} (hr : Reachable m n S) {c : MCall} (hc : c ∈ mhist S) :
    ∃ b, S.bins[lineageOf m c.key]? = some b ∧ (localKey m c.key, c.call) ∈ b.hist :=
  mhist_own_lineage (reachable_tblInv hr) hc

/-- … and every call recorded in lineage `i` under the local name `q` is in the map history under the key
`i + m * q` — a key of lineage `i` whose local name is `q` -/
theorem tableN_lineage_call_in_history {m n : Nat} {S : State} (hr : Reachable m n S) {i : Nat} {b : BinN.State}
    {q : Nat} {c : Call} (hb : S.bins[i]? = some b) (h : (q, c) ∈ b.hist) :
    (⟨globalKey m i q, c⟩ : MCall) ∈ mhist S ∧ lineageOf m (globalKey m i q) = i ∧ localKey m (globalKey m i q) = q :=
  mem_mhist_of_hist (reachable_tblInv hr) hb h

/-- calls on a key of another lineage never appear in a lineage's part of the history -/
theorem tableN_other_lineage_silent {m i : Nat} (hi : i < m) (b : BinN.State) {k : Nat} (hk : i ≠ lineageOf m k) :
    proj (binCalls m i b) k = [] :=
  Lineages.proj_calls_nil fun e _ he => hk ((globalKey_eq_iff hi e.1 k).1 he).1

/-- a thread is active in at most one lineage: of two different lineages it is idle in one -/
theorem tableN_one_lineage_per_thread {m n : Nat} {S : State} (hr : Reachable m n S) {t i j : Nat}
    {bi bj : BinN.State} {li lj : BinN.Local} (hne : i ≠ j) (hi : S.bins[i]? = some bi) (hj : S.bins[j]? = some bj)
    (hli : bi.threads[t]? = some li) (hlj : bj.threads[t]? = some lj) : li.pc = .idle ∨ lj.pc = .idle :=
  reachable_oneBin hr t i j bi bj li lj hne hi hj hli hlj

/-- the resizing thread of a lineage is inside it from the allocation of the next generation to the commit:
while it is anywhere between `tNext` and `tCommit` there, it is idle in every other lineage -/
theorem tableN_resizer_inside_one_lineage {m n : Nat} {S : State} (hr : Reachable m n S) {t i j : Nat}
    {bi bj : BinN.State} {li lj : BinN.Local} (hne : i ≠ j) (hi : S.bins[i]? = some bi) (hj : S.bins[j]? = some bj)
    (hli : bi.threads[t]? = some li) (hlj : bj.threads[t]? = some lj) (hT : BinN.isT li.pc) : lj.pc = .idle :=
  resizer_idle_elsewhere (reachable_oneBin hr) hne hi hj hli hlj hT

/-- **generations do not overlap, lineage by lineage**: the tables of a lineage are its generations
`0 … cur`, plus generation `cur + 1` exactly while its resize runs; generation `g` has `2^g` cells (the table
of length `m * 2^g` has `2^g` bins of each lineage); at most one thread is resizing the lineage, and only
while `resizing` is set -/
theorem tableN_generations_do_not_overlap {m n : Nat} {S : State} (hr : Reachable m n S) {i : Nat} {b : BinN.State}
    (hb : S.bins[i]? = some b) :
    b.tabs.length = b.cur + 1 + (if b.resizing then 1 else 0) ∧
    (∀ g row, b.tabs[g]? = some row → row.length = 2 ^ g) ∧
    (∀ (t t' : Nat) (l l' : BinN.Local), b.threads[t]? = some l → b.threads[t']? = some l' →
      BinN.isT l.pc → BinN.isT l'.pc → t = t') ∧
    (∀ (t : Nat) (l : BinN.Local), b.threads[t]? = some l → BinN.isT l.pc → b.resizing = true) :=
  BinN.generations_do_not_overlap (tableN_lineage_reachable hr hb)

/-- **old generations are forwarded, lineage by lineage**: every cell of a generation older than the
lineage's `cur` is `moved`, for ever -/
theorem tableN_old_generations_forwarded {m n : Nat} {S : State} (hr : Reachable m n S) {i : Nat} {b : BinN.State}
    (hb : S.bins[i]? = some b) {g j : Nat} (hg : g < b.cur) (hj : j < 2 ^ g) : BinN.cellAt b g j = .moved :=
  BinN.old_generations_forwarded (tableN_lineage_reachable hr hb) hg hj

/-- no cell of the generation a lineage is filling is forwarded; a forwarding marker in its generation `cur`
exists only while its resize runs -/
theorem tableN_next_generation_not_forwarded {m n : Nat} {S : State} (hr : Reachable m n S) {i : Nat}
    {b : BinN.State} (hb : S.bins[i]? = some b) :
    (∀ j, BinN.cellAt b (b.cur + 1) j ≠ .moved) ∧ (∀ j, BinN.cellAt b b.cur j = .moved → b.resizing = true) :=
  BinN.next_generation_not_forwarded (tableN_lineage_reachable hr hb)

/-- no step of a resize of any lineage changes the abstract state of any key of the map -/
theorem tableN_transfer_abs_invariant {m n : Nat} {S : State} (hr : Reachable m n S) {i : Nat} {b b' : BinN.State}
    (hb : S.bins[i]? = some b) {t : Nat} {l : BinN.Local} {inv : Option (Nat × KOp)} {rz : Bool} {pick : Nat}
    (hl : b.threads[t]? = some l) (hT : BinN.isT l.pc ∨ (l.pc = .idle ∧ rz = true))
    (hs : BinN.step b t inv rz pick = some b') (q : Nat) : BinN.absOf b' q = BinN.absOf b q :=
  BinN.transfer_abs_invariant (tableN_lineage_reachable hr hb) hl hT hs q

/-! ## the history of the map -/

/-- no call responds before it is invoked (one clock for all lineages) -/
theorem tableN_inv_le_resp {m n : Nat} {S : State} (hr : Reachable m n S) :
    ∀ c ∈ mhist S, c.call.inv ≤ c.call.resp := mhist_wf hr

/-- the projection of the map history on key `k` is — as a list — the history of the local key `k / m` in
lineage `k % m` -/
theorem tableN_proj_eq {m n : Nat} (hm : 0 < m) {S : State} (hr : Reachable m n S) {k : Nat} {b : BinN.State}
    (hb : S.bins[lineageOf m k]? = some b) : proj (mhist S) k = BinN.callsOn b (localKey m k) :=
  proj_mhist (reachable_tblInv hr) hb

/-- per key, in every reachable state (completed calls plus writers past their linearization point) -/
theorem tableN_key_linearizable_ext {m n : Nat} {S : State} (hr : Reachable m n S) {k : Nat} {b : BinN.State}
    (hb : S.bins[lineageOf m k]? = some b) :
    Lin.Linearizable (BinN.callsOnExt b (localKey m k)) none (BinN.absOf b (localKey m k)) :=
  BinN.binN_linearizable (tableN_lineage_reachable hr hb) (localKey m k)

/-- per key, at quiescence -/
theorem tableN_key_linearizable {m n : Nat} (hm : 0 < m) {S : State} (hr : Reachable m n S) (hq : quiescent S)
    (k : Nat) : Lin.Linearizable (proj (mhist S) k) none (absMap S k) := by
  have I := reachable_tblInv hr
  obtain ⟨b, hb, hd⟩ := bin_of_key hm I k
  rw [proj_mhist I hb]
  unfold absMap
  rw [hd, I.len]
  exact BinN.binN_linearizable_quiescent (I.reach _ b hb) (hq b (List.mem_of_getElem? hb)) (localKey m k)

/-- **C01 for a whole table through any number of resizes: ONE sequential order of ALL calls on ALL keys**
respects real time and replays through the sequential specification of a map, from the empty map to the
abstract map of the table. -/
theorem tableN_map_linearizable {m n : Nat} (hm : 0 < m) {S : State} (hr : Reachable m n S) (hq : quiescent S) :
    LinMap.MapLinearizable (mhist S) (fun _ => none) (absMap S) :=
  LinMap.map_linearizable_of_proj (mhist_wf hr) (fun k => tableN_key_linearizable hm hr hq k)

/-! ## non-vacuity (`Lemmas/TableNExamples.lean`) -/

/-- two lineages, two threads, 114 transitions. Before: `ins 0`, `ins 2` (lineage 0) overlap `ins 1`, `ins 3`
(lineage 1). Lineage 0 is resized by thread 0 (0 → 1) with thread 1's `get 2` (30–43) walking the old list
across the three stores and the commit; with lineage 0 at generation 1 and lineage 1 at generation 0, thread
0's `ins 3` (44–55) completes in generation 0 of lineage 1 while thread 1 starts its resize (0 → 1). Lineage 0
is resized AGAIN by thread 1 (1 → 2) with thread 0's `ins 4` (75–94) blocked on the head lock, failing its
re-check and following the marker into generation 2. After: `get 2`, `rm 1`, `ins 6`, `get 3`. The state is
reachable and quiescent, lineage 0 is at generation 2 (generations 0, 1 forwarded), lineage 1 at generation 1,
the history has the eleven calls under their original keys, and it is map-linearizable -/
example : ∃ S : State, Reachable 2 2 S ∧ quiescent S ∧
    mhist S = [ ⟨0, ⟨0, .ins 10 100, .none, 1, 5⟩⟩, ⟨2, ⟨0, .ins 20 200, .none, 9, 26⟩⟩,
                ⟨2, ⟨1, .get, .some 20 200, 30, 43⟩⟩, ⟨4, ⟨0, .ins 50 500, .none, 75, 94⟩⟩,
                ⟨2, ⟨0, .get, .some 20 200, 95, 99⟩⟩, ⟨6, ⟨1, .ins 60 600, .none, 107, 111⟩⟩,
                ⟨1, ⟨1, .ins 11 101, .none, 2, 8⟩⟩, ⟨3, ⟨1, .ins 30 300, .none, 10, 18⟩⟩,
                ⟨3, ⟨0, .ins 41 401, .some 30 300, 44, 55⟩⟩, ⟨1, ⟨1, .rm, .some 11 101, 96, 106⟩⟩,
                ⟨3, ⟨0, .get, .some 41 401, 108, 114⟩⟩ ] ∧
    (List.range 8).map (absMap S) =
      [some (10, 100), none, some (20, 200), some (41, 401), some (50, 500), none, some (60, 600), none] ∧
    S.bins.map (fun b => (b.tabs, b.cur, b.resizing, b.now)) =
      [([[.moved], [.moved, .moved], [.node 2, .node 1, .node 3, .node 4]], 2, false, 114),
       ([[.moved], [.empty, .node 1]], 1, false, 114)] ∧
    LinMap.MapLinearizable (mhist S) (fun _ => none) (absMap S) := by
  obtain ⟨S, hr, hq, hh, ha, hs⟩ := example_state
  exact ⟨S, hr, hq, hh, ha, hs, tableN_map_linearizable (by decide) hr hq⟩

/-- in the model the lineages may be at different generations (never in the code, see `Proto/TableN.lean`):
a reachable quiescent table whose lineage 0 is at generation 2 and whose lineage 1 is at generation 1 -/
theorem lineages_at_different_generations :
    ∃ S : State, Reachable 2 2 S ∧ quiescent S ∧ S.bins.map (·.cur) = [2, 1] := example_generations

/-- during the first resize of lineage 0 (clock 38): low cell, high cell and the forwarding marker are stored,
`cur` still is generation 0, the reader stands on node 0 of the old list -/
example : exDuring = true := example_during

/-- in the middle of that run (clock 44): lineage 0 is at generation 1, lineage 1 at generation 0, and thread 0
has been invoked there -/
example : exBetween = true := example_between

/-- during the second resize of lineage 0 (clock 84): a writer invoked during the resize is about to wait for
the head lock held by the resizing thread; it will fail its re-check and follow the marker -/
example : exSecond = true := example_second_resize

/-- the model refuses a call on a key of another lineage (key 1 is in lineage 1, key 2 in lineage 0) and a
thread that is busy in another lineage — with a call (whether it wants to start another call there or just
to take a step), or in the middle of a resize; another thread may resize another lineage meanwhile -/
example : (step (init 2 2) 0 0 (some (1, .ins 1 1)) false 0).isNone = true ∧
    (step (init 2 2) 1 0 (some (2, .ins 1 1)) false 0).isNone = true ∧
    (run (init 2 2) (call 0 0 2 (.ins 1 1) ++ call 1 0 1 .get)).isNone = true ∧
    (run (init 2 2) (call 0 0 2 (.ins 1 1) ++ go 1 0 1)).isNone = true ∧
    (run (init 2 2) (resize 0 0 ++ go 0 0 1 ++ resize 1 0)).isNone = true ∧
    (run (init 2 2) (resize 0 0 ++ go 0 0 1 ++ resize 1 1 ++ go 1 1 1 ++ go 0 0 1)).isSome = true :=
  example_refused

end Flurry.Proto.TableN
