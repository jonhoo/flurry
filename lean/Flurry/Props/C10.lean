import Flurry.Props.C10Arith
import Flurry.Gen.Atomics
import Flurry.Lemmas.Resize
/-! # C10 — cooperative resizing: no overlap, single publication, full completion

Arithmetic half: `Props/C10Arith.lean` (stamps, helper room, threshold, doubling), on definitions
regenerated from the source. Protocol half: `Proto/Resize` — any number of threads, every
interleaving, one transition per shared access of `transfer` / `help_transfer` / the resize parts
of `add_count` and `try_presize` (with the port's `i = next_index` claim semantics, under which
claimed strides can be skipped or overlap by one bin). The lemmas are in `Lemmas/Resize*.lean`.
Tie of the model to the source, on tables regenerated from it: the order of the control-word
accesses of the two join paths, the order of `transfer`'s stores per bin, and the refusal test of
`help_transfer` (`help_refusal_matches_model`).

Embedding in the whole map: **partial** — the protocol's control words are compared with the
implementation on the projected event stream of scheduled runs and at quiescence (inspector). -/
namespace Flurry.C10
open Flurry.Proto.Resize

variable {n nthreads stride : Nat} {s : State}

/-- while resizing, `size_ctl` counts exactly the participants (`rs + 1 + participants`) -/
theorem helper_accounting (hr : Reachable n nthreads stride s) {g c : Nat} (h : s.sizeCtl = .resizing g c) :
    c = 1 + numParticipants s ∧
    (g = s.gen ∨ (g + 1 = s.gen ∧ c = 1 ∧ ∃ l ∈ s.threads, l.pc = .pubStoreCtl)) := count_invariant hr h

/-- **every old bin is migrated at most once** per generation … -/
theorem bin_migrated_at_most_once (hr : Reachable n nthreads stride s) :
    s.moved.length = s.n ∧ s.migrations.length = s.n ∧
    ∀ idx, idx < s.n → s.migrations.getD idx 0 ≤ 1 ∧ (s.moved.getD idx false = true ↔ s.migrations.getD idx 0 = 1) :=
  moved_once hr

/-- … and **exactly once** by the time the new table is published (the finisher's re-sweep) -/
theorem all_bins_migrated_at_publication (hr : Reachable n nthreads stride s) {l : Local}
    (hl : l ∈ s.threads) (hpc : l.pc = .pubClearNext ∨ l.pc = .pubSwapTable) :
    ∀ idx, idx < s.n → s.migrations.getD idx 0 = 1 := all_migrated_once_at_publish hr hl hpc

/-- **exactly one thread publishes**: at most one finisher at any time … -/
theorem one_finisher (hr : Reachable n nthreads stride s) {t u : Nat} {l l' : Local}
    (ht : s.threads[t]? = some l) (hu : s.threads[u]? = some l')
    (hl : isFinisher l = true) (hl' : isFinisher l' = true) : t = u := single_finisher_unique hr ht hu hl hl'

/-- … every generation is published exactly once, and each publication exactly doubles the table -/
theorem one_publication_per_generation (hr : Reachable n nthreads stride s) :
    (∀ g, s.published.getD g 0 ≤ 1) ∧ s.published.length = s.gen ∧
    (∀ g, g < s.gen → s.published.getD g 0 = 1) ∧ s.n = n * 2 ^ s.gen := single_publication hr

/-- **resizes of different generations never overlap**: a next table exists only during a resize
of the current generation -/
theorem generations_do_not_overlap (hr : Reachable n nthreads stride s) (h : s.nextTable = true) :
    ∃ c, s.sizeCtl = .resizing s.gen c := no_overlap hr h

/-- a resize can only be initiated from an idle word: the step that replaces it is a successful
`casInit`, taken without next table, and installs `resizing s.gen 2` -/
theorem initiation_only_from_idle (hr : Reachable n nthreads stride s) {t c : Nat} {s' : State}
    (hs : step s t c = some s') {thr : Nat} (hidle : s.sizeCtl = .idle thr) (hne : s'.sizeCtl ≠ s.sizeCtl) :
    s'.sizeCtl = .resizing s.gen 2 ∧ s.nextTable = false ∧ thr = threshold s.n ∧
    (∃ l, s.threads[t]? = some l ∧ l.pc = .casInit (.idle thr)) ∧ s'.gen = s.gen ∧ s'.n = s.n :=
  resize_starts_from_idle hr hs hidle hne

/-- **after the last participant leaves the map is not in a resizing state**, and the next
growth threshold is three quarters of the (new) length -/
theorem quiescent_after_resize (hr : Reachable n nthreads stride s) (h : allIdle s) :
    s.sizeCtl = .idle (threshold s.n) ∧ s.nextTable = false := quiescent_after hr h

/-- from every reachable state the threads that are not `idle` can finish on their own and leave the
map quiescent: no resize can get stuck. In the run no thread leaves `idle`; a thread that is
already at `casInit` / `casJoin` may still initiate or join. -/
theorem resize_completes (hst : 1 ≤ stride) (hr : Reachable n nthreads stride s) :
    ∃ r s', BusyRun s r s' ∧ run s r = some s' ∧ Reachable n nthreads stride s' ∧ allIdle s' ∧
      s'.sizeCtl = .idle (threshold s'.n) ∧ s'.nextTable = false := progress_possible hst hr

/-- **no thread is ever admitted to a resize while holding the tables of another generation**
(finding F6): with the comparison of the generation stamps in `help_transfer`'s refusal test
(`C10Arith.help_refuses_other_generation`; `Reachable` starts from `init … true`) the counter of
stale joins stays 0 in every interleaving. `Lemmas/ResizeExamples.staleJoin` is a schedule that
reaches `staleJoins = 1` from `init 2 2 1 false`, i.e. without the comparison. -/
theorem no_stale_join (hr : Reachable n nthreads stride s) : s.staleJoins = 0 :=
  Flurry.Proto.Resize.no_stale_join hr

/-- state form: a thread whose join CAS would succeed now (`casJoin sc` with `sc` the current word)
holds the tables of the current generation, and the word carries the current stamp and counts at
least one participant -/
theorem joiner_holds_current_generation (hr : Reachable n nthreads stride s) {l : Local}
    (hl : l ∈ s.threads) {sc : SC} (hpc : l.pc = .casJoin sc) (hsc : s.sizeCtl = sc) :
    l.heldGen = s.gen ∧ ∃ k, sc = .resizing s.gen k ∧ 2 ≤ k := join_ready_current hr hl hpc hsc

/-- step form: a `casJoin` step that changes the word is taken by a thread that holds the current
generation, and it makes exactly that thread a participant -/
theorem join_admits_current_generation (hr : Reachable n nthreads stride s) {t c : Nat} {s' : State}
    {l : Local} {sc : SC} (hl : s.threads[t]? = some l) (hpc : l.pc = .casJoin sc)
    (hs : step s t c = some s') (hne : s'.sizeCtl ≠ s.sizeCtl) :
    l.heldGen = s.gen ∧ ∃ k, sc = .resizing s.gen k ∧ 2 ≤ k ∧ s'.sizeCtl = .resizing s.gen (k + 1) ∧
      ∃ l', s'.threads = s.threads.set t l' ∧ participating l' = true ∧ l'.heldGen = s'.gen :=
  join_step_current hr hl hpc hs hne

/-! ### the order of the control-word accesses when joining a resize (generated from the source)

`Proto/Resize` models the two join paths access by access (finding F6 turns on exactly this
order). The order of the model's program counters is the order in the source:
* `add_count`: `size_ctl` is loaded **before** `table` (then `next_table`, `transfer_index`), and
  the join CAS is on that first word — so a word of another generation fails the CAS
  (`acLoadTable → acLoadNext → acLoadIndex → casJoin` in the model);
* `help_transfer`: `next_table`, `table` (the validation), then `size_ctl`, `transfer_index`, CAS
  (`helpCheckNext → helpCheckTable → helpLoadSc → helpLoadIndex → casJoin`). -/
section AccessOrder
open Flurry.Gen

def firstIdx (l : List String) (x : String) : Nat := (l.findIdx? (· == x)).getD l.length

theorem add_count_access_order :
    let l := addCountAccessOrder
    firstIdx l "load:size_ctl" < firstIdx l "load:table" ∧
    firstIdx l "load:table" < firstIdx l "load:next_table" ∧
    firstIdx l "load:next_table" < firstIdx l "load:transfer_index" ∧
    firstIdx l "load:transfer_index" < firstIdx l "cas:size_ctl" ∧
    firstIdx l "cas:size_ctl" < l.length := by decide

theorem help_transfer_access_order :
    helpTransferAccessOrder = ["load:next_table", "load:table", "load:size_ctl", "load:transfer_index", "cas:size_ctl"] := by
  decide

end AccessOrder

/-! ### the order of `transfer`'s stores per bin (generated from the source)

Moving one bin is, under the bin's lock: build the two new bins, **store them into the next table,
then store the forwarding marker into the old table, then retire what was copied**. Forwarding
first lets a writer follow the marker, insert into the still empty new bin and be overwritten by
the late fill (a lost insert); retiring first hands nodes to the collector that the old bin still
links. `transferOrder` is the sequence of `lock` / `fill` / `forward` / `retire` calls of
`transfer` in source order. -/
section Order
open Flurry.Gen

/-- the calls that follow each `lock`, up to the next `lock` -/
def segmentsAfterLocks (l : List String) : List (List String) :=
  (l.splitBy (fun _ b => b != "lock")).filterMap fun seg =>
    match seg with
    | "lock" :: rest => some rest
    | _ => none

/-- fill, fill, forward, then nothing but retirements -/
def migrationOrderOk (seg : List String) : Bool :=
  match seg with
  | "fill" :: "fill" :: "forward" :: rest => rest.all (· == "retire")
  | _ => false

theorem fill_then_forward_then_retire :
    (segmentsAfterLocks transferOrder).all migrationOrderOk = true ∧
    2 ≤ (segmentsAfterLocks transferOrder).length := by decide

end Order

/-! ### the tie between the generated refusal test and the model's `helpRefuses true` -/
section Tie
open Flurry.Gen

private theorem ofNat_inj_small {a b : Nat} (ha : a < 2 ^ 64) (hb : b < 2 ^ 64) :
    (BitVec.ofNat 64 a = BitVec.ofNat 64 b) ↔ a = b := by
  constructor
  · intro h
    have := congrArg BitVec.toNat h
    simp only [BitVec.toNat_ofNat] at this
    rw [Nat.mod_eq_of_lt ha, Nat.mod_eq_of_lt hb] at this
    exact this
  · intro h; rw [h]

/-- the refusal test of `help_transfer` generated from the source is the one the protocol model
uses (`helpRefuses true`): on the word `rs(2^j) + c` of generation `j` with `c ≤ MAX_RESIZERS`
participants (+1), a helper holding the table of generation `k` is refused iff the generations
differ, or the word says "finisher elected" or "full". -/
theorem help_refusal_matches_model (j k : Fin 31) (c : Nat) (hc : c ≤ 2 ^ 32 - 1) :
    BV.joinRefusedHelp (BV.rsOf (len j) + BitVec.ofNat 64 c) (BV.rsOf (len k)) =
      helpRefuses true (2 ^ 32 - 1) j.val c k.val := by
  have hcn : (BitVec.ofNat 64 c).toNat = c := by
    simp only [BitVec.toNat_ofNat]; exact Nat.mod_eq_of_lt (by omega)
  by_cases hjk : j = k
  · subst hjk
    have hroom := stamp_room j (BitVec.ofNat 64 c) (by rw [hcn, max_resizers_val]; exact hc)
    have hs : BitVec.sshiftRight (BV.rsOf (len j) + BitVec.ofNat 64 c) 32 = BitVec.sshiftRight (BV.rsOf (len j)) 32 := by
      rw [sshift_eq_iff _ _ hroom.1 (stamp_negative j)]; exact hroom.2.1
    rw [help_same_generation_iff j _ hs]
    have hmax : BV.MAX_RESIZERS = BitVec.ofNat 64 (2 ^ 32 - 1) := by decide
    have h1 : (1#64) = BitVec.ofNat 64 1 := rfl
    simp only [helpRefuses, bne_self_eq_false, Bool.and_false, Bool.false_or, beq_self_eq_true, Bool.true_and]
    rw [hmax, h1]
    have e1 : (BV.rsOf (len j) + BitVec.ofNat 64 c == BV.rsOf (len j) + BitVec.ofNat 64 (2 ^ 32 - 1)) = (c == 2 ^ 32 - 1) := by
      rw [Bool.eq_iff_iff]; simp only [beq_iff_eq]
      rw [BitVec.add_right_inj, ofNat_inj_small (by omega) (by omega)]
    have e2 : (BV.rsOf (len j) + BitVec.ofNat 64 c == BV.rsOf (len j) + BitVec.ofNat 64 1) = (c == 1) := by
      rw [Bool.eq_iff_iff]; simp only [beq_iff_eq]
      rw [BitVec.add_right_inj, ofNat_inj_small (by omega) (by omega)]
    rw [e1, e2]
  · have hne : j.val ≠ k.val := fun e => hjk (Fin.ext e)
    rw [help_refuses_other_generation j k hjk _ (by rw [hcn, max_resizers_val]; exact hc)]
    simp [helpRefuses, hne]

end Tie

end Flurry.C10
