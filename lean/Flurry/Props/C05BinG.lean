import Flurry.Proto.BinG
import Flurry.Props.C01BinG
import Flurry.Lemmas.BinGQuiescent
import Flurry.Lemmas.BinGCommit
import Flurry.Lemmas.BinGQuiescentExamples
/-! # C05 (bin level, concurrent model): at quiescence iteration = lookup, nothing half-done is left behind

> Whenever no operation is in flight, iteration yields exactly the keys for which lookup succeeds —
> each exactly once and with the value lookup returns. Every entry then resides where a lookup for its
> hash searches, no key occurs twice, no forwarding marker or half-finished resize is left behind, and
> no lock is left held.

For `Proto/BinG` (one bin lineage: the old cell, the two cells of the next table, list bins and tree
bins with both conversions, lock-free readers, locked writers, one resize; one shared-memory access
per transition, any number of threads, every interleaving). `quiescent s`: every thread is idle — no
call, no treeify, no transfer in flight.

* `liveCells s`: the cells a lookup that starts now can end in — `[cell0]` until the forwarding marker
  is stored, `[lowCell, highCell]` afterwards (`liveCell s k ∈ liveCells s`);
* `entries s`: the (key, value) pairs of the nodes on the lists of the live cells, in list order — what
  an iterator that starts now and runs alone yields (for a tree bin the iterator walks the `first` /
  `next` list, `chainOfBin`);
* `absOf s k`: what a lookup of `k` finds; by `binG_linearizable_quiescent` it is the state the
  completed calls on `k` linearize to.

The list facts (`quiescent_keys_distinct`, `quiescent_iter_agrees`, `quiescent_entry_in_own_cell`) hold in every
reachable state (`reachable_iter_agrees` …): they are consequences of the structural invariant `binG_inv`. What
quiescence adds: nothing is locked, the resize is all-or-nothing, the tree of every `TreeBin` in a cell
holds exactly the nodes of its list, and `absOf` is the linearized outcome of the history.
Proofs: `Lemmas/BinGQuiescent.lean`, `Lemmas/BinGCommit.lean`. -/
namespace Flurry.Proto.BinG
open Flurry.Lin
open Flurry.Proto.BinK (nodeAt binAt)

/-! ## 1. no half-finished resize -/

/-- in every reachable state: a resize that has been started is committed (the next table is
published) or a thread is still performing it -/
theorem resize_committed_or_at_work {n : Nat} {s : State} (hr : Reachable n s) (h : s.resizing = true) :
    s.cur = .new ∨ ∃ (t : Nat) (l : Local), s.threads[t]? = some l ∧ xPc l.pc = true :=
  reachable_committed hr h

/-- **no forwarding marker or half-finished resize is left behind**: at quiescence the lineage is
entirely before its resize or entirely after it. "The resize has been started", "the old cell holds
the forwarding marker" and "the next table is published" are equivalent (so `resizing ∧ quiescent`
implies committed: no marker without the published next table, no published next table without the
marker). Before the resize both cells of the next table are still empty; after it neither of them
holds a marker. -/
theorem quiescent_no_half_resize {n : Nat} {s : State} (hr : Reachable n s) (hq : quiescent s) :
    (s.resizing = true ↔ s.cur = .new) ∧ (s.cell0 = .moved ↔ s.cur = .new) ∧
    (s.cur = .old → s.resizing = false ∧ s.cell0 ≠ .moved ∧ s.lowCell = .empty ∧ s.highCell = .empty) ∧
    (s.cur = .new → s.resizing = true ∧ s.cell0 = .moved ∧ s.lowCell ≠ .moved ∧ s.highCell ≠ .moved) :=
  quiescent_resize_all_or_nothing hr hq

/-- no live cell holds the forwarding marker -/
theorem quiescent_live_not_moved {n : Nat} {s : State} (hr : Reachable n s) : ∀ c ∈ liveCells s, c ≠ .moved :=
  fun _ hc => liveCells_not_moved (binG_inv hr).heap hc

/-! ## 2. no lock is left held -/

/-- **nothing is locked at quiescence**: the lock word of every node is free, the mutex of every
`TreeBin` is free, no `TreeBin` has a reader inside, and every `TreeBin` that is in one of the three
cells has its write lock and its waiter bit clear -/
theorem quiescent_unlocked {n : Nat} {s : State} (hr : Reachable n s) (hq : quiescent s) :
    (∀ j, (nodeAt s.heap j).lock = none) ∧ (∀ b, (binAt s.tbins b).mutex = none) ∧
    (∀ b, b < s.tbins.length → (binAt s.tbins b).readers = 0) ∧
    ∀ id b, cellAt s id = .tree b → (binAt s.tbins b).writer = false ∧ (binAt s.tbins b).waiter = false :=
  ⟨quiescent_node_unlocked (binG_inv hr) hq, quiescent_mutex_free (binG_inv hr) hq,
    fun _ hb => quiescent_no_readers (binG_inv hr) hq hb,
    fun _ _ hc => ⟨(quiescent_bin_unlocked (binG_inv hr) hq hc).2.1, (quiescent_bin_unlocked (binG_inv hr) hq hc).2.2.1⟩⟩

/-- the same, for what a lookup or an iterator can reach: no node on the list of a live cell has its lock
word taken; a `TreeBin` in a live cell has `mutex = none`, `writer = false`, `waiter = false`,
`readers = 0` -/
theorem quiescent_live_cells_unlocked {n : Nat} {s : State} (hr : Reachable n s) (hq : quiescent s)
    {c : Cell} (hc : c ∈ liveCells s) :
    (∀ j ∈ chainOfCell s c, (nodeAt s.heap j).lock = none) ∧
    ∀ b, c = .tree b → (binAt s.tbins b).mutex = none ∧ (binAt s.tbins b).writer = false ∧
      (binAt s.tbins b).waiter = false ∧ (binAt s.tbins b).readers = 0 :=
  quiescent_live_unlocked (binG_inv hr) hq hc

/-! ## 3. iteration = lookup -/

/-- the cell a lookup of `k` ends in is one of the live cells -/
theorem liveCell_is_live {n : Nat} {s : State} (hr : Reachable n s) (k : Nat) : liveCell s k ∈ liveCells s :=
  liveCell_mem_liveCells (binG_inv hr).heap k

/-- **no key occurs twice**, across both live cells -/
theorem quiescent_keys_distinct {n : Nat} {s : State} (hr : Reachable n s) (_hq : quiescent s) :
    ((entries s).map (·.1)).Nodup := entries_keys_nodup (binG_inv hr).heap

/-- no entry is yielded twice -/
theorem quiescent_entries_nodup {n : Nat} {s : State} (hr : Reachable n s) (_hq : quiescent s) :
    (entries s).Nodup := nodup_of_keys_nodup (entries_keys_nodup (binG_inv hr).heap)

/-- **every entry resides where a lookup for its key searches**: an entry found in the low cell of the
next table has split bit 0, one found in the high cell has split bit 1, and every entry is on the list
of the cell a lookup of its key ends in -/
theorem quiescent_entry_in_own_cell {n : Nat} {s : State} (hr : Reachable n s) (_hq : quiescent s)
    {k : Nat} {v : Nat × Nat} :
    ((k, v) ∈ entriesOfCell s s.lowCell → hiBit k = false) ∧
    ((k, v) ∈ entriesOfCell s s.highCell → hiBit k = true) ∧
    ((k, v) ∈ entries s → (k, v) ∈ entriesOfCell s (liveCell s k)) :=
  ⟨(entries_own_cell (binG_inv hr).heap).1, (entries_own_cell (binG_inv hr).heap).2,
    (entries_in_liveCell (binG_inv hr).heap).1⟩

/-- **iteration yields exactly the keys for which lookup succeeds, with the value lookup returns** -/
theorem quiescent_iter_agrees {n : Nat} {s : State} (hr : Reachable n s) (_hq : quiescent s) (k : Nat) (v : Nat × Nat) :
    (k, v) ∈ entries s ↔ absOf s k = some v := mem_entries_iff_absOf (binG_inv hr).heap k v

/-- … and what lookup returns is what the completed calls on the key linearize to: the history of a
yielded key linearizes to "present with the yielded value", that of any other key to "absent" -/
theorem quiescent_iter_linearized {n : Nat} {s : State} (hr : Reachable n s) (hq : quiescent s) (k : Nat) :
    (∀ v, (k, v) ∈ entries s → Lin.Linearizable (callsOn s k) none (some v)) ∧
    (k ∉ (entries s).map (·.1) → Lin.Linearizable (callsOn s k) none none) :=
  entries_linearized hr hq k

/-- **each exactly once — the count**: the keys yielded are the keys a lookup finds (`absOf s k ≠ none`),
without repetition; hence any duplicate-free enumeration `ks` of those keys is a permutation of the
keys yielded, and the number of entries is the number of such keys -/
theorem quiescent_len {n : Nat} {s : State} (hr : Reachable n s) (_hq : quiescent s) :
    ((entries s).map (·.1)).Nodup ∧ (∀ k, k ∈ (entries s).map (·.1) ↔ absOf s k ≠ none) ∧
    ∀ ks : List Nat, ks.Nodup → (∀ k, k ∈ ks ↔ absOf s k ≠ none) →
      ks.Perm ((entries s).map (·.1)) ∧ ks.length = (entries s).length :=
  entries_len (entries_keys_nodup (binG_inv hr).heap) (mem_entries_iff_absOf (binG_inv hr).heap)

/-- for a `TreeBin` in a live cell the tree set is the list set: it is unlocked and its tree holds
exactly the nodes of its list (`quiescent_tree_eq_list` of `Props/C01BinG.lean`), so lookups through
the tree and the iterator over the list see the same nodes -/
theorem quiescent_live_tree_eq_list {n : Nat} {s : State} (hr : Reachable n s) (hq : quiescent s) {b : Nat}
    (hc : Cell.tree b ∈ liveCells s) :
    (binAt s.tbins b).mutex = none ∧ (binAt s.tbins b).writer = false ∧
    ∀ i, i < s.heap.length → ((nodeAt s.heap i).owner = some b ∧ (nodeAt s.heap i).inTree = true ↔
      i ∈ chainOfBin s b) :=
  (liveCells_sub hc).elim fun _ hid => quiescent_tree_eq_list hr hq hid.symm

/-! the list facts do not need quiescence -/

/-- in every reachable state the entries on the live lists are exactly the abstract content, no key
twice, every entry in the cell of its key -/
theorem reachable_iter_agrees {n : Nat} {s : State} (hr : Reachable n s) :
    ((entries s).map (·.1)).Nodup ∧ (∀ k v, (k, v) ∈ entries s ↔ absOf s k = some v) ∧
    ∀ k v, (k, v) ∈ entries s → (k, v) ∈ entriesOfCell s (liveCell s k) :=
  ⟨entries_keys_nodup (binG_inv hr).heap, mem_entries_iff_absOf (binG_inv hr).heap,
    fun _ _ => (entries_in_liveCell (binG_inv hr).heap).1⟩

/-! ## 4. non-vacuity: kernel-checked reachable quiescent states (`Lemmas/BinGQuiescentExamples.lean`) -/

/-- **after a tree-bin transfer** (`schedStale`: `TreeBin` 0 over the keys 1 and 0 is split into two fresh
`TreeBin`s, with a lock-protocol reader inside the old bin all along, then an update and a lookup in the
new table): the state is reachable and quiescent, forwarded and committed, the live cells are the two
cells of the next table, the iterator yields key 0 (low) and key 1 (high, with the updated value),
which is the abstract state of the keys 0, 1, 2; every lock word and every `TreeBin` is unlocked — all
computed by `decide` — and, as the theorems say, iteration = lookup for EVERY key -/
example : ∃ s, Reachable 4 s ∧ quiescent s ∧
    qview s = ⟨true, (.moved, .tree 1, .tree 2), .new, true, [.tree 1, .tree 2], [(0, (6, 101)), (1, (7, 102))],
      [some (6, 101), some (7, 102), none], true,
      [(none, false, false, 0), (none, false, false, 0), (none, false, false, 0)]⟩ ∧
    (∀ k v, (k, v) ∈ entries s ↔ absOf s k = some v) ∧ (s.cell0 = .moved ↔ s.cur = .new) := by
  obtain ⟨s, hr, hq, hv⟩ := of_qview qview_stale rfl
  exact ⟨s, hr, hq, hv, quiescent_iter_agrees hr hq, (quiescent_no_half_resize hr hq).2.1⟩

/-- after a tree-bin transfer that re-uses the OLD `TreeBin` object in the low cell (`schedReuse`, with a
writer queued on its mutex across the transfer): the live cells are `tree 0` and the empty high cell -/
example : ∃ s, Reachable 4 s ∧ quiescent s ∧
    qview s = ⟨true, (.moved, .tree 0, .empty), .new, true, [.tree 0, .empty], [(0, (5, 100)), (2, (7, 102))],
      [some (5, 100), none, some (7, 102)], true, [(none, false, false, 0)]⟩ ∧
    (∀ k v, (k, v) ∈ entries s ↔ absOf s k = some v) := by
  obtain ⟨s, hr, hq, hv⟩ := of_qview qview_reuse rfl
  exact ⟨s, hr, hq, hv, quiescent_iter_agrees hr hq⟩

/-- after a tree-bin transfer into two plain lists (`schedLostLong`) -/
example : ∃ s, Reachable 4 s ∧ quiescent s ∧
    qview s = ⟨true, (.moved, .list 4, .list 5), .new, true, [.list 4, .list 5], [(0, (6, 101)), (1, (7, 102))],
      [some (6, 101), some (7, 102), none], true, [(none, false, false, 0)]⟩ := of_qview qview_lists rfl

/-- before the resize (`setupBoth`): one live cell, the old one, holding `TreeBin` 0 over both keys; the
cells of the next table are empty, nothing has been started -/
example : ∃ s, Reachable 4 s ∧ quiescent s ∧
    qview s = ⟨true, (.tree 0, .empty, .empty), .old, false, [.tree 0], [(1, (5, 100)), (0, (6, 101))],
      [some (6, 101), some (5, 100), none], true, [(none, false, false, 0)]⟩ := of_qview qview_before rfl

end Flurry.Proto.BinG
