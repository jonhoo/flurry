import Flurry.Lemmas.BinGNDrainRun
import Flurry.Lemmas.BinGNDrainBound
import Flurry.Lemmas.BinGNProgExamples
/-! # C11 for `Proto/BinGN`, termination: every operation — and a resize in flight — terminates under ANY schedule
once no new work is started (the statements of `Props/C11BinGDrain.lean` for `Proto/BinGN`, with the resize)

> Once no new call, treeify or RESIZE is started, every run of the threads in flight is finite — whatever the
> scheduler does, fair or not — and ends with every call answered and the running resize committed.

**Quiet step** (`QStep`): `inv = none`, `mt = none`, `rz = false`, any `lo sm sm2`, by a thread that is not `idle`,
with ONE explicit scheduler restriction on `pick`: when the stepping thread is the resizing thread at `xNext` and some
cell of generation `cur` is not yet forwarded, the cell it is handed, `pick % 2 ^ cur`, is one that is not yet
forwarded. (The model's `xNext` accepts ANY cell and `xCell j` on a forwarded cell goes back to `xNext` without
progress, so an adversarial `pick` could loop `xNext → xCell j → xNext` for ever: without this restriction the
theorem is false. `qstep_of_not_quiescent` shows that the restriction never disables a thread: such a cell exists
whenever `allMoved = false`.) No generation is allocated during a quiet run: the allocation happens in the `idle → xNext`
step of `stepG` (`rz = true`), which a quiet step excludes (`quiet_step_keeps_tables`).

The measure `gmu s = W s * DA s + PS s` of `Lemmas/BinGNDrainDefs.lean` is `Proto/BinG`'s
(`Lemmas/BinGDrainDefs.lean`) with two additions:
* readers, writers and treeify threads in generation `g`: `tabs.length - g` forwarding hops still possible
  (`pmV`: `rCell _ g ↦ 4L + 8 + (T - g)`, `fresh T L g = 2L + 12 + (T - g)`, `kCell g _ ↦ 6 + (T - g)`; a forwarding
  marker is only found in an allocated generation: `lt_tabs_of_moved`);
* the resizing thread: with `U` = the number of cells of generation `cur` not yet forwarded (`Uv`, read from the
  `View`), `DA` counts `4 * U + 1` disturbing steps at `xNext` (per cell: allocation, two child stores, the marker;
  `+ 1`: the commit) and the position inside the current transfer; `growV` counts one allocation per such cell (so
  `N s = (heap.length + 1) * 4 ^ G s` still bounds the heap of every later state); `pmV` bounds its calm steps up to
  the next disturbing one, accounting for a stale view (failed re-check, failed CAS);
* the steps of the other threads neither forward a cell of generation `cur` nor overwrite a marker
  (`stepN_frame_nx`, from the lock invariants `LInv.vL`, `LInv.vT`), so they do not increase `U`. -/
namespace Flurry.Proto.BinGNP
open Flurry.Lin

/-- the drain measure of `Proto/BinGN` (`Lemmas/BinGNDrainDefs.lean`) -/
abbrev gmuN (s : State) : Nat := gmu s

/-- **C11.1 (BinGN): the global measure strictly decreases.** In every reachable state — a resize may be in flight,
threads may be stale by any number of generations — every enabled quiet step of a thread that is not `idle` strictly
decreases `gmu`. -/
theorem quiet_step_decreases {n : Nat} {s s' : State} (hr : Reachable n s) (h : QStep s s') : gmuN s' < gmuN s :=
  h.gmu_lt hr

/-- the same for any enabled step of a thread that is not `idle` (the scheduler's `inv`, `mt`, `rz` are ignored by
such a thread), under the restriction on `pick` -/
theorem nonidle_step_decreases {n : Nat} {s s' : State} (hr : Reachable n s) {t : Nat} {l : Local}
    (hl : s.threads[t]? = some l) (hne : l.pc ≠ .idle) {inv : Option (Nat × KOp)} {lo : Bool} {mt : Option Nat}
    {rz sm sm2 : Bool} {pick : Nat} (hs : step s t inv lo mt rz sm sm2 pick = some s')
    (hpk : l.pc = .xNext → allMoved s s.cur = false → cellAt s (s.cur, pick % 2 ^ s.cur) ≠ .moved) :
    gmu s' < gmu s :=
  step_gmu_lt hr hl hne hs hpk

/-- `gmuN` is bounded by `drainBound`, an explicit function of the heap length `n`, the number of threads `T`, the number
of generations `g = tabs.length` and `c = 2 ^ cur` (the cells a resize in flight may still have to transfer): with
`P = 4 * ((n + 1) * 4 ^ (T * (c + 1))) + 20 + g`: `(T * P + 1) * (T * (4 * c + 5)) + T * P` -/
theorem gmuN_le_bound {n : Nat} {s : State} (hr : Reachable n s) : gmuN s ≤ drainBound s := gmu_le_drainBound hr

/-- a quiet step allocates no generation -/
theorem quiet_step_keeps_tables {s s' : State} (h : QStep s s') : s'.tabs.length = s.tabs.length := by
  obtain ⟨t, l, lo, sm, sm2, pick, hl, hne, _, hs⟩ := h
  exact stepN_tabs_length (step_stepN hl hs) hne

/-- **C11.2 (BinGN): quiet runs are bounded**: `k` quiet steps from a reachable `s` have `k + gmu s' ≤ gmu s`. -/
theorem quiet_run_bounded {n : Nat} {s s' : State} {k : Nat} (hr : Reachable n s) (h : QRun s k s') :
    k + gmuN s' ≤ gmuN s := (qdrains n).bounded hr (qrun_iff.1 h)

/-- a quiet run that has not reached a quiescent state can be extended by a legal quiet step (`binGN_never_stuck`;
the `pick` restriction never disables the resizing thread) -/
theorem quiet_run_extends {n : Nat} {s s' : State} {k : Nat} (hr : Reachable n s) (h : QRun s k s')
    (hq : ¬ quiescent s') : ∃ s'', QRun s (k + 1) s'' := by
  obtain ⟨s'', h''⟩ := (qdrains n).extends hr (qrun_iff.1 h) hq
  exact ⟨s'', qrun_iff.2 h''⟩

/-- **C11.3 (BinGN): every maximal quiet run drains the lineage.** From every reachable state, ANY sequence of quiet
steps of threads that are not `idle` that cannot be extended ends in a QUIESCENT state — every call answered, every
treeify done, the running resize committed — after at most `gmuN s ≤ drainBound s` steps. No fairness assumption. -/
theorem binGN_drains {n : Nat} {s s' : State} {k : Nat} (hr : Reachable n s) (h : QRun s k s')
    (hmax : ∀ s'', ¬ QStep s' s'') : quiescent s' ∧ k ≤ gmuN s ∧ k ≤ drainBound s := by
  have h1 : k + gmuN s' ≤ gmuN s := (qdrains n).bounded hr (qrun_iff.1 h)
  have h2 : gmuN s ≤ drainBound s := gmu_le_drainBound hr
  exact ⟨(qdrains n).maximal hr (qrun_iff.1 h) hmax, by omega, by omega⟩

/-- a quiescent state is where quiet runs stop: maximal ⇔ quiescent -/
theorem quiescent_iff_maximal {n : Nat} {s : State} (hr : Reachable n s) :
    quiescent s ↔ ∀ s', ¬ QStep s s' :=
  (qdrains n).done_iff hr

/-- from every reachable state some quiet run reaches a quiescent state, within `gmu s` steps -/
theorem binGN_drain_exists {n : Nat} {s : State} (hr : Reachable n s) :
    ∃ k s', QRun s k s' ∧ quiescent s' ∧ k ≤ gmuN s := by
  obtain ⟨k, s', h, hq, hb⟩ := (qdrains n).exists_run hr
  have h := qrun_iff.2 h
  have : k + gmuN s' ≤ gmuN s := hb
  exact ⟨k, s', h, hq, by omega⟩

/-- there is no infinite execution in which no new call / treeify / resize is started and only threads that are not
`idle` take (legal) steps -/
theorem no_infinite_quiet_run {n : Nat} {s : State} (hr : Reachable n s) (f : Nat → State) (h0 : f 0 = s) :
    ¬ ∀ i, QStep (f i) (f (i + 1)) := (qdrains n).no_infinite hr f h0

/-- at the end of any maximal quiet run no thread is a resizing thread any more (and `resizing` is not set:
`BinGN.quiescent_shape`, with `binGN_drains`) -/
theorem resize_finishes {n : Nat} {s s' : State} {k : Nat} (hr : Reachable n s) (h : QRun s k s')
    (hmax : ∀ s'', ¬ QStep s' s'') : ∀ (t : Nat) (l : Local), s'.threads[t]? = some l → xPc l.pc = false := by
  intro t l hl
  have := (qdrains n).maximal hr (qrun_iff.1 h) hmax l (List.mem_iff_getElem?.2 ⟨t, hl⟩)
  rw [this]; rfl

/-- **C11.4 (BinGN): every call returns.** For a thread `t` with the call `p` in flight in a reachable state `s`: at the
end of any maximal quiet run from `s` the call has been answered. -/
theorem every_call_returns {n : Nat} {s s' : State} {k : Nat} (hr : Reachable n s) (h : QRun s k s')
    (hmax : ∀ s'', ¬ QStep s' s'') {t : Nat} {l : Local} {p : Pending} (hl : s.threads[t]? = some l)
    (hp : l.call = some p) : Answered s' t p :=
  answered_of_quiescent (h.reachable hr) ((qdrains n).maximal hr (qrun_iff.1 h) hmax) (h.pendOrAns (.inl ⟨l, hl, hp⟩))

end Flurry.Proto.BinGNP

/-! ## non-vacuity: a stale reader, a queued writer and the SECOND resize suspended mid-transfer, drained -/
namespace Flurry.Proto.BinGNProg
open Flurry.Lin
open Flurry.Proto.BinGN
open Flurry.Proto.BinGNP

/-- run the quiet steps of the listed `(thread, pick)` pairs (`lo = sm = sm2 = false`); `none` if a listed thread is
`idle`, its step is not enabled, or the `pick` restriction of `QStep` is violated -/
def runQuiet : State → List (Nat × Nat) → Option State
  | s, [] => some s
  | s, (t, pick) :: rest =>
    match s.threads[t]? with
    | none => none
    | some l =>
      if l.pc = .idle then none
      else if l.pc = .xNext ∧ allMoved s s.cur = false ∧ cellAt s (s.cur, pick % 2 ^ s.cur) = .moved then none
      else
        match stepQuiet s t false false false pick with
        | none => none
        | some s' => runQuiet s' rest

theorem runQuiet_qrun : ∀ (sc : List (Nat × Nat)) {s s' : State}, runQuiet s sc = some s' → QRun s sc.length s'
  | [], s, s', h => by
    simp only [runQuiet, Option.some.injEq] at h
    subst h
    exact .nil s
  | (t, pick) :: rest, s, s', h => by
    unfold runQuiet at h
    cases hl : s.threads[t]? with
    | none => rw [hl] at h; cases h
    | some l =>
      rw [hl] at h
      dsimp only at h
      by_cases hid : l.pc = .idle
      · rw [if_pos hid] at h; cases h
      · rw [if_neg hid] at h
        by_cases hpk : l.pc = .xNext ∧ allMoved s s.cur = false ∧ cellAt s (s.cur, pick % 2 ^ s.cur) = .moved
        · rw [if_pos hpk] at h; cases h
        · rw [if_neg hpk] at h
          cases hs : stepQuiet s t false false false pick with
          | none => rw [hs] at h; cases h
          | some s1 =>
            rw [hs] at h
            exact .cons ⟨t, l, false, false, false, pick, hl, hid, fun h1 h2 h3 => hpk ⟨h1, h2, h3⟩, hs⟩
              (runQuiet_qrun rest h)

/-- from `midState` (`Lemmas/BinGNProgExamples.lean`: the reader `get(4)` stale by a generation at `rCell false 0`; the
writer `remove(0)` blocked at `tMutex 1 0`; the resizing thread of the SECOND resize suspended at `xStoreMoved`,
holding the mutex): the reader follows the first marker (1 step); the resizer forwards `(1,0)` and releases the mutex
(2); the writer takes the mutex, **fails its re-check**, unlocks and reloads its cell (4); the resizer is handed the
remaining cell `(1,1)` (`pick = 1`), forwards it by CAS, finds every cell forwarded and **commits the resize** (5); the
reader follows two more markers into generation 2 and answers (8); the writer follows the marker, locks the same
`TreeBin` again in generation 2 and removes (9): 29 quiet steps -/
def drainSchedN : List (Nat × Nat) :=
  [(1, 0)] ++ List.replicate 2 (3, 1) ++ List.replicate 4 (2, 0) ++ List.replicate 5 (3, 1) ++
  List.replicate 8 (1, 0) ++ List.replicate 9 (2, 0)

/-- the run drains the lineage: quiescent, the resize committed (`cur = 2`), both calls answered; its length 29 is
within `gmu = 18193 ≤ drainBound = 71135400768` -/
theorem mid_drained : (midState.bind fun s => (runQuiet s drainSchedN).map fun s' =>
      (quiescentB s', drainSchedN.length, gmu s, gmu s', s'.cur, s'.resizing)) =
    some (true, 29, 18193, 0, 2, false) := by decide +kernel

set_option maxRecDepth 65536 in
example : midState.map drainBound = some 71135400768 := by decide +kernel

set_option maxRecDepth 65536 in
example : (midState.bind fun s => (runQuiet s drainSchedN).map fun s' =>
      (s'.hist.take 2).map fun x => (x.1, x.2.tid, x.2.res)) =
    some [(0, 2, .some 5 100), (4, 1, .some 6 101)] := by decide +kernel

set_option maxRecDepth 65536 in
/-- `gmu` along the first steps of that run: strictly decreasing (the resize commits in step 12) -/
example : ((List.range 12).map fun k => midState.bind fun s => (runQuiet s (drainSchedN.take k)).map gmu) =
    [some 18193, some 18192, some 16997, some 16996, some 16995, some 16994, some 16993, some 16992, some 16989, some 16981,
      some 3460, some 3448] := by decide +kernel

/-- the general theorems instantiated at `midState` -/
theorem mid_drains : ∃ s s', midState = some s ∧ Reachable 4 s ∧ s.resizing = true ∧ QRun s 29 s' ∧ quiescent s' ∧
    29 ≤ gmu s ∧ (∀ s'', ¬ QStep s' s'') := by
  have h : (midState.bind fun s => (runQuiet s drainSchedN).map fun s' => quiescentB s') = some true := by
    have := congrArg (Option.map fun x => x.1) mid_drained
    simpa [Option.map_bind, Function.comp_def] using this
  obtain ⟨s, hs, hr, _, _, _, _, _, hz⟩ := midState_spec
  rw [hs] at h
  simp only [Option.bind_some] at h
  cases hs' : runQuiet s drainSchedN with
  | none => rw [hs'] at h; cases h
  | some s' =>
    rw [hs'] at h
    simp only [Option.map_some, Option.some.injEq] at h
    have hrun : QRun s 29 s' := runQuiet_qrun drainSchedN hs'
    have hq : quiescent s' := (quiescentB_iff s').1 h
    have hb : 29 + gmu s' ≤ gmu s := quiet_run_bounded hr hrun
    exact ⟨s, s', hs, hr, hz, hrun, hq, by omega, fun _ => no_qstep_of_quiescent hq⟩

end Flurry.Proto.BinGNProg

