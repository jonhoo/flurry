import Flurry.Lemmas.BinGProgStuck
import Flurry.Lemmas.BinGProgSoloW
import Flurry.Lemmas.BinGExamples
/-! # C11 for `Proto/BinG`: no reachable state of a bin lineage is a deadlock

> A thread holds at most one bin lock at a time (plus, nested inside one `TreeBin`, mutex → write
> lock); the resizing thread holds one lock; readers hold only a read count and never wait. Hence a
> thread that waits for a lock waits for a holder that can itself move.

Proved for the small-step model `Proto/BinG` (list-bin writers locking the head node, tree-bin writers
with bin mutex + read-write lock + `WAITER`/park, treeify, the resizing thread moving a list bin or a
tree bin, lock-free and lock-protocol readers) over **all** reachable states:

* `step_disabled_only_by_lock` — the step of a thread that is not `idle` is enabled unless the thread is
  at one of the six waiting pcs and what it waits for is taken (`Blocked`): `stepG` never returns `none`
  for any other reason in a reachable state;
* `holder_exists` — a taken node lock / bin mutex has a holder: a thread of the state at a pc that holds
  it (a positive reader count has a reader: `reader_exists`, `Lemmas/BinGProgStuck.lean`);
* `blocked_waits_for_enabled` — from any thread that is not `idle`, the wait-for relation (`wLock`,
  `kLock`, `xLock` → holder of the node lock; `tMutex`, `yMutex` → holder of the mutex; parked `lrLoop`
  → a reader inside the bin) leads in at most two hops to a thread whose step is enabled;
* `binG_never_stuck` — in every reachable state that is not quiescent some thread that is NOT idle has
  an enabled step;
* `writer_solo_progress` / `thread_solo_progress` — lock-freedom-style progress modulo locks: a thread
  that is not `idle` (a writer of either bin form, the treeify thread, the resizing thread; for
  `thread_solo_progress` also a reader) and runs alone is `idle` again — or stands at a waiting pc
  whose lock is held by *another* thread — after at most `2 * heap.length + 17` (`4 * heap.length + 17`)
  of its own steps. So the only way a thread fails to finish is waiting for another thread's lock, and
  by `blocked_waits_for_enabled` somebody on that wait-for chain can move.

In the model a writer parked at `lrLoop` (`WAITER` set, readers remaining) is *disabled* (it does not
spin), so `binG_never_stuck` really says that somebody else can move.

Proofs: `Lemmas/BinGProgInv.lean`, `Lemmas/BinGProgEn.lean`, `Lemmas/BinGProgStuck.lean`; for the solo runs
`Lemmas/BinGProgAll.lean` (the measure `wmu`), `Lemmas/BinGProgStepW.lean`, `Lemmas/BinGProgSoloW.lean`. -/
namespace Flurry.Proto.BinG
open Flurry.Lin
open Flurry.Proto.BinK (nodeAt binAt)

/-- **the only reason for a disabled step is a taken lock.** In every reachable state, for every thread
that is not `idle` and every value of the scheduler's arguments: the step is enabled, or the thread is
at `wLock h` / `kLock h` / `xLock h` and the lock word of node `h` is taken, or at `tMutex b` /
`yMutex b` and the mutex of `TreeBin` `b` is taken, or parked at `lrLoop b` with `WAITER` set while the
write lock is held or readers remain (`Blocked`). -/
theorem step_disabled_only_by_lock {n : Nat} {s : State} (hr : Reachable n s) {t : Nat} {l : Local}
    (hl : s.threads[t]? = some l) (hne : l.pc ≠ .idle) (inv : Option (Nat × KOp)) (lo : Bool)
    (mt : Option Nat) (rz sm sm2 : Bool) :
    (step s t inv lo mt rz sm sm2).isSome = true ∨ Blocked s l.pc :=
  step_enabled_or_blocked (reachable_inv hr) (reachable_binv hr) hl hne inv lo mt rz sm sm2

/-- **a taken lock has a holder.** In every reachable state: if the lock word of node `h` is `some x`,
thread `x` exists and is at a pc that holds that lock (`holdsLock`: `wCheck … wUnlock`, `kCheck …
kUnlock`, `xCheck`, `xBuild`, `xStoreLow … xUnlock (inl h)`); if the mutex of `TreeBin` `b` is `some x`,
thread `x` exists and is at a pc that holds that mutex (`holdsMutex`: `tCheck … tUnlockM`, `yCheck`,
`yBuild`, `xStoreLow … xUnlock (inr b)`). -/
theorem holder_exists {n : Nat} {s : State} (hr : Reachable n s) :
    (∀ h x, (nodeAt s.heap h).lock = some x → ∃ l, s.threads[x]? = some l ∧ holdsLock l.pc = some h) ∧
    (∀ b x, (binAt s.tbins b).mutex = some x → ∃ l, s.threads[x]? = some l ∧ holdsMutex l.pc = some b) :=
  ⟨fun _ _ hx => lock_holder_exists (reachable_inv hr) hx, fun _ _ hx => mutex_holder_exists (reachable_inv hr) hx⟩

/-- holders do not wait: the holder of a node lock is never at a waiting pc; the holder of a mutex is
at a waiting pc only when it is at `lrLoop` of that very `TreeBin` (the nesting mutex → write lock) -/
theorem holders_do_not_wait {pc : Pc} :
    (∀ h, holdsLock pc = some h → pc ≠ .idle ∧ waitPc pc = false) ∧
    (∀ b, holdsMutex pc = some b → pc ≠ .idle ∧ (waitPc pc = false ∨ ∃ tab k res, pc = .lrLoop tab b k res)) :=
  ⟨fun _ h => holdsLock_not_wait h, fun _ h => holdsMutex_not_wait h⟩

/-- **a parked writer waits for a reader that can move.** In every reachable state, a thread blocked at
`lrLoop b` holds the mutex of `b` and not the write lock, so `readers ≠ 0`, so some thread is at
`rTree b` / `rRelease b _` — and its step is enabled for every value of the scheduler's arguments. -/
theorem parked_writer_waits_for_reader {n : Nat} {s : State} (hr : Reachable n s) {t : Nat} {l : Local}
    (hl : s.threads[t]? = some l) {tab : Tab} {b : Nat} {k : After} {res : KRes}
    (hpc : l.pc = .lrLoop tab b k res) (hbl : Blocked s l.pc) :
    ∃ (t' : Nat) (l' : Local), s.threads[t']? = some l' ∧ holdsRead l'.pc = some b ∧ Enabled s t' :=
  parked_waits_for_reader (reachable_inv hr) (reachable_binv hr) hl hpc hbl

/-- **a blocked thread waits for ANOTHER thread**: in every reachable state, a thread that is `Blocked`
waits for a thread different from itself that is not `idle` and holds a node lock, a bin mutex or a
read lock -/
theorem blocked_waits_for_other {n : Nat} {s : State} (hr : Reachable n s) {t : Nat} {l : Local}
    (hl : s.threads[t]? = some l) (hbl : Blocked s l.pc) :
    ∃ (t' : Nat) (l' : Local), t' ≠ t ∧ s.threads[t']? = some l' ∧ l'.pc ≠ .idle ∧
      ((∃ h, holdsLock l'.pc = some h) ∨ (∃ b, holdsMutex l'.pc = some b) ∨ (∃ b, holdsRead l'.pc = some b)) :=
  blocked_on_other (reachable_inv hr) (reachable_binv hr) hl hbl

/-- **the wait-for relation has depth ≤ 2**: from any thread that is not `idle` one
reaches — in zero hops (its own step is enabled), one hop (the holder of the lock it waits for) or two
hops (waiter → mutex holder parked at `lrLoop` → reader) — a thread that is not `idle` and whose step
is enabled for every value of the scheduler's arguments -/
theorem blocked_waits_for_enabled {n : Nat} {s : State} (hr : Reachable n s) {t : Nat} {l : Local}
    (hl : s.threads[t]? = some l) (hne : l.pc ≠ .idle) :
    ∃ (t' : Nat) (l' : Local), s.threads[t']? = some l' ∧ l'.pc ≠ .idle ∧ Enabled s t' :=
  waits_for_enabled (reachable_inv hr) (reachable_binv hr) hl hne

/-- **C11: no deadlock**, strong form: in every reachable state that is not quiescent some thread that
is not `idle` has a step that is enabled whatever the scheduler's arguments are -/
theorem binG_never_stuck_all {n : Nat} {s : State} (hr : Reachable n s) (hq : ¬ quiescent s) :
    ∃ (t : Nat) (l : Local), s.threads[t]? = some l ∧ l.pc ≠ .idle ∧ Enabled s t :=
  binG_never_stuck_aux (reachable_inv hr) (reachable_binv hr) hq

/-- **C11: no deadlock.** In every reachable state that is not quiescent, some thread that is NOT idle
has an enabled step. -/
theorem binG_never_stuck {n : Nat} {s : State} (hr : Reachable n s) (hq : ¬ quiescent s) :
    ∃ (t : Nat) (l : Local), s.threads[t]? = some l ∧ l.pc ≠ .idle ∧
      ∃ (inv : Option (Nat × KOp)) (lo : Bool) (mt : Option Nat) (rz sm sm2 : Bool) (s' : State),
        step s t inv lo mt rz sm sm2 = some s' := by
  obtain ⟨t, l, hl, hne, he⟩ := binG_never_stuck_all hr hq
  obtain ⟨s', hs⟩ := Option.isSome_iff_exists.1 (he none false none false false false)
  exact ⟨t, l, hl, hne, none, false, none, false, false, false, s', hs⟩

/-! ## non-vacuity: a wait-for chain of length two -/

/-- thread 0: `ins 0`, `ins 2`; thread 1 treeifies (`TreeBin` 0 over nodes 2, 3); thread 2: `get 0` —
takes the read lock and is suspended at `rTree`; thread 0: `rm 2` — mutex, find, `lock_root` fails, sets
`WAITER` and is **parked** at `lrLoop`; thread 1: `ins 4` — **blocked at `tMutex`** behind the parked
writer; thread 3 is idle. -/
def waitSched : Sched :=
  setupLow ++ call 2 0 .get ++ rep 2 5 ++ call 0 2 .rm ++ rep 0 7 ++ call 1 4 (.ins 7 7) ++ rep 1 2

def waitState : Option State := run step (init 4) waitSched

theorem waitState_spec : ∃ s, waitState = some s ∧ Reachable 4 s ∧ ¬ quiescent s ∧
    s.threads = [ { pc := .lrLoop .old 0 (.remove 3) (.some 6 101), call := some ⟨2, .rm, 28⟩ },
                  { pc := .tMutex .old 0, call := some ⟨4, .ins 7 7, 36⟩ },
                  { pc := .rTree 0, call := some ⟨0, .get, 22⟩ },
                  { pc := .idle, call := none } ] ∧
    s.tbins = [{ first := some 2, mutex := some 0, writer := false, waiter := true, readers := 1 }] := by
  have h : (waitState.map fun s => (s.threads, s.tbins)) =
      some ([ { pc := .lrLoop .old 0 (.remove 3) (.some 6 101), call := some ⟨2, .rm, 28⟩ },
              { pc := .tMutex .old 0, call := some ⟨4, .ins 7 7, 36⟩ },
              { pc := .rTree 0, call := some ⟨0, .get, 22⟩ },
              { pc := .idle, call := none } ],
            [{ first := some 2, mutex := some 0, writer := false, waiter := true, readers := 1 }]) := by decide +kernel
  obtain ⟨s, hs, h⟩ := Option.map_eq_some_iff.1 h
  obtain ⟨h1, h2⟩ := Prod.mk.inj h
  refine ⟨s, hs, run_reachable waitSched Reachable.init hs, ?_, h1, h2⟩
  intro hq
  have := hq _ (List.mem_iff_getElem?.2 ⟨2, by rw [h1]; rfl⟩)
  cases this

/-- of the three threads that are not idle, only the reader (thread 2) can move: the witness of
`binG_never_stuck` in this state is the reader, two hops from the queued writer -/
example : (waitState.map fun s => (List.range 4).map fun t =>
      ((s.threads.getD t {}).pc != .idle, (act step s { t := t }).isSome)) =
    some [(true, false), (true, false), (true, true), (false, true)] := by decide +kernel

/-- when the reader has left (three steps: tree search, release, value load), the parked writer can move again -/
example : ((run step (init 4) (waitSched ++ rep 2 3)).map fun s => (List.range 4).map fun t =>
      ((s.threads.getD t {}).pc != .idle, (act step s { t := t }).isSome)) =
    some [(true, true), (true, false), (false, true), (false, true)] := by decide +kernel

/-- the general theorem instantiated at `waitState`: its witness is thread 2 -/
example : ∃ s, waitState = some s ∧ ∃ (t : Nat) (l : Local), s.threads[t]? = some l ∧ l.pc ≠ .idle ∧ Enabled s t ∧ t = 2 := by
  obtain ⟨s, hs, hr, hq, hthr, htb⟩ := waitState_spec
  obtain ⟨t, l, hl, hne, he⟩ := binG_never_stuck_all hr hq
  refine ⟨s, hs, t, l, hl, hne, he, ?_⟩
  have hdis : ∀ t', t' = 0 ∨ t' = 1 → (step s t' none false none false false false).isSome = false := by
    have h : (waitState.map fun s => ((act step s { t := 0 }).isSome, (act step s { t := 1 }).isSome)) =
        some (false, false) := by decide +kernel
    rw [hs] at h
    simp only [Option.map_some, Option.some.injEq, Prod.mk.injEq, act] at h
    rintro t' (rfl | rfl)
    · exact h.1
    · exact h.2
  rw [hthr] at hl
  match t, hl with
  | 0, _ => have := he none false none false false false; rw [hdis 0 (Or.inl rfl)] at this; cases this
  | 1, _ => have := he none false none false false false; rw [hdis 1 (Or.inr rfl)] at this; cases this
  | 2, _ => rfl
  | 3, hl => simp at hl; subst hl; exact absurd rfl hne
  | t + 4, hl => simp at hl

/-! ## progress modulo locks -/

/-- one step of a thread that is not `idle` and not `Blocked`: it is enabled, and it brings the thread
back to `idle` (a call returns: one entry added to `hist`) or to a pc with a strictly smaller measure
`wmu` — in every reachable state, for every value of the scheduler's arguments -/
theorem unblocked_step_progress {n : Nat} {s : State} (hr : Reachable n s) {t : Nat} {l : Local}
    (hl : s.threads[t]? = some l) (hne : l.pc ≠ .idle) (hnb : ¬ Blocked s l.pc)
    (inv : Option (Nat × KOp)) (lo : Bool) (mt : Option Nat) (rz sm sm2 : Bool) :
    ∃ s', step s t inv lo mt rz sm sm2 = some s' ∧ Progress s t l s' :=
  thread_step (reachable_inv hr) (reachable_binv hr) hl hne hnb inv lo mt rz sm sm2

/-- **progress modulo locks (writers, treeify, resize).** From every reachable state, a thread that is
not `idle` and not a reader — a list-bin or tree-bin writer anywhere in its protocol, also with a stale
view of its cell (it then fails its re-check once, unlocks and starts over), the treeify thread, the
resizing thread — that runs alone (`runSolo`, every other thread suspended wherever it is) ends, after
at most `soloBoundW s = 2 * s.heap.length + 17` of its own steps, all of them enabled, in `SoloEnd`:
it is `idle` again (a thread with a call has returned: its call is appended to `hist`), or it stands,
with the same call and `hist` untouched, at a waiting pc (`wLock`, `kLock`, `xLock`, `tMutex`, `yMutex`,
parked `lrLoop`) and what it waits for is taken (`Blocked`) — by another thread, which can itself move
or waits for a thread that can (`blocked_waits_for_enabled`). -/
theorem writer_solo_progress {n : Nat} {s : State} (hr : Reachable n s) {t : Nat} {l : Local}
    (hl : s.threads[t]? = some l) (hne : l.pc ≠ .idle) (hnr : readerPc l.pc = false) (sm sm2 : Bool) :
    ∃ k, k ≤ soloBoundW s ∧ ∃ s', runSolo t sm sm2 k s = some s' ∧ Reachable n s' ∧ SoloEnd s t l s' :=
  writer_solo_progress_aux hr hl hne hnr sm sm2

/-- the same for every thread that is not `idle` (readers included; they never end `Blocked`), with the
bound `soloBoundAll s = 4 * s.heap.length + 17` -/
theorem thread_solo_progress {n : Nat} {s : State} (hr : Reachable n s) {t : Nat} {l : Local}
    (hl : s.threads[t]? = some l) (hne : l.pc ≠ .idle) (sm sm2 : Bool) :
    ∃ k, k ≤ soloBoundAll s ∧ ∃ s', runSolo t sm sm2 k s = some s' ∧ Reachable n s' ∧ SoloEnd s t l s' :=
  thread_solo_progress_aux hr hl hne sm sm2

theorem soloBoundW_eq (s : State) : soloBoundW s = 2 * s.heap.length + 17 := rfl
theorem soloBoundAll_eq (s : State) : soloBoundAll s = 4 * s.heap.length + 17 := rfl

/-- a writer whose lock is free is not `Blocked`: hence (`unblocked_step_progress`) it moves -/
theorem not_blocked_of_lock_free {s : State} :
    (∀ tab h, (nodeAt s.heap h).lock = none → ¬ Blocked s (.wLock tab h)) ∧
    (∀ tab b, (binAt s.tbins b).mutex = none → ¬ Blocked s (.tMutex tab b)) ∧
    (∀ tab b k res, (binAt s.tbins b).writer = false → (binAt s.tbins b).readers = 0 →
      ¬ Blocked s (.lrLoop tab b k res)) := by
  refine ⟨?_, ?_, ?_⟩
  · intro tab h hfree hb
    have : (nodeAt s.heap h).lock.isSome = true := hb
    rw [hfree] at this; cases this
  · intro tab b hfree hb
    have : (binAt s.tbins b).mutex.isSome = true := hb
    rw [hfree] at this; cases this
  · intro tab b k res hw hrd hb
    rcases hb.2 with h | h
    · rw [hw] at h; cases h
    · exact h hrd

/-! ## non-vacuity: solo runs of writers -/

/-- in `waitState` the parked writer (thread 0) running alone is `Blocked` at once (0 steps) … -/
example : (waitState.map fun s => (act step s { t := 0 }).isSome) = some false := by decide +kernel

/-- … and once the reader has left, the same writer running alone takes the write lock, unlinks the
node, restructures, unlocks and returns `rm 2 = some (6, 101)` after 5 of its own steps -/
example : ((run step (init 4) (waitSched ++ rep 2 3)).bind fun s => (runSolo 0 false false 5 s).map fun s' =>
      (decide (5 ≤ soloBoundW s), s'.threads[0]?, s'.hist.head?)) =
    some (true, some { pc := .idle, call := none },
      some (2, { tid := 0, op := .rm, res := .some 6 101, inv := 28, resp := 46 })) := by decide +kernel

/-- **a writer with a stale view**: `schedReuseA ++ rep 3 6` (`Lemmas/BinGExamples.lean`) — thread 2
(`ins 2`) loaded the old cell (`tree 0`) and was suspended at `tMutex .old 0`; meanwhile the bin was
transferred (the old `TreeBin` re-used in the new low cell, `cell0 = moved`, `cur = new`). Running
alone it takes the mutex, **fails its re-check once**, unlocks, follows the marker into the new table,
takes the mutex again, passes the re-check and returns — 10 of its own steps, within `soloBoundW = 25` -/
example : ((run step (init 4) (schedReuseA ++ rep 3 6)).map fun s =>
      (s.threads[2]?, s.cell0, s.lowCell, s.cur, soloBoundW s)) =
    some (some { pc := .tMutex .old 0, call := some ⟨2, .ins 7 102, 22⟩ }, .moved, .tree 0, .new, 25) := by decide +kernel

example : ((run step (init 4) (schedReuseA ++ rep 3 6)).bind fun s => (runSolo 2 false false 10 s).map fun s' =>
      (s'.threads[2]?, s'.hist.head?)) =
    some (some { pc := .idle, call := none },
      some (2, { tid := 2, op := .ins 7 102, res := .some 6 101, inv := 22, resp := 44 })) := by decide +kernel

/-- … its second step is the failed re-check (`tUnlockM … retry = true`) -/
example : ((run step (init 4) (schedReuseA ++ rep 3 6)).bind fun s => (runSolo 2 false false 2 s).map fun s' =>
      s'.threads[2]?.map (·.pc)) = some (some (.tUnlockM .old 0 .none true)) := by decide +kernel

/-- the general theorem instantiated at `waitState`: the queued writer (thread 1, at `tMutex`) running
alone ends `Blocked` (it cannot return: its call is still pending and the mutex is held by thread 0) -/
example : ∃ s, waitState = some s ∧ ∃ k, k ≤ soloBoundW s ∧ ∃ s', runSolo 1 false false k s = some s' ∧
    SoloEnd s 1 { pc := .tMutex .old 0, call := some ⟨4, .ins 7 7, 36⟩ } s' := by
  obtain ⟨s, hs, hr, _, hthr, _⟩ := waitState_spec
  have hl : s.threads[1]? = some { pc := .tMutex .old 0, call := some ⟨4, .ins 7 7, 36⟩ } := by rw [hthr]; rfl
  obtain ⟨k, hk, s', hrun, _, he⟩ := writer_solo_progress hr hl (by intro e; cases e) rfl false false
  exact ⟨s, hs, k, hk, s', hrun, he⟩

end Flurry.Proto.BinG
