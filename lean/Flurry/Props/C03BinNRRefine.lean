import Flurry.Lemmas.BinNRRefineProofMain
import Flurry.Props.C03Reclaim2
/-! # The concrete algorithm follows the abstract ownership discipline (C03, C04)

`ReachableTr nt evs s`: `s` is reached by a run of `Proto/BinNR` (list-bin lineage through any number of resizes, with
retire lists, guards and `free`), and `evs` is the concatenation of `project` over its steps — the run seen as
`enter / exit / alloc / publish / acquire / touch / unlink / retire / free` events on node indices, i.e. what the
event-stream ledger of the harness checks on real runs.

* `refines_abstract_discipline`: for EVERY run, the projected event list is accepted by `Proto/Reclaim2.run`, and the
  abstract state reached describes the concrete one (`Sim`: same objects, same life-cycle state with the same
  unlink-time and `waitFor` sets, same guards, the abstract `holds` contain the program counters' node indices);
* hence the theorems of `Props/C03Reclaim2.lean` hold of the abstract image of every `BinNR` execution. -/
namespace Flurry.Props.C03BinNRRefine
open Flurry.Proto.BinNR
open Flurry.Proto.Reclaim2 (Ev)

/-- every reachable state is reached by a run with a projected event list -/
theorem every_run_has_a_projection {nt : Nat} {s : State} (h : Reachable nt s) : ∃ evs, ReachableTr nt evs s :=
  h.traced

/-- **the concrete algorithm follows the abstract discipline** -/
theorem refines_abstract_discipline {nt : Nat} {evs : List Ev} {s : State} (h : ReachableTr nt evs s) :
    ∃ a, Flurry.Proto.Reclaim2.run (Flurry.Proto.Reclaim2.init nt) evs = some a ∧ Sim a s := refines h

/-- the form that starts from `Reachable`: the run supplies its event list (`Reachable.traced`) -/
theorem refines_abstract_discipline' {nt : Nat} {s : State} (h : Reachable nt s) :
    ∃ evs a, ReachableTr nt evs s ∧ Flurry.Proto.Reclaim2.run (Flurry.Proto.Reclaim2.init nt) evs = some a ∧ Sim a s := by
  obtain ⟨evs, htr⟩ := h.traced
  obtain ⟨a, h1, h2⟩ := refines htr
  exact ⟨evs, a, htr, h1, h2⟩

/-- **corollary**: in the abstract image of every `BinNR` execution no freed object is ever touched, no held reference
dangles, nothing is freed twice, and the collector cannot free what somebody holds -/
theorem abstract_image_safe {nt : Nat} {evs : List Ev} {s : State} (h : ReachableTr nt evs s) :
    ∃ a, Flurry.Proto.Reclaim2.run (Flurry.Proto.Reclaim2.init nt) evs = some a ∧ Sim a s ∧
      a.badTouches = 0 ∧
      (∀ t o, o ∈ a.holds t → a.objs o ≠ .freed ∧ a.guarded t = true) ∧
      (∀ o, a.frees o ≤ 1) ∧
      (∀ t o, o ∈ a.holds t → Flurry.Proto.Reclaim2.step a (.free o) = none) := by
  obtain ⟨a, h1, h2⟩ := refines h
  exact ⟨a, h1, h2, Flurry.C03Reclaim2.no_touch_after_free h1, Flurry.C03Reclaim2.held_references_valid h1,
    Flurry.C03Reclaim2.freed_at_most_once h1, fun t o ho => Flurry.C03Reclaim2.free_waits_for_holders h1 ho⟩

/-- and, read back through `Sim`: every node index in a concrete program counter is held abstractly, hence not freed -/
theorem pc_nodes_held_abstractly {nt : Nat} {evs : List Ev} {s : State} (h : ReachableTr nt evs s) :
    ∃ a, Flurry.Proto.Reclaim2.run (Flurry.Proto.Reclaim2.init nt) evs = some a ∧
      ∀ t, ∀ i ∈ holdsOf s.n t, i ∈ a.holds t ∧ a.objs i ≠ .freed := by
  obtain ⟨a, h1, h2⟩ := refines h
  exact ⟨a, h1, fun t i hi => ⟨h2.hld t i hi, (Flurry.C03Reclaim2.held_references_valid h1 t i (h2.hld t i hi)).1⟩⟩

end Flurry.Props.C03BinNRRefine

#print axioms Flurry.Props.C03BinNRRefine.refines_abstract_discipline
#print axioms Flurry.Props.C03BinNRRefine.refines_abstract_discipline'
#print axioms Flurry.Props.C03BinNRRefine.abstract_image_safe
#print axioms Flurry.Props.C03BinNRRefine.pc_nodes_held_abstractly
