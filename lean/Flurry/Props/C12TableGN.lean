import Flurry.Lemmas.TableGNL
import Flurry.Props.C12BinGN
import Flurry.Props.C11TableGN
/-! # C12 for `Proto/TableGN`: reads never block and finish in a bounded number of their own steps — in the whole
table, list and tree bins, ANY number of resizes

> `get`, `contains_key`, iterators … never acquire a bin lock and never wait for a writer — whatever the other threads
> are doing in the same bin or in any other bin of the table.

`Proto/TableGN`: `m` lineages of `Proto/BinGN` on one clock. A thread at a reader pc in lineage `i` of a reachable
table is `idle` in every other lineage (`tableGN_active_idle_elsewhere`), so:

1. `tableGN_reader_step_enabled` — its table step in lineage `i` is enabled in every reachable table state, for every
   value of the scheduler's arguments (the keys they name, if any, being keys of lineage `i`; a reader ignores them);
2. `tableGN_reader_step_frame` — that step changes nothing in any lineage except: the clock of every lineage advances
   by one (`tick`), and in lineage `i` the reader's own local state, the reader count of one `TreeBin` and `hist`
   (`BinGNP.Frame`: heap, ALL cells of ALL generations, table pointer, resize flag, `first` / mutex / `WRITER` /
   `WAITER` of every `TreeBin`, all other threads are as before);
3. `tableGN_reader_solo_terminates` — running alone (`runSolo`: all other threads, in all lineages, suspended wherever
   they are) the reader has returned after at most `BinGNP.soloBound` of its lineage
   (`tabs.length + 4 * heap.length + 10`) steps, all enabled; its answer is in the history of the map under the key of
   the table (`globalKey m i p.key`); every other lineage has only ticked.

Proofs: `Lemmas/TableGNL.lean` over `Props/C12BinGN.lean`. -/
namespace Flurry.Proto.TableGNL
open Flurry.Lin Flurry.LinMap Flurry.Proto.TableGN
open Flurry.Proto.TableN (globalKey inLineage localInv)

theorem readerPc_ne_idle {pc : BinGN.Pc} (h : BinGNP.readerPc pc = true) : pc ≠ .idle :=
  (BinGNP.readerPc_facts h).1

/-- **C12.1 for the table: a reader's step is never disabled.** In every reachable table state, for every thread at a
reader pc in lineage `i` and every value of the scheduler's arguments (an invoked key / treeify key, which the reader
ignores, must pass the `inLineage` test of `TableGN.step`; with `inv = none`, `maint = none` both hypotheses are `rfl`),
the table step of that thread in lineage `i` is enabled: no state of the other threads in ANY lineage — holding locks,
mid-transfer of any generation, parked, mid-treeify — disables it. -/
theorem tableGN_reader_step_enabled {m n : Nat} {S : State} (hr : Reachable m n S) {i t : Nat} {b : BinGN.State}
    {l : BinGN.Local} (hb : S.bins[i]? = some b) (hl : b.threads[t]? = some l) (hrd : BinGNP.readerPc l.pc = true)
    (inv : Option (Nat × KOp)) (lo : Bool) (mt : Option Nat) (rz sm sm2 : Bool) (pick : Nat)
    (h1 : inLineage S.bins.length i (inv.map (·.1)) = true) (h2 : inLineage S.bins.length i mt = true) :
    (step S i t inv lo mt rz sm sm2 pick).isSome = true := by
  have hrb := tableGN_lineage_reachable hr hb
  obtain ⟨b', hs⟩ := Option.isSome_iff_exists.1
    (BinGNProg.reader_step_enabled hrb hl hrd (localInv S.bins.length inv) lo (localMt S.bins.length mt) rz sm sm2 pick)
  rw [step_lift hb (idleElse_of_active hr hb hl (readerPc_ne_idle hrd)) h1 h2 hs]
  rfl

/-- … in the vocabulary of `Props/C11TableGN.lean` -/
theorem tableGN_reader_enabled {m n : Nat} {S : State} (hr : Reachable m n S) {i t : Nat} {b : BinGN.State}
    {l : BinGN.Local} (hb : S.bins[i]? = some b) (hl : b.threads[t]? = some l) (hrd : BinGNP.readerPc l.pc = true) :
    TEnabled S i t :=
  fun inv lo mt rz sm sm2 pick h1 h2 => tableGN_reader_step_enabled hr hb hl hrd inv lo mt rz sm sm2 pick h1 h2

/-- the quiet form: nothing is started -/
theorem tableGN_reader_quiet_step_enabled {m n : Nat} {S : State} (hr : Reachable m n S) {i t : Nat}
    {b : BinGN.State} {l : BinGN.Local} (hb : S.bins[i]? = some b) (hl : b.threads[t]? = some l)
    (hrd : BinGNP.readerPc l.pc = true) (lo rz sm sm2 : Bool) (pick : Nat) :
    (step S i t none lo none rz sm sm2 pick).isSome = true :=
  tableGN_reader_step_enabled hr hb hl hrd none lo none rz sm sm2 pick rfl rfl

/-- **C12.2 for the table: a reader takes no lock and stores nothing, anywhere.** A table step of a thread at a reader
pc in lineage `i`: the table keeps its lineages; every lineage other than `i` only ticks (its clock advances, nothing
else changes); lineage `i` changes within `BinGNP.Frame` — heap, the cells of all generations, the table pointer, the
resize flag, `first` / mutex / `WRITER` / `WAITER` of every `TreeBin` and all other threads are as before; only the
reader's local state, one reader count, the clock and `hist` change. No reachability assumption. -/
theorem tableGN_reader_step_frame {S S' : State} {i t : Nat} {b : BinGN.State} {l : BinGN.Local}
    (hb : S.bins[i]? = some b) (hl : b.threads[t]? = some l) (hrd : BinGNP.readerPc l.pc = true)
    {inv : Option (Nat × KOp)} {lo : Bool} {mt : Option Nat} {rz sm sm2 : Bool} {pick : Nat}
    (hs : step S i t inv lo mt rz sm sm2 pick = some S') :
    S'.bins.length = S.bins.length ∧ (∃ b', S'.bins[i]? = some b' ∧ BinGNP.Frame t b b') ∧
    ∀ (j : Nat) (bj : BinGN.State), j ≠ i → S.bins[j]? = some bj → S'.bins[j]? = some (tick bj) := by
  obtain ⟨b0, b', hb0, _, _, _, hs', rfl⟩ := step_eq_some hs
  rw [hb] at hb0
  cases hb0
  obtain ⟨h1, h2⟩ := Lineages.set_map_getElem? tick b' hb
  refine ⟨?_, ⟨b', h1, BinGNProg.reader_step_frame hl hrd hs'⟩, h2⟩
  show ((S.bins.map tick).set i b').length = _
  rw [List.length_set, List.length_map]

/-- **C12.3 for the table: bounded own steps.** From every reachable table state, a thread at a reader pc in lineage
`i` that runs alone — every other thread suspended wherever it is, in whatever lineage — has returned after at most
`BinGNP.soloBound b = b.tabs.length + 4 * b.heap.length + 10` of its own steps (`b`: its lineage), all of them enabled
table steps: it is `idle` in lineage `i`, its call is appended to the lineage's `hist` (under the local key) and is an
entry of the history of the map (under the key of the table, `i + m * p.key`); lineage `i` changed within
`BinGNP.Frame`; every other lineage has only ticked `k` times; the table reached is reachable. -/
theorem tableGN_reader_solo_terminates {m n : Nat} {S : State} (hr : Reachable m n S) {i t : Nat} {b : BinGN.State}
    {l : BinGN.Local} (hb : S.bins[i]? = some b) (hl : b.threads[t]? = some l) (hrd : BinGNP.readerPc l.pc = true)
    (sm sm2 : Bool) :
    ∃ k, k ≤ BinGNP.soloBound b ∧ ∃ (S' : State) (b' : BinGN.State) (p : BinGN.Pending) (res : KRes) (resp : Nat),
      l.call = some p ∧ runSolo i t sm sm2 k S = some S' ∧ Reachable m n S' ∧
      S'.bins.length = S.bins.length ∧ S'.bins[i]? = some b' ∧ BinGNP.Frame t b b' ∧
      b'.threads[t]? = some { pc := .idle, call := none } ∧
      b'.hist = (p.key, { tid := t, op := p.op, res := res, inv := p.inv, resp := resp }) :: b.hist ∧
      (⟨globalKey m i p.key, { tid := t, op := p.op, res := res, inv := p.inv, resp := resp }⟩ : MCall) ∈ mhist S' ∧
      ∀ (j : Nat) (bj : BinGN.State), j ≠ i → S.bins[j]? = some bj → S'.bins[j]? = some (tickN k bj) := by
  have hrb := tableGN_lineage_reachable hr hb
  obtain ⟨k, hk, b', p, res, resp, hp, hrun, hfr, hidle, hhist⟩ :=
    BinGNProg.reader_solo_terminates hrb hl hrd sm sm2
  obtain ⟨S', hrun', hlen, hi', hoth⟩ :=
    solo_lift k hb (idleElse_of_active hr hb hl (readerPc_ne_idle hrd)) hrun
  have hr' := runSolo_reachable k hr hrun'
  refine ⟨k, hk, S', b', p, res, resp, hp, hrun', hr', hlen, hi', hfr, hidle, hhist, ?_, hoth⟩
  have : (p.key, ({ tid := t, op := p.op, res := res, inv := p.inv, resp := resp } : Call)) ∈ b'.hist := by
    rw [hhist]; exact List.mem_cons_self
  exact (mem_mhist_of_hist (reachable_tblInv hr') hi' this).1

/-- `tickN k` changes the clock only -/
theorem tickN_eq (k : Nat) (b : BinGN.State) : tickN k b = { b with now := b.now + k } := rfl

/-- the bound is an explicit function of the number of generations and of the heap size of the reader's lineage -/
theorem soloBound_eq (b : BinGN.State) : BinGNP.soloBound b = b.tabs.length + 4 * b.heap.length + 10 := rfl

/-- `runSolo` is `step` iterated on thread `t` alone in lineage `i` (no new call, no treeify, no resize; `pick = 0`) -/
theorem runSolo_succ (i t : Nat) (sm sm2 : Bool) (k : Nat) (S : State) :
    runSolo i t sm sm2 (k + 1) S = (step S i t none false none false sm sm2 0).bind (runSolo i t sm sm2 k) := by
  simp only [runSolo]
  cases step S i t none false none false sm sm2 0 <;> rfl

/-! ## non-vacuity: the reader of `busyState` (`Lemmas/TableGNLExamples.lean`) -/

/-- in `busyState` thread 1 is at `rTree 0` in lineage 0 — inside the OLD `TreeBin`, whose cell is already forwarded —
while thread 0 is in the middle of the transfer (`xUnlock`, holding the old mutex): running alone, the reader returns
`get 2 = some (20, 200)` in 3 table steps (within `soloBound = 48`), lineage 1 has only ticked (clock 50 → 53) -/
example : exSoloCheck = true := example_busy_solo

/-- the general theorem instantiated at `busyState` -/
example : ∃ S, busyState = some S ∧ ∃ k, k ≤ 48 ∧ ∃ S', runSolo 0 1 false false k S = some S' ∧ Reachable 2 2 S' := by
  obtain ⟨S, hs, hr, -, -, -, h⟩ := example_busy
  cases hb : S.bins[0]? with
  | none => rw [hb] at h; cases h
  | some b =>
    rw [hb] at h
    simp only [Option.map_some, Option.some.injEq, Prod.mk.injEq] at h
    obtain ⟨k, hk, S', _, _, _, _, _, hrun, hr', _⟩ := tableGN_reader_solo_terminates hr hb h.1 rfl false false
    exact ⟨S, hs, k, by rw [h.2] at hk; exact hk, S', hrun, hr'⟩

end Flurry.Proto.TableGNL
