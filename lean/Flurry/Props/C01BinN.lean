import Flurry.Lemmas.BinNLin
import Flurry.Lemmas.BinNExamples
/-! # C01 / C08 / C10 (bin level): a list-bin lineage through ANY NUMBER of successive resizes

`Proto/BinN.lean` models the cells `(g, j)`, `j < 2^g`, of the generations `g = 0, 1, 2, …` of one
bin lineage; the table is resized again and again (one resizing thread per generation, cells in any
order, per cell exactly `Proto/BinX`'s transfer with the re-used last run) while any number of threads
perform `get`, `contains_key`, `insert`, `try_insert`, `remove`, `compute_if_present` — one
shared-memory access per transition; a thread may hold a pointer to a table that is arbitrarily many
generations old and follows forwarding marker after marker.

**Main theorem.** For every reachable state and every key, the history of that key — the completed calls,
plus the calls of writers that have done their store and only have to unlock — is linearizable from
"absent" to the key's current abstract state (`binN_linearizable`; quiescent form
`binN_linearizable_quiescent`), under every interleaving of any number of threads and ANY number of
successive resizes. Linearization points: lock-holding writers at their single store, the lock-free insert
at its successful CAS, operations that see an empty cell at that load, readers *in hindsight* (`Good`,
`BinNHM.Good.step`, and — across the forwarding of a cell, in whatever generation — `BinNHM.Good.moved` in
`Lemmas/BinNHMGhostMoved.lean`; a reader that has been carried over to a sibling lineage by a re-used last
run stays justified through every later split of that lineage: the case `foreign` of `Good`). Allocation of a
generation, every step of every transfer and every commit have no abstract effect
(`transfer_abs_invariant`).

**The generation structure** (`GenInv`, `Lemmas/BinNGen*.lean`): generations do not overlap, old
generations are forwarded for ever, cells of the next generation are never forwarded, a lookup follows at
most one marker from `cur`, *a thread that follows the markers and finds a cell that is not forwarded has
reached the live cell of its key, whatever the age of its table pointer* (`follow_markers_until_live`),
node locks match program counters and validated locks are exclusive.

**The heap** (`HInv`, `Lemmas/BinNDefs.lean`): every cell heads a well-formed chain, strictly increasing in
the rank `ord` (copies of ALL generations first, by decreasing index, then the other nodes by increasing
index), with pairwise distinct keys that all belong to the cell (`chains_wellformed`); the split
(`Lemmas/BinNSplit.lean`: `splitBinB_spec`) re-uses the last run and copies the prefix also when the old
list already contains copies of earlier generations.

**In flurry's terms** (`src/map.rs`). A lineage is what one bin of the first table splits into, resize after resize; the
bins are list bins only (tree bins: `Props/C01BinGN`). The forwarding marker `moved` is `BinEntry::Moved`; the re-check is
`if current_head != bin { continue }` after `head.lock.lock()` in `put`, `replace_node`, `compute_if_present` and
`transfer`; the transfer of a cell is one pass of the bin loop of `transfer` (`last_run` and the copies before it,
`next_table.store_bin(i, low_bin)`, `store_bin(i + n, high_bin)`, then `table.store_bin(i, …get_moved…)`); the commit is
`self.table.swap(next_table_ptr, …)` at the end of `transfer`; the helpers of `Props/C01BinNH` are the threads that
`help_transfer` sends into `transfer`.

**Which property.** `binN_linearizable` / `binN_linearizable_quiescent` stand for C01, and for C08 at bin level
(`compute_if_present` is one of the writers of the model, so its read and its write are one point of the
linearization); `generations_do_not_overlap`, `old_generations_forwarded`, `next_generation_not_forwarded`,
`commit_only_when_all_forwarded`, `follow_markers_until_live` and `transfer_abs_invariant` stand for C10; the
other theorems are what the model's invariants say beyond that.

**Validation by execution** (`Lemmas/BinNExamples.lean`): a seeded random explorer (`explore`: any number of
threads and resizes, sleepers that are stale by two and three generations) decides every quiescent per-key
history by the complete procedure `Lin.search`; the build runs one sample of it under `#eval` and asserts
nothing about it. Two kernel-checked runs (`schedA`, `schedB`) are stated below; the variant without the
writers' re-check is refuted (`noCheck_refuted`). -/
namespace Flurry.Proto.BinN
open Flurry.Lin
open Flurry.Proto.BinX (Pending)

theorem reachable_gen_inv {n : Nat} {s : State} (hr : Reachable n s) : GenInv s := reachable_geninv hr

/-- **generations do not overlap**: the tables are the generations `0 … cur`, plus generation `cur + 1`
exactly while a resize runs (so at most one generation is being filled, and it is `cur + 1`); generation
`g` has `2^g` cells; at most one thread is resizing, and only while `resizing` is set -/
theorem generations_do_not_overlap {n : Nat} {s : State} (hr : Reachable n s) :
    s.tabs.length = s.cur + 1 + (if s.resizing then 1 else 0) ∧
    (∀ g row, s.tabs[g]? = some row → row.length = 2 ^ g) ∧
    (∀ (t t' : Nat) (l l' : Local), s.threads[t]? = some l → s.threads[t']? = some l' → isT l.pc → isT l'.pc → t = t') ∧
    (∀ (t : Nat) (l : Local), s.threads[t]? = some l → isT l.pc → s.resizing = true) :=
  let I := reachable_geninv hr
  ⟨I.len, I.rows, I.uniqT, fun t l hl => (I.thr t l hl).tres⟩

/-- **old generations are forwarded**: every cell of a generation older than `cur` is `moved`, for ever -/
theorem old_generations_forwarded {n : Nat} {s : State} (hr : Reachable n s) {g j : Nat} (hg : g < s.cur)
    (hj : j < 2 ^ g) : cellAt s g j = .moved :=
  (reachable_geninv hr).old g j hg hj

/-- no cell of the generation that is being filled is forwarded; a forwarding marker in generation `cur`
exists only while a resize runs -/
theorem next_generation_not_forwarded {n : Nat} {s : State} (hr : Reachable n s) :
    (∀ j, cellAt s (s.cur + 1) j ≠ .moved) ∧ (∀ j, cellAt s s.cur j = .moved → s.resizing = true) :=
  ⟨(reachable_geninv hr).nextOK, (reachable_geninv hr).curMoved⟩

/-- a lookup that starts now follows at most one forwarding marker -/
theorem liveCell_one_hop {n : Nat} {s : State} (hr : Reachable n s) (k : Nat) :
    liveCell s k = if cellOf s s.cur k = .moved then cellOf s (s.cur + 1) k else cellOf s s.cur k :=
  (reachable_geninv hr).liveCell_eq k

/-- the generation a thread works in is at most `cur + 1`, and it is `cur + 1` only behind a forwarding
marker (of its key, in generation `cur`) that is still there -/
theorem thread_generation {n : Nat} {s : State} (hr : Reachable n s) {t : Nat} {l : Local} {p : Pending} {g : Nat}
    (hl : s.threads[t]? = some l) (hp : l.call = some p) (hg : genOfPc l.pc = some g) :
    g ≤ s.cur + 1 ∧ (g = s.cur + 1 → cellOf s s.cur p.key = .moved) :=
  ((reachable_geninv hr).thr t l hl).gen p g hp hg

/-- **follow the markers until a live cell**: a reader or writer that works in generation `g` — however
old the table pointer it once loaded — and sees a cell of its key that is not forwarded has reached the
cell in which a lookup started now would end; in an older generation it can only see `moved` -/
theorem follow_markers_until_live {n : Nat} {s : State} (hr : Reachable n s) {t : Nat} {l : Local} {p : Pending}
    {g : Nat} (hl : s.threads[t]? = some l) (hp : l.call = some p) (hg : genOfPc l.pc = some g) :
    (cellOf s g p.key ≠ .moved → liveCell s p.key = cellOf s g p.key) ∧
    (g < s.cur → cellOf s g p.key = .moved) :=
  ⟨(reachable_geninv hr).live_of_gen hl hp hg, fun h => (reachable_geninv hr).stale_sees_moved h _⟩

/-- **node locks match program counters**: a thread whose program counter says it holds the mutex of
node `h` is the owner recorded in the node -/
theorem node_lock_owner {n : Nat} {s : State} (hr : Reachable n s) {t : Nat} {l : Local} {h : Nat}
    (hl : s.threads[t]? = some l) (hh : Holds l.pc h) : h < s.heap.length ∧ lockAt s.heap h = some t :=
  ((reachable_geninv hr).thr t l hl).held h hh

/-- a validated lock holder (a writer between its re-check and its store, the resizing thread from
`tBuild` to the store of the forwarding marker) still sees its node as the head of its cell -/
theorem validated_head {n : Nat} {s : State} (hr : Reachable n s) {t : Nat} {l : Local} {g j h : Nat}
    (hl : s.threads[t]? = some l) (hv : vcell s.cur l = some (g, j, h)) :
    cellAt s g j = .node h ∧ Holds l.pc h :=
  ((reachable_geninv hr).thr t l hl).valid g j h hv

/-- **mutual exclusion**: at most one thread holds a validated lock on a cell — in particular a writer
and the transfer of the same cell exclude each other, in every generation -/
theorem validated_mutex {n : Nat} {s : State} (hr : Reachable n s) {t t1 : Nat} {l l1 : Local} {g j h h1 : Nat}
    (hl : s.threads[t]? = some l) (hl1 : s.threads[t1]? = some l1)
    (hv : vcell s.cur l = some (g, j, h)) (hv1 : vcell s.cur l1 = some (g, j, h1)) : t = t1 :=
  (reachable_geninv hr).mutex hl hl1 hv hv1

/-- the resizing thread commits only when every cell of generation `cur` is forwarded -/
theorem commit_only_when_all_forwarded {n : Nat} {s : State} (hr : Reachable n s) {t : Nat} {l : Local}
    (hl : s.threads[t]? = some l) (hc : l.pc = .tCommit) : ∀ j, j < 2 ^ s.cur → cellAt s s.cur j = .moved :=
  ((reachable_geninv hr).thr t l hl).commit hc

/-- **allocation and publication of a generation have no abstract effect** (the part of
`transfer_abs_invariant` that concerns the generation structure): starting a resize (allocating
generation `cur + 1`) and committing (`cur := cur + 1`) change the abstract state of no key -/
theorem alloc_commit_abs_invariant {n : Nat} {s s' : State} (hr : Reachable n s) {t : Nat} {l : Local}
    {inv : Option (Nat × KOp)} {rz : Bool} {pick : Nat} (hl : s.threads[t]? = some l)
    (hpc : (l.pc = .idle ∧ rz = true) ∨ l.pc = .tCommit)
    (hs : step s t inv rz pick = some s') (k : Nat) : absOf s' k = absOf s k := by
  have I := reachable_geninv hr
  have I' := step_geninv I hs
  rcases hpc with ⟨hi, hrz⟩ | hc
  · subst hrz
    unfold step stepG at hs
    rw [hl] at hs
    obtain ⟨pc, call⟩ := l
    simp only at hi; subst hi
    simp only [if_true] at hs
    split at hs
    · cases hs
      exact absOf_tick s k
    · cases hs
      exact alloc_abs I I' rfl rfl rfl k
  · have hall := ((I.thr t l hl).commit hc)
    unfold step stepG at hs
    rw [hl] at hs
    obtain ⟨pc, call⟩ := l
    simp only at hc; subst hc
    cases call with
    | some p => simp at hs
    | none =>
      simp only [Option.some.injEq] at hs
      subst hs
      exact commit_abs I I' rfl rfl rfl hall k

/-- **C01 / C10, bin level, any number of resizes.** Under every interleaving of any number of threads
and any number of successive transfers, the per-key history (completed calls plus stored-but-not-yet-unlocked
writers) is linearizable and ends in the abstract content of the key. -/
theorem binN_linearizable {n : Nat} {s : State} (hr : Reachable n s) (k : Nat) :
    Lin.Linearizable (callsOnExt s k) none (absOf s k) := by
  obtain ⟨G, A, pt, I, g⟩ := reachable_ginv hr k
  exact g.core.linearizable I.thr

theorem binN_linearizable_quiescent {n : Nat} {s : State} (hr : Reachable n s) (hq : quiescent s) (k : Nat) :
    Lin.Linearizable (callsOn s k) none (absOf s k) := by
  obtain ⟨G, A, pt, I, g⟩ := reachable_ginv hr k
  exact g.core.linearizable_quiescent I.thr hq

/-- **the transfers have no abstract effect**: no step of a resizing thread — in any generation: the loads,
the CAS of an empty cell to `moved`, lock / re-check, the split, the store of the low list, of the high list,
of the forwarding marker (where the live chain of every key of the cell switches from the old list to a new
one), unlock, the commit — and no start of a resize (allocation of the next generation) changes the abstract
state of any key -/
theorem transfer_abs_invariant {n : Nat} {s s' : State} (hr : Reachable n s) {t : Nat} {l : Local}
    {inv : Option (Nat × KOp)} {rz : Bool} {pick : Nat} (hl : s.threads[t]? = some l)
    (hT : isT l.pc ∨ (l.pc = .idle ∧ rz = true))
    (hs : step s t inv rz pick = some s') (k : Nat) : absOf s' k = absOf s k := by
  rcases hT with hT | hidle
  · obtain ⟨G, I⟩ := reachable_inv hr
    obtain ⟨G', -, -, ae⟩ := stepK_inv I hl (step_stepK hl hs)
    refine ae.quiet_of ?_ ?_ k
    · intro g hpc; rw [hpc] at hT; exact hT
    · intro g h a b c hpc; rw [hpc] at hT; exact hT
  · exact alloc_commit_abs_invariant hr hl (Or.inl hidle) hs k

/-- the chains of a reachable state: every cell (of every generation) is the head of a chain that is strictly
increasing in `ord` (hence acyclic and duplicate-free), with pairwise distinct keys that all belong to the cell -/
theorem chains_wellformed {n : Nat} {s : State} (hr : Reachable n s) :
    ∃ cr : CR, NextOK cr s.heap ∧ ∀ id : CellId,
      BinX.IsChain s.heap (BinX.cellHead (getCell s id)) (chId s id) ∧ (chId s id).Nodup ∧
      (chId s id).Pairwise (fun x y => ord cr x < ord cr y) ∧
      BinX.KeysDistinct s.heap (chId s id) ∧ ∀ i ∈ chId s id, (BinX.nodeAt s.heap i).key % 2 ^ id.1 = id.2 := by
  obtain ⟨G, I⟩ := reachable_inv hr
  exact ⟨G.cr, I.heap.nextOK, fun id => ⟨I.heap.isChain id, I.heap.chain_nodup id,
    (I.heap.isChain id).sorted I.heap.nextOK, I.heap.keys id, I.heap.side id⟩⟩

/-- cells of the generation being filled are empty until the transfer of their parent stores them: a cell
of generation `cur + 1` whose parent is neither forwarded nor being split is `empty` -/
theorem next_generation_empty_until_transferred {n : Nat} {s : State} (hr : Reachable n s) :
    ∃ G : Ghost, ∀ j', cellAt s s.cur (j' % 2 ^ s.cur) ≠ .moved → midIdx G ≠ some (j' % 2 ^ s.cur) →
      cellAt s (s.cur + 1) j' = .empty := by
  obtain ⟨G, I⟩ := reachable_inv hr
  exact ⟨G, I.heap.nextEmpty⟩

/-- the end of the run of `schedA` (a reader and a writer that loaded generation 0 before the first resize and
resume after the SECOND resize has committed) is such a state, with the histories of its four keys decided by
`Lin.search`. The statement keeps only that a reachable quiescent state in generation 2 with linearizable
histories exists, which `binN_linearizable_quiescent` gives of any such state; the run itself is
`stale_two_generations_linearizable` and `history_A` in `Lemmas/BinNExamples.lean`. -/
theorem stale_by_two_generations :
    ∃ s, Reachable 4 s ∧ quiescent s ∧ s.cur = 2 ∧ ∀ k < 4, Lin.Linearizable (callsOn s k) none (absOf s k) := by
  obtain ⟨s, -, h⟩ := stale_two_generations_linearizable
  exact ⟨s, h⟩

/-- the run of `schedB`, by the theorem: the slow `get(1)` that loaded the head of cell `(0,0)` in generation 0 and
returns the OLD value after two complete resizes and after a later `get(1)` has returned the new value — its
history is linearizable, for every key -/
theorem stale_read_across_two_generations :
    ∃ s, run step (init 4) schedB = some s ∧ Reachable 4 s ∧ quiescent s ∧ s.cur = 2 ∧
      ∀ k, Lin.Linearizable (callsOn s k) none (absOf s k) := by
  obtain ⟨s, hrun, hreach, hq, hc, -⟩ := stale_read_two_generations_linearizable
  exact ⟨s, hrun, hreach, hq, hc, binN_linearizable_quiescent hreach hq⟩

/-- the re-check of the writers is load-bearing across any number of forwardings -/
theorem noCheck_refuted :
    ¬ ∀ (n : Nat) (s : State), ReachableNoCheck n s → quiescent s → ∀ k,
      Lin.Linearizable (callsOn s k) none (absOf s k) := noCheck_refutes

end Flurry.Proto.BinN
