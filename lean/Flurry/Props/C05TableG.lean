import Flurry.Proto.TableG
import Flurry.Props.C01TableG
import Flurry.Props.C05BinG
import Flurry.Lemmas.TableGQuiescent
import Flurry.Lemmas.TableGHeapKeys
import Flurry.Lemmas.TableGQuiescentExamples
/-! # C05 (table level, concurrent model, across a resize): at quiescence iteration over the table = lookup

`Proto/TableG`: `m` lineages (`Proto/BinG`), key `k` in lineage `lineageOf m k = (k / 2) % m`, one
clock, any number of threads, each lineage transferred once (by whichever thread). `quiescent S`:
every thread is idle in every lineage. `entries S`: the entries of all lineages, lineage by lineage
(`BinG.entries`: the lists of the live cells of the lineage — the old cell until it is forwarded, the
two cells of the next table afterwards) — what an iterator over the whole table that starts now and
runs alone yields. `absMap S k`: what a lookup of `k` finds (the abstract state of `k` in its lineage);
by `tableG_map_linearizable` it is the map the ONE sequential order of all completed calls leads to.

Lineage-local facts lift through `tableG_lineage_reachable`. The one global fact, "every key stored in
lineage `i` is a key of lineage `i`", holds in EVERY reachable state, for every heap node
(`tableG_node_key_in_own_lineage`), by induction over the transitions: nodes are created only
with the key of the call that inserts them or as copies (treeify, untreeify, transfer) of nodes of the lineage
(`Lemmas/BinGHeapKeys.lean`, `Lemmas/TableGHeapKeys.lean`). Hence the list facts — iteration = abstract map, no
key twice, every entry in the lineage of its key — need no quiescence: `tableG_reachable_iter_agrees` states them
without it, and `tableG_stored_key_in_own_lineage`, `tableG_quiescent_entry_in_own_cell`, `_iter_agrees`,
`_keys_distinct`, `_entries_nodup` and `_len`, stated for the quiescent states C05 speaks of, carry a hypothesis
`hq` that their proofs do not use (proofs: `Lemmas/TableGQuiescent.lean`, over `Lemmas/TableEntries.lean`);
quiescence is what makes the abstract map the outcome of the linearization of the completed calls, and what
leaves nothing locked or half-resized. -/
namespace Flurry.Proto.TableG
open Flurry.Lin Flurry.LinMap

/-- every lineage of a reachable quiescent table is a reachable quiescent `Proto/BinG` lineage: all of
`Props/C05BinG.lean` applies to it -/
theorem tableG_lineage_quiescent {m n : Nat} {S : State} (hr : Reachable m n S) (hq : quiescent S)
    {b : BinG.State} (hb : b ∈ S.bins) : BinG.Reachable n b ∧ BinG.quiescent b := lineage_quiescent hr hq hb

/-- **every entry resides in the lineage its key selects**: a key stored in (a live cell of) lineage `i`
is a key of lineage `i` -/
theorem tableG_stored_key_in_own_lineage {m n : Nat} {S : State} (hr : Reachable m n S) (hq : quiescent S)
    {i : Nat} {b : BinG.State} (hb : S.bins[i]? = some b) {k : Nat} {v : Nat × Nat}
    (he : (k, v) ∈ BinG.entries b) : lineageOf m k = i := stored_key_in_own_lineage hr hb he

/-- … and, inside that lineage, on the list of the cell a lookup of its key ends in; in the next table
that is the low cell (index `i`) for split bit 0 and the high cell (index `i + m`) for split bit 1 -/
theorem tableG_quiescent_entry_in_own_cell {m n : Nat} {S : State} (hr : Reachable m n S) (hq : quiescent S)
    {i : Nat} {b : BinG.State} (hb : S.bins[i]? = some b) {k : Nat} {v : Nat × Nat}
    (he : (k, v) ∈ BinG.entries b) :
    lineageOf m k = i ∧ (k, v) ∈ BinG.entriesOfCell b (BinG.liveCell b k) ∧
      ((k, v) ∈ BinG.entriesOfCell b b.lowCell → BinG.hiBit k = false) ∧
      ((k, v) ∈ BinG.entriesOfCell b b.highCell → BinG.hiBit k = true) := entry_position hr hb he

/-- **iteration over the whole table yields exactly the keys for which lookup succeeds, with the value
lookup returns** -/
theorem tableG_quiescent_iter_agrees {m n : Nat} {S : State} (hr : Reachable m n S) (hq : quiescent S)
    (hm : 0 < m) : ∀ k v, (k, v) ∈ entries S ↔ absMap S k = some v := mem_entries_iff_absMap hr hm

/-- **no key occurs twice**, across ALL lineages and both tables -/
theorem tableG_quiescent_keys_distinct {m n : Nat} {S : State} (hr : Reachable m n S) (hq : quiescent S) :
    ((entries S).map (·.1)).Nodup := entries_keys_nodup hr

/-- no entry is yielded twice -/
theorem tableG_quiescent_entries_nodup {m n : Nat} {S : State} (hr : Reachable m n S) (hq : quiescent S) :
    (entries S).Nodup := nodup_of_keys_nodup (entries_keys_nodup hr)

/-- **each exactly once — the count**: the keys yielded are the keys of the abstract map, without
repetition; any duplicate-free enumeration of the keys of the abstract map is a permutation of the keys
yielded, and the number of entries is the number of keys of the map -/
theorem tableG_quiescent_len {m n : Nat} {S : State} (hr : Reachable m n S) (hq : quiescent S) (hm : 0 < m) :
    ((entries S).map (·.1)).Nodup ∧ (∀ k, k ∈ (entries S).map (·.1) ↔ absMap S k ≠ none) ∧
    ∀ ks : List Nat, ks.Nodup → (∀ k, k ∈ ks ↔ absMap S k ≠ none) →
      ks.Perm ((entries S).map (·.1)) ∧ ks.length = (entries S).length :=
  entries_len (entries_keys_nodup hr) (mem_entries_iff_absMap hr hm)

/-- iteration yields the map that the one sequential order of all completed calls on all keys leads to -/
theorem tableG_quiescent_iter_is_linearized_map {m n : Nat} {S : State} (hr : Reachable m n S) (hq : quiescent S)
    (hm : 0 < m) :
    LinMap.MapLinearizable (mhist S) (fun _ => none) (absMap S) ∧ ∀ k v, (k, v) ∈ entries S ↔ absMap S k = some v :=
  ⟨tableG_map_linearizable hm hr hq, mem_entries_iff_absMap hr hm⟩

/-- **no forwarding marker or half-finished resize is left behind**: at quiescence every lineage is
entirely before its transfer or entirely after it — started, forwarded and committed are equivalent;
before, both its cells of the next table are empty; after, neither holds a marker. (Different lineages
may be on different sides: the table pointer is modelled per lineage, see `Proto/TableG.lean`.) -/
theorem tableG_quiescent_no_half_resize {m n : Nat} {S : State} (hr : Reachable m n S) (hq : quiescent S) :
    ∀ b ∈ S.bins, (b.resizing = true ↔ b.cur = .new) ∧ (b.cell0 = .moved ↔ b.cur = .new) ∧
      (b.cur = .old → b.resizing = false ∧ b.cell0 ≠ .moved ∧ b.lowCell = .empty ∧ b.highCell = .empty) ∧
      (b.cur = .new → b.resizing = true ∧ b.cell0 = .moved ∧ b.lowCell ≠ .moved ∧ b.highCell ≠ .moved) :=
  fun _ hb => BinG.quiescent_no_half_resize (lineage_quiescent hr hq hb).1 (lineage_quiescent hr hq hb).2

/-- **no lock is left held**, in any lineage: every lock word of every node is free, every mutex is free,
no `TreeBin` has a reader inside, every `TreeBin` in a cell has its write lock and waiter bit clear -/
theorem tableG_quiescent_unlocked {m n : Nat} {S : State} (hr : Reachable m n S) (hq : quiescent S) :
    ∀ b ∈ S.bins, (∀ j, (BinK.nodeAt b.heap j).lock = none) ∧ (∀ x, (BinK.binAt b.tbins x).mutex = none) ∧
      (∀ x, x < b.tbins.length → (BinK.binAt b.tbins x).readers = 0) ∧
      ∀ id x, BinG.cellAt b id = .tree x → (BinK.binAt b.tbins x).writer = false ∧ (BinK.binAt b.tbins x).waiter = false :=
  fun _ hb => BinG.quiescent_unlocked (lineage_quiescent hr hq hb).1 (lineage_quiescent hr hq hb).2

/-- for every `TreeBin` in a live cell of any lineage the tree set is the list set -/
theorem tableG_quiescent_tree_eq_list {m n : Nat} {S : State} (hr : Reachable m n S) (hq : quiescent S)
    {b : BinG.State} (hb : b ∈ S.bins) {x : Nat} (hc : BinG.Cell.tree x ∈ BinG.liveCells b) :
    (BinK.binAt b.tbins x).mutex = none ∧ (BinK.binAt b.tbins x).writer = false ∧
    ∀ i, i < b.heap.length → ((BinK.nodeAt b.heap i).owner = some x ∧ (BinK.nodeAt b.heap i).inTree = true ↔
      i ∈ BinG.chainOfBin b x) :=
  BinG.quiescent_live_tree_eq_list (lineage_quiescent hr hq hb).1 (lineage_quiescent hr hq hb).2 hc

/-! ## the same without quiescence (`Lemmas/TableGHeapKeys.lean`, `Lemmas/TableGQuiescent.lean`) -/

/-- **every node of lineage `i` holds a key of lineage `i`**, in every reachable state, whether or not
the node is (still / already) on a list: the extension of `tableG_key_in_own_lineage` from calls to nodes -/
theorem tableG_node_key_in_own_lineage {m n : Nat} {S : State} (hr : Reachable m n S) {i : Nat} {b : BinG.State}
    (hb : S.bins[i]? = some b) {j : Nat} (hj : j < b.heap.length) :
    lineageOf m (BinK.nodeAt b.heap j).key = i := node_key_in_own_lineage hr hb hj

/-- in every reachable state the entries on the live lists of the whole table are exactly the abstract
map, no key twice across all lineages, every entry in the lineage of its key -/
theorem tableG_reachable_iter_agrees {m n : Nat} {S : State} (hr : Reachable m n S) (hm : 0 < m) :
    ((entries S).map (·.1)).Nodup ∧ (∀ k v, (k, v) ∈ entries S ↔ absMap S k = some v) ∧
    ∀ i b k v, S.bins[i]? = some b → (k, v) ∈ BinG.entries b → lineageOf m k = i :=
  ⟨entries_keys_nodup hr, mem_entries_iff_absMap hr hm, fun _ _ _ _ hb he => stored_key_in_own_lineage hr hb he⟩

/-! ## non-vacuity (`Lemmas/TableGQuiescentExamples.lean`, kernel-checked by `decide`) -/

/-- the end of the run of `Props/C01TableG.lean` (two lineages, two threads, 100 transitions; lineage 0
transferred by a list split, lineage 1 by a tree-bin split into two fresh `TreeBin`s): reachable,
quiescent, the iterator yields the keys 0, 1, 5 (lineage 0) and 3 (lineage 1) — exactly the abstract map
on the keys `0 … 5` —, and, as the theorems say, iteration = lookup for EVERY key, no key twice -/
example : ∃ S : State, Reachable 2 2 S ∧ quiescent S ∧
    entries S = [(0, (30, 300)), (1, (10, 100)), (5, (50, 500)), (3, (41, 401))] ∧
    S.bins.map BinG.liveCells = [[.list 1, .list 2], [.tree 1, .tree 2]] ∧
    (List.range 6).map (absMap S) = [some (30, 300), some (10, 100), none, some (41, 401), none, some (50, 500)] ∧
    (∀ k v, (k, v) ∈ entries S ↔ absMap S k = some v) ∧ ((entries S).map (·.1)).Nodup := by
  obtain ⟨S, hr, hq, he, hl, ha⟩ := example_end
  exact ⟨S, hr, hq, he, hl, ha, tableG_quiescent_iter_agrees hr hq (by decide), tableG_quiescent_keys_distinct hr hq⟩

/-- the middle of that run (clock 49, quiescent too): lineage 0 is forwarded and committed, lineage 1 has
not been touched — the iterator walks the two cells of the next table in lineage 0 and the old cell (a
`TreeBin`) in lineage 1 -/
example : ∃ S : State, Reachable 2 2 S ∧ quiescent S ∧
    entries S = [(0, (30, 300)), (1, (10, 100)), (2, (20, 200)), (3, (40, 400))] ∧
    S.bins.map BinG.liveCells = [[.list 1, .list 2], [.tree 0]] ∧
    shape S = [(.moved, .list 1, .list 2, .new, true, 49), (.tree 0, .empty, .empty, .old, false, 49)] :=
  example_mid

end Flurry.Proto.TableG
