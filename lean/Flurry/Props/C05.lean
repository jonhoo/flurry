import Flurry.Lemmas.SeqOps
/-! # C05 — well formed at quiescence; iteration, lookup and `len` agree

`WF m` (`Flurry/Seq/Inv.lean`) is "well formed at quiescence": the table length is a power of two
`≤ 2^30`; every node sits in the bin its hash selects and carries the hash of its key; no key
occurs twice; tree bins are red-black trees holding exactly their traversal list; the count is the
number of entries; the threshold is three quarters of the length and not yet reached (unless the
table is at its maximum); no resize is in progress. `entries m` is the iteration order of
`NodeIter` on a quiescent table. The lemmas are in `Flurry/Lemmas/SeqOps*.lean`. -/
namespace Flurry.C05
open Flurry Flurry.Gen Flurry.Seq

/-- **iteration, lookup and `len` agree** on a `Good` state: no key is iterated twice; a node is
iterated iff a lookup of its key finds that node; `len` is the number of iterated entries;
`is_empty` says whether there is none. -/
theorem iter_agrees (m : Map) (hg : Good m) :
    ((entries m).map (·.key)).Nodup ∧
    (∀ nd, nd ∈ entries m ↔ get nd.key m = some nd) ∧
    len m = (entries m).length ∧
    (len m == 0) = (entries m).isEmpty :=
  ⟨entries_keys_nodup_of_good hg, fun _ => mem_entries_iff hg, hg.wf.len_eq,
    isEmpty_eq hg⟩

/-- the same towards the abstract map: the iterated keys are exactly the keys present, each with
the stored key instance and value -/
theorem iter_agrees_abs (m : Map) (hg : Good m) :
    (∀ k, (absMap m k).isSome = true ↔ k ∈ (entries m).map (·.key)) ∧
    (∀ nd ∈ entries m, absMap m nd.key = some (nd.ki, nd.val, nd.vi)) ∧
    len m = ((entries m).map (·.key)).length :=
  ⟨absMap_isSome_iff hg, fun _ h => absMap_of_mem_entries hg h, len_eq_keys_length hg⟩

/-- **every reachable state is well formed**: for every hash function, requested capacity and
operation list — whatever the callbacks do, panics included. -/
theorem wf_reachable (hash : Nat → Nat) (c : Nat) (ops : List Op) :
    WF (run (withCapacity hash c) ops).1 :=
  (run_good (good_withCapacity hash c) ops).wf

/-- every state reachable from `HashMap::new()` is well formed -/
theorem wf_reachable_new (hash : Nat → Nat) (ops : List Op) :
    WF (run { hash := hash } ops).1 :=
  (run_good (new_wf_initOk hash) ops).wf

/-- every state reachable from `from_iter` / `clone` is well formed -/
theorem wf_reachable_collect (hash : Nat → Nat) (hint : Nat) (items : List (Nat × Nat × Nat × Nat))
    (ops : List Op) : WF (run (collect hash hint items) ops).1 :=
  (run_good (collect_good hash hint items) ops).wf

theorem wf_reachable_clone (m : Map) (ops : List Op) : WF (run (clone m) ops).1 :=
  (run_good clone_good ops).wf

/-- what `WF` says once the table exists, spelled out -/
theorem wf_unfold (m : Map) (t : Table) (hw : WF m) (ht : m.table = some t) :
    (∃ k, t.length = 2 ^ k) ∧ t.length ≤ MAXIMUM_CAPACITY ∧
    (∀ i nd, nd ∈ (tableBin t i).nodes → nd.hash = m.hash nd.key ∧ bini nd.hash t.length = i) ∧
    ((entries m).map (·.key)).Nodup ∧
    m.count = (entries m).length ∧
    m.sizeCtl = loadFactor t.length ∧
    (m.count < m.sizeCtl ∨ t.length = MAXIMUM_CAPACITY) := by
  obtain ⟨htw, hc, hs, hb⟩ := (wf_some_iff ht).1 hw
  exact ⟨htw.1, htw.2.1, fun i nd h => htw.nodeOk h, entries_keys_nodup ht htw, hc, hs, hb⟩

example : Good ex2 := ex2_good
example : (entries ex2).map (·.key) = [1, 2] ∧ len ex2 = 2 := by decide +kernel
example : WF (run ex0 [.ins 1 7 10 100, .cip 1 (fun _ _ _ => .panic), .rm 2]).1 := by
  rw [← withCapacity_id_4]; exact wf_reachable _ 4 _

end Flurry.C05
