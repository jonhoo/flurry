import Flurry.Lemmas.BinNRInv
/-! # C03 / C04 on the concrete heap: `Proto/BinNR` = `Proto/BinN` (list-bin lineage through any number of
resizes) + reclamation (retire lists, guards, `free`)

For every reachable state of `Proto/BinNR` (any number of threads, every interleaving, any number of resizes,
`retire` at any time between the unlink store and the response, `free` as early as the guards allow):

* `unlink_before_retire` / `retire_only_unreachable`: the nodes a step hands to `retire` (the node a remover
  unlinked; the copied prefix of a transferred list) were made unreachable by that very step, and a node that
  is not `live` is in no chain of any cell and no node of a chain points to it — in every later state;
* `holders_are_awaited`: a thread that holds a retired node in its program counter is in its `waitFor`;
* `no_touch_after_free`: no step reads or writes through a freed node (C03);
* `free_only_when_unheld`, `freed_was_retired`, `obligations_unlinked` (C04; the rest: `Props/C04BinNR.lean`). -/
namespace Flurry.Props.C03BinNR
open Flurry.Lin
open Flurry.Proto.BinX (nodeAt)
open Flurry.Proto.BinN (Local Inv StepK)
open Flurry.Proto.BinNR

/-- the shared memory, the readers and the writers of a `BinNR` run are literally a `BinN` run: all theorems
about `BinN.Reachable` states (linearizability, `chains_wellformed`, …) apply to `s.n` -/
theorem projects_to_BinN {nt : Nat} {s : State} (hr : Reachable nt s) : Flurry.Proto.BinN.Reachable nt s.n :=
  reachable_n hr

/-- **unlink before retire** (step level): whatever a `BinN` step of thread `t` hands to `retire` was in the chain
of a cell before the step and is in no chain of any cell after it; and `t` is under a guard -/
theorem unlink_before_retire {nt : Nat} {s : State} (hr : Reachable nt s) {t : Nat} {inv : Option (Nat × KOp)}
    {rz : Bool} {pick : Nat} {n' : Flurry.Proto.BinN.State}
    (hs : Flurry.Proto.BinN.step s.n t inv rz pick = some n') :
    ∀ i ∈ retiredBy false s.n t, reach s.n i = true ∧ reach n' i = false ∧ guarded s.n t = true := by
  obtain ⟨G, R⟩ := reachable_rinv hr
  intro i hi
  cases hl : s.n.threads[t]? with
  | none => unfold retiredBy at hi; rw [hl] at hi; cases hi
  | some l =>
    obtain ⟨h0, h1, h2⟩ := retiredBy_dead R.inv hl hs i hi
    exact ⟨(reach_iff _ _).2 h0, reach_false_of_not h1, h2⟩

/-- **a node that is not `live` (retired or freed) is unreachable**: it is in no chain of any cell, and no node
that is in a chain points to it. As this holds in every reachable state, it stays unreachable for ever. -/
theorem retire_only_unreachable {nt : Nat} {s : State} (hr : Reachable nt s) {i : Nat} (hl : s.life i ≠ .live) :
    reach s.n i = false ∧ ∀ j, reach s.n j = true → (nodeAt s.n.heap j).next ≠ some i := by
  obtain ⟨G, R⟩ := reachable_rinv hr
  have hd : ¬ Live0 s.n i := by
    intro h0
    cases hu : s.unl i with
    | none => exact hl (R.j4n i hu)
    | some u => exact (R.j1 i u hu).1 h0.live
  refine ⟨reach_false_of_not hd, ?_⟩
  · intro j hj hn
    exact hd (((reach_iff _ _).1 hj).succ R.inv.heap hn)

/-- **every holder of a retired node is awaited**: if thread `t` has node `i` in its program counter and `i` has
been retired, then `t` is in `i`'s `waitFor` — `t` has been under its current guard since before the retirement -/
theorem holders_are_awaited {nt : Nat} {s : State} (hr : Reachable nt s) {t i : Nat} {l : Local} {w : List Nat}
    (hl : s.n.threads[t]? = some l) (hi : i ∈ holds l.pc) (hw : s.life i = .retired w) : t ∈ w := by
  obtain ⟨G, R⟩ := reachable_rinv hr
  obtain ⟨u, hu, hsub⟩ := R.j4r i w hw
  rcases R.j2 t l i hl hi with h0 | ⟨u', hu', ht⟩
  · exact absurd h0.live (R.j1 i u hu).1
  · rw [hu] at hu'; cases hu'; exact hsub ht

/-- nobody holds a freed node -/
theorem holders_not_freed {nt : Nat} {s : State} (hr : Reachable nt s) {t i : Nat} {l : Local}
    (hl : s.n.threads[t]? = some l) (hi : i ∈ holds l.pc) : s.life i ≠ .freed := by
  obtain ⟨G, R⟩ := reachable_rinv hr
  intro hf
  have hu := R.j4f i hf
  rcases R.j2 t l i hl hi with h0 | ⟨u', hu', ht⟩
  · exact absurd h0.live (R.j1 i [] hu).1
  · rw [hu] at hu'; cases hu'; cases ht

/-- **C03: no step ever touches a freed node** — whatever thread `t` reads or writes through in its next step
(`next` / `key` / `val` / lock word of a node; the split: every node of the old list) has not been freed -/
theorem no_touch_after_free {nt : Nat} {s : State} (hr : Reachable nt s) {t i : Nat} (hi : i ∈ touches s.n t) :
    s.life i ≠ .freed := by
  obtain ⟨G, R⟩ := reachable_rinv hr
  rcases touches_sub R.inv hi with ⟨l, hl, hh⟩ | h0
  · exact holders_not_freed hr hl hh
  · intro hf
    exact absurd h0.live (R.j1 i [] (R.j4f i hf)).1

/-- a retired node that a step touches awaits the toucher: the node a reader returns its value from is not freed
while the reader's guard lasts (values are inline in the nodes of `Proto/BinN`) -/
theorem touched_retired_awaits {nt : Nat} {s : State} (hr : Reachable nt s) {t i : Nat} {w : List Nat}
    (hi : i ∈ touches s.n t) (hw : s.life i = .retired w) : t ∈ w := by
  obtain ⟨G, R⟩ := reachable_rinv hr
  rcases touches_sub R.inv hi with ⟨l, hl, hh⟩ | h0
  · exact holders_are_awaited hr hl hh hw
  · obtain ⟨u, hu, -⟩ := R.j4r i w hw
    exact absurd h0.live (R.j1 i u hu).1

/-- **C04 (safety half): `free` happens only when nobody can still observe the node** — it was retired, every
thread awaited has left its guard (`waitFor = []`, the guard of the transition), and no thread holds it -/
theorem free_only_when_unheld {nt : Nat} {s s' : State} (hr : Reachable nt s) {t' i : Nat}
    (hs : step s t' (.free i) = some s') :
    s.life i = .retired [] ∧ s'.life i = .freed ∧ reach s.n i = false ∧
    ∀ (t : Nat) (l : Local), s.n.threads[t]? = some l → i ∉ holds l.pc := by
  have hlife : s.life i = .retired [] ∧ s'.life i = .freed := by
    obtain ⟨hc, rfl⟩ := free_some hs
    exact ⟨hc, by simp⟩
  refine ⟨hlife.1, hlife.2, (retire_only_unreachable hr (by rw [hlife.1]; simp)).1, ?_⟩
  intro t l hl hh
  cases holders_are_awaited hr hl hh hlife.1

/-- a freed node was unlinked, every thread that was under a guard when it was unlinked has left that guard
(`unl i = some []`), and it is in no chain -/
theorem freed_was_retired {nt : Nat} {s : State} (hr : Reachable nt s) {i : Nat} (hf : s.life i = .freed) :
    s.unl i = some [] ∧ reach s.n i = false := by
  obtain ⟨G, R⟩ := reachable_rinv hr
  exact ⟨R.j4f i hf, (retire_only_unreachable hr (by rw [hf]; simp)).1⟩

/-- every retire obligation is a node that is in no chain, and belongs to a thread under a guard -/
theorem obligations_unlinked {nt : Nat} {s : State} (hr : Reachable nt s) {t i : Nat} (hi : i ∈ s.pend t) :
    reach s.n i = false ∧ guarded s.n t = true := by
  obtain ⟨G, R⟩ := reachable_rinv hr
  obtain ⟨h1, h2⟩ := R.j7 t i hi
  refine ⟨?_, h2⟩
  cases hu : s.unl i with
  | none => rw [hu] at h1; cases h1
  | some u => exact reach_false_of_not (R.not_live0_of_unl hu)

end Flurry.Props.C03BinNR

#print axioms Flurry.Props.C03BinNR.unlink_before_retire
#print axioms Flurry.Props.C03BinNR.retire_only_unreachable
#print axioms Flurry.Props.C03BinNR.holders_are_awaited
#print axioms Flurry.Props.C03BinNR.no_touch_after_free
#print axioms Flurry.Props.C03BinNR.touched_retired_awaits
#print axioms Flurry.Props.C03BinNR.free_only_when_unheld
#print axioms Flurry.Props.C03BinNR.freed_was_retired
#print axioms Flurry.Props.C03BinNR.obligations_unlinked
#print axioms Flurry.Props.C03BinNR.projects_to_BinN
