import Flurry.SigDefs
import Flurry.Gen.Api
/-! # C16 — borrowed results cannot outlive the guard or the map (compile time)

`Flurry.Gen.apiFns` / `apiFields` are regenerated from /repo/src on every run: every public
function, trait method and associated type of `HashMap`, `HashSet`, `HashMapRef`, `HashSetRef`,
`Iter`, `Keys`, `Values` with the lifetimes of its receiver, guard parameters and result
(elision resolved), and every lifetime-carrying struct field.

The borrow checker itself is not modelled beyond the rule "a value whose type mentions lifetime
`'a` keeps every argument borrowed at `'a` borrowed"; that mini-model is validated against rustc
on the generated corpus of programs (see `checklib/rustcsuite.py`). -/
namespace Flurry.C16
open Flurry.Sig Flurry.Gen

def isCollection (f : ApiFn) : Bool := f.ty == "HashMap" || f.ty == "HashSet"
def isWrapper (f : ApiFn) : Bool := f.ty == "HashMapRef" || f.ty == "HashSetRef"
def isIter (f : ApiFn) : Bool := f.ty == "Iter" || f.ty == "Keys" || f.ty == "Values"

/-- the result of `f` is tied to `&self`: every lifetime in the return type is the receiver's -/
def tiedToSelf (f : ApiFn) : Bool :=
  match f.selfLt with
  | some l => f.retLts.all (· == l)
  | none => false

/-- … and to every guard parameter -/
def tiedToGuards (f : ApiFn) : Bool := f.guardLts.all fun g => f.retLts.all (· == g)

/-- rows that hand out a borrow: a reference, an iterator, a wrapper or an error payload -/
def borrowing (f : ApiFn) : Bool := f.retBorrows && f.selfKind != "none" && f.selfKind != "assoc"

/-- **table theorem (guard-passing API)**: every method of `HashMap`/`HashSet` that returns a
borrow ties it to `&self` *and* to the guard it was given. -/
theorem results_tied_collections :
    (apiFns.filter fun f => isCollection f && borrowing f).all
      (fun f => tiedToSelf f && tiedToGuards f && !f.retLts.isEmpty) = true := by decide +kernel

/-- **table theorem (wrappers)**: every method of `HashMapRef`/`HashSetRef` that returns a borrow
ties it to the wrapper … -/
theorem results_tied_wrappers :
    (apiFns.filter fun f => isWrapper f && borrowing f && f.fn != "clone").all
      (fun f => tiedToSelf f && !f.retLts.isEmpty) = true := by decide +kernel

/-- … and the wrapper borrows the map and (when made by `with_guard`) the guard for its own
lifetime parameter: every field of the wrapper and iterator structs carries exactly the
struct's lifetime. -/
theorem fields_tied :
    (apiFields.filter fun fl => !fl.lts.isEmpty).all
      (fun fl => fl.lts.all (fun l => fl.ltParams.contains l)) = true := by decide +kernel

/-- the items an iterator yields live exactly as long as the iterator type's lifetime parameter -/
theorem items_tied :
    (apiFns.filter fun f => isIter f && f.selfKind == "assoc").all
      (fun f => tiedToSelf f && !f.retLts.isEmpty) = true := by decide +kernel

/-- no `'static` requirement on keys, values or lookup keys anywhere in the public API -/
theorem no_static_bound :
    apiFns.all (fun f => f.bounds.all (fun b => b.2 != "'static")) = true := by decide +kernel

inductive Origin where
  | map | guard
deriving DecidableEq, Repr

/-- what the result of `f` keeps borrowed, by the lifetime rule -/
def borrowsOf (f : ApiFn) : List Origin :=
  (if tiedToSelf f && !f.retLts.isEmpty then [.map] else []) ++
  (if tiedToGuards f && !f.retLts.isEmpty && !f.guardLts.isEmpty then [.guard] else [])

/-- `let r = f(..); release x; use r` is rejected iff `x` is still borrowed by `r` -/
def rejected (f : ApiFn) (x : Origin) : Bool := (borrowsOf f).contains x

/-- **lemma**: for every borrowing method of the guard-passing API, dropping (or refreshing) the
guard, or dropping the map, before the last use of the result is rejected. -/
theorem use_after_release_rejected (f : ApiFn)
    (hf : f ∈ apiFns.filter fun f => isCollection f && borrowing f && !f.guardLts.isEmpty) :
    rejected f .map = true ∧ rejected f .guard = true := by
  simp only [List.mem_filter, Bool.and_eq_true] at hf
  obtain ⟨hmem, ⟨hc, hb⟩, hg⟩ := hf
  have := List.all_eq_true.1 results_tied_collections f (by simp [hmem, hc, hb])
  simp only [Bool.and_eq_true] at this
  simp [rejected, borrowsOf, this, hg]

-- non-vacuity
example : 15 ≤ (apiFns.filter fun f => isCollection f && borrowing f).length := by decide +kernel
example : (apiFns.filter fun f => isCollection f && borrowing f && !f.guardLts.isEmpty).any
    (fun f => f.fn == "get") = true := by decide +kernel

end Flurry.C16
