import Flurry.Gen.Atomics
import Flurry.Proto.BinW
/-! # C01 / C03 / C08 — the step order of the bin models is the order of the source

The bin models (`Proto/BinW`, `BinT`, `BinX`, `BinXC`) are written by hand. Their load-bearing
steps are

* `wLock → wCheck → write`: after taking a bin lock a writer re-reads the bin cell and compares it
  with the bin it locked before it stores anything (`noCheck_refutes`: without the re-check the
  list-bin model is not linearizable), and
* `cTable → cWait → cCell` in `clear`: after helping a resize, `clear` waits until the resize has
  been committed before it continues in the new table (`noWait_not_linearizable`,
  `noWait_retires_reachable`: finding F7).

`Gen.binLockOrder` and `Gen.clearMovedOrder` are regenerated from /repo/src/map.rs on every run
(`extract/src/atomics.rs`): per function that takes a bin lock, the source order of `lock`
(`.lock.lock()`), `binload` (a load of the bin cell), `recheck` (an `if` comparing that cell with
`!=`) and `write` (runs of stores / swaps / CASes / retirements). The theorems below say that the
source has the models' order at **every** bin-lock site. -/
namespace Flurry.C01Source
open Flurry.Gen

/-- scanning one function: `need = true` after a `lock` until the next `recheck`; a `write` while
`need` is a store made under a lock that was not validated -/
def lockedOk : Bool → List String → Bool
  | _, [] => true
  | need, e :: es =>
    if e == "lock" then lockedOk true es
    else if e == "recheck" then lockedOk false es
    else if e == "write" then (!need) && lockedOk need es
    else lockedOk need es

/-- after a `lock`, the very next events are `binload`, `recheck` -/
def recheckFollows : List String → Bool
  | [] => true
  | e :: es => (if e == "lock" then es.take 2 == ["binload", "recheck"] else true) && recheckFollows es

/-- **every bin lock taken in map.rs is followed by a re-read of the bin cell and a comparison
before anything is stored under it** -/
theorem every_bin_lock_is_rechecked :
    binLockOrder.all (fun fo => lockedOk false fo.2 && recheckFollows fo.2) = true := by decide +kernel

/-- not vacuous: the eleven lock sites of the six functions the models cover -/
theorem lock_sites_present :
    binLockOrder.map (fun fo => (fo.1, (fo.2.filter (· == "lock")).length)) =
      [("transfer", 2), ("put", 2), ("replace_node", 2), ("compute_if_present", 2), ("clear", 2), ("treeify_bin", 1)] := by
  decide +kernel

/-- the model's writer has the same order: in `Proto/BinW` the pc after `wLock` is `wCheck`, and
only `wCheck` leads to the walk that ends in a store (`stepG true`) -/
example : (Flurry.Proto.BinW.stepG true
    { heap := [⟨1, (5, 0), none, none⟩], head := some 0, threads := [{ pc := .wLock 0, call := some ⟨1, .rm, 0⟩ }] } 0 none).map
      (fun s => (s.threads.map (·.pc))) = some [.wCheck 0] := by decide +kernel

/-- **`clear` waits for the commit of a resize it helped before it restarts in the new table**
(the `cWait` step of `Proto/BinXC`; without it: `noWait_not_linearizable`, F7) -/
theorem clear_waits_for_commit : clearMovedOrder = ["help", "wait-commit", "restart"] := rfl

end Flurry.C01Source
