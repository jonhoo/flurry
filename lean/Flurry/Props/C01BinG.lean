import Flurry.Proto.BinG
import Flurry.Lemmas.BinGLin
import Flurry.Lemmas.BinGExamples
/-! # C01 / C05 / C06 / C07 / C08 / C10 (bin level): one bin lineage through kind changes AND a resize is
linearizable under every interleaving

`Proto/BinG`: the union of `Proto/BinK` (a cell that is empty / a list bin / a tree bin, with treeify
and untreeify) and `Proto/BinX` (the smallest table that can grow: an old table with one cell, a next
table with two cells, the forwarding marker): lock-free readers, iterators and locked writers of both
bin forms in the cell of their key in the table they loaded; treeify / untreeify in any cell, before or
after the resize; `transfer` of the old cell whatever it holds — empty (CAS of the marker), a list bin
(split with the last run re-used), a tree bin (per side: nothing, a plain list of fresh nodes, the OLD
`TreeBin` object re-used when the other side is empty, or a fresh `TreeBin`) — then store low, store
high, store the marker, unlock, publish `cur := new`. Threads that loaded the old cell before it was
forwarded (or a structure before it was replaced) go on with what they loaded: readers finish there,
writers notice at their re-check and start over. One transition = one shared-memory access; any
number of threads; every interleaving. The linearization points are listed in `Lemmas/BinGLin.lean`. -/
namespace Flurry.Proto.BinG
open Flurry.Lin

/-- **Structural invariant** (`Lemmas/BinGInv.lean`: well-formed chains in all three cells, distinct
keys, sides of the new cells, lock words / mutexes / read-write lock bits match the program counters,
validated holders see their structure in their cell, tree = list for every `TreeBin` in a cell whose
write lock is free, the planned / stored new cells of a transfer hold exactly the two sides of the old
cell, …) in every reachable state. -/
theorem binG_inv {n : Nat} {s : State} (hr : Reachable n s) : Inv s := reachable_inv hr

/-- a transfer does not change what the bin contains: the three stores (low cell, high cell,
forwarding marker), the CAS of the marker into an empty old cell and the commit `cur := new` leave
the abstract state of every key as it was -/
theorem transfer_abs_invariant {n : Nat} {s s' : State} (hr : Reachable n s) {t : Nat}
    {inv : Option (Nat × KOp)} {lo : Bool} {mt : Option Nat} {rz sm sm2 : Bool} {l : Local}
    (hl : s.threads[t]? = some l)
    (hpc : (∃ unl lo hi, l.pc = .xStoreLow unl lo hi) ∨ (∃ unl hi, l.pc = .xStoreHigh unl hi) ∨
      (∃ unl, l.pc = .xStoreMoved unl) ∨ l.pc = .xCasMoved ∨ l.pc = .xCommit)
    (hs : step s t inv lo mt rz sm sm2 = some s') (k : Nat) : absOf s' k = absOf s k := by
  refine nocall_abs_invariant hr hl (((reachable_inv hr).thr.callOK t l hl).2 ?_) hs k
  rcases hpc with ⟨_, _, _, h⟩ | ⟨_, _, h⟩ | ⟨_, h⟩ | h | h <;> rw [h] <;> rfl

/-- **C01, bin level, across kind changes and the resize.** The per-key history (completed calls
plus writers past their linearization point) is linearizable and ends in the abstract state of the
live structure of the key. -/
theorem binG_linearizable {n : Nat} {s : State} (hr : Reachable n s) (k : Nat) :
    Lin.Linearizable (callsOnExt s k) none (absOf s k) := binG_linearizable_ext hr k

/-- in a quiescent state the completed calls alone are linearizable -/
theorem binG_linearizable_quiescent {n : Nat} {s : State} (hr : Reachable n s) (hq : quiescent s) (k : Nat) :
    Lin.Linearizable (callsOn s k) none (absOf s k) := binG_linearizable_quiescent_aux hr hq k

/-- C06 at quiescence: a `TreeBin` that is in a cell is unlocked (mutex and write lock free) and its
tree holds exactly the nodes of its list -/
theorem quiescent_tree_eq_list {n : Nat} {s : State} (hr : Reachable n s) (hq : quiescent s) {id : Cid} {b : Nat}
    (hc : cellAt s id = .tree b) :
    (Flurry.Proto.BinK.binAt s.tbins b).mutex = none ∧ (Flurry.Proto.BinK.binAt s.tbins b).writer = false ∧
    ∀ i, i < s.heap.length → ((Flurry.Proto.BinK.nodeAt s.heap i).owner = some b ∧
      (Flurry.Proto.BinK.nodeAt s.heap i).inTree = true ↔ i ∈ chainOfBin s b) :=
  quiescent_tree_eq_list_aux hr hq hc

/-- the three kernel-checked runs of `Lemmas/BinGExamples.lean` (the re-used `TreeBin` with a writer
queued on its mutex across the transfer; the lock-protocol reader inside the old `TreeBin` across a
transfer that splits it; the slow insert that starts over after the transfer) are reachable quiescent
states, and — as `binG_linearizable_quiescent` says they must be — linearizable for EVERY key -/
theorem example_runs_linearizable :
    ∀ sc ∈ [schedReuse, schedStale, schedLostLong], ∃ s, run step (init 4) sc = some s ∧ Reachable 4 s ∧
      quiescent s ∧ ∀ k, Lin.Linearizable (callsOn s k) none (absOf s k) := by
  intro sc hsc
  obtain ⟨s, hrun, hreach, hq, -⟩ := runs_linearizable sc hsc
  exact ⟨s, hrun, hreach, hq, fun k => binG_linearizable_quiescent hreach hq k⟩

/-- **the re-checks of the cell are load-bearing across a tree-bin transfer**: if writers, treeify and
transfer trust the lock they took (`stepNoCheck`), some reachable quiescent state has a history that is
not linearizable (`Lemmas/BinGExamples.lean`: a completed insert is lost) -/
theorem noCheck_refutes :
    ∃ (n : Nat) (s : State) (k : Nat), ReachableNoCheck n s ∧ quiescent s ∧
      ¬ Lin.Linearizable (callsOn s k) none (absOf s k) :=
  noCheck_refutes_aux

end Flurry.Proto.BinG
