import Flurry.Lemmas.LinCounter
import Flurry.Props.C08
import Flurry.Props.C01BinG
import Flurry.Lemmas.BinGExamples
import Flurry.Props.C01TableK
import Flurry.Props.C01TableG
/-! # C08 on the concurrent models, from the EMPTY map: concurrent increments of one counter are
never lost

`C08.counter_no_lost_update` is about a history that starts with the key present. The concurrent
models start empty, so the counter is created by one `insert` of the history itself. The general
statement (`Lin.counter_from_insert`, `Lemmas/LinCounter.lean`) is about an ARBITRARY linearizable
history from the absent key: if it consists of exactly one `ins v vi` and otherwise only
`compute_if_present(|x| x + 1)` calls that all reported a value (they found the key), the key ends with
payload `v +` the number of increments, whatever the interleaving was — none is lost, none is applied
twice. Composed with the linearizability theorems of the models (every interleaving of any number of
threads; `Proto/BinG`: one bin lineage through list<->tree conversions and a resize; `Proto/TableK`: a
whole table of fixed length; `Proto/TableG`: a whole table that is resized once) this is a statement
about the final abstract content of the live structure at quiescence. -/
namespace Flurry.C08
open Flurry.Lin

/-- **no lost update, from the empty map** (any linearizable per-key history) -/
theorem counter_from_insert {h : History} {fin : KSt} {v vi : Nat}
    (hl : Linearizable h none fin)
    (hshape : ∃ i, i < h.length ∧ (h[i]?.map (·.op)) = some (.ins v vi) ∧
      ∀ j, j < h.length → j ≠ i → ∃ c nvi, h[j]? = some c ∧ c.op = .cipInc nvi ∧ c.res ≠ .none) :
    ∃ vi', fin = some (v + (h.length - 1), vi') := Lin.counter_from_insert hl hshape

/-- nothing assumed about results: the payload is `v +` the number of increments linearized after the
insert (at most all of them) -/
theorem increments_counted {h : History} {fin : KSt} {v vi : Nat}
    (hl : Linearizable h none fin)
    (hshape : ∃ i, i < h.length ∧ (h[i]?.map (·.op)) = some (.ins v vi) ∧
      ∀ j, j < h.length → j ≠ i → ∃ c nvi, h[j]? = some c ∧ c.op = .cipInc nvi) :
    ∃ m vi', m ≤ h.length - 1 ∧ fin = some (v + m, vi') := Lin.increments_counted hl hshape

/-- one bin lineage (list<->tree conversions and a resize), every interleaving: at quiescence, if the
calls on key `k` were one `insert(k, v)` and otherwise increments that found the key, the live
structure holds `v +` the number of increments for `k` -/
theorem binG_counter_no_lost_update {n : Nat} {s : Proto.BinG.State}
    (hr : Proto.BinG.Reachable n s) (hq : Proto.BinG.quiescent s) (k : Nat) {v vi : Nat}
    (hshape : CounterShape (Proto.BinG.callsOn s k) v vi) :
    ∃ vi', Proto.BinG.absOf s k = some (v + ((Proto.BinG.callsOn s k).length - 1), vi') :=
  Lin.counter_of_shape (Proto.BinG.binG_linearizable_quiescent hr hq k) hshape

/-- a whole table of fixed length -/
theorem tableK_counter_no_lost_update {m n : Nat} (hm : 0 < m) {S : Proto.TableK.State}
    (hr : Proto.TableK.Reachable m n S) (hq : Proto.TableK.quiescent S) (k : Nat) {v vi : Nat}
    (hshape : CounterShape (LinMap.proj (Proto.TableK.mhist S) k) v vi) :
    ∃ vi', Proto.TableK.absMap S k =
      some (v + ((LinMap.proj (Proto.TableK.mhist S) k).length - 1), vi') :=
  Lin.counter_of_shape (Proto.TableK.tableK_key_linearizable hm hr hq k) hshape

/-- a whole table that is resized once (the increments may run before, during and after the transfer of
the counter's bin, on the old and on the new table) -/
theorem tableG_counter_no_lost_update {m n : Nat} (hm : 0 < m) {S : Proto.TableG.State}
    (hr : Proto.TableG.Reachable m n S) (hq : Proto.TableG.quiescent S) (k : Nat) {v vi : Nat}
    (hshape : CounterShape (LinMap.proj (Proto.TableG.mhist S) k) v vi) :
    ∃ vi', Proto.TableG.absMap S k =
      some (v + ((LinMap.proj (Proto.TableG.mhist S) k).length - 1), vi') :=
  Lin.counter_of_shape (Proto.TableG.tableG_key_linearizable hm hr hq k) hshape

/-! ## not vacuous -/

/-- one `insert(k, 10)` and three overlapping increments, all of which found the key -/
def exCounter : History :=
  [ ⟨0, .ins 10 1, .none, 0, 2⟩, ⟨1, .cipInc 2, .some 12 2, 1, 6⟩, ⟨2, .cipInc 3, .some 11 3, 1, 5⟩,
    ⟨3, .cipInc 4, .some 13 4, 3, 7⟩ ]

example : Linearizable exCounter none (some (13, 4)) := by decide
example : validate exCounter [0, 2, 1, 3] none (some (13, 4)) = true := by decide +kernel

/-- the shape hypothesis holds for it (insert at index 0) -/
theorem exCounter_shape : CounterShape exCounter 10 1 :=
  counterShape_of_check (i := 0) (by decide)

/-- the conclusion on the example: payload `10 + 3` -/
example : ∃ vi', (some (13, 4) : KSt) = some (10 + (exCounter.length - 1), vi') :=
  Lin.counter_from_insert (by decide : Linearizable exCounter none (some (13, 4))) exCounter_shape

/-- … and no other final payload is possible for this history -/
example : ¬ Linearizable exCounter none (some (12, 2)) := by decide
/-- a lost update (two increments reporting the same new value) is not linearizable -/
example : ¬ Linearizable
    [ ⟨0, .ins 10 1, .none, 0, 2⟩, ⟨1, .cipInc 2, .some 11 2, 1, 6⟩, ⟨2, .cipInc 3, .some 11 3, 1, 5⟩ ]
    none (some (11, 3)) := by decide
/-- an increment linearized before the insert found nothing: it is not counted (`increments_counted`),
and it is excluded by the result hypothesis of `counter_from_insert` -/
example : Linearizable
    [ ⟨0, .ins 10 1, .none, 0, 2⟩, ⟨1, .cipInc 2, .none, 1, 6⟩, ⟨2, .cipInc 3, .some 11 3, 1, 5⟩ ]
    none (some (11, 3)) := by decide +kernel

/-! ## not vacuous on the model: an executed run of `Proto/BinG` -/

/-- four threads on key 0: thread 0 inserts 10; threads 1, 2, 3 each call
`compute_if_present(0, |x| x + 1)` — thread 1 is invoked while the insert is in flight, the three
increments overlap each other (locks contended), thread 0 starts the resize while they run and transfers
the bin after them -/
def schedCounter : Proto.BinG.Sched :=
  [ {t := 0, inv := some (0, .ins 10 1)}, {t := 1, inv := some (0, .cipInc 2)}, {t := 0}, {t := 0}, {t := 0},
    {t := 2, inv := some (0, .cipInc 3)}, {t := 1}, {t := 1}, {t := 0, rz := true},
    {t := 3, inv := some (0, .cipInc 4)} ] ++
  [0, 1, 2, 3, 1, 2, 3, 1, 1, 1, 2, 2, 2, 2, 2, 3, 3, 3, 3, 3, 0, 0, 0, 0, 0, 0, 0, 0].map (fun t => {t := t})

/-- what the run recorded for key 0, and where it ended (in the new table, payload 13) -/
theorem schedCounter_run :
    (Proto.BinG.run Proto.BinG.step (Proto.BinG.init 4) schedCounter).map
      (fun s => (Proto.BinG.quiescentB s, s.cur, Proto.BinG.callsOn s 0, Proto.BinG.absOf s 0)) =
    some (true, .new,
      [ ⟨0, .ins 10 1, .none, 1, 5⟩, ⟨1, .cipInc 2, .some 11 2, 2, 20⟩, ⟨2, .cipInc 3, .some 12 3, 6, 25⟩,
        ⟨3, .cipInc 4, .some 13 4, 10, 30⟩ ], some (13, 4)) := by decide +kernel

/-- the hypotheses of `binG_counter_no_lost_update` are satisfiable by a reachable quiescent state with
three overlapping increments, and the conclusion is `10 + 3` -/
theorem binG_counter_instance : ∃ s, Proto.BinG.Reachable 4 s ∧ Proto.BinG.quiescent s ∧
    CounterShape (Proto.BinG.callsOn s 0) 10 1 ∧ (Proto.BinG.callsOn s 0).length = 4 ∧
    Proto.BinG.absOf s 0 = some (13, 4) := by
  have h := schedCounter_run
  cases hr : Proto.BinG.run Proto.BinG.step (Proto.BinG.init 4) schedCounter with
  | none => rw [hr] at h; cases h
  | some s =>
    rw [hr] at h
    simp only [Option.map_some, Option.some.injEq, Prod.mk.injEq] at h
    obtain ⟨hq, _, hc, ha⟩ := h
    refine ⟨s, Proto.BinG.run_reachable _ .init hr, (Proto.BinG.quiescentB_iff s).1 hq, ?_, ?_, ha⟩
    · rw [hc]; exact counterShape_of_check (i := 0) (by decide)
    · rw [hc]; rfl

end Flurry.C08
