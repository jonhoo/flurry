import Flurry.Lemmas.BinXBridge
/-! # C01 (bin level): a list bin stays linearizable while its table is resized

`Proto/BinX.lean` models one list bin of a one-bin table that is resized to a two-bin table while any
number of threads perform `get`, `contains_key`, `insert`, `try_insert`, `remove`,
`compute_if_present` (one shared-memory access per transition): readers and writers follow the
forwarding marker, the transferring thread locks the head, re-checks, splits the list under the lock
(re-using the last run, copying the nodes before it), stores the two new lists, THEN the forwarding
marker, unlocks and finally publishes the new table.

For every reachable state and every key, the history of that key — the completed calls, plus the calls
of writers that have done their store and only have to unlock — is linearizable from "absent" to the
key's current abstract state (`binx_linearizable`; quiescent form `binx_linearizable_quiescent`).

Linearization points: lock-holding writers at their single store, the lock-free insert at its
successful CAS, operations that see an empty cell at that load, readers *in hindsight*
(`Good`, `Good.step`, and — across the forwarding — `Good.moved` in `Lemmas/BinXGhost.lean`).
The transfer has no abstract effect (`transfer_abs_invariant`).

The checks audit this file under C01 only; `transfer_abs_invariant` and `resize_facts` are the one-resize case of what
`Props/C01BinN` states for C10 through any number of resizes. -/
namespace Flurry.Proto.BinX
open Flurry.Lin

theorem reachable_ginv {n : Nat} {s : State} (hr : Reachable n s) (k : Nat) :
    ∃ G A pt, Inv s G ∧ GInv k s G A pt := reachable_ginv_aux hr k

/-- from the ghost invariant to linearizability (the trace lemma), for any part of the history that
contains all its writer calls -/
theorem GInv.linearizable_part {k : Nat} {s : State} {G : Ghost} {A : Nat → KSt} {pt : Nat → Nat}
    (g : GInv k s G A pt) (I : Inv s G) {h : History} (hsub : ∀ c ∈ h, c ∈ callsOnExt s k)
    (hpw : h.Pairwise (fun c d => c.inv ≠ d.inv))
    (hw : ∀ c ∈ callsOnExt s k, isRead c.op = false → c ∈ h) : Linearizable h none (absOf s k) := by
  rw [callsOnExt_eq] at hsub hw
  exact (g.trace.sub hsub hw).linearizable (fun c hc => I.thr.gen.resp_le (hsub c hc)) hpw

theorem GInv.linearizable {k : Nat} {s : State} {G : Ghost} {A : Nat → KSt} {pt : Nat → Nat}
    (g : GInv k s G A pt) (I : Inv s G) : Linearizable (callsOnExt s k) none (absOf s k) :=
  g.linearizable_part I (fun _ h => h) (callsOnExt_eq s k ▸ I.thr.gen.pairwise k) (fun _ h _ => h)

def writerCallsOn (s : State) (k : Nat) : History := (callsOnExt s k).filter (fun c => !isRead c.op)

theorem GInv.linearizable_writers {k : Nat} {s : State} {G : Ghost} {A : Nat → KSt} {pt : Nat → Nat}
    (g : GInv k s G A pt) (I : Inv s G) : Linearizable (writerCallsOn s k) none (absOf s k) :=
  g.linearizable_part I (fun _ h => (List.mem_filter.1 h).1)
    (List.Pairwise.filter _ (callsOnExt_eq s k ▸ I.thr.gen.pairwise k))
    (fun _ h hwr => List.mem_filter.2 ⟨h, by rw [hwr]; rfl⟩)

/-- **writers-only linearizability**: the sub-history of the writer calls on `k` is linearizable from
"absent" to the current abstract state (linearization points = the store / CAS / empty-cell steps);
in particular no step of the transfer changes the abstract state of any key. -/
theorem binx_linearizable_writers {n : Nat} {s : State} (hr : Reachable n s) (k : Nat) :
    Lin.Linearizable (writerCallsOn s k) none (absOf s k) := by
  obtain ⟨G, A, pt, I, g⟩ := reachable_ginv hr k
  exact g.linearizable_writers I

/-- **C01, bin level, with a concurrent resize.** Under every interleaving of any number of
threads and one transfer, the per-key history of the bin (completed calls plus
stored-but-not-yet-unlocked writers) is linearizable and ends in the abstract content of the key. -/
theorem binx_linearizable {n : Nat} {s : State} (hr : Reachable n s) (k : Nat) :
    Lin.Linearizable (callsOnExt s k) none (absOf s k) := by
  obtain ⟨G, A, pt, I, g⟩ := reachable_ginv hr k
  exact g.linearizable I

theorem binx_linearizable_quiescent {n : Nat} {s : State} (hr : Reachable n s) (hq : quiescent s) (k : Nat) :
    Lin.Linearizable (callsOn s k) none (absOf s k) := by
  have := binx_linearizable hr k
  rw [callsOnExt_quiescent hq] at this
  exact this

/-! ## structural facts about reachable states -/

/-- **mutual exclusion**: at most one thread holds a validated lock on a cell (a writer between its
re-check and its store, the transferring thread from `tBuild` to the store of the forwarding marker) -/
theorem validated_mutex {n : Nat} {s : State} (hr : Reachable n s) {t t1 : Nat} {l l1 : Local} {id : CellId}
    {h h1 : Nat} (hl : s.threads[t]? = some l) (hl1 : s.threads[t1]? = some l1)
    (hv : vcell l = some (id, h)) (hv1 : vcell l1 = some (id, h1)) : t = t1 := by
  obtain ⟨g, I⟩ := reachable_inv hr
  exact I.mutex hl hl1 hv hv1

/-- a validated lock holder still sees its node as the head of its cell, and holds its mutex -/
theorem validated_head {n : Nat} {s : State} (hr : Reachable n s) {t : Nat} {l : Local} {id : CellId} {h : Nat}
    (hl : s.threads[t]? = some l) (hv : vcell l = some (id, h)) :
    getCell s id = .node h ∧ h < s.heap.length ∧ (nodeAt s.heap h).lock = some t := by
  obtain ⟨g, I⟩ := reachable_inv hr
  obtain ⟨h1, h2⟩ := I.lock.validated t l id h hl hv
  exact ⟨h1, I.lock.lockHeld t l h hl h2⟩

/-- **exactly one resize**: facts about the resizing thread, the forwarding marker and the new cells -/
theorem resize_facts {n : Nat} {s : State} (hr : Reachable n s) :
    -- at most one thread transfers, and only after the resize has been started
    (∀ (t t' : Nat) (l l' : Local), s.threads[t]? = some l → s.threads[t']? = some l' → isT l.pc → isT l'.pc → t = t') ∧
    (∀ (t : Nat) (l : Local), s.threads[t]? = some l → isT l.pc → s.resizing = true) ∧
    -- the new table is published only after the forwarding
    (s.cur = .new → s.cell0 = .moved) ∧
    -- once the marker is visible the transferring thread is past `tStoreMoved`
    (s.cell0 = .moved → ∀ (t : Nat) (l : Local), s.threads[t]? = some l → isT l.pc →
      (∃ h, l.pc = .tUnlock h) ∨ l.pc = .tCommit) ∧
    -- ... and before that nobody works in the new table
    (∀ (t : Nat) (l : Local), s.threads[t]? = some l → ¬ isT l.pc → tabOf l.pc = some .new → s.cell0 = .moved) ∧
    -- the new cells are empty until the transferring thread has stored them
    (s.cell0 ≠ .moved → s.lowCell ≠ .empty → ∃ (t : Nat) (l : Local), s.threads[t]? = some l ∧
      ((∃ h hg, l.pc = .tStoreHigh h hg) ∨ ∃ h, l.pc = .tStoreMoved h)) ∧
    (s.cell0 ≠ .moved → s.highCell ≠ .empty → ∃ (t : Nat) (l : Local), s.threads[t]? = some l ∧
      ∃ h, l.pc = .tStoreMoved h) := by
  obtain ⟨g, I⟩ := reachable_inv hr
  have H := I.heap
  refine ⟨I.ph.uniqT, I.ph.resz, fun h => H.post (H.curNew h), ?_, ?_, ?_, ?_⟩
  · intro hm t l hl hT
    have hp := H.post_of_moved hm
    have hph := I.ph.pcPh t l hl
    obtain ⟨pc, call⟩ := l
    -- before `tUnlock` the transferring thread knows the phase to be `pre` or `mid`
    cases pc with
    | tUnlock h => exact Or.inl ⟨h, rfl⟩
    | tCommit => exact Or.inr rfl
    | tCell | tCasMoved | tLock _ | tCheck _ | tBuild _ => cases hp.symm.trans hph
    | tStoreLow _ _ _ => cases hp.symm.trans hph.1
    | tStoreHigh _ _ => obtain ⟨lo, h1, -⟩ := hph; cases hp.symm.trans h1
    | tStoreMoved _ => obtain ⟨lo, hg, h1, -⟩ := hph; cases hp.symm.trans h1
    | _ => exact hT.elim
  · intro t l hl hT htab
    exact H.post (I.post_of_new hl hT htab)
  · intro hnm hne
    cases hp : g.ph with
    | pre => exact absurd (H.pre hp).2.2.1 hne
    | post => exact absurd (H.post hp) hnm
    | mid lo hg =>
      obtain ⟨t, l, hl, hm⟩ := I.ph.midHas lo hg hp
      have hph := I.ph.pcPh t l hl
      refine ⟨t, l, hl, ?_⟩
      obtain ⟨pc, call⟩ := l
      cases pc with
      | tStoreLow _ _ _ => exact absurd hph.2.1 hne
      | tStoreHigh h hg => exact Or.inl ⟨h, hg, rfl⟩
      | tStoreMoved h => exact Or.inr ⟨h, rfl⟩
      | _ => exact hm.elim
  · intro hnm hne
    cases hp : g.ph with
    | pre => exact absurd (H.pre hp).2.2.2 hne
    | post => exact absurd (H.post hp) hnm
    | mid lo hg =>
      obtain ⟨t, l, hl, hm⟩ := I.ph.midHas lo hg hp
      have hph := I.ph.pcPh t l hl
      refine ⟨t, l, hl, ?_⟩
      obtain ⟨pc, call⟩ := l
      cases pc with
      | tStoreLow _ _ _ => exact absurd hph.2.2 hne
      | tStoreHigh _ _ => obtain ⟨_, -, -, h3⟩ := hph; exact absurd h3 hne
      | tStoreMoved h => exact ⟨h, rfl⟩
      | _ => exact hm.elim

/-- the chains of a reachable state: every cell is the head of an `ord`-increasing (hence acyclic and
duplicate-free) chain with pairwise distinct keys, all on the right side of the split -/
theorem chains_wellformed {n : Nat} {s : State} (hr : Reachable n s) :
    ∃ cr : CR, NextOK cr s.heap ∧ ∀ id : CellId,
      IsChain s.heap (cellHead (getCell s id)) (chId s id) ∧ (chId s id).Nodup ∧
      (chId s id).Pairwise (fun x y => ord cr x < ord cr y) ∧
      KeysDistinct s.heap (chId s id) ∧ ∀ i ∈ chId s id, keyOn id (nodeAt s.heap i).key := by
  obtain ⟨g, I⟩ := reachable_inv hr
  exact ⟨g.cr, I.heap.nextOK, fun id => ⟨I.heap.isChain id, I.heap.chain_nodup id,
    (I.heap.isChain id).sorted I.heap.nextOK, I.heap.keysId id, I.heap.sideId id⟩⟩

/-- **the transfer has no abstract effect**: no step of the resizing thread changes the abstract state
of any key — in particular not the store of the forwarding marker, where the live chain of every key
switches from the old list to its new list -/
theorem transfer_abs_invariant {n : Nat} {s s' : State} (hr : Reachable n s) {t : Nat} {l : Local}
    {inv : Option (Nat × KOp)} {rz : Bool} (hl : s.threads[t]? = some l) (hT : isT l.pc)
    (hs : step s t inv rz = some s') (k : Nat) : absOf s' k = absOf s k := by
  obtain ⟨g, I⟩ := reachable_inv hr
  refine stepK_abs I hl (step_stepK hl hs) fun p hp => ?_
  have := (I.thr.callOK t l hl).2 (by rw [hp]; rfl)
  exact absurd this (isT_not_isOp hT)

end Flurry.Proto.BinX
