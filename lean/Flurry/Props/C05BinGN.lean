import Flurry.Props.C01BinGN
import Flurry.Props.C01BinGNLin
import Flurry.Lemmas.BinGNQuiescent
import Flurry.Lemmas.BinGNQuiescentExamples
/-! # C05 (bin level, concurrent model, ANY NUMBER of resizes): at quiescence iteration = lookup, nothing half-done
is left behind

> Whenever no operation is in flight, iteration yields exactly the keys for which lookup succeeds —
> each exactly once and with the value lookup returns. Every entry then resides where a lookup for its
> hash searches, no key occurs twice, no forwarding marker or half-finished resize is left behind, and
> no lock is left held.

For `Proto/BinGN` (one bin lineage through any number of successive resizes: the cells `(g, j)`, `j < 2^g`, of the
generations `g = 0, 1, 2, …`; list bins and tree bins with both conversions, lock-free readers, locked writers, the
transfer of empty / list / tree bins including the re-used `TreeBin`; one shared-memory access per transition, any
number of threads, every interleaving). `quiescent s`: every thread is idle — no call, no treeify, no resize in
flight. This is `Props/C05BinG.lean` (one resize, three cells) for the `2^cur` cells of generation `cur`.

* `liveIds s` / `liveCells s` (`Lemmas/BinGNQuiescent.lean`): the cells a lookup that starts now can end in — below
  `(cur, j)`: the cell itself until its forwarding marker is stored, its two children `(cur+1, j)`,
  `(cur+1, j + 2^cur)` afterwards (`liveCell s k ∈ liveCells s`). **At quiescence these are exactly the cells
  `(cur, 0) … (cur, 2^cur − 1)`** (`quiescent_no_half_resize`, `quiescent_entries_eq`);
* `entries s`: the (key, value) pairs of the nodes on the lists of the live cells, in cell order and list order — what
  an iterator that starts now and runs alone yields (for a tree bin the iterator walks the `first` / `next` list);
* `absOf s k`: what a lookup of `k` finds; by `binGN_linearizable_quiescent` it is the state the completed calls on
  `k` linearize to.

The list facts (`quiescent_keys_distinct`, `quiescent_iter_agrees`, `quiescent_entry_in_own_cell`) hold in every reachable
state (`reachable_iter_agrees`): they are consequences of the structural invariant `binGN_inv` (within a cell: distinct
keys, `CInv.distinct`; across cells: `HInv.side`, every key of cell `(g, j)` has `key % 2^g = j`). What quiescence
adds: nothing is locked, the resize is all-or-nothing, the tree of every `TreeBin` in a cell holds exactly the nodes
of its list, and `absOf` is the linearized outcome of the history. Proofs: `Lemmas/BinGNQuiescent.lean`. -/
namespace Flurry.Proto.BinGN
open Flurry.Lin
open Flurry.Proto.BinK (nodeAt binAt)
open Flurry.Proto.BinGNQ (liveCells entriesOfCell entries qview)

/-! ## 1. no half-finished resize -/

/-- in every reachable state: while `resizing` is set some thread is performing the resize -/
theorem resize_at_work {n : Nat} {s : State} (hr : Reachable n s) (h : s.resizing = true) :
    ∃ (t : Nat) (l : Local), s.threads[t]? = some l ∧ (desc s.cur l).isX = true :=
  (lock_words_have_owners hr).2.2 h

/-- **no forwarding marker or half-finished resize is left behind**: at quiescence no resize is running, exactly the
generations `0 … cur` exist (generation `g` with `2^g` cells), every older generation is entirely forwarded, generation
`cur` holds no forwarding marker, every lookup ends in generation `cur`, and the live cells are exactly the cells
`(cur, 0) … (cur, 2^cur − 1)` -/
theorem quiescent_no_half_resize {n : Nat} {s : State} (hr : Reachable n s) (hq : quiescent s) :
    s.resizing = false ∧ s.tabs.length = s.cur + 1 ∧
    (∀ g row, s.tabs[g]? = some row → row.length = 2 ^ g) ∧
    (∀ g j, g < s.cur → j < 2 ^ g → cellAt s g j = .moved) ∧
    (∀ j, cellAt s s.cur j ≠ .moved) ∧
    (∀ k, liveCell s k = cellOf s s.cur k) ∧
    liveCells s = (List.range (2 ^ s.cur)).map (fun j => cellAt s s.cur j) := by
  obtain ⟨h1, h2, h3, h4, -, -⟩ := quiescent_shape hr hq
  exact ⟨h1, h2, (generations_do_not_overlap hr).2.1, fun g j hg hj => old_generations_forwarded hr hg hj, h3, h4,
    BinGNQ.liveCells_of_not_moved (fun j => h3 j)⟩

/-- no live cell holds the forwarding marker (in every reachable state) -/
theorem quiescent_live_not_moved {n : Nat} {s : State} (hr : Reachable n s) : ∀ c ∈ liveCells s, c ≠ .moved :=
  fun _ hc => BinGNQ.liveCells_not_moved (binGN_inv hr).rsz hc

/-! ## 2. no lock is left held -/

/-- **nothing is locked at quiescence**: the lock word of every node is free, the mutex of every `TreeBin` is free,
no `TreeBin` has a reader inside, and every `TreeBin` that is in a cell (of any generation) has its write lock and
its waiter bit clear -/
theorem quiescent_unlocked {n : Nat} {s : State} (hr : Reachable n s) (hq : quiescent s) :
    (∀ j, (nodeAt s.heap j).lock = none) ∧ (∀ b, (binAt s.tbins b).mutex = none) ∧
    (∀ b, b < s.tbins.length → (binAt s.tbins b).readers = 0) ∧
    ∀ g j b, cellAt s g j = .tree b → (binAt s.tbins b).writer = false ∧ (binAt s.tbins b).waiter = false :=
  ⟨BinGNQ.quiescent_node_unlocked (binGN_inv hr) hq, BinGNQ.quiescent_mutex_free (binGN_inv hr) hq,
    fun _ hb => BinGNQ.quiescent_no_readers (binGN_inv hr) hq hb,
    fun g j _ hc => ⟨(BinGNQ.quiescent_bin_unlocked (binGN_inv hr) hq (id := (g, j)) hc).2.1,
      (BinGNQ.quiescent_bin_unlocked (binGN_inv hr) hq (id := (g, j)) hc).2.2.1⟩⟩

/-- the same, for what a lookup or an iterator can reach: no node on the list of a live cell has its lock word
taken; a `TreeBin` in a live cell has `mutex = none`, `writer = false`, `waiter = false`, `readers = 0` -/
theorem quiescent_live_cells_unlocked {n : Nat} {s : State} (hr : Reachable n s) (hq : quiescent s)
    {c : Cell} (hc : c ∈ liveCells s) :
    (∀ j ∈ chainOfCell s c, (nodeAt s.heap j).lock = none) ∧
    ∀ b, c = .tree b → (binAt s.tbins b).mutex = none ∧ (binAt s.tbins b).writer = false ∧
      (binAt s.tbins b).waiter = false ∧ (binAt s.tbins b).readers = 0 :=
  BinGNQ.quiescent_live_unlocked (binGN_inv hr) hq hc

/-- … stated for the cells of generation `cur`: a `TreeBin` in cell `(cur, j)` exists and is completely unlocked -/
theorem quiescent_cur_bins_unlocked {n : Nat} {s : State} (hr : Reachable n s) (hq : quiescent s) {j b : Nat}
    (hc : cellAt s s.cur j = .tree b) :
    b < s.tbins.length ∧ (binAt s.tbins b).mutex = none ∧ (binAt s.tbins b).writer = false ∧
      (binAt s.tbins b).waiter = false ∧ (binAt s.tbins b).readers = 0 :=
  ⟨(binGN_inv hr).heap.cellOK (s.cur, j) b hc, BinGNQ.quiescent_bin_unlocked (binGN_inv hr) hq (id := (s.cur, j)) hc⟩

/-! ## 3. iteration = lookup -/

/-- the cell a lookup of `k` ends in is one of the live cells -/
theorem liveCell_is_live {n : Nat} {s : State} (hr : Reachable n s) (k : Nat) : liveCell s k ∈ liveCells s :=
  BinGNQ.liveCell_mem_liveCells (binGN_inv hr).rsz k

/-- at quiescence the iterator yields the entries of the cells `(cur, 0) … (cur, 2^cur − 1)`, in this order -/
theorem quiescent_entries_eq {n : Nat} {s : State} (hr : Reachable n s) (hq : quiescent s) :
    entries s = (List.range (2 ^ s.cur)).flatMap fun j => entriesOfCell s (cellAt s s.cur j) :=
  BinGNQ.entries_of_not_moved (fun j => (quiescent_shape hr hq).2.2.1 j)

/-- **no key occurs twice**, across ALL live cells -/
theorem quiescent_keys_distinct {n : Nat} {s : State} (hr : Reachable n s) (_hq : quiescent s) :
    ((entries s).map (·.1)).Nodup := BinGNQ.entries_keys_nodup (binGN_inv hr).heap

/-- no entry is yielded twice -/
theorem quiescent_entries_nodup {n : Nat} {s : State} (hr : Reachable n s) (_hq : quiescent s) :
    (entries s).Nodup := nodup_of_keys_nodup (BinGNQ.entries_keys_nodup (binGN_inv hr).heap)

/-- **every entry resides where a lookup for its key searches**: an entry found in cell `(cur, j)` has
`key % 2^cur = j`, and every entry is on the list of the cell a lookup of its key ends in — at quiescence the cell
`(cur, key % 2^cur)` -/
theorem quiescent_entry_in_own_cell {n : Nat} {s : State} (hr : Reachable n s) (hq : quiescent s)
    {k : Nat} {v : Nat × Nat} :
    (∀ j, (k, v) ∈ entriesOfCell s (cellAt s s.cur j) → k % 2 ^ s.cur = j) ∧
    ((k, v) ∈ entries s → (k, v) ∈ entriesOfCell s (liveCell s k)) ∧
    ((k, v) ∈ entries s → (k, v) ∈ entriesOfCell s (cellOf s s.cur k)) := by
  have I := binGN_inv hr
  refine ⟨fun j h => BinGNQ.cell_side I.heap (id := (s.cur, j)) h, (BinGNQ.entries_in_liveCell I.heap I.rsz).1, ?_⟩
  intro h
  rw [← (quiescent_shape hr hq).2.2.2.1 k]
  exact (BinGNQ.entries_in_liveCell I.heap I.rsz).1 h

/-- **iteration yields exactly the keys for which lookup succeeds, with the value lookup returns** -/
theorem quiescent_iter_agrees {n : Nat} {s : State} (hr : Reachable n s) (_hq : quiescent s) (k : Nat) (v : Nat × Nat) :
    (k, v) ∈ entries s ↔ absOf s k = some v :=
  BinGNQ.mem_entries_iff_absOf (binGN_inv hr).heap (binGN_inv hr).rsz k v

/-- … and what lookup returns is what the completed calls on the key linearize to: the history of a
yielded key linearizes to "present with the yielded value", that of any other key to "absent" -/
theorem quiescent_iter_linearized {n : Nat} {s : State} (hr : Reachable n s) (hq : quiescent s) (k : Nat) :
    (∀ v, (k, v) ∈ entries s → Lin.Linearizable (callsOn s k) none (some v)) ∧
    (k ∉ (entries s).map (·.1) → Lin.Linearizable (callsOn s k) none none) :=
  BinGNQ.entries_linearized hr hq k

/-- **each exactly once — the count**: the keys yielded are the keys a lookup finds (`absOf s k ≠ none`),
without repetition; hence any duplicate-free enumeration `ks` of those keys is a permutation of the
keys yielded, and the number of entries is the number of such keys -/
theorem quiescent_len {n : Nat} {s : State} (hr : Reachable n s) (_hq : quiescent s) :
    ((entries s).map (·.1)).Nodup ∧ (∀ k, k ∈ (entries s).map (·.1) ↔ absOf s k ≠ none) ∧
    ∀ ks : List Nat, ks.Nodup → (∀ k, k ∈ ks ↔ absOf s k ≠ none) →
      ks.Perm ((entries s).map (·.1)) ∧ ks.length = (entries s).length :=
  entries_len (BinGNQ.entries_keys_nodup (binGN_inv hr).heap)
    (BinGNQ.mem_entries_iff_absOf (binGN_inv hr).heap (binGN_inv hr).rsz)

/-- for a `TreeBin` in a live cell the tree set is the list set: it is unlocked and its tree holds
exactly the nodes of its list (`quiescent_tree_eq_list` of `Props/C01BinGNLin.lean`), so lookups through
the tree and the iterator over the list see the same nodes -/
theorem quiescent_live_tree_eq_list {n : Nat} {s : State} (hr : Reachable n s) (hq : quiescent s) {b : Nat}
    (hc : Flurry.Proto.BinG.Cell.tree b ∈ liveCells s) :
    (binAt s.tbins b).mutex = none ∧ (binAt s.tbins b).writer = false ∧
    ∀ i, i < s.heap.length → ((nodeAt s.heap i).owner = some b ∧ (nodeAt s.heap i).inTree = true ↔
      i ∈ chainOfBin s b) :=
  (BinGNQ.liveCells_sub hc).elim fun id hid => quiescent_tree_eq_list hr hq (g := id.1) (j := id.2) hid.2.symm

/-! the list facts do not need quiescence -/

/-- in every reachable state — also while a resize is running, where the live cells are the cells of generation `cur`
that are not yet forwarded and the children of those that are — the entries on the live lists are exactly the
abstract content, no key twice, every entry in the cell of its key -/
theorem reachable_iter_agrees {n : Nat} {s : State} (hr : Reachable n s) :
    ((entries s).map (·.1)).Nodup ∧ (∀ k v, (k, v) ∈ entries s ↔ absOf s k = some v) ∧
    (∀ k v, (k, v) ∈ entries s → (k, v) ∈ entriesOfCell s (liveCell s k)) ∧
    ∀ g j k v, (k, v) ∈ entriesOfCell s (cellAt s g j) → k % 2 ^ g = j :=
  ⟨BinGNQ.entries_keys_nodup (binGN_inv hr).heap, BinGNQ.mem_entries_iff_absOf (binGN_inv hr).heap (binGN_inv hr).rsz,
    fun _ _ => (BinGNQ.entries_in_liveCell (binGN_inv hr).heap (binGN_inv hr).rsz).1,
    fun g j _ _ h => BinGNQ.cell_side (binGN_inv hr).heap (id := (g, j)) h⟩

/-! ## 4. non-vacuity: kernel-checked reachable quiescent states (`Lemmas/BinGNQuiescentExamples.lean`) -/

/-- **after two resizes, with tree bins** (`schedStale2`: `TreeBin` 0 over the keys 1, 3, 5, 0 is split into two fresh
`TreeBin`s by resize `0 → 1`; resize `1 → 2` re-uses bin 1 in `(2,0)` and splits bin 2 into the fresh `TreeBin` 3 in
`(2,1)` and a plain list in `(2,3)`; a reader and a writer sleep inside the dead bin 0 through both resizes, then an
update and lookups in generation 2): the state is reachable and quiescent, generations 0 and 1 are forwarded, the live
cells are the four cells of generation 2, the iterator yields the keys 0 | 1, 5 | – | 3 with the updated values,
which is the abstract state of the keys `0 … 5`; every lock word and every `TreeBin` is unlocked — all computed by
`decide` — and, as the theorems say, iteration = lookup for EVERY key, no key twice -/
example : ∃ s, Reachable 4 s ∧ quiescent s ∧
    qview s = ⟨true, 2, false, [[.moved], [.moved, .moved], [.tree 1, .tree 3, .empty, .list 14]],
      [.tree 1, .tree 3, .empty, .list 14], [(0, (3, 103)), (1, (9, 105)), (5, (4, 102)), (3, (8, 104))],
      [some (3, 103), some (9, 105), none, some (8, 104), none, some (4, 102)], true,
      [(none, false, false, 0), (none, false, false, 0), (none, false, false, 0), (none, false, false, 0)]⟩ ∧
    (∀ k v, (k, v) ∈ entries s ↔ absOf s k = some v) ∧ ((entries s).map (·.1)).Nodup ∧
    liveCells s = (List.range (2 ^ s.cur)).map (fun j => cellAt s s.cur j) := by
  obtain ⟨s, hr, hq, hv⟩ := BinGNQ.of_qview BinGNQ.qview_stale2
  exact ⟨s, hr, hq rfl, hv, quiescent_iter_agrees hr (hq rfl), quiescent_keys_distinct hr (hq rfl),
    (quiescent_no_half_resize hr (hq rfl)).2.2.2.2.2.2⟩

/-- after two resizes that both re-use the one `TreeBin` (`schedReuse2`, with a writer queued on its mutex and a
reader holding its read lock across both): the live cells are `tree 0` and three empty cells -/
example : ∃ s, Reachable 4 s ∧ quiescent s ∧
    qview s = ⟨true, 2, false, [[.moved], [.moved, .moved], [.tree 0, .empty, .empty, .empty]],
      [.tree 0, .empty, .empty, .empty], [(0, (5, 100)), (4, (7, 102))],
      [some (5, 100), none, none, none, some (7, 102), none], true, [(none, false, false, 0)]⟩ ∧
    (∀ k v, (k, v) ∈ entries s ↔ absOf s k = some v) := by
  obtain ⟨s, hr, hq, hv⟩ := BinGNQ.of_qview BinGNQ.qview_reuse2
  exact ⟨s, hr, hq rfl, hv, quiescent_iter_agrees hr (hq rfl)⟩

/-- a NON-quiescent state, a resize in progress (`schedMid`: cell `(0,0)` is forwarded, the table pointer still refers
to generation 0): the live cells are the two children `(1,0)`, `(1,1)`, and the entries on their lists are the
abstract state (`reachable_iter_agrees`) -/
example : ∃ s, Reachable 4 s ∧
    qview s = ⟨false, 0, true, [[.moved], [.tree 1, .tree 2]], [.tree 1, .tree 2],
      [(0, (3, 103)), (1, (5, 100)), (3, (6, 101)), (5, (4, 102))],
      [some (3, 103), some (5, 100), none, some (6, 101), none, some (4, 102)], true,
      [(none, false, false, 0), (none, false, false, 0), (none, false, false, 0)]⟩ ∧
    (∀ k v, (k, v) ∈ entries s ↔ absOf s k = some v) := by
  obtain ⟨s, hr, -, hv⟩ := BinGNQ.of_qview BinGNQ.qview_mid
  exact ⟨s, hr, hv, (reachable_iter_agrees hr).2.1⟩

end Flurry.Proto.BinGN
