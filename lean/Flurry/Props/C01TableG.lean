import Flurry.Proto.TableG
import Flurry.Props.C01BinG
import Flurry.Props.C01Local
import Flurry.Lemmas.TableG
import Flurry.Lemmas.TableGExamples
/-! # C01 (table level, across a resize): ONE sequential order of ALL calls on ALL keys

`Proto/TableG`: a whole table that is resized once. `m` lineages, each a `Proto/BinG` lineage — the
cell `i` of the old table, the cells `i` and `i + m` of the next table; every cell empty / a list bin /
a tree bin with both conversions, lock-free readers, iterators, locked writers; `transfer` of the old
cell whatever it holds, the forwarding marker, the commit of the table pointer. Key `k` lives in
lineage `(k / 2) % m` (`lineageOf`; the hash is the key, bit 0 decides low / high at the resize —
`BinG.hiBit` — and the bits above it select the bin). Any number of threads, a thread inside at most
one lineage at a time (so a thread transfers the lineages one at a time; different lineages may be
transferred by different threads), one clock shared by all lineages. The table pointer is modelled per
lineage, which over-approximates the single pointer of the code (the `xCommit`s of all lineages may
happen consecutively when the real `table := next` happens; see the header of `Proto/TableG.lean`).
The history of the table is the history of the *map* (`LinMap.MHistory`): the calls on all keys of all
lineages, with comparable times.

How the lineage-level theorem lifts: the clock of a lineage in which nothing happens advances by a
`tick`, and a tick is *itself* a transition of `Proto/BinG` — the step of a thread that is idle in that
lineage and starts nothing (`tableG_tick_is_lineage_step`); `TableG.step` lets a thread act in a
lineage only while it is idle in all others. So every lineage of a reachable table is literally
`BinG.Reachable` (`tableG_lineage_reachable`) and `binG_linearizable_quiescent` applies to it as it
stands. Keys stay in their own lineage (`tableG_key_in_own_lineage`), so the projection of the map
history on key `k` IS the per-key history of lineage `lineageOf m k` (`tableG_proj_eq`);
locality (`LinMap.map_linearizable_of_proj`, which `C01.locality` states) does the rest.
Proofs: `Lemmas/TableG.lean`, `Lemmas/TableGExamples.lean`. -/
namespace Flurry.Proto.TableG
open Flurry.Lin Flurry.LinMap

theorem bins_length {m n : Nat} {S : State} (hr : Reachable m n S) : S.bins.length = m :=
  (reachable_tblInv hr).len

/-- the lineage of a key agrees with the split bit of `Proto/BinG`: bit 0 of the key is `BinG.hiBit`
(low / high cell of the lineage), the bits above it select the lineage — key `k` is in cell
`lineageOf m k` of the old table and in cell `lineageOf m k + (if hiBit k then m else 0)` of the next
one, which is `(k / 2) % m + m * (k % 2)` -/
theorem lineage_and_side (m k : Nat) :
    lineageOf m k = (k / 2) % m ∧ BinG.hiBit k = (k % 2 == 1) ∧
    lineageOf m k + (if BinG.hiBit k then m else 0) = (k / 2) % m + m * (k % 2) := by
  refine ⟨rfl, rfl, ?_⟩
  unfold BinG.hiBit lineageOf
  rcases Nat.mod_two_eq_zero_or_one k with h | h <;> simp [h]

/-- a tick (the clock of a lineage advances while a thread acts elsewhere) is a transition of the
lineage: the step of a thread that is idle there and starts nothing (no call, no treeify, no resize) -/
theorem tableG_tick_is_lineage_step {b : BinG.State} {t : Nat} (h : idleIn b t = true) :
    BinG.step b t none false none false false false = some (tick b) := tick_is_step h

/-- every lineage of a reachable table is a reachable `Proto/BinG` lineage: all lineage-level theorems
(`binG_inv`, `binG_linearizable`, `transfer_abs_invariant`, `quiescent_tree_eq_list`, …) hold for it -/
theorem tableG_lineage_reachable {m n : Nat} {S : State} (hr : Reachable m n S) {i : Nat} {b : BinG.State}
    (hb : S.bins[i]? = some b) : BinG.Reachable n b := (reachable_tblInv hr).reach i b hb

/-- every call recorded in lineage `i` is on a key of lineage `i` -/
theorem tableG_key_in_own_lineage {m n : Nat} {S : State} (hr : Reachable m n S) {i : Nat} {b : BinG.State}
    (hb : S.bins[i]? = some b) {k : Nat} {c : Call} (hc : (k, c) ∈ b.hist) : lineageOf m k = i :=
  ((reachable_tblInv hr).keys i b hb).hist (k, c) hc

/-- … and so is every call in flight in lineage `i` -/
theorem tableG_pending_in_own_lineage {m n : Nat} {S : State} (hr : Reachable m n S) {i : Nat} {b : BinG.State}
    (hb : S.bins[i]? = some b) {t : Nat} {l : BinG.Local} {p : BinG.Pending}
    (hl : b.threads[t]? = some l) (hp : l.call = some p) : lineageOf m p.key = i :=
  ((reachable_tblInv hr).keys i b hb).pend t l p hl hp

/-- calls on a key of another lineage never appear in a lineage's history -/
theorem tableG_other_lineage_silent {m n : Nat} {S : State} (hr : Reachable m n S) {i : Nat} {b : BinG.State}
    (hb : S.bins[i]? = some b) {k : Nat} (hk : lineageOf m k ≠ i) : BinG.callsOn b k = [] :=
  callsOn_other_bin (reachable_tblInv hr) hb hk

/-- a thread is active in at most one lineage: of two different lineages it is idle in one (in
particular a thread is in the middle of the transfer of at most one lineage) -/
theorem tableG_one_lineage_per_thread {m n : Nat} {S : State} (hr : Reachable m n S) {t i j : Nat}
    {bi bj : BinG.State} {li lj : BinG.Local} (hne : i ≠ j) (hi : S.bins[i]? = some bi) (hj : S.bins[j]? = some bj)
    (hli : bi.threads[t]? = some li) (hlj : bj.threads[t]? = some lj) : li.pc = .idle ∨ lj.pc = .idle :=
  reachable_oneBin hr t i j bi bj li lj hne hi hj hli hlj

/-- no call responds before it is invoked (one clock for all lineages) -/
theorem tableG_inv_le_resp {m n : Nat} {S : State} (hr : Reachable m n S) :
    ∀ c ∈ mhist S, c.call.inv ≤ c.call.resp := mhist_wf hr

/-- the projection of the map history on key `k` is — as a list — the per-key history of lineage
`lineageOf m k` -/
theorem tableG_proj_eq {m n : Nat} {S : State} (hr : Reachable m n S) {k : Nat} {b : BinG.State}
    (hb : S.bins[lineageOf m k]? = some b) : proj (mhist S) k = BinG.callsOn b k :=
  proj_mhist (reachable_tblInv hr) hb

/-- per key, in every reachable state (completed calls plus writers past their linearization point) -/
theorem tableG_key_linearizable_ext {m n : Nat} {S : State} (hr : Reachable m n S) {k : Nat} {b : BinG.State}
    (hb : S.bins[lineageOf m k]? = some b) : Lin.Linearizable (BinG.callsOnExt b k) none (BinG.absOf b k) :=
  BinG.binG_linearizable (tableG_lineage_reachable hr hb) k

/-- per key, at quiescence -/
theorem tableG_key_linearizable {m n : Nat} (hm : 0 < m) {S : State} (hr : Reachable m n S) (hq : quiescent S)
    (k : Nat) : Lin.Linearizable (proj (mhist S) k) none (absMap S k) := by
  have I := reachable_tblInv hr
  obtain ⟨b, hb, hd⟩ := bin_of_key hm I k
  rw [proj_mhist I hb]
  unfold absMap
  rw [hd]
  exact BinG.binG_linearizable_quiescent (I.reach _ b hb) (hq b (List.mem_of_getElem? hb)) k

/-- **C01 for a whole table across its resize: ONE sequential order of ALL calls on ALL keys** respects
real time and replays through the sequential specification of a map, from the empty map to the
abstract map of the table. -/
theorem tableG_map_linearizable {m n : Nat} (hm : 0 < m) {S : State} (hr : Reachable m n S) (hq : quiescent S) :
    LinMap.MapLinearizable (mhist S) (fun _ => none) (absMap S) :=
  LinMap.map_linearizable_of_proj (mhist_wf hr) (fun k => tableG_key_linearizable hm hr hq k)

/-- non-vacuity (`Lemmas/TableGExamples.lean`): two lineages, two threads, 100 transitions. Before the
resize: `ins 1`, `ins 0` (lineage 0) overlap `ins 2`, `ins 3` (lineage 1, then treeified). Lineage 0 is
transferred by thread 0 (list split) with thread 1's `get 0` (38–49) walking the old list across the
three stores and the commit;
then, with lineage 0 committed and lineage 1 not yet forwarded, thread 0's `ins 3` (50–59) completes in
the old table of lineage 1 while thread 1 starts its transfer (tree-bin split into two fresh
`TreeBin`s). After the resize: `get 1`, `rm 2`, `ins 5`, `get 3`. The state is reachable and quiescent,
BOTH lineages are forwarded (`cell0 = moved`) and committed (`cur = new`), the history has keys of both
lineages and both `hiBit` values, and it is map-linearizable -/
example : ∃ S : State, Reachable 2 2 S ∧ quiescent S ∧
    mhist S = [ ⟨1, ⟨0, .ins 10 100, .none, 1, 5⟩⟩, ⟨0, ⟨0, .ins 30 300, .none, 9, 26⟩⟩,
                ⟨0, ⟨1, .get, .some 30 300, 38, 49⟩⟩, ⟨1, ⟨0, .get, .some 10 100, 68, 72⟩⟩,
                ⟨5, ⟨1, .ins 50 500, .none, 83, 92⟩⟩,
                ⟨2, ⟨1, .ins 20 200, .none, 2, 8⟩⟩, ⟨3, ⟨1, .ins 40 400, .none, 10, 18⟩⟩,
                ⟨3, ⟨0, .ins 41 401, .some 40 400, 50, 59⟩⟩, ⟨2, ⟨1, .rm, .some 20 200, 69, 82⟩⟩,
                ⟨3, ⟨0, .get, .some 41 401, 84, 100⟩⟩ ] ∧
    (List.range 6).map (absMap S) = [some (30, 300), some (10, 100), none, some (41, 401), none, some (50, 500)] ∧
    S.bins.map (fun b => (b.cell0, b.lowCell, b.highCell, b.cur, b.resizing, b.now)) =
      [(.moved, .list 1, .list 2, .new, true, 100), (.moved, .tree 1, .tree 2, .new, true, 100)] ∧
    LinMap.MapLinearizable (mhist S) (fun _ => none) (absMap S) := by
  obtain ⟨S, hr, hq, hh, ha, hs⟩ := example_state
  exact ⟨S, hr, hq, hh, ha, hs, tableG_map_linearizable (by decide) hr hq⟩

/-- during the transfer of lineage 0 (clock 45): low cell, high cell and the forwarding marker are
stored, `cur` is still the old table, the reader stands on node 0 of the old list -/
example : exDuring = true := example_during

/-- in the middle of that run (clock 50): lineage 0 is forwarded and committed, lineage 1 is untouched
(its old cell holds the `TreeBin`, its table pointer is the old one) and thread 0 has been invoked there -/
example : exBetween = true := example_between

/-- the model refuses a call on a key of another lineage (key 2 is in lineage 1, key 1 in lineage 0),
a treeify named by a key of another lineage, and a thread that is busy in another lineage — with a
call, or in the middle of a transfer; another thread may transfer another lineage meanwhile -/
example : (step (init 2 2) 0 0 (some (2, .ins 1 1)) false none false false false).isNone = true ∧
    (step (init 2 2) 1 0 (some (1, .ins 1 1)) false none false false false).isNone = true ∧
    (step (init 2 2) 0 0 none false (some 3) false false false).isNone = true ∧
    (run (init 2 2) (call 0 0 1 (.ins 1 1) ++ call 1 0 2 .get)).isNone = true ∧
    (run (init 2 2) (resize 0 0 ++ go 0 0 1 ++ resize 1 0)).isNone = true ∧
    (run (init 2 2) (resize 0 0 ++ go 0 0 1 ++ resize 1 1 ++ go 1 1 1 ++ go 0 0 1)).isSome = true :=
  example_refused

end Flurry.Proto.TableG
