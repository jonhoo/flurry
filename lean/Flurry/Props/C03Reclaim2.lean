import Flurry.Lemmas.Reclaim2
/-! # C03 / C04 for the generalised ownership discipline `Proto/Reclaim2`

`Proto/Reclaim2` = `Proto/Reclaim` with `acquire t o` allowed also for an object that is already unlinked or retired,
provided `t` is in its unlink-time set (the threads under a guard when it was unlinked, pruned at `exit`). The
theorems hold for every number of threads and every event sequence accepted by the discipline. -/
namespace Flurry.C03Reclaim2
open Flurry.Proto.Reclaim2

/-- **a reference obtained under a guard stays valid until that guard is released** -/
theorem held_references_valid {n : Nat} {es : List Ev} {s : State} (h : run (init n) es = some s) :
    ∀ t o, o ∈ s.holds t → s.objs o ≠ .freed ∧ s.guarded t = true := by
  intro t o ho
  obtain ⟨h1, -, h3⟩ := (reachable_inv h).hold t o ho
  refine ⟨?_, h1⟩
  intro hf; rw [hf] at h3; exact h3

/-- **freed memory is never touched** -/
theorem no_touch_after_free {n : Nat} {es : List Ev} {s : State} (h : run (init n) es = some s) :
    s.badTouches = 0 := (reachable_inv h).bad

/-- every holder of an unlinked / retired object is awaited -/
theorem holders_are_awaited {n : Nat} {es : List Ev} {s : State} (h : run (init n) es = some s) {t o : Nat}
    {u w : List Nat} (ho : o ∈ s.holds t) (hs : s.objs o = .retired u w) : t ∈ u ∧ t ∈ w := by
  have I := reachable_inv h
  have := (I.hold t o ho).2.2
  rw [hs] at this
  exact ⟨this, I.waitFor_covers hs this⟩

/-- the collector cannot free an object somebody still holds -/
theorem free_waits_for_holders {n : Nat} {es : List Ev} {s : State} (h : run (init n) es = some s) {t o : Nat}
    (ho : o ∈ s.holds t) : step s (.free o) = none := by
  cases hst : step s (.free o) with
  | none => rfl
  | some s' =>
    obtain ⟨u, hs, -⟩ := step_free hst
    exact nomatch (holders_are_awaited h ho hs).2

/-- nothing is freed twice -/
theorem freed_at_most_once {n : Nat} {es : List Ev} {s : State} (h : run (init n) es = some s) :
    ∀ o, s.frees o ≤ 1 := by
  intro o
  rw [(reachable_inv h).frees o]
  split <;> simp

/-- "never before": the collector frees an object only when nobody it had to wait for is left -/
theorem freed_only_after_guards {s s' : State} {o : Nat} (h : step s (.free o) = some s') :
    ∃ u, s.objs o = .retired u [] :=
  have ⟨u, hs, _⟩ := step_free h
  ⟨u, hs⟩

/-- `waitFor` contains the unlink-time set, i.e. every thread that may still hold a pointer -/
theorem waitFor_covers_holders {n : Nat} {es : List Ev} {s : State} (h : run (init n) es = some s) {o : Nat}
    {u w : List Nat} (hs : s.objs o = .retired u w) : u ⊆ w := (reachable_inv h).waitFor_covers hs

/-- unlink first, retire afterwards, under a guard -/
theorem retire_only_after_unlink {s s' : State} {t o : Nat} (h : step s (.retire t o) = some s') :
    (∃ u, s.objs o = .unlinked u) ∧ s.guarded t = true :=
  have ⟨u, hs, hc, _⟩ := step_retire h
  ⟨⟨u, hs⟩, hc⟩

/-- a thread that enters its guard after the unlink cannot pick the pointer up -/
theorem late_thread_cannot_acquire {s : State} {t o : Nat} {u : List Nat}
    (hs : s.objs o = .unlinked u ∨ ∃ w, s.objs o = .retired u w) (ht : t ∉ u) : step s (.acquire t o) = none := by
  cases hst : step s (.acquire t o) with
  | none => rfl
  | some s' =>
    have hc := (step_acquire hst).1.2.2
    rcases hs with hs | ⟨w, hs⟩ <;> rw [hs] at hc <;> exact absurd (List.contains_iff_mem.1 hc) ht

/-- **the generalisation is used**: a reader (thread 1) holds `a` (object 0); a remover (thread 0) unlinks `a` and then
its successor `b` (object 1); the reader, still under its guard, loads `a.next` and acquires `b` — already unlinked and
retired — and touches it. Accepted here, safe; `Proto/Reclaim` rejects the `acquire`. -/
def walkTrace : List Ev :=
  [.enter 0, .alloc 0, .publish 0 0, .alloc 0, .publish 0 1, .enter 1, .acquire 1 0,
   .unlink 0 0, .retire 0 0, .unlink 0 1, .retire 0 1, .exit 0, .touch 1 0, .acquire 1 1, .touch 1 1]

theorem walk_accepted :
    (run (init 2) walkTrace).map (fun s => (s.objs 0, s.objs 1, s.holds 1, s.badTouches)) =
      some (.retired [1] [1], .retired [1] [1], [1, 0], 0) := by decide

/-- and only after the reader's `exit` both can be freed -/
theorem walk_then_free :
    (run (init 2) (walkTrace ++ [.free 1])).isNone = true ∧
    (run (init 2) (walkTrace ++ [.exit 1, .free 0, .free 1])).map (fun s => (s.objs 0, s.objs 1, s.frees 0, s.frees 1)) =
      some (.freed, .freed, 1, 1) := by decide

end Flurry.C03Reclaim2

#print axioms Flurry.C03Reclaim2.held_references_valid
#print axioms Flurry.C03Reclaim2.no_touch_after_free
#print axioms Flurry.C03Reclaim2.holders_are_awaited
#print axioms Flurry.C03Reclaim2.free_waits_for_holders
#print axioms Flurry.C03Reclaim2.freed_at_most_once
#print axioms Flurry.C03Reclaim2.freed_only_after_guards
#print axioms Flurry.C03Reclaim2.late_thread_cannot_acquire
#print axioms Flurry.C03Reclaim2.walk_accepted
