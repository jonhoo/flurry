import Flurry.Lemmas.BinNHEff
import Flurry.Lemmas.BinNHExamples
/-! # C10 (bin level): a COOPERATIVE resize — `Proto/BinN` with helper threads

`Proto/BinNH.lean`: the shared memory, the readers and the writers are literally those of `Proto/BinN`;
any number of threads may be resizing threads of the current generation at the same time, on different or
on the same cells; a resizing thread may be suspended anywhere (e.g. between "store high" and "store marker",
holding the bin lock), may leave between cells, and any of them may commit once every cell is forwarded
(this over-approximates the last-one-out rule of `transfer`: any resizing thread between cells may commit as soon
as every cell is forwarded, also while other helpers are still around, so every order of leaving and committing
that the code admits is a run of the model; the finishing sweep is the one atomic test `allMoved`).

**Proved here (the generation level, for every reachable state / every transition, any number of threads):**
`generations_do_not_overlap`, `old_generations_forwarded`, `commit_only_when_all_forwarded`,
`cell_migrated_at_most_once` (who forwards a cell, markers are stable, validated transfer locks are
exclusive, the second helper finds the marker at its re-check), `stale_helper_is_harmless`,
`rw_generation_invariant` (`Proto/BinN`'s whole `GenInv` — `follow_markers_until_live`, … — for the readers
and writers in the presence of helpers), `alloc_commit_abs_invariant`.

The theorems above stand for C10, and the checks audit the whole file under C10; `two_helpers_run`, `stale_helper_run`
and `noCheck_refuted` at the end are statements about runs. **Linearizability** (C01: `binNH_linearizable_quiescent`) and
the full `transfer_abs_invariant` (incl. the split and the three stores) are proved in `Props/C01BinNHLin.lean` (heap
invariant with any number of cells in mid-transfer, `Lemmas/BinNHM*.lean`; one helper per such cell,
`Lemmas/BinNHFull*.lean`); validation by execution: `Lemmas/BinNHExamples.lean`. -/
namespace Flurry.Proto.BinNH
open Flurry.Lin
open Flurry.Proto.BinX (NodeS Cell Pending cellOfHead)
open Flurry.Proto.BinN (cellAt cellOf lockAt GenInv putCell setNode)

theorem reachable_invariant {n : Nat} {s : State} (hr : Reachable n s) : Inv s := reachable_inv hr

/-- `Proto/BinN`'s generation invariant holds for the shared memory, the readers and the writers — with any
number of helpers around (so all its consequences carry over: `BinN.GenInv.live_of_gen`, `liveCell_eq`, …) -/
theorem rw_generation_invariant {n : Nat} {s : State} (hr : Reachable n s) : GenInv s.n := (reachable_inv hr).gen

/-- **generations do not overlap**: the tables are the generations `0 … cur`, plus generation `cur + 1` exactly
while a resize runs; generation `g` has `2^g` cells; every resizing thread works for a generation `≤ cur`, for
`cur` only while `resizing` is set; and a resizing thread that is INSIDE a cell's transfer (from its successful
re-check to the store of the marker) works for generation `cur`, `resizing` is set, and its cell still holds the
head it locked — in particular it is not forwarded, so nobody can commit -/
theorem generations_do_not_overlap {n : Nat} {s : State} (hr : Reachable n s) :
    s.n.tabs.length = s.n.cur + 1 + (if s.n.resizing then 1 else 0) ∧
    (∀ g row, s.n.tabs[g]? = some row → row.length = 2 ^ g) ∧
    (∀ (t : Nat) (hp : Helper), s.hs[t]? = some (some hp) → hp.g ≤ s.n.cur ∧ (hp.g = s.n.cur → s.n.resizing = true)) ∧
    (∀ (t : Nat) (hp : Helper) (j h : Nat), s.hs[t]? = some (some hp) → hvalid hp.pc = some (j, h) →
      hp.g = s.n.cur ∧ s.n.resizing = true ∧ cellAt s.n s.n.cur j = .node h ∧ lockAt s.n.heap h = some t) := by
  have I := reachable_inv hr
  refine ⟨I.gen.len, I.gen.rows, fun t hp hh => ⟨(I.hok t hp hh).gle, (I.hok t hp hh).res⟩, ?_⟩
  intro t hp j h hh hv
  have H := I.hok t hp hh
  obtain ⟨e, R⟩ := H.valid_cur I.gen hv
  exact ⟨e, R, by rw [← e]; exact H.valid j h hv, (H.held h (hvalid_holds hv).1).2⟩

/-- **old generations are forwarded**: every cell of a generation older than `cur` is `moved`, for ever -/
theorem old_generations_forwarded {n : Nat} {s : State} (hr : Reachable n s) {g j : Nat} (hg : g < s.n.cur)
    (hj : j < 2 ^ g) : cellAt s.n g j = .moved :=
  (reachable_inv hr).gen.old g j hg hj

/-- what every transition does to a cell: nothing, or it stays un-forwarded, or it is forwarded by the acting
thread, which is a resizing thread of that generation at its CAS of an empty cell or at its marker store -/
theorem cells_step {n : Nat} {s s' : State} (hr : Reachable n s) {t : Nat} {inv : Option (Nat × KOp)} {rz leave : Bool}
    {pick : Nat} (hs : step s t inv rz leave pick = some s') (g j : Nat) :
    cellAt s'.n g j = cellAt s.n g j ∨ (cellAt s'.n g j ≠ .moved ∧ cellAt s.n g j ≠ .moved) ∨
    ∃ hp, s.hs[t]? = some (some hp) ∧ hp.g = g ∧
      ((hp.pc = .casMoved j ∧ cellAt s.n g j = .empty) ∨ ∃ h, hp.pc = .storeMoved j h) := by
  have I := reachable_inv hr
  have put : ∀ (g0 j0 : Nat) (c : Cell), cellAt (putCell (tickN s.n) g0 j0 c) g j = cellAt s.n g j ∨
      (g = g0 ∧ j = j0 ∧ cellAt (putCell (tickN s.n) g0 j0 c) g j = c) := by
    intro g0 j0 c
    by_cases e : g = g0 ∧ j = j0
    · obtain ⟨rfl, rfl⟩ := e
      rcases BinN.cellT_put_self s.n.tabs g j c with e1 | e1
      · exact Or.inr ⟨rfl, rfl, e1⟩
      · exact Or.inl e1
    · exact Or.inl (BinN.cellT_put_ne _ _ e)
  rcases step_cases I hs with ⟨-, E⟩ | ⟨-, -, e⟩ | ⟨hp, po, hh, E⟩
  · rcases E.cells g j with e | ⟨e1, e2 | ⟨h, e2, -⟩⟩
    · exact Or.inl e
    · exact Or.inr (Or.inl ⟨e1, by rw [e2]; simp⟩)
    · exact Or.inr (Or.inl ⟨e1, by rw [e2]; simp⟩)
  · left; rw [e]; exact BinN.cellT_alloc _ _ _ _
  · have H := I.hok t hp hh
    obtain ⟨g1, pc⟩ := hp
    change HStep s.n t g1 pc s'.n po at E
    generalize s'.n = n' at E ⊢
    cases E with
    | move => exact Or.inl rfl
    | lock => exact Or.inl rfl
    | unlockC => exact Or.inl rfl
    | unlockU => exact Or.inl rfl
    | build => exact Or.inl rfl
    | commit => exact Or.inl rfl
    | cas j1 hc =>
      rcases put g1 j1 .moved with e1 | ⟨rfl, rfl, -⟩
      · exact Or.inl e1
      · exact Or.inr (Or.inr ⟨_, hh, rfl, Or.inl ⟨rfl, hc⟩⟩)
    | marker j1 h =>
      rcases put g1 j1 .moved with e1 | ⟨rfl, rfl, -⟩
      · exact Or.inl e1
      · exact Or.inr (Or.inr ⟨_, hh, rfl, Or.inr ⟨h, rfl⟩⟩)
    | low j1 h lo hg =>
      have e0 : g1 = s.n.cur := (H.valid_cur I.gen (j := j1) (h := h) rfl).1
      clear H
      rcases put (g1 + 1) j1 (cellOfHead lo) with e1 | ⟨rfl, rfl, e1⟩
      · exact Or.inl e1
      · refine Or.inr (Or.inl ⟨by rw [e1]; exact BinX.cellOfHead_ne_moved lo, ?_⟩)
        rw [e0]; exact I.gen.nextOK _
    | high j1 h hg =>
      have e0 : g1 = s.n.cur := (H.valid_cur I.gen (j := j1) (h := h) rfl).1
      clear H
      rcases put (g1 + 1) (j1 + 2 ^ g1) (cellOfHead hg) with e1 | ⟨rfl, rfl, e1⟩
      · exact Or.inl e1
      · refine Or.inr (Or.inl ⟨by rw [e1]; exact BinX.cellOfHead_ne_moved hg, ?_⟩)
        rw [e0]; exact I.gen.nextOK _

/-- **a cell is migrated at most once.**
(1) a forwarding marker is stable: once `moved`, always `moved` — so a cell is forwarded by at most one transition
of any run; (2) the transition that forwards cell `(g, j)` is a resizing thread's of generation `g = cur`, while
`resizing`, either by its CAS of the EMPTY cell or by its marker store while it holds the mutex of the head `h` the
cell still shows (its validated lock); (3) validated transfer locks are exclusive: two resizing threads inside the
transfer of the same cell are the same thread — the second helper blocks on the bin lock; (4) and when it gets the
lock it finds the marker at its re-check: its next transition unlocks and reloads the cell. -/
theorem cell_migrated_at_most_once {n : Nat} {s : State} (hr : Reachable n s) :
    (∀ {s' t inv rz leave pick} (_ : step s t inv rz leave pick = some s') (g j : Nat),
      cellAt s.n g j = .moved → cellAt s'.n g j = .moved) ∧
    (∀ {s' t inv rz leave pick} (_ : step s t inv rz leave pick = some s') (g j : Nat),
      cellAt s.n g j ≠ .moved → cellAt s'.n g j = .moved →
      ∃ hp, s.hs[t]? = some (some hp) ∧ hp.g = g ∧ g = s.n.cur ∧ s.n.resizing = true ∧ j < 2 ^ g ∧
        ((hp.pc = .casMoved j ∧ cellAt s.n g j = .empty) ∨
         ∃ h, hp.pc = .storeMoved j h ∧ cellAt s.n g j = .node h ∧ lockAt s.n.heap h = some t)) ∧
    (∀ (t t1 : Nat) (hp hp1 : Helper) (j h h1 : Nat), s.hs[t]? = some (some hp) → s.hs[t1]? = some (some hp1) → hp.g = hp1.g →
      hvalid hp.pc = some (j, h) → hvalid hp1.pc = some (j, h1) → t = t1) ∧
    (∀ {s' : State} {t : Nat} {hp : Helper} {j h : Nat} {inv rz leave pick}, s.hs[t]? = some (some hp) → hp.pc = .check j h →
      cellAt s.n hp.g j = .moved → step s t inv rz leave pick = some s' →
      s'.hs[t]? = some (some ⟨hp.g, .cell j⟩) ∧ lockAt s'.n.heap h = none ∧ s'.n.tabs = s.n.tabs) := by
  have I := reachable_inv hr
  refine ⟨?_, ?_, ?_, ?_⟩
  · intro s' t inv rz leave pick hs g j hm
    rcases cells_step hr hs g j with e | ⟨-, e⟩ | ⟨hp, hh, hg, ⟨-, e⟩ | ⟨h, e⟩⟩
    · rw [e]; exact hm
    · exact absurd hm e
    · rw [hm] at e; cases e
    · have := (I.hok t hp hh).valid j h (by rw [e]; rfl)
      rw [hg, hm] at this; cases this
  · intro s' t inv rz leave pick hs g j hnm hm
    rcases cells_step hr hs g j with e | ⟨e, -⟩ | ⟨hp, hh, hg, hc⟩
    · rw [e] at hm; exact absurd hm hnm
    · exact absurd hm e
    · have H := I.hok t hp hh
      subst hg
      rcases hc with ⟨e, hc⟩ | ⟨h, e⟩
      · have hj : j < 2 ^ hp.g := H.idx j (by rw [e]; rfl)
        have hcur : hp.g = s.n.cur := H.cur_of_not_moved I.gen hj hnm
        exact ⟨hp, hh, rfl, hcur, H.res hcur, hj, Or.inl ⟨e, hc⟩⟩
      · have hv : hvalid hp.pc = some (j, h) := by rw [e]; rfl
        obtain ⟨hcur, R⟩ := H.valid_cur I.gen hv
        exact ⟨hp, hh, rfl, hcur, R, H.idx j (hvalid_holds hv).2,
          Or.inr ⟨h, e, H.valid j h hv, (H.held h (hvalid_holds hv).1).2⟩⟩
  · intro t t1 hp hp1 j h h1 hh hh1 hg hv hv1
    exact (I.hok t hp hh).valid_unique (I.hok t1 hp1 hh1) hg hv hv1
  · intro s' t hp j h inv rz leave pick hh hpc hm hs
    have hlen : h < s.n.heap.length := ((I.hok t hp hh).held h (by rw [hpc]; rfl)).1
    obtain ⟨g, pc⟩ := hp
    simp only at hpc hm
    subst hpc
    -- the only transitions of a helper at `check j h` are the successful re-check and `unlockC`
    cases step_stepH hs with
    | rw _ hh' => rw [hh] at hh'; cases hh'
    | join _ hh' => rw [hh] at hh'; cases hh'
    | start _ hh' => rw [hh] at hh'; cases hh'
    | helper _ hh' hst =>
      rw [hh] at hh'; cases hh'
      cases hst with
      | move hmv => cases hmv with | checkOk hc => rw [hm] at hc; cases hc
      | unlockC => exact ⟨BinX.get_set_self hh, BinN.lockAt_modify_self none hlen, rfl⟩

/-- **commit only when all forwarded**: a transition that changes `cur` increments it, is the `commit` step of a
resizing thread of generation `cur` while `resizing`, every cell of generation `cur` is forwarded, and no resizing
thread is inside a cell's transfer; and a resizing thread of generation `cur` that has reached `commit` sees every
cell forwarded -/
theorem commit_only_when_all_forwarded {n : Nat} {s : State} (hr : Reachable n s) :
    (∀ {s' t inv rz leave pick}, step s t inv rz leave pick = some s' → s'.n.cur ≠ s.n.cur →
      s'.n.cur = s.n.cur + 1 ∧ s.n.resizing = true ∧ s.hs[t]? = some (some ⟨s.n.cur, .commit⟩) ∧
      (∀ j, j < 2 ^ s.n.cur → cellAt s.n s.n.cur j = .moved) ∧
      (∀ (t1 : Nat) (hp : Helper), s.hs[t1]? = some (some hp) → hvalid hp.pc = none)) ∧
    (∀ (t : Nat) (hp : Helper), s.hs[t]? = some (some hp) → hp.pc = .commit → hp.g = s.n.cur →
      ∀ j, j < 2 ^ s.n.cur → cellAt s.n s.n.cur j = .moved) := by
  have I := reachable_inv hr
  refine ⟨?_, fun t hp hh hc hg => (I.hok t hp hh).commit hc hg⟩
  intro s' t inv rz leave pick hs hne
  rcases step_cases I hs with ⟨-, E⟩ | ⟨-, -, e⟩ | ⟨hp, po, hh, E⟩
  · exact absurd E.cur hne
  · rw [e] at hne; exact absurd rfl hne
  · have H := I.hok t hp hh
    obtain ⟨g, pc⟩ := hp
    change HStep s.n t g pc s'.n po at E
    generalize s'.n = n' at E hne ⊢
    cases E with
    | commit e2 e3 =>
      subst e2
      have hall := H.commit rfl rfl
      refine ⟨rfl, e3, hh, hall, ?_⟩
      intro t1 hp1 hh1
      cases hv : hvalid hp1.pc with
      | none => rfl
      | some jh =>
        obtain ⟨j, h⟩ := jh
        have H1 := I.hok t1 hp1 hh1
        obtain ⟨e, -⟩ := H1.valid_cur I.gen hv
        have c := H1.valid j h hv
        rw [e, hall j (by rw [← e]; exact H1.idx j (hvalid_holds hv).2)] at c
        cases c
    | move => exact absurd rfl hne
    | lock => exact absurd rfl hne
    | unlockC => exact absurd rfl hne
    | unlockU => exact absurd rfl hne
    | build => exact absurd rfl hne
    | cas => exact absurd rfl hne
    | marker => exact absurd rfl hne
    | low => exact absurd rfl hne
    | high => exact absurd rfl hne

/-- **a stale helper is harmless**: a resizing thread of a generation `g < cur` (the resize it joined has
committed; possibly the next one is already running) changes no cell, neither `cur` nor `resizing`, no history and no
node — except for the lock word of the dead head it once loaded, which it locks and (after the failed re-check)
unlocks; the abstract state of every key is unchanged. It never reaches the split or a store. -/
theorem stale_helper_is_harmless {n : Nat} {s s' : State} (hr : Reachable n s) {t : Nat} {hp : Helper}
    {inv : Option (Nat × KOp)} {rz leave : Bool} {pick : Nat} (hh : s.hs[t]? = some (some hp)) (hg : hp.g < s.n.cur)
    (hs : step s t inv rz leave pick = some s') :
    s'.n.tabs = s.n.tabs ∧ s'.n.cur = s.n.cur ∧ s'.n.resizing = s.n.resizing ∧ s'.n.hist = s.n.hist ∧
    s'.n.threads = s.n.threads ∧ hvalid hp.pc = none ∧
    (s'.n.heap = s.n.heap ∨ ∃ h x, s'.n.heap = s.n.heap.modify h (fun m => { m with lock := x })) ∧
    ∀ k, absOf s' k = absOf s k := by
  have I := reachable_inv hr
  have H := I.hok t hp hh
  have hnv : hvalid hp.pc = none := by
    cases hv : hvalid hp.pc with
    | none => rfl
    | some jh =>
      obtain ⟨e, -⟩ := H.valid_cur I.gen (j := jh.1) (h := jh.2) hv
      omega
  have htick : ∀ k, BinN.absOf (tickN s.n) k = BinN.absOf s.n k := fun k =>
    BinN.absOf_congr (s := s.n) (s' := tickN s.n) rfl (BinN.liveCell_congr (s := s.n) (s' := tickN s.n) rfl rfl k)
  rcases step_cases I hs with ⟨e, -⟩ | ⟨e, -⟩ | ⟨hp', po, hh', E⟩
  · rw [hh] at e; cases e
  · rw [hh] at e; cases e
  · rw [hh] at hh'
    cases hh'
    obtain ⟨g, pc⟩ := hp
    simp only at hg hnv
    change HStep s.n t g pc s'.n po at E
    unfold absOf
    generalize s'.n = n' at E ⊢
    cases E with
    | move => exact ⟨rfl, rfl, rfl, rfl, rfl, hnv, Or.inl rfl, htick⟩
    | lock j1 h => exact ⟨rfl, rfl, rfl, rfl, rfl, hnv, Or.inr ⟨h, _, rfl⟩, fun k => absOf_lockmod s.n h _ k⟩
    | unlockC j1 h => exact ⟨rfl, rfl, rfl, rfl, rfl, hnv, Or.inr ⟨h, _, rfl⟩, fun k => absOf_lockmod s.n h _ k⟩
    | unlockU j1 h => exact ⟨rfl, rfl, rfl, rfl, rfl, hnv, Or.inr ⟨h, _, rfl⟩, fun k => absOf_lockmod s.n h _ k⟩
    | build => cases hnv
    | marker => cases hnv
    | low => cases hnv
    | high => cases hnv
    | commit e2 e3 => omega
    | cas j1 hc =>
      have hj : j1 < 2 ^ g := H.idx j1 rfl
      have := I.gen.old g j1 hg hj
      rw [hc] at this; cases this

/-- the generation-level part of `transfer_abs_invariant`: starting a resize (allocating generation `cur + 1`),
joining, leaving, every load / lock / unlock / re-check of a resizing thread, and the commit change the abstract
state of no key. (The split and the three stores: `transfer_abs_invariant` in `Props/C01BinNHLin.lean`.) -/
theorem alloc_commit_abs_invariant {n : Nat} {s s' : State} (hr : Reachable n s) {t : Nat}
    {inv : Option (Nat × KOp)} {rz leave : Bool} {pick : Nat} (hs : step s t inv rz leave pick = some s')
    (hT : (s.hs[t]? = some none ∧ s'.n = allocN s.n) ∨ s'.n = commitN s.n ∨ s'.n = tickN s.n ∨
      ∃ h x, s'.n = setNode (tickN s.n) h (fun m => { m with lock := x })) (k : Nat) : absOf s' k = absOf s k := by
  have I := reachable_inv hr
  have I' := reachable_inv (Reachable.step t inv rz leave pick hr hs)
  rcases hT with ⟨-, e⟩ | e | e | ⟨h, x, e⟩
  · show BinN.absOf s'.n k = _
    exact BinN.alloc_abs I.gen I'.gen (by rw [e]; rfl) (by rw [e]; rfl) (by rw [e]; rfl) k
  · obtain ⟨-, -, hh, hall, -⟩ := (commit_only_when_all_forwarded hr).1 hs (by rw [e]; show s.n.cur + 1 ≠ s.n.cur; omega)
    show BinN.absOf s'.n k = _
    exact BinN.commit_abs I.gen I'.gen (by rw [e]; rfl) (by rw [e]; rfl) (by rw [e]; rfl) hall k
  · show BinN.absOf s'.n k = _
    rw [e]
    exact BinN.absOf_congr (s := s.n) (s' := tickN s.n) rfl (BinN.liveCell_congr (s := s.n) (s' := tickN s.n) rfl rfl k)
  · show BinN.absOf s'.n k = _
    rw [e]; exact absOf_lockmod s.n h x k

/-- the end of the run of `schedH` (two helpers on different cells and on the same cell, one suspended between
"store high" and "store marker" while the other goes on; the late helper's commit fails) is such a state, its
four histories decided by `Lin.search`. The statement keeps only that a reachable quiescent state in generation 2
with linearizable histories exists; the run itself is in `two_helpers_linearizable`, `Lemmas/BinNHExamples.lean`. -/
theorem two_helpers_run :
    ∃ s, Reachable 4 s ∧ quiescent s ∧ s.n.cur = 2 ∧ ∀ k < 4, Lin.Linearizable (callsOn s k) none (absOf s k) := by
  obtain ⟨s, -, h⟩ := two_helpers_linearizable
  exact ⟨s, h⟩

/-- the same statement as `two_helpers_run`, with the end of the run of `schedS 5` as the witness (a helper that
resumes after the commit of its generation and after the NEXT resize has started: `stale_helper_linearizable`) -/
theorem stale_helper_run :
    ∃ s, Reachable 4 s ∧ quiescent s ∧ s.n.cur = 2 ∧ ∀ k < 4, Lin.Linearizable (callsOn s k) none (absOf s k) := by
  obtain ⟨s, -, h⟩ := stale_helper_linearizable
  exact ⟨s, h⟩

/-- the helper's re-check is load-bearing: the model without the re-checks is not linearizable -/
theorem noCheck_refuted :
    ¬ ∀ (n : Nat) (s : State), ReachableNoCheck n s → quiescent s → ∀ k,
      Lin.Linearizable (callsOn s k) none (absOf s k) := noCheck_refutes

end Flurry.Proto.BinNH
