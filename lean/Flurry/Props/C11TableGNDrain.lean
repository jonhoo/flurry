import Flurry.Lemmas.TableGND
/-! # C11 for `Proto/TableGN`, termination: the whole table — list and tree bins, any number of resizes — drains
under ANY schedule (the drain statements of `Props/C11TableG.lean` for `Proto/TableGN`)

> Once no new call, treeify or resize is started, every run of the threads in flight — in all lineages together, fair
> or not — is finite and ends with every call answered and every running resize committed.

`Proto/TableGN`: `m` lineages of `Proto/BinGN` on one clock. The per-lineage drain theorem
(`Props/C11BinGNDrain.lean`) is lifted to the table, over **all** reachable table states and **all** schedules.

**Quiet table step** (`TQStep`): a table step with `inv = none`, `mt = none`, `rz = false`, any `lo sm sm2`, of a thread
that is not `idle` in the lineage it steps in, with the scheduler restriction on `pick` of `BinGNP.QStep`: when the
stepping thread is the resizing thread of that lineage at `xNext` and some cell of generation `cur` of that lineage is
not yet forwarded, the cell it is handed, `pick % 2 ^ cur`, is one that is not yet forwarded (without it the theorem is
false, see `Props/C11BinGNDrain.lean`; `tableGN_quiet_run_extends` shows the restriction never disables a thread).

`Gmu S = Σ_i gmu (bins[i])`; `gmu_tick`: `gmu` does not read the clock. Proofs: `Lemmas/TableGND.lean`. -/
namespace Flurry.Proto.TableGND
open Flurry.Lin Flurry.LinMap Flurry.Proto.TableGN Flurry.Proto.TableGNL
open Flurry.Proto.TableN (globalKey)

/-- **the lineage measure does not read the clock**: a tick leaves `gmu` unchanged -/
theorem gmu_tick (b : BinGN.State) : BinGNP.gmu (tick b) = BinGNP.gmu b := rfl

/-- a quiet table step is a quiet step (`BinGNP.QStep`) of one lineage and a tick of every other one -/
theorem tableGN_quiet_step_effect {S S' : State} (h : TQStep S S') :
    ∃ (i : Nat) (b b' : BinGN.State), S.bins[i]? = some b ∧ BinGNP.QStep b b' ∧
      S' = { bins := (S.bins.map tick).set i b' } := h.effect

/-- conversely, a quiet step of a lineage of a reachable table is a quiet step of the table -/
theorem tableGN_quiet_step_of_lineage {m n : Nat} {S : State} (hr : Reachable m n S) {i : Nat} {b b' : BinGN.State}
    (hb : S.bins[i]? = some b) (hq : BinGNP.QStep b b') : TQStep S { bins := (S.bins.map tick).set i b' } :=
  tqstep_of_qstep hr hb hq

/-- **C11.1 for the table: the global measure strictly decreases.** In every reachable table state — resizes may be in
flight in any lineages, threads may be stale by any number of generations — every enabled quiet table step strictly
decreases `Gmu = Σ_i gmu (bins[i])`. -/
theorem tableGN_quiet_step_decreases {m n : Nat} {S S' : State} (hr : Reachable m n S) (h : TQStep S S') :
    Gmu S' < Gmu S := (tqdrains m n).lt hr h

/-- `Gmu` is bounded by `DrainBound`, the sum of the lineages' explicit bounds `BinGNP.drainBound` -/
theorem tableGN_Gmu_le_bound {m n : Nat} {S : State} (hr : Reachable m n S) : Gmu S ≤ DrainBound S :=
  Gmu_le_DrainBound hr

/-- **C11.2 for the table: quiet runs are bounded.** `k` quiet table steps from a reachable table `S` have
`k + Gmu S' ≤ Gmu S`; in particular `k ≤ Gmu S ≤ DrainBound S`. -/
theorem tableGN_quiet_run_bounded {m n : Nat} {S S' : State} {k : Nat} (hr : Reachable m n S) (h : TQRun S k S') :
    k + Gmu S' ≤ Gmu S ∧ k ≤ DrainBound S := by
  have h1 := (tqdrains m n).bounded hr (tqrun_iff.1 h)
  have h2 := Gmu_le_DrainBound hr
  exact ⟨h1, by omega⟩

/-- a quiet run that has not reached a quiescent table can be extended by a legal quiet step
(`BinGNP.qstep_of_not_quiescent` lifted: the `pick` restriction never disables the resizing thread) -/
theorem tableGN_quiet_run_extends {m n : Nat} {S S' : State} {k : Nat} (hr : Reachable m n S) (h : TQRun S k S')
    (hq : ¬ quiescent S') : ∃ S'', TQRun S (k + 1) S'' := by
  obtain ⟨S'', h''⟩ := (tqdrains m n).extends hr (tqrun_iff.1 h) hq
  exact ⟨S'', tqrun_iff.2 h''⟩

/-- **C11.3 for the table: every maximal quiet run drains the table.** From every reachable table, ANY sequence of quiet
table steps that cannot be extended ends in a QUIESCENT table — every thread `idle` in every lineage: all calls answered,
all treeifies done, all running resizes committed — after at most `Gmu S ≤ DrainBound S` steps. No fairness assumption. -/
theorem tableGN_drains {m n : Nat} {S S' : State} {k : Nat} (hr : Reachable m n S) (h : TQRun S k S')
    (hmax : ∀ S'', ¬ TQStep S' S'') : quiescent S' ∧ k ≤ Gmu S ∧ k ≤ DrainBound S := by
  have h1 := (tqdrains m n).bounded hr (tqrun_iff.1 h)
  have h2 := Gmu_le_DrainBound hr
  exact ⟨(tqdrains m n).maximal hr (tqrun_iff.1 h) hmax, by omega, by omega⟩

/-- a quiescent table is where quiet runs stop: maximal ⇔ quiescent -/
theorem tableGN_quiescent_iff_maximal {m n : Nat} {S : State} (hr : Reachable m n S) :
    quiescent S ↔ ∀ S', ¬ TQStep S S' :=
  (tqdrains m n).done_iff hr

/-- from every reachable table some quiet run reaches a quiescent table, within `Gmu S` steps -/
theorem tableGN_drain_exists {m n : Nat} {S : State} (hr : Reachable m n S) :
    ∃ k S', TQRun S k S' ∧ quiescent S' ∧ k ≤ Gmu S := by
  obtain ⟨k, S', h, hq, hb⟩ := (tqdrains m n).exists_run hr
  exact ⟨k, S', tqrun_iff.2 h, hq, by omega⟩

/-- there is no infinite execution of the table in which no new call / treeify / resize is started and only threads that
are not `idle` (where they step) take (legal) steps -/
theorem tableGN_no_infinite_quiet_run {m n : Nat} {S : State} (hr : Reachable m n S) (f : Nat → State)
    (h0 : f 0 = S) : ¬ ∀ i, TQStep (f i) (f (i + 1)) := (tqdrains m n).no_infinite hr f h0

/-- **C11.4 for the table: every call returns.** For a thread `t` with the call `p` (on local key `p.key`, i.e. key
`globalKey m j p.key = j + m * p.key` of the table) in flight in lineage `j` of a reachable table `S`: at the end of any
maximal quiet run from `S` the call has been answered — the history of the MAP has an entry with the thread, key of the
table, operation and invocation time of `p`. -/
theorem tableGN_every_call_returns {m n : Nat} {S S' : State} {k : Nat} (hr : Reachable m n S) (h : TQRun S k S')
    (hmax : ∀ S'', ¬ TQStep S' S'') {j t : Nat} {bj : BinGN.State} {l : BinGN.Local} {p : BinGN.Pending}
    (hj : S.bins[j]? = some bj) (hl : bj.threads[t]? = some l) (hp : l.call = some p) :
    ∃ res resp, (⟨globalKey m j p.key, { tid := t, op := p.op, res := res, inv := p.inv, resp := resp }⟩ : MCall) ∈
      mhist S' := by
  have hq := (tqdrains m n).maximal hr (tqrun_iff.1 h) hmax
  obtain ⟨bj', hj', hpa⟩ := tqrun_pendOrAns h hj (Or.inl ⟨l, hl, hp⟩)
  have I' := reachable_tblInv (h.reachable hr)
  have hrb := I'.reach j bj' hj'
  have := answered_mhist hj' (BinGNP.answered_of_quiescent hrb (hq bj' (List.mem_of_getElem? hj')) hpa)
  rw [I'.len] at this
  exact this

end Flurry.Proto.TableGND
