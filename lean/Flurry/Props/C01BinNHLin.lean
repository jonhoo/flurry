import Flurry.Lemmas.BinNHFullReach
/-! # C01 / C10 (bin level): linearizability of the COOPERATIVE resize (`Proto/BinNH`)

`Proto/BinNH.lean`: `Proto/BinN` (a list-bin lineage through any number of successive resizes) with HELPERS —
any number of threads are resizing threads of the current generation at the same time, on different cells or on
the same cell, each may be suspended anywhere (e.g. between "store high" and "store marker", holding the bin
lock), may leave, and any of them may commit once all cells are forwarded; a helper that is stale by a generation
resumes harmlessly.

**Main theorem.** For every reachable state and every key, the history of that key — the completed calls, plus
the calls of writers that have done their store and only have to unlock — is linearizable from "absent" to the
key's current abstract state (`binNH_linearizable`; quiescent form `binNH_linearizable_quiescent`), under every
interleaving of any number of threads, any number of successive resizes, and any number of helpers per resize.
**No step of a resizing thread and no start of a resize changes the abstract state of any key**
(`transfer_abs_invariant`: the loads, the CAS of an empty cell, lock / re-check / unlock, the split, the stores of
the low list, of the high list and of the forwarding marker, the commit, joining, leaving, the allocation).

**How.** `Lemmas/BinNHM*.lean` is `Proto/BinN`'s heap invariant and hindsight layer (`HInv`, `Good`, the surgeries
on the chains, the effect of every step of a transfer) with the ghost "cell in mid-transfer" not ONE cell
(`mid : Option (j, lo, hg)`, one fresh range) but a map over the cells (`mid : j ↦ (lo, hg, fr)`), so that several
cells can be in mid-transfer at once: every effect lemma of a transfer step frames the splits of the other cells
(different cells with disjoint chains: validated bin locks are exclusive); the readers and writers are
`Proto/BinN`'s, literally (`BinNHM.ginv_step` is `BinNHM.ginv_rw`, the case analysis that `BinN.ginv_step` uses for
them as well). `Lemmas/BinNHFull*.lean` links the helpers' program counters to the ghost (`Full`: each cell in
mid-transfer belongs to one helper, `one_split_per_helper`) and does the induction (`reachable_full`).

`binNH_linearizable` / `binNH_linearizable_quiescent` stand for C01; `transfer_abs_invariant` and
`one_split_per_helper` for C10 (every old bin is migrated by one helper at a time, and no migration has an abstract
effect); `chains_wellformed` is the heap invariant's statement about the chains, as in `Props/C01BinN`. -/
namespace Flurry.Proto.BinNH
open Flurry.Lin

/-- the calls on `k` that have taken effect: the completed ones and those of the writers that have stored -/
def callsOnExt (s : State) (k : Nat) : History := BinN.callsOnExt s.n k

theorem reachable_full_invariant {n : Nat} {s : State} (hr : Reachable n s) (k : Nat) :
    ∃ G A pt, Full s G ∧ BinNHM.GInv k s.n G A pt := reachable_full hr k

/-- **C01 / C10, bin level, cooperative resize.** Under every interleaving of any number of threads, any number
of successive resizes and any number of helpers, the per-key history (completed calls plus stored-but-not-yet-unlocked
writers) is linearizable and ends in the abstract content of the key. -/
theorem binNH_linearizable {n : Nat} {s : State} (hr : Reachable n s) (k : Nat) :
    Lin.Linearizable (callsOnExt s k) none (absOf s k) := by
  obtain ⟨G, A, pt, F, g⟩ := reachable_full hr k
  exact g.core.linearizable F.inv.thr

theorem binNH_linearizable_quiescent {n : Nat} {s : State} (hr : Reachable n s) (hq : quiescent s) (k : Nat) :
    Lin.Linearizable (callsOn s k) none (absOf s k) := by
  obtain ⟨G, A, pt, F, g⟩ := reachable_full hr k
  exact g.core.linearizable_quiescent F.inv.thr hq.1

/-- **the transfers have no abstract effect — with helpers**: no step of a resizing thread (of whatever generation,
whatever the other helpers are doing): the loads, the CAS of an empty cell to `moved`, lock / re-check / unlock, the
split (`build`), the store of the low list, of the high list, of the forwarding marker (where the live chain of
every key of the cell switches from the old list to a new one), leaving, the commit — and no step by which an idle
thread becomes a resizing thread (joining; starting a resize = allocating the next generation) changes the abstract
state of any key -/
theorem transfer_abs_invariant {n : Nat} {s s' : State} (hr : Reachable n s) {t : Nat}
    {inv : Option (Nat × KOp)} {rz leave : Bool} {pick : Nat} (hs : step s t inv rz leave pick = some s')
    (hT : (∃ hp, s.hs[t]? = some (some hp)) ∨ (s.hs[t]? = some none ∧ s'.hs[t]? ≠ some none)) (k : Nat) :
    absOf s' k = absOf s k := by
  obtain ⟨G, A, pt, F, g⟩ := reachable_full hr 0
  exact (full_step F g hs).2 hT k

/-- the chains of a reachable state: every cell (of every generation) is the head of a chain that is strictly
increasing in `ord` (hence acyclic and duplicate-free), with pairwise distinct keys that all belong to the cell —
also while any number of helpers are in the middle of their transfers -/
theorem chains_wellformed {n : Nat} {s : State} (hr : Reachable n s) :
    ∃ cr : BinN.CR, BinN.NextOK cr s.n.heap ∧ ∀ id : BinN.CellId,
      BinX.IsChain s.n.heap (BinX.cellHead (BinN.getCell s.n id)) (BinN.chId s.n id) ∧ (BinN.chId s.n id).Nodup ∧
      (BinN.chId s.n id).Pairwise (fun x y => BinN.ord cr x < BinN.ord cr y) ∧
      BinX.KeysDistinct s.n.heap (BinN.chId s.n id) ∧
      ∀ i ∈ BinN.chId s.n id, (BinX.nodeAt s.n.heap i).key % 2 ^ id.1 = id.2 := by
  obtain ⟨G, A, pt, F, g⟩ := reachable_full hr 0
  have H := F.inv.heap
  exact ⟨G.cr, H.nextOK, fun id => ⟨H.isChain id, H.chain_nodup id, (H.isChain id).sorted H.nextOK, H.keys id, H.side id⟩⟩

/-- one split per helper: every recorded split belongs to a helper of generation `cur` between its `build` and its
marker store, which holds the validated bin lock of the cell; the cells of the next generation are empty unless their
parent is forwarded or being split -/
theorem one_split_per_helper {n : Nat} {s : State} (hr : Reachable n s) :
    ∃ G : BinNHM.Ghost,
      (∀ j, BinNHM.IsMid G j → ∃ (t : Nat) (hp : Helper) (h : Nat), s.hs[t]? = some (some hp) ∧ isMidH hp.pc j ∧
        hvalid hp.pc = some (j, h) ∧ hp.g = s.n.cur ∧ BinN.cellAt s.n s.n.cur j = .node h ∧
        BinN.lockAt s.n.heap h = some t) ∧
      (∀ j', BinN.cellAt s.n s.n.cur (j' % 2 ^ s.n.cur) ≠ .moved → ¬ BinNHM.IsMid G (j' % 2 ^ s.n.cur) →
        BinN.cellAt s.n (s.n.cur + 1) j' = .empty) := by
  obtain ⟨G, A, pt, F, g⟩ := reachable_full hr 0
  exact ⟨G, fun j hm => F.mid_lock hm, F.inv.heap.nextEmpty⟩

end Flurry.Proto.BinNH
