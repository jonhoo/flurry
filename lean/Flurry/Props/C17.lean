import Flurry.Props.C17Defs
/-! # C17 — only thread-safe keys and values can enter a map (compile time): table theorems

Definitions (`inserting`, `sendSync`, `lookupLike`) are in `Props/C17Defs.lean`. -/
namespace Flurry.C17
open Flurry.Sig Flurry.Gen

/-- the table theorem with its two non-vacuity checks: every inserting entry point requires
`Send + Sync`, there are at least 20 of them, and the ones the property names are among them -/
theorem inserting_rows :
    (apiFns.filter inserting).all sendSync = true ∧ (apiFns.filter inserting).length ≥ 20 ∧
    ["insert", "try_insert", "compute_if_present", "extend", "from_iter", "clone", "deserialize",
     "from_par_iter", "par_extend"].all (fun n => (apiFns.filter inserting).any (·.fn == n)) = true := by
  decide +kernel

/-- **table theorem**: every inserting entry point requires `Send + Sync` of keys and values -/
theorem inserting_needs_send_sync : (apiFns.filter inserting).all sendSync = true := inserting_rows.1

theorem lookup_unbounded :
    (apiFns.filter lookupLike).all
      (fun f => f.bounds.all fun b => b.2 != "Send" && b.2 != "Sync") = true := by decide +kernel

/-- the `unsafe impl Send/Sync for BinEntry` are conditional on the key and value types -/
theorem binentry_conditional :
    unsafeImpls.all (fun u =>
      u.bounds.any (fun b => b.1 == "K" && b.2 == u.trait_) &&
      u.bounds.any (fun b => b.1 == "V" && b.2 == u.trait_)) = true ∧
    2 ≤ unsafeImpls.length := by decide +kernel

-- non-vacuity: the entry points the property names are classified as inserting
example : (apiFns.filter inserting).length ≥ 20 := inserting_rows.2.1
example : ["insert", "try_insert", "compute_if_present", "extend", "from_iter", "clone", "deserialize",
    "from_par_iter", "par_extend"].all (fun n => (apiFns.filter inserting).any (·.fn == n)) = true := inserting_rows.2.2

end Flurry.C17
