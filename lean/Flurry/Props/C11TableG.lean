import Flurry.Lemmas.TableGP
import Flurry.Lemmas.TableGExamples
import Flurry.Props.C01TableG
import Flurry.Props.C11BinG
import Flurry.Props.C11BinGDrain
/-! # C11 for `Proto/TableG`: the whole table is never stuck, and it drains under ANY schedule

> A thread holds at most one bin lock at a time; the resizing thread holds one lock; readers never wait.
> Hence no reachable state of the table is a deadlock, and once no new call, treeify or transfer is
> started every run of the threads in flight — in all bins together, fair or not — is finite and ends
> with every call answered.

`Proto/TableG`: `m` lineages of `Proto/BinG` on one clock, any number of threads, a thread inside at most
one lineage at a time. The lineage-level theorems (`Props/C11BinG.lean`, `Props/C11BinGDrain.lean`) are
lifted to the table, over **all** reachable table states and **all** schedules:

1. `tableG_active_idle_elsewhere`, `tableG_step_is_lineage_step`: a thread that is not `idle` in lineage
   `i` is `idle` in every other lineage, so the table lets it take in lineage `i` exactly the steps the
   lineage lets it take (as long as it starts nothing: the `inLineage` side conditions of `TableG.step`
   concern invocations and treeify keys only);
2. `tableG_never_stuck_all` / `tableG_never_stuck`: a table that is not quiescent has a thread that is not
   `idle` in some lineage and whose table step there is enabled;
3. `TQStep` (a table step with `inv = none`, `maint = none`, `resize = false` of a thread that is not
   `idle` in the lineage it steps in), `Gmu S = Σ_i gmu (bins[i])`; `gmu_tick`: `gmu` does not read the
   clock; `tableG_quiet_step_decreases`: EVERY quiet table step strictly decreases `Gmu`;
4. `tableG_quiet_run_bounded`, `tableG_drains`: every maximal quiet run from a reachable table ends, after
   at most `Gmu S ≤ DrainBound S` steps, in a quiescent table. No fairness assumption.
   `tableG_drain_exists`, `tableG_no_infinite_quiet_run`, `tableG_quiescent_iff_maximal`;
5. `tableG_every_call_returns`: every call in flight anywhere in the table has been answered at the end
   of a maximal quiet run: the map history has its entry (same thread, key, operation, invocation time);
6. an example with two lineages.

Proofs: `Lemmas/TableGP.lean`. -/
namespace Flurry.Proto.TableGP
open Flurry.Lin Flurry.LinMap Flurry.Proto.TableG

/-- **a thread that is not `idle` in lineage `i` is `idle` in every other lineage** of a reachable
table (`tableG_one_lineage_per_thread`, and all lineages have the same threads) -/
theorem tableG_active_idle_elsewhere {m n : Nat} {S : State} (hr : Reachable m n S) {i t : Nat} {b : BinG.State}
    {l : BinG.Local} (hb : S.bins[i]? = some b) (hl : b.threads[t]? = some l) (hne : l.pc ≠ .idle)
    {j : Nat} {bj : BinG.State} (hji : j ≠ i) (hj : S.bins[j]? = some bj) : idleIn bj t = true :=
  idleElse_of_active hr hb hl hne j bj hji hj

/-- **the table does not get in the way**: an enabled lineage step of a thread that is not `idle` in
lineage `i` and starts no call and no treeify (any `lo rz sm sm2`; `rz` is ignored by such a thread) is
an enabled table step; lineage `i` makes that step, every other lineage ticks -/
theorem tableG_step_is_lineage_step {m n : Nat} {S : State} (hr : Reachable m n S) {i t : Nat} {b b' : BinG.State}
    {l : BinG.Local} (hb : S.bins[i]? = some b) (hl : b.threads[t]? = some l) (hne : l.pc ≠ .idle)
    {lo rz sm sm2 : Bool} (hs : BinG.step b t none lo none rz sm sm2 = some b') :
    step S i t none lo none rz sm sm2 = some { bins := (S.bins.map tick).set i b' } :=
  active_step_lift hr hb hl hne hs

/-- **C11 for the table, strong form**: in every reachable table state that is not quiescent, some
thread that is not `idle` in some lineage `i` has a table step in lineage `i` that is enabled whatever
`lo rz sm sm2` are (it starts nothing: `inv = none`, `maint = none`) -/
theorem tableG_never_stuck_all {m n : Nat} {S : State} (hr : Reachable m n S) (hq : ¬ quiescent S) :
    ∃ (i : Nat) (b : BinG.State) (t : Nat) (l : BinG.Local), S.bins[i]? = some b ∧ b.threads[t]? = some l ∧
      l.pc ≠ .idle ∧ ∀ (lo rz sm sm2 : Bool), (step S i t none lo none rz sm sm2).isSome = true :=
  never_stuck_aux hr hq

/-- **C11 for the table: no deadlock.** In every reachable table state that is not quiescent, some
thread that is NOT idle in some lineage has an enabled table step there. -/
theorem tableG_never_stuck {m n : Nat} {S : State} (hr : Reachable m n S) (hq : ¬ quiescent S) :
    ∃ (i : Nat) (b : BinG.State) (t : Nat) (l : BinG.Local), S.bins[i]? = some b ∧ b.threads[t]? = some l ∧
      l.pc ≠ .idle ∧ ∃ S', step S i t none false none false false false = some S' := by
  obtain ⟨i, b, t, l, hb, hl, hne, he⟩ := never_stuck_aux hr hq
  exact ⟨i, b, t, l, hb, hl, hne, Option.isSome_iff_exists.1 (he false false false false)⟩

theorem gmu_tick (b : BinG.State) : BinG.gmu (tick b) = BinG.gmu b := rfl

theorem tableG_quiet_step_effect {S S' : State} (h : TQStep S S') :
    ∃ (i : Nat) (b b' : BinG.State), S.bins[i]? = some b ∧ BinG.QStep b b' ∧
      S' = { bins := (S.bins.map tick).set i b' } := h.effect

/-- **C11.1 for the table: the global measure strictly decreases.** In every reachable table state,
every enabled quiet table step — any lineage, any thread that is not `idle` there, any `lo sm sm2` —
strictly decreases `Gmu = Σ_i gmu (bins[i])`. -/
theorem tableG_quiet_step_decreases {m n : Nat} {S S' : State} (hr : Reachable m n S) (h : TQStep S S') :
    Gmu S' < Gmu S := (tqdrains m n).lt hr h

theorem tableG_Gmu_le_bound {m n : Nat} {S : State} (hr : Reachable m n S) : Gmu S ≤ DrainBound S :=
  Gmu_le_DrainBound hr

/-- **C11.2 for the table: quiet runs are bounded.** `k` quiet table steps from a reachable table `S`
have `k + Gmu S' ≤ Gmu S`; in particular `k ≤ Gmu S ≤ DrainBound S`. -/
theorem tableG_quiet_run_bounded {m n : Nat} {S S' : State} {k : Nat} (hr : Reachable m n S) (h : TQRun S k S') :
    k + Gmu S' ≤ Gmu S ∧ k ≤ DrainBound S := by
  have h1 := (tqdrains m n).bounded hr (tqrun_iff.1 h)
  have h2 := Gmu_le_DrainBound hr
  exact ⟨h1, by omega⟩

theorem tableG_quiet_run_extends {m n : Nat} {S S' : State} {k : Nat} (hr : Reachable m n S) (h : TQRun S k S')
    (hq : ¬ quiescent S') : ∃ S'', TQRun S (k + 1) S'' := by
  obtain ⟨S'', h''⟩ := (tqdrains m n).extends hr (tqrun_iff.1 h) hq
  exact ⟨S'', tqrun_iff.2 h''⟩

/-- **C11.3 for the table: every maximal quiet run drains the table.** From every reachable table, ANY
sequence of quiet table steps that cannot be extended ends in a QUIESCENT table — every thread `idle`
in every lineage: all calls, treeifies and transfers done — after at most `Gmu S ≤ DrainBound S` steps.
No fairness assumption. -/
theorem tableG_drains {m n : Nat} {S S' : State} {k : Nat} (hr : Reachable m n S) (h : TQRun S k S')
    (hmax : ∀ S'', ¬ TQStep S' S'') : quiescent S' ∧ k ≤ Gmu S ∧ k ≤ DrainBound S := by
  have h1 := (tqdrains m n).bounded hr (tqrun_iff.1 h)
  have h2 := Gmu_le_DrainBound hr
  exact ⟨(tqdrains m n).maximal hr (tqrun_iff.1 h) hmax, by omega, by omega⟩

theorem tableG_quiescent_iff_maximal {m n : Nat} {S : State} (hr : Reachable m n S) :
    quiescent S ↔ ∀ S', ¬ TQStep S S' :=
  (tqdrains m n).done_iff hr

theorem tableG_drain_exists {m n : Nat} {S : State} (hr : Reachable m n S) :
    ∃ k S', TQRun S k S' ∧ quiescent S' ∧ k ≤ Gmu S := by
  obtain ⟨k, S', h, hq, hb⟩ := (tqdrains m n).exists_run hr
  exact ⟨k, S', tqrun_iff.2 h, hq, by omega⟩

/-- there is no infinite execution of the table in which no new call / treeify / transfer is started
and only threads that are not `idle` (where they step) take steps -/
theorem tableG_no_infinite_quiet_run {m n : Nat} {S : State} (hr : Reachable m n S) (f : Nat → State)
    (h0 : f 0 = S) : ¬ ∀ i, TQStep (f i) (f (i + 1)) := (tqdrains m n).no_infinite hr f h0

/-- **C11.4 for the table: every call returns.** For a thread `t` with the call `p` in flight in
lineage `j` of a reachable table `S`: at the end of any maximal quiet run from `S` the call has been
answered — the history of the MAP has an entry with the thread, key, operation and invocation time of
`p` (and the table is quiescent). -/
theorem tableG_every_call_returns {m n : Nat} {S S' : State} {k : Nat} (hr : Reachable m n S) (h : TQRun S k S')
    (hmax : ∀ S'', ¬ TQStep S' S'') {j t : Nat} {bj : BinG.State} {l : BinG.Local} {p : BinG.Pending}
    (hj : S.bins[j]? = some bj) (hl : bj.threads[t]? = some l) (hp : l.call = some p) :
    ∃ res resp, (⟨p.key, { tid := t, op := p.op, res := res, inv := p.inv, resp := resp }⟩ : MCall) ∈ mhist S' := by
  have hq := (tqdrains m n).maximal hr (tqrun_iff.1 h) hmax
  obtain ⟨bj', hj', hpa⟩ := tqrun_pendOrAns h hj (Or.inl ⟨l, hl, hp⟩)
  have hrb := (reachable_tblInv (h.reachable hr)).reach j bj' hj'
  exact answered_mhist hj' (BinG.answered_of_quiescent hrb (hq bj' (List.mem_of_getElem? hj')) hpa)

/-- run quiet table steps `(lineage, thread)` (`lo = sm = sm2 = false`); `none` if the thread is `idle`
in that lineage or its step is not enabled -/
def runQuiet : State → List (Nat × Nat) → Option State
  | S, [] => some S
  | S, (i, t) :: rest =>
    match S.bins[i]? with
    | none => none
    | some b =>
      match b.threads[t]? with
      | none => none
      | some l =>
        if l.pc = .idle then none
        else
          match step S i t none false none false false false with
          | none => none
          | some S' => runQuiet S' rest

theorem runQuiet_tqrun : ∀ (sc : List (Nat × Nat)) {S S' : State}, runQuiet S sc = some S' → TQRun S sc.length S'
  | [], S, S', h => by
    simp only [runQuiet, Option.some.injEq] at h
    subst h
    exact .nil S
  | (i, t) :: rest, S, S', h => by
    unfold runQuiet at h
    cases hb : S.bins[i]? with
    | none => rw [hb] at h; cases h
    | some b =>
      rw [hb] at h
      dsimp only at h
      cases hl : b.threads[t]? with
      | none => rw [hl] at h; cases h
      | some l =>
        rw [hl] at h
        dsimp only at h
        by_cases hid : l.pc = .idle
        · rw [if_pos hid] at h; cases h
        · rw [if_neg hid] at h
          cases hs : step S i t none false none false false false with
          | none => rw [hs] at h; cases h
          | some S1 =>
            rw [hs] at h
            exact .cons ⟨i, t, b, l, false, false, false, hb, hl, hid, hs⟩ (runQuiet_tqrun rest h)

def quiescentB (S : State) : Bool := S.bins.all BinG.quiescentB

theorem quiescentB_iff (S : State) : quiescentB S = true ↔ quiescent S := by
  unfold quiescentB quiescent
  rw [List.all_eq_true]
  exact ⟨fun h b hb => (BinG.quiescentB_iff b).1 (h b hb), fun h b hb => (BinG.quiescentB_iff b).2 (h b hb)⟩

/-- `m = 2` lineages (keys 0, 4 in lineage 0; keys 2, 3 in lineage 1), four threads, one clock.
**Lineage 0**: thread 0 inserts keys 0 and 4, thread 1 treeifies the bin (`TreeBin` 0); thread 2 calls
`get 0`, takes the read lock and is suspended at `rTree`; thread 0 calls `rm 4` and is **parked at
`lrLoop` behind the reader** (`WAITER` set). **Lineage 1**: thread 3 inserts keys 2 and 3 (a list bin,
one key per side), starts the transfer of the lineage, locks the head, splits and is suspended at
`xStoreHigh` — **mid-transfer, holding the bin lock**; thread 1 calls `rm 2` and **waits for that lock**
at `wLock`. Of the four threads only the reader (in lineage 0) and the transferring thread (in
lineage 1) can move. -/
def busySched : List Sch :=
  call 0 0 0 (.ins 5 100) ++ go 0 0 3 ++ call 0 0 4 (.ins 6 101) ++ go 0 0 8 ++ treeify 0 1 0 ++ go 0 1 7 ++
  call 1 3 2 (.ins 20 200) ++ go 1 3 3 ++ call 1 3 3 (.ins 30 300) ++ go 1 3 8 ++
  call 0 2 0 .get ++ go 0 2 5 ++ call 0 0 4 .rm ++ go 0 0 7 ++
  resize 1 3 ++ go 1 3 2 ++ call 1 1 2 .rm ++ go 1 1 2 ++ go 1 3 3

def busyState : Option State := run (init 2 4) busySched

/-- the two lineages interleaved: the transfer of lineage 1 finishes (4 steps of thread 3), the reader
leaves lineage 0 (3 steps of thread 2), the parked writer takes the write lock and finishes `rm 4`
(5 steps of thread 0), the queued writer takes the lock of the old head, **fails its re-check**,
follows the forwarding marker and removes key 2 in the new table (10 steps of thread 1): 22 quiet steps -/
def drainSched : List (Nat × Nat) :=
  [(1, 3), (0, 2), (1, 3), (0, 2), (0, 0), (1, 3), (0, 2), (1, 1), (0, 0), (1, 3), (0, 0), (1, 1), (0, 0), (0, 0)] ++
    List.replicate 8 (1, 1)

theorem busy_facts :
    (decide ((busyState.map fun S => (S.bins.map fun b => b.threads.map (·.pc),
        (List.range 2).map fun i => (List.range 4).map fun t => (step S i t none false none false false false).isSome)) =
      some ([[.lrLoop .old 0 (.remove 3) (.some 6 101), .idle, .rTree 0, .idle],
             [.idle, .wLock .old 0, .idle, .xStoreHigh (.inl 0) (.list 1)]],
            [[false, false, true, false], [false, false, false, true]])) &&
    decide ((busyState.bind fun S => (runQuiet S drainSched).map fun S' =>
        (quiescentB S', drainSched.length, S.bins.map BinG.gmu, Gmu S, Gmu S', S'.bins.map (·.now))) =
      some (true, 22, [2013, 2738], 4751, 0, [79, 79])) &&
    decide ((busyState.bind fun S => (runQuiet S drainSched).map fun S' =>
        ((mhist S').filter (fun c => decide (57 ≤ c.call.resp)) |>.map fun c => (c.key, c.call.tid, c.call.res),
          S'.bins.map fun b => (b.cell0, b.cur))) =
      some ([(0, 2, .some 5 100), (4, 0, .some 6 101), (2, 1, .some 20 200)],
        [(.tree 0, .old), (.moved, .new)])) &&
    decide (((List.range 6).map fun k => busyState.bind fun S => (runQuiet S (drainSched.take k)).map Gmu) =
      [some 4751, some 4413, some 4412, some 4084, some 3682, some 3280]) &&
    decide ((busyState.bind fun S => (runQuiet S drainSched).map fun S' => (quiescentB S, quiescentB S')) =
      some (false, true)) &&
    decide ((busyState.map fun S => (S.bins[0]?).map fun b => (b.threads[2]?, BinG.soloBound b)) =
      some (some (some { pc := .rTree 0, call := some ⟨0, .get, 35⟩ }, 26))) &&
    decide ((busyState.bind fun S => (runSolo 0 2 false false 3 S).map fun S' =>
        ((S.bins[0]?).map BinG.soloBound, (S'.bins[0]?).map (fun b => (b.threads[2]?, b.hist.head?)))) =
      some (some 26, some (some { pc := .idle, call := none },
          some (0, { tid := 2, op := .get, res := .some 5 100, inv := 35, resp := 60 })))) &&
    decide ((busyState.bind fun S => (runSolo 0 2 false false 3 S).map fun S' =>
        ((S.bins[1]?).map (fun b => (b.threads.map (·.pc), b.cell0, b.now)),
          (S'.bins[1]?).map (fun b => (b.threads.map (·.pc), b.cell0, b.now)))) =
      some (some ([.idle, .wLock .old 0, .idle, .xStoreHigh (.inl 0) (.list 1)], .list 0, 57),
        some ([.idle, .wLock .old 0, .idle, .xStoreHigh (.inl 0) (.list 1)], .list 0, 60)))) = true := by
  decide +kernel

/-- the program counters of the four threads in the two lineages, and which `(lineage, thread)` pairs
have an enabled table step: only the reader in lineage 0 and the transferring thread in lineage 1 -/
theorem busy_shape : (busyState.map fun S => (S.bins.map fun b => b.threads.map (·.pc),
      (List.range 2).map fun i => (List.range 4).map fun t => (step S i t none false none false false false).isSome)) =
    some ([[.lrLoop .old 0 (.remove 3) (.some 6 101), .idle, .rTree 0, .idle],
           [.idle, .wLock .old 0, .idle, .xStoreHigh (.inl 0) (.list 1)]],
          [[false, false, true, false], [false, false, false, true]]) := by
  have h := busy_facts
  simp only [Bool.and_eq_true, decide_eq_true_eq] at h
  exact h.1.1.1.1.1.1.1

/-- the run drains the table: quiescent, `Gmu` from 4751 (= 2013 + 2738) to 0; its length 22 is within
`Gmu`; both lineages' clocks show the same time -/
theorem busy_drained : (busyState.bind fun S => (runQuiet S drainSched).map fun S' =>
      (quiescentB S', drainSched.length, S.bins.map BinG.gmu, Gmu S, Gmu S', S'.bins.map (·.now))) =
    some (true, 22, [2013, 2738], 4751, 0, [79, 79]) := by
  have h := busy_facts
  simp only [Bool.and_eq_true, decide_eq_true_eq] at h
  exact h.1.1.1.1.1.1.2

/-- the three calls in flight have been answered in the history of the map, and lineage 1 is transferred -/
example : (busyState.bind fun S => (runQuiet S drainSched).map fun S' =>
      ((mhist S').filter (fun c => decide (57 ≤ c.call.resp)) |>.map fun c => (c.key, c.call.tid, c.call.res),
        S'.bins.map fun b => (b.cell0, b.cur))) =
    some ([(0, 2, .some 5 100), (4, 0, .some 6 101), (2, 1, .some 20 200)],
      [(.tree 0, .old), (.moved, .new)]) := by
  have h := busy_facts
  simp only [Bool.and_eq_true, decide_eq_true_eq] at h
  exact h.1.1.1.1.1.2

/-- `Gmu` along the first steps of that run: strictly decreasing -/
example : ((List.range 6).map fun k => busyState.bind fun S => (runQuiet S (drainSched.take k)).map Gmu) =
    [some 4751, some 4413, some 4412, some 4084, some 3682, some 3280] := by
  have h := busy_facts
  simp only [Bool.and_eq_true, decide_eq_true_eq] at h
  exact h.1.1.1.1.2

/-- the general theorems instantiated at `busyState` -/
theorem busy_example : ∃ S S', busyState = some S ∧ Reachable 2 4 S ∧ ¬ quiescent S ∧ TQRun S 22 S' ∧
    quiescent S' ∧ 22 ≤ Gmu S ∧ (∀ S'', ¬ TQStep S' S'') := by
  have h := busy_facts
  simp only [Bool.and_eq_true, decide_eq_true_eq] at h
  obtain ⟨S, hs, h⟩ := Option.bind_eq_some_iff.1 h.1.1.1.2
  obtain ⟨S', hs', h⟩ := Option.map_eq_some_iff.1 h
  simp only [Prod.mk.injEq] at h
  have hr : Reachable 2 4 S := run_reachable busySched Reachable.init hs
  have hrun : TQRun S 22 S' := runQuiet_tqrun drainSched hs'
  have hq : quiescent S' := (quiescentB_iff S').1 h.2
  have hnq : ¬ quiescent S := fun hq0 => by
    have := (quiescentB_iff S).2 hq0
    rw [h.1] at this
    cases this
  have hb := (tableG_quiet_run_bounded hr hrun).1
  exact ⟨S, S', hs, hr, hnq, hrun, hq, by omega, fun _ => (tqdrains 2 4).stop hq⟩

end Flurry.Proto.TableGP
