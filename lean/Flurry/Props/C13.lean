import Flurry.Lemmas.SeqOps
import Flurry.Gen.Guards
import Flurry.Gen.Atomics
/-! # C13 — `retain` / `retain_force` are the filter

The predicate gets `(key, value payload, value id)` and answers `some true` (keep), `some false`
(drop) or `none` (it panics). The lemmas are in `Flurry/Lemmas/SeqOpsRetain.lean`. Two sections on
tables regenerated from the source follow: the reference wrappers delegate to the methods of the
same name, and `replace_node` never writes its parameters. -/
namespace Flurry.C13
open Flurry Flurry.Gen Flurry.Seq

/-- **`retain` = filter** (a predicate that does not panic): the abstract map afterwards is the
old one restricted to the entries the predicate accepts; the state is `Good`; the answer is `ok`. -/
theorem retain_eq_filter (m : Map) (hg : Good m) (f : Nat → Nat → Nat → Option Bool)
    (ht : ∀ k v vi, (f k v vi).isSome) :
    Good (retain false f m).1 ∧
    absMap (retain false f m).1 = (absMap m).filter (fun k v vi => (f k v vi).getD true) ∧
    (retain false f m).2 = .ok :=
  ⟨retain_good false hg ht, retain_absMap false hg ht,
    (retain_spec false hg (fun nd _ => ht nd.key nd.val nd.vi)).2⟩

/-- **`retain_force` = filter**: sequentially it coincides with `retain` -/
theorem retain_force_eq_filter (m : Map) (hg : Good m) (f : Nat → Nat → Nat → Option Bool)
    (ht : ∀ k v vi, (f k v vi).isSome) :
    Good (retain true f m).1 ∧
    absMap (retain true f m).1 = (absMap m).filter (fun k v vi => (f k v vi).getD true) ∧
    (retain true f m).2 = .ok ∧
    absMap (retain true f m).1 = absMap (retain false f m).1 :=
  ⟨retain_good true hg ht, retain_absMap true hg ht,
    (retain_spec true hg (fun nd _ => ht nd.key nd.val nd.vi)).2, retain_force_eq hg ht⟩

/-- **only rejected entries are removed** (any predicate, also one that panics part-way, either
variant): every entry either survives untouched or is gone, and it is gone only if the predicate
was shown exactly that entry and answered "drop". -/
theorem retain_removes_only_rejected (m : Map) (hg : Good m) (force : Bool)
    (f : Nat → Nat → Nat → Option Bool) (k : Nat) :
    absMap (retain force f m).1 k = absMap m k ∨
    (absMap (retain force f m).1 k = none ∧
      ∃ ki v vi, absMap m k = some (ki, v, vi) ∧ f k v vi = some false) :=
  Seq.retain_removes_only_rejected force f hg k

/-- `retain` never resizes: table, threshold and resize counter are untouched -/
theorem retain_capacity (m : Map) (hg : Good m) (force : Bool) (f : Nat → Nat → Nat → Option Bool) :
    tableLen (retain force f m).1 = tableLen m ∧ (retain force f m).1.resizes = m.resizes := by
  obtain ⟨_, _, _, _, hp, _⟩ := retain_any force f hg
  exact ⟨hp.tableLen_eq, hp.resizes_eq⟩

example : Good ex2 := ex2_good
/-- keep the values `> 10`: key `1 ↦ 10` goes, key `2 ↦ 20` stays -/
example : absMap (retain false (fun _ v _ => some (decide (v > 10))) ex2).1 1 = none ∧
    absMap (retain false (fun _ v _ => some (decide (v > 10))) ex2).1 2 = some (8, 20, 200) := by
  decide +kernel

/-! ## the reference wrappers are the same operations

`HashMapRef` / `HashSetRef` (what `pin()` and `with_guard()` return) carry their own guard and are
what most callers use. The statements above are about `HashMap::retain` / `retain_force` (and the
model's operations in general); they transfer to the wrapper API because every wrapper method whose
name also exists on the wrapped collection hands its guard to exactly that method and to nothing
else — on the guard-flow table regenerated from the source. (A wrapper `retain_force` that calls
`retain` is invisible to every sequential test: the two differ only under a concurrent
replacement.) Trait methods (`eq`, …) are excluded: they delegate to differently named helpers. -/
section Wrappers
open Flurry.Sig Flurry.Gen

def innerOf (ty : String) : String :=
  if ty == "HashMapRef" then "HashMap" else if ty == "HashSetRef" then "HashSet" else ""

/-- the callee names (`Type::fn`) a row hands its guard to -/
def callees (r : GFn) : List String :=
  r.uses.filterMap fun u => match u with | .call _ n => some n | _ => none

def traitMethod (f : String) : Bool := f == "eq" || f == "clone" || f == "fmt" || f == "index" || f == "into_iter"

/-- a wrapper method whose name also exists on the wrapped collection delegates to exactly that method -/
def delegatesByName (r : GFn) : Bool :=
  let inner := innerOf r.ty
  if inner == "" || !r.pub || r.param != "self.guard" || traitMethod r.fn then true
  else if guardFns.any (fun q => q.ty == inner && q.fn == r.fn) then callees r == [inner ++ "::" ++ r.fn]
  else true

theorem wrappers_delegate_by_name : guardFns.all delegatesByName = true := by decide +kernel

-- non-vacuity: the table contains the wrapper rows the statement is about
example : (guardFns.filter fun r => innerOf r.ty != "" && r.pub && r.param == "self.guard" && !traitMethod r.fn &&
    guardFns.any (fun q => q.ty == innerOf r.ty && q.fn == r.fn)).length ≥ 25 := by decide +kernel
example : guardFns.any (fun r => r.ty == "HashMapRef" && r.fn == "retain_force" &&
    callees r == ["HashMap::retain_force"]) = true := by decide +kernel
end Wrappers

/-! ## `replace_node` keeps the condition it was called with

`retain` hands the value its predicate rejected to `replace_node` as `observed_value`; the removal
is conditional on the entry still holding exactly that value. The sequential model
(`Seq.replaceNode`) and the conditional removal of the per-key specification keep the condition
fixed for the whole call, whatever detours the loop takes (forwarded bins, retries after a failed
re-check). Regenerated from the source: no parameter of `replace_node` is declared `mut`, assigned
to, or shadowed in its body. -/
section Condition
open Flurry.Gen

theorem replace_node_keeps_its_condition : replaceNodeFound = true ∧ replaceNodeParamWrites = [] := by decide +kernel

end Condition

end Flurry.C13
