import Flurry.SigDefs
import Flurry.Gen.Atomics
import Flurry.Lemmas.IdSet
/-! # C15 — updates happen-before the reads that observe them

**Strength: table + lemma; the memory-model fragment is modelled, not verified.**

* `path_hb`: in the C++11/Rust model restricted to what flurry uses (`hb` = transitive closure of
  program order and synchronises-with), data initialised before a *publishing* store is visible
  to whoever reads the published pointer through an *acquiring* load, along any chain of such
  hand-overs (writer → new table → tree bin → …).
* Table theorems over `Flurry.Gen.atomicSites` (every atomic operation of the crate with the
  `Ordering`s as written, regenerated from the source on every run):
  every store/swap/CAS/RMW on a pointer-carrying location that is weaker than `Release` sits in
  a function that only runs on not-yet-published objects or under the tree write lock
  (`privateFn`); every write to the bin array, the table pointers and the tree lock word is at
  least `Release`; every load a *reader* performs on a pointer-carrying location is at least
  `Acquire` as written (and all loads through a protected guard are `SeqCst`: seize's `protect`).
* The dynamic counterpart (harness `hb.rs`) computes vector clocks from the orderings actually
  passed at run time and requires every cross-thread dereference to be ordered after the
  object's initialisation. -/
namespace Flurry.C15
open Flurry.Sig Flurry.Gen

/-- `HB po sw` : happens-before generated by program order `po` and synchronises-with `sw` -/
inductive HB {E : Type} (po sw : E → E → Prop) : E → E → Prop
  | po {a b} : po a b → HB po sw a b
  | sw {a b} : sw a b → HB po sw a b
  | trans {a b c} : HB po sw a b → HB po sw b c → HB po sw a c

/-- one hand-over: `init` is program-ordered before the publishing store `st`, `st`
synchronises with the acquiring load `ld`, and the use `use` is program-ordered after `ld` -/
structure Handover {E : Type} (po sw : E → E → Prop) (init use : E) where
  st : E
  ld : E
  init_before_store : po init st
  sync : sw st ld
  load_before_use : po ld use

theorem handover_hb {E : Type} {po sw : E → E → Prop} {init use : E} (h : Handover po sw init use) :
    HB po sw init use :=
  .trans (.trans (.po h.init_before_store) (.sw h.sync)) (.po h.load_before_use)

/-- a chain of hand-overs `e₀ → e₁ → … → eₙ` (e.g. writer → thread that copied the entry into a
new table → reader) -/
inductive Chain {E : Type} (po sw : E → E → Prop) : E → E → Prop
  | single {a b} : Handover po sw a b → Chain po sw a b
  | cons {a b c} : Handover po sw a b → Chain po sw b c → Chain po sw a c

/-- **path lemma**: along any chain of release/acquire hand-overs the initialisation
happens-before the final use -/
theorem path_hb {E : Type} {po sw : E → E → Prop} {a b : E} (c : Chain po sw a b) : HB po sw a b := by
  induction c with
  | single h => exact handover_hb h
  | cons h _ ih => exact .trans (handover_hb h) ih

def isRelease (o : String) : Bool := o == "Release" || o == "AcqRel" || o == "SeqCst"
def isAcquire (o : String) : Bool := o == "Acquire" || o == "AcqRel" || o == "SeqCst"

/-- locations through which pointers to keys, values, nodes, bins and tables travel -/
def pointerPath (p : String) : Bool :=
  p == "table" || p == "next_table" || p == "bins[]" || p == "next" || p == "value" || p == "first" ||
  p == "root" || p == "left" || p == "right" || p == "parent" || p == "prev" || p == "moved" || p == "waiter"

/-- functions that only touch objects that are not yet published (they are published afterwards
by a releasing store) or that run under the tree write lock (`lock_root` … `unlock_root`), or at
teardown with exclusive access -/
def privateFn (f : String) : Bool :=
  f == "HashMap::transfer" || f == "HashMap::treeify_bin" || f == "HashMap::untreeify" ||
  f == "TreeBin::new" || f == "TreeBin::remove_tree_node" || f == "TreeBin::find_or_put_tree_val" ||
  f == "TreeNode::balance_insertion" || f == "TreeNode::balance_deletion" ||
  f == "TreeNode::rotate_left" || f == "TreeNode::rotate_right" ||
  f == "TreeBin::drop_fields" || f == "TreeBin::drop_tree_nodes" || f == "TreeNode::check_invariants"

def isWrite (k : String) : Bool := k == "store" || k == "swap" || k == "cas" || k == "rmw"
def isRead (k : String) : Bool := k == "load" || k == "cas" || k == "swap" || k == "rmw"

/-- **weak writes are private**: a write to a pointer-carrying location with an ordering weaker
than `Release` only occurs in `privateFn`s -/
theorem relaxed_writes_private :
    atomicSites.all (fun s =>
      !(isWrite s.kind && pointerPath s.path && !(s.ords.head?.map isRelease).getD false) || privateFn s.fn) = true := by
  decide +kernel

/-- **publication points release**: every write to the bin array, to the map's / a table's table
pointers and to the tree lock word is at least `Release` — `store_bin`, `cas_bin`, the table
swap at the end of a resize, `unlock_root` -/
theorem publication_points_release :
    atomicSites.all (fun s =>
      !(isWrite s.kind && (s.path == "bins[]" || s.path == "table" || s.path == "next_table" || s.path == "lock_state")) ||
        (s.ords.head?.map isRelease).getD false) = true := by
  decide +kernel

/-- **readers acquire**: every load (or RMW) a function reachable from a read entry point
performs on a pointer-carrying location or on the tree lock word is at least `Acquire` as written -/
theorem reader_loads_acquire :
    atomicSites.all (fun s =>
      !(readClosure.contains s.fnId && isRead s.kind && (pointerPath s.path || s.path == "lock_state")) ||
        (s.ords.head?.map isAcquire).getD false) = true := by
  simp only [contains_eq_testBit]
  decide +kernel

/-- the reader's side of the tree lock: taking and releasing a read lock are RMWs that both
acquire and release (so a later writer sees the reader's critical section as finished, and the
reader sees what the previous writer published with `unlock_root`) -/
theorem read_lock_rmw_acqrel :
    atomicSites.all (fun s =>
      !(s.fn == "TreeBin::find" && (s.kind == "cas" || s.kind == "rmw") && s.path == "lock_state") ||
        ((s.ords.head?.map isRelease).getD false && (s.ords.head?.map isAcquire).getD false)) = true := by
  -- each conjunction is reordered so that the function name is compared last
  simp only [Bool.and_assoc, Bool.and_comm (_ == "TreeBin::find")]
  decide +kernel

/-- **the control words** (`size_ctl`, `transfer_index`, `lock_state`): every store releases, every
load acquires, every read-modify-write and CAS does both (and the updates of `count` are
acquire-release RMWs; `len()` reads it relaxed, it is only a number) — on the regenerated site table.
The run-time hooks of these raw atomics do not carry the ordering argument; the vector-clock oracle
of the harness (`hb.rs`) takes exactly these orderings for them, on the strength of this theorem. -/
theorem control_words_synchronise :
    atomicSites.all (fun s =>
      !(s.path == "size_ctl" || s.path == "transfer_index" || s.path == "lock_state" ||
        (s.path == "count" && s.kind != "load")) ||
        (match s.kind with
         | "store" => (s.ords.head?.map isRelease).getD false
         | "load" => (s.ords.head?.map isAcquire).getD false
         | "cas" | "rmw" | "swap" => (s.ords.head?.map isRelease).getD false && (s.ords.head?.map isAcquire).getD false
         | _ => true)) = true := by
  decide +kernel

/-- non-vacuity: the table contains the publication points and relaxed private writes -/
theorem sites_present :
    (atomicSites.any fun s => s.fn == "Table::store_bin" && s.kind == "store" && s.ords == ["Release"]) = true ∧
    (atomicSites.any fun s => s.fn == "Table::cas_bin" && s.kind == "cas") = true ∧
    (atomicSites.any fun s => s.fn == "TreeBin::unlock_root" && s.kind == "store" && s.path == "lock_state") = true ∧
    (atomicSites.any fun s => privateFn s.fn && isWrite s.kind && s.ords == ["Relaxed"]) = true ∧
    200 ≤ atomicSites.length := by
  -- the function names last, as in `read_lock_rmw_acqrel`
  simp only [Bool.and_assoc, Bool.and_comm (_ == "Table::store_bin"), Bool.and_comm (_ == "Table::cas_bin"),
    Bool.and_comm (_ == "TreeBin::unlock_root"), Bool.and_comm (privateFn _)]
  decide +kernel

end Flurry.C15
