import Flurry.Lemmas.BinXCLin
/-! # C01 / C03 / C04 (bin level): `clear` and retirement during a resize (the repaired code)

`Proto/BinXC.lean` = `Proto/BinX` plus `clear()` and the retirement of unlinked nodes. With the
repaired `clear` (it waits for the commit of the resize before it continues in the next table):

* `binxc_linearizable` / `binxc_linearizable_quiescent`: for every reachable state and every key, the
  history of that key — with every `clear` as a removal — is linearizable from "absent" to the key's
  current abstract state. A `clear` is linearized, per key, at the step at which it reads the key's
  cell as empty or stores "empty" into it.
* `retired_unreachable` (C03): a retired node is on no chain that an operation starting now can reach;
  `retired_dead`: it is on no chain at all.
* `validated_mutex` (`clear` at its store counts as a validated lock holder), `new_table_after_moved` (what the wait
  for the commit buys).

For the original `clear` both fail: `Lemmas/BinXCExamples.lean` (finding F7). -/
namespace Flurry.Proto.BinXC
open Flurry.Lin
open Flurry.Proto.BinX (Ghost)

theorem reachable_ginv {n : Nat} {s : State} (hr : Reachable n s) (k : Nat) :
    ∃ G A pt, Inv s G ∧ GInv k s G A pt := by
  induction hr with
  | init => exact ⟨_, _, _, init_inv n, init_ginv n k⟩
  | @step s s' t inv rz cl hr hs ih =>
    obtain ⟨G, A, pt, I, g⟩ := ih
    cases hl : s.threads[t]? with
    | none => unfold step stepG at hs; rw [hl] at hs; cases hs
    | some l => exact ginv_step g I hl (step_stepK hl hs)

/-- from the ghost invariant to linearizability (the trace lemma) -/
theorem GInv.linearizable {k : Nat} {s : State} {G : Ghost} {A : Nat → KSt} {pt : Nat → Nat}
    (g : GInv k s G A pt) (I : Inv s G) : Linearizable (callsOnExt s k) none (absOf s k) :=
  callsOnExt_eq s k ▸ g.traceK.lin (I.thr.genK k)

/-- **C01 / C04, bin level, with `clear` and a concurrent resize.** The per-key history (completed
calls, completed `clear`s, plus the calls that have passed their linearization point for the key) is
linearizable and ends in the abstract content of the key. -/
theorem binxc_linearizable {n : Nat} {s : State} (hr : Reachable n s) (k : Nat) :
    Lin.Linearizable (callsOnExt s k) none (absOf s k) := by
  obtain ⟨G, A, pt, I, g⟩ := reachable_ginv hr k
  exact g.linearizable I

theorem binxc_linearizable_quiescent {n : Nat} {s : State} (hr : Reachable n s) (hq : quiescent s) (k : Nat) :
    Lin.Linearizable (callsOn s k) none (absOf s k) := by
  have := binxc_linearizable hr k
  rw [callsOnExt_quiescent hq] at this
  exact this

/-- **C03, bin level**: nothing that has been retired — by a removing writer, by `clear`, or by the
transfer after the forwarding — can be reached by an operation that starts now -/
theorem retired_unreachable {n : Nat} {s : State} (hr : Reachable n s) : retiredUnreachable s := by
  obtain ⟨g, I⟩ := reachable_inv hr
  intro i hi hreach
  exact (I.ret.dead i hi).2 (reachableNow_live g.cr hreach)

/-- retired nodes are dead: on no chain at all (not even one that only a slow reader can still reach
from a live node) -/
theorem retired_dead {n : Nat} {s : State} (hr : Reachable n s) :
    ∀ i ∈ s.retired, i < s.heap.length ∧ i ∉ chainOfCell s s.cell0 ∧ i ∉ chainOfCell s s.lowCell ∧
      i ∉ chainOfCell s s.highCell := by
  obtain ⟨g, I⟩ := reachable_inv hr
  intro i hi
  obtain ⟨h1, h2⟩ := I.ret.dead i hi
  refine ⟨h1, ?_, ?_, ?_⟩
  · intro h; exact h2 (Or.inl (by rw [← chainH_mem] at h; exact h))
  · intro h; exact h2 (Or.inr (Or.inl (by rw [← chainH_mem] at h; exact h)))
  · intro h; exact h2 (Or.inr (Or.inr (Or.inl (by rw [← chainH_mem] at h; exact h))))

/-- **mutual exclusion**, with `clear` at `cStore` as a validated lock holder -/
theorem validated_mutex {n : Nat} {s : State} (hr : Reachable n s) {t t1 : Nat} {l l1 : Local}
    {id : BinX.CellId} {h h1 : Nat} (hl : s.threads[t]? = some l) (hl1 : s.threads[t1]? = some l1)
    (hv : vcell l = some (id, h)) (hv1 : vcell l1 = some (id, h1)) : t = t1 := by
  obtain ⟨g, I⟩ := reachable_inv hr
  exact I.to0.mutex hl hl1 hv hv1

/-- with the wait for the commit a `clear` (like every other operation) works in the new table only
after the forwarding marker is visible -/
theorem new_table_after_moved {n : Nat} {s : State} (hr : Reachable n s) {t : Nat} {l : Local}
    (hl : s.threads[t]? = some l) (hT : ¬ isT l.pc) (htab : tabOf l.pc = some .new) : s.cell0 = .moved := by
  obtain ⟨g, I⟩ := reachable_inv hr
  exact post_cell0 I.heap (I.to0.post_of_new hl hT htab)

end Flurry.Proto.BinXC
