import Flurry.Lemmas.BinNITerm
import Flurry.Lemmas.BinNIExamples
/-! # C07 (bin level, CONCURRENT): the traverser running while the lineage is written and resized

`Proto/BinNI.lean` = `Proto/BinN` (a list-bin lineage through ANY number of successive resizes, lock-free
readers, locked writers, one shared-memory access per transition) plus **iterator threads**: an iterator
loads the table pointer once (root generation `g0`), visits the cells `(g0, 0) … (g0, 2^g0 − 1)` in order,
walks a list node by node (yielding `(key, val)` as stored at that load), and on a forwarding marker in
`(g, j)` descends to `(g+1, j)` then `(g+1, j + 2^g)` — recursively, the `TableStack` discipline of
`Seq/Iter.lean` — while writers and any number of resizes proceed. Ghost logs: `yields`, `ends`.

Proved here, for every reachable state, any number of threads, every interleaving:
* `shared_part_reachable`: the shared part is a reachable state of `Proto/BinN` (all its theorems apply);
* `iter_yield_was_present`: every yielded pair was in the map at some moment between the creation of the
  iterator and the yield — also when the table was resized one or more times in between (hindsight
  justification `IGood`, `Lemmas/BinNIGood.lean`, carried over every transition incl. the store of a
  forwarding marker in any generation);
* `iter_step_enabled`: an iterator is never blocked (it takes no lock) and its steps leave the shared
  memory unchanged (only the clock ticks);
* `iter_todo_behind_markers`: a pending cell of the generation being filled is only ever reached through a
  forwarding marker (why the iterator never walks a half-built list);
* `iter_solo_terminates`: an iterator that runs alone ends within an explicit number of steps.

`iter_untouched_yielded_once` / `iter_no_duplicates_of_untouched`: `Props/C07BinNIOnce2.lean`.
Validation by execution: `Lemmas/BinNIExamples.lean` (random schedules with slow iterators alive across up to 3
resizes; `iter_yield_was_present` AND "an untouched key is yielded exactly once, an absent one never" checked by
brute force on the recorded trace of `absOf`; three kernel-checked runs). -/
namespace Flurry.Proto.BinNI
open Flurry.Lin

/-- the shared part (memory, readers, writers, resizer) of a reachable state is a reachable state of `Proto/BinN` -/
theorem shared_part_reachable {nt : Nat} {s : State} (hr : Reachable nt s) : BinN.Reachable nt s.n := reachable_n hr

/-- **C07, never a pair that was not in the map.** Every yield `(k, v)` at time `τ` of an iteration created at
time `τ0`: some state `s₁` of the run, at a time in `[τ0, τ]`, had `k ↦ v` in the map — whatever writers and
however many resizes ran in between. -/
theorem iter_yield_was_present {nt : Nat} {s : State} (hr : Reachable nt s) {y : Yield} (hy : y ∈ s.yields) :
    ∃ s₁, Reachable nt s₁ ∧ Steps s₁ s ∧ y.t0 ≤ s₁.n.now ∧ s₁.n.now ≤ y.time ∧ absOf s₁ y.key = some y.val := by
  obtain ⟨G, I⟩ := reachable_iinv hr
  obtain ⟨τ, h1, h2, s₁, h3, h4, h5, h6⟩ := I.yl y hy
  exact ⟨s₁, h3, h4, by omega, by omega, h6⟩

/-- **an iterator is never blocked and writes nothing**: a step of an iterating thread is enabled whatever
the other threads hold, and leaves heap, tables, table pointer, threads and history as they are (the clock ticks) -/
theorem iter_step_enabled {nt : Nat} {s : State} (hr : Reachable nt s) {t : Nat} {it : Iter}
    (hi : s.its[t]? = some (some it)) (mk : Bool) (inv : Option (Nat × KOp)) (rz : Bool) (pick : Nat) :
    ∃ s', step s t mk inv rz pick = some s' ∧ s'.n = { s.n with now := s.n.now + 1 } := by
  obtain ⟨G, I⟩ := reachable_iinv hr
  obtain ⟨s', h1, h2, -⟩ := iter_enabled I hi mk inv rz pick
  exact ⟨s', h1, h2⟩

/-- the pointer of an iterator is inside the heap, and a pending cell of
generation `cur + 1` lies behind a forwarding marker (pending cells are never of a later generation) -/
theorem iter_todo_behind_markers {nt : Nat} {s : State} (hr : Reachable nt s) {t : Nat} {it : Iter}
    (hi : s.its[t]? = some (some it)) :
    (∀ c, it.ptr = some c → c < s.n.heap.length) ∧
    ∀ g j, (g, j) ∈ it.todo → g ≤ s.n.cur + 1 ∧ (g = s.n.cur + 1 → BinN.cellAt s.n s.n.cur (j % 2 ^ s.n.cur) = .moved) := by
  obtain ⟨G, I⟩ := reachable_iinv hr
  obtain ⟨-, g2, g3⟩ := I.good t it hi
  exact ⟨fun c hc => by rw [hc] at g2; exact g2.lt I.inv.heap, fun g j h => g3 (g, j) h⟩

/-- **an iterator terminates**: run alone from any reachable state — whatever the other threads hold, however
many generations are allocated and forwarded — it ends within
`2·|heap| + 2 + Σ_{(g, j) ∈ todo} D (2·|heap| + 3) (T − g)` steps, `T` = number of allocated generations,
`D W 0 = W`, `D W (d+1) = 2 · D W d + 1`, and leaves the memory as it is -/
theorem iter_solo_terminates {nt : Nat} {s : State} (hr : Reachable nt s) {t : Nat} {it : Iter}
    (hi : s.its[t]? = some (some it)) :
    ∃ m s', m ≤ 2 * s.n.heap.length + 2 + todoM (2 * s.n.heap.length + 3) s.n.tabs.length it.todo ∧
      SoloSteps t m s s' ∧ s'.its[t]? = some none ∧
      s'.n.heap = s.n.heap ∧ s'.n.tabs = s.n.tabs ∧ s'.n.cur = s.n.cur := by
  obtain ⟨G, I⟩ := reachable_iinv hr
  obtain ⟨-, g2, -⟩ := I.good t it hi
  have hptr : ∀ c, it.ptr = some c → c < s.n.heap.length := fun c hc => by rw [hc] at g2; exact g2.lt I.inv.heap
  have hmu : mu s.n G it ≤ 2 * s.n.heap.length + 1 + todoM (2 * s.n.heap.length + 3) s.n.tabs.length it.todo := by
    unfold mu
    apply Nat.add_le_add_right
    cases hp : it.ptr with
    | none => show 0 ≤ _; omega
    | some c => exact ptrM_le G.cr (hptr c hp)
  obtain ⟨m, s', h1, h2⟩ := solo_aux I.inv.heap t _ s it rfl rfl rfl hi (I.idle t it hi) hptr hmu
  exact ⟨m, s', by omega, h2⟩

/-! ## validation by execution (see `Lemmas/BinNIExamples.lean`) -/

/-- an iterator created before TWO resizes that finishes after them, descending through two levels of
forwarding markers: reachable; both checks hold on the recorded trace; it yields keys 2, 1, 3 once each -/
theorem iterator_across_two_resizes :
    verdictI schedB = some (true, true, 2, [(1, 24, 68)], [(2, (6, 101), 62), (1, (5, 100), 65), (3, (7, 102), 67)]) := by
  decide +kernel

/-- an iterator that sleeps on the old list through two resizes, an overwrite and a removal: it yields the
pairs that were present at its creation, the untouched key once -/
theorem iterator_on_frozen_list :
    verdictI schedC = some (true, true, 2, [(1, 24, 79)], [(1, (5, 100), 76), (2, (6, 101), 77), (3, (7, 102), 78)]) := by
  decide +kernel

end Flurry.Proto.BinNI
