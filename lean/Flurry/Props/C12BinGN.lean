import Flurry.Lemmas.BinGNProgSolo
/-! # C12 for `Proto/BinGN`: reads never block and finish in a bounded number of their own steps — through ANY
number of resizes

> `get`, `get_key_value`, `contains_key`, iterators … never acquire a bin lock and never wait for a writer: a reader
> finishes in a bounded number of its own steps even while any other thread is suspended at an arbitrary point —
> including while holding a bin lock, while holding or waiting for a tree bin's write lock, in the middle of moving a
> bin (of any generation), or in the middle of a treeify.

The statements of `Props/C12BinG.lean` for the small-step model `Proto/BinGN` (one bin lineage with list and tree bins through any
number of successive resizes, cells `(g, j)`), over **all** reachable states — any number of threads, steps,
interleavings and generations; the other threads are "suspended at an arbitrary point" because the theorems quantify
over every reachable state and then move only thread `t`:

1. `reader_step_enabled` — the step of a thread at a reader pc (list readers `lFirst`, `lNode` included) is enabled in
   every reachable state, for every value of the scheduler's arguments (`pick` included);
2. `reader_step_frame` — that step takes no lock and stores nothing: `Frame` (heap, ALL cells of ALL generations,
   table pointer, resize flag, `first` / mutex / `WRITER` / `WAITER` of every `TreeBin`, all other threads);
3. `reader_solo_terminates` — running alone (`runSolo`), the reader is `idle` again, with its call appended to `hist`,
   after at most `soloBound s = s.tabs.length + 4 * s.heap.length + 10` steps. In BinGN a reader may follow several
   forwarding markers (one per generation between the table pointer it loaded — possibly long ago — and the newest
   table): the measure of `rCell _ g` is `(s.tabs.length - g) + 4 * s.heap.length + 8`; a `moved` cell of
   generation `g` exists only if `g < s.tabs.length`, so every hop decreases it.

Proofs (the twins of `Lemmas/BinGProg*.lean`, in the namespace `Flurry.Proto.BinGNP`): `Lemmas/BinGNProgInv.lean`
(auxiliary invariant `BInv`), `Lemmas/BinGNProgEn.lean` (when is a step enabled), `Lemmas/BinGNProgRead.lean` (the
measure `mu`), `Lemmas/BinGNProgSolo.lean` (the induction). The theorems live in `Flurry.Proto.BinGNProg`. -/
namespace Flurry.Proto.BinGNProg
open Flurry.Lin
open Flurry.Proto.BinGNP

/-- **C12.1: a reader's step is never disabled.** In every reachable state of `Proto/BinGN`, for every thread at a
reader pc (`rTable, rCell, rNode, rFirst, rState, rLin, rCas, rTree, rRelease, rVal` and the list-only readers
`lFirst, lNode`) and every value of the scheduler's arguments, the step of that thread is enabled: no state of the
other threads — holding a node lock or a bin mutex, holding or waiting for the write lock (`WAITER` set), in the
middle of the transfer of any cell of any generation, mid-treeify — disables a reader. -/
theorem reader_step_enabled {n : Nat} {s : State} (hr : Reachable n s) {t : Nat} {l : Local}
    (hl : s.threads[t]? = some l) (hrd : readerPc l.pc = true) (inv : Option (Nat × KOp)) (lo : Bool)
    (mt : Option Nat) (rz sm sm2 : Bool) (pick : Nat) : (step s t inv lo mt rz sm sm2 pick).isSome = true := by
  obtain ⟨p, s', -, hs, -⟩ :=
    reader_step_aux (reachable_inv hr) (reachable_binv hr) hl hrd inv lo mt rz sm sm2 pick
  rw [hs]; rfl

/-- **C12.2: a reader takes no lock and stores nothing.** A step of a thread at a reader pc leaves the heap (hence
every lock word, value and `next`), the cells of all generations (`tabs`), the table pointer, the resize flag, the
`first` field, the mutex, the `WRITER` and the `WAITER` bit of every `TreeBin`, and all other threads as they are;
only the reader count of one `TreeBin`, the thread's own local state, the clock and `hist` may change (no
reachability assumption needed). -/
theorem reader_step_frame {s s' : State} {t : Nat} {l : Local} (hl : s.threads[t]? = some l)
    (hrd : readerPc l.pc = true) {inv : Option (Nat × KOp)} {lo : Bool} {mt : Option Nat} {rz sm sm2 : Bool}
    {pick : Nat} (hs : step s t inv lo mt rz sm sm2 pick = some s') : Frame t s s' :=
  reader_step_frame_aux hl hrd hs

/-- one step of a reader in full: enabled; the thread has returned (`idle`, one entry added to `hist`) or is at a
reader pc with a strictly smaller measure `mu` -/
theorem reader_step {n : Nat} {s : State} (hr : Reachable n s) {t : Nat} {l : Local}
    (hl : s.threads[t]? = some l) (hrd : readerPc l.pc = true) (inv : Option (Nat × KOp)) (lo : Bool)
    (mt : Option Nat) (rz sm sm2 : Bool) (pick : Nat) :
    ∃ p s', l.call = some p ∧ step s t inv lo mt rz sm sm2 pick = some s' ∧ Outcome s t p l.pc s' :=
  reader_step_aux (reachable_inv hr) (reachable_binv hr) hl hrd inv lo mt rz sm sm2 pick

/-- **C12.3: bounded own steps.** From every reachable state, a thread at a reader pc that runs alone — all other
threads suspended wherever they are: a writer holding the bin lock or waiting for it, a tree writer holding the mutex,
holding the write lock or parked with `WAITER` set, a resizing thread anywhere in the middle of moving any bin, a
treeify in progress — has returned (`idle`, its call appended to `hist`) after at most
`soloBound s = s.tabs.length + 4 * s.heap.length + 10` of its own steps (table pointer; at most one forwarding hop per
generation; `first`; then at most two steps per node of a chain whose length is bounded through `rank` by twice the
heap size, with at most one failed CAS on the lock word), all of them enabled, and has touched nothing but a reader
count (`Frame`). -/
theorem reader_solo_terminates {n : Nat} {s : State} (hr : Reachable n s) {t : Nat} {l : Local}
    (hl : s.threads[t]? = some l) (hrd : readerPc l.pc = true) (sm sm2 : Bool) :
    ∃ k, k ≤ soloBound s ∧ ∃ s' p res resp, l.call = some p ∧ runSolo t sm sm2 k s = some s' ∧
      Frame t s s' ∧ s'.threads[t]? = some { pc := .idle, call := none } ∧
      s'.hist = (p.key, { tid := t, op := p.op, res := res, inv := p.inv, resp := resp }) :: s.hist :=
  reader_solo_terminates_aux hr hl hrd sm sm2

/-- the bound is an explicit function of the number of generations and of the heap size -/
theorem soloBound_eq (s : State) : soloBound s = s.tabs.length + 4 * s.heap.length + 10 := rfl

/-- `runSolo` is `step` iterated on thread `t` alone (no new call, no treeify, no resize; `pick = 0`) -/
theorem runSolo_succ (t : Nat) (sm sm2 : Bool) (k : Nat) (s : State) :
    runSolo t sm sm2 (k + 1) s = (step s t none false none false sm sm2 0).bind (runSolo t sm sm2 k) := by
  simp only [runSolo]
  cases step s t none false none false sm sm2 0 <;> rfl

end Flurry.Proto.BinGNProg
