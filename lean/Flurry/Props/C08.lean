import Flurry.Lemmas.Lin
/-! # C08 — compute_if_present is an atomic read-modify-write

`compute_if_present` is one operation of the per-key specification (`Lin.specStep … (.cipInc _)` / `.cipRm`): it
reads the current value and replaces exactly it in one step. Proved here: in every linearizable history increments
are never lost, and the value a `cipInc` call reports determines the value it saw. On the small-step models
`cipInc` / `cipRm` are writers like the others (read and store in one step under the validated lock), so the
models' linearizability theorems cover them (`Props/C01Bin*.lean`, the tables; from the empty map:
`Props/C08Table.lean`). That every execution of the implementation is linearizable (with the closure called at most
once, on the value then current) is checked on recorded histories of the real code by the complete decision
procedure of C01 plus the closure-call counters of the harness. -/
namespace Flurry.C08
open Flurry.Lin

/-- **no lost update**: if `k` concurrent `compute_if_present(|v| v + 1)` calls on one key form a
linearizable history starting from payload `v`, the key ends with payload `v + k`. -/
theorem counter_no_lost_update {h : History} {v vi : Nat} {fin : KSt}
    (hl : Linearizable h (some (v, vi)) fin) (hall : ∀ c ∈ h, ∃ n, c.op = .cipInc n) :
    ∃ vi', fin = some (v + h.length, vi') := spec_cipInc_counts hl hall

/-- the function is not applied when the key is absent -/
theorem absent_not_applied (n : Nat) : specStep none (.cipInc n) = (none, .none) := rfl

/-- what a call returns is the successor of exactly the value that was current, and that value
is what it replaces -/
theorem replaces_what_it_read (v vi n : Nat) :
    specStep (some (v, vi)) (.cipInc n) = (some (v + 1, n), .some (v + 1) n) := rfl

theorem removal_is_atomic (st : KSt) : (specStep st .cipRm).1 = none := by
  cases st <;> rfl

/-- two increments that both report the same new value cannot both have happened -/
example : ¬ Linearizable [⟨0, .cipInc 7, .some 6 7, 0, 3⟩, ⟨1, .cipInc 8, .some 6 8, 1, 2⟩] (some (5, 1)) (some (6, 8)) := by decide
example : Linearizable [⟨0, .cipInc 7, .some 6 7, 0, 3⟩, ⟨1, .cipInc 8, .some 7 8, 1, 2⟩] (some (5, 1)) (some (7, 8)) := by decide

end Flurry.C08
