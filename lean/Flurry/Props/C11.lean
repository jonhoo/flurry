import Flurry.Lemmas.RwLock
import Flurry.Proto.RwLockMonitor
/-! # C11 — every operation terminates under any fair schedule

**Strength: partial.** Proved, for any number of readers and every interleaving of the tree-bin
lock protocol (`Proto/RwLock`): no lost wakeup (whenever the writer is about to park without a
token, some reader is still going to produce one), the writer is never blocked when no reader is
active, no reachable state is stuck, and from every reachable state the readers alone can drain and
leave the writer enabled (that a reader is never blocked is `reader_never_blocked` in
`Props/C12.lean`). On the small-step models of a bin lineage and of a table the
wait-for structure and the termination of the retry loops are proved as well (`Props/C11BinG.lean`,
`C11BinGDrain.lean`, `C11BinGN.lean`, `C11BinGNDrain.lean`, `C11TableG.lean`, `C11TableGN.lean`,
`C11TableGNDrain.lean`). For the whole map (a thread holds at most one bin mutex; `transfer` writes new
bins without locking them; init losers wait for the winner) both are judged on the implementation:
the scheduler reports a deadlock when no unfinished thread is enabled and a livelock when a run
does not finish under a fair policy within its step budget. -/
namespace Flurry.C11
open Flurry.Proto.RwLock

/-- **no lost wakeup**: when the writer in `contended_lock` is about to `park()` and no `unpark()`
is pending, one is still to come. Either a reader holds the read lock and `waiter` is published
(the last `fetch_add(-READER)` of `TreeBin::find` returns `READER | WAITER` and that reader loads
`waiter`), or a reader is about to `unpark()`, or one is about to load the published `waiter`. -/
theorem no_lost_wakeup {n : Nat} {s : State} (h : Reachable n s) (hp : s.wpc = .park) (ht : s.token = false) :
    (1 ≤ numHolding s.readers ∧ s.waiterSet = true) ∨ (∃ i : Nat, s.readers[i]? = some RPc.unpark) ∨
    (∃ i : Nat, s.readers[i]? = some RPc.loadWaiter ∧ s.waiterSet = true) :=
  Flurry.Proto.RwLock.no_lost_wakeup h hp ht

/-- with no thread inside `TreeBin::find`, the writer's next access in `lock_root` /
`contended_lock` / `unlock_root` is enabled: it is not asleep in `park()` without a token -/
theorem writer_not_blocked_without_readers {n : Nat} {s : State} (h : Reachable n s)
    (hidle : ∀ (i : Nat) (pc : RPc), s.readers[i]? = some pc → pc = RPc.idle) : stepWriter s ≠ none := writer_enabled_of_readers_idle h hidle

/-- in every reachable state some thread can take its next step. With a reader present that is
`C12.reader_never_blocked`; without one it says that a writer alone is never at `park()` without a token. -/
theorem never_stuck {n : Nat} {s : State} (h : Reachable n s) : ∃ a more s', step s a more = some s' :=
  not_stuck h

/-- from every reachable state the readers can finish on their own, after which the writer is enabled -/
theorem writer_eventually_enabled {n : Nat} {s : State} (h : Reachable n s) :
    ∃ s', ReaderRun s s' ∧ Reachable n s' ∧ stepWriter s' ≠ none :=
  Flurry.Proto.RwLock.writer_eventually_enabled h

/-- a parked writer has its token once the readers are done -/
theorem parked_writer_woken {n : Nat} {s s' : State} (h : Reachable n s) (hp : s.wpc = .park)
    (r : ReaderRun s s') (hidle : ∀ (i : Nat) (pc : RPc), s'.readers[i]? = some pc → pc = RPc.idle) : s'.token = true :=
  park_token_when_readers_done h hp r hidle

/-- no reader searches the tree while the writer restructures it -/
theorem writer_excludes_tree_readers {n : Nat} {s : State} (h : Reachable n s)
    (hw : s.wpc = .hold ∨ s.wpc = .swapOut) : numHolding s.readers = 0 := mutual_exclusion h hw

/-- **The tie to the code.** The harness replays, for every tree bin of every scheduled run, the
bin's `lock_state` / `waiter` / park / unpark accesses through `Proto/RwLockMonitor`. Whatever
stream the monitor accepted (without a spurious wake-up), the state it ends in is a reachable
state of the model, so the theorems above hold of it: in particular the run's abstract lock
state is not stuck, a writer about to park there has its wake-up on the way, and no reader
searches the tree while the writer restructures it. -/
theorem accepted_stream_theorems {n : Nat} (evs : List Flurry.Proto.RwLockMonitor.Ev)
    (m : Flurry.Proto.RwLockMonitor.M n)
    (hrun : Flurry.Proto.RwLockMonitor.run (Flurry.Proto.RwLockMonitor.start n) evs 0 = .ok m)
    (hs : m.spurious = 0) :
    Reachable n m.s.1 ∧ (∃ a more s', step m.s.1 a more = some s') ∧
    ((m.s.1.wpc = .hold ∨ m.s.1.wpc = .swapOut) → numHolding m.s.1.readers = 0) ∧
    (m.s.1.wpc = .park → m.s.1.token = false →
      (1 ≤ numHolding m.s.1.readers ∧ m.s.1.waiterSet = true) ∨ (∃ i : Nat, m.s.1.readers[i]? = some RPc.unpark) ∨
      (∃ i : Nat, m.s.1.readers[i]? = some RPc.loadWaiter ∧ m.s.1.waiterSet = true)) := by
  have h := Flurry.Proto.RwLockMonitor.accepted_is_reachable evs m hrun hs
  exact ⟨h, not_stuck h, mutual_exclusion h, Flurry.Proto.RwLock.no_lost_wakeup h⟩

/-- a real stream (recorded from `harness conc --mode tree`: a writer that has to wait for a
reader and is woken by it) is accepted -/
example : Flurry.Proto.RwLockMonitor.accept 3 true
    [⟨1, .ld, 0, 0, 0⟩, ⟨1, .y, 0, 4, 0⟩, ⟨0, .cas, 0, 1, 4⟩, ⟨0, .ld, 0, 0, 4⟩, ⟨0, .cas, 4, 6, 4⟩,
     ⟨0, .wsw, 1, 0, 0⟩, ⟨0, .ld, 0, 0, 6⟩, ⟨1, .fa, -4, 0, 6⟩, ⟨1, .wld, 0, 0, 1⟩, ⟨1, .unpark, 0, 0, 0⟩,
     ⟨0, .park, 0, 0, 0⟩, ⟨0, .ld, 0, 0, 2⟩, ⟨0, .cas, 2, 1, 2⟩, ⟨0, .wsw, 0, 0, 1⟩, ⟨0, .st, 0, 0, 1⟩]
    = "ok wlocks=1 waits=1 rlocks=1 slow=0 wakes=1 spurious=0" := by decide +kernel

end Flurry.C11
