import Flurry.Lemmas.BinNIUnique
import Flurry.Props.C07BinNIOnce
/-! # C07 (bin level, CONCURRENT): an untouched key is yielded EXACTLY once

For a COMPLETED iteration `(t, τ0, τ1) ∈ s.ends` of `Proto/BinNI` (the traverser running while writers and
any number of resizes proceed), in every reachable state, any number of threads, every interleaving; "during
the whole iteration" = in every state `s₁` of the run (`Reachable`, `Steps s₁ s`) with clock in `[τ0, τ1]`.

* `iter_untouched_yielded_at_most_once` (= `iter_no_duplicates_of_untouched`): a key that maps to `v` during
  the whole iteration is yielded at most once by it;
* `iter_untouched_yielded_once`: … exactly once, and that yield carries `v` (with `iter_untouched_yielded` of
  `Props/C07BinNIOnce.lean`).

How (`Phase`, `Lemmas/BinNIUnique.lean`): for an untouched key `k`, at most one
node with key `k` is reachable from the iterator's pointer through `next`; none if a pending cell covers `k`;
none, and no pending cell covers `k`, once `k` has been yielded. Other threads only make the reachable
`k`-nodes fewer: every transition of `Proto/BinN` that leaves `absOf k = some v` is a `Delta k` on the nodes
(`stepK_delta`) — old nodes keep their keys; a `next` is only written by a list writer: an unlink skips one
node, an append links a FRESH last node whose key is not `k` (an insert that appends `k` found `k` absent:
its result contradicts the sequential specification on `some v`); the transfer never writes the `next` of an
old node, it only allocates copies. The list of a cell that is not forwarded has distinct keys of that cell's
class; pending cells have pairwise disjoint classes and a popped cell is never pushed again; `next` pointers
have no cycles (`Reach.ord_lt`), so after the node of `k` no node of `k` follows. -/
namespace Flurry.Proto.BinNI
open Flurry.Lin

/-- **C07, no duplicates of an untouched key**: at most one yield of the iteration has key `k` -/
theorem iter_untouched_yielded_at_most_once {nt : Nat} {s : State} (hr : Reachable nt s) {t τ0 τ1 k : Nat}
    {v : Nat × Nat} (he : (t, τ0, τ1) ∈ s.ends)
    (hun : ∀ s₁, Reachable nt s₁ → Steps s₁ s → τ0 ≤ s₁.n.now → s₁.n.now ≤ τ1 → absOf s₁ k = some v) :
    (s.yields.filter fun y => decide (y.tid = t ∧ y.t0 = τ0 ∧ y.key = k)).length ≤ 1 :=
  let ⟨_, K⟩ := reachable_kinv hr; Nat.le_of_eq (K.done _ he k v hun).2

/-- the same under the name of the property list -/
theorem iter_no_duplicates_of_untouched {nt : Nat} {s : State} (hr : Reachable nt s) {t τ0 τ1 k : Nat}
    {v : Nat × Nat} (he : (t, τ0, τ1) ∈ s.ends)
    (hun : ∀ s₁, Reachable nt s₁ → Steps s₁ s → τ0 ≤ s₁.n.now → s₁.n.now ≤ τ1 → absOf s₁ k = some v) :
    (s.yields.filter fun y => decide (y.tid = t ∧ y.t0 = τ0 ∧ y.key = k)).length ≤ 1 :=
  iter_untouched_yielded_at_most_once hr he hun

/-- **C07, present and untouched ⇒ yielded exactly once, with its value**: the yields of the iteration with key
`k` are exactly one record, and it carries `v` — whatever writers (on other keys, or overwriting nothing of
`k`) and however many resizes ran during the iteration -/
theorem iter_untouched_yielded_once {nt : Nat} {s : State} (hr : Reachable nt s) {t τ0 τ1 k : Nat}
    {v : Nat × Nat} (he : (t, τ0, τ1) ∈ s.ends)
    (hun : ∀ s₁, Reachable nt s₁ → Steps s₁ s → τ0 ≤ s₁.n.now → s₁.n.now ≤ τ1 → absOf s₁ k = some v) :
    ∃ y, (s.yields.filter fun y => decide (y.tid = t ∧ y.t0 = τ0 ∧ y.key = k)) = [y] ∧ y.val = v := by
  have h1 := iter_untouched_yielded_at_most_once hr he hun
  obtain ⟨y, hy, a, b, c, d⟩ := (iter_untouched_yielded hr he hun).1
  have hmem : y ∈ s.yields.filter fun y => decide (y.tid = t ∧ y.t0 = τ0 ∧ y.key = k) :=
    List.mem_filter.2 ⟨hy, by simpa using ⟨a, b, c⟩⟩
  have hlen : (s.yields.filter fun y => decide (y.tid = t ∧ y.t0 = τ0 ∧ y.key = k)).length = 1 := by
    have := List.length_pos_of_mem hmem
    omega
  obtain ⟨y', hy'⟩ := List.length_eq_one_iff.1 hlen
  rw [hy'] at hmem
  have : y = y' := by simpa using hmem
  exact ⟨y', hy', by rw [← this]; exact d⟩

end Flurry.Proto.BinNI
