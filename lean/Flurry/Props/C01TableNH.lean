import Flurry.Proto.TableNH
import Flurry.Lemmas.TableNH
import Flurry.Props.C01BinNH
import Flurry.Props.C01BinNHLin
/-! # C01 / C08 / C10 (table level, any number of COOPERATIVE resizes): ONE sequential order of ALL calls on ALL keys

`Proto/TableNH`: a whole table through any number of resizes, every resize of a lineage done by any number
of resizing threads (initiator and helpers). `m` lineages, each a `Proto/BinNH` lineage — bin `i` of the
initial table and everything it is split into: at generation `g` the cells `(g, j)`, `j < 2^g`, which are
the bins `i + m * j` of the table of length `m * 2^g`. Key `k` lives in lineage `k % m` under the local name
`k / m` (the hash is the key), i.e. in bin `k % (m * 2^g)` of generation `g` (`TableN.bin_index_eq_mod`,
`TableN.bin_index_eq`). `TableNH.step` translates the key of a call into its local name, the map history
records the ORIGINAL key. Any number of threads, a thread inside at most one lineage at a time (idle =
neither in a call nor a resizing thread there), one clock shared by all lineages. The table pointer is
modelled per lineage, which over-approximates the single pointer of the code (header of `Proto/TableN.lean`).

How the lineage-level theorems lift: a `tick` is *itself* a transition of `Proto/BinNH` — the step of a
thread that is idle in that lineage, not a resizing thread there, and starts nothing
(`tableNH_tick_is_lineage_step`). So every lineage of a reachable table is literally `BinNH.Reachable`
(`tableNH_lineage_reachable`) and `binNH_linearizable_quiescent`, `cell_migrated_at_most_once`,
`commit_only_when_all_forwarded`, `stale_helper_is_harmless`, `generations_do_not_overlap`,
`transfer_abs_invariant` apply to it as they stand; the key translation is `Lemmas/TableN.lean`'s;
locality (`LinMap.map_linearizable_of_proj`, which `C01.locality` states) does the rest. -/
namespace Flurry.Proto.TableNH
open Flurry.Lin Flurry.LinMap
open Flurry.Proto.TableN (lineageOf localKey)
open Flurry.Proto.BinN (cellAt lockAt)

theorem bins_length {m n : Nat} {S : State} (hr : Reachable m n S) : S.bins.length = m :=
  (reachable_tblInv hr).len

/-- a tick is a transition of the lineage: the step of a thread that is idle there (no call, not a
resizing thread) and starts nothing -/
theorem tableNH_tick_is_lineage_step {b : BinNH.State} {t : Nat} (h : idleIn b t = true) :
    BinNH.step b t none false false 0 = some (tick b) := tick_is_step h

/-- every lineage of a reachable table is a reachable `Proto/BinNH` lineage -/
theorem tableNH_lineage_reachable {m n : Nat} {S : State} (hr : Reachable m n S) {i : Nat} {b : BinNH.State}
    (hb : S.bins[i]? = some b) : BinNH.Reachable n b := (reachable_tblInv hr).reach i b hb

/-- a call is started in the lineage of its key, under its local name -/
theorem tableNH_call_in_own_lineage {S S' : State} {i t k : Nat} {op : KOp} {rz leave : Bool} {pick : Nat}
    (hs : step S i t (some (k, op)) rz leave pick = some S') :
    lineageOf S.bins.length k = i ∧ ∃ b b', S.bins[i]? = some b ∧
      BinNH.step b t (some (localKey S.bins.length k, op)) rz leave pick = some b' ∧ S'.bins[i]? = some b' := by
  obtain ⟨b, b', hb, -, hkey, hb', rfl⟩ := step_eq_some hs
  exact ⟨hkey k op rfl, b, b', hb, hb', (Lineages.set_map_getElem? tick b' hb).1⟩

/-- every call of the map history on key `k` is recorded in lineage `k % m`, under the local name `k / m` -/
theorem tableNH_key_in_own_lineage {m n : Nat} {S : State} (hr : Reachable m n S) {c : MCall} (hc : c ∈ mhist S) :
    ∃ b, S.bins[lineageOf m c.key]? = some b ∧ (localKey m c.key, c.call) ∈ b.n.hist :=
  mhist_own_lineage (reachable_tblInv hr) hc

/-! ## the cooperative resize, lineage by lineage -/

/-- **generations do not overlap, lineage by lineage** (`BinNH.generations_do_not_overlap`) -/
theorem tableNH_generations_do_not_overlap {m n : Nat} {S : State} (hr : Reachable m n S) {i : Nat}
    {b : BinNH.State} (hb : S.bins[i]? = some b) :
    b.n.tabs.length = b.n.cur + 1 + (if b.n.resizing then 1 else 0) ∧
    (∀ g row, b.n.tabs[g]? = some row → row.length = 2 ^ g) ∧
    (∀ (t : Nat) (hp : BinNH.Helper), b.hs[t]? = some (some hp) →
      hp.g ≤ b.n.cur ∧ (hp.g = b.n.cur → b.n.resizing = true)) ∧
    (∀ (t : Nat) (hp : BinNH.Helper) (j h : Nat), b.hs[t]? = some (some hp) → BinNH.hvalid hp.pc = some (j, h) →
      hp.g = b.n.cur ∧ b.n.resizing = true ∧ cellAt b.n b.n.cur j = .node h ∧ lockAt b.n.heap h = some t) :=
  BinNH.generations_do_not_overlap (tableNH_lineage_reachable hr hb)

/-- **old generations are forwarded, lineage by lineage** -/
theorem tableNH_old_generations_forwarded {m n : Nat} {S : State} (hr : Reachable m n S) {i : Nat}
    {b : BinNH.State} (hb : S.bins[i]? = some b) {g j : Nat} (hg : g < b.n.cur) (hj : j < 2 ^ g) :
    cellAt b.n g j = .moved :=
  BinNH.old_generations_forwarded (tableNH_lineage_reachable hr hb) hg hj

/-- **a cell (= a bin `i + m * j` of the table of generation `g`) is migrated at most once**, whichever and
however many helpers work on lineage `i` (`BinNH.cell_migrated_at_most_once`, for every transition `b → b'`
of the lineage — in particular the one a table transition makes in it) -/
theorem tableNH_cell_migrated_at_most_once {m n : Nat} {S : State} (hr : Reachable m n S) {i : Nat}
    {b : BinNH.State} (hb : S.bins[i]? = some b) :
    (∀ {b' t inv rz leave pick} (_ : BinNH.step b t inv rz leave pick = some b') (g j : Nat),
      cellAt b.n g j = .moved → cellAt b'.n g j = .moved) ∧
    (∀ {b' t inv rz leave pick} (_ : BinNH.step b t inv rz leave pick = some b') (g j : Nat),
      cellAt b.n g j ≠ .moved → cellAt b'.n g j = .moved →
      ∃ hp, b.hs[t]? = some (some hp) ∧ hp.g = g ∧ g = b.n.cur ∧ b.n.resizing = true ∧ j < 2 ^ g ∧
        ((hp.pc = .casMoved j ∧ cellAt b.n g j = .empty) ∨
         ∃ h, hp.pc = .storeMoved j h ∧ cellAt b.n g j = .node h ∧ lockAt b.n.heap h = some t)) ∧
    (∀ (t t1 : Nat) (hp hp1 : BinNH.Helper) (j h h1 : Nat), b.hs[t]? = some (some hp) →
      b.hs[t1]? = some (some hp1) → hp.g = hp1.g →
      BinNH.hvalid hp.pc = some (j, h) → BinNH.hvalid hp1.pc = some (j, h1) → t = t1) ∧
    (∀ {b' : BinNH.State} {t : Nat} {hp : BinNH.Helper} {j h : Nat} {inv rz leave pick},
      b.hs[t]? = some (some hp) → hp.pc = .check j h →
      cellAt b.n hp.g j = .moved → BinNH.step b t inv rz leave pick = some b' →
      b'.hs[t]? = some (some ⟨hp.g, .cell j⟩) ∧ lockAt b'.n.heap h = none ∧ b'.n.tabs = b.n.tabs) :=
  BinNH.cell_migrated_at_most_once (tableNH_lineage_reachable hr hb)

/-- the same for the transition a TABLE transition makes in the acting lineage: a forwarding marker of any
lineage is stable under every transition of the table -/
theorem tableNH_markers_stable {m n : Nat} {S S' : State} (hr : Reachable m n S) {i t : Nat}
    {inv : Option (Nat × KOp)} {rz leave : Bool} {pick : Nat} (hs : step S i t inv rz leave pick = some S')
    {j : Nat} {c c' : BinNH.State} (hc : S.bins[j]? = some c) (hc' : S'.bins[j]? = some c') (g x : Nat)
    (hm : cellAt c.n g x = .moved) : cellAt c'.n g x = .moved := by
  obtain ⟨b, b', hb, hidle, _, hb', rfl⟩ := step_eq_some hs
  rcases Lineages.of_set_map tick _ (idleIn · t) hidle j c' hc' with ⟨rfl, rfl⟩ | ⟨_, b0, hj, rfl, hid⟩
  · rw [hb] at hc; cases hc
    exact (BinNH.cell_migrated_at_most_once (tableNH_lineage_reachable hr hb)).1 hb' g x hm
  · rw [hj] at hc; cases hc
    exact hm

/-- **commit only when all forwarded, lineage by lineage** (`BinNH.commit_only_when_all_forwarded`) -/
theorem tableNH_commit_only_when_all_forwarded {m n : Nat} {S : State} (hr : Reachable m n S) {i : Nat}
    {b : BinNH.State} (hb : S.bins[i]? = some b) :
    (∀ {b' t inv rz leave pick}, BinNH.step b t inv rz leave pick = some b' → b'.n.cur ≠ b.n.cur →
      b'.n.cur = b.n.cur + 1 ∧ b.n.resizing = true ∧ b.hs[t]? = some (some ⟨b.n.cur, .commit⟩) ∧
      (∀ j, j < 2 ^ b.n.cur → cellAt b.n b.n.cur j = .moved) ∧
      (∀ (t1 : Nat) (hp : BinNH.Helper), b.hs[t1]? = some (some hp) → BinNH.hvalid hp.pc = none)) ∧
    (∀ (t : Nat) (hp : BinNH.Helper), b.hs[t]? = some (some hp) → hp.pc = .commit → hp.g = b.n.cur →
      ∀ j, j < 2 ^ b.n.cur → cellAt b.n b.n.cur j = .moved) :=
  BinNH.commit_only_when_all_forwarded (tableNH_lineage_reachable hr hb)

/-- **a stale helper is harmless, in every lineage** (`BinNH.stale_helper_is_harmless`) -/
theorem tableNH_stale_helper_is_harmless {m n : Nat} {S : State} (hr : Reachable m n S) {i : Nat}
    {b b' : BinNH.State} (hb : S.bins[i]? = some b) {t : Nat} {hp : BinNH.Helper}
    {inv : Option (Nat × KOp)} {rz leave : Bool} {pick : Nat} (hh : b.hs[t]? = some (some hp))
    (hg : hp.g < b.n.cur) (hs : BinNH.step b t inv rz leave pick = some b') :
    b'.n.tabs = b.n.tabs ∧ b'.n.cur = b.n.cur ∧ b'.n.resizing = b.n.resizing ∧ b'.n.hist = b.n.hist ∧
    b'.n.threads = b.n.threads ∧ BinNH.hvalid hp.pc = none ∧
    (b'.n.heap = b.n.heap ∨ ∃ h x, b'.n.heap = b.n.heap.modify h (fun m => { m with lock := x })) ∧
    ∀ k, BinNH.absOf b' k = BinNH.absOf b k :=
  BinNH.stale_helper_is_harmless (tableNH_lineage_reachable hr hb) hh hg hs

/-- no step of a resizing thread of any lineage, and no start / joining of a resize, changes the abstract
state of any key -/
theorem tableNH_transfer_abs_invariant {m n : Nat} {S : State} (hr : Reachable m n S) {i : Nat}
    {b b' : BinNH.State} (hb : S.bins[i]? = some b) {t : Nat} {inv : Option (Nat × KOp)} {rz leave : Bool}
    {pick : Nat} (hs : BinNH.step b t inv rz leave pick = some b')
    (hT : (∃ hp, b.hs[t]? = some (some hp)) ∨ (b.hs[t]? = some none ∧ b'.hs[t]? ≠ some none)) (q : Nat) :
    BinNH.absOf b' q = BinNH.absOf b q :=
  BinNH.transfer_abs_invariant (tableNH_lineage_reachable hr hb) hs hT q

/-! ## the history of the map -/

/-- no call responds before it is invoked (one clock for all lineages) -/
theorem tableNH_inv_le_resp {m n : Nat} {S : State} (hr : Reachable m n S) :
    ∀ c ∈ mhist S, c.call.inv ≤ c.call.resp := mhist_wf hr

/-- the projection of the map history on key `k` is — as a list — the history of the local key `k / m` in
lineage `k % m` -/
theorem tableNH_proj_eq {m n : Nat} (hm : 0 < m) {S : State} (hr : Reachable m n S) {k : Nat} {b : BinNH.State}
    (hb : S.bins[lineageOf m k]? = some b) : proj (mhist S) k = BinNH.callsOn b (localKey m k) :=
  proj_mhist (reachable_tblInv hr) hb

/-- per key, in every reachable state (completed calls plus writers past their linearization point) -/
theorem tableNH_key_linearizable_ext {m n : Nat} {S : State} (hr : Reachable m n S) {k : Nat} {b : BinNH.State}
    (hb : S.bins[lineageOf m k]? = some b) :
    Lin.Linearizable (BinNH.callsOnExt b (localKey m k)) none (BinNH.absOf b (localKey m k)) :=
  BinNH.binNH_linearizable (tableNH_lineage_reachable hr hb) (localKey m k)

/-- per key, at quiescence -/
theorem tableNH_key_linearizable {m n : Nat} (hm : 0 < m) {S : State} (hr : Reachable m n S) (hq : quiescent S)
    (k : Nat) : Lin.Linearizable (proj (mhist S) k) none (absMap S k) := by
  have I := reachable_tblInv hr
  obtain ⟨b, hb, hd⟩ := bin_of_key hm I k
  rw [proj_mhist I hb]
  unfold absMap
  rw [hd, I.len]
  exact BinNH.binNH_linearizable_quiescent (I.reach _ b hb) (hq b (List.mem_of_getElem? hb)) (localKey m k)

/-- **C01 for a whole table through any number of COOPERATIVE resizes: ONE sequential order of ALL calls on
ALL keys** respects real time and replays through the sequential specification of a map, from the empty map
to the abstract map of the table — helpers inside every lineage, different lineages transferred by
different threads. -/
theorem tableNH_map_linearizable {m n : Nat} (hm : 0 < m) {S : State} (hr : Reachable m n S) (hq : quiescent S) :
    LinMap.MapLinearizable (mhist S) (fun _ => none) (absMap S) :=
  LinMap.map_linearizable_of_proj (mhist_wf hr) (fun k => tableNH_key_linearizable hm hr hq k)

/-! ## non-vacuity -/

/-- the model refuses a call on a key of another lineage, and a thread that is a resizing thread (helper) of
another lineage; two threads may help the same lineage while a third resizes another one -/
example : (step (init 2 3) 0 0 (some (1, .ins 1 1)) false false 0).isNone = true ∧
    ((step (init 2 3) 0 0 none true false 0).bind fun S => step S 1 0 none true false 0).isNone = true ∧
    ((step (init 2 3) 0 0 none true false 0).bind fun S => (step S 0 1 none true false 0).bind fun S =>
      (step S 1 2 none true false 0).bind fun S => step S 0 1 none false false 0).isSome = true := by
  decide

end Flurry.Proto.TableNH
