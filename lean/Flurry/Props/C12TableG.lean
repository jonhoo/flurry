import Flurry.Lemmas.TableGP
import Flurry.Props.C12BinG
import Flurry.Props.C11TableG
/-! # C12 for `Proto/TableG`: reads never block and finish in a bounded number of their own steps — in the whole table

> `get`, `contains_key`, iterators … never acquire a bin lock and never wait for a writer — whatever
> the other threads are doing in the same bin or in any other bin of the table.

`Proto/TableG`: `m` lineages of `Proto/BinG` on one clock. A thread at a reader pc in lineage `i` of a
reachable table is `idle` in every other lineage (`tableG_active_idle_elsewhere`), so:

1. `tableG_reader_step_enabled` — its table step in lineage `i` is enabled in every reachable table
   state, for every value of the scheduler's arguments (the keys they name, if any, being keys of
   lineage `i`; a reader ignores them);
2. `tableG_reader_step_frame` — that step changes nothing in any lineage except: the clock of every
   lineage advances by one (`tick`), and in lineage `i` the reader's own local state, the reader count
   of one `TreeBin` and `hist` (`BinG.Frame`);
3. `tableG_reader_solo_terminates` — running alone (`runSolo`: all other threads, in all lineages,
   suspended wherever they are) the reader has returned after at most `BinG.soloBound` of its lineage
   (`4 * heap.length + 10`) steps, all enabled; its answer is in the history of the map; every other
   lineage has only ticked.

Proofs: `Lemmas/TableGP.lean` over `Props/C12BinG.lean`. -/
namespace Flurry.Proto.TableGP
open Flurry.Lin Flurry.LinMap Flurry.Proto.TableG

theorem readerPc_ne_idle {pc : BinG.Pc} (h : BinG.readerPc pc = true) : pc ≠ .idle :=
  (BinG.readerPc_facts h).1

/-- **C12.1 for the table: a reader's step is never disabled.** In every reachable table state, for
every thread at a reader pc in lineage `i` and every value of the scheduler's arguments (an invoked
key / treeify key, which the reader ignores, must pass the `inLineage` test of `TableG.step`; with
`inv = none`, `maint = none` both hypotheses are `rfl`), the table step of that thread in lineage `i`
is enabled: no state of the other threads in ANY lineage — holding locks, mid-transfer, parked —
disables it. -/
theorem tableG_reader_step_enabled {m n : Nat} {S : State} (hr : Reachable m n S) {i t : Nat} {b : BinG.State}
    {l : BinG.Local} (hb : S.bins[i]? = some b) (hl : b.threads[t]? = some l) (hrd : BinG.readerPc l.pc = true)
    (inv : Option (Nat × KOp)) (lo : Bool) (mt : Option Nat) (rz sm sm2 : Bool)
    (h1 : inLineage S.bins.length i (inv.map (·.1)) = true) (h2 : inLineage S.bins.length i mt = true) :
    (step S i t inv lo mt rz sm sm2).isSome = true := by
  have hrb := tableG_lineage_reachable hr hb
  obtain ⟨b', hs⟩ := Option.isSome_iff_exists.1 (BinG.reader_step_enabled hrb hl hrd inv lo mt rz sm sm2)
  rw [step_lift hb (idleElse_of_active hr hb hl (readerPc_ne_idle hrd)) h1 h2 hs]
  rfl

theorem tableG_reader_quiet_step_enabled {m n : Nat} {S : State} (hr : Reachable m n S) {i t : Nat} {b : BinG.State}
    {l : BinG.Local} (hb : S.bins[i]? = some b) (hl : b.threads[t]? = some l) (hrd : BinG.readerPc l.pc = true)
    (lo rz sm sm2 : Bool) : (step S i t none lo none rz sm sm2).isSome = true :=
  tableG_reader_step_enabled hr hb hl hrd none lo none rz sm sm2 rfl rfl

/-- **C12.2 for the table: a reader takes no lock and stores nothing, anywhere.** A table step of a
thread at a reader pc in lineage `i`: the table keeps its lineages; every lineage other than `i` only
ticks (its clock advances, nothing else changes); lineage `i` changes within `BinG.Frame` — heap, the
three cells, the table pointer, `first` / mutex / `WRITER` / `WAITER` of every `TreeBin` and all other
threads are as before; only the reader's local state, one reader count, the clock and `hist` change.
No reachability assumption. -/
theorem tableG_reader_step_frame {S S' : State} {i t : Nat} {b : BinG.State} {l : BinG.Local}
    (hb : S.bins[i]? = some b) (hl : b.threads[t]? = some l) (hrd : BinG.readerPc l.pc = true)
    {inv : Option (Nat × KOp)} {lo : Bool} {mt : Option Nat} {rz sm sm2 : Bool}
    (hs : step S i t inv lo mt rz sm sm2 = some S') :
    S'.bins.length = S.bins.length ∧ (∃ b', S'.bins[i]? = some b' ∧ BinG.Frame t b b') ∧
    ∀ (j : Nat) (bj : BinG.State), j ≠ i → S.bins[j]? = some bj → S'.bins[j]? = some (tick bj) := by
  obtain ⟨b0, b', hb0, _, _, _, hs', rfl⟩ := step_eq_some hs
  rw [hb] at hb0
  cases hb0
  obtain ⟨h1, h2⟩ := Lineages.set_map_getElem? tick b' hb
  refine ⟨?_, ⟨b', h1, BinG.reader_step_frame hl hrd hs'⟩, h2⟩
  show ((S.bins.map tick).set i b').length = _
  rw [List.length_set, List.length_map]

/-- **C12.3 for the table: bounded own steps.** From every reachable table state, a thread at a reader
pc in lineage `i` that runs alone — every other thread suspended wherever it is, in whatever lineage —
has returned after at most `BinG.soloBound b = 4 * b.heap.length + 10` of its own steps (`b`: its
lineage), all of them enabled table steps: it is `idle` in lineage `i`, its call is appended to the
lineage's `hist` and is an entry of the history of the map; lineage `i` changed within `BinG.Frame`;
every other lineage has only ticked `k` times; the table reached is reachable. -/
theorem tableG_reader_solo_terminates {m n : Nat} {S : State} (hr : Reachable m n S) {i t : Nat} {b : BinG.State}
    {l : BinG.Local} (hb : S.bins[i]? = some b) (hl : b.threads[t]? = some l) (hrd : BinG.readerPc l.pc = true)
    (sm sm2 : Bool) :
    ∃ k, k ≤ BinG.soloBound b ∧ ∃ (S' : State) (b' : BinG.State) (p : BinG.Pending) (res : KRes) (resp : Nat),
      l.call = some p ∧ runSolo i t sm sm2 k S = some S' ∧ Reachable m n S' ∧
      S'.bins.length = S.bins.length ∧ S'.bins[i]? = some b' ∧ BinG.Frame t b b' ∧
      b'.threads[t]? = some { pc := .idle, call := none } ∧
      b'.hist = (p.key, { tid := t, op := p.op, res := res, inv := p.inv, resp := resp }) :: b.hist ∧
      (⟨p.key, { tid := t, op := p.op, res := res, inv := p.inv, resp := resp }⟩ : MCall) ∈ mhist S' ∧
      ∀ (j : Nat) (bj : BinG.State), j ≠ i → S.bins[j]? = some bj → S'.bins[j]? = some (tickN k bj) := by
  have hrb := tableG_lineage_reachable hr hb
  obtain ⟨k, hk, b', p, res, resp, hp, hrun, hfr, hidle, hhist⟩ := BinG.reader_solo_terminates hrb hl hrd sm sm2
  obtain ⟨S', hrun', hlen, hi', hoth⟩ :=
    solo_lift k hb (idleElse_of_active hr hb hl (readerPc_ne_idle hrd)) hrun
  refine ⟨k, hk, S', b', p, res, resp, hp, hrun', runSolo_reachable k hr hrun', hlen, hi', hfr, hidle, hhist, ?_, hoth⟩
  have : (p.key, ({ tid := t, op := p.op, res := res, inv := p.inv, resp := resp } : Call)) ∈ b'.hist := by
    rw [hhist]; exact List.mem_cons_self
  exact mhist_eq S' ▸ Lineages.mem_mhist_of_hist (K := keys S'.bins.length) hi' this

theorem tickN_eq (k : Nat) (b : BinG.State) : tickN k b = { b with now := b.now + k } := rfl

/-- in `busyState` thread 2 is at `rTree 0` in lineage 0 while thread 0 is parked behind it, lineage 1
is mid-transfer with its bin lock held and thread 1 waits for that lock: running alone, the reader
returns `get 0 = some (5, 100)` in 3 steps (within `soloBound = 4 * 4 + 10`), lineage 1 has only ticked
(same pcs, clock + 3) -/
example : (busyState.bind fun S => (runSolo 0 2 false false 3 S).map fun S' =>
      ((S.bins[0]?).map BinG.soloBound, (S'.bins[0]?).map (fun b => (b.threads[2]?, b.hist.head?)))) =
    some (some 26, some (some { pc := .idle, call := none },
        some (0, { tid := 2, op := .get, res := .some 5 100, inv := 35, resp := 60 }))) := by
  have h := busy_facts
  simp only [Bool.and_eq_true, decide_eq_true_eq] at h
  exact h.1.2

example : (busyState.bind fun S => (runSolo 0 2 false false 3 S).map fun S' =>
      ((S.bins[1]?).map (fun b => (b.threads.map (·.pc), b.cell0, b.now)),
        (S'.bins[1]?).map (fun b => (b.threads.map (·.pc), b.cell0, b.now)))) =
    some (some ([.idle, .wLock .old 0, .idle, .xStoreHigh (.inl 0) (.list 1)], .list 0, 57),
      some ([.idle, .wLock .old 0, .idle, .xStoreHigh (.inl 0) (.list 1)], .list 0, 60)) := by
  have h := busy_facts
  simp only [Bool.and_eq_true, decide_eq_true_eq] at h
  exact h.2

/-- the general theorem instantiated at `busyState` -/
example : ∃ S, busyState = some S ∧ ∃ k, k ≤ 26 ∧ ∃ S', runSolo 0 2 false false k S = some S' ∧ Reachable 2 4 S' := by
  have h := busy_facts
  simp only [Bool.and_eq_true, decide_eq_true_eq] at h
  obtain ⟨S, hs, h⟩ := Option.map_eq_some_iff.1 h.1.1.2
  obtain ⟨b, hb, h⟩ := Option.map_eq_some_iff.1 h
  simp only [Prod.mk.injEq] at h
  have hr : Reachable 2 4 S := run_reachable busySched Reachable.init hs
  obtain ⟨k, hk, S', _, _, _, _, _, hrun, hr', _⟩ := tableG_reader_solo_terminates hr hb h.1 rfl false false
  exact ⟨S, hs, k, by rw [h.2] at hk; exact hk, S', hrun, hr'⟩

end Flurry.Proto.TableGP
