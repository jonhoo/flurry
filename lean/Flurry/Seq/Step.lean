import Flurry.Seq.Inv
/-! # Operation sequences: the model's `step` and the reference map's `step`

`Op` is the operation alphabet of property C02 on one map (operations that involve a second map
— clone, equality, set relations — are derived from these and from `entries`).
Callbacks are data: `cip` carries the closure's behaviour as a function of the value it is shown
(`CbRes`, which may be `panic`), `retain` carries the predicate (`Option Bool`, `none` = panic). -/
namespace Flurry.Seq
open Flurry Flurry.Gen

inductive Op where
  | ins (k ki v vi : Nat)
  | tryIns (k ki v vi : Nat)
  | get (k : Nat)
  | getKV (k : Nat)
  | has (k : Nat)
  | rm (k : Nat)
  | rmEntry (k : Nat)
  | cip (k : Nat) (f : Nat → Nat → Nat → CbRes)
  | retain (force : Bool) (f : Nat → Nat → Nat → Option Bool)
  | clear
  | reserve (n : Nat)
  | extend (hint : Nat) (items : List (Nat × Nat × Nat × Nat))
  | len
  | isEmpty

/-- what an operation answers (iteration is handled separately: `entries`) -/
inductive Ans where
  | none
  | some (v vi : Nat)
  | someKV (ki v vi : Nat)
  | exists_ (v vi : Nat)
  | bool (b : Bool)
  | nat (n : Nat)
  | ok
  | panic
deriving DecidableEq, Repr

def ansOfOut : Out → Ans
  | .none => .none
  | .some v vi => .some v vi
  | .someKV ki v vi => .someKV ki v vi
  | .exists_ v vi => .exists_ v vi
  | .ok => .ok
  | .panic => .panic

/-- one public operation on the model -/
def step (m : Map) : Op → Map × Ans
  | .ins k ki v vi => let r := put k ki v vi false m; (r.1, ansOfOut r.2)
  | .tryIns k ki v vi => let r := put k ki v vi true m; (r.1, ansOfOut r.2)
  | .get k => (m, match get k m with | some n => .some n.val n.vi | none => .none)
  | .getKV k => (m, match get k m with | some n => .someKV n.ki n.val n.vi | none => .none)
  | .has k => (m, .bool (get k m).isSome)
  | .rm k =>
    let r := replaceNode k none none m
    (r.1, match r.2 with | .someKV _ v vi => .some v vi | o => ansOfOut o)
  | .rmEntry k => let r := replaceNode k none none m; (r.1, ansOfOut r.2)
  | .cip k f => let r := computeIfPresent k f m; (r.1, ansOfOut r.2)
  | .retain force f => let r := retain force f m; (r.1, ansOfOut r.2)
  | .clear => (clear m, .ok)
  | .reserve n => (reserve n m, .ok)
  | .extend hint items => (extend hint items m, .ok)
  | .len => (m, .nat (len m))
  | .isEmpty => (m, .bool (len m == 0))

def run (m : Map) : List Op → Map × List Ans
  | [] => (m, [])
  | op :: ops => let r := step m op; let rs := run r.1 ops; (rs.1, r.2 :: rs.2)

/-! ## the reference map -/

/-- a finite reference map: the function plus the number of keys it holds -/
structure RefMap where
  f : Ref
  size : Nat

namespace RefMap
def empty : RefMap := ⟨Ref.empty, 0⟩
end RefMap

/-- one operation on the reference. A `retain` whose predicate panics part-way keeps an arbitrary
processed prefix; here a panicking answer counts as "keep", and `retain` with a panicking
predicate is specified separately, see C18. -/
def Ref.step (r : Ref) : Op → Ref × Ans
  | .ins k ki v vi => (r.insert k ki v vi, match r k with | some (_, v0, vi0) => .some v0 vi0 | none => .none)
  | .tryIns k ki v vi =>
    match r k with
    | some (_, v0, vi0) => (r, .exists_ v0 vi0)
    | none => (r.insert k ki v vi, .none)
  | .get k => (r, match r k with | some (_, v, vi) => .some v vi | none => .none)
  | .getKV k => (r, match r k with | some (ki, v, vi) => .someKV ki v vi | none => .none)
  | .has k => (r, .bool (r k).isSome)
  | .rm k => (r.remove k, match r k with | some (_, v, vi) => .some v vi | none => .none)
  | .rmEntry k => (r.remove k, match r k with | some (ki, v, vi) => .someKV ki v vi | none => .none)
  | .cip k f =>
    match r k with
    | none => (r, .none)
    | some (_, v, vi) =>
      match f k v vi with
      | .panic => (r, .panic)
      | .keep v' vi' => (r.setVal k v' vi', .some v' vi')
      | .remove => (r.remove k, .none)
  | .retain _ f => (r.filter (fun k v vi => (f k v vi).getD true), .ok)
  | .clear => (Ref.empty, .ok)
  | .reserve _ => (r, .ok)
  | .extend _ items => (items.foldl (fun r (k, ki, v, vi) => r.insert k ki v vi) r, .ok)
  | .len => (r, .ok)        -- answered from the model's own count, see `len_spec`
  | .isEmpty => (r, .ok)

/-- predicates that never panic -/
def Op.total : Op → Prop
  | .retain _ f => ∀ k v vi, (f k v vi).isSome
  | _ => True

/-- operations whose reference answer is a function of the reference map alone -/
def Op.answered : Op → Bool
  | .len | .isEmpty => false
  | _ => true

end Flurry.Seq
