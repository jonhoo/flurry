import Flurry.Seq.Model
import Flurry.RBInv
/-! # Well-formedness of the sequential model state and the abstraction to a lookup function

Definitions only. `WF m` is what property C05 calls "well formed at quiescence"; `absMap m` is
the abstract map that C02's refinement theorem relates to the reference map. -/
namespace Flurry.Seq
open Flurry Flurry.Gen

def IsPow2 (n : Nat) : Prop := ∃ k, n = 2 ^ k

/-- a node sits in the bin its hash selects, and its hash is the hash of its key -/
def NodeOk (hash : Nat → Nat) (n i : Nat) (nd : Node) : Prop :=
  nd.hash = hash nd.key ∧ bini nd.hash n = i

def KeysNodup (ns : List Node) : Prop := (ns.map (·.key)).Nodup

/-- well-formedness of the bin at index `i` of a table of `n` bins -/
def BinWF (hash : Nat → Nat) (n i : Nat) : Bin → Prop
  | .empty => True
  | .list ns => ns ≠ [] ∧ (∀ nd ∈ ns, NodeOk hash n i nd) ∧ KeysNodup ns
  | .tree t o => o ≠ [] ∧ (∀ nd ∈ o, NodeOk hash n i nd) ∧ KeysNodup o ∧
      RB.TreeInv t ∧ (RB.toList t).Perm o

def TableWF (hash : Nat → Nat) (t : Table) : Prop :=
  IsPow2 t.length ∧ t.length ≤ MAXIMUM_CAPACITY ∧
  ∀ i, i < t.length → BinWF hash t.length i (tableBin t i)

/-- **well formed at quiescence** (C05): table length a power of two `≤ 2^30`; every node in
the bin its hash selects; no key twice; tree bins are red-black trees holding exactly their
traversal list; the count equals the number of entries; the threshold is three quarters of the
length (and not yet reached, unless the table is at its maximum); no resize is in progress
(`size_ctl ≥ 0`). Before the table exists: no entries, `size_ctl ≥ 0`. -/
def WF (m : Map) : Prop :=
  match m.table with
  | none => m.count = 0 ∧ 0 ≤ m.sizeCtl
  | some t =>
    TableWF m.hash t ∧ m.count = Int.ofNat (entries m).length ∧
    m.sizeCtl = loadFactor (Int.ofNat t.length) ∧
    (m.count < m.sizeCtl ∨ t.length = MAXIMUM_CAPACITY)

/-- what a lookup of `k` finds -/
def lookup (m : Map) (k : Nat) : Option Node := get k m

/-- the reference map of C02 as a function `key ↦ (stored key instance, value, value id)` -/
abbrev Ref := Nat → Option (Nat × Nat × Nat)

def absMap (m : Map) : Ref := fun k => (get k m).map fun nd => (nd.ki, nd.val, nd.vi)

namespace Ref
def empty : Ref := fun _ => none
/-- insert keeps the key instance stored first -/
def insert (r : Ref) (k ki v vi : Nat) : Ref := fun k' =>
  if k' = k then (match r k with | some (ki0, _, _) => some (ki0, v, vi) | none => some (ki, v, vi)) else r k'
def remove (r : Ref) (k : Nat) : Ref := fun k' => if k' = k then none else r k'
def setVal (r : Ref) (k v vi : Nat) : Ref := fun k' =>
  if k' = k then (r k).map (fun (ki0, _, _) => (ki0, v, vi)) else r k'
def filter (r : Ref) (p : Nat → Nat → Nat → Bool) : Ref := fun k =>
  match r k with
  | some (ki, v, vi) => if p k v vi then some (ki, v, vi) else none
  | none => none
end Ref

end Flurry.Seq
