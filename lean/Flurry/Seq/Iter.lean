import Flurry.RB
/-! # The traverser (`src/iter/traverser.rs`: `NodeIter`, `TableStack`, `push_state`,
`recover_state`) on a *frozen* chain of tables

`chain[0]` is the table the iterator was created on, `chain[j+1]` the table that the forwarding
markers of `chain[j]` point to. A bin is either the list of nodes a traversal of its `next`
pointers yields (list bins and tree bins alike: tree bins are traversed through `first`/`next`),
or `moved`. The structure does not change during the traversal ("frozen"): that is the situation
of an iterator running while a resize is paused between two bins, for any subset of moved bins
and any nesting depth; the dynamic case (concurrent mutation) is judged on recorded histories.

Definitions only; `traverse_frozen` is proved in `Flurry/Lemmas/IterFrozen.lean`. -/
namespace Flurry.Seq.Iter
open Flurry

inductive FBin where
  | nodes (ns : List Node)
  | moved
deriving Repr, DecidableEq, Inhabited

abbrev FTable := List FBin
abbrev Chain := List FTable

/-- a saved frame: `(length, index, table)` of `TableStack` -/
structure Frame where
  length : Nat
  index : Nat
  table : Nat      -- position in the chain
deriving Repr, DecidableEq

structure St where
  /-- current table (position in the chain); `none` = no table -/
  table : Option Nat
  stack : List Frame := []
  index : Nat := 0
  baseIndex : Nat := 0
  baseLimit : Nat
  baseSize : Nat
deriving Repr

def tableAt (c : Chain) (j : Nat) : FTable := c.getD j []

def initSt (c : Chain) : St :=
  match c with
  | [] => { table := none, baseLimit := 0, baseSize := 0 }
  | t :: _ => { table := some 0, baseLimit := t.length, baseSize := t.length }

/-- `recover_state(n)` -/
def recoverGo (fuel : Nat) (s : St) (n : Nat) : St × Nat :=
  match fuel with
  | 0 => (s, n)
  | fuel + 1 =>
    match s.stack with
    | [] => (s, n)
    | f :: rest =>
      if s.index + f.length < n then
        -- the high side of this bucket has not been visited: stay in this frame
        ({ s with index := s.index + f.length }, n)
      else
        -- pop
        recoverGo fuel { s with index := f.index, table := some f.table, stack := rest } f.length

def recover (s : St) (n : Nat) : St :=
  let (s', n') := recoverGo (s.stack.length + 1) s n
  if s'.stack.isEmpty then
    -- the loop ended because everything was popped (a `break` leaves the stack non-empty):
    -- move to the next part of the top-level bin
    let idx := s'.index + s'.baseSize
    if idx >= n' then { s' with baseIndex := s'.baseIndex + 1, index := s'.baseIndex + 1 }
    else { s' with index := idx }
  else s'

/-- One turn of the `loop` in `NodeIter::next` when there is no pending node: returns the nodes of
the bin reached (they are yielded one by one through `prev.next`) and the next state, or `none`
when the traversal is over. -/
def advance (c : Chain) (s : St) : Option (List Node × St) :=
  match s.table with
  | none => none
  | some j =>
    let t := tableAt c j
    if s.baseIndex >= s.baseLimit || t.length <= s.index then none
    else
      let i := s.index
      let n := t.length
      match t.getD i (.nodes []) with
      | .moved =>
        -- descend into the next table, remembering where we were
        some ([], { s with table := some (j + 1), stack := { length := n, index := i, table := j } :: s.stack })
      | .nodes ns =>
        let s' :=
          if s.stack.isEmpty then
            let idx := i + s.baseSize
            if idx >= n then { s with baseIndex := s.baseIndex + 1, index := s.baseIndex + 1 }
            else { s with index := idx }
          else recover s n
        some (ns, s')

/-- run the traverser to exhaustion (fuel-bounded); the nodes in yield order -/
def traverse (c : Chain) : Nat → St → List Node
  | 0, _ => []
  | fuel + 1, s =>
    match advance c s with
    | none => []
    | some (ns, s') => ns ++ traverse c fuel s'

/-- what a lookup-style resolution of bin `i` of table `j` contains: its nodes, or, if moved,
the contents of bins `i` and `i + n` of the next table -/
def resolve (c : Chain) : Nat → Nat → Nat → List Node
  | 0, _, _ => []
  | fuel + 1, j, i =>
    match (tableAt c j).getD i (.nodes []) with
    | .nodes ns => ns
    | .moved => resolve c fuel (j + 1) i ++ resolve c fuel (j + 1) (i + (tableAt c j).length)

/-- everything reachable from the first table -/
def contents (c : Chain) : List Node :=
  (List.range (tableAt c 0).length).flatMap fun i => resolve c (c.length + 1) 0 i

/-- the chain is well formed: every next table is twice as long, the last table has no moved bin,
lengths are positive -/
def ChainWF (c : Chain) : Prop :=
  (∀ j, j + 1 < c.length → (tableAt c (j + 1)).length = 2 * (tableAt c j).length) ∧
  (∀ j, j < c.length → 0 < (tableAt c j).length) ∧
  (∀ t, c.getLast? = some t → ∀ b ∈ t, b ≠ .moved)

/-- enough fuel for any traversal of `c`: every `advance` either yields a bin or pushes a frame -/
def fuelFor (c : Chain) : Nat := (c.map List.length).sum * (c.length + 2) + 2

end Flurry.Seq.Iter
