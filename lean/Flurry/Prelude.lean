/-! Hand-written prelude for the generated files: the few helper functions the
expression translator refers to. No Mathlib.

`npow2` models `usize::next_power_of_two` (smallest power of two `≥ n`, `1` for `n = 0`);
core's `Nat.nextPowerOfTwo` is the same function but its body is not exposed, so it cannot be
reasoned about; the two are compared by a `#guard` in `Flurry/Lemmas/Pow2.lean` and the definition
is cross-checked against the Rust intrinsic on every run (check `gen-crosscheck`). -/
namespace Flurry

theorem npow2_dec {n power : Nat} (h₁ : power > 0) (h₂ : power < n) :
    n - power * 2 < n - power := by omega

/-- least power of two `≥ n`, starting the search at `power` -/
def npow2Go (n power : Nat) (h : power > 0) : Nat :=
  if power < n then npow2Go n (power * 2) (Nat.mul_pos h (by decide)) else power
termination_by n - power
decreasing_by exact npow2_dec h ‹_›

/-- `usize::next_power_of_two` -/
def npow2 (n : Nat) : Nat := npow2Go n 1 (by decide)

/-- `usize::leading_zeros` on a 64-bit word, as a function on naturals `< 2^64`. -/
def clz64 (n : Nat) : Nat := if n = 0 then 64 else 63 - Nat.log2 n

end Flurry
