import Flurry.Lin
/-! # Proto/Bin: one list bin, any number of threads (C01, C08)

A small-step model of what `put` / `try_insert` / `replace_node` / `compute_if_present` /
`get_node` do to one *list* bin of a table that is not being resized (`src/map.rs`, the
`BinEntry::Node` arms; `src/node.rs: Node`). One transition = one shared-memory access, except `wWrite`: a validated
writer finds its node and stores in one transition (`Proto/BinW` spells the walk out and shows that this is sound).

* A bin is a singly linked list of nodes reachable from the bin cell `head`. A node has an
  immutable key, an atomic value cell and an atomic `next` cell, and — this is the point of the
  model — **the bin's lock lives inside its first node** (`Node::lock`). A writer loads the head,
  locks *that node*, and must then **re-read the bin cell**: if the head changed while it waited
  (the old head was removed), it unlocks and starts over. Two writers can therefore hold locks at
  the same time (one of a stale head, one of the current head); what excludes them from each
  other is the re-check, and the model keeps it as a separate step (`wCheck`).
* An insert into an *empty* bin takes no lock: it is a CAS `none → new node` on the bin cell.
* Every other write happens under the validated lock and is a single atomic store: a value swap
  (replace, `compute_if_present`), a `next`/bin-cell store that appends a node, or a `next`/bin-cell
  store that unlinks one. Unlinked nodes are never modified again and stay allocated (readers
  may still be walking them: reclamation is deferred by the guards, C03).
* Readers (`get`, `contains_key`) take no lock: they load the bin cell, then per node compare the
  (immutable) key and either load the value (hit) or load `next`.

`hist` records every completed call with its invocation and response times (global step
counter), in the format of `Flurry.Lin`. The theorem (`Lemmas/Bin*.lean`,
`Props/C01Bin.lean`): for every reachable state and every key, the completed calls on that key are
`Lin.Linearizable` from "absent" to the key's current abstract state.

Not modelled here: resize (forwarding markers, `transfer`), tree bins, `clear`/`retain`. -/
namespace Flurry.Proto.Bin
open Flurry.Lin

structure NodeS where
  key : Nat
  val : Nat × Nat
  next : Option Nat
  /-- holder of the mutex inside this node -/
  lock : Option Nat := none
deriving Repr, DecidableEq

/-- a call in flight: key, operation, invocation time -/
structure Pending where
  key : Nat
  op : KOp
  inv : Nat
deriving Repr, DecidableEq

inductive Pc where
  | idle
  /-- reader: about to load the bin cell -/
  | rHead
  /-- reader: holds `cur` (loaded from the bin cell or from a `next` cell) -/
  | rNode (cur : Option Nat)
  /-- writer: about to load the bin cell -/
  | wHead
  /-- writer (ins / tryIns on an empty bin): about to CAS the bin cell `none → new` -/
  | wCas
  /-- writer: saw head `h`, about to lock the mutex in node `h` -/
  | wLock (h : Nat)
  /-- writer: holds the mutex of node `h`, about to re-read the bin cell -/
  | wCheck (h : Nat)
  /-- writer: holds the mutex of the current head `h`, about to do its one store -/
  | wWrite (h : Nat)
  /-- writer: about to unlock node `h` and return `res` (`retry = true`: start over instead) -/
  | wUnlock (h : Nat) (res : KRes) (retry : Bool)
deriving Repr, DecidableEq

structure Local where
  pc : Pc := .idle
  call : Option Pending := none
deriving Repr, DecidableEq

structure State where
  heap : List NodeS := []
  head : Option Nat := none
  threads : List Local
  /-- completed calls, most recent first, with their key -/
  hist : List (Nat × Call) := []
  /-- global step counter (the "time" of invocations and responses) -/
  now : Nat := 0
deriving Repr

def init (nthreads : Nat) : State := { threads := List.replicate nthreads {} }

def isReader : KOp → Bool
  | .get | .has => true
  | _ => false

/-- the indices of the nodes reachable from `start`, in list order (fuel = heap size) -/
def chainFrom (heap : List NodeS) : Nat → Option Nat → List Nat
  | 0, _ => []
  | _, none => []
  | fuel + 1, some i =>
    match heap[i]? with
    | none => []
    | some n => i :: chainFrom heap fuel n.next

def chain (s : State) : List Nat := chainFrom s.heap s.heap.length s.head

/-- the abstract content of the bin: key ↦ value of the first node with that key on the chain -/
def absOf (s : State) (k : Nat) : KSt :=
  match (chain s).find? (fun i => (s.heap.getD i ⟨0, (0, 0), none, none⟩).key == k) with
  | some i => some (s.heap.getD i ⟨0, (0, 0), none, none⟩).val
  | none => none

def setNode (s : State) (i : Nat) (f : NodeS → NodeS) : State :=
  { s with heap := s.heap.modify i f }

def setT (s : State) (t : Nat) (l : Local) : State := { s with threads := s.threads.set t l }

/-- complete the call of thread `t` with result `res` -/
def finish (s : State) (t : Nat) (p : Pending) (res : KRes) : State :=
  { (setT s t { pc := .idle, call := none }) with
      hist := (p.key, { tid := t, op := p.op, res := res, inv := p.inv, resp := s.now }) :: s.hist }

/-- the predecessor of node `i` on the chain (`none` = `i` is the head) -/
def predOf (c : List Nat) (i : Nat) : Option Nat :=
  match c with
  | a :: b :: rest => if b == i then some a else predOf (b :: rest) i
  | _ => none

/-- the single store a validated writer performs, and the result it returns -/
def writerStore (s : State) (p : Pending) : State × KRes :=
  let c := chain s
  let dflt : NodeS := ⟨0, (0, 0), none, none⟩
  let hit := c.find? (fun i => (s.heap.getD i dflt).key == p.key)
  match p.op, hit with
  | .ins v vi, some i => (setNode s i (fun n => { n with val := (v, vi) }), resOf (some (s.heap.getD i dflt).val))
  | .ins v vi, none =>
    -- append a new node behind the last node of the chain
    let newIdx := s.heap.length
    let s1 := { s with heap := s.heap ++ [⟨p.key, (v, vi), none, none⟩] }
    match c.getLast? with
    | some l => (setNode s1 l (fun n => { n with next := some newIdx }), .none)
    | none => ({ s1 with head := some newIdx }, .none)
  | .tryIns _ _, some i => let x := (s.heap.getD i dflt).val; (s, .exists_ x.1 x.2)
  | .tryIns v vi, none =>
    let newIdx := s.heap.length
    let s1 := { s with heap := s.heap ++ [⟨p.key, (v, vi), none, none⟩] }
    match c.getLast? with
    | some l => (setNode s1 l (fun n => { n with next := some newIdx }), .none)
    | none => ({ s1 with head := some newIdx }, .none)
  | .rm, some i =>
    let n := s.heap.getD i dflt
    let s1 := match predOf c i with
      | some pr => setNode s pr (fun m => { m with next := n.next })
      | none => { s with head := n.next }
    (s1, resOf (some n.val))
  | .rm, none => (s, .none)
  | .cipInc nvi, some i =>
    let n := s.heap.getD i dflt
    (setNode s i (fun m => { m with val := (n.val.1 + 1, nvi) }), .some (n.val.1 + 1) nvi)
  | .cipInc _, none => (s, .none)
  | .cipRm, some i =>
    let n := s.heap.getD i dflt
    let s1 := match predOf c i with
      | some pr => setNode s pr (fun m => { m with next := n.next })
      | none => { s with head := n.next }
    (s1, .none)
  | .cipRm, none => (s, .none)
  | .get, _ => (s, .none)
  | .has, _ => (s, .none)

/-- One step of thread `t`. An idle thread invokes `(k, op)` (`inv = some (k, op)`) or stays idle.
`none` = not a thread / the step is not enabled (a lock that is held). Every step advances `now`. -/
def step (s : State) (t : Nat) (inv : Option (Nat × KOp)) : Option State :=
  match s.threads[t]? with
  | none => none
  | some l =>
    let s := { s with now := s.now + 1 }
    let upd (pc : Pc) : State := setT s t { l with pc := pc }
    match l.pc, l.call with
    | .idle, _ =>
      match inv with
      | none => some s
      | some (k, op) =>
        some (setT s t { pc := if isReader op then .rHead else .wHead, call := some ⟨k, op, s.now⟩ })
    | .rHead, some _ => some (upd (.rNode s.head))
    | .rNode none, some p =>
      some (finish s t p (match p.op with | .has => .bool false | _ => .none))
    | .rNode (some c), some p =>
      match s.heap[c]? with
      | none => none
      | some n =>
        if n.key == p.key then
          -- hit: `get` loads the value cell now; `contains_key` does not look at it
          some (finish s t p (match p.op with | .has => .bool true | _ => .some n.val.1 n.val.2))
        else some (upd (.rNode n.next))
    | .wHead, some p =>
      match s.head with
      | none =>
        match p.op with
        | .ins _ _ | .tryIns _ _ => some (upd .wCas)
        | _ => some (finish s t p .none)          -- remove / compute on an empty bin
      | some h => some (upd (.wLock h))
    | .wCas, some p =>
      match s.head, p.op with
      | none, .ins v vi | none, .tryIns v vi =>
        let newIdx := s.heap.length
        some (finish { s with heap := s.heap ++ [⟨p.key, (v, vi), none, none⟩], head := some newIdx } t p .none)
      | _, _ => some (upd .wHead)                 -- CAS failed: start over
    | .wLock h, some _ =>
      match s.heap[h]? with
      | none => none
      | some n =>
        if n.lock.isSome then none                -- blocked
        else some (setT (setNode s h (fun m => { m with lock := some t })) t { l with pc := .wCheck h })
    | .wCheck h, some _ =>
      if s.head == some h then some (upd (.wWrite h))
      else some (upd (.wUnlock h .none true))
    | .wWrite h, some p =>
      let (s', res) := writerStore s p
      some (setT s' t { l with pc := .wUnlock h res false })
    | .wUnlock h res retry, some p =>
      let s1 := setNode s h (fun m => { m with lock := none })
      if retry then some (setT s1 t { l with pc := .wHead }) else some (finish s1 t p res)
    | _, none => none

inductive Reachable (nthreads : Nat) : State → Prop
  | init : Reachable nthreads (init nthreads)
  | step {s s' : State} (t : Nat) (inv : Option (Nat × KOp)) :
      Reachable nthreads s → step s t inv = some s' → Reachable nthreads s'

/-- the completed calls on key `k`, oldest first -/
def callsOn (s : State) (k : Nat) : History :=
  (s.hist.filter (·.1 == k)).reverse.map (·.2)

/-- no call is in flight -/
def quiescent (s : State) : Prop := ∀ l ∈ s.threads, l.pc = .idle

end Flurry.Proto.Bin
