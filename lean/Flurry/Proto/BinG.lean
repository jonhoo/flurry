import Flurry.Proto.BinK
/-! # Proto/BinG: one bin lineage through kind changes AND a resize (C01, C05, C07, C08, C10)

The union of `Proto/BinK` (a bin cell that is empty, a list bin or a tree bin, with treeify and
untreeify) and `Proto/BinX` (the smallest table that can grow: an old table with one cell `cell0`,
a next table with two cells `lowCell` / `highCell`; a key goes to the high cell iff `hiBit k`):

* every operation loads the table pointer `cur`, then the cell of its key in that table; a cell is
  `empty`, `list h`, `tree b` or `moved` (the forwarding marker, only in the old table); on `moved`
  readers and writers continue in the next table;
* `transfer` of the old cell by the thread that performs the (single) resize:
  - empty: CAS `empty → moved`;
  - **list bin** (as `Proto/BinX`): lock the head, re-check, split with the last run re-used and the
    nodes before it copied and prepended, store low, store high, store `moved`, unlock;
  - **tree bin** (`transfer`, the `BinEntry::Tree` arm): lock the bin's mutex, re-check, copy every
    node of the (stable) list into a fresh node of its side, in list order; per side: nothing →
    `empty`; few nodes (`small`, over-approximating `≤ UNTREEIFY_THRESHOLD`) → a plain list of fresh
    nodes; else, if the other side is empty → **the old `TreeBin` object itself is re-used** in the
    new table; else → a fresh `TreeBin` over the fresh nodes. Then store low, store high, store
    `moved`, unlock the mutex;
  - publish: `cur := new`;
* treeify / untreeify (`Proto/BinK`) may happen in any cell that holds a list / tree bin, before or
  after the resize.

Threads that loaded a cell before it was replaced or forwarded go on with what they loaded:
readers finish there (old structures are never written again, except a re-used last run / a re-used
`TreeBin`, which are live in the new table); writers notice at their re-check and start over.

Proved (`Props/C01BinG.lean`, `binG_linearizable_quiescent`): for every reachable quiescent state and key the completed
calls on that key are `Lin.Linearizable` from "absent" to the key's abstract state. -/
namespace Flurry.Proto.BinG
open Flurry.Lin

/-! Nodes, `TreeBin` objects, pending calls and the list primitives are those of `Proto/BinK`
(`NodeS`, `TBin`, `Pending`, `After`, `isReader`, `dflt`, `dfltB`, `chainFrom`, `copyChain`, `predOf`,
`absentRes`), re-used verbatim so that the lemmas about them (`Lemmas/BinKChain.lean`,
`Lemmas/BinKBasic.lean`) apply. -/
export Flurry.Proto.BinK (NodeS TBin Pending After isReader dflt dfltB chainFrom copyChain predOf absentRes)

inductive Cell where
  | empty
  | list (h : Nat)
  | tree (b : Nat)
  /-- the forwarding marker (old table only) -/
  | moved
deriving Repr, DecidableEq

/-- which table: the old one-cell table or the new two-cell table -/
inductive Tab where | old | new
deriving Repr, DecidableEq

inductive Pc where
  | idle
  -- readers ------------------------------------------------------------------------------
  /-- about to load the table pointer (`listOnly`: an iterator) -/
  | rTable (listOnly : Bool)
  /-- about to load the cell of its key in table `tab` -/
  | rCell (listOnly : Bool) (tab : Tab)
  | rNode (cur : Option Nat)
  | rFirst (b : Nat)
  | rState (b : Nat) (cur : Option Nat)
  | rLin (b : Nat) (cur : Nat)
  | rCas (b : Nat) (cur : Nat) (r : Nat)
  | rTree (b : Nat)
  | rRelease (b : Nat) (hit : Option Nat)
  | rVal (i : Nat)
  | lFirst (b : Nat)
  | lNode (cur : Option Nat)
  -- writers, list form ---------------------------------------------------------------------
  | wTable
  | wCell (tab : Tab)
  | wCas (tab : Tab)
  | wLock (tab : Tab) (h : Nat)
  | wCheck (tab : Tab) (h : Nat)
  | wFind (tab : Tab) (h : Nat) (pred : Option Nat) (cur : Option Nat)
  | wStore (tab : Tab) (h : Nat) (pred : Option Nat) (hit : Option Nat) (hnext : Option Nat)
  | wUnlock (tab : Tab) (h : Nat) (res : KRes) (retry : Bool)
  -- writers, tree form ---------------------------------------------------------------------
  | tMutex (tab : Tab) (b : Nat)
  | tCheck (tab : Tab) (b : Nat)
  | tFind (tab : Tab) (b : Nat)
  | tVal (tab : Tab) (b : Nat) (i : Nat) (v : Nat × Nat) (res : KRes)
  | lrTry (tab : Tab) (b : Nat) (k : After) (res : KRes)
  | lrLoop (tab : Tab) (b : Nat) (k : After) (res : KRes)
  | tPrependLocked (tab : Tab) (b : Nat)
  | tTreeLinkLocked (tab : Tab) (b : Nat) (x : Nat)
  | tUnlinkLocked (tab : Tab) (b : Nat) (i : Nat) (res : KRes)
  | tRestructure (tab : Tab) (b : Nat) (i : Nat) (res : KRes)
  | tUnlockRoot (tab : Tab) (b : Nat) (res : KRes)
  | tUntreeify (tab : Tab) (b : Nat) (res : KRes)
  | tUnlockM (tab : Tab) (b : Nat) (res : KRes) (retry : Bool)
  -- treeify of the cell of key `k` in table `tab` (a thread without a call in flight) ---------
  | kTable (k : Nat)
  | kCell (tab : Tab) (k : Nat)
  | kLock (tab : Tab) (k : Nat) (h : Nat)
  | kCheck (tab : Tab) (k : Nat) (h : Nat)
  | kBuild (tab : Tab) (k : Nat) (h : Nat)
  | kStore (tab : Tab) (k : Nat) (h : Nat) (b : Nat)
  | kUnlock (h : Nat)
  -- the resizing thread (no call in flight) -------------------------------------------------
  /-- about to load `cell0` -/
  | xCell
  | xCasMoved
  /-- list bin: as `Proto/BinX` -/
  | xLock (h : Nat)
  | xCheck (h : Nat)
  | xBuild (h : Nat)
  /-- tree bin -/
  | yMutex (b : Nat)
  | yCheck (b : Nat)
  | yBuild (b : Nat)
  /-- about to store the low cell of the next table; `unl`: what to unlock at the end
  (`inl h`: the head lock of list node `h`, `inr b`: the mutex of tree bin `b`) -/
  | xStoreLow (unl : Nat ⊕ Nat) (low high : Cell)
  | xStoreHigh (unl : Nat ⊕ Nat) (high : Cell)
  | xStoreMoved (unl : Nat ⊕ Nat)
  | xUnlock (unl : Nat ⊕ Nat)
  | xCommit
deriving Repr, DecidableEq

structure Local where
  pc : Pc := .idle
  call : Option Pending := none
deriving Repr, DecidableEq

structure State where
  heap : List NodeS := []
  tbins : List TBin := []
  cell0 : Cell := .empty
  lowCell : Cell := .empty
  highCell : Cell := .empty
  /-- the table pointer -/
  cur : Tab := .old
  /-- a resize has been started (there is exactly one) -/
  resizing : Bool := false
  threads : List Local
  hist : List (Nat × Call) := []
  now : Nat := 0
deriving Repr

def init (nthreads : Nat) : State := { threads := List.replicate nthreads {} }

/-- the split bit of a key -/
def hiBit (k : Nat) : Bool := k % 2 == 1

def cellOf (s : State) (tab : Tab) (k : Nat) : Cell :=
  match tab with
  | .old => s.cell0
  | .new => if hiBit k then s.highCell else s.lowCell

def setCell (s : State) (tab : Tab) (k : Nat) (c : Cell) : State :=
  match tab with
  | .old => { s with cell0 := c }
  | .new => if hiBit k then { s with highCell := c } else { s with lowCell := c }

/-- the list of tree bin `b` -/
def chainOfBin (s : State) (b : Nat) : List Nat := chainFrom s.heap s.heap.length (s.tbins.getD b dfltB).first

/-- the list of the structure a cell holds -/
def chainOfCell (s : State) (c : Cell) : List Nat :=
  match c with
  | .list h => chainFrom s.heap s.heap.length (some h)
  | .tree b => chainOfBin s b
  | _ => []

/-- the cell a lookup of `k` ends in: the old cell until it is forwarded, then the new one -/
def liveCell (s : State) (k : Nat) : Cell :=
  if s.cell0 == .moved then cellOf s .new k
  else if s.cur == .new then cellOf s .new k else s.cell0

/-- abstract content: the first node with the key on the live list -/
def absOf (s : State) (k : Nat) : KSt :=
  match (chainOfCell s (liveCell s k)).find? (fun i => (s.heap.getD i dflt).key == k) with
  | some i => some (s.heap.getD i dflt).val
  | none => none

/-- the node of tree bin `b`'s tree with key `k` -/
def treeFind (s : State) (b : Nat) (k : Nat) : Option Nat :=
  (List.range s.heap.length).find? fun i =>
    let n := s.heap.getD i dflt
    n.owner == some b && n.inTree && n.key == k

def setNode (s : State) (i : Nat) (f : NodeS → NodeS) : State := { s with heap := s.heap.modify i f }
def setBin (s : State) (b : Nat) (f : TBin → TBin) : State := { s with tbins := s.tbins.modify b f }
def setT (s : State) (t : Nat) (l : Local) : State := { s with threads := s.threads.set t l }

def finish (s : State) (t : Nat) (p : Pending) (res : KRes) : State :=
  { (setT s t { pc := .idle, call := none }) with
      hist := (p.key, { tid := t, op := p.op, res := res, inv := p.inv, resp := s.now }) :: s.hist }

/-- the single store of a list-bin writer in the cell of its key in table `tab` -/
def storeAt (s : State) (tab : Tab) (p : Pending) (pred hit hnext : Option Nat) : State × KRes :=
  let append (v vi : Nat) : State :=
    let newIdx := s.heap.length
    let s1 := { s with heap := s.heap ++ [⟨p.key, (v, vi), none, none, false, none⟩] }
    match pred with
    | some l => setNode s1 l (fun n => { n with next := some newIdx })
    | none => setCell s1 tab p.key (.list newIdx)
  let unlink : State :=
    match pred with
    | some pr => setNode s pr (fun m => { m with next := hnext })
    | none => setCell s tab p.key (match hnext with | some x => .list x | none => .empty)
  match p.op, hit with
  | .ins v vi, some i => (setNode s i (fun n => { n with val := (v, vi) }), resOf (some (s.heap.getD i dflt).val))
  | .ins v vi, none => (append v vi, .none)
  | .tryIns _ _, some i => let x := (s.heap.getD i dflt).val; (s, .exists_ x.1 x.2)
  | .tryIns v vi, none => (append v vi, .none)
  | .rm, some i => (unlink, resOf (some (s.heap.getD i dflt).val))
  | .rm, none => (s, .none)
  | .cipInc nvi, some i =>
    let n := s.heap.getD i dflt
    (setNode s i (fun m => { m with val := (n.val.1 + 1, nvi) }), .some (n.val.1 + 1) nvi)
  | .cipInc _, none => (s, .none)
  | .cipRm, some _ => (unlink, .none)
  | .cipRm, none => (s, .none)
  | .get, _ => (s, .none)
  | .has, _ => (s, .none)

/-- the start of the last run of a chain (as `Proto/BinX`) -/
def lastRunStart (heap : List NodeS) (c : List Nat) : Nat :=
  let bits := c.map fun i => hiBit (heap.getD i dflt).key
  match bits.getLast? with
  | none => 0
  | some b => c.length - (bits.reverse.takeWhile (· == b)).length

/-- split a (locked, stable) list bin: new heap, head of the low list, head of the high list; the
last run is re-used, the nodes before it are copied and prepended to their side (as `Proto/BinX`) -/
def splitBin (heap : List NodeS) (c : List Nat) : List NodeS × Option Nat × Option Nat :=
  let k := lastRunStart heap c
  let run := c.drop k
  let runBit := match run.head? with | some i => hiBit (heap.getD i dflt).key | none => false
  let low0 : Option Nat := if runBit then none else run.head?
  let high0 : Option Nat := if runBit then run.head? else none
  (c.take k).foldl
    (fun (acc : List NodeS × Option Nat × Option Nat) i =>
      let (hp, lo, hg) := acc
      let n := hp.getD i dflt
      let idx := hp.length
      if hiBit n.key then (hp ++ [⟨n.key, n.val, hg, none, false, none⟩], lo, some idx)
      else (hp ++ [⟨n.key, n.val, lo, none, false, none⟩], some idx, hg))
    (heap, low0, high0)

def cellOfHead : Option Nat → Cell
  | some h => .list h
  | none => .empty

/-- one side of the split of tree bin `b`: the nodes `c` of that side (in list order) become
nothing, a plain list of fresh nodes (`small`), the old bin itself (`reuse`), or a fresh `TreeBin` -/
def splitSide (s : State) (b : Nat) (c : List Nat) (small reuse : Bool) : State × Cell :=
  if c.isEmpty then (s, .empty)
  else if small then
    let (hp, h) := copyChain s.heap c (fun src nx => ⟨src.key, src.val, nx, none, false, none⟩)
    ({ s with heap := hp }, cellOfHead h)
  else if reuse then (s, .tree b)
  else
    let b' := s.tbins.length
    let (hp, f) := copyChain s.heap c (fun src nx => ⟨src.key, src.val, nx, none, true, some b'⟩)
    ({ s with heap := hp, tbins := s.tbins ++ [{ first := f }] }, .tree b')

def afterLock (tab : Tab) (b : Nat) (k : After) (res : KRes) : Pc :=
  match k with
  | .remove i => .tUnlinkLocked tab b i res
  | .insert => .tPrependLocked tab b

/-- One step of thread `t`. `inv`: the call an idle thread starts; `listOnly`: that call is an
iterator's read; `maint = some k`: an idle thread starts a treeify of the cell of key `k`;
`resize`: an idle thread starts the (one) resize; `small`, `small2`: size decisions
(untreeify after a removal; list-or-tree for the low / high side of a tree-bin split).
`none` = not enabled. -/
def stepG (recheck : Bool) (s : State) (t : Nat) (inv : Option (Nat × KOp)) (listOnly : Bool)
    (maint : Option Nat) (resize small small2 : Bool) : Option State :=
  match s.threads[t]? with
  | none => none
  | some l =>
    let s := { s with now := s.now + 1 }
    let upd (pc : Pc) : State := setT s t { l with pc := pc }
    let bin (b : Nat) : TBin := s.tbins.getD b dfltB
    match l.pc, l.call with
    | .idle, _ =>
      if resize then
        if s.resizing then some s else some { (upd .xCell) with resizing := true }
      else
        match maint with
        | some k => some (upd (.kTable k))
        | none =>
          match inv with
          | none => some s
          | some (k, op) =>
            some (setT s t { pc := if isReader op then .rTable listOnly else .wTable, call := some ⟨k, op, s.now⟩ })
    -- readers: table, cell, dispatch on the kind of bin -------------------------------------
    | .rTable lo, some _ => some (upd (.rCell lo s.cur))
    | .rCell lo tab, some p =>
      match cellOf s tab p.key with
      | .empty => some (finish s t p (absentRes p.op))
      | .moved => some (upd (.rCell lo .new))
      | .list h => some (upd (.rNode (some h)))
      | .tree b => some (upd (if lo then .lFirst b else .rFirst b))
    | .rNode none, some p => some (finish s t p (absentRes p.op))
    | .rNode (some c), some p =>
      match s.heap[c]? with
      | none => none
      | some n =>
        if n.key == p.key then
          some (finish s t p (match p.op with | .has => .bool true | _ => .some n.val.1 n.val.2))
        else some (upd (.rNode n.next))
    | .rFirst b, some _ => some (upd (.rState b (bin b).first))
    | .rState _ none, some p => some (finish s t p (absentRes p.op))
    | .rState b (some c), some _ =>
      if (bin b).writer || (bin b).waiter then some (upd (.rLin b c)) else some (upd (.rCas b c (bin b).readers))
    | .rLin b c, some p =>
      match s.heap[c]? with
      | none => none
      | some n =>
        if n.key == p.key then
          match p.op with
          | .has => some (finish s t p (.bool true))
          | _ => some (upd (.rVal c))
        else some (upd (.rState b n.next))
    | .rCas b c r, some _ =>
      if !(bin b).writer && !(bin b).waiter && (bin b).readers == r then
        some (setT (setBin s b (fun x => { x with readers := x.readers + 1 })) t { l with pc := .rTree b })
      else some (upd (.rState b (some c)))
    | .rTree b, some p => some (upd (.rRelease b (treeFind s b p.key)))
    | .rRelease b hit, some p =>
      let s1 := setBin s b (fun x => { x with readers := x.readers - 1 })
      match hit, p.op with
      | none, _ => some (finish s1 t p (absentRes p.op))
      | some _, .has => some (finish s1 t p (.bool true))
      | some i, _ => some (setT s1 t { l with pc := .rVal i })
    | .rVal i, some p =>
      match s.heap[i]? with
      | none => none
      | some n => some (finish s t p (.some n.val.1 n.val.2))
    | .lFirst b, some _ => some (upd (.lNode (bin b).first))
    | .lNode none, some p => some (finish s t p (absentRes p.op))
    | .lNode (some c), some p =>
      match s.heap[c]? with
      | none => none
      | some n =>
        if n.key == p.key then
          match p.op with
          | .has => some (finish s t p (.bool true))
          | _ => some (upd (.rVal c))
        else some (upd (.lNode n.next))
    -- writers: table, cell, dispatch ---------------------------------------------------------
    | .wTable, some _ => some (upd (.wCell s.cur))
    | .wCell tab, some p =>
      match cellOf s tab p.key with
      | .empty =>
        match p.op with
        | .ins _ _ | .tryIns _ _ => some (upd (.wCas tab))
        | _ => some (finish s t p .none)
      | .moved => some (upd (.wCell .new))          -- help_transfer: continue in the next table
      | .list h => some (upd (.wLock tab h))
      | .tree b => some (upd (.tMutex tab b))
    | .wCas tab, some p =>
      match cellOf s tab p.key, p.op with
      | .empty, .ins v vi | .empty, .tryIns v vi =>
        let newIdx := s.heap.length
        some (finish (setCell { s with heap := s.heap ++ [⟨p.key, (v, vi), none, none, false, none⟩] } tab p.key (.list newIdx)) t p .none)
      | _, _ => some (upd (.wCell tab))
    | .wLock tab h, some _ =>
      match s.heap[h]? with
      | none => none
      | some n =>
        if n.lock.isSome then none
        else some (setT (setNode s h (fun m => { m with lock := some t })) t { l with pc := .wCheck tab h })
    | .wCheck tab h, some p =>
      if !recheck || cellOf s tab p.key == .list h then some (upd (.wFind tab h none (some h)))
      else some (upd (.wUnlock tab h .none true))
    | .wFind tab h pred cur, some p =>
      match cur with
      | none => some (upd (.wStore tab h pred none none))
      | some c =>
        match s.heap[c]? with
        | none => none
        | some n =>
          if n.key == p.key then some (upd (.wStore tab h pred (some c) n.next))
          else some (upd (.wFind tab h (some c) n.next))
    | .wStore tab h pred hit hnext, some p =>
      let (s', res) := storeAt s tab p pred hit hnext
      some (setT s' t { l with pc := .wUnlock tab h res false })
    | .wUnlock tab h res retry, some p =>
      let s1 := setNode s h (fun m => { m with lock := none })
      if retry then some (setT s1 t { l with pc := .wCell tab }) else some (finish s1 t p res)
    -- tree form
    | .tMutex tab b, some _ =>
      if (bin b).mutex.isSome then none
      else some (setT (setBin s b (fun x => { x with mutex := some t })) t { l with pc := .tCheck tab b })
    | .tCheck tab b, some p =>
      if !recheck || cellOf s tab p.key == .tree b then some (upd (.tFind tab b))
      else some (upd (.tUnlockM tab b .none true))
    | .tFind tab b, some p =>
      match p.op, treeFind s b p.key with
      | .ins v vi, some i => some (upd (.tVal tab b i (v, vi) (resOf (some (s.heap.getD i dflt).val))))
      | .ins _ _, none => some (upd (.lrTry tab b .insert .none))
      | .tryIns _ _, some i => let x := (s.heap.getD i dflt).val; some (upd (.tUnlockM tab b (.exists_ x.1 x.2) false))
      | .tryIns _ _, none => some (upd (.lrTry tab b .insert .none))
      | .rm, some i => some (upd (.lrTry tab b (.remove i) (resOf (some (s.heap.getD i dflt).val))))
      | .rm, none => some (upd (.tUnlockM tab b .none false))
      | .cipInc nvi, some i =>
        let x := (s.heap.getD i dflt).val
        some (upd (.tVal tab b i (x.1 + 1, nvi) (.some (x.1 + 1) nvi)))
      | .cipInc _, none => some (upd (.tUnlockM tab b .none false))
      | .cipRm, some i => some (upd (.lrTry tab b (.remove i) .none))
      | .cipRm, none => some (upd (.tUnlockM tab b .none false))
      | .get, _ => none
      | .has, _ => none
    | .tVal tab b i v res, some _ =>
      some (setT (setNode s i (fun n => { n with val := v })) t { l with pc := .tUnlockM tab b res false })
    | .lrTry tab b k res, some _ =>
      if !(bin b).writer && !(bin b).waiter && (bin b).readers == 0 then
        some (setT (setBin s b (fun x => { x with writer := true })) t { l with pc := afterLock tab b k res })
      else some (upd (.lrLoop tab b k res))
    | .lrLoop tab b k res, some _ =>
      if !(bin b).writer && (bin b).readers == 0 then
        some (setT (setBin s b (fun x => { x with writer := true, waiter := false })) t { l with pc := afterLock tab b k res })
      else if !(bin b).waiter then some (setT (setBin s b (fun x => { x with waiter := true })) t { l with pc := .lrLoop tab b k res })
      else none
    | .tPrependLocked tab b, some p =>
      match p.op with
      | .ins v vi | .tryIns v vi =>
        let x := s.heap.length
        let s1 := { s with heap := s.heap ++ [⟨p.key, (v, vi), (bin b).first, none, false, some b⟩] }
        some (setT (setBin s1 b (fun y => { y with first := some x })) t { l with pc := .tTreeLinkLocked tab b x })
      | _ => none
    | .tTreeLinkLocked tab b x, some _ =>
      some (setT (setNode s x (fun n => { n with inTree := true })) t { l with pc := .tUnlockRoot tab b .none })
    | .tUnlinkLocked tab b i res, some _ =>
      let n := s.heap.getD i dflt
      let s1 := match predOf (chainOfBin s b) i with
        | some pr => setNode s pr (fun m => { m with next := n.next })
        | none => setBin s b (fun y => { y with first := n.next })
      some (setT s1 t { l with pc := if small then .tUntreeify tab b res else .tRestructure tab b i res })
    | .tRestructure tab b i res, some _ =>
      some (setT (setNode s i (fun n => { n with inTree := false })) t { l with pc := .tUnlockRoot tab b res })
    | .tUnlockRoot tab b res, some _ =>
      some (setT (setBin s b (fun x => { x with writer := false, waiter := false })) t { l with pc := .tUnlockM tab b res false })
    | .tUntreeify tab b res, some p =>
      let (hp, h') := copyChain s.heap (chainOfBin s b) (fun src nx => ⟨src.key, src.val, nx, none, false, none⟩)
      some (setT (setCell { s with heap := hp } tab p.key (cellOfHead h')) t { l with pc := .tUnlockM tab b res false })
    | .tUnlockM tab b res retry, some p =>
      let s1 := setBin s b (fun x => { x with mutex := none })
      if retry then some (setT s1 t { l with pc := .wCell tab }) else some (finish s1 t p res)
    -- treeify of the cell of key `k` (no call in flight) ----------------------------------------
    | .kTable k, none => some (upd (.kCell s.cur k))
    | .kCell tab k, none =>
      match cellOf s tab k with
      | .list h => some (upd (.kLock tab k h))
      | .moved => some (upd (.kCell .new k))
      | _ => some (upd .idle)
    | .kLock tab k h, none =>
      match s.heap[h]? with
      | none => none
      | some n =>
        if n.lock.isSome then none
        else some (setT (setNode s h (fun m => { m with lock := some t })) t { l with pc := .kCheck tab k h })
    | .kCheck tab k h, none =>
      if !recheck || cellOf s tab k == .list h then some (upd (.kBuild tab k h))
      else some (upd (.kUnlock h))
    | .kBuild tab k h, none =>
      let b := s.tbins.length
      let (hp, f) := copyChain s.heap (chainFrom s.heap s.heap.length (some h))
        (fun src nx => ⟨src.key, src.val, nx, none, true, some b⟩)
      some (setT { s with heap := hp, tbins := s.tbins ++ [{ first := f }] } t { l with pc := .kStore tab k h b })
    | .kStore tab k h b, none => some (setT (setCell s tab k (.tree b)) t { l with pc := .kUnlock h })
    | .kUnlock h, none =>
      some (setT (setNode s h (fun m => { m with lock := none })) t { l with pc := .idle })
    -- the resizing thread ---------------------------------------------------------------------
    | .xCell, none =>
      match s.cell0 with
      | .empty => some (upd .xCasMoved)
      | .list h => some (upd (.xLock h))
      | .tree b => some (upd (.yMutex b))
      | .moved => some (upd .xCommit)
    | .xCasMoved, none =>
      if s.cell0 == .empty then some { (upd .xCommit) with cell0 := .moved } else some (upd .xCell)
    | .xLock h, none =>
      match s.heap[h]? with
      | none => none
      | some n =>
        if n.lock.isSome then none
        else some (setT (setNode s h (fun m => { m with lock := some t })) t { l with pc := .xCheck h })
    | .xCheck h, none =>
      if !recheck || s.cell0 == .list h then some (upd (.xBuild h))
      else some (setT (setNode s h (fun m => { m with lock := none })) t { l with pc := .xCell })
    | .xBuild h, none =>
      let c := chainFrom s.heap s.heap.length (some h)
      let (hp, lo, hg) := splitBin s.heap c
      some (setT { s with heap := hp } t { l with pc := .xStoreLow (.inl h) (cellOfHead lo) (cellOfHead hg) })
    | .yMutex b, none =>
      if (bin b).mutex.isSome then none
      else some (setT (setBin s b (fun x => { x with mutex := some t })) t { l with pc := .yCheck b })
    | .yCheck b, none =>
      if !recheck || s.cell0 == .tree b then some (upd (.yBuild b))
      else some (setT (setBin s b (fun x => { x with mutex := none })) t { l with pc := .xCell })
    | .yBuild b, none =>
      let c := chainOfBin s b
      let cLo := c.filter fun i => !hiBit (s.heap.getD i dflt).key
      let cHi := c.filter fun i => hiBit (s.heap.getD i dflt).key
      let (s1, lo) := splitSide s b cLo small cHi.isEmpty
      let (s2, hi) := splitSide s1 b cHi small2 cLo.isEmpty
      some (setT s2 t { l with pc := .xStoreLow (.inr b) lo hi })
    | .xStoreLow unl lo hi, none => some { (upd (.xStoreHigh unl hi)) with lowCell := lo }
    | .xStoreHigh unl hi, none => some { (upd (.xStoreMoved unl)) with highCell := hi }
    | .xStoreMoved unl, none => some { (upd (.xUnlock unl)) with cell0 := .moved }
    | .xUnlock unl, none =>
      match unl with
      | .inl h => some (setT (setNode s h (fun m => { m with lock := none })) t { l with pc := .xCommit })
      | .inr b => some (setT (setBin s b (fun x => { x with mutex := none })) t { l with pc := .xCommit })
    | .xCommit, none => some { (upd .idle) with cur := .new }
    | _, _ => none

def step (s : State) (t : Nat) (inv : Option (Nat × KOp)) (listOnly : Bool) (maint : Option Nat)
    (resize small small2 : Bool) : Option State :=
  stepG true s t inv listOnly maint resize small small2

/-- writers, treeify and transfer that trust the lock they took without re-reading the cell -/
def stepNoCheck (s : State) (t : Nat) (inv : Option (Nat × KOp)) (listOnly : Bool) (maint : Option Nat)
    (resize small small2 : Bool) : Option State :=
  stepG false s t inv listOnly maint resize small small2

inductive Reachable (nthreads : Nat) : State → Prop
  | init : Reachable nthreads (init nthreads)
  | step {s s' : State} (t : Nat) (inv : Option (Nat × KOp)) (listOnly : Bool) (maint : Option Nat)
      (resize small small2 : Bool) :
      Reachable nthreads s → step s t inv listOnly maint resize small small2 = some s' → Reachable nthreads s'

inductive ReachableNoCheck (nthreads : Nat) : State → Prop
  | init : ReachableNoCheck nthreads (init nthreads)
  | step {s s' : State} (t : Nat) (inv : Option (Nat × KOp)) (listOnly : Bool) (maint : Option Nat)
      (resize small small2 : Bool) :
      ReachableNoCheck nthreads s → stepNoCheck s t inv listOnly maint resize small small2 = some s' →
      ReachableNoCheck nthreads s'

def callsOn (s : State) (k : Nat) : History :=
  (s.hist.filter (·.1 == k)).reverse.map (·.2)

def quiescent (s : State) : Prop := ∀ l ∈ s.threads, l.pc = .idle

end Flurry.Proto.BinG
