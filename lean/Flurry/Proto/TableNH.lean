import Flurry.Proto.BinNH
import Flurry.Proto.TableN
import Flurry.LinMap
/-! # Proto/TableNH: a whole table through ANY NUMBER of COOPERATIVE resizes (C01, C08, C10)

`Proto/TableN` with `Proto/BinNH` lineages instead of `Proto/BinN` lineages: `m` bin *lineages*, each a
`Proto/BinNH` lineage — bin `i` of the initial table (length `m`) and everything it is split into, resize
after resize, each resize of a lineage done by ANY NUMBER of resizing threads (the initiator and helpers; on
different cells or on the same cell; suspended anywhere; leaving; any of them committing once every cell of
the lineage is forwarded; stale helpers resuming harmlessly). Lineage `i` at generation `g` has the cells
`(g, j)`, `j < 2^g`; cell `(g, j)` of lineage `i` is bin `i + m * j` of the table of length `m * 2^g`.

The key translation is that of `Proto/TableN` (its `lineageOf`, `localKey`, `globalKey`, `binIndex` are used
as they are): the hash is the key, key `k` lives in lineage `k % m` under the local name `k / m`, i.e. in
bin `k % m + m * ((k / m) % 2^g) = k % (m * 2^g)` of generation `g` (`TableN.bin_index_eq_mod`,
`TableN.bin_index_eq` for `m = 2^a`); every natural number is a local key of every lineage; `step`
translates the key of a call, the map history records the ORIGINAL key.

Any number of threads; a thread is inside at most one lineage at a time: it can act in lineage `i` only
while it is idle in every other lineage — **idle = neither in a call nor a resizing thread there**
(`n.threads[t].pc = idle` and `hs[t] = none`). One transition of the table is one `BinNH.step` of one thread
in one lineage; all lineages share one clock (every other lineage `tick`s). A `tick` IS a transition of
`Proto/BinNH`: the step of a thread that is idle there, not a resizing thread, and starts nothing
(`Lemmas/TableNH.lean`: `tick_is_step`), so every lineage of a reachable table is literally
`BinNH.Reachable`.

**Helpers.** Other than in `Proto/TableN` (one resizing thread per lineage and generation), here any number
of threads may be inside the transfers of the cells of the SAME lineage at the same moment, and different
lineages are transferred by different (or the same, one after the other) threads: a code execution in which
two helpers are in the middle of the transfers of two bins `i + m * j`, `i + m * j'` of the same lineage has
its counterpart with these very steps. A helper of lineage `i` is inside lineage `i` (it has to leave, or
find its resize over, or commit, before it acts elsewhere).

**The table pointer is modelled per lineage**, as in `Proto/TableN` (see the header there: each lineage
allocates its part of the next table, forwards its cells and commits its own `cur := cur + 1`; the model's
lineages may be at different generations, the code's never; an execution of the code is an execution of the
model in which the allocations and the commits of all lineages happen consecutively; this gives the model
MORE executions than the code). The correspondence is stated, NOT proved: the theorems are about the
model's executions. `BinNH`'s `commit` over-approximates the last-one-out rule (see its header). -/
namespace Flurry.Proto.TableNH
open Flurry.Lin Flurry.LinMap
open Flurry.Proto.TableN (lineageOf localKey globalKey inLineage localInv)

structure State where
  bins : List BinNH.State
deriving Repr

def init (m nthreads : Nat) : State := { bins := List.replicate m (BinNH.init nthreads) }

/-- the clock of a lineage advances although nothing happens in it -/
def tick (b : BinNH.State) : BinNH.State := { b with n := BinNH.tickN b.n }

/-- is thread `t` idle in lineage `b`: neither in a call nor a resizing thread -/
def idleIn (b : BinNH.State) (t : Nat) : Bool :=
  match b.n.threads[t]?, b.hs[t]? with
  | some l, some none => l.pc == .idle
  | _, _ => false

/-- One step of thread `t` in lineage `i` (`inv`, `rz`, `leave`, `pick` are the arguments of `BinNH.step`,
`inv` with the key of the TABLE). A thread can act in lineage `i` only while it is idle in every other
lineage; a call it starts there must be on a key of that lineage (`k % m = i`) and is started in the lineage
under the local name `k / m`. Every other lineage ticks. -/
def step (S : State) (i t : Nat) (inv : Option (Nat × KOp)) (rz leave : Bool) (pick : Nat) : Option State :=
  let m := S.bins.length
  match S.bins[i]? with
  | none => none
  | some b =>
    if !((List.range m).all fun j => j == i || idleIn (S.bins.getD j (BinNH.init 0)) t) then none
    else if !inLineage m i (inv.map (·.1)) then none
    else
      match BinNH.step b t (localInv m inv) rz leave pick with
      | none => none
      | some b' => some { bins := (S.bins.map tick).set i b' }

inductive Reachable (m nthreads : Nat) : State → Prop
  | init : Reachable m nthreads (init m nthreads)
  | step {S S' : State} (i t : Nat) (inv : Option (Nat × KOp)) (rz leave : Bool) (pick : Nat) :
      Reachable m nthreads S → step S i t inv rz leave pick = some S' → Reachable m nthreads S'

/-- no call in flight and no resizing thread, in any lineage -/
def quiescent (S : State) : Prop := ∀ b ∈ S.bins, BinNH.quiescent b

/-- the completed calls of lineage `i` as calls of the map, oldest first, under the keys of the table -/
def binCalls (m i : Nat) (b : BinNH.State) : MHistory := TableN.binCalls m i b.n

/-- the history of the map: the calls of all lineages (lineage by lineage; the order of the list
carries no meaning, the times do) -/
def mhist (S : State) : MHistory :=
  ((List.range S.bins.length).map fun i => binCalls S.bins.length i (S.bins.getD i (BinNH.init 0))).flatten

/-- the abstract map: key `k` has the abstract state of local key `k / m` in lineage `k % m` -/
def absMap (S : State) : MSt :=
  fun k => BinNH.absOf (S.bins.getD (lineageOf S.bins.length k) (BinNH.init 0)) (localKey S.bins.length k)

end Flurry.Proto.TableNH
