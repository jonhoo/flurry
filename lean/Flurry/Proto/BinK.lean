import Flurry.Lin
/-! # Proto/BinK: one bin that changes its KIND — list bin ⇄ tree bin — under concurrency (C01, C05, C06, C07, C08)

`Proto/BinW` is a list bin that stays a list bin, `Proto/BinU` a tree bin that stays a tree bin.
This model is one bin cell of a fixed table through its whole life: `empty`, a **list bin**
(`list h`: the cell holds the first node, whose mutex is the bin lock), or a **tree bin**
(`tree b`: the cell holds a `TreeBin` object with its own mutex, `first`/`next` list, tree and
read-write lock), and the two conversions of `src/map.rs`:

* **treeify** (`treeify_bin`): lock the head, re-check the cell, copy every node of the (stable)
  list into a fresh tree node (same key, same value at that moment), build a `TreeBin` over them
  (all in the tree, list in the same order), store it into the cell, unlock. The old list nodes
  stay allocated and are never written again. Any thread may do this to any list bin at any time
  (the real trigger — a put that counted ≥ 8 nodes in a table of ≥ 64 bins — is over-approximated);
* **untreeify** (`replace_node` / `compute_if_present` when `remove_tree_node` returns `true`):
  a removal that has unlinked its node from the tree bin's list under the write lock may decide
  that the bin is too small (`small`, over-approximating the shape test); it then copies the list
  into fresh plain nodes, stores that list (or `empty`) into the cell and returns. The write lock
  of the dead `TreeBin` is left held for ever, so late readers of it keep to its list.

Everything else is `Proto/BinW` for the list form (lock in the first node, re-check of the cell,
step-by-step writer walk, CAS into the empty cell) and `Proto/BinU` for the tree form (bin mutex,
re-check of the cell, lock-protocol readers, list readers = iterators, both writers take the write
lock before their first store to a list cell). A thread that loaded the cell before a conversion
continues on the old structure: readers finish on it; writers find out at their re-check and
start over.

One transition = one shared-memory access. Proved (`Props/C01BinK.lean`): for every reachable
quiescent state and key, the completed calls on that key are `Lin.Linearizable` from "absent" to
the key's abstract state (`binK_linearizable_quiescent`), and `noCheck` (a writer that trusts the
lock it took) is refuted (`noCheck_refutes`). -/
namespace Flurry.Proto.BinK
open Flurry.Lin

structure NodeS where
  key : Nat
  val : Nat × Nat
  next : Option Nat
  /-- list node: the mutex inside it (the bin lock while it is the first node) -/
  lock : Option Nat := none
  /-- tree node: linked into the tree of its bin -/
  inTree : Bool := false
  /-- tree node: the `TreeBin` it belongs to -/
  owner : Option Nat := none
deriving Repr, DecidableEq

/-- a `TreeBin` object -/
structure TBin where
  first : Option Nat := none
  mutex : Option Nat := none
  writer : Bool := false
  waiter : Bool := false
  readers : Nat := 0
deriving Repr, DecidableEq

inductive Cell where
  | empty
  | list (h : Nat)
  | tree (b : Nat)
deriving Repr, DecidableEq

structure Pending where
  key : Nat
  op : KOp
  inv : Nat
deriving Repr, DecidableEq

/-- what a tree-bin writer does once it holds the write lock -/
inductive After where
  | remove (i : Nat)
  | insert
deriving Repr, DecidableEq

inductive Pc where
  | idle
  -- readers ------------------------------------------------------------------------------
  /-- about to load the bin cell (`listOnly`: an iterator) -/
  | rCell (listOnly : Bool)
  /-- list bin (or an iterator in a tree bin's list): holds `cur`, about to compare its key and load its `next` -/
  | rNode (cur : Option Nat)
  /-- tree bin `b`: about to load `first` -/
  | rFirst (b : Nat)
  /-- standing on list element `cur` of tree bin `b`: about to load `lock_state` -/
  | rState (b : Nat) (cur : Option Nat)
  | rLin (b : Nat) (cur : Nat)
  | rCas (b : Nat) (cur : Nat) (r : Nat)
  | rTree (b : Nat)
  | rRelease (b : Nat) (hit : Option Nat)
  /-- about to load the value cell of tree node `i` -/
  | rVal (i : Nat)
  /-- iterator in tree bin `b`: about to load `first` -/
  | lFirst (b : Nat)
  /-- iterator standing on tree node `cur`: compare, then `next` (the value is a separate load) -/
  | lNode (cur : Option Nat)
  -- writers, list form ---------------------------------------------------------------------
  | wCell
  | wCas
  | wLock (h : Nat)
  | wCheck (h : Nat)
  | wFind (h : Nat) (pred : Option Nat) (cur : Option Nat)
  | wStore (h : Nat) (pred : Option Nat) (hit : Option Nat) (hnext : Option Nat)
  | wUnlock (h : Nat) (res : KRes) (retry : Bool)
  -- writers, tree form ---------------------------------------------------------------------
  | tMutex (b : Nat)
  /-- holds the mutex of tree bin `b`: about to re-read the bin cell -/
  | tCheck (b : Nat)
  | tFind (b : Nat)
  | tVal (b : Nat) (i : Nat) (v : Nat × Nat) (res : KRes)
  | lrTry (b : Nat) (k : After) (res : KRes)
  | lrLoop (b : Nat) (k : After) (res : KRes)
  | tPrependLocked (b : Nat)
  | tTreeLinkLocked (b : Nat) (x : Nat)
  | tUnlinkLocked (b : Nat) (i : Nat) (res : KRes)
  /-- holds the write lock: about to take `i` out of the tree -/
  | tRestructure (b : Nat) (i : Nat) (res : KRes)
  | tUnlockRoot (b : Nat) (res : KRes)
  /-- untreeify: about to store the list copy of bin `b` into the cell (the write lock stays held) -/
  | tUntreeify (b : Nat) (res : KRes)
  | tUnlockM (b : Nat) (res : KRes) (retry : Bool)
  -- treeify (a thread without a call in flight) -----------------------------------------------
  | kCell
  | kLock (h : Nat)
  | kCheck (h : Nat)
  /-- holds the validated lock of `h`: about to copy the list into a fresh `TreeBin` (private) -/
  | kBuild (h : Nat)
  | kStore (h : Nat) (b : Nat)
  | kUnlock (h : Nat)
deriving Repr, DecidableEq

structure Local where
  pc : Pc := .idle
  call : Option Pending := none
deriving Repr, DecidableEq

structure State where
  heap : List NodeS := []
  tbins : List TBin := []
  cell : Cell := .empty
  threads : List Local
  hist : List (Nat × Call) := []
  now : Nat := 0
deriving Repr

def init (nthreads : Nat) : State := { threads := List.replicate nthreads {} }

def isReader : KOp → Bool
  | .get | .has => true
  | _ => false

def dflt : NodeS := ⟨0, (0, 0), none, none, false, none⟩
def dfltB : TBin := {}

def chainFrom (heap : List NodeS) : Nat → Option Nat → List Nat
  | 0, _ => []
  | _, none => []
  | fuel + 1, some i =>
    match heap[i]? with
    | none => []
    | some n => i :: chainFrom heap fuel n.next

/-- the list of tree bin `b` -/
def chainOfBin (s : State) (b : Nat) : List Nat := chainFrom s.heap s.heap.length (s.tbins.getD b dfltB).first

/-- the list of the structure the cell holds now -/
def liveChain (s : State) : List Nat :=
  match s.cell with
  | .empty => []
  | .list h => chainFrom s.heap s.heap.length (some h)
  | .tree b => chainOfBin s b

/-- abstract content: the first node with the key on the live list -/
def absOf (s : State) (k : Nat) : KSt :=
  match (liveChain s).find? (fun i => (s.heap.getD i dflt).key == k) with
  | some i => some (s.heap.getD i dflt).val
  | none => none

/-- the node of tree bin `b`'s tree with key `k` -/
def treeFind (s : State) (b : Nat) (k : Nat) : Option Nat :=
  (List.range s.heap.length).find? fun i =>
    let n := s.heap.getD i dflt
    n.owner == some b && n.inTree && n.key == k

def setNode (s : State) (i : Nat) (f : NodeS → NodeS) : State := { s with heap := s.heap.modify i f }
def setBin (s : State) (b : Nat) (f : TBin → TBin) : State := { s with tbins := s.tbins.modify b f }
def setT (s : State) (t : Nat) (l : Local) : State := { s with threads := s.threads.set t l }

def finish (s : State) (t : Nat) (p : Pending) (res : KRes) : State :=
  { (setT s t { pc := .idle, call := none }) with
      hist := (p.key, { tid := t, op := p.op, res := res, inv := p.inv, resp := s.now }) :: s.hist }

def predOf (c : List Nat) (i : Nat) : Option Nat :=
  match c with
  | a :: b :: rest => if b == i then some a else predOf (b :: rest) i
  | _ => none

/-- the single store of a list-bin writer (as `Proto/BinW.storeAt`) -/
def storeAt (s : State) (p : Pending) (pred hit hnext : Option Nat) : State × KRes :=
  let append (v vi : Nat) : State :=
    let newIdx := s.heap.length
    let s1 := { s with heap := s.heap ++ [⟨p.key, (v, vi), none, none, false, none⟩] }
    match pred with
    | some l => setNode s1 l (fun n => { n with next := some newIdx })
    | none => { s1 with cell := .list newIdx }
  let unlink : State :=
    match pred with
    | some pr => setNode s pr (fun m => { m with next := hnext })
    | none => { s with cell := match hnext with | some x => .list x | none => .empty }
  match p.op, hit with
  | .ins v vi, some i => (setNode s i (fun n => { n with val := (v, vi) }), resOf (some (s.heap.getD i dflt).val))
  | .ins v vi, none => (append v vi, .none)
  | .tryIns _ _, some i => let x := (s.heap.getD i dflt).val; (s, .exists_ x.1 x.2)
  | .tryIns v vi, none => (append v vi, .none)
  | .rm, some i => (unlink, resOf (some (s.heap.getD i dflt).val))
  | .rm, none => (s, .none)
  | .cipInc nvi, some i =>
    let n := s.heap.getD i dflt
    (setNode s i (fun m => { m with val := (n.val.1 + 1, nvi) }), .some (n.val.1 + 1) nvi)
  | .cipInc _, none => (s, .none)
  | .cipRm, some _ => (unlink, .none)
  | .cipRm, none => (s, .none)
  | .get, _ => (s, .none)
  | .has, _ => (s, .none)

/-- copy the nodes `c` (in order) to the end of the heap with `mk`, chained by `next`; returns the
new heap and the index of the first copy -/
def copyChain (heap : List NodeS) (c : List Nat) (mk : NodeS → Option Nat → NodeS) : List NodeS × Option Nat :=
  let base := heap.length
  let n := c.length
  let copies := (List.range n).map fun j =>
    let src := heap.getD (c.getD j 0) dflt
    mk src (if j + 1 < n then some (base + j + 1) else none)
  (heap ++ copies, if n = 0 then none else some base)

def afterLock (b : Nat) (k : After) (res : KRes) : Pc :=
  match k with
  | .remove i => .tUnlinkLocked b i res
  | .insert => .tPrependLocked b

def absentRes (op : KOp) : KRes := match op with | .has => .bool false | _ => .none

/-- One step of thread `t`. `inv`: the call an idle thread starts; `listOnly`: that call is an
iterator's read; `maint`: an idle thread starts a treeify instead; `small`: a removal that has
just unlinked its node decides that the bin must be untreeified. `none` = not enabled. -/
def stepG (recheck : Bool) (s : State) (t : Nat) (inv : Option (Nat × KOp)) (listOnly maint small : Bool) : Option State :=
  match s.threads[t]? with
  | none => none
  | some l =>
    let s := { s with now := s.now + 1 }
    let upd (pc : Pc) : State := setT s t { l with pc := pc }
    let bin (b : Nat) : TBin := s.tbins.getD b dfltB
    match l.pc, l.call with
    | .idle, _ =>
      if maint then some (upd .kCell)
      else
        match inv with
        | none => some s
        | some (k, op) =>
          some (setT s t { pc := if isReader op then .rCell listOnly else .wCell, call := some ⟨k, op, s.now⟩ })
    -- readers: dispatch on the kind of bin ---------------------------------------------------
    | .rCell lo, some p =>
      match s.cell with
      | .empty => some (finish s t p (absentRes p.op))
      | .list h => some (upd (.rNode (some h)))
      | .tree b => some (upd (if lo then .lFirst b else .rFirst b))
    -- list form (readers and iterators alike)
    | .rNode none, some p => some (finish s t p (absentRes p.op))
    | .rNode (some c), some p =>
      match s.heap[c]? with
      | none => none
      | some n =>
        if n.key == p.key then
          some (finish s t p (match p.op with | .has => .bool true | _ => .some n.val.1 n.val.2))
        else some (upd (.rNode n.next))
    -- tree form, lock protocol (`TreeBin::find`)
    | .rFirst b, some _ => some (upd (.rState b (bin b).first))
    | .rState _ none, some p => some (finish s t p (absentRes p.op))
    | .rState b (some c), some _ =>
      if (bin b).writer || (bin b).waiter then some (upd (.rLin b c)) else some (upd (.rCas b c (bin b).readers))
    | .rLin b c, some p =>
      match s.heap[c]? with
      | none => none
      | some n =>
        if n.key == p.key then
          match p.op with
          | .has => some (finish s t p (.bool true))
          | _ => some (upd (.rVal c))
        else some (upd (.rState b n.next))
    | .rCas b c r, some _ =>
      if !(bin b).writer && !(bin b).waiter && (bin b).readers == r then
        some (setT (setBin s b (fun x => { x with readers := x.readers + 1 })) t { l with pc := .rTree b })
      else some (upd (.rState b (some c)))
    | .rTree b, some p => some (upd (.rRelease b (treeFind s b p.key)))
    | .rRelease b hit, some p =>
      let s1 := setBin s b (fun x => { x with readers := x.readers - 1 })
      match hit, p.op with
      | none, _ => some (finish s1 t p (absentRes p.op))
      | some _, .has => some (finish s1 t p (.bool true))
      | some i, _ => some (setT s1 t { l with pc := .rVal i })
    | .rVal i, some p =>
      match s.heap[i]? with
      | none => none
      | some n => some (finish s t p (.some n.val.1 n.val.2))
    -- tree form, iterators
    | .lFirst b, some _ => some (upd (.lNode (bin b).first))
    | .lNode none, some p => some (finish s t p (absentRes p.op))
    | .lNode (some c), some p =>
      match s.heap[c]? with
      | none => none
      | some n =>
        if n.key == p.key then
          match p.op with
          | .has => some (finish s t p (.bool true))
          | _ => some (upd (.rVal c))
        else some (upd (.lNode n.next))
    -- writers: dispatch ----------------------------------------------------------------------
    | .wCell, some p =>
      match s.cell with
      | .empty =>
        match p.op with
        | .ins _ _ | .tryIns _ _ => some (upd .wCas)
        | _ => some (finish s t p .none)
      | .list h => some (upd (.wLock h))
      | .tree b => some (upd (.tMutex b))
    | .wCas, some p =>
      match s.cell, p.op with
      | .empty, .ins v vi | .empty, .tryIns v vi =>
        let newIdx := s.heap.length
        some (finish { s with heap := s.heap ++ [⟨p.key, (v, vi), none, none, false, none⟩], cell := .list newIdx } t p .none)
      | _, _ => some (upd .wCell)
    -- list form
    | .wLock h, some _ =>
      match s.heap[h]? with
      | none => none
      | some n =>
        if n.lock.isSome then none
        else some (setT (setNode s h (fun m => { m with lock := some t })) t { l with pc := .wCheck h })
    | .wCheck h, some _ =>
      if !recheck || s.cell == .list h then some (upd (.wFind h none (some h)))
      else some (upd (.wUnlock h .none true))
    | .wFind h pred cur, some p =>
      match cur with
      | none => some (upd (.wStore h pred none none))
      | some c =>
        match s.heap[c]? with
        | none => none
        | some n =>
          if n.key == p.key then some (upd (.wStore h pred (some c) n.next))
          else some (upd (.wFind h (some c) n.next))
    | .wStore h pred hit hnext, some p =>
      let (s', res) := storeAt s p pred hit hnext
      some (setT s' t { l with pc := .wUnlock h res false })
    | .wUnlock h res retry, some p =>
      let s1 := setNode s h (fun m => { m with lock := none })
      if retry then some (setT s1 t { l with pc := .wCell }) else some (finish s1 t p res)
    -- tree form
    | .tMutex b, some _ =>
      if (bin b).mutex.isSome then none
      else some (setT (setBin s b (fun x => { x with mutex := some t })) t { l with pc := .tCheck b })
    | .tCheck b, some _ =>
      if !recheck || s.cell == .tree b then some (upd (.tFind b))
      else some (upd (.tUnlockM b .none true))
    | .tFind b, some p =>
      match p.op, treeFind s b p.key with
      | .ins v vi, some i => some (upd (.tVal b i (v, vi) (resOf (some (s.heap.getD i dflt).val))))
      | .ins _ _, none => some (upd (.lrTry b .insert .none))
      | .tryIns _ _, some i => let x := (s.heap.getD i dflt).val; some (upd (.tUnlockM b (.exists_ x.1 x.2) false))
      | .tryIns _ _, none => some (upd (.lrTry b .insert .none))
      | .rm, some i => some (upd (.lrTry b (.remove i) (resOf (some (s.heap.getD i dflt).val))))
      | .rm, none => some (upd (.tUnlockM b .none false))
      | .cipInc nvi, some i =>
        let x := (s.heap.getD i dflt).val
        some (upd (.tVal b i (x.1 + 1, nvi) (.some (x.1 + 1) nvi)))
      | .cipInc _, none => some (upd (.tUnlockM b .none false))
      | .cipRm, some i => some (upd (.lrTry b (.remove i) .none))
      | .cipRm, none => some (upd (.tUnlockM b .none false))
      | .get, _ => none
      | .has, _ => none
    | .tVal b i v res, some _ =>
      some (setT (setNode s i (fun n => { n with val := v })) t { l with pc := .tUnlockM b res false })
    | .lrTry b k res, some _ =>
      if !(bin b).writer && !(bin b).waiter && (bin b).readers == 0 then
        some (setT (setBin s b (fun x => { x with writer := true })) t { l with pc := afterLock b k res })
      else some (upd (.lrLoop b k res))
    | .lrLoop b k res, some _ =>
      if !(bin b).writer && (bin b).readers == 0 then
        some (setT (setBin s b (fun x => { x with writer := true, waiter := false })) t { l with pc := afterLock b k res })
      else if !(bin b).waiter then some (setT (setBin s b (fun x => { x with waiter := true })) t { l with pc := .lrLoop b k res })
      else none
    | .tPrependLocked b, some p =>
      match p.op with
      | .ins v vi | .tryIns v vi =>
        let x := s.heap.length
        let s1 := { s with heap := s.heap ++ [⟨p.key, (v, vi), (bin b).first, none, false, some b⟩] }
        some (setT (setBin s1 b (fun y => { y with first := some x })) t { l with pc := .tTreeLinkLocked b x })
      | _ => none
    | .tTreeLinkLocked b x, some _ =>
      some (setT (setNode s x (fun n => { n with inTree := true })) t { l with pc := .tUnlockRoot b .none })
    | .tUnlinkLocked b i res, some _ =>
      let n := s.heap.getD i dflt
      let s1 := match predOf (chainOfBin s b) i with
        | some pr => setNode s pr (fun m => { m with next := n.next })
        | none => setBin s b (fun y => { y with first := n.next })
      -- `remove_tree_node` returns `true` (too small: the caller untreeifies, the write lock
      -- stays held) or goes on to take the node out of the tree
      some (setT s1 t { l with pc := if small then .tUntreeify b res else .tRestructure b i res })
    | .tRestructure b i res, some _ =>
      some (setT (setNode s i (fun n => { n with inTree := false })) t { l with pc := .tUnlockRoot b res })
    | .tUnlockRoot b res, some _ =>
      some (setT (setBin s b (fun x => { x with writer := false, waiter := false })) t { l with pc := .tUnlockM b res false })
    | .tUntreeify b res, some _ =>
      let (hp, h') := copyChain s.heap (chainOfBin s b) (fun src nx => ⟨src.key, src.val, nx, none, false, none⟩)
      some (setT { s with heap := hp, cell := match h' with | some h => .list h | none => .empty } t
              { l with pc := .tUnlockM b res false })
    | .tUnlockM b res retry, some p =>
      let s1 := setBin s b (fun x => { x with mutex := none })
      if retry then some (setT s1 t { l with pc := .wCell }) else some (finish s1 t p res)
    -- treeify (no call in flight)
    | .kCell, none =>
      match s.cell with
      | .list h => some (upd (.kLock h))
      | _ => some (upd .idle)
    | .kLock h, none =>
      match s.heap[h]? with
      | none => none
      | some n =>
        if n.lock.isSome then none
        else some (setT (setNode s h (fun m => { m with lock := some t })) t { l with pc := .kCheck h })
    | .kCheck h, none =>
      if !recheck || s.cell == .list h then some (upd (.kBuild h))
      else some (upd (.kUnlock h))
    | .kBuild h, none =>
      let b := s.tbins.length
      let (hp, f) := copyChain s.heap (chainFrom s.heap s.heap.length (some h))
        (fun src nx => ⟨src.key, src.val, nx, none, true, some b⟩)
      some (setT { s with heap := hp, tbins := s.tbins ++ [{ first := f }] } t { l with pc := .kStore h b })
    | .kStore h b, none => some { (upd (.kUnlock h)) with cell := .tree b }
    | .kUnlock h, none =>
      some (setT (setNode s h (fun m => { m with lock := none })) t { l with pc := .idle })
    | _, _ => none

def step (s : State) (t : Nat) (inv : Option (Nat × KOp)) (listOnly maint small : Bool) : Option State :=
  stepG true s t inv listOnly maint small

/-- writers (and treeify) that trust the lock they took without re-reading the bin cell -/
def stepNoCheck (s : State) (t : Nat) (inv : Option (Nat × KOp)) (listOnly maint small : Bool) : Option State :=
  stepG false s t inv listOnly maint small

inductive Reachable (nthreads : Nat) : State → Prop
  | init : Reachable nthreads (init nthreads)
  | step {s s' : State} (t : Nat) (inv : Option (Nat × KOp)) (listOnly maint small : Bool) :
      Reachable nthreads s → step s t inv listOnly maint small = some s' → Reachable nthreads s'

inductive ReachableNoCheck (nthreads : Nat) : State → Prop
  | init : ReachableNoCheck nthreads (init nthreads)
  | step {s s' : State} (t : Nat) (inv : Option (Nat × KOp)) (listOnly maint small : Bool) :
      ReachableNoCheck nthreads s → stepNoCheck s t inv listOnly maint small = some s' → ReachableNoCheck nthreads s'

def callsOn (s : State) (k : Nat) : History :=
  (s.hist.filter (·.1 == k)).reverse.map (·.2)

def quiescent (s : State) : Prop := ∀ l ∈ s.threads, l.pc = .idle

end Flurry.Proto.BinK
