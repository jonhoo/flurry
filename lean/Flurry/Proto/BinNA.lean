import Flurry.Lin
/-! # Proto/BinNA: any number of successive resizes, bins as ATOMIC (copy-on-write) lists (C01, C10)

What `Proto/BinX` / `Proto/BinG` do not model: SEVERAL GENERATIONS of tables — a resize after a resize.
Resizes of different generations never overlap (generation `g+1` starts to be filled only after
`table := next` of generation `g`), but a slow thread may still hold a pointer to a table of an older
generation: all cells of such a table are forwarding markers for ever, and the thread follows marker
after marker until it reaches the current table or the one being filled.

**What is atomic here (the name says so):** the content of a bin is an *immutable list* that a reader
obtains with ONE load of the cell and that a writer replaces with ONE store under the cell's lock
(copy-on-write). In-bin traversal is therefore NOT interleaved with other threads in this model;
`Proto/BinX` and `Proto/BinG` cover the pointer walking inside a bin for one resize. This model
isolates the generation structure: "follow markers until a live cell".

* generations `0, 1, 2, …`; generation `g` has cells `j < 2^g`; key `k` belongs to cell `(g, k % 2^g)`;
  the children of `(g, j)` are `(g+1, j)` (low) and `(g+1, j + 2^g)` (high); a key goes high iff bit `g`
  of `k` is set;
* a cell is `empty`, `list xs` (key ↦ (payload, value id)) or `moved` (the forwarding marker); every
  cell has a mutex (`locks`);
* one transition = one shared-memory access of one thread; readers are lock-free; writers CAS into an
  empty cell or lock the cell, RE-CHECK it (`recheck`; `stepG false` is the variant without), perform
  their one store and unlock; a thread that finds `moved` continues in the next generation;
* the resizing thread (exactly one per generation) allocates generation `cur+1`, transfers the cells
  of generation `cur` in any order (empty: CAS `empty → moved`; list: lock, re-check, split by bit
  `cur`, store low, store high, THEN store `moved`, unlock) and finally publishes `cur := cur+1`.

Proved in `Lemmas/BinNA*.lean`, collected in `Props/C01BinNA.lean`. -/
namespace Flurry.Proto.BinNA
open Flurry.Lin

abbrev Entry := Nat × (Nat × Nat)

inductive Cell where
  | empty
  | list (xs : List (Nat × (Nat × Nat)))
  | moved
deriving Repr, DecidableEq

structure Pending where
  key : Nat
  op : KOp
  inv : Nat
deriving Repr, DecidableEq

inductive Pc where
  | idle
  /-- reader: about to load the table pointer -/
  | rTable
  /-- reader: about to load the cell of its key in generation `g` -/
  | rCell (g : Nat)
  | wTable
  | wCell (g : Nat)
  /-- about to CAS the (empty) cell of its key in generation `g` to a one-element list -/
  | wCas (g : Nat)
  | wLock (g : Nat)
  | wCheck (g : Nat)
  /-- holds the (validated) lock: about to perform its one store -/
  | wStore (g : Nat)
  /-- about to unlock; `retry`: the re-check failed, look at the cell of generation `g` again -/
  | wUnlock (g : Nat) (res : KRes) (retry : Bool)
  -- the resizing thread of generation `cur` ------------------------------------------------
  | tNext
  | tCell (j : Nat)
  | tCasMoved (j : Nat)
  | tLock (j : Nat)
  | tCheck (j : Nat)
  | tStoreLow (j : Nat) (lo hi : Cell)
  | tStoreHigh (j : Nat) (hi : Cell)
  | tStoreMoved (j : Nat)
  | tUnlock (j : Nat)
  | tCommit
deriving Repr, DecidableEq

structure Local where
  pc : Pc := .idle
  call : Option Pending := none
deriving Repr, DecidableEq

structure State where
  /-- one inner list per allocated generation -/
  tabs : List (List Cell) := [[.empty]]
  /-- the mutex of each cell (`some t`: held by thread `t`) -/
  locks : List (List (Option Nat)) := [[none]]
  /-- the generation of the table pointer -/
  cur : Nat := 0
  /-- generation `cur+1` is allocated and being filled -/
  resizing : Bool := false
  threads : List Local
  hist : List (Nat × Call) := []
  now : Nat := 0
deriving Repr

def init (nthreads : Nat) : State := { threads := List.replicate nthreads {} }

def isReader : KOp → Bool
  | .get | .has => true
  | _ => false

/-- a missing generation / cell reads as `empty` -/
def getCell (s : State) (g j : Nat) : Cell := (s.tabs.getD g []).getD j .empty
def setCell (s : State) (g j : Nat) (c : Cell) : State :=
  { s with tabs := s.tabs.modify g (fun row => row.set j c) }
def getLock (s : State) (g j : Nat) : Option Nat := (s.locks.getD g []).getD j none
def setLock (s : State) (g j : Nat) (x : Option Nat) : State :=
  { s with locks := s.locks.modify g (fun row => row.set j x) }

/-- the cell index of key `k` in generation `g` -/
def ix (g k : Nat) : Nat := k % 2 ^ g

/-- does key `k` go to the high child when generation `g` is split -/
def hiBit (g k : Nat) : Bool := (k / 2 ^ g) % 2 == 1

def lookup (k : Nat) (xs : List Entry) : KSt := (xs.find? (fun e => e.1 == k)).map (·.2)

def mkCell : List Entry → Cell
  | [] => .empty
  | xs => .list xs

def isList : Cell → Bool
  | .list _ => true
  | _ => false

def content : Cell → List Entry
  | .list xs => xs
  | _ => []

/-- the new content of a bin after the writer's store: `none` erases the key, `some v` replaces / appends -/
def newContent (k : Nat) (xs : List Entry) : KSt → List Entry
  | none => xs.filter (fun e => !(e.1 == k))
  | some v =>
    if (lookup k xs).isSome then xs.map (fun e => if e.1 == k then (k, v) else e) else xs ++ [(k, v)]

def splitLo (g : Nat) (xs : List Entry) : List Entry := xs.filter (fun e => !hiBit g e.1)
def splitHi (g : Nat) (xs : List Entry) : List Entry := xs.filter (fun e => hiBit g e.1)

/-- the resizer's private progress bookkeeping: every cell of generation `cur` is forwarded -/
def allMoved (s : State) : Bool := (List.range (2 ^ s.cur)).all (fun j => getCell s s.cur j == .moved)

def cellAbs (k : Nat) : Cell → KSt
  | .list xs => lookup k xs
  | _ => none

/-- the cell a lookup of `k` that starts in generation `g` ends in (follow the markers) -/
def liveFrom (s : State) : Nat → Nat → Nat → Cell
  | 0, _, _ => .empty
  | fuel + 1, g, k =>
    match getCell s g (ix g k) with
    | .moved => liveFrom s fuel (g + 1) k
    | c => c

/-- what a lookup of `k` started now would find -/
def absOf (s : State) (k : Nat) : KSt := cellAbs k (liveFrom s s.tabs.length s.cur k)

def setT (s : State) (t : Nat) (l : Local) : State := { s with threads := s.threads.set t l }

def finish (s : State) (t : Nat) (p : Pending) (res : KRes) : State :=
  { (setT s t { pc := .idle, call := none }) with
      hist := (p.key, { tid := t, op := p.op, res := res, inv := p.inv, resp := s.now }) :: s.hist }

def missRes (op : KOp) : KRes := match op with | .has => .bool false | _ => .none
def hitRes (op : KOp) (v : Nat × Nat) : KRes := match op with | .has => .bool true | _ => .some v.1 v.2

/-- One step of thread `t`. `inv`: the call an idle thread starts; `rz`: an idle thread starts the next
resize; `pick`: the cell the resizing thread looks at next. -/
def stepG (recheck : Bool) (s : State) (t : Nat) (inv : Option (Nat × KOp)) (rz : Bool) (pick : Nat) :
    Option State :=
  match s.threads[t]? with
  | none => none
  | some l =>
    let s := { s with now := s.now + 1 }
    let upd (pc : Pc) : State := setT s t { l with pc := pc }
    match l.pc, l.call with
    | .idle, _ =>
      if rz then
        if s.resizing then some s
        else some { (upd .tNext) with
                      resizing := true
                      tabs := s.tabs ++ [List.replicate (2 ^ (s.cur + 1)) .empty]
                      locks := s.locks ++ [List.replicate (2 ^ (s.cur + 1)) none] }
      else
        match inv with
        | none => some s
        | some (k, op) =>
          some (setT s t { pc := if isReader op then .rTable else .wTable, call := some ⟨k, op, s.now⟩ })
    -- readers
    | .rTable, some _ => some (upd (.rCell s.cur))
    | .rCell g, some p =>
      match getCell s g (ix g p.key) with
      | .empty => some (finish s t p (missRes p.op))
      | .moved => some (upd (.rCell (g + 1)))
      | .list xs =>
        match lookup p.key xs with
        | none => some (finish s t p (missRes p.op))
        | some v => some (finish s t p (hitRes p.op v))
    -- writers
    | .wTable, some _ => some (upd (.wCell s.cur))
    | .wCell g, some p =>
      match getCell s g (ix g p.key) with
      | .empty =>
        match p.op with
        | .ins _ _ | .tryIns _ _ => some (upd (.wCas g))
        | _ => some (finish s t p .none)
      | .moved => some (upd (.wCell (g + 1)))        -- help_transfer: continue in the next table
      | .list _ => some (upd (.wLock g))
    | .wCas g, some p =>
      match getCell s g (ix g p.key), p.op with
      | .empty, .ins v vi | .empty, .tryIns v vi =>
        some (finish (setCell s g (ix g p.key) (.list [(p.key, (v, vi))])) t p .none)
      | _, _ => some (upd (.wCell g))
    | .wLock g, some p =>
      if (getLock s g (ix g p.key)).isSome then none
      else some (setT (setLock s g (ix g p.key) (some t)) t { l with pc := .wCheck g })
    | .wCheck g, some p =>
      if !recheck || isList (getCell s g (ix g p.key)) then some (upd (.wStore g))
      else some (upd (.wUnlock g .none true))
    | .wStore g, some p =>
      let xs := content (getCell s g (ix g p.key))
      let r := specStep (lookup p.key xs) p.op
      some (setT (setCell s g (ix g p.key) (mkCell (newContent p.key xs r.1))) t
        { l with pc := .wUnlock g r.2 false })
    | .wUnlock g res retry, some p =>
      let s1 := setLock s g (ix g p.key) none
      -- `continue`: the loop looks at the cell of the same table again
      if retry then some (setT s1 t { l with pc := .wCell g }) else some (finish s1 t p res)
    -- the resizing thread (it has no call in flight)
    | .tNext, none =>
      if allMoved s then some (upd .tCommit) else some (upd (.tCell (pick % 2 ^ s.cur)))
    | .tCell j, none =>
      match getCell s s.cur j with
      | .empty => some (upd (.tCasMoved j))
      | .list _ => some (upd (.tLock j))
      | .moved => some (upd .tNext)
    | .tCasMoved j, none =>
      match getCell s s.cur j with
      | .empty => some (setT (setCell s s.cur j .moved) t { l with pc := .tNext })
      | _ => some (upd (.tCell j))
    | .tLock j, none =>
      if (getLock s s.cur j).isSome then none
      else some (setT (setLock s s.cur j (some t)) t { l with pc := .tCheck j })
    | .tCheck j, none =>
      match getCell s s.cur j with
      | .list xs => some (upd (.tStoreLow j (mkCell (splitLo s.cur xs)) (mkCell (splitHi s.cur xs))))
      | _ => some (setT (setLock s s.cur j none) t { l with pc := .tCell j })
    | .tStoreLow j lo hi, none =>
      some (setT (setCell s (s.cur + 1) j lo) t { l with pc := .tStoreHigh j hi })
    | .tStoreHigh j hi, none =>
      some (setT (setCell s (s.cur + 1) (j + 2 ^ s.cur) hi) t { l with pc := .tStoreMoved j })
    | .tStoreMoved j, none =>
      some (setT (setCell s s.cur j .moved) t { l with pc := .tUnlock j })
    | .tUnlock j, none =>
      some (setT (setLock s s.cur j none) t { l with pc := .tNext })
    | .tCommit, none => some { (upd .idle) with cur := s.cur + 1, resizing := false }
    | _, _ => none

def step (s : State) (t : Nat) (inv : Option (Nat × KOp)) (rz : Bool) (pick : Nat) : Option State :=
  stepG true s t inv rz pick

inductive Reachable (nthreads : Nat) : State → Prop
  | init : Reachable nthreads (init nthreads)
  | step {s s' : State} (t : Nat) (inv : Option (Nat × KOp)) (rz : Bool) (pick : Nat) :
      Reachable nthreads s → step s t inv rz pick = some s' → Reachable nthreads s'

def callsOn (s : State) (k : Nat) : History :=
  (s.hist.filter (·.1 == k)).reverse.map (·.2)

def quiescent (s : State) : Prop := ∀ l ∈ s.threads, l.pc = .idle

end Flurry.Proto.BinNA
