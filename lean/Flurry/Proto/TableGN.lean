import Flurry.Proto.BinGN
import Flurry.Proto.TableN
import Flurry.LinMap
/-! # Proto/TableGN: a whole table with list AND tree bins through ANY NUMBER of resizes — many lineages,
many keys, one history (C01)

The construction of `Proto/TableN` over `Proto/BinGN` lineages. `m` bin *lineages*, each a `Proto/BinGN`
lineage: bin `i` of the initial table (length `m`) and everything it is split into, resize after resize, each
cell being empty, a list bin, a tree bin (`TreeBin` object with its mutex, its read-write lock and WAITER) or a
forwarding marker; treeify, untreeify, tree writers, lock-protocol readers, list readers / iterators; the
transfer of an empty, a list and a tree bin (the old `TreeBin` object re-used when one side is empty). Lineage
`i` at generation `g` has the cells `(g, j)`, `j < 2^g`; cell `(g, j)` of lineage `i` is bin `i + m * j` of the
table of length `m * 2^g`. The model takes the hash to be the key. Key `k` lives in lineage `k % m`
(`TableN.lineageOf`) and is known inside its lineage by the quotient `k / m` (`TableN.localKey`): `Proto/BinGN`
puts local key `q` of generation `g` in cell `(g, q % 2^g)`, so key `k` is in bin `k % m + m * ((k / m) % 2^g)`
of the table of length `m * 2^g` — which is `k % (m * 2^g)`, and for `m = 2^a` it is `k % 2^(a+g)`, the index the
code computes (`TableN.bin_index_eq`, `TableN.bin_index_eq_mod`: pure arithmetic, re-used by import); the split bit
of generation `g` inside the lineage (`BinGN.bitAt g (k / m)`) is then bit `a + g` of `k`. `m` need not be a power
of two for anything proved here. Every natural number `q` is a local key of every lineage
(`TableN.globalKey m i q = i + m * q` is the key of the table it stands for), so there is no "keys of this
lineage" invariant to maintain: a call on key `k` of the table IS the call on local key `k / m` in lineage
`k % m` (`step` translates the key), and the history of the map records the ORIGINAL key (`binCalls` translates
back, `globalKey m (k % m) (k / m) = k`).

**The treeify key is translated like the invocation key.** `BinGN.step` takes `maint = some q`: an idle thread
starts the treeify of the cell of (local) key `q`. `TableGN.step` takes the key `k` of the TABLE (`mt = some k`):
it must be a key of the lineage the thread acts in (`k % m = i`, otherwise the step is refused) and is handed to
the lineage under its local name `k / m` (`localMt`) — so the treeify of "the bin of key `k`" treeifies cell
`(g, (k / m) % 2^g)` of lineage `k % m`, i.e. bin `k % (m * 2^g)` of the table, the very bin in which the calls on
key `k` work.

Any number of threads; a thread is inside at most one lineage at a time (an operation on key `k` — a call or a
treeify — touches the cells of lineage `k % m` only). One transition of the table is one `BinGN.step` of one
thread in one lineage; all lineages share one clock (every other lineage `tick`s), so invocation and response
times of calls in different lineages are comparable. A thread can act in a lineage only while it is idle in
every other one; the thread that resizes a lineage is not idle there from the allocation of the next generation
(`xNext`) to the commit (`xCommit` → `idle`), so it is inside that lineage for the whole resize of that lineage;
likewise a treeify thread from `kTable` to `kUnlock` → `idle`.

**The table pointer / generation counter is modelled per lineage** (`BinGN.State.cur`, `BinGN.State.resizing`,
`BinGN.State.tabs`): every lineage allocates "its part" of the next table, forwards its `2^cur` cells and commits
its own `cur := cur + 1`, lineage by lineage, each by whichever thread starts it (the same thread for several
lineages one after the other, or different threads — helpers — for different lineages at the same time).
Therefore, in the model, the lineages may be at DIFFERENT generations — lineage 0 may be resized while lineage 1
still is at generation 0 (`Lemmas/TableGNExamples.lean` does exactly that). In the code there is one table
pointer: generation `g + 1` is allocated as ONE array, all bins of generation `g` are forwarded, then the single
store `table := next` publishes it, and only after that store can the resize to generation `g + 2` start; so in
the code all lineages are, at any time, at generation `g` or in the transfer `g → g + 1` for the same `g`. This
gives the model MORE executions than the code, not fewer. How an execution of the code corresponds to one of the
model (stated here, NOT proved — the theorems are about the model's executions): take the allocation of the next
array as the allocation step (`idle → xNext`) of every lineage, one after the other (they touch disjoint, still
unreachable memory; in the model they take consecutive clock ticks, and nothing reads a cell of the next
generation before a forwarding marker points to it); the transfer of bin `i + m * j` of generation `g` by
whichever helper does it is the transfer of cell `(g, j)` of lineage `i` by that thread; the single
`table := next` is the commit `cur := cur + 1` of every lineage, consecutively. (Inherited restriction of
`Proto/BinGN`: ONE resizing thread per lineage and generation, which transfers the cells of the lineage one at a
time. Helpers that work on different lineages at the same time are in the model; for `g ≥ 1` a code execution in
which two helpers are at the same moment in the middle of the transfers of two bins `i + m * j`, `i + m * j'` of
the SAME lineage has no counterpart with these very steps — the cells are disjoint and the two transfers
commute, but that is not proved here.) An operation of the code that starts in lineage `i` after all cells of
lineage `i` are forwarded and before the real publication loads the old table pointer, then the forwarding
marker, then continues in the next table; in the model — if lineage `i` has already committed — it may load the
next-generation pointer directly. The two differ by two reads of cells that never change again (a `moved` cell of
an old generation is final: `tableGN_old_generations_forwarded`) and concern no other thread: the operation then
works on the same cell of the next generation, and the model's thread may simply take its (fewer) steps at the
times of the corresponding steps of the code — the model's idle steps stutter —, so invocation time, response
time and result are the same. Conversely the extra executions of the model (lineages at different generations)
are harmless because no operation ever reads two lineages: an operation on key `k` sees lineage `k % m` only, and
there the model's lineage is exactly a `Proto/BinGN` lineage. The heap of nodes and the table of `TreeBin`
objects are per lineage as well (`BinGN.State.heap`, `BinGN.State.tbins`): a node or a `TreeBin` is only ever
reachable from cells of one lineage (a transfer splits a bin into two bins of the SAME lineage), so one heap
split into `m` disjoint parts is the same thing.

The history of the table is the history of the *map*: calls on all keys together. Proved
(`Lemmas/TableGN.lean`, `Props/C01TableGN.lean`): at quiescence it is `LinMap.MapLinearizable` — ONE sequential
order of all calls on all keys, respecting real time, each call answering what a sequential map answers — from
the empty map to the map whose key `k` has the abstract state of local key `k / m` in lineage `k % m`. This is
the per-lineage theorem (`binGN_linearizable_quiescent`, `Props/C01BinGNLin.lean`) composed with locality
(`C01.locality`); a `tick` of a lineage is the `BinGN` step of a thread that is idle there and starts nothing (no
call, no treeify, no resize), so every lineage of a reachable table is `BinGN.Reachable`. -/
namespace Flurry.Proto.TableGN
open Flurry.Lin Flurry.LinMap
open Flurry.Proto.TableN (lineageOf localKey globalKey inLineage localInv)

structure State where
  bins : List BinGN.State
deriving Repr

def init (m nthreads : Nat) : State := { bins := List.replicate m (BinGN.init nthreads) }

/-- the clock of a lineage advances although nothing happens in it -/
def tick (b : BinGN.State) : BinGN.State := { b with now := b.now + 1 }

/-- is thread `t` idle in lineage `b` -/
def idleIn (b : BinGN.State) (t : Nat) : Bool :=
  match b.threads[t]? with
  | some l => l.pc == .idle
  | none => false

/-- the treeify key as the lineage sees it: the bin of key `k` is the bin of local key `k / m` there -/
def localMt (m : Nat) (mt : Option Nat) : Option Nat := mt.map (localKey m)

/-- One step of thread `t` in lineage `i` (`inv`, `lo`, `mt`, `resize`, `sm`, `sm2`, `pick` are the arguments of
`BinGN.step`; `inv` and `mt` with the key of the TABLE). A thread can act in lineage `i` only while it is idle in
every other lineage; a call it starts there must be on a key of that lineage (`k % m = i`) and is started in the
lineage under the local name `k / m`; a treeify it starts there must be for the bin of a key of that lineage and
is started under the local name of that key. Every other lineage ticks. -/
def step (S : State) (i t : Nat) (inv : Option (Nat × KOp)) (lo : Bool) (mt : Option Nat)
    (resize sm sm2 : Bool) (pick : Nat) : Option State :=
  let m := S.bins.length
  match S.bins[i]? with
  | none => none
  | some b =>
    if !((List.range m).all fun j => j == i || idleIn (S.bins.getD j (BinGN.init 0)) t) then none
    else if !inLineage m i (inv.map (·.1)) then none
    else if !inLineage m i mt then none
    else
      match BinGN.step b t (localInv m inv) lo (localMt m mt) resize sm sm2 pick with
      | none => none
      | some b' => some { bins := (S.bins.map tick).set i b' }

inductive Reachable (m nthreads : Nat) : State → Prop
  | init : Reachable m nthreads (init m nthreads)
  | step {S S' : State} (i t : Nat) (inv : Option (Nat × KOp)) (lo : Bool) (mt : Option Nat)
      (resize sm sm2 : Bool) (pick : Nat) :
      Reachable m nthreads S → step S i t inv lo mt resize sm sm2 pick = some S' → Reachable m nthreads S'

def quiescent (S : State) : Prop := ∀ b ∈ S.bins, BinGN.quiescent b

/-- the completed calls of lineage `i` as calls of the map, oldest first, under the keys of the table -/
def binCalls (m i : Nat) (b : BinGN.State) : MHistory := b.hist.reverse.map fun e => ⟨globalKey m i e.1, e.2⟩

/-- the history of the map: the calls of all lineages (lineage by lineage; the order of the list carries no
meaning, the times do) -/
def mhist (S : State) : MHistory :=
  ((List.range S.bins.length).map fun i => binCalls S.bins.length i (S.bins.getD i (BinGN.init 0))).flatten

/-- the abstract map: key `k` has the abstract state of local key `k / m` in lineage `k % m` -/
def absMap (S : State) : MSt :=
  fun k => BinGN.absOf (S.bins.getD (lineageOf S.bins.length k) (BinGN.init 0)) (localKey S.bins.length k)

end Flurry.Proto.TableGN
