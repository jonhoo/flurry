import Flurry.Lin
/-! # Proto/BinT: one tree bin, any number of threads (C01, C08, C11/C12 at the bin level)

A small-step model of what `get_node` → `TreeBin::find`, `put` → `find_or_put_tree_val`,
`replace_node` / `compute_if_present` → `remove_tree_node` do to one **tree bin** that stays a tree
bin (no resize, no untreeify) — `src/node.rs`. One transition = one shared-memory access.

A tree bin keeps its nodes in two structures at once:
* a singly linked **list** `first → next → …` in which a new node is *prepended* and from which a
  removed node is unlinked (`pred.next := next` / `first := next`);
* a red-black **tree** over the same nodes. The shape of the tree is abstracted to the *set* of
  nodes it contains (`inTree`): under the read lock the shape cannot change except for a new leaf
  being linked, so a search of the tree for key `k` answers with the membership of `k` at the
  moment it reads the last link on the (fixed) path to `k` — one atomic step `rTree` at some time
  while the read lock is held.

Synchronisation:
* writers are serialised by the bin's mutex (`TreeBin::lock`); it is an object of the bin, not of
  its first node, and in this model the bin cell never changes, so there is no re-check step;
* the tree has its own read-write lock `lock_state` = (`writer`, `waiter`, `readers`):
  - a reader looks at `lock_state` **for every list element it stands on**: if a writer holds or
    waits for the lock it takes one *linear* step (compare the key of the current element, else
    load `next`); otherwise it tries to CAS itself in as a reader and, if that works, searches the
    *tree* (`rTree`), releases the read lock and returns; a failed CAS repeats the iteration;
  - a writer that has to restructure (`lock_root`): CAS `0 → WRITER`; if that fails, loop: when no
    reader and no writer is left, CAS to `WRITER`; else set `WAITER` (once) and park. Parking and
    waking are abstracted: the waiting step is simply not enabled while readers remain (that the
    wake-up is never lost is the subject of `Proto/RwLock`).
* the order of a writer's stores (this is what the model is about):
  - **insert of a new key**: allocate the node with `next = first`; `first := node` (list);
    link it as a leaf (tree); then, only if its parent is red, `lock_root`, rebalance, `unlock_root`
    (`bal` says which — the model allows either);
  - **removal**: unlink from the list; `lock_root`; take the node out of the tree; `unlock_root`;
  - **replace / compute**: one value store, no tree lock.
  Values are read by `get` *after* `find` returned the node (a separate access).

**Finding F8.** `lockFirst = false` is the order of the original code (and of the JDK): removal
unlinks from the list and takes the write lock afterwards. `Props/C01BinT.lean` contains a
kernel-checked schedule (41 steps, 3 threads) after which a `get` has answered "absent" and a
later `get` "present" with no insert in between: between the unlink and the lock the list no
longer contains the node, the tree still does, and the lock word is clear, so a reader that still
walks the list because of the *previous* writer misses the node while a reader arriving later
finds it in the tree. The schedule is replayed on the real code as scenario
`tree-stale-linear-reader`; the repaired code takes the write lock first
(`lockFirst = true`, the model proper: `step`).

`hist` records completed calls as in `Proto/Bin`. Proved (`Lemmas/BinT*.lean`, `Props/C01BinT.lean`): for every
reachable quiescent state and key, the calls on that key are `Lin.Linearizable` from "absent" to
the key's abstract state. -/
namespace Flurry.Proto.BinT
open Flurry.Lin

structure NodeS where
  key : Nat
  val : Nat × Nat
  next : Option Nat
  /-- is the node linked into the tree -/
  inTree : Bool := false
deriving Repr, DecidableEq

structure Pending where
  key : Nat
  op : KOp
  inv : Nat
deriving Repr, DecidableEq

inductive Pc where
  | idle
  /-- reader: about to load `first` -/
  | rFirst
  /-- reader standing on list element `cur`: about to load `lock_state` -/
  | rState (cur : Option Nat)
  /-- reader: saw a writer holding / waiting: about to compare `cur`'s key and load its `next` -/
  | rLin (cur : Nat)
  /-- reader: saw `(readers = r)` and no writer / waiter: about to CAS `readers: r → r + 1` -/
  | rCas (cur : Nat) (r : Nat)
  /-- reader: holds the read lock, about to search the tree -/
  | rTree
  /-- reader: about to release the read lock and return / go on to the value -/
  | rRelease (hit : Option Nat)
  /-- reader (`get`): about to load the value cell of node `i` -/
  | rVal (i : Nat)
  /-- writer: about to lock the bin's mutex -/
  | wMutex
  /-- writer: holds the mutex, about to search (the structure is stable: one step) -/
  | wFind
  /-- writer: about to store the value cell of `i` -/
  | wVal (i : Nat) (v : Nat × Nat) (res : KRes)
  /-- writer: about to store `first := new node` (allocated with `next = first`) -/
  | wPrepend
  /-- writer: about to link node `x` into the tree as a leaf -/
  | wTreeLink (x : Nat)
  /-- writer: about to unlink node `i` from the list -/
  | wListUnlink (i : Nat) (res : KRes)
  /-- removal with the write lock already held: about to unlink node `i` from the list -/
  | wUnlinkLocked (i : Nat) (res : KRes)
  /-- `lock_root`: the first CAS `0 → WRITER`; afterwards `thenRemove = some i`: take `i` out of the tree -/
  | lrTry (thenRemove : Option Nat) (res : KRes)
  /-- `contended_lock` loop -/
  | lrLoop (thenRemove : Option Nat) (res : KRes)
  /-- holds the write lock: about to restructure (remove `i` from the tree / rebalance) -/
  | wRestructure (thenRemove : Option Nat) (res : KRes)
  /-- about to `unlock_root` -/
  | wUnlockRoot (res : KRes)
  /-- about to unlock the mutex and return -/
  | wUnlockM (res : KRes)
deriving Repr, DecidableEq

structure Local where
  pc : Pc := .idle
  call : Option Pending := none
deriving Repr, DecidableEq

structure State where
  heap : List NodeS := []
  first : Option Nat := none
  mutex : Option Nat := none
  writer : Bool := false
  waiter : Bool := false
  readers : Nat := 0
  threads : List Local
  hist : List (Nat × Call) := []
  now : Nat := 0
deriving Repr

def init (nthreads : Nat) : State := { threads := List.replicate nthreads {} }

def isReader : KOp → Bool
  | .get | .has => true
  | _ => false

def dflt : NodeS := ⟨0, (0, 0), none, false⟩

/-- the node of the tree with key `k` (keys in the tree are distinct: invariant) -/
def treeFind (s : State) (k : Nat) : Option Nat :=
  (List.range s.heap.length).find? fun i => (s.heap.getD i dflt).inTree && (s.heap.getD i dflt).key == k

/-- abstract content: membership in the tree -/
def absOf (s : State) (k : Nat) : KSt :=
  match treeFind s k with
  | some i => some (s.heap.getD i dflt).val
  | none => none

def setNode (s : State) (i : Nat) (f : NodeS → NodeS) : State := { s with heap := s.heap.modify i f }
def setT (s : State) (t : Nat) (l : Local) : State := { s with threads := s.threads.set t l }

def finish (s : State) (t : Nat) (p : Pending) (res : KRes) : State :=
  { (setT s t { pc := .idle, call := none }) with
      hist := (p.key, { tid := t, op := p.op, res := res, inv := p.inv, resp := s.now }) :: s.hist }

/-- the nodes reachable from `start` along `next`, in list order (fuel = heap size) -/
def chainFrom (heap : List NodeS) : Nat → Option Nat → List Nat
  | 0, _ => []
  | _, none => []
  | fuel + 1, some i =>
    match heap[i]? with
    | none => []
    | some n => i :: chainFrom heap fuel n.next

def chain (s : State) : List Nat := chainFrom s.heap s.heap.length s.first

/-- the predecessor of `i` on the live list (`prev` in the code; `none` = `i` is the first node) -/
def predOf (c : List Nat) (i : Nat) : Option Nat :=
  match c with
  | a :: b :: rest => if b == i then some a else predOf (b :: rest) i
  | _ => none

/-- One step of thread `t`. `inv`: the call an idle thread starts; `bal`: whether an insert has to
rebalance under the write lock (its parent is red). `none` = not enabled. -/
def stepG (lockFirst : Bool) (s : State) (t : Nat) (inv : Option (Nat × KOp)) (bal : Bool) : Option State :=
  match s.threads[t]? with
  | none => none
  | some l =>
    let s := { s with now := s.now + 1 }
    let upd (pc : Pc) : State := setT s t { l with pc := pc }
    match l.pc, l.call with
    | .idle, _ =>
      match inv with
      | none => some s
      | some (k, op) =>
        some (setT s t { pc := if isReader op then .rFirst else .wMutex, call := some ⟨k, op, s.now⟩ })
    -- readers ---------------------------------------------------------------------------
    | .rFirst, some _ => some (upd (.rState s.first))
    | .rState none, some p =>
      some (finish s t p (match p.op with | .has => .bool false | _ => .none))
    | .rState (some c), some _ =>
      if s.writer || s.waiter then some (upd (.rLin c)) else some (upd (.rCas c s.readers))
    | .rLin c, some p =>
      match s.heap[c]? with
      | none => none
      | some n =>
        if n.key == p.key then
          match p.op with
          | .has => some (finish s t p (.bool true))
          | _ => some (upd (.rVal c))
        else some (upd (.rState n.next))
    | .rCas c r, some _ =>
      if !s.writer && !s.waiter && s.readers == r then
        some { (upd .rTree) with readers := s.readers + 1 }
      else some (upd (.rState (some c)))
    | .rTree, some p => some (upd (.rRelease (treeFind s p.key)))
    | .rRelease hit, some p =>
      let s1 := { s with readers := s.readers - 1 }
      match hit, p.op with
      | none, .has => some (finish s1 t p (.bool false))
      | none, _ => some (finish s1 t p .none)
      | some _, .has => some (finish s1 t p (.bool true))
      | some i, _ => some (setT s1 t { l with pc := .rVal i })
    | .rVal i, some p =>
      match s.heap[i]? with
      | none => none
      | some n => some (finish s t p (.some n.val.1 n.val.2))
    -- writers ---------------------------------------------------------------------------
    | .wMutex, some _ =>
      if s.mutex.isSome then none else some { (upd .wFind) with mutex := some t }
    | .wFind, some p =>
      match p.op, treeFind s p.key with
      | .ins v vi, some i => some (upd (.wVal i (v, vi) (resOf (some (s.heap.getD i dflt).val))))
      | .ins _ _, none => some (upd .wPrepend)
      | .tryIns _ _, some i => let x := (s.heap.getD i dflt).val; some (upd (.wUnlockM (.exists_ x.1 x.2)))
      | .tryIns _ _, none => some (upd .wPrepend)
      | .rm, some i =>
        let res := resOf (some (s.heap.getD i dflt).val)
        if lockFirst then some (upd (.lrTry (some i) res)) else some (upd (.wListUnlink i res))
      | .rm, none => some (upd (.wUnlockM .none))
      | .cipInc nvi, some i =>
        let x := (s.heap.getD i dflt).val
        some (upd (.wVal i (x.1 + 1, nvi) (.some (x.1 + 1) nvi)))
      | .cipInc _, none => some (upd (.wUnlockM .none))
      | .cipRm, some i => if lockFirst then some (upd (.lrTry (some i) .none)) else some (upd (.wListUnlink i .none))
      | .cipRm, none => some (upd (.wUnlockM .none))
      | .get, _ => none
      | .has, _ => none
    | .wVal i v res, some _ => some (setT (setNode s i (fun n => { n with val := v })) t { l with pc := .wUnlockM res })
    | .wPrepend, some p =>
      match p.op with
      | .ins v vi | .tryIns v vi =>
        let x := s.heap.length
        some (setT { s with heap := s.heap ++ [⟨p.key, (v, vi), s.first, false⟩], first := some x } t
                { l with pc := .wTreeLink x })
      | _ => none
    | .wTreeLink x, some _ =>
      let s1 := setNode s x (fun n => { n with inTree := true })
      if bal then some (setT s1 t { l with pc := .lrTry none .none })
      else some (setT s1 t { l with pc := .wUnlockM .none })
    | .wListUnlink i res, some _ =>
      let n := s.heap.getD i dflt
      let s1 := match predOf (chain s) i with
        | some pr => setNode s pr (fun m => { m with next := n.next })
        | none => { s with first := n.next }
      some (setT s1 t { l with pc := .lrTry (some i) res })
    | .wUnlinkLocked i res, some _ =>
      let n := s.heap.getD i dflt
      let s1 := match predOf (chain s) i with
        | some pr => setNode s pr (fun m => { m with next := n.next })
        | none => { s with first := n.next }
      some (setT s1 t { l with pc := .wRestructure (some i) res })
    | .lrTry rmv res, some _ =>
      if !s.writer && !s.waiter && s.readers == 0 then
        some { (upd (match lockFirst, rmv with | true, some i => .wUnlinkLocked i res | _, _ => .wRestructure rmv res)) with writer := true }
      else some (upd (.lrLoop rmv res))
    | .lrLoop rmv res, some _ =>
      if !s.writer && s.readers == 0 then
        some { (upd (match lockFirst, rmv with | true, some i => .wUnlinkLocked i res | _, _ => .wRestructure rmv res)) with writer := true, waiter := false }
      else if !s.waiter then some { (upd (.lrLoop rmv res)) with waiter := true }
      else none                                   -- parked until the last reader leaves
    | .wRestructure rmv res, some _ =>
      match rmv with
      | some i => some (setT (setNode s i (fun n => { n with inTree := false })) t { l with pc := .wUnlockRoot res })
      | none => some (upd (.wUnlockRoot res))
    | .wUnlockRoot res, some _ => some { (upd (.wUnlockM res)) with writer := false, waiter := false }
    | .wUnlockM res, some p => some (finish { s with mutex := none } t p res)
    | _, none => none

/-- the model: removal takes the write lock before it unlinks the node from the list (the repaired code) -/
def step (s : State) (t : Nat) (inv : Option (Nat × KOp)) (bal : Bool) : Option State := stepG true s t inv bal

/-- the original order (and the JDK's): unlink from the list, then take the write lock -/
def stepOld (s : State) (t : Nat) (inv : Option (Nat × KOp)) (bal : Bool) : Option State := stepG false s t inv bal

inductive Reachable (nthreads : Nat) : State → Prop
  | init : Reachable nthreads (init nthreads)
  | step {s s' : State} (t : Nat) (inv : Option (Nat × KOp)) (bal : Bool) :
      Reachable nthreads s → step s t inv bal = some s' → Reachable nthreads s'

inductive ReachableOld (nthreads : Nat) : State → Prop
  | init : ReachableOld nthreads (init nthreads)
  | step {s s' : State} (t : Nat) (inv : Option (Nat × KOp)) (bal : Bool) :
      ReachableOld nthreads s → stepOld s t inv bal = some s' → ReachableOld nthreads s'

def callsOn (s : State) (k : Nat) : History :=
  (s.hist.filter (·.1 == k)).reverse.map (·.2)

def quiescent (s : State) : Prop := ∀ l ∈ s.threads, l.pc = .idle

end Flurry.Proto.BinT
