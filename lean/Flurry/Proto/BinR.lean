import Flurry.Lin2
/-! # Proto/BinR: the list bin with the writer's traversal spelled out, with `condRm` and the `retain` visit (C13)

`Proto/BinW` over the per-key operations of `Flurry/Lin2.lean`: `retain`'s conditional removal `condRm` is one more
writer, and the visit of `retain` that precedes it (walk to the node, load the value id, call the predicate) has steps
of its own.

`Proto/BinRBase` (`Flurry.Proto.BinR.Base`) lets a validated writer find its node and store in ONE transition, which is sound only
because validated writers exclude each other — a fact `Proto/BinRBase` proves (`writers_mutex`) but
never *uses*: its linearizability proof would go through unchanged if the lock or the re-check of
the bin cell were dropped. Here the lock is load-bearing. A validated writer walks the list node by
node (`wFind`: one load of a `next` cell per transition), remembering its predecessor, and then
performs its single store **with the positions it remembered** (`wStore`): the value cell of the
node it found, the `next` cell of the node it took for the last one (append), or the `next` cell of
the remembered predecessor, set to the successor it read earlier (unlink). If another thread could
change the list between the walk and the store, updates would be lost and unlinked nodes written.

Everything else (readers, the lock inside the first node, the re-check `wCheck`, the lock-free CAS
into an empty bin, the history) is as in `Proto/BinRBase`, whose `NodeS`, `Pending`, `chainFrom`,
`absOf`-style definitions are re-declared here for the new state type.

Theorems (`Lemmas/BinR*.lean`, `Props/C13BinR.lean`): every reachable state of this model is
simulated by `Proto/BinRBase` (the walk steps are stutter steps, `wStore` is `Base`'s `wWrite`: thanks to
the validated lock the remembered positions are still the current ones), hence the same
linearizability theorem; and, for contrast, a reachable non-linearizable history of the variant
that does not compare the value id (`stepNoCompare`); the variant without the re-check (`stepNoCheck`) is refuted for
`Proto/BinW` (`Lemmas/BinWExamples.lean`). -/
namespace Flurry.Proto.BinR
open Flurry.Lin2

structure NodeS where
  key : Nat
  val : Nat × Nat
  next : Option Nat
  /-- holder of the mutex inside this node -/
  lock : Option Nat := none
deriving Repr, DecidableEq

/-- a call in flight: key, operation, invocation time -/
structure Pending where
  key : Nat
  op : KOp2
  inv : Nat
deriving Repr, DecidableEq

inductive Pc where
  | idle
  /-- reader: about to load the bin cell -/
  | rHead
  /-- reader: holds `cur` (loaded from the bin cell or from a `next` cell) -/
  | rNode (cur : Option Nat)
  /-- writer: about to load the bin cell -/
  | wHead
  /-- writer (ins / tryIns on an empty bin): about to CAS the bin cell `none → new` -/
  | wCas
  /-- writer: saw head `h`, about to lock the mutex in node `h` -/
  | wLock (h : Nat)
  /-- writer: holds the mutex of node `h`, about to re-read the bin cell -/
  | wCheck (h : Nat)
  /-- writer: holds the validated mutex of head `h`; walking: `cur` is the node to look at next
  (loaded from the bin cell at validation or from a `next` cell), `pred` the node before it -/
  | wFind (h : Nat) (pred : Option Nat) (cur : Option Nat)
  /-- writer: walk finished: `hit` = the node with its key (and `hnext` = that node's `next` as read
  during the walk), or none and `pred` = the last node; about to do its one store -/
  | wStore (h : Nat) (pred : Option Nat) (hit : Option Nat) (hnext : Option Nat)
  /-- writer: about to unlock node `h` and return `res` (`retry = true`: start over instead) -/
  | wUnlock (h : Nat) (res : KRes) (retry : Bool)
  /-- `retain` visiting key `k` (first half, no call in flight yet): about to load the bin cell -/
  | vHead (k : Nat)
  /-- `retain` visiting key `k`: holds `cur`, walking like a reader -/
  | vNode (k : Nat) (cur : Option Nat)
  /-- `retain` visiting key `k`: found the node and loaded its value pointer, whose id is `vi`;
  about to call the predicate `f(k, v)` -/
  | vLoaded (k : Nat) (vi : Nat)
deriving Repr, DecidableEq

/-- what the environment asks of an idle thread — call `op` on key `k`, or let `retain` visit key
`k` — and, for a thread whose `retain` visit has loaded the value, the predicate's verdict
(`drop` = `f` returned false; anything else = keep) -/
inductive Inv where
  | call (k : Nat) (op : KOp2)
  | visit (k : Nat)
  | drop
deriving Repr, DecidableEq

structure Local where
  pc : Pc := .idle
  call : Option Pending := none
deriving Repr, DecidableEq

structure State where
  heap : List NodeS := []
  head : Option Nat := none
  threads : List Local
  /-- completed calls, most recent first, with their key -/
  hist : List (Nat × Call2) := []
  /-- global step counter (the "time" of invocations and responses) -/
  now : Nat := 0
deriving Repr

def init (nthreads : Nat) : State := { threads := List.replicate nthreads {} }

def isReader : KOp2 → Bool
  | .get | .has => true
  | _ => false

/-- the indices of the nodes reachable from `start`, in list order (fuel = heap size) -/
def chainFrom (heap : List NodeS) : Nat → Option Nat → List Nat
  | 0, _ => []
  | _, none => []
  | fuel + 1, some i =>
    match heap[i]? with
    | none => []
    | some n => i :: chainFrom heap fuel n.next

def chain (s : State) : List Nat := chainFrom s.heap s.heap.length s.head

/-- the abstract content of the bin: key ↦ value of the first node with that key on the chain -/
def absOf (s : State) (k : Nat) : KSt :=
  match (chain s).find? (fun i => (s.heap.getD i ⟨0, (0, 0), none, none⟩).key == k) with
  | some i => some (s.heap.getD i ⟨0, (0, 0), none, none⟩).val
  | none => none

def setNode (s : State) (i : Nat) (f : NodeS → NodeS) : State :=
  { s with heap := s.heap.modify i f }

def setT (s : State) (t : Nat) (l : Local) : State := { s with threads := s.threads.set t l }

/-- complete the call of thread `t` with result `res` -/
def finish (s : State) (t : Nat) (p : Pending) (res : KRes) : State :=
  { (setT s t { pc := .idle, call := none }) with
      hist := (p.key, { tid := t, op := p.op, res := res, inv := p.inv, resp := s.now }) :: s.hist }

/-- the single store of a writer, done with the positions remembered during its walk:
`hit = some i`: the node with the key (`hnext` its successor as read then); `pred` the node before
it (`none`: it is the head). `hit = none`: the key was not found and `pred` is the last node seen. -/
def storeAt (s : State) (p : Pending) (pred hit hnext : Option Nat) : State × KRes :=
  let dflt : NodeS := ⟨0, (0, 0), none, none⟩
  let append (v vi : Nat) : State :=
    let newIdx := s.heap.length
    let s1 := { s with heap := s.heap ++ [⟨p.key, (v, vi), none, none⟩] }
    match pred with
    | some l => setNode s1 l (fun n => { n with next := some newIdx })
    | none => { s1 with head := some newIdx }
  let unlink : State :=
    match pred with
    | some pr => setNode s pr (fun m => { m with next := hnext })
    | none => { s with head := hnext }
  match p.op, hit with
  | .ins v vi, some i => (setNode s i (fun n => { n with val := (v, vi) }), resOf (some (s.heap.getD i dflt).val))
  | .ins v vi, none => (append v vi, .none)
  | .tryIns _ _, some i => let x := (s.heap.getD i dflt).val; (s, .exists_ x.1 x.2)
  | .tryIns v vi, none => (append v vi, .none)
  | .rm, some i => (unlink, resOf (some (s.heap.getD i dflt).val))
  | .rm, none => (s, .none)
  | .cipInc nvi, some i =>
    let n := s.heap.getD i dflt
    (setNode s i (fun m => { m with val := (n.val.1 + 1, nvi) }), .some (n.val.1 + 1) nvi)
  | .cipInc _, none => (s, .none)
  | .cipRm, some _ => (unlink, .none)
  | .cipRm, none => (s, .none)
  | .condRm vi, some i =>
    -- `retain`: unlink only if the node still holds the value the predicate inspected
    if (s.heap.getD i dflt).val.2 = vi then (unlink, .none) else (s, .none)
  | .condRm _, none => (s, .none)
  | .get, _ => (s, .none)
  | .has, _ => (s, .none)

/-- what a `retain` that forgets the value its predicate inspected would do: `condRm vi` becomes an
unconditional removal (used only by the refuted variant `stepNoCompare`) -/
def forget (p : Pending) : Pending :=
  { p with op := match p.op with | .condRm _ => .cipRm | o => o }

/-- One step of thread `t`. An idle thread invokes `op` on key `k` (`inv = some (.call k op)`), starts a
`retain` visit of key `k` (`inv = some (.visit k)`) or stays idle; a visit that has loaded the value
(`vLoaded`) takes the predicate's verdict from `inv` (`some .drop`: start `condRm` of the loaded id;
anything else: keep, back to idle); elsewhere `inv` is ignored.
`none` = not a thread / the step is not enabled (a lock that is held). Every step advances `now`.
`recheck = false`: trust the lock without re-reading the bin cell; `compare = false`: `condRm`
unlinks without comparing the value id (both only for the refuted variants). -/
def stepG (recheck compare : Bool) (s : State) (t : Nat) (inv : Option Inv) : Option State :=
  match s.threads[t]? with
  | none => none
  | some l =>
    let s := { s with now := s.now + 1 }
    let upd (pc : Pc) : State := setT s t { l with pc := pc }
    match l.pc, l.call with
    | .idle, _ =>
      match inv with
      | some (.call k op) =>
        some (setT s t { pc := if isReader op then .rHead else .wHead, call := some ⟨k, op, s.now⟩ })
      | some (.visit k) => some (upd (.vHead k))
      | _ => some s
    -- the first half of a `retain` visit: walk to the node of `k` like a reader, load its value
    -- pointer, call the predicate; only a `drop` verdict starts a call (`condRm` of the loaded id)
    | .vHead k, _ => some (upd (.vNode k s.head))
    | .vNode _ none, _ => some (upd .idle)
    | .vNode k (some c), _ =>
      match s.heap[c]? with
      | none => none
      | some n =>
        if n.key == k then some (upd (.vLoaded k n.val.2)) else some (upd (.vNode k n.next))
    | .vLoaded k vi, _ =>
      match inv with
      | some .drop => some (setT s t { pc := .wHead, call := some ⟨k, .condRm vi, s.now⟩ })
      | _ => some (upd .idle)
    | .rHead, some _ => some (upd (.rNode s.head))
    | .rNode none, some p =>
      some (finish s t p (match p.op with | .has => .bool false | _ => .none))
    | .rNode (some c), some p =>
      match s.heap[c]? with
      | none => none
      | some n =>
        if n.key == p.key then
          -- hit: `get` loads the value cell now; `contains_key` does not look at it
          some (finish s t p (match p.op with | .has => .bool true | _ => .some n.val.1 n.val.2))
        else some (upd (.rNode n.next))
    | .wHead, some p =>
      match s.head with
      | none =>
        match p.op with
        | .ins _ _ | .tryIns _ _ => some (upd .wCas)
        | _ => some (finish s t p .none)          -- remove / compute on an empty bin
      | some h => some (upd (.wLock h))
    | .wCas, some p =>
      match s.head, p.op with
      | none, .ins v vi | none, .tryIns v vi =>
        let newIdx := s.heap.length
        some (finish { s with heap := s.heap ++ [⟨p.key, (v, vi), none, none⟩], head := some newIdx } t p .none)
      | _, _ => some (upd .wHead)                 -- CAS failed: start over
    | .wLock h, some _ =>
      match s.heap[h]? with
      | none => none
      | some n =>
        if n.lock.isSome then none                -- blocked
        else some (setT (setNode s h (fun m => { m with lock := some t })) t { l with pc := .wCheck h })
    | .wCheck h, some _ =>
      -- the re-read of the bin cell: it must still hold the node whose mutex we took
      if !recheck || s.head == some h then some (upd (.wFind h none (some h)))
      else some (upd (.wUnlock h .none true))
    | .wFind h pred cur, some p =>
      match cur with
      | none => some (upd (.wStore h pred none none))         -- end of the list: not found
      | some c =>
        match s.heap[c]? with
        | none => none
        | some n =>
          -- compare the (immutable) key and load the `next` cell
          if n.key == p.key then some (upd (.wStore h pred (some c) n.next))
          else some (upd (.wFind h (some c) n.next))
    | .wStore h pred hit hnext, some p =>
      let (s', res) := if compare then storeAt s p pred hit hnext else storeAt s (forget p) pred hit hnext
      some (setT s' t { l with pc := .wUnlock h res false })
    | .wUnlock h res retry, some p =>
      let s1 := setNode s h (fun m => { m with lock := none })
      if retry then some (setT s1 t { l with pc := .wHead }) else some (finish s1 t p res)
    | _, none => none

/-- the model: with the re-check -/
def step (s : State) (t : Nat) (inv : Option Inv) : Option State := stepG true true s t inv

/-- the variant in which a writer trusts the lock it took without re-reading the bin cell -/
def stepNoCheck (s : State) (t : Nat) (inv : Option Inv) : Option State := stepG false true s t inv

/-- the variant in which `condRm` unlinks the node of its key without comparing the value id -/
def stepNoCompare (s : State) (t : Nat) (inv : Option Inv) : Option State := stepG true false s t inv

inductive Reachable (nthreads : Nat) : State → Prop
  | init : Reachable nthreads (init nthreads)
  | step {s s' : State} (t : Nat) (inv : Option Inv) :
      Reachable nthreads s → step s t inv = some s' → Reachable nthreads s'

/-- the completed calls on key `k`, oldest first -/
def callsOn (s : State) (k : Nat) : History2 :=
  (s.hist.filter (·.1 == k)).reverse.map (·.2)

/-- no call is in flight -/
def quiescent (s : State) : Prop := ∀ l ∈ s.threads, l.pc = .idle

end Flurry.Proto.BinR
