import Flurry.Lin
/-! # Proto/BinXC: `Proto/BinX` plus `clear()` and retirement (C01, C03, C04 at the bin level; finding F7)

Everything of `Proto/BinX` (a list bin while its one-bin table is resized to a two-bin table), and:

* **`clear()`** (`src/map.rs`): walks the bins of the table it loaded by index; an empty bin is
  skipped; a bin with a head `h` is emptied under `h`'s lock after the usual re-check (one store:
  the cell becomes empty) and its nodes are retired; a forwarding marker sends it to the next
  table, where it starts again at index 0 (low cell, then high cell).
  - `waitCommit = true` (the repaired code): before it continues in the next table it waits until
    the resize out of the table it is in has been committed (`cur = new`).
  - `waitCommit = false` (the original code, and the JDK's): it continues at once. The old table
    of this model has a single bin; "clear met a forwarding marker in *another* bin of the old
    table" is modelled by letting it leave the old table as soon as a resize is running.
  Per key, a `clear` is a removal whose result is ignored: it is recorded in the history as a
  `cipRm` call on every key (`hist` entries with key `none`).
* **retirement**: a writer that unlinks a node, `clear` when it empties a bin, and the transferring
  thread after forwarding (the copied nodes of the old list) hand nodes to the collector:
  `retired` (ghost). The reclamation rule (C03) requires a retired node to be unreachable for every
  thread that starts looking afterwards: not on the chain of any cell an operation can start from
  (`startCells`).

Proved (`Props/C01BinXC.lean`) for `waitCommit = true`: linearizability of every key's history
(with `clear`), and `retired_unreachable`. For `waitCommit = false` both fail: finding F7. -/
namespace Flurry.Proto.BinXC
open Flurry.Lin

structure NodeS where
  key : Nat
  val : Nat × Nat
  next : Option Nat
  lock : Option Nat := none
deriving Repr, DecidableEq

inductive Cell where
  | empty
  | node (h : Nat)
  | moved
deriving Repr, DecidableEq

/-- which table: the old one-bin table or the new two-bin table -/
inductive Tab where | old | new
deriving Repr, DecidableEq

structure Pending where
  key : Nat
  op : KOp
  inv : Nat
deriving Repr, DecidableEq

inductive Pc where
  | idle
  /-- about to load the table pointer -/
  | rTable
  /-- reader: about to load the bin cell of its key in table `tab` -/
  | rCell (tab : Tab)
  | rNode (cur : Option Nat)
  | wTable
  | wCell (tab : Tab)
  /-- writer: about to CAS the (empty) cell of its key in `tab` to a new node -/
  | wCas (tab : Tab)
  | wLock (tab : Tab) (h : Nat)
  | wCheck (tab : Tab) (h : Nat)
  | wFind (tab : Tab) (h : Nat) (pred : Option Nat) (cur : Option Nat)
  | wStore (tab : Tab) (h : Nat) (pred : Option Nat) (hit : Option Nat) (hnext : Option Nat)
  /-- about to unlock node `h`; `retry`: the re-check failed, look at the cell of `tab` again -/
  | wUnlock (tab : Tab) (h : Nat) (res : KRes) (retry : Bool)
  -- clear ------------------------------------------------------------------------------
  /-- about to load the table pointer -/
  | cTable
  /-- about to load cell number `idx` of table `tab` (old: 0; new: 0 = low, 1 = high) -/
  | cCell (tab : Tab) (idx : Nat)
  /-- met a forwarding marker: waiting for the commit (`waitCommit`) before going to the next table -/
  | cWait
  | cLock (tab : Tab) (idx : Nat) (h : Nat)
  | cCheck (tab : Tab) (idx : Nat) (h : Nat)
  /-- holds the validated lock of the head of cell `idx`: about to store "empty" into the cell -/
  | cStore (tab : Tab) (idx : Nat) (h : Nat)
  | cUnlock (tab : Tab) (idx : Nat) (h : Nat) (retry : Bool)
  -- the resizing thread ------------------------------------------------------------------
  /-- about to load `cell0` -/
  | tCell
  /-- about to CAS `cell0: empty → moved` -/
  | tCasMoved
  | tLock (h : Nat)
  | tCheck (h : Nat)
  /-- holds the validated lock of `h`: about to split the list (reads under the lock, private allocation) -/
  | tBuild (h : Nat)
  | tStoreLow (h : Nat) (low high : Option Nat)
  | tStoreHigh (h : Nat) (high : Option Nat)
  | tStoreMoved (h : Nat)
  | tUnlock (h : Nat)
  /-- about to publish the new table -/
  | tCommit
deriving Repr, DecidableEq

structure Local where
  pc : Pc := .idle
  call : Option Pending := none
deriving Repr, DecidableEq

structure State where
  heap : List NodeS := []
  cell0 : Cell := .empty
  lowCell : Cell := .empty
  highCell : Cell := .empty
  /-- the table pointer -/
  cur : Tab := .old
  /-- a resize has been started (there is exactly one) -/
  resizing : Bool := false
  threads : List Local
  /-- completed calls with their key; key `none`: a `clear`, which concerns every key -/
  hist : List (Option Nat × Call) := []
  /-- ghost: nodes handed to the collector -/
  retired : List Nat := []
  now : Nat := 0
deriving Repr

def init (nthreads : Nat) : State := { threads := List.replicate nthreads {} }

def isReader : KOp → Bool
  | .get | .has => true
  | _ => false

/-- the split bit of a key -/
def hiBit (k : Nat) : Bool := k % 2 == 1

def dflt : NodeS := ⟨0, (0, 0), none, none⟩

def cellOf (s : State) (tab : Tab) (k : Nat) : Cell :=
  match tab with
  | .old => s.cell0
  | .new => if hiBit k then s.highCell else s.lowCell

def setCell (s : State) (tab : Tab) (k : Nat) (c : Cell) : State :=
  match tab with
  | .old => { s with cell0 := c }
  | .new => if hiBit k then { s with highCell := c } else { s with lowCell := c }

def chainFrom (heap : List NodeS) : Nat → Option Nat → List Nat
  | 0, _ => []
  | _, none => []
  | fuel + 1, some i =>
    match heap[i]? with
    | none => []
    | some n => i :: chainFrom heap fuel n.next

def cellHead : Cell → Option Nat
  | .node h => some h
  | _ => none

def chainOfCell (s : State) (c : Cell) : List Nat := chainFrom s.heap s.heap.length (cellHead c)

/-- the bin a lookup of `k` ends in: the old bin until it is forwarded, then the new one -/
def liveCell (s : State) (k : Nat) : Cell :=
  if s.cell0 == .moved then cellOf s .new k
  else if s.cur == .new then cellOf s .new k else s.cell0

def absOf (s : State) (k : Nat) : KSt :=
  match (chainOfCell s (liveCell s k)).find? (fun i => (s.heap.getD i dflt).key == k) with
  | some i => some (s.heap.getD i dflt).val
  | none => none

def setNode (s : State) (i : Nat) (f : NodeS → NodeS) : State := { s with heap := s.heap.modify i f }
def setT (s : State) (t : Nat) (l : Local) : State := { s with threads := s.threads.set t l }

def finish (s : State) (t : Nat) (p : Pending) (res : KRes) : State :=
  { (setT s t { pc := .idle, call := none }) with
      hist := (some p.key, { tid := t, op := p.op, res := res, inv := p.inv, resp := s.now }) :: s.hist }

/-- complete a `clear` (recorded as a `cipRm` on every key) -/
def finishClear (s : State) (t : Nat) (p : Pending) : State :=
  { (setT s t { pc := .idle, call := none }) with
      hist := (none, { tid := t, op := .cipRm, res := .none, inv := p.inv, resp := s.now }) :: s.hist }

/-- cell number `idx` of a table -/
def cellAt (s : State) (tab : Tab) (idx : Nat) : Cell :=
  match tab, idx with
  | .old, _ => s.cell0
  | .new, 0 => s.lowCell
  | .new, _ => s.highCell

def setCellAt (s : State) (tab : Tab) (idx : Nat) (c : Cell) : State :=
  match tab, idx with
  | .old, _ => { s with cell0 := c }
  | .new, 0 => { s with lowCell := c }
  | .new, _ => { s with highCell := c }

def tabLen : Tab → Nat
  | .old => 1
  | .new => 2

/-- the cells an operation that starts now can reach: the current table's, and the next table's
once the old cell forwards to it -/
def startCells (s : State) : List Cell :=
  match s.cur with
  | .new => [s.lowCell, s.highCell]
  | .old => if s.cell0 == .moved then [s.cell0, s.lowCell, s.highCell] else [s.cell0]

/-- every node reachable by an operation that starts now -/
def reachableNow (s : State) : List Nat := (startCells s).flatMap (chainOfCell s)

/-- the writer's single store with the positions remembered during its walk (as `Proto/BinW`),
in the bin of table `tab` -/
def storeAt (s : State) (tab : Tab) (p : Pending) (pred hit hnext : Option Nat) : State × KRes :=
  let append (v vi : Nat) : State :=
    let newIdx := s.heap.length
    let s1 := { s with heap := s.heap ++ [⟨p.key, (v, vi), none, none⟩] }
    match pred with
    | some l => setNode s1 l (fun n => { n with next := some newIdx })
    | none => setCell s1 tab p.key (.node newIdx)
  let unlink : State :=
    match pred with
    | some pr => setNode s pr (fun m => { m with next := hnext })
    | none => setCell s tab p.key (match hnext with | some x => .node x | none => .empty)
  match p.op, hit with
  | .ins v vi, some i => (setNode s i (fun n => { n with val := (v, vi) }), resOf (some (s.heap.getD i dflt).val))
  | .ins v vi, none => (append v vi, .none)
  | .tryIns _ _, some i => let x := (s.heap.getD i dflt).val; (s, .exists_ x.1 x.2)
  | .tryIns v vi, none => (append v vi, .none)
  | .rm, some i => (unlink, resOf (some (s.heap.getD i dflt).val))
  | .rm, none => (s, .none)
  | .cipInc nvi, some i =>
    let n := s.heap.getD i dflt
    (setNode s i (fun m => { m with val := (n.val.1 + 1, nvi) }), .some (n.val.1 + 1) nvi)
  | .cipInc _, none => (s, .none)
  | .cipRm, some _ => (unlink, .none)
  | .cipRm, none => (s, .none)
  | .get, _ => (s, .none)
  | .has, _ => (s, .none)

/-- the start of the last run of a chain: the longest suffix whose nodes all have the split bit of
the last node. Returns the index (into the chain) where it starts. -/
def lastRunStart (heap : List NodeS) (c : List Nat) : Nat :=
  let bits := c.map fun i => hiBit (heap.getD i dflt).key
  match bits.getLast? with
  | none => 0
  | some b => c.length - (bits.reverse.takeWhile (· == b)).length

/-- split the (locked, stable) old list: new heap, head of the low list, head of the high list.
The last run is re-used; the nodes before it are copied and prepended to their side. -/
def splitBin (heap : List NodeS) (c : List Nat) : List NodeS × Option Nat × Option Nat :=
  let k := lastRunStart heap c
  let run := c.drop k
  let runBit := match run.head? with | some i => hiBit (heap.getD i dflt).key | none => false
  let low0 : Option Nat := if runBit then none else run.head?
  let high0 : Option Nat := if runBit then run.head? else none
  (c.take k).foldl
    (fun (acc : List NodeS × Option Nat × Option Nat) i =>
      let (hp, lo, hg) := acc
      let n := hp.getD i dflt
      let idx := hp.length
      if hiBit n.key then (hp ++ [⟨n.key, n.val, hg, none⟩], lo, some idx)
      else (hp ++ [⟨n.key, n.val, lo, none⟩], some idx, hg))
    (heap, low0, high0)

def cellOfHead : Option Nat → Cell
  | some h => .node h
  | none => .empty

/-- One step of thread `t`. `inv`: the call an idle thread starts (`some (k, op)`), or
`resize = true`: an idle thread starts the (one) resize. -/
def stepG (recheck waitCommit : Bool) (s : State) (t : Nat) (inv : Option (Nat × KOp)) (resize clear : Bool) : Option State :=
  match s.threads[t]? with
  | none => none
  | some l =>
    let s := { s with now := s.now + 1 }
    let upd (pc : Pc) : State := setT s t { l with pc := pc }
    match l.pc, l.call with
    | .idle, _ =>
      if resize then
        if s.resizing then some s else some { (upd .tCell) with resizing := true }
      else if clear then
        some (setT s t { pc := .cTable, call := some ⟨0, .cipRm, s.now⟩ })
      else
        match inv with
        | none => some s
        | some (k, op) =>
          some (setT s t { pc := if isReader op then .rTable else .wTable, call := some ⟨k, op, s.now⟩ })
    -- readers
    | .rTable, some _ => some (upd (.rCell s.cur))
    | .rCell tab, some p =>
      match cellOf s tab p.key with
      | .empty => some (finish s t p (match p.op with | .has => .bool false | _ => .none))
      | .moved => some (upd (.rCell .new))
      | .node h => some (upd (.rNode (some h)))
    | .rNode none, some p =>
      some (finish s t p (match p.op with | .has => .bool false | _ => .none))
    | .rNode (some c), some p =>
      match s.heap[c]? with
      | none => none
      | some n =>
        if n.key == p.key then
          some (finish s t p (match p.op with | .has => .bool true | _ => .some n.val.1 n.val.2))
        else some (upd (.rNode n.next))
    -- writers
    | .wTable, some _ => some (upd (.wCell s.cur))
    | .wCell tab, some p =>
      match cellOf s tab p.key with
      | .empty =>
        match p.op with
        | .ins _ _ | .tryIns _ _ => some (upd (.wCas tab))
        | _ => some (finish s t p .none)
      | .moved => some (upd (.wCell .new))          -- help_transfer: continue in the next table
      | .node h => some (upd (.wLock tab h))
    | .wCas tab, some p =>
      match cellOf s tab p.key, p.op with
      | .empty, .ins v vi | .empty, .tryIns v vi =>
        let newIdx := s.heap.length
        some (finish (setCell { s with heap := s.heap ++ [⟨p.key, (v, vi), none, none⟩] } tab p.key (.node newIdx)) t p .none)
      | _, _ => some (upd (.wCell tab))
    | .wLock tab h, some _ =>
      match s.heap[h]? with
      | none => none
      | some n =>
        if n.lock.isSome then none
        else some (setT (setNode s h (fun m => { m with lock := some t })) t { l with pc := .wCheck tab h })
    | .wCheck tab h, some p =>
      if !recheck || cellOf s tab p.key == .node h then some (upd (.wFind tab h none (some h)))
      else some (upd (.wUnlock tab h .none true))
    | .wFind tab h pred cur, some p =>
      match cur with
      | none => some (upd (.wStore tab h pred none none))
      | some c =>
        match s.heap[c]? with
        | none => none
        | some n =>
          if n.key == p.key then some (upd (.wStore tab h pred (some c) n.next))
          else some (upd (.wFind tab h (some c) n.next))
    | .wStore tab h pred hit hnext, some p =>
      let (s', res) := storeAt s tab p pred hit hnext
      -- a removal retires the node it unlinked
      let s' := match p.op, hit with
        | .rm, some i | .cipRm, some i => { s' with retired := i :: s'.retired }
        | _, _ => s'
      some (setT s' t { l with pc := .wUnlock tab h res false })
    | .wUnlock tab h res retry, some p =>
      let s1 := setNode s h (fun m => { m with lock := none })
      -- `continue`: the loop looks at the bin of the same table variable again
      if retry then some (setT s1 t { l with pc := .wCell tab }) else some (finish s1 t p res)
    -- clear
    | .cTable, some _ => some (upd (.cCell s.cur 0))
    | .cCell tab idx, some p =>
      if idx ≥ tabLen tab then some (finishClear s t p)
      else if !waitCommit && tab == .old && s.resizing && s.cell0 != .moved then
        -- (original code) a forwarding marker in another bin of the old table: on to the next table
        some (upd (.cCell .new 0))
      else
        match cellAt s tab idx with
        | .empty => some (upd (.cCell tab (idx + 1)))
        | .moved => if waitCommit then some (upd .cWait) else some (upd (.cCell .new 0))
        | .node h => some (upd (.cLock tab idx h))
    | .cWait, some _ =>
      -- `while self.table == prev { yield }`
      if s.cur == .new then some (upd (.cCell .new 0)) else some (upd .cWait)
    | .cLock tab idx h, some _ =>
      match s.heap[h]? with
      | none => none
      | some n =>
        if n.lock.isSome then none
        else some (setT (setNode s h (fun m => { m with lock := some t })) t { l with pc := .cCheck tab idx h })
    | .cCheck tab idx h, some _ =>
      if !recheck || cellAt s tab idx == .node h then some (upd (.cStore tab idx h))
      else some (upd (.cUnlock tab idx h true))
    | .cStore tab idx h, some _ =>
      -- unlink the whole bin, then (outside the lock in the code) retire its nodes
      let c := chainFrom s.heap s.heap.length (some h)
      let s1 := setCellAt s tab idx .empty
      some (setT { s1 with retired := c ++ s1.retired } t { l with pc := .cUnlock tab idx h false })
    | .cUnlock tab idx h retry, some _ =>
      let s1 := setNode s h (fun m => { m with lock := none })
      some (setT s1 t { l with pc := .cCell tab (if retry then idx else idx + 1) })
    -- the resizing thread (it has no call in flight)
    | .tCell, none =>
      match s.cell0 with
      | .empty => some (upd .tCasMoved)
      | .node h => some (upd (.tLock h))
      | .moved => some (upd .tCommit)
    | .tCasMoved, none =>
      if s.cell0 == .empty then some { (upd .tCommit) with cell0 := .moved } else some (upd .tCell)
    | .tLock h, none =>
      match s.heap[h]? with
      | none => none
      | some n =>
        if n.lock.isSome then none
        else some (setT (setNode s h (fun m => { m with lock := some t })) t { l with pc := .tCheck h })
    | .tCheck h, none =>
      if !recheck || s.cell0 == .node h then some (upd (.tBuild h))
      else some (setT (setNode s h (fun m => { m with lock := none })) t { l with pc := .tCell })
    | .tBuild h, none =>
      let c := chainFrom s.heap s.heap.length (some h)
      let (hp, lo, hg) := splitBin s.heap c
      some (setT { s with heap := hp } t { l with pc := .tStoreLow h lo hg })
    | .tStoreLow h lo hg, none =>
      some { (upd (.tStoreHigh h hg)) with lowCell := cellOfHead lo }
    | .tStoreHigh h hg, none =>
      some { (upd (.tStoreMoved h)) with highCell := cellOfHead hg }
    | .tStoreMoved h, none =>
      -- forward, then retire the old nodes that were copied (the re-used run lives on)
      let c := chainFrom s.heap s.heap.length (some h)
      let copied := c.take (lastRunStart s.heap c)
      some { (upd (.tUnlock h)) with cell0 := .moved, retired := copied ++ s.retired }
    | .tUnlock h, none =>
      some (setT (setNode s h (fun m => { m with lock := none })) t { l with pc := .tCommit })
    | .tCommit, none => some { (upd .idle) with cur := .new }
    | _, _ => none

/-- the model: with the re-checks, `clear` waits for the commit (the repaired code) -/
def step (s : State) (t : Nat) (inv : Option (Nat × KOp)) (resize clear : Bool) : Option State :=
  stepG true true s t inv resize clear

/-- the original `clear` (finding F7): it enters the next table without waiting -/
def stepNoWait (s : State) (t : Nat) (inv : Option (Nat × KOp)) (resize clear : Bool) : Option State :=
  stepG true false s t inv resize clear

inductive Reachable (nthreads : Nat) : State → Prop
  | init : Reachable nthreads (init nthreads)
  | step {s s' : State} (t : Nat) (inv : Option (Nat × KOp)) (resize clear : Bool) :
      Reachable nthreads s → step s t inv resize clear = some s' → Reachable nthreads s'

inductive ReachableNoWait (nthreads : Nat) : State → Prop
  | init : ReachableNoWait nthreads (init nthreads)
  | step {s s' : State} (t : Nat) (inv : Option (Nat × KOp)) (resize clear : Bool) :
      ReachableNoWait nthreads s → stepNoWait s t inv resize clear = some s' → ReachableNoWait nthreads s'

def callsOn (s : State) (k : Nat) : History :=
  (s.hist.filter (fun e => e.1 == some k || e.1 == none)).reverse.map (·.2)

/-- C03 at the bin level: nothing that has been retired can be reached by an operation that starts now -/
def retiredUnreachable (s : State) : Prop := ∀ i ∈ s.retired, i ∉ reachableNow s

def quiescent (s : State) : Prop := ∀ l ∈ s.threads, l.pc = .idle

end Flurry.Proto.BinXC
