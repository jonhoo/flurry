import Flurry.Lin
/-! # Proto/BinU: one tree bin after the repairs of F8 and F9, with list readers (C01, C07, C08)

`Proto/BinT` (the model of the lock-protocol readers and of finding F8) with the differences below; this
file is the model of the code after the repairs of F8 and F9:

* **insertion of a new key takes the tree's write lock first** (`find_or_put_tree_val` since the
  repair of finding F9): `lock_root`; `first := node` (list); link the node as a leaf (tree);
  rebalance if needed; `unlock_root`. `insLockFirst = false` is the original order (and the JDK's
  `putTreeVal`): `first := node`; link; then lock only to rebalance;
* **list readers**: a reader that never looks at `lock_state` and walks `first → next → …` only.
  This is what an iterator (`NodeIter`), `transfer` and `clear` do with a tree bin. A `get`/`has`
  invoked with `listOnly = true` stands for "the iterator yields key `k`" (or not): a read of the
  key somewhere between the iterator's creation and the yield, exactly the pseudo-operation
  `iterator-yield k` of the harness;
* removal takes the write lock before the list unlink (`rmLockFirst`, the repair of F8), as in
  `Proto/BinT.step`.

With both locks first, list and tree differ only while the write lock is held, and then every
reader that follows the lock protocol is confined to the list: **the list is the truth** — every
writer takes effect at its store to a list cell (or value cell), tree readers hold the read lock,
hence no writer is inside, hence the tree equals the list. Proved (`Lemmas/BinU*.lean`, `Props/C01BinU.lean`): for
every reachable quiescent state and key, the calls on that key — lock-protocol readers, list
readers and writers together — are `Lin.Linearizable` from "absent" to the key's abstract state
(`binu_linearizable_quiescent`). With `insLockFirst = false` this is false: `Props/C01BinU.lean`
has a kernel-checked schedule in which a list reader (iterator) finds a key and a `get` invoked
after it returned does not (finding F9). -/
namespace Flurry.Proto.BinU
open Flurry.Lin

structure NodeS where
  key : Nat
  val : Nat × Nat
  next : Option Nat
  /-- is the node linked into the tree -/
  inTree : Bool := false
deriving Repr, DecidableEq

structure Pending where
  key : Nat
  op : KOp
  inv : Nat
deriving Repr, DecidableEq

/-- what a writer does once it holds the tree's write lock -/
inductive After where
  /-- take node `i` out: (if the lock was taken first) unlink it from the list, then from the tree -/
  | remove (i : Nat)
  /-- (lock taken first) publish the new node on the list, link it into the tree, rebalance -/
  | insert
  /-- (original insertion order) the node is already linked: rebalance only -/
  | rebalance
deriving Repr, DecidableEq

inductive Pc where
  | idle
  /-- reader: about to load `first` -/
  | rFirst
  /-- reader standing on list element `cur`: about to load `lock_state` -/
  | rState (cur : Option Nat)
  /-- reader: saw a writer holding / waiting: about to compare `cur`'s key and load its `next` -/
  | rLin (cur : Nat)
  /-- reader: saw `(readers = r)` and no writer / waiter: about to CAS `readers: r → r + 1` -/
  | rCas (cur : Nat) (r : Nat)
  /-- reader: holds the read lock, about to search the tree -/
  | rTree
  /-- reader: about to release the read lock and return / go on to the value -/
  | rRelease (hit : Option Nat)
  /-- reader (`get`): about to load the value cell of node `i` -/
  | rVal (i : Nat)
  /-- list reader: about to load `first` -/
  | lFirst
  /-- list reader standing on element `cur`: about to compare its key and load its `next` -/
  | lNode (cur : Option Nat)
  /-- writer: about to lock the bin's mutex -/
  | wMutex
  /-- writer: holds the mutex, about to search (the structure is stable: one step) -/
  | wFind
  /-- writer: about to store the value cell of `i` -/
  | wVal (i : Nat) (v : Nat × Nat) (res : KRes)
  /-- writer: about to store `first := new node` (allocated with `next = first`) -/
  | wPrepend
  /-- insertion with the write lock already held: about to store `first := new node` -/
  | wPrependLocked
  /-- writer: about to link node `x` into the tree as a leaf -/
  | wTreeLink (x : Nat)
  /-- insertion with the write lock held: about to link node `x` into the tree as a leaf; the
  rebalancing (if any) follows under the same lock -/
  | wTreeLinkLocked (x : Nat)
  /-- writer: about to unlink node `i` from the list -/
  | wListUnlink (i : Nat) (res : KRes)
  /-- removal with the write lock already held: about to unlink node `i` from the list -/
  | wUnlinkLocked (i : Nat) (res : KRes)
  /-- `lock_root`: the first CAS `0 → WRITER`; `k` says what follows under the lock -/
  | lrTry (k : After) (res : KRes)
  /-- `contended_lock` loop -/
  | lrLoop (k : After) (res : KRes)
  /-- holds the write lock: about to restructure the tree (take `some i` out of it / rebalance) -/
  | wRestructure (thenRemove : Option Nat) (res : KRes)
  /-- about to `unlock_root` -/
  | wUnlockRoot (res : KRes)
  /-- about to unlock the mutex and return -/
  | wUnlockM (res : KRes)
deriving Repr, DecidableEq

structure Local where
  pc : Pc := .idle
  call : Option Pending := none
deriving Repr, DecidableEq

structure State where
  heap : List NodeS := []
  first : Option Nat := none
  mutex : Option Nat := none
  writer : Bool := false
  waiter : Bool := false
  readers : Nat := 0
  threads : List Local
  hist : List (Nat × Call) := []
  now : Nat := 0
deriving Repr

def init (nthreads : Nat) : State := { threads := List.replicate nthreads {} }

def isReader : KOp → Bool
  | .get | .has => true
  | _ => false

def dflt : NodeS := ⟨0, (0, 0), none, false⟩

/-- the node of the tree with key `k` (keys in the tree are distinct: invariant) -/
def treeFind (s : State) (k : Nat) : Option Nat :=
  (List.range s.heap.length).find? fun i => (s.heap.getD i dflt).inTree && (s.heap.getD i dflt).key == k

/-- abstract content as the tree sees it -/
def absTree (s : State) (k : Nat) : KSt :=
  match treeFind s k with
  | some i => some (s.heap.getD i dflt).val
  | none => none

def setNode (s : State) (i : Nat) (f : NodeS → NodeS) : State := { s with heap := s.heap.modify i f }
def setT (s : State) (t : Nat) (l : Local) : State := { s with threads := s.threads.set t l }

def finish (s : State) (t : Nat) (p : Pending) (res : KRes) : State :=
  { (setT s t { pc := .idle, call := none }) with
      hist := (p.key, { tid := t, op := p.op, res := res, inv := p.inv, resp := s.now }) :: s.hist }

/-- the nodes reachable from `start` along `next`, in list order (fuel = heap size) -/
def chainFrom (heap : List NodeS) : Nat → Option Nat → List Nat
  | 0, _ => []
  | _, none => []
  | fuel + 1, some i =>
    match heap[i]? with
    | none => []
    | some n => i :: chainFrom heap fuel n.next

def chain (s : State) : List Nat := chainFrom s.heap s.heap.length s.first

/-- abstract content: membership in the **list** (the tree holds the same nodes whenever nobody
holds the write lock: invariant) -/
def absOf (s : State) (k : Nat) : KSt :=
  match (chain s).find? (fun i => (s.heap.getD i dflt).key == k) with
  | some i => some (s.heap.getD i dflt).val
  | none => none

/-- the predecessor of `i` on the live list (`prev` in the code; `none` = `i` is the first node) -/
def predOf (c : List Nat) (i : Nat) : Option Nat :=
  match c with
  | a :: b :: rest => if b == i then some a else predOf (b :: rest) i
  | _ => none

/-- the first action under the write lock -/
def afterLock (rmLockFirst : Bool) (k : After) (res : KRes) : Pc :=
  match k with
  | .remove i => if rmLockFirst then .wUnlinkLocked i res else .wRestructure (some i) res
  | .insert => .wPrependLocked
  | .rebalance => .wRestructure none res

/-- One step of thread `t`. `inv`: the call an idle thread starts; `listOnly`: a read that walks
the list without looking at the lock (iterator); `bal`: whether an insert has to rebalance (its
parent is red) — with the lock taken first this changes nothing visible. `none` = not enabled. -/
def stepG (rmLockFirst insLockFirst : Bool) (s : State) (t : Nat) (inv : Option (Nat × KOp)) (bal : Bool)
    (listOnly : Bool) : Option State :=
  match s.threads[t]? with
  | none => none
  | some l =>
    let s := { s with now := s.now + 1 }
    let upd (pc : Pc) : State := setT s t { l with pc := pc }
    match l.pc, l.call with
    | .idle, _ =>
      match inv with
      | none => some s
      | some (k, op) =>
        some (setT s t { pc := if isReader op then (if listOnly then .lFirst else .rFirst) else .wMutex,
                         call := some ⟨k, op, s.now⟩ })
    -- readers that follow the lock protocol (`TreeBin::find`) --------------------------------
    | .rFirst, some _ => some (upd (.rState s.first))
    | .rState none, some p =>
      some (finish s t p (match p.op with | .has => .bool false | _ => .none))
    | .rState (some c), some _ =>
      if s.writer || s.waiter then some (upd (.rLin c)) else some (upd (.rCas c s.readers))
    | .rLin c, some p =>
      match s.heap[c]? with
      | none => none
      | some n =>
        if n.key == p.key then
          match p.op with
          | .has => some (finish s t p (.bool true))
          | _ => some (upd (.rVal c))
        else some (upd (.rState n.next))
    | .rCas c r, some _ =>
      if !s.writer && !s.waiter && s.readers == r then
        some { (upd .rTree) with readers := s.readers + 1 }
      else some (upd (.rState (some c)))
    | .rTree, some p => some (upd (.rRelease (treeFind s p.key)))
    | .rRelease hit, some p =>
      let s1 := { s with readers := s.readers - 1 }
      match hit, p.op with
      | none, .has => some (finish s1 t p (.bool false))
      | none, _ => some (finish s1 t p .none)
      | some _, .has => some (finish s1 t p (.bool true))
      | some i, _ => some (setT s1 t { l with pc := .rVal i })
    | .rVal i, some p =>
      match s.heap[i]? with
      | none => none
      | some n => some (finish s t p (.some n.val.1 n.val.2))
    -- list readers (iterators): `first`, then `next` by `next`, never the lock ----------------
    | .lFirst, some _ => some (upd (.lNode s.first))
    | .lNode none, some p =>
      some (finish s t p (match p.op with | .has => .bool false | _ => .none))
    | .lNode (some c), some p =>
      match s.heap[c]? with
      | none => none
      | some n =>
        if n.key == p.key then
          match p.op with
          | .has => some (finish s t p (.bool true))
          | _ => some (upd (.rVal c))
        else some (upd (.lNode n.next))
    -- writers ---------------------------------------------------------------------------
    | .wMutex, some _ =>
      if s.mutex.isSome then none else some { (upd .wFind) with mutex := some t }
    | .wFind, some p =>
      let ins : Pc := if insLockFirst then .lrTry .insert .none else .wPrepend
      match p.op, treeFind s p.key with
      | .ins v vi, some i => some (upd (.wVal i (v, vi) (resOf (some (s.heap.getD i dflt).val))))
      | .ins _ _, none => some (upd ins)
      | .tryIns _ _, some i => let x := (s.heap.getD i dflt).val; some (upd (.wUnlockM (.exists_ x.1 x.2)))
      | .tryIns _ _, none => some (upd ins)
      | .rm, some i =>
        let res := resOf (some (s.heap.getD i dflt).val)
        if rmLockFirst then some (upd (.lrTry (.remove i) res)) else some (upd (.wListUnlink i res))
      | .rm, none => some (upd (.wUnlockM .none))
      | .cipInc nvi, some i =>
        let x := (s.heap.getD i dflt).val
        some (upd (.wVal i (x.1 + 1, nvi) (.some (x.1 + 1) nvi)))
      | .cipInc _, none => some (upd (.wUnlockM .none))
      | .cipRm, some i =>
        if rmLockFirst then some (upd (.lrTry (.remove i) .none)) else some (upd (.wListUnlink i .none))
      | .cipRm, none => some (upd (.wUnlockM .none))
      | .get, _ => none
      | .has, _ => none
    | .wVal i v res, some _ => some (setT (setNode s i (fun n => { n with val := v })) t { l with pc := .wUnlockM res })
    -- original insertion order: list, tree, then (only to rebalance) the lock
    | .wPrepend, some p =>
      match p.op with
      | .ins v vi | .tryIns v vi =>
        let x := s.heap.length
        some (setT { s with heap := s.heap ++ [⟨p.key, (v, vi), s.first, false⟩], first := some x } t
                { l with pc := .wTreeLink x })
      | _ => none
    | .wTreeLink x, some _ =>
      let s1 := setNode s x (fun n => { n with inTree := true })
      if bal then some (setT s1 t { l with pc := .lrTry .rebalance .none })
      else some (setT s1 t { l with pc := .wUnlockM .none })
    -- repaired insertion order: the lock is held
    | .wPrependLocked, some p =>
      match p.op with
      | .ins v vi | .tryIns v vi =>
        let x := s.heap.length
        some (setT { s with heap := s.heap ++ [⟨p.key, (v, vi), s.first, false⟩], first := some x } t
                { l with pc := .wTreeLinkLocked x })
      | _ => none
    | .wTreeLinkLocked x, some _ =>
      let s1 := setNode s x (fun n => { n with inTree := true })
      -- `red := true` or `balance_insertion`: tree-internal, nothing a reader of this model sees
      some (setT s1 t { l with pc := .wUnlockRoot .none })
    | .wListUnlink i res, some _ =>
      let n := s.heap.getD i dflt
      let s1 := match predOf (chain s) i with
        | some pr => setNode s pr (fun m => { m with next := n.next })
        | none => { s with first := n.next }
      some (setT s1 t { l with pc := .lrTry (.remove i) res })
    | .wUnlinkLocked i res, some _ =>
      let n := s.heap.getD i dflt
      let s1 := match predOf (chain s) i with
        | some pr => setNode s pr (fun m => { m with next := n.next })
        | none => { s with first := n.next }
      some (setT s1 t { l with pc := .wRestructure (some i) res })
    | .lrTry k res, some _ =>
      if !s.writer && !s.waiter && s.readers == 0 then
        some { (upd (afterLock rmLockFirst k res)) with writer := true }
      else some (upd (.lrLoop k res))
    | .lrLoop k res, some _ =>
      if !s.writer && s.readers == 0 then
        some { (upd (afterLock rmLockFirst k res)) with writer := true, waiter := false }
      else if !s.waiter then some { (upd (.lrLoop k res)) with waiter := true }
      else none                                   -- parked until the last reader leaves
    | .wRestructure rmv res, some _ =>
      match rmv with
      | some i => some (setT (setNode s i (fun n => { n with inTree := false })) t { l with pc := .wUnlockRoot res })
      | none => some (upd (.wUnlockRoot res))
    | .wUnlockRoot res, some _ => some { (upd (.wUnlockM res)) with writer := false, waiter := false }
    | .wUnlockM res, some p => some (finish { s with mutex := none } t p res)
    | _, none => none

/-- the model: both writers take the write lock before their first store to a list cell (the code
after the repairs of F8 and F9) -/
def step (s : State) (t : Nat) (inv : Option (Nat × KOp)) (bal listOnly : Bool) : Option State :=
  stepG true true s t inv bal listOnly

/-- the insertion order before the repair of F9 (and the JDK's `putTreeVal`): the new node is on
the list before it is in the tree, and no lock is held in between -/
def stepF8 (s : State) (t : Nat) (inv : Option (Nat × KOp)) (bal listOnly : Bool) : Option State :=
  stepG true false s t inv bal listOnly

inductive Reachable (nthreads : Nat) : State → Prop
  | init : Reachable nthreads (init nthreads)
  | step {s s' : State} (t : Nat) (inv : Option (Nat × KOp)) (bal listOnly : Bool) :
      Reachable nthreads s → step s t inv bal listOnly = some s' → Reachable nthreads s'

inductive ReachableF8 (nthreads : Nat) : State → Prop
  | init : ReachableF8 nthreads (init nthreads)
  | step {s s' : State} (t : Nat) (inv : Option (Nat × KOp)) (bal listOnly : Bool) :
      ReachableF8 nthreads s → stepF8 s t inv bal listOnly = some s' → ReachableF8 nthreads s'

def callsOn (s : State) (k : Nat) : History :=
  (s.hist.filter (·.1 == k)).reverse.map (·.2)

def quiescent (s : State) : Prop := ∀ l ∈ s.threads, l.pc = .idle

end Flurry.Proto.BinU
