/-! # Proto/Reclaim: the ownership discipline on top of seize (C03, C04)

Objects (nodes, tree bins, tables, values) and threads. A thread may only pick up a pointer to an
object that is currently *linked* (reachable from the map's roots) and only while it holds a
guard; it drops all its pointers when it releases (or refreshes) the guard. A writer first
*unlinks* an object, then *retires* it through its own guard; the collector frees a retired
object only when every thread whose guard was active at the moment of retirement has released
it since (epoch/batch reclamation, abstractly). `unprotectedRetire` is what
`Guard::unprotected()` does: the object is freed at once.

What flurry has to guarantee for this to apply — pointers are obtained only under a guard
(signatures, C16), only linked objects can be reached, retire comes after unlink, every retire
goes through the map's own collector (C09) — is checked on the implementation's event stream
(`/verif/harness/src/life.rs`: [uaf], [early-free], [retire-reachable], [double-free], [drop]).

Definitions only; theorems in `Flurry/Lemmas/Reclaim*.lean` and `Props/C03.lean`, `Props/C04.lean`. -/
namespace Flurry.Proto.Reclaim

inductive OSt where
  | fresh                         -- allocated, not yet published (owned by its creator)
  | linked                        -- reachable from the map
  | unlinked                      -- no longer reachable for threads that start looking now
  | retired (waitFor : List Nat)  -- handed to the collector; threads it still has to wait for
  | freed
deriving DecidableEq, Repr

structure Thread where
  /-- holds an active guard -/
  guarded : Bool := false
  /-- objects this thread holds raw pointers to -/
  holds : List Nat := []
deriving DecidableEq, Repr

structure State where
  objs : List OSt
  threads : List Thread
  /-- number of `free`s per object (C04: at most one) -/
  frees : List Nat
  /-- touches of an object that was already freed (C03: must stay `0`) -/
  badTouches : Nat := 0
deriving Repr

inductive Ev where
  | enter (t : Nat)
  /-- drop or refresh the guard: all pointers are given up -/
  | exit (t : Nat)
  | alloc (t : Nat)                 -- a new object, held by `t`
  | publish (t o : Nat)             -- a fresh object becomes reachable
  | acquire (t o : Nat)             -- `t` loads a pointer to `o` from shared memory
  | touch (t o : Nat)               -- `t` reads or writes through a pointer it holds
  | unlink (t o : Nat)
  | retire (t o : Nat)
  /-- the same through `Guard::unprotected()`: reclaimed immediately -/
  | unprotectedRetire (t o : Nat)
  | free (o : Nat)                  -- the collector reclaims `o`
deriving DecidableEq, Repr

def activeThreads (ts : List Thread) : List Nat :=
  (ts.zipIdx.filter (·.1.guarded)).map (·.2)

def setObj (s : State) (o : Nat) (st : OSt) : State := { s with objs := s.objs.set o st }
def setThr (s : State) (t : Nat) (th : Thread) : State := { s with threads := s.threads.set t th }

/-- after thread `t` released its guard the collector no longer waits for it -/
def dropWaiter (t : Nat) : OSt → OSt
  | .retired w => .retired (w.filter (· != t))
  | st => st

/-- the transition relation as a partial function: `none` = the event is not allowed by the
discipline (the trace checker reports it) -/
def step (s : State) : Ev → Option State
  | .enter t =>
    match s.threads[t]? with
    | some th => if th.guarded then none else some (setThr s t { th with guarded := true })
    | none => none
  | .exit t =>
    match s.threads[t]? with
    | some th =>
      if th.guarded then
        some { (setThr s t { guarded := false, holds := [] }) with objs := s.objs.map (dropWaiter t) }
      else none
    | none => none
  | .alloc t =>
    match s.threads[t]? with
    | some th =>
      some { (setThr s t { th with holds := s.objs.length :: th.holds }) with
               objs := s.objs ++ [.fresh], frees := s.frees ++ [0] }
    | none => none
  | .publish t o =>
    match s.threads[t]?, s.objs[o]? with
    | some th, some .fresh => if th.holds.contains o then some (setObj s o .linked) else none
    | _, _ => none
  | .acquire t o =>
    match s.threads[t]?, s.objs[o]? with
    | some th, some .linked =>
      if th.guarded then some (setThr s t { th with holds := o :: th.holds }) else none
    | _, _ => none
  | .touch t o =>
    match s.threads[t]?, s.objs[o]? with
    | some th, some st =>
      if th.holds.contains o then
        some (if st = .freed then { s with badTouches := s.badTouches + 1 } else s)
      else none
    | _, _ => none
  | .unlink t o =>
    match s.threads[t]?, s.objs[o]? with
    | some th, some .linked => if th.holds.contains o && th.guarded then some (setObj s o .unlinked) else none
    | _, _ => none
  | .retire t o =>
    match s.threads[t]?, s.objs[o]? with
    | some th, some .unlinked =>
      if th.guarded then some (setObj s o (.retired (activeThreads s.threads))) else none
    | _, _ => none
  | .unprotectedRetire t o =>
    match s.threads[t]?, s.objs[o]? with
    | some _, some .unlinked =>
      some { (setObj s o .freed) with frees := s.frees.set o (s.frees.getD o 0 + 1) }
    | _, _ => none
  | .free o =>
    match s.objs[o]? with
    | some (.retired []) => some { (setObj s o .freed) with frees := s.frees.set o (s.frees.getD o 0 + 1) }
    | _ => none

def init (nthreads : Nat) : State := { objs := [], threads := List.replicate nthreads {}, frees := [] }

def run (s : State) : List Ev → Option State
  | [] => some s
  | e :: es => match step s e with | some s' => run s' es | none => none

/-- the event list uses only protected guards -/
def Protected (es : List Ev) : Prop := ∀ e ∈ es, ∀ t o, e ≠ .unprotectedRetire t o

end Flurry.Proto.Reclaim
