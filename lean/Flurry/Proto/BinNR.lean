import Flurry.Proto.BinN
/-! # Proto/BinNR: `Proto/BinN` with RECLAMATION embedded in the concrete heap (C03, C04)

`Proto/Reclaim` is the abstract ownership discipline; `Proto/BinN` is the concrete list-bin lineage through
any number of resizes, in which nodes are never freed. Here the two are put together, by wrapping: the state
is `n : BinN.State` (shared memory, readers, writers, the resizing thread — LITERALLY `Proto/BinN`; every
`base` step is `BinN.step` on `s.n`) plus the reclamation state

* `life i` — `live`, `retired waitFor`, `freed` — per node index (seize's view of the object);
* `pend t` — the nodes thread `t` has unlinked and not yet handed to `retire` (its retire obligations);
* ghosts: `unl i` — `some u` from the step that made node `i` unreachable on (`u` = the threads under a
  guard at that step, minus those that have left their guard since); `w0 i` — the threads under a guard
  when `i` was retired; `exited i` — the threads that have left a guard since `i` was retired. No guard
  of a transition reads a ghost.

A thread is **under a guard** exactly while its program counter is not `idle`: from the invocation of a call
to its response, and for the resizing thread from the start of the resize to its commit (`guarded`).

Transitions (`Act`):
* `base inv resize pick` — one `BinN.step` of thread `t`. If that step is the store that unlinks nodes
  (`retiredBy`: the remover's unlink store — the node it found; the resizing thread's store of the
  forwarding marker — the COPIED PREFIX of the old list, i.e. the nodes before the re-used last run, not the
  re-used nodes, whose owner is now the new list), the nodes are added to `pend t`. If the step ends `t`'s
  guard (response / commit), everything still in `pend t` is retired in that step (the latest point the real
  code can retire: before the guard is dropped), and `t` is removed from every `waitFor`.
* `retire i` — thread `t` retires a node `i ∈ pend t` NOW (any time between its unlink store and its
  response: this covers "after the unlink store", "after the unlock", "just before the response"):
  `life i := retired (all threads under a guard now)`.
* `free i` — allowed iff `life i = retired []`: every thread that was under a guard at the retirement has
  left it.

`early = true` is the seeded slip "retire before unlink": the resizing thread gets the copied prefix into
`pend` already at the store of the low list, BEFORE the forwarding marker is stored (refuted in
`Lemmas/BinNRRuns.lean`).

A **dereference**: `touches n t` = the node indices the next step of thread `t` reads or writes through
(`next` / `key` / `val` / the lock word of the node). `holds pc` = every node index in a program counter that
may still be dereferenced. -/
namespace Flurry.Proto.BinNR
open Flurry.Lin
open Flurry.Proto.BinX (NodeS Cell Pending isReader dflt chainFrom cellHead cellOfHead)
open Flurry.Proto.BinN (Pc Local cellAt cellOf chainOfCell lastRunStartB bitAt)

inductive Life where
  | live
  | retired (waitFor : List Nat)
  | freed
deriving Repr, DecidableEq

structure State where
  n : BinN.State
  life : Nat → Life := fun _ => .live
  pend : Nat → List Nat := fun _ => []
  /-- ghost: the threads that may still hold node `i`, from the step that made it unreachable on -/
  unl : Nat → Option (List Nat) := fun _ => none
  /-- ghost: the threads under a guard when `i` was retired -/
  w0 : Nat → List Nat := fun _ => []
  /-- ghost: the threads that have left a guard since `i` was retired -/
  exited : Nat → List Nat := fun _ => []

def init (nthreads : Nat) : State := { n := BinN.init nthreads }

/-- thread `t` is under a guard: it has a call in flight or is the resizing thread -/
def guarded (n : BinN.State) (t : Nat) : Bool :=
  match n.threads[t]? with
  | some l => l.pc != .idle
  | none => false

/-- the threads under a guard -/
def guardedSet (n : BinN.State) : List Nat := (List.range n.threads.length).filter (guarded n)

/-- node `i` is in the chain of some cell (of any generation) -/
def reach (n : BinN.State) (i : Nat) : Bool :=
  n.tabs.any fun row => row.any fun c => (chainOfCell n c).contains i

/-- the copied prefix of the list `h`: the nodes before the re-used last run (split bit of generation `cur`) -/
def copiedPrefix (n : BinN.State) (h : Nat) : List Nat :=
  let c := chainFrom n.heap n.heap.length (some h)
  c.take (lastRunStartB (bitAt n.cur) n.heap c)

/-- the nodes the next step of thread `t` unlinks (and `t` therefore has to retire) -/
def retiredBy (early : Bool) (n : BinN.State) (t : Nat) : List Nat :=
  match n.threads[t]? with
  | none => []
  | some l =>
    match l.pc, l.call with
    | .wStore _ _ _ (some i) _, some p =>
      match p.op with
      | .rm | .cipRm => [i]
      | _ => []
    | .tStoreMoved _ h, none => if early then [] else copiedPrefix n h
    | .tStoreLow _ h _ _, none => if early then copiedPrefix n h else []
    | _, _ => []

/-- every node index in a program counter that may still be dereferenced -/
def holds : Pc → List Nat
  | .rNode (some c) => [c]
  | .wLock _ h | .wCheck _ h | .wUnlock _ h _ _ => [h]
  | .wFind _ h pred cur => h :: (pred.toList ++ cur.toList)
  | .wStore _ h pred hit hnext => h :: (pred.toList ++ hit.toList ++ hnext.toList)
  | .tLock _ h | .tCheck _ h | .tBuild _ h | .tStoreLow _ h _ _ | .tStoreHigh _ h _ | .tStoreMoved _ h
  | .tUnlock _ h => [h]
  | _ => []

def holdsOf (n : BinN.State) (t : Nat) : List Nat :=
  match n.threads[t]? with
  | some l => holds l.pc
  | none => []

/-- the node indices the next step of thread `t` reads or writes through -/
def touches (n : BinN.State) (t : Nat) : List Nat :=
  match n.threads[t]? with
  | none => []
  | some l =>
    match l.pc with
    | .rNode (some c) => [c]
    | .wLock _ h | .wUnlock _ h _ _ => [h]
    | .wFind _ _ _ (some c) => [c]
    | .wStore _ _ pred hit _ => pred.toList ++ hit.toList
    | .tLock _ h | .tCheck _ h | .tUnlock _ h => [h]
    | .tBuild _ h => chainFrom n.heap n.heap.length (some h)
    | _ => []

def shrinkLife (g : Nat → Bool) : Life → Life
  | .retired w => .retired (w.filter g)
  | x => x

inductive Act where
  | base (inv : Option (Nat × KOp)) (resize : Bool) (pick : Nat)
  | retire (i : Nat)
  | free (i : Nat)
deriving Repr, DecidableEq

/-- the reclamation state after the `BinN` step `s.n → n'` of thread `t` -/
def afterBase (early : Bool) (s : State) (t : Nat) (n' : BinN.State) : State :=
  let gs := guardedSet n'
  let g := guarded n'
  let exits : Bool := guarded s.n t && !g t
  let pend1 : List Nat := s.pend t ++ retiredBy early s.n t
  { n := n'
    unl := fun i => if reach s.n i && !reach n' i then some gs else (s.unl i).map (·.filter g)
    pend := fun t' => if t' = t then (if exits then [] else pend1) else s.pend t'
    life := fun i => if exits && pend1.contains i then .retired gs else shrinkLife g (s.life i)
    w0 := fun i => if exits && pend1.contains i then gs else s.w0 i
    exited := fun i => if exits && pend1.contains i then [] else if exits then t :: s.exited i else s.exited i }

def stepG (early : Bool) (s : State) (t : Nat) : Act → Option State
  | .base inv resize pick => (BinN.step s.n t inv resize pick).map (afterBase early s t)
  | .retire i =>
    if (s.pend t).contains i then
      some { s with
        pend := fun t' => if t' = t then (s.pend t).erase i else s.pend t'
        life := fun j => if j = i then .retired (guardedSet s.n) else s.life j
        w0 := fun j => if j = i then guardedSet s.n else s.w0 j
        exited := fun j => if j = i then [] else s.exited j }
    else none
  | .free i =>
    if s.life i = .retired [] then some { s with life := fun j => if j = i then .freed else s.life j }
    else none

def step (s : State) (t : Nat) (a : Act) : Option State := stepG false s t a

inductive Reachable (nthreads : Nat) : State → Prop
  | init : Reachable nthreads (init nthreads)
  | step {s s' : State} (t : Nat) (a : Act) : Reachable nthreads s → step s t a = some s' → Reachable nthreads s'

end Flurry.Proto.BinNR
