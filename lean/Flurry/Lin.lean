/-! # Histories and linearizability of the per-key API (C01, C08)

By locality (Herlihy & Wing) a history of a map whose operations each touch one key is
linearizable iff its projection on every key is; this file therefore treats one key.
The sequential specification of one key is `specStep`; `Linearizable` is the usual definition
(a total order of all calls that respects real-time order and replays through the specification);
`validate` is an executable certificate checker: the harness searches for a witness order on the
recorded history of the real implementation and the Lean driver validates it (`validate_sound`
says an accepted certificate proves `Linearizable`). `lin_of_points` is the generic
"linearization points" lemma; the models reach `Linearizable` through `lin_of_trace`, which no model
calls itself: its callers are in `Lemmas/GhostSig.lean`.

Definitions (and the executable checker) only; proofs are in `Flurry/Lemmas/Lin*.lean`. -/
namespace Flurry.Lin

/-- state of one key: absent, or `(payload, value id)`; the id stands for the identity of the stored value (its
pointer), which `Lin2.condRm` compares -/
abbrev KSt := Option (Nat × Nat)

inductive KOp where
  | ins (v vi : Nat)
  | tryIns (v vi : Nat)
  | get
  | has
  | rm
  /-- compute_if_present with `|v| Some(v + 1)`; the new value gets id `nvi` -/
  | cipInc (nvi : Nat)
  /-- compute_if_present with `|_| None` -/
  | cipRm
deriving DecidableEq, Repr

inductive KRes where
  | none
  | some (v vi : Nat)
  | exists_ (v vi : Nat)
  | bool (b : Bool)
deriving DecidableEq, Repr

def resOf : KSt → KRes
  | .none => .none
  | .some (v, vi) => .some v vi

/-- the sequential specification of one key -/
def specStep (st : KSt) : KOp → KSt × KRes
  | .ins v vi => (some (v, vi), resOf st)
  | .tryIns v vi =>
    match st with
    | none => (some (v, vi), .none)
    | some (v0, vi0) => (st, .exists_ v0 vi0)
  | .get => (st, resOf st)
  | .has => (st, .bool st.isSome)
  | .rm => (none, resOf st)
  | .cipInc nvi =>
    match st with
    | none => (none, .none)
    | some (v, _) => (some (v + 1, nvi), .some (v + 1) nvi)
  | .cipRm => (none, .none)

structure Call where
  tid : Nat
  op : KOp
  res : KRes
  /-- invocation and response times (positions in the global event order) -/
  inv : Nat
  resp : Nat
deriving DecidableEq, Repr

abbrev History := List Call

/-- replay the calls `order` (indices into `h`) through the specification, checking results -/
def replay (h : History) : List Nat → KSt → Option KSt
  | [], st => some st
  | i :: rest, st =>
    match h[i]? with
    | none => none
    | some c =>
      let r := specStep st c.op
      if r.2 = c.res then replay h rest r.1 else none

/-- `a` may be ordered before `b` unless `b` responded before `a` was invoked -/
def mayPrecede (a b : Call) : Bool := !(b.resp < a.inv)

/-- every earlier element of the order may precede every later one -/
def realTimeOk (h : History) : List Nat → Bool
  | [] => true
  | i :: rest =>
    (rest.all fun j => match h[i]?, h[j]? with
      | some a, some b => mayPrecede a b
      | _, _ => false) && realTimeOk h rest

def isPermOfRange (order : List Nat) (n : Nat) : Bool :=
  order.length == n && (List.range n).all (fun i => order.contains i)

/-- executable certificate check -/
def validate (h : History) (order : List Nat) (init fin : KSt) : Bool :=
  isPermOfRange order h.length && realTimeOk h order && replay h order init == some fin

/-- the definition: some total order of all calls respects real time and is a legal sequential
execution from `init` to `fin` with exactly the observed results -/
def Linearizable (h : History) (init fin : KSt) : Prop :=
  ∃ order : List Nat,
    order.Perm (List.range h.length) ∧
    (∀ (p q : Nat) (a b : Call), p < q → order[p]? >>= (h[·]?) = some a → order[q]? >>= (h[·]?) = some b →
        ¬ (b.resp < a.inv)) ∧
    replay h order init = some fin

/-- brute-force search for a witness (used by the driver on short histories when the harness
supplies none; sound and complete, `Lemmas/LinSearch.lean`) -/
def search (h : History) (init fin : KSt) : Option (List Nat) :=
  go (h.length + 1) (List.range h.length) [] init
where
  go : Nat → List Nat → List Nat → KSt → Option (List Nat)
    | 0, _, _, _ => none
    | fuel + 1, remaining, acc, st =>
      match remaining with
      | [] => if st = fin then some acc.reverse else none
      | _ =>
        remaining.firstM fun i =>
          match h[i]? with
          | none => none
          | some c =>
            -- `i` may go next only if no other remaining call responded before `i` was invoked
            if remaining.all (fun j => j == i || match h[j]? with | some d => mayPrecede c d | none => false) then
              let r := specStep st c.op
              if r.2 = c.res then go fuel (remaining.erase i) (i :: acc) r.1 else none
            else none

end Flurry.Lin
