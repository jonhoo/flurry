/-! # Types of the generated signature / guard-flow / atomic-site tables (`Flurry/Gen/*.lean`)

Only data declarations and the executable predicates over them; theorems are in
`Flurry/Props/C09.lean`, `C12.lean`, `C13.lean`, `C15.lean`, `C16.lean`, `C17.lean`, `C19.lean`. -/
namespace Flurry.Sig

/-- what a function does with a guard it has in scope, in source order -/
inductive GUse where
  /-- a top-level `self.check_guard(g)` statement -/
  | check
  /-- passes the guard on to the function in row `row` of the table (as that row's parameter) -/
  | call (row : Nat) (name : String)
  /-- wraps the guard in a value (`with_guard`): nothing is read through it here -/
  | store
  /-- anything else: a load through the guard, a retire, an iterator built from it, … -/
  | raw (what : String)
deriving Repr

structure GFn where
  ty : String
  fn : String
  pub : Bool
  param : String
  uses : List GUse
deriving Repr

/-- `Checked`, one level: walking the uses in order, a `check` ends the walk successfully; before
it every use must be a `store` or a call to a row for which `callee` holds. -/
def checkedUsesWith (callee : Nat → Bool) : List GUse → Bool
  | [] => true
  | .check :: _ => true
  | .store :: rest => checkedUsesWith callee rest
  | .raw _ :: _ => false
  | .call row _ :: rest => callee row && checkedUsesWith callee rest

/-- `Checked` for row `i` with call depth at most `fuel` -/
def checkedRow (tbl : List GFn) : Nat → Nat → Bool
  | 0, _ => false
  | fuel + 1, i =>
    match tbl[i]? with
    | some r => checkedUsesWith (checkedRow tbl fuel) r.uses
    | none => false

def checkedB (tbl : List GFn) (fuel : Nat) (r : GFn) : Bool :=
  checkedUsesWith (checkedRow tbl fuel) r.uses

/-! A tiny semantics of "calling a function with a *foreign* guard": `check` panics; a `raw` use
is a use of the foreign guard on the map (what C09 forbids); a call runs the callee. -/
inductive GEv where
  | panic
  | foreignUse (what : String)
deriving Repr

/-- events of running the uses with a foreign guard, given how to run a callee row; stops at
the first panic. `(events, panicked)` -/
def runUsesWith (callee : Nat → List GEv × Bool) : List GUse → List GEv × Bool
  | [] => ([], false)
  | .check :: _ => ([.panic], true)
  | .store :: rest => runUsesWith callee rest
  | .raw w :: rest =>
    let r := runUsesWith callee rest
    (.foreignUse w :: r.1, r.2)
  | .call row _ :: rest =>
    let c := callee row
    if c.2 then c
    else
      let r := runUsesWith callee rest
      (c.1 ++ r.1, r.2)

def runRow (tbl : List GFn) : Nat → Nat → List GEv × Bool
  | 0, _ => ([.foreignUse "call depth exceeded"], false)
  | fuel + 1, i =>
    match tbl[i]? with
    | some r => runUsesWith (runRow tbl fuel) r.uses
    | none => ([.foreignUse "unknown callee"], false)

def runFn (tbl : List GFn) (fuel : Nat) (r : GFn) : List GEv × Bool :=
  runUsesWith (runRow tbl fuel) r.uses

def isForeign : GEv → Bool
  | .foreignUse _ => true
  | .panic => false

/-- one public function / trait method / associated type of the crate's API -/
structure ApiFn where
  ty : String
  selfTy : String
  /-- the key and value (maps) or element (sets) type parameters, as the impl block names them -/
  elems : List String
  fn : String
  trait_ : String
  /-- the trait's name without its generic arguments -/
  traitHead : String
  /-- some closure parameter's bound ends in `-> Option<V>`: the method stores what a callback makes -/
  makesValue : Bool
  /-- lifetime of `&self` (`'_self` when elided), of the `&'g Wrapper` self type, or of the impl -/
  selfLt : Option String
  selfKind : String
  params : List (String × String)
  /-- reference lifetimes of the `&Guard` parameters -/
  guardLts : List String
  ret : String
  /-- lifetimes occurring in the return type, elision resolved -/
  retLts : List String
  retBorrows : Bool
  /-- `(type, bound)` pairs of the impl block and of the method -/
  bounds : List (String × String)
deriving Repr

structure ApiField where
  struct_ : String
  ltParams : List String
  field : String
  ty : String
  lts : List String
deriving Repr

structure UnsafeImpl where
  trait_ : String
  ty : String
  bounds : List (String × String)
deriving Repr

/-- one shared-memory site (C12, C15) -/
structure Site where
  fn : String
  fnId : Nat
  /-- load | store | swap | cas | rmw | clone_load | lock | park | unpark | yield | spin | sleep | retire -/
  kind : String
  /-- last field of the receiver: `next`, `value`, `first`, `root`, `size_ctl`, `bins[]`, … -/
  path : String
  /-- the `Ordering` arguments as written (success, failure for CAS) -/
  ords : List String
deriving Repr

/-- what a serde visitor does when an entry's key is already present (C19) -/
inductive DupPolicy where
  /-- the new entry replaces the old one (maps) / is dropped (sets): no failure -/
  | lastWins
  /-- the visitor returns `Err` -/
  | error
  /-- a panicking macro is reached -/
  | panic
deriving Repr, DecidableEq, Inhabited

end Flurry.Sig
