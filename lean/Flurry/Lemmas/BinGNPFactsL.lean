import Flurry.Lemmas.BinGNPFactsBase
import Flurry.Lemmas.BinGNPInvQ
/-! # Proto/BinGN: the stores of the list-bin writers (`cas`, `store`)

The per-transition facts for the CAS into an empty cell (`StepN.cas`) and for the single store of a
list-bin writer (`StepN.store`): `Eff s s'`, the specified step of the call on the abstract state of its key, and
no effect on the other keys. The store goes into the structure of the cell `id := idOf tab p.key` of
the key of the call (`tab : Nat` is the generation the thread works in; it exists, `gen_of_tabOf`, so that the store
goes through `XInv.cellAt_setCell`); the other cells are the frame (`Lemmas/BinGNPStore.lean`,
`Lemmas/BinGNPInvW.lean`).

* `eff_lwrite`: `Eff s s'` for a store into a cell that holds no `TreeBin` (neither before nor after), by a thread
  that holds no mutex and is not validated afterwards (the case "no `TreeBin`" of `eff_cstore`,
  `Lemmas/BinGNPFactsBase.lean`); it and `lstore_core` take the generation structure
  `XS' : XShape s'` of the successor state;
* `cas_facts`;
* `walk_shape`, `lstore_same`, `lstore_val`, `lstore_append`, `lstore_unlink`, `storeAt_eq`,
  `store_facts`; `cas_facts`, `store_facts`, `store_ok` and the `lstore_*` conclude `XShape s' → …`.
Helper lemmas live in the namespace `Flurry.Proto.BinGNP.FactsL`. -/
namespace Flurry.Proto.BinGNP
open Flurry.Lin
open Flurry.Proto.BinK (nodeAt binAt NextOK IsChain IsSeg chainOf CInv absL HeapStep nodeAt_modify nodeAt_modify_self
  nodeAt_modify_ne nodeAt_append_left nodeAt_append_new nodeAt_ge binAt_ge get_set get_set_self get_set_ne
  absL_eq_none_iff absL_eq_some_iff)
open Store InvW

variable {s s' : State} {t : Nat} {l l' : Local} {p : Pending}

namespace FactsL

theorem setCell_now (s : State) (tab : Nat) (k : Nat) (c : Cell) : (setCell s tab k c).now = s.now := rfl

theorem setCell_hist (s : State) (tab : Nat) (k : Nat) (c : Cell) : (setCell s tab k c).hist = s.hist := rfl

theorem finish_setCell_hist (s0 : State) (tab : Nat) (k : Nat) (c : Cell) (t : Nat) (p : Pending) (res : KRes) :
    (finish (setCell s0 tab k c) t p res).hist = (p.key, ⟨t, p.op, res, p.inv, s0.now⟩) :: s0.hist := rfl

theorem finish_setCell_threads (s0 : State) (tab : Nat) (k : Nat) (c : Cell) (t : Nat) (p : Pending) (res : KRes) :
    (finish (setCell s0 tab k c) t p res).threads = s0.threads.set t ⟨.idle, none⟩ := rfl

theorem startOf_list (tb : List TBin) (h : Nat) : startOf tb (.list h) = some h := rfl

theorem chainC_list (s : State) (h : Nat) : chainC s (.list h) = chainOf s.heap (some h) := rfl

theorem not_tree_of_list {c : Cell} {h : Nat} (hc : c = .list h) (b : Nat) : c ≠ .tree b := by
  rw [hc]; intro e; cases e

theorem not_tree_of_empty {c : Cell} (hc : c = .empty) (b : Nat) : c ≠ .tree b := by
  rw [hc]; intro e; cases e

theorem not_treeOf_of {c : Cell} (hnt : ∀ b, c ≠ .tree b) (j : Nat) : ¬ treeOf s c j := by
  rintro ⟨_, _, b, hb, _⟩
  exact hnt b hb

theorem ownerOf_of_not_tree {c : Cell} (hnt : ∀ b, c ≠ .tree b) : ownerOf c = none := by
  cases c with
  | tree b => exact absurd rfl (hnt b)
  | empty => rfl
  | list h => rfl
  | moved => rfl

/-- the lock words: old nodes keep theirs (`Touch.keep`), new nodes are unlocked -/
theorem lock_all {id : Cid} (T : Touch s s' id)
    (hnew : ∀ j, s.heap.length ≤ j → (nodeAt s'.heap j).lock = none) (h' : Nat) :
    (nodeAt s'.heap h').lock = (nodeAt s.heap h').lock := by
  by_cases hh : h' < s.heap.length
  · exact (T.keep h' hh).2.2
  · rw [hnew h' (Nat.le_of_not_lt hh), nodeAt_ge (Nat.le_of_not_lt hh)]; rfl

/-! ## `Eff` after a store into a cell without a `TreeBin` -/

/-- `Eff s s'` after a store of thread `t` into the structure of cell `id`, which holds no `TreeBin` before
or after; the thread holds no mutex, keeps its lock word and is not validated afterwards -/
theorem eff_lwrite {id : Cid} (I : Inv s) (W : Writable s id) (T : Touch s s' id)
    (hs : HeapStep s.heap (chainC s (cellAt s id)) (fun _ => False) s'.heap (chainC s' (cellAt s' id)) (fun _ => False))
    (hl : s.threads[t]? = some l)
    (hv : (validated l.pc = true ∧ cidOf s l = id) ∨ (cellAt s id = .empty ∧ validT l.pc = none))
    (hthr : s'.threads = s.threads.set t l') (H' : HInv s') (T' : TInv s')
    (htb : s'.tbins = s.tbins) (XS' : XShape s')
    (hlock : ∀ h', (nodeAt s'.heap h').lock = (nodeAt s.heap h').lock)
    (hnt0 : ∀ b, cellAt s id ≠ .tree b) (hnt : ∀ b, cellAt s' id ≠ .tree b) (hnm : cellAt s' id ≠ .moved)
    (e1 : holdsLock l'.pc = holdsLock l.pc) (e2 : validL l'.pc = none) (e3 : validT l'.pc = none)
    (e4 : holdsMutex l'.pc = none) (e4' : holdsMutex l.pc = none) (e5 : holdsRead l'.pc = holdsRead l.pc)
    (e6 : binRef l'.pc = none) (e7 : xPc l'.pc = false) (e8 : pend s' l'.pc = [])
    (e10 : ∀ p, l'.call = some p → PcInv s' p l'.pc) (e11 : KInv s' l'.pc) : Eff s s' :=
  eff_cstore I W T hs (fun _ h => h.elim) hl hv hthr H' T' (by rw [htb]) (fun _ => by rw [htb]; exact ⟨rfl, rfl, rfl, rfl⟩)
    XS' hlock e1 (fun _ hh => by rw [e2] at hh; cases hh) (fun _ hh => by rw [e3] at hh; cases hh) (e4.trans e4'.symm) e5
    (fun _ hb => by rw [e6] at hb; cases hb) e7 e8 e10 e11 hnm (fun _ hb => by rw [e4'] at hb; cases hb)
    (fun b hc => absurd hc (hnt0 b)) (fun b _ hc => absurd hc (hnt0 b)) (fun b hc => absurd hc (hnt0 b)) (fun b hc => absurd hc (hnt b))
    (fun b hc => absurd hc (hnt b)) (fun b hc => absurd hc (hnt b))

end FactsL
open FactsL

/-! ## the CAS into an empty cell -/

/-- the CAS into the empty cell of the key (`wCas`) -/
theorem cas_facts {tab : Nat} {v vi : Nat}
    (I : Inv s) (hl : s.threads[t]? = some l) (hp : l.call = some p) (hpc : l.pc = .wCas tab)
    (he : cellOf s tab p.key = .empty) (hop : p.op = .ins v vi ∨ p.op = .tryIns v vi) :
    let s' := finish (setCell (qst s (s.heap ++ [⟨p.key, (v, vi), none, none, false, none⟩]) s.tbins)
      tab p.key (.list s.heap.length)) t p .none
    XShape s' → (Eff s s' ∧ specStep (absOf s p.key) p.op = (absOf s' p.key, .none) ∧
      ∀ k, k ≠ p.key → absOf s' k = absOf s k) := by
  intro s' XS'
  have H := I.heap
  have X := I.rsz
  have W := I.writable_empty hl hp hpc he
  obtain ⟨row, hr, hrl⟩ := X.row_of_lt (gen_of_tabOf X hl (by rw [hpc]; rfl))
  rw [cellOf_eq] at he
  obtain ⟨pc, call⟩ := l
  simp only at hp hpc
  subst hp hpc
  let new : NodeS := ⟨p.key, (v, vi), none, none, false, none⟩
  have hheap : s'.heap = s.heap ++ [new] := rfl
  have htb : s'.tbins = s.tbins := rfl
  have hthr : s'.threads = s.threads.set t ⟨.idle, none⟩ := rfl
  have hnow : s'.now = s.now + 1 := rfl
  have hcur : s'.cur = s.cur := rfl
  have hre : ∀ b j0, Reusing s b j0 → Reusing s' b j0 :=
    reusing_of_set_pc hthr hl ⟨fun _ _ _ e => (by cases e), fun _ _ e => (by cases e)⟩
  have hhist : s'.hist = (p.key, ⟨t, p.op, .none, p.inv, s.now + 1⟩) :: s.hist :=
    rfl
  have hcell : ∀ id', cellAt s' id' = if id' = idOf tab p.key then .list s.heap.length else cellAt s id' :=
    fun id' => cellAt_setCell _ _ _ hr hrl id'
  have hcid : cellAt s' (idOf tab p.key) = .list s.heap.length := by rw [hcell, if_pos rfl]
  have hcells : ∀ id', id' ≠ idOf tab p.key → cellAt s' id' = cellAt s id' := fun id' hne => by
    rw [hcell, if_neg hne]
  have hnt0 := not_tree_of_empty he
  have hnt := not_tree_of_list hcid
  have hnm : cellAt s' (idOf tab p.key) ≠ .moved := by rw [hcid]; intro e; cases e
  obtain ⟨H', T, hs, -, ⟨hnewn, -⟩, habs⟩ := sprepend_store (s' := s') (id := idOf tab p.key) H X W (new := new) hheap
    (by rw [hcid]; rfl) (by rw [he]; rfl)
    (fun j hj => by
      rcases hj with hj | hj
      · rw [he, chainC_empty] at hj; cases hj
      · exact absurd hj (not_treeOf_of hnt0 j))
    (fun j hj => absurd hj (not_treeOf_of hnt j))
    (by rw [htb]) (fun b _ => by rw [htb]) hcells hcur hre
    (by rw [ownerOf_of_not_tree hnt, ownerOf_of_not_tree hnt0]) (by rw [ownerOf_of_not_tree hnt])
    (side_idOf tab p.key)
  have hlock := lock_all T (fun j hj => by
    by_cases hj2 : j = s.heap.length
    · subst hj2; rw [hnewn]
    · rw [nodeAt_ge (by rw [hheap]; simp; omega)]; rfl)
  have T' : TInv s' := tinv_finish (l' := ⟨.idle, none⟩) I.thr hl rfl hthr hnow hhist rfl rfl
  have E : Eff s s' := eff_lwrite (l' := ⟨.idle, none⟩) I W T hs hl (Or.inr ⟨he, rfl⟩) hthr H' T' htb XS' hlock
    hnt0 hnt hnm rfl rfl rfl rfl rfl rfl rfl rfl rfl (fun _ h => by cases h) trivial
  have habs0 : absOf s p.key = none := by
    rw [absOf_id X W (side_idOf tab p.key), he, chainC_empty]; rfl
  exact ⟨E, abs_update habs rfl (by rw [habs0]; exact insert_spec hop)⟩

/-! ## the single store of a list-bin writer -/

namespace FactsL

theorem walk_shape {h key : Nat} {pred hit : Option Nat}
    (hd : ∀ i j, i ∈ chainOf s.heap (some h) → j ∈ chainOf s.heap (some h) →
      (nodeAt s.heap i).key = (nodeAt s.heap j).key → i = j)
    (w : Walk s h key pred hit) (hk : ∀ i, hit = some i → (nodeAt s.heap i).key = key) :
    (hit = none → absL s.heap (chainOf s.heap (some h)) key = none ∧ (pred = none → chainOf s.heap (some h) = []) ∧
      ∀ pr, pred = some pr → ∃ l1, chainOf s.heap (some h) = l1 ++ [pr]) ∧
    (∀ i, hit = some i → i ∈ chainOf s.heap (some h) ∧
      absL s.heap (chainOf s.heap (some h)) key = some (nodeAt s.heap i).val ∧
      (pred = none → ∃ l2, chainOf s.heap (some h) = i :: l2) ∧
      ∀ pr, pred = some pr → ∃ l1 l2, chainOf s.heap (some h) = l1 ++ pr :: i :: l2) := by
  obtain ⟨l1, l2, hch, hcur, hpred, hkeys⟩ := w
  generalize chainOf s.heap (some h) = L at hd hch ⊢
  constructor
  · intro hn
    subst hn
    have hl2 : l2 = [] := by
      cases l2 with
      | nil => rfl
      | cons a l => cases hcur
    subst hl2
    rw [List.append_nil] at hch
    refine ⟨?_, ?_, ?_⟩
    · rw [absL_eq_none_iff, hch]; exact hkeys
    · intro hp
      subst hp
      rw [hch]
      exact List.getLast?_eq_none_iff.1 hpred.symm
    · intro pr hp
      subst hp
      rw [hch]
      rcases List.eq_nil_or_concat l1 with rfl | ⟨l1', x, rfl⟩
      · cases hpred
      · simp only [List.concat_eq_append, List.getLast?_append, List.getLast?_singleton, Option.some_or,
          Option.some.injEq] at hpred
        subst hpred
        exact ⟨l1', by simp⟩
  · intro i hi
    subst hi
    cases l2 with
    | nil => cases hcur
    | cons c l2' =>
      simp only [List.head?_cons, Option.some.injEq] at hcur
      subst hcur
      have hi : i ∈ L := by rw [hch]; simp
      refine ⟨hi, ?_, ?_, ?_⟩
      · rw [absL_eq_some_iff hd]
        exact ⟨i, hi, hk i rfl, rfl⟩
      · intro hp
        subst hp
        have : l1 = [] := List.getLast?_eq_none_iff.1 hpred.symm
        subst this
        exact ⟨l2', hch⟩
      · intro pr hp
        subst hp
        rcases List.eq_nil_or_concat l1 with rfl | ⟨l1', x, rfl⟩
        · cases hpred
        · simp only [List.concat_eq_append, List.getLast?_append, List.getLast?_singleton, Option.some_or,
            Option.some.injEq] at hpred
          subst hpred
          exact ⟨l1', l2', by rw [hch]; simp⟩

theorem lstore_ctx {tab : Nat} {h : Nat} {pred hit hnext : Option Nat}
    (I : Inv s) (hl : s.threads[t]? = some ⟨.wStore tab h pred hit hnext, some p⟩) :
    Writable s (idOf tab p.key) ∧ cellAt s (idOf tab p.key) = .list h ∧
      chainC s (cellAt s (idOf tab p.key)) = chainOf s.heap (some h) ∧
      (∀ i, hit = some i → (nodeAt s.heap i).key = p.key ∧ hnext = (nodeAt s.heap i).next) ∧
      isReader p.op = false ∧
      (hit = none → absOf s p.key = none ∧ (pred = none → chainC s (cellAt s (idOf tab p.key)) = []) ∧
        ∀ pr, pred = some pr → ∃ l1, chainC s (cellAt s (idOf tab p.key)) = l1 ++ [pr]) ∧
      (∀ i, hit = some i → i ∈ chainC s (cellAt s (idOf tab p.key)) ∧
        absOf s p.key = some (nodeAt s.heap i).val ∧
        (pred = none → ∃ l2, chainC s (cellAt s (idOf tab p.key)) = i :: l2) ∧
        ∀ pr, pred = some pr → ∃ l1 l2, chainC s (cellAt s (idOf tab p.key)) = l1 ++ pr :: i :: l2) := by
  have H := I.heap
  have X := I.rsz
  have W : Writable s (idOf tab p.key) := Writable.of_validated I hl rfl rfl
  have hcell : cellAt s (idOf tab p.key) = .list h := I.lock.vL t ⟨.wStore tab h pred hit hnext, some p⟩ h hl rfl
  have hch : chainC s (cellAt s (idOf tab p.key)) = chainOf s.heap (some h) := by rw [hcell]; rfl
  have h0 := I.data.pcInv t _ p hl rfl
  simp only [PcInv] at h0
  obtain ⟨w, hk⟩ := h0
  have hrd : isReader p.op = false := I.thr.opOK t _ p hl rfl rfl
  have hd := (H.cinv (idOf tab p.key)).distinct
  rw [hcell] at hd
  obtain ⟨hN, hS⟩ := walk_shape hd w (fun j hj => (hk j hj).1)
  have habs := absOf_id X W (side_idOf tab p.key)
  rw [hch] at habs ⊢
  rw [habs]
  exact ⟨W, hcell, rfl, hk, hrd, hN, hS⟩

theorem tinv_lstore {tab : Nat} {h : Nat} {pred hit hnext : Option Nat}
    {res : KRes} (I : Inv s) (hl : s.threads[t]? = some ⟨.wStore tab h pred hit hnext, some p⟩)
    (hthr : s'.threads = s.threads.set t ⟨.wUnlock tab h res false, some p⟩)
    (hnow : s'.now = s.now + 1) (hhist : s'.hist = s.hist) : TInv s' := by
  refine tinv_keep I.thr hl hthr hnow hhist rfl ?_ ?_
  · constructor <;> intro h <;> cases h
  · intro p1 hp1 _
    have : isReader p1.op = false := I.thr.opOK t _ p1 hl hp1 rfl
    rw [this]; rfl

/-- the generic part of a list-bin store: `Eff` from the `Touch`, the `HeapStep` and the shape of `s'` -/
theorem lstore_core {tab : Nat} {h : Nat} {pred hit hnext : Option Nat}
    {res : KRes} (I : Inv s) (hl : s.threads[t]? = some ⟨.wStore tab h pred hit hnext, some p⟩)
    (W : Writable s (idOf tab p.key)) (hcell : cellAt s (idOf tab p.key) = .list h)
    (T : Touch s s' (idOf tab p.key)) (H' : HInv s')
    (hs : HeapStep s.heap (chainC s (cellAt s (idOf tab p.key))) (fun _ => False) s'.heap
      (chainC s' (cellAt s' (idOf tab p.key))) (fun _ => False))
    (hthr : s'.threads = s.threads.set t ⟨.wUnlock tab h res false, some p⟩)
    (hnow : s'.now = s.now + 1) (hhist : s'.hist = s.hist) (htb : s'.tbins = s.tbins)
    (XS' : XShape s')
    (hlock : ∀ h', (nodeAt s'.heap h').lock = (nodeAt s.heap h').lock)
    (hnt : ∀ b, cellAt s' (idOf tab p.key) ≠ .tree b) (hnm : cellAt s' (idOf tab p.key) ≠ .moved) : Eff s s' := by
  have hnt0 := not_tree_of_list hcell
  have T' := tinv_lstore I hl hthr hnow hhist
  exact eff_lwrite (l' := ⟨.wUnlock tab h res false, some p⟩) I W T hs hl (Or.inl ⟨rfl, rfl⟩) hthr H' T'
    htb XS' hlock hnt0 hnt hnm rfl rfl rfl rfl rfl rfl rfl rfl rfl (fun _ _ => trivial) trivial

end FactsL
open FactsL

def LStoreOK (s s' : State) (p : Pending) (res : KRes) : Prop :=
  XShape s' →
    (Eff s s' ∧ specStep (absOf s p.key) p.op = (absOf s' p.key, res) ∧ ∀ k, k ≠ p.key → absOf s' k = absOf s k)

/-- the store changes nothing (`tryIns` on a hit, a removal / `cipInc` on a miss) -/
theorem lstore_same {tab : Nat} {h : Nat} {pred hit hnext : Option Nat}
    {res : KRes} (I : Inv s) (hl : s.threads[t]? = some ⟨.wStore tab h pred hit hnext, some p⟩)
    (hspec : specStep (absOf s p.key) p.op = (absOf s p.key, res)) :
    LStoreOK s (setT (tick s) t ⟨.wUnlock tab h res false, some p⟩) p res := by
  intro XS'
  have T' : TInv (setT (tick s) t ⟨.wUnlock tab h res false, some p⟩) := tinv_lstore I hl rfl rfl rfl
  obtain ⟨E, habs⟩ := eff_quiet_step (s' := setT (tick s) t ⟨.wUnlock tab h res false, some p⟩)
    (l' := ⟨.wUnlock tab h res false, some p⟩) I hl rfl rfl rfl rfl T' XS' (Or.inl ⟨rfl, rfl⟩)
    ⟨⟨rfl, rfl⟩, ⟨fun _ _ _ _ e => (by cases e), fun _ _ _ e => (by cases e), fun _ _ _ e => (by cases e)⟩⟩
    ⟨rfl, rfl, fun _ e => (by cases e)⟩
    ⟨fun _ e => (by cases e), fun _ e => (by cases e), fun _ e => (by cases e)⟩
    (fun _ _ => trivial)
  exact ⟨E, by rw [habs]; exact hspec, fun k _ => habs k⟩

/-- the value of the node found is stored (`ins` / `cipInc` on a hit) -/
theorem lstore_val {tab : Nat} {h i : Nat} {pred hnext : Option Nat}
    {v : Nat × Nat} {res : KRes} (I : Inv s)
    (hl : s.threads[t]? = some ⟨.wStore tab h pred (some i) hnext, some p⟩)
    (hspec : specStep (some (nodeAt s.heap i).val) p.op = (some v, res)) :
    LStoreOK s (setT (setNode (tick s) i (fun n => { n with val := v })) t ⟨.wUnlock tab h res false, some p⟩) p res := by
  intro XS'
  have H := I.heap
  have X := I.rsz
  obtain ⟨W, hcell, -, hk, -, -, hS⟩ := lstore_ctx I hl
  obtain ⟨hi, habs0, -, -⟩ := hS i rfl
  let s' := setT (setNode (tick s) i (fun n => { n with val := v })) t ⟨.wUnlock tab h res false, some p⟩
  have hcells : ∀ id', cellAt s' id' = cellAt s id' := fun id' => rfl
  have hre : ∀ b j0, Reusing s b j0 → Reusing s' b j0 :=
    reusing_of_set_pc (s' := s') (l' := ⟨_, some p⟩) rfl hl ⟨fun _ _ _ e => (by cases e), fun _ _ e => (by cases e)⟩
  obtain ⟨H', T, hs, -, hnode, habs⟩ := sval_store (s' := s') H X W hi rfl rfl hcells rfl hre
  have hcid : cellAt s' (idOf tab p.key) = .list h := by rw [hcells]; exact hcell
  refine ⟨?_, ?_⟩
  · refine lstore_core (s' := s') I hl W hcell T H' hs rfl rfl rfl rfl XS' ?_ (not_tree_of_list hcid)
      (by rw [hcid]; intro e; cases e)
    intro h'; rw [hnode]; split <;> rfl
  · exact abs_update habs (hk i rfl).1 (by rw [habs0]; exact hspec)

/-- the state after a list-bin insertion through the remembered predecessor -/
def appendOf (s : State) (tab : Nat) (p : Pending) (pred : Option Nat) (v vi : Nat) : State :=
  match pred with
  | some l => setNode { s with heap := s.heap ++ [⟨p.key, (v, vi), none, none, false, none⟩] } l
      (fun n => { n with next := some s.heap.length })
  | none => setCell { s with heap := s.heap ++ [⟨p.key, (v, vi), none, none, false, none⟩] } tab p.key
      (.list s.heap.length)

/-- the state after a list-bin removal through the remembered predecessor and successor -/
def unlinkL (s : State) (tab : Nat) (p : Pending) (pred hnext : Option Nat) : State :=
  match pred with
  | some pr => setNode s pr (fun m => { m with next := hnext })
  | none => setCell s tab p.key (cellOfHead hnext)

theorem storeAt_eq (s : State) (tab : Nat) (p : Pending) (pred hit hnext : Option Nat) :
    storeAt s tab p pred hit hnext =
      match p.op, hit with
      | .ins v vi, some i => (setNode s i (fun n => { n with val := (v, vi) }), resOf (some (nodeAt s.heap i).val))
      | .ins v vi, none => (appendOf s tab p pred v vi, .none)
      | .tryIns _ _, some i => (s, .exists_ (nodeAt s.heap i).val.1 (nodeAt s.heap i).val.2)
      | .tryIns v vi, none => (appendOf s tab p pred v vi, .none)
      | .rm, some i => (unlinkL s tab p pred hnext, resOf (some (nodeAt s.heap i).val))
      | .rm, none => (s, .none)
      | .cipInc nvi, some i =>
        (setNode s i (fun m => { m with val := ((nodeAt s.heap i).val.1 + 1, nvi) }), .some ((nodeAt s.heap i).val.1 + 1) nvi)
      | .cipInc _, none => (s, .none)
      | .cipRm, some _ => (unlinkL s tab p pred hnext, .none)
      | .cipRm, none => (s, .none)
      | .get, _ => (s, .none)
      | .has, _ => (s, .none) := by
  unfold storeAt appendOf unlinkL nodeAt
  cases p.op <;> cases hit <;> first | rfl | (cases pred <;> first | rfl | (cases hnext <;> rfl))

/-- a fresh node is appended behind the last node (`ins` / `tryIns` on a miss) -/
theorem lstore_append {tab : Nat} {h : Nat} {pred hnext : Option Nat}
    {v vi : Nat} (I : Inv s) (hl : s.threads[t]? = some ⟨.wStore tab h pred none hnext, some p⟩)
    (hop : p.op = .ins v vi ∨ p.op = .tryIns v vi) :
    LStoreOK s (setT (appendOf (tick s) tab p pred v vi) t ⟨.wUnlock tab h .none false, some p⟩) p .none := by
  intro XS'
  have H := I.heap
  have X := I.rsz
  obtain ⟨W, hcell, hchh, -, -, hN, -⟩ := lstore_ctx I hl
  obtain ⟨habs0, hnil, hlast⟩ := hN rfl
  have hnt0 := not_tree_of_list hcell
  cases pred with
  | none =>
    exfalso
    have hch := (H.cinv (idOf tab p.key)).isChain
    have e := hnil rfl
    rw [hchh] at e
    rw [hcell] at hch
    obtain ⟨r, hr⟩ := Flurry.Proto.BinK.IsChain.start_some hch
    have : chainOf s.heap (startOf s.tbins (.list h)) = chainOf s.heap (some h) := rfl
    rw [this, e] at hr
    cases hr
  | some pr =>
    obtain ⟨l1, hch⟩ := hlast pr rfl
    let new : NodeS := ⟨p.key, (v, vi), none, none, false, none⟩
    let s' := setT (appendOf (tick s) tab p (some pr) v vi) t ⟨.wUnlock tab h .none false, some p⟩
    have hheap : s'.heap = (s.heap ++ [new]).modify pr (fun m => { m with next := some s.heap.length }) := rfl
    have hcells : ∀ id', cellAt s' id' = cellAt s id' := fun id' => rfl
    have hre : ∀ b j0, Reusing s b j0 → Reusing s' b j0 :=
      reusing_of_set_pc (s' := s') (l' := ⟨_, some p⟩) rfl hl ⟨fun _ _ _ e => (by cases e), fun _ _ e => (by cases e)⟩
    have hcid : cellAt s' (idOf tab p.key) = .list h := by rw [hcells]; exact hcell
    have hnt := not_tree_of_list hcid
    have hfr : ∀ j, (j ∈ chainC s (cellAt s (idOf tab p.key)) ∨ treeOf s (cellAt s (idOf tab p.key)) j) →
        (nodeAt s.heap j).key ≠ new.key := by
      intro j hj
      rcases hj with hj | hj
      · rw [absOf_id X W (side_idOf tab p.key), absL_eq_none_iff] at habs0; exact habs0 j hj
      · exact absurd hj (not_treeOf_of hnt0 j)
    obtain ⟨H', T, hs, -, hnode, habs⟩ := sappend_store (s' := s') (new := new) H X W hch hheap rfl hcells rfl hre rfl hfr
      (fun j hj => absurd hj (not_treeOf_of hnt j))
      (by rw [ownerOf_of_not_tree hnt0]) (side_idOf tab p.key)
    refine ⟨?_, ?_⟩
    · refine lstore_core (s' := s') I hl W hcell T H' hs rfl rfl rfl rfl XS' ?_ hnt (by rw [hcid]; intro e; cases e)
      refine lock_all T ?_
      intro j hj
      rw [hnode]
      have hprl : pr < s.heap.length := (H.cinv (idOf tab p.key)).chain_lt
        (by show pr ∈ chainC s (cellAt s (idOf tab p.key)); rw [hch]; simp)
      rw [if_neg (by omega)]
      split
      · rfl
      · rw [nodeAt_ge hj]; rfl
    · exact abs_update habs rfl (by rw [habs0]; exact insert_spec hop)

/-- the node found is unlinked (`rm` / `cipRm` on a hit) -/
theorem lstore_unlink {tab : Nat} {h i : Nat} {pred hnext : Option Nat}
    {res : KRes} (I : Inv s) (hl : s.threads[t]? = some ⟨.wStore tab h pred (some i) hnext, some p⟩)
    (hspec : specStep (some (nodeAt s.heap i).val) p.op = (none, res)) :
    LStoreOK s (setT (unlinkL (tick s) tab p pred hnext) t ⟨.wUnlock tab h res false, some p⟩) p res := by
  intro XS'
  have H := I.heap
  have X := I.rsz
  obtain ⟨row, hr, hrl⟩ := X.row_of_lt (gen_of_tabOf X hl rfl)
  obtain ⟨W, hcell, -, hk, -, -, hS⟩ := lstore_ctx I hl
  obtain ⟨hi, habs0, hhead, hmid⟩ := hS i rfl
  obtain ⟨hkey, hnx⟩ := hk i rfl
  have hnt0 := not_tree_of_list hcell
  let s' := setT (unlinkL (tick s) tab p pred hnext) t ⟨.wUnlock tab h res false, some p⟩
  have hshape : s'.tbins = s.tbins ∧ (∀ b', cellAt s' (idOf tab p.key) ≠ .tree b') ∧
      cellAt s' (idOf tab p.key) ≠ .moved ∧ s'.now = s.now + 1 ∧ s'.hist = s.hist ∧
      s'.threads = s.threads.set t ⟨.wUnlock tab h res false, some p⟩ ∧ s'.resizing = s.resizing ∧ s'.cur = s.cur ∧
      (∀ id', id' ≠ idOf tab p.key → cellAt s' id' = cellAt s id') ∧
      ((∃ l2, chainC s (cellAt s (idOf tab p.key)) = i :: l2 ∧ s'.heap = s.heap ∧
          startOf s'.tbins (cellAt s' (idOf tab p.key)) = (nodeAt s.heap i).next) ∨
        (∃ l1 pr l2, chainC s (cellAt s (idOf tab p.key)) = l1 ++ pr :: i :: l2 ∧
          s'.heap = s.heap.modify pr (fun m => { m with next := (nodeAt s.heap i).next }) ∧
          startOf s'.tbins (cellAt s' (idOf tab p.key)) = startOf s.tbins (cellAt s (idOf tab p.key)))) := by
    cases pred with
    | none =>
      obtain ⟨l2, hch⟩ := hhead rfl
      have hc' : ∀ id', cellAt s' id' = if id' = idOf tab p.key then cellOfHead hnext else cellAt s id' :=
        fun id' => cellAt_setCell _ _ _ hr hrl id'
      have hcid : cellAt s' (idOf tab p.key) = cellOfHead hnext := by
        rw [hc', if_pos rfl]
      refine ⟨rfl, ?_, ?_, rfl, rfl, rfl, rfl,
        rfl, fun id' hne => by rw [hc', if_neg hne], Or.inl ⟨l2, hch, rfl, ?_⟩⟩
      · intro b'; rw [hcid]; cases hnext <;> (intro e; cases e)
      · rw [hcid]; cases hnext <;> (intro e; cases e)
      · rw [hcid, ← hnx]
        clear hnx hk hl hS
        cases hnext <;> rfl
    | some pr =>
      obtain ⟨l1, l2, hch⟩ := hmid pr rfl
      have hcells : ∀ id', cellAt s' id' = cellAt s id' := fun id' => rfl
      refine ⟨rfl, ?_, ?_, rfl, rfl, rfl, rfl, rfl, fun id' _ => hcells id', Or.inr ⟨l1, pr, l2, hch, ?_, ?_⟩⟩
      · intro b'; rw [hcells]; exact hnt0 b'
      · rw [hcells, hcell]; intro e; cases e
      · show s.heap.modify pr (fun m => { m with next := hnext }) = _
        rw [hnx]
      · rw [hcells]; rfl
  obtain ⟨htb, hnt, hnm, hnow, hhist, hthr, hres, hcur, hcells, hcase⟩ := hshape
  have hre : ∀ b j0, Reusing s b j0 → Reusing s' b j0 :=
    reusing_of_set_pc hthr hl ⟨fun _ _ _ e => (by cases e), fun _ _ e => (by cases e)⟩
  obtain ⟨H', T, hs, -, -, hf, habs⟩ := sunlink_store (s' := s') H X W hcase
    (fun j hj => absurd hj (not_treeOf_of hnt j)) (by rw [htb]) (fun b _ => by rw [htb]) hcells hcur hre
    (by rw [ownerOf_of_not_tree hnt, ownerOf_of_not_tree hnt0]) hnm
  refine ⟨?_, ?_⟩
  · exact lstore_core (s' := s') I hl W hcell T H' hs hthr hnow hhist htb XS' (fun h' => (hf h').2.2.2.2) hnt hnm
  · exact abs_update habs hkey (by rw [habs0]; exact hspec)

theorem store_ok {tab : Nat} {h : Nat} {pred hit hnext : Option Nat}
    (I : Inv s) (hl : s.threads[t]? = some ⟨.wStore tab h pred hit hnext, some p⟩) :
    LStoreOK s (setT (storeAt (tick s) tab p pred hit hnext).1 t
      ⟨.wUnlock tab h (storeAt (tick s) tab p pred hit hnext).2 false, some p⟩) p
      (storeAt (tick s) tab p pred hit hnext).2 := by
  obtain ⟨-, -, -, -, hrd, hshN, hshS⟩ := lstore_ctx I hl
  have hget : ∀ (x : Nat × Nat) (v vi : Nat), specStep (some x) (.tryIns v vi) = (some x, .exists_ x.1 x.2) :=
    fun ⟨_, _⟩ _ _ => rfl
  have hinc : ∀ (x : Nat × Nat) (nvi : Nat), specStep (some x) (.cipInc nvi) = (some (x.1 + 1, nvi), .some (x.1 + 1) nvi) :=
    fun ⟨_, _⟩ _ => rfl
  rw [storeAt_eq]
  cases hop : p.op with
  | get => rw [hop] at hrd; cases hrd
  | has => rw [hop] at hrd; cases hrd
  | ins v vi =>
    cases hit with
    | some i => exact lstore_val I hl (by rw [hop]; rfl)
    | none => exact lstore_append I hl (Or.inl hop)
  | tryIns v vi =>
    cases hit with
    | some i => exact lstore_same I hl (by rw [(hshS i rfl).2.1, hop]; exact hget _ v vi)
    | none => exact lstore_append I hl (Or.inr hop)
  | rm =>
    cases hit with
    | some i => exact lstore_unlink I hl (by rw [hop]; rfl)
    | none => exact lstore_same I hl (by rw [(hshN rfl).1, hop]; rfl)
  | cipInc nvi =>
    cases hit with
    | some i => exact lstore_val I hl (by rw [hop]; exact hinc _ nvi)
    | none => exact lstore_same I hl (by rw [(hshN rfl).1, hop]; rfl)
  | cipRm =>
    cases hit with
    | some i => exact lstore_unlink I hl (by rw [hop]; rfl)
    | none => exact lstore_same I hl (by rw [(hshN rfl).1, hop]; rfl)

/-- **the single store of a list-bin writer** (`StepN.store`) -/
theorem store_facts {tab : Nat} {h : Nat} {pred hit hnext : Option Nat}
    (I : Inv s) (hl : s.threads[t]? = some l) (hp : l.call = some p) (hpc : l.pc = .wStore tab h pred hit hnext) :
    let s' := setT (storeAt (tick s) tab p pred hit hnext).1 t
      { l with pc := .wUnlock tab h (storeAt (tick s) tab p pred hit hnext).2 false }
    XShape s' → (Eff s s' ∧ specStep (absOf s p.key) p.op = (absOf s' p.key, (storeAt (tick s) tab p pred hit hnext).2) ∧
      ∀ k, k ≠ p.key → absOf s' k = absOf s k) := by
  obtain ⟨pc, call⟩ := l
  simp only at hp hpc
  subst hp hpc
  exact store_ok I hl

end Flurry.Proto.BinGNP
