import Flurry.Lemmas.SharedBasic
/-! # A list of nodes in a heap and the abstract state it stands for; the heap of a tree bin

State-free: a heap `List ν`, a first pointer `st`, the chain `C` from it, read through a signature `G`.
* `abs`: the value of the first chain node that counts and has the key, and what a store does to it (`abs_same`,
  `abs_val`, `abs_add`, `abs_del`). This part asks nothing of where new nodes go: `BinK.absL` and `BinR.Base.absOf`
  (a list that grows at its tail) are `abs` too.
* For a list whose new nodes are **prepended** and that has a set of tree nodes beside it (C01, tree bins): the heap
  invariant `HInvG`, what a store does as far as list-walking readers are concerned (`HStep`: the hindsight arguments
  of the readers rest on it), and the stores: one-node modification, prepend, unlink. Read by `Proto/BinT` (`lv` =
  `inTree`: a prepended node counts once it is linked into the tree) and `Proto/BinU` (`lv` = `true`: the list is the
  truth) through `HInv.gen` / `HInv.of_gen` / `HeapStep.of_gen` of `Lemmas/BinTBasic.lean`, `BinUBasic.lean`. -/
namespace Flurry.LHeap
open Flurry.Shared

/-- how to read a node. `tr` occurs only in `Alive` (the key distinctness of `HInvG`), `lv` only in `abs` / `Counts` and in
`HStep.unl`; a model without tree nodes sets `tr := fun _ => false` (`BinRB`), one whose chain nodes all count
`lv := fun _ => true` (`BinK`, `BinRB`, `BinU`). -/
structure Sig (ν : Type) where
  key : ν → Nat
  val : ν → Nat × Nat
  nx : ν → Option Nat
  /-- the node is linked into the tree -/
  tr : ν → Bool
  /-- the node, when on the chain, counts for the abstract state -/
  lv : ν → Bool
  /-- what an index beyond the heap reads as -/
  d : ν

variable {ν : Type} (G : Sig ν)

def Sig.at (heap : List ν) (i : Nat) : ν := heap.getD i G.d

def Sig.abs (heap : List ν) (C : List Nat) (k : Nat) : Option (Nat × Nat) :=
  (C.find? (fun i => G.lv (G.at heap i) && G.key (G.at heap i) == k)).map (fun i => G.val (G.at heap i))

def Dist (heap : List ν) (C : List Nat) : Prop :=
  ∀ i j, i ∈ C → j ∈ C → G.key (G.at heap i) = G.key (G.at heap j) → i = j

variable {G} {heap heap' : List ν} {C C' : List Nat}

theorem abs_eq_none_iff {k : Nat} :
    G.abs heap C k = none ↔ ∀ i ∈ C, G.lv (G.at heap i) = true → G.key (G.at heap i) ≠ k := by
  unfold Sig.abs
  rw [Option.map_eq_none_iff, List.find?_eq_none]
  simp

theorem abs_eq_some_iff (hd : Dist G heap C) {k : Nat} {v : Nat × Nat} :
    G.abs heap C k = some v ↔
      ∃ i ∈ C, G.lv (G.at heap i) = true ∧ G.key (G.at heap i) = k ∧ G.val (G.at heap i) = v := by
  unfold Sig.abs
  rw [Option.map_eq_some_iff]
  constructor
  · rintro ⟨i, hf, hv⟩
    have h2 := List.find?_some hf
    simp only [Bool.and_eq_true, beq_iff_eq] at h2
    exact ⟨i, List.mem_of_find?_eq_some hf, h2.1, h2.2, hv⟩
  · rintro ⟨i, hi, hin, hk, hv⟩
    cases hf : C.find? (fun i => G.lv (G.at heap i) && G.key (G.at heap i) == k) with
    | none =>
      rw [List.find?_eq_none] at hf
      have := hf i hi
      simp [hin, hk] at this
    | some j =>
      have h2 := List.find?_some hf
      simp only [Bool.and_eq_true, beq_iff_eq] at h2
      have : j = i := hd j i (List.mem_of_find?_eq_some hf) hi (by rw [h2.2, hk])
      subst this
      exact ⟨j, rfl, hv⟩

/-- `j` is on the chain and counts for the abstract state: what `abs` looks at. Not `Alive` below, which is "on the chain
or in the tree" and is what must have distinct keys. -/
abbrev Counts (G : Sig ν) (heap : List ν) (C : List Nat) (j : Nat) : Prop := j ∈ C ∧ G.lv (G.at heap j) = true

/-- the store keeps the nodes that count, their keys and values -/
theorem abs_same (hd : Dist G heap C) (hd' : Dist G heap' C')
    (hcnt : ∀ j, Counts G heap' C' j ↔ Counts G heap C j)
    (hkv : ∀ j, Counts G heap C j →
      G.key (G.at heap' j) = G.key (G.at heap j) ∧ G.val (G.at heap' j) = G.val (G.at heap j)) (k : Nat) :
    G.abs heap' C' k = G.abs heap C k := by
  cases ha : G.abs heap C k with
  | none =>
    rw [abs_eq_none_iff] at ha ⊢
    intro j hj hin
    have h := (hcnt j).1 ⟨hj, hin⟩
    rw [(hkv j h).1]; exact ha j h.1 h.2
  | some w =>
    obtain ⟨j, hj, hin, hjk, hjv⟩ := (abs_eq_some_iff hd).1 ha
    obtain ⟨h1, h2⟩ := (hcnt j).2 ⟨hj, hin⟩
    exact (abs_eq_some_iff hd').2 ⟨j, h1, h2, by rw [(hkv j ⟨hj, hin⟩).1, hjk], by rw [(hkv j ⟨hj, hin⟩).2, hjv]⟩

/-- a node that counts gets a new value -/
theorem abs_val (hd : Dist G heap C) (hd' : Dist G heap' C') {i : Nat} {v : Nat × Nat}
    (hi : Counts G heap C i) (hcnt : ∀ j, Counts G heap' C' j ↔ Counts G heap C j)
    (hkey : ∀ j, G.key (G.at heap' j) = G.key (G.at heap j))
    (hval : ∀ j, G.val (G.at heap' j) = if j = i then v else G.val (G.at heap j)) (k : Nat) :
    G.abs heap' C' k = if G.key (G.at heap i) = k then some v else G.abs heap C k := by
  split
  · rename_i hk
    obtain ⟨h1, h2⟩ := (hcnt i).2 hi
    exact (abs_eq_some_iff hd').2 ⟨i, h1, h2, by rw [hkey, hk], by rw [hval]; simp⟩
  · rename_i hk
    cases ha : G.abs heap C k with
    | none =>
      rw [abs_eq_none_iff] at ha ⊢
      intro j hj hjin
      obtain ⟨h1, h2⟩ := (hcnt j).1 ⟨hj, hjin⟩
      rw [hkey]; exact ha j h1 h2
    | some w =>
      obtain ⟨j, hj, hjin, hjk, hjv⟩ := (abs_eq_some_iff hd).1 ha
      obtain ⟨h1, h2⟩ := (hcnt j).2 ⟨hj, hjin⟩
      have hji : j ≠ i := fun h => hk (h ▸ hjk)
      exact (abs_eq_some_iff hd').2 ⟨j, h1, h2, by rw [hkey, hjk], by rw [hval, if_neg hji, hjv]⟩

/-- a node starts to count -/
theorem abs_add (hd : Dist G heap C) (hd' : Dist G heap' C') {x : Nat} (hx : Counts G heap' C' x)
    (hcnt : ∀ j, Counts G heap' C' j ↔ (j = x ∨ Counts G heap C j))
    (hkv : ∀ j, Counts G heap C j →
      G.key (G.at heap' j) = G.key (G.at heap j) ∧ G.val (G.at heap' j) = G.val (G.at heap j))
    (k : Nat) :
    G.abs heap' C' k = if G.key (G.at heap' x) = k then some (G.val (G.at heap' x)) else G.abs heap C k := by
  split
  · rename_i hk
    exact (abs_eq_some_iff hd').2 ⟨x, hx.1, hx.2, hk, rfl⟩
  · rename_i hk
    cases ha : G.abs heap C k with
    | none =>
      rw [abs_eq_none_iff] at ha ⊢
      intro j hj hjin
      rcases (hcnt j).1 ⟨hj, hjin⟩ with rfl | h
      · exact hk
      · rw [(hkv j h).1]; exact ha j h.1 h.2
    | some w =>
      obtain ⟨j, hj, hjin, hjk, hjv⟩ := (abs_eq_some_iff hd).1 ha
      obtain ⟨h1, h2⟩ := (hcnt j).2 (Or.inr ⟨hj, hjin⟩)
      exact (abs_eq_some_iff hd').2
        ⟨j, h1, h2, by rw [(hkv j ⟨hj, hjin⟩).1, hjk], by rw [(hkv j ⟨hj, hjin⟩).2, hjv]⟩

/-- a node stops counting -/
theorem abs_del (hd : Dist G heap C) (hd' : Dist G heap' C') {i : Nat} (hi : i ∈ C)
    (hcnt : ∀ j, Counts G heap' C' j ↔ (j ≠ i ∧ Counts G heap C j))
    (hkv : ∀ j, Counts G heap C j →
      G.key (G.at heap' j) = G.key (G.at heap j) ∧ G.val (G.at heap' j) = G.val (G.at heap j))
    (k : Nat) :
    G.abs heap' C' k = if G.key (G.at heap i) = k then none else G.abs heap C k := by
  split
  · rename_i hk
    rw [abs_eq_none_iff]
    intro j hj hjin hjk
    obtain ⟨hne, h⟩ := (hcnt j).1 ⟨hj, hjin⟩
    rw [(hkv j h).1] at hjk
    exact hne (hd j i h.1 hi (by rw [hjk, hk]))
  · rename_i hk
    cases ha : G.abs heap C k with
    | none =>
      rw [abs_eq_none_iff] at ha ⊢
      intro j hj hjin
      obtain ⟨-, h⟩ := (hcnt j).1 ⟨hj, hjin⟩
      rw [(hkv j h).1]; exact ha j h.1 h.2
    | some w =>
      obtain ⟨j, hj, hjin, hjk, hjv⟩ := (abs_eq_some_iff hd).1 ha
      have hji : j ≠ i := fun h => hk (h ▸ hjk)
      obtain ⟨h1, h2⟩ := (hcnt j).2 ⟨hji, hj, hjin⟩
      exact (abs_eq_some_iff hd').2
        ⟨j, h1, h2, by rw [(hkv j ⟨hj, hjin⟩).1, hjk], by rw [(hkv j ⟨hj, hjin⟩).2, hjv]⟩

variable (G) in
/-- on the chain or linked into the tree, whether or not the node counts -/
def Alive (heap : List ν) (C : List Nat) (i : Nat) : Prop :=
  i ∈ C ∨ (i < heap.length ∧ G.tr (G.at heap i) = true)

variable (G) in
/-- the heap invariant of a tree bin: the list is a chain from `st` that goes downwards in the heap, and no two nodes
on the list or in the tree have the same key -/
structure HInvG (heap : List ν) (st : Option Nat) (C : List Nat) : Prop where
  nextOK : NextDown G.nx heap
  firstOK : ∀ h, st = some h → h < heap.length
  seg : Seg G.nx heap st C none
  keysDistinct : ∀ i j, Alive G heap C i → Alive G heap C j → G.key (G.at heap i) = G.key (G.at heap j) → i = j

variable {st st' : Option Nat}

theorem HInvG.lt (V : HInvG G heap st C) {i : Nat} (hi : i ∈ C) : i < heap.length := V.seg.lt_length i hi

theorem HInvG.nodup (V : HInvG G heap st C) : C.Nodup := V.seg.nodup V.nextOK

theorem HInvG.dist (V : HInvG G heap st C) : Dist G heap C :=
  fun i j hi hj => V.keysDistinct i j (Or.inl hi) (Or.inl hj)

theorem at_get {i : Nat} (h : i < heap.length) : heap[i]? = some (G.at heap i) := getElem?_getD _ h

theorem at_modify (i : Nat) (f : ν → ν) (j : Nat) :
    G.at (heap.modify i f) j = if i = j ∧ j < heap.length then f (G.at heap j) else G.at heap j :=
  getD_modify heap i f j _

variable (G) in
/-- what one store may do to heap and chain so that a thread walking the list without a lock can still justify
what it finds -/
structure HStep (heap : List ν) (C : List Nat) (heap' : List ν) (C' : List Nat) : Prop where
  len : heap.length ≤ heap'.length
  key : ∀ j, j < heap.length → G.key (G.at heap' j) = G.key (G.at heap j)
  /-- nodes that are not on the list keep value and `next` -/
  off : ∀ j, j < heap.length → j ∉ C →
    G.val (G.at heap' j) = G.val (G.at heap j) ∧ G.nx (G.at heap' j) = G.nx (G.at heap j)
  /-- an unlinked node never returns to the list -/
  noRelink : ∀ j ∈ C', j ∈ C ∨ heap.length ≤ j
  /-- the node that is unlinked counts, keeps value and `next`; only one node is unlinked -/
  unl : ∀ c ∈ C, c ∉ C' →
    G.val (G.at heap' c) = G.val (G.at heap c) ∧ G.nx (G.at heap' c) = G.nx (G.at heap c) ∧
    G.lv (G.at heap c) = true ∧ ∀ j ∈ C, j ≠ c → j ∈ C'
  /-- the key of a prepended node is not on the list -/
  fresh : ∀ j ∈ C', heap.length ≤ j → ∀ i ∈ C, G.key (G.at heap i) ≠ G.key (G.at heap' j)
  /-- only values of nodes that count change -/
  valchg : ∀ j, j < heap.length → G.val (G.at heap' j) ≠ G.val (G.at heap j) → Counts G heap' C' j

theorem HStep.of_same (V : HInvG G heap st C) : HStep G heap C heap C :=
  ⟨Nat.le_refl _, fun _ _ => rfl, fun _ _ _ => ⟨rfl, rfl⟩, fun _ hj => Or.inl hj, fun _ h1 h2 => absurd h1 h2,
    fun _ hj hlen => absurd (V.lt hj) (Nat.not_lt.2 hlen), fun _ _ hne => absurd rfl hne⟩

/-! ## stores that modify one node, keeping key and `next` -/

/-- the common part of the one-node stores -/
theorem modify_summary (V : HInvG G heap st C) {i : Nat} {f : ν → ν}
    (hf : ∀ n, G.nx (f n) = G.nx n ∧ G.key (f n) = G.key n)
    (halive : G.tr (G.at (heap.modify i f) i) = true → Alive G heap C i)
    (hv : G.val (G.at (heap.modify i f) i) ≠ G.val (G.at heap i) → i ∈ C ∧ G.lv (G.at (heap.modify i f) i) = true) :
    HInvG G (heap.modify i f) st C ∧ HStep G heap C (heap.modify i f) C ∧
      (∀ j, G.key (G.at (heap.modify i f) j) = G.key (G.at heap j)) ∧
      (∀ j, j ≠ i → G.at (heap.modify i f) j = G.at heap j) := by
  have hlen : (heap.modify i f).length = heap.length := List.length_modify ..
  have hkey : ∀ j, G.key (G.at (heap.modify i f) j) = G.key (G.at heap j) := by
    intro j; rw [at_modify]; split
    · exact (hf _).2
    · rfl
  have hother : ∀ j, j ≠ i → G.at (heap.modify i f) j = G.at heap j := by
    intro j hj; rw [at_modify, if_neg]
    intro h; exact hj h.1.symm
  have hal : ∀ j, Alive G (heap.modify i f) C j → Alive G heap C j := by
    intro j hj
    by_cases hji : j = i
    · subst hji
      rcases hj with hj | ⟨_, hj⟩
      · exact Or.inl hj
      · exact halive hj
    · rcases hj with hj | ⟨hj1, hj2⟩
      · exact Or.inl hj
      · exact Or.inr ⟨hlen ▸ hj1, by rw [← hother j hji]; exact hj2⟩
  have hseg : Seg G.nx (heap.modify i f) st C none := by
    refine V.seg.congr ?_
    intro j _ n hn
    rw [List.getElem?_modify, hn]
    by_cases hij : i = j
    · exact ⟨f n, by simp [hij], (hf n).1⟩
    · exact ⟨n, by simp [hij], rfl⟩
  refine ⟨⟨NextDown.modify V.nextOK i (fun n => (hf n).1), fun h hh => hlen ▸ V.firstOK h hh, hseg, ?_⟩,
    ⟨Nat.le_of_eq hlen.symm, fun j _ => hkey j, ?_, fun j hj => Or.inl hj, fun c h1 h2 => absurd h1 h2, ?_, ?_⟩,
    hkey, hother⟩
  · intro a b ha hb hab
    rw [hkey, hkey] at hab
    exact V.keysDistinct a b (hal a ha) (hal b hb) hab
  · intro j _ hjc
    by_cases hji : j = i
    · subst hji
      refine ⟨Classical.byContradiction fun hne => hjc (hv hne).1, ?_⟩
      rw [at_modify]; split
      · exact (hf _).1
      · rfl
    · rw [hother j hji]; exact ⟨rfl, rfl⟩
  · intro j hj hjl
    exact absurd (V.lt hj) (Nat.not_lt.2 hjl)
  · intro j _ hne
    by_cases hji : j = i
    · subst hji; exact hv hne
    · rw [hother j hji] at hne; exact absurd rfl hne

theorem prepend_summary (V : HInvG G heap st C) {new : ν} (hnext : G.nx new = st)
    (hfresh : ∀ j, Alive G heap C j → G.key (G.at heap j) ≠ G.key new) :
    HInvG G (heap ++ [new]) (some heap.length) (heap.length :: C) ∧
      HStep G heap C (heap ++ [new]) (heap.length :: C) ∧
      (∀ j, j < heap.length → G.at (heap ++ [new]) j = G.at heap j) ∧
      G.at (heap ++ [new]) heap.length = new := by
  have hlen : (heap ++ [new]).length = heap.length + 1 := by
    rw [List.length_append, List.length_singleton]
  have hold : ∀ j, j < heap.length → G.at (heap ++ [new]) j = G.at heap j :=
    fun j hj => getD_append_left _ _ hj
  have hnew : G.at (heap ++ [new]) heap.length = new := getD_append_new ..
  have hal : ∀ j, Alive G (heap ++ [new]) (heap.length :: C) j → j = heap.length ∨ (j < heap.length ∧ Alive G heap C j) := by
    intro j hj
    rcases hj with hj | ⟨hj1, hj2⟩
    · rcases List.mem_cons.1 hj with hj | hj
      · exact Or.inl hj
      · exact Or.inr ⟨V.lt hj, Or.inl hj⟩
    · by_cases hjl : j < heap.length
      · rw [hold j hjl] at hj2
        exact Or.inr ⟨hjl, Or.inr ⟨hjl, hj2⟩⟩
      · exact Or.inl (by omega)
  refine ⟨⟨NextDown.append V.nextOK (fun b hb => V.firstOK b (hnext ▸ hb)), ?_, V.seg.prepend new hnext, ?_⟩,
    ⟨by omega, fun j hj => by rw [hold j hj], fun j hj _ => by rw [hold j hj]; exact ⟨rfl, rfl⟩,
    ?_, ?_, ?_, ?_⟩, hold, hnew⟩
  · intro h hh; cases hh; omega
  · intro a b ha hb hab
    rcases hal a ha with rfl | ⟨hal1, hal2⟩ <;> rcases hal b hb with rfl | ⟨hbl1, hbl2⟩
    · rfl
    · rw [hnew, hold b hbl1] at hab
      exact absurd hab.symm (hfresh b hbl2)
    · rw [hnew, hold a hal1] at hab
      exact absurd hab (hfresh a hal2)
    · rw [hold a hal1, hold b hbl1] at hab
      exact V.keysDistinct a b hal2 hbl2 hab
  · intro j hj
    rcases List.mem_cons.1 hj with hj | hj
    · exact Or.inr (by omega)
    · exact Or.inl hj
  · intro c hc1 hc2
    exact absurd (List.mem_cons_of_mem _ hc1) hc2
  · intro j hj hjl i hi
    rcases List.mem_cons.1 hj with hj | hj
    · subst hj; rw [hnew]; exact hfresh i (Or.inl hi)
    · have := V.lt hj; omega
  · intro j hj hne
    rw [hold j hj] at hne; exact absurd rfl hne

variable (G) in
/-- what the list unlink of the node `i` does -/
structure Unlinked (heap : List ν) (C : List Nat) (heap' : List ν) (st' : Option Nat) (C' : List Nat) (i : Nat) :
    Prop where
  hinv : HInvG G heap' st' C'
  step : HStep G heap C heap' C'
  chain : ∀ j, j ∈ C' ↔ j ∈ C ∧ j ≠ i
  len : heap'.length = heap.length
  node : ∀ j, G.key (G.at heap' j) = G.key (G.at heap j) ∧ G.val (G.at heap' j) = G.val (G.at heap j) ∧
    G.tr (G.at heap' j) = G.tr (G.at heap j) ∧ G.lv (G.at heap' j) = G.lv (G.at heap j)
  abs : ∀ k, G.abs heap' C' k = if G.key (G.at heap i) = k then none else G.abs heap C k

theorem unlink_summary (V : HInvG G heap st C) {i : Nat} (hi : i ∈ C) (hin : G.lv (G.at heap i) = true)
    (hok' : NextDown G.nx heap') (hho' : ∀ h, st' = some h → h < heap'.length)
    (hseg' : Seg G.nx heap' st' C' none)
    (hlen : heap'.length = heap.length)
    (hc : ∀ j, j ∈ C' ↔ j ∈ C ∧ j ≠ i)
    (hold : ∀ j, G.key (G.at heap' j) = G.key (G.at heap j) ∧ G.val (G.at heap' j) = G.val (G.at heap j) ∧
      G.tr (G.at heap' j) = G.tr (G.at heap j) ∧ G.lv (G.at heap' j) = G.lv (G.at heap j) ∧
      ((j ∉ C ∨ j = i) → G.nx (G.at heap' j) = G.nx (G.at heap j))) :
    Unlinked G heap C heap' st' C' i := by
  have hal : ∀ j, Alive G heap' C' j → Alive G heap C j := by
    intro j hj
    rcases hj with hj | ⟨hj1, hj2⟩
    · exact Or.inl ((hc j).1 hj).1
    · exact Or.inr ⟨hlen ▸ hj1, by rw [← (hold j).2.2.1]; exact hj2⟩
  have V' : HInvG G heap' st' C' := by
    refine ⟨hok', hho', hseg', ?_⟩
    intro a b ha hb hab
    rw [(hold a).1, (hold b).1] at hab
    exact V.keysDistinct a b (hal a ha) (hal b hb) hab
  refine ⟨V', ⟨by omega, fun j _ => (hold j).1,
    fun j _ hjc => ⟨(hold j).2.1, (hold j).2.2.2.2 (Or.inl hjc)⟩, ?_, ?_, ?_, ?_⟩, hc, hlen,
    fun j => ⟨(hold j).1, (hold j).2.1, (hold j).2.2.1, (hold j).2.2.2.1⟩, ?_⟩
  · intro j hj
    exact Or.inl ((hc j).1 hj).1
  · intro c hc1 hc2
    have hci : c = i := Classical.byContradiction fun hne => hc2 ((hc c).2 ⟨hc1, hne⟩)
    subst hci
    exact ⟨(hold c).2.1, (hold c).2.2.2.2 (Or.inr rfl), hin, fun j hj hne => (hc j).2 ⟨hj, hne⟩⟩
  · intro j hj hjl
    have := V.lt ((hc j).1 hj).1
    omega
  · intro j _ hne
    exact absurd (hold j).2.1 hne
  · refine abs_del V.dist V'.dist hi ?_ (fun j _ => ⟨(hold j).1, (hold j).2.1⟩)
    intro j
    rw [Counts, hc, (hold j).2.2.2.1]
    constructor
    · rintro ⟨⟨h1, h2⟩, h3⟩; exact ⟨h2, h1, h3⟩
    · rintro ⟨h1, h2, h3⟩; exact ⟨⟨h2, h1⟩, h3⟩

/-- `f` gives the predecessor `pr` the `next` of `i` and changes nothing else -/
theorem unlink_mid (V : HInvG G heap st C) {l1 l2 : List Nat} {pr i : Nat} {f : ν → ν}
    (hin : G.lv (G.at heap i) = true) (hch : C = l1 ++ pr :: i :: l2)
    (hf : ∀ m, G.nx (f m) = G.nx (G.at heap i) ∧ G.key (f m) = G.key m ∧ G.val (f m) = G.val m ∧
      G.tr (f m) = G.tr m ∧ G.lv (f m) = G.lv m) :
    Unlinked G heap C (heap.modify pr f) st (l1 ++ pr :: l2) i := by
  subst hch
  have hi : i ∈ l1 ++ pr :: i :: l2 := by simp
  have hpr : pr ∈ l1 ++ pr :: i :: l2 := by simp
  have hni := at_get (G := G) (V.lt hi)
  have hnd := V.nodup
  have hpri : pr ≠ i := by
    intro he
    subst he
    have := (List.nodup_append.1 hnd).2.1
    simp at this
  obtain ⟨b, h1, h2⟩ := V.seg.split
  obtain ⟨-, np, hnp, hs⟩ := Seg.cons_iff.1 h2
  obtain ⟨hb, -⟩ := Seg.cons_iff.1 hs
  refine unlink_summary V hi hin (NextDown.unlink V.nextOK hnp hb hni (fun m => (hf m).1))
    (fun h hh => by rw [List.length_modify]; exact V.firstOK h hh)
    (V.seg.unlink hnd hni (fun m => (hf m).1)) (List.length_modify ..) ?_ ?_
  · intro j
    simp only [List.mem_append, List.mem_cons]
    constructor
    · intro hj
      refine ⟨by rcases hj with hj | hj | hj <;> simp [hj], ?_⟩
      rintro rfl
      have h5 := List.nodup_append.1 hnd
      rcases hj with hj | hj | hj
      · exact h5.2.2 j hj j (by simp) rfl
      · exact hpri hj.symm
      · have := (List.nodup_cons.1 (List.nodup_cons.1 h5.2.1).2).1
        exact this hj
    · rintro ⟨hj | hj | hj | hj, hne⟩
      · exact Or.inl hj
      · exact Or.inr (Or.inl hj)
      · exact absurd hj hne
      · exact Or.inr (Or.inr hj)
  · intro j
    rw [at_modify]
    split
    · rename_i hjp
      refine ⟨(hf _).2.1, (hf _).2.2.1, (hf _).2.2.2.1, (hf _).2.2.2.2, ?_⟩
      rintro (hjc | hji)
      · exact absurd (hjp.1 ▸ hpr) hjc
      · exact absurd (hjp.1.trans hji) hpri
    · exact ⟨rfl, rfl, rfl, rfl, fun _ => rfl⟩

theorem unlink_head (V : HInvG G heap st C) {l2 : List Nat} {i : Nat}
    (hin : G.lv (G.at heap i) = true) (hch : C = i :: l2) :
    Unlinked G heap C heap (G.nx (G.at heap i)) l2 i := by
  subst hch
  have hi : i ∈ i :: l2 := by simp
  have hni := at_get (G := G) (V.lt hi)
  have hnd := V.nodup
  obtain ⟨-, ni, hni', hs⟩ := Seg.cons_iff.1 V.seg
  rw [hni] at hni'; cases hni'
  refine unlink_summary V hi hin V.nextOK ?_ hs rfl ?_ (fun j => ⟨rfl, rfl, rfl, rfl, fun _ => rfl⟩)
  · intro h hhd
    have := V.nextOK i _ h hni hhd
    have := V.lt hi
    omega
  · intro j
    simp only [List.mem_cons]
    constructor
    · intro hj
      refine ⟨Or.inr hj, ?_⟩
      rintro rfl
      exact (List.nodup_cons.1 hnd).1 hj
    · rintro ⟨hj | hj, hne⟩
      · exact absurd hj hne
      · exact hj

end Flurry.LHeap
