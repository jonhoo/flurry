import Flurry.Lemmas.RwLockBasic
/-! # Lemmas/RwLockInv: `Inv` is an inductive invariant of the lock model -/
namespace Flurry.Proto.RwLock
open Flurry.Gen

theorem cnt_replicate_idle (p : RPc → Bool) (hp : p .idle = false) (n : Nat) :
    cnt p (List.replicate n RPc.idle) = 0 := by
  apply cnt_eq_zero_of_all
  intro i pc h
  have : pc ∈ List.replicate n RPc.idle := List.mem_iff_getElem?.mpr ⟨i, h⟩
  rw [List.mem_replicate] at this
  rw [this.2]; exact hp

theorem inv_init (n : Nat) : Inv (init n) := by
  refine ⟨?_, ?_, ?_⟩
  · simp [init, wBits, cnt_replicate_idle holdsRead rfl]
  · simp [WInv, init]
  · intro pc h
    simp only [init, List.mem_replicate] at h
    rw [h.2]; trivial

theorem hasBit_waiter_add (H : Nat) : hasBit (WAITER + READER * H) WAITER = true := by
  simp only [hasBit, WAITER, READER, beq_iff_eq]; omega

theorem holder_of_not_free {H : Nat} (h : freeExceptWaiter (WAITER + READER * H) = false) :
    1 ≤ H := by
  simp [freeExceptWaiter, WAITER, READER] at h; omega

theorem inv_stepWriter {s s' : State} (h : Inv s) (hs : stepWriter s = some s') : Inv s' := by
  rcases s with ⟨ls, ws, tk, wpc, wt, rs⟩
  obtain ⟨hl, hw, hr⟩ := h
  replace hl : ls = wBits wpc wt + READER * (cnt holdsRead rs : Nat) := hl
  cases wpc <;> simp only [stepWriter] at hs
  case idle => cases hs; exact ⟨hl, ⟨rfl, hw⟩, hr⟩
  case tryFast =>
    obtain ⟨rfl, rfl⟩ : wt = false ∧ ws = false := hw
    split at hs <;> cases hs
    next h0 =>
      -- the fast path saw `0`: nobody holds a read lock
      have hH : cnt holdsRead rs = 0 := by
        have := eq_of_beq h0; simp only [wBits, READER] at hl; omega
      exact ⟨by rw [hH]; rfl, ⟨rfl, hH⟩, hr⟩
    next => exact ⟨hl, rfl, hr⟩
  case load =>
    cases hs
    refine ⟨hl, ⟨hw, fun hwt => ?_⟩, hr⟩
    cases hwt
    -- a waiting writer reads its own `WAITER` bit, and a reader if the word is not free
    rw [show ls = WAITER + READER * (cnt holdsRead rs : Nat) from hl]
    exact ⟨hasBit_waiter_add _, fun hf => .inr (Nat.le_add_right_of_le (Nat.le_add_right_of_le (holder_of_not_free hf)))⟩
  case decide st =>
    obtain ⟨hws, hst⟩ : ws = wt ∧ _ := hw
    split at hs
    next hf => cases hs; exact ⟨hl, ⟨hws, by simpa [freeExceptWaiter] using hf⟩, hr⟩
    next hf =>
      split at hs
      next hb =>
        -- no `WAITER` bit in the word read: this attempt has not set it yet
        cases hs
        have hb : hasBit st WAITER = false := by simpa using hb
        obtain rfl : wt = false := by
          cases wt
          · rfl
          · exact absurd (hst rfl).1 (by simp [hb])
        exact ⟨hl, ⟨rfl, hws, hb⟩, hr⟩
      next =>
        split at hs <;> cases hs
        next hwt => exact ⟨hl, ⟨hwt, hws.trans hwt, (hst hwt).2 (by simpa using hf)⟩, hr⟩
        next => exact ⟨hl, hws, hr⟩
  case casWriter st =>
    obtain ⟨hws, hst⟩ : ws = wt ∧ (st = 0 ∨ st = WAITER) := hw
    split at hs <;> cases hs
    next heq =>
      -- the word was `0` or `WAITER`: nobody holds a read lock
      have hH : cnt holdsRead rs = 0 := by
        have := eq_of_beq heq
        cases wt <;> simp [wBits, READER, WAITER] at hl hst <;> omega
      cases wt
      · exact ⟨by rw [hH]; rfl, ⟨hws, hH⟩, hr⟩
      · exact ⟨by rw [hH]; rfl, ⟨hws, rfl, hH⟩, hr⟩
    next => exact ⟨hl, hws, hr⟩
  case swapOut => cases hs; exact ⟨hl, ⟨rfl, hw.2.2⟩, hr⟩
  case casWaiter st =>
    obtain ⟨rfl, rfl, hb⟩ : wt = false ∧ ws = false ∧ _ := hw
    split at hs <;> cases hs
    next heq =>
      refine ⟨?_, ⟨rfl, rfl⟩, hr⟩
      have := eq_of_beq heq
      simp only [wBits, READER, WAITER, ↓reduceIte] at hl ⊢; omega
    next => exact ⟨hl, rfl, hr⟩
  case publish => cases hs; exact ⟨hl, hw.1.symm, hr⟩
  case park =>
    split at hs <;> cases hs
    exact ⟨hl, hw.2.1.trans hw.1.symm, hr⟩
  case hold => cases hs; exact ⟨by rw [hw.2]; rfl, hw.1, hr⟩

/-- The writer's facts mention the readers only through the number `H` of lock holders (`H = 0`
while the word is `WRITER`) and the number `K` of readers that hold the lock or are on their way
to wake the writer (a token or `1 ≤ K` while the word has `WAITER` and the handle is published).
So they survive whatever keeps these two. -/
theorem WInv.of_readers {ls ls' : Int} {ws tk tk' wt : Bool} {wpc : WPc} {rs rs' : List RPc}
    (hw : WInv ⟨ls, ws, tk, wpc, wt, rs⟩)
    (hH : wBits wpc wt = WRITER → cnt holdsRead rs = 0 → cnt holdsRead rs' = 0)
    (hK : wBits wpc wt = WAITER → ws = true →
      tk = true ∨ 1 ≤ cnt holdsRead rs + cnt isUnpark rs + cnt isLoadWaiter rs →
      tk' = true ∨ 1 ≤ cnt holdsRead rs' + cnt isUnpark rs' + cnt isLoadWaiter rs') :
    WInv ⟨ls', ws, tk', wpc, wt, rs'⟩ := by
  cases wpc with
  | idle | tryFast | load | casWriter | casWaiter | publish => exact hw
  | decide st =>
    refine ⟨hw.1, fun hwt => ⟨(hw.2 hwt).1, fun hf => ?_⟩⟩
    exact hK (by rw [show wt = true from hwt]; rfl) (hw.1.trans hwt) ((hw.2 hwt).2 hf)
  | park => exact ⟨hw.1, hw.2.1, hK (by rw [show wt = true from hw.1]; rfl) hw.2.1 hw.2.2⟩
  | swapOut => exact ⟨hw.1, hw.2.1, hH rfl hw.2.2⟩
  | hold => exact ⟨hw.1, hH rfl hw.2⟩

theorem rinv_nextPc (s : State) (more : Bool) (pc : RPc) : RInv (nextPc s more pc) := by
  cases pc <;> simp only [nextPc] <;> (try split) <;> simp_all [RInv]

/-- no reader newly acquires the read lock while the word has `WRITER` -/
theorem holdsRead_nextPc {s : State} {pc : RPc} (more : Bool) (hr : RInv pc)
    (hw : hasBit s.lockState WRITER = true) :
    (holdsRead (nextPc s more pc)).toNat ≤ (holdsRead pc).toNat := by
  cases pc <;> simp only [nextPc] <;> (try split) <;> simp_all [RInv, holdsRead]

/-- with the handle published, a reader in the wake-up chain (holding the lock, at `loadWaiter`,
at `unpark`) stays in it until it has set the token, unless it releases a word other than
`READER + WAITER` -/
theorem wakes_nextPc {s : State} (more : Bool) (pc : RPc) (hws : s.waiterSet = true) :
    isUnpark pc = true ∨ (pc = .release ∧ s.lockState ≠ READER + WAITER) ∨
    (holdsRead pc).toNat + (isUnpark pc).toNat + (isLoadWaiter pc).toNat ≤
      (holdsRead (nextPc s more pc)).toNat + (isUnpark (nextPc s more pc)).toNat +
        (isLoadWaiter (nextPc s more pc)).toNat := by
  cases pc <;> simp only [nextPc] <;> (try split) <;>
    simp_all [holdsRead, isUnpark, isLoadWaiter]

theorem inv_stepReader {s s' : State} {i : Nat} {more : Bool} (h : Inv s)
    (hs : stepReader s i more = some s') : Inv s' := by
  obtain ⟨hl, hw, hr⟩ := h
  rw [stepReader_eq] at hs
  obtain ⟨pc, hget, rfl⟩ := Option.map_eq_some_iff.mp hs
  have eH := cnt_set holdsRead hget (nextPc s more pc)
  have eU := cnt_set isUnpark hget (nextPc s more pc)
  have eL := cnt_set isLoadWaiter hget (nextPc s more pc)
  have gH := cnt_ge holdsRead hget
  refine ⟨?_, hw.of_readers ?_ ?_, ?_⟩
  · show s.lockState + _ - _ = _
    simp only [READER] at hl ⊢; omega
  · intro hwb h0
    have hb : hasBit s.lockState WRITER = true := by rw [hl, hwb, h0]; rfl
    have := holdsRead_nextPc more (hr pc (List.mem_iff_getElem?.mpr ⟨i, hget⟩)) hb
    omega
  · intro hwb hws hk
    rcases wakes_nextPc more pc hws with hu | ⟨rfl, hne⟩ | hle
    · exact .inl (by simp [hu])
    · rw [hl, hwb] at hne
      simp only [READER, WAITER, holdsRead] at hne gH eH
      exact .inr (by simp at gH eH; omega)
    · exact hk.imp (by simp_all) (by omega)
  · intro pc' h
    rcases List.mem_or_eq_of_mem_set h with h | rfl
    · exact hr pc' h
    · exact rinv_nextPc s more pc

theorem inv_step {s s' : State} {a : Actor} {more : Bool} (h : Inv s)
    (hs : step s a more = some s') : Inv s' := by
  cases a with
  | writer => exact inv_stepWriter h hs
  | reader i => exact inv_stepReader h hs

theorem inv_of_reachable {n : Nat} {s : State} (h : Reachable n s) : Inv s := by
  induction h with
  | init => exact inv_init n
  | step a more _ hs ih => exact inv_step ih hs

end Flurry.Proto.RwLock
