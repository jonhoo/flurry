import Flurry.Lemmas.BinNAInv
/-! # Proto/BinNA: every transition preserves the structural invariant (C01, C10)

`stepK_tinv`, `stepK_inv`: case by case over the normal form `StepK`; `inv_init`; `reachable_inv`. -/
namespace Flurry.Proto.BinNA
open Flurry.Lin

theorem keyOf_some {l : Local} {p : Pending} (h : l.call = some p) : keyOf l.call = p.key := by
  rw [h]; rfl

theorem Move.pcOp {s : State} {p : Pending} {pc pc' : Pc} (h : Move s p pc pc') {op : KOp}
    (h0 : PcOp pc op) : PcOp pc' op := by
  cases h <;> exact h0

theorem Move.isOp {s : State} {p : Pending} {pc pc' : Pc} (h : Move s p pc pc') : isOp pc' ∧ isOp pc := by
  cases h <;> exact ⟨trivial, trivial⟩

theorem Move.not_isT {s : State} {p : Pending} {pc pc' : Pc} (h : Move s p pc pc') : ¬ isT pc' := by
  cases h <;> exact id

theorem Move.not_mid {s : State} {p : Pending} {pc pc' : Pc} (h : Move s p pc pc') (j : Nat) : ¬ MidAt pc j := by
  cases h <;> exact id

theorem Fin.not_mid {s : State} {p : Pending} {pc : Pc} {res : KRes} (h : Fin s p pc res) (j : Nat) :
    ¬ MidAt pc j := by
  cases h <;> exact id

theorem TMove.isT {s : State} {pc pc' : Pc} (h : TMove s pc pc') : isT pc ∧ isT pc' := by
  cases h <;> exact ⟨trivial, trivial⟩

theorem TMove.not_mid {s : State} {pc pc' : Pc} (h : TMove s pc pc') (j : Nat) : ¬ MidAt pc j := by
  cases h <;> exact id

theorem not_isOp_of_isT {pc : Pc} (h : isT pc) : ¬ isOp pc := by
  cases pc <;> first | exact h.elim | exact id

theorem MidAt.isT {pc : Pc} {j : Nat} (h : MidAt pc j) : isT pc := by
  cases pc <;> first | exact False.elim h | trivial

theorem allMoved_spec {s : State} (h : allMoved s = true) : ∀ j, j < 2 ^ s.cur → getCell s s.cur j = .moved := by
  intro j hj
  unfold allMoved at h
  rw [List.all_eq_true] at h
  have := h j (List.mem_range.2 hj)
  simpa using this

/-- when the resizing thread is not in the middle of a transfer, nobody is -/
theorem Inv.noMid {s : State} (I : Inv s) {t : Nat} {l : Local} (hl : s.threads[t]? = some l) (hT : isT l.pc)
    (hn : ∀ p, ¬ MidAt l.pc p) (p : Nat) : ∀ (t1 : Nat) (l1 : Local), s.threads[t1]? = some l1 → ¬ MidAt l1.pc p := by
  intro t1 l1 h1 hm
  have := I.uniqT t1 t l1 l h1 hl hm.isT hT
  subst this
  rw [hl] at h1; cases h1
  exact hn p hm

theorem Move.pcOK {s : State} (I : Inv s) {p : Pending} {pc pc' : Pc} {t : Nat} (h : Move s p pc pc')
    (h0 : PcOK s t p.key pc) : PcOK s t p.key pc' := by
  cases h with
  | rTable => exact fwd_cur s _
  | rMoved hm => exact I.fwd_next h0 hm
  | wTable => exact fwd_cur s _
  | wEmpty _ _ => exact h0
  | wMoved hm => exact I.fwd_next h0 hm
  | wList _ => exact h0
  | casFail => exact h0
  | checkOk hl => exact ⟨h0.1, h0.2, hl⟩
  | checkFail _ => exact h0

theorem TMove.pcOK {s : State} (I : Inv s) {t key : Nat} {pc pc' : Pc} {call : Option Pending}
    (hl : s.threads[t]? = some ⟨pc, call⟩) (h : TMove s pc pc') (h0 : PcOK s t key pc) : PcOK s t key pc' := by
  cases h with
  | nextDone hm => exact ⟨h0, allMoved_spec hm⟩
  | nextCell => exact ⟨h0, Nat.mod_lt _ (Nat.two_pow_pos _)⟩
  | cellEmpty _ => exact h0
  | cellList _ => exact h0
  | cellMoved _ => exact h0.1
  | casFail _ => exact h0
  | @checkOk j xs hc =>
    obtain ⟨h1, h2, h3⟩ := h0
    have hno := fun p => I.noMid hl trivial (fun _ => id) p
    refine ⟨h1, h2, h3, xs, hc, rfl, rfl, ?_, ?_⟩
    · refine I.child j ?_ (hno _)
      rw [Nat.mod_eq_of_lt h2, hc]; nofun
    · refine I.child (j + 2 ^ s.cur) ?_ (hno _)
      rw [add_pow_mod h2, hc]; nofun

theorem tinv_keepW {s : State} {t : Nat} {p : Pending} {pc pc' : Pc} {m : Mem} (T : TInv s)
    (hl : s.threads[t]? = some ⟨pc, some p⟩) (hop : PcOp pc p.op → PcOp pc' p.op) (hop' : isOp pc') :
    TInv (post s t ⟨pc', some p⟩ [] m) :=
  tinv_keep T hl rfl (fun _ hp1 => by cases hp1; exact hop (T.opOK t _ p hl rfl))
    ⟨fun _ => (T.callOK t _ hl).2 rfl, fun _ => hop'⟩

theorem tinv_keepT {s : State} {t : Nat} {pc pc' : Pc} {m : Mem} (T : TInv s)
    (hl : s.threads[t]? = some ⟨pc, none⟩) (hop' : ¬ isOp pc') : TInv (post s t ⟨pc', none⟩ [] m) :=
  tinv_keep T hl rfl (fun _ hp => nomatch hp) ⟨fun h => absurd h hop', fun h => nomatch (T.callOK t _ hl).1 h⟩

theorem stepK_tinv {s s' : State} {t : Nat} {l : Local} (T : TInv s) (hl : s.threads[t]? = some l)
    (hstep : StepK s t l s') : TInv s' := by
  cases hstep with
  | idle call => exact tinv_keep T hl rfl (fun p hp => T.opOK t _ p hl hp) Iff.rfl
  | invoke call k op =>
    refine tinv_post T hl (fun p hp => ?_) ⟨fun _ => rfl, fun _ => ?_⟩ (fun p hp => .inr ?_) (.inl rfl)
    · cases hp
      cases hr : isReader op <;> exact hr
    · cases isReader op <;> trivial
    · cases hp; rfl
  | resize call hr => exact tinv_keep T hl rfl (fun _ _ => trivial) Iff.rfl
  | move p pc pc' hm => exact tinv_keepW T hl hm.pcOp hm.isOp.1
  | tmove pc pc' hm => exact tinv_keepT T hl (not_isOp_of_isT hm.isT.2)
  | acq call pc g j pc' ha hfree =>
    cases ha with
    | w => exact tinv_keepW T hl id trivial
    | t => exact tinv_keepT T hl id
  | rel call pc g j pc' hrel =>
    cases hrel with
    | w => exact tinv_keepW T hl id trivial
    | tFail _ => exact tinv_keepT T hl id
    | t => exact tinv_keepT T hl id
  | fin p pc res hf => exact tinv_finish T hl rfl
  | cas p g v vi hc hop => exact tinv_finish T hl rfl
  | store p g => exact tinv_keepW T hl id trivial
  | unlockFin p g res => exact tinv_finish T hl rfl
  | casMoved j hc => exact tinv_keepT T hl id
  | storeLow j lo hi => exact tinv_keepT T hl id
  | storeHigh j hi => exact tinv_keepT T hl id
  | storeMoved j => exact tinv_keepT T hl id
  | commit => exact tinv_keepT T hl id

theorem getCell_post_alloc {s : State} {t : Nat} {l' : Local} {hnew : List (Nat × Call)} (g j : Nat) :
    getCell (post s t l' hnew .alloc) g j = getCell s g j :=
  getD2_append_replicate s.tabs _ g j .empty

theorem getLock_post_alloc {s : State} {t : Nat} {l' : Local} {hnew : List (Nat × Call)} (g j : Nat) :
    getLock (post s t l' hnew .alloc) g j = getLock s g j :=
  getD2_append_replicate s.locks _ g j none

theorem row_append {α : Type} {xs : List (List α)} {r : List α} {n g : Nat} (hx : ∀ g, g < xs.length → (xs.getD g []).length = 2 ^ g)
    (hn : xs.length = n) (hr : r.length = 2 ^ n) (hg : g < xs.length + 1) : ((xs ++ [r]).getD g []).length = 2 ^ g := by
  rw [List.getD_eq_getElem?_getD]
  by_cases hlt : g < xs.length
  · rw [List.getElem?_append_left hlt, ← List.getD_eq_getElem?_getD]; exact hx g hlt
  · have hge : g = xs.length := Nat.le_antisymm (Nat.le_of_lt_succ hg) (Nat.le_of_not_lt hlt)
    subst hge
    rw [List.getElem?_append_right (Nat.le_refl _), Nat.sub_self, hn]
    exact hr

theorem PcOK.rz_of_isT {s : State} {t key : Nat} {pc : Pc} (h : PcOK s t key pc) (hT : isT pc) :
    s.resizing = true := by
  cases pc <;> first | exact hT.elim | exact h | exact h.1

theorem Inv.noT {s : State} (I : Inv s) (hr : s.resizing = false) {t1 : Nat} {l1 : Local}
    (h1 : s.threads[t1]? = some l1) : ¬ isT l1.pc :=
  fun hT => Bool.false_ne_true (hr.symm.trans ((I.pc t1 l1 h1).rz_of_isT hT))

theorem inv_alloc {s : State} {t : Nat} {call : Option Pending} (I : Inv s) (hr : s.resizing = false)
    (T' : TInv (post s t ⟨.tNext, call⟩ [] .alloc)) : Inv (post s t ⟨.tNext, call⟩ [] .alloc) := by
  have hlen : s.tabs.length = s.cur + 1 := by
    have := I.shape.len; rw [hr] at this; exact this
  refine ⟨⟨?_, ?_, ?_, ?_⟩, T', ?_, ?_, ?_, ?_, ?_, ?_⟩
  · show (s.tabs ++ [_]).length = s.cur + 1 + 1
    rw [List.length_append, hlen]; rfl
  · show (s.locks ++ [_]).length = (s.tabs ++ [_]).length
    rw [List.length_append, List.length_append, I.shape.llen]; rfl
  · exact fun g hg => row_append I.shape.row hlen List.length_replicate (Nat.lt_of_lt_of_eq hg List.length_append)
  · exact fun g hg => row_append (fun g hg => I.shape.lrow g (I.shape.llen ▸ hg)) (I.shape.llen.trans hlen)
      List.length_replicate (I.shape.llen ▸ Nat.lt_of_lt_of_eq hg List.length_append)
  · intro g j hg hj; rw [getCell_post_alloc]; exact I.old g j hg hj
  · intro g j hg; rw [getCell_post_alloc]; exact I.newer g j hg
  · intro h; cases h
  · intro j' hpar hno
    rw [getCell_post_alloc] at hpar ⊢
    exact I.child j' hpar (fun t1 l1 h1 hm => I.noT hr h1 hm.isT)
  · intro t1 l1 h1
    rcases get_set (l := s.threads) h1 with ⟨rfl, rfl⟩ | ⟨_, h1⟩
    · rfl
    · exact (I.pc t1 l1 h1).keeps (Keeps.of_same (s := s) rfl (fun _ => rfl) getCell_post_alloc getLock_post_alloc)
  · intro t1 t2 l1 l2 h1 h2 hT1 hT2
    rcases get_set (l := s.threads) h1 with ⟨e1, _⟩ | ⟨_, h1'⟩
    · rcases get_set (l := s.threads) h2 with ⟨e2, _⟩ | ⟨_, h2'⟩
      · rw [e1, e2]
      · exact absurd hT2 (I.noT hr h2')
    · exact absurd hT1 (I.noT hr h1')

theorem PcOK.commit {s s' : State} {t1 key : Nat} {pc : Pc} (hcur : s'.cur = s.cur + 1)
    (hc : ∀ g j, getCell s' g j = getCell s g j) (hk : ∀ g j, getLock s' g j = getLock s g j)
    (hT : ¬ isT pc) (h : PcOK s t1 key pc) : PcOK s' t1 key pc := by
  have hf : ∀ g j, Fwd s g j → Fwd s' g j := by
    intro g j hf
    unfold Fwd
    rw [hcur]
    exact ⟨Nat.le_succ_of_le hf.1, fun hg => absurd (hg ▸ hf.1) (Nat.not_succ_le_self _)⟩
  cases pc with
  | idle | rTable | wTable => trivial
  | rCell g | wCell g | wCas g | wLock g => exact hf _ _ h
  | wCheck g | wUnlock g res retry => exact ⟨hf _ _ h.1, (hk _ _).trans h.2⟩
  | wStore g => exact ⟨hf _ _ h.1, (hk _ _).trans h.2.1, (hc _ _).symm ▸ h.2.2⟩
  | _ => exact absurd trivial hT

theorem inv_commit {s : State} {t : Nat} (I : Inv s) (hl : s.threads[t]? = some ⟨.tCommit, none⟩)
    (T' : TInv (post s t ⟨.idle, none⟩ [] .commit)) : Inv (post s t ⟨.idle, none⟩ [] .commit) := by
  obtain ⟨hrz, hall⟩ := I.pc t _ hl
  have hlen := I.len_rz hrz
  refine ⟨⟨?_, I.shape.llen, I.shape.row, I.shape.lrow⟩, T', ?_, ?_, ?_, ?_, ?_, ?_⟩
  · show s.tabs.length = s.cur + 1 + 1 + 0
    exact hlen
  · intro g j hg hj
    show getCell s g j = .moved
    have hg' : g < s.cur + 1 := hg
    by_cases he : g = s.cur
    · subst he; exact hall j hj
    · exact I.old g j (Nat.lt_of_le_of_ne (Nat.le_of_lt_succ hg') he) hj
  · intro g j hg
    have hg' : s.cur + 1 < g := hg
    exact I.newer g j (Nat.lt_of_succ_lt hg')
  · exact fun _ j => I.newer _ j (Nat.lt_succ_self _)
  · intro j' _ _
    exact getCell_oob (s := s) (g := s.cur + 1 + 1) (Nat.le_of_eq hlen)
  · intro t1 l1 h1
    rcases get_set (l := s.threads) h1 with ⟨rfl, rfl⟩ | ⟨hne, h1⟩
    · trivial
    · exact (I.pc t1 l1 h1).commit rfl (fun _ _ => rfl) (fun _ _ => rfl)
        (fun hT1 => hne (I.uniqT t1 t l1 _ h1 hl hT1 trivial))
  · intro t1 t2 l1 l2 h1 h2 hT1 hT2
    rcases get_set (l := s.threads) h1 with ⟨e1, e1'⟩ | ⟨hne1, h1'⟩
    · rw [e1'] at hT1; exact False.elim hT1
    · rcases get_set (l := s.threads) h2 with ⟨e2, e2'⟩ | ⟨hne2, h2'⟩
      · rw [e2'] at hT2; exact False.elim hT2
      · exact I.uniqT _ _ _ _ h1' h2' hT1 hT2

theorem Fwd.of_tabs {s s' : State} {g j : Nat} (ht : s'.tabs = s.tabs) (hc : s'.cur = s.cur) (h : Fwd s g j) :
    Fwd s' g j := by
  unfold Fwd at h ⊢
  rw [hc, getCell_congr ht]; exact h

theorem PcOK.post_none {s : State} {t t1 key : Nat} {pc : Pc} {l' : Local} {hnew : List (Nat × Call)}
    (h : PcOK s t1 key pc) : PcOK (post s t l' hnew .none) t1 key pc :=
  h.keeps (Keeps.of_same (s := s) rfl id (getCell_congr rfl) (getLock_congr rfl))

theorem getLock_post_lock_self {s : State} (I : Inv s) {t : Nat} {l' : Local} {hnew : List (Nat × Call)}
    {g j : Nat} {x : Option Nat} (hg : g < s.tabs.length) (hj : j < 2 ^ g) :
    getLock (post s t l' hnew (.lock g j x)) g j = x := by
  rw [getLock_post_lock I hg hj, if_pos ⟨rfl, rfl⟩]

theorem getCell_post_child {s : State} (I : Inv s) {t : Nat} {l' : Local} {hnew : List (Nat × Call)} {j : Nat}
    {c : Cell} (hrz : s.resizing = true) (hj : j < 2 ^ (s.cur + 1)) (g' j' : Nat) :
    getCell (post s t l' hnew (.cell (s.cur + 1) j c)) g' j' =
      if g' = s.cur + 1 ∧ j' = j then c else getCell s g' j' :=
  getCell_post_cell I (by rw [I.len_rz hrz]; exact Nat.lt_succ_self _) hj g' j'

theorem mayWrite_child {s : State} {t j j' : Nat} {xs : List Entry} {pc' : Pc} (h2 : j < 2 ^ s.cur)
    (h3 : getLock s s.cur j = some t) (h4 : getCell s s.cur j = .list xs) (hj' : j' = j ∨ j' = j + 2 ^ s.cur)
    (hmid : MidAt pc' j) : MayWrite s t pc' (s.cur + 1) j' := by
  have hm : j' % 2 ^ s.cur = j := by
    rcases hj' with rfl | rfl
    · exact Nat.mod_eq_of_lt h2
    · exact add_pow_mod h2
  refine .inr ⟨rfl, ?_, ?_, ?_⟩
  · rw [hm]; exact h3
  · rw [hm, h4]; rfl
  · rw [hm]; exact hmid

theorem stepK_inv {s s' : State} {t : Nat} {l : Local} (I : Inv s) (hl : s.threads[t]? = some l)
    (hstep : StepK s t l s') : Inv s' := by
  have h0 := I.pc t l hl
  have T' := stepK_tinv I.thr hl hstep
  cases hstep with
  | idle call => exact inv_eff I hl (eff_none I) T' trivial id (fun _ h => .inl h)
  | invoke call k op =>
    refine inv_eff I hl (eff_none I) T' ?_ ?_ (fun _ => False.elim)
    · show PcOK _ t _ (if isReader op then .rTable else .wTable)
      cases isReader op <;> trivial
    · show isT (if isReader op then .rTable else .wTable) → _
      cases isReader op <;> exact False.elim
  | resize call hr => exact inv_alloc I hr T'
  | move p pc pc' hm =>
    exact inv_eff I hl (eff_none I) T' (hm.pcOK I h0).post_none (fun h => absurd h hm.not_isT)
      (fun j h => absurd h (hm.not_mid j))
  | tmove pc pc' hm =>
    exact inv_eff I hl (eff_none I) T' (hm.pcOK I hl h0).post_none (fun _ => hm.isT.1)
      (fun j h => absurd h (hm.not_mid j))
  | acq call pc g j pc' ha hfree =>
    have e := eff_lock (t := t) (l' := ⟨pc', call⟩) (hnew := []) (x := some t) I (.inl hfree)
    cases ha with
    | w =>
      exact inv_eff I hl e T' ⟨h0.of_tabs rfl rfl, getLock_post_lock_self I (I.inb h0) (ix_lt _ _)⟩ False.elim
        (fun _ => False.elim)
    | t =>
      exact inv_eff I hl e T'
        ⟨h0.1, h0.2, getLock_post_lock_self I (Nat.lt_of_lt_of_le (Nat.lt_succ_self _) I.len_ge) h0.2⟩
        (fun _ => trivial) (fun _ => False.elim)
  | rel call pc g j pc' hrel =>
    cases hrel with
    | w =>
      exact inv_eff I hl (eff_lock I (.inr h0.2)) T' (h0.1.of_tabs rfl rfl) False.elim (fun _ => False.elim)
    | tFail _ =>
      exact inv_eff I hl (eff_lock I (.inr h0.2.2)) T' ⟨h0.1, h0.2.1⟩ (fun _ => trivial) (fun _ => False.elim)
    | t => exact inv_eff I hl (eff_lock I (.inr h0.2.2)) T' h0.1 (fun _ => trivial) (fun _ => False.elim)
  | fin p pc res hf =>
    exact inv_eff I hl (eff_none I) T' trivial False.elim (fun q h => absurd h (hf.not_mid q))
  | cas p g v vi hc hop =>
    exact inv_eff I hl (eff_cell I (.inl ⟨h0, .inl hc⟩) nofun) T' trivial False.elim (fun _ => False.elim)
  | store p g =>
    obtain ⟨hf, hlk, hlist⟩ := h0
    have e := eff_cell (t := t) (l' := ⟨.wUnlock g (storeRes s g p) false, some p⟩) (hnew := [])
      (c := storeCell s g p) I (.inl ⟨hf, .inr ⟨hlk, hlist⟩⟩) (fun h => absurd h (mkCell_ne_moved _))
    exact inv_eff I hl e T' ⟨⟨hf.1, fun hg => e.moved I (hf.2 hg)⟩, hlk⟩ False.elim (fun _ => False.elim)
  | unlockFin p g res =>
    exact inv_eff I hl (eff_lock I (.inr h0.2)) T' trivial False.elim (fun _ => False.elim)
  | casMoved j hc =>
    exact inv_eff I hl (eff_cell I (.inl ⟨fwd_cur s j, .inl hc⟩) (fun _ => ⟨rfl, h0.1⟩)) T' h0.1
      (fun _ => trivial) (fun _ => False.elim)
  | storeLow j lo hi =>
    obtain ⟨h1, h2, h3, xs, h4, h5, h6, h7, h8⟩ := h0
    have hne : j + 2 ^ s.cur ≠ j := Nat.ne_of_gt (Nat.lt_add_of_pos_right (Nat.two_pow_pos _))
    have hg := getCell_post_child (t := t) (l' := ⟨.tStoreHigh j hi, none⟩) (hnew := []) (c := lo) I h1
      (Nat.lt_of_lt_of_le h2 (Nat.pow_le_pow_right Nat.two_pos (Nat.le_succ _)))
    refine inv_eff I hl
      (eff_cell I (mayWrite_child h2 h3 h4 (.inl rfl) rfl) (fun h => absurd (h5 ▸ h) (mkCell_ne_moved _)))
      T' ⟨h1, h2, h3, xs, ?_, ?_, h6, ?_⟩ (fun _ => trivial) (fun _ => False.elim)
    · exact (hg _ _).trans ((if_neg (fun h => Nat.succ_ne_self _ h.1.symm)).trans h4)
    · exact (hg _ _).trans ((if_pos ⟨rfl, rfl⟩).trans h5)
    · exact (hg _ _).trans ((if_neg (fun h => hne h.2)).trans h8)
  | storeHigh j hi =>
    obtain ⟨h1, h2, h3, xs, h4, h5, h6, h8⟩ := h0
    have hne : j + 2 ^ s.cur ≠ j := Nat.ne_of_gt (Nat.lt_add_of_pos_right (Nat.two_pow_pos _))
    have hg := getCell_post_child (t := t) (l' := ⟨.tStoreMoved j, none⟩) (hnew := []) (c := hi) I h1
      (by rw [Nat.pow_succ, Nat.mul_two]; exact Nat.add_lt_add_right h2 _ : j + 2 ^ s.cur < 2 ^ (s.cur + 1))
    refine inv_eff I hl
      (eff_cell I (mayWrite_child h2 h3 h4 (.inr rfl) rfl) (fun h => absurd (h6 ▸ h) (mkCell_ne_moved _)))
      T' ⟨h1, h2, h3, xs, ?_, ?_, ?_⟩ (fun _ => trivial) (fun _ h => .inl h)
    · exact (hg _ _).trans ((if_neg (fun h => Nat.succ_ne_self _ h.1.symm)).trans h4)
    · exact (hg _ _).trans ((if_neg (fun h => hne h.2.symm)).trans h5)
    · exact (hg _ _).trans ((if_pos ⟨rfl, rfl⟩).trans h6)
  | storeMoved j =>
    obtain ⟨h1, h2, h3, xs, h4, h5, h8⟩ := h0
    refine inv_eff I hl
      (eff_cell I (.inl ⟨fwd_cur s j, .inr ⟨h3, by rw [h4]; rfl⟩⟩) (fun _ => ⟨rfl, h1⟩)) T' ⟨h1, h2, h3⟩
      (fun _ => trivial) ?_
    intro q (hq : j = q)
    subst hq
    exact .inr ((getCell_post_cell I (Nat.lt_of_lt_of_le (Nat.lt_succ_self _) I.len_ge) h2 _ _).trans
      (if_pos ⟨rfl, rfl⟩))
  | commit => exact inv_commit I hl T'

theorem init_thread {n t : Nat} {l : Local} (h : (init n).threads[t]? = some l) : l = {} := by
  have := List.mem_of_getElem? h
  exact List.eq_of_mem_replicate this

theorem getCell_init (n g j : Nat) : getCell (init n) g j = .empty :=
  getD2_singleton Cell.empty g j

theorem inv_init (n : Nat) : Inv (init n) := by
  have hc : ∀ g j, getCell (init n) g j ≠ .moved := fun g j => by rw [getCell_init]; nofun
  refine ⟨⟨rfl, rfl, ?_, ?_⟩, ⟨?_, ?_, ?_, ?_, ?_, ?_, .nil⟩, ?_, fun g j _ => hc g j, fun _ j => hc _ j,
    fun j' _ _ => getCell_init .., ?_, ?_⟩
  · intro g hg; cases Nat.lt_one_iff.1 hg; rfl
  · intro g hg; cases Nat.lt_one_iff.1 hg; rfl
  · intro t l p h hc; cases init_thread h; cases hc
  · intro t l h; cases init_thread h; exact ⟨False.elim, nofun⟩
  · intro x hx; cases hx
  · intro t l p h hc; cases init_thread h; cases hc
  · intro x hx; cases hx
  · intro t t' l l' p p' h _ hc; cases init_thread h; cases hc
  · intro g j hg; cases hg
  · intro t l h; cases init_thread h; trivial
  · intro t t' l l' h _ hT; cases init_thread h; exact hT.elim

theorem reachable_inv {n : Nat} {s : State} (hr : Reachable n s) : Inv s :=
  reachable_induction (inv_init n) (fun _ I hl h => stepK_inv I hl h) hr

end Flurry.Proto.BinNA
