import Flurry.Lemmas.BinKStep
/-! # Lock words and the threads that own them

A family of lock words `w : Nat → Option Nat` (the lock words of the nodes of a heap, the mutexes of the
`TreeBin`s) and a list of threads whose local state says which word they hold (`holds`).
* `Owned holds threads w`: word `i` is `some t` exactly when thread `t` says it holds `i`;
* `WordFun w w' t a a'`: the words after a step of thread `t` that held `a` and now holds `a'`
  (`wordfun_same` / `_acq` / `_rel`: nothing changes, one word is acquired, one word is released);
* `Owned.step`: `Owned` after such a step; `Owned.holder`, `Owned.free`: a taken word has a holder, and without
  holders no word is taken;
* `RwOK`: the read-write lock words of a table of `TreeBin`s agree with the threads (`RwOK.gen`, `RwOK.bin`: after a
  step that leaves the synchronisation words alone / changes those of one `TreeBin`).

`Owned` and `WordFun` are about any family of words. The second half is about the heap and the `TreeBin` table of
`Proto/BinK` (its `NodeS`, `TBin`, `lockSet`), which `Proto/BinG` and `Proto/BinGN` share; no `State` occurs. The step
lemmas (`WordFun`, `Owned.step`, `RwOK.gen`, `RwOK.bin` and what they are made of, `lock_lockSet`, `mutex_modify`) have
one user, `Lemmas/BinGNPLock.lean`, which instantiates `holds`, `w` (`LockFun`, `MutexFun`) and the classifiers, cells
and `priv` of `RwOK` (`rwPart_iff`). `Proto/BinG` and `Proto/BinK` only read their lock invariant as `Owned` / `RwOK`
(`lkOwned`, `mxOwned`, `rwOK` of `Lemmas/BinGLock.lean`; `mxOwned` of `Lemmas/BinKLock.lean`). The wait-for and
quiescence lemmas of `BinG` and `BinGN` take `Owned.holder`, `Owned.free`, `RwOK.reader`, `RwOK.no_readers` from these
readings. `RwOK` is the lock protocol of `Shared.LockView` (`Lemmas/SharedBasic.lean`: one tree bin, seen from one
thread, used by `Proto/BinT` and `Proto/BinU`) for a table of `TreeBin`s that come and go, stated for all threads at
once. -/
namespace Flurry.Proto.LockWord
open Flurry.Proto.BinK (NodeS TBin nodeAt binAt lockSet nodeAt_modify binAt_modify)
open Flurry.Shared (get_set count_set)

structure Owned {α : Type} (holds : α → Option Nat) (threads : List α) (w : Nat → Option Nat) : Prop where
  own : ∀ (t : Nat) (l : α) (i : Nat), threads[t]? = some l → (holds l = some i ↔ w i = some t)
  lt : ∀ i x, w i = some x → x < threads.length

def WordFun (w w' : Nat → Option Nat) (t : Nat) (a a' : Option Nat) : Prop :=
  ∀ i, w' i = if a' = some i then some t else if a = some i then none else w i

theorem wordfun_same {w w' : Nat → Option Nat} {t : Nat} {a a' : Option Nat} (hw : ∀ i, w' i = w i) (e : a' = a)
    (ha : ∀ i, a = some i → w i = some t) : WordFun w w' t a a' := by
  intro i
  rw [hw, e]
  split
  · exact ha i ‹_›
  · rfl

theorem wordfun_acq {w w' : Nat → Option Nat} {t i0 : Nat} {a a' : Option Nat} (e0 : a = none) (e1 : a' = some i0)
    (hw : ∀ i, w' i = if i0 = i then some t else w i) : WordFun w w' t a a' := by
  intro i
  rw [hw, e0, e1, if_neg (nofun : ¬ none = some i)]
  by_cases h : i0 = i
  · rw [if_pos h, if_pos (congrArg some h)]
  · rw [if_neg h, if_neg (fun x => h (Option.some.inj x))]

theorem wordfun_rel {w w' : Nat → Option Nat} {t i0 : Nat} {a a' : Option Nat} (e0 : a = some i0) (e1 : a' = none)
    (hw : ∀ i, w' i = if i0 = i then none else w i) : WordFun w w' t a a' := by
  intro i
  rw [hw, e0, e1, if_neg (nofun : ¬ none = some i)]
  by_cases h : i0 = i
  · rw [if_pos h, if_pos (congrArg some h)]
  · rw [if_neg h, if_neg (fun x => h (Option.some.inj x))]

theorem WordFun.other {w w' : Nat → Option Nat} {t : Nat} {a a' : Option Nat} (hf : WordFun w w' t a a') {i x : Nat}
    (hx : w' i = some x) (hne : x ≠ t) : w i = some x := by
  rw [hf i] at hx
  split at hx
  · exact absurd (Option.some.inj hx).symm hne
  · split at hx
    · cases hx
    · exact hx

/-- Only the stepping thread's holding changes, and it acquires only a free word. -/
theorem Owned.step {α : Type} {holds : α → Option Nat} {threads : List α} {w w' : Nat → Option Nat} {t : Nat}
    {l l' : α} (O : Owned holds threads w) (hl : threads[t]? = some l)
    (hf : WordFun w w' t (holds l) (holds l'))
    (hacq : ∀ i, holds l' = some i → holds l = some i ∨ w i = none) : Owned holds (threads.set t l') w' := by
  refine ⟨?_, ?_⟩
  · intro t1 l1 i h1
    rw [hf i]
    rcases get_set h1 with ⟨rfl, rfl⟩ | ⟨hne, h1⟩
    · by_cases hp : holds l1 = some i
      · rw [if_pos hp]; exact ⟨fun _ => rfl, fun _ => hp⟩
      · rw [if_neg hp]
        refine ⟨fun h => absurd h hp, fun h => ?_⟩
        by_cases hq : holds l = some i
        · rw [if_pos hq] at h; cases h
        · rw [if_neg hq] at h; exact absurd ((O.own t1 l i hl).2 h) hq
    · -- another thread's word is neither the one released nor the one acquired
      have hno : ∀ {x}, w i = some x → holds l1 = some i → x ≠ t := fun hx h e =>
        hne (Option.some.inj (((O.own t1 l1 i h1).1 h).symm.trans (e ▸ hx)))
      by_cases hp : holds l' = some i
      · rw [if_pos hp]
        refine ⟨fun h => ?_, fun h => absurd (Option.some.inj h).symm hne⟩
        rcases hacq i hp with h4 | h4
        · exact absurd rfl (hno ((O.own t l i hl).1 h4) h)
        · rw [(O.own t1 l1 i h1).1 h] at h4; cases h4
      · rw [if_neg hp]
        by_cases hq : holds l = some i
        · rw [if_pos hq]
          exact ⟨fun h => absurd rfl (hno ((O.own t l i hl).1 hq) h), nofun⟩
        · rw [if_neg hq]; exact O.own t1 l1 i h1
  · intro i x hx
    rw [List.length_set]
    by_cases hxt : x = t
    · rw [hxt]; exact (List.getElem?_eq_some_iff.1 hl).1
    · exact O.lt i x (hf.other hx hxt)

/-- the thread that holds a taken word. (`Shared.LockView.holder` is a step lemma of the one-thread view: the mutex
holder stays inside.) -/
theorem Owned.holder {α : Type} {holds : α → Option Nat} {threads : List α} {w : Nat → Option Nat}
    (O : Owned holds threads w) {i x : Nat} (h : w i = some x) : ∃ l, threads[x]? = some l ∧ holds l = some i :=
  have hl := List.getElem?_eq_getElem (O.lt i x h)
  ⟨_, hl, (O.own x _ i hl).2 h⟩

theorem Owned.free {α : Type} {holds : α → Option Nat} {threads : List α} {w : Nat → Option Nat}
    (O : Owned holds threads w) (hq : ∀ l ∈ threads, holds l = none) (i : Nat) : w i = none := by
  cases h : w i with
  | none => rfl
  | some x =>
    obtain ⟨l, hl, hh⟩ := O.holder h
    rw [hq l (List.mem_of_getElem? hl)] at hh
    cases hh

theorem lock_lockSet {heap : List NodeS} {h0 : Nat} (hlt : h0 < heap.length) (x : Option Nat) (h : Nat) :
    (nodeAt (lockSet heap h0 x) h).lock = if h0 = h then x else (nodeAt heap h).lock := by
  unfold lockSet
  rw [nodeAt_modify]
  by_cases e : h0 = h
  · rw [if_pos e, if_pos ⟨e, e ▸ hlt⟩]
  · rw [if_neg e, if_neg (fun x => e x.1)]

theorem mutex_modify {tbins : List TBin} {b0 : Nat} (hlt : b0 < tbins.length) (x : Option Nat) (b : Nat) :
    (binAt (tbins.modify b0 (fun y => { y with mutex := x })) b).mutex =
      if b0 = b then x else (binAt tbins b).mutex := by
  rw [binAt_modify]
  by_cases e : b0 = b
  · rw [if_pos e, if_pos ⟨e, e ▸ hlt⟩]
  · rw [if_neg e, if_neg (fun x => e x.1)]

/-! ## the read-write locks of a table of `TreeBin`s

Of a `TBin`, `mutex` is `TreeBin::lock` (the bin lock of a tree bin), `writer` and `waiter` are the `WRITER` and `WAITER`
bits of `lock_state` and `readers` is its reader count. Threads `thr` work on the table `tb`: `cell id b` says that cell
`id` holds `TreeBin` `b`, `priv b` that `b` is still private to the thread that builds it. A thread's local state is
classified by `wr` (holds the write lock), `isLoop` (in the `contended_lock` loop, where `WAITER` may be set),
`holdsRead` (the `TreeBin` whose read lock it holds), `holdsMutex` (the `TreeBin` whose mutex it holds) and `binRef`
(the `TreeBin` its program counter refers to). Thread `t` steps from `l` to `l'`; primed letters are the successor state. -/

section rw
variable {α ι : Type} (wr isLoop : α → Bool) (holdsRead binRef : α → Option Nat)

/-- the synchronisation words of the `TreeBin`s agree with what the threads say they hold -/
structure RwOK (tb : List TBin) (thr : List α) (cell : ι → Nat → Prop) (priv : Nat → Prop) : Prop where
  /-- without a mutex holder both bits of a `TreeBin` in a cell are clear -/
  bitsNone : ∀ id b, cell id b → (binAt tb b).mutex = none →
    (binAt tb b).writer = false ∧ (binAt tb b).waiter = false
  /-- only the mutex holder sets the bits: `WRITER` while it holds the write lock, `WAITER` only in its waiting loop -/
  bitsSome : ∀ id b (t : Nat) l, cell id b → thr[t]? = some l → (binAt tb b).mutex = some t →
    (binAt tb b).writer = wr l ∧ ((binAt tb b).waiter = true → isLoop l = true)
  /-- the reader count is the number of threads that hold the read lock -/
  rd : ∀ b, b < tb.length → (binAt tb b).readers = (thr.filter (fun l => holdsRead l == some b)).length
  /-- the write lock excludes readers -/
  wrd : ∀ b, (binAt tb b).writer = true → (binAt tb b).readers = 0
  /-- a thread refers only to a `TreeBin` of the table that has been published -/
  refOK : ∀ (t : Nat) l b, thr[t]? = some l → binRef l = some b → b < tb.length ∧ ¬ priv b

variable {wr isLoop holdsRead binRef} {holdsMutex : α → Option Nat} {tb tb' : List TBin} {thr thr' : List α}
  {cell cell' : ι → Nat → Prop} {priv priv' : Nat → Prop} {t : Nat} {l l' : α}
  (R : RwOK wr isLoop holdsRead binRef tb thr cell priv) (hl : thr[t]? = some l) (hthr : thr' = thr.set t l')
  (href : ∀ b, binRef l' = some b → binRef l = some b ∨ (b < tb.length ∧ ¬ priv b))
  (hpriv : ∀ b, b < tb.length → priv' b → priv b)
include R hl hthr

theorem RwOK.rd_step {b : Nat} (hb : b < tb.length)
    (hrd : (binAt tb' b).readers + (if holdsRead l = some b then 1 else 0) =
      (binAt tb b).readers + (if holdsRead l' = some b then 1 else 0)) :
    (binAt tb' b).readers = (thr'.filter (fun l => holdsRead l == some b)).length := by
  have h1 := count_set (fun l => holdsRead l == some b) thr t l l' hl
  simp only [beq_iff_eq] at h1
  rw [hthr]
  rw [R.rd b hb] at hrd
  exact Nat.add_right_cancel (hrd.trans h1.symm)

theorem RwOK.bits_keep {b : Nat} (hmx : (binAt tb b).mutex = some t → holdsMutex l = some b)
    (hcell : ∀ id, cell' id b → (∃ id0, cell id0 b) ∨
      ((binAt tb b).mutex = none ∧ (binAt tb b).writer = false ∧ (binAt tb b).waiter = false))
    (hsync : (binAt tb' b).mutex = (binAt tb b).mutex ∧
      (binAt tb' b).writer = (binAt tb b).writer ∧ (binAt tb' b).waiter = (binAt tb b).waiter)
    (hkeep : holdsMutex l = some b → (∃ id, cell' id b) → wr l' = wr l ∧ (isLoop l = true → isLoop l' = true)) :
    (∀ id, cell' id b → (binAt tb' b).mutex = none →
      (binAt tb' b).writer = false ∧ (binAt tb' b).waiter = false) ∧
    (∀ id (t1 : Nat) l1, cell' id b → thr'[t1]? = some l1 → (binAt tb' b).mutex = some t1 →
      (binAt tb' b).writer = wr l1 ∧ ((binAt tb' b).waiter = true → isLoop l1 = true)) := by
  rw [hsync.1, hsync.2.1, hsync.2.2]
  constructor
  · intro id hc hm
    rcases hcell id hc with ⟨id0, hc0⟩ | hd
    · exact R.bitsNone id0 b hc0 hm
    · exact hd.2
  · intro id t1 l1 hc h1 hm
    rcases hcell id hc with ⟨id0, hc0⟩ | hd
    · rw [hthr] at h1
      rcases get_set h1 with ⟨rfl, rfl⟩ | ⟨_, h1⟩
      · obtain ⟨b1, b2⟩ := R.bitsSome id0 b t1 l hc0 hl hm
        obtain ⟨f1, f2⟩ := hkeep (hmx hm) ⟨id, hc⟩
        exact ⟨by rw [f1]; exact b1, fun hw => f2 (b2 hw)⟩
      · exact R.bitsSome id0 b t1 l1 hc0 h1 hm
    · rw [hd.1] at hm; cases hm

include href

theorem RwOK.refOK_old : ∀ (t1 : Nat) l1 b, thr'[t1]? = some l1 → binRef l1 = some b → b < tb.length ∧ ¬ priv b := by
  intro t1 l1 b h1 hr
  rw [hthr] at h1
  rcases get_set h1 with ⟨rfl, rfl⟩ | ⟨_, h1⟩
  · rcases href b hr with h2 | h2
    · exact R.refOK t1 l b hl h2
    · exact h2
  · exact R.refOK t1 l1 b h1 hr

include hpriv

theorem RwOK.refOK_step (htlen : tb.length ≤ tb'.length) :
    ∀ (t1 : Nat) l1 b, thr'[t1]? = some l1 → binRef l1 = some b → b < tb'.length ∧ ¬ priv' b := by
  intro t1 l1 b h1 hr
  obtain ⟨hb, hp⟩ := R.refOK_old hl hthr href t1 l1 b h1 hr
  exact ⟨Nat.lt_of_lt_of_le hb htlen, fun h => hp (hpriv b hb h)⟩

/-- a step that leaves mutex, `writer` and `waiter` of every `TreeBin` alone; `TreeBin`s may be appended and cells may
change. `hcell`: a `TreeBin` in a cell after the step was in some cell before it or has clear synchronisation words.
`hsync` is asked for every `b`, also beyond the table, where `binAt` is the default bin: an appended `TreeBin` has the
synchronisation words of the default bin. `hkeep` (a thread that holds the mutex of `b` keeps `wr` and stays in the
loop) is asked only for a `b` that is still in a cell: a bin taken out of its cell is no longer constrained. -/
theorem RwOK.gen (hmx : ∀ b, (binAt tb b).mutex = some t → holdsMutex l = some b)
    (hRB : ∀ {l b}, holdsRead l = some b → binRef l = some b)
    (hcell : ∀ id b, cell' id b → (∃ id0, cell id0 b) ∨
      ((binAt tb b).mutex = none ∧ (binAt tb b).writer = false ∧ (binAt tb b).waiter = false))
    (htlen : tb.length ≤ tb'.length)
    (hsync : ∀ b, (binAt tb' b).mutex = (binAt tb b).mutex ∧
      (binAt tb' b).writer = (binAt tb b).writer ∧ (binAt tb' b).waiter = (binAt tb b).waiter)
    (hrd : ∀ b, b < tb.length → (binAt tb' b).readers + (if holdsRead l = some b then 1 else 0) =
      (binAt tb b).readers + (if holdsRead l' = some b then 1 else 0))
    (hnew : ∀ b, tb.length ≤ b → b < tb'.length → (binAt tb' b).readers = 0)
    (hwrd : ∀ b, (binAt tb b).writer = true → (binAt tb' b).readers = 0)
    (hkeep : ∀ b, holdsMutex l = some b → (∃ id, cell' id b) →
      wr l' = wr l ∧ (isLoop l = true → isLoop l' = true)) :
    RwOK wr isLoop holdsRead binRef tb' thr' cell' priv' := by
  have keep := fun b => R.bits_keep hl hthr (hmx b) (fun id => hcell id b) (hsync b) (hkeep b)
  refine ⟨fun id b => (keep b).1 id, fun id b => (keep b).2 id, ?_, ?_, R.refOK_step hl hthr href hpriv htlen⟩
  · intro b hb
    by_cases hbo : b < tb.length
    · exact R.rd_step hl hthr hbo (hrd b hbo)
    · -- nobody holds a read lock of a `TreeBin` beyond the old table
      rw [hnew b (Nat.le_of_not_lt hbo) hb, eq_comm, List.length_eq_zero_iff, List.filter_eq_nil_iff]
      intro l1 hl1 hr
      obtain ⟨t1, hl1'⟩ := List.mem_iff_getElem?.1 hl1
      exact hbo (R.refOK_old hl hthr href t1 l1 b hl1' (hRB (beq_iff_eq.1 hr))).1
  · intro b hw
    rw [(hsync b).2.1] at hw
    exact hwrd b hw

/-- a step in which thread `t` changes mutex, `writer` or `waiter` of the one `TreeBin` `b0`, whose mutex it holds or
acquires (`hmine`, `hmf`); cells and table length stay. The three `hbits*` say what the bits of `b0` are after the
step according to who holds its mutex then: `t`, nobody, another thread (whose bits `t` must have left alone). -/
theorem RwOK.bin {b0 : Nat} (hmx : ∀ b, (binAt tb b).mutex = some t → holdsMutex l = some b)
    (hcell : ∀ id b, cell' id b ↔ cell id b) (htlen : tb'.length = tb.length)
    (hbin : ∀ b, b ≠ b0 → binAt tb' b = binAt tb b)
    (hrd0 : (binAt tb' b0).readers = (binAt tb b0).readers)
    (hmine : holdsMutex l = none ∨ holdsMutex l = some b0)
    (hmf : WordFun (fun b => (binAt tb b).mutex) (fun b => (binAt tb' b).mutex) t (holdsMutex l) (holdsMutex l'))
    (hbitsT : (∃ id, cell id b0) → (binAt tb' b0).mutex = some t →
      (binAt tb' b0).writer = wr l' ∧ ((binAt tb' b0).waiter = true → isLoop l' = true))
    (hbitsNone : (∃ id, cell id b0) → (binAt tb' b0).mutex = none →
      (binAt tb' b0).writer = false ∧ (binAt tb' b0).waiter = false)
    (hbitsOther : ∀ x, x ≠ t → (binAt tb' b0).mutex = some x →
      (binAt tb' b0).writer = (binAt tb b0).writer ∧ (binAt tb' b0).waiter = (binAt tb b0).waiter)
    (hwrd0 : (binAt tb' b0).writer = true → (binAt tb b0).readers = 0)
    (hread : holdsRead l' = holdsRead l) : RwOK wr isLoop holdsRead binRef tb' thr' cell' priv' := by
  have hrd : ∀ b, (binAt tb' b).readers = (binAt tb b).readers := by
    intro b
    by_cases hb : b = b0
    · rw [hb]; exact hrd0
    · rw [hbin b hb]
  -- the other `TreeBin`s are untouched, and `t` holds the mutex of none of them
  have keep := fun b (hb : b ≠ b0) => R.bits_keep hl hthr (b := b) (hmx b)
    (fun id hc => Or.inl ⟨id, (hcell id b).1 hc⟩) (by rw [hbin b hb]; exact ⟨rfl, rfl, rfl⟩)
    (fun hh => by
      rcases hmine with h2 | h2
      · rw [h2] at hh; cases hh
      · rw [h2] at hh; cases hh; exact absurd rfl hb)
  refine ⟨?_, ?_, ?_, ?_, R.refOK_step hl hthr href hpriv (Nat.le_of_eq htlen.symm)⟩
  · intro id b hc hm
    by_cases hb : b = b0
    · subst hb; exact hbitsNone ⟨id, (hcell id b).1 hc⟩ hm
    · exact (keep b hb).1 id hc hm
  · intro id b t1 l1 hc h1 hm
    by_cases hb : b = b0
    · subst hb
      rw [hcell] at hc
      rw [hthr] at h1
      rcases get_set h1 with ⟨rfl, rfl⟩ | ⟨hne, h1⟩
      · exact hbitsT ⟨id, hc⟩ hm
      · obtain ⟨f1, f2⟩ := hbitsOther t1 hne hm
        rw [f1, f2]
        exact R.bitsSome id b t1 l1 hc h1 (WordFun.other hmf hm hne)
    · exact (keep b hb).2 id t1 l1 hc h1 hm
  · intro b hb
    exact R.rd_step hl hthr (htlen ▸ hb) (by rw [hrd, hread])
  · intro b hw
    rw [hrd]
    by_cases hb : b = b0
    · subst hb; exact hwrd0 hw
    · rw [hbin b hb] at hw
      exact R.wrd b hw

end rw

section
variable {α ι : Type} {wr isLoop : α → Bool} {holdsRead binRef : α → Option Nat} {tb : List TBin} {thr : List α}
  {cell : ι → Nat → Prop} {priv : Nat → Prop} (R : RwOK wr isLoop holdsRead binRef tb thr cell priv)
include R

theorem RwOK.reader {b : Nat} (hb : b < tb.length) (hr : (binAt tb b).readers ≠ 0) :
    ∃ (t : Nat) (l : α), thr[t]? = some l ∧ holdsRead l = some b := by
  rw [R.rd b hb] at hr
  obtain ⟨l, hm⟩ := List.exists_mem_of_length_pos (Nat.pos_of_ne_zero hr)
  obtain ⟨hl, hq⟩ := List.mem_filter.1 hm
  obtain ⟨t, ht⟩ := List.mem_iff_getElem?.1 hl
  exact ⟨t, l, ht, by simpa using hq⟩

theorem RwOK.no_readers (hq : ∀ l ∈ thr, holdsRead l = none) {b : Nat} (hb : b < tb.length) :
    (binAt tb b).readers = 0 := by
  rw [R.rd b hb, List.length_eq_zero_iff, List.filter_eq_nil_iff]
  intro l hl
  rw [hq l hl]
  simp

end

end Flurry.Proto.LockWord
