import Flurry.Lemmas.BinUInvStep
/-! # Proto/BinU: ghost history and the hindsight invariant of the list walkers (C01/C07, tree bins)

For a fixed key `k` the ghost state is `A : Nat → KSt` (`A τ` = abstract state `absOf` of `k` — the
node with key `k` on the **list** — after global step `τ`) and `pt : Nat → Nat` (`pt i` =
linearization point of the call invoked at `i`).

* `callsOnExt`: the completed calls plus the calls of writers that are past their linearization
  point (`resOfPc`): the point of a value store is `wVal`, of an insert `wPrependLocked` (the store
  to `first`), of a removal `wUnlinkLocked` (the list unlink), of a writer that changes nothing `wFind`.
* `Good A k inv s cur`: the hindsight justification of a thread walking the *list* — a
  lock-protocol reader taking linear steps or a list reader (iterator); it does not mention the
  lock words: a list reader may stand on any node at any time.
* `ValWit`: the value cell a `get` is about to load held the abstract value at some time of the call.
* `GInv`: the ghost invariant, a `Trace` of `Lemmas/GhostSig.lean` plus the readers' justifications.

The file is `Lemmas/BinTGhost.lean` with `absOf` (every list node counts) for `gAbs` (a list node counts once it is in
the tree); what differs is the `inTree` conjunct of `Good.hit` and of `HeapStep.unl` / `valchg`, and the case `lNode` of `RdOK`. -/
namespace Flurry.Proto.BinU
open Flurry.Lin Flurry.Shared Flurry.GhostView

theorem isReader_eq_isRead (op : KOp) : isReader op = isRead op := by cases op <;> rfl

def extOf (k now t : Nat) (l : Local) : Option Call :=
  match resOfPc l.pc, l.call with
  | some res, some p => if p.key = k then some ⟨t, p.op, res, p.inv, now⟩ else none
  | _, _ => none

def extCalls (s : State) (k : Nat) : History :=
  (List.range s.threads.length).filterMap (fun t => (s.threads[t]?).bind (extOf k s.now t))

def callsOnExt (s : State) (k : Nat) : History := callsOn s k ++ extCalls s k

theorem extOf_eq (k now t : Nat) (l : Local) : extOf k now t l = GhostView.extOf Lin.sig view k now t l := by
  unfold extOf GhostView.extOf
  dsimp only [view]
  cases resOfPc l.pc <;> cases l.call <;> rfl

theorem callsOnExt_eq (s : State) (k : Nat) :
    callsOnExt s k = GhostView.callsOnExt Lin.sig view s.hist s.threads k s.now := by
  have : extOf k s.now = fun t l => GhostView.extOf Lin.sig view k s.now t l :=
    funext fun t => funext fun l => extOf_eq k s.now t l
  unfold callsOnExt extCalls
  rw [this]; rfl

variable {A A' : Nat → KSt} {k inv : Nat} {s s' : State}

/-- the key was absent at some time of the call -/
def AbsWit (A : Nat → KSt) (inv : Nat) (s : State) : Prop := ∃ τ, inv ≤ τ ∧ τ ≤ s.now ∧ A τ = none

/-- the two ways a walker standing on the list node `c` is justified: no node in front of `c` has key `k` ("now" is a
good time), or the key was absent at some time of the call and no node from `c` on has it -/
def OnCond (A : Nat → KSt) (k inv : Nat) (s : State) (c : Nat) : Prop :=
  (∀ i ∈ chain s, c < i → (nodeAt s.heap i).key ≠ k) ∨
  (AbsWit A inv s ∧ ∀ i ∈ chain s, i ≤ c → (nodeAt s.heap i).key ≠ k)

/-- the hindsight justification of a walker holding the pointer `cur`: `none`, a node on the list, or an unlinked
node, whose fields are frozen -/
inductive Good (A : Nat → KSt) (k inv : Nat) (s : State) : Option Nat → Prop
  | absent : AbsWit A inv s → Good A k inv s none
  | on {c : Nat} : c ∈ chain s → OnCond A k inv s c → Good A k inv s (some c)
  | off {c : Nat} : c ∉ chain s → c < s.heap.length →
      ((nodeAt s.heap c).key ≠ k → Good A k inv s (nodeAt s.heap c).next) →
      ((nodeAt s.heap c).key = k → ∃ τ, inv ≤ τ ∧ τ ≤ s.now ∧ A τ = some (nodeAt s.heap c).val) →
      Good A k inv s (some c)

theorem AbsWit.step (h : AbsWit A inv s)
    (hnow : s'.now = s.now + 1) (hA' : ∀ τ, τ ≤ s.now → A' τ = A τ) : AbsWit A' inv s' := by
  obtain ⟨τ, h1, h2, h3⟩ := h
  exact ⟨τ, h1, by omega, by rw [hA' _ h2]; exact h3⟩

theorem absWit_now (hA : A s.now = absOf s k) (hinv : inv ≤ s.now)
    (h : ∀ i ∈ chain s, (nodeAt s.heap i).key ≠ k) : AbsWit A inv s := by
  refine ⟨s.now, hinv, Nat.le_refl _, ?_⟩
  rw [hA, absOf_eq_none_iff]
  exact h

theorem onCond_succ_none (H : HInv s) (hA : A s.now = absOf s k)
    (hinv : inv ≤ s.now) {c : Nat} (hc : c ∈ chain s) (hcond : OnCond A k inv s c)
    (hk : (nodeAt s.heap c).key ≠ k) (hnx : (nodeAt s.heap c).next = none) : AbsWit A inv s := by
  rcases hcond with h1 | ⟨hw, _⟩
  · have hn := getElem?_nodeAt (chain_lt H hc)
    have hle := (chain_isChain H).succ_none H.nextOK hc hn hnx
    refine absWit_now hA hinv ?_
    intro i hi
    rcases Nat.lt_or_ge c i with hlt | hge
    · exact h1 i hi hlt
    · have : i = c := Nat.le_antisymm hge (hle i hi)
      rw [this]; exact hk
  · exact hw

theorem onCond_succ_some (H : HInv s)
    {c b : Nat} (hc : c ∈ chain s) (hcond : OnCond A k inv s c)
    (hk : (nodeAt s.heap c).key ≠ k) (hnx : (nodeAt s.heap c).next = some b) :
    b ∈ chain s ∧ OnCond A k inv s b := by
  have hn := getElem?_nodeAt (chain_lt H hc)
  obtain ⟨hb, hle⟩ := (chain_isChain H).succ_some H.nextOK hc hn hnx
  have hbc := H.nextOK c _ b hn hnx
  refine ⟨hb, ?_⟩
  rcases hcond with h1 | ⟨hw, h2⟩
  · left
    intro i hi hbi
    have := hle i hi hbi
    rcases Nat.lt_or_ge c i with hlt | hge
    · exact h1 i hi hlt
    · have : i = c := Nat.le_antisymm hge this
      rw [this]; exact hk
  · right
    exact ⟨hw, fun i hi hib => h2 i hi (by omega)⟩

theorem Good.first (H : HInv s) (hA : A s.now = absOf s k)
    (hinv : inv ≤ s.now) : Good A k inv s s.first := by
  cases hh : s.first with
  | none =>
    refine .absent (absWit_now hA hinv ?_)
    rw [chain_first_none H hh]
    intro i hi; cases hi
  | some h =>
    obtain ⟨l, hl⟩ := chain_first_some H hh
    refine .on (by rw [hl]; simp) (Or.inl ?_)
    intro i hi hih
    have hs := chain_sorted H
    rw [hl] at hs hi
    rcases List.mem_cons.1 hi with rfl | hi
    · omega
    · have := (List.pairwise_cons.1 hs).1 i hi
      omega

theorem Good.next (H : HInv s) (hA : A s.now = absOf s k)
    (hinv : inv ≤ s.now) {c : Nat} (hg : Good A k inv s (some c)) (hk : (nodeAt s.heap c).key ≠ k) :
    Good A k inv s (nodeAt s.heap c).next := by
  cases hg with
  | on hc hcond =>
    cases hnx : (nodeAt s.heap c).next with
    | none => exact .absent (onCond_succ_none H hA hinv hc hcond hk hnx)
    | some b =>
      obtain ⟨hb, hcb⟩ := onCond_succ_some H hc hcond hk hnx
      exact .on hb hcb
  | off _ _ hnext _ => exact hnext hk

theorem Good.hit (H : HInv s) (hA : A s.now = absOf s k)
    (hinv : inv ≤ s.now) {c : Nat} (hg : Good A k inv s (some c)) (hk : (nodeAt s.heap c).key = k) :
    ∃ τ, inv ≤ τ ∧ τ ≤ s.now ∧ A τ = some (nodeAt s.heap c).val := by
  cases hg with
  | on hc hcond =>
    rcases hcond with _ | ⟨_, h2⟩
    · exact ⟨s.now, hinv, Nat.le_refl _, by rw [hA]; exact (absOf_eq_some_iff H).2 ⟨c, hc, hk, rfl⟩⟩
    · exact absurd hk (h2 c hc (Nat.le_refl _))
  | off _ _ _ hval => exact hval hk

theorem Good.miss (hg : Good A k inv s none) : AbsWit A inv s := by
  cases hg with
  | absent h => exact h

theorem onCond_step {c : Nat}
    (hc : c ∈ chain s) (hcond : OnCond A k inv s c) (H : HInv s) (hs : HeapStep s s')
    (hnow : s'.now = s.now + 1) (hA' : ∀ τ, τ ≤ s.now → A' τ = A τ) (hA : A s.now = absOf s k)
    (hinv : inv ≤ s.now) : OnCond A' k inv s' c := by
  have hcl := chain_lt H hc
  have hold : ∀ i ∈ chain s', i ≤ c → i ∈ chain s := by
    intro i hi hic
    rcases hs.noRelink i hi with h | h
    · exact h
    · omega
  by_cases hfr : ∃ x ∈ chain s', s.heap.length ≤ x ∧ (nodeAt s'.heap x).key = k
  · obtain ⟨x, hx, hxl, hxk⟩ := hfr
    have hall : ∀ i ∈ chain s, (nodeAt s.heap i).key ≠ k := by
      intro i hi; rw [← hxk]; exact hs.fresh x hx hxl i hi
    right
    refine ⟨(absWit_now hA hinv hall).step hnow hA', ?_⟩
    intro i hi hic
    have hi0 := hold i hi hic
    rw [hs.key i (chain_lt H hi0)]; exact hall i hi0
  · rcases hcond with h1 | ⟨hw, h2⟩
    · left
      intro i hi hci
      rcases hs.noRelink i hi with hi0 | hil
      · rw [hs.key i (chain_lt H hi0)]; exact h1 i hi0 hci
      · intro hik; exact hfr ⟨i, hi, hil, hik⟩
    · right
      refine ⟨hw.step hnow hA', ?_⟩
      intro i hi hic
      have hi0 := hold i hi hic
      rw [hs.key i (chain_lt H hi0)]; exact h2 i hi0 hic

theorem Good.step {cur : Option Nat}
    (hg : Good A k inv s cur) (H : HInv s) (hs : HeapStep s s')
    (hnow : s'.now = s.now + 1) (hA' : ∀ τ, τ ≤ s.now → A' τ = A τ) (hA : A s.now = absOf s k)
    (hinv : inv ≤ s.now) : Good A' k inv s' cur := by
  induction hg with
  | absent h => exact .absent (h.step hnow hA')
  | @on c hc hcond =>
    have hcl := chain_lt H hc
    by_cases hc' : c ∈ chain s'
    · exact .on hc' (onCond_step hc hcond H hs hnow hA' hA hinv)
    · obtain ⟨hval, hnext, hrest⟩ := hs.unl c hc hc'
      have hkey := hs.key c hcl
      refine .off hc' (by have := hs.len; omega) ?_ ?_
      · intro hk
        rw [hkey] at hk
        rw [hnext]
        cases hnx : (nodeAt s.heap c).next with
        | none => exact .absent ((onCond_succ_none H hA hinv hc hcond hk hnx).step hnow hA')
        | some b =>
          obtain ⟨hb, hcb⟩ := onCond_succ_some H hc hcond hk hnx
          have hbc : b ≠ c := by
            have := H.nextOK c _ b (getElem?_nodeAt hcl) hnx
            omega
          exact .on (hrest b hb hbc) (onCond_step hb hcb H hs hnow hA' hA hinv)
      · intro hk
        rw [hkey] at hk
        rcases hcond with _ | ⟨_, h2⟩
        · refine ⟨s.now, hinv, by omega, ?_⟩
          rw [hA' _ (Nat.le_refl _), hA, hval]
          exact (absOf_eq_some_iff H).2 ⟨c, hc, hk, rfl⟩
        · exact absurd hk (h2 c hc (Nat.le_refl _))
  | @off c hc hcl _ hval ih =>
    have hc' : c ∉ chain s' := by
      intro hm
      rcases hs.noRelink c hm with h0 | h0
      · exact hc h0
      · omega
    obtain ⟨hv, hn⟩ := hs.off c hcl hc
    have hkey := hs.key c hcl
    refine .off hc' (by have := hs.len; omega) ?_ ?_
    · intro hk
      rw [hkey] at hk
      rw [hn]
      exact ih hk
    · intro hk
      rw [hkey] at hk
      obtain ⟨τ, h1, h2, h3⟩ := hval hk
      exact ⟨τ, h1, by omega, by rw [hA' _ h2, hv]; exact h3⟩

/-- node `i` has key `k`, and its current value was the abstract value at some time of the call -/
def ValWit (A : Nat → KSt) (k inv : Nat) (s : State) (i : Nat) : Prop :=
  (nodeAt s.heap i).key = k ∧ i < s.heap.length ∧
    ∃ τ, inv ≤ τ ∧ τ ≤ s.now ∧ A τ = some (nodeAt s.heap i).val

theorem ValWit.step {i : Nat}
    (h : ValWit A k inv s i) (H' : HInv s') (hs : HeapStep s s')
    (hnow : s'.now = s.now + 1) (hA' : ∀ τ, τ ≤ s.now → A' τ = A τ) (hA'n : A' s'.now = absOf s' k)
    (hinv : inv ≤ s.now) : ValWit A' k inv s' i := by
  obtain ⟨hk, hil, τ, h1, h2, h3⟩ := h
  have hkey := hs.key i hil
  refine ⟨by rw [hkey]; exact hk, by have := hs.len; omega, ?_⟩
  by_cases hv : (nodeAt s'.heap i).val = (nodeAt s.heap i).val
  · exact ⟨τ, h1, by omega, by rw [hA' _ h2, hv]; exact h3⟩
  · have hc := hs.valchg i hil hv
    refine ⟨s'.now, by omega, Nat.le_refl _, ?_⟩
    rw [hA'n]
    exact (absOf_eq_some_iff H').2 ⟨i, hc, by rw [hkey]; exact hk, rfl⟩

def RdOK (A : Nat → KSt) (k inv : Nat) (s : State) : Pc → Prop
  | .rState cur => Good A k inv s cur
  | .rLin c => Good A k inv s (some c)
  | .rCas c _ => Good A k inv s (some c)
  | .rRelease none => AbsWit A inv s
  | .rRelease (some i) => ValWit A k inv s i
  | .rVal i => ValWit A k inv s i
  | .lNode cur => Good A k inv s cur
  | _ => True

theorem RdOK.step {pc : Pc}
    (h : RdOK A k inv s pc) (H : HInv s) (H' : HInv s') (hs : HeapStep s s')
    (hnow : s'.now = s.now + 1) (hA' : ∀ τ, τ ≤ s.now → A' τ = A τ) (hA : A s.now = absOf s k)
    (hA'n : A' s'.now = absOf s' k) (hinv : inv ≤ s.now) : RdOK A' k inv s' pc := by
  cases pc <;> simp only [RdOK] at h ⊢
  case rState cur => exact h.step H hs hnow hA' hA hinv
  case rLin c => exact h.step H hs hnow hA' hA hinv
  case rCas c r => exact h.step H hs hnow hA' hA hinv
  case rRelease hit =>
    cases hit with
    | none => exact AbsWit.step h hnow hA'
    | some i => exact ValWit.step h H' hs hnow hA' hA'n hinv
  case rVal i => exact h.step H' hs hnow hA' hA'n hinv
  case lNode cur => exact h.step H hs hnow hA' hA hinv

def CallOK (A : Nat → KSt) (pt : Nat → Nat) (c : Call) : Prop :=
  c.inv ≤ pt c.inv ∧ pt c.inv ≤ c.resp ∧
  (isRead c.op = true → specStep (A (pt c.inv)) c.op = (A (pt c.inv), c.res)) ∧
  (isRead c.op = false → 1 ≤ pt c.inv ∧ specStep (A (pt c.inv - 1)) c.op = (A (pt c.inv), c.res))

structure GInv (k : Nat) (s : State) (A : Nat → KSt) (pt : Nat → Nat) : Prop where
  h0 : A 0 = none
  hA : A s.now = absOf s k
  calls : ∀ c ∈ callsOnExt s k, CallOK A pt c
  stab : ∀ τ, 1 ≤ τ → τ ≤ s.now → A τ ≠ A (τ - 1) →
    ∃ c ∈ callsOnExt s k, isRead c.op = false ∧ pt c.inv = τ
  inj : ∀ c ∈ callsOnExt s k, ∀ d ∈ callsOnExt s k, isRead c.op = false → isRead d.op = false →
    pt c.inv = pt d.inv → c.inv = d.inv
  readers : ∀ (t : Nat) (l : Local) (p : Pending), s.threads[t]? = some l →
    l.call = some p → p.key = k → RdOK A k p.inv s l.pc

theorem GInv.trace {k : Nat} {s : State} {A : Nat → KSt} {pt : Nat → Nat} (g : GInv k s A pt) :
    GhostView.Trace Lin.sig (GhostView.callsOnExt Lin.sig view s.hist s.threads k s.now) s.now (absOf s k) A pt := by
  rw [← callsOnExt_eq]; exact ⟨g.h0, g.hA, g.calls, g.stab, g.inj⟩

end Flurry.Proto.BinU
