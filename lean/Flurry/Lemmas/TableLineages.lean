import Flurry.LinMap
import Flurry.Lemmas.SharedBasic
/-! # Lists of lineages

What the table compositions (`Lemmas/Table*.lean`, and `Lemmas/LineagesDrain.lean` for their measures) need of the list of
lineages, whatever a lineage is. The list is called `bins`, as the field of the `State` of every table model is; its
entries are lineages.
1. The guards of the table step (`guard_some`), among them "idle in every lineage but `i`" as a statement about the
   entries (`all_idle_iff`).
2. The list after a step, `(bins.map tick).set i b'`, read forwards (`set_map_getElem?`) and backwards (`of_set_map`;
   `of_set_map_any` for a table step without the idle guard, `Lemmas/TableNI.lean`), and what such a step preserves: a property of every lineage that a tick of a lineage in which the acting thread is
   idle keeps (`forall_of_set_map`; with "a tick is a step of a thread that is idle there" this is "every lineage of a
   reachable table is reachable in the bin model"), and "a thread is active in at most one lineage" (`OneBin.step`).
   These carry the guard `hidle`, which says in which lineages the thread was idle. `Eff tick stp L L'` is the same step
   with guard and thread forgotten — some lineage makes a transition `stp`, the others tick —, which is all that a
   measure or a property of a single lineage needs (`Eff.keeps`; `Lemmas/LineagesDrain.lean`).
3. What the lineages hold, gathered under a translation of keys (`Keys`: the lineage of a key, its name there, and
   back; `gather`: the items of all lineages — completed calls, entries, yields —, lineage by lineage, re-keyed): what
   is in it (`mem_gather`) and **locality** (`filter_gather`: the gathered items with key `k` are the items of the
   lineage of `k` under the name of `k` there), given that a lineage holds items on its own keys only (`Keys.Own`: an
   invariant of the table where the lineages use the keys of the map, arithmetic where they rename them).
4. The history of the map is such a list (`mhist`): its entries (`mem_mhist`, `mem_mhist_own`, `mem_mhist_of_hist`) and
   its projection on a key (`proj_mhist`); the part of one lineage alone is `calls`, which projects to nothing on a key
   of another lineage (`proj_calls_nil`: the `binCalls` of `Proto/TableN`, `Proto/TableGN` unfold to `calls`). The
   entries of the map: `Lemmas/TableEntries.lean`. -/
namespace Flurry.Proto.Lineages

theorem exists_getD {β : Type} {bins : List β} (d : β) {i : Nat} (hi : i < bins.length) :
    ∃ b, bins[i]? = some b ∧ bins.getD i d = b :=
  ⟨bins[i], List.getElem?_eq_getElem hi, by rw [List.getD_eq_getElem?_getD, List.getElem?_eq_getElem hi]; rfl⟩

theorem eq_of_getElem?_replicate {β : Type} {m j : Nat} {x b : β} (h : (List.replicate m x)[j]? = some b) : b = x :=
  (List.mem_replicate.1 (List.mem_iff_getElem?.mpr ⟨j, h⟩)).2

theorem exists_not_of_not_forall {β : Type} {bins : List β} {Q : β → Prop} (h : ¬ ∀ b ∈ bins, Q b) :
    ∃ (i : Nat) (b : β), bins[i]? = some b ∧ ¬ Q b := by
  apply Classical.byContradiction
  intro hn
  apply h
  intro b hb
  obtain ⟨i, hi⟩ := List.mem_iff_getElem?.1 hb
  apply Classical.byContradiction
  intro hnq
  exact hn ⟨i, b, hi, hnq⟩

/-- a list of lists all of which but the `i`-th are empty -/
theorem flatten_single {α β : Type} (f : α → List β) : ∀ (L : List α) (i : Nat) (a : α), L[i]? = some a →
    (∀ (j : Nat) (c : α), L[j]? = some c → j ≠ i → f c = []) → (L.map f).flatten = f a
  | [], i, a, h, _ => by simp at h
  | x :: L, 0, a, h, hz => by
    simp only [List.getElem?_cons_zero, Option.some.injEq] at h
    subst h
    have : (L.map f).flatten = [] := by
      rw [List.flatten_eq_nil_iff]
      intro l hl
      obtain ⟨c, hc, rfl⟩ := List.mem_map.1 hl
      obtain ⟨j, hj⟩ := List.mem_iff_getElem?.1 hc
      exact hz (j + 1) c (by simpa using hj) (by omega)
    rw [List.map_cons, List.flatten_cons, this, List.append_nil]
  | x :: L, i + 1, a, h, hz => by
    have hx : f x = [] := hz 0 x (by simp) (by omega)
    rw [List.map_cons, List.flatten_cons, hx, List.nil_append]
    refine flatten_single f L i a (by simpa using h) ?_
    intro j c hj hne
    exact hz (j + 1) c (by simpa using hj) (by omega)

/-- a concatenation over the entries of a list in the indexed form of `gather` (`TableK` and `TableG` state their
history and entries without indices) -/
theorem flatten_map_eq_range {β α : Type} (f : β → List α) (bins : List β) (d : β) :
    (bins.map f).flatten = ((List.range bins.length).map fun i => f (bins.getD i d)).flatten := by
  congr 1
  apply List.ext_getElem?
  intro i
  rw [List.getElem?_map, List.getElem?_map]
  by_cases hi : i < bins.length
  · rw [List.getElem?_range hi, List.getElem?_eq_getElem hi]
    show some (f bins[i]) = some (f (bins.getD i d))
    rw [List.getD_eq_getElem?_getD, List.getElem?_eq_getElem hi]
    rfl
  · rw [List.getElem?_eq_none (by omega), List.getElem?_eq_none (by rw [List.length_range]; omega)]
    rfl

/-! ## the guards of the table step -/

theorem guard_some {α : Type} {c : Bool} {o : Option α} {x : α} (h : (if !c then none else o) = some x) :
    c = true ∧ o = some x := by
  cases c
  · cases h
  · exact ⟨rfl, h⟩

theorem all_idle_iff {β : Type} (bins : List β) (d : β) (idle : β → Bool) (i : Nat) :
    ((List.range bins.length).all fun j => j == i || idle (bins.getD j d)) = true ↔
      ∀ (j : Nat) (bj : β), j ≠ i → bins[j]? = some bj → idle bj = true := by
  rw [List.all_eq_true]
  constructor
  · intro h j bj hji hj
    have hjl : j < bins.length := (List.getElem?_eq_some_iff.1 hj).1
    have := h j (List.mem_range.2 hjl)
    rw [List.getD_eq_getElem?_getD, hj, Bool.or_eq_true, beq_iff_eq] at this
    exact this.resolve_left hji
  · intro h j hj
    have hjl := List.mem_range.1 hj
    by_cases hji : j = i
    · rw [Bool.or_eq_true, beq_iff_eq]; exact .inl hji
    · rw [List.getD_eq_getElem?_getD, List.getElem?_eq_getElem hjl, Bool.or_eq_true]
      exact .inr (h j _ hji (List.getElem?_eq_getElem hjl))

/-! ## the list after a table step -/

/-- the lineages after a step: every lineage ticks, lineage `i` makes its transition -/
theorem set_map_getElem? {β : Type} {bins : List β} (f : β → β) {i : Nat} {b : β} (b' : β)
    (hb : bins[i]? = some b) :
    ((bins.map f).set i b')[i]? = some b' ∧
    ∀ (j : Nat) (bj : β), j ≠ i → bins[j]? = some bj → ((bins.map f).set i b')[j]? = some (f bj) := by
  have hi : i < bins.length := (List.getElem?_eq_some_iff.1 hb).1
  refine ⟨?_, ?_⟩
  · rw [List.getElem?_set_self (by rw [List.length_map]; exact hi)]
  · intro j bj hji hj
    rw [List.getElem?_set_ne (Ne.symm hji), List.getElem?_map, hj]
    rfl

theorem of_set_map_any {β : Type} {bins : List β} (f : β → β) {i : Nat} {b' : β} :
    ∀ (j : Nat) (c : β), ((bins.map f).set i b')[j]? = some c →
      (j = i ∧ c = b') ∨ (j ≠ i ∧ ∃ b0, bins[j]? = some b0 ∧ c = f b0) := by
  intro j c hc
  by_cases hji : j = i
  · subst hji
    have hj : j < ((bins.map f).set j b').length := (List.getElem?_eq_some_iff.1 hc).1
    rw [List.length_set] at hj
    rw [List.getElem?_set_self hj] at hc
    exact .inl ⟨rfl, (Option.some.inj hc).symm⟩
  · rw [List.getElem?_set_ne (Ne.symm hji), List.getElem?_map] at hc
    cases hj : bins[j]? with
    | none => rw [hj] at hc; cases hc
    | some b0 =>
      rw [hj] at hc
      exact .inr ⟨hji, b0, rfl, (Option.some.inj hc).symm⟩

theorem of_set_map {β : Type} {bins : List β} (f : β → β) (d : β) (idle : β → Bool) {i : Nat} {b' : β}
    (hidle : ((List.range bins.length).all fun j => j == i || idle (bins.getD j d)) = true) :
    ∀ (j : Nat) (c : β), ((bins.map f).set i b')[j]? = some c →
      (j = i ∧ c = b') ∨ (j ≠ i ∧ ∃ b0, bins[j]? = some b0 ∧ c = f b0 ∧ idle b0 = true) := by
  intro j c hc
  rcases of_set_map_any f j c hc with h | ⟨hji, b0, hj, hc⟩
  · exact .inl h
  · exact .inr ⟨hji, b0, hj, hc, (all_idle_iff bins d idle i).1 hidle j b0 hji hj⟩

/-- **what a table step preserves**: a property `P j` of lineage `j` that the transition of lineage `i`
establishes for `b'` and that a tick of a lineage in which the thread is idle keeps (for the bin models:
"a tick is a step of a thread that is idle there and starts nothing", so `Reachable` is such a property) -/
theorem forall_of_set_map {β : Type} {bins : List β} (f : β → β) (d : β) (idle : β → Bool) {i : Nat} {b' : β}
    (hidle : ((List.range bins.length).all fun j => j == i || idle (bins.getD j d)) = true)
    {P : Nat → β → Prop} (hP : ∀ j b0, bins[j]? = some b0 → P j b0) (hstep : P i b')
    (htick : ∀ j b0, P j b0 → idle b0 = true → P j (f b0)) :
    ∀ j c, ((bins.map f).set i b')[j]? = some c → P j c := by
  intro j c hc
  rcases of_set_map f d idle hidle j c hc with ⟨rfl, rfl⟩ | ⟨_, b0, hj, rfl, hid⟩
  · exact hstep
  · exact htick j b0 (hP j b0 hj) hid

/-- the step with guard and acting thread forgotten: lineage `i` makes a transition `stp`, every other lineage ticks -/
def Eff {β : Type} (tick : β → β) (stp : β → β → Prop) (L L' : List β) : Prop :=
  ∃ (i : Nat) (b b' : β), L[i]? = some b ∧ stp b b' ∧ L' = (L.map tick).set i b'

theorem Eff.keeps {β : Type} {tick : β → β} {stp : β → β → Prop} {L L' : List β} {P : β → Prop} (h : Eff tick stp L L')
    (ht : ∀ b, P b → P (tick b)) (hs : ∀ b b', stp b b' → P b → P b') {j : Nat} {bj : β} (hj : L[j]? = some bj)
    (hp : P bj) : ∃ bj', L'[j]? = some bj' ∧ P bj' := by
  obtain ⟨i, b, b', hb, hq, rfl⟩ := h
  obtain ⟨h1, h2⟩ := set_map_getElem? tick b' hb
  by_cases hji : j = i
  · subst hji
    rw [hb] at hj
    cases hj
    exact ⟨b', h1, hs _ _ hq hp⟩
  · exact ⟨tick bj, h2 j bj hji hj, ht _ hp⟩

/-! ## a thread is active in at most one lineage -/

/-- of two different lineages, thread `t` is idle in one (`thr`: the thread list of a lineage, `Idle`: a
local state is idle) -/
def OneBin {β γ : Type} (thr : β → List γ) (Idle : γ → Prop) (bins : List β) : Prop :=
  ∀ (t i j : Nat) (bi bj : β) (li lj : γ), i ≠ j → bins[i]? = some bi → bins[j]? = some bj →
    (thr bi)[t]? = some li → (thr bj)[t]? = some lj → Idle li ∨ Idle lj

theorem OneBin.replicate {β γ : Type} {thr : β → List γ} {Idle : γ → Prop} (m : Nat) {x : β}
    (hx : ∀ (t : Nat) (l : γ), (thr x)[t]? = some l → Idle l) : OneBin thr Idle (List.replicate m x) := by
  intro t i j bi bj li lj _ hi _ hli _
  rw [eq_of_getElem?_replicate hi] at hli
  exact .inl (hx t li hli)

/-- **a thread is active in at most one lineage**: kept by a table step of thread `t` in lineage `i`,
since the step touches the local state of `t` only, `t` is idle in every other lineage, and a tick
touches no thread -/
theorem OneBin.step {β γ : Type} {thr : β → List γ} {Idle : γ → Prop} {bins : List β} (O : OneBin thr Idle bins)
    (f : β → β) (hf : ∀ b, thr (f b) = thr b) (d : β) (idle : β → Nat → Bool)
    (hpc : ∀ b t l, idle b t = true → (thr b)[t]? = some l → Idle l) {i t : Nat} {b b' : β}
    (hb : bins[i]? = some b)
    (hidle : ((List.range bins.length).all fun j => j == i || idle (bins.getD j d) t) = true)
    (hthr : ∃ l', thr b' = (thr b).set t l') : OneBin thr Idle ((bins.map f).set i b') := by
  have hget := of_set_map f d (idle · t) hidle (b' := b')
  obtain ⟨l', hthr⟩ := hthr
  -- the acting lineage against a ticked one
  have key : ∀ (t1 j : Nat) (b0 : β) (l1 l2 : γ), j ≠ i → bins[j]? = some b0 → idle b0 t = true →
      (thr b')[t1]? = some l1 → (thr b0)[t1]? = some l2 → Idle l1 ∨ Idle l2 := by
    intro t1 j b0 l1 l2 hne hj hid h1 h2
    by_cases ht : t1 = t
    · subst ht
      exact .inr (hpc b0 t1 l2 hid h2)
    · rw [hthr, List.getElem?_set_ne (Ne.symm ht)] at h1
      exact O t1 i j b b0 l1 l2 (fun e => hne e.symm) hb hj h1 h2
  intro t1 j1 j2 c1 c2 l1 l2 hne h1 h2 hl1 hl2
  rcases hget j1 c1 h1 with ⟨rfl, rfl⟩ | ⟨hn1, a1, ha1, rfl, hid1⟩ <;>
    rcases hget j2 c2 h2 with ⟨rfl, rfl⟩ | ⟨hn2, a2, ha2, rfl, hid2⟩
  · exact absurd rfl hne
  · rw [hf] at hl2; exact key t1 j2 a2 l1 l2 hn2 ha2 hid2 hl1 hl2
  · rw [hf] at hl1; exact (key t1 j1 a1 l2 l1 hn1 ha1 hid1 hl2 hl1).symm
  · rw [hf] at hl1 hl2; exact O t1 j1 j2 a1 a2 l1 l2 hne ha1 ha2 hl1 hl2

/-! ## what the lineages hold, gathered under the keys of the map -/

/-- how the keys of the map are spread over the lineages: the lineage of a key, its name there, and the key that
a name in a lineage stands for. The converse of `glob_lin_loc` (`lin (glob i q) = i`, `loc (glob i q) = q`) is no
field: it is needed of the names that occur in lineage `i` only, and is the hypothesis `Keys.Own`. -/
structure Keys where
  lin : Nat → Nat
  loc : Nat → Nat
  glob : Nat → Nat → Nat
  glob_lin_loc : ∀ k, glob (lin k) (loc k) = k

/-- every lineage holds items on its own keys only (records calls on, stores, yields its own keys only), under the names
`loc` gives them: an invariant of the table where the lineages use the keys of the map, arithmetic where they rename
them -/
def Keys.Own {β α : Type} (K : Keys) (lkey : α → Nat) (items : β → List α) (bins : List β) : Prop :=
  ∀ (i : Nat) (b : β), bins[i]? = some b → ∀ x ∈ items b,
    K.lin (K.glob i (lkey x)) = i ∧ K.loc (K.glob i (lkey x)) = lkey x

section gather
variable {β α γ : Type}

/-- the items of all lineages (`items`: completed calls, entries, yields …), lineage by lineage, item `x` of lineage
`i` re-keyed to `re i x` -/
def gather (re : Nat → α → γ) (items : β → List α) (bins : List β) (d : β) : List γ :=
  ((List.range bins.length).map fun i => (items (bins.getD i d)).map (re i)).flatten

variable {re : Nat → α → γ} {items : β → List α} {bins : List β} {d : β}

theorem mem_gather {y : γ} : y ∈ gather re items bins d ↔ ∃ i b x, bins[i]? = some b ∧ x ∈ items b ∧ y = re i x := by
  constructor
  · intro hy
    obtain ⟨l, hl, hy⟩ := List.mem_flatten.1 hy
    obtain ⟨i, hi, rfl⟩ := List.mem_map.1 hl
    obtain ⟨b, hb, hd⟩ := exists_getD d (List.mem_range.1 hi)
    rw [hd] at hy
    obtain ⟨x, hx, rfl⟩ := List.mem_map.1 hy
    exact ⟨i, b, x, hb, hx, rfl⟩
  · rintro ⟨i, b, x, hb, hx, rfl⟩
    have hi := (List.getElem?_eq_some_iff.1 hb).1
    refine List.mem_flatten.2 ⟨_, List.mem_map.2 ⟨i, List.mem_range.2 hi, rfl⟩, ?_⟩
    rw [List.getD_eq_getElem?_getD, hb]
    exact List.mem_map.2 ⟨x, hx, rfl⟩

/-- **locality**: the gathered items with key `k` (and any further condition `p`) are, re-keyed, the items of the
lineage of `k` with the name of `k` there -/
theorem filter_gather {K : Keys} {lkey : α → Nat} {key : γ → Nat} (hkey : ∀ i x, key (re i x) = K.glob i (lkey x))
    (hown : K.Own lkey items bins)
    (p : γ → Bool) {k : Nat} {b : β} (hb : bins[K.lin k]? = some b) :
    (gather re items bins d).filter (fun y => p y && decide (key y = k)) =
      ((items b).filter fun x => p (re (K.lin k) x) && decide (lkey x = K.loc k)).map (re (K.lin k)) := by
  have hlt := (List.getElem?_eq_some_iff.1 hb).1
  unfold gather
  rw [List.filter_flatten, List.map_map,
    flatten_single (List.filter (fun y => p y && decide (key y = k)) ∘ fun i => (items (bins.getD i d)).map (re i))
      (List.range bins.length) (K.lin k) (K.lin k) (by rw [List.getElem?_range hlt])]
  · show ((items (bins.getD (K.lin k) d)).map (re (K.lin k))).filter _ = _
    rw [List.getD_eq_getElem?_getD, hb, List.filter_map]
    refine congrArg _ (List.filter_congr fun x hx => ?_)
    show (p (re (K.lin k) x) && decide (key (re (K.lin k) x) = k)) = _
    refine congrArg _ (Bool.eq_iff_iff.2 ?_)
    rw [decide_eq_true_eq, decide_eq_true_eq, hkey]
    exact ⟨fun h => h ▸ ((hown _ b hb x hx).2).symm, fun h => h ▸ K.glob_lin_loc k⟩
  · intro j c hj hne
    have hjm : j < bins.length := by simpa using (List.getElem?_eq_some_iff.1 hj).1
    rw [List.getElem?_range hjm] at hj
    cases hj
    obtain ⟨bj, hbj, hd⟩ := exists_getD d hjm
    show ((items (bins.getD j d)).map (re j)).filter _ = []
    rw [hd, List.filter_eq_nil_iff]
    intro y hy hp
    obtain ⟨x, hx, rfl⟩ := List.mem_map.1 hy
    rw [Bool.and_eq_true, decide_eq_true_eq, hkey] at hp
    exact hne (hp.2 ▸ (hown j bj hbj x hx).1).symm

end gather

/-! ## the history of the map -/

open Flurry.Lin Flurry.LinMap

/-- the completed calls of a lineage (newest first, under the names `g` translates) as calls of the map, oldest first -/
def calls (g : Nat → Nat) (h : List (Nat × Call)) : MHistory := h.reverse.map fun e => ⟨g e.1, e.2⟩

def mhist {β : Type} (K : Keys) (hist : β → List (Nat × Call)) (bins : List β) (d : β) : MHistory :=
  gather (fun i e => ⟨K.glob i e.1, e.2⟩) (fun b => (hist b).reverse) bins d

section
variable {β : Type} {K : Keys} {hist : β → List (Nat × Call)} {bins : List β} {d : β}

theorem proj_calls_nil {g : Nat → Nat} {h : List (Nat × Call)} {k : Nat} (hne : ∀ e ∈ h, g e.1 ≠ k) :
    proj (calls g h) k = [] := by
  unfold proj calls
  rw [List.filter_eq_nil_iff.2 fun c hc hk => by
    obtain ⟨e, he, rfl⟩ := List.mem_map.1 hc
    exact hne e (List.mem_reverse.1 he) (beq_iff_eq.1 hk)]
  rfl

theorem mem_mhist {c : MCall} (hc : c ∈ mhist K hist bins d) :
    ∃ i b q, bins[i]? = some b ∧ (q, c.call) ∈ hist b ∧ c.key = K.glob i q := by
  obtain ⟨i, b, e, hb, he, rfl⟩ := mem_gather.1 hc
  exact ⟨i, b, e.1, hb, List.mem_reverse.1 he, rfl⟩

theorem mem_mhist_of_hist {i : Nat} {b : β} {q : Nat} {c : Call} (hb : bins[i]? = some b) (h : (q, c) ∈ hist b) :
    (⟨K.glob i q, c⟩ : MCall) ∈ mhist K hist bins d :=
  mem_gather.2 ⟨i, b, (q, c), hb, List.mem_reverse.2 h, rfl⟩

/-- every call of the map history on key `k` is recorded in the lineage of `k`, under its name there -/
theorem mem_mhist_own (hown : K.Own Prod.fst hist bins) {c : MCall} (hc : c ∈ mhist K hist bins d) :
    ∃ b, bins[K.lin c.key]? = some b ∧ (K.loc c.key, c.call) ∈ hist b := by
  obtain ⟨i, b, q, hb, hmem, hk⟩ := mem_mhist hc
  obtain ⟨h1, h2⟩ := hown i b hb _ hmem
  rw [hk, h1, h2]
  exact ⟨b, hb, hmem⟩

/-- **locality**: the projection of the map history on key `k` is the history of the name of `k` in the lineage of `k` -/
theorem proj_mhist (d : β) (hown : K.Own Prod.fst hist bins) {k : Nat} {b : β} (hb : bins[K.lin k]? = some b) :
    proj (mhist K hist bins d) k = GhostView.callsOn (hist b) (K.loc k) := by
  have h := filter_gather (re := fun i e => (⟨K.glob i e.1, e.2⟩ : MCall)) (items := fun b => (hist b).reverse)
    (d := d) (lkey := (·.1)) (key := (·.key)) (fun _ _ => rfl)
    (fun i b hb x hx => hown i b hb x (List.mem_reverse.1 hx)) (fun _ => true) hb
  unfold proj
  unfold mhist
  rw [show (fun c : MCall => c.key == k) = fun y => true && decide (y.key = k) from
    funext fun _ => by rw [Bool.true_and, Bool.eq_iff_iff, beq_iff_eq, decide_eq_true_eq], h, List.map_map, List.filter_reverse]
  unfold GhostView.callsOn
  refine congrArg _ (congrArg _ (List.filter_congr fun x _ => ?_))
  rw [Bool.true_and, Bool.eq_iff_iff, beq_iff_eq, decide_eq_true_eq]

end

end Flurry.Proto.Lineages
