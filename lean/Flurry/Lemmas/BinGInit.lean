import Flurry.Lemmas.BinGInv
/-! # Proto/BinG: the initial state

Threads, cells, chains, heap and `TreeBin` table of `init n`. The progress layer uses `init_threads` for its own invariant;
that `Inv` holds in `init n` is read off `Proto/BinGN`'s initial state (`Lemmas/BinGLin.lean`), not proved from the others. -/
namespace Flurry.Proto.BinG
open Flurry.Proto.BinK (nodeAt binAt nodeAt_ge binAt_ge chainOf_none)

theorem init_threads {n t : Nat} {l : Local} (h : (init n).threads[t]? = some l) : l = {} := by
  simp only [init, List.getElem?_replicate] at h
  split at h
  · cases h; rfl
  · cases h

theorem init_cellAt (n : Nat) (id : Cid) : cellAt (init n) id = .empty := by cases id <;> rfl

theorem init_chainC (n : Nat) (id : Cid) : chainC (init n) (cellAt (init n) id) = [] := by
  rw [init_cellAt]; exact chainOf_none _

theorem init_node (n j : Nat) : nodeAt (init n).heap j = dflt := nodeAt_ge (Nat.zero_le j)
theorem init_bin (n b : Nat) : binAt (init n).tbins b = dfltB := binAt_ge (Nat.zero_le b)

end Flurry.Proto.BinG
