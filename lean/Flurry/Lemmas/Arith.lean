import Flurry.Gen.Arith
import Flurry.Lemmas.Pow2
/-! Lemmas about the *generated* arithmetic (`Flurry/Gen/Arith.lean`). They are re-checked against
whatever the translator produced from /repo/src on this run. -/
namespace Flurry
open Flurry.Gen

theorem max_cap_eq : MAXIMUM_CAPACITY = 2 ^ 30 := by decide

/-- below half the maximum the request plus a half fits: the rounding is not capped -/
theorem presize_arg_le {c : Nat} (h : c < MAXIMUM_CAPACITY / 2) : c + c / 2 + 1 ≤ 2 ^ 30 :=
  Nat.add_assoc .. ▸ Nat.add_le_add (Nat.le_of_lt h)
    (Nat.le_trans (Nat.succ_le_succ (Nat.div_le_self c 2)) h)

theorem presizeCap_small (c : Nat) (h : c < MAXIMUM_CAPACITY / 2) :
    presizeCap c = npow2 (c + c / 2 + 1) := by
  rw [presizeCap, if_neg (by rw [decide_eq_true_eq]; exact Nat.not_le.2 h)]
  exact Nat.min_eq_right (max_cap_eq ▸ npow2_le_of_pow2 _ 30 (presize_arg_le h))

theorem presizeCap_big (c : Nat) (h : ¬ c < MAXIMUM_CAPACITY / 2) :
    presizeCap c = MAXIMUM_CAPACITY := by
  rw [presizeCap, if_pos (by rw [decide_eq_true_eq]; exact Nat.le_of_not_lt h)]

theorem presizeCap_pow2 (c : Nat) : ∃ k, presizeCap c = 2 ^ k ∧ k ≤ 30 := by
  by_cases h : c < MAXIMUM_CAPACITY / 2
  · rw [presizeCap_small c h]
    obtain ⟨k, hk⟩ := npow2_isPow2 (c + c / 2 + 1)
    have h2 := npow2_le_of_pow2 _ 30 (presize_arg_le h)
    rw [hk] at h2
    exact ⟨k, hk, (Nat.pow_le_pow_iff_right (by decide)).1 h2⟩
  · exact ⟨30, by rw [presizeCap_big c h, max_cap_eq], Nat.le_refl _⟩

theorem tryPresizeCap_eq (c : Nat) : tryPresizeCap c = Int.ofNat (presizeCap c) := rfl

theorem loadFactorN_ge (x : Nat) : 3 * x ≤ 4 * loadFactorN x := by
  rw [loadFactorN, Nat.mul_sub, Nat.le_sub_iff_add_le (Nat.mul_le_mul_left 4 (Nat.div_le_self ..))]
  exact Nat.le_trans (Nat.add_le_add_left (Nat.mul_div_le x 4) (3 * x))
    (Nat.le_of_eq (Nat.succ_mul 3 x).symm)

end Flurry
