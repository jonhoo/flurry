import Flurry.Lemmas.BinNHMGhostCleared
import Flurry.Lemmas.BinXCarry
/-! # Proto/BinN and Proto/BinNH: the structural invariant of the shared memory, the readers and the writers (`Inv`, for
`Proto/BinNH`, whose complete invariant is `BinNH.Full`; `RWInv`: the part that does not depend on who resizes and holds
of `Proto/BinN` as well), frame lemmas for the walks (over `Walk.start` / `Walk.next` / `Walk.congr` of
`Lemmas/BinXCarry.lean`, the one thing this level takes from the `Proto/BinX` side above the heap lemmas), which cells the
readers and writers see as active, and the classification of the transitions by their effect on the memory (`MemStep`),
with `MemStep.carries`: every class carries the readers' justifications -/
namespace Flurry.Proto.BinNHM
open Flurry.Proto.BinN
open Flurry.Lin
open Flurry.Proto.BinX (chainH_node NodeS Cell Pending dflt chainFrom cellHead cellOfHead nodeAt nodeAt_of_some getElem?_nodeAt
  IsSeg IsChain chainH absIn KeysDistinct Walk get_set get_set_self get_set_ne nextA)

/-- the structural invariant of the shared memory, the readers and the writers (the resizing threads are
not threads of `s`: see `Lemmas/BinNHFull.lean`) -/
structure Inv (s : State) (G : Ghost) : Prop where
  gen : GenInv s
  heap : HInv s G
  thr : TInv s
  walk : WInv s
  /-- no thread of `s` is at one of `Proto/BinN`'s own resizing program counters -/
  noT : ∀ (t : Nat) (l : Local), s.threads[t]? = some l → ¬ isT l.pc
  /-- no reader / writer holds a validated lock on a cell that is being split (a helper holds its bin lock) -/
  midw : ∀ j, IsMid G j → ∀ (t1 : Nat) (l1 : Local) (h : Nat), s.threads[t1]? = some l1 →
    vcell s.cur l1 ≠ some (s.cur, j, h)

/-- the part of the structural invariant that does not depend on who resizes: it holds of `Proto/BinN`'s states
(ghost `toM G`, `BinN.Inv.rw`) and of the shared memory of `Proto/BinNH`. `midw` only speaks of readers and writers:
in `Proto/BinN` the resizing thread itself is validated on the cell it splits. -/
structure RWInv (s : State) (G : Ghost) : Prop where
  gen : GenInv s
  heap : HInv s G
  thr : TInv s
  walk : WInv s
  midw : ∀ j, IsMid G j → ∀ (t1 : Nat) (l1 : Local) (h : Nat), s.threads[t1]? = some l1 → ¬ isT l1.pc →
    vcell s.cur l1 ≠ some (s.cur, j, h)

theorem Inv.rw {s : State} {G : Ghost} (I : Inv s G) : RWInv s G :=
  ⟨I.gen, I.heap, I.thr, I.walk, fun j hm t1 l1 h h1 _ => I.midw j hm t1 l1 h h1⟩

theorem RWInv.inv {s : State} {G : Ghost} (I : RWInv s G)
    (noT : ∀ (t : Nat) (l : Local), s.threads[t]? = some l → ¬ isT l.pc) : Inv s G :=
  ⟨I.gen, I.heap, I.thr, I.walk, noT, fun j hm t1 l1 h h1 => I.midw j hm t1 l1 h h1 (noT t1 l1 h1)⟩

theorem WalkOK.congr {s s' : State} {p : Pending} {pc : Pc} (w : WalkOK s p pc)
    (hf : ∀ g, genOfPc pc = some g → cellOf s' g p.key = cellOf s g p.key ∧
      chainH s'.heap (cellOf s g p.key) = chainH s.heap (cellOf s g p.key) ∧
      ∀ j ∈ chainH s.heap (cellOf s g p.key), (nodeAt s'.heap j).key = (nodeAt s.heap j).key ∧
        (nodeAt s'.heap j).next = (nodeAt s.heap j).next) : WalkOK s' p pc := by
  cases pc with
  | wFind g h pred cur =>
    obtain ⟨h1, h2, h3⟩ := hf g rfl
    show Walk s'.heap (chainH s'.heap (cellOf s' g p.key)) p.key pred cur
    rw [h1, h2]
    exact Walk.congr w (fun j hj => (h3 j hj).1)
  | wStore g h pred hit hnext =>
    obtain ⟨h1, h2, h3⟩ := hf g rfl
    obtain ⟨w1, w2⟩ := w
    refine ⟨?_, ?_⟩
    · show Walk s'.heap (chainH s'.heap (cellOf s' g p.key)) p.key pred hit
      rw [h1, h2]
      exact Walk.congr w1 (fun j hj => (h3 j hj).1)
    · intro i hi
      subst hi
      obtain ⟨e1, e2⟩ := h3 i w1.cur_mem
      rw [e1, e2]; exact w2 i rfl
  | _ => trivial

theorem Move.walk {s : State} {G : Ghost} (H : HInv s G) {p : Pending} {pc pc' : Pc} (hm : Move s p pc pc')
    (hw : WalkOK s p pc) : WalkOK s p pc' := by
  cases hm with
  | @checkOk g h hc =>
    show Walk _ _ _ _ _
    rw [hc]
    obtain ⟨l', hl'⟩ := chainH_node (ranked_ord _) H.nextOK (H.head (cellId g p.key) h hc)
    rw [hl']
    exact Walk.start p.key
  | findEnd => exact ⟨hw, fun i hi => by cases hi⟩
  | @findHit g h pred c n hn hk =>
    exact ⟨hw, fun i hi => by cases hi; rw [nodeAt_of_some hn]; exact ⟨hk, rfl⟩⟩
  | @findNext g h pred c n hn hk =>
    show Walk _ _ _ _ _
    have hC := H.isChain (cellId g p.key)
    exact Walk.next hC hw hn hk
  | rTable => trivial
  | rCellMoved _ => trivial
  | rCellNode _ => trivial
  | rNext _ _ => trivial
  | wTable => trivial
  | wCellEmpty _ _ => trivial
  | wCellMoved _ => trivial
  | wCellNode _ => trivial
  | casFail => trivial
  | checkFail _ => trivial

/-- the walks of the other threads survive a transition that leaves the chains of their validated cells alone -/
theorem winv_frame {s s' : State} {t : Nat} {l' : Local} (W : WInv s)
    (hthr : s'.threads = s.threads.set t l')
    (hfr : ∀ (t1 : Nat) (l1 : Local) (g j h : Nat), t1 ≠ t → s.threads[t1]? = some l1 →
      vcell s.cur l1 = some (g, j, h) → ¬ isT l1.pc →
      cellAt s' g j = cellAt s g j ∧ chainH s'.heap (cellAt s g j) = chainH s.heap (cellAt s g j) ∧
      ∀ i ∈ chainH s.heap (cellAt s g j), (nodeAt s'.heap i).key = (nodeAt s.heap i).key ∧
        (nodeAt s'.heap i).next = (nodeAt s.heap i).next)
    (hself : ∀ p, l'.call = some p → WalkOK s' p l'.pc) : WInv s' := by
  refine ⟨?_⟩
  intro t1 l1 p1 hl1 hc1
  rw [hthr] at hl1
  rcases get_set hl1 with ⟨rfl, rfl⟩ | ⟨hne, hl1⟩
  · exact hself p1 hc1
  · have hold := W.walk t1 l1 p1 hl1 hc1
    obtain ⟨pc1, call1⟩ := l1
    simp only at hc1 hold
    subst hc1
    cases pc1 with
    | wFind g h pred cur =>
      obtain ⟨e1, e2, e3⟩ := hfr t1 _ g (p1.key % 2 ^ g) h hne hl1 rfl (fun h => h)
      refine WalkOK.congr hold ?_
      intro g' hg'
      cases hg'
      exact ⟨e1, e2, e3⟩
    | wStore g h pred hit hnext =>
      obtain ⟨e1, e2, e3⟩ := hfr t1 _ g (p1.key % 2 ^ g) h hne hl1 rfl (fun h => h)
      refine WalkOK.congr hold ?_
      intro g' hg'
      cases hg'
      exact ⟨e1, e2, e3⟩
    | _ => trivial

/-- a thread that works in generation `g` and sees a cell that is not forwarded sees an active cell — unless
the cell is the one being split (then it is a list whose lock the resizing thread holds) -/
theorem RWInv.active_of_gen {s : State} {G : Ghost} (I : RWInv s G) {t : Nat} {l : Local} {p : Pending} {g : Nat}
    (hl : s.threads[t]? = some l) (hp : l.call = some p) (hg : genOfPc l.pc = some g)
    (hnm : cellOf s g p.key ≠ .moved) (hmid : g = s.cur → ¬ IsMid G (p.key % 2 ^ g)) :
    Active s G (cellId g p.key) := by
  obtain ⟨h1, h2⟩ := (I.gen.thr t l hl).gen p g hp hg
  by_cases hc : g = s.cur + 1
  · right
    refine ⟨hc, by rw [hc]; exact mod_lt_pow _ _, ?_⟩
    have := h2 hc
    unfold cellId; simp only
    rw [hc, mod_succ_mod]
    exact this
  · by_cases hc' : g = s.cur
    · left
      exact ⟨hc', by rw [hc']; exact mod_lt_pow _ _, hnm, hmid hc'⟩
    · exact absurd (I.gen.old g _ (by omega) (mod_lt_pow _ _)) hnm

/-- an empty cell is not the one being split -/
theorem RWInv.active_of_empty {s : State} {G : Ghost} (I : RWInv s G) {t : Nat} {l : Local} {p : Pending} {g : Nat}
    (hl : s.threads[t]? = some l) (hp : l.call = some p) (hg : genOfPc l.pc = some g)
    (he : cellOf s g p.key = .empty) : Active s G (cellId g p.key) := by
  refine I.active_of_gen hl hp hg (by rw [he]; simp) ?_
  intro hc hm
  obtain ⟨lo, hg', fr, hmid⟩ := isMid_some hm
  obtain ⟨-, ⟨h, hn⟩, -⟩ := I.heap.mid _ lo hg' fr hmid
  rw [← hc] at hn
  unfold cellOf at he
  rw [he] at hn; cases hn

/-- a validated writer works on an active cell -/
theorem RWInv.active_of_vcell {s : State} {G : Ghost} (I : RWInv s G) {t : Nat} {l : Local} {p : Pending} {g h : Nat}
    (hl : s.threads[t]? = some l) (hp : l.call = some p) (hg : genOfPc l.pc = some g) (hT : ¬ isT l.pc)
    (hv : vcell s.cur l = some (g, p.key % 2 ^ g, h)) : Active s G (cellId g p.key) := by
  obtain ⟨hcell, -⟩ := (I.gen.thr t l hl).valid _ _ _ hv
  refine I.active_of_gen hl hp hg (by show cellAt s g _ ≠ _; rw [hcell]; simp) ?_
  intro hc hm
  subst hc
  exact I.midw _ hm t l h hl hT hv

/-- the effect of a transition on the memory, as far as the readers are concerned. `clear` (a store that empties the
cell `id`, as `Proto/BinXC`'s `clear` does) is produced by no transition of `Proto/BinN`, `BinNH`, `BinNI`, `BinNR`,
none of which has such an operation; `Good.cleared` says that the readers' justifications would survive it. -/
inductive MemStep (s s' : State) (G G' : Ghost) : Prop
  | heap : HeapStep s s' G G' → MemStep s s' G G'
  | moved (jm : Nat) (lo hg : Option Nat) (fr : Nat × Nat) : G.mid jm = some (lo, hg, fr) →
      (∀ j0 x, G'.mid j0 = some x → j0 ≠ jm ∧ G.mid j0 = some x) → G'.cr = G.cr →
      s'.heap = s.heap → s'.cur = s.cur → getCell s' (s.cur, jm) = .moved →
      (∀ id, id ≠ (s.cur, jm) → getCell s' id = getCell s id) →
      (∀ b, SideOK (bitAt s.cur) s.heap G.cr fr (chId s (s.cur, jm)) b (chId s (childId s.cur jm b))) →
      MemStep s s' G G'
  | clear (id : CellId) : G' = G → (∀ id', id' ≠ id → chId s' id' = chId s id') →
      (∀ k, LC s' k = if liveId s k = id then [] else LC s k) →
      (∀ j, Live s' G j → Live s G j ∧ j ∉ chId s id) → s'.heap = s.heap → MemStep s s' G G'

def Carries (k : Nat) (s s' : State) (G G' : Ghost) (A A' : Nat → KSt) : Prop :=
  ∀ (inv : Nat) (cur : Option Nat), inv ≤ s.now → Good G A k inv s cur → Good G' A' k inv s' cur

theorem MemStep.carries {k : Nat} {s s' : State} {G G' : Ghost} {A : Nat → KSt} {x : KSt}
    (m : MemStep s s' G G') (H : HInv s G) (H' : HInv s' G')
    (hnow : s'.now = s.now + 1) (hA : A s.now = absOf s k) : Carries k s s' G G' A (nextA A s.now x) := by
  intro inv cur hinv hg
  have hold : ∀ τ, τ ≤ s.now → nextA A s.now x τ = A τ := fun τ h => GhostView.nextA_old h
  cases m with
  | heap hs => exact hg.step H hs hnow hold hA hinv
  | moved jm lo hg' fr h1 h2 h3 h4 h5 h6 h7 h8 => exact hg.moved H H' h1 h2 h3 h4 h5 h6 h7 h8 hnow hold hA hinv
  | clear id h1 h2 h3 h4 h5 =>
    subst h1
    exact hg.cleared H h2 h3 h4 h5 hnow hold hA hinv

end Flurry.Proto.BinNHM
