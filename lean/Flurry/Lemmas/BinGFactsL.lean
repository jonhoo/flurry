import Flurry.Lemmas.BinGFactsBase
/-! # Proto/BinG: the single store of a list-bin writer, case by case

`storeAt_eq`: `storeAt` as a table over the operation and the hit, with the two writes that go through the remembered
predecessor named (`appendOf`, `unlinkL`). -/
namespace Flurry.Proto.BinG
open Flurry.Lin
open Flurry.Proto.BinK (nodeAt chainOf)

namespace FactsL

theorem startOf_list (tb : List TBin) (h : Nat) : startOf tb (.list h) = some h := rfl

theorem chainC_list (s : State) (h : Nat) : chainC s (.list h) = chainOf s.heap (some h) := rfl

end FactsL

def appendOf (s : State) (tab : Tab) (p : Pending) (pred : Option Nat) (v vi : Nat) : State :=
  match pred with
  | some l => setNode { s with heap := s.heap ++ [⟨p.key, (v, vi), none, none, false, none⟩] } l
      (fun n => { n with next := some s.heap.length })
  | none => setCell { s with heap := s.heap ++ [⟨p.key, (v, vi), none, none, false, none⟩] } tab p.key
      (.list s.heap.length)

def unlinkL (s : State) (tab : Tab) (p : Pending) (pred hnext : Option Nat) : State :=
  match pred with
  | some pr => setNode s pr (fun m => { m with next := hnext })
  | none => setCell s tab p.key (cellOfHead hnext)

theorem storeAt_eq (s : State) (tab : Tab) (p : Pending) (pred hit hnext : Option Nat) :
    storeAt s tab p pred hit hnext =
      match p.op, hit with
      | .ins v vi, some i => (setNode s i (fun n => { n with val := (v, vi) }), resOf (some (nodeAt s.heap i).val))
      | .ins v vi, none => (appendOf s tab p pred v vi, .none)
      | .tryIns _ _, some i => (s, .exists_ (nodeAt s.heap i).val.1 (nodeAt s.heap i).val.2)
      | .tryIns v vi, none => (appendOf s tab p pred v vi, .none)
      | .rm, some i => (unlinkL s tab p pred hnext, resOf (some (nodeAt s.heap i).val))
      | .rm, none => (s, .none)
      | .cipInc nvi, some i =>
        (setNode s i (fun m => { m with val := ((nodeAt s.heap i).val.1 + 1, nvi) }), .some ((nodeAt s.heap i).val.1 + 1) nvi)
      | .cipInc _, none => (s, .none)
      | .cipRm, some _ => (unlinkL s tab p pred hnext, .none)
      | .cipRm, none => (s, .none)
      | .get, _ => (s, .none)
      | .has, _ => (s, .none) := by
  unfold storeAt appendOf unlinkL nodeAt
  cases p.op <;> cases hit <;> first | rfl | (cases pred <;> first | rfl | (cases hnext <;> rfl))

end Flurry.Proto.BinG
