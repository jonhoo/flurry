import Flurry.Lemmas.SeqOpsCap
/-! # A bin holds at most as many nodes as present keys hash to it (`bin_length_le`)

This is what turns a hypothesis on the inserted keys alone (fewer than 8 of them hash to any one bin)
into `BinsBelow TREEIFY_THRESHOLD`: `C14.no_growth_with_room_hash`. -/
namespace Flurry.Seq
open Flurry Flurry.Gen

theorem Ref.insertAll_isSome {items : List (Nat × Nat × Nat × Nat)} {r : Ref} {k : Nat}
    (h : (Ref.insertAll items r k).isSome = true) :
    (r k).isSome = true ∨ k ∈ items.map (·.1) := by
  by_cases hk : k ∈ items.map (·.1)
  · exact Or.inr hk
  · left
    rw [Ref.insertAll_of_not_mem items r k] at h
    · exact h
    · intro it hit he
      exact hk (List.mem_map.2 ⟨it, hit, he⟩)

/-- the number of the given keys that the hash sends to bin `i` of a table of `n` bins -/
def keysInBin (hash : Nat → Nat) (n i : Nat) (keys : List Nat) : Nat :=
  (keys.filter (fun k => bini (hash k) n == i)).length

theorem keysInBin_append (hash : Nat → Nat) (n i : Nat) (l₁ l₂ : List Nat) :
    keysInBin hash n i (l₁ ++ l₂) = keysInBin hash n i l₁ + keysInBin hash n i l₂ := by
  simp [keysInBin, List.filter_append]

theorem bin_length_le {m : Map} {t : Table} (hg : Good m) (ht : m.table = some t)
    (keys : List Nat) (hkeys : ∀ k, (absMap m k).isSome = true → k ∈ keys) (i : Nat) :
    (tableBin t i).nodes.length ≤ keysInBin m.hash t.length i keys := by
  have htw := hg.wf.tableWF ht
  by_cases hi : i < t.length
  · have hnd : ((tableBin t i).nodes.map (·.key)).Nodup := (htw.bin i).keysNodup
    have := hnd.length_le_of_subset
      (l₂ := keys.filter (fun k => bini (m.hash k) t.length == i)) (by
        intro k hk
        obtain ⟨nd, hnd, rfl⟩ := List.mem_map.1 hk
        have hok := htw.nodeOk hnd
        have hmem : nd ∈ entries m := by
          rw [entries_eq ht]; exact mem_flatMap_nodes.2 ⟨i, hi, hnd⟩
        rw [List.mem_filter]
        refine ⟨hkeys _ ((absMap_isSome_iff hg nd.key).2 (List.mem_map.2 ⟨nd, hmem, rfl⟩)), ?_⟩
        rw [← hok.1, hok.2]; exact beq_self_eq_true i)
    rw [List.length_map] at this
    exact this
  · rw [tableBin_of_le (by omega)]; exact Nat.zero_le _

end Flurry.Seq
