import Flurry.Lemmas.BinNIBasic
/-! # Proto/BinNI: the transitions in normal form, and the induction rule for facts about iterators

`StepI s t s'`: the three kinds of transitions (a step of `Proto/BinN`, the creation of an iterator, a `Move` of
an iterator), with `s'` written out. An iterating thread is idle in the shared part (`IdleOK`), so an iterator
moves on `tick s.n`. In every transition the shared part makes a step of `Proto/BinN`, only thread `t`'s
iterator part changes, and the logs grow by entries of thread `t`'s live iteration only (`StepI.shared`).

`iter_induction`: a fact `Φ s t it` about the live iterators holds in every reachable state if it survives
a transition of another thread, holds of a new iterator, and survives the iterator's own moves. The rule fits facts
that mention neither the ghost of `Proto/BinN` nor the log `ends`; its one user is `reachable_frames_disjoint`
(`Lemmas/BinNIFrames.lean`). The invariants that carry `∃ G` or speak of completed iterations (`IInv`, `TimeInv` in
`Lemmas/BinNIInv.lean`, `KInv` in `Lemmas/BinNIUnique.lean`) each run their own induction over `Reachable`:
`Reachable.stepI` turns the step into a `StepI`, `StepI.shared` (for `TimeInv` a case split on `StepI`) gives what
it does to the shared part, the iterators and the logs; `kinv_step` then carries the iterators of the other threads
with `Phase.env` and the moving one with `Phase.move`. -/
namespace Flurry.Proto.BinNI
open Flurry.Lin
open Flurry.Proto.BinX (get_set get_set_ne)
open Flurry.Proto.BinN (tick StepK)

theorem Move.logs {n : BinN.State} {t : Nat} {it : Iter} {o : Option Iter} {ys : List Yield}
    {es : List (Nat × Nat × Nat)} (hm : Move n t it o ys es) :
    (∀ y ∈ ys, y.tid = t ∧ y.t0 = it.t0 ∧ y.time = n.now ∧ es = []) ∧ (∀ e ∈ es, e = (t, it.t0, n.now)) ∧
    ∀ it', o = some it' → it'.t0 = it.t0 ∧ es = [] := by
  cases hm <;> simp

inductive StepI (s : State) (t : Nat) : State → Prop
  | base {inv : Option (Nat × KOp)} {rz : Bool} {pick : Nat} {n' : BinN.State} : s.its[t]? = some none →
      BinN.step s.n t inv rz pick = some n' → StepI s t { s with n := n' }
  | create {l : BinN.Local} : s.its[t]? = some none → s.n.threads[t]? = some l → l.pc = .idle →
      StepI s t { s with n := tick s.n
                         its := s.its.set t (some ⟨s.n.now + 1, s.n.cur, none, rootCells s.n.cur⟩) }
  | move {l : BinN.Local} {it : Iter} {o : Option Iter} {ys : List Yield} {es : List (Nat × Nat × Nat)} :
      s.its[t]? = some (some it) → s.n.threads[t]? = some l → l.pc = .idle → Move (tick s.n) t it o ys es →
      StepI s t { n := tick s.n, its := s.its.set t o, yields := ys ++ s.yields, ends := es ++ s.ends }

/-- an iterating thread is idle in the shared part -/
def IdleOK (s : State) : Prop :=
  ∀ (t : Nat) (it : Iter), s.its[t]? = some (some it) → ∃ l : BinN.Local, s.n.threads[t]? = some l ∧ l.pc = .idle

theorem step_stepI {s s' : State} {t : Nat} {mk : Bool} {inv : Option (Nat × KOp)} {rz : Bool} {pick : Nat}
    (hid : IdleOK s) (h : step s t mk inv rz pick = some s') : StepI s t s' := by
  rcases step_cases h with ⟨hi, -, n', hn, rfl⟩ | ⟨hi, -, l, hl, hpc, rfl⟩ | ⟨it, n', hi, hn, hit⟩
  · exact .base hi hn
  · exact .create hi hl hpc
  · obtain ⟨l, hl, hpc⟩ := hid t it hi
    rw [idle_step hl hpc] at hn
    cases hn
    obtain ⟨o, ys, es, hm, rfl⟩ := iterStep_move hit
    exact .move hi hl hpc hm

/-- a move of an iterating thread is a transition, whatever the scheduler's other choices -/
theorem step_of_move {s : State} {t : Nat} {l : BinN.Local} {it : Iter} {o : Option Iter} {ys : List Yield}
    {es : List (Nat × Nat × Nat)} (hi : s.its[t]? = some (some it)) (hl : s.n.threads[t]? = some l) (hpc : l.pc = .idle)
    (hm : Move (tick s.n) t it o ys es) (mk : Bool) (inv : Option (Nat × KOp)) (rz : Bool) (pick : Nat) :
    step s t mk inv rz pick =
      some { n := tick s.n, its := s.its.set t o, yields := ys ++ s.yields, ends := es ++ s.ends } := by
  unfold step
  rw [hi]
  simp only
  rw [idle_step hl hpc]
  exact iterStep_of_move hm

/-- what every transition does, seen by the other threads -/
theorem StepI.shared {s s' : State} {t : Nat} (h : StepI s t s') :
    (∃ l pick, s.n.threads[t]? = some l ∧ StepK s.n t l pick s'.n) ∧
    (∀ t', t' ≠ t → s'.its[t']? = s.its[t']?) ∧
    ∃ ys es, s'.yields = ys ++ s.yields ∧ s'.ends = es ++ s.ends ∧
      (∀ y ∈ ys, y.tid = t ∧ y.time = s'.n.now ∧ ∃ it, s.its[t]? = some (some it) ∧ y.t0 = it.t0) ∧
      ∀ e ∈ es, e.1 = t ∧ e.2.2 = s'.n.now := by
  have idleK : ∀ l : BinN.Local, s.n.threads[t]? = some l → l.pc = .idle →
      ∃ l pick, s.n.threads[t]? = some l ∧ StepK s.n t l pick (tick s.n) := fun l hl hpc =>
    ⟨l, 0, hl, BinN.step_stepK hl (idle_step hl hpc)⟩
  cases h with
  | @base inv rz pick n' hi hn =>
    refine ⟨?_, fun _ _ => rfl, [], [], rfl, rfl, nofun, nofun⟩
    cases hl : s.n.threads[t]? with
    | none => unfold BinN.step BinN.stepG at hn; rw [hl] at hn; cases hn
    | some l => exact ⟨l, pick, rfl, BinN.step_stepK hl hn⟩
  | create hi hl hpc =>
    exact ⟨idleK _ hl hpc, fun t' hne => get_set_ne hne, [], [], rfl, rfl, nofun, nofun⟩
  | @move l it o ys es hi hl hpc hm =>
    obtain ⟨hys, hes, -⟩ := hm.logs
    refine ⟨idleK _ hl hpc, fun t' hne => get_set_ne hne, ys, es, rfl, rfl, fun y hy => ?_, fun e he => ?_⟩
    · exact ⟨(hys y hy).1, (hys y hy).2.2.1, it, hi, (hys y hy).2.1⟩
    · rw [hes e he]; exact ⟨rfl, rfl⟩

theorem StepI.now {s s' : State} {t : Nat} (h : StepI s t s') : s'.n.now = s.n.now + 1 := by
  obtain ⟨⟨l, pick, -, hk⟩, -⟩ := h.shared
  exact (BinN.stepK_frame hk).1

theorem idleOK_step {s s' : State} {t : Nat} (hid : IdleOK s) (h : StepI s t s') : IdleOK s' := by
  obtain ⟨⟨l, pick, hl, hk⟩, hits, -⟩ := h.shared
  obtain ⟨-, l', hthr⟩ := BinN.stepK_frame hk
  intro t' it' hi'
  by_cases hne : t' = t
  · subst hne
    cases h with
    | base hi _ => rw [hi] at hi'; cases hi'
    | create _ hl0 hpc => exact ⟨_, hl0, hpc⟩
    | move _ hl0 hpc _ => exact ⟨_, hl0, hpc⟩
  · rw [hits t' hne] at hi'
    obtain ⟨l0, h1, h2⟩ := hid t' it' hi'
    exact ⟨l0, by rw [hthr, get_set_ne hne]; exact h1, h2⟩

theorem reachable_idle {nt : Nat} {s : State} (hr : Reachable nt s) : IdleOK s := by
  induction hr with
  | init => exact fun t it h => (init_its h).elim
  | step t mk inv rz pick _ hs ih => exact idleOK_step ih (step_stepI ih hs)

theorem Reachable.stepI {nt : Nat} {s s' : State} {t : Nat} {mk : Bool} {inv : Option (Nat × KOp)} {rz : Bool}
    {pick : Nat} (hr : Reachable nt s) (h : BinNI.step s t mk inv rz pick = some s') : StepI s t s' :=
  step_stepI (reachable_idle hr) h

/-- **induction over the life of an iterator**: `Φ` holds of every live iterator of every reachable state if it
survives the transitions of the other threads (`env`), holds of a new iterator (`new`) and survives the
iterator's own moves (`own`) -/
theorem iter_induction {nt : Nat} {Φ : State → Nat → Iter → Prop}
    (env : ∀ {s s' : State} {t t' : Nat} {it' : Iter}, Reachable nt s → StepI s t s' → t' ≠ t →
      s.its[t']? = some (some it') → Φ s t' it' → Φ s' t' it')
    (new : ∀ {s : State} {t : Nat}, Reachable nt s → s.its[t]? = some none →
      Φ { s with n := tick s.n, its := s.its.set t (some ⟨s.n.now + 1, s.n.cur, none, rootCells s.n.cur⟩) } t
        ⟨s.n.now + 1, s.n.cur, none, rootCells s.n.cur⟩)
    (own : ∀ {s : State} {t : Nat} {it it' : Iter} {ys : List Yield} {es : List (Nat × Nat × Nat)},
      Reachable nt s → s.its[t]? = some (some it) → Move (tick s.n) t it (some it') ys es → Φ s t it →
      Φ { n := tick s.n, its := s.its.set t (some it'), yields := ys ++ s.yields, ends := es ++ s.ends } t it')
    {s : State} (hr : Reachable nt s) : ∀ (t : Nat) (it : Iter), s.its[t]? = some (some it) → Φ s t it := by
  induction hr with
  | init => exact fun t it h => (init_its h).elim
  | @step s s' t mk inv rz pick hr hs ih =>
    have hI := hr.stepI hs
    intro t' it' h
    by_cases hne : t' = t
    · subst hne
      cases hI with
      | base hi _ => rw [hi] at h; cases h
      | create hi _ _ =>
        rcases get_set h with ⟨-, e⟩ | ⟨hne, -⟩
        · cases e; exact new hr hi
        · exact absurd rfl hne
      | move hi _ _ hm =>
        rcases get_set h with ⟨-, e⟩ | ⟨hne, -⟩
        · subst e; exact own hr hi hm (ih _ _ hi)
        · exact absurd rfl hne
    · rw [(hI.shared).2.1 t' hne] at h
      exact env hr hI hne h (ih t' it' h)

end Flurry.Proto.BinNI
