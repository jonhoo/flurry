import Flurry.Lemmas.BinWWalk
import Flurry.Lemmas.BinRMain
/-! # `Proto/BinW` is `Proto/BinR` without `condRm` and without the `retain` visit

`embW : BinW.State → BinR.State` maps a state of `Proto/BinW` to the same state of `Proto/BinR`; it
lies over `Bin.emb` (`proj_embW`). It maps every transition to a transition (`StepW.base`), so the
simulation invariant of `Proto/BinR` and the ghost invariant of `Proto/BinRBase` hold on the image of
every reachable state (`reachable_base`), and with them the invariants of `Proto/Bin` on the
projection and the walk invariant (`reachable_sim`, `reachable_walk`). `reachable_base` is the one
place where an invariant of `Proto/BinR` or `Proto/BinRBase` reaches `Proto/BinW`: a further one is a
further conjunct there, and `reachable_sim` reads its `Proto/Bin` form through an `of_emb` lemma. -/
namespace Flurry.Proto.BinW
open Flurry.Lin

def wN (n : NodeS) : BinR.NodeS := ⟨n.key, n.val, n.next, n.lock⟩

def wP (p : Pending) : BinR.Pending := ⟨p.key, embOp p.op, p.inv⟩

def wPc : Pc → BinR.Pc
  | .idle => .idle
  | .rHead => .rHead
  | .rNode c => .rNode c
  | .wHead => .wHead
  | .wCas => .wCas
  | .wLock h => .wLock h
  | .wCheck h => .wCheck h
  | .wFind h pred cur => .wFind h pred cur
  | .wStore h pred hit hnext => .wStore h pred hit hnext
  | .wUnlock h r b => .wUnlock h (embRes r) b

def wL (l : Local) : BinR.Local := ⟨wPc l.pc, l.call.map wP⟩

def embW (s : State) : BinR.State :=
  ⟨s.heap.map wN, s.head, s.threads.map wL, s.hist.map Bin.eH, s.now⟩

theorem cPc_wPc (pc : Pc) : BinR.cPc (wPc pc) = Bin.ePc (cPc pc) := by cases pc <;> rfl

theorem cL_wL (l : Local) : BinR.cL (wL l) = Bin.eL (cL l) := by
  obtain ⟨pc, call⟩ := l
  simp only [BinR.cL, wL, Bin.eL, cL, cPc_wPc, Option.map_map]
  rfl

theorem proj_embW (s : State) : BinR.proj (embW s) = Bin.emb (proj s) := by
  simp only [BinR.proj, embW, Bin.emb, proj, List.map_map]
  congr 1
  · exact List.map_congr_left fun l _ => cL_wL l

theorem embW_tick (s : State) : embW (tick s) = BinR.tick (embW s) := rfl

theorem thr_embW {s : State} {t : Nat} {l : Local} (hl : s.threads[t]? = some l) :
    (embW s).threads[t]? = some (wL l) := by
  rw [embW, List.getElem?_map, hl]; rfl

theorem call_embW {l : Local} {p : Pending} (hp : l.call = some p) : (wL l).call = some (wP p) :=
  congrArg (Option.map wP) hp

theorem setT_embW (s : State) (t : Nat) (l : Local) :
    BinR.setT (embW s) t (wL l) = embW (setT s t l) := by
  simp only [BinR.setT, embW, setT, List.map_set]

theorem finish_embW (s : State) (t : Nat) (p : Pending) (res : KRes) :
    BinR.finish (embW s) t (wP p) (embRes res) = embW (finish s t p res) := by
  simp only [BinR.finish, BinR.setT, embW, finish, setT, List.map_set, List.map_cons]
  rfl

theorem setNode_embW (s : State) (i : Nat) (f : NodeS → NodeS) (f' : BinR.NodeS → BinR.NodeS)
    (hf : ∀ a, wN (f a) = f' (wN a)) : BinR.setNode (embW s) i f' = embW (setNode s i f) := by
  simp only [BinR.setNode, embW, setNode, BinR.Base.map_modify wN f f' hf]

theorem getD_mapW (heap : List NodeS) (i : Nat) :
    (heap.map wN).getD i ⟨0, (0, 0), none, none⟩ = wN (heap.getD i ⟨0, (0, 0), none, none⟩) :=
  BinR.Base.getD_map wN heap i ⟨0, (0, 0), none, none⟩

theorem embW_push (s : State) (n : NodeS) (hd : Option Nat) :
    embW { s with heap := s.heap ++ [n], head := hd } =
      { embW s with heap := (embW s).heap ++ [wN n], head := hd } := by
  simp only [embW, List.map_append, List.map_cons, List.map_nil]

theorem appendAt_embW (s : State) (n : NodeS) (pred : Option Nat) :
    (match pred with
      | some l => BinR.setNode { embW s with heap := (embW s).heap ++ [wN n] } l
          (fun m => { m with next := some s.heap.length })
      | none => { embW s with heap := (embW s).heap ++ [wN n], head := some s.heap.length }) =
    embW (match pred with
      | some l => setNode { s with heap := s.heap ++ [n] } l (fun m => { m with next := some s.heap.length })
      | none => { s with heap := s.heap ++ [n], head := some s.heap.length }) := by
  cases pred with
  | none => exact (embW_push s n _).symm
  | some l =>
    exact (congrArg (BinR.setNode · l _) (embW_push s n s.head).symm).trans
      (setNode_embW _ l (fun m => { m with next := some s.heap.length }) _ fun _ => rfl)

theorem unlinkAt_embW (s : State) (pred hnext : Option Nat) :
    (match pred with
      | some pr => BinR.setNode (embW s) pr (fun m => { m with next := hnext })
      | none => { embW s with head := hnext }) =
    embW (match pred with
      | some pr => setNode s pr (fun m => { m with next := hnext })
      | none => { s with head := hnext }) := by
  cases pred with
  | none => rfl
  | some pr => exact setNode_embW s pr _ _ fun _ => rfl

theorem storeAt_embW (s : State) (p : Pending) (pred hit hnext : Option Nat) :
    BinR.storeAt (embW s) (wP p) pred hit hnext = Prod.map embW embRes (storeAt s p pred hit hnext) := by
  obtain ⟨key, op, inv⟩ := p
  have hheap : (embW s).heap = s.heap.map wN := rfl
  unfold BinR.storeAt storeAt
  simp only [hheap, getD_mapW, wP, wN, List.length_map]
  cases hit with
  | none =>
    cases op with
    | ins v vi => exact Prod.ext (appendAt_embW s ⟨key, (v, vi), none, none⟩ pred) rfl
    | tryIns v vi => exact Prod.ext (appendAt_embW s ⟨key, (v, vi), none, none⟩ pred) rfl
    | _ => rfl
  | some i =>
    cases op with
    | ins v vi => exact Prod.ext (setNode_embW s i _ _ fun _ => rfl) rfl
    | cipInc nvi => exact Prod.ext (setNode_embW s i _ _ fun _ => rfl) rfl
    | rm => exact Prod.ext (unlinkAt_embW s pred hnext) rfl
    | cipRm => exact Prod.ext (unlinkAt_embW s pred hnext) rfl
    | _ => rfl

theorem isReader_embW (op : KOp) : BinR.isReader (embOp op) = isReader op := by cases op <;> rfl

theorem walkPc_wPc {pc : Pc} : BinR.walkPc (wPc pc) ↔ walkPc pc := by cases pc <;> exact Iff.rfl

theorem node_embW {s : State} {c : Nat} {n : NodeS} (hn : s.heap[c]? = some n) :
    (embW s).heap[c]? = some (wN n) := by
  rw [embW, List.getElem?_map, hn]; rfl

theorem StepW.base {s s' : State} {t : Nat} {l : Local} (h : StepW s t l s') :
    BinR.StepW (embW s) t (wL l) (embW s') := by
  cases h with
  | idle hpc => exact .idle (congrArg wPc hpc)
  | invoke k op hpc =>
    have := BinR.StepW.invoke (s := embW s) (t := t) (l := wL l) k (embOp op) (congrArg wPc hpc)
    rw [isReader_embW] at this
    rw [← setT_embW]
    cases hr : isReader op <;> rw [hr] at this <;> exact this
  | move p pc' hp hm hnw hw =>
    rw [← setT_embW]
    refine .move (wP p) (wPc pc') (call_embW hp) ?_ (fun h => hnw (walkPc_wPc.1 h)) fun h => ?_
    · have := hm.base
      rwa [← proj_embW, ← cPc_wPc, ← cPc_wPc] at this
    · obtain ⟨h0, h1, h2⟩ := hw (walkPc_wPc.1 h)
      exact ⟨h0, congrArg wPc h1, congrArg wPc h2⟩
  | lockMove p h x pc' hp hm hnw hnw' =>
    rw [← setT_embW, ← setNode_embW _ h _ (fun m => { m with lock := x }) fun _ => rfl]
    refine .lockMove (wP p) h x (wPc pc') (call_embW hp) ?_ (fun h => hnw (walkPc_wPc.1 h))
      (fun h => hnw' (walkPc_wPc.1 h))
    have := hm.base
    rwa [← proj_embW, ← cPc_wPc, ← cPc_wPc] at this
  | fin p res hp hf =>
    rw [← finish_embW]
    refine .fin (wP p) (embRes res) (call_embW hp) ?_
    have := hf.base
    rwa [← proj_embW, ← cPc_wPc] at this
  | cas p v vi hp hpc hh hop =>
    rw [← finish_embW]
    have := BinR.StepW.cas (s := embW s) (t := t) (l := wL l) (wP p) v vi (call_embW hp) (congrArg wPc hpc) hh
      (hop.imp (congrArg embOp) (congrArg embOp))
    rw [show (embW s).heap = s.heap.map wN from rfl, List.length_map] at this
    exact (embW_push (tick s) ⟨p.key, (v, vi), none, none⟩ (some s.heap.length)) ▸ this
  | walkEnd p h pred hp hpc =>
    rw [← setT_embW]; exact .walkEnd (wP p) h pred (call_embW hp) (congrArg wPc hpc)
  | walkHit p h pred c n hp hpc hn hk =>
    rw [← setT_embW]; exact .walkHit (wP p) h pred c (wN n) (call_embW hp) (congrArg wPc hpc) (node_embW hn) hk
  | walkNext p h pred c n hp hpc hn hk =>
    rw [← setT_embW]; exact .walkNext (wP p) h pred c (wN n) (call_embW hp) (congrArg wPc hpc) (node_embW hn) hk
  | store p h pred hit hnext hp hpc =>
    have := BinR.StepW.store (s := embW s) (t := t) (l := wL l) (wP p) h pred hit hnext (call_embW hp)
      (congrArg wPc hpc)
    rw [← embW_tick, storeAt_embW] at this
    rw [← setT_embW]
    exact this
  | unlockFin p h res hp hpc =>
    rw [← finish_embW, ← setNode_embW _ h _ (fun m => { m with lock := none }) fun _ => rfl]
    exact .unlockFin (wP p) h (embRes res) (call_embW hp) (congrArg wPc hpc)

theorem embW_init (n : Nat) : embW (init n) = BinR.init n := by
  simp only [embW, init, BinR.init, List.map_replicate, List.map_nil]
  rfl

theorem reachable_base {n : Nat} {s : State} (hr : Reachable n s) :
    BinR.WInv (embW s) ∧ ∀ k, ∃ A pt, BinR.Base.GInv k (BinR.proj (embW s)) A pt := by
  induction hr with
  | init =>
    rw [embW_init]
    exact ⟨BinR.init_winv n, fun k => ⟨_, _, by rw [BinR.proj_init]; exact BinR.Base.init_ginv n k⟩⟩
  | @step s s' t inv _ hs ih =>
    obtain ⟨W, G⟩ := ih
    cases hl : s.threads[t]? with
    | none => unfold step stepG at hs; rw [hl] at hs; cases hs
    | some l =>
      have hk := (step_stepW hl hs).base
      have hl' := thr_embW hl
      refine ⟨BinR.winv_step W hl' hk, fun k => ?_⟩
      obtain ⟨A, pt, g⟩ := G k
      exact BinR.ginv_stepW g W hl' hk

theorem reachable_sim {n : Nat} {s : State} (hr : Reachable n s) :
    Bin.Inv (proj s) ∧ Bin.LInv (proj s) ∧ ∀ k, ∃ A pt, Bin.GInv k (proj s) A pt := by
  obtain ⟨W, G⟩ := reachable_base hr
  refine ⟨.of_emb (proj_embW s ▸ W.inv), .of_emb (proj_embW s ▸ W.linv), fun k => ?_⟩
  obtain ⟨A, pt, g⟩ := G k
  exact ⟨A, pt, .of_emb (proj_embW s ▸ g)⟩

theorem reachable_walk {n : Nat} {s : State} (hr : Reachable n s) {t : Nat} {l : Local} {p : Pending}
    {h : Nat} {pred hit hnext : Option Nat}
    (hl : s.threads[t]? = some l) (hpc : l.pc = .wStore h pred hit hnext) (hc : l.call = some p) :
    Walk (proj s) p.key pred hit ∧
      ∀ i, hit = some i → (Bin.nodeAt (proj s).heap i).key = p.key ∧ hnext = (Bin.nodeAt (proj s).heap i).next := by
  have w := (reachable_base hr).1.walk t (wL l) (wP p) (thr_embW hl) (call_embW hc)
  rw [show (wL l).pc = .wStore h pred hit hnext from congrArg wPc hpc, proj_embW] at w
  refine ⟨walk_emb.1 w.1, fun i hi => ?_⟩
  have := w.2 i hi
  rwa [Bin.emb_heap, Bin.nodeAt_emb] at this

theorem storeAt_eq_writerStore_of_reachable {n : Nat} {s : State} (hr : Reachable n s) {t : Nat}
    {l : Local} {p : Pending} {h : Nat} {pred hit hnext : Option Nat}
    (hl : s.threads[t]? = some l) (hpc : l.pc = .wStore h pred hit hnext) (hc : l.call = some p) :
    proj (storeAt s p pred hit hnext).1 = (Bin.writerStore (proj s) (cP p)).1 ∧
    (storeAt s p pred hit hnext).2 = (Bin.writerStore (proj s) (cP p)).2 :=
  storeAt_eq_writerStore (reachable_sim hr).1.heap (reachable_walk hr hl hpc hc).1
    (reachable_walk hr hl hpc hc).2

end Flurry.Proto.BinW
