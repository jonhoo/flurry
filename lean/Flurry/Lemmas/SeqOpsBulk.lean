import Flurry.Lemmas.SeqOpsRetain
/-! # `reserve`, `putAll`, `extend`, `collect`, `clone`, `mapEq` -/
namespace Flurry.Seq
open Flurry Flurry.Gen

def Ref.insertAll (items : List (Nat × Nat × Nat × Nat)) (r : Ref) : Ref :=
  items.foldl (fun r (k, ki, v, vi) => r.insert k ki v vi) r

theorem Ref.insertAll_nil (r : Ref) : Ref.insertAll [] r = r := rfl

theorem Ref.insertAll_cons (k ki v vi : Nat) (rest : List (Nat × Nat × Nat × Nat)) (r : Ref) :
    Ref.insertAll ((k, ki, v, vi) :: rest) r = Ref.insertAll rest (r.insert k ki v vi) := rfl

theorem putAll_nil (m : Map) : putAll [] m = m := rfl

theorem putAll_cons (k ki v vi : Nat) (rest : List (Nat × Nat × Nat × Nat)) (m : Map) :
    putAll ((k, ki, v, vi) :: rest) m = putAll rest (put k ki v vi false m).1 := rfl

theorem reserve_good (n : Nat) {m : Map} (hg : Good m) : Good (reserve n m) :=
  ⟨(reserve_spec n hg.wf hg.initOk).1, tryPresize_initOk _ hg.wf hg.initOk⟩

theorem reserve_post (n : Nat) {m : Map} (hg : Good m) : StepPost m (reserve n m) :=
  ⟨reserve_good n hg, tryPresize_hash _ _, (reserve_spec n hg.wf hg.initOk).2.2.2.1,
    (reserve_spec n hg.wf hg.initOk).2.2.2.2⟩

theorem reserve_get (n : Nat) {m : Map} (hg : Good m) (k : Nat) : get k (reserve n m) = get k m :=
  (reserve_spec n hg.wf hg.initOk).2.1.2.1 k

theorem reserve_absMap (n : Nat) {m : Map} (hg : Good m) : absMap (reserve n m) = absMap m :=
  (reserve_spec n hg.wf hg.initOk).2.1.absMap_eq

theorem reserve_len (n : Nat) {m : Map} (hg : Good m) : len (reserve n m) = len m := by
  simp only [len, (reserve_spec n hg.wf hg.initOk).2.2.1]

theorem putAll_spec (items : List (Nat × Nat × Nat × Nat)) : ∀ {m : Map}, Good m →
    StepPost m (putAll items m) ∧ absMap (putAll items m) = Ref.insertAll items (absMap m) := by
  induction items with
  | nil => intro m hg; exact ⟨.refl hg, rfl⟩
  | cons it rest ih =>
    intro m hg
    obtain ⟨hp, -⟩ := put_spec it.1 it.2.1 it.2.2.1 it.2.2.2 false hg
    obtain ⟨h1, h2⟩ := ih hp.good
    exact ⟨hp.toStepPost.trans h1, h2.trans (congrArg (Ref.insertAll rest)
      ((put_absMap it.1 it.2.1 it.2.2.1 it.2.2.2 false hg).trans (if_neg fun h => nomatch h.1)))⟩

theorem putAll_good (items : List (Nat × Nat × Nat × Nat)) {m : Map} (hg : Good m) :
    Good (putAll items m) := (putAll_spec items hg).1.good

theorem putAll_absMap (items : List (Nat × Nat × Nat × Nat)) {m : Map} (hg : Good m) :
    absMap (putAll items m) = Ref.insertAll items (absMap m) := (putAll_spec items hg).2

theorem extend_absMap (hint : Nat) (items : List (Nat × Nat × Nat × Nat)) {m : Map} (hg : Good m) :
    absMap (extend hint items m) = Ref.insertAll items (absMap m) := by
  unfold extend
  rw [putAll_absMap items (reserve_good _ hg), reserve_absMap _ hg]

theorem absMap_withCapacity (hash : Nat → Nat) (c : Nat) : absMap (withCapacity hash c) = Ref.empty := by
  funext k; simp only [absMap, withCapacity_get, Ref.empty, Option.map_none]

theorem collect_good (hash : Nat → Nat) (hint : Nat) (items : List (Nat × Nat × Nat × Nat)) :
    Good (collect hash hint items) := by
  cases items with
  | nil => exact new_wf_initOk hash
  | cons it rest => exact putAll_good _ (good_withCapacity hash _)

theorem collect_absMap (hash : Nat → Nat) (hint : Nat) (items : List (Nat × Nat × Nat × Nat)) :
    absMap (collect hash hint items) = Ref.insertAll items Ref.empty := by
  cases items with
  | nil => funext k; rfl
  | cons it rest =>
    show absMap (putAll (it :: rest) (withCapacity hash _)) = _
    rw [putAll_absMap _ (good_withCapacity hash _), absMap_withCapacity]

theorem Ref.insertAll_of_not_mem (items : List (Nat × Nat × Nat × Nat)) :
    ∀ (r : Ref) (k : Nat), (∀ it ∈ items, it.1 ≠ k) → Ref.insertAll items r k = r k := by
  induction items with
  | nil => intro r k _; rfl
  | cons it rest ih =>
    intro r k h
    obtain ⟨k0, ki, v, vi⟩ := it
    rw [Ref.insertAll_cons, ih _ k (fun x hx => h x (by simp [hx]))]
    have : k ≠ k0 := fun e => h (k0, ki, v, vi) (by simp) e.symm
    simp [Ref.insert, this]

/-- the item `clone` inserts for a node -/
def itemOf (nd : Node) : Nat × Nat × Nat × Nat := (nd.key, nd.ki, nd.val, nd.vi)

theorem Ref.insertAll_nodes (l : List Node) : ∀ (r : Ref), KeysNodup l → (∀ nd ∈ l, r nd.key = none) →
    ∀ nd ∈ l, Ref.insertAll (l.map itemOf) r nd.key = some (nd.ki, nd.val, nd.vi) := by
  induction l with
  | nil => intro r _ _ nd h; cases h
  | cons a rest ih =>
    intro r hn hr nd hnd
    obtain ⟨hak, hn'⟩ := keysNodup_cons.1 hn
    rw [List.map_cons]
    show Ref.insertAll ((a.key, a.ki, a.val, a.vi) :: rest.map itemOf) r nd.key = _
    rw [Ref.insertAll_cons]
    rcases List.mem_cons.1 hnd with rfl | hnd
    · rw [Ref.insertAll_of_not_mem]
      · simp [Ref.insert, hr nd (by simp)]
      · intro it hit
        obtain ⟨x, hx, rfl⟩ := List.mem_map.1 hit
        exact hak x hx
    · refine ih _ hn' ?_ nd hnd
      intro x hx
      have : x.key ≠ a.key := hak x hx
      simp only [Ref.insert, this, ↓reduceIte]
      exact hr x (by simp [hx])

theorem clone_good {m : Map} : Good (clone m) := putAll_good _ (good_withCapacity _ _)

theorem clone_absMap {m : Map} (hg : Good m) (k : Nat) : absMap (clone m) k = absMap m k := by
  unfold clone
  rw [putAll_absMap _ (good_withCapacity _ _), absMap_withCapacity]
  show Ref.insertAll ((entries m).map itemOf) Ref.empty k = _
  obtain hgk | ⟨old, hgk⟩ : get k m = none ∨ ∃ old, get k m = some old := by
    cases get k m <;> simp
  · rw [Ref.insertAll_of_not_mem]
    · simp [absMap, hgk, Ref.empty]
    · intro it hit hk
      obtain ⟨x, hx, rfl⟩ := List.mem_map.1 hit
      have := (mem_entries_iff hg).1 hx
      rw [show x.key = k from hk, hgk] at this
      cases this
  · obtain ⟨hmem, hk⟩ := (get_some_iff hg).1 hgk
    subst hk
    rw [Ref.insertAll_nodes (entries m) Ref.empty (entries_keys_nodup_of_good hg) (fun _ _ => rfl)
      old hmem]
    simp [absMap, hgk]

theorem clone_hash (m : Map) : (clone m).hash = m.hash := by
  unfold clone
  rw [(putAll_spec _ (good_withCapacity _ _)).1.hash, withCapacity_hash]

theorem len_eq_of_absMap_eq {a b : Map} (ha : Good a) (hb : Good b)
    (h : ∀ k, absMap a k = absMap b k) : len a = len b := by
  rw [len_eq_keys_length ha, len_eq_keys_length hb]
  refine List.Perm.length_eq ?_
  rw [List.perm_ext_iff_of_nodup (entries_keys_nodup_of_good ha) (entries_keys_nodup_of_good hb)]
  intro k
  rw [← absMap_isSome_iff ha, ← absMap_isSome_iff hb, h k]

theorem clone_len {m : Map} (hg : Good m) : len (clone m) = len m :=
  len_eq_of_absMap_eq clone_good hg (clone_absMap hg)

/-- `a == b` holds when the abstract maps agree (on payloads) -/
theorem mapEq_of_absMap_eq {a b : Map} (ha : Good a) (hb : Good b)
    (h : ∀ k, absMap a k = absMap b k) : mapEq a b = true := by
  unfold mapEq
  rw [Bool.and_eq_true]
  refine ⟨by rw [len_eq_of_absMap_eq ha hb h]; exact beq_self_eq_true _, ?_⟩
  rw [List.all_eq_true]
  intro nd hnd
  have h1 := absMap_of_mem_entries ha hnd
  rw [h nd.key] at h1
  simp only [absMap] at h1
  cases hgb : get nd.key b with
  | none => rw [hgb] at h1; cases h1
  | some x =>
    rw [hgb] at h1
    simp only [Option.map_some, Option.some.injEq, Prod.mk.injEq] at h1
    simp [h1.2.1]

theorem mapEq_clone {m : Map} (hg : Good m) : mapEq m (clone m) = true :=
  mapEq_of_absMap_eq hg clone_good (fun k => (clone_absMap hg k).symm)

end Flurry.Seq
