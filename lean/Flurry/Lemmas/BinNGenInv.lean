import Flurry.Lemmas.BinNGenStep
/-! # Proto/BinN: the generation invariant — a store into one cell (`geninv_put`), and who may hold a validated lock on it -/
namespace Flurry.Proto.BinN
open Flurry.Lin
open Flurry.Proto.BinX (NodeS Cell Pending isReader dflt chainFrom cellHead cellOfHead get_set get_set_self get_set_ne)

/-- `GenInv` after thread `t` stores `c` into cell `(g0, j0)`. `hold` and `hc` keep the markers where `GenInv` wants them
(none is overwritten, a new one only in generation `cur` of a running resize); `hother` keeps `ThrOK.valid` of the other
threads (none of them is validated on the cell); `hlock`, `hT`, `hself` are passed on to `geninv_frame`. -/
theorem geninv_put {s s' : State} {t : Nat} {l l' : Local} {g0 j0 : Nat} {c : Cell} (I : GenInv s)
    (hl : s.threads[t]? = some l)
    (hthr : s'.threads = s.threads.set t l') (hcur : s'.cur = s.cur) (hres : s'.resizing = s.resizing)
    (htabs : s'.tabs = s.tabs.modify g0 (fun row => row.set j0 c))
    (hold : cellAt s g0 j0 ≠ .moved ∨ c = .moved)
    (hc : c = .moved → g0 = s.cur ∧ s.resizing = true)
    (hother : ∀ t1 l1 h, t1 ≠ t → s.threads[t1]? = some l1 → vcell s.cur l1 ≠ some (g0, j0, h))
    (hlock : ∀ t1 l1 h, t1 ≠ t → s.threads[t1]? = some l1 → Holds l1.pc h →
      h < s'.heap.length ∧ lockAt s'.heap h = some t1)
    (hT : isT l'.pc → isT l.pc)
    (hself : ThrOK s' t l') : GenInv s' := by
  have hne : ∀ g j, ¬ (g = g0 ∧ j = j0) → cellAt s' g j = cellAt s g j := by
    intro g j h
    rw [cellAt_eq, cellAt_eq, htabs]
    exact cellT_put_ne _ _ h
  have hself' : cellAt s' g0 j0 = c ∨ cellAt s' g0 j0 = cellAt s g0 j0 := by
    rw [cellAt_eq, cellAt_eq, htabs]
    exact cellT_put_self _ _ _ _
  refine geninv_frame I hl hthr hcur hres (by rw [htabs]; simp) ?_ ?_ ?_ ?_ hlock hT hself
  · intro g row' hr'
    rw [htabs, List.getElem?_modify] at hr'
    cases hr : s.tabs[g]? with
    | none => rw [hr] at hr'; cases hr'
    | some row =>
      rw [hr] at hr'
      simp only [Option.map_eq_map, Option.map_some, Option.some.injEq] at hr'
      refine ⟨row, rfl, ?_⟩
      rw [← hr']
      split <;> simp
  · intro g j hm
    by_cases h : g = g0 ∧ j = j0
    · obtain ⟨rfl, rfl⟩ := h
      rcases hself' with e | e
      · rcases hold with h1 | h1
        · exact absurd hm h1
        · rw [e]; exact h1
      · rw [e]; exact hm
    · rw [hne g j h]; exact hm
  · intro g j hm
    by_cases h : g = g0 ∧ j = j0
    · obtain ⟨rfl, rfl⟩ := h
      rcases hself' with e | e
      · rw [e] at hm
        exact Or.inr (hc hm)
      · rw [e] at hm; exact Or.inl hm
    · rw [hne g j h] at hm; exact Or.inl hm
  · intro t1 l1 g j h n1 h1 hv
    by_cases hh : g = g0 ∧ j = j0
    · obtain ⟨rfl, rfl⟩ := hh
      exact absurd hv (hother t1 l1 h n1 h1)
    · exact hne g j hh

/-- nobody else holds a validated lock on a cell that is not a list -/
theorem no_vcell_of_not_node {s : State} (I : GenInv s) {g j : Nat} (hc : ∀ h, cellAt s g j ≠ .node h) :
    ∀ (t1 : Nat) (l1 : Local) (h : Nat), s.threads[t1]? = some l1 → vcell s.cur l1 ≠ some (g, j, h) := by
  intro t1 l1 h h1 hv
  exact hc h ((I.thr t1 l1 h1).valid g j h hv).1

/-- nobody else holds a validated lock on a cell on which the acting thread holds one -/
theorem no_vcell_of_mutex {s : State} (I : GenInv s) {t : Nat} {l : Local} {g j h0 : Nat}
    (hl : s.threads[t]? = some l) (hv0 : vcell s.cur l = some (g, j, h0)) :
    ∀ (t1 : Nat) (l1 : Local) (h : Nat), t1 ≠ t → s.threads[t1]? = some l1 → vcell s.cur l1 ≠ some (g, j, h) := by
  intro t1 l1 h n1 h1 hv
  exact n1 (I.mutex h1 hl hv hv0)

/-- no writer holds a validated lock on a child of a cell that is not forwarded: it would have come there through
the parent's marker -/
theorem no_writer_on_child {s : State} (I : GenInv s) {j j' : Nat} (hnm : cellAt s s.cur j ≠ .moved)
    (hpar : j' % 2 ^ s.cur = j) :
    ∀ (t1 : Nat) (l1 : Local) (h : Nat), s.threads[t1]? = some l1 → ¬ isT l1.pc →
      vcell s.cur l1 ≠ some (s.cur + 1, j', h) := by
  intro t1 l1 h h1 hT1 hv
  obtain ⟨p, hp, hg, hj⟩ := vcell_writer hv hT1
  have := ((I.thr t1 l1 h1).gen p _ hp hg).2 rfl
  apply hnm
  rw [← hpar, hj, mod_succ_mod]
  exact this

/-- `no_writer_on_child` for the threads other than the resizing thread `t` -/
theorem no_vcell_child {s : State} (I : GenInv s) {t : Nat} {l : Local} {j j' : Nat} (hl : s.threads[t]? = some l)
    (hT : isT l.pc) (hnm : cellAt s s.cur j ≠ .moved) (hpar : j' % 2 ^ s.cur = j) :
    ∀ (t1 : Nat) (l1 : Local) (h : Nat), t1 ≠ t → s.threads[t1]? = some l1 →
      vcell s.cur l1 ≠ some (s.cur + 1, j', h) :=
  fun t1 l1 h n1 h1 => no_writer_on_child I hnm hpar t1 l1 h h1 fun hT1 => n1 (I.uniqT _ _ _ _ h1 hl hT1 hT)

end Flurry.Proto.BinN
