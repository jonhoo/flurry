import Flurry.Lemmas.TableLineages
import Flurry.Lemmas.Descent
import Flurry.Lemmas.ListSet
/-! # What a table step does to a sum over the lineages

A step of a table of lineages is `Eff tick stp` (`Lemmas/TableLineages.lean`): lineage `i` makes a transition `stp`, every
other lineage ticks. A measure that ticks do not change and `stp` lowers in an invariant lineage is lowered, summed over
the lineages (`Eff.sum_lt`); so if `stp` drains a lineage (`Descent.Drains`), the table steps drain the table
(`Eff.drains`): what C11 states of `TableG` and `TableGN` (`Lemmas/TableGP.lean`, `Lemmas/TableGND.lean`). -/
namespace Flurry.Proto.Lineages

variable {β : Type} {tick : β → β} {stp : β → β → Prop} {L L' : List β}

theorem Eff.sum_lt {μ : β → Nat} (h : Eff tick stp L L') (hμ : ∀ b, μ (tick b) = μ b)
    (hlt : ∀ (i : Nat) (b b' : β), L[i]? = some b → stp b b' → μ b' < μ b) : (L'.map μ).sum < (L.map μ).sum := by
  obtain ⟨i, b, b', hb, hs, rfl⟩ := h
  have hi : (L.map tick)[i]? = some (tick b) := by rw [List.getElem?_map, hb]; rfl
  have := sum_set_add_le μ μ 1 (L.map tick) i (tick b) b' hi (fun _ _ _ _ => Nat.le_refl _)
    (by rw [hμ]; exact hlt i b b' hb hs)
  rw [List.map_map, show μ ∘ tick = μ from funext hμ] at this
  exact this

/-- **draining lifts from the lineages to the table**: if the transitions `tstp` of the table are exactly "one lineage
makes a transition `stp`, the others tick" (`heff`, `hlift`) and every lineage of an invariant table is invariant,
then what `stp` does to a lineage (`D`) the table steps do to the table, with the summed measure -/
theorem Eff.drains {τ : Type} {Inv Done : β → Prop} {μ : β → Nat} (D : Descent.Drains stp Inv Done μ)
    (hμ : ∀ b, μ (tick b) = μ b) {bins : τ → List β} {tstp : τ → τ → Prop} {TInv : τ → Prop}
    (hinv : ∀ {S S'}, TInv S → tstp S S' → TInv S')
    (hreach : ∀ {S} {i : Nat} {b : β}, TInv S → (bins S)[i]? = some b → Inv b)
    (heff : ∀ {S S'}, tstp S S' → Eff tick stp (bins S) (bins S'))
    (hlift : ∀ {S} {i : Nat} {b b' : β}, TInv S → (bins S)[i]? = some b → stp b b' → ∃ S', tstp S S') :
    Descent.Drains tstp TInv (fun S => ∀ b ∈ bins S, Done b) (fun S => ((bins S).map μ).sum) where
  inv := hinv
  lt hS h := (heff h).sum_lt hμ fun _ _ _ hb hs => D.lt (hreach hS hb) hs
  prog hS hd := by
    obtain ⟨i, b, hb, hnd⟩ := exists_not_of_not_forall hd
    obtain ⟨b', hs⟩ := D.prog (hreach hS hb) hnd
    exact hlift hS hb hs
  stop hd h := by
    obtain ⟨i, b, b', hb, hs, _⟩ := heff h
    exact D.stop (hd b (List.mem_of_getElem? hb)) hs

end Flurry.Proto.Lineages
