import Flurry.Lemmas.BinGEmbedInv
import Flurry.Lemmas.BinGEmbedSim
import Flurry.Lemmas.BinGEmbedGhost
import Flurry.Lemmas.BinGNPLin
import Flurry.Lemmas.BinGNPTwo
import Flurry.Lemmas.BinGStepN
import Flurry.Lemmas.BinGPlan
import Flurry.Lemmas.BinGFactsL
/-! # BinGNP's invariants on the image, carried along BinG's runs

What establishes what. BinG has no per-transition proof of its own invariants. Instead:
* `BinGNP.Bundle u` (`Lemmas/BinGNPBundle.lean`): the invariants of a state of BinGN that BinGNP proves transition by
  transition; `Bundle.stepN` is its step lemma, `Bundle.setNow` says that only the stamps of `TInv` look at the clock.
* `bundle_step`: a transition of BinG (`BinG.StepN`) between the images: by `sim` it is one transition of BinGN, or
  (start of the resize, commit) two, after which BinGN's clock is one tick ahead and is set back (`Bundle.two`,
  `Lemmas/BinGNPTwo.lean`). It gives what BinGNP's step lemmas say between `emb s` and `emb s'`: `Bundle (emb s')`; a
  thread without a call changes no abstract state; the heap only grows; BinGNP's ghost invariant (`BinGNP.ginv_step` of
  `Lemmas/BinGNPLin.lean`; the two double transitions in one ghost step, `Lemmas/BinGEmbedGhost.lean`).
* `XExtra s`: the three facts about the resize that BinG's `XInv` states and the image does not show (before the
  resize the new cells are empty; the old cell is not forwarded while the resizer loads it; it is forwarded once the
  resizer has stored the marker). They are the one thing proved over `BinG.StepN` directly (`XExtra.stepN`).
* `reachable_bundle`: `Bundle (emb s) ∧ XExtra s` in every reachable state of BinG. BinG's `Inv s` is then read off clause
  by clause (`inv_of_emb`, `Lemmas/BinGEmbedInv.lean`); `Lemmas/BinGLin.lean` states it (`BinG.reachable_inv`).
* `reachable_ginv_emb`: BinGNP's ghost invariant holds of the image of every reachable state (from `BinGNP.init_ginv` of
  `Lemmas/BinGNPInitG.lean`). The ghost invariant stays on the image:
  `BinGNP.Foreign` there says less than `BinG.Foreign`, so BinG's own `GInv` does not follow, and is not needed:
  linearizability of BinG's histories is read off the image (`linearizable_of_emb` of `Lemmas/BinGEmbedGhost.lean`, used
  in `Lemmas/BinGLin.lean`). -/
namespace Flurry.Proto.BinGE
open Flurry.Lin
open Flurry.Proto.BinG (Tab Cid)

/-! ## what the image does not show

Before the resize the image has no generation 1; and BinGN's resizer may turn to a cell that is forwarded already, and
knows that its cell is forwarded only when it commits, where BinG's (one cell) knows it from the marker on. These three
facts are proved of BinG directly. -/

structure XExtra (s : BinG.State) : Prop where
  newOK : NewOK s
  pre : ∀ (t : Nat) (l : BinG.Local), s.threads[t]? = some l → l.pc = .xCell → s.cell0 ≠ .moved
  post : ∀ (t : Nat) (l : BinG.Local), s.threads[t]? = some l → BinG.xPc l.pc = true → BinG.xPre l.pc = false →
    s.cell0 = .moved

theorem XExtra.init (n : Nat) : XExtra (BinG.init n) := by
  have hpc : ∀ (t : Nat) (l : BinG.Local), (BinG.init n).threads[t]? = some l → l.pc = .idle := by
    intro t l h
    have hm : l ∈ List.replicate n ({} : BinG.Local) := List.mem_of_getElem? h
    rw [(List.mem_replicate.1 hm).2]
  refine ⟨fun _ => ⟨rfl, rfl⟩, ?_, ?_⟩
  · intro t l h hx; rw [hpc t l h] at hx; cases hx
  · intro t l h hx; rw [hpc t l h] at hx; cases hx

/-- a transition of thread `t`: the other threads see the old cell as before unless `t` is the resizer (then there is
no other) or the cell was and is not forwarded -/
theorem XExtra.frame {s s' : BinG.State} {t : Nat} {l l' : BinG.Local} (X : XExtra s) (I : BinG.Inv s)
    (hl : s.threads[t]? = some l) (hthr : s'.threads = s.threads.set t l')
    (hcell : s'.cell0 = s.cell0 ∨ BinG.xPc l.pc = true ∨ (s.cell0 ≠ .moved ∧ s'.cell0 ≠ .moved))
    (hpre : l'.pc = .xCell → s'.cell0 ≠ .moved)
    (hpost : BinG.xPc l'.pc = true → BinG.xPre l'.pc = false → s'.cell0 = .moved)
    (hnew : s'.resizing = false → s.resizing = false ∧ s'.lowCell = s.lowCell ∧ s'.highCell = s.highCell) :
    XExtra s' := by
  have other : ∀ (t1 : Nat) (l1 : BinG.Local), t1 ≠ t → s.threads[t1]? = some l1 → BinG.xPc l1.pc = true →
      s'.cell0 = s.cell0 ∨ (s.cell0 ≠ .moved ∧ s'.cell0 ≠ .moved) := by
    intro t1 l1 hne h1 hx
    rcases hcell with h | h | h
    · exact .inl h
    · exact absurd (I.rsz.uniqX t1 t l1 l h1 hl hx h) hne
    · exact .inr h
  refine ⟨?_, ?_, ?_⟩
  · intro hr
    obtain ⟨h1, h2, h3⟩ := hnew hr
    rw [h2, h3]; exact X.newOK h1
  · intro t1 l1 h1 hpc
    rw [hthr] at h1
    rcases Flurry.Shared.get_set h1 with ⟨-, rfl⟩ | ⟨hne, h0⟩
    · exact hpre hpc
    · have := X.pre t1 l1 h0 hpc
      rcases other t1 l1 hne h0 (by rw [hpc]; rfl) with h | h
      · rw [h]; exact this
      · exact h.2
  · intro t1 l1 h1 hx hnp
    rw [hthr] at h1
    rcases Flurry.Shared.get_set h1 with ⟨-, rfl⟩ | ⟨hne, h0⟩
    · exact hpost hx hnp
    · have := X.post t1 l1 h0 hx hnp
      rcases other t1 l1 hne h0 hx with h | h
      · rw [h]; exact this
      · exact absurd this h.1

/-- the acting thread is not the resizer afterwards, the cells and the flag are as before -/
theorem XExtra.keep {s s' : BinG.State} {t : Nat} {l l' : BinG.Local} (X : XExtra s) (I : BinG.Inv s)
    (hl : s.threads[t]? = some l) (hthr : s'.threads = s.threads.set t l') (hx : BinG.xPc l'.pc = false)
    (h0 : s'.cell0 = s.cell0) (h1 : s'.lowCell = s.lowCell) (h2 : s'.highCell = s.highCell)
    (hr : s'.resizing = s.resizing) : XExtra s' :=
  X.frame I hl hthr (.inl h0) (fun h => by rw [h] at hx; cases hx) (fun h => by rw [h] at hx; cases hx)
    (fun h => ⟨hr ▸ h, h1, h2⟩)

/-- the acting thread is the resizer before and after, before the marker; the cells and the flag are as before -/
theorem XExtra.keepX {s s' : BinG.State} {t : Nat} {l l' : BinG.Local} (X : XExtra s) (I : BinG.Inv s)
    (hl : s.threads[t]? = some l) (hthr : s'.threads = s.threads.set t l') (hp : BinG.xPre l.pc = true)
    (hp' : BinG.xPre l'.pc = true)
    (h0 : s'.cell0 = s.cell0) (h1 : s'.lowCell = s.lowCell) (h2 : s'.highCell = s.highCell)
    (hr : s'.resizing = s.resizing) : XExtra s' :=
  X.frame I hl hthr (.inl h0) (fun _ => by rw [h0]; exact I.rsz.pre t l hl hp)
    (fun _ h => by rw [hp'] at h; cases h) (fun h => ⟨hr ▸ h, h1, h2⟩)

/-- what a store of a writer or of a treeify in table `tab` does to the three cells: it writes the old cell (never the
marker), or a new cell, or none -/
def WEff (s x : BinG.State) (tab : Tab) : Prop :=
  x.threads = s.threads ∧ x.resizing = s.resizing ∧
    ((tab = .old ∧ x.cell0 ≠ .moved ∧ x.lowCell = s.lowCell ∧ x.highCell = s.highCell) ∨
      (tab = .new ∧ x.cell0 = s.cell0) ∨
      (x.cell0 = s.cell0 ∧ x.lowCell = s.lowCell ∧ x.highCell = s.highCell))

theorem WEff.same {s x : BinG.State} {tab : Tab} (ht : x.threads = s.threads) (hr : x.resizing = s.resizing)
    (h0 : x.cell0 = s.cell0) (h1 : x.lowCell = s.lowCell) (h2 : x.highCell = s.highCell) : WEff s x tab :=
  ⟨ht, hr, .inr (.inr ⟨h0, h1, h2⟩)⟩

/-- a store into the cell of a key, after a change of heap and `TreeBin` table -/
theorem WEff.setCell {s s1 : BinG.State} (tab : Tab) (k : Nat) {c : BinG.Cell} (hc : c ≠ .moved)
    (ht : s1.threads = s.threads) (hr : s1.resizing = s.resizing) (h0 : s1.cell0 = s.cell0)
    (h1 : s1.lowCell = s.lowCell) (h2 : s1.highCell = s.highCell) : WEff s (BinG.setCell s1 tab k c) tab := by
  refine ⟨(BinG.setCell_threads s1 tab k c).trans ht, (BinG.FactsL.setCell_resizing s1 tab k c).trans hr, ?_⟩
  cases tab with
  | old => exact .inl ⟨rfl, hc, h1, h2⟩
  | new =>
    refine .inr (.inl ⟨rfl, ?_⟩)
    unfold BinG.setCell; dsimp only; split <;> exact h0

theorem WEff.storeAt (s : BinG.State) (tab : Tab) (p : BinK.Pending) (pred hit hnext : Option Nat) :
    WEff s (BinG.storeAt s tab p pred hit hnext).1 tab := by
  have happ : ∀ v vi, WEff s (BinG.appendOf s tab p pred v vi) tab := by
    intro v vi
    unfold BinG.appendOf
    cases pred with
    | some l => exact .same rfl rfl rfl rfl rfl
    | none => exact .setCell tab p.key nofun rfl rfl rfl rfl rfl
  have hunl : WEff s (BinG.unlinkL s tab p pred hnext) tab := by
    unfold BinG.unlinkL
    cases pred with
    | some pr => exact .same rfl rfl rfl rfl rfl
    | none => exact .setCell tab p.key (BinG.cellOfHead_ne_moved _) rfl rfl rfl rfl rfl
  rw [BinG.storeAt_eq]
  cases p.op <;> cases hit
  case ins.none | tryIns.none => exact happ _ _
  case rm.some | cipRm.some => exact hunl
  all_goals exact .same rfl rfl rfl rfl rfl

/-- a thread works in the new table only behind the marker, which exists only once the resize has begun -/
theorem resizing_of_tabNew {s : BinG.State} {t : Nat} {l : BinG.Local} (I : BinG.Inv s) (hl : s.threads[t]? = some l)
    (ht : BinG.tabOf l.pc = some .new) : s.resizing = true := by
  cases hr0 : s.resizing with
  | true => rfl
  | false => exact absurd (I.rsz.tabNew t l hl ht) (I.rsz.noResz hr0)

/-- the acting thread is a writer (or a treeify) that has seen its cell hold a bin, or empty; `s'` is `x` with the
thread (and the history) updated -/
theorem XExtra.write {s x s' : BinG.State} {t : Nat} {l l' : BinG.Local} {tab : Tab} (X : XExtra s) (I : BinG.Inv s)
    (hl : s.threads[t]? = some l) (W : WEff s x tab) (hthr : s'.threads = x.threads.set t l')
    (e0 : s'.cell0 = x.cell0) (e1 : s'.lowCell = x.lowCell) (e2 : s'.highCell = x.highCell)
    (er : s'.resizing = x.resizing) (hx : BinG.xPc l'.pc = false)
    (htab : BinG.tabOf l.pc = some tab) (hold : tab = .old → s.cell0 ≠ .moved) : XExtra s' := by
  obtain ⟨ht, hr, W⟩ := W
  rw [ht] at hthr
  have hr := er.trans hr
  have hnx : ∀ {P : Prop}, BinG.xPc l'.pc = true → P := fun h => by rw [hx] at h; cases h
  have hres : tab = .new → s.resizing = true := fun ht => resizing_of_tabNew I hl (ht ▸ htab)
  rcases W with ⟨ht, h0, h1, h2⟩ | ⟨ht, h0⟩ | ⟨h0, h1, h2⟩
  · exact X.frame I hl hthr (.inr (.inr ⟨hold ht, e0 ▸ h0⟩)) (fun h => hnx (by rw [h]; rfl)) (fun h => hnx h)
      (fun h => ⟨hr ▸ h, e1.trans h1, e2.trans h2⟩)
  · exact X.frame I hl hthr (.inl (e0.trans h0)) (fun h => hnx (by rw [h]; rfl)) (fun h => hnx h)
      (fun h => by rw [hr, hres ht] at h; cases h)
  · exact X.keep I hl hthr hx (e0.trans h0) (e1.trans h1) (e2.trans h2) hr

theorem cell0_of_cidOf {s : BinG.State} {l : BinG.Local} {c : BinG.Cell} (h : BinG.tabOf l.pc = some .old)
    (hv : BinG.cellAt s (BinG.cidOf l) = c) : s.cell0 = c := by
  unfold BinG.cidOf at hv; rw [h] at hv; exact hv

/-- a thread with a call in flight is not the resizer -/
theorem nox_of_call {s : BinG.State} {t : Nat} {l : BinG.Local} {p : BinK.Pending} (T : BinG.TInv s)
    (hl : s.threads[t]? = some l) (hc : l.call = some p) : BinG.xPc l.pc = false := by
  cases hx : BinG.xPc l.pc with
  | false => rfl
  | true =>
    have : BinG.noCallPc l.pc = true := by unfold BinG.noCallPc; rw [hx]; simp
    have := (T.callOK t l hl).2 this
    rw [hc] at this; cases this

/-- `T'` is the thread invariant of the SUCCESSOR (after `move` / `bmove` the acting thread has a call, so it is not the
resizer): along a run `bundle_step` comes first and gives it -/
theorem XExtra.stepN {s s' : BinG.State} {t : Nat} {l : BinG.Local} (X : XExtra s) (I : BinG.Inv s)
    (T' : BinG.TInv s') (hl : s.threads[t]? = some l) (h : BinG.StepN s t l s') : XExtra s' := by
  have gs : ∀ {l' : BinG.Local}, (s.threads.set t l')[t]? = some l' := Flurry.Shared.get_set_self hl
  have hxr : BinG.xPc l.pc = true → s.resizing = true := I.rsz.resz t l hl
  cases h with
  | idle hpc => exact X.keep I hl rfl (by rw [hpc]; rfl) rfl rfl rfl rfl
  | maint k hpc => exact X.keep I hl rfl rfl rfl rfl rfl rfl
  | resizeStart hpc hr =>
    exact X.frame I hl rfl (.inl rfl) (fun _ => I.rsz.noResz hr) (fun _ h => by cases h) (fun h => by cases h)
  | invoke k op lo hpc =>
    exact X.keep I hl rfl (by show BinG.xPc (if _ then _ else _) = false; split <;> rfl) rfl rfl rfl rfl
  | move p pc' hp hc hm => exact X.keep I hl rfl (nox_of_call T' gs hc) rfl rfl rfl rfl
  | bmove p pc' tb hc hm => exact X.keep I hl rfl (nox_of_call T' gs hc) rfl rfl rfl rfl
  | fin p res hp hc hf => exact X.keep I hl rfl rfl rfl rfl rfl rfl
  | bfin p res tb hc hf => exact X.keep I hl rfl rfl rfl rfl rfl rfl
  | kmove pc' hp hc hm =>
    obtain ⟨pc, call⟩ := l
    cases hm with
    | xCellEmpty _ => exact X.keepX I hl rfl rfl rfl rfl rfl rfl rfl
    | xCellList _ => exact X.keepX I hl rfl rfl rfl rfl rfl rfl rfl
    | xCellTree _ => exact X.keepX I hl rfl rfl rfl rfl rfl rfl rfl
    | xCellMoved hmv => exact absurd hmv (X.pre t _ hl rfl)
    | xCasFail _ => exact X.keepX I hl rfl rfl rfl rfl rfl rfl rfl
    | xLock _ _ => exact X.keepX I hl rfl rfl rfl rfl rfl rfl rfl
    | xCheckOk _ => exact X.keepX I hl rfl rfl rfl rfl rfl rfl rfl
    | xCheckFail _ => exact X.keepX I hl rfl rfl rfl rfl rfl rfl rfl
    | yCheckOk _ => exact X.keepX I hl rfl rfl rfl rfl rfl rfl rfl
    | xUnlockL =>
      exact X.frame I hl rfl (.inl rfl) (fun h => by cases h) (fun _ _ => X.post t _ hl rfl rfl)
        (fun h => ⟨h, rfl, rfl⟩)
    | _ => exact X.keep I hl rfl rfl rfl rfl rfl rfl
  | kbmove pc' tb hc hm =>
    obtain ⟨pc, call⟩ := l
    cases hm with
    | yMutex _ => exact X.keepX I hl rfl rfl rfl rfl rfl rfl rfl
    | yCheckFail _ => exact X.keepX I hl rfl rfl rfl rfl rfl rfl rfl
    | xUnlockT =>
      exact X.frame I hl rfl (.inl rfl) (fun h => by cases h) (fun _ _ => X.post t _ hl rfl rfl)
        (fun h => ⟨h, rfl, rfl⟩)
  | cas p tab v vi hc hpc hce hop =>
    refine X.write (l' := { pc := .idle, call := none }) I hl
      (x := BinG.setCell (BinG.qst s (s.heap ++ [⟨p.key, (v, vi), none, none, false, none⟩]) s.tbins) tab p.key
        (.list s.heap.length))
      (.setCell tab p.key nofun rfl rfl rfl rfl rfl) rfl rfl rfl rfl rfl
      rfl (by rw [hpc]; rfl) ?_
    intro ht hm; subst ht
    rw [show BinG.cellOf s .old p.key = s.cell0 from rfl, hm] at hce; cases hce
  | store p tab h0 pred hit hnext hc hpc =>
    refine X.write I hl (show WEff s _ tab from WEff.storeAt (BinG.tick s) tab p pred hit hnext) rfl rfl rfl rfl rfl rfl
      (by rw [hpc]; rfl) ?_
    intro ht hm; subst ht
    rw [cell0_of_cidOf (by rw [hpc]; rfl) (I.lock.vL t l h0 hl (by rw [hpc]; rfl))] at hm; cases hm
  | tval p tab b i v res hc hpc => exact X.keep I hl rfl rfl rfl rfl rfl rfl
  | prepend p tab b v vi hc hpc hop => exact X.keep I hl rfl rfl rfl rfl rfl rfl
  | treeLink p tab b x hc hpc => exact X.keep I hl rfl rfl rfl rfl rfl rfl
  | unlink p tab b i res small hc hpc =>
    have e : (BinG.unlinkOf (BinG.tick s) b i).threads = s.threads ∧ (BinG.unlinkOf (BinG.tick s) b i).cell0 = s.cell0 ∧
        (BinG.unlinkOf (BinG.tick s) b i).lowCell = s.lowCell ∧ (BinG.unlinkOf (BinG.tick s) b i).highCell = s.highCell ∧
        (BinG.unlinkOf (BinG.tick s) b i).resizing = s.resizing := by
      unfold BinG.unlinkOf; split <;> exact ⟨rfl, rfl, rfl, rfl, rfl⟩
    exact X.keep I hl (by show (BinG.unlinkOf _ b i).threads.set t _ = _; rw [e.1])
      (by show BinG.xPc (if _ then _ else _) = false; split <;> rfl) e.2.1 e.2.2.1 e.2.2.2.1 e.2.2.2.2
  | untree p tab b i res hc hpc => exact X.keep I hl rfl rfl rfl rfl rfl rfl
  | untreeify p tab b res hc hpc =>
    refine X.write I hl (x := BinG.untreeifyOf (BinG.tick s) tab p.key b)
      (.setCell tab p.key (BinG.cellOfHead_ne_moved _) rfl rfl rfl rfl rfl) rfl rfl rfl rfl rfl rfl (by rw [hpc]; rfl) ?_
    intro ht hm; subst ht
    rw [cell0_of_cidOf (by rw [hpc]; rfl) (I.lock.vT t l b hl (by rw [hpc]; rfl))] at hm; cases hm
  | kbuild tab k h0 hc hpc => exact X.keep I hl rfl rfl rfl rfl rfl rfl
  | kstore tab k h0 b hc hpc =>
    refine X.write I hl (x := BinG.setCell (BinG.tick s) tab k (.tree b)) (.setCell tab k nofun rfl rfl rfl rfl rfl)
      rfl rfl rfl rfl rfl rfl (by rw [hpc]; rfl) ?_
    intro ht hm; subst ht
    rw [cell0_of_cidOf (by rw [hpc]; rfl) (I.lock.vL t l h0 hl (by rw [hpc]; rfl))] at hm; cases hm
  | xcasMoved hc hpc hce =>
    exact X.frame I hl rfl (.inr (.inl (by rw [hpc]; rfl))) (fun h => by cases h) (fun _ _ => rfl)
      (fun h => ⟨h, rfl, rfl⟩)
  | xbuild h0 hc hpc => exact X.keepX I hl rfl (by rw [hpc]; rfl) rfl rfl rfl rfl rfl
  | ybuild b small small2 hc hpc =>
    have e := BinG.frame_trans (BinG.splitSide_frame (BinG.tick s) b (BinG.lowOf (BinG.tick s) b) small
        (BinG.highOf (BinG.tick s) b).isEmpty)
      (BinG.splitSide_frame (BinG.splitSide (BinG.tick s) b (BinG.lowOf (BinG.tick s) b) small
        (BinG.highOf (BinG.tick s) b).isEmpty).1 b (BinG.highOf (BinG.tick s) b) small2 (BinG.lowOf (BinG.tick s) b).isEmpty)
    have e' : (BinG.ysplitOf (BinG.tick s) b small small2).1 = _ := e
    exact X.keepX I hl (by show (BinG.ysplitOf _ b small small2).1.threads.set t _ = _; rw [e']; rfl)
      (by rw [hpc]; rfl) rfl (by rw [e']; rfl) (by rw [e']; rfl) (by rw [e']; rfl) (by rw [e']; rfl)
  | xstoreLow unl lo hi hc hpc =>
    exact X.frame I hl rfl (.inl rfl) (fun h => by cases h) (fun _ h => by cases h)
      (fun h => by have h : s.resizing = false := h; rw [hxr (by rw [hpc]; rfl)] at h; cases h)
  | xstoreHigh unl hi hc hpc =>
    exact X.frame I hl rfl (.inl rfl) (fun h => by cases h) (fun _ h => by cases h)
      (fun h => by have h : s.resizing = false := h; rw [hxr (by rw [hpc]; rfl)] at h; cases h)
  | xstoreMoved unl hc hpc =>
    exact X.frame I hl rfl (.inr (.inl (by rw [hpc]; rfl))) (fun h => by cases h) (fun _ _ => rfl)
      (fun h => ⟨h, rfl, rfl⟩)
  | xcommit hc hpc => exact X.keep I hl rfl rfl rfl rfl rfl rfl

/-- the hypotheses of `sim` about the acting thread follow from the bundle -/
theorem bundle_step {s s' : BinG.State} {t : Nat} {l : BinG.Local} (j : BinGNP.Bundle (emb s)) (X : XExtra s) (I : BinG.Inv s)
    (hl : s.threads[t]? = some l) (h : BinG.StepN s t l s') :
    BinGNP.Bundle (emb s') ∧ (l.call = none → ∀ k, BinGN.absOf (emb s') k = BinGN.absOf (emb s) k) ∧
      s.heap.length ≤ s'.heap.length ∧
      ∀ {k : Nat} {A : Nat → KSt} {pt : Nat → Nat}, BinGNP.GInv k (emb s) A pt → ∃ A' pt', BinGNP.GInv k (emb s') A' pt' := by
  have hx := xold_of_emb j.inv.rsz l (List.mem_of_getElem? hl)
  have hl' := emb_get hl
  have hthr : ∀ l' : BinG.Local, (s.threads.set t l').map embL = (emb s).threads.set t (embL l') := fun _ => List.map_set
  rcases sim X.newOK I.heap.newNotMoved hx (resizing_of_tabNew I hl) h with h1 | ⟨hpc, hr0, rfl⟩ | ⟨hc, hpc, rfl⟩
  · have j' := j.stepN hl' h1
    have P := BinGNP.pubRead_of j.inv j.fresh
    have PS := BinGNP.planSep_of j.inv j.fresh
    exact ⟨j', j.nocall_abs hl' h1, ((BinGNP.stepN_facts j.inv P PS hl' h1 j'.inv.rsz.shape).1.kstep 0).len,
      fun g => BinGNP.ginv_step g j.inv P PS hl' h1 j'.inv.rsz.shape⟩
  · have hc : l.call = none := (I.thr.callOK t l hl).2 (by rw [hpc]; rfl)
    obtain ⟨mid, u, s1, hmid, s2, rfl⟩ := stepN_resizeStart_emb hl hpc hc hr0 (cur_old_of_emb j.inv.rsz hr0) X.newOK
      (I.rsz.noResz hr0)
    have j' := j.two hl' s1 hmid s2 (hthr _) (fun p hp => nomatch hc.symm.trans hp) rfl (Nat.le_succ _)
    exact ⟨j', fun _ => j.two_abs hl' s1 hmid s2 hc hc, Nat.le_refl _,
      fun g => ginv_resizeStart_emb g j.inv hl hc hr0 X.newOK rfl j'.inv⟩
  · obtain ⟨hcur, hr⟩ := hx (by rw [hpc]; rfl)
    have hm := X.post t l hl (by rw [hpc]; rfl) (by rw [hpc]; rfl)
    obtain ⟨mid, u, s1, hmid, s2, rfl⟩ := stepN_xcommit_emb hl hc hpc hcur hr hm
    have j' := j.two hl' s1 hmid s2 (hthr _) (fun p hp => nomatch hc.symm.trans hp) rfl (Nat.le_succ _)
    exact ⟨j', fun _ => j.two_abs hl' s1 hmid s2 hc hc, Nat.le_refl _,
      fun g => ginv_xcommit_emb g j.inv hl hpc hc hcur hr hm I.heap.newNotMoved rfl j'.inv⟩

theorem reachable_bundle {n : Nat} {s : BinG.State} (hr : BinG.Reachable n s) : BinGNP.Bundle (emb s) ∧ XExtra s := by
  induction hr with
  | init => exact ⟨emb_init n ▸ BinGNP.Bundle.init n, XExtra.init n⟩
  | @step s s' t inv lo mt rz sm sm2 _ hs ih =>
    obtain ⟨j, X⟩ := ih
    have I := inv_of_emb j.inv X.newOK X.pre X.post
    cases hl : s.threads[t]? with
    | none => unfold BinG.step BinG.stepG at hs; rw [hl] at hs; cases hs
    | some l =>
      have h := BinG.step_stepN hl hs
      have j' := (bundle_step j X I hl h).1
      exact ⟨j', X.stepN I (tinv_of_emb j'.inv.thr) hl h⟩

theorem reachable_ginv_emb {n : Nat} {s : BinG.State} (hr : BinG.Reachable n s) (k : Nat) :
    ∃ A pt, BinGNP.GInv k (emb s) A pt := by
  induction hr with
  | init => exact ⟨_, _, emb_init n ▸ BinGNP.init_ginv n k⟩
  | @step s s' t inv lo mt rz sm sm2 hr hs ih =>
    obtain ⟨A, pt, g⟩ := ih
    obtain ⟨j, X⟩ := reachable_bundle hr
    cases hl : s.threads[t]? with
    | none => unfold BinG.step BinG.stepG at hs; rw [hl] at hs; cases hs
    | some l =>
      obtain ⟨-, -, -, hg⟩ := bundle_step j X (inv_of_emb j.inv X.newOK X.pre X.post) hl (BinG.step_stepN hl hs)
      exact hg g

end Flurry.Proto.BinGE
