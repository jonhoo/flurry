import Flurry.Lemmas.BinGProgStepW
import Flurry.Lemmas.BinGProgSolo
/-! # Proto/BinG, progress: a thread that runs alone is `idle` again or blocked within a bounded number of steps

`thread_solo_aux`: induction on the measure `wmu` with `thread_step` (`Lemmas/BinGProgStepW.lean`).
`wmu_le`: the measure of a thread that is not a reader is at most `2 * heap.length + 16`. -/
namespace Flurry.Proto.BinG
open Flurry.Lin

/-- what a solo run of thread `t` (local state `l` in `s`) ends in: the thread is `idle` again (a thread
with a call has returned: one entry added to `hist`), or it stands — with the same call, `hist`
untouched — at a waiting program counter and what it waits for is taken -/
def SoloEnd (s : State) (t : Nat) (l : Local) (s' : State) : Prop :=
  (s'.threads[t]? = some { pc := .idle, call := none } ∧
    ((l.call = none ∧ s'.hist = s.hist) ∨
     ∃ p res resp, l.call = some p ∧
       s'.hist = (p.key, { tid := t, op := p.op, res := res, inv := p.inv, resp := resp }) :: s.hist)) ∨
  (∃ l', s'.threads[t]? = some l' ∧ l'.call = l.call ∧ Blocked s' l'.pc ∧ s'.hist = s.hist)

theorem thread_solo_aux {n : Nat} {t : Nat} (sm sm2 : Bool) : ∀ (m : Nat) {s : State} {l : Local},
    Reachable n s → s.threads[t]? = some l → l.pc ≠ .idle → wmu s l < m →
    ∃ k, k ≤ m ∧ ∃ s', runSolo t sm sm2 k s = some s' ∧ Reachable n s' ∧ SoloEnd s t l s'
  | 0, s, l, _, _, _, hm => by omega
  | m + 1, s, l, hr, hl, hne, hm => by
    by_cases hbl : Blocked s l.pc
    · exact ⟨0, by omega, s, rfl, hr, Or.inr ⟨l, hl, rfl, hbl, rfl⟩⟩
    · obtain ⟨s1, hs, hp⟩ := thread_step (reachable_inv hr) (reachable_binv hr) hl hne hbl none false none false sm sm2
      have hr1 : Reachable n s1 := Reachable.step t none false none false sm sm2 hr hs
      rcases hp with ⟨hidle, hh⟩ | ⟨pc', hl1, hne1, hh1, hmu⟩
      · refine ⟨1, by omega, s1, by simp only [runSolo, hs], hr1, Or.inl ⟨hidle, ?_⟩⟩
        rcases hh with hh | ⟨p, res, hp, hh⟩
        · exact Or.inl hh
        · exact Or.inr ⟨p, res, _, hp, hh⟩
      · obtain ⟨k, hk, s', hrun, hr', he⟩ :=
          thread_solo_aux sm sm2 m (l := ⟨pc', l.call⟩) hr1 hl1 hne1 (by omega)
        refine ⟨k + 1, by omega, s', by simp only [runSolo, hs]; exact hrun, hr', ?_⟩
        rcases he with ⟨hidle, hh⟩ | ⟨l', hl', hc', hb', hh'⟩
        · refine Or.inl ⟨hidle, ?_⟩
          rcases hh with ⟨hc, hh⟩ | ⟨p, res, resp, hp, hh⟩
          · exact Or.inl ⟨hc, hh.trans hh1⟩
          · exact Or.inr ⟨p, res, resp, hp, by rw [hh, hh1]⟩
        · exact Or.inr ⟨l', hl', hc', hb', hh'.trans hh1⟩

theorem wmu_le {s : State} {l : Local} (hnr : readerPc l.pc = false) (hw : WalkOK s.heap.length l.pc) :
    wmu s l ≤ 2 * s.heap.length + 16 := by
  cases hlp : isLoop l.pc with
  | false => rw [wmu_eq hlp]; exact pmV_le_writer _ hnr hw
  | true =>
    obtain ⟨pc, call⟩ := l
    cases pc with
    | lrLoop tab b k res => exact Nat.le_trans (wmu_lrLoop_le ..) (by omega)
    | _ => cases hlp

/-- the bound for a thread that is not a reader: an explicit function of the heap size only -/
def soloBoundW (s : State) : Nat := 2 * s.heap.length + 17

def soloBoundAll (s : State) : Nat := 4 * s.heap.length + 17

theorem writer_solo_progress_aux {n : Nat} {s : State} (hr : Reachable n s) {t : Nat} {l : Local}
    (hl : s.threads[t]? = some l) (hne : l.pc ≠ .idle) (hnr : readerPc l.pc = false) (sm sm2 : Bool) :
    ∃ k, k ≤ soloBoundW s ∧ ∃ s', runSolo t sm sm2 k s = some s' ∧ Reachable n s' ∧ SoloEnd s t l s' :=
  thread_solo_aux sm sm2 (soloBoundW s) hr hl hne
    (by have := wmu_le (s := s) hnr (walkOK_of_inv (reachable_inv hr) (reachable_binv hr) hl); unfold soloBoundW; omega)

theorem thread_solo_progress_aux {n : Nat} {s : State} (hr : Reachable n s) {t : Nat} {l : Local}
    (hl : s.threads[t]? = some l) (hne : l.pc ≠ .idle) (sm sm2 : Bool) :
    ∃ k, k ≤ soloBoundAll s ∧ ∃ s', runSolo t sm sm2 k s = some s' ∧ Reachable n s' ∧ SoloEnd s t l s' := by
  refine thread_solo_aux sm sm2 (soloBoundAll s) hr hl hne ?_
  unfold soloBoundAll
  by_cases hrd : readerPc l.pc = true
  · have := mu_le_soloBound hrd (walkOK_of_inv (reachable_inv hr) (reachable_binv hr) hl)
    rw [wmu_reader hrd]
    unfold soloBound at this
    omega
  · have hnr : readerPc l.pc = false := by cases h : readerPc l.pc <;> simp_all
    have := wmu_le (s := s) hnr (walkOK_of_inv (reachable_inv hr) (reachable_binv hr) hl)
    omega

end Flurry.Proto.BinG
