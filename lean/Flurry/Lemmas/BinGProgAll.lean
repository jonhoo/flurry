import Flurry.Lemmas.BinGProgRead
/-! # Proto/BinG, progress: every thread that is not blocked makes progress towards `idle`

`wmu s l` is an upper bound on the number of steps a thread with local state `l` still takes when it
runs alone from `s` before it is `idle` again *or blocked on a lock held by another thread*. It
extends the measure `mu` of the readers (`Lemmas/BinGProgRead.lean`) to writers of both bin forms, the
treeify thread and the resizing thread.

`wmu` is `pmV` at the present heap length and view (`wmu_eq`) except at `lrLoop`, where it also counts the one
disturbing step a thread that runs alone may take there (setting `WAITER`). Why it decreases with every own step
(`thread_step`, `Lemmas/BinGProgStepW.lean`; the calm steps: `Move.calm`, header of `Lemmas/BinGDrainCalm.lean`), as
seen by the thread that runs alone:
* after a *fresh* load of its cell (`wCell`, `kCell`, `xCell`) the thread locks what it saw, and —
  running alone — its re-check succeeds (nobody else stores into the cell), the walk over the locked
  list is bounded through `rank`, and the store / unlock sequence has constant length;
* a thread that is *resumed* with a stale view (the cell changed while it was suspended: `wCas` on a
  cell that is no longer empty, `wLock` / `wCheck` / `tMutex` / `tCheck` / `xLock` / `xCheck` / `yMutex` /
  `yCheck` of a structure that is no longer in the cell) fails its re-check once, unlocks and loads the
  cell again; hence the case split on the content of the cell in `wmu`;
* the forwarding marker is followed at most once (`HInv.newNotMoved`);
* `lrTry` falls through to `lrLoop` once; `lrLoop` sets `WAITER` once and is then either blocked
  (readers remain) or takes the write lock. -/
namespace Flurry.Proto.BinG
open Flurry.Lin
open Flurry.Proto.BinK (binAt rank get_set_self)
open Flurry.Proto.BinGProg (ite_le)

/-- `lrLoop` can take the write lock of `b` -/
def lrCond (s : State) (b : Nat) : Bool := !(binAt s.tbins b).writer && (binAt s.tbins b).readers == 0

/-- an upper bound on the number of own steps a thread with local state `l` still needs in `s` before
it is `idle` or blocked -/
def wmu (s : State) (l : Local) : Nat :=
  match l.pc with
  | .idle => 0
  | .wTable => 2 * s.heap.length + 14
  | .wCell tab => fresh s.heap.length tab
  | .wCas tab =>
    if cellOf s tab (keyOf l) = .empty ∧ insOf l = true then 1 else 1 + fresh s.heap.length tab
  | .wLock tab h =>
    if cellOf s tab (keyOf l) = .list h then 2 * s.heap.length + 6 else 3 + fresh s.heap.length tab
  | .wCheck tab h =>
    if cellOf s tab (keyOf l) = .list h then 2 * s.heap.length + 5 else 2 + fresh s.heap.length tab
  | .wFind _ _ _ none => 3
  | .wFind _ _ _ (some c) => rank s.heap c + 4
  | .wStore _ _ _ _ _ => 2
  | .wUnlock _ _ _ false => 1
  | .wUnlock tab _ _ true => 1 + fresh s.heap.length tab
  | .tMutex tab b => if cellOf s tab (keyOf l) = .tree b then 10 else 3 + fresh s.heap.length tab
  | .tCheck tab b => if cellOf s tab (keyOf l) = .tree b then 9 else 2 + fresh s.heap.length tab
  | .tFind _ _ => 8
  | .tVal _ _ _ _ _ => 2
  | .lrTry _ _ _ _ => 7
  | .lrLoop _ b _ _ => (if lrCond s b = true then 5 else 0) + (if (binAt s.tbins b).waiter = true then 0 else 1)
  | .tPrependLocked _ _ => 4
  | .tTreeLinkLocked _ _ _ => 3
  | .tUnlinkLocked _ _ _ _ => 4
  | .tRestructure _ _ _ _ => 3
  | .tUnlockRoot _ _ _ => 2
  | .tUntreeify _ _ _ => 2
  | .tUnlockM _ _ _ false => 1
  | .tUnlockM tab _ _ true => 1 + fresh s.heap.length tab
  | .kTable _ => 8
  | .kCell .old _ => 7
  | .kCell .new _ => 6
  | .kLock _ _ _ => 5
  | .kCheck _ _ _ => 4
  | .kBuild _ _ _ => 3
  | .kStore _ _ _ _ => 2
  | .kUnlock _ => 1
  | .xCell => 10
  | .xCasMoved => if s.cell0 = .empty then 2 else 11
  | .xLock h => if s.cell0 = .list h then 8 else 12
  | .xCheck h => if s.cell0 = .list h then 7 else 11
  | .xBuild _ => 6
  | .yMutex b => if s.cell0 = .tree b then 8 else 12
  | .yCheck b => if s.cell0 = .tree b then 7 else 11
  | .yBuild _ => 6
  | .xStoreLow _ _ _ => 5
  | .xStoreHigh _ _ => 4
  | .xStoreMoved _ => 3
  | .xUnlock _ => 2
  | .xCommit => 1
  | pc => mu s pc

/-- the result of one step of thread `t` (local state `l`) from `s`: it is `idle` again (a thread with a
call has returned: one entry added to `hist`), or it is at another program counter with the same call
and a smaller measure; the history is untouched unless it returned -/
def Progress (s : State) (t : Nat) (l : Local) (s' : State) : Prop :=
  (s'.threads[t]? = some { pc := .idle, call := none } ∧
    ((l.call = none ∧ s'.hist = s.hist) ∨
     ∃ p res, l.call = some p ∧
       s'.hist = (p.key, { tid := t, op := p.op, res := res, inv := p.inv, resp := s.now + 1 }) :: s.hist)) ∨
  (∃ pc', s'.threads[t]? = some { pc := pc', call := l.call } ∧ pc' ≠ .idle ∧ s'.hist = s.hist ∧
    wmu s' { pc := pc', call := l.call } < wmu s l)

theorem Progress.fin {s s1 : State} {t : Nat} {l : Local} {p : Pending} (hl : s.threads[t]? = some l)
    (hp : l.call = some p) (ht : s1.threads = s.threads) (hh : s1.hist = s.hist) (hn : s1.now = s.now + 1)
    (res : KRes) : Progress s t l (finish s1 t p res) := by
  left
  refine ⟨?_, Or.inr ⟨p, res, hp, ?_⟩⟩
  · show (s1.threads.set t _)[t]? = _
    rw [ht]; exact get_set_self hl
  · show (p.key, _) :: s1.hist = _
    rw [hh, hn]

theorem Progress.done {s s1 : State} {t : Nat} {l : Local} (hl : s.threads[t]? = some l)
    (hc : l.call = none) (ht : s1.threads = s.threads.set t { pc := .idle, call := l.call }) (hh : s1.hist = s.hist) :
    Progress s t l s1 := by
  left
  refine ⟨?_, Or.inl ⟨hc, hh⟩⟩
  rw [ht, hc]; exact get_set_self hl

theorem Progress.move {s s1 : State} {t : Nat} {l : Local} (hl : s.threads[t]? = some l)
    (pc' : Pc) (ht : s1.threads = s.threads.set t { pc := pc', call := l.call }) (hh : s1.hist = s.hist)
    (hne : pc' ≠ .idle) (hmu : wmu s1 { pc := pc', call := l.call } < wmu s l) : Progress s t l s1 := by
  right
  refine ⟨pc', ?_, hne, hh, hmu⟩
  rw [ht]; exact get_set_self hl

/-- `wmu` is the calm-step measure at the present heap length and view, except at `lrLoop` -/
theorem wmu_eq {s : State} {l : Local} (h : isLoop l.pc = false) : wmu s l = pmV s.heap.length (viewOf s) l := by
  obtain ⟨pc, call⟩ := l
  cases pc with
  | lrLoop _ _ _ _ => cases h
  | rNode cur | rState _ cur | lNode cur | wFind _ _ _ cur => cases cur <;> rfl
  | rCell _ tab | kCell tab _ => cases tab <;> rfl
  | wUnlock _ _ _ retry | tUnlockM _ _ _ retry => cases retry <;> rfl
  | _ => rfl

theorem wmu_reader {s : State} {l : Local} (h : readerPc l.pc = true) : wmu s l = mu s l.pc := by
  rw [mu_eq l.call h]
  exact wmu_eq (by revert h; cases l.pc <;> first | exact fun _ => rfl | exact nofun)

theorem wmu_lrLoop_le (s : State) (tab : Tab) (b : Nat) (k : After) (res : KRes) (call : Option Pending) :
    wmu s ⟨.lrLoop tab b k res, call⟩ ≤ 6 :=
  Nat.add_le_add (ite_le (Nat.le_refl _) (Nat.zero_le _)) (ite_le (Nat.zero_le _) (Nat.le_refl _))

end Flurry.Proto.BinG
