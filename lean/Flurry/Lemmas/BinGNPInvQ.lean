import Flurry.Lemmas.BinGNPLock
import Flurry.Lemmas.BinGNPGhostL
/-! # Proto/BinGN: the quiet path — transitions that touch lock words and program counters only

`Move`, `KMove`, `Fin`, idle / maint / invoke / resizeStart / xcommit establish `Eff s s'` and leave every abstract state
alone. The generation structure of `XInv s'` comes from `XShape s'` (`Lemmas/BinGNPShape.lean`), a hypothesis of every
lemma; only `XInv.plan` is shown here. `Inv.tree_eq_chain`, `Inv.absTree_eq_abs`: with the `writer` flag clear, list and tree
of a `TreeBin` in a cell hold the same nodes.

"The `TreeBin` a thread finds in the cell it loads is published" does NOT follow from `Inv` (as far as `Inv` knows, a
`TreeBin` planned by the transfer of another cell could be an empty `TreeBin` of this cell). It is the hypothesis
`PubRead s` of `Move.lfacts` / `eff_move`; `pubRead_of_planSep` reduces it to `PlanSep s` (a pending `TreeBin` of the
transfer of `(cur, j)` is in no cell but `(cur, j)` and its children), which the induction over runs carries in addition
to `Inv`. `PubRead` and `PlanSep` are defined in this file because the quiet path is their first user; they are the two
assumptions beside `Inv s` and `XShape s'` under which a transition is shown to establish `Eff`. -/
namespace Flurry.Proto.BinGNP
open Flurry.Lin Flurry.Proto.BinGS
open Flurry.Proto.BinK (nodeAt binAt lockSet isInsert NextOK IsChain IsSeg chainOf CInv absL HeapEqv get_set
  get_set_self get_set_ne nodeAt_of_some getElem?_nodeAt binAt_modify binAt_modify_self binAt_modify_ne
  heapEqv_lockSet chainOf_isChain absL_eq_none_iff absL_eq_some_iff)

theorem QuietC.cellOf_eq {s s' : State} (q : QuietC s s') (tab : Nat) (k : Nat) : cellOf s' tab k = cellOf s tab k := by
  rw [BinGNP.cellOf_eq, BinGNP.cellOf_eq, q.cellAt_eq]

theorem QuietC.chainC_list {s s' : State} (q : QuietC s s') (H : HInv s) (h : Nat) :
    chainC s' (.list h) = chainC s (.list h) := q.chainC_eq H _

theorem QuietC.plan {s s' : State} (q : QuietC s s') (H : HInv s) (hcur : s'.cur = s.cur) {j : Nat} {lo hi : Cell}
    (hlo : ∀ b, lo = .tree b → binAt s'.tbins b = binAt s.tbins b)
    (hhi : ∀ b, hi = .tree b → binAt s'.tbins b = binAt s.tbins b)
    (h : Plan s j lo hi) : Plan s' j lo hi :=
  q.plan' H hcur (fun b hC _ => hlo b hC) (fun b hC _ => hhi b hC) h

theorem QuietC.used_of {s s' : State} {t : Nat} {l l' : Local} (q : QuietC s s') (H : HInv s) (hcur : s'.cur = s.cur)
    (hthr : s'.threads = s.threads.set t l') (hl : s.threads[t]? = some l)
    (hpend : pend s' l'.pc = pend s l.pc) (hx : xPc l'.pc = xPc l.pc) (hxi : xIdx l'.pc = xIdx l.pc)
    (hk : ∀ tab k h b, l'.pc = .kStore tab k h b ↔ l.pc = .kStore tab k h b) :
    ∀ j, Used s' j → Used s j :=
  q.used_sub H hcur hthr hl hpend hx hxi hk

/-- allocating a generation of empty cells changes no cell (a missing cell reads as `empty`) -/
theorem cellAt_alloc {s s' : State} {n : Nat} (h : s'.tabs = s.tabs ++ [List.replicate n .empty]) (id : Cid) :
    cellAt s' id = cellAt s id := by
  show Flurry.Proto.BinGN.cellT s'.tabs id.1 id.2 = _
  rw [h]; exact Flurry.Proto.BinGN.cellT_alloc s.tabs n id.1 id.2

theorem QuietC.inCell_iff {s s' : State} (q : QuietC s s') (b : Nat) : InCell s' b ↔ InCell s b := by
  unfold InCell
  constructor
  · rintro ⟨id, h⟩; exact ⟨id, by rw [q.cellAt_eq] at h; exact h⟩
  · rintro ⟨id, h⟩; exact ⟨id, by rw [q.cellAt_eq]; exact h⟩

theorem QuietC.absTree_eq {s s' : State} (q : QuietC s s') (b k : Nat) : absTree s' b k = absTree s b k := by
  unfold absTree
  rw [q.find_eq]
  cases treeFind s b k with
  | none => rfl
  | some i => simp only; rw [q.val_eq]

theorem QuietC.kstep {s s' : State} (q : QuietC s s') (H : HInv s) (hlc : ∀ k, liveCell s' k = liveCell s k)
    (hused : ∀ j, Used s' j → Used s j) (k : Nat) : KStep s s' k :=
  KStep.of_same (by rw [q.hlen]; exact Nat.le_refl _) (fun j _ => ⟨q.key_eq j, q.val_eq j, q.next_eq j⟩)
    (q.LC_eq' H (hlc k)) (fun j _ => hused j)
    (fun c hc => by
      obtain ⟨id, hc, hne⟩ := hc
      exact ⟨id, by rw [q.chainC_cell H]; exact hc, hne⟩)

theorem QuietC.used_of_nil {s s' : State} {t : Nat} {l' : Local} (q : QuietC s s') (H : HInv s)
    (hcur : s'.cur = s.cur)
    (hthr : s'.threads = s.threads.set t l') (hp : pend s l'.pc = []) : ∀ j, Used s' j → Used s j := by
  rintro j (⟨id, hj⟩ | ⟨t1, l1, tab, k, h, b, h1, hpc, ho⟩ | ⟨t1, l1, C, h1, hx1, hC, hj, hn⟩)
  · exact Or.inl ⟨id, by rw [q.chainC_cell H] at hj; exact hj⟩
  · rw [hthr] at h1
    rcases get_set h1 with ⟨rfl, rfl⟩ | ⟨_, h1⟩
    · rw [hpc] at hp; cases hp
    · exact Or.inr (Or.inl ⟨t1, l1, tab, k, h, b, h1, hpc, by rw [← q.owner_eq]; exact ho⟩)
  · rw [hthr] at h1
    rw [q.pend_eq hcur] at hC
    rcases get_set h1 with ⟨rfl, rfl⟩ | ⟨_, h1⟩
    · rw [hp] at hC; cases hC
    · refine Or.inr (Or.inr ⟨t1, l1, C, h1, hx1, hC, by rw [q.chainC_eq H] at hj; exact hj, ?_⟩)
      intro j0 h0
      have := hn j0 h0
      rw [hcur, q.chainC_cell H] at this; exact this

theorem QuietC.privBin_of {s s' : State} {t : Nat} {l' : Local} (q : QuietC s s') (hcur : s'.cur = s.cur)
    (hthr : s'.threads = s.threads.set t l') (hp : pend s l'.pc = []) {b : Nat} (h : PrivBin s' b) : PrivBin s b := by
  obtain ⟨t1, l1, h1, hC, h0⟩ := h
  rw [q.pend_eq hcur] at hC
  rw [hthr] at h1
  rcases get_set h1 with ⟨rfl, rfl⟩ | ⟨_, h1⟩
  · rw [hp] at hC; cases hC
  · exact ⟨t1, l1, h1, hC, fun j hj => by have := h0 j hj; rw [hcur, q.cellAt_eq] at this; exact this⟩

theorem XPc.quietC {s s' : State} (q : QuietC s s') (H : HInv s) (hcur : s'.cur = s.cur) {pc : Pc}
    (hb : ∀ b, (.tree b : Cell) ∈ pend s pc → (∀ j, xIdx pc = some j → cellAt s (s.cur, j) ≠ .tree b) →
      binAt s'.tbins b = binAt s.tbins b)
    (h : XPc s pc) : XPc s' pc :=
  h.frame (H.nextOK.congr q.heap) (Nat.le_of_eq q.hlen.symm) (Nat.le_of_eq q.tlen.symm) hcur
    (fun _ _ => ⟨q.cellAt_eq _, q.cellAt_eq _, q.cellAt_eq _⟩) (fun _ _ => q.sameC H _) (fun _ _ _ => q.sameC H _)
    (fun _ => hb)

theorem lowStored_pend {s : State} {pc : Pc} (h : pend s pc = []) : lowStored pc = none ∧ highStored pc = none := by
  cases pc <;> cases h <;> exact ⟨rfl, rfl⟩

theorem not_kStore_of_pend {s : State} {pc : Pc} (h : pend s pc = []) (tab : Nat) (k h0 b : Nat) :
    pc ≠ .kStore tab k h0 b := by
  intro e; rw [e] at h; cases h

theorem not_store_of_pend {s : State} {pc : Pc} (h : pend s pc = []) :
    (∀ j u hi, pc ≠ .xStoreHigh j u hi) ∧ (∀ j u, pc ≠ .xStoreMoved j u) := by
  constructor
  · intro j u hi e; rw [e] at h; cases h
  · intro j u e; rw [e] at h; cases h

theorem xpc_of_pend_nil {s s' : State} {pc : Pc} (h : pend s pc = []) : XPc s' pc := by
  cases pc <;> first | exact trivial | cases h

theorem xpc_of_not_x {s : State} {pc : Pc} (h : xPc pc = false) : XPc s pc := by
  cases pc <;> first | exact trivial | cases h

theorem pend_of_not_x {s s' : State} {pc : Pc} (h : xPc pc = false) : pend s' pc = pend s pc ∧ xIdx pc = none := by
  cases pc <;> cases h <;> exact ⟨rfl, rfl⟩

theorem xinv_qC {s s' : State} {t : Nat} {l' : Local} (I : Inv s)
    (q : QuietC s s') (hcur : s'.cur = s.cur) (hthr : s'.threads = s.threads.set t l') (XS' : XShape s')
    (hplan : XPc s' l'.pc)
    (hbin : ∀ b, PrivBin s b → binAt s'.tbins b = binAt s.tbins b) : XInv s' := by
  refine XS'.xinv ?_
  intro t1 l1 h1
  rw [hthr] at h1
  rcases get_set h1 with ⟨rfl, rfl⟩ | ⟨_, h1⟩
  · exact hplan
  · refine (I.rsz.plan t1 l1 h1).quietC q I.heap hcur ?_
    intro b hC h0
    exact hbin b ⟨_, _, h1, hC, h0⟩

theorem dinv_qC {s s' : State} {t : Nat} {l l' : Local} (I : Inv s) (hl : s.threads[t]? = some l)
    (q : QuietC s s') (hthr : s'.threads = s.threads.set t l')
    (hsrc : (∀ tab b j res, l.pc ≠ .tRestructure tab b j res) ∧ (∀ tab b res, l.pc ≠ .tUntreeify tab b res) ∧
      (∀ tab b j, l.pc ≠ .tTreeLinkLocked tab b j))
    (hks : ∀ tab k h b, l'.pc ≠ .kStore tab k h b)
    (hnew : ∀ p, l'.call = some p → PcInv s p l'.pc)
    (hbin : ∀ b, PrivBin s b → binAt s'.tbins b = binAt s.tbins b) : DInv s' := by
  have H := I.heap
  refine ⟨?_, ?_, ?_, ?_⟩
  · intro t1 l1 p1 h1 hc1
    rw [hthr] at h1
    rcases get_set h1 with ⟨rfl, rfl⟩ | ⟨_, h1⟩
    · exact (hnew p1 hc1).quietC q H
    · exact (I.data.pcInv t1 l1 p1 h1 hc1).quietC q H
  · intro t1 l1 h1
    rw [hthr] at h1
    rcases get_set h1 with ⟨rfl, rfl⟩ | ⟨hne, h1⟩
    · cases hpc : l1.pc <;> simp only [KInv]
      exact absurd hpc (hks _ _ _ _)
    · have hk := I.data.kInv t1 l1 h1
      refine hk.quietC q H ?_
      intro tab k h b hpc
      exact hbin b ⟨_, _, h1, by rw [hpc]; simp [pend], fun j hj => by rw [hpc] at hj; cases hj⟩
  · intro id b hc
    rw [q.cellAt_eq] at hc
    exact (listTree_frame I.data hl hthr (Nat.le_of_eq q.hlen.symm) hc (q.sameC H _) (notWit_at hsrc b)).1
  · intro id b hc
    rw [q.cellAt_eq] at hc
    exact (listTree_frame I.data hl hthr (Nat.le_of_eq q.hlen.symm) hc (q.sameC H _) (notWit_at hsrc b)).2

theorem eff_of_quietC {s s' : State} (H : HInv s) (I' : Inv s') (q : QuietC s s')
    (hlid : ∀ k, liveId s' k = liveId s k)
    (hlc : ∀ k, liveCell s' k = liveCell s k) (hused : ∀ j, Used s' j → Used s j)
    (hdead : ∀ b, ¬ InCell s b → (binAt s.tbins b).writer = true → (binAt s'.tbins b).writer = true) :
    Eff s s' ∧ ∀ k, absOf s' k = absOf s k := by
  refine ⟨⟨I', q.kstep H hlc hused, ?_, ?_, ?_, ?_⟩, fun k => q.abs_eq' H (hlc k)⟩
  · intro b _ hne; exact absurd (q.first b) hne
  · intro b k _ hne; exact absurd (q.absTree_eq b k) hne
  · intro b k hc
    left
    rw [hlid, q.cellAt_eq]; exact hc
  · intro b _ hnc _
    exact ⟨fun h => hnc ((q.inCell_iff b).1 h), hdead b hnc⟩

/-- the live cells after a transition that keeps the reading of every cell and the live cell ids -/
theorem liveCell_of_liveId {s s' : State} (X : XInv s) (X' : XInv s') (hcells : ∀ id, cellAt s' id = cellAt s id)
    (hlid : ∀ k, liveId s' k = liveId s k) (k : Nat) : liveCell s' k = liveCell s k := by
  rw [liveCell_eq X' k, liveCell_eq X k, hlid k, hcells]

theorem Quiet.inCell_iff {s s' : State} (q : Quiet s s') (b : Nat) : InCell s' b ↔ InCell s b := q.toC.inCell_iff b

theorem Quiet.absTree_eq {s s' : State} (q : Quiet s s') (b k : Nat) : absTree s' b k = absTree s b k :=
  q.toC.absTree_eq b k

theorem Quiet.LC_eq' {s s' : State} (q : Quiet s s') (H : HInv s) {k : Nat} (hlc : liveCell s' k = liveCell s k) :
    LC s' k = LC s k := q.toC.LC_eq' H hlc

theorem Quiet.abs_eq' {s s' : State} (q : Quiet s s') (H : HInv s) {k : Nat} (hlc : liveCell s' k = liveCell s k) :
    absOf s' k = absOf s k := q.toC.abs_eq' H hlc

theorem Quiet.kstep {s s' : State} (q : Quiet s s') (H : HInv s) (hlc : ∀ k, liveCell s' k = liveCell s k)
    (hused : ∀ j, Used s' j → Used s j) (k : Nat) : KStep s s' k := q.toC.kstep H hlc hused k

theorem XPc.quiet {s s' : State} (q : Quiet s s') (H : HInv s) {pc : Pc}
    (hb : ∀ b, (.tree b : Cell) ∈ pend s pc → (∀ j, xIdx pc = some j → cellAt s (s.cur, j) ≠ .tree b) →
      binAt s'.tbins b = binAt s.tbins b)
    (h : XPc s pc) : XPc s' pc := h.quietC q.toC H q.cur hb

theorem xinv_q {s s' : State} {t : Nat} {l' : Local} (I : Inv s)
    (q : Quiet s s') (hthr : s'.threads = s.threads.set t l') (XS' : XShape s')
    (hplan : XPc s' l'.pc)
    (hbin : ∀ b, PrivBin s b → binAt s'.tbins b = binAt s.tbins b) : XInv s' :=
  xinv_qC I q.toC q.cur hthr XS' hplan hbin

/-- what the bookkeeping of pending structures needs to know (the generation structure of `XInv s'` comes from
`XShape s'`) -/
structure XFacts (s : State) (pc pc' : Pc) : Prop where
  pend : pend s pc = [] ∧ pend s pc' = []
  src : (∀ tab b j res, pc ≠ .tRestructure tab b j res) ∧ (∀ tab b res, pc ≠ .tUntreeify tab b res) ∧
    (∀ tab b j, pc ≠ .tTreeLinkLocked tab b j)

/-- mutex, read lock and write lock are kept -/
structure MFacts (pc pc' : Pc) : Prop where
  hm : holdsMutex pc' = holdsMutex pc
  hr : holdsRead pc' = holdsRead pc
  wrl : ∀ b, holdsMutex pc = some b → wr pc' = wr pc ∧ (isLoop pc = true → isLoop pc' = true)

/-- a validated new pc sees its structure in its cell; a referenced `TreeBin` is published -/
structure LFacts (s : State) (l l' : Local) : Prop where
  vL : ∀ h, validL l'.pc = some h → cellAt s (cidOf s l') = .list h
  vT : ∀ b, validT l'.pc = some b → cellAt s (cidOf s l') = .tree b
  ref : ∀ b, binRef l'.pc = some b → binRef l.pc = some b ∨ (b < s.tbins.length ∧ ¬ PrivBin s b)

/-- between the list operation and the tree operation of an insertion or removal in a `TreeBin`: the program
counters that `DInv.treeSub` and `DInv.chainSub` name as exceptions -/
def midTree : Pc → Bool
  | .tRestructure _ _ _ _ | .tUntreeify _ _ _ | .tTreeLinkLocked _ _ _ => true
  | _ => false

theorem src_of_midTree {pc : Pc} (h : midTree pc = false) :
    (∀ tab b j res, pc ≠ .tRestructure tab b j res) ∧ (∀ tab b res, pc ≠ .tUntreeify tab b res) ∧
      (∀ tab b j, pc ≠ .tTreeLinkLocked tab b j) :=
  ⟨fun _ _ _ _ e => (by rw [e] at h; cases h), fun _ _ _ e => (by rw [e] at h; cases h),
    fun _ _ _ e => (by rw [e] at h; cases h)⟩

theorem pend_of_call {s : State} {pc : Pc} (h : noCallPc pc = false) : pend s pc = [] := by
  cases pc <;> first | rfl | cases h

theorem mfacts_of_eq {pc pc' : Pc} (hm : holdsMutex pc' = holdsMutex pc) (hr : holdsRead pc' = holdsRead pc)
    (hw : wr pc' = wr pc) (hl : isLoop pc = false) : MFacts pc pc' :=
  ⟨hm, hr, fun _ _ => ⟨hw, fun h => by rw [hl] at h; cases h⟩⟩

/-! For each constructor of `Move`, `Fin`, `KMove` the classifications of the two program counters are known values. -/

theorem Move.pcs {s : State} {t : Nat} {p : Pending} {pc pc' : Pc} {hp : List NodeS} (hm : Move s t p pc pc' hp) :
    MFacts pc pc' ∧ readerPc pc' = readerPc pc ∧ noCallPc pc' = false ∧ midTree pc = false := by
  cases hm
  case rCellTree lo tab b hc => cases lo <;> exact ⟨mfacts_of_eq rfl rfl rfl rfl, rfl, rfl, rfl⟩
  all_goals exact ⟨mfacts_of_eq rfl rfl rfl rfl, rfl, rfl, rfl⟩

theorem Fin.pcs {s : State} {p : Pending} {pc : Pc} {res : KRes} {hp : List NodeS} (hf : Fin s p pc res hp) :
    MFacts pc .idle ∧ midTree pc = false := by
  cases hf <;> exact ⟨mfacts_of_eq rfl rfl rfl rfl, rfl⟩

theorem KMove.pcs {s : State} {t : Nat} {pc pc' : Pc} {hp : List NodeS} (hk : KMove s t pc pc' hp) :
    MFacts pc pc' ∧ noCallPc pc' = true ∧ XFacts s pc pc' := by
  cases hk <;> exact ⟨mfacts_of_eq rfl rfl rfl rfl, rfl, ⟨rfl, rfl⟩, src_of_midTree rfl⟩

theorem Move.xfacts {s : State} {t : Nat} {p : Pending} {pc pc' : Pc} {hp : List NodeS}
    (hm : Move s t p pc pc' hp) (hc : noCallPc pc = false) : XFacts s pc pc' :=
  ⟨⟨pend_of_call hc, pend_of_call hm.pcs.2.2.1⟩, src_of_midTree hm.pcs.2.2.2⟩

theorem Fin.xfacts {s : State} {p : Pending} {pc : Pc} {res : KRes} {hp : List NodeS}
    (hf : Fin s p pc res hp) (hc : noCallPc pc = false) : XFacts s pc .idle :=
  ⟨⟨pend_of_call hc, rfl⟩, src_of_midTree hf.pcs.2⟩

/-- what a transition does to the lock words of the nodes -/
def LockKind (s : State) (t : Nat) (pc pc' : Pc) (hp : List NodeS) : Prop :=
  (hp = s.heap ∧ holdsLock pc' = holdsLock pc) ∨
  (∃ h0, hp = lockSet s.heap h0 (some t) ∧ h0 < s.heap.length ∧ (nodeAt s.heap h0).lock = none ∧
    holdsLock pc = none ∧ holdsLock pc' = some h0) ∨
  (∃ h0, hp = lockSet s.heap h0 none ∧ holdsLock pc = some h0 ∧ holdsLock pc' = none)

theorem Move.lockKind {s : State} {t : Nat} {p : Pending} {pc pc' : Pc} {hp : List NodeS}
    (hm : Move s t p pc pc' hp) : LockKind s t pc pc' hp := by
  cases hm
  case wLock tab h n hn hlk =>
    exact Or.inr (Or.inl ⟨h, rfl, (List.getElem?_eq_some_iff.1 hn).1, by rw [nodeAt_of_some hn]; exact hlk, rfl, rfl⟩)
  case wUnlockRetry tab h res => exact Or.inr (Or.inr ⟨h, rfl, rfl, rfl⟩)
  case rCellTree lo tab b hc => cases lo <;> exact Or.inl ⟨rfl, rfl⟩
  all_goals exact Or.inl ⟨rfl, rfl⟩

theorem Fin.lockKind {s : State} {t : Nat} {p : Pending} {pc : Pc} {res : KRes} {hp : List NodeS}
    (hf : Fin s p pc res hp) : LockKind s t pc .idle hp := by
  cases hf
  case wUnlockFin tab h => exact Or.inr (Or.inr ⟨h, rfl, rfl, rfl⟩)
  all_goals exact Or.inl ⟨rfl, rfl⟩

theorem KMove.lockKind {s : State} {t : Nat} {pc pc' : Pc} {hp : List NodeS}
    (hk : KMove s t pc pc' hp) : LockKind s t pc pc' hp := by
  cases hk
  case kLock tab k h n hn hlk =>
    exact Or.inr (Or.inl ⟨h, rfl, (List.getElem?_eq_some_iff.1 hn).1, by rw [nodeAt_of_some hn]; exact hlk, rfl, rfl⟩)
  case xLock j h n hn hlk =>
    exact Or.inr (Or.inl ⟨h, rfl, (List.getElem?_eq_some_iff.1 hn).1, by rw [nodeAt_of_some hn]; exact hlk, rfl, rfl⟩)
  case kUnlock h => exact Or.inr (Or.inr ⟨h, rfl, rfl, rfl⟩)
  case xCheckFail j h hc => exact Or.inr (Or.inr ⟨h, rfl, rfl, rfl⟩)
  case xUnlockL h => exact Or.inr (Or.inr ⟨h, rfl, rfl, rfl⟩)
  all_goals exact Or.inl ⟨rfl, rfl⟩

theorem LockKind.heapEqv {s : State} {t : Nat} {pc pc' : Pc} {hp : List NodeS} (k : LockKind s t pc pc' hp) :
    HeapEqv s.heap hp := by
  rcases k with ⟨rfl, -⟩ | ⟨h0, rfl, -⟩ | ⟨h0, rfl, -⟩
  · exact HeapEqv.refl _
  · exact heapEqv_lockSet _ _ _
  · exact heapEqv_lockSet _ _ _

theorem LockKind.lockFun {s s' : State} {t : Nat} {l : Local} {pc' : Pc} (L : LInv s)
    (hl : s.threads[t]? = some l) (k : LockKind s t l.pc pc' s'.heap) :
    LockFun s s' t l.pc pc' ∧
      ∀ h, holdsLock pc' = some h → holdsLock l.pc = some h ∨ (nodeAt s.heap h).lock = none := by
  rcases k with ⟨hh, e⟩ | ⟨h0, hh, hlt, hfree, e0, e1⟩ | ⟨h0, hh, e0, e1⟩
  · exact ⟨lockfun_same L hl e (fun h => by rw [hh]), fun h hp => Or.inl (e ▸ hp)⟩
  · refine ⟨lockfun_acq e0 e1 hlt hh, fun h hp => Or.inr ?_⟩
    rw [e1] at hp; cases hp; exact hfree
  · refine ⟨lockfun_rel L hl e0 e1 hh, fun h hp => ?_⟩
    rw [e1] at hp; cases hp

theorem eff_quiet_core {s s' : State} {t : Nat} {l l' : Local} (I : Inv s) (hl : s.threads[t]? = some l)
    (htb : s'.tbins = s.tbins) (hcells : ∀ id, cellAt s' id = cellAt s id) (hcur : s'.cur = s.cur)
    (hthr : s'.threads = s.threads.set t l')
    (hH : QuietC s s' → HInv s') (T' : TInv s') (hX : QuietC s s' → XInv s')
    (k : LockKind s t l.pc l'.pc s'.heap) (hpend : pend s l'.pc = [])
    (hsrc : (∀ tab b j res, l.pc ≠ .tRestructure tab b j res) ∧ (∀ tab b res, l.pc ≠ .tUntreeify tab b res) ∧
      (∀ tab b j, l.pc ≠ .tTreeLinkLocked tab b j))
    (M : MFacts l.pc l'.pc) (F : LFacts s l l')
    (hnew : ∀ p, l'.call = some p → PcInv s p l'.pc) :
    Eff s s' ∧ ∀ k, absOf s' k = absOf s k := by
  have L := I.lock
  have H := I.heap
  have q : QuietC s s' := ⟨hcells, k.heapEqv, by rw [htb], fun b => by rw [htb]⟩
  obtain ⟨hlf, hacq⟩ := k.lockFun L hl
  have L' : LInv s' := linv_same L hl hcells hthr hcur (by rw [htb])
    (fun b => by rw [htb]; exact ⟨rfl, rfl, rfl, rfl⟩) hlf hacq F.vL F.vT M.hm M.hr
    (fun b hb _ => M.wrl b hb) F.ref (fun b _ h => q.privBin_of hcur hthr hpend h)
  have D' : DInv s' := dinv_qC I hl q hthr hsrc (not_kStore_of_pend hpend) hnew (fun b _ => by rw [htb])
  have X' := hX q
  exact eff_of_quietC H ⟨hH q, T', X', L', D'⟩ q (q.liveId_eq hcur)
    (liveCell_of_liveId I.rsz X' hcells (q.liveId_eq hcur))
    (q.used_of_nil H hcur hthr hpend) (fun b _ hw => by rw [htb]; exact hw)

theorem xinv_of_facts {s s' : State} {t : Nat} {l l' : Local} (I : Inv s)
    (q : QuietC s s') (hcur : s'.cur = s.cur) (hthr : s'.threads = s.threads.set t l') (XS' : XShape s')
    (X : XFacts s l.pc l'.pc) (hbin : ∀ b, PrivBin s b → binAt s'.tbins b = binAt s.tbins b) : XInv s' :=
  xinv_qC I q hcur hthr XS' (xpc_of_pend_nil X.pend.2) hbin

theorem eff_quiet_step {s s' : State} {t : Nat} {l l' : Local} (I : Inv s) (hl : s.threads[t]? = some l)
    (htb : s'.tbins = s.tbins) (htabs : s'.tabs = s.tabs) (hcur : s'.cur = s.cur)
    (hthr : s'.threads = s.threads.set t l') (T' : TInv s') (XS' : XShape s')
    (k : LockKind s t l.pc l'.pc s'.heap) (X : XFacts s l.pc l'.pc) (M : MFacts l.pc l'.pc) (F : LFacts s l l')
    (hnew : ∀ p, l'.call = some p → PcInv s p l'.pc) :
    Eff s s' ∧ ∀ k, absOf s' k = absOf s k :=
  eff_quiet_core I hl htb (fun id => by unfold cellAt Flurry.Proto.BinGN.cellAt; rw [htabs]) hcur hthr
    (fun q => q.hinv I.heap hcur (reusing_of_set_pc hthr hl (not_store_of_pend X.pend.1))) T'
    (fun q => xinv_of_facts (l := l) I q hcur hthr XS' X (fun b _ => by rw [htb]))
    k X.pend.2 X.src M F hnew

/-- [hypothesis of `Move.lfacts` / `eff_move`] the `TreeBin` a thread finds in the cell of its key in the generation
it works in is published. It does not follow from
`Inv` (a `TreeBin` planned by the transfer of another cell could be an EMPTY `TreeBin` of this cell as far as `Inv`
knows: `HInv.side` separates two cells by the keys of their nodes only). -/
def PubRead (s : State) : Prop :=
  ∀ (t : Nat) (l : Local) (g b : Nat), s.threads[t]? = some l → tabOf l.pc = some g →
    cellOf s g (keyOf l) = .tree b → ¬ PrivBin s b

theorem xPc_of_xPre {pc : Pc} (h : xPre pc = true) : xPc pc = true :=
  imp_of_bor (by cases pc <;> rfl) h

theorem lfacts_kept {s : State} {t : Nat} {l l' : Local} (L : LInv s) (hl : s.threads[t]? = some l)
    (hL : validL l'.pc = validL l.pc) (hT : validT l'.pc = validT l.pc) (hc : cidOf s l' = cidOf s l)
    (hr : binRef l'.pc = binRef l.pc) : LFacts s l l' :=
  ⟨fun h hv => (by rw [hc]; exact L.vL t l h hl (hL ▸ hv)), fun b hv => (by rw [hc]; exact L.vT t l b hl (hT ▸ hv)),
    fun _ hb => Or.inl (hr ▸ hb)⟩

theorem lfacts_unval {s : State} {l l' : Local} (h1 : validL l'.pc = none) (h2 : validT l'.pc = none)
    (h3 : ∀ b, binRef l'.pc = some b → binRef l.pc = some b ∨ (b < s.tbins.length ∧ ¬ PrivBin s b)) : LFacts s l l' :=
  ⟨fun _ hv => (by rw [h1] at hv; cases hv), fun _ hv => (by rw [h2] at hv; cases hv), h3⟩

theorem Move.lfacts {s : State} {t : Nat} {p : Pending} {l : Local} {pc' : Pc} {hp : List NodeS}
    (hm : Move s t p l.pc pc' hp) (I : Inv s) (P : PubRead s) (hl : s.threads[t]? = some l) (hcall : l.call = some p) :
    LFacts s l { l with pc := pc' } := by
  have L := I.lock
  obtain ⟨pc, call⟩ := l
  simp only at hm hcall
  subst hcall
  cases hm
  -- the re-check succeeds
  case wCheckOk tab h hc => exact ⟨fun _ hv => (by cases hv; exact hc), nofun, nofun⟩
  case tCheckOk tab b hc => exact ⟨nofun, fun _ hv => (by cases hv; exact hc), fun _ hb => Or.inl hb⟩
  case wFindEnd | wFindHit | wFindNext | findVal | findInsert | findRemove | lrTryFail =>
    exact lfacts_kept L hl rfl rfl rfl rfl
  -- a `TreeBin` read from the cell
  case rCellTree lo tab b hc =>
    cases lo <;> exact lfacts_unval rfl rfl (fun _ hb => by
      cases hb; exact Or.inr ⟨I.heap.cellOK (idOf tab p.key) _ hc, P t _ tab _ hl rfl hc⟩)
  case wCellTree tab b hc =>
    exact lfacts_unval rfl rfl (fun _ hb => by
      cases hb; exact Or.inr ⟨I.heap.cellOK (idOf tab p.key) _ hc, P t _ tab _ hl rfl hc⟩)
  -- the reference is dropped
  case rLinHit | lFirst => exact lfacts_unval rfl rfl nofun
  -- not validated; the reference, if there is one, is kept
  all_goals exact lfacts_unval rfl rfl (fun _ hb => Or.inl hb)

theorem mem_pend {s : State} {pc : Pc} {C : Cell} (h : C ∈ pend s pc) :
    (∃ tab k h0 b, pc = .kStore tab k h0 b ∧ C = .tree b) ∨ (∃ j, xIdx pc = some j ∧ xPre pc = true) := by
  cases pc
  case kStore tab k h0 b => exact Or.inl ⟨tab, k, h0, b, rfl, List.mem_singleton.1 h⟩
  case xStoreLow j _ _ _ | xStoreHigh j _ _ | xStoreMoved j _ => exact Or.inr ⟨j, rfl, rfl⟩
  all_goals exact absurd h List.not_mem_nil

theorem KMove.lfacts {s : State} {t : Nat} {l : Local} {pc' : Pc} {hp : List NodeS}
    (hk : KMove s t l.pc pc' hp) (I : Inv s) (hl : s.threads[t]? = some l) (hcall : l.call = none) :
    LFacts s l { l with pc := pc' } := by
  obtain ⟨pc, call⟩ := l
  simp only at hk hcall
  subst hcall
  cases hk
  case kCheckOk tab k h hc => exact ⟨fun _ hv => (by cases hv; exact hc), nofun, nofun⟩
  case xCheckOk j h hc => exact ⟨fun _ hv => (by cases hv; exact hc), nofun, nofun⟩
  case yCheckOk j b hc => exact ⟨nofun, fun _ hv => (by cases hv; exact hc), fun _ hb => Or.inl hb⟩
  case xCellTree j b hc =>
    refine lfacts_unval rfl rfl (fun _ hb => ?_)
    cases hb
    refine Or.inr ⟨I.heap.cellOK (s.cur, j) b hc, ?_⟩
    -- the resizing thread is at `xCell`: the pending structure is that of a treeify, which is in no cell
    rintro ⟨t1, l1, h1, hC, -⟩
    rcases mem_pend hC with ⟨tab, k, h, b', hpc, hb⟩ | ⟨j', -, hpre⟩
    · have hk := I.data.kInv t1 l1 h1
      rw [hpc] at hk
      cases hb
      exact hk.2 _ hc
    · have := I.rsz.uniqX t1 t l1 _ h1 hl (xPc_of_xPre hpre) rfl
      subst this
      rw [hl] at h1; cases h1
      cases hpre
  all_goals exact lfacts_unval rfl rfl (fun _ hb => Or.inl hb)

/-- while thread `t` holds the validated mutex of `TreeBin` `b` at a pc other than the exceptional
ones, every tree node of `b` is on its list -/
theorem Inv.tree_sub_chain {s : State} (I : Inv s) {t : Nat} {l : Local} {b : Nat} (hl : s.threads[t]? = some l)
    (hv : validT l.pc = some b) (h1 : ∀ tab j res, l.pc ≠ .tRestructure tab b j res)
    (h2 : ∀ tab res, l.pc ≠ .tUntreeify tab b res) :
    ∀ j, j < s.heap.length → (nodeAt s.heap j).owner = some b → (nodeAt s.heap j).inTree = true →
      j ∈ chainOfBin s b := by
  intro j hj ho hin
  apply Classical.byContradiction
  intro hnc
  have hc := I.lock.vT t l b hl hv
  obtain ⟨t', l', hl', hpc⟩ := I.data.treeSub _ b hc j hj ho hin hnc
  have hm' : holdsMutex l'.pc = some b := by
    rcases hpc with ⟨tab, res, hpc⟩ | ⟨tab, res, hpc⟩ <;> rw [hpc] <;> rfl
  have e1 := (I.lock.mx t l b hl).1 (holdsMutex_of_validT hv)
  have e2 := (I.lock.mx t' l' b hl').1 hm'
  rw [e1] at e2
  have := Option.some.inj e2
  subst this
  rw [hl] at hl'; cases hl'
  rcases hpc with ⟨tab, res, hpc⟩ | ⟨tab, res, hpc⟩
  · exact h1 tab j res hpc
  · exact h2 tab res hpc

theorem Inv.chain_sub_tree {s : State} (I : Inv s) {t : Nat} {l : Local} {b : Nat} (hl : s.threads[t]? = some l)
    (hv : validT l.pc = some b) (h1 : ∀ tab j, l.pc ≠ .tTreeLinkLocked tab b j) :
    ∀ j ∈ chainOfBin s b, (nodeAt s.heap j).inTree = true := by
  intro j hj
  cases hin : (nodeAt s.heap j).inTree with
  | true => rfl
  | false =>
    have hc := I.lock.vT t l b hl hv
    obtain ⟨t', l', tab, hl', hpc⟩ := I.data.chainSub _ b hc j hj hin
    have hm' : holdsMutex l'.pc = some b := by rw [hpc]; rfl
    have e1 := (I.lock.mx t l b hl).1 (holdsMutex_of_validT hv)
    have e2 := (I.lock.mx t' l' b hl').1 hm'
    rw [e1] at e2
    have := Option.some.inj e2
    subst this
    rw [hl] at hl'; cases hl'
    exact absurd hpc (h1 tab j)

theorem Walk.start {s : State} (H : HInv s) {h : Nat} (hlt : h < s.heap.length) (key : Nat) :
    Walk s h key none (some h) := by
  have hch := chainOf_isChain H.nextOK (some h) (fun i hi => by cases hi; exact hlt)
  obtain ⟨l, hl⟩ := IsChain.start_some hch
  exact ⟨[], h :: l, by rw [hl]; rfl, rfl, rfl, fun j hj => by cases hj⟩

theorem Walk.next {s : State} (H : HInv s) {h key : Nat} {pred : Option Nat} {c : Nat} {n : NodeS}
    (hlt : h < s.heap.length) (w : Walk s h key pred (some c)) (hn : s.heap[c]? = some n) (hk : n.key ≠ key) :
    Walk s h key (some c) n.next := by
  obtain ⟨l1, l2, hch, hcur, -, hkeys⟩ := w
  cases l2 with
  | nil => cases hcur
  | cons c' l2' =>
    cases hcur
    have hchain := chainOf_isChain H.nextOK (some h) (fun i hi => by cases hi; exact hlt)
    rw [hch] at hchain
    have hnx := hchain.next_eq hn
    refine ⟨l1 ++ [c], l2', by rw [hch]; simp, hnx, by simp, ?_⟩
    intro j hj
    rcases List.mem_append.1 hj with hj | hj
    · exact hkeys j hj
    · have : j = c := by simpa using hj
      subst this
      rw [nodeAt_of_some hn]; exact hk

theorem Walk.cur_mem {s : State} {h key : Nat} {pred : Option Nat} {i : Nat} (w : Walk s h key pred (some i)) :
    i ∈ chainOf s.heap (some h) := by
  obtain ⟨l1, l2, hch, hcur, -, -⟩ := w
  cases l2 with
  | nil => cases hcur
  | cons c l2' => cases hcur; rw [hch]; simp

theorem next_lt {s : State} (H : HInv s) {c : Nat} {n : NodeS} (hn : s.heap[c]? = some n) {b : Nat}
    (hb : n.next = some b) : b < s.heap.length := (H.nextOK c n b hn hb).1

theorem Move.pcInv {s : State} {t : Nat} {p : Pending} {l : Local} {pc' : Pc} {hp : List NodeS}
    (hm : Move s t p l.pc pc' hp) (I : Inv s) (hl : s.threads[t]? = some l) (hpc : l.call = some p) :
    PcInv s p pc' := by
  have h0 := I.data.pcInv t l p hl hpc
  have H := I.heap
  obtain ⟨pc, call⟩ := l
  simp only at hm h0 hpc
  cases hm <;> try exact trivial
  case rCellList lo tab h hc =>
    rw [BinGNP.cellOf_eq] at hc
    exact (H.cinv (idOf tab p.key)).startOK h (by rw [hc]; rfl)
  case rCellTree lo tab b hc => cases lo <;> exact trivial
  case rNodeNext c n hn hk =>
    cases hnx : n.next with
    | none => exact trivial
    | some b => exact next_lt H hn hnx
  case rFirst b =>
    cases hf : (binAt s.tbins b).first with
    | none => exact trivial
    | some h => exact H.firstOK b h hf
  case rLinMode | rTreeMode | rCasFail => exact h0
  case rLinNext b c n hn hk =>
    cases hnx : n.next with
    | none => exact trivial
    | some b' => exact next_lt H hn hnx
  case rLinHit hop => exact hop
  case lFirst b =>
    cases hf : (binAt s.tbins b).first with
    | none => exact trivial
    | some h => exact H.firstOK b h hf
  case lNext c n hn hk =>
    cases hnx : n.next with
    | none => exact trivial
    | some b => exact next_lt H hn hnx
  case lHit hop => exact hop
  case wCheckOk tab h hc => exact Walk.start H (I.lock.lock_lt hl rfl) p.key
  case wFindEnd => exact ⟨h0, fun i hi => by cases hi⟩
  case wFindHit tab h pred c n hn hk =>
    refine ⟨h0, ?_⟩
    intro i hi
    cases hi
    rw [nodeAt_of_some hn]
    exact ⟨hk, rfl⟩
  case wFindNext tab h pred c n hn hk => exact Walk.next H (I.lock.lock_lt hl rfl) h0 hn hk
  case findVal tab b i v res hf hspec =>
    obtain ⟨hi, ho, hin, hk⟩ := treeFind_some hf
    exact ⟨I.tree_sub_chain hl rfl (by intro tab j res; simp) (by intro tab res; simp) i hi ho hin, hk, hspec⟩
  case findInsert tab b hf _ => exact treeFind_none hf
  case findRemove tab b i res hf hspec =>
    obtain ⟨hi, ho, hin, hk⟩ := treeFind_some hf
    exact ⟨I.tree_sub_chain hl rfl (by intro tab j res; simp) (by intro tab res; simp) i hi ho hin, hin, hk, hspec⟩
  case lrTryFail tab b k res => cases k <;> exact h0

theorem noCall_false_of_call {s : State} (T : TInv s) {t : Nat} {l : Local} {p : Pending}
    (hl : s.threads[t]? = some l) (hp : l.call = some p) : noCallPc l.pc = false := by
  cases h : noCallPc l.pc with
  | false => rfl
  | true => have := (T.callOK t l hl).2 h; rw [hp] at this; cases this

theorem eff_move {s : State} {t : Nat} {l : Local} {p : Pending} {pc' : Pc} {hp' : List NodeS} (I : Inv s)
    (P : PubRead s) (hl : s.threads[t]? = some l) (hp : l.call = some p) (hm : Move s t p l.pc pc' hp') :
    let s' := setT (qst s hp' s.tbins) t { l with pc := pc' }
    XShape s' → Eff s s' ∧ ∀ k, absOf s' k = absOf s k := by
  intro s' XS'
  obtain ⟨M, f1, f2, -⟩ := hm.pcs
  have hno := noCall_false_of_call I.thr hl hp
  refine eff_quiet_step (l' := { l with pc := pc' }) I hl rfl rfl rfl rfl ?_ XS' hm.lockKind
    (hm.xfacts hno) M (hm.lfacts I P hl hp) ?_
  · refine tinv_keep (l' := { l with pc := pc' }) I.thr hl rfl rfl rfl rfl ?_ ?_
    · show l.call = none ↔ noCallPc pc' = true
      rw [hp, f2]; simp
    · intro p1 hp1 _
      show isReader p1.op = readerPc pc'
      rw [f1]
      exact I.thr.opOK t l p1 hl hp1 hno
  · intro p1 hp1
    have : p1 = p := by
      have h : l.call = some p1 := hp1
      rw [hp] at h; exact (Option.some.inj h).symm
    subst this
    exact hm.pcInv I hl hp

theorem eff_kmove {s : State} {t : Nat} {l : Local} {pc' : Pc} {hp' : List NodeS} (I : Inv s)
    (hl : s.threads[t]? = some l) (hc : l.call = none) (hm : KMove s t l.pc pc' hp') :
    let s' := setT (qst s hp' s.tbins) t { l with pc := pc' }
    XShape s' → Eff s s' ∧ ∀ k, absOf s' k = absOf s k := by
  intro s' XS'
  refine eff_quiet_step (l' := { l with pc := pc' }) I hl rfl rfl rfl rfl ?_ XS' hm.lockKind
    hm.pcs.2.2 hm.pcs.1 (hm.lfacts I hl hc) ?_
  · exact tinv_keep_none (l' := { l with pc := pc' }) I.thr hl rfl rfl rfl rfl hc hm.pcs.2.1
  · exact fun p1 hp1 => by cases hc.symm.trans hp1

theorem eff_fin {s : State} {t : Nat} {l : Local} {p : Pending} {res : KRes} {hp' : List NodeS} (I : Inv s)
    (hl : s.threads[t]? = some l) (hp : l.call = some p) (hf : Fin s p l.pc res hp') :
    let s' := finish (qst s hp' s.tbins) t p res
    XShape s' → Eff s s' ∧ ∀ k, absOf s' k = absOf s k := by
  intro s' XS'
  refine eff_quiet_step (l' := { pc := .idle, call := none }) I hl rfl rfl rfl rfl ?_ XS' hf.lockKind
    (hf.xfacts (noCall_false_of_call I.thr hl hp)) hf.pcs.1 (lfacts_unval rfl rfl nofun) ?_
  · exact tinv_finish (l' := { pc := .idle, call := none }) I.thr hl hp rfl rfl rfl rfl rfl
  · intro p1 hp1; cases hp1

theorem xfacts_idle (s : State) (pc' : Pc) (hp : pend s pc' = []) : XFacts s .idle pc' :=
  ⟨⟨rfl, hp⟩, src_of_midTree rfl⟩

theorem mfacts_idle (pc' : Pc) (h1 : holdsMutex pc' = none) (h2 : holdsRead pc' = none) : MFacts .idle pc' :=
  ⟨h1, h2, nofun⟩

theorem eff_idle {s : State} {t : Nat} {l : Local} (I : Inv s) (hl : s.threads[t]? = some l) (hpc : l.pc = .idle)
    (XS' : XShape (setT (tick s) t l)) :
    Eff s (setT (tick s) t l) ∧ ∀ k, absOf (setT (tick s) t l) k = absOf s k := by
  refine eff_quiet_step (l' := l) I hl rfl rfl rfl rfl ?_ XS' (Or.inl ⟨rfl, rfl⟩) ?_ ?_ ?_ ?_
  · exact tinv_keep (l' := l) I.thr hl rfl rfl rfl rfl (I.thr.callOK t l hl) (fun p hp => I.thr.opOK t l p hl hp)
  · rw [hpc]; exact xfacts_idle s .idle rfl
  · rw [hpc]; exact mfacts_idle .idle rfl rfl
  · refine ⟨?_, ?_, ?_⟩ <;> intro x hx <;> rw [hpc] at hx <;> cases hx
  · intro p1 hp1; exact I.data.pcInv t l p1 hl hp1

theorem call_none_of_idle {s : State} (T : TInv s) {t : Nat} {l : Local} (hl : s.threads[t]? = some l)
    (hpc : l.pc = .idle) : l.call = none := (T.callOK t l hl).2 (by rw [hpc]; rfl)

theorem eff_maint {s : State} {t : Nat} {l : Local} (I : Inv s) (hl : s.threads[t]? = some l) (k0 : Nat)
    (hpc : l.pc = .idle) :
    let s' := setT (tick s) t { l with pc := .kTable k0 }
    XShape s' → Eff s s' ∧ ∀ k, absOf s' k = absOf s k := by
  intro s' XS'
  have hc := call_none_of_idle I.thr hl hpc
  refine eff_quiet_step (l' := { l with pc := .kTable k0 }) I hl rfl rfl rfl rfl ?_ XS'
    (Or.inl ⟨rfl, by rw [hpc]; rfl⟩) ?_ ?_ ?_ ?_
  · exact tinv_keep_none (l' := { l with pc := .kTable k0 }) I.thr hl rfl rfl rfl rfl hc rfl
  · rw [hpc]; exact xfacts_idle s _ rfl
  · rw [hpc]; exact mfacts_idle _ rfl rfl
  · refine ⟨?_, ?_, ?_⟩ <;> intro x hx <;> cases hx
  · exact fun p1 hp1 => by cases hc.symm.trans hp1

theorem eff_invoke {s : State} {t : Nat} {l : Local} (I : Inv s) (hl : s.threads[t]? = some l) (k0 : Nat) (op : KOp)
    (lo : Bool) (hpc : l.pc = .idle) :
    let s' := setT (tick s) t { pc := if isReader op then .rTable lo else .wTable, call := some ⟨k0, op, s.now + 1⟩ }
    XShape s' → Eff s s' ∧ ∀ k, absOf s' k = absOf s k := by
  -- the new program counter is `rTable lo` or `wTable`: it holds, validates and refers to nothing
  have key : ∀ pc', pc' = .rTable lo ∨ pc' = .wTable → readerPc pc' = isReader op →
      XShape (setT (tick s) t { pc := pc', call := some ⟨k0, op, s.now + 1⟩ }) →
      Eff s (setT (tick s) t { pc := pc', call := some ⟨k0, op, s.now + 1⟩ }) ∧
        ∀ k, absOf (setT (tick s) t { pc := pc', call := some ⟨k0, op, s.now + 1⟩ }) k = absOf s k := by
    intro pc' h hrd XS'
    obtain ⟨f1, f2, f5, f6, f7, f8, f9, f10, f11⟩ : noCallPc pc' = false ∧ pend s pc' = [] ∧
        holdsMutex pc' = none ∧ holdsRead pc' = none ∧ holdsLock pc' = none ∧ validL pc' = none ∧
        validT pc' = none ∧ binRef pc' = none ∧ ∀ p, PcInv s p pc' := by
      rcases h with rfl | rfl <;> exact ⟨rfl, rfl, rfl, rfl, rfl, rfl, rfl, rfl, fun _ => trivial⟩
    refine eff_quiet_step (l' := { pc := pc', call := some ⟨k0, op, s.now + 1⟩ }) I hl rfl rfl rfl rfl ?_ XS'
      (Or.inl ⟨rfl, by rw [hpc]; exact f7⟩) (by rw [hpc]; exact xfacts_idle s _ f2)
      (by rw [hpc]; exact mfacts_idle _ f5 f6) (lfacts_unval f8 f9 (fun _ hb => by rw [f10] at hb; cases hb))
      (fun p _ => f11 p)
    exact tinv_invoke (l' := { pc := pc', call := some ⟨k0, op, s.now + 1⟩ }) I.thr hl rfl rfl rfl rfl f1
      (fun _ => hrd.symm)
  refine key _ ?_ ?_
  · cases isReader op with
    | false => exact Or.inr rfl
    | true => exact Or.inl rfl
  · cases isReader op <;> rfl

/-- `resizeStart` allocates generation `cur + 1` (all cells `empty`): every cell reads as before -/
theorem eff_resizeStart {s : State} {t : Nat} {l : Local} (I : Inv s) (hl : s.threads[t]? = some l)
    (hpc : l.pc = .idle) (_hr : s.resizing = false) :
    let s' : State := { (setT (tick s) t { l with pc := .xNext }) with
      resizing := true, tabs := s.tabs ++ [List.replicate (2 ^ (s.cur + 1)) .empty] }
    XShape s' → Eff s s' ∧ ∀ k, absOf s' k = absOf s k := by
  intro s' XS'
  have hc := call_none_of_idle I.thr hl hpc
  refine eff_quiet_core (l' := { l with pc := .xNext }) I hl rfl (cellAt_alloc (s := s) (s' := s') rfl) rfl rfl
    (fun q => q.hinv I.heap rfl (reusing_of_set_pc (s' := s') (l' := { l with pc := .xNext }) rfl hl
      (by rw [hpc]; exact ⟨fun _ _ _ h => (by cases h), fun _ _ h => by cases h⟩))) ?_ ?_
    (Or.inl ⟨rfl, by rw [hpc]; rfl⟩) rfl ?_ ?_
    (lfacts_unval rfl rfl nofun) ?_
  · exact tinv_keep_none (l' := { l with pc := .xNext }) I.thr hl rfl rfl rfl rfl hc rfl
  · intro q
    exact xinv_qC (l' := { l with pc := .xNext }) I q rfl rfl XS' trivial (fun b _ => rfl)
  · rw [hpc]; exact src_of_midTree rfl
  · rw [hpc]; exact mfacts_idle _ rfl rfl
  · exact fun p1 hp1 => by cases hc.symm.trans hp1

/-- `xcommit` switches to generation `cur + 1`: every cell of generation `cur` is forwarded, so the live cell of
every key is the same cell before and after -/
theorem eff_xcommit {s : State} {t : Nat} {l : Local} (I : Inv s) (hl : s.threads[t]? = some l)
    (hc : l.call = none) (hpc : l.pc = .xCommit) :
    let s' : State := { (setT (tick s) t { l with pc := .idle }) with cur := s.cur + 1, resizing := false }
    XShape s' → Eff s s' ∧ ∀ k, absOf s' k = absOf s k := by
  intro s' XS'
  have X := I.rsz
  have H := I.heap
  have L := I.lock
  -- the fields of `s'`, read off once with the state in constructor form
  obtain ⟨hthr, hheap, htb, hcells, hcur, hnow, hhist⟩ : s'.threads = s.threads.set t { l with pc := .idle } ∧
      s'.heap = s.heap ∧ s'.tbins = s.tbins ∧ (∀ id, cellAt s' id = cellAt s id) ∧ s'.cur = s.cur + 1 ∧
      s'.now = s.now + 1 ∧ s'.hist = s.hist := by
    cases s; exact ⟨rfl, rfl, rfl, fun _ => rfl, rfl, rfl, rfl⟩
  clear_value s'
  have hxl : xPc l.pc = true := by rw [hpc]; rfl
  have q := QuietC.of_same hcells hheap htb
  have noX : ∀ (t1 : Nat) (l1 : Local), s'.threads[t1]? = some l1 → xPc l1.pc = false := by
    intro t1 l1 h1
    rw [hthr] at h1
    rcases get_set h1 with ⟨rfl, rfl⟩ | ⟨hne, h1⟩
    · rfl
    · cases hx : xPc l1.pc with
      | false => rfl
      | true => exact absurd (X.uniqX t1 t l1 l h1 hl hx hxl) hne
  have noRe : ∀ b j0, ¬ Reusing s b j0 := by
    rintro b j0 ⟨t1, l1, h1, hr⟩
    have hx : xPc l1.pc = true := by
      rcases hr with ⟨hi, hr⟩ | hr <;> rw [hr] <;> rfl
    have := X.uniqX t1 t l1 l h1 hl hx hxl
    subst this
    rw [hl] at h1; cases h1
    rcases hr with ⟨hi, hr⟩ | hr <;> rw [hpc] at hr <;> cases hr
  have H' : HInv s' := by
    refine q.hinv' H ?_
    intro id id' b h1 h2
    rcases H.binsDistinct id id' b h1 h2 with h | ⟨j0, hr, _⟩
    · exact Or.inl h
    · exact absurd hr (noRe b j0)
  have T' : TInv s' := by
    refine tinv_keep (l' := { l with pc := .idle }) I.thr hl hthr hnow hhist rfl ?_ ?_
    · show l.call = none ↔ noCallPc .idle = true
      rw [hc]; simp [noCallPc]
    · intro p hp; rw [hc] at hp; cases hp
  have X' : XInv s' := XS'.xinv (fun t1 l1 h1 => xpc_of_not_x (noX t1 l1 h1))
  have hcid : ∀ (t1 : Nat) (l1 : Local), t1 ≠ t → s.threads[t1]? = some l1 → cidOf s' l1 = cidOf s l1 :=
    fun t1 l1 hne h1 => cidOf_others X hl hxl hne h1
  have hpriv : ∀ b, PrivBin s' b → PrivBin s b := by
    rintro b ⟨t1, l1, h1, hC, h0⟩
    obtain ⟨e1, e2⟩ := pend_of_not_x (s := s) (s' := s') (noX t1 l1 h1)
    rw [e1] at hC
    rw [hthr] at h1
    rcases get_set h1 with ⟨rfl, rfl⟩ | ⟨_, h1⟩
    · simp [pend] at hC
    · exact ⟨t1, l1, h1, hC, fun j hj => by rw [e2] at hj; cases hj⟩
  have hm : holdsMutex (.idle : Pc) = holdsMutex l.pc := by rw [hpc]; rfl
  have L' : LInv s' := by
    refine LInv.of_parts
      (lk_step_gen (l' := { l with pc := .idle }) L hl hthr hcid
        (lockfun_same (s' := s') L hl (by rw [hpc]; rfl) (fun h => by rw [hheap]))
        (fun h hh => by cases hh) (fun h hv => by cases hv) (fun id => Or.inl (hcells id)))
      (mx_step_gen (l' := { l with pc := .idle }) L hl hthr hcid
        (mutexfun_same (s' := s') L hl hm (fun b => by rw [htb]))
        (fun b hb => by cases hb) (fun b hv => by cases hv) (fun id => Or.inl (hcells id)))
      (rw_cell (l' := { l with pc := .idle }) L hl hthr htb (fun id b hcell => Or.inl ⟨id, by rw [← hcells id]; exact hcell⟩)
        (fun b hb => by rw [hpc] at hb; cases hb) (by rw [hpc]; rfl) (fun b hb => by cases hb)
        (fun b _ h => hpriv b h))
  have D' : DInv s' := by
    refine dinv_qC (l' := { l with pc := .idle }) I hl q hthr ?_ (fun _ _ _ _ h => by cases h) ?_ (fun b _ => by rw [htb])
    · rw [hpc]; exact src_of_midTree rfl
    · intro p1 hp1
      have h : l.call = some p1 := hp1
      rw [hc] at h; cases h
  have hlid : ∀ k, liveId s' k = liveId s k := by
    intro k
    have hmv : cellAt s (idOf s.cur k) = .moved := X.post t l hl hpc _ (mod_lt_pow k s.cur)
    rw [liveId_moved hmv]
    have hn : ¬ cellAt s' (idOf s'.cur k) = .moved := by
      rw [hcells, hcur]; exact X.newNotMoved (k % 2 ^ (s.cur + 1))
    unfold liveId
    rw [if_neg hn, hcur]
  have hused : ∀ j, Used s' j → Used s j := by
    rintro j (⟨id, hj⟩ | ⟨t1, l1, tab, k, h, b, h1, hpc1, ho⟩ | ⟨t1, l1, C, h1, hx1, -⟩)
    · exact Or.inl ⟨id, by rw [q.chainC_cell H] at hj; exact hj⟩
    · rw [hthr] at h1
      rcases get_set h1 with ⟨rfl, rfl⟩ | ⟨_, h1⟩
      · cases hpc1
      · exact Or.inr (Or.inl ⟨t1, l1, tab, k, h, b, h1, hpc1, by rw [← q.owner_eq]; exact ho⟩)
    · rw [noX t1 l1 h1] at hx1; cases hx1
  exact eff_of_quietC H ⟨H', T', X', L', D'⟩ q hlid (liveCell_of_liveId X X' hcells hlid) hused
    (fun b _ hw => by rw [htb]; exact hw)

section
variable {s : State} {t : Nat} {l : Local}

/-- with the `writer` flag of a `TreeBin` in a cell clear, no thread holds its write lock -/
theorem Inv.no_wr_thread (I : Inv s) {id : Cid} {b : Nat} (hc : cellAt s id = .tree b)
    (hw : (binAt s.tbins b).writer = false) (hl : s.threads[t]? = some l) :
    ¬ (wr l.pc = true ∧ holdsMutex l.pc = some b) := by
  rintro ⟨h1, h2⟩
  have hm := (I.lock.mx t l b hl).1 h2
  have := (I.lock.bitsSome id b t l hc hl hm).1
  rw [hw, h1] at this
  cases this

/-- with `writer` clear, list and tree of a `TreeBin` in a cell hold the same nodes -/
theorem Inv.tree_eq_chain (I : Inv s) {id : Cid} {b : Nat} (hc : cellAt s id = .tree b)
    (hw : (binAt s.tbins b).writer = false) :
    (∀ j, j < s.heap.length → (nodeAt s.heap j).owner = some b → (nodeAt s.heap j).inTree = true → j ∈ chainOfBin s b) ∧
    (∀ j ∈ chainOfBin s b, (nodeAt s.heap j).inTree = true) := by
  constructor
  · intro j hj ho hin
    apply Classical.byContradiction
    intro hnc
    obtain ⟨t, l, hl, hpc⟩ := I.data.treeSub id b hc j hj ho hin hnc
    rcases hpc with ⟨tab, res, hpc⟩ | ⟨tab, res, hpc⟩
    · exact I.no_wr_thread hc hw hl (by rw [hpc]; exact ⟨rfl, rfl⟩)
    · exact I.no_wr_thread hc hw hl (by rw [hpc]; exact ⟨rfl, rfl⟩)
  · intro j hj
    cases hin : (nodeAt s.heap j).inTree with
    | true => rfl
    | false =>
      obtain ⟨t, l, tab, hl, hpc⟩ := I.data.chainSub id b hc j hj hin
      exact absurd (show wr l.pc = true ∧ holdsMutex l.pc = some b by rw [hpc]; exact ⟨rfl, rfl⟩)
        (I.no_wr_thread hc hw hl)

theorem LC_of_tree (X : XInv s) {k b : Nat} (hc : cellAt s (liveId s k) = .tree b) :
    LC s k = chainOfBin s b := by
  unfold LC
  rw [liveCell_eq X k, hc, chainOfBin_eq]

/-- the tree of the `TreeBin` in the live cell of `k`, write lock free, shows the abstract state of `k` -/
theorem Inv.absTree_eq_abs (I : Inv s) {k b : Nat} (hc : cellAt s (liveId s k) = .tree b)
    (hw : (binAt s.tbins b).writer = false) : absTree s b k = absOf s k := by
  have H := I.heap
  obtain ⟨hsub, hsup⟩ := I.tree_eq_chain hc hw
  have hLC := LC_of_tree I.rsz hc
  have hdist : ∀ i j, i ∈ LC s k → j ∈ LC s k → (nodeAt s.heap i).key = (nodeAt s.heap j).key → i = j :=
    (H.liveLC k).dist
  unfold absTree
  cases hf : treeFind s b k with
  | none =>
    simp only
    symm
    rw [absOf_eq, absL_eq_none_iff]
    intro j hj
    have ho := H.chainOwner (liveId s k) j (by rw [hc, ← chainOfBin_eq, ← hLC]; exact hj)
    rw [hc] at ho
    rw [hLC] at hj
    exact treeFind_none hf j ((H.cinv (liveId s k)).chain_lt (by rw [hc]; exact hj)) ho (hsup j hj)
  | some i =>
    simp only
    obtain ⟨hi, ho, hin, hk⟩ := treeFind_some hf
    symm
    rw [absOf_eq, absL_eq_some_iff hdist]
    exact ⟨i, by rw [hLC]; exact hsub i hi ho hin, hk, rfl⟩

end

/-- [not part of `Inv`] a `TreeBin` pending in the transfer of cell `(cur, j)` is in no cell but `(cur, j)` (the re-used
bin) and its two children (once stored). It holds in the model (planned bins are fresh: `≥ tbins.length` when built),
but `Inv` does not record it: it follows from `BinGN.FreshInv` (`planSep_of`, `Lemmas/BinGNPPlanSep.lean`), whose
preservation needs the generation structure only and is proved on the model (`Lemmas/BinGNFresh.lean`); the per-transition
lemmas take it as a hypothesis about the state before the step, so none of them has to re-establish it. -/
def PlanSep (s : State) : Prop :=
  ∀ (t : Nat) (l : Local) (j b : Nat), s.threads[t]? = some l → xIdx l.pc = some j → (.tree b : Cell) ∈ pend s l.pc →
    ∀ id : Cid, cellAt s id = .tree b → id = (s.cur, j) ∨ id = (s.cur + 1, j) ∨ id = (s.cur + 1, j + 2 ^ s.cur)

theorem pubRead_of_planSep {s : State} (I : Inv s) (S : PlanSep s) : PubRead s := by
  intro t l g b hl hg hc
  have hcell : cellAt s (idOf g (keyOf l)) = .tree b := hc
  rintro ⟨t1, l1, h1, hC, h0⟩
  have hk := I.data.kInv t1 l1 h1
  have X := I.rsz
  have key : ∀ j, xIdx l1.pc = some j → xPre l1.pc = true → False := by
    intro j hj hpre
    have hjlt := X.idx t1 l1 j h1 hj
    have hnm := X.pre t1 l1 j h1 hpre hj
    have htn := X.tabNew t l g hl hg
    have hmod : ∀ k : Nat, (k % 2 ^ (s.cur + 1) = j ∨ k % 2 ^ (s.cur + 1) = j + 2 ^ s.cur) → k % 2 ^ s.cur = j := by
      intro k hk
      have e := Shared.mod_succ_mod k s.cur
      rcases hk with hk | hk
      · rw [hk, Nat.mod_eq_of_lt hjlt] at e; exact e.symm
      · rw [hk, Shared.high_mod hjlt] at e; exact e.symm
    rcases S t1 l1 j b h1 hj hC (idOf g (keyOf l)) hcell with e | e | e
    · rw [e] at hcell; exact h0 j hj hcell
    · have e1 : g = s.cur + 1 := congrArg Prod.fst e
      have e2 : keyOf l % 2 ^ g = j := congrArg Prod.snd e
      subst e1
      have hm := htn.2 rfl
      have : idOf s.cur (keyOf l) = (s.cur, j) := by
        unfold idOf; rw [hmod _ (Or.inl e2)]
      rw [this] at hm
      exact hnm hm
    · have e1 : g = s.cur + 1 := congrArg Prod.fst e
      have e2 : keyOf l % 2 ^ g = j + 2 ^ s.cur := congrArg Prod.snd e
      subst e1
      have hm := htn.2 rfl
      have : idOf s.cur (keyOf l) = (s.cur, j) := by
        unfold idOf; rw [hmod _ (Or.inr e2)]
      rw [this] at hm
      exact hnm hm
  rcases mem_pend hC with ⟨tab, k, h, b', hpc, hb⟩ | ⟨j, hj, hpre⟩
  · rw [hpc] at hk
    cases hb
    exact hk.2 _ hcell
  · exact key j hj hpre

end Flurry.Proto.BinGNP
