import Flurry.Lemmas.SeqOpsRead
/-! # `retain` / `retain_force` -/
namespace Flurry.Seq
open Flurry

theorem retainGo_nil (force : Bool) (f : Nat → Nat → Nat → Option Bool) (m : Map) :
    retainGo force f [] m = (m, .ok) := rfl

theorem retainGo_cons_none {force : Bool} {f : Nat → Nat → Nat → Option Bool} {nd : Node}
    (rest : List Node) (m : Map) (h : f nd.key nd.val nd.vi = none) :
    retainGo force f (nd :: rest) m = (m, .panic) := by
  simp only [retainGo, h]

theorem retainGo_cons_true {force : Bool} {f : Nat → Nat → Nat → Option Bool} {nd : Node}
    (rest : List Node) (m : Map) (h : f nd.key nd.val nd.vi = some true) :
    retainGo force f (nd :: rest) m = retainGo force f rest m := by
  simp only [retainGo, h]

theorem retainGo_cons_false {force : Bool} {f : Nat → Nat → Nat → Option Bool} {nd : Node}
    (rest : List Node) (m : Map) (h : f nd.key nd.val nd.vi = some false) :
    retainGo force f (nd :: rest) m =
      retainGo force f rest (replaceNode nd.key none (if force then none else some nd.vi) m).1 := by
  simp only [retainGo, h]

/-- **prefix lemma**: processing `l₁ ++ l₂` is processing `l₁` and, unless the predicate
panicked, going on with `l₂` from the state reached -/
theorem retainGo_append (force : Bool) (f : Nat → Nat → Nat → Option Bool) (l₁ l₂ : List Node) :
    ∀ m : Map, retainGo force f (l₁ ++ l₂) m =
      if (retainGo force f l₁ m).2 = .panic then retainGo force f l₁ m
      else retainGo force f l₂ (retainGo force f l₁ m).1 := by
  induction l₁ with
  | nil => intro m; simp [retainGo_nil]
  | cons nd rest ih =>
    intro m
    rw [List.cons_append]
    cases h : f nd.key nd.val nd.vi with
    | none => simp [retainGo_cons_none _ _ h]
    | some b =>
      cases b with
      | true => rw [retainGo_cons_true _ _ h, retainGo_cons_true _ _ h, ih]
      | false => rw [retainGo_cons_false _ _ h, retainGo_cons_false _ _ h, ih]

theorem retainGo_out_ok (force : Bool) {f : Nat → Nat → Nat → Option Bool} :
    ∀ (l : List Node) (m : Map), (∀ nd ∈ l, (f nd.key nd.val nd.vi).isSome) →
      (retainGo force f l m).2 = .ok := by
  intro l
  induction l with
  | nil => intro m _; rfl
  | cons nd rest ih =>
    intro m ht
    obtain ⟨hnd, hrest⟩ := List.forall_mem_cons.1 ht
    cases h : f nd.key nd.val nd.vi with
    | none => rw [h] at hnd; cases hnd
    | some b =>
      cases b with
      | true => rw [retainGo_cons_true _ _ h]; exact ih _ hrest
      | false => rw [retainGo_cons_false _ _ h]; exact ih _ hrest

theorem total_or_first_panic (f : Nat → Nat → Nat → Option Bool) (l : List Node) :
    (∀ nd ∈ l, (f nd.key nd.val nd.vi).isSome) ∨
    ∃ l₁ nd l₂, l = l₁ ++ nd :: l₂ ∧ (∀ x ∈ l₁, (f x.key x.val x.vi).isSome) ∧
      f nd.key nd.val nd.vi = none := by
  induction l with
  | nil => exact Or.inl fun _ h => nomatch h
  | cons a rest ih =>
    cases h : f a.key a.val a.vi with
    | none => exact Or.inr ⟨[], a, rest, rfl, (fun _ h => nomatch h), h⟩
    | some b =>
      have ha : (f a.key a.val a.vi).isSome := by rw [h]; rfl
      rcases ih with ih | ⟨l₁, nd, l₂, h1, h2, h3⟩
      · exact Or.inl (List.forall_mem_cons.2 ⟨ha, ih⟩)
      · exact Or.inr ⟨a :: l₁, nd, l₂, by rw [h1]; rfl, List.forall_mem_cons.2 ⟨ha, h2⟩, h3⟩

/-- the keys of the nodes of `l` that the predicate rejects -/
def rejected (f : Nat → Nat → Nat → Option Bool) (l : List Node) : List Nat :=
  (l.filter fun nd => f nd.key nd.val nd.vi == some false).map (·.key)

theorem rejected_cons_true {f : Nat → Nat → Nat → Option Bool} {nd : Node} (rest : List Node)
    (h : f nd.key nd.val nd.vi = some true) : rejected f (nd :: rest) = rejected f rest := by
  rw [rejected, List.filter_cons_of_neg (by rw [h]; exact fun h => nomatch h)]; rfl

theorem rejected_cons_false {f : Nat → Nat → Nat → Option Bool} {nd : Node} (rest : List Node)
    (h : f nd.key nd.val nd.vi = some false) :
    rejected f (nd :: rest) = nd.key :: rejected f rest := by
  rw [rejected, List.filter_cons_of_pos (by rw [h]; rfl)]; rfl

/-- what the loop has done when the predicate does not panic on `l`, a list of nodes that are
all still in the map (no key twice): exactly the keys whose node the predicate rejects are gone;
table, threshold and resize counter are untouched; `force` makes no difference. -/
structure RetainPost (f : Nat → Nat → Nat → Option Bool) (l : List Node) (m r : Map) : Prop where
  good : Good r
  hash : r.hash = m.hash
  get_eq : ∀ k, get k r = if k ∈ rejected f l then none else get k m
  tableLen_eq : tableLen r = tableLen m
  resizes_eq : r.resizes = m.resizes
  sizeCtl_eq : r.sizeCtl = m.sizeCtl

theorem retainGo_spec (force : Bool) (f : Nat → Nat → Nat → Option Bool) :
    ∀ (l : List Node) (m : Map), Good m → KeysNodup l → (∀ nd ∈ l, get nd.key m = some nd) →
      (∀ nd ∈ l, (f nd.key nd.val nd.vi).isSome) → RetainPost f l m (retainGo force f l m).1 := by
  intro l
  induction l with
  | nil => intro m hg _ _ _; exact ⟨hg, rfl, fun k => rfl, rfl, rfl, rfl⟩
  | cons nd rest ih =>
    intro m hg hnd hin ht
    obtain ⟨hnk, hnd'⟩ := keysNodup_cons.1 hnd
    obtain ⟨hgnd, hin'⟩ := List.forall_mem_cons.1 hin
    obtain ⟨htnd, hrest⟩ := List.forall_mem_cons.1 ht
    cases h : f nd.key nd.val nd.vi with
    | none => rw [h] at htnd; cases htnd
    | some b =>
      cases b with
      | true =>
        rw [retainGo_cons_true _ _ h]
        have := ih m hg hnd' hin' hrest
        exact { this with get_eq := fun k => rejected_cons_true rest h ▸ this.get_eq k }
      | false =>
        rw [retainGo_cons_false _ _ h]
        have hhit : rmHit nd.key (if force then none else some nd.vi) m = true := by
          rw [rmHit, hgnd]; cases force
          · exact beq_self_eq_true nd.vi
          · rfl
        obtain ⟨hu, -⟩ := replaceNode_rm_spec nd.key (if force then none else some nd.vi) hg
        rw [hhit] at hu
        replace hu : UpdPost m _ nd.key none (-1) True := hu
        obtain ⟨hl, hr, hs⟩ := hu.noGrow trivial
        have := ih _ hu.good hnd'
          (fun x hx => (hu.get_other x.key (hnk x hx)).trans (hin' x hx)) hrest
        refine ⟨this.good, this.hash.trans hu.hash, fun k => ?_, this.tableLen_eq.trans hl,
          this.resizes_eq.trans hr, this.sizeCtl_eq.trans hs⟩
        rw [this.get_eq k, rejected_cons_false rest h]
        by_cases hk : k = nd.key
        · rw [hk, hu.get_same, if_pos List.mem_cons_self, ite_self]
        · rw [hu.get_other k hk]
          by_cases hm : k ∈ rejected f rest
          · rw [if_pos hm, if_pos (List.mem_cons_of_mem _ hm)]
          · rw [if_neg hm, if_neg fun h => hm ((List.mem_cons.1 h).resolve_left hk)]

/-- the loop over a prefix `l₁` of the snapshot `retain` iterates over -/
theorem retainGo_prefix (force : Bool) {f : Nat → Nat → Nat → Option Bool} {m : Map} (hg : Good m)
    {l₁ l₂ : List Node} (he : entries m = l₁ ++ l₂) (ht : ∀ x ∈ l₁, (f x.key x.val x.vi).isSome) :
    RetainPost f l₁ m (retainGo force f l₁ m).1 :=
  retainGo_spec force f l₁ m hg
    ((he ▸ entries_keys_nodup_of_good hg : KeysNodup (l₁ ++ l₂)).sublist (List.sublist_append_left l₁ l₂))
    (fun _ hx => (mem_entries_iff hg).1 (he ▸ List.mem_append_left l₂ hx)) ht

/-- `retain` / `retain_force` with a predicate that does not panic on the entries -/
theorem retain_spec (force : Bool) {f : Nat → Nat → Nat → Option Bool} {m : Map} (hg : Good m)
    (ht : ∀ nd ∈ entries m, (f nd.key nd.val nd.vi).isSome) :
    RetainPost f (entries m) m (retain force f m).1 ∧ (retain force f m).2 = .ok :=
  ⟨retainGo_prefix force hg (List.append_nil _).symm ht, retainGo_out_ok force _ m ht⟩

/-- if the predicate first panics at the entry `nd`, `retain` stops there, having
processed exactly the entries `l₁` before it -/
theorem retain_first_panic (force : Bool) {f : Nat → Nat → Nat → Option Bool} {m : Map} (hg : Good m)
    {l₁ l₂ : List Node} {nd : Node} (he : entries m = l₁ ++ nd :: l₂)
    (ht : ∀ x ∈ l₁, (f x.key x.val x.vi).isSome) (hp : f nd.key nd.val nd.vi = none) :
    retain force f m = ((retainGo force f l₁ m).1, .panic) ∧
      RetainPost f l₁ m (retainGo force f l₁ m).1 :=
  ⟨by rw [retain, he, retainGo_append, retainGo_out_ok force l₁ m ht, retainGo_cons_none _ _ hp]; rfl,
    retainGo_prefix force hg he ht⟩

theorem retain_good (force : Bool) {f : Nat → Nat → Nat → Option Bool} {m : Map} (hg : Good m)
    (ht : ∀ k v vi, (f k v vi).isSome) : Good (retain force f m).1 :=
  (retain_spec force hg (fun _ _ => ht _ _ _)).1.good

theorem RetainPost.absMap_apply {f : Nat → Nat → Nat → Option Bool} {l : List Node} {m r : Map}
    (hg : Good m) (hl : ∀ nd ∈ l, nd ∈ entries m) (h : RetainPost f l m r) (k : Nat) :
    absMap r k =
      match absMap m k with
      | some (ki, v, vi) =>
        if (∃ nd ∈ l, nd.key = k) ∧ f k v vi = some false then none else some (ki, v, vi)
      | none => none := by
  rw [Seq.absMap_apply r, Seq.absMap_apply m, h.get_eq k]
  cases hgk : get k m with
  | none => rw [ite_self]; rfl
  | some old =>
    have hold : ∀ nd ∈ l, nd.key = k → nd = old := fun nd hnd hk =>
      Option.some.inj (((mem_entries_iff hg).1 (hl nd hnd)).symm.trans (hk ▸ hgk))
    have hiff : k ∈ rejected f l ↔ (∃ nd ∈ l, nd.key = k) ∧ f k old.val old.vi = some false := by
      rw [rejected, List.mem_map]
      constructor
      · rintro ⟨nd, h1, h2⟩
        obtain ⟨h3, h4⟩ := List.mem_filter.1 h1
        rw [h2, hold nd h3 h2] at h4
        exact ⟨⟨nd, h3, h2⟩, eq_of_beq h4⟩
      · rintro ⟨⟨nd, hnd, h1⟩, h2⟩
        exact ⟨nd, List.mem_filter.2 ⟨hnd, by rw [h1, hold nd hnd h1]; exact beq_iff_eq.2 h2⟩, h1⟩
    by_cases hc : k ∈ rejected f l
    · rw [if_pos hc]; exact (if_pos (hiff.1 hc)).symm
    · rw [if_neg hc]; exact (if_neg (mt hiff.2 hc)).symm

/-- `retain` and `retain_force` with a total predicate are the filter -/
theorem retain_absMap (force : Bool) {f : Nat → Nat → Nat → Option Bool} {m : Map} (hg : Good m)
    (ht : ∀ k v vi, (f k v vi).isSome) :
    absMap (retain force f m).1 = (absMap m).filter (fun k v vi => (f k v vi).getD true) := by
  obtain ⟨h, -⟩ := retain_spec force hg (fun nd _ => ht nd.key nd.val nd.vi)
  funext k
  rw [h.absMap_apply hg (fun _ hnd => hnd) k, Ref.filter]
  cases ha : absMap m k with
  | none => rfl
  | some x =>
    obtain ⟨ki, v, vi⟩ := x
    have hmem : ∃ nd ∈ entries m, nd.key = k :=
      List.mem_map.1 ((absMap_isSome_iff hg k).1 (by rw [ha]; rfl))
    simp only [hmem, true_and]
    have := ht k v vi
    cases hf : f k v vi with
    | none => rw [hf] at this; cases this
    | some b => cases b <;> simp

/-- sequentially `retain` and `retain_force` coincide -/
theorem retain_force_eq {f : Nat → Nat → Nat → Option Bool} {m : Map} (hg : Good m)
    (ht : ∀ k v vi, (f k v vi).isSome) :
    absMap (retain true f m).1 = absMap (retain false f m).1 := by
  rw [retain_absMap true hg ht, retain_absMap false hg ht]

/-- for *any* predicate (it may panic part-way) `retain` stops at the first
panic, having processed exactly the entries `done` before it: the result is `Good`, its table /
threshold / resize counter are untouched, and exactly the keys of `done` that the predicate
rejected are gone. -/
theorem retain_any (force : Bool) (f : Nat → Nat → Nat → Option Bool) {m : Map} (hg : Good m) :
    ∃ done rest, entries m = done ++ rest ∧ (∀ x ∈ done, (f x.key x.val x.vi).isSome) ∧
      RetainPost f done m (retain force f m).1 ∧
      ((retain force f m).2 = .ok ∧ rest = [] ∨
       (retain force f m).2 = .panic ∧ ∃ nd l₂, rest = nd :: l₂ ∧ f nd.key nd.val nd.vi = none) := by
  rcases total_or_first_panic f (entries m) with ht | ⟨l₁, nd, l₂, he, ht, hp⟩
  · obtain ⟨h1, h2⟩ := retain_spec force hg ht
    exact ⟨entries m, [], (List.append_nil _).symm, ht, h1, Or.inl ⟨h2, rfl⟩⟩
  · obtain ⟨hr, hs⟩ := retain_first_panic force hg he ht hp
    rw [hr]
    exact ⟨l₁, nd :: l₂, he, ht, hs, Or.inr ⟨rfl, nd, l₂, rfl, hp⟩⟩

/-- **C13 `retain_removes_only_rejected`** (any predicate): an entry either survives unchanged or
is gone, and it is gone only if the predicate rejected it -/
theorem retain_removes_only_rejected (force : Bool) (f : Nat → Nat → Nat → Option Bool) {m : Map}
    (hg : Good m) (k : Nat) :
    (absMap (retain force f m).1 k = absMap m k) ∨
    (absMap (retain force f m).1 k = none ∧
      ∃ ki v vi, absMap m k = some (ki, v, vi) ∧ f k v vi = some false) := by
  obtain ⟨done, rest, he, -, hpost, -⟩ := retain_any force f hg
  rw [hpost.absMap_apply hg (fun nd hnd => he ▸ List.mem_append_left rest hnd) k]
  cases ha : absMap m k with
  | none => left; rfl
  | some x =>
    obtain ⟨ki, v, vi⟩ := x
    simp only
    split
    next hc => exact Or.inr ⟨rfl, ki, v, vi, rfl, hc.2⟩
    next => left; rfl

end Flurry.Seq
