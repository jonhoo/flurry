import Flurry.Lemmas.BinGNPInv
import Flurry.Lemmas.BinGNPStep
import Flurry.Lemmas.BinKGhost
/-! # Proto/BinGN: ghost history, the hindsight invariants of the readers, and what every transition has to
establish — definitions

For a fixed key `k` the ghost state is `A : Nat → KSt` (`A τ` = `absOf` of `k` after global step `τ`) and
`pt : Nat → Nat` (`pt i` = linearization point of the call invoked at `i`), as in
`Lemmas/BinKGhost.lean` (whose generic parts — `AbsWit`, `OnCond`, `Live`, `onCond_succ`,
`absWit_now`, `ValWit`, `CallOK`, `nextA` — are re-used).

* `callsOnExt`: the completed calls plus the calls of writers that are past their linearization point.
* `Good A k inv s cur`: the hindsight justification of a thread walking a list with the pointer `cur`:
  `absent` (the key was absent at some time of the call), `on` (a node of the live chain of `k`, no node
  in front of it has key `k`), `foreign` (`Foreign s k j`: `j` is on the chain of a cell `(g, j')` in which `k` does
  not live, `k % 2^g ≠ j'`, reached through the list of an ancestor cell or a re-used `TreeBin`; the key was absent at
  some time of the call), `off` (a dead node: on no chain of a cell or of an unpublished structure; frozen).
* `KStep s s' k`: what a transition does to the heap as far as a list walker looking for `k` is
  concerned (generalises `HeapStep` of `Lemmas/BinKBasic.lean`: a node that leaves the live chain of
  `k` dies — or, at a forwarding, becomes foreign; nodes in front of a node that stays are old
  predecessors, copies of old predecessors, or carry a key that was absent).
* `TreeOK`: the justification of a lock-protocol reader of `TreeBin` `b`: `b` is in the live cell of
  `k`, or `b` is in no cell with its write lock held for ever (untreeified), or the tree content of `b` for `k`
  was the abstract state at some time of the call (a transferred bin, a re-used bin of a cell of other keys).
* `RdOK`, `GInv`.
* `LiveBin s b` (`b` is in the cell a lookup of some key ends in) and `Eff s s'`: what every transition has to
  establish. -/
namespace Flurry.Proto.BinGNP
open Flurry.Lin
open Flurry.Proto.BinK (nodeAt binAt NextOK IsChain IsSeg chainOf CInv absL AbsWit OnCond ValWit CallOK nextA)

theorem isReader_eq_isRead (op : KOp) : isReader op = isRead op := by cases op <;> rfl

/-- the call of a writer that is past its linearization point, counted as responding at `now` -/
def extOf (k now t : Nat) (l : Local) : Option Call :=
  match resOfPc l.pc, l.call with
  | some res, some p => if p.key = k then some ⟨t, p.op, res, p.inv, now⟩ else none
  | _, _ => none

def extCalls (s : State) (k : Nat) : History :=
  (List.range s.threads.length).filterMap (fun t => (s.threads[t]?).bind (extOf k s.now t))

/-- the completed calls on key `k`, plus the calls of writers past their linearization point -/
def callsOnExt (s : State) (k : Nat) : History := callsOn s k ++ extCalls s k

/-- a node on the chain of a cell in which `k` does not live (the reader came there through the list of an ancestor
cell that has been split since, or through a re-used `TreeBin`) -/
def Foreign (s : State) (k : Nat) (j : Nat) : Prop :=
  ∃ id : Cid, j ∈ chainC s (cellAt s id) ∧ k % 2 ^ id.1 ≠ id.2

inductive Good (A : Nat → KSt) (k inv : Nat) (s : State) : Option Nat → Prop
  | absent : AbsWit A inv s.now → Good A k inv s none
  | on {c : Nat} : c ∈ LC s k → OnCond A k inv s.now s.heap (LC s k) c → Good A k inv s (some c)
  | foreign {c : Nat} : Foreign s k c → AbsWit A inv s.now → Good A k inv s (some c)
  | off {c : Nat} : ¬ Used s c → c < s.heap.length →
      ((nodeAt s.heap c).key ≠ k → Good A k inv s (nodeAt s.heap c).next) →
      ((nodeAt s.heap c).key = k → ∃ τ, inv ≤ τ ∧ τ ≤ s.now ∧ A τ = some (nodeAt s.heap c).val) →
      Good A k inv s (some c)

/-- what a transition does to the heap, seen from a list walker looking for `k` -/
structure KStep (s s' : State) (k : Nat) : Prop where
  len : s.heap.length ≤ s'.heap.length
  key : ∀ j, j < s.heap.length → (nodeAt s'.heap j).key = (nodeAt s.heap j).key
  /-- dead nodes are frozen -/
  frozen : ∀ j, j < s.heap.length → ¬ Used s j →
    (nodeAt s'.heap j).val = (nodeAt s.heap j).val ∧ (nodeAt s'.heap j).next = (nodeAt s.heap j).next
  /-- dead nodes stay dead -/
  stable : ∀ j, j < s.heap.length → Used s' j → Used s j
  /-- a node that leaves the live chain of `k` keeps value and `next` in this step, and dies — or (at
  the forwarding) becomes foreign, and then no node from it on has key `k` -/
  leave : ∀ c ∈ LC s k, c ∉ LC s' k →
    (nodeAt s'.heap c).val = (nodeAt s.heap c).val ∧ (nodeAt s'.heap c).next = (nodeAt s.heap c).next ∧
    (¬ Used s' c ∨ (Foreign s' k c ∧ ∀ j ∈ LC s k, ¬ List.Sublist [j, c] (LC s k) → (nodeAt s.heap j).key ≠ k))
  /-- a node in front of a node that stays is an old predecessor, has the key of one, or has a key that
  is not on the old chain -/
  before : ∀ c ∈ LC s k, c ∈ LC s' k → ∀ i, List.Sublist [i, c] (LC s' k) →
    (∃ i0, List.Sublist [i0, c] (LC s k) ∧ (nodeAt s.heap i0).key = (nodeAt s'.heap i).key) ∨
    (∀ i0 ∈ LC s k, (nodeAt s.heap i0).key ≠ (nodeAt s'.heap i).key)
  /-- the value of a node with key `k` is stored only while it is (and stays) live for `k` -/
  valchg : ∀ j, j < s.heap.length → (nodeAt s'.heap j).val ≠ (nodeAt s.heap j).val →
    (nodeAt s.heap j).key = k → j ∈ LC s' k
  /-- a foreign node stays foreign or dies, keeping its `next` -/
  foreign : ∀ c, Foreign s k c → Foreign s' k c ∨
    (¬ Used s' c ∧ (nodeAt s'.heap c).next = (nodeAt s.heap c).next)

def InCell (s : State) (b : Nat) : Prop := ∃ id, cellAt s id = .tree b

/-- the tree of `TreeBin` `b` justifies a lookup of `k` invoked at `inv` -/
def TreeOK (A : Nat → KSt) (k inv : Nat) (s : State) (b : Nat) : Prop :=
  cellAt s (liveId s k) = .tree b ∨
  (¬ InCell s b ∧ (binAt s.tbins b).writer = true) ∨
  ∃ τ, inv ≤ τ ∧ τ ≤ s.now ∧ A τ = absTree s b k

def RdOK (A : Nat → KSt) (k inv : Nat) (s : State) : Pc → Prop
  | .rNode cur => Good A k inv s cur
  | .rFirst b => Good A k inv s (binAt s.tbins b).first ∧ TreeOK A k inv s b
  | .lFirst b => Good A k inv s (binAt s.tbins b).first
  | .rState b cur => Good A k inv s cur ∧ TreeOK A k inv s b
  | .rLin b c => Good A k inv s (some c) ∧ TreeOK A k inv s b
  | .rCas b c _ => Good A k inv s (some c) ∧ TreeOK A k inv s b
  | .rTree b => TreeOK A k inv s b
  | .rRelease _ none => AbsWit A inv s.now
  | .rRelease _ (some i) => ValWit A k inv s.now s.heap i
  | .rVal i => ValWit A k inv s.now s.heap i
  | .lNode cur => Good A k inv s cur
  | _ => True

/-- the ghost invariant for key `k`: `A τ` is the abstract state of `k` at time `τ`, `pt` assigns a linearization point to
the invocation time of a call -/
structure GInv (k : Nat) (s : State) (A : Nat → KSt) (pt : Nat → Nat) : Prop where
  h0 : A 0 = none
  hA : A s.now = absOf s k
  /-- every call of the extended history takes effect at its point, between invocation and response -/
  calls : ∀ c ∈ callsOnExt s k, CallOK A pt c
  /-- the abstract state changes only at the point of a writer -/
  stab : ∀ τ, 1 ≤ τ → τ ≤ s.now → A τ ≠ A (τ - 1) →
    ∃ c ∈ callsOnExt s k, isRead c.op = false ∧ pt c.inv = τ
  /-- two writers have different points -/
  inj : ∀ c ∈ callsOnExt s k, ∀ d ∈ callsOnExt s k, isRead c.op = false → isRead d.op = false →
    pt c.inv = pt d.inv → c.inv = d.inv
  /-- what a reader in flight has seen is justified by a moment since its invocation -/
  readers : ∀ (t : Nat) (l : Local) (p : Pending), s.threads[t]? = some l →
    l.call = some p → p.key = k → RdOK A k p.inv s l.pc


/-- `b` is in a cell a lookup can end in -/
def LiveBin (s : State) (b : Nat) : Prop := ∃ k, cellAt s (liveId s k) = .tree b

/-- what every transition establishes (`stepN_facts`): the structural invariant of the successor, and what the readers'
justifications need to know of the step -/
structure Eff (s s' : State) : Prop where
  inv : Inv s'
  kstep : ∀ k, KStep s s' k
  /-- the list of a `TreeBin` gets a new head only while the bin is, and stays, in a cell a lookup can end in -/
  first : ∀ b, b < s.tbins.length → (binAt s'.tbins b).first ≠ (binAt s.tbins b).first → LiveBin s b ∧ LiveBin s' b
  /-- the tree content of a `TreeBin` for `k` changes only while the bin is (and stays) in the live cell of `k` -/
  tree : ∀ b k, b < s.tbins.length → absTree s' b k ≠ absTree s b k →
    cellAt s (liveId s k) = .tree b ∧ cellAt s' (liveId s' k) = .tree b
  /-- a `TreeBin` that leaves the live cell of `k` is untreeified (dead, write lock held for ever) or
  transferred (then its tree shows the abstract state) -/
  live : ∀ b k, cellAt s (liveId s k) = .tree b → cellAt s' (liveId s' k) = .tree b ∨
    (¬ InCell s' b ∧ (binAt s'.tbins b).writer = true) ∨ absTree s' b k = absOf s' k
  /-- a `TreeBin` that is in no cell and not private stays so and keeps its write lock -/
  dead : ∀ b, b < s.tbins.length → ¬ InCell s b → ¬ PrivBin s b →
    ¬ InCell s' b ∧ ((binAt s.tbins b).writer = true → (binAt s'.tbins b).writer = true)

end Flurry.Proto.BinGNP
