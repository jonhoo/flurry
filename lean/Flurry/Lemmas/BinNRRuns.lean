import Flurry.Lemmas.BinNRExamples
import Flurry.Props.C03BinNR
/-! # Proto/BinNR: kernel-checked runs and the refutation of "retire before unlink" (C03, C04)

Hand-written schedules over `BinNR.stepG early`, executed by the kernel.
`runChecked early n sc` runs `sc` from `init n` and evaluates, after EVERY step, the three safety checks
`noTouchFreedB`, `holdersAwaitedB`, `retiredUnreachableB` (`checkB`): `some none` = every step enabled and
every check holds after every step; `some (some (v, k))` = the first violated check `v`, after step `k`;
`none` = some step is not enabled. In the correct model the checks are theorems of `Props/C03BinNR.lean`
(`checkB_reachable`), so a schedule passes as soon as it is enabled (`runChecked_of_run`, applied to the evaluated
runs); in the variant `early` the checked run is evaluated and shows the violation (`early_checked`).

Node indices (allocation order): thread 0 inserts keys 1, 2 (and 3): `a = 0` (key 1), `b = 1` (key 2),
`c = 2` (key 3); cell `(0,0) = [a, b, c]`. The first resize (split bit 0) re-uses the last run `[c]` and
copies `a` (→ `a' = 3`, high) and `b` (→ `b' = 4`, low): `(1,0) = [b']`, `(1,1) = [a', c]`; the copied
prefix `[a, b]` is what the resizing thread has to retire.

* `schedRemove` — a reader holds the node that a remover unlinks and retires: the node is `retired [reader]`,
  `free` is refused, the reader reads the retired node and responds, then `free` is enabled.
* `schedTransfer` / `schedTransfer2` — a reader holds the old head `a` and sleeps through one / two complete
  resizes; after the commit `a`, `b` are `retired [reader]`, the re-used `c` is `live`; the reader walks
  `a → b → c` (retired, retired, live), responds, then `a`, `b` (and the second resize's `a'`) are freed.
* `schedEarly` — **the refutation**: in the variant `early := true` the resizing thread may retire `a`
  BEFORE it stores the forwarding marker; a reader that starts after that retirement still finds `a` in
  cell `(0,0)`, is not awaited, `a` is freed at the commit, and the reader's next step dereferences freed
  memory (`early_retire_touches_freed`, `early_refutes`). In the correct model the same schedule is not
  executable (`early_sched_not_enabled_in_correct_model`), and with the retirement after the marker store
  the late reader finds `moved` and never holds `a` (`late_checked`). -/
namespace Flurry.Proto.BinNR
open Flurry.Lin

/-! ## schedules, the checked run -/

def rep (t n : Nat) : Sched := List.replicate n ⟨t, .base none false 0⟩
def call (t k : Nat) (op : KOp) : Sched := [⟨t, .base (some (k, op)) false 0⟩]
def rz (t : Nat) : Sched := [⟨t, .base none true 0⟩]
def ret (t i : Nat) : Sched := [⟨t, .retire i⟩]
def fre (t i : Nat) : Sched := [⟨t, .free i⟩]
/-- the resizing thread `t` transfers the non-empty cell `j` (9 steps from `tNext` back to `tNext`) -/
def xfer (t j : Nat) : Sched := [⟨t, .base none false j⟩] ++ rep t 8
/-- `tNext` (all forwarded), `tCommit` -/
def commit (t : Nat) : Sched := rep t 2

inductive Viol where
  | touchAfterFree | holderNotAwaited | retiredReachable
deriving Repr, DecidableEq

/-- the three safety checks on one state; `none` = all hold -/
def checkB (n : Nat) (s : State) : Option Viol :=
  if !noTouchFreedB n s then some .touchAfterFree
  else if !holdersAwaitedB n s then some .holderNotAwaited
  else if !retiredUnreachableB s then some .retiredReachable
  else none

def runCheckedFrom (early : Bool) (n : Nat) : State → Sched → Nat → Option (Option (Viol × Nat))
  | _, [], _ => some none
  | s, x :: rest, k =>
    match act early s x with
    | none => none
    | some s' =>
      match checkB n s' with
      | some v => some (some (v, k))
      | none => runCheckedFrom early n s' rest (k + 1)

/-- `some none`: every step of `sc` is enabled and `checkB` holds after every step;
`some (some (v, k))`: first violation `v`, after step `k`; `none`: a step is not enabled -/
def runChecked (early : Bool) (n : Nat) (sc : Sched) : Option (Option (Viol × Nat)) :=
  runCheckedFrom early n (init n) sc 0

theorem checkB_none {n : Nat} {s : State} (h : checkB n s = none) :
    noTouchFreedB n s = true ∧ holdersAwaitedB n s = true ∧ retiredUnreachableB s = true := by
  unfold checkB at h
  cases h1 : noTouchFreedB n s <;> cases h2 : holdersAwaitedB n s <;> cases h3 : retiredUnreachableB s <;>
    simp [h1, h2, h3] at h ⊢

theorem run_cons {early : Bool} {s s' : State} {x : RAct} {rest : Sched} :
    run early s (x :: rest) = some s' ↔ ∃ s1, act early s x = some s1 ∧ run early s1 rest = some s' := by
  simp only [run]
  cases act early s x <;> simp

theorem run_append {early : Bool} : ∀ (a b : Sched) (s : State),
    run early s (a ++ b) = (run early s a).bind fun s' => run early s' b
  | [], _, _ => rfl
  | x :: a, b, s => by
    simp only [List.cons_append, run]
    cases act early s x with
    | none => rfl
    | some s1 => exact run_append a b s1

/-- what `runChecked … = some none` means: the run is enabled, and the checks hold after every prefix -/
theorem runCheckedFrom_ok {early : Bool} {n : Nat} : ∀ (sc : Sched) {s : State} {k : Nat},
    runCheckedFrom early n s sc k = some none →
    ∀ pre post, sc = pre ++ post → pre ≠ [] → ∃ s', run early s pre = some s' ∧ checkB n s' = none
  | [], s, k, _, pre, post, hsc, hne => by
    cases pre with
    | nil => exact absurd rfl hne
    | cons a p => cases hsc
  | x :: rest, s, k, h, pre, post, hsc, hne => by
    cases pre with
    | nil => exact absurd rfl hne
    | cons a p =>
      obtain ⟨rfl, hrest⟩ := List.cons.inj hsc
      simp only [runCheckedFrom] at h
      cases ha : act early s x with
      | none => rw [ha] at h; cases h
      | some s1 =>
        rw [ha] at h
        simp only at h
        cases hc : checkB n s1 with
        | some v => rw [hc] at h; cases h
        | none =>
          rw [hc] at h
          simp only at h
          cases p with
          | nil => exact ⟨s1, run_cons.2 ⟨s1, ha, rfl⟩, hc⟩
          | cons b q =>
            obtain ⟨s', hr, hc'⟩ := runCheckedFrom_ok rest h (b :: q) post hrest (by simp)
            exact ⟨s', run_cons.2 ⟨s1, ha, hr⟩, hc'⟩

theorem of_map {α : Type} {early : Bool} {s0 : State} {sc : Sched} {f : State → α} {a : α}
    (h : (run early s0 sc).map f = some a) : ∃ s, run early s0 sc = some s ∧ f s = a := by
  cases hr : run early s0 sc with
  | none => rw [hr] at h; cases h
  | some s => rw [hr] at h; exact ⟨s, rfl, by simpa using h⟩

theorem free_refused {early : Bool} {s : State} {t i : Nat} (h : s.life i ≠ .retired []) :
    stepG early s t (.free i) = none := by
  simp [stepG, h]

theorem run_reachable {n : Nat} : ∀ (sc : Sched) {s s' : State}, Reachable n s → run false s sc = some s' →
    Reachable n s'
  | [], _, _, hr, h => Option.some.inj h ▸ hr
  | a :: rest, _, _, hr, h =>
    let ⟨_, hs, h'⟩ := run_cons.1 h
    run_reachable rest (.step a.t a.a hr hs) h'

/-- reachability in the variant "retire before unlink" -/
inductive ReachableEarly (nthreads : Nat) : State → Prop
  | init : ReachableEarly nthreads (init nthreads)
  | step {s s' : State} (t : Nat) (a : Act) : ReachableEarly nthreads s → stepG true s t a = some s' →
      ReachableEarly nthreads s'

theorem run_reachableEarly {n : Nat} : ∀ (sc : Sched) {s s' : State}, ReachableEarly n s →
    run true s sc = some s' → ReachableEarly n s'
  | [], _, _, hr, h => Option.some.inj h ▸ hr
  | a :: rest, _, _, hr, h =>
    let ⟨_, hs, h'⟩ := run_cons.1 h
    run_reachableEarly rest (.step a.t a.a hr hs) h'

/-! ## the checks never fire in the correct model

`checkB` evaluates three theorems of `Props/C03BinNR.lean` on one state, so a schedule of the correct model
that is enabled passes `runChecked`. -/

theorem checkB_reachable {nt : Nat} {s : State} (hr : Reachable nt s) (n : Nat) : checkB n s = none := by
  have h1 : noTouchFreedB n s = true := by
    simp only [noTouchFreedB, List.all_eq_true, bne_iff_ne]
    exact fun t _ i hi => Props.C03BinNR.no_touch_after_free hr hi
  have h2 : holdersAwaitedB n s = true := by
    simp only [holdersAwaitedB, List.all_eq_true]
    intro t _ i hi
    unfold holdsOf at hi
    cases hl : s.n.threads[t]? with
    | none => rw [hl] at hi; cases hi
    | some l =>
      rw [hl] at hi
      cases hw : s.life i with
      | live => rfl
      | retired w => exact List.contains_iff_mem.2 (Props.C03BinNR.holders_are_awaited hr hl hi hw)
      | freed => exact absurd hw (Props.C03BinNR.holders_not_freed hr hl hi)
  have h3 : retiredUnreachableB s = true := by
    simp only [retiredUnreachableB, List.all_eq_true, Bool.or_eq_true, beq_iff_eq, Bool.not_eq_true']
    intro i _
    by_cases hl : s.life i = .live
    · exact Or.inl hl
    · exact Or.inr (Props.C03BinNR.retire_only_unreachable hr hl).1
  simp [checkB, h1, h2, h3]

theorem runCheckedFrom_of_run {nt n : Nat} : ∀ (sc : Sched) {s s' : State} (k : Nat), Reachable nt s →
    run false s sc = some s' → runCheckedFrom false n s sc k = some none
  | [], _, _, _, _, _ => rfl
  | x :: rest, _, _, k, hr, h => by
    obtain ⟨s1, hs, h'⟩ := run_cons.1 h
    have hr1 := Reachable.step x.t x.a hr hs
    simp only [runCheckedFrom, hs, checkB_reachable hr1]
    exact runCheckedFrom_of_run rest (k + 1) hr1 h'

theorem runChecked_of_run {n : Nat} {sc : Sched} {α : Type} {f : State → α} {v : α}
    (h : (run false (init n) sc).map f = some v) : runChecked false n sc = some none :=
  let ⟨_, hr, _⟩ := of_map h
  runCheckedFrom_of_run sc 0 .init hr

/-- thread 0: `insert(1)` (CAS into the empty cell), `insert(2)` (appended under the lock): `(0,0) = [a, b]` -/
def setup2 : Sched := call 0 1 (.ins 5 100) ++ rep 0 3 ++ call 0 2 (.ins 6 101) ++ rep 0 8
/-- … and `insert(3)`: `(0,0) = [a, b, c]` -/
def setup3 : Sched := setup2 ++ call 0 3 (.ins 7 102) ++ rep 0 9

/-! ## 1. a reader holds the node that is removed, retired, and (only after the reader's response) freed -/

/-- thread 1 `get(2)`: table, cell, holds `a`, holds `b`; thread 0 `remove(2)`: …, `wStore` unlinks `b`
(`b ∈ pend 0`), explicit `retire b`, unlock + response -/
def schedRemoveA : Sched :=
  setup2 ++ call 1 2 .get ++ rep 1 3 ++ call 0 2 .rm ++ rep 0 7 ++ ret 0 1 ++ rep 0 1
/-- the reader reads `b` (retired, not freed) and responds -/
def schedRemoveB : Sched := schedRemoveA ++ rep 1 1
def schedRemove : Sched := schedRemoveB ++ fre 0 1

/-- after the remover's unlink store: `b` is the remover's retire obligation, still `live`, the reader holds it -/
theorem remove_unlinked :
    (run false (init 3) (setup2 ++ call 1 2 .get ++ rep 1 3 ++ call 0 2 .rm ++ rep 0 7)).map
      (fun s => (s.pend 0, s.life 1, holdsOf s.n 1, reach s.n 1)) = some ([1], .live, [1], false) := by decide +kernel

/-- after the remover's response: `b` is retired and waits for the reader (thread 1), which is about to
dereference it; `free b` is refused -/
theorem remove_A :
    (run false (init 3) schedRemoveA).map
      (fun s => (s.life 1, touches s.n 1, (stepG false s 0 (.free 1)).isSome, guardedSet s.n)) =
    some (.retired [1], [1], false, [1]) := by decide +kernel

/-- the reader has read the retired node and responded (`get(2) = 6`); now `free b` is enabled -/
theorem remove_B :
    (run false (init 3) schedRemoveB).map
      (fun s => (s.life 1, (stepG false s 0 (.free 1)).isSome, BinN.callsOn s.n 2)) =
    some (.retired [], true,
      [⟨0, .ins 6 101, .none, 5, 13⟩, ⟨0, .rm, .some 6 101, 18, 26⟩, ⟨1, .get, .some 6 101, 14, 27⟩]) := by decide +kernel

theorem remove_final :
    (run false (init 3) schedRemove).map (fun s => (s.life 0, s.life 1, guardedSet s.n)) =
    some (.live, .freed, []) := by decide +kernel

/-- `checkB` holds after every step: `runChecked_of_run` on the run evaluated in `remove_final` -/
theorem remove_checked : runChecked false 3 schedRemove = some none := runChecked_of_run remove_final

/-- the retired node is awaited: while the reader holds `b`, `b` is `retired [1]` and cannot be freed -/
theorem remove_reader_awaited :
    ∃ s, run false (init 3) schedRemoveA = some s ∧ Reachable 3 s ∧ s.life 1 = .retired [1] ∧
      1 ∈ touches s.n 1 ∧ stepG false s 0 (.free 1) = none := by
  obtain ⟨s, hr, hv⟩ := of_map remove_A
  simp only [Prod.mk.injEq] at hv
  refine ⟨s, hr, run_reachable _ .init hr, hv.1, by rw [hv.2.1]; simp, free_refused ?_⟩
  rw [hv.1]; decide

/-! ## 2. a reader sleeps on the old head through a complete resize (and through two) -/

/-- thread 1 `get(3)`: table, cell, holds `a` (the marker is not yet stored) — sleeps; thread 2 resizes
`0 → 1` and commits -/
def schedTransferA : Sched := setup3 ++ call 1 3 .get ++ rep 1 2 ++ rz 2 ++ xfer 2 0 ++ commit 2
/-- the reader walks `a → b → c` and responds -/
def schedTransferB : Sched := schedTransferA ++ rep 1 3
def schedTransfer : Sched := schedTransferB ++ fre 0 0 ++ fre 0 1

/-- the store of the forwarding marker puts the copied prefix `[a, b]` into `pend` of the resizing thread -/
theorem transfer_marker :
    (run false (init 3) (setup3 ++ call 1 3 .get ++ rep 1 2 ++ rz 2 ++ rep 2 8)).map
      (fun s => (s.pend 2, s.n.tabs, holdsOf s.n 1)) =
    some ([0, 1], [[.moved], [.node 4, .node 3]], [0]) := by decide +kernel

/-- after the commit: `a`, `b` are retired and wait for the reader; the re-used `c` and the copies are live;
neither `a` nor `b` can be freed -/
theorem transfer_A :
    (run false (init 3) schedTransferA).map
      (fun s => (s.n.cur, [s.life 0, s.life 1, s.life 2, s.life 3, s.life 4], touches s.n 1,
        (stepG false s 0 (.free 0)).isSome, (stepG false s 0 (.free 1)).isSome)) =
    some (1, [.retired [1], .retired [1], .live, .live, .live], [0], false, false) := by decide +kernel

/-- the reader's second step dereferences `b` (retired, awaited), its third `c` (live) -/
theorem transfer_walk :
    ((run false (init 3) (schedTransferA ++ rep 1 1)).map (fun s => (touches s.n 1, s.life 1)),
     (run false (init 3) (schedTransferA ++ rep 1 2)).map (fun s => (touches s.n 1, s.life 2))) =
    (some ([1], .retired [1]), some ([2], .live)) := by decide +kernel

/-- the reader has responded (`get(3) = 7`, invoked in generation 0); `a`, `b` can be freed -/
theorem transfer_B :
    (run false (init 3) schedTransferB).map
      (fun s => (s.life 0, s.life 1, (stepG false s 0 (.free 0)).isSome, (stepG false s 0 (.free 1)).isSome,
        (BinN.callsOn s.n 3).map (·.res))) =
    some (.retired [], .retired [], true, true, [.none, .some 7 102]) := by decide +kernel

theorem transfer_final :
    (run false (init 3) schedTransfer).map (fun s => [s.life 0, s.life 1, s.life 2, s.life 3, s.life 4]) =
    some [.freed, .freed, .live, .live, .live] := by decide +kernel

/-- `checkB` holds after every step: `runChecked_of_run` on the run evaluated in `transfer_final` -/
theorem transfer_checked : runChecked false 3 schedTransfer = some none := runChecked_of_run transfer_final

theorem transfer_reader_awaited :
    ∃ s, run false (init 3) schedTransferA = some s ∧ Reachable 3 s ∧ s.n.cur = 1 ∧
      s.life 0 = .retired [1] ∧ s.life 1 = .retired [1] ∧ s.life 2 = .live ∧ 0 ∈ touches s.n 1 ∧
      stepG false s 0 (.free 0) = none ∧ stepG false s 0 (.free 1) = none := by
  obtain ⟨s, hr, hv⟩ := of_map transfer_A
  simp only [Prod.mk.injEq, List.cons.injEq] at hv
  obtain ⟨hc, ⟨h0, h1, h2, -⟩, ht, -, -⟩ := hv
  refine ⟨s, hr, run_reachable _ .init hr, hc, h0, h1, h2, by rw [ht]; simp, free_refused ?_, free_refused ?_⟩
  · rw [h0]; decide
  · rw [h1]; decide

/-- the reader sleeps through a SECOND resize `1 → 2` (cells `(1,0) = [b']`: moved as a whole;
`(1,1) = [a', c]`: `c` re-used again, `a'` copied to `a'' = 5` and retired): stale by two generations -/
def schedTransfer2A : Sched := schedTransferA ++ rz 2 ++ xfer 2 0 ++ xfer 2 1 ++ commit 2
def schedTransfer2 : Sched := schedTransfer2A ++ rep 1 3 ++ fre 0 0 ++ fre 0 1 ++ fre 0 3

/-- generation 2 is current; the reader still holds `a` of generation 0; `a`, `b` and `a'` wait for it -/
theorem transfer2_A :
    (run false (init 3) schedTransfer2A).map
      (fun s => (s.n.cur, s.n.tabs, [s.life 0, s.life 1, s.life 2, s.life 3, s.life 4, s.life 5],
        holdsOf s.n 1)) =
    some (2, [[.moved], [.moved, .moved], [.empty, .node 5, .node 4, .node 2]],
      [.retired [1], .retired [1], .live, .retired [1], .live, .live], [0]) := by decide +kernel

theorem transfer2_final :
    (run false (init 3) schedTransfer2).map
      (fun s => ([s.life 0, s.life 1, s.life 2, s.life 3, s.life 4, s.life 5],
        (BinN.callsOn s.n 3).map (·.res))) =
    some ([.freed, .freed, .live, .freed, .live, .live], [.none, .some 7 102]) := by decide +kernel

/-- `checkB` holds after every step: `runChecked_of_run` on the run evaluated in `transfer2_final` -/
theorem transfer2_checked : runChecked false 3 schedTransfer2 = some none := runChecked_of_run transfer2_final

/-! ## 3. REFUTATION of the variant "retire before unlink" (`early := true`) -/

/-- thread 2 starts the resize and runs up to and including its store of the LOW list (in the variant this
step puts the copied prefix `[a, b]` into `pend 2`) -/
def schedEarlyPre : Sched := setup3 ++ rz 2 ++ rep 2 6
/-- `retire a` NOW — before the forwarding marker is stored; THEN thread 1 starts `get(1)`, loads the table
and the cell `(0,0)` (still `node a`) and holds `a`; thread 2: storeHigh, storeMoved, unlock, tNext, tCommit -/
def schedEarlyA : Sched := schedEarlyPre ++ ret 2 0 ++ call 1 1 .get ++ rep 1 2 ++ rep 2 5
def schedEarly : Sched := schedEarlyA ++ fre 2 0

/-- in the variant the copied prefix is in `pend` before the marker is stored: `(0,0)` is still `node a` -/
theorem early_pre :
    (run true (init 3) schedEarlyPre).map (fun s => (s.pend 2, s.n.tabs, reach s.n 0)) =
    some ([0, 1], [[.node 0], [.node 4, .empty]], true) := by decide +kernel

/-- after the commit `a` waits for nobody although the reader (thread 1) holds it, and `free a` is enabled -/
theorem early_A :
    (run true (init 3) schedEarlyA).map
      (fun s => (s.life 0, holdsOf s.n 1, guardedSet s.n, (stepG true s 2 (.free 0)).isSome)) =
    some (.retired [], [0], [1], true) := by decide +kernel

/-- `a` is freed, and the next step of the reader — which is enabled — dereferences `a` -/
theorem early_final :
    (run true (init 3) schedEarly).map
      (fun s => (s.life 0, touches s.n 1, (stepG true s 1 (.base none false 0)).isSome, noTouchFreedB 3 s)) =
    some (.freed, [0], true, false) := by decide +kernel

/-- the checked run: the first violated check is `retiredUnreachableB`, after step 30 (the early `retire a`:
`a` is retired while still in the chain of cell `(0,0)`); the run as a whole ends in a touch of freed memory -/
theorem early_checked : runChecked true 3 schedEarly = some (some (.retiredReachable, 30)) := by decide +kernel

theorem early_retire_touches_freed :
    ∃ s, run true (init 3) schedEarly = some s ∧ noTouchFreedB 3 s = false := by
  obtain ⟨s, hr, hv⟩ := of_map early_final
  exact ⟨s, hr, congrArg (·.2.2.2) hv⟩

theorem early_reachable_touch_freed :
    ∃ s, ReachableEarly 3 s ∧ 0 ∈ touches s.n 1 ∧ s.life 0 = .freed ∧
      (stepG true s 1 (.base none false 0)).isSome = true := by
  obtain ⟨s, hr, hv⟩ := of_map early_final
  simp only [Prod.mk.injEq] at hv
  exact ⟨s, run_reachableEarly _ .init hr, by rw [hv.2.1]; simp, hv.1, hv.2.2.1⟩

/-- hence `no_touch_after_free` is false for the variant that retires before the unlink -/
theorem early_refutes :
    ¬ ∀ s, ReachableEarly 3 s → ∀ t i, i ∈ touches s.n t → s.life i ≠ .freed := by
  intro hall
  obtain ⟨s, hr, ht, hf, -⟩ := early_reachable_touch_freed
  exact hall s hr 1 0 ht hf

/-- the SAME interleaving in the correct model: up to the store of the low list everything is enabled, but
nothing is in `pend 2`, and `retire a` is not enabled … -/
theorem early_pre_in_correct_model :
    (run false (init 3) schedEarlyPre).map
      (fun s => (s.pend 2, (stepG false s 2 (.retire 0)).isSome, checkB 3 s)) = some ([], false, none) := by decide +kernel

/-- … so the schedule is not executable in the correct model -/
theorem early_sched_not_enabled_in_correct_model : run false (init 3) schedEarly = none := by
  obtain ⟨s, hr, hv⟩ := of_map early_pre_in_correct_model
  have hn : stepG false s 2 (.retire 0) = none := by simpa using congrArg (·.2.1) hv
  simp [schedEarly, schedEarlyA, run_append, hr, ret, run, act, hn]

/-- the corrected schedule: `retire a` after the store of the forwarding marker (2 steps later); the late
reader `get(1)` finds `moved` in `(0,0)`, goes on to generation 1 (`(1,1) = [a', c]`), never holds `a`;
`a` is freed at the commit while the reader is still running; the reader reads `a'` and responds -/
def schedLate : Sched :=
  setup3 ++ rz 2 ++ rep 2 8 ++ ret 2 0 ++ call 1 1 .get ++ rep 1 2 ++ rep 2 3 ++ fre 2 0 ++ rep 1 2 ++ fre 2 1

/-- `a` is freed while the late reader is in flight; it holds nothing of generation 0 -/
theorem late_mid :
    (run false (init 3) (setup3 ++ rz 2 ++ rep 2 8 ++ ret 2 0 ++ call 1 1 .get ++ rep 1 2 ++ rep 2 3 ++ fre 2 0)).map
      (fun s => (s.life 0, s.life 1, guardedSet s.n, holdsOf s.n 1, noTouchFreedB 3 s)) =
    some (.freed, .retired [1], [1], [], true) := by decide +kernel

theorem late_final :
    (run false (init 3) schedLate).map
      (fun s => ([s.life 0, s.life 1, s.life 2, s.life 3, s.life 4], (BinN.callsOn s.n 1).map (·.res))) =
    some ([.freed, .freed, .live, .live, .live], [.none, .some 5 100]) := by decide +kernel

/-- `checkB` holds after every step: `runChecked_of_run` on the run evaluated in `late_final` -/
theorem late_checked : runChecked false 3 schedLate = some none := runChecked_of_run late_final

#print axioms remove_checked
#print axioms remove_reader_awaited
#print axioms transfer_checked
#print axioms transfer_reader_awaited
#print axioms transfer2_checked
#print axioms transfer2_final
#print axioms early_retire_touches_freed
#print axioms early_refutes
#print axioms early_sched_not_enabled_in_correct_model
#print axioms late_checked
#print axioms runCheckedFrom_ok

end Flurry.Proto.BinNR
