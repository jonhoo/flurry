import Flurry.Lemmas.BinNDefs
/-! # Proto/BinN and Proto/BinNH: the heap invariant with any number of cells in mid-transfer (definitions; `toM`)

Namespace `BinNHM`: the memory level shared by `Proto/BinN` and `Proto/BinNH` (the states are `BinN.State`; there is no
model of this name). The ghost records the splits that are under way as a finite map `mid : j ↦ (lo, hg, fr)` over the
cells of generation `cur` (`Lemmas/BinNDefs.lean` records at most one, `mid : Option (j, lo, hg)` with one range `fr`):
`G.mid j = some (lo, hg, fr)` — cell `(cur, j)` has been split by some helper (which holds its bin lock),
`lo` / `hg` are the heads of the new lists, `fr` the index range of the fresh copies of THAT split. The map is over
cells, not over helpers: a cell in its middle phase has one helper (its validated bin lock is exclusive,
`BinNH.Full.mid_unique`), and the invariant speaks of the cell.
Everything that does not mention the ghost (`CellId`, `getCell`, `chId`, `keyOn`, `cellId`, `liveId`, `LC`,
`Shape`, `WalkOK`, `WInv`, `CR`, `ord`, `NextOK`, `SideOK`, `Split`, …) is `Proto/BinN`'s.

`toM` embeds `BinN.Ghost` as the map with at most one entry; `Active`, `Live`, `HInv` of `Lemmas/BinNDefs.lean` are
those of this file at `toM G` (`active_toM`, `live_toM`, `hinv_toM`). -/
namespace Flurry.Proto.BinNHM
open Flurry.Lin
open Flurry.Proto.BinN
open Flurry.Proto.BinX (NodeS Cell Pending dflt chainFrom cellHead cellOfHead nodeAt IsSeg IsChain chainH absIn
  KeysDistinct Walk)

structure Ghost where
  cr : CR := fun _ => false
  /-- per cell `j` of generation `cur`: the split that is under way -/
  mid : Nat → Option (Option Nat × Option Nat × (Nat × Nat)) := fun _ => none

/-- cell `(cur, j)` is being split -/
def IsMid (G : Ghost) (j : Nat) : Prop := (G.mid j).isSome = true

def Ghost.setMid (G : Ghost) (j : Nat) (x : Option (Option Nat × Option Nat × (Nat × Nat))) : Ghost :=
  { G with mid := fun i => if i = j then x else G.mid i }

/-- a cell whose chain may be written -/
def Active (s : State) (G : Ghost) (id : CellId) : Prop :=
  (id.1 = s.cur ∧ id.2 < 2 ^ s.cur ∧ getCell s id ≠ .moved ∧ ¬ IsMid G id.2) ∨
  (id.1 = s.cur + 1 ∧ id.2 < 2 ^ (s.cur + 1) ∧ cellAt s s.cur (id.2 % 2 ^ s.cur) = .moved)

/-- nodes that may still be written or (re-)linked -/
def Live (s : State) (G : Ghost) (i : Nat) : Prop :=
  (∃ id, i ∈ chId s id) ∨
  (∃ j lo hg fr, G.mid j = some (lo, hg, fr) ∧
    (i ∈ chainH s.heap (cellOfHead lo) ∨ i ∈ chainH s.heap (cellOfHead hg)))

structure HInv (s : State) (G : Ghost) : Prop where
  shape : Shape s
  /-- `next` goes upwards in `ord G.cr` and stays inside the heap (as `BinN.HInv.nextOK`; `Update.nextOK` is the same
  clause of the state after a surgery). Unrelated to `GenInv.nextOK`, "the NEXT GENERATION holds no marker", which at
  this level is `Shape.nextNM`. -/
  nextOK : NextOK G.cr s.heap
  crLt : ∀ i, isCopy G.cr i → i < s.heap.length
  frOK : ∀ j lo hg fr, G.mid j = some (lo, hg, fr) → fr.2 ≤ s.heap.length ∧ ∀ i, isFresh fr i → isCopy G.cr i
  head : ∀ id h, getCell s id = .node h → h < s.heap.length
  keys : ∀ id, KeysDistinct s.heap (chId s id)
  side : ∀ id, ∀ i ∈ chId s id, keyOn id (nodeAt s.heap i).key
  /-- a cell of the next generation is empty unless its parent is forwarded or being split -/
  nextEmpty : ∀ j', cellAt s s.cur (j' % 2 ^ s.cur) ≠ .moved → ¬ IsMid G (j' % 2 ^ s.cur) →
    cellAt s (s.cur + 1) j' = .empty
  mid : ∀ j lo hg fr, G.mid j = some (lo, hg, fr) → j < 2 ^ s.cur ∧ (∃ h, cellAt s s.cur j = .node h) ∧
    (cellAt s (s.cur + 1) j = .empty ∨ cellAt s (s.cur + 1) j = cellOfHead lo) ∧
    (cellAt s (s.cur + 1) (j + 2 ^ s.cur) = .empty ∨ cellAt s (s.cur + 1) (j + 2 ^ s.cur) = cellOfHead hg) ∧
    Split (bitAt s.cur) s.heap G.cr fr (chId s (s.cur, j)) lo hg

theorem isMid_of {G : Ghost} {j : Nat} {lo hg : Option Nat} {fr : Nat × Nat} (h : G.mid j = some (lo, hg, fr)) :
    IsMid G j := by unfold IsMid; rw [h]; rfl

theorem isMid_some {G : Ghost} {j : Nat} (h : IsMid G j) : ∃ lo hg fr, G.mid j = some (lo, hg, fr) := by
  unfold IsMid at h
  cases hm : G.mid j with
  | none => rw [hm] at h; cases h
  | some x => exact ⟨x.1, x.2.1, x.2.2, rfl⟩

theorem not_isMid_of_none {G : Ghost} {j : Nat} (h : G.mid j = none) : ¬ IsMid G j := by
  unfold IsMid; rw [h]; intro e; cases e

theorem setMid_self (G : Ghost) (j : Nat) (x) : (G.setMid j x).mid j = x := by
  unfold Ghost.setMid; simp

theorem setMid_ne (G : Ghost) {j i : Nat} (x) (h : i ≠ j) : (G.setMid j x).mid i = G.mid i := by
  unfold Ghost.setMid; simp [h]

theorem setMid_none_some {G : Ghost} {j j0 : Nat} {x} (h : (G.setMid j none).mid j0 = some x) :
    j0 ≠ j ∧ G.mid j0 = some x := by
  by_cases e : j0 = j
  · subst e; rw [setMid_self] at h; cases h
  · rw [setMid_ne _ _ e] at h; exact ⟨e, h⟩

theorem setMid_cr (G : Ghost) (j : Nat) (x) : (G.setMid j x).cr = G.cr := rfl

/-! ## `Proto/BinN`'s ghost is the ghost with at most one split under way

Everything `Lemmas/BinNDefs.lean` says with `G : BinN.Ghost` is what this file says with `toM G`: the facts about
`BinN.State` and the ghost are proved once, for the map, and read off for `Proto/BinN` through `toM`. -/

/-- `mid = some (j, lo, hg)` with the fresh range `fr` as the map whose only entry is `j ↦ (lo, hg, fr)` -/
def toM (G : BinN.Ghost) : Ghost :=
  { cr := G.cr
    mid := fun j => match G.mid with
      | some (j', lo, hg) => if j = j' then some (lo, hg, G.fr) else none
      | none => none }

theorem toM_mid {G : BinN.Ghost} {j : Nat} {lo hg : Option Nat} {fr : Nat × Nat} :
    (toM G).mid j = some (lo, hg, fr) ↔ G.mid = some (j, lo, hg) ∧ fr = G.fr := by
  unfold toM
  rcases hm : G.mid with _ | ⟨j', lo', hg'⟩
  · simp
  · simp only
    by_cases e : j = j'
    · subst e
      rw [if_pos rfl]
      constructor
      · intro h; cases h; exact ⟨rfl, rfl⟩
      · rintro ⟨h, rfl⟩; cases h; rfl
    · rw [if_neg e]
      constructor
      · intro h; cases h
      · rintro ⟨h, -⟩; cases h; exact absurd rfl e

theorem toM_mid_none {G : BinN.Ghost} (h : G.mid = none) (j : Nat) : (toM G).mid j = none := by
  unfold toM; rw [h]

theorem toM_clear {G : BinN.Ghost} {j : Nat} {lo hg : Option Nat} (h : G.mid = some (j, lo, hg)) :
    toM { G with mid := none } = (toM G).setMid j none := by
  unfold toM Ghost.setMid
  simp only [h, Ghost.mk.injEq, true_and]
  funext i
  by_cases e : i = j <;> simp [e]

theorem isMid_toM {G : BinN.Ghost} {j : Nat} : IsMid (toM G) j ↔ midIdx G = some j := by
  constructor
  · intro h
    obtain ⟨lo, hg, fr, hm⟩ := isMid_some h
    unfold midIdx; rw [(toM_mid.1 hm).1]; rfl
  · intro h
    unfold midIdx at h
    rcases hm : G.mid with _ | ⟨j', lo, hg⟩
    · rw [hm] at h; cases h
    · rw [hm] at h; cases h
      exact isMid_of (toM_mid.2 ⟨hm, rfl⟩)

theorem active_toM {s : State} {G : BinN.Ghost} {id : CellId} : Active s (toM G) id ↔ BinN.Active s G id := by
  unfold Active BinN.Active; rw [isMid_toM]

theorem live_toM {s : State} {G : BinN.Ghost} {i : Nat} : Live s (toM G) i ↔ BinN.Live s G i := by
  unfold Live BinN.Live
  refine or_congr Iff.rfl ⟨?_, ?_⟩
  · rintro ⟨j, lo, hg, fr, hm, h⟩; exact ⟨j, lo, hg, (toM_mid.1 hm).1, h⟩
  · rintro ⟨j, lo, hg, hm, h⟩; exact ⟨j, lo, hg, G.fr, toM_mid.2 ⟨hm, rfl⟩, h⟩

/-- `BinN.HInv` keeps the fresh range of the last split also when no split is under way -/
def FrOK (s : State) (G : BinN.Ghost) : Prop := G.fr.2 ≤ s.heap.length ∧ ∀ i, isFresh G.fr i → isCopy G.cr i

/-- The fields of the two structures are matched by position: a clause added to one `HInv` has to be added to the other
at the same place (the same holds of `heapStep_toM`, `update_toM` in `Lemmas/BinNSurgeryDefs.lean`). -/
theorem hinv_toM {s : State} {G : BinN.Ghost} : BinN.HInv s G ↔ HInv s (toM G) ∧ FrOK s G := by
  constructor
  · intro H
    refine ⟨⟨H.shape, H.nextOK, H.crLt, ?_, H.head, H.keys, H.side, ?_, ?_⟩, H.frOK⟩
    · intro j lo hg fr hm; obtain ⟨-, rfl⟩ := toM_mid.1 hm; exact H.frOK
    · intro j' h1 h2; exact H.nextEmpty j' h1 (mt isMid_toM.2 h2)
    · intro j lo hg fr hm; obtain ⟨hm', rfl⟩ := toM_mid.1 hm; exact H.mid j lo hg hm'
  · rintro ⟨H, hfr⟩
    refine ⟨H.shape, H.nextOK, H.crLt, hfr, H.head, H.keys, H.side, ?_, ?_⟩
    · intro j' h1 h2; exact H.nextEmpty j' h1 (mt isMid_toM.1 h2)
    · intro j lo hg hm; exact H.mid j lo hg G.fr (toM_mid.2 ⟨hm, rfl⟩)

theorem FrOK.mono {s s' : State} {G G' : BinN.Ghost} (h : FrOK s G) (hlen : s.heap.length ≤ s'.heap.length)
    (hfr : G'.fr = G.fr) (hcr : ∀ i, isCopy G.cr i → isCopy G'.cr i) : FrOK s' G' := by
  unfold FrOK; rw [hfr]
  exact ⟨Nat.le_trans h.1 hlen, fun i hi => hcr i (h.2 i hi)⟩

theorem _root_.Flurry.Proto.BinN.HInv.toM {s : State} {G : BinN.Ghost} (H : BinN.HInv s G) : HInv s (toM G) :=
  (hinv_toM.1 H).1

end Flurry.Proto.BinNHM
