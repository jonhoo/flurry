import Flurry.Lemmas.TableLineages
import Flurry.Proto.TableGN
import Flurry.Lemmas.TableN
import Flurry.Lemmas.BinGNProgInv
import Flurry.Lemmas.BinGNOwn
import Flurry.Lemmas.LinLocal
/-! # Proto/TableGN: a table with list and tree bins through any number of resizes is linearizable as a MAP (C01)

The construction of `Lemmas/TableN.lean` over `Proto/BinGN` lineages. A `tick` of a lineage — its clock advances
while a thread acts in another lineage — IS a transition of `Proto/BinGN`: the step of a thread that is idle in
that lineage and starts nothing — no call, no treeify, no resize
(`BinGN.step b t none false none false false false 0 = some (tick b)`, `tick_is_step`), and `TableGN.step` lets
thread `t` act in lineage `i` only while it is idle in every other lineage. Hence every lineage of a reachable
table is literally `BinGN.Reachable` (`TblInv.reach`), and all lineage-level theorems apply to it unchanged.

As in `Lemmas/TableN.lean` no "keys stay in their class" invariant is needed: inside lineage `i` the key `k` of the
table is called `k / m` (in a call AND in a treeify), every natural number is a local key, and the translation back
`q ↦ i + m * q` is injective on a lineage and separates the lineages (`TableN.globalKey_eq_iff`, re-used):

* `BinGN.step_threads`: a transition of `Proto/BinGN` touches the local state of the acting thread only;
* `TblInv m n S`: `m` lineages, each `BinGN.Reachable n`;
* `OneBin S`: of two different lineages, a thread is idle in one;
* `proj_mhist` (over `Lineages.proj_mhist`, with `TableN.keys` and `TableN.own`): the projection of the map history on key `k` is the
  history of local key `k / m` in lineage `k % m` (as a list, not only up to order: the other lineages contribute
  nothing);
* `bin_of_key`, `mhist_wf`: what `Props/C01TableGN.lean` composes with locality
  (`LinMap.map_linearizable_of_proj`, the statement of `C01.locality`). -/

namespace Flurry.Proto.BinGN
open Flurry.Lin

/-- an idle thread writes nothing but its own entry; a thread that is not idle: `BinGNP.stepN_call` -/
theorem stepN_threads {s s' : State} {t : Nat} {l : Local} (h : BinGNP.StepN s t l s') :
    ∃ l', s'.threads = s.threads.set t l' := by
  by_cases hne : l.pc = .idle
  · cases h with
    | store p g h pred hit hnext hc hpc => rw [hne] at hpc; cases hpc
    | unlink p g b i res small hc hpc => rw [hne] at hpc; cases hpc
    | ybuild j b small small2 hc hpc => rw [hne] at hpc; cases hpc
    | _ => exact ⟨_, rfl⟩
  · rcases BinGNP.stepN_call h hne with ⟨l', h, -, -⟩ | ⟨_, _, -, h, -⟩
    · exact ⟨l', h⟩
    · exact ⟨_, h⟩

theorem step_threads {s s' : State} {t : Nat} {inv : Option (Nat × KOp)} {lo : Bool} {mt : Option Nat}
    {rz sm sm2 : Bool} {pick : Nat} (hs : step s t inv lo mt rz sm sm2 pick = some s') :
    ∃ l', s'.threads = s.threads.set t l' := by
  cases hl : s.threads[t]? with
  | none => unfold step stepG at hs; rw [hl] at hs; cases hs
  | some l => exact stepN_threads (BinGNP.step_stepN hl hs)

end Flurry.Proto.BinGN

namespace Flurry.Proto.TableGN
open Flurry.Lin Flurry.LinMap
open Flurry.Proto.TableN (lineageOf localKey globalKey inLineage localInv)

theorem tick_is_step {b : BinGN.State} {t : Nat} (h : idleIn b t = true) :
    BinGN.step b t none false none false false false 0 = some (tick b) := by
  unfold idleIn at h
  split at h
  · rename_i l hl
    obtain ⟨pc, call⟩ := l
    simp only [beq_iff_eq] at h
    subst h
    unfold BinGN.step BinGN.stepG
    simp only [hl]
    rfl
  · cases h

structure TblInv (m n : Nat) (S : State) : Prop where
  len : S.bins.length = m
  reach : ∀ (j : Nat) (b : BinGN.State), S.bins[j]? = some b → BinGN.Reachable n b

theorem init_bin {m n j : Nat} {b : BinGN.State} (h : (init m n).bins[j]? = some b) : b = BinGN.init n :=
  Lineages.eq_of_getElem?_replicate h

theorem init_tblInv (m n : Nat) : TblInv m n (init m n) := by
  refine ⟨by simp [init], ?_⟩
  intro j b h
  rw [init_bin h]
  exact BinGN.Reachable.init

theorem step_eq_some {S S' : State} {i t : Nat} {inv : Option (Nat × KOp)} {lo : Bool} {mt : Option Nat}
    {rz sm sm2 : Bool} {pick : Nat} (hs : step S i t inv lo mt rz sm sm2 pick = some S') :
    ∃ b b', S.bins[i]? = some b ∧
      ((List.range S.bins.length).all fun j => j == i || idleIn (S.bins.getD j (BinGN.init 0)) t) = true ∧
      (∀ k op, inv = some (k, op) → lineageOf S.bins.length k = i) ∧
      (∀ k, mt = some k → lineageOf S.bins.length k = i) ∧
      BinGN.step b t (localInv S.bins.length inv) lo (localMt S.bins.length mt) rz sm sm2 pick = some b' ∧
      S' = { bins := (S.bins.map tick).set i b' } := by
  unfold step at hs
  cases hb : S.bins[i]? with
  | none => rw [hb] at hs; cases hs
  | some b =>
    rw [hb] at hs
    obtain ⟨h1, hs⟩ := Lineages.guard_some hs
    obtain ⟨h2, hs⟩ := Lineages.guard_some hs
    obtain ⟨h3, hs⟩ := Lineages.guard_some hs
    cases h4 : BinGN.step b t (localInv S.bins.length inv) lo (localMt S.bins.length mt) rz sm sm2 pick with
    | none => rw [h4] at hs; cases hs
    | some b' =>
      rw [h4] at hs
      refine ⟨b, b', rfl, h1, ?_, ?_, h4, (Option.some.inj hs).symm⟩
      · rintro k op rfl
        simpa [inLineage] using h2
      · rintro k rfl
        simpa [inLineage] using h3

theorem step_tblInv {m n : Nat} {S S' : State} {i t : Nat} {inv : Option (Nat × KOp)} {lo : Bool} {mt : Option Nat}
    {rz sm sm2 : Bool} {pick : Nat} (I : TblInv m n S) (hs : step S i t inv lo mt rz sm sm2 pick = some S') :
    TblInv m n S' := by
  obtain ⟨b, b', hb, hidle, _, _, hb', rfl⟩ := step_eq_some hs
  refine ⟨?_, ?_⟩
  · show ((S.bins.map tick).set i b').length = m
    rw [List.length_set, List.length_map]; exact I.len
  · exact Lineages.forall_of_set_map tick _ (idleIn · t) hidle (P := fun _ c => BinGN.Reachable n c) I.reach
      (BinGN.Reachable.step t _ lo _ rz sm sm2 pick (I.reach i b hb) hb')
      fun _ b0 h hid => BinGN.Reachable.step t none false none false false false 0 h (tick_is_step hid)

theorem reachable_tblInv {m n : Nat} {S : State} (hr : Reachable m n S) : TblInv m n S := by
  induction hr with
  | init => exact init_tblInv m n
  | step i t inv lo mt rz sm sm2 pick _ hs ih => exact step_tblInv ih hs

def OneBin (S : State) : Prop :=
  Lineages.OneBin (fun b : BinGN.State => b.threads) (fun l : BinGN.Local => l.pc = .idle) S.bins

theorem idleIn_pc {b : BinGN.State} {t : Nat} {l : BinGN.Local} (h : idleIn b t = true) (hl : b.threads[t]? = some l) :
    l.pc = .idle := by
  unfold idleIn at h
  rw [hl] at h
  simpa using h

theorem init_oneBin (m n : Nat) : OneBin (init m n) :=
  Lineages.OneBin.replicate m
    fun _ _ hl => by rw [BinGNP.init_threads hl]

theorem step_oneBin {S S' : State} {i t : Nat} {inv : Option (Nat × KOp)} {lo : Bool} {mt : Option Nat}
    {rz sm sm2 : Bool} {pick : Nat} (O : OneBin S) (hs : step S i t inv lo mt rz sm sm2 pick = some S') :
    OneBin S' := by
  obtain ⟨b, b', hb, hidle, _, _, hb', rfl⟩ := step_eq_some hs
  exact Lineages.OneBin.step O tick
    (fun _ => rfl) _ idleIn (fun _ _ _ => idleIn_pc) hb hidle (BinGN.step_threads hb')

theorem reachable_oneBin {m n : Nat} {S : State} (hr : Reachable m n S) : OneBin S := by
  induction hr with
  | init => exact init_oneBin m n
  | step i t inv lo mt rz sm sm2 pick _ hs ih => exact step_oneBin ih hs

theorem mhist_eq (S : State) :
    mhist S = Lineages.mhist (TableN.keys S.bins.length) (·.hist) S.bins (BinGN.init 0) := rfl

theorem proj_mhist {m n : Nat} {S : State} (I : TblInv m n S) {k : Nat} {b : BinGN.State}
    (hb : S.bins[lineageOf m k]? = some b) : proj (mhist S) k = BinGN.callsOn b (localKey m k) := by
  rw [mhist_eq, I.len]
  exact Lineages.proj_mhist _ (TableN.own I.len) hb

theorem bin_of_key {m n : Nat} (hm : 0 < m) {S : State} (I : TblInv m n S) (k : Nat) :
    ∃ b, S.bins[lineageOf m k]? = some b ∧ S.bins.getD (lineageOf S.bins.length k) (BinGN.init 0) = b := by
  rw [I.len]
  exact Lineages.exists_getD _ (by rw [I.len]; exact Nat.mod_lt _ hm)

theorem mhist_own_lineage {m n : Nat} {S : State} (I : TblInv m n S) {c : MCall} (hc : c ∈ mhist S) :
    ∃ b, S.bins[lineageOf m c.key]? = some b ∧ (localKey m c.key, c.call) ∈ b.hist :=
  Lineages.mem_mhist_own (TableN.own I.len) (I.len ▸ mhist_eq S ▸ hc)

theorem mem_mhist_of_hist {m n : Nat} {S : State} (I : TblInv m n S) {i : Nat} {b : BinGN.State} {q : Nat} {c : Call}
    (hb : S.bins[i]? = some b) (h : (q, c) ∈ b.hist) :
    (⟨globalKey m i q, c⟩ : MCall) ∈ mhist S ∧ lineageOf m (globalKey m i q) = i ∧ localKey m (globalKey m i q) = q := by
  refine ⟨?_, TableN.own (lkey := Prod.fst) I.len i b hb _ h⟩
  rw [mhist_eq, I.len]
  exact Lineages.mem_mhist_of_hist (K := TableN.keys m) hb h

/-- a thread that is not idle in a lineage (it resizes it, treeifies a bin of it, or has a call in flight there)
is idle in every other lineage -/
theorem busy_idle_elsewhere {S : State} (O : OneBin S) {t i j : Nat} {bi bj : BinGN.State} {li lj : BinGN.Local}
    (hne : i ≠ j) (hi : S.bins[i]? = some bi) (hj : S.bins[j]? = some bj)
    (hli : bi.threads[t]? = some li) (hlj : bj.threads[t]? = some lj) (hT : li.pc ≠ .idle) : lj.pc = .idle := by
  rcases O t i j bi bj li lj hne hi hj hli hlj with h | h
  · exact absurd h hT
  · exact h

theorem mhist_wf {m n : Nat} {S : State} (hr : Reachable m n S) : ∀ c ∈ mhist S, c.call.inv ≤ c.call.resp := by
  intro c hc
  rw [mhist_eq] at hc
  obtain ⟨i, b, q, hb, hmem, -⟩ := Lineages.mem_mhist hc
  exact ((BinGN.reachable_tinv ((reachable_tblInv hr).reach i b hb)).histTime (q, c.call) hmem).1

end Flurry.Proto.TableGN
