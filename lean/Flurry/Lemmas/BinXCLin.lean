import Flurry.Lemmas.BinXCGhost
/-! # Proto/BinXC: the ghost invariant holds in every reachable state (C01, C04)

`GInv`: the ghost invariant (trace `A`, points `pt`, hindsight justification of every reader);
`ginv_step`: every transition preserves `∃ G A pt, GInv`. Linearization points: lock-holding writers at
their single store (`wStore`), the lock-free insert at its successful CAS, writers and readers that see
an empty cell at that load, readers *in hindsight* (`BinX.Good`); a `clear` is linearized, for every key
of a cell, at the step at which it reads that cell as empty or stores "empty" into it (the only step of
a `clear` that changes the abstract state), and the hindsight justification of the readers is carried
over that store by `BinX.Good.cleared`. The transfer has no point: none of its steps changes the abstract
state of any key. `Proto/BinX` has these results through `Lemmas/BinXBridge.lean` (`reachable_base`). -/
namespace Flurry.Proto.BinXC
open Flurry.Lin
open Flurry.Proto.BinX (Ghost get_set CallOK nextA)
open Flurry.GhostView (updPt)

structure GInv (k : Nat) (s : State) (G : Ghost) (A : Nat → KSt) (pt : Nat → Nat) : Prop where
  h0 : A 0 = none
  hA : A s.now = absOf s k
  calls : ∀ c ∈ callsOnExt s k, CallOK A pt c
  stab : ∀ τ, 1 ≤ τ → τ ≤ s.now → A τ ≠ A (τ - 1) →
    ∃ c ∈ callsOnExt s k, isRead c.op = false ∧ pt c.inv = τ
  inj : ∀ c ∈ callsOnExt s k, ∀ d ∈ callsOnExt s k, isRead c.op = false → isRead d.op = false →
    pt c.inv = pt d.inv → c.inv = d.inv
  readers : ∀ (t : Nat) (l : Local) (p : Pending) (cur : Option Nat), s.threads[t]? = some l →
    l.call = some p → p.key = k → l.pc = .rNode cur → BinX.Good G.cr A k p.inv (mem s) cur

theorem GInv.trace {k : Nat} {s : State} {G : Ghost} {A : Nat → KSt} {pt : Nat → Nat} (g : GInv k s G A pt) :
    GhostView.Trace Lin.sig (callsOnExt s k) s.now (absOf s k) A pt :=
  ⟨g.h0, g.hA, g.calls, g.stab, g.inj⟩

/-- the trace as `GhostView` reads it -/
theorem GInv.traceK {k : Nat} {s : State} {G : Ghost} {A : Nat → KSt} {pt : Nat → Nat} (g : GInv k s G A pt) :
    GhostView.Trace Lin.sig (GhostView.callsOnExt Lin.sig (viewK k) (histK k s.hist) s.threads k s.now) s.now
      (absOf s k) A pt :=
  callsOnExt_eq s k ▸ g.trace

theorem GInv.of_trace {k : Nat} {s : State} {G : Ghost} {A : Nat → KSt} {pt : Nat → Nat}
    (tr : GhostView.Trace Lin.sig (GhostView.callsOnExt Lin.sig (viewK k) (histK k s.hist) s.threads k s.now) s.now
      (absOf s k) A pt)
    (hr : ∀ (t : Nat) (l : Local) (p : Pending) (cur : Option Nat), s.threads[t]? = some l →
      l.call = some p → p.key = k → l.pc = .rNode cur → BinX.Good G.cr A k p.inv (mem s) cur) : GInv k s G A pt := by
  rw [← callsOnExt_eq] at tr
  exact ⟨tr.h0, tr.hA, tr.calls, tr.stab, tr.inj, hr⟩

theorem readers_step {k : Nat} {s s' : State} {G G' : Ghost} {A A' : Nat → KSt} {pt : Nat → Nat} {t : Nat}
    {l' : Local} (g : GInv k s G A pt) (I : Inv s G) (hcar : BinX.Carries k (mem s) (mem s') G G' A A')
    (hthr : s'.threads = s.threads.set t l')
    (hself : ∀ (p : Pending) (cur : Option Nat), l'.call = some p → p.key = k → l'.pc = .rNode cur →
      p.inv ≤ s.now ∧ BinX.Good G.cr A k p.inv (mem s) cur) :
    ∀ (t1 : Nat) (l1 : Local) (p1 : Pending) (cur : Option Nat), s'.threads[t1]? = some l1 →
      l1.call = some p1 → p1.key = k → l1.pc = .rNode cur → BinX.Good G'.cr A' k p1.inv (mem s') cur := by
  intro t1 l1 p1 cur h1 hc1 hk1 hpc1
  rw [hthr] at h1
  rcases get_set h1 with ⟨rfl, rfl⟩ | ⟨_, h1⟩
  · obtain ⟨hi, hg⟩ := hself p1 cur hc1 hk1 hpc1
    exact hcar _ _ (by rw [mem_now]; exact hi) hg
  · exact hcar _ _ (by rw [mem_now]; exact I.thr.pendTime t1 l1 p1 h1 hc1) (g.readers t1 l1 p1 cur h1 hc1 hk1 hpc1)

theorem post_cell0 {s : State} {G : Ghost} (H : BinX.HInv (mem s) G) (hp : G.ph = .post) : s.cell0 = .moved :=
  cC_eq_moved.1 (H.post hp)

/-- the cell a thread looks at (after following the forwarding marker) is the live cell of its key -/
theorem Inv.liveCell_of_tab {s : State} {G : Ghost} (I : Inv s G) {t : Nat} {l : Local} {tab : Tab} {k : Nat}
    (hl : s.threads[t]? = some l) (hT : ¬ isT l.pc) (htab : tabOf l.pc = some tab)
    (hnm : cellOf s tab k ≠ .moved) : liveCell s k = cellOf s tab k := by
  cases tab with
  | old =>
    have hnm' : s.cell0 ≠ .moved := hnm
    unfold liveCell
    rw [if_neg (by simpa using hnm')]
    have : s.cur ≠ .new := fun hc => hnm' (post_cell0 I.heap (curNew_mem I.heap hc))
    rw [if_neg (by simpa using this)]
    rfl
  | new =>
    have hm := post_cell0 I.heap (I.to0.post_of_new hl hT htab)
    unfold liveCell
    rw [if_pos (by rw [hm]; rfl)]

theorem absOf_of_empty {s : State} {k : Nat} (h : liveCell s k = .empty) : absOf s k = none := by
  rw [← absOf_mem]
  exact BinX.absOf_of_empty (by rw [liveCell_mem, h]; rfl)

theorem extRes_none_of_key {k : Nat} {l : Local} {p : Pending} (h : l.call = some p) (hk : p.key ≠ k)
    (hC : ¬ isC l.pc) : extRes k l = none := by
  unfold extRes
  rw [h]
  obtain ⟨pc, call⟩ := l
  cases pc with
  | cTable | cCell _ _ | cWait | cLock _ _ _ | cCheck _ _ _ | cStore _ _ _ | cUnlock _ _ _ _ => exact absurd trivial hC
  | wUnlock _ _ _ retry =>
    cases retry with
    | false => exact if_neg hk
    | true => rfl
  | _ => rfl

theorem Move.view {s : State} {p : Pending} {pc pc' : Pc} (h : Move s p pc pc') (k : Nat) :
    resK k pc = none ∧ resK k pc' = none ∧ clearing pc = false ∧ clearing pc' = false := by
  cases h <;> exact ⟨rfl, rfl, rfl, rfl⟩

theorem Fin.view {s : State} {p : Pending} {pc : Pc} {res : KRes} (h : Fin s p pc res) (k : Nat) :
    resK k pc = none ∧ clearing pc = false := by
  cases h <;> exact ⟨rfl, rfl⟩

theorem Move.good {s : State} {p : Pending} {pc pc' : Pc} (h : Move s p pc pc') {cur : Option Nat}
    (hc : pc' = .rNode cur) :
    (∃ tab h, pc = .rCell tab ∧ cellOf s tab p.key = .node h ∧ cur = some h) ∨
    (∃ c n, pc = .rNode (some c) ∧ s.heap[c]? = some n ∧ n.key ≠ p.key ∧ cur = n.next) := by
  cases h with
  | rCellNode hcell => cases hc; exact Or.inl ⟨_, _, rfl, hcell, rfl⟩
  | rNext hn hk => cases hc; exact Or.inr ⟨_, _, rfl, hn, hk, rfl⟩
  | _ => cases hc

theorem missRes_spec {op : KOp} (h : isRead op = true) : specStep none op = (none, missRes op) := by
  cases op <;> first | rfl | cases h

theorem hitRes_spec {op : KOp} (h : isRead op = true) (n : NodeS) :
    specStep (some n.val) op = (some n.val, hitRes op n) := by
  cases op <;> first | rfl | cases h

/-- the point of a call that completes without a store of its own -/
theorem fin_point {k : Nat} {s : State} {G : Ghost} {A : Nat → KSt} {pt : Nat → Nat} {t : Nat} {l : Local}
    {p : Pending} {res : KRes}
    (g : GInv k s G A pt) (I : Inv s G) (hl : s.threads[t]? = some l) (hp : l.call = some p)
    (hk : p.key = k) (hf : Fin s p l.pc res) :
    ∃ τ0, p.inv ≤ τ0 ∧
      ((isRead p.op = true ∧ τ0 ≤ s.now ∧ specStep (A τ0) p.op = (A τ0, res)) ∨
        (isRead p.op = false ∧ τ0 = s.now + 1 ∧ specStep (absOf s k) p.op = (absOf s k, res))) := by
  have hop := I.thr.opOK t l p hl hp
  have hpi := I.thr.pendTime t l p hl hp
  obtain ⟨pc, call⟩ := l
  cases hp
  have hempty : ∀ {tab}, ¬ isT pc → tabOf pc = some tab → cellOf s tab p.key = .empty → absOf s k = none :=
      fun {tab} hT htab hc => by
    have hlive := I.liveCell_of_tab (k := p.key) hl hT htab (by rw [hc]; simp)
    rw [hc] at hlive
    rw [← hk]; exact absOf_of_empty hlive
  cases hf with
  | @rEmpty tab hc =>
    have hrd : isRead p.op = true := (isReader_eq_isRead _).symm.trans hop
    exact ⟨s.now, hpi, .inl ⟨hrd, Nat.le_refl _, by rw [g.hA, hempty id rfl hc]; exact missRes_spec hrd⟩⟩
  | miss =>
    have hrd : isRead p.op = true := (isReader_eq_isRead _).symm.trans hop
    obtain ⟨τ, h1, h2, h3⟩ := (g.readers t _ p none hl rfl hk rfl).miss
    exact ⟨τ, h1, .inl ⟨hrd, h2, by rw [h3]; exact missRes_spec hrd⟩⟩
  | @hit c n hn hkey =>
    have hrd : isRead p.op = true := (isReader_eq_isRead _).symm.trans hop
    have hnode := nodeAt_mem_of_some hn
    obtain ⟨τ, h1, h2, h3⟩ := (g.readers t _ p (some c) hl rfl hk rfl).hit I.heap (by rw [absOf_mem]; exact g.hA) hpi
      (by rw [hnode]; exact hkey.trans hk)
    exact ⟨τ, h1, .inl ⟨hrd, h2, by rw [h3, hnode]; exact hitRes_spec hrd n⟩⟩
  | @wEmpty tab hc hnot =>
    have hwr : isRead p.op = false := (isReader_eq_isRead _).symm.trans hop
    refine ⟨s.now + 1, Nat.le_succ_of_le hpi, .inr ⟨hwr, rfl, ?_⟩⟩
    rw [hempty id rfl hc]
    cases hop' : p.op with
    | ins v vi => exact absurd ⟨v, vi, Or.inl hop'⟩ hnot
    | tryIns v vi => exact absurd ⟨v, vi, Or.inr hop'⟩ hnot
    | get => rw [hop'] at hwr; cases hwr
    | has => rw [hop'] at hwr; cases hwr
    | rm => rfl
    | cipInc nvi => rfl
    | cipRm => rfl

theorem doneAt_on {tab : Tab} {idx k : Nat} (hi : idx < tabLen tab) (hon : BinX.keyOn (cellIdAt tab idx) k) :
    doneAt tab idx k = false ∧ doneAt tab (idx + 1) k = true := by
  cases tab with
  | old =>
    have : idx = 0 := by simp [tabLen] at hi; exact hi
    subst this; exact ⟨rfl, rfl⟩
  | new =>
    have : idx = 0 ∨ idx = 1 := by simp [tabLen] at hi; omega
    rcases this with rfl | rfl
    · have hb : hiBit k = false := hon
      simp [doneAt, hb]
    · have hb : hiBit k = true := hon
      simp [doneAt, hb]

theorem doneAt_off {tab : Tab} {idx k : Nat} (hi : idx < tabLen tab) (hon : ¬ BinX.keyOn (cellIdAt tab idx) k) :
    doneAt tab (idx + 1) k = doneAt tab idx k := by
  cases tab with
  | old => exact absurd trivial hon
  | new =>
    have : idx = 0 ∨ idx = 1 := by simp [tabLen] at hi; omega
    rcases this with rfl | rfl
    · have hb : hiBit k = true := by
        cases h : hiBit k
        · exact absurd (show BinX.keyOn .low k from h) hon
        · rfl
      simp [doneAt, hb]
    · have hb : hiBit k = false := by
        cases h : hiBit k
        · rfl
        · exact absurd (show BinX.keyOn .high k from h) hon
      simp [doneAt, hb]

theorem doneAt_fin {tab : Tab} {idx : Nat} (k : Nat) (hi : tabLen tab ≤ idx) : doneAt tab idx k = true := by
  cases tab with
  | old => simp [tabLen] at hi; simp [doneAt]; omega
  | new =>
    simp [tabLen] at hi
    unfold doneAt; dsimp only
    split <;> simp <;> omega

/-- the cell a `clear` looks at is the live cell of the keys that live in it -/
theorem Inv.liveCell_of_clear {s : State} {G : Ghost} (I : Inv s G) {t : Nat} {l : Local} {tab : Tab} {idx k : Nat}
    (hl : s.threads[t]? = some l) (hT : ¬ isT l.pc) (htab : tabOf l.pc = some tab)
    (hnm : cellAt s tab idx ≠ .moved) (hon : BinX.keyOn (cellIdAt tab idx) k) :
    liveCell s k = cellAt s tab idx := by
  cases tab with
  | old =>
    have hnm' : s.cell0 ≠ .moved := hnm
    unfold liveCell
    rw [if_neg (by simpa using hnm')]
    have : s.cur ≠ .new := fun hc => hnm' (post_cell0 I.heap (curNew_mem I.heap hc))
    rw [if_neg (by simpa using this)]
    rfl
  | new =>
    have hm := post_cell0 I.heap (I.to0.post_of_new hl hT htab)
    unfold liveCell
    rw [if_pos (by rw [hm]; rfl)]
    unfold cellOf
    dsimp only
    cases idx with
    | zero =>
      have hb : hiBit k = false := hon
      rw [hb]; rfl
    | succ n =>
      have hb : hiBit k = true := hon
      rw [hb]; rfl

theorem CMove.view {s : State} {pc pc' : Pc} (hm : CMove s pc pc')
    (hnm : s.lowCell ≠ .moved ∧ s.highCell ≠ .moved) (k : Nat) :
    resK k pc' = resK k pc ∧ clearing pc = true ∧ clearing pc' = true := by
  refine ⟨?_, by cases hm <;> rfl, by cases hm <;> rfl⟩
  cases hm with
  | table => cases s.cur <;> simp [resK, cdone, doneAt]
  | @cellMoved tab idx hi hc =>
    cases tab with
    | old =>
      have : idx = 0 := by simp [tabLen] at hi; exact hi
      subst this; rfl
    | new =>
      exfalso
      cases idx with
      | zero => exact hnm.1 hc
      | succ n => exact hnm.2 hc
  | cellNode _ _ => rfl
  | waitGo _ => simp [resK, cdone, doneAt]
  | waitStay _ => rfl
  | checkOk _ => rfl
  | checkFail _ => rfl

theorem LockMove.view {s : State} {t h : Nat} {x : Option Nat} {pc pc' : Pc} (hm : LockMove s t pc h x pc')
    (k : Nat) : resK k pc' = resK k pc ∧ clearing pc' = clearing pc ∧ ∀ cur, pc' ≠ .rNode cur := by
  cases hm <;> exact ⟨rfl, rfl, by intro cur; simp⟩

theorem nm_of_mem {s : State} (h : (mem s).lowCell ≠ .moved ∧ (mem s).highCell ≠ .moved) :
    s.lowCell ≠ .moved ∧ s.highCell ≠ .moved :=
  ⟨fun e => h.1 (by rw [mem_lowCell, e]; rfl), fun e => h.2 (by rw [mem_highCell, e]; rfl)⟩

/-! ## the kinds of step of `GhostView`, with the readers' clause, for a step `s → s'` of thread `t` -/
section kinds
variable {k : Nat} {s s' : State} {G G' : Ghost} {A : Nat → KSt} {pt : Nat → Nat} {t : Nat} {l l' : Local}
  (g : GInv k s G A pt) (I : Inv s G) (hcar : BinX.Carries k (mem s) (mem s') G G' A (nextA A s.now (absOf s' k)))
  (hl : s.threads[t]? = some l) (hthr : s'.threads = s.threads.set t l') (hnow : s'.now = s.now + 1)
include g I hcar hl hthr hnow

/-- the thread stays on its side of its linearization point -/
theorem ginv_keep (hhist : s'.hist = s.hist) (habs : absOf s' k = absOf s k) (hres : resK k l'.pc = resK k l.pc)
    (hcall : (viewK k).call l' = (viewK k).call l)
    (hself : ∀ (p : Pending) (cur : Option Nat), l'.call = some p → p.key = k → l'.pc = .rNode cur →
      p.inv ≤ s.now ∧ BinX.Good G.cr A k p.inv (mem s) cur) :
    GInv k s' G' (nextA A s.now (absOf s' k)) pt :=
  .of_trace (g.traceK.quiet_keep (hnew := []) (I.thr.genK k) hl hthr hnow (congrArg (histK k) hhist) habs
    (fun _ h => nomatch h) hres hcall) (readers_step g I hcar hthr hself)

/-- the thread is not counted before or after -/
theorem ginv_none (hhist : s'.hist = s.hist) (habs : absOf s' k = absOf s k) (he : resK k l.pc = none)
    (he' : resK k l'.pc = none)
    (hself : ∀ (p : Pending) (cur : Option Nat), l'.call = some p → p.key = k → l'.pc = .rNode cur →
      p.inv ≤ s.now ∧ BinX.Good G.cr A k p.inv (mem s) cur) :
    GInv k s' G' (nextA A s.now (absOf s' k)) pt :=
  .of_trace (g.traceK.quiet_none (hnew := []) (I.thr.genK k) hl hthr hnow (congrArg (histK k) hhist) habs
    (fun _ h => nomatch h) (GhostView.extOf_none_of_res he) (GhostView.extOf_none_of_res he'))
    (readers_step g I hcar hthr hself)

/-- the thread has no call, or a call on another key that is not a `clear` -/
theorem ginv_other {hnew : List (Option Nat × Call)} (hhist : s'.hist = hnew ++ s.hist) (habs : absOf s' k = absOf s k)
    (hk : ∀ p, l.call = some p → p.key ≠ k ∧ clearing l.pc = false) (hnk : ∀ x ∈ hnew, x.1 ≠ some k ∧ x.1 ≠ none)
    (hcall : l'.call = none ∨ (l'.call = l.call ∧ clearing l'.pc = false))
    (hnr : ∀ p cur, l'.call = some p → l'.pc ≠ .rNode cur) :
    GInv k s' G' (nextA A s.now (absOf s' k)) pt := by
  refine .of_trace (g.traceK.other_key (hnew := histK k hnew) (I.thr.genK k) hl hthr hnow
    (by rw [hhist]; exact List.map_append) habs ?_ ?_ ?_) (readers_step g I hcar hthr fun p cur hp _ h => absurd h (hnr p cur hp))
  · obtain ⟨pc, call⟩ := l
    intro q hq
    cases call with
    | none => cases hq
    | some p =>
      obtain ⟨h1, h2⟩ := hk p rfl
      cases (congrArg some (keyed_of_not_clearing h2 p)).symm.trans hq
      exact h1
  · intro x hx
    obtain ⟨⟨ko, c⟩, hy, rfl⟩ := List.mem_map.1 hx
    obtain ⟨h1, h2⟩ := hnk _ hy
    cases ko with
    | none => exact absurd rfl h2
    | some k' => exact fun e => h1 (congrArg some e)
  · rcases hcall with h | ⟨h, hc⟩
    · right; show l'.call.map _ = none; rw [h]; rfl
    · left
      obtain ⟨pc', call'⟩ := l'
      obtain ⟨pc, call⟩ := l
      cases h
      cases call' with
      | none => rfl
      | some p =>
        exact congrArg some ((keyed_of_not_clearing hc p).trans (keyed_of_not_clearing (hk p rfl).2 p).symm)

/-- a writer on `k` (a `clear` for `k`) passes its linearization point and goes on -/
theorem ginv_point {q : Pending} {r : KRes} (hhist : s'.hist = s.hist) (hq : (viewK k).call l = some q) (hk : q.key = k)
    (hres0 : resK k l.pc = none) (hres' : resK k l'.pc = some r) (hcall : (viewK k).call l' = (viewK k).call l)
    (hwr : isRead q.op = false) (hspec : specStep (absOf s k) q.op = (absOf s' k, r)) (hnr : ∀ cur, l'.pc ≠ .rNode cur) :
    GInv k s' G' (nextA A s.now (absOf s' k)) (updPt pt q.inv (s.now + 1)) :=
  .of_trace (g.traceK.writer_point (hnew := []) (I.thr.genK k) hl hthr hnow (congrArg (histK k) hhist) hq hk
    (fun _ h => nomatch h) hres0 hres' hcall hwr hspec) (readers_step g I hcar hthr fun _ cur _ _ h => absurd h (hnr cur))

/-- a call on `k` completes at its linearization point -/
theorem ginv_fin {p : Pending} {r : KRes} {τ0 : Nat} (hp : l.call = some p) (hc : clearing l.pc = false)
    (hhist : s'.hist = (some p.key, ⟨t, p.op, r, p.inv, s.now + 1⟩) :: s.hist) (hk : p.key = k)
    (hres0 : resK k l.pc = none) (hcall' : l'.call = none)
    (hcase : (isRead p.op = true ∧ absOf s' k = absOf s k ∧ p.inv ≤ τ0 ∧ τ0 ≤ s.now ∧ specStep (A τ0) p.op = (A τ0, r)) ∨
      (isRead p.op = false ∧ τ0 = s.now + 1 ∧ specStep (absOf s k) p.op = (absOf s' k, r))) :
    GInv k s' G' (nextA A s.now (absOf s' k)) (updPt pt p.inv τ0) :=
  .of_trace (g.traceK.call_fin (p := p) (I.thr.genK k) hl hthr hnow (by rw [hhist]; rfl)
    (show l.call.map (keyed k l.pc) = some p by rw [hp]; exact congrArg some (keyed_of_not_clearing hc p)) hk hres0
    (show l'.call.map _ = _ by rw [hcall']; rfl) hcase)
    (readers_step g I hcar hthr fun _ _ h => nomatch hcall'.symm.trans h)

/-- the response of a call that has been counted since its linearization point: it moves from the thread to the
history -/
theorem ginv_respond {q : Pending} {r : KRes} {ko : Option Nat} (hq : (viewK k).call l = some q) (hk : q.key = k)
    (hres : resK k l.pc = some r) (hhist : s'.hist = (ko, ⟨t, q.op, r, q.inv, s.now + 1⟩) :: s.hist)
    (hko : ko = some k ∨ ko = none) (hcall' : l'.call = none) (habs : absOf s' k = absOf s k) :
    GInv k s' G' (nextA A s.now (absOf s' k)) pt :=
  .of_trace (g.traceK.respond (I.thr.genK k) hl hthr hnow
    (by rw [hhist]; show _ = (q.key, _) :: _; rw [hk]; rcases hko with rfl | rfl <;> rfl) habs hq hk hres
    (show l'.call.map _ = none by rw [hcall']; rfl))
    (readers_step g I hcar hthr fun _ _ h => nomatch hcall'.symm.trans h)

end kinds

theorem ginv_step {k : Nat} {s s' : State} {G : Ghost} {A : Nat → KSt} {pt : Nat → Nat} {t : Nat} {l : Local}
    (g : GInv k s G A pt) (I : Inv s G) (hl : s.threads[t]? = some l) (hstep : StepK s t l s') :
    ∃ G' A' pt', Inv s' G' ∧ GInv k s' G' A' pt' := by
  obtain ⟨G', m, I'⟩ := stepK_inv I hl hstep
  have habs : (∀ p, l.call = some p → p.key ≠ k ∧ ¬ isC l.pc) → absOf s' k = absOf s k := stepK_abs I.to0 hl hstep
  -- the state in constructor form, as in `stepK_inv`
  obtain ⟨heap, c0, cL, cH, cur, rz, thr, hist, ret, now⟩ := s
  let s : State := ⟨heap, c0, cL, cH, cur, rz, thr, hist, ret, now⟩
  have H := I.heap
  have hAm : A (mem s).now = BinX.absOf (mem s) k := by rw [absOf_mem]; exact g.hA
  have hcar := fun (hnow : s'.now = s.now + 1) =>
    m.carries (k := k) (A := A) (x := absOf s' k) H I'.heap (by rw [mem_now, mem_now]; exact hnow) hAm
  have hpi := I.thr.pendTime t l
  cases hstep with
  | idle call =>
    exact ⟨G', _, _, I', ginv_keep g I (hcar rfl) hl rfl rfl rfl (absOf_same rfl k) rfl rfl (fun _ _ _ _ hc => nomatch hc)⟩
  | invoke call k' op =>
    refine ⟨G', _, _, I', ginv_none g I (hcar rfl) hl rfl rfl rfl (absOf_same rfl k) rfl (by cases isReader op <;> rfl) ?_⟩
    intro p cur _ _ hc
    cases hr : isReader op <;> simp [hr] at hc
  | clearStart call =>
    exact ⟨G', _, _, I', ginv_none g I (hcar rfl) hl rfl rfl rfl (absOf_same rfl k) rfl rfl (fun _ _ _ _ hc => nomatch hc)⟩
  | cmove p pc pc' hm =>
    obtain ⟨v1, v2, v3⟩ := hm.view (nm_of_mem I.nm) k
    exact ⟨G', _, _, I', ginv_keep g I (hcar rfl) hl rfl rfl rfl (absOf_same rfl k) v1
      (show some (keyed k pc' p) = some (keyed k pc p) by unfold keyed; rw [v2, v3])
      (fun _ cur _ _ hc => absurd (hc ▸ hm.isOp.2.2.2.2.2 : isC (.rNode cur)) id)⟩
  | cEmpty p tab idx hi hc =>
    have habs : absOf (setT (tick s) t ⟨.cCell tab (idx + 1), some p⟩) k = absOf s k := absOf_same rfl k
    by_cases hon : BinX.keyOn (cellIdAt tab idx) k
    · obtain ⟨d1, d2⟩ := doneAt_on hi hon
      have hlive := I.liveCell_of_clear (k := k) hl id rfl (by rw [hc]; simp) hon
      exact ⟨G', _, _, I', ginv_point (q := ⟨k, .cipRm, p.inv⟩) (r := .none) g I (hcar rfl) hl rfl rfl rfl rfl rfl
        (by simp [resK, cdone, d1]) (by simp [resK, cdone, d2]) rfl rfl
        (by rw [habs, absOf_of_empty (hc ▸ hlive)]; rfl) (fun _ h => nomatch h)⟩
    · exact ⟨G', _, _, I', ginv_keep g I (hcar rfl) hl rfl rfl rfl habs
        (by show (if doneAt tab (idx + 1) k then _ else _) = _; rw [doneAt_off hi hon]; rfl) rfl
        (fun _ _ _ _ hc1 => nomatch hc1)⟩
  | cFin p tab idx hi =>
    exact ⟨G', _, _, I', ginv_respond (q := ⟨k, .cipRm, p.inv⟩) (r := .none) g I (hcar rfl) hl rfl rfl rfl rfl
      (by simp [resK, cdone, doneAt_fin k hi]) rfl (.inr rfl) rfl (absOf_same rfl k)⟩
  | cStore p tab idx h =>
    obtain ⟨act, -, habs0, -⟩ := cstore_mem I.to0 hl
    obtain ⟨hthr, hnow, hhist, -⟩ := cstore_frame s t p tab idx h
    have hi := (I.thr.opOK t _ p hl rfl).2
    have habs := habs0 k
    by_cases hon : BinX.keyOn (cellIdAt tab idx) k
    · obtain ⟨d1, d2⟩ := doneAt_on hi hon
      rw [if_pos (H.liveId_of_active act hon)] at habs
      exact ⟨G', _, _, I', ginv_point (q := ⟨k, .cipRm, p.inv⟩) (r := .none) g I (hcar hnow) hl hthr hnow hhist rfl rfl
        (by simp [resK, cdone, d1]) (by simp [resK, cdone, d2]) rfl rfl (by rw [habs]; rfl) (fun _ h => nomatch h)⟩
    · rw [if_neg (H.liveId_ne_of_active act hon)] at habs
      exact ⟨G', _, _, I', ginv_keep g I (hcar hnow) hl hthr hnow hhist habs
        (by show (if doneAt tab (idx + 1) k then _ else _) = _; rw [doneAt_off hi hon]; rfl) rfl
        (fun _ _ _ _ hc1 => nomatch hc1)⟩
  | resize call hr =>
    exact ⟨G', _, _, I', ginv_keep g I (hcar rfl) hl rfl rfl rfl (absOf_same rfl k) rfl rfl (fun _ _ _ _ hc => nomatch hc)⟩
  | move p pc pc' hm =>
    obtain ⟨v1, v2, -, -⟩ := hm.view k
    refine ⟨G', _, _, I', ginv_none g I (hcar rfl) hl rfl rfl rfl (absOf_same rfl k) v1 v2 ?_⟩
    intro p1 cur hc1 hk1 hpc1
    cases hc1
    refine ⟨hpi p hl rfl, ?_⟩
    rcases hm.good hpc1 with ⟨tab, h, rfl, hcell, rfl⟩ | ⟨c, n, rfl, hn, hne, rfl⟩
    · have hlive := I.liveCell_of_tab (k := p.key) hl id rfl (by rw [hcell]; simp)
      rw [hcell, hk1] at hlive
      exact BinX.Good.cell H (by rw [liveCell_mem, hlive]; rfl)
    · have hnode := nodeAt_mem_of_some hn
      have := (g.readers t _ p (some c) hl rfl hk1 rfl).next H hAm (hpi p hl rfl)
        (by rw [hnode]; exact fun e => hne (e.trans hk1.symm))
      rw [hnode] at this
      exact this
  | tmove _ _ _ | tlockMove _ _ _ _ _ | casMoved _ | build _ | storeLow _ _ _ | storeHigh _ _ | storeMoved _ | commit =>
    exact ⟨G', _, _, I', ginv_other (hnew := []) g I (hcar rfl) hl rfl rfl rfl (habs fun _ h => nomatch h)
      (fun _ h => nomatch h) (fun _ h => nomatch h) (.inl rfl) (fun _ _ h => nomatch h)⟩
  | lockMove p pc h x pc' hm =>
    obtain ⟨v1, v2, v3⟩ := hm.view k
    exact ⟨G', _, _, I', ginv_keep g I (hcar rfl) hl rfl rfl rfl
      (absOf_of_mem ((BinX.lock_effect H (mem_lock_heap (tick s) h x) rfl rfl rfl rfl).2.2.2.1 k)) v1
      (show some (keyed k pc' p) = some (keyed k pc p) by unfold keyed; rw [v2])
      (fun _ cur _ _ hpc1 => absurd hpc1 (v3 cur))⟩
  | fin p pc res hf =>
    have habs : ∀ k, absOf (finish (tick s) t p res) k = absOf s k := absOf_same rfl
    obtain ⟨v1, v2⟩ := hf.view k
    by_cases hk : p.key = k
    · obtain ⟨τ0, h1, hsp⟩ := fin_point g I hl rfl hk hf
      exact ⟨G', _, _, I', ginv_fin (τ0 := τ0) g I (hcar rfl) hl rfl rfl rfl v2 rfl hk v1 rfl
        (hsp.imp (fun h => ⟨h.1, habs k, h1, h.2.1, h.2.2⟩) (fun h => ⟨h.1, h.2.1, (habs k).symm ▸ h.2.2⟩))⟩
    · exact ⟨G', _, _, I', ginv_other (hnew := [(some p.key, ⟨t, p.op, res, p.inv, now + 1⟩)]) g I (hcar rfl) hl rfl rfl rfl
        (habs k) (fun _ hq => by cases hq; exact ⟨hk, v2⟩)
        (fun x hx => by cases List.mem_singleton.1 hx; exact ⟨fun e => hk (Option.some.inj e), nofun⟩) (.inl rfl)
        (fun _ _ h => nomatch h)⟩
  | cas p tab v vi hc hop =>
    obtain ⟨-, -, habs, -⟩ := cas_mem I.to0 hl hc (v, vi)
    obtain ⟨hthr, hnow, hhist, -⟩ := cas_frame s t p tab (v, vi)
    by_cases hk : p.key = k
    · have hwr : isRead p.op = false := by
        rw [← isReader_eq_isRead]; rcases hop with h | h <;> rw [h] <;> rfl
      have hnone : absOf s k = none := by
        have hlive := I.liveCell_of_tab (k := p.key) hl id rfl (by rw [hc]; simp)
        rw [hc] at hlive
        rw [← hk]; exact absOf_of_empty hlive
      refine ⟨G', _, _, I', ginv_fin (τ0 := now + 1) g I (hcar hnow) hl hthr hnow rfl rfl hhist hk rfl rfl
        (.inr ⟨hwr, rfl, ?_⟩)⟩
      rw [habs k, if_pos hk, hnone]
      rcases hop with hop | hop <;> rw [hop] <;> rfl
    · exact ⟨G', _, _, I', ginv_other (hnew := [(some p.key, ⟨t, p.op, .none, p.inv, now + 1⟩)]) g I (hcar hnow) hl hthr
        hnow hhist (by rw [habs k, if_neg hk])
        (fun _ hq => by cases hq; exact ⟨hk, rfl⟩)
        (fun x hx => by cases List.mem_singleton.1 hx; exact ⟨fun e => hk (Option.some.inj e), nofun⟩) (.inl rfl)
        (fun _ _ h => nomatch h)⟩
  | store p tab h pred hit hnext =>
    obtain ⟨-, -, hspec, hother, -⟩ := store_mem I.to0 hl
    obtain ⟨hthr, hnow, hhist, -⟩ := store_frame s t p tab h pred hit hnext
    by_cases hk : p.key = k
    · have hwr : isRead p.op = false := (isReader_eq_isRead _).symm.trans (I.thr.opOK t _ p hl rfl)
      exact ⟨G', _, _, I', ginv_point (q := p) g I (hcar hnow) hl hthr hnow hhist rfl hk rfl rfl rfl hwr (hk ▸ hspec)
        (fun _ h => nomatch h)⟩
    · exact ⟨G', _, _, I', ginv_other (hnew := []) g I (hcar hnow) hl hthr hnow hhist (hother k fun h => hk h.symm)
        (fun _ hq => by cases hq; exact ⟨hk, rfl⟩) (fun _ h => nomatch h) (.inr ⟨rfl, rfl⟩) (fun _ _ _ h => nomatch h)⟩
  | unlockFin p tab h res =>
    have habs : absOf (finish (setNode (tick s) h (fun m => { m with lock := none })) t p res) k = absOf s k :=
      absOf_of_mem ((BinX.lock_effect H (mem_lock_heap (tick s) h none) rfl rfl rfl rfl).2.2.2.1 k)
    by_cases hk : p.key = k
    · exact ⟨G', _, _, I', ginv_respond (q := p) g I (hcar rfl) hl rfl rfl rfl hk rfl rfl (.inl (hk ▸ rfl)) rfl habs⟩
    · exact ⟨G', _, _, I', ginv_other (hnew := [(some p.key, ⟨t, p.op, res, p.inv, now + 1⟩)]) g I (hcar rfl) hl rfl rfl rfl
        habs (fun _ hq => by cases hq; exact ⟨hk, rfl⟩)
        (fun x hx => by cases List.mem_singleton.1 hx; exact ⟨fun e => hk (Option.some.inj e), nofun⟩) (.inl rfl)
        (fun _ _ h => nomatch h)⟩

theorem init_ginv (n k : Nat) : GInv k (init n) {} (fun _ => none) id := by
  refine .of_trace (GhostView.Trace.init k fun l hl => ?_) ?_
  · cases List.eq_of_mem_replicate hl; rfl
  · intro t l p cur hl hc
    rw [init_thread hl] at hc
    cases hc

end Flurry.Proto.BinXC
