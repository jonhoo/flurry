import Flurry.Lemmas.BinGNStepTools
import Flurry.Lemmas.BinGNLive
/-! # Proto/BinGN: the cells of the generation being filled are empty until the transfer of their parent stores
them (definitions, frame lemmas) -/
namespace Flurry.Proto.BinGN
open Flurry.Lin

/-- the resizing thread has stored the low child of cell `j` -/
def storedLow : Pc → Option Nat
  | .xStoreHigh j _ _ | .xStoreMoved j _ => some j
  | _ => none

/-- the resizing thread has stored the high child of cell `j` -/
def storedHigh : Pc → Option Nat
  | .xStoreMoved j _ => some j
  | _ => none

/-- the transfer in progress has stored child `j'` -/
def StoredW (s : State) (j' : Nat) : Prop :=
  ∃ (t : Nat) (l : Local), s.threads[t]? = some l ∧
    (storedLow l.pc = some j' ∨ ∃ j, storedHigh l.pc = some j ∧ j' = j + 2 ^ s.cur)

/-- a cell of generation `cur + 1` that is not empty has a forwarded parent, or has just been stored by the
transfer of its parent -/
def NextEmpty (s : State) : Prop :=
  ∀ j', cellAt s (s.cur + 1) j' ≠ .empty → cellAt s s.cur (j' % 2 ^ s.cur) = .moved ∨ StoredW s j'

theorem StoredW.of_set {s s' : State} {t : Nat} {l l' : Local} {j' : Nat} (hl : s.threads[t]? = some l)
    (hthr : s'.threads = s.threads.set t l') (hcur : s'.cur = s.cur)
    (hlo : storedLow l.pc = some j' → storedLow l'.pc = some j')
    (hhi : ∀ j, storedHigh l.pc = some j → storedHigh l'.pc = some j) (h : StoredW s j') : StoredW s' j' := by
  have ht : t < s.threads.length := (List.getElem?_eq_some_iff.1 hl).1
  obtain ⟨t1, l1, h1, hw⟩ := h
  by_cases e : t1 = t
  · subst e
    rw [hl] at h1; cases h1
    refine ⟨t1, l', by rw [hthr, List.getElem?_set_self ht], ?_⟩
    rcases hw with hw | ⟨j, hw, hj⟩
    · exact Or.inl (hlo hw)
    · exact Or.inr ⟨j, hhi j hw, by rw [hcur]; exact hj⟩
  · refine ⟨t1, l1, by rw [hthr, List.getElem?_set_ne (Ne.symm e)]; exact h1, ?_⟩
    rcases hw with hw | ⟨j, hw, hj⟩
    · exact Or.inl hw
    · exact Or.inr ⟨j, hw, by rw [hcur]; exact hj⟩

/-- the cells of generations `cur` and `cur + 1` change only as described -/
theorem nextEmpty_frame {s s' : State} (N : NextEmpty s) (hcur : s'.cur = s.cur)
    (hmono : ∀ j, cellAt s s.cur j = .moved → cellAt s' s.cur j = .moved)
    (hchild : ∀ j', cellAt s' (s.cur + 1) j' ≠ .empty → cellAt s (s.cur + 1) j' ≠ .empty ∨
      cellAt s' s.cur (j' % 2 ^ s.cur) = .moved ∨ StoredW s' j')
    (hw : ∀ j', StoredW s j' → StoredW s' j' ∨ cellAt s' s.cur (j' % 2 ^ s.cur) = .moved) : NextEmpty s' := by
  intro j' hne
  rw [hcur] at hne ⊢
  rcases hchild j' hne with h | h | h
  · rcases N j' h with h1 | h1
    · exact Or.inl (hmono _ h1)
    · rcases hw j' h1 with h2 | h2
      · exact Or.inr h2
      · exact Or.inl h2
  · exact Or.inl h
  · exact Or.inr h

/-- transitions that do not touch the tables, by a thread that keeps what it has stored -/
theorem nextEmpty_same {s s' : State} {t : Nat} {l l' : Local} (N : NextEmpty s) (hl : s.threads[t]? = some l)
    (hthr : s'.threads = s.threads.set t l') (hcur : s'.cur = s.cur) (htabs : s'.tabs = s.tabs)
    (hlo : storedLow l'.pc = storedLow l.pc) (hhi : storedHigh l'.pc = storedHigh l.pc) : NextEmpty s' := by
  have hc : ∀ g j, cellAt s' g j = cellAt s g j := fun g j => by rw [cellAt_eq, cellAt_eq, htabs]
  refine nextEmpty_frame N hcur (fun j h => by rw [hc]; exact h) (fun j' h => Or.inl (by rw [hc] at h; exact h))
    (fun j' h => Or.inl (h.of_set hl hthr hcur (fun e => by rw [hlo]; exact e) (fun j e => by rw [hhi]; exact e)))

/-- a store into cell `(g0, j0)` by a thread that keeps what it has stored; a child cell is stored only behind
a forwarded parent -/
theorem nextEmpty_put {s s' : State} {t : Nat} {l l' : Local} {g0 j0 : Nat} {c : Cell} (N : NextEmpty s)
    (hl : s.threads[t]? = some l)
    (hthr : s'.threads = s.threads.set t l') (hcur : s'.cur = s.cur)
    (htabs : s'.tabs = s.tabs.modify g0 (fun row => row.set j0 c))
    (hold : cellAt s g0 j0 ≠ .moved ∨ c = .moved)
    (hpar : g0 = s.cur + 1 → cellAt s s.cur (j0 % 2 ^ s.cur) = .moved)
    (hlo : storedLow l'.pc = storedLow l.pc) (hhi : storedHigh l'.pc = storedHigh l.pc) : NextEmpty s' := by
  have hne : ∀ g j, ¬ (g = g0 ∧ j = j0) → cellAt s' g j = cellAt s g j := by
    intro g j h
    rw [cellAt_eq, cellAt_eq, htabs]
    exact cellT_put_ne _ _ h
  have hself : cellAt s' g0 j0 = c ∨ cellAt s' g0 j0 = cellAt s g0 j0 := by
    rw [cellAt_eq, cellAt_eq, htabs]
    exact cellT_put_self _ _ _ _
  have hmono : ∀ g j, cellAt s g j = .moved → cellAt s' g j = .moved := by
    intro g j hm
    by_cases h : g = g0 ∧ j = j0
    · obtain ⟨rfl, rfl⟩ := h
      rcases hself with e | e
      · rcases hold with h1 | h1
        · exact absurd hm h1
        · rw [e]; exact h1
      · rw [e]; exact hm
    · rw [hne g j h]; exact hm
  refine nextEmpty_frame N hcur (fun j h => hmono _ _ h) ?_
    (fun j' h => Or.inl (h.of_set hl hthr hcur (fun e => by rw [hlo]; exact e) (fun j e => by rw [hhi]; exact e)))
  intro j' h
  by_cases e : s.cur + 1 = g0 ∧ j' = j0
  · obtain ⟨rfl, rfl⟩ := e
    exact Or.inr (Or.inl (hmono _ _ (hpar rfl)))
  · rw [hne _ _ e] at h; exact Or.inl h

end Flurry.Proto.BinGN
