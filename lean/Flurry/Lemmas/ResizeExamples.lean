import Flurry.Lemmas.ResizeProgress
/-! # Concrete runs of the resize protocol, evaluated; among them the stale-stamp window -/
namespace Flurry.Proto.Resize

def rep (k : Nat) (p : Nat × Nat) : List (Nat × Nat) := List.replicate k p

def check (o : Option State) (p : State → Bool) : Bool :=
  match o with
  | some s => p s
  | none => false

theorem reachable_of_check {n k stride : Nat} {steps : List (Nat × Nat)} {p : State → Bool}
    (h : check (run (init n k stride) steps) p = true) :
    ∃ s, Reachable n k stride s ∧ p s = true := by
  cases hrun : run (init n k stride) steps with
  | none => rw [hrun] at h; cases h
  | some s => rw [hrun] at h; exact ⟨s, reachable_run .init hrun, h⟩

def allIdleB (s : State) : Bool := s.threads.all (fun l => l.pc == .idle)

/-- thread 0: initiate, claim once (gets `i = n = 32`, takes the "done" branch at once), leave as the
last participant = become the finisher, sweep all 32 bins, publish -/
def single : List (Nat × Nat) := (0, 1) :: rep 109 (0, 0)

/-- after 9 steps: the first claim lowered `transfer_index` to 16 and gave `i = 32 = n`; without
touching a bin the thread left, and as last participant it is now the finisher, about to sweep -/
example : check (run (init 32 1 16) (single.take 9)) (fun s =>
    s.sizeCtl == .resizing 0 1 && s.transferIndex == 16 && s.moved == List.replicate 32 false &&
    s.threads.all (fun l => l.pc == .claimLoad && l.finishing && l.advance && l.i == 32 && l.bound == 16))
    = true := by decide +kernel

/-- after 107 steps the finisher has swept (and here: migrated itself) all 32 bins, once each -/
example : check (run (init 32 1 16) (single.take 107)) (fun s =>
    s.migrations == List.replicate 32 1 && s.moved == List.replicate 32 true &&
    s.threads.all (fun l => l.pc == .pubClearNext)) = true := by decide +kernel

/-- end of the run: published once, 64 bins, threshold 48, everybody idle.
`transfer_index` is left at 16 (the stride that was claimed but skipped is never un-claimed) -/
example : check (run (init 32 1 16) single) (fun s =>
    allIdleB s && s.gen == 1 && s.n == 64 && s.sizeCtl == .idle 48 && s.nextTable == false &&
    s.published == [1] && s.transferIndex == 16) = true := by decide +kernel

/-- thread 0 initiates and claims `[16, 32)` with `i = 32`: "done" at once. Thread 1 joins through
`add_count` (five accesses: `size_ctl`, `table`, `next_table`, `transfer_index`, CAS). Thread 0
leaves (not last) without having touched a single bin of its stride. Thread 1 claims `[0, 16)` with
`i = 16`, so it processes bins `16, 15, …, 0` (one bin into thread 0's stride), finds nothing left to
claim, leaves as the last participant, becomes the finisher, and its sweep `31, …, 0` migrates the
skipped bins `31 … 17` and sees `16 … 0` already moved. -/
def two : List (Nat × Nat) :=
  (0, 1) :: rep 6 (0, 0) ++ [(1, 2), (1, 0), (1, 0), (1, 0), (1, 0)] ++ rep 2 (0, 0) ++ rep 157 (1, 0)

/-- thread 0 is gone (idle, `i = 32`, `bound = 16` never processed); thread 1 has just become the
finisher; bins `0 … 16` are moved, bins `17 … 31` – the rest of thread 0's stride – are not -/
example : check (run (init 32 2 16) (two.take 70)) (fun s =>
    s.sizeCtl == .resizing 0 1 && s.transferIndex == 0 &&
    s.moved == List.replicate 17 true ++ List.replicate 15 false &&
    s.migrations == List.replicate 17 1 ++ List.replicate 15 0 &&
    (s.threads.map (fun l => (l.pc, l.i, l.bound, l.finishing))) ==
      [(.idle, 32, 16, false), (.claimLoad, 32, 0, true)]) = true := by decide +kernel

/-- the finisher's sweep has covered the skipped stride: every bin migrated exactly once -/
example : check (run (init 32 2 16) (two.take 168)) (fun s =>
    s.migrations == List.replicate 32 1 && s.moved == List.replicate 32 true &&
    (s.threads.map (·.pc)) == [.idle, .pubClearNext]) = true := by decide +kernel

example : check (run (init 32 2 16) two) (fun s =>
    allIdleB s && s.gen == 1 && s.n == 64 && s.sizeCtl == .idle 48 && s.nextTable == false &&
    s.published == [1] && s.migrations == List.replicate 64 0) = true := by decide +kernel

/-- one thread resizes a 1-bin table and stops right after `table.swap(next)` -/
def toStoreCtl : List (Nat × Nat) := (0, 1) :: rep 15 (0, 0)

/-- between `pubSwapTable` and `pubStoreCtl` the word still carries the stamp of the previous
generation: `s.sizeCtl = resizing g c` does **not** imply `g = s.gen`, and a finisher exists while
`s.sizeCtl ≠ resizing s.gen 1`. (`count_invariant` and `single_finisher_word` state the exact
shape.) -/
theorem stale_stamp_window :
    ∃ s, Reachable 1 1 1 s ∧ s.sizeCtl = .resizing 0 1 ∧ s.gen = 1 ∧
      ∃ l ∈ s.threads, isFinisher l = true ∧ l.pc = .pubStoreCtl := by
  obtain ⟨s, hr, hp⟩ := reachable_of_check (n := 1) (k := 1) (stride := 1) (steps := toStoreCtl) (p := fun s =>
    s.sizeCtl == .resizing 0 1 && s.gen == 1 &&
    s.threads.any (fun l => isFinisher l && l.pc == .pubStoreCtl)) (by decide +kernel)
  simp only [Bool.and_eq_true, beq_iff_eq, List.any_eq_true] at hp
  obtain ⟨⟨h1, h2⟩, l, hl, h3, h4⟩ := hp
  exact ⟨s, hr, h1, h2, l, hl, h3, h4⟩

/-! ## an observation about `transfer_index` (harmless, covered by the theorems)

Because the first claimer leaves without resetting anything, `transfer_index` can stay positive
after a resize (`16` above). In the next generation a helper that sees the new `next_table` before
the initiator has executed `transfer_index.store(n)` passes the `transfer_index > 0` check against
the *stale* value, joins, and claims `[0, 16)` of the new 64-bin table; the initiator's store then
overwrites the index with `64`. All safety theorems hold for this interleaving too (the claimed
range is inside the new table and is simply visited again later). -/
def staleIndex : List (Nat × Nat) :=
  single ++ [(0, 1), (0, 0), (0, 0)] ++ (1, 2) :: rep 6 (1, 0) ++ [(0, 0)]

/-- thread 1 has claimed from the stale index (`i = 16`, `bound = 0`, index now `0`) although the
initiator (thread 0) is still at `storeIndex` -/
example : check (run (init 32 2 16) (staleIndex.take 120)) (fun s =>
    s.gen == 1 && s.n == 64 && s.sizeCtl == .resizing 1 3 && s.transferIndex == 0 &&
    (s.threads.map (fun l => (l.pc, l.i, l.bound))) == [(.storeIndex, -1, 16), (.dispatch, 16, 0)])
    = true := by decide +kernel

/-- … and then the initiator's store resets the index to `n = 64` -/
example : check (run (init 32 2 16) staleIndex) (fun s =>
    s.transferIndex == 64 && (s.threads.map (·.pc)) == [.claimLoad, .dispatch]) = true := by decide +kernel

/-! ## finding F6: what the generation comparison in `help_transfer` is for

Table of 2 bins, 2 threads, stride 1. Thread 1 resizes generation 0 alone up to the point where it is
the finisher at `pubClearNext` (17 steps). Thread 0 then meets a forwarding marker: it holds the
tables of generation 0 (`(0, 3)`), validates `next_table == self.next_table` (`(0, 0)`); thread 1
clears `next_table`; thread 0 validates `table == self.table` – still true; thread 1 swaps the table
(generation 1) and stores the idle word, and immediately initiates the resize of generation 1: the
word is `resizing 1 2`. Only now thread 0 loads `size_ctl`. The word is of another generation than
the tables thread 0 holds, `cnt = 2` is neither `1` nor `MAX_RESIZERS`, `transfer_index` is still
positive (left over, as in `staleIndex` above) – without the comparison of the stamps the CAS `resizing 1 2 → resizing 1 3`
succeeds and thread 0 has joined the resize of generation 1 with the tables of generation 0. -/
def staleJoin : List (Nat × Nat) :=
  [(1, 1), (1, 0), (1, 0), (1, 0), (1, 0), (1, 0), (1, 0), (1, 0), (1, 0), (1, 0), (1, 0), (1, 0),
   (1, 0), (1, 0), (1, 0), (1, 0), (1, 0), (0, 3), (0, 0), (1, 0), (0, 0), (1, 0), (1, 0), (1, 1),
   (1, 0), (0, 0), (0, 0), (0, 0)]

/-- without the generation comparison the schedule ends with a stale join … -/
example : (run (init 2 2 1 false) staleJoin).map (·.staleJoins) = some 1 := by decide +kernel

/-- … the word counts a participant nobody knows (`resizing 1 3` with one participant) -/
example : check (run (init 2 2 1 false) staleJoin) (fun s =>
    s.gen == 1 && s.sizeCtl == .resizing 1 3 && numParticipants s == 1 &&
    (s.threads.map (fun l => (l.pc, l.heldGen))) == [(.idle, 0), (.swapNext, 0)]) = true := by decide +kernel

/-- the situation just before the CAS: thread 0 holds generation 0 and a word of generation 1 -/
example : check (run (init 2 2 1 false) (staleJoin.take 27)) (fun s =>
    s.gen == 1 && s.sizeCtl == .resizing 1 2 && s.transferIndex == 1 &&
    (s.threads.map (fun l => (l.pc, l.heldGen))) ==
      [(.casJoin (.resizing 1 2), 0), (.swapNext, 0)]) = true := by decide +kernel

/-- with the comparison (the code as it is) the same schedule has no stale join: thread 0 is refused
at the load of `size_ctl` (and its last two steps are idle steps) -/
example : (run (init 2 2 1 true) staleJoin).map (·.staleJoins) = some 0 := by decide +kernel

example : check (run (init 2 2 1 true) (staleJoin.take 26)) (fun s =>
    s.gen == 1 && s.sizeCtl == .resizing 1 2 &&
    (s.threads.map (fun l => (l.pc, l.heldGen))) == [(.idle, 0), (.swapNext, 0)]) = true := by decide +kernel

/-- the same, as a statement about reachable states (`Reachable` has the comparison in place) -/
example : ∃ s, Reachable 2 2 1 s ∧ s.gen = 1 ∧ s.sizeCtl = .resizing 1 2 ∧ s.staleJoins = 0 := by
  obtain ⟨s, hr, hp⟩ := reachable_of_check (n := 2) (k := 2) (stride := 1) (steps := staleJoin) (p := fun s =>
    s.gen == 1 && s.sizeCtl == .resizing 1 2 && s.staleJoins == 0) (by decide +kernel)
  simp only [Bool.and_eq_true, beq_iff_eq] at hp
  exact ⟨s, hr, hp.1.1, hp.1.2, hp.2⟩

/-! ## the measure on a concrete run: `mu` strictly decreases along the 157 steps of thread 1 -/

def muTrace (s : State) : List (Nat × Nat) → List Nat
  | [] => [mu s]
  | (t, c) :: r => mu s :: (match step s t c with | some s' => muTrace s' r | none => [])

def strictlyDecreasing : List Nat → Bool
  | a :: b :: r => decide (b < a) && strictlyDecreasing (b :: r)
  | _ => true

example : check (run (init 32 2 16) (two.take 14)) (fun s =>
    strictlyDecreasing (muTrace s (rep 157 (1, 0)))) = true := by decide +kernel

end Flurry.Proto.Resize
