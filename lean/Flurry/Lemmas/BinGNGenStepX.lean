import Flurry.Lemmas.BinGNGenStepW
/-! # Proto/BinGN: the shape half of the generation invariant — treeify and the resizing thread

Of the lock half of `GenInv s` the child stores use that a planned cell is not a forwarding marker (`POK.plan`). -/
namespace Flurry.Proto.BinGN
open Flurry.Lin
open Flurry.Proto.BinGNP (KMove KBMove)

section
variable {s : State} {t : Nat} {pc pc' : Pc} {hp : List NodeS} {tb : List TBin}

theorem shape_kmove (I : GenInv s) (hl : s.threads[t]? = some ⟨pc, none⟩) (h : KMove s t pc pc' hp) :
    ShapeInv (setT (BinGNP.qst s hp s.tbins) t ⟨pc', none⟩) := by
  have T := I.thr t _ hl
  obtain ⟨heap, tbins, tabs, cur, resizing, threads, hist, now⟩ := s
  cases h with
  | @kTable k => exact shape_gen I hl rfl rfl rfl rfl rfl (cur_gen _ k)
  | kCellMoved hm => exact shape_gen I hl rfl rfl rfl rfl rfl (gen_follow I (T.gen _ _ rfl) hm)
  | kCellOther _ _ | kUnlock | kCheckFail _ => exact shape_weak I hl rfl rfl rfl rfl ⟨id, .inl rfl, .inr rfl, id⟩
  | xCellMoved _ => exact shape_weak I hl rfl rfl rfl rfl ⟨id, .inr rfl, .inl rfl, id⟩
  | xNextCommit ha =>
    refine shape_frame I hl rfl rfl rfl rfl (fun g row' h => ⟨row', h, rfl⟩) (fun _ _ h => h) (fun _ _ h => .inl h)
      (fun _ => rfl) ⟨fun _ => T.tres rfl, (fun _ _ h => nomatch h), (fun _ h => nomatch h), fun _ => I.of_allMoved ha⟩
  | xNextCell _ =>
    refine shape_frame I hl rfl rfl rfl rfl (fun g row' h => ⟨row', h, rfl⟩) (fun _ _ h => h) (fun _ _ h => .inl h)
      (fun _ => rfl) ⟨fun _ => T.tres rfl, (fun _ _ h => nomatch h), fun _ h => by cases h; exact mod_lt_pow _ _,
        (fun h => nomatch h)⟩
  | _ => exact shape_weak I hl rfl rfl rfl rfl (.same rfl)

theorem shape_kbmove (I : GenInv s) (hl : s.threads[t]? = some ⟨pc, none⟩) (h : KBMove s t pc pc' tb) :
    ShapeInv (setT (BinGNP.qst s s.heap tb) t ⟨pc', none⟩) := by
  obtain ⟨heap, tbins, tabs, cur, resizing, threads, hist, now⟩ := s
  cases h <;> exact shape_weak I hl rfl rfl rfl rfl (.same rfl)

theorem shape_kbuild {g k h : Nat} (I : GenInv s) (hl : s.threads[t]? = some ⟨.kBuild g k h, none⟩) :
    ShapeInv (setT (BinGNP.buildOf (BinGNP.tick s) h) t ⟨.kStore g k h s.tbins.length, none⟩) :=
  shape_grows I hl ((Grows.tick s).trans (buildOf_grows _ h)) rfl (.same rfl)

theorem shape_kstore {g k h b : Nat} (I : GenInv s) (hl : s.threads[t]? = some ⟨.kStore g k h b, none⟩) :
    ShapeInv (setT (setCell (BinGNP.tick s) g k (.tree b)) t ⟨.kUnlock h, none⟩) := by
  obtain ⟨hcell, -⟩ := (I.thr t _ hl).valid g (k % 2 ^ g) (.list h) rfl
  exact shape_put I hl rfl rfl rfl rfl (Or.inl (by rw [hcell]; simp)) (fun h => nomatch h)
    ⟨id, .inl rfl, .inr rfl, id⟩

theorem shape_xcasMoved {j : Nat} (I : GenInv s) (hl : s.threads[t]? = some ⟨.xCasMoved j, none⟩) :
    ShapeInv (putCell (setT (BinGNP.tick s) t ⟨.xNext, none⟩) s.cur j .moved) :=
  shape_put (c := .moved) I hl rfl rfl rfl rfl (Or.inr rfl) (fun _ => ⟨rfl, (I.thr t _ hl).tres rfl⟩)
    ⟨id, .inr rfl, .inl rfl, id⟩

theorem shape_xbuild {j h : Nat} (I : GenInv s) (hl : s.threads[t]? = some ⟨.xBuild j h, none⟩) :
    ShapeInv (setT (BinGNP.qst s (BinGNP.xsplitOf s h).1 s.tbins) t
      ⟨.xStoreLow j (.inl h) (BinGNP.xsplitOf s h).2.1 (BinGNP.xsplitOf s h).2.2, none⟩) :=
  shape_weak I hl rfl rfl rfl rfl (.same rfl)

theorem shape_ybuild {j b : Nat} {sm sm2 : Bool} (I : GenInv s) (hl : s.threads[t]? = some ⟨.yBuild j b, none⟩) :
    ShapeInv (setT (BinGNP.ysplitOf (BinGNP.tick s) b sm sm2).1 t
      ⟨.xStoreLow j (.inr b) (BinGNP.ysplitOf (BinGNP.tick s) b sm sm2).2.1
        (BinGNP.ysplitOf (BinGNP.tick s) b sm sm2).2.2, none⟩) := by
  have H := ysplitOf_grows (BinGNP.tick s) b sm sm2
  generalize BinGNP.ysplitOf (BinGNP.tick s) b sm sm2 = Y at H ⊢
  obtain ⟨hg, htabs, -⟩ := H
  exact shape_grows I hl ((Grows.tick s).trans hg) htabs (.same rfl)

theorem shape_xstoreLow {j : Nat} {unl : Nat ⊕ Nat} {lo hi : Cell} (I : GenInv s)
    (hl : s.threads[t]? = some ⟨.xStoreLow j unl lo hi, none⟩) :
    ShapeInv (putCell (setT (BinGNP.tick s) t ⟨.xStoreHigh j unl hi, none⟩) (s.cur + 1) j lo) :=
  shape_put I hl rfl rfl rfl rfl (Or.inl (I.nextOK j))
    (fun h => absurd h ((I.thr t _ hl).plan lo List.mem_cons_self).1) (.same rfl)

theorem shape_xstoreHigh {j : Nat} {unl : Nat ⊕ Nat} {hi : Cell} (I : GenInv s)
    (hl : s.threads[t]? = some ⟨.xStoreHigh j unl hi, none⟩) :
    ShapeInv (putCell (setT (BinGNP.tick s) t ⟨.xStoreMoved j unl, none⟩) (s.cur + 1) (j + 2 ^ s.cur) hi) :=
  shape_put I hl rfl rfl rfl rfl (Or.inl (I.nextOK _))
    (fun h => absurd h ((I.thr t _ hl).plan hi List.mem_cons_self).1) (.same rfl)

theorem shape_xstoreMoved {j : Nat} {unl : Nat ⊕ Nat} (I : GenInv s)
    (hl : s.threads[t]? = some ⟨.xStoreMoved j unl, none⟩) :
    ShapeInv (putCell (setT (BinGNP.tick s) t ⟨.xUnlock unl, none⟩) s.cur j .moved) :=
  shape_put (c := .moved) I hl rfl rfl rfl rfl (Or.inr rfl) (fun _ => ⟨rfl, (I.thr t _ hl).tres rfl⟩)
    ⟨id, .inr rfl, .inl rfl, id⟩

end

/-- the resizing thread publishes generation `cur + 1` -/
theorem shape_xcommit {s : State} {t : Nat} (I : GenInv s) (hl : s.threads[t]? = some { pc := .xCommit, call := none }) :
    ShapeInv { (setT (BinGNP.tick s) t { pc := .idle, call := none }) with cur := s.cur + 1, resizing := false } := by
  have T := I.thr t _ hl
  have R := T.tres rfl
  have hall := T.commit rfl
  have nX := fun t1 l1 n1 h1 => not_isX_of_ne (t1 := t1) (l1 := l1) I hl rfl n1 h1
  have hlen : s.tabs.length = s.cur + 2 := by have := I.len; rw [R] at this; simpa using this
  refine ⟨?_, I.rows, ?_, ?_, ?_, ?_, ?_⟩
  · show s.tabs.length = s.cur + 1 + 1 + 0; omega
  · intro g j hg hj
    show cellT s.tabs g j = _
    by_cases h : g < s.cur
    · exact I.old g j h hj
    · have : g = s.cur := by have : g < s.cur + 1 := hg; omega
      subst this
      exact hall j hj
  · intro j
    show cellT s.tabs (s.cur + 1 + 1) j ≠ _
    rw [cellT_beyond (by omega)]; simp
  · intro j hm
    exact absurd hm (I.nextOK j)
  · intro t1 t2 l1 l2 h1 h2 hT1 hT2
    rcases get_set h1 with ⟨e1, f1⟩ | ⟨n1, h1⟩
    · rw [f1] at hT1; cases hT1
    · have := nX _ _ n1 h1
      rw [desc_cur_indep (c' := s.cur + 1) this] at this
      rw [this] at hT1; cases hT1
  · intro t1 l1 h1
    rcases get_set h1 with ⟨rfl, rfl⟩ | ⟨n1, h1⟩
    · exact ⟨(fun h => nomatch h), (fun _ _ h => nomatch h), (fun _ h => nomatch h), (fun h => nomatch h)⟩
    · have T1 := I.thr t1 l1 h1
      have hnX := nX _ _ n1 h1
      show SOK _ (desc (s.cur + 1) l1)
      rw [← desc_cur_indep (c := s.cur) hnX]
      refine ⟨?_, ?_, ?_, ?_⟩
      · intro h; rw [hnX] at h; cases h
      · intro g k hg
        obtain ⟨a, -⟩ := T1.gen g k hg
        exact ⟨by show g ≤ s.cur + 1 + 1; omega, fun e => by have : g = s.cur + 1 + 1 := e; omega⟩
      · intro j hj
        exact nomatch (desc_notX hnX).1.symm.trans hj
      · intro hc
        exact nomatch (desc_notX hnX).2.symm.trans hc

/-- an idle thread starts a resize: generation `cur + 1` is allocated -/
theorem shape_alloc {s : State} {t : Nat} {c : Option Pending} (I : GenInv s)
    (hl : s.threads[t]? = some { pc := .idle, call := c }) (hr : s.resizing = false) :
    ShapeInv { (setT (BinGNP.tick s) t { pc := .xNext, call := c }) with
      resizing := true, tabs := s.tabs ++ [List.replicate (2 ^ (s.cur + 1)) .empty] } := by
  have nX : ∀ (t1 : Nat) (l1 : Local), s.threads[t1]? = some l1 → (desc s.cur l1).isX = false := by
    intro t1 l1 h1
    cases hx : (desc s.cur l1).isX with
    | false => rfl
    | true => have := (I.thr t1 l1 h1).tres hx; rw [hr] at this; cases this
  have hc : ∀ g j, cellT (s.tabs ++ [List.replicate (2 ^ (s.cur + 1)) (.empty : Cell)]) g j = cellAt s g j :=
    fun g j => cellT_alloc _ _ _ _
  have hlen : s.tabs.length = s.cur + 1 := by have := I.len; rw [hr] at this; simpa using this
  refine ⟨?_, ?_, ?_, ?_, fun _ _ => rfl, ?_, ?_⟩
  · show (s.tabs ++ _).length = s.cur + 1 + 1
    simp; omega
  · intro g row h
    change (s.tabs ++ [List.replicate (2 ^ (s.cur + 1)) (.empty : Cell)])[g]? = some row at h
    by_cases hg : g < s.tabs.length
    · rw [List.getElem?_append_left hg] at h
      exact I.rows g row h
    · rw [List.getElem?_append_right (by omega)] at h
      by_cases h0 : g - s.tabs.length = 0
      · rw [h0] at h
        simp only [List.getElem?_cons_zero, Option.some.injEq] at h
        rw [← h, List.length_replicate]
        have : g = s.cur + 1 := by omega
        rw [this]
      · rw [List.getElem?_eq_none (by simp; omega)] at h; cases h
  · intro g j hg hj; show cellT _ g j = _; rw [hc]; exact I.old g j hg hj
  · intro j; show cellT _ _ j ≠ _; rw [hc]; exact I.nextOK j
  · intro t1 t2 l1 l2 h1 h2 hT1 hT2
    rcases get_set h1 with ⟨e1, f1⟩ | ⟨n1, h1⟩ <;> rcases get_set h2 with ⟨e2, f2⟩ | ⟨n2, h2⟩
    · rw [e1, e2]
    · have h' : (desc s.cur l2).isX = true := hT2
      rw [nX _ _ h2] at h'; cases h'
    · have h' : (desc s.cur l1).isX = true := hT1
      rw [nX _ _ h1] at h'; cases h'
    · have h' : (desc s.cur l1).isX = true := hT1
      rw [nX _ _ h1] at h'; cases h'
  · intro t1 l1 h1
    rcases get_set h1 with ⟨rfl, rfl⟩ | ⟨n1, h1⟩
    · exact ⟨fun _ => rfl, (fun _ _ h => nomatch h), (fun _ h => nomatch h), (fun h => nomatch h)⟩
    · have T1 := I.thr t1 l1 h1
      refine ⟨?_, ?_, T1.idx, ?_⟩
      · intro h
        have h' : (desc s.cur l1).isX = true := h
        rw [nX _ _ h1] at h'
      · intro g k hg
        obtain ⟨a, b⟩ := T1.gen g k hg
        exact ⟨a, fun e => by show cellT _ _ _ = _; rw [hc]; exact b e⟩
      · intro h j hj; show cellT _ _ _ = _; rw [hc]; exact T1.commit h j hj

end Flurry.Proto.BinGN
