import Flurry.Lemmas.BinNHMInv
import Flurry.Lemmas.BinNGenReach
/-! # Proto/BinN and Proto/BinNH: every transition preserves the structural invariant — the case analysis (C01, C10) -/
namespace Flurry.Proto.BinNHM
open Flurry.Proto.BinN
open Flurry.Lin
open Flurry.Proto.BinX (NodeS Cell Pending isReader dflt chainFrom cellHead cellOfHead nodeAt nodeAt_of_some getElem?_nodeAt
  nodeAt_append_left IsSeg IsChain chainH absIn KeysDistinct Walk get_set get_set_self get_set_ne cellOfHead_ne_moved)

/-- a program counter that holds no validated lock -/
theorem vcell_none_of {cur : Nat} {l : Local} (h : ∀ g h pr c, l.pc ≠ .wFind g h pr c)
    (h' : ∀ g h pr hi hn, l.pc ≠ .wStore g h pr hi hn) (hT : ¬ isT l.pc) : vcell cur l = none := by
  obtain ⟨pc, call⟩ := l
  cases pc with
  | wFind _ _ _ _ => exact absurd rfl (h _ _ _ _)
  | wStore _ _ _ _ _ => exact absurd rfl (h' _ _ _ _ _)
  | tBuild _ _ | tStoreLow _ _ _ _ | tStoreHigh _ _ _ | tStoreMoved _ _ => exact absurd trivial hT
  | _ => rfl

/-- **the transitions of the readers and writers preserve the structural invariant** (the ghost does not change),
whoever resizes. `hlk`: the acting thread does not hold the bin lock of a cell that is being split (the thread that
splits it does); `hrz`: the transition is not the start of a resize. The cell that is being split and its two
children are not touched; the thread does not become a resizing thread. -/
theorem stepK_rw {s s' : State} {G : Ghost} {t : Nat} {l : Local} {pick : Nat} (I : RWInv s G)
    (hl : s.threads[t]? = some l) (hstep : StepK s t l pick s') (hnT : ¬ isT l.pc)
    (hlk : ∀ j h, IsMid G j → cellAt s s.cur j = .node h → lockAt s.heap h ≠ some t)
    (hrz : s'.resizing = s.resizing) :
    RWInv s' G ∧ HeapStep s s' G G ∧ AbsEff s s' l ∧
    (∀ j lo hg fr, G.mid j = some (lo, hg, fr) → cellAt s' s.cur j = cellAt s s.cur j ∧
      cellAt s' (s.cur + 1) j = cellAt s (s.cur + 1) j ∧
      cellAt s' (s.cur + 1) (j + 2 ^ s.cur) = cellAt s (s.cur + 1) (j + 2 ^ s.cur)) ∧
    s'.cur = s.cur ∧ ∃ l', s'.threads = s.threads.set t l' ∧ ¬ isT l'.pc := by
  have Gn' := stepK_geninv I.gen hl hstep
  have Tn' := stepK_tinv I.thr hl hstep
  have H := I.heap
  have T := I.gen.thr t l hl
  have same : ∀ {s'' : State}, s''.tabs = s.tabs → ∀ j lo hg fr, G.mid j = some (lo, hg, fr) →
      cellAt s'' s.cur j = cellAt s s.cur j ∧ cellAt s'' (s.cur + 1) j = cellAt s (s.cur + 1) j ∧
      cellAt s'' (s.cur + 1) (j + 2 ^ s.cur) = cellAt s (s.cur + 1) (j + 2 ^ s.cur) := by
    intro s'' ht j lo hg fr _
    have hcell : ∀ g j, cellAt s'' g j = cellAt s g j := fun g j => by rw [cellAt_eq, cellAt_eq, ht]
    exact ⟨hcell _ _, hcell _ _, hcell _ _⟩
  have none_new : ∀ {l' : Local}, vcell s.cur l' = none →
      ∀ j h, IsMid G j → ¬ isT l'.pc → vcell s.cur l' ≠ some (s.cur, j, h) := by
    intro l' h j h0 _ _ hv; rw [h] at hv; cases hv
  cases hstep with
  | idle hpc =>
    obtain ⟨a, b, c⟩ := inv_same (l := l) (l' := l) I Gn' Tn' ((SameMem.tick s).trans (SameMem.setT _ _ _)) rfl
      (fun j h hm _ => I.midw j hm t l h hl hnT) (fun p _ => by rw [hpc]; trivial)
    exact ⟨a, b, c, same rfl, rfl, l, rfl, hnT⟩
  | invoke k op hpc =>
    have hT' : ¬ isT (if isReader op then Pc.rTable else Pc.wTable) := by cases isReader op <;> exact fun h => h
    obtain ⟨a, b, c⟩ := inv_same (l := l) I Gn' Tn' ((SameMem.tick s).trans (SameMem.setT _ _ _)) rfl
      (none_new (by cases isReader op <;> rfl)) (by intro p _; cases isReader op <;> trivial)
    exact ⟨a, b, c, same rfl, rfl, _, rfl, hT'⟩
  | resize hpc hr =>
    rw [hr] at hrz; cases hrz
  | move p pc' hp hm =>
    obtain ⟨pc, call⟩ := l
    simp only at hp hm
    subst hp
    have hT' : ¬ isT pc' := by cases hm <;> exact fun h => h
    have hnew : ∀ j h, IsMid G j → ¬ isT pc' → vcell s.cur { pc := pc', call := some p } ≠ some (s.cur, j, h) := by
      intro j h0 hmid _ hv
      cases hm with
      | @checkOk g h hc =>
        simp only [vcell, Option.some.injEq, Prod.mk.injEq] at hv
        obtain ⟨rfl, rfl, rfl⟩ := hv
        exact hlk _ _ hmid hc (T.held _ rfl).2
      | findEnd => exact I.midw j hmid t _ h0 hl hnT hv
      | findHit _ _ => exact I.midw j hmid t _ h0 hl hnT hv
      | findNext _ _ => exact I.midw j hmid t _ h0 hl hnT hv
      | rTable => cases hv
      | rCellMoved _ => cases hv
      | rCellNode _ => cases hv
      | rNext _ _ => cases hv
      | wTable => cases hv
      | wCellEmpty _ _ => cases hv
      | wCellMoved _ => cases hv
      | wCellNode _ => cases hv
      | casFail => cases hv
      | checkFail _ => cases hv
    obtain ⟨a, b, c⟩ := inv_same (l := ⟨pc, some p⟩) I Gn' Tn' ((SameMem.tick s).trans (SameMem.setT _ _ _)) rfl hnew
      (by intro p' hp'; cases hp'; exact Move.walk H hm (I.walk.walk t _ p hl rfl))
    exact ⟨a, b, c, same rfl, rfl, _, rfl, hT'⟩
  | tmove pc' hp hm =>
    obtain ⟨pc, call⟩ := l
    cases hm <;> exact absurd trivial hnT
  | lockMove p h x pc' hp hm =>
    obtain ⟨pc, call⟩ := l
    simp only at hp hm
    subst hp
    obtain ⟨a, b, c⟩ := inv_lock (l := ⟨pc, some p⟩) (l' := ⟨pc', some p⟩) I Gn' Tn' rfl rfl rfl rfl rfl
      (none_new (by cases hm <;> rfl)) (by intro p' _; cases hm <;> trivial)
    exact ⟨a, b, c, same rfl, rfl, _, rfl, by cases hm <;> exact fun h => h⟩
  | tlockMove h x pc' hp hm =>
    obtain ⟨pc, call⟩ := l
    cases hm <;> exact absurd trivial hnT
  | fin p res hp hf =>
    obtain ⟨pc, call⟩ := l
    simp only at hp hf
    subst hp
    obtain ⟨a, b, c⟩ := inv_same (l := ⟨pc, some p⟩) (l' := { pc := .idle, call := none }) I Gn' Tn'
      ((SameMem.tick s).trans (SameMem.finish _ _ _ _)) rfl (none_new rfl) (fun p hp' => by cases hp')
    exact ⟨a, b, c, same rfl, rfl, _, rfl, fun h => h⟩
  | cas p g v vi hp hpc hc hop =>
    obtain ⟨pc, call⟩ := l
    simp only at hp hpc
    subst hp hpc
    have act := I.active_of_empty hl rfl rfl hc
    obtain ⟨e, habs⟩ := cas_finish_effect (t := t) H p act hc (v, vi)
    obtain ⟨C', u, -⟩ := id e
    obtain ⟨I', m⟩ := inv_update (l' := { pc := .idle, call := none }) I Gn' Tn' act e rfl (none_new rfl)
      (fun t1 l1 h _ h1 => no_vcell_of_not_node I.gen (by show ∀ h, cellOf s g p.key ≠ _; rw [hc]; simp) t1 l1 h h1)
      (fun p hp' => by cases hp')
    exact ⟨I', m, .cas p g v vi rfl rfl hc hop habs, fun j lo hg fr hm => u.mid_cells H act hm, u.cur, _, rfl, fun h => h⟩
  | store p g h pred hit hnext hp hpc =>
    obtain ⟨pc, call⟩ := l
    simp only at hp hpc
    subst hp hpc
    have hv0 : vcell s.cur { pc := Pc.wStore g h pred hit hnext, call := some p } = some (g, p.key % 2 ^ g, h) := rfl
    have act := I.active_of_vcell hl rfl rfl (fun h => h) hv0
    obtain ⟨hcell, -⟩ := T.valid _ _ _ hv0
    have hwr : isReader p.op = false := I.thr.opOK t _ p hl rfl
    have hw := I.walk.walk t _ p hl rfl
    obtain ⟨e, hthr, hspec, hoth⟩ := store_effect (s := tick s) (H.sameMem (SameMem.tick s)) p hwr
      (act.sameMem (SameMem.tick s)) (h := h) hcell hw.1 hw.2
    have mt : SameMem (tick s) s := ⟨rfl, rfl, rfl, rfl⟩
    have e' := e.congr mt (SameMem.setT _ t { pc := .wUnlock g h (storeAt (tick s) g p pred hit hnext).2 false, call := some p })
    have hthr' : (setT (storeAt (tick s) g p pred hit hnext).1 t
        { pc := .wUnlock g h (storeAt (tick s) g p pred hit hnext).2 false, call := some p }).threads =
        s.threads.set t { pc := .wUnlock g h (storeAt (tick s) g p pred hit hnext).2 false, call := some p } := by
      show (storeAt _ _ _ _ _ _).1.threads.set _ _ = _
      rw [hthr]; rfl
    obtain ⟨C', u, -⟩ := id e'
    obtain ⟨I', m⟩ := inv_update I Gn' Tn' act e' hthr' (none_new rfl)
      (no_vcell_of_mutex I.gen hl hv0) (fun p _ => trivial)
    refine ⟨I', m, .store p g h pred hit hnext rfl rfl ?_ ?_, fun j lo hg fr hm => u.mid_cells H act hm, u.cur, _, hthr',
      fun h => h⟩
    · rw [absOf_sameMem (SameMem.setT _ _ _)]
      rw [absOf_sameMem (SameMem.tick s)] at hspec
      exact hspec
    · intro k hk
      rw [absOf_sameMem (SameMem.setT _ _ _), hoth k hk, absOf_sameMem (SameMem.tick s)]
  | unlockFin p g h res hp hpc =>
    obtain ⟨pc, call⟩ := l
    simp only at hp hpc
    subst hp hpc
    obtain ⟨a, b, c⟩ := inv_lock (l := ⟨.wUnlock g h res false, some p⟩) (l' := { pc := .idle, call := none }) I Gn' Tn'
      rfl rfl rfl rfl rfl (none_new rfl) (fun p hp' => by cases hp')
    exact ⟨a, b, c, same rfl, rfl, _, rfl, fun h => h⟩
  | casMoved j hp hpc hc => rw [hpc] at hnT; exact absurd trivial hnT
  | build j h hp hpc => rw [hpc] at hnT; exact absurd trivial hnT
  | storeLow j h lo hg hp hpc => rw [hpc] at hnT; exact absurd trivial hnT
  | storeHigh j h hg hp hpc => rw [hpc] at hnT; exact absurd trivial hnT
  | storeMoved j h hp hpc => rw [hpc] at hnT; exact absurd trivial hnT
  | commit hp hpc => rw [hpc] at hnT; exact absurd trivial hnT

/-- `stepK_rw` for `Proto/BinNH`'s shared memory, where no thread is a resizing thread of `Proto/BinN` -/
theorem stepK_inv {s s' : State} {G : Ghost} {t : Nat} {l : Local} {pick : Nat} (I : Inv s G)
    (hl : s.threads[t]? = some l) (hstep : StepK s t l pick s')
    (hlk : ∀ j h, IsMid G j → cellAt s s.cur j = .node h → lockAt s.heap h ≠ some t)
    (hrz : s'.resizing = s.resizing) :
    Inv s' G ∧ MemStep s s' G G ∧ AbsEff s s' l ∧
    (∀ j lo hg fr, G.mid j = some (lo, hg, fr) → cellAt s' s.cur j = cellAt s s.cur j ∧
      cellAt s' (s.cur + 1) j = cellAt s (s.cur + 1) j ∧
      cellAt s' (s.cur + 1) (j + 2 ^ s.cur) = cellAt s (s.cur + 1) (j + 2 ^ s.cur)) := by
  obtain ⟨I', m, ae, fr, -, l', hthr, hT'⟩ := stepK_rw I.rw hl hstep (I.noT t l hl) hlk hrz
  exact ⟨I'.inv (noT_set I.noT hthr hT'), .heap m, ae, fr⟩

end Flurry.Proto.BinNHM
