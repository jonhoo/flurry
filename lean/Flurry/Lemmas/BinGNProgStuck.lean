import Flurry.Lemmas.BinGNProgEn
/-! # Proto/BinGN, progress: no reachable state is a deadlock

The twin of `Lemmas/BinGProgStuck.lean` for `Proto/BinGN`: the argument of its header word for word (the wait-for
relation has depth at most two, waiter → mutex holder parked at `lrLoop` → reader, and no cycle), which does not depend
on the number of generations: the resizing thread holds one lock at a time, and none between two cells.
`binGN_never_stuck_aux`: in every state with `Inv` and `BInv` in which some thread is not `idle`, some thread that is
not `idle` has an enabled step (for every value of the scheduler's arguments). -/
namespace Flurry.Proto.BinGNP
open Flurry.Lin
open Flurry.Proto.BinK (nodeAt binAt)

def Enabled (s : State) (t : Nat) : Prop :=
  ∀ (inv : Option (Nat × KOp)) (lo : Bool) (mt : Option Nat) (rz sm sm2 : Bool) (pick : Nat),
    (step s t inv lo mt rz sm sm2 pick).isSome = true

theorem enabled_of_not_blocked {s : State} (I : Inv s) (B : BInv s) {t : Nat} {l : Local}
    (hl : s.threads[t]? = some l) (hne : l.pc ≠ .idle) (hnb : ¬ Blocked s l.pc) : Enabled s t := by
  intro inv lo mt rz sm sm2 pick
  rcases step_enabled_or_blocked I B hl hne inv lo mt rz sm sm2 pick with h | h
  · exact h
  · exact absurd h hnb

theorem enabled_of_not_waitPc {s : State} (I : Inv s) (B : BInv s) {t : Nat} {l : Local}
    (hl : s.threads[t]? = some l) (hne : l.pc ≠ .idle) (hw : waitPc l.pc = false) : Enabled s t :=
  enabled_of_not_blocked I B hl hne (not_blocked_of_not_waitPc hw)

theorem holdsLock_not_wait {pc : Pc} {h : Nat} (hh : holdsLock pc = some h) : pc ≠ .idle ∧ waitPc pc = false := by
  cases pc with
  | wCheck _ _ | wFind _ _ _ _ | wStore _ _ _ _ _ | wUnlock _ _ _ _ | kCheck _ _ _ | kBuild _ _ _ | kStore _ _ _ _
  | kUnlock _ | xCheck _ _ | xBuild _ _ | xStoreLow _ _ _ _ | xStoreHigh _ _ _ | xStoreMoved _ _ | xUnlock _ => exact ⟨nofun, rfl⟩
  | _ => cases hh

theorem holdsMutex_not_wait {pc : Pc} {b : Nat} (hh : holdsMutex pc = some b) :
    pc ≠ .idle ∧ (waitPc pc = false ∨ ∃ tab k res, pc = .lrLoop tab b k res) := by
  cases pc with
  | lrLoop tab b' k res =>
    cases hh
    exact ⟨nofun, .inr ⟨tab, k, res, rfl⟩⟩
  | tCheck _ _ | tFind _ _ | tVal _ _ _ _ _ | lrTry _ _ _ _ | tPrependLocked _ _ | tTreeLinkLocked _ _ _
  | tUnlinkLocked _ _ _ _ | tRestructure _ _ _ _ | tUnlockRoot _ _ _ | tUntreeify _ _ _ | tUnlockM _ _ _ _ | yCheck _ _
  | yBuild _ _ | xStoreLow _ _ _ _ | xStoreHigh _ _ _ | xStoreMoved _ _ | xUnlock _ => exact ⟨nofun, .inl rfl⟩
  | _ => cases hh

theorem holdsRead_not_wait {pc : Pc} {b : Nat} (hh : holdsRead pc = some b) :
    pc ≠ .idle ∧ waitPc pc = false ∧ readerPc pc = true := by
  cases pc with
  | rTree _ | rRelease _ _ => exact ⟨nofun, rfl, rfl⟩
  | _ => cases hh

theorem lock_holder_exists {s : State} (I : Inv s) {h x : Nat} (hx : (nodeAt s.heap h).lock = some x) :
    ∃ l, s.threads[x]? = some l ∧ holdsLock l.pc = some h := I.lock.lkOwned.holder hx

theorem mutex_holder_exists {s : State} (I : Inv s) {b x : Nat} (hx : (binAt s.tbins b).mutex = some x) :
    ∃ l, s.threads[x]? = some l ∧ holdsMutex l.pc = some b := I.lock.mxOwned.holder hx

theorem reader_exists {s : State} (I : Inv s) {b : Nat} (hb : b < s.tbins.length)
    (hr : (binAt s.tbins b).readers ≠ 0) :
    ∃ (t : Nat) (l : Local), s.threads[t]? = some l ∧ holdsRead l.pc = some b := I.lock.rwOK.reader hb hr

theorem parked_waits_for_reader {s : State} (I : Inv s) (B : BInv s) {t : Nat} {l : Local}
    (hl : s.threads[t]? = some l) {tab : Nat} {b : Nat} {k : After} {res : KRes}
    (hpc : l.pc = .lrLoop tab b k res) (hbl : Blocked s l.pc) :
    ∃ (t' : Nat) (l' : Local), s.threads[t']? = some l' ∧ holdsRead l'.pc = some b ∧ Enabled s t' := by
  have hv : validT l.pc = some b := by rw [hpc]; rfl
  have hm : holdsMutex l.pc = some b := by rw [hpc]; rfl
  have hcell := I.lock.vT t l b hl hv
  have hmx := (I.lock.mx t l b hl).1 hm
  have hbits := (I.lock.bitsSome (cidOf s l) b t l hcell hl hmx).1
  have hw : (binAt s.tbins b).writer = false := by rw [hbits, hpc]; rfl
  rw [hpc] at hbl
  have hrd : (binAt s.tbins b).readers ≠ 0 := by
    rcases hbl.2 with h | h
    · rw [hw] at h; cases h
    · exact h
  have hblt := I.lock.mutex_lt hl hm
  obtain ⟨t', l', hl', hr'⟩ := reader_exists I hblt hrd
  obtain ⟨hne, hnw, _⟩ := holdsRead_not_wait hr'
  exact ⟨t', l', hl', hr', enabled_of_not_waitPc I B hl' hne hnw⟩

theorem blocked_on_other {s : State} (I : Inv s) (B : BInv s) {t : Nat} {l : Local}
    (hl : s.threads[t]? = some l) (hbl : Blocked s l.pc) :
    ∃ (t' : Nat) (l' : Local), t' ≠ t ∧ s.threads[t']? = some l' ∧ l'.pc ≠ .idle ∧
      ((∃ h, holdsLock l'.pc = some h) ∨ (∃ b, holdsMutex l'.pc = some b) ∨ (∃ b, holdsRead l'.pc = some b)) := by
  -- a holder is another thread, since the blocked thread holds nothing of the kind
  have other : ∀ {α : Type} (f : Pc → Option α) {x : Nat} {lx : Local} {a : α}, f l.pc = none →
      s.threads[x]? = some lx → f lx.pc = some a → x ≠ t := by
    intro α f x lx a hnone hlx ha e
    subst e
    rw [hl] at hlx
    cases hlx
    rw [hnone] at ha; cases ha
  obtain ⟨pc, call⟩ := l
  cases pc with
  | wLock _ h | kLock _ _ h | xLock _ h =>
    obtain ⟨x, hx⟩ := Option.isSome_iff_exists.1 hbl
    obtain ⟨lx, hlx, hhx⟩ := lock_holder_exists I hx
    exact ⟨x, lx, other holdsLock rfl hlx hhx, hlx, (holdsLock_not_wait hhx).1, .inl ⟨h, hhx⟩⟩
  | tMutex _ b | yMutex _ b =>
    obtain ⟨x, hx⟩ := Option.isSome_iff_exists.1 hbl
    obtain ⟨lx, hlx, hhx⟩ := mutex_holder_exists I hx
    exact ⟨x, lx, other holdsMutex rfl hlx hhx, hlx, (holdsMutex_not_wait hhx).1, .inr (.inl ⟨b, hhx⟩)⟩
  | lrLoop tab b k res =>
    obtain ⟨t', l', hl', hr', _⟩ := parked_waits_for_reader I B hl rfl hbl
    exact ⟨t', l', other holdsRead rfl hl' hr', hl', (holdsRead_not_wait hr').1, Or.inr (Or.inr ⟨b, hr'⟩)⟩
  | _ => exact absurd hbl id

/-- the witness of `binGN_never_stuck`: from any thread that is not `idle`, following the wait-for
relation at most twice reaches a thread that is not `idle` and whose step is enabled -/
theorem waits_for_enabled {s : State} (I : Inv s) (B : BInv s) {t : Nat} {l : Local}
    (hl : s.threads[t]? = some l) (hne : l.pc ≠ .idle) :
    ∃ (t' : Nat) (l' : Local), s.threads[t']? = some l' ∧ l'.pc ≠ .idle ∧ Enabled s t' := by
  by_cases hbl : Blocked s l.pc
  · obtain ⟨x, lx, _, hlx, hnx, hh | ⟨b, hm⟩ | ⟨b, hr⟩⟩ := blocked_on_other I B hl hbl
    · obtain ⟨h, hh⟩ := hh
      exact ⟨x, lx, hlx, hnx, enabled_of_not_waitPc I B hlx hnx (holdsLock_not_wait hh).2⟩
    · -- the holder of the mutex, or the reader it is parked behind
      by_cases hbx : Blocked s lx.pc
      · rcases (holdsMutex_not_wait hm).2 with hnw | ⟨tab, k, res, hpc⟩
        · exact absurd hbx (not_blocked_of_not_waitPc hnw)
        · obtain ⟨t', l', hl', hr', he⟩ := parked_waits_for_reader I B hlx hpc hbx
          exact ⟨t', l', hl', (holdsRead_not_wait hr').1, he⟩
      · exact ⟨x, lx, hlx, hnx, enabled_of_not_blocked I B hlx hnx hbx⟩
    · exact ⟨x, lx, hlx, hnx, enabled_of_not_waitPc I B hlx hnx (holdsRead_not_wait hr).2.1⟩
  · exact ⟨t, l, hl, hne, enabled_of_not_blocked I B hl hne hbl⟩

theorem binGN_never_stuck_aux {s : State} (I : Inv s) (B : BInv s) (hq : ¬ quiescent s) :
    ∃ (t : Nat) (l : Local), s.threads[t]? = some l ∧ l.pc ≠ .idle ∧ Enabled s t := by
  have : ∃ l ∈ s.threads, l.pc ≠ .idle := by
    apply Classical.byContradiction
    intro hn
    apply hq
    intro l hl
    apply Classical.byContradiction
    intro hne
    exact hn ⟨l, hl, hne⟩
  obtain ⟨l, hmem, hne⟩ := this
  obtain ⟨t, hl⟩ := List.mem_iff_getElem?.1 hmem
  exact waits_for_enabled I B hl hne

end Flurry.Proto.BinGNP
