import Flurry.Lemmas.BinNSurgeryDefs
import Flurry.Lemmas.BinNHMGhost
/-! # Proto/BinN: the hindsight invariant of the readers (C01, C10)

`Good G A k inv s cur`, the hindsight justification of a lock-free reader, is `BinNHM.Good` (its cases are described in
`Lemmas/BinNHMGhost.lean`) stated over `BinN.Ghost`: `good_toM`. The lemmas are that file's, read through `BinNHM.toM`.
That `Good` survives every transition is `MemStep.carries` in `Lemmas/BinNInvDefs.lean`. -/
namespace Flurry.Proto.BinN
open Flurry.Lin
open Flurry.Proto.BinX (NodeS Cell Pending nodeAt IsChain cellHead KeysDistinct)
open BinNHM (toM live_toM)

namespace HInv
variable {s : State} {G : Ghost}

theorem LC_isChain (H : HInv s G) (k : Nat) : IsChain s.heap (cellHead (liveCell s k)) (LC s k) := H.toM.LC_isChain k

theorem LC_lt (H : HInv s G) {k i : Nat} (hi : i ∈ LC s k) : i < s.heap.length := H.toM.LC_lt hi

theorem LC_keys (H : HInv s G) (k : Nat) : KeysDistinct s.heap (LC s k) := H.toM.LC_keys k

theorem absOf_none_iff (_H : HInv s G) {k : Nat} : absOf s k = none ↔ ∀ i ∈ LC s k, (nodeAt s.heap i).key ≠ k :=
  _H.toM.absOf_none_iff

theorem absOf_some_iff (H : HInv s G) {k : Nat} {v : Nat × Nat} :
    absOf s k = some v ↔ ∃ i ∈ LC s k, (nodeAt s.heap i).key = k ∧ (nodeAt s.heap i).val = v :=
  H.toM.absOf_some_iff

end HInv

inductive Good (G : Ghost) (A : Nat → KSt) (k inv : Nat) (s : State) : Option Nat → Prop
  | absent {τ : Nat} : inv ≤ τ → τ ≤ s.now → A τ = none → Good G A k inv s none
  | on {c : Nat} : c ∈ LC s k → (∀ i ∈ LC s k, ord G.cr i < ord G.cr c → (nodeAt s.heap i).key ≠ k) →
      Good G A k inv s (some c)
  | foreign {c τ : Nat} {id : CellId} : c ∈ chId s id → ¬ keyOn id k → inv ≤ τ → τ ≤ s.now → A τ = none →
      Good G A k inv s (some c)
  | off {c : Nat} : ¬ Live s G c → c < s.heap.length →
      ((nodeAt s.heap c).key ≠ k → Good G A k inv s (nodeAt s.heap c).next) →
      ((nodeAt s.heap c).key = k → ∃ τ, inv ≤ τ ∧ τ ≤ s.now ∧ A τ = some (nodeAt s.heap c).val) →
      Good G A k inv s (some c)

theorem good_toM {G : Ghost} {A : Nat → KSt} {k inv : Nat} {s : State} {cur : Option Nat} :
    BinNHM.Good (toM G) A k inv s cur ↔ Good G A k inv s cur := by
  constructor
  · intro h
    induction h with
    | absent h1 h2 h3 => exact .absent h1 h2 h3
    | on hc hb => exact .on hc hb
    | foreign hc hno h1 h2 h3 => exact .foreign hc hno h1 h2 h3
    | off hnl hlt _ hval ih => exact .off (mt live_toM.2 hnl) hlt ih hval
  · intro h
    induction h with
    | absent h1 h2 h3 => exact .absent h1 h2 h3
    | on hc hb => exact .on hc hb
    | foreign hc hno h1 h2 h3 => exact .foreign hc hno h1 h2 h3
    | off hnl hlt _ hval ih => exact .off (mt live_toM.1 hnl) hlt ih hval

theorem Good.cell {A : Nat → KSt} {k inv : Nat} {s : State} {G : Ghost} (H : HInv s G) {h : Nat}
    (hcell : liveCell s k = .node h) : Good G A k inv s (some h) :=
  good_toM.1 (BinNHM.Good.cell H.toM hcell)

theorem Good.next {A : Nat → KSt} {k inv : Nat} {s : State} {G : Ghost} (H : HInv s G)
    (hA : A s.now = absOf s k) (hinv : inv ≤ s.now) {c : Nat} (hg : Good G A k inv s (some c))
    (hk : (nodeAt s.heap c).key ≠ k) : Good G A k inv s (nodeAt s.heap c).next :=
  good_toM.1 (BinNHM.Good.next H.toM hA hinv (good_toM.2 hg) hk)

theorem Good.hit {A : Nat → KSt} {k inv : Nat} {s : State} {G : Ghost} (H : HInv s G)
    (hA : A s.now = absOf s k) (hinv : inv ≤ s.now) {c : Nat} (hg : Good G A k inv s (some c))
    (hk : (nodeAt s.heap c).key = k) :
    ∃ τ, inv ≤ τ ∧ τ ≤ s.now ∧ A τ = some (nodeAt s.heap c).val :=
  BinNHM.Good.hit H.toM hA hinv (good_toM.2 hg) hk

theorem Good.miss {G : Ghost} {A : Nat → KSt} {k inv : Nat} {s : State} (hg : Good G A k inv s none) :
    ∃ τ, inv ≤ τ ∧ τ ≤ s.now ∧ A τ = none :=
  BinNHM.Good.miss (good_toM.2 hg)

end Flurry.Proto.BinN
