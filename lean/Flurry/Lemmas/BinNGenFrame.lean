import Flurry.Lemmas.BinNGenDefs
import Flurry.Lemmas.BinXBasic
/-! # Proto/BinN: the generation invariant — frame lemmas -/
namespace Flurry.Proto.BinN
open Flurry.Lin
open Flurry.Proto.BinX (NodeS Cell Pending isReader dflt chainFrom cellHead cellOfHead get_set get_set_self get_set_ne)

export Flurry.Shared (mod_lt_pow mod_succ_mod)

theorem high_mod (j g : Nat) (hj : j < 2 ^ g) : (j + 2 ^ g) % 2 ^ g = j := Shared.high_mod hj

namespace GenInv
variable {s : State}

theorem cur_lt (I : GenInv s) : s.cur < s.tabs.length := by
  have := I.len
  omega

theorem row_cur (I : GenInv s) : ∃ row, s.tabs[s.cur]? = some row ∧ row.length = 2 ^ s.cur := by
  have h := I.cur_lt
  exact ⟨s.tabs[s.cur], List.getElem?_eq_getElem h, I.rows _ _ (List.getElem?_eq_getElem h)⟩

theorem row_next (I : GenInv s) (hr : s.resizing = true) :
    ∃ row, s.tabs[s.cur + 1]? = some row ∧ row.length = 2 ^ (s.cur + 1) := by
  have h : s.cur + 1 < s.tabs.length := by
    have := I.len
    rw [hr] at this
    simp at this
    omega
  exact ⟨s.tabs[s.cur + 1], List.getElem?_eq_getElem h, I.rows _ _ (List.getElem?_eq_getElem h)⟩

/-- **mutual exclusion**: at most one thread holds a validated lock on a cell -/
theorem mutex (I : GenInv s) {t t1 : Nat} {l l1 : Local} {g j h h1 : Nat}
    (hl : s.threads[t]? = some l) (hl1 : s.threads[t1]? = some l1)
    (hv : vcell s.cur l = some (g, j, h)) (hv1 : vcell s.cur l1 = some (g, j, h1)) : t = t1 := by
  obtain ⟨c, hh⟩ := (I.thr t l hl).valid g j h hv
  obtain ⟨c1, hh1⟩ := (I.thr t1 l1 hl1).valid g j h1 hv1
  rw [c] at c1
  cases c1
  have a := ((I.thr t l hl).held h hh).2
  have b := ((I.thr t1 l1 hl1).held h hh1).2
  rw [a] at b
  exact Option.some.inj b

theorem of_allMoved (I : GenInv s) (h : allMoved s s.cur = true) : ∀ j, j < 2 ^ s.cur → cellAt s s.cur j = .moved := by
  obtain ⟨row, hr, hlen⟩ := I.row_cur
  intro j hj
  unfold allMoved at h
  rw [List.getD_eq_getElem?_getD, hr] at h
  simp only [Option.getD_some, List.all_eq_true, beq_iff_eq] at h
  have e : s.tabs.getD s.cur [] = row := by rw [List.getD_eq_getElem?_getD, hr]; rfl
  unfold cellAt
  rw [e, List.getD_eq_getElem?_getD, List.getElem?_eq_getElem (by omega)]
  exact h _ (List.getElem_mem _)

end GenInv

/-- `ThrOK` only depends on the tables, `cur`, `resizing` and the lock words the thread holds -/
theorem ThrOK.congr {s s' : State} {t : Nat} {l : Local} (h : ThrOK s t l)
    (htabs : s'.tabs = s.tabs) (hcur : s'.cur = s.cur) (hres : s'.resizing = s.resizing)
    (hheld : ∀ h, Holds l.pc h → h < s'.heap.length ∧ lockAt s'.heap h = some t) : ThrOK s' t l := by
  have hc : ∀ g j, cellAt s' g j = cellAt s g j := fun g j => by rw [cellAt_eq, cellAt_eq, htabs]
  refine ⟨?_, ?_, ?_, ?_, hheld, ?_⟩
  · rw [hres]; exact h.tres
  · intro p g h1 h2
    rw [hcur]
    unfold cellOf
    rw [hc]
    exact h.gen p g h1 h2
  · rw [hcur]; exact h.idx
  · rw [hcur]; intro h1 j hj; rw [hc]; exact h.commit h1 j hj
  · intro g j h0 hv
    rw [hcur] at hv
    rw [hc]
    exact h.valid g j h0 hv

/-- the generic preservation lemma for transitions that keep `cur`, `resizing` and the shape of the
tables -/
theorem geninv_frame {s s' : State} {t : Nat} {l l' : Local} (I : GenInv s) (hl : s.threads[t]? = some l)
    (hthr : s'.threads = s.threads.set t l') (hcur : s'.cur = s.cur) (hres : s'.resizing = s.resizing)
    (hlen : s'.tabs.length = s.tabs.length)
    (hrows : ∀ (g : Nat) (row' : List Cell), s'.tabs[g]? = some row' →
      ∃ row : List Cell, s.tabs[g]? = some row ∧ row'.length = row.length)
    (hmono : ∀ g j, cellAt s g j = .moved → cellAt s' g j = .moved)
    (hnew : ∀ g j, cellAt s' g j = .moved → cellAt s g j = .moved ∨ (g = s.cur ∧ s.resizing = true))
    (hvalid : ∀ t1 l1 g j h, t1 ≠ t → s.threads[t1]? = some l1 → vcell s.cur l1 = some (g, j, h) →
      cellAt s' g j = cellAt s g j)
    (hlock : ∀ t1 l1 h, t1 ≠ t → s.threads[t1]? = some l1 → Holds l1.pc h →
      h < s'.heap.length ∧ lockAt s'.heap h = some t1)
    (hT : isT l'.pc → isT l.pc)
    (hself : ThrOK s' t l') : GenInv s' := by
  refine ⟨?_, ?_, ?_, ?_, ?_, ?_, ?_⟩
  · rw [hlen, hcur, hres]; exact I.len
  · intro g row' hr'
    obtain ⟨row, hr, he⟩ := hrows g row' hr'
    rw [he]; exact I.rows g row hr
  · intro g j hg hj
    rw [hcur] at hg
    exact hmono g j (I.old g j hg hj)
  · intro j hm
    rw [hcur] at hm
    rcases hnew _ _ hm with h | ⟨h, -⟩
    · exact I.nextOK j h
    · omega
  · intro j hm
    rw [hcur] at hm
    rw [hres]
    rcases hnew _ _ hm with h | ⟨-, h⟩
    · exact I.curMoved j h
    · exact h
  · intro t1 t2 l1 l2 h1 h2 hT1 hT2
    rw [hthr] at h1 h2
    rcases get_set h1 with ⟨e1, f1⟩ | ⟨n1, h1⟩ <;> rcases get_set h2 with ⟨e2, f2⟩ | ⟨n2, h2⟩
    · rw [e1, e2]
    · rw [f1] at hT1; rw [e1]; exact I.uniqT _ _ _ _ hl h2 (hT hT1) hT2
    · rw [f2] at hT2; rw [e2]; exact I.uniqT _ _ _ _ h1 hl hT1 (hT hT2)
    · exact I.uniqT _ _ _ _ h1 h2 hT1 hT2
  · intro t1 l1 h1
    rw [hthr] at h1
    rcases get_set h1 with ⟨rfl, rfl⟩ | ⟨n1, h1⟩
    · exact hself
    · have T := I.thr t1 l1 h1
      refine ⟨?_, ?_, ?_, ?_, ?_, ?_⟩
      · rw [hres]; exact T.tres
      · intro p g hp hg
        rw [hcur]
        obtain ⟨a, b⟩ := T.gen p g hp hg
        exact ⟨a, fun e => hmono _ _ (b e)⟩
      · rw [hcur]; exact T.idx
      · rw [hcur]; intro hc j hj; exact hmono _ _ (T.commit hc j hj)
      · exact fun h hh => hlock t1 l1 h n1 h1 hh
      · intro g j h hv
        rw [hcur] at hv
        rw [hvalid t1 l1 g j h n1 h1 hv]
        exact T.valid g j h hv

theorem geninv_same {s s' : State} {t : Nat} {l l' : Local} (I : GenInv s) (hl : s.threads[t]? = some l)
    (hthr : s'.threads = s.threads.set t l') (hcur : s'.cur = s.cur) (hres : s'.resizing = s.resizing)
    (htabs : s'.tabs = s.tabs)
    (hlock : ∀ t1 l1 h, t1 ≠ t → s.threads[t1]? = some l1 → Holds l1.pc h →
      h < s'.heap.length ∧ lockAt s'.heap h = some t1)
    (hT : isT l'.pc → isT l.pc)
    (hself : ThrOK s' t l') : GenInv s' := by
  have hc : ∀ g j, cellAt s' g j = cellAt s g j := fun g j => by rw [cellAt_eq, cellAt_eq, htabs]
  refine geninv_frame I hl hthr hcur hres (by rw [htabs]) ?_ ?_ ?_ ?_ hlock hT hself
  · intro g row' h; rw [htabs] at h; exact ⟨row', h, rfl⟩
  · intro g j h; rw [hc]; exact h
  · intro g j h; rw [hc] at h; exact Or.inl h
  · intro _ _ g j _ _ _ _; exact hc g j

/-- the lock words the threads hold survive a transition that changes no lock word -/
theorem locks_of_lockSame {s : State} {heap' : List NodeS} (I : GenInv s) (h : LockSame s.heap heap') :
    ∀ t1 l1 h1, s.threads[t1]? = some l1 → Holds l1.pc h1 → h1 < heap'.length ∧ lockAt heap' h1 = some t1 := by
  intro t1 l1 h1 hl1 hh
  obtain ⟨a, b⟩ := (I.thr t1 l1 hl1).held h1 hh
  exact ⟨by have := h.1; omega, by rw [h.2 h1 a]; exact b⟩

/-- `locks_of_lockSame` in the form `geninv_same` / `geninv_put` take (the acting thread `t` is excepted there) -/
theorem hlock_of_lockSame {s : State} {heap' : List NodeS} {t : Nat} (I : GenInv s) (h : LockSame s.heap heap') :
    ∀ t1 l1 h1, t1 ≠ t → s.threads[t1]? = some l1 → Holds l1.pc h1 →
      h1 < heap'.length ∧ lockAt heap' h1 = some t1 :=
  fun t1 l1 h1 _ => locks_of_lockSame I h t1 l1 h1

/-- the lock words of the other threads survive the change of a lock word that the acting thread may
change (it is free, or the acting thread holds it) -/
theorem hlock_of_modify {s : State} {t : Nat} {h : Nat} {x : Option Nat} (I : GenInv s)
    (hfree : lockAt s.heap h = none ∨ lockAt s.heap h = some t) :
    ∀ t1 l1 h1, t1 ≠ t → s.threads[t1]? = some l1 → Holds l1.pc h1 →
      h1 < (s.heap.modify h (fun m => { m with lock := x })).length ∧
      lockAt (s.heap.modify h (fun m => { m with lock := x })) h1 = some t1 := by
  intro t1 l1 h1 hne hl1 hh
  obtain ⟨a, b⟩ := (I.thr t1 l1 hl1).held h1 hh
  have hne' : h1 ≠ h := by
    rintro rfl
    rcases hfree with e | e <;> rw [e] at b
    · cases b
    · exact hne (Option.some.inj b).symm
  exact ⟨by simpa using a, by rw [lockAt_modify_ne x hne']; exact b⟩

end Flurry.Proto.BinN
