import Flurry.Proto.BinNH
import Flurry.Lemmas.BinNExamples
/-! # Proto/BinNH: the helper model exercised by execution, and kernel-checked runs

* `explore`: a seeded random scheduler over `step` / `stepG false`: calls on a few keys, resizes started
  whenever none is running, idle threads JOIN a running resize, resizing threads pick cells at random (also
  cells another helper is working on), leave at random; optionally thread 1 is a *sleepy helper*
  (`mode = 1`: frozen between "store high" and "store marker", holding the bin lock, while the others go on;
  `mode = 2`: frozen in front of a cell — `cell`/`casMoved`/`lock` — until the resize of its generation has
  committed; `mode = 3`: … and until the NEXT generation's resize has started). Then a drain to quiescence;
  every quiescent per-key history is decided by the complete procedure `Lin.search` against `absOf`.
* kernel-checked runs (`decide`) at the end of the file, incl. the refutation of the variant in which the
  helper skips its re-check. -/
namespace Flurry.Proto.BinNH
open Flurry.Lin
open Flurry.Proto.BinX (NodeS Cell Pending isReader dflt chainFrom cellHead cellOfHead)
open Flurry.Proto.BinN (Cov Cov.bump rngNext rngPick mkOp)

structure Act where
  t : Nat
  inv : Option (Nat × KOp) := none
  rz : Bool := false
  leave : Bool := false
  pick : Nat := 0
deriving Repr, DecidableEq

abbrev Sched := List Act
abbrev StepFn := State → Nat → Option (Nat × KOp) → Bool → Bool → Nat → Option State

def act (f : StepFn) (s : State) (a : Act) : Option State := f s a.t a.inv a.rz a.leave a.pick

def run (f : StepFn) : State → Sched → Option State
  | s, [] => some s
  | s, a :: rest =>
    match act f s a with
    | none => none
    | some s' => run f s' rest

def quiescentB (s : State) : Bool := BinN.quiescentB s.n && s.hs.all (· == none)
def linB (s : State) (k : Nat) : Bool := BinN.linB s.n k

/-! ## the explorer (`#eval` only) -/

def hTag : HPc → String
  | .next => "next" | .cell _ => "cell" | .casMoved _ => "casMoved" | .lock _ _ => "lock" | .check _ _ => "check"
  | .build _ _ => "build" | .storeLow _ _ _ _ => "storeLow" | .storeHigh _ _ _ => "storeHigh"
  | .storeMoved _ _ => "storeMoved" | .unlock _ _ => "unlock" | .commit => "commit"

def hIdx : HPc → Option Nat
  | .cell j | .casMoved j | .lock j _ | .check j _ | .build j _ | .storeLow j _ _ _ | .storeHigh j _ _
  | .storeMoved j _ | .unlock j _ => some j
  | _ => none

def helperOf (s : State) (t : Nat) : Option Helper := (s.hs.getD t none)

/-- coverage events of one executed step `s —a→ s'` -/
def events (s s' : State) (a : Act) (c : Cov) : Cov := Id.run do
  let mut c := c
  match helperOf s a.t with
  | none =>
    let l := s.n.threads.getD a.t {}
    let l' := s'.n.threads.getD a.t {}
    if l.pc == .idle then
      if a.rz then c := c.bump (if s.n.resizing then "join" else "start")
    else
      c := c.bump ("pc:" ++ BinN.pcTag l'.pc)
      match BinN.genOf l.pc with
      | some g =>
        if g + 2 ≤ s.n.cur then c := c.bump "rw:stale>=2"
        else if g + 1 ≤ s.n.cur then c := c.bump "rw:stale=1"
        else if g == s.n.cur + 1 then c := c.bump "rw:inNext"
      | none => pure ()
      match l.pc, l'.pc with
      | .wCheck _ _, .wUnlock _ _ _ true => c := c.bump "rw:recheckFailed"
      | _, _ => pure ()
  | some hp =>
    c := c.bump ("h:" ++ hTag hp.pc)
    if hp.g < s.n.cur then
      c := c.bump ("staleHelper:" ++ hTag hp.pc)
      if s.n.resizing then c := c.bump ("staleHelperWhileNextGenerationResizes:" ++ hTag hp.pc)
      if hp.g + 2 ≤ s.n.cur then c := c.bump ("staleHelperBy2:" ++ hTag hp.pc)
    -- the other helpers
    for t' in [0:s.hs.length] do
      if t' != a.t then
        match helperOf s t' with
        | some hp' =>
          if hp'.g == hp.g then
            match hIdx hp.pc, hIdx hp'.pc with
            | some j, some j' =>
              if j == j' then c := c.bump "twoHelpersOnTheSameCell" else c := c.bump "twoHelpersOnDifferentCells"
              match hp'.pc with
              | .storeMoved _ _ =>
                if j != j' then c := c.bump ("progressWhileOtherSuspendedBetweenHighAndMarker:" ++ hTag hp.pc)
              | _ => pure ()
            | _, _ => pure ()
        | none => pure ()
    match hp.pc, helperOf s' a.t with
    | .check j _, some ⟨_, .cell _⟩ =>
      c := c.bump (if BinN.cellAt s.n hp.g j == .moved then "helperRecheckFoundMarker" else "helperRecheckFoundOtherHead")
    | .casMoved _, some ⟨_, .cell _⟩ => c := c.bump "helperCasFailed"
    | .casMoved _, some ⟨_, .next⟩ => c := c.bump "helperCasForwarded"
    | .storeMoved _ _, _ => c := c.bump "helperStoredMarker"
    | .commit, _ => c := c.bump (if s'.n.cur > s.n.cur then s!"commit->{s'.n.cur}" else "commitTooLate")
    | .next, none => c := c.bump (if a.leave && hp.g == s.n.cur && s.n.resizing then "leave" else "staleHelperBecomesIdle")
    | .build _ _, some ⟨_, .storeLow _ _ lo hg⟩ =>
      c := c.bump ("split:" ++ (if lo.isSome then "L" else "-") ++ (if hg.isSome then "H" else "-"))
    | _, _ => pure ()
  return c

structure Cfg where
  nthreads : Nat := 4
  keys : List Nat := [0, 1, 2, 3]
  steps : Nat := 260
  calls : Nat := 12
  /-- resizes started at most -/
  resizes : Nat := 3
  pResize : Nat := 8
  pJoin : Nat := 25
  pCall : Nat := 60
  pLeave : Nat := 10
  noCheck : Bool := false
  /-- the sleepy helper (thread 1): see the header -/
  mode : Nat := 0

structure Out where
  cov : Cov
  bad : Option (Sched × Nat)
  runs : Nat
  quiescentRuns : Nat
  maxHist : Nat
  maxGen : Nat

/-- is the sleepy helper (thread 1) frozen? `fz`: how often it has been passed over in `mode = 1` -/
def frozen (cfg : Cfg) (s : State) (t : Nat) (fz : Nat) : Bool :=
  t == 1 &&
  match helperOf s 1 with
  | none => false
  | some hp =>
    match cfg.mode with
    | 1 => (match hp.pc with | .storeMoved _ _ => fz < 10 | _ => false)
    | 2 => (match hp.pc with | .cell _ | .casMoved _ | .lock _ _ => s.n.cur ≤ hp.g | _ => false)
    | 3 => (match hp.pc with
            | .cell _ | .casMoved _ | .lock _ _ => s.n.cur ≤ hp.g || (s.n.cur == hp.g + 1 && !s.n.resizing)
            | _ => false)
    | _ => false

def oneRun (cfg : Cfg) (seed : Nat) (cov : Cov) : Sched × State × Cov := Id.run do
  let f : StepFn := if cfg.noCheck then stepG false else step
  let mut s := init cfg.nthreads
  let mut rng := seed
  let mut sc : Array Act := #[]
  let mut cov := cov
  let mut calls := 0
  let mut rzs := 0
  let mut fz := 0
  for _ in [0:cfg.steps] do
    rng := rngNext rng
    let t := rngPick rng cfg.nthreads
    rng := rngNext rng
    if frozen cfg s t fz then
      fz := fz + 1
      continue
    let l := s.n.threads.getD t {}
    let mut a : Act := { t := t }
    match helperOf s t with
    | some hp =>
      let r := rngPick rng 100
      rng := rngNext rng
      a := { t := t, pick := rngPick rng 64, leave := (hp.pc == .next && r < cfg.pLeave) }
      match hp.pc with | .unlock _ _ => fz := 0 | _ => pure ()
    | none =>
      if l.pc == .idle then
        let r := rngPick rng 100
        rng := rngNext rng
        -- the sleepy helper is eager to help
        let pj := if cfg.mode > 0 && t == 1 then 60 else cfg.pJoin
        if s.n.resizing && r < pj then a := { t := t, rz := true }
        else if !s.n.resizing && r < cfg.pResize && rzs < cfg.resizes then
          a := { t := t, rz := true }
          rzs := rzs + 1
        else if r < cfg.pResize + cfg.pCall && calls < cfg.calls then
          let k := cfg.keys.getD (rngPick rng cfg.keys.length) 0
          rng := rngNext rng
          let op := mkOp (rngPick rng 12) (100 + calls)
          a := { t := t, inv := some (k, op) }
          calls := calls + 1
        else continue
      else pure ()
    match act f s a with
    | none =>
      cov := cov.bump (match helperOf s t with | some hp => "blocked:h." ++ hTag hp.pc | none => "blocked:" ++ BinN.pcTag l.pc)
    | some s' =>
      cov := events s s' a cov
      sc := sc.push a
      s := s'
  -- drain: everybody runs on (helpers do not leave: the resize has to be completed by somebody); the
  -- sleepy helper is only woken when the others cannot go on without it
  let mut stuck := false
  for _ in [0:900] do
    if quiescentB s then break
    let mut progress := false
    for t' in [0:cfg.nthreads] do
      let t := cfg.nthreads - 1 - t'
      let l := s.n.threads.getD t {}
      if l.pc != .idle || (helperOf s t).isSome then
        if frozen cfg s t 0 && !stuck then continue
        rng := rngNext rng
        let a : Act := { t := t, pick := rngPick rng 64 }
        match act f s a with
        | none =>
          cov := cov.bump (match helperOf s t with | some hp => "blocked:h." ++ hTag hp.pc | none => "blocked:" ++ BinN.pcTag l.pc)
        | some s' =>
          cov := events s s' a cov
          sc := sc.push a
          s := s'
          progress := true
    stuck := !progress
  return (sc.toList, s, cov)

def explore (cfg : Cfg) (seed0 nruns : Nat) : Out := Id.run do
  let mut cov : Cov := []
  let mut bad : Option (Sched × Nat) := none
  let mut q := 0
  let mut mh := 0
  let mut mg := 0
  for i in [0:nruns] do
    let (sc, s, cov') := oneRun cfg (rngNext (seed0 + 7919 * i)) cov
    cov := cov'
    if s.n.cur > mg then mg := s.n.cur
    cov := cov.bump s!"final:cur={s.n.cur}"
    if quiescentB s then
      q := q + 1
      for k in cfg.keys do
        let h := callsOn s k
        if h.length > mh then mh := h.length
        if !linB s k && bad.isNone then bad := some (sc, k)
    else cov := cov.bump "notDrained"
  return { cov := cov, bad := bad, runs := nruns, quiescentRuns := q, maxHist := mh, maxGen := mg }

def Out.report (o : Out) : String :=
  let lines := (o.cov.toArray.qsort (fun a b => a.1 < b.1)).toList.map fun (k, n) => s!"  {k}: {n}"
  s!"runs {o.runs}, drained to quiescence {o.quiescentRuns}, longest per-key history {o.maxHist}, max generation {o.maxGen}, " ++
  (match o.bad with | none => "ALL LINEARIZABLE" | some (sc, k) => s!"NOT LINEARIZABLE on key {k}: {repr sc}") ++
  "\n" ++ "\n".intercalate lines

/-! ## kernel-checked runs

Four threads: thread 0 performs the calls, threads 2 and 3 resize. `setup` builds the list
`[a: key 1, b: key 2, c: key 3]` in cell `(0,0)` (as in `Lemmas/BinNExamples.lean`).

* `schedH` — **two helpers, different cells and the same cell, a helper suspended between "store high" and
  "store marker"**: thread 2 resizes `0 → 1` alone; then thread 2 starts `1 → 2` and thread 3 JOINS. Thread 2
  takes cell `(1,1)` up to `storeMoved` (low and high stored, marker not yet, bin lock held) and is suspended;
  thread 3 transfers cell `(1,0)` completely, then turns to `(1,1)` too: it loads the old head and is about
  to lock it; a `get(1)` runs meanwhile (it still reads the old list). Thread 2 stores the marker and unlocks;
  thread 3 gets the lock, **finds the marker at its re-check**, unlocks and moves on. Both see "all
  forwarded" and go to `commit`; thread 3 commits, thread 2 is too late and becomes idle.
* `schedS 5` — **a helper that resumes after the commit of its generation and after the NEXT resize has
  started**: thread 3 joins the resize of generation 0, loads the head `a` of `(0,0)` and sleeps; thread 2
  transfers the cell and commits (`cur = 1`); `insert(1) = 8` updates the copy `a'` in `(1,1)`; thread 2
  starts the resize `1 → 2`; thread 3 wakes up: locks the dead `a`, its re-check sees `(0,0) = moved`, unlocks,
  reloads (`moved`), and at `next` finds `g = 0 ≠ cur`: idle. It touched no cell.
* `schedSNoCheck` — the same helper WITHOUT the re-check (`stepG false`): it splits the dead list and
  overwrites `(1,0)` and `(1,1)` — cells of the new CURRENT generation — with copies of the dead nodes; the
  completed `insert(1) = 8` is lost: a later `get(1)` returns 5. Not linearizable (`noCheck_refutes`). -/

/-- reachability in the variant without the re-checks -/
inductive ReachableNoCheck (nthreads : Nat) : State → Prop
  | init : ReachableNoCheck nthreads (init nthreads)
  | step {s s' : State} (t : Nat) (inv : Option (Nat × KOp)) (rz leave : Bool) (pick : Nat) :
      ReachableNoCheck nthreads s → stepG false s t inv rz leave pick = some s' → ReachableNoCheck nthreads s'

theorem run_reachable {n : Nat} : ∀ (sc : Sched) {s s' : State}, Reachable n s → run step s sc = some s' →
    Reachable n s'
  | [], s, s', hr, h => by simp only [run, Option.some.injEq] at h; exact h ▸ hr
  | a :: rest, s, s', hr, h => by
    simp only [run] at h
    cases hs : act step s a with
    | none => rw [hs] at h; cases h
    | some s1 => rw [hs] at h; exact run_reachable rest (.step a.t a.inv a.rz a.leave a.pick hr hs) h

theorem run_reachableNoCheck {n : Nat} : ∀ (sc : Sched) {s s' : State}, ReachableNoCheck n s →
    run (stepG false) s sc = some s' → ReachableNoCheck n s'
  | [], s, s', hr, h => by simp only [run, Option.some.injEq] at h; exact h ▸ hr
  | a :: rest, s, s', hr, h => by
    simp only [run] at h
    cases hs : act (stepG false) s a with
    | none => rw [hs] at h; cases h
    | some s1 => rw [hs] at h; exact run_reachableNoCheck rest (.step a.t a.inv a.rz a.leave a.pick hr hs) h

/-- quiescent in generation `cur`?, and per key `0 … 3`: the abstract state and whether the exhaustive
search finds a linearization of the key's history ending in it -/
def verdict (f : StepFn) (n cur : Nat) (sc : Sched) : Option (Bool × List (KSt × Bool)) :=
  (run f (init n) sc).map fun s => (quiescentB s && s.n.cur == cur, (List.range 4).map fun k => (absOf s k, linB s k))

theorem quiescent_of_quiescentB {s : State} (h : quiescentB s = true) : quiescent s := by
  unfold quiescentB at h
  simp only [Bool.and_eq_true] at h
  refine ⟨BinN.quiescent_of_quiescentB h.1, ?_⟩
  intro x hx
  have := List.all_eq_true.1 h.2 x hx
  simpa using this

def rep (t n : Nat) : Sched := List.replicate n { t := t }
def call (t k : Nat) (op : KOp) : Sched := [{ t := t, inv := some (k, op) }]
def rz (t : Nat) : Sched := [{ t := t, rz := true }]
def pick (t j : Nat) : Sched := [{ t := t, pick := j }]
/-- helper `t` transfers the non-empty cell `j` (9 steps from `next` back to `next`) -/
def xfer (t j : Nat) : Sched := pick t j ++ rep t 8
/-- `next` (all forwarded), `commit` -/
def commit (t : Nat) : Sched := rep t 2

def setup : Sched :=
  call 0 1 (.ins 5 100) ++ rep 0 3 ++ call 0 2 (.ins 6 101) ++ rep 0 8 ++ call 0 3 (.ins 7 102) ++ rep 0 9

def schedH : Sched :=
  setup ++ rz 2 ++ xfer 2 0 ++ commit 2 ++          -- generation 0 → 1 by thread 2 alone
  rz 2 ++ rz 3 ++                                    -- thread 2 starts 1 → 2, thread 3 joins
  pick 2 1 ++ rep 2 6 ++                             -- 2: cell (1,1) up to `storeMoved` (holds the lock of a')
  xfer 3 0 ++                                        -- 3 transfers cell (1,0) meanwhile
  pick 3 1 ++ rep 3 1 ++                             -- 3 turns to (1,1): loads `node a'` → at `lock`
  call 0 1 .get ++ rep 0 4 ++                        -- a get(1) while the marker is not yet stored
  rep 2 2 ++                                         -- 2: store marker, unlock
  rep 3 4 ++                                         -- 3: lock a', re-check finds the marker, unlock, reload: moved → next
  rep 3 1 ++ rep 2 1 ++                              -- both: next → commit (all forwarded)
  rep 3 1 ++ rep 2 1 ++                              -- 3 commits; 2 is too late → idle
  call 0 1 (.ins 9 104) ++ rep 0 8 ++ call 0 1 .get ++ rep 0 4

def schedS (k : Nat) : Sched :=
  setup ++ rz 2 ++ rz 3 ++
  pick 3 0 ++ rep 3 1 ++                             -- 3: cell (0,0) = node a → at `lock 0 a`
  xfer 2 0 ++ commit 2 ++                            -- 2 transfers and commits: cur = 1
  call 0 1 (.ins 8 103) ++ rep 0 7 ++                -- insert(1) = 8 in generation 1
  rz 2 ++                                            -- the next resize (1 → 2) starts
  rep 3 k ++                                         -- 3 resumes: lock, re-check fails, unlock, reload, next → idle
  xfer 2 0 ++ xfer 2 1 ++ commit 2 ++
  call 0 1 .get ++ rep 0 4

def schedSNoCheck : Sched :=
  setup ++ rz 2 ++ rz 3 ++
  pick 3 0 ++ rep 3 1 ++
  xfer 2 0 ++ commit 2 ++
  call 0 1 (.ins 8 103) ++ rep 0 7 ++
  rep 3 9 ++                                         -- lock, (no check), build, low, high, marker, unlock, next → idle
  call 0 1 .get ++ rep 0 4

theorem verdict_H : verdict step 4 2 schedH =
    some (true, [(none, true), (some (9, 104), true), (some (6, 101), true), (some (7, 102), true)]) := by
  decide +kernel

theorem verdict_S : verdict step 4 2 (schedS 5) =
    some (true, [(none, true), (some (8, 103), true), (some (6, 101), true), (some (7, 102), true)]) := by
  decide +kernel

theorem verdict_S_noCheck : verdict (stepG false) 4 1 schedSNoCheck =
    some (true, [(none, true), (some (5, 100), false), (some (6, 101), true), (some (7, 102), true)]) := by
  decide +kernel

/-- the second helper on cell `(1,1)` holds the lock and is at `check` in front of the marker; its next step
is the failed re-check: it unlocks and reloads the cell -/
theorem second_helper_finds_marker :
    (run step (init 4) (schedH.take 63)).map (fun s => (s.hs, BinN.cellAt s.n 1 1)) =
      some ([none, none, some ⟨1, .next⟩, some ⟨1, .check 1 3⟩], .moved) ∧
    (run step (init 4) (schedH.take 64)).map (fun s => s.hs) =
      some [none, none, some ⟨1, .next⟩, some ⟨1, .cell 1⟩] := by
  decide +kernel

/-- the stale helper touches no cell: the tables when it resumes (generation 1 is current and is being
resized) and after it has become idle -/
theorem stale_helper_touches_nothing :
    (run step (init 4) ((schedS 5).take 47)).map (fun s => (s.n.tabs, s.hs)) =
      some ([[.moved], [.node 4, .node 3], [.empty, .empty, .empty, .empty]],
            [none, none, some ⟨1, .next⟩, some ⟨0, .lock 0 0⟩]) ∧
    (run step (init 4) ((schedS 5).take 47)).map (fun s => (s.n.cur, s.n.resizing)) = some (1, true) ∧
    (run step (init 4) ((schedS 5).take 52)).map (fun s => (s.n.tabs, s.hs)) =
      some ([[.moved], [.node 4, .node 3], [.empty, .empty, .empty, .empty]],
            [none, none, some ⟨1, .next⟩, none]) := by
  decide +kernel
theorem of_verdict {f : StepFn} {n cur : Nat} {sc : Sched} {r : List (KSt × Bool)}
    (h : verdict f n cur sc = some (true, r)) :
    ∃ s, run f (init n) sc = some s ∧ quiescent s ∧ s.n.cur = cur ∧
      (List.range 4).map (fun k => (absOf s k, linB s k)) = r := by
  unfold verdict at h
  cases hr : run f (init n) sc with
  | none => rw [hr] at h; cases h
  | some s =>
    rw [hr] at h
    simp only [Option.map_some, Option.some.injEq, Prod.mk.injEq] at h
    have h1 := h.1
    simp only [Bool.and_eq_true, beq_iff_eq] at h1
    exact ⟨s, rfl, quiescent_of_quiescentB h1.1, h1.2, h.2⟩

theorem lin_of_linB {s : State} {k : Nat} (h : linB s k = true) :
    Lin.Linearizable (callsOn s k) none (absOf s k) := BinN.lin_of_linB h

theorem not_lin_of_linB {s : State} {k : Nat} (h : linB s k = false) :
    ¬ Lin.Linearizable (callsOn s k) none (absOf s k) := BinN.not_lin_of_linB h

/-- **the helper's re-check is load-bearing**: without it, a reachable quiescent state whose history of
key 1 is not linearizable (a helper that is stale by a generation overwrites cells of the new current
generation with copies of dead nodes; a completed insert is lost) -/
theorem noCheck_not_linearizable :
    ∃ s, ReachableNoCheck 4 s ∧ quiescent s ∧ s.n.cur = 1 ∧
      ¬ Lin.Linearizable (callsOn s 1) none (absOf s 1) := by
  obtain ⟨s, hr, hq, hc, hv⟩ := of_verdict verdict_S_noCheck
  refine ⟨s, run_reachableNoCheck _ .init hr, hq, hc, not_lin_of_linB ?_⟩
  have h1 : (((List.range 4).map (fun k => (absOf s k, linB s k)))[1]?).map (·.2) = some false := by
    rw [hv]; rfl
  simpa using h1

theorem noCheck_refutes :
    ¬ ∀ (n : Nat) (s : State), ReachableNoCheck n s → quiescent s → ∀ k,
      Lin.Linearizable (callsOn s k) none (absOf s k) := by
  intro hall
  obtain ⟨s, hr, hq, -, hn⟩ := noCheck_not_linearizable
  exact hn (hall 4 s hr hq 1)

theorem lin_of_verdict {sc : Sched} {cur : Nat} {r : List (KSt × Bool)} (h : verdict step 4 cur sc = some (true, r))
    (hr : r.map (·.2) = [true, true, true, true]) :
    ∃ s, run step (init 4) sc = some s ∧ Reachable 4 s ∧ quiescent s ∧ s.n.cur = cur ∧
      ∀ k < 4, Lin.Linearizable (callsOn s k) none (absOf s k) := by
  obtain ⟨s, hrun, hq, hc, hv⟩ := of_verdict h
  refine ⟨s, hrun, run_reachable _ .init hrun, hq, hc, ?_⟩
  intro k hk
  apply lin_of_linB
  have h1 : ∀ k < 4, (((List.range 4).map (fun k => (absOf s k, linB s k))).map (·.2))[k]? = some true := by
    rw [hv, hr]; decide
  have := h1 k hk
  simpa [hk] using this

/-- two helpers on the same and on different cells, one suspended between "store high" and "store marker":
reachable, quiescent in generation 2, all histories linearizable (complete decision procedure, kernel-checked) -/
theorem two_helpers_linearizable :
    ∃ s, run step (init 4) schedH = some s ∧ Reachable 4 s ∧ quiescent s ∧ s.n.cur = 2 ∧
      ∀ k < 4, Lin.Linearizable (callsOn s k) none (absOf s k) := lin_of_verdict verdict_H rfl

/-- a helper that resumes after the commit of its generation and after the next resize has started -/
theorem stale_helper_linearizable :
    ∃ s, run step (init 4) (schedS 5) = some s ∧ Reachable 4 s ∧ quiescent s ∧ s.n.cur = 2 ∧
      ∀ k < 4, Lin.Linearizable (callsOn s k) none (absOf s k) := lin_of_verdict verdict_S rfl

/-- a small sample at build time -/
def sample : Out := explore { mode := 1, steps := 250 } 11 150

#eval IO.println (s!"{sample.runs} runs, {sample.quiescentRuns} quiescent, max generation {sample.maxGen}, " ++
  s!"not linearizable: {sample.bad.isSome}, coverage entries: {sample.cov.length}")

end Flurry.Proto.BinNH
