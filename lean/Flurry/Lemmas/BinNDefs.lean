import Flurry.Lemmas.BinNOrd
import Flurry.Proto.BinN
import Flurry.Lemmas.BinXDefs
/-! # Proto/BinN: the heap invariants (definitions) (C01, C10)

Ghost state `Ghost`: the set `cr` of all copies made so far, and — while the resizing thread is between
its split (`tBuild`) and the store of the forwarding marker — `mid = some (j, lo, hg)`: cell `(cur, j)`
has been split, `lo` / `hg` are the heads of the new lists, `fr` the index range of the fresh copies.

* `Shape`: the thread-independent part of the generation invariant (`Lemmas/BinNGenDefs.lean`);
* `HInv`: all chains are well-formed, duplicate-free in keys, and hold keys of their cell; cells of the
  next generation are empty unless their parent is forwarded or being split; the split (`Split`);
* `Active`: a cell whose chain may be written (a cell of `cur` that is neither forwarded nor split, a
  cell of `cur + 1` whose parent is forwarded);
* `PInv`: the program counter of the resizing thread fits `mid`; `WInv`: the positions remembered by a
  walking writer are current. -/
namespace Flurry.Proto.BinN
open Flurry.Lin
open Flurry.Proto.BinX (NodeS Cell Pending dflt chainFrom cellHead cellOfHead nodeAt IsSeg IsChain chainH absIn
  KeysDistinct Walk)

structure Ghost where
  cr : CR := fun _ => false
  mid : Option (Nat × Option Nat × Option Nat) := none
  fr : Nat × Nat := (0, 0)

/-- a cell: generation and index -/
abbrev CellId := Nat × Nat

def getCell (s : State) (id : CellId) : Cell := cellAt s id.1 id.2

/-- the chain of a cell -/
def chId (s : State) (id : CellId) : List Nat := chainH s.heap (getCell s id)

/-- the keys that live in a cell -/
def keyOn (id : CellId) (k : Nat) : Prop := k % 2 ^ id.1 = id.2

/-- the cell of key `k` in generation `g` -/
def cellId (g k : Nat) : CellId := (g, k % 2 ^ g)

/-- the cell a lookup of `k` ends in -/
def liveId (s : State) (k : Nat) : CellId :=
  if cellOf s s.cur k = .moved then cellId (s.cur + 1) k else cellId s.cur k

/-- the chain a lookup of `k` ends in -/
def LC (s : State) (k : Nat) : List Nat := chainOfCell s (liveCell s k)

/-- the cell of generation `cur` that is being split -/
def midIdx (G : Ghost) : Option Nat := G.mid.map (·.1)

/-- a cell whose chain may be written -/
def Active (s : State) (G : Ghost) (id : CellId) : Prop :=
  (id.1 = s.cur ∧ id.2 < 2 ^ s.cur ∧ getCell s id ≠ .moved ∧ midIdx G ≠ some id.2) ∨
  (id.1 = s.cur + 1 ∧ id.2 < 2 ^ (s.cur + 1) ∧ cellAt s s.cur (id.2 % 2 ^ s.cur) = .moved)

/-- nodes that may still be written or (re-)linked -/
def Live (s : State) (G : Ghost) (i : Nat) : Prop :=
  (∃ id, i ∈ chId s id) ∨
  (∃ j lo hg, G.mid = some (j, lo, hg) ∧
    (i ∈ chainH s.heap (cellOfHead lo) ∨ i ∈ chainH s.heap (cellOfHead hg)))

/-- the thread-independent part of the generation invariant -/
structure Shape (s : State) : Prop where
  len : s.tabs.length = s.cur + 1 + (if s.resizing then 1 else 0)
  rows : ∀ g row, s.tabs[g]? = some row → row.length = 2 ^ g
  old : ∀ g j, g < s.cur → j < 2 ^ g → cellAt s g j = .moved
  nextNM : ∀ j, cellAt s (s.cur + 1) j ≠ .moved
  curMoved : ∀ j, cellAt s s.cur j = .moved → s.resizing = true

structure HInv (s : State) (G : Ghost) : Prop where
  shape : Shape s
  nextOK : NextOK G.cr s.heap
  crLt : ∀ i, isCopy G.cr i → i < s.heap.length
  frOK : G.fr.2 ≤ s.heap.length ∧ ∀ i, isFresh G.fr i → isCopy G.cr i
  head : ∀ id h, getCell s id = .node h → h < s.heap.length
  keys : ∀ id, KeysDistinct s.heap (chId s id)
  side : ∀ id, ∀ i ∈ chId s id, keyOn id (nodeAt s.heap i).key
  /-- a cell of the next generation is empty unless its parent is forwarded or being split -/
  nextEmpty : ∀ j', cellAt s s.cur (j' % 2 ^ s.cur) ≠ .moved → midIdx G ≠ some (j' % 2 ^ s.cur) →
    cellAt s (s.cur + 1) j' = .empty
  mid : ∀ j lo hg, G.mid = some (j, lo, hg) → j < 2 ^ s.cur ∧ (∃ h, cellAt s s.cur j = .node h) ∧
    (cellAt s (s.cur + 1) j = .empty ∨ cellAt s (s.cur + 1) j = cellOfHead lo) ∧
    (cellAt s (s.cur + 1) (j + 2 ^ s.cur) = .empty ∨ cellAt s (s.cur + 1) (j + 2 ^ s.cur) = cellOfHead hg) ∧
    Split (bitAt s.cur) s.heap G.cr G.fr (chId s (s.cur, j)) lo hg

/-! ## the resizing thread and `mid` -/

def isMidPc : Pc → Prop
  | .tStoreLow _ _ _ _ | .tStoreHigh _ _ _ | .tStoreMoved _ _ => True
  | _ => False

/-- how a program counter constrains `mid` and the two children of the cell being split -/
def PcMid (s : State) (G : Ghost) : Pc → Prop
  | .tStoreLow j _ lo hg => G.mid = some (j, lo, hg) ∧ cellAt s (s.cur + 1) j = .empty ∧
      cellAt s (s.cur + 1) (j + 2 ^ s.cur) = .empty
  | .tStoreHigh j _ hg => ∃ lo, G.mid = some (j, lo, hg) ∧ cellAt s (s.cur + 1) j = cellOfHead lo ∧
      cellAt s (s.cur + 1) (j + 2 ^ s.cur) = .empty
  | .tStoreMoved j _ => ∃ lo hg, G.mid = some (j, lo, hg) ∧ cellAt s (s.cur + 1) j = cellOfHead lo ∧
      cellAt s (s.cur + 1) (j + 2 ^ s.cur) = cellOfHead hg
  | _ => True

structure PInv (s : State) (G : Ghost) : Prop where
  pcMid : ∀ (t : Nat) (l : Local), s.threads[t]? = some l → PcMid s G l.pc
  midHas : G.mid.isSome = true → ∃ (t : Nat) (l : Local), s.threads[t]? = some l ∧ isMidPc l.pc

/-! ## walks -/

def WalkOK (s : State) (p : Pending) : Pc → Prop
  | .wFind g _ pred cur => Walk s.heap (chainH s.heap (cellOf s g p.key)) p.key pred cur
  | .wStore g _ pred hit hnext => Walk s.heap (chainH s.heap (cellOf s g p.key)) p.key pred hit ∧
      ∀ i, hit = some i → (nodeAt s.heap i).key = p.key ∧ hnext = (nodeAt s.heap i).next
  | _ => True

structure WInv (s : State) : Prop where
  walk : ∀ (t : Nat) (l : Local) (p : Pending), s.threads[t]? = some l → l.call = some p → WalkOK s p l.pc

end Flurry.Proto.BinN
