import Flurry.Lemmas.BinRInv
/-! # Proto/BinR: the ghost invariant of Proto/BinRBase holds on the projection (C13)

`callsOnExt` for `BinR` (completed calls plus writers that have stored and only have to unlock) and
its agreement with `Base.callsOnExt` on the projection; `ginv_stepW`: `Base.GInv` of the projection is
preserved by every `BinR` transition (`Base.ginv_step` for the simulated transitions, `Trace.quiet_keep`
for the stutter steps of the walk). -/
namespace Flurry.Proto.BinR
open Flurry.Lin2

def extOf (k now t : Nat) (l : Local) : Option Call2 :=
  match l.pc, l.call with
  | .wUnlock _ res false, some p => if p.key = k then some ⟨t, p.op, res, p.inv, now⟩ else none
  | _, _ => none

def extCalls (s : State) (k : Nat) : History2 :=
  (List.range s.threads.length).filterMap (fun t => (s.threads[t]?).bind (extOf k s.now t))

def callsOnExt (s : State) (k : Nat) : History2 := callsOn s k ++ extCalls s k

theorem extOf_proj (k now t : Nat) (l : Local) : Base.extOf k now t (cL l) = extOf k now t l := by
  obtain ⟨pc, call⟩ := l
  cases call with
  | none =>
    cases pc with
    | wUnlock h res retry => cases retry <;> rfl
    | _ => rfl
  | some p =>
    cases pc with
    | wUnlock h res retry => cases retry <;> rfl
    | _ => rfl

theorem extCalls_proj (s : State) (k : Nat) : Base.extCalls (proj s) k = extCalls s k := by
  unfold Base.extCalls extCalls
  simp only [proj_threads, List.length_map, List.getElem?_map, proj_now]
  congr 1
  funext t
  cases s.threads[t]? with
  | none => rfl
  | some l => exact extOf_proj k s.now t l

theorem callsOnExt_proj (s : State) (k : Nat) : Base.callsOnExt (proj s) k = callsOnExt s k := by
  unfold Base.callsOnExt callsOnExt
  rw [extCalls_proj, callsOn_proj]

theorem callsOnExt_quiescent {s : State} (hq : quiescent s) (k : Nat) : callsOnExt s k = callsOn s k := by
  rw [← callsOnExt_proj, Base.callsOnExt_quiescent (quiescent_proj hq), callsOn_proj]

theorem ginv_tick {k : Nat} {B : Base.State} {A : Nat → KSt} {pt : Nat → Nat} {t h : Nat} {l : Base.Local}
    (g : Base.GInv k B A pt) (I : Base.Inv B) (hl : B.threads[t]? = some l) (hpc : l.pc = .wWrite h) :
    ∃ A' pt', Base.GInv k (Base.tick B) A' pt' := by
  refine ⟨_, _, Base.ginv_next g I (.of_same rfl rfl) (set_self hl) rfl
    (g.trace.quiet_keep (hnew := []) I.thr.gen hl (set_self hl) rfl rfl (Base.absOf_congr rfl rfl k)
      (fun _ h => nomatch h) rfl rfl) ?_⟩
  intro p cur _ _ hc
  rw [hpc] at hc; cases hc

theorem ginv_stepW {k : Nat} {s s' : State} {A : Nat → KSt} {pt : Nat → Nat} {t : Nat} {l : Local}
    (g : Base.GInv k (proj s) A pt) (W : WInv s) (hl : s.threads[t]? = some l) (hk : StepW s t l s') :
    ∃ A' pt', Base.GInv k (proj s') A' pt' := by
  have hl' := proj_thread hl
  rcases stepW_proj W hl hk with hK | ⟨hw, he⟩
  · exact Base.ginv_step g W.inv hl' hK
  · obtain ⟨h, hh⟩ := walkPc_iff.1 hw
    rw [he]
    exact ginv_tick g W.inv hl' hh

end Flurry.Proto.BinR
