import Flurry.Lemmas.TableG
/-! # Proto/BinG: the keys stored in the nodes are keys some call carried (in EVERY reachable state)

`HK Q heap`: every node of the heap has a key that satisfies `Q`. A transition preserves it provided the
keys of the calls in flight satisfy `Q` (`KeysIn Q s`, `Lemmas/TableG.lean`): nodes are created only by
the stores of `insert` (`cas`, `store`, `prepend`: the key of the call) and by the copies made by
treeify, untreeify and transfer (`copyChain`, `splitBin`: the key of the source node, which is a node of
the list of a validated structure and hence inside the heap); every other store keeps the key of the
node it modifies. Used by `Lemmas/TableGHeapKeys.lean`: every node of lineage `i` of a table holds a key
of lineage `i`, quiescent or not. -/
namespace Flurry.Proto.BinG
open Flurry.Lin
open Flurry.Proto.BinK (nodeAt binAt lockSet chainOf CInv copiesOf copyChain_eq copiesOf_length copiesOf_get
  nodeAt_modify nodeAt_append_left nodeAt_append_new)

def HK (Q : Nat → Prop) (heap : List NodeS) : Prop := ∀ j, j < heap.length → Q (nodeAt heap j).key

namespace HK
variable {Q : Nat → Prop} {heap : List NodeS}

theorem modify (K : HK Q heap) (i : Nat) {f : NodeS → NodeS} (hf : ∀ n, (f n).key = n.key) :
    HK Q (heap.modify i f) := by
  intro j hj
  rw [List.length_modify] at hj
  rw [nodeAt_modify]
  split
  · rw [hf]; exact K j hj
  · exact K j hj

theorem lockSet (K : HK Q heap) (h : Nat) (x : Option Nat) : HK Q (lockSet heap h x) :=
  K.modify h (fun _ => rfl)

theorem append_one (K : HK Q heap) {n : NodeS} (hn : Q n.key) : HK Q (heap ++ [n]) := by
  intro j hj
  rw [List.length_append, List.length_singleton] at hj
  by_cases h : j < heap.length
  · rw [nodeAt_append_left _ h]; exact K j h
  · have : j = heap.length := by omega
    subst this
    rw [nodeAt_append_new]; exact hn

theorem copyChain (K : HK Q heap) {c : List Nat} (hc : ∀ i ∈ c, i < heap.length) {mk : NodeS → Option Nat → NodeS}
    (hmk : ∀ src nx, (mk src nx).key = src.key) : HK Q (BinK.copyChain heap c mk).1 := by
  rw [copyChain_eq]
  intro j hj
  simp only [List.length_append, copiesOf_length] at hj
  by_cases h : j < heap.length
  · rw [nodeAt_append_left _ h]; exact K j h
  · obtain ⟨d, rfl⟩ : ∃ d, j = heap.length + d := ⟨j - heap.length, by omega⟩
    have hd : d < c.length := by omega
    rw [copiesOf_get heap c mk hd, hmk]
    apply K
    apply hc
    rw [List.getD_eq_getElem?_getD, List.getElem?_eq_getElem hd]
    exact List.getElem_mem hd

theorem copyChain_len (c : List Nat) (mk : NodeS → Option Nat → NodeS) :
    heap.length ≤ (BinK.copyChain heap c mk).1.length := by
  rw [copyChain_eq]
  simp

theorem splitStep {acc : List NodeS × Option Nat × Option Nat} (K : HK Q acc.1) {i : Nat} (hi : i < acc.1.length) :
    HK Q (BinG.splitStep acc i).1 ∧ acc.1.length ≤ (BinG.splitStep acc i).1.length := by
  have hq : Q (acc.1.getD i dflt).key := K i hi
  unfold BinG.splitStep
  split
  · exact ⟨K.append_one hq, by simp⟩
  · exact ⟨K.append_one hq, by simp⟩

theorem splitFold : ∀ (l : List Nat) (acc : List NodeS × Option Nat × Option Nat), HK Q acc.1 →
    (∀ i ∈ l, i < acc.1.length) → HK Q (l.foldl BinG.splitStep acc).1
  | [], _, K, _ => K
  | i :: l, acc, K, hl => by
    rw [List.foldl_cons]
    obtain ⟨K', hle⟩ := K.splitStep (hl i List.mem_cons_self)
    refine splitFold l _ K' ?_
    intro j hj
    exact Nat.lt_of_lt_of_le (hl j (List.mem_cons_of_mem _ hj)) hle

theorem splitBin (K : HK Q heap) {c : List Nat} (hc : ∀ i ∈ c, i < heap.length) : HK Q (splitBin heap c).1 := by
  rw [splitBin_eq]
  refine splitFold _ _ K ?_
  intro i hi
  exact hc i (List.mem_of_mem_take hi)

end HK

namespace HeapKeys
variable {Q : Nat → Prop}

theorem of_move {s : State} {t : Nat} {p : Pending} {pc pc' : Pc} {hp : List NodeS} (h : Move s t p pc pc' hp)
    (K : HK Q s.heap) : HK Q hp := by
  cases h <;> first | exact K | exact K.lockSet _ _

theorem of_fin {s : State} {p : Pending} {pc : Pc} {res : KRes} {hp : List NodeS} (h : Fin s p pc res hp)
    (K : HK Q s.heap) : HK Q hp := by
  cases h <;> first | exact K | exact K.lockSet _ _

theorem of_kmove {s : State} {t : Nat} {pc pc' : Pc} {hp : List NodeS} (h : KMove s t pc pc' hp)
    (K : HK Q s.heap) : HK Q hp := by
  cases h <;> first | exact K | exact K.lockSet _ _

theorem appendOf_hk (s : State) (tab : Tab) (p : Pending) (pred : Option Nat) (v vi : Nat) (K : HK Q s.heap)
    (hp : Q p.key) : HK Q (appendOf s tab p pred v vi).heap := by
  have hnew : HK Q (s.heap ++ [⟨p.key, (v, vi), none, none, false, none⟩]) := K.append_one hp
  unfold appendOf
  cases pred with
  | some l => exact hnew.modify _ (fun _ => rfl)
  | none => rw [setCell_heap]; exact hnew

theorem unlinkL_hk (s : State) (tab : Tab) (p : Pending) (pred hnext : Option Nat) (K : HK Q s.heap) :
    HK Q (unlinkL s tab p pred hnext).heap := by
  unfold unlinkL
  cases pred with
  | some pr => exact K.modify _ (fun _ => rfl)
  | none => rw [setCell_heap]; exact K

theorem storeAt_hk (s : State) (tab : Tab) (p : Pending) (pred hit hnext : Option Nat) (K : HK Q s.heap)
    (hp : Q p.key) : HK Q (storeAt s tab p pred hit hnext).1.heap := by
  rw [storeAt_eq]
  cases p.op <;> cases hit
  case ins.some | cipInc.some => exact K.modify _ (fun _ => rfl)
  case ins.none | tryIns.none => exact appendOf_hk s tab p pred _ _ K hp
  case rm.some | cipRm.some => exact unlinkL_hk s tab p pred hnext K
  all_goals exact K

theorem unlinkOf_hk (s : State) (b i : Nat) (K : HK Q s.heap) : HK Q (unlinkOf s b i).heap := by
  unfold unlinkOf
  split
  · exact K.modify _ (fun _ => rfl)
  · exact K

theorem splitSide_hk (s : State) (b : Nat) (c : List Nat) (small reuse : Bool) (K : HK Q s.heap)
    (hc : ∀ i ∈ c, i < s.heap.length) :
    HK Q (splitSide s b c small reuse).1.heap ∧ s.heap.length ≤ (splitSide s b c small reuse).1.heap.length := by
  cases c with
  | nil => exact ⟨K, Nat.le_refl _⟩
  | cons a c =>
    cases small with
    | true =>
      refine ⟨?_, ?_⟩
      · show HK Q (BinK.copyChain s.heap (a :: c)
          (fun src nx => (⟨src.key, src.val, nx, none, false, none⟩ : NodeS))).1
        exact K.copyChain hc (by intros; rfl)
      · show s.heap.length ≤ (BinK.copyChain s.heap (a :: c)
          (fun src nx => (⟨src.key, src.val, nx, none, false, none⟩ : NodeS))).1.length
        exact HK.copyChain_len _ _
    | false =>
      cases reuse with
      | true => exact ⟨K, Nat.le_refl _⟩
      | false =>
        refine ⟨?_, ?_⟩
        · show HK Q (BinK.copyChain s.heap (a :: c)
            (fun src nx => (⟨src.key, src.val, nx, none, true, some s.tbins.length⟩ : NodeS))).1
          exact K.copyChain hc (by intros; rfl)
        · show s.heap.length ≤ (BinK.copyChain s.heap (a :: c)
            (fun src nx => (⟨src.key, src.val, nx, none, true, some s.tbins.length⟩ : NodeS))).1.length
          exact HK.copyChain_len _ _

theorem ysplitOf_hk (s : State) (b : Nat) (small small2 : Bool) (K : HK Q s.heap)
    (hc : ∀ i ∈ chainOfBin s b, i < s.heap.length) : HK Q (ysplitOf s b small small2).1.heap := by
  unfold ysplitOf
  dsimp only
  have hlo : ∀ i ∈ lowOf s b, i < s.heap.length := fun i hi => hc i (List.mem_filter.1 hi).1
  have hhi : ∀ i ∈ highOf s b, i < s.heap.length := fun i hi => hc i (List.mem_filter.1 hi).1
  obtain ⟨K1, hle⟩ := splitSide_hk s b (lowOf s b) small (highOf s b).isEmpty K hlo
  exact (splitSide_hk _ b (highOf s b) small2 (lowOf s b).isEmpty K1
    (fun i hi => Nat.lt_of_lt_of_le (hhi i hi) hle)).1

/-- the list of the structure in a cell lies inside the heap -/
theorem chain_lt_of_cell {s : State} (H : HInv s) {id : Cid} {c : Cell} (hc : cellAt s id = c) :
    ∀ i ∈ chainC s c, i < s.heap.length := by
  subst hc
  exact fun i hi => (H.cinv id).chain_lt hi

end HeapKeys

open HeapKeys in
/-- **the keys in the nodes stay in their class**: a transition of a lineage in which the keys of all
calls in flight satisfy `Q` keeps "every node has a key that satisfies `Q`" -/
theorem StepN.heapKeys {Q : Nat → Prop} {s s' : State} {t : Nat} {l : Local} (I : Inv s) (hl : s.threads[t]? = some l)
    (KP : ∀ p, l.call = some p → Q p.key) (K : HK Q s.heap) (h : StepN s t l s') : HK Q s'.heap := by
  cases h with
  | idle h => exact K
  | maint k h => exact K
  | resizeStart h _ => exact K
  | invoke k op lo h => exact K
  | move p pc' hp hc hm => exact of_move hm K
  | bmove p pc' tb hc _ => exact K
  | kmove pc' hp hc hm => exact of_kmove hm K
  | kbmove pc' tb hc _ => exact K
  | fin p res hp hc hm => exact of_fin hm K
  | bfin p res tb hc _ => exact K
  | cas p tab v vi hc _ _ _ =>
    show HK Q (setCell _ _ _ _).heap
    rw [setCell_heap]; exact K.append_one (KP p hc)
  | store p tab h pred hit hnext hc _ => exact (storeAt_hk (tick s) tab p pred hit hnext K (KP p hc))
  | tval p tab b i v res hc _ => exact K.modify _ (fun _ => rfl)
  | prepend p tab b v vi hc _ _ => exact K.append_one (KP p hc)
  | treeLink p tab b x hc _ => exact K.modify _ (fun _ => rfl)
  | unlink p tab b i res small hc _ => exact (unlinkOf_hk (tick s) b i K)
  | untree p tab b i res hc _ => exact K.modify _ (fun _ => rfl)
  | untreeify p tab b res hc hpc =>
    have hcell := I.lock.vT t l b hl (by rw [hpc]; rfl)
    show HK Q (untreeifyOf _ _ _ _).heap
    unfold untreeifyOf
    rw [setCell_heap]
    exact K.copyChain (mk := fun src nx => (⟨src.key, src.val, nx, none, false, none⟩ : NodeS))
      (chain_lt_of_cell I.heap hcell) (by intros; rfl)
  | kbuild tab k h hc hpc =>
    have hcell := I.lock.vL t l h hl (by rw [hpc]; rfl)
    exact (K.copyChain (mk := fun src nx => (⟨src.key, src.val, nx, none, true, some s.tbins.length⟩ : NodeS))
      (chain_lt_of_cell I.heap hcell) (by intros; rfl))
  | kstore tab k h b hc _ =>
    show HK Q (setCell _ _ _ _).heap
    rw [setCell_heap]; exact K
  | xcasMoved hc _ _ => exact K
  | xbuild h hc hpc =>
    have hcell := I.lock.vL t l h hl (by rw [hpc]; rfl)
    exact (K.splitBin (chain_lt_of_cell I.heap hcell))
  | ybuild b small small2 hc hpc =>
    have hcell := I.lock.vT t l b hl (by rw [hpc]; rfl)
    exact (ysplitOf_hk (tick s) b small small2 K (chain_lt_of_cell I.heap hcell))
  | xstoreLow unl lo hi hc _ => exact K
  | xstoreHigh unl hi hc _ => exact K
  | xstoreMoved unl hc _ => exact K
  | xcommit hc _ => exact K

theorem init_hk (Q : Nat → Prop) (n : Nat) : HK Q (init n).heap := by
  intro j hj
  simp [init] at hj

/-- a step preserves "every node has a key that satisfies `Q`" if the calls in flight have such keys
(an idle thread's step changes no node) -/
theorem step_hk {Q : Nat → Prop} {s s' : State} {t : Nat} {inv : Option (Nat × KOp)} {lo : Bool}
    {mt : Option Nat} {rz sm sm2 : Bool} (I : Inv s) (KI : KeysIn Q s) (K : HK Q s.heap)
    (hs : step s t inv lo mt rz sm sm2 = some s') : HK Q s'.heap := by
  cases hl : s.threads[t]? with
  | none =>
    unfold step stepG at hs
    simp only [hl] at hs
    cases hs
  | some l => exact (step_stepN hl hs).heapKeys I hl (fun p hp => KI.pend t l p hl hp) K

end Flurry.Proto.BinG
