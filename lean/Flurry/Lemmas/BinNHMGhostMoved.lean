import Flurry.Lemmas.BinNHMSurgery
import Flurry.Lemmas.BinNHMGhost
/-! # Proto/BinN and Proto/BinNH: hindsight across the store of a forwarding marker, in any generation (C01, C10)

`Good.moved`: the justification of a reader survives the store of the forwarding marker into cell
`(cur, jm)`. A reader on the old list is afterwards on a dead (copied) node — whose key, if it is `k`,
carries the abstract value of this very moment —, or on a re-used node of its key's child cell (live,
nothing with key `k` before it: the fresh copies in front of it are copies of old predecessors), or on a
re-used node of the other child (then the key is absent at this moment: `foreign`). A reader that is
`foreign` on the old list (it came there from an ancestor that was split generations ago) stays `foreign`
(on a re-used node of either child) or walks on through dead nodes. -/
namespace Flurry.Proto.BinNHM
open Flurry.Proto.BinN
open Flurry.Lin
open Flurry.Proto.BinX (NodeS Cell Pending dflt chainFrom cellHead cellOfHead nodeAt nodeAt_of_some getElem?_nodeAt
  IsSeg IsChain chainH chainH_empty chainH_moved absIn absIn_eq_none_iff absIn_eq_some_iff KeysDistinct)

/-- the child cell of `(c, jm)` on side `b` -/
def childId (c jm : Nat) (b : Bool) : CellId := (c + 1, if b then jm + 2 ^ c else jm)

/-- the cell of a key in the next generation is the child on the side of its split bit -/
theorem cellId_succ {c k jm : Nat} (hk : k % 2 ^ c = jm) : cellId (c + 1) k = childId c jm (bitAt c k) := by
  unfold cellId childId
  rw [mod_succ_bit, hk]
  cases bitAt c k <;> simp

theorem keyOn_child {c jm k : Nat} {b : Bool} (hjm : jm < 2 ^ c) (h : keyOn (childId c jm b) k) : k % 2 ^ c = jm := by
  unfold keyOn childId at h
  simp only at h
  have := keyOn_mod (Nat.le_succ c) h
  rw [this]
  cases b
  · simp only [Bool.false_eq_true, if_false]; exact Nat.mod_eq_of_lt hjm
  · simp only [if_true]; exact high_mod jm c hjm

theorem Good.moved {A A' : Nat → KSt} {k inv : Nat} {s s' : State} {G G' : Ghost} {jm : Nat} {lo hg : Option Nat} {fr : Nat × Nat}
    {cur : Option Nat} (hgood : Good G A k inv s cur) (H : HInv s G) (H' : HInv s' G')
    (hm : G.mid jm = some (lo, hg, fr)) (hm' : ∀ j0 x, G'.mid j0 = some x → j0 ≠ jm ∧ G.mid j0 = some x) (hcr : G'.cr = G.cr)
    (hh : s'.heap = s.heap) (hcur : s'.cur = s.cur)
    (hcO : getCell s' (s.cur, jm) = .moved)
    (hcOther : ∀ id, id ≠ (s.cur, jm) → getCell s' id = getCell s id)
    (sX : ∀ b, SideOK (bitAt s.cur) s.heap G.cr fr (chId s (s.cur, jm)) b (chId s (childId s.cur jm b)))
    (hnow : s'.now = s.now + 1) (hA' : ∀ τ, τ ≤ s.now → A' τ = A τ) (hA : A s.now = absOf s k)
    (hinv : inv ≤ s.now) : Good G' A' k inv s' cur := by
  have hle : ∀ {τ : Nat}, τ ≤ s.now → τ ≤ s'.now := fun h => hnow ▸ Nat.le_succ_of_le h
  have hnow' : s.now ≤ s'.now := hnow ▸ Nat.le_succ _
  obtain ⟨hjm, ⟨h0, hc0⟩, -, -, -⟩ := H.mid jm lo hg _ hm
  have hnm : cellAt s s.cur jm ≠ .moved := by rw [hc0]; simp
  have hAnow : A' s.now = absOf s k := by rw [hA' _ (Nat.le_refl _)]; exact hA
  have chO' : chId s' (s.cur, jm) = [] := chId_of_moved hcO
  have chOther : ∀ id, id ≠ (s.cur, jm) → chId s' id = chId s id := by
    intro id hne; unfold chId; rw [hh, hcOther id hne]
  have hchild_ne : ∀ b, childId s.cur jm b ≠ (s.cur, jm) := by
    intro b h; unfold childId at h; have := congrArg Prod.fst h; simp at this
  have chB' : ∀ b, chId s' (childId s.cur jm b) = chId s (childId s.cur jm b) := fun b => chOther _ (hchild_ne b)
  have keyO : ∀ i ∈ chId s (s.cur, jm), (nodeAt s.heap i).key % 2 ^ s.cur = jm := fun i hi => H.side _ i hi
  have hlcs : k % 2 ^ s.cur = jm → LC s k = chId s (s.cur, jm) := by
    intro hk
    rw [H.LC_eq]
    unfold liveId
    have : cellOf s s.cur k ≠ .moved := by unfold cellOf; rw [hk]; exact hnm
    rw [if_neg this]; unfold cellId; rw [hk]
  have hlcs' : k % 2 ^ s.cur = jm → LC s' k = chId s (childId s.cur jm (bitAt s.cur k)) := by
    intro hk
    rw [H'.LC_eq]
    unfold liveId
    have : cellOf s' s'.cur k = .moved := by
      unfold cellOf; rw [hcur, hk]; exact hcO
    rw [if_pos this, hcur, cellId_succ hk, chB']
  have hlc_other : k % 2 ^ s.cur ≠ jm → LC s' k = LC s k := by
    intro hk
    rw [H'.LC_eq, H.LC_eq]
    have e1 : cellOf s' s'.cur k = cellOf s s.cur k := by
      rw [hcur]
      exact hcOther (s.cur, k % 2 ^ s.cur) (by intro h; exact hk (congrArg Prod.snd h))
    have e2 : liveId s' k = liveId s k := by unfold liveId; rw [e1, hcur]
    rw [e2]
    refine chOther _ ?_
    intro h
    unfold liveId at h
    split at h
    · have := congrArg Prod.fst h; unfold cellId at this; simp at this
    · exact hk (congrArg Prod.snd h)
  -- what is live afterwards is on a chain; the old chain only survives in the two children
  have hlive' : ∀ c, c ∈ chId s (s.cur, jm) → Live s' G' c → ∃ b, c ∈ chId s (childId s.cur jm b) := by
    intro c hcO' hl
    rcases hl with ⟨id, hid⟩ | ⟨j, lo', hg', fr', hmid, hl2⟩
    · by_cases he : id = (s.cur, jm)
      · rw [he, chO'] at hid; cases hid
      · rw [chOther id he] at hid
        obtain ⟨g, j⟩ := id
        obtain ⟨hg', hj⟩ := H.nonempty_cell hid
        have k1 := keyO c hcO'
        have k2 : (nodeAt s.heap c).key % 2 ^ g = j := H.side _ c hid
        rcases hg' with rfl | rfl
        · exfalso; apply he; rw [k1] at k2; rw [k2]
        · have hp := keyOn_mod (Nat.le_succ s.cur) k2
          rw [k1] at hp
          rcases child_cases hj hp.symm with rfl | rfl
          · exact ⟨false, hid⟩
          · exact ⟨true, hid⟩
    · obtain ⟨hne, hmid⟩ := hm' _ _ hmid
      rw [hh] at hl2
      have := (H.mid_key hmid (Or.inr hl2)).1
      rw [keyO c hcO'] at this
      exact absurd this.symm hne
  have hliveOff : ∀ c, Live s' G' c → Live s G c := by
    intro c hl
    rcases hl with ⟨id, hid⟩ | ⟨j, lo', hg', fr', hmid, hl2⟩
    · by_cases he : id = (s.cur, jm)
      · rw [he, chO'] at hid; cases hid
      · rw [chOther id he] at hid; exact Or.inl ⟨id, hid⟩
    · rw [hh] at hl2
      exact Or.inr ⟨j, lo', hg', fr', (hm' _ _ hmid).2, hl2⟩
  have hltO : ∀ c ∈ chId s (s.cur, jm), c < s.heap.length := fun c hc => H.chain_lt hc
  have hchain := H.isChain (s.cur, jm)
  have notOn : ∀ {b : Bool} {k' : Nat}, k' % 2 ^ s.cur = jm → bitAt s.cur k' ≠ b → ¬ keyOn (childId s.cur jm b) k' := by
    intro b k' hk' hb hon
    apply hb
    have h1 : cellId (s.cur + 1) k' = childId s.cur jm b := by
      unfold keyOn at hon; unfold cellId
      exact Prod.ext rfl hon
    rw [cellId_succ hk'] at h1
    unfold childId at h1
    have := congrArg Prod.snd h1
    simp only at this
    -- `this`: the index of the child on side `bitAt s.cur k'` is that of the child on side `b`
    cases hb1 : bitAt s.cur k' <;> cases b <;> simp [hb1] at this ⊢ <;> omega
  -- nodes of the old chain, for a key of the old cell
  have onO : k % 2 ^ s.cur = jm → ∀ c, c < s.heap.length → c ∈ chId s (s.cur, jm) →
      (∀ i ∈ chId s (s.cur, jm), ord G.cr i < ord G.cr c → (nodeAt s.heap i).key ≠ k) →
      Good G' A' k inv s' (some c) := by
    intro hk
    refine H.nextOK.induction fun c hcl ih hcO' hbefore => ?_
    · by_cases h1 : c ∈ chId s (childId s.cur jm (bitAt s.cur k))
      · refine .on (by rw [hlcs' hk]; exact h1) ?_
        intro j hj hjc
        rw [hlcs' hk] at hj
        rw [hh]
        rw [hcr] at hjc
        rcases (sX _).mem j hj with hjO | hjcp
        · exact hbefore j hjO hjc
        · obtain ⟨i, hi, hik, -, hir⟩ := (sX _).src j hj hjcp
          rw [← hik]
          exact hbefore i hi (hir c hcO' h1)
      · by_cases h2 : c ∈ chId s (childId s.cur jm (!bitAt s.cur k))
        · refine .foreign (τ := s.now) (id := childId s.cur jm (!bitAt s.cur k)) (by rw [chB']; exact h2)
            (notOn hk (by cases bitAt s.cur k <;> simp)) hinv hnow' ?_
          rw [hAnow, H.absOf_none_iff, hlcs hk]
          intro i hi hik
          have hside : ∀ x ∈ chId s (childId s.cur jm (!bitAt s.cur k)), (nodeAt s.heap x).key ≠ k := by
            intro x hx hxk
            have := (sX _).side x hx
            rw [hxk] at this
            cases hb : bitAt s.cur k <;> rw [hb] at this <;> cases this
          rcases Int.lt_trichotomy (ord G.cr i) (ord G.cr c) with hlt' | heq | hgt
          · exact hbefore i hi hlt' hik
          · rw [ord_inj heq] at hik; exact hside c h2 hik
          · exact hside i ((sX _).suffix c hcO' h2 i hi hgt) hik
        · have hdead : ¬ Live s' G' c := by
            intro hl
            obtain ⟨b, hb⟩ := hlive' c hcO' hl
            by_cases hbb : b = bitAt s.cur k
            · rw [hbb] at hb; exact h1 hb
            · rw [Bool.eq_not_of_ne hbb] at hb; exact h2 hb
          have hn' := getElem?_nodeAt hcl
          refine .off hdead (by rw [hh]; exact hcl) ?_ ?_
          · intro hk'
            rw [hh] at hk' ⊢
            have hle : ∀ i ∈ chId s (s.cur, jm), ord G.cr i ≤ ord G.cr c → (nodeAt s.heap i).key ≠ k := by
              intro i hi hic
              rcases Int.lt_or_eq_of_le hic with hlt' | heq
              · exact hbefore i hi hlt'
              · rw [ord_inj heq]; exact hk'
            cases hnx : (nodeAt s.heap c).next with
            | none =>
              have h3 := hchain.succ_none H.nextOK hcO' hn' hnx
              refine .absent (τ := s.now) hinv hnow' ?_
              rw [hAnow, H.absOf_none_iff, hlcs hk]
              intro i hi
              exact hle i hi (h3 i hi)
            | some d =>
              obtain ⟨hd, h3⟩ := hchain.succ_some H.nextOK hcO' hn' hnx
              refine ih d hnx hd ?_
              intro i hi hid
              exact hle i hi (h3 i hi hid)
          · intro hk'
            rw [hh] at hk' ⊢
            refine ⟨s.now, hinv, hnow', ?_⟩
            rw [hAnow]
            exact H.absOf_some_iff.2 ⟨c, by rw [hlcs hk]; exact hcO', hk', rfl⟩
  -- nodes of the old chain, for a key that does not live in the old cell
  have forO : ∀ {τ : Nat}, k % 2 ^ s.cur ≠ jm → inv ≤ τ → τ ≤ s.now → A τ = none →
      ∀ c, c < s.heap.length → c ∈ chId s (s.cur, jm) → Good G' A' k inv s' (some c) := by
    intro τ hk h1 h2 h3
    refine H.nextOK.induction fun c hcl ih hcO' => ?_
    · have hn' := getElem?_nodeAt hcl
      have hside : (nodeAt s.heap c).key ≠ k := by
        intro hck
        have := keyO c hcO'
        rw [hck] at this
        exact hk this
      by_cases hlv : Live s' G' c
      · obtain ⟨b, hb⟩ := hlive' c hcO' hlv
        refine .foreign (τ := τ) (id := childId s.cur jm b) (by rw [chB']; exact hb) ?_ h1 (hle h2)
          (by rw [hA' _ h2]; exact h3)
        intro hon
        exact hk (keyOn_child hjm hon)
      · refine .off hlv (by rw [hh]; exact hcl) ?_ (fun hk' => absurd (by rw [hh] at hk'; exact hk') hside)
        intro _
        rw [hh]
        cases hnx : (nodeAt s.heap c).next with
        | none => exact .absent h1 (hle h2) (by rw [hA' _ h2]; exact h3)
        | some d =>
          obtain ⟨hd, -⟩ := hchain.succ_some H.nextOK hcO' hn' hnx
          exact ih d hnx hd
  induction hgood with
  | absent h1 h2 h3 => exact .absent h1 (hle h2) (by rw [hA' _ h2]; exact h3)
  | @on c hcm hbefore =>
    by_cases hk : k % 2 ^ s.cur = jm
    · rw [hlcs hk] at hcm hbefore
      exact onO hk c (hltO c hcm) hcm hbefore
    · refine .on (by rw [hlc_other hk]; exact hcm) ?_
      intro i hi hic
      rw [hlc_other hk] at hi
      rw [hh]; rw [hcr] at hic
      exact hbefore i hi hic
  | @foreign c τ id hcm hno h1 h2 h3 =>
    by_cases he : id = (s.cur, jm)
    · subst he
      have hk : k % 2 ^ s.cur ≠ jm := hno
      exact forO hk h1 h2 h3 c (hltO c hcm) hcm
    · exact .foreign (by rw [chOther id he]; exact hcm) hno h1 (hle h2) (by rw [hA' _ h2]; exact h3)
  | @off c hcl hclt _ hval ih =>
    refine .off (fun hl => hcl (hliveOff c hl)) (by rw [hh]; exact hclt) ?_ ?_
    · intro hk
      rw [hh] at hk ⊢
      exact ih hk
    · intro hk
      rw [hh] at hk ⊢
      obtain ⟨τ, h1, h2, h3⟩ := hval hk
      exact ⟨τ, h1, hle h2, by rw [hA' _ h2]; exact h3⟩

end Flurry.Proto.BinNHM
