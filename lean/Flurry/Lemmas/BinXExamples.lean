import Flurry.Props.C01BinX
import Flurry.Lemmas.LinSearch
/-! # Proto/BinX: two concrete schedules around the forwarding (C01, C10)

Three threads: thread 0 performs the calls, thread 1 is the slow one, thread 2 transfers the bin.
Both schedules first build the list `[a: key 1, b: key 0]`; its last run is `[b]` (low side), so `a` is
*copied* to `a'` (high side) and dies at the forwarding.

* `schedLost` — **the re-check of the bin cell is load-bearing across a resize**: thread 1 calls
  `insert(1)` and loads the old head `a` before the transfer, then sleeps; the bin is transferred; it
  wakes up and takes the mutex of `a`. Without the re-check (`stepG false`) it stores its value into
  the dead node `a`: the `insert` returns, but a later `get(1)` still finds the old value in `a'`:
  not linearizable. With the re-check it sees `cell0 = moved ≠ node a`, unlocks, follows the forwarding
  marker and updates `a'`.
* `schedStale` — **hindsight across the forwarding** (`Good.moved`): thread 1 calls `get(1)` and loads
  the old head `a` before the transfer, then sleeps; the bin is transferred, `insert(1)` updates `a'`
  and a `get(1)` by thread 0 returns the new value; only then thread 1 reads the (frozen) value of `a`
  and returns the *old* value — after a later call returned the new one. Linearizable all the same:
  the slow `get` is linearized before the forwarding, inside its interval. -/
namespace Flurry.Proto.BinX
open Flurry.Lin

abbrev Sched := List (Nat × Option (Nat × KOp) × Bool)

/-- run a schedule (`none` if some step is not enabled) -/
def run (f : State → Nat → Option (Nat × KOp) → Bool → Option State) : State → Sched → Option State
  | s, [] => some s
  | s, (t, inv, rz) :: rest =>
    match f s t inv rz with
    | none => none
    | some s' => run f s' rest

/-- reachability in the variant without the re-checks -/
inductive ReachableNoCheck (nthreads : Nat) : State → Prop
  | init : ReachableNoCheck nthreads (init nthreads)
  | step {s s' : State} (t : Nat) (inv : Option (Nat × KOp)) (rz : Bool) :
      ReachableNoCheck nthreads s → stepG false s t inv rz = some s' → ReachableNoCheck nthreads s'

theorem run_reachable {n : Nat} : ∀ (sc : Sched) {s s' : State}, Reachable n s → run step s sc = some s' →
    Reachable n s'
  | [], s, s', hr, h => by simp only [run, Option.some.injEq] at h; exact h ▸ hr
  | (t, inv, rz) :: rest, s, s', hr, h => by
    simp only [run] at h
    cases hs : step s t inv rz with
    | none => rw [hs] at h; cases h
    | some s1 => rw [hs] at h; exact run_reachable rest (.step t inv rz hr hs) h

theorem run_reachableNoCheck {n : Nat} : ∀ (sc : Sched) {s s' : State}, ReachableNoCheck n s →
    run (stepG false) s sc = some s' → ReachableNoCheck n s'
  | [], s, s', hr, h => by simp only [run, Option.some.injEq] at h; exact h ▸ hr
  | (t, inv, rz) :: rest, s, s', hr, h => by
    simp only [run] at h
    cases hs : stepG false s t inv rz with
    | none => rw [hs] at h; cases h
    | some s1 => rw [hs] at h; exact run_reachableNoCheck rest (.step t inv rz hr hs) h

/-- is the final state quiescent, and does the exhaustive search find a linearization of the history of
key `k` ending in the abstract content of the key -/
def verdict (f : State → Nat → Option (Nat × KOp) → Bool → Option State) (n : Nat) (sc : Sched) (k : Nat) :
    Option (Bool × Bool) :=
  (run f (init n) sc).map fun s =>
    (s.threads.all (fun l => l.pc == .idle), (search (callsOn s k) none (absOf s k)).isSome)

theorem of_verdict {f : State → Nat → Option (Nat × KOp) → Bool → Option State} {n : Nat} {sc : Sched} {k : Nat}
    {b : Bool} (h : verdict f n sc k = some (true, b)) :
    ∃ s, run f (init n) sc = some s ∧ quiescent s ∧ (search (callsOn s k) none (absOf s k)).isSome = b := by
  unfold verdict at h
  cases hr : run f (init n) sc with
  | none => rw [hr] at h; cases h
  | some s =>
    rw [hr] at h
    simp only [Option.map_some, Option.some.injEq, Prod.mk.injEq] at h
    refine ⟨s, rfl, ?_, h.2⟩
    intro l hl
    have := List.all_eq_true.1 h.1 l hl
    simpa using this

/-- `n` further steps of thread `t` -/
def rep (t n : Nat) : Sched := List.replicate n (t, none, false)

/-- thread 0: `insert(1)` (CAS into the empty bin), `insert(0)` (appended under the lock) -/
def setup : Sched :=
  [(0, some (1, .ins 5 100), false)] ++ rep 0 3 ++ [(0, some (0, .ins 6 101), false)] ++ rep 0 8

/-- thread 1 invokes `insert(1)` and loads the old head; thread 2 transfers the bin and publishes the
new table; thread 1 continues (5 steps: lock, check, find, store, unlock if the check is skipped);
thread 0: `get(1)` -/
def schedLost : Sched :=
  setup ++ [(1, some (1, .ins 7 102), false)] ++ rep 1 2 ++ [(2, none, true)] ++ rep 2 9 ++ rep 1 5 ++
  [(0, some (1, .get), false)] ++ rep 0 3

/-- the same, and thread 1 is given the steps it needs to start over in the new table -/
def schedLostLong : Sched := schedLost ++ rep 1 6

/-- thread 1 invokes `get(1)` and loads the old head; thread 2 transfers the bin; thread 0:
`insert(1)`, `get(1)` in the new table; finally thread 1 reads the node it holds -/
def schedStale : Sched :=
  setup ++ [(1, some (1, .get), false)] ++ rep 1 2 ++ [(2, none, true)] ++ rep 2 9 ++
  [(0, some (1, .ins 7 102), false)] ++ rep 0 7 ++ [(0, some (1, .get), false)] ++ rep 0 3 ++ rep 1 1

/-- what the examples look at in the final state of a run: the verdict, and the history, the content
and the table pointer (each run is evaluated once) -/
def outcome (f : State → Nat → Option (Nat × KOp) → Bool → Option State) (n : Nat) (sc : Sched) (k : Nat) :
    Option ((Bool × Bool) × History × KSt × Tab) :=
  (run f (init n) sc).map fun s =>
    ((s.threads.all (fun l => l.pc == .idle), (search (callsOn s k) none (absOf s k)).isSome),
      callsOn s k, absOf s k, s.cur)

theorem verdict_eq_outcome (f : State → Nat → Option (Nat × KOp) → Bool → Option State) (n : Nat) (sc : Sched)
    (k : Nat) : verdict f n sc k = (outcome f n sc k).map Prod.fst := by
  unfold verdict outcome
  rw [Option.map_map]
  rfl

theorem history_eq_outcome (f : State → Nat → Option (Nat × KOp) → Bool → Option State) (n : Nat) (sc : Sched)
    (k : Nat) : (run f (init n) sc).map (fun s => (callsOn s k, absOf s k, s.cur)) =
      (outcome f n sc k).map Prod.snd := by
  unfold outcome
  rw [Option.map_map]
  rfl

/-- without the re-check: `insert(1) = 7` returns (it overwrote the dead node), the later `get(1)`
still returns 5 and the key still has the old value -/
theorem lost_noCheck_outcome : outcome (stepG false) 3 schedLost 1 = some ((true, false),
    [⟨0, .ins 5 100, .none, 1, 4⟩, ⟨1, .ins 7 102, .some 5 100, 14, 31⟩, ⟨0, .get, .some 5 100, 32, 35⟩],
    some (5, 100), .new) := by
  decide +kernel

theorem lost_check_outcome : outcome step 3 schedLostLong 1 = some ((true, true),
    [⟨0, .ins 5 100, .none, 1, 4⟩, ⟨0, .get, .some 5 100, 32, 35⟩, ⟨1, .ins 7 102, .some 5 100, 14, 40⟩],
    some (7, 102), .new) := by
  decide +kernel

theorem stale_outcome : outcome step 3 schedStale 1 = some ((true, true),
    [⟨0, .ins 5 100, .none, 1, 4⟩, ⟨0, .ins 7 102, .some 5 100, 27, 34⟩, ⟨0, .get, .some 7 102, 35, 38⟩,
      ⟨1, .get, .some 5 100, 14, 39⟩], some (7, 102), .new) := by
  decide +kernel

theorem verdict_lost_check : verdict step 3 schedLostLong 1 = some (true, true) := by
  rw [verdict_eq_outcome, lost_check_outcome]; rfl

/-- with the re-check the slow insert starts over in the new table -/
theorem lost_check_history :
    (run step (init 3) schedLostLong).map (fun s => (callsOn s 1, absOf s 1, s.cur)) =
      some ([⟨0, .ins 5 100, .none, 1, 4⟩, ⟨0, .get, .some 5 100, 32, 35⟩, ⟨1, .ins 7 102, .some 5 100, 14, 40⟩],
        some (7, 102), .new) := by
  rw [history_eq_outcome, lost_check_outcome]; rfl

/-- the slow `get` (invoked at 14) returns the old value at 39, after `get = 7` returned at 38 -/
theorem stale_history :
    (run step (init 3) schedStale).map (fun s => (callsOn s 1, absOf s 1, s.cur)) =
      some ([⟨0, .ins 5 100, .none, 1, 4⟩, ⟨0, .ins 7 102, .some 5 100, 27, 34⟩, ⟨0, .get, .some 7 102, 35, 38⟩,
        ⟨1, .get, .some 5 100, 14, 39⟩], some (7, 102), .new) := by
  rw [history_eq_outcome, stale_outcome]; rfl

/-- **the re-check is load-bearing across the forwarding**: without it, a reachable quiescent state
(after a complete resize) whose history of key 1 is not linearizable (a completed insert is lost) -/
theorem noCheck_not_linearizable :
    ∃ s, ReachableNoCheck 3 s ∧ quiescent s ∧ s.cur = .new ∧
      ¬ Lin.Linearizable (callsOn s 1) none (absOf s 1) := by
  obtain ⟨s, hr, hq, hs⟩ := of_verdict
    (show verdict (stepG false) 3 schedLost 1 = some (true, false) by rw [verdict_eq_outcome, lost_noCheck_outcome]; rfl)
  refine ⟨s, run_reachableNoCheck _ .init hr, hq, ?_, search_eq_none_iff.1 ?_⟩
  · have := history_eq_outcome (stepG false) 3 schedLost 1
    rw [lost_noCheck_outcome, hr] at this
    simp only [Option.map_some, Option.some.injEq, Prod.mk.injEq] at this
    exact this.2.2
  · cases h : search (callsOn s 1) none (absOf s 1) with
    | none => rfl
    | some o => rw [h] at hs; cases hs

/-- hence the theorem `binx_linearizable_quiescent` is false for the variant without the re-checks -/
theorem noCheck_refutes :
    ¬ ∀ (n : Nat) (s : State), ReachableNoCheck n s → quiescent s → ∀ k,
      Lin.Linearizable (callsOn s k) none (absOf s k) := by
  intro hall
  obtain ⟨s, hr, hq, -, hn⟩ := noCheck_not_linearizable
  exact hn (hall 3 s hr hq 1)

/-- the stale read across the forwarding is reachable, and (as `binx_linearizable_quiescent` says it
must be) linearizable -/
theorem stale_read_reachable :
    ∃ s, run step (init 3) schedStale = some s ∧ Reachable 3 s ∧ quiescent s ∧
      Lin.Linearizable (callsOn s 1) none (absOf s 1) := by
  obtain ⟨s, hr, hq, -⟩ := of_verdict
    (show verdict step 3 schedStale 1 = some (true, true) by rw [verdict_eq_outcome, stale_outcome]; rfl)
  have hreach := run_reachable _ .init hr
  exact ⟨s, hr, hreach, hq, binx_linearizable_quiescent hreach hq 1⟩

end Flurry.Proto.BinX
