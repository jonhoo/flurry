import Flurry.Lemmas.BinNAInvStep
/-! # Proto/BinNA: validated locks (C10)

`vcell_spec`: what `PcOK` gives the holder of a validated lock (`vcell`): it has the lock word, the cell holds a list
and may be worked on (`Fwd`). `validated_mutex` and `validated_live` (`Props/C01BinNA.lean`) rest on it. -/
namespace Flurry.Proto.BinNA
open Flurry.Lin

/-- the cell on which the thread holds a validated lock: a writer about to store, the resizing
thread between its successful re-check and the store of the marker -/
def vcell (s : State) (l : Local) : Option (Nat × Nat) :=
  match l.pc, l.call with
  | .wStore g, some p => some (g, ix g p.key)
  | .tStoreLow j _ _, _ => some (s.cur, j)
  | .tStoreHigh j _, _ => some (s.cur, j)
  | .tStoreMoved j, _ => some (s.cur, j)
  | _, _ => none

theorem vcell_spec {s : State} {t : Nat} {l : Local} {g j : Nat} (h : vcell s l = some (g, j))
    (hpc : PcOK s t (keyOf l.call) l.pc) :
    getLock s g j = some t ∧ isList (getCell s g j) = true ∧ Fwd s g j := by
  obtain ⟨pc, call⟩ := l
  cases pc with
  | wStore g0 =>
    cases call with
    | none => cases h
    | some p => cases h; exact ⟨hpc.2.1, hpc.2.2, hpc.1⟩
  | tStoreLow j lo hi | tStoreHigh j hi | tStoreMoved j =>
    cases h
    obtain ⟨_, _, h3, xs, h4, _⟩ := hpc
    exact ⟨h3, by rw [h4]; rfl, fwd_cur s _⟩
  | _ => cases h

end Flurry.Proto.BinNA
