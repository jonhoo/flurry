import Flurry.Lemmas.BinXCStep
import Flurry.Lemmas.BinXRetire
import Flurry.Lemmas.BinXCarry
/-! # Proto/BinXC → Proto/BinX: the memory projection (C01, C03)

`mem : BinXC.State → BinX.State` keeps the shared memory (heap, the three cells, the table pointer)
and the clock, and forgets threads, history and the retired list. Every memory-level notion and lemma
of `Lemmas/BinX*.lean` (chains, `HInv`, the list surgeries, `splitBin_spec`, `MemStep`, the hindsight
justification `Good` and its preservation) is used for `Proto/BinXC` through this projection; this
file shows how `mem` commutes with the state updates of `Proto/BinXC`. -/
namespace Flurry.Proto.BinXC
open Flurry.Lin

def cN (n : NodeS) : BinX.NodeS := ⟨n.key, n.val, n.next, n.lock⟩

def cC : Cell → BinX.Cell
  | .empty => .empty
  | .node h => .node h
  | .moved => .moved

def cT : Tab → BinX.Tab
  | .old => .old
  | .new => .new

def cP (p : Pending) : BinX.Pending := ⟨p.key, p.op, p.inv⟩

def mem (s : State) : BinX.State :=
  { heap := s.heap.map cN, cell0 := cC s.cell0, lowCell := cC s.lowCell, highCell := cC s.highCell,
    cur := cT s.cur, resizing := false, threads := [], hist := [], now := s.now }

@[simp] theorem cN_key (n : NodeS) : (cN n).key = n.key := rfl
@[simp] theorem cN_val (n : NodeS) : (cN n).val = n.val := rfl
@[simp] theorem cN_next (n : NodeS) : (cN n).next = n.next := rfl
@[simp] theorem cN_lock (n : NodeS) : (cN n).lock = n.lock := rfl
@[simp] theorem mem_heap (s : State) : (mem s).heap = s.heap.map cN := rfl
@[simp] theorem mem_cell0 (s : State) : (mem s).cell0 = cC s.cell0 := rfl
@[simp] theorem mem_lowCell (s : State) : (mem s).lowCell = cC s.lowCell := rfl
@[simp] theorem mem_highCell (s : State) : (mem s).highCell = cC s.highCell := rfl
@[simp] theorem mem_cur (s : State) : (mem s).cur = cT s.cur := rfl
@[simp] theorem mem_now (s : State) : (mem s).now = s.now := rfl

theorem cC_inj {a b : Cell} (h : cC a = cC b) : a = b := by
  cases a <;> cases b <;> simp [cC] at h <;> first | rfl | (subst h; rfl)

theorem cC_eq_empty {a : Cell} : cC a = .empty ↔ a = .empty := ⟨fun h => cC_inj (b := .empty) h, fun h => by rw [h]; rfl⟩
theorem cC_eq_moved {a : Cell} : cC a = .moved ↔ a = .moved := ⟨fun h => cC_inj (b := .moved) h, fun h => by rw [h]; rfl⟩
theorem cC_eq_node {a : Cell} {h : Nat} : cC a = .node h ↔ a = .node h :=
  ⟨fun e => cC_inj (b := .node h) e, fun e => by rw [e]; rfl⟩

theorem cT_eq_new {a : Tab} : cT a = .new ↔ a = .new := by cases a <;> simp [cT]

theorem cellHead_cC (c : Cell) : BinX.cellHead (cC c) = cellHead c := by cases c <;> rfl

theorem cC_cellOfHead (x : Option Nat) : cC (cellOfHead x) = BinX.cellOfHead x := by cases x <;> rfl

theorem hiBit_eq (k : Nat) : BinX.hiBit k = hiBit k := rfl

theorem mem_tick (s : State) : mem (tick s) = BinX.tick (mem s) := rfl
theorem mem_setT (s : State) (t : Nat) (l : Local) : mem (setT s t l) = mem s := rfl
theorem mem_finish (s : State) (t : Nat) (p : Pending) (res : KRes) : mem (finish s t p res) = mem s := rfl
theorem mem_finishClear (s : State) (t : Nat) (p : Pending) : mem (finishClear s t p) = mem s := rfl

theorem map_modify {α β : Type} (g : α → β) (f : α → α) (f' : β → β) (hf : ∀ a, g (f a) = f' (g a))
    (l : List α) (i : Nat) : (l.modify i f).map g = (l.map g).modify i f' := by
  apply List.ext_getElem?
  intro j
  simp only [List.getElem?_map, List.getElem?_modify]
  cases l[j]? with
  | none => rfl
  | some a => by_cases hij : i = j <;> simp [hij, hf]

theorem mem_setNode (s : State) (i : Nat) (f : NodeS → NodeS) (f' : BinX.NodeS → BinX.NodeS)
    (hf : ∀ a, cN (f a) = f' (cN a)) : mem (setNode s i f) = BinX.setNode (mem s) i f' := by
  simp only [mem, setNode, BinX.setNode]
  rw [map_modify cN f f' hf]

theorem mem_setNode_lock (s : State) (i : Nat) (x : Option Nat) :
    mem (setNode s i (fun m => { m with lock := x })) = BinX.setNode (mem s) i (fun m => { m with lock := x }) :=
  mem_setNode s i _ _ (fun _ => rfl)

theorem mem_setNode_val (s : State) (i : Nat) (x : Nat × Nat) :
    mem (setNode s i (fun m => { m with val := x })) = BinX.setNode (mem s) i (fun m => { m with val := x }) :=
  mem_setNode s i _ _ (fun _ => rfl)

theorem mem_setNode_next (s : State) (i : Nat) (x : Option Nat) :
    mem (setNode s i (fun m => { m with next := x })) = BinX.setNode (mem s) i (fun m => { m with next := x }) :=
  mem_setNode s i _ _ (fun _ => rfl)

theorem cellOf_mem (s : State) (tab : Tab) (k : Nat) : BinX.cellOf (mem s) (cT tab) k = cC (cellOf s tab k) := by
  cases tab with
  | old => rfl
  | new =>
    unfold BinX.cellOf cellOf cT
    dsimp only
    rw [hiBit_eq]
    split <;> rfl

theorem mem_setCell (s : State) (tab : Tab) (k : Nat) (c : Cell) :
    mem (setCell s tab k c) = BinX.setCell (mem s) (cT tab) k (cC c) := by
  cases tab with
  | old => rfl
  | new =>
    unfold BinX.setCell setCell cT
    dsimp only
    rw [hiBit_eq]
    split <;> rfl

def cellIdAt (tab : Tab) (idx : Nat) : BinX.CellId :=
  match tab, idx with
  | .old, _ => .c0
  | .new, 0 => .low
  | .new, _ => .high

theorem cellAt_mem (s : State) (tab : Tab) (idx : Nat) :
    BinX.getCell (mem s) (cellIdAt tab idx) = cC (cellAt s tab idx) := by
  cases tab with
  | old => rfl
  | new => cases idx <;> rfl

theorem mem_setCellAt (s : State) (tab : Tab) (idx : Nat) (c : Cell) :
    mem (setCellAt s tab idx c) = BinX.putCell (mem s) (cellIdAt tab idx) (cC c) := by
  cases tab with
  | old => rfl
  | new => cases idx <;> rfl

theorem setCellAt_frame (s : State) (tab : Tab) (idx : Nat) (c : Cell) :
    (setCellAt s tab idx c).heap = s.heap ∧ (setCellAt s tab idx c).threads = s.threads ∧
    (setCellAt s tab idx c).hist = s.hist ∧ (setCellAt s tab idx c).now = s.now ∧
    (setCellAt s tab idx c).resizing = s.resizing ∧ (setCellAt s tab idx c).retired = s.retired := by
  cases tab with
  | old => exact ⟨rfl, rfl, rfl, rfl, rfl, rfl⟩
  | new => cases idx <;> exact ⟨rfl, rfl, rfl, rfl, rfl, rfl⟩

theorem setCell_frame (s : State) (tab : Tab) (k : Nat) (c : Cell) :
    (setCell s tab k c).heap = s.heap ∧ (setCell s tab k c).threads = s.threads ∧
    (setCell s tab k c).hist = s.hist ∧ (setCell s tab k c).now = s.now ∧
    (setCell s tab k c).resizing = s.resizing ∧ (setCell s tab k c).retired = s.retired := by
  cases tab with
  | old => exact ⟨rfl, rfl, rfl, rfl, rfl, rfl⟩
  | new => unfold setCell; dsimp only; split <;> exact ⟨rfl, rfl, rfl, rfl, rfl, rfl⟩

theorem getD_map (heap : List NodeS) (i : Nat) : (heap.map cN).getD i BinX.dflt = cN (heap.getD i dflt) := by
  simp only [List.getD_eq_getElem?_getD, List.getElem?_map]
  cases heap[i]? <;> rfl

theorem nodeAt_mem (s : State) (i : Nat) : BinX.nodeAt (mem s).heap i = cN (s.heap.getD i dflt) := getD_map s.heap i

theorem chainFrom_map (heap : List NodeS) : ∀ (fuel : Nat) (st : Option Nat),
    BinX.chainFrom (heap.map cN) fuel st = chainFrom heap fuel st
  | 0, _ => by simp [BinX.chainFrom, chainFrom]
  | _ + 1, none => by simp [BinX.chainFrom, chainFrom]
  | fuel + 1, some i => by
    simp only [BinX.chainFrom, chainFrom, List.getElem?_map]
    cases heap[i]? with
    | none => rfl
    | some n => simp [chainFrom_map heap fuel]

theorem chainOfCell_mem (s : State) (c : Cell) : BinX.chainOfCell (mem s) (cC c) = chainOfCell s c := by
  unfold BinX.chainOfCell chainOfCell
  rw [cellHead_cC, mem_heap, List.length_map, chainFrom_map]

theorem chainH_mem (s : State) (c : Cell) : BinX.chainH (mem s).heap (cC c) = chainOfCell s c :=
  chainOfCell_mem s c

theorem liveCell_mem (s : State) (k : Nat) : BinX.liveCell (mem s) k = cC (liveCell s k) := by
  unfold BinX.liveCell liveCell
  have h1 : ((mem s).cell0 == BinX.Cell.moved) = (s.cell0 == Cell.moved) := by
    rw [mem_cell0]; cases s.cell0 <;> rfl
  have h2 : ((mem s).cur == BinX.Tab.new) = (s.cur == Tab.new) := by
    rw [mem_cur]; cases s.cur <;> rfl
  rw [h1, h2]
  have h3 := cellOf_mem s .new k
  have h3' : BinX.cellOf (mem s) .new k = cC (cellOf s .new k) := h3
  rw [h3']
  split
  · rfl
  · split <;> rfl

theorem absOf_mem (s : State) (k : Nat) : BinX.absOf (mem s) k = absOf s k := by
  unfold BinX.absOf absOf
  rw [liveCell_mem, chainOfCell_mem]
  simp only [mem_heap, getD_map, cN_key, cN_val]
  cases List.find? (fun i => (s.heap.getD i dflt).key == k) (chainOfCell s (liveCell s k)) <;> rfl

theorem map_modify_next (l : List NodeS) (i : Nat) (x : Option Nat) :
    (l.modify i (fun n => { n with next := x })).map cN = (l.map cN).modify i (fun n => { n with next := x }) :=
  map_modify cN _ _ (fun _ => rfl) l i

theorem mem_heap_append (s : State) (n : NodeS) :
    mem { s with heap := s.heap ++ [n] } = { mem s with heap := (mem s).heap ++ [cN n] } := by
  unfold mem
  rw [List.map_append]
  rfl

theorem mem_unlinkAt (s : State) (tab : Tab) (key : Nat) (pred hnext : Option Nat) :
    mem (unlinkAt s tab key pred hnext) = BinX.unlinkAt (mem s) (cT tab) key pred hnext := by
  cases pred with
  | some pr => exact mem_setNode_next s pr hnext
  | none => exact (mem_setCell s tab key _).trans (by cases hnext <;> rfl)

theorem mem_appendAt (s : State) (tab : Tab) (key : Nat) (pred : Option Nat) (v : Nat × Nat) :
    mem (appendAt s tab key pred v) = BinX.appendAt (mem s) (cT tab) key pred v := by
  have hlen : (mem s).heap.length = s.heap.length := List.length_map _
  unfold BinX.appendAt
  rw [hlen]
  cases pred with
  | some l => exact (mem_setNode_next _ l _).trans (by rw [mem_heap_append]; rfl)
  | none => exact (mem_setCell _ tab key _).trans (by rw [mem_heap_append]; rfl)

theorem storeAt_mem (s : State) (tab : Tab) (p : Pending) (pred hit hnext : Option Nat) :
    mem (storeAt s tab p pred hit hnext).1 = (BinX.storeAt (mem s) (cT tab) (cP p) pred hit hnext).1 ∧
    (storeAt s tab p pred hit hnext).2 = (BinX.storeAt (mem s) (cT tab) (cP p) pred hit hnext).2 := by
  have hval : ∀ i, ((mem s).heap.getD i BinX.dflt).val = (s.heap.getD i dflt).val := fun i => by
    rw [mem_heap, getD_map]; rfl
  obtain ⟨key, op, inv⟩ := p
  cases op with
  | get => exact ⟨rfl, rfl⟩
  | has => exact ⟨rfl, rfl⟩
  | ins v vi =>
    cases hit with
    | some i => exact ⟨mem_setNode_val s i (v, vi), congrArg (fun x => resOf (some x)) (hval i).symm⟩
    | none => exact ⟨mem_appendAt s tab key pred (v, vi), rfl⟩
  | tryIns v vi =>
    cases hit with
    | some i => exact ⟨rfl, congrArg (fun x : Nat × Nat => KRes.exists_ x.1 x.2) (hval i).symm⟩
    | none => exact ⟨mem_appendAt s tab key pred (v, vi), rfl⟩
  | rm =>
    cases hit with
    | some i => exact ⟨mem_unlinkAt s tab key pred hnext, congrArg (fun x => resOf (some x)) (hval i).symm⟩
    | none => exact ⟨rfl, rfl⟩
  | cipInc nvi =>
    cases hit with
    | some i =>
      refine ⟨?_, congrArg (fun x : Nat × Nat => KRes.some (x.1 + 1) nvi) (hval i).symm⟩
      exact (mem_setNode_val s i _).trans (by rw [← hval i]; rfl)
    | none => exact ⟨rfl, rfl⟩
  | cipRm =>
    cases hit with
    | some i => exact ⟨mem_unlinkAt s tab key pred hnext, rfl⟩
    | none => exact ⟨rfl, rfl⟩

theorem unlinkAt_frame (s : State) (tab : Tab) (key : Nat) (pred hnext : Option Nat) :
    (unlinkAt s tab key pred hnext).threads = s.threads ∧ (unlinkAt s tab key pred hnext).hist = s.hist ∧
    (unlinkAt s tab key pred hnext).now = s.now ∧ (unlinkAt s tab key pred hnext).resizing = s.resizing ∧
    (unlinkAt s tab key pred hnext).retired = s.retired := by
  cases pred with
  | some pr => exact ⟨rfl, rfl, rfl, rfl, rfl⟩
  | none => exact (setCell_frame s tab key _).2

theorem appendAt_frame (s : State) (tab : Tab) (key : Nat) (pred : Option Nat) (v : Nat × Nat) :
    (appendAt s tab key pred v).threads = s.threads ∧ (appendAt s tab key pred v).hist = s.hist ∧
    (appendAt s tab key pred v).now = s.now ∧ (appendAt s tab key pred v).resizing = s.resizing ∧
    (appendAt s tab key pred v).retired = s.retired := by
  cases pred with
  | some l => exact ⟨rfl, rfl, rfl, rfl, rfl⟩
  | none => exact (setCell_frame _ tab key _).2

theorem storeAt_frame (s : State) (tab : Tab) (p : Pending) (pred hit hnext : Option Nat) :
    (storeAt s tab p pred hit hnext).1.threads = s.threads ∧ (storeAt s tab p pred hit hnext).1.hist = s.hist ∧
    (storeAt s tab p pred hit hnext).1.now = s.now ∧ (storeAt s tab p pred hit hnext).1.resizing = s.resizing ∧
    (storeAt s tab p pred hit hnext).1.retired = s.retired := by
  obtain ⟨key, op, inv⟩ := p
  cases op with
  | ins v vi | tryIns v vi =>
    cases hit with
    | some i => exact ⟨rfl, rfl, rfl, rfl, rfl⟩
    | none => exact appendAt_frame s tab key pred (v, vi)
  | rm | cipRm =>
    cases hit with
    | some i => exact unlinkAt_frame s tab key pred hnext
    | none => exact ⟨rfl, rfl, rfl, rfl, rfl⟩
  | _ => cases hit <;> exact ⟨rfl, rfl, rfl, rfl, rfl⟩

theorem lastRunStart_mem (heap : List NodeS) (c : List Nat) :
    BinX.lastRunStart (heap.map cN) c = lastRunStart heap c := by
  unfold BinX.lastRunStart lastRunStart
  have : (c.map fun i => BinX.hiBit ((heap.map cN).getD i BinX.dflt).key) =
      (c.map fun i => hiBit (heap.getD i dflt).key) := by
    apply List.map_congr_left
    intro i _
    rw [getD_map]; rfl
  simp only [this]
  rfl

/-- one iteration of the copy loop of `splitBin` -/
def splitStep (acc : List NodeS × Option Nat × Option Nat) (i : Nat) : List NodeS × Option Nat × Option Nat :=
  if hiBit (acc.1.getD i dflt).key then
    (acc.1 ++ [⟨(acc.1.getD i dflt).key, (acc.1.getD i dflt).val, acc.2.2, none⟩], acc.2.1, some acc.1.length)
  else
    (acc.1 ++ [⟨(acc.1.getD i dflt).key, (acc.1.getD i dflt).val, acc.2.1, none⟩], some acc.1.length, acc.2.2)

def runBitOf (heap : List NodeS) (run : List Nat) : Bool :=
  match run.head? with
  | some i => hiBit (heap.getD i dflt).key
  | none => false

theorem splitBin_eq (heap : List NodeS) (c : List Nat) :
    splitBin heap c = (c.take (lastRunStart heap c)).foldl splitStep
      (heap,
       (if runBitOf heap (c.drop (lastRunStart heap c)) then none else (c.drop (lastRunStart heap c)).head?),
       (if runBitOf heap (c.drop (lastRunStart heap c)) then (c.drop (lastRunStart heap c)).head? else none)) := rfl

theorem runBitOf_mem (heap : List NodeS) (run : List Nat) : BinX.runBitOf (heap.map cN) run = runBitOf heap run := by
  unfold BinX.runBitOf runBitOf
  cases run.head? with
  | none => rfl
  | some i => dsimp only; rw [getD_map]; rfl

theorem splitStep_mem (acc : List NodeS × Option Nat × Option Nat) (i : Nat) :
    BinX.splitStep (acc.1.map cN, acc.2) i = ((splitStep acc i).1.map cN, (splitStep acc i).2) := by
  unfold BinX.splitStep splitStep
  simp only [getD_map, cN_key, cN_val, hiBit_eq, List.length_map]
  split <;> simp [cN]

theorem foldl_splitStep_mem : ∀ (l : List Nat) (acc : List NodeS × Option Nat × Option Nat),
    l.foldl BinX.splitStep (acc.1.map cN, acc.2) = ((l.foldl splitStep acc).1.map cN, (l.foldl splitStep acc).2)
  | [], _ => rfl
  | i :: l, acc => by
    rw [List.foldl_cons, List.foldl_cons, splitStep_mem]
    exact foldl_splitStep_mem l (splitStep acc i)

theorem splitBin_mem (heap : List NodeS) (c : List Nat) :
    BinX.splitBin (heap.map cN) c = ((splitBin heap c).1.map cN, (splitBin heap c).2) := by
  rw [BinX.splitBin_eq, splitBin_eq, lastRunStart_mem, runBitOf_mem]
  exact foldl_splitStep_mem _ (heap, _, _)

end Flurry.Proto.BinXC
