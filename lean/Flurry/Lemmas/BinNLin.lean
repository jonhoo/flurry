import Flurry.Lemmas.BinNInvStep
import Flurry.Lemmas.BinNGInv
import Flurry.Lemmas.BinNHMLin
/-! # Proto/BinN: the ghost invariant holds in every reachable state (C01, C10)

`ginv_step`: every transition preserves `∃ G A pt, Inv ∧ GInv`. The steps of the readers and writers are
`BinNHM.ginv_rw` (there are the linearization points) at the ghost `BinNHM.toM G`. The transfers, allocations and
commits have no point: none of their steps changes the abstract state of any key. -/
namespace Flurry.Proto.BinN
open Flurry.Lin
open Flurry.Proto.BinX (NodeS Cell Pending isReader dflt nodeAt)
open BinNHM (toM AbsEff)

theorem ginv_step {k : Nat} {s s' : State} {G : Ghost} {A : Nat → KSt} {pt : Nat → Nat} {t : Nat} {l : Local}
    {pick : Nat} (g : GInv k s G A pt) (I : Inv s G) (hl : s.threads[t]? = some l) (hstep : StepK s t l pick s') :
    ∃ G' A' pt', Inv s' G' ∧ GInv k s' G' A' pt' := by
  obtain ⟨G', I', m, ae⟩ := stepK_inv I hl hstep
  have hcar := fun hnow => carries_toM.2 (m.carries (k := k) (A := A) (x := absOf s' k) I.heap I'.heap hnow g.core.hA)
  have gM := ginv_toM.2 g
  have rw : ¬ isT l.pc → s'.resizing = s.resizing → ∃ A' pt', BinNHM.GInv k s' (toM G') A' pt' :=
    fun hnT hrz => BinNHM.ginv_rw gM I.rw hl hstep hnT hrz hcar ae.quiet_of
  -- the resizing thread has no call and changes no abstract state
  have rz : ∀ {l' : Local}, s'.threads = s.threads.set t l' → s'.now = s.now + 1 → s'.hist = s.hist →
      (∀ g, l.pc ≠ .wCas g) → (∀ g h pr hi hn, l.pc ≠ .wStore g h pr hi hn) → l.call = none → l'.call = none →
      ∃ A' pt', BinNHM.GInv k s' (toM G') A' pt' :=
    fun hthr hnow hhist h1 h2 hc hc' =>
      ⟨_, _, BinNHM.ginv_quiet_nocall gM I.thr (hcar hnow) hl hthr hnow hhist (ae.quiet_of h1 h2 k) hc hc'⟩
  suffices h : ∃ A' pt', BinNHM.GInv k s' (toM G') A' pt' by
    obtain ⟨A', pt', g'⟩ := h
    exact ⟨G', A', pt', I', ginv_toM.1 g'⟩
  cases hstep with
  | idle hpc => unfold setT tick at rw ⊢; exact rw (by rw [hpc]; exact id) rfl
  | invoke k' op hpc => unfold setT tick at rw ⊢; exact rw (by rw [hpc]; exact id) rfl
  | resize hpc hr =>
    have hc := I.thr.idle_no_call hl hpc
    unfold setT tick at rz ⊢
    exact rz (l' := { l with pc := .tNext }) rfl rfl rfl (by rw [hpc]; intro g; simp) (by rw [hpc]; intro g h a b c; simp)
      hc hc
  | move p pc' hp hm => unfold setT tick at rw ⊢; exact rw hm.isOp.2.2.1 rfl
  | tmove pc' hp hm =>
    unfold setT tick at rz ⊢
    exact rz (l' := { l with pc := pc' }) rfl rfl rfl (by intro g hpc; rw [hpc] at hm; cases hm)
      (by intro g h a b c hpc; rw [hpc] at hm; cases hm) hp hp
  | lockMove p h x pc' hp hm => unfold setT setNode tick at rw ⊢; exact rw hm.isOp.2.2.1 rfl
  | tlockMove h x pc' hp hm =>
    unfold setT setNode tick at rz ⊢
    exact rz (l' := { l with pc := pc' }) rfl rfl rfl (by intro g hpc; rw [hpc] at hm; cases hm)
      (by intro g h a b c hpc; rw [hpc] at hm; cases hm) hp hp
  | fin p res hp hf => unfold finish setT tick at rw ⊢; exact rw hf.isOp.2 rfl
  | cas p g0 v vi hp hpc hc hop =>
    unfold finish setT setCell putCell tick at rw ⊢; exact rw (by rw [hpc]; exact id) rfl
  | store p g0 h pred hit hnext hp hpc =>
    exact rw (by rw [hpc]; exact id) (storeAt_shape (tick s) g0 p pred hit hnext).2.2.1
  | unlockFin p g0 h res hp hpc => unfold finish setT setNode tick at rw ⊢; exact rw (by rw [hpc]; exact id) rfl
  | casMoved j hp hpc hc =>
    unfold putCell setT tick at rz ⊢
    exact rz (l' := { l with pc := .tNext }) rfl rfl rfl (by rw [hpc]; intro g; simp) (by rw [hpc]; intro g h a b c; simp) hp hp
  | build j h hp hpc =>
    unfold setT tick at rz ⊢
    exact rz (l' := { l with pc := .tStoreLow j h _ _ }) rfl rfl rfl (by rw [hpc]; intro g; simp)
      (by rw [hpc]; intro g h a b c; simp) hp hp
  | storeLow j h lo hg hp hpc =>
    unfold putCell setT tick at rz ⊢
    exact rz (l' := { l with pc := .tStoreHigh j h hg }) rfl rfl rfl (by rw [hpc]; intro g; simp)
      (by rw [hpc]; intro g h a b c; simp) hp hp
  | storeHigh j h hg hp hpc =>
    unfold putCell setT tick at rz ⊢
    exact rz (l' := { l with pc := .tStoreMoved j h }) rfl rfl rfl (by rw [hpc]; intro g; simp)
      (by rw [hpc]; intro g h a b c; simp) hp hp
  | storeMoved j h hp hpc =>
    unfold putCell setT tick at rz ⊢
    exact rz (l' := { l with pc := .tUnlock j h }) rfl rfl rfl (by rw [hpc]; intro g; simp)
      (by rw [hpc]; intro g h a b c; simp) hp hp
  | commit hp hpc =>
    unfold setT tick at rz ⊢
    exact rz (l' := { l with pc := .idle }) rfl rfl rfl (by rw [hpc]; intro g; simp)
      (by rw [hpc]; intro g h a b c; simp) hp hp

theorem init_hinv (n : Nat) : HInv (init n) {} :=
  BinNHM.hinv_toM.2 ⟨BinNHM.init_hinv n, Nat.zero_le _, fun _ hi => absurd hi.2 (Nat.not_lt_zero _)⟩

theorem init_inv (n : Nat) : Inv (init n) {} := by
  refine ⟨init_geninv n, init_hinv n, init_tinv n, pinv_of ?_ (fun h => by cases h), ⟨?_⟩⟩
  · intro t l hl hm
    rw [init_thread hl] at hm; exact hm.elim
  · intro t l p hl hc
    rw [init_thread hl] at hc; cases hc

theorem init_ginv (n k : Nat) : GInv k (init n) {} (fun _ => none) id :=
  ginv_toM.1 (BinNHM.init_ginv n k)

theorem reachable_ginv {n : Nat} {s : State} (hr : Reachable n s) (k : Nat) :
    ∃ G A pt, Inv s G ∧ GInv k s G A pt := by
  induction hr with
  | init => exact ⟨_, _, _, init_inv n, init_ginv n k⟩
  | @step s s' t inv rz pick hr hs ih =>
    obtain ⟨G, A, pt, I, g⟩ := ih
    cases hl : s.threads[t]? with
    | none => unfold step stepG at hs; rw [hl] at hs; cases hs
    | some l => exact ginv_step g I hl (step_stepK hl hs)

theorem reachable_inv {n : Nat} {s : State} (hr : Reachable n s) : ∃ G, Inv s G := by
  obtain ⟨G, _, _, I, _⟩ := reachable_ginv hr 0
  exact ⟨G, I⟩

end Flurry.Proto.BinN
