import Flurry.Lemmas.BinGNGenFrame
/-! # Proto/BinGN: fresh planned `TreeBin`s are in no cell and belong to one thread

`FreshInv s`: a `TreeBin` that a thread has built and not yet stored — the private bin of a treeify at `kStore`, a
planned child of a transfer at `xStoreLow` / `xStoreHigh` other than the re-used bin — is in no cell, is planned by
no other thread, and the two planned children of a transfer are not the same `TreeBin`. (Needed for `refOK`: a
`TreeBin` loaded from a cell is not an unpublished one — also when it is empty.) The last clause (`dist`, `planDistinct`)
has no reader outside this invariant: it is what keeps `noCell` of the high child when the low child is stored
(`stepN_freshInv`, case `xstoreLow`); `BinGNP.XInv.plan` has the same fact as `Plan.distinct`. -/
namespace Flurry.Proto.BinGN
open Flurry.Lin

def binsOf : Cell → List Nat
  | .tree b => [b]
  | _ => []

/-- the `TreeBin`s a thread has built and not yet stored, but for the re-used one -/
def freshB : Pc → List Nat
  | .kStore _ _ _ b => [b]
  | .xStoreLow _ unl lo hi => (binsOf lo ++ binsOf hi).filter (fun b => decide (unl ≠ .inr b))
  | .xStoreHigh _ unl hi => (binsOf hi).filter (fun b => decide (unl ≠ .inr b))
  | _ => []

/-- the two planned children are not the same `TreeBin` -/
def planDistinct : Pc → Prop
  | .xStoreLow _ _ lo hi => ∀ b, lo = .tree b → hi ≠ .tree b
  | _ => True

structure FreshInv (s : State) : Prop where
  noCell : ∀ (t : Nat) (l : Local) (b : Nat), s.threads[t]? = some l → b ∈ freshB l.pc → ∀ g j, cellAt s g j ≠ .tree b
  uniq : ∀ (t t' : Nat) (l l' : Local) (b : Nat), s.threads[t]? = some l → s.threads[t']? = some l' →
    b ∈ freshB l.pc → b ∈ freshB l'.pc → t = t'
  dist : ∀ (t : Nat) (l : Local), s.threads[t]? = some l → planDistinct l.pc

/-- `hcell` describes the `TreeBin`s in the cells of `s'`; `hfresh` the fresh
bins of the acting thread -/
theorem freshInv_frame {s s' : State} {t : Nat} {l l' : Local} (F : FreshInv s) (hl : s.threads[t]? = some l)
    (hthr : s'.threads = s.threads.set t l')
    (hcell : ∀ g j b, cellAt s' g j = .tree b → (∃ g' j', cellAt s g' j' = .tree b) ∨ b ∈ freshB l.pc)
    (hfresh : ∀ b, b ∈ freshB l'.pc →
      (b ∈ freshB l.pc ∧ ∀ g j, cellAt s' g j = .tree b → ∃ g' j', cellAt s g' j' = .tree b) ∨ (s.tbins.length ≤ b))
    (hbins : ∀ g j b, cellAt s g j = .tree b → b < s.tbins.length)
    (hplan : ∀ (t1 : Nat) (l1 : Local) (b : Nat), s.threads[t1]? = some l1 → b ∈ freshB l1.pc → b < s.tbins.length)
    (hdist : planDistinct l'.pc) : FreshInv s' := by
  have hget : ∀ (t1 : Nat) (l1 : Local), s'.threads[t1]? = some l1 →
      (t1 = t ∧ l1 = l') ∨ (t1 ≠ t ∧ s.threads[t1]? = some l1) := fun t1 l1 h => by rw [hthr] at h; exact get_set h
  refine ⟨?_, ?_, ?_⟩
  · intro t1 l1 b h1 hb g j hc
    rcases hget t1 l1 h1 with ⟨rfl, rfl⟩ | ⟨n1, h0⟩
    · rcases hfresh b hb with ⟨hb0, hk⟩ | hge
      · obtain ⟨g', j', h'⟩ := hk g j hc
        exact F.noCell t1 l b hl hb0 g' j' h'
      · rcases hcell g j b hc with ⟨g', j', h⟩ | h
        · exact absurd (hbins g' j' b h) (by omega)
        · exact absurd (hplan t1 l b hl h) (by omega)
    · rcases hcell g j b hc with ⟨g', j', h⟩ | h
      · exact F.noCell t1 l1 b h0 hb g' j' h
      · exact n1 (F.uniq t1 t l1 l b h0 hl hb h)
  · intro t1 t2 l1 l2 b h1 h2 hb1 hb2
    rcases hget t1 l1 h1 with ⟨rfl, rfl⟩ | ⟨n1, h01⟩ <;> rcases hget t2 l2 h2 with ⟨e2, rfl⟩ | ⟨n2, h02⟩
    · exact e2.symm
    · rcases hfresh b hb1 with ⟨hb0, -⟩ | hge
      · exact F.uniq _ _ _ _ b hl h02 hb0 hb2
      · exact absurd (hplan t2 l2 b h02 hb2) (by omega)
    · subst e2
      rcases hfresh b hb2 with ⟨hb0, -⟩ | hge
      · exact F.uniq _ _ _ _ b h01 hl hb1 hb0
      · exact absurd (hplan t1 l1 b h01 hb1) (by omega)
    · exact F.uniq _ _ _ _ b h01 h02 hb1 hb2
  · intro t1 l1 h1
    rcases hget t1 l1 h1 with ⟨rfl, rfl⟩ | ⟨n1, h0⟩
    · exact hdist
    · exact F.dist t1 l1 h0

theorem mem_binsOf {b : Nat} {c : Cell} : b ∈ binsOf c ↔ c = .tree b := by
  cases c <;> simp [binsOf]
  exact eq_comm

theorem fresh_lt {s : State} (I : GenInv s) :
    ∀ (t1 : Nat) (l1 : Local) (b : Nat), s.threads[t1]? = some l1 → b ∈ freshB l1.pc → b < s.tbins.length := by
  intro t1 l1 b h1 hb
  have T := I.thr t1 l1 h1
  obtain ⟨pc, call⟩ := l1
  cases pc <;> simp only [freshB, List.not_mem_nil, List.mem_filter, List.mem_append, List.mem_singleton, mem_binsOf] at hb
  case kStore g k h b' =>
    subst hb
    exact (T.plan (.tree b) (by simp [desc, descPc])).2 b rfl
  case xStoreLow j unl lo hi =>
    obtain ⟨hb, -⟩ := hb
    rcases hb with rfl | rfl
    · exact (T.plan (.tree b) (by simp [desc, descPc])).2 b rfl
    · exact (T.plan (.tree b) (by simp [desc, descPc])).2 b rfl
  case xStoreHigh j unl hi =>
    obtain ⟨rfl, -⟩ := hb
    exact (T.plan (.tree b) (by simp [desc, descPc])).2 b rfl

/-- a transition that changes no cell; the acting thread keeps or drops its fresh bins -/
theorem freshInv_same {s s' : State} {t : Nat} {l l' : Local} (F : FreshInv s) (I : GenInv s)
    (hl : s.threads[t]? = some l) (hthr : s'.threads = s.threads.set t l') (htabs : s'.tabs = s.tabs)
    (hfresh : ∀ b, b ∈ freshB l'.pc → b ∈ freshB l.pc) (hdist : planDistinct l'.pc) : FreshInv s' := by
  have hc : ∀ g j, cellAt s' g j = cellAt s g j := fun g j => by rw [cellAt_eq, cellAt_eq, htabs]
  exact freshInv_frame F hl hthr (fun g j b h => Or.inl ⟨g, j, by rw [hc] at h; exact h⟩)
    (fun b hb => Or.inl ⟨hfresh b hb, fun g j h => ⟨g, j, by rw [hc] at h; exact h⟩⟩) I.bins (fresh_lt I) hdist

/-- a store of `c` into a cell: if `c` holds a `TreeBin`, it is a fresh bin of the acting thread (which it gives
up) or a bin that is already in some cell -/
theorem freshInv_put {s s' : State} {t : Nat} {l l' : Local} {g0 j0 : Nat} {c : Cell} (F : FreshInv s) (I : GenInv s)
    (hl : s.threads[t]? = some l) (hthr : s'.threads = s.threads.set t l')
    (htabs : s'.tabs = s.tabs.modify g0 (fun row => row.set j0 c))
    (hc : ∀ b, c = .tree b → b ∈ freshB l.pc ∨ ∃ g j, cellAt s g j = .tree b)
    (hfresh : ∀ b, b ∈ freshB l'.pc → b ∈ freshB l.pc ∧ c ≠ .tree b) (hdist : planDistinct l'.pc) : FreshInv s' := by
  have hne : ∀ g j, ¬ (g = g0 ∧ j = j0) → cellAt s' g j = cellAt s g j := by
    intro g j h; rw [cellAt_eq, cellAt_eq, htabs]; exact cellT_put_ne _ _ h
  have hself : cellAt s' g0 j0 = c ∨ cellAt s' g0 j0 = cellAt s g0 j0 := by
    rw [cellAt_eq, cellAt_eq, htabs]; exact cellT_put_self _ _ _ _
  have hback : ∀ g j b, cellAt s' g j = .tree b → (∃ g' j', cellAt s g' j' = .tree b) ∨ c = .tree b := by
    intro g j b h
    by_cases e : g = g0 ∧ j = j0
    · obtain ⟨rfl, rfl⟩ := e
      rcases hself with e1 | e1
      · rw [e1] at h; exact Or.inr h
      · rw [e1] at h; exact Or.inl ⟨_, _, h⟩
    · rw [hne g j e] at h; exact Or.inl ⟨_, _, h⟩
  refine freshInv_frame F hl hthr ?_ ?_ I.bins (fresh_lt I) hdist
  · intro g j b h
    rcases hback g j b h with h1 | h1
    · exact Or.inl h1
    · rcases hc b h1 with h2 | h2
      · exact Or.inr h2
      · exact Or.inl h2
  · intro b hb
    obtain ⟨hb0, hcb⟩ := hfresh b hb
    refine Or.inl ⟨hb0, ?_⟩
    intro g j h
    rcases hback g j b h with h1 | h1
    · exact h1
    · exact absurd h1 hcb

end Flurry.Proto.BinGN
