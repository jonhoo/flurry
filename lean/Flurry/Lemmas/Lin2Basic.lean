import Flurry.Lin2
import Flurry.Lemmas.LinGen
/-! # Linearizability: the certificate checker is sound (and complete)

`validate_sound`, `validate_iff`, `linearizable_iff_validate`; `linearizable_iff_linL` brings
`Linearizable2` into the list form of `LinGen`. -/
namespace Flurry.Lin2
open Flurry.LinGen

/-- boolean real-time compatibility of two call indices: both exist and the first may precede the second -/
def rtOk (h : History2) (i j : Nat) : Bool :=
  match h[i]?, h[j]? with
  | some a, some b => mayPrecede a b
  | _, _ => false

theorem realTimeOk_cons (h : History2) (i : Nat) (rest : List Nat) :
    realTimeOk h (i :: rest) = (rest.all (rtOk h i) && realTimeOk h rest) := rfl

theorem rtOk_iff {h : History2} {i j : Nat} :
    rtOk h i j = true ↔ ∃ a b, h[i]? = some a ∧ h[j]? = some b ∧ ¬ b.resp < a.inv := by
  unfold rtOk
  cases hi : h[i]? <;> cases hj : h[j]? <;> simp [mayPrecede]

theorem realTimeOk_iff {h : History2} {order : List Nat} :
    realTimeOk h order = true ↔ order.Pairwise (fun i j => rtOk h i j = true) := by
  induction order with
  | nil => simp [realTimeOk]
  | cons i rest ih => simp [realTimeOk_cons, ih, List.pairwise_cons, List.all_eq_true]

theorem isPermOfRange_iff {order : List Nat} {n : Nat} :
    isPermOfRange order n = true ↔ order.Perm (List.range n) := by
  simp only [isPermOfRange, Bool.and_eq_true, beq_iff_eq, List.all_eq_true, List.mem_range,
    List.contains_iff_mem]
  exact ⟨fun hv => perm_range_of_length_of_mem n order hv.1 hv.2,
    fun hp => ⟨by simpa using hp.length_eq, fun i hi => hp.symm.subset (List.mem_range.2 hi)⟩⟩

theorem isPermOfRange_perm {order : List Nat} {n : Nat} (hv : isPermOfRange order n = true) :
    order.Perm (List.range n) := isPermOfRange_iff.1 hv

theorem validate_iff {h : History2} {order : List Nat} {init fin : KSt} :
    validate h order init fin = true ↔
      order.Perm (List.range h.length) ∧ order.Pairwise (fun i j => rtOk h i j = true) ∧
      replay2 h order init = some fin := by
  simp [validate, isPermOfRange_iff, realTimeOk_iff, and_assoc]

theorem linearizable_iff_pairwise {h : History2} {init fin : KSt} :
    Linearizable2 h init fin ↔ ∃ order : List Nat,
      order.Perm (List.range h.length) ∧ order.Pairwise (fun i j => rtOk h i j = true) ∧
      replay2 h order init = some fin := by
  simp only [rtOk_iff]
  exact exists_congr fun order => and_congr_right fun hp => and_congr_left' <|
    indexed_iff_pairwise_idx (fun a b : Call2 => ¬ b.resp < a.inv) h order
      fun i hi => List.mem_range.1 (hp.subset hi)

theorem validate_sound {h : History2} {order : List Nat} {init fin : KSt}
    (hv : validate h order init fin = true) : Linearizable2 h init fin :=
  linearizable_iff_pairwise.2 ⟨order, validate_iff.1 hv⟩

theorem linearizable_iff_validate {h : History2} {init fin : KSt} :
    Linearizable2 h init fin ↔ ∃ order, validate h order init fin = true := by
  simp only [linearizable_iff_pairwise, validate_iff]

/-- one checked step of a key -/
def kstep (st : KSt) (c : Call2) : Option KSt :=
  if (specStep2 st c.op).2 = c.res then some (specStep2 st c.op).1 else none

theorem kstep_of_spec {st st' : KSt} {c : Call2} (h : specStep2 st c.op = (st', c.res)) :
    kstep st c = some st' := by
  simp [kstep, h]

def krt (a b : Call2) : Prop := ¬ (b.resp < a.inv)

theorem replay_eq_runI (h : History2) : ∀ (order : List Nat) (st : KSt),
    replay2 h order st = runI kstep h order st
  | [], st => rfl
  | i :: rest, st => by
    cases hc : h[i]? with
    | none => simp [replay2, runI, hc]
    | some c =>
      simp only [replay2, runI, hc, kstep]
      split
      · simpa using replay_eq_runI h rest _
      · simp

theorem linearizable_iff_linL {h : History2} {init fin : KSt} :
    Linearizable2 h init fin ↔ GLinL kstep krt h init (· = fin) := by
  rw [← glinI_iff_glinL]
  simp only [Linearizable2, GLinI, replay_eq_runI, krt, exists_eq_right]

end Flurry.Lin2
