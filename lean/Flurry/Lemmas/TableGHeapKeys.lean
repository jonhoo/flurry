import Flurry.Lemmas.BinGHeapKeys
import Flurry.Lemmas.TableG
import Flurry.Lemmas.BinGQuiescent
/-! # Proto/TableG: every node of lineage `i` holds a key of lineage `i` — in EVERY reachable state

The invariant `KeysIn` of `Lemmas/TableG.lean` (the keys of the calls of lineage `i` are keys of lineage
`i`) extended from calls to heap nodes (`BinG.HK`, `Lemmas/BinGHeapKeys.lean`), by induction over
`TableG.Reachable`: a tick changes no node, a step of lineage `i` creates nodes only with the key of its
call or as copies of nodes of the lineage. Hence, without any quiescence hypothesis, every key on a live list
of lineage `i` is a key of lineage `i` (`stored_key_in_own_lineage`: what `Lemmas/TableGQuiescent.lean` needs to read
the entries of the table off those of the lineages). -/
namespace Flurry.Proto.TableG
open Flurry.Lin Flurry.LinMap
open Flurry.Proto.BinK (nodeAt)

/-- every node of every lineage holds a key of that lineage -/
def NodeKeys (m : Nat) (S : State) : Prop :=
  ∀ (j : Nat) (b : BinG.State), S.bins[j]? = some b → BinG.HK (fun k => lineageOf m k = j) b.heap

theorem init_nodeKeys (m n : Nat) : NodeKeys m (init m n) := by
  intro j b h
  rw [Lineages.eq_of_getElem?_replicate h]
  exact BinG.init_hk _ n

theorem step_nodeKeys {m n : Nat} {S S' : State} {i t : Nat} {inv : Option (Nat × KOp)} {lo : Bool}
    {mt : Option Nat} {rz sm sm2 : Bool}
    (I : TblInv m n S) (N : NodeKeys m S) (hs : step S i t inv lo mt rz sm sm2 = some S') : NodeKeys m S' := by
  obtain ⟨b, b', hb, hidle, _, _, hb', rfl⟩ := step_eq_some hs
  have hget := Lineages.of_set_map tick _ (idleIn · t) hidle (b' := b')
  intro j c hc
  rcases hget j c hc with ⟨rfl, rfl⟩ | ⟨_, b0, hj, rfl, _⟩
  · exact BinG.step_hk (BinG.reachable_inv (I.reach j b hb)) (I.keys j b hb) (N j b hb) hb'
  · exact N j b0 hj  -- `(tick b0).heap` is `b0.heap`

theorem reachable_nodeKeys {m n : Nat} {S : State} (hr : Reachable m n S) : NodeKeys m S := by
  induction hr with
  | init => exact init_nodeKeys m n
  | step i t inv lo mt rz sm sm2 hr hs ih => exact step_nodeKeys (reachable_tblInv hr) ih hs

theorem node_key_in_own_lineage {m n : Nat} {S : State} (hr : Reachable m n S) {i : Nat} {b : BinG.State}
    (hb : S.bins[i]? = some b) {j : Nat} (hj : j < b.heap.length) : lineageOf m (nodeAt b.heap j).key = i :=
  reachable_nodeKeys hr i b hb j hj

theorem stored_key_in_own_lineage {m n : Nat} {S : State} (hr : Reachable m n S)
    {i : Nat} {b : BinG.State} (hb : S.bins[i]? = some b) {k : Nat} {v : Nat × Nat}
    (he : (k, v) ∈ BinG.entries b) : lineageOf m k = i := by
  have H := (BinG.reachable_inv ((reachable_tblInv hr).reach i b hb)).heap
  unfold BinG.entries at he
  obtain ⟨c, hc, hkv⟩ := List.mem_flatMap.1 he
  obtain ⟨id, hid⟩ := BinG.liveCells_sub hc
  obtain ⟨x, hx, hk, -⟩ := BinG.mem_entriesOfCell.1 hkv
  rw [← hk]
  exact node_key_in_own_lineage hr hb (BinG.HeapKeys.chain_lt_of_cell H hid.symm x hx)

end Flurry.Proto.TableG
