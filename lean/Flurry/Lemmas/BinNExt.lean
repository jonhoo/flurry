import Flurry.Lemmas.BinNThreads
import Flurry.Lemmas.BinXGhost
/-! # Proto/BinN: the extended history and the core of the ghost invariant

The extended history (completed calls plus stored-but-not-unlocked writers) is `GhostView.callsOnExt` at
`BinN.view` (`extOf_eq`, `callsOnExt_eq`); the core of the ghost invariant `GCore` (trace `A`, linearization
points `pt`; without the hindsight justification of the readers) is the `GhostView.Trace` of the key over it
(`GCore.trace`, `GCore.of_trace`), so its preservation is read off the step kinds of `Lemmas/GhostView`, and
`GCore.linearizable` (from the ghost invariant to linearizability; `GCore.linearizable_quiescent` in a quiescent state)
is `Trace.lin`. At the end: what the pc-only moves and the completions say about
`resOfPc` and about a reader's pointer (`Move.good`), used by the ghost step `BinNHM.ginv_rw`. -/
namespace Flurry.Proto.BinN
open Flurry.Lin
open Flurry.Proto.BinX (NodeS Cell Pending isReader dflt chainFrom cellHead cellOfHead CallOK)

/-- the call of a writer that has stored and only has to unlock, counted as responding at `now` -/
def extOf (k now t : Nat) (l : Local) : Option Call :=
  match l.pc, l.call with
  | .wUnlock _ _ res false, some p => if p.key = k then some ⟨t, p.op, res, p.inv, now⟩ else none
  | _, _ => none

def extCalls (s : State) (k : Nat) : History :=
  (List.range s.threads.length).filterMap (fun t => (s.threads[t]?).bind (extOf k s.now t))

/-- the completed calls on key `k`, plus the calls of writers that have already performed their
store and only have to unlock (they are counted as responding "now") -/
def callsOnExt (s : State) (k : Nat) : History := callsOn s k ++ extCalls s k

theorem extOf_eq (k now t : Nat) (l : Local) : extOf k now t l = GhostView.extOf Lin.sig view k now t l := by
  obtain ⟨pc, call⟩ := l
  unfold extOf GhostView.extOf
  cases call <;> cases pc <;> first | rfl | (rename_i h res retry; cases retry <;> rfl)

theorem callsOnExt_eq (s : State) (k : Nat) :
    callsOnExt s k = GhostView.callsOnExt Lin.sig view s.hist s.threads k s.now := by
  have : extOf k s.now = fun t l => GhostView.extOf Lin.sig view k s.now t l :=
    funext fun t => funext fun l => extOf_eq k s.now t l
  unfold callsOnExt extCalls; rw [this]; rfl

theorem callsOnExt_quiescent {s : State} (hq : quiescent s) (k : Nat) : callsOnExt s k = callsOn s k := by
  rw [callsOnExt_eq]; exact GhostView.callsOnExt_quiescent k s.now (fun l hl => congrArg resOfPc (hq l hl))

/-- the ghost invariant without the hindsight justification of the readers: the trace `A` starts at
"absent" and ends in the abstract state of `k`; every call of the extended history has a point in its
interval at which `A` justifies it; `A` only changes at the point of a writer; the points of the
writers are pairwise distinct -/
structure GCore (k : Nat) (s : State) (A : Nat → KSt) (pt : Nat → Nat) : Prop where
  h0 : A 0 = none
  hA : A s.now = absOf s k
  calls : ∀ c ∈ callsOnExt s k, CallOK A pt c
  stab : ∀ τ, 1 ≤ τ → τ ≤ s.now → A τ ≠ A (τ - 1) →
    ∃ c ∈ callsOnExt s k, isRead c.op = false ∧ pt c.inv = τ
  inj : ∀ c ∈ callsOnExt s k, ∀ d ∈ callsOnExt s k, isRead c.op = false → isRead d.op = false →
    pt c.inv = pt d.inv → c.inv = d.inv

/-- `GCore` is the `GhostView.Trace` of the key over the extended history -/
theorem GCore.trace {k : Nat} {s : State} {A : Nat → KSt} {pt : Nat → Nat} (g : GCore k s A pt) :
    GhostView.Trace Lin.sig (GhostView.callsOnExt Lin.sig view s.hist s.threads k s.now) s.now (absOf s k) A pt := by
  rw [← callsOnExt_eq]; exact ⟨g.h0, g.hA, g.calls, g.stab, g.inj⟩

theorem GCore.of_trace {k : Nat} {s : State} {A : Nat → KSt} {pt : Nat → Nat}
    (tr : GhostView.Trace Lin.sig (GhostView.callsOnExt Lin.sig view s.hist s.threads k s.now) s.now (absOf s k) A pt) :
    GCore k s A pt := by
  rw [← callsOnExt_eq] at tr; exact ⟨tr.h0, tr.hA, tr.calls, tr.stab, tr.inj⟩

theorem GCore.linearizable {k : Nat} {s : State} {A : Nat → KSt} {pt : Nat → Nat}
    (g : GCore k s A pt) (T : TInv s) : Lin.Linearizable (callsOnExt s k) none (absOf s k) :=
  callsOnExt_eq s k ▸ g.trace.lin T.gen

theorem GCore.linearizable_quiescent {k : Nat} {s : State} {A : Nat → KSt} {pt : Nat → Nat}
    (g : GCore k s A pt) (T : TInv s) (hq : quiescent s) : Lin.Linearizable (callsOn s k) none (absOf s k) := by
  have := g.linearizable T
  rw [callsOnExt_quiescent hq] at this
  exact this

theorem absOf_init (n k : Nat) : absOf (init n) k = none := by
  simp [absOf, liveCell, liveFrom, cellOf, cellAt, chainOfCell, init, chainFrom]

theorem init_gcore (n k : Nat) : GCore k (init n) (fun _ => none) id := by
  have tr := GhostView.Trace.init (S := Lin.sig) (V := view) (ts := (init n).threads) k (fun l hl => by
    obtain ⟨t, hl⟩ := List.mem_iff_getElem?.1 hl; rw [init_thread hl]; rfl)
  rw [← absOf_init n k] at tr
  exact .of_trace tr

theorem Move.res_none {s : State} {p : Pending} {pc pc' : Pc} (h : Move s p pc pc') :
    resOfPc pc = none ∧ resOfPc pc' = none := by
  cases h <;> exact ⟨rfl, rfl⟩

theorem Fin.res_none {s : State} {p : Pending} {pc : Pc} {res : KRes} (h : Fin s p pc res) : resOfPc pc = none := by
  cases h <;> rfl

theorem LockMove.res_none {s : State} {t h : Nat} {x : Option Nat} {pc pc' : Pc} (hm : LockMove s t pc h x pc') :
    resOfPc pc = none ∧ resOfPc pc' = none ∧ ∀ cur, pc' ≠ .rNode cur := by
  cases hm <;> exact ⟨rfl, rfl, by intro cur; simp⟩

theorem resOfPc_invoke (op : KOp) : resOfPc (if isReader op then Pc.rTable else Pc.wTable) = none := by
  cases isReader op <;> rfl

theorem Move.good {s : State} {p : Pending} {pc pc' : Pc} (h : Move s p pc pc') {cur : Option Nat}
    (hc : pc' = .rNode cur) :
    (∃ g h, pc = .rCell g ∧ cellOf s g p.key = .node h ∧ cur = some h) ∨
    (∃ c n, pc = .rNode (some c) ∧ s.heap[c]? = some n ∧ n.key ≠ p.key ∧ cur = n.next) := by
  cases h with
  | rCellNode hcell => cases hc; exact Or.inl ⟨_, _, rfl, hcell, rfl⟩
  | rNext hn hk => cases hc; exact Or.inr ⟨_, _, rfl, hn, hk, rfl⟩
  | rTable => cases hc
  | rCellMoved _ => cases hc
  | wTable => cases hc
  | wCellEmpty _ _ => cases hc
  | wCellMoved _ => cases hc
  | wCellNode _ => cases hc
  | casFail => cases hc
  | checkOk _ => cases hc
  | checkFail _ => cases hc
  | findEnd => cases hc
  | findHit _ _ => cases hc
  | findNext _ _ => cases hc

theorem missRes_spec {op : KOp} (h : isRead op = true) : specStep none op = (none, missRes op) := by
  cases op <;> first | rfl | cases h

theorem hitRes_spec {op : KOp} (h : isRead op = true) (n : NodeS) :
    specStep (some n.val) op = (some n.val, hitRes op n) := by
  cases op <;> first | rfl | cases h

end Flurry.Proto.BinN
