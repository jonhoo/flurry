import Flurry.Lemmas.BinGNPInvQ
/-! # Proto/BinGN: the quiet path — transitions that change the synchronisation words of one `TreeBin`

`eff_b` and the four kinds of change (`eff_readers`, `eff_acquire`, `eff_release`, `eff_bits`); every lemma takes
`XShape s'`. -/
namespace Flurry.Proto.BinGNP
open Flurry.Lin Flurry.Proto.BinGS
open Flurry.Proto.BinK (nodeAt binAt lockSet isInsert HeapEqv get_set get_set_self get_set_ne binAt_modify
  binAt_modify_self binAt_modify_ne)

/-- `s'` is `s` but for the clock, the history, the thread `t` and the `TreeBin` table -/
structure BStep (s s' : State) (tb : List TBin) (t : Nat) (l' : Local) : Prop where
  heap : s'.heap = s.heap
  tabs : s'.tabs = s.tabs
  cur : s'.cur = s.cur
  tbins : s'.tbins = tb
  threads : s'.threads = s.threads.set t l'

theorem bstep_setT (s : State) (tb : List TBin) (t : Nat) (l' : Local) :
    BStep s (setT (qst s s.heap tb) t l') tb t l' := by
  cases s; exact ⟨rfl, rfl, rfl, rfl, rfl⟩

theorem bstep_finish (s : State) (tb : List TBin) (t : Nat) (p : Pending) (res : KRes) :
    BStep s (finish (qst s s.heap tb) t p res) tb t ⟨.idle, none⟩ := by
  cases s; exact ⟨rfl, rfl, rfl, rfl, rfl⟩

theorem BStep.quiet {s s' : State} {t : Nat} {l' : Local} {b0 : Nat} {f : TBin → TBin}
    (S : BStep s s' (s.tbins.modify b0 f) t l') (hf : ∀ x, (f x).first = x.first) : Quiet s s' :=
  ⟨S.tabs, S.cur, by rw [S.heap]; exact HeapEqv.refl _, by rw [S.tbins, List.length_modify],
    fun b => by rw [S.tbins]; exact Flurry.Proto.BinK.binAt_modify_keep (·.first) _ _ hf b⟩

/-- `Eff` and the abstract states after a step of thread `t` that changes the synchronisation words of the `TreeBin` `b0` it
refers to (`f`, which keeps `first`) and nothing else of the shared state; the mutex and read-write parts of `LInv s'`
(`M'`, `R'`) are supplied by the four kinds of change below -/
theorem eff_b {s s' : State} {t : Nat} {l l' : Local} {b0 : Nat} {f : TBin → TBin} (I : Inv s)
    (hl : s.threads[t]? = some l) (S : BStep s s' (s.tbins.modify b0 f) t l') (hf : ∀ x, (f x).first = x.first)
    (XS' : XShape s') (T' : TInv s') (href : binRef l.pc = some b0)
    (e1 : holdsLock l'.pc = holdsLock l.pc) (e2 : validL l'.pc = none)
    (M' : MxPart s') (R' : RwPart s') (X : XFacts s l.pc l'.pc)
    (hnew : ∀ p, l'.call = some p → PcInv s p l'.pc)
    (hdead : ¬ InCell s b0 → (binAt s.tbins b0).writer = true → (f (binAt s.tbins b0)).writer = true) :
    Eff s s' ∧ ∀ k, absOf s' k = absOf s k := by
  have L := I.lock
  have H := I.heap
  have q : Quiet s s' := S.quiet hf
  have hthr := S.threads
  have htb := S.tbins
  have hcur := S.cur
  obtain ⟨hb0, hnp⟩ := L.refOK t l b0 hl href
  have hbin : ∀ b, PrivBin s b → binAt s'.tbins b = binAt s.tbins b := by
    intro b hb
    rw [htb, binAt_modify_ne]
    intro e; subst e; exact hnp hb
  have L' : LInv s' := by
    refine LInv.of_parts (lk_step L hl hthr hcur (lockfun_same L hl e1 (fun h => by rw [S.heap]))
      (fun h hp => Or.inl (e1 ▸ hp)) (fun h hv => by rw [e2] at hv; cases hv) (fun id => Or.inl (q.cellAt_eq id))) M' R'
  have X' : XInv s' := xinv_of_facts (l := l) I q.toC hcur hthr XS' X hbin
  have D' : DInv s' := dinv_qC I hl q.toC hthr X.src (not_kStore_of_pend X.pend.2) hnew hbin
  refine eff_of_quietC H ⟨q.toC.hinv H hcur (reusing_of_set_pc hthr hl (not_store_of_pend X.pend.1)), T', X', L', D'⟩ q.toC
    (q.toC.liveId_eq hcur) (liveCell_congr S.tabs hcur) (q.toC.used_of_nil H hcur hthr X.pend.2) ?_
  intro b hnc hw
  by_cases hb : b = b0
  · subst hb
    rw [htb, binAt_modify_self _ hb0]
    exact hdead hnc hw
  · rw [htb, binAt_modify_ne _ (fun e => hb e.symm)]
    exact hw

theorem rw_readers {s s' : State} {t : Nat} {l l' : Local} {b0 : Nat} {f : TBin → TBin} (L : LInv s)
    (hl : s.threads[t]? = some l) (hthr : s'.threads = s.threads.set t l')
    (hcell : ∀ id, cellAt s' id = cellAt s id) (htb : s'.tbins = s.tbins.modify b0 f) (hb0 : b0 < s.tbins.length)
    (hf : ∀ x, (f x).mutex = x.mutex ∧ (f x).writer = x.writer ∧ (f x).waiter = x.waiter)
    (hrd0 : (f (binAt s.tbins b0)).readers + (if holdsRead l.pc = some b0 then 1 else 0) =
      (binAt s.tbins b0).readers + (if holdsRead l'.pc = some b0 then 1 else 0))
    (hother : ∀ b, b ≠ b0 → (holdsRead l.pc = some b ↔ holdsRead l'.pc = some b))
    (hw : (binAt s.tbins b0).writer = true → (f (binAt s.tbins b0)).readers = 0)
    (e3 : holdsMutex l.pc = none)
    (e8 : ∀ b, binRef l'.pc = some b → binRef l.pc = some b ∨ (b < s.tbins.length ∧ ¬ PrivBin s b))
    (hpriv : ∀ b, b < s.tbins.length → PrivBin s' b → PrivBin s b) : RwPart s' := by
  have hlen : s'.tbins.length = s.tbins.length := by rw [htb, List.length_modify]
  refine rw_gen L hl hthr (fun id b hc => Or.inl ⟨id, by rw [hcell] at hc; exact hc⟩) (Nat.le_of_eq hlen.symm) ?_ ?_
    (fun b h1 h2 => absurd (hlen ▸ h2) (Nat.not_lt.2 h1)) ?_ ?_ e8 hpriv
  · intro b
    rw [htb, binAt_modify]
    split
    · exact hf _
    · exact ⟨rfl, rfl, rfl⟩
  · intro b _
    by_cases hb : b = b0
    · subst hb
      rw [htb, binAt_modify_self _ hb0]
      exact hrd0
    · rw [htb, binAt_modify_ne _ (fun e => hb e.symm)]
      by_cases h1 : holdsRead l.pc = some b
      · rw [if_pos h1, if_pos ((hother b hb).1 h1)]
      · rw [if_neg h1, if_neg (fun h2 => h1 ((hother b hb).2 h2))]
  · intro b hwb
    by_cases hb : b = b0
    · subst hb
      rw [htb, binAt_modify_self _ hb0]
      exact hw hwb
    · rw [htb, binAt_modify_ne _ (fun e => hb e.symm)]
      exact L.wrd b hwb
  · intro b hb
    rw [e3] at hb; cases hb

/-! ## one `TreeBin` changes, by kind of change

In the four lemmas of this section thread `t` steps from `l` to `l'`, and `s'` differs from `s` in `TreeBin` `b` (but for
its `first` field), the thread table, the clock and the history only. -/
section
variable {s s' : State} {t : Nat} {l l' : Local} {b : Nat} {g : TBin → TBin} (I : Inv s)
  (hl : s.threads[t]? = some l) (XS' : XShape s') (T' : TInv s') (X : XFacts s l.pc l'.pc)
  (hnew : ∀ p, l'.call = some p → PcInv s p l'.pc)
  (hL : holdsLock l'.pc = holdsLock l.pc) (hvL : validL l'.pc = none)
include I hl XS' T' X hnew hL hvL

theorem eff_readers (S : BStep s s' (s.tbins.modify b g) t l')
    (hg : ∀ x, (g x).first = x.first ∧ (g x).mutex = x.mutex ∧ (g x).writer = x.writer ∧ (g x).waiter = x.waiter)
    (href : binRef l.pc = some b) (hm : holdsMutex l.pc = none) (hm' : holdsMutex l'.pc = none)
    (hvT : validT l'.pc = none)
    (hrd : (g (binAt s.tbins b)).readers + (if holdsRead l.pc = some b then 1 else 0) =
      (binAt s.tbins b).readers + (if holdsRead l'.pc = some b then 1 else 0))
    (hother : ∀ b', b' ≠ b → (holdsRead l.pc = some b' ↔ holdsRead l'.pc = some b'))
    (hw : (binAt s.tbins b).writer = true → (g (binAt s.tbins b)).readers = 0)
    (href' : ∀ b', binRef l'.pc = some b' → binRef l.pc = some b') :
    Eff s s' ∧ ∀ k, absOf s' k = absOf s k := by
  have L := I.lock
  have q : Quiet s s' := S.quiet (fun x => (hg x).1)
  have hthr := S.threads
  have htb := S.tbins
  have hcur := S.cur
  refine eff_b I hl S (fun x => (hg x).1) XS' T' href hL hvL ?_ ?_ X hnew
    (fun _ hw' => by rw [(hg _).2.2.1]; exact hw')
  · refine mx_step L hl hthr hcur (mutexfun_same L hl (hm'.trans hm.symm) ?_) (fun b' hb' => by rw [hm'] at hb'; cases hb')
      (fun b' hb' => by rw [hvT] at hb'; cases hb') (fun id => Or.inl (q.cellAt_eq id))
    intro b'
    rw [htb, binAt_modify]
    split
    · exact (hg _).2.1
    · rfl
  · exact rw_readers L hl hthr q.cellAt_eq htb (L.refOK t l b hl href).1 (fun x => (hg x).2) hrd hother hw hm
      (fun b' hb' => Or.inl (href' b' hb')) (fun b' _ h => q.toC.privBin_of hcur hthr X.pend.2 h)

theorem eff_acquire (S : BStep s s' (s.tbins.modify b (fun x => { x with mutex := some t })) t l')
    (hfree : (binAt s.tbins b).mutex = none) (href : binRef l.pc = some b) (hm : holdsMutex l.pc = none)
    (hm' : holdsMutex l'.pc = some b) (hvT : validT l'.pc = none) (hw' : wr l'.pc = false)
    (hr : holdsRead l'.pc = holdsRead l.pc) (href' : ∀ b', binRef l'.pc = some b' → binRef l.pc = some b') :
    Eff s s' ∧ ∀ k, absOf s' k = absOf s k := by
  have L := I.lock
  have q : Quiet s s' := S.quiet (fun x => rfl)
  have hthr := S.threads
  have htb := S.tbins
  have hcur := S.cur
  have hb0 := (L.refOK t l b hl href).1
  have hmf : MutexFun s s' t l.pc l'.pc := mutexfun_acq hm hm' hb0 htb
  have hself : binAt (s.tbins.modify b (fun x => { x with mutex := some t })) b =
      { binAt s.tbins b with mutex := some t } := binAt_modify_self _ hb0
  refine eff_b I hl S (fun x => rfl) XS' T' href hL hvL ?_ ?_ X hnew (fun _ hw => hw)
  · exact mx_step L hl hthr hcur hmf (fun b' hb' => by rw [hm'] at hb'; cases hb'; exact Or.inr hfree)
      (fun b' hb' => by rw [hvT] at hb'; cases hb') (fun id => Or.inl (q.cellAt_eq id))
  · refine rw_bin (b0 := b) L hl hthr q.cellAt_eq htb (by rw [List.length_modify])
      (fun b' hb' => binAt_modify_ne _ (fun e => hb' e.symm)) (by rw [hself]) (Or.inl hm) hmf ?_ ?_ ?_ ?_ hr
      (fun b' hb' => Or.inl (href' b' hb')) (fun b' _ h => q.toC.privBin_of hcur hthr X.pend.2 h)
    · rintro ⟨id, hc⟩ _
      rw [hself]
      obtain ⟨e1, e2⟩ := L.bitsNone id b hc hfree
      exact ⟨e1.trans hw'.symm, fun hw => by rw [e2] at hw; cases hw⟩
    · intro _ hmx
      rw [hself] at hmx; cases hmx
    · intro x hx hmx
      rw [hself] at hmx
      exact absurd (Option.some.inj hmx).symm hx
    · intro hw
      rw [hself] at hw
      exact L.wrd b hw

theorem eff_release (S : BStep s s' (s.tbins.modify b (fun x => { x with mutex := none })) t l')
    (hm : holdsMutex l.pc = some b) (hwr : wr l.pc = false) (hlp : isLoop l.pc = false)
    (hm' : holdsMutex l'.pc = none) (hvT : validT l'.pc = none) (hr : holdsRead l'.pc = holdsRead l.pc)
    (href' : binRef l'.pc = none) : Eff s s' ∧ ∀ k, absOf s' k = absOf s k := by
  have L := I.lock
  have q : Quiet s s' := S.quiet (fun x => rfl)
  have hthr := S.threads
  have htb := S.tbins
  have hcur := S.cur
  have href := binRef_of_holdsMutex hm
  have hmt := (L.mx t l b hl).1 hm
  have hmf : MutexFun s s' t l.pc l'.pc := mutexfun_rel L hl hm hm' htb
  have hself : binAt (s.tbins.modify b (fun x => { x with mutex := none })) b =
      { binAt s.tbins b with mutex := none } := binAt_modify_self _ (L.refOK t l b hl href).1
  refine eff_b I hl S (fun x => rfl) XS' T' href hL hvL ?_ ?_ X hnew (fun _ hw => hw)
  · exact mx_step L hl hthr hcur hmf (fun b' hb' => by rw [hm'] at hb'; cases hb')
      (fun b' hb' => by rw [hvT] at hb'; cases hb') (fun id => Or.inl (q.cellAt_eq id))
  · refine rw_bin (b0 := b) L hl hthr q.cellAt_eq htb (by rw [List.length_modify])
      (fun b' hb' => binAt_modify_ne _ (fun e => hb' e.symm)) (by rw [hself]) (Or.inr hm) hmf ?_ ?_ ?_ ?_ hr
      (fun b' hb' => by rw [href'] at hb'; cases hb') (fun b' _ h => q.toC.privBin_of hcur hthr X.pend.2 h)
    · intro _ hmx
      rw [hself] at hmx; cases hmx
    · rintro ⟨id, hc⟩ _
      rw [hself]
      obtain ⟨e1, e2⟩ := L.bitsSome id b t l hc hl hmt
      refine ⟨e1.trans hwr, ?_⟩
      cases hw : (binAt s.tbins b).waiter with
      | false => rfl
      | true => have := e2 hw; rw [hlp] at this; cases this
    · intro x _ hmx
      rw [hself] at hmx; cases hmx
    · intro hw
      rw [hself] at hw
      exact L.wrd b hw

theorem eff_bits (S : BStep s s' (s.tbins.modify b g) t l')
    (hg : ∀ x, (g x).first = x.first ∧ (g x).mutex = x.mutex ∧ (g x).readers = x.readers)
    (hm : holdsMutex l.pc = some b) (hm' : holdsMutex l'.pc = some b)
    (hvT : ∀ b', validT l'.pc = some b' → cellAt s (cidOf s l') = .tree b') (hr : holdsRead l'.pc = holdsRead l.pc)
    (href' : binRef l'.pc = some b)
    (hbits : InCell s b →
      (g (binAt s.tbins b)).writer = wr l'.pc ∧ ((g (binAt s.tbins b)).waiter = true → isLoop l'.pc = true))
    (hrd : (g (binAt s.tbins b)).writer = true → (binAt s.tbins b).readers = 0)
    (hdead : ¬ InCell s b → (binAt s.tbins b).writer = true → (g (binAt s.tbins b)).writer = true) :
    Eff s s' ∧ ∀ k, absOf s' k = absOf s k := by
  have L := I.lock
  have q : Quiet s s' := S.quiet (fun x => (hg x).1)
  have hthr := S.threads
  have htb := S.tbins
  have hcur := S.cur
  have href := binRef_of_holdsMutex hm
  have hmt := (L.mx t l b hl).1 hm
  have hself : binAt (s.tbins.modify b g) b = g (binAt s.tbins b) := binAt_modify_self _ (L.refOK t l b hl href).1
  have hmf : MutexFun s s' t l.pc l'.pc := by
    refine mutexfun_same L hl (hm'.trans hm.symm) ?_
    intro b'
    rw [htb, binAt_modify]
    split
    · exact (hg _).2.1
    · rfl
  refine eff_b I hl S (fun x => (hg x).1) XS' T' href hL hvL ?_ ?_ X hnew hdead
  · exact mx_step L hl hthr hcur hmf (fun b' hb' => Or.inl (by rw [hm'] at hb'; rw [hm]; exact hb'))
      (fun b' hb' => by rw [q.cellAt_eq, cidOf_cur hcur]; exact hvT b' hb') (fun id => Or.inl (q.cellAt_eq id))
  · refine rw_bin (b0 := b) L hl hthr q.cellAt_eq htb (by rw [List.length_modify])
      (fun b' hb' => binAt_modify_ne _ (fun e => hb' e.symm)) (by rw [hself]; exact (hg _).2.2) (Or.inr hm) hmf
      (fun hc _ => by rw [hself]; exact hbits hc) ?_ ?_ (fun hw => by rw [hself] at hw; exact hrd hw) hr
      (fun b' hb' => Or.inl (by rw [href'] at hb'; rw [href]; exact hb')) (fun b' _ h => q.toC.privBin_of hcur hthr X.pend.2 h)
    · intro _ hmx
      rw [hself, (hg _).2.1, hmt] at hmx; cases hmx
    · intro x hx hmx
      rw [hself, (hg _).2.1, hmt] at hmx
      exact absurd (Option.some.inj hmx).symm hx

end

theorem BMove.pcs {s : State} {t : Nat} {p : Pending} {pc pc' : Pc} {tb : List TBin} (hm : BMove s t p pc pc' tb) :
    readerPc pc' = readerPc pc ∧ noCallPc pc' = false ∧ midTree pc = false := by
  cases hm
  case lrTryOk tab b k res h1 h2 h3 => cases k <;> exact ⟨rfl, rfl, rfl⟩
  case lrLoopOk tab b k res h1 h3 => cases k <;> exact ⟨rfl, rfl, rfl⟩
  all_goals exact ⟨rfl, rfl, rfl⟩

theorem BMove.xfacts {s : State} {t : Nat} {p : Pending} {pc pc' : Pc} {tb : List TBin}
    (hm : BMove s t p pc pc' tb) (hc : noCallPc pc = false) : XFacts s pc pc' :=
  ⟨⟨pend_of_call hc, pend_of_call hm.pcs.2.1⟩, src_of_midTree hm.pcs.2.2⟩

theorem BFin.xfacts {s : State} {p : Pending} {pc : Pc} {res : KRes} {tb : List TBin}
    (hf : BFin s p pc res tb) (hc : noCallPc pc = false) : XFacts s pc .idle :=
  ⟨⟨pend_of_call hc, rfl⟩, src_of_midTree (by cases hf <;> rfl)⟩

theorem KBMove.xfacts {s : State} {t : Nat} {pc pc' : Pc} {tb : List TBin}
    (hk : KBMove s t pc pc' tb) : XFacts s pc pc' := by
  cases hk <;> exact ⟨⟨rfl, rfl⟩, src_of_midTree rfl⟩

theorem pcInv_afterLock {s : State} {p : Pending} {tab : Nat} {b : Nat} {k : After} {res : KRes} :
    (PcInv s p (.lrTry tab b k res) → PcInv s p (afterLock tab b k res)) ∧
      (PcInv s p (.lrLoop tab b k res) → PcInv s p (afterLock tab b k res)) := by
  cases k <;> exact ⟨id, id⟩

theorem eff_bmove {s : State} {t : Nat} {l : Local} {p : Pending} {pc' : Pc} {tb : List TBin} (I : Inv s)
    (hl : s.threads[t]? = some l) (hp : l.call = some p) (hm : BMove s t p l.pc pc' tb) :
    let s' := setT (qst s s.heap tb) t { l with pc := pc' }
    XShape s' → Eff s s' ∧ ∀ k, absOf s' k = absOf s k := by
  intro s' XS'
  have S := bstep_setT s tb t { l with pc := pc' }
  have L := I.lock
  have hno := noCall_false_of_call I.thr hl hp
  have hni := I.thr.opOK t l p hl hp hno
  have hP := I.data.pcInv t l p hl hp
  have hX := hm.xfacts hno
  have T' : TInv s' := by
    refine tinv_keep (l' := { l with pc := pc' }) I.thr hl rfl rfl rfl rfl ?_ ?_
    · show l.call = none ↔ noCallPc pc' = true
      rw [hp, hm.pcs.2.1]; simp
    · intro p1 hp1 _
      show isReader p1.op = readerPc pc'
      rw [hm.pcs.1]; exact I.thr.opOK t l p1 hl hp1 hno
  obtain ⟨pc, call⟩ := l
  simp only at hm hp hP hX
  subst hp
  cases hm with
  | @rCasOk b c r h1 h2 h3 =>
    refine eff_readers (l' := ⟨.rTree b, some p⟩) I hl XS' T' hX (fun _ _ => trivial) rfl rfl S
      (fun _ => ⟨rfl, rfl, rfl, rfl⟩) rfl rfl rfl rfl ?_ ?_ (fun hw => by rw [h1] at hw; cases hw) (fun _ hb => hb)
    · simp [holdsRead]
    · intro b' hb'
      simp [holdsRead]
      exact fun e => hb' e.symm
  | @rRelVal b i hop =>
    have hpos := L.reader_pos (b := b) hl rfl
    refine eff_readers (l' := ⟨.rVal i, some p⟩) I hl XS' T' hX
      (fun p1 hp1 => by cases hp1; exact hop) rfl rfl S (fun _ => ⟨rfl, rfl, rfl, rfl⟩) rfl rfl rfl rfl ?_ ?_
      (fun hw => by have := L.wrd b hw; simp only; omega) nofun
    · simp [holdsRead]; omega
    · intro b' hb'
      simp [holdsRead]
      exact fun e => hb' e.symm
  | @tMutex tab b hmx =>
    exact eff_acquire (l' := ⟨.tCheck tab b, some p⟩) I hl XS' T' hX (fun _ _ => trivial)
      rfl rfl S hmx rfl rfl rfl rfl rfl rfl (fun _ hb => hb)
  | @lrTryOk tab b k res h1 h2 h3 =>
    refine eff_bits (l' := ⟨afterLock tab b k res, some p⟩) I hl XS' T' hX
      (fun p1 hp1 => by cases hp1; exact pcInv_afterLock.1 hP) (afterLock_holdsLock tab b k res)
      (afterLock_validL tab b k res) S (fun _ => ⟨rfl, rfl, rfl⟩) rfl (afterLock_holdsMutex tab b k res) ?_
      (afterLock_holdsRead tab b k res) (afterLock_binRef tab b k res)
      (fun _ => ⟨(afterLock_wr tab b k res).symm, fun hw => by rw [h2] at hw; cases hw⟩) (fun _ => h3) (fun _ _ => rfl)
    intro b' hb'
    rw [afterLock_validT] at hb'; cases hb'
    rw [afterLock_cidOf]
    exact (L.vT t _ b hl rfl :)
  | @lrLoopOk tab b k res h1 h3 =>
    refine eff_bits (l' := ⟨afterLock tab b k res, some p⟩) I hl XS' T' hX
      (fun p1 hp1 => by cases hp1; exact pcInv_afterLock.2 hP) (afterLock_holdsLock tab b k res)
      (afterLock_validL tab b k res) S (fun _ => ⟨rfl, rfl, rfl⟩) rfl (afterLock_holdsMutex tab b k res) ?_
      (afterLock_holdsRead tab b k res) (afterLock_binRef tab b k res)
      (fun _ => ⟨(afterLock_wr tab b k res).symm, nofun⟩) (fun _ => h3) (fun _ _ => rfl)
    intro b' hb'
    rw [afterLock_validT] at hb'; cases hb'
    rw [afterLock_cidOf]
    exact (L.vT t _ b hl rfl :)
  | @lrLoopWait tab b k res h2 =>
    have hmt := (L.mx t _ b hl).1 rfl
    exact eff_bits (l' := ⟨.lrLoop tab b k res, some p⟩) I hl XS' T' hX
      (fun p1 hp1 => by cases hp1; exact hP) rfl rfl S (fun _ => ⟨rfl, rfl, rfl⟩) rfl rfl
      (fun b' hb' => by cases hb'; exact (L.vT t _ b hl rfl :)) rfl rfl
      (fun ⟨id, hc⟩ => ⟨(L.bitsSome id b t _ hc hl hmt).1, fun _ => rfl⟩) (L.wrd b) (fun _ hw => hw)
  | @unlockRoot tab b res =>
    have hcell := L.vT t _ b hl rfl
    exact eff_bits (l' := ⟨.tUnlockM tab b res false, some p⟩) I hl XS' T' hX
      (fun _ _ => trivial) rfl rfl S (fun _ => ⟨rfl, rfl, rfl⟩) rfl rfl nofun rfl rfl (fun _ => ⟨rfl, nofun⟩) nofun
      (fun hnc _ => absurd ⟨_, hcell⟩ hnc)
  | @tUnlockMRetry tab b res =>
    exact eff_release (l' := ⟨.wCell tab, some p⟩) I hl XS' T' hX (fun _ _ => trivial)
      rfl rfl S rfl rfl rfl rfl rfl rfl rfl

theorem eff_bfin {s : State} {t : Nat} {l : Local} {p : Pending} {res : KRes} {tb : List TBin} (I : Inv s)
    (hl : s.threads[t]? = some l) (hp : l.call = some p) (hf : BFin s p l.pc res tb) :
    let s' := finish (qst s s.heap tb) t p res
    XShape s' → Eff s s' ∧ ∀ k, absOf s' k = absOf s k := by
  intro s' XS'
  have S := bstep_finish s tb t p res
  have L := I.lock
  have hX := hf.xfacts (noCall_false_of_call I.thr hl hp)
  have T' : TInv s' := tinv_finish (l' := { pc := .idle, call := none }) I.thr hl hp rfl rfl rfl rfl rfl
  obtain ⟨pc, call⟩ := l
  simp only at hf hp hX
  subst hp
  -- a reader leaves
  have hrel : ∀ (b : Nat) (hit : Option Nat), pc = .rRelease b hit →
      tb = s.tbins.modify b (fun x => { x with readers := x.readers - 1 }) → Eff s s' ∧ ∀ k, absOf s' k = absOf s k := by
    intro b hit hpc htb
    subst hpc htb
    have hpos := L.reader_pos (b := b) hl rfl
    refine eff_readers (l' := ⟨.idle, none⟩) I hl XS' T' hX nofun rfl rfl S
      (fun _ => ⟨rfl, rfl, rfl, rfl⟩) rfl rfl rfl rfl ?_ ?_ (fun hw => by have := L.wrd b hw; simp only; omega) nofun
    · simp [holdsRead]; omega
    · intro b' hb'
      simp [holdsRead]
      exact fun e => hb' e.symm
  cases hf with
  | @rRelNone b => exact hrel b none rfl rfl
  | @rRelHas b i hop => exact hrel b (some i) rfl rfl
  | @tUnlockMFin tab b =>
    exact eff_release (l' := ⟨.idle, none⟩) I hl XS' T' hX nofun rfl rfl S rfl rfl rfl rfl rfl
      rfl rfl

theorem eff_kbmove {s : State} {t : Nat} {l : Local} {pc' : Pc} {tb : List TBin} (I : Inv s)
    (hl : s.threads[t]? = some l) (hc : l.call = none) (hm : KBMove s t l.pc pc' tb) :
    let s' := setT (qst s s.heap tb) t { l with pc := pc' }
    XShape s' → Eff s s' ∧ ∀ k, absOf s' k = absOf s k := by
  intro s' XS'
  have S := bstep_setT s tb t { l with pc := pc' }
  have hX := hm.xfacts
  obtain ⟨pc, call⟩ := l
  simp only at hm hc hX
  subst hc
  have T' : ∀ pc'', noCallPc pc'' = true → TInv (setT (qst s s.heap tb) t { pc := pc'', call := none }) :=
    fun pc'' h2 => tinv_keep_none (l' := { pc := pc'', call := none }) I.thr hl rfl rfl rfl rfl rfl h2
  cases hm with
  | @yMutex j b hmx =>
    exact eff_acquire (l' := ⟨.yCheck j b, none⟩) I hl XS' (T' _ rfl) hX nofun rfl rfl S hmx
      rfl rfl rfl rfl rfl rfl (fun _ hb => hb)
  | @yCheckFail j b hcf =>
    exact eff_release (l' := ⟨.xCell j, none⟩) I hl XS' (T' _ rfl) hX nofun rfl rfl S rfl rfl rfl
      rfl rfl rfl rfl
  | @xUnlockT b =>
    exact eff_release (l' := ⟨.xNext, none⟩) I hl XS' (T' _ rfl) hX nofun rfl rfl S rfl rfl
      rfl rfl rfl rfl rfl

end Flurry.Proto.BinGNP
