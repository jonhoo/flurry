import Flurry.Lemmas.BinGNStepTools
import Flurry.Lemmas.BinGNGenFrame
/-! # Proto/BinGN: the generation invariant — the acting thread's descriptor

`POK.empty` (a thread that knows nothing) is the base case of `GenInv` (`Lemmas/BinGNGenReach.lean`). `gen_follow` (a
forwarding marker in generation `g ≤ cur + 1` means `g ≤ cur`: generation `cur + 1` holds none) and `cur_gen` are the two
arguments of the shape half about the generation a thread works in (`BinGNGenStepW`, `BinGNGenStepX`). `POK.update` (the
descriptor after a step that leaves the tables alone) has no user.

The tactic abbreviations at the end of the file (`open_step` … `pi_all`) are not the tools of this layer: no proof calls
them, and none could. They unfold `step` per program counter and name frame lemmas that the library does not have
(`geninv_move`, `geninv_weak`, `owninv_frame`, `rwinv_same`, `tinv_move`, `hN_same`, `hM_same`, `copyChain_lockSame`,
`LockExt.refl`, `RwSame.refl`, …). What they name that exists is `LockSame` / `MutexSame` (`BinGNGenDefs`), `LockExt` /
`MutexExt` (`BinGNOwnDefs`) and `RwSame` (`BinGNRwDefs`) with their lemmas on `modify` and `++`, which have no other
reader. The invariants are proved by cases on `BinGNP.StepN` with `Lemmas/BinGNStepTools.lean`. -/
namespace Flurry.Proto.BinGN
open Flurry.Lin

theorem POK.empty (s : State) (t : Nat) : POK s t {} := by
  refine ⟨?_, ?_, ?_, ?_, ?_, ?_, ?_, ?_⟩
  · intro h; cases h
  · intro _ _ h; cases h
  · intro _ h; cases h
  · intro h; cases h
  · intro _ h; cases h
  · intro _ h; cases h
  · intro _ _ _ h; cases h
  · intro _ h; cases h

/-- the general way to obtain `POK` for the new descriptor of the acting thread when the tables do not change -/
theorem POK.update {s s' : State} {t : Nat} {D D' : Desc} (h : POK s t D)
    (htabs : s'.tabs = s.tabs) (hcur : s'.cur = s.cur) (hres : s'.resizing = s.resizing)
    (hlen : s.tbins.length ≤ s'.tbins.length)
    (isX : D'.isX = true → D.isX = true) (gen : D'.gen = none ∨ D'.gen = D.gen)
    (idx : D'.idx = none ∨ D'.idx = D.idx) (commit : D'.commit = true → D.commit = true)
    (hN : ∀ x, D'.holdN = some x → x < s'.heap.length ∧ lockAt s'.heap x = some t)
    (hM : ∀ x, D'.holdM = some x → x < s'.tbins.length ∧ mutexAt s'.tbins x = some t)
    (valid : D'.valid = none ∨ (D'.valid = D.valid ∧ D'.holdN = D.holdN ∧ D'.holdM = D.holdM))
    (plan : ∀ c ∈ D'.plan, c ∈ D.plan ∨ (c ≠ .moved ∧ ∀ b, c = .tree b → b < s'.tbins.length)) : POK s' t D' := by
  have hc : ∀ g j, cellAt s' g j = cellAt s g j := fun g j => by rw [cellAt_eq, cellAt_eq, htabs]
  refine ⟨?_, ?_, ?_, ?_, hN, hM, ?_, ?_⟩
  · rw [hres]; exact fun hx => h.tres (isX hx)
  · intro g k hg
    rw [hcur]; unfold cellOf; rw [hc]
    rcases gen with e | e
    · rw [e] at hg; cases hg
    · rw [e] at hg; exact h.gen g k hg
  · rw [hcur]
    intro j hj
    rcases idx with e | e
    · rw [e] at hj; cases hj
    · rw [e] at hj; exact h.idx j hj
  · rw [hcur]; intro h1 j hj; rw [hc]; exact h.commit (commit h1) j hj
  · intro g j c hv
    rw [hc]
    rcases valid with e | ⟨e, e1, e2⟩
    · rw [e] at hv; cases hv
    · rw [e] at hv; rw [e1, e2]; exact h.valid g j c hv
  · intro c hcm
    rcases plan c hcm with e | e
    · exact ⟨(h.plan c e).1, fun b eb => Nat.lt_of_lt_of_le ((h.plan c e).2 b eb) hlen⟩
    · exact e

/-- following a forwarding marker: the thread goes on to generation `g + 1` -/
theorem gen_follow {s : State} (I : GenInv s) {g k : Nat}
    (hg : g ≤ s.cur + 1 ∧ (g = s.cur + 1 → cellOf s s.cur k = .moved)) (hm : cellOf s g k = .moved) :
    g + 1 ≤ s.cur + 1 ∧ (g + 1 = s.cur + 1 → cellOf s s.cur k = .moved) := by
  have hne : g ≠ s.cur + 1 := by
    intro e
    rw [e] at hm
    exact I.nextOK _ hm
  refine ⟨by omega, ?_⟩
  intro e
  have : g = s.cur := by omega
  rw [← this]; exact hm

theorem cur_gen (s : State) (k : Nat) : s.cur ≤ s.cur + 1 ∧ (s.cur = s.cur + 1 → cellOf s s.cur k = .moved) :=
  ⟨by omega, fun e => by omega⟩

/-- open a step of a thread whose `Local` is known -/
macro "open_step" hs:ident hl:ident : tactic =>
  `(tactic| (unfold step stepG at $hs:ident; rw [$hl:ident] at $hs:ident;
             simp only [Bool.not_true, Bool.false_or] at $hs:ident))

macro "dle" : tactic =>
  `(tactic| (constructor <;> simp [desc, descPc, keyOf, unlN, unlM, unlCell]))

macro "rd_done" I:ident hl:ident : tactic =>
  `(tactic| first
    | exact geninv_move $I $hl rfl rfl rfl rfl (.refl _) (.refl _) (fun h => by cases h) (POK.empty _ _)
    | exact geninv_move $I $hl rfl rfl rfl rfl (.refl _) (MutexSame.modify _ _ _ (fun _ => rfl)) (fun h => by cases h)
        (POK.empty _ _)
    | (refine geninv_move $I $hl rfl rfl rfl rfl (.refl _) (.refl _) ?_ ?_
       · split <;> exact fun h => by cases h
       · split <;> exact POK.empty _ _))

macro "rd_all" I:ident hl:ident hs:ident : tactic =>
  `(tactic| (open_step $hs $hl; repeat' split at $hs:ident
             all_goals first | (cases $hs:ident; done) | (cases $hs:ident; rd_done $I $hl)))

macro "ls" : tactic =>
  `(tactic| first
    | exact LockSame.refl _
    | exact LockSame.modify _ _ _ (fun _ => rfl)
    | exact LockSame.append _ _
    | exact (LockSame.append _ _).trans (LockSame.modify _ _ _ (fun _ => rfl))
    | exact copyChain_lockSame _ _ _)

macro "ms" : tactic =>
  `(tactic| first
    | exact MutexSame.refl _
    | exact MutexSame.modify _ _ _ (fun _ => rfl)
    | exact MutexSame.append _ _)

macro "wk_all" I:ident hl:ident hs:ident : tactic =>
  `(tactic| (open_step $hs $hl; repeat' split at $hs:ident
             all_goals first
               | (cases $hs:ident; done)
               | (cases $hs:ident; exact geninv_weak $I $hl rfl rfl rfl rfl (by ls) (by ms) (by dle))))

macro "wk_all'" I:ident hl:ident hs:ident : tactic =>
  `(tactic| (open_step $hs $hl; simp only [afterLock] at $hs:ident; repeat' split at $hs:ident
             all_goals first
               | (cases $hs:ident; done)
               | (cases $hs:ident; exact geninv_weak $I $hl rfl rfl rfl rfl (by ls) (by ms) (by dle))))

macro "lx" : tactic =>
  `(tactic| first
    | exact LockExt.refl _
    | exact LockExt.modify _ _ _ (fun _ => rfl)
    | exact LockExt.append1 _ _ rfl
    | exact (LockExt.append1 _ _ rfl).trans (LockExt.modify _ _ _ (fun _ => rfl))
    | exact copyChain_lockExt _ _ _ (fun _ _ => rfl)
    | (dsimp only [setT, setCell, putCell]; exact copyChain_lockExt _ _ _ (fun _ _ => rfl)))

macro "mx" : tactic =>
  `(tactic| first
    | exact MutexExt.refl _
    | exact MutexExt.modify _ _ _ (fun _ => rfl)
    | exact MutexExt.append1 _ _ rfl)

macro "own_same" O:ident hl:ident : tactic =>
  `(tactic| exact owninv_frame $O $hl rfl (fun h => Or.inl h)
      (by first | exact fun _ => Or.inl rfl | exact fun h => by cases h)
      (hN_same $O $hl (by lx) rfl) (hM_same $O $hl (by mx) rfl))

macro "own_all" O:ident hl:ident hs:ident : tactic =>
  `(tactic| (open_step $hs $hl; (try simp only [afterLock] at $hs:ident); repeat' split at $hs:ident
             all_goals first
               | (cases $hs:ident; done)
               | (cases $hs:ident; own_same $O $hl)
               | (cases $hs:ident; split <;> own_same $O $hl)
               | (cases $hs:ident; split <;> split <;> own_same $O $hl)))

macro "rx" : tactic =>
  `(tactic| first
    | exact RwSame.refl _
    | exact RwSame.modify _ _ _ (fun _ => ⟨rfl, rfl⟩)
    | exact RwSame.append1 _ _ rfl rfl)

macro "rw_same" R:ident hl:ident : tactic =>
  `(tactic| exact rwinv_same $R $hl rfl (by rx) rfl (by first | exact Or.inl rfl | exact Or.inr rfl)
      (by first
        | exact fun b h => RwInv.refR $R _ _ b $hl h
        | exact fun b h => nomatch h))

macro "rw_all" R:ident hl:ident hs:ident : tactic =>
  `(tactic| (open_step $hs $hl; (try simp only [afterLock] at $hs:ident); repeat' split at $hs:ident
             all_goals first
               | (cases $hs:ident; done)
               | (cases $hs:ident; rw_same $R $hl)
               | (cases $hs:ident; split <;> rw_same $R $hl)
               | (cases $hs:ident; split <;> split <;> rw_same $R $hl)))

macro "tm_one" T:ident hl:ident : tactic =>
  `(tactic| first
    | exact tinv_move $T $hl rfl rfl rfl rfl ⟨rfl, fun _ => rfl⟩
    | exact tinv_finish $T $hl rfl rfl rfl rfl
    | (split <;> first
        | exact tinv_move $T $hl rfl rfl rfl rfl ⟨rfl, fun _ => rfl⟩
        | (split <;> exact tinv_move $T $hl rfl rfl rfl rfl ⟨rfl, fun _ => rfl⟩)))

macro "tm_all" T:ident hl:ident hs:ident : tactic =>
  `(tactic| (open_step $hs $hl; (try simp only [afterLock] at $hs:ident); repeat' split at $hs:ident
             all_goals first
               | (cases $hs:ident; done)
               | (cases $hs:ident; tm_one $T $hl)))

macro "ne_all" N:ident hl:ident hs:ident : tactic =>
  `(tactic| (open_step $hs $hl; (try simp only [afterLock] at $hs:ident); repeat' split at $hs:ident
             all_goals first
               | (cases $hs:ident; done)
               | (cases $hs:ident; exact nextEmpty_same $N $hl rfl rfl rfl rfl rfl)
               | (cases $hs:ident; split <;> exact nextEmpty_same $N $hl rfl rfl rfl rfl rfl)
               | (cases $hs:ident; split <;> split <;> exact nextEmpty_same $N $hl rfl rfl rfl rfl rfl)))

macro "fi_one" F:ident I:ident hl:ident : tactic =>
  `(tactic| first
    | exact freshInv_same $F $I $hl rfl rfl (fun b h => nomatch h) trivial
    | (split <;> exact freshInv_same $F $I $hl rfl rfl (fun b h => nomatch h) trivial)
    | (split <;> split <;> exact freshInv_same $F $I $hl rfl rfl (fun b h => nomatch h) trivial))

macro "fi_all" F:ident I:ident hl:ident hs:ident : tactic =>
  `(tactic| (open_step $hs $hl; (try simp only [afterLock] at $hs:ident); repeat' split at $hs:ident
             all_goals first
               | (cases $hs:ident; done)
               | (cases $hs:ident; fi_one $F $I $hl)))

macro "pi_one" P:ident hl:ident : tactic =>
  `(tactic| first
    | exact preInv_same $P $hl rfl rfl rfl (fun j h => Or.inl h)
    | exact preInv_same $P $hl rfl rfl rfl (fun j h => nomatch h)
    | (split <;> exact preInv_same $P $hl rfl rfl rfl (fun j h => nomatch h))
    | (split <;> split <;> exact preInv_same $P $hl rfl rfl rfl (fun j h => nomatch h)))

macro "pi_all" P:ident hl:ident hs:ident : tactic =>
  `(tactic| (open_step $hs $hl; (try simp only [afterLock] at $hs:ident); repeat' split at $hs:ident
             all_goals first
               | (cases $hs:ident; done)
               | (cases $hs:ident; pi_one $P $hl)))

end Flurry.Proto.BinGN
