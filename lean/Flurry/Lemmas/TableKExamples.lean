import Flurry.Lemmas.TableK
/-! # Proto/TableK: non-vacuity — a concrete reachable quiescent table with calls in two bins

Two bins, two threads. Thread 0 inserts key 1 (bin 1) while thread 1 inserts key 2 (bin 0); then
thread 0 reads key 2 (bin 0) while thread 1 removes key 1 (bin 1), the four calls interleaved step
by step. The final state is reachable and quiescent, the map history holds the four calls with
times on ONE clock (the calls of different bins overlap), and the abstract map is `{2 ↦ (20, 200)}`.
`step` refuses a call on a key of another bin and a thread that is busy in another bin. -/
namespace Flurry.Proto.TableK
open Flurry.Lin Flurry.LinMap

/-- `(bin, thread, invocation, listOnly, maint, small)` -/
abbrev Sch := Nat × Nat × Option (Nat × KOp) × Bool × Bool × Bool

def run (S : State) : List Sch → Option State
  | [] => some S
  | (i, t, inv, lo, mt, sm) :: rest =>
    match step S i t inv lo mt sm with
    | some S' => run S' rest
    | none => none

theorem run_reachable {m n : Nat} : ∀ (sched : List Sch) {S S' : State},
    Reachable m n S → run S sched = some S' → Reachable m n S'
  | [], S, S', hr, h => by
    simp only [run, Option.some.injEq] at h
    exact h ▸ hr
  | (i, t, inv, lo, mt, sm) :: rest, S, S', hr, h => by
    simp only [run] at h
    cases hs : step S i t inv lo mt sm with
    | none => rw [hs] at h; cases h
    | some S1 =>
      rw [hs] at h
      exact run_reachable rest (Reachable.step i t inv lo mt sm hr hs) h

abbrev call (i t k : Nat) (op : KOp) : Sch := (i, t, some (k, op), false, false, false)
abbrev go (i t : Nat) : Sch := (i, t, none, false, false, false)

def exSchedule : List Sch :=
  [ call 1 0 1 (.ins 10 100), call 0 1 2 (.ins 20 200), go 1 0, go 0 1, go 0 1, go 1 0,
    call 0 0 2 .get, call 1 1 1 .rm, go 1 1, go 0 0, go 1 1, go 1 1, go 0 0, go 1 1, go 1 1, go 1 1, go 1 1 ]

def exHist : MHistory :=
  [ ⟨2, ⟨1, .ins 20 200, .none, 2, 5⟩⟩, ⟨2, ⟨0, .get, .some 20 200, 7, 13⟩⟩,
    ⟨1, ⟨0, .ins 10 100, .none, 1, 6⟩⟩, ⟨1, ⟨1, .rm, .some 10 100, 8, 16⟩⟩ ]

def exCheck : Bool :=
  (run (init 2 2) exSchedule).any fun S =>
    S.bins.all (fun b => b.threads.all (fun l => l.pc == .idle)) && mhist S == exHist &&
      absMap S 1 == none && absMap S 2 == some (20, 200) &&
      (S.bins.map (fun b => b.hist.map (·.1))) == [[2, 2], [1, 1]]

theorem exCheck_true : exCheck = true := by decide

/-- a reachable quiescent table with two bins whose history holds calls on two keys of two bins -/
theorem example_state :
    ∃ S : State, Reachable 2 2 S ∧ quiescent S ∧ mhist S = exHist ∧ absMap S 1 = none ∧ absMap S 2 = some (20, 200) ∧
      S.bins.map (fun b => b.hist.map (·.1)) = [[2, 2], [1, 1]] := by
  obtain ⟨S, hrun, h⟩ := (Option.any_eq_true _ _).1 exCheck_true
  simp only [Bool.and_eq_true, List.all_eq_true, beq_iff_eq] at h
  obtain ⟨⟨⟨⟨hq, hh⟩, h1⟩, h2⟩, hb⟩ := h
  exact ⟨S, run_reachable exSchedule Reachable.init hrun, fun b hb l hl => hq b hb l hl, hh, h1, h2, hb⟩

/-- a call on a key of another bin is refused; so is a thread that is busy in another bin -/
theorem example_refused :
    (step (init 2 2) 0 0 (some (1, .ins 1 1)) false false false).isNone = true ∧
    ((run (init 2 2) [call 0 0 2 (.ins 1 1), call 1 0 1 .get]).isNone = true) := by decide

end Flurry.Proto.TableK
