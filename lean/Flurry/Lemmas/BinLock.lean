import Flurry.Lemmas.BinInv
/-! # Proto/Bin: the lock protocol (C01)

`Holds` and `LInv` are those of `Lemmas/BinRBLock.lean` (explained there) over the state of
`Proto/Bin`. `LInv` holds in every reachable state because `BinR.Base.LInv` holds on its image
(`LInv.of_emb`, `reachable_base`). -/
namespace Flurry.Proto.Bin
open Flurry.Lin

def Holds : Pc → Nat → Prop
  | .wCheck h', h => h' = h
  | .wWrite h', h => h' = h
  | .wUnlock h' _ _, h => h' = h
  | _, _ => False

structure LInv (s : State) : Prop where
  lockHeld : ∀ (t : Nat) (l : Local) (h : Nat), s.threads[t]? = some l → Holds l.pc h →
    h < s.heap.length ∧ (nodeAt s.heap h).lock = some t
  validated : ∀ (t : Nat) (l : Local) (h : Nat), s.threads[t]? = some l → l.pc = .wWrite h → s.head = some h

theorem holds_emb {pc : Pc} {h : Nat} (hh : Holds pc h) : BinR.Base.Holds (ePc pc) h := by
  cases pc <;> exact hh

theorem LInv.of_emb {s : State} (L : BinR.Base.LInv (emb s)) : LInv s where
  lockHeld t l h hl hh := by
    have := L.lockHeld t (eL l) h (thr_emb hl) (holds_emb hh)
    rwa [emb_heap, List.length_map, nodeAt_emb] at this
  validated t l h hl hpc := L.validated t (eL l) h (thr_emb hl) (congrArg ePc hpc)

theorem Move.validated {s : State} {p : Pending} {pc pc' : Pc} (hm : Move s p pc pc') {h : Nat}
    (hh : pc' = .wWrite h) : s.head = some h ∨ pc = .wWrite h := by
  cases hm with
  | checkOk hd => cases hh; exact Or.inl hd
  | rHead => cases hh
  | rNext _ _ => cases hh
  | toCas _ => cases hh
  | toLock _ => cases hh
  | casFail => cases hh
  | checkFail => cases hh

theorem reachable_linv {n : Nat} {s : State} (hr : Reachable n s) : LInv s := .of_emb (reachable_base hr).2.1

/-- **mutual exclusion of validated writers**: at most one thread is about to perform a store -/
theorem writers_mutex {n : Nat} {s : State} (hr : Reachable n s) {t1 t2 : Nat} {l1 l2 : Local} {h1 h2 : Nat}
    (hl1 : s.threads[t1]? = some l1) (hl2 : s.threads[t2]? = some l2)
    (hp1 : l1.pc = .wWrite h1) (hp2 : l2.pc = .wWrite h2) : t1 = t2 ∧ h1 = h2 :=
  (reachable_base hr).2.1.mutex (thr_emb hl1) (thr_emb hl2) (congrArg ePc hp1) (congrArg ePc hp2)

/-- a validated writer still sees its node as the head when it stores, and holds its mutex -/
theorem writer_validated {n : Nat} {s : State} (hr : Reachable n s) {t : Nat} {l : Local} {h : Nat}
    (hl : s.threads[t]? = some l) (hp : l.pc = .wWrite h) :
    s.head = some h ∧ (nodeAt s.heap h).lock = some t :=
  ⟨(reachable_linv hr).validated t l h hl hp,
    ((reachable_linv hr).lockHeld t l h hl (by rw [hp]; exact rfl)).2⟩

end Flurry.Proto.Bin
