import Flurry.Lemmas.BinGInvQ
import Flurry.Lemmas.BinGDrainDefs
/-! # Proto/BinG, termination: calm steps

A *calm* step — a load, a lock / unlock of a node or of a bin mutex, a local move, a return without a
store — leaves the `View` of the shared state alone (`viewOf s' = viewOf s`, heap length unchanged) and
strictly decreases the calm-step measure `pmV` of the thread that takes it, without increasing the
number of disturbing steps it has ahead (`daV`) nor making it a heap-grower again (`grow`).
Why `pmV` decreases (`Move.calm`, `KMove.calm`, `KBMove.calm`):
* the table pointer is loaded once; the old cell forwards at most once (a cell of the new table is
  never `moved`: `HInv.newNotMoved`), so `.old` weighs one more than `.new`;
* `next` pointers are acyclic: `rank` (`Lemmas/BinKChain.lean`) decreases along `next` (`NextOK`: a
  `next` pointer goes down, or up and then up for ever — nodes are prepended, appended, or copied into
  fresh nodes), and a calm step does not change the heap; so a walk standing on node `c` has at most
  `rankL c ≤ 2 * L` nodes ahead of it — one step each in a list bin (`rNode`, `lNode`, `wFind`), two
  steps each (`rState`, `rLin`) in the linear mode of a `TreeBin`: hence `4 * L + 10` at `rTable`, and
  `2 * L + 12` (`fresh`) for a writer about to load its cell: lock, re-check, the walk, and the fixed
  protocol after its store;
* where an entry of `pmV` branches on the view, the first alternative is the thread whose view still
  holds — its re-check (`wCheck`, `tCheck`, `xCheck`, `yCheck`) or its CAS (`wCas`, `rCas`, `xCasMoved`)
  will succeed —, the second the thread that was suspended while the cell or the lock word changed:
  it fails once (`rcas_fail_cond` for the reader's CAS), unlocks, and starts over from `fresh` (a
  reader: from `rState`). Nothing a calm step does turns the first alternative into the second.
The remaining constants count down the fixed sequence of program counters after a store. -/
namespace Flurry.Proto.BinG
open Flurry.Lin
open Flurry.Proto.BinK (nodeAt binAt isInsert binAt_modify)
open Flurry.Proto.BinGProg (le_of_eval lt_of_eval ite_le ite_lt_ite ite_pos_lt lt_ite_pos lt_ite_neg lockSet_next lockSet_length)

theorem cellOf_new_not_moved {s : State} (H : HInv s) (k : Nat) : cellOf s .new k ≠ .moved := by
  unfold cellOf
  dsimp only
  split
  · exact H.newNotMoved.2
  · exact H.newNotMoved.1

theorem view_of_lockKind {s s' : State} {t : Nat} {pc pc' : Pc} {hp : List NodeS} (hk : LockKind s t pc pc' hp)
    (hh : s'.heap = hp) (ht : s'.tbins = s.tbins) (h0 : s'.cell0 = s.cell0) (h1 : s'.lowCell = s.lowCell)
    (h2 : s'.highCell = s.highCell) : viewOf s' = viewOf s ∧ s'.heap.length = s.heap.length := by
  have : hp.length = s.heap.length ∧ ∀ i, (nodeAt hp i).next = (nodeAt s.heap i).next := by
    rcases hk with ⟨rfl, _⟩ | ⟨h, rfl, _⟩ | ⟨h, rfl, _⟩
    · exact ⟨rfl, fun _ => rfl⟩
    · exact ⟨lockSet_length _ _ _, lockSet_next _ _ _⟩
    · exact ⟨lockSet_length _ _ _, lockSet_next _ _ _⟩
  refine ⟨viewOf_eq h0 h1 h2 (fun i => by rw [hh]; exact this.2 i) (fun b => by rw [ht]) (fun b => by rw [ht])
    (fun b => by rw [ht]), by rw [hh]; exact this.1⟩

theorem view_of_mutex {s s' : State} {b : Nat} {x : Option Nat} (hh : s'.heap = s.heap)
    (ht : s'.tbins = s.tbins.modify b (fun y => { y with mutex := x })) (h0 : s'.cell0 = s.cell0)
    (h1 : s'.lowCell = s.lowCell) (h2 : s'.highCell = s.highCell) :
    viewOf s' = viewOf s ∧ s'.heap.length = s.heap.length := by
  refine ⟨viewOf_eq h0 h1 h2 (fun i => by rw [hh]) ?_ ?_ ?_, by rw [hh]⟩ <;>
    (intro c; rw [ht, binAt_modify]; split <;> rfl)

/-- the successor states of the calm transitions — the clock advanced, one lock word of a node or the
mutex of one `TreeBin` changed, the local state of the thread replaced or its call completed — have the
view and the heap length of `s` -/
theorem view_setT_lock {s : State} {t : Nat} {pc pc' : Pc} {hp : List NodeS} (hk : LockKind s t pc pc' hp)
    (l' : Local) :
    viewOf (setT (qst s hp s.tbins) t l') = viewOf s ∧ (setT (qst s hp s.tbins) t l').heap.length = s.heap.length := by
  cases s
  exact view_of_lockKind hk rfl rfl rfl rfl rfl

theorem view_finish_lock {s : State} {t : Nat} {pc pc' : Pc} {hp : List NodeS} (hk : LockKind s t pc pc' hp)
    (p : Pending) (res : KRes) :
    viewOf (finish (qst s hp s.tbins) t p res) = viewOf s ∧
      (finish (qst s hp s.tbins) t p res).heap.length = s.heap.length := by
  cases s
  exact view_of_lockKind hk rfl rfl rfl rfl rfl

theorem view_setT_mutex (s : State) (b : Nat) (x : Option Nat) (t : Nat) (l' : Local) :
    viewOf (setT (qst s s.heap (s.tbins.modify b (fun y => { y with mutex := x }))) t l') = viewOf s ∧
      (setT (qst s s.heap (s.tbins.modify b (fun y => { y with mutex := x }))) t l').heap.length = s.heap.length := by
  cases s
  exact view_of_mutex rfl rfl rfl rfl rfl

theorem view_finish_mutex (s : State) (b : Nat) (x : Option Nat) (t : Nat) (p : Pending) (res : KRes) :
    viewOf (finish (qst s s.heap (s.tbins.modify b (fun y => { y with mutex := x }))) t p res) = viewOf s ∧
      (finish (qst s s.heap (s.tbins.modify b (fun y => { y with mutex := x }))) t p res).heap.length =
        s.heap.length := by
  cases s
  exact view_of_mutex rfl rfl rfl rfl rfl

theorem Move.grow_da {s : State} {t : Nat} {p : Pending} {pc pc' : Pc} {hp : List NodeS}
    (hm : Move s t p pc pc' hp) (v : View) (call : Option Pending) :
    pc' ≠ .idle ∧ grow pc' ≤ grow pc ∧ daV v ⟨pc', call⟩ ≤ daV v ⟨pc, call⟩ := by
  cases hm with
  | @rCellTree lo _ _ _ => cases lo <;> exact ⟨nofun, le_of_eval rfl, le_of_eval rfl⟩
  | lrTryFail => exact ⟨nofun, le_of_eval rfl, Nat.add_le_add_left (ite_le (Nat.zero_le _) (Nat.le_refl _)) 4⟩
  | _ => exact ⟨nofun, le_of_eval rfl, le_of_eval rfl⟩

/-- of the calm moves only `lrTry → lrLoop` touches `lrLoop` -/
theorem Move.loop {s : State} {t : Nat} {p : Pending} {pc pc' : Pc} {hp : List NodeS} (hm : Move s t p pc pc' hp) :
    isLoop pc = false ∧
      (isLoop pc' = false ∨ ∃ tab b k res, pc = .lrTry tab b k res ∧ pc' = .lrLoop tab b k res) := by
  cases hm with
  | @rCellTree lo _ _ _ => cases lo <;> exact ⟨rfl, .inl rfl⟩
  | lrTryFail => exact ⟨rfl, .inr ⟨_, _, _, _, rfl, rfl⟩⟩
  | _ => exact ⟨rfl, .inl rfl⟩

theorem KMove.grow_da {s : State} {t : Nat} {pc pc' : Pc} {hp : List NodeS} (hm : KMove s t pc pc' hp)
    (v : View) (call : Option Pending) : grow pc' ≤ grow pc ∧ daV v ⟨pc', call⟩ ≤ daV v ⟨pc, call⟩ := by
  cases hm <;> exact ⟨le_of_eval rfl, le_of_eval rfl⟩

theorem Move.calm {s : State} {t : Nat} {p : Pending} {pc pc' : Pc} {hp : List NodeS}
    (hm : Move s t p pc pc' hp) (H : HInv s) {L : Nat} (hL : s.heap.length ≤ L)
    (hl : s.threads[t]? = some ⟨pc, some p⟩) {s' : State} {inv : Option (Nat × KOp)} {lo : Bool} {mt : Option Nat}
    {rz sm sm2 : Bool} (hs : step s t inv lo mt rz sm sm2 = some s') (hl' : s'.threads[t]? = some ⟨pc', some p⟩) :
    pmV L (viewOf s) ⟨pc', some p⟩ < pmV L (viewOf s) ⟨pc, some p⟩ := by
  have hrk : ∀ {c : Nat} {n : NodeS} {j : Nat}, s.heap[c]? = some n → n.next = some j →
      rankL L (viewOf s).next j < rankL L (viewOf s).next c := fun hn hx => rankL_lt H.nextOK hL hn hx
  have hr2 : ∀ {c : Nat}, c < s.heap.length → rankL L (viewOf s).next c ≤ 2 * L :=
    fun hc => rankL_le_two _ (by omega)
  cases hm with
  | rTable => cases s.cur <;> exact Nat.add_lt_add_left (lt_of_eval rfl) _
  | @rCellMoved lo tab hc =>
    cases tab with
    | new => exact absurd hc (cellOf_new_not_moved H _)
    | old => exact Nat.add_lt_add_left (lt_of_eval rfl) _
  | @rCellList lo tab h hc =>
    have := hr2 (cellOf_list_lt H hc)
    cases tab <;> simp only [pmV] <;> omega
  | @rCellTree lo tab b hc =>
    cases lo with
    | false => cases tab <;> exact Nat.add_lt_add_left (lt_of_eval rfl) _
    | true => cases tab <;> (show 2 * L + 3 < _; simp only [pmV]; omega)
  | @rNodeNext c n hn hk | @lNext c n hn hk | @wFindNext _ _ _ c n hn hk =>
    cases hx : n.next with
    | none => simp only [pmV]; omega
    | some j => have := hrk hn hx; simp only [pmV]; omega
  | @rLinNext b c n hn hk =>
    cases hx : n.next with
    | none => simp only [pmV]; omega
    | some j => have := hrk hn hx; simp only [pmV]; omega
  | @rFirst b =>
    cases hf : (binAt s.tbins b).first with
    | none => simp only [pmV]; omega
    | some h => have := hr2 (H.firstOK b h hf); simp only [pmV]; omega
  | @lFirst b =>
    cases hf : (binAt s.tbins b).first with
    | none => simp only [pmV]; omega
    | some h => have := hr2 (H.firstOK b h hf); simp only [pmV]; omega
  | rLinMode _ | rLinHit _ _ _ | lHit _ _ _ | wFindHit _ _ | wUnlockRetry => simp only [pmV]; omega
  | @rTreeMode b c hbits =>
    have hw := Bool.or_eq_false_iff.1 hbits
    have hok : casOk s b (binAt s.tbins b).readers = true := by
      unfold casOk; rw [hw.1, hw.2, beq_self_eq_true]; rfl
    exact ite_pos_lt hok (by simp only [pmV]; omega)
  | @rCasFail b c r =>
    exact lt_ite_neg (c := casOk s b r = true) (by rw [rcas_fail_cond hl hs ⟨_, hl'⟩]; nofun)
      (by simp only [pmV]; omega)
  | rTree | wFindEnd | findVal _ _ | findInsert _ _ | findRemove _ _ | findDone _ | lrTryFail => exact lt_of_eval rfl
  | wTable => cases s.cur <;> simp only [pmV, fresh] <;> omega
  | @wCellMoved tab hc =>
    cases tab with
    | new => exact absurd hc (cellOf_new_not_moved H _)
    | old => exact fresh_new_lt_old _
  | @wCellCas tab hc hi => exact ite_pos_lt ⟨hc, hi⟩ (lt_fresh tab (by omega))
  | @wCellList tab h hc => exact ite_pos_lt hc (lt_fresh tab (by omega))
  | @wCellTree tab b hc => exact ite_pos_lt hc (lt_fresh tab (by omega))
  | @wCasFail tab hor =>
    refine lt_ite_neg (c := cellOf s tab p.key = .empty ∧ isInsert p.op = true) ?_ (by simp only [pmV]; omega)
    rintro ⟨h1, h2⟩
    rcases hor with h | h
    · exact h h1
    · rw [h] at h2; cases h2
  | wLock _ _ => exact ite_lt_ite (by omega) (by omega)
  | @wCheckOk tab h hc => exact lt_ite_pos hc (by have := hr2 (cellOf_list_lt H hc); simp only [pmV]; omega)
  | wCheckFail hc | tCheckFail hc => exact lt_ite_neg hc (by simp only [pmV]; omega)
  | tCheckOk hc => exact lt_ite_pos hc (lt_of_eval rfl)

theorem KMove.calm {s : State} {t : Nat} {pc pc' : Pc} {hp : List NodeS}
    (hm : KMove s t pc pc' hp) (H : HInv s) (L : Nat) :
    pmV L (viewOf s) ⟨pc', none⟩ < pmV L (viewOf s) ⟨pc, none⟩ := by
  cases hm with
  | kTable => cases s.cur <;> exact lt_of_eval rfl
  | @kCellList tab _ _ _ | @kCellOther tab _ _ _ => cases tab <;> exact lt_of_eval rfl
  | @kCellMoved tab k hc =>
    cases tab with
    | new => exact absurd hc (cellOf_new_not_moved H _)
    | old => exact lt_of_eval rfl
  | kLock _ _ | kCheckOk _ | kCheckFail _ | kUnlock | xCellMoved _ | xUnlockL => exact lt_of_eval rfl
  | xCellEmpty h0 | xCellList h0 | xCellTree h0 => exact ite_pos_lt h0 (lt_of_eval rfl)
  | xCasFail hne | xCheckFail hne => exact lt_ite_neg hne (lt_of_eval rfl)
  | xLock _ _ => exact ite_lt_ite (lt_of_eval rfl) (lt_of_eval rfl)
  | xCheckOk h0 | yCheckOk h0 => exact lt_ite_pos h0 (lt_of_eval rfl)

theorem KBMove.calm {s : State} {t : Nat} {pc pc' : Pc} {tb : List TBin} (hm : KBMove s t pc pc' tb) (L : Nat) :
    pc' ≠ .idle ∧ (∃ b x, tb = s.tbins.modify b (fun y => { y with mutex := x })) ∧
    grow pc' ≤ grow pc ∧ daV (viewOf s) ⟨pc', none⟩ ≤ daV (viewOf s) ⟨pc, none⟩ ∧
      pmV L (viewOf s) ⟨pc', none⟩ < pmV L (viewOf s) ⟨pc, none⟩ := by
  cases hm with
  | @yMutex b _ =>
    exact ⟨nofun, ⟨b, some t, rfl⟩, le_of_eval rfl, le_of_eval rfl, ite_lt_ite (lt_of_eval rfl) (lt_of_eval rfl)⟩
  | @yCheckFail b hne => exact ⟨nofun, ⟨b, none, rfl⟩, le_of_eval rfl, le_of_eval rfl, lt_ite_neg hne (lt_of_eval rfl)⟩
  | @xUnlockT b => exact ⟨nofun, ⟨b, none, rfl⟩, le_of_eval rfl, le_of_eval rfl, lt_of_eval rfl⟩

theorem Fin.pm_pos {s : State} {p : Pending} {pc : Pc} {res : KRes} {hp : List NodeS} (hf : Fin s p pc res hp)
    (L : Nat) (v : View) (call : Option Pending) : 0 < pmV L v ⟨pc, call⟩ := by
  cases hf with
  | @rCellEmpty _ tab _ | @wCellEmpty tab _ _ => cases tab <;> exact Nat.succ_pos _
  | _ => exact Nat.succ_pos _

end Flurry.Proto.BinG
