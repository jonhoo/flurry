import Flurry.Lemmas.BinGInit
import Flurry.Lemmas.BinGPlan
import Flurry.Lemmas.BinGFactsBase
import Flurry.Lemmas.BinGStepN
/-! # Proto/BinG, progress: what a program counter needs for its step to be *defined*

`stepG` returns `none` (not enabled) in two kinds of situations:
1. a lock is taken (`wLock`, `kLock`, `xLock`: the lock word of the head node; `tMutex`, `yMutex`: the
   mutex of the `TreeBin`; `lrLoop`: parked with `WAITER` set while readers remain) — real waiting;
2. a heap index held in the program counter is outside the heap, the call does not fit the program
   counter (`tFind` by a reader, `tPrependLocked` by a call that does not insert), or there is no call
   although the program counter needs one — *never the case in a reachable state*.
The structural invariant `Inv` (`Lemmas/BinGInv.lean`) excludes most of (2); the rest is `BInv` below:
the index `readIdx` that the next step reads and `PcInv` does not bound is inside the heap, and a
writer on the insert path (`insertPc`) carries an inserting call.

`stepN_call`: what a transition does to the thread list and the history (what `Lemmas/TableG.lean` and the drain layer
need of a transition, read off the normal form `StepN` once). The file begins with what the builders of successor states
leave alone (`storeAt_frame`, `unlinkOf_frame`, `untreeifyOf_frame`, `ysplitOf_frame`), which this layer and the drain layer
apply at `tick s`. Nothing here speaks of `Reachable`: `reachable_binv` is in `Lemmas/BinGProgReach.lean`. -/
namespace Flurry.Proto.BinG
open Flurry.Lin
open Flurry.Proto.BinK (isInsert get_set)
open FactsL

-- the progress layer uses these two as `BinG.setCell_hist`, `BinG.setCell_now`, beside `BinG.setCell_threads`
export FactsL (setCell_hist setCell_now)

theorem storeAt_frame (s : State) (tab : Tab) (p : Pending) (pred hit hnext : Option Nat) :
    (storeAt s tab p pred hit hnext).1.threads = s.threads ∧ (storeAt s tab p pred hit hnext).1.hist = s.hist ∧
      (storeAt s tab p pred hit hnext).1.now = s.now := by
  unfold storeAt
  cases p.op <;> cases hit <;> cases pred <;>
    simp only [setNode, setCell_threads, setCell_hist, setCell_now, and_self]

theorem unlinkOf_frame (s : State) (b i : Nat) :
    (unlinkOf s b i).threads = s.threads ∧ (unlinkOf s b i).hist = s.hist ∧ (unlinkOf s b i).now = s.now := by
  unfold unlinkOf
  split <;> exact ⟨rfl, rfl, rfl⟩

theorem untreeifyOf_frame (s : State) (tab : Tab) (k b : Nat) :
    (untreeifyOf s tab k b).threads = s.threads ∧ (untreeifyOf s tab k b).hist = s.hist ∧
      (untreeifyOf s tab k b).now = s.now := by
  unfold untreeifyOf
  exact ⟨setCell_threads _ _ _ _, setCell_hist _ _ _ _, setCell_now _ _ _ _⟩

theorem ysplitOf_frame (s : State) (b : Nat) (small small2 : Bool) :
    (ysplitOf s b small small2).1.threads = s.threads ∧ (ysplitOf s b small small2).1.hist = s.hist ∧
      (ysplitOf s b small small2).1.now = s.now := by
  unfold ysplitOf
  dsimp only
  have f1 := splitSide_frame s b (lowOf s b) small (highOf s b).isEmpty
  have f2 := splitSide_frame (splitSide s b (lowOf s b) small (highOf s b).isEmpty).1 b (highOf s b) small2
    (lowOf s b).isEmpty
  have f := frame_trans f1 f2
  rw [f]
  exact ⟨rfl, rfl, rfl⟩

/-- the heap index the next step reads (those that `PcInv` does not bound) -/
def readIdx : Pc → Option Nat
  | .rRelease _ (some i) | .rVal i | .wLock _ i | .kLock _ _ i | .xLock i | .wFind _ _ _ (some i) => some i
  | _ => none

/-- the insert path of a tree-bin writer -/
def insertPc : Pc → Bool
  | .lrTry _ _ .insert _ | .lrLoop _ _ .insert _ | .tPrependLocked _ _ => true
  | _ => false

/-- the index the next step reads is below `n`; the insert path carries an inserting call -/
def PB (n : Nat) (l : Local) : Prop :=
  (∀ i, readIdx l.pc = some i → i < n) ∧ (insertPc l.pc = true → ∃ p, l.call = some p ∧ isInsert p.op = true)

theorem PB.mono {n m : Nat} (h : n ≤ m) {l : Local} (hb : PB n l) : PB m l :=
  ⟨fun i hi => Nat.lt_of_lt_of_le (hb.1 i hi) h, hb.2⟩

theorem PB.plain {n : Nat} {pc : Pc} {call : Option Pending} (hr : readIdx pc = none) (hi : insertPc pc = false) :
    PB n ⟨pc, call⟩ :=
  ⟨fun i h => (by rw [hr] at h; cases h), fun h => (by rw [hi] at h; cases h)⟩

theorem PB.read {n : Nat} {pc : Pc} {call : Option Pending} {i : Nat} (hr : readIdx pc = some i)
    (hi : insertPc pc = false) (hlt : i < n) : PB n ⟨pc, call⟩ :=
  ⟨fun j h => (by rw [hr] at h; cases h; exact hlt), fun h => (by rw [hi] at h; cases h)⟩

def BInv (s : State) : Prop := ∀ (t : Nat) (l : Local), s.threads[t]? = some l → PB s.heap.length l

theorem binv_step {s s' : State} {t : Nat} {l' : Local} (B : BInv s)
    (hthr : s'.threads = s.threads.set t l') (hlen : s.heap.length ≤ s'.heap.length)
    (hb : PB s.heap.length l') : BInv s' := by
  intro t1 l1 h1
  rw [hthr] at h1
  rcases get_set h1 with ⟨_, rfl⟩ | ⟨_, h1⟩
  · exact hb.mono hlen
  · exact (B t1 l1 h1).mono hlen

theorem cellOf_list_lt {s : State} (H : HInv s) {tab : Tab} {k h : Nat} (hc : cellOf s tab k = .list h) :
    h < s.heap.length := by
  rw [cellOf_eq] at hc
  exact (H.cinv (idOf tab k)).startOK h (by rw [hc]; rfl)

theorem cell0_list_lt {s : State} (H : HInv s) {h : Nat} (hc : s.cell0 = .list h) : h < s.heap.length :=
  (H.cinv .c0).startOK h (by show startOf s.tbins s.cell0 = some h; rw [hc]; rfl)

theorem Move.pb {s : State} {t : Nat} {p : Pending} {pc pc' : Pc} {hp' : List NodeS} {call : Option Pending}
    (hm : Move s t p pc pc' hp') (I : Inv s) (hp : call = some p) (hb : PB s.heap.length ⟨pc, call⟩) :
    PB s.heap.length ⟨pc', call⟩ := by
  cases hm with
  | @rCellTree lo tab b _ => cases lo <;> exact .plain rfl rfl
  | @rTree b =>
    cases hf : treeFind s b p.key with
    | none => exact .plain rfl rfl
    | some i => exact .read rfl rfl (treeFind_some hf).1
  | rLinHit hn _ _ => exact .read rfl rfl (List.getElem?_eq_some_iff.1 hn).1
  | lHit hn _ _ => exact .read rfl rfl (List.getElem?_eq_some_iff.1 hn).1
  | wCellList hc => exact .read rfl rfl (cellOf_list_lt I.heap hc)
  | wCheckOk hc => exact .read rfl rfl (cellOf_list_lt I.heap hc)
  | @wFindNext tab h pred c n hn _ =>
    cases hx : n.next with
    | none => exact .plain rfl rfl
    | some j => exact .read rfl rfl (I.heap.nextOK c n j hn hx).1
  | findInsert _ hi => exact ⟨nofun, fun _ => ⟨p, hp, hi⟩⟩
  | @lrTryFail tab b k res => cases k <;> first | exact .plain rfl rfl | exact ⟨nofun, hb.2⟩
  | _ => exact .plain rfl rfl

theorem BMove.pb {s : State} {t : Nat} {p : Pending} {pc pc' : Pc} {tb : List TBin} {call : Option Pending}
    (hm : BMove s t p pc pc' tb) (hb : PB s.heap.length ⟨pc, call⟩) :
    PB s.heap.length ⟨pc', call⟩ := by
  cases hm with
  | rRelVal _ => exact ⟨fun i hi => hb.1 i hi, nofun⟩
  | @lrTryOk tab b k res _ _ _ => cases k <;> first | exact .plain rfl rfl | exact ⟨nofun, hb.2⟩
  | @lrLoopOk tab b k res _ _ => cases k <;> first | exact .plain rfl rfl | exact ⟨nofun, hb.2⟩
  | @lrLoopWait tab b k res _ => exact hb
  | _ => exact .plain rfl rfl

theorem KMove.pb {s : State} {t : Nat} {pc pc' : Pc} {hp' : List NodeS} {call : Option Pending}
    (hm : KMove s t pc pc' hp') (I : Inv s) : PB s.heap.length ⟨pc', call⟩ := by
  cases hm with
  | kCellList hc => exact .read rfl rfl (cellOf_list_lt I.heap hc)
  | xCellList hc => exact .read rfl rfl (cell0_list_lt I.heap hc)
  | _ => exact .plain rfl rfl

theorem KBMove.pb {s : State} {t : Nat} {pc pc' : Pc} {tb : List TBin} {call : Option Pending}
    (hm : KBMove s t pc pc' tb) : PB s.heap.length ⟨pc', call⟩ := by
  cases hm <;> exact .plain rfl rfl

/-- the transitions that hand a state `X` with the threads and the history of `s` to `setT` keep the call and the history
(`hX` has the shape of the `*_frame` lemmas of the stores) -/
theorem call_kept {s X : State} (t : Nat) (l : Local) (pc' : Pc)
    (hX : X.threads = s.threads ∧ X.hist = s.hist ∧ X.now = s.now + 1) :
    ∃ l', (setT X t ⟨pc', l.call⟩).threads = s.threads.set t l' ∧ l'.call = l.call ∧
      (setT X t ⟨pc', l.call⟩).hist = s.hist :=
  ⟨⟨pc', l.call⟩, by rw [← hX.1]; rfl, rfl, hX.2.1⟩

/-- a step of a thread that is not `idle` keeps its call and the history, or answers its call -/
theorem stepN_call {s s' : State} {t : Nat} {l : Local} (hk : StepN s t l s') (hne : l.pc ≠ .idle) :
    (∃ l', s'.threads = s.threads.set t l' ∧ l'.call = l.call ∧ s'.hist = s.hist) ∨
    (∃ p res, l.call = some p ∧ s'.threads = s.threads.set t ⟨.idle, none⟩ ∧
      s'.hist = (p.key, { tid := t, op := p.op, res := res, inv := p.inv, resp := s.now + 1 }) :: s.hist) := by
  cases hk with
  | idle hpc | maint _ hpc | resizeStart hpc _ | invoke _ _ _ hpc => exact absurd hpc hne
  | fin p res hp hc hf => exact .inr ⟨p, res, hc, rfl, rfl⟩
  | bfin p res tb hc hf => exact .inr ⟨p, res, hc, rfl, rfl⟩
  | cas p tab v vi hc hpc he hop =>
    exact .inr ⟨p, .none, hc, FactsL.finish_setCell_threads _ _ _ _ _ _ _, FactsL.finish_setCell_hist _ _ _ _ _ _ _⟩
  | store p tab h pred hit hnext hc hpc => exact .inl (call_kept t l _ (storeAt_frame (tick s) tab p pred hit hnext))
  | unlink p tab b i res small hc hpc => exact .inl (call_kept t l _ (unlinkOf_frame (tick s) b i))
  | untreeify p tab b res hc hpc => exact .inl (call_kept t l _ (untreeifyOf_frame (tick s) tab p.key b))
  | kstore tab k h b hc hpc =>
    exact .inl (call_kept t l _ ⟨setCell_threads _ _ _ _, setCell_hist _ _ _ _, setCell_now _ _ _ _⟩)
  | ybuild b small small2 hc hpc => exact .inl (call_kept t l _ (ysplitOf_frame (tick s) b small small2))
  | _ => exact .inl ⟨_, rfl, rfl, rfl⟩

theorem binv_setT {s X : State} {t : Nat} {l' : Local} (B : BInv s) (hX : X.threads = s.threads)
    (hlen : s.heap.length ≤ (setT X t l').heap.length) (hb : PB s.heap.length l') : BInv (setT X t l') :=
  binv_step B (by rw [← hX]; rfl) hlen hb

theorem stepN_binv {s s' : State} {t : Nat} {l : Local} (I : Inv s) (B : BInv s) (hl : s.threads[t]? = some l)
    (hlen : s.heap.length ≤ s'.heap.length) (hk : StepN s t l s') : BInv s' := by
  have hbl := B t l hl
  obtain ⟨pc, call⟩ := l
  cases hk with
  | idle hpc => exact binv_setT B rfl hlen hbl
  | invoke k op lo hpc => exact binv_setT B rfl hlen (by cases isReader op <;> exact .plain rfl rfl)
  | move p pc' hp hc hm => exact binv_setT B rfl hlen (hm.pb I hc hbl)
  | bmove p pc' tb hc hm => exact binv_setT B rfl hlen (hm.pb hbl)
  | kmove pc' hp hc hm => exact binv_setT B rfl hlen (hm.pb I)
  | kbmove pc' tb hc hm => exact binv_setT B rfl hlen hm.pb
  | fin p res hp hc hf => exact binv_step (l' := ⟨.idle, none⟩) B rfl hlen (.plain rfl rfl)
  | bfin p res tb hc hf => exact binv_step (l' := ⟨.idle, none⟩) B rfl hlen (.plain rfl rfl)
  | cas p tab v vi hc hpc he hop =>
    exact binv_step B (FactsL.finish_setCell_threads _ _ _ _ _ _ _) hlen (.plain rfl rfl)
  | store p tab h pred hit hnext hc hpc =>
    exact binv_setT B (storeAt_frame (tick s) tab p pred hit hnext).1 hlen (.plain rfl rfl)
  | unlink p tab b i res small hc hpc =>
    exact binv_setT B (unlinkOf_frame (tick s) b i).1 hlen (by cases small <;> exact .plain rfl rfl)
  | untreeify p tab b res hc hpc =>
    exact binv_setT B (untreeifyOf_frame (tick s) tab p.key b).1 hlen (.plain rfl rfl)
  | kstore tab k h b hc hpc => exact binv_setT B (setCell_threads (tick s) tab k _) hlen (.plain rfl rfl)
  | ybuild b small small2 hc hpc =>
    exact binv_setT B (ysplitOf_frame (tick s) b small small2).1 hlen (.plain rfl rfl)
  | maint _ _ | tval _ _ _ _ _ _ _ _ | prepend _ _ _ _ _ _ _ _ | treeLink _ _ _ _ _ _ | untree _ _ _ _ _ _ _
  | kbuild _ _ _ _ _ | xbuild _ _ _ => exact binv_setT B rfl hlen (.plain rfl rfl)
  | resizeStart _ _ => exact binv_step (l' := ⟨.xCell, call⟩) B rfl hlen (.plain rfl rfl)
  | xcasMoved _ _ _ => exact binv_step (l' := ⟨.xCommit, call⟩) B rfl hlen (.plain rfl rfl)
  | xstoreLow unl lo hi _ _ => exact binv_step (l' := ⟨.xStoreHigh unl hi, call⟩) B rfl hlen (.plain rfl rfl)
  | xstoreHigh unl hi _ _ => exact binv_step (l' := ⟨.xStoreMoved unl, call⟩) B rfl hlen (.plain rfl rfl)
  | xstoreMoved unl _ _ => exact binv_step (l' := ⟨.xUnlock unl, call⟩) B rfl hlen (.plain rfl rfl)
  | xcommit _ _ => exact binv_step (l' := ⟨.idle, call⟩) B rfl hlen (.plain rfl rfl)

theorem init_binv (n : Nat) : BInv (init n) := by
  intro t l hl
  rw [init_threads hl]
  exact .plain rfl rfl

end Flurry.Proto.BinG
