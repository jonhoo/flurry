import Flurry.Lemmas.BinNGenFrame
/-! # Proto/BinN: following the forwarding markers ends in the live cell (C01, C10)

Under the generation invariant a lookup that starts at `cur` follows at most ONE marker
(`liveCell_eq`); a thread that works in generation `g` — however old the table pointer it once loaded —
and finds a cell that is not forwarded has reached the live cell of its key (`live_of_gen`); allocating
the next generation and publishing it do not change the abstract state of any key. -/
namespace Flurry.Proto.BinN
open Flurry.Lin
open Flurry.Proto.BinX (NodeS Cell Pending isReader dflt chainFrom cellHead cellOfHead)

theorem liveFrom_of_not_moved (s : State) (k fuel g : Nat) (h : cellOf s g k ≠ .moved) :
    liveFrom s k fuel g = cellOf s g k := by
  cases fuel with
  | zero => rfl
  | succ f =>
    unfold liveFrom
    split
    · rename_i hm; exact absurd hm h
    · rfl

theorem liveFrom_of_moved (s : State) (k f g : Nat) (h : cellOf s g k = .moved) :
    liveFrom s k (f + 1) g = liveFrom s k f (g + 1) := by
  conv => lhs; unfold liveFrom
  rw [h]

/-- a lookup that starts now follows at most one forwarding marker: no cell of generation `cur + 1` is forwarded -/
theorem liveCell_eq_of {s : State} (hlt : s.cur < s.tabs.length) (hn : ∀ j, cellAt s (s.cur + 1) j ≠ .moved) (k : Nat) :
    liveCell s k = if cellOf s s.cur k = .moved then cellOf s (s.cur + 1) k else cellOf s s.cur k := by
  unfold liveCell
  obtain ⟨f, hf⟩ : ∃ f, s.tabs.length = f + 1 := ⟨s.tabs.length - 1, by omega⟩
  rw [hf]
  by_cases hm : cellOf s s.cur k = .moved
  · rw [if_pos hm, liveFrom_of_moved s k f s.cur hm]
    exact liveFrom_of_not_moved s k f _ (hn _)
  · rw [if_neg hm]
    exact liveFrom_of_not_moved s k _ _ hm

theorem GenInv.liveCell_eq {s : State} (I : GenInv s) (k : Nat) :
    liveCell s k = if cellOf s s.cur k = .moved then cellOf s (s.cur + 1) k else cellOf s s.cur k :=
  liveCell_eq_of I.cur_lt I.nextOK k

/-- **follow the markers until a live cell**: a thread that works in generation `g` and sees a cell of
its key that is not forwarded has reached the live cell of the key — whatever the age of the table
pointer it started from -/
theorem GenInv.live_of_gen {s : State} (I : GenInv s) {t : Nat} {l : Local} {p : Pending} {g : Nat}
    (hl : s.threads[t]? = some l) (hp : l.call = some p) (hg : genOfPc l.pc = some g)
    (hnm : cellOf s g p.key ≠ .moved) : liveCell s p.key = cellOf s g p.key := by
  obtain ⟨h1, h2⟩ := (I.thr t l hl).gen p g hp hg
  rw [I.liveCell_eq]
  by_cases hc : g = s.cur + 1
  · rw [if_pos (h2 hc), hc]
  · by_cases hc' : g = s.cur
    · subst hc'
      rw [if_neg hnm]
    · exact absurd (I.old g _ (by omega) (mod_lt_pow _ _)) hnm

/-- a stale thread — one that works in a generation older than `cur` — can only see a forwarding marker -/
theorem GenInv.stale_sees_moved {s : State} (I : GenInv s) {g : Nat} (hg : g < s.cur) (k : Nat) :
    cellOf s g k = .moved :=
  I.old g _ hg (mod_lt_pow _ _)

theorem absOf_congr {s s' : State} (hh : s'.heap = s.heap) {k : Nat} (hlive : liveCell s' k = liveCell s k) :
    absOf s' k = absOf s k := by
  unfold absOf chainOfCell
  rw [hh, hlive]

theorem liveFrom_congr {s s' : State} (h : s'.tabs = s.tabs) (k : Nat) :
    ∀ (f g : Nat), liveFrom s' k f g = liveFrom s k f g := by
  have hc : ∀ g, cellOf s' g k = cellOf s g k := fun g => by rw [cellOf_eq, cellOf_eq, h]
  intro f
  induction f with
  | zero => intro g; exact hc g
  | succ f ih =>
    intro g
    unfold liveFrom
    rw [hc g]
    split
    · exact ih _
    · rfl

theorem liveCell_congr {s s' : State} (h : s'.tabs = s.tabs) (hc : s'.cur = s.cur) (k : Nat) :
    liveCell s' k = liveCell s k := by
  unfold liveCell
  rw [h, hc]
  exact liveFrom_congr h k _ _

/-- allocating the next generation changes the abstract state of no key -/
theorem alloc_abs {s s' : State} (I : GenInv s) (I' : GenInv s') (hh : s'.heap = s.heap) (hcur : s'.cur = s.cur)
    (htabs : s'.tabs = s.tabs ++ [List.replicate (2 ^ (s.cur + 1)) .empty]) (k : Nat) :
    absOf s' k = absOf s k := by
  refine absOf_congr hh ?_
  rw [I.liveCell_eq, I'.liveCell_eq, hcur]
  have hc : ∀ g j, cellOf s' g j = cellOf s g j := by
    intro g j
    rw [cellOf_eq, cellOf_eq, htabs]
    exact cellT_alloc _ _ _ _
  rw [hc, hc]

/-- publishing the next table (`cur := cur + 1`, when every cell of `cur` is forwarded) changes the
abstract state of no key -/
theorem commit_abs {s s' : State} (I : GenInv s) (I' : GenInv s') (hh : s'.heap = s.heap)
    (hcur : s'.cur = s.cur + 1) (htabs : s'.tabs = s.tabs)
    (hall : ∀ j, j < 2 ^ s.cur → cellAt s s.cur j = .moved) (k : Nat) :
    absOf s' k = absOf s k := by
  refine absOf_congr hh ?_
  have hc : ∀ g j, cellOf s' g j = cellOf s g j := by
    intro g j
    rw [cellOf_eq, cellOf_eq, htabs]
  rw [I.liveCell_eq, I'.liveCell_eq, hcur, hc, hc]
  have hm : cellOf s s.cur k = .moved := hall _ (mod_lt_pow _ _)
  have hn : cellOf s (s.cur + 1) k ≠ .moved := I.nextOK _
  rw [if_pos hm, if_neg hn]

end Flurry.Proto.BinN
