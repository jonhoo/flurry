import Flurry.Lemmas.BinNInvAux
import Flurry.Lemmas.BinNStore
import Flurry.Lemmas.BinNTransfer
import Flurry.Lemmas.BinNHMInvStep
/-! # Proto/BinN: every transition preserves the structural invariant — the case analysis (C01, C10) -/
namespace Flurry.Proto.BinN
open Flurry.Lin
open Flurry.Proto.BinX (NodeS Cell Pending isReader dflt chainFrom cellHead cellOfHead nodeAt nodeAt_of_some getElem?_nodeAt
  nodeAt_append_left IsSeg IsChain chainH absIn KeysDistinct Walk get_set get_set_self get_set_ne cellOfHead_ne_moved)

open BinNHM (toM toM_mid isMid_toM hinv_toM AbsEff winv_frame hfr_put)

/-- the bin lock of the cell that is being split is held by the resizing thread -/
theorem Inv.mid_lock {s : State} {G : Ghost} (I : Inv s G) {t : Nat} {l : Local} (hl : s.threads[t]? = some l)
    (hnT : ¬ isT l.pc) : ∀ j h, BinNHM.IsMid (toM G) j → cellAt s s.cur j = .node h → lockAt s.heap h ≠ some t := by
  intro j h hm hc hlk
  obtain ⟨t0, l0, h0, hl0, hv0, hT0⟩ := I.mid_vcell (isMid_toM.1 hm)
  obtain ⟨hc0, hh0⟩ := (I.gen.thr t0 l0 hl0).valid _ _ _ hv0
  rw [hc] at hc0; cases hc0
  have := ((I.gen.thr t0 l0 hl0).held h hh0).2
  rw [hlk] at this; cases this
  rw [hl] at hl0; cases hl0
  exact hnT hT0

/-- back from the invariant of the readers and writers at `toM G`, after a transition that leaves the ghost alone
and is not in the middle phase of a split before or after: the phase of the resizing thread (`PInv`) only needs
that the children of the cell it splits are not touched -/
theorem Inv.of_rw {s s' : State} {G : Ghost} {t : Nat} {l l' : Local} (I : Inv s G) (hl : s.threads[t]? = some l)
    (R : BinNHM.RWInv s' (toM G)) (hs : BinNHM.HeapStep s s' (toM G) (toM G))
    (hthr : s'.threads = s.threads.set t l') (hc : s'.cur = s.cur) (hnm : ¬ isMidPc l.pc) (hnm' : ¬ isMidPc l'.pc)
    (fr : ∀ j lo hg, G.mid = some (j, lo, hg) → cellAt s' (s.cur + 1) j = cellAt s (s.cur + 1) j ∧
      cellAt s' (s.cur + 1) (j + 2 ^ s.cur) = cellAt s (s.cur + 1) (j + 2 ^ s.cur)) :
    Inv s' G ∧ MemStep s s' G G :=
  ⟨⟨R.gen, hinv_toM.2 ⟨R.heap, (hinv_toM.1 I.heap).2.mono hs.len rfl (fun _ h => h)⟩, R.thr,
    pinv_frame I hl hthr hc hnm hnm' fr, R.walk⟩, .heap (heapStep_toM.1 hs)⟩

/-- **the transitions of the readers and writers** are those of `BinNHM.stepK_rw` at the ghost `toM G` -/
theorem stepK_inv_rw {s s' : State} {G : Ghost} {t : Nat} {l : Local} {pick : Nat} (I : Inv s G)
    (hl : s.threads[t]? = some l) (hstep : StepK s t l pick s') (hnT : ¬ isT l.pc) (hrz : s'.resizing = s.resizing) :
    Inv s' G ∧ MemStep s s' G G ∧ AbsEff s s' l := by
  obtain ⟨R, hs, ae, fr, hc, l', hthr, hT'⟩ := BinNHM.stepK_rw I.rw hl hstep hnT (I.mid_lock hl hnT) hrz
  obtain ⟨I', m⟩ := I.of_rw hl R hs hthr hc (mt isMidPc_isT hnT) (mt isMidPc_isT hT')
    (fun j lo hg hm => (fr j lo hg G.fr (toM_mid.2 ⟨hm, rfl⟩)).2)
  exact ⟨I', m, ae⟩

/-- **every transition preserves the structural invariant**, for a new ghost `G'` (the split enters `mid` at `tBuild`
and leaves it at `tStoreMoved`); `MemStep` is what `MemStep.carries` needs for the readers, `AbsEff` what the
transition does to the abstract states (`Lemmas/BinNLin.lean` takes the linearization points from it) -/
theorem stepK_inv {s s' : State} {G : Ghost} {t : Nat} {l : Local} {pick : Nat} (I : Inv s G)
    (hl : s.threads[t]? = some l) (hstep : StepK s t l pick s') :
    ∃ G', Inv s' G' ∧ MemStep s s' G G' ∧ AbsEff s s' l := by
  -- the readers and writers: `stepK_inv_rw`; what follows are the transitions of the resizing thread
  have rw : ¬ isT l.pc → s'.resizing = s.resizing → ∃ G', Inv s' G' ∧ MemStep s s' G G' ∧ AbsEff s s' l :=
    fun hnT hrz => ⟨G, stepK_inv_rw I hl hstep hnT hrz⟩
  -- the state in constructor form: every field of a successor state then reduces at once (an unchanged field of a
  -- nested update of a variable state is slow to check by `rfl`)
  obtain ⟨heap, tabs, cur, resizing, threads, hist, now⟩ := s
  let s : State := ⟨heap, tabs, cur, resizing, threads, hist, now⟩
  have Gn' := stepK_geninv I.gen hl hstep
  have Tn' := stepK_tinv I.thr hl hstep
  have S' := Gn'.shape
  have H := I.heap
  have T := I.gen.thr t l hl
  cases hstep with
  | idle hpc => exact rw (by rw [hpc]; exact id) rfl
  | invoke k op hpc => exact rw (by rw [hpc]; exact id) rfl
  | move p pc' hp hm => exact rw hm.isOp.2.2.1 rfl
  | lockMove p h x pc' hp hm => exact rw hm.isOp.2.2.1 rfl
  | fin p res hp hf => exact rw hf.isOp.2 rfl
  | cas p g v vi hp hpc hc hop => exact rw (by rw [hpc]; exact id) rfl
  | store p g h pred hit hnext hp hpc =>
    exact rw (by rw [hpc]; exact id) (storeAt_shape (tick s) g p pred hit hnext).2.2.1
  | unlockFin p g h res hp hpc => exact rw (by rw [hpc]; exact id) rfl
  | resize hpc hr =>
    have hmid := I.mid_none_of_not_resizing hr
    obtain ⟨H', hs, habs⟩ := alloc_effect H S' hmid rfl rfl rfl
    have nT : ∀ (t1 : Nat) (l1 : Local), s.threads[t1]? = some l1 → ¬ isT l1.pc := by
      intro t1 l1 h1 hT
      have := (I.gen.thr t1 l1 h1).tres hT
      rw [hr] at this; cases this
    refine ⟨G, ⟨Gn', H', Tn', ?_, ?_⟩, .heap hs, .quiet habs⟩
    · refine pinv_of ?_ (fun h => by rw [hmid] at h; cases h)
      intro t1 l1 h1 hm1
      rcases get_set h1 with ⟨rfl, rfl⟩ | ⟨n1, h1⟩
      · exact hm1.elim
      · exact absurd (isMidPc_isT hm1) (nT _ _ h1)
    · refine winv_frame (l' := { l with pc := .tNext }) I.walk rfl ?_ (fun p _ => trivial)
      intro t1 l1 g j h _ _ _ _
      refine ⟨cellT_alloc _ _ _ _, rfl, fun i _ => ⟨rfl, rfl⟩⟩
  | tmove pc' hp hm =>
    obtain ⟨pc, call⟩ := l
    simp only at hp hm
    subst hp
    obtain ⟨R, hs, ae⟩ := BinNHM.inv_same (l := ⟨pc, none⟩) I.rw Gn' Tn'
      ((BinNHM.SameMem.tick s).trans (BinNHM.SameMem.setT _ t { pc := pc', call := none })) rfl
      (fun _ _ _ hT => absurd hm.isT.2.1 hT) (fun p hp' => by cases hp')
    obtain ⟨I', m⟩ := I.of_rw hl R hs rfl rfl (by cases hm <;> exact id) (by cases hm <;> exact id)
      (fun _ _ _ _ => ⟨rfl, rfl⟩)
    exact ⟨G, I', m, ae⟩
  | tlockMove h x pc' hp hm =>
    obtain ⟨pc, call⟩ := l
    simp only at hp hm
    subst hp
    obtain ⟨R, hs, ae⟩ := BinNHM.inv_lock (l := ⟨pc, none⟩) (l' := ⟨pc', none⟩) I.rw Gn' Tn' rfl rfl rfl rfl rfl
      (fun _ _ _ hT => absurd hm.isT.2.1 hT) (fun p hp' => by cases hp')
    obtain ⟨I', m⟩ := I.of_rw hl R hs rfl rfl (by cases hm <;> exact id) (by cases hm <;> exact id)
      (fun _ _ _ _ => ⟨rfl, rfl⟩)
    exact ⟨G, I', m, ae⟩
  | casMoved j hp hpc hc =>
    obtain ⟨pc, call⟩ := l
    simp only at hp hpc
    subst hp hpc
    have R := T.tres trivial
    have hmid := I.mid_none hl trivial (fun h => h)
    have hj : j < 2 ^ s.cur := T.idx j rfl
    obtain ⟨H', hs, habs⟩ := casMoved_effect H S' hmid hj hc rfl rfl rfl
    refine ⟨G, ⟨Gn', H', Tn', pinv_T_none (l' := { pc := .tNext, call := none }) I.gen hl trivial rfl (fun h => h) hmid, ?_⟩,
      .heap hs, .quiet habs⟩
    refine winv_frame (l' := { pc := .tNext, call := none }) I.walk rfl ?_ (fun p hp' => by cases hp')
    intro t1 l1 g j' h n1 h1 hv _
    refine hfr_put (g0 := s.cur) (j0 := j) (c := .moved) (by rfl) (by rfl) ?_
    rintro ⟨rfl, rfl⟩
    exact no_vcell_of_not_node I.gen (by rw [hc]; simp) t1 l1 h h1 hv
  | build j h hp hpc =>
    obtain ⟨pc, call⟩ := l
    simp only at hp hpc
    subst hp hpc
    have R := T.tres trivial
    have hmid := I.mid_none hl trivial (fun h => h)
    have hj : j < 2 ^ s.cur := T.idx j rfl
    have hv0 : vcell s.cur { pc := Pc.tBuild j h, call := none } = some (s.cur, j, h) := rfl
    obtain ⟨hc0, -⟩ := T.valid _ _ _ hv0
    obtain ⟨H', hs, habs⟩ := build_effect (s' := setT { tick s with heap := (splitBinB (bitAt s.cur) s.heap (chainFrom s.heap s.heap.length (some h))).1 } t
        { pc := .tStoreLow j h (splitBinB (bitAt s.cur) s.heap (chainFrom s.heap s.heap.length (some h))).2.1
            (splitBinB (bitAt s.cur) s.heap (chainFrom s.heap s.heap.length (some h))).2.2, call := none })
      H hmid hj hc0 rfl rfl rfl rfl
    obtain ⟨ext, hext⟩ := BinNHM.splitBinB_ext (bitAt s.cur) s.heap (chainFrom s.heap s.heap.length (some h))
    have hnm : cellAt s s.cur j ≠ .moved := by rw [hc0]; simp
    refine ⟨_, ⟨Gn', H', Tn', ?_, ?_⟩, .heap hs, .quiet habs⟩
    · refine pinv_T_mid I.gen hl trivial rfl ?_ trivial
      refine ⟨rfl, ?_, ?_⟩
      · exact H.nextEmpty j (by rw [Nat.mod_eq_of_lt hj]; exact hnm) (by rw [Nat.mod_eq_of_lt hj]; exact midIdx_none hmid _)
      · exact H.nextEmpty (j + 2 ^ s.cur) (by rw [high_mod j s.cur hj]; exact hnm)
          (by rw [high_mod j s.cur hj]; exact midIdx_none hmid _)
    · refine winv_frame I.walk rfl ?_ (fun p hp' => by cases hp')
      intro t1 l1 g j' h' _ _ _ _
      have hch := BinNHM.chId_of_ext H.toM H'.toM hext rfl (g, j')
      refine ⟨rfl, hch, ?_⟩
      intro i hi
      have hil : i < s.heap.length := H.chain_lt (id := (g, j')) hi
      show (nodeAt (splitBinB _ _ _).1 i).key = _ ∧ (nodeAt (splitBinB _ _ _).1 i).next = _
      rw [hext, nodeAt_append_left ext hil]
      exact ⟨rfl, rfl⟩
  | storeLow j h lo hg hp hpc =>
    obtain ⟨pc, call⟩ := l
    simp only at hp hpc
    subst hp hpc
    have R := T.tres trivial
    have hj : j < 2 ^ s.cur := T.idx j rfl
    obtain ⟨hmid, hlow, hhigh⟩ := I.ph.pcMid t _ hl
    have hv0 : vcell s.cur { pc := Pc.tStoreLow j h lo hg, call := none } = some (s.cur, j, h) := rfl
    obtain ⟨hc0, -⟩ := T.valid _ _ _ hv0
    have hnm : cellAt s s.cur j ≠ .moved := by rw [hc0]; simp
    obtain ⟨H', hs, habs⟩ := storeNew_effect (s' := putCell (setT (tick s) t { pc := .tStoreHigh j h hg, call := none }) (s.cur + 1) j (cellOfHead lo))
      H S' hmid R (Or.inl ⟨rfl, rfl, hlow⟩) rfl rfl rfl
    refine ⟨G, ⟨Gn', H', Tn', ?_, ?_⟩, .heap hs, .quiet habs⟩
    · refine pinv_T_mid I.gen hl trivial rfl ?_ trivial
      refine ⟨lo, hmid, ?_, ?_⟩
      · show cellAt _ (s.cur + 1) j = _
        exact cellAt_put_self H.shape rfl (H.shape.next_lt R) (by rw [Nat.pow_succ]; omega)
      · show cellAt _ (s.cur + 1) (j + 2 ^ s.cur) = _
        rw [cellAt_put_ne (s := s) (g := s.cur + 1) (j := j) rfl (by intro ⟨_, h2⟩; have := Nat.two_pow_pos s.cur; omega)]
        exact hhigh
    · refine winv_frame I.walk rfl ?_ (fun p hp' => by cases hp')
      intro t1 l1 g j' h' n1 h1 hv _
      refine hfr_put (g0 := s.cur + 1) (j0 := j) (c := cellOfHead lo) (by rfl) (by rfl) ?_
      rintro ⟨rfl, rfl⟩
      exact no_vcell_child I.gen hl trivial hnm (Nat.mod_eq_of_lt hj) t1 l1 h' n1 h1 hv
  | storeHigh j h hg hp hpc =>
    obtain ⟨pc, call⟩ := l
    simp only at hp hpc
    subst hp hpc
    have R := T.tres trivial
    have hj : j < 2 ^ s.cur := T.idx j rfl
    obtain ⟨lo, hmid, hlow, hhigh⟩ := I.ph.pcMid t _ hl
    have hv0 : vcell s.cur { pc := Pc.tStoreHigh j h hg, call := none } = some (s.cur, j, h) := rfl
    obtain ⟨hc0, -⟩ := T.valid _ _ _ hv0
    have hnm : cellAt s s.cur j ≠ .moved := by rw [hc0]; simp
    obtain ⟨H', hs, habs⟩ := storeNew_effect (s' := putCell (setT (tick s) t { pc := .tStoreMoved j h, call := none }) (s.cur + 1) (j + 2 ^ s.cur) (cellOfHead hg))
      H S' hmid R (Or.inr ⟨rfl, rfl, hhigh⟩) rfl rfl rfl
    refine ⟨G, ⟨Gn', H', Tn', ?_, ?_⟩, .heap hs, .quiet habs⟩
    · refine pinv_T_mid I.gen hl trivial rfl ?_ trivial
      refine ⟨lo, hg, hmid, ?_, ?_⟩
      · show cellAt _ (s.cur + 1) j = _
        rw [cellAt_put_ne (s := s) (g := s.cur + 1) (j := j + 2 ^ s.cur) rfl (by intro ⟨_, h2⟩; have := Nat.two_pow_pos s.cur; omega)]
        exact hlow
      · show cellAt _ (s.cur + 1) (j + 2 ^ s.cur) = _
        exact cellAt_put_self H.shape rfl (H.shape.next_lt R) (by rw [Nat.pow_succ]; omega)
    · refine winv_frame I.walk rfl ?_ (fun p hp' => by cases hp')
      intro t1 l1 g j' h' n1 h1 hv _
      refine hfr_put (g0 := s.cur + 1) (j0 := j + 2 ^ s.cur) (c := cellOfHead hg) (by rfl) (by rfl) ?_
      rintro ⟨rfl, rfl⟩
      exact no_vcell_child I.gen hl trivial hnm (high_mod j s.cur hj) t1 l1 h' n1 h1 hv
  | storeMoved j h hp hpc =>
    obtain ⟨pc, call⟩ := l
    simp only at hp hpc
    subst hp hpc
    have R := T.tres trivial
    have hj : j < 2 ^ s.cur := T.idx j rfl
    obtain ⟨lo, hg, hmid, hlow, hhigh⟩ := I.ph.pcMid t _ hl
    have hv0 : vcell s.cur { pc := Pc.tStoreMoved j h, call := none } = some (s.cur, j, h) := rfl
    obtain ⟨H', habs⟩ := moved_effect (s' := putCell (setT (tick s) t { pc := .tUnlock j h, call := none }) s.cur j .moved)
      H S' hmid hlow hhigh rfl rfl rfl
    obtain ⟨-, sL, sH⟩ := mid_chains H hmid hlow hhigh
    refine ⟨{ G with mid := none }, ⟨Gn', H', Tn', pinv_T_none (l' := { pc := .tUnlock j h, call := none }) I.gen hl trivial rfl (fun h => h) rfl, ?_⟩,
      ?_, .quiet habs⟩
    · refine winv_frame (l' := { pc := .tUnlock j h, call := none }) I.walk rfl ?_ (fun p hp' => by cases hp')
      intro t1 l1 g j' h' n1 h1 hv _
      refine hfr_put (g0 := s.cur) (j0 := j) (c := .moved) (by rfl) (by rfl) ?_
      rintro ⟨rfl, rfl⟩
      exact no_vcell_of_mutex I.gen hl hv0 t1 l1 h' n1 h1 hv
    · refine .moved j lo hg hmid rfl rfl rfl rfl ?_ ?_ ?_
      · exact cellAt_put_self H.shape rfl H.shape.cur_lt hj
      · intro id hne
        exact getCell_put_ne (s := s) rfl hne
      · intro b
        cases b
        · exact sL
        · exact sH
  | commit hp hpc =>
    obtain ⟨pc, call⟩ := l
    simp only at hp hpc
    subst hp hpc
    have R := T.tres trivial
    have hmid := I.mid_none hl trivial (fun h => h)
    have hall := T.commit rfl
    obtain ⟨H', hs, habs⟩ := commit_effect (s' := { (setT (tick s) t { pc := .idle, call := none }) with cur := s.cur + 1, resizing := false })
      H S' hmid hall rfl rfl rfl
    refine ⟨G, ⟨Gn', H', Tn', pinv_T_none (l' := { pc := .idle, call := none }) I.gen hl trivial rfl (fun h => h) hmid, ?_⟩,
      .heap hs, .quiet habs⟩
    refine winv_frame (l' := { pc := .idle, call := none }) I.walk rfl ?_ (fun p hp' => by cases hp')
    intro t1 l1 g j' h' _ _ _ _
    exact ⟨rfl, rfl, fun i _ => ⟨rfl, rfl⟩⟩

/-- every transition of `BinN` advances the clock by one and changes at most the local state of its thread -/
theorem stepK_frame {s s' : State} {t : Nat} {l : Local} {pick : Nat} (h : StepK s t l pick s') :
    s'.now = s.now + 1 ∧ ∃ l', s'.threads = s.threads.set t l' := by
  cases h with
  | store p g hh pred hit hnext h1 h2 =>
    obtain ⟨e1, -, e3⟩ := storeAt_thn (tick s) g p pred hit hnext
    refine ⟨e3, { l with pc := .wUnlock g hh (storeAt (tick s) g p pred hit hnext).2 false }, ?_⟩
    show ((storeAt (tick s) g p pred hit hnext).1.threads).set t _ = _
    rw [e1]; rfl
  | _ => exact ⟨rfl, _, rfl⟩

end Flurry.Proto.BinN
