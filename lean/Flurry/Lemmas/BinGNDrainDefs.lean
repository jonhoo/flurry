import Flurry.Lemmas.BinGNProgEn
/-! # Proto/BinGN, termination: the global measure `gmu`

`gmu s = W s * DA s + PS s` where
* `G s = Σ_t growV …`: the number of allocations the threads in flight may still perform: one per call / treeify, and
  for the resizing thread one per cell of generation `cur` that is not yet forwarded (`Uv`); an allocation at most
  quadruples `heap.length + 1` (the largest, a tree split, may triple the heap: header of
  `Lemmas/BinGDrainDefs.lean`), so `N s = (heap.length + 1) * 4 ^ G s` bounds the heap length of every later state and
  never increases;
* `DA s = Σ_t daV …`: the number of *disturbing* steps the threads in flight still have ahead — stores into nodes,
  cells and the table pointer, allocations, changes of the read-write lock word of a `TreeBin`; at most 5 per call /
  treeify, and for the resizing thread `4 * U + 1` at `xNext` (`U = Uv`: cells of generation `cur` not yet forwarded;
  per cell: allocation, two child stores, the marker; `+ 1`: the commit) plus its position inside the current
  transfer (`U1 v j`: the count without the cell `j` under transfer); a retry loop contains none;
* `PS s = Σ_t pmV (N s) …`: per thread, a bound on the number of *calm* steps (loads, lock and unlock of a node / of a
  bin mutex, local moves) until its next disturbing step, its return, or its being blocked — taking a possibly stale
  view into account; a thread about to load its cell in generation `g` has `T - g` forwarding hops ahead
  (`T = tabs.length`, constant along quiet runs: `fresh T L g`); it depends on the shared state only through the
  `View`: the cells, `tabs.length`, the table pointer and the cells of generation `cur`, the `next` pointers and the
  read-write lock words;
* `W s = threads.length * PM T (N s) + 1` where `PM` bounds every `pmV`.
A calm step of thread `t` leaves the `View` alone, so it changes only `t`'s own summand of `PS`, which strictly
decreases; a disturbing step may invalidate the view of every other thread (their summands of `PS` are then only known
to be `≤ PM`), but it decreases `DA`, which pays `W > threads.length * PM`. The resizing thread's `daV` / `growV` read
the view only through `cur` and the set of forwarded cells of generation `cur` (`daV_growV_xeq`), which the steps of
the other threads leave alone.
Against `Lemmas/BinGDrainDefs.lean`: `rankL` unfolds to `BinGProg.rankL`, whose lemmas are passed through without a
`rankL_eq`; `WalkOK` is given by cases on the program counter, not through a `walkIdx`. -/
namespace Flurry.Proto.BinGNP
open Flurry.Lin
open Flurry.Proto.BinK (isInsert nodeAt binAt NextOK)
open Flurry.Proto.BinGProg (le_of_eval ite_le ite_le_ite)

def stepQuiet (s : State) (t : Nat) (lo sm sm2 : Bool) (pick : Nat) : Option State :=
  step s t none lo none false sm sm2 pick

def insOf (l : Local) : Bool :=
  match l.call with
  | some p => isInsert p.op
  | none => false

/-- the bound for an operation that is about to load its cell in generation `g` of `T` generations:
one forwarding hop per generation still ahead -/
def fresh (T n g : Nat) : Nat := 2 * n + 12 + (T - g)

theorem fresh_le (T n g : Nat) : fresh T n g ≤ 2 * n + 12 + T := by unfold fresh; omega

theorem lt_fresh {T n k : Nat} (g : Nat) (h : k ≤ 2 * n + 11) : k < fresh T n g := by
  unfold fresh; omega

theorem fresh_mono {T L L' : Nat} (h : L ≤ L') (g : Nat) : fresh T L g ≤ fresh T L' g := by
  unfold fresh; omega

structure View where
  cell : Nat → Nat → Cell
  T : Nat
  cur : Nat
  xc : Nat → Cell
  next : Nat → Option Nat
  casok : Nat → Nat → Bool
  waiter : Nat → Bool

def viewOf (s : State) : View :=
  { cell := cellOf s, T := s.tabs.length, cur := s.cur, xc := fun j => cellAt s (s.cur, j), next := fun i => (nodeAt s.heap i).next, casok := casOk s,
    waiter := fun b => (binAt s.tbins b).waiter }

theorem viewOf_eq {s s' : State} (h0 : s'.tabs = s.tabs) (hc : s'.cur = s.cur)
    (hn : ∀ i, (nodeAt s'.heap i).next = (nodeAt s.heap i).next)
    (hw : ∀ b, (binAt s'.tbins b).writer = (binAt s.tbins b).writer)
    (ha : ∀ b, (binAt s'.tbins b).waiter = (binAt s.tbins b).waiter)
    (hr : ∀ b, (binAt s'.tbins b).readers = (binAt s.tbins b).readers) : viewOf s' = viewOf s := by
  have e1 : cellOf s' = cellOf s := by
    funext g k; unfold Flurry.Proto.BinGN.cellOf Flurry.Proto.BinGN.cellAt; rw [h0]
  have e2 : (fun i => (nodeAt s'.heap i).next) = fun i => (nodeAt s.heap i).next := funext hn
  have e3 : casOk s' = casOk s := by
    funext b r; unfold casOk; rw [hw, ha, hr]
  have e4 : (fun b => (binAt s'.tbins b).waiter) = fun b => (binAt s.tbins b).waiter := funext ha
  have e5 : (fun j => cellAt s' (s'.cur, j)) = fun j => cellAt s (s.cur, j) := by
    funext j; unfold cellAt Flurry.Proto.BinGN.cellAt; rw [h0, hc]
  unfold viewOf
  rw [e1, h0, e2, e3, e4, e5, hc]

/-- the number of `j < n` that are not marked -/
def cntU (mv : Nat → Bool) : Nat → Nat
  | 0 => 0
  | n + 1 => cntU mv n + (if mv n then 0 else 1)

theorem cntU_congr {f g : Nat → Bool} : ∀ n, (∀ i, i < n → f i = g i) → cntU f n = cntU g n
  | 0, _ => rfl
  | n + 1, h => by
    simp only [cntU]
    rw [cntU_congr n (fun i hi => h i (by omega)), h n (by omega)]

theorem cntU_mark {f g : Nat → Bool} {j : Nat} (hfj : f j = false) (hgj : g j = true)
    (hne : ∀ i, i ≠ j → g i = f i) : ∀ n, j < n → cntU g n + 1 = cntU f n
  | 0, h => by omega
  | n + 1, h => by
    simp only [cntU]
    by_cases hjn : j = n
    · subst hjn
      rw [cntU_congr j (fun i hi => hne i (by omega)), hfj, hgj]
      simp
    · have := cntU_mark hfj hgj hne n (by omega)
      rw [hne n (fun e => hjn e.symm)]
      omega

/-- cell `(cur, j)` is forwarded -/
def mvOf (v : View) (j : Nat) : Bool := v.xc j == .moved

/-- the number of cells of generation `cur` that are not yet forwarded -/
def Uv (v : View) : Nat := cntU (mvOf v) (2 ^ v.cur)

/-- cell `(cur, j)` exists and is not yet forwarded -/
def umv (v : View) (j : Nat) : Bool := decide (j < 2 ^ v.cur) && !mvOf v j

/-- … not counting cell `j` -/
def U1 (v : View) (j : Nat) : Nat := Uv v - (if umv v j = true then 1 else 0)

/-- the base of the calm measure of the resizing thread at cell `j`. A thread that finds its cell forwarded goes back
to `xNext`, which weighs 13 (the choice, then `xCell j` at `10` on a cell that is not forwarded, or `xCommit`), so a
forwarded cell weighs 14; so does `xUnlock`, which returns to `xNext` as well. -/
def xbase (v : View) (j : Nat) : Nat := if v.xc j = .moved then 14 else 10

theorem U1_add_one {v : View} {j : Nat} (h : umv v j = true) : U1 v j + 1 = Uv v := by
  have hj : j < 2 ^ v.cur := by
    unfold umv at h
    cases hd : decide (j < 2 ^ v.cur) with
    | true => exact of_decide_eq_true hd
    | false => rw [hd] at h; cases h
  have hm : mvOf v j = false := by
    unfold umv at h
    cases hm : mvOf v j with
    | false => rfl
    | true => rw [hm] at h; simp at h
  -- marking `j` as well lowers the count by one: so the count is not zero
  have : 0 < Uv v := by
    unfold Uv
    have := cntU_mark (f := mvOf v) (g := fun i => mvOf v i || i == j) hm (by simp)
      (fun i hi => by simp [hi]) _ hj
    omega
  unfold U1
  rw [if_pos h]
  omega

theorem U1_le (v : View) (j : Nat) : U1 v j ≤ Uv v := by unfold U1; omega

theorem Uv_le_U1_add_one (v : View) (j : Nat) : Uv v ≤ U1 v j + 1 := by unfold U1; split <;> omega

/-- the same definition as `BinGProg.rankL`: the lemmas below are that file's, by unfolding -/
def rankL (L : Nat) (next : Nat → Option Nat) (i : Nat) : Nat :=
  match next i with
  | some j => if j < i then L + i + 1 else L - i
  | none => L - i

theorem rankL_le (L : Nat) (next : Nat → Option Nat) (i : Nat) : rankL L next i ≤ L + i + 1 :=
  BinGProg.rankL_le L next i

theorem rankL_le_two {L : Nat} (next : Nat → Option Nat) {i : Nat} (h : i < L) : rankL L next i ≤ 2 * L := by
  have := rankL_le L next i
  omega

theorem rankL_mono {L L' : Nat} (h : L ≤ L') (next : Nat → Option Nat) (i : Nat) :
    rankL L next i ≤ rankL L' next i :=
  BinGProg.rankL_mono h next i

theorem rankL_lt {heap : List NodeS} (hok : NextOK heap) {L : Nat} (hL : heap.length ≤ L) {i j : Nat} {n : NodeS}
    (hn : heap[i]? = some n) (hj : n.next = some j) :
    rankL L (fun i => (nodeAt heap i).next) j < rankL L (fun i => (nodeAt heap i).next) i :=
  BinGProg.rankL_lt hok hL hn hj

def pmV (L : Nat) (v : View) (l : Local) : Nat :=
  match l.pc with
  | .idle => 0
  | .rTable _ => 4 * L + 10 + v.T
  | .rCell _ g => 4 * L + 8 + (v.T - g)
  | .rNode none => 1
  | .rNode (some c) => rankL L v.next c + 2
  | .rFirst _ => 4 * L + 7
  | .rState _ none => 1
  | .rState _ (some c) => 2 * rankL L v.next c + 6
  | .rLin _ c => 2 * rankL L v.next c + 5
  | .rCas b c r => if v.casok b r = true then 4 else 2 * rankL L v.next c + 7
  | .rTree _ => 3
  | .rRelease _ _ => 2
  | .rVal _ => 1
  | .lFirst _ => 2 * L + 3
  | .lNode none => 1
  | .lNode (some c) => rankL L v.next c + 2
  | .wTable => 2 * L + 14 + v.T
  | .wCell g => fresh v.T L g
  | .wCas g => if v.cell g (keyOf l) = .empty ∧ insOf l = true then 1 else 1 + fresh v.T L g
  | .wLock g h => if v.cell g (keyOf l) = .list h then 2 * L + 6 else 3 + fresh v.T L g
  | .wCheck g h => if v.cell g (keyOf l) = .list h then 2 * L + 5 else 2 + fresh v.T L g
  | .wFind _ _ _ none => 3
  | .wFind _ _ _ (some c) => rankL L v.next c + 4
  | .wStore _ _ _ _ _ => 2
  | .wUnlock _ _ _ false => 1
  | .wUnlock g _ _ true => 1 + fresh v.T L g
  | .tMutex g b => if v.cell g (keyOf l) = .tree b then 10 else 3 + fresh v.T L g
  | .tCheck g b => if v.cell g (keyOf l) = .tree b then 9 else 2 + fresh v.T L g
  | .tFind _ _ => 8
  | .tVal _ _ _ _ _ => 2
  | .lrTry _ _ _ _ => 7
  | .lrLoop _ _ _ _ => 5
  | .tPrependLocked _ _ => 4
  | .tTreeLinkLocked _ _ _ => 3
  | .tUnlinkLocked _ _ _ _ => 4
  | .tRestructure _ _ _ _ => 3
  | .tUnlockRoot _ _ _ => 2
  | .tUntreeify _ _ _ => 2
  | .tUnlockM _ _ _ false => 1
  | .tUnlockM g _ _ true => 1 + fresh v.T L g
  | .kTable _ => 8 + v.T
  | .kCell g _ => 6 + (v.T - g)
  | .kLock _ _ _ => 5
  | .kCheck _ _ _ => 4
  | .kBuild _ _ _ => 3
  | .kStore _ _ _ _ => 2
  | .kUnlock _ => 1
  | .xNext => 13
  | .xCell j => xbase v j
  | .xCasMoved j => if v.xc j = .empty then 2 else xbase v j + 1
  | .xLock j h => if v.xc j = .list h then 8 else xbase v j + 2
  | .xCheck j h => if v.xc j = .list h then 7 else xbase v j + 1
  | .xBuild _ _ => 6
  | .yMutex j b => if v.xc j = .tree b then 8 else xbase v j + 2
  | .yCheck j b => if v.xc j = .tree b then 7 else xbase v j + 1
  | .yBuild _ _ => 6
  | .xStoreLow _ _ _ _ => 5
  | .xStoreHigh _ _ _ => 4
  | .xStoreMoved _ _ => 3
  | .xUnlock _ => 14
  | .xCommit => 1

/-- the walk indices of the program counter are below `n` -/
def WalkOK (n : Nat) : Pc → Prop
  | .rNode (some c) => c < n
  | .rState _ (some c) => c < n
  | .rLin _ c => c < n
  | .rCas _ c _ => c < n
  | .lNode (some c) => c < n
  | .wFind _ _ _ (some c) => c < n
  | _ => True

theorem WalkOK.mono {n m : Nat} (h : n ≤ m) {pc : Pc} (hw : WalkOK n pc) : WalkOK m pc := by
  cases pc with
  | rNode cur | rState _ cur | lNode cur | wFind _ _ _ cur =>
    cases cur with
    | none => trivial
    | some c => exact Nat.lt_of_lt_of_le hw h
  | rLin _ _ | rCas _ _ _ => exact Nat.lt_of_lt_of_le hw h
  | _ => trivial

theorem walkOK_of_inv {s : State} (I : Inv s) (B : BInv s) {t : Nat} {l : Local} (hl : s.threads[t]? = some l) :
    WalkOK s.heap.length l.pc := by
  have hb := (B t l hl).1
  have hpi := I.data.pcInv t l
  have hcall := (I.thr.callOK t l hl).1
  obtain ⟨pc, call⟩ := l
  -- a reader has a call
  have hp : noCallPc pc = false → ∃ p, PcInv s p pc := fun h =>
    match call, hcall, hpi with
    | none, hcall, _ => by rw [hcall rfl] at h; cases h
    | some p, _, hpi => ⟨p, hpi p hl rfl⟩
  cases pc with
  | wFind _ _ _ cur =>
    cases cur with
    | none => trivial
    | some c => exact hb c rfl
  | rNode cur | rState _ cur | lNode cur =>
    cases cur with
    | none => trivial
    | some c => obtain ⟨_, h⟩ := hp rfl; exact h
  | rLin _ _ | rCas _ _ _ => obtain ⟨_, h⟩ := hp rfl; exact h
  | _ => trivial

/-- every alternative of `pmV` is built from `L`, `rankL L` and `fresh v.T L` by monotone operations -/
theorem pmV_mono {L L' : Nat} (h : L ≤ L') (v : View) (l : Local) : pmV L v l ≤ pmV L' v l := by
  obtain ⟨pc, call⟩ := l
  have lin : ∀ k c : Nat, k * L + c ≤ k * L' + c := fun k c => Nat.add_le_add_right (Nat.mul_le_mul_left k h) c
  have rk : ∀ i c : Nat, rankL L v.next i + c ≤ rankL L' v.next i + c :=
    fun i c => Nat.add_le_add_right (rankL_mono h v.next i) c
  have rk2 : ∀ i c : Nat, 2 * rankL L v.next i + c ≤ 2 * rankL L' v.next i + c :=
    fun i c => Nat.add_le_add_right (Nat.mul_le_mul_left 2 (rankL_mono h v.next i)) c
  have fr : ∀ g c, c + fresh v.T L g ≤ c + fresh v.T L' g := fun g c => Nat.add_le_add_left (fresh_mono h g) c
  cases pc with
  | rNode cur | lNode cur | wFind _ _ _ cur =>
    cases cur with
    | none => exact Nat.le_refl _
    | some c => exact rk c _
  | rState _ cur =>
    cases cur with
    | none => exact Nat.le_refl _
    | some c => exact rk2 c _
  | rLin _ c => exact rk2 c _
  | rCas _ c _ => exact ite_le_ite (Nat.le_refl _) (rk2 c _)
  | rFirst _ | lFirst _ => exact lin _ _
  | rTable _ | rCell _ _ | wTable => exact Nat.add_le_add_right (lin _ _) _
  | wCell g => exact fresh_mono h g
  | wCas g | tMutex g _ | tCheck g _ => exact ite_le_ite (Nat.le_refl _) (fr g _)
  | wLock g _ | wCheck g _ => exact ite_le_ite (lin _ _) (fr g _)
  | wUnlock g _ _ retry | tUnlockM g _ _ retry => cases retry <;> first | exact Nat.le_refl _ | exact fr g _
  | _ => exact Nat.le_refl _

theorem pmV_le_reader {L : Nat} (v : View) {l : Local} (hr : readerPc l.pc = true) (hw : WalkOK L l.pc) :
    pmV L v l ≤ v.T + 4 * L + 10 := by
  obtain ⟨pc, call⟩ := l
  have h2 := fun {c} (hc : c < L) => rankL_le_two v.next hc
  cases pc with
  | rNode cur | rState _ cur | lNode cur =>
    cases cur with
    | none => exact Nat.le_trans (le_of_eval rfl) (Nat.le_add_left 10 _)
    | some c => have := h2 hw; simp only [pmV]; omega
  | rLin _ c => have := h2 hw; simp only [pmV]; omega
  | rCas _ c _ => exact ite_le (by omega) (by have := h2 hw; omega)
  | rTable _ | rCell _ _ | rFirst _ | lFirst _ => simp only [pmV] <;> omega
  | rTree _ | rRelease _ _ | rVal _ => exact Nat.le_trans (le_of_eval rfl) (Nat.le_add_left 10 _)
  | _ => cases hr

theorem pmV_le_writer {L : Nat} (v : View) {l : Local} (hr : readerPc l.pc = false) (hw : WalkOK L l.pc) :
    pmV L v l ≤ 2 * L + 16 + v.T := by
  obtain ⟨pc, call⟩ := l
  have hf := fresh_le v.T L
  have hx : ∀ j c, c ≤ 2 → xbase v j + c ≤ 2 * L + 16 + v.T := fun j c hc =>
    Nat.le_trans (Nat.add_le_add (ite_le (Nat.le_refl 14) (by omega)) hc) (by omega)
  cases pc with
  | wFind _ _ _ cur =>
    cases cur with
    | none => exact Nat.le_trans (le_of_eval rfl) (Nat.le_trans (Nat.le_add_left 16 _) (Nat.le_add_right _ _))
    | some c => have := rankL_le_two v.next (i := c) hw; simp only [pmV]; omega
  | wCell g => exact Nat.le_trans (hf g) (by omega)
  | wTable | kTable _ | kCell _ _ => simp only [pmV] <;> omega
  | wCas g | wLock g _ | wCheck g _ | tMutex g _ | tCheck g _ =>
    exact ite_le (by omega) (by have := hf g; omega)
  | wUnlock g _ _ retry | tUnlockM g _ _ retry => have := hf g; cases retry <;> simp only [pmV] <;> omega
  | xCell j => exact hx j 0 (by omega)
  | xCasMoved j | xCheck j _ | yCheck j _ => exact ite_le (by omega) (hx j 1 (by omega))
  | xLock j _ | yMutex j _ => exact ite_le (by omega) (hx j 2 (by omega))
  | rTable _ | rCell _ _ | rNode _ | rFirst _ | rState _ _ | rLin _ _ | rCas _ _ _ | rTree _ | rRelease _ _
  | rVal _ | lFirst _ | lNode _ => cases hr
  | _ => exact Nat.le_trans (le_of_eval rfl) (Nat.le_trans (Nat.le_add_left 16 _) (Nat.le_add_right _ _))

def PM (T L : Nat) : Nat := 4 * L + 20 + T

theorem pmV_le {L : Nat} (v : View) {l : Local} (hw : WalkOK L l.pc) : pmV L v l ≤ PM v.T L := by
  unfold PM
  cases hr : readerPc l.pc with
  | true => have := pmV_le_reader v hr hw; omega
  | false => have := pmV_le_writer v hr hw; omega

def daPc : Pc → Nat
  | .rTable _ | .rCell _ _ | .rFirst _ | .rState _ _ | .rLin _ _ | .rCas _ _ _ => 2
  | .rTree _ | .rRelease _ _ => 1
  | .wTable | .wCell _ | .wCas _ | .wLock _ _ | .wCheck _ _ | .wUnlock _ _ _ true => 5
  | .wFind _ _ _ _ | .wStore _ _ _ _ _ => 1
  | .tMutex _ _ | .tCheck _ _ | .tFind _ _ | .tUnlockM _ _ _ true | .lrTry _ _ _ _ | .lrLoop _ _ _ _ => 5
  | .tVal _ _ _ _ _ => 1
  | .tPrependLocked _ _ | .tUnlinkLocked _ _ _ _ => 3
  | .tTreeLinkLocked _ _ _ | .tRestructure _ _ _ _ => 2
  | .tUnlockRoot _ _ _ | .tUntreeify _ _ _ => 1
  | .kTable _ | .kCell _ _ | .kLock _ _ _ | .kCheck _ _ _ | .kBuild _ _ _ => 2
  | .kStore _ _ _ _ => 1
  | _ => 0

/-- `daPc` (the entries of `BinG.daPc` without the transfer's), taking into account that a writer at `lrLoop` may already
have set `WAITER`; the resizing thread's entries are those of the header -/
def daV (v : View) (l : Local) : Nat :=
  match l.pc with
  | .lrLoop _ b _ _ => 4 + (if v.waiter b = true then 0 else 1)
  | .xNext | .xUnlock _ => 4 * Uv v + 1
  | .xCommit => 1
  | .xCell j | .xCasMoved j | .xLock j _ | .xCheck j _ | .xBuild j _ | .yMutex j _ | .yCheck j _ | .yBuild j _ =>
    4 * U1 v j + 5
  | .xStoreLow j _ _ _ => 4 * U1 v j + 4
  | .xStoreHigh j _ _ => 4 * U1 v j + 3
  | .xStoreMoved j _ => 4 * U1 v j + 2
  | pc => daPc pc

/-- for a thread other than the resizing thread, `daV` reads the view only at `lrLoop`: the `WAITER` bit of its bin -/
theorem daV_le_of_waiter {v v' : View} (l : Local) (hx : xPc l.pc = false)
    (hw : ∀ b, (∃ tab k res, l.pc = .lrLoop tab b k res) → v.waiter b = true → v'.waiter b = true) :
    daV v' l ≤ daV v l := by
  obtain ⟨pc, call⟩ := l
  cases pc with
  | lrLoop tab b k res =>
    refine Nat.add_le_add_left ?_ 4
    by_cases hb : v.waiter b = true
    · rw [if_pos hb, if_pos (hw b ⟨tab, k, res, rfl⟩ hb)]; exact Nat.le_refl _
    · rw [if_neg hb]; exact ite_le (Nat.zero_le _) (Nat.le_refl _)
  | xNext | xCell _ | xCasMoved _ | xLock _ _ | xCheck _ _ | xBuild _ _ | yMutex _ _ | yCheck _ _ | yBuild _ _
  | xStoreLow _ _ _ _ | xStoreHigh _ _ _ | xStoreMoved _ _ | xUnlock _ | xCommit => cases hx
  | _ => exact Nat.le_refl _

def grow : Pc → Nat
  | .wTable | .wCell _ | .wCas _ | .wLock _ _ | .wCheck _ _ | .wFind _ _ _ _ | .wStore _ _ _ _ _
  | .wUnlock _ _ _ true => 1
  | .tMutex _ _ | .tCheck _ _ | .tFind _ _ | .lrTry _ _ _ _ | .lrLoop _ _ _ _ | .tPrependLocked _ _
  | .tUnlinkLocked _ _ _ _ | .tUntreeify _ _ _ | .tUnlockM _ _ _ true => 1
  | .kTable _ | .kCell _ _ | .kLock _ _ _ | .kCheck _ _ _ | .kBuild _ _ _ => 1
  | _ => 0

/-- the number of allocations a thread may still perform: one per call / treeify, and for the resizing thread
one per cell of generation `cur` that is not yet forwarded -/
def growV (v : View) (l : Local) : Nat :=
  match l.pc with
  | .xNext | .xUnlock _ => Uv v
  | .xCell j | .xCasMoved j | .xLock j _ | .xCheck j _ | .xBuild j _ | .yMutex j _ | .yCheck j _ | .yBuild j _ =>
    U1 v j + 1
  | .xStoreLow j _ _ _ | .xStoreHigh j _ _ | .xStoreMoved j _ => U1 v j
  | pc => grow pc

theorem U1_congr {v v' : View} (hc : v'.cur = v.cur) (hm : mvOf v' = mvOf v) (j : Nat) :
    U1 v' j = U1 v j ∧ Uv v' = Uv v := by
  unfold U1 Uv umv
  rw [hc, hm]
  exact ⟨rfl, rfl⟩

/-- for the resizing thread `daV` and `growV` read the view only through `cur` and the forwarded cells -/
theorem daV_growV_xeq {v v' : View} (hc : v'.cur = v.cur) (hm : mvOf v' = mvOf v) (l : Local) (hx : xPc l.pc = true) :
    daV v' l = daV v l ∧ growV v' l = growV v l := by
  have eU := (U1_congr hc hm 0).2
  have e1 := fun j => (U1_congr hc hm j).1
  obtain ⟨pc, call⟩ := l
  cases pc with
  | xNext | xUnlock _ => exact ⟨congrArg (4 * · + 1) eU, eU⟩
  | xCommit => exact ⟨rfl, rfl⟩
  | xCell j | xCasMoved j | xLock j _ | xCheck j _ | xBuild j _ | yMutex j _ | yCheck j _ | yBuild j _ =>
    exact ⟨congrArg (4 * · + 5) (e1 j), congrArg (· + 1) (e1 j)⟩
  | xStoreLow j _ _ _ => exact ⟨congrArg (4 * · + 4) (e1 j), e1 j⟩
  | xStoreHigh j _ _ => exact ⟨congrArg (4 * · + 3) (e1 j), e1 j⟩
  | xStoreMoved j _ => exact ⟨congrArg (4 * · + 2) (e1 j), e1 j⟩
  | _ => cases hx

def G (s : State) : Nat := (s.threads.map (growV (viewOf s))).sum

def N (s : State) : Nat := (s.heap.length + 1) * 4 ^ G s

def DA (s : State) : Nat := (s.threads.map (daV (viewOf s))).sum

def PS (s : State) : Nat := (s.threads.map (pmV (N s) (viewOf s))).sum

def W (s : State) : Nat := s.threads.length * PM s.tabs.length (N s) + 1

def gmu (s : State) : Nat := W s * DA s + PS s

end Flurry.Proto.BinGNP
