import Flurry.Lemmas.RBInsert
/-! # `find_tree_node` and the value update on tree bins

`findNode` is not a plain search-tree descent (on equal hashes and unequal keys it goes to the
only child when there is only one, and compares keys otherwise), but on a `BST` it finds exactly
the entry with the given hash and key. `setVal` walks the same way. The way is named once
(`turn`), shown once to lead to the entry sought (`turn_spec`), and everything else is an induction
along it. -/
namespace Flurry.RB
open T Ctx Ins

inductive Turn | here | left | right

/-- at a node with entry `x` and children `l`, `r`: by hash; on equal hashes and unequal keys to
the only child if there is just one, else by key -/
def turn (h k : Nat) (l : T) (x : Node) (r : T) : Turn :=
  if x.hash > h then .left
  else if x.hash < h then .right
  else if x.key == k then .here
  else match l, r with
    | nil, _ => .right
    | _, nil => .left
    | _, _ => if x.key > k then .left else .right

/-- `d` is the number of key comparisons made at this node before moving on -/
theorem findNode_node (h k n : Nat) (c : Bool) (l : T) (x : Node) (r : T) :
    ∃ d ≤ 2, findNode h k (node c l x r) n =
      match turn h k l x r with
      | .here => (some x, n + 1)
      | .left => findNode h k l (n + d)
      | .right => findNode h k r (n + d) := by
  simp only [findNode, turn]
  by_cases h1 : x.hash > h
  · rw [if_pos h1, if_pos h1]; exact ⟨0, Nat.zero_le _, rfl⟩
  rw [if_neg h1, if_neg h1]
  by_cases h2 : x.hash < h
  · rw [if_pos h2, if_pos h2]; exact ⟨0, Nat.zero_le _, rfl⟩
  rw [if_neg h2, if_neg h2]
  by_cases hk : (x.key == k) = true
  · rw [if_pos hk, if_pos hk]; exact ⟨0, Nat.zero_le _, rfl⟩
  rw [if_neg hk, if_neg hk]
  rcases l with _ | ⟨lc, ll, lx, lr⟩
  · exact ⟨1, by omega, rfl⟩
  rcases r with _ | ⟨rc, rl, rx, rr⟩
  · exact ⟨1, by omega, rfl⟩
  dsimp only
  by_cases h3 : x.key > k
  · rw [if_pos h3, if_pos h3]; exact ⟨2, Nat.le_refl _, rfl⟩
  · rw [if_neg h3, if_neg h3]; exact ⟨2, Nat.le_refl _, rfl⟩

theorem setVal_node (h k v vi : Nat) (c : Bool) (l : T) (x : Node) (r : T) :
    setVal h k v vi (node c l x r) =
      match turn h k l x r with
      | .here => node c l { x with val := v, vi := vi } r
      | .left => node c (setVal h k v vi l) x r
      | .right => node c l x (setVal h k v vi r) := by
  simp only [setVal, turn]
  by_cases h1 : x.hash > h
  · rw [if_pos h1, if_pos h1]
  rw [if_neg h1, if_neg h1]
  by_cases h2 : x.hash < h
  · rw [if_pos h2, if_pos h2]
  rw [if_neg h2, if_neg h2]
  by_cases hk : (x.key == k) = true
  · rw [if_pos hk, if_pos hk]
  rw [if_neg hk, if_neg hk]
  rcases l with _ | ⟨lc, ll, lx, lr⟩
  · rfl
  rcases r with _ | ⟨rc, rl, rx, rr⟩
  · rfl
  dsimp only
  by_cases h3 : x.key > k
  · rw [if_pos h3, if_pos h3]
  · rw [if_neg h3, if_neg h3]

/-- on a search tree the turn leads to the entry sought: it is where the turn says `here`, and
never on the side not taken (the shortcut to an only child leaves an empty side) -/
theorem turn_spec (h k : Nat) {l r : T} {x : Node} (hl : ∀ y ∈ toList l, lt y x)
    (hr : ∀ y ∈ toList r, lt x y) :
    match turn h k l x r with
    | .here => (x.hash = h ∧ x.key = k) ∧ NoKey h k (toList l) ∧ NoKey h k (toList r)
    | .left => ¬(x.hash = h ∧ x.key = k) ∧ NoKey h k (toList r)
    | .right => ¬(x.hash = h ∧ x.key = k) ∧ NoKey h k (toList l) := by
  unfold turn
  by_cases h1 : x.hash > h
  · rw [if_pos h1]; exact ⟨fun hp => absurd hp.1 (Nat.ne_of_gt h1), .of_above hr (.inl h1)⟩
  rw [if_neg h1]
  by_cases h2 : x.hash < h
  · rw [if_pos h2]; exact ⟨fun hp => absurd hp.1 (Nat.ne_of_lt h2), .of_below hl (.inl h2)⟩
  rw [if_neg h2]
  have hh : x.hash = h := Nat.le_antisymm (Nat.le_of_not_gt h1) (Nat.le_of_not_gt h2)
  by_cases hk : x.key = k
  · rw [if_pos (beq_iff_eq.2 hk)]
    exact ⟨⟨hh, hk⟩, .of_below hl (.inr ⟨hh, Nat.le_of_eq hk⟩),
      .of_above hr (.inr ⟨hh.symm, Nat.le_of_eq hk.symm⟩)⟩
  rw [if_neg (mt beq_iff_eq.1 hk)]
  rcases l with _ | ⟨lc, ll, lx, lr⟩
  · exact ⟨fun hp => hk hp.2, nofun⟩
  rcases r with _ | ⟨rc, rl, rx, rr⟩
  · exact ⟨fun hp => hk hp.2, nofun⟩
  dsimp only
  by_cases h3 : x.key > k
  · rw [if_pos h3]; exact ⟨fun hp => hk hp.2, .of_above hr (.inr ⟨hh.symm, Nat.le_of_lt h3⟩)⟩
  · rw [if_neg h3]; exact ⟨fun hp => hk hp.2, .of_below hl (.inr ⟨hh, Nat.le_of_not_gt h3⟩)⟩

theorem findNode_iff (h k : Nat) (t : T) (e : Node) (hb : BST t) (n : Nat) :
    (findNode h k t n).1 = some e ↔ e ∈ toList t ∧ e.hash = h ∧ e.key = k := by
  induction t generalizing n with
  | nil => simp [findNode, toList]
  | node c l x r ihl ihr =>
    obtain ⟨b1, b2, b3, b4⟩ := hb
    obtain ⟨d, -, hd⟩ := findNode_node h k n c l x r
    have ht := turn_spec h k ((all_iff _ _).1 b1) ((all_iff _ _).1 b2)
    simp only [hd, toList, List.mem_append, List.mem_cons]
    split at ht
    · obtain ⟨hx, nl, nr⟩ := ht
      exact ⟨fun he => by cases he; exact ⟨.inr (.inl rfl), hx⟩, fun ⟨hm, hp⟩ =>
        hm.elim (fun hm => absurd hp (nl e hm)) fun hm =>
          hm.elim (fun he => he ▸ rfl) fun hm => absurd hp (nr e hm)⟩
    · rw [ihl b3]
      exact ⟨fun ⟨hm, hp⟩ => ⟨.inl hm, hp⟩, fun ⟨hm, hp⟩ => ⟨hm.elim id fun hm =>
        hm.elim (fun he => absurd (he ▸ hp) ht.1) fun hm => absurd hp (ht.2 e hm), hp⟩⟩
    · rw [ihr b4]
      exact ⟨fun ⟨hm, hp⟩ => ⟨.inr (.inr hm), hp⟩, fun ⟨hm, hp⟩ => ⟨hm.elim
        (fun hm => absurd hp (ht.2 e hm)) fun hm => hm.elim (fun he => absurd (he ▸ hp) ht.1) id, hp⟩⟩

theorem find_iff (h k : Nat) (t : T) (e : Node) (hb : BST t) :
    find h k t = some e ↔ e ∈ toList t ∧ e.hash = h ∧ e.key = k := findNode_iff h k t e hb 0

theorem find_none_iff (h k : Nat) (t : T) (hb : BST t) :
    find h k t = none ↔ NoKey h k (toList t) := by
  rw [Option.eq_none_iff_forall_ne_some]
  exact ⟨fun hn x hx hp => hn x ((find_iff h k t x hb).2 ⟨hx, hp⟩),
    fun ha e he => ha e ((find_iff h k t e hb).1 he).1 ((find_iff h k t e hb).1 he).2⟩

theorem find_insertNew (t : T) (e : Node) (hi : TreeInv t)
    (hne : ∀ x ∈ toList t, ¬(x.hash = e.hash ∧ x.key = e.key)) (h k : Nat) :
    find h k (insertNew t e) = if e.hash = h ∧ e.key = k then some e else find h k t := by
  have hb' := (insertNew_inv t e hi hne).1
  have hp := insertNew_toList_perm t e hne
  refine Option.ext fun y => ?_
  rw [find_iff h k _ y hb', hp.mem_iff, List.mem_cons]
  split
  next heq =>
    exact ⟨fun ⟨hm, hy⟩ => hm.elim (· ▸ rfl) fun hm =>
      absurd ⟨hy.1.trans heq.1.symm, hy.2.trans heq.2.symm⟩ (hne y hm),
      fun hy => by cases hy; exact ⟨.inl rfl, heq⟩⟩
  next hneq =>
    rw [find_iff h k t y hi.1]
    exact ⟨fun ⟨hm, hy⟩ => ⟨hm.elim (fun he => absurd (he ▸ hy) hneq) id, hy⟩, fun ⟨hm, hy⟩ => ⟨.inr hm, hy⟩⟩

/-- comparison count of one lookup: at most two key comparisons per level -/
theorem findNode_cost (h k : Nat) (t : T) (c : Nat) : (findNode h k t c).2 ≤ c + 2 * height t := by
  induction t generalizing c with
  | nil => exact Nat.le_add_right ..
  | node red l x r ihl ihr =>
    obtain ⟨d, hd2, hd⟩ := findNode_node h k c red l x r
    have hl := Nat.le_max_left (height l) (height r)
    have hr := Nat.le_max_right (height l) (height r)
    rw [hd, height]
    generalize max (height l) (height r) = m at hl hr ⊢
    split
    · show c + 1 ≤ _; omega
    · have := ihl (c + d); omega
    · have := ihr (c + d); omega

/-- the update applied to the matching entry -/
def upd (h k v vi : Nat) (x : Node) : Node :=
  if x.hash = h ∧ x.key = k then { x with val := v, vi := vi } else x

@[simp] theorem upd_hash (h k v vi : Nat) (x : Node) : (upd h k v vi x).hash = x.hash := by
  unfold upd; split <;> rfl

@[simp] theorem upd_key (h k v vi : Nat) (x : Node) : (upd h k v vi x).key = x.key := by
  unfold upd; split <;> rfl

theorem lt_upd_iff (h k v vi : Nat) (a b : Node) : lt (upd h k v vi a) (upd h k v vi b) ↔ lt a b := by
  simp [lt]

theorem upd_id (h k v vi : Nat) (x : Node) (hx : ¬(x.hash = h ∧ x.key = k)) : upd h k v vi x = x :=
  if_neg hx

theorem map_upd_id (h k v vi : Nat) (l : List Node) (hl : NoKey h k l) :
    l.map (upd h k v vi) = l :=
  (List.map_congr_left fun x hx => upd_id h k v vi x (hl x hx)).trans (List.map_id' l)

theorem setVal_toList_upd (h k v vi : Nat) (t : T) (hb : BST t) :
    toList (setVal h k v vi t) = (toList t).map (upd h k v vi) := by
  induction t with
  | nil => rfl
  | node c l x r ihl ihr =>
    obtain ⟨b1, b2, b3, b4⟩ := hb
    have ht := turn_spec h k ((all_iff _ _).1 b1) ((all_iff _ _).1 b2)
    rw [setVal_node]
    simp only [toList, List.map_append, List.map_cons]
    split at ht
    · rw [toList, map_upd_id _ _ _ _ _ ht.2.1, map_upd_id _ _ _ _ _ ht.2.2, upd, if_pos ht.1]
    · rw [toList, ihl b3, map_upd_id _ _ _ _ _ ht.2, upd_id _ _ _ _ _ ht.1]
    · rw [toList, ihr b4, map_upd_id _ _ _ _ _ ht.2, upd_id _ _ _ _ _ ht.1]

theorem setVal_toList (h k v vi : Nat) (t : T) (hb : BST t) :
    toList (setVal h k v vi t) =
      (toList t).map (fun x => if x.hash = h ∧ x.key = k then { x with val := v, vi := vi } else x) :=
  setVal_toList_upd h k v vi t hb

@[simp] theorem isRed_setVal (h k v vi : Nat) (t : T) : isRed (setVal h k v vi t) = isRed t := by
  cases t with
  | nil => rfl
  | node c l x r => rw [setVal_node]; split <;> simp only [isRed_node]

theorem noRedRed_setVal (h k v vi : Nat) (t : T) (hn : NoRedRed t) : NoRedRed (setVal h k v vi t) := by
  induction t with
  | nil => exact hn
  | node c l x r ihl ihr =>
    obtain ⟨n1, n2, n3⟩ := hn
    rw [setVal_node]
    split
    · exact ⟨n1, n2, n3⟩
    · exact ⟨fun hc => ⟨(isRed_setVal ..).trans (n1 hc).1, (n1 hc).2⟩, ihl n2, n3⟩
    · exact ⟨fun hc => ⟨(n1 hc).1, (isRed_setVal ..).trans (n1 hc).2⟩, n2, ihr n3⟩

theorem bh_setVal (h k v vi : Nat) (t : T) (n : Nat) (hn : BH t n) : BH (setVal h k v vi t) n := by
  induction t generalizing n with
  | nil => exact hn
  | node c l x r ihl ihr =>
    obtain ⟨m, rfl, b1, b2⟩ := BH_node.1 hn
    rw [setVal_node]
    split
    · exact BH_node.2 ⟨m, rfl, b1, b2⟩
    · exact BH_node.2 ⟨m, rfl, ihl m b1, b2⟩
    · exact BH_node.2 ⟨m, rfl, b1, ihr m b2⟩

theorem bst_setVal (h k v vi : Nat) (t : T) (hb : BST t) : BST (setVal h k v vi t) := by
  have hb' := hb
  rw [bst_iff_pairwise] at hb' ⊢
  rw [setVal_toList_upd h k v vi t hb, List.pairwise_map]
  exact hb'.imp (fun {a b} hab => (lt_upd_iff h k v vi a b).2 hab)

theorem setVal_inv (h k v vi : Nat) (t : T) (hi : TreeInv t) : TreeInv (setVal h k v vi t) := by
  obtain ⟨h1, h2, h3, n, h4⟩ := hi
  exact ⟨bst_setVal h k v vi t h1, by simpa using h2, noRedRed_setVal h k v vi t h3, n,
    bh_setVal h k v vi t n h4⟩

theorem size_setVal (h k v vi : Nat) (t : T) : size (setVal h k v vi t) = size t := by
  induction t with
  | nil => rfl
  | node c l x r ihl ihr => rw [setVal_node]; split <;> simp only [size, ihl, ihr]

theorem find_setVal_same (h k v vi : Nat) (t : T) (e : Node) (hb : BST t)
    (hf : find h k t = some e) :
    find h k (setVal h k v vi t) = some { e with val := v, vi := vi } := by
  obtain ⟨h1, h2, h3⟩ := (find_iff h k t e hb).1 hf
  refine (find_iff h k _ _ (bst_setVal h k v vi t hb)).2 ⟨?_, h2, h3⟩
  rw [setVal_toList_upd h k v vi t hb, List.mem_map]
  exact ⟨e, h1, by simp [upd, h2, h3]⟩

end Flurry.RB
