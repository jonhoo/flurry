import Flurry.Lemmas.BinGInvBasic
/-! # Proto/BinG: what the transitions that change no data do to the lock words of the nodes

`LockKind`: such a transition leaves the heap alone, or takes, or releases the lock word of one node, and
`holdsLock` of the two program counters says which (`Move.lockKind`, `Fin.lockKind`, `KMove.lockKind`, read off the
constructors); the progress and drain layers use these. `Inv.chain_sub_tree` and `Walk.cur_mem` are two statements about a
thread inside its structure, in one state in which `Inv` holds. -/
namespace Flurry.Proto.BinG
open Flurry.Lin Flurry.Proto.BinGS
open Flurry.Proto.BinK (nodeAt lockSet chainOf nodeAt_of_some)

def LockKind (s : State) (t : Nat) (pc pc' : Pc) (hp : List NodeS) : Prop :=
  (hp = s.heap ∧ holdsLock pc' = holdsLock pc) ∨
  (∃ h0, hp = lockSet s.heap h0 (some t) ∧ h0 < s.heap.length ∧ (nodeAt s.heap h0).lock = none ∧
    holdsLock pc = none ∧ holdsLock pc' = some h0) ∨
  (∃ h0, hp = lockSet s.heap h0 none ∧ holdsLock pc = some h0 ∧ holdsLock pc' = none)

theorem Move.lockKind {s : State} {t : Nat} {p : Pending} {pc pc' : Pc} {hp : List NodeS}
    (hm : Move s t p pc pc' hp) : LockKind s t pc pc' hp := by
  cases hm
  case wLock tab h n hn hlk =>
    exact Or.inr (Or.inl ⟨h, rfl, (List.getElem?_eq_some_iff.1 hn).1, by rw [nodeAt_of_some hn]; exact hlk, rfl, rfl⟩)
  case wUnlockRetry tab h res => exact Or.inr (Or.inr ⟨h, rfl, rfl, rfl⟩)
  case rCellTree lo tab b hc => cases lo <;> exact Or.inl ⟨rfl, rfl⟩
  all_goals exact Or.inl ⟨rfl, rfl⟩

theorem Fin.lockKind {s : State} {t : Nat} {p : Pending} {pc : Pc} {res : KRes} {hp : List NodeS}
    (hf : Fin s p pc res hp) : LockKind s t pc .idle hp := by
  cases hf
  case wUnlockFin tab h => exact Or.inr (Or.inr ⟨h, rfl, rfl, rfl⟩)
  all_goals exact Or.inl ⟨rfl, rfl⟩

theorem KMove.lockKind {s : State} {t : Nat} {pc pc' : Pc} {hp : List NodeS}
    (hk : KMove s t pc pc' hp) : LockKind s t pc pc' hp := by
  cases hk
  case kLock tab k h n hn hlk =>
    exact Or.inr (Or.inl ⟨h, rfl, (List.getElem?_eq_some_iff.1 hn).1, by rw [nodeAt_of_some hn]; exact hlk, rfl, rfl⟩)
  case xLock h n hn hlk =>
    exact Or.inr (Or.inl ⟨h, rfl, (List.getElem?_eq_some_iff.1 hn).1, by rw [nodeAt_of_some hn]; exact hlk, rfl, rfl⟩)
  case kUnlock h => exact Or.inr (Or.inr ⟨h, rfl, rfl, rfl⟩)
  case xCheckFail h hc => exact Or.inr (Or.inr ⟨h, rfl, rfl, rfl⟩)
  case xUnlockL h => exact Or.inr (Or.inr ⟨h, rfl, rfl, rfl⟩)
  all_goals exact Or.inl ⟨rfl, rfl⟩

theorem Inv.chain_sub_tree {s : State} (I : Inv s) {t : Nat} {l : Local} {b : Nat} (hl : s.threads[t]? = some l)
    (hv : validT l.pc = some b) (h1 : ∀ tab j, l.pc ≠ .tTreeLinkLocked tab b j) :
    ∀ j ∈ chainOfBin s b, (nodeAt s.heap j).inTree = true := by
  intro j hj
  cases hin : (nodeAt s.heap j).inTree with
  | true => rfl
  | false =>
    have hc := I.lock.vT t l b hl hv
    obtain ⟨t', l', tab, hl', hpc⟩ := I.data.chainSub _ b hc j hj hin
    have hm' : holdsMutex l'.pc = some b := by rw [hpc]; rfl
    have e1 := (I.lock.mx t l b hl).1 (holdsMutex_of_validT hv)
    have e2 := (I.lock.mx t' l' b hl').1 hm'
    rw [e1] at e2
    have := Option.some.inj e2
    subst this
    rw [hl] at hl'; cases hl'
    exact absurd hpc (h1 tab j)

theorem Walk.cur_mem {s : State} {h key : Nat} {pred : Option Nat} {i : Nat} (w : Walk s h key pred (some i)) :
    i ∈ chainOf s.heap (some h) := by
  obtain ⟨l1, l2, hch, hcur, -, -⟩ := w
  cases l2 with
  | nil => cases hcur
  | cons c l2' => cases hcur; rw [hch]; simp

end Flurry.Proto.BinG
