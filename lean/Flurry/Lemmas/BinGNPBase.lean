import Flurry.Proto.BinGN
/-! # Proto/BinGN: the namespace `Flurry.Proto.BinGNP`

The files `Lemmas/BinGNP*.lean` hold the structural invariant, the ghost invariant and linearizability of `Proto/BinGN`
(cells `(g, j)`, any number of resizes), in a namespace of their own in which a cell id is `Cid = Nat × Nat`,
`cellAt s id = BinGN.cellAt s id.1 id.2`, and a "table" is a generation `g : Nat`; the model is re-exported here.
`Proto/BinG` and `Proto/BinK` are sub-models whose invariants are read off this development (`Lemmas/BinGEmbed*.lean`,
`Lemmas/BinKEmbed*.lean`); they use the same names (`cellAt s id`, `keyOf`, `Inv`, …) for their own cells. -/
namespace Flurry.Proto.BinGNP
open Flurry.Lin

export Flurry.Proto.BinK (NodeS TBin Pending After isReader dflt dfltB chainFrom copyChain predOf absentRes)
export Flurry.Proto.BinG (Cell cellOfHead)
export Flurry.Proto.BinGN (Pc Local State init bitAt cellOf putCell setCell chainOfBin chainOfCell liveFrom liveCell
  absOf treeFind setNode setBin setT finish storeAt lastRunStartB splitBinB splitSide afterLock allMoved stepG step
  stepNoCheck Reachable ReachableNoCheck callsOn quiescent)

abbrev Cid := Nat × Nat

def cellAt (s : State) (id : Cid) : Cell := Flurry.Proto.BinGN.cellAt s id.1 id.2

/-- the cell of key `k` in generation `g` -/
def idOf (g k : Nat) : Cid := (g, k % 2 ^ g)

theorem cellOf_eq (s : State) (g k : Nat) : cellOf s g k = cellAt s (idOf g k) := rfl

end Flurry.Proto.BinGNP
