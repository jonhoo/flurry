import Flurry.Lemmas.SeqOpsPut
/-! # `replaceNode k none obs` (`remove`, `remove_entry`, and the conditional removal of `retain`) -/
namespace Flurry.Seq
open Flurry Flurry.Gen

/-- does `replaceNode _ _ obs` act on an entry whose value id is `vi`? (`obs = some ov`: only if
`vi` is `ov`) -/
def obsHit (obs : Option Nat) (vi : Nat) : Bool :=
  match obs with | none => true | some ov => ov == vi

/-- does `replaceNode k _ obs` find an entry it acts on? -/
def rmHit (k : Nat) (obs : Option Nat) (m : Map) : Bool :=
  match get k m with
  | some old => obsHit obs old.vi
  | none => false

theorem replaceNode_eq (k : Nat) (nv : Option (Nat × Nat)) (obs : Option Nat) {m : Map} {t : Table}
    (ht : m.table = some t) :
    replaceNode k nv obs m =
      match get k m with
      | none => (m, .none)
      | some old =>
        if !obsHit obs old.vi then (m, .none)
        else
          let h := m.hash k
          let i := bini h t.length
          let b := tableBin t i
          match nv with
          | some (v, vi) => ({ m with table := some (t.set i (setValBin h k v vi b)) },
              .someKV old.ki old.val old.vi)
          | none => (addCount (-1) none { m with table := some (t.set i (removeBin h k b)) },
              .someKV old.ki old.val old.vi) := by
  unfold replaceNode get
  simp only [ht]
  by_cases hl : (t.length == 0) = true
  · rw [if_pos hl, if_pos hl]
  · rw [if_neg hl, if_neg hl]
    cases nv <;> cases tableBin t (bini (m.hash k) t.length) <;> rfl

/-- an absent key: nothing happens (no hypothesis on the state) -/
theorem replaceNode_of_get_none {k : Nat} (nv : Option (Nat × Nat)) (obs : Option Nat) {m : Map}
    (h : get k m = none) : replaceNode k nv obs m = (m, .none) := by
  cases ht : m.table with
  | none => simp only [replaceNode, ht]
  | some t => rw [replaceNode_eq k nv obs ht, h]

/-- a present key whose value id is not the observed one: nothing happens -/
theorem replaceNode_of_mismatch {k : Nat} (nv : Option (Nat × Nat)) {ov : Nat} {m : Map} {old : Node}
    (h : get k m = some old) (hne : ov ≠ old.vi) : replaceNode k nv (some ov) m = (m, .none) := by
  cases ht : m.table with
  | none => rw [get_of_table_none ht] at h; cases h
  | some t =>
    rw [replaceNode_eq k nv _ ht, h]
    exact if_pos (by rw [obsHit, beq_false_of_ne hne]; rfl)

theorem replaceNode_remove {k : Nat} (obs : Option Nat) {m : Map} {old : Node} (hg : Good m)
    (h : get k m = some old) (hobs : obsHit obs old.vi = true) :
    UpdPost m (replaceNode k none obs m).1 k none (-1) True ∧
      (replaceNode k none obs m).2 = .someKV old.ki old.val old.vi := by
  cases ht : m.table with
  | none => rw [get_of_table_none ht] at h; cases h
  | some t =>
    rw [replaceNode_eq k none obs ht, h]
    dsimp only
    rw [hobs]
    exact ⟨remove_post hg.wf ht ((get_eq_find ht (hg.wf.tableWF ht) k).symm.trans h), rfl⟩

/-- `replaceNode k none obs` on a `Good` state, in terms of lookups: never grows -/
theorem replaceNode_rm_spec (k : Nat) (obs : Option Nat) {m : Map} (hg : Good m) :
    UpdPost m (replaceNode k none obs m).1 k (if rmHit k obs m then none else get k m)
      (if rmHit k obs m then -1 else 0) True ∧
    (replaceNode k none obs m).2 =
      match get k m with
      | some old => if rmHit k obs m then .someKV old.ki old.val old.vi else .none
      | none => .none := by
  have h0 := UpdPost.refl hg k True
  cases hgk : get k m with
  | none =>
    have hh : rmHit k obs m = false := by rw [rmHit, hgk]
    rw [replaceNode_of_get_none none obs hgk, hh]
    rw [hgk] at h0
    exact ⟨h0, rfl⟩
  | some old =>
    have hh : rmHit k obs m = obsHit obs old.vi := by rw [rmHit, hgk]
    rw [hh]
    cases hobs : obsHit obs old.vi with
    | true => exact replaceNode_remove obs hg hgk hobs
    | false =>
      cases obs with
      | none => cases hobs
      | some ov =>
        rw [replaceNode_of_mismatch none hgk
          (fun e => by rw [obsHit, e, beq_self_eq_true] at hobs; cases hobs)]
        rw [hgk] at h0
        exact ⟨h0, rfl⟩

theorem replaceNode_rm_absMap (k : Nat) (obs : Option Nat) {m : Map} (hg : Good m) :
    absMap (replaceNode k none obs m).1 = if rmHit k obs m then (absMap m).remove k else absMap m := by
  rw [(replaceNode_rm_spec k obs hg).1.absMap_eq]
  cases rmHit k obs m with
  | true => rfl
  | false => exact Ref.upd_self rfl

/-- (`remove`, `remove_entry`): the abstract map -/
theorem remove_absMap (k : Nat) {m : Map} (hg : Good m) :
    absMap (replaceNode k none none m).1 = (absMap m).remove k := by
  rw [replaceNode_rm_absMap k none hg, rmHit]
  cases hgk : get k m with
  | none =>
    have ha : absMap m k = none := by rw [absMap_apply, hgk]; rfl
    exact (Ref.upd_self ha).symm
  | some old => rfl

theorem rmHit_some_iff (k ov : Nat) (m : Map) :
    rmHit k (some ov) m = true ↔ (absMap m k).map (fun e => e.2.2) = some ov := by
  rw [rmHit, absMap_apply]
  cases get k m with
  | none => exact ⟨(fun h => nomatch h), fun h => nomatch h⟩
  | some old =>
    show (ov == old.vi) = true ↔ some old.vi = some ov
    exact ⟨fun h => congrArg some (eq_of_beq h).symm, fun h => beq_iff_eq.2 (Option.some.inj h).symm⟩

/-- (conditional removal, `retain`): removed iff the stored value id is the observed one -/
theorem remove_if_absMap (k ov : Nat) {m : Map} (hg : Good m) :
    absMap (replaceNode k none (some ov) m).1 =
      if (absMap m k).map (fun e => e.2.2) = some ov then (absMap m).remove k else absMap m := by
  rw [replaceNode_rm_absMap k (some ov) hg]
  by_cases h : rmHit k (some ov) m = true
  · rw [if_pos h, if_pos ((rmHit_some_iff k ov m).1 h)]
  · rw [if_neg h, if_neg (mt (rmHit_some_iff k ov m).2 h)]

end Flurry.Seq
