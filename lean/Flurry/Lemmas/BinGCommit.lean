import Flurry.Lemmas.BinGLin
/-! # Proto/BinG: a started resize is committed or still at work (C05: no half-finished resize)

`Committed s`: if the resize has been started (`resizing`), the table pointer is the next table, or
some thread is still the resizing thread (`xPc`). It is `BinGN.ResX` of the image (`BinGE.emb`), which the
bundle `BinGNP.Bundle` carries along the runs of `BinG`: the flag of the image is `BinG`'s until the commit. With
`XInv` / `HInv` this gives, at quiescence:
`resizing ↔ cell0 = moved ↔ cur = new`, and before the resize both cells of the next table are empty. -/
namespace Flurry.Proto.BinG
open Flurry.Lin

def Committed (s : State) : Prop :=
  s.resizing = true → s.cur = .new ∨ ∃ (t : Nat) (l : Local), s.threads[t]? = some l ∧ xPc l.pc = true

/-- on the image the flag is `BinG`'s until the commit, and while it is set some thread is the resizing thread -/
theorem reachable_committed {n : Nat} {s : State} (hr : Reachable n s) : Committed s := by
  intro hres
  cases hc : s.cur with
  | new => exact .inl rfl
  | old =>
    obtain ⟨t, l', hl', hx⟩ :=
      (BinGE.reachable_bundle hr).1.resX (show (s.resizing && s.cur == .old) = true by rw [hres, hc]; rfl)
    obtain ⟨⟨pc, c⟩, hl, rfl⟩ := BinGE.emb_threads_get hl'
    -- `BinGN`'s resizing thread on the image is `BinG`'s
    have e : BinGN.isXOf (BinGE.embL ⟨pc, c⟩) = xPc pc := by cases pc <;> rfl
    exact .inr ⟨t, _, hl, e ▸ hx⟩

/-- at quiescence: the resize has been started iff the old cell is forwarded iff the next table is
published; before the resize both cells of the next table are empty; after it neither holds a marker -/
theorem quiescent_resize_all_or_nothing {n : Nat} {s : State} (hr : Reachable n s) (hq : quiescent s) :
    (s.resizing = true ↔ s.cur = .new) ∧ (s.cell0 = .moved ↔ s.cur = .new) ∧
    (s.cur = .old → s.resizing = false ∧ s.cell0 ≠ .moved ∧ s.lowCell = .empty ∧ s.highCell = .empty) ∧
    (s.cur = .new → s.resizing = true ∧ s.cell0 = .moved ∧ s.lowCell ≠ .moved ∧ s.highCell ≠ .moved) := by
  have I := reachable_inv hr
  have C := reachable_committed hr
  have hidle : ∀ (t : Nat) (l : Local), s.threads[t]? = some l → l.pc = .idle :=
    fun _ l hl => hq l (List.mem_of_getElem? hl)
  have h1 : s.resizing = true → s.cur = .new := by
    intro h
    rcases C h with hc | ⟨t, l, hl, hx⟩
    · exact hc
    · rw [hidle t l hl] at hx
      cases hx
  have h2 : s.cell0 = .moved → s.resizing = true := by
    intro hm
    cases hres : s.resizing with
    | true => rfl
    | false => exact absurd hm (I.rsz.noResz hres)
  have h3 : s.cur = .new → s.cell0 = .moved := I.heap.curMoved
  refine ⟨⟨h1, fun h => h2 (h3 h)⟩, ⟨fun h => h1 (h2 h), h3⟩, ?_, ?_⟩
  · intro hold
    have hnm : s.cell0 ≠ .moved := by
      intro hm
      have := h1 (h2 hm)
      rw [hold] at this
      cases this
    have hnr : s.resizing = false := by
      cases hres : s.resizing with
      | false => rfl
      | true =>
        have := h1 hres
        rw [hold] at this
        cases this
    refine ⟨hnr, hnm, ?_, ?_⟩
    · apply I.rsz.lowEmpty hnm
      intro t l hl
      rw [hidle t l hl]
      rfl
    · apply I.rsz.highEmpty hnm
      intro t l hl
      rw [hidle t l hl]
      rfl
  · intro hnew
    exact ⟨h2 (h3 hnew), h3 hnew, I.heap.newNotMoved.1, I.heap.newNotMoved.2⟩

end Flurry.Proto.BinG
