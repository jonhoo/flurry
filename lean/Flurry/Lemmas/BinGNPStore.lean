import Flurry.Lemmas.BinGNPGhostL
import Flurry.Lemmas.BinGNPLock
import Flurry.Lemmas.BinGNPArith
import Flurry.Lemmas.BinGHeapStore
/-! # Proto/BinGN: the stores into the structure of ONE cell, at the level of states

A store goes into the structure (list / `TreeBin`) of one cell `id : Cid = (g, j)`; all other cells are the frame.
What a store does to heap and `TreeBin` table, and what it leaves alone, is in `Lemmas/BinGHeapStore.lean`; here the
cells are added: `Writable s id` (the situation in which the structure of `id` is stored to), `Touch s s' id`, the
stores `sval_store` … `sconvert_store`, `Ext s s'` (heap and `TreeBin` table are extended at the end, no cell changes:
`Ext.hinv`, `Ext.chainC_eq`), and `KStep` of every key (`kstep_of_store`, `Ext.kstep`).
A transfer of ANOTHER cell of generation `cur` may have pending structures while `id` is written:
`Writable.pend_frame` says that they share no node and no `TreeBin` with the structure of `id`. `Touch` has the field `reuse` because
`HInv.binsDistinct` refers to the threads through `Reusing`. -/
namespace Flurry.Proto.BinGNP
open Flurry.Lin
open Flurry.Proto.BinK (nodeAt binAt NextOK IsChain absL HeapStep chainOf_none nodeAt_append_left)

export Flurry.Proto.BinG (chainOf_frame cinv_frame heapStep_walker)

/-- the cell `id` is live (`act`), its own transfer has no pending structures (`noPlan`: the resizing thread is not
past the build for cell `id`), and its `TreeBin` is not the unpublished one of another thread (`noPriv`) -/
structure Writable (s : State) (id : Cid) : Prop where
  act : (id.1 = s.cur ∧ cellAt s id ≠ .moved) ∨
    (id.1 = s.cur + 1 ∧ cellAt s (s.cur, id.2 % 2 ^ s.cur) = .moved)
  noPlan : ∀ (t : Nat) (l : Local), s.threads[t]? = some l → id.1 = s.cur → xIdx l.pc = some id.2 → pend s l.pc = []
  noPriv : ∀ b, cellAt s id = .tree b → ¬ PrivBin s b

namespace Store

export Flurry.Proto.BinG.Store (owner_ge absL_congr cover_of_pointwise)
export Flurry.Proto.BinGNP (mod_succ_mod)

theorem chainC_empty (s : State) : chainC s .empty = [] := chainOf_none _
theorem chainC_moved (s : State) : chainC s .moved = [] := chainOf_none _

theorem not_treeOf_moved (s : State) (j : Nat) : ¬ treeOf s .moved j := by
  rintro ⟨_, _, b, hb, _⟩; cases hb

theorem ownerOf_eq_some {c : Cell} {b : Nat} : ownerOf c = some b ↔ c = .tree b := BinGH.ownerOf_eq_some

theorem treeOf_owner {s : State} {c : Cell} {j : Nat} (h : treeOf s c j) : (nodeAt s.heap j).owner = ownerOf c :=
  BinGH.inTree_owner h

theorem treeOf_lt {s : State} {c : Cell} {j : Nat} (h : treeOf s c j) : j < s.heap.length := h.1

theorem pend_nil_indep {s s' : State} {pc : Pc} (h : pend s pc = []) : pend s' pc = [] := by
  unfold pend at h ⊢
  split at h
  case h_5 => rfl
  all_goals cases h

/-- the resizing thread has pending structures at its three stores only, where it works on a cell `(cur, j0)` that
is not forwarded, and holds the lock or the mutex of the old structure -/
theorem pend_plan {s : State} {pc : Pc} (hx : xPc pc = true) (hne : pend s pc ≠ []) :
    ∃ j0 lo hi, pend s pc = [lo, hi] ∧ xIdx pc = some j0 ∧ xPre pc = true ∧ validated pc = true ∧
      (XPc s pc → Plan s j0 lo hi) := by
  have hv : ∀ u : Nat ⊕ Nat, ((unlL u).isSome || (unlT u).isSome) = true := fun u => by cases u <;> rfl
  unfold pend at hne ⊢
  split at hne
  · cases hx
  · exact ⟨_, _, _, rfl, rfl, rfl, hv _, id⟩
  · exact ⟨_, _, _, rfl, rfl, rfl, hv _, id⟩
  · exact ⟨_, _, _, rfl, rfl, rfl, hv _, id⟩
  · exact absurd rfl hne

theorem pend_xIdx {s : State} {pc : Pc} (hx : xPc pc = true) (hp : pend s pc ≠ []) :
    ∃ j0, xIdx pc = some j0 ∧ xPre pc = true := by
  obtain ⟨j0, _, _, _, hi, hpre, _, _⟩ := pend_plan hx hp
  exact ⟨j0, hi, hpre⟩

theorem lowStored_pend {s : State} {pc : Pc} {j : Nat} (h : lowStored pc = some j) :
    xIdx pc = some j ∧ pend s pc ≠ [] ∧ xPre pc = true := by
  unfold lowStored at h
  split at h
  · cases h; exact ⟨rfl, List.cons_ne_nil _ _, rfl⟩
  · cases h; exact ⟨rfl, List.cons_ne_nil _ _, rfl⟩
  · cases h

theorem highStored_pend {s : State} {pc : Pc} {j : Nat} (h : highStored pc = some j) :
    xIdx pc = some j ∧ pend s pc ≠ [] ∧ xPre pc = true := by
  unfold highStored at h
  split at h
  · cases h; exact ⟨rfl, List.cons_ne_nil _ _, rfl⟩
  · cases h

theorem cellAt_none {s : State} {g j : Nat} (h : ∀ row, s.tabs[g]? = some row → row.length ≤ j) :
    cellAt s (g, j) = .empty := by
  show (s.tabs.getD g []).getD j .empty = .empty
  rw [List.getD_eq_getElem?_getD, List.getD_eq_getElem?_getD]
  cases hr : s.tabs[g]? with
  | none => simp
  | some row =>
    have := h row hr
    simp [List.getElem?_eq_none this]

theorem LC_eq_live {s : State} (hn : ∀ j, cellAt s (s.cur + 1, j) ≠ .moved) (k : Nat) :
    LC s k = chainC s (cellAt s (liveId s k)) := by
  unfold LC; rw [liveCell_eq' hn]

theorem newNotMoved_of {s s' : State} (X : XInv s) (hcur : s'.cur = s.cur)
    (hmv : ∀ id', cellAt s' id' = .moved ↔ cellAt s id' = .moved) : ∀ j, cellAt s' (s'.cur + 1, j) ≠ .moved := by
  intro j h
  rw [hcur] at h
  exact X.newNotMoved j ((hmv _).1 h)

theorem cell_unique {id id' : Cid} {k : Nat} (hg : id'.1 = id.1) (h' : k % 2 ^ id'.1 = id'.2) (h : k % 2 ^ id.1 = id.2) :
    id' = id :=
  Prod.ext hg (by rw [← h', ← h, hg])

theorem parent_of_key {a b : Cid} {k : Nat} (hg : b.1 = a.1 + 1) (hb : k % 2 ^ b.1 = b.2) (ha : k % 2 ^ a.1 = a.2) :
    b.2 % 2 ^ a.1 = a.2 := by
  rw [← hb, ← ha, hg, mod_succ_mod]

end Store
open Store

theorem XInv.tabs_le {s : State} (X : XInv s) : s.tabs.length ≤ s.cur + 2 := by
  rw [X.len]
  refine Nat.add_le_add_left (m := 1) ?_ (s.cur + 1)
  split
  · exact Nat.le_refl 1
  · exact Nat.zero_le 1

theorem XInv.gen_cases {s : State} (X : XInv s) (id : Cid) :
    cellAt s id = .empty ∨ cellAt s id = .moved ∨ id.1 = s.cur ∨ id.1 = s.cur + 1 := by
  by_cases h1 : id.1 < s.cur
  · by_cases hj : id.2 < 2 ^ id.1
    · exact Or.inr (Or.inl (X.old _ _ h1 hj))
    · exact Or.inl (cellAt_none (fun row hr => X.rows _ row hr ▸ Nat.not_lt.1 hj))
  by_cases h2 : s.cur + 1 < id.1
  · exact Or.inl (cellAt_oob (Nat.le_trans X.tabs_le h2) _)
  by_cases h3 : id.1 = s.cur
  · exact Or.inr (Or.inr (Or.inl h3))
  · exact Or.inr (Or.inr (Or.inr (Nat.le_antisymm (Nat.not_lt.1 h2)
      (Nat.lt_of_le_of_ne (Nat.not_lt.1 h1) (Ne.symm h3)))))

theorem Writable.not_moved {s : State} {id : Cid} (W : Writable s id) (X : XInv s) : cellAt s id ≠ .moved := by
  obtain ⟨g, j⟩ := id
  rcases W.act with ⟨_, hm⟩ | ⟨hg, _⟩
  · exact hm
  · simp only at hg; subst hg; exact X.newNotMoved j

/-- the cell under transfer `(cur, j0)` (the resizing thread is past its load, `xPre`) is neither `id` with pending
structures nor the parent of `id` -/
theorem Writable.not_parent {s : State} {id : Cid} (W : Writable s id) (X : XInv s) {t : Nat} {l : Local} {j0 : Nat}
    (hl : s.threads[t]? = some l) (hi : xIdx l.pc = some j0) (hp : xPre l.pc = true) (hpe : pend s l.pc ≠ []) :
    id ≠ (s.cur, j0) ∧ ¬ (id.1 = s.cur + 1 ∧ id.2 % 2 ^ s.cur = j0) := by
  constructor
  · rintro rfl
    exact hpe (W.noPlan t l hl rfl hi)
  · rintro ⟨hg, hj⟩
    rcases W.act with ⟨hg', _⟩ | ⟨_, hm⟩
    · omega
    · rw [hj] at hm
      exact X.pre t l j0 hl hp hi hm

theorem Writable.other_cases {s : State} {id : Cid} (W : Writable s id) (X : XInv s) {id' : Cid} (hne : id' ≠ id) :
    cellAt s id' = .empty ∨ cellAt s id' = .moved ∨ (∀ k, k % 2 ^ id'.1 = id'.2 → k % 2 ^ id.1 ≠ id.2) := by
  rcases X.gen_cases id' with he | hm | hg'
  · exact Or.inl he
  · exact Or.inr (Or.inl hm)
  rcases W.act with ⟨hg, hm⟩ | ⟨hg, hm⟩ <;> rcases hg' with hg' | hg'
  · exact Or.inr (Or.inr fun k hk hk' => hne (cell_unique (hg'.trans hg.symm) hk hk'))
  · have h4 : id'.1 = id.1 + 1 := hg ▸ hg'
    by_cases hj : id'.2 % 2 ^ id.1 = id.2
    · -- `id'` is a child of `id`: it is empty, since `id` is not forwarded and its transfer has stored nothing
      refine Or.inl (Classical.byContradiction fun he => ?_)
      have he' : cellAt s (s.cur + 1, id'.2) ≠ .empty := by rw [← hg']; exact he
      rw [hg] at hj
      rcases X.nextEmpty id'.2 he' with h | ⟨t, l, hl, h | ⟨j2, h, hj2⟩⟩
      · rw [hj, ← hg] at h; exact hm h
      · obtain ⟨hi, hpe, -⟩ := lowStored_pend (s := s) h
        rw [Nat.mod_eq_of_lt (X.idx t l _ hl hi)] at hj
        exact hpe (W.noPlan t l hl hg (hj ▸ hi))
      · obtain ⟨hi, hpe, -⟩ := highStored_pend (s := s) h
        rw [hj2, high_mod (X.idx t l j2 hl hi)] at hj
        exact hpe (W.noPlan t l hl hg (hj ▸ hi))
    · exact Or.inr (Or.inr fun k hk hk' => hj (parent_of_key h4 hk hk'))
  · by_cases hj : id.2 % 2 ^ id'.1 = id'.2
    · -- `id'` is the parent of `id`
      rw [hg'] at hj
      exact Or.inr (Or.inl ((Prod.ext hg' hj.symm : id' = (s.cur, id.2 % 2 ^ s.cur)) ▸ hm))
    · exact Or.inr (Or.inr fun k hk hk' => hj (parent_of_key (hg.trans (by rw [hg'])) hk' hk))
  · exact Or.inr (Or.inr fun k hk hk' => hne (cell_unique (hg'.trans hg.symm) hk hk'))

theorem Writable.disj {s : State} {id : Cid} (W : Writable s id) (H : HInv s) (X : XInv s) {id' : Cid} (hne : id' ≠ id)
    {j : Nat} (h' : j ∈ chainC s (cellAt s id') ∨ treeOf s (cellAt s id') j)
    (h : j ∈ chainC s (cellAt s id) ∨ treeOf s (cellAt s id) j) : False := by
  rcases W.other_cases X hne with he | he | hs
  · rw [he, chainC_empty] at h'
    rcases h' with h' | h'
    · cases h'
    · exact treeOf_empty s j h'
  · rw [he, chainC_moved] at h'
    rcases h' with h' | h'
    · cases h'
    · exact not_treeOf_moved s j h'
  · exact hs _ (H.side id' j h') (H.side id j h)

theorem Writable.chain_disj {s : State} {id : Cid} (W : Writable s id) (H : HInv s) (X : XInv s) {id' : Cid}
    (hne : id' ≠ id) {j : Nat}
    (h' : j ∈ chainC s (cellAt s id')) : j ∉ chainC s (cellAt s id) ∧ ¬ treeOf s (cellAt s id) j :=
  ⟨fun h => W.disj H X hne (Or.inl h') (Or.inl h), fun h => W.disj H X hne (Or.inl h') (Or.inr h)⟩

theorem Writable.tree_disj {s : State} {id : Cid} (W : Writable s id) (H : HInv s) (X : XInv s) {id' : Cid}
    (hne : id' ≠ id) {j : Nat}
    (h' : treeOf s (cellAt s id') j) : j ∉ chainC s (cellAt s id) ∧ ¬ treeOf s (cellAt s id) j :=
  ⟨fun h => W.disj H X hne (Or.inr h') (Or.inl h), fun h => W.disj H X hne (Or.inr h') (Or.inr h)⟩

theorem Writable.tree_ne {s : State} {id : Cid} (W : Writable s id) (H : HInv s) (X : XInv s) {id' : Cid}
    (hne : id' ≠ id) {b : Nat} (h' : cellAt s id' = .tree b) : cellAt s id ≠ .tree b := by
  intro h
  rcases H.binsDistinct id id' b h h' with e | ⟨j0, ⟨t, l, hl, hpc⟩, hc⟩
  · exact hne e.symm
  · have hx : xIdx l.pc = some j0 ∧ pend s l.pc ≠ [] ∧ xPre l.pc = true := by
      rcases hpc with ⟨hi, hpc⟩ | hpc <;> exact lowStored_pend (by rw [hpc]; rfl)
    have hnp := W.not_parent X hl hx.1 hx.2.2 hx.2.1
    rcases hc with ⟨e, _, _⟩ | ⟨_, hg, hj⟩
    · exact hnp.1 e
    · exact hnp.2 ⟨hg, hj⟩

theorem Writable.liveId_iff {s : State} {id : Cid} (W : Writable s id) (k : Nat) :
    liveId s k = id ↔ k % 2 ^ id.1 = id.2 := by
  obtain ⟨g, j⟩ := id
  unfold liveId idOf
  simp only
  rcases W.act with ⟨hg, hm⟩ | ⟨hg, hm⟩
  · simp only at hg hm; subst hg
    constructor
    · intro h
      split at h
      · have := congrArg Prod.fst h; simp at this
      · exact congrArg Prod.snd h
    · intro h
      have e : ((s.cur, k % 2 ^ s.cur) : Cid) = (s.cur, j) := by rw [h]
      rw [e, if_neg hm]
  · simp only at hg hm; subst hg
    constructor
    · intro h
      split at h
      · exact congrArg Prod.snd h
      · have := congrArg Prod.fst h; simp at this
    · intro h
      have e : ((s.cur, k % 2 ^ s.cur) : Cid) = (s.cur, j % 2 ^ s.cur) := by rw [← h, mod_succ_mod]
      rw [e, if_pos hm, h]

theorem Writable.liveId_of_mem {s : State} {id : Cid} (W : Writable s id) (H : HInv s) {j : Nat}
    (h : j ∈ chainC s (cellAt s id) ∨ treeOf s (cellAt s id) j) : liveId s (nodeAt s.heap j).key = id := by
  rw [W.liveId_iff]
  exact H.side id j h

theorem Writable.moved_iff {s s' : State} {id : Cid} (W : Writable s id) (X : XInv s)
    (hcells : ∀ id', id' ≠ id → cellAt s' id' = cellAt s id') (hnm : cellAt s' id ≠ .moved) :
    ∀ id', cellAt s' id' = .moved ↔ cellAt s id' = .moved := by
  intro id'
  by_cases hne : id' = id
  · subst hne
    exact ⟨fun h => absurd h hnm, fun h => absurd h (W.not_moved X)⟩
  · rw [hcells id' hne]

/- From here on no proof looks inside `cellAt`; keeping it opaque stops the unifier from evaluating `cellAt s id`
each time it compares `chainC` / `treeOf` / `startOf` with the heap-level notions of `Lemmas/BinGHeapStore.lean`. -/
attribute [local irreducible] cellAt

/-- the keys that may live in cell `id` -/
abbrev KeyOf (id : Cid) (k : Nat) : Prop := k % 2 ^ id.1 = id.2

theorem HInv.valid {s : State} (H : HInv s) (id : Cid) : BinGH.Valid s.heap s.tbins (cellAt s id) (KeyOf id) :=
  ⟨H.cinv id, H.cellOK id, H.chainOwner id, H.side id⟩

/-- a transition that touches the structure of cell `id` only: heap and `TreeBin` table change inside that structure,
the other cells and the table pointer stay -/
structure Touch (s s' : State) (id : Cid) : Prop extends BinGH.Touch s.heap s.tbins s'.heap s'.tbins (cellAt s id) where
  cells : ∀ id', id' ≠ id → cellAt s' id' = cellAt s id'
  cur : s'.cur = s.cur
  /-- a transfer that re-uses a `TreeBin` and is past its first store stays there -/
  reuse : ∀ b j0, Reusing s b j0 → Reusing s' b j0

theorem Touch.startOf_eq {s s' : State} {id : Cid} (T : Touch s s' id) {C : Cell}
    (hbin : ∀ b, C = .tree b → cellAt s id ≠ .tree b ∧ b < s.tbins.length) :
    startOf s'.tbins C = startOf s.tbins C :=
  T.toTouch.startOf_eq hbin

theorem Touch.chain_frame {s s' : State} {id : Cid} (T : Touch s s' id) (H : HInv s) (hok' : NextOK s'.heap) {C : Cell}
    (hst : ∀ h, startOf s.tbins C = some h → h < s.heap.length)
    (hdisj : ∀ j ∈ chainC s C, j ∉ chainC s (cellAt s id) ∧ ¬ treeOf s (cellAt s id) j)
    (hbin : ∀ b, C = .tree b → cellAt s id ≠ .tree b ∧ b < s.tbins.length) :
    chainC s' C = chainC s C ∧ ∀ j ∈ chainC s C, nodeAt s'.heap j = nodeAt s.heap j :=
  T.toTouch.chain_frame H.nextOK hok' hst hdisj hbin

theorem Touch.other {s s' : State} {id : Cid} (T : Touch s s' id) (H : HInv s) (X : XInv s) (W : Writable s id)
    (hok' : NextOK s'.heap) {id' : Cid} (hne : id' ≠ id) :
    chainC s' (cellAt s' id') = chainC s (cellAt s id') ∧
    (∀ j ∈ chainC s (cellAt s id'), nodeAt s'.heap j = nodeAt s.heap j) ∧
    BinGH.Valid s'.heap s'.tbins (cellAt s' id') (KeyOf id') := by
  rw [T.cells id' hne]
  exact T.toTouch.valid_frame hok' (H.chainOwner id) (H.valid id') (fun j hj => W.chain_disj H X hne hj)
    (fun b hb => W.tree_ne H X hne hb)

theorem Touch.hinv {s s' : State} {id : Cid} (T : Touch s s' id) (H : HInv s) (X : XInv s) (W : Writable s id)
    (V' : BinGH.Valid s'.heap s'.tbins (cellAt s' id) (KeyOf id))
    (hO : ∀ j, s.heap.length ≤ j → ∀ b, (nodeAt s'.heap j).owner = some b → b < s'.tbins.length)
    (hF : ∀ b h, ¬ (b < s.tbins.length ∧ cellAt s id ≠ .tree b) → (binAt s'.tbins b).first = some h → h < s'.heap.length)
    (hbd : ∀ b, cellAt s' id = .tree b → ∀ id', id' ≠ id → cellAt s id' ≠ .tree b) : HInv s' := by
  have hall : ∀ id', BinGH.Valid s'.heap s'.tbins (cellAt s' id') (KeyOf id') := by
    intro id'
    by_cases hne : id' = id
    · subst hne; exact V'
    · exact (T.other H X W V'.cinv.nextOK hne).2.2
  refine ⟨fun id' => (hall id').cinv, BinGH.ownerOK_frame H.ownerOK T.tlen (fun j hj => (T.keep j hj).2.1) hO,
    BinGH.firstOK_frame H.firstOK T.len (fun b hb => T.bin b hb.1 hb.2) hF, fun id' => (hall id').cellOK,
    fun id' => (hall id').chainOwner, fun id' => (hall id').side, ?_⟩
  intro id1 id2 b h1 h2
  by_cases e1 : id1 = id
  · subst e1
    by_cases e2 : id2 = id1
    · exact Or.inl e2.symm
    · rw [T.cells id2 e2] at h2
      exact absurd h2 (hbd b h1 id2 e2)
  · by_cases e2 : id2 = id
    · subst e2
      rw [T.cells id1 e1] at h1
      exact absurd h1 (hbd b h2 id1 e1)
    · rw [T.cells id1 e1] at h1
      rw [T.cells id2 e2] at h2
      rcases H.binsDistinct id1 id2 b h1 h2 with e | ⟨j0, hr, hc⟩
      · exact Or.inl e
      · exact Or.inr ⟨j0, T.reuse b j0 hr, by rw [T.cur]; exact hc⟩

theorem hinv_inside {s s' : State} {id : Cid} (H : HInv s) (X : XInv s) (W : Writable s id)
    (I : BinGH.Inside s.heap s.tbins s'.heap s'.tbins (cellAt s id) (cellAt s' id) (KeyOf id))
    (hcells : ∀ id', id' ≠ id → cellAt s' id' = cellAt s id') (hcur : s'.cur = s.cur)
    (hre : ∀ b j0, Reusing s b j0 → Reusing s' b j0) : HInv s' ∧ Touch s s' id := by
  have T : Touch s s' id := ⟨I.touch, hcells, hcur, hre⟩
  exact ⟨T.hinv H X W (I.valid (H.valid id)) (I.newOK (H.valid id)) I.firstOK
    (fun b hb id' hne h => W.tree_ne H X hne h ((BinGH.tree_iff_of_owner I.owner).1 hb)), T⟩

theorem Touch.abs_cases {s s' : State} {id : Cid} (T : Touch s s' id) (H : HInv s) (X : XInv s) (W : Writable s id) (H' : HInv s')
    (hnm : cellAt s' id ≠ .moved) (k : Nat) :
    (liveId s k = id ∧ absOf s k = absL s.heap (chainC s (cellAt s id)) k ∧
      absOf s' k = absL s'.heap (chainC s' (cellAt s' id)) k) ∨
    (liveId s k ≠ id ∧ absOf s' k = absOf s k) := by
  have hmv := W.moved_iff X T.cells hnm
  have e1 : absOf s k = absL s.heap (chainC s (cellAt s (liveId s k))) k := by rw [absOf_eq, LC_eq_live X.newNotMoved]
  have e2 : absOf s' k = absL s'.heap (chainC s' (cellAt s' (liveId s k))) k := by
    rw [absOf_eq, LC_eq_live (newNotMoved_of X T.cur hmv), liveId_congr T.cur (hmv _)]
  by_cases hl : liveId s k = id
  · left
    rw [hl] at e1 e2
    exact ⟨hl, e1, e2⟩
  · right
    refine ⟨hl, ?_⟩
    obtain ⟨hc, hnode, _⟩ := T.other H X W H'.nextOK hl
    rw [e1, e2, hc]
    exact absL_congr (fun j hj => by rw [hnode j hj]; exact ⟨rfl, rfl⟩) k

theorem Touch.abs_all {s s' : State} {id : Cid} (T : Touch s s' id) (H : HInv s) (X : XInv s) (W : Writable s id) (H' : HInv s')
    (hnm : cellAt s' id ≠ .moved) {k0 : Nat} {x : KSt} (hk0 : liveId s k0 = id)
    (habs : ∀ k, absL s'.heap (chainC s' (cellAt s' id)) k =
      if k0 = k then x else absL s.heap (chainC s (cellAt s id)) k) (k : Nat) :
    absOf s' k = if k0 = k then x else absOf s k := by
  rcases T.abs_cases H X W H' hnm k with ⟨_, e1, e2⟩ | ⟨hl, e⟩
  · rw [e1, e2]; exact habs k
  · rw [e, if_neg]
    intro h; subst h; exact hl hk0

theorem Touch.abs_none {s s' : State} {id : Cid} (T : Touch s s' id) (H : HInv s) (X : XInv s) (W : Writable s id) (H' : HInv s')
    (hnm : cellAt s' id ≠ .moved)
    (habs : ∀ k, absL s'.heap (chainC s' (cellAt s' id)) k = absL s.heap (chainC s (cellAt s id)) k) (k : Nat) :
    absOf s' k = absOf s k := by
  rcases T.abs_cases H X W H' hnm k with ⟨_, e1, e2⟩ | ⟨_, e⟩
  · rw [e1, e2]; exact habs k
  · exact e

namespace Store

theorem dfltB_first : Flurry.Proto.BinK.dfltB.first = none := rfl

end Store

theorem sval_store {s s' : State} {id : Cid} (H : HInv s) (X : XInv s) (W : Writable s id) {i : Nat} {v : Nat × Nat}
    (hi : i ∈ chainC s (cellAt s id))
    (hh : s'.heap = s.heap.modify i (fun n => { n with val := v })) (htb : s'.tbins = s.tbins)
    (hcells : ∀ id', cellAt s' id' = cellAt s id') (hcur : s'.cur = s.cur) (hre : ∀ b j0, Reusing s b j0 → Reusing s' b j0) :
    HInv s' ∧ Touch s s' id ∧
      HeapStep s.heap (chainC s (cellAt s id)) (fun _ => False) s'.heap (chainC s' (cellAt s' id)) (fun _ => False) ∧
      chainC s' (cellAt s' id) = chainC s (cellAt s id) ∧
      (∀ j, nodeAt s'.heap j = if j = i then { nodeAt s.heap j with val := v } else nodeAt s.heap j) ∧
      ∀ k, absOf s' k = if (nodeAt s.heap i).key = k then some v else absOf s k := by
  obtain ⟨I, hs, hc, hnode, habs⟩ := BinGH.val_inside (H.valid id) hi hh htb (hcells id)
  have hnm : cellAt s' id ≠ .moved := by rw [hcells id]; exact W.not_moved X
  obtain ⟨H', T⟩ := hinv_inside H X W I (fun id' _ => hcells id') hcur hre
  exact ⟨H', T, hs, hc, hnode, T.abs_all H X W H' hnm (W.liveId_of_mem H (Or.inl hi)) habs⟩

/-- the tree flag of one node of the structure of `id` is stored: set for a node of the chain, cleared for a node
of the chain or of the tree (`tTreeLinkLocked` sets it for a chain node, `tRestructure` clears it for a tree node of
the bin; nodes outside the structure of `id` are not touched) -/
theorem sflag_store {s s' : State} {id : Cid} (H : HInv s) (X : XInv s) (W : Writable s id) {i : Nat} {x : Bool}
    (hi : i ∈ chainC s (cellAt s id) ∨ treeOf s (cellAt s id) i)
    (hh : s'.heap = s.heap.modify i (fun n => { n with inTree := x })) (htb : s'.tbins = s.tbins)
    (hcells : ∀ id', cellAt s' id' = cellAt s id') (hcur : s'.cur = s.cur) (hre : ∀ b j0, Reusing s b j0 → Reusing s' b j0)
    (hx : x = true → i ∈ chainC s (cellAt s id)) :
    HInv s' ∧ Touch s s' id ∧
      HeapStep s.heap (chainC s (cellAt s id)) (fun _ => False) s'.heap (chainC s' (cellAt s' id)) (fun _ => False) ∧
      chainC s' (cellAt s' id) = chainC s (cellAt s id) ∧ s'.heap.length = s.heap.length ∧
      (∀ j, nodeAt s'.heap j = if j = i ∧ j < s.heap.length then { nodeAt s.heap j with inTree := x } else nodeAt s.heap j) ∧
      ∀ k, absOf s' k = absOf s k := by
  obtain ⟨I, hs, hc, hlen, hnode, habs⟩ := BinGH.flag_inside (H.valid id) hi hh htb (hcells id) hx
  have hnm : cellAt s' id ≠ .moved := by rw [hcells id]; exact W.not_moved X
  obtain ⟨H', T⟩ := hinv_inside H X W I (fun id' _ => hcells id') hcur hre
  exact ⟨H', T, hs, hc, hlen, hnode, T.abs_none H X W H' hnm habs⟩

/-- a fresh node is put in front of the chain of `id` (tree-bin insertion: the `first` field of the bin of `id`
changes; the CAS into the empty cell: the cell becomes `.list new`) -/
theorem sprepend_store {s s' : State} {id : Cid} (H : HInv s) (X : XInv s) (W : Writable s id) {new : NodeS}
    (hh : s'.heap = s.heap ++ [new])
    (hst' : startOf s'.tbins (cellAt s' id) = some s.heap.length)
    (hnext : new.next = startOf s.tbins (cellAt s id))
    (hfresh : ∀ j, (j ∈ chainC s (cellAt s id) ∨ treeOf s (cellAt s id) j) → (nodeAt s.heap j).key ≠ new.key)
    (hT : ∀ j, treeOf s' (cellAt s' id) j → j < s.heap.length ∧ treeOf s (cellAt s id) j)
    (htl : s'.tbins.length = s.tbins.length)
    (hbin : ∀ b, cellAt s id ≠ .tree b → binAt s'.tbins b = binAt s.tbins b)
    (hcells : ∀ id', id' ≠ id → cellAt s' id' = cellAt s id') (hcur : s'.cur = s.cur) (hre : ∀ b j0, Reusing s b j0 → Reusing s' b j0)
    (hlo : ownerOf (cellAt s' id) = ownerOf (cellAt s id)) (hno : new.owner = ownerOf (cellAt s' id))
    (hside : new.key % 2 ^ id.1 = id.2) :
    HInv s' ∧ Touch s s' id ∧
      HeapStep s.heap (chainC s (cellAt s id)) (fun _ => False) s'.heap (chainC s' (cellAt s' id)) (fun _ => False) ∧
      chainC s' (cellAt s' id) = s.heap.length :: chainC s (cellAt s id) ∧
      (nodeAt s'.heap s.heap.length = new ∧ ∀ j, j < s.heap.length → nodeAt s'.heap j = nodeAt s.heap j) ∧
      ∀ k, absOf s' k = if new.key = k then some new.val else absOf s k := by
  obtain ⟨I, hs, hc, hnode, habs⟩ := BinGH.prepend_inside (K := KeyOf id) (H.valid id) hh hst' hnext hfresh hT htl hbin
    hlo hno hside
  have hnm : cellAt s' id ≠ .moved := by
    intro h; rw [h] at hst'; cases hst'
  obtain ⟨H', T⟩ := hinv_inside H X W I hcells hcur hre
  exact ⟨H', T, hs, hc, hnode, T.abs_all H X W H' hnm ((W.liveId_iff _).2 hside) habs⟩

theorem sappend_store {s s' : State} {id : Cid} (H : HInv s) (X : XInv s) (W : Writable s id) {new : NodeS} {l1 : List Nat} {pr : Nat}
    (hch : chainC s (cellAt s id) = l1 ++ [pr])
    (hh : s'.heap = (s.heap ++ [new]).modify pr (fun m => { m with next := some s.heap.length }))
    (htb : s'.tbins = s.tbins) (hcells : ∀ id', cellAt s' id' = cellAt s id') (hcur : s'.cur = s.cur) (hre : ∀ b j0, Reusing s b j0 → Reusing s' b j0)
    (hnext : new.next = none)
    (hfresh : ∀ j, (j ∈ chainC s (cellAt s id) ∨ treeOf s (cellAt s id) j) → (nodeAt s.heap j).key ≠ new.key)
    (hT : ∀ j, treeOf s' (cellAt s' id) j → j < s.heap.length ∧ treeOf s (cellAt s id) j)
    (hno : new.owner = ownerOf (cellAt s id))
    (hside : new.key % 2 ^ id.1 = id.2) :
    HInv s' ∧ Touch s s' id ∧
      HeapStep s.heap (chainC s (cellAt s id)) (fun _ => False) s'.heap (chainC s' (cellAt s' id)) (fun _ => False) ∧
      chainC s' (cellAt s' id) = chainC s (cellAt s id) ++ [s.heap.length] ∧
      (∀ j, nodeAt s'.heap j = if j = pr then { nodeAt s.heap j with next := some s.heap.length }
        else if j = s.heap.length then new else nodeAt s.heap j) ∧
      ∀ k, absOf s' k = if new.key = k then some new.val else absOf s k := by
  obtain ⟨I, hs, hc, hnode, habs⟩ := BinGH.append_inside (K := KeyOf id) (H.valid id) hch hh htb (hcells id) hnext hfresh
    hT hno hside
  have hnm : cellAt s' id ≠ .moved := by rw [hcells id]; exact W.not_moved X
  obtain ⟨H', T⟩ := hinv_inside H X W I (fun id' _ => hcells id') hcur hre
  exact ⟨H', T, hs, hc, hnode, T.abs_all H X W H' hnm ((W.liveId_iff _).2 hside) habs⟩

/-- the node `i` of the chain of `id` is unlinked: either it is the first node and the start moves to its successor
(the cell `list h → list h' / empty`, or the `first` field of the bin), or the `next` field of its predecessor is
stored -/
theorem sunlink_store {s s' : State} {id : Cid} (H : HInv s) (X : XInv s) (W : Writable s id) {i : Nat}
    (hcase : (∃ l2, chainC s (cellAt s id) = i :: l2 ∧ s'.heap = s.heap ∧
        startOf s'.tbins (cellAt s' id) = (nodeAt s.heap i).next) ∨
      (∃ l1 pr l2, chainC s (cellAt s id) = l1 ++ pr :: i :: l2 ∧
        s'.heap = s.heap.modify pr (fun m => { m with next := (nodeAt s.heap i).next }) ∧
        startOf s'.tbins (cellAt s' id) = startOf s.tbins (cellAt s id)))
    (hT : ∀ j, treeOf s' (cellAt s' id) j → treeOf s (cellAt s id) j)
    (htl : s'.tbins.length = s.tbins.length)
    (hbin : ∀ b, cellAt s id ≠ .tree b → binAt s'.tbins b = binAt s.tbins b)
    (hcells : ∀ id', id' ≠ id → cellAt s' id' = cellAt s id') (hcur : s'.cur = s.cur) (hre : ∀ b j0, Reusing s b j0 → Reusing s' b j0)
    (hlo : ownerOf (cellAt s' id) = ownerOf (cellAt s id)) (hnm : cellAt s' id ≠ .moved) :
    HInv s' ∧ Touch s s' id ∧
      HeapStep s.heap (chainC s (cellAt s id)) (fun _ => False) s'.heap (chainC s' (cellAt s' id)) (fun _ => False) ∧
      (∀ j, j ∈ chainC s' (cellAt s' id) ↔ j ∈ chainC s (cellAt s id) ∧ j ≠ i) ∧ s'.heap.length = s.heap.length ∧
      (∀ j, (nodeAt s'.heap j).key = (nodeAt s.heap j).key ∧ (nodeAt s'.heap j).val = (nodeAt s.heap j).val ∧
        (nodeAt s'.heap j).inTree = (nodeAt s.heap j).inTree ∧ (nodeAt s'.heap j).owner = (nodeAt s.heap j).owner ∧
        (nodeAt s'.heap j).lock = (nodeAt s.heap j).lock) ∧
      ∀ k, absOf s' k = if (nodeAt s.heap i).key = k then none else absOf s k := by
  obtain ⟨I, hs, hi, hmem, hlen, hf, habs⟩ := BinGH.unlink_inside (K := KeyOf id) (H.valid id) hcase hT htl hbin hlo
  obtain ⟨H', T⟩ := hinv_inside H X W I hcells hcur hre
  exact ⟨H', T, hs, hmem, hlen, hf, T.abs_all H X W H' hnm (W.liveId_of_mem H (Or.inl hi)) habs⟩

/-- the cell `id` is switched to a copy `L'` of its chain (treeify: the nodes of `L'` are the private nodes of the
`kStore` thread, hence `PrivK s` in the `HeapStep`; untreeify: they are new); the copy is described as a set:
distinct keys, every node of `L'` has a source on the old chain, every node of the old chain has a copy (this is
what `CopyOK` provides). `hnewOwner`: a new node with an owner belongs to the old `TreeBin` of `id`; `hbd`: the new
`TreeBin` of `id` is in no other cell. -/
theorem sconvert_store_cover {s s' : State} {id : Cid} (H : HInv s) (X : XInv s) (W : Writable s id) {L' : List Nat}
    (hok' : NextOK s'.heap) (hlen : s.heap.length ≤ s'.heap.length)
    (hold : ∀ j, j < s.heap.length → nodeAt s'.heap j = nodeAt s.heap j)
    (htb : s'.tbins = s.tbins)
    (hcells : ∀ id', id' ≠ id → cellAt s' id' = cellAt s id') (hcur : s'.cur = s.cur) (hre : ∀ b j0, Reusing s b j0 → Reusing s' b j0)
    (hch' : IsChain s'.heap (startOf s'.tbins (cellAt s' id)) L')
    (hdist : ∀ a b, a ∈ L' → b ∈ L' → (nodeAt s'.heap a).key = (nodeAt s'.heap b).key → a = b)
    (hsrc : ∀ j ∈ L', ∃ i ∈ chainC s (cellAt s id), (nodeAt s.heap i).key = (nodeAt s'.heap j).key ∧
      (nodeAt s.heap i).val = (nodeAt s'.heap j).val)
    (hcov : ∀ i ∈ chainC s (cellAt s id), ∃ j ∈ L', (nodeAt s'.heap j).key = (nodeAt s.heap i).key ∧
      (nodeAt s'.heap j).val = (nodeAt s.heap i).val)
    (hnew : ∀ j ∈ L', j ∉ chainC s (cellAt s id) ∧ (s.heap.length ≤ j ∨ PrivK s j))
    (hT : ∀ j, treeOf s' (cellAt s' id) j → j ∈ L')
    (hnewOwner : ∀ j, s.heap.length ≤ j → ∀ b, (nodeAt s'.heap j).owner = some b → cellAt s id = .tree b)
    (hC : ∀ b, cellAt s' id = .tree b → b < s'.tbins.length)
    (hown : ∀ j ∈ L', (nodeAt s'.heap j).owner = ownerOf (cellAt s' id))
    (hnm : cellAt s' id ≠ .moved)
    (hbd : ∀ b, cellAt s' id = .tree b → ∀ id', id' ≠ id → cellAt s id' ≠ .tree b) :
    HInv s' ∧ Touch s s' id ∧
      HeapStep s.heap (chainC s (cellAt s id)) (PrivK s) s'.heap (chainC s' (cellAt s' id)) (fun _ => False) ∧
      chainC s' (cellAt s' id) = L' ∧ ∀ k, absOf s' k = absOf s k := by
  obtain ⟨V', hT', hs, hc, habs⟩ := BinGH.convert_valid (P := PrivK s) (H.valid id) hok' hlen hold htb hch' hdist hsrc
    hcov hnew hT hnewOwner hC hown
  have T : Touch s s' id := ⟨hT', hcells, hcur, hre⟩
  have H' : HInv s' := T.hinv H X W V' (fun j hj b hb => by rw [htb]; exact H.cellOK id b (hnewOwner j hj b hb))
    (fun b h _ hf => by rw [htb] at hf; exact Nat.lt_of_lt_of_le (H.firstOK b h hf) hlen) hbd
  exact ⟨H', T, hs, hc, T.abs_none H X W H' hnm habs⟩

/-- `sconvert_store_cover` with the copy described position by position -/
theorem sconvert_store {s s' : State} {id : Cid} (H : HInv s) (X : XInv s) (W : Writable s id) {L' : List Nat}
    (hok' : NextOK s'.heap) (hlen : s.heap.length ≤ s'.heap.length)
    (hold : ∀ j, j < s.heap.length → nodeAt s'.heap j = nodeAt s.heap j)
    (htb : s'.tbins = s.tbins)
    (hcells : ∀ id', id' ≠ id → cellAt s' id' = cellAt s id') (hcur : s'.cur = s.cur) (hre : ∀ b j0, Reusing s b j0 → Reusing s' b j0)
    (hch' : IsChain s'.heap (startOf s'.tbins (cellAt s' id)) L') (hLlen : L'.length = (chainC s (cellAt s id)).length)
    (hkv : ∀ j, j < (chainC s (cellAt s id)).length →
      (nodeAt s'.heap (L'.getD j 0)).key = (nodeAt s.heap ((chainC s (cellAt s id)).getD j 0)).key ∧
      (nodeAt s'.heap (L'.getD j 0)).val = (nodeAt s.heap ((chainC s (cellAt s id)).getD j 0)).val)
    (hnew : ∀ j ∈ L', j ∉ chainC s (cellAt s id) ∧ (s.heap.length ≤ j ∨ PrivK s j))
    (hT : ∀ j, treeOf s' (cellAt s' id) j → j ∈ L')
    (hnewOwner : ∀ j, s.heap.length ≤ j → ∀ b, (nodeAt s'.heap j).owner = some b → cellAt s id = .tree b)
    (hC : ∀ b, cellAt s' id = .tree b → b < s'.tbins.length)
    (hown : ∀ j ∈ L', (nodeAt s'.heap j).owner = ownerOf (cellAt s' id))
    (hnm : cellAt s' id ≠ .moved)
    (hbd : ∀ b, cellAt s' id = .tree b → ∀ id', id' ≠ id → cellAt s id' ≠ .tree b) :
    HInv s' ∧ Touch s s' id ∧
      HeapStep s.heap (chainC s (cellAt s id)) (PrivK s) s'.heap (chainC s' (cellAt s' id)) (fun _ => False) ∧
      chainC s' (cellAt s' id) = L' ∧ ∀ k, absOf s' k = absOf s k := by
  obtain ⟨hdist, hsrc, hcov⟩ := cover_of_pointwise (H.cinv id).nodup (H.cinv id).distinct hLlen hkv
  exact sconvert_store_cover H X W hok' hlen hold htb hcells hcur hre hch' hdist hsrc hcov hnew hT hnewOwner hC hown hnm hbd

/-- heap and `TreeBin` table are extended at the end (`BinGH.Ext`), `tabs` and the table pointer are unchanged; no
`Writable` is asked for: nothing that exists is stored to -/
structure Ext (s s' : State) : Prop extends BinGH.Ext s.heap s.tbins s'.heap s'.tbins where
  tabs : s'.tabs = s.tabs
  cur : s'.cur = s.cur
  /-- a transfer that re-uses a `TreeBin` and is past its first store stays there -/
  reusing : ∀ b j0, Reusing s b j0 → Reusing s' b j0

theorem Ext.cellAt_eq {s s' : State} (e : Ext s s') (id : Cid) : cellAt s' id = cellAt s id := by
  unfold cellAt Flurry.Proto.BinGN.cellAt
  rw [e.tabs]

theorem Ext.chainC_eq {s s' : State} (e : Ext s s') (hok : NextOK s.heap) {c : Cell}
    (hst : ∀ x, startOf s.tbins c = some x → x < s.heap.length) (hc : ∀ b, c = .tree b → b < s.tbins.length) :
    chainC s' c = chainC s c := e.toExt.chain_eq hok hst hc

theorem Ext.hinv {s s' : State} (e : Ext s s') (H : HInv s) : HInv s' := by
  have hV : ∀ id, BinGH.Valid s'.heap s'.tbins (cellAt s' id) (KeyOf id) := fun id => by
    rw [e.cellAt_eq id]
    exact ((H.valid id).grow e.nextOK e.hlen (fun _ hj => e.old hj) e.blen (fun _ hb => e.bold hb)
      (fun j hj b hb => (e.newOwner j b hj hb).1)).1
  refine ⟨fun id => (hV id).cinv,
    BinGH.ownerOK_frame H.ownerOK e.blen (fun j hj => by rw [e.old hj]) (fun j hj b hb => (e.newOwner j b hj hb).2),
    BinGH.firstOK_frame H.firstOK e.hlen (fun _ hb => e.bold hb) (fun b h hb => e.newFirst b h (Nat.not_lt.1 hb)),
    fun id => (hV id).cellOK, fun id => (hV id).chainOwner, fun id => (hV id).side, ?_⟩
  intro id1 id2 b h1 h2
  rw [e.cellAt_eq id1] at h1
  rw [e.cellAt_eq id2] at h2
  rcases H.binsDistinct id1 id2 b h1 h2 with e0 | ⟨j0, hr, hc⟩
  · exact Or.inl e0
  · exact Or.inr ⟨j0, e.reusing b j0 hr, by rw [e.cur]; exact hc⟩

namespace Store

theorem privK_of {s s' : State} {t : Nat} {l l' : Local} (hl : s.threads[t]? = some l)
    (hthr : s'.threads = s.threads.set t l') {j : Nat}
    (hk : ∀ tab k h b, l'.pc = .kStore tab k h b → (nodeAt s.heap j).owner = some b → l.pc = .kStore tab k h b)
    (ho : (nodeAt s'.heap j).owner = (nodeAt s.heap j).owner) (h : PrivK s' j) : PrivK s j := by
  obtain ⟨t', l'', tab, k, h0, b, hl'', hpc, hown⟩ := h
  rw [hthr] at hl''
  rw [ho] at hown
  rcases Flurry.Shared.get_set hl'' with ⟨rfl, rfl⟩ | ⟨_, hl0⟩
  · exact ⟨t', l, tab, k, h0, b, hl, hk tab k h0 b hpc hown, hown⟩
  · exact ⟨t', l'', tab, k, h0, b, hl0, hpc, hown⟩

theorem privK_back {s s' : State} {t : Nat} {l l' : Local} (hl : s.threads[t]? = some l)
    (hthr : s'.threads = s.threads.set t l')
    (hk : ∀ tab k h b, l'.pc = .kStore tab k h b → l.pc = .kStore tab k h b) {j : Nat}
    (ho : (nodeAt s'.heap j).owner = (nodeAt s.heap j).owner) (h : PrivK s' j) : PrivK s j :=
  privK_of hl hthr (fun tab k h b e _ => hk tab k h b e) ho h

theorem pend_copyOK {s : State} {pc : Pc} {C : Cell} (hx : xPc pc = true) (hp : XPc s pc) (hC : C ∈ pend s pc) :
    ∃ j0 sel, xIdx pc = some j0 ∧ xPre pc = true ∧ CopyOK s (cellAt s (s.cur, j0)) sel C := by
  obtain ⟨j0, lo, hi, he, hi0, hpre, _, hpl⟩ := pend_plan hx (List.ne_nil_of_mem hC)
  rw [he, List.mem_cons, List.mem_singleton] at hC
  rcases hC with rfl | rfl
  · exact ⟨j0, _, hi0, hpre, (hpl hp).low⟩
  · exact ⟨j0, _, hi0, hpre, (hpl hp).high⟩

theorem pend_congr {s s' : State} {pc : Pc} (hcur : s'.cur = s.cur)
    (h : ∀ j0, xIdx pc = some j0 → cellAt s' (s.cur + 1, j0) = cellAt s (s.cur + 1, j0) ∧
      cellAt s' (s.cur + 1, j0 + 2 ^ s.cur) = cellAt s (s.cur + 1, j0 + 2 ^ s.cur)) :
    pend s' pc = pend s pc := by
  unfold pend
  rw [hcur]
  split
  · rfl
  · rfl
  · rw [(h _ rfl).1]
  · rw [(h _ rfl).1, (h _ rfl).2]
  · rfl

theorem copy_key {s : State} (H : HInv s) {j0 : Nat} {sel : Nat → Bool} {C : Cell}
    (hcp : CopyOK s (cellAt s (s.cur, j0)) sel C) {j : Nat} (hj : j ∈ chainC s C) :
    (nodeAt s.heap j).key % 2 ^ s.cur = j0 := by
  by_cases hjo : j ∈ chainC s (cellAt s (s.cur, j0))
  · exact H.side (s.cur, j0) j (Or.inl hjo)
  · obtain ⟨i, hi, hk, -⟩ := hcp.src j hj hjo
    rw [← hk]
    exact H.side (s.cur, j0) i (Or.inl hi)

end Store

theorem Writable.key_ne {s : State} {id : Cid} (W : Writable s id) {j0 : Nat}
    (hnp : id ≠ (s.cur, j0) ∧ ¬ (id.1 = s.cur + 1 ∧ id.2 % 2 ^ s.cur = j0)) {k : Nat}
    (hk : k % 2 ^ id.1 = id.2) : k % 2 ^ s.cur ≠ j0 := by
  intro h
  rcases W.act with ⟨hg, _⟩ | ⟨hg, _⟩
  · exact hnp.1 (cell_unique (id := (s.cur, j0)) hg hk h)
  · exact hnp.2 ⟨hg, parent_of_key (a := (s.cur, j0)) hg hk h⟩

/-- a pending structure of a transfer (of another cell) is part of the frame of a store into the structure of `id`:
neither the cell under transfer nor its children are `id`, and the structure shares no node and no `TreeBin`
with that of `id` -/
theorem Writable.pend_frame {s : State} {id : Cid} (W : Writable s id) (H : HInv s) (X : XInv s)
    {t : Nat} {l : Local} {C : Cell} (hl : s.threads[t]? = some l) (hx : xPc l.pc = true) (hC : C ∈ pend s l.pc) :
    ∃ j0, xIdx l.pc = some j0 ∧ (s.cur, j0) ≠ id ∧ (s.cur + 1, j0) ≠ id ∧ (s.cur + 1, j0 + 2 ^ s.cur) ≠ id ∧
      (∀ h, startOf s.tbins C = some h → h < s.heap.length) ∧
      (∀ j ∈ chainC s C, j ∉ chainC s (cellAt s id) ∧ ¬ treeOf s (cellAt s id) j) ∧
      (∀ b, C = .tree b → cellAt s id ≠ .tree b ∧ b < s.tbins.length) := by
  obtain ⟨j0, sel, hi, hp, hcp⟩ := pend_copyOK hx (X.plan t l hl) hC
  have hpe : pend s l.pc ≠ [] := by intro h; rw [h] at hC; cases hC
  have hnp := W.not_parent X hl hi hp hpe
  have hlt := X.idx t l j0 hl hi
  have hkey : ∀ j, (j ∈ chainC s (cellAt s id) ∨ treeOf s (cellAt s id) j) → j ∉ chainC s C := by
    intro j hj hjC
    exact W.key_ne hnp (H.side id j hj) (copy_key H hcp hjC)
  refine ⟨j0, hi, fun e => hnp.1 e.symm, ?_, ?_, hcp.cinv.startOK, ?_, ?_⟩
  · intro e
    exact hnp.2 ⟨by rw [← e], by rw [← e]; exact Nat.mod_eq_of_lt hlt⟩
  · intro e
    exact hnp.2 ⟨by rw [← e], by rw [← e]; exact high_mod hlt⟩
  · intro j hj
    exact ⟨fun h => hkey j (Or.inl h) hj, fun h => hkey j (Or.inr h) hj⟩
  · intro b hb
    refine ⟨?_, hcp.cellOK b hb⟩
    intro hid
    by_cases ho : cellAt s (s.cur, j0) = .tree b
    · exact W.tree_ne H X (fun e => hnp.1 e.symm) ho hid
    · refine W.noPriv b hid ⟨t, l, hl, hb ▸ hC, ?_⟩
      intro j hj
      rw [hi] at hj
      cases hj
      exact ho

theorem Writable.not_privX {s : State} {id : Cid} (W : Writable s id) (H : HInv s) (X : XInv s) {j : Nat}
    (hj : j ∈ chainC s (cellAt s id) ∨ treeOf s (cellAt s id) j) : ¬ PrivX s j := by
  rintro ⟨t, l, C, hl, hx, hC, hjC, -⟩
  obtain ⟨j0, -, -, -, -, -, hd, -⟩ := W.pend_frame H X hl hx hC
  rcases hj with hj | hj
  · exact (hd j hjC).1 hj
  · exact (hd j hjC).2 hj

theorem Touch.privX_back {s s' : State} {id : Cid} {t : Nat} {l' : Local} (T : Touch s s' id) (H : HInv s) (X : XInv s)
    (W : Writable s id) (hok' : NextOK s'.heap)
    (hthr : s'.threads = s.threads.set t l') (hx : xPc l'.pc = true → pend s' l'.pc = []) {j : Nat}
    (h : PrivX s' j) : PrivX s j ∧ j ∉ chainC s (cellAt s id) := by
  obtain ⟨t', l'', C, hl'', hxp, hC, hjC, hj0⟩ := h
  rw [hthr] at hl''
  rcases Flurry.Shared.get_set hl'' with ⟨rfl, rfl⟩ | ⟨_, hl0⟩
  · rw [hx hxp] at hC; cases hC
  · have hpe : pend s l''.pc ≠ [] := by
      intro h
      rw [pend_nil_indep (s' := s') h] at hC; cases hC
    obtain ⟨C0, hC0⟩ : ∃ C0, C0 ∈ pend s l''.pc := by
      cases hp : pend s l''.pc with
      | nil => exact absurd hp hpe
      | cons a _ => exact ⟨a, List.mem_cons_self⟩
    obtain ⟨j0, hi, hn0, hn1, hn2, -, -, -⟩ := W.pend_frame H X hl0 hxp hC0
    have hpc : pend s' l''.pc = pend s l''.pc := by
      refine pend_congr T.cur ?_
      intro j1 hj1
      rw [hi] at hj1; cases hj1
      exact ⟨T.cells _ hn1, T.cells _ hn2⟩
    rw [hpc] at hC
    obtain ⟨_, _, _, _, _, hst, hd, hb⟩ := W.pend_frame H X hl0 hxp hC
    have hch := (T.chain_frame H hok' hst hd hb).1
    rw [hch] at hjC
    refine ⟨⟨t', l'', C, hl0, hxp, hC, hjC, ?_⟩, (hd j hjC).1⟩
    intro j1 hj1
    have := hj0 j1 hj1
    rw [hi] at hj1; cases hj1
    rw [T.cur, (T.other H X W hok' hn0).1] at this
    exact this

/-- a node that leaves the chain of `id` is dead -/
theorem Touch.left_dead {s s' : State} {id : Cid} {t : Nat} {l l' : Local} (T : Touch s s' id) (I : Inv s)
    (W : Writable s id) (H' : HInv s')
    (hl : s.threads[t]? = some l) (hthr : s'.threads = s.threads.set t l')
    (hk : ∀ tab k h b, l'.pc = .kStore tab k h b → l.pc = .kStore tab k h b)
    (hx : xPc l'.pc = true → pend s' l'.pc = []) {c : Nat}
    (hc : c ∈ chainC s (cellAt s id)) (hc' : c ∉ chainC s' (cellAt s' id)) : ¬ Used s' c := by
  have H := I.heap
  have X := I.rsz
  have hcl : c < s.heap.length := (H.cinv id).chain_lt hc
  rintro (⟨id', hu⟩ | hu | hu)
  · by_cases hne : id' = id
    · subst hne; exact hc' hu
    · rw [(T.other H X W H'.nextOK hne).1] at hu
      exact W.disj H X hne (Or.inl hu) (Or.inl hc)
  · obtain ⟨t', l'', tab, k, h0, b, hl'', hpc, hown⟩ := privK_back hl hthr hk (T.keep c hcl).2.1 hu
    have h1 := H.chainOwner id c hc
    rw [hown] at h1
    have h2 := (I.data.kInv t' l'' hl'')
    rw [hpc] at h2
    exact h2.2 id (ownerOf_eq_some.1 h1.symm)
  · exact (T.privX_back H X W H'.nextOK hthr hx hu).2 hc

theorem kstep_of_store {s s' : State} {id : Cid} {t : Nat} {l l' : Local} {P P' : Nat → Prop}
    (I : Inv s) (W : Writable s id) (H' : HInv s') (T : Touch s s' id)
    (hs : HeapStep s.heap (chainC s (cellAt s id)) P s'.heap (chainC s' (cellAt s' id)) P')
    (hP : ∀ j, P j → PrivK s j)
    (hnm : ∀ id', cellAt s' id' = .moved ↔ cellAt s id' = .moved)
    (hl : s.threads[t]? = some l) (hthr : s'.threads = s.threads.set t l')
    (hk : ∀ tab k h b, l'.pc = .kStore tab k h b → l.pc = .kStore tab k h b)
    (hx : xPc l'.pc = true → pend s' l'.pc = []) : ∀ k, KStep s s' k := by
  intro k
  have H := I.heap
  have X := I.rsz
  have hok' := H'.nextOK
  have hLC : LC s k = chainC s (cellAt s (liveId s k)) := LC_eq_live X.newNotMoved k
  have hLC' : LC s' k = chainC s' (cellAt s' (liveId s k)) := by
    rw [LC_eq_live (newNotMoved_of X T.cur hnm), liveId_congr T.cur (hnm _)]
  have hLCne : liveId s k ≠ id → LC s' k = LC s k := by
    intro hne; rw [hLC, hLC', (T.other H X W hok' hne).1]
  have hdead : ∀ c, c ∈ chainC s (cellAt s id) → c ∉ chainC s' (cellAt s' id) → ¬ Used s' c :=
    fun c h1 h2 => T.left_dead I W H' hl hthr hk hx h1 h2
  have hK : (LC s k = chainC s (cellAt s id) ∧ LC s' k = chainC s' (cellAt s' id)) ∨ LC s' k = LC s k := by
    by_cases hid : liveId s k = id
    · exact Or.inl ⟨by rw [hLC, hid], by rw [hLC', hid]⟩
    · exact Or.inr (hLCne hid)
  obtain ⟨hleave, hbefore⟩ := heapStep_walker hs (K := LC s k) (fun i hi => (H.cinv _).chain_lt (hLC ▸ hi)) hK
  refine ⟨hs.len, hs.key, ?_, ?_, ?_, ?_, ?_, ?_⟩
  · intro j hj hu
    exact hs.off j hj (Or.inl (fun h => hu (Or.inl ⟨id, h⟩)))
  · intro j hj hu
    rcases hu with ⟨id', hu⟩ | hu | hu
    · by_cases hne : id' = id
      · subst hne
        rcases hs.noRelink j hu with h | h | h
        · exact Or.inl ⟨id', h⟩
        · exact absurd hj (Nat.not_lt.2 h)
        · exact Or.inr (Or.inl (hP j h))
      · rw [(T.other H X W hok' hne).1] at hu
        exact Or.inl ⟨id', hu⟩
    · exact Or.inr (Or.inl (privK_back hl hthr hk (T.keep j hj).2.1 hu))
    · exact Or.inr (Or.inr (T.privX_back H X W hok' hthr hx hu).1)
  · intro c hc hc'
    obtain ⟨h1, h2, h3⟩ := hleave c hc hc'
    exact ⟨h3.1, h3.2, Or.inl (hdead c h1 h2)⟩
  · exact hbefore
  · intro j hj hne hjk
    obtain ⟨h1, h2⟩ := hs.valchg hj hne
    have := W.liveId_of_mem H (Or.inl h1)
    rw [hjk] at this
    rw [hLC', this]; exact h2
  · rintro c ⟨id', hc, hk'⟩
    by_cases hid : id' = id
    · subst hid
      by_cases hc' : c ∈ chainC s' (cellAt s' id')
      · exact Or.inl ⟨id', hc', hk'⟩
      · right
        exact ⟨hdead c hc hc', (hs.off c ((H.cinv id').chain_lt hc) (Or.inr hc')).2⟩
    · left
      exact ⟨id', by rw [(T.other H X W hok' hid).1]; exact hc, hk'⟩

/-- a transition that allocates (private) nodes and `TreeBin`s at the end and changes nothing that exists
(`kBuild`: `l'.pc` becomes `.kStore ..` with a new `TreeBin`, `hk`): `hx` is about the structures the step makes
pending for the transfer (none for `kBuild`); no `Writable` (a transfer may have pending structures while another
cell's list is copied) -/
theorem Ext.kstep {s s' : State} {t : Nat} {l l' : Local} (e : Ext s s') (I : Inv s)
    (hl : s.threads[t]? = some l) (hthr : s'.threads = s.threads.set t l')
    (hk : ∀ tab k h b, l'.pc = .kStore tab k h b → l.pc = .kStore tab k h b ∨ s.tbins.length ≤ b)
    (hx : xPc l'.pc = true → ∀ C ∈ pend s' l'.pc, ∀ j ∈ chainC s' C, j < s.heap.length →
      (∀ j0, xIdx l'.pc = some j0 → j ∉ chainC s (cellAt s (s.cur, j0))) → PrivX s j) : ∀ k, KStep s s' k := by
  intro k
  have H := I.heap
  have X := I.rsz
  have hcells := e.cellAt_eq
  have hcur := e.cur
  have hch : ∀ id, chainC s' (cellAt s' id) = chainC s (cellAt s id) := by
    intro id
    rw [hcells id]
    exact e.chainC_eq H.nextOK (H.cinv id).startOK (fun b hb => H.cellOK id b hb)
  have hmv : ∀ id', cellAt s' id' = .moved ↔ cellAt s id' = .moved := fun id' => by rw [hcells id']
  have hLC : LC s' k = LC s k := by
    rw [LC_eq_live (newNotMoved_of X hcur hmv), LC_eq_live X.newNotMoved, liveId_congr hcur (hmv _), hch]
  refine KStep.of_same e.hlen (fun j hj => by rw [e.old hj]; exact ⟨rfl, rfl, rfl⟩) hLC ?_ ?_
  · -- a node in use after the step was in use before
    intro j hj hu
    rcases hu with ⟨id, hu⟩ | hu | hu
    · exact Or.inl ⟨id, hch id ▸ hu⟩
    · refine Or.inr (Or.inl (privK_of hl hthr ?_ (by rw [e.old hj]) hu))
      intro tab k' h' b hpc hown
      exact (hk tab k' h' b hpc).resolve_right (Nat.not_le.2 (H.ownerOK j b hown))
    · right; right
      obtain ⟨t', l'', C, hl'', hxp, hC, hjC, hj0⟩ := hu
      rw [hthr] at hl''
      have hj0' : ∀ j0, xIdx l''.pc = some j0 → j ∉ chainC s (cellAt s (s.cur, j0)) := by
        intro j0 hi h
        apply hj0 j0 hi
        rw [hcur, hch]; exact h
      rcases Flurry.Shared.get_set hl'' with ⟨rfl, rfl⟩ | ⟨_, hl0⟩
      · exact hx hxp C hC j hjC hj hj0'
      · rw [pend_congr hcur (fun _ _ => ⟨hcells _, hcells _⟩)] at hC
        obtain ⟨_, sel, _, _, hcp⟩ := pend_copyOK hxp (X.plan t' l'' hl0) hC
        rw [e.chainC_eq H.nextOK hcp.cinv.startOK hcp.cellOK] at hjC
        exact ⟨t', l'', C, hl0, hxp, hC, hjC, hj0'⟩
  · rintro c ⟨id', hc, hk'⟩
    exact ⟨id', by rw [hch]; exact hc, hk'⟩

/-- a thread (not the resizing thread) that is past the successful re-check of its cell may store into it -/
theorem Writable.of_validated {s : State} (I : Inv s) {t : Nat} {l : Local} (hl : s.threads[t]? = some l)
    (hv : validated l.pc = true) (hx : xPc l.pc = false) : Writable s (cidOf s l) := by
  have X := I.rsz
  have L := I.lock
  have hxi : xIdx l.pc = none := by
    cases hi : xIdx l.pc with
    | none => rfl
    | some j => rw [xPc_of_xIdx hi] at hx; cases hx
  have hcell : (∃ h, cellAt s (cidOf s l) = .list h) ∨
      ∃ b, binRef l.pc = some b ∧ cellAt s (cidOf s l) = .tree b := by
    rcases validated_cases hv with ⟨h, h1⟩ | ⟨b, h2⟩
    · exact Or.inl ⟨h, L.vL t l h hl h1⟩
    · exact Or.inr ⟨b, binRef_of_holdsMutex (holdsMutex_of_validT h2), L.vT t l b hl h2⟩
  have hnm : cellAt s (cidOf s l) ≠ .moved := by
    rcases hcell with ⟨h, hc⟩ | ⟨b, _, hc⟩ <;> rw [hc] <;> intro h <;> cases h
  refine ⟨?_, ?_, ?_⟩
  · -- the cell holds a list or a `TreeBin`: it is of generation `cur`, or of `cur + 1` behind a marker
    rcases X.gen_cases (cidOf s l) with he | hm | hg | hg
    · rcases hcell with ⟨h, hc⟩ | ⟨b, _, hc⟩ <;> rw [hc] at he <;> cases he
    · exact absurd hm hnm
    · exact Or.inl ⟨hg, hnm⟩
    · refine Or.inr ⟨hg, ?_⟩
      cases hg' : tabOf l.pc with
      | none =>
        have hid : cidOf s l = (0, 0) := by unfold cidOf; rw [hxi, hg']
        rw [hid] at hg
        exact absurd hg (Nat.succ_ne_zero _).symm
      | some g =>
        have hid : cidOf s l = idOf g (keyOf l) := by unfold cidOf; rw [hxi, hg']
        rw [hid] at hg ⊢
        have hg1 : g = s.cur + 1 := hg
        have := (X.tabNew t l g hl hg').2 hg1
        subst hg1
        show cellAt s (s.cur, keyOf l % 2 ^ (s.cur + 1) % 2 ^ s.cur) = .moved
        rw [mod_succ_mod]; exact this
  · -- the resizing thread with pending structures for this cell would be a second validated thread in it
    intro t2 l2 hl2 hg2 hi2
    apply Classical.byContradiction
    intro hpe
    have hx2 : xPc l2.pc = true := xPc_of_xIdx hi2
    obtain ⟨_, _, _, _, _, _, hv2, _⟩ := pend_plan hx2 hpe
    have hid2 : cidOf s l2 = cidOf s l := by
      have e : ∀ j, xIdx l2.pc = some j → cidOf s l2 = (s.cur, j) := by
        intro j hj; unfold cidOf; rw [hj]
      rw [e _ hi2, ← hg2]
    have hne : t2 ≠ t := by
      rintro rfl
      rw [hl] at hl2; cases hl2
      rw [hx] at hx2; cases hx2
    exact hne (L.valid_unique hl2 hl hv2 hv hid2)
  · intro b hb
    rcases hcell with ⟨h, hc⟩ | ⟨b', hr, hc⟩
    · rw [hc] at hb; cases hb
    · rw [hc] at hb; cases hb
      exact (L.refOK t l b hl hr).2

end Flurry.Proto.BinGNP
