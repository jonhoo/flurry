import Flurry.Lemmas.ListSet
import Flurry.Lemmas.BinGLin
/-! # Proto/BinG at quiescence: what an iterator yields is what lookups find (C05)

`liveCells s`: the cells a lookup that starts now can end in (`[cell0]` until the forwarding marker is
stored, `[lowCell, highCell]` afterwards). `entries s`: the (key, value) pairs of the nodes on the lists
of the live cells, in list order — what an iterator that starts now and runs alone yields (for a tree
bin the iterator walks the `first` / `next` list, `chainOfBin`).

From the structural invariant `Inv` (`Lemmas/BinGInv.lean`):
* `entries_keys_nodup`, `mem_entries_iff_absOf`, `entries_own_cell`: no key twice (across both live
  cells), iteration = lookup, every entry in the cell its key selects — in EVERY reachable state (these
  are facts about the lists; quiescence is what makes `absOf` the value lookups *return*, by
  `binG_linearizable_quiescent`);
* `quiescent_node_unlocked`, `quiescent_bin_unlocked`: at quiescence no lock word, mutex, write lock,
  waiter bit or read lock is held;
* `entries_linearized`: at quiescence the history of a yielded key linearizes to "present with the
  yielded value", that of any other key to "absent".
The all-or-nothing statement about the resize is in `Lemmas/BinGCommit.lean`, which proves the invariant it needs
(`Committed`). -/
namespace Flurry.Proto.BinG
open Flurry.Lin
open Flurry.Proto.BinK (nodeAt binAt)

/-- the cells a lookup that starts now can end in -/
def liveCells (s : State) : List Cell :=
  if s.cell0 = .moved then [s.lowCell, s.highCell] else [s.cell0]

/-- the (key, value) pairs on the list of the structure in cell `c`, in list order -/
def entriesOfCell (s : State) (c : Cell) : List (Nat × (Nat × Nat)) :=
  (chainOfCell s c).map fun i => ((s.heap.getD i dflt).key, (s.heap.getD i dflt).val)

/-- what an iterator that starts now and runs alone yields: the entries of the live cells -/
def entries (s : State) : List (Nat × (Nat × Nat)) := (liveCells s).flatMap (entriesOfCell s)

theorem mem_entriesOfCell {s : State} {c : Cell} {k : Nat} {v : Nat × Nat} :
    (k, v) ∈ entriesOfCell s c ↔ ∃ i ∈ chainC s c, (nodeAt s.heap i).key = k ∧ (nodeAt s.heap i).val = v := by
  unfold entriesOfCell
  rw [chainOfCell_eq, List.mem_map]
  constructor
  · rintro ⟨i, hi, he⟩
    simp only [Prod.mk.injEq] at he
    exact ⟨i, hi, he.1, he.2⟩
  · rintro ⟨i, hi, hk, hv⟩
    exact ⟨i, hi, by simp only [Prod.mk.injEq]; exact ⟨hk, hv⟩⟩

theorem entriesOfCell_keys (s : State) (c : Cell) :
    (entriesOfCell s c).map (·.1) = (chainC s c).map fun i => (nodeAt s.heap i).key := by
  unfold entriesOfCell
  rw [chainOfCell_eq, List.map_map]
  rfl

theorem entries_not_moved {s : State} (h : s.cell0 ≠ .moved) : entries s = entriesOfCell s s.cell0 := by
  unfold entries liveCells
  rw [if_neg h]
  simp

theorem entries_moved {s : State} (h : s.cell0 = .moved) :
    entries s = entriesOfCell s s.lowCell ++ entriesOfCell s s.highCell := by
  unfold entries liveCells
  rw [if_pos h]
  simp

theorem cell_keys_nodup {s : State} (H : HInv s) (id : Cid) :
    ((entriesOfCell s (cellAt s id)).map (·.1)).Nodup := by
  rw [entriesOfCell_keys]
  have C := H.cinv id
  have hnd : (chainC s (cellAt s id)).Nodup := C.nodup
  unfold List.Nodup
  rw [List.pairwise_map]
  refine List.Pairwise.imp_of_mem ?_ hnd
  intro a b ha hb hab hk
  exact hab (C.distinct a b ha hb hk)

/-- an entry of a cell of the next table is on the side of that cell -/
theorem cell_side {s : State} (H : HInv s) {id : Cid} (hid : id ≠ .c0) {k : Nat} {v : Nat × Nat}
    (h : (k, v) ∈ entriesOfCell s (cellAt s id)) : hiBit k = sideOf id := by
  obtain ⟨i, hi, hk, -⟩ := mem_entriesOfCell.1 h
  rw [← hk]
  exact H.side id hid i (Or.inl hi)

theorem entries_keys_nodup {s : State} (H : HInv s) : ((entries s).map (·.1)).Nodup := by
  by_cases hm : s.cell0 = .moved
  · rw [entries_moved hm, List.map_append, List.nodup_append]
    refine ⟨cell_keys_nodup H .lo, cell_keys_nodup H .hi, ?_⟩
    intro a ha b hb hab
    obtain ⟨⟨k, v⟩, hx, rfl⟩ := List.mem_map.1 ha
    obtain ⟨⟨k', v'⟩, hy, rfl⟩ := List.mem_map.1 hb
    have h1 := cell_side H (id := .lo) (by decide) hx
    have h2 := cell_side H (id := .hi) (by decide) hy
    simp only at hab
    subst hab
    rw [h1] at h2
    cases h2
  · rw [entries_not_moved hm]
    exact cell_keys_nodup H .c0

theorem entries_own_cell {s : State} (H : HInv s) {k : Nat} {v : Nat × Nat} :
    ((k, v) ∈ entriesOfCell s s.lowCell → hiBit k = false) ∧
    ((k, v) ∈ entriesOfCell s s.highCell → hiBit k = true) :=
  ⟨fun h => cell_side H (id := .lo) (by decide) h, fun h => cell_side H (id := .hi) (by decide) h⟩

/-- an entry is on the list of the cell a lookup of its key ends in -/
theorem entries_in_liveCell {s : State} (H : HInv s) {k : Nat} {v : Nat × Nat} :
    (k, v) ∈ entries s ↔ (k, v) ∈ entriesOfCell s (liveCell s k) := by
  rw [liveCell_eq H]
  unfold liveId
  by_cases hm : s.cell0 = .moved
  · rw [entries_moved hm, if_pos hm, List.mem_append]
    unfold idOf
    dsimp only
    constructor
    · rintro (h | h)
      · rw [if_neg (by rw [(entries_own_cell H).1 h]; decide)]; exact h
      · rw [if_pos ((entries_own_cell H).2 h)]; exact h
    · intro h
      by_cases hb : hiBit k = true
      · rw [if_pos hb] at h; exact Or.inr h
      · rw [if_neg hb] at h; exact Or.inl h
  · rw [entries_not_moved hm, if_neg hm]
    rfl

theorem mem_entries_iff_absOf {s : State} (H : HInv s) (k : Nat) (v : Nat × Nat) :
    (k, v) ∈ entries s ↔ absOf s k = some v := by
  rw [entries_in_liveCell H, mem_entriesOfCell, absOf_eq]
  unfold LC
  have hd : ∀ i j, i ∈ chainC s (liveCell s k) → j ∈ chainC s (liveCell s k) →
      (nodeAt s.heap i).key = (nodeAt s.heap j).key → i = j := by
    rw [liveCell_eq H]
    exact (H.cinv (liveId s k)).distinct
  rw [Flurry.Proto.BinK.absL_eq_some_iff hd]

theorem quiescent_node_unlocked {s : State} (I : Inv s) (hq : quiescent s) (j : Nat) :
    (nodeAt s.heap j).lock = none := I.lock.lkOwned.free (fun l hl => by rw [hq l hl]; rfl) j

theorem quiescent_mutex_free {s : State} (I : Inv s) (hq : quiescent s) (b : Nat) :
    (binAt s.tbins b).mutex = none := I.lock.mxOwned.free (fun l hl => by rw [hq l hl]; rfl) b

theorem quiescent_no_readers {s : State} (I : Inv s) (hq : quiescent s) {b : Nat} (hb : b < s.tbins.length) :
    (binAt s.tbins b).readers = 0 := I.lock.rwOK.no_readers (fun l hl => by rw [hq l hl]; rfl) hb

theorem quiescent_bin_unlocked {s : State} (I : Inv s) (hq : quiescent s) {id : Cid} {b : Nat}
    (hc : cellAt s id = .tree b) :
    (binAt s.tbins b).mutex = none ∧ (binAt s.tbins b).writer = false ∧ (binAt s.tbins b).waiter = false ∧
      (binAt s.tbins b).readers = 0 := by
  have hm := quiescent_mutex_free I hq b
  obtain ⟨hw, hwt⟩ := I.lock.bitsNone id b hc hm
  exact ⟨hm, hw, hwt, quiescent_no_readers I hq (I.heap.cellOK id b hc)⟩

theorem liveCells_sub {s : State} {c : Cell} (h : c ∈ liveCells s) : ∃ id, c = cellAt s id := by
  unfold liveCells at h
  split at h
  · simp only [List.mem_cons, List.not_mem_nil, or_false] at h
    rcases h with rfl | rfl
    · exact ⟨.lo, rfl⟩
    · exact ⟨.hi, rfl⟩
  · simp only [List.mem_cons, List.not_mem_nil, or_false] at h
    exact ⟨.c0, h⟩

theorem liveCells_not_moved {s : State} (H : HInv s) {c : Cell} (h : c ∈ liveCells s) : c ≠ .moved := by
  unfold liveCells at h
  split at h
  · simp only [List.mem_cons, List.not_mem_nil, or_false] at h
    rcases h with rfl | rfl
    · exact H.newNotMoved.1
    · exact H.newNotMoved.2
  · simp only [List.mem_cons, List.not_mem_nil, or_false] at h
    subst h
    assumption

/-- at quiescence the history of a yielded key linearizes to "present with the yielded value", that of
any other key to "absent" -/
theorem entries_linearized {n : Nat} {s : State} (hr : Reachable n s) (hq : quiescent s) (k : Nat) :
    (∀ v, (k, v) ∈ entries s → Lin.Linearizable (callsOn s k) none (some v)) ∧
    (k ∉ (entries s).map (·.1) → Lin.Linearizable (callsOn s k) none none) := by
  have H := (reachable_inv hr).heap
  have hlin := binG_linearizable_quiescent_aux hr hq k
  constructor
  · intro v hv
    rw [← (mem_entries_iff_absOf H k v).1 hv]
    exact hlin
  · intro hk
    have : absOf s k = none := by
      cases ha : absOf s k with
      | none => rfl
      | some v => exact absurd ((mem_keys_iff_lookup (mem_entries_iff_absOf H) k).2 (by rw [ha]; exact fun e => by cases e)) hk
    rw [this] at hlin
    exact hlin

theorem liveCell_mem_liveCells {s : State} (H : HInv s) (k : Nat) : liveCell s k ∈ liveCells s := by
  rw [liveCell_eq H]
  unfold liveId liveCells idOf
  by_cases hm : s.cell0 = .moved
  · rw [if_pos hm, if_pos hm]
    dsimp only
    split <;> simp [cellAt]
  · rw [if_neg hm, if_neg hm]
    simp [cellAt]

/-- all the locks of the structures in the live cells are free: no node on a live list has its lock word
taken, a `TreeBin` in a live cell has its mutex, write lock, waiter bit and reader count clear -/
theorem quiescent_live_unlocked {s : State} (I : Inv s) (hq : quiescent s) {c : Cell} (hc : c ∈ liveCells s) :
    (∀ j ∈ chainOfCell s c, (nodeAt s.heap j).lock = none) ∧
    ∀ b, c = .tree b → (binAt s.tbins b).mutex = none ∧ (binAt s.tbins b).writer = false ∧
      (binAt s.tbins b).waiter = false ∧ (binAt s.tbins b).readers = 0 := by
  refine ⟨fun j _ => quiescent_node_unlocked I hq j, ?_⟩
  intro b hb
  obtain ⟨id, hid⟩ := liveCells_sub hc
  exact quiescent_bin_unlocked I hq (id := id) (by rw [← hid, hb])

end Flurry.Proto.BinG
