import Flurry.Lemmas.BinNGenFrame
/-! # Proto/BinN: the generation invariant — `ThrOK` of the acting thread after each kind of transition; allocation and commit -/
namespace Flurry.Proto.BinN
open Flurry.Lin
open Flurry.Proto.BinX (NodeS Cell Pending isReader dflt chainFrom cellHead cellOfHead get_set get_set_self get_set_ne)

theorem isT_of_tIdx {pc : Pc} {j : Nat} (h : tIdx pc = some j) : isT pc := by
  cases pc with
  | tCell _ | tCasMoved _ | tLock _ _ | tCheck _ _ | tBuild _ _ | tStoreLow _ _ _ _ | tStoreHigh _ _ _
  | tStoreMoved _ _ | tUnlock _ _ => trivial
  | _ => cases h

theorem not_isT_of_genOfPc {pc : Pc} {g : Nat} (h : genOfPc pc = some g) : ¬ isT pc := by
  cases pc with
  | rCell _ | wCell _ | wCas _ | wLock _ _ | wCheck _ _ | wFind _ _ _ _ | wStore _ _ _ _ _ | wUnlock _ _ _ _ =>
    exact fun h => h
  | _ => cases h

/-- a thread whose program counter refers to no generation, no cell and no lock -/
theorem thrOK_plain (s : State) (t : Nat) {l : Local} (h1 : ¬ isT l.pc) (h2 : genOfPc l.pc = none)
    (h3 : ∀ h, ¬ Holds l.pc h) (h4 : vcell s.cur l = none) : ThrOK s t l :=
  ⟨fun h => absurd h h1, fun p g _ hg => (by rw [h2] at hg; cases hg), fun j hj => absurd (isT_of_tIdx hj) h1,
    fun hc => (by rw [hc] at h1; exact absurd trivial h1), fun h hh => absurd hh (h3 h),
    fun g j h hv => (by rw [h4] at hv; cases hv)⟩

theorem thrOK_idle (s : State) (t : Nat) (c : Option Pending) : ThrOK s t { pc := .idle, call := c } :=
  thrOK_plain s t (fun h => h) rfl (fun _ h => h) rfl

theorem thrOK_invoke (s : State) (t : Nat) (op : KOp) (c : Option Pending) :
    ThrOK s t { pc := if isReader op then .rTable else .wTable, call := c } := by
  cases isReader op
  · exact thrOK_plain s t (fun h => h) rfl (fun _ h => h) rfl
  · exact thrOK_plain s t (fun h => h) rfl (fun _ h => h) rfl

/-- a validated writer: its cell is the cell of its key in the generation it works in -/
theorem vcell_writer {cur : Nat} {l : Local} {g j h : Nat} (hv : vcell cur l = some (g, j, h)) (hT : ¬ isT l.pc) :
    ∃ p, l.call = some p ∧ genOfPc l.pc = some g ∧ j = p.key % 2 ^ g := by
  obtain ⟨pc, call⟩ := l
  cases pc with
  | wFind _ _ _ _ | wStore _ _ _ _ _ =>
    cases call with
    | none => cases hv
    | some p => cases hv; exact ⟨p, rfl, rfl, rfl⟩
  | tBuild _ _ | tStoreLow _ _ _ _ | tStoreHigh _ _ _ | tStoreMoved _ _ => exact absurd trivial hT
  | _ => cases hv

theorem vcell_cur_indep {c c' : Nat} {l : Local} (hT : ¬ isT l.pc) : vcell c l = vcell c' l := by
  obtain ⟨pc, call⟩ := l
  cases pc with
  | wFind _ _ _ _ | wStore _ _ _ _ _ => cases call <;> rfl
  | tBuild _ _ | tStoreLow _ _ _ _ | tStoreHigh _ _ _ | tStoreMoved _ _ => exact absurd trivial hT
  | _ => rfl

theorem thrOK_w (s : State) (t : Nat) {l : Local} (h1 : ¬ isT l.pc)
    (hgen : ∀ p g, l.call = some p → genOfPc l.pc = some g →
      g ≤ s.cur + 1 ∧ (g = s.cur + 1 → cellOf s s.cur p.key = .moved))
    (hheld : ∀ h, Holds l.pc h → h < s.heap.length ∧ lockAt s.heap h = some t)
    (hvalid : ∀ g j h, vcell s.cur l = some (g, j, h) → cellAt s g j = .node h ∧ Holds l.pc h) : ThrOK s t l :=
  ⟨fun h => absurd h h1, hgen, fun j hj => absurd (isT_of_tIdx hj) h1,
    fun hc => (by rw [hc] at h1; exact absurd trivial h1), hheld, hvalid⟩

theorem thrOK_t (s : State) (t : Nat) {l : Local} (R : s.resizing = true) (hT : isT l.pc)
    (hidx : ∀ j, tIdx l.pc = some j → j < 2 ^ s.cur)
    (hcommit : l.pc = .tCommit → ∀ j, j < 2 ^ s.cur → cellAt s s.cur j = .moved)
    (hheld : ∀ h, Holds l.pc h → h < s.heap.length ∧ lockAt s.heap h = some t)
    (hvalid : ∀ g j h, vcell s.cur l = some (g, j, h) → cellAt s g j = .node h ∧ Holds l.pc h) : ThrOK s t l :=
  ⟨fun _ => R, fun _ _ _ hg => absurd hT (not_isT_of_genOfPc hg), hidx, hcommit, hheld, hvalid⟩

/-- following a forwarding marker: the thread goes on to generation `g + 1` -/
theorem gen_follow {s : State} (I : GenInv s) {g k : Nat}
    (hg : g ≤ s.cur + 1 ∧ (g = s.cur + 1 → cellOf s s.cur k = .moved)) (hm : cellOf s g k = .moved) :
    g + 1 ≤ s.cur + 1 ∧ (g + 1 = s.cur + 1 → cellOf s s.cur k = .moved) := by
  have hne : g ≠ s.cur + 1 := by
    intro e
    rw [e] at hm
    exact I.nextOK _ hm
  refine ⟨by omega, ?_⟩
  intro e
  have : g = s.cur := by omega
  rw [← this]; exact hm

theorem Move.thrOK {s : State} {t : Nat} {p : Pending} {pc pc' : Pc} (I : GenInv s) (hm : Move s p pc pc')
    (T : ThrOK s t { pc := pc, call := some p }) : ThrOK s t { pc := pc', call := some p } := by
  have G := fun g (hg : genOfPc pc = some g) => T.gen p g rfl hg
  cases hm with
  | rTable =>
    refine thrOK_w s t (fun h => h) ?_ (fun h hh => hh.elim) (fun g j h hv => by cases hv)
    intro p' g hp hg
    cases hp; cases hg
    exact ⟨by omega, fun e => by omega⟩
  | wTable =>
    refine thrOK_w s t (fun h => h) ?_ (fun h hh => hh.elim) (fun g j h hv => by cases hv)
    intro p' g hp hg
    cases hp; cases hg
    exact ⟨by omega, fun e => by omega⟩
  | rCellMoved hc =>
    refine thrOK_w s t (fun h => h) ?_ (fun h hh => hh.elim) (fun g j h hv => by cases hv)
    intro p' g hp hg
    cases hp; cases hg
    exact gen_follow I (G _ rfl) hc
  | wCellMoved hc =>
    refine thrOK_w s t (fun h => h) ?_ (fun h hh => hh.elim) (fun g j h hv => by cases hv)
    intro p' g hp hg
    cases hp; cases hg
    exact gen_follow I (G _ rfl) hc
  | rCellNode hc => exact thrOK_plain s t (fun h => h) rfl (fun _ h => h) rfl
  | rNext hn hk => exact thrOK_plain s t (fun h => h) rfl (fun _ h => h) rfl
  | wCellEmpty hc hi =>
    refine thrOK_w s t (fun h => h) ?_ (fun h hh => hh.elim) (fun g j h hv => by cases hv)
    intro p' g hp hg
    cases hp; cases hg
    exact G _ rfl
  | wCellNode hc =>
    refine thrOK_w s t (fun h => h) ?_ (fun h hh => hh.elim) (fun g j h hv => by cases hv)
    intro p' g hp hg
    cases hp; cases hg
    exact G _ rfl
  | casFail =>
    refine thrOK_w s t (fun h => h) ?_ (fun h hh => hh.elim) (fun g j h hv => by cases hv)
    intro p' g hp hg
    cases hp; cases hg
    exact G _ rfl
  | @checkOk g h hc =>
    refine thrOK_w s t (fun h => h) ?_ (fun h' hh => T.held h' hh) ?_
    · intro p' g hp hg
      cases hp; cases hg
      exact G _ rfl
    · intro g' j' h' hv
      simp only [vcell, Option.some.injEq, Prod.mk.injEq] at hv
      obtain ⟨rfl, rfl, rfl⟩ := hv
      exact ⟨hc, rfl⟩
  | checkFail hc =>
    refine thrOK_w s t (fun h => h) ?_ (fun h' hh => T.held h' hh) (fun g j h hv => by cases hv)
    intro p' g hp hg
    cases hp; cases hg
    exact G _ rfl
  | findEnd =>
    refine thrOK_w s t (fun h => h) ?_ (fun h' hh => T.held h' hh) (fun g' j' h' hv => T.valid g' j' h' hv)
    intro p' g hp hg
    cases hp; cases hg
    exact G _ rfl
  | findHit hn hk =>
    refine thrOK_w s t (fun h => h) ?_ (fun h' hh => T.held h' hh) (fun g' j' h' hv => T.valid g' j' h' hv)
    intro p' g hp hg
    cases hp; cases hg
    exact G _ rfl
  | findNext hn hk =>
    refine thrOK_w s t (fun h => h) ?_ (fun h' hh => T.held h' hh) (fun g' j' h' hv => T.valid g' j' h' hv)
    intro p' g hp hg
    cases hp; cases hg
    exact G _ rfl

theorem TMove.thrOK {s : State} {t : Nat} {pick : Nat} {pc pc' : Pc} {c : Option Pending} (I : GenInv s)
    (hm : TMove s pick pc pc') (T : ThrOK s t { pc := pc, call := c }) : ThrOK s t { pc := pc', call := c } := by
  have R : s.resizing = true := T.tres (by cases hm <;> trivial)
  cases hm with
  | nextDone ha =>
    refine thrOK_t s t R trivial (fun j h => by cases h) (fun _ => I.of_allMoved ha) (fun h hh => hh.elim) ?_
    intro g j h hv; cases c <;> cases hv
  | nextPick ha =>
    refine thrOK_t s t R trivial ?_ (fun h => by cases h) (fun h hh => hh.elim) ?_
    · intro j hj
      cases hj
      exact mod_lt_pow _ _
    · intro g j h hv; cases c <;> cases hv
  | cellEmpty hc =>
    refine thrOK_t s t R trivial (fun j hj => by cases hj; exact T.idx _ rfl) (fun h => by cases h) (fun h hh => hh.elim) ?_
    intro g j h hv; cases c <;> cases hv
  | cellNode hc =>
    refine thrOK_t s t R trivial (fun j hj => by cases hj; exact T.idx _ rfl) (fun h => by cases h) (fun h hh => hh.elim) ?_
    intro g j h hv; cases c <;> cases hv
  | cellMoved hc =>
    refine thrOK_t s t R trivial (fun j hj => by cases hj) (fun h => by cases h) (fun h hh => hh.elim) ?_
    intro g j h hv; cases c <;> cases hv
  | casFail hc =>
    refine thrOK_t s t R trivial (fun j hj => by cases hj; exact T.idx _ rfl) (fun h => by cases h) (fun h hh => hh.elim) ?_
    intro g j h hv; cases c <;> cases hv
  | @checkOk j h hc =>
    refine thrOK_t s t R trivial (fun j hj => by cases hj; exact T.idx _ rfl) (fun h => by cases h)
      (fun h' hh => T.held h' hh) ?_
    intro g' j' h' hv
    have : (s.cur, j, h) = (g', j', h') := by cases c <;> exact Option.some.inj hv
    cases this
    exact ⟨hc, rfl⟩

theorem ThrOK.alloc {s s' : State} {t : Nat} {l : Local} (T : ThrOK s t l) (hnT : ¬ isT l.pc)
    (hcell : ∀ g j, cellAt s' g j = cellAt s g j) (hc : s'.cur = s.cur) (hh : s'.heap = s.heap) : ThrOK s' t l := by
  refine thrOK_w _ _ hnT ?_ (by rw [hh]; exact T.held) ?_
  · intro p g hp hg
    obtain ⟨a, b⟩ := T.gen p g hp hg
    rw [hc]
    exact ⟨a, fun e => by unfold cellOf; rw [hcell]; exact b e⟩
  · intro g j h hv
    rw [hc] at hv
    rw [hcell]; exact T.valid g j h hv

theorem ThrOK.commit_w {s s' : State} {t : Nat} {l : Local} (T : ThrOK s t l) (hnT : ¬ isT l.pc)
    (ht : s'.tabs = s.tabs) (hc : s'.cur = s.cur + 1) (hh : s'.heap = s.heap) : ThrOK s' t l := by
  refine thrOK_w _ _ hnT ?_ (by rw [hh]; exact T.held) ?_
  · intro p g hp hg
    obtain ⟨a, -⟩ := T.gen p g hp hg
    rw [hc]
    exact ⟨by omega, fun e => by omega⟩
  · intro g j h hv
    rw [cellAt_eq, ht]
    have : vcell s.cur l = some (g, j, h) := by rw [vcell_cur_indep (c' := s'.cur) hnT]; exact hv
    exact T.valid g j h this

theorem geninv_alloc {s s' : State} (I : GenInv s) (hr : s.resizing = false)
    (ht : s'.tabs = s.tabs ++ [List.replicate (2 ^ (s.cur + 1)) .empty]) (hc : s'.cur = s.cur)
    (hr' : s'.resizing = true)
    (hu : ∀ (t t' : Nat) (l l' : Local), s'.threads[t]? = some l → s'.threads[t']? = some l' →
      isT l.pc → isT l'.pc → t = t')
    (hthr : ∀ (t : Nat) (l : Local), s'.threads[t]? = some l → ThrOK s' t l) : GenInv s' := by
  have hcell : ∀ g j, cellAt s' g j = cellAt s g j := fun g j => by
    rw [cellAt_eq, cellAt_eq, ht]; exact cellT_alloc _ _ _ _
  have hlen : s.tabs.length = s.cur + 1 := by have := I.len; rw [hr] at this; simpa using this
  refine ⟨?_, ?_, ?_, ?_, fun _ _ => hr', hu, hthr⟩
  · rw [ht, hc, hr', List.length_append, hlen]; rfl
  · intro g row h
    rw [ht] at h
    by_cases hg : g < s.tabs.length
    · rw [List.getElem?_append_left hg] at h
      exact I.rows g row h
    · rw [List.getElem?_append_right (by omega)] at h
      by_cases h0 : g - s.tabs.length = 0
      · rw [h0] at h
        simp only [List.getElem?_cons_zero, Option.some.injEq] at h
        rw [← h, List.length_replicate]
        have : g = s.cur + 1 := by omega
        rw [this]
      · rw [List.getElem?_eq_none (by simp; omega)] at h; cases h
  · intro g j hg hj; rw [hcell]; rw [hc] at hg; exact I.old g j hg hj
  · intro j; rw [hcell, hc]; exact I.nextOK j

theorem geninv_commit {s s' : State} (I : GenInv s) (R : s.resizing = true)
    (hall : ∀ j, j < 2 ^ s.cur → cellAt s s.cur j = .moved)
    (ht : s'.tabs = s.tabs) (hc : s'.cur = s.cur + 1) (hr' : s'.resizing = false)
    (hu : ∀ (t t' : Nat) (l l' : Local), s'.threads[t]? = some l → s'.threads[t']? = some l' →
      isT l.pc → isT l'.pc → t = t')
    (hthr : ∀ (t : Nat) (l : Local), s'.threads[t]? = some l → ThrOK s' t l) : GenInv s' := by
  have hlen : s.tabs.length = s.cur + 2 := by have := I.len; rw [R] at this; simpa using this
  have hcell : ∀ g j, cellAt s' g j = cellAt s g j := fun g j => by rw [cellAt_eq, cellAt_eq, ht]
  refine ⟨?_, by rw [ht]; exact I.rows, ?_, ?_, ?_, hu, hthr⟩
  · rw [ht, hc, hr', hlen]; rfl
  · intro g j hg hj
    rw [hcell]
    by_cases h : g < s.cur
    · exact I.old g j h hj
    · have : g = s.cur := by omega
      subst this
      exact hall j hj
  · intro j
    rw [hcell, hc, cellAt_eq]
    have e : s.tabs.getD (s.cur + 1 + 1) [] = [] := by
      rw [List.getD_eq_getElem?_getD, List.getElem?_eq_none (by omega)]; rfl
    unfold cellT
    rw [e]; simp
  · intro j hm
    rw [hcell, hc] at hm
    exact absurd hm (I.nextOK j)

end Flurry.Proto.BinN
