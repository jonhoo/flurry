import Flurry.RBInv
/-! # Tree bins: what insertion, lookup and deletion share

The order `lt`, colours, the in-order listing of a zipper, black heights, the invariant of a path
(`Del.CI`, with `plug` / `unplug` to move between a tree and a focus in its path; the namespace
`Del` is opened by the insertion lemmas too), and the equivalence of the executable checker
`treeInvB` with `TreeInv`. -/
namespace Flurry.RB
open T Ctx

theorem lt_trans {a b c : Node} (h1 : lt a b) (h2 : lt b c) : lt a c := by unfold lt at *; omega

/-- `descend` and `locate` go by `lt`: the right-hand sides are `lt e x` and `lt x e` for a node
`e` with hash `h` and key `k` -/
theorem ltHK_iff {h k : Nat} {x : Node} :
    ltHK h k x = true ↔ h < x.hash ∨ (h = x.hash ∧ k < x.key) := by simp [ltHK]

theorem gtHK_iff {h k : Nat} {x : Node} :
    gtHK h k x = true ↔ x.hash < h ∨ (x.hash = h ∧ x.key < k) := by
  simp only [gtHK, Bool.or_eq_true, Bool.and_eq_true, decide_eq_true_eq, beq_iff_eq]; omega

theorem key_eq_of_stop {h k : Nat} {x : Node} (h1 : ¬ ltHK h k x = true) (h2 : ¬ gtHK h k x = true) :
    x.hash = h ∧ x.key = k := by
  rw [ltHK_iff] at h1; rw [gtHK_iff] at h2; omega

def NoKey (h k : Nat) (ns : List Node) : Prop := ∀ y ∈ ns, ¬(y.hash = h ∧ y.key = k)

theorem NoKey.of_above {h k : Nat} {x : Node} {ns : List Node} (hx : ∀ y ∈ ns, lt x y)
    (hk : h < x.hash ∨ (h = x.hash ∧ k ≤ x.key)) : NoKey h k ns := fun y hy => by
  have := hx y hy; unfold lt at this; omega

theorem NoKey.of_below {h k : Nat} {x : Node} {ns : List Node} (hx : ∀ y ∈ ns, lt y x)
    (hk : x.hash < h ∨ (x.hash = h ∧ x.key ≤ k)) : NoKey h k ns := fun y hy => by
  have := hx y hy; unfold lt at this; omega

theorem filter_noKey {h k : Nat} {ns : List Node} (hn : NoKey h k ns) :
    ns.filter (fun x => !(x.hash == h && x.key == k)) = ns :=
  List.filter_eq_self.2 fun x hx => by
    simpa only [Bool.not_eq_true', Bool.and_eq_false_iff, beq_eq_false_iff_ne, ne_eq,
      Classical.not_and_iff_not_or_not] using hn x hx

@[simp] theorem isRed_node (c : Bool) (l : T) (e : Node) (r : T) : isRed (node c l e r) = c := by
  cases c <;> rfl

@[simp] theorem isRed_blacken (t : T) : isRed (blacken t) = false := by cases t <;> rfl

@[simp] theorem toList_blacken (t : T) : toList (blacken t) = toList t := by cases t <;> rfl

theorem blacken_of_black {t : T} (h : isRed t = false) : blacken t = t := by
  rcases t with _ | ⟨c, _, _, _⟩
  · rfl
  · rw [isRed_node] at h; subst h; rfl

theorem all_iff (p : Node → Prop) (t : T) : All p t ↔ ∀ x ∈ toList t, p x := by
  induction t with
  | nil => simp [All, toList]
  | node c l e r ihl ihr =>
    simp only [All, toList, ihl, ihr, List.mem_append, List.mem_cons]
    exact ⟨fun ⟨h1, h2, h3⟩ x hx => hx.elim (h2 x) fun hx => hx.elim (· ▸ h1) (h3 x),
      fun h => ⟨h _ (.inr (.inl rfl)), fun x hx => h x (.inl hx), fun x hx => h x (.inr (.inr hx))⟩⟩

theorem bst_iff_pairwise (t : T) : BST t ↔ (toList t).Pairwise lt := by
  induction t with
  | nil => simp [BST, toList]
  | node c l e r ihl ihr =>
    simp only [BST, toList, all_iff, ihl, ihr, List.pairwise_append, List.pairwise_cons,
      List.mem_cons]
    constructor
    · rintro ⟨h1, h2, h3, h4⟩
      refine ⟨h3, ⟨h2, h4⟩, ?_⟩
      rintro a ha b (rfl | hb)
      · exact h1 a ha
      · exact lt_trans (h1 a ha) (h2 b hb)
    · rintro ⟨h1, ⟨h2, h3⟩, h4⟩
      exact ⟨fun x hx => h4 x hx e (Or.inl rfl), h2, h1, h3⟩

theorem size_eq_length (t : T) : size t = (toList t).length := by
  induction t with
  | nil => rfl
  | node c l e r ihl ihr => simp only [size, toList, List.length_append, List.length_cons, ihl, ihr]; omega

/-- entries to the left of the hole, in order -/
def ctxL : Ctx → List Node
  | top => []
  | left _ _ _ up => ctxL up
  | right _ l e up => ctxL up ++ (toList l ++ [e])

/-- entries to the right of the hole, in order -/
def ctxR : Ctx → List Node
  | top => []
  | left _ e r up => e :: toList r ++ ctxR up
  | right _ _ _ up => ctxR up

theorem toList_zip (t : T) (c : Ctx) : toList (zip t c) = ctxL c ++ toList t ++ ctxR c := by
  induction c generalizing t with
  | top => simp [zip, ctxL, ctxR]
  | left c e r up ih => simp [zip, ctxL, ctxR, ih, toList]
  | right c l e up ih => simp [zip, ctxL, ctxR, ih, toList]

theorem ctxL_append (a b : Ctx) : ctxL (a.append b) = ctxL b ++ ctxL a := by
  induction a <;> simp_all [Ctx.append, ctxL]

theorem ctxR_append (a b : Ctx) : ctxR (a.append b) = ctxR a ++ ctxR b := by
  induction a <;> simp_all [Ctx.append, ctxR]

theorem zip_append (t : T) (a b : Ctx) : zip t (a.append b) = zip (zip t a) b := by
  induction a generalizing t <;> simp_all [Ctx.append, zip]

@[simp] theorem BH_nil {n : Nat} : BH nil n ↔ n = 0 :=
  ⟨fun h => by cases h; rfl, fun h => h ▸ BH.nil⟩

@[simp] theorem BH_red {l r : T} {e : Node} {n : Nat} :
    BH (node true l e r) n ↔ BH l n ∧ BH r n :=
  ⟨fun h => by cases h; constructor <;> assumption, fun ⟨a, b⟩ => BH.red a b⟩

@[simp] theorem BH_black_succ {l r : T} {e : Node} {n : Nat} :
    BH (node false l e r) (n + 1) ↔ BH l n ∧ BH r n :=
  ⟨fun h => by cases h; constructor <;> assumption, fun ⟨a, b⟩ => BH.black a b⟩

@[simp] theorem BH_black_zero {l r : T} {e : Node} : ¬ BH (node false l e r) 0 :=
  fun h => by cases h

theorem BH_black {l r : T} {e : Node} {n : Nat} :
    BH (node false l e r) n ↔ ∃ m, n = m + 1 ∧ BH l m ∧ BH r m := by
  cases n <;> simp

theorem BH_node {c : Bool} {l r : T} {e : Node} {m : Nat} :
    BH (node c l e r) m ↔ ∃ n, m = (if c then n else n + 1) ∧ BH l n ∧ BH r n := by
  cases c <;> simp [BH_black]

theorem BH_blacken_red {t : T} {n : Nat} (hr : isRed t = true) (h : BH t n) :
    BH (blacken t) (n + 1) := by
  rcases t with _ | ⟨_ | _, l, e, r⟩
  · cases hr
  · cases hr
  · exact BH.black (BH_red.1 h).1 (BH_red.1 h).2

theorem NoRedRed_blacken {t : T} (h : NoRedRed t) : NoRedRed (blacken t) := by
  rcases t with _ | ⟨c, l, e, r⟩ <;> simp_all [NoRedRed, blacken]

namespace Del

/-- the hole of this path must receive a black-rooted tree (its parent is red, or it is the root) -/
def holeBlack : Ctx → Bool
  | top => true
  | left red _ _ _ => red
  | right red _ _ _ => red

/-- `CI c n`: plugging a tree of black height `n` with no red-red (and a black root where
`holeBlack c`) into `c` gives a red-black tree with a black root -/
def CI : Ctx → Nat → Prop
  | top, _ => True
  | left red _ r up, n =>
    BH r n ∧ NoRedRed r ∧ (red = true → isRed r = false ∧ holeBlack up = false) ∧
      CI up (if red then n else n + 1)
  | right red l _ up, n =>
    BH l n ∧ NoRedRed l ∧ (red = true → isRed l = false ∧ holeBlack up = false) ∧
      CI up (if red then n else n + 1)

def Good (t : T) : Prop := isRed t = false ∧ NoRedRed t ∧ ∃ n, BH t n

theorem black_of_hole {pr : Bool} {up : Ctx} {P : Prop} (h : pr = true → P ∧ holeBlack up = false)
    (hh : holeBlack up = true) : pr = false :=
  Bool.eq_false_iff.2 fun hp => by rw [(h hp).2] at hh; cases hh

theorem plug {c : Ctx} {n : Nat} {t : T} (hc : CI c n) (hb : BH t n) (hn : NoRedRed t)
    (hr : holeBlack c = true → isRed t = false) : Good (zip t c) := by
  induction c generalizing t n with
  | top => exact ⟨hr rfl, hn, n, hb⟩
  | left red e r up ih =>
    obtain ⟨h1, h2, h3, h4⟩ := hc
    exact ih h4 (BH_node.2 ⟨n, rfl, hb, h1⟩) ⟨fun h => ⟨hr h, (h3 h).1⟩, hn, h2⟩
      fun hh => (isRed_node ..).trans (black_of_hole h3 hh)
  | right red l e up ih =>
    obtain ⟨h1, h2, h3, h4⟩ := hc
    exact ih h4 (BH_node.2 ⟨n, rfl, h1, hb⟩) ⟨fun h => ⟨(h3 h).1, hr h⟩, h2, hn⟩
      fun hh => (isRed_node ..).trans (black_of_hole h3 hh)

theorem unplug {c : Ctx} {t : T} (h : Good (zip t c)) :
    ∃ n, CI c n ∧ BH t n ∧ NoRedRed t ∧ (holeBlack c = true → isRed t = false) := by
  induction c generalizing t with
  | top => obtain ⟨h1, h2, n, h3⟩ := h; exact ⟨n, trivial, h3, h2, fun _ => h1⟩
  | left red e r up ih =>
    obtain ⟨_, h1, h2, ⟨n1, n2, n3⟩, h4⟩ := ih (t := node red t e r) h
    obtain ⟨n, rfl, b1, b2⟩ := BH_node.1 h2
    exact ⟨n, ⟨b2, n3, fun h => ⟨(n1 h).2, Bool.eq_false_iff.2 fun hh => by simpa [h] using h4 hh⟩,
      h1⟩, b1, n2, fun h => (n1 h).1⟩
  | right red l e up ih =>
    obtain ⟨_, h1, h2, ⟨n1, n2, n3⟩, h4⟩ := ih (t := node red l e t) h
    obtain ⟨n, rfl, b1, b2⟩ := BH_node.1 h2
    exact ⟨n, ⟨b1, n2, fun h => ⟨(n1 h).1, Bool.eq_false_iff.2 fun hh => by simpa [h] using h4 hh⟩,
      h1⟩, b2, n3, fun h => (n1 h).2⟩

end Del

theorem allB_iff (p : Node → Bool) (t : T) : allB p t = true ↔ All (fun x => p x = true) t := by
  induction t <;> simp_all [allB, All, and_assoc]

theorem bstB_iff (t : T) : bstB t = true ↔ BST t := by
  induction t <;> simp_all [bstB, BST, allB_iff, and_assoc]

theorem noRedRedB_iff (t : T) : noRedRedB t = true ↔ NoRedRed t := by
  induction t with
  | nil => simp [noRedRedB, NoRedRed]
  | node c l e r ihl ihr => cases c <;> simp_all [noRedRedB, NoRedRed, and_assoc]

theorem bhB_iff (t : T) (n : Nat) : bhB t = some n ↔ BH t n := by
  induction t generalizing n with
  | nil => simp [bhB, eq_comm]
  | node c l e r ihl ihr =>
    simp only [BH_node, ← ihl, ← ihr, bhB]
    cases bhB l <;> cases bhB r <;> simp
    exact ⟨fun ⟨h1, h2⟩ => ⟨h1 ▸ h2.symm, h1⟩, fun ⟨h1, h2⟩ => ⟨h2, h2 ▸ h1.symm⟩⟩

theorem treeInvB_iff (t : T) : treeInvB t = true ↔ TreeInv t := by
  simp only [treeInvB, TreeInv, Bool.and_eq_true, bstB_iff, noRedRedB_iff, Bool.not_eq_true',
    Option.isSome_iff_exists, bhB_iff, and_assoc]

end Flurry.RB
