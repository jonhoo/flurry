import Flurry.Prelude
/-! Helper lemmas about `npow2`, the model of `usize::next_power_of_two` (core only has
`isPowerOfTwo_nextPowerOfTwo` for its own opaque `Nat.nextPowerOfTwo`). -/
namespace Flurry

theorem npow2Go_spec (n power : Nat) (h : power > 0) :
    ∃ j, npow2Go n power h = power * 2 ^ j ∧ n ≤ power * 2 ^ j ∧ ∀ i, i < j → power * 2 ^ i < n := by
  fun_induction npow2Go n power h with
  | case1 power h hlt ih =>
    obtain ⟨j, e, hle, hmin⟩ := ih
    rw [Nat.mul_assoc, ← Nat.pow_succ'] at e hle
    refine ⟨j + 1, e, hle, fun i hi => ?_⟩
    cases i with
    | zero => exact (Nat.mul_one power).symm ▸ hlt
    | succ i =>
      rw [Nat.pow_succ', ← Nat.mul_assoc]
      exact hmin i (Nat.lt_of_succ_lt_succ hi)
  | case2 power h hge =>
    exact ⟨0, (Nat.mul_one _).symm, Nat.mul_one _ ▸ Nat.le_of_not_lt hge, fun i hi => nomatch hi⟩

theorem npow2_spec (n : Nat) : ∃ j, npow2 n = 2 ^ j ∧ n ≤ 2 ^ j ∧ ∀ i, i < j → 2 ^ i < n := by
  obtain ⟨j, e, hle, hmin⟩ := npow2Go_spec n 1 (by decide)
  rw [Nat.one_mul] at e hle
  exact ⟨j, e, hle, fun i hi => Nat.one_mul (2 ^ i) ▸ hmin i hi⟩

theorem le_npow2 (n : Nat) : n ≤ npow2 n := by
  obtain ⟨j, e, hle, -⟩ := npow2_spec n
  exact e ▸ hle

theorem npow2_isPow2 (n : Nat) : ∃ k, npow2 n = 2 ^ k :=
  (npow2_spec n).imp fun _ h => h.1

theorem npow2_le_of_pow2 (n k : Nat) (hk : n ≤ 2 ^ k) : npow2 n ≤ 2 ^ k := by
  obtain ⟨j, e, -, hmin⟩ := npow2_spec n
  rw [e]
  exact Nat.pow_le_pow_right (by decide)
    (Nat.le_of_not_lt fun hlt => Nat.lt_irrefl _ (Nat.lt_of_lt_of_le (hmin k hlt) hk))

theorem npow2_lt_two_mul (n : Nat) (hn : 0 < n) : npow2 n < 2 * n := by
  obtain ⟨j, e, -, hmin⟩ := npow2_spec n
  rw [e]
  cases j with
  | zero => exact Nat.lt_of_lt_of_le (by decide : 2 ^ 0 < 2 * 1) (Nat.mul_le_mul_left 2 hn)
  | succ j =>
    rw [Nat.pow_succ']
    exact Nat.mul_lt_mul_of_pos_left (hmin j (Nat.lt_succ_self j)) (by decide)

-- agreement with core's (opaque) `Nat.nextPowerOfTwo` on a sample: a test, not a theorem
#guard (List.range 3000).all (fun n => npow2 n == Nat.nextPowerOfTwo n)
end Flurry
