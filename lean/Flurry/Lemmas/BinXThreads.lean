import Flurry.Lemmas.BinXCarry
/-! # Proto/BinX: a memory effect leaves the lock words held by the other threads alone (C01, C10)

`lock_frame`, over `MemStep` (through `MemStep.locks` of `Lemmas/BinXMemStep.lean`, which has no other user). No file
uses it: the preservation of the thread-level invariants `TInv`, `PInv`, `LInv`, `WInv` of `Proto/BinX` is not proved per
transition but read off `Proto/BinXC`'s (`Lemmas/BinXCThreads.lean`, which has its own frame of the lock words;
`Lemmas/BinXBridge.lean`). -/
namespace Flurry.Proto.BinX
open Flurry.Lin

theorem lock_frame {s s' : State} {g g' : Ghost} {t : Nat} {l : Local} (I : Inv s g)
    (m : MemStep s s' (vcell l) g g')
    (hx : ∀ i x, s'.heap = s.heap.modify i (fun m => { m with lock := x }) → i < s.heap.length →
      (nodeAt s.heap i).lock = none ∨ (nodeAt s.heap i).lock = some t) :
    ∀ (t1 : Nat) (l1 : Local) (h1 : Nat), t1 ≠ t → s.threads[t1]? = some l1 → Holds l1.pc h1 →
      (nodeAt s'.heap h1).lock = (nodeAt s.heap h1).lock := by
  intro t1 l1 h1 hne hl1 hh
  obtain ⟨hlt, hmine⟩ := I.lock.lockHeld t1 l1 h1 hl1 hh
  rcases m.locks I.heap with h | ⟨i, x, h⟩
  · exact h h1 hlt
  · rw [h, nodeAt_modify]
    split
    · rename_i hc
      obtain ⟨rfl, _⟩ := hc
      rcases hx i x h hlt with h2 | h2
      · rw [hmine] at h2; cases h2
      · rw [hmine] at h2; cases h2; exact absurd rfl hne
    · rfl

end Flurry.Proto.BinX
