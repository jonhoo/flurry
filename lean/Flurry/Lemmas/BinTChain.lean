import Flurry.Proto.BinT
import Flurry.Lemmas.SharedBasic
/-! # Proto/BinT: heap access and the chain (C01, tree bins)

The list of a tree bin is a chain in the sense of `Lemmas/SharedBasic.lean` (`Seg` at `NodeS.next`); the
facts about chains are proved there. Here: `nodeAt`, `NextOK` (`NextDown` at `NodeS.next`), and that the executable
`chainFrom` and `predOf` compute the chain and the predecessor. `IsSeg` is `Seg` spelt out for this model (`isSeg_iff`),
with `IsSeg.append` and `IsSeg.unique` read off `Seg`; every other file states its facts with `Seg`, and nothing uses
`IsSeg`. -/
namespace Flurry.Proto.BinT
open Flurry.Lin Flurry.Shared

def nodeAt (heap : List NodeS) (i : Nat) : NodeS := heap.getD i dflt

theorem nodeAt_of_some {heap : List NodeS} {i : Nat} {n : NodeS} (h : heap[i]? = some n) :
    nodeAt heap i = n := getD_of_some h

theorem getElem?_nodeAt {heap : List NodeS} {i : Nat} (h : i < heap.length) :
    heap[i]? = some (nodeAt heap i) := getElem?_getD dflt h

theorem nodeAt_modify (heap : List NodeS) (i : Nat) (f : NodeS → NodeS) (j : Nat) :
    nodeAt (heap.modify i f) j = if i = j ∧ j < heap.length then f (nodeAt heap j) else nodeAt heap j :=
  getD_modify heap i f j dflt

theorem nodeAt_append_left {heap : List NodeS} (l : List NodeS) {j : Nat} (hj : j < heap.length) :
    nodeAt (heap ++ l) j = nodeAt heap j := getD_append_left l dflt hj

theorem nodeAt_append_new (heap : List NodeS) (n : NodeS) : nodeAt (heap ++ [n]) heap.length = n :=
  getD_append_new heap n dflt

/-- `next` pointers go strictly downwards (new nodes are prepended) -/
def NextOK (heap : List NodeS) : Prop :=
  ∀ (i : Nat) (n : NodeS) (j : Nat), heap[i]? = some n → n.next = some j → j < i

inductive IsSeg (heap : List NodeS) : Option Nat → List Nat → Option Nat → Prop
  | nil (e : Option Nat) : IsSeg heap e [] e
  | cons {i : Nat} {n : NodeS} {l : List Nat} {e : Option Nat} :
      heap[i]? = some n → IsSeg heap n.next l e → IsSeg heap (some i) (i :: l) e

theorem isSeg_iff {heap : List NodeS} {a e : Option Nat} {l : List Nat} :
    IsSeg heap a l e ↔ Seg NodeS.next heap a l e := by
  constructor
  · intro h
    induction h with
    | nil e => exact .nil e
    | cons hn _ ih => exact .cons hn ih
  · intro h
    induction h with
    | nil e => exact .nil e
    | cons hn _ ih => exact .cons hn ih

theorem IsSeg.append {heap : List NodeS} {a b c : Option Nat} {l1 l2 : List Nat}
    (h1 : IsSeg heap a l1 b) (h2 : IsSeg heap b l2 c) : IsSeg heap a (l1 ++ l2) c :=
  isSeg_iff.2 ((isSeg_iff.1 h1).append (isSeg_iff.1 h2))

theorem IsSeg.unique {heap : List NodeS} {a : Option Nat} {l1 : List Nat}
    (h1 : IsSeg heap a l1 none) : ∀ {l2 : List Nat}, IsSeg heap a l2 none → l1 = l2 :=
  fun h2 => (isSeg_iff.1 h1).unique (isSeg_iff.1 h2)

/-- the executable `chainFrom` computes the chain (with enough fuel) -/
theorem chainFrom_seg {heap : List NodeS} (hok : NextOK heap) (fuel : Nat) :
    ∀ (st : Option Nat), (∀ i, st = some i → i < heap.length ∧ i < fuel) →
      Seg NodeS.next heap st (chainFrom heap fuel st) none := by
  induction fuel with
  | zero =>
    intro st h
    cases st with
    | none => exact .nil _
    | some i => exact absurd (h i rfl).2 (Nat.not_lt_zero _)
  | succ fuel ih =>
    intro st h
    cases st with
    | none => exact .nil _
    | some i =>
      obtain ⟨hi, hif⟩ := h i rfl
      have hn : heap[i]? = some heap[i] := List.getElem?_eq_getElem hi
      show Seg _ _ _ (match heap[i]? with | none => [] | some n => i :: chainFrom heap fuel n.next) none
      rw [hn]
      refine .cons hn (ih _ ?_)
      intro j hj
      have := hok _ _ _ hn hj
      omega

theorem predOf_eq_prevOf : ∀ (c : List Nat) (i : Nat), predOf c i = prevOf c i
  | [], _ => rfl
  | [_], _ => rfl
  | a :: b :: rest, i => by simp only [predOf, prevOf, predOf_eq_prevOf (b :: rest) i]

end Flurry.Proto.BinT
