import Flurry.Proto.BinX
/-! # Proto/BinX: the transitions in normal form (C01, C08, C10)

`StepK s t l s'` lists the possible transitions of thread `t` (with local state `l`) with explicit
successor states, grouped by their effect on the shared memory; `step_stepK` dissects `step` once
and for all. -/
namespace Flurry.Proto.BinX
open Flurry.Lin

def tick (s : State) : State := { s with now := s.now + 1 }

def insLike (op : KOp) : Prop := ∃ v vi, op = .ins v vi ∨ op = .tryIns v vi

/-- transitions of a thread with a call in flight that only change its program counter -/
inductive Move (s : State) (p : Pending) : Pc → Pc → Prop
  | rTable : Move s p .rTable (.rCell s.cur)
  | rCellMoved {tab : Tab} : cellOf s tab p.key = .moved → Move s p (.rCell tab) (.rCell .new)
  | rCellNode {tab : Tab} {h : Nat} : cellOf s tab p.key = .node h → Move s p (.rCell tab) (.rNode (some h))
  | rNext {c : Nat} {n : NodeS} : s.heap[c]? = some n → n.key ≠ p.key →
      Move s p (.rNode (some c)) (.rNode n.next)
  | wTable : Move s p .wTable (.wCell s.cur)
  | wCellEmpty {tab : Tab} : cellOf s tab p.key = .empty → insLike p.op → Move s p (.wCell tab) (.wCas tab)
  | wCellMoved {tab : Tab} : cellOf s tab p.key = .moved → Move s p (.wCell tab) (.wCell .new)
  | wCellNode {tab : Tab} {h : Nat} : cellOf s tab p.key = .node h → Move s p (.wCell tab) (.wLock tab h)
  | casFail {tab : Tab} : Move s p (.wCas tab) (.wCell tab)
  | checkOk {tab : Tab} {h : Nat} : cellOf s tab p.key = .node h →
      Move s p (.wCheck tab h) (.wFind tab h none (some h))
  | checkFail {tab : Tab} {h : Nat} : cellOf s tab p.key ≠ .node h →
      Move s p (.wCheck tab h) (.wUnlock tab h .none true)
  | findEnd {tab : Tab} {h : Nat} {pred : Option Nat} :
      Move s p (.wFind tab h pred none) (.wStore tab h pred none none)
  | findHit {tab : Tab} {h : Nat} {pred : Option Nat} {c : Nat} {n : NodeS} :
      s.heap[c]? = some n → n.key = p.key →
      Move s p (.wFind tab h pred (some c)) (.wStore tab h pred (some c) n.next)
  | findNext {tab : Tab} {h : Nat} {pred : Option Nat} {c : Nat} {n : NodeS} :
      s.heap[c]? = some n → n.key ≠ p.key →
      Move s p (.wFind tab h pred (some c)) (.wFind tab h (some c) n.next)

/-- transitions of the resizing thread that only change its program counter -/
inductive TMove (s : State) : Pc → Pc → Prop
  | cellEmpty : s.cell0 = .empty → TMove s .tCell .tCasMoved
  | cellNode {h : Nat} : s.cell0 = .node h → TMove s .tCell (.tLock h)
  | cellMoved : s.cell0 = .moved → TMove s .tCell .tCommit
  | casFail : s.cell0 ≠ .empty → TMove s .tCasMoved .tCell
  | checkOk {h : Nat} : s.cell0 = .node h → TMove s (.tCheck h) (.tBuild h)

/-- transitions of a writer that change the lock word of node `h` to `x` -/
inductive LockMove (s : State) (t : Nat) : Pc → Nat → Option Nat → Pc → Prop
  | lock {tab : Tab} {h : Nat} {n : NodeS} : s.heap[h]? = some n → n.lock = none →
      LockMove s t (.wLock tab h) h (some t) (.wCheck tab h)
  | unlockRetry {tab : Tab} {h : Nat} {res : KRes} : LockMove s t (.wUnlock tab h res true) h none (.wCell tab)

/-- transitions of the resizing thread that change the lock word of node `h` to `x` -/
inductive TLockMove (s : State) (t : Nat) : Pc → Nat → Option Nat → Pc → Prop
  | lock {h : Nat} {n : NodeS} : s.heap[h]? = some n → n.lock = none →
      TLockMove s t (.tLock h) h (some t) (.tCheck h)
  | checkFail {h : Nat} : s.cell0 ≠ .node h → TLockMove s t (.tCheck h) h none .tCell
  | unlock {h : Nat} : TLockMove s t (.tUnlock h) h none .tCommit

def missRes (op : KOp) : KRes := match op with | .has => .bool false | _ => .none
def hitRes (op : KOp) (n : NodeS) : KRes := match op with | .has => .bool true | _ => .some n.val.1 n.val.2

/-- calls that complete without a store of their own -/
inductive Fin (s : State) (p : Pending) : Pc → KRes → Prop
  | rEmpty {tab : Tab} : cellOf s tab p.key = .empty → Fin s p (.rCell tab) (missRes p.op)
  | miss : Fin s p (.rNode none) (missRes p.op)
  | hit {c : Nat} {n : NodeS} : s.heap[c]? = some n → n.key = p.key →
      Fin s p (.rNode (some c)) (hitRes p.op n)
  | wEmpty {tab : Tab} : cellOf s tab p.key = .empty → ¬ insLike p.op → Fin s p (.wCell tab) .none

inductive StepK (s : State) (t : Nat) (l : Local) : State → Prop
  | idle : l.pc = .idle → StepK s t l (setT (tick s) t l)
  | invoke (k : Nat) (op : KOp) : l.pc = .idle →
      StepK s t l (setT (tick s) t
        { pc := if isReader op then .rTable else .wTable, call := some ⟨k, op, s.now + 1⟩ })
  | resize : l.pc = .idle → s.resizing = false →
      StepK s t l { (setT (tick s) t { l with pc := .tCell }) with resizing := true }
  | move (p : Pending) (pc' : Pc) : l.call = some p → Move s p l.pc pc' →
      StepK s t l (setT (tick s) t { l with pc := pc' })
  | tmove (pc' : Pc) : l.call = none → TMove s l.pc pc' →
      StepK s t l (setT (tick s) t { l with pc := pc' })
  | lockMove (p : Pending) (h : Nat) (x : Option Nat) (pc' : Pc) : l.call = some p → LockMove s t l.pc h x pc' →
      StepK s t l (setT (setNode (tick s) h (fun m => { m with lock := x })) t { l with pc := pc' })
  | tlockMove (h : Nat) (x : Option Nat) (pc' : Pc) : l.call = none → TLockMove s t l.pc h x pc' →
      StepK s t l (setT (setNode (tick s) h (fun m => { m with lock := x })) t { l with pc := pc' })
  | fin (p : Pending) (res : KRes) : l.call = some p → Fin s p l.pc res →
      StepK s t l (finish (tick s) t p res)
  | cas (p : Pending) (tab : Tab) (v vi : Nat) : l.call = some p → l.pc = .wCas tab →
      cellOf s tab p.key = .empty → (p.op = .ins v vi ∨ p.op = .tryIns v vi) →
      StepK s t l (finish (setCell { tick s with heap := s.heap ++ [⟨p.key, (v, vi), none, none⟩] } tab p.key
        (.node s.heap.length)) t p .none)
  | store (p : Pending) (tab : Tab) (h : Nat) (pred hit hnext : Option Nat) : l.call = some p →
      l.pc = .wStore tab h pred hit hnext →
      StepK s t l (setT (storeAt (tick s) tab p pred hit hnext).1 t
        { l with pc := .wUnlock tab h (storeAt (tick s) tab p pred hit hnext).2 false })
  | unlockFin (p : Pending) (tab : Tab) (h : Nat) (res : KRes) : l.call = some p →
      l.pc = .wUnlock tab h res false →
      StepK s t l (finish (setNode (tick s) h (fun m => { m with lock := none })) t p res)
  | casMoved : l.call = none → l.pc = .tCasMoved → s.cell0 = .empty →
      StepK s t l { (setT (tick s) t { l with pc := .tCommit }) with cell0 := .moved }
  | build (h : Nat) : l.call = none → l.pc = .tBuild h →
      StepK s t l (setT { tick s with heap := (splitBin s.heap (chainFrom s.heap s.heap.length (some h))).1 } t
        { l with pc := .tStoreLow h (splitBin s.heap (chainFrom s.heap s.heap.length (some h))).2.1
                                      (splitBin s.heap (chainFrom s.heap s.heap.length (some h))).2.2 })
  | storeLow (h : Nat) (lo hg : Option Nat) : l.call = none → l.pc = .tStoreLow h lo hg →
      StepK s t l { (setT (tick s) t { l with pc := .tStoreHigh h hg }) with lowCell := cellOfHead lo }
  | storeHigh (h : Nat) (hg : Option Nat) : l.call = none → l.pc = .tStoreHigh h hg →
      StepK s t l { (setT (tick s) t { l with pc := .tStoreMoved h }) with highCell := cellOfHead hg }
  | storeMoved (h : Nat) : l.call = none → l.pc = .tStoreMoved h →
      StepK s t l { (setT (tick s) t { l with pc := .tUnlock h }) with cell0 := .moved }
  | commit : l.call = none → l.pc = .tCommit →
      StepK s t l { (setT (tick s) t { l with pc := .idle }) with cur := .new }

theorem setT_self {s : State} {t : Nat} {l : Local} (hl : s.threads[t]? = some l) : setT s t l = s := by
  unfold setT
  obtain ⟨ht, rfl⟩ := List.getElem?_eq_some_iff.1 hl
  rw [List.set_getElem_self]

theorem stepK_of_step {s : State} {t : Nat} {l : Local} (inv : Option (Nat × KOp)) (rz : Bool)
    (hl : s.threads[t]? = some l) : (step s t inv rz).elim True (StepK s t l) := by
  unfold step stepG
  rw [hl]
  obtain ⟨pc, call⟩ := l
  by_cases hidle : pc = .idle
  · subst hidle
    have hid : tick s = setT (tick s) t ⟨.idle, call⟩ := (setT_self (s := tick s) hl).symm
    cases rz with
    | true =>
      show (if s.resizing = true then _ else _ : Option State).elim True _
      split
      · show StepK s t _ (tick s)
        rw [hid]
        exact StepK.idle rfl
      · rename_i hrz
        exact StepK.resize rfl (Bool.not_eq_true _ ▸ hrz)
    | false =>
      cases inv with
      | none =>
        show StepK s t _ (tick s)
        rw [hid]
        exact StepK.idle rfl
      | some ko => exact StepK.invoke ko.1 ko.2 rfl
  -- program counter and call in constructor form: every branch of `stepG` is then a match on constructors
  · cases call with
    | none =>
      cases pc with
      | idle => exact absurd rfl hidle
      | rNode cur | wFind _ _ _ cur => cases cur <;> exact True.intro
      | tCell =>
        show (match s.cell0 with | .empty => _ | .node h => _ | .moved => _ : Option State).elim True _
        split
        · rename_i hc; exact StepK.tmove _ rfl (.cellEmpty hc)
        · rename_i h hc; exact StepK.tmove _ rfl (.cellNode hc)
        · rename_i hc; exact StepK.tmove _ rfl (.cellMoved hc)
      | tCasMoved =>
        show (if _ then _ else _ : Option State).elim True _
        split
        · rename_i hc; exact StepK.casMoved rfl rfl (eq_of_beq hc)
        · rename_i hc; exact StepK.tmove _ rfl (.casFail fun h => hc (beq_iff_eq.2 h))
      | tLock h =>
        show (match s.heap[h]? with | none => none | some n => _ : Option State).elim True _
        split
        · exact True.intro
        · rename_i n hn
          show (if _ then _ else _ : Option State).elim True _
          split
          · exact True.intro
          · rename_i hlk
            exact StepK.tlockMove h (some t) _ rfl (.lock hn (Option.not_isSome_iff_eq_none.1 hlk))
      | tCheck h =>
        show (if (!true || s.cell0 == .node h) = true then _ else _ : Option State).elim True _
        split
        · rename_i hh; exact StepK.tmove _ rfl (.checkOk (eq_of_beq hh))
        · rename_i hh; exact StepK.tlockMove h none _ rfl (.checkFail fun h => hh (beq_iff_eq.2 h))
      | tBuild h => exact StepK.build h rfl rfl
      | tStoreLow h lo hg => exact StepK.storeLow h lo hg rfl rfl
      | tStoreHigh h hg => exact StepK.storeHigh h hg rfl rfl
      | tStoreMoved h => exact StepK.storeMoved h rfl rfl
      | tUnlock h => exact StepK.tlockMove h none _ rfl .unlock
      | tCommit => exact StepK.commit rfl rfl
      | _ => exact True.intro
    | some p =>
      cases pc with
      | idle => exact absurd rfl hidle
      | rTable => exact StepK.move p _ rfl .rTable
      | rCell tab =>
        show (match cellOf _ tab p.key with | .empty => _ | .moved => _ | .node h => _ : Option State).elim True _
        split
        · rename_i hc; exact StepK.fin p _ rfl (.rEmpty hc)
        · rename_i hc; exact StepK.move p _ rfl (.rCellMoved hc)
        · rename_i h hc; exact StepK.move p _ rfl (.rCellNode hc)
      | rNode cur =>
        cases cur with
        | none => exact StepK.fin p _ rfl .miss
        | some c =>
          show (match s.heap[c]? with | none => none | some n => _ : Option State).elim True _
          split
          · exact True.intro
          · rename_i n hn
            show (if _ then _ else _ : Option State).elim True _
            split
            · rename_i hk; exact StepK.fin p _ rfl (.hit hn (eq_of_beq hk))
            · rename_i hk; exact StepK.move p _ rfl (.rNext hn fun h => hk (beq_iff_eq.2 h))
      | wTable => exact StepK.move p _ rfl .wTable
      | wCell tab =>
        show (match cellOf _ tab p.key with | .empty => _ | .moved => _ | .node h => _ : Option State).elim True _
        split
        · rename_i hc
          show (match p.op with | .ins _ _ => _ | .tryIns _ _ => _ | _ => _ : Option State).elim True _
          split
          · rename_i v vi hop; exact StepK.move p _ rfl (.wCellEmpty hc ⟨v, vi, Or.inl hop⟩)
          · rename_i v vi hop; exact StepK.move p _ rfl (.wCellEmpty hc ⟨v, vi, Or.inr hop⟩)
          · rename_i h1 h2
            exact StepK.fin p _ rfl (.wEmpty hc fun ⟨v, vi, h⟩ => h.elim (h1 v vi) (h2 v vi))
        · rename_i hc; exact StepK.move p _ rfl (.wCellMoved hc)
        · rename_i h hc; exact StepK.move p _ rfl (.wCellNode hc)
      | wCas tab =>
        show (match cellOf _ tab p.key, p.op with
          | .empty, .ins v vi => _ | .empty, .tryIns v vi => _ | _, _ => _ : Option State).elim True _
        split
        · rename_i v vi hh hop; exact StepK.cas p tab v vi rfl rfl hh (Or.inl hop)
        · rename_i v vi hh hop; exact StepK.cas p tab v vi rfl rfl hh (Or.inr hop)
        · exact StepK.move p _ rfl .casFail
      | wLock tab h =>
        show (match s.heap[h]? with | none => none | some n => _ : Option State).elim True _
        split
        · exact True.intro
        · rename_i n hn
          show (if _ then _ else _ : Option State).elim True _
          split
          · exact True.intro
          · rename_i hlk
            exact StepK.lockMove p h (some t) _ rfl (.lock hn (Option.not_isSome_iff_eq_none.1 hlk))
      | wCheck tab h =>
        show (if (!true || cellOf _ tab p.key == .node h) = true then _ else _ : Option State).elim True _
        split
        · rename_i hh; exact StepK.move p _ rfl (.checkOk (s := s) (eq_of_beq hh))
        · rename_i hh; exact StepK.move p _ rfl (.checkFail (s := s) fun h => hh (beq_iff_eq.2 h))
      | wFind tab h pred cur =>
        cases cur with
        | none => exact StepK.move p _ rfl .findEnd
        | some c =>
          show (match s.heap[c]? with | none => none | some n => _ : Option State).elim True _
          split
          · exact True.intro
          · rename_i n hn
            show (if _ then _ else _ : Option State).elim True _
            split
            · rename_i hk; exact StepK.move p _ rfl (.findHit hn (eq_of_beq hk))
            · rename_i hk; exact StepK.move p _ rfl (.findNext hn fun h => hk (beq_iff_eq.2 h))
      | wStore tab h pred hit hnext => exact StepK.store p tab h pred hit hnext rfl rfl
      | wUnlock tab h res retry =>
        cases retry with
        | true => exact StepK.lockMove p h none _ rfl .unlockRetry
        | false => exact StepK.unlockFin p tab h res rfl rfl
      | _ => exact True.intro

theorem step_stepK {s s' : State} {t : Nat} {l : Local} {inv : Option (Nat × KOp)} {rz : Bool}
    (hl : s.threads[t]? = some l) (hs : step s t inv rz = some s') : StepK s t l s' := by
  have := stepK_of_step inv rz hl
  rwa [hs] at this

end Flurry.Proto.BinX
