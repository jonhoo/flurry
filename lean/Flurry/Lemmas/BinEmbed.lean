import Flurry.Proto.Bin
import Flurry.Lemmas.LinEmbed
import Flurry.Lemmas.BinRBBasic
/-! # `Proto/Bin` is `Proto/BinRBase` without `condRm`

`emb : Bin.State → BinR.Base.State` maps a state of `Proto/Bin` to the same state of
`Proto/BinRBase` (operations and calls through `Lin.embOp`, `Lin.embCall`). This file: how it
commutes with the chain, the abstract content, the state updates and `writerStore`. What is proved
about `Proto/BinRBase` (`Lemmas/BinRB*.lean`) is carried over along `emb` in the other
`Lemmas/Bin*.lean` files: the facts about the heap in `BinChain.lean` and `BinBasic.lean`, the
transitions in `BinStep.lean` (`StepK.base`, `reachable_base`), the invariants in the files that
define them (`HInv.of_emb`, `TInv.of_emb`, `LInv.of_emb`, `GInv.of_emb`).

`reachable_base` is the one place where an invariant of `Proto/BinRBase` reaches `Proto/Bin`: an
induction over `Bin.Reachable` on the image, from `BinR.Base.init_*`, `stepK_inv`, `stepK_linv`,
`ginv_step`. `Proto/BinW` has the same in `BinWEmbed.lean` (`reachable_base`), `Proto/BinR` in
`BinRInv.lean` (`winv_step`) and `BinRMain.lean` (`reachable_ginv`). The theorems of
`Lemmas/BinRB*.lean` about `BinR.Base.Reachable` are not on this path. -/
namespace Flurry.Proto.Bin
open Flurry.Lin

def eN (n : NodeS) : BinR.Base.NodeS := ⟨n.key, n.val, n.next, n.lock⟩

def eP (p : Pending) : BinR.Base.Pending := ⟨p.key, embOp p.op, p.inv⟩

def ePc : Pc → BinR.Base.Pc
  | .idle => .idle
  | .rHead => .rHead
  | .rNode c => .rNode c
  | .wHead => .wHead
  | .wCas => .wCas
  | .wLock h => .wLock h
  | .wCheck h => .wCheck h
  | .wWrite h => .wWrite h
  | .wUnlock h r b => .wUnlock h (embRes r) b

def eL (l : Local) : BinR.Base.Local := ⟨ePc l.pc, l.call.map eP⟩

def eH (x : Nat × Call) : Nat × Lin2.Call2 := (x.1, embCall x.2)

def emb (s : State) : BinR.Base.State :=
  ⟨s.heap.map eN, s.head, s.threads.map eL, s.hist.map eH, s.now⟩

theorem isReader_emb (op : KOp) : BinR.Base.isReader (embOp op) = isReader op := by cases op <;> rfl

theorem chainFrom_map (heap : List NodeS) : ∀ (fuel : Nat) (st : Option Nat),
    BinR.Base.chainFrom (heap.map eN) fuel st = chainFrom heap fuel st
  | 0, _ => rfl
  | _ + 1, none => rfl
  | fuel + 1, some i => by
    simp only [BinR.Base.chainFrom, chainFrom, List.getElem?_map]
    cases heap[i]? with
    | none => rfl
    | some n => exact congrArg (i :: ·) (chainFrom_map heap fuel n.next)

theorem chain_emb (s : State) : BinR.Base.chain (emb s) = chain s := by
  simp only [BinR.Base.chain, chain, emb, List.length_map, chainFrom_map]

theorem getD_map (heap : List NodeS) (i : Nat) :
    (heap.map eN).getD i ⟨0, (0, 0), none, none⟩ = eN (heap.getD i ⟨0, (0, 0), none, none⟩) :=
  BinR.Base.getD_map eN heap i ⟨0, (0, 0), none, none⟩

theorem absOf_emb (s : State) (k : Nat) : BinR.Base.absOf (emb s) k = absOf s k := by
  unfold BinR.Base.absOf absOf
  rw [chain_emb]
  simp only [emb, getD_map, eN]
  cases List.find? (fun i => (s.heap.getD i ⟨0, (0, 0), none, none⟩).key == k) (chain s) <;> rfl

theorem setT_emb (s : State) (t : Nat) (l : Local) :
    BinR.Base.setT (emb s) t (eL l) = emb (setT s t l) := by
  simp only [BinR.Base.setT, emb, setT, List.map_set]

theorem finish_emb (s : State) (t : Nat) (p : Pending) (res : KRes) :
    BinR.Base.finish (emb s) t (eP p) (embRes res) = emb (finish s t p res) := by
  simp only [BinR.Base.finish, BinR.Base.setT, emb, finish, setT, List.map_set, List.map_cons]
  rfl

theorem setNode_emb (s : State) (i : Nat) (f : NodeS → NodeS) (f' : BinR.Base.NodeS → BinR.Base.NodeS)
    (hf : ∀ a, eN (f a) = f' (eN a)) : BinR.Base.setNode (emb s) i f' = emb (setNode s i f) := by
  simp only [BinR.Base.setNode, emb, setNode, BinR.Base.map_modify eN f f' hf]

theorem emb_heap (s : State) : (emb s).heap = s.heap.map eN := rfl

theorem predOf_emb : ∀ (c : List Nat) (i : Nat), BinR.Base.predOf c i = predOf c i
  | [], _ => rfl
  | [_], _ => rfl
  | a :: b :: rest, i => by
    simp only [BinR.Base.predOf, predOf, predOf_emb (b :: rest) i]

theorem emb_push (s : State) (n : NodeS) (hd : Option Nat) :
    emb { s with heap := s.heap ++ [n], head := hd } =
      { emb s with heap := (emb s).heap ++ [eN n], head := hd } := by
  simp only [emb, List.map_append, List.map_cons, List.map_nil]

theorem unlink_emb (s : State) (i : Nat) (x : Option Nat) :
    (match predOf (chain s) i with
      | some pr => BinR.Base.setNode (emb s) pr (fun m => { m with next := x })
      | none => { emb s with head := x }) =
    emb (match predOf (chain s) i with
      | some pr => setNode s pr (fun m => { m with next := x })
      | none => { s with head := x }) := by
  cases predOf (chain s) i with
  | none => rfl
  | some pr => exact setNode_emb s pr _ _ fun _ => rfl

theorem append_emb (s : State) (n : NodeS) :
    (match (chain s).getLast? with
      | some l => (BinR.Base.setNode { emb s with heap := (emb s).heap ++ [eN n] } l
          (fun m => { m with next := some s.heap.length }), Lin2.KRes.none)
      | none => ({ emb s with heap := (emb s).heap ++ [eN n], head := some s.heap.length }, Lin2.KRes.none)) =
    Prod.map emb embRes (match (chain s).getLast? with
      | some l => (setNode { s with heap := s.heap ++ [n] } l (fun m => { m with next := some s.heap.length }), KRes.none)
      | none => ({ s with heap := s.heap ++ [n], head := some s.heap.length }, KRes.none)) := by
  cases (chain s).getLast? with
  | none => exact congrArg (·, Lin2.KRes.none) (emb_push s n _).symm
  | some l =>
    exact congrArg (·, Lin2.KRes.none) ((congrArg (BinR.Base.setNode · l _) (emb_push s n s.head).symm).trans
      (setNode_emb _ l (fun m => { m with next := some s.heap.length }) _ fun _ => rfl))

theorem writerStore_emb (s : State) (p : Pending) :
    BinR.Base.writerStore (emb s) (eP p) = Prod.map emb embRes (writerStore s p) := by
  obtain ⟨key, op, inv⟩ := p
  unfold BinR.Base.writerStore writerStore
  simp only [chain_emb, emb_heap, getD_map, eP, eN, predOf_emb, List.length_map]
  cases (chain s).find? (fun i => (s.heap.getD i ⟨0, (0, 0), none, none⟩).key == key) with
  | none =>
    cases op with
    | ins v vi => exact append_emb s ⟨key, (v, vi), none, none⟩
    | tryIns v vi => exact append_emb s ⟨key, (v, vi), none, none⟩
    | _ => rfl
  | some i =>
    cases op with
    | ins v vi => exact Prod.ext (setNode_emb s i _ _ fun _ => rfl) rfl
    | cipInc nvi => exact Prod.ext (setNode_emb s i _ _ fun _ => rfl) rfl
    | rm => exact Prod.ext (unlink_emb s i _) rfl
    | cipRm => exact Prod.ext (unlink_emb s i _) rfl
    | _ => rfl

theorem thr_emb {s : State} {t : Nat} {l : Local} (hl : s.threads[t]? = some l) :
    (emb s).threads[t]? = some (eL l) := by
  rw [emb, List.getElem?_map, hl]; rfl

theorem node_emb {s : State} {c : Nat} {n : NodeS} (hn : s.heap[c]? = some n) :
    (emb s).heap[c]? = some (eN n) := by
  rw [emb, List.getElem?_map, hn]; rfl

theorem call_emb {l : Local} {p : Pending} (hp : l.call = some p) : (eL l).call = some (eP p) :=
  congrArg (Option.map eP) hp

theorem emb_init (n : Nat) : emb (init n) = BinR.Base.init n := by
  simp only [emb, init, BinR.Base.init, List.map_replicate, List.map_nil]
  rfl

end Flurry.Proto.Bin
