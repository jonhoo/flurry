import Flurry.Lemmas.BinRBStep
import Flurry.Lemmas.SharedBasic
import Flurry.Lemmas.GhostView
/-! # Proto/BinRBase: the structural invariant holds in every reachable state (C01, C13)

`TInv`: the program counter of a thread fits its pending operation, completed and pending calls
have well-formed times, and invocation times identify calls (`GhostView.Threads` at `view`: `TInv.gen`,
`TInv.of_gen`). `stepK_inv`: every transition
preserves `HInv` and `TInv` and is a `HeapStep`. `reachable_inv`. -/
namespace Flurry.Proto.BinR.Base
open Flurry.Lin2

def PcOp : Pc → KOp2 → Prop
  | .idle, _ => True
  | .rHead, op => isReader op = true
  | .rNode _, op => isReader op = true
  | _, op => isReader op = false

structure TInv (s : State) : Prop where
  opOK : ∀ (t : Nat) (l : Local) (p : Pending), s.threads[t]? = some l → l.call = some p → PcOp l.pc p.op
  histTime : ∀ x ∈ s.hist, x.2.inv ≤ x.2.resp ∧ x.2.resp ≤ s.now
  pendTime : ∀ (t : Nat) (l : Local) (p : Pending), s.threads[t]? = some l → l.call = some p → p.inv ≤ s.now
  uniqHP : ∀ x ∈ s.hist, ∀ (t : Nat) (l : Local) (p : Pending), s.threads[t]? = some l → l.call = some p →
    x.2.inv ≠ p.inv
  uniqPP : ∀ (t t' : Nat) (l l' : Local) (p p' : Pending), s.threads[t]? = some l → s.threads[t']? = some l' →
    l.call = some p → l'.call = some p' → p.inv = p'.inv → t = t'
  uniqHH : s.hist.Pairwise (fun x y => x.2.inv ≠ y.2.inv)

/-- the result of a writer that has stored and only has to unlock -/
def resOfPc : Pc → Option KRes
  | .wUnlock _ res false => some res
  | _ => none

/-- how the ghost layer reads a thread -/
@[reducible] def view : GhostView.View Local Pending KOp2 KRes :=
  ⟨Local.call, fun l => resOfPc l.pc, Pending.key, Pending.op, Pending.inv⟩

theorem TInv.gen {s : State} (T : TInv s) :
    GhostView.Threads Lin2.sig view (fun l p => PcOp l.pc p.op) s.threads s.hist s.now :=
  ⟨T.opOK, T.histTime, T.pendTime, T.uniqHP, T.uniqPP, T.uniqHH⟩

theorem TInv.of_gen {s : State}
    (T : GhostView.Threads Lin2.sig view (fun l p => PcOp l.pc p.op) s.threads s.hist s.now) : TInv s :=
  ⟨T.opOK, T.histTime, T.pendTime, T.uniqHP, T.uniqPP, T.uniqHH⟩

/-- a transition that records nothing: the thread keeps its pending call or invokes one now -/
theorem tinv_keep {s s' : State} {t : Nat} {l l' : Local} (T : TInv s)
    (hl : s.threads[t]? = some l) (hthr : s'.threads = s.threads.set t l') (hnow : s'.now = s.now + 1)
    (hhist : s'.hist = s.hist)
    (hcall : ∀ p, l'.call = some p → PcOp l'.pc p.op ∧ (l.call = some p ∨ p.inv = s.now + 1)) : TInv s' :=
  .of_gen (T.gen.step (hnew := []) hl hthr hnow hhist (fun p h => (hcall p h).1) (fun p h => (hcall p h).2)
    (fun _ h => nomatch h))

theorem tinv_finish {s s' : State} {t : Nat} {l l' : Local} {p : Pending} {res : KRes} (T : TInv s)
    (hl : s.threads[t]? = some l) (hp : l.call = some p)
    (hthr : s'.threads = s.threads.set t l') (hnow : s'.now = s.now + 1)
    (hhist : s'.hist = (p.key, ⟨t, p.op, res, p.inv, s.now + 1⟩) :: s.hist) (hcall : l'.call = none) :
    TInv s' := by
  refine .of_gen (T.gen.step (hnew := [(p.key, (⟨t, p.op, res, p.inv, s.now + 1⟩ : Call2))]) hl hthr hnow hhist ?_ ?_ ?_)
  · intro q (h : l'.call = some q); rw [hcall] at h; cases h
  · intro q (h : l'.call = some q); rw [hcall] at h; cases h
  · intro x hx
    cases List.mem_singleton.1 hx
    exact ⟨rfl, hcall, rfl, p, hp, rfl⟩

theorem Move.pcOp {s : State} {p : Pending} {pc pc' : Pc} (h : Move s p pc pc') {op : KOp2}
    (hp : PcOp pc op) : PcOp pc' op := by
  cases h <;> exact hp

theorem LockMove.pcOp {s : State} {t h : Nat} {x : Option Nat} {pc pc' : Pc}
    (hm : LockMove s t pc h x pc') {op : KOp2} (hp : PcOp pc op) : PcOp pc' op := by
  cases hm <;> exact hp

theorem isReader_of_insLike {op : KOp2} {v vi : Nat} (h : op = .ins v vi ∨ op = .tryIns v vi) :
    isReader op = false := by
  rcases h with rfl | rfl <;> rfl

theorem HeapStep.of_tick {s s' : State} (h : HeapStep (tick s) s') : HeapStep s s' :=
  ⟨h.len, h.key, h.off, h.noRelink, h.unl⟩

theorem lock_frame (x : Option Nat) :
    ∀ n : NodeS, ({ n with lock := x } : NodeS).next = n.next ∧ ({ n with lock := x } : NodeS).key = n.key :=
  fun _ => ⟨rfl, rfl⟩

theorem cas_effect {s : State} (H : HInv s) (hh : s.head = none) (t : Nat) (p : Pending) (v vi : Nat) :
    HInv (finish { tick s with heap := s.heap ++ [⟨p.key, (v, vi), none, none⟩], head := some s.heap.length } t p .none) ∧
    HeapStep s (finish { tick s with heap := s.heap ++ [⟨p.key, (v, vi), none, none⟩], head := some s.heap.length } t p .none) ∧
    ∀ k, absOf (finish { tick s with heap := s.heap ++ [⟨p.key, (v, vi), none, none⟩], head := some s.heap.length } t p .none) k
      = if p.key = k then some (v, vi) else absOf s k :=
  append_empty (new := (⟨p.key, (v, vi), none, none⟩ : NodeS)) H (chain_head_none H hh) rfl rfl rfl

structure Inv (s : State) : Prop where
  heap : HInv s
  thr : TInv s

theorem stepK_inv {s s' : State} {t : Nat} {l : Local} (I : Inv s) (hl : s.threads[t]? = some l)
    (hk : StepK s t l s') : Inv s' ∧ HeapStep s s' := by
  obtain ⟨H, T⟩ := I
  have hop : ∀ p, l.call = some p → PcOp l.pc p.op := fun p hp => T.opOK t l p hl hp
  cases hk with
  | idle hpc =>
    exact ⟨⟨H.congr rfl rfl, tinv_keep T hl rfl rfl rfl fun p hp => ⟨hop p hp, Or.inl hp⟩⟩, .of_same rfl rfl⟩
  | invoke k op hpc =>
    refine ⟨⟨H.congr rfl rfl, tinv_keep
      (l' := { pc := if isReader op then .rHead else .wHead, call := some ⟨k, op, s.now + 1⟩ })
      T hl rfl rfl rfl ?_⟩, .of_same rfl rfl⟩
    rintro p' ⟨⟩
    exact ⟨by cases h : isReader op <;> simp [PcOp, h], Or.inr rfl⟩
  | move p pc' hp hm =>
    exact ⟨⟨H.congr rfl rfl, tinv_keep T hl rfl rfl rfl fun p' hp' => ⟨hm.pcOp (hop p' hp'), Or.inl hp'⟩⟩,
      .of_same rfl rfl⟩
  | lockMove p h x pc' hp hm =>
    exact ⟨⟨modify_hinv H rfl rfl (lock_frame x),
      tinv_keep T hl rfl rfl rfl fun p' hp' => ⟨hm.pcOp (hop p' hp'), Or.inl hp'⟩⟩,
      modify_heapStep H rfl rfl (lock_frame x) (Or.inr fun _ => rfl)⟩
  | fin p res hp hf =>
    exact ⟨⟨H.congr rfl rfl, tinv_finish (l' := { pc := .idle, call := none }) T hl hp rfl rfl rfl rfl⟩,
      .of_same rfl rfl⟩
  | cas p v vi hp hpc hh hop =>
    obtain ⟨H', hs, -⟩ := cas_effect H hh t p v vi
    exact ⟨⟨H', tinv_finish (l' := { pc := .idle, call := none }) T hl hp rfl rfl rfl rfl⟩, hs⟩
  | write p h hp hpc =>
    have hw := hop p hp
    rw [hpc] at hw
    obtain ⟨H', hs, hthr, hhist, hnow, -⟩ := writerStore_spec (s := tick s) (H.congr rfl rfl) p hw
    refine ⟨⟨H'.congr rfl rfl, tinv_keep (l' := { l with pc := .wUnlock h (writerStore (tick s) p).2 false })
      T hl ?_ hnow hhist ?_⟩, HeapStep.of_tick ⟨hs.len, hs.key, hs.off, hs.noRelink, hs.unl⟩⟩
    · show ((writerStore (tick s) p).1.threads.set t _) = _
      rw [hthr]; rfl
    · intro p' hp'
      refine ⟨?_, Or.inl hp'⟩
      rw [hp] at hp'; cases hp'
      exact hw
  | unlockFin p h res hp hpc =>
    exact ⟨⟨modify_hinv H rfl rfl (lock_frame none),
      tinv_finish (l' := { pc := .idle, call := none }) T hl hp rfl rfl rfl rfl⟩,
      modify_heapStep H rfl rfl (lock_frame none) (Or.inr fun _ => rfl)⟩

theorem init_threads {n t : Nat} {l : Local} (h : (init n).threads[t]? = some l) : l = {} := by
  simp only [init, List.getElem?_replicate] at h
  split at h
  · cases h; rfl
  · cases h

theorem init_inv (n : Nat) : Inv (init n) := by
  refine ⟨⟨?_, ?_, ?_⟩, ⟨?_, ?_, ?_, ?_, ?_, ?_⟩⟩
  · intro i n' j h; simp [init] at h
  · intro h hh; simp [init] at hh
  · intro i hi; simp [chain, init, chainFrom] at hi
  · intro t l p hl hc; rw [init_threads hl] at hc; cases hc
  · intro x hx; simp [init] at hx
  · intro t l p hl hc; rw [init_threads hl] at hc; cases hc
  · intro x hx; simp [init] at hx
  · intro t t' l l' p p' hl _ hc; rw [init_threads hl] at hc; cases hc
  · simp [init]

theorem step_inv {s s' : State} {t : Nat} {inv : Option (Nat × KOp2)} (I : Inv s)
    (hs : step s t inv = some s') : Inv s' := by
  cases hl : s.threads[t]? with
  | none => unfold step at hs; rw [hl] at hs; cases hs
  | some l =>
    have hk := step_stepK hl hs
    exact (stepK_inv I hl hk).1

theorem reachable_inv {n : Nat} {s : State} (hr : Reachable n s) : Inv s := by
  induction hr with
  | init => exact init_inv n
  | step t inv _ hs ih => exact step_inv ih hs

end Flurry.Proto.BinR.Base
