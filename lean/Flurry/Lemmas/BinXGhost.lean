import Flurry.Lemmas.BinXTransfer
import Flurry.Lemmas.GhostView
/-! # Proto/BinX: ghost history and the hindsight invariant of the readers (C01, C10)

As in `Lemmas/BinGhost.lean`, for a fixed key `k`: `A τ` = abstract state of `k` after global step
`τ`, `pt i` = linearization point of the call invoked at time `i`.

`Good cr A k inv s cur`: the hindsight justification of a lock-free reader (invoked at `inv`) holding
the pointer `cur`:
* `absent`: `cur = none` and at some time in `[inv, now]` the key was absent;
* `on`: `cur` is on the live chain of `k` and no node before it (in `ord`) has key `k`;
* `foreign`: (after the forwarding) `cur` is on the live chain of the *other* side — the reader came
  there through the old list — and at some time in `[inv, now]` the key was absent;
* `off`: `cur` is dead (on no chain, not a fresh copy): its fields are frozen; if it has key `k` its
  value was the abstract value at some time in `[inv, now]`, otherwise its successor is `Good` again.

`Good.survives`: `Good` survives a transition after which every node is justified again or dead with
frozen fields. Instances: `Good.step` (every `HeapStep`), `Good.moved` (the store of the forwarding
marker: the nodes of the old list that were copied die, the re-used ones are on their new chain),
`Good.cleared` (the store that empties a bin: its whole chain dies).

`CallOK`, `nextA` are `GhostView.CallOK Lin.sig`, `GhostView.nextA` by unfolding; `Proto/BinXC` and `Proto/BinN` state
their ghost invariants with them. -/
namespace Flurry.Proto.BinX
open Flurry.Lin

/-- the call has a linearization point in its interval at which the trace `A` justifies it -/
def CallOK (A : Nat → KSt) (pt : Nat → Nat) (c : Call) : Prop :=
  c.inv ≤ pt c.inv ∧ pt c.inv ≤ c.resp ∧
  (isRead c.op = true → specStep (A (pt c.inv)) c.op = (A (pt c.inv), c.res)) ∧
  (isRead c.op = false → 1 ≤ pt c.inv ∧ specStep (A (pt c.inv - 1)) c.op = (A (pt c.inv), c.res))

/-- the trace extended by the abstract state after the step -/
def nextA (A : Nat → KSt) (now : Nat) (x : KSt) : Nat → KSt := fun τ => if τ = now + 1 then x else A τ

theorem nextA_old {A : Nat → KSt} {now : Nat} {x : KSt} {τ : Nat} (h : τ ≤ now) : nextA A now x τ = A τ :=
  GhostView.nextA_old h

theorem isReader_eq_isRead (op : KOp) : isReader op = isRead op := by cases op <;> rfl

/-- the call of a writer that has stored and only has to unlock, counted as responding at `now` -/
def extOf (k now t : Nat) (l : Local) : Option Call :=
  match l.pc, l.call with
  | .wUnlock _ _ res false, some p => if p.key = k then some ⟨t, p.op, res, p.inv, now⟩ else none
  | _, _ => none

def extCalls (s : State) (k : Nat) : History :=
  (List.range s.threads.length).filterMap (fun t => (s.threads[t]?).bind (extOf k s.now t))

/-- the completed calls on key `k`, plus the calls of writers that have already performed their
store and only have to unlock (they are counted as responding "now") -/
def callsOnExt (s : State) (k : Nat) : History := callsOn s k ++ extCalls s k

/-- the result of a writer that has stored and only has to unlock -/
def resOfPc : Pc → Option KRes
  | .wUnlock _ _ res false => some res
  | _ => none

/-- how the ghost layer reads a thread -/
@[reducible] def view : GhostView.View Local Pending KOp KRes :=
  ⟨Local.call, fun l => resOfPc l.pc, Pending.key, Pending.op, Pending.inv⟩

theorem TInv.gen {s : State} (T : TInv s) :
    GhostView.Threads Lin.sig view (fun l p => PcOp l.pc p.op) s.threads s.hist s.now :=
  ⟨T.opOK, T.histTime, T.pendTime, T.uniqHP, T.uniqPP, T.uniqHH⟩

theorem extOf_eq (k now t : Nat) (l : Local) : extOf k now t l = GhostView.extOf Lin.sig view k now t l := by
  obtain ⟨pc, call⟩ := l
  unfold extOf GhostView.extOf
  cases call <;> cases pc <;> first | rfl | (rename_i retry; cases retry <;> rfl)

theorem callsOnExt_eq (s : State) (k : Nat) :
    callsOnExt s k = GhostView.callsOnExt Lin.sig view s.hist s.threads k s.now := by
  have : extOf k s.now = fun t l => GhostView.extOf Lin.sig view k s.now t l :=
    funext fun t => funext fun l => extOf_eq k s.now t l
  unfold callsOnExt extCalls; rw [this]; rfl

theorem callsOnExt_quiescent {s : State} (hq : quiescent s) (k : Nat) : callsOnExt s k = callsOn s k := by
  rw [callsOnExt_eq]; exact GhostView.callsOnExt_quiescent k s.now (fun l hl => congrArg resOfPc (hq l hl))

theorem absOf_none_iff {s : State} {k : Nat} : absOf s k = none ↔ ∀ i ∈ LC s k, (nodeAt s.heap i).key ≠ k := by
  rw [absOf_eq]; exact absIn_eq_none_iff

namespace HInv
variable {s : State} {g : Ghost}

theorem LC_isChain (H : HInv s g) (k : Nat) : IsChain s.heap (cellHead (liveCell s k)) (LC s k) := by
  rw [H.LC_eq, H.liveCell_eq]; exact H.isChain _

theorem LC_lt (H : HInv s g) {k i : Nat} (hi : i ∈ LC s k) : i < s.heap.length :=
  (H.LC_isChain k).lt_length i hi

theorem LC_keys (H : HInv s g) (k : Nat) : KeysDistinct s.heap (LC s k) := by
  rw [H.LC_eq]; exact H.keysId _

theorem absOf_some_iff (H : HInv s g) {k : Nat} {v : Nat × Nat} :
    absOf s k = some v ↔ ∃ i ∈ LC s k, (nodeAt s.heap i).key = k ∧ (nodeAt s.heap i).val = v := by
  rw [absOf_eq]; exact absIn_eq_some_iff (H.LC_keys k)

/-- the side of the nodes on the live chain of `k` after the forwarding -/
theorem chB_side (H : HInv s g) {b : Bool} {i : Nat} (hi : i ∈ chB s b) : hiBit (nodeAt s.heap i).key = b := by
  unfold chB at hi
  cases b
  · exact H.sideL i hi
  · exact H.sideH i hi

end HInv

/-- a key of the given side: `chB s b` is the live chain of `keyOfSide b` once the old bin is forwarded (`chB_eq_LC`),
so the lemmas about `LC` apply to `chB` -/
def keyOfSide (b : Bool) : Nat := if b then 1 else 0

theorem hiBit_keyOfSide (b : Bool) : hiBit (keyOfSide b) = b := by cases b <;> rfl

theorem chB_eq_chId (s : State) (b : Bool) : chB s b = chId s (if b then .high else .low) := by
  cases b <;> rfl

theorem chB_eq_LC {s : State} {g : Ghost} (H : HInv s g) (hm : s.cell0 = .moved) (b : Bool) :
    chB s b = LC s (keyOfSide b) := by
  rw [LC_of_moved H hm, hiBit_keyOfSide]

inductive Good (cr : CR) (A : Nat → KSt) (k inv : Nat) (s : State) : Option Nat → Prop
  | absent {τ : Nat} : inv ≤ τ → τ ≤ s.now → A τ = none → Good cr A k inv s none
  | on {c : Nat} : c ∈ LC s k → (∀ i ∈ LC s k, ord cr i < ord cr c → (nodeAt s.heap i).key ≠ k) →
      Good cr A k inv s (some c)
  | foreign {c τ : Nat} : s.cell0 = .moved → c ∈ chB s (!hiBit k) → inv ≤ τ → τ ≤ s.now → A τ = none →
      Good cr A k inv s (some c)
  | off {c : Nat} : ¬ Live s cr c → c < s.heap.length →
      ((nodeAt s.heap c).key ≠ k → Good cr A k inv s (nodeAt s.heap c).next) →
      ((nodeAt s.heap c).key = k → ∃ τ, inv ≤ τ ∧ τ ≤ s.now ∧ A τ = some (nodeAt s.heap c).val) →
      Good cr A k inv s (some c)

variable {A A' : Nat → KSt} {k inv : Nat} {s s' : State} {g : Ghost}

/-- the successor of a chain node whose predecessors (and itself) do not have key `k` is `Good` -/
theorem Good.of_succ (H : HInv s g)
    (hA : A s.now = absOf s k) (hinv : inv ≤ s.now) {c : Nat} (hc : c ∈ LC s k)
    (hbefore : ∀ i ∈ LC s k, ord g.cr i < ord g.cr c → (nodeAt s.heap i).key ≠ k)
    (hk : (nodeAt s.heap c).key ≠ k) : Good g.cr A k inv s (nodeAt s.heap c).next := by
  have hn := getElem?_nodeAt (H.LC_lt hc)
  have hle : ∀ i ∈ LC s k, ord g.cr i ≤ ord g.cr c → (nodeAt s.heap i).key ≠ k := by
    intro i hi hic
    rcases Int.lt_or_eq_of_le hic with hlt | heq
    · exact hbefore i hi hlt
    · rw [ord_inj heq]; exact hk
  cases hnx : (nodeAt s.heap c).next with
  | none =>
    have h1 := (H.LC_isChain k).succ_none H.nextOK hc hn hnx
    refine .absent hinv (Nat.le_refl _) ?_
    rw [hA, absOf_none_iff]
    intro i hi
    exact hle i hi (h1 i hi)
  | some b =>
    obtain ⟨hb, h1⟩ := (H.LC_isChain k).succ_some H.nextOK hc hn hnx
    refine .on hb ?_
    intro i hi hib
    exact hle i hi (h1 i hi hib)

/-- the pointer loaded from the (live) bin cell -/
theorem Good.cell (H : HInv s g) {h : Nat}
    (hcell : liveCell s k = .node h) : Good g.cr A k inv s (some h) := by
  have hC := H.LC_isChain k
  rw [hcell] at hC
  cases hl : LC s k with
  | nil => rw [hl] at hC; cases hC
  | cons a l =>
    rw [hl] at hC
    obtain ⟨ha, -⟩ := IsSeg.cons_iff.1 hC
    cases ha
    refine .on (by rw [hl]; simp) ?_
    intro i hi hih
    have hs := hC.sorted H.nextOK
    rw [hl] at hi
    rcases List.mem_cons.1 hi with rfl | hi
    · exact absurd hih (Int.lt_irrefl _)
    · exact absurd hih (Int.lt_asymm ((List.pairwise_cons.1 hs).1 i hi))

/-- the pointer loaded from the `next` cell of a node with another key -/
theorem Good.next (H : HInv s g)
    (hA : A s.now = absOf s k) (hinv : inv ≤ s.now) {c : Nat} (hg : Good g.cr A k inv s (some c))
    (hk : (nodeAt s.heap c).key ≠ k) : Good g.cr A k inv s (nodeAt s.heap c).next := by
  cases hg with
  | on hc hbefore => exact Good.of_succ H hA hinv hc hbefore hk
  | @foreign _ τ hm hc h1 h2 h3 =>
    rw [chB_eq_LC H hm] at hc
    cases hnx : (nodeAt s.heap c).next with
    | none => exact .absent h1 h2 h3
    | some b =>
      obtain ⟨hb, -⟩ := (H.LC_isChain _).succ_some H.nextOK hc (getElem?_nodeAt (H.LC_lt hc)) hnx
      rw [← chB_eq_LC H hm] at hb
      exact .foreign hm hb h1 h2 h3
  | off _ _ hnext _ => exact hnext hk

/-- a reader that finds key `k` in node `c` -/
theorem Good.hit (H : HInv s g)
    (hA : A s.now = absOf s k) (hinv : inv ≤ s.now) {c : Nat} (hg : Good g.cr A k inv s (some c))
    (hk : (nodeAt s.heap c).key = k) :
    ∃ τ, inv ≤ τ ∧ τ ≤ s.now ∧ A τ = some (nodeAt s.heap c).val := by
  cases hg with
  | on hc _ =>
    exact ⟨s.now, hinv, Nat.le_refl _, by rw [hA]; exact H.absOf_some_iff.2 ⟨c, hc, hk, rfl⟩⟩
  | foreign hm hc _ _ _ =>
    exfalso
    have := H.chB_side hc
    rw [hk] at this
    cases hb : hiBit k <;> rw [hb] at this <;> cases this
  | off _ _ _ hval => exact hval hk

theorem Good.miss {cr : CR} (hg : Good cr A k inv s none) :
    ∃ τ, inv ≤ τ ∧ τ ≤ s.now ∧ A τ = none := by
  cases hg with
  | absent h1 h2 h3 => exact ⟨_, h1, h2, h3⟩

theorem Good.lt (H : HInv s g) {c : Nat}
    (hg : Good g.cr A k inv s (some c)) : c < s.heap.length := by
  cases hg with
  | on hc _ => exact H.LC_lt hc
  | foreign _ hc _ _ _ => rw [chB_eq_chId] at hc; exact H.chain_lt hc
  | off _ hcl _ _ => exact hcl

/-- node `c` is dead in `s'` and has the key, the value and the successor it had in `s`: the second alternative of
`Good.survives` -/
def Frozen (s s' : State) (cr' : CR) (c : Nat) : Prop :=
  ¬ Live s' cr' c ∧ (nodeAt s'.heap c).key = (nodeAt s.heap c).key ∧
    (nodeAt s'.heap c).val = (nodeAt s.heap c).val ∧ (nodeAt s'.heap c).next = (nodeAt s.heap c).next

theorem Frozen.of_heap_eq {cr' : CR} {c : Nat} (hh : s'.heap = s.heap)
    (hd : ¬ Live s' cr' c) : Frozen s s' cr' c :=
  ⟨hd, by rw [hh], by rw [hh], by rw [hh]⟩

/-- **hindsight**: a reader stays justified across a transition after which every node it may stand on
is justified again or is dead with the key, the value and the successor it had. The reader walks down
the dead nodes (`next` pointers go upwards in `ord`) until it reaches a justified node or the end. -/
theorem Good.survives {cr' : CR}
    {cur : Option Nat} (hg : Good g.cr A k inv s cur) (H : HInv s g)
    (hlen : s.heap.length ≤ s'.heap.length) (hnow : s'.now = s.now + 1)
    (hA' : ∀ τ, τ ≤ s.now → A' τ = A τ) (hA : A s.now = absOf s k) (hinv : inv ≤ s.now)
    (hnode : ∀ c, Good g.cr A k inv s (some c) → Good cr' A' k inv s' (some c) ∨ Frozen s s' cr' c) :
    Good cr' A' k inv s' cur := by
  have hle : ∀ {τ}, τ ≤ s.now → τ ≤ s'.now := fun h => hnow ▸ Nat.le_succ_of_le h
  have hnone : Good g.cr A k inv s none → Good cr' A' k inv s' none := by
    intro h
    obtain ⟨τ, h1, h2, h3⟩ := h.miss
    exact .absent h1 (hle h2) (by rw [hA' _ h2]; exact h3)
  cases cur with
  | none => exact hnone hg
  | some c =>
    refine ord_induction (cr := g.cr) (P := fun c => Good g.cr A k inv s (some c) → Good cr' A' k inv s' (some c))
      ?_ c (hg.lt H) hg
    intro c hcl ih hc
    rcases hnode c hc with h | ⟨hdead, hkey, hval, hnext⟩
    · exact h
    · refine .off hdead (Nat.lt_of_lt_of_le hcl hlen) ?_ ?_
      · rw [hkey, hnext]
        intro hk
        have hn' := hc.next H hA hinv hk
        cases hnx : (nodeAt s.heap c).next with
        | none => rw [hnx] at hn'; exact hnone hn'
        | some d =>
          rw [hnx] at hn'
          obtain ⟨hcd, hd⟩ := H.nextOK c _ d (getElem?_nodeAt hcl) hnx
          exact ih d hd hcd hn'
      · rw [hkey, hval]
        intro hk
        obtain ⟨τ, h1, h2, h3⟩ := hc.hit H hA hinv hk
        exact ⟨τ, h1, hle h2, by rw [hA' _ h2]; exact h3⟩

/-- the justification of a reader survives every transition that is a `HeapStep` -/
theorem Good.step {g g' : Ghost} {cur : Option Nat}
    (hg : Good g.cr A k inv s cur) (H : HInv s g) (H' : HInv s' g') (hs : HeapStep s s' g.cr g'.cr)
    (hnow : s'.now = s.now + 1) (hA' : ∀ τ, τ ≤ s.now → A' τ = A τ) (hA : A s.now = absOf s k)
    (hinv : inv ≤ s.now) : Good g'.cr A' k inv s' cur := by
  refine hg.survives H hs.len hnow hA' hA hinv ?_
  intro c hc
  cases hc with
  | on hc hbefore =>
    have hcl := H.LC_lt hc
    by_cases hc' : c ∈ LC s' k
    · refine Or.inl (.on hc' ?_)
      -- what is before `c` on the new chain was before it on the old one: fresh nodes come last
      intro i hi hic
      rw [hs.ordS c hcl] at hic
      rcases hs.lc k i hi with hi0 | ⟨hi0, hncp⟩
      · have hil := H.LC_lt hi0
        rw [hs.key i hil]
        rw [hs.ordS i hil] at hic
        exact hbefore i hi0 hic
      · rw [ord_not_copy hncp] at hic
        exact absurd (Int.lt_of_lt_of_le hic (ord_le_self g.cr c))
          (Int.not_lt.2 (Int.ofNat_le.2 (Nat.le_of_lt (Nat.lt_of_lt_of_le hcl hi0))))
    · obtain ⟨hval, hnext, hdead, -⟩ := hs.unl k c hc hc'
      exact Or.inr ⟨hdead, hs.key c hcl, hval, hnext⟩
  | @foreign _ τ hm hc h1 h2 h3 =>
    have hm' := hs.movedMono hm
    rw [chB_eq_LC H hm] at hc
    by_cases hc' : c ∈ LC s' (keyOfSide (!hiBit k))
    · rw [← chB_eq_LC H' hm'] at hc'
      exact Or.inl (.foreign hm' hc' h1 (hnow ▸ Nat.le_succ_of_le h2) (by rw [hA' _ h2]; exact h3))
    · obtain ⟨hval, hnext, hdead, -⟩ := hs.unl _ c hc hc'
      exact Or.inr ⟨hdead, hs.key c (H.LC_lt hc), hval, hnext⟩
  | off hc hcl _ _ =>
    obtain ⟨hv, hn, hdead⟩ := hs.off c hcl hc
    exact Or.inr ⟨hdead, hs.key c hcl, hv, hn⟩

/-- **hindsight across the forwarding**: the justification of a reader survives the store of the
forwarding marker. A reader on the old list is afterwards on a dead (copied) node — whose key, if it
is `k`, carries the abstract value of this very moment —, or on a re-used node of its own side (live,
nothing with key `k` before it: the copies in front of it are copies of old predecessors), or on a
re-used node of the other side (then the key is absent at this moment). -/
theorem Good.moved {lo hg : Option Nat}
    {cur : Option Nat} (hgood : Good g.cr A k inv s cur) (H : HInv s g) (hp : g.ph = .mid lo hg)
    (hlow : s.lowCell = cellOfHead lo) (hhigh : s.highCell = cellOfHead hg)
    (hh : s'.heap = s.heap) (h0 : s'.cell0 = .moved) (hL : s'.lowCell = s.lowCell) (hH : s'.highCell = s.highCell)
    (hnow : s'.now = s.now + 1) (hA' : ∀ τ, τ ≤ s.now → A' τ = A τ) (hA : A s.now = absOf s k)
    (hinv : inv ≤ s.now) : Good g.cr A' k inv s' cur := by
  obtain ⟨H', -⟩ := moved_effect H hp hlow hhigh hh h0 hL hH
  obtain ⟨hlt, sL, sH⟩ := mid_chains H hp hlow hhigh
  obtain ⟨⟨h, hc0⟩, -⟩ := H.mid lo hg hp
  have hnm : s.cell0 ≠ .moved := by rw [hc0]; exact Cell.noConfusion
  have sX : ∀ b, SideOK s.heap g.cr (chO s) b (chB s b) := by
    intro b; cases b
    · exact sL
    · exact sH
  have eB : ∀ b, chB s' b = chB s b := by
    intro b; unfold chB chL chH; rw [hh, hL, hH]
  have hlcs' : LC s' k = chB s (hiBit k) := by rw [LC_of_moved H' h0 k, eB]
  have hordO : ∀ i ∈ chO s, ord g.cr i = (i : Int) := fun i hi => ord_not_copy (H.oNotCopy i hi)
  have hside : ∀ {b i}, i ∈ chB s b → (nodeAt s.heap i).key = k → hiBit k = b :=
    fun hi hik => hik ▸ (sX _).side _ hi
  refine hgood.survives H (by rw [hh]; exact Nat.le_refl _) hnow hA' hA hinv ?_
  intro c hgc
  have hfrozen : ¬ (c ∈ chL s ∨ c ∈ chH s) → Frozen s s' g.cr c := fun hd =>
    .of_heap_eq hh (fun hl => hd (live_of_moved hh h0 hL hH hl))
  cases hgc with
  | on hcO hbefore =>
    rw [LC_of_not_moved H hnm k] at hcO hbefore
    have hb : ∀ i ∈ chO s, i < c → (nodeAt s.heap i).key ≠ k := fun i hi hic =>
      hbefore i hi (by rw [hordO i hi, hordO c hcO]; exact Int.ofNat_lt.2 hic)
    by_cases h1 : c ∈ chB s (hiBit k)
    · refine Or.inl (.on (by rw [hlcs']; exact h1) ?_)
      intro j hj hjc
      rw [hlcs'] at hj
      rw [hh]
      rcases (sX _).mem j hj with hjO | hjcp
      · exact hbefore j hjO hjc
      · obtain ⟨i, hi, hik, -, hir⟩ := (sX _).src j hj hjcp
        rw [← hik]
        exact hb i hi (hir c hcO h1)
    · by_cases h2 : c ∈ chB s (!hiBit k)
      · refine Or.inl (.foreign (τ := s.now) h0 (by rw [eB]; exact h2) hinv (hnow ▸ Nat.le_succ _) ?_)
        -- the nodes from `c` on are re-used on the other side
        rw [hA' _ (Nat.le_refl _), hA, absOf_none_iff, LC_of_not_moved H hnm k]
        intro i hi hik
        have hne : hiBit k ≠ !hiBit k := by cases hiBit k <;> exact Bool.noConfusion
        rcases Nat.lt_trichotomy i c with hlt' | heq | hgt
        · exact hb i hi hlt' hik
        · exact hne (hside (heq ▸ h2) hik)
        · exact hne (hside ((sX _).suffix c hcO h2 i hi hgt) hik)
      · refine Or.inr (hfrozen ?_)
        cases hbk : hiBit k <;> rw [hbk] at h1 h2
        · exact fun hl => hl.elim h1 h2
        · exact fun hl => hl.elim h2 h1
  | foreign hm _ _ _ _ => exact absurd hm hnm
  | off hcl _ _ _ =>
    exact Or.inr (hfrozen (fun hl => hcl (hl.elim (fun hl => Or.inr (Or.inl hl)) (fun hl => Or.inr (Or.inr (Or.inl hl))))))

/-- **hindsight across a `clear`**: the justification of a reader survives the store that empties the
(active) cell `id`: all nodes of its chain die at once, with the values and successors they have now. -/
theorem Good.cleared {id : CellId}
    {cur : Option Nat} (hgood : Good g.cr A k inv s cur) (H : HInv s g) (act : Active g id)
    (u : Update s s' g id []) (hh : s'.heap = s.heap)
    (hnow : s'.now = s.now + 1) (hA' : ∀ τ, τ ≤ s.now → A' τ = A τ) (hA : A s.now = absOf s k)
    (hinv : inv ≤ s.now) : Good g.cr A' k inv s' cur := by
  obtain ⟨-, hO⟩ := u.chains H act
  refine hgood.survives H (by rw [hh]; exact Nat.le_refl _) hnow hA' hA hinv ?_
  intro c hgc
  have hfrozen : (Live s g.cr c → c ∉ chId s id → False) → Frozen s s' g.cr c := fun hd =>
    .of_heap_eq hh (fun hl => hd (u.live_of_cleared H act hl).1 (u.live_of_cleared H act hl).2)
  cases hgc with
  | on hcm hbefore =>
    by_cases hlid : liveId s k = id
    · rw [H.LC_eq, hlid] at hcm
      exact Or.inr (hfrozen (fun _ hn => hn hcm))
    · have hlc' : LC s' k = LC s k := by rw [u.LC_eq H act, if_neg hlid]
      refine Or.inl (.on (by rw [hlc']; exact hcm) ?_)
      rw [hlc', hh]
      exact hbefore
  | @foreign _ τ hm hcm h1 h2 h3 =>
    rw [chB_eq_chId] at hcm
    by_cases hid : (if (!hiBit k) then CellId.high else CellId.low) = id
    · rw [hid] at hcm
      exact Or.inr (hfrozen (fun _ hn => hn hcm))
    · refine Or.inl (.foreign ((u.cell0_moved_iff H act).2 hm) ?_ h1 (hnow ▸ Nat.le_succ_of_le h2)
        (by rw [hA' _ h2]; exact h3))
      rw [chB_eq_chId, hO _ hid]
      exact hcm
  | off hcl _ _ _ => exact Or.inr (hfrozen (fun hl _ => hcl hl))

end Flurry.Proto.BinX
