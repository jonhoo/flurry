import Flurry.Lemmas.BinGDrainCalm
/-! # Proto/BinG, progress: what a reader's step leaves alone, and the measure of a reader

`Frame`: what the transitions of a thread at a reader program counter (`StepN.reader`) leave alone — all but one reader
count, the thread's own local state, the clock and `hist`: a reader takes no lock and stores nothing
(`reader_step_frame_aux`, C12.2). `mu s pc` is an upper bound on the number of steps a reader at `pc` still takes when
it runs alone from `s`, whatever the other threads are suspended at: the calm-step measure `pmV` of
`Lemmas/BinGDrainDefs.lean` at the present heap length and view (`mu_eq`; why a step lowers it: header of
`Lemmas/BinGDrainCalm.lean`). `Outcome` is what one step of a reader ends in — the call completed, or a reader
program counter with a smaller `mu` —; that the step is enabled and ends so is `reader_step_aux`
(`Lemmas/BinGProgStepW.lean`). -/
namespace Flurry.Proto.BinG
open Flurry.Lin
open Flurry.Proto.BinK (binAt rank get_set_ne binAt_modify)
open Flurry.Proto.BinGProg (le_ite)

/-- what a reader's steps leave alone: the heap (so every node's lock word, value and `next`), the
three bin cells, the table pointer, the resize flag, the number of `TreeBin`s and the `first` field,
the mutex, the `WRITER` and the `WAITER` bit of every one of them, and every other thread (only
`readers` of one `TreeBin`, its own local state, the clock and `hist` change) -/
structure Frame (t : Nat) (s s' : State) : Prop where
  heap : s'.heap = s.heap
  cell0 : s'.cell0 = s.cell0
  lowCell : s'.lowCell = s.lowCell
  highCell : s'.highCell = s.highCell
  cur : s'.cur = s.cur
  resizing : s'.resizing = s.resizing
  nbins : s'.tbins.length = s.tbins.length
  first : ∀ b, (binAt s'.tbins b).first = (binAt s.tbins b).first
  mutex : ∀ b, (binAt s'.tbins b).mutex = (binAt s.tbins b).mutex
  writer : ∀ b, (binAt s'.tbins b).writer = (binAt s.tbins b).writer
  waiter : ∀ b, (binAt s'.tbins b).waiter = (binAt s.tbins b).waiter
  others : ∀ t', t' ≠ t → s'.threads[t']? = s.threads[t']?

theorem Frame.refl (t : Nat) (s : State) : Frame t s s :=
  ⟨rfl, rfl, rfl, rfl, rfl, rfl, rfl, fun _ => rfl, fun _ => rfl, fun _ => rfl, fun _ => rfl, fun _ _ => rfl⟩

theorem Frame.trans {t : Nat} {s1 s2 s3 : State} (a : Frame t s1 s2) (b : Frame t s2 s3) : Frame t s1 s3 :=
  ⟨b.heap.trans a.heap, b.cell0.trans a.cell0, b.lowCell.trans a.lowCell, b.highCell.trans a.highCell,
    b.cur.trans a.cur, b.resizing.trans a.resizing, b.nbins.trans a.nbins,
    fun x => (b.first x).trans (a.first x), fun x => (b.mutex x).trans (a.mutex x),
    fun x => (b.writer x).trans (a.writer x), fun x => (b.waiter x).trans (a.waiter x),
    fun t' h => (b.others t' h).trans (a.others t' h)⟩

/-- the `TreeBin` table after a reader's transition: unchanged but for the reader count of one bin -/
def ReadersOnly (s : State) (tb : List TBin) : Prop :=
  tb = s.tbins ∨ ∃ (b : Nat) (f : TBin → Nat), tb = s.tbins.modify b (fun x => { x with readers := f x })

theorem frame_qst {s : State} {tb : List TBin} (htb : ReadersOnly s tb) (t : Nat) (l' : Local) (p : Pending)
    (res : KRes) : Frame t s (setT (qst s s.heap tb) t l') ∧ Frame t s (finish (qst s s.heap tb) t p res) := by
  have hb : tb.length = s.tbins.length ∧ ∀ c, (binAt tb c).first = (binAt s.tbins c).first ∧
      (binAt tb c).mutex = (binAt s.tbins c).mutex ∧ (binAt tb c).writer = (binAt s.tbins c).writer ∧
      (binAt tb c).waiter = (binAt s.tbins c).waiter := by
    rcases htb with rfl | ⟨b, f, rfl⟩
    · exact ⟨rfl, fun _ => ⟨rfl, rfl, rfl, rfl⟩⟩
    · refine ⟨List.length_modify .., fun c => ?_⟩
      rw [binAt_modify]; split <;> exact ⟨rfl, rfl, rfl, rfl⟩
  cases s
  exact ⟨⟨rfl, rfl, rfl, rfl, rfl, rfl, hb.1, fun c => (hb.2 c).1, fun c => (hb.2 c).2.1, fun c => (hb.2 c).2.2.1,
      fun c => (hb.2 c).2.2.2, fun _ h => get_set_ne h⟩,
    ⟨rfl, rfl, rfl, rfl, rfl, rfl, hb.1, fun c => (hb.2 c).1, fun c => (hb.2 c).2.1, fun c => (hb.2 c).2.2.1,
      fun c => (hb.2 c).2.2.2, fun _ h => get_set_ne h⟩⟩

theorem readerPc_facts {pc : Pc} (h : readerPc pc = true) : pc ≠ .idle ∧ noCallPc pc = false ∧ waitPc pc = false := by
  cases pc with
  | rTable _ | rCell _ _ | rNode _ | rFirst _ | rState _ _ | rLin _ _ | rCas _ _ _ | rTree _ | rRelease _ _ | rVal _
  | lFirst _ | lNode _ => exact ⟨nofun, rfl, rfl⟩
  | _ => cases h

theorem Move.reader {s : State} {t : Nat} {p : Pending} {pc pc' : Pc} {hp : List NodeS}
    (hm : Move s t p pc pc' hp) (hr : readerPc pc = true) : hp = s.heap ∧ readerPc pc' = true := by
  cases hm with
  | @rCellTree lo _ _ _ => cases lo <;> exact ⟨rfl, rfl⟩
  | _ => first | exact ⟨rfl, rfl⟩ | cases hr

theorem BMove.reader {s : State} {t : Nat} {p : Pending} {pc pc' : Pc} {tb : List TBin}
    (hm : BMove s t p pc pc' tb) (hr : readerPc pc = true) : ReadersOnly s tb ∧ readerPc pc' = true := by
  cases hm with
  | rCasOk _ _ _ => exact ⟨.inr ⟨_, fun x => x.readers + 1, rfl⟩, rfl⟩
  | rRelVal _ => exact ⟨.inr ⟨_, fun x => x.readers - 1, rfl⟩, rfl⟩
  | _ => cases hr

/-- the transitions of a thread at a reader program counter: a move that leaves the heap alone, the CAS
or the release of the reader count, or a return -/
theorem StepN.reader {s s' : State} {t : Nat} {l : Local} (hk : StepN s t l s') (hr : readerPc l.pc = true) :
    ∃ p tb, l.call = some p ∧ ReadersOnly s tb ∧
      ((∃ pc', readerPc pc' = true ∧ s' = setT (qst s s.heap tb) t { l with pc := pc' } ∧
          (Move s t p l.pc pc' s.heap ∧ tb = s.tbins ∨ BMove s t p l.pc pc' tb)) ∨
        ∃ res, s' = finish (qst s s.heap tb) t p res) := by
  obtain ⟨pc, call⟩ := l
  cases hk with
  | move p pc' hp hc hm =>
    obtain ⟨rfl, h2⟩ := hm.reader hr
    exact ⟨p, _, hc, .inl rfl, .inl ⟨pc', h2, rfl, .inl ⟨hm, rfl⟩⟩⟩
  | bmove p pc' tb hc hm =>
    obtain ⟨h1, h2⟩ := hm.reader hr
    exact ⟨p, tb, hc, h1, .inl ⟨pc', h2, rfl, .inr hm⟩⟩
  | fin p res hp hc hf =>
    have : hp = s.heap := by cases hf <;> first | rfl | cases hr
    subst this
    exact ⟨p, _, hc, .inl rfl, .inr ⟨res, rfl⟩⟩
  | bfin p res tb hc hf =>
    have : ReadersOnly s tb := by
      cases hf <;> first | exact .inr ⟨_, fun x => x.readers - 1, rfl⟩ | cases hr
    exact ⟨p, tb, hc, this, .inr ⟨res, rfl⟩⟩
  | kmove pc' hp hc hm => cases hm <;> cases hr
  | kbmove pc' tb hc hm => cases hm <;> cases hr
  | idle hpc | maint _ hpc | resizeStart hpc _ | invoke _ _ _ hpc | cas _ _ _ _ _ hpc _ _
  | store _ _ _ _ _ _ _ hpc | tval _ _ _ _ _ _ _ hpc | prepend _ _ _ _ _ _ hpc _ | treeLink _ _ _ _ _ hpc
  | unlink _ _ _ _ _ _ _ hpc | untree _ _ _ _ _ _ hpc | untreeify _ _ _ _ _ hpc | kbuild _ _ _ _ hpc
  | kstore _ _ _ _ _ hpc | xcasMoved _ hpc _ | xbuild _ _ hpc | ybuild _ _ _ _ hpc | xstoreLow _ _ _ _ hpc
  | xstoreHigh _ _ _ hpc | xstoreMoved _ _ hpc | xcommit _ hpc => rw [hpc] at hr; cases hr

/-- **a reader takes no lock and stores nothing** (no reachability assumption needed) -/
theorem reader_step_frame_aux {s s' : State} {t : Nat} {l : Local} (hl : s.threads[t]? = some l)
    (hrd : readerPc l.pc = true) {inv : Option (Nat × KOp)} {lo : Bool} {mt : Option Nat} {rz sm sm2 : Bool}
    (hs : step s t inv lo mt rz sm sm2 = some s') : Frame t s s' := by
  obtain ⟨p, tb, _, htb, ⟨pc', _, rfl, _⟩ | ⟨res, rfl⟩⟩ := (step_stepN hl hs).reader hrd
  · exact (frame_qst htb t _ p .none).1
  · exact (frame_qst htb t l p res).2

/-- an upper bound on the number of own steps a reader at `pc` still needs in `s` -/
def mu (s : State) : Pc → Nat
  | .rTable _ => 4 * s.heap.length + 10
  | .rCell _ .old => 4 * s.heap.length + 9
  | .rCell _ .new => 4 * s.heap.length + 8
  | .rNode none => 1
  | .rNode (some c) => rank s.heap c + 2
  | .rFirst _ => 4 * s.heap.length + 7
  | .rState _ none => 1
  | .rState _ (some c) => 2 * rank s.heap c + 6
  | .rLin _ c => 2 * rank s.heap c + 5
  | .rCas b c r => if casOk s b r = true then 4 else 2 * rank s.heap c + 7
  | .rTree _ => 3
  | .rRelease _ _ => 2
  | .rVal _ => 1
  | .lFirst _ => 2 * s.heap.length + 3
  | .lNode none => 1
  | .lNode (some c) => rank s.heap c + 2
  | _ => 0

/-- the bound of C12 for `Proto/BinG`: an explicit function of the heap size only -/
def soloBound (s : State) : Nat := 4 * s.heap.length + 10

theorem mu_eq {s : State} {pc : Pc} (call : Option Pending) (hr : readerPc pc = true) :
    mu s pc = pmV s.heap.length (viewOf s) ⟨pc, call⟩ := by
  cases pc with
  | rNode cur | rState _ cur | lNode cur => cases cur <;> rfl
  | rCell _ tab => cases tab <;> rfl
  | rTable _ | rFirst _ | rLin _ _ | rCas _ _ _ | rTree _ | rRelease _ _ | rVal _ | lFirst _ => rfl
  | _ => cases hr

theorem mu_le_soloBound {s : State} {pc : Pc} (hr : readerPc pc = true) (hw : WalkOK s.heap.length pc) :
    mu s pc ≤ soloBound s := by
  rw [mu_eq none hr]
  exact pmV_le_reader _ hr hw

theorem mu_pos {s : State} {pc : Pc} (hr : readerPc pc = true) : 0 < mu s pc := by
  cases pc with
  | rNode cur | rState _ cur | lNode cur => cases cur <;> exact Nat.succ_pos _
  | rCell _ tab => cases tab <;> exact Nat.succ_pos _
  | rCas b c r => exact le_ite (n := 1) (by omega) (by omega)
  | rTable _ | rFirst _ | rLin _ _ | rTree _ | rRelease _ _ | rVal _ | lFirst _ => exact Nat.succ_pos _
  | _ => cases hr

theorem mu_congr {s s' : State} (hh : s'.heap = s.heap) (ht : s'.tbins = s.tbins) (pc : Pc) : mu s' pc = mu s pc := by
  unfold mu casOk
  rw [hh, ht]

/-- the result of one step of a reader `t` (call `p`, at `pc`) from `s`: it has returned, or it is at
a reader pc with a smaller measure; the history is untouched unless it returned -/
def Outcome (s : State) (t : Nat) (p : Pending) (pc : Pc) (s' : State) : Prop :=
  (s'.threads[t]? = some { pc := .idle, call := none } ∧
    ∃ res, s'.hist = (p.key, { tid := t, op := p.op, res := res, inv := p.inv, resp := s.now + 1 }) :: s.hist) ∨
  (∃ pc', s'.threads[t]? = some { pc := pc', call := some p } ∧ readerPc pc' = true ∧ s'.hist = s.hist ∧
    mu s' pc' < mu s pc)

end Flurry.Proto.BinG
