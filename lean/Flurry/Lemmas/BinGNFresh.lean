import Flurry.Lemmas.BinGNFreshDefs
import Flurry.Lemmas.BinGNStepTools
/-! # Proto/BinGN: fresh planned `TreeBin`s are in no cell — every transition -/
namespace Flurry.Proto.BinGN
open Flurry.Lin
open Flurry.Proto.BinGNP (StepN)

theorem binsOf_cellOfHead (x : Option Nat) : binsOf (cellOfHead x) = [] := by cases x <;> rfl

/-- only treeify and the resizing thread have fresh `TreeBin`s -/
theorem fresh_of_call {pc : Pc} (h : noCallPc pc = false) : freshB pc = [] ∧ planDistinct pc := by
  cases pc <;> first | exact ⟨rfl, trivial⟩ | cases h

/-- `FreshInv` does not look at the history -/
theorem FreshInv.finish {s : State} {t : Nat} {p : Pending} {res : KRes} (F : FreshInv (setT s t ⟨.idle, none⟩)) :
    FreshInv (finish s t p res) :=
  ⟨F.noCell, F.uniq, F.dist⟩

/-- a step that does not touch the tables, after which the acting thread has no fresh `TreeBin` -/
theorem freshInv_call {s s' : State} {t : Nat} {l l' : Local} (F : FreshInv s) (I : GenInv s)
    (hl : s.threads[t]? = some l) (hthr : s'.threads = s.threads.set t l') (htabs : s'.tabs = s.tabs)
    (h' : freshB l'.pc = [] ∧ planDistinct l'.pc) : FreshInv s' :=
  freshInv_same F I hl hthr htabs (fun b hb => by rw [h'.1] at hb; cases hb) h'.2

theorem stepN_freshInv {s s' : State} {t : Nat} {l : Local} (I : GenInv s) (F : FreshInv s)
    (hl : s.threads[t]? = some l) (h : StepN s t l s') : FreshInv s' := by
  have T := I.thr t _ hl
  obtain ⟨pc, call⟩ := l
  cases h with
  | idle h => exact freshInv_same F I hl rfl rfl (fun b h => h) (F.dist t _ hl)
  | resizeStart h hr =>
    refine freshInv_frame F hl rfl ?_ (fun b h => nomatch h) I.bins (fresh_lt I) trivial
    intro g j b h
    have h' : cellT (s.tabs ++ [List.replicate (2 ^ (s.cur + 1)) (.empty : Cell)]) g j = .tree b := h
    rw [cellT_alloc] at h'
    exact Or.inl ⟨g, j, h'⟩
  | invoke k op lo h => cases isReader op <;> exact freshInv_call F I hl rfl rfl ⟨rfl, trivial⟩
  | cas p g v vi hc hpc _ _ =>
    exact FreshInv.finish (freshInv_put (c := .list s.heap.length) F I hl rfl rfl (fun b h => nomatch h)
      (fun b h => nomatch h) trivial)
  | store p g h pred hit hnext hc hpc =>
    obtain ⟨hg, ht⟩ := storeAt_shape (BinGNP.tick s) g p pred hit hnext
    rcases ht with e | ⟨c, -, hct, e⟩
    · exact freshInv_call F I hl (hg.set _ _) e ⟨rfl, trivial⟩
    · exact freshInv_put F I hl (hg.set _ _) e (fun b h => absurd h (hct b)) (fun b h => nomatch h) trivial
  | unlink p g b i res sm hc hpc =>
    have hg := unlinkOf_grows (BinGNP.tick s) b i
    cases sm <;> exact freshInv_call F I hl (hg.1.set _ _) hg.2 ⟨rfl, trivial⟩
  | untreeify p g b res hc hpc =>
    exact freshInv_put (c := cellOfHead _) F I hl rfl rfl (fun b' h => absurd h (cellOfHead_ne_tree _ _))
      (fun b h => nomatch h) trivial
  | kbuild g k h hc hpc =>
    refine freshInv_frame F hl rfl (fun g' j b' hc => Or.inl ⟨g', j, hc⟩) ?_ I.bins (fresh_lt I) trivial
    intro b' hb
    cases List.mem_singleton.1 hb
    exact Or.inr (Nat.le_refl _)
  | kstore g k h b hc hpc =>
    cases hpc
    exact freshInv_put (c := .tree b) F I hl rfl rfl (fun b' h => by cases h; exact Or.inl (List.mem_singleton.2 rfl))
      (fun b h => nomatch h) trivial
  | xbuild j h hc hpc =>
    refine freshInv_frame F hl rfl (fun g' j' b' hc => Or.inl ⟨g', j', hc⟩) ?_ I.bins (fresh_lt I)
      (fun b' hb' => absurd hb' (cellOfHead_ne_tree _ _))
    intro b' hb
    have : b' ∈ (binsOf (cellOfHead _) ++ binsOf (cellOfHead _)) := (List.mem_filter.1 hb).1
    rw [binsOf_cellOfHead, binsOf_cellOfHead] at this
    cases this
  | ybuild j b sm sm2 hc hpc =>
    cases hc; cases hpc
    obtain ⟨hg, ht, -, -, hb, hd⟩ := ysplitOf_grows (BinGNP.tick s) b sm sm2
    have hcell : ∀ g' j' b', cellAt (setT (BinGNP.ysplitOf (BinGNP.tick s) b sm sm2).1 t
        ⟨.xStoreLow j (.inr b) (BinGNP.ysplitOf (BinGNP.tick s) b sm sm2).2.1
          (BinGNP.ysplitOf (BinGNP.tick s) b sm sm2).2.2, none⟩) g' j' = .tree b' →
        (∃ g' j', cellAt s g' j' = .tree b') ∨ b' ∈ freshB (.yBuild j b) :=
      fun g' j' b' h => Or.inl ⟨g', j', by rw [cellAt_eq, ← show _ = s.tabs from ht]; exact h⟩
    refine freshInv_frame F hl (hg.set _ _) hcell ?_ I.bins (fresh_lt I) (hd (T.heldM b rfl).1)
    intro b' hb'
    obtain ⟨hm, hne⟩ := List.mem_filter.1 hb'
    have hm : (BinGNP.ysplitOf (BinGNP.tick s) b sm sm2).2.1 = .tree b' ∨
        (BinGNP.ysplitOf (BinGNP.tick s) b sm sm2).2.2 = .tree b' := by
      rcases List.mem_append.1 hm with h | h
      · exact Or.inl (mem_binsOf.1 h)
      · exact Or.inr (mem_binsOf.1 h)
    rcases hb b' hm with rfl | h
    · simp at hne
    · exact Or.inr h.1
  | xstoreLow j unl lo hi hc hpc =>
    cases hc; cases hpc
    have hd := F.dist t _ hl
    obtain ⟨hcell, -⟩ := T.valid s.cur j (unlCell unl) rfl
    refine freshInv_put (c := lo) F I hl rfl rfl ?_ ?_ trivial
    · intro b hb
      by_cases e : unl = .inr b
      · subst e
        exact Or.inr ⟨s.cur, j, hcell⟩
      · exact Or.inl (List.mem_filter.2 ⟨List.mem_append.2 (Or.inl (mem_binsOf.2 hb)), by simpa using e⟩)
    · intro b hb
      obtain ⟨hm, hne⟩ := List.mem_filter.1 hb
      exact ⟨List.mem_filter.2 ⟨List.mem_append.2 (Or.inr hm), hne⟩, fun h => hd b h (mem_binsOf.1 hm)⟩
  | xstoreHigh j unl hi hc hpc =>
    cases hc; cases hpc
    obtain ⟨hcell, -⟩ := T.valid s.cur j (unlCell unl) rfl
    refine freshInv_put (c := hi) F I hl rfl rfl ?_ (fun b h => nomatch h) trivial
    intro b hb
    by_cases e : unl = .inr b
    · subst e
      exact Or.inr ⟨s.cur, j, hcell⟩
    · exact Or.inl (List.mem_filter.2 ⟨mem_binsOf.2 hb, by simpa using e⟩)
  | xcasMoved _ _ _ _ | xstoreMoved _ _ _ _ =>
    exact freshInv_put (c := .moved) F I hl rfl rfl (fun b h => nomatch h) (fun b h => nomatch h) trivial
  | move _ _ _ _ hm | bmove _ _ _ _ hm => exact freshInv_call F I hl rfl rfl (fresh_of_call hm.callPcs.2)
  | kmove _ _ _ hm | kbmove _ _ _ hm => cases hm <;> exact freshInv_call F I hl rfl rfl ⟨rfl, trivial⟩
  | fin _ _ _ _ _ | bfin _ _ _ _ _ => exact FreshInv.finish (freshInv_call F I hl rfl rfl ⟨rfl, trivial⟩)
  | maint _ _ | tval _ _ _ _ _ _ _ _ | prepend _ _ _ _ _ _ _ _ | treeLink _ _ _ _ _ _ | untree _ _ _ _ _ _ _
  | xcommit _ _ =>
    exact freshInv_call F I hl rfl rfl ⟨rfl, trivial⟩

theorem init_freshInv (n : Nat) : FreshInv (init n) := by
  refine ⟨?_, ?_, ?_⟩
  · intro t l b h hb; rw [init_threads h] at hb; cases hb
  · intro t t' l l' b h _ hb; rw [init_threads h] at hb; cases hb
  · intro t l h; rw [init_threads h]; trivial

end Flurry.Proto.BinGN
