/-! # Runs of a transition relation along which a measure descends

The argument "nothing new is started, so everything in flight finishes" (C11: the quiet runs of a lineage and of a table
drain), whatever the state type: `stp` is the transition relation, `Inv` an invariant of it, `μ` a measure that every
transition from an invariant state lowers, `Done` the states without a transition (`Drains`). Then a run of `k`
transitions lowers the measure by at least `k` (`bounded`), a run that cannot be extended ends `Done` (`maximal`), some run
reaches a `Done` state (`exists_run`), and no run is infinite (`no_infinite`). `Run stp s k s'` is `k` transitions; the run
predicates of the models (`QRun` of `Proto/BinG` and `Proto/BinGN`, `TQRun` of the tables over them) are stated in the
models' own terms, since the statements of C11 speak of them, and are carried over by `Run.iff_of`. The measures are sums
over the list of threads, or of lineages: what such a sum does when one entry is replaced is in `Lemmas/ListSet.lean`. -/
namespace Flurry.Descent

inductive Run {σ : Type} (stp : σ → σ → Prop) : σ → Nat → σ → Prop
  | nil (s : σ) : Run stp s 0 s
  | cons {s s1 s2 : σ} {k : Nat} : stp s s1 → Run stp s1 k s2 → Run stp s (k + 1) s2

/-- a predicate with the two constructors and the induction principle of `Run` is `Run` -/
theorem Run.iff_of {σ : Type} {stp : σ → σ → Prop} {R : σ → Nat → σ → Prop} (nil : ∀ s, R s 0 s)
    (cons : ∀ {s s1 s2 k}, stp s s1 → R s1 k s2 → R s (k + 1) s2)
    (ind : ∀ {s k s'}, R s k s' → Run stp s k s') {s s' : σ} {k : Nat} : R s k s' ↔ Run stp s k s' :=
  ⟨ind, fun h => by
    induction h with
    | nil => exact nil _
    | cons h1 _ ih => exact cons h1 ih⟩

section
variable {σ : Type} {stp : σ → σ → Prop}

theorem Run.snoc {s s1 s2 : σ} {k : Nat} (h : Run stp s k s1) (h2 : stp s1 s2) : Run stp s (k + 1) s2 := by
  induction h with
  | nil => exact .cons h2 (.nil _)
  | cons h1 _ ih => exact .cons h1 (ih h2)

theorem Run.keeps {P : σ → Prop} (hP : ∀ {s s'}, stp s s' → P s → P s') {s s' : σ} {k : Nat}
    (h : Run stp s k s') (hs : P s) : P s' := by
  induction h with
  | nil => exact hs
  | cons h1 _ ih => exact ih (hP h1 hs)

theorem Run.of_seq {f : Nat → σ} (hf : ∀ i, stp (f i) (f (i + 1))) : ∀ k, Run stp (f 0) k (f k)
  | 0 => .nil _
  | k + 1 => (Run.of_seq hf k).snoc (hf k)

/-- `stp` keeps `Inv`, lowers `μ` from `Inv` states, and has a transition from exactly the `Inv` states that are
not `Done` -/
structure Drains (stp : σ → σ → Prop) (Inv Done : σ → Prop) (μ : σ → Nat) : Prop where
  inv : ∀ {s s'}, Inv s → stp s s' → Inv s'
  lt : ∀ {s s'}, Inv s → stp s s' → μ s' < μ s
  prog : ∀ {s}, Inv s → ¬ Done s → ∃ s', stp s s'
  stop : ∀ {s s'}, Done s → ¬ stp s s'

variable {Inv Done : σ → Prop} {μ : σ → Nat} (D : Drains stp Inv Done μ)
include D

theorem Drains.run_inv {s s' : σ} {k : Nat} (hs : Inv s) (h : Run stp s k s') : Inv s' :=
  h.keeps (fun h1 hs => D.inv hs h1) hs

theorem Drains.bounded {s s' : σ} {k : Nat} (hs : Inv s) (h : Run stp s k s') : k + μ s' ≤ μ s := by
  induction h with
  | nil => exact Nat.le_of_eq (Nat.zero_add _)
  | cons h1 _ ih =>
    have := D.lt hs h1
    have := ih (D.inv hs h1)
    omega

theorem Drains.extends {s s' : σ} {k : Nat} (hs : Inv s) (h : Run stp s k s') (hd : ¬ Done s') :
    ∃ s'', Run stp s (k + 1) s'' := by
  obtain ⟨s'', h''⟩ := D.prog (D.run_inv hs h) hd
  exact ⟨s'', h.snoc h''⟩

theorem Drains.maximal {s s' : σ} {k : Nat} (hs : Inv s) (h : Run stp s k s') (hmax : ∀ s'', ¬ stp s' s'') :
    Done s' :=
  Classical.byContradiction fun hd => (D.prog (D.run_inv hs h) hd).elim hmax

theorem Drains.done_iff {s : σ} (hs : Inv s) : Done s ↔ ∀ s', ¬ stp s s' :=
  ⟨fun hd _ => D.stop hd, D.maximal hs (.nil s)⟩

theorem Drains.exists_run {s : σ} (hs : Inv s) : ∃ k s', Run stp s k s' ∧ Done s' ∧ k + μ s' ≤ μ s := by
  generalize hm : μ s = m
  induction m using Nat.strongRecOn generalizing s with
  | _ m ih =>
    by_cases hd : Done s
    · exact ⟨0, s, .nil s, hd, by omega⟩
    · obtain ⟨s1, h1⟩ := D.prog hs hd
      have hlt := D.lt hs h1
      obtain ⟨k, s', hrun, hd', hb⟩ := ih (μ s1) (by omega) (D.inv hs h1) rfl
      exact ⟨k + 1, s', .cons h1 hrun, hd', by omega⟩

theorem Drains.no_infinite {s : σ} (hs : Inv s) (f : Nat → σ) (h0 : f 0 = s) : ¬ ∀ i, stp (f i) (f (i + 1)) := by
  intro hf
  have := D.bounded (h0 ▸ hs) (Run.of_seq hf (μ (f 0) + 1))
  omega

end

end Flurry.Descent
