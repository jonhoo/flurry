import Flurry.Lemmas.BinNDefs
import Flurry.Lemmas.BinNLive
/-! # Proto/BinN: what the shape of the tables says about cells, chains and the live cell (C01, C10)

Facts about `BinN.State` alone (no ghost): they serve `Proto/BinN` and `Proto/BinNH` alike. `Shape` is the part of
`GenInv` that mentions no thread (`GenInv.shape`). Besides: what `setCell` / a store into one cell leaves alone, the
arithmetic of parent and child cells, and the congruences of `SideOK` / `Split` under a change of the heap that keeps
the nodes concerned. -/
namespace Flurry.Proto.BinN
open Flurry.Lin
open Flurry.Proto.BinX (NodeS Cell Pending dflt chainFrom cellHead cellOfHead nodeAt nodeAt_of_some getElem?_nodeAt IsSeg
  IsChain chainH chainH_empty chainH_moved absIn absIn_congr KeysDistinct)

theorem cellAt_of_length_le {s : State} {g : Nat} (h : s.tabs.length ≤ g) (j : Nat) : cellAt s g j = .empty := by
  unfold cellAt
  have e : s.tabs.getD g [] = [] := by rw [List.getD_eq_getElem?_getD, List.getElem?_eq_none h]; rfl
  rw [e]; rfl

theorem GenInv.shape {s : State} (I : GenInv s) : Shape s := ⟨I.len, I.rows, I.old, I.nextOK, I.curMoved⟩

theorem getCell_mk (s : State) (g j : Nat) : getCell s (g, j) = cellAt s g j := rfl

theorem keyOn_cellId (g k : Nat) : keyOn (cellId g k) k := rfl

theorem chainOfCell_eq (s : State) (c : Cell) : chainOfCell s c = chainH s.heap c := rfl

namespace Shape
variable {s : State}

theorem cur_lt (S : Shape s) : s.cur < s.tabs.length := by
  have := S.len
  omega

theorem cell_of_gen_gt (S : Shape s) {g j : Nat} (hg : s.cur + 1 < g) : cellAt s g j = .empty := by
  refine cellAt_of_length_le ?_ j
  have := S.len
  split at this <;> omega

theorem cell_of_idx_ge (S : Shape s) {g j : Nat} (hj : 2 ^ g ≤ j) : cellAt s g j = .empty := by
  unfold cellAt
  cases hr : s.tabs[g]? with
  | none =>
    have e : s.tabs.getD g [] = [] := by rw [List.getD_eq_getElem?_getD, hr]; rfl
    rw [e]; rfl
  | some row =>
    have e : s.tabs.getD g [] = row := by rw [List.getD_eq_getElem?_getD, hr]; rfl
    have := S.rows g row hr
    rw [e, List.getD_eq_getElem?_getD, List.getElem?_eq_none (by omega)]; rfl

theorem liveCell_eq (S : Shape s) (k : Nat) : liveCell s k = getCell s (liveId s k) := by
  rw [liveCell_eq_of S.cur_lt S.nextNM]
  unfold liveId
  split <;> rfl

end Shape

theorem chId_of_empty {s : State} {id : CellId} (h : getCell s id = .empty) : chId s id = [] := by
  unfold chId; rw [h]; exact chainH_empty _

theorem chId_of_moved {s : State} {id : CellId} (h : getCell s id = .moved) : chId s id = [] := by
  unfold chId; rw [h]; exact chainH_moved _

/-- the cell of a key in an older generation is the ancestor of its cell in a newer one -/
theorem keyOn_mod {g g' j k : Nat} (hg : g ≤ g') (h : k % 2 ^ g' = j) : k % 2 ^ g = j % 2 ^ g := by
  rw [← h]
  exact (Nat.mod_mod_of_dvd k (Nat.pow_dvd_pow 2 hg)).symm

theorem absOf_eq (s : State) (k : Nat) : absOf s k = absIn s.heap (LC s k) k := by
  unfold absOf absIn LC nodeAt
  cases (chainOfCell s (liveCell s k)).find? _ <;> rfl

theorem getCell_congr {s s' : State} (ht : s'.tabs = s.tabs) (id : CellId) : getCell s' id = getCell s id := by
  unfold getCell; rw [cellAt_eq, cellAt_eq, ht]

theorem chId_congr {s s' : State} (hh : s'.heap = s.heap) (ht : s'.tabs = s.tabs) (id : CellId) :
    chId s' id = chId s id := by
  unfold chId; rw [hh, getCell_congr ht]

theorem LC_congr {s s' : State} (hh : s'.heap = s.heap) (ht : s'.tabs = s.tabs) (hc : s'.cur = s.cur) (k : Nat) :
    LC s' k = LC s k := by
  unfold LC chainOfCell
  rw [hh, liveCell_congr ht hc]

theorem absOf_congr_mem {s s' : State} (hh : s'.heap = s.heap) (ht : s'.tabs = s.tabs) (hc : s'.cur = s.cur) (k : Nat) :
    absOf s' k = absOf s k := by
  rw [absOf_eq, absOf_eq, LC_congr hh ht hc, hh]

theorem Shape.congr {s s' : State} (S : Shape s) (ht : s'.tabs = s.tabs) (hc : s'.cur = s.cur)
    (hr : s'.resizing = s.resizing) : Shape s' := by
  have hcell : ∀ g j, cellAt s' g j = cellAt s g j := fun g j => by rw [cellAt_eq, cellAt_eq, ht]
  refine ⟨by rw [ht, hc, hr]; exact S.len, by rw [ht]; exact S.rows, ?_, ?_, ?_⟩
  · intro g j hg hj; rw [hcell]; rw [hc] at hg; exact S.old g j hg hj
  · intro j; rw [hcell, hc]; exact S.nextNM j
  · intro j; rw [hcell, hc, hr]; exact S.curMoved j

theorem absOf_tick (s : State) (k : Nat) : absOf (tick s) k = absOf s k :=
  absOf_congr_mem (s := s) (s' := tick s) rfl rfl rfl k

theorem absOf_setT (s : State) (t : Nat) (l : Local) (k : Nat) : absOf (setT s t l) k = absOf s k :=
  absOf_congr_mem (s := s) (s' := setT s t l) rfl rfl rfl k

theorem absOf_finish (s : State) (t : Nat) (p : Pending) (res : KRes) (k : Nat) :
    absOf (finish s t p res) k = absOf s k := absOf_congr_mem (s := s) (s' := finish s t p res) rfl rfl rfl k

theorem absOf_of_empty {s : State} {k : Nat} (h : liveCell s k = .empty) : absOf s k = none := by
  rw [absOf_eq]
  unfold LC
  rw [h, chainOfCell_eq, chainH_empty]; rfl

theorem getCell_setNode (s : State) (i : Nat) (f : NodeS → NodeS) (id : CellId) :
    getCell (setNode s i f) id = getCell s id := rfl

theorem rows_of_tabs_eq {s s' : State} (ht : s'.tabs = s.tabs) :
    ∀ (g : Nat) (row' : List Cell), s'.tabs[g]? = some row' →
      ∃ row : List Cell, s.tabs[g]? = some row ∧ row'.length = row.length :=
  fun _ row' hr => ⟨row', by rw [← ht]; exact hr, rfl⟩

theorem setCell_frame (s : State) (g k : Nat) (c : Cell) :
    (setCell s g k c).heap = s.heap ∧ (setCell s g k c).threads = s.threads ∧
    (setCell s g k c).hist = s.hist ∧ (setCell s g k c).now = s.now ∧ (setCell s g k c).cur = s.cur ∧
    (setCell s g k c).resizing = s.resizing := ⟨rfl, rfl, rfl, rfl, rfl, rfl⟩

theorem setCell_shape (s : State) (g k : Nat) (c : Cell) :
    (setCell s g k c).tabs.length = s.tabs.length ∧
    ∀ (g' : Nat) (row' : List Cell), (setCell s g k c).tabs[g']? = some row' →
      ∃ row : List Cell, s.tabs[g']? = some row ∧ row'.length = row.length := by
  refine ⟨by simp [setCell, putCell], ?_⟩
  intro g' row' hr'
  have e : (setCell s g k c).tabs = s.tabs.modify g (fun row => row.set (k % 2 ^ g) c) := rfl
  rw [e, List.getElem?_modify] at hr'
  cases hr : s.tabs[g']? with
  | none => rw [hr] at hr'; cases hr'
  | some row =>
    rw [hr] at hr'
    simp only [Option.map_eq_map, Option.map_some, Option.some.injEq] at hr'
    refine ⟨row, rfl, ?_⟩
    rw [← hr']
    split <;> simp

theorem getCell_setCell (s : State) (g k : Nat) (c : Cell) {row : List Cell} (hr : s.tabs[g]? = some row)
    (hj : k % 2 ^ g < row.length) (id' : CellId) :
    getCell (setCell s g k c) id' = if id' = cellId g k then c else getCell s id' := by
  by_cases hid : id' = cellId g k
  · subst hid
    rw [if_pos rfl]
    show cellAt (putCell s g (k % 2 ^ g) c) g (k % 2 ^ g) = c
    rw [cellAt_eq, putCell_tabs]
    exact cellT_put_self_eq s.tabs c hr hj
  · rw [if_neg hid]
    obtain ⟨g', j'⟩ := id'
    show cellAt (putCell s g (k % 2 ^ g) c) g' j' = cellAt s g' j'
    refine cellAt_putCell_ne s c ?_
    rintro ⟨rfl, rfl⟩
    exact hid rfl

theorem mod_succ_bit (k c : Nat) : k % 2 ^ (c + 1) = k % 2 ^ c + (if bitAt c k then 2 ^ c else 0) := by
  rw [Nat.mod_pow_succ]
  unfold bitAt
  rcases Nat.mod_two_eq_zero_or_one (k / 2 ^ c) with h | h <;> rw [h] <;> simp

theorem cellAt_put_ne {s s' : State} {g j : Nat} {c : Cell}
    (ht : s'.tabs = s.tabs.modify g (fun row => row.set j c)) {g' j' : Nat} (h : ¬ (g' = g ∧ j' = j)) :
    cellAt s' g' j' = cellAt s g' j' := by
  rw [cellAt_eq, cellAt_eq, ht]; exact cellT_put_ne _ _ h

theorem cellAt_put_self {s s' : State} (S : Shape s) {g j : Nat} {c : Cell}
    (ht : s'.tabs = s.tabs.modify g (fun row => row.set j c)) (hg : g < s.tabs.length) (hj : j < 2 ^ g) :
    cellAt s' g j = c := by
  rw [cellAt_eq, ht]
  have hr : s.tabs[g]? = some s.tabs[g] := List.getElem?_eq_getElem hg
  exact cellT_put_self_eq _ _ hr (by rw [S.rows g _ hr]; exact hj)

theorem getCell_put_ne {s s' : State} {g j : Nat} {c : Cell}
    (ht : s'.tabs = s.tabs.modify g (fun row => row.set j c)) {id : CellId} (h : id ≠ (g, j)) :
    getCell s' id = getCell s id := by
  unfold getCell
  exact cellAt_put_ne ht (fun ⟨h1, h2⟩ => h (Prod.ext h1 h2))

theorem Shape.next_lt {s : State} (S : Shape s) (hr : s.resizing = true) : s.cur + 1 < s.tabs.length := by
  have := S.len
  rw [hr] at this
  simp at this
  omega

theorem liveId_cur {s : State} {k : Nat} (h : cellAt s s.cur (k % 2 ^ s.cur) ≠ .moved) :
    liveId s k = (s.cur, k % 2 ^ s.cur) := by
  unfold liveId; rw [if_neg (by unfold cellOf; exact h)]; rfl

theorem liveId_next {s : State} {k : Nat} (h : cellAt s s.cur (k % 2 ^ s.cur) = .moved) :
    liveId s k = (s.cur + 1, k % 2 ^ (s.cur + 1)) := by
  unfold liveId; rw [if_pos (by unfold cellOf; exact h)]; rfl

theorem liveId_congr_cur {s s' : State} (hc : s'.cur = s.cur) {k : Nat}
    (h : cellAt s' s.cur (k % 2 ^ s.cur) = cellAt s s.cur (k % 2 ^ s.cur)) : liveId s' k = liveId s k := by
  unfold liveId cellOf
  rw [hc, h]

theorem child_cases {c j jm : Nat} (hj : j < 2 ^ (c + 1)) (hp : j % 2 ^ c = jm) : j = jm ∨ j = jm + 2 ^ c := by
  have h1 := Nat.div_add_mod j (2 ^ c)
  have h2 : j / 2 ^ c < 2 := by
    apply Nat.div_lt_of_lt_mul
    rw [Nat.pow_succ] at hj
    omega
  rw [hp] at h1
  generalize j / 2 ^ c = q at h1 h2
  rcases Nat.lt_or_ge q 1 with h | h
  · have : q = 0 := by omega
    subst this
    left; omega
  · have : q = 1 := by omega
    subst this
    right; omega

theorem SideOK.congr {bit : Nat → Bool} {heap heap' : List NodeS} {cr : CR} {fr : Nat × Nat} {O X : List Nat} {b : Bool}
    (h : SideOK bit heap cr fr O b X) (hO : ∀ i ∈ O, nodeAt heap' i = nodeAt heap i)
    (hX : ∀ i ∈ X, nodeAt heap' i = nodeAt heap i) : SideOK bit heap' cr fr O b X := by
  refine ⟨?_, ?_, h.mem, ?_, ?_, h.suffix⟩
  · intro j hj; rw [hX j hj]; exact h.side j hj
  · exact h.keys.congr (fun j hj => by rw [hX j hj])
  · intro j hj hf
    obtain ⟨i, hi, h1, h2, h3⟩ := h.src j hj hf
    exact ⟨i, hi, by rw [hO i hi, hX j hj]; exact h1, by rw [hO i hi, hX j hj]; exact h2, h3⟩
  · intro i hi hb
    rw [hO i hi] at hb
    obtain ⟨j, hj, h1, h2, h3⟩ := h.cover i hi hb
    exact ⟨j, hj, by rw [hO i hi, hX j hj]; exact h1, by rw [hO i hi, hX j hj]; exact h2, h3⟩

theorem isChain_congr_nodes {heap heap' : List NodeS} {a : Option Nat} {l : List Nat} (h : IsChain heap a l)
    (hlen : heap.length ≤ heap'.length) (hl : ∀ i ∈ l, nodeAt heap' i = nodeAt heap i) : IsChain heap' a l := by
  refine IsSeg.congr h ?_
  intro j hj n hn
  have hjl : j < heap.length := (List.getElem?_eq_some_iff.1 hn).1
  refine ⟨nodeAt heap' j, getElem?_nodeAt (by omega), ?_⟩
  rw [hl j hj, nodeAt_of_some hn]

theorem Split.congr {bit : Nat → Bool} {heap heap' : List NodeS} {cr : CR} {fr : Nat × Nat} {O : List Nat}
    {lo hg : Option Nat} (h : Split bit heap cr fr O lo hg) (hlen : heap.length ≤ heap'.length)
    (hsame : ∀ L Hh, IsChain heap lo L → IsChain heap hg Hh → ∀ i, (i ∈ O ∨ i ∈ L ∨ i ∈ Hh) →
      nodeAt heap' i = nodeAt heap i) : Split bit heap' cr fr O lo hg := by
  obtain ⟨h0, L, Hh, hL, hH, sL, sH⟩ := h
  have hs := hsame L Hh hL hH
  refine ⟨h0, L, Hh, isChain_congr_nodes hL hlen (fun i hi => hs i (Or.inr (Or.inl hi))),
    isChain_congr_nodes hH hlen (fun i hi => hs i (Or.inr (Or.inr hi))), ?_, ?_⟩
  · exact sL.congr (fun i hi => hs i (Or.inl hi)) (fun i hi => hs i (Or.inr (Or.inl hi)))
  · exact sH.congr (fun i hi => hs i (Or.inl hi)) (fun i hi => hs i (Or.inr (Or.inr hi)))

theorem SideOK.congr_heap {bit : Nat → Bool} {heap heap' : List NodeS} {cr : CR} {fr : Nat × Nat} {O X : List Nat}
    {b : Bool} (sX : SideOK bit heap cr fr O b X)
    (hk : ∀ j, (nodeAt heap' j).key = (nodeAt heap j).key)
    (hv : ∀ j, (nodeAt heap' j).val = (nodeAt heap j).val) : SideOK bit heap' cr fr O b X := by
  refine ⟨fun j hj => by rw [hk j]; exact sX.side j hj, sX.keys.congr (fun j _ => hk j), sX.mem, ?_, ?_, sX.suffix⟩
  · intro j hj hf
    obtain ⟨i, hi, h5, h6, h7⟩ := sX.src j hj hf
    exact ⟨i, hi, by rw [hk i, hk j]; exact h5, by rw [hv i, hv j]; exact h6, h7⟩
  · intro i hi hb
    rw [hk i] at hb
    obtain ⟨j, hj, h5, h6, h7⟩ := sX.cover i hi hb
    exact ⟨j, hj, by rw [hk i, hk j]; exact h5, by rw [hv i, hv j]; exact h6, h7⟩

theorem sideOK_abs {bit : Nat → Bool} {heap : List NodeS} {cr : CR} {fr : Nat × Nat} {O X : List Nat} {b : Bool}
    (hO : KeysDistinct heap O) (sX : SideOK bit heap cr fr O b X) {k : Nat} (hk : bit k = b) :
    absIn heap X k = absIn heap O k := by
  refine absIn_congr hO sX.keys ?_ ?_
  · intro i hi hik
    obtain ⟨j, hj, h1, h2, -⟩ := sX.cover i hi (by rw [hik]; exact hk)
    exact ⟨j, hj, by rw [h1, hik], h2⟩
  · intro j hj hjk
    rcases sX.mem j hj with h | h
    · exact ⟨j, h, hjk⟩
    · obtain ⟨i, hi, h1, -, -⟩ := sX.src j hj h
      exact ⟨i, hi, by rw [h1, hjk]⟩

end Flurry.Proto.BinN
