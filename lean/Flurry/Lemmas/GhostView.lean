import Flurry.Lemmas.SharedBasic
import Flurry.Lemmas.GhostSig
/-! # What the ghost layer needs to know of a small-step model: threads with pending calls, a history, a clock

`View` is the interface: how to read a thread-local state and a pending call. Over a `View` and the signature `Sig`
of the calls, with the thread list, the history and the clock as plain arguments and a step of thread `t` given by
`ts' = ts.set t l'`, `now' = now + 1`, `hist' = hnew ++ hist` (a model discharges these by `rfl`):

* `Threads`, the models' `TInv`, with its one preservation theorem `Threads.step`;
* the extended history `callsOnExt` of a key: its completed calls (`callsOn`, `Lemmas/SharedBasic.lean`), and from every
  thread the call of a writer that is past its linearization point (`extOf`); where the calls come from and go to in a
  step (`ext_backward`, `ext_forward`);
* the kinds of step a thread can take with respect to the trace of one key: `Trace.quiet` (with the special cases
  `.quiet_none`, `.quiet_keep`, `.other_key`, `.respond`) and `Trace.new` (with `.writer_point`, `.call_fin`); the first
  state (`Trace.init`); and the way to linearizability (`Trace.lin`, `Trace.lin2`).

The models' `TInv`, `extOf`, `callsOnExt`, `CallOK` and ghost invariants `GInv` are definitions of their own, over the
model's `State` and call type: the theorems of `Props/` are stated with them. So a model does not use the structures
of this file in their place; it gives its `view` and shows that its `TInv` gives `Threads` (`TInv.gen`, the anonymous
constructor, in every model). The converse `TInv.of_gen`, and with it `Threads.step`, is used by the models that prove
the preservation of `TInv` themselves (`BinRB`, `BinT`, `BinU`, `BinNA`, `BinN`, `BinXC`, `BinGNP`; where `TInv` has a
clause more than `Threads`, `of_gen` takes it as a hypothesis); `Bin`, `BinK`, `BinX`, `BinG` have `TInv.gen` only. The
model shows that its `extOf` / `callsOnExt` are the ones of this file, and reads the `Trace` of a key off the first five
clauses of its `GInv`, which lists what it knows about its readers beside them. -/
namespace Flurry.GhostView
open Flurry.Lin (KSt)
open Flurry.Shared (get_set get_set_self)

/-- `res l` is the result of a writer that is past its linearization point and has not responded yet, `none` for
every other thread -/
structure View (σ π ω ρ : Type) where
  call : σ → Option π
  res : σ → Option ρ
  key : π → Nat
  op : π → ω
  inv : π → Nat

variable {σ π κ ω ρ : Type} {V : View σ π ω ρ} {S : Sig κ ω ρ}

/-- the models' `TInv`: the program counter of a thread fits its pending call (`ok`, the model's own clause),
completed and pending calls have well-formed times, invocation times identify calls. The key `α` of a history
entry is `Nat` except in `Proto/BinXC`, where a completed `clear` has none. Only `Threads` and `Threads.step` have this
parameter; everything else in this file is over `List (Nat × κ)`, which `Proto/BinXC` reaches by `histK` -/
structure Threads {α : Type} (S : Sig κ ω ρ) (V : View σ π ω ρ) (ok : σ → π → Prop) (ts : List σ)
    (hist : List (α × κ)) (now : Nat) : Prop where
  opOK : ∀ (t : Nat) (l : σ) (p : π), ts[t]? = some l → V.call l = some p → ok l p
  histTime : ∀ x ∈ hist, S.inv x.2 ≤ S.resp x.2 ∧ S.resp x.2 ≤ now
  pendTime : ∀ (t : Nat) (l : σ) (p : π), ts[t]? = some l → V.call l = some p → V.inv p ≤ now
  uniqHP : ∀ x ∈ hist, ∀ (t : Nat) (l : σ) (p : π), ts[t]? = some l → V.call l = some p → S.inv x.2 ≠ V.inv p
  uniqPP : ∀ (t t' : Nat) (l l' : σ) (p p' : π), ts[t]? = some l → ts[t']? = some l' →
    V.call l = some p → V.call l' = some p' → V.inv p = V.inv p' → t = t'
  uniqHH : hist.Pairwise (fun x y => S.inv x.2 ≠ S.inv y.2)

/-- a step of thread `t`: it keeps its pending call, or starts one now, or completes the one it had (the
single entry of `hnew`) -/
theorem Threads.step {α : Type} {ok : σ → π → Prop} {ts ts' : List σ} {hist hist' hnew : List (α × κ)}
    {now now' t : Nat} {l l' : σ} (T : Threads S V ok ts hist now)
    (hl : ts[t]? = some l) (hthr : ts' = ts.set t l') (hnow : now' = now + 1) (hhist : hist' = hnew ++ hist)
    (hpc : ∀ p, V.call l' = some p → ok l' p)
    (hcall : ∀ p, V.call l' = some p → V.call l = some p ∨ V.inv p = now + 1)
    (hfin : ∀ x ∈ hnew, hnew = [x] ∧ V.call l' = none ∧ S.resp x.2 = now + 1 ∧
      ∃ p, V.call l = some p ∧ S.inv x.2 = V.inv p) : Threads S V ok ts' hist' now' := by
  subst hthr hnow hhist
  -- a pending call after the step is a pending call before it, or the one thread `t` starts now
  have key : ∀ (t1 : Nat) (l1 : σ) (p1 : π), (ts.set t l')[t1]? = some l1 → V.call l1 = some p1 →
      (∃ l0, ts[t1]? = some l0 ∧ V.call l0 = some p1) ∨ (t1 = t ∧ V.inv p1 = now + 1) := by
    intro t1 l1 p1 h1 hc1
    rcases get_set h1 with ⟨rfl, rfl⟩ | ⟨_, h1⟩
    · rcases hcall p1 hc1 with h | h
      · exact Or.inl ⟨l, hl, h⟩
      · exact Or.inr ⟨rfl, h⟩
    · exact Or.inl ⟨l1, h1, hc1⟩
  -- a new entry of the history is the call thread `t` had, which no thread has after the step
  have fin : ∀ x ∈ hnew, ∃ p, V.call l = some p ∧ S.inv x.2 = V.inv p ∧ S.resp x.2 = now + 1 ∧
      ∀ (t1 : Nat) (l1 : σ) (p1 : π), (ts.set t l')[t1]? = some l1 → V.call l1 = some p1 → t1 ≠ t := by
    intro x hx
    obtain ⟨-, hn, hr, p, hp, hi⟩ := hfin x hx
    refine ⟨p, hp, hi, hr, ?_⟩
    rintro t1 l1 p1 h1 hc1 rfl
    rw [get_set_self hl] at h1
    cases h1
    rw [hn] at hc1; cases hc1
  refine ⟨?_, ?_, ?_, ?_, ?_, ?_⟩
  · intro t1 l1 p1 h1 hc1
    rcases get_set h1 with ⟨rfl, rfl⟩ | ⟨_, h0⟩
    · exact hpc p1 hc1
    · exact T.opOK t1 l1 p1 h0 hc1
  · intro x hx
    rcases List.mem_append.1 hx with hx | hx
    · obtain ⟨p, hp, hi, hr, -⟩ := fin x hx
      have := T.pendTime t l p hl hp
      omega
    · have := T.histTime x hx
      omega
  · intro t1 l1 p1 h1 hc1
    rcases key t1 l1 p1 h1 hc1 with ⟨l0, h0, hc0⟩ | ⟨-, h⟩
    · have := T.pendTime t1 l0 p1 h0 hc0
      omega
    · omega
  · intro x hx t1 l1 p1 h1 hc1
    rcases List.mem_append.1 hx with hx | hx
    · obtain ⟨p, hp, hi, -, hne⟩ := fin x hx
      rcases key t1 l1 p1 h1 hc1 with ⟨l0, h0, hc0⟩ | ⟨ht, -⟩
      · rw [hi]
        exact fun he => hne t1 l1 p1 h1 hc1 (T.uniqPP t1 t l0 l p1 p h0 hl hc0 hp he.symm)
      · exact absurd ht (hne t1 l1 p1 h1 hc1)
    · rcases key t1 l1 p1 h1 hc1 with ⟨l0, h0, hc0⟩ | ⟨-, h⟩
      · exact T.uniqHP x hx t1 l0 p1 h0 hc0
      · have := T.histTime x hx
        omega
  · intro t1 t2 l1 l2 p1 p2 h1 h2 hc1 hc2 he
    rcases key t1 l1 p1 h1 hc1 with ⟨l01, h01, hc01⟩ | ⟨ht1, hi1⟩ <;>
      rcases key t2 l2 p2 h2 hc2 with ⟨l02, h02, hc02⟩ | ⟨ht2, hi2⟩
    · exact T.uniqPP t1 t2 l01 l02 p1 p2 h01 h02 hc01 hc02 he
    · have := T.pendTime t1 l01 p1 h01 hc01
      omega
    · have := T.pendTime t2 l02 p2 h02 hc02
      omega
    · rw [ht1, ht2]
  · refine List.pairwise_append.2 ⟨?_, T.uniqHH, ?_⟩
    · cases hnew with
      | nil => exact .nil
      | cons x rest =>
        obtain ⟨h, -⟩ := hfin x List.mem_cons_self
        cases (List.cons.inj h).2
        exact List.pairwise_singleton _ _
    · intro x hx y hy
      obtain ⟨p, hp, hi, -, -⟩ := fin x hx
      rw [hi]
      exact fun he => T.uniqHP y hy t l p hl hp he.symm

def threadCalls {β : Type} (f : Nat → σ → Option β) (ts : List σ) : List β :=
  (List.range ts.length).filterMap (fun t => (ts[t]?).bind (f t))

theorem mem_threadCalls {β : Type} {ts : List σ} {f : Nat → σ → Option β} {c : β} :
    c ∈ threadCalls f ts ↔ ∃ t l, ts[t]? = some l ∧ f t l = some c := by
  unfold threadCalls
  simp only [List.mem_filterMap, List.mem_range, Option.bind_eq_some_iff]
  constructor
  · rintro ⟨t, _, l, hl, he⟩; exact ⟨t, l, hl, he⟩
  · rintro ⟨t, l, hl, he⟩
    exact ⟨t, (List.getElem?_eq_some_iff.1 hl).1, l, hl, he⟩

/-- the call of a writer that is past its linearization point, counted as responding at `now` -/
def extOf (S : Sig κ ω ρ) (V : View σ π ω ρ) (k now t : Nat) (l : σ) : Option κ :=
  match V.res l, V.call l with
  | some r, some p => if V.key p = k then some (S.make t (V.op p) r (V.inv p) now) else none
  | _, _ => none

theorem extOf_eq_some {k now t : Nat} {l : σ} {c : κ} :
    extOf S V k now t l = some c ↔ ∃ r p, V.res l = some r ∧ V.call l = some p ∧ V.key p = k ∧
      c = (S.make t (V.op p) r (V.inv p) now) := by
  unfold extOf
  constructor
  · intro h
    split at h
    · rename_i r p hr hc
      split at h
      · cases h
        exact ⟨r, p, hr, hc, by assumption, rfl⟩
      · cases h
    · cases h
  · rintro ⟨r, p, hr, hc, hk, rfl⟩
    rw [hr, hc]
    simp [hk]

theorem extOf_none_of_res {k now t : Nat} {l : σ} (h : V.res l = none) : extOf S V k now t l = none := by
  cases he : extOf S V k now t l with
  | none => rfl
  | some c =>
    obtain ⟨r, p, hr, -⟩ := extOf_eq_some.1 he
    rw [h] at hr; cases hr

theorem extOf_none_of_key {k now t : Nat} {l : σ} (hk : ∀ p, V.call l = some p → V.key p ≠ k) :
    extOf S V k now t l = none := by
  cases he : extOf S V k now t l with
  | none => rfl
  | some c =>
    obtain ⟨r, p', -, hc, hk', -⟩ := extOf_eq_some.1 he
    exact absurd hk' (hk p' hc)

theorem sim_make (t : Nat) (o : ω) (r : ρ) (i : Nat) {e e' : Nat} (hle : e ≤ e') :
    Sim S (S.make t o r i e) (S.make t o r i e') := by
  unfold Sim
  rw [S.tid_make, S.tid_make, S.op_make, S.op_make, S.res_make, S.res_make, S.inv_make, S.inv_make, S.resp_make, S.resp_make]
  exact ⟨rfl, rfl, rfl, rfl, hle⟩

theorem extOf_earlier {k now now' t : Nat} {l : σ} {c' : κ} (hle : now ≤ now')
    (h : extOf S V k now' t l = some c') : ∃ c, extOf S V k now t l = some c ∧ Sim S c c' := by
  obtain ⟨r, p, hr, hc, hk, rfl⟩ := extOf_eq_some.1 h
  exact ⟨(S.make t (V.op p) r (V.inv p) now), extOf_eq_some.2 ⟨r, p, hr, hc, hk, rfl⟩, sim_make _ _ _ _ hle⟩

theorem extOf_later {k now now' t : Nat} {l : σ} {c : κ} (hle : now ≤ now')
    (h : extOf S V k now t l = some c) : ∃ c', extOf S V k now' t l = some c' ∧ Sim S c c' := by
  obtain ⟨r, p, hr, hc, hk, rfl⟩ := extOf_eq_some.1 h
  exact ⟨(S.make t (V.op p) r (V.inv p) now'), extOf_eq_some.2 ⟨r, p, hr, hc, hk, rfl⟩, sim_make _ _ _ _ hle⟩

/-- the extended history of key `k`: the completed calls and what the threads contribute at time `now` -/
def callsOnExt (S : Sig κ ω ρ) (V : View σ π ω ρ) (hist : List (Nat × κ)) (ts : List σ) (k now : Nat) : List κ :=
  callsOn hist k ++ threadCalls (extOf S V k now) ts

section ext
variable {ok : σ → π → Prop} {hist hnew : List (Nat × κ)} {ts : List σ} {t : Nat} {l l' : σ} {k now : Nat}

theorem mem_callsOnExt {c : κ} :
    c ∈ callsOnExt S V hist ts k now ↔ (k, c) ∈ hist ∨ ∃ t l, ts[t]? = some l ∧ extOf S V k now t l = some c := by
  unfold callsOnExt
  rw [List.mem_append, mem_callsOn, mem_threadCalls]

theorem callsOnExt_quiescent (k now : Nat) (hq : ∀ l ∈ ts, V.res l = none) :
    callsOnExt S V hist ts k now = callsOn hist k := by
  have : threadCalls (extOf S V k now) ts = [] := by
    rw [List.eq_nil_iff_forall_not_mem]
    intro c hc
    obtain ⟨t, l, hl, he⟩ := mem_threadCalls.1 hc
    rw [extOf_none_of_res (hq l (List.mem_of_getElem? hl))] at he
    cases he
  unfold callsOnExt
  rw [this, List.append_nil]

/-- where the calls after a step of thread `t` come from -/
theorem ext_backward :
    ∀ c' ∈ callsOnExt S V (hnew ++ hist) (ts.set t l') k (now + 1),
      (∃ c ∈ callsOnExt S V hist ts k now, Sim S c c') ∨ (k, c') ∈ hnew ∨ extOf S V k (now + 1) t l' = some c' := by
  intro c' hc'
  rcases List.mem_append.1 hc' with hc' | hc'
  · rcases List.mem_append.1 (mem_callsOn.1 hc') with hc' | hc'
    · exact Or.inr (Or.inl hc')
    · exact Or.inl ⟨c', List.mem_append_left _ (mem_callsOn.2 hc'), Sim.refl _⟩
  · obtain ⟨t1, l1, hl1, he1⟩ := mem_threadCalls.1 hc'
    rcases get_set hl1 with ⟨rfl, rfl⟩ | ⟨_, hl1⟩
    · exact Or.inr (Or.inr he1)
    · obtain ⟨c, hc, hsim⟩ := extOf_earlier (Nat.le_succ now) he1
      exact Or.inl ⟨c, List.mem_append_right _ (mem_threadCalls.2 ⟨t1, l1, hl1, hc⟩), hsim⟩

/-- where the calls before the step go -/
theorem ext_forward (hl : ts[t]? = some l) :
    ∀ c ∈ callsOnExt S V hist ts k now,
      (∃ c' ∈ callsOnExt S V (hnew ++ hist) (ts.set t l') k (now + 1), Sim S c c') ∨ extOf S V k now t l = some c := by
  intro c hc
  rcases List.mem_append.1 hc with hc | hc
  · exact Or.inl ⟨c, List.mem_append_left _ (mem_callsOn.2 (List.mem_append_right _ (mem_callsOn.1 hc))), Sim.refl _⟩
  · obtain ⟨t1, l1, hl1, he1⟩ := mem_threadCalls.1 hc
    by_cases ht : t1 = t
    · subst ht
      rw [hl] at hl1; cases hl1
      exact Or.inr he1
    · obtain ⟨c', hc', hsim⟩ := extOf_later (Nat.le_succ now) he1
      refine Or.inl ⟨c', List.mem_append_right _ (mem_threadCalls.2 ⟨t1, l1, ?_, hc'⟩), hsim⟩
      rw [List.getElem?_set, if_neg (fun e => ht e.symm)]; exact hl1

theorem Threads.resp_le (T : Threads S V ok ts hist now) {c : κ} (hc : c ∈ callsOnExt S V hist ts k now) :
    S.resp c ≤ now := by
  rcases mem_callsOnExt.1 hc with hc | ⟨t1, l1, _, he1⟩
  · exact (T.histTime _ hc).2
  · obtain ⟨r, p, -, -, -, rfl⟩ := extOf_eq_some.1 he1
    rw [S.resp_make]; exact Nat.le_refl _

theorem Threads.pairwise (T : Threads S V ok ts hist now) (k : Nat) :
    (callsOnExt S V hist ts k now).Pairwise (fun c d => S.inv c ≠ S.inv d) := by
  refine List.pairwise_append.2 ⟨?_, ?_, ?_⟩
  · unfold callsOn
    rw [List.pairwise_map, List.pairwise_reverse]
    refine (T.uniqHH.filter _).imp ?_
    intro a b hab; exact fun h => hab h.symm
  · refine List.Pairwise.filterMap _ ?_ (List.pairwise_lt_range)
    intro t1 t2 hlt c1 hc1 c2 hc2
    obtain ⟨l1, hl1, he1⟩ := Option.bind_eq_some_iff.1 hc1
    obtain ⟨l2, hl2, he2⟩ := Option.bind_eq_some_iff.1 hc2
    obtain ⟨_, p1, _, hcall1, _, rfl⟩ := extOf_eq_some.1 he1
    obtain ⟨_, p2, _, hcall2, _, rfl⟩ := extOf_eq_some.1 he2
    rw [S.inv_make, S.inv_make]
    intro he
    have := T.uniqPP t1 t2 l1 l2 p1 p2 hl1 hl2 hcall1 hcall2 he
    omega
  · intro c hc d hd
    obtain ⟨t1, l1, hl1, he1⟩ := mem_threadCalls.1 hd
    obtain ⟨_, p1, _, hcall1, _, rfl⟩ := extOf_eq_some.1 he1
    rw [S.inv_make]
    exact T.uniqHP _ (mem_callsOn.1 hc) t1 l1 p1 hl1 hcall1

end ext

/-! ## the trace of key `k` across one step of thread `t`

`a`, `a'` are the abstract states of the key before and after the step. -/
section step
variable {ok : σ → π → Prop} {ts ts' : List σ} {hist hist' hnew : List (Nat × κ)} {t : Nat} {l l' : σ}
  {k now now' : Nat} {a a' : KSt} {A : Nat → KSt} {pt : Nat → Nat}

/-- the step adds no call on `k` and does not change the abstract state of `k`: what thread `t` contributed before
the step (if anything) is what it contributes or has added to the history after it -/
theorem Trace.quiet (g : Trace S (callsOnExt S V hist ts k now) now a A pt)
    (T : Threads S V ok ts hist now) (hl : ts[t]? = some l)
    (hthr : ts' = ts.set t l') (hnow : now' = now + 1) (hhist : hist' = hnew ++ hist) (habs : a' = a)
    (hB : ∀ c', (k, c') ∈ hnew ∨ extOf S V k (now + 1) t l' = some c' → ∃ c, extOf S V k now t l = some c ∧ Sim S c c')
    (hF : ∀ c, extOf S V k now t l = some c →
      ∃ c', ((k, c') ∈ hnew ∨ extOf S V k (now + 1) t l' = some c') ∧ Sim S c c') :
    Trace S (callsOnExt S V hist' ts' k now') now' a' (nextA A now a') pt := by
  subst hthr hnow hhist
  have hin' : ∀ c', ((k, c') ∈ hnew ∨ extOf S V k (now + 1) t l' = some c') →
      c' ∈ callsOnExt S V (hnew ++ hist) (ts.set t l') k (now + 1) := by
    rintro c' (h | h)
    · exact mem_callsOnExt.2 (Or.inl (List.mem_append_left _ h))
    · exact mem_callsOnExt.2 (Or.inr ⟨t, l', get_set_self hl, h⟩)
  -- no call is new, so the invocation time `i0` that `frame` asks for is not used
  refine g.frame (i0 := 0) (fun _ hc => T.resp_le hc) (fun _ _ => rfl) ?_ ?_ (fun h => absurd habs h)
  · intro c hc
    rcases ext_forward hl c hc with h | h
    · exact h
    · obtain ⟨c', hc', hsim⟩ := hF c h
      exact ⟨c', hin' c' hc', hsim⟩
  · intro c' hc'
    rcases ext_backward c' hc' with h | h | h
    · exact Or.inl h
    · obtain ⟨c, hc, hsim⟩ := hB c' (Or.inl h)
      exact Or.inl ⟨c, mem_callsOnExt.2 (Or.inr ⟨t, l, hl, hc⟩), hsim⟩
    · obtain ⟨c, hc, hsim⟩ := hB c' (Or.inr h)
      exact Or.inl ⟨c, mem_callsOnExt.2 (Or.inr ⟨t, l, hl, hc⟩), hsim⟩

theorem Trace.quiet_none (g : Trace S (callsOnExt S V hist ts k now) now a A pt)
    (T : Threads S V ok ts hist now) (hl : ts[t]? = some l)
    (hthr : ts' = ts.set t l') (hnow : now' = now + 1) (hhist : hist' = hnew ++ hist) (habs : a' = a)
    (hnk : ∀ c, (k, c) ∉ hnew) (he : extOf S V k now t l = none) (he' : extOf S V k (now + 1) t l' = none) :
    Trace S (callsOnExt S V hist' ts' k now') now' a' (nextA A now a') pt := by
  refine g.quiet T hl hthr hnow hhist habs ?_ ?_
  · rintro c' (h | h)
    · exact absurd h (hnk c')
    · rw [he'] at h; cases h
  · intro c h; rw [he] at h; cases h

/-- quiet, and the thread stays where it is with respect to its linearization point -/
theorem Trace.quiet_keep (g : Trace S (callsOnExt S V hist ts k now) now a A pt)
    (T : Threads S V ok ts hist now) (hl : ts[t]? = some l)
    (hthr : ts' = ts.set t l') (hnow : now' = now + 1) (hhist : hist' = hnew ++ hist) (habs : a' = a)
    (hnk : ∀ c, (k, c) ∉ hnew) (hres : V.res l' = V.res l) (hcall : V.call l' = V.call l) :
    Trace S (callsOnExt S V hist' ts' k now') now' a' (nextA A now a') pt := by
  have e : ∀ n, extOf S V k n t l' = extOf S V k n t l := fun n => by unfold extOf; rw [hres, hcall]
  refine g.quiet T hl hthr hnow hhist habs ?_ ?_
  · rintro c' (h | h)
    · exact absurd h (hnk c')
    · rw [e] at h
      exact extOf_earlier (Nat.le_succ _) h
  · intro c h
    obtain ⟨c', hc', hsim⟩ := extOf_later (Nat.le_succ now) h
    exact ⟨c', Or.inr (by rw [e]; exact hc'), hsim⟩

/-- a step of a thread whose pending call is on another key (or that has no call) -/
theorem Trace.other_key (g : Trace S (callsOnExt S V hist ts k now) now a A pt)
    (T : Threads S V ok ts hist now) (hl : ts[t]? = some l)
    (hthr : ts' = ts.set t l') (hnow : now' = now + 1) (hhist : hist' = hnew ++ hist) (habs : a' = a)
    (hk : ∀ p, V.call l = some p → V.key p ≠ k) (hnk : ∀ x ∈ hnew, x.1 ≠ k)
    (hcall : V.call l' = V.call l ∨ V.call l' = none) :
    Trace S (callsOnExt S V hist' ts' k now') now' a' (nextA A now a') pt := by
  refine g.quiet_none T hl hthr hnow hhist habs (fun c hc => hnk _ hc rfl) (extOf_none_of_key hk)
    (extOf_none_of_key ?_)
  intro p hp
  rcases hcall with h | h
  · exact hk p (h ▸ hp)
  · rw [h] at hp; cases hp

/-- a writer on key `k` that is past its linearization point responds: its call goes from what the thread
contributes to the history, with its response time -/
theorem Trace.respond {p : π} {r : ρ} (g : Trace S (callsOnExt S V hist ts k now) now a A pt)
    (T : Threads S V ok ts hist now) (hl : ts[t]? = some l)
    (hthr : ts' = ts.set t l') (hnow : now' = now + 1)
    (hhist : hist' = (V.key p, S.make t (V.op p) r (V.inv p) (now + 1)) :: hist) (habs : a' = a)
    (hp : V.call l = some p) (hk : V.key p = k) (hres : V.res l = some r) (hcall' : V.call l' = none) :
    Trace S (callsOnExt S V hist' ts' k now') now' a' (nextA A now a') pt := by
  have hext : extOf S V k now t l = some (S.make t (V.op p) r (V.inv p) now) :=
    extOf_eq_some.2 ⟨r, p, hres, hp, hk, rfl⟩
  have he' : extOf S V k (now + 1) t l' = none :=
    extOf_none_of_key (fun q hq => by rw [hcall'] at hq; cases hq)
  refine g.quiet (hnew := [(V.key p, S.make t (V.op p) r (V.inv p) (now + 1))]) T hl hthr hnow hhist habs ?_ ?_
  · rintro c' (hc' | hc')
    · rw [(Prod.mk.inj (List.mem_singleton.1 hc')).2]
      exact ⟨_, hext, sim_make _ _ _ _ (Nat.le_succ _)⟩
    · rw [he'] at hc'; cases hc'
  · intro c hc
    cases hext.symm.trans hc
    exact ⟨_, Or.inl (by rw [← hk]; exact List.mem_singleton.2 rfl), sim_make _ _ _ _ (Nat.le_succ _)⟩

/-- the step adds the call `c0` of thread `t` (to the history or as a writer past its point) -/
theorem Trace.new {p : π} {c0 : κ} {τ0 : Nat}
    (g : Trace S (callsOnExt S V hist ts k now) now a A pt)
    (T : Threads S V ok ts hist now) (hl : ts[t]? = some l)
    (hthr : ts' = ts.set t l') (hnow : now' = now + 1) (hhist : hist' = hnew ++ hist)
    (hp : V.call l = some p) (he : extOf S V k now t l = none)
    (honly : ∀ c', (k, c') ∈ hnew ∨ extOf S V k (now + 1) t l' = some c' → c' = c0)
    (hmem : c0 ∈ callsOnExt S V hist' ts' k now')
    (hinv0 : S.inv c0 = V.inv p) (hok : CallOK S (nextA A now a') (updPt pt (V.inv p) τ0) c0)
    (hw : S.isRead (S.op c0) = false → τ0 = now + 1) (hchg : a' ≠ a → S.isRead (S.op c0) = false) :
    Trace S (callsOnExt S V hist' ts' k now') now' a' (nextA A now a') (updPt pt (V.inv p) τ0) := by
  subst hthr hnow hhist
  -- the pending call of `t`, not counted in the extended history, differs from every call of it
  have hne : ∀ c ∈ callsOnExt S V hist ts k now, S.inv c ≠ V.inv p := by
    intro c hc
    rcases mem_callsOnExt.1 hc with hc | ⟨t1, l1, hl1, he1⟩
    · exact T.uniqHP _ hc t l p hl hp
    · obtain ⟨r, p1, -, hc1, -, rfl⟩ := extOf_eq_some.1 he1
      intro hi
      rw [S.inv_make] at hi
      have := T.uniqPP t1 t l1 l p1 p hl1 hl hc1 hp hi
      subst this
      rw [hl] at hl1; cases hl1
      rw [he] at he1; cases he1
  refine g.frame (i0 := V.inv p) (fun _ hc => T.resp_le hc) (fun c hc => updPt_ne pt τ0 (hne c hc)) ?_ ?_ ?_
  · intro c hc
    rcases ext_forward hl c hc with h | h
    · exact h
    · rw [he] at h; cases h
  · intro c' hc'
    rcases ext_backward c' hc' with h | h | h
    · exact Or.inl h
    · cases honly c' (Or.inl h)
      exact Or.inr ⟨hinv0, hok, fun hwr => by rw [hinv0, updPt_self]; exact hw hwr⟩
    · cases honly c' (Or.inr h)
      exact Or.inr ⟨hinv0, hok, fun hwr => by rw [hinv0, updPt_self]; exact hw hwr⟩
  · intro hne'
    have hwr := hchg hne'
    exact ⟨c0, hmem, hwr, by rw [hinv0, updPt_self]; exact hw hwr⟩

/-- a writer on key `k` passes its linearization point and goes on -/
theorem Trace.writer_point {p : π} {r : ρ}
    (g : Trace S (callsOnExt S V hist ts k now) now a A pt)
    (T : Threads S V ok ts hist now) (hl : ts[t]? = some l)
    (hthr : ts' = ts.set t l') (hnow : now' = now + 1) (hhist : hist' = hnew ++ hist)
    (hp : V.call l = some p) (hk : V.key p = k) (hnk : ∀ c, (k, c) ∉ hnew)
    (hres0 : V.res l = none) (hres' : V.res l' = some r) (hcall : V.call l' = V.call l)
    (hwr : S.isRead (V.op p) = false) (hspec : S.spec a (V.op p) = (a', r)) :
    Trace S (callsOnExt S V hist' ts' k now') now' a' (nextA A now a') (updPt pt (V.inv p) (now + 1)) := by
  have hext : extOf S V k (now + 1) t l' = some (S.make t (V.op p) r (V.inv p) (now + 1)) :=
    extOf_eq_some.2 ⟨r, p, hres', hcall.trans hp, hk, rfl⟩
  have hwr' : S.isRead (S.op (S.make t (V.op p) r (V.inv p) (now + 1))) = false := by rw [S.op_make]; exact hwr
  refine g.new (c0 := (S.make t (V.op p) r (V.inv p) (now + 1))) T hl hthr hnow hhist hp (extOf_none_of_res hres0) ?_ ?_
    (S.inv_make ..) ?_ (fun _ => rfl) (fun _ => hwr')
  · rintro c' (hc' | hc')
    · exact absurd hc' (hnk c')
    · rw [hext] at hc'; cases hc'; rfl
  · subst hthr hnow
    exact mem_callsOnExt.2 (Or.inr ⟨t, l', get_set_self hl, hext⟩)
  · have := callOK_write (S := S) (pt := pt) (A := A) (c := S.make t (V.op p) r (V.inv p) (now + 1)) hwr'
      (by rw [S.inv_make]; exact Nat.le_succ_of_le (T.pendTime t l p hl hp)) (by rw [S.resp_make]; exact Nat.le_refl _)
      (a' := a') (by rw [g.hA, S.op_make, S.res_make]; exact hspec)
    rwa [S.inv_make] at this

/-- a call on key `k` completes at its linearization point; `τ0` is the time that justifies its result (a read),
or it is a writer that takes effect now -/
theorem Trace.call_fin {p : π} {r : ρ} {τ0 : Nat}
    (g : Trace S (callsOnExt S V hist ts k now) now a A pt)
    (T : Threads S V ok ts hist now) (hl : ts[t]? = some l)
    (hthr : ts' = ts.set t l') (hnow : now' = now + 1)
    (hhist : hist' = (V.key p, (S.make t (V.op p) r (V.inv p) (now + 1))) :: hist)
    (hp : V.call l = some p) (hk : V.key p = k) (hres0 : V.res l = none) (hcall' : V.call l' = none)
    (hcase : (S.isRead (V.op p) = true ∧ a' = a ∧ V.inv p ≤ τ0 ∧ τ0 ≤ now ∧ S.spec (A τ0) (V.op p) = (A τ0, r)) ∨
      (S.isRead (V.op p) = false ∧ τ0 = now + 1 ∧ S.spec a (V.op p) = (a', r))) :
    Trace S (callsOnExt S V hist' ts' k now') now' a' (nextA A now a') (updPt pt (V.inv p) τ0) := by
  have hop : S.op (S.make t (V.op p) r (V.inv p) (now + 1)) = V.op p := S.op_make ..
  refine g.new (c0 := (S.make t (V.op p) r (V.inv p) (now + 1))) (hnew := [(V.key p, (S.make t (V.op p) r (V.inv p) (now + 1)))])
    T hl hthr hnow hhist hp (extOf_none_of_res hres0) ?_ ?_ (S.inv_make ..) ?_ ?_ ?_
  · rintro c' (hc' | hc')
    · simp only [List.mem_singleton, Prod.mk.injEq] at hc'
      exact hc'.2
    · obtain ⟨_, _, _, hc, _⟩ := extOf_eq_some.1 hc'
      rw [hcall'] at hc; cases hc
  · refine mem_callsOnExt.2 (Or.inl ?_)
    rw [hhist, hk]; exact List.mem_cons_self
  · rcases hcase with ⟨hrd, -, h1, h2, hspec⟩ | ⟨hwr, hτ, hspec⟩
    · have := callOK_read (S := S) (pt := pt) (A := A) (a' := a') (c := S.make t (V.op p) r (V.inv p) (now + 1))
        (τ0 := τ0) (now := now) (by rw [hop]; exact hrd) (by rw [S.inv_make]; exact h1) h2
        (by rw [S.resp_make]; exact Nat.le_succ _) (by rw [hop, S.res_make]; exact hspec)
      rwa [S.inv_make] at this
    · subst hτ
      have := callOK_write (S := S) (pt := pt) (A := A) (c := S.make t (V.op p) r (V.inv p) (now + 1))
        (by rw [hop]; exact hwr) (by rw [S.inv_make]; exact Nat.le_succ_of_le (T.pendTime t l p hl hp))
        (by rw [S.resp_make]; exact Nat.le_refl _) (a' := a') (by rw [g.hA, hop, S.res_make]; exact hspec)
      rwa [S.inv_make] at this
  · intro hw
    rw [hop] at hw
    rcases hcase with ⟨hrd, _⟩ | ⟨_, hτ, _⟩
    · rw [hrd] at hw; cases hw
    · exact hτ
  · intro hne
    rw [hop]
    rcases hcase with ⟨_, habs, _⟩ | ⟨hwr, _, _⟩
    · exact absurd habs hne
    · exact hwr

end step

theorem Trace.init {ts : List σ} (k : Nat) (hq : ∀ l ∈ ts, V.res l = none) :
    Trace S (callsOnExt S V [] ts k 0) 0 none (fun _ => none) id := by
  rw [callsOnExt_quiescent k 0 hq]
  exact ⟨rfl, rfl, fun _ h => (nomatch h), fun τ h1 h2 => absurd h1 (by omega), fun _ h => (nomatch h)⟩

theorem Trace.lin {ok : σ → π → Prop} {V : View σ π Lin.KOp Lin.KRes} {ts : List σ} {hist : List (Nat × Lin.Call)}
    {k now : Nat} {a : KSt} {A : Nat → KSt} {pt : Nat → Nat}
    (g : Trace Lin.sig (callsOnExt Lin.sig V hist ts k now) now a A pt) (T : Threads Lin.sig V ok ts hist now) :
    Lin.Linearizable (callsOnExt Lin.sig V hist ts k now) none a :=
  g.linearizable (fun _ hc => T.resp_le hc) (T.pairwise k)

theorem Trace.lin2 {ok : σ → π → Prop} {V : View σ π Lin2.KOp2 Lin2.KRes} {ts : List σ}
    {hist : List (Nat × Lin2.Call2)} {k now : Nat} {a : KSt} {A : Nat → KSt} {pt : Nat → Nat}
    (g : Trace Lin2.sig (callsOnExt Lin2.sig V hist ts k now) now a A pt) (T : Threads Lin2.sig V ok ts hist now) :
    Lin2.Linearizable2 (callsOnExt Lin2.sig V hist ts k now) none a :=
  g.linearizable2 (fun _ hc => T.resp_le hc) (T.pairwise k)

end Flurry.GhostView
