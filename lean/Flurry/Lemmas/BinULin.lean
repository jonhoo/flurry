import Flurry.Lemmas.BinUGhost
/-! # Proto/BinU: the ghost invariant holds in every reachable state; linearizability (C01/C07, tree bins)

`ginv_step`: every transition preserves `∃ A pt, GInv k s A pt` (the proof of `Lemmas/BinTLin.lean`, with the list
readers' cases beside the linear steps). Linearization points: a value
store at `wVal`, an insert at `wPrependLocked` (the store to `first`, under the write lock), a
removal at `wUnlinkLocked` (the list unlink, under the write lock), a writer that changes nothing at
`wFind` (the tree it searches equals the list: it holds the mutex and nobody holds the write lock);
tree-mode readers at `rTree` (they hold a read lock, so `writer` is clear and the tree equals the
list); list walkers — linear steps of lock-protocol readers and list readers (iterators) — in
hindsight (`RdOK`). Then `Trace.lin` (`lin_of_trace`) gives `GInv.linearizable`, from which `Props/C01BinU.lean` reads
its theorems. -/
namespace Flurry.Proto.BinU
open Flurry.Lin Flurry.Shared Flurry.GhostView

theorem RdOK_of_not_reader {A : Nat → KSt} {k inv : Nat} {s : State} {pc : Pc} (h : readerPc pc = false) :
    RdOK A k inv s pc := by
  cases pc <;> simp [readerPc] at h <;> simp only [RdOK]

theorem readers_step {k : Nat} {s s' : State} {A : Nat → KSt} {pt : Nat → Nat} {t : Nat} {l' : Local}
    (g : GInv k s A pt) (I : Inv s) (I' : Inv s') (hs : HeapStep s s')
    (hthr : s'.threads = s.threads.set t l') (hnow : s'.now = s.now + 1)
    (hself : ∀ (p : Pending), l'.call = some p → p.key = k →
      (p.inv ≤ s.now ∧ RdOK A k p.inv s l'.pc) ∨ RdOK (nextA A s.now (absOf s' k)) k p.inv s' l'.pc) :
    ∀ (t1 : Nat) (l1 : Local) (p1 : Pending), s'.threads[t1]? = some l1 →
      l1.call = some p1 → p1.key = k → RdOK (nextA A s.now (absOf s' k)) k p1.inv s' l1.pc := by
  intro t1 l1 p1 h1 hc1 hk1
  have hA'n : nextA A s.now (absOf s' k) s'.now = absOf s' k := by rw [hnow, nextA_new]
  rw [hthr] at h1
  rcases get_set h1 with ⟨rfl, rfl⟩ | ⟨_, h1⟩
  · rcases hself p1 hc1 hk1 with ⟨hi, hg⟩ | hg
    · exact hg.step I.heap I'.heap hs hnow (fun τ h => nextA_old h) g.hA hA'n hi
    · exact hg
  · exact (g.readers t1 l1 p1 h1 hc1 hk1).step I.heap I'.heap hs hnow (fun τ h => nextA_old h) g.hA hA'n
      (I.thr.pendTime t1 l1 p1 h1 hc1)

theorem resOfPc_invoke (op : KOp) (lo : Bool) :
    resOfPc (if isReader op then (if lo then .lFirst else .rFirst) else .wMutex) = none := by
  cases isReader op <;> cases lo <;> rfl

section Step
variable {k : Nat} {s s' : State} {A : Nat → KSt} {pt : Nat → Nat} {t : Nat} {l l' : Local}
  (g : GInv k s A pt) (I : Inv s) (I' : Inv s') (hs : HeapStep s s')
  (hl : s.threads[t]? = some l) (hthr : s'.threads = s.threads.set t l') (hnow : s'.now = s.now + 1)
include g I I' hs hthr hnow

theorem ginv_next {pt' : Nat → Nat}
    (tr : GhostView.Trace Lin.sig (GhostView.callsOnExt Lin.sig view s'.hist s'.threads k s'.now) s'.now (absOf s' k)
      (nextA A s.now (absOf s' k)) pt')
    (hself : ∀ (p : Pending), l'.call = some p → p.key = k →
      (p.inv ≤ s.now ∧ RdOK A k p.inv s l'.pc) ∨ RdOK (nextA A s.now (absOf s' k)) k p.inv s' l'.pc) :
    GInv k s' (nextA A s.now (absOf s' k)) pt' := by
  rw [← callsOnExt_eq] at tr
  exact ⟨tr.h0, tr.hA, tr.calls, tr.stab, tr.inj, readers_step g I I' hs hthr hnow hself⟩

include hl

theorem ginv_other_key {hnew : List (Nat × Call)} {p : Pending}
    (hp : l.call = some p) (hk : p.key ≠ k)
    (hhist : s'.hist = hnew ++ s.hist) (hnk : ∀ x ∈ hnew, x.1 = p.key)
    (habs : absOf s' k = absOf s k) (hcall : l'.call = l.call ∨ l'.call = none) :
    GInv k s' (nextA A s.now (absOf s' k)) pt := by
  have hk' : ∀ q, l.call = some q → q.key ≠ k := fun q hq => by rw [hp] at hq; cases hq; exact hk
  refine ginv_next g I I' hs hthr hnow
    (g.trace.other_key I.thr.gen hl hthr hnow hhist habs hk' (fun x hx e => hk ((hnk x hx).symm.trans e)) hcall) ?_
  intro p1 hp1 hk1
  rcases hcall with h | h
  · exact absurd hk1 (hk' p1 (h ▸ hp1))
  · rw [h] at hp1; cases hp1

theorem ginv_writer_point {p : Pending} {res : KRes}
    (hp : l.call = some p) (hk : p.key = k) (hhist : s'.hist = s.hist)
    (hres0 : resOfPc l.pc = none) (hres' : resOfPc l'.pc = some res) (hcall : l'.call = l.call)
    (hwr : isRead p.op = false) (hspec : specStep (absOf s k) p.op = (absOf s' k, res))
    (hnr : readerPc l'.pc = false) :
    GInv k s' (nextA A s.now (absOf s' k)) (updPt pt p.inv (s.now + 1)) :=
  ginv_next g I I' hs hthr hnow
    (g.trace.writer_point (hnew := []) I.thr.gen hl hthr hnow hhist hp hk (fun _ h => nomatch h) hres0 hres' hcall
      hwr hspec)
    (fun _ _ _ => Or.inr (RdOK_of_not_reader hnr))

end Step

theorem fin_point {k : Nat} {s : State} {A : Nat → KSt} {pt : Nat → Nat} {t : Nat} {pc : Pc}
    {p : Pending} {res : KRes} {m : Option Nat} {r : Nat}
    (g : GInv k s A pt) (I : Inv s) (hl : s.threads[t]? = some ⟨pc, some p⟩)
    (hk : p.key = k) (hf : Fin s p pc res m r) (hrd : isRead p.op = true) :
    ∃ τ0, p.inv ≤ τ0 ∧ τ0 ≤ s.now ∧ specStep (A τ0) p.op = (A τ0, res) := by
  have hpi := I.thr.pendTime t _ p hl rfl
  have hR : RdOK A k p.inv s pc := g.readers t _ p hl rfl hk
  have hP : PcInv s p pc := I.data.pcInv t _ p hl rfl
  have hO : PcOp pc p.op := I.thr.opOK t _ p hl rfl
  cases hf with
  | rMiss | lMiss =>
    obtain ⟨τ, h1, h2, h3⟩ := hR.miss
    refine ⟨τ, h1, h2, ?_⟩
    rw [h3]
    rcases isRead_cases hrd with hop | hop <;> rw [hop] <;> rfl
  | @rLinHas c n hn hkey hop | @lHas c n hn hkey hop =>
    have hnode := nodeAt_of_some hn
    obtain ⟨τ, h1, h2, h3⟩ := Good.hit I.heap g.hA hpi hR (by rw [hnode, hkey, hk])
    refine ⟨τ, h1, h2, ?_⟩
    rw [h3, hop]; rfl
  | rRelNone =>
    obtain ⟨τ, h1, h2, h3⟩ : AbsWit A p.inv s := hR
    refine ⟨τ, h1, h2, ?_⟩
    rw [h3]
    rcases isRead_cases hrd with hop | hop <;> rw [hop] <;> rfl
  | @rRelHas i hop =>
    obtain ⟨_, _, τ, h1, h2, h3⟩ : ValWit A k p.inv s i := hR
    refine ⟨τ, h1, h2, ?_⟩
    rw [h3, hop]; rfl
  | @rVal i n hn =>
    obtain ⟨_, _, τ, h1, h2, h3⟩ : ValWit A k p.inv s i := hR
    refine ⟨τ, h1, h2, ?_⟩
    rw [h3, nodeAt_of_some hn]
    rcases isRead_cases hrd with hop | hop
    · rw [hop]
      exact (fun x : Nat × Nat => (rfl : specStep (some x) .get = (some x, .some x.1 x.2))) _
    · exact absurd hop hP
  | unlockM =>
    have := hO (by simp)
    rw [isReader_eq_isRead, hrd] at this
    cases this

theorem Move.res_keep {s : State} {t : Nat} {p : Pending} {pc pc' : Pc} {m : Option Nat} {w a : Bool} {r : Nat}
    (hm : Move s t p pc pc' m w a r) :
    resOfPc pc' = resOfPc pc ∨
    (resOfPc pc = none ∧ ∃ res, pc' = .wUnlockM res ∧ pc = .wFind ∧
      specStep (absTree s p.key) p.op = (absTree s p.key, res)) := by
  cases hm
  case findDone res h => exact Or.inr ⟨rfl, res, rfl, rfl, h⟩
  case lrTryOk k res _ _ _ => cases k <;> exact Or.inl rfl
  case lrLoopOk k res _ _ => cases k <;> exact Or.inl rfl
  case lrTryFail k res => cases k <;> exact Or.inl rfl
  all_goals exact Or.inl rfl

theorem Move.rdOK {k : Nat} {s : State} {A : Nat → KSt} {pt : Nat → Nat} {t : Nat} {p : Pending} {pc pc' : Pc}
    {m : Option Nat} {w a : Bool} {r : Nat}
    (hm : Move s t p pc pc' m w a r) (g : GInv k s A pt) (I : Inv s)
    (hl : s.threads[t]? = some ⟨pc, some p⟩) (hk : p.key = k) : RdOK A k p.inv s pc' := by
  have hpi := I.thr.pendTime t _ p hl rfl
  have hR : RdOK A k p.inv s pc := g.readers t _ p hl rfl hk
  have hP : PcInv s p pc := I.data.pcInv t _ p hl rfl
  cases hm with
  | rFirst | lFirst => exact Good.first I.heap g.hA hpi
  | rLinMode _ | rTreeMode _ | rCasFail | rRelVal _ => exact hR
  | @rLinNext c n hn hne | @lNext c n hn hne =>
    have hnode := nodeAt_of_some hn
    have := Good.next I.heap g.hA hpi hR (by rw [hnode, ← hk]; exact hne)
    rw [hnode] at this
    exact this
  | @rLinHit c n hn hkey _ | @lHit c n hn hkey _ =>
    have hnode := nodeAt_of_some hn
    have hkc : (nodeAt s.heap c).key = k := by rw [hnode, hkey, hk]
    exact ⟨hkc, hP, Good.hit I.heap g.hA hpi hR hkc⟩
  | rCasOk _ _ _ => trivial
  | rTree =>
    have hw : s.writer = false := by
      cases hw : s.writer with
      | false => rfl
      | true =>
        have h1 := I.lock.reader_pos hl rfl
        have h2 := I.lock.wrd hw
        omega
    have hga := I.absTree_eq_absOf_of_no_writer hw k
    rw [hk]
    cases hf : treeFind s k with
    | none =>
      refine ⟨s.now, hpi, Nat.le_refl _, ?_⟩
      rw [g.hA, ← hga]; unfold absTree; rw [hf]
    | some i =>
      obtain ⟨hi, _, hik⟩ := treeFind_some hf
      refine ⟨hik, hi, s.now, hpi, Nat.le_refl _, ?_⟩
      rw [g.hA, ← hga]; unfold absTree; rw [hf]; rfl
  | wMutex _ | findVal _ _ | findInsert _ | findRemove _ _ | findDone _ | lrTryFail | lrLoopWait _
  | restructNone | unlockRoot => exact RdOK_of_not_reader rfl
  | @lrTryOk k0 res _ _ _ | @lrLoopOk k0 res _ _ => cases k0 <;> exact RdOK_of_not_reader rfl

theorem Fin.kind {s : State} {p : Pending} {pc : Pc} {res : KRes} {m : Option Nat} {r : Nat}
    (hf : Fin s p pc res m r) :
    (readerPc pc = true ∧ resOfPc pc = none) ∨ (pc = .wUnlockM res ∧ m = none ∧ r = s.readers) := by
  cases hf
  case unlockM => exact Or.inr ⟨rfl, rfl, rfl⟩
  all_goals exact Or.inl ⟨rfl, rfl⟩

theorem isRead_false_of_pc {s : State} (I : Inv s) {t : Nat} {l : Local} {p : Pending}
    (hl : s.threads[t]? = some l) (hp : l.call = some p) (hni : l.pc ≠ .idle) (hnr : readerPc l.pc = false) :
    isRead p.op = false := by
  have := I.thr.opOK t l p hl hp hni
  rw [← isReader_eq_isRead, this, hnr]

theorem ginv_store {k : Nat} {s s' : State} {A : Nat → KSt} {pt : Nat → Nat} {t : Nat} {l l' : Local}
    {p : Pending} {res : KRes} (g : GInv k s A pt) (I : Inv s) (hl : s.threads[t]? = some l)
    (hp : l.call = some p) (S : StoreOK s s' p res) (hthr : s'.threads = s.threads.set t l')
    (hnow : s'.now = s.now + 1) (hhist : s'.hist = s.hist) (hcall : l'.call = l.call)
    (hni : l.pc ≠ .idle) (hnr : readerPc l.pc = false) (hnr' : readerPc l'.pc = false)
    (hres0 : resOfPc l.pc = none) (hres' : resOfPc l'.pc = some res) : ∃ A' pt', GInv k s' A' pt' := by
  obtain ⟨I', hs, hother, hspec⟩ := S
  by_cases hk : p.key = k
  · subst hk
    exact ⟨_, _, ginv_writer_point g I I' hs hl hthr hnow hp rfl hhist hres0 hres' hcall
      (isRead_false_of_pc I hl hp hni hnr) hspec hnr'⟩
  · exact ⟨_, _, ginv_other_key (hnew := []) g I I' hs hl hthr hnow hp hk (by rw [hhist]; rfl) (by simp)
      (hother k (fun e => hk e.symm)) (Or.inl hcall)⟩

theorem ginv_silent {k : Nat} {s s' : State} {A : Nat → KSt} {pt : Nat → Nat} {t : Nat} {l l' : Local}
    (g : GInv k s A pt) (I : Inv s) (hl : s.threads[t]? = some l) (S : SilentOK s s')
    (hthr : s'.threads = s.threads.set t l') (hnow : s'.now = s.now + 1) (hhist : s'.hist = s.hist)
    (hpc : resOfPc l'.pc = resOfPc l.pc) (hcall : l'.call = l.call) (hnr' : readerPc l'.pc = false) :
    ∃ A' pt', GInv k s' A' pt' :=
  ⟨_, _, ginv_next g I S.1 S.2.1 hthr hnow
    (g.trace.quiet_keep (hnew := []) I.thr.gen hl hthr hnow hhist (S.2.2 k) (fun _ h => nomatch h) hpc hcall)
    (fun _ _ _ => Or.inr (RdOK_of_not_reader hnr'))⟩

theorem ginv_step {k : Nat} {s s' : State} {A : Nat → KSt} {pt : Nat → Nat} {t : Nat} {pc : Pc}
    {call : Option Pending} (g : GInv k s A pt) (I : Inv s) (hl : s.threads[t]? = some ⟨pc, call⟩)
    (hstep : StepK s t pc call s') : ∃ A' pt', GInv k s' A' pt' := by
  have I' := stepK_inv I hl hstep
  cases hstep with
  | idle =>
    refine ⟨_, _, ginv_next g I I' (.of_same I.heap rfl rfl) rfl rfl
      (g.trace.quiet_keep (hnew := []) I.thr.gen hl rfl rfl rfl (absOf_congr rfl rfl k) (fun _ h => nomatch h) rfl rfl)
      ?_⟩
    intro p hp hk
    exact Or.inl ⟨I.thr.pendTime t _ p hl hp, g.readers t _ p hl hp hk⟩
  | invoke _ k' op lo =>
    refine ⟨_, _, ginv_next g I I' (.of_same I.heap rfl rfl) rfl rfl
      (g.trace.quiet_none (hnew := []) I.thr.gen hl rfl rfl rfl (absOf_congr rfl rfl k) (fun _ h => nomatch h)
        (GhostView.extOf_none_of_res rfl)
        (GhostView.extOf_none_of_res (resOfPc_invoke op lo))) ?_⟩
    intro p _ _
    refine Or.inr ?_
    show RdOK _ _ _ _ (if isReader op then (if lo then .lFirst else .rFirst) else .wMutex)
    cases isReader op <;> cases lo <;> trivial
  | move p pc' m w a r hm =>
    have hs : HeapStep s (syncTo s m w a r s.hist t ⟨pc', some p⟩) := .of_same I.heap rfl rfl
    have habs : absOf (syncTo s m w a r s.hist t ⟨pc', some p⟩) k = absOf s k := absOf_congr rfl rfl k
    by_cases hk : p.key = k
    · rcases hm.res_keep with hkeep | ⟨hres0, res, rfl, rfl, hspec⟩
      · refine ⟨_, _, ginv_next g I I' hs rfl rfl
          (g.trace.quiet_keep (hnew := []) I.thr.gen hl rfl rfl rfl habs (fun _ h => nomatch h) hkeep rfl) ?_⟩
        intro p1 hp1 _
        cases hp1
        exact Or.inl ⟨I.thr.pendTime t _ p hl rfl, hm.rdOK g I hl hk⟩
      · have hga : absTree s k = absOf s k :=
          absTree_eq_absOf I.heap (I.tree_sub_chain_of_crit hl rfl (by simp))
            (I.chain_sub_tree_of_crit hl rfl (by simp)) k
        refine ⟨_, _, ginv_writer_point g I I' hs hl rfl rfl rfl hk rfl
          hres0 rfl rfl (isRead_false_of_pc I hl rfl (by simp) rfl) ?_ rfl⟩
        rw [habs, ← hga, ← hk]; exact hspec
    · exact ⟨_, _, ginv_other_key (hnew := []) g I I' hs hl rfl rfl rfl hk rfl (by simp) habs (Or.inl rfl)⟩
  | fin p res m r hf =>
    have hs : HeapStep s (syncTo s m s.writer s.waiter r ((p.key, ⟨t, p.op, res, p.inv, s.now + 1⟩) :: s.hist) t
        ⟨.idle, none⟩) := .of_same I.heap rfl rfl
    have habs : absOf (syncTo s m s.writer s.waiter r ((p.key, ⟨t, p.op, res, p.inv, s.now + 1⟩) :: s.hist) t
        ⟨.idle, none⟩) k = absOf s k := absOf_congr rfl rfl k
    by_cases hk : p.key = k
    · rcases hf.kind with ⟨hrp, hres0⟩ | ⟨rfl, -, -⟩
      · have hni : pc ≠ .idle := by intro h; rw [h] at hrp; cases hrp
        have hrd : isRead p.op = true := by
          rw [← isReader_eq_isRead, I.thr.opOK t _ p hl rfl hni, hrp]
        obtain ⟨τ0, h1, h2, h3⟩ := fin_point g I hl hk hf hrd
        exact ⟨_, _, ginv_next g I I' hs rfl rfl
          (g.trace.call_fin I.thr.gen hl rfl rfl rfl rfl hk hres0 rfl (Or.inl ⟨hrd, habs, h1, h2, h3⟩))
          (fun _ h => nomatch h)⟩
      · exact ⟨_, _, ginv_next (l' := { pc := .idle, call := none }) g I I' hs rfl rfl
          (g.trace.respond I.thr.gen hl rfl rfl rfl habs rfl hk rfl rfl) (fun _ h => nomatch h)⟩
    · exact ⟨_, _, ginv_other_key (hnew := [(p.key, ⟨t, p.op, res, p.inv, s.now + 1⟩)])
        (l' := { pc := .idle, call := none }) g I I' hs hl rfl rfl rfl hk rfl
        (by intro x hx; rw [List.mem_singleton.1 hx]) habs (Or.inr rfl)⟩
  | val p i v res => exact ginv_store g I hl rfl (val_facts I hl) rfl rfl rfl rfl (by simp) rfl rfl rfl rfl
  | prepend p v vi hop =>
    exact ginv_store g I hl rfl (prepend_facts I hl hop) rfl rfl rfl rfl (by simp) rfl rfl rfl rfl
  | treeLink p x => exact ginv_silent g I hl (treeLink_facts I hl) rfl rfl rfl rfl rfl rfl
  | unlink p i res => exact ginv_store g I hl rfl (unlink_facts I hl) rfl rfl rfl rfl (by simp) rfl rfl rfl rfl
  | untree p i res => exact ginv_silent g I hl (untree_facts I hl) rfl rfl rfl rfl rfl rfl
  | dead p s' hd =>
    have h0 : PcInv s p pc := I.data.pcInv t _ p hl rfl
    cases pc <;> first | exact h0.elim | cases hd

theorem init_ginv (n k : Nat) : GInv k (init n) (fun _ => none) id := by
  have hthr : ∀ (t : Nat) (l : Local), (init n).threads[t]? = some l → l = {} := fun t l h => init_threads h
  have ha : absOf (init n) k = none := by
    rw [absOf_eq_none_iff]
    intro i hi
    simp [chain, init, chainFrom] at hi
  have tr := GhostView.Trace.init (S := Lin.sig) (V := view) (ts := (init n).threads) k (fun l hl => by
    obtain ⟨t, hl⟩ := List.mem_iff_getElem?.1 hl; rw [hthr t l hl]; rfl)
  rw [← ha] at tr
  rw [show ([] : List (Nat × Call)) = (init n).hist from rfl, show 0 = (init n).now from rfl, ← callsOnExt_eq] at tr
  refine ⟨tr.h0, tr.hA, tr.calls, tr.stab, tr.inj, ?_⟩
  · intro t l p hl hc
    rw [hthr t l hl] at hc
    cases hc

theorem reachable_ginv {n : Nat} {s : State} (hr : Reachable n s) (k : Nat) :
    ∃ A pt, GInv k s A pt := by
  induction hr with
  | init => exact ⟨_, _, init_ginv n k⟩
  | @step s s' t inv bal lo hr hs ih =>
    obtain ⟨A, pt, g⟩ := ih
    cases hl : s.threads[t]? with
    | none => unfold step stepG at hs; rw [hl] at hs; cases hs
    | some l => exact ginv_step g (reachable_inv hr) hl (step_stepK hl hs)

theorem GInv.linearizable {k : Nat} {s : State} {A : Nat → KSt} {pt : Nat → Nat}
    (g : GInv k s A pt) (I : Inv s) : Linearizable (callsOnExt s k) none (absOf s k) :=
  callsOnExt_eq s k ▸ g.trace.lin I.thr.gen

theorem writer_false_of_quiescent {n : Nat} {s : State} (hr : Reachable n s) (hq : quiescent s) :
    s.writer = false := by
  have I := reachable_inv hr
  cases hw : s.writer with
  | false => rfl
  | true =>
    have hb : (s.writer || s.waiter) = true := by rw [hw]; rfl
    obtain ⟨h, l, hl, _, hpc⟩ := I.lock.bits_holder hb
    rw [hq l (List.mem_of_getElem? hl)] at hpc
    rcases hpc with h | h <;> cases h

end Flurry.Proto.BinU
