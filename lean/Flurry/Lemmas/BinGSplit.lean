import Flurry.Lemmas.BinGStep
import Flurry.Lemmas.BinGNPSplit
/-! # Proto/BinG: the split of a list bin (`splitBin`) as a fold

`splitBin` is `BinGN.splitBinB hiBit` (`BinGN.splitBinB_hiBit`); what it establishes is proved for `Proto/BinGN`
(`BinGNP.splitBinB_spec`, `Lemmas/BinGNPSplit.lean`). `splitStep`, `runBitOf`, `splitBin_eq` give the split as a fold of
`splitStep` over the nodes before the last run: `Lemmas/BinGHeapKeys.lean` follows the keys of the heap through it.

`bitOf`, `CopiesOK`, `HeapOK`, `SplitInv` state the invariant of the copy loop as `Lemmas/BinGNPSplit.lean` does, at the
split bit `hiBit`. No proof goes through them. -/
namespace Flurry.Proto.BinG
open Flurry.Proto.BinK (nodeAt NextOK IsChain)

def bitOf (heap : List NodeS) (i : Nat) : Bool := hiBit (nodeAt heap i).key

theorem lastRunStart_le (heap : List NodeS) (c : List Nat) : lastRunStart heap c ≤ c.length :=
  BinGNP.lastRunStartB_le hiBit heap c

theorem lastRunStart_bits (heap : List NodeS) (c : List Nat) :
    ∃ b, ∀ i ∈ c.drop (lastRunStart heap c), bitOf heap i = b :=
  BinGNP.lastRunStartB_bits hiBit heap c

/-- one iteration of the copy loop of `splitBin` -/
def splitStep (acc : List NodeS × Option Nat × Option Nat) (i : Nat) : List NodeS × Option Nat × Option Nat :=
  if hiBit (acc.1.getD i dflt).key then
    (acc.1 ++ [⟨(acc.1.getD i dflt).key, (acc.1.getD i dflt).val, acc.2.2, none, false, none⟩],
      acc.2.1, some acc.1.length)
  else
    (acc.1 ++ [⟨(acc.1.getD i dflt).key, (acc.1.getD i dflt).val, acc.2.1, none, false, none⟩],
      some acc.1.length, acc.2.2)

/-- the split bit of a run (of its head) -/
def runBitOf (heap : List NodeS) (run : List Nat) : Bool := BinGNP.runBitOf hiBit heap run

theorem splitBin_eq (heap : List NodeS) (c : List Nat) :
    splitBin heap c = (c.take (lastRunStart heap c)).foldl splitStep
      (heap,
       (if runBitOf heap (c.drop (lastRunStart heap c)) then none else (c.drop (lastRunStart heap c)).head?),
       (if runBitOf heap (c.drop (lastRunStart heap c)) then (c.drop (lastRunStart heap c)).head? else none)) := rfl

/-- the copies on the new list of side `b`, after the nodes `P` have been processed -/
structure CopiesOK (heap hp : List NodeS) (P : List Nat) (b : Bool) (C : List Nat) : Prop where
  copy : ∀ x ∈ C, heap.length ≤ x ∧ x < hp.length
  side : ∀ x ∈ C, bitOf hp x = b
  cover : ∀ i ∈ P, bitOf heap i = b → ∃ x ∈ C, (nodeAt hp x).key = (nodeAt heap i).key ∧
    (nodeAt hp x).val = (nodeAt heap i).val

/-- the grown heap after the nodes `P` have been copied -/
structure HeapOK (heap : List NodeS) (P : List Nat) (hp : List NodeS) : Prop where
  ext : ∃ cs, hp = heap ++ cs ∧ ∀ n ∈ cs, n.lock = none ∧ n.inTree = false ∧ n.owner = none
  src : ∀ x, heap.length ≤ x → x < hp.length → ∃ i ∈ P, (nodeAt hp x).key = (nodeAt heap i).key ∧
    (nodeAt hp x).val = (nodeAt heap i).val
  inj : ∀ x y, heap.length ≤ x → x < hp.length → heap.length ≤ y → y < hp.length →
    (nodeAt hp x).key = (nodeAt hp y).key → x = y
  nextOK : NextOK hp

/-- the invariant of the copy loop: `P` are the nodes processed so far, `lr` / `hr` the re-used parts -/
structure SplitInv (heap : List NodeS) (lr hr : List Nat) (P : List Nat)
    (acc : List NodeS × Option Nat × Option Nat) : Prop where
  heapOK : HeapOK heap P acc.1
  chains : ∃ LC HC, IsChain acc.1 acc.2.1 (LC ++ lr) ∧ IsChain acc.1 acc.2.2 (HC ++ hr) ∧
    CopiesOK heap acc.1 P false LC ∧ CopiesOK heap acc.1 P true HC

end Flurry.Proto.BinG
