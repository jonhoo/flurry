import Flurry.Lemmas.RBDelete
/-! # `removeNode` keeps the red-black invariants -/
namespace Flurry.RB
namespace Del
open T Ctx

theorem BH_unique {t : T} {n m : Nat} (h1 : BH t n) (h2 : BH t m) : n = m := by
  induction h1 generalizing m with
  | nil => cases h2; rfl
  | red _ _ ih _ => cases h2; exact ih ‹_›
  | black _ _ ih _ => cases h2; rw [ih ‹_›]

def depth : Ctx → Nat
  | top => 0
  | left _ _ _ up => depth up + 1
  | right _ _ _ up => depth up + 1

/-- what `balDel f` is assumed to do in the induction on the fuel -/
def Repairs (f : Nat) : Prop :=
  ∀ (x : T) (c : Ctx) (n : Nat), BH x n → NoRedRed (blacken x) → CI c (n + 1) →
    (c = top → isRed x = false) → 2 * depth c + (if isRed x then 1 else 2) ≤ f →
    Good (balDel f x c)

/-- the step at a black sibling `s` of height `n + 1` beside a black focus of height `n`: a red
nephew pays for the missing black by a rotation; with two black nephews the sibling turns red and
the parent is the new focus, one short in its turn -/
theorem delL_good {f : Nat} (ih : Repairs f) {pr : Bool} {x : T} {pe : Node} {s : T} {up : Ctx}
    {n : Nat} (hx : BH x n) (hxn : NoRedRed x)
    (hc : CI (left pr pe s up) (n + 1)) (hs : isRed s = false)
    (hf : 2 * depth up + (if pr then 1 else 2) ≤ f) : Good (delL f pr x pe s up) := by
  obtain ⟨h1, h2, h3, h4⟩ := hc
  have hole (l : T) (e : Node) (r : T) (hh : holeBlack up = true) : isRed (node pr l e r) = false :=
    (isRed_node ..).trans (black_of_hole h3 hh)
  rcases s with _ | ⟨_ | _, sl, se, sr⟩
  · cases h1
  · obtain ⟨b1, b2⟩ := BH_black_succ.1 h1
    obtain ⟨-, n1, n2⟩ := h2
    cases hsr : isRed sr
    · have key (hsl : isRed sl = false) :
          Good (balDel f (node pr x pe (node true sl se sr)) up) := by
        have e : (if pr then n else n + 1) + 1 = if pr then n + 1 else n + 1 + 1 := by
          cases pr <;> rfl
        exact ih _ _ _ (BH_node.2 ⟨n, rfl, hx, BH_red.2 ⟨b1, b2⟩⟩)
          ⟨nofun, hxn, fun _ => ⟨hsl, hsr⟩, n1, n2⟩ (e ▸ h4)
          (fun ht => hole _ _ _ (by rw [ht]; rfl)) (by rw [isRed_node]; exact hf)
      rcases sl with _ | ⟨_ | _, sll, sle, slr⟩
      · rw [delL_black hsr rfl]; exact key rfl
      · rw [delL_black hsr rfl]; exact key rfl
      · rw [delL_near hsr]
        exact plug h4 (BH_node.2 ⟨_, rfl, BH_black_succ.2 ⟨hx, (BH_red.1 b1).1⟩,
            BH_black_succ.2 ⟨(BH_red.1 b1).2, b2⟩⟩)
          ⟨fun _ => ⟨rfl, rfl⟩, ⟨nofun, hxn, n1.2.1⟩, ⟨nofun, n1.2.2, n2⟩⟩ (hole _ _ _)
    · rw [delL_far hsr]
      exact plug h4 (BH_node.2 ⟨_, rfl, BH_black_succ.2 ⟨hx, b1⟩, BH_blacken_red hsr b2⟩)
        ⟨fun _ => ⟨rfl, isRed_blacken _⟩, ⟨nofun, hxn, n1⟩, NoRedRed_blacken n2⟩ (hole _ _ _)
  · cases hs

theorem delR_good {f : Nat} (ih : Repairs f) {pr : Bool} {x : T} {pe : Node} {s : T} {up : Ctx}
    {n : Nat} (hx : BH x n) (hxn : NoRedRed x)
    (hc : CI (right pr s pe up) (n + 1)) (hs : isRed s = false)
    (hf : 2 * depth up + (if pr then 1 else 2) ≤ f) : Good (delR f pr x pe s up) := by
  obtain ⟨h1, h2, h3, h4⟩ := hc
  have hole (l : T) (e : Node) (r : T) (hh : holeBlack up = true) : isRed (node pr l e r) = false :=
    (isRed_node ..).trans (black_of_hole h3 hh)
  rcases s with _ | ⟨_ | _, sl, se, sr⟩
  · cases h1
  · obtain ⟨b1, b2⟩ := BH_black_succ.1 h1
    obtain ⟨-, n1, n2⟩ := h2
    cases hsl : isRed sl
    · have key (hsr : isRed sr = false) :
          Good (balDel f (node pr (node true sl se sr) pe x) up) := by
        have e : (if pr then n else n + 1) + 1 = if pr then n + 1 else n + 1 + 1 := by
          cases pr <;> rfl
        exact ih _ _ _ (BH_node.2 ⟨n, rfl, BH_red.2 ⟨b1, b2⟩, hx⟩)
          ⟨nofun, ⟨fun _ => ⟨hsl, hsr⟩, n1, n2⟩, hxn⟩ (e ▸ h4)
          (fun ht => hole _ _ _ (by rw [ht]; rfl)) (by rw [isRed_node]; exact hf)
      rcases sr with _ | ⟨_ | _, srl, sre, srr⟩
      · rw [delR_black hsl rfl]; exact key rfl
      · rw [delR_black hsl rfl]; exact key rfl
      · rw [delR_near hsl]
        exact plug h4 (BH_node.2 ⟨_, rfl, BH_black_succ.2 ⟨b1, (BH_red.1 b2).1⟩,
            BH_black_succ.2 ⟨(BH_red.1 b2).2, hx⟩⟩)
          ⟨fun _ => ⟨rfl, rfl⟩, ⟨nofun, n1, n2.2.1⟩, ⟨nofun, n2.2.2, hxn⟩⟩ (hole _ _ _)
    · rw [delR_far hsl]
      exact plug h4 (BH_node.2 ⟨_, rfl, BH_blacken_red hsl b1, BH_black_succ.2 ⟨b2, hx⟩⟩)
        ⟨fun _ => ⟨isRed_blacken _, rfl⟩, NoRedRed_blacken n1, ⟨nofun, n2, hxn⟩⟩ (hole _ _ _)
  · cases hs

theorem ite_one_two (b : Bool) :
    1 ≤ (if b = true then 1 else 2) ∧ (if b = true then 1 else 2) ≤ 2 := by
  cases b <;> decide

theorem repairs (f : Nat) : Repairs f := by
  induction f with
  | zero =>
    intro x c n _ _ _ _ hf
    have := (ite_one_two (isRed x)).1
    omega
  | succ f ih =>
    intro x c n hx hxn hc ht hf
    cases c with
    | top =>
      have hr := ht rfl
      rw [blacken_of_black hr] at hxn
      exact ⟨hr, hxn, n, hx⟩
    | left pr pe s up =>
      rw [balDel_left]
      cases hr : isRed x
      · rw [blacken_of_black hr] at hxn
        rw [hr] at hf
        simp only [depth, Bool.false_eq_true, if_false] at hf ⊢
        obtain ⟨h1, h2, h3, h4⟩ := hc
        rcases s with _ | ⟨_ | _, sl, se, sr⟩
        · exact delL_good ih hx hxn ⟨h1, h2, h3, h4⟩ rfl (by have := (ite_one_two pr).2; omega)
        · exact delL_good ih hx hxn ⟨h1, h2, h3, h4⟩ rfl (by have := (ite_one_two pr).2; omega)
        · -- red sibling, hence black parent: after the rotation the sibling is the black `sl`
          obtain rfl : pr = false := by cases pr; rfl; cases (h3 rfl).1
          exact delL_good ih hx hxn ⟨(BH_red.1 h1).1, h2.2.1, fun _ => ⟨(h2.1 rfl).1, rfl⟩,
            (BH_red.1 h1).2, h2.2.2, nofun, h4⟩ (h2.1 rfl).1 (by show 2 * (depth up + 1) + 1 ≤ f; omega)
      · exact plug hc (BH_blacken_red hr hx) hxn (fun _ => isRed_blacken x)
    | right pr s pe up =>
      rw [balDel_right]
      cases hr : isRed x
      · rw [blacken_of_black hr] at hxn
        rw [hr] at hf
        simp only [depth, Bool.false_eq_true, if_false] at hf ⊢
        obtain ⟨h1, h2, h3, h4⟩ := hc
        rcases s with _ | ⟨_ | _, sl, se, sr⟩
        · exact delR_good ih hx hxn ⟨h1, h2, h3, h4⟩ rfl (by have := (ite_one_two pr).2; omega)
        · exact delR_good ih hx hxn ⟨h1, h2, h3, h4⟩ rfl (by have := (ite_one_two pr).2; omega)
        · obtain rfl : pr = false := by cases pr; rfl; cases (h3 rfl).1
          exact delR_good ih hx hxn ⟨(BH_red.1 h1).2, h2.2.2, fun _ => ⟨(h2.1 rfl).2, rfl⟩,
            (BH_red.1 h1).1, h2.2.1, nofun, h4⟩ (h2.1 rfl).2 (by show 2 * (depth up + 1) + 1 ≤ f; omega)
      · exact plug hc (BH_blacken_red hr hx) hxn (fun _ => isRed_blacken x)

theorem depth_height (s : T) (c : Ctx) : depth c + height s ≤ height (zip s c) := by
  induction c generalizing s with
  | top => simp [depth, zip]
  | left red e r up ih =>
    have := ih (node red s e r); simp only [depth, zip, height] at this ⊢; omega
  | right red l e up ih =>
    have := ih (node red l e s); simp only [depth, zip, height] at this ⊢; omega

theorem depth_le_height (s : T) (c : Ctx) : depth c ≤ height (zip s c) :=
  Nat.le_trans (Nat.le_add_right _ _) (depth_height s c)

theorem depth_append (a b : Ctx) : depth (a.append b) = depth a + depth b := by
  induction a <;> simp_all [Ctx.append, depth] <;> omega

theorem holeBlack_append_swap (cs : Ctx) (pc : Bool) (pl : T) (e e' : Node) (c : Ctx) :
    holeBlack (cs.append (right pc pl e c)) = holeBlack (cs.append (right pc pl e' c)) := by
  cases cs <;> rfl

theorem CI_append_swap {cs : Ctx} {pc : Bool} {pl : T} {e : Node} (e' : Node) {c : Ctx} {k : Nat}
    (h : CI (cs.append (right pc pl e c)) k) : CI (cs.append (right pc pl e' c)) k := by
  induction cs generalizing k with
  | top => exact h
  | left red x r up ih =>
    obtain ⟨h1, h2, h3, h4⟩ := h
    exact ⟨h1, h2, fun hr => ⟨(h3 hr).1, holeBlack_append_swap up pc pl e e' c ▸ (h3 hr).2⟩, ih h4⟩
  | right red l x up ih =>
    obtain ⟨h1, h2, h3, h4⟩ := h
    exact ⟨h1, h2, fun hr => ⟨(h3 hr).1, holeBlack_append_swap up pc pl e e' c ▸ (h3 hr).2⟩, ih h4⟩

theorem append_right_ne_top (cs : Ctx) (pc : Bool) (pl : T) (e : Node) (c : Ctx) :
    cs.append (right pc pl e c) ≠ top := by
  cases cs <;> simp [Ctx.append]

/-- splice `x` in for a node of colour `pc` that leaves the tree and had children of black
height `n` -/
theorem splice_good {f : Nat} {c : Ctx} {n : Nat} {pc : Bool} {x : T}
    (hc : CI c (if pc then n else n + 1)) (hb : BH x n) (hn : NoRedRed x)
    (hh : holeBlack c = true → pc = false)
    (ht : c = top → isRed x = false) (hf : 2 * depth c + 2 ≤ f) :
    Good (if pc then zip x c else balDel f x c) := by
  cases pc
  · exact repairs f x c n hb (NoRedRed_blacken hn) hc ht (by split <;> omega)
  · exact plug hc hb hn (fun h => by simpa using hh h)

/-- the colour part of `removeNode_inv`; `hroot` excludes the one situation in which the result
has a red root: the root itself is removed and has exactly one child -/
theorem removeNode_good_of_locate {h k : Nat} {t : T} {pc : Bool} {pl : T} {pe : Node} {pr : T}
    {c : Ctx} (hg : Good t) (hl : locate h k t top = some (node pc pl pe pr, c))
    (hroot : c = top → (pl = nil ↔ pr = nil)) : Good (removeNode h k t) := by
  have hz : zip (node pc pl pe pr) c = t := (locate_some hl).1
  rcases pl with _ | ⟨lc, ll, le, lr⟩ <;> rcases pr with _ | ⟨rc, rl, re, rr⟩
  case node.node =>
    -- two children: the successor's node leaves the tree, its entry takes the place of `pe`
    obtain ⟨⟨sc, se, sr, cs⟩, hs⟩ := leftmost_isSome rc rl re rr top
    have hz' : zip (node sc nil se sr) (cs.append (right pc (node lc ll le lr) pe c)) = t := by
      rw [zip_append, (leftmost_some hs).1]; exact hz
    have hd := depth_le_height (node sc nil se sr) (cs.append (right pc (node lc ll le lr) pe c))
    rw [hz'] at hd
    obtain ⟨_, hc, hb, hn, hh⟩ := unplug (hz' ▸ hg)
    obtain ⟨n, rfl, -, b2⟩ := BH_node.1 hb
    simp only [removeNode, hl, hs]
    refine splice_good (CI_append_swap se hc) b2 hn.2.2 ?_
      (fun ht => absurd ht (append_right_ne_top _ _ _ _ _)) ?_
    · rw [holeBlack_append_swap cs pc _ se pe c]
      exact fun h => (isRed_node ..).symm.trans (hh h)
    · simp only [depth_append, depth] at hd ⊢; omega
  all_goals
    have hd : depth c ≤ height t := hz ▸ depth_le_height _ c
    obtain ⟨_, hc, hb, hn, hh⟩ := unplug (hz ▸ hg)
    obtain ⟨n, rfl, b1, b2⟩ := BH_node.1 hb
    have hh' : holeBlack c = true → pc = false := fun h => (isRed_node ..).symm.trans (hh h)
    simp only [removeNode, hl]
  · exact splice_good hc b1 trivial hh' (fun _ => rfl) (by omega)
  · exact splice_good hc b2 hn.2.2 hh' (fun ht => nomatch (hroot ht).1 rfl) (by omega)
  · exact splice_good hc b1 hn.2.1 hh' (fun ht => nomatch (hroot ht).2 rfl) (by omega)

theorem locate_top_eq {h k : Nat} {t s : T} (hl : locate h k t top = some (s, top)) : s = t := by
  simpa [zip] using (locate_some hl).1

end Del

open Del T Ctx

/-- colour/black-height part: holds for any `h k` (if nothing is found the tree is returned as is).
The side condition excludes the case "the root is removed and has exactly one child", where the
red child becomes the root and `balDel` returns at once (`x == root`). -/
theorem removeNode_good {h k : Nat} {t : T} (hg : Good t)
    (hroot : ∀ c l e r, t = node c l e r → e.hash = h → e.key = k → (l = nil ↔ r = nil)) :
    Good (removeNode h k t) := by
  cases hl : locate h k t top with
  | none => simpa [removeNode, hl] using hg
  | some p =>
    obtain ⟨s, c⟩ := p
    obtain ⟨hz, pc, pl, pe, pr, rfl, h1, h2⟩ := locate_some hl
    refine removeNode_good_of_locate hg hl ?_
    rintro rfl
    exact hroot pc pl pe pr (by simpa [zip] using hz.symm) h1 h2

/-- without side condition: no red-red and uniform black height are kept -/
theorem removeNode_weak {h k : Nat} {t : T} (hg : Good t) :
    NoRedRed (removeNode h k t) ∧ ∃ n, BH (removeNode h k t) n := by
  cases hl : locate h k t top with
  | none => simpa [removeNode, hl] using hg.2
  | some p =>
    obtain ⟨s, c⟩ := p
    obtain ⟨hz, pc, pl, pe, pr, rfl, -, -⟩ := locate_some hl
    by_cases hroot : c = top → (pl = nil ↔ pr = nil)
    · exact (removeNode_good_of_locate hg hl hroot).2
    -- the root leaves and its only child, whatever its colour, is the new tree
    simp only [Classical.not_imp] at hroot
    obtain ⟨rfl, hne⟩ := hroot
    simp only [zip] at hz
    subst hz
    obtain ⟨-, h2, _, h3⟩ := hg
    obtain ⟨n, -, b1, b2⟩ := BH_node.1 h3
    rcases pl with _ | ⟨lc, ll, le, lr⟩ <;> rcases pr with _ | ⟨rc, rl, re, rr⟩
    · simp at hne
    · simp only [removeNode, hl, zip, balDel, ite_self]
      exact ⟨h2.2.2, _, b2⟩
    · simp only [removeNode, hl, zip, balDel, ite_self]
      exact ⟨h2.2.1, _, b1⟩
    · simp at hne

/-- `removeNode` keeps the tree-bin invariant, provided the shape test `tooSmall` has failed
(which is when `remove_tree_node` gets this far). -/
theorem removeNode_inv {h k : Nat} {t : T} (hi : TreeInv t) (hs : tooSmall t = false)
    (he : ∃ e ∈ toList t, e.hash = h ∧ e.key = k) : TreeInv (removeNode h k t) := by
  refine ⟨removeNode_BST hi.1 he, removeNode_good hi.2 ?_⟩
  rintro c l e r rfl - -
  rcases l with _ | ⟨lc, ll, le, lr⟩ <;> rcases r with _ | ⟨rc, rl, re, rr⟩
  · cases hs
  · cases hs
  · cases hs
  · exact ⟨nofun, nofun⟩

/-- the statement without the shape test, in its strongest true form: everything except the
colour of the root (see `removeNode_red_root` for the counterexample) -/
theorem removeNode_inv_weak {h k : Nat} {t : T} (hi : TreeInv t)
    (he : ∃ e ∈ toList t, e.hash = h ∧ e.key = k) :
    BST (removeNode h k t) ∧ NoRedRed (removeNode h k t) ∧ ∃ n, BH (removeNode h k t) n :=
  ⟨removeNode_BST hi.1 he, removeNode_weak hi.2⟩

theorem removeNode_size {h k : Nat} {t : T} (hb : BST t)
    (he : ∃ e ∈ toList t, e.hash = h ∧ e.key = k) : size (removeNode h k t) + 1 = size t := by
  obtain ⟨l1, l2, e, -, -, h1, h2⟩ := removeNode_split hb he
  simp [size_eq_length, h1, h2]; omega

end Flurry.RB
