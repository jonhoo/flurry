import Flurry.Lemmas.BinKChain
import Flurry.Lemmas.ListHeap
/-! # Proto/BinK: the chain invariant, the abstract state, and the stores (C01, a bin that changes its kind)

Everything here is stated for a heap, a start pointer `st` (the bin cell of a list bin / the `first`
field of the live tree bin) and a set `T` of "tree nodes of the live structure", so that the list
form and the tree form share the lemmas.

* `CInv heap st T`: `NextOK`, the start is valid, keys are pairwise distinct among the nodes on the
  chain or in `T`.
* `absL heap L k`: the value of the first node with key `k` on the chain `L`. It is `LHeap.Sig.abs` at `sig`
  by definition, and its lemmas are those of `Lemmas/ListHeap`.
* `HeapStep heap L P heap' L' P'`: what a transition does to the heap as far as list-walking readers
  are concerned (`P`: private nodes, allocated by a treeify that has not yet published them).
* the stores: one-node modifications (`modify_summary`, `val_store`), `prepend_store` (also the CAS
  into the empty cell), `append_store` (list insertion at the tail), `unlink_mid` / `unlink_head` (from `unlink_summary`). -/
namespace Flurry.Proto.BinK
open Flurry.Lin

structure CInv (heap : List NodeS) (st : Option Nat) (T : Nat → Prop) : Prop where
  nextOK : NextOK heap
  startOK : ∀ h, st = some h → h < heap.length
  keysDistinct : ∀ i j, (i ∈ chainOf heap st ∨ T i) → (j ∈ chainOf heap st ∨ T j) →
    (nodeAt heap i).key = (nodeAt heap j).key → i = j

theorem CInv.isChain {heap : List NodeS} {st : Option Nat} {T : Nat → Prop} (C : CInv heap st T) :
    IsChain heap st (chainOf heap st) := chainOf_isChain C.nextOK st C.startOK

theorem CInv.chain_lt {heap : List NodeS} {st : Option Nat} {T : Nat → Prop} (C : CInv heap st T) {i : Nat}
    (hi : i ∈ chainOf heap st) : i < heap.length := C.isChain.lt_length i hi

theorem CInv.nodup {heap : List NodeS} {st : Option Nat} {T : Nat → Prop} (C : CInv heap st T) :
    (chainOf heap st).Nodup := C.isChain.nodup C.nextOK

theorem CInv.distinct {heap : List NodeS} {st : Option Nat} {T : Nat → Prop} (C : CInv heap st T) :
    ∀ i j, i ∈ chainOf heap st → j ∈ chainOf heap st → (nodeAt heap i).key = (nodeAt heap j).key → i = j :=
  fun i j hi hj => C.keysDistinct i j (Or.inl hi) (Or.inl hj)

def absL (heap : List NodeS) (L : List Nat) (k : Nat) : KSt :=
  (L.find? (fun i => (nodeAt heap i).key == k)).map (fun i => (nodeAt heap i).val)

theorem absOf_eq (s : State) (k : Nat) : absOf s k = absL s.heap (liveChain s) k := by
  unfold absOf absL nodeAt
  cases (liveChain s).find? (fun i => (s.heap.getD i dflt).key == k) <;> rfl

/-- how `Lemmas/ListHeap` reads a node of a chain: every node counts -/
def sig : LHeap.Sig NodeS := ⟨NodeS.key, NodeS.val, NodeS.next, NodeS.inTree, fun _ => true, dflt⟩

theorem counts_iff {heap : List NodeS} {L : List Nat} {j : Nat} : LHeap.Counts sig heap L j ↔ j ∈ L := and_iff_left rfl

theorem absL_eq_none_iff {heap : List NodeS} {L : List Nat} {k : Nat} :
    absL heap L k = none ↔ ∀ i ∈ L, (nodeAt heap i).key ≠ k :=
  (LHeap.abs_eq_none_iff (G := sig)).trans (forall₂_congr fun _ _ => ⟨fun h => h rfl, fun h _ => h⟩)

theorem absL_eq_some_iff {heap : List NodeS} {L : List Nat}
    (hd : ∀ i j, i ∈ L → j ∈ L → (nodeAt heap i).key = (nodeAt heap j).key → i = j) {k : Nat} {v : Nat × Nat} :
    absL heap L k = some v ↔ ∃ i ∈ L, (nodeAt heap i).key = k ∧ (nodeAt heap i).val = v :=
  (LHeap.abs_eq_some_iff (G := sig) hd).trans (exists_congr fun _ => and_congr_right fun _ => and_iff_right rfl)

/-- two chains that hold the same keys and values position by position -/
theorem absL_pointwise {heap heap' : List NodeS} : ∀ {L L' : List Nat}, L'.length = L.length →
    (∀ j, j < L.length → (nodeAt heap' (L'.getD j 0)).key = (nodeAt heap (L.getD j 0)).key ∧
      (nodeAt heap' (L'.getD j 0)).val = (nodeAt heap (L.getD j 0)).val) →
    ∀ k, absL heap' L' k = absL heap L k
  | [], [], _, _, k => rfl
  | [], _ :: _, h, _, _ => by simp at h
  | _ :: _, [], h, _, _ => by simp at h
  | a :: L, a' :: L', hlen, hkv, k => by
    have h0 := hkv 0 (by simp)
    simp only [List.getD_cons_zero] at h0
    have ih := absL_pointwise (heap := heap) (heap' := heap') (L := L) (L' := L') (by simpa using hlen)
      (fun j hj => by
        have := hkv (j + 1) (by simp; omega)
        simpa using this) k
    unfold absL at ih ⊢
    simp only [List.find?_cons, h0.1]
    cases hk : (nodeAt heap a).key == k
    · simp only
      exact ih
    · simp only [Option.map_some, h0.2]

theorem absL_val {heap heap' : List NodeS} {L L' : List Nat}
    (hd : ∀ i j, i ∈ L → j ∈ L → (nodeAt heap i).key = (nodeAt heap j).key → i = j)
    (hd' : ∀ i j, i ∈ L' → j ∈ L' → (nodeAt heap' i).key = (nodeAt heap' j).key → i = j)
    {i : Nat} {v : Nat × Nat} (hi : i ∈ L)
    (hlive : ∀ j, j ∈ L' ↔ j ∈ L)
    (hkey : ∀ j, (nodeAt heap' j).key = (nodeAt heap j).key)
    (hval : ∀ j, (nodeAt heap' j).val = if j = i then v else (nodeAt heap j).val) (k : Nat) :
    absL heap' L' k = if (nodeAt heap i).key = k then some v else absL heap L k :=
  LHeap.abs_val (G := sig) hd hd' ⟨hi, rfl⟩ (fun j => by rw [counts_iff, counts_iff, hlive]) hkey hval k

theorem absL_add {heap heap' : List NodeS} {L L' : List Nat}
    (hd : ∀ i j, i ∈ L → j ∈ L → (nodeAt heap i).key = (nodeAt heap j).key → i = j)
    (hd' : ∀ i j, i ∈ L' → j ∈ L' → (nodeAt heap' i).key = (nodeAt heap' j).key → i = j)
    {x : Nat} (hx : x ∈ L')
    (hlive : ∀ j, j ∈ L' ↔ (j = x ∨ j ∈ L))
    (hkv : ∀ j, j ∈ L →
      (nodeAt heap' j).key = (nodeAt heap j).key ∧ (nodeAt heap' j).val = (nodeAt heap j).val)
    (k : Nat) :
    absL heap' L' k = if (nodeAt heap' x).key = k then some (nodeAt heap' x).val else absL heap L k :=
  LHeap.abs_add (G := sig) hd hd' ⟨hx, rfl⟩ (fun j => by rw [counts_iff, counts_iff, hlive]) (fun j hj => hkv j hj.1) k

theorem absL_del {heap heap' : List NodeS} {L L' : List Nat}
    (hd : ∀ i j, i ∈ L → j ∈ L → (nodeAt heap i).key = (nodeAt heap j).key → i = j)
    (hd' : ∀ i j, i ∈ L' → j ∈ L' → (nodeAt heap' i).key = (nodeAt heap' j).key → i = j)
    {i : Nat} (hi : i ∈ L)
    (hlive : ∀ j, j ∈ L' ↔ (j ≠ i ∧ j ∈ L))
    (hkv : ∀ j, j ∈ L →
      (nodeAt heap' j).key = (nodeAt heap j).key ∧ (nodeAt heap' j).val = (nodeAt heap j).val)
    (k : Nat) :
    absL heap' L' k = if (nodeAt heap i).key = k then none else absL heap L k :=
  LHeap.abs_del (G := sig) hd hd' hi (fun j => by rw [counts_iff, counts_iff, hlive]) (fun j hj => hkv j hj.1) k

structure HeapStep (heap : List NodeS) (L : List Nat) (P : Nat → Prop)
    (heap' : List NodeS) (L' : List Nat) (P' : Nat → Prop) : Prop where
  len : heap.length ≤ heap'.length
  key : ∀ j, j < heap.length → (nodeAt heap' j).key = (nodeAt heap j).key
  /-- a node that is not on the chain before or not on it after keeps value and `next` -/
  off : ∀ j, j < heap.length → (j ∉ L ∨ j ∉ L') →
    (nodeAt heap' j).val = (nodeAt heap j).val ∧ (nodeAt heap' j).next = (nodeAt heap j).next
  /-- no old node becomes private -/
  priv : ∀ j, j < heap.length → P' j → P j
  /-- an old public node that is not on the chain never gets onto it -/
  noRelink : ∀ j ∈ L', j ∈ L ∨ heap.length ≤ j ∨ P j
  /-- the nodes that stay on the chain keep their order -/
  order : ∀ i c, i ∈ L → c ∈ L → List.Sublist [i, c] L' → List.Sublist [i, c] L
  /-- if some node stays on the chain, the key of a node that joins it is not on the chain -/
  fresh : ∀ j ∈ L', j ∉ L → ∀ c, c ∈ L → c ∈ L' → ∀ i ∈ L, (nodeAt heap i).key ≠ (nodeAt heap' j).key

theorem HeapStep.valchg {heap heap' : List NodeS} {L L' : List Nat} {P P' : Nat → Prop}
    (hs : HeapStep heap L P heap' L' P') {j : Nat} (hj : j < heap.length)
    (hne : (nodeAt heap' j).val ≠ (nodeAt heap j).val) : j ∈ L ∧ j ∈ L' := by
  constructor
  · apply Classical.byContradiction
    intro h
    exact hne (hs.off j hj (Or.inl h)).1
  · apply Classical.byContradiction
    intro h
    exact hne (hs.off j hj (Or.inr h)).1

theorem modify_chain {heap : List NodeS} {st : Option Nat} {T : Nat → Prop} (C : CInv heap st T)
    {i : Nat} {f : NodeS → NodeS} (hf : ∀ n, (f n).next = n.next) :
    NextOK (heap.modify i f) ∧ chainOf (heap.modify i f) st = chainOf heap st := by
  have hok := nextOK_modify_other C.nextOK i hf
  refine ⟨hok, chainOf_eq hok ?_⟩
  refine C.isChain.congr ?_
  intro j _ n hn
  by_cases hij : i = j
  · subst hij
    exact ⟨f n, by rw [List.getElem?_modify_eq, hn]; rfl, hf n⟩
  · exact ⟨n, by rw [List.getElem?_modify_ne _ _ hij, hn], rfl⟩

/-- the common part of the one-node stores (value, tree flag, lock word) -/
theorem modify_summary {heap : List NodeS} {st : Option Nat} {T T' P P' : Nat → Prop} (C : CInv heap st T)
    {i : Nat} {f : NodeS → NodeS}
    (hf : ∀ n, (f n).next = n.next ∧ (f n).key = n.key)
    (hT : ∀ j, T' j → j ∈ chainOf heap st ∨ T j)
    (hv : (nodeAt (heap.modify i f) i).val ≠ (nodeAt heap i).val → i ∈ chainOf heap st)
    (hP : ∀ j, j < heap.length → P' j → P j) :
    CInv (heap.modify i f) st T' ∧
      HeapStep heap (chainOf heap st) P (heap.modify i f) (chainOf heap st) P' ∧
      chainOf (heap.modify i f) st = chainOf heap st ∧
      (∀ j, (nodeAt (heap.modify i f) j).key = (nodeAt heap j).key) ∧
      (∀ j, (nodeAt (heap.modify i f) j).next = (nodeAt heap j).next) ∧
      (∀ j, j ≠ i → nodeAt (heap.modify i f) j = nodeAt heap j) := by
  obtain ⟨hok, hc⟩ := modify_chain C (i := i) (fun n => (hf n).1)
  have hkey : ∀ j, (nodeAt (heap.modify i f) j).key = (nodeAt heap j).key := by
    intro j; rw [nodeAt_modify]; split
    · exact (hf _).2
    · rfl
  have hnext : ∀ j, (nodeAt (heap.modify i f) j).next = (nodeAt heap j).next := by
    intro j; rw [nodeAt_modify]; split
    · exact (hf _).1
    · rfl
  have hother : ∀ j, j ≠ i → nodeAt (heap.modify i f) j = nodeAt heap j := by
    intro j hj; exact nodeAt_modify_ne f (fun e => hj e.symm)
  refine ⟨⟨hok, by rw [List.length_modify]; exact C.startOK, ?_⟩, ?_, hc, hkey, hnext, hother⟩
  · intro a b ha hb hab
    rw [hkey, hkey] at hab
    rw [hc] at ha hb
    have ha' : a ∈ chainOf heap st ∨ T a := by
      rcases ha with ha | ha
      · exact Or.inl ha
      · exact hT a ha
    have hb' : b ∈ chainOf heap st ∨ T b := by
      rcases hb with hb | hb
      · exact Or.inl hb
      · exact hT b hb
    exact C.keysDistinct a b ha' hb' hab
  · refine ⟨by rw [List.length_modify]; exact Nat.le_refl _, fun j _ => hkey j, ?_, hP,
      fun j hj => Or.inl hj, fun _ _ _ _ h => h, ?_⟩
    · intro j _ hjc
      refine ⟨?_, hnext j⟩
      by_cases hji : j = i
      · subst hji
        apply Classical.byContradiction
        intro hne
        have := hv hne
        rcases hjc with h | h <;> exact h this
      · rw [hother j hji]
    · intro j hj hjn; exact absurd hj hjn

theorem val_store {heap : List NodeS} {st : Option Nat} {T T' P P' : Nat → Prop} (C : CInv heap st T)
    {i : Nat} {v : Nat × Nat} (hi : i ∈ chainOf heap st)
    (hT : ∀ j, T' j → j ∈ chainOf heap st ∨ T j) (hP : ∀ j, j < heap.length → P' j → P j) :
    let heap' := heap.modify i (fun n => { n with val := v })
    CInv heap' st T' ∧ HeapStep heap (chainOf heap st) P heap' (chainOf heap st) P' ∧
      chainOf heap' st = chainOf heap st ∧
      (∀ j, nodeAt heap' j = if j = i then { nodeAt heap j with val := v } else nodeAt heap j) ∧
      ∀ k, absL heap' (chainOf heap' st) k =
        if (nodeAt heap i).key = k then some v else absL heap (chainOf heap st) k := by
  intro heap'
  have hil := C.chain_lt hi
  obtain ⟨C', hs, hc, hkey, _, hother⟩ := modify_summary (T' := T') (P := P) (P' := P') C (i := i)
    (f := fun n => { n with val := v }) (fun n => ⟨rfl, rfl⟩) hT (fun _ => hi) hP
  have hnode : ∀ j, nodeAt heap' j = if j = i then { nodeAt heap j with val := v } else nodeAt heap j := by
    intro j
    by_cases hji : j = i
    · subst hji; rw [if_pos rfl]; exact nodeAt_modify_self _ hil
    · rw [if_neg hji]; exact hother j hji
  refine ⟨C', hs, hc, hnode, ?_⟩
  intro k
  refine absL_val C.distinct C'.distinct hi (fun j => by rw [hc]) hkey ?_ k
  intro j
  rw [hnode]
  split <;> rfl

/-! ## prepending a fresh node (tree-bin insertion; the CAS into the empty cell) -/

theorem prepend_store {heap : List NodeS} {st : Option Nat} {T T' P P' : Nat → Prop} (C : CInv heap st T)
    {new : NodeS} (hnext : new.next = st)
    (hfresh : ∀ j, (j ∈ chainOf heap st ∨ T j) → (nodeAt heap j).key ≠ new.key)
    (hT : ∀ j, T' j → j < heap.length ∧ T j) (hP : ∀ j, j < heap.length → P' j → P j) :
    let heap' := heap ++ [new]
    CInv heap' (some heap.length) T' ∧
      HeapStep heap (chainOf heap st) P heap' (heap.length :: chainOf heap st) P' ∧
      chainOf heap' (some heap.length) = heap.length :: chainOf heap st ∧
      ∀ k, absL heap' (chainOf heap' (some heap.length)) k =
        if new.key = k then some new.val else absL heap (chainOf heap st) k := by
  intro heap'
  have hold : ∀ j, j < heap.length → nodeAt heap' j = nodeAt heap j := fun j hj => nodeAt_append_left _ hj
  have hnew : nodeAt heap' heap.length = new := nodeAt_append_new _ _
  have hok : NextOK heap' := by
    refine nextOK_append C.nextOK ?_
    intro j hj x hx
    have hj0 : j = 0 := by simpa using hj
    subst hj0
    simp only [List.getElem_cons_zero] at hx
    left
    rw [hnext] at hx
    exact ⟨C.startOK x hx, rfl⟩
  have hc : chainOf heap' (some heap.length) = heap.length :: chainOf heap st :=
    chainOf_eq hok (isChain_prepend C.isChain new hnext)
  have C' : CInv heap' (some heap.length) T' := by
    refine ⟨hok, ?_, ?_⟩
    · intro h hh; cases hh; simp [heap']
    · have hal : ∀ j, (j ∈ chainOf heap' (some heap.length) ∨ T' j) →
          j = heap.length ∨ (j < heap.length ∧ (j ∈ chainOf heap st ∨ T j)) := by
        intro j hj
        rcases hj with hj | hj
        · rw [hc] at hj
          rcases List.mem_cons.1 hj with hj | hj
          · exact Or.inl hj
          · exact Or.inr ⟨C.chain_lt hj, Or.inl hj⟩
        · exact Or.inr ⟨(hT j hj).1, Or.inr (hT j hj).2⟩
      intro a b ha hb hab
      rcases hal a ha with rfl | ⟨hal1, hal2⟩ <;> rcases hal b hb with rfl | ⟨hbl1, hbl2⟩
      · rfl
      · rw [hnew, hold b hbl1] at hab
        exact absurd hab.symm (hfresh b hbl2)
      · rw [hnew, hold a hal1] at hab
        exact absurd hab (hfresh a hal2)
      · rw [hold a hal1, hold b hbl1] at hab
        exact C.keysDistinct a b hal2 hbl2 hab
  refine ⟨C', ⟨by simp [heap'], fun j hj => by rw [hold j hj], fun j hj _ => by rw [hold j hj]; exact ⟨rfl, rfl⟩,
    hP, ?_, ?_, ?_⟩, hc, ?_⟩
  · intro j hj
    rcases List.mem_cons.1 hj with hj | hj
    · exact Or.inr (Or.inl (by omega))
    · exact Or.inl hj
  · intro i c hi _ h
    cases h with
    | cons _ h => exact h
    | cons_cons _ h => exact absurd (C.chain_lt hi) (by omega)
  · intro j hj hjn _ _ _ i hi
    rcases List.mem_cons.1 hj with hj | hj
    · subst hj; rw [hnew]; exact hfresh i (Or.inl hi)
    · exact absurd hj hjn
  · intro k
    have := absL_add (heap := heap) (heap' := heap') C.distinct C'.distinct (x := heap.length)
      (by rw [hc]; exact List.mem_cons_self) (fun j => by rw [hc, List.mem_cons])
      (fun j hj => by rw [hold j (C.chain_lt hj)]; exact ⟨rfl, rfl⟩) k
    rw [hnew] at this; exact this

/-! ## appending a fresh node behind the last node (list-bin insertion) -/

theorem append_store {heap : List NodeS} {st : Option Nat} {T T' P P' : Nat → Prop} (C : CInv heap st T)
    {new : NodeS} {l1 : List Nat} {pr : Nat} (hch : chainOf heap st = l1 ++ [pr]) (hnext : new.next = none)
    (hfresh : ∀ j, (j ∈ chainOf heap st ∨ T j) → (nodeAt heap j).key ≠ new.key)
    (hT : ∀ j, T' j → j < heap.length ∧ T j) (hP : ∀ j, j < heap.length → P' j → P j) :
    let heap' := (heap ++ [new]).modify pr (fun m => { m with next := some heap.length })
    CInv heap' st T' ∧
      HeapStep heap (chainOf heap st) P heap' (chainOf heap st ++ [heap.length]) P' ∧
      chainOf heap' st = chainOf heap st ++ [heap.length] ∧
      ∀ k, absL heap' (chainOf heap' st) k =
        if new.key = k then some new.val else absL heap (chainOf heap st) k := by
  intro heap'
  have hprc : pr ∈ chainOf heap st := by rw [hch]; simp
  have hprl := C.chain_lt hprc
  have hlen : heap'.length = heap.length + 1 := by simp [heap']
  have hnode : ∀ j, nodeAt heap' j = if j = pr then { nodeAt heap j with next := some heap.length }
      else if j = heap.length then new else nodeAt heap j := nodeAt_append_link new hprl
  have hold : ∀ j, j < heap.length → (nodeAt heap' j).key = (nodeAt heap j).key ∧
      (nodeAt heap' j).val = (nodeAt heap j).val := by
    intro j hj
    rw [hnode]
    split
    · exact ⟨rfl, rfl⟩
    · rw [if_neg (by omega)]; exact ⟨rfl, rfl⟩
  have hnew : nodeAt heap' heap.length = new := by
    rw [hnode, if_neg (by omega), if_pos rfl]
  -- the last node of the chain has no successor
  have hprnx : (nodeAt heap pr).next = none := by
    have h := C.isChain
    rw [hch] at h
    exact h.next_eq (getElem?_nodeAt hprl)
  have hok1 : NextOK (heap ++ [new]) := by
    refine nextOK_append C.nextOK ?_
    intro j hj x hx
    have hj0 : j = 0 := by simpa using hj
    subst hj0
    simp only [List.getElem_cons_zero] at hx
    rw [hnext] at hx; cases hx
  have hok : NextOK heap' := by
    refine nextOK_modify_next hok1 pr (some heap.length) ?_ ?_
    · intro j hj
      cases hj
      refine ⟨by simp, by omega, ?_⟩
      intro _ m j' hm hj'
      simp only [List.getElem?_concat_length, Option.some.injEq] at hm
      subst hm
      rw [hnext] at hj'; cases hj'
    · intro x n _ _ _ j hj
      cases hj; exact hprl
  have hisch : IsChain heap' st (chainOf heap st ++ [heap.length]) := by
    have h := C.isChain
    have hnd := C.nodup
    rw [hch] at h hnd ⊢
    have := isChain_append_tail h hnd new hnext
    simpa using this
  have hc : chainOf heap' st = chainOf heap st ++ [heap.length] := chainOf_eq hok hisch
  have C' : CInv heap' st T' := by
    refine ⟨hok, ?_, ?_⟩
    · intro h hh; have := C.startOK h hh; omega
    · have hal : ∀ j, (j ∈ chainOf heap' st ∨ T' j) →
          j = heap.length ∨ (j < heap.length ∧ (j ∈ chainOf heap st ∨ T j)) := by
        intro j hj
        rcases hj with hj | hj
        · rw [hc] at hj
          rcases List.mem_append.1 hj with hj | hj
          · exact Or.inr ⟨C.chain_lt hj, Or.inl hj⟩
          · exact Or.inl (by simpa using hj)
        · exact Or.inr ⟨(hT j hj).1, Or.inr (hT j hj).2⟩
      intro a b ha hb hab
      rcases hal a ha with rfl | ⟨hal1, hal2⟩ <;> rcases hal b hb with rfl | ⟨hbl1, hbl2⟩
      · rfl
      · rw [hnew, (hold b hbl1).1] at hab
        exact absurd hab.symm (hfresh b hbl2)
      · rw [hnew, (hold a hal1).1] at hab
        exact absurd hab (hfresh a hal2)
      · rw [(hold a hal1).1, (hold b hbl1).1] at hab
        exact C.keysDistinct a b hal2 hbl2 hab
  refine ⟨C', ⟨by omega, fun j hj => (hold j hj).1, ?_, hP, ?_, ?_, ?_⟩, hc, ?_⟩
  · intro j hj hjc
    refine ⟨(hold j hj).2, ?_⟩
    rw [hnode]
    split
    · rename_i hjp
      subst hjp
      rcases hjc with h | h
      · exact absurd hprc h
      · exact absurd (List.mem_append_left _ hprc) h
    · rw [if_neg (by omega)]
  · intro j hj
    rcases List.mem_append.1 hj with hj | hj
    · exact Or.inl hj
    · exact Or.inr (Or.inl (by simp at hj; omega))
  · intro i c _ hc' h
    obtain ⟨a1, a2, he, h1, h2⟩ := List.sublist_append_iff.1 h
    have hcl := C.chain_lt hc'
    cases a2 with
    | nil => rw [List.append_nil] at he; rw [he]; exact h1
    | cons y a2' =>
      exfalso
      have hy : y = heap.length := by
        have := h2.subset (List.mem_cons_self)
        simpa using this
      have ha2' : a2' = [] := by
        have := h2.length_le
        simp at this
        exact this
      subst ha2' hy
      cases a1 with
      | nil => simp at he
      | cons x a1' =>
        cases a1' with
        | nil =>
          simp only [List.cons_append, List.nil_append, List.cons.injEq] at he
          omega
        | cons z a1'' =>
          have := congrArg List.length he
          simp at this
  · intro j hj hjn _ _ _ i hi
    rcases List.mem_append.1 hj with hj | hj
    · exact absurd hj hjn
    · have : j = heap.length := by simpa using hj
      subst this; rw [hnew]; exact hfresh i (Or.inl hi)
  · intro k
    have := absL_add (heap := heap) (heap' := heap') C.distinct C'.distinct (x := heap.length)
      (by rw [hc]; simp) (fun j => by rw [hc]; simp; exact Or.comm)
      (fun j hj => hold j (C.chain_lt hj)) k
    rw [hnew] at this; exact this

theorem unlink_summary {heap heap' : List NodeS} {st st' : Option Nat} {T T' P P' : Nat → Prop}
    (C : CInv heap st T) {i : Nat} (hi : i ∈ chainOf heap st)
    (hok' : NextOK heap') (hst' : ∀ h, st' = some h → h < heap'.length)
    (hlen : heap'.length = heap.length)
    (hsub : List.Sublist (chainOf heap' st') (chainOf heap st))
    (hc : ∀ j, j ∈ chainOf heap' st' ↔ j ∈ chainOf heap st ∧ j ≠ i)
    (hold : ∀ j, (nodeAt heap' j).key = (nodeAt heap j).key ∧
      (nodeAt heap' j).val = (nodeAt heap j).val ∧
      ((j ∉ chainOf heap st ∨ j = i) → (nodeAt heap' j).next = (nodeAt heap j).next))
    (hT : ∀ j, T' j → T j) (hP : ∀ j, j < heap.length → P' j → P j) :
    CInv heap' st' T' ∧ HeapStep heap (chainOf heap st) P heap' (chainOf heap' st') P' ∧
      ∀ k, absL heap' (chainOf heap' st') k =
        if (nodeAt heap i).key = k then none else absL heap (chainOf heap st) k := by
  have C' : CInv heap' st' T' := by
    refine ⟨hok', hst', ?_⟩
    intro a b ha hb hab
    rw [(hold a).1, (hold b).1] at hab
    have ha' : a ∈ chainOf heap st ∨ T a := by
      rcases ha with ha | ha
      · exact Or.inl ((hc a).1 ha).1
      · exact Or.inr (hT a ha)
    have hb' : b ∈ chainOf heap st ∨ T b := by
      rcases hb with hb | hb
      · exact Or.inl ((hc b).1 hb).1
      · exact Or.inr (hT b hb)
    exact C.keysDistinct a b ha' hb' hab
  refine ⟨C', ⟨by omega, fun j _ => (hold j).1, ?_, hP, ?_, ?_, ?_⟩, ?_⟩
  · intro j _ hjc
    refine ⟨(hold j).2.1, (hold j).2.2 ?_⟩
    rcases hjc with h | h
    · exact Or.inl h
    · by_cases hjl : j ∈ chainOf heap st
      · right
        apply Classical.byContradiction
        intro hne
        exact h ((hc j).2 ⟨hjl, hne⟩)
      · exact Or.inl hjl
  · intro j hj
    exact Or.inl ((hc j).1 hj).1
  · intro a c _ _ h
    exact h.trans hsub
  · intro j hj hjn
    exact absurd ((hc j).1 hj).1 hjn
  · refine absL_del C.distinct C'.distinct hi ?_ (fun j _ => ⟨(hold j).1, (hold j).2.1⟩)
    intro j
    rw [hc]
    exact And.comm

theorem unlink_mid {heap : List NodeS} {st : Option Nat} {T T' P P' : Nat → Prop} (C : CInv heap st T)
    {l1 l2 : List Nat} {pr i : Nat} (hch : chainOf heap st = l1 ++ pr :: i :: l2)
    (hT : ∀ j, T' j → T j) (hP : ∀ j, j < heap.length → P' j → P j) :
    let heap' := heap.modify pr (fun m => { m with next := (nodeAt heap i).next })
    CInv heap' st T' ∧ HeapStep heap (chainOf heap st) P heap' (chainOf heap' st) P' ∧
      chainOf heap' st = l1 ++ pr :: l2 ∧
      (∀ j, (nodeAt heap' j).key = (nodeAt heap j).key ∧ (nodeAt heap' j).val = (nodeAt heap j).val ∧
        (nodeAt heap' j).inTree = (nodeAt heap j).inTree ∧ (nodeAt heap' j).owner = (nodeAt heap j).owner ∧
        (nodeAt heap' j).lock = (nodeAt heap j).lock) ∧
      ∀ k, absL heap' (chainOf heap' st) k =
        if (nodeAt heap i).key = k then none else absL heap (chainOf heap st) k := by
  intro heap'
  have hi : i ∈ chainOf heap st := by rw [hch]; simp
  have hpr : pr ∈ chainOf heap st := by rw [hch]; simp
  have hil := C.chain_lt hi
  have hprl := C.chain_lt hpr
  have hni := getElem?_nodeAt hil
  have hchain := C.isChain
  rw [hch] at hchain
  have hnd := C.nodup
  rw [hch] at hnd
  have hpri : pr ≠ i := by
    intro he
    subst he
    have := (List.nodup_append.1 hnd).2.1
    simp at this
  obtain ⟨b, h1, h2⟩ := hchain.split
  obtain ⟨-, np, hnp, hs⟩ := IsSeg.cons_iff.1 h2
  obtain ⟨hb, ni, hni', hs2⟩ := IsSeg.cons_iff.1 hs
  rw [hni] at hni'; cases hni'
  have hok' : NextOK heap' := by
    refine nextOK_modify_next C.nextOK pr _ ?_ ?_
    · intro j hj
      obtain ⟨e1, _, e3⟩ := C.nextOK i _ j hni hj
      have r1 := rank_lt C.nextOK hnp hb
      have r2 := rank_lt C.nextOK hni hj
      refine ⟨e1, by intro he; subst he; omega, ?_⟩
      intro hprj m j' hm hj'
      -- `pr → i → j`; if `pr < j` the pointer `i → j` goes upwards
      obtain ⟨_, _, f3⟩ := C.nextOK pr np i hnp hb
      by_cases hpi : pr < i
      · have hij := f3 hpi _ j hni hj
        exact e3 hij m j' hm hj'
      · have hip : i < pr := by omega
        exact e3 (by omega) m j' hm hj'
    · intro x n hx hxp hlt j hj
      obtain ⟨_, _, f3⟩ := C.nextOK x n pr hx hxp
      have hpi := f3 hlt np i hnp hb
      obtain ⟨_, _, g3⟩ := C.nextOK pr np i hnp hb
      have := g3 hpi _ j hni hj
      omega
  have hlen : heap'.length = heap.length := by simp [heap']
  have hc : chainOf heap' st = l1 ++ pr :: l2 :=
    chainOf_eq hok' (isChain_unlink (C.isChain |> fun h => by rw [hch] at h; exact h) hnd hni)
  have hnode : ∀ j, nodeAt heap' j = if j = pr then { nodeAt heap j with next := (nodeAt heap i).next }
      else nodeAt heap j := by
    intro j
    show nodeAt (heap.modify pr _) j = _
    by_cases hj : j = pr
    · subst hj; rw [if_pos rfl]; exact nodeAt_modify_self _ hprl
    · rw [if_neg hj]; exact nodeAt_modify_ne _ (fun e => hj e.symm)
  have hfields : ∀ j, (nodeAt heap' j).key = (nodeAt heap j).key ∧ (nodeAt heap' j).val = (nodeAt heap j).val ∧
      (nodeAt heap' j).inTree = (nodeAt heap j).inTree ∧ (nodeAt heap' j).owner = (nodeAt heap j).owner ∧
      (nodeAt heap' j).lock = (nodeAt heap j).lock := by
    intro j; rw [hnode]; split <;> exact ⟨rfl, rfl, rfl, rfl, rfl⟩
  have hmem : ∀ j, j ∈ chainOf heap' st ↔ j ∈ chainOf heap st ∧ j ≠ i := by
    intro j
    rw [hc, hch]
    simp only [List.mem_append, List.mem_cons]
    constructor
    · intro hj
      refine ⟨by rcases hj with hj | hj | hj <;> simp [hj], ?_⟩
      rintro rfl
      have h5 := List.nodup_append.1 hnd
      rcases hj with hj | hj | hj
      · exact h5.2.2 j hj j (by simp) rfl
      · exact hpri hj.symm
      · have := (List.nodup_cons.1 (List.nodup_cons.1 h5.2.1).2).1
        exact this hj
    · rintro ⟨hj | hj | hj | hj, hne⟩
      · exact Or.inl hj
      · exact Or.inr (Or.inl hj)
      · exact absurd hj hne
      · exact Or.inr (Or.inr hj)
  have hsub : List.Sublist (chainOf heap' st) (chainOf heap st) := by
    rw [hc, hch]
    refine List.Sublist.append (List.Sublist.refl _) ?_
    exact List.Sublist.cons_cons _ (List.sublist_cons_self _ _)
  have hold' : ∀ j, (nodeAt heap' j).key = (nodeAt heap j).key ∧
      (nodeAt heap' j).val = (nodeAt heap j).val ∧
      ((j ∉ chainOf heap st ∨ j = i) → (nodeAt heap' j).next = (nodeAt heap j).next) := by
    intro j
    refine ⟨(hfields j).1, (hfields j).2.1, ?_⟩
    intro hj
    rw [hnode, if_neg]
    rintro rfl
    rcases hj with hj | hj
    · exact hj hpr
    · exact hpri hj
  obtain ⟨C', hs', habs⟩ := unlink_summary (T' := T') (P := P) (P' := P') C hi hok'
    (fun h hh => by rw [hlen]; exact C.startOK h hh) hlen hsub hmem hold' hT hP
  exact ⟨C', hs', hc, hfields, habs⟩

theorem unlink_head {heap : List NodeS} {st : Option Nat} {T T' P P' : Nat → Prop} (C : CInv heap st T)
    {l2 : List Nat} {i : Nat} (hch : chainOf heap st = i :: l2)
    (hT : ∀ j, T' j → T j) (hP : ∀ j, j < heap.length → P' j → P j) :
    CInv heap (nodeAt heap i).next T' ∧
      HeapStep heap (chainOf heap st) P heap (chainOf heap (nodeAt heap i).next) P' ∧
      chainOf heap (nodeAt heap i).next = l2 ∧
      ∀ k, absL heap (chainOf heap (nodeAt heap i).next) k =
        if (nodeAt heap i).key = k then none else absL heap (chainOf heap st) k := by
  have hi : i ∈ chainOf heap st := by rw [hch]; simp
  have hil := C.chain_lt hi
  have hni := getElem?_nodeAt hil
  have hchain := C.isChain
  rw [hch] at hchain
  have hnd := C.nodup
  rw [hch] at hnd
  obtain ⟨-, ni, hni', hs⟩ := IsSeg.cons_iff.1 hchain
  rw [hni] at hni'; cases hni'
  have hc : chainOf heap (nodeAt heap i).next = l2 := chainOf_eq C.nextOK hs
  have hmem : ∀ j, j ∈ chainOf heap (nodeAt heap i).next ↔ j ∈ chainOf heap st ∧ j ≠ i := by
    intro j
    rw [hc, hch]
    simp only [List.mem_cons]
    constructor
    · intro hj
      refine ⟨Or.inr hj, ?_⟩
      rintro rfl
      exact (List.nodup_cons.1 hnd).1 hj
    · rintro ⟨hj | hj, hne⟩
      · exact absurd hj hne
      · exact hj
  obtain ⟨C', hs', habs⟩ := unlink_summary (T' := T') (P := P) (P' := P') C hi C.nextOK
    (fun h hh => (C.nextOK i _ h hni hh).1) rfl (by rw [hc, hch]; exact List.sublist_cons_self _ _) hmem
    (fun j => ⟨rfl, rfl, fun _ => rfl⟩) hT hP
  exact ⟨C', hs', hc, habs⟩

end Flurry.Proto.BinK
