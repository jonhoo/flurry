import Flurry.Lemmas.TableLineages
/-! # The entries of a list of lineages under a translation of keys

The entries of all lineages under the keys of the map (`entries`, the companion of `Lineages.mhist`: both are
`Lineages.gather`): given that a lineage stores its own keys only (`Keys.Own`), an entry of the map with key `k` is the
entry of the name of `k` in the lineage of `k` (`mem_entries_iff`) and no key occurs twice (`entries_keys_nodup`). With
`Flurry.entries_len` (`Lemmas/ListSet.lean`) this is what C05 states of a table: iteration and `len` agree with lookup. -/
namespace Flurry.Proto.Lineages

section
variable {β V : Type}

def entries (K : Keys) (ent : β → List (Nat × V)) (bins : List β) (d : β) : List (Nat × V) :=
  gather (fun i e => (K.glob i e.1, e.2)) ent bins d

variable {K : Keys} {ent : β → List (Nat × V)} {bins : List β} {d : β}

theorem mem_entries {k : Nat} {v : V} :
    (k, v) ∈ entries K ent bins d ↔ ∃ i b q, bins[i]? = some b ∧ (q, v) ∈ ent b ∧ k = K.glob i q := by
  unfold entries
  rw [mem_gather]
  constructor
  · rintro ⟨i, b, ⟨q, v'⟩, hb, hx, h⟩
    cases h
    exact ⟨i, b, q, hb, hx, rfl⟩
  · rintro ⟨i, b, q, hb, hx, rfl⟩
    exact ⟨i, b, (q, v), hb, hx, rfl⟩

theorem mem_entries_iff (hown : K.Own Prod.fst ent bins) {k : Nat} {b : β} (hb : bins[K.lin k]? = some b) (v : V) :
    (k, v) ∈ entries K ent bins d ↔ (K.loc k, v) ∈ ent b := by
  rw [mem_entries]
  constructor
  · rintro ⟨i, b', q, hb', hqv, rfl⟩
    obtain ⟨h1, h2⟩ := hown i b' hb' _ hqv
    rw [h1, hb'] at hb
    cases hb
    rw [h2]
    exact hqv
  · intro he
    exact ⟨K.lin k, b, K.loc k, hb, he, (K.glob_lin_loc k).symm⟩

theorem entries_keys_nodup (hown : K.Own Prod.fst ent bins)
    (hnd : ∀ (i : Nat) (b : β), bins[i]? = some b → ((ent b).map (·.1)).Nodup) :
    ((entries K ent bins d).map (·.1)).Nodup := by
  unfold entries gather
  rw [← List.flatMap_def, List.map_flatMap]
  unfold List.Nodup
  rw [List.pairwise_flatMap]
  constructor
  · intro i hi
    obtain ⟨b, hb, hd⟩ := exists_getD d (List.mem_range.1 hi)
    rw [hd, List.map_map]
    have h := hnd i b hb
    unfold List.Nodup at h
    rw [List.pairwise_map] at h ⊢
    exact List.Pairwise.imp_of_mem (fun {a c} ha hc hac e => hac (by
      have h1 := (hown i b hb a ha).2
      have h2 := (hown i b hb c hc).2
      simp only [Function.comp] at e
      rw [e] at h1
      rw [← h1, h2])) h
  · rw [List.pairwise_iff_getElem]
    intro i j hi hj hij x hx y hy hxy
    rw [List.getElem_range] at hx hy
    rw [List.length_range] at hi hj
    obtain ⟨bi, hbi, hdi⟩ := exists_getD d hi
    obtain ⟨bj, hbj, hdj⟩ := exists_getD d hj
    rw [hdi] at hx
    rw [hdj] at hy
    obtain ⟨e1, h1, rfl⟩ := List.mem_map.1 hx
    obtain ⟨e2, h2, rfl⟩ := List.mem_map.1 hy
    obtain ⟨a1, ha1, rfl⟩ := List.mem_map.1 h1
    obtain ⟨a2, ha2, rfl⟩ := List.mem_map.1 h2
    have g1 := (hown i bi hbi a1 ha1).1
    have g2 := (hown j bj hbj a2 ha2).1
    simp only at hxy
    rw [hxy, g2] at g1
    omega

end

end Flurry.Proto.Lineages
