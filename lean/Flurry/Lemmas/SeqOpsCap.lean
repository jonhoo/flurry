import Flurry.Lemmas.SeqOpsBulk
/-! # What one operation guarantees (`OpPost`, `step_spec`), and capacity: the table never shrinks,
removals never grow it, and a run of insertions with room and without a crowded bin does not grow it
(`putAll_no_growth`; the converse, `C14.grow_only_when`, is read off `put_spec` in `Props/C14`) -/
namespace Flurry.Seq
open Flurry Flurry.Gen

/-- removal-class operations and reads -/
def Op.nonGrowing : Op → Bool
  | .rm _ | .rmEntry _ | .cip _ _ | .retain _ _ | .clear => true
  | .get _ | .getKV _ | .has _ | .len | .isEmpty => true
  | _ => false

/-- what the operation `op` guarantees when it takes `m` to `r` and answers `a`. Whatever the callbacks
do — panics included — `StepPost`: a `Good` state with the same hasher, the table not shorter, the resize
counter not lower. If no predicate panics, the reference map's step. For removals (also via
`compute_if_present`, `retain`, `clear`) and reads: no resize, and length and threshold of an existing
table stay as they are. (When the table does not exist yet `compute_if_present` allocates it: an
allocation, not a resize.) C02 `step_refines`, C05 `wf_reachable`, C14 `never_shrinks` and
`removal_never_grows`, C18 `after_panic_continues` are read off this. -/
structure OpPost (m : Map) (op : Op) (r : Map) (a : Ans) : Prop extends StepPost m r where
  abs : op.total → absMap r = (Ref.step (absMap m) op).1
  ans : op.total → op.answered = true → a = (Ref.step (absMap m) op).2
  resizes_eq : op.nonGrowing = true → r.resizes = m.resizes
  noGrow : op.nonGrowing = true → m.table ≠ none → tableLen r = tableLen m ∧ r.sizeCtl = m.sizeCtl

theorem OpPost.read {m : Map} (hg : Good m) {op : Op} {a : Ans}
    (habs : absMap m = (Ref.step (absMap m) op).1)
    (hans : op.answered = true → a = (Ref.step (absMap m) op).2) : OpPost m op m a :=
  ⟨.refl hg, fun _ => habs, fun _ => hans, fun _ => rfl, fun _ _ => ⟨rfl, rfl⟩⟩

theorem step_spec {m : Map} (hg : Good m) (op : Op) : OpPost m op (step m op).1 (step m op).2 := by
  cases op with
  | ins k ki v vi =>
    obtain ⟨hp, ho⟩ := put_spec k ki v vi false hg
    refine ⟨hp.toStepPost, fun _ => (put_absMap k ki v vi false hg).trans (if_neg fun h => nomatch h.1),
      fun _ _ => ?_, nofun, nofun⟩
    dsimp only [step, Ref.step, absMap]
    rw [ho, putOut]
    cases get k m <;> rfl
  | tryIns k ki v vi =>
    obtain ⟨hp, ho⟩ := put_spec k ki v vi true hg
    refine ⟨hp.toStepPost, fun _ => ?_, fun _ _ => ?_, nofun, nofun⟩
    · dsimp only [step, Ref.step]
      rw [put_absMap k ki v vi true hg, absMap_apply]
      cases get k m with
      | none => exact if_neg (fun h => nomatch h.2)
      | some old => exact if_pos ⟨rfl, rfl⟩
    · dsimp only [step, Ref.step]
      rw [ho, putOut, absMap_apply]
      cases get k m <;> rfl
  | get k | getKV k =>
    exact .read hg rfl fun _ => by dsimp only [step, Ref.step, absMap]; cases get k m <;> rfl
  | has k => exact .read hg rfl fun _ => congrArg Ans.bool (absMap_isSome m k).symm
  | len | isEmpty => exact .read hg rfl nofun
  | rm k | rmEntry k =>
    obtain ⟨hp, ho⟩ := replaceNode_rm_spec k none hg
    obtain ⟨h1, h2, h3⟩ := hp.noGrow trivial
    refine ⟨hp.toStepPost, fun _ => remove_absMap k hg, fun _ _ => ?_, fun _ => h2, fun _ _ => ⟨h1, h3⟩⟩
    dsimp only [step, Ref.step, absMap]
    rw [ho, rmHit]
    cases get k m <;> rfl
  | cip k f =>
    obtain ⟨hp, ho⟩ := cip_spec k f hg
    refine ⟨hp.toStepPost, fun _ => cip_absMap k f hg, fun _ _ => ?_, fun _ => ?_,
      fun _ hne => ⟨(hp.noGrow hne).1, (hp.noGrow hne).2.2⟩⟩
    · dsimp only [step, Ref.step, absMap]
      rw [ho, cipOut]
      cases get k m with
      | none => rfl
      | some old => dsimp only [Option.map_some]; cases f k old.val old.vi <;> rfl
    · cases ht : m.table with
      | none => rw [step, cip_of_get_none f hg (get_of_table_none ht k)]; exact initTable_resizes m
      | some t => exact (hp.noGrow (ht ▸ fun h => nomatch h)).2.1
  | retain force f =>
    obtain ⟨_, _, _, _, hp, _⟩ := retain_any force f hg
    refine ⟨⟨hp.good, hp.hash, Nat.le_of_eq hp.tableLen_eq.symm, Nat.le_of_eq hp.resizes_eq.symm⟩,
      fun ht => retain_absMap force hg ht, fun ht _ => ?_, fun _ => hp.resizes_eq,
      fun _ _ => ⟨hp.tableLen_eq, hp.sizeCtl_eq⟩⟩
    dsimp only [step, Ref.step]
    rw [(retain_spec force hg fun nd _ => ht nd.key nd.val nd.vi).2]; rfl
  | clear =>
    exact ⟨⟨clear_good hg, clear_hash m, Nat.le_of_eq (clear_table_len m).symm,
      Nat.le_of_eq (clear_resizes m).symm⟩, fun _ => clear_absMap m, fun _ _ => rfl,
      fun _ => clear_resizes m, fun _ _ => ⟨clear_table_len m, clear_sizeCtl m⟩⟩
  | reserve n => exact ⟨reserve_post n hg, fun _ => reserve_absMap n hg, fun _ _ => rfl, nofun, nofun⟩
  | extend hint items =>
    exact ⟨(reserve_post _ hg).trans (putAll_spec items (reserve_good _ hg)).1,
      fun _ => extend_absMap hint items hg, fun _ _ => rfl, nofun, nofun⟩

theorem step_post {m : Map} (hg : Good m) (op : Op) : StepPost m (step m op).1 :=
  (step_spec hg op).toStepPost

theorem step_good {m : Map} (hg : Good m) (op : Op) : Good (step m op).1 := (step_post hg op).good

theorem step_removal_never_grows {m : Map} (hg : Good m) (op : Op) (hop : op.nonGrowing = true) :
    (step m op).1.resizes = m.resizes ∧
    (m.table ≠ none → tableLen (step m op).1 = tableLen m ∧ (step m op).1.sizeCtl = m.sizeCtl) :=
  ⟨(step_spec hg op).resizes_eq hop, (step_spec hg op).noGrow hop⟩

/-- one insert of `putAll_no_growth`: `d` is what the insert adds to the count `c` (`0` for a key that is
present, `1` for a new one), `n` the number of inserts still to come -/
theorem room_step {c s d : Int} {n : Nat} (h : c + ((n : Int) + 1) < s) (hd : d ≤ 1) :
    c + 1 < s ∧ c + d + n < s := by omega

theorem putAll_no_growth (items : List (Nat × Nat × Nat × Nat)) : ∀ {m : Map}, Good m →
    m.table ≠ none → m.count + items.length < m.sizeCtl →
    (∀ pre it post, items = pre ++ it :: post →
      treeifyCond (putBinCount it.1 (putAll pre m)) = false) →
    tableLen (putAll items m) = tableLen m ∧ (putAll items m).resizes = m.resizes ∧
    (putAll items m).sizeCtl = m.sizeCtl := by
  induction items with
  | nil => intro m _ _ _ _; exact ⟨rfl, rfl, rfl⟩
  | cons it rest ih =>
    intro m hg hne hroom hbins
    obtain ⟨hp, -⟩ := put_spec it.1 it.2.1 it.2.2.1 it.2.2.2 false hg
    rw [List.length_cons, Int.natCast_succ] at hroom
    obtain ⟨hr0, hr1⟩ := room_step hroom
      (by split <;> decide : (if (get it.1 m).isSome then 0 else 1 : Int) ≤ 1)
    obtain ⟨h1, h2, h3⟩ :=
      hp.noGrow ⟨hne, Or.inl (hbins [] it rest rfl), Or.inr (Or.inl hr0)⟩
    obtain ⟨i1, i2, i3⟩ := ih hp.good (hp.toStepPost.table_ne_none hg hne)
      (by rw [hp.count, h3]; exact hr1) fun pre it' post he => hbins (it :: pre) it' post (by rw [he]; rfl)
    exact ⟨i1.trans h1, i2.trans h2, i3.trans h3⟩

/-- `with_capacity(c)` (`0 < c < 2^29`): the table exists, has `presizeCap c` bins and was never
resized, and the threshold is above `c` (`C14.with_capacity_room`) -/
theorem withCapacity_room (hash : Nat → Nat) {c n : Nat} (hc0 : 0 < c)
    (hc : c < MAXIMUM_CAPACITY / 2) (hn : n ≤ c) :
    (withCapacity hash c).table ≠ none ∧
    (withCapacity hash c).count + (n : Int) < (withCapacity hash c).sizeCtl ∧
    tableLen (withCapacity hash c) = presizeCap c ∧ (withCapacity hash c).resizes = 0 := by
  have hc0' : ¬ (c == 0) = true := by simp only [beq_iff_eq]; omega
  refine ⟨by rw [withCapacity, if_neg hc0']; exact nofun, ?_,
    by rw [withCapacity_tableLen, if_neg (by omega)], by rw [withCapacity, if_neg hc0']⟩
  rw [withCapacity_count, withCapacity, if_neg hc0']
  show (0 : Int) + n < presizeThreshold (presizeCap c)
  rw [Int.zero_add]
  exact Int.lt_of_le_of_lt (Int.ofNat_le.2 hn) (C14.with_capacity_room c hc)

theorem no_growth_with_room (hash : Nat → Nat) (c : Nat) (hc0 : 0 < c)
    (hc : c < MAXIMUM_CAPACITY / 2) (items : List (Nat × Nat × Nat × Nat)) (hlen : items.length ≤ c)
    (hbins : ∀ pre it post, items = pre ++ it :: post →
      treeifyCond (putBinCount it.1 (putAll pre (withCapacity hash c))) = false) :
    tableLen (putAll items (withCapacity hash c)) = presizeCap c ∧
    (putAll items (withCapacity hash c)).resizes = 0 := by
  obtain ⟨hne, hroom, hl, hr⟩ := withCapacity_room hash hc0 hc hlen
  obtain ⟨h1, h2, _⟩ := putAll_no_growth items (good_withCapacity hash c) hne hroom hbins
  exact ⟨h1.trans hl, h2.trans hr⟩

def BinsBelow (n : Nat) (m : Map) : Prop :=
  ∀ t, m.table = some t → ∀ i, (tableBin t i).nodes.length < n

/-- no bin with `TREEIFY_THRESHOLD` (8) nodes: no treeify test fires (the bin count `put` computes
is at most the number of nodes in a list bin, `0` for an empty and `2` for a tree bin) -/
theorem treeifyCond_false_of_binsBelow {k : Nat} {m : Map} (hg : Good m) (hne : m.table ≠ none)
    (hb : BinsBelow TREEIFY_THRESHOLD m) : treeifyCond (putBinCount k m) = false := by
  cases ht : m.table with
  | none => exact absurd ht hne
  | some t =>
    have h2 := hb t ht (bini (m.hash k) t.length)
    rw [putBinCount, initTable_of_wf_some hg.wf ht, ht]
    dsimp only
    cases hbin : tableBin t (bini (m.hash k) t.length) with
    | empty => rfl
    | tree _ _ => rfl
    | list ns =>
      rw [hbin] at h2
      have h1 := listBinCount_le (m.hash k) k ns 0
      rw [Nat.zero_add] at h1
      exact decide_eq_false (Nat.not_le.2 (Nat.lt_of_le_of_lt h1 h2))

/-- `putAll_no_growth` when no bin ever holds `TREEIFY_THRESHOLD` nodes -/
theorem putAll_no_growth_bins (items : List (Nat × Nat × Nat × Nat)) {m : Map} (hg : Good m)
    (hne : m.table ≠ none) (hroom : m.count + items.length < m.sizeCtl)
    (hbins : ∀ pre it post, items = pre ++ it :: post → BinsBelow TREEIFY_THRESHOLD (putAll pre m)) :
    tableLen (putAll items m) = tableLen m ∧ (putAll items m).resizes = m.resizes ∧
    (putAll items m).sizeCtl = m.sizeCtl :=
  putAll_no_growth items hg hne hroom fun pre it post he =>
    treeifyCond_false_of_binsBelow (putAll_good pre hg)
      ((putAll_spec pre hg).1.table_ne_none hg hne) (hbins pre it post he)

/-- after `reserve(a)` (`len + a < 2^29`) the table exists and the
growth threshold is strictly above `count + a`. (`try_presize` stops with the rounded request
within the threshold — `C14.reserve_room` — or with the table at its maximum length `2^30`, whose
threshold `3 * 2^28` is above `2^29`: no hypothesis on the table length is needed.) -/
theorem reserve_threshold_room (a : Nat) {m : Map} (hg : Good m)
    (hs : len m + a < MAXIMUM_CAPACITY / 2) :
    (reserve a m).table ≠ none ∧
    (reserve a m).count + (a : Int) < (reserve a m).sizeCtl := by
  obtain ⟨w, _, hc, t', ht', -⟩ := tryPresize_spec (len m + a) hg.wf hg.initOk
  refine ⟨(fun h => nomatch ht'.symm.trans h), ?_⟩
  show (tryPresize (len m + a) m).count + (a : Int) < (tryPresize (len m + a) m).sizeCtl
  have hcnt : ((len m : Nat) : Int) = m.count := by
    rw [len, if_neg (Int.not_lt.2 hg.wf.count_nonneg)]; exact Int.toNat_of_nonneg hg.wf.count_nonneg
  rw [hc, ← hcnt, ← Int.natCast_add]
  rcases tryPresize_room (len m + a) hg.wf hg.initOk hs with h | h
  · exact h
  · rw [(w.preWF ht').sc, ← tableLen_of_some ht', h]
    exact Int.lt_trans (Int.ofNat_lt.2 hs) (by decide)

theorem no_growth_after_reserve {m : Map} (hg : Good m) (a : Nat)
    (hs : len m + a < MAXIMUM_CAPACITY / 2)
    (items : List (Nat × Nat × Nat × Nat)) (hlen : items.length ≤ a)
    (hbins : ∀ pre it post, items = pre ++ it :: post →
      treeifyCond (putBinCount it.1 (putAll pre (reserve a m))) = false) :
    tableLen (putAll items (reserve a m)) = tableLen (reserve a m) ∧
    (putAll items (reserve a m)).resizes = (reserve a m).resizes := by
  obtain ⟨hne, hroom⟩ := reserve_threshold_room a hg hs
  have hroom' := Int.lt_of_le_of_lt (Int.add_le_add_left (Int.ofNat_le.2 hlen) _) hroom
  obtain ⟨h1, h2, _⟩ := putAll_no_growth items (reserve_good a hg) hne hroom' hbins
  exact ⟨h1, h2⟩

end Flurry.Seq
