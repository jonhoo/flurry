import Flurry.Lemmas.BinNInvAux
import Flurry.Lemmas.BinNHMGInv
/-! # Proto/BinN: the ghost invariant (trace `A`, points `pt`, hindsight justification of every reader)

`Lemmas/BinNHMGInv.lean`'s invariant at the ghost `BinNHM.toM G`. -/
namespace Flurry.Proto.BinN
open Flurry.Lin
open Flurry.Proto.BinX (Pending)
open BinNHM (toM)

structure GInv (k : Nat) (s : State) (G : Ghost) (A : Nat → KSt) (pt : Nat → Nat) : Prop where
  core : GCore k s A pt
  readers : ∀ (t : Nat) (l : Local) (p : Pending) (cur : Option Nat), s.threads[t]? = some l →
    l.call = some p → p.key = k → l.pc = .rNode cur → Good G A k p.inv s cur

theorem ginv_toM {k : Nat} {s : State} {G : Ghost} {A : Nat → KSt} {pt : Nat → Nat} :
    BinNHM.GInv k s (toM G) A pt ↔ GInv k s G A pt :=
  ⟨fun g => ⟨g.core, fun t l p cur h1 h2 h3 h4 => good_toM.1 (g.readers t l p cur h1 h2 h3 h4)⟩,
    fun g => ⟨g.core, fun t l p cur h1 h2 h3 h4 => good_toM.2 (g.readers t l p cur h1 h2 h3 h4)⟩⟩

theorem carries_toM {k : Nat} {s s' : State} {G G' : Ghost} {A A' : Nat → KSt} :
    BinNHM.Carries k s s' (toM G) (toM G') A A' ↔ Carries k s s' G G' A A' :=
  ⟨fun h inv cur hi hg => good_toM.1 (h inv cur hi (good_toM.2 hg)),
    fun h inv cur hi hg => good_toM.2 (h inv cur hi (good_toM.1 hg))⟩

end Flurry.Proto.BinN
