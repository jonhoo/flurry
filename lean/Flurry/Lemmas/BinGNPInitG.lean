import Flurry.Lemmas.BinGNPInit
import Flurry.Lemmas.BinGNPGhostL
/-! # Proto/BinGN: the ghost invariant holds initially -/
namespace Flurry.Proto.BinGNP
open Flurry.Lin
open Flurry.Proto.BinK (nodeAt binAt absL absL_eq_none_iff chainOf_none)

theorem init_LC (n k : Nat) : LC (init n) k = [] := by
  have hc : ∀ g, cellOf (init n) g k = .empty := fun g => by rw [cellOf_eq]; exact init_cellAt n _
  have : liveCell (init n) k = .empty := by
    show liveFrom (init n) k 1 0 = .empty
    unfold liveFrom
    rw [hc 0]
  unfold LC; rw [this]; exact chainOf_none _

theorem init_ginv (n k : Nat) : GInv k (init n) (fun _ => none) id := by
  have ha : absOf (init n) k = none := by
    rw [absOf_eq, absL_eq_none_iff]
    intro i hi
    rw [init_LC] at hi; cases hi
  have tr : GhostView.Trace Lin.sig (GhostView.callsOnExt Lin.sig view (init n).hist (init n).threads k (init n).now)
      (init n).now none (fun _ => none) id :=
    GhostView.Trace.init k (fun l hl => by
      obtain ⟨t, hl⟩ := List.mem_iff_getElem?.1 hl; cases init_threads hl; rfl)
  rw [← callsOnExt_eq] at tr
  refine ⟨rfl, ha.symm, tr.calls, tr.stab, tr.inj, ?_⟩
  intro t l p hl hc
  cases init_threads hl
  cases hc

end Flurry.Proto.BinGNP
