import Flurry.Lemmas.SharedBasic
/-! # The split of a list bin with the re-used last run, over any node type

`transfer` splits the list of a bin by one bit of the keys: the last run (the longest suffix of nodes with the same
bit) is re-used as the tail of its side's new list; every node before it is copied and prepended to its side's list.
`splitG S bit heap O` is that loop over a heap of nodes of any type `ν`, read through `S : NodeSig ν` (key, value and
`next` of a node, the fresh copy of a node); the models' `splitBin` / `splitBinB` are `splitG` at their node type by
unfolding. `lastRunStartG` and `runBitOf` are the search for `last_run` / `run_bit` at the head of that loop. They and
`splitStep` read a node as `heap.getD i S.dflt`, the way the models' definitions do, so that a model's `splitBinB` is
`splitG` by `rfl` (`splitBinB_eqG`); the lemmas speak of `nodeAt S heap i`, which unfolds to it.

`splitG_spec`: the new heap extends the old one by fresh copies each of which points to a node of smaller index
(`FreshDown`: whatever a model's `NextOK` says, it follows from this), and the two heads are the heads of chains `L`,
`H` that satisfy `SideSpec` for their sides. `SideSpec` speaks of the order of the old chain `O` itself
(`List.Sublist [i, r] O`: `i` before `r`), not of heap indices or ranks, so it needs no assumption on how `O` lies in
the heap beyond being a chain without repetition and with distinct keys.

For a new node type the interface is `NodeSig`, `splitG_spec`, `FreshDown` and `SideSpec`. The invariant of the copy loop
(`CopiesOK`, `HeapOK`, `SplitInv`) is private to the proof of `splitG_spec`. -/
namespace Flurry.ListSplit
open Flurry.Shared (Seg)

/-- how the split reads and makes a node. `LHeap.Sig` (`Lemmas/ListHeap.lean`) reads key, value and `next` of the same
node types for the abstract state; the split also needs the fresh copy and reads neither `tr` nor `lv`, so the two
are separate (`BinK.sig` is the one, `BinGNP.sig` the other, over the same `NodeS`). -/
structure NodeSig (ν : Type) where
  key : ν → Nat
  val : ν → Nat × Nat
  next : ν → Option Nat
  /-- the fresh (unlocked, list) node with this key, value and successor -/
  copy : Nat → Nat × Nat → Option Nat → ν
  dflt : ν
  key_copy : ∀ k v nx, key (copy k v nx) = k
  val_copy : ∀ k v nx, val (copy k v nx) = v
  next_copy : ∀ k v nx, next (copy k v nx) = nx

variable {ν : Type} (S : NodeSig ν)

def nodeAt (heap : List ν) (i : Nat) : ν := heap.getD i S.dflt

def bitOf (bit : Nat → Bool) (heap : List ν) (i : Nat) : Bool := bit (S.key (nodeAt S heap i))

/-- the start of the last run of a chain: the longest suffix whose nodes all have the split bit of the last node -/
def lastRunStartG (bit : Nat → Bool) (heap : List ν) (c : List Nat) : Nat :=
  let bits := c.map fun i => bit (S.key (heap.getD i S.dflt))
  match bits.getLast? with
  | none => 0
  | some b => c.length - (bits.reverse.takeWhile (· == b)).length

def splitStep (bit : Nat → Bool) (acc : List ν × Option Nat × Option Nat) (i : Nat) : List ν × Option Nat × Option Nat :=
  if bit (S.key (acc.1.getD i S.dflt)) then
    (acc.1 ++ [S.copy (S.key (acc.1.getD i S.dflt)) (S.val (acc.1.getD i S.dflt)) acc.2.2], acc.2.1, some acc.1.length)
  else
    (acc.1 ++ [S.copy (S.key (acc.1.getD i S.dflt)) (S.val (acc.1.getD i S.dflt)) acc.2.1], some acc.1.length, acc.2.2)

/-- the split bit of a run (of its head) -/
def runBitOf (bit : Nat → Bool) (heap : List ν) (run : List Nat) : Bool :=
  match run.head? with
  | some i => bit (S.key (heap.getD i S.dflt))
  | none => false

/-- new heap, head of the low list, head of the high list -/
def splitG (bit : Nat → Bool) (heap : List ν) (c : List Nat) : List ν × Option Nat × Option Nat :=
  (c.take (lastRunStartG S bit heap c)).foldl (splitStep S bit)
    (heap,
     (if runBitOf S bit heap (c.drop (lastRunStartG S bit heap c)) then none
      else (c.drop (lastRunStartG S bit heap c)).head?),
     (if runBitOf S bit heap (c.drop (lastRunStartG S bit heap c)) then (c.drop (lastRunStartG S bit heap c)).head?
      else none))

/-- the new list `X` of side `b` (a chain in the new heap `hp`, which extends the old heap `heap`) relative to the
old chain `O` -/
structure SideSpec (bit : Nat → Bool) (heap hp : List ν) (O : List Nat) (b : Bool) (X : List Nat) : Prop where
  side : ∀ j ∈ X, bit (S.key (nodeAt S hp j)) = b
  keys : ∀ i j, i ∈ X → j ∈ X → S.key (nodeAt S hp i) = S.key (nodeAt S hp j) → i = j
  /-- a node of the new list is a re-used old node or a fresh one -/
  mem : ∀ j ∈ X, j ∈ O ∨ heap.length ≤ j
  /-- a fresh node has the key and value of an old node that lies before every re-used node of `X` -/
  src : ∀ j ∈ X, heap.length ≤ j → ∃ i ∈ O, S.key (nodeAt S heap i) = S.key (nodeAt S hp j) ∧
    S.val (nodeAt S heap i) = S.val (nodeAt S hp j) ∧ ∀ r ∈ O, r ∈ X → List.Sublist [i, r] O
  /-- every old node of side `b` is re-used or has a copy in `X` -/
  cover : ∀ i ∈ O, bit (S.key (nodeAt S heap i)) = b → ∃ j ∈ X, S.key (nodeAt S hp j) = S.key (nodeAt S heap i) ∧
    S.val (nodeAt S hp j) = S.val (nodeAt S heap i) ∧ (j = i ∨ heap.length ≤ j)
  /-- the re-used nodes are a suffix of the old chain -/
  suffix : ∀ r ∈ O, r ∈ X → ∀ i ∈ O, List.Sublist [r, i] O → i ∈ X
  /-- the re-used nodes keep their order -/
  order : ∀ i c, i ∈ O → c ∈ O → List.Sublist [i, c] X → List.Sublist [i, c] O

/-- the nodes `ext` appended behind `n` old ones are fresh copies, each pointing to a node of smaller index -/
def FreshDown (n : Nat) (ext : List ν) : Prop :=
  ∀ (j : Nat) (hj : j < ext.length), ∃ k v nx, ext[j] = S.copy k v nx ∧ ∀ x, nx = some x → x < n + j

variable {S} {bit : Nat → Bool}

theorem mem_takeWhile_imp {α : Type} {p : α → Bool} : ∀ {l : List α} {x : α}, x ∈ l.takeWhile p → p x = true
  | [], _, h => by cases h
  | a :: l, x, h => by
    rw [List.takeWhile_cons] at h
    split at h
    · rcases List.mem_cons.1 h with rfl | h
      · assumption
      · exact mem_takeWhile_imp h
    · cases h

/-- the elements behind the start of the last `p`-run all satisfy `p` -/
theorem mem_drop_lastRun {α : Type} (p : α → Bool) (l : List α) :
    ∀ x ∈ l.drop (l.length - (l.reverse.takeWhile p).length), p x = true := by
  intro x hx
  -- the `takeWhile` is a prefix of `l.reverse`, i.e. the reverse of a `drop` of `l`
  have h := List.prefix_iff_eq_take.1 (List.takeWhile_prefix p (l := l.reverse))
  rw [List.take_reverse] at h
  exact mem_takeWhile_imp (l := l.reverse) (by rw [h]; exact List.mem_reverse.2 hx)

theorem pair_sublist_pre_run {pre run : List Nat} {i r : Nat} (hi : i ∈ pre) (hr : r ∈ run) :
    List.Sublist [i, r] (pre ++ run) :=
  List.Sublist.append (List.singleton_sublist.2 hi) (List.singleton_sublist.2 hr)

theorem not_sublist_run_pre {pre run : List Nat} (hnd : (pre ++ run).Nodup) {i r : Nat} (hi : i ∈ pre)
    (hr : r ∈ run) : ¬ List.Sublist [r, i] (pre ++ run) := by
  intro h
  obtain ⟨a1, a2, he, h1, h2⟩ := List.sublist_append_iff.1 h
  have hdisj := (List.nodup_append.1 hnd).2.2
  cases a1 with
  | nil =>
    rw [List.nil_append] at he; subst he
    exact hdisj i hi i (h2.subset (by simp)) rfl
  | cons x a1' =>
    rw [List.cons_append] at he
    obtain ⟨rfl, -⟩ := List.cons.inj he
    exact hdisj r (h1.subset List.mem_cons_self) r hr rfl

theorem pair_sublist_append_right {C R : List Nat} {i c : Nat} (hi : i ∉ C)
    (h : List.Sublist [i, c] (C ++ R)) : List.Sublist [i, c] R := by
  obtain ⟨a1, a2, he, h1, h2⟩ := List.sublist_append_iff.1 h
  cases a1 with
  | nil =>
    simp only [List.nil_append] at he
    subst he
    exact h2
  | cons x a1' =>
    simp only [List.cons_append, List.cons.injEq] at he
    obtain ⟨rfl, -⟩ := he
    exact absurd (h1.subset (by simp)) hi

theorem nodeAt_append_left {heap : List ν} (l : List ν) {j : Nat} (hj : j < heap.length) :
    nodeAt S (heap ++ l) j = nodeAt S heap j := Shared.getD_append_left l S.dflt hj

theorem nodeAt_append_new (heap : List ν) (n : ν) : nodeAt S (heap ++ [n]) heap.length = n :=
  Shared.getD_append_new heap n S.dflt

theorem nodeAt_snoc (hp : List ν) (n : ν) {x : Nat} (hx : x < (hp ++ [n]).length) :
    (x < hp.length ∧ nodeAt S (hp ++ [n]) x = nodeAt S hp x) ∨ (x = hp.length ∧ nodeAt S (hp ++ [n]) x = n) := by
  by_cases h : x < hp.length
  · exact Or.inl ⟨h, nodeAt_append_left [n] h⟩
  · have : x = hp.length := by
      rw [List.length_append, List.length_singleton] at hx
      exact Nat.le_antisymm (Nat.le_of_lt_succ hx) (Nat.le_of_not_lt h)
    exact Or.inr ⟨this, this ▸ nodeAt_append_new hp n⟩

theorem FreshDown.snoc {n : Nat} {ext : List ν} (h : FreshDown S n ext) (k : Nat) (v : Nat × Nat) {nx : Option Nat}
    (hnx : ∀ x, nx = some x → x < n + ext.length) : FreshDown S n (ext ++ [S.copy k v nx]) := by
  intro j hj
  by_cases hlt : j < ext.length
  · rw [List.getElem_append_left hlt]; exact h j hlt
  · have : j = ext.length := by
      rw [List.length_append, List.length_singleton] at hj
      exact Nat.le_antisymm (Nat.le_of_lt_succ hj) (Nat.le_of_not_lt hlt)
    subst this
    exact ⟨k, v, nx, by simp, hnx⟩

theorem lastRunStartG_le (S : NodeSig ν) (bit : Nat → Bool) (heap : List ν) (c : List Nat) :
    lastRunStartG S bit heap c ≤ c.length := by
  unfold lastRunStartG
  dsimp only
  split
  · exact Nat.zero_le _
  · exact Nat.sub_le _ _

theorem lastRunStartG_bits (S : NodeSig ν) (bit : Nat → Bool) (heap : List ν) (c : List Nat) :
    ∃ b, ∀ i ∈ c.drop (lastRunStartG S bit heap c), bitOf S bit heap i = b := by
  unfold lastRunStartG
  dsimp only
  split
  · rename_i hnone
    have : c = [] := by simpa using hnone
    subst this
    exact ⟨false, by intro i hi; cases hi⟩
  · rename_i b hb
    refine ⟨b, ?_⟩
    have hlen : ((c.map fun i => bit (S.key (heap.getD i S.dflt))).reverse.takeWhile (· == b)).length =
        (c.reverse.takeWhile (fun i => bitOf S bit heap i == b)).length := by
      rw [← List.map_reverse, List.takeWhile_map, List.length_map]
      rfl
    rw [hlen]
    intro i hi
    have := mem_drop_lastRun (fun i => bitOf S bit heap i == b) c i hi
    simpa using this

theorem runBitOf_spec {heap : List ν} {run : List Nat} {b : Bool} (h : ∀ i ∈ run, bitOf S bit heap i = b) :
    ∀ i ∈ run, bitOf S bit heap i = runBitOf S bit heap run := by
  cases run with
  | nil => intro i hi; cases hi
  | cons a run =>
    intro i hi
    have : runBitOf S bit heap (a :: run) = bitOf S bit heap a := rfl
    rw [this, h i hi, h a List.mem_cons_self]

/-- the copies on the new list of side `b`, after the nodes `P` have been processed -/
private structure CopiesOK (S : NodeSig ν) (bit : Nat → Bool) (heap hp : List ν) (P : List Nat) (b : Bool) (C : List Nat) :
    Prop where
  copy : ∀ x ∈ C, heap.length ≤ x ∧ x < hp.length
  side : ∀ x ∈ C, bitOf S bit hp x = b
  cover : ∀ i ∈ P, bitOf S bit heap i = b → ∃ x ∈ C, S.key (nodeAt S hp x) = S.key (nodeAt S heap i) ∧
    S.val (nodeAt S hp x) = S.val (nodeAt S heap i)

private theorem CopiesOK.grow {heap hp : List ν} {P : List Nat} {b : Bool} {C : List Nat}
    (h : CopiesOK S bit heap hp P b C) (ext : List ν) : CopiesOK S bit heap (hp ++ ext) P b C where
  copy x hx := ⟨(h.copy x hx).1, by rw [List.length_append]; exact Nat.lt_add_right _ (h.copy x hx).2⟩
  side x hx := by
    unfold bitOf
    rw [nodeAt_append_left ext (h.copy x hx).2]
    exact h.side x hx
  cover i hi hb := by
    obtain ⟨x, hx, h1, h2⟩ := h.cover i hi hb
    refine ⟨x, hx, ?_⟩
    rw [nodeAt_append_left ext (h.copy x hx).2]
    exact ⟨h1, h2⟩

private theorem CopiesOK.addOther {heap hp : List ν} {P : List Nat} {b : Bool} {C : List Nat}
    (h : CopiesOK S bit heap hp P b C) {i : Nat} (hb : bitOf S bit heap i ≠ b) :
    CopiesOK S bit heap hp (P ++ [i]) b C where
  copy := h.copy
  side := h.side
  cover i' hi' hb' := by
    rcases List.mem_append.1 hi' with hi' | hi'
    · exact h.cover i' hi' hb'
    · rw [List.mem_singleton] at hi'
      subst hi'
      exact absurd hb' hb

private theorem CopiesOK.addSame {heap hp : List ν} {P : List Nat} {b : Bool} {C : List Nat}
    (h : CopiesOK S bit heap hp P b C) {i x : Nat} (hx1 : heap.length ≤ x) (hx2 : x < hp.length)
    (hs : bitOf S bit hp x = b) (hk : S.key (nodeAt S hp x) = S.key (nodeAt S heap i))
    (hv : S.val (nodeAt S hp x) = S.val (nodeAt S heap i)) : CopiesOK S bit heap hp (P ++ [i]) b (x :: C) where
  copy y hy := by
    rcases List.mem_cons.1 hy with rfl | hy
    · exact ⟨hx1, hx2⟩
    · exact h.copy y hy
  side y hy := by
    rcases List.mem_cons.1 hy with rfl | hy
    · exact hs
    · exact h.side y hy
  cover i' hi' hb' := by
    rcases List.mem_append.1 hi' with hi' | hi'
    · obtain ⟨y, hy, h1⟩ := h.cover i' hi' hb'
      exact ⟨y, List.mem_cons_of_mem _ hy, h1⟩
    · rw [List.mem_singleton] at hi'
      subst hi'
      exact ⟨x, List.mem_cons_self, hk, hv⟩

/-- the grown heap after the nodes `P` have been copied -/
private structure HeapOK (S : NodeSig ν) (heap : List ν) (P : List Nat) (hp : List ν) : Prop where
  ext : ∃ cs, hp = heap ++ cs ∧ FreshDown S heap.length cs
  src : ∀ x, heap.length ≤ x → x < hp.length → ∃ i ∈ P, S.key (nodeAt S hp x) = S.key (nodeAt S heap i) ∧
    S.val (nodeAt S hp x) = S.val (nodeAt S heap i)
  inj : ∀ x y, heap.length ≤ x → x < hp.length → heap.length ≤ y → y < hp.length →
    S.key (nodeAt S hp x) = S.key (nodeAt S hp y) → x = y

private theorem HeapOK.le {heap : List ν} {P : List Nat} {hp : List ν} (h : HeapOK S heap P hp) :
    heap.length ≤ hp.length := by
  obtain ⟨cs, rfl, -⟩ := h.ext
  rw [List.length_append]; omega

private theorem HeapOK.old {heap : List ν} {P : List Nat} {hp : List ν} (h : HeapOK S heap P hp) {x : Nat}
    (hx : x < heap.length) : nodeAt S hp x = nodeAt S heap x := by
  obtain ⟨cs, rfl, -⟩ := h.ext
  exact nodeAt_append_left cs hx

/-- one more copy: of the old node `i`, whose key none of the nodes copied so far has -/
private theorem HeapOK.step {heap : List ν} {P : List Nat} {hp : List ν} (h : HeapOK S heap P hp) {i : Nat}
    (hfresh : ∀ j ∈ P, S.key (nodeAt S heap j) ≠ S.key (nodeAt S heap i)) {nx : Option Nat}
    (hnx : ∀ j, nx = some j → j < hp.length) :
    HeapOK S heap (P ++ [i]) (hp ++ [S.copy (S.key (nodeAt S heap i)) (S.val (nodeAt S heap i)) nx]) := by
  have hne : ∀ x, heap.length ≤ x → x < hp.length → S.key (nodeAt S hp x) ≠ S.key (nodeAt S heap i) := by
    intro x hx1 hx2 he
    obtain ⟨i', hi', h1, -⟩ := h.src x hx1 hx2
    exact hfresh i' hi' (by rw [← h1, he])
  refine ⟨?_, ?_, ?_⟩
  · obtain ⟨cs, hcs, hdown⟩ := h.ext
    refine ⟨cs ++ [_], by rw [hcs, List.append_assoc], hdown.snoc _ _ ?_⟩
    intro x hx
    have := hnx x hx
    rwa [hcs, List.length_append] at this
  · intro x hx1 hx2
    rcases nodeAt_snoc hp _ hx2 with ⟨hx, e⟩ | ⟨-, e⟩
    · obtain ⟨i', hi', h1⟩ := h.src x hx1 hx
      exact ⟨i', List.mem_append_left _ hi', by rw [e]; exact h1⟩
    · exact ⟨i, List.mem_append_right _ List.mem_cons_self, by rw [e, S.key_copy, S.val_copy]; exact ⟨rfl, rfl⟩⟩
  · intro x y hx1 hx2 hy1 hy2 hxy
    rcases nodeAt_snoc hp _ hx2 with ⟨hx, ex⟩ | ⟨hx, ex⟩ <;> rcases nodeAt_snoc hp _ hy2 with ⟨hy, ey⟩ | ⟨hy, ey⟩ <;>
      rw [ex, ey] at hxy
    · exact h.inj x y hx1 hx hy1 hy hxy
    · rw [S.key_copy] at hxy; exact absurd hxy (hne x hx1 hx)
    · rw [S.key_copy] at hxy; exact absurd hxy.symm (hne y hy1 hy)
    · rw [hx, hy]

/-- the invariant of the copy loop: `P` are the nodes processed so far, `lr` / `hr` the re-used parts -/
private structure SplitInv (S : NodeSig ν) (bit : Nat → Bool) (heap : List ν) (lr hr : List Nat) (P : List Nat)
    (acc : List ν × Option Nat × Option Nat) : Prop where
  heapOK : HeapOK S heap P acc.1
  chains : ∃ LC HC, Seg S.next acc.1 acc.2.1 (LC ++ lr) none ∧ Seg S.next acc.1 acc.2.2 (HC ++ hr) none ∧
    CopiesOK S bit heap acc.1 P false LC ∧ CopiesOK S bit heap acc.1 P true HC

private theorem splitInv_step {heap : List ν} {lr hr P : List Nat} {acc : List ν × Option Nat × Option Nat}
    (h : SplitInv S bit heap lr hr P acc) {i : Nat} (hi : i < heap.length)
    (hfresh : ∀ j ∈ P, S.key (nodeAt S heap j) ≠ S.key (nodeAt S heap i)) :
    SplitInv S bit heap lr hr (P ++ [i]) (splitStep S bit acc i) := by
  obtain ⟨hp, lo, hg⟩ := acc
  obtain ⟨hH, LC, HC, hL, hHc, hLC, hHC⟩ := h
  dsimp only at hH hL hHc hLC hHC
  have hget : hp.getD i S.dflt = nodeAt S heap i := hH.old hi
  have hle := hH.le
  have hnew : ∀ n, nodeAt S (hp ++ [n]) hp.length = n := nodeAt_append_new hp
  have hnewE : ∀ n : ν, (hp ++ [n])[hp.length]? = some n := by intro n; simp
  have hlen : ∀ n : ν, hp.length < (hp ++ [n]).length := by intro n; simp
  unfold splitStep
  dsimp only
  rw [hget]
  by_cases hb : bit (S.key (nodeAt S heap i)) = true
  · rw [if_pos hb]
    refine ⟨hH.step hfresh hHc.start_lt, LC, hp.length :: HC, hL.append_heap _, ?_, ?_, ?_⟩
    · exact .cons (hnewE _) (by rw [S.next_copy]; exact hHc.append_heap _)
    · refine (hLC.grow _).addOther ?_
      unfold bitOf; rw [hb]; decide
    · refine (hHC.grow _).addSame hle (hlen _) ?_ ?_ ?_
      · unfold bitOf; rw [hnew, S.key_copy]; exact hb
      · rw [hnew, S.key_copy]
      · rw [hnew, S.val_copy]
  · rw [if_neg hb]
    refine ⟨hH.step hfresh hL.start_lt, hp.length :: LC, HC, ?_, hHc.append_heap _, ?_, ?_⟩
    · exact .cons (hnewE _) (by rw [S.next_copy]; exact hL.append_heap _)
    · refine (hLC.grow _).addSame hle (hlen _) ?_ ?_ ?_
      · unfold bitOf; rw [hnew, S.key_copy]; simpa using hb
      · rw [hnew, S.key_copy]
      · rw [hnew, S.val_copy]
    · refine (hHC.grow _).addOther ?_
      unfold bitOf; simpa using hb

private theorem splitInv_fold {heap : List ν} {lr hr : List Nat} :
    ∀ (Q P : List Nat) (acc : List ν × Option Nat × Option Nat), SplitInv S bit heap lr hr P acc →
      (∀ i ∈ Q, i < heap.length) →
      (P ++ Q).Pairwise (fun a b => S.key (nodeAt S heap a) ≠ S.key (nodeAt S heap b)) →
      SplitInv S bit heap lr hr (P ++ Q) (Q.foldl (splitStep S bit) acc)
  | [], P, acc, h, _, _ => by
    rw [List.append_nil]; exact h
  | i :: Q, P, acc, h, hlt, hpw => by
    have h1 := splitInv_step h (hlt i List.mem_cons_self)
      (fun j hj => (List.pairwise_append.1 hpw).2.2 j hj i List.mem_cons_self)
    rw [List.append_cons] at hpw ⊢
    exact splitInv_fold Q (P ++ [i]) _ h1 (fun j hj => hlt j (List.mem_cons_of_mem _ hj)) hpw

private theorem splitInv_init {heap : List ν} {run : List Nat} (hrun : Seg S.next heap run.head? run none) (rb : Bool) :
    SplitInv S bit heap (if rb then [] else run) (if rb then run else []) []
      (heap, (if rb then none else run.head?), (if rb then run.head? else none)) := by
  have hno : ∀ b, CopiesOK S bit heap heap [] b [] := fun b =>
    ⟨(fun _ hx => nomatch hx), (fun _ hx => nomatch hx), (fun _ hi => nomatch hi)⟩
  refine ⟨⟨⟨[], (List.append_nil heap).symm, fun _ hj => nomatch hj⟩, ?_, ?_⟩, [], [], ?_, ?_, hno _, hno _⟩
  · intro x h1 h2; exact absurd h2 (Nat.not_lt.2 h1)
  · intro x y h1 h2; exact absurd h2 (Nat.not_lt.2 h1)
  · cases rb
    · exact hrun
    · exact .nil _
  · cases rb
    · exact .nil _
    · exact hrun

/-- the facts of the loop invariant give `SideSpec` for the list `C ++ R` (copies, then the re-used
run if it is on this side) -/
private theorem sideSpec_of {heap hp : List ν} {pre run C R : List Nat} {b rb : Bool}
    (hH : HeapOK S heap pre hp) (hC : CopiesOK S bit heap hp pre b C)
    (hlt : ∀ i ∈ pre ++ run, i < heap.length)
    (hnd : (pre ++ run).Nodup)
    (hkeys : ∀ i j, i ∈ pre ++ run → j ∈ pre ++ run → S.key (nodeAt S heap i) = S.key (nodeAt S heap j) → i = j)
    (hrun : ∀ i ∈ run, bitOf S bit heap i = rb) (hR : R = if rb = b then run else []) :
    SideSpec S bit heap hp (pre ++ run) b (C ++ R) := by
  have hR1 : ∀ r ∈ R, r ∈ run ∧ rb = b := by
    intro r hr
    rw [hR] at hr
    split at hr
    · exact ⟨hr, ‹_›⟩
    · cases hr
  have hR2 : rb = b → R = run := fun h => by rw [hR, if_pos h]
  have hdisj : ∀ i ∈ pre, ∀ r ∈ run, i ≠ r := (List.nodup_append.1 hnd).2.2
  have hltr : ∀ i ∈ run, i < heap.length := fun i hi => hlt i (List.mem_append_right _ hi)
  have hCk : ∀ x ∈ C, ∃ i ∈ pre, S.key (nodeAt S hp x) = S.key (nodeAt S heap i) := by
    intro x hx
    obtain ⟨i, hi, h1, -⟩ := hH.src x (hC.copy x hx).1 (hC.copy x hx).2
    exact ⟨i, hi, h1⟩
  have hRk : ∀ x ∈ R, x ∈ run ∧ nodeAt S hp x = nodeAt S heap x := by
    intro x hx
    exact ⟨(hR1 x hx).1, hH.old (hltr x (hR1 x hx).1)⟩
  have hOC : ∀ r ∈ pre ++ run, r ∉ C := fun r hr hrC => Nat.not_lt.2 (hC.copy r hrC).1 (hlt r hr)
  have hOX : ∀ r ∈ pre ++ run, r ∈ C ++ R → r ∈ run ∧ rb = b := by
    intro r hr hrX
    rcases List.mem_append.1 hrX with hrC | hrR
    · exact absurd hrC (hOC r hr)
    · exact hR1 r hrR
  have hCR : ∀ x ∈ C, ∀ y ∈ R, S.key (nodeAt S hp x) ≠ S.key (nodeAt S hp y) := by
    intro x hx y hy he
    obtain ⟨i, hi, hik⟩ := hCk x hx
    obtain ⟨hyr, hyn⟩ := hRk y hy
    rw [hik, hyn] at he
    have := hkeys i y (List.mem_append_left _ hi) (List.mem_append_right _ hyr) he
    exact hdisj i hi y hyr this
  refine ⟨?_, ?_, ?_, ?_, ?_, ?_, ?_⟩
  · intro x hx
    rcases List.mem_append.1 hx with hx | hx
    · exact hC.side x hx
    · obtain ⟨hxr, hxn⟩ := hRk x hx
      rw [hxn]
      exact (hrun x hxr).trans (hR1 x hx).2
  · intro x y hx hy hxy
    rcases List.mem_append.1 hx with hx | hx
    · rcases List.mem_append.1 hy with hy | hy
      · exact hH.inj x y (hC.copy x hx).1 (hC.copy x hx).2 (hC.copy y hy).1 (hC.copy y hy).2 hxy
      · exact absurd hxy (hCR x hx y hy)
    · rcases List.mem_append.1 hy with hy | hy
      · exact absurd hxy.symm (hCR y hy x hx)
      · obtain ⟨hxr, hxn⟩ := hRk x hx
        obtain ⟨hyr, hyn⟩ := hRk y hy
        rw [hxn, hyn] at hxy
        exact hkeys x y (List.mem_append_right _ hxr) (List.mem_append_right _ hyr) hxy
  · intro x hx
    rcases List.mem_append.1 hx with hx | hx
    · exact Or.inr (hC.copy x hx).1
    · exact Or.inl (List.mem_append_right _ (hR1 x hx).1)
  · intro x hx hcp
    have hxC : x ∈ C := (List.mem_append.1 hx).resolve_right fun hx =>
      Nat.not_lt.2 hcp (hltr x (hR1 x hx).1)
    obtain ⟨i, hi, h1, h2⟩ := hH.src x hcp (hC.copy x hxC).2
    refine ⟨i, List.mem_append_left _ hi, h1.symm, h2.symm, ?_⟩
    intro r hr hrX
    exact pair_sublist_pre_run hi (hOX r hr hrX).1
  · intro i hi hib
    rcases List.mem_append.1 hi with hip | hir
    · obtain ⟨x, hx, h1, h2⟩ := hC.cover i hip hib
      exact ⟨x, List.mem_append_left _ hx, h1, h2, Or.inr (hC.copy x hx).1⟩
    · have hrb : rb = b := (hrun i hir).symm.trans hib
      exact ⟨i, List.mem_append_right _ (by rw [hR2 hrb]; exact hir), by rw [hH.old (hlt i hi)],
        by rw [hH.old (hlt i hi)], Or.inl rfl⟩
  · intro r hr hrX i hi hri
    obtain ⟨hrr, hrb⟩ := hOX r hr hrX
    rcases List.mem_append.1 hi with hip | hir
    · exact absurd hri (not_sublist_run_pre hnd hip hrr)
    · exact List.mem_append_right _ (by rw [hR2 hrb]; exact hir)
  · intro i c hi _ hic
    have h1 := pair_sublist_append_right (hOC i hi) hic
    rw [hR] at h1
    split at h1
    · exact h1.trans (List.sublist_append_right pre run)
    · cases h1

/-- `splitG_spec` with the chain already cut into `pre ++ run` and the bit of the run named `rb`, so that `take` and
`drop` at `lastRunStartG` occur in `splitG_spec` alone -/
theorem splitFold_spec {heap : List ν} {st : Option Nat} {pre run : List Nat} {rb : Bool}
    (hO : Seg S.next heap st (pre ++ run) none) (hnd : (pre ++ run).Nodup)
    (hkeys : ∀ i j, i ∈ pre ++ run → j ∈ pre ++ run → S.key (nodeAt S heap i) = S.key (nodeAt S heap j) → i = j)
    (hrun : ∀ i ∈ run, bitOf S bit heap i = rb)
    {res : List ν × Option Nat × Option Nat}
    (hres : pre.foldl (splitStep S bit) (heap, (if rb then none else run.head?), (if rb then run.head? else none)) = res) :
    ∃ ext L H, res.1 = heap ++ ext ∧ FreshDown S heap.length ext ∧
      Seg S.next (heap ++ ext) res.2.1 L none ∧ Seg S.next (heap ++ ext) res.2.2 H none ∧
      SideSpec S bit heap (heap ++ ext) (pre ++ run) false L ∧ SideSpec S bit heap (heap ++ ext) (pre ++ run) true H := by
  have hlt : ∀ i ∈ pre ++ run, i < heap.length := hO.lt_length
  have hpwk : pre.Pairwise (fun a b => S.key (nodeAt S heap a) ≠ S.key (nodeAt S heap b)) :=
    List.Pairwise.imp_of_mem (fun {a b} ha hb hab he =>
      hab (hkeys a b (List.mem_append_left _ ha) (List.mem_append_left _ hb) he)) (List.nodup_append.1 hnd).1
  obtain ⟨bh, -, hs2⟩ := hO.split
  rw [hs2.head_eq] at hs2
  have hfin := splitInv_fold pre [] _ (splitInv_init (bit := bit) hs2 rb) (fun i hi => hlt i (List.mem_append_left _ hi)) hpwk
  rw [List.nil_append, hres] at hfin
  obtain ⟨hH, LC, HC, hL, hHc, hLC, hHC⟩ := hfin
  obtain ⟨cs, hcs, hdown⟩ := hH.ext
  rw [hcs] at hL hHc hLC hHC hH
  refine ⟨cs, _, _, hcs, hdown, hL, hHc, ?_, ?_⟩
  · exact sideSpec_of hH hLC hlt hnd hkeys hrun (by cases rb <;> rfl)
  · exact sideSpec_of hH hHC hlt hnd hkeys hrun rfl

theorem splitG_spec (S : NodeSig ν) (bit : Nat → Bool) {heap : List ν} {st : Option Nat} {O : List Nat}
    (hO : Seg S.next heap st O none) (hnd : O.Nodup)
    (hkeys : ∀ i j, i ∈ O → j ∈ O → S.key (nodeAt S heap i) = S.key (nodeAt S heap j) → i = j) :
    ∃ ext L H, (splitG S bit heap O).1 = heap ++ ext ∧ FreshDown S heap.length ext ∧
      Seg S.next (heap ++ ext) (splitG S bit heap O).2.1 L none ∧
      Seg S.next (heap ++ ext) (splitG S bit heap O).2.2 H none ∧
      SideSpec S bit heap (heap ++ ext) O false L ∧ SideSpec S bit heap (heap ++ ext) O true H := by
  obtain ⟨b0, hb0⟩ := lastRunStartG_bits S bit heap O
  have hsplit := List.take_append_drop (lastRunStartG S bit heap O) O
  rw [← hsplit] at hO hnd hkeys
  have := splitFold_spec hO hnd hkeys (runBitOf_spec hb0) (rfl : _ = splitG S bit heap O)
  rwa [hsplit] at this

end Flurry.ListSplit
