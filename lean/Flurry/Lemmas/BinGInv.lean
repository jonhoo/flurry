import Flurry.Lemmas.BinGStep
import Flurry.Lemmas.BinGShared
/-! # Proto/BinG: the structural invariant — definitions

The three cells (`Cid`: `c0` / `lo` / `hi`) are treated uniformly: the chain invariant `CInv` of
`Lemmas/BinKBasic.lean` holds for the structure in *every* cell at all times (a forwarded old cell
and a new cell that has not been stored yet have the empty chain). What relates the cells:
* `CopyOK s old sel C`: the structure `C` holds exactly the nodes of the list `O` of `old` whose key
  satisfies `sel`, as re-used nodes (a suffix of `O`, same order) or as copies (same key and value)
  that lie in front of the re-used ones; used for the private `TreeBin` of a treeify (`kStore`,
  `sel = fun _ => true`) and for the two sides of a transfer (`xStoreLow` … `xStoreMoved`,
  `sel = hiBit · == side`); the same relation with heap and table as arguments is `BinGH.CopyOK`
  (`Lemmas/BinGHeapPlan.lean`; `copyOK_iff` in `Lemmas/BinGPlan.lean`), the one over the states of `Proto/BinGN` is
  `BinGNP.CopyOK`, and `BinGS.CopyH` (`Lemmas/BinGShared.lean`) is the part all three share (`CopyOK.toH`);
* `XInv`: the program counter of the resizing thread determines which of the new cells are stored,
  and the stored / planned new cells are `CopyOK` relative to the chain of the old cell.
The rest is `Lemmas/BinKInv.lean` per cell: `TInv` (threads and times), `LInv` (lock words, mutexes,
validated holders see their structure in their cell, read-write lock bits, reader counts), `DInv`
(what the program counters know, list = tree for every `TreeBin` in a cell).

The file defines the invariant `Inv` and its parts. `Inv` of a reachable state is read off the invariant of `Proto/BinGN` on
the image of the state (`Lemmas/BinGLin.lean`); no step of BinG is shown to preserve it. -/
namespace Flurry.Proto.BinG
open Flurry.Lin
open Flurry.Proto.BinK (nodeAt binAt NextOK IsChain IsSeg chainOf CInv absL)

inductive Cid where | c0 | lo | hi
deriving DecidableEq, Repr

def cellAt (s : State) : Cid → Cell
  | .c0 => s.cell0
  | .lo => s.lowCell
  | .hi => s.highCell

def idOf (tab : Tab) (k : Nat) : Cid :=
  match tab with
  | .old => .c0
  | .new => if hiBit k then .hi else .lo

theorem cellOf_eq (s : State) (tab : Tab) (k : Nat) : cellOf s tab k = cellAt s (idOf tab k) := by
  cases tab with
  | old => rfl
  | new => unfold cellOf idOf; dsimp only; split <;> rfl

def sideOf : Cid → Bool
  | .hi => true
  | _ => false

def startOf (tbins : List TBin) : Cell → Option Nat
  | .list h => some h
  | .tree b => (binAt tbins b).first
  | _ => none

/-- the list of a structure -/
def chainC (s : State) (c : Cell) : List Nat := chainOf s.heap (startOf s.tbins c)

theorem chainOfCell_eq (s : State) (c : Cell) : chainOfCell s c = chainC s c := by
  unfold chainOfCell chainC chainOf startOf chainOfBin binAt
  cases c with
  | empty => simp only; rw [Flurry.Proto.BinK.chainFrom_none]
  | list h => rfl
  | tree b => rfl
  | moved => simp only; rw [Flurry.Proto.BinK.chainFrom_none]

theorem chainOfBin_eq (s : State) (b : Nat) : chainOfBin s b = chainC s (.tree b) := rfl

/-- the nodes in the tree of a structure -/
def treeOf (s : State) (c : Cell) (j : Nat) : Prop :=
  j < s.heap.length ∧ (nodeAt s.heap j).inTree = true ∧ ∃ b, c = .tree b ∧ (nodeAt s.heap j).owner = some b

/-- the owner of the nodes of a structure -/
def ownerOf : Cell → Option Nat
  | .tree b => some b
  | _ => none

/-- the cell a lookup of `k` ends in -/
def liveId (s : State) (k : Nat) : Cid := if s.cell0 = .moved then idOf .new k else .c0

/-- the live chain of key `k` -/
def LC (s : State) (k : Nat) : List Nat := chainC s (liveCell s k)

theorem absOf_eq (s : State) (k : Nat) : absOf s k = absL s.heap (LC s k) k := by
  unfold absOf absL LC nodeAt
  rw [chainOfCell_eq]
  cases (chainC s (liveCell s k)).find? (fun i => (s.heap.getD i dflt).key == k) <;> rfl

/-- the structure `C` holds exactly the nodes of the list `O` of the old structure `old` whose key
satisfies `sel`: as re-used nodes (a suffix of `O`, in the same order) or as copies (nodes not on `O`,
same key and value, in front of the re-used ones) -/
structure CopyOK (s : State) (old : Cell) (sel : Nat → Bool) (C : Cell) : Prop where
  notMoved : C ≠ .moved
  cinv : CInv s.heap (startOf s.tbins C) (treeOf s C)
  cellOK : ∀ b, C = .tree b → b < s.tbins.length
  chainOwner : ∀ j ∈ chainC s C, (nodeAt s.heap j).owner = ownerOf C
  selOK : ∀ j, (j ∈ chainC s C ∨ treeOf s C j) → sel (nodeAt s.heap j).key = true
  src : ∀ j ∈ chainC s C, j ∉ chainC s old → ∃ i ∈ chainC s old, (nodeAt s.heap i).key = (nodeAt s.heap j).key ∧
    (nodeAt s.heap i).val = (nodeAt s.heap j).val ∧ ∀ r ∈ chainC s old, r ∈ chainC s C → List.Sublist [i, r] (chainC s old)
  cover : ∀ i ∈ chainC s old, sel (nodeAt s.heap i).key = true → ∃ j ∈ chainC s C,
    (nodeAt s.heap j).key = (nodeAt s.heap i).key ∧ (nodeAt s.heap j).val = (nodeAt s.heap i).val ∧
    (j = i ∨ j ∉ chainC s old)
  suffix : ∀ r ∈ chainC s old, r ∈ chainC s C → ∀ i ∈ chainC s old, List.Sublist [r, i] (chainC s old) → i ∈ chainC s C
  order : ∀ i c, i ∈ chainC s old → c ∈ chainC s old → List.Sublist [i, c] (chainC s C) → List.Sublist [i, c] (chainC s old)
  /-- a `TreeBin` other than the old one is fresh: default synchronisation words, the tree holds
  exactly the nodes of the list, none of which is an old node -/
  fresh : ∀ b, C = .tree b → old ≠ .tree b →
    binAt s.tbins b = { first := (binAt s.tbins b).first } ∧
    (∀ j, j < s.heap.length → ((nodeAt s.heap j).owner = some b ↔ j ∈ chainC s C)) ∧
    (∀ j ∈ chainC s C, (nodeAt s.heap j).inTree = true)

theorem CopyOK.toH {s : State} {old : Cell} {sel : Nat → Bool} {C : Cell} (h : CopyOK s old sel C) :
    Flurry.Proto.BinGS.CopyH s.heap (chainC s old) (chainC s C) (treeOf s C) sel (ownerOf C) :=
  ⟨h.chainOwner, h.selOK, h.src, h.cover, h.suffix, h.order⟩

structure HInv (s : State) : Prop where
  cinv : ∀ id, CInv s.heap (startOf s.tbins (cellAt s id)) (treeOf s (cellAt s id))
  ownerOK : ∀ j b, (nodeAt s.heap j).owner = some b → b < s.tbins.length
  firstOK : ∀ b h, (binAt s.tbins b).first = some h → h < s.heap.length
  cellOK : ∀ id b, cellAt s id = .tree b → b < s.tbins.length
  chainOwner : ∀ id, ∀ j ∈ chainC s (cellAt s id), (nodeAt s.heap j).owner = ownerOf (cellAt s id)
  /-- the nodes of the new cells are on their side -/
  side : ∀ id, id ≠ .c0 → ∀ j, (j ∈ chainC s (cellAt s id) ∨ treeOf s (cellAt s id) j) →
    hiBit (nodeAt s.heap j).key = sideOf id
  curMoved : s.cur = .new → s.cell0 = .moved
  newNotMoved : s.lowCell ≠ .moved ∧ s.highCell ≠ .moved
  /-- the two new cells never hold the same `TreeBin` -/
  binsDistinct : ∀ b, s.lowCell = .tree b → s.highCell ≠ .tree b

theorem HInv.nextOK {s : State} (H : HInv s) : NextOK s.heap := (H.cinv .c0).nextOK

theorem liveCell_eq {s : State} (H : HInv s) (k : Nat) : liveCell s k = cellAt s (liveId s k) := by
  unfold liveCell liveId
  by_cases hm : s.cell0 = .moved
  · rw [if_pos (by simp [hm]), if_pos hm, cellOf_eq]
  · rw [if_neg (by simpa using hm), if_neg hm]
    have : s.cur ≠ .new := fun h => hm (H.curMoved h)
    rw [if_neg (by simpa using this)]
    rfl

def readerPc : Pc → Bool
  | .rTable _ | .rCell _ _ | .rNode _ | .rFirst _ | .rState _ _ | .rLin _ _ | .rCas _ _ _ | .rTree _
  | .rRelease _ _ | .rVal _ | .lFirst _ | .lNode _ => true
  | _ => false

/-- program counters of the treeify thread -/
def kPc : Pc → Bool
  | .kTable _ | .kCell _ _ | .kLock _ _ _ | .kCheck _ _ _ | .kBuild _ _ _ | .kStore _ _ _ _ | .kUnlock _ => true
  | _ => false

/-- program counters of the resizing thread -/
def xPc : Pc → Bool
  | .xCell | .xCasMoved | .xLock _ | .xCheck _ | .xBuild _ | .yMutex _ | .yCheck _ | .yBuild _
  | .xStoreLow _ _ _ | .xStoreHigh _ _ | .xStoreMoved _ | .xUnlock _ | .xCommit => true
  | _ => false

/-- program counters without a call in flight -/
def noCallPc (pc : Pc) : Bool := pc == .idle || kPc pc || xPc pc

def unlL : Nat ⊕ Nat → Option Nat
  | .inl h => some h
  | .inr _ => none

def unlT : Nat ⊕ Nat → Option Nat
  | .inl _ => none
  | .inr b => some b

/-- holds the lock word of node `h` -/
def holdsLock : Pc → Option Nat
  | .wCheck _ h | .wFind _ h _ _ | .wStore _ h _ _ _ | .wUnlock _ h _ _ => some h
  | .kCheck _ _ h | .kBuild _ _ h | .kStore _ _ h _ | .kUnlock h => some h
  | .xCheck h | .xBuild h => some h
  | .xStoreLow unl _ _ | .xStoreHigh unl _ | .xStoreMoved unl | .xUnlock unl => unlL unl
  | _ => none

/-- the table a program counter works in -/
def tabOf : Pc → Option Tab
  | .rCell _ tab | .wCell tab | .wCas tab | .wLock tab _ | .wCheck tab _ | .wFind tab _ _ _
  | .wStore tab _ _ _ _ | .wUnlock tab _ _ _ => some tab
  | .tMutex tab _ | .tCheck tab _ | .tFind tab _ | .tVal tab _ _ _ _ | .lrTry tab _ _ _ | .lrLoop tab _ _ _
  | .tPrependLocked tab _ | .tTreeLinkLocked tab _ _ | .tUnlinkLocked tab _ _ _ | .tRestructure tab _ _ _
  | .tUnlockRoot tab _ _ | .tUntreeify tab _ _ | .tUnlockM tab _ _ _ => some tab
  | .kCell tab _ | .kLock tab _ _ | .kCheck tab _ _ | .kBuild tab _ _ | .kStore tab _ _ _ => some tab
  | _ => none

/-- the key whose cell the thread works in -/
def keyOf (l : Local) : Nat :=
  match l.pc, l.call with
  | .kCell _ k, _ | .kLock _ k _, _ | .kCheck _ k _, _ | .kBuild _ k _, _ | .kStore _ k _ _, _ => k
  | _, some p => p.key
  | _, none => 0

/-- the cell the thread works in -/
def cidOf (l : Local) : Cid :=
  match tabOf l.pc with
  | some tab => idOf tab (keyOf l)
  | none => .c0

/-- past the successful re-check of its cell against `list h`, before its store -/
def validL : Pc → Option Nat
  | .wFind _ h _ _ | .wStore _ h _ _ _ | .kBuild _ _ h | .kStore _ _ h _ => some h
  | .xBuild h => some h
  | .xStoreLow unl _ _ | .xStoreHigh unl _ | .xStoreMoved unl => unlL unl
  | _ => none

/-- holds the mutex of `TreeBin` `b` -/
def holdsMutex : Pc → Option Nat
  | .tCheck _ b | .tFind _ b | .tVal _ b _ _ _ | .lrTry _ b _ _ | .lrLoop _ b _ _ | .tPrependLocked _ b
  | .tTreeLinkLocked _ b _ | .tUnlinkLocked _ b _ _ | .tRestructure _ b _ _ | .tUnlockRoot _ b _
  | .tUntreeify _ b _ | .tUnlockM _ b _ _ => some b
  | .yCheck b | .yBuild b => some b
  | .xStoreLow unl _ _ | .xStoreHigh unl _ | .xStoreMoved unl | .xUnlock unl => unlT unl
  | _ => none

/-- past the successful re-check of its cell against `tree b`, before the untreeify / forwarding store -/
def validT : Pc → Option Nat
  | .tFind _ b | .tVal _ b _ _ _ | .lrTry _ b _ _ | .lrLoop _ b _ _ | .tPrependLocked _ b
  | .tTreeLinkLocked _ b _ | .tUnlinkLocked _ b _ _ | .tRestructure _ b _ _ | .tUnlockRoot _ b _
  | .tUntreeify _ b _ => some b
  | .yBuild b => some b
  | .xStoreLow unl _ _ | .xStoreHigh unl _ | .xStoreMoved unl => unlT unl
  | _ => none

/-- holds the write lock of its `TreeBin` -/
def wr : Pc → Bool
  | .tPrependLocked _ _ | .tTreeLinkLocked _ _ _ | .tUnlinkLocked _ _ _ _ | .tRestructure _ _ _ _
  | .tUnlockRoot _ _ _ | .tUntreeify _ _ _ => true
  | _ => false

def isLoop : Pc → Bool
  | .lrLoop _ _ _ _ => true
  | _ => false

/-- holds a read lock of `TreeBin` `b` -/
def holdsRead : Pc → Option Nat
  | .rTree b | .rRelease b _ => some b
  | _ => none

/-- the `TreeBin` a program counter refers to -/
def binRef : Pc → Option Nat
  | .rFirst b | .rState b _ | .rLin b _ | .rCas b _ _ | .rTree b | .rRelease b _ | .lFirst b | .tMutex _ b => some b
  | .tCheck _ b | .tFind _ b | .tVal _ b _ _ _ | .lrTry _ b _ _ | .lrLoop _ b _ _ | .tPrependLocked _ b
  | .tTreeLinkLocked _ b _ | .tUnlinkLocked _ b _ _ | .tRestructure _ b _ _ | .tUnlockRoot _ b _
  | .tUntreeify _ b _ | .tUnlockM _ b _ _ => some b
  | .yMutex b | .yCheck b | .yBuild b => some b
  | .xStoreLow unl _ _ | .xStoreHigh unl _ | .xStoreMoved unl | .xUnlock unl => unlT unl
  | _ => none

/-- the structures a thread has built (or stored into a cell that is not yet live) but not yet published -/
def pend (s : State) : Pc → List Cell
  | .kStore _ _ _ b => [.tree b]
  | .xStoreLow _ lo hi => [lo, hi]
  | .xStoreHigh _ hi => [s.lowCell, hi]
  | .xStoreMoved _ => [s.lowCell, s.highCell]
  | _ => []

/-- a `TreeBin` that is built but not yet published (the re-used bin of a transfer is in the old cell) -/
def PrivBin (s : State) (b : Nat) : Prop :=
  (∃ (t : Nat) (l : Local), s.threads[t]? = some l ∧ Cell.tree b ∈ pend s l.pc) ∧ s.cell0 ≠ .tree b

/-- private nodes of a treeify: the nodes of its unpublished `TreeBin` -/
def PrivK (s : State) (j : Nat) : Prop :=
  ∃ (t : Nat) (l : Local) (tab : Tab) (k h b : Nat), s.threads[t]? = some l ∧ l.pc = .kStore tab k h b ∧
    (nodeAt s.heap j).owner = some b

/-- private nodes of the transfer: the copies in the new structures that are not yet live -/
def PrivX (s : State) (j : Nat) : Prop :=
  ∃ (t : Nat) (l : Local) (C : Cell), s.threads[t]? = some l ∧ xPc l.pc = true ∧ C ∈ pend s l.pc ∧
    j ∈ chainC s C ∧ j ∉ chainC s s.cell0

/-- nodes that may still be written or linked: on the chain of a cell, or private -/
def Used (s : State) (j : Nat) : Prop :=
  (∃ id, j ∈ chainC s (cellAt s id)) ∨ PrivK s j ∨ PrivX s j

def cnt (q : Pc → Bool) (ls : List Local) : Nat := (ls.filter (fun l => q l.pc)).length

def PcOp (pc : Pc) (op : KOp) : Prop := noCallPc pc = false → isReader op = readerPc pc

structure TInv (s : State) : Prop where
  opOK : ∀ (t : Nat) (l : Local) (p : Pending), s.threads[t]? = some l → l.call = some p → PcOp l.pc p.op
  callOK : ∀ (t : Nat) (l : Local), s.threads[t]? = some l → (l.call = none ↔ noCallPc l.pc = true)
  histTime : ∀ x ∈ s.hist, x.2.inv ≤ x.2.resp ∧ x.2.resp ≤ s.now
  pendTime : ∀ (t : Nat) (l : Local) (p : Pending), s.threads[t]? = some l → l.call = some p → p.inv ≤ s.now
  uniqHP : ∀ x ∈ s.hist, ∀ (t : Nat) (l : Local) (p : Pending), s.threads[t]? = some l → l.call = some p →
    x.2.inv ≠ p.inv
  uniqPP : ∀ (t t' : Nat) (l l' : Local) (p p' : Pending), s.threads[t]? = some l → s.threads[t']? = some l' →
    l.call = some p → l'.call = some p' → p.inv = p'.inv → t = t'
  uniqHH : s.hist.Pairwise (fun x y => x.2.inv ≠ y.2.inv)

/-- the low cell of the new table has been stored (and the forwarding marker has not) -/
def lowStored : Pc → Bool
  | .xStoreHigh _ _ | .xStoreMoved _ => true
  | _ => false

def highStored : Pc → Bool
  | .xStoreMoved _ => true
  | _ => false

/-- the resizing thread before the forwarding marker is stored -/
def xPre : Pc → Bool
  | .xCell | .xCasMoved | .xLock _ | .xCheck _ | .xBuild _ | .yMutex _ | .yCheck _ | .yBuild _
  | .xStoreLow _ _ _ | .xStoreHigh _ _ | .xStoreMoved _ => true
  | _ => false

def sideSel (b : Bool) : Nat → Bool := fun k => hiBit k == b

/-- the two new structures are the two sides of the chain of the old cell -/
structure Plan (s : State) (lo hi : Cell) : Prop where
  low : CopyOK s s.cell0 (sideSel false) lo
  high : CopyOK s s.cell0 (sideSel true) hi
  distinct : ∀ b, lo = .tree b → hi ≠ .tree b

/-- what the program counter of the resizing thread says about the new cells -/
def XPc (s : State) : Pc → Prop
  | .xStoreLow _ lo hi => Plan s lo hi
  | .xStoreHigh _ hi => Plan s s.lowCell hi
  | .xStoreMoved _ => Plan s s.lowCell s.highCell
  | _ => True

structure XInv (s : State) : Prop where
  uniqX : ∀ (t t' : Nat) (l l' : Local), s.threads[t]? = some l → s.threads[t']? = some l' →
    xPc l.pc = true → xPc l'.pc = true → t = t'
  resz : ∀ (t : Nat) (l : Local), s.threads[t]? = some l → xPc l.pc = true → s.resizing = true
  noResz : s.resizing = false → s.cell0 ≠ .moved
  /-- while the resizing thread has not stored the marker, the old cell is not forwarded -/
  pre : ∀ (t : Nat) (l : Local), s.threads[t]? = some l → xPre l.pc = true → s.cell0 ≠ .moved
  post : ∀ (t : Nat) (l : Local), s.threads[t]? = some l → xPc l.pc = true → xPre l.pc = false →
    s.cell0 = .moved
  lowEmpty : s.cell0 ≠ .moved → (∀ (t : Nat) (l : Local), s.threads[t]? = some l → lowStored l.pc = false) →
    s.lowCell = .empty
  highEmpty : s.cell0 ≠ .moved → (∀ (t : Nat) (l : Local), s.threads[t]? = some l → highStored l.pc = false) →
    s.highCell = .empty
  /-- a thread that works in the new table has seen the marker or the new table pointer -/
  tabNew : ∀ (t : Nat) (l : Local), s.threads[t]? = some l → tabOf l.pc = some .new → s.cell0 = .moved
  plan : ∀ (t : Nat) (l : Local), s.threads[t]? = some l → XPc s l.pc

structure LInv (s : State) : Prop where
  lk : ∀ (t : Nat) (l : Local) (h : Nat), s.threads[t]? = some l →
    (holdsLock l.pc = some h ↔ (nodeAt s.heap h).lock = some t)
  lkValid : ∀ h x, (nodeAt s.heap h).lock = some x → x < s.threads.length
  vL : ∀ (t : Nat) (l : Local) (h : Nat), s.threads[t]? = some l → validL l.pc = some h →
    cellAt s (cidOf l) = .list h
  mx : ∀ (t : Nat) (l : Local) (b : Nat), s.threads[t]? = some l →
    (holdsMutex l.pc = some b ↔ (binAt s.tbins b).mutex = some t)
  mxValid : ∀ b x, (binAt s.tbins b).mutex = some x → x < s.threads.length
  vT : ∀ (t : Nat) (l : Local) (b : Nat), s.threads[t]? = some l → validT l.pc = some b →
    cellAt s (cidOf l) = .tree b
  bitsNone : ∀ id b, cellAt s id = .tree b → (binAt s.tbins b).mutex = none →
    (binAt s.tbins b).writer = false ∧ (binAt s.tbins b).waiter = false
  bitsSome : ∀ (id : Cid) (b t : Nat) (l : Local), cellAt s id = .tree b → s.threads[t]? = some l →
    (binAt s.tbins b).mutex = some t →
    (binAt s.tbins b).writer = wr l.pc ∧ ((binAt s.tbins b).waiter = true → isLoop l.pc = true)
  rd : ∀ b, b < s.tbins.length →
    (binAt s.tbins b).readers = cnt (fun pc => holdsRead pc == some b) s.threads
  wrd : ∀ b, (binAt s.tbins b).writer = true → (binAt s.tbins b).readers = 0
  refOK : ∀ (t : Nat) (l : Local) (b : Nat), s.threads[t]? = some l → binRef l.pc = some b →
    b < s.tbins.length ∧ ¬ PrivBin s b

/-- the thread is past a successful re-check of its cell -/
def validated (pc : Pc) : Bool := (validL pc).isSome || (validT pc).isSome

/-- the walk of a validated list-bin writer looking for `key` on the list from `h`: the nodes passed
are the prefix `l1` (none of them has the key), `pred` is the last of them, `cur` the next -/
def Walk (s : State) (h key : Nat) (pred cur : Option Nat) : Prop :=
  ∃ l1 l2, chainOf s.heap (some h) = l1 ++ l2 ∧ cur = l2.head? ∧ pred = l1.getLast? ∧
    ∀ j ∈ l1, (nodeAt s.heap j).key ≠ key

/-- the writer has found the node `i` of the list of bin `b` and will make `p`'s result `res` by removing it -/
def RemOK (s : State) (b : Nat) (p : Pending) (i : Nat) (res : KRes) : Prop :=
  i ∈ chainOfBin s b ∧ (nodeAt s.heap i).inTree = true ∧ (nodeAt s.heap i).key = p.key ∧
    specStep (some (nodeAt s.heap i).val) p.op = (none, res)

/-- no node of the tree of `b` has the key of `p` -/
def FreshOK (s : State) (b : Nat) (p : Pending) : Prop :=
  ∀ j, j < s.heap.length → (nodeAt s.heap j).owner = some b → (nodeAt s.heap j).inTree = true →
    (nodeAt s.heap j).key ≠ p.key

def PcInv (s : State) (p : Pending) : Pc → Prop
  | .rNode (some c) => c < s.heap.length
  | .rState _ (some c) => c < s.heap.length
  | .rCas _ c _ => c < s.heap.length
  | .rLin _ c => c < s.heap.length
  | .lNode (some c) => c < s.heap.length
  | .rVal _ => p.op ≠ .has
  | .wFind _ h pred cur => Walk s h p.key pred cur
  | .wStore _ h pred hit hnext => Walk s h p.key pred hit ∧
      ∀ i, hit = some i → (nodeAt s.heap i).key = p.key ∧ hnext = (nodeAt s.heap i).next
  | .tVal _ b i v res => i ∈ chainOfBin s b ∧ (nodeAt s.heap i).key = p.key ∧
      specStep (some (nodeAt s.heap i).val) p.op = (some v, res)
  | .lrTry _ b .insert _ => FreshOK s b p
  | .lrLoop _ b .insert _ => FreshOK s b p
  | .tPrependLocked _ b => FreshOK s b p
  | .tTreeLinkLocked _ b x => x ∈ chainOfBin s b ∧ (nodeAt s.heap x).inTree = false ∧ (nodeAt s.heap x).key = p.key ∧
      FreshOK s b p
  | .lrTry _ b (.remove i) res => RemOK s b p i res
  | .lrLoop _ b (.remove i) res => RemOK s b p i res
  | .tUnlinkLocked _ b i res => RemOK s b p i res
  | .tRestructure _ b i _ => i ∉ chainOfBin s b ∧ (nodeAt s.heap i).inTree = true ∧ i < s.heap.length ∧
      (nodeAt s.heap i).owner = some b
  | _ => True

/-- the private `TreeBin` of a treeify is a copy of the list from `h` and is in no cell -/
def KInv (s : State) : Pc → Prop
  | .kStore _ _ h b => CopyOK s (.list h) (fun _ => true) (.tree b) ∧ ∀ id, cellAt s id ≠ .tree b
  | _ => True

structure DInv (s : State) : Prop where
  pcInv : ∀ (t : Nat) (l : Local) (p : Pending), s.threads[t]? = some l → l.call = some p → PcInv s p l.pc
  kInv : ∀ (t : Nat) (l : Local), s.threads[t]? = some l → KInv s l.pc
  /-- a node in the tree of a `TreeBin` that is in a cell is on its list, unless a remover is about to
  take it out of the tree (or to untreeify) -/
  treeSub : ∀ id b, cellAt s id = .tree b → ∀ j, j < s.heap.length → (nodeAt s.heap j).owner = some b →
    (nodeAt s.heap j).inTree = true → j ∉ chainOfBin s b →
    ∃ (t : Nat) (l : Local), s.threads[t]? = some l ∧
      ((∃ tab res, l.pc = .tRestructure tab b j res) ∨ (∃ tab res, l.pc = .tUntreeify tab b res))
  /-- a node on the list of a `TreeBin` that is in a cell is in its tree, unless an inserter is about
  to link it -/
  chainSub : ∀ id b, cellAt s id = .tree b → ∀ j ∈ chainOfBin s b, (nodeAt s.heap j).inTree = false →
    ∃ (t : Nat) (l : Local) (tab : Tab), s.threads[t]? = some l ∧ l.pc = .tTreeLinkLocked tab b j

structure Inv (s : State) : Prop where
  heap : HInv s
  thr : TInv s
  rsz : XInv s
  lock : LInv s
  data : DInv s

end Flurry.Proto.BinG
