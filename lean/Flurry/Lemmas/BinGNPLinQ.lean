import Flurry.Lemmas.BinGNPLinBase
/-! # Proto/BinGN: the ghost invariant across each class of transitions

Given the `Eff s s'` of a transition and its effect on `absOf` (proved elsewhere), the ghost invariant
`GInv` is preserved. The transitions are grouped as in `StepN` (`Lemmas/BinGNPStep.lean`):
`ginv_nocall` (every transition of a thread without a call that changes no abstract state) and `ginv_invoke`, both
cases of `ginv_unseen` (the thread is not counted in the extended history before or after);
`ginv_move`, `ginv_bmove`, `ginv_fin`, `ginv_bfin` (the transitions of a thread with a call that leave the shared
state alone but for lock words / synchronisation words; a thread that stays on its side of its point: `ginv_keep`),
`ginv_silent` (a writer past its point that restructures), `ginv_point` (a writer passes its linearization point),
`ginv_complete` (a call completes at its point). `StepKind s t l s'` has one constructor for each of these nine, with
the hypotheses of the lemma, and `StepKind.ginv` is the nine together; which kind a transition of `StepN` is, is said
once, in `stepN_facts` (`Lemmas/BinGNPBundle.lean`).

`ginv_thread_only` is `ginv_unseen` for two states with no transition between them: beside the acting thread and the
clock, `tabs`, `cur` and `resizing` may differ, provided every cell reads the same, `liveId`, heap and `TreeBin` table
are equal and no node comes into use. The models that are sub-models of `Proto/BinGN` use it where one of their
transitions is two of `Proto/BinGN`.

All classes describe the successor state by `f : Next s t l' new s'` (`Lemmas/BinGNPLinBase.lean`).

* `live_cellOf_key`, `good_of_cellOf` take `hkey : keyOf l = k`: `XInv.tabNew` speaks about the cell of the
  key of the thread; a thread of generation `cur + 1` says nothing about the cells of other keys;
* `inCell_of_cellOf` concludes `b < s.tbins.length ∧ InCell s b`, and `Move.ref_ok` concludes
  `b < s.tbins.length ∧ (¬ InCell s b → ¬ PrivBin s b)` — what `RdOK.step` needs (`Lemmas/BinGNPLinBase.lean`). -/
namespace Flurry.Proto.BinGNP
open Flurry.Lin
open Flurry.GhostView (updPt updPt_self updPt_ne isRead_cases)
open Flurry.Proto.BinK (nodeAt binAt NextOK IsChain IsSeg chainOf CInv absL AbsWit OnCond ValWit CallOK nextA
  nextA_old nextA_new absL_eq_none_iff absL_eq_some_iff get_set get_set_ne get_set_self nodeAt_of_some isInsert
  chainOf_none absentRes_spec read_some_spec absent_write_spec)

variable {k : Nat} {s s' : State} {A : Nat → KSt} {pt : Nat → Nat} {t : Nat} {l l' : Local} {p : Pending}

/-- a step on the synchronisation words of a `TreeBin` keeps the thread on its side of its linearization point and gives it
no new `TreeBin` to refer to -/
theorem BMove.tfacts {pc pc' : Pc} {tb : List TBin}
    (hm : BMove s t p pc pc' tb) :
    resOfPc pc' = resOfPc pc ∧ (∀ b, binRef pc' = some b → binRef pc = some b) := by
  cases hm
  case lrTryOk tab b k res _ _ _ => cases k <;> simp [afterLock, resOfPc, binRef]
  case lrLoopOk tab b k res _ _ => cases k <;> simp [afterLock, resOfPc, binRef]
  all_goals simp [resOfPc, binRef]

/-- a `Move` either keeps the thread on its side of its linearization point, or it is the `tFind`
step of a tree-bin writer that changes nothing -/
theorem Move.res_keep {pc pc' : Pc} {hp : List NodeS}
    (hm : Move s t p pc pc' hp) :
    resOfPc pc' = resOfPc pc ∨
    (resOfPc pc = none ∧ ∃ tab b res, pc' = .tUnlockM tab b res false ∧ pc = .tFind tab b ∧
      specStep (absTree s b p.key) p.op = (absTree s b p.key, res)) := by
  cases hm
  case findDone tab b res h => exact Or.inr ⟨rfl, tab, b, res, rfl, rfl, h⟩
  case rCellTree lo tab b hc => cases lo <;> exact Or.inl rfl
  case lrTryFail tab b k res => cases k <;> exact Or.inl rfl
  all_goals exact Or.inl rfl

/-- the `TreeBin` the new program counter of a `Move` refers to: the old one, or the one just loaded
from the cell of the key -/
theorem Move.ref {pc pc' : Pc} {hp : List NodeS}
    (hm : Move s t p pc pc' hp) :
    ∀ b, binRef pc' = some b → binRef pc = some b ∨ ∃ tab, tabOf pc = some tab ∧ cellOf s tab p.key = .tree b := by
  intro b' hb'
  cases hm
  case rCellTree lo tab b hc =>
    refine Or.inr ⟨tab, rfl, ?_⟩
    cases lo <;> simp [binRef] at hb' <;> subst hb' <;> exact hc
  case wCellTree tab b hc =>
    refine Or.inr ⟨tab, rfl, ?_⟩
    simp [binRef] at hb'; subst hb'; exact hc
  case lrTryFail tab b k res => cases k <;> exact Or.inl hb'
  all_goals first | exact Or.inl hb' | cases hb'

/-- the cell a thread works in (generation `tab`), if it is not forwarded, is the live cell of the key of the
thread -/
theorem live_cellOf_key {tab : Nat} (I : Inv s)
    (hl : s.threads[t]? = some l) (ht : tabOf l.pc = some tab) (k : Nat) (hkey : keyOf l = k)
    (hnm : cellOf s tab k ≠ .moved) : liveCell s k = cellOf s tab k := by
  rw [liveCell_eq I.rsz k]
  obtain ⟨hle, hnew⟩ := I.rsz.tabNew t l tab hl ht
  rw [hkey] at hnew
  rw [cellOf_eq] at hnm ⊢
  rcases Nat.lt_or_ge tab s.cur with hlt | hge
  · exact absurd (I.rsz.old tab (k % 2 ^ tab) hlt (Nat.mod_lt _ (Nat.two_pow_pos _))) hnm
  · rcases Nat.lt_or_ge tab (s.cur + 1) with hlt1 | hge1
    · have : tab = s.cur := by omega
      subst this
      unfold liveId
      rw [if_neg hnm]
    · have : tab = s.cur + 1 := by omega
      subst this
      rw [liveId_moved (hnew rfl)]

/-- the `TreeBin` a thread finds in the cell of generation `tab` it works in is a `TreeBin` of the table and is in a
cell ("is not private" does not follow from `Inv`; `RdOK.step` only needs `¬ InCell s b → ¬ PrivBin s b`) -/
theorem inCell_of_cellOf {tab : Nat} {k b : Nat} (I : Inv s)
    (hc : cellOf s tab k = .tree b) : b < s.tbins.length ∧ InCell s b := by
  have hcell : cellAt s (idOf tab k) = .tree b := by rw [← cellOf_eq]; exact hc
  exact ⟨I.heap.cellOK _ b hcell, idOf tab k, hcell⟩

theorem absOf_none_of_empty (h : liveCell s k = .empty) : absOf s k = none := by
  rw [absOf_eq, absL_eq_none_iff]
  have : LC s k = [] := by
    unfold LC chainC
    rw [h]
    exact chainOf_none _
  rw [this]
  intro i hi
  cases hi

/-- a thread that holds a read lock of `b`: nobody holds the write lock -/
theorem Inv.reader_no_writer (I : Inv s) {b : Nat}
    (hl : s.threads[t]? = some l) (hr : holdsRead l.pc = some b) : (binAt s.tbins b).writer = false := by
  cases hw : (binAt s.tbins b).writer with
  | false => rfl
  | true =>
    -- a set `writer` bit means no reader is counted (`LInv.wrd`), but this one is (`LInv.reader_pos`)
    have hpos := I.lock.reader_pos hl hr
    rw [I.lock.wrd b hw] at hpos
    exact absurd hpos (Nat.not_succ_le_zero 0)

/-- what a lock-protocol reader that holds a read lock learns from the tree -/
theorem TreeOK.read {k inv : Nat} {b : Nat} (h : TreeOK A k inv s b) (I : Inv s)
    (hA : A s.now = absOf s k) (hinv : inv ≤ s.now) (hw : (binAt s.tbins b).writer = false) :
    ∃ τ, inv ≤ τ ∧ τ ≤ s.now ∧ A τ = absTree s b k := by
  rcases h with h | h | h
  · exact ⟨s.now, hinv, Nat.le_refl _, by rw [hA, I.absTree_eq_abs h hw]⟩
  · rw [hw] at h; cases h.2
  · exact h

theorem rdOK_release {k inv : Nat} {b : Nat}
    (h : ∃ τ, inv ≤ τ ∧ τ ≤ s.now ∧ A τ = absTree s b k) : RdOK A k inv s (.rRelease b (treeFind s b k)) := by
  obtain ⟨τ, h1, h2, h3⟩ := h
  unfold absTree at h3
  cases hf : treeFind s b k with
  | none =>
    rw [hf] at h3
    simp only [RdOK]
    exact ⟨τ, h1, h2, h3⟩
  | some i =>
    rw [hf] at h3
    simp only [RdOK]
    obtain ⟨hi, _, _, hik⟩ := treeFind_some hf
    exact ⟨hik, hi, τ, h1, h2, h3⟩

/-- the pointer loaded from the cell of the key in table `tab` -/
theorem good_of_cellOf {tab : Nat}
    {inv : Nat} (g : GInv k s A pt) (I : Inv s) (hl : s.threads[t]? = some l) (ht : tabOf l.pc = some tab)
    (hkey : keyOf l = k) (hinv : inv ≤ s.now) (hnm : cellOf s tab k ≠ .moved) :
    Good A k inv s (startOf s.tbins (cellOf s tab k)) := by
  have := Good.first (A := A) (k := k) (inv := inv) I.heap g.hA hinv
  rw [live_cellOf_key I hl ht k hkey hnm] at this
  exact this

/-- what the new program counter of a reader knows (in the old state) -/
theorem Move.rdOK {pc' : Pc} {hp : List NodeS}
    (hm : Move s t p l.pc pc' hp) (g : GInv k s A pt) (I : Inv s)
    (hl : s.threads[t]? = some l) (hpc : l.call = some p) (hk : p.key = k) : RdOK A k p.inv s pc' := by
  have hpi := I.thr.pendTime t l p hl hpc
  have hR := g.readers t l p hl hpc hk
  have hP := I.data.pcInv t l p hl hpc
  have H := I.heap
  have hA := g.hA
  obtain ⟨pc, call⟩ := l
  simp only at hpc hm hR hP
  subst hpc
  cases hm with
  | rTable => simp only [RdOK]
  | rCellMoved _ => simp only [RdOK]
  | @rCellList lo tab h hc =>
    simp only [RdOK]
    rw [hk] at hc
    have := good_of_cellOf (inv := p.inv) g I hl (tab := tab) rfl hk hpi (by rw [hc]; exact fun h => by cases h)
    rw [hc] at this
    exact this
  | @rCellTree lo tab b hc =>
    rw [hk] at hc
    have hnm : cellOf s tab k ≠ .moved := by rw [hc]; exact fun h => by cases h
    have hgood := good_of_cellOf (inv := p.inv) g I hl (tab := tab) rfl hk hpi hnm
    rw [hc] at hgood
    have hlive : cellAt s (liveId s k) = .tree b := by
      rw [← liveCell_eq I.rsz k, live_cellOf_key I hl (tab := tab) rfl k hk hnm, hc]
    cases lo <;> simp only [RdOK, if_true, Bool.false_eq_true, if_false]
    · exact ⟨hgood, Or.inl hlive⟩
    · exact hgood
  | @rNodeNext c n hn hne =>
    simp only [RdOK] at hR ⊢
    have hnode := nodeAt_of_some hn
    have := hR.next H hA hpi (by rw [hnode, ← hk]; exact hne)
    rw [hnode] at this
    exact this
  | rFirst => simp only [RdOK] at hR ⊢; exact hR
  | rLinMode _ => simp only [RdOK] at hR ⊢; exact hR
  | rTreeMode _ => simp only [RdOK] at hR ⊢; exact hR
  | @rLinNext b c n hn hne =>
    simp only [RdOK] at hR ⊢
    have hnode := nodeAt_of_some hn
    have := hR.1.next H hA hpi (by rw [hnode, ← hk]; exact hne)
    rw [hnode] at this
    exact ⟨this, hR.2⟩
  | @rLinHit b c n hn hkey _ =>
    simp only [RdOK] at hR ⊢
    simp only [PcInv] at hP
    have hnode := nodeAt_of_some hn
    have hkc : (nodeAt s.heap c).key = k := by rw [hnode, hkey, hk]
    exact ⟨hkc, hP, hR.1.hit H hA hpi hkc⟩
  | rCasFail => simp only [RdOK] at hR ⊢; exact hR
  | @rTree b =>
    simp only [RdOK] at hR
    have hw := I.reader_no_writer hl (b := b) rfl
    rw [hk]
    exact rdOK_release (hR.read I hA hpi hw)
  | lFirst => simp only [RdOK] at hR ⊢; exact hR
  | @lNext c n hn hne =>
    simp only [RdOK] at hR ⊢
    have hnode := nodeAt_of_some hn
    have := hR.next H hA hpi (by rw [hnode, ← hk]; exact hne)
    rw [hnode] at this
    exact this
  | @lHit c n hn hkey _ =>
    simp only [RdOK] at hR ⊢
    simp only [PcInv] at hP
    have hnode := nodeAt_of_some hn
    have hkc : (nodeAt s.heap c).key = k := by rw [hnode, hkey, hk]
    exact ⟨hkc, hP, hR.hit H hA hpi hkc⟩
  | _ => exact RdOK_of_not_reader rfl

theorem BMove.rdOK {pc pc' : Pc} {tb : List TBin}
    (hm : BMove s t p pc pc' tb) (hR : RdOK A k p.inv s pc) : RdOK A k p.inv s pc' := by
  cases hm with
  | rCasOk _ _ _ => simp only [RdOK] at hR ⊢; exact hR.2
  | rRelVal _ => simp only [RdOK] at hR ⊢; exact hR
  | tMutex _ => exact RdOK_of_not_reader rfl
  | @lrTryOk tab b k0 res _ _ _ => cases k0 <;> exact RdOK_of_not_reader rfl
  | @lrLoopOk tab b k0 res _ _ => cases k0 <;> exact RdOK_of_not_reader rfl
  | lrLoopWait _ => exact RdOK_of_not_reader rfl
  | unlockRoot => exact RdOK_of_not_reader rfl
  | tUnlockMRetry => exact RdOK_of_not_reader rfl

/-- the `TreeBin` the new program counter of a `Move` refers to exists and is not private -/
theorem Move.ref_ok {pc' : Pc} {hp : List NodeS}
    (hm : Move s t p l.pc pc' hp) (I : Inv s) (hl : s.threads[t]? = some l) :
    ∀ b, binRef pc' = some b → b < s.tbins.length ∧ (¬ InCell s b → ¬ PrivBin s b) := by
  intro b hb
  rcases hm.ref b hb with h | ⟨tab, _, hc⟩
  · exact ⟨(I.lock.refOK t l b hl h).1, fun _ => (I.lock.refOK t l b hl h).2⟩
  · exact ⟨(inCell_of_cellOf I hc).1, fun h => absurd (inCell_of_cellOf I hc).2 h⟩

/-- the time that justifies the result of a read call that completes -/
theorem fin_point {res : KRes} {hp : List NodeS}
    (g : GInv k s A pt) (I : Inv s) (hl : s.threads[t]? = some l) (hpc : l.call = some p)
    (hk : p.key = k) (hf : Fin s p l.pc res hp) (hrd : isRead p.op = true) :
    ∃ τ0, p.inv ≤ τ0 ∧ τ0 ≤ s.now ∧ specStep (A τ0) p.op = (A τ0, res) := by
  have hpi := I.thr.pendTime t l p hl hpc
  have hR := g.readers t l p hl hpc hk
  have hP := I.data.pcInv t l p hl hpc
  have hO := I.thr.opOK t l p hl hpc
  have H := I.heap
  have hA := g.hA
  have hmiss : ∀ τ, A τ = none → specStep (A τ) p.op = (A τ, absentRes p.op) := by
    intro τ h; rw [h]; exact absentRes_spec hrd
  have hhit : ∀ (τ : Nat) (x : Nat × Nat), A τ = some x →
      specStep (A τ) p.op = (A τ, match p.op with | .has => .bool true | _ => .some x.1 x.2) := by
    intro τ x h; rw [h]; exact read_some_spec x hrd
  obtain ⟨pc, call⟩ := l
  simp only at hpc hf hR hP hO
  subst hpc
  cases hf with
  | @rCellEmpty lo tab hc =>
    refine ⟨s.now, hpi, Nat.le_refl _, hmiss _ ?_⟩
    rw [hA]
    apply absOf_none_of_empty
    rw [hk] at hc
    rw [live_cellOf_key I hl (tab := tab) rfl k hk (by rw [hc]; exact fun h => by cases h), hc]
  | rNodeMiss =>
    simp only [RdOK] at hR
    obtain ⟨τ, h1, h2, h3⟩ := hR.miss
    exact ⟨τ, h1, h2, hmiss τ h3⟩
  | @rNodeHit c n hn hkey =>
    simp only [RdOK] at hR
    have hnode := nodeAt_of_some hn
    obtain ⟨τ, h1, h2, h3⟩ := hR.hit H hA hpi (by rw [hnode, hkey, hk])
    rw [hnode] at h3
    exact ⟨τ, h1, h2, hhit τ n.val h3⟩
  | rMiss =>
    simp only [RdOK] at hR
    obtain ⟨τ, h1, h2, h3⟩ := hR.1.miss
    exact ⟨τ, h1, h2, hmiss τ h3⟩
  | @rLinHas b c n hn hkey hop =>
    simp only [RdOK] at hR
    have hnode := nodeAt_of_some hn
    obtain ⟨τ, h1, h2, h3⟩ := hR.1.hit H hA hpi (by rw [hnode, hkey, hk])
    refine ⟨τ, h1, h2, ?_⟩
    rw [h3, hop]; rfl
  | @rVal i n hn =>
    simp only [RdOK] at hR
    simp only [PcInv] at hP
    obtain ⟨_, _, τ, h1, h2, h3⟩ := hR
    rw [nodeAt_of_some hn] at h3
    refine ⟨τ, h1, h2, (hhit τ _ h3).trans ?_⟩
    rcases isRead_cases hrd with hop | hop
    · rw [hop]
    · exact absurd hop hP
  | lMiss =>
    simp only [RdOK] at hR
    obtain ⟨τ, h1, h2, h3⟩ := hR.miss
    exact ⟨τ, h1, h2, hmiss τ h3⟩
  | @lHas c n hn hkey hop =>
    simp only [RdOK] at hR
    have hnode := nodeAt_of_some hn
    obtain ⟨τ, h1, h2, h3⟩ := hR.hit H hA hpi (by rw [hnode, hkey, hk])
    refine ⟨τ, h1, h2, ?_⟩
    rw [h3, hop]; rfl
  | wCellEmpty _ _ =>
    have := hO rfl
    rw [isReader_eq_isRead, hrd] at this
    cases this
  | wUnlockFin =>
    have := hO rfl
    rw [isReader_eq_isRead, hrd] at this
    cases this

/-- a call completes as a reader, at the unlock of a list writer past its point, or as a write other than an insertion
that finds its cell empty -/
theorem Fin.kind {pc : Pc} {res : KRes} {hp : List NodeS}
    (hf : Fin s p pc res hp) :
    (readerPc pc = true ∧ resOfPc pc = none) ∨ (∃ tab h, pc = .wUnlock tab h res false) ∨
      (∃ tab, pc = .wCell tab ∧ res = .none ∧ cellOf s tab p.key = .empty ∧ isInsert p.op = false) := by
  cases hf
  case wUnlockFin tab h => exact Or.inr (Or.inl ⟨tab, h, rfl⟩)
  case wCellEmpty tab h1 h2 => exact Or.inr (Or.inr ⟨tab, rfl, rfl, h1, h2⟩)
  all_goals exact Or.inl ⟨rfl, rfl⟩

theorem isRead_false_of_pc (I : Inv s)
    (hl : s.threads[t]? = some l) (hp : l.call = some p) (hnr : readerPc l.pc = false) : isRead p.op = false := by
  have := I.thr.opOK t l p hl hp (noCall_false_of_call I.thr hl hp)
  rw [← isReader_eq_isRead, this, hnr]

theorem isRead_true_of_pc (I : Inv s)
    (hl : s.threads[t]? = some l) (hp : l.call = some p) (hr : readerPc l.pc = true) : isRead p.op = true := by
  have := I.thr.opOK t l p hl hp (noCall_false_of_call I.thr hl hp)
  rw [← isReader_eq_isRead, this, hr]

/-- a transition that changes no abstract state, of a thread that is not counted in the extended history before or
after (it has no call, or it is not past its linearization point); what its new program counter knows holds in the
new state -/
theorem ginv_unseen (g : GInv k s A pt) (I : Inv s) (E : Eff s s') (hl : s.threads[t]? = some l)
    (f : Next s t l' [] s')
    (habs : ∀ k, absOf s' k = absOf s k)
    (he : l.call = none ∨ resOfPc l.pc = none) (he' : l'.call = none ∨ resOfPc l'.pc = none)
    (hrd : ∀ p, l'.call = some p → p.key = k → RdOK (nextA A s.now (absOf s' k)) k p.inv s' l'.pc) :
    ∃ A' pt', GInv k s' A' pt' := by
  have hnone : ∀ {now : Nat} {l0 : Local}, l0.call = none ∨ resOfPc l0.pc = none →
      GhostView.extOf Lin.sig view k now t l0 = none := by
    rintro now l0 (h | h)
    · exact GhostView.extOf_none_of_key (fun p (hp : l0.call = some p) => by rw [h] at hp; cases hp)
    · exact GhostView.extOf_none_of_res h
  exact ⟨_, _, GInv.succ f
    (g.trace.quiet_none I.thr.gen hl rfl rfl rfl (habs k) (fun _ h => (nomatch h)) (hnone he) (hnone he'))
    (readers_step g I E f fun p hp hk => Or.inr (hrd p hp hk))⟩

/-- any transition of a thread without a call in flight that changes no abstract state: treeify
(`kmove`, `kbuild`, `kstore`) and all steps of the resize -/
theorem ginv_nocall {pc' : Pc} (g : GInv k s A pt) (I : Inv s) (E : Eff s s') (hl : s.threads[t]? = some l)
    (hc : l.call = none)
    (f : Next s t { l with pc := pc' } [] s')
    (habs : ∀ k, absOf s' k = absOf s k) : ∃ A' pt', GInv k s' A' pt' :=
  ginv_unseen g I E hl f habs (Or.inl hc) (Or.inl hc) (fun _ hp => nomatch hc.symm.trans hp)

theorem ginv_invoke {k' : Nat} {op : KOp} {lo : Bool}
    (g : GInv k s A pt) (I : Inv s) (E : Eff s s') (hl : s.threads[t]? = some l) (hpc : l.pc = .idle)
    (f : Next s t { pc := if isReader op then .rTable lo else .wTable, call := some ⟨k', op, s.now + 1⟩ } [] s')
    (habs : ∀ k, absOf s' k = absOf s k) : ∃ A' pt', GInv k s' A' pt' := by
  refine ginv_unseen g I E hl f habs (Or.inr (by rw [hpc]; rfl))
    (Or.inr (show resOfPc (if isReader op then .rTable lo else .wTable) = none by cases isReader op <;> rfl)) ?_
  intro p _ _
  show RdOK _ _ _ _ (if isReader op then .rTable lo else .wTable)
  cases isReader op <;> simp [RdOK]

/-- a transition that changes only the acting thread and the clock (and, possibly, tables in which no lookup ends):
heap, `TreeBin` table, the reading of every cell and the live cells are as before, and no node comes into use. This
is the ghost step of a double transition of a sub-model (`Proto/BinG`: the start of the resize and the commit;
`Proto/BinK`: the start of a call and of a treeify), whose middle state is no state of the sub-model. -/
theorem ginv_thread_only (g : GInv k s A pt) (I : Inv s) (I' : Inv s')
    (hl : s.threads[t]? = some l) (hthr : s'.threads = s.threads.set t l') (hnow : s'.now = s.now + 1)
    (hhist : s'.hist = s.hist) (hheap : s'.heap = s.heap) (htb : s'.tbins = s.tbins)
    (hcells : ∀ id, cellAt s' id = cellAt s id) (hlid : ∀ k, liveId s' k = liveId s k)
    (hused : ∀ j, Used s' j → Used s j)
    (he : l.call = none ∨ resOfPc l.pc = none) (he' : l'.call = none ∨ resOfPc l'.pc = none)
    (hrd : ∀ p, l'.call = some p → p.key = k → RdOK (nextA A s.now (absOf s' k)) k p.inv s' l'.pc) :
    ∃ A' pt', GInv k s' A' pt' := by
  obtain ⟨E, habs⟩ := eff_of_quietC I.heap I' (.of_same hcells hheap htb) hlid (liveCell_of_liveId I.rsz I'.rsz hcells hlid) hused
    (fun b _ hw => by rw [htb]; exact hw)
  exact ginv_unseen g I E hl ⟨hthr, hnow, hhist⟩ habs he he' hrd

/-- a thread with a call that neither passes its linearization point nor becomes a reader -/
theorem ginv_silent {pc' : Pc} (g : GInv k s A pt) (I : Inv s) (E : Eff s s') (hl : s.threads[t]? = some l)
    (f : Next s t { l with pc := pc' } [] s') (hres : resOfPc pc' = resOfPc l.pc) (hnr : readerPc pc' = false)
    (habs : ∀ k, absOf s' k = absOf s k) : ∃ A' pt', GInv k s' A' pt' :=
  ⟨_, _, GInv.succ f
    (g.trace.quiet_keep (l' := (⟨pc', l.call⟩ : Local)) I.thr.gen hl rfl rfl rfl (habs k) (fun _ => List.not_mem_nil) hres rfl)
    (readers_step g I E f (fun _ _ _ => Or.inr (RdOK_of_not_reader hnr)))⟩

/-- a writer passes its linearization point and goes on (`store`, `tval`, `prepend`, `unlink`) -/
theorem ginv_point {res : KRes} {pc' : Pc}
    (g : GInv k s A pt) (I : Inv s) (E : Eff s s') (hl : s.threads[t]? = some l)
    (hp : l.call = some p) (hres0 : resOfPc l.pc = none) (hnr : readerPc l.pc = false)
    (f : Next s t { l with pc := pc' } [] s') (hres' : resOfPc pc' = some res) (hnr' : readerPc pc' = false)
    (hspec : specStep (absOf s p.key) p.op = (absOf s' p.key, res))
    (hother : ∀ k, k ≠ p.key → absOf s' k = absOf s k) : ∃ A' pt', GInv k s' A' pt' := by
  by_cases hk : p.key = k
  · refine ⟨_, _, GInv.succ f
      (g.trace.writer_point (l' := (⟨pc', l.call⟩ : Local)) I.thr.gen hl rfl rfl rfl hp hk (fun _ => List.not_mem_nil) hres0
        hres' rfl (isRead_false_of_pc I hl hp hnr) ?_)
      (readers_step g I E f (fun _ _ _ => Or.inr (RdOK_of_not_reader hnr')))⟩
    rw [← hk]; exact hspec
  · exact ⟨_, _, ginv_other_key (hnew := []) g I E hl
      (fun p1 hp1 => by rw [hp] at hp1; cases hp1; exact hk) f (by simp)
      (hother k (fun e => hk e.symm)) (Or.inl rfl)⟩

/-- a thread with a call stays on its side of its linearization point and changes no abstract state; what its new
program counter knows holds in the old state -/
theorem ginv_keep {pc' : Pc} (g : GInv k s A pt) (I : Inv s) (E : Eff s s') (hl : s.threads[t]? = some l)
    (hpc : l.call = some p) (hkeep : resOfPc pc' = resOfPc l.pc) (hrd : p.key = k → RdOK A k p.inv s pc')
    (href : ∀ b, binRef pc' = some b → b < s.tbins.length ∧ (¬ InCell s b → ¬ PrivBin s b))
    (f : Next s t { l with pc := pc' } [] s') (habs : ∀ k, absOf s' k = absOf s k) : ∃ A' pt', GInv k s' A' pt' := by
  refine ⟨_, _, GInv.succ f
    (g.trace.quiet_keep (l' := (⟨pc', l.call⟩ : Local)) I.thr.gen hl rfl rfl rfl (habs k) (fun _ => List.not_mem_nil) hkeep rfl)
    (readers_step g I E f ?_)⟩
  intro p1 hp1 hk1
  have : p1 = p := by
    have h : l.call = some p1 := hp1
    rw [hpc] at h; exact (Option.some.inj h).symm
  subst this
  exact Or.inl ⟨I.thr.pendTime t l p1 hl hpc, hrd hk1, href⟩

/-- the `tFind` step of a tree-bin writer that changes nothing: the tree of its validated bin shows
the abstract state of its key -/
theorem absTree_of_tFind (I : Inv s) {tab : Nat} {b : Nat}
    (hl : s.threads[t]? = some l) (hp : l.call = some p) (hpc : l.pc = .tFind tab b) :
    absTree s b p.key = absOf s p.key := by
  obtain ⟨pc, call⟩ := l
  simp only at hp hpc
  subst hp hpc
  have hc : cellAt s (idOf tab p.key) = .tree b := I.lock.vT t ⟨.tFind tab b, some p⟩ b hl rfl
  have hmx := (I.lock.mx t _ b hl).1 rfl
  have hw : (binAt s.tbins b).writer = false := (I.lock.bitsSome _ b t _ hc hl hmx).1
  have hco : cellOf s tab p.key = .tree b := by rw [cellOf_eq]; exact hc
  have hlive : cellAt s (liveId s p.key) = .tree b := by
    rw [← liveCell_eq I.rsz, live_cellOf_key I hl (tab := tab) rfl p.key rfl (by rw [hco]; exact fun h => by cases h), hco]
  exact I.absTree_eq_abs hlive hw

theorem ginv_move {pc' : Pc} {hp' : List NodeS}
    (g : GInv k s A pt) (I : Inv s) (E : Eff s s') (hl : s.threads[t]? = some l)
    (hpc : l.call = some p) (hm : Move s t p l.pc pc' hp')
    (f : Next s t { l with pc := pc' } [] s') (habs : ∀ k, absOf s' k = absOf s k) : ∃ A' pt', GInv k s' A' pt' := by
  rcases hm.res_keep with hkeep | ⟨hres0, tab, b, res, rfl, hpcf, hspec⟩
  · exact ginv_keep g I E hl hpc hkeep (fun hk => hm.rdOK g I hl hpc hk) (hm.ref_ok I hl) f habs
  · -- the `tFind` step of a writer that changes nothing is its linearization point
    have hga := absTree_of_tFind I hl hpc hpcf
    exact ginv_point g I E hl hpc hres0 (by rw [hpcf]; rfl) f rfl rfl (by rw [habs, ← hga]; exact hspec)
      (fun k _ => habs k)

theorem ginv_bmove {pc' : Pc} {tb : List TBin}
    (g : GInv k s A pt) (I : Inv s) (E : Eff s s') (hl : s.threads[t]? = some l)
    (hpc : l.call = some p) (hm : BMove s t p l.pc pc' tb)
    (f : Next s t { l with pc := pc' } [] s') (habs : ∀ k, absOf s' k = absOf s k) : ∃ A' pt', GInv k s' A' pt' := by
  obtain ⟨hkeep, href⟩ := hm.tfacts
  exact ginv_keep g I E hl hpc hkeep (fun hk => hm.rdOK (g.readers t l p hl hpc hk))
    (fun b hb => ⟨(I.lock.refOK t l b hl (href b hb)).1, fun _ => (I.lock.refOK t l b hl (href b hb)).2⟩)
    f habs

/-- a writer past its linearization point completes: its call moves from the extended part of the
history to the history proper -/
theorem ginv_retire {res : KRes}
    (g : GInv k s A pt) (I : Inv s) (E : Eff s s') (hl : s.threads[t]? = some l)
    (hpc : l.call = some p) (hk : p.key = k) (hres : resOfPc l.pc = some res)
    (f : Next s t { pc := .idle, call := none } [(p.key, ⟨t, p.op, res, p.inv, s.now + 1⟩)] s')
    (habs : absOf s' k = absOf s k) : GInv k s' (nextA A s.now (absOf s' k)) pt :=
  GInv.succ f
    (g.trace.respond (l' := (⟨.idle, none⟩ : Local)) I.thr.gen hl rfl rfl rfl habs hpc hk hres rfl)
    (readers_step g I E f (fun _ hp1 => by cases hp1))

theorem ginv_fin_other {res : KRes}
    (g : GInv k s A pt) (I : Inv s) (E : Eff s s') (hl : s.threads[t]? = some l)
    (hpc : l.call = some p) (hk : p.key ≠ k)
    (f : Next s t { pc := .idle, call := none } [(p.key, ⟨t, p.op, res, p.inv, s.now + 1⟩)] s')
    (habs : absOf s' k = absOf s k) : GInv k s' (nextA A s.now (absOf s' k)) pt :=
  ginv_other_key (hnew := [(p.key, ⟨t, p.op, res, p.inv, s.now + 1⟩)])
    (l' := { pc := .idle, call := none }) g I E hl
    (fun p1 hp1 => by rw [hpc] at hp1; cases hp1; exact hk) f
    (by intro x hx; rw [List.mem_singleton.1 hx]; exact hk) habs (Or.inr rfl)

theorem ginv_fin {res : KRes} {hp' : List NodeS}
    (g : GInv k s A pt) (I : Inv s) (E : Eff s s') (hl : s.threads[t]? = some l)
    (hpc : l.call = some p) (hf : Fin s p l.pc res hp')
    (f : Next s t { pc := .idle, call := none } [(p.key, ⟨t, p.op, res, p.inv, s.now + 1⟩)] s')
    (habs : ∀ k, absOf s' k = absOf s k) : ∃ A' pt', GInv k s' A' pt' := by
  by_cases hk : p.key = k
  · rcases hf.kind with ⟨hrp, hres0⟩ | ⟨tab, h, hpcu⟩ | ⟨tab, hpcw, hresn, hce, hni⟩
    · have hrd := isRead_true_of_pc I hl hpc hrp
      obtain ⟨τ0, h1, h2, h3⟩ := fin_point g I hl hpc hk hf hrd
      exact ⟨_, _, ginv_call_fin g I E hl hpc hk f hres0 (Or.inl ⟨hrd, habs k, h1, h2, h3⟩)⟩
    · exact ⟨_, _, ginv_retire g I E hl hpc hk (by rw [hpcu]; rfl) f (habs k)⟩
    · subst hresn
      have hwr : isRead p.op = false :=
        isRead_false_of_pc I hl hpc (by rw [hpcw]; rfl)
      have habs0 : absOf s k = none := by
        apply absOf_none_of_empty
        have hkey : keyOf l = p.key := by
          unfold keyOf; rw [hpcw, hpc]
        rw [← hk, live_cellOf_key I hl (tab := tab) (by rw [hpcw]; rfl) p.key hkey (by rw [hce]; exact fun h => by cases h), hce]
      refine ⟨_, _, ginv_call_fin (τ0 := s.now + 1) g I E hl hpc hk f (by rw [hpcw]; rfl)
        (Or.inr ⟨hwr, rfl, ?_⟩)⟩
      rw [habs k, habs0]
      exact absent_write_spec hwr hni
  · exact ⟨_, _, ginv_fin_other g I E hl hpc hk f (habs k)⟩

theorem ginv_bfin {res : KRes} {tb : List TBin}
    (g : GInv k s A pt) (I : Inv s) (E : Eff s s') (hl : s.threads[t]? = some l)
    (hpc : l.call = some p) (hf : BFin s p l.pc res tb)
    (f : Next s t { pc := .idle, call := none } [(p.key, ⟨t, p.op, res, p.inv, s.now + 1⟩)] s')
    (habs : ∀ k, absOf s' k = absOf s k) : ∃ A' pt', GInv k s' A' pt' := by
  by_cases hk : p.key = k
  · have hR := g.readers t l p hl hpc hk
    have hO := I.thr.opOK t l p hl hpc
    have hpi := I.thr.pendTime t l p hl hpc
    obtain ⟨pc, call⟩ := l
    simp only at hpc hf hR hO
    subst hpc
    cases hf with
    | @rRelNone b =>
      have hrd : isRead p.op = true := by
        rw [← isReader_eq_isRead, hO rfl]; rfl
      simp only [RdOK] at hR
      obtain ⟨τ, h1, h2, h3⟩ := hR
      exact ⟨_, _, ginv_call_fin g I E hl rfl hk f rfl
        (Or.inl ⟨hrd, habs k, h1, h2, by rw [h3]; exact absentRes_spec hrd⟩)⟩
    | @rRelHas b i hop =>
      have hrd : isRead p.op = true := by rw [hop]; rfl
      simp only [RdOK] at hR
      obtain ⟨_, _, τ, h1, h2, h3⟩ := hR
      exact ⟨_, _, ginv_call_fin g I E hl rfl hk f rfl
        (Or.inl ⟨hrd, habs k, h1, h2, by rw [h3, hop]; rfl⟩)⟩
    | @tUnlockMFin tab b =>
      exact ⟨_, _, ginv_retire g I E hl rfl hk rfl f (habs k)⟩
  · exact ⟨_, _, ginv_fin_other g I E hl hpc hk f (habs k)⟩

/-- a writer completes at its linearization point (the CAS into an empty cell) -/
theorem ginv_complete {res : KRes}
    (g : GInv k s A pt) (I : Inv s) (E : Eff s s') (hl : s.threads[t]? = some l)
    (hp : l.call = some p) (hres0 : resOfPc l.pc = none) (hnr : readerPc l.pc = false)
    (f : Next s t { pc := .idle, call := none } [(p.key, ⟨t, p.op, res, p.inv, s.now + 1⟩)] s')
    (hspec : specStep (absOf s p.key) p.op = (absOf s' p.key, res))
    (hother : ∀ k, k ≠ p.key → absOf s' k = absOf s k) : ∃ A' pt', GInv k s' A' pt' := by
  by_cases hk : p.key = k
  · refine ⟨_, _, ginv_call_fin (τ0 := s.now + 1) g I E hl hp hk f hres0
      (Or.inr ⟨isRead_false_of_pc I hl hp hnr, rfl, ?_⟩)⟩
    rw [← hk]; exact hspec
  · exact ⟨_, _, ginv_fin_other g I E hl hp hk f (hother k (fun e => hk e.symm))⟩

/-! ## the kinds of step -/

/-- What a transition of thread `t`, in local state `l`, from `s` to `s'` is for the ghost trace of a key: one constructor
for each class above, with the hypotheses of its lemma (`StepKind.ginv`). `stepN_facts` (`Lemmas/BinGNPBundle.lean`)
assigns one to every transition of `StepN`. -/
inductive StepKind (s : State) (t : Nat) (l : Local) (s' : State) : Prop
  | nocall {pc' : Pc} (hc : l.call = none) (f : Next s t { l with pc := pc' } [] s')
      (habs : ∀ k, absOf s' k = absOf s k)
  | invoke {k' : Nat} {op : KOp} {lo : Bool} (hpc : l.pc = .idle)
      (f : Next s t { pc := if isReader op then .rTable lo else .wTable, call := some ⟨k', op, s.now + 1⟩ } [] s')
      (habs : ∀ k, absOf s' k = absOf s k)
  | move {p : Pending} {pc' : Pc} {hp' : List NodeS} (hpc : l.call = some p) (hm : Move s t p l.pc pc' hp')
      (f : Next s t { l with pc := pc' } [] s') (habs : ∀ k, absOf s' k = absOf s k)
  | bmove {p : Pending} {pc' : Pc} {tb : List TBin} (hpc : l.call = some p) (hm : BMove s t p l.pc pc' tb)
      (f : Next s t { l with pc := pc' } [] s') (habs : ∀ k, absOf s' k = absOf s k)
  | fin {p : Pending} {res : KRes} {hp' : List NodeS} (hpc : l.call = some p) (hf : Fin s p l.pc res hp')
      (f : Next s t { pc := .idle, call := none } [(p.key, ⟨t, p.op, res, p.inv, s.now + 1⟩)] s')
      (habs : ∀ k, absOf s' k = absOf s k)
  | bfin {p : Pending} {res : KRes} {tb : List TBin} (hpc : l.call = some p) (hf : BFin s p l.pc res tb)
      (f : Next s t { pc := .idle, call := none } [(p.key, ⟨t, p.op, res, p.inv, s.now + 1⟩)] s')
      (habs : ∀ k, absOf s' k = absOf s k)
  | complete {p : Pending} {res : KRes} (hp : l.call = some p) (hres0 : resOfPc l.pc = none)
      (hnr : readerPc l.pc = false)
      (f : Next s t { pc := .idle, call := none } [(p.key, ⟨t, p.op, res, p.inv, s.now + 1⟩)] s')
      (hspec : specStep (absOf s p.key) p.op = (absOf s' p.key, res)) (hother : ∀ k, k ≠ p.key → absOf s' k = absOf s k)
  | point {p : Pending} {res : KRes} {pc' : Pc} (hp : l.call = some p) (hres0 : resOfPc l.pc = none)
      (hnr : readerPc l.pc = false) (f : Next s t { l with pc := pc' } [] s') (hres' : resOfPc pc' = some res)
      (hnr' : readerPc pc' = false)
      (hspec : specStep (absOf s p.key) p.op = (absOf s' p.key, res)) (hother : ∀ k, k ≠ p.key → absOf s' k = absOf s k)
  | silent {pc' : Pc} (f : Next s t { l with pc := pc' } [] s') (hres : resOfPc pc' = resOfPc l.pc)
      (hnr : readerPc pc' = false) (habs : ∀ k, absOf s' k = absOf s k)

/-- only the point of a call changes an abstract state -/
theorem StepKind.nocall_abs (K : StepKind s t l s') (hc : l.call = none) : ∀ k, absOf s' k = absOf s k := by
  cases K with
  | complete hp | point hp => exact nomatch hc.symm.trans hp
  | _ => assumption

theorem StepKind.ginv (K : StepKind s t l s') (g : GInv k s A pt) (I : Inv s) (E : Eff s s')
    (hl : s.threads[t]? = some l) : ∃ A' pt', GInv k s' A' pt' := by
  cases K with
  | nocall hc f habs => exact ginv_nocall g I E hl hc f habs
  | invoke hpc f habs => exact ginv_invoke g I E hl hpc f habs
  | move hpc hm f habs => exact ginv_move g I E hl hpc hm f habs
  | bmove hpc hm f habs => exact ginv_bmove g I E hl hpc hm f habs
  | fin hpc hf f habs => exact ginv_fin g I E hl hpc hf f habs
  | bfin hpc hf f habs => exact ginv_bfin g I E hl hpc hf f habs
  | complete hp hres0 hnr f hspec hother => exact ginv_complete g I E hl hp hres0 hnr f hspec hother
  | point hp hres0 hnr f hres' hnr' hspec hother => exact ginv_point g I E hl hp hres0 hnr f hres' hnr' hspec hother
  | silent f hres hnr habs => exact ginv_silent g I E hl f hres hnr habs

end Flurry.Proto.BinGNP
