import Flurry.Lemmas.BinTGhost
/-! # Proto/BinT: every transition preserves the ghost invariant (C01, tree bins; `reachable_ginv` is in `Props/C01BinT.lean`)

`ginv_step`: every transition preserves `∃ A pt, GInv k s A pt`. Linearization points: a value
store at `wVal`, an insert at `wTreeLink`, a removal at `wUnlinkLocked` (the list unlink, under the
write lock), a writer that changes nothing at `wFind`; a tree-mode reader at `rTree`; list-walking readers in
hindsight (`RdOK`). -/
namespace Flurry.Proto.BinT
open Flurry.Lin Flurry.Shared Flurry.GhostView

theorem RdOK_of_not_reader {A : Nat → KSt} {k inv : Nat} {s : State} {pc : Pc} (h : readerPc pc = false) :
    RdOK A k inv s pc := by
  cases pc <;> simp [readerPc] at h <;> simp only [RdOK]

theorem readers_step {k : Nat} {s s' : State} {A : Nat → KSt} {pt : Nat → Nat} {t : Nat} {l' : Local}
    (g : GInv k s A pt) (I : Inv s) (I' : Inv s') (hs : HeapStep s s')
    (hthr : s'.threads = s.threads.set t l') (hnow : s'.now = s.now + 1)
    (hself : ∀ (p : Pending), l'.call = some p → p.key = k →
      (p.inv ≤ s.now ∧ RdOK A k p.inv s l'.pc) ∨ RdOK (nextA A s.now (gAbs s' k)) k p.inv s' l'.pc) :
    ∀ (t1 : Nat) (l1 : Local) (p1 : Pending), s'.threads[t1]? = some l1 →
      l1.call = some p1 → p1.key = k → RdOK (nextA A s.now (gAbs s' k)) k p1.inv s' l1.pc := by
  intro t1 l1 p1 h1 hc1 hk1
  have hA'n : nextA A s.now (gAbs s' k) s'.now = gAbs s' k := by rw [hnow, nextA_new]
  rw [hthr] at h1
  rcases get_set h1 with ⟨rfl, rfl⟩ | ⟨_, h1⟩
  · rcases hself p1 hc1 hk1 with ⟨hi, hg⟩ | hg
    · exact hg.step I.heap I'.heap hs hnow (fun τ h => nextA_old h) g.hA hA'n hi
    · exact hg
  · exact (g.readers t1 l1 p1 h1 hc1 hk1).step I.heap I'.heap hs hnow (fun τ h => nextA_old h) g.hA hA'n
      (I.thr.pendTime t1 l1 p1 h1 hc1)

theorem resOfPc_invoke (op : KOp) : resOfPc (if isReader op then .rFirst else .wMutex) = none := by
  cases isReader op <;> rfl

section Step
/-! A step of thread `t` from `s` to `s'`: it goes from `l` to `l'`, the clock advances. -/
variable {k : Nat} {s s' : State} {A : Nat → KSt} {pt : Nat → Nat} {t : Nat} {l l' : Local}
  (g : GInv k s A pt) (I : Inv s) (I' : Inv s') (hs : HeapStep s s')
  (hl : s.threads[t]? = some l) (hthr : s'.threads = s.threads.set t l') (hnow : s'.now = s.now + 1)
include g I I' hs hthr hnow

/-- the ghost invariant after the step, from the trace of the key after it (one of the `Trace.*` step lemmas of
`Lemmas/GhostView.lean`) and what the acting thread knows as a reader -/
theorem ginv_next {pt' : Nat → Nat}
    (tr : GhostView.Trace Lin.sig (GhostView.callsOnExt Lin.sig view s'.hist s'.threads k s'.now) s'.now (gAbs s' k)
      (nextA A s.now (gAbs s' k)) pt')
    (hself : ∀ (p : Pending), l'.call = some p → p.key = k →
      (p.inv ≤ s.now ∧ RdOK A k p.inv s l'.pc) ∨ RdOK (nextA A s.now (gAbs s' k)) k p.inv s' l'.pc) :
    GInv k s' (nextA A s.now (gAbs s' k)) pt' := by
  rw [← callsOnExt_eq] at tr
  exact ⟨tr.h0, tr.hA, tr.calls, tr.stab, tr.inj, readers_step g I I' hs hthr hnow hself⟩

include hl

theorem ginv_other_key {hnew : List (Nat × Call)} {p : Pending}
    (hp : l.call = some p) (hk : p.key ≠ k)
    (hhist : s'.hist = hnew ++ s.hist) (hnk : ∀ x ∈ hnew, x.1 = p.key)
    (habs : gAbs s' k = gAbs s k) (hcall : l'.call = l.call ∨ l'.call = none) :
    GInv k s' (nextA A s.now (gAbs s' k)) pt := by
  have hk' : ∀ q, l.call = some q → q.key ≠ k := fun q hq => by rw [hp] at hq; cases hq; exact hk
  refine ginv_next g I I' hs hthr hnow
    (g.trace.other_key I.thr.gen hl hthr hnow hhist habs hk' (fun x hx e => hk ((hnk x hx).symm.trans e)) hcall) ?_
  intro p1 hp1 hk1
  rcases hcall with h | h
  · exact absurd hk1 (hk' p1 (h ▸ hp1))
  · rw [h] at hp1; cases hp1

theorem ginv_writer_point {p : Pending} {res : KRes}
    (hp : l.call = some p) (hk : p.key = k) (hhist : s'.hist = s.hist)
    (hres0 : resOfPc l.pc = none) (hres' : resOfPc l'.pc = some res) (hcall : l'.call = l.call)
    (hwr : isRead p.op = false) (hspec : specStep (gAbs s k) p.op = (gAbs s' k, res))
    (hnr : readerPc l'.pc = false) :
    GInv k s' (nextA A s.now (gAbs s' k)) (updPt pt p.inv (s.now + 1)) :=
  ginv_next g I I' hs hthr hnow
    (g.trace.writer_point (hnew := []) I.thr.gen hl hthr hnow hhist hp hk (fun _ h => nomatch h) hres0 hres' hcall
      hwr hspec)
    (fun _ _ _ => Or.inr (RdOK_of_not_reader hnr))

end Step

/-- the time that justifies the result of a read call that completes -/
theorem fin_point {k : Nat} {s : State} {A : Nat → KSt} {pt : Nat → Nat} {t : Nat} {pc : Pc}
    {p : Pending} {res : KRes} {m : Option Nat} {r : Nat}
    (g : GInv k s A pt) (I : Inv s) (hl : s.threads[t]? = some ⟨pc, some p⟩)
    (hk : p.key = k) (hf : Fin s p pc res m r) (hrd : isRead p.op = true) :
    ∃ τ0, p.inv ≤ τ0 ∧ τ0 ≤ s.now ∧ specStep (A τ0) p.op = (A τ0, res) := by
  have hpi := I.thr.pendTime t _ p hl rfl
  have hR : RdOK A k p.inv s pc := g.readers t _ p hl rfl hk
  have hP : PcInv s p pc := I.data.pcInv t _ p hl rfl
  have hO : PcOp pc p.op := I.thr.opOK t _ p hl rfl
  cases hf with
  | rMiss =>
    obtain ⟨τ, h1, h2, h3⟩ := hR.miss
    refine ⟨τ, h1, h2, ?_⟩
    rw [h3]
    rcases isRead_cases hrd with hop | hop <;> rw [hop] <;> rfl
  | @rLinHas c n hn hkey hop =>
    have hnode := nodeAt_of_some hn
    obtain ⟨τ, h1, h2, h3⟩ := Good.hit I.heap g.hA hpi hR (by rw [hnode, hkey, hk]) hP.2
    refine ⟨τ, h1, h2, ?_⟩
    rw [h3, hop]; rfl
  | rRelNone =>
    obtain ⟨τ, h1, h2, h3⟩ : AbsWit A p.inv s := hR
    refine ⟨τ, h1, h2, ?_⟩
    rw [h3]
    rcases isRead_cases hrd with hop | hop <;> rw [hop] <;> rfl
  | @rRelHas i hop =>
    obtain ⟨_, _, τ, h1, h2, h3⟩ : ValWit A k p.inv s i := hR
    refine ⟨τ, h1, h2, ?_⟩
    rw [h3, hop]; rfl
  | @rVal i n hn =>
    obtain ⟨_, _, τ, h1, h2, h3⟩ : ValWit A k p.inv s i := hR
    refine ⟨τ, h1, h2, ?_⟩
    rw [h3, nodeAt_of_some hn]
    rcases isRead_cases hrd with hop | hop
    · rw [hop]
      exact (fun x : Nat × Nat => (rfl : specStep (some x) .get = (some x, .some x.1 x.2))) _
    · exact absurd hop hP
  | unlockM =>
    have := hO (by simp)
    rw [isReader_eq_isRead, hrd] at this
    cases this

/-- a `Move` either keeps the thread on its side of its linearization point, or it is the `wFind`
step of a writer that changes nothing -/
theorem Move.res_keep {s : State} {t : Nat} {p : Pending} {pc pc' : Pc} {m : Option Nat} {w a : Bool} {r : Nat}
    (hm : Move s t p pc pc' m w a r) :
    resOfPc pc' = resOfPc pc ∨
    (resOfPc pc = none ∧ ∃ res, pc' = .wUnlockM res ∧ pc = .wFind ∧
      specStep (absOf s p.key) p.op = (absOf s p.key, res)) := by
  cases hm
  case findDone res h => exact Or.inr ⟨rfl, res, rfl, rfl, h⟩
  case lrTryOk rmv res _ _ _ => cases rmv <;> exact Or.inl rfl
  case lrLoopOk rmv res _ _ => cases rmv <;> exact Or.inl rfl
  case lrTryFail rmv res => cases rmv <;> exact Or.inl rfl
  all_goals exact Or.inl rfl

/-- what the new program counter of a reader knows (in the old state) -/
theorem Move.rdOK {k : Nat} {s : State} {A : Nat → KSt} {pt : Nat → Nat} {t : Nat} {p : Pending} {pc pc' : Pc}
    {m : Option Nat} {w a : Bool} {r : Nat}
    (hm : Move s t p pc pc' m w a r) (g : GInv k s A pt) (I : Inv s)
    (hl : s.threads[t]? = some ⟨pc, some p⟩) (hk : p.key = k) : RdOK A k p.inv s pc' := by
  have hpi := I.thr.pendTime t _ p hl rfl
  have hR : RdOK A k p.inv s pc := g.readers t _ p hl rfl hk
  have hP : PcInv s p pc := I.data.pcInv t _ p hl rfl
  cases hm with
  | rFirst => exact Good.first I.heap g.hA hpi
  | rLinMode _ | rTreeMode _ | rCasFail | rRelVal _ => exact hR
  | @rLinNext c n hn hne =>
    have hnode := nodeAt_of_some hn
    have := Good.next I.heap g.hA hpi hR (by rw [hnode, ← hk]; exact hne)
    rw [hnode] at this
    exact this
  | @rLinHit c n hn hkey _ =>
    have hnode := nodeAt_of_some hn
    have hkc : (nodeAt s.heap c).key = k := by rw [hnode, hkey, hk]
    exact ⟨hkc, hP.1, Good.hit I.heap g.hA hpi hR hkc hP.2⟩
  | rCasOk _ _ _ => trivial
  | rTree =>
    -- the reader holds a read lock, so `writer` is clear, so `gAbs = absOf` in this state: its point is this step
    have hw : s.writer = false := by
      cases hw : s.writer with
      | false => rfl
      | true =>
        have h1 := I.lock.reader_pos hl rfl
        have h2 := I.lock.wrd hw
        omega
    have hga := I.gAbs_eq_absOf_of_no_writer hw k
    rw [hk]
    cases hf : treeFind s k with
    | none =>
      refine ⟨s.now, hpi, Nat.le_refl _, ?_⟩
      rw [g.hA, hga]; unfold absOf; rw [hf]
    | some i =>
      obtain ⟨hi, _, hik⟩ := treeFind_some hf
      refine ⟨hik, hi, s.now, hpi, Nat.le_refl _, ?_⟩
      rw [g.hA, hga]; unfold absOf; rw [hf]; rfl
  | wMutex _ | findVal _ _ | findPrepend _ | findRemove _ _ | findDone _ | lrTryFail | lrLoopWait _
  | restructNone | unlockRoot => exact RdOK_of_not_reader rfl
  | @lrTryOk rmv res _ _ _ | @lrLoopOk rmv res _ _ => cases rmv <;> exact RdOK_of_not_reader rfl

theorem Fin.kind {s : State} {p : Pending} {pc : Pc} {res : KRes} {m : Option Nat} {r : Nat}
    (hf : Fin s p pc res m r) :
    (readerPc pc = true ∧ resOfPc pc = none) ∨ (pc = .wUnlockM res ∧ m = none ∧ r = s.readers) := by
  cases hf
  case unlockM => exact Or.inr ⟨rfl, rfl, rfl⟩
  all_goals exact Or.inl ⟨rfl, rfl⟩

theorem isRead_false_of_pc {s : State} (I : Inv s) {t : Nat} {l : Local} {p : Pending}
    (hl : s.threads[t]? = some l) (hp : l.call = some p) (hni : l.pc ≠ .idle) (hnr : readerPc l.pc = false) :
    isRead p.op = false := by
  have := I.thr.opOK t l p hl hp hni
  rw [← isReader_eq_isRead, this, hnr]

theorem ginv_store {k : Nat} {s s' : State} {A : Nat → KSt} {pt : Nat → Nat} {t : Nat} {l l' : Local}
    {p : Pending} {res : KRes} (g : GInv k s A pt) (I : Inv s) (hl : s.threads[t]? = some l)
    (hp : l.call = some p) (S : StoreOK s s' p res) (hthr : s'.threads = s.threads.set t l')
    (hnow : s'.now = s.now + 1) (hhist : s'.hist = s.hist) (hcall : l'.call = l.call)
    (hni : l.pc ≠ .idle) (hnr : readerPc l.pc = false) (hnr' : readerPc l'.pc = false)
    (hres0 : resOfPc l.pc = none) (hres' : resOfPc l'.pc = some res) : ∃ A' pt', GInv k s' A' pt' := by
  obtain ⟨I', hs, hother, hspec⟩ := S
  by_cases hk : p.key = k
  · subst hk
    exact ⟨_, _, ginv_writer_point g I I' hs hl hthr hnow hp rfl hhist hres0 hres' hcall
      (isRead_false_of_pc I hl hp hni hnr) hspec hnr'⟩
  · exact ⟨_, _, ginv_other_key (hnew := []) g I I' hs hl hthr hnow hp hk (by rw [hhist]; rfl) (by simp)
      (hother k (fun e => hk e.symm)) (Or.inl hcall)⟩

theorem ginv_silent {k : Nat} {s s' : State} {A : Nat → KSt} {pt : Nat → Nat} {t : Nat} {l l' : Local}
    (g : GInv k s A pt) (I : Inv s) (hl : s.threads[t]? = some l) (S : SilentOK s s')
    (hthr : s'.threads = s.threads.set t l') (hnow : s'.now = s.now + 1) (hhist : s'.hist = s.hist)
    (hpc : resOfPc l'.pc = resOfPc l.pc) (hcall : l'.call = l.call) (hnr' : readerPc l'.pc = false) :
    ∃ A' pt', GInv k s' A' pt' :=
  ⟨_, _, ginv_next g I S.1 S.2.1 hthr hnow
    (g.trace.quiet_keep (hnew := []) I.thr.gen hl hthr hnow hhist (S.2.2 k) (fun _ h => nomatch h) hpc hcall)
    (fun _ _ _ => Or.inr (RdOK_of_not_reader hnr'))⟩

theorem ginv_step {k : Nat} {s s' : State} {A : Nat → KSt} {pt : Nat → Nat} {t : Nat} {pc : Pc}
    {call : Option Pending} (g : GInv k s A pt) (I : Inv s) (hl : s.threads[t]? = some ⟨pc, call⟩)
    (hstep : StepK s t pc call s') : ∃ A' pt', GInv k s' A' pt' := by
  have I' := stepK_inv I hl hstep
  cases hstep with
  | idle =>
    refine ⟨_, _, ginv_next g I I' (.of_same I.heap rfl rfl) rfl rfl
      (g.trace.quiet_keep (hnew := []) I.thr.gen hl rfl rfl rfl (gAbs_congr rfl rfl k) (fun _ h => nomatch h) rfl rfl)
      ?_⟩
    intro p hp hk
    exact Or.inl ⟨I.thr.pendTime t _ p hl hp, g.readers t _ p hl hp hk⟩
  | invoke _ k' op =>
    refine ⟨_, _, ginv_next g I I' (.of_same I.heap rfl rfl) rfl rfl
      (g.trace.quiet_none (hnew := []) I.thr.gen hl rfl rfl rfl (gAbs_congr rfl rfl k) (fun _ h => nomatch h)
        (GhostView.extOf_none_of_res rfl)
        (GhostView.extOf_none_of_res (resOfPc_invoke op))) ?_⟩
    intro p _ _
    refine Or.inr ?_
    show RdOK _ _ _ _ (if isReader op then .rFirst else .wMutex)
    cases isReader op <;> trivial
  | move p pc' m w a r hm =>
    have hs : HeapStep s (syncTo s m w a r s.hist t ⟨pc', some p⟩) := .of_same I.heap rfl rfl
    have habs : gAbs (syncTo s m w a r s.hist t ⟨pc', some p⟩) k = gAbs s k := gAbs_congr rfl rfl k
    by_cases hk : p.key = k
    · rcases hm.res_keep with hkeep | ⟨hres0, res, rfl, rfl, hspec⟩
      · refine ⟨_, _, ginv_next g I I' hs rfl rfl
          (g.trace.quiet_keep (hnew := []) I.thr.gen hl rfl rfl rfl habs (fun _ h => nomatch h) hkeep rfl) ?_⟩
        intro p1 hp1 _
        cases hp1
        exact Or.inl ⟨I.thr.pendTime t _ p hl rfl, hm.rdOK g I hl hk⟩
      · have hga : gAbs s k = absOf s k := gAbs_eq_absOf I.heap (I.tree_sub_chain_of_crit hl rfl (by simp)) k
        refine ⟨_, _, ginv_writer_point g I I' hs hl rfl rfl rfl hk rfl
          hres0 rfl rfl (isRead_false_of_pc I hl rfl (by simp) rfl) ?_ rfl⟩
        rw [habs, hga, ← hk]; exact hspec
    · exact ⟨_, _, ginv_other_key (hnew := []) g I I' hs hl rfl rfl rfl hk rfl (by simp) habs (Or.inl rfl)⟩
  | fin p res m r hf =>
    have hs : HeapStep s (syncTo s m s.writer s.waiter r ((p.key, ⟨t, p.op, res, p.inv, s.now + 1⟩) :: s.hist) t
        ⟨.idle, none⟩) := .of_same I.heap rfl rfl
    have habs : gAbs (syncTo s m s.writer s.waiter r ((p.key, ⟨t, p.op, res, p.inv, s.now + 1⟩) :: s.hist) t
        ⟨.idle, none⟩) k = gAbs s k := gAbs_congr rfl rfl k
    by_cases hk : p.key = k
    · rcases hf.kind with ⟨hrp, hres0⟩ | ⟨rfl, -, -⟩
      · have hni : pc ≠ .idle := by intro h; rw [h] at hrp; cases hrp
        have hrd : isRead p.op = true := by
          rw [← isReader_eq_isRead, I.thr.opOK t _ p hl rfl hni, hrp]
        obtain ⟨τ0, h1, h2, h3⟩ := fin_point g I hl hk hf hrd
        exact ⟨_, _, ginv_next g I I' hs rfl rfl
          (g.trace.call_fin I.thr.gen hl rfl rfl rfl rfl hk hres0 rfl (Or.inl ⟨hrd, habs, h1, h2, h3⟩))
          (fun _ h => nomatch h)⟩
      · exact ⟨_, _, ginv_next (l' := { pc := .idle, call := none }) g I I' hs rfl rfl
          (g.trace.respond I.thr.gen hl rfl rfl rfl habs rfl hk rfl rfl) (fun _ h => nomatch h)⟩
    · exact ⟨_, _, ginv_other_key (hnew := [(p.key, ⟨t, p.op, res, p.inv, s.now + 1⟩)])
        (l' := { pc := .idle, call := none }) g I I' hs hl rfl rfl rfl hk rfl
        (by intro x hx; rw [List.mem_singleton.1 hx]) habs (Or.inr rfl)⟩
  | val p i v res => exact ginv_store g I hl rfl (val_facts I hl) rfl rfl rfl rfl (by simp) rfl rfl rfl rfl
  | prepend p v vi hop => exact ginv_silent g I hl (prepend_facts I hl hop) rfl rfl rfl rfl rfl rfl
  | treeLink p x bal =>
    exact ginv_store g I hl rfl (treeLink_facts bal I hl) rfl rfl rfl rfl (by simp) rfl (by cases bal <;> rfl) rfl
      (by cases bal <;> rfl)
  | unlink p i res => exact ginv_store g I hl rfl (unlink_facts I hl) rfl rfl rfl rfl (by simp) rfl rfl rfl rfl
  | untree p i res => exact ginv_silent g I hl (untree_facts I hl) rfl rfl rfl rfl rfl rfl
  | dead p i res s' => exact (I.data.pcInv t _ p hl rfl : PcInv s p (.wListUnlink i res)).elim

end Flurry.Proto.BinT
