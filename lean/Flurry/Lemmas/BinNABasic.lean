import Flurry.Lemmas.BinNAStep
import Flurry.Lemmas.SharedBasic
import Flurry.Lemmas.GhostView
/-! # Proto/BinNA: basic facts (cells, locks, indices, bin contents) and the invariants (definitions)

* `getCell_setCell`, `getLock_setLock`;
* arithmetic of the cell indices: `ix_succ` (the child of a key's cell), `ix_ix`;
* bin contents: `lookup_filter` (splitting), `lookup_newContent` (the writer's store);
* `TInv` (times, unique invocation stamps — as `Proto/BinX`; `tinv_post`: kept by every successor state), `Shape`, `Fwd` ("a thread may work in
  generation `g`"), `PcOK` (what a program counter knows), `Inv` (the structural invariant). -/
namespace Flurry.Proto.BinNA
open Flurry.Lin

export Flurry.Shared (get_set get_set_self get_set_ne)

export Flurry.Shared (getD2_modify_set getD2_modify_set_of_lt len2_modify_set getD2_append_replicate getD2_singleton)

theorem getCell_setCell (s : State) (g j g' j' : Nat) (c : Cell) :
    getCell (setCell s g j c) g' j' =
      if g' = g ∧ j' = j ∧ j < (s.tabs.getD g []).length then c else getCell s g' j' :=
  getD2_modify_set s.tabs g j g' j' c .empty

theorem getLock_setLock (s : State) (g j g' j' : Nat) (x : Option Nat) :
    getLock (setLock s g j x) g' j' =
      if g' = g ∧ j' = j ∧ j < (s.locks.getD g []).length then x else getLock s g' j' :=
  getD2_modify_set s.locks g j g' j' x none

theorem getCell_oob {s : State} {g j : Nat} (h : s.tabs.length ≤ g) : getCell s g j = .empty := by
  unfold getCell
  simp [List.getD_eq_getElem?_getD, List.getElem?_eq_none h]

theorem ix_lt (g k : Nat) : ix g k < 2 ^ g := Shared.mod_lt_pow k g

theorem ix_succ (g k : Nat) : ix (g + 1) k = if hiBit g k then ix g k + 2 ^ g else ix g k := by
  unfold ix hiBit
  rw [Nat.mod_pow_succ]
  rcases Nat.mod_two_eq_zero_or_one (k / 2 ^ g) with h | h
  · rw [h, Nat.mul_zero, Nat.add_zero]; rfl
  · rw [h, Nat.mul_one]; rfl

theorem ix_ix (g k : Nat) : ix (g + 1) k % 2 ^ g = ix g k := Shared.mod_succ_mod k g

theorem ix_mod (g k : Nat) : ix g k % 2 ^ g = ix g k := Nat.mod_eq_of_lt (ix_lt g k)

theorem lookup_cons (k : Nat) (e : Entry) (xs : List Entry) :
    lookup k (e :: xs) = if e.1 = k then some e.2 else lookup k xs := by
  unfold lookup
  rw [List.find?_cons]
  by_cases h : e.1 = k
  · simp [h]
  · have hb : (e.1 == k) = false := by simpa using h
    simp [h, hb]

theorem lookup_filter (k : Nat) (q : Nat → Bool) (xs : List Entry) :
    lookup k (xs.filter (fun e => q e.1)) = if q k then lookup k xs else none := by
  induction xs with
  | nil => cases q k <;> rfl
  | cons e xs ih =>
    rw [lookup_cons, List.filter_cons]
    by_cases he : e.1 = k
    · subst he
      rw [if_pos rfl]
      cases hq : q e.1
      · rw [if_neg Bool.false_ne_true, if_neg Bool.false_ne_true, ih, hq, if_neg Bool.false_ne_true]
      · rw [if_pos rfl, if_pos rfl, lookup_cons, if_pos rfl]
    · rw [if_neg he]
      cases hq : q e.1
      · rw [if_neg Bool.false_ne_true]; exact ih
      · rw [if_pos rfl, lookup_cons, if_neg he]; exact ih

theorem lookup_splitLo (g k : Nat) (xs : List Entry) :
    lookup k (splitLo g xs) = if hiBit g k then none else lookup k xs := by
  unfold splitLo
  rw [lookup_filter k (fun a => !hiBit g a)]
  cases hiBit g k <;> rfl

theorem lookup_splitHi (g k : Nat) (xs : List Entry) :
    lookup k (splitHi g xs) = if hiBit g k then lookup k xs else none :=
  lookup_filter k (fun a => hiBit g a) xs

theorem cellAbs_mkCell (k : Nat) (xs : List Entry) : cellAbs k (mkCell xs) = lookup k xs := by
  cases xs <;> rfl

theorem mkCell_ne_moved (xs : List Entry) : mkCell xs ≠ .moved := by
  cases xs <;> simp [mkCell]

theorem cellAbs_content {k : Nat} {c : Cell} (h : c ≠ .moved) : cellAbs k c = lookup k (content c) := by
  cases c with
  | empty => rfl
  | list xs => rfl
  | moved => exact absurd rfl h

theorem lookup_map_put (k k' : Nat) (v : Nat × Nat) (xs : List Entry) :
    lookup k' (xs.map (fun e => if e.1 == k then (k, v) else e)) =
      if k' = k then (lookup k xs).map (fun _ => v) else lookup k' xs := by
  induction xs with
  | nil => simp [lookup]
  | cons e xs ih =>
    simp only [List.map_cons, lookup_cons, ih]
    by_cases he : e.1 = k <;> by_cases hk : k' = k
    · subst hk; simp [he]
    · have h1 : ¬ k = k' := fun h => hk h.symm
      have h2 : ¬ e.1 = k' := fun h => hk (h.symm.trans he)
      simp [he, hk, h1]
    · subst hk; simp [he]
    · simp [he, hk]

theorem lookup_append_single (k k' : Nat) (v : Nat × Nat) (xs : List Entry) :
    lookup k' (xs ++ [(k, v)]) = match lookup k' xs with | some w => some w | none => if k' = k then some v else none := by
  unfold lookup
  rw [List.find?_append]
  cases h : xs.find? (fun e => e.1 == k') with
  | some w => simp
  | none =>
    by_cases hk : k' = k
    · subst hk; simp
    · have : ¬ (k = k') := fun e => hk e.symm
      simp [hk, this]

theorem lookup_newContent (k k' : Nat) (xs : List Entry) (st : KSt) :
    lookup k' (newContent k xs st) = if k' = k then st else lookup k' xs := by
  cases st with
  | none =>
    show lookup k' (xs.filter (fun e => !(e.1 == k))) = _
    rw [lookup_filter k' (fun a => !(a == k))]
    by_cases h : k' = k
    · rw [if_pos h, if_neg (by rw [h, beq_self_eq_true]; exact Bool.false_ne_true)]
    · rw [if_neg h, if_pos (by rw [beq_eq_false_iff_ne.2 h]; rfl)]
  | some v =>
    show lookup k' (if (lookup k xs).isSome then _ else _) = _
    split
    · rename_i h
      obtain ⟨w, hw⟩ := Option.isSome_iff_exists.1 h
      rw [lookup_map_put, hw]; rfl
    · rename_i h
      rw [lookup_append_single]
      by_cases hk : k' = k
      · subst hk
        rw [Option.not_isSome_iff_eq_none.1 h, if_pos rfl]
      · simp only [if_neg hk]
        cases lookup k' xs <;> rfl

def PcOp : Pc → KOp → Prop
  | .rTable, op => isReader op = true
  | .rCell _, op => isReader op = true
  | .wTable, op => isReader op = false
  | .wCell _, op => isReader op = false
  | .wCas _, op => isReader op = false
  | .wLock _, op => isReader op = false
  | .wCheck _, op => isReader op = false
  | .wStore _, op => isReader op = false
  | .wUnlock _ _ _, op => isReader op = false
  | _, _ => True

def isT : Pc → Prop
  | .tNext | .tCell _ | .tCasMoved _ | .tLock _ | .tCheck _ | .tStoreLow _ _ _ | .tStoreHigh _ _
  | .tStoreMoved _ | .tUnlock _ | .tCommit => True
  | _ => False

def isOp : Pc → Prop
  | .rTable | .rCell _ | .wTable | .wCell _ | .wCas _ | .wLock _ | .wCheck _ | .wStore _
  | .wUnlock _ _ _ => True
  | _ => False

structure TInv (s : State) : Prop where
  opOK : ∀ (t : Nat) (l : Local) (p : Pending), s.threads[t]? = some l → l.call = some p → PcOp l.pc p.op
  callOK : ∀ (t : Nat) (l : Local), s.threads[t]? = some l → (isOp l.pc ↔ l.call.isSome)
  histTime : ∀ x ∈ s.hist, x.2.inv ≤ x.2.resp ∧ x.2.resp ≤ s.now
  pendTime : ∀ (t : Nat) (l : Local) (p : Pending), s.threads[t]? = some l → l.call = some p → p.inv ≤ s.now
  uniqHP : ∀ x ∈ s.hist, ∀ (t : Nat) (l : Local) (p : Pending), s.threads[t]? = some l → l.call = some p →
    x.2.inv ≠ p.inv
  uniqPP : ∀ (t t' : Nat) (l l' : Local) (p p' : Pending), s.threads[t]? = some l → s.threads[t']? = some l' →
    l.call = some p → l'.call = some p' → p.inv = p'.inv → t = t'
  uniqHH : s.hist.Pairwise (fun x y => x.2.inv ≠ y.2.inv)

/-- the result of a writer that has stored and only has to unlock -/
def resOfPc : Pc → Option KRes
  | .wUnlock _ res false => some res
  | _ => none

/-- how the ghost layer reads a thread -/
@[reducible] def view : GhostView.View Local Pending KOp KRes :=
  ⟨Local.call, fun l => resOfPc l.pc, Pending.key, Pending.op, Pending.inv⟩

theorem TInv.gen {s : State} (T : TInv s) :
    GhostView.Threads Lin.sig view (fun l p => PcOp l.pc p.op) s.threads s.hist s.now :=
  ⟨T.opOK, T.histTime, T.pendTime, T.uniqHP, T.uniqPP, T.uniqHH⟩

theorem TInv.of_gen {s : State}
    (T : GhostView.Threads Lin.sig view (fun l p => PcOp l.pc p.op) s.threads s.hist s.now)
    (hc : ∀ (t : Nat) (l : Local), s.threads[t]? = some l → (isOp l.pc ↔ l.call.isSome)) : TInv s :=
  ⟨T.opOK, hc, T.histTime, T.pendTime, T.uniqHP, T.uniqPP, T.uniqHH⟩

theorem tinv_post {s : State} {t : Nat} {l l' : Local} {hnew : List (Nat × Call)} {m : Mem} (T : TInv s)
    (hl : s.threads[t]? = some l)
    (hop : ∀ p, l'.call = some p → PcOp l'.pc p.op) (hcall : isOp l'.pc ↔ l'.call.isSome)
    (hpend : ∀ p, l'.call = some p → l.call = some p ∨ p.inv = s.now + 1)
    (hhist : hnew = [] ∨ ∃ p res, l.call = some p ∧ l'.call = none ∧ hnew = done s t p res) :
    TInv (post s t l' hnew m) := by
  refine .of_gen (T.gen.step (hnew := hnew) hl rfl rfl rfl hop hpend ?_) ?_
  · intro x hx
    rcases hhist with rfl | ⟨p, res, hp, hn, rfl⟩
    · cases hx
    · cases List.mem_singleton.1 hx
      exact ⟨rfl, hn, rfl, p, hp, rfl⟩
  · intro t1 l1 h1
    rcases get_set (l := s.threads) h1 with ⟨rfl, rfl⟩ | ⟨_, h1⟩
    · exact hcall
    · exact T.callOK t1 l1 h1

theorem tinv_keep {s : State} {t : Nat} {l l' : Local} {m : Mem} (T : TInv s) (hl : s.threads[t]? = some l)
    (hcall : l'.call = l.call) (hpc : ∀ p, l.call = some p → PcOp l'.pc p.op) (hop : isOp l'.pc ↔ isOp l.pc) :
    TInv (post s t l' [] m) :=
  tinv_post T hl (fun p h => hpc p (hcall ▸ h)) (by rw [hop, hcall]; exact T.callOK t l hl)
    (fun p h => .inl (hcall ▸ h)) (.inl rfl)

theorem tinv_finish {s : State} {t : Nat} {l : Local} {p : Pending} {res : KRes} {m : Mem} (T : TInv s)
    (hl : s.threads[t]? = some l) (hp : l.call = some p) : TInv (post s t ⟨.idle, none⟩ (done s t p res) m) :=
  tinv_post T hl (fun _ h => nomatch h) ⟨False.elim, fun h => nomatch h⟩ (fun _ h => nomatch h)
    (.inr ⟨p, res, hp, rfl, rfl⟩)

structure Shape (s : State) : Prop where
  len : s.tabs.length = s.cur + 1 + (if s.resizing = true then 1 else 0)
  llen : s.locks.length = s.tabs.length
  row : ∀ g, g < s.tabs.length → (s.tabs.getD g []).length = 2 ^ g
  lrow : ∀ g, g < s.tabs.length → (s.locks.getD g []).length = 2 ^ g

/-- a thread may work on cell `(g, j)`: `g` is at most the generation being filled, and then the
parent cell has been forwarded -/
def Fwd (s : State) (g j : Nat) : Prop :=
  g ≤ s.cur + 1 ∧ (g = s.cur + 1 → getCell s s.cur (j % 2 ^ s.cur) = .moved)

/-- the key a thread works on (irrelevant for a thread without a call) -/
def keyOf : Option Pending → Nat
  | some p => p.key
  | none => 0

/-- what the program counter of thread `t` (working on key `key`) knows about the shared state -/
def PcOK (s : State) (t key : Nat) : Pc → Prop
  | .idle | .rTable | .wTable => True
  | .rCell g | .wCell g | .wCas g | .wLock g => Fwd s g (ix g key)
  | .wCheck g | .wUnlock g _ _ => Fwd s g (ix g key) ∧ getLock s g (ix g key) = some t
  | .wStore g => Fwd s g (ix g key) ∧ getLock s g (ix g key) = some t ∧
      isList (getCell s g (ix g key)) = true
  | .tNext => s.resizing = true
  | .tCommit => s.resizing = true ∧ ∀ j, j < 2 ^ s.cur → getCell s s.cur j = .moved
  | .tCell j | .tCasMoved j | .tLock j => s.resizing = true ∧ j < 2 ^ s.cur
  | .tCheck j | .tUnlock j => s.resizing = true ∧ j < 2 ^ s.cur ∧ getLock s s.cur j = some t
  | .tStoreLow j lo hi => s.resizing = true ∧ j < 2 ^ s.cur ∧ getLock s s.cur j = some t ∧
      ∃ xs, getCell s s.cur j = .list xs ∧ lo = mkCell (splitLo s.cur xs) ∧ hi = mkCell (splitHi s.cur xs) ∧
        getCell s (s.cur + 1) j = .empty ∧ getCell s (s.cur + 1) (j + 2 ^ s.cur) = .empty
  | .tStoreHigh j hi => s.resizing = true ∧ j < 2 ^ s.cur ∧ getLock s s.cur j = some t ∧
      ∃ xs, getCell s s.cur j = .list xs ∧ getCell s (s.cur + 1) j = mkCell (splitLo s.cur xs) ∧
        hi = mkCell (splitHi s.cur xs) ∧ getCell s (s.cur + 1) (j + 2 ^ s.cur) = .empty
  | .tStoreMoved j => s.resizing = true ∧ j < 2 ^ s.cur ∧ getLock s s.cur j = some t ∧
      ∃ xs, getCell s s.cur j = .list xs ∧ getCell s (s.cur + 1) j = mkCell (splitLo s.cur xs) ∧
        getCell s (s.cur + 1) (j + 2 ^ s.cur) = mkCell (splitHi s.cur xs)

/-- the resizing thread has stored (some of) the children of cell `j` but not yet the marker -/
def MidAt : Pc → Nat → Prop
  | .tStoreHigh j _, j' => j = j'
  | .tStoreMoved j, j' => j = j'
  | _, _ => False

structure Inv (s : State) : Prop where
  shape : Shape s
  thr : TInv s
  /-- every cell of an older generation is a forwarding marker (for ever) -/
  old : ∀ g j, g < s.cur → j < 2 ^ g → getCell s g j = .moved
  /-- no cell of a generation above the current one is a marker -/
  newer : ∀ g j, s.cur < g → getCell s g j ≠ .moved
  -- with `newer`, what lets the marker-following lookup stop after two generations (`Inv.liveFrom_eq`, `livePos`):
  -- a marker in generation `cur` means a resize is running, so generation `cur + 1` exists and has no marker
  noRz : s.resizing = false → ∀ j, getCell s s.cur j ≠ .moved
  /-- the children of a cell that is not forwarded are empty unless the resizer is just storing them -/
  child : ∀ j', getCell s s.cur (j' % 2 ^ s.cur) ≠ .moved →
    (∀ (t : Nat) (l : Local), s.threads[t]? = some l → ¬ MidAt l.pc (j' % 2 ^ s.cur)) → getCell s (s.cur + 1) j' = .empty
  -- across a transition the moving thread's `PcOK` is `hself` of `inv_eff`, that of the others survives by `Keeps`
  pc : ∀ (t : Nat) (l : Local), s.threads[t]? = some l → PcOK s t (keyOf l.call) l.pc
  -- one resizing thread at a time: the quantifier over threads in `child` is discharged from that thread's own
  -- program counter (`Inv.noMid`)
  uniqT : ∀ (t t' : Nat) (l l' : Local), s.threads[t]? = some l → s.threads[t']? = some l' → isT l.pc → isT l'.pc → t = t'

end Flurry.Proto.BinNA
