import Flurry.Lemmas.TableNI
/-! # Proto/TableNI: non-vacuity — a table iteration alive across a resize of EACH lineage

Two lineages (`m = 2`: keys 0, 2 are the local keys 0, 1 of lineage 0; keys 1, 3 those of lineage 1), two
threads (plus the clock thread 2), 72 transitions on one clock.

* thread 0 inserts keys 0, 2 (lineage 0) and 1, 3 (lineage 1) (clock 1–26);
* **thread 1 creates its table iteration**: the iterator of lineage 0 at clock 27, of lineage 1 at clock 28
  (both load generation 0 of their lineage);
* thread 0 **resizes lineage 0** (0 → 1, clock 29–40), then **lineage 1** (0 → 1, clock 41–52), then
  **overwrites key 2** (`ins 21 201`, clock 53–60) — keys 0, 1, 3 are left untouched;
* thread 1 walks: two steps in lineage 0, two in lineage 1 (both find the forwarding marker of generation 0
  and descend), then lineage 0 to the end (clock 68), then lineage 1 to the end (clock 72).

The table iteration `(thread 1, c = [27, 28], e = [68, 72])` is completed, within `[27, 72]`; it yields every
key exactly once: the untouched keys 0, 1, 3 with their values, the overwritten key 2 with its new value. -/
namespace Flurry.Proto.TableNI
open Flurry.Lin Flurry.LinMap

/-- `(lineage, thread, create an iterator, invocation (key of the table), resize, pick)` -/
abbrev Sch := Nat × Nat × Bool × Option (Nat × KOp) × Bool × Nat

def run (S : State) : List Sch → Option State
  | [] => some S
  | (i, t, mk, inv, rz, pick) :: rest =>
    match step S i t mk inv rz pick with
    | some S' => run S' rest
    | none => none

theorem run_reachable {m n : Nat} : ∀ (sched : List Sch) {S S' : State},
    Reachable m n S → run S sched = some S' → Reachable m n S'
  | [], S, S', hr, h => by
    simp only [run, Option.some.injEq] at h
    exact h ▸ hr
  | (i, t, mk, inv, rz, pick) :: rest, S, S', hr, h => by
    simp only [run] at h
    cases hs : step S i t mk inv rz pick with
    | none => rw [hs] at h; cases h
    | some S1 =>
      rw [hs] at h
      exact run_reachable rest (Reachable.step i t mk inv rz pick hr hs) h

abbrev call (i t k : Nat) (op : KOp) : List Sch := [(i, t, false, some (k, op), false, 0)]
/-- `n` further steps of thread `t` in lineage `i` (of its call, its resize, or its iterator) -/
abbrev go (i t n : Nat) : List Sch := List.replicate n (i, t, false, none, false, 0)
abbrev resize (i t : Nat) : List Sch := [(i, t, false, none, true, 0)]
/-- thread `t` creates its iterator of lineage `i` -/
abbrev mkIter (i t : Nat) : List Sch := [(i, t, true, none, false, 0)]

def exSchedule : List Sch :=
  call 0 0 0 (.ins 10 100) ++ go 0 0 3 ++ call 0 0 2 (.ins 20 200) ++ go 0 0 8 ++
  call 1 0 1 (.ins 11 101) ++ go 1 0 3 ++ call 1 0 3 (.ins 30 300) ++ go 1 0 8 ++
  mkIter 0 1 ++ mkIter 1 1 ++
  resize 0 0 ++ go 0 0 11 ++ resize 1 0 ++ go 1 0 11 ++
  call 0 0 2 (.ins 21 201) ++ go 0 0 7 ++
  go 0 1 2 ++ go 1 1 2 ++ go 0 1 4 ++ go 1 1 4

/-- creation and end times of the per-lineage iterations of thread 1 -/
def exC : Nat → Nat := fun i => if i = 0 then 27 else 28
def exE : Nat → Nat := fun i => if i = 0 then 68 else 72

def exYields : List BinNI.Yield :=
  [⟨1, 27, 2, (21, 201), 67⟩, ⟨1, 27, 0, (10, 100), 65⟩, ⟨1, 28, 3, (30, 300), 71⟩, ⟨1, 28, 1, (11, 101), 69⟩]

def exAbs : List KSt := [some (10, 100), some (11, 101), some (21, 201), some (30, 300), none, none]

/-- per lineage: table pointer, a resize is running, clock, live iterators -/
def shape (S : State) : List (Nat × Bool × Nat × List (Option BinNI.Iter)) :=
  S.bins.map fun b => (b.n.cur, b.n.resizing, b.n.now, b.its)

def exShape : List (Nat × Bool × Nat × List (Option BinNI.Iter)) :=
  [(1, false, 72, [none, none, none]), (1, false, 72, [none, none, none])]

/-- decidable form of `Completed.ends` -/
def endsB (S : State) (t : Nat) (c e : Nat → Nat) : Bool :=
  (List.range S.bins.length).all fun i => (S.bins.getD i (BinNI.init 0)).ends.contains (t, c i, e i)

theorem completed_of_endsB {S : State} {t : Nat} {c e : Nat → Nat} {τ0 τ1 : Nat} (h : endsB S t c e = true)
    (lo : ∀ i, i < S.bins.length → τ0 ≤ c i) (hi : ∀ i, i < S.bins.length → e i ≤ τ1) : Completed S t c e τ0 τ1 := by
  refine ⟨?_, lo, hi⟩
  intro i b hb
  have hil : i < S.bins.length := (List.getElem?_eq_some_iff.1 hb).1
  have := List.all_eq_true.1 h i (List.mem_range.2 hil)
  rw [getD_of_get hb] at this
  simpa using this

/-- what the run of `exSchedule` ends in -/
theorem exRun :
    (run (init 2 2) exSchedule).any (fun S =>
      S.bins.length == 2 && S.bins.all (fun b => b.n.threads.all (fun l => l.pc == .idle)) && endsB S 1 exC exE &&
      tyields S == exYields && (List.range 6).map (absMap S) == exAbs && shape S == exShape &&
      (List.range 4).map (fun k => (yieldsOf S 1 exC k).length) == [1, 1, 1, 1]) = true := by decide +kernel

/-- the same run up to clock 40: lineage 0 has been resized (generation 0 forwarded), both iterators of thread 1,
created before, are still at their first cell -/
def exDuring : Bool :=
  match run (init 2 2) (exSchedule.take 40) with
  | some S => S.bins.map (fun b => (b.n.cur, b.n.now, b.its.getD 1 none)) ==
      [(1, 40, some ⟨27, 0, none, [(0, 0)]⟩), (0, 40, some ⟨28, 0, none, [(0, 0)]⟩)]
  | none => false

theorem exDuring_true : exDuring = true := by decide +kernel

theorem example_state :
    ∃ S : State, Reachable 2 2 S ∧ quiescent S ∧ Completed S 1 exC exE 27 72 ∧ tyields S = exYields ∧
      (List.range 6).map (absMap S) = exAbs ∧ shape S = exShape ∧
      (List.range 4).map (fun k => (yieldsOf S 1 exC k).length) = [1, 1, 1, 1] := by
  obtain ⟨S, hrun, h⟩ := (Option.any_eq_true _ _).1 exRun
  simp only [Bool.and_eq_true, List.all_eq_true, beq_iff_eq] at h
  obtain ⟨⟨⟨⟨⟨⟨-, hq⟩, he⟩, hy⟩, ha⟩, hs⟩, h1⟩ := h
  refine ⟨S, run_reachable exSchedule Reachable.init hrun, fun b hb l hl => hq b hb l hl, ?_, hy, ha, hs, h1⟩
  refine completed_of_endsB he ?_ ?_
  · intro i _; unfold exC; split <;> omega
  · intro i _; unfold exE; split <;> omega

end Flurry.Proto.TableNI
