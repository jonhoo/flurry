import Flurry.Lemmas.BinWStep
import Flurry.Lemmas.BinRWalk
/-! # Proto/BinW: the remembered positions of a walking writer are the current ones (C01)

* `Walk B key pred cur`: the nodes walked over are a prefix `l1` of the current chain without the
  key, `pred` is the last of them and `cur` is the head of the rest.
* **`storeAt_eq_writerStore`**: under `Walk`, storing through the remembered positions is exactly
  `Bin.writerStore` on the current state.

That `Walk` holds for every walking writer of a reachable state (nobody else changes the chain while
a validated writer exists) is shown for `Proto/BinR` (`Lemmas/BinRWalk.lean`, `Lemmas/BinRInv.lean`)
and carried over in `Lemmas/BinWEmbed.lean`; `Walk.positions` is `BinR.Walk.positions` on the image under `emb`.
`storeAt_eq_writerStore` is proved here as it is for `Proto/BinR` (the two `storeAt` differ in the `condRm` case). -/
namespace Flurry.Proto.BinW
open Flurry.Lin

def Walk (B : Bin.State) (key : Nat) (pred cur : Option Nat) : Prop :=
  ∃ l1 l2, Bin.chain B = l1 ++ l2 ∧ cur = l2.head? ∧ pred = l1.getLast? ∧
    ∀ j ∈ l1, (Bin.nodeAt B.heap j).key ≠ key

theorem walk_emb {B : Bin.State} {key : Nat} {pred cur : Option Nat} :
    BinR.Walk (Bin.emb B) key pred cur ↔ Walk B key pred cur := by
  simp only [BinR.Walk, Walk, Bin.chain_emb, Bin.emb_heap, Bin.nodeAt_emb, Bin.eN]

theorem Walk.positions {B : Bin.State} (H : Bin.HInv B) {key : Nat} {pred hit : Option Nat}
    (w : Walk B key pred hit) (hk : ∀ i, hit = some i → (Bin.nodeAt B.heap i).key = key) :
    (Bin.chain B).find? (fun i => (Bin.nodeAt B.heap i).key == key) = hit ∧
    (hit = none → pred = (Bin.chain B).getLast?) ∧
    (∀ i, hit = some i → Bin.predOf (Bin.chain B) i = pred) := by
  simpa only [Bin.chain_emb, Bin.emb_heap, Bin.nodeAt_emb, Bin.eN, Bin.predOf_emb] using
    BinR.Walk.positions H.to_emb (walk_emb.2 w)
      (by simpa only [Bin.emb_heap, Bin.nodeAt_emb, Bin.eN] using hk)

theorem map_modify_val (l : List NodeS) (i : Nat) (x : Nat × Nat) :
    (l.modify i (fun n => { n with val := x })).map cN = (l.map cN).modify i (fun n => { n with val := x }) :=
  BinR.Base.map_modify cN _ _ (fun _ => rfl) l i

theorem map_modify_next (l : List NodeS) (i : Nat) (x : Option Nat) :
    (l.modify i (fun n => { n with next := x })).map cN = (l.map cN).modify i (fun n => { n with next := x }) :=
  BinR.Base.map_modify cN _ _ (fun _ => rfl) l i

theorem proj_unlinkAt (s : State) (pred hnext : Option Nat) :
    proj (match pred with
      | some pr => setNode s pr (fun m => { m with next := hnext })
      | none => { s with head := hnext }) =
    (match pred with
      | some pr => Bin.setNode (proj s) pr (fun m => { m with next := hnext })
      | none => { proj s with head := hnext }) := by
  cases pred with
  | none => rfl
  | some pr => exact proj_setNode_next s pr _

theorem storeAt_eq_writerStore {s : State} {p : Pending} {pred hit hnext : Option Nat}
    (H : Bin.HInv (proj s)) (w : Walk (proj s) p.key pred hit)
    (hh : ∀ i, hit = some i → (Bin.nodeAt (proj s).heap i).key = p.key ∧ hnext = (Bin.nodeAt (proj s).heap i).next) :
    proj (storeAt s p pred hit hnext).1 = (Bin.writerStore (proj s) (cP p)).1 ∧
    (storeAt s p pred hit hnext).2 = (Bin.writerStore (proj s) (cP p)).2 := by
  obtain ⟨hfind, hlast, hpredOf⟩ := w.positions H (fun i hi => (hh i hi).1)
  have hfind' : (Bin.chain (proj s)).find? (fun i => ((proj s).heap.getD i ⟨0, (0, 0), none, none⟩).key == (cP p).key) = hit := hfind
  obtain ⟨key, op, inv⟩ := p
  unfold Bin.writerStore storeAt
  simp only [hfind', cP_op]
  cases hit with
  | none =>
    -- the key was not found and `pred` is the last node: an insert appends behind it
    rw [← hlast rfl]
    cases op with
    | ins v vi => cases pred <;> exact ⟨by simp [proj, cN, setNode, Bin.setNode, map_modify_next], rfl⟩
    | tryIns v vi => cases pred <;> exact ⟨by simp [proj, cN, setNode, Bin.setNode, map_modify_next], rfl⟩
    | _ => exact ⟨rfl, rfl⟩
  | some i =>
    -- the key was found in node `i`, `pred` is its predecessor and `hnext` its successor
    have hnode : (proj s).heap.getD i ⟨0, (0, 0), none, none⟩ = cN (s.heap.getD i ⟨0, (0, 0), none, none⟩) :=
      getD_proj s i
    have hnx : hnext = (cN (s.heap.getD i ⟨0, (0, 0), none, none⟩)).next := hnode ▸ (hh i rfl).2
    cases op with
    | ins v vi => dsimp only; rw [hnode]; exact ⟨proj_setNode_val s i (v, vi), rfl⟩
    | cipInc nvi => dsimp only; rw [hnode]; exact ⟨proj_setNode_val s i _, rfl⟩
    | tryIns v vi => dsimp only; rw [hnode]; exact ⟨rfl, rfl⟩
    | rm => dsimp only; rw [hpredOf i rfl, hnode]; exact ⟨hnx ▸ proj_unlinkAt s pred hnext, rfl⟩
    | cipRm => dsimp only; rw [hpredOf i rfl, hnode]; exact ⟨hnx ▸ proj_unlinkAt s pred hnext, rfl⟩
    | _ => exact ⟨rfl, rfl⟩

end Flurry.Proto.BinW
