import Flurry.Lemmas.BinNHFull
/-! # Proto/BinNH: the complete invariant and the ghost invariant across a transition — the frames (C01, C10)

`full_rw`: a reader's / writer's transition. `full_helper` assembles `Full` and `GInv` after a transition of a helper
part, given that the other helpers' links to the ghost are framed (`Full.others_ne`, `others_pc`, `others_mh`).
`hfr_quiet` has no user (the cases call `BinNHM.hfr_same` directly). -/
namespace Flurry.Proto.BinNH
open Flurry.Lin
open Flurry.Proto.BinX (NodeS Cell Pending isReader dflt chainFrom cellHead cellOfHead get_set get_set_self get_set_ne
  cellOfHead_ne_moved nodeAt chainH nextA)
open Flurry.Proto.BinN (cellAt cellOf putCell setNode allMoved splitBinB bitAt lockAt LockSame GenInv ThrOK isT
  Holds vcell genOfPc cellT StepK tick setT finish TInv WInv getCell chId CellId)
open Flurry.Proto.BinNHM (Ghost IsMid HInv MemStep GInv Good)

/-- the frame lemma for the link between a helper's program counter and the ghost -/
theorem PcMidH.frame {n n' : BinN.State} {G G' : Ghost} {pc : HPc} (h : PcMidH n G pc) (hc : n'.cur = n.cur)
    (hf : ∀ j lo hg fr, isMidH pc j → G.mid j = some (lo, hg, fr) → G'.mid j = some (lo, hg, fr) ∧
      cellAt n' (n.cur + 1) j = cellAt n (n.cur + 1) j ∧
      cellAt n' (n.cur + 1) (j + 2 ^ n.cur) = cellAt n (n.cur + 1) (j + 2 ^ n.cur)) : PcMidH n' G' pc := by
  cases pc with
  | storeLow j h lo hg =>
    obtain ⟨fr, a, b, c⟩ := h
    obtain ⟨a', e1, e2⟩ := hf j lo hg fr rfl a
    exact ⟨fr, a', by rw [hc, e1]; exact b, by rw [hc, e2]; exact c⟩
  | storeHigh j h hg =>
    obtain ⟨lo, fr, a, b, c⟩ := h
    obtain ⟨a', e1, e2⟩ := hf j lo hg fr rfl a
    exact ⟨lo, fr, a', by rw [hc, e1]; exact b, by rw [hc, e2]; exact c⟩
  | storeMoved j h =>
    obtain ⟨lo, hg, fr, a, b, c⟩ := h
    obtain ⟨a', e1, e2⟩ := hf j lo hg fr rfl a
    exact ⟨lo, hg, fr, a', by rw [hc, e1]; exact b, by rw [hc, e2]; exact c⟩
  | next => trivial
  | cell _ => trivial
  | casMoved _ => trivial
  | lock _ _ => trivial
  | check _ _ => trivial
  | build _ _ => trivial
  | unlock _ _ => trivial
  | commit => trivial

/-- two helpers in the middle phase on the same cell are the same thread -/
theorem Full.mid_unique {s : State} {G : Ghost} (F : Full s G) {t t1 : Nat} {hp hp1 : Helper} {j : Nat}
    (hh : s.hs[t]? = some (some hp)) (hh1 : s.hs[t1]? = some (some hp1)) (hm : isMidH hp.pc j)
    (hm1 : isMidH hp1.pc j) : t = t1 := by
  obtain ⟨h, hv⟩ := isMidH_hvalid hm
  obtain ⟨h1, hv1⟩ := isMidH_hvalid hm1
  have H := F.base.hok t hp hh
  have H1 := F.base.hok t1 hp1 hh1
  exact H.valid_unique H1 ((H.valid_cur F.base.gen hv).1.trans (H1.valid_cur F.base.gen hv1).1.symm) hv hv1

/-- assembling the complete invariant and the ghost invariant after a transition of the helper part of `t`. The cases of
`Lemmas/BinNHFullCases.lean` leave the last four hypotheses as `?_`, in this order: `hfr` (the cells and chains of the
validated writers are untouched), `hmidw` (no reader or writer is validated on a cell that is in mid-transfer
afterwards), `hpc` (every helper's program counter is linked to `G'`), `hmh` (every cell in mid-transfer has a helper). -/
theorem full_helper {k : Nat} {s : State} {G G' : Ghost} {A : Nat → KSt} {pt : Nat → Nat} {t : Nat} {l : BinN.Local}
    {n' : BinN.State} {ho : Option Helper} (F : Full s G) (g : GInv k s.n G A pt)
    (hl : s.n.threads[t]? = some l) (hidle : l.pc = .idle) (B' : Inv (setH s t n' ho))
    (hthr : n'.threads = s.n.threads) (hnow : n'.now = s.n.now + 1) (hhist : n'.hist = s.n.hist)
    (H' : HInv n' G') (m : MemStep s.n n' G G') (habs : ∀ k, BinN.absOf n' k = BinN.absOf s.n k)
    (hfr : ∀ (t1 : Nat) (l1 : BinN.Local) (g j h : Nat), t1 ≠ t → s.n.threads[t1]? = some l1 →
      vcell s.n.cur l1 = some (g, j, h) → ¬ isT l1.pc →
      cellAt n' g j = cellAt s.n g j ∧ chainH n'.heap (cellAt s.n g j) = chainH s.n.heap (cellAt s.n g j) ∧
      ∀ i ∈ chainH s.n.heap (cellAt s.n g j), (nodeAt n'.heap i).key = (nodeAt s.n.heap i).key ∧
        (nodeAt n'.heap i).next = (nodeAt s.n.heap i).next)
    (hmidw : ∀ j, IsMid G' j → ∀ (t1 : Nat) (l1 : BinN.Local) (h : Nat), s.n.threads[t1]? = some l1 →
      vcell n'.cur l1 ≠ some (n'.cur, j, h))
    (hpc : ∀ (t1 : Nat) (hp : Helper), (s.hs.set t ho)[t1]? = some (some hp) → PcMidH n' G' hp.pc)
    (hmh : ∀ j, IsMid G' j → ∃ (t1 : Nat) (hp : Helper), (s.hs.set t ho)[t1]? = some (some hp) ∧ isMidH hp.pc j) :
    ∃ A', Full (setH s t n' ho) G' ∧ GInv k n' G' A' pt ∧ ∀ k', BinN.absOf n' k' = BinN.absOf s.n k' := by
  have hthr' : n'.threads = s.n.threads.set t l := by rw [hthr]; exact (set_self_of_get hl).symm
  have hc := F.inv.thr.idle_no_call hl hidle
  have T' : TInv n' := BinN.tinv_keep F.inv.thr hl hthr' hnow hhist rfl (fun p hp => F.inv.thr.opOK t l p hl hp) Iff.rfl
  have W' : WInv n' := BinNHM.winv_frame F.inv.walk hthr' hfr (fun p hp => by rw [hc] at hp; cases hp)
  have I' : BinNHM.Inv n' G' := by
    refine ⟨B'.gen, H', T', W', ?_, ?_⟩
    · intro t1 l1 h1; rw [hthr] at h1; exact F.inv.noT t1 l1 h1
    · intro j hm t1 l1 h h1; rw [hthr] at h1; exact hmidw j hm t1 l1 h h1
  refine ⟨nextA A s.n.now (BinN.absOf n' k), ⟨B', I', hpc, hmh⟩, ?_, habs⟩
  exact BinNHM.ginv_quiet_nocall g F.inv.thr (m.carries F.inv.heap H' hnow g.core.hA) hl hthr' hnow hhist (habs k) hc hc

/-- the walks of the writers survive a transition that changes neither the tables nor any key or `next` -/
theorem hfr_quiet {n n' : BinN.State} (ht : n'.tabs = n.tabs) (hch : ∀ id, chId n' id = chId n id)
    (hn : ∀ j, (nodeAt n'.heap j).key = (nodeAt n.heap j).key ∧ (nodeAt n'.heap j).next = (nodeAt n.heap j).next) :
    ∀ (t1 : Nat) (l1 : BinN.Local) (g j h : Nat) (t : Nat), t1 ≠ t → n.threads[t1]? = some l1 →
      vcell n.cur l1 = some (g, j, h) → ¬ isT l1.pc →
      cellAt n' g j = cellAt n g j ∧ chainH n'.heap (cellAt n g j) = chainH n.heap (cellAt n g j) ∧
      ∀ i ∈ chainH n.heap (cellAt n g j), (nodeAt n'.heap i).key = (nodeAt n.heap i).key ∧
        (nodeAt n'.heap i).next = (nodeAt n.heap i).next :=
  fun _ _ g j _ _ _ _ _ _ => BinNHM.hfr_same ht hch hn g j

theorem full_rw {k : Nat} {s : State} {G : Ghost} {A : Nat → KSt} {pt : Nat → Nat} {t : Nat} {l : BinN.Local}
    {n' : BinN.State} (F : Full s G) (g : GInv k s.n G A pt) (hl : s.n.threads[t]? = some l)
    (hh : s.hs[t]? = some none) (K : StepK s.n t l 0 n') (E : RWEff s.n t n') (B' : Inv { s with n := n' }) :
    ∃ A' pt', Full { s with n := n' } G ∧ GInv k n' G A' pt' := by
  obtain ⟨A', pt', I', g', hfr⟩ := BinNHM.ginv_step g F.inv hl K (F.rw_not_lock hh) E.res
  refine ⟨A', pt', ⟨B', I', ?_, F.midHas⟩, g'⟩
  intro t1 hp h1
  refine (F.pcMid t1 hp h1).frame E.cur ?_
  intro j lo hg fr _ hm
  obtain ⟨-, e1, e2⟩ := hfr j lo hg fr hm
  exact ⟨hm, e1, e2⟩

/-- no reader / writer holds a validated lock on the cell a helper holds a validated lock on -/
theorem Full.no_rw_on_helper_cell {s : State} {G : Ghost} (F : Full s G) {t : Nat} {hp : Helper} {j h : Nat}
    (hh : s.hs[t]? = some (some hp)) (hv : hvalid hp.pc = some (j, h)) :
    ∀ (t1 : Nat) (l1 : BinN.Local) (h' : Nat), s.n.threads[t1]? = some l1 → vcell s.n.cur l1 ≠ some (s.n.cur, j, h') := by
  intro t1 l1 h' h1 hv1
  have H := F.base.hok t hp hh
  obtain ⟨e, -⟩ := H.valid_cur F.base.gen hv
  have c := H.valid j h hv
  rw [e] at c
  obtain ⟨c1, hh1⟩ := (F.base.gen.thr t1 l1 h1).valid _ _ _ hv1
  rw [c] at c1
  cases c1
  have a := ((F.base.gen.thr t1 l1 h1).held h hh1).2
  rw [(H.held h (hvalid_holds hv).1).2] at a
  cases a
  have := F.base.hidle t hp l1 hh h1
  obtain ⟨pc1, call1⟩ := l1
  simp only at this
  subst this
  cases hv1

/-- transitions of a helper part that change neither the tables nor any key or `next`, outside the middle phase -/
theorem full_quiet {k : Nat} {s : State} {G : Ghost} {A : Nat → KSt} {pt : Nat → Nat} {t : Nat} {l : BinN.Local}
    {hp : Helper} {n' : BinN.State} {po : Option HPc} (F : Full s G) (g : GInv k s.n G A pt)
    (hl : s.n.threads[t]? = some l) (hh : s.hs[t]? = some (some hp))
    (B' : Inv (setH s t n' (po.map fun pc' => ⟨hp.g, pc'⟩)))
    (hnm : ¬ midPc hp.pc) (hnm' : ∀ pc', po = some pc' → ¬ midPc pc')
    (hthr : n'.threads = s.n.threads) (hnow : n'.now = s.n.now + 1) (hhist : n'.hist = s.n.hist)
    (ht : n'.tabs = s.n.tabs) (hc : n'.cur = s.n.cur)
    (H' : HInv n' G) (m : MemStep s.n n' G G) (habs : ∀ k, BinN.absOf n' k = BinN.absOf s.n k)
    (hch : ∀ id, chId n' id = chId s.n id)
    (hn : ∀ j, (nodeAt n'.heap j).key = (nodeAt s.n.heap j).key ∧ (nodeAt n'.heap j).next = (nodeAt s.n.heap j).next) :
    ∃ A', Full (setH s t n' (po.map fun pc' => ⟨hp.g, pc'⟩)) G ∧ GInv k n' G A' pt ∧
      ∀ k', BinN.absOf n' k' = BinN.absOf s.n k' := by
  have hidle := F.base.hidle t hp l hh hl
  have hcell : ∀ g j, cellAt n' g j = cellAt s.n g j := fun g j => by rw [BinN.cellAt_eq, BinN.cellAt_eq, ht]
  refine full_helper F g hl hidle B' hthr hnow hhist H' m habs
    (fun t1 l1 g j h _ _ _ _ => BinNHM.hfr_same ht hch hn g j) ?_ ?_ ?_
  · intro j hm t1 l1 h h1
    rw [hc]; exact F.inv.midw j hm t1 l1 h h1
  · intro t1 hp1 h1
    rcases get_set h1 with ⟨-, e⟩ | ⟨-, h1⟩
    · cases po with
      | none => cases e
      | some pc' => cases e; exact pcMidH_of_not_mid _ _ (hnm' pc' rfl)
    · exact (F.pcMid t1 hp1 h1).frame hc (fun j lo hg fr _ hm => ⟨hm, hcell _ _, hcell _ _⟩)
  · intro j hm
    obtain ⟨t1, hp1, h1, hm1⟩ := F.midHas j hm
    have ne : t1 ≠ t := by
      rintro rfl
      rw [hh] at h1; cases h1
      exact hnm (isMidH_midPc hm1)
    exact ⟨t1, hp1, by rw [get_set_ne ne]; exact h1, hm1⟩

theorem pcMidH_isMid {n : BinN.State} {G : Ghost} {pc : HPc} {j : Nat} (h : PcMidH n G pc) (hm : isMidH pc j) :
    IsMid G j := by
  cases pc with
  | storeLow => obtain ⟨fr, a, -⟩ := h; cases hm; exact BinNHM.isMid_of a
  | storeHigh => obtain ⟨lo, fr, a, -⟩ := h; cases hm; exact BinNHM.isMid_of a
  | storeMoved => obtain ⟨lo, hg, fr, a, -⟩ := h; cases hm; exact BinNHM.isMid_of a
  | _ => exact hm.elim

/-- the other helpers in their middle phase work on other cells than `j0`, the cell the acting helper is in its
middle phase on, or a cell that is not recorded as being split -/
theorem Full.others_ne {s : State} {G : Ghost} (F : Full s G) {t : Nat} {hp : Helper} (hh : s.hs[t]? = some (some hp))
    {j0 : Nat} (h0 : isMidH hp.pc j0 ∨ G.mid j0 = none) :
    ∀ (t1 : Nat) (hp1 : Helper), t1 ≠ t → s.hs[t1]? = some (some hp1) → ¬ isMidH hp1.pc j0 := by
  intro t1 hp1 ne h1 hm1
  rcases h0 with hm | hn
  · exact ne (F.mid_unique hh h1 hm hm1).symm
  · exact BinNHM.not_isMid_of_none hn (pcMidH_isMid (F.pcMid t1 hp1 h1) hm1)

/-- the link between the other helpers' program counters and the ghost survives a transition that leaves the
splits and the children of the cells other than `j0` alone -/
theorem Full.others_pc {s : State} {G G' : Ghost} (F : Full s G) {t : Nat} {n' : BinN.State} {j0 : Nat}
    (hne : ∀ (t1 : Nat) (hp1 : Helper), t1 ≠ t → s.hs[t1]? = some (some hp1) → ¬ isMidH hp1.pc j0)
    (hc : n'.cur = s.n.cur) (hG : ∀ j x, j ≠ j0 → G.mid j = some x → G'.mid j = some x)
    (hcells : ∀ j, j ≠ j0 → j < 2 ^ s.n.cur → cellAt n' (s.n.cur + 1) j = cellAt s.n (s.n.cur + 1) j ∧
      cellAt n' (s.n.cur + 1) (j + 2 ^ s.n.cur) = cellAt s.n (s.n.cur + 1) (j + 2 ^ s.n.cur)) :
    ∀ (t1 : Nat) (hp1 : Helper), t1 ≠ t → s.hs[t1]? = some (some hp1) → PcMidH n' G' hp1.pc := by
  intro t1 hp1 ne h1
  refine (F.pcMid t1 hp1 h1).frame hc ?_
  intro j lo hg fr hmj hm
  have jne : j ≠ j0 := fun e => hne t1 hp1 ne h1 (e ▸ hmj)
  have hj := (F.inv.heap.mid j lo hg fr hm).1
  exact ⟨hG j _ jne hm, (hcells j jne hj).1, (hcells j jne hj).2⟩

/-- every recorded split belongs to a helper in its middle phase, after a transition of helper `t` on cell `j0` -/
theorem Full.others_mh {s : State} {G G' : Ghost} (F : Full s G) {t : Nat} {hp : Helper} {ho : Option Helper}
    (hh : s.hs[t]? = some (some hp)) {j0 : Nat} (hsel : ∀ j, isMidH hp.pc j → j = j0)
    (hG : ∀ j, IsMid G' j → j ≠ j0 → IsMid G j)
    (hj0 : IsMid G' j0 → ∃ hp', ho = some hp' ∧ isMidH hp'.pc j0) :
    ∀ j, IsMid G' j → ∃ (t1 : Nat) (hp1 : Helper), (s.hs.set t ho)[t1]? = some (some hp1) ∧ isMidH hp1.pc j := by
  intro j hm
  by_cases e : j = j0
  · subst e
    obtain ⟨hp', e1, e2⟩ := hj0 hm
    exact ⟨t, hp', by rw [get_set_self hh, e1], e2⟩
  · obtain ⟨t1, hp1, h1, hm1⟩ := F.midHas j (hG j hm e)
    have ne : t1 ≠ t := by
      rintro rfl
      rw [hh] at h1; cases h1
      exact e (hsel j hm1)
    exact ⟨t1, hp1, by rw [get_set_ne ne]; exact h1, hm1⟩

end Flurry.Proto.BinNH
