import Flurry.Proto.RwLock
/-! # Lemmas/RwLockRuns: concrete runs of the lock model, evaluated -/
namespace Flurry.Proto.RwLock
open Flurry.Gen

def run (s : State) : List (Actor × Bool) → Option State
  | [] => some s
  | (a, more) :: rest => (step s a more).bind (fun s' => run s' rest)

def wpcTrace (s : State) : List (Actor × Bool) → List WPc
  | [] => []
  | (a, more) :: rest =>
    match step s a more with
    | none => []
    | some s' => s'.wpc :: wpcTrace s' rest

theorem reachable_run {n : Nat} {s s' : State} (h : Reachable n s) (l : List (Actor × Bool))
    (hr : run s l = some s') : Reachable n s' := by
  induction l generalizing s with
  | nil => simp [run] at hr; subst hr; exact h
  | cons x rest ih =>
    obtain ⟨a, more⟩ := x
    simp only [run] at hr
    cases hs : step s a more with
    | none => simp [hs] at hr
    | some s1 => simp [hs] at hr; exact ih (Reachable.step a more h hs) hr

/-- local to this file (the model file derives only `Repr` for `State`) -/
local instance : DecidableEq State := fun a b =>
  decidable_of_iff (a.lockState = b.lockState ∧ a.waiterSet = b.waiterSet ∧ a.token = b.token ∧
      a.wpc = b.wpc ∧ a.waiting = b.waiting ∧ a.readers = b.readers)
    (by cases a; cases b; simp)

def mk (ls : Int) (ws tk : Bool) (wpc : WPc) (wt : Bool) (rs : List RPc) : State :=
  { lockState := ls, waiterSet := ws, token := tk, wpc := wpc, waiting := wt, readers := rs }

private def W : Actor × Bool := (.writer, false)
private def R (i : Nat) : Actor × Bool := (.reader i, false)

/-- reader 0 takes a read lock -/
private def acquire0 : List (Actor × Bool) := [R 0, R 0, R 0, R 0]
/-- the writer finds the lock held, sets `WAITER`, publishes its handle, re-reads and goes to `park` -/
private def toPark : List (Actor × Bool) := [W, W, W, W, W, W, W, W]

/-- reader 0 holds, the writer is at `park` with `READER|WAITER` in the word and the handle published -/
example : run (init 1) (acquire0 ++ toPark) =
    some (mk (READER + WAITER) true false .park true [.tree]) := by decide +kernel

/-- ... and is blocked there -/
example : run (init 1) (acquire0 ++ toPark ++ [W]) = none := by decide +kernel

/-- the reader leaves: `release` sees `READER|WAITER`, loads the handle, unparks: token set -/
example : run (init 1) (acquire0 ++ toPark ++ [R 0, R 0, R 0, R 0]) =
    some (mk WAITER true true .park true [.idle]) := by decide +kernel

/-- the writer wakes, consumes the token, re-reads `WAITER`, acquires, clears the handle, and
finally unlocks -/
example : run (init 1) (acquire0 ++ toPark ++ [R 0, R 0, R 0, R 0] ++ [W, W, W, W, W]) =
    some (mk WRITER false false .hold true [.idle]) := by decide +kernel

example : run (init 1) (acquire0 ++ toPark ++ [R 0, R 0, R 0, R 0] ++ [W, W, W, W, W, W]) =
    some (mk 0 false false .idle true [.idle]) := by decide +kernel

example : wpcTrace (init 1) (acquire0 ++ toPark ++ [R 0, R 0, R 0, R 0] ++ [W, W, W, W, W, W]) =
    [.idle, .idle, .idle, .idle,
     .tryFast, .load, .decide READER, .casWaiter READER, .publish, .load, .decide (READER + WAITER), .park,
     .park, .park, .park, .park,
     .load, .decide WAITER, .casWriter WAITER, .swapOut, .hold, .idle] := by decide +kernel

/-- the reader releases after the writer set `WAITER` but before the handle is published: it sees
`READER|WAITER`, goes to `loadWaiter`, finds no handle and does not unpark -/
example : run (init 1) (acquire0 ++ [W, W, W, W, W] ++ [R 0, R 0, R 0]) =
    some (mk WAITER false false .publish true [.idle]) := by decide +kernel

/-- the writer then publishes, re-reads the state (`WAITER` only), and acquires without parking -/
example : run (init 1) (acquire0 ++ [W, W, W, W, W] ++ [R 0, R 0, R 0] ++ [W, W, W, W, W]) =
    some (mk WRITER false false .hold true [.idle]) := by decide +kernel

example : wpcTrace (init 1) (acquire0 ++ [W, W, W, W, W] ++ [R 0, R 0, R 0] ++ [W, W, W, W, W]) =
    [.idle, .idle, .idle, .idle,
     .tryFast, .load, .decide READER, .casWaiter READER, .publish,
     .publish, .publish, .publish,
     .load, .decide WAITER, .casWriter WAITER, .swapOut, .hold] := by decide +kernel

/-! ### a stale token (harmless: `park` is in a loop)

The last reader has loaded the handle but is delayed before `unpark`; the writer meanwhile re-reads
the state, acquires and unlocks. The late `unpark` leaves a token although the writer is idle; the
next `park` of this thread returns immediately (spurious wake-up) and the writer re-checks the word. -/
example : run (init 1) (acquire0 ++ [W, W, W, W, W] ++ [R 0, R 0] ++ [W] ++ [R 0] ++
      [W, W, W, W, W] ++ [R 0]) =
    some (mk 0 false true .idle true [.idle]) := by decide +kernel

/-! ### uncontended fast path, and a reader diverted to the list while the writer holds -/

example : run (init 1) [W, W] = some (mk WRITER false false .hold false [.idle]) := by
  decide +kernel

example : run (init 1) [W, W, R 0, R 0, R 0] =
    some (mk WRITER false false .hold false [.slow]) := by decide +kernel

end Flurry.Proto.RwLock
