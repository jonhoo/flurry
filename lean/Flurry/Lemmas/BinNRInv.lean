import Flurry.Lemmas.BinNRRetired
/-! # Proto/BinNR: the reclamation invariant and its preservation (C03, C04)

`RInv s G` (field `inv` is `Inv s.n G` of `Proto/BinN`; the other clauses are numbered `j1`–`j5`, `j7`, without a `j6`):
* `j1` a node that has been unlinked (`unl i = some u`) is not `Live` (in no chain, not in a list under construction);
* `j2` **the reader invariant**: every node index in a program counter is reachable from a cell, or was unlinked
  while the thread was under its current guard (`t ∈ u`);
* `j3` the `next` field of an unlinked node leads to a reachable node or to a node unlinked later
  (`u_j ⊆ u_i`): whoever may hold `j` is awaited for `i` as well;
* `j4n`, `j4r`, `j4f` `unl` and `life`: only unlinked nodes are retired or freed; `waitFor ⊇ u`; freed only when `u = []`;
* `j5` `u` only contains threads under a guard; `j7` retire obligations are unlinked nodes of guarded threads.

`reachable_rinv`: the invariant holds in every reachable state. -/
namespace Flurry.Proto.BinNR
open Flurry.Lin
open Flurry.Proto.BinX (nodeAt nodeAt_of_some get_set get_set_self get_set_ne)
open Flurry.Proto.BinN (Local Ghost Inv Live chId getCell StepK stepK_inv step_stepK memStep_len dead_step leave_step)

structure RInv (s : State) (G : Ghost) : Prop where
  inv : Inv s.n G
  j1 : ∀ i u, s.unl i = some u → ¬ Live s.n G i ∧ i < s.n.heap.length
  j2 : ∀ t l i, s.n.threads[t]? = some l → i ∈ holds l.pc → Live0 s.n i ∨ ∃ u, s.unl i = some u ∧ t ∈ u
  j3 : ∀ j uj i, s.unl j = some uj → (nodeAt s.n.heap j).next = some i →
    Live0 s.n i ∨ ∃ ui, s.unl i = some ui ∧ uj ⊆ ui
  j4n : ∀ i, s.unl i = none → s.life i = .live
  j4r : ∀ i w, s.life i = .retired w → ∃ u, s.unl i = some u ∧ u ⊆ w
  j4f : ∀ i, s.life i = .freed → s.unl i = some []
  j5 : ∀ i u, s.unl i = some u → ∀ t ∈ u, guarded s.n t = true
  j7 : ∀ t i, i ∈ s.pend t → (s.unl i).isSome = true ∧ guarded s.n t = true

theorem guarded_lt {n : BinN.State} {x : Nat} (h : guarded n x = true) : x < n.threads.length := by
  unfold guarded at h
  cases ht : n.threads[x]? with
  | none => rw [ht] at h; cases h
  | some l => exact (List.getElem?_eq_some_iff.1 ht).1

theorem mem_guardedSet {n : BinN.State} {t : Nat} : t ∈ guardedSet n ↔ guarded n t = true := by
  unfold guardedSet
  rw [List.mem_filter, List.mem_range]
  exact ⟨fun h => h.2, fun h => ⟨guarded_lt h, h⟩⟩

theorem RInv.not_live0_of_unl {s : State} {G : Ghost} (R : RInv s G) {i : Nat} {u : List Nat}
    (hu : s.unl i = some u) : ¬ Live0 s.n i := fun h => (R.j1 i u hu).1 h.live

theorem RInv.unl_none_of_live0 {s : State} {G : Ghost} (R : RInv s G) {i : Nat} (h : Live0 s.n i) :
    s.unl i = none := by
  cases hu : s.unl i with
  | none => rfl
  | some u => exact absurd h (R.not_live0_of_unl hu)

theorem guarded_of_holds {n : BinN.State} {t : Nat} {l : Local} {i : Nat} (hl : n.threads[t]? = some l)
    (hi : i ∈ holds l.pc) : guarded n t = true := by
  unfold guarded
  rw [hl]
  refine bne_iff_ne.2 fun h => ?_
  rw [h] at hi; cases hi

theorem shrinkLife_live {g : Nat → Bool} {x : Life} : shrinkLife g x = .live ↔ x = .live := by
  cases x <;> simp [shrinkLife]

theorem shrinkLife_freed {g : Nat → Bool} {x : Life} : shrinkLife g x = .freed ↔ x = .freed := by
  cases x <;> simp [shrinkLife]

theorem shrinkLife_retired {g : Nat → Bool} {x : Life} {w' : List Nat} (h : shrinkLife g x = .retired w') :
    ∃ w, x = .retired w ∧ w' = w.filter g := by
  cases x with
  | live => simp [shrinkLife] at h
  | freed => simp [shrinkLife] at h
  | retired w => simp only [shrinkLife, Life.retired.injEq] at h; exact ⟨w, rfl, h.symm⟩

theorem filter_subset_filter {g : Nat → Bool} {a b : List Nat} (h : a ⊆ b) : a.filter g ⊆ b.filter g := by
  intro x hx
  rw [List.mem_filter] at hx ⊢
  exact ⟨h hx.1, hx.2⟩

/-- the pre-state justification of every node index in the program counter after the step -/
theorem RInv.pre_holds {s : State} {G : Ghost} (R : RInv s G) {t : Nat} {l : Local} {pick : Nat} {n' : BinN.State}
    (hl : s.n.threads[t]? = some l) (hK : StepK s.n t l pick n') :
    ∀ i ∈ holdsOf n' t, Live0 s.n i ∨ ∃ u, s.unl i = some u ∧ t ∈ u := by
  obtain ⟨l', hthr, hacq⟩ := acquire hK
  have H := R.inv.heap
  intro i hi
  unfold holdsOf at hi
  rw [hthr, get_set_self hl] at hi
  rcases hacq i hi with h | ⟨id, hc⟩ | ⟨c, hc, n, hn, hnx⟩
  · exact R.j2 t l i hl h
  · exact Or.inl (Live0.head H hc)
  · have hnx' : (nodeAt s.n.heap c).next = some i := by rw [nodeAt_of_some hn]; exact hnx
    rcases R.j2 t l c hl hc with h0 | ⟨u, hu, htu⟩
    · exact Or.inl (h0.succ H hnx')
    · rcases R.j3 c u i hu hnx' with h0 | ⟨ui, hui, hsub⟩
      · exact Or.inl h0
      · exact Or.inr ⟨ui, hui, hsub htu⟩

/-- the step ends the guard of `t` -/
def exitsB (s : State) (t : Nat) (n' : BinN.State) : Bool := guarded s.n t && !guarded n' t
/-- the retire obligations of `t` after the step -/
def pend1 (s : State) (t : Nat) : List Nat := s.pend t ++ retiredBy false s.n t

theorem afterBase_life (s : State) (t : Nat) (n' : BinN.State) (i : Nat) :
    (afterBase false s t n').life i =
      if (exitsB s t n' && (pend1 s t).contains i) = true then .retired (guardedSet n')
      else shrinkLife (guarded n') (s.life i) := rfl
theorem afterBase_pend (s : State) (t : Nat) (n' : BinN.State) (t' : Nat) :
    (afterBase false s t n').pend t' =
      if t' = t then (if exitsB s t n' = true then [] else pend1 s t) else s.pend t' := rfl
theorem afterBase_w0 (s : State) (t : Nat) (n' : BinN.State) (i : Nat) :
    (afterBase false s t n').w0 i =
      if (exitsB s t n' && (pend1 s t).contains i) = true then guardedSet n' else s.w0 i := rfl
theorem afterBase_exited (s : State) (t : Nat) (n' : BinN.State) (i : Nat) :
    (afterBase false s t n').exited i =
      if (exitsB s t n' && (pend1 s t).contains i) = true then []
      else if exitsB s t n' = true then t :: s.exited i else s.exited i := rfl

/-- **a `BinN` step preserves the reclamation invariant**, provided the nodes it hands to `retire` are made
unreachable by it (`hRB`: proved in `Lemmas/BinNRRetired.lean`) -/
theorem RInv.base {s : State} {G : Ghost} (R : RInv s G) {t : Nat} {l : Local} {pick : Nat} {n' : BinN.State}
    (hl : s.n.threads[t]? = some l) (hK : StepK s.n t l pick n')
    (hRB : ∀ i ∈ retiredBy false s.n t, Live0 s.n i ∧ ¬ Live0 n' i ∧ guarded s.n t = true) :
    ∃ G', RInv (afterBase false s t n') G' := by
  obtain ⟨G', I', m, -⟩ := stepK_inv R.inv hl hK
  obtain ⟨-, l', hthr⟩ := BinN.stepK_frame hK
  have H := R.inv.heap
  have hlen := memStep_len m
  -- the ghost after the step
  have hnr : ∀ i u, s.unl i = some u → (reach s.n i && !reach n' i) = false := by
    intro i u hu
    rw [reach_false_of_not (R.not_live0_of_unl hu)]; rfl
  have U1 : ∀ i u, s.unl i = some u → (afterBase false s t n').unl i = some (u.filter (guarded n')) := by
    intro i u hu
    show (if (reach s.n i && !reach n' i) = true then _ else _) = _
    rw [hnr i u hu, hu]; rfl
  have U2 : ∀ i, Live0 s.n i → ¬ Live0 n' i → (afterBase false s t n').unl i = some (guardedSet n') := by
    intro i h0 h1
    show (if (reach s.n i && !reach n' i) = true then _ else _) = _
    rw [(reach_iff _ _).2 h0, reach_false_of_not h1]; rfl
  have U3 : ∀ i u', (afterBase false s t n').unl i = some u' →
      (Live0 s.n i ∧ ¬ Live0 n' i ∧ u' = guardedSet n') ∨ (∃ u, s.unl i = some u ∧ u' = u.filter (guarded n')) := by
    intro i u' hu'
    have hu'' : (if (reach s.n i && !reach n' i) = true then some (guardedSet n')
        else (s.unl i).map (·.filter (guarded n'))) = some u' := hu'
    by_cases hc : (reach s.n i && !reach n' i) = true
    · rw [if_pos hc] at hu''
      simp only [Bool.and_eq_true, Bool.not_eq_true', Option.some.injEq] at hc hu''
      left
      refine ⟨(reach_iff _ _).1 hc.1, ?_, hu''.symm⟩
      intro h
      rw [(reach_iff _ _).2 h] at hc
      cases hc.2
    · rw [if_neg hc] at hu''
      right
      cases hu : s.unl i with
      | none => rw [hu] at hu''; cases hu''
      | some u => rw [hu] at hu''; simp only [Option.map_some, Option.some.injEq] at hu''; exact ⟨u, rfl, hu''.symm⟩
  have hgs : ∀ u : List Nat, u.filter (guarded n') ⊆ guardedSet n' := by
    intro u x hx
    exact mem_guardedSet.2 (List.mem_filter.1 hx).2
  -- how a justification is carried over the step
  have TR : ∀ t1 i, guarded n' t1 = true → (Live0 s.n i ∨ ∃ u, s.unl i = some u ∧ t1 ∈ u) →
      Live0 n' i ∨ ∃ u', (afterBase false s t n').unl i = some u' ∧ t1 ∈ u' := by
    intro t1 i hg h
    rcases h with h0 | ⟨u, hu, htu⟩
    · by_cases h1 : Live0 n' i
      · exact Or.inl h1
      · exact Or.inr ⟨_, U2 i h0 h1, mem_guardedSet.2 hg⟩
    · exact Or.inr ⟨_, U1 i u hu, List.mem_filter.2 ⟨htu, hg⟩⟩
  have hother : ∀ t1, t1 ≠ t → n'.threads[t1]? = s.n.threads[t1]? := by
    intro t1 hne; rw [hthr]; exact get_set_ne hne
  have hgother : ∀ t1, t1 ≠ t → guarded n' t1 = guarded s.n t1 := by
    intro t1 hne; unfold guarded; rw [hother t1 hne]
  -- the retire obligations after the step
  have hpend1 : ∀ i, i ∈ pend1 s t →
      (∃ u', (afterBase false s t n').unl i = some u' ∧ u' ⊆ guardedSet n') ∧ guarded s.n t = true := by
    intro i hi
    rcases List.mem_append.1 hi with hi | hi
    · obtain ⟨h1, h2⟩ := R.j7 t i hi
      cases hu : s.unl i with
      | none => rw [hu] at h1; cases h1
      | some u => exact ⟨⟨_, U1 i u hu, hgs u⟩, h2⟩
    · obtain ⟨h0, h1, h2⟩ := hRB i hi
      exact ⟨⟨_, U2 i h0 h1, fun _ h => h⟩, h2⟩
  refine ⟨G', ⟨I', ?_, ?_, ?_, ?_, ?_, ?_, ?_, ?_⟩⟩
  · -- j1
    intro i u' hu'
    rcases U3 i u' hu' with ⟨h0, h1, -⟩ | ⟨u, hu, -⟩
    · exact ⟨(leave_step m h0 h1).1, Nat.lt_of_lt_of_le (h0.lt H) hlen⟩
    · obtain ⟨hd, hlt⟩ := R.j1 i u hu
      exact ⟨(dead_step m hlt hd).1, Nat.lt_of_lt_of_le hlt hlen⟩
  · -- j2
    intro t1 l1 i h1 hi
    have hg := guarded_of_holds h1 hi
    refine TR t1 i hg ?_
    have h1' : (s.n.threads.set t l')[t1]? = some l1 := by rw [← hthr]; exact h1
    rcases get_set h1' with ⟨rfl, rfl⟩ | ⟨hne, h1''⟩
    · exact R.pre_holds hl hK i (by unfold holdsOf; rw [show n'.threads[t1]? = some _ from h1]; exact hi)
    · exact R.j2 t1 l1 i h1'' hi
  · -- j3
    intro j uj' i huj hnx
    have hnx : (nodeAt n'.heap j).next = some i := hnx
    show Live0 n' i ∨ _
    rcases U3 j uj' huj with ⟨h0, h1, rfl⟩ | ⟨u, hu, rfl⟩
    · rw [(leave_step m h0 h1).2] at hnx
      have hi0 := h0.succ H hnx
      by_cases hi1 : Live0 n' i
      · exact Or.inl hi1
      · exact Or.inr ⟨_, U2 i hi0 hi1, fun _ h => h⟩
    · obtain ⟨hd, hlt⟩ := R.j1 j u hu
      rw [(dead_step m hlt hd).2] at hnx
      rcases R.j3 j u i hu hnx with hi0 | ⟨ui, hui, hsub⟩
      · by_cases hi1 : Live0 n' i
        · exact Or.inl hi1
        · exact Or.inr ⟨_, U2 i hi0 hi1, hgs u⟩
      · exact Or.inr ⟨_, U1 i ui hui, filter_subset_filter hsub⟩
  · -- j4n
    intro i hu
    have hnone : s.unl i = none := by
      cases h : s.unl i with
      | none => rfl
      | some u => rw [U1 i u h] at hu; cases hu
    rw [afterBase_life]
    by_cases hc : (exitsB s t n' && (pend1 s t).contains i) = true
    · simp only [Bool.and_eq_true, List.contains_iff_mem] at hc
      obtain ⟨⟨u', h1, -⟩, -⟩ := hpend1 i hc.2
      rw [h1] at hu; cases hu
    · rw [if_neg hc, shrinkLife_live]; exact R.j4n i hnone
  · -- j4r
    intro i w' hw
    rw [afterBase_life] at hw
    by_cases hc : (exitsB s t n' && (pend1 s t).contains i) = true
    · rw [if_pos hc] at hw
      simp only [Bool.and_eq_true, List.contains_iff_mem] at hc
      cases hw
      exact (hpend1 i hc.2).1
    · rw [if_neg hc] at hw
      obtain ⟨w, hlw, rfl⟩ := shrinkLife_retired hw
      obtain ⟨u, hu, hsub⟩ := R.j4r i w hlw
      exact ⟨_, U1 i u hu, filter_subset_filter hsub⟩
  · -- j4f
    intro i hf
    rw [afterBase_life] at hf
    by_cases hc : (exitsB s t n' && (pend1 s t).contains i) = true
    · rw [if_pos hc] at hf; cases hf
    · rw [if_neg hc, shrinkLife_freed] at hf
      rw [U1 i [] (R.j4f i hf)]; rfl
  · -- j5
    intro i u' hu' t1 ht1
    rcases U3 i u' hu' with ⟨-, -, rfl⟩ | ⟨u, -, rfl⟩
    · exact mem_guardedSet.1 ht1
    · exact (List.mem_filter.1 ht1).2
  · -- j7
    intro t1 i hi
    rw [afterBase_pend] at hi
    by_cases ht : t1 = t
    · subst ht
      rw [if_pos rfl] at hi
      by_cases he : exitsB s t1 n' = true
      · rw [if_pos he] at hi; cases hi
      · rw [if_neg he] at hi
        obtain ⟨⟨u', h1, -⟩, h2⟩ := hpend1 i hi
        refine ⟨by rw [h1]; rfl, ?_⟩
        unfold exitsB at he
        rw [h2] at he
        cases hg : guarded n' t1 with
        | true => exact hg
        | false => rw [hg] at he; exact absurd rfl he
    · rw [if_neg ht] at hi
      obtain ⟨h1, h2⟩ := R.j7 t1 i hi
      refine ⟨?_, by show guarded n' t1 = true; rw [hgother t1 ht]; exact h2⟩
      cases hu : s.unl i with
      | none => rw [hu] at h1; cases h1
      | some u => rw [U1 i u hu]; rfl

theorem RInv.retire {s s' : State} {G : Ghost} (R : RInv s G) {t i : Nat}
    (hs : stepG false s t (.retire i) = some s') : RInv s' G := by
  obtain ⟨hi, rfl⟩ := retire_some hs
  obtain ⟨h1, h2⟩ := R.j7 t i hi
  refine ⟨R.inv, R.j1, R.j2, R.j3, ?_, ?_, ?_, R.j5, ?_⟩
  · intro j hu
    show (if j = i then _ else s.life j) = Life.live
    by_cases hj : j = i
    · subst hj; rw [hu] at h1; cases h1
    · rw [if_neg hj]; exact R.j4n j hu
  · intro j w hw
    have hw' : (if j = i then Life.retired (guardedSet s.n) else s.life j) = Life.retired w := hw
    by_cases hj : j = i
    · subst hj
      rw [if_pos rfl] at hw'
      cases hw'
      cases hu : s.unl j with
      | none => rw [hu] at h1; cases h1
      | some u => exact ⟨u, rfl, fun x hx => mem_guardedSet.2 (R.j5 j u hu x hx)⟩
    · rw [if_neg hj] at hw'; exact R.j4r j w hw'
  · intro j hf
    have hf' : (if j = i then Life.retired (guardedSet s.n) else s.life j) = Life.freed := hf
    by_cases hj : j = i
    · rw [if_pos hj] at hf'; cases hf'
    · rw [if_neg hj] at hf'; exact R.j4f j hf'
  · intro t1 j hj
    have hj' : j ∈ (if t1 = t then (s.pend t).erase i else s.pend t1) := hj
    by_cases ht : t1 = t
    · subst ht
      rw [if_pos rfl] at hj'
      exact R.j7 t1 j (List.mem_of_mem_erase hj')
    · rw [if_neg ht] at hj'; exact R.j7 t1 j hj'

theorem RInv.free {early : Bool} {s s' : State} {G : Ghost} (R : RInv s G) {t i : Nat}
    (hs : stepG early s t (.free i) = some s') : RInv s' G := by
  obtain ⟨hc, rfl⟩ := free_some hs
  obtain ⟨u, hu, hsub⟩ := R.j4r i [] hc
  have hu0 : u = [] := by
    cases u with
    | nil => rfl
    | cons a _ => exact absurd (hsub List.mem_cons_self) (by simp)
  subst hu0
  refine ⟨R.inv, R.j1, R.j2, R.j3, ?_, ?_, ?_, R.j5, R.j7⟩
  · intro j hj
    show (if j = i then Life.freed else s.life j) = Life.live
    by_cases hji : j = i
    · subst hji; rw [hu] at hj; cases hj
    · rw [if_neg hji]; exact R.j4n j hj
  · intro j w hw
    have hw' : (if j = i then Life.freed else s.life j) = Life.retired w := hw
    by_cases hji : j = i
    · rw [if_pos hji] at hw'; cases hw'
    · rw [if_neg hji] at hw'; exact R.j4r j w hw'
  · intro j hf
    have hf' : (if j = i then Life.freed else s.life j) = Life.freed := hf
    by_cases hji : j = i
    · subst hji; exact hu
    · rw [if_neg hji] at hf'; exact R.j4f j hf'

theorem RInv.init (n : Nat) : RInv (init n) {} := by
  refine ⟨BinN.init_inv n, ?_, ?_, ?_, ?_, ?_, ?_, ?_, ?_⟩
  · intro i u h; cases h
  · intro t l i hl hi
    have := BinN.init_thread hl
    subst this
    simp [holds] at hi
  · intro j uj i h; cases h
  · intro i _; rfl
  · intro i w h; cases h
  · intro i h; cases h
  · intro i u h; cases h
  · intro t i h; cases h

theorem reachable_n {nt : Nat} {s : State} (hr : Reachable nt s) : BinN.Reachable nt s.n := by
  induction hr with
  | init => exact .init
  | @step s s' t a hr hs ih =>
    cases a with
    | base inv rz pick =>
      obtain ⟨n', -, -, hb, rfl⟩ := base_some hs
      exact .step t inv rz pick ih hb
    | retire i => obtain ⟨-, rfl⟩ := retire_some hs; exact ih
    | free i => obtain ⟨-, rfl⟩ := free_some hs; exact ih

theorem reachable_rinv {nt : Nat} {s : State} (hr : Reachable nt s) : ∃ G, RInv s G := by
  induction hr with
  | init => exact ⟨_, RInv.init nt⟩
  | @step s s' t a hr hs ih =>
    obtain ⟨G, R⟩ := ih
    cases a with
    | base inv rz pick =>
      obtain ⟨n', l, hl, hb, rfl⟩ := base_some hs
      have hK := step_stepK hl hb
      exact R.base hl hK (retiredBy_dead R.inv hl hb)
    | retire i => exact ⟨G, R.retire hs⟩
    | free i => exact ⟨G, R.free hs⟩

/-- what a step touches: a node index of the program counter, or (the split, under the bin lock) a node of the
chain of the validated cell -/
theorem touches_sub {n : BinN.State} {G : Ghost} (I : Inv n G) {t i : Nat} (hi : i ∈ touches n t) :
    (∃ l, n.threads[t]? = some l ∧ i ∈ holds l.pc) ∨ Live0 n i := by
  unfold touches at hi
  cases hl : n.threads[t]? with
  | none => rw [hl] at hi; cases hi
  | some l =>
    rw [hl] at hi
    obtain ⟨pc, call⟩ := l
    simp only at hi
    cases pc with
    | tBuild j h =>
      right
      have T := I.gen.thr t _ hl
      obtain ⟨hcell, -⟩ := T.valid n.cur j h rfl
      refine ⟨(n.cur, j), ?_⟩
      unfold chId getCell
      simp only
      rw [hcell]
      exact hi
    | rNode c =>
      cases c with
      | none => simp at hi
      | some c => left; exact ⟨_, rfl, by simpa [holds] using hi⟩
    | wFind g h pred cur =>
      cases cur with
      | none => simp at hi
      | some c =>
        left; refine ⟨_, rfl, ?_⟩
        simp only [List.mem_singleton] at hi
        simp [holds, hi]
    | wStore g h pred hit hnext =>
      left; refine ⟨_, rfl, ?_⟩
      simp only [List.mem_append, Option.mem_toList] at hi
      simp only [holds, List.mem_cons, List.mem_append, Option.mem_toList]
      rcases hi with h1 | h1
      · exact Or.inr (Or.inl (Or.inl h1))
      · exact Or.inr (Or.inl (Or.inr h1))
    | wLock g h => left; exact ⟨_, rfl, by simpa [holds] using hi⟩
    | wUnlock g h res retry => left; exact ⟨_, rfl, by simpa [holds] using hi⟩
    | tLock j h => left; exact ⟨_, rfl, by simpa [holds] using hi⟩
    | tCheck j h => left; exact ⟨_, rfl, by simpa [holds] using hi⟩
    | tUnlock j h => left; exact ⟨_, rfl, by simpa [holds] using hi⟩
    | _ => simp at hi

end Flurry.Proto.BinNR
