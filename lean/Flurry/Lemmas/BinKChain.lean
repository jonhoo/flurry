import Flurry.Proto.BinK
import Flurry.Lemmas.SharedBasic
/-! # Proto/BinK: heap segments and chains (C01, a bin that changes its kind)

The heap of `Proto/BinK` holds list nodes (appended at the tail: `next` goes **upwards**), tree-bin
nodes made by `kBuild` / `tUntreeify` (copies chained upwards) and tree-bin nodes prepended by an
insertion (`next` goes **downwards**). `NextOK`: every `next` pointer is valid, and once a pointer
goes upwards all pointers behind it go upwards; `rank` turns this into a strictly decreasing measure,
so segments have no duplicates and `chainFrom` with fuel `heap.length` computes the chain.
`IsSeg`, the list surgeries (`isChain_prepend`, `isChain_append_tail`, `isChain_unlink`), `predOf`,
`copyChain`; the total reads `nodeAt`, `binAt` of heap and `TreeBin` table after `modify` and `++`. -/
namespace Flurry.Proto.BinK
open Flurry.Lin

def nodeAt (heap : List NodeS) (i : Nat) : NodeS := heap.getD i dflt
def binAt (tbins : List TBin) (b : Nat) : TBin := tbins.getD b dfltB

theorem nodeAt_eq (heap : List NodeS) (i : Nat) : nodeAt heap i = (heap[i]?).getD dflt := by
  simp [nodeAt, List.getD_eq_getElem?_getD]

theorem nodeAt_of_some {heap : List NodeS} {i : Nat} {n : NodeS} (h : heap[i]? = some n) :
    nodeAt heap i = n := by
  rw [nodeAt_eq, h]; rfl

theorem getElem?_nodeAt {heap : List NodeS} {i : Nat} (h : i < heap.length) :
    heap[i]? = some (nodeAt heap i) := by
  rw [nodeAt_eq, List.getElem?_eq_getElem h]; rfl

theorem nodeAt_ge {heap : List NodeS} {i : Nat} (h : heap.length ≤ i) : nodeAt heap i = dflt := by
  rw [nodeAt_eq, List.getElem?_eq_none h]; rfl

theorem nodeAt_modify (heap : List NodeS) (i : Nat) (f : NodeS → NodeS) (j : Nat) :
    nodeAt (heap.modify i f) j = if i = j ∧ j < heap.length then f (nodeAt heap j) else nodeAt heap j := by
  rw [nodeAt_eq, nodeAt_eq, List.getElem?_modify]
  by_cases hj : j < heap.length
  · rw [List.getElem?_eq_getElem hj]
    by_cases hij : i = j <;> simp [hij, hj]
  · rw [List.getElem?_eq_none (by omega)]
    simp [hj]

theorem nodeAt_modify_self {heap : List NodeS} {i : Nat} (f : NodeS → NodeS) (hi : i < heap.length) :
    nodeAt (heap.modify i f) i = f (nodeAt heap i) := by
  rw [nodeAt_modify, if_pos ⟨rfl, hi⟩]

theorem nodeAt_modify_ne {heap : List NodeS} {i j : Nat} (f : NodeS → NodeS) (h : i ≠ j) :
    nodeAt (heap.modify i f) j = nodeAt heap j := by
  rw [nodeAt_modify, if_neg (fun e => h e.1)]

theorem nodeAt_append_left {heap : List NodeS} (l : List NodeS) {j : Nat} (hj : j < heap.length) :
    nodeAt (heap ++ l) j = nodeAt heap j := by
  rw [nodeAt_eq, nodeAt_eq, List.getElem?_append_left hj]

theorem nodeAt_append_new (heap : List NodeS) (n : NodeS) : nodeAt (heap ++ [n]) heap.length = n := by
  rw [nodeAt_eq]; simp

theorem nodeAt_append_right (heap l : List NodeS) {j : Nat} (hj : j < l.length) :
    nodeAt (heap ++ l) (heap.length + j) = l[j] := by
  rw [nodeAt_eq, List.getElem?_append_right (by omega)]
  simp [hj]

theorem nodeAt_append_one (heap : List NodeS) (new : NodeS) (j : Nat) :
    nodeAt (heap ++ [new]) j = if j < heap.length then nodeAt heap j else if j = heap.length then new else dflt := by
  split
  · rename_i h; exact nodeAt_append_left _ h
  · split
    · rename_i h; subst h; exact nodeAt_append_new _ _
    · exact nodeAt_ge (by simp; omega)

theorem nodeAt_append_link {heap : List NodeS} (new : NodeS) {pr : Nat} (hpr : pr < heap.length) (j : Nat) :
    nodeAt ((heap ++ [new]).modify pr (fun m => { m with next := some heap.length })) j =
      if j = pr then { nodeAt heap j with next := some heap.length }
      else if j = heap.length then new else nodeAt heap j := by
  rw [nodeAt_modify, nodeAt_append_one]
  by_cases hj : j = pr
  · subst hj
    rw [if_pos ⟨rfl, by simp; omega⟩, if_pos rfl, if_pos hpr]
  · rw [if_neg (fun h => hj h.1.symm), if_neg hj]
    by_cases hjl : j = heap.length
    · rw [if_neg (by omega), if_pos hjl, if_pos hjl]
    · rw [if_neg hjl]
      split
      · rfl
      · rename_i h; rw [nodeAt_ge (Nat.le_of_not_lt h)]

theorem binAt_eq (tbins : List TBin) (b : Nat) : binAt tbins b = (tbins[b]?).getD dfltB := by
  simp [binAt, List.getD_eq_getElem?_getD]

theorem binAt_ge {tbins : List TBin} {b : Nat} (h : tbins.length ≤ b) : binAt tbins b = dfltB := by
  rw [binAt_eq, List.getElem?_eq_none h]; rfl

theorem binAt_modify (tbins : List TBin) (b : Nat) (f : TBin → TBin) (c : Nat) :
    binAt (tbins.modify b f) c = if b = c ∧ c < tbins.length then f (binAt tbins c) else binAt tbins c := by
  rw [binAt_eq, binAt_eq, List.getElem?_modify]
  by_cases hc : c < tbins.length
  · rw [List.getElem?_eq_getElem hc]
    by_cases hbc : b = c <;> simp [hbc, hc]
  · rw [List.getElem?_eq_none (by omega)]
    simp [hc]

theorem binAt_modify_self {tbins : List TBin} {b : Nat} (f : TBin → TBin) (hb : b < tbins.length) :
    binAt (tbins.modify b f) b = f (binAt tbins b) := by
  rw [binAt_modify, if_pos ⟨rfl, hb⟩]

theorem binAt_modify_ne {tbins : List TBin} {b c : Nat} (f : TBin → TBin) (h : b ≠ c) :
    binAt (tbins.modify b f) c = binAt tbins c := by
  rw [binAt_modify, if_neg (fun e => h e.1)]

theorem binAt_modify_keep {α : Type} (g : TBin → α) (tbins : List TBin) (b : Nat) {f : TBin → TBin}
    (hf : ∀ x, g (f x) = g x) (c : Nat) : g (binAt (tbins.modify b f) c) = g (binAt tbins c) := by
  rw [binAt_modify]
  split
  · exact hf _
  · rfl

theorem binAt_append_left {tbins : List TBin} (l : List TBin) {b : Nat} (hb : b < tbins.length) :
    binAt (tbins ++ l) b = binAt tbins b := by
  rw [binAt_eq, binAt_eq, List.getElem?_append_left hb]

theorem binAt_append_new (tbins : List TBin) (x : TBin) : binAt (tbins ++ [x]) tbins.length = x := by
  rw [binAt_eq]; simp

theorem binAt_append_one (tbins : List TBin) (x : TBin) (b : Nat) :
    binAt (tbins ++ [x]) b = if b < tbins.length then binAt tbins b else if b = tbins.length then x else dfltB := by
  split
  · rename_i h; exact binAt_append_left _ h
  · split
    · rename_i h; subst h; exact binAt_append_new _ _
    · exact binAt_ge (by simp; omega)

/-- every `next` pointer is valid and is no self-loop; behind a pointer that goes upwards every
pointer goes upwards -/
def NextOK (heap : List NodeS) : Prop :=
  ∀ (i : Nat) (n : NodeS) (j : Nat), heap[i]? = some n → n.next = some j →
    j < heap.length ∧ j ≠ i ∧ (i < j → ∀ (m : NodeS) (j' : Nat), heap[j]? = some m → m.next = some j' → j < j')

/-- a measure that decreases along `next` -/
def rank (heap : List NodeS) (i : Nat) : Nat :=
  match (nodeAt heap i).next with
  | some j => if j < i then heap.length + i + 1 else heap.length - i
  | none => heap.length - i

theorem rank_le (heap : List NodeS) (i : Nat) : rank heap i ≤ heap.length + i + 1 := by
  unfold rank
  split
  · split <;> omega
  · omega

theorem rank_lt {heap : List NodeS} (hok : NextOK heap) {i j : Nat} {n : NodeS}
    (hn : heap[i]? = some n) (hj : n.next = some j) : rank heap j < rank heap i := by
  obtain ⟨hjl, hne, hup⟩ := hok i n j hn hj
  have hi : rank heap i = if j < i then heap.length + i + 1 else heap.length - i := by
    unfold rank; rw [nodeAt_of_some hn, hj]
  rw [hi]
  by_cases hji : j < i
  · rw [if_pos hji]
    have := rank_le heap j
    omega
  · rw [if_neg hji]
    have hij : i < j := by omega
    have hm := getElem?_nodeAt hjl
    unfold rank
    cases hnx : (nodeAt heap j).next with
    | none => simp only; omega
    | some j' =>
      have := hup hij _ j' hm hnx
      simp only
      rw [if_neg (by omega)]
      omega

inductive IsSeg (heap : List NodeS) : Option Nat → List Nat → Option Nat → Prop
  | nil (e : Option Nat) : IsSeg heap e [] e
  | cons {i : Nat} {n : NodeS} {l : List Nat} {e : Option Nat} :
      heap[i]? = some n → IsSeg heap n.next l e → IsSeg heap (some i) (i :: l) e

abbrev IsChain (heap : List NodeS) (a : Option Nat) (l : List Nat) : Prop := IsSeg heap a l none

/-- `IsSeg` is the segment relation of `Lemmas/SharedBasic.lean` for the `next` field -/
theorem isSeg_iff {heap : List NodeS} {a e : Option Nat} {l : List Nat} :
    IsSeg heap a l e ↔ Shared.Seg NodeS.next heap a l e := by
  constructor <;> intro h <;> induction h with
  | nil e => exact .nil e
  | cons hn _ ih => exact .cons hn ih

theorem IsSeg.nil_iff {heap : List NodeS} {a e : Option Nat} : IsSeg heap a [] e ↔ a = e := by
  constructor
  · intro h; cases h; rfl
  · rintro rfl; exact .nil _

theorem IsSeg.cons_iff {heap : List NodeS} {a e : Option Nat} {i : Nat} {l : List Nat} :
    IsSeg heap a (i :: l) e ↔ a = some i ∧ ∃ n, heap[i]? = some n ∧ IsSeg heap n.next l e := by
  constructor
  · intro h; cases h with | cons h1 h2 => exact ⟨rfl, _, h1, h2⟩
  · rintro ⟨rfl, n, h1, h2⟩; exact .cons h1 h2

theorem IsSeg.append {heap : List NodeS} {a b c : Option Nat} {l1 l2 : List Nat}
    (h1 : IsSeg heap a l1 b) (h2 : IsSeg heap b l2 c) : IsSeg heap a (l1 ++ l2) c :=
  isSeg_iff.2 ((isSeg_iff.1 h1).append (isSeg_iff.1 h2))

theorem IsSeg.split {heap : List NodeS} {l2 : List Nat} {c : Option Nat} :
    ∀ {l1 : List Nat} {a : Option Nat}, IsSeg heap a (l1 ++ l2) c →
      ∃ b, IsSeg heap a l1 b ∧ IsSeg heap b l2 c
  | [], a, h => ⟨a, .nil _, by simpa using h⟩
  | i :: l1, a, h => by
    rw [List.cons_append, IsSeg.cons_iff] at h
    obtain ⟨rfl, n, hn, hs⟩ := h
    obtain ⟨b, hb1, hb2⟩ := IsSeg.split hs
    exact ⟨b, .cons hn hb1, hb2⟩

theorem IsSeg.unique {heap : List NodeS} {a : Option Nat} {l1 : List Nat}
    (h1 : IsSeg heap a l1 none) : ∀ {l2 : List Nat}, IsSeg heap a l2 none → l1 = l2 :=
  fun h2 => (isSeg_iff.1 h1).unique (isSeg_iff.1 h2)

theorem IsSeg.valid {heap : List NodeS} {a e : Option Nat} {l : List Nat} (h : IsSeg heap a l e) :
    ∀ j ∈ l, ∃ n, heap[j]? = some n := by
  induction h with
  | nil e => intro j hj; cases hj
  | cons hn _ ih =>
    intro j hj
    rcases List.mem_cons.1 hj with rfl | hj
    · exact ⟨_, hn⟩
    · exact ih j hj

theorem IsSeg.lt_length {heap : List NodeS} {a e : Option Nat} {l : List Nat} (h : IsSeg heap a l e) :
    ∀ j ∈ l, j < heap.length := by
  intro j hj
  obtain ⟨n, hn⟩ := h.valid j hj
  exact (List.getElem?_eq_some_iff.1 hn).1

theorem NextOK.rel {heap : List NodeS} (hok : NextOK heap) :
    Shared.NextRel NodeS.next (fun x y => rank heap y < rank heap x) heap :=
  fun _ _ _ hn hj => rank_lt hok hn hj

theorem rank_trans (heap : List NodeS) (a b c : Nat) (h1 : rank heap b < rank heap a) (h2 : rank heap c < rank heap b) :
    rank heap c < rank heap a := Nat.lt_trans h2 h1

/-- ranks strictly decrease along a segment -/
theorem IsSeg.sorted {heap : List NodeS} (hok : NextOK heap) {a e : Option Nat} {l : List Nat}
    (h : IsSeg heap a l e) : l.Pairwise (fun x y => rank heap y < rank heap x) :=
  (isSeg_iff.1 h).pairwise (rank_trans heap) hok.rel

theorem IsSeg.nodup {heap : List NodeS} (hok : NextOK heap) {a e : Option Nat} {l : List Nat}
    (h : IsSeg heap a l e) : l.Nodup :=
  (h.sorted hok).imp (fun hab he => by subst he; omega)

theorem IsSeg.rank_end_lt {heap : List NodeS} (hok : NextOK heap) {a e : Option Nat} {l : List Nat}
    (h : IsSeg heap a l e) : ∀ s x, a = some s → e = some x → l ≠ [] → rank heap x < rank heap s := by
  intro s x hs hx hne
  cases h with
  | nil => exact absurd rfl hne
  | cons hn hs' =>
    cases hs
    exact (isSeg_iff.1 (IsSeg.cons hn hs')).rel_end (rank_trans heap) hok.rel s List.mem_cons_self x hx

theorem IsSeg.end_not_mem {heap : List NodeS} (hok : NextOK heap) {a e : Option Nat} {l : List Nat}
    (h : IsSeg heap a l e) : ∀ x, e = some x → x ∉ l := by
  intro x hx hm
  obtain ⟨l1, l2, rfl⟩ := List.append_of_mem hm
  obtain ⟨b, -, h2⟩ := h.split
  exact Nat.lt_irrefl _ (h2.rank_end_lt hok x x (IsSeg.cons_iff.1 h2).1 hx (by simp))

/-- a segment only depends on the `next` fields of its own nodes -/
theorem IsSeg.congr {heap heap' : List NodeS} {a e : Option Nat} {l : List Nat}
    (h : IsSeg heap a l e)
    (hsame : ∀ j ∈ l, ∀ n, heap[j]? = some n → ∃ n', heap'[j]? = some n' ∧ n'.next = n.next) :
    IsSeg heap' a l e :=
  isSeg_iff.2 ((isSeg_iff.1 h).congr hsame)

theorem IsSeg.at_mem {heap : List NodeS} {a e : Option Nat} {l : List Nat} (h : IsSeg heap a l e)
    {c : Nat} (hc : c ∈ l) :
    ∃ l1 l2 n, l = l1 ++ c :: l2 ∧ heap[c]? = some n ∧ IsSeg heap a l1 (some c) ∧
      IsSeg heap n.next l2 e := by
  obtain ⟨l1, l2, rfl⟩ := List.append_of_mem hc
  obtain ⟨b, h1, h2⟩ := h.split
  obtain ⟨rfl, n, hn, hs⟩ := IsSeg.cons_iff.1 h2
  exact ⟨l1, l2, n, rfl, hn, h1, hs⟩

theorem IsSeg.next_eq {heap : List NodeS} {a : Option Nat} {l1 l2 : List Nat} {c : Nat} {n : NodeS}
    (h : IsChain heap a (l1 ++ c :: l2)) (hn : heap[c]? = some n) : n.next = l2.head? := by
  obtain ⟨b, _, h2⟩ := h.split
  obtain ⟨-, n', hn', hs⟩ := IsSeg.cons_iff.1 h2
  rw [hn] at hn'; cases hn'
  cases l2 with
  | nil => exact IsSeg.nil_iff.1 hs
  | cons d l3 => exact (IsSeg.cons_iff.1 hs).1

theorem IsSeg.head_eq {heap : List NodeS} {a e : Option Nat} {i : Nat} {l : List Nat}
    (h : IsSeg heap a (i :: l) e) : a = some i := (IsSeg.cons_iff.1 h).1

theorem IsChain.start_none {heap : List NodeS} {l : List Nat} (h : IsChain heap none l) : l = [] := by
  cases l with
  | nil => rfl
  | cons a l => exact absurd (IsSeg.cons_iff.1 h).1 (by simp)

theorem IsChain.start_some {heap : List NodeS} {l : List Nat} {h0 : Nat} (h : IsChain heap (some h0) l) :
    ∃ l', l = h0 :: l' := by
  cases l with
  | nil => cases h
  | cons a l =>
    obtain ⟨ha, -⟩ := IsSeg.cons_iff.1 h
    cases ha
    exact ⟨l, rfl⟩

theorem chainFrom_none (heap : List NodeS) (fuel : Nat) : chainFrom heap fuel none = [] := by
  cases fuel <;> rfl

theorem chainFrom_eq {heap : List NodeS} {st : Option Nat} {l : List Nat} (h : IsChain heap st l) :
    ∀ fuel, l.length ≤ fuel → chainFrom heap fuel st = l := by
  have key : ∀ {a e : Option Nat} {l : List Nat}, IsSeg heap a l e → e = none →
      ∀ fuel, l.length ≤ fuel → chainFrom heap fuel a = l := by
    intro a e l h
    induction h with
    | nil e => intro he fuel _; subst he; exact chainFrom_none heap fuel
    | cons hn hs ih =>
      intro he fuel hf
      cases fuel with
      | zero => simp at hf
      | succ fuel =>
        simp only [chainFrom, hn]
        rw [ih he fuel (by simpa using hf)]
  exact key h rfl

theorem nodup_length_le : ∀ (n : Nat) (l : List Nat), l.Nodup → (∀ x ∈ l, x < n) → l.length ≤ n
  | 0, l, _, h => by
    cases l with
    | nil => simp
    | cons a l => have := h a (by simp); omega
  | n + 1, l, hnd, h => by
    have h1 : (l.erase n).Nodup := hnd.erase n
    have h2 : ∀ x ∈ l.erase n, x < n := by
      intro x hx
      have hx' := (List.Nodup.mem_erase_iff hnd).1 hx
      have := h x hx'.2
      have := hx'.1
      omega
    have h3 := nodup_length_le n (l.erase n) h1 h2
    have h4 : l.length ≤ (l.erase n).length + 1 := by
      rw [List.length_erase]
      split <;> omega
    omega

theorem getD_range' (a n j : Nat) {d : Nat} (hj : j < n) : (List.range' a n).getD j d = a + j := by
  rw [List.getD_eq_getElem?_getD, List.getElem?_range' hj, Nat.one_mul]; rfl

theorem exists_chain {heap : List NodeS} (hok : NextOK heap) :
    ∀ (r i : Nat), rank heap i < r → i < heap.length → ∃ l, IsChain heap (some i) l
  | 0, _, h, _ => by omega
  | r + 1, i, h, hi => by
    have hn := getElem?_nodeAt hi
    cases hnx : (nodeAt heap i).next with
    | none => exact ⟨[i], .cons hn (by rw [hnx]; exact .nil _)⟩
    | some j =>
      have h1 := rank_lt hok hn hnx
      obtain ⟨l, hl⟩ := exists_chain hok r j (by omega) (hok i _ j hn hnx).1
      exact ⟨i :: l, .cons hn (by rw [hnx]; exact hl)⟩

def chainOf (heap : List NodeS) (st : Option Nat) : List Nat := chainFrom heap heap.length st

theorem chainOf_isChain {heap : List NodeS} (hok : NextOK heap) (st : Option Nat)
    (hst : ∀ i, st = some i → i < heap.length) : IsChain heap st (chainOf heap st) := by
  cases st with
  | none => unfold chainOf; rw [chainFrom_none]; exact .nil _
  | some i =>
    obtain ⟨l, hl⟩ := exists_chain hok _ i (Nat.lt_succ_self _) (hst i rfl)
    have hlen := nodup_length_le heap.length l (hl.nodup hok) (hl.lt_length)
    unfold chainOf
    rw [chainFrom_eq hl _ hlen]
    exact hl

theorem chainOf_eq {heap : List NodeS} (hok : NextOK heap) {st : Option Nat} {l : List Nat}
    (h : IsChain heap st l) : chainOf heap st = l := by
  have hlen := nodup_length_le heap.length l (h.nodup hok) (h.lt_length)
  unfold chainOf
  exact chainFrom_eq h _ hlen

theorem chainOf_none (heap : List NodeS) : chainOf heap none = [] := chainFrom_none _ _

theorem nextOK_modify_other {heap : List NodeS} (hok : NextOK heap) (i : Nat) {f : NodeS → NodeS}
    (hf : ∀ n, (f n).next = n.next) : NextOK (heap.modify i f) := by
  have hget : ∀ (a : Nat) (n : NodeS), (heap.modify i f)[a]? = some n →
      ∃ n0 : NodeS, heap[a]? = some n0 ∧ n.next = n0.next := by
    intro a n hn
    rw [List.getElem?_modify] at hn
    cases hn0 : heap[a]? with
    | none => rw [hn0] at hn; cases hn
    | some n0 =>
      rw [hn0] at hn
      simp only [Option.map_eq_map, Option.map_some, Option.some.injEq] at hn
      subst hn
      refine ⟨n0, rfl, ?_⟩
      split
      · exact hf n0
      · rfl
  intro a n b hn hb
  obtain ⟨n0, hn0, hnx⟩ := hget a n hn
  obtain ⟨h1, h2, h3⟩ := hok a n0 b hn0 (hnx ▸ hb)
  refine ⟨by rw [List.length_modify]; exact h1, h2, ?_⟩
  intro hab m b' hm hb'
  obtain ⟨m0, hm0, hmx⟩ := hget b m hm
  exact h3 hab m0 b' hm0 (hmx ▸ hb')

/-- appending nodes that are chained upwards (or a single node pointing anywhere into the old heap) -/
theorem nextOK_append {heap ext : List NodeS} (hok : NextOK heap)
    (hext : ∀ (j : Nat) (hj : j < ext.length) (x : Nat), ext[j].next = some x →
      (x < heap.length ∧ ext.length = 1) ∨ (x = heap.length + j + 1 ∧ j + 1 < ext.length)) :
    NextOK (heap ++ ext) := by
  intro a n b hn hb
  by_cases ha : a < heap.length
  · rw [List.getElem?_append_left ha] at hn
    obtain ⟨h1, h2, h3⟩ := hok a n b hn hb
    refine ⟨by rw [List.length_append]; omega, h2, ?_⟩
    intro hab m b' hm hb'
    rw [List.getElem?_append_left h1] at hm
    exact h3 hab m b' hm hb'
  · have hal : a < (heap ++ ext).length := (List.getElem?_eq_some_iff.1 hn).1
    rw [List.length_append] at hal
    rw [List.getElem?_append_right (by omega)] at hn
    have hj : a - heap.length < ext.length := by omega
    rw [List.getElem?_eq_getElem hj] at hn
    cases hn
    rcases hext _ hj b hb with ⟨h1, h2⟩ | ⟨h1, h2⟩
    · refine ⟨by rw [List.length_append]; omega, by omega, fun h => by omega⟩
    · refine ⟨by rw [List.length_append]; omega, by omega, ?_⟩
      intro _ m b' hm hb'
      rw [List.getElem?_append_right (by omega)] at hm
      have hj' : b - heap.length < ext.length := by omega
      rw [List.getElem?_eq_getElem hj'] at hm
      cases hm
      rcases hext _ hj' b' hb' with ⟨h3, h4⟩ | ⟨h3, h4⟩
      · omega
      · omega

theorem nextOK_modify_next {heap : List NodeS} (hok : NextOK heap) (pr : Nat) (nx : Option Nat)
    (h1 : ∀ j, nx = some j → j < heap.length ∧ j ≠ pr ∧
      (pr < j → ∀ (m : NodeS) (j' : Nat), heap[j]? = some m → m.next = some j' → j < j'))
    (h2 : ∀ (x : Nat) (n : NodeS), heap[x]? = some n → n.next = some pr → x < pr → ∀ j, nx = some j → pr < j) :
    NextOK (heap.modify pr (fun m => { m with next := nx })) := by
  have hget : ∀ (a : Nat) (n : NodeS), (heap.modify pr (fun m => { m with next := nx }))[a]? = some n →
      ∃ n0 : NodeS, heap[a]? = some n0 ∧ ((a = pr ∧ n.next = nx) ∨ (a ≠ pr ∧ n = n0)) := by
    intro a n hn
    by_cases hpa : pr = a
    · subst hpa
      rw [List.getElem?_modify_eq] at hn
      cases hn0 : heap[pr]? with
      | none => rw [hn0] at hn; cases hn
      | some n0 =>
        rw [hn0] at hn
        simp only [Option.map_eq_map, Option.map_some, Option.some.injEq] at hn
        subst hn
        exact ⟨n0, rfl, Or.inl ⟨rfl, rfl⟩⟩
    · rw [List.getElem?_modify_ne _ _ hpa] at hn
      exact ⟨n, hn, Or.inr ⟨fun e => hpa e.symm, rfl⟩⟩
  intro a n b hn hb
  rw [List.length_modify]
  obtain ⟨n0, hn0, hc⟩ := hget a n hn
  rcases hc with ⟨rfl, hnx⟩ | ⟨hne, rfl⟩
  · rw [hnx] at hb
    obtain ⟨e1, e2, e3⟩ := h1 b hb
    refine ⟨e1, e2, ?_⟩
    intro hab m b' hm hb'
    obtain ⟨m0, hm0, hc'⟩ := hget b m hm
    rcases hc' with ⟨rfl, _⟩ | ⟨_, rfl⟩
    · exact absurd rfl e2
    · exact e3 hab m b' hm0 hb'
  · obtain ⟨e1, e2, e3⟩ := hok a n b hn0 hb
    refine ⟨e1, e2, ?_⟩
    intro hab m b' hm hb'
    obtain ⟨m0, hm0, hc'⟩ := hget b m hm
    rcases hc' with ⟨rfl, hmx⟩ | ⟨_, rfl⟩
    · rw [hmx] at hb'
      exact h2 a n hn0 hb hab b' hb'
    · exact e3 hab m b' hm0 hb'

theorem isChain_prepend {heap : List NodeS} {a : Option Nat} {l : List Nat}
    (h : IsChain heap a l) (new : NodeS) (hnew : new.next = a) :
    IsChain (heap ++ [new]) (some heap.length) (heap.length :: l) := by
  refine .cons (n := new) (by simp) ?_
  rw [hnew]
  refine h.congr ?_
  intro j _ n hn
  have hjl : j < heap.length := (List.getElem?_eq_some_iff.1 hn).1
  exact ⟨n, by rw [List.getElem?_append_left hjl, hn], rfl⟩

theorem isChain_append_tail {heap : List NodeS} {a : Option Nat} {l1 : List Nat} {pr : Nat}
    (h : IsChain heap a (l1 ++ [pr])) (hnd : (l1 ++ [pr]).Nodup) (new : NodeS) (hnew : new.next = none) :
    IsChain ((heap ++ [new]).modify pr (fun m => { m with next := some heap.length })) a
      (l1 ++ [pr, heap.length]) := by
  obtain ⟨b, h1, h2⟩ := h.split
  obtain ⟨rfl, np, hnp, _⟩ := IsSeg.cons_iff.1 h2
  have hprl : pr < heap.length := (List.getElem?_eq_some_iff.1 hnp).1
  have hpr1 : pr ∉ l1 := by
    intro hm
    exact (List.nodup_append.1 hnd).2.2 pr hm pr (by simp) rfl
  refine IsSeg.append (b := some pr) ?_ ?_
  · refine h1.congr ?_
    intro j hj n hn
    have hne : pr ≠ j := fun he => hpr1 (he ▸ hj)
    have hjl : j < heap.length := (List.getElem?_eq_some_iff.1 hn).1
    refine ⟨n, ?_, rfl⟩
    rw [List.getElem?_modify_ne _ _ hne, List.getElem?_append_left hjl, hn]
  · refine .cons (n := { np with next := some heap.length }) ?_ ?_
    · rw [List.getElem?_modify_eq, List.getElem?_append_left hprl, hnp]; rfl
    · refine .cons (n := new) ?_ ?_
      · rw [List.getElem?_modify_ne _ _ (by omega)]; simp
      · rw [hnew]; exact .nil _

theorem isChain_unlink {heap : List NodeS} {a : Option Nat} {l1 l2 : List Nat}
    {pr i : Nat} {ni : NodeS} (h : IsChain heap a (l1 ++ pr :: i :: l2))
    (hnd : (l1 ++ pr :: i :: l2).Nodup) (hni : heap[i]? = some ni) :
    IsChain (heap.modify pr (fun m => { m with next := ni.next })) a (l1 ++ pr :: l2) :=
  isSeg_iff.2 ((isSeg_iff.1 h).unlink hnd hni (fun _ => rfl))

theorem predOf_none_of_not_mem_tail (i : Nat) : ∀ l : List Nat, i ∉ l.tail → predOf l i = none
  | [], _ => rfl
  | [_], _ => rfl
  | a :: b :: rest, h => by
    have hb : b ≠ i := fun he => h (by simp [he])
    have hr : i ∉ (b :: rest).tail := fun hm => h (by simp at hm ⊢; exact Or.inr hm)
    simp only [predOf, beq_iff_eq, hb, if_false]
    exact predOf_none_of_not_mem_tail i (b :: rest) hr

theorem predOf_head (i : Nat) (l : List Nat) (hi : i ∉ l) : predOf (i :: l) i = none :=
  predOf_none_of_not_mem_tail i (i :: l) hi

theorem predOf_mid (i a : Nat) (l2 : List Nat) (ha : a ≠ i) :
    ∀ l1 : List Nat, i ∉ l1 → predOf (l1 ++ a :: i :: l2) i = some a
  | [], _ => by simp [predOf]
  | [x], _ => by
    simp only [List.cons_append, List.nil_append, predOf, beq_iff_eq, ha, if_false, if_true]
  | x :: y :: l1, h => by
    have hy : y ≠ i := fun he => h (by simp [he])
    have hr : i ∉ y :: l1 := fun hm => h (List.mem_cons_of_mem _ hm)
    simp only [List.cons_append, predOf, beq_iff_eq, hy, if_false]
    exact predOf_mid i a l2 ha (y :: l1) hr

theorem predOf_cases {l : List Nat} (hnd : l.Nodup) {i : Nat} (hi : i ∈ l) :
    (∃ l2, l = i :: l2 ∧ predOf l i = none) ∨
    (∃ l1 pr l2, l = l1 ++ pr :: i :: l2 ∧ predOf l i = some pr) := by
  obtain ⟨l1, l2, rfl⟩ := List.append_of_mem hi
  have h5 := List.nodup_append.1 hnd
  have hi1 : i ∉ l1 := fun hm => h5.2.2 i hm i (by simp) rfl
  have hi2 : i ∉ l2 := (List.nodup_cons.1 h5.2.1).1
  rcases List.eq_nil_or_concat l1 with rfl | ⟨l1', pr, rfl⟩
  · exact Or.inl ⟨l2, rfl, predOf_head i l2 hi2⟩
  · refine Or.inr ⟨l1', pr, l2, by simp, ?_⟩
    have hpr : pr ≠ i := fun he => hi1 (by simp [he])
    have : i ∉ l1' := fun hm => hi1 (by simp [hm])
    have h := predOf_mid i pr l2 hpr l1' this
    simpa using h

/-- in a list without duplicates, `[i, c]` is a sublist iff `i` is in front of `c` -/
theorem pair_sublist_iff {L p q : List Nat} {c : Nat} (hnd : L.Nodup) (hL : L = p ++ c :: q) (i : Nat) :
    List.Sublist [i, c] L ↔ i ∈ p := by
  subst hL
  have h5 := List.nodup_append.1 hnd
  have hcp : c ∉ p := fun hm => h5.2.2 c hm c (by simp) rfl
  have hcq : c ∉ q := (List.nodup_cons.1 h5.2.1).1
  constructor
  · intro h
    obtain ⟨a1, a2, he, h1, h2⟩ := List.sublist_append_iff.1 h
    cases a1 with
    | nil =>
      simp only [List.nil_append] at he
      subst he
      exfalso
      cases h2 with
      | cons _ h3 => exact hcq (h3.subset (by simp))
      | cons_cons _ h3 => exact hcq (h3.subset (by simp))
    | cons x a1' =>
      cases a1' with
      | nil =>
        simp only [List.cons_append, List.nil_append, List.cons.injEq] at he
        obtain ⟨rfl, -⟩ := he
        exact h1.subset (by simp)
      | cons y a1'' =>
        simp only [List.cons_append, List.cons.injEq] at he
        obtain ⟨rfl, rfl, -⟩ := he
        exact absurd (h1.subset (by simp)) hcp
  · intro hi
    obtain ⟨p1, p2, rfl⟩ := List.append_of_mem hi
    have : List.Sublist [i, c] ((p1 ++ i :: p2) ++ c :: q) := by
      have h1 : List.Sublist [i] (p1 ++ i :: p2) := List.singleton_sublist.2 (by simp)
      have h2 : List.Sublist [c] (c :: q) := List.singleton_sublist.2 (by simp)
      exact List.Sublist.append h1 h2
    exact this

def copiesOf (heap : List NodeS) (c : List Nat) (mk : NodeS → Option Nat → NodeS) : List NodeS :=
  (List.range c.length).map fun j =>
    mk (heap.getD (c.getD j 0) dflt) (if j + 1 < c.length then some (heap.length + j + 1) else none)

theorem copyChain_eq (heap : List NodeS) (c : List Nat) (mk : NodeS → Option Nat → NodeS) :
    copyChain heap c mk = (heap ++ copiesOf heap c mk, if c.length = 0 then none else some heap.length) := rfl

theorem copiesOf_length (heap : List NodeS) (c : List Nat) (mk : NodeS → Option Nat → NodeS) :
    (copiesOf heap c mk).length = c.length := by simp [copiesOf]

theorem copiesOf_get (heap : List NodeS) (c : List Nat) (mk : NodeS → Option Nat → NodeS) {j : Nat}
    (hj : j < c.length) :
    nodeAt (heap ++ copiesOf heap c mk) (heap.length + j) =
      mk (nodeAt heap (c.getD j 0)) (if j + 1 < c.length then some (heap.length + j + 1) else none) := by
  rw [nodeAt_append_right _ _ (by rw [copiesOf_length]; exact hj)]
  simp [copiesOf, nodeAt]

theorem copiesOf_isSeg (heap : List NodeS) (c : List Nat) (mk : NodeS → Option Nat → NodeS)
    (hmk : ∀ src nx, (mk src nx).next = nx) :
    ∀ (m j : Nat), j + m = c.length →
      IsChain (heap ++ copiesOf heap c mk) (if m = 0 then none else some (heap.length + j))
        (List.range' (heap.length + j) m)
  | 0, j, _ => by simp only [if_true, List.range'_zero]; exact .nil _
  | m + 1, j, h => by
    have hj : j < c.length := by omega
    have hlt : heap.length + j < (heap ++ copiesOf heap c mk).length := by
      rw [List.length_append, copiesOf_length]; omega
    have hn := getElem?_nodeAt hlt
    rw [copiesOf_get heap c mk hj] at hn
    rw [if_neg (by omega), List.range'_succ]
    refine .cons hn ?_
    rw [hmk]
    have ih := copiesOf_isSeg heap c mk hmk m (j + 1) (by omega)
    have e1 : heap.length + (j + 1) = heap.length + j + 1 := by omega
    rw [e1] at ih
    by_cases hm : m = 0
    · subst hm
      rw [if_neg (by omega)]
      simpa using ih
    · rw [if_pos (by omega)]
      rw [if_neg hm] at ih
      exact ih

theorem copiesOf_isChain (heap : List NodeS) (c : List Nat) (mk : NodeS → Option Nat → NodeS)
    (hmk : ∀ src nx, (mk src nx).next = nx) :
    IsChain (heap ++ copiesOf heap c mk) (if c.length = 0 then none else some heap.length)
      (List.range' heap.length c.length) := by
  have := copiesOf_isSeg heap c mk hmk c.length 0 (by omega)
  simpa using this

theorem nextOK_copies {heap : List NodeS} (hok : NextOK heap) (c : List Nat) (mk : NodeS → Option Nat → NodeS)
    (hmk : ∀ src nx, (mk src nx).next = nx) : NextOK (heap ++ copiesOf heap c mk) := by
  refine nextOK_append hok ?_
  intro j hj x hx
  rw [copiesOf_length] at hj
  right
  have : (copiesOf heap c mk)[j] = mk (heap.getD (c.getD j 0) dflt)
      (if j + 1 < c.length then some (heap.length + j + 1) else none) := by
    simp [copiesOf]
  rw [this, hmk] at hx
  split at hx
  · cases hx
    rw [copiesOf_length]
    exact ⟨rfl, by assumption⟩
  · cases hx

/-- the heap after `copyChain`: the old nodes, then the copies, whose lock words are free -/
theorem copies_shape (heap : List NodeS) (c : List Nat) (mk : NodeS → Option Nat → NodeS)
    (hmk : ∀ src nx, (mk src nx).lock = none) :
    (heap ++ copiesOf heap c mk).length = heap.length + c.length ∧
    (∀ j, j < heap.length → nodeAt (heap ++ copiesOf heap c mk) j = nodeAt heap j) ∧
    (∀ j, j < c.length → nodeAt (heap ++ copiesOf heap c mk) (heap.length + j) =
      mk (nodeAt heap (c.getD j 0)) (if j + 1 < c.length then some (heap.length + j + 1) else none)) ∧
    (∀ j, heap.length ≤ j → nodeAt (heap ++ copiesOf heap c mk) j = dflt ∨
      ∃ src nx, nodeAt (heap ++ copiesOf heap c mk) j = mk src nx) ∧
    (∀ h, (nodeAt (heap ++ copiesOf heap c mk) h).lock = (nodeAt heap h).lock) := by
  have hlen : (heap ++ copiesOf heap c mk).length = heap.length + c.length := by
    rw [List.length_append, copiesOf_length]
  have hnew : ∀ j, heap.length ≤ j → nodeAt (heap ++ copiesOf heap c mk) j = dflt ∨
      ∃ src nx, nodeAt (heap ++ copiesOf heap c mk) j = mk src nx := by
    intro j hj
    by_cases hj2 : j < heap.length + c.length
    · obtain ⟨k, hk, rfl⟩ : ∃ k, k < c.length ∧ j = heap.length + k := ⟨j - heap.length, by omega, by omega⟩
      exact Or.inr ⟨_, _, copiesOf_get _ _ _ hk⟩
    · exact Or.inl (nodeAt_ge (by omega))
  refine ⟨hlen, fun j hj => nodeAt_append_left _ hj, fun j hj => copiesOf_get _ _ _ hj, hnew, ?_⟩
  intro h
  by_cases hh : h < heap.length
  · rw [nodeAt_append_left _ hh]
  · rw [nodeAt_ge (Nat.le_of_not_lt hh)]
    rcases hnew h (Nat.le_of_not_lt hh) with e | ⟨_, _, e⟩
    · rw [e]
    · rw [e, hmk]; rfl

end Flurry.Proto.BinK
