import Flurry.Lemmas.BinNHMInvStep
import Flurry.Lemmas.BinNHMGInv
/-! # Proto/BinN and Proto/BinNH: the ghost invariant across the steps of readers and writers (C01, C10)

`ginv_rw`: linearization points: lock-holding writers at their single store (`wStore`), the lock-free insert at
its successful CAS, writers and readers that see an empty cell at that load, readers *in hindsight* (`Good`).
It serves `Proto/BinN` (`Lemmas/BinNLin.lean`) and `Proto/BinNH`: the transfers, allocations and commits have no
point — none of their steps changes the abstract state of any key — and are dealt with there. `ginv_step`: `ginv_rw`
with `stepK_inv`, for the shared memory of `Proto/BinNH` (a step of `BinN.StepK` that is not the start of a resize); it
also hands on `stepK_inv`'s frame of the cells in mid-transfer, which `BinNH.full_rw` needs for the helpers' links to the
ghost. At the end: the invariants of this namespace hold of `BinN.init`. -/
namespace Flurry.Proto.BinNHM
open Flurry.Proto.BinN
open Flurry.Lin
open Flurry.Proto.BinX (NodeS Cell Pending isReader dflt nodeAt nodeAt_of_some nextA isReader_eq_isRead)

theorem AbsEff.quiet_of {s s' : State} {l : Local} (ae : AbsEff s s' l) (h1 : ∀ g, l.pc ≠ .wCas g)
    (h2 : ∀ g h pr hi hn, l.pc ≠ .wStore g h pr hi hn) : ∀ k, absOf s' k = absOf s k := by
  cases ae with
  | quiet h => exact h
  | cas p g v vi _ hpc _ _ _ => exact absurd hpc (h1 g)
  | store p g h pr hi hn _ hpc _ _ => exact absurd hpc (h2 g h pr hi hn)

/-- the point of a call that completes without a store of its own: a read is justified at some `τ0 ≤ now`, a
writer that finds the cell empty and has nothing to do takes effect now -/
theorem fin_point {k : Nat} {s : State} {G : Ghost} {A : Nat → KSt} {pt : Nat → Nat} {t : Nat} {l : Local}
    {p : Pending} {res : KRes}
    (g : GInv k s G A pt) (C : RWInv s G) (hl : s.threads[t]? = some l) (hp : l.call = some p)
    (hk : p.key = k) (hf : Fin s p l.pc res) :
    ∃ τ0, (isRead p.op = true ∧ p.inv ≤ τ0 ∧ τ0 ≤ s.now ∧ specStep (A τ0) p.op = (A τ0, res)) ∨
      (isRead p.op = false ∧ τ0 = s.now + 1 ∧ specStep (absOf s k) p.op = (absOf s k, res)) := by
  have hop := C.thr.opOK t l p hl hp
  have hpi := C.thr.pendTime t l p hl hp
  obtain ⟨pc, call⟩ := l
  simp only at hp hf hop
  subst hp
  cases hf with
  | @rEmpty g' hc =>
    have hrd : isRead p.op = true := by rw [← isReader_eq_isRead]; exact hop
    have hlive := C.gen.live_of_gen hl rfl (g := g') rfl (by rw [hc]; simp)
    rw [hc] at hlive
    have hnone : absOf s k = none := by rw [← hk]; exact absOf_of_empty hlive
    exact ⟨s.now, Or.inl ⟨hrd, hpi, Nat.le_refl _, by rw [g.core.hA, hnone]; exact missRes_spec hrd⟩⟩
  | miss =>
    have hrd : isRead p.op = true := by rw [← isReader_eq_isRead]; exact hop
    obtain ⟨τ, h1, h2, h3⟩ := (g.readers t _ p none hl rfl hk rfl).miss
    exact ⟨τ, Or.inl ⟨hrd, h1, h2, by rw [h3]; exact missRes_spec hrd⟩⟩
  | @hit c n hn hkey =>
    have hrd : isRead p.op = true := by rw [← isReader_eq_isRead]; exact hop
    have hnode := nodeAt_of_some hn
    obtain ⟨τ, h1, h2, h3⟩ := (g.readers t _ p (some c) hl rfl hk rfl).hit C.heap g.core.hA hpi
      (by rw [hnode, hkey, hk])
    exact ⟨τ, Or.inl ⟨hrd, h1, h2, by rw [h3, hnode]; exact hitRes_spec hrd n⟩⟩
  | @wEmpty g' hc hnot =>
    have hwr : isRead p.op = false := by rw [← isReader_eq_isRead]; exact hop
    have hlive := C.gen.live_of_gen hl rfl (g := g') rfl (by rw [hc]; simp)
    rw [hc] at hlive
    have hnone : absOf s k = none := by rw [← hk]; exact absOf_of_empty hlive
    refine ⟨s.now + 1, Or.inr ⟨hwr, rfl, ?_⟩⟩
    rw [hnone]
    cases hop' : p.op with
    | ins v vi => exact absurd ⟨v, vi, Or.inl hop'⟩ hnot
    | tryIns v vi => exact absurd ⟨v, vi, Or.inr hop'⟩ hnot
    | get => rw [hop'] at hwr; cases hwr
    | has => rw [hop'] at hwr; cases hwr
    | rm => rfl
    | cipInc nvi => rfl
    | cipRm => rfl

/-- the store of a validated writer is the specification step on its own key and leaves every other key alone -/
theorem RWInv.store_abs {s : State} {G : Ghost} {t : Nat} {l : Local} (C : RWInv s G) {p : Pending} {g h : Nat}
    {pred hit hnext : Option Nat} (hl : s.threads[t]? = some l) (hp : l.call = some p)
    (hpc : l.pc = .wStore g h pred hit hnext) :
    specStep (absOf s p.key) p.op =
      (absOf (storeAt (tick s) g p pred hit hnext).1 p.key, (storeAt (tick s) g p pred hit hnext).2) ∧
    ∀ k, k ≠ p.key → absOf (storeAt (tick s) g p pred hit hnext).1 k = absOf s k := by
  obtain ⟨pc, call⟩ := l
  simp only at hp hpc
  subst hp hpc
  have T := C.gen.thr t _ hl
  have hv0 : vcell s.cur { pc := Pc.wStore g h pred hit hnext, call := some p } = some (g, p.key % 2 ^ g, h) := rfl
  have act := C.active_of_vcell hl rfl rfl (fun h => h) hv0
  obtain ⟨hcell, -⟩ := T.valid _ _ _ hv0
  have hwr : isReader p.op = false := C.thr.opOK t _ p hl rfl
  have hw := C.walk.walk t _ p hl rfl
  obtain ⟨-, -, hspec, hoth⟩ := store_effect (s := tick s) (C.heap.sameMem (SameMem.tick s)) p hwr
    (act.sameMem (SameMem.tick s)) (h := h) hcell hw.1 hw.2
  refine ⟨?_, ?_⟩
  · rw [absOf_sameMem (SameMem.tick s)] at hspec
    exact hspec
  · intro k hk
    rw [hoth k hk, absOf_sameMem (SameMem.tick s)]

/-- **the ghost invariant across a step of a reader or writer**: its points are those of the file header; all it
needs of the structural invariant is `RWInv`, that the justifications of the readers are carried over (`hcar`), and
that only the CAS and the store change an abstract state (`hq`) -/
theorem ginv_rw {k : Nat} {s s' : State} {G G' : Ghost} {A : Nat → KSt} {pt : Nat → Nat} {t : Nat} {l : Local}
    {pick : Nat} (g : GInv k s G A pt) (C : RWInv s G) (hl : s.threads[t]? = some l)
    (hstep : StepK s t l pick s') (hnT : ¬ isT l.pc) (hrz : s'.resizing = s.resizing)
    (hcar : s'.now = s.now + 1 → Carries k s s' G G' A (nextA A s.now (absOf s' k)))
    (hq : (∀ g, l.pc ≠ .wCas g) → (∀ g h pr hi hn, l.pc ≠ .wStore g h pr hi hn) → ∀ k, absOf s' k = absOf s k) :
    ∃ A' pt', GInv k s' G' A' pt' := by
  have H := C.heap
  have T := C.thr
  have tr := g.core.trace
  cases hstep with
  | idle hpc =>
    have habs : ∀ k, absOf (setT (tick s) t l) k = absOf s k := fun k => (absOf_setT _ _ _ k).trans (absOf_tick s k)
    refine ⟨_, _, ginv_next g T (hcar rfl) rfl
      (tr.quiet_keep (hnew := []) T.gen hl rfl rfl rfl (habs k) (fun _ h => nomatch h) rfl rfl) ?_⟩
    intro p cur _ _ hc
    rw [hpc] at hc; cases hc
  | invoke k' op hpc =>
    have habs : ∀ k, absOf (setT (tick s) t
        { pc := if isReader op then .rTable else .wTable, call := some ⟨k', op, s.now + 1⟩ }) k = absOf s k :=
      fun k => (absOf_setT _ _ _ k).trans (absOf_tick s k)
    refine ⟨_, _, ginv_next g T (hcar rfl) rfl
      (tr.quiet_none (hnew := []) T.gen hl rfl rfl rfl (habs k) (fun _ h => nomatch h)
        (GhostView.extOf_none_of_res (show resOfPc l.pc = none by rw [hpc]; rfl))
        (GhostView.extOf_none_of_res (resOfPc_invoke op))) ?_⟩
    intro p cur _ _ hc
    cases hr : isReader op <;> simp [hr] at hc
  | resize hpc hr => rw [hr] at hrz; cases hrz
  | move p pc' hp hm =>
    have habs : ∀ k, absOf (setT (tick s) t { l with pc := pc' }) k = absOf s k :=
      fun k => (absOf_setT _ _ _ k).trans (absOf_tick s k)
    refine ⟨_, _, ginv_next g T (hcar rfl) rfl
      (tr.quiet_none (hnew := []) T.gen hl rfl rfl rfl (habs k) (fun _ h => nomatch h)
        (GhostView.extOf_none_of_res hm.res_none.1) (GhostView.extOf_none_of_res hm.res_none.2)) ?_⟩
    intro p1 cur hc1 hk1 hpc1
    simp only at hc1 hpc1
    have hpp : p1 = p := by rw [hp] at hc1; exact (Option.some.inj hc1).symm
    subst hpp
    have hpi := C.thr.pendTime t l p1 hl hp
    refine ⟨hpi, ?_⟩
    rcases hm.good hpc1 with ⟨g', h, hpc, hcell, rfl⟩ | ⟨c, n, hpc, hn, hne, rfl⟩
    · have hlive := C.gen.live_of_gen hl hp (g := g') (by rw [hpc]; rfl) (by rw [hcell]; simp)
      rw [hcell, hk1] at hlive
      exact Good.cell H hlive
    · have hnode := nodeAt_of_some hn
      have := (g.readers t l p1 (some c) hl hp hk1 hpc).next H g.core.hA hpi (by rw [hnode, ← hk1]; exact hne)
      rw [hnode] at this
      exact this
  | tmove pc' hp hm => obtain ⟨pc, call⟩ := l; cases hm <;> exact absurd trivial hnT
  | lockMove p h x pc' hp hm =>
    have habs := hq (by intro g hpc; rw [hpc] at hm; cases hm) (by intro g h a b c hpc; rw [hpc] at hm; cases hm)
    refine ⟨_, _, ginv_next g T (hcar rfl) rfl
      (tr.quiet_none (hnew := []) T.gen hl rfl rfl rfl (habs k) (fun _ h => nomatch h)
        (GhostView.extOf_none_of_res hm.res_none.1) (GhostView.extOf_none_of_res hm.res_none.2.1)) ?_⟩
    intro p1 cur _ _ hpc1
    exact absurd hpc1 (hm.res_none.2.2 cur)
  | tlockMove h x pc' hp hm => obtain ⟨pc, call⟩ := l; cases hm <;> exact absurd trivial hnT
  | fin p res hp hf =>
    have habs : ∀ k, absOf (finish (tick s) t p res) k = absOf s k :=
      fun k => (absOf_finish _ _ _ _ k).trans (absOf_tick s k)
    by_cases hk : p.key = k
    · obtain ⟨τ0, h⟩ := fin_point g C hl hp hk hf
      exact ⟨_, _, ginv_next (l' := { pc := .idle, call := none }) g T (hcar rfl) rfl
        (tr.call_fin T.gen hl rfl rfl rfl hp hk hf.res_none rfl
          (h.imp (fun ⟨a, b, c, d⟩ => ⟨a, habs k, b, c, d⟩) (fun ⟨a, b, c⟩ => ⟨a, b, by rw [habs k]; exact c⟩)))
        (fun _ _ h => nomatch h)⟩
    · exact ⟨_, _, ginv_next (l' := { pc := .idle, call := none }) g T (hcar rfl) rfl
        (tr.other_key (hnew := [(p.key, (⟨t, p.op, res, p.inv, s.now + 1⟩ : Call))]) T.gen hl rfl rfl rfl (habs k)
          (fun q (h : l.call = some q) => by rw [hp] at h; cases h; exact hk)
          (by intro x hx; rw [List.mem_singleton.1 hx]; exact hk) (Or.inr rfl))
        (fun _ _ h => nomatch h)⟩
  | cas p g0 v vi hp hpc hc hop =>
    have habs : ∀ k, absOf (finish (setCell { tick s with heap := s.heap ++ [⟨p.key, (v, vi), none, none⟩] } g0 p.key
        (.node s.heap.length)) t p .none) k = if p.key = k then some (v, vi) else absOf s k :=
      (cas_finish_effect (t := t) H p (C.active_of_empty hl hp (by rw [hpc]; rfl) hc) hc (v, vi)).2
    have hnow : (finish (setCell { tick s with heap := s.heap ++ [⟨p.key, (v, vi), none, none⟩] }
        g0 p.key (.node s.heap.length)) t p .none).now = s.now + 1 := rfl
    have hwr : isRead p.op = false := by
      rw [← isReader_eq_isRead]; rcases hop with h | h <;> rw [h] <;> rfl
    by_cases hk : p.key = k
    · have hnone : absOf s k = none := by
        have hlive := C.gen.live_of_gen hl hp (g := g0) (by rw [hpc]; rfl) (by rw [hc]; simp)
        rw [hc] at hlive
        rw [← hk]; exact absOf_of_empty hlive
      refine ⟨_, _, ginv_next (l' := { pc := .idle, call := none }) g T (hcar hnow) rfl
        (tr.call_fin (τ0 := s.now + 1) T.gen hl rfl rfl rfl hp hk (show resOfPc l.pc = none by rw [hpc]; rfl) rfl
          (Or.inr ⟨hwr, rfl, ?_⟩))
        (fun _ _ h => nomatch h)⟩
      show specStep (absOf s k) p.op = _
      rw [habs k, if_pos hk, hnone]
      rcases hop with hop | hop <;> rw [hop] <;> rfl
    · exact ⟨_, _, ginv_next (l' := { pc := .idle, call := none }) g T (hcar hnow) rfl
        (tr.other_key (hnew := [(p.key, (⟨t, p.op, .none, p.inv, s.now + 1⟩ : Call))]) T.gen hl rfl rfl rfl
          (by rw [habs k, if_neg hk])
          (fun q (h : l.call = some q) => by rw [hp] at h; cases h; exact hk)
          (by intro x hx; rw [List.mem_singleton.1 hx]; exact hk) (Or.inr rfl))
        (fun _ _ h => nomatch h)⟩
  | store p g0 h pred hit hnext hp hpc =>
    obtain ⟨hspec, hother⟩ := C.store_abs hl hp hpc
    have hop := C.thr.opOK t l p hl hp
    rw [hpc] at hop
    have hwr : isRead p.op = false := by rw [← isReader_eq_isRead]; exact hop
    obtain ⟨e1, -, -, e4, e5, -, -⟩ := storeAt_shape (tick s) g0 p pred hit hnext
    have hthr' : (setT (storeAt (tick s) g0 p pred hit hnext).1 t
        { l with pc := .wUnlock g0 h (storeAt (tick s) g0 p pred hit hnext).2 false }).threads =
        s.threads.set t { l with pc := .wUnlock g0 h (storeAt (tick s) g0 p pred hit hnext).2 false } := by
      show (storeAt (tick s) g0 p pred hit hnext).1.threads.set t _ = _
      rw [e1]; rfl
    have hnow' : (setT (storeAt (tick s) g0 p pred hit hnext).1 t
        { l with pc := .wUnlock g0 h (storeAt (tick s) g0 p pred hit hnext).2 false }).now = s.now + 1 := e4
    have hhist' : (setT (storeAt (tick s) g0 p pred hit hnext).1 t
        { l with pc := .wUnlock g0 h (storeAt (tick s) g0 p pred hit hnext).2 false }).hist = [] ++ s.hist := e5
    have habs : ∀ k, absOf (setT (storeAt (tick s) g0 p pred hit hnext).1 t
        { l with pc := .wUnlock g0 h (storeAt (tick s) g0 p pred hit hnext).2 false }) k =
        absOf (storeAt (tick s) g0 p pred hit hnext).1 k :=
      fun k => absOf_setT _ _ _ k
    have hres0 : resOfPc l.pc = none := by rw [hpc]; rfl
    by_cases hk : p.key = k
    · refine ⟨_, _, ginv_next g T (hcar hnow') hthr'
        (tr.writer_point (hnew := []) T.gen hl hthr' hnow' hhist' hp hk (fun _ h => nomatch h) hres0 rfl rfl hwr ?_)
        (fun _ _ _ _ h => nomatch h)⟩
      show specStep (absOf s k) p.op = _
      rw [habs k, ← hk]
      exact hspec
    · exact ⟨_, _, ginv_next g T (hcar hnow') hthr'
        (tr.other_key (hnew := []) T.gen hl hthr' hnow' hhist'
          (by rw [habs k]; exact hother k (fun h => hk h.symm))
          (fun q (h : l.call = some q) => by rw [hp] at h; cases h; exact hk) (fun _ h => nomatch h) (Or.inl rfl))
        (fun _ _ _ _ h => nomatch h)⟩
  | unlockFin p g0 h res hp hpc =>
    have habs := hq (by rw [hpc]; intro g; simp) (by rw [hpc]; intro g h a b c; simp)
    by_cases hk : p.key = k
    · exact ⟨_, _, ginv_next (l' := { pc := .idle, call := none }) g T (hcar rfl) rfl
        (tr.respond T.gen hl rfl rfl rfl (habs k) hp hk (by show resOfPc l.pc = _; rw [hpc]; rfl) rfl)
        (fun _ _ h => nomatch h)⟩
    · exact ⟨_, _, ginv_next (l' := { pc := .idle, call := none }) g T (hcar rfl) rfl
        (tr.other_key (hnew := [(p.key, (⟨t, p.op, res, p.inv, s.now + 1⟩ : Call))]) T.gen hl rfl rfl rfl (habs k)
          (fun q (h : l.call = some q) => by rw [hp] at h; cases h; exact hk)
          (by intro x hx; rw [List.mem_singleton.1 hx]; exact hk) (Or.inr rfl))
        (fun _ _ h => nomatch h)⟩
  | casMoved j hp hpc hc => rw [hpc] at hnT; exact absurd trivial hnT
  | build j h hp hpc => rw [hpc] at hnT; exact absurd trivial hnT
  | storeLow j h lo hg hp hpc => rw [hpc] at hnT; exact absurd trivial hnT
  | storeHigh j h hg hp hpc => rw [hpc] at hnT; exact absurd trivial hnT
  | storeMoved j h hp hpc => rw [hpc] at hnT; exact absurd trivial hnT
  | commit hp hpc => rw [hpc] at hnT; exact absurd trivial hnT

theorem ginv_step {k : Nat} {s s' : State} {G : Ghost} {A : Nat → KSt} {pt : Nat → Nat} {t : Nat} {l : Local}
    {pick : Nat} (g : GInv k s G A pt) (I : Inv s G) (hl : s.threads[t]? = some l) (hstep : StepK s t l pick s')
    (hlk : ∀ j h, IsMid G j → cellAt s s.cur j = .node h → lockAt s.heap h ≠ some t)
    (hrz : s'.resizing = s.resizing) :
    ∃ A' pt', Inv s' G ∧ GInv k s' G A' pt' ∧
      ∀ j lo hg fr, G.mid j = some (lo, hg, fr) → cellAt s' s.cur j = cellAt s s.cur j ∧
        cellAt s' (s.cur + 1) j = cellAt s (s.cur + 1) j ∧
        cellAt s' (s.cur + 1) (j + 2 ^ s.cur) = cellAt s (s.cur + 1) (j + 2 ^ s.cur) := by
  obtain ⟨I', m, ae, fr⟩ := stepK_inv I hl hstep hlk hrz
  obtain ⟨A', pt', g'⟩ := ginv_rw g I.rw hl hstep (I.noT t l hl) hrz
    (fun hnow => m.carries I.heap I'.heap hnow g.core.hA) ae.quiet_of
  exact ⟨A', pt', I', g', fr⟩

theorem init_hinv (n : Nat) : HInv (init n) {} := by
  have hch : ∀ id, chId (init n) id = [] := by
    intro id
    unfold chId BinX.chainH init
    cases hc : BinX.cellHead (getCell { threads := List.replicate n {} } id) <;> rfl
  have hcell : ∀ g j, cellAt (init n) g j = .empty := by
    intro g j
    show cellT [[Cell.empty]] g j = _
    unfold cellT
    cases g with
    | zero => cases j <;> simp
    | succ g => simp
  refine ⟨(init_geninv n).shape, ?_, ?_, ?_, ?_, ?_, ?_, ?_, ?_⟩
  · intro i m j hi; cases hi
  · intro i hi; cases hi
  · intro j lo hg fr hm; cases hm
  · intro id h hc
    have := hcell id.1 id.2
    unfold getCell at hc
    rw [this] at hc; cases hc
  · intro id; rw [hch]; intro a ha; cases ha
  · intro id; rw [hch]; intro a ha; cases ha
  · intro j' _ _; exact hcell _ _
  · intro j lo hg fr hm; cases hm

theorem init_inv (n : Nat) : Inv (init n) {} := by
  refine ⟨init_geninv n, init_hinv n, init_tinv n, ⟨?_⟩, ?_, ?_⟩
  · intro t l p hl hc
    rw [init_thread hl] at hc; cases hc
  · intro t l hl
    rw [init_thread hl]; exact fun h => h
  · intro j hm; cases hm

theorem init_ginv (n k : Nat) : GInv k (init n) {} (fun _ => none) id := by
  refine ⟨init_gcore n k, ?_⟩
  intro t l p cur hl hc
  rw [init_thread hl] at hc
  cases hc

end Flurry.Proto.BinNHM
