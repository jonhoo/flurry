import Flurry.Lemmas.Lin2Points
/-! # `condRm`: what the sequential specification of `retain`'s conditional removal implies (C13)

`condRm vi` removes the key iff its current value is the one with id `vi`. "Id `vi`" is "the very value
the predicate inspected" where ids are distinct; `Lin2` does not enforce that, a statement that needs it
assumes it (`hab : a ≠ b` of `replaced_value_survives`).

* `spec_condRm`: one specification step: the result is `.none`, and the state is unchanged unless it
  was `some (v, vi)`, in which case the key becomes absent.
* `condRm_removes_only_observed`: along the witness order of any linearizable history, each
  `condRm vi` call changes the state only from `some (v, vi)`.
* `replaced_value_survives`: `ins k (v,a)`, then `condRm a ∥ ins k (w,b)`: the key always ends as
  `(w,b)`. -/
namespace Flurry.Lin2

theorem spec_condRm_same (v vi : Nat) : specStep2 (some (v, vi)) (.condRm vi) = (none, .none) := by
  simp [specStep2]

theorem spec_condRm_other {v vi0 vi : Nat} (h : vi0 ≠ vi) :
    specStep2 (some (v, vi0)) (.condRm vi) = (some (v, vi0), .none) := by
  simp [specStep2, h]

theorem spec_condRm_absent (vi : Nat) : specStep2 none (.condRm vi) = (none, .none) := rfl

theorem spec_condRm (st : KSt) (vi : Nat) :
    (specStep2 st (.condRm vi)).2 = .none ∧
    ((specStep2 st (.condRm vi)).1 = st ∨
      ∃ v, st = some (v, vi) ∧ (specStep2 st (.condRm vi)).1 = none) := by
  cases st with
  | none => exact ⟨rfl, Or.inl rfl⟩
  | some p =>
    obtain ⟨v, vi0⟩ := p
    by_cases h : vi0 = vi
    · subst h
      rw [spec_condRm_same]
      exact ⟨rfl, Or.inr ⟨v, rfl, rfl⟩⟩
    · rw [spec_condRm_other h]
      exact ⟨rfl, Or.inl rfl⟩

theorem spec_condRm_keeps_other {v vi0 vi : Nat} (h : vi0 ≠ vi) :
    (specStep2 (some (v, vi0)) (.condRm vi)).1 = some (v, vi0) := by
  rw [spec_condRm_other h]

theorem condRm_removes_only_observed {h : History2} {init fin : KSt} (hl : Linearizable2 h init fin) :
    ∃ order : List Nat, order.Perm (List.range h.length) ∧
      (∀ (p q : Nat) (a b : Call2), p < q → order[p]? >>= (h[·]?) = some a →
        order[q]? >>= (h[·]?) = some b → ¬ (b.resp < a.inv)) ∧
      replay2 h order init = some fin ∧
      ∀ (pre post : List Nat) (i : Nat) (c : Call2) (vi : Nat),
        order = pre ++ i :: post → h[i]? = some c → c.op = .condRm vi →
        ∃ st, replay2 h pre init = some st ∧ c.res = .none ∧
          replay2 h post (specStep2 st (.condRm vi)).1 = some fin ∧
          ((specStep2 st (.condRm vi)).1 = st ∨
            ∃ v, st = some (v, vi) ∧ (specStep2 st (.condRm vi)).1 = none) := by
  obtain ⟨order, hperm, hrt, hrep⟩ := hl
  refine ⟨order, hperm, hrt, hrep, ?_⟩
  intro pre post i c vi ho hc hop
  subst ho
  rw [replay_append] at hrep
  cases hpre : replay2 h pre init with
  | none => rw [hpre] at hrep; cases hrep
  | some st =>
    rw [hpre] at hrep
    simp only [Option.bind_some] at hrep
    obtain ⟨c', hc', hres, hr'⟩ := replay_cons_eq_some hrep
    rw [hc] at hc'
    cases hc'
    rw [hop] at hres hr'
    exact ⟨st, rfl, by rw [← hres]; exact (spec_condRm st vi).1, hr', (spec_condRm st vi).2⟩

/-- `hb1`, `hb2`: the insert `c0` responded before the removal `c1` and the second insert `c2` were invoked, so
every witness order starts with `c0`; nothing orders `c1` and `c2`. -/
theorem replaced_value_survives {v w a b : Nat} {c0 c1 c2 : Call2} {init fin : KSt} (hab : a ≠ b)
    (h0 : c0.op = .ins v a) (h1 : c1.op = .condRm a) (h2 : c2.op = .ins w b)
    (hb1 : c0.resp < c1.inv) (hb2 : c0.resp < c2.inv)
    (hl : Linearizable2 [c0, c1, c2] init fin) :
    fin = some (w, b) ∧ c0.res = resOf init ∧ c1.res = .none ∧
      (c2.res = .some v a ∨ c2.res = .none) := by
  obtain ⟨order, hperm, hpw, hrep⟩ := linearizable_iff_pairwise.1 hl
  have hr3 : List.range ([c0, c1, c2] : History2).length = [0, 1, 2] := by simp [List.range_succ]
  rw [hr3] at hperm
  have hlen : order.length = 3 := by simpa using hperm.length_eq
  have hnd : order.Nodup := hperm.nodup_iff.2 (by decide)
  have r10 : rtOk [c0, c1, c2] 1 0 = false := by simp [rtOk, mayPrecede, hb1]
  have r20 : rtOk [c0, c1, c2] 2 0 = false := by simp [rtOk, mayPrecede, hb2]
  match order, hlen with
  | [x, y, z], _ =>
    have hx : x ∈ [0, 1, 2] := hperm.subset (by simp)
    have hy : y ∈ [0, 1, 2] := hperm.subset (by simp)
    have hz : z ∈ [0, 1, 2] := hperm.subset (by simp)
    simp only [List.mem_cons, List.not_mem_nil, or_false] at hx hy hz
    have hxy : x ≠ y := by intro e; subst e; simp at hnd
    have hxz : x ≠ z := by intro e; subst e; simp at hnd
    have hyz : y ≠ z := by intro e; subst e; simp at hnd
    have hp1 : rtOk [c0, c1, c2] x y = true := by simpa using (List.pairwise_cons.1 hpw).1 y (by simp)
    have hp2 : rtOk [c0, c1, c2] x z = true := by simpa using (List.pairwise_cons.1 hpw).1 z (by simp)
    have hx0 : x = 0 := by
      rcases hx with rfl | rfl | rfl
      · rfl
      · rcases hy with rfl | rfl | rfl
        · rw [r10] at hp1; cases hp1
        · exact absurd rfl hxy
        · rcases hz with rfl | rfl | rfl
          · rw [r10] at hp2; cases hp2
          · exact absurd rfl hxz
          · exact absurd rfl hyz
      · rcases hy with rfl | rfl | rfl
        · rw [r20] at hp1; cases hp1
        · rcases hz with rfl | rfl | rfl
          · rw [r20] at hp2; cases hp2
          · exact absurd rfl hyz
          · exact absurd rfl hxz
        · exact absurd rfl hxy
    subst hx0
    obtain ⟨d0, hd0, hres0, hr0⟩ := replay_cons_eq_some hrep
    have e0 : d0 = c0 := by simpa using hd0.symm
    subst e0
    rw [h0] at hres0 hr0
    have hy' : y = 1 ∨ y = 2 := by rcases hy with rfl | h | h; exact absurd rfl hxy; exact Or.inl h; exact Or.inr h
    have hz' : z = 1 ∨ z = 2 := by rcases hz with rfl | h | h; exact absurd rfl hxz; exact Or.inl h; exact Or.inr h
    rcases hy' with rfl | rfl
    · rcases hz' with rfl | rfl
      · exact absurd rfl hyz
      · -- the removal first, then the insert
        obtain ⟨d1, hd1, hres1, hr1⟩ := replay_cons_eq_some hr0
        have e1 : d1 = c1 := by simpa using hd1.symm
        subst e1
        rw [h1] at hres1 hr1
        have hs : specStep2 (specStep2 init (.ins v a)).1 (.condRm a) = (none, .none) := spec_condRm_same v a
        rw [hs] at hres1 hr1
        obtain ⟨d2, hd2, hres2, hr2⟩ := replay_cons_eq_some hr1
        have e2 : d2 = c2 := by simpa using hd2.symm
        subst e2
        rw [h2] at hres2 hr2
        simp only [replay2, Option.some.injEq] at hr2
        exact ⟨hr2.symm, hres0.symm, hres1.symm, Or.inr hres2.symm⟩
    · rcases hz' with rfl | rfl
      · -- the insert first: the conditional removal finds another id
        obtain ⟨d2, hd2, hres2, hr2⟩ := replay_cons_eq_some hr0
        have e2 : d2 = c2 := by simpa using hd2.symm
        subst e2
        rw [h2] at hres2 hr2
        obtain ⟨d1, hd1, hres1, hr1⟩ := replay_cons_eq_some hr2
        have e1 : d1 = c1 := by simpa using hd1.symm
        subst e1
        rw [h1] at hres1 hr1
        have hs : specStep2 (specStep2 (specStep2 init (.ins v a)).1 (.ins w b)).1 (.condRm a)
            = (some (w, b), .none) := spec_condRm_other (Ne.symm hab)
        rw [hs] at hres1 hr1
        simp only [replay2, Option.some.injEq] at hr1
        exact ⟨hr1.symm, hres0.symm, hres1.symm, Or.inl hres2.symm⟩
      · exact absurd rfl hyz

end Flurry.Lin2
