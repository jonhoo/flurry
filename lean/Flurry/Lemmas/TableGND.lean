import Flurry.Lemmas.TableGNL
import Flurry.Lemmas.BinGNDrainBound
import Flurry.Lemmas.LineagesDrain
/-! # Proto/TableGN, termination: the drain theorem of `Proto/BinGN` lifted to the whole table

* `TQStep`: a table step with `inv = none`, `mt = none`, `rz = false` of a thread that is not `idle` in the lineage
  it steps in, with the `pick` restriction of `BinGNP.QStep` (the resizing thread at `xNext` is handed a cell that is
  not yet forwarded, if there is one); `TQRun`; `Gmu = Σ gmu`, `DrainBound = Σ drainBound`;
* `TQStep.effect`: one lineage makes a `BinGNP.QStep`, every other lineage ticks; `tqstep_of_qstep`: the converse;
* `tqdrains`: quiet table steps drain the table (`Descent.Drains`), lifted from `BinGNP.qdrains` by
  `Lineages.Eff.drains`;
* `tqrun_pendOrAns`: along a quiet run of the table a call stays pending in its lineage until it is answered;
  `answered_mhist`: an answer is an entry of the map history, under the key of the table.

This is the `TQStep` … `answered_mhist` part of `Lemmas/TableGP.lean` with `BinGNP` for `BinG` and the `pick`
restriction added: it speaks only of `bins`, `idleIn` and `tick`. -/
namespace Flurry.Proto.TableGND
open Flurry.Lin Flurry.LinMap Flurry.Proto.TableGN Flurry.Proto.TableGNL
open Flurry.Proto.TableN (globalKey)

/-- a quiet step of the table: a thread that is not `idle` in lineage `i` takes a step there; no call, treeify or
resize is started. The scheduler restriction on `pick` is that of `BinGNP.QStep`, for the lineage that steps. -/
def TQStep (S S' : State) : Prop :=
  ∃ (i t : Nat) (b : BinGN.State) (l : BinGN.Local) (lo sm sm2 : Bool) (pick : Nat), S.bins[i]? = some b ∧
    b.threads[t]? = some l ∧ l.pc ≠ .idle ∧
    (l.pc = .xNext → BinGN.allMoved b b.cur = false → BinGNP.cellAt b (b.cur, pick % 2 ^ b.cur) ≠ .moved) ∧
    step S i t none lo none false sm sm2 pick = some S'

inductive TQRun : State → Nat → State → Prop
  | nil (S : State) : TQRun S 0 S
  | cons {S S1 S2 : State} {k : Nat} : TQStep S S1 → TQRun S1 k S2 → TQRun S (k + 1) S2

def Gmu (S : State) : Nat := (S.bins.map BinGNP.gmu).sum

def DrainBound (S : State) : Nat := (S.bins.map BinGNP.drainBound).sum

theorem drainBound_tick (b : BinGN.State) : BinGNP.drainBound (tick b) = BinGNP.drainBound b := rfl

theorem TQStep.effect {S S' : State} (h : TQStep S S') :
    ∃ (i : Nat) (b b' : BinGN.State), S.bins[i]? = some b ∧ BinGNP.QStep b b' ∧
      S' = { bins := (S.bins.map tick).set i b' } := by
  obtain ⟨i, t, b, l, lo, sm, sm2, pick, hb, hl, hne, hpk, hs⟩ := h
  obtain ⟨b0, b', hb0, _, _, _, hs', rfl⟩ := step_eq_some hs
  rw [hb] at hb0
  cases hb0
  exact ⟨i, b, b', hb, ⟨t, l, lo, sm, sm2, pick, hl, hne, hpk, hs'⟩, rfl⟩

theorem TQStep.reachable {m n : Nat} {S S' : State} (hr : Reachable m n S) (h : TQStep S S') : Reachable m n S' := by
  obtain ⟨i, t, b, l, lo, sm, sm2, pick, _, _, _, _, hs⟩ := h
  exact Reachable.step i t none lo none false sm sm2 pick hr hs

theorem TQStep.eff {S S' : State} (h : TQStep S S') : Lineages.Eff tick BinGNP.QStep S.bins S'.bins := by
  obtain ⟨i, b, b', hb, hq, rfl⟩ := h.effect
  exact ⟨i, b, b', hb, hq, rfl⟩

theorem Gmu_le_DrainBound {m n : Nat} {S : State} (hr : Reachable m n S) : Gmu S ≤ DrainBound S := by
  unfold Gmu DrainBound
  apply sum_map_le_of
  intro b hb
  obtain ⟨i, hi⟩ := List.mem_iff_getElem?.1 hb
  exact BinGNP.gmu_le_drainBound ((reachable_tblInv hr).reach i b hi)

theorem tqstep_of_qstep {m n : Nat} {S : State} (hr : Reachable m n S) {i : Nat} {b b' : BinGN.State}
    (hb : S.bins[i]? = some b) (hq : BinGNP.QStep b b') : TQStep S { bins := (S.bins.map tick).set i b' } := by
  obtain ⟨t, l, lo, sm, sm2, pick, hl, hne, hpk, hs⟩ := hq
  have he := idleElse_of_active hr hb hl hne
  have hstep : step S i t none lo none false sm sm2 pick = some { bins := (S.bins.map tick).set i b' } :=
    step_lift (inv := none) (mt := none) hb he rfl rfl hs
  exact ⟨i, t, b, l, lo, sm, sm2, pick, hb, hl, hne, hpk, hstep⟩

theorem tqrun_iff {S S' : State} {k : Nat} : TQRun S k S' ↔ Descent.Run TQStep S k S' :=
  Descent.Run.iff_of .nil .cons fun h => by
    induction h with
    | nil => exact .nil _
    | cons h1 _ ih => exact .cons h1 ih

/-- quiet table steps drain the table, since quiet steps drain each lineage (`BinGNP.qdrains`; the `pick`
restriction never disables the resizing thread) -/
theorem tqdrains (m n : Nat) : Descent.Drains TQStep (Reachable m n) quiescent Gmu :=
  Lineages.Eff.drains (tick := tick) (BinGNP.qdrains n) (fun _ => rfl) (bins := State.bins) (fun hr h => h.reachable hr)
    (fun hr hb => (reachable_tblInv hr).reach _ _ hb) TQStep.eff (fun hr hb hq => ⟨_, tqstep_of_qstep hr hb hq⟩)

theorem TQRun.reachable {m n : Nat} {S S' : State} {k : Nat} (hr : Reachable m n S) (h : TQRun S k S') :
    Reachable m n S' :=
  (tqdrains m n).run_inv hr (tqrun_iff.1 h)

theorem tqrun_pendOrAns {S S' : State} {k : Nat} (h : TQRun S k S') {j t : Nat}
    {bj : BinGN.State} {p : BinGN.Pending} (hj : S.bins[j]? = some bj) (hpa : BinGNP.PendOrAns bj t p) :
    ∃ bj', S'.bins[j]? = some bj' ∧ BinGNP.PendOrAns bj' t p :=
  Descent.Run.keeps (P := fun S => ∃ bj', S.bins[j]? = some bj' ∧ BinGNP.PendOrAns bj' t p)
    (fun h1 ⟨_, hj, hpa⟩ => h1.eff.keeps (fun _ hpa => hpa) (fun _ _ hq => hq.pendOrAns) hj hpa)
    (tqrun_iff.1 h) ⟨bj, hj, hpa⟩

theorem answered_mhist {S : State} {j t : Nat} {bj : BinGN.State} {p : BinGN.Pending} (hj : S.bins[j]? = some bj)
    (ha : BinGNP.Answered bj t p) :
    ∃ res resp, (⟨globalKey S.bins.length j p.key,
      { tid := t, op := p.op, res := res, inv := p.inv, resp := resp }⟩ : MCall) ∈ mhist S := by
  obtain ⟨res, resp, hm⟩ := ha
  exact ⟨res, resp, mhist_eq S ▸ Lineages.mem_mhist_of_hist (K := TableN.keys S.bins.length) hj hm⟩

end Flurry.Proto.TableGND
