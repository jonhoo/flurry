import Flurry.Lemmas.BinGNGenFrame
/-! # Proto/BinGN: following the forwarding markers ends in the live cell (C01, C10)

Under the generation invariant a lookup that starts at `cur` follows at most ONE marker (`liveCell_eq`); a
thread that works in generation `g` — however old the table pointer it once loaded — and finds a cell that is
not forwarded has reached the live cell of its key (`live_of_gen`). -/
namespace Flurry.Proto.BinGN
open Flurry.Lin

/-- a lookup that starts now follows at most one forwarding marker -/
theorem GenInv.liveCell_eq {s : State} (I : GenInv s) (k : Nat) :
    liveCell s k = if cellOf s s.cur k = .moved then cellOf s (s.cur + 1) k else cellOf s s.cur k := by
  unfold liveCell
  obtain ⟨f, hf⟩ : ∃ f, s.tabs.length = f + 1 := ⟨s.tabs.length - 1, by have := I.cur_lt; omega⟩
  rw [hf]
  by_cases hm : cellOf s s.cur k = .moved
  · rw [if_pos hm, liveFrom_of_moved s k f s.cur hm]
    exact liveFrom_of_not_moved s k f _ (I.nextOK _)
  · rw [if_neg hm]
    exact liveFrom_of_not_moved s k _ _ hm

/-- **follow the markers until a live cell**: a thread that works in generation `g` for key `k` and sees a
cell of `k` that is not forwarded has reached the live cell of `k` — whatever the age of the table pointer it
started from -/
theorem GenInv.live_of_gen {s : State} (I : GenInv s) {t : Nat} {l : Local} {g k : Nat}
    (hl : s.threads[t]? = some l) (hg : (desc s.cur l).gen = some (g, k))
    (hnm : cellOf s g k ≠ .moved) : liveCell s k = cellOf s g k := by
  obtain ⟨h1, h2⟩ := (I.thr t l hl).gen g k hg
  rw [I.liveCell_eq]
  by_cases hc : g = s.cur + 1
  · rw [if_pos (h2 hc), hc]
  · by_cases hc' : g = s.cur
    · subst hc'
      rw [if_neg hnm]
    · exact absurd (I.old g _ (by omega) (mod_lt_pow _ _)) hnm

/-- a stale thread — one that works in a generation older than `cur` — can only see a forwarding marker -/
theorem GenInv.stale_sees_moved {s : State} (I : GenInv s) {g : Nat} (hg : g < s.cur) (k : Nat) :
    cellOf s g k = .moved :=
  I.old g _ hg (mod_lt_pow _ _)

theorem absOf_congr {s s' : State} (hh : s'.heap = s.heap) (hb : s'.tbins = s.tbins) {k : Nat}
    (hlive : liveCell s' k = liveCell s k) : absOf s' k = absOf s k := by
  unfold absOf chainOfCell chainOfBin
  rw [hh, hb, hlive]

end Flurry.Proto.BinGN
