import Flurry.Lemmas.LinBasic
import Flurry.Lemmas.Lin2Search
/-! # The brute-force witness search is sound and complete

From the same facts about `Lin2.search` (`search_map`); before them, one step of `replay` dissected
(`replay_cons_some`, `replay_cons_eq_some`, for `Lemmas/LinCounter.lean`), stated directly with the proofs of
their twins in `Lemmas/Lin2Search.lean`. -/
namespace Flurry.Lin

theorem replay_cons_some {h : History} {i : Nat} {rest : List Nat} {st : KSt} {c : Call}
    (hc : h[i]? = some c) :
    replay h (i :: rest) st =
      if (specStep st c.op).2 = c.res then replay h rest (specStep st c.op).1 else none := by
  simp [replay, hc]

theorem replay_cons_eq_some {h : History} {i : Nat} {rest : List Nat} {st fin : KSt}
    (hr : replay h (i :: rest) st = some fin) :
    ∃ c, h[i]? = some c ∧ (specStep st c.op).2 = c.res ∧
      replay h rest (specStep st c.op).1 = some fin := by
  cases hc : h[i]? with
  | none => simp [replay, hc] at hr
  | some c =>
    rw [replay_cons_some hc] at hr
    split at hr
    · rename_i hres; exact ⟨c, rfl, hres, hr⟩
    · simp at hr

theorem search_sound {h : History} {init fin : KSt} {order : List Nat}
    (hs : search h init fin = some order) : validate h order init fin = true := by
  rw [← validate_map]
  exact Lin2.search_sound (by rw [search_map]; exact hs)

theorem search_isSome_iff {h : History} {init fin : KSt} :
    (search h init fin).isSome = true ↔ Linearizable h init fin := by
  rw [← search_map, Lin2.search_isSome_iff, linearizable2_map]

theorem search_eq_none_iff {h : History} {init fin : KSt} :
    search h init fin = none ↔ ¬ Linearizable h init fin := by
  rw [← search_isSome_iff]
  cases search h init fin <;> simp

instance (h : History) (init fin : KSt) : Decidable (Linearizable h init fin) :=
  decidable_of_iff _ search_isSome_iff

end Flurry.Lin
