import Flurry.Lemmas.BinNShape
import Flurry.Lemmas.BinNChain
import Flurry.Lemmas.BinNHMDefs
/-! # Proto/BinN and Proto/BinNH: basic consequences of the heap invariant (C01, C10)

`GenInv.shape` and the lemmas of `Shape` at the head of the file restate those of `Lemmas/BinNShape.lean` in this
namespace, as do `Shape.congr` (`Lemmas/BinNHMSurgeryDefs.lean`), `SideOK.congr`, `Split.congr` and `SideOK.congr_heap`
(`Lemmas/BinNHMSurgery.lean`, `Lemmas/BinNHMTransfer.lean`). Nothing uses them, and dot notation cannot reach them: `S.cur_lt`,
`I.shape`, `H.shape.congr` on `S : BinN.Shape s`, `I : BinN.GenInv s` resolve to the `BinN.*` lemmas they are proved from.
`Shape.cell_next_of_not_resizing` is the one proved here; `BinN.Shape.cell_next_of_not_resizing` (`Lemmas/BinNBasic.lean`) is
it, and has no user either. -/
namespace Flurry.Proto.BinNHM
open Flurry.Proto.BinN
open Flurry.Lin
open Flurry.Proto.BinX (chainH_eq chainH_isChain NodeS Cell Pending dflt chainFrom cellHead cellOfHead nodeAt IsSeg IsChain chainH chainH_empty
  chainH_moved absIn KeysDistinct cellHead_cellOfHead cellOfHead_ne_moved)

theorem GenInv.shape {s : State} (I : GenInv s) : Shape s := BinN.GenInv.shape I

namespace Shape
variable {s : State}

theorem cur_lt (S : Shape s) : s.cur < s.tabs.length := BinN.Shape.cur_lt S

/-- a cell that is outside the tables reads as `empty` -/
theorem cell_of_gen_gt (S : Shape s) {g j : Nat} (hg : s.cur + 1 < g) : cellAt s g j = .empty :=
  BinN.Shape.cell_of_gen_gt S hg

theorem cell_next_of_not_resizing (S : Shape s) (hr : s.resizing = false) (j : Nat) :
    cellAt s (s.cur + 1) j = .empty := by
  refine cellAt_of_length_le ?_ j
  have := S.len
  rw [hr] at this
  exact Nat.le_of_eq this

/-- a cell whose index is out of range reads as `empty` -/
theorem cell_of_idx_ge (S : Shape s) {g j : Nat} (hj : 2 ^ g ≤ j) : cellAt s g j = .empty :=
  BinN.Shape.cell_of_idx_ge S hj

/-- a lookup that starts now follows at most one forwarding marker -/
theorem liveCell_eq (S : Shape s) (k : Nat) : liveCell s k = getCell s (liveId s k) := BinN.Shape.liveCell_eq S k

end Shape

namespace HInv
variable {s : State} {G : Ghost}

theorem isChain (H : HInv s G) (id : CellId) : IsChain s.heap (cellHead (getCell s id)) (chId s id) :=
  chainH_isChain (ranked_ord _) H.nextOK (H.head id)

theorem chId_eq (H : HInv s G) {id : CellId} {l : List Nat} (h : IsChain s.heap (cellHead (getCell s id)) l) :
    chId s id = l := chainH_eq H.nextOK h

theorem chain_lt (H : HInv s G) {id : CellId} {i : Nat} (hi : i ∈ chId s id) : i < s.heap.length :=
  (H.isChain id).lt_length i hi

theorem chain_nodup (H : HInv s G) (id : CellId) : (chId s id).Nodup := (H.isChain id).nodup H.nextOK

theorem liveCell_eq (H : HInv s G) (k : Nat) : liveCell s k = getCell s (liveId s k) := H.shape.liveCell_eq k

theorem LC_eq (H : HInv s G) (k : Nat) : LC s k = chId s (liveId s k) := by
  unfold LC; rw [chainOfCell_eq, H.liveCell_eq]; rfl

end HInv

/-- a cell with a non-empty chain belongs to generation `cur` or `cur + 1` and is inside its table -/
theorem HInv.nonempty_cell {s : State} {G : Ghost} (H : HInv s G) {g j i : Nat} (hi : i ∈ chId s (g, j)) :
    (g = s.cur ∨ g = s.cur + 1) ∧ j < 2 ^ g := by
  have S := H.shape
  have hne' : getCell s (g, j) ≠ .empty := fun h => by rw [chId_of_empty h] at hi; cases hi
  have hnm' : getCell s (g, j) ≠ .moved := fun h => by rw [chId_of_moved h] at hi; cases hi
  have hj' : j < 2 ^ g := by
    rcases Nat.lt_or_ge j (2 ^ g) with h | h
    · exact h
    · exact absurd (S.cell_of_idx_ge h) hne'
  refine ⟨?_, hj'⟩
  rcases Nat.lt_or_ge g s.cur with h | h
  · exact absurd (S.old g j h hj') hnm'
  · rcases Nat.lt_or_ge (s.cur + 1) g with h2 | h2
    · exact absurd (S.cell_of_gen_gt h2) hne'
    · omega

/-- the two new lists of the split, as the lists that `chainH` computes -/
theorem HInv.mid_facts {s : State} {G : Ghost} (H : HInv s G) {j : Nat} {lo hg : Option Nat}
    {fr : Nat × Nat} (hm : G.mid j = some (lo, hg, fr)) :
    IsChain s.heap lo (chainH s.heap (cellOfHead lo)) ∧ IsChain s.heap hg (chainH s.heap (cellOfHead hg)) ∧
    SideOK (bitAt s.cur) s.heap G.cr fr (chId s (s.cur, j)) false (chainH s.heap (cellOfHead lo)) ∧
    SideOK (bitAt s.cur) s.heap G.cr fr (chId s (s.cur, j)) true (chainH s.heap (cellOfHead hg)) := by
  obtain ⟨-, -, -, -, -, L, Hh, hL, hH, sL, sH⟩ := H.mid j lo hg _ hm
  have eL : chainH s.heap (cellOfHead lo) = L := chainH_eq H.nextOK (by rw [cellHead_cellOfHead]; exact hL)
  have eH : chainH s.heap (cellOfHead hg) = Hh := chainH_eq H.nextOK (by rw [cellHead_cellOfHead]; exact hH)
  rw [eL, eH]
  exact ⟨hL, hH, sL, sH⟩

/-- growing the heap changes no chain -/
theorem chId_of_ext {s s' : State} {G G' : Ghost} (H : HInv s G) (H' : HInv s' G') {ext : List NodeS}
    (hh : s'.heap = s.heap ++ ext) (ht : s'.tabs = s.tabs) (id : CellId) : chId s' id = chId s id := by
  refine H'.chId_eq ?_
  rw [getCell_congr ht, hh]
  exact (H.isChain id).append_heap ext

/-- the chain of an active cell is disjoint from the other chains -/
theorem HInv.disjoint {s : State} {G : Ghost} (H : HInv s G) {id id' : CellId} (act : Active s G id)
    (hne : id' ≠ id) {i : Nat} (hi : i ∈ chId s id) : i ∉ chId s id' := by
  intro hi'
  obtain ⟨g, j⟩ := id
  obtain ⟨g', j'⟩ := id'
  have k1 : (nodeAt s.heap i).key % 2 ^ g = j := H.side _ i hi
  have k2 : (nodeAt s.heap i).key % 2 ^ g' = j' := H.side _ i hi'
  have hne' : getCell s (g', j') ≠ .empty := fun h => by rw [chId_of_empty h] at hi'; cases hi'
  have hnm' : getCell s (g', j') ≠ .moved := fun h => by rw [chId_of_moved h] at hi'; cases hi'
  obtain ⟨hg', -⟩ := H.nonempty_cell hi'
  rcases act with ⟨hg, hj, hnm, hmid⟩ | ⟨hg, hj, hpar⟩
  · -- an unsplit cell of `cur`
    simp only at hg hj hnm hmid
    subst hg
    rcases hg' with rfl | rfl
    · apply hne
      rw [k1] at k2
      rw [k2]
    · -- a non-empty child: its parent is forwarded or being split
      have hpar := keyOn_mod (Nat.le_succ s.cur) k2
      rw [k1] at hpar
      by_cases hm : cellAt s s.cur (j' % 2 ^ s.cur) = .moved
      · rw [← hpar] at hm; exact hnm hm
      · by_cases hmi : IsMid G (j' % 2 ^ s.cur)
        · rw [← hpar] at hmi; exact hmid hmi
        · exact hne' (H.nextEmpty j' hm hmi)
  · -- a child of a forwarded cell
    simp only at hg hj hpar
    subst hg
    rcases hg' with rfl | h
    · have hp := keyOn_mod (Nat.le_succ s.cur) k1
      rw [k2] at hp
      rw [← hp] at hpar
      exact hnm' hpar
    · have : g' = s.cur + 1 := h
      subst this
      apply hne
      rw [k1] at k2
      rw [k2]

/-- for an active cell and a key that lives in it, the live chain of the key is the chain of the cell -/
theorem HInv.liveId_of_active {s : State} {G : Ghost} (H : HInv s G) {id : CellId} (act : Active s G id)
    {k : Nat} (hk : keyOn id k) : liveId s k = id := by
  obtain ⟨g, j⟩ := id
  unfold keyOn at hk
  simp only at hk
  unfold liveId
  rcases act with ⟨hg, hj, hnm, -⟩ | ⟨hg, hj, hpar⟩
  · simp only at hg hnm
    subst hg
    have : cellOf s s.cur k ≠ .moved := by unfold cellOf; rw [hk]; exact hnm
    rw [if_neg this]
    unfold cellId; rw [hk]
  · simp only at hg hpar
    subst hg
    have hp := keyOn_mod (Nat.le_succ s.cur) hk
    have : cellOf s s.cur k = .moved := by unfold cellOf; rw [hp]; exact hpar
    rw [if_pos this]
    unfold cellId; rw [hk]

/-- for an active cell and a key that does not live in it, the live chain of the key is another one -/
theorem HInv.liveId_ne_of_active {s : State} {G : Ghost} (_H : HInv s G) {id : CellId} (_act : Active s G id)
    {k : Nat} (hk : ¬ keyOn id k) : liveId s k ≠ id := by
  intro h
  apply hk
  unfold liveId at h
  split at h <;> (rw [← h]; exact keyOn_cellId _ _)

/-- an active cell is not forwarded -/
theorem Active.notMoved {s : State} {G : Ghost} {id : CellId} (S : Shape s) (act : Active s G id) :
    getCell s id ≠ .moved := by
  obtain ⟨g, j⟩ := id
  rcases act with ⟨_, _, hnm, _⟩ | ⟨hg, _, _⟩
  · exact hnm
  · simp only at hg
    subst hg
    exact S.nextNM j

end Flurry.Proto.BinNHM
