import Flurry.Lemmas.BinNHFullStep
/-! # Proto/BinNH: the transitions of the helper parts preserve the complete invariant — case by case: `full_build`, `full_cas`, `full_low`, `full_high`, `full_marker`, `full_commit` -/
namespace Flurry.Proto.BinNH
open Flurry.Lin
open Flurry.Proto.BinX (NodeS Cell Pending isReader dflt chainFrom cellHead cellOfHead get_set get_set_self get_set_ne
  cellOfHead_ne_moved nodeAt chainH nextA nodeAt_append_left)
open Flurry.Proto.BinN (cellAt cellOf putCell setNode allMoved splitBinB bitAt lockAt LockSame GenInv ThrOK isT
  Holds vcell genOfPc cellT StepK tick setT finish TInv WInv getCell chId CellId)
open Flurry.Proto.BinNHM (Ghost IsMid HInv MemStep GInv Good buildG)

theorem midPc_isMidH {pc : HPc} (h : midPc pc) : ∃ j, isMidH pc j := by
  cases pc with
  | storeLow _ _ _ _ | storeHigh _ _ _ | storeMoved _ _ => exact ⟨_, rfl⟩
  | _ => exact h.elim

theorem full_build {k : Nat} {s : State} {G : Ghost} {A : Nat → KSt} {pt : Nat → Nat} {t : Nat} {l : BinN.Local}
    {g0 j h : Nat} {n' : BinN.State} {lo hg : Option Nat} (F : Full s G) (g : GInv k s.n G A pt)
    (hl : s.n.threads[t]? = some l) (hh : s.hs[t]? = some (some ⟨g0, .build j h⟩))
    (hn' : n' = { tickN s.n with heap := (splitBinB (bitAt g0) s.n.heap (chainFrom s.n.heap s.n.heap.length (some h))).1 })
    (hlo : lo = (splitBinB (bitAt g0) s.n.heap (chainFrom s.n.heap s.n.heap.length (some h))).2.1)
    (hhg : hg = (splitBinB (bitAt g0) s.n.heap (chainFrom s.n.heap s.n.heap.length (some h))).2.2)
    (B' : Inv (setH s t n' (some ⟨g0, .storeLow j h lo hg⟩))) :
    ∃ G' A', Full (setH s t n' (some ⟨g0, .storeLow j h lo hg⟩)) G' ∧ GInv k n' G' A' pt ∧
      ∀ k', BinN.absOf n' k' = BinN.absOf s.n k' := by
  have H := F.base.hok t _ hh
  have hidle := F.base.hidle t _ l hh hl
  have HI := F.inv.heap
  obtain ⟨e, R⟩ := H.valid_cur F.base.gen (j := j) (h := h) rfl
  have e : g0 = s.n.cur := e
  subst e
  have hj : j < 2 ^ s.n.cur := H.idx j rfl
  have hc0 : cellAt s.n s.n.cur j = .node h := H.valid j h rfl
  have hnm : cellAt s.n s.n.cur j ≠ .moved := by rw [hc0]; simp
  have hmid : G.mid j = none := F.mid_none_of hh (j := j) (h := h) rfl (fun h => h)
  have hnmid : ¬ IsMid G j := BinNHM.not_isMid_of_none hmid
  subst hn' hlo hhg
  obtain ⟨H', hstep, habs⟩ := BinNHM.build_effect
    (s' := { tickN s.n with heap := (splitBinB (bitAt s.n.cur) s.n.heap (chainFrom s.n.heap s.n.heap.length (some h))).1 })
    HI hmid hj hc0 rfl rfl rfl rfl
  obtain ⟨ext, hext⟩ := BinNHM.splitBinB_ext (bitAt s.n.cur) s.n.heap (chainFrom s.n.heap s.n.heap.length (some h))
  refine ⟨_, full_helper F g hl hidle B' rfl rfl rfl H' (.heap hstep) habs ?_ ?_ ?_ ?_⟩
  · intro t1 l1 g1 j' h' _ _ _ _
    have hch := BinNHM.chId_of_ext HI H' hext rfl (g1, j')
    refine ⟨rfl, hch, ?_⟩
    intro i hi
    have hil : i < s.n.heap.length := HI.chain_lt (id := (g1, j')) hi
    show (nodeAt (splitBinB _ _ _).1 i).key = _ ∧ (nodeAt (splitBinB _ _ _).1 i).next = _
    rw [hext, nodeAt_append_left ext hil]
    exact ⟨rfl, rfl⟩
  · intro j1 hm1 t1 l1 h1 hl1
    by_cases e : j1 = j
    · subst e
      exact F.no_rw_on_helper_cell hh (j := j1) (h := h) rfl t1 l1 h1 hl1
    · refine F.inv.midw j1 ?_ t1 l1 h1 hl1
      unfold IsMid at hm1 ⊢
      rw [BinNHM.buildG_ne _ _ _ _ _ e] at hm1; exact hm1
  · intro t1 hp1 h1
    rcases get_set h1 with ⟨-, e⟩ | ⟨ne, h1⟩
    · cases e
      refine ⟨_, BinNHM.buildG_self _ _ _ _ _ _, ?_, ?_⟩
      · exact HI.nextEmpty j (by rw [Nat.mod_eq_of_lt hj]; exact hnm) (by rw [Nat.mod_eq_of_lt hj]; exact hnmid)
      · exact HI.nextEmpty (j + 2 ^ s.n.cur) (by rw [BinN.high_mod j s.n.cur hj]; exact hnm)
          (by rw [BinN.high_mod j s.n.cur hj]; exact hnmid)
    · exact F.others_pc (n' := { tickN s.n with heap := (splitBinB (bitAt s.n.cur) s.n.heap (chainFrom s.n.heap s.n.heap.length (some h))).1 })
        (j0 := j) (F.others_ne hh (Or.inr hmid)) rfl
        (fun j1 x jne hm => by rw [BinNHM.buildG_ne _ _ _ _ _ jne]; exact hm) (fun j1 _ _ => ⟨rfl, rfl⟩) t1 hp1 ne h1
  · refine F.others_mh hh (j0 := j) (fun j' hm => hm.elim) ?_ (fun _ => ⟨_, rfl, rfl⟩)
    intro j1 hm1 jne
    unfold IsMid at hm1 ⊢
    rw [BinNHM.buildG_ne _ _ _ _ _ jne] at hm1; exact hm1

theorem full_cas {k : Nat} {s : State} {G : Ghost} {A : Nat → KSt} {pt : Nat → Nat} {t : Nat} {l : BinN.Local}
    {g0 j : Nat} (F : Full s G) (g : GInv k s.n G A pt)
    (hl : s.n.threads[t]? = some l) (hh : s.hs[t]? = some (some ⟨g0, .casMoved j⟩))
    (hc0 : cellAt s.n g0 j = .empty)
    (B' : Inv (setH s t (putCell (tickN s.n) g0 j .moved) (some ⟨g0, .next⟩))) :
    ∃ G' A', Full (setH s t (putCell (tickN s.n) g0 j .moved) (some ⟨g0, .next⟩)) G' ∧
      GInv k (putCell (tickN s.n) g0 j .moved) G' A' pt ∧
      ∀ k', BinN.absOf (putCell (tickN s.n) g0 j .moved) k' = BinN.absOf s.n k' := by
  have H := F.base.hok t _ hh
  have hidle := F.base.hidle t _ l hh hl
  have HI := F.inv.heap
  have Gn := F.base.gen
  have hj : j < 2 ^ g0 := H.idx j rfl
  have e : g0 = s.n.cur := H.cur_of_not_moved Gn hj (by show cellAt s.n g0 j ≠ _; rw [hc0]; simp)
  subst e
  have R : s.n.resizing = true := H.res rfl
  have hmid : G.mid j = none := by
    cases hm : G.mid j with
    | none => rfl
    | some x =>
      obtain ⟨-, ⟨h, hc⟩, -⟩ := HI.mid j x.1 x.2.1 x.2.2 hm
      rw [hc0] at hc; cases hc
  have S' : BinN.Shape (putCell (tickN s.n) s.n.cur j .moved) := B'.gen.shape
  obtain ⟨H', hstep, habs⟩ := BinNHM.casMoved_effect (s' := putCell (tickN s.n) s.n.cur j .moved) HI S' hmid hj hc0
    rfl rfl rfl
  refine ⟨G, full_helper F g hl hidle B' rfl rfl rfl H' (.heap hstep) habs ?_ ?_ ?_ ?_⟩
  · intro t1 l1 g1 j' h' _ h1 hv _
    refine BinNHM.hfr_put (s := s.n) (s' := putCell (tickN s.n) s.n.cur j .moved) (g0 := s.n.cur) (j0 := j) (c := .moved)
      rfl rfl ?_
    rintro ⟨rfl, rfl⟩
    exact BinN.no_vcell_of_not_node Gn (by rw [hc0]; simp) t1 l1 h' h1 hv
  · intro j1 hm1 t1 l1 h1 hl1
    exact F.inv.midw j1 hm1 t1 l1 h1 hl1
  · intro t1 hp1 h1
    rcases get_set h1 with ⟨-, e⟩ | ⟨ne, h1⟩
    · cases e; trivial
    · refine F.others_pc (n' := putCell (tickN s.n) s.n.cur j .moved) (j0 := j) (F.others_ne hh (Or.inr hmid)) rfl (fun j1 x _ hm => hm) ?_ t1 hp1 ne h1
      intro j1 _ _
      exact ⟨BinN.cellAt_put_ne (s := s.n) rfl (mt And.left (Nat.succ_ne_self _)), BinN.cellAt_put_ne (s := s.n) rfl (mt And.left (Nat.succ_ne_self _))⟩
  · refine F.others_mh hh (j0 := j) (fun j' hm => hm.elim) (fun j1 hm1 _ => hm1) ?_
    intro hm
    exact absurd hm (BinNHM.not_isMid_of_none hmid)

theorem full_low {k : Nat} {s : State} {G : Ghost} {A : Nat → KSt} {pt : Nat → Nat} {t : Nat} {l : BinN.Local}
    {g0 j h : Nat} {lo hg : Option Nat} (F : Full s G) (g : GInv k s.n G A pt)
    (hl : s.n.threads[t]? = some l) (hh : s.hs[t]? = some (some ⟨g0, .storeLow j h lo hg⟩))
    (B' : Inv (setH s t (putCell (tickN s.n) (g0 + 1) j (cellOfHead lo)) (some ⟨g0, .storeHigh j h hg⟩))) :
    ∃ G' A', Full (setH s t (putCell (tickN s.n) (g0 + 1) j (cellOfHead lo)) (some ⟨g0, .storeHigh j h hg⟩)) G' ∧
      GInv k (putCell (tickN s.n) (g0 + 1) j (cellOfHead lo)) G' A' pt ∧
      ∀ k', BinN.absOf (putCell (tickN s.n) (g0 + 1) j (cellOfHead lo)) k' = BinN.absOf s.n k' := by
  have H := F.base.hok t _ hh
  have hidle := F.base.hidle t _ l hh hl
  have HI := F.inv.heap
  obtain ⟨e, R⟩ := H.valid_cur F.base.gen (j := j) (h := h) rfl
  have e : g0 = s.n.cur := e
  subst e
  have hj : j < 2 ^ s.n.cur := H.idx j rfl
  have hc0 : cellAt s.n s.n.cur j = .node h := H.valid j h rfl
  have hnm : cellAt s.n s.n.cur j ≠ .moved := by rw [hc0]; simp
  obtain ⟨fr, hmid, hlow, hhigh⟩ := F.pcMid t _ hh
  have S' : BinN.Shape (putCell (tickN s.n) (s.n.cur + 1) j (cellOfHead lo)) := B'.gen.shape
  obtain ⟨H', hstep, habs⟩ := BinNHM.storeNew_effect (s' := putCell (tickN s.n) (s.n.cur + 1) j (cellOfHead lo))
    HI S' hmid R (Or.inl ⟨rfl, rfl, hlow⟩) rfl rfl rfl
  have hp2 := Nat.two_pow_pos s.n.cur
  refine ⟨G, full_helper F g hl hidle B' rfl rfl rfl H' (.heap hstep) habs ?_ ?_ ?_ ?_⟩
  · intro t1 l1 g1 j' h' _ h1 hv _
    refine BinNHM.hfr_put (s := s.n) (s' := putCell (tickN s.n) (s.n.cur + 1) j (cellOfHead lo)) (g0 := s.n.cur + 1) (j0 := j)
      (c := cellOfHead lo) rfl rfl ?_
    rintro ⟨rfl, rfl⟩
    exact no_writer_on_child F.base hnm (Nat.mod_eq_of_lt hj) t1 l1 h' h1 hv
  · intro j1 hm1 t1 l1 h1 hl1
    exact F.inv.midw j1 hm1 t1 l1 h1 hl1
  · intro t1 hp1 h1
    rcases get_set h1 with ⟨-, e⟩ | ⟨ne, h1⟩
    · cases e
      refine ⟨lo, fr, hmid, ?_, ?_⟩
      · exact BinN.cellAt_put_self (g := s.n.cur + 1) (j := j) HI.shape rfl (BinN.Shape.next_lt HI.shape R)
          (show j < 2 ^ (s.n.cur + 1) by rw [Nat.pow_succ]; omega)
      · have hne : ¬ (s.n.cur + 1 = s.n.cur + 1 ∧ j + 2 ^ s.n.cur = j) := by intro ⟨_, h2⟩; omega
        show cellAt _ (s.n.cur + 1) (j + 2 ^ s.n.cur) = _
        rw [BinN.cellAt_put_ne (s := s.n) (g := s.n.cur + 1) (j := j) (g' := s.n.cur + 1) (j' := j + 2 ^ s.n.cur) rfl hne]
        exact hhigh
    · refine F.others_pc (n' := putCell (tickN s.n) (s.n.cur + 1) j (cellOfHead lo)) (j0 := j)
        (F.others_ne hh (Or.inl rfl)) rfl (fun j1 x _ hm => hm) ?_ t1 hp1 ne h1
      intro j1 jne hj1
      exact ⟨BinN.cellAt_put_ne (s := s.n) rfl (fun h => jne h.2),
        BinN.cellAt_put_ne (s := s.n) rfl (fun h => by omega)⟩
  · refine F.others_mh hh (j0 := j) (fun j' hm => hm.symm) (fun j1 hm1 _ => hm1) (fun _ => ⟨_, rfl, rfl⟩)

theorem full_high {k : Nat} {s : State} {G : Ghost} {A : Nat → KSt} {pt : Nat → Nat} {t : Nat} {l : BinN.Local}
    {g0 j h : Nat} {hg : Option Nat} (F : Full s G) (g : GInv k s.n G A pt)
    (hl : s.n.threads[t]? = some l) (hh : s.hs[t]? = some (some ⟨g0, .storeHigh j h hg⟩))
    (B' : Inv (setH s t (putCell (tickN s.n) (g0 + 1) (j + 2 ^ g0) (cellOfHead hg)) (some ⟨g0, .storeMoved j h⟩))) :
    ∃ G' A', Full (setH s t (putCell (tickN s.n) (g0 + 1) (j + 2 ^ g0) (cellOfHead hg)) (some ⟨g0, .storeMoved j h⟩)) G' ∧
      GInv k (putCell (tickN s.n) (g0 + 1) (j + 2 ^ g0) (cellOfHead hg)) G' A' pt ∧
      ∀ k', BinN.absOf (putCell (tickN s.n) (g0 + 1) (j + 2 ^ g0) (cellOfHead hg)) k' = BinN.absOf s.n k' := by
  have H := F.base.hok t _ hh
  have hidle := F.base.hidle t _ l hh hl
  have HI := F.inv.heap
  obtain ⟨e, R⟩ := H.valid_cur F.base.gen (j := j) (h := h) rfl
  have e : g0 = s.n.cur := e
  subst e
  have hj : j < 2 ^ s.n.cur := H.idx j rfl
  have hc0 : cellAt s.n s.n.cur j = .node h := H.valid j h rfl
  have hnm : cellAt s.n s.n.cur j ≠ .moved := by rw [hc0]; simp
  obtain ⟨lo, fr, hmid, hlow, hhigh⟩ := F.pcMid t _ hh
  have S' : BinN.Shape (putCell (tickN s.n) (s.n.cur + 1) (j + 2 ^ s.n.cur) (cellOfHead hg)) := B'.gen.shape
  obtain ⟨H', hstep, habs⟩ := BinNHM.storeNew_effect
    (s' := putCell (tickN s.n) (s.n.cur + 1) (j + 2 ^ s.n.cur) (cellOfHead hg))
    HI S' hmid R (Or.inr ⟨rfl, rfl, hhigh⟩) rfl rfl rfl
  have hp2 := Nat.two_pow_pos s.n.cur
  refine ⟨G, full_helper F g hl hidle B' rfl rfl rfl H' (.heap hstep) habs ?_ ?_ ?_ ?_⟩
  · intro t1 l1 g1 j' h' _ h1 hv _
    refine BinNHM.hfr_put (s := s.n) (s' := putCell (tickN s.n) (s.n.cur + 1) (j + 2 ^ s.n.cur) (cellOfHead hg))
      (g0 := s.n.cur + 1) (j0 := j + 2 ^ s.n.cur) (c := cellOfHead hg) rfl rfl ?_
    rintro ⟨rfl, rfl⟩
    exact no_writer_on_child F.base hnm (BinN.high_mod j s.n.cur hj) t1 l1 h' h1 hv
  · intro j1 hm1 t1 l1 h1 hl1
    exact F.inv.midw j1 hm1 t1 l1 h1 hl1
  · intro t1 hp1 h1
    rcases get_set h1 with ⟨-, e⟩ | ⟨ne, h1⟩
    · cases e
      refine ⟨lo, hg, fr, hmid, ?_, ?_⟩
      · have hne : ¬ (s.n.cur + 1 = s.n.cur + 1 ∧ j = j + 2 ^ s.n.cur) := by intro ⟨_, h2⟩; omega
        show cellAt _ (s.n.cur + 1) j = _
        rw [BinN.cellAt_put_ne (s := s.n) (g := s.n.cur + 1) (j := j + 2 ^ s.n.cur) (g' := s.n.cur + 1) (j' := j) rfl hne]
        exact hlow
      · exact BinN.cellAt_put_self (g := s.n.cur + 1) (j := j + 2 ^ s.n.cur) HI.shape rfl (BinN.Shape.next_lt HI.shape R)
          (show j + 2 ^ s.n.cur < 2 ^ (s.n.cur + 1) by rw [Nat.pow_succ]; omega)
    · refine F.others_pc (n' := putCell (tickN s.n) (s.n.cur + 1) (j + 2 ^ s.n.cur) (cellOfHead hg)) (j0 := j)
        (F.others_ne hh (Or.inl rfl)) rfl (fun j1 x _ hm => hm) ?_ t1 hp1 ne h1
      intro j1 jne hj1
      exact ⟨BinN.cellAt_put_ne (s := s.n) rfl (fun h => by omega),
        BinN.cellAt_put_ne (s := s.n) rfl (fun h => by omega)⟩
  · refine F.others_mh hh (j0 := j) (fun j' hm => hm.symm) (fun j1 hm1 _ => hm1) (fun _ => ⟨_, rfl, rfl⟩)

theorem full_marker {k : Nat} {s : State} {G : Ghost} {A : Nat → KSt} {pt : Nat → Nat} {t : Nat} {l : BinN.Local}
    {g0 j h : Nat} (F : Full s G) (g : GInv k s.n G A pt)
    (hl : s.n.threads[t]? = some l) (hh : s.hs[t]? = some (some ⟨g0, .storeMoved j h⟩))
    (B' : Inv (setH s t (putCell (tickN s.n) g0 j .moved) (some ⟨g0, .unlock j h⟩))) :
    ∃ G' A', Full (setH s t (putCell (tickN s.n) g0 j .moved) (some ⟨g0, .unlock j h⟩)) G' ∧
      GInv k (putCell (tickN s.n) g0 j .moved) G' A' pt ∧
      ∀ k', BinN.absOf (putCell (tickN s.n) g0 j .moved) k' = BinN.absOf s.n k' := by
  have H := F.base.hok t _ hh
  have hidle := F.base.hidle t _ l hh hl
  have HI := F.inv.heap
  obtain ⟨e, R⟩ := H.valid_cur F.base.gen (j := j) (h := h) rfl
  have e : g0 = s.n.cur := e
  subst e
  have hj : j < 2 ^ s.n.cur := H.idx j rfl
  obtain ⟨lo, hg, fr, hmid, hlow, hhigh⟩ := F.pcMid t _ hh
  have S' : BinN.Shape (putCell (tickN s.n) s.n.cur j .moved) := B'.gen.shape
  obtain ⟨H', habs⟩ := BinNHM.moved_effect (s' := putCell (tickN s.n) s.n.cur j .moved) HI S' hmid hlow hhigh rfl rfl rfl
  obtain ⟨-, sL, sH⟩ := BinNHM.mid_chains HI hmid hlow hhigh
  have hold : ∀ j0 x, (G.setMid j none).mid j0 = some x → j0 ≠ j ∧ G.mid j0 = some x :=
    fun _ _ => BinNHM.setMid_none_some
  have hisM : ∀ j1, IsMid (G.setMid j none) j1 → j1 ≠ j ∧ IsMid G j1 := by
    intro j1 hm1
    obtain ⟨a, b, c, hm⟩ := BinNHM.isMid_some hm1
    obtain ⟨e1, e2⟩ := hold _ _ hm
    exact ⟨e1, BinNHM.isMid_of e2⟩
  have m : MemStep s.n (putCell (tickN s.n) s.n.cur j .moved) G (G.setMid j none) := by
    refine .moved j lo hg fr hmid hold rfl rfl rfl ?_ ?_ ?_
    · exact BinN.cellAt_put_self HI.shape rfl HI.shape.cur_lt hj
    · intro id hne
      exact BinN.getCell_put_ne (s := s.n) rfl hne
    · intro b
      cases b
      · exact sL
      · exact sH
  refine ⟨_, full_helper F g hl hidle B' rfl rfl rfl H' m habs ?_ ?_ ?_ ?_⟩
  · intro t1 l1 g1 j' h' _ h1 hv _
    refine BinNHM.hfr_put (s := s.n) (s' := putCell (tickN s.n) s.n.cur j .moved) (g0 := s.n.cur) (j0 := j) (c := .moved)
      rfl rfl ?_
    rintro ⟨rfl, rfl⟩
    exact F.no_rw_on_helper_cell hh (j := j') (h := h) rfl t1 l1 h' h1 hv
  · intro j1 hm1 t1 l1 h1 hl1
    exact F.inv.midw j1 (hisM j1 hm1).2 t1 l1 h1 hl1
  · intro t1 hp1 h1
    rcases get_set h1 with ⟨-, e⟩ | ⟨ne, h1⟩
    · cases e; trivial
    · refine F.others_pc (n' := putCell (tickN s.n) s.n.cur j .moved) (j0 := j) (F.others_ne hh (Or.inl rfl)) rfl
        (fun j1 x jne hm => by rw [BinNHM.setMid_ne _ _ jne]; exact hm) ?_ t1 hp1 ne h1
      intro j1 _ _
      exact ⟨BinN.cellAt_put_ne (s := s.n) rfl (mt And.left (Nat.succ_ne_self _)), BinN.cellAt_put_ne (s := s.n) rfl (mt And.left (Nat.succ_ne_self _))⟩
  · refine F.others_mh hh (j0 := j) (fun j' hm => hm.symm) (fun j1 hm1 _ => (hisM j1 hm1).2) ?_
    intro hm
    exact absurd rfl (hisM j hm).1

theorem full_commit {k : Nat} {s : State} {G : Ghost} {A : Nat → KSt} {pt : Nat → Nat} {t : Nat} {l : BinN.Local}
    {g0 : Nat} (F : Full s G) (g : GInv k s.n G A pt)
    (hl : s.n.threads[t]? = some l) (hh : s.hs[t]? = some (some ⟨g0, .commit⟩))
    (hg : g0 = s.n.cur) (R : s.n.resizing = true)
    (B' : Inv (setH s t (commitN s.n) none)) :
    ∃ G' A', Full (setH s t (commitN s.n) none) G' ∧ GInv k (commitN s.n) G' A' pt ∧
      ∀ k', BinN.absOf (commitN s.n) k' = BinN.absOf s.n k' := by
  have H := F.base.hok t _ hh
  have hidle := F.base.hidle t _ l hh hl
  have HI := F.inv.heap
  have hall := H.commit rfl hg
  have hmidn := F.mid_none_of_allMoved hall
  have S' : BinN.Shape (commitN s.n) := B'.gen.shape
  obtain ⟨H', hstep, habs⟩ := BinNHM.commit_effect (s' := commitN s.n) HI S' hmidn hall rfl rfl rfl
  refine ⟨G, full_helper F g hl hidle B' rfl rfl rfl H' (.heap hstep) habs ?_ ?_ ?_ ?_⟩
  · intro t1 l1 g1 j' h' _ _ _ _
    exact BinNHM.hfr_same rfl (BinN.chId_congr rfl rfl) (fun i => ⟨rfl, rfl⟩) g1 j'
  · intro j1 hm1
    exact absurd hm1 (BinNHM.not_isMid_of_none (hmidn j1))
  · intro t1 hp1 h1
    rcases get_set h1 with ⟨-, e⟩ | ⟨ne, h1⟩
    · cases e
    · by_cases hm : midPc hp1.pc
      · obtain ⟨j1, hj1⟩ := midPc_isMidH hm
        exact absurd (pcMidH_isMid (F.pcMid t1 hp1 h1) hj1) (BinNHM.not_isMid_of_none (hmidn j1))
      · exact pcMidH_of_not_mid _ _ hm
  · intro j1 hm1
    exact absurd hm1 (BinNHM.not_isMid_of_none (hmidn j1))

end Flurry.Proto.BinNH
