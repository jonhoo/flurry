import Flurry.Lemmas.BinGNPPlan
import Flurry.Lemmas.BinKHeapAux
import Flurry.Lemmas.BinGNPLock
import Flurry.Lemmas.BinGNPGhostL
import Flurry.Lemmas.BinGNPShape
import Flurry.Lemmas.BinGNPArith
import Flurry.Lemmas.BinGNPStore
import Flurry.Lemmas.BinGNPFactsBase
import Flurry.Lemmas.BinGNPInvQ
/-! # Proto/BinGN: the transitions of a resizing thread establish `Eff` and leave every abstract state alone

`xstoreLow_facts`, `xstoreHigh_facts`, `xstoreMoved_facts`, `xcasMoved_facts`: the four transitions of the transfer of
a cell `(cur, j)` that change a cell and leave heap and `TreeBin` table alone (`Eff` through `eff_of_cells`). `xgrow_facts`,
with its instances `xbuild_facts` and `ybuild_facts`: the build steps, which extend heap and `TreeBin` table (`Ext s s'`)
and change no cell; `Ext.facts` is what such a step of a thread without a call establishes (treeify's build,
`Lemmas/BinGNPFactsK.lean`, uses it too).
* `XCtx s t l j`: the acting thread is THE resizing thread and works on cell `(cur, j)`, which is not forwarded. The
  other threads may be anything that is not a resizing thread (validated in other cells, treeify threads with a
  private bin, …); `XCtx.pend_ne_kstore`: a pending structure of the transfer is not the private bin of a treeify;
* congruence lemmas (`CopyOK.congr`, `PcInv.congr`, …): what depends on heap and `TreeBin` table only;
* the parts of `Inv s'` for a store into a cell: `XCtx.tinv`, `XCtx.xinv`, `XCtx.linv`, `XCtx.dinv`, `hinv_of_cells` (every cell of `s'`
  holds a structure that is `BinGH.Valid` in `s`: `HInv.valid`, `CopyOK.valid`, `valid_moved`); the generation structure of
  `XInv s'` comes from a hypothesis `XS' : XShape s'`;
* a stored child is a new cell holding a `TreeBin` that must differ from the bins of all other cells
  (`HInv.binsDistinct`). `Inv s` does not say that the fresh planned bin of a transfer
  is in no cell (`KInv` says it for a treeify only), so the two child stores take the hypothesis
  `PS : PlanSep s` (`Lemmas/BinGNPInvQ.lean`; established for reachable states by `planSep_of`,
  `Lemmas/BinGNPPlanSep.lean`): a pending bin of the transfer of `(cur, j)` is only in `(cur, j)` and its children;
* `CopyOK.abs_eq`, `kstep_forward`, `xforward_facts`: the forwarding. -/
namespace Flurry.Proto.BinGNP
open Flurry.Lin
open Flurry.Proto.BinK (nodeAt binAt NextOK IsChain IsSeg chainOf CInv absL get_set get_set_self get_set_ne
  absL_eq_none_iff absL_eq_some_iff pair_total binAt_append_ge)

variable {s s' : State} {t : Nat} {l l' : Local} {j : Nat}

private theorem chainC_congr (hh : s'.heap = s.heap) (hb : s'.tbins = s.tbins) (c : Cell) :
    chainC s' c = chainC s c := by
  unfold chainC; rw [hh, hb]

private theorem treeOf_congr {s s' : State} (hh : s'.heap = s.heap) (c : Cell) (j : Nat) : treeOf s' c j ↔ treeOf s c j := by
  unfold treeOf; rw [hh]

theorem CopyOK.congr (hh : s'.heap = s.heap) (hb : s'.tbins = s.tbins) {old : Cell} {sel : Nat → Bool}
    {C : Cell} (h : CopyOK s old sel C) : CopyOK s' old sel C := by
  cases s; cases s'
  simp only at hh hb
  subst hh hb
  exact ⟨h.notMoved, h.cinv, h.cellOK, h.chainOwner, h.selOK, h.src, h.cover, h.suffix, h.order, h.fresh⟩

theorem Plan.congr (hh : s'.heap = s.heap) (hb : s'.tbins = s.tbins) (hcur : s'.cur = s.cur)
    (hc : cellAt s' (s.cur, j) = cellAt s (s.cur, j))
    {lo hi : Cell} (h : Plan s j lo hi) : Plan s' j lo hi := by
  refine ⟨?_, ?_, h.distinct⟩
  · rw [hcur, hc]; exact h.low.congr hh hb
  · rw [hcur, hc]; exact h.high.congr hh hb

theorem PcInv.congr (hh : s'.heap = s.heap) (hb : s'.tbins = s.tbins) {p : Pending} {pc : Pc}
    (h : PcInv s p pc) : PcInv s' p pc := by
  cases s; cases s'
  simp only at hh hb
  subst hh hb
  exact h

private theorem xIdx_none_of {pc : Pc} (hx : xPc pc = false) : xIdx pc = none := by
  cases h : xIdx pc with
  | none => rfl
  | some j => rw [xPc_of_xIdx h] at hx; cases hx

private theorem KInv_of_xPc {pc : Pc} (hx : xPc pc = true) : KInv s pc :=
  InvW.KInv_of_not_kStore (fun _ _ _ _ e => by rw [e] at hx; cases hx)

private theorem KInv_congr (hh : s'.heap = s.heap) (hb : s'.tbins = s.tbins) {pc : Pc}
    (hk : ∀ tab k h b, pc = .kStore tab k h b → ∀ id, cellAt s' id ≠ .tree b) (h : KInv s pc) : KInv s' pc := by
  by_cases hpc : ∃ tab k h b, pc = .kStore tab k h b
  · obtain ⟨tab, k, h0, b, rfl⟩ := hpc
    exact ⟨h.1.congr hh hb, hk tab k h0 b rfl⟩
  · exact InvW.KInv_of_not_kStore (fun tab k h0 b e => hpc ⟨tab, k, h0, b, e⟩)

/-- thread `t` is THE resizing thread and works on cell `(cur, j)`, which is not forwarded; it is validated in it, or
the cell is empty -/
structure XCtx (s : State) (t : Nat) (l : Local) (j : Nat) : Prop where
  inv : Inv s
  hl : s.threads[t]? = some l
  call : l.call = none
  xpc : xPc l.pc = true
  idx : xIdx l.pc = some j
  notMoved : cellAt s (s.cur, j) ≠ .moved
  valid : validated l.pc = true ∨ cellAt s (s.cur, j) = .empty

theorem xctx_of (I : Inv s) (hl : s.threads[t]? = some l) (hc : l.call = none)
    (hi : xIdx l.pc = some j) (hnm : cellAt s (s.cur, j) ≠ .moved)
    (hv : validated l.pc = true ∨ cellAt s (s.cur, j) = .empty) : XCtx s t l j :=
  ⟨I, hl, hc, xPc_of_xIdx hi, hi, hnm, hv⟩

theorem XCtx.cid (X : XCtx s t l j) : cidOf s l = (s.cur, j) := by
  unfold cidOf; rw [X.idx]

theorem XCtx.jlt (X : XCtx s t l j) : j < 2 ^ s.cur :=
  X.inv.rsz.idx t l j X.hl X.idx

theorem XCtx.resz (X : XCtx s t l j) : s.resizing = true :=
  X.inv.rsz.resz t l X.hl X.xpc

theorem XCtx.other_x (X : XCtx s t l j) {t1 : Nat} {l1 : Local}
    (hne : t1 ≠ t) (hl1 : s.threads[t1]? = some l1) : xPc l1.pc = false := by
  cases h : xPc l1.pc with
  | false => rfl
  | true => exact absurd (X.inv.rsz.uniqX t1 t l1 l hl1 X.hl h X.xpc) hne

/-- a child of `(cur, j)` that is not `empty` has been stored by the acting thread -/
theorem XCtx.child_stored (X : XCtx s t l j) {j' : Nat}
    (hne : cellAt s (s.cur + 1, j') ≠ .empty) (hp : j' % 2 ^ s.cur = j) :
    lowStored l.pc = some j' ∨ ∃ j1, highStored l.pc = some j1 ∧ j' = j1 + 2 ^ s.cur := by
  rcases X.inv.rsz.nextEmpty j' hne with h | ⟨t1, l1, h1, hs⟩
  · rw [hp] at h; exact absurd h X.notMoved
  · have hx1 : xPc l1.pc = true := by
      rcases hs with h | ⟨j1, h, -⟩
      · exact xPc_of_xIdx (Store.lowStored_pend (s := s) h).1
      · exact xPc_of_xIdx (Store.highStored_pend (s := s) h).1
    have e := X.inv.rsz.uniqX t1 t l1 l h1 X.hl hx1 X.xpc
    rw [e, X.hl] at h1
    cases h1
    exact hs

/-- a pending structure of the transfer is not the private `TreeBin` of a treeify -/
theorem XCtx.pend_ne_kstore (X : XCtx s t l j) {C : Cell}
    (hCp : C ∈ pend s l.pc) {t1 : Nat} {l1 : Local} {tab k h b : Nat} (hl1 : s.threads[t1]? = some l1)
    (hpc : l1.pc = .kStore tab k h b) : C ≠ .tree b := by
  intro hCb
  have I := X.inv
  have H := I.heap
  have XI := I.rsz
  have K := I.data.kInv t1 l1 hl1
  rw [hpc] at K
  obtain ⟨K1, -⟩ := K
  have hv1 : validated l1.pc = true := by rw [hpc]; rfl
  have hx1 : xPc l1.pc = false := by rw [hpc]; rfl
  have W := Writable.of_validated I hl1 hv1 hx1
  have hcl : cellAt s (cidOf s l1) = .list h := I.lock.vL t1 l1 h hl1 (by rw [hpc]; rfl)
  obtain ⟨j0, sel, hi0, hp0, hcp⟩ := Store.pend_copyOK X.xpc (XI.plan t l X.hl) hCp
  have hpe : pend s l.pc ≠ [] := by intro e; rw [e] at hCp; cases hCp
  have hnp := W.not_parent XI X.hl hi0 hp0 hpe
  have hCI := H.cinv (cidOf s l1)
  rw [hcl] at hCI
  obtain ⟨l', hl'⟩ := hCI.isChain.start_some
  have hmem : h ∈ chainC s (.list h) := by
    show h ∈ chainOf s.heap (some h)
    have e : chainOf s.heap (startOf s.tbins (.list h)) = h :: l' := hl'
    have e' : chainOf s.heap (some h) = h :: l' := e
    rw [e']; simp
  obtain ⟨x, hx, hxk, -, -⟩ := K1.cover h hmem rfl
  have hxC : x ∈ chainC s C := by rw [hCb]; exact hx
  have k1 := Store.copy_key H hcp hxC
  have k2 := H.side (cidOf s l1) h (Or.inl (by rw [hcl]; exact hmem))
  rw [hxk] at k1
  exact W.key_ne hnp k2 k1

/-- the shape of the successor state: thread `t` moves to `l'`, clock, history and flags -/
structure TStep (s s' : State) (t : Nat) (l' : Local) : Prop where
  thr : s'.threads = s.threads.set t l'
  now : s'.now = s.now + 1
  hist : s'.hist = s.hist
  resz : s'.resizing = s.resizing
  cur : s'.cur = s.cur
  call : l'.call = none
  xpc : xPc l'.pc = true

/-- the successor state of a store of thread `t` into a cell: `TStep`, same heap, same `TreeBin` table -/
theorem putStep_shape (s : State) (t : Nat) (l' : Local) (g j : Nat) (c : Cell) (hc : l'.call = none)
    (hx : xPc l'.pc = true) :
    TStep s (putCell (setT (tick s) t l') g j c) t l' ∧ (putCell (setT (tick s) t l') g j c).heap = s.heap ∧
      (putCell (setT (tick s) t l') g j c).tbins = s.tbins := by
  cases s
  exact ⟨⟨rfl, rfl, rfl, rfl, rfl, hc, hx⟩, rfl, rfl⟩

private theorem xPc_noCall {pc : Pc} (h : xPc pc = true) : noCallPc pc = true := by
  unfold noCallPc; rw [h]; simp

theorem XCtx.tinv (X : XCtx s t l j) (S : TStep s s' t l') : TInv s' :=
  tinv_keep X.inv.thr X.hl S.thr S.now S.hist (S.call.trans X.call.symm)
    (by rw [S.call, xPc_noCall S.xpc]; simp) (fun p hp => by rw [X.call] at hp; cases hp)

theorem XCtx.self (X : XCtx s t l j) (S : TStep s s' t l') :
    s'.threads[t]? = some l' := by
  rw [S.thr]; exact get_set_self X.hl

theorem XCtx.cases' {s s' : State} {t : Nat} {l l' : Local} {j : Nat} (X : XCtx s t l j) (S : TStep s s' t l') {t1 : Nat}
    {l1 : Local} (h1 : s'.threads[t1]? = some l1) : (t1 = t ∧ l1 = l') ∨ (t1 ≠ t ∧ s.threads[t1]? = some l1) := by
  have _ := X
  rw [S.thr] at h1
  exact get_set h1

theorem TStep.other (S : TStep s s' t l') {t1 : Nat}
    {l1 : Local} (hne : t1 ≠ t) (h1 : s.threads[t1]? = some l1) : s'.threads[t1]? = some l1 := by
  rw [S.thr, get_set_ne hne]; exact h1

/-- the generation structure comes from `XShape s'`; only the plan of the acting thread has to be shown -/
theorem XCtx.xinv (X : XCtx s t l j) (S : TStep s s' t l')
    (XS' : XShape s') (hplan : XPc s' l'.pc) : XInv s' := by
  refine XS'.xinv ?_
  intro t1 l1 h1
  rcases X.cases' S h1 with ⟨_, e⟩ | ⟨hne1, h1⟩
  · rw [e]; exact hplan
  · exact InvW.XPc_of_not_plan (InvW.planPc_false_of_xPc (X.other_x hne1 h1))

theorem XCtx.privBin_back (X : XCtx s t l j) (S : TStep s s' t l')
    {b : Nat}
    (hself : (.tree b : Cell) ∈ pend s' l'.pc → (∀ j', xIdx l'.pc = some j' → cellAt s' (s'.cur, j') ≠ .tree b) →
      PrivBin s b) (h : PrivBin s' b) : PrivBin s b := by
  obtain ⟨t1, l1, h1, hmem, hne⟩ := h
  rcases X.cases' S h1 with ⟨_, e⟩ | ⟨hne1, h1⟩
  · rw [e] at hmem hne
    exact hself hmem hne
  · have hx1 := X.other_x hne1 h1
    rw [FactsL.pend_of_not_xPc (s := s) hx1] at hmem
    refine ⟨t1, l1, h1, hmem, ?_⟩
    intro j' hj'
    rw [xIdx_none_of hx1] at hj'; cases hj'

theorem valid_moved (hok : NextOK s.heap) (id : Cid) : BinGH.Valid s.heap s.tbins .moved (KeyOf id) := by
  have hno : ∀ a, ¬ (a ∈ chainC s .moved ∨ treeOf s .moved a) := by
    intro a ha
    rcases ha with h | h
    · rw [Store.chainC_moved] at h; cases h
    · exact Store.not_treeOf_moved s a h
  refine ⟨⟨hok, (fun h hh => by cases hh), fun a b ha => absurd ha (hno a)⟩, (fun b hb => by cases hb), ?_, ?_⟩
  · intro j hj; exact absurd (Or.inl hj) (hno j)
  · intro j hj; exact absurd hj (hno j)

/-- a planned child of `(cur, j0)` is a well-formed content of the child cell `id` -/
theorem CopyOK.valid (H : HInv s) {j0 : Nat} {sel : Nat → Bool} {C : Cell} {id : Cid}
    (h : CopyOK s (cellAt s (s.cur, j0)) sel C) (hg : id.1 = s.cur + 1)
    (hs : ∀ k, k % 2 ^ s.cur = j0 → sel k = true → k % 2 ^ (s.cur + 1) = id.2) :
    BinGH.Valid s.heap s.tbins C (KeyOf id) := by
  refine ⟨h.cinv, h.cellOK, h.chainOwner, ?_⟩
  intro x hx
  show _ % 2 ^ id.1 = id.2
  rw [hg]
  refine hs _ ?_ (h.selOK x hx)
  rcases hx with hx | hx
  · exact Store.copy_key H h hx
  · obtain ⟨hxl, hin, b, hCb, ho⟩ := hx
    by_cases hold : cellAt s (s.cur, j0) = .tree b
    · exact H.side (s.cur, j0) x (Or.inr ⟨hxl, hin, b, hold, ho⟩)
    · obtain ⟨-, f2, -⟩ := h.fresh b hCb hold
      exact Store.copy_key H h ((f2 x hxl).1 ho)

theorem hinv_of_cells (hh : s'.heap = s.heap) (hb : s'.tbins = s.tbins) (H : HInv s)
    (hc : ∀ id, BinGH.Valid s.heap s.tbins (cellAt s' id) (KeyOf id))
    (hbd : ∀ (id id' : Cid) b, cellAt s' id = .tree b → cellAt s' id' = .tree b → id = id' ∨
      ∃ j0, Reusing s' b j0 ∧ ((id = (s'.cur, j0) ∧ id'.1 = s'.cur + 1 ∧ id'.2 % 2 ^ s'.cur = j0) ∨
        (id' = (s'.cur, j0) ∧ id.1 = s'.cur + 1 ∧ id.2 % 2 ^ s'.cur = j0))) : HInv s' := by
  cases s; cases s'
  simp only at hh hb
  subst hh hb
  exact ⟨fun id => (hc id).cinv, H.ownerOK, H.firstOK, fun id => (hc id).cellOK, fun id => (hc id).chainOwner,
    fun id => (hc id).side, hbd⟩

/-- the program counter `pc'` holds the lock word, the mutex and the read-write lock that `pc` holds, and refers to
no other `TreeBin`. `loop` speaks of `pc` alone: the resizing thread never waits in `lrLoop`, so what `linv_keep` asks of a
waiting writer (`isLoop pc = true → isLoop pc' = true`) holds for an empty reason. -/
structure Keeps (pc pc' : Pc) : Prop where
  lock : holdsLock pc' = holdsLock pc
  mutex : holdsMutex pc' = holdsMutex pc
  wr : wr pc' = wr pc
  loop : isLoop pc = false
  read : holdsRead pc' = holdsRead pc
  ref : ∀ b, binRef pc' = some b → binRef pc = some b

theorem XCtx.linv (X : XCtx s t l j) (S : TStep s s' t l')
    (hh : s'.heap = s.heap) (hb : s'.tbins = s.tbins)
    (K : Keeps l.pc l'.pc)
    (hvL : ∀ h, validL l'.pc = some h → cellAt s' (cidOf s' l') = .list h)
    (hvT : ∀ b, validT l'.pc = some b → cellAt s' (cidOf s' l') = .tree b)
    (hvo : ∀ id, cellAt s' id = cellAt s id ∨ (validated l.pc = true ∧ id = (s.cur, j)) ∨ cellAt s id = .empty)
    (hbits : ∀ id b, cellAt s' id = .tree b → (∃ id0, cellAt s id0 = .tree b) ∨
      ((binAt s.tbins b).mutex = none ∧ (binAt s.tbins b).writer = false ∧ (binAt s.tbins b).waiter = false))
    (hpriv : ∀ b, b < s.tbins.length → PrivBin s' b → PrivBin s b) : LInv s' := by
  have L := X.inv.lock
  have hcl : cidOf s l = (s.cur, j) := X.cid
  have hvo' : ∀ id, cellAt s' id = cellAt s id ∨ (validated l.pc = true ∧ cidOf s l = id) ∨ cellAt s id = .empty := by
    intro id
    rcases hvo id with h | ⟨h1, h2⟩ | h
    · exact Or.inl h
    · exact Or.inr (Or.inl ⟨h1, by rw [hcl, h2]⟩)
    · exact Or.inr (Or.inr h)
  exact linv_keep L X.hl S.thr S.cur (fun h => by rw [hh]) (Nat.le_of_eq (by rw [hb])) (fun _ => by rw [hb]; exact ⟨rfl, rfl, rfl, rfl⟩)
    K.lock K.mutex hvL hvT hvo' hbits
    (fun b _ _ => ⟨K.wr, fun h => by rw [K.loop] at h; cases h⟩) K.read K.ref hpriv

theorem XCtx.dinv (X : XCtx s t l j) (S : TStep s s' t l')
    (hh : s'.heap = s.heap) (hb : s'.tbins = s.tbins)
    (hk : ∀ (t1 : Nat) (l1 : Local) (tab k h b : Nat), t1 ≠ t → s.threads[t1]? = some l1 → l1.pc = .kStore tab k h b →
      ∀ id, cellAt s' id ≠ .tree b)
    (hcells : ∀ id b, cellAt s' id = .tree b → (∃ id0, cellAt s id0 = .tree b) ∨
      ((∀ j, j < s.heap.length → (nodeAt s.heap j).owner = some b → (nodeAt s.heap j).inTree = true →
          j ∈ chainOfBin s b) ∧ ∀ j ∈ chainOfBin s b, (nodeAt s.heap j).inTree = true)) : DInv s' := by
  have I := X.inv
  have hcb : ∀ b, chainOfBin s' b = chainOfBin s b := fun b => chainC_congr hh hb (.tree b)
  have hkeep : ∀ (t1 : Nat) (l1 : Local), s.threads[t1]? = some l1 → xPc l1.pc = false → s'.threads[t1]? = some l1 := by
    intro t1 l1 h1 hx1
    refine S.other ?_ h1
    intro e
    rw [e, X.hl] at h1
    cases h1
    rw [X.xpc] at hx1; cases hx1
  refine ⟨?_, ?_, ?_, ?_⟩
  · intro t1 l1 p h1 hc1
    rcases X.cases' S h1 with ⟨_, e⟩ | ⟨hne, h1⟩
    · rw [e, S.call] at hc1; cases hc1
    · exact (I.data.pcInv t1 l1 p h1 hc1).congr hh hb
  · intro t1 l1 h1
    rcases X.cases' S h1 with ⟨_, e⟩ | ⟨hne, h1⟩
    · rw [e]; exact KInv_of_xPc S.xpc
    · exact KInv_congr hh hb (fun tab k h b hpc => hk t1 l1 tab k h b hne h1 hpc) (I.data.kInv t1 l1 h1)
  · intro id b hc j hj ho hin hn
    rw [hh] at hj ho hin
    rw [hcb] at hn
    rcases hcells id b hc with ⟨id0, hc0⟩ | ⟨f1, _⟩
    · obtain ⟨t1, l1, h1, hcase⟩ := I.data.treeSub id0 b hc0 j hj ho hin hn
      refine ⟨t1, l1, hkeep t1 l1 h1 ?_, hcase⟩
      rcases hcase with ⟨tab, res, h⟩ | ⟨tab, res, h⟩ <;> rw [h] <;> rfl
    · exact absurd (f1 j hj ho hin) hn
  · intro id b hc j hj hin
    rw [hh] at hin
    rw [hcb] at hj
    rcases hcells id b hc with ⟨id0, hc0⟩ | ⟨_, f2⟩
    · obtain ⟨t1, l1, tab, h1, hpc⟩ := I.data.chainSub id0 b hc0 j hj hin
      exact ⟨t1, l1, tab, hkeep t1 l1 h1 (by rw [hpc]; rfl), hpc⟩
    · rw [f2 j hj] at hin; cases hin

private theorem absTree_congr {s s' : State} (hh : s'.heap = s.heap) (b k : Nat) : absTree s' b k = absTree s b k := by
  unfold absTree treeFind; rw [hh]

private theorem absOf_of_LC (hh : s'.heap = s.heap) {k : Nat} (hLC : LC s' k = LC s k) :
    absOf s' k = absOf s k := by
  rw [BinGNP.absOf_eq, BinGNP.absOf_eq, hLC, hh]

/-- the live cell of a key is not a child of a cell that is not forwarded -/
private theorem liveId_ne_child (hnm : cellAt s (s.cur, j) ≠ .moved) {id : Cid}
    (hid1 : id.1 = s.cur + 1) (hidp : id.2 % 2 ^ s.cur = j) (k : Nat) : liveId s k ≠ id := by
  intro e
  unfold liveId at e
  split at e
  · rename_i hm
    apply hnm
    have e2 : k % 2 ^ (s.cur + 1) = id.2 := by rw [← e]; rfl
    have : idOf s.cur k = (s.cur, j) := by
      unfold idOf
      rw [← hidp, ← e2, mod_succ_mod]
    rw [← this]; exact hm
  · have : s.cur = id.1 := by rw [← e]; rfl
    omega

private theorem validated_unl (unl : Nat ⊕ Nat) : ((unlL unl).isSome || (unlT unl).isSome) = true := by
  cases unl <;> rfl

/-- the lock word the thread keeps for the unlock tells what the old cell holds -/
private theorem unl_of_tree {j b : Nat} {unl : Nat ⊕ Nat} (L : LInv s)
    (hl : s.threads[t]? = some l) (hcid : cidOf s l = (s.cur, j)) (hvL : validL l.pc = unlL unl)
    (hvT : validT l.pc = unlT unl) (h0 : cellAt s (s.cur, j) = .tree b) : unl = .inr b := by
  cases unl with
  | inl h =>
    have := L.vL t l h hl hvL
    rw [hcid, h0] at this; cases this
  | inr b' =>
    have := L.vT t l b' hl hvT
    rw [hcid, h0] at this; cases this; rfl

private theorem cellAt_put_step (XI : XInv s) (hr : s.resizing = true) {g j : Nat}
    (hg : g ≤ s.cur + 1) (hj : j < 2 ^ g) (c : Cell) (id : Cid) :
    cellAt (putCell (setT (tick s) t l') g j c) id = if id = (g, j) then c else cellAt s id := by
  obtain ⟨row, hrow, hlen⟩ := XI.row_of_lt (XI.gen_lt_resz hr hg)
  exact BinGNP.cellAt_putCell (s := setT (tick s) t l') c hrow (by rw [hlen]; exact hj) id

/-- `Eff` for a step that leaves heap and `TreeBin` table alone (the resizing thread stores into a cell): a `TreeBin`
in a cell afterwards was in a cell or private -/
theorem eff_of_cells (hh : s'.heap = s.heap) (hb : s'.tbins = s.tbins) (hI' : Inv s') (ks : ∀ k, KStep s s' k)
    (hlive : ∀ b k, cellAt s (liveId s k) = .tree b → cellAt s' (liveId s' k) = .tree b ∨
      (¬ InCell s' b ∧ (binAt s'.tbins b).writer = true) ∨ absTree s' b k = absOf s' k)
    (hnew : ∀ id b, cellAt s' id = .tree b → InCell s b ∨ PrivBin s b) : Eff s s' := by
  refine ⟨hI', ks, ?_, ?_, hlive, ?_⟩
  · intro b _ hne
    rw [hb] at hne; exact absurd rfl hne
  · intro b k _ hne
    rw [absTree_congr hh] at hne; exact absurd rfl hne
  · intro b _ hnc hnp
    refine ⟨?_, fun h => by rw [hb]; exact h⟩
    rintro ⟨id, hcb⟩
    exact (hnew id b hcb).elim hnc hnp

/-- the planned structure `C` (a side of the cell `(cur, j)` under transfer) is stored into its empty child cell `id`. No live
chain changes: the parent is not forwarded, so no lookup ends in a child (`liveId_ne_child`), and heap and `TreeBin` table
are the same; hence every abstract state is kept and `KStep` is by `KStep.of_same`. The work is `HInv s'`: the new content
of `id` is well-formed by `hC` and holds keys of `id` only (`hsel`), and `HInv.binsDistinct` for a `TreeBin` of `C` comes
from `PlanSep s` (a pending bin is in no cell but `(cur, j)` and its children), `hsib` (not in the sibling) and `hre` (if it
is the bin of `(cur, j)` itself, the transfer re-uses it) -/
theorem xstoreNew_facts {id : Cid} {C : Cell} {sel : Nat → Bool}
    (X : XCtx s t l j) (S : TStep s s' t l') (XS' : XShape s')
    (PS : PlanSep s)
    (hh : s'.heap = s.heap) (hb : s'.tbins = s.tbins)
    (hemp : cellAt s id = .empty)
    (hcell : ∀ id', cellAt s' id' = if id' = id then C else cellAt s id')
    (hid1 : id.1 = s.cur + 1) (hidp : id.2 % 2 ^ s.cur = j)
    (hC : CopyOK s (cellAt s (s.cur, j)) sel C)
    (hsel : ∀ k, k % 2 ^ s.cur = j → sel k = true → k % 2 ^ (s.cur + 1) = id.2)
    (hCp : C ∈ pend s l.pc) (hpend : pend s' l'.pc = pend s l.pc)
    (hsib : ∀ b (id' : Cid), C = .tree b → id' ≠ id → id'.1 = s.cur + 1 → id'.2 % 2 ^ s.cur = j →
      cellAt s id' ≠ .tree b)
    (hre0 : ∀ b j0, Reusing s b j0 → Reusing s' b j0)
    (hre : ∀ b, C = .tree b → cellAt s (s.cur, j) = .tree b → Reusing s' b j)
    (hxi : xIdx l'.pc = some j)
    (K : Keeps l.pc l'.pc)
    (evL : validL l'.pc = validL l.pc) (evT : validT l'.pc = validT l.pc)
    (hplan : XPc s' l'.pc) : Eff s s' ∧ ∀ k, absOf s' k = absOf s k := by
  have I := X.inv
  have H := I.heap
  have XI := I.rsz
  have hcur := S.cur
  have hne0 : (s.cur, j) ≠ id := by
    intro e
    have : s.cur = id.1 := by rw [← e]
    omega
  have hc0 : cellAt s' (s.cur, j) = cellAt s (s.cur, j) := by rw [hcell, if_neg hne0]
  have hgen : ∀ id' : Cid, id'.1 = s.cur → cellAt s' id' = cellAt s id' := by
    intro id' h
    rw [hcell, if_neg]
    intro e; rw [e] at h; omega
  have hcid' : cidOf s' l' = (s.cur, j) := by unfold cidOf; rw [hxi, hcur]
  -- the new cell: a bin of a cell of `s`, or a fresh bin
  have hnew : ∀ id' b, cellAt s' id' = .tree b → (∃ id0, cellAt s id0 = .tree b) ∨
      (C = .tree b ∧ cellAt s (s.cur, j) ≠ .tree b) := by
    intro id' b hcb
    rw [hcell] at hcb
    split at hcb
    · by_cases h0 : cellAt s (s.cur, j) = .tree b
      · exact Or.inl ⟨_, h0⟩
      · exact Or.inr ⟨hcb, h0⟩
    · exact Or.inl ⟨id', hcb⟩
  have hprivC : ∀ b, C = .tree b → cellAt s (s.cur, j) ≠ .tree b → PrivBin s b := by
    intro b hCb h0
    refine ⟨t, l, X.hl, hCb ▸ hCp, ?_⟩
    intro j' hj'
    rw [X.idx] at hj'; cases hj'
    exact h0
  have hkey : ∀ b (id2 : Cid), C = .tree b → id2 ≠ id → cellAt s id2 = .tree b →
      Reusing s' b j ∧ id2 = (s.cur, j) := by
    intro b id2 hCb hne2 h2
    by_cases h0 : cellAt s (s.cur, j) = .tree b
    · refine ⟨hre b hCb h0, ?_⟩
      rcases H.binsDistinct (s.cur, j) id2 b h0 h2 with e | ⟨j0, -, ⟨e1, e2, e3⟩ | ⟨-, e2, -⟩⟩
      · exact e.symm
      · have ej : j = j0 := (Prod.mk.inj e1).2
        rw [← ej] at e3
        exact absurd h2 (hsib b id2 hCb hne2 e2 e3)
      · have : s.cur = s.cur + 1 := e2
        omega
    · exfalso
      rcases PS t l j b X.hl X.idx (hCb ▸ hCp) id2 h2 with e | e | e
      · rw [e] at h2; exact h0 h2
      · exact hsib b id2 hCb hne2 (by rw [e]) (by rw [e]; exact Nat.mod_eq_of_lt X.jlt) h2
      · exact hsib b id2 hCb hne2 (by rw [e]) (by rw [e]; exact high_mod X.jlt) h2
  have H' : HInv s' := by
    refine hinv_of_cells hh hb H ?_ ?_
    · intro id'
      rw [hcell]
      split
      · rename_i h; rw [h]; exact hC.valid H hid1 hsel
      · exact H.valid id'
    · intro id1 id2 b h1 h2
      rw [hcell] at h1 h2
      rw [hcur]
      by_cases e1 : id1 = id
      · by_cases e2 : id2 = id
        · left; rw [e1, e2]
        · rw [if_pos e1] at h1; rw [if_neg e2] at h2
          obtain ⟨hr, hp⟩ := hkey b id2 h1 e2 h2
          right
          exact ⟨j, hr, Or.inr ⟨hp, by rw [e1]; exact hid1, by rw [e1]; exact hidp⟩⟩
      · by_cases e2 : id2 = id
        · rw [if_neg e1] at h1; rw [if_pos e2] at h2
          obtain ⟨hr, hp⟩ := hkey b id1 h2 e1 h1
          right
          exact ⟨j, hr, Or.inl ⟨hp, by rw [e2]; exact hid1, by rw [e2]; exact hidp⟩⟩
        · rw [if_neg e1] at h1; rw [if_neg e2] at h2
          rcases H.binsDistinct id1 id2 b h1 h2 with e | ⟨j0, hr, hcs⟩
          · exact Or.inl e
          · exact Or.inr ⟨j0, hre0 b j0 hr, hcs⟩
  have hprivB : ∀ b, PrivBin s' b → PrivBin s b := by
    intro b hp
    refine X.privBin_back S ?_ hp
    intro hmem hne
    rw [hpend] at hmem
    refine ⟨t, l, X.hl, hmem, ?_⟩
    intro j' hj'
    rw [X.idx] at hj'; cases hj'
    have := hne j hxi
    rw [hcur, hc0] at this; exact this
  have hI' : Inv s' := by
    refine ⟨H', X.tinv S, X.xinv S XS' hplan, ?_, ?_⟩
    · refine X.linv S hh hb K ?_ ?_ ?_ ?_ (fun b _ => hprivB b)
      · intro h hv
        rw [evL] at hv
        have := I.lock.vL t l h X.hl hv
        rw [X.cid] at this
        rw [hcid', hc0]; exact this
      · intro b hv
        rw [evT] at hv
        have := I.lock.vT t l b X.hl hv
        rw [X.cid] at this
        rw [hcid', hc0]; exact this
      · intro id'
        rw [hcell]
        split
        · rename_i h; rw [h]; exact Or.inr (Or.inr hemp)
        · exact Or.inl rfl
      · intro id' b hcb
        rcases hnew id' b hcb with h | ⟨hCb, h0⟩
        · exact Or.inl h
        · obtain ⟨f1, -, -⟩ := hC.fresh b hCb h0
          right
          rw [f1]
          exact ⟨rfl, rfl, rfl⟩
    · refine X.dinv S hh hb ?_ ?_
      · intro t1 l1 tab k h b hne1 h1 hpc id' hcb
        have K := I.data.kInv t1 l1 h1
        rw [hpc] at K
        rcases hnew id' b hcb with ⟨id0, h0⟩ | ⟨hCb, -⟩
        · exact K.2 id0 h0
        · exact X.pend_ne_kstore hCp h1 hpc hCb
      · intro id' b hcb
        rcases hnew id' b hcb with h | ⟨hCb, h0⟩
        · exact Or.inl h
        · obtain ⟨-, f2, f3⟩ := hC.fresh b hCb h0
          subst hCb
          right
          exact ⟨fun j hj ho _ => (f2 j hj).1 ho, f3⟩
  have XI' := hI'.rsz
  have hlive : ∀ k, liveId s' k = liveId s k := fun _ => liveId_congr hcur (by rw [hgen _ rfl])
  have hlivec : ∀ k, cellAt s' (liveId s k) = cellAt s (liveId s k) := by
    intro k
    rw [hcell, if_neg (liveId_ne_child X.notMoved hid1 hidp k)]
  have hLC : ∀ k, LC s' k = LC s k := by
    intro k
    rw [Store.LC_eq_live XI'.newNotMoved, Store.LC_eq_live XI.newNotMoved, hlive, hlivec]
    exact chainC_congr hh hb _
  refine ⟨eff_of_cells hh hb hI' ?_ (fun b k hc => Or.inl (by rw [hlive, hlivec]; exact hc))
    (fun id' b hcb => (hnew id' b hcb).imp (fun h => h) (fun h => hprivC b h.1 h.2)), fun k => absOf_of_LC hh (hLC k)⟩
  · intro k
    refine KStep.of_same (by rw [hh]; exact Nat.le_refl _) (fun j _ => by rw [hh]; exact ⟨rfl, rfl, rfl⟩) (hLC k) ?_ ?_
    · intro x _ hu
      have hCu : x ∈ chainC s C → Used s x := by
        intro hx
        by_cases hx0 : x ∈ chainC s (cellAt s (s.cur, j))
        · exact Or.inl ⟨_, hx0⟩
        · refine Or.inr (Or.inr ⟨t, l, C, X.hl, X.xpc, hCp, hx, ?_⟩)
          intro j' hj'
          rw [X.idx] at hj'; cases hj'
          exact hx0
      rcases hu with ⟨id', hx⟩ | hu | hu
      · rw [chainC_congr hh hb, hcell] at hx
        split at hx
        · exact hCu hx
        · exact Or.inl ⟨id', hx⟩
      · exact Or.inr (Or.inl (Store.privK_back X.hl S.thr
          (fun tab k h b hpc => by have := S.xpc; rw [hpc] at this; cases this) (by rw [hh]) hu))
      · obtain ⟨t1, l1, C1, h1, hx1, hC1, hx, hx0⟩ := hu
        rw [chainC_congr hh hb] at hx
        rcases X.cases' S h1 with ⟨_, e⟩ | ⟨hne1, h1⟩
        · rw [e, hpend] at hC1
          rw [e] at hx0
          have := hx0 j hxi
          rw [hcur, hc0, chainC_congr hh hb] at this
          refine Or.inr (Or.inr ⟨t, l, C1, X.hl, X.xpc, hC1, hx, ?_⟩)
          intro j' hj'
          rw [X.idx] at hj'; cases hj'
          exact this
        · rw [X.other_x hne1 h1] at hx1; cases hx1
    · rintro c ⟨id1, hc1, hno⟩
      refine ⟨id1, ?_, hno⟩
      rw [chainC_congr hh hb, hcell]
      split
      · rename_i h
        rw [h, hemp, Store.chainC_empty] at hc1; cases hc1
      · exact hc1

/-- all children of `(cur, j)` are `empty` before the first store -/
theorem XCtx.childEmpty (X : XCtx s t l j) (hlo : lowStored l.pc = none)
    (hhi : highStored l.pc = none) {j' : Nat} (hp : j' % 2 ^ s.cur = j) : cellAt s (s.cur + 1, j') = .empty := by
  apply Classical.byContradiction
  intro hne
  rcases X.child_stored hne hp with h | ⟨j1, h, -⟩
  · rw [hlo] at h; cases h
  · rw [hhi] at h; cases h

theorem xstoreLow_facts {unl : Nat ⊕ Nat} {lo hi : Cell} (I : Inv s)
    (hl : s.threads[t]? = some l) (hc : l.call = none) (hpc : l.pc = .xStoreLow j unl lo hi)
    (PS : PlanSep s) :
    let s' : State := putCell (setT (tick s) t { l with pc := .xStoreHigh j unl hi }) (s.cur + 1) j lo
    XShape s' → (Eff s s' ∧ ∀ k, absOf s' k = absOf s k) := by
  intro s' XS'
  have hi0 : xIdx l.pc = some j := by rw [hpc]; rfl
  have hval : validated l.pc = true := by rw [hpc]; exact validated_unl unl
  have X : XCtx s t l j := xctx_of I hl hc hi0 (I.rsz.pre t l j hl (by rw [hpc]; rfl) hi0) (Or.inl hval)
  obtain ⟨S, hh, hb⟩ := putStep_shape s t { l with pc := .xStoreHigh j unl hi } (s.cur + 1) j lo hc rfl
  have P : Plan s j lo hi := by
    have := I.rsz.plan t l hl
    rw [hpc] at this; exact this
  have hjj : j % 2 ^ s.cur = j := Nat.mod_eq_of_lt X.jlt
  have hallE : ∀ j', j' % 2 ^ s.cur = j → cellAt s (s.cur + 1, j') = .empty :=
    fun j' hp => X.childEmpty (by rw [hpc]; rfl) (by rw [hpc]; rfl) hp
  have hcell : ∀ id', cellAt s' id' = if id' = (s.cur + 1, j) then lo else cellAt s id' :=
    fun id' => cellAt_put_step I.rsz X.resz (Nat.le_refl _) (Nat.lt_of_lt_of_le X.jlt
      (Nat.pow_le_pow_right (by decide) (Nat.le_succ _))) lo id'
  have hlo' : cellAt s' (s.cur + 1, j) = lo := by rw [hcell, if_pos rfl]
  have hc0 : cellAt s' (s.cur, j) = cellAt s (s.cur, j) := by
    rw [hcell, if_neg]
    intro e
    have : s.cur = s.cur + 1 := congrArg Prod.fst e
    omega
  refine xstoreNew_facts (id := (s.cur + 1, j)) (C := lo) (sel := sideSel s.cur false) X S XS' PS hh hb
    (hallE j hjj) hcell rfl hjj P.low ?_ (by rw [hpc]; simp [pend]) ?_ ?_ ?_ ?_ rfl
    (by rw [hpc]; exact ⟨rfl, rfl, rfl, rfl, rfl, fun _ h => h⟩) (by rw [hpc]; rfl) (by rw [hpc]; rfl) ?_
  · intro k hk hs
    have hbk : bitAt s.cur k = false := by simpa [sideSel] using hs
    show k % 2 ^ (s.cur + 1) = j
    rw [mod_succ_low hbk, hk]
  · rw [hpc]
    show [cellAt s' (s.cur + 1, j), hi] = [lo, hi]
    rw [hlo']
  · intro b id' _ _ h1 h2
    obtain ⟨g', j'⟩ := id'
    simp only at h1 h2
    subst h1
    rw [hallE j' h2]
    intro h; cases h
  · exact reusing_of_set_pc (s' := s') rfl hl
      ⟨fun _ _ _ h => (by rw [hpc] at h; cases h), fun _ _ h => (by rw [hpc] at h; cases h)⟩
  · intro b _ h0
    have e := unl_of_tree I.lock hl X.cid (by rw [hpc]; rfl) (by rw [hpc]; rfl) h0
    exact ⟨t, _, X.self S, Or.inl ⟨hi, by rw [e]⟩⟩
  · show Plan s' j (cellAt s' (s.cur + 1, j)) hi
    rw [hlo']
    exact Plan.congr (s := s) (s' := s') hh hb S.cur hc0 P

theorem xstoreHigh_facts {unl : Nat ⊕ Nat} {hi : Cell} (I : Inv s)
    (hl : s.threads[t]? = some l) (hc : l.call = none) (hpc : l.pc = .xStoreHigh j unl hi)
    (PS : PlanSep s) :
    let s' : State := putCell (setT (tick s) t { l with pc := .xStoreMoved j unl }) (s.cur + 1) (j + 2 ^ s.cur) hi
    XShape s' → (Eff s s' ∧ ∀ k, absOf s' k = absOf s k) := by
  intro s' XS'
  have hi0 : xIdx l.pc = some j := by rw [hpc]; rfl
  have hval : validated l.pc = true := by rw [hpc]; exact validated_unl unl
  have X : XCtx s t l j := xctx_of I hl hc hi0 (I.rsz.pre t l j hl (by rw [hpc]; rfl) hi0) (Or.inl hval)
  obtain ⟨S, hh, hb⟩ := putStep_shape s t { l with pc := .xStoreMoved j unl } (s.cur + 1) (j + 2 ^ s.cur) hi hc rfl
  have P : Plan s j (cellAt s (s.cur + 1, j)) hi := by
    have := I.rsz.plan t l hl
    rw [hpc] at this; exact this
  have hpos : 0 < 2 ^ s.cur := Nat.two_pow_pos s.cur
  have hjh : (j + 2 ^ s.cur) % 2 ^ s.cur = j := high_mod X.jlt
  -- a non-empty child is the low child
  have hchild : ∀ j', j' % 2 ^ s.cur = j → cellAt s (s.cur + 1, j') ≠ .empty → j' = j := by
    intro j' hp hne
    rcases X.child_stored hne hp with h | ⟨j1, h, -⟩
    · rw [hpc] at h
      exact (Option.some.inj h).symm
    · rw [hpc] at h; cases h
  have hemp : cellAt s (s.cur + 1, j + 2 ^ s.cur) = .empty := by
    apply Classical.byContradiction
    intro hne
    have := hchild _ hjh hne
    omega
  have hcell : ∀ id', cellAt s' id' = if id' = (s.cur + 1, j + 2 ^ s.cur) then hi else cellAt s id' :=
    fun id' => cellAt_put_step I.rsz X.resz (Nat.le_refl _) (by rw [Nat.pow_succ]; have := X.jlt; omega) hi id'
  have hhi' : cellAt s' (s.cur + 1, j + 2 ^ s.cur) = hi := by rw [hcell, if_pos rfl]
  have hlo' : cellAt s' (s.cur + 1, j) = cellAt s (s.cur + 1, j) := by
    rw [hcell, if_neg]
    intro e
    have : j = j + 2 ^ s.cur := congrArg Prod.snd e
    omega
  have hc0 : cellAt s' (s.cur, j) = cellAt s (s.cur, j) := by
    rw [hcell, if_neg]
    intro e
    have : s.cur = s.cur + 1 := congrArg Prod.fst e
    omega
  refine xstoreNew_facts (id := (s.cur + 1, j + 2 ^ s.cur)) (C := hi) (sel := sideSel s.cur true) X S XS' PS hh hb
    hemp hcell rfl hjh P.high ?_ (by rw [hpc]; simp [pend]) ?_ ?_ ?_ ?_ rfl
    (by rw [hpc]; exact ⟨rfl, rfl, rfl, rfl, rfl, fun _ h => h⟩) (by rw [hpc]; rfl) (by rw [hpc]; rfl) ?_
  · intro k hk hs
    have hbk : bitAt s.cur k = true := by simpa [sideSel] using hs
    show k % 2 ^ (s.cur + 1) = j + 2 ^ s.cur
    rw [mod_succ_high hbk, hk]
  · rw [hpc]
    show [cellAt s' (s.cur + 1, j), cellAt s' (s.cur + 1, j + 2 ^ s.cur)] = [cellAt s (s.cur + 1, j), hi]
    rw [hlo', hhi']
  · intro b id' hCb hne h1 h2 hcb
    obtain ⟨g', j'⟩ := id'
    simp only at h1 h2
    subst h1
    have := hchild j' h2 (by rw [hcb]; intro h; cases h)
    subst this
    exact P.distinct b hcb hCb
  · refine reusing_of_set (s' := s') rfl hl ?_
    rintro b j0 (⟨hi', h⟩ | h)
    · rw [hpc] at h
      injection h with e1 e2 e3
      right
      show (.xStoreMoved j unl : Pc) = .xStoreMoved j0 (.inr b)
      rw [e1, e2]
    · rw [hpc] at h; cases h
  · intro b _ h0
    have e := unl_of_tree I.lock hl X.cid (by rw [hpc]; rfl) (by rw [hpc]; rfl) h0
    exact ⟨t, _, X.self S, Or.inr (by rw [e])⟩
  · show Plan s' j (cellAt s' (s.cur + 1, j)) (cellAt s' (s.cur + 1, j + 2 ^ s.cur))
    rw [hlo', hhi']
    exact Plan.congr (s := s) (s' := s') hh hb S.cur hc0 P

/-! ## the forwarding -/

/-- a structure that holds the selected part of the old chain shows the same abstract state for a
selected key -/
theorem CopyOK.abs_eq {old C : Cell} {sel : Nat → Bool} (h : CopyOK s old sel C)
    (hd : ∀ i j, i ∈ chainC s old → j ∈ chainC s old → (nodeAt s.heap i).key = (nodeAt s.heap j).key → i = j)
    {k : Nat} (hk : sel k = true) : absL s.heap (chainC s C) k = absL s.heap (chainC s old) k := by
  cases ha : absL s.heap (chainC s old) k with
  | none =>
    rw [absL_eq_none_iff] at ha ⊢
    intro j hj
    by_cases hjo : j ∈ chainC s old
    · exact ha j hjo
    · obtain ⟨i, hi, hik, -, -⟩ := h.src j hj hjo
      rw [← hik]; exact ha i hi
  | some v =>
    rw [absL_eq_some_iff hd] at ha
    obtain ⟨i, hi, hik, hiv⟩ := ha
    obtain ⟨j, hj, hjk, hjv, -⟩ := h.cover i hi (by rw [hik]; exact hk)
    have hdC : ∀ a b, a ∈ chainC s C → b ∈ chainC s C → (nodeAt s.heap a).key = (nodeAt s.heap b).key → a = b :=
      fun a b ha hb => h.cinv.distinct a b ha hb
    rw [absL_eq_some_iff hdC]
    exact ⟨j, hj, by rw [hjk, hik], by rw [hjv, hiv]⟩

/-- the planned children of `(cur, j)`, seen from a key `k` of the cell: its own child and the other one -/
theorem Plan.sides (P : Plan s j (cellAt s (s.cur + 1, j)) (cellAt s (s.cur + 1, j + 2 ^ s.cur)))
    {k : Nat} (hk : k % 2 ^ s.cur = j) :
    ∃ oid : Cid, CopyOK s (cellAt s (s.cur, j)) (sideSel s.cur (bitAt s.cur k)) (cellAt s (idOf (s.cur + 1) k)) ∧
      CopyOK s (cellAt s (s.cur, j)) (sideSel s.cur (!bitAt s.cur k)) (cellAt s oid) ∧
      oid.1 = s.cur + 1 ∧ k % 2 ^ (s.cur + 1) ≠ oid.2 ∧
      ∀ id : Cid, id = (s.cur + 1, j) ∨ id = (s.cur + 1, j + 2 ^ s.cur) → id = idOf (s.cur + 1) k ∨ id = oid := by
  have hpos : 0 < 2 ^ s.cur := Nat.two_pow_pos s.cur
  have e := idOf_succ_of_parent hk
  have e2 : k % 2 ^ (s.cur + 1) = (idOf (s.cur + 1) k).2 := rfl
  cases hb : bitAt s.cur k with
  | false =>
    rw [hb] at e
    simp only [Bool.false_eq_true, if_false] at e
    refine ⟨(s.cur + 1, j + 2 ^ s.cur), by rw [e]; exact P.low, P.high, rfl, ?_, ?_⟩
    · rw [e2, e]; show j ≠ j + 2 ^ s.cur; omega
    · intro id hid
      rw [e]
      exact hid
  | true =>
    rw [hb] at e
    simp only [if_true] at e
    refine ⟨(s.cur + 1, j), by rw [e]; exact P.high, P.low, rfl, ?_, ?_⟩
    · rw [e2, e]; show j + 2 ^ s.cur ≠ j; omega
    · intro id hid
      rw [e]
      exact hid.symm

private theorem sideSel_self (g k : Nat) : sideSel g (bitAt g k) k = true := by simp [sideSel]

private theorem sideSel_other {g k k' : Nat} (h : sideSel g (!bitAt g k) k' = true) : k' ≠ k := by
  rintro rfl
  unfold sideSel at h
  cases hb : bitAt g k' <;> simp [hb] at h

theorem copyOK_empty_empty {s : State} (hok : NextOK s.heap) (sel : Nat → Bool) : CopyOK s .empty sel .empty := by
  have hno : ∀ a, ¬ (a ∈ chainC s .empty ∨ treeOf s .empty a) := by
    intro a ha
    rcases ha with h | h
    · rw [Store.chainC_empty] at h; cases h
    · exact treeOf_empty s a h
  refine ⟨(by intro h; cases h), ⟨hok, (fun h hh => by cases hh), fun a b ha => absurd ha (hno a)⟩,
    (fun b hb => by cases hb), ?_, ?_, ?_, ?_, ?_, ?_, (fun b hb => by cases hb)⟩
  · intro j hj; exact absurd (Or.inl hj) (hno j)
  · intro j hj; exact absurd hj (hno j)
  · intro j hj; exact absurd (Or.inl hj) (hno j)
  · intro i hi; exact absurd (Or.inl hi) (hno i)
  · intro r hr; exact absurd (Or.inl hr) (hno r)
  · intro i c hi; exact absurd (Or.inl hi) (hno i)

/-- the forwarding, seen from a key `k` of the forwarded cell: the live chain switches from the old chain to the
chain of the child `kid` of `k`; the other child is `oid` -/
theorem kstep_forward (H : HInv s) {j k : Nat} {kid oid : Cid}
    (hh : s'.heap = s.heap) (hb : s'.tbins = s.tbins)
    (Q : CopyOK s (cellAt s (s.cur, j)) (sideSel s.cur (bitAt s.cur k)) (cellAt s kid))
    (Q' : CopyOK s (cellAt s (s.cur, j)) (sideSel s.cur (!bitAt s.cur k)) (cellAt s oid))
    (hLC : LC s k = chainC s (cellAt s (s.cur, j))) (hLC' : LC s' k = chainC s (cellAt s kid))
    (hoidk : k % 2 ^ oid.1 ≠ oid.2) (hcello : cellAt s' oid = cellAt s oid)
    (hused : ∀ c, c ∈ chainC s (cellAt s (s.cur, j)) → Used s' c →
      c ∈ chainC s (cellAt s kid) ∨ c ∈ chainC s (cellAt s oid))
    (hstable : ∀ c, Used s' c → Used s c)
    (hfor : ∀ c, Foreign s k c → Foreign s' k c) : KStep s s' k := by
  have hOnd : (chainC s (cellAt s (s.cur, j))).Nodup := (H.cinv (s.cur, j)).nodup
  refine ⟨by rw [hh]; exact Nat.le_refl _, fun x _ => by rw [hh], fun x _ _ => by rw [hh]; exact ⟨rfl, rfl⟩,
    fun x _ hu => hstable x hu, ?_, ?_, ?_, fun c hc => Or.inl (hfor c hc)⟩
  · -- `KStep.leave`
    intro c hc hc'
    rw [hLC] at hc
    rw [hLC'] at hc'
    refine ⟨by rw [hh], by rw [hh], ?_⟩
    by_cases hY : c ∈ chainC s (cellAt s oid)
    · right
      refine ⟨⟨oid, by rw [chainC_congr hh hb, hcello]; exact hY, hoidk⟩, ?_⟩
      intro x hx hxc
      rw [hLC] at hx hxc
      have hxY : x ∈ chainC s (cellAt s oid) := by
        by_cases hxc' : x = c
        · rw [hxc']; exact hY
        · rcases pair_total hOnd hx hc hxc' with h | h
          · exact absurd h hxc
          · exact Q'.suffix c hc hY x hx h
      exact sideSel_other (Q'.selOK x (Or.inl hxY))
    · left
      intro hu
      rcases hused c hc hu with h | h
      · exact hc' h
      · exact hY h
  · -- `KStep.before`
    intro c hc hc' i hsub
    rw [hLC] at hc ⊢
    rw [hLC'] at hc' hsub
    rw [hh]
    have hi' : i ∈ chainC s (cellAt s kid) := hsub.subset (by simp)
    left
    by_cases hi : i ∈ chainC s (cellAt s (s.cur, j))
    · exact ⟨i, Q.order i c hi hc hsub, rfl⟩
    · obtain ⟨i0, _, hk0, -, hbef⟩ := Q.src i hi' hi
      exact ⟨i0, hbef c hc hc', hk0⟩
  · -- `KStep.valchg`
    intro x _ hne
    rw [hh] at hne; exact absurd rfl hne

/-- the old cell `(cur, j)` is forwarded: `(cur, j) := moved`, everything else but the program counter is unchanged. The live
cell of a key of `(cur, j)` becomes a child, the live cell of every other key stays; a `TreeBin` of the old cell that leaves
the live cells is the transferred one of `Eff.live`. What the step does to the keys of the cell (`hin`: their `KStep` and
abstract state, given that a node of the old list still in use is on the list of a child) is shown by the callers. -/
theorem xforward_facts (X : XCtx s t l j) (S : TStep s s' t l') (XS' : XShape s') (hh : s'.heap = s.heap) (hb : s'.tbins = s.tbins)
    (hcell : ∀ id', cellAt s' id' = if id' = (s.cur, j) then .moved else cellAt s id')
    (hmx : ∀ b, cellAt s (s.cur, j) = .tree b → holdsMutex l.pc = some b ∧ wr l.pc = false)
    (hpend : pend s' l'.pc = [])
    (K : Keeps l.pc l'.pc)
    (evL : validL l'.pc = none) (evT : validT l'.pc = none)
    (hplan : XPc s' l'.pc)
    (hin : Inv s' → (∀ c, Used s' c → Used s c) →
      (∀ c, c ∈ chainC s (cellAt s (s.cur, j)) → Used s' c →
        c ∈ chainC s (cellAt s (s.cur + 1, j)) ∨ c ∈ chainC s (cellAt s (s.cur + 1, j + 2 ^ s.cur))) →
      ∀ k, k % 2 ^ s.cur = j → KStep s s' k ∧ absOf s' k = absOf s k) :
    Eff s s' ∧ ∀ k, absOf s' k = absOf s k := by
  have I := X.inv
  have H := I.heap
  have XI := I.rsz
  have hcur := S.cur
  have hcn : ∀ id, id ≠ (s.cur, j) → cellAt s' id = cellAt s id := by
    intro id hid
    rw [hcell, if_neg hid]
  have hm' : cellAt s' (s.cur, j) = .moved := by rw [hcell, if_pos rfl]
  have hch : ∀ c, chainC s' c = chainC s c := chainC_congr hh hb
  have hnotree : ∀ id b, cellAt s' id = .tree b → cellAt s id = .tree b ∧ id ≠ (s.cur, j) := by
    intro id b hcb
    rw [hcell] at hcb
    split at hcb
    · cases hcb
    · rename_i hne
      exact ⟨hcb, hne⟩
  have H' : HInv s' := by
    refine hinv_of_cells hh hb H ?_ ?_
    · intro id
      rw [hcell]
      split
      · exact valid_moved H.nextOK _
      · exact H.valid id
    · intro id1 id2 b h1 h2
      obtain ⟨h1, n1⟩ := hnotree id1 b h1
      obtain ⟨h2, n2⟩ := hnotree id2 b h2
      rcases H.binsDistinct id1 id2 b h1 h2 with e | ⟨j0, ⟨t1, l1, hl1, hr⟩, hcs⟩
      · exact Or.inl e
      · exfalso
        have hi1 : xIdx l1.pc = some j0 := by
          rcases hr with ⟨hi, h⟩ | h <;> rw [h] <;> rfl
        have e := XI.uniqX t1 t l1 l hl1 X.hl (xPc_of_xIdx hi1) X.xpc
        rw [e, X.hl] at hl1
        cases hl1
        rw [X.idx] at hi1
        have ej : j = j0 := Option.some.inj hi1
        rw [← ej] at hcs
        rcases hcs with ⟨e1, -, -⟩ | ⟨e1, -, -⟩
        · exact n1 e1
        · exact n2 e1
  have hprivB : ∀ b, PrivBin s' b → PrivBin s b := by
    intro b hp
    refine X.privBin_back S ?_ hp
    intro hmem _
    rw [hpend] at hmem; cases hmem
  have hcid' : ∀ x, validL l'.pc = some x → False := fun x h => by rw [evL] at h; cases h
  have hI' : Inv s' := by
    refine ⟨H', X.tinv S, X.xinv S XS' hplan, ?_, ?_⟩
    · refine X.linv S hh hb K (fun h hvl => by rw [evL] at hvl; cases hvl)
        (fun b hvt => by rw [evT] at hvt; cases hvt) ?_ (fun id b hcb => Or.inl ⟨id, (hnotree id b hcb).1⟩)
        (fun b _ => hprivB b)
      intro id
      by_cases hid : id = (s.cur, j)
      · rcases X.valid with hv | hv
        · exact Or.inr (Or.inl ⟨hv, hid⟩)
        · exact Or.inr (Or.inr (by rw [hid]; exact hv))
      · exact Or.inl (hcn id hid)
    · refine X.dinv S hh hb ?_ (fun id b hcb => Or.inl ⟨id, (hnotree id b hcb).1⟩)
      intro t1 l1 tab k h b _ h1 hpc id hcb
      have K := I.data.kInv t1 l1 h1
      rw [hpc] at K
      exact K.2 id (hnotree id b hcb).1
  have XI' := hI'.rsz
  have hused2 : ∀ c, Used s' c → (∃ id2, id2 ≠ (s.cur, j) ∧ c ∈ chainC s (cellAt s id2)) ∨ PrivK s c := by
    rintro c (⟨id, hc⟩ | hu | hu)
    · rw [hch] at hc
      by_cases hid : id = (s.cur, j)
      · rw [hid, hm', Store.chainC_moved] at hc; cases hc
      · rw [hcn id hid] at hc
        exact Or.inl ⟨id, hid, hc⟩
    · exact Or.inr (Store.privK_back X.hl S.thr
        (fun tab k h b hpc => by have := S.xpc; rw [hpc] at this; cases this) (by rw [hh]) hu)
    · obtain ⟨t1, l1, C1, h1, hx1, hC1, -, -⟩ := hu
      exfalso
      rcases X.cases' S h1 with ⟨_, e⟩ | ⟨hne1, h1⟩
      · rw [e, hpend] at hC1; cases hC1
      · rw [X.other_x hne1 h1] at hx1; cases hx1
  have hstable : ∀ c, Used s' c → Used s c := by
    intro c hu
    rcases hused2 c hu with ⟨id2, -, hc⟩ | hk
    · exact Or.inl ⟨id2, hc⟩
    · exact Or.inr (Or.inl hk)
  -- a node of the old chain is not private to a treeify
  have hnoK : ∀ c, c ∈ chainC s (cellAt s (s.cur, j)) → ¬ PrivK s c := by
    rintro c hc ⟨t1, l1, tab, k, h, b, h1, hpc, ho⟩
    have h2 := H.chainOwner (s.cur, j) c hc
    rw [ho] at h2
    have K := I.data.kInv t1 l1 h1
    rw [hpc] at K
    exact K.2 (s.cur, j) (Store.ownerOf_eq_some.1 h2.symm)
  -- another cell that holds a node of the old chain is a child
  have hchild : ∀ c (id2 : Cid), c ∈ chainC s (cellAt s (s.cur, j)) → id2 ≠ (s.cur, j) → c ∈ chainC s (cellAt s id2) →
      id2.1 = s.cur + 1 ∧ (id2 = (s.cur + 1, j) ∨ id2 = (s.cur + 1, j + 2 ^ s.cur)) := by
    intro c id2 hc hne hc2
    obtain ⟨g2, j2⟩ := id2
    have k1 : (nodeAt s.heap c).key % 2 ^ s.cur = j := H.side (s.cur, j) c (Or.inl hc)
    have k2 : (nodeAt s.heap c).key % 2 ^ g2 = j2 := H.side (g2, j2) c (Or.inl hc2)
    rcases XI.gen_cases (g2, j2) with he | hm | hg | hg
    · rw [he, Store.chainC_empty] at hc2; cases hc2
    · rw [hm, Store.chainC_moved] at hc2; cases hc2
    · cases hg
      exact absurd (by rw [← k1, ← k2]) hne
    · cases hg
      refine ⟨rfl, ?_⟩
      have := mod_succ_eq (nodeAt s.heap c).key s.cur
      rw [k2, k1] at this
      split at this
      · right; rw [this]
      · left; rw [this]; rfl
  have hused3 : ∀ c, c ∈ chainC s (cellAt s (s.cur, j)) → Used s' c →
      c ∈ chainC s (cellAt s (s.cur + 1, j)) ∨ c ∈ chainC s (cellAt s (s.cur + 1, j + 2 ^ s.cur)) := by
    intro c hc hu
    rcases hused2 c hu with ⟨id2, hne, hc2⟩ | hk
    · rcases (hchild c id2 hc hne hc2).2 with e | e
      · left; rw [← e]; exact hc2
      · right; rw [← e]; exact hc2
    · exact absurd hk (hnoK c hc)
  have hinr := hin hI' hstable hused3
  have hother : ∀ k, k % 2 ^ s.cur ≠ j → liveId s' k = liveId s k ∧ cellAt s' (liveId s k) = cellAt s (liveId s k) := by
    intro k hk
    have hne : idOf s.cur k ≠ (s.cur, j) := by
      intro e
      exact hk (congrArg Prod.snd e)
    constructor
    · unfold liveId
      rw [hcur, hcn _ hne]
    · apply hcn
      unfold liveId
      split
      · intro e
        have : s.cur + 1 = s.cur := congrArg Prod.fst e
        omega
      · exact hne
  have hLCo : ∀ k, k % 2 ^ s.cur ≠ j → LC s' k = LC s k := by
    intro k hk
    rw [Store.LC_eq_live XI'.newNotMoved, Store.LC_eq_live XI.newNotMoved, (hother k hk).1, (hother k hk).2]
    exact hch _
  have habs : ∀ k, absOf s' k = absOf s k := by
    intro k
    by_cases hk : k % 2 ^ s.cur = j
    · exact (hinr k hk).2
    · exact absOf_of_LC hh (hLCo k hk)
  refine ⟨eff_of_cells hh hb hI' ?_ ?_ (fun id b hcb => Or.inl ⟨id, (hnotree id b hcb).1⟩), habs⟩
  · intro k
    by_cases hk : k % 2 ^ s.cur = j
    · exact (hinr k hk).1
    · refine KStep.of_same' (by rw [hh]; exact Nat.le_refl _) (fun x _ => by rw [hh]; exact ⟨rfl, rfl, rfl⟩) (hLCo k hk)
        (fun x _ hu => hstable x hu) ?_
      rintro c ⟨id1, hc1, hno⟩
      by_cases hid : id1 = (s.cur, j)
      · by_cases hu : Used s' c
        · left
          rw [hid] at hc1
          rcases hused2 c hu with ⟨id2, hne2, hc2⟩ | hpk
          · obtain ⟨hg2, -⟩ := hchild c id2 hc1 hne2 hc2
            refine ⟨id2, by rw [hch, hcn id2 hne2]; exact hc2, ?_⟩
            intro e
            apply hk
            have k1 : (nodeAt s.heap c).key % 2 ^ s.cur = j := H.side (s.cur, j) c (Or.inl hc1)
            have k2 := H.side id2 c (Or.inl hc2)
            rw [hg2] at e k2
            have e1 : k % 2 ^ s.cur = (k % 2 ^ (s.cur + 1)) % 2 ^ s.cur := (mod_succ_mod k s.cur).symm
            rw [e1, e, ← k2, mod_succ_mod]
            exact k1
          · exact absurd hpk (hnoK c hc1)
        · exact Or.inr ⟨hu, by rw [hh]⟩
      · left
        exact ⟨id1, by rw [hch, hcn id1 hid]; exact hc1, hno⟩
  · intro b k hc
    by_cases hk : k % 2 ^ s.cur = j
    · right; right
      have hlk : liveId s k = (s.cur, j) := by
        unfold liveId
        have e : idOf s.cur k = (s.cur, j) := by unfold idOf; rw [hk]
        rw [e, if_neg X.notMoved]
      have hc' : cellAt s (s.cur, j) = .tree b := by rw [← hlk]; exact hc
      obtain ⟨hm, hw⟩ := hmx b hc'
      have hmt := (I.lock.mx t l b X.hl).1 hm
      have hwf : (binAt s.tbins b).writer = false := by
        rw [(I.lock.bitsSome (s.cur, j) b t l hc' X.hl hmt).1, hw]
      rw [absTree_congr hh, habs k]
      exact I.absTree_eq_abs hc hwf
    · left
      rw [(hother k hk).1, (hother k hk).2]; exact hc

theorem xcasMoved_facts (I : Inv s)
    (hl : s.threads[t]? = some l) (hc : l.call = none) (hpc : l.pc = .xCasMoved j) (h0 : cellAt s (s.cur, j) = .empty) :
    let s' : State := putCell (setT (tick s) t { l with pc := .xNext }) s.cur j .moved
    XShape s' → (Eff s s' ∧ ∀ k, absOf s' k = absOf s k) := by
  intro s' XS'
  have hi0 : xIdx l.pc = some j := by rw [hpc]; rfl
  have hnm : cellAt s (s.cur, j) ≠ .moved := by rw [h0]; simp
  have X : XCtx s t l j := xctx_of I hl hc hi0 hnm (Or.inr h0)
  obtain ⟨S, hh, hb⟩ := putStep_shape s t { l with pc := .xNext } s.cur j .moved hc rfl
  have hcell : ∀ id', cellAt s' id' = if id' = (s.cur, j) then .moved else cellAt s id' :=
    fun id' => cellAt_put_step I.rsz X.resz (Nat.le_succ _) X.jlt .moved id'
  have hallE : ∀ j', j' % 2 ^ s.cur = j → cellAt s (s.cur + 1, j') = .empty :=
    fun j' hp => X.childEmpty (by rw [hpc]; rfl) (by rw [hpc]; rfl) hp
  refine xforward_facts X S XS' hh hb hcell ?_ rfl (by rw [hpc]; exact ⟨rfl, rfl, rfl, rfl, rfl, fun _ h => h⟩) rfl rfl trivial ?_
  · intro b hcb
    rw [h0] at hcb; cases hcb
  · intro I' hstable _ k hk
    have hlk : liveId s k = (s.cur, j) := by
      unfold liveId
      have e : idOf s.cur k = (s.cur, j) := by unfold idOf; rw [hk]
      rw [e, if_neg hnm]
    have hLC : LC s k = [] := by rw [Store.LC_eq_live I.rsz.newNotMoved, hlk, h0, Store.chainC_empty]
    have hlk' : liveId s' k = idOf (s.cur + 1) k := by
      refine liveId_moved (s := s') ?_
      show cellAt s' (idOf s.cur k) = .moved
      have e : idOf s.cur k = (s.cur, j) := by unfold idOf; rw [hk]
      rw [e, hcell, if_pos rfl]
    have hLC' : LC s' k = [] := by
      rw [Store.LC_eq_live I'.rsz.newNotMoved, hlk', hcell, if_neg]
      · have : cellAt s (idOf (s.cur + 1) k) = .empty := hallE _ (by rw [mod_succ_mod]; exact hk)
        rw [this]; exact Store.chainC_empty s'
      · intro e
        have : s.cur + 1 = s.cur := congrArg Prod.fst e
        omega
    have hLCe : LC s' k = LC s k := by rw [hLC, hLC']
    refine ⟨KStep.of_same (by rw [hh]; exact Nat.le_refl _) (fun x _ => by rw [hh]; exact ⟨rfl, rfl, rfl⟩) hLCe
      (fun x _ hu => hstable x hu) ?_, absOf_of_LC (s := s) (s' := s') hh hLCe⟩
    rintro c ⟨id1, hc1, hno⟩
    have hid : id1 ≠ (s.cur, j) := by
      intro e
      rw [e, h0, Store.chainC_empty] at hc1; cases hc1
    refine ⟨id1, ?_, hno⟩
    rw [chainC_congr (s := s) (s' := s') hh hb, hcell, if_neg hid]; exact hc1

theorem xstoreMoved_facts {unl : Nat ⊕ Nat} (I : Inv s)
    (hl : s.threads[t]? = some l) (hc : l.call = none) (hpc : l.pc = .xStoreMoved j unl) :
    let s' : State := putCell (setT (tick s) t { l with pc := .xUnlock unl }) s.cur j .moved
    XShape s' → (Eff s s' ∧ ∀ k, absOf s' k = absOf s k) := by
  intro s' XS'
  have H := I.heap
  have hi0 : xIdx l.pc = some j := by rw [hpc]; rfl
  have hval : validated l.pc = true := by rw [hpc]; exact validated_unl unl
  have hnm := I.rsz.pre t l j hl (by rw [hpc]; rfl) hi0
  have X : XCtx s t l j := xctx_of I hl hc hi0 hnm (Or.inl hval)
  obtain ⟨S, hh, hb⟩ := putStep_shape s t { l with pc := .xUnlock unl } s.cur j .moved hc rfl
  have P : Plan s j (cellAt s (s.cur + 1, j)) (cellAt s (s.cur + 1, j + 2 ^ s.cur)) := by
    have := I.rsz.plan t l hl
    rw [hpc] at this; exact this
  have hcell : ∀ id', cellAt s' id' = if id' = (s.cur, j) then .moved else cellAt s id' :=
    fun id' => cellAt_put_step I.rsz X.resz (Nat.le_succ _) X.jlt .moved id'
  have hcn : ∀ id : Cid, id.1 = s.cur + 1 → cellAt s' id = cellAt s id := by
    intro id hid
    rw [hcell, if_neg]
    intro e
    rw [e] at hid
    have : s.cur = s.cur + 1 := hid
    omega
  refine xforward_facts X S XS' hh hb hcell ?_ rfl (by rw [hpc]; exact ⟨rfl, rfl, rfl, rfl, rfl, fun _ h => h⟩) rfl rfl trivial ?_
  · intro b hcb
    have e := unl_of_tree I.lock hl X.cid (by rw [hpc]; rfl) (by rw [hpc]; rfl) hcb
    rw [hpc, e]; exact ⟨rfl, rfl⟩
  · intro I' hstable hused3 k hk
    obtain ⟨oid, Q, Q', ho1, hok, hcls⟩ := P.sides hk
    have hlk : liveId s k = (s.cur, j) := by
      unfold liveId
      have e : idOf s.cur k = (s.cur, j) := by unfold idOf; rw [hk]
      rw [e, if_neg hnm]
    have hLC : LC s k = chainC s (cellAt s (s.cur, j)) := by rw [Store.LC_eq_live I.rsz.newNotMoved, hlk]
    have hlk' : liveId s' k = idOf (s.cur + 1) k := by
      refine liveId_moved (s := s') ?_
      show cellAt s' (idOf s.cur k) = .moved
      have e : idOf s.cur k = (s.cur, j) := by unfold idOf; rw [hk]
      rw [e, hcell, if_pos rfl]
    have hLC' : LC s' k = chainC s (cellAt s (idOf (s.cur + 1) k)) := by
      rw [Store.LC_eq_live I'.rsz.newNotMoved, hlk', hcn _ rfl]
      exact chainC_congr (s := s) (s' := s') hh hb _
    have hOd : ∀ a b, a ∈ chainC s (cellAt s (s.cur, j)) → b ∈ chainC s (cellAt s (s.cur, j)) →
        (nodeAt s.heap a).key = (nodeAt s.heap b).key → a = b := (H.cinv (s.cur, j)).distinct
    constructor
    · refine kstep_forward H (kid := idOf (s.cur + 1) k) (oid := oid) hh hb Q Q' hLC hLC' (by rw [ho1]; exact hok)
        (hcn oid ho1) ?_ hstable ?_
      · intro c hc hu
        rcases hused3 c hc hu with h | h
        · rcases hcls _ (Or.inl rfl) with e | e
          · left; rw [← e]; exact h
          · right; rw [← e]; exact h
        · rcases hcls _ (Or.inr rfl) with e | e
          · left; rw [← e]; exact h
          · right; rw [← e]; exact h
      · rintro c ⟨id1, hc1, hno⟩
        have hid : id1 ≠ (s.cur, j) := by
          intro e
          rw [e] at hno
          exact hno hk
        refine ⟨id1, ?_, hno⟩
        rw [chainC_congr (s := s) (s' := s') hh hb, hcell, if_neg hid]; exact hc1
    · rw [BinGNP.absOf_eq, BinGNP.absOf_eq, hLC', hLC]
      exact Q.abs_eq hOd (sideSel_self s.cur k)

/-! ## the build steps: heap and `TreeBin` table are extended -/

theorem Ext.sync (E : Ext s s') :
    (∀ h, (nodeAt s'.heap h).lock = (nodeAt s.heap h).lock) ∧
    (∀ b, (binAt s'.tbins b).mutex = (binAt s.tbins b).mutex ∧ (binAt s'.tbins b).writer = (binAt s.tbins b).writer ∧
      (binAt s'.tbins b).waiter = (binAt s.tbins b).waiter ∧ (binAt s'.tbins b).readers = (binAt s.tbins b).readers) := by
  constructor
  · intro h
    by_cases hh : h < s.heap.length
    · rw [E.old hh]
    · obtain ⟨ext, he, hattr⟩ := E.heap
      rw [Flurry.Proto.BinK.nodeAt_ge (Nat.le_of_not_lt hh), he]
      rcases nodeAt_append_ge s.heap ext (Nat.le_of_not_lt hh) with h1 | h1
      · rw [h1]
      · rw [hattr _ h1]; rfl
  · intro b
    by_cases hb : b < s.tbins.length
    · rw [E.bold hb]; exact ⟨rfl, rfl, rfl, rfl⟩
    · obtain ⟨extb, he, hattr⟩ := E.tbins
      rw [Flurry.Proto.BinK.binAt_ge (Nat.le_of_not_lt hb), he]
      rcases binAt_append_ge s.tbins extb (Nat.le_of_not_lt hb) with h1 | h1
      · rw [h1]; exact ⟨rfl, rfl, rfl, rfl⟩
      · rw [hattr _ h1]; exact ⟨rfl, rfl, rfl, rfl⟩

theorem absL_old (E : Ext s s') {L : List Nat} (hL : ∀ j ∈ L, j < s.heap.length) (k : Nat) :
    absL s'.heap L k = absL s.heap L k := by
  refine Flurry.Proto.BinK.absL_pointwise rfl ?_ k
  intro j hj
  have : L.getD j 0 = L[j] := by simp [List.getD_eq_getElem?_getD, hj]
  rw [this, E.old (hL _ (List.getElem_mem hj))]
  exact ⟨rfl, rfl⟩

/-- a step that extends heap and `TreeBin` table and changes no cell: the frame part of `Eff`, and every abstract state -/
theorem Ext.eff (E : Ext s s') (I : Inv s) (hI' : Inv s') (ks : ∀ k, KStep s s' k) :
    Eff s s' ∧ ∀ k, absOf s' k = absOf s k := by
  have H := I.heap
  have hO : ∀ id, chainC s' (cellAt s' id) = chainC s (cellAt s id) := by
    intro id
    rw [E.cellAt_eq]
    exact E.chainC_eq H.nextOK (H.cinv id).startOK (H.cellOK id)
  have hlive : ∀ k, liveId s' k = liveId s k := fun _ => liveId_congr E.cur (by rw [E.cellAt_eq])
  have hLC : ∀ k, LC s' k = LC s k := by
    intro k
    rw [Store.LC_eq_live hI'.rsz.newNotMoved, Store.LC_eq_live I.rsz.newNotMoved, hlive, hO]
  refine ⟨⟨hI', ks, ?_, ?_, ?_, ?_⟩, ?_⟩
  · intro b hb hne
    rw [E.bold hb] at hne; exact absurd rfl hne
  · intro b k hb hne
    refine absurd (absTree_frame E.hlen (fun _ hj _ => E.old hj) (fun j hj ho => ?_) k) hne
    have := (E.newOwner j b hj ho).1
    omega
  · intro b k hc
    left
    rw [hlive, E.cellAt_eq]
    exact hc
  · intro b hb hnc _
    refine ⟨?_, fun h => by rw [E.bold hb]; exact h⟩
    rintro ⟨id, hcb⟩
    rw [E.cellAt_eq] at hcb
    exact hnc ⟨id, hcb⟩
  · intro k
    rw [BinGNP.absOf_eq, BinGNP.absOf_eq, hLC k]
    exact absL_old E (fun x hx => mem_LC_lt hx) k

/-- the lock invariant after an extension step of thread `t` whose new program counter holds what the old one held -/
theorem Ext.linv (E : Ext s s') (L : LInv s) (hl : s.threads[t]? = some l) (hthr : s'.threads = s.threads.set t l')
    (K : Keeps l.pc l'.pc)
    (hvL : ∀ h, validL l'.pc = some h → cellAt s' (cidOf s' l') = .list h)
    (hvT : ∀ b, validT l'.pc = some b → cellAt s' (cidOf s' l') = .tree b)
    (hpriv : ∀ b, b < s.tbins.length → PrivBin s' b → PrivBin s b) : LInv s' :=
  linv_keep L hl hthr E.cur E.sync.1 E.blen E.sync.2 K.lock K.mutex hvL hvT (fun id => Or.inl (E.cellAt_eq id))
    (fun id b hc => Or.inl ⟨id, by rw [E.cellAt_eq] at hc; exact hc⟩)
    (fun b _ _ => ⟨K.wr, fun h => by rw [K.loop] at h; cases h⟩) K.read K.ref hpriv

/-- **an extension step of a thread without a call** (treeify's build, the two builds of the transfer): heap and
`TreeBin` table are extended, no cell changes. What the step makes pending is new, or is in the cell under transfer
(`hpB` for `TreeBin`s, `hpN` for nodes). -/
theorem Ext.facts (E : Ext s s') (I : Inv s) (hl : s.threads[t]? = some l) (hc : l.call = none) (hc' : l'.call = none)
    (hthr : s'.threads = s.threads.set t l') (hnow : s'.now = s.now + 1) (hhist : s'.hist = s.hist) (XS' : XShape s')
    (K : Keeps l.pc l'.pc) (hw : wr l.pc = false) (hnc : noCallPc l'.pc = true)
    (hvL : ∀ h, validL l'.pc = some h → cellAt s' (cidOf s' l') = .list h)
    (hvT : ∀ b, validT l'.pc = some b → cellAt s' (cidOf s' l') = .tree b)
    (hplan : XPc s' l'.pc) (hkself : KInv s' l'.pc)
    (hk : ∀ tab k h b, l'.pc = .kStore tab k h b → l.pc = .kStore tab k h b ∨ s.tbins.length ≤ b)
    (hpB : ∀ b, (.tree b : Cell) ∈ pend s' l'.pc →
      s.tbins.length ≤ b ∨ ∃ j', xIdx l'.pc = some j' ∧ cellAt s (s.cur, j') = .tree b)
    (hpN : xPc l'.pc = true → ∀ C ∈ pend s' l'.pc, ∀ x ∈ chainC s' C,
      s.heap.length ≤ x ∨ ∃ j', xIdx l'.pc = some j' ∧ x ∈ chainC s (cellAt s (s.cur, j'))) :
    Eff s s' ∧ ∀ k, absOf s' k = absOf s k := by
  have T' : TInv s' := tinv_keep I.thr hl hthr hnow hhist (hc'.trans hc.symm) (by rw [hc', hnc]; simp)
    (fun p hp => by rw [hc] at hp; cases hp)
  have hpriv : ∀ b, b < s.tbins.length → PrivBin s' b → PrivBin s b := by
    rintro b hb ⟨t1, l1, h1, hm, hne⟩
    rw [hthr] at h1
    rcases get_set h1 with ⟨rfl, rfl⟩ | ⟨_, h1⟩
    · exfalso
      rcases hpB b hm with h | ⟨j', hj', h⟩
      · omega
      · exact hne j' hj' (by rw [E.cur, E.cellAt_eq]; exact h)
    · rw [Store.pend_congr E.cur (fun _ _ => ⟨E.cellAt_eq _, E.cellAt_eq _⟩)] at hm
      exact ⟨t1, l1, h1, hm, fun j' hj' e => hne j' hj' (by rw [E.cur, E.cellAt_eq]; exact e)⟩
  have I' : Inv s' := E.inv I hl hthr T' (E.linv I.lock hl hthr K hvL hvT hpriv) XS' hplan hw
    (fun p hp => by rw [hc'] at hp; cases hp) hkself
  refine E.eff I I' (E.kstep I hl hthr hk ?_)
  intro hx C hC x hxC hxl hno
  rcases hpN hx C hC x hxC with h | ⟨j', hj', h⟩
  · omega
  · exact absurd h (hno j' hj')

/-- a build step of the transfer: heap and `TreeBin` table are extended, the two planned structures
become pending -/
theorem xgrow_facts {unl : Nat ⊕ Nat} {lo hi : Cell}
    (X : XCtx s t l j) (S : TStep s s' t l') (XS' : XShape s') (E : Ext s s') (hpc' : l'.pc = .xStoreLow j unl lo hi)
    (P' : Plan s' j lo hi) (N1 : NewOrOld s s' j lo) (N2 : NewOrOld s s' j hi)
    (K : Keeps l.pc l'.pc)
    (evL : validL l'.pc = validL l.pc) (evT : validT l'.pc = validT l.pc) : Eff s s' ∧ ∀ k, absOf s' k = absOf s k := by
  have L := X.inv.lock
  have hxi' : xIdx l'.pc = some j := by rw [hpc']; rfl
  have hcid' : cidOf s' l' = (s.cur, j) := by unfold cidOf; rw [hxi', S.cur]
  have hNN : ∀ C ∈ pend s' l'.pc, NewOrOld s s' j C := by
    intro C hC
    rw [hpc'] at hC
    rcases List.mem_cons.1 hC with rfl | hC
    · exact N1
    · cases List.mem_singleton.1 hC; exact N2
  refine E.facts X.inv X.hl X.call S.call S.thr S.now S.hist XS' K (by rw [← K.wr, hpc']; rfl) (xPc_noCall S.xpc) ?_ ?_
    (by rw [hpc']; exact P') (KInv_of_xPc S.xpc) (fun _ _ _ _ e => by rw [hpc'] at e; cases e) ?_ ?_
  · intro h hv
    rw [evL] at hv
    have := L.vL t l h X.hl hv
    rw [X.cid] at this
    rw [hcid', E.cellAt_eq]; exact this
  · intro b hv
    rw [evT] at hv
    have := L.vT t l b X.hl hv
    rw [X.cid] at this
    rw [hcid', E.cellAt_eq]; exact this
  · intro b hm
    rcases (hNN _ hm).2 b rfl with h | h
    · exact Or.inr ⟨j, hxi', h⟩
    · exact Or.inl h
  · intro _ C hC x hx
    rcases (hNN C hC).1 x hx with h | h
    · exact Or.inr ⟨j, hxi', h⟩
    · exact Or.inl h

theorem xbuild_facts {j h : Nat} (I : Inv s)
    (hl : s.threads[t]? = some l) (hc : l.call = none) (hpc : l.pc = .xBuild j h) :
    let s' := setT (qst s (xsplitOf s h).1 s.tbins) t
      { l with pc := .xStoreLow j (.inl h) (xsplitOf s h).2.1 (xsplitOf s h).2.2 }
    XShape s' → (Eff s s' ∧ ∀ k, absOf s' k = absOf s k) := by
  intro s' XS'
  have hi0 : xIdx l.pc = some j := by rw [hpc]; rfl
  have X : XCtx s t l j := xctx_of I hl hc hi0 (I.rsz.pre t l j hl (by rw [hpc]; rfl) hi0)
    (Or.inl (by rw [hpc]; rfl))
  have S : TStep s s' t { l with pc := .xStoreLow j (.inl h) (xsplitOf s h).2.1 (xsplitOf s h).2.2 } :=
    ⟨rfl, rfl, rfl, rfl, rfl, hc, rfl⟩
  obtain ⟨-, P', -, -, E, N1, N2⟩ := xbuild_plan_ext I hl hpc
  exact xgrow_facts X S XS' E rfl P' N1 N2 (by rw [hpc]; exact ⟨rfl, rfl, rfl, rfl, rfl, fun _ h => h⟩) (by rw [hpc]; rfl) (by rw [hpc]; rfl)

theorem ybuild_facts {j b : Nat} (small small2 : Bool) (I : Inv s)
    (hl : s.threads[t]? = some l) (hc : l.call = none) (hpc : l.pc = .yBuild j b) :
    let r := ysplitOf (tick s) b small small2
    let s' := setT r.1 t { l with pc := .xStoreLow j (.inr b) r.2.1 r.2.2 }
    XShape s' → (Eff s s' ∧ ∀ k, absOf s' k = absOf s k) := by
  intro r s' XS'
  have hi0 : xIdx l.pc = some j := by rw [hpc]; rfl
  have X : XCtx s t l j := xctx_of I hl hc hi0 (I.rsz.pre t l j hl (by rw [hpc]; rfl) hi0)
    (Or.inl (by rw [hpc]; rfl))
  obtain ⟨-, P', -, -, -, -, -, -, -, hfr, E, N1, N2⟩ := ybuild_plan_ext small small2 I hl hpc
  have e1 : s'.threads = (setT (qst s s'.heap s'.tbins) t { l with pc := .xStoreLow j (.inr b) r.2.1 r.2.2 }).threads :=
    congrArg (fun x : State => x.threads) hfr
  have e2 : s'.now = (setT (qst s s'.heap s'.tbins) t { l with pc := .xStoreLow j (.inr b) r.2.1 r.2.2 }).now :=
    congrArg (fun x : State => x.now) hfr
  have e3 : s'.hist = (setT (qst s s'.heap s'.tbins) t { l with pc := .xStoreLow j (.inr b) r.2.1 r.2.2 }).hist :=
    congrArg (fun x : State => x.hist) hfr
  have e4 : s'.resizing = (setT (qst s s'.heap s'.tbins) t { l with pc := .xStoreLow j (.inr b) r.2.1 r.2.2 }).resizing :=
    congrArg (fun x : State => x.resizing) hfr
  have S : TStep s s' t { l with pc := .xStoreLow j (.inr b) r.2.1 r.2.2 } := ⟨e1, e2, e3, e4, E.cur, hc, rfl⟩
  exact xgrow_facts X S XS' E rfl P' N1 N2 (by rw [hpc]; exact ⟨rfl, rfl, rfl, rfl, rfl, fun _ h => h⟩) (by rw [hpc]; rfl) (by rw [hpc]; rfl)

end Flurry.Proto.BinGNP
