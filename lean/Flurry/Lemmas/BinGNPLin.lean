import Flurry.Lemmas.BinGNPInitG
import Flurry.Lemmas.BinGNPBundle
import Flurry.Lemmas.BinGNPLinQ
/-! # Proto/BinGN: every transition preserves the structural and the ghost invariant; linearizability

`stepN_facts` (`Lemmas/BinGNPBundle.lean`) gives every transition in normal form its `Eff` (structural invariant,
`KStep` of every key, frame facts for the lock-protocol readers) and its `StepKind`. `ginv_step`, every transition
preserves `∃ A pt, GInv k s A pt`, is `StepKind.ginv` (`Lemmas/BinGNPLinQ.lean`) of that: it has no case split over
`StepN` of its own.
Linearization points: list form — the single store at `wStore` (also for a writer that changes nothing), the CAS at
`wCas`, the load of the empty cell at `wCell` for a writer that changes nothing; tree form — `tVal`, `tPrependLocked`,
`tUnlinkLocked`, `tFind` for a writer that changes nothing; tree readers at `rTree` (they hold a read lock of a
`TreeBin` whose `writer` flag is clear); list walkers in hindsight (`RdOK`).
The conversions (`kBuild`, `kStore`, `tUntreeify`), the transfer of a cell (`xStoreLow`, `xStoreHigh`, `xStoreMoved`,
`xCasMoved`) and the commit `xCommit` of ANY of the resizes change no abstract state.

The per-transition lemmas take the generation structure `XShape s'` of the successor state, `eff_move` takes
`PubRead s` and the two child stores take `PlanSep s` (both from `Inv s` and `FreshInv s`, `Lemmas/BinGNPPlanSep.lean`);
hence `stepN_facts`, `step_eff`, `ginv_step` take `(P : PubRead s) (PS : PlanSep s) (XS' : XShape s')`. They are supplied
from the bundle `Bundle` of `Inv` with the invariants of the generation structure, which holds in every reachable
state (`reachable_bundle`; `reachable_inv`, `reachable_xshape` are its parts). -/
namespace Flurry.Proto.BinGNP
open Flurry.Lin
open Flurry.Proto.BinK (nodeAt binAt)

variable {k : Nat} {s s' : State} {A : Nat → KSt} {pt : Nat → Nat} {t : Nat} {l l' : Local} {p : Pending}

theorem step_eff {inv : Option (Nat × KOp)} {lo : Bool} {mt : Option Nat}
    {rz sm sm2 : Bool} {pick : Nat} (I : Inv s) (P : PubRead s) (PS : PlanSep s)
    (hs : step s t inv lo mt rz sm sm2 pick = some s') (XS' : XShape s') : Eff s s' := by
  cases hl : s.threads[t]? with
  | none => unfold step stepG at hs; rw [hl] at hs; cases hs
  | some l => exact (stepN_facts I P PS hl (step_stepN hl hs) XS').1

/-- the structural invariant and the invariants of the generation structure, in one induction: each needs the others
at the state before the step (`Bundle.stepN`) -/
theorem reachable_bundle {n : Nat} (hr : Reachable n s) : Bundle s := by
  induction hr with
  | init => exact .init n
  | step t inv lo mt rz sm sm2 pick _ hs ih =>
    obtain ⟨l, hl, h⟩ := step_cases hs
    exact ih.stepN hl h

theorem reachable_inv {n : Nat} (hr : Reachable n s) : Inv s := (reachable_bundle hr).inv

theorem reachable_xshape {n : Nat} (hr : Reachable n s) : XShape s := (reachable_inv hr).rsz.shape

theorem ginv_step (g : GInv k s A pt) (I : Inv s) (P : PubRead s) (PS : PlanSep s) (hl : s.threads[t]? = some l)
    (hstep : StepN s t l s') (XS' : XShape s') :
    ∃ A' pt', GInv k s' A' pt' :=
  have ⟨E, K⟩ := stepN_facts I P PS hl hstep XS'
  K.ginv g I E hl

theorem reachable_ginv {n : Nat} (hr : Reachable n s) (k : Nat) :
    ∃ A pt, GInv k s A pt := by
  induction hr with
  | init => exact ⟨_, _, init_ginv n k⟩
  | @step s s' t inv lo mt rz sm sm2 pick hr hs ih =>
    obtain ⟨A, pt, g⟩ := ih
    have I := reachable_inv hr
    have F := (reachable_bundle hr).fresh
    cases hl : s.threads[t]? with
    | none => unfold step stepG at hs; rw [hl] at hs; cases hs
    | some l =>
      exact ginv_step g I (pubRead_of I F) (planSep_of I F) hl (step_stepN hl hs)
        (reachable_xshape (Flurry.Proto.BinGN.Reachable.step t inv lo mt rz sm sm2 pick hr hs))

theorem binGN_linearizable_quiescent_aux {n : Nat} (hr : Reachable n s) (hq : quiescent s) (k : Nat) :
    Lin.Linearizable (callsOn s k) none (absOf s k) := by
  obtain ⟨A, pt, g⟩ := reachable_ginv hr k
  have := g.linearizable (reachable_inv hr).thr
  rw [callsOnExt_quiescent hq] at this
  exact this

/-- every step of a thread that has no call in flight (an idle thread — including the start of a resize and
of a treeify —, a treeifying thread, the resizing thread) leaves the abstract state of every key unchanged -/
theorem nocall_abs_invariant {n : Nat} {s s' : State} (hr : Reachable n s) {t : Nat}
    {inv : Option (Nat × KOp)} {lo : Bool} {mt : Option Nat} {rz sm sm2 : Bool} {pick : Nat} {l : Local}
    (hl : s.threads[t]? = some l) (hc : l.call = none)
    (hs : step s t inv lo mt rz sm sm2 pick = some s') (k : Nat) : absOf s' k = absOf s k :=
  (reachable_bundle hr).nocall_abs hl (step_stepN hl hs) hc k

/-- at quiescence every `TreeBin` that is in a cell is unlocked and its tree holds exactly the nodes
of its list -/
theorem Inv.quiescent_tree_eq_list (I : Inv s) (hq : quiescent s) {id : Cid} {b : Nat}
    (hc : cellAt s id = .tree b) :
    (binAt s.tbins b).mutex = none ∧ (binAt s.tbins b).writer = false ∧
    ∀ i, i < s.heap.length → ((nodeAt s.heap i).owner = some b ∧ (nodeAt s.heap i).inTree = true ↔
      i ∈ chainOfBin s b) := by
  have hm : (binAt s.tbins b).mutex = none := I.lock.mxOwned.free (fun l hl => by rw [hq l hl]; rfl) b
  have hw := (I.lock.bitsNone id b hc hm).1
  obtain ⟨hsub, hsup⟩ := I.tree_eq_chain hc hw
  refine ⟨hm, hw, ?_⟩
  intro i hi
  constructor
  · rintro ⟨ho, hin⟩; exact hsub i hi ho hin
  · intro hmem
    have hmem' : i ∈ chainC s (cellAt s id) := by rw [hc]; exact hmem
    have ho := I.heap.chainOwner id i hmem'
    rw [hc] at ho
    exact ⟨ho, hsup i hmem⟩

theorem quiescent_tree_eq_list_aux {n : Nat} (hr : Reachable n s) (hq : quiescent s) {id : Cid} {b : Nat}
    (hc : cellAt s id = .tree b) :
    (binAt s.tbins b).mutex = none ∧ (binAt s.tbins b).writer = false ∧
    ∀ i, i < s.heap.length → ((nodeAt s.heap i).owner = some b ∧ (nodeAt s.heap i).inTree = true ↔
      i ∈ chainOfBin s b) :=
  (reachable_inv hr).quiescent_tree_eq_list hq hc

end Flurry.Proto.BinGNP
