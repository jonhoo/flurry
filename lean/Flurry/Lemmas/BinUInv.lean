import Flurry.Lemmas.BinUBasic
import Flurry.Lemmas.SharedBasic
import Flurry.Lemmas.GhostView
/-! # Proto/BinU: the structural invariant (C01/C07, tree bins) — definitions and generic lemmas

* `TInv`: program counters fit the pending operation; times and uniqueness of invocation times.
* `LInv`: the mutex holder is exactly the thread at a writer pc between `wFind` and `wUnlockM`;
  `writer` ⇔ the holder is at `wPrependLocked`/`wTreeLinkLocked`/`wUnlinkLocked`/`wRestructure`/
  `wUnlockRoot`; `waiter` ⇒ the holder is at `lrLoop`; `readers` = number of threads at
  `rTree`/`rRelease`; `writer` ⇒ `readers = 0`.
* `WInv`: what the program counters know (`PcInv`), and the relation between list and tree:
  every tree node is on the list except the one at `wRestructure (some i)`; every list node is in
  the tree except the one at `wTreeLinkLocked x`. Both exceptions hold the write lock: with
  `writer` clear, list and tree hold the same nodes (`Inv.absTree_eq_absOf_of_no_writer`).

The file follows `Lemmas/BinTInv.lean` declaration by declaration; what is said there of a definition or lemma of the
same name is not repeated. -/
namespace Flurry.Proto.BinU
open Flurry.Lin Flurry.Shared Flurry.GhostView

def readerPc : Pc → Bool
  | .rFirst | .rState _ | .rLin _ | .rCas _ _ | .rTree | .rRelease _ | .rVal _ | .lFirst | .lNode _ => true
  | _ => false

def crit : Pc → Bool
  | .wFind | .wVal _ _ _ | .wPrepend | .wPrependLocked | .wTreeLink _ | .wTreeLinkLocked _
  | .wListUnlink _ _ | .wUnlinkLocked _ _
  | .lrTry _ _ | .lrLoop _ _ | .wRestructure _ _ | .wUnlockRoot _ | .wUnlockM _ => true
  | _ => false

def wr : Pc → Bool
  | .wPrependLocked | .wTreeLinkLocked _ | .wUnlinkLocked _ _ | .wRestructure _ _ | .wUnlockRoot _ => true
  | _ => false

def isLoop : Pc → Bool
  | .lrLoop _ _ => true
  | _ => false

def holdsRead : Pc → Bool
  | .rTree | .rRelease _ => true
  | _ => false

def cnt (q : Pc → Bool) (ls : List Local) : Nat := (ls.filter (fun l => q l.pc)).length

theorem cnt_pos_of {q : Pc → Bool} {ls : List Local} {i : Nat} {l : Local} (h : ls[i]? = some l)
    (hq : q l.pc = true) : 1 ≤ cnt q ls := by
  unfold cnt
  have hm : l ∈ ls.filter (fun l => q l.pc) :=
    List.mem_filter.mpr ⟨List.mem_iff_getElem?.mpr ⟨i, h⟩, hq⟩
  exact List.length_pos_of_mem hm

theorem cnt_replicate_idle (q : Pc → Bool) (hq : q .idle = false) (n : Nat) :
    cnt q (List.replicate n ({} : Local)) = 0 := by
  unfold cnt
  rw [List.length_eq_zero_iff, List.filter_eq_nil_iff]
  intro l hl
  rw [List.eq_of_mem_replicate hl]
  simp [hq]

def PcOp (pc : Pc) (op : KOp) : Prop := pc ≠ .idle → isReader op = readerPc pc

structure TInv (s : State) : Prop where
  opOK : ∀ (t : Nat) (l : Local) (p : Pending), s.threads[t]? = some l → l.call = some p → PcOp l.pc p.op
  histTime : ∀ x ∈ s.hist, x.2.inv ≤ x.2.resp ∧ x.2.resp ≤ s.now
  pendTime : ∀ (t : Nat) (l : Local) (p : Pending), s.threads[t]? = some l → l.call = some p → p.inv ≤ s.now
  uniqHP : ∀ x ∈ s.hist, ∀ (t : Nat) (l : Local) (p : Pending), s.threads[t]? = some l → l.call = some p →
    x.2.inv ≠ p.inv
  uniqPP : ∀ (t t' : Nat) (l l' : Local) (p p' : Pending), s.threads[t]? = some l → s.threads[t']? = some l' →
    l.call = some p → l'.call = some p' → p.inv = p'.inv → t = t'
  uniqHH : s.hist.Pairwise (fun x y => x.2.inv ≠ y.2.inv)

/-- the result of a writer that is past its linearization point: an insert from `wTreeLinkLocked` on (its point is
`wPrependLocked`); `.rebalance` belongs to the original insertion order, which `step` does not take -/
def resOfPc : Pc → Option KRes
  | .wUnlockM res => some res
  | .lrTry .rebalance res => some res
  | .lrLoop .rebalance res => some res
  | .wTreeLinkLocked _ => some .none
  | .wRestructure _ res => some res
  | .wUnlockRoot res => some res
  | _ => none

@[reducible] def view : GhostView.View Local Pending KOp KRes :=
  ⟨Local.call, fun l => resOfPc l.pc, Pending.key, Pending.op, Pending.inv⟩

theorem TInv.gen {s : State} (T : TInv s) :
    GhostView.Threads Lin.sig view (fun l p => PcOp l.pc p.op) s.threads s.hist s.now :=
  ⟨T.opOK, T.histTime, T.pendTime, T.uniqHP, T.uniqPP, T.uniqHH⟩

theorem TInv.of_gen {s : State}
    (T : GhostView.Threads Lin.sig view (fun l p => PcOp l.pc p.op) s.threads s.hist s.now) : TInv s :=
  ⟨T.opOK, T.histTime, T.pendTime, T.uniqHP, T.uniqPP, T.uniqHH⟩

theorem tinv_step {s s' : State} {t : Nat} {l l' : Local} {hnew : List (Nat × Call)} (T : TInv s)
    (hl : s.threads[t]? = some l) (hthr : s'.threads = s.threads.set t l') (hnow : s'.now = s.now + 1)
    (hhist : s'.hist = hnew ++ s.hist)
    (hpc : ∀ p, l'.call = some p → PcOp l'.pc p.op)
    (hcall : ∀ p, l'.call = some p → l.call = some p ∨ p.inv = s.now + 1)
    (hfin : ∀ x ∈ hnew, hnew = [x] ∧ l'.call = none ∧ x.2.resp = s.now + 1 ∧
      ∃ p, l.call = some p ∧ x.2.inv = p.inv) : TInv s' :=
  .of_gen (T.gen.step hl hthr hnow hhist hpc hcall hfin)

structure LInv (s : State) : Prop where
  mx : ∀ (t : Nat) (l : Local), s.threads[t]? = some l → (crit l.pc = true ↔ s.mutex = some t)
  mutexValid : ∀ h, s.mutex = some h → h < s.threads.length
  bitsNone : s.mutex = none → s.writer = false ∧ s.waiter = false
  bitsSome : ∀ (t : Nat) (l : Local), s.threads[t]? = some l → s.mutex = some t →
    s.writer = wr l.pc ∧ (s.waiter = true → isLoop l.pc = true)
  rd : s.readers = cnt holdsRead s.threads
  wrd : s.writer = true → s.readers = 0

theorem LInv.reader_pos {s : State} (L : LInv s) {t : Nat} {l : Local} (hl : s.threads[t]? = some l)
    (h : holdsRead l.pc = true) : 1 ≤ s.readers := by
  rw [L.rd]; exact cnt_pos_of hl h

theorem LInv.view {s : State} (L : LInv s) {t : Nat} {l : Local} (hl : s.threads[t]? = some l) :
    LockView t s.mutex s.writer s.waiter s.readers (crit l.pc) (wr l.pc) (isLoop l.pc) (holdsRead l.pc) :=
  ⟨L.mx t l hl, L.bitsSome t l hl, L.bitsNone, L.wrd, L.reader_pos hl⟩

theorem linv_step {s s' : State} {t : Nat} {l l' : Local} (L : LInv s) (hl : s.threads[t]? = some l)
    (hthr : s'.threads = s.threads.set t l')
    (h : SyncOK t s.mutex s'.mutex s.writer s.waiter s'.writer s'.waiter s.readers s'.readers
      (crit l'.pc) (wr l'.pc) (isLoop l'.pc) (holdsRead l.pc) (holdsRead l'.pc)) : LInv s' := by
  have htl : t < s.threads.length := (List.getElem?_eq_some_iff.1 hl).1
  refine ⟨?_, ?_, h.free, ?_, ?_, h.excl⟩
  · intro t1 l1 h1
    rw [hthr] at h1
    rcases get_set h1 with ⟨rfl, rfl⟩ | ⟨hne, h1⟩
    · exact h.mine
    · rw [L.mx t1 l1 h1, h.others t1 hne]
  · intro m hm
    rw [hthr, List.length_set]
    by_cases hmt : m = t
    · rw [hmt]; exact htl
    · exact L.mutexValid m ((h.others m hmt).1 hm)
  · intro t1 l1 h1 hm
    rw [hthr] at h1
    rcases get_set h1 with ⟨rfl, rfl⟩ | ⟨hne, h1⟩
    · exact h.bits hm
    · obtain ⟨e1, e2⟩ := h.keep t1 hne hm
      rw [e1, e2]
      exact L.bitsSome t1 l1 h1 ((h.others t1 hne).1 hm)
  · have := count_set (fun l : Local => holdsRead l.pc) s.threads t l l' hl
    have := h.rd
    have := L.rd
    rw [hthr]
    unfold cnt at *
    omega

theorem LInv.crit_unique {s : State} (L : LInv s) {t t' : Nat} {l l' : Local}
    (hl : s.threads[t]? = some l) (hl' : s.threads[t']? = some l')
    (h : crit l.pc = true) (h' : crit l'.pc = true) : t = t' := by
  have e1 := (L.mx t l hl).1 h
  have e2 := (L.mx t' l' hl').1 h'
  rw [e1] at e2
  exact Option.some.inj e2

theorem LInv.no_wr {s : State} (L : LInv s) (hw : s.writer = false) {t : Nat} {l : Local}
    (hl : s.threads[t]? = some l) : wr l.pc = false := by
  cases hwr : wr l.pc with
  | false => rfl
  | true =>
    have hc : crit l.pc = true := by
      cases hpc : l.pc <;> rw [hpc] at hwr <;> simp [wr] at hwr <;> rfl
    have := (L.bitsSome t l hl ((L.mx t l hl).1 hc)).1
    rw [hw, hwr] at this; cases this

theorem LInv.bits_holder {s : State} (L : LInv s) (hb : (s.writer || s.waiter) = true) :
    ∃ (h : Nat) (l : Local), s.threads[h]? = some l ∧ s.mutex = some h ∧ (wr l.pc = true ∨ isLoop l.pc = true) := by
  cases hm : s.mutex with
  | none =>
    obtain ⟨e1, e2⟩ := L.bitsNone hm
    rw [e1, e2] at hb; cases hb
  | some h =>
    have hv := L.mutexValid h hm
    refine ⟨h, s.threads[h], List.getElem?_eq_getElem hv, rfl, ?_⟩
    obtain ⟨e1, e2⟩ := L.bitsSome h _ (List.getElem?_eq_getElem hv) hm
    cases hw : s.writer with
    | true => exact Or.inl (by rw [← e1, hw])
    | false =>
      rw [hw] at hb
      exact Or.inr (e2 (by simpa using hb))

def RemOK (s : State) (p : Pending) (i : Nat) (res : KRes) : Prop :=
  i ∈ chain s ∧ (nodeAt s.heap i).inTree = true ∧ (nodeAt s.heap i).key = p.key ∧
    specStep (some (nodeAt s.heap i).val) p.op = (none, res)

/-- no node of the tree has the key of `p` -/
def FreshOK (s : State) (p : Pending) : Prop :=
  ∀ j, j < s.heap.length → (nodeAt s.heap j).inTree = true → (nodeAt s.heap j).key ≠ p.key

/-- the `False` clauses are the program counters of `deadPc` (the original orders, which `step` never takes), and close
the case `StepK.dead`. `rLin c` says nothing of the tree, unlike its clause in `Proto/BinT`: the abstract state is list
membership, every list node counts. -/
def PcInv (s : State) (p : Pending) : Pc → Prop
  | .rState (some c) => c < s.heap.length
  | .rCas c _ => c < s.heap.length
  | .rLin c => c < s.heap.length
  | .lNode (some c) => c < s.heap.length
  | .rVal _ => p.op ≠ .has
  | .wVal i v res => i ∈ chain s ∧ (nodeAt s.heap i).key = p.key ∧
      specStep (some (nodeAt s.heap i).val) p.op = (some v, res)
  | .lrTry .insert _ => FreshOK s p
  | .lrLoop .insert _ => FreshOK s p
  | .wPrependLocked => FreshOK s p
  | .wTreeLinkLocked x => x ∈ chain s ∧ (nodeAt s.heap x).inTree = false ∧ (nodeAt s.heap x).key = p.key ∧
      FreshOK s p
  | .lrTry (.remove i) res => RemOK s p i res
  | .lrLoop (.remove i) res => RemOK s p i res
  | .wUnlinkLocked i res => RemOK s p i res
  | .wRestructure (some i) _ => i ∉ chain s ∧ (nodeAt s.heap i).inTree = true ∧ i < s.heap.length
  | .wListUnlink _ _ => False
  | .wPrepend => False
  | .wTreeLink _ => False
  | _ => True

theorem PcInv.congr {s s' : State} {p : Pending} {pc : Pc} (hh : s'.heap = s.heap) (hd : s'.first = s.first)
    (h : PcInv s p pc) : PcInv s' p pc := by
  have hc := chain_congr hh hd
  unfold PcInv RemOK FreshOK at *
  rw [hh, hc]
  exact h

structure WInv (s : State) : Prop where
  pcInv : ∀ (t : Nat) (l : Local) (p : Pending), s.threads[t]? = some l → l.call = some p → PcInv s p l.pc
  treeSub : ∀ j, j < s.heap.length → (nodeAt s.heap j).inTree = true → j ∉ chain s →
    ∃ (t : Nat) (l : Local) (res : KRes), s.threads[t]? = some l ∧ l.pc = .wRestructure (some j) res
  chainSub : ∀ j ∈ chain s, (nodeAt s.heap j).inTree = false →
    ∃ (t : Nat) (l : Local), s.threads[t]? = some l ∧ l.pc = .wTreeLinkLocked j

structure Inv (s : State) : Prop where
  heap : HInv s
  thr : TInv s
  lock : LInv s
  data : WInv s

theorem Inv.tree_sub_chain {s : State} (I : Inv s)
    (h : ∀ (t : Nat) (l : Local) (j : Nat) (res : KRes), s.threads[t]? = some l → l.pc ≠ .wRestructure (some j) res) :
    ∀ j, j < s.heap.length → (nodeAt s.heap j).inTree = true → j ∈ chain s := by
  intro j hj hin
  apply Classical.byContradiction
  intro hnc
  obtain ⟨t, l, res, hl, hpc⟩ := I.data.treeSub j hj hin hnc
  exact h t l j res hl hpc

theorem Inv.chain_sub_tree {s : State} (I : Inv s)
    (h : ∀ (t : Nat) (l : Local) (j : Nat), s.threads[t]? = some l → l.pc ≠ .wTreeLinkLocked j) :
    ∀ j ∈ chain s, (nodeAt s.heap j).inTree = true := by
  intro j hj
  cases hin : (nodeAt s.heap j).inTree with
  | true => rfl
  | false =>
    obtain ⟨t, l, hl, hpc⟩ := I.data.chainSub j hj hin
    exact absurd hpc (h t l j hl)

/-- with `writer` clear, list and tree hold the same nodes -/
theorem Inv.sets_eq_of_no_writer {s : State} (I : Inv s) (hw : s.writer = false) :
    (∀ j, j < s.heap.length → (nodeAt s.heap j).inTree = true → j ∈ chain s) ∧
    (∀ j ∈ chain s, (nodeAt s.heap j).inTree = true) := by
  constructor
  · refine I.tree_sub_chain ?_
    intro t l j res hl hpc
    have := I.lock.no_wr hw hl
    rw [hpc] at this
    cases this
  · refine I.chain_sub_tree ?_
    intro t l j hl hpc
    have := I.lock.no_wr hw hl
    rw [hpc] at this
    cases this

/-- with `writer` clear the tree's view is the abstract state (list membership) -/
theorem Inv.absTree_eq_absOf_of_no_writer {s : State} (I : Inv s) (hw : s.writer = false) (k : Nat) :
    absTree s k = absOf s k :=
  absTree_eq_absOf I.heap (I.sets_eq_of_no_writer hw).1 (I.sets_eq_of_no_writer hw).2 k

theorem Inv.holder_sets {s : State} (I : Inv s) {t : Nat} {l : Local} (hl : s.threads[t]? = some l)
    (hc : crit l.pc = true) :
    (∀ j, j < s.heap.length → (nodeAt s.heap j).inTree = true → j ∉ chain s →
      ∃ res, l.pc = .wRestructure (some j) res) ∧
    (∀ j ∈ chain s, (nodeAt s.heap j).inTree = false → l.pc = .wTreeLinkLocked j) := by
  constructor
  · intro j hj hin hnc
    obtain ⟨t', l', res, hl', hpc⟩ := I.data.treeSub j hj hin hnc
    cases I.lock.crit_unique hl hl' hc (by rw [hpc]; rfl)
    cases hl.symm.trans hl'
    exact ⟨res, hpc⟩
  · intro j hj hin
    obtain ⟨t', l', hl', hpc⟩ := I.data.chainSub j hj hin
    cases I.lock.crit_unique hl hl' hc (by rw [hpc]; rfl)
    cases hl.symm.trans hl'
    exact hpc

theorem Inv.tree_sub_chain_of_crit {s : State} (I : Inv s) {t : Nat} {l : Local} (hl : s.threads[t]? = some l)
    (hc : crit l.pc = true) (h1 : ∀ j res, l.pc ≠ .wRestructure (some j) res) :
    ∀ j, j < s.heap.length → (nodeAt s.heap j).inTree = true → j ∈ chain s := by
  intro j hj hin
  apply Classical.byContradiction
  intro hnc
  obtain ⟨res, hpc⟩ := (I.holder_sets hl hc).1 j hj hin hnc
  exact h1 j res hpc

theorem Inv.chain_sub_tree_of_crit {s : State} (I : Inv s) {t : Nat} {l : Local} (hl : s.threads[t]? = some l)
    (hc : crit l.pc = true) (h2 : ∀ j, l.pc ≠ .wTreeLinkLocked j) :
    ∀ j ∈ chain s, (nodeAt s.heap j).inTree = true := by
  intro j hj
  cases hin : (nodeAt s.heap j).inTree with
  | true => rfl
  | false => exact absurd ((I.holder_sets hl hc).2 j hj hin) (h2 j)

end Flurry.Proto.BinU
