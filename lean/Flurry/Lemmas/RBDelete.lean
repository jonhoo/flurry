import Flurry.Lemmas.RBBasic
/-! # Deletion side of the tree bins: `removeNode` / `balDel`

`balDel` is first brought into the form of one black-sibling step (`delL` / `delR`, after the
rotation that turns a red sibling into a black one); in that form it keeps the in-order listing.
`locate` and `leftmost` return a focus of the tree they search, so `removeNode` erases exactly the
entry it was asked for. -/
namespace Flurry.RB
namespace Del
open T Ctx

@[simp] theorem isRed_nil : isRed nil = false := rfl
@[simp] theorem isRed_red (l : T) (e : Node) (r : T) : isRed (node true l e r) = true := rfl
@[simp] theorem isRed_black (l : T) (e : Node) (r : T) : isRed (node false l e r) = false := rfl
@[simp] theorem blacken_nil : blacken nil = nil := rfl
@[simp] theorem blacken_node (c : Bool) (l : T) (e : Node) (r : T) :
    blacken (node c l e r) = node false l e r := rfl

theorem lt_irrefl (a : Node) : ¬ lt a a := by unfold lt; omega
theorem lt_asymm {a b : Node} : lt a b → ¬ lt b a := by unfold lt; omega

/-- the step of `balDel` at a left focus `x` once the sibling `s` is black (after the rotation that
makes a red sibling black): the text of the definition -/
def delL (f : Nat) (pr : Bool) (x : T) (pe : Node) (s : T) (up : Ctx) : T :=
  match s with
  | nil => balDel f (node pr x pe nil) up
  | node _ sl se sr =>
    if !isRed sr && !isRed sl then balDel f (node pr x pe (node true sl se sr)) up
    else
      let (sl2, se2, sr2) :=
        if !isRed sr then
          match sl with
          | node _ sll sle slr => (sll, sle, node true slr se sr)
          | nil => (sl, se, sr)
        else (sl, se, sr)
      zip (node pr (node false x pe sl2) se2 (blacken sr2)) up

def delR (f : Nat) (pr : Bool) (x : T) (pe : Node) (s : T) (up : Ctx) : T :=
  match s with
  | nil => balDel f (node pr nil pe x) up
  | node _ sl se sr =>
    if !isRed sl && !isRed sr then balDel f (node pr (node true sl se sr) pe x) up
    else
      let (sl2, se2, sr2) :=
        if !isRed sl then
          match sr with
          | node _ srl sre srr => (node true sl se srl, sre, srr)
          | nil => (sl, se, sr)
        else (sl, se, sr)
      zip (node pr (blacken sl2) se2 (node false sr2 pe x)) up

theorem balDel_left (f : Nat) (x : T) (pr : Bool) (pe : Node) (s : T) (up : Ctx) :
    balDel (f + 1) x (left pr pe s up) =
      if isRed x then zip (blacken x) (left pr pe s up) else
      match s with
      | node true sl se sr => delL f true x pe sl (left false se sr up)
      | _ => delL f pr x pe s up := by
  simp only [balDel]
  by_cases hx : isRed x = true
  · rw [if_pos hx, if_pos hx]
  rw [if_neg hx, if_neg hx]
  rcases s with _ | ⟨_ | _, sl, se, sr⟩ <;> rfl

theorem balDel_right (f : Nat) (x : T) (pr : Bool) (pe : Node) (s : T) (up : Ctx) :
    balDel (f + 1) x (right pr s pe up) =
      if isRed x then zip (blacken x) (right pr s pe up) else
      match s with
      | node true sl se sr => delR f true x pe sr (right false sl se up)
      | _ => delR f pr x pe s up := by
  simp only [balDel]
  by_cases hx : isRed x = true
  · rw [if_pos hx, if_pos hx]
  rw [if_neg hx, if_neg hx]
  rcases s with _ | ⟨_ | _, sl, se, sr⟩ <;> rfl

/-! The three outcomes of the step: a red far nephew, a red near nephew, two black nephews. -/

theorem delL_far {f : Nat} {pr c : Bool} {x sl sr : T} {pe se : Node} {up : Ctx}
    (hsr : isRed sr = true) :
    delL f pr x pe (node c sl se sr) up = zip (node pr (node false x pe sl) se (blacken sr)) up := by
  simp [delL, hsr]

theorem delL_near {f : Nat} {pr c : Bool} {x sll slr sr : T} {pe sle se : Node} {up : Ctx}
    (hsr : isRed sr = false) :
    delL f pr x pe (node c (node true sll sle slr) se sr) up =
      zip (node pr (node false x pe sll) sle (node false slr se sr)) up := by
  simp [delL, hsr, blacken]

theorem delL_black {f : Nat} {pr c : Bool} {x sl sr : T} {pe se : Node} {up : Ctx}
    (hsr : isRed sr = false) (hsl : isRed sl = false) :
    delL f pr x pe (node c sl se sr) up = balDel f (node pr x pe (node true sl se sr)) up := by
  simp [delL, hsr, hsl]

theorem delR_far {f : Nat} {pr c : Bool} {x sl sr : T} {pe se : Node} {up : Ctx}
    (hsl : isRed sl = true) :
    delR f pr x pe (node c sl se sr) up = zip (node pr (blacken sl) se (node false sr pe x)) up := by
  simp [delR, hsl]

theorem delR_near {f : Nat} {pr c : Bool} {x sl srl srr : T} {pe se sre : Node} {up : Ctx}
    (hsl : isRed sl = false) :
    delR f pr x pe (node c sl se (node true srl sre srr)) up =
      zip (node pr (node false sl se srl) sre (node false srr pe x)) up := by
  simp [delR, hsl, blacken]

theorem delR_black {f : Nat} {pr c : Bool} {x sl sr : T} {pe se : Node} {up : Ctx}
    (hsl : isRed sl = false) (hsr : isRed sr = false) :
    delR f pr x pe (node c sl se sr) up = balDel f (node pr (node true sl se sr) pe x) up := by
  simp [delR, hsl, hsr]

theorem toList_delL {f : Nat} (ih : ∀ x c, toList (balDel f x c) = toList (zip x c))
    (pr : Bool) (x : T) (pe : Node) (s : T) (up : Ctx) :
    toList (delL f pr x pe s up) = toList (zip (node pr x pe s) up) := by
  rcases s with _ | ⟨c, sl, se, sr⟩
  · exact ih _ _
  cases hsr : isRed sr
  · rcases sl with _ | ⟨_ | _, sll, sle, slr⟩
    · rw [delL_black hsr rfl, ih]; simp only [toList_zip, toList]
    · rw [delL_black hsr rfl, ih]; simp only [toList_zip, toList]
    · rw [delL_near hsr]; simp [toList_zip, toList]
  · rw [delL_far hsr]; simp [toList_zip, toList]

theorem toList_delR {f : Nat} (ih : ∀ x c, toList (balDel f x c) = toList (zip x c))
    (pr : Bool) (x : T) (pe : Node) (s : T) (up : Ctx) :
    toList (delR f pr x pe s up) = toList (zip (node pr s pe x) up) := by
  rcases s with _ | ⟨c, sl, se, sr⟩
  · exact ih _ _
  cases hsl : isRed sl
  · rcases sr with _ | ⟨_ | _, srl, sre, srr⟩
    · rw [delR_black hsl rfl, ih]; simp only [toList_zip, toList]
    · rw [delR_black hsl rfl, ih]; simp only [toList_zip, toList]
    · rw [delR_near hsl]; simp [toList_zip, toList]
  · rw [delR_far hsl]; simp [toList_zip, toList]

theorem toList_balDel (f : Nat) (x : T) (c : Ctx) :
    toList (balDel f x c) = toList (zip x c) := by
  induction f generalizing x c with
  | zero => rfl
  | succ f ih =>
    cases c with
    | top => rfl
    | left pr pe s up =>
      rw [balDel_left]
      by_cases hx : isRed x = true
      · rw [if_pos hx]; simp only [toList_zip, toList_blacken]
      rw [if_neg hx]
      rcases s with _ | ⟨_ | _, sl, se, sr⟩
      · exact toList_delL ih ..
      · exact toList_delL ih ..
      · exact (toList_delL ih ..).trans (by simp [toList_zip, toList, ctxL, ctxR])
    | right pr s pe up =>
      rw [balDel_right]
      by_cases hx : isRed x = true
      · rw [if_pos hx]; simp only [toList_zip, toList_blacken]
      rw [if_neg hx]
      rcases s with _ | ⟨_ | _, sl, se, sr⟩
      · exact toList_delR ih ..
      · exact toList_delR ih ..
      · exact (toList_delR ih ..).trans (by simp [toList_zip, toList, ctxL, ctxR])

theorem locate_some {h k : Nat} {t : T} {c : Ctx} {s : T} {c' : Ctx}
    (hl : locate h k t c = some (s, c')) :
    zip s c' = zip t c ∧ ∃ pc pl pe pr, s = node pc pl pe pr ∧ pe.hash = h ∧ pe.key = k := by
  induction t generalizing c with
  | nil => cases hl
  | node red l x r ihl ihr =>
    unfold locate at hl
    split at hl
    · exact ihl hl
    · split at hl
      · exact ihr hl
      · cases hl
        exact ⟨rfl, _, _, _, _, rfl, key_eq_of_stop ‹_› ‹_›⟩

theorem locate_isSome {h k : Nat} {t : T} (c : Ctx) (hb : BST t)
    (he : ∃ e ∈ toList t, e.hash = h ∧ e.key = k) : ∃ r, locate h k t c = some r := by
  induction t generalizing c with
  | nil => obtain ⟨_, hm, -⟩ := he; cases hm
  | node red l x r ihl ihr =>
    obtain ⟨e, hmem, rfl, rfl⟩ := he
    obtain ⟨hl, hr, bl, br⟩ := hb
    rw [all_iff] at hl hr
    unfold locate
    split
    next h1 =>
      have h1 : lt e x := ltHK_iff.1 h1
      refine ihl _ bl ⟨e, (List.mem_append.1 hmem).elim id fun hm => ?_, rfl, rfl⟩
      rcases List.mem_cons.1 hm with rfl | hm
      · exact absurd h1 (lt_irrefl _)
      · exact absurd h1 (lt_asymm (hr e hm))
    · split
      next h2 =>
        have h2 : lt x e := gtHK_iff.1 h2
        refine ihr _ br ⟨e, (List.mem_append.1 hmem).elim (fun hm => ?_) fun hm => ?_, rfl, rfl⟩
        · exact absurd h2 (lt_asymm (hl e hm))
        · rcases List.mem_cons.1 hm with rfl | hm
          · exact absurd h2 (lt_irrefl _)
          · exact hm
      · exact ⟨_, rfl⟩

theorem leftmost_some {t : T} {c : Ctx} {sc : Bool} {se : Node} {sr : T} {cs : Ctx}
    (hl : leftmost t c = some (sc, se, sr, cs)) :
    zip (node sc nil se sr) cs = zip t c ∧ ctxL cs = ctxL c := by
  fun_induction leftmost t c <;> simp_all [zip, ctxL]

theorem leftmost_isSome (red : Bool) (l : T) (e : Node) (r : T) (c : Ctx) :
    ∃ x, leftmost (node red l e r) c = some x := by
  induction l generalizing red e r c with
  | nil => exact ⟨_, rfl⟩
  | node c2 l2 e2 r2 ih _ => simp only [leftmost]; exact ih _ _ _ _

theorem toList_splice (pc : Bool) (f : Nat) (x : T) (c : Ctx) :
    toList (if pc then zip x c else balDel f x c) = ctxL c ++ toList x ++ ctxR c := by
  cases pc
  · exact (toList_balDel f x c).trans (toList_zip x c)
  · exact toList_zip x c

theorem removeNode_toList_of_locate {h k : Nat} {t : T} {pc : Bool} {pl : T} {pe : Node} {pr : T}
    {c : Ctx} (hl : locate h k t top = some (node pc pl pe pr, c)) :
    toList (removeNode h k t) = ctxL c ++ (toList pl ++ toList pr) ++ ctxR c := by
  rcases pl with _ | ⟨lc, ll, le, lr⟩ <;> rcases pr with _ | ⟨rc, rl, re, rr⟩
  · simp only [removeNode, hl, toList_splice]; rfl
  · simp only [removeNode, hl, toList_splice]; rfl
  · simp only [removeNode, hl, toList_splice, toList, List.append_nil]
  · -- two children: the successor's entry `se` (the leftmost of `pr`) moves to the position of
    -- `pe`, which is where it stands in the listing without `pe` anyway
    obtain ⟨⟨sc, se, sr, cs⟩, hs⟩ := leftmost_isSome rc rl re rr top
    have ⟨h1, h2⟩ := leftmost_some hs
    have h3 := congrArg toList h1
    simp only [ctxL] at h2
    simp [toList_zip, zip, h2, toList] at h3
    simp only [removeNode, hl, hs, toList_splice]
    simp [ctxL_append, ctxR_append, ctxL, ctxR, h2, ← h3, toList]

theorem filter_unique {l1 l2 : List Node} {e : Node} (hp : (l1 ++ e :: l2).Pairwise lt) :
    (l1 ++ e :: l2).filter (fun x => !(x.hash == e.hash && x.key == e.key)) = l1 ++ l2 := by
  simp only [List.pairwise_append, List.pairwise_cons, List.mem_cons] at hp
  obtain ⟨_, ⟨h2, _⟩, h3⟩ := hp
  rw [List.filter_append, List.filter_cons,
    filter_noKey (.of_below (fun a ha => h3 a ha e (.inl rfl)) (.inr ⟨rfl, Nat.le_refl _⟩)),
    filter_noKey (.of_above h2 (.inr ⟨rfl, Nat.le_refl _⟩))]
  simp

theorem removeNode_split {h k : Nat} {t : T} (hb : BST t)
    (he : ∃ e ∈ toList t, e.hash = h ∧ e.key = k) :
    ∃ l1 l2 e, e.hash = h ∧ e.key = k ∧ toList t = l1 ++ e :: l2 ∧
      toList (removeNode h k t) = l1 ++ l2 := by
  obtain ⟨⟨s, c⟩, hl⟩ := locate_isSome top hb he
  obtain ⟨hz, pc, pl, pe, pr, rfl, h1, h2⟩ := locate_some hl
  refine ⟨ctxL c ++ toList pl, toList pr ++ ctxR c, pe, h1, h2, ?_, ?_⟩
  · have := congrArg toList hz
    simp only [zip] at this
    rw [← this, toList_zip]; simp [toList]
  · rw [removeNode_toList_of_locate hl]; simp

end Del

open Del in
theorem removeNode_toList {h k : Nat} {t : T} (hb : BST t)
    (he : ∃ e ∈ toList t, e.hash = h ∧ e.key = k) :
    toList (removeNode h k t) =
      (toList t).filter (fun x => !(x.hash == h && x.key == k)) := by
  obtain ⟨l1, l2, e, rfl, rfl, h1, h2⟩ := removeNode_split hb he
  rw [h2, h1, filter_unique]
  rw [← h1]; exact (bst_iff_pairwise t).1 hb

open Del in
theorem removeNode_BST {h k : Nat} {t : T} (hb : BST t)
    (he : ∃ e ∈ toList t, e.hash = h ∧ e.key = k) : BST (removeNode h k t) := by
  rw [bst_iff_pairwise, removeNode_toList hb he]
  exact ((bst_iff_pairwise t).1 hb).filter _

end Flurry.RB
