import Flurry.Lemmas.BinNHMInvDefs
/-! # Proto/BinN and Proto/BinNH: the ghost invariant (trace `A`, points `pt`, hindsight justification of every reader) -/
namespace Flurry.Proto.BinNHM
open Flurry.Proto.BinN
open Flurry.Lin
open Flurry.Proto.BinX (NodeS Cell Pending get_set nextA)

structure GInv (k : Nat) (s : State) (G : Ghost) (A : Nat → KSt) (pt : Nat → Nat) : Prop where
  core : GCore k s A pt
  readers : ∀ (t : Nat) (l : Local) (p : Pending) (cur : Option Nat), s.threads[t]? = some l →
    l.call = some p → p.key = k → l.pc = .rNode cur → Good G A k p.inv s cur

theorem readers_step {k : Nat} {s s' : State} {G G' : Ghost} {A A' : Nat → KSt} {pt : Nat → Nat} {t : Nat}
    {l' : Local} (g : GInv k s G A pt) (T : TInv s) (hcar : Carries k s s' G G' A A')
    (hthr : s'.threads = s.threads.set t l')
    (hself : ∀ (p : Pending) (cur : Option Nat), l'.call = some p → p.key = k → l'.pc = .rNode cur →
      p.inv ≤ s.now ∧ Good G A k p.inv s cur) :
    ∀ (t1 : Nat) (l1 : Local) (p1 : Pending) (cur : Option Nat), s'.threads[t1]? = some l1 →
      l1.call = some p1 → p1.key = k → l1.pc = .rNode cur → Good G' A' k p1.inv s' cur := by
  intro t1 l1 p1 cur h1 hc1 hk1 hpc1
  rw [hthr] at h1
  rcases get_set h1 with ⟨rfl, rfl⟩ | ⟨_, h1⟩
  · obtain ⟨hi, hg⟩ := hself p1 cur hc1 hk1 hpc1
    exact hcar _ _ hi hg
  · exact hcar _ _ (T.pendTime t1 l1 p1 h1 hc1) (g.readers t1 l1 p1 cur h1 hc1 hk1 hpc1)

/-- the ghost invariant after a step: the trace of the key as `GhostView` delivers it for the kind of step, and
the readers' justifications -/
theorem ginv_next {k : Nat} {s s' : State} {G G' : Ghost} {A : Nat → KSt} {pt pt' : Nat → Nat} {t : Nat} {l' : Local}
    (g : GInv k s G A pt) (T : TInv s) (hcar : Carries k s s' G G' A (nextA A s.now (absOf s' k)))
    (hthr : s'.threads = s.threads.set t l')
    (tr : GhostView.Trace Lin.sig (GhostView.callsOnExt Lin.sig view s'.hist s'.threads k s'.now) s'.now (absOf s' k)
      (nextA A s.now (absOf s' k)) pt')
    (hself : ∀ (p : Pending) (cur : Option Nat), l'.call = some p → p.key = k → l'.pc = .rNode cur →
      p.inv ≤ s.now ∧ Good G A k p.inv s cur) :
    GInv k s' G' (nextA A s.now (absOf s' k)) pt' :=
  ⟨.of_trace tr, readers_step g T hcar hthr hself⟩

/-- `ginv_next` for a transition of a thread without a call that changes no abstract state and adds nothing to the history;
every step of a resizing thread or of a helper is of this kind -/
theorem ginv_quiet_nocall {k : Nat} {s s' : State} {G G' : Ghost} {A : Nat → KSt} {pt : Nat → Nat} {t : Nat}
    {l l' : Local}
    (g : GInv k s G A pt) (T : TInv s) (hcar : Carries k s s' G G' A (nextA A s.now (absOf s' k)))
    (hl : s.threads[t]? = some l) (hthr : s'.threads = s.threads.set t l') (hnow : s'.now = s.now + 1)
    (hhist : s'.hist = s.hist) (habs : absOf s' k = absOf s k) (hc : l.call = none) (hc' : l'.call = none) :
    GInv k s' G' (nextA A s.now (absOf s' k)) pt :=
  ginv_next g T hcar hthr
    (g.core.trace.other_key (hnew := []) T.gen hl hthr hnow hhist habs
      (fun p (h : l.call = some p) => by rw [hc] at h; cases h) (fun _ h => nomatch h) (Or.inr hc'))
    (fun p cur h => by rw [hc'] at h; cases h)

end Flurry.Proto.BinNHM
