import Flurry.Lemmas.BinGEmbed
import Flurry.Lemmas.BinGGhost
import Flurry.Lemmas.BinGNPLinQ
/-! # Proto/BinG in Proto/BinGN: the ghost history and the abstract states on the image

The extended history of a key in `emb s` is that of `s` (`callsOnExt_emb`: the program counters that carry a result
correspond, `resOfPc_emb`), and so is the abstract state (`absOf_emb` of `Lemmas/BinGEmbedInv`). Hence a ghost trace
of the image is a ghost trace for `s`: `linearizable_of_emb`.

The ghost invariant is carried on the image only (`BinGNP.Foreign` on the image is weaker than `BinG.Foreign`, so
`BinGNP.GInv k (emb s)` does not give `BinG.GInv k s`). The two transitions of BinG that are two transitions of BinGN
(`ginv_resizeStart_emb`, `ginv_xcommit_emb`) are taken in ONE ghost step from `emb s` to `emb s'`
(`BinGNP.ginv_thread_only`, `Lemmas/BinGNPLinQ.lean`): the fused step keeps every cell's reading, heap, `TreeBin` table and
live cells, is taken by a thread without a call, and makes no node `Used` that was not (`used_sub_x`). -/
namespace Flurry.Proto.BinGE
open Flurry.Lin
open Flurry.Proto.BinG (Tab Cid)

theorem resOfPc_emb (pc : BinG.Pc) : BinGNP.resOfPc (embPc pc) = BinG.resOfPc pc := by
  cases pc <;> first | rfl | (rename_i r; cases r <;> rfl)

theorem extOf_emb (k now t : Nat) (l : BinG.Local) : BinGNP.extOf k now t (embL l) = BinG.extOf k now t l := by
  unfold BinGNP.extOf BinG.extOf
  rw [show (embL l).pc = embPc l.pc from rfl, resOfPc_emb]
  rfl

theorem extCalls_emb (s : BinG.State) (k : Nat) : BinGNP.extCalls (emb s) k = BinG.extCalls s k := by
  unfold BinGNP.extCalls BinG.extCalls
  rw [show (emb s).threads = s.threads.map embL from rfl, List.length_map]
  refine congrArg (fun f => List.filterMap f (List.range s.threads.length)) ?_
  funext t
  rw [List.getElem?_map]
  cases s.threads[t]? with
  | none => rfl
  | some l => exact extOf_emb k s.now t l

theorem callsOnExt_emb (s : BinG.State) (k : Nat) : BinGNP.callsOnExt (emb s) k = BinG.callsOnExt s k := by
  unfold BinGNP.callsOnExt BinG.callsOnExt
  rw [extCalls_emb]
  rfl

theorem quiescent_emb {s : BinG.State} (hq : BinG.quiescent s) : BinGN.quiescent (emb s) := fun l hl => by
  obtain ⟨l0, h0, rfl⟩ := List.mem_map.1 hl
  show embPc l0.pc = _; rw [hq l0 h0]; rfl

theorem linearizable_of_emb {s : BinG.State} {k : Nat} {A : Nat → KSt} {pt : Nat → Nat}
    (g : BinGNP.GInv k (emb s) A pt) (T : BinGNP.TInv (emb s)) (habs : BinGN.absOf (emb s) k = BinG.absOf s k) :
    Lin.Linearizable (BinG.callsOnExt s k) none (BinG.absOf s k) := by
  have := g.linearizable T
  rw [callsOnExt_emb, habs] at this
  exact this

open Flurry.Proto.BinK (get_set)
open Flurry.Proto.BinGNP (cellAt liveId Used GInv Inv QuietC)

/-- no node becomes `Used` when the acting thread enters or leaves the resize with nothing pending while no other thread
is resizing (`BinGNP.QuietC.used_sub` asks that the acting thread stays inside or outside the resize) -/
theorem used_sub_x {u u' : BinGN.State} {t : Nat} {l' : BinGN.Local} (q : QuietC u u') (H : BinGNP.HInv u)
    (hthr : u'.threads = u.threads.set t l') (hk : ∀ tab k h b, l'.pc ≠ .kStore tab k h b)
    (hp : BinGNP.pend u' l'.pc = [])
    (hx : ∀ t1 l1, t1 ≠ t → u.threads[t1]? = some l1 → u'.threads[t1]? = some l1 → BinGNP.xPc l1.pc = true → False) :
    ∀ j, Used u' j → Used u j := by
  rintro j (⟨id, hj⟩ | ⟨t1, l1, tab, k, h, b, h1, hpc1, ho⟩ | ⟨t1, l1, C, h1', hx1, hC, -⟩)
  · exact Or.inl ⟨id, by rw [q.chainC_cell H] at hj; exact hj⟩
  · rw [hthr] at h1
    rcases get_set h1 with ⟨rfl, rfl⟩ | ⟨_, h1⟩
    · exact absurd hpc1 (hk tab k h b)
    · exact Or.inr (Or.inl ⟨t1, l1, tab, k, h, b, h1, hpc1, by rw [← q.owner_eq]; exact ho⟩)
  · have h1 := h1'
    rw [hthr] at h1
    rcases get_set h1 with ⟨rfl, rfl⟩ | ⟨hne, h1⟩
    · rw [hp] at hC; cases hC
    · exact (hx t1 l1 hne h1 h1' hx1).elim

theorem ginv_resizeStart_emb {s : BinG.State} {k : Nat} {A : Nat → KSt} {pt : Nat → Nat} {t : Nat} {l : BinG.Local}
    (g : BinGNP.GInv k (emb s) A pt) (I' : BinGNP.Inv (emb s))
    (hl : s.threads[t]? = some l) (hcall : l.call = none) (hr : s.resizing = false) (hn : NewOK s)
    {s' : BinG.State} (hs' : s' = { (BinG.setT (BinG.tick s) t { l with pc := .xCell }) with resizing := true })
    (I'' : BinGNP.Inv (emb s')) :
    ∃ A' pt', BinGNP.GInv k (emb s') A' pt' := by
  obtain ⟨h1, h2⟩ := hn hr
  -- the fields of the image of the successor, read off once
  obtain ⟨hthr, htabs, hcur, hheap, htb, hnow, hhist⟩ :
      (emb s').threads =
        (emb s).threads.set t { embL l with pc := .xCell 0 } ∧
      (emb s').tabs =
        (emb s).tabs ++ [List.replicate 2 .empty] ∧
      (emb s').cur = (emb s).cur ∧
      (emb s').heap = (emb s).heap ∧
      (emb s').tbins = (emb s).tbins ∧
      (emb s').now = (emb s).now + 1 ∧
      (emb s').hist = (emb s).hist := by
    subst hs'
    refine ⟨?_, ?_, rfl, rfl, rfl, rfl, rfl⟩
    · show (s.threads.set t _).map embL = (s.threads.map embL).set t _
      rw [List.map_set]; rfl
    · show (if true then [[s.cell0], [s.lowCell, s.highCell]] else [[s.cell0]]) =
        (if s.resizing then [[s.cell0], [s.lowCell, s.highCell]] else [[s.cell0]]) ++ _
      rw [hr, h1, h2]; rfl
  have hl' := emb_get hl
  clear hs'
  generalize emb s' = u' at *
  generalize emb s = u at *
  have hcells := BinGNP.cellAt_alloc htabs
  refine BinGNP.ginv_thread_only (l' := { embL l with pc := .xCell 0 }) g I' I'' hl' hthr hnow hhist hheap htb hcells ?_ ?_
    (Or.inl hcall) (Or.inl hcall) (fun p hp _ => nomatch hcall.symm.trans hp)
  · intro k
    unfold BinGNP.liveId
    rw [hcells, hcur]
  · -- afterwards the acting thread is the resizing thread, so no other is
    exact used_sub_x (.of_same hcells hheap htb) I'.heap hthr nofun rfl fun t1 l1 hne _ h1 hx1 =>
      hne (I''.rsz.uniqX t1 t l1 _ h1 (hthr ▸ Flurry.Shared.get_set_self hl') hx1 rfl)

theorem ginv_xcommit_emb {s : BinG.State} {k : Nat} {A : Nat → KSt} {pt : Nat → Nat} {t : Nat} {l : BinG.Local}
    (g : BinGNP.GInv k (emb s) A pt) (I' : BinGNP.Inv (emb s))
    (hl : s.threads[t]? = some l) (hpc : l.pc = .xCommit) (hcall : l.call = none) (hcur : s.cur = .old)
    (hr : s.resizing = true) (hm : s.cell0 = .moved) (hnm : s.lowCell ≠ .moved ∧ s.highCell ≠ .moved)
    {s' : BinG.State} (hs' : s' = { (BinG.setT (BinG.tick s) t { l with pc := .idle }) with cur := .new })
    (I'' : BinGNP.Inv (emb s')) :
    ∃ A' pt', BinGNP.GInv k (emb s') A' pt' := by
  have hn : NewOK s := fun h => by rw [hr] at h; cases h
  -- cell `(0, 0)` is forwarded and the new cells are not
  have h0 : ∀ k, cellAt (emb s) (BinGNP.idOf 0 k) = .moved := fun k => by
    rw [show (0 : Nat) = tabIx .old from rfl, idOf_emb, cellAt_emb hn]; exact hm
  have h1 : ∀ k, cellAt (emb s) (BinGNP.idOf 1 k) ≠ .moved := fun k => by
    rw [show (1 : Nat) = tabIx .new from rfl, idOf_emb, cellAt_emb hn, ← BinG.cellOf_eq]
    exact new_ne_moved hnm k
  have c0 := emb_cur_old hcur
  have hxl : BinGNP.xPc (embL l).pc = true := by show BinGNP.xPc (embPc l.pc) = true; rw [hpc]; rfl
  have hl' := emb_get hl
  -- the fields of the image of the successor, read off once
  obtain ⟨hthr, hcells, hc1, hheap, htb, hnow, hhist⟩ :
      (emb s').threads = (emb s).threads.set t { embL l with pc := .idle } ∧
      (∀ id, cellAt (emb s') id = cellAt (emb s) id) ∧ (emb s').cur = 1 ∧ (emb s').heap = (emb s).heap ∧
      (emb s').tbins = (emb s).tbins ∧ (emb s').now = (emb s).now + 1 ∧ (emb s').hist = (emb s).hist := by
    subst hs'
    refine ⟨?_, fun _ => rfl, rfl, rfl, rfl, rfl, rfl⟩
    show (s.threads.set t _).map embL = (s.threads.map embL).set t _
    rw [List.map_set]; rfl
  clear hs'
  generalize emb s' = u' at *
  generalize emb s = u at *
  refine BinGNP.ginv_thread_only (l' := { embL l with pc := .idle }) g I' I'' hl' hthr hnow hhist hheap htb hcells ?_ ?_
    (Or.inl hcall) (Or.inl hcall) (fun p hp _ => nomatch hcall.symm.trans hp)
  · -- the live cell is in generation 1 before and after
    intro k
    unfold BinGNP.liveId
    rw [hcells, c0, hc1, if_pos (h0 k), if_neg (h1 k)]
  · -- the committing thread is the resizing thread, so no other is
    exact used_sub_x (.of_same hcells hheap htb) I'.heap hthr nofun rfl fun t1 l1 hne h1 _ hx1 =>
      hne (I'.rsz.uniqX t1 t l1 (embL l) h1 hl' hx1 hxl)

end Flurry.Proto.BinGE
