import Flurry.Lemmas.ReclaimBasic
/-! # Every object is freed at most once and after it was retired; `free` is enabled exactly when
the collector waits for nobody, and that state is reached once the threads it waits for have
released their guards (C04)

Used by nothing: `frees_eq_one_iff`, `frees_eq_zero_iff`, `unprotectedRetire_after_unlink`,
`unlink_only_linked`, `run_retired_origin`. -/
namespace Flurry.Proto.Reclaim

def freedCount (st : OSt) : Nat := if st = .freed then 1 else 0

theorem freedCount_dropWaiter (t : Nat) (st : OSt) : freedCount (dropWaiter t st) = freedCount st := by
  cases st <;> rfl

/-- the `frees` ledger is exactly the indicator of `freed` -/
def FInv (s : State) : Prop := s.frees = s.objs.map freedCount

theorem FInv.count {s : State} (hI : FInv s) (o : Nat) :
    s.frees.getD o 0 = if s.objs[o]? = some .freed then 1 else 0 := by
  rw [List.getD_eq_getElem?_getD, hI, List.getElem?_map]
  cases s.objs[o]? with
  | none => rfl
  | some st => by_cases hst : st = .freed <;> simp [freedCount, hst]

theorem finv_init (n : Nat) : FInv (init n) := rfl

theorem finv_step {s s' : State} {e : Ev} (hI : FInv s) (h : step s e = some s') : FInv s' := by
  -- moving an object between two states that are not `freed` leaves the indicator as it is
  have move : ∀ {o a b}, s.objs[o]? = some a → freedCount b = freedCount a →
      s.frees = (s.objs.set o b).map freedCount := fun {o a b} ho hb => by
    rw [hI]; apply List.ext_getElem?; intro j
    rw [List.getElem?_map, List.getElem?_map, getElem?_set_of_some ho]
    by_cases e : j = o
    · rw [if_pos e, e, ho]; exact congrArg some hb.symm
    · rw [if_neg e]
  -- a freeing event sets both the object and its count
  have freeing : ∀ {o st}, s.objs[o]? = some st → st ≠ .freed →
      s.frees.set o (s.frees.getD o 0 + 1) = (s.objs.set o .freed).map freedCount := fun {o st} ho hst => by
    rw [hI.count o, ho, if_neg (fun e => hst (Option.some.inj e)), List.map_set, ← hI]; rfl
  cases Step.of_step h with
  | enter | acquire | touch => exact hI
  | exit =>
    show s.frees = (s.objs.map (dropWaiter _)).map freedCount
    rw [List.map_map, hI]; congr 1; funext st; exact (freedCount_dropWaiter _ st).symm
  | alloc =>
    show s.frees ++ [0] = (s.objs ++ [OSt.fresh]).map freedCount
    rw [List.map_append, ← hI]; rfl
  | publish _ ho | unlink _ ho | retire _ ho => exact move ho rfl
  | unprotectedRetire _ ho => exact freeing ho nofun
  | free ho => exact freeing ho nofun

theorem finv_run {s s' : State} {es : List Ev} (hI : FInv s) (h : run s es = some s') : FInv s' :=
  run_preserves (P := FInv) (fun _ _ _ hP hs => finv_step hP hs) hI h

/-- C04: **no object is freed twice**, in any run (protected or not) -/
theorem free_at_most_once {n : Nat} {es : List Ev} {s : State} (h : run (init n) es = some s) :
    ∀ o, s.frees.getD o 0 ≤ 1 := by
  intro o; rw [(finv_run (finv_init n) h).count o]; split <;> omega

theorem frees_eq_one_iff {n : Nat} {es : List Ev} {s : State} (h : run (init n) es = some s) (o : Nat) :
    s.frees.getD o 0 = 1 ↔ s.objs[o]? = some .freed := by
  rw [(finv_run (finv_init n) h).count o]; split <;> simp_all

theorem frees_eq_zero_iff {n : Nat} {es : List Ev} {s : State} (h : run (init n) es = some s) (o : Nat) :
    s.frees.getD o 0 = 0 ↔ s.objs[o]? ≠ some .freed := by
  rw [(finv_run (finv_init n) h).count o]; split <;> simp_all

/-- position in the life cycle `fresh → linked → unlinked → retired → freed` -/
def rank : OSt → Nat
  | .fresh => 0 | .linked => 1 | .unlinked => 2 | .retired _ => 3 | .freed => 4

theorem rank_dropWaiter (t : Nat) (st : OSt) : rank (dropWaiter t st) = rank st := by
  cases st <;> rfl

theorem step_rank_mono {s s' : State} {e : Ev} (h : step s e = some s') {o : Nat} {st : OSt}
    (ho : s.objs[o]? = some st) : ∃ st', s'.objs[o]? = some st' ∧ rank st ≤ rank st' := by
  have hs := step_obj h o
  rw [ho] at hs
  generalize s'.objs[o]? = b at hs
  cases hs with
  | same => exact ⟨st, rfl, Nat.le_refl _⟩
  | exit t hb => exact ⟨_, hb, Nat.le_of_eq (rank_dropWaiter t st).symm⟩
  | publish | unlink | retire | unprotectedRetire | free => exact ⟨_, rfl, by simp [rank]⟩

theorem run_rank_mono {s s' : State} {es : List Ev} (h : run s es = some s') {o : Nat} {st : OSt}
    (ho : s.objs[o]? = some st) : ∃ st', s'.objs[o]? = some st' ∧ rank st ≤ rank st' := by
  induction es generalizing s st with
  | nil => simp at h; subst h; exact ⟨st, ho, Nat.le_refl _⟩
  | cons e es ih =>
    obtain ⟨s1, h1, h2⟩ := run_cons_some.1 h
    obtain ⟨st1, ho1, hr1⟩ := step_rank_mono h1 ho
    obtain ⟨st', ho', hr'⟩ := ih h2 ho1
    exact ⟨st', ho', Nat.le_trans hr1 hr'⟩

theorem freed_stays_freed {s s' : State} {es : List Ev} (h : run s es = some s') {o : Nat}
    (ho : s.objs[o]? = some .freed) : s'.objs[o]? = some .freed := by
  obtain ⟨st', ho', hr⟩ := run_rank_mono h ho
  cases st' with
  | freed => exact ho'
  | _ => exact absurd hr (by simp [rank])

theorem retire_after_unlink {s s' : State} {t o : Nat} (h : step s (.retire t o) = some s') :
    s.objs[o]? = some .unlinked ∧ guardedB s t = true := by
  cases Step.of_step h with
  | retire ht ho hg => exact ⟨ho, by rw [guardedB_of_some ht]; exact hg⟩

theorem unprotectedRetire_after_unlink {s s' : State} {t o : Nat}
    (h : step s (.unprotectedRetire t o) = some s') : s.objs[o]? = some .unlinked := by
  cases Step.of_step h with
  | unprotectedRetire _ ho => exact ho

theorem acquire_only_linked {s s' : State} {t o : Nat} (h : step s (.acquire t o) = some s') :
    s.objs[o]? = some .linked ∧ guardedB s t = true := by
  cases Step.of_step h with
  | acquire ht ho hg => exact ⟨ho, by rw [guardedB_of_some ht]; exact hg⟩

theorem unlink_only_linked {s s' : State} {t o : Nat} (h : step s (.unlink t o) = some s') :
    s.objs[o]? = some .linked ∧ guardedB s t = true ∧ o ∈ holdsOf s t := by
  cases Step.of_step h with
  | unlink ht ho hm hg =>
    exact ⟨ho, by rw [guardedB_of_some ht]; exact hg, mem_holdsOf ht hm⟩

/-- once an object has been unlinked no thread can obtain a pointer to it any more: whatever happens
afterwards, `acquire` stays disabled -/
theorem no_acquire_after_unlink {s s' : State} {es : List Ev} {o : Nat} {st : OSt}
    (ho : s.objs[o]? = some st) (hr : rank .linked < rank st) (h : run s es = some s') (t : Nat) :
    step s' (.acquire t o) = none := by
  cases hst : step s' (.acquire t o) with
  | none => rfl
  | some s'' =>
    obtain ⟨st', ho', hr'⟩ := run_rank_mono h ho
    have := (acquire_only_linked hst).1
    rw [ho'] at this; cases this; exact absurd (Nat.lt_of_lt_of_le hr hr') (Nat.lt_irrefl _)

theorem no_acquire_after_unlink_event {s s1 s' : State} {es : List Ev} {t0 o : Nat}
    (h0 : step s (.unlink t0 o) = some s1) (h : run s1 es = some s') (t : Nat) :
    step s' (.acquire t o) = none := by
  cases Step.of_step h0 with
  | unlink _ ho =>
    exact no_acquire_after_unlink (st := .unlinked) ((getElem?_set_of_some ho _ o).trans (if_pos rfl)) (Nat.lt_succ_self 1) h t

theorem step_retired_origin {s s' : State} {e : Ev} (h : step s e = some s') {o : Nat} {w : List Nat}
    (ho : s'.objs[o]? = some (.retired w)) :
    (∃ w0, s.objs[o]? = some (.retired w0)) ∨ ∃ t, e = .retire t o := by
  have hs := step_obj h o
  rw [ho] at hs
  generalize s.objs[o]? = a at hs
  cases hs with
  | same => exact .inl ⟨w, rfl⟩
  | exit t hb =>
    cases a with
    | none => cases hb
    | some st =>
      obtain ⟨w0, rfl, -⟩ := dropWaiter_eq_retired.1 (Option.some.inj hb).symm
      exact .inl ⟨w0, rfl⟩
  | retire t => exact .inr ⟨t, rfl⟩

theorem step_freed_origin {s s' : State} {e : Ev} (h : step s e = some s') {o : Nat}
    (ho : s'.objs[o]? = some .freed) :
    s.objs[o]? = some .freed ∨ (s.objs[o]? = some (.retired []) ∧ e = .free o) ∨
      (s.objs[o]? = some .unlinked ∧ ∃ t, e = .unprotectedRetire t o) := by
  have hs := step_obj h o
  rw [ho] at hs
  generalize s.objs[o]? = a at hs
  cases hs with
  | same => exact .inl rfl
  | exit t hb =>
    cases a with
    | none => cases hb
    | some st => rw [dropWaiter_eq_freed.1 (Option.some.inj hb).symm]; exact .inl rfl
  | unprotectedRetire t => exact .inr (.inr ⟨rfl, t, rfl⟩)
  | free => exact .inr (.inl ⟨rfl, rfl⟩)

theorem run_retired_origin {s s' : State} {es : List Ev} (h : run s es = some s') {o : Nat} {w : List Nat}
    (ho : s'.objs[o]? = some (.retired w)) :
    (∃ w0, s.objs[o]? = some (.retired w0)) ∨ ∃ t, .retire t o ∈ es := by
  induction es generalizing s with
  | nil => simp at h; subst h; exact .inl ⟨w, ho⟩
  | cons e es ih =>
    obtain ⟨s1, h1, h2⟩ := run_cons_some.1 h
    rcases ih h2 with ⟨w1, hw1⟩ | ⟨t, ht⟩
    · rcases step_retired_origin h1 hw1 with h' | ⟨t, rfl⟩
      · exact .inl h'
      · exact .inr ⟨t, by simp⟩
    · exact .inr ⟨t, by simp [ht]⟩

theorem run_freed_origin {s s' : State} {es : List Ev} (h : run s es = some s') {o : Nat}
    (ho : s'.objs[o]? = some .freed) :
    s.objs[o]? = some .freed ∨
      ((.free o ∈ es) ∧ ((∃ w0, s.objs[o]? = some (.retired w0)) ∨ ∃ t, .retire t o ∈ es)) ∨
      ∃ t, .unprotectedRetire t o ∈ es := by
  induction es generalizing s with
  | nil => simp at h; subst h; exact .inl ho
  | cons e es ih =>
    obtain ⟨s1, h1, h2⟩ := run_cons_some.1 h
    rcases ih h2 with hf | ⟨hfe, hr⟩ | ⟨t, ht⟩
    · rcases step_freed_origin h1 hf with h' | ⟨h', rfl⟩ | ⟨h', t, rfl⟩
      · exact .inl h'
      · exact .inr (.inl ⟨by simp, .inl ⟨_, h'⟩⟩)
      · exact .inr (.inr ⟨t, by simp⟩)
    · refine .inr (.inl ⟨by simp [hfe], ?_⟩)
      rcases hr with ⟨w1, hw1⟩ | ⟨t, ht⟩
      · rcases step_retired_origin h1 hw1 with h' | ⟨t, rfl⟩
        · exact .inl h'
        · exact .inr ⟨t, by simp⟩
      · exact .inr ⟨t, by simp [ht]⟩
    · exact .inr (.inr ⟨t, by simp [ht]⟩)

/-- C04: an object is only freed by the collector (`free`) after it was retired through a guard, or
at once by an unprotected retire -/
theorem freed_was_retired_or_unprotected {n : Nat} {es : List Ev} {s : State}
    (h : run (init n) es = some s) {o : Nat} (ho : s.objs[o]? = some .freed) :
    ((.free o ∈ es) ∧ ∃ t, .retire t o ∈ es) ∨ ∃ t, .unprotectedRetire t o ∈ es := by
  rcases run_freed_origin h ho with h' | ⟨hf, ⟨w0, h'⟩ | hr⟩ | hu
  · simp [init] at h'
  · simp [init] at h'
  · exact .inl ⟨hf, hr⟩
  · exact .inr hu

theorem freed_was_retired {n : Nat} {es : List Ev} {s : State}
    (h : run (init n) es = some s) (hp : Protected es) {o : Nat} (ho : s.objs[o]? = some .freed) :
    (.free o ∈ es) ∧ ∃ t, .retire t o ∈ es := by
  rcases freed_was_retired_or_unprotected h ho with h' | ⟨t, ht⟩
  · exact h'
  · exact absurd rfl (hp _ ht t o)

/-- "never before": the collector frees only when it waits for nobody -/
theorem free_enabled_only_if {s s' : State} {o : Nat} (h : step s (.free o) = some s') :
    s.objs[o]? = some (.retired []) := by
  cases Step.of_step h with
  | free ho => exact ho

theorem free_enabled_iff {s : State} {o : Nat} :
    (∃ s', step s (.free o) = some s') ↔ s.objs[o]? = some (.retired []) := by
  constructor
  · rintro ⟨s', h⟩; exact free_enabled_only_if h
  · intro h; simp [step, h]

theorem free_refused_of_waiting {s : State} {o t : Nat} {w : List Nat}
    (h : s.objs[o]? = some (.retired w)) (ht : t ∈ w) : step s (.free o) = none := by
  cases hst : step s (.free o) with
  | none => rfl
  | some s' =>
    have := free_enabled_only_if hst
    rw [h] at this; cases this; simp at ht

theorem run_exits_retired {s s' : State} {ts : List Nat} (h : run s (ts.map .exit) = some s')
    {o : Nat} {w : List Nat} (ho : s.objs[o]? = some (.retired w)) :
    s'.objs[o]? = some (.retired (w.filter (fun x => !ts.contains x))) := by
  induction ts generalizing s w with
  | nil =>
    simp at h; subst h
    have : w.filter (fun _ => true) = w := List.filter_eq_self.2 (fun _ _ => rfl)
    simp [ho, this]
  | cons t ts ih =>
    obtain ⟨s1, h1, h2⟩ := run_cons_some.1 h
    cases Step.of_step h1
    have ho1 := (List.getElem?_map (f := dropWaiter t)).trans (congrArg _ ho)
    rw [ih h2 ho1, List.filter_filter]
    congr 3
    funext x
    simp only [List.contains_cons, Bool.not_or, bne, Bool.and_comm]

theorem exits_enabled {s : State} {ts : List Nat} (hg : ∀ t ∈ ts, guardedB s t = true)
    (hn : ts.Nodup) : ∃ s', run s (ts.map .exit) = some s' := by
  induction ts generalizing s with
  | nil => exact ⟨s, rfl⟩
  | cons t ts ih =>
    obtain ⟨th, hth, hgt⟩ := mem_activeThreads.1 (mem_activeThreads_iff.2 (hg t List.mem_cons_self))
    rw [List.nodup_cons] at hn
    have h1 : step s (.exit t) = some
        { setThr s t { guarded := false, holds := [] } with objs := s.objs.map (dropWaiter t) } := by
      simp [step, hth, hgt]
    obtain ⟨s', h'⟩ := ih (s := { setThr s t _ with objs := _ }) (fun t' ht' => by
      rw [guardedB_set rfl hth t', if_neg (fun e : t' = t => hn.1 (e ▸ ht'))]
      exact hg t' (List.mem_cons_of_mem _ ht')) hn.2
    exact ⟨s', by rw [List.map_cons, run_cons, h1]; exact h'⟩

/-- once every thread the collector waits for has released its guard, `free o` is enabled (the
"after" half of C04) -/
theorem eventually_freeable {s s' : State} {o : Nat} {w : List Nat}
    (ho : s.objs[o]? = some (.retired w)) (h : run s (w.map .exit) = some s') :
    ∃ s'', step s' (.free o) = some s'' := by
  apply free_enabled_iff.2
  rw [run_exits_retired h ho]
  congr 2
  simp [List.filter_eq_nil_iff]

theorem nodup_activeThreads (ts : List Thread) : (activeThreads ts).Nodup :=
  List.Nodup.sublist (List.filter_sublist.map _) (List.zipIdx_map_snd 0 ts ▸ List.nodup_range')

/-- the collector only waits for threads that are still guarded, and for each once -/
def WInv (s : State) : Prop :=
  ∀ (o : Nat) (w : List Nat), s.objs[o]? = some (.retired w) → w.Nodup ∧ ∀ t ∈ w, guardedB s t = true

theorem winv_init (n : Nat) : WInv (init n) := fun _ _ h => nomatch h

theorem step_guardedB_mono {s s' : State} {e : Ev} (h : step s e = some s') {t : Nat} (hne : e ≠ .exit t)
    (hg : guardedB s t = true) : guardedB s' t = true := by
  have hs := step_thr h t
  rw [hg] at hs
  generalize guardedB s' t = g', holdsOf s t = hs0, holdsOf s' t = hs' at hs
  cases hs with
  | same | alloc | acquire => rfl
  | exit => exact absurd rfl hne

theorem winv_step {s s' : State} {e : Ev} (hI : WInv s) (h : step s e = some s') : WInv s' := by
  intro o w' ho
  have hs := step_obj h o
  rw [ho] at hs
  generalize ha : s.objs[o]? = a at hs
  cases hs with
  | same hne =>
    obtain ⟨hn, hg⟩ := hI o w' ha
    exact ⟨hn, fun t ht => step_guardedB_mono h (hne t) (hg t ht)⟩
  | exit t hb =>
    cases a with
    | none => cases hb
    | some st =>
      obtain ⟨w, rfl, rfl⟩ := dropWaiter_eq_retired.1 (Option.some.inj hb).symm
      obtain ⟨hn, hg⟩ := hI o w ha
      refine ⟨hn.filter _, fun t' ht' => ?_⟩
      rw [List.mem_filter, bne_iff_ne] at ht'
      exact step_guardedB_mono h (fun e => ht'.2 (Ev.exit.inj e).symm) (hg t' ht'.1)
  | retire t =>
    exact ⟨nodup_activeThreads _, fun t' ht' => step_guardedB_mono h nofun (mem_activeThreads_iff.1 ht')⟩

theorem winv_run {s s' : State} {es : List Ev} (hI : WInv s) (h : run s es = some s') : WInv s' :=
  run_preserves (P := WInv) (fun _ _ _ hP hs => winv_step hP hs) hI h

/-- C04: in any reachable state, a retired object is reclaimed as soon as the threads the collector
waits for have released their guards - and they can: values are dropped after the last guard that
could observe them is gone, never before (`free_enabled_only_if`, `free_refused_of_waiting`). -/
theorem retired_eventually_freed {n : Nat} {es : List Ev} {s : State} (h : run (init n) es = some s)
    {o : Nat} {w : List Nat} (ho : s.objs[o]? = some (.retired w)) :
    ∃ s' s'', run s (w.map .exit) = some s' ∧ step s' (.free o) = some s'' ∧
      s''.objs[o]? = some .freed := by
  obtain ⟨hn, hg⟩ := winv_run (winv_init n) h o w ho
  obtain ⟨s', h1⟩ := exits_enabled hg hn
  obtain ⟨s'', h2⟩ := eventually_freeable ho h1
  refine ⟨s', s'', h1, h2, ?_⟩
  cases Step.of_step h2 with
  | free ho' => exact (getElem?_set_of_some ho' _ o).trans (if_pos rfl)

end Flurry.Proto.Reclaim
