import Flurry.Lemmas.BinNSurgery
import Flurry.Lemmas.BinNHMStore
/-! # Proto/BinN: the store of a validated writer (C01)

`StoreOK`, `absOf_active`, `store_effect` of `Lemmas/BinNHMStore.lean` at `BinNHM.toM G` (`storeOK_toM`). -/
namespace Flurry.Proto.BinN
open Flurry.Lin
open Flurry.Proto.BinX (NodeS Cell Pending isReader nodeAt chainH absIn Walk)
open BinNHM (toM active_toM)

def StoreOK (s : State) (G : Ghost) (id : CellId) (p : Pending) (r : State × KRes) : Prop :=
  Effect s r.1 G id ∧ r.1.threads = s.threads ∧
  specStep (absOf s p.key) p.op = (absOf r.1 p.key, r.2) ∧ ∀ k, k ≠ p.key → absOf r.1 k = absOf s k

theorem storeOK_toM {s : State} {G : Ghost} {id : CellId} {p : Pending} {r : State × KRes} :
    BinNHM.StoreOK s (toM G) id p r ↔ StoreOK s G id p r := and_congr effect_toM Iff.rfl

theorem absOf_active {s : State} {G : Ghost} {id : CellId} (H : HInv s G) (act : Active s G id) {k : Nat}
    (hk : keyOn id k) : absOf s k = absIn s.heap (chId s id) k :=
  BinNHM.absOf_active H.toM (active_toM.2 act) hk

theorem store_effect {s : State} {G : Ghost} {g : Nat} (H : HInv s G) (p : Pending)
    (hwr : isReader p.op = false) (act : Active s G (cellId g p.key)) {h : Nat} {pred hit hnext : Option Nat}
    (hcell : cellOf s g p.key = .node h)
    (hw : Walk s.heap (chainH s.heap (cellOf s g p.key)) p.key pred hit)
    (hhit : ∀ i, hit = some i → (nodeAt s.heap i).key = p.key ∧ hnext = (nodeAt s.heap i).next) :
    StoreOK s G (cellId g p.key) p (storeAt s g p pred hit hnext) :=
  storeOK_toM.1 (BinNHM.store_effect H.toM p hwr (active_toM.2 act) hcell hw hhit)

end Flurry.Proto.BinN
