import Flurry.Lemmas.LinSearch
import Flurry.Lemmas.Lin2Points
/-! # Linearization points, sanity lemmas of the per-key specification, examples: the statements of
`Lemmas/Lin2Points.lean` for `Lin` (the comments are there) -/
namespace Flurry.Lin

theorem replay_append (h : History) (o₁ o₂ : List Nat) (st : KSt) :
    replay h (o₁ ++ o₂) st = (replay h o₁ st).bind (replay h o₂) := by
  simpa only [replay2_map, funext (replay2_map h o₂)] using
    Lin2.replay_append (h.map embCall) o₁ o₂ st

theorem lin_of_points {h : History} {init fin : KSt} (pt : Nat → Nat) (order : List Nat)
    (hpt : ∀ (i : Nat) (hi : i < h.length), h[i].inv ≤ pt i ∧ pt i ≤ h[i].resp)
    (hperm : order.Perm (List.range h.length))
    (hsorted : order.Pairwise (fun a b => pt a < pt b))
    (hrep : replay h order init = some fin) : Linearizable h init fin := by
  refine linearizable2_map.1 (Lin2.lin_of_points pt order ?_ ?_ hsorted ?_)
  · intro i hi
    rw [List.getElem_map]
    exact hpt i (by rwa [List.length_map] at hi)
  · rwa [List.length_map]
  · rwa [replay2_map]

def pointOrder (h : History) (pt : Nat → Nat) : List Nat :=
  (List.range h.length).mergeSort (fun a b => decide (pt a ≤ pt b))

theorem pointOrder_map (h : History) (pt : Nat → Nat) :
    Lin2.pointOrder (h.map embCall) pt = pointOrder h pt := by
  rw [Lin2.pointOrder, List.length_map, pointOrder]

theorem lin_of_points_sorted {h : History} {init fin : KSt} (pt : Nat → Nat)
    (hpt : ∀ (i : Nat) (hi : i < h.length), h[i].inv ≤ pt i ∧ pt i ≤ h[i].resp)
    (hinj : ∀ i j, i < h.length → j < h.length → pt i = pt j → i = j)
    (hrep : replay h (pointOrder h pt) init = some fin) : Linearizable h init fin := by
  refine lin_of_points pt _ hpt ?_ ?_ hrep
  · simpa only [pointOrder_map, List.length_map] using Lin2.pointOrder_perm (h.map embCall) pt
  · simpa only [pointOrder_map] using
      Lin2.pointOrder_sorted (h.map embCall) pt (by simpa only [List.length_map] using hinj)

theorem spec_read_after_ins (st : KSt) (v vi : Nat) :
    (specStep (specStep st (.ins v vi)).1 .get).2 = .some v vi ∧
    (specStep (specStep st .rm).1 .get).2 = .none ∧
    (specStep (specStep st .rm).1 .has).2 = .bool false := ⟨rfl, rfl, rfl⟩

theorem spec_has_after_ins (st : KSt) (v vi : Nat) :
    (specStep (specStep st (.ins v vi)).1 .has).2 = .bool true := rfl

theorem spec_tryIns_keeps (v0 vi0 v vi : Nat) :
    specStep (some (v0, vi0)) (.tryIns v vi) = (some (v0, vi0), .exists_ v0 vi0) := rfl

theorem spec_tryIns_absent (v vi : Nat) :
    specStep none (.tryIns v vi) = (some (v, vi), .none) := rfl

theorem spec_reads_pure (st : KSt) :
    (specStep st .get).1 = st ∧ (specStep st .has).1 = st := ⟨rfl, rfl⟩

theorem spec_absent_stays {op : KOp} (hop : (specStep none op).1 ≠ none) :
    (∃ v vi, op = .ins v vi) ∨ (∃ v vi, op = .tryIns v vi) := by
  cases op <;> simp [specStep] at hop ⊢

theorem spec_present_change {st : KSt} {op : KOp} (hst : st.isSome = true)
    (hop : (specStep st op).1 ≠ st) :
    (∃ v vi, op = .ins v vi) ∨ op = .rm ∨ (∃ n, op = .cipInc n) ∨ op = .cipRm := by
  cases st with
  | none => simp at hst
  | some p => cases op <;> simp [specStep] at hop ⊢

theorem spec_cipInc_counts {h : History} {v vi : Nat} {fin : KSt}
    (hl : Linearizable h (some (v, vi)) fin) (hall : ∀ c ∈ h, ∃ n, c.op = .cipInc n) :
    ∃ vi', fin = some (v + h.length, vi') := by
  simpa only [List.length_map] using Lin2.spec_cipInc_counts (linearizable2_map.2 hl)
    (List.forall_mem_map.2 fun c hc => (hall c hc).imp fun n hn => by rw [embCall, hn]; rfl)

theorem spec_cipInc_absent (n : Nat) : specStep none (.cipInc n) = (none, .none) := rfl

theorem lin_snoc_get {h : History} {init fin : KSt} {c : Call}
    (hl : Linearizable h init fin) (hop : c.op = .get) (hres : c.res = resOf fin)
    (hlast : ∀ d ∈ h, d.inv ≤ c.resp) : Linearizable (h ++ [c]) init fin := by
  rw [← linearizable2_map, List.map_append]
  refine Lin2.lin_snoc_get (linearizable2_map.2 hl) (by rw [embCall, hop]; rfl) ?_
    (List.forall_mem_map.2 hlast)
  rw [embCall, hres]
  cases fin <;> rfl

theorem lin_final_read {h : History} {init fin : KSt} {c : Call}
    (hl : Linearizable h init fin) (hop : c.op = .get) (hres : c.res = resOf fin)
    (hafter : ∀ d ∈ h, d.resp < c.inv)
    (hwf : ∀ d ∈ h, d.inv ≤ d.resp) (hc : c.inv ≤ c.resp) :
    Linearizable (h ++ [c]) init fin := by
  -- `d.inv ≤ d.resp < c.inv ≤ c.resp`
  exact lin_snoc_get hl hop hres fun d hd =>
    Nat.le_trans (hwf d hd) (Nat.le_trans (Nat.le_of_lt (hafter d hd)) hc)

def exLin : History :=
  [ ⟨0, .ins 1 10, .none, 0, 3⟩, ⟨1, .get, .some 1 10, 1, 2⟩, ⟨0, .rm, .some 1 10, 4, 5⟩ ]

example : validate exLin [0, 1, 2] none none = true := by decide
example : Linearizable exLin none none := validate_sound (by decide : validate exLin [0, 1, 2] none none = true)
example : search exLin none none = some [0, 1, 2] := by decide
example : validate exLin [1, 0, 2] none none = false := by decide
example : validate exLin [2, 0, 1] none none = false := by decide

def exNotLin : History :=
  [ ⟨0, .get, .some 1 10, 0, 1⟩, ⟨1, .ins 1 10, .none, 2, 3⟩, ⟨0, .has, .bool true, 4, 5⟩ ]

example : search exNotLin none (some (1, 10)) = none := by decide
example : ¬ Linearizable exNotLin none (some (1, 10)) := search_eq_none_iff.1 (by decide)
example : ¬ Linearizable exNotLin none (some (1, 10)) := by decide

def exLost : History :=
  [ ⟨0, .cipInc 1, .some 6 1, 0, 3⟩, ⟨1, .cipInc 2, .some 6 2, 1, 2⟩ ]

example : ∀ fin, fin ∈ [none, some (6, 1), some (6, 2), some (7, 1), some (7, 2)] →
    search exLost (some (5, 0)) fin = none := by decide
example : search [⟨0, .cipInc 1, .some 6 1, 0, 3⟩, ⟨1, .cipInc 2, .some 7 2, 1, 2⟩] (some (5, 0)) (some (7, 2))
    = some [0, 1] := by decide

def exBadInterval : History := [ ⟨0, .get, .none, 5, 0⟩ ]

example : Linearizable exBadInterval none none := by decide
example : ∀ d ∈ exBadInterval, d.resp < (⟨1, .get, .none, 1, 2⟩ : Call).inv := by decide
example : ¬ Linearizable (exBadInterval ++ [⟨1, .get, .none, 1, 2⟩]) none none := by decide

end Flurry.Lin
