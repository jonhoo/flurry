import Flurry.Lemmas.BinKChain
/-! # Four facts on chains, sublists, `TreeBin` tables and copied nodes

`Lemmas/BinGNPFactsX`, `Lemmas/BinGNPFactsK` and `Lemmas/BinGNPGhostL` use them. -/
namespace Flurry.Proto.BinK

theorem mem_chainFrom_lt {heap : List NodeS} : ∀ (fuel : Nat) (st : Option Nat) (i : Nat),
    i ∈ chainFrom heap fuel st → i < heap.length
  | 0, _, _, h => by simp [chainFrom] at h
  | _ + 1, none, _, h => by simp [chainFrom] at h
  | fuel + 1, some j, i, h => by
    simp only [chainFrom] at h
    cases hj : heap[j]? with
    | none => rw [hj] at h; simp at h
    | some n =>
      rw [hj] at h
      rcases List.mem_cons.1 h with rfl | h
      · exact (List.getElem?_eq_some_iff.1 hj).1
      · exact mem_chainFrom_lt fuel n.next i h

theorem pair_total {L : List Nat} (hnd : L.Nodup) {a b : Nat} (ha : a ∈ L) (hb : b ∈ L) (hne : a ≠ b) :
    List.Sublist [a, b] L ∨ List.Sublist [b, a] L := by
  obtain ⟨p, q, rfl⟩ := List.append_of_mem hb
  rcases List.mem_append.1 ha with h | h
  · exact Or.inl ((pair_sublist_iff hnd rfl a).2 h)
  · rcases List.mem_cons.1 h with h | h
    · exact absurd h hne
    · right
      obtain ⟨q1, q2, rfl⟩ := List.append_of_mem h
      have e : p ++ b :: (q1 ++ a :: q2) = (p ++ b :: q1) ++ a :: q2 := by simp
      exact (pair_sublist_iff (p := p ++ b :: q1) hnd e b).2 (by simp)

theorem binAt_append_ge (tb ext : List TBin) {b : Nat} (hb : tb.length ≤ b) :
    binAt (tb ++ ext) b = dfltB ∨ binAt (tb ++ ext) b ∈ ext := by
  rw [binAt_eq]
  by_cases hlt : b < (tb ++ ext).length
  · right
    rw [List.length_append] at hlt
    rw [List.getElem?_append_right hb, List.getElem?_eq_getElem (by omega)]
    exact List.getElem_mem _
  · left
    rw [List.getElem?_eq_none (by omega)]; rfl

theorem copiesOf_lock {heap : List NodeS} {O : List Nat} {mk : NodeS → Option Nat → NodeS}
    (hmk : ∀ src nx, (mk src nx).lock = none) (x : Nat) :
    (nodeAt (heap ++ copiesOf heap O mk) x).lock = (nodeAt heap x).lock :=
  (copies_shape heap O mk hmk).2.2.2.2 x

end Flurry.Proto.BinK
