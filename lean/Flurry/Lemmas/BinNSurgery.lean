import Flurry.Lemmas.BinNSurgeryDefs
import Flurry.Lemmas.BinNHMSurgery
/-! # Proto/BinN: the generic surgery on the chain of an active cell (C01, C10)

The lemmas of `Lemmas/BinNHMSurgery.lean` (any number of splits under way) at `BinNHM.toM G`: `hinv_update` — a store
into the chain of an *active* cell does not affect the other chains nor the cell that is being split — and those
about `Update`. Only `hinv_update` has a user (`Lemmas/BinNRRetired.lean`); `clear_update` and `Update.live_of_cleared` say
what a store that empties a cell would satisfy (`BinNHM.MemStep.clear`). -/
namespace Flurry.Proto.BinN
open Flurry.Lin
open Flurry.Proto.BinX (NodeS Cell Pending dflt nodeAt chainH cellOfHead)
open BinNHM (toM toM_mid live_toM active_toM hinv_toM)

theorem Update.chains {s s' : State} {G : Ghost} {id : CellId} {C' : List Nat} (H : HInv s G)
    (act : Active s G id) (u : Update s s' G id C') :
    chId s' id = C' ∧ ∀ id', id' ≠ id → chId s' id' = chId s id' :=
  BinNHM.Update.chains H.toM (active_toM.2 act) (update_toM.2 u)

theorem Update.active_iff {s s' : State} {G : Ghost} {id : CellId} {C' : List Nat} (S : Shape s)
    (act : Active s G id) (u : Update s s' G id C') (id' : CellId) : Active s' G id' ↔ Active s G id' := by
  rw [← active_toM, ← active_toM]
  exact BinNHM.Update.active_iff S (active_toM.2 act) (update_toM.2 u) id'

theorem hinv_update {s s' : State} {G : Ghost} {id : CellId} {C' : List Nat} (H : HInv s G)
    (act : Active s G id) (u : Update s s' G id C') : HInv s' G :=
  hinv_toM.2 ⟨BinNHM.hinv_update H.toM (active_toM.2 act) (update_toM.2 u),
    (hinv_toM.1 H).2.mono u.len rfl (fun _ h => h)⟩

theorem clear_update {s s' : State} {G : Ghost} {id : CellId} (H : HInv s G) (act : Active s G id)
    (hh : s'.heap = s.heap)
    (hcell : ∀ id', getCell s' id' = if id' = id then .empty else getCell s id') (hcur : s'.cur = s.cur)
    (hres : s'.resizing = s.resizing) (htl : s'.tabs.length = s.tabs.length)
    (hrows : ∀ (g : Nat) (row' : List Cell), s'.tabs[g]? = some row' →
      ∃ row : List Cell, s.tabs[g]? = some row ∧ row'.length = row.length) :
    Update s s' G id [] ∧ ∀ k, absOf s' k = if liveId s k = id then none else absOf s k :=
  (BinNHM.clear_update H.toM (active_toM.2 act) hh hcell hcur hres htl hrows).imp update_toM.1 fun h => h

theorem Update.live_of_cleared {s s' : State} {G : Ghost} {id : CellId} (H : HInv s G) (act : Active s G id)
    (u : Update s s' G id []) {j : Nat} (hl : Live s' G j) : Live s G j ∧ j ∉ chId s id :=
  (BinNHM.Update.live_of_cleared H.toM (active_toM.2 act) (update_toM.2 u) (live_toM.2 hl)).imp live_toM.1 fun h => h

end Flurry.Proto.BinN
