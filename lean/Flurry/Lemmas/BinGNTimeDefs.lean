import Flurry.Proto.BinGN
/-! # Proto/BinGN: threads, calls and times (definitions)

`TInv s`: a thread has a call in flight iff its program counter is a reader's or a writer's; readers' program
counters go with read operations; the history is well-timed (`inv ≤ resp ≤ now`), pending calls were invoked in
the past, and all invocation stamps (completed and pending) are pairwise distinct. -/
namespace Flurry.Proto.BinGN
open Flurry.Lin

def readerPc : Pc → Bool
  | .rTable _ | .rCell _ _ | .rNode _ | .rFirst _ | .rState _ _ | .rLin _ _ | .rCas _ _ _ | .rTree _
  | .rRelease _ _ | .rVal _ | .lFirst _ | .lNode _ => true
  | _ => false

/-- program counters without a call in flight: idle, treeify, the resizing thread -/
def noCallPc : Pc → Bool
  | .idle | .kTable _ | .kCell _ _ | .kLock _ _ _ | .kCheck _ _ _ | .kBuild _ _ _ | .kStore _ _ _ _ | .kUnlock _
  | .xNext | .xCell _ | .xCasMoved _ | .xLock _ _ | .xCheck _ _ | .xBuild _ _ | .yMutex _ _ | .yCheck _ _
  | .yBuild _ _ | .xStoreLow _ _ _ _ | .xStoreHigh _ _ _ | .xStoreMoved _ _ | .xUnlock _ | .xCommit => true
  | _ => false

structure TInv (s : State) : Prop where
  opOK : ∀ (t : Nat) (l : Local) (p : Pending), s.threads[t]? = some l → l.call = some p →
    isReader p.op = readerPc l.pc
  callOK : ∀ (t : Nat) (l : Local), s.threads[t]? = some l → (l.call = none ↔ noCallPc l.pc = true)
  histTime : ∀ x ∈ s.hist, x.2.inv ≤ x.2.resp ∧ x.2.resp ≤ s.now
  pendTime : ∀ (t : Nat) (l : Local) (p : Pending), s.threads[t]? = some l → l.call = some p → p.inv ≤ s.now
  uniqHP : ∀ x ∈ s.hist, ∀ (t : Nat) (l : Local) (p : Pending), s.threads[t]? = some l → l.call = some p →
    x.2.inv ≠ p.inv
  uniqPP : ∀ (t t' : Nat) (l l' : Local) (p p' : Pending), s.threads[t]? = some l → s.threads[t']? = some l' →
    l.call = some p → l'.call = some p' → p.inv = p'.inv → t = t'
  uniqHH : s.hist.Pairwise (fun x y => x.2.inv ≠ y.2.inv)

end Flurry.Proto.BinGN
