import Flurry.Lemmas.BinGNTimeDefs
/-! # Proto/BinGN: `quietX`, the program counters of the resizing thread that `transfer_quiet_steps_abs_invariant`
(`Props/C01BinGN.lean`) speaks of; they are program counters without a call in flight -/
namespace Flurry.Proto.BinGN
open Flurry.Lin

/-- the resizing thread between the cells and around the locks: every program counter of its but the builds and the
three stores of a transfer -/
def quietX : Pc → Bool
  | .xNext | .xCell _ | .xCasMoved _ | .xLock _ _ | .xCheck _ _ | .yMutex _ _ | .yCheck _ _ | .xUnlock _ | .xCommit => true
  | _ => false

theorem quietX_nocall {pc : Pc} (h : quietX pc = true) : noCallPc pc = true := by
  unfold quietX at h
  split at h <;> first | rfl | cases h

end Flurry.Proto.BinGN
