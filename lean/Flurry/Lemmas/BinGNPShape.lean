import Flurry.Lemmas.BinGNPInvBasic
import Flurry.Lemmas.BinGNPre
/-! # Proto/BinGN: the generation structure between the model's vocabulary and `BinGNP.Inv`'s

`XShape s` (`Lemmas/BinGNPInv.lean`) = all fields of `XInv s` except `plan`. It is obtained from the invariants proved directly on the
model (the shape half `BinGN.ShapeInv` of `BinGN.GenInv`, `BinGN.NextEmpty`, `BinGN.PreInv`: `Lemmas/BinGNGen*.lean`,
`BinGNNext.lean`, `BinGNPre.lean`), so the per-transition lemmas need not re-prove it: they may take `XShape s'` as a
hypothesis (`xshape_of`).

Those invariants classify program counters by the descriptor `BinGN.desc` and by `preIdx`, `storedLow`,
`storedHigh`; `XInv` uses `xPc`, `xIdx`, `xPre`, `tabOf`, `lowStored`, `highStored`. What the second table says of
a program counter the first says too (`desc_isX_of`, `desc_idx_of`, `desc_gen_of`, `preIdx_of_xPre`: by evaluation
on the program counters the classifier of `XInv` names; `lowStored`, `highStored` are `storedLow`, `storedHigh`).

The other way, the lock half of `GenInv` (who holds which lock word and mutex, a validated thread still sees its
structure in its cell, planned cells and the `TreeBin`s in cells exist) is what `LInv`, `XInv.plan`, `KInv` and `HInv.cellOK`
say in the vocabulary of `BinGNP.Inv` (`desc_valid_cid`, `desc_plan_ok`, `holdNOf_eq`, `holdMOf_eq`): `pok_lock_of_inv`. So
`GenInv s` is its shape half together with `Inv s` (`geninv_of`). -/
namespace Flurry.Proto.BinGNP
open Flurry.Lin
open Flurry.Proto.BinK (nodeAt binAt)
open Flurry.Proto.BinGN (desc preIdx storedLow storedHigh GenInv ShapeInv holdNOf holdMOf desc_holds_indep)

theorem XInv.shape {s : State} (X : XInv s) : XShape s :=
  ⟨X.uniqX, X.resz, X.len, X.rows, X.old, X.newNotMoved, X.noResz, X.idx, X.pre, X.post, X.nextEmpty, X.tabNew⟩

theorem desc_isX_of {c : Nat} {l : Local} (h : xPc l.pc = true) : (desc c l).isX = true := by
  obtain ⟨pc, call⟩ := l
  change xPc pc = true at h
  unfold xPc at h
  split at h <;> first | rfl | cases h

theorem desc_idx_of {c : Nat} {l : Local} {j : Nat} (h : xIdx l.pc = some j) : (desc c l).idx = some j := by
  obtain ⟨pc, call⟩ := l
  change xIdx pc = some j at h
  unfold xIdx at h
  split at h <;> first | exact h | cases h

/-- the key of `desc` is that of the call, except for the treeify thread, which carries its key in the
program counter: as `keyOf` -/
theorem desc_gen_of {c : Nat} {l : Local} {g : Nat} (h : tabOf l.pc = some g) : (desc c l).gen = some (g, keyOf l) := by
  obtain ⟨pc, call⟩ := l
  change tabOf pc = some g at h
  unfold tabOf at h
  split at h <;> first | (cases h; cases call <;> rfl) | cases h

theorem preIdx_of_xPre {pc : Pc} {j : Nat} (hp : xPre pc = true) (hx : xIdx pc = some j) : preIdx pc = some j := by
  unfold xIdx at hx
  split at hx <;> first | exact hx | cases hp | cases hx

theorem xshape_of {s : State} (I : ShapeInv s) (N : Flurry.Proto.BinGN.NextEmpty s)
    (P : Flurry.Proto.BinGN.PreInv s) : XShape s := by
  refine ⟨?_, ?_, I.len, I.rows, I.old, I.nextOK, ?_, ?_, ?_, ?_, ?_, ?_⟩
  · intro t t' l l' h h' hx hx'
    exact I.uniqX t t' l l' h h' (desc_isX_of hx) (desc_isX_of hx')
  · intro t l h hx
    exact (I.thr t l h).tres (desc_isX_of hx)
  · intro hr j hm
    have := I.curMoved j hm
    rw [hr] at this; cases this
  · intro t l j h hx
    exact (I.thr t l h).idx j (desc_idx_of hx)
  · intro t l j h hp hx
    exact P t l j h (preIdx_of_xPre hp hx)
  · intro t l h hc
    exact (I.thr t l h).commit (by unfold desc; rw [hc]; rfl)
  · intro j' hne
    rcases N j' hne with h | ⟨t, l, hl, hw⟩
    · exact Or.inl h
    · exact Or.inr ⟨t, l, hl, hw⟩
  · intro t l g h hg
    exact (I.thr t l h).gen g (keyOf l) (desc_gen_of hg)

theorem holdNOf_eq (l : Local) : holdNOf l = holdsLock l.pc := by
  obtain ⟨pc, call⟩ := l
  cases pc with
  | xStoreLow _ unl _ _ | xStoreHigh _ unl _ | xStoreMoved _ unl | xUnlock unl => cases unl <;> rfl
  | _ => rfl

theorem holdMOf_eq (l : Local) : holdMOf l = holdsMutex l.pc := by
  obtain ⟨pc, call⟩ := l
  cases pc with
  | xStoreLow _ unl _ _ | xStoreHigh _ unl _ | xStoreMoved _ unl | xUnlock unl => cases unl <;> rfl
  | _ => rfl

/-- a validated descriptor: the cell is the thread's cell, and `validL` / `validT` say the same -/
theorem desc_valid_cid {s : State} {l : Local} {g j : Nat} {C : Cell} (h : (desc s.cur l).valid = some (g, j, C)) :
    cidOf s l = (g, j) ∧ ((∃ hd, C = .list hd ∧ validL l.pc = some hd ∧ (desc s.cur l).holdN = some hd) ∨
      (∃ b, C = .tree b ∧ validT l.pc = some b ∧ (desc s.cur l).holdM = some b)) := by
  obtain ⟨pc, call⟩ := l
  cases pc with
  | wFind _ _ _ _ | wStore _ _ _ _ _ =>
    cases h; cases call <;> exact ⟨rfl, .inl ⟨_, rfl, rfl, rfl⟩⟩
  | tFind _ _ | tVal _ _ _ _ _ | lrTry _ _ _ _ | lrLoop _ _ _ _ | tPrependLocked _ _ | tTreeLinkLocked _ _ _
  | tUnlinkLocked _ _ _ _ | tRestructure _ _ _ _ | tUnlockRoot _ _ _ | tUntreeify _ _ _ =>
    cases h; cases call <;> exact ⟨rfl, .inr ⟨_, rfl, rfl, rfl⟩⟩
  | kBuild _ _ _ | kStore _ _ _ _ | xBuild _ _ => cases h; exact ⟨rfl, .inl ⟨_, rfl, rfl, rfl⟩⟩
  | yBuild _ _ => cases h; exact ⟨rfl, .inr ⟨_, rfl, rfl, rfl⟩⟩
  | xStoreLow _ unl _ _ | xStoreHigh _ unl _ | xStoreMoved _ unl =>
    cases h
    cases unl
    · exact ⟨rfl, .inl ⟨_, rfl, rfl, rfl⟩⟩
    · exact ⟨rfl, .inr ⟨_, rfl, rfl, rfl⟩⟩
  | _ => cases h

theorem desc_plan_ok {s : State} {l : Local} (hr : ∀ b, binRef l.pc = some b → b < s.tbins.length)
    (hk : KInv s l.pc) (hx : XPc s l.pc) :
    ∀ c ∈ (desc s.cur l).plan, c ≠ .moved ∧ ∀ b, c = .tree b → b < s.tbins.length := by
  obtain ⟨pc, call⟩ := l
  cases pc with
  | tMutex _ b | yMutex _ b =>
    intro c hc
    cases List.mem_singleton.1 hc
    exact ⟨nofun, fun b' e => by cases e; exact hr _ rfl⟩
  | kStore _ _ _ b =>
    intro c hc
    cases List.mem_singleton.1 hc
    exact ⟨nofun, hk.1.cellOK⟩
  | xStoreLow j unl lo hi =>
    intro c hc
    have P : Plan s j lo hi := hx
    rcases List.mem_cons.1 hc with rfl | hc
    · exact ⟨P.low.notMoved, P.low.cellOK⟩
    · cases List.mem_singleton.1 hc
      exact ⟨P.high.notMoved, P.high.cellOK⟩
  | xStoreHigh j unl hi =>
    intro c hc
    have P : Plan s j _ hi := hx
    cases List.mem_singleton.1 hc
    exact ⟨P.high.notMoved, P.high.cellOK⟩
  | _ => exact fun c hc => nomatch hc

/-- the lock part of `POK` for every thread, from the structural invariant -/
theorem pok_lock_of_inv {s : State} (I : Inv s) {t : Nat} {l : Local} (hl : s.threads[t]? = some l) :
    (∀ h, (desc s.cur l).holdN = some h → h < s.heap.length ∧ BinGN.lockAt s.heap h = some t) ∧
    (∀ b, (desc s.cur l).holdM = some b → b < s.tbins.length ∧ BinGN.mutexAt s.tbins b = some t) ∧
    (∀ g j c, (desc s.cur l).valid = some (g, j, c) → BinGN.cellAt s g j = c ∧
      ((∃ h, c = .list h ∧ (desc s.cur l).holdN = some h) ∨ (∃ b, c = .tree b ∧ (desc s.cur l).holdM = some b))) ∧
    (∀ c ∈ (desc s.cur l).plan, c ≠ .moved ∧ ∀ b, c = .tree b → b < s.tbins.length) := by
  obtain ⟨eN, eM, -⟩ := desc_holds_indep s.cur l
  refine ⟨fun h hh => ?_, fun b hb => ?_, fun g j c hv => ?_, ?_⟩
  · rw [eN, holdNOf_eq] at hh
    exact ⟨I.lock.lock_lt hl hh, (I.lock.lk t l h hl).1 hh⟩
  · rw [eM, holdMOf_eq] at hb
    exact ⟨I.lock.mutex_lt hl hb, (I.lock.mx t l b hl).1 hb⟩
  · obtain ⟨hc, hh⟩ := desc_valid_cid hv
    have hcell : ∀ C, cellAt s (cidOf s l) = C → BinGN.cellAt s g j = C := fun C e => by
      rw [hc] at e; exact e
    rcases hh with ⟨hd, rfl, hvl, hn⟩ | ⟨b, rfl, hvt, hm⟩
    · exact ⟨hcell _ (I.lock.vL t l hd hl hvl), .inl ⟨hd, rfl, hn⟩⟩
    · exact ⟨hcell _ (I.lock.vT t l b hl hvt), .inr ⟨b, rfl, hm⟩⟩
  · exact desc_plan_ok (fun b hb => (I.lock.refOK t l b hl hb).1) (I.data.kInv t l hl) (I.rsz.plan t l hl)

/-- `GenInv` is its shape half together with the structural invariant -/
theorem geninv_of {s : State} (S : ShapeInv s) (I : Inv s) : GenInv s :=
  ⟨S.len, S.rows, S.old, S.nextOK, S.curMoved, S.uniqX, fun g j b h => I.heap.cellOK (g, j) b h, fun t l hl =>
    have T := S.thr t l hl
    have K := pok_lock_of_inv I hl
    ⟨T.tres, T.gen, T.idx, T.commit, K.1, K.2.1, K.2.2.1, K.2.2.2⟩⟩

end Flurry.Proto.BinGNP
