import Flurry.Lemmas.BinGNPStore
import Flurry.Lemmas.BinGNPInvQ
import Flurry.Lemmas.BinGNPLock
import Flurry.Lemmas.BinGNPGhostL
/-! # Proto/BinGN: what the stores of writers and of the treeify thread share

Which structures a store into one cell and an allocation frame (`Touch.sameC`, `Ext.sameC`), `Writable` from the invariant,
`inv_store`, `Ext.inv`, `eff_store` for the cells `(g, j)`. A planner (`InvW.planPc`: the resizing thread between its build
step and the forwarding store, which is when `pend` is not empty, `InvW.planPc_iff`; `Writable.noPlan` is stated with
`pend`) of ANOTHER cell may exist while `id` is written: `Inv.no_planner` says that none
works in `id`, and the plan of another thread survives a store into the structure of `id` (`xPc_other`). `xinv_store`,
`inv_store`, `Ext.inv` take `XShape s'` and show only `XInv.plan`. -/
namespace Flurry.Proto.BinGNP
open Flurry.Lin Flurry.Proto.BinGS
open Flurry.Proto.BinK (nodeAt binAt NextOK IsChain IsSeg chainOf CInv absL HeapStep getElem?_nodeAt nodeAt_of_some
  chainOf_eq chainOf_isChain get_set get_set_self get_set_ne)
open Store

theorem Touch.own_frame {s s' : State} {id : Cid} (T : Touch s s' id) (H : HInv s) {b : Nat} (hb : b < s.tbins.length)
    (hne : cellAt s id ≠ .tree b) :
    (∀ j, j < s.heap.length → ((nodeAt s.heap j).owner = some b ∨ (nodeAt s'.heap j).owner = some b) →
      nodeAt s'.heap j = nodeAt s.heap j) ∧
    (∀ j, s.heap.length ≤ j → (nodeAt s'.heap j).owner ≠ some b) := by
  constructor
  · intro j hj ho
    have ho' : (nodeAt s.heap j).owner = some b := by
      rcases ho with ho | ho
      · exact ho
      · rw [← (T.keep j hj).2.1]; exact ho
    refine T.node j hj ?_ ?_
    · intro hc'
      have := H.chainOwner id j hc'
      rw [ho'] at this
      exact hne (ownerOf_eq_some.1 this.symm)
    · intro ht
      have := treeOf_owner ht
      rw [ho'] at this
      exact hne (ownerOf_eq_some.1 this.symm)
  · intro j hj ho
    rcases T.newOwner j hj b ho with h | h
    · exact hne h
    · omega

/-- a store into the structure of `id` frames a structure that shares no node and no `TreeBin` with it -/
theorem Touch.sameC {s s' : State} {id : Cid} (T : Touch s s' id) (H : HInv s) (hok' : NextOK s'.heap) {C : Cell}
    (hst : ∀ h, startOf s.tbins C = some h → h < s.heap.length)
    (hdisj : ∀ j ∈ chainC s C, j ∉ chainC s (cellAt s id) ∧ ¬ treeOf s (cellAt s id) j)
    (hbin : ∀ b, C = .tree b → cellAt s id ≠ .tree b ∧ b < s.tbins.length) : SameC s s' C := by
  obtain ⟨hc, hn⟩ := T.chain_frame H hok' hst hdisj hbin
  refine ⟨hc, T.startOf_eq hbin, fun j hj => .of_eq (hn j hj), fun b hb => ?_⟩
  obtain ⟨f1, f2⟩ := T.own_frame H (hbin b hb).2 (hbin b hb).1
  exact ⟨fun j hj ho => .of_eq (f1 j hj ho), f2⟩

/-- an allocation at the end frames every structure that exists -/
theorem Ext.sameC {s s' : State} (e : Ext s s') (H : HInv s) {C : Cell}
    (hst : ∀ h, startOf s.tbins C = some h → h < s.heap.length) (hb : ∀ b, C = .tree b → b < s.tbins.length) :
    SameC s s' C := by
  have hlt := (chainOf_isChain H.nextOK _ hst).lt_length
  refine ⟨e.chainC_eq H.nextOK hst hb, e.toExt.startOf_eq hb, fun j hj => .of_eq (e.old (hlt j hj)), fun b hC => ?_⟩
  exact ⟨fun j hj _ => .of_eq (e.old hj), fun j hj ho => absurd (hb b hC) (Nat.not_lt.2 (e.newOwner j b hj ho).1)⟩

namespace InvW

/-- the resizing thread has built (or partly stored) the new structures and not yet stored the marker -/
def planPc : Pc → Bool
  | .xStoreLow _ _ _ _ | .xStoreHigh _ _ _ | .xStoreMoved _ _ => true
  | _ => false

/-- a planner is the resizing thread with pending structures; what else follows of its program counter: `Store.pend_plan` -/
theorem planPc_iff (s : State) {pc : Pc} : planPc pc = true ↔ xPc pc = true ∧ pend s pc ≠ [] := by
  have h : planPc pc = (xPc pc && !(pend s pc).isEmpty) := by cases pc <;> rfl
  rw [h]
  cases xPc pc <;> cases pend s pc <;> simp

theorem planPc_of_lowStored {pc : Pc} {j : Nat} (h : lowStored pc = some j) : planPc pc = true := by
  have h' : ((lowStored pc).isNone || planPc pc) = true := by cases pc <;> rfl
  rw [h] at h'; exact h'

theorem planPc_of_highStored {pc : Pc} {j : Nat} (h : highStored pc = some j) : planPc pc = true := by
  have h' : ((highStored pc).isNone || planPc pc) = true := by cases pc <;> rfl
  rw [h] at h'; exact h'

theorem XPc_of_not_plan {s : State} {pc : Pc} (h : planPc pc = false) : XPc s pc := by
  cases pc <;> first | exact trivial | cases h

theorem cidOf_of_xIdx {s : State} {l : Local} {j : Nat} (h : xIdx l.pc = some j) : cidOf s l = (s.cur, j) := by
  unfold cidOf; rw [h]

theorem KInv_of_not_kStore {s : State} {pc : Pc} (h : ∀ tab k h b, pc ≠ .kStore tab k h b) : KInv s pc := by
  cases pc <;> first | exact trivial | exact absurd rfl (h _ _ _ _)

theorem xPc_of_xPre {pc : Pc} (h : xPre pc = true) : xPc pc = true :=
  BinGNP.xPc_of_xPre h

theorem planPc_false_of_xPc {pc : Pc} (h : xPc pc = false) : planPc pc = false := by
  cases pc <;> first | rfl | cases h

end InvW
open InvW

theorem LInv.valid_cell {s : State} (L : LInv s) {t : Nat} {l : Local} (hl : s.threads[t]? = some l)
    (hv : validated l.pc = true) : (∃ h, cellAt s (cidOf s l) = .list h) ∨ (∃ b, cellAt s (cidOf s l) = .tree b) := by
  rcases validated_cases hv with ⟨a, ha⟩ | ⟨b, hb⟩
  · exact Or.inl ⟨a, L.vL t l a hl ha⟩
  · exact Or.inr ⟨b, L.vT t l b hl hb⟩

/-- while a thread is validated in `id` (and is not the resizing thread), or `id` is empty: the resizing thread is not
between its build step and the forwarding store OF THE CELL `id` -/
theorem Inv.no_planner {s : State} {id : Cid} {t : Nat} {l : Local} (I : Inv s) (hl : s.threads[t]? = some l)
    (hv : (validated l.pc = true ∧ cidOf s l = id ∧ xPc l.pc = false) ∨ cellAt s id = .empty)
    {t' : Nat} {l' : Local} (hl' : s.threads[t']? = some l')
    (hp : planPc l'.pc = true) (hid : cidOf s l' = id) : False := by
  obtain ⟨hxp, hne⟩ := (planPc_iff s).1 hp
  obtain ⟨_, _, _, _, _, _, hval, _⟩ := pend_plan hxp hne
  rcases hv with ⟨hv, hcid, hnx⟩ | he
  · have : t' = t := I.lock.valid_unique hl' hl hval hv (by rw [hid, hcid])
    subst this
    rw [hl] at hl'; cases hl'
    rw [hxp] at hnx; cases hnx
  · rcases I.lock.valid_cell hl' hval with ⟨a, ha⟩ | ⟨b, hb⟩
    · rw [hid, he] at ha; cases ha
    · rw [hid, he] at hb; cases hb

theorem Writable.of_no_planner {s : State} {id : Cid}
    (hact : (id.1 = s.cur ∧ cellAt s id ≠ .moved) ∨ (id.1 = s.cur + 1 ∧ cellAt s (s.cur, id.2 % 2 ^ s.cur) = .moved))
    (hnp : ∀ (t' : Nat) (l' : Local), s.threads[t']? = some l' → planPc l'.pc = true → cidOf s l' = id → False)
    (hpriv : ∀ b, cellAt s id = .tree b → ¬ PrivBin s b) : Writable s id := by
  refine ⟨hact, ?_, hpriv⟩
  intro t' l' hl' hg hi
  apply Classical.byContradiction
  intro hne
  refine hnp t' l' hl' ((planPc_iff s).2 ⟨xPc_of_xIdx hi, hne⟩) ?_
  rw [cidOf_of_xIdx hi, ← hg]

theorem Inv.writable_empty {s : State} {t : Nat} {l : Local} {p : Pending} {tab : Nat} (I : Inv s)
    (hl : s.threads[t]? = some l) (hp : l.call = some p) (hpc : l.pc = .wCas tab)
    (he : cellOf s tab p.key = .empty) : Writable s (idOf tab p.key) := by
  rw [cellOf_eq] at he
  have X := I.rsz
  have hk : keyOf l = p.key := by simp only [keyOf, hpc, hp]
  obtain ⟨hle, hnew⟩ := X.tabNew t l tab hl (by rw [hpc]; rfl)
  refine Writable.of_no_planner ?_ (fun t' l' hl' hp' hid => I.no_planner hl (Or.inr he) hl' hp' hid) ?_
  · by_cases h1 : tab < s.cur
    · have hm := X.old tab (p.key % 2 ^ tab) h1 (mod_lt_pow p.key tab)
      have he' : cellAt s (tab, p.key % 2 ^ tab) = .empty := he
      rw [hm] at he'; cases he'
    · by_cases h2 : tab = s.cur
      · exact Or.inl ⟨h2, by rw [he]; intro h; cases h⟩
      · have h3 : tab = s.cur + 1 := by omega
        refine Or.inr ⟨h3, ?_⟩
        have hm := hnew h3
        rw [hk] at hm
        subst h3
        show cellAt s (s.cur, p.key % 2 ^ (s.cur + 1) % 2 ^ s.cur) = .moved
        rw [Store.mod_succ_mod]; exact hm
  · intro b hb; rw [he] at hb; cases hb

theorem Touch.frame_cell {s s' : State} {id : Cid} (T : Touch s s' id) (H : HInv s) (X : XInv s) (W : Writable s id)
    (hok' : NextOK s'.heap) {id' : Cid} (hne : id' ≠ id) : SameC s s' (cellAt s id') :=
  T.sameC H hok' (H.cinv id').startOK (fun _ hj => W.chain_disj H X hne hj)
    (fun b hb => ⟨W.tree_ne H X hne hb, H.cellOK id' b hb⟩)

theorem pcInv_other {s s' : State} {id : Cid} {t1 : Nat} {l1 : Local} {p1 : Pending} (I : Inv s) (W : Writable s id)
    (T : Touch s s' id) (hok' : NextOK s'.heap) (h1 : s.threads[t1]? = some l1) (hc1 : l1.call = some p1)
    (hnv : cidOf s l1 = id → validL l1.pc = none ∧ validT l1.pc = none) : PcInv s' p1 l1.pc := by
  refine PcInv.frame T.len (I.data.pcInv t1 l1 p1 h1 hc1) ?_ ?_
  · intro h hv
    have hne : cidOf s l1 ≠ id := fun e => by have := (hnv e).1; rw [hv] at this; cases this
    have := T.frame_cell I.heap I.rsz W hok' hne
    rw [I.lock.vL t1 l1 h h1 hv] at this; exact this
  · intro b hv
    have hne : cidOf s l1 ≠ id := fun e => by have := (hnv e).2; rw [hv] at this; cases this
    have := T.frame_cell I.heap I.rsz W hok' hne
    rw [I.lock.vT t1 l1 b h1 hv] at this; exact this

theorem Touch.frame_priv {s s' : State} {id : Cid} (T : Touch s s' id) (H : HInv s) (hok' : NextOK s'.heap)
    {old : Cell} {sel : Nat → Bool} {b : Nat} (hcp : CopyOK s old sel (.tree b)) (hnc : cellAt s id ≠ .tree b) :
    SameC s s' (.tree b) := by
  refine T.sameC H hok' hcp.cinv.startOK ?_ ?_
  · intro j hj
    have ho : (nodeAt s.heap j).owner = some b := hcp.chainOwner j hj
    constructor
    · intro hc
      have := H.chainOwner id j hc
      rw [ho] at this
      exact hnc (ownerOf_eq_some.1 this.symm)
    · intro ht
      have := treeOf_owner ht
      rw [ho] at this
      exact hnc (ownerOf_eq_some.1 this.symm)
  · intro b' hb'
    cases hb'
    exact ⟨hnc, hcp.cellOK b rfl⟩

/-- a treeify thread that is not validated in `id` keeps its private copy; `hcells`: its `TreeBin` is not stored
into `id` -/
theorem kInv_other {s s' : State} {id : Cid} {t1 : Nat} {l1 : Local} (I : Inv s) (W : Writable s id)
    (T : Touch s s' id) (hok' : NextOK s'.heap) (h1 : s.threads[t1]? = some l1)
    (hnv : cidOf s l1 = id → validL l1.pc = none ∧ validT l1.pc = none)
    (hcells : ∀ tab k h b, l1.pc = .kStore tab k h b → cellAt s' id ≠ .tree b) : KInv s' l1.pc := by
  by_cases hks : ∃ tab k h b, l1.pc = .kStore tab k h b
  · obtain ⟨tab, k, h, b, hpc⟩ := hks
    have hk := I.data.kInv t1 l1 h1
    have hv : validL l1.pc = some h := by rw [hpc]; rfl
    have hne : cidOf s l1 ≠ id := fun e => by have := (hnv e).1; rw [hv] at this; cases this
    have hcell := I.lock.vL t1 l1 h h1 hv
    have hnb := hcells tab k h b hpc
    rw [hpc] at hk ⊢
    simp only [KInv] at hk ⊢
    have Fo := T.frame_cell I.heap I.rsz W hok' hne
    rw [hcell] at Fo
    have Fc := T.frame_priv I.heap hok' hk.1 (hk.2 id)
    refine ⟨hk.1.frame hok' T.len T.tlen Fo Fc (fun b' hb' _ => by cases hb'; exact T.bin b (hk.1.cellOK b rfl) (hk.2 id)), ?_⟩
    intro id0
    by_cases h0 : id0 = id
    · subst h0; exact hnb
    · rw [T.cells id0 h0]; exact hk.2 id0
  · exact KInv_of_not_kStore (fun tab k h b e => hks ⟨tab, k, h, b, e⟩)

theorem Inv.kStore_bins_ne {s : State} {t t1 : Nat} {l l1 : Local} {tab tab1 : Nat} {k k1 h h1 b b1 : Nat} (I : Inv s)
    (hl : s.threads[t]? = some l) (hl1 : s.threads[t1]? = some l1) (hne : t1 ≠ t)
    (hpc : l.pc = .kStore tab k h b) (hpc1 : l1.pc = .kStore tab1 k1 h1 b1) : b1 ≠ b := by
  rintro rfl
  have H := I.heap
  have hv : validL l.pc = some h := by rw [hpc]; rfl
  have hv1 : validL l1.pc = some h1 := by rw [hpc1]; rfl
  have hx : xPc l.pc = false := by rw [hpc]; rfl
  have hcell := I.lock.vL t l h hl hv
  have hcell1 := I.lock.vL t1 l1 h1 hl1 hv1
  have hk := I.data.kInv t l hl
  have hk1 := I.data.kInv t1 l1 hl1
  rw [hpc] at hk
  rw [hpc1] at hk1
  simp only [KInv] at hk hk1
  by_cases hid : cidOf s l1 = cidOf s l
  · exact hne (I.lock.valid_unique hl1 hl (validated_of_validL hv1) (validated_of_validL hv) hid)
  · have W := Writable.of_validated I hl (validated_of_validL hv) hx
    rcases W.other_cases I.rsz hid with he | he | hs
    · rw [he] at hcell1; cases hcell1
    · rw [he] at hcell1; cases hcell1
    · -- the head of the list of `l1` has a copy in `b1`, which has a source on the list of `l`
      have hch1 := (H.cinv (cidOf s l1)).isChain
      rw [hcell1] at hch1
      obtain ⟨r, hr⟩ := Flurry.Proto.BinK.IsChain.start_some hch1
      have hh1 : h1 ∈ chainC s (.list h1) := by
        show h1 ∈ chainOf s.heap (startOf s.tbins (.list h1))
        rw [hr]; simp
      obtain ⟨j, hj, hjk, -⟩ := hk1.1.cover h1 hh1 rfl
      have hjo : (nodeAt s.heap j).owner = some b1 := hk.1.chainOwner j hj
      have hjn : j ∉ chainC s (.list h) := by
        intro hc
        have := H.chainOwner (cidOf s l) j (by rw [hcell]; exact hc)
        rw [hjo, hcell] at this
        cases this
      obtain ⟨i, hi, hik, -⟩ := hk.1.src j hj hjn
      have s1 := H.side (cidOf s l1) h1 (Or.inl (by rw [hcell1]; exact hh1))
      have s2 := H.side (cidOf s l) i (Or.inl (by rw [hcell]; exact hi))
      rw [hik, hjk] at s2
      exact hs _ s1 s2

theorem Writable.not_planPc {s : State} {id : Cid} (W : Writable s id) {t1 : Nat} {l1 : Local}
    (h1 : s.threads[t1]? = some l1) (hid : cidOf s l1 = id) : planPc l1.pc = false := by
  cases hp : planPc l1.pc with
  | false => rfl
  | true =>
    obtain ⟨hx, hne⟩ := (planPc_iff s).1 hp
    obtain ⟨j, _, _, _, hj, _⟩ := pend_plan hx hne
    rw [cidOf_of_xIdx hj] at hid
    subst hid
    exact absurd (W.noPlan t1 l1 h1 rfl hj) hne

/-- the plan of a thread survives a store into the structure of `id` (the planner works in another cell) -/
theorem xPc_other {s s' : State} {id : Cid} {t1 : Nat} {l1 : Local} (I : Inv s) (W : Writable s id)
    (T : Touch s s' id) (hok' : NextOK s'.heap) (h1 : s.threads[t1]? = some l1) : XPc s' l1.pc := by
  have H := I.heap
  have X := I.rsz
  cases hp : planPc l1.pc with
  | false => exact XPc_of_not_plan hp
  | true =>
    obtain ⟨hx, hne⟩ := (planPc_iff s).1 hp
    obtain ⟨C0, hC0⟩ : ∃ C0, C0 ∈ pend s l1.pc := List.exists_mem_of_ne_nil _ hne
    obtain ⟨j0, hi, hn0, hn1, hn2, -, -, -⟩ := W.pend_frame H X h1 hx hC0
    refine XPc.frame hok' T.len T.tlen T.cur ?_ ?_ ?_ ?_ (X.plan t1 l1 h1)
    · intro j hj
      rw [hi] at hj; cases hj
      exact ⟨T.cells _ hn0, T.cells _ hn1, T.cells _ hn2⟩
    · intro j hj
      rw [hi] at hj; cases hj
      exact T.frame_cell H X W hok' hn0
    · intro _ C hC
      obtain ⟨_, _, _, _, _, hst, hd, hb⟩ := W.pend_frame H X h1 hx hC
      exact T.sameC H hok' hst hd hb
    · intro _ b hC _
      obtain ⟨_, _, _, _, _, _, _, hb⟩ := W.pend_frame H X h1 hx hC
      exact T.bin b (hb b rfl).2 (hb b rfl).1

/-- `XInv` after a step of a thread that is not the resizing thread that touches the structure of `id` only: the
generation structure is supplied (`XShape s'`), the plans of the other threads are framed -/
theorem xinv_store {s s' : State} {id : Cid} {t : Nat} {l' : Local} (I : Inv s) (W : Writable s id)
    (T : Touch s s' id) (hok' : NextOK s'.heap) (hthr : s'.threads = s.threads.set t l')
    (hx' : xPc l'.pc = false) (XS' : XShape s') : XInv s' := by
  refine XS'.xinv ?_
  intro t1 l1 h1
  rw [hthr] at h1
  rcases get_set h1 with ⟨rfl, rfl⟩ | ⟨_, h1⟩
  · exact XPc_of_not_plan (planPc_false_of_xPc hx')
  · exact xPc_other I W T hok' h1

/-- a store by thread `t` into the structure of cell `id`: the acting thread is validated in `id`, or it is the CAS
into the empty cell `id` -/
theorem inv_store {s s' : State} {id : Cid} {t : Nat} {l l' : Local} (I : Inv s) (W : Writable s id) (T : Touch s s' id)
    (hl : s.threads[t]? = some l)
    (hv : (validated l.pc = true ∧ cidOf s l = id) ∨ (cellAt s id = .empty ∧ validT l.pc = none))
    (hthr : s'.threads = s.threads.set t l') (H' : HInv s') (T' : TInv s') (L' : LInv s') (XS' : XShape s')
    (hx' : xPc l'.pc = false)
    (hcell' : ∀ b, cellAt s' id = .tree b → cellAt s id = .tree b ∨ ∃ tab k h, l.pc = .kStore tab k h b)
    (hself : ∀ p, l'.call = some p → PcInv s' p l'.pc) (hkself : KInv s' l'.pc)
    (htree : ∀ b, cellAt s' id = .tree b → ∀ j, j < s'.heap.length → (nodeAt s'.heap j).owner = some b →
      (nodeAt s'.heap j).inTree = true → j ∉ chainOfBin s' b →
      (∃ tab res, l'.pc = .tRestructure tab b j res) ∨ (∃ tab res, l'.pc = .tUntreeify tab b res))
    (hchain : ∀ b, cellAt s' id = .tree b → ∀ j ∈ chainOfBin s' b, (nodeAt s'.heap j).inTree = false →
      ∃ tab, l'.pc = .tTreeLinkLocked tab b j) : Inv s' := by
  have H := I.heap
  have X := I.rsz
  have hok' := H'.nextOK
  have hself' : s'.threads[t]? = some l' := by rw [hthr]; exact get_set_self hl
  have hv0 : (validated l.pc = true ∧ cidOf s l = id) ∨ cellAt s id = .empty := by
    rcases hv with h | h
    · exact Or.inl h
    · exact Or.inr h.1
  -- the acting thread is not validated for a `TreeBin` of another cell
  have hnotT : ∀ id0 b, id0 ≠ id → cellAt s id0 = .tree b → validT l.pc ≠ some b := by
    intro id0 b hne hc hvt
    rcases hv with ⟨_, hid⟩ | ⟨_, hn⟩
    · have := I.lock.vT t l b hl hvt
      rw [hid] at this
      exact W.tree_ne H X hne hc this
    · rw [hn] at hvt; cases hvt
  refine ⟨H', T', xinv_store I W T hok' hthr hx' XS', L', ?_, ?_, ?_, ?_⟩
  · intro t1 l1 p1 h1 hc1
    rw [hthr] at h1
    rcases get_set h1 with ⟨rfl, rfl⟩ | ⟨hne, h1⟩
    · exact hself p1 hc1
    · exact pcInv_other I W T hok' h1 hc1 (fun e => others_not_valid_cell I.lock hl hv0 hne h1 e)
  · intro t1 l1 h1
    rw [hthr] at h1
    rcases get_set h1 with ⟨rfl, rfl⟩ | ⟨hne, h1⟩
    · exact hkself
    · refine kInv_other I W T hok' h1 (fun e => others_not_valid_cell I.lock hl hv0 hne h1 e) ?_
      intro tab1 k1 hh1 b1 hpc1 hc
      have hk1 := I.data.kInv t1 l1 h1
      rw [hpc1] at hk1
      rcases hcell' b1 hc with h | ⟨tab, k, h, hpc⟩
      · exact hk1.2 id h
      · exact I.kStore_bins_ne hl h1 hne hpc hpc1 rfl
  · intro id0 b hc j hj ho hin hnc
    by_cases h0 : id0 = id
    · subst h0
      exact ⟨t, l', hself', htree b hc j hj ho hin hnc⟩
    · have hc0 : cellAt s id0 = .tree b := by rw [← T.cells id0 h0]; exact hc
      have F := T.frame_cell H X W hok' h0
      rw [hc0] at F
      exact (listTree_frame I.data hl hthr T.len hc0 F (notWit_of_validT (hnotT id0 b h0 hc0))).1 j hj ho hin hnc
  · intro id0 b hc j hj hin
    by_cases h0 : id0 = id
    · subst h0
      obtain ⟨tab, e⟩ := hchain b hc j hj hin
      exact ⟨t, l', tab, hself', e⟩
    · have hc0 : cellAt s id0 = .tree b := by rw [← T.cells id0 h0]; exact hc
      have F := T.frame_cell H X W hok' h0
      rw [hc0] at F
      exact (listTree_frame I.data hl hthr T.len hc0 F (notWit_of_validT (hnotT id0 b h0 hc0))).2 j hj hin

/-- a step of thread `t` (a treeifying thread or the resizing thread: it holds no write lock of a `TreeBin`) that
allocates nodes and `TreeBin`s at the end and changes nothing that exists (`kBuild`, `xBuild`, `yBuild`) -/
theorem Ext.inv {s s' : State} {t : Nat} {l l' : Local} (e : Ext s s') (I : Inv s) (hl : s.threads[t]? = some l)
    (hthr : s'.threads = s.threads.set t l') (T' : TInv s') (L' : LInv s') (XS' : XShape s')
    (hplan : XPc s' l'.pc) (hw : wr l.pc = false)
    (hself : ∀ p, l'.call = some p → PcInv s' p l'.pc) (hkself : KInv s' l'.pc) : Inv s' := by
  have H := I.heap
  have H' := e.hinv H
  have hok' := H'.nextOK
  have hlen := e.hlen
  have htl := e.blen
  have hcells := e.cellAt_eq
  have hcur := e.cur
  have F : ∀ C, (∀ h, startOf s.tbins C = some h → h < s.heap.length) → (∀ b, C = .tree b → b < s.tbins.length) →
      SameC s s' C := fun C hst hb => e.sameC H hst hb
  have Fcell : ∀ id, SameC s s' (cellAt s id) := fun id => F _ (H.cinv id).startOK (fun b hb => H.cellOK id b hb)
  have hself' : s'.threads[t]? = some l' := by rw [hthr]; exact get_set_self hl
  have XI' : XInv s' := by
    refine XS'.xinv ?_
    intro t1 l1 h1'
    rw [hthr] at h1'
    rcases get_set h1' with ⟨rfl, rfl⟩ | ⟨_, h1'⟩
    · exact hplan
    · refine XPc.frame hok' hlen htl hcur (fun j _ => ⟨hcells _, hcells _, hcells _⟩) (fun j _ => Fcell _) ?_ ?_
        (I.rsz.plan t1 l1 h1')
      · intro hx1 C hC
        obtain ⟨j0, sel, _, _, hcp⟩ := pend_copyOK hx1 (I.rsz.plan t1 l1 h1') hC
        exact F C hcp.cinv.startOK hcp.cellOK
      · intro hx1 b hC _
        obtain ⟨j0, sel, _, _, hcp⟩ := pend_copyOK hx1 (I.rsz.plan t1 l1 h1') hC
        exact e.bold (hcp.cellOK b rfl)
  refine ⟨H', T', XI', L', ⟨?_, ?_, ?_, ?_⟩⟩
  · intro t1 l1 p1 h1' hc1
    rw [hthr] at h1'
    rcases get_set h1' with ⟨rfl, rfl⟩ | ⟨_, h1'⟩
    · exact hself p1 hc1
    · refine PcInv.frame hlen (I.data.pcInv t1 l1 p1 h1' hc1) ?_ ?_
      · intro h hv
        have := Fcell (cidOf s l1)
        rw [I.lock.vL t1 l1 h h1' hv] at this; exact this
      · intro b hv
        have := Fcell (cidOf s l1)
        rw [I.lock.vT t1 l1 b h1' hv] at this; exact this
  · intro t1 l1 h1'
    rw [hthr] at h1'
    rcases get_set h1' with ⟨rfl, rfl⟩ | ⟨_, h1'⟩
    · exact hkself
    · by_cases hks : ∃ tab k h b, l1.pc = .kStore tab k h b
      · obtain ⟨tab, k, h, b, hpc⟩ := hks
        have hk := I.data.kInv t1 l1 h1'
        have hv : validL l1.pc = some h := by rw [hpc]; rfl
        have Fo := Fcell (cidOf s l1)
        rw [I.lock.vL t1 l1 h h1' hv] at Fo
        rw [hpc] at hk ⊢
        simp only [KInv] at hk ⊢
        refine ⟨hk.1.frame hok' hlen htl Fo (F _ hk.1.cinv.startOK hk.1.cellOK)
          (fun b' hb' _ => by cases hb'; exact e.bold (hk.1.cellOK b rfl)), ?_⟩
        intro id0
        rw [hcells id0]; exact hk.2 id0
      · exact KInv_of_not_kStore (fun tab k h b e => hks ⟨tab, k, h, b, e⟩)
  · intro id0 b hc j hj ho hin hnc
    rw [hcells id0] at hc
    have Fc := Fcell id0
    rw [hc] at Fc
    exact (listTree_frame I.data hl hthr hlen hc Fc (notWit_of_wr hw b)).1 j hj ho hin hnc
  · intro id0 b hc j hj hin
    rw [hcells id0] at hc
    have Fc := Fcell id0
    rw [hc] at Fc
    exact (listTree_frame I.data hl hthr hlen hc Fc (notWit_of_wr hw b)).2 j hj hin

theorem absTree_frame {s s' : State} {b : Nat} (hlen : s.heap.length ≤ s'.heap.length)
    (hold : ∀ j, j < s.heap.length → ((nodeAt s.heap j).owner = some b ∨ (nodeAt s'.heap j).owner = some b) →
      nodeAt s'.heap j = nodeAt s.heap j)
    (hnew : ∀ j, s.heap.length ≤ j → (nodeAt s'.heap j).owner ≠ some b) (k : Nat) :
    absTree s' b k = absTree s b k := by
  have hfind : treeFind s' b k = treeFind s b k := by
    rw [treeFind_def, treeFind_def, range_split hlen, List.find?_append]
    have h2 : (List.range' s.heap.length (s'.heap.length - s.heap.length)).find? (fun i =>
        (nodeAt s'.heap i).owner == some b && (nodeAt s'.heap i).inTree && (nodeAt s'.heap i).key == k) = none := by
      rw [List.find?_eq_none]
      intro x hx
      have hxl : s.heap.length ≤ x := (List.mem_range'_1.1 hx).1
      have := hnew x hxl
      simp [this]
    rw [h2, Option.or_none]
    refine find?_congr_mem ?_
    intro x hx
    have hxl := List.mem_range.1 hx
    by_cases ho : (nodeAt s.heap x).owner = some b ∨ (nodeAt s'.heap x).owner = some b
    · rw [hold x hxl ho]
    · have h1 : (nodeAt s.heap x).owner ≠ some b := fun h => ho (Or.inl h)
      have h2 : (nodeAt s'.heap x).owner ≠ some b := fun h => ho (Or.inr h)
      have e1 : ((nodeAt s.heap x).owner == some b) = false := by simpa using h1
      have e2 : ((nodeAt s'.heap x).owner == some b) = false := by simpa using h2
      show ((nodeAt s'.heap x).owner == some b && (nodeAt s'.heap x).inTree && (nodeAt s'.heap x).key == k) =
        ((nodeAt s.heap x).owner == some b && (nodeAt s.heap x).inTree && (nodeAt s.heap x).key == k)
      rw [e1, e2]; rfl
  unfold absTree
  rw [hfind]
  cases hf : treeFind s b k with
  | none => rfl
  | some i =>
    obtain ⟨h1, h2, _, _⟩ := treeFind_some hf
    simp only
    rw [hold i h1 (Or.inl h2)]

/-- a cell that holds a `TreeBin` exists -/
theorem XInv.lt_of_tree {s : State} (X : XInv s) {id : Cid} {b : Nat} (h : cellAt s id = .tree b) : id.2 < 2 ^ id.1 := by
  obtain ⟨g, j⟩ := id
  apply Classical.byContradiction
  intro hlt
  have he : cellAt s (g, j) = .empty :=
    cellAt_none (fun row hr => by rw [X.rows g row hr]; exact Nat.le_of_not_lt hlt)
  rw [he] at h; cases h

theorem Writable.liveBin {s : State} {id : Cid} (W : Writable s id) (X : XInv s) {b : Nat} (h : cellAt s id = .tree b) :
    LiveBin s b := by
  refine ⟨id.2, ?_⟩
  rw [(W.liveId_iff id.2).2 (Nat.mod_eq_of_lt (X.lt_of_tree h))]; exact h

theorem eff_store {s s' : State} {id : Cid} (Iv' : Inv s') (I : Inv s) (W : Writable s id) (T : Touch s s' id)
    (ks : ∀ k, KStep s s' k) (hnm : cellAt s' id ≠ .moved)
    (hfirst : ∀ b, cellAt s id = .tree b → (binAt s'.tbins b).first ≠ (binAt s.tbins b).first → cellAt s' id = .tree b)
    (htreeb : ∀ b k, cellAt s id = .tree b → absTree s' b k ≠ absTree s b k → cellAt s' id = .tree b)
    (hwriter : ∀ b, b < s.tbins.length → (binAt s.tbins b).writer = true → (binAt s'.tbins b).writer = true ∨ InCell s b)
    (hlive : ∀ b, cellAt s id = .tree b → cellAt s' id = .tree b ∨ (¬ InCell s' b ∧ (binAt s'.tbins b).writer = true))
    (hnew : ∀ b, cellAt s' id = .tree b → cellAt s id = .tree b ∨ PrivBin s b) : Eff s s' := by
  have H := I.heap
  have X := I.rsz
  have H' := Iv'.heap
  have hmv := W.moved_iff X T.cells hnm
  have hlid : ∀ k, liveId s' k = liveId s k := fun _ => liveId_congr T.cur (hmv _)
  -- the cell `id` stays live
  have hlb' : ∀ b, cellAt s' id = .tree b → LiveBin s' b := by
    intro b h
    refine ⟨id.2, ?_⟩
    rw [hlid, (W.liveId_iff id.2).2 (Nat.mod_eq_of_lt (Iv'.rsz.lt_of_tree h))]; exact h
  refine ⟨Iv', ks, ?_, ?_, ?_, ?_⟩
  · intro b hb hne
    by_cases hc : cellAt s id = .tree b
    · exact ⟨W.liveBin X hc, hlb' b (hfirst b hc hne)⟩
    · rw [T.bin b hb hc] at hne; exact absurd rfl hne
  · intro b k hb hne
    by_cases hc : cellAt s id = .tree b
    · have hc' := htreeb b k hc hne
      have hl : liveId s k = id := by
        cases hf : treeFind s b k with
        | some i =>
          obtain ⟨h1, h2, h3, h4⟩ := treeFind_some hf
          have := W.liveId_of_mem H (j := i) (Or.inr (by rw [hc]; exact ⟨h1, h3, b, rfl, h2⟩))
          rw [h4] at this; exact this
        | none =>
          cases hf' : treeFind s' b k with
          | none =>
            exfalso; apply hne
            unfold absTree; rw [hf, hf']
          | some i =>
            obtain ⟨h1, h2, h3, h4⟩ := treeFind_some hf'
            rw [W.liveId_iff]
            have := H'.side id i (Or.inr (by rw [hc']; exact ⟨h1, h3, b, rfl, h2⟩))
            rw [h4] at this; exact this
      rw [hlid, hl]; exact ⟨hc, hc'⟩
    · obtain ⟨f1, f2⟩ := T.own_frame H hb hc
      exact absurd (absTree_frame T.len f1 f2 k) hne
  · intro b k hc
    rw [hlid]
    by_cases hl : liveId s k = id
    · rw [hl] at hc ⊢
      rcases hlive b hc with h | h
      · exact Or.inl h
      · exact Or.inr (Or.inl h)
    · left; rw [T.cells _ hl]; exact hc
  · intro b hb hnc hnp
    constructor
    · rintro ⟨id0, h0⟩
      by_cases hid : id0 = id
      · subst hid
        rcases hnew b h0 with h | h
        · exact hnc ⟨id0, h⟩
        · exact hnp h
      · rw [T.cells id0 hid] at h0
        exact hnc ⟨id0, h0⟩
    · intro hw
      rcases hwriter b hb hw with h | h
      · exact h
      · exact absurd h hnc

end Flurry.Proto.BinGNP
