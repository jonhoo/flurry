import Flurry.Props.C01BinXC
import Flurry.Lemmas.LinSearch
/-! # Proto/BinXC: the original `clear` breaks C03 and linearizability (finding F7)

Three threads: thread 0 performs the calls, thread 1 clears, thread 2 transfers the bin. Both
schedules first build the list `[a: key 1, b: key 0]` (its last run `[b]` is re-used as the new low
list, `a` is copied to the new high list), and run the original `clear` (`stepNoWait`: it enters the
next table without waiting for the commit — here as soon as the resize is running).

* `schedRetire` — **a retired node that is still reachable**: the transfer has stored the new low list
  (`lowCell = node b`) but not yet the forwarding marker; `clear` goes to the new table, locks `b`,
  empties the low cell and retires `b` — which is still on the old list, the list every operation
  that starts now walks.
* `schedLost` — **a `clear` that clears nothing**: the transfer has split the list but stored nothing
  yet; `clear` goes to the new table, finds both cells empty and returns; the transfer then installs
  the lists. `insert(0)` completed before the `clear` was invoked, and a `get(0)` invoked after the
  `clear` returned still finds the key: not linearizable.

With the repaired `clear` (`step`) neither can happen: `retired_unreachable`,
`binxc_linearizable_quiescent`. -/
namespace Flurry.Proto.BinXC
open Flurry.Lin

abbrev Sched := List (Nat × Option (Nat × KOp) × Bool × Bool)

/-- run a schedule (`none` if some step is not enabled) -/
def run (f : State → Nat → Option (Nat × KOp) → Bool → Bool → Option State) : State → Sched → Option State
  | s, [] => some s
  | s, (t, inv, rz, cl) :: rest =>
    match f s t inv rz cl with
    | none => none
    | some s' => run f s' rest

theorem run_reachableNoWait {n : Nat} : ∀ (sc : Sched) {s s' : State}, ReachableNoWait n s →
    run stepNoWait s sc = some s' → ReachableNoWait n s'
  | [], s, s', hr, h => by simp only [run, Option.some.injEq] at h; exact h ▸ hr
  | (t, inv, rz, cl) :: rest, s, s', hr, h => by
    simp only [run] at h
    cases hs : stepNoWait s t inv rz cl with
    | none => rw [hs] at h; cases h
    | some s1 => rw [hs] at h; exact run_reachableNoWait rest (.step t inv rz cl hr hs) h

/-- executable form of `retiredUnreachable` -/
def retiredUnreachableB (s : State) : Bool := s.retired.all fun i => !(reachableNow s).contains i

theorem retiredUnreachableB_iff (s : State) : retiredUnreachableB s = true ↔ retiredUnreachable s := by
  unfold retiredUnreachableB retiredUnreachable
  simp [List.all_eq_true]

/-- `n` further steps of thread `t` -/
def rep (t n : Nat) : Sched := List.replicate n (t, none, false, false)

/-- thread 0: `insert(1)` (CAS into the empty bin), `insert(0)` (appended under the lock) -/
def setup : Sched :=
  [(0, some (1, .ins 5 100), false, false)] ++ rep 0 3 ++ [(0, some (0, .ins 6 101), false, false)] ++ rep 0 8

/-- thread 2 starts the resize, locks, splits and stores the low list; thread 1 clears: table, on to
the new table, low cell, lock, check, store -/
def schedRetire : Sched :=
  setup ++ [(2, none, true, false)] ++ rep 2 5 ++ [(1, none, false, true)] ++ rep 1 6

/-- thread 2 starts the resize, locks and splits; thread 1 clears (both new cells still empty) and
returns; thread 2 completes the transfer; thread 0: `get(0)` -/
def schedLost : Sched :=
  setup ++ [(2, none, true, false)] ++ rep 2 4 ++ [(1, none, false, true)] ++ rep 1 5 ++ rep 2 5 ++
  [(0, some (0, .get), false, false)] ++ rep 0 3

/-- the state after `schedRetire`: node 1 (`b`) is retired and on the chain of the old cell -/
theorem retire_state :
    (run stepNoWait (init 3) schedRetire).map (fun s => (s.retired, reachableNow s, s.cell0, s.lowCell, retiredUnreachableB s)) =
      some ([1], [0, 1], .node 0, .empty, false) := by
  decide +kernel

/-- **F7, reclamation**: with the original `clear` a retired node can be reachable -/
theorem noWait_retires_reachable : ∃ s, ReachableNoWait 3 s ∧ ¬ retiredUnreachable s := by
  cases hr : run stepNoWait (init 3) schedRetire with
  | none => have := retire_state; rw [hr] at this; cases this
  | some s =>
    refine ⟨s, run_reachableNoWait _ .init hr, ?_⟩
    have := retire_state
    rw [hr] at this
    simp only [Option.map_some, Option.some.injEq, Prod.mk.injEq] at this
    intro h
    have hb := (retiredUnreachableB_iff s).2 h
    rw [this.2.2.2.2] at hb
    cases hb

/-- the history of key 0 after `schedLost`: `insert(0)`, then `clear`, then `get(0) = 6` -/
theorem lost_history :
    (run stepNoWait (init 3) schedLost).map (fun s => (callsOn s 0, absOf s 0, s.cur,
      s.threads.all (fun l => l.pc == .idle), (search (callsOn s 0) none (absOf s 0)).isSome)) =
      some ([⟨0, .ins 6 101, .none, 5, 13⟩, ⟨1, .cipRm, .none, 19, 24⟩, ⟨0, .get, .some 6 101, 30, 33⟩],
        some (6, 101), .new, true, false) := by
  decide +kernel

/-- **F7, linearizability**: with the original `clear`, a reachable quiescent state (after a complete
resize) whose history of key 0 is not linearizable: a `clear` between a completed `insert` and a `get`
that still finds the key -/
theorem noWait_not_linearizable :
    ∃ s k, ReachableNoWait 3 s ∧ quiescent s ∧ ¬ Lin.Linearizable (callsOn s k) none (absOf s k) := by
  cases hr : run stepNoWait (init 3) schedLost with
  | none => have := lost_history; rw [hr] at this; cases this
  | some s =>
    have := lost_history
    rw [hr] at this
    simp only [Option.map_some, Option.some.injEq, Prod.mk.injEq] at this
    obtain ⟨-, -, -, hq, hs⟩ := this
    refine ⟨s, 0, run_reachableNoWait _ .init hr, ?_, search_eq_none_iff.1 ?_⟩
    · intro l hl
      have := List.all_eq_true.1 hq l hl
      simpa using this
    · cases h : search (callsOn s 0) none (absOf s 0) with
      | none => rfl
      | some o => rw [h] at hs; cases hs

/-- hence neither theorem of `Props/C01BinXC.lean` holds for the original code -/
theorem noWait_refutes :
    (¬ ∀ (n : Nat) (s : State), ReachableNoWait n s → retiredUnreachable s) ∧
    (¬ ∀ (n : Nat) (s : State), ReachableNoWait n s → quiescent s → ∀ k,
      Lin.Linearizable (callsOn s k) none (absOf s k)) := by
  refine ⟨?_, ?_⟩
  · intro hall
    obtain ⟨s, hr, hn⟩ := noWait_retires_reachable
    exact hn (hall 3 s hr)
  · intro hall
    obtain ⟨s, k, hr, hq, hn⟩ := noWait_not_linearizable
    exact hn (hall 3 s hr hq k)

end Flurry.Proto.BinXC
