import Flurry.Lemmas.LinEmbed
import Flurry.Lemmas.Lin2Basic
/-! # Linearizability: the certificate checker is sound (and complete)

`validate_iff` and `linearizable_iff_pairwise` are the facts about `Lin2` read through `embCall`
(`Lemmas/LinEmbed.lean`); `validate_sound` and `linearizable_iff_validate` follow from the two. `rtOk` and
the list form (`kstep`, `krt`, `replay_eq_runI`, `linearizable_iff_linL`) are stated for `Lin` directly, with the
definitions and proofs of `Lemmas/Lin2Basic.lean`: `LinEmbed` does not carry `LinGen.GLinL` along `embCall`. -/
namespace Flurry.Lin
open Flurry.LinGen

def rtOk (h : History) (i j : Nat) : Bool :=
  match h[i]?, h[j]? with
  | some a, some b => mayPrecede a b
  | _, _ => false

theorem realTimeOk_cons (h : History) (i : Nat) (rest : List Nat) :
    realTimeOk h (i :: rest) = (rest.all (rtOk h i) && realTimeOk h rest) := rfl

theorem rtOk_map (h : History) (i j : Nat) : Lin2.rtOk (h.map embCall) i j = rtOk h i j := by
  simp only [Lin2.rtOk, rtOk, List.getElem?_map]
  cases h[i]? <;> cases h[j]? <;> rfl

theorem isPermOfRange_perm {order : List Nat} {n : Nat} (hv : isPermOfRange order n = true) :
    order.Perm (List.range n) := Lin2.isPermOfRange_perm hv

theorem validate_iff {h : History} {order : List Nat} {init fin : KSt} :
    validate h order init fin = true ↔
      order.Perm (List.range h.length) ∧ order.Pairwise (fun i j => rtOk h i j = true) ∧
      replay h order init = some fin := by
  simpa only [validate_map, List.length_map, rtOk_map, replay2_map] using
    Lin2.validate_iff (h := h.map embCall) (order := order) (init := init) (fin := fin)

theorem linearizable_iff_pairwise {h : History} {init fin : KSt} :
    Linearizable h init fin ↔ ∃ order : List Nat,
      order.Perm (List.range h.length) ∧ order.Pairwise (fun i j => rtOk h i j = true) ∧
      replay h order init = some fin := by
  simpa only [linearizable2_map, List.length_map, rtOk_map, replay2_map] using
    Lin2.linearizable_iff_pairwise (h := h.map embCall) (init := init) (fin := fin)

theorem validate_sound {h : History} {order : List Nat} {init fin : KSt}
    (hv : validate h order init fin = true) : Linearizable h init fin :=
  linearizable_iff_pairwise.2 ⟨order, validate_iff.1 hv⟩

theorem linearizable_iff_validate {h : History} {init fin : KSt} :
    Linearizable h init fin ↔ ∃ order, validate h order init fin = true := by
  simp only [linearizable_iff_pairwise, validate_iff]

def kstep (st : KSt) (c : Call) : Option KSt :=
  if (specStep st c.op).2 = c.res then some (specStep st c.op).1 else none

theorem kstep_of_spec {st st' : KSt} {c : Call} (h : specStep st c.op = (st', c.res)) :
    kstep st c = some st' := by
  simp [kstep, h]

def krt (a b : Call) : Prop := ¬ (b.resp < a.inv)

theorem replay_eq_runI (h : History) : ∀ (order : List Nat) (st : KSt),
    replay h order st = runI kstep h order st
  | [], st => rfl
  | i :: rest, st => by
    cases hc : h[i]? with
    | none => simp [replay, runI, hc]
    | some c =>
      simp only [replay, runI, hc, kstep]
      split
      · simpa using replay_eq_runI h rest _
      · simp

theorem linearizable_iff_linL {h : History} {init fin : KSt} :
    Linearizable h init fin ↔ GLinL kstep krt h init (· = fin) := by
  rw [← glinI_iff_glinL]
  simp only [Linearizable, GLinI, replay_eq_runI, krt, exists_eq_right]

end Flurry.Lin
