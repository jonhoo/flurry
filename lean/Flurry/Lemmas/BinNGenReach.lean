import Flurry.Lemmas.BinNGenInv
/-! # Proto/BinN: every transition preserves the generation invariant (`stepK_geninv`); it holds in every reachable state -/
namespace Flurry.Proto.BinN
open Flurry.Lin
open Flurry.Proto.BinX (NodeS Cell Pending isReader dflt chainFrom cellHead cellOfHead get_set get_set_self get_set_ne
  cellOfHead_ne_moved)

theorem stepK_geninv {s s' : State} {t : Nat} {l : Local} {pick : Nat} (I : GenInv s)
    (hl : s.threads[t]? = some l) (hstep : StepK s t l pick s') : GenInv s' := by
  have T := I.thr t l hl
  have hsame := hlock_of_lockSame (t := t) I (LockSame.refl s.heap)
  cases hstep with
  | idle hpc =>
    unfold setT tick
    exact geninv_same (l' := l) I hl rfl rfl rfl rfl hsame id (T.congr rfl rfl rfl T.held)
  | invoke k op hpc =>
    unfold setT tick
    refine geninv_same I hl rfl rfl rfl rfl hsame ?_ (thrOK_invoke _ t op _)
    cases isReader op <;> exact fun h => h.elim
  | resize hpc hr =>
    have nT : ∀ (t1 : Nat) (l1 : Local), s.threads[t1]? = some l1 → ¬ isT l1.pc := by
      intro t1 l1 h1 hT
      have := (I.thr t1 l1 h1).tres hT
      rw [hr] at this; cases this
    have hc : ∀ g j, cellAt { (setT (tick s) t { l with pc := .tNext }) with
        resizing := true, tabs := s.tabs ++ [List.replicate (2 ^ (s.cur + 1)) .empty] } g j = cellAt s g j :=
      fun g j => cellT_alloc _ _ _ _
    refine geninv_alloc I hr rfl rfl rfl ?_ ?_
    · intro t1 t2 l1 l2 h1 h2 hT1 hT2
      rcases get_set h1 with ⟨e1, f1⟩ | ⟨n1, h1⟩ <;> rcases get_set h2 with ⟨e2, f2⟩ | ⟨n2, h2⟩
      · rw [e1, e2]
      · exact absurd hT2 (nT _ _ h2)
      · exact absurd hT1 (nT _ _ h1)
      · exact absurd hT1 (nT _ _ h1)
    · intro t1 l1 h1
      rcases get_set h1 with ⟨rfl, rfl⟩ | ⟨n1, h1⟩
      · exact thrOK_t _ _ rfl trivial (fun j h => by cases h) (fun h => by cases h) (fun h hh => hh.elim)
          (fun g j h hv => by cases hc : l.call <;> rw [vcell, hc] at hv <;> cases hv)
      · exact (I.thr t1 l1 h1).alloc (nT _ _ h1) hc rfl rfl
  | move p pc' hp hm =>
    unfold setT tick
    obtain ⟨pc, call⟩ := l
    simp only at hp hm
    subst hp
    refine geninv_same I hl rfl rfl rfl rfl hsame ?_ ((hm.thrOK I T).congr rfl rfl rfl (hm.thrOK I T).held)
    intro hT
    cases hm <;> exact hT.elim
  | tmove pc' hp hm =>
    unfold setT tick
    obtain ⟨pc, call⟩ := l
    refine geninv_same I hl rfl rfl rfl rfl hsame ?_ ((hm.thrOK I T).congr rfl rfl rfl (hm.thrOK I T).held)
    intro _
    cases hm <;> trivial
  | lockMove p h x pc' hp hm =>
    unfold setT setNode tick
    obtain ⟨pc, call⟩ := l
    simp only at hp hm
    subst hp
    cases hm with
    | @lock g h n hn hfree =>
      have hh : h < s.heap.length := (List.getElem?_eq_some_iff.1 hn).1
      refine geninv_same I hl rfl rfl rfl rfl
        (hlock_of_modify I (Or.inl (by rw [lockAt_of_some hn]; exact hfree))) (fun h => h.elim) ?_
      refine thrOK_w _ _ (fun h => h) ?_ ?_ (fun g j h hv => by cases hv)
      · intro p' g' hp' hg'; cases hp'; cases hg'; exact T.gen p g rfl rfl
      · intro h' hh'
        cases hh'
        exact ⟨by show h < (s.heap.modify _ _).length; simpa using hh, lockAt_modify_self _ hh⟩
    | @unlockRetry g h res =>
      refine geninv_same I hl rfl rfl rfl rfl
        (hlock_of_modify I (Or.inr (T.held h rfl).2)) (fun h => h.elim) ?_
      refine thrOK_w _ _ (fun h => h) ?_ (fun h hh => hh.elim) (fun g j h hv => by cases hv)
      intro p' g' hp' hg'; cases hp'; cases hg'; exact T.gen p g rfl rfl
  | tlockMove h x pc' hp hm =>
    unfold setT setNode tick
    obtain ⟨pc, call⟩ := l
    have R : s.resizing = true := T.tres (by cases hm <;> trivial)
    cases hm with
    | @lock j h n hn hfree =>
      have hh : h < s.heap.length := (List.getElem?_eq_some_iff.1 hn).1
      refine geninv_same I hl rfl rfl rfl rfl
        (hlock_of_modify I (Or.inl (by rw [lockAt_of_some hn]; exact hfree))) (fun _ => trivial) ?_
      refine thrOK_t _ _ R trivial (fun j' hj' => by cases hj'; exact T.idx _ rfl) (fun h => by cases h) ?_
        (fun g j h hv => by cases call <;> cases hv)
      intro h' hh'
      cases hh'
      exact ⟨by show h < (s.heap.modify _ _).length; simpa using hh, lockAt_modify_self _ hh⟩
    | @checkFail j h hc =>
      refine geninv_same I hl rfl rfl rfl rfl
        (hlock_of_modify I (Or.inr (T.held h rfl).2)) (fun _ => trivial) ?_
      exact thrOK_t _ _ R trivial (fun j' hj' => by cases hj'; exact T.idx _ rfl) (fun h => by cases h)
        (fun h hh => hh.elim) (fun g j h hv => by cases call <;> cases hv)
    | @unlock j h =>
      refine geninv_same I hl rfl rfl rfl rfl
        (hlock_of_modify I (Or.inr (T.held h rfl).2)) (fun _ => trivial) ?_
      exact thrOK_t _ _ R trivial (fun j' hj' => by cases hj') (fun h => by cases h)
        (fun h hh => hh.elim) (fun g j h hv => by cases call <;> cases hv)
  | fin p res hp hf =>
    unfold finish setT tick
    exact geninv_same I hl rfl rfl rfl rfl hsame (fun h => h.elim) (thrOK_idle _ t _)
  | cas p g v vi hp hpc hc hop =>
    unfold finish setT setCell putCell tick
    refine geninv_put (g0 := g) (j0 := p.key % 2 ^ g) (c := .node s.heap.length) I hl rfl rfl rfl rfl
      (Or.inl (by show cellOf s g p.key ≠ _; rw [hc]; simp)) (fun h => by cases h) ?_
      (hlock_of_lockSame I (LockSame.append _ _)) (fun h => h.elim) (thrOK_idle _ t _)
    intro t1 l1 h _ h1
    exact no_vcell_of_not_node I (by show ∀ h, cellOf s g p.key ≠ _; rw [hc]; simp) t1 l1 h h1
  | store p g h pred hit hnext hp hpc =>
    obtain ⟨pc, call⟩ := l
    simp only at hp hpc
    subst hp hpc
    obtain ⟨e1, e2, e3, -, -, e6, e7⟩ := storeAt_shape (tick s) g p pred hit hnext
    have e1 : (storeAt (tick s) g p pred hit hnext).1.threads = s.threads := e1
    have e2 : (storeAt (tick s) g p pred hit hnext).1.cur = s.cur := e2
    have e3 : (storeAt (tick s) g p pred hit hnext).1.resizing = s.resizing := e3
    have e6 : LockSame s.heap (storeAt (tick s) g p pred hit hnext).1.heap := e6
    have e7 : (storeAt (tick s) g p pred hit hnext).1.tabs = s.tabs ∨
      ∃ c, c ≠ .moved ∧ (storeAt (tick s) g p pred hit hnext).1.tabs =
        s.tabs.modify g (fun row => row.set (p.key % 2 ^ g) c) := e7
    have hv0 : vcell s.cur { pc := Pc.wStore g h pred hit hnext, call := some p } = some (g, p.key % 2 ^ g, h) := rfl
    obtain ⟨hcell, -⟩ := T.valid _ _ _ hv0
    have hheld := T.held h rfl
    have hlock := hlock_of_lockSame (t := t) I e6
    have G := T.gen p g rfl rfl
    have hthr : (setT (storeAt (tick s) g p pred hit hnext).1 t
        { pc := .wUnlock g h (storeAt (tick s) g p pred hit hnext).2 false, call := some p }).threads =
        s.threads.set t { pc := .wUnlock g h (storeAt (tick s) g p pred hit hnext).2 false, call := some p } := by
      show (storeAt _ _ _ _ _ _).1.threads.set _ _ = _; rw [e1]
    have hheld' : ∀ h', Holds (Pc.wUnlock g h (storeAt (tick s) g p pred hit hnext).2 false) h' →
        h' < (storeAt (tick s) g p pred hit hnext).1.heap.length ∧
        lockAt (storeAt (tick s) g p pred hit hnext).1.heap h' = some t := by
      intro h' hh'; cases hh'
      exact ⟨by have := e6.1; omega, by rw [e6.2 h hheld.1]; exact hheld.2⟩
    rcases e7 with e7 | ⟨c, hcm, e7⟩
    · refine geninv_same I hl hthr e2 e3 e7 hlock (by intro h; exact h.elim) ?_
      refine thrOK_w _ _ (fun h => h) ?_ hheld' (fun g j h hv => by cases hv)
      intro p' g' hp' hg'; cases hp'; cases hg'
      change g ≤ (storeAt _ _ _ _ _ _).1.cur + 1 ∧ (g = (storeAt _ _ _ _ _ _).1.cur + 1 →
        cellT (storeAt _ _ _ _ _ _).1.tabs (storeAt _ _ _ _ _ _).1.cur (p.key % 2 ^ (storeAt _ _ _ _ _ _).1.cur) = _)
      rw [e2, e7]; exact G
    · have hnm : cellAt s g (p.key % 2 ^ g) ≠ .moved := by rw [hcell]; simp
      refine geninv_put (g0 := g) (j0 := p.key % 2 ^ g) (c := c) I hl hthr e2 e3 e7
        (Or.inl hnm) (fun h => absurd h hcm) (no_vcell_of_mutex I hl hv0) hlock (by intro h; exact h.elim) ?_
      refine thrOK_w _ _ (fun h => h) ?_ hheld' (fun g j h hv => by cases hv)
      intro p' g' hp' hg'; cases hp'; cases hg'
      change g ≤ (storeAt _ _ _ _ _ _).1.cur + 1 ∧ (g = (storeAt _ _ _ _ _ _).1.cur + 1 →
        cellT (storeAt _ _ _ _ _ _).1.tabs (storeAt _ _ _ _ _ _).1.cur (p.key % 2 ^ (storeAt _ _ _ _ _ _).1.cur) = _)
      rw [e2, e7]
      refine ⟨G.1, fun e => ?_⟩
      rw [cellT_put_ne _ _ (by intro ⟨h1, _⟩; omega)]
      exact G.2 e
  | unlockFin p g h res hp hpc =>
    unfold finish setT setNode tick
    obtain ⟨pc, call⟩ := l
    simp only at hp hpc
    subst hp hpc
    exact geninv_same I hl rfl rfl rfl rfl
      (hlock_of_modify I (Or.inr (T.held h rfl).2)) (fun h => h.elim) (thrOK_idle _ t _)
  | casMoved j hp hpc hc =>
    unfold putCell setT tick
    obtain ⟨pc, call⟩ := l
    simp only at hp hpc
    subst hp hpc
    have R := T.tres trivial
    refine geninv_put (g0 := s.cur) (j0 := j) (c := .moved) I hl rfl rfl rfl rfl (Or.inr rfl) (fun _ => ⟨rfl, R⟩) ?_
      hsame (fun _ => trivial) ?_
    · intro t1 l1 h _ h1
      exact no_vcell_of_not_node I (by rw [hc]; simp) t1 l1 h h1
    · exact thrOK_t _ _ R trivial (fun j' hj' => by cases hj') (fun h => by cases h)
        (fun h hh => hh.elim) (fun g j h hv => by cases hv)
  | build j h hp hpc =>
    unfold setT tick
    obtain ⟨pc, call⟩ := l
    simp only at hp hpc
    subst hp hpc
    have R := T.tres trivial
    have hv0 : vcell s.cur { pc := Pc.tBuild j h, call := none } = some (s.cur, j, h) := rfl
    obtain ⟨hcell, -⟩ := T.valid _ _ _ hv0
    have hheld := T.held h rfl
    have ls := splitBinB_lockSame (bitAt s.cur) s.heap (chainFrom s.heap s.heap.length (some h))
    refine geninv_same I hl rfl rfl rfl rfl (hlock_of_lockSame I ls) (fun _ => trivial) ?_
    refine thrOK_t _ _ R trivial (fun j' hj' => by cases hj'; exact T.idx _ rfl) (fun h => by cases h) ?_ ?_
    · intro h' hh'; cases hh'
      exact ⟨by have := ls.1; show h < (splitBinB _ _ _).1.length; omega, by
        show lockAt (splitBinB _ _ _).1 h = _; rw [ls.2 h hheld.1]; exact hheld.2⟩
    · intro g' j' h' hv
      cases hv
      exact ⟨hcell, rfl⟩

  | storeLow j h lo hg hp hpc =>
    unfold putCell setT tick
    obtain ⟨pc, call⟩ := l
    simp only at hp hpc
    subst hp hpc
    have R := T.tres trivial
    have hv0 : vcell s.cur { pc := Pc.tStoreLow j h lo hg, call := none } = some (s.cur, j, h) := rfl
    obtain ⟨hcell, -⟩ := T.valid _ _ _ hv0
    have hj := T.idx j rfl
    have hnm : cellAt s s.cur j ≠ .moved := by rw [hcell]; simp
    refine geninv_put (g0 := s.cur + 1) (j0 := j) (c := cellOfHead lo) I hl rfl rfl rfl rfl
      (Or.inl (I.nextOK j)) (fun h => absurd h (cellOfHead_ne_moved lo))
      (no_vcell_child I hl trivial hnm (Nat.mod_eq_of_lt hj)) hsame (fun _ => trivial) ?_
    refine thrOK_t _ _ R trivial (fun j' hj' => by cases hj'; exact hj) (fun h => by cases h)
      (fun h' hh' => T.held h' hh') ?_
    intro g' j' h' hv
    cases hv
    refine ⟨?_, rfl⟩
    show cellT (s.tabs.modify (s.cur + 1) _) s.cur j = _
    rw [cellT_put_ne _ _ (by intro ⟨h1, _⟩; omega)]
    exact hcell
  | storeHigh j h hg hp hpc =>
    unfold putCell setT tick
    obtain ⟨pc, call⟩ := l
    simp only at hp hpc
    subst hp hpc
    have R := T.tres trivial
    have hv0 : vcell s.cur { pc := Pc.tStoreHigh j h hg, call := none } = some (s.cur, j, h) := rfl
    obtain ⟨hcell, -⟩ := T.valid _ _ _ hv0
    have hj := T.idx j rfl
    have hnm : cellAt s s.cur j ≠ .moved := by rw [hcell]; simp
    refine geninv_put (g0 := s.cur + 1) (j0 := j + 2 ^ s.cur) (c := cellOfHead hg) I hl rfl rfl rfl rfl
      (Or.inl (I.nextOK _)) (fun h => absurd h (cellOfHead_ne_moved hg))
      (no_vcell_child I hl trivial hnm (high_mod j s.cur hj)) hsame (fun _ => trivial) ?_
    refine thrOK_t _ _ R trivial (fun j' hj' => by cases hj'; exact hj) (fun h => by cases h)
      (fun h' hh' => T.held h' hh') ?_
    intro g' j' h' hv
    cases hv
    refine ⟨?_, rfl⟩
    show cellT (s.tabs.modify (s.cur + 1) _) s.cur j = _
    rw [cellT_put_ne _ _ (by intro ⟨h1, _⟩; omega)]
    exact hcell
  | storeMoved j h hp hpc =>
    unfold putCell setT tick
    obtain ⟨pc, call⟩ := l
    simp only at hp hpc
    subst hp hpc
    have R := T.tres trivial
    have hv0 : vcell s.cur { pc := Pc.tStoreMoved j h, call := none } = some (s.cur, j, h) := rfl
    have hj := T.idx j rfl
    refine geninv_put (g0 := s.cur) (j0 := j) (c := .moved) I hl rfl rfl rfl rfl
      (Or.inr rfl) (fun _ => ⟨rfl, R⟩) (no_vcell_of_mutex I hl hv0) hsame (fun _ => trivial) ?_
    exact thrOK_t _ _ R trivial (fun j' hj' => by cases hj'; exact hj) (fun h => by cases h)
      (fun h' hh' => T.held h' hh') (fun g j h hv => by cases hv)
  | commit hp hpc =>
    obtain ⟨pc, call⟩ := l
    simp only at hp hpc
    subst hp hpc
    have nT : ∀ (t1 : Nat) (l1 : Local), t1 ≠ t → s.threads[t1]? = some l1 → ¬ isT l1.pc :=
      fun t1 l1 n1 h1 hT1 => n1 (I.uniqT _ _ _ _ h1 hl hT1 trivial)
    refine geninv_commit I (T.tres trivial) (T.commit rfl) rfl rfl rfl ?_ ?_
    · intro t1 t2 l1 l2 h1 h2 hT1 hT2
      rcases get_set h1 with ⟨e1, f1⟩ | ⟨n1, h1⟩
      · rw [f1] at hT1; exact hT1.elim
      · exact absurd hT1 (nT _ _ n1 h1)
    · intro t1 l1 h1
      rcases get_set h1 with ⟨rfl, rfl⟩ | ⟨n1, h1⟩
      · exact thrOK_idle _ _ _
      · exact (I.thr t1 l1 h1).commit_w (nT _ _ n1 h1) rfl rfl rfl

theorem init_geninv (n : Nat) : GenInv (init n) := by
  refine ⟨rfl, ?_, ?_, ?_, ?_, ?_, ?_⟩
  · intro g row h
    cases g with
    | zero => cases h; rfl
    | succ g => cases h
  · intro g j hg; cases hg
  · intro j
    show cellT [[Cell.empty]] 1 j ≠ _
    unfold cellT; simp
  · intro j hm
    have : cellT [[Cell.empty]] 0 j = .moved := hm
    unfold cellT at this
    cases j <;> simp at this
  · intro t t' l l' h1 _ hT
    rw [init_thread h1] at hT; exact hT.elim
  · intro t l h1
    rw [init_thread h1]; exact thrOK_idle _ _ _

theorem step_geninv {s s' : State} {t : Nat} {inv : Option (Nat × KOp)} {rz : Bool} {pick : Nat} (I : GenInv s)
    (hs : step s t inv rz pick = some s') : GenInv s' := by
  cases hl : s.threads[t]? with
  | none => unfold step stepG at hs; rw [hl] at hs; cases hs
  | some l => exact stepK_geninv I hl (step_stepK hl hs)

theorem reachable_geninv {n : Nat} {s : State} (hr : Reachable n s) : GenInv s := by
  induction hr with
  | init => exact init_geninv n
  | step t inv rz pick _ hs ih => exact step_geninv ih hs

end Flurry.Proto.BinN
