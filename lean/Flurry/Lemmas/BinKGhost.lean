import Flurry.Lemmas.BinKInv
/-! # Proto/BinK: ghost history and the hindsight invariant of the list walkers (C01, a bin that changes its kind)

For a fixed key `k` the ghost state is `A : Nat → KSt` (`A τ` = abstract state `absOf` of `k` — the
first node with key `k` on the **live** chain — after global step `τ`) and `pt : Nat → Nat` (`pt i` =
linearization point of the call invoked at `i`).

* `callsOnExt`: the completed calls plus the calls of writers that are past their linearization
  point (`resOfPc`): list form — the single store at `wStore` (the CAS at `wCas` completes the call);
  tree form — `tVal`, `tPrependLocked`, `tUnlinkLocked`, and `tFind` for a writer that changes nothing.
* `Good A k inv now heap L P cur`: the hindsight justification of a thread walking a list — a reader
  of a list bin, a lock-protocol reader of a tree bin taking linear steps, an iterator — whether
  the list is the live one (`on`) or an unlinked node, the frozen list of a treeified list bin or of
  an untreeified `TreeBin` (`off`).
* `ValWit`: the value cell a `get` is about to load held the abstract value at some time of the call.
* `GInv`: the ghost invariant, a `Trace` of `Lemmas/GhostSig.lean` (`GInv.trace`; `CallOK` unfolds to `GhostView.CallOK Lin.sig`,
  which is why the first five fields of `GInv` are the fields of `Trace`) plus the readers' justifications (the field
  `readers`); `GInv.linearizable` is in `Lemmas/BinKLin.lean`.

`Good`, `RdOK` and `GInv` are kept as statements: nothing establishes them for a transition of BinK. The ghost invariant that
is established for a reachable state of BinK is `BinGNP.GInv` on the image of the state (`Lemmas/BinKEmbedMain.lean`), and the
lemmas about the walkers' justifications are in `Lemmas/BinGNPGhostL.lean`. The models `Proto/BinG` and `Proto/BinGN` use
`AbsWit`, `OnCond`, `Live`, `ValWit`, `CallOK`, `absWit_now`, `onCond_succ`, `AbsWit.step`, the `*_spec` lemmas and the
lemmas about `callsOnExt`. -/
namespace Flurry.Proto.BinK
open Flurry.Lin

theorem isReader_eq_isRead (op : KOp) : isReader op = isRead op := by cases op <;> rfl

def extOf (k now t : Nat) (l : Local) : Option Call :=
  match resOfPc l.pc, l.call with
  | some res, some p => if p.key = k then some ⟨t, p.op, res, p.inv, now⟩ else none
  | _, _ => none

def extCalls (s : State) (k : Nat) : History :=
  (List.range s.threads.length).filterMap (fun t => (s.threads[t]?).bind (extOf k s.now t))

def callsOnExt (s : State) (k : Nat) : History := callsOn s k ++ extCalls s k

theorem extOf_eq (k now t : Nat) (l : Local) : extOf k now t l = GhostView.extOf Lin.sig view k now t l := by
  unfold extOf GhostView.extOf; dsimp only [view]
  cases resOfPc l.pc <;> cases l.call <;> rfl

theorem callsOnExt_eq (s : State) (k : Nat) :
    callsOnExt s k = GhostView.callsOnExt Lin.sig view s.hist s.threads k s.now := by
  have : extOf k s.now = fun t l => GhostView.extOf Lin.sig view k s.now t l :=
    funext fun t => funext fun l => extOf_eq k s.now t l
  unfold callsOnExt extCalls; rw [this]; rfl

theorem extOf_none_of_key {k now t : Nat} {l : Local} {p : Pending} (hp : l.call = some p) (hk : p.key ≠ k) :
    extOf k now t l = none := by
  rw [extOf_eq]
  exact GhostView.extOf_none_of_key (fun q (hq : l.call = some q) => by rw [hp] at hq; cases hq; exact hk)

theorem mem_callsOn {s : State} {k : Nat} {c : Call} : c ∈ callsOn s k ↔ (k, c) ∈ s.hist :=
  GhostView.mem_callsOn

theorem callsOnExt_quiescent {s : State} (hq : quiescent s) (k : Nat) : callsOnExt s k = callsOn s k := by
  rw [callsOnExt_eq]; exact GhostView.callsOnExt_quiescent k s.now (fun l hl => congrArg resOfPc (hq l hl))

export Flurry.GhostView (nextA nextA_old nextA_new)

theorem absentRes_spec {op : KOp} (h : isRead op = true) : specStep none op = (none, absentRes op) := by
  rcases GhostView.isRead_cases h with hop | hop <;> rw [hop] <;> rfl

theorem read_some_spec {op : KOp} (x : Nat × Nat) : isRead op = true →
    specStep (some x) op = (some x, match op with | .has => .bool true | _ => .some x.1 x.2) := by
  intro h
  obtain ⟨_, _⟩ := x
  rcases GhostView.isRead_cases h with hop | hop <;> subst hop <;> rfl

theorem absent_write_spec {op : KOp} (hwr : isRead op = false) (hni : isInsert op = false) :
    specStep none op = (none, .none) := by
  cases op with
  | get => cases hwr
  | has => cases hwr
  | ins _ _ => cases hni
  | tryIns _ _ => cases hni
  | rm => rfl
  | cipInc _ => rfl
  | cipRm => rfl

/-- the key was absent at some time of the call -/
def AbsWit (A : Nat → KSt) (inv now : Nat) : Prop := ∃ τ, inv ≤ τ ∧ τ ≤ now ∧ A τ = none

/-- a reader standing on the live node `c`: either no node in front of `c` has key `k` (then "now" is a
good time for whatever it finds), or the key was absent at some time of the call -/
def OnCond (A : Nat → KSt) (k inv now : Nat) (heap : List NodeS) (L : List Nat) (c : Nat) : Prop :=
  (∀ i, List.Sublist [i, c] L → (nodeAt heap i).key ≠ k) ∨ AbsWit A inv now

inductive Good (A : Nat → KSt) (k inv now : Nat) (heap : List NodeS) (L : List Nat) (P : Nat → Prop) :
    Option Nat → Prop
  | absent : AbsWit A inv now → Good A k inv now heap L P none
  | on {c : Nat} : c ∈ L → OnCond A k inv now heap L c → Good A k inv now heap L P (some c)
  | off {c : Nat} : c ∉ L → ¬ P c → c < heap.length →
      ((nodeAt heap c).key ≠ k → Good A k inv now heap L P (nodeAt heap c).next) →
      ((nodeAt heap c).key = k → ∃ τ, inv ≤ τ ∧ τ ≤ now ∧ A τ = some (nodeAt heap c).val) →
      Good A k inv now heap L P (some c)

structure Live (heap : List NodeS) (st : Option Nat) (L : List Nat) : Prop where
  ok : NextOK heap
  ch : IsChain heap st L
  dist : ∀ i j, i ∈ L → j ∈ L → (nodeAt heap i).key = (nodeAt heap j).key → i = j

theorem Live.nodup {heap : List NodeS} {st : Option Nat} {L : List Nat} (V : Live heap st L) : L.Nodup :=
  V.ch.nodup V.ok

theorem AbsWit.step {A A' : Nat → KSt} {inv now : Nat} (h : AbsWit A inv now)
    (hA' : ∀ τ, τ ≤ now → A' τ = A τ) : AbsWit A' inv (now + 1) := by
  obtain ⟨τ, h1, h2, h3⟩ := h
  exact ⟨τ, h1, Nat.le_succ_of_le h2, by rw [hA' _ h2]; exact h3⟩

/-- all live nodes have another key: the key is absent now -/
theorem absWit_now {A : Nat → KSt} {k inv now : Nat} {heap : List NodeS} {L : List Nat}
    (hA : A now = absL heap L k) (hinv : inv ≤ now) (h : ∀ i ∈ L, (nodeAt heap i).key ≠ k) : AbsWit A inv now := by
  refine ⟨now, hinv, Nat.le_refl _, ?_⟩
  rw [hA, absL_eq_none_iff]
  exact h

/-- the successor of a live node that does not have the key -/
theorem onCond_succ {A : Nat → KSt} {k inv now : Nat} {heap : List NodeS} {st : Option Nat} {L : List Nat}
    (V : Live heap st L) (hA : A now = absL heap L k) (hinv : inv ≤ now) {c : Nat} (hc : c ∈ L)
    (hcond : OnCond A k inv now heap L c) (hk : (nodeAt heap c).key ≠ k) :
    ((nodeAt heap c).next = none → AbsWit A inv now) ∧
    (∀ b, (nodeAt heap c).next = some b → b ∈ L ∧ OnCond A k inv now heap L b) := by
  obtain ⟨l1, l2, n, hL, hn, _, _⟩ := V.ch.at_mem hc
  have hnode := nodeAt_of_some hn
  have hnx : (nodeAt heap c).next = l2.head? := by
    rw [hnode]; exact (hL ▸ V.ch).next_eq hn
  have hnd := V.nodup
  constructor
  · intro hnone
    rcases hcond with h1 | hw
    · refine absWit_now hA hinv ?_
      rw [hnx] at hnone
      have hl2 : l2 = [] := by
        cases l2 with
        | nil => rfl
        | cons a l => cases hnone
      subst hl2
      intro i hi
      rw [hL] at hi
      rcases List.mem_append.1 hi with hi | hi
      · exact h1 i ((pair_sublist_iff hnd hL i).2 hi)
      · have : i = c := by simpa using hi
        rw [this]; exact hk
    · exact hw
  · intro b hb
    rw [hnx] at hb
    cases l2 with
    | nil => cases hb
    | cons b' l2' =>
      simp only [List.head?_cons, Option.some.injEq] at hb
      subst hb
      refine ⟨by rw [hL]; simp, ?_⟩
      rcases hcond with h1 | hw
      · left
        intro i hi
        have hL' : L = (l1 ++ [c]) ++ b' :: l2' := by rw [hL]; simp
        have := (pair_sublist_iff hnd hL' i).1 hi
        rcases List.mem_append.1 this with hi' | hi'
        · exact h1 i ((pair_sublist_iff hnd hL i).2 hi')
        · have : i = c := by simpa using hi'
          rw [this]; exact hk
      · exact Or.inr hw

/-- node `i` has key `k`, and its current value was the abstract value at some time of the call -/
def ValWit (A : Nat → KSt) (k inv now : Nat) (heap : List NodeS) (i : Nat) : Prop :=
  (nodeAt heap i).key = k ∧ i < heap.length ∧
    ∃ τ, inv ≤ τ ∧ τ ≤ now ∧ A τ = some (nodeAt heap i).val

def RdOK (A : Nat → KSt) (k inv : Nat) (s : State) : Pc → Prop
  | .rNode cur => Good A k inv s.now s.heap (liveChain s) (Priv s) cur
  | .rFirst b => Good A k inv s.now s.heap (liveChain s) (Priv s) (binAt s.tbins b).first
  | .lFirst b => Good A k inv s.now s.heap (liveChain s) (Priv s) (binAt s.tbins b).first
  | .rState _ cur => Good A k inv s.now s.heap (liveChain s) (Priv s) cur
  | .rLin _ c => Good A k inv s.now s.heap (liveChain s) (Priv s) (some c)
  | .rCas _ c _ => Good A k inv s.now s.heap (liveChain s) (Priv s) (some c)
  | .rRelease _ none => AbsWit A inv s.now
  | .rRelease _ (some i) => ValWit A k inv s.now s.heap i
  | .rVal i => ValWit A k inv s.now s.heap i
  | .lNode cur => Good A k inv s.now s.heap (liveChain s) (Priv s) cur
  | _ => True

/-- the call has a linearization point in its interval at which the trace `A` justifies it -/
def CallOK (A : Nat → KSt) (pt : Nat → Nat) (c : Call) : Prop :=
  c.inv ≤ pt c.inv ∧ pt c.inv ≤ c.resp ∧
  (isRead c.op = true → specStep (A (pt c.inv)) c.op = (A (pt c.inv), c.res)) ∧
  (isRead c.op = false → 1 ≤ pt c.inv ∧ specStep (A (pt c.inv - 1)) c.op = (A (pt c.inv), c.res))

structure GInv (k : Nat) (s : State) (A : Nat → KSt) (pt : Nat → Nat) : Prop where
  h0 : A 0 = none
  hA : A s.now = absOf s k
  calls : ∀ c ∈ callsOnExt s k, CallOK A pt c
  stab : ∀ τ, 1 ≤ τ → τ ≤ s.now → A τ ≠ A (τ - 1) →
    ∃ c ∈ callsOnExt s k, isRead c.op = false ∧ pt c.inv = τ
  inj : ∀ c ∈ callsOnExt s k, ∀ d ∈ callsOnExt s k, isRead c.op = false → isRead d.op = false →
    pt c.inv = pt d.inv → c.inv = d.inv
  readers : ∀ (t : Nat) (l : Local) (p : Pending), s.threads[t]? = some l →
    l.call = some p → p.key = k → RdOK A k p.inv s l.pc

theorem GInv.trace {k : Nat} {s : State} {A : Nat → KSt} {pt : Nat → Nat} (g : GInv k s A pt) :
    GhostView.Trace Lin.sig (GhostView.callsOnExt Lin.sig view s.hist s.threads k s.now) s.now (absOf s k) A pt := by
  rw [← callsOnExt_eq]; exact ⟨g.h0, g.hA, g.calls, g.stab, g.inj⟩

end Flurry.Proto.BinK
