import Flurry.Seq.Iter
/-! # Lemmas/IterBasic: one-step facts about the traverser model `Seq/Iter`

`advance` on a `nodes` bin always continues with `recover` (with an empty stack the inlined
"next top-level part" computation of `advance` is what `recover` does); on a `moved` bin it pushes a
frame; `recover` with the low half just finished moves to the high half; `recover` with the high
half finished behaves as `recover` of the parent position. -/
namespace Flurry.Seq.Iter
open Flurry

def FBin.toList : FBin → List Node
  | .nodes ns => ns
  | .moved => []

/-- number of `advance` turns spent in the forwarding subtree below bin `i` of table `j` -/
def steps (c : Chain) : Nat → Nat → Nat → Nat
  | 0, _, _ => 0
  | fuel + 1, j, i =>
    match (tableAt c j).getD i (.nodes []) with
    | .nodes _ => 1
    | .moved => 1 + steps c fuel (j + 1) i + steps c fuel (j + 1) (i + (tableAt c j).length)

/-- a node and two subtrees of at most `2 ^ k - 1` turns each -/
theorem steps_bound {a b k : Nat} (ha : a ≤ 2 ^ k - 1) (hb : b ≤ 2 ^ k - 1) :
    1 + a + b ≤ 2 ^ (k + 1) - 1 := by
  have : 1 ≤ 2 ^ k := Nat.one_le_two_pow
  rw [Nat.pow_succ]; omega

theorem steps_le (c : Chain) : ∀ d j i, steps c d j i ≤ 2 ^ d - 1 := by
  intro d
  induction d with
  | zero => intro j i; exact Nat.le_refl 0
  | succ d ih =>
    intro j i
    unfold steps
    split
    · exact steps_bound (Nat.zero_le _) (Nat.zero_le _)
    · exact steps_bound (ih _ _) (ih _ _)

theorem traverse_succ (c : Chain) (fuel : Nat) (s : St) :
    traverse c (fuel + 1) s =
      match advance c s with
      | none => []
      | some (ns, s') => ns ++ traverse c fuel s' := rfl

/-- with an empty stack `recover` is the inlined top-level step of `advance` -/
theorem recover_nil (j : Option Nat) (i b bl bs n : Nat) :
    recover ⟨j, [], i, b, bl, bs⟩ n =
      if i + bs ≥ n then ⟨j, [], b + 1, b + 1, bl, bs⟩ else ⟨j, [], i + bs, b, bl, bs⟩ := by
  simp [recover, recoverGo]

/-- low half finished: go to the high half in the same table -/
theorem recover_low (j : Option Nat) (f : Frame) (σ : List Frame) (i b bl bs n : Nat)
    (h : i + f.length < n) :
    recover ⟨j, f :: σ, i, b, bl, bs⟩ n = ⟨j, f :: σ, i + f.length, b, bl, bs⟩ := by
  simp [recover, recoverGo, h]

/-- high half finished: pop, and continue as the parent position would -/
theorem recover_high (j : Option Nat) (f : Frame) (σ : List Frame) (i b bl bs n : Nat)
    (h : ¬ i + f.length < n) :
    recover ⟨j, f :: σ, i, b, bl, bs⟩ n =
      recover ⟨some f.table, σ, f.index, b, bl, bs⟩ f.length := by
  simp [recover, recoverGo, h]

theorem advance_nodes (c : Chain) (j : Nat) (σ : List Frame) (i b bl bs : Nat) (ns : List Node)
    (hb : b < bl) (hi : i < (tableAt c j).length)
    (hbin : (tableAt c j).getD i (.nodes []) = .nodes ns) :
    advance c ⟨some j, σ, i, b, bl, bs⟩ =
      some (ns, recover ⟨some j, σ, i, b, bl, bs⟩ (tableAt c j).length) := by
  cases σ with
  | nil =>
    simp only [advance, hbin, recover_nil]
    have h1 : ¬ b ≥ bl := by omega
    have h2 : ¬ (tableAt c j).length ≤ i := by omega
    simp [h1, h2]
  | cons f σ =>
    simp only [advance, hbin]
    have h1 : ¬ b ≥ bl := by omega
    have h2 : ¬ (tableAt c j).length ≤ i := by omega
    simp [h1, h2]

theorem advance_moved (c : Chain) (j : Nat) (σ : List Frame) (i b bl bs : Nat)
    (hb : b < bl) (hi : i < (tableAt c j).length)
    (hbin : (tableAt c j).getD i (.nodes []) = .moved) :
    advance c ⟨some j, σ, i, b, bl, bs⟩ =
      some ([], ⟨some (j + 1), ⟨(tableAt c j).length, i, j⟩ :: σ, i, b, bl, bs⟩) := by
  simp only [advance, hbin]
  have h1 : ¬ b ≥ bl := by omega
  have h2 : ¬ (tableAt c j).length ≤ i := by omega
  simp [h1, h2]

theorem advance_done (c : Chain) (j : Option Nat) (σ : List Frame) (i b bl bs : Nat)
    (hb : bl ≤ b) : advance c ⟨j, σ, i, b, bl, bs⟩ = none := by
  cases j with
  | none => simp [advance]
  | some j => simp [advance, hb]

theorem traverse_done (c : Chain) (fuel : Nat) (j : Option Nat) (σ : List Frame)
    (i b bl bs : Nat) (hb : bl ≤ b) : traverse c fuel ⟨j, σ, i, b, bl, bs⟩ = [] := by
  cases fuel with
  | zero => rfl
  | succ fuel => rw [traverse_succ, advance_done c j σ i b bl bs hb]

theorem tableAt_cons_succ (t : FTable) (c : Chain) (j : Nat) :
    tableAt (t :: c) (j + 1) = tableAt c j := by
  simp [tableAt]

theorem ChainWF.len_succ {c : Chain} (h : ChainWF c) {j : Nat} (hj : j + 1 < c.length) :
    (tableAt c (j + 1)).length = 2 * (tableAt c j).length := h.1 j hj

theorem ChainWF.len_pos {c : Chain} (h : ChainWF c) {j : Nat} (hj : j < c.length) :
    0 < (tableAt c j).length := h.2.1 j hj

theorem getLast?_eq_tableAt (c : Chain) (j : Nat) (hj : j + 1 = c.length) :
    c.getLast? = some (tableAt c j) := by
  have hj' : j < c.length := by omega
  rw [List.getLast?_eq_getElem?]
  have : c.length - 1 = j := by omega
  rw [this]
  simp [tableAt, List.getD, List.getElem?_eq_getElem hj']

theorem ChainWF.moved_not_last {c : Chain} (h : ChainWF c) {j i : Nat} (hj : j < c.length)
    (hi : i < (tableAt c j).length) (hbin : (tableAt c j).getD i (.nodes []) = .moved) :
    j + 1 < c.length := by
  apply Classical.byContradiction
  intro hn
  have hlast := getLast?_eq_tableAt c j (by omega)
  have hmem : (tableAt c j).getD i (.nodes []) ∈ tableAt c j := by
    rw [List.getD_eq_getElem?_getD, List.getElem?_eq_getElem hi]
    simp
  exact h.2.2 _ hlast _ hmem hbin

theorem ChainWF.len_eq {c : Chain} (h : ChainWF c) :
    ∀ j, j < c.length → (tableAt c j).length = (tableAt c 0).length * 2 ^ j := by
  intro j
  induction j with
  | zero => intro _; simp
  | succ j ih =>
    intro hj
    rw [h.len_succ hj, ih (by omega), Nat.pow_succ]
    rw [Nat.mul_comm 2, Nat.mul_assoc]

theorem length_tableAt_le_sum (c : Chain) (j : Nat) (hj : j < c.length) :
    (tableAt c j).length ≤ (c.map List.length).sum := by
  induction c generalizing j with
  | nil => simp at hj
  | cons t c ih =>
    cases j with
    | zero => simp [tableAt]
    | succ j =>
      rw [tableAt_cons_succ]
      have := ih j (by simpa using hj)
      simp only [List.map_cons, List.sum_cons]
      omega

/-- the fuel covers a full binary forwarding tree below every top-level bin -/
theorem ChainWF.fuel_bound {c : Chain} (h : ChainWF c) :
    (tableAt c 0).length * (2 ^ c.length - 1) ≤ fuelFor c := by
  unfold fuelFor
  cases hc : c.length with
  | zero => simp
  | succ L =>
    have hL : L < c.length := by omega
    have h1 : (tableAt c 0).length * 2 ^ L ≤ (c.map List.length).sum :=
      h.len_eq L hL ▸ length_tableAt_le_sum c L hL
    calc (tableAt c 0).length * (2 ^ (L + 1) - 1)
        ≤ (tableAt c 0).length * 2 ^ (L + 1) := Nat.mul_le_mul_left _ (Nat.sub_le _ _)
      _ = ((tableAt c 0).length * 2 ^ L) * 2 := by rw [Nat.pow_succ, Nat.mul_assoc]
      _ ≤ (c.map List.length).sum * 2 := Nat.mul_le_mul_right _ h1
      _ ≤ (c.map List.length).sum * (L + 1 + 2) := Nat.mul_le_mul_left _ (by omega)
      _ ≤ _ := Nat.le_add_right _ _

end Flurry.Seq.Iter
