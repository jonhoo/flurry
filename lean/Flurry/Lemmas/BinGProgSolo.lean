import Flurry.Lemmas.BinGProgStepW
import Flurry.Lemmas.BinGProgReach
/-! # Proto/BinG, progress: a reader that runs alone returns within `soloBound` steps

`runSolo t sm sm2 k s`: thread `t` takes `k` steps in a row, all other threads stay where they are.
`reader_solo_aux`: by induction on the measure `mu` of `Lemmas/BinGProgRead.lean`. -/
namespace Flurry.Proto.BinG
open Flurry.Lin

/-- thread `t` runs alone for `k` steps (`sm`, `sm2`: the size decisions, irrelevant for a reader);
`none` if one of these steps is not enabled -/
def runSolo (t : Nat) (sm sm2 : Bool) : Nat → State → Option State
  | 0, s => some s
  | k + 1, s =>
    match step s t none false none false sm sm2 with
    | some s' => runSolo t sm sm2 k s'
    | none => none

theorem runSolo_reachable {n : Nat} {t : Nat} {sm sm2 : Bool} : ∀ (k : Nat) {s s' : State},
    Reachable n s → runSolo t sm sm2 k s = some s' → Reachable n s'
  | 0, s, s', hr, h => by simp only [runSolo, Option.some.injEq] at h; exact h ▸ hr
  | k + 1, s, s', hr, h => by
    simp only [runSolo] at h
    cases hs : step s t none false none false sm sm2 with
    | none => rw [hs] at h; cases h
    | some s1 => rw [hs] at h; exact runSolo_reachable k (.step t none false none false sm sm2 hr hs) h

theorem runSolo_add {t : Nat} {sm sm2 : Bool} : ∀ (j k : Nat) {s s1 s2 : State},
    runSolo t sm sm2 j s = some s1 → runSolo t sm sm2 k s1 = some s2 → runSolo t sm sm2 (j + k) s = some s2
  | 0, k, s, s1, s2, h1, h2 => by
    simp only [runSolo, Option.some.injEq] at h1
    subst h1
    rw [Nat.zero_add]; exact h2
  | j + 1, k, s, s1, s2, h1, h2 => by
    rw [Nat.add_right_comm]
    simp only [runSolo] at h1 ⊢
    cases hs : step s t none false none false sm sm2 with
    | none => rw [hs] at h1; cases h1
    | some s' => rw [hs] at h1; exact runSolo_add j k h1 h2

/-- the induction behind `reader_solo_terminates`: `mu` bounds the number of solo steps -/
theorem reader_solo_aux {n : Nat} {t : Nat} (sm sm2 : Bool) : ∀ (m : Nat) {s : State} {l : Local} {p : Pending},
    Reachable n s → s.threads[t]? = some l → readerPc l.pc = true → l.call = some p → mu s l.pc ≤ m →
    ∃ k, k ≤ m ∧ ∃ s' res resp, runSolo t sm sm2 k s = some s' ∧ Reachable n s' ∧ Frame t s s' ∧
      s'.threads[t]? = some { pc := .idle, call := none } ∧
      s'.hist = (p.key, { tid := t, op := p.op, res := res, inv := p.inv, resp := resp }) :: s.hist
  | 0, s, l, p, _, _, hrd, _, hm => by
    have := mu_pos (s := s) hrd
    omega
  | m + 1, s, l, p, hr, hl, hrd, hp, hm => by
    obtain ⟨p', s1, hp', hs, ho⟩ := reader_step_aux (reachable_inv hr) (reachable_binv hr) hl hrd none false none false sm sm2
    rw [hp] at hp'
    cases hp'
    have hr1 : Reachable n s1 := Reachable.step t none false none false sm sm2 hr hs
    have hf1 : Frame t s s1 := reader_step_frame_aux hl hrd hs
    rcases ho with ⟨hidle, res, hh⟩ | ⟨pc', hl1, hrd1, hh1, hmu⟩
    · refine ⟨1, by omega, s1, res, _, ?_, hr1, hf1, hidle, hh⟩
      simp only [runSolo, hs]
    · obtain ⟨k, hk, s', res, resp, hrun, hr', hf', hidle, hh⟩ :=
        reader_solo_aux sm sm2 m (p := p) hr1 hl1 hrd1 rfl (by show mu s1 pc' ≤ m; omega)
      refine ⟨k + 1, by omega, s', res, resp, ?_, hr', hf1.trans hf', hidle, ?_⟩
      · simp only [runSolo, hs]; exact hrun
      · rw [hh, hh1]

theorem reader_solo_terminates_aux {n : Nat} {s : State} (hr : Reachable n s) {t : Nat} {l : Local}
    (hl : s.threads[t]? = some l) (hrd : readerPc l.pc = true) (sm sm2 : Bool) :
    ∃ k, k ≤ soloBound s ∧ ∃ s' p res resp, l.call = some p ∧ runSolo t sm sm2 k s = some s' ∧
      Frame t s s' ∧ s'.threads[t]? = some { pc := .idle, call := none } ∧
      s'.hist = (p.key, { tid := t, op := p.op, res := res, inv := p.inv, resp := resp }) :: s.hist := by
  obtain ⟨p, _, hp, _, _⟩ := reader_step_aux (reachable_inv hr) (reachable_binv hr) hl hrd none false none false sm sm2
  obtain ⟨k, hk, s', res, resp, hrun, _, hf, hidle, hh⟩ :=
    reader_solo_aux (n := n) sm sm2 (soloBound s) hr hl hrd hp
      (mu_le_soloBound hrd (walkOK_of_inv (reachable_inv hr) (reachable_binv hr) hl))
  exact ⟨k, hk, s', p, res, resp, hp, hrun, hf, hidle, hh⟩

end Flurry.Proto.BinG
