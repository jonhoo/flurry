import Flurry.Lemmas.BinNHMBasic
import Flurry.Lemmas.BinXBasic
/-! # Proto/BinN and Proto/BinNH: what a transition does to the heap (definitions and congruence lemmas) (C01, C10)

* `HeapStep s s' G G'`: what every transition except the store of the forwarding marker does to the heap as far as
  lock-free readers are concerned (`ordS`: the rank of an old node stays although `cr` grows, because a split adds
  fresh indices only).
* `Update s s' G id C'`: the generic surgery on the chain of an *active* cell `id`, whose chain afterwards is `C'`;
  the nodes off the old chain of `id` are untouched (`other`), so the other chains and the splits under way are
  (`Lemmas/BinNHMSurgery.lean`). `Effect`: an `Update` that is a `HeapStep`. -/
namespace Flurry.Proto.BinNHM
open Flurry.Proto.BinN
open Flurry.Lin
open Flurry.Proto.BinX (NodeS Cell Pending dflt chainFrom cellHead cellOfHead nodeAt IsSeg IsChain chainH chainH_empty
  chainH_moved absIn absIn_same KeysDistinct cellHead_cellOfHead cellOfHead_ne_moved)

structure HeapStep (s s' : State) (G G' : Ghost) : Prop where
  len : s.heap.length ≤ s'.heap.length
  key : ∀ j, j < s.heap.length → (nodeAt s'.heap j).key = (nodeAt s.heap j).key
  ordS : ∀ j, j < s.heap.length → ord G'.cr j = ord G.cr j
  movedMono : ∀ id, getCell s id = .moved → getCell s' id = .moved
  /-- nodes that are not live are not written and stay dead -/
  off : ∀ j, j < s.heap.length → ¬ Live s G j →
    (nodeAt s'.heap j).val = (nodeAt s.heap j).val ∧ (nodeAt s'.heap j).next = (nodeAt s.heap j).next ∧
    ¬ Live s' G' j
  /-- the live chain of a key only gains fresh nodes -/
  lc : ∀ k j, j ∈ LC s' k → j ∈ LC s k ∨ (s.heap.length ≤ j ∧ ¬ isCopy G'.cr j)
  /-- a node that is unlinked from the live chain of a key keeps its value and its `next`, is dead, and only
  one node is unlinked -/
  unl : ∀ k c, c ∈ LC s k → c ∉ LC s' k →
    (nodeAt s'.heap c).val = (nodeAt s.heap c).val ∧ (nodeAt s'.heap c).next = (nodeAt s.heap c).next ∧
    ¬ Live s' G' c ∧ ∀ j ∈ LC s k, j ≠ c → j ∈ LC s' k
  /-- the same for the chain of any cell -/
  unlC : ∀ id c, c ∈ chId s id → c ∉ chId s' id →
    (nodeAt s'.heap c).val = (nodeAt s.heap c).val ∧ (nodeAt s'.heap c).next = (nodeAt s.heap c).next ∧
    ¬ Live s' G' c ∧ ∀ j ∈ chId s id, j ≠ c → j ∈ chId s' id

theorem Live_congr {s s' : State} (hh : s'.heap = s.heap) (ht : s'.tabs = s.tabs) (G : Ghost) (i : Nat) :
    Live s' G i ↔ Live s G i := by
  unfold Live
  rw [hh]
  constructor
  · rintro (⟨id, h⟩ | h)
    · rw [chId_congr hh ht] at h; exact Or.inl ⟨id, h⟩
    · exact Or.inr h
  · rintro (⟨id, h⟩ | h)
    · rw [← chId_congr hh ht] at h; exact Or.inl ⟨id, h⟩
    · exact Or.inr h

/-- with heap and ghost unchanged, what is live afterwards is on the chain of a cell or was live before -/
theorem Live.of_same_heap {s s' : State} {G : Ghost} {i : Nat} (hh : s'.heap = s.heap)
    (hch : ∀ id, i ∈ chId s' id → Live s G i) (hl : Live s' G i) : Live s G i := by
  rcases hl with ⟨id, hl⟩ | hl
  · exact hch id hl
  · rw [hh] at hl; exact Or.inr hl

theorem Shape.congr {s s' : State} (S : Shape s) (ht : s'.tabs = s.tabs) (hc : s'.cur = s.cur)
    (hr : s'.resizing = s.resizing) : Shape s' := BinN.Shape.congr S ht hc hr

theorem HInv.congr {s s' : State} {G : Ghost} (H : HInv s G) (hh : s'.heap = s.heap) (ht : s'.tabs = s.tabs)
    (hc : s'.cur = s.cur) (hr : s'.resizing = s.resizing) : HInv s' G := by
  have hcell : ∀ g j, cellAt s' g j = cellAt s g j := fun g j => by rw [cellAt_eq, cellAt_eq, ht]
  have hg : ∀ id, getCell s' id = getCell s id := getCell_congr ht
  have hch : ∀ id, chId s' id = chId s id := chId_congr hh ht
  refine ⟨H.shape.congr ht hc hr, by rw [hh]; exact H.nextOK, by rw [hh]; exact H.crLt, by rw [hh]; exact H.frOK,
    ?_, ?_, ?_, ?_, ?_⟩
  · intro id h; rw [hg, hh]; exact H.head id h
  · intro id; rw [hch, hh]; exact H.keys id
  · intro id; rw [hch, hh]; exact H.side id
  · intro j'; rw [hcell, hcell, hc]; exact H.nextEmpty j'
  · intro j lo hg' hm
    rw [hcell, hcell, hcell, hc, hh, hch]
    exact H.mid j lo hg' hm

theorem Active.congr {s s' : State} {G : Ghost} {id : CellId} (act : Active s G id) (ht : s'.tabs = s.tabs)
    (hc : s'.cur = s.cur) : Active s' G id := by
  unfold Active at act ⊢
  have hcell : ∀ g j, cellAt s' g j = cellAt s g j := fun g j => by rw [cellAt_eq, cellAt_eq, ht]
  rw [getCell_congr ht, hc, hcell]
  exact act

theorem HeapStep.of_same {s s' : State} {G : Ghost} (hh : s'.heap = s.heap) (ht : s'.tabs = s.tabs)
    (hc : s'.cur = s.cur) : HeapStep s s' G G := by
  refine ⟨by rw [hh]; exact Nat.le_refl _, by intros; rw [hh], fun _ _ => rfl, ?_, ?_, ?_, ?_, ?_⟩
  · intro id h; rw [getCell_congr ht]; exact h
  · intro j _ hj
    rw [hh]
    exact ⟨rfl, rfl, fun h => hj ((Live_congr hh ht G j).1 h)⟩
  · intro k j hj
    rw [LC_congr hh ht hc] at hj
    exact Or.inl hj
  · intro k c hc1 hc2
    rw [LC_congr hh ht hc] at hc2
    exact absurd hc1 hc2
  · intro id c hc1 hc2
    rw [chId_congr hh ht] at hc2
    exact absurd hc1 hc2

structure Update (s s' : State) (G : Ghost) (id : CellId) (C' : List Nat) : Prop where
  nextOK : NextOK G.cr s'.heap
  len : s.heap.length ≤ s'.heap.length
  cell : ∀ id', id' ≠ id → getCell s' id' = getCell s id'
  cur : s'.cur = s.cur
  resz : s'.resizing = s.resizing
  tlen : s'.tabs.length = s.tabs.length
  rows : ∀ (g : Nat) (row' : List Cell), s'.tabs[g]? = some row' →
    ∃ row : List Cell, s.tabs[g]? = some row ∧ row'.length = row.length
  notMoved : getCell s' id ≠ .moved
  chain : IsChain s'.heap (cellHead (getCell s' id)) C'
  other : ∀ j, j < s.heap.length → j ∉ chId s id → nodeAt s'.heap j = nodeAt s.heap j
  keys : KeysDistinct s'.heap C'
  side : ∀ j ∈ C', keyOn id (nodeAt s'.heap j).key

def Effect (s s' : State) (G : Ghost) (id : CellId) : Prop :=
  ∃ C', Update s s' G id C' ∧ HeapStep s s' G G

end Flurry.Proto.BinNHM
