import Flurry.Lemmas.BinGProgEn
/-! # Proto/BinG, termination: the global measure `gmu`

`gmu s = W s * DA s + PS s` where
* `G s`: the number of threads that may still grow the heap (each call / treeify / transfer allocates
  at most once more: one node, or copies of the nodes of a chain that is no longer than the heap). The
  largest such allocation is a tree split, which may triple the heap (`ysplitOf_size`,
  `Lemmas/BinGDrainStep.lean`): a heap of length `n` becomes at most `4 * (n + 1) - 1` long, whence the `4` in
  `N s = (heap.length + 1) * 4 ^ G s`, which bounds the heap length of every later state and never
  increases;
* `DA s = Σ_t daV …`: the number of *disturbing* steps the threads in flight still have ahead of them —
  stores into nodes, cells and the table pointer, allocations, and changes of the read-write lock word
  of a `TreeBin` (`WRITER`, `WAITER`, reader count); a call / treeify / transfer performs a bounded
  number of them (at most 5) and a retry loop (failed re-check, failed reader CAS) contains none;
* `PS s = Σ_t pmV (N s) …`: per thread, a bound on the number of *calm* steps (loads, lock and unlock of
  a node / of a bin mutex, local moves) it takes until its next disturbing step, its return, or its
  being blocked — taking a possibly stale view into account (a pending failed re-check, a pending
  failed CAS); it depends on the shared state only through the `View`: the cells, the `next` pointers
  and the read-write lock words;
* `W s = threads.length * PM (N s) + 1` where `PM` bounds every `pmV`.
A calm step of thread `t` leaves the `View` alone, so it changes only `t`'s own summand of `PS`, which
strictly decreases; a disturbing step may invalidate the view of every other thread (their summands of
`PS` are then only known to be `≤ PM`), but it decreases `DA`, which pays `W > threads.length * PM`. -/
namespace Flurry.Proto.BinG
open Flurry.Lin
open Flurry.Proto.BinK (nodeAt binAt isInsert NextOK)
open Flurry.Proto.BinGProg (le_of_eval ite_le ite_le_ite)

/-- a quiet step: nothing new is started (an idle thread only ticks) -/
def stepQuiet (s : State) (t : Nat) (lo sm sm2 : Bool) : Option State := step s t none lo none false sm sm2

def insOf (l : Local) : Bool :=
  match l.call with
  | some p => isInsert p.op
  | none => false

/-- the bound for an operation that is about to load its cell in table `tab` (`.old`: one more, for the forwarding hop;
where `2 * n + 12` comes from: header of `Lemmas/BinGDrainCalm.lean`) -/
def fresh (n : Nat) : Tab → Nat
  | .new => 2 * n + 12
  | .old => 2 * n + 13

theorem fresh_le (n : Nat) (tab : Tab) : fresh n tab ≤ 2 * n + 13 := by
  cases tab <;> simp only [fresh] <;> omega

theorem fresh_new_lt_old (n : Nat) : fresh n .new < fresh n .old := by simp only [fresh]; omega

theorem lt_fresh {n k : Nat} (tab : Tab) (h : k ≤ 2 * n + 11) : k < fresh n tab := by
  cases tab <;> simp only [fresh] <;> omega

theorem fresh_mono {L L' : Nat} (h : L ≤ L') (tab : Tab) : fresh L tab ≤ fresh L' tab := by
  cases tab <;> simp only [fresh] <;> omega

/-- what the calm-step measure reads of the shared state -/
structure View where
  cell : Tab → Nat → Cell
  c0 : Cell
  next : Nat → Option Nat
  casok : Nat → Nat → Bool
  waiter : Nat → Bool

def viewOf (s : State) : View :=
  { cell := cellOf s, c0 := s.cell0, next := fun i => (nodeAt s.heap i).next, casok := casOk s,
    waiter := fun b => (binAt s.tbins b).waiter }

theorem viewOf_eq {s s' : State} (h0 : s'.cell0 = s.cell0) (h1 : s'.lowCell = s.lowCell)
    (h2 : s'.highCell = s.highCell) (hn : ∀ i, (nodeAt s'.heap i).next = (nodeAt s.heap i).next)
    (hw : ∀ b, (binAt s'.tbins b).writer = (binAt s.tbins b).writer)
    (ha : ∀ b, (binAt s'.tbins b).waiter = (binAt s.tbins b).waiter)
    (hr : ∀ b, (binAt s'.tbins b).readers = (binAt s.tbins b).readers) : viewOf s' = viewOf s := by
  have e1 : cellOf s' = cellOf s := by
    funext tab k; unfold cellOf; rw [h0, h1, h2]
  have e2 : (fun i => (nodeAt s'.heap i).next) = fun i => (nodeAt s.heap i).next := funext hn
  have e3 : casOk s' = casOk s := by
    funext b r; unfold casOk; rw [hw, ha, hr]
  have e4 : (fun b => (binAt s'.tbins b).waiter) = fun b => (binAt s.tbins b).waiter := funext ha
  unfold viewOf
  rw [e1, h0, e2, e3, e4]

/-- as `BinK.rank`, with `L` in place of the heap length -/
def rankL (L : Nat) (next : Nat → Option Nat) (i : Nat) : Nat :=
  match next i with
  | some j => if j < i then L + i + 1 else L - i
  | none => L - i

/-- the same definition as `BinGProg.rankL`, whose lemmas serve both bin models -/
theorem rankL_eq : rankL = BinGProg.rankL := rfl

theorem rankL_le (L : Nat) (next : Nat → Option Nat) (i : Nat) : rankL L next i ≤ L + i + 1 :=
  rankL_eq ▸ BinGProg.rankL_le L next i

theorem rankL_le_two {L : Nat} (next : Nat → Option Nat) {i : Nat} (h : i < L) : rankL L next i ≤ 2 * L := by
  have := rankL_le L next i
  omega

theorem rankL_mono {L L' : Nat} (h : L ≤ L') (next : Nat → Option Nat) (i : Nat) :
    rankL L next i ≤ rankL L' next i :=
  rankL_eq ▸ BinGProg.rankL_mono h next i

theorem rankL_lt {heap : List NodeS} (hok : NextOK heap) {L : Nat} (hL : heap.length ≤ L) {i j : Nat} {n : NodeS}
    (hn : heap[i]? = some n) (hj : n.next = some j) :
    rankL L (fun i => (nodeAt heap i).next) j < rankL L (fun i => (nodeAt heap i).next) i :=
  rankL_eq ▸ BinGProg.rankL_lt hok hL hn hj

/-- an upper bound on the number of calm steps a thread with local state `l` takes in a state with view
`v` (heap no longer than `L`) before its next disturbing step, its return, or its being blocked -/
def pmV (L : Nat) (v : View) (l : Local) : Nat :=
  match l.pc with
  | .idle => 0
  | .rTable _ => 4 * L + 10
  | .rCell _ .old => 4 * L + 9
  | .rCell _ .new => 4 * L + 8
  | .rNode none => 1
  | .rNode (some c) => rankL L v.next c + 2
  | .rFirst _ => 4 * L + 7
  | .rState _ none => 1
  | .rState _ (some c) => 2 * rankL L v.next c + 6
  | .rLin _ c => 2 * rankL L v.next c + 5
  | .rCas b c r => if v.casok b r = true then 4 else 2 * rankL L v.next c + 7
  | .rTree _ => 3
  | .rRelease _ _ => 2
  | .rVal _ => 1
  | .lFirst _ => 2 * L + 3
  | .lNode none => 1
  | .lNode (some c) => rankL L v.next c + 2
  | .wTable => 2 * L + 14
  | .wCell tab => fresh L tab
  | .wCas tab => if v.cell tab (keyOf l) = .empty ∧ insOf l = true then 1 else 1 + fresh L tab
  | .wLock tab h => if v.cell tab (keyOf l) = .list h then 2 * L + 6 else 3 + fresh L tab
  | .wCheck tab h => if v.cell tab (keyOf l) = .list h then 2 * L + 5 else 2 + fresh L tab
  | .wFind _ _ _ none => 3
  | .wFind _ _ _ (some c) => rankL L v.next c + 4
  | .wStore _ _ _ _ _ => 2
  | .wUnlock _ _ _ false => 1
  | .wUnlock tab _ _ true => 1 + fresh L tab
  | .tMutex tab b => if v.cell tab (keyOf l) = .tree b then 10 else 3 + fresh L tab
  | .tCheck tab b => if v.cell tab (keyOf l) = .tree b then 9 else 2 + fresh L tab
  | .tFind _ _ => 8
  | .tVal _ _ _ _ _ => 2
  | .lrTry _ _ _ _ => 7
  | .lrLoop _ _ _ _ => 5
  | .tPrependLocked _ _ => 4
  | .tTreeLinkLocked _ _ _ => 3
  | .tUnlinkLocked _ _ _ _ => 4
  | .tRestructure _ _ _ _ => 3
  | .tUnlockRoot _ _ _ => 2
  | .tUntreeify _ _ _ => 2
  | .tUnlockM _ _ _ false => 1
  | .tUnlockM tab _ _ true => 1 + fresh L tab
  | .kTable _ => 8
  | .kCell .old _ => 7
  | .kCell .new _ => 6
  | .kLock _ _ _ => 5
  | .kCheck _ _ _ => 4
  | .kBuild _ _ _ => 3
  | .kStore _ _ _ _ => 2
  | .kUnlock _ => 1
  | .xCell => 10
  | .xCasMoved => if v.c0 = .empty then 2 else 11
  | .xLock h => if v.c0 = .list h then 8 else 12
  | .xCheck h => if v.c0 = .list h then 7 else 11
  | .xBuild _ => 6
  | .yMutex b => if v.c0 = .tree b then 8 else 12
  | .yCheck b => if v.c0 = .tree b then 7 else 11
  | .yBuild _ => 6
  | .xStoreLow _ _ _ => 5
  | .xStoreHigh _ _ => 4
  | .xStoreMoved _ => 3
  | .xUnlock _ => 2
  | .xCommit => 1

/-- the node a walk stands on -/
def walkIdx : Pc → Option Nat
  | .rNode (some c) | .rState _ (some c) | .rLin _ c | .rCas _ c _ | .lNode (some c) | .wFind _ _ _ (some c) => some c
  | _ => none

def WalkOK (n : Nat) (pc : Pc) : Prop := ∀ c, walkIdx pc = some c → c < n

theorem WalkOK.mono {n m : Nat} (h : n ≤ m) {pc : Pc} (hw : WalkOK n pc) : WalkOK m pc :=
  fun c hc => Nat.lt_of_lt_of_le (hw c hc) h

/-- the walk index is bounded: `PcInv` for a reader, `BInv` for a list-bin writer -/
theorem walkOK_of_inv {s : State} (I : Inv s) (B : BInv s) {t : Nat} {l : Local} (hl : s.threads[t]? = some l) :
    WalkOK s.heap.length l.pc := by
  have hb := (B t l hl).1
  have hpi := I.data.pcInv t l
  have hcall := (I.thr.callOK t l hl).1
  obtain ⟨pc, call⟩ := l
  -- a reader has a call
  have hp : noCallPc pc = false → ∃ p, PcInv s p pc := fun h =>
    match call, hcall, hpi with
    | none, hcall, _ => by rw [hcall rfl] at h; cases h
    | some p, _, hpi => ⟨p, hpi p hl rfl⟩
  intro c hc
  cases pc with
  | wFind _ _ _ cur =>
    cases cur with
    | none => cases hc
    | some c' => cases hc; exact hb c rfl
  | rNode cur | rState _ cur | lNode cur =>
    cases cur with
    | none => cases hc
    | some c' => cases hc; obtain ⟨_, h⟩ := hp rfl; exact h
  | rLin _ _ | rCas _ _ _ => cases hc; obtain ⟨_, h⟩ := hp rfl; exact h
  | _ => cases hc

/-- every alternative of `pmV` is built from `L`, `rankL L` and `fresh L` by monotone operations -/
theorem pmV_mono {L L' : Nat} (h : L ≤ L') (v : View) (l : Local) : pmV L v l ≤ pmV L' v l := by
  obtain ⟨pc, call⟩ := l
  have lin : ∀ k c : Nat, k * L + c ≤ k * L' + c := fun k c => Nat.add_le_add_right (Nat.mul_le_mul_left k h) c
  have rk : ∀ i c : Nat, rankL L v.next i + c ≤ rankL L' v.next i + c :=
    fun i c => Nat.add_le_add_right (rankL_mono h v.next i) c
  have rk2 : ∀ i c : Nat, 2 * rankL L v.next i + c ≤ 2 * rankL L' v.next i + c :=
    fun i c => Nat.add_le_add_right (Nat.mul_le_mul_left 2 (rankL_mono h v.next i)) c
  have fr : ∀ tab c, c + fresh L tab ≤ c + fresh L' tab := fun tab c => Nat.add_le_add_left (fresh_mono h tab) c
  cases pc with
  | rNode cur | lNode cur | wFind _ _ _ cur =>
    cases cur with
    | none => exact Nat.le_refl _
    | some c => exact rk c _
  | rState _ cur =>
    cases cur with
    | none => exact Nat.le_refl _
    | some c => exact rk2 c _
  | rLin _ c => exact rk2 c _
  | rCas _ c _ => exact ite_le_ite (Nat.le_refl _) (rk2 c _)
  | rCell _ tab => cases tab <;> exact lin _ _
  | kCell tab _ => cases tab <;> exact Nat.le_refl _
  | rTable _ | rFirst _ | lFirst _ | wTable => exact lin _ _
  | wCell tab => exact fresh_mono h tab
  | wCas tab | tMutex tab _ | tCheck tab _ => exact ite_le_ite (Nat.le_refl _) (fr tab _)
  | wLock tab _ | wCheck tab _ => exact ite_le_ite (lin _ _) (fr tab _)
  | wUnlock tab _ _ retry | tUnlockM tab _ _ retry => cases retry <;> first | exact Nat.le_refl _ | exact fr tab _
  | _ => exact Nat.le_refl _

/-- the bound of C12 (`soloBound`, `Lemmas/BinGProgRead.lean`, is this at the present heap length) -/
theorem pmV_le_reader {L : Nat} (v : View) {l : Local} (hr : readerPc l.pc = true) (hw : WalkOK L l.pc) :
    pmV L v l ≤ 4 * L + 10 := by
  obtain ⟨pc, call⟩ := l
  have h2 := fun {c} (hc : c < L) => rankL_le_two v.next hc
  cases pc with
  | rNode cur | rState _ cur | lNode cur =>
    cases cur with
    | none => exact Nat.le_trans (le_of_eval rfl) (Nat.le_add_left 10 _)
    | some c => have := h2 (hw c rfl); simp only [pmV]; omega
  | rLin _ c => have := h2 (hw c rfl); simp only [pmV]; omega
  | rCas _ c _ => exact ite_le (by omega) (by have := h2 (hw c rfl); omega)
  | rCell _ tab => cases tab <;> simp only [pmV] <;> omega
  | rTable _ | rFirst _ | lFirst _ => simp only [pmV] <;> omega
  | rTree _ | rRelease _ _ | rVal _ => exact Nat.le_trans (le_of_eval rfl) (Nat.le_add_left 10 _)
  | _ => cases hr

theorem pmV_le_writer {L : Nat} (v : View) {l : Local} (hr : readerPc l.pc = false) (hw : WalkOK L l.pc) :
    pmV L v l ≤ 2 * L + 16 := by
  obtain ⟨pc, call⟩ := l
  have hf := fresh_le L
  cases pc with
  | wFind _ _ _ cur =>
    cases cur with
    | none => exact Nat.le_trans (le_of_eval rfl) (Nat.le_add_left 16 _)
    | some c => have := rankL_le_two v.next (hw c rfl); simp only [pmV]; omega
  | wCell tab => exact Nat.le_trans (hf tab) (by omega)
  | wTable => simp only [pmV]; omega
  | wCas tab | wLock tab _ | wCheck tab _ | tMutex tab _ | tCheck tab _ =>
    exact ite_le (by omega) (by have := hf tab; omega)
  | wUnlock tab _ _ retry | tUnlockM tab _ _ retry => have := hf tab; cases retry <;> simp only [pmV] <;> omega
  | kCell tab _ => cases tab <;> exact Nat.le_trans (le_of_eval rfl) (Nat.le_add_left 16 _)
  | xCasMoved | xLock _ | xCheck _ | yMutex _ | yCheck _ => exact ite_le (by omega) (by omega)
  | rTable _ | rCell _ _ | rNode _ | rFirst _ | rState _ _ | rLin _ _ | rCas _ _ _ | rTree _ | rRelease _ _
  | rVal _ | lFirst _ | lNode _ => cases hr
  | _ => exact Nat.le_trans (le_of_eval rfl) (Nat.le_add_left 16 _)

def PM (L : Nat) : Nat := 4 * L + 20

theorem pmV_le {L : Nat} (v : View) {l : Local} (hw : WalkOK L l.pc) : pmV L v l ≤ PM L := by
  unfold PM
  cases hr : readerPc l.pc with
  | true => have := pmV_le_reader v hr hw; omega
  | false => have := pmV_le_writer v hr hw; omega

/-- the number of disturbing steps a thread at `pc` may still perform before it is `idle`. The five of a tree-bin
writer: `WAITER`, the write lock, the store (`tPrependLocked` / `tUnlinkLocked`), the tree link or the restructuring,
the release of the write lock; of a transfer: the allocation of the copies, the two child stores, the marker, the
commit. A reader of a `TreeBin` has the increment and the decrement of the reader count, a treeify its allocation and
its store into the cell, a list-bin writer its store; one that has not yet seen its cell counts 5, since the cell
may hold a `TreeBin`. -/
def daPc : Pc → Nat
  | .rTable _ | .rCell _ _ | .rFirst _ | .rState _ _ | .rLin _ _ | .rCas _ _ _ => 2
  | .rTree _ | .rRelease _ _ => 1
  | .wTable | .wCell _ | .wCas _ | .wLock _ _ | .wCheck _ _ | .wUnlock _ _ _ true => 5
  | .wFind _ _ _ _ | .wStore _ _ _ _ _ => 1
  | .tMutex _ _ | .tCheck _ _ | .tFind _ _ | .tUnlockM _ _ _ true | .lrTry _ _ _ _ | .lrLoop _ _ _ _ => 5
  | .tVal _ _ _ _ _ => 1
  | .tPrependLocked _ _ | .tUnlinkLocked _ _ _ _ => 3
  | .tTreeLinkLocked _ _ _ | .tRestructure _ _ _ _ => 2
  | .tUnlockRoot _ _ _ | .tUntreeify _ _ _ => 1
  | .kTable _ | .kCell _ _ | .kLock _ _ _ | .kCheck _ _ _ | .kBuild _ _ _ => 2
  | .kStore _ _ _ _ => 1
  | .xCell | .xCasMoved | .xLock _ | .xCheck _ | .xBuild _ | .yMutex _ | .yCheck _ | .yBuild _ => 5
  | .xStoreLow _ _ _ => 4
  | .xStoreHigh _ _ => 3
  | .xStoreMoved _ => 2
  | .xUnlock _ | .xCommit => 1
  | _ => 0

/-- `daPc`, taking into account that a writer at `lrLoop` may already have set `WAITER` -/
def daV (v : View) (l : Local) : Nat :=
  match l.pc with
  | .lrLoop _ b _ _ => 4 + (if v.waiter b = true then 0 else 1)
  | pc => daPc pc

theorem daV_le (v : View) (l : Local) : daV v l ≤ 5 := by
  obtain ⟨pc, call⟩ := l
  cases pc with
  | lrLoop _ b _ _ => exact Nat.add_le_add_left (ite_le (Nat.zero_le _) (Nat.le_refl _)) 4
  | wUnlock _ _ _ retry | tUnlockM _ _ _ retry => cases retry <;> exact le_of_eval rfl
  | _ => exact le_of_eval rfl

/-- `daV` of a thread grows only if the `WAITER` bit of the `TreeBin` it is parked at is cleared -/
theorem daV_le_of_waiter {v v' : View} (l : Local)
    (hw : ∀ tab b k res, l.pc = .lrLoop tab b k res → v.waiter b = true → v'.waiter b = true) :
    daV v' l ≤ daV v l := by
  obtain ⟨pc, call⟩ := l
  cases pc with
  | lrLoop tab b k res =>
    refine Nat.add_le_add_left ?_ 4
    by_cases h : v.waiter b = true
    · exact Nat.le_of_eq (by rw [if_pos (hw tab b k res rfl h), if_pos h])
    · exact Nat.le_trans (ite_le (Nat.zero_le _) (Nat.le_refl _)) (Nat.le_of_eq (if_neg h).symm)
  | _ => exact Nat.le_refl _

/-- `1` while the thread may still grow the heap -/
def grow : Pc → Nat
  | .wTable | .wCell _ | .wCas _ | .wLock _ _ | .wCheck _ _ | .wFind _ _ _ _ | .wStore _ _ _ _ _
  | .wUnlock _ _ _ true => 1
  | .tMutex _ _ | .tCheck _ _ | .tFind _ _ | .lrTry _ _ _ _ | .lrLoop _ _ _ _ | .tPrependLocked _ _
  | .tUnlinkLocked _ _ _ _ | .tUntreeify _ _ _ | .tUnlockM _ _ _ true => 1
  | .kTable _ | .kCell _ _ | .kLock _ _ _ | .kCheck _ _ _ | .kBuild _ _ _ => 1
  | .xCell | .xCasMoved | .xLock _ | .xCheck _ | .xBuild _ | .yMutex _ | .yCheck _ | .yBuild _ => 1
  | _ => 0

theorem grow_le_one (pc : Pc) : grow pc ≤ 1 := by
  cases pc with
  | wUnlock _ _ _ retry | tUnlockM _ _ _ retry => cases retry <;> exact le_of_eval rfl
  | _ => exact le_of_eval rfl

def G (s : State) : Nat := (s.threads.map fun l => grow l.pc).sum

def N (s : State) : Nat := (s.heap.length + 1) * 4 ^ G s

def DA (s : State) : Nat := (s.threads.map (daV (viewOf s))).sum

def PS (s : State) : Nat := (s.threads.map (pmV (N s) (viewOf s))).sum

def W (s : State) : Nat := s.threads.length * PM (N s) + 1

/-- **the global measure**: every enabled step of a thread that is not `idle` decreases it, as long as
no new call, treeify or resize is started -/
def gmu (s : State) : Nat := W s * DA s + PS s

/-- an explicit bound of `gmu`: a function of the heap length and the number of threads only -/
def drainBound (s : State) : Nat :=
  (s.threads.length * (4 * ((s.heap.length + 1) * 4 ^ s.threads.length) + 20) + 1) * (5 * s.threads.length) +
    s.threads.length * (4 * ((s.heap.length + 1) * 4 ^ s.threads.length) + 20)

end Flurry.Proto.BinG
