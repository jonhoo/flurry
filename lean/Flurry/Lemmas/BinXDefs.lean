import Flurry.Lemmas.BinXChain
/-! # Proto/BinX: the invariants (definitions) (C01, C10)

Ghost state `Ghost`: the phase of the (single) transfer (`pre`: the old bin is live and has not been
split; `mid lo hg`: the list has been split, `lo` / `hg` are the heads of the new lists, the old bin
is still the live one; `post`: the forwarding marker is visible, the new bins are live) and the index
range `cr` of the copies.

* `SideOK`: what the split guarantees about one new list (relative to the old chain `O`);
* `HInv`: the heap invariant (all three chains are well-formed, duplicate-free in keys, on the right
  side; phase facts);
* `TInv`: times, operations and program counters fit; `PInv`: the program counters fit the phase;
  `LInv`: the lock protocol; `WInv`: the positions remembered by a walking writer are current. -/
namespace Flurry.Proto.BinX
open Flurry.Lin

inductive Phase where
  | pre
  | mid (lo hg : Option Nat)
  | post
deriving DecidableEq

structure Ghost where
  ph : Phase := .pre
  cr : CR := (0, 0)

def chO (s : State) : List Nat := chainH s.heap s.cell0
def chL (s : State) : List Nat := chainH s.heap s.lowCell
def chH (s : State) : List Nat := chainH s.heap s.highCell
def chB (s : State) (b : Bool) : List Nat := if b then chH s else chL s

/-- the chain a lookup of `k` ends in -/
def LC (s : State) (k : Nat) : List Nat := chainOfCell s (liveCell s k)

/-- what the split guarantees about the new list `X` of side `b`, relative to the old chain `O` -/
structure SideOK (heap : List NodeS) (cr : CR) (O : List Nat) (b : Bool) (X : List Nat) : Prop where
  side : ∀ j ∈ X, hiBit (nodeAt heap j).key = b
  keys : KeysDistinct heap X
  mem : ∀ j ∈ X, j ∈ O ∨ isCopy cr j
  /-- a copy has the key and value of an old node that lies before every re-used node of `X` -/
  src : ∀ j ∈ X, isCopy cr j → ∃ i ∈ O, (nodeAt heap i).key = (nodeAt heap j).key ∧
    (nodeAt heap i).val = (nodeAt heap j).val ∧ ∀ r ∈ O, r ∈ X → i < r
  /-- every old node of side `b` is re-used or has a copy in `X` -/
  cover : ∀ i ∈ O, hiBit (nodeAt heap i).key = b → ∃ j ∈ X, (nodeAt heap j).key = (nodeAt heap i).key ∧
    (nodeAt heap j).val = (nodeAt heap i).val ∧ (j = i ∨ isCopy cr j)
  /-- the re-used nodes are a suffix of the old chain -/
  suffix : ∀ r ∈ O, r ∈ X → ∀ i ∈ O, r < i → i ∈ X

/-- the state of the split: `lo` / `hg` are the heads of well-formed new lists -/
def Split (heap : List NodeS) (cr : CR) (O : List Nat) (lo hg : Option Nat) : Prop :=
  (∀ i ∈ O, i < cr.1) ∧ ∃ L H, IsChain heap lo L ∧ IsChain heap hg H ∧
    SideOK heap cr O false L ∧ SideOK heap cr O true H

/-- nodes that may still be written or (re-)linked -/
def Live (s : State) (cr : CR) (i : Nat) : Prop :=
  i ∈ chO s ∨ i ∈ chL s ∨ i ∈ chH s ∨ (s.cell0 ≠ .moved ∧ isCopy cr i)

structure HInv (s : State) (g : Ghost) : Prop where
  nextOK : NextOK g.cr s.heap
  crOK : g.cr.1 ≤ g.cr.2 ∧ g.cr.2 ≤ s.heap.length
  head0 : ∀ h, s.cell0 = .node h → h < s.heap.length
  headL : ∀ h, s.lowCell = .node h → h < s.heap.length
  headH : ∀ h, s.highCell = .node h → h < s.heap.length
  keysO : KeysDistinct s.heap (chO s)
  keysL : KeysDistinct s.heap (chL s)
  keysH : KeysDistinct s.heap (chH s)
  sideL : ∀ i ∈ chL s, hiBit (nodeAt s.heap i).key = false
  sideH : ∀ i ∈ chH s, hiBit (nodeAt s.heap i).key = true
  oNotCopy : ∀ i ∈ chO s, ¬ isCopy g.cr i
  curNew : s.cur = .new → g.ph = .post
  pre : g.ph = .pre → g.cr.1 = g.cr.2 ∧ s.cell0 ≠ .moved ∧ s.lowCell = .empty ∧ s.highCell = .empty
  mid : ∀ lo hg, g.ph = .mid lo hg → (∃ h, s.cell0 = .node h) ∧
    (s.lowCell = .empty ∨ s.lowCell = cellOfHead lo) ∧ (s.highCell = .empty ∨ s.highCell = cellOfHead hg) ∧
    Split s.heap g.cr (chO s) lo hg
  post : g.ph = .post → s.cell0 = .moved

def PcOp : Pc → KOp → Prop
  | .rTable, op => isReader op = true
  | .rCell _, op => isReader op = true
  | .rNode _, op => isReader op = true
  | .wTable, op => isReader op = false
  | .wCell _, op => isReader op = false
  | .wCas _, op => isReader op = false
  | .wLock _ _, op => isReader op = false
  | .wCheck _ _, op => isReader op = false
  | .wFind _ _ _ _, op => isReader op = false
  | .wStore _ _ _ _ _, op => isReader op = false
  | .wUnlock _ _ _ _, op => isReader op = false
  | _, _ => True

def isT : Pc → Prop
  | .tCell | .tCasMoved | .tLock _ | .tCheck _ | .tBuild _ | .tStoreLow _ _ _ | .tStoreHigh _ _
  | .tStoreMoved _ | .tUnlock _ | .tCommit => True
  | _ => False

def isOp : Pc → Prop
  | .rTable | .rCell _ | .rNode _ | .wTable | .wCell _ | .wCas _ | .wLock _ _ | .wCheck _ _
  | .wFind _ _ _ _ | .wStore _ _ _ _ _ | .wUnlock _ _ _ _ => True
  | _ => False

structure TInv (s : State) : Prop where
  opOK : ∀ (t : Nat) (l : Local) (p : Pending), s.threads[t]? = some l → l.call = some p → PcOp l.pc p.op
  callOK : ∀ (t : Nat) (l : Local), s.threads[t]? = some l → (isOp l.pc ↔ l.call.isSome)
  histTime : ∀ x ∈ s.hist, x.2.inv ≤ x.2.resp ∧ x.2.resp ≤ s.now
  pendTime : ∀ (t : Nat) (l : Local) (p : Pending), s.threads[t]? = some l → l.call = some p → p.inv ≤ s.now
  uniqHP : ∀ x ∈ s.hist, ∀ (t : Nat) (l : Local) (p : Pending), s.threads[t]? = some l → l.call = some p →
    x.2.inv ≠ p.inv
  uniqPP : ∀ (t t' : Nat) (l l' : Local) (p p' : Pending), s.threads[t]? = some l → s.threads[t']? = some l' →
    l.call = some p → l'.call = some p' → p.inv = p'.inv → t = t'
  uniqHH : s.hist.Pairwise (fun x y => x.2.inv ≠ y.2.inv)

/-- the table a program counter works in -/
def tabOf : Pc → Option Tab
  | .rCell tab | .wCell tab | .wCas tab | .wLock tab _ | .wCheck tab _ | .wFind tab _ _ _
  | .wStore tab _ _ _ _ | .wUnlock tab _ _ _ => some tab
  | _ => none

/-- how a program counter constrains the phase and the new cells -/
def PcPh (s : State) (g : Ghost) : Pc → Prop
  | .tCell | .tCasMoved | .tLock _ | .tCheck _ | .tBuild _ => g.ph = .pre
  | .tStoreLow _ lo hg => g.ph = .mid lo hg ∧ s.lowCell = .empty ∧ s.highCell = .empty
  | .tStoreHigh _ hg => ∃ lo, g.ph = .mid lo hg ∧ s.lowCell = cellOfHead lo ∧ s.highCell = .empty
  | .tStoreMoved _ => ∃ lo hg, g.ph = .mid lo hg ∧ s.lowCell = cellOfHead lo ∧ s.highCell = cellOfHead hg
  | .tUnlock _ | .tCommit => g.ph = .post
  | pc => tabOf pc = some .new → g.ph = .post

def isMidPc : Pc → Prop
  | .tStoreLow _ _ _ | .tStoreHigh _ _ | .tStoreMoved _ => True
  | _ => False

structure PInv (s : State) (g : Ghost) : Prop where
  pcPh : ∀ (t : Nat) (l : Local), s.threads[t]? = some l → PcPh s g l.pc
  uniqT : ∀ (t t' : Nat) (l l' : Local), s.threads[t]? = some l → s.threads[t']? = some l' →
    isT l.pc → isT l'.pc → t = t'
  resz : ∀ (t : Nat) (l : Local), s.threads[t]? = some l → isT l.pc → s.resizing = true
  noResz : s.resizing = false → g.ph = .pre
  midHas : ∀ lo hg, g.ph = .mid lo hg → ∃ (t : Nat) (l : Local), s.threads[t]? = some l ∧ isMidPc l.pc

inductive CellId where | c0 | low | high
deriving DecidableEq

def cellId (tab : Tab) (k : Nat) : CellId :=
  match tab with
  | .old => .c0
  | .new => if hiBit k then .high else .low

def getCell (s : State) : CellId → Cell
  | .c0 => s.cell0
  | .low => s.lowCell
  | .high => s.highCell

theorem cellOf_eq (s : State) (tab : Tab) (k : Nat) : cellOf s tab k = getCell s (cellId tab k) := by
  cases tab with
  | old => rfl
  | new => unfold cellOf cellId; dsimp only; split <;> rfl

/-- the thread holds the mutex of node `h` -/
def Holds : Pc → Nat → Prop
  | .wCheck _ h', h => h' = h
  | .wFind _ h' _ _, h => h' = h
  | .wStore _ h' _ _ _, h => h' = h
  | .wUnlock _ h' _ _, h => h' = h
  | .tCheck h', h => h' = h
  | .tBuild h', h => h' = h
  | .tStoreLow h' _ _, h => h' = h
  | .tStoreHigh h' _, h => h' = h
  | .tStoreMoved h', h => h' = h
  | .tUnlock h', h => h' = h
  | _, _ => False

/-- the cell on which the thread holds a validated lock, and the head it saw -/
def vcell (l : Local) : Option (CellId × Nat) :=
  match l.pc, l.call with
  | .wFind tab h _ _, some p => some (cellId tab p.key, h)
  | .wStore tab h _ _ _, some p => some (cellId tab p.key, h)
  | .tBuild h, _ => some (.c0, h)
  | .tStoreLow h _ _, _ => some (.c0, h)
  | .tStoreHigh h _, _ => some (.c0, h)
  | .tStoreMoved h, _ => some (.c0, h)
  | _, _ => none

structure LInv (s : State) : Prop where
  lockHeld : ∀ (t : Nat) (l : Local) (h : Nat), s.threads[t]? = some l → Holds l.pc h →
    h < s.heap.length ∧ (nodeAt s.heap h).lock = some t
  validated : ∀ (t : Nat) (l : Local) (id : CellId) (h : Nat), s.threads[t]? = some l → vcell l = some (id, h) →
    getCell s id = .node h ∧ Holds l.pc h

/-- the walk of a validated writer looking for `key`, seen on the current chain `C`: the nodes passed
are the prefix `l1` (none of them has the key), `pred` is the last of them, `cur` the next node -/
def Walk (heap : List NodeS) (C : List Nat) (key : Nat) (pred cur : Option Nat) : Prop :=
  ∃ l1 l2, C = l1 ++ l2 ∧ cur = l2.head? ∧ pred = l1.getLast? ∧
    ∀ j ∈ l1, (nodeAt heap j).key ≠ key

def WalkOK (s : State) (p : Pending) : Pc → Prop
  | .wFind tab _ pred cur => Walk s.heap (chainH s.heap (cellOf s tab p.key)) p.key pred cur
  | .wStore tab _ pred hit hnext => Walk s.heap (chainH s.heap (cellOf s tab p.key)) p.key pred hit ∧
      ∀ i, hit = some i → (nodeAt s.heap i).key = p.key ∧ hnext = (nodeAt s.heap i).next
  | _ => True

structure WInv (s : State) : Prop where
  walk : ∀ (t : Nat) (l : Local) (p : Pending), s.threads[t]? = some l → l.call = some p → WalkOK s p l.pc

structure Inv (s : State) (g : Ghost) : Prop where
  heap : HInv s g
  thr : TInv s
  ph : PInv s g
  lock : LInv s
  walk : WInv s

end Flurry.Proto.BinX
