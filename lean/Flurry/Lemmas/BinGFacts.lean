import Flurry.Lemmas.BinGGhost
/-! # Proto/BinG: the effect `Eff` of a transition (definitions only)

`Eff s s'`: the structural invariant after the transition, the `KStep` of every key, and the frame
facts the lock-protocol readers need: the `first` field of a `TreeBin` is stored only while it is in
a live cell; the tree content of a `TreeBin` for `k` changes only in the live cell of `k`; a `TreeBin`
that is in no cell (and not private) stays in no cell and keeps a held write lock; a `TreeBin` leaves the
live cell of `k` by an untreeify or by the transfer. Nothing establishes `Eff` for the transitions of BinG: the effect
that is established is `BinGNP.Eff`, for `Proto/BinGN` (`stepN_facts`, `Lemmas/BinGNPBundle.lean`). -/
namespace Flurry.Proto.BinG
open Flurry.Lin
open Flurry.Proto.BinK (nodeAt binAt)

/-- `b` is in a cell a lookup can end in -/
def LiveBin (s : State) (b : Nat) : Prop :=
  s.cell0 = .tree b ∨ (s.cell0 = .moved ∧ (s.lowCell = .tree b ∨ s.highCell = .tree b))

structure Eff (s s' : State) : Prop where
  inv : Inv s'
  kstep : ∀ k, KStep s s' k
  first : ∀ b, b < s.tbins.length → (binAt s'.tbins b).first ≠ (binAt s.tbins b).first → LiveBin s b ∧ LiveBin s' b
  /-- the tree content of a `TreeBin` for `k` changes only while the bin is (and stays) in the live cell of `k` -/
  tree : ∀ b k, b < s.tbins.length → absTree s' b k ≠ absTree s b k →
    cellAt s (liveId s k) = .tree b ∧ cellAt s' (liveId s' k) = .tree b
  /-- a `TreeBin` that leaves the live cell of `k` is untreeified (dead, write lock held for ever) or
  transferred (then its tree shows the abstract state) -/
  live : ∀ b k, cellAt s (liveId s k) = .tree b → cellAt s' (liveId s' k) = .tree b ∨
    (¬ InCell s' b ∧ (binAt s'.tbins b).writer = true) ∨ absTree s' b k = absOf s' k
  dead : ∀ b, b < s.tbins.length → ¬ InCell s b → ¬ PrivBin s b →
    ¬ InCell s' b ∧ ((binAt s.tbins b).writer = true → (binAt s'.tbins b).writer = true)

end Flurry.Proto.BinG
