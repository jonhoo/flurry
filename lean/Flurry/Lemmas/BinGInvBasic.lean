import Flurry.Lemmas.BinGInv
/-! # Proto/BinG: the structural invariant — statements about its classifications and about `Quiet`

How the classifications of program counters imply each other (`holdsMutex_of_validT`, `afterLock_*`, …); what `setCell`
does to a state; `Quiet s s'` (the three cells, the length of the `TreeBin` table, the `first` fields and every heap field
but the lock words are unchanged) and what survives such a change: chains, trees, `CopyOK`, `Plan`, the live cell, the
abstract states (`Quiet.chainC_eq`, `Quiet.plan`, `Quiet.abs_eq`, `Quiet.used_of`); `treeFind`. `chainOf heap (some h)` is
`[]` when `h` is no heap index, so none of this needs validity of the start of a list.

These are statements about single definitions and clauses of BinG's invariant; the `Quiet` lemmas have no user outside this
file. That a step of BinG preserves the invariant is not proved from them: `Inv` of a reachable state is read off the invariant of
`Proto/BinGN` on the image of the state (`Lemmas/BinGLin.lean`), and a new invariant is added there, to the bundle of
`Lemmas/BinGNPBundle.lean`. Other files use `setCell_heap`, `setCell_tbins`, `setCell_threads`,
`cellAt_setCell`, `binRef_of_holdsMutex`, `LInv.mutex_lt`, `treeFind_some` and `xPc_of_xPre`. -/
namespace Flurry.Proto.BinG
open Flurry.Lin Flurry.Proto.BinGS
open Flurry.Proto.BinK (nodeAt binAt NextOK IsChain IsSeg chainOf CInv absL HeapEqv get_set get_set_self get_set_ne)

theorem xPc_of_xPre {pc : Pc} (h : xPre pc = true) : xPc pc = true :=
  imp_of_bor (by cases pc <;> rfl) h

theorem cnt_pos_of {q : Pc → Bool} {ls : List Local} {i : Nat} {l : Local} (h : ls[i]? = some l)
    (hq : q l.pc = true) : 1 ≤ cnt q ls := by
  unfold cnt
  have hm : l ∈ ls.filter (fun l => q l.pc) :=
    List.mem_filter.mpr ⟨List.mem_iff_getElem?.mpr ⟨i, h⟩, hq⟩
  exact List.length_pos_of_mem hm

theorem holdsMutex_of_validT {pc : Pc} {b : Nat} (hv : validT pc = some b) : holdsMutex pc = some b := by
  cases pc <;> first | exact hv | cases hv

theorem holdsMutex_of_wr {pc : Pc} (hw : wr pc = true) : ∃ b, validT pc = some b := by
  cases pc <;> cases hw <;> exact ⟨_, rfl⟩

theorem binRef_of_holdsMutex {pc : Pc} {b : Nat} (h : holdsMutex pc = some b) : binRef pc = some b := by
  cases pc <;> first | exact h | cases h

theorem validated_of_validL {pc : Pc} {h : Nat} (hv : validL pc = some h) : validated pc = true := by
  unfold validated; rw [hv]; rfl

theorem validated_of_validT {pc : Pc} {b : Nat} (hv : validT pc = some b) : validated pc = true := by
  unfold validated; rw [hv]; simp

theorem validated_cases {pc : Pc} (h : validated pc = true) : (∃ a, validL pc = some a) ∨ (∃ b, validT pc = some b) := by
  unfold validated at h
  cases hv : validL pc with
  | some a => exact Or.inl ⟨a, rfl⟩
  | none =>
    cases hw : validT pc with
    | some b => exact Or.inr ⟨b, rfl⟩
    | none => rw [hv, hw] at h; cases h

theorem not_validated {pc : Pc} (h : validated pc = false) : validL pc = none ∧ validT pc = none := by
  unfold validated at h
  cases h2 : validL pc <;> cases h3 : validT pc <;> simp [h2, h3] at h ⊢

theorem afterLock_holdsMutex (tab : Tab) (b : Nat) (k : After) (res : KRes) :
    holdsMutex (afterLock tab b k res) = some b := by
  cases k <;> rfl

theorem afterLock_wr (tab : Tab) (b : Nat) (k : After) (res : KRes) : wr (afterLock tab b k res) = true := by
  cases k <;> rfl

theorem afterLock_validT (tab : Tab) (b : Nat) (k : After) (res : KRes) :
    validT (afterLock tab b k res) = some b := by
  cases k <;> rfl

theorem afterLock_binRef (tab : Tab) (b : Nat) (k : After) (res : KRes) :
    binRef (afterLock tab b k res) = some b := by
  cases k <;> rfl

theorem afterLock_holdsLock (tab : Tab) (b : Nat) (k : After) (res : KRes) :
    holdsLock (afterLock tab b k res) = none := by
  cases k <;> rfl

theorem afterLock_validL (tab : Tab) (b : Nat) (k : After) (res : KRes) :
    validL (afterLock tab b k res) = none := by
  cases k <;> rfl

theorem afterLock_holdsRead (tab : Tab) (b : Nat) (k : After) (res : KRes) :
    holdsRead (afterLock tab b k res) = none := by
  cases k <;> rfl

theorem afterLock_tabOf (tab : Tab) (b : Nat) (k : After) (res : KRes) :
    tabOf (afterLock tab b k res) = some tab := by
  cases k <;> rfl

theorem afterLock_pend (s : State) (tab : Tab) (b : Nat) (k : After) (res : KRes) :
    pend s (afterLock tab b k res) = [] := by
  cases k <;> rfl

theorem afterLock_xPc (tab : Tab) (b : Nat) (k : After) (res : KRes) : xPc (afterLock tab b k res) = false := by
  cases k <;> rfl

theorem afterLock_kPc (tab : Tab) (b : Nat) (k : After) (res : KRes) : kPc (afterLock tab b k res) = false := by
  cases k <;> rfl

theorem afterLock_readerPc (tab : Tab) (b : Nat) (k : After) (res : KRes) :
    readerPc (afterLock tab b k res) = false := by
  cases k <;> rfl

theorem afterLock_noCallPc (tab : Tab) (b : Nat) (k : After) (res : KRes) :
    noCallPc (afterLock tab b k res) = false := by
  cases k <;> rfl

theorem afterLock_isLoop (tab : Tab) (b : Nat) (k : After) (res : KRes) :
    isLoop (afterLock tab b k res) = false := by
  cases k <;> rfl

/-- a thread that keeps its call and moves to `afterLock` works in the same cell as at a program
counter of table `tab` -/
theorem afterLock_cidOf (tab : Tab) (b : Nat) (k : After) (res : KRes) (p : Pending) :
    cidOf { pc := afterLock tab b k res, call := some p } = idOf tab p.key := by
  cases k <;> rfl

theorem cellAt_setCell (s : State) (tab : Tab) (k : Nat) (c : Cell) (id : Cid) :
    cellAt (setCell s tab k c) id = if id = idOf tab k then c else cellAt s id := by
  cases tab with
  | old => cases id <;> simp [setCell, idOf, cellAt]
  | new =>
    unfold setCell idOf
    dsimp only
    cases hiBit k <;> cases id <;> simp [cellAt]

theorem setCell_heap (s : State) (tab : Tab) (k : Nat) (c : Cell) : (setCell s tab k c).heap = s.heap := by
  cases tab with
  | old => rfl
  | new => unfold setCell; dsimp only; split <;> rfl

theorem setCell_tbins (s : State) (tab : Tab) (k : Nat) (c : Cell) : (setCell s tab k c).tbins = s.tbins := by
  cases tab with
  | old => rfl
  | new => unfold setCell; dsimp only; split <;> rfl

theorem setCell_threads (s : State) (tab : Tab) (k : Nat) (c : Cell) : (setCell s tab k c).threads = s.threads := by
  cases tab with
  | old => rfl
  | new => unfold setCell; dsimp only; split <;> rfl

theorem LInv.mutex_lt {s : State} (L : LInv s) {t : Nat} {l : Local} {b : Nat} (hl : s.threads[t]? = some l)
    (hh : holdsMutex l.pc = some b) : b < s.tbins.length :=
  (L.refOK t l b hl (binRef_of_holdsMutex hh)).1

structure Quiet (s s' : State) : Prop where
  cell0 : s'.cell0 = s.cell0
  low : s'.lowCell = s.lowCell
  high : s'.highCell = s.highCell
  heap : Flurry.Proto.BinK.HeapEqv s.heap s'.heap
  tlen : s'.tbins.length = s.tbins.length
  first : ∀ b, (binAt s'.tbins b).first = (binAt s.tbins b).first

theorem Quiet.cellAt_eq {s s' : State} (q : Quiet s s') (id : Cid) : cellAt s' id = cellAt s id := by
  cases id
  · exact q.cell0
  · exact q.low
  · exact q.high

theorem Quiet.cellOf_eq {s s' : State} (q : Quiet s s') (tab : Tab) (k : Nat) : cellOf s' tab k = cellOf s tab k := by
  rw [BinG.cellOf_eq, BinG.cellOf_eq, q.cellAt_eq]

theorem Quiet.startOf_eq {s s' : State} (q : Quiet s s') (c : Cell) : startOf s'.tbins c = startOf s.tbins c := by
  cases c with
  | empty => rfl
  | list h => rfl
  | tree b => exact q.first b
  | moved => rfl

theorem Quiet.key_eq {s s' : State} (q : Quiet s s') (j : Nat) : (nodeAt s'.heap j).key = (nodeAt s.heap j).key :=
  (q.heap.2 j).1

theorem Quiet.val_eq {s s' : State} (q : Quiet s s') (j : Nat) : (nodeAt s'.heap j).val = (nodeAt s.heap j).val :=
  (q.heap.2 j).2.1

theorem Quiet.inTree_eq {s s' : State} (q : Quiet s s') (j : Nat) :
    (nodeAt s'.heap j).inTree = (nodeAt s.heap j).inTree :=
  (q.heap.2 j).2.2.2.1

theorem Quiet.owner_eq {s s' : State} (q : Quiet s s') (j : Nat) :
    (nodeAt s'.heap j).owner = (nodeAt s.heap j).owner :=
  (q.heap.2 j).2.2.2.2

theorem Quiet.hlen {s s' : State} (q : Quiet s s') : s'.heap.length = s.heap.length := q.heap.1

theorem Quiet.chainOf_eq {s s' : State} (q : Quiet s s') (H : HInv s) (st : Option Nat) :
    chainOf s'.heap st = chainOf s.heap st :=
  chainOf_congr' H.nextOK q.heap st

theorem Quiet.chainC_eq {s s' : State} (q : Quiet s s') (H : HInv s) (c : Cell) : chainC s' c = chainC s c := by
  unfold chainC
  rw [q.startOf_eq, q.chainOf_eq H]

theorem Quiet.chainC_cell {s s' : State} (q : Quiet s s') (H : HInv s) (id : Cid) :
    chainC s' (cellAt s' id) = chainC s (cellAt s id) := by
  rw [q.cellAt_eq, q.chainC_eq H]

theorem Quiet.chainC_list {s s' : State} (q : Quiet s s') (H : HInv s) (h : Nat) :
    chainC s' (.list h) = chainC s (.list h) := q.chainC_eq H _

theorem Quiet.treeOf_iff {s s' : State} (q : Quiet s s') (c : Cell) (j : Nat) : treeOf s' c j ↔ treeOf s c j := by
  unfold treeOf
  rw [q.hlen, q.inTree_eq, q.owner_eq]

theorem Quiet.cinv {s s' : State} (q : Quiet s s') (H : HInv s) {c : Cell}
    (C : CInv s.heap (startOf s.tbins c) (treeOf s c)) : CInv s'.heap (startOf s'.tbins c) (treeOf s' c) := by
  refine ⟨H.nextOK.congr q.heap, ?_, ?_⟩
  · intro h hh
    rw [q.startOf_eq] at hh
    rw [q.hlen]; exact C.startOK h hh
  · intro a b ha hb hab
    rw [q.startOf_eq, q.chainOf_eq H] at ha hb
    rw [q.key_eq, q.key_eq] at hab
    refine C.keysDistinct a b ?_ ?_ hab
    · rcases ha with h | h
      · exact Or.inl h
      · exact Or.inr ((q.treeOf_iff c a).1 h)
    · rcases hb with h | h
      · exact Or.inl h
      · exact Or.inr ((q.treeOf_iff c b).1 h)

/-- only a *fresh* `TreeBin` of the structure (`old ≠ .tree b`) has to be unchanged -/
theorem Quiet.copyOK' {s s' : State} (q : Quiet s s') (H : HInv s) {old : Cell} {sel : Nat → Bool} {C : Cell}
    (hb : ∀ b, C = .tree b → old ≠ .tree b → binAt s'.tbins b = binAt s.tbins b)
    (h : CopyOK s old sel C) : CopyOK s' old sel C := by
  have eC : chainC s' C = chainC s C := q.chainC_eq H C
  have eO : chainC s' old = chainC s old := q.chainC_eq H old
  have K : CopyH s'.heap (chainC s' old) (chainC s' C) (treeOf s' C) sel (ownerOf C) := by
    rw [eC, eO]
    exact h.toH.congr (fun j _ => ⟨q.key_eq j, q.val_eq j⟩) (fun j _ => ⟨q.key_eq j, q.val_eq j, q.owner_eq j⟩)
      (fun j hj => ⟨(q.treeOf_iff C j).1 hj, q.key_eq j⟩)
  refine ⟨h.notMoved, q.cinv H h.cinv, fun b hb' => by rw [q.tlen]; exact h.cellOK b hb', K.chainOwner, K.selOK, K.src,
    K.cover, K.suffix, K.order, ?_⟩
  intro b hCb hob
  obtain ⟨f1, f2, f3⟩ := h.fresh b hCb hob
  refine ⟨by rw [hb b hCb hob]; exact f1, ?_, ?_⟩
  · intro j hj
    rw [q.hlen] at hj
    rw [q.owner_eq, eC]; exact f2 j hj
  · intro j hj
    rw [eC] at hj
    rw [q.inTree_eq]; exact f3 j hj

/-- only the *fresh* `TreeBin`s of the plan (not the re-used old one) have to be unchanged -/
theorem Quiet.plan' {s s' : State} (q : Quiet s s') (H : HInv s) {lo hi : Cell}
    (hlo : ∀ b, lo = .tree b → s.cell0 ≠ .tree b → binAt s'.tbins b = binAt s.tbins b)
    (hhi : ∀ b, hi = .tree b → s.cell0 ≠ .tree b → binAt s'.tbins b = binAt s.tbins b)
    (h : Plan s lo hi) : Plan s' lo hi := by
  refine ⟨?_, ?_, h.distinct⟩
  · rw [q.cell0]; exact q.copyOK' H hlo h.low
  · rw [q.cell0]; exact q.copyOK' H hhi h.high

theorem Quiet.plan {s s' : State} (q : Quiet s s') (H : HInv s) {lo hi : Cell}
    (hlo : ∀ b, lo = .tree b → binAt s'.tbins b = binAt s.tbins b)
    (hhi : ∀ b, hi = .tree b → binAt s'.tbins b = binAt s.tbins b)
    (h : Plan s lo hi) : Plan s' lo hi :=
  q.plan' H (fun b hC _ => hlo b hC) (fun b hC _ => hhi b hC) h

theorem Quiet.liveCell_eq {s s' : State} (q : Quiet s s') (hcur : s'.cur = s.cur) (k : Nat) :
    liveCell s' k = liveCell s k := by
  unfold liveCell
  rw [q.cell0, hcur, q.cellOf_eq]

theorem Quiet.LC_eq' {s s' : State} (q : Quiet s s') (H : HInv s) {k : Nat} (hlc : liveCell s' k = liveCell s k) :
    LC s' k = LC s k := by
  unfold LC; rw [hlc, q.chainC_eq H]

theorem Quiet.abs_eq' {s s' : State} (q : Quiet s s') (H : HInv s) {k : Nat} (hlc : liveCell s' k = liveCell s k) :
    absOf s' k = absOf s k := by
  rw [BinG.absOf_eq, BinG.absOf_eq, q.LC_eq' H hlc]
  unfold absL
  have : (fun i => (nodeAt s'.heap i).key == k) = (fun i => (nodeAt s.heap i).key == k) := by
    funext i; rw [q.key_eq]
  rw [this]
  cases (LC s k).find? (fun i => (nodeAt s.heap i).key == k) with
  | none => rfl
  | some i => simp only [Option.map_some]; rw [q.val_eq]

theorem Quiet.abs_eq {s s' : State} (q : Quiet s s') (H : HInv s) (hcur : s'.cur = s.cur) (k : Nat) :
    absOf s' k = absOf s k :=
  q.abs_eq' H (q.liveCell_eq hcur k)

theorem treeFind_def (s : State) (b k : Nat) :
    treeFind s b k = (List.range s.heap.length).find? fun i =>
      (nodeAt s.heap i).owner == some b && (nodeAt s.heap i).inTree && (nodeAt s.heap i).key == k := rfl

theorem treeFind_some {s : State} {b k i : Nat} (h : treeFind s b k = some i) :
    i < s.heap.length ∧ (nodeAt s.heap i).owner = some b ∧ (nodeAt s.heap i).inTree = true ∧
      (nodeAt s.heap i).key = k := by
  rw [treeFind_def] at h
  have h1 := List.mem_of_find?_eq_some h
  have h2 := List.find?_some h
  simp only [Bool.and_eq_true, beq_iff_eq] at h2
  exact ⟨List.mem_range.1 h1, h2.1.1, h2.1.2, h2.2⟩

theorem treeFind_none {s : State} {b k : Nat} (h : treeFind s b k = none) :
    ∀ j, j < s.heap.length → (nodeAt s.heap j).owner = some b → (nodeAt s.heap j).inTree = true →
      (nodeAt s.heap j).key ≠ k := by
  rw [treeFind_def, List.find?_eq_none] at h
  intro j hj ho hin hk
  have := h j (List.mem_range.2 hj)
  simp only [Bool.and_eq_true, beq_iff_eq, not_and] at this
  exact this ⟨ho, hin⟩ hk

theorem Quiet.pend_eq {s s' : State} (q : Quiet s s') (pc : Pc) : pend s' pc = pend s pc := by
  cases pc
  case xStoreHigh unl hi => show [s'.lowCell, hi] = [s.lowCell, hi]; rw [q.low]
  case xStoreMoved unl => show [s'.lowCell, s'.highCell] = [s.lowCell, s.highCell]; rw [q.low, q.high]
  all_goals rfl

/-- nodes that may still be written or linked: none is added by a quiet step of thread `t` that keeps its `pend` list
and does not enter `kStore` or the resize -/
theorem Quiet.used_of {s s' : State} {t : Nat} {l l' : Local} (q : Quiet s s') (H : HInv s)
    (hthr : s'.threads = s.threads.set t l') (hl : s.threads[t]? = some l)
    (hpend : pend s' l'.pc = pend s l.pc) (hx : xPc l'.pc = xPc l.pc)
    (hk : ∀ tab k h b, l'.pc = .kStore tab k h b ↔ l.pc = .kStore tab k h b) :
    ∀ j, Used s' j → Used s j := by
  rintro j (⟨id, hj⟩ | ⟨t1, l1, tab, k, h, b, h1, hpc, ho⟩ | ⟨t1, l1, C, h1, hx1, hC, hj, hn⟩)
  · exact Or.inl ⟨id, by rw [q.chainC_cell H] at hj; exact hj⟩
  · rw [q.owner_eq] at ho
    rw [hthr] at h1
    rcases get_set h1 with ⟨rfl, rfl⟩ | ⟨_, h1⟩
    · exact Or.inr (Or.inl ⟨t1, l, tab, k, h, b, hl, (hk tab k h b).1 hpc, ho⟩)
    · exact Or.inr (Or.inl ⟨t1, l1, tab, k, h, b, h1, hpc, ho⟩)
  · rw [q.chainC_eq H] at hj
    rw [q.cell0, q.chainC_eq H] at hn
    rw [hthr] at h1
    rcases get_set h1 with ⟨rfl, rfl⟩ | ⟨_, h1⟩
    · exact Or.inr (Or.inr ⟨t1, l, C, hl, hx ▸ hx1, hpend ▸ hC, hj, hn⟩)
    · exact Or.inr (Or.inr ⟨t1, l1, C, h1, hx1, q.pend_eq _ ▸ hC, hj, hn⟩)

end Flurry.Proto.BinG
