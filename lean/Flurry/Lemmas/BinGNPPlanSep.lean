import Flurry.Lemmas.BinGNPInvQ
import Flurry.Lemmas.BinGNPInvW
import Flurry.Lemmas.BinGNFresh
/-! # Proto/BinGN: a planned `TreeBin` of a transfer is in no cell but the cell under transfer and its children

`planSep_of`: `PlanSep s` from `Inv s` and the model-level invariant `BinGN.FreshInv s` (fresh planned `TreeBin`s are
in no cell: `Lemmas/BinGNFresh.lean`); hence `PubRead s` (`pubRead_of_planSep`): a `TreeBin` loaded from the cell of
the thread's key is not an unpublished one. -/
namespace Flurry.Proto.BinGNP
open Flurry.Lin

/-- the acting resizing thread is the only one: a `Reusing` witness is the thread itself -/
theorem reusing_self {s : State} (I : Inv s) {t : Nat} {l : Local} (hl : s.threads[t]? = some l) (hx : xPc l.pc = true)
    {b j0 : Nat} (h : Reusing s b j0) :
    (∃ hi, l.pc = .xStoreHigh j0 (.inr b) hi) ∨ l.pc = .xStoreMoved j0 (.inr b) := by
  obtain ⟨t', l', hl', hpc⟩ := h
  have hx' : xPc l'.pc = true := by
    rcases hpc with ⟨hi, e⟩ | e <;> rw [e] <;> rfl
  have := I.rsz.uniqX t' t l' l hl' hl hx' hx
  subst this
  rw [hl] at hl'; cases hl'
  exact hpc

theorem child_cases {g j x : Nat} (hx : x < 2 ^ (g + 1)) (hm : x % 2 ^ g = j) : x = j ∨ x = j + 2 ^ g := by
  rw [Nat.pow_succ, Nat.mul_two] at hx
  by_cases h : x < 2 ^ g
  · exact Or.inl (by rw [← hm, Nat.mod_eq_of_lt h])
  · have h := Nat.le_of_not_lt h
    rw [Nat.mod_eq_sub_mod h, Nat.mod_eq_of_lt (Nat.sub_lt_left_of_lt_add h hx)] at hm
    exact Or.inr (by rw [← hm, Nat.sub_add_cancel h])

/-- every cell that holds `b` is the cell `(cur, j)` or a child, given that one of them does and `b` is only shared
through `Reusing` by the transfer of cell `j` -/
theorem sep_of_cell {s : State} (I : Inv s) {j b : Nat} (hidx : ∀ j0, Reusing s b j0 → j0 = j) {id0 : Cid}
    (h0 : id0 = (s.cur, j) ∨ id0 = (s.cur + 1, j) ∨ id0 = (s.cur + 1, j + 2 ^ s.cur))
    (hc0 : cellAt s id0 = .tree b) (id : Cid) (hc : cellAt s id = .tree b) :
    id = (s.cur, j) ∨ id = (s.cur + 1, j) ∨ id = (s.cur + 1, j + 2 ^ s.cur) := by
  rcases I.heap.binsDistinct id id0 b hc hc0 with e | ⟨j0, hr, hcase⟩
  · rw [e]; exact h0
  · have e0 := hidx j0 hr
    subst e0
    rcases hcase with ⟨e1, -, -⟩ | ⟨-, e2, e3⟩
    · exact Or.inl e1
    · have hlt := I.rsz.lt_of_tree hc
      obtain ⟨g, x⟩ := id
      simp only at e2 e3 hlt
      subst e2
      rcases child_cases hlt e3 with rfl | rfl
      · exact Or.inr (Or.inl rfl)
      · exact Or.inr (Or.inr rfl)

theorem planSep_of {s : State} (I : Inv s) (F : Flurry.Proto.BinGN.FreshInv s) : PlanSep s := by
  intro t l j b hl hx hmem id hid
  have hxp : xPc l.pc = true := xPc_of_xIdx hx
  have hcid : cidOf s l = (s.cur, j) := InvW.cidOf_of_xIdx hx
  -- a fresh bin is in no cell
  have hfresh : b ∈ Flurry.Proto.BinGN.freshB l.pc → False := fun hb =>
    F.noCell t l b hl hb id.1 id.2 hid
  -- the bin that the transfer re-uses is in the cell `(cur, j)`
  have hreuse : validT l.pc = some b → cellAt s (s.cur, j) = .tree b := fun hv => hcid ▸ I.lock.vT t l b hl hv
  have sep := sep_of_cell I (j := j) (b := b)
  have hself := fun j0 (hr : Reusing s b j0) => reusing_self I hl hxp hr
  -- the program counter is one of the three stores: the treeify thread is not the resizing thread, and every other
  -- program counter has no pending cell
  generalize l.pc = pc at hx hmem hfresh hreuse hself
  unfold pend at hmem
  split at hmem
  · cases hx
  · cases hx
    simp only [List.mem_cons, List.not_mem_nil, or_false] at hmem
    rename_i unl lo hi
    by_cases e : unl = .inr b
    · subst e
      refine sep ?_ (Or.inl rfl) (hreuse rfl) id hid
      intro j0 hr
      rcases hself j0 hr with ⟨hi', e⟩ | e <;> cases e
    · exfalso
      apply hfresh
      simp only [Flurry.Proto.BinGN.freshB, List.mem_filter, List.mem_append, Flurry.Proto.BinGN.mem_binsOf,
        decide_eq_true_eq, ne_eq]
      exact ⟨hmem.imp Eq.symm Eq.symm, e⟩
  · cases hx
    simp only [List.mem_cons, List.not_mem_nil, or_false] at hmem
    rename_i unl hi
    have hidx : ∀ j0, Reusing s b j0 → j0 = j := by
      intro j0 hr
      rcases hself j0 hr with ⟨hi', e⟩ | e
      · cases e; rfl
      · cases e
    rcases hmem with h | h
    · exact sep hidx (Or.inr (Or.inl rfl)) h.symm id hid
    · by_cases e : unl = .inr b
      · subst e
        exact sep hidx (Or.inl rfl) (hreuse rfl) id hid
      · exfalso
        apply hfresh
        simp only [Flurry.Proto.BinGN.freshB, List.mem_filter, Flurry.Proto.BinGN.mem_binsOf,
          decide_eq_true_eq, ne_eq]
        exact ⟨h.symm, e⟩
  · cases hx
    simp only [List.mem_cons, List.not_mem_nil, or_false] at hmem
    have hidx : ∀ j0, Reusing s b j0 → j0 = j := by
      intro j0 hr
      rcases hself j0 hr with ⟨hi', e⟩ | e
      · cases e
      · cases e; rfl
    rcases hmem with h | h
    · exact sep hidx (Or.inr (Or.inl rfl)) h.symm id hid
    · exact sep hidx (Or.inr (Or.inr rfl)) h.symm id hid
  · exact absurd hmem List.not_mem_nil

/-- a `TreeBin` loaded from the cell of the thread's key is not an unpublished one -/
theorem pubRead_of {s : State} (I : Inv s) (F : Flurry.Proto.BinGN.FreshInv s) : PubRead s :=
  pubRead_of_planSep I (planSep_of I F)

end Flurry.Proto.BinGNP
