import Flurry.Lemmas.BinNRRefineProofStep
/-! # Proto/BinNR → Proto/Reclaim2: the projection of every run is accepted (`retire`, `free`, the initial state, runs) -/
namespace Flurry.Proto.BinNR
open Flurry.Lin
open Flurry.Proto.BinN (Local Ghost)
open Flurry.Proto.Reclaim2 (OSt Ev active run_append_some)

theorem sim_retire {early : Bool} {s s' : State} {G : Ghost} {a : Reclaim2.State} (R : RInv s G) (K : RInv2 s) (S : Sim a s)
    {t i : Nat} (hs : stepG early s t (.retire i) = some s') :
    ∃ a', Reclaim2.run a (project s t (.retire i) s') = some a' ∧ Sim a' s' := by
  obtain ⟨hi, rfl⟩ := retire_some hs
  obtain ⟨h1, h2⟩ := R.j7 t i hi
  cases hu : s.unl i with
  | none => rw [hu] at h1; cases h1
  | some u' =>
    have hiN := (R.j1 i u' hu).2
    obtain ⟨u, hu1, hu2⟩ := S.unlinked hiN hu (K.k1 t i hi)
    have hst : Reclaim2.step a (.retire t i) = some (Reclaim2.setObj a i (.retired u (active a))) := by
      unfold Reclaim2.step; simp only; rw [hu1]; simp only; rw [if_pos (by rw [S.grd]; exact h2)]
    refine ⟨Reclaim2.setObj a i (.retired u (active a)),
      by show Reclaim2.run a [Ev.retire t i] = _; simp only [Reclaim2.run, hst], ?_⟩
    refine ⟨S.nthr, S.nobjs, S.grd, S.hld, ?_⟩
    intro j hj
    show ObjRel (if j = i then OSt.retired u (active a) else a.objs j) (s.unl j)
      (if j = i then Life.retired (guardedSet s.n) else s.life j) (reach s.n j)
    by_cases e : j = i
    · rw [if_pos e, if_pos e, e, hu]
      exact objRel_iff.2 (.retired hu2 fun x => by rw [S.mem_active, mem_guardedSet])
    · rw [if_neg e, if_neg e]; exact S.obj j hj

theorem sim_free {early : Bool} {s s' : State} {G : Ghost} {a : Reclaim2.State} (R : RInv s G) (S : Sim a s)
    {t i : Nat} (hs : stepG early s t (.free i) = some s') :
    ∃ a', Reclaim2.run a (project s t (.free i) s') = some a' ∧ Sim a' s' := by
  obtain ⟨hc, rfl⟩ := free_some hs
  obtain ⟨u0, hu0, -⟩ := R.j4r i [] hc
  have hiN := (R.j1 i u0 hu0).2
  have hst : ∃ u, a.objs i = .retired u [] := by
    have h := S.view hiN
    rw [hu0, hc] at h
    generalize a.objs i = st at h ⊢
    cases h with
    | @retired u w _ _ _ _ e4 =>
      cases w with
      | nil => exact ⟨u, rfl⟩
      | cons x _ => exact absurd ((e4 x).1 List.mem_cons_self) (by simp)
  obtain ⟨u, hu⟩ := hst
  have hstep : Reclaim2.step a (.free i) = some { (Reclaim2.setObj a i .freed) with
      frees := fun x => if x = i then a.frees i + 1 else a.frees x } := by
    unfold Reclaim2.step; simp only; rw [hu]
  refine ⟨{ (Reclaim2.setObj a i .freed) with frees := fun x => if x = i then a.frees i + 1 else a.frees x },
    by show Reclaim2.run a [Ev.free i] = _; simp only [Reclaim2.run, hstep], ?_⟩
  refine ⟨S.nthr, S.nobjs, S.grd, S.hld, ?_⟩
  intro j hj
  show ObjRel (if j = i then OSt.freed else a.objs j) (s.unl j) (if j = i then Life.freed else s.life j) (reach s.n j)
  by_cases e : j = i
  · rw [if_pos e, if_pos e]; exact objRel_iff.2 .freed
  · rw [if_neg e, if_neg e]; exact S.obj j hj

theorem sim_init (nt : Nat) : Sim (Reclaim2.init nt) (init nt) := by
  refine ⟨?_, rfl, ?_, ?_, ?_⟩
  · show nt = (List.replicate nt ({} : Local)).length
    rw [List.length_replicate]
  · intro t
    show false = guarded (BinN.init nt) t
    unfold guarded
    cases hl : (BinN.init nt).threads[t]? with
    | none => rfl
    | some l => rw [BinN.init_thread hl]; rfl
  · intro t i hi
    unfold holdsOf at hi
    cases hl : (init nt).n.threads[t]? with
    | none => rw [hl] at hi; cases hi
    | some l =>
      rw [hl] at hi
      have : l = {} := BinN.init_thread hl
      subst this
      simp [holds] at hi
  · intro i hi; exact absurd hi (Nat.not_lt_zero i)

/-- reachability with the projected event list of the run -/
inductive ReachableTr (nt : Nat) : List Ev → State → Prop
  | init : ReachableTr nt [] (init nt)
  | step {evs : List Ev} {s s' : State} (t : Nat) (a : Act) : ReachableTr nt evs s → step s t a = some s' →
      ReachableTr nt (evs ++ project s t a s') s'

theorem ReachableTr.reachable {nt : Nat} {evs : List Ev} {s : State} (h : ReachableTr nt evs s) : Reachable nt s := by
  induction h with
  | init => exact .init
  | step t a _ hs ih => exact .step t a ih hs

theorem Reachable.traced {nt : Nat} {s : State} (h : Reachable nt s) : ∃ evs, ReachableTr nt evs s := by
  induction h with
  | init => exact ⟨[], .init⟩
  | step t a _ hs ih => obtain ⟨evs, h⟩ := ih; exact ⟨_, .step t a h hs⟩

/-- **the projection of every run of `Proto/BinNR` is accepted by the abstract discipline `Proto/Reclaim2`**, and the
abstract state it reaches describes the concrete state -/
theorem refines {nt : Nat} {evs : List Ev} {s : State} (h : ReachableTr nt evs s) :
    ∃ a, Reclaim2.run (Reclaim2.init nt) evs = some a ∧ Sim a s := by
  induction h with
  | init => exact ⟨_, rfl, sim_init nt⟩
  | @step evs s s' t x htr hs ih =>
    obtain ⟨a, hrun, S⟩ := ih
    have hr := htr.reachable
    obtain ⟨G, R⟩ := reachable_rinv hr
    have K := reachable_rinv2 hr
    have IA := Reclaim2.reachable_inv hrun
    have key : ∃ a', Reclaim2.run a (project s t x s') = some a' ∧ Sim a' s' := by
      cases x with
      | base inv rz pick =>
        obtain ⟨n', l, hl, hb, rfl⟩ := base_some hs
        exact sim_base R K S IA hl hb
      | retire i => exact sim_retire R K S hs
      | free i => exact sim_free R S hs
    obtain ⟨a', h1, h2⟩ := key
    exact ⟨a', run_append_some hrun h1, h2⟩

end Flurry.Proto.BinNR
