import Flurry.Proto.BinX
import Flurry.Lemmas.SharedBasic
/-! # Proto/BinX: heap segments and chains without index order (C01, C10)

In `Proto/Bin` every `next` pointer goes to a larger heap index. Here the transferring thread
allocates *copies* (fresh, larger indices) that are *prepended* to the new lists and point to older
nodes. We therefore order the nodes by `ord cr i`, where `cr = (n0, n1)` is the (ghost) index range
of the copies: a copy `i` gets the negative rank `-i-1` (later copies come earlier in the lists, and
all copies come before all other nodes), every other node its index. Under `NextOK cr` (every `next`
pointer goes strictly upwards in `ord`) the executable `chainFrom` computes the chain, chains are
strictly `ord`-increasing, and we get the heap surgery lemmas. All this is stated for any rank `ρ` of the
indices (`Ranked`, `NextUp`): `Proto/BinN`, whose copies of several generations form a set, uses it as it is.
The file also holds the total accessor `nodeAt` with what the heap updates do to it, and the abstract content
`absIn` of a list of nodes with distinct keys (`KeysDistinct`), which `absOf` is on the live chain (`absOf_eq`). -/
namespace Flurry.Proto.BinX
open Flurry.Lin

def nodeAt (heap : List NodeS) (i : Nat) : NodeS := heap.getD i dflt

theorem nodeAt_eq (heap : List NodeS) (i : Nat) : nodeAt heap i = (heap[i]?).getD dflt := by
  simp [nodeAt, List.getD_eq_getElem?_getD]

theorem nodeAt_of_some {heap : List NodeS} {i : Nat} {n : NodeS} (h : heap[i]? = some n) :
    nodeAt heap i = n := Shared.getD_of_some h

theorem getElem?_nodeAt {heap : List NodeS} {i : Nat} (h : i < heap.length) :
    heap[i]? = some (nodeAt heap i) := Shared.getElem?_getD dflt h

theorem nodeAt_modify (heap : List NodeS) (i : Nat) (f : NodeS → NodeS) (j : Nat) :
    nodeAt (heap.modify i f) j = if i = j ∧ j < heap.length then f (nodeAt heap j) else nodeAt heap j :=
  Shared.getD_modify heap i f j dflt

theorem nodeAt_modify_congr {α : Type} (p : NodeS → α) (heap : List NodeS) (i : Nat) (f : NodeS → NodeS) (j : Nat)
    (hf : ∀ n, p (f n) = p n) : p (nodeAt (heap.modify i f) j) = p (nodeAt heap j) := by
  rw [nodeAt_modify]
  split
  · exact hf _
  · rfl

theorem nodeAt_modify_ne (heap : List NodeS) {i j : Nat} (f : NodeS → NodeS) (h : i ≠ j) :
    nodeAt (heap.modify i f) j = nodeAt heap j := by
  rw [nodeAt_modify, if_neg (fun h' => h h'.1)]

theorem nodeAt_append_left {heap : List NodeS} (l : List NodeS) {j : Nat} (hj : j < heap.length) :
    nodeAt (heap ++ l) j = nodeAt heap j := Shared.getD_append_left l dflt hj

theorem nodeAt_append_new (heap : List NodeS) (n : NodeS) : nodeAt (heap ++ [n]) heap.length = n :=
  Shared.getD_append_new heap n dflt

/-- the index range `[n0, n1)` of the copies made by the transfer -/
abbrev CR := Nat × Nat

def isCopy (cr : CR) (i : Nat) : Prop := cr.1 ≤ i ∧ i < cr.2

instance (cr : CR) (i : Nat) : Decidable (isCopy cr i) := by unfold isCopy; exact inferInstance

/-- the rank of a node: copies come first (the later the earlier), then the others by index -/
def ord (cr : CR) (i : Nat) : Int := if isCopy cr i then -(i : Int) - 1 else (i : Int)

theorem ord_copy {cr : CR} {i : Nat} (h : isCopy cr i) : ord cr i = -(i : Int) - 1 := by
  unfold ord; rw [if_pos h]

theorem ord_not_copy {cr : CR} {i : Nat} (h : ¬ isCopy cr i) : ord cr i = (i : Int) := by
  unfold ord; rw [if_neg h]

theorem neg_sub_one_neg (i : Nat) : -(i : Int) - 1 < 0 :=
  Int.sub_one_lt_iff.2 (Int.neg_nonpos_of_nonneg (Int.natCast_nonneg i))

theorem ord_inj {cr : CR} {i j : Nat} (h : ord cr i = ord cr j) : i = j := by
  have hne : ∀ {a b : Nat}, -(a : Int) - 1 ≠ (b : Int) :=
    fun h => Int.not_lt.2 (Int.natCast_nonneg _) (h ▸ neg_sub_one_neg _)
  by_cases hi : isCopy cr i <;> by_cases hj : isCopy cr j
  · rw [ord_copy hi, ord_copy hj] at h
    exact Int.ofNat.inj (Int.neg_inj.1 ((Int.sub_left_inj 1).1 h))
  · rw [ord_copy hi, ord_not_copy hj] at h
    exact absurd h hne
  · rw [ord_not_copy hi, ord_copy hj] at h
    exact absurd h.symm hne
  · rw [ord_not_copy hi, ord_not_copy hj] at h
    exact Int.ofNat.inj h

theorem ord_le_self (cr : CR) (i : Nat) : ord cr i ≤ (i : Int) := by
  by_cases h : isCopy cr i
  · rw [ord_copy h]
    exact Int.le_trans (Int.le_of_lt (neg_sub_one_neg i)) (Int.natCast_nonneg i)
  · rw [ord_not_copy h]
    exact Int.le_refl _

theorem ord_ge (cr : CR) (i : Nat) : -(i : Int) - 1 ≤ ord cr i := by
  by_cases h : isCopy cr i
  · rw [ord_copy h]
    exact Int.le_refl _
  · rw [ord_not_copy h]
    exact Int.le_trans (Int.le_of_lt (neg_sub_one_neg i)) (Int.natCast_nonneg i)

/-- a rank of the heap indices: node `i` has a rank in `[-i-1, i]`. `ord cr` is one, for a range `cr` of copies as for
`Proto/BinN`'s set of copies (`Lemmas/BinNOrd`) -/
def Ranked (ρ : Nat → Int) : Prop := ∀ i : Nat, -(i : Int) - 1 ≤ ρ i ∧ ρ i ≤ (i : Int)

theorem ranked_ord (cr : CR) : Ranked (ord cr) := fun i => ⟨ord_ge cr i, ord_le_self cr i⟩

/-- induction up a rank on the indices below `len`: their ranks lie in `[-len, len)`, so `len - ρ c ≤ c + 1 + len` bounds
the number of times the rank can still rise from `c` -/
theorem rank_induction {ρ : Nat → Int} (hρ : Ranked ρ) {len : Nat} {P : Nat → Prop}
    (step : ∀ c, c < len → (∀ d, d < len → ρ c < ρ d → P d) → P c) (c : Nat) (hc : c < len) : P c := by
  have h : ∀ (n c : Nat), c < len → (len : Int) ≤ ρ c + n → P c := by
    intro n
    induction n with
    | zero =>
      intro c hc hn
      exact absurd (Int.lt_of_le_of_lt (hρ c).2 (Int.ofNat_lt.2 hc))
        (Int.not_lt.2 (Int.add_zero (ρ c) ▸ hn))
    | succ n ih =>
      intro c hc hn
      refine step c hc (fun d hd hcd => ih d hd (Int.le_trans hn ?_))
      rw [Int.natCast_succ, ← Int.add_assoc, Int.add_right_comm]
      exact Int.add_le_add_right (Int.add_one_le_of_lt hcd) n
  refine h (c + 1 + len) c hc ?_
  have := (hρ c).1
  omega

theorem ord_induction {cr : CR} {len : Nat} {P : Nat → Prop}
    (step : ∀ c, c < len → (∀ d, d < len → ord cr c < ord cr d → P d) → P c) (c : Nat) (hc : c < len) : P c :=
  rank_induction (ranked_ord cr) step c hc

/-- `next` pointers go strictly upwards in the rank `ρ` (`Shared.NextRel` for the order of `ρ`, `NextUp.rel`) and stay inside
the heap. `NextOK cr heap` unfolds to `NextUp (ord cr) heap`, and so does `BinN.NextOK` for a set of copies: the lemmas
below take a `NextOK` of either model where they ask for `NextUp ρ heap`. -/
def NextUp (ρ : Nat → Int) (heap : List NodeS) : Prop :=
  ∀ i n j, heap[i]? = some n → n.next = some j → ρ i < ρ j ∧ j < heap.length

/-- `next` pointers go strictly upwards in `ord` and stay inside the heap -/
def NextOK (cr : CR) (heap : List NodeS) : Prop :=
  ∀ i n j, heap[i]? = some n → n.next = some j → ord cr i < ord cr j ∧ j < heap.length

inductive IsSeg (heap : List NodeS) : Option Nat → List Nat → Option Nat → Prop
  | nil (e : Option Nat) : IsSeg heap e [] e
  | cons {i : Nat} {n : NodeS} {l : List Nat} {e : Option Nat} :
      heap[i]? = some n → IsSeg heap n.next l e → IsSeg heap (some i) (i :: l) e

abbrev IsChain (heap : List NodeS) (a : Option Nat) (l : List Nat) : Prop := IsSeg heap a l none

/-- `IsSeg` is the segment relation of `Lemmas/SharedBasic.lean` for the `next` field -/
theorem isSeg_iff {heap : List NodeS} {a e : Option Nat} {l : List Nat} :
    IsSeg heap a l e ↔ Shared.Seg NodeS.next heap a l e := by
  constructor <;> intro h <;> induction h with
  | nil e => exact .nil e
  | cons hn _ ih => exact .cons hn ih

theorem IsSeg.nil_iff {heap : List NodeS} {a e : Option Nat} : IsSeg heap a [] e ↔ a = e :=
  isSeg_iff.trans Shared.Seg.nil_iff

theorem IsSeg.cons_iff {heap : List NodeS} {a e : Option Nat} {i : Nat} {l : List Nat} :
    IsSeg heap a (i :: l) e ↔ a = some i ∧ ∃ n, heap[i]? = some n ∧ IsSeg heap n.next l e :=
  isSeg_iff.trans (Shared.Seg.cons_iff.trans (and_congr_right fun _ => exists_congr fun _ => and_congr_right fun _ => isSeg_iff.symm))

theorem IsSeg.append {heap : List NodeS} {a b c : Option Nat} {l1 l2 : List Nat}
    (h1 : IsSeg heap a l1 b) (h2 : IsSeg heap b l2 c) : IsSeg heap a (l1 ++ l2) c :=
  isSeg_iff.2 ((isSeg_iff.1 h1).append (isSeg_iff.1 h2))

theorem IsSeg.split {heap : List NodeS} {l1 l2 : List Nat} {a c : Option Nat} (h : IsSeg heap a (l1 ++ l2) c) :
    ∃ b, IsSeg heap a l1 b ∧ IsSeg heap b l2 c :=
  let ⟨b, h1, h2⟩ := (isSeg_iff.1 h).split
  ⟨b, isSeg_iff.2 h1, isSeg_iff.2 h2⟩

theorem IsSeg.unique {heap : List NodeS} {a : Option Nat} {l1 : List Nat}
    (h1 : IsSeg heap a l1 none) : ∀ {l2 : List Nat}, IsSeg heap a l2 none → l1 = l2 :=
  fun h2 => (isSeg_iff.1 h1).unique (isSeg_iff.1 h2)

theorem IsSeg.lt_length {heap : List NodeS} {a e : Option Nat} {l : List Nat} (h : IsSeg heap a l e) :
    ∀ j ∈ l, j < heap.length := (isSeg_iff.1 h).lt_length

theorem IsSeg.head_mem {heap : List NodeS} {a e : Option Nat} {l : List Nat} (h : IsSeg heap a l e) {i : Nat}
    (ha : a = some i) (hne : a ≠ e) : ∃ l', l = i :: l' := by
  cases h with
  | nil => exact absurd rfl hne
  | cons hn hs => cases ha; exact ⟨_, rfl⟩

theorem isChain_head_lt {heap : List NodeS} {j : Nat} {l : List Nat} (h : IsChain heap (some j) l) :
    j < heap.length := by
  cases h with
  | cons hn _ => exact (List.getElem?_eq_some_iff.1 hn).1

theorem NextUp.rel {ρ : Nat → Int} {heap : List NodeS} (hok : NextUp ρ heap) :
    Shared.NextRel (·.next) (fun x y => ρ x < ρ y) heap :=
  fun i n j hn hj => (hok i n j hn hj).1

theorem rank_trans (ρ : Nat → Int) (a b c : Nat) (h1 : ρ a < ρ b) (h2 : ρ b < ρ c) : ρ a < ρ c := Int.lt_trans h1 h2

theorem IsSeg.sorted {ρ : Nat → Int} {heap : List NodeS} (hok : NextUp ρ heap) {a e : Option Nat} {l : List Nat}
    (h : IsSeg heap a l e) : l.Pairwise (fun x y => ρ x < ρ y) :=
  (isSeg_iff.1 h).pairwise (rank_trans ρ) hok.rel

theorem IsSeg.nodup {ρ : Nat → Int} {heap : List NodeS} (hok : NextUp ρ heap) {a e : Option Nat} {l : List Nat}
    (h : IsSeg heap a l e) : l.Nodup :=
  (h.sorted hok).imp (fun hab he => by rw [he] at hab; exact Int.lt_irrefl _ hab)

theorem IsSeg.congr {heap heap' : List NodeS} {a e : Option Nat} {l : List Nat}
    (h : IsSeg heap a l e)
    (hsame : ∀ j ∈ l, ∀ n, heap[j]? = some n → ∃ n', heap'[j]? = some n' ∧ n'.next = n.next) :
    IsSeg heap' a l e :=
  isSeg_iff.2 ((isSeg_iff.1 h).congr hsame)

theorem IsSeg.succ_none {ρ : Nat → Int} {heap : List NodeS} (hok : NextUp ρ heap) {a : Option Nat} {l : List Nat}
    (h : IsChain heap a l) {c : Nat} {n : NodeS} (hc : c ∈ l) (hn : heap[c]? = some n)
    (hnx : n.next = none) : ∀ j ∈ l, ρ j ≤ ρ c := by
  intro j hj
  rcases ((isSeg_iff.1 h).around (rank_trans ρ) hok.rel hc hn).2 j hj with rfl | h1 | ⟨b, hb, -⟩
  · exact Int.le_refl _
  · exact Int.le_of_lt h1
  · rw [hnx] at hb; cases hb

theorem IsSeg.succ_some {ρ : Nat → Int} {heap : List NodeS} (hok : NextUp ρ heap) {a : Option Nat} {l : List Nat}
    (h : IsChain heap a l) {c b : Nat} {n : NodeS} (hc : c ∈ l) (hn : heap[c]? = some n)
    (hnx : n.next = some b) : b ∈ l ∧ ∀ j ∈ l, ρ j < ρ b → ρ j ≤ ρ c := by
  obtain ⟨h0, h1⟩ := (isSeg_iff.1 h).around (rank_trans ρ) hok.rel hc hn
  refine ⟨h0 b hnx, fun j hj hjb => ?_⟩
  rcases h1 j hj with rfl | h2 | ⟨b', hb, h2⟩
  · exact Int.le_refl _
  · exact Int.le_of_lt h2
  · rw [hnx] at hb; cases hb
    exact absurd hjb (Int.not_lt.2 (h2.elim (fun e => e ▸ Int.le_refl _) Int.le_of_lt))

/-- `chainFrom` computes the chain when it has enough fuel -/
theorem chainFrom_eq_of_isChain {heap : List NodeS} : ∀ {l : List Nat} {st : Option Nat} {fuel : Nat},
    IsChain heap st l → l.length ≤ fuel → chainFrom heap fuel st = l
  | [], st, fuel, h, _ => by
    cases IsSeg.nil_iff.1 h
    cases fuel <;> rfl
  | i :: l, st, fuel, h, hf => by
    obtain ⟨rfl, n, hn, hs⟩ := IsSeg.cons_iff.1 h
    cases fuel with
    | zero => exact absurd hf (Nat.not_succ_le_zero _)
    | succ fuel =>
      simp only [chainFrom, hn]
      rw [chainFrom_eq_of_isChain hs (Nat.le_of_succ_le_succ hf)]

theorem length_le_of_nodup_lt {l : List Nat} {n : Nat} (hnd : l.Nodup) (hlt : ∀ j ∈ l, j < n) : l.length ≤ n := by
  have := List.Nodup.length_le_of_subset (l₂ := List.range n) hnd (fun j hj => List.mem_range.2 (hlt j hj))
  simpa using this

theorem exists_chain {ρ : Nat → Int} {heap : List NodeS} (hρ : Ranked ρ) (hok : NextUp ρ heap) :
    ∀ i, i < heap.length → ∃ l, IsChain heap (some i) l := by
  refine rank_induction hρ (fun i hi ih => ?_)
  have hn := getElem?_nodeAt hi
  cases hnx : (nodeAt heap i).next with
  | none => exact ⟨[i], .cons hn (hnx ▸ .nil _)⟩
  | some j =>
    obtain ⟨hij, hj⟩ := hok _ _ _ hn hnx
    obtain ⟨l, hl⟩ := ih j hj hij
    exact ⟨i :: l, .cons hn (hnx ▸ hl)⟩

def chainH (heap : List NodeS) (c : Cell) : List Nat := chainFrom heap heap.length (cellHead c)

theorem chainOfCell_eq (s : State) (c : Cell) : chainOfCell s c = chainH s.heap c := rfl

theorem chainH_eq {ρ : Nat → Int} {heap : List NodeS} (hok : NextUp ρ heap) {c : Cell} {l : List Nat}
    (h : IsChain heap (cellHead c) l) : chainH heap c = l :=
  chainFrom_eq_of_isChain h (length_le_of_nodup_lt (h.nodup hok) h.lt_length)

theorem chainH_isChain {ρ : Nat → Int} {heap : List NodeS} (hρ : Ranked ρ) (hok : NextUp ρ heap) {c : Cell}
    (hc : ∀ h, c = .node h → h < heap.length) : IsChain heap (cellHead c) (chainH heap c) := by
  obtain ⟨l, hl⟩ : ∃ l, IsChain heap (cellHead c) l := by
    cases c with
    | node h => exact exists_chain hρ hok h (hc h rfl)
    | empty => exact ⟨[], .nil _⟩
    | moved => exact ⟨[], .nil _⟩
  rw [chainH_eq hok hl]; exact hl

theorem chainH_empty (heap : List NodeS) : chainH heap .empty = [] := by
  unfold chainH cellHead; cases heap.length <;> rfl

theorem chainH_moved (heap : List NodeS) : chainH heap .moved = [] := by
  unfold chainH cellHead; cases heap.length <;> rfl

theorem chainH_node {ρ : Nat → Int} {heap : List NodeS} (hρ : Ranked ρ) (hok : NextUp ρ heap) {h : Nat} (hh : h < heap.length) :
    ∃ l, chainH heap (.node h) = h :: l := by
  have := chainH_isChain hρ hok (c := .node h) (by intro h' e; cases e; exact hh)
  cases hc : chainH heap (.node h) with
  | nil => rw [hc] at this; cases this
  | cons a l =>
    rw [hc] at this
    obtain ⟨ha, -⟩ := IsSeg.cons_iff.1 this
    cases ha
    exact ⟨l, rfl⟩

theorem IsSeg.append_heap {heap : List NodeS} {a e : Option Nat} {l : List Nat} (h : IsSeg heap a l e)
    (ext : List NodeS) : IsSeg (heap ++ ext) a l e := by
  refine h.congr ?_
  intro j _ n hn
  exact ⟨n, by rw [List.getElem?_append_left (List.getElem?_eq_some_iff.1 hn).1]; exact hn, rfl⟩

theorem IsSeg.modify {heap : List NodeS} {a e : Option Nat} {l : List Nat} (h : IsSeg heap a l e)
    {i : Nat} {f : NodeS → NodeS} (hf : i ∈ l → ∀ n, (f n).next = n.next) :
    IsSeg (heap.modify i f) a l e := by
  refine h.congr ?_
  intro j hj n hn
  rw [List.getElem?_modify, hn]
  by_cases hij : i = j
  · subst hij
    exact ⟨f n, by simp, hf hj n⟩
  · exact ⟨n, by simp [hij], rfl⟩

theorem isChain_append_node {heap : List NodeS} {a : Option Nat} {l0 : List Nat}
    {last : Nat} (h : IsChain heap a (l0 ++ [last])) (hnd : (l0 ++ [last]).Nodup) (new : NodeS)
    (hnew : new.next = none) :
    IsChain ((heap ++ [new]).modify last (fun n => { n with next := some heap.length })) a
      (l0 ++ [last] ++ [heap.length]) := by
  obtain ⟨b, h1, h2⟩ := h.split
  obtain ⟨rfl, nl, hnl, hs⟩ := IsSeg.cons_iff.1 h2
  have hlast : last < heap.length := (List.getElem?_eq_some_iff.1 hnl).1
  have hlast0 : last ∉ l0 := fun hm => (List.nodup_append.1 hnd).2.2 last hm last (List.mem_singleton.2 rfl) rfl
  rw [List.append_assoc]
  refine IsSeg.append (b := some last) ?_ ?_
  · exact (h1.append_heap [new]).modify (fun hm => absurd hm hlast0)
  · refine .cons (n := { nl with next := some heap.length }) ?_ ?_
    · rw [List.getElem?_modify_eq, List.getElem?_append_left hlast, hnl]
      rfl
    · refine .cons (n := new) ?_ (hnew ▸ .nil _)
      rw [List.getElem?_modify_ne _ _ (Nat.ne_of_lt hlast)]
      exact List.getElem?_concat_length

theorem mem_remove_of_nodup {l1 l2 : List Nat} {i : Nat} (hnd : (l1 ++ i :: l2).Nodup) (j : Nat) :
    j ∈ l1 ++ l2 ↔ j ∈ l1 ++ i :: l2 ∧ j ≠ i := by
  have h5 := List.nodup_append.1 hnd
  rw [List.mem_append, List.mem_append, List.mem_cons]
  constructor
  · rintro (hj | hj)
    · exact ⟨Or.inl hj, fun he => h5.2.2 j hj i List.mem_cons_self he⟩
    · exact ⟨Or.inr (Or.inr hj), fun he => (List.nodup_cons.1 h5.2.1).1 (he ▸ hj)⟩
  · rintro ⟨hj | hj | hj, hne⟩
    · exact Or.inl hj
    · exact absurd hj hne
    · exact Or.inr hj

theorem isChain_unlink {heap : List NodeS} {a : Option Nat} {l1 l2 : List Nat}
    {pr i : Nat} {ni : NodeS} (h : IsChain heap a (l1 ++ pr :: i :: l2)) (hnd : (l1 ++ pr :: i :: l2).Nodup)
    (hni : heap[i]? = some ni) :
    IsChain (heap.modify pr (fun m => { m with next := ni.next })) a (l1 ++ pr :: l2) :=
  isSeg_iff.2 ((isSeg_iff.1 h).unlink hnd hni fun _ => rfl)

/-- key ↦ value of the first node with that key on the list `C` -/
def absIn (heap : List NodeS) (C : List Nat) (k : Nat) : KSt :=
  (C.find? (fun i => (nodeAt heap i).key == k)).map (fun i => (nodeAt heap i).val)

theorem absOf_eq (s : State) (k : Nat) : absOf s k = absIn s.heap (chainOfCell s (liveCell s k)) k := by
  unfold absOf absIn nodeAt
  cases (chainOfCell s (liveCell s k)).find? _ <;> rfl

theorem absIn_eq_none_iff {heap : List NodeS} {C : List Nat} {k : Nat} :
    absIn heap C k = none ↔ ∀ i ∈ C, (nodeAt heap i).key ≠ k := by
  unfold absIn
  rw [Option.map_eq_none_iff, List.find?_eq_none]
  constructor
  · intro h i hi hk
    exact h i hi (by rw [hk]; exact beq_self_eq_true k)
  · intro h i hi hk
    exact h i hi (eq_of_beq hk)

def KeysDistinct (heap : List NodeS) (C : List Nat) : Prop :=
  ∀ i ∈ C, ∀ j ∈ C, (nodeAt heap i).key = (nodeAt heap j).key → i = j

theorem absIn_eq_some_iff {heap : List NodeS} {C : List Nat} (hd : KeysDistinct heap C) {k : Nat} {v : Nat × Nat} :
    absIn heap C k = some v ↔ ∃ i ∈ C, (nodeAt heap i).key = k ∧ (nodeAt heap i).val = v := by
  unfold absIn
  rw [Option.map_eq_some_iff]
  constructor
  · rintro ⟨i, hf, hv⟩
    have h2 := List.find?_some hf
    exact ⟨i, List.mem_of_find?_eq_some hf, eq_of_beq h2, hv⟩
  · rintro ⟨i, hi, hk, hv⟩
    cases hf : C.find? (fun i => (nodeAt heap i).key == k) with
    | none =>
      rw [List.find?_eq_none] at hf
      exact absurd (by rw [hk]; exact beq_self_eq_true k) (hf i hi)
    | some j =>
      have h2 := List.find?_some hf
      cases hd j (List.mem_of_find?_eq_some hf) i hi (by rw [eq_of_beq h2, hk])
      exact ⟨_, rfl, hv⟩

theorem absIn_congr {heap heap' : List NodeS} {C C' : List Nat} (hd : KeysDistinct heap C)
    (hd' : KeysDistinct heap' C') {k : Nat}
    (h1 : ∀ i ∈ C, (nodeAt heap i).key = k → ∃ j ∈ C', (nodeAt heap' j).key = k ∧ (nodeAt heap' j).val = (nodeAt heap i).val)
    (h2 : ∀ j ∈ C', (nodeAt heap' j).key = k → ∃ i ∈ C, (nodeAt heap i).key = k) :
    absIn heap' C' k = absIn heap C k := by
  cases ha : absIn heap C k with
  | none =>
    rw [absIn_eq_none_iff] at ha ⊢
    intro j hj hjk
    obtain ⟨i, hi, hik⟩ := h2 j hj hjk
    exact ha i hi hik
  | some v =>
    rw [absIn_eq_some_iff hd] at ha
    obtain ⟨i, hi, hik, hiv⟩ := ha
    rw [absIn_eq_some_iff hd']
    obtain ⟨j, hj, hjk, hjv⟩ := h1 i hi hik
    exact ⟨j, hj, hjk, by rw [hjv, hiv]⟩

/-! The lemmas `nextOK_*` are stated for `NextUp ρ`; a `NextOK cr` is passed to them as it is. -/

theorem nextOK_modify {ρ : Nat → Int} {heap : List NodeS} (hok : NextUp ρ heap) {i : Nat} {f : NodeS → NodeS}
    (hf : ∀ n b, heap[i]? = some n → (f n).next = some b → ρ i < ρ b ∧ b < heap.length) :
    NextUp ρ (heap.modify i f) := by
  intro a n b hn hb
  rw [List.length_modify]
  rw [List.getElem?_modify] at hn
  cases hn0 : heap[a]? with
  | none => rw [hn0] at hn; cases hn
  | some n0 =>
    rw [hn0] at hn
    cases hn
    split at hb
    · rename_i hia
      subst hia
      exact hf n0 b hn0 hb
    · exact hok a n0 b hn0 hb

theorem nextOK_modify_same {ρ : Nat → Int} {heap : List NodeS} (hok : NextUp ρ heap) {i : Nat} {f : NodeS → NodeS}
    (hf : ∀ n, (f n).next = n.next) : NextUp ρ (heap.modify i f) :=
  nextOK_modify hok (fun n b hn hb => hok i n b hn (hf n ▸ hb))

theorem nextOK_append {ρ : Nat → Int} {heap : List NodeS} (hok : NextUp ρ heap) {new : NodeS} (hnew : new.next = none) :
    NextUp ρ (heap ++ [new]) := by
  intro a n b hn hb
  rw [List.length_append, List.length_singleton]
  by_cases ha : a < heap.length
  · rw [List.getElem?_append_left ha] at hn
    exact ⟨(hok a n b hn hb).1, Nat.lt_succ_of_lt (hok a n b hn hb).2⟩
  · have hlen := (List.getElem?_eq_some_iff.1 hn).1
    rw [List.length_append, List.length_singleton] at hlen
    have : a = heap.length := Nat.le_antisymm (Nat.le_of_lt_succ hlen) (Nat.le_of_not_lt ha)
    subst this
    rw [← nodeAt_of_some hn, nodeAt_append_new, hnew] at hb
    cases hb

theorem nextOK_modify_next {ρ : Nat → Int} {heap : List NodeS} (hok : NextUp ρ heap) {i : Nat} {x : Option Nat}
    (hx : ∀ b, x = some b → ρ i < ρ b ∧ b < heap.length) :
    NextUp ρ (heap.modify i (fun n => { n with next := x })) :=
  nextOK_modify hok (fun _ b _ hb => hx b hb)

end Flurry.Proto.BinX
