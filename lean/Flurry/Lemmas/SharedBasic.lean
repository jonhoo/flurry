import Flurry.Lemmas.ListSet
/-! # Facts shared by the bin models that mention no model's `State`

* replacing one element of a thread list: how many threads satisfy a test afterwards (`count_set`; what a lookup finds
  afterwards is `get_set*` in `Lemmas/ListSet.lean`, in this namespace);
* the compare-and-swap conditions on the lock word of a tree bin as `Proto/BinT` and `Proto/BinU` write them
  (`cas_cond`, `loop_cond`), and the protocol of that lock word (bin mutex, `WRITER`, `WAITER`, reader count) seen from
  one thread: `LockView`, `SyncOK`. `LockWord.RwOK` (`Lemmas/LockWord.lean`) is the same protocol for a table of
  `TreeBin`s, stated for all threads at once (`Proto/BinG`, `Proto/BinGN`);
* a heap as a list read with a default (`getD_*`), and a table of rows read twice that way (`getD2_*`: the cells of
  the tables of `Proto/BinNA`, `Proto/BinN` and `Proto/BinGN`); the index `k % 2 ^ g` of a key in the table of generation
  `g` and its parent in generation `g - 1` (`mod_lt_pow`, `mod_succ_mod`, `high_mod`);
* the list of a bin as a chain of heap indices over any node type (`Seg`): chains are sorted along any transitive
  relation that `next` follows (`NextRel`); for lists whose new nodes are *prepended*, `next` pointers go strictly
  **downwards** (`NextDown`) and chains are strictly decreasing index lists;
* `prevOf`: the predecessor of an element on a list of indices (what every model's `predOf` computes);
* `GhostView.callsOn hist k`, the completed calls of key `k` in a history of keyed calls. It is in the namespace of the
  ghost layer (`Lemmas/GhostSig.lean`, `GhostView.lean`), where a model's `Trace` begins with it, and stands here because
  the history of a table projects to it (`Lemmas/TableLineages.lean`), which needs nothing else of that layer. -/
namespace Flurry.Shared

theorem count_set {α : Type} (q : α → Bool) (ls : List α) (i : Nat) (old new : α) (h : ls[i]? = some old) :
    ((ls.set i new).filter q).length + (if q old then 1 else 0) =
      (ls.filter q).length + (if q new then 1 else 0) := by
  have := Flurry.countP_set_add (p := q) (x := new) h
  rw [List.countP_eq_length_filter, List.countP_eq_length_filter] at this
  revert this
  cases q old <;> cases q new <;> simp

/-! ## the lock word

The two compare-and-swap conditions of `Proto/BinT` and `Proto/BinU` (`Lemmas/BinTStep.lean`, `BinUStep.lean`),
`0 → readers + 1` / `0 → WRITER` and the one of the `contended_lock` loop, as facts about the three components. -/

theorem cas_cond {w a : Bool} {r n : Nat} (h : (!w && !a && r == n) = true) : w = false ∧ a = false ∧ r = n := by
  cases w <;> cases a <;> simp_all

theorem loop_cond {w : Bool} {r : Nat} (h : (!w && r == 0) = true) : w = false ∧ r = 0 := by
  cases w <;> simp_all

/-! ## the lock words seen from one thread

`mx`, `W`, `A`, `R` are the bin mutex, the `WRITER` and `WAITER` bits and the reader count; a thread's
program counter is classified by `c` (holds the mutex), `wr` (holds the write lock), `lp` (in the
`contended_lock` loop) and `hd` (holds a read lock). -/

/-- what the lock invariant says about thread `t` -/
structure LockView (t : Nat) (mx : Option Nat) (W A : Bool) (R : Nat) (c wr lp hd : Bool) : Prop where
  mine : c = true ↔ mx = some t
  bits : mx = some t → W = wr ∧ (A = true → lp = true)
  free : mx = none → W = false ∧ A = false
  excl : W = true → R = 0
  pos : hd = true → 1 ≤ R

/-- what a step of thread `t` from `(mx, W, A, R)` to `(m, w, a, r)` has to satisfy for the lock
invariant to survive; primed classifiers belong to the new program counter -/
structure SyncOK (t : Nat) (mx m : Option Nat) (W A w a : Bool) (R r : Nat) (c' wr' lp' hd hd' : Bool) : Prop where
  mine : c' = true ↔ m = some t
  others : ∀ h, h ≠ t → (m = some h ↔ mx = some h)
  bits : m = some t → w = wr' ∧ (a = true → lp' = true)
  free : m = none → w = false ∧ a = false
  keep : ∀ h, h ≠ t → m = some h → w = W ∧ a = A
  rd : r + (if hd then 1 else 0) = R + (if hd' then 1 else 0)
  excl : w = true → r = 0

variable {t : Nat} {mx : Option Nat} {W A : Bool} {R : Nat} {c wr lp hd : Bool}

/-- a thread outside the critical section stays outside: it can only move the reader count -/
theorem LockView.outside (V : LockView t mx W A R c wr lp hd) {c' wr' lp' hd' : Bool} {r : Nat}
    (hc : c = false) (hc' : c' = false)
    (hr : r + (if hd then 1 else 0) = R + (if hd' then 1 else 0)) (hx : W = true → r = 0) :
    SyncOK t mx mx W A W A R r c' wr' lp' hd hd' := by
  have hm : mx ≠ some t := fun h => by rw [V.mine.2 h] at hc; cases hc
  exact ⟨by rw [hc']; exact ⟨nofun, fun h => absurd h hm⟩, fun _ _ => Iff.rfl, fun h => absurd h hm, V.free,
    fun _ _ _ => ⟨rfl, rfl⟩, hr, hx⟩

theorem LockView.outside_same (V : LockView t mx W A R c wr lp hd) {c' wr' lp' : Bool}
    (hc : c = false) (hc' : c' = false) : SyncOK t mx mx W A W A R R c' wr' lp' hd hd :=
  V.outside hc hc' rfl V.excl

/-- the mutex holder stays in the critical section and sets the bits to `w`, `a` -/
theorem LockView.holder (V : LockView t mx W A R c wr lp hd) {c' wr' lp' hd' w a : Bool}
    (hc : c = true) (hc' : c' = true) (hh : hd = false) (hh' : hd' = false)
    (hw : w = wr') (ha : a = true → lp' = true) (hx : w = true → R = 0) :
    SyncOK t mx mx W A w a R R c' wr' lp' hd hd' := by
  have hm : mx = some t := V.mine.1 hc
  refine ⟨by rw [hc']; exact ⟨fun _ => hm, fun _ => rfl⟩, fun _ _ => Iff.rfl, fun _ => ⟨hw, ha⟩, ?_, ?_,
    by rw [hh, hh'], hx⟩
  · intro h; rw [hm] at h; cases h
  · intro h hne e; rw [hm] at e; cases e; exact absurd rfl hne

theorem LockView.holder_same (V : LockView t mx W A R c wr lp hd) {c' wr' lp' hd' : Bool}
    (hc : c = true) (hc' : c' = true) (hh : hd = false) (hh' : hd' = false)
    (hw : wr' = wr) (hl : lp = true → lp' = true) :
    SyncOK t mx mx W A W A R R c' wr' lp' hd hd' :=
  have b := V.bits (V.mine.1 hc)
  V.holder hc hc' hh hh' (by rw [hw]; exact b.1) (fun h => hl (b.2 h)) V.excl

theorem LockView.acquire (V : LockView t mx W A R c wr lp hd) {c' wr' lp' : Bool}
    (hm : mx = none) (hc' : c' = true) (hw : wr' = false) :
    SyncOK t mx (some t) W A W A R R c' wr' lp' hd hd := by
  obtain ⟨e1, e2⟩ := V.free hm
  refine ⟨by rw [hc']; exact ⟨fun _ => rfl, fun _ => rfl⟩, ?_, fun _ => ⟨by rw [e1, hw], by rw [e2]; nofun⟩,
    nofun, ?_, rfl, V.excl⟩
  · intro h hne; rw [hm]; exact ⟨fun e => absurd (Option.some.inj e).symm hne, nofun⟩
  · intro h hne e; exact absurd (Option.some.inj e).symm hne

theorem LockView.release (V : LockView t mx W A R c wr lp hd) {c' wr' lp' : Bool}
    (hc : c = true) (hc' : c' = false) (hw : wr = false) (hl : lp = false) :
    SyncOK t mx none W A W A R R c' wr' lp' hd hd := by
  have hm : mx = some t := V.mine.1 hc
  obtain ⟨e1, e2⟩ := V.bits hm
  refine ⟨by rw [hc']; exact ⟨nofun, nofun⟩, ?_, nofun, fun _ => ⟨by rw [e1, hw], ?_⟩, nofun, rfl, V.excl⟩
  · intro h hne; rw [hm]; exact ⟨nofun, fun e => absurd (Option.some.inj e).symm hne⟩
  · cases hA : A with
    | false => rfl
    | true => have := e2 hA; rw [hl] at this; cases this

/-! ## a heap read with a default: `heap.getD i d` -/

theorem getD_of_some {α : Type} {heap : List α} {i : Nat} {n d : α} (h : heap[i]? = some n) :
    heap.getD i d = n := by
  rw [List.getD_eq_getElem?_getD, h]; rfl

theorem getElem?_getD {α : Type} {heap : List α} {i : Nat} (d : α) (h : i < heap.length) :
    heap[i]? = some (heap.getD i d) := by
  rw [List.getD_eq_getElem?_getD, List.getElem?_eq_getElem h]; rfl

theorem getD_modify {α : Type} (heap : List α) (i : Nat) (f : α → α) (j : Nat) (d : α) :
    (heap.modify i f).getD j d = if i = j ∧ j < heap.length then f (heap.getD j d) else heap.getD j d := by
  rw [List.getD_eq_getElem?_getD, List.getD_eq_getElem?_getD, List.getElem?_modify]
  by_cases hj : j < heap.length
  · rw [List.getElem?_eq_getElem hj]
    by_cases hij : i = j <;> simp [hij, hj]
  · rw [List.getElem?_eq_none (by omega)]
    simp [hj]

theorem getD_append_left {α : Type} {heap : List α} (l : List α) {j : Nat} (d : α) (hj : j < heap.length) :
    (heap ++ l).getD j d = heap.getD j d := by
  rw [List.getD_eq_getElem?_getD, List.getD_eq_getElem?_getD, List.getElem?_append_left hj]

theorem getD_append_new {α : Type} (heap : List α) (n d : α) : (heap ++ [n]).getD heap.length d = n := by
  rw [List.getD_eq_getElem?_getD]; simp

/-! ## tables of rows: `(tabs.getD g []).getD j d` -/

theorem getD_set {α : Type} (row : List α) (j j' : Nat) (c d : α) :
    (row.set j c).getD j' d = if j' = j ∧ j < row.length then c else row.getD j' d := by
  rw [List.getD_eq_getElem?_getD, List.getD_eq_getElem?_getD, List.getElem?_set]
  by_cases h : j = j'
  · subst h
    rw [if_pos rfl]
    by_cases hlt : j < row.length
    · rw [if_pos hlt, if_pos ⟨rfl, hlt⟩]; rfl
    · rw [if_neg hlt, if_neg (fun hh => hlt hh.2), List.getElem?_eq_none (Nat.le_of_not_lt hlt)]
  · rw [if_neg h, if_neg (fun hh => h hh.1.symm)]

theorem getD_modify_row {α : Type} (tabs : List (List α)) (g g' : Nat) (f : List α → List α) (hf : f [] = []) :
    (tabs.modify g f).getD g' [] = if g' = g then f (tabs.getD g' []) else tabs.getD g' [] := by
  rw [List.getD_eq_getElem?_getD, List.getD_eq_getElem?_getD]
  by_cases h : g' = g
  · subst h
    rw [if_pos rfl, List.getElem?_modify_eq]
    cases tabs[g']? with
    | none => exact hf.symm
    | some row => rfl
  · rw [if_neg h, List.getElem?_modify_ne _ _ (fun e => h e.symm)]

theorem getD2_modify_set {α : Type} (tabs : List (List α)) (g j g' j' : Nat) (c d : α) :
    ((tabs.modify g (fun row => row.set j c)).getD g' []).getD j' d =
      if g' = g ∧ j' = j ∧ j < (tabs.getD g []).length then c else (tabs.getD g' []).getD j' d := by
  rw [getD_modify_row _ _ _ _ rfl]
  by_cases hg : g' = g
  · subst hg
    rw [if_pos rfl, getD_set]
    by_cases h : j' = j ∧ j < (tabs.getD g' []).length
    · rw [if_pos h, if_pos ⟨rfl, h⟩]
    · rw [if_neg h, if_neg (fun hh => h hh.2)]
  · rw [if_neg hg, if_neg (fun h => hg h.1)]

theorem getD2_modify_set_of_lt {α : Type} {tabs : List (List α)} {g j n : Nat} (hn : (tabs.getD g []).length = n)
    (hj : j < n) (g' j' : Nat) (c d : α) :
    ((tabs.modify g (fun row => row.set j c)).getD g' []).getD j' d =
      if g' = g ∧ j' = j then c else (tabs.getD g' []).getD j' d := by
  rw [getD2_modify_set, hn]
  by_cases h : g' = g ∧ j' = j
  · rw [if_pos ⟨h.1, h.2, hj⟩, if_pos h]
  · rw [if_neg (fun hh => h ⟨hh.1, hh.2.1⟩), if_neg h]

theorem len2_modify_set {α : Type} (tabs : List (List α)) (g j g' : Nat) (c : α) :
    ((tabs.modify g (fun row => row.set j c)).getD g' []).length = (tabs.getD g' []).length := by
  rw [getD_modify_row _ _ _ _ rfl]
  split
  · exact List.length_set
  · rfl

theorem getD2_append_replicate {α : Type} (tabs : List (List α)) (n g j : Nat) (d : α) :
    ((tabs ++ [List.replicate n d]).getD g []).getD j d = (tabs.getD g []).getD j d := by
  rw [List.getD_eq_getElem?_getD (l := tabs ++ _), List.getD_eq_getElem?_getD (l := tabs)]
  rcases Nat.lt_trichotomy g tabs.length with h | h | h
  · rw [List.getElem?_append_left h]
  · subst h
    rw [List.getElem?_append_right (Nat.le_refl _), Nat.sub_self, List.getElem?_eq_none (Nat.le_refl _)]
    show (List.replicate n d).getD j d = d
    rw [List.getD_eq_getElem?_getD, List.getElem?_replicate]
    split <;> rfl
  · rw [List.getElem?_append_right (Nat.le_of_lt h), List.getElem?_eq_none (Nat.le_of_lt h),
      List.getElem?_eq_none (Nat.le_sub_of_add_le (Nat.add_comm _ _ ▸ h))]

theorem getD2_singleton {α : Type} (d : α) (g j : Nat) : (([[d]] : List (List α)).getD g []).getD j d = d := by
  cases g with
  | zero => cases j <;> rfl
  | succ g => rfl

/-! ## the index of a key in a table of `2 ^ g` cells -/

theorem mod_lt_pow (k g : Nat) : k % 2 ^ g < 2 ^ g := Nat.mod_lt _ (Nat.two_pow_pos g)

/-- the parent of the cell of `k` in generation `g + 1` is the cell of `k` in generation `g` -/
theorem mod_succ_mod (k g : Nat) : (k % 2 ^ (g + 1)) % 2 ^ g = k % 2 ^ g :=
  Nat.mod_mod_of_dvd k ⟨2, by rw [Nat.pow_succ]⟩

theorem high_mod {j g : Nat} (hj : j < 2 ^ g) : (j + 2 ^ g) % 2 ^ g = j := by
  rw [Nat.add_mod_right, Nat.mod_eq_of_lt hj]

/-! ## chains

`nx` reads the `next` field of a node. -/
section Chain
variable {α : Type} (nx : α → Option Nat)

/-- `next` pointers go strictly downwards (new nodes are prepended) -/
def NextDown (heap : List α) : Prop :=
  ∀ (i : Nat) (n : α) (j : Nat), heap[i]? = some n → nx n = some j → j < i

/-- `Seg nx heap a l e`: following `next` from `a` visits exactly the nodes `l` and arrives at `e` -/
inductive Seg (heap : List α) : Option Nat → List Nat → Option Nat → Prop
  | nil (e : Option Nat) : Seg heap e [] e
  | cons {i : Nat} {n : α} {l : List Nat} {e : Option Nat} :
      heap[i]? = some n → Seg heap (nx n) l e → Seg heap (some i) (i :: l) e

variable {nx} {heap : List α}

theorem Seg.nil_iff {a e : Option Nat} : Seg nx heap a [] e ↔ a = e := by
  constructor
  · intro h; cases h; rfl
  · rintro rfl; exact .nil _

theorem Seg.cons_iff {a e : Option Nat} {i : Nat} {l : List Nat} :
    Seg nx heap a (i :: l) e ↔ a = some i ∧ ∃ n, heap[i]? = some n ∧ Seg nx heap (nx n) l e := by
  constructor
  · intro h; cases h with | cons h1 h2 => exact ⟨rfl, _, h1, h2⟩
  · rintro ⟨rfl, n, h1, h2⟩; exact .cons h1 h2

theorem Seg.append {a b c : Option Nat} {l1 l2 : List Nat}
    (h1 : Seg nx heap a l1 b) (h2 : Seg nx heap b l2 c) : Seg nx heap a (l1 ++ l2) c := by
  induction h1 with
  | nil e => simpa using h2
  | cons hn _ ih => exact .cons hn (ih h2)

theorem Seg.split {l2 : List Nat} {c : Option Nat} :
    ∀ {l1 : List Nat} {a : Option Nat}, Seg nx heap a (l1 ++ l2) c →
      ∃ b, Seg nx heap a l1 b ∧ Seg nx heap b l2 c
  | [], a, h => ⟨a, .nil _, by simpa using h⟩
  | i :: l1, a, h => by
    rw [List.cons_append, Seg.cons_iff] at h
    obtain ⟨rfl, n, hn, hs⟩ := h
    obtain ⟨b, hb1, hb2⟩ := Seg.split hs
    exact ⟨b, .cons hn hb1, hb2⟩

theorem Seg.unique {a : Option Nat} {l1 : List Nat}
    (h1 : Seg nx heap a l1 none) : ∀ {l2 : List Nat}, Seg nx heap a l2 none → l1 = l2 := by
  generalize he : (none : Option Nat) = e at h1
  induction h1 with
  | nil e =>
    subst he
    intro l2 h2
    cases h2; rfl
  | cons hn _ ih =>
    subst he
    intro l2 h2
    cases h2 with
    | cons hn2 hs2 =>
      rw [hn] at hn2; cases hn2
      rw [ih rfl hs2]

theorem Seg.lt_length {a e : Option Nat} {l : List Nat} (h : Seg nx heap a l e) :
    ∀ j ∈ l, j < heap.length := by
  induction h with
  | nil e => intro j hj; cases hj
  | cons hn _ ih =>
    intro j hj
    rcases List.mem_cons.1 hj with rfl | hj
    · exact (List.getElem?_eq_some_iff.1 hn).1
    · exact ih j hj

/-! ### the order of a chain, for any transitive relation that `next` follows

`NextDown` is `NextRel (· > ·)`; lists that grow at the tail use `(· < ·)` (`Proto/BinRBase`) or the order of a rank
(`ord cr` in `Proto/BinX` and `Proto/BinN`, `rank heap` in `Proto/BinK`). -/

def NextRel (nx : α → Option Nat) (r : Nat → Nat → Prop) (heap : List α) : Prop :=
  ∀ (i : Nat) (n : α) (j : Nat), heap[i]? = some n → nx n = some j → r i j

section Rel
variable {r : Nat → Nat → Prop} (tr : ∀ a b c : Nat, r a b → r b c → r a c)
include tr

theorem Seg.rel_first (hok : NextRel nx r heap) {a e : Option Nat} {l : List Nat}
    (h : Seg nx heap a l e) : ∀ j ∈ l, ∀ i, a = some i → i = j ∨ r i j := by
  induction h with
  | nil e => intro j hj; cases hj
  | cons hn hs ih =>
    rename_i i n l e
    intro j hj i' hi'
    cases hi'
    rcases List.mem_cons.1 hj with rfl | hj
    · exact Or.inl rfl
    · cases hnx : nx n with
      | none =>
        rw [hnx] at hs
        cases hs with
        | nil => cases hj
      | some b =>
        have hib := hok _ _ _ hn hnx
        exact Or.inr ((ih j hj b hnx).elim (fun e => e ▸ hib) (tr _ _ _ hib))

theorem Seg.rel_end (hok : NextRel nx r heap) {a e : Option Nat} {l : List Nat}
    (h : Seg nx heap a l e) : ∀ j ∈ l, ∀ x, e = some x → r j x := by
  induction h with
  | nil e => intro j hj; cases hj
  | cons hn hs ih =>
    rename_i i n l e
    intro j hj x hx
    rcases List.mem_cons.1 hj with rfl | hj
    · cases hl : l with
      | nil =>
        subst hl
        rw [Seg.nil_iff] at hs
        exact hok _ _ _ hn (hs.trans hx)
      | cons b l' =>
        subst hl
        exact tr _ _ _ (hok _ _ _ hn (Seg.cons_iff.1 hs).1) (ih b (List.mem_cons_self) x hx)
    · exact ih j hj x hx

theorem Seg.pairwise (hok : NextRel nx r heap) {a e : Option Nat} {l : List Nat}
    (h : Seg nx heap a l e) : l.Pairwise r := by
  induction h with
  | nil e => exact List.Pairwise.nil
  | cons hn hs ih =>
    rename_i i n l e
    refine List.pairwise_cons.2 ⟨?_, ih⟩
    intro j hj
    cases hnx : nx n with
    | none =>
      rw [hnx] at hs
      cases hs with
      | nil => cases hj
    | some b =>
      have hib := hok _ _ _ hn hnx
      exact (hs.rel_first tr hok j hj b hnx).elim (fun e => e ▸ hib) (tr _ _ _ hib)

end Rel

theorem NextDown.rel (hok : NextDown nx heap) : NextRel nx (· > ·) heap := hok

private theorem gt_trans' (a b c : Nat) (h1 : a > b) (h2 : b > c) : a > c := Nat.lt_trans h2 h1

theorem Seg.sorted (hok : NextDown nx heap) {a e : Option Nat} {l : List Nat}
    (h : Seg nx heap a l e) : l.Pairwise (· > ·) :=
  h.pairwise gt_trans' hok.rel

theorem Seg.nodup (hok : NextDown nx heap) {a e : Option Nat} {l : List Nat}
    (h : Seg nx heap a l e) : l.Nodup :=
  (h.sorted hok).imp (fun hab => Nat.ne_of_gt hab)

/-- a segment only depends on the `next` fields of its own nodes -/
theorem Seg.congr {heap' : List α} {a e : Option Nat} {l : List Nat}
    (h : Seg nx heap a l e)
    (hsame : ∀ j ∈ l, ∀ n, heap[j]? = some n → ∃ n', heap'[j]? = some n' ∧ nx n' = nx n) :
    Seg nx heap' a l e := by
  induction h with
  | nil e => exact .nil _
  | cons hn hs ih =>
    obtain ⟨n', hn', hnx⟩ := hsame _ (List.mem_cons_self) _ hn
    refine .cons hn' ?_
    rw [hnx]
    exact ih (fun j hj => hsame j (List.mem_cons_of_mem _ hj))

theorem Seg.append_heap {a e : Option Nat} {l : List Nat} (h : Seg nx heap a l e) (ext : List α) :
    Seg nx (heap ++ ext) a l e := by
  refine h.congr ?_
  intro j _ n hn
  have hjl : j < heap.length := (List.getElem?_eq_some_iff.1 hn).1
  exact ⟨n, by rw [List.getElem?_append_left hjl, hn], rfl⟩

theorem Seg.head_eq {a : Option Nat} {l : List Nat} (h : Seg nx heap a l none) : a = l.head? := by
  cases h with
  | nil => rfl
  | cons _ _ => rfl

theorem Seg.start_lt {a : Option Nat} {l : List Nat} (h : Seg nx heap a l none) :
    ∀ j, a = some j → j < heap.length := by
  intro j hj
  subst hj
  cases h with
  | cons hn _ => exact (List.getElem?_eq_some_iff.1 hn).1

theorem Seg.at_mem {a e : Option Nat} {l : List Nat} (h : Seg nx heap a l e)
    {c : Nat} (hc : c ∈ l) :
    ∃ l1 l2 n, l = l1 ++ c :: l2 ∧ heap[c]? = some n ∧ Seg nx heap a l1 (some c) ∧
      Seg nx heap (nx n) l2 e := by
  obtain ⟨l1, l2, rfl⟩ := List.append_of_mem hc
  obtain ⟨b, h1, h2⟩ := h.split
  obtain ⟨rfl, n, hn, hs⟩ := Seg.cons_iff.1 h2
  exact ⟨l1, l2, n, rfl, hn, h1, hs⟩

/-- around a chain node `c`: every chain node is `c`, before `c`, or from the successor of `c` on -/
theorem Seg.around {r : Nat → Nat → Prop} (tr : ∀ a b c : Nat, r a b → r b c → r a c) (hok : NextRel nx r heap) {a : Option Nat} {l : List Nat}
    (h : Seg nx heap a l none) {c : Nat} {n : α} (hc : c ∈ l) (hn : heap[c]? = some n) :
    (∀ b, nx n = some b → b ∈ l) ∧
      ∀ j ∈ l, j = c ∨ r j c ∨ ∃ b, nx n = some b ∧ (b = j ∨ r b j) := by
  obtain ⟨l1, l2, n', rfl, hn', h1, h2⟩ := h.at_mem hc
  rw [hn] at hn'; cases hn'
  refine ⟨?_, ?_⟩
  · intro b hb
    rw [hb] at h2
    cases h2 with
    | cons _ _ => simp
  · intro j hj
    rcases List.mem_append.1 hj with hj | hj
    · exact Or.inr (Or.inl (h1.rel_end tr hok j hj c rfl))
    · rcases List.mem_cons.1 hj with rfl | hj
      · exact Or.inl rfl
      · cases hnx : nx n with
        | none => rw [hnx] at h2; cases h2; cases hj
        | some b => exact Or.inr (Or.inr ⟨b, rfl, (hnx ▸ h2).rel_first tr hok j hj b rfl⟩)

/-- the last node of a chain: every chain node is at or above it -/
theorem Seg.succ_none (hok : NextDown nx heap) {a : Option Nat} {l : List Nat}
    (h : Seg nx heap a l none) {c : Nat} {n : α} (hc : c ∈ l) (hn : heap[c]? = some n)
    (hnx : nx n = none) : ∀ j ∈ l, c ≤ j := by
  intro j hj
  rcases (h.around gt_trans' hok.rel hc hn).2 j hj with rfl | h1 | ⟨b, hb, -⟩
  · exact Nat.le_refl _
  · exact Nat.le_of_lt h1
  · rw [hnx] at hb; cases hb

/-- the successor of a chain node is the next chain node below it -/
theorem Seg.succ_some (hok : NextDown nx heap) {a : Option Nat} {l : List Nat}
    (h : Seg nx heap a l none) {c b : Nat} {n : α} (hc : c ∈ l) (hn : heap[c]? = some n)
    (hnx : nx n = some b) : b ∈ l ∧ ∀ j ∈ l, b < j → c ≤ j := by
  obtain ⟨h0, h1⟩ := h.around gt_trans' hok.rel hc hn
  refine ⟨h0 b hnx, fun j hj hjb => ?_⟩
  rcases h1 j hj with rfl | h2 | ⟨b', hb, h2⟩
  · exact Nat.le_refl _
  · exact Nat.le_of_lt h2
  · rw [hnx] at hb; cases hb
    have : j ≤ b := h2.elim (fun e => e ▸ Nat.le_refl _) Nat.le_of_lt
    omega

theorem NextDown.modify (hok : NextDown nx heap) (i : Nat) {f : α → α} (hf : ∀ n, nx (f n) = nx n) :
    NextDown nx (heap.modify i f) := by
  intro a n b hn hb
  rw [List.getElem?_modify] at hn
  cases hn0 : heap[a]? with
  | none => rw [hn0] at hn; cases hn
  | some n0 =>
    rw [hn0] at hn
    simp only [Option.map_eq_map, Option.map_some, Option.some.injEq] at hn
    subst hn
    refine hok a n0 b hn0 ?_
    split at hb
    · rw [hf n0] at hb; exact hb
    · exact hb

theorem Seg.prepend {a : Option Nat} {l : List Nat}
    (h : Seg nx heap a l none) (new : α) (hnew : nx new = a) :
    Seg nx (heap ++ [new]) (some heap.length) (heap.length :: l) none := by
  exact .cons (n := new) (by simp) (hnew ▸ h.append_heap [new])

theorem NextDown.append (hok : NextDown nx heap) {new : α} (hnew : ∀ b, nx new = some b → b < heap.length) :
    NextDown nx (heap ++ [new]) := by
  intro a n b hn hb
  by_cases ha : a < heap.length
  · rw [List.getElem?_append_left ha] at hn
    exact hok a n b hn hb
  · have hal : a < (heap ++ [new]).length := (List.getElem?_eq_some_iff.1 hn).1
    rw [List.length_append, List.length_singleton] at hal
    have : a = heap.length := by omega
    subst this
    simp only [List.getElem?_concat_length, Option.some.injEq] at hn
    subst hn
    exact hnew b hb

/-- unlinking the node `i` behind `pr`: `f` gives `pr` the `next` of `i` -/
theorem Seg.unlink {a : Option Nat} {l1 l2 : List Nat}
    {pr i : Nat} {ni : α} {f : α → α} (h : Seg nx heap a (l1 ++ pr :: i :: l2) none)
    (hnd : (l1 ++ pr :: i :: l2).Nodup) (hni : heap[i]? = some ni) (hf : ∀ m, nx (f m) = nx ni) :
    Seg nx (heap.modify pr f) a (l1 ++ pr :: l2) none := by
  obtain ⟨b, h1, h2⟩ := h.split
  obtain ⟨rfl, np, hnp, hs⟩ := Seg.cons_iff.1 h2
  obtain ⟨hb, ni', hni', hs2⟩ := Seg.cons_iff.1 hs
  rw [hni] at hni'; cases hni'
  have h5 := List.nodup_append.1 hnd
  have hpr1 : pr ∉ l1 := fun hm => h5.2.2 pr hm pr (by simp) rfl
  have hpr2 : pr ∉ l2 := by
    intro hm
    have := (List.nodup_cons.1 h5.2.1).1
    exact this (List.mem_cons_of_mem _ hm)
  refine Seg.append (b := some pr) ?_ ?_
  · refine h1.congr ?_
    intro j hj n hn
    have hne : pr ≠ j := fun he => hpr1 (he ▸ hj)
    refine ⟨n, ?_, rfl⟩
    rw [List.getElem?_modify, hn]
    simp [hne]
  · refine .cons (n := f np) ?_ ?_
    · rw [List.getElem?_modify, hnp]; simp
    · rw [hf np]
      refine hs2.congr ?_
      intro j hj n hn
      have hne : pr ≠ j := fun he => hpr2 (he ▸ hj)
      refine ⟨n, ?_, rfl⟩
      rw [List.getElem?_modify, hn]
      simp [hne]

theorem NextDown.unlink (hok : NextDown nx heap) {pr i : Nat} {np ni : α} {f : α → α}
    (hnp : heap[pr]? = some np) (hpi : nx np = some i) (hni : heap[i]? = some ni)
    (hf : ∀ m, nx (f m) = nx ni) : NextDown nx (heap.modify pr f) := by
  intro a n b hn hb
  rw [List.getElem?_modify] at hn
  cases hn0 : heap[a]? with
  | none => rw [hn0] at hn; cases hn
  | some n0 =>
    rw [hn0] at hn
    simp only [Option.map_eq_map, Option.map_some, Option.some.injEq] at hn
    subst hn
    split at hb
    · rename_i hpa
      subst hpa
      rw [hf n0] at hb
      have h3 := hok pr np i hnp hpi
      have h4 := hok i ni b hni hb
      omega
    · exact hok a n0 b hn0 hb

end Chain

/-- the element in front of `i` (`none` if `i` is the first element or absent) -/
def prevOf (c : List Nat) (i : Nat) : Option Nat :=
  match c with
  | a :: b :: rest => if b == i then some a else prevOf (b :: rest) i
  | _ => none

theorem prevOf_none_of_not_mem_tail (i : Nat) : ∀ l : List Nat, i ∉ l.tail → prevOf l i = none
  | [], _ => rfl
  | [_], _ => rfl
  | a :: b :: rest, h => by
    have hb : b ≠ i := fun he => h (by simp [he])
    have hr : i ∉ (b :: rest).tail := fun hm => h (by simp at hm ⊢; exact Or.inr hm)
    simp only [prevOf, beq_iff_eq, hb, if_false]
    exact prevOf_none_of_not_mem_tail i (b :: rest) hr

theorem prevOf_mid (i a : Nat) (l2 : List Nat) (ha : a ≠ i) :
    ∀ l1 : List Nat, i ∉ l1 → prevOf (l1 ++ a :: i :: l2) i = some a
  | [], _ => by simp [prevOf]
  | [x], _ => by
    simp only [List.cons_append, List.nil_append, prevOf, beq_iff_eq, ha, if_false, if_true]
  | x :: y :: l1, h => by
    have hy : y ≠ i := fun he => h (by simp [he])
    have hr : i ∉ y :: l1 := fun hm => h (List.mem_cons_of_mem _ hm)
    simp only [List.cons_append, prevOf, beq_iff_eq, hy, if_false]
    exact prevOf_mid i a l2 ha (y :: l1) hr

/-- an element of a duplicate-free list is its head, or stands right behind its predecessor -/
theorem prevOf_cases {l : List Nat} (hnd : l.Nodup) {i : Nat} (hi : i ∈ l) :
    (∃ l2, l = i :: l2 ∧ prevOf l i = none) ∨
    (∃ l1 pr l2, l = l1 ++ pr :: i :: l2 ∧ prevOf l i = some pr) := by
  obtain ⟨l1, l2, rfl⟩ := List.append_of_mem hi
  have h5 := List.nodup_append.1 hnd
  have hi1 : i ∉ l1 := fun hm => h5.2.2 i hm i (by simp) rfl
  have hi2 : i ∉ l2 := (List.nodup_cons.1 h5.2.1).1
  rcases List.eq_nil_or_concat l1 with rfl | ⟨l1', pr, rfl⟩
  · exact Or.inl ⟨l2, rfl, prevOf_none_of_not_mem_tail i (i :: l2) hi2⟩
  · refine Or.inr ⟨l1', pr, l2, by simp, ?_⟩
    have hpr : pr ≠ i := fun he => hi1 (by simp [he])
    have : i ∉ l1' := fun hm => hi1 (by simp [hm])
    have h := prevOf_mid i pr l2 hpr l1' this
    simpa using h

end Flurry.Shared

namespace Flurry.GhostView

/-- the completed calls on key `k`, oldest first (the history is kept newest first) -/
def callsOn {κ : Type} (hist : List (Nat × κ)) (k : Nat) : List κ := (hist.filter (·.1 == k)).reverse.map (·.2)

theorem mem_callsOn {κ : Type} {hist : List (Nat × κ)} {k : Nat} {c : κ} : c ∈ callsOn hist k ↔ (k, c) ∈ hist := by
  unfold callsOn
  simp only [List.mem_map, List.mem_reverse, List.mem_filter, beq_iff_eq]
  constructor
  · rintro ⟨⟨k', c'⟩, ⟨hm, hk⟩, hc⟩
    simp only at hk hc
    subst hk hc
    exact hm
  · intro h
    exact ⟨(k, c), ⟨h, rfl⟩, rfl⟩

end Flurry.GhostView
