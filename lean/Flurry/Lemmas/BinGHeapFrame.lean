import Flurry.Proto.BinG
import Flurry.Lemmas.BinKBasic
/-! # Heap-level facts behind the stores of `Proto/BinG` and `Proto/BinGN`

Facts about a heap, a start pointer `st` and a set `T` of tree nodes (as in `Lemmas/BinKBasic.lean`) that mention
no state; `Lemmas/BinGHeapPlan.lean`, `Lemmas/BinGHeapStore.lean`, `Lemmas/BinGNPInvBasic.lean` and `Lemmas/BinGNPStore.lean`
use them:

* the frame: `chainOf_frame` (a chain whose nodes keep their `next` is the same chain in the new heap), `cinv_frame`;
  `heapStep_walker` (what a walker on a chain sees of a `HeapStep` of that chain or of another one);
* `Store.nodeAt_modify_flip`, `Store.mem_erase_mid`: the nodes after a one-node store, the members of a list without one
  of them;
* `Store.cover_of_pointwise`: a copy of a list position by position is a copy as a set (distinct keys, every node has
  a source, every old node has a copy);
* `Store.owner_ge`, `Store.absL_congr`. -/
namespace Flurry.Proto.BinG
open Flurry.Lin
open Flurry.Proto.BinK (nodeAt NextOK chainOf CInv absL HeapStep getElem?_nodeAt nodeAt_of_some chainOf_eq
  chainOf_isChain nodeAt_modify nodeAt_append_left nodeAt_append_new nodeAt_ge)

/-- a chain whose nodes keep their `next` field is the same chain in the new heap -/
theorem chainOf_frame {heap heap' : List NodeS} {st : Option Nat} (hok : NextOK heap) (hok' : NextOK heap')
    (hst : ∀ h, st = some h → h < heap.length) (hlen : heap.length ≤ heap'.length)
    (hnext : ∀ j ∈ chainOf heap st, (nodeAt heap' j).next = (nodeAt heap j).next) :
    chainOf heap' st = chainOf heap st := by
  refine chainOf_eq hok' ((chainOf_isChain hok st hst).congr ?_)
  intro j hj n hn
  have hjl : j < heap.length := (List.getElem?_eq_some_iff.1 hn).1
  refine ⟨nodeAt heap' j, getElem?_nodeAt (Nat.lt_of_lt_of_le hjl hlen), ?_⟩
  rw [hnext j hj, nodeAt_of_some hn]

theorem cinv_frame {heap heap' : List NodeS} {st : Option Nat} {T T' : Nat → Prop} (C : CInv heap st T)
    (hok' : NextOK heap') (hlen : heap.length ≤ heap'.length)
    (hsame : ∀ j ∈ chainOf heap st, (nodeAt heap' j).next = (nodeAt heap j).next ∧ (nodeAt heap' j).key = (nodeAt heap j).key)
    (hT : ∀ j, T' j → T j ∧ (nodeAt heap' j).key = (nodeAt heap j).key) :
    CInv heap' st T' ∧ chainOf heap' st = chainOf heap st := by
  have hc := chainOf_frame C.nextOK hok' C.startOK hlen (fun j hj => (hsame j hj).1)
  refine ⟨⟨hok', fun h hh => Nat.lt_of_lt_of_le (C.startOK h hh) hlen, ?_⟩, hc⟩
  intro a b ha hb hab
  rw [hc] at ha hb
  have key : ∀ x, (x ∈ chainOf heap st ∨ T' x) →
      (x ∈ chainOf heap st ∨ T x) ∧ (nodeAt heap' x).key = (nodeAt heap x).key := by
    intro x hx
    rcases hx with hx | hx
    · exact ⟨Or.inl hx, (hsame x hx).2⟩
    · exact ⟨Or.inr (hT x hx).1, (hT x hx).2⟩
  rw [(key a ha).2, (key b hb).2] at hab
  exact C.keysDistinct a b (key a ha).1 (key b hb).1 hab

/-- what a list walker on the chain `K` sees of a `HeapStep` of the chain `L`, when `K` is `L` or is unchanged: a node
that leaves `K` leaves `L` and keeps value and `next`; a node in front of a node that stays is an old predecessor or
has a key that is not on the old chain -/
theorem heapStep_walker {heap heap' : List NodeS} {L L' K K' : List Nat} {P P' : Nat → Prop}
    (hs : HeapStep heap L P heap' L' P') (hK : ∀ i ∈ K, i < heap.length) (h : (K = L ∧ K' = L') ∨ K' = K) :
    (∀ c ∈ K, c ∉ K' → c ∈ L ∧ c ∉ L' ∧
      (nodeAt heap' c).val = (nodeAt heap c).val ∧ (nodeAt heap' c).next = (nodeAt heap c).next) ∧
    (∀ c ∈ K, c ∈ K' → ∀ i, List.Sublist [i, c] K' →
      (∃ i0, List.Sublist [i0, c] K ∧ (nodeAt heap i0).key = (nodeAt heap' i).key) ∨
      (∀ i0 ∈ K, (nodeAt heap i0).key ≠ (nodeAt heap' i).key)) := by
  rcases h with ⟨rfl, rfl⟩ | rfl
  · refine ⟨fun c hc hc' => ⟨hc, hc', hs.off c (hK c hc) (Or.inr hc')⟩, fun c hc hc' i hsub => ?_⟩
    by_cases hi : i ∈ K
    · exact Or.inl ⟨i, hs.order i c hi hc hsub, (hs.key i (hK i hi)).symm⟩
    · exact Or.inr (hs.fresh i (hsub.subset List.mem_cons_self) hi c hc hc')
  · refine ⟨fun c hc hc' => absurd hc hc', fun c hc _ i hsub => Or.inl ⟨i, hsub, ?_⟩⟩
    exact (hs.key i (hK i (hsub.subset List.mem_cons_self))).symm

namespace Store

theorem owner_ge {heap : List NodeS} {j : Nat} (hj : heap.length ≤ j) (b : Nat) : (nodeAt heap j).owner ≠ some b := by
  rw [nodeAt_ge hj]; intro h; cases h

theorem absL_congr {heap heap' : List NodeS} {L : List Nat}
    (h : ∀ j ∈ L, (nodeAt heap' j).key = (nodeAt heap j).key ∧ (nodeAt heap' j).val = (nodeAt heap j).val) (k : Nat) :
    absL heap' L k = absL heap L k := by
  refine Flurry.Proto.BinK.absL_pointwise rfl ?_ k
  intro j hj
  have : L.getD j 0 = L[j] := by simp [List.getD_eq_getElem?_getD, hj]
  rw [this]
  exact h _ (List.getElem_mem hj)

theorem nodeAt_modify_flip (heap : List NodeS) (i : Nat) (f : NodeS → NodeS) (j : Nat) :
    nodeAt (heap.modify i f) j = if j = i ∧ j < heap.length then f (nodeAt heap j) else nodeAt heap j := by
  rw [nodeAt_modify]
  by_cases hji : j = i ∧ j < heap.length
  · rw [if_pos hji, if_pos ⟨hji.1.symm, hji.2⟩]
  · rw [if_neg hji, if_neg (fun e => hji ⟨e.1.symm, e.2⟩)]

theorem mem_erase_mid {l1 l2 : List Nat} {i : Nat} (hnd : (l1 ++ i :: l2).Nodup) (j : Nat) :
    j ∈ l1 ++ l2 ↔ j ∈ l1 ++ i :: l2 ∧ j ≠ i := by
  have h := List.nodup_append.1 hnd
  have hi1 : i ∉ l1 := fun hi => h.2.2 i hi i List.mem_cons_self rfl
  have hi2 : i ∉ l2 := (List.nodup_cons.1 h.2.1).1
  rw [List.mem_append, List.mem_append, List.mem_cons]
  constructor
  · rintro (hj | hj)
    · exact ⟨Or.inl hj, fun e => hi1 (e ▸ hj)⟩
    · exact ⟨Or.inr (Or.inr hj), fun e => hi2 (e ▸ hj)⟩
  · rintro ⟨hj | hj | hj, hne⟩
    · exact Or.inl hj
    · exact absurd hj hne
    · exact Or.inr hj

theorem cover_of_pointwise {heap heap' : List NodeS} {L L' : List Nat} (hnd : L.Nodup)
    (hd : ∀ i j, i ∈ L → j ∈ L → (nodeAt heap i).key = (nodeAt heap j).key → i = j)
    (hLlen : L'.length = L.length)
    (hkv : ∀ j, j < L.length → (nodeAt heap' (L'.getD j 0)).key = (nodeAt heap (L.getD j 0)).key ∧
      (nodeAt heap' (L'.getD j 0)).val = (nodeAt heap (L.getD j 0)).val) :
    (∀ a b, a ∈ L' → b ∈ L' → (nodeAt heap' a).key = (nodeAt heap' b).key → a = b) ∧
    (∀ j ∈ L', ∃ i ∈ L, (nodeAt heap i).key = (nodeAt heap' j).key ∧ (nodeAt heap i).val = (nodeAt heap' j).val) ∧
    (∀ i ∈ L, ∃ j ∈ L', (nodeAt heap' j).key = (nodeAt heap i).key ∧ (nodeAt heap' j).val = (nodeAt heap i).val) := by
  have hget : ∀ p (hp : p < L'.length) (hp' : p < L.length),
      (nodeAt heap' L'[p]).key = (nodeAt heap L[p]).key ∧ (nodeAt heap' L'[p]).val = (nodeAt heap L[p]).val := by
    intro p hp hp'
    have e1 : L'.getD p 0 = L'[p] := by simp [List.getD_eq_getElem?_getD, hp]
    have e2 : L.getD p 0 = L[p] := by simp [List.getD_eq_getElem?_getD, hp']
    have := hkv p hp'
    rw [e1, e2] at this
    exact this
  refine ⟨?_, ?_, ?_⟩
  · intro a b ha hb hab
    obtain ⟨ia, hia, rfl⟩ := List.getElem_of_mem ha
    obtain ⟨ib, hib, rfl⟩ := List.getElem_of_mem hb
    have hia' : ia < L.length := hLlen ▸ hia
    have hib' : ib < L.length := hLlen ▸ hib
    rw [(hget ia hia hia').1, (hget ib hib hib').1] at hab
    have := hd _ _ (List.getElem_mem hia') (List.getElem_mem hib') hab
    have hidx : ia = ib := (List.getElem_inj hnd).1 this
    subst hidx; rfl
  · intro j hj
    obtain ⟨p, hp, rfl⟩ := List.getElem_of_mem hj
    have hp' : p < L.length := hLlen ▸ hp
    exact ⟨L[p], List.getElem_mem hp', (hget p hp hp').1.symm, (hget p hp hp').2.symm⟩
  · intro i hi
    obtain ⟨p, hp', rfl⟩ := List.getElem_of_mem hi
    have hp : p < L'.length := hLlen.symm ▸ hp'
    exact ⟨L'[p], List.getElem_mem hp, (hget p hp hp').1, (hget p hp hp').2⟩

end Store

end Flurry.Proto.BinG
