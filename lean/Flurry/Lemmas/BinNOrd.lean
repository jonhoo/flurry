import Flurry.Lemmas.BinXChain
/-! # Proto/BinN: the order of the nodes when copies of SEVERAL generations exist (definitions)

`Proto/BinX` orders the nodes by `ord cr`, `cr` the index range of the copies of its one transfer. Here
every generation makes copies, so `cr : Nat → Bool` is the (ghost) SET of all copies made so far: a copy
`i` gets the negative rank `-i-1`, every other node its index. Every chain is then
`[copies, by decreasing index] ++ [other nodes, by increasing index]` and `next` pointers go strictly
upwards in `ord`: a copy points to an older copy or to a re-used node (smaller index, hence larger rank),
an appended node has a larger index than everything.

`SideOK` / `Split`: what the split of the chain `O` guarantees about the two new lists, stated with the
chain order `ord cr` (in `Proto/BinX` the old chain contains no copies and is sorted by index; here it may
contain copies of earlier generations). `fr` = the index range of the FRESH copies of this split. -/
namespace Flurry.Proto.BinN
open Flurry.Lin
open Flurry.Proto.BinX (NodeS Cell Pending dflt chainFrom cellHead cellOfHead nodeAt IsSeg IsChain chainH absIn KeysDistinct)

/-- the set of all copies made by the transfers so far -/
abbrev CR := Nat → Bool

def isCopy (cr : CR) (i : Nat) : Prop := cr i = true

instance (cr : CR) (i : Nat) : Decidable (isCopy cr i) := by unfold isCopy; exact inferInstance

/-- the rank of a node: copies come first (the later the earlier), then the others by index -/
def ord (cr : CR) (i : Nat) : Int := if isCopy cr i then -(i : Int) - 1 else (i : Int)

/-- `next` pointers go strictly upwards in `ord` and stay inside the heap -/
def NextOK (cr : CR) (heap : List NodeS) : Prop :=
  ∀ i n j, heap[i]? = some n → n.next = some j → ord cr i < ord cr j ∧ j < heap.length

/-- the copy set extended by the index range `[a, b)` -/
def addRange (cr : CR) (a b : Nat) : CR := fun i => cr i || (decide (a ≤ i) && decide (i < b))

/-- a fresh copy of the transfer that is under way -/
def isFresh (fr : Nat × Nat) (i : Nat) : Prop := fr.1 ≤ i ∧ i < fr.2

/-- what the split guarantees about the new list `X` of side `b`, relative to the old chain `O` -/
structure SideOK (bit : Nat → Bool) (heap : List NodeS) (cr : CR) (fr : Nat × Nat) (O : List Nat) (b : Bool)
    (X : List Nat) : Prop where
  side : ∀ j ∈ X, bit (nodeAt heap j).key = b
  keys : KeysDistinct heap X
  mem : ∀ j ∈ X, j ∈ O ∨ isFresh fr j
  /-- a fresh copy has the key and value of an old node that lies before every re-used node of `X` -/
  src : ∀ j ∈ X, isFresh fr j → ∃ i ∈ O, (nodeAt heap i).key = (nodeAt heap j).key ∧
    (nodeAt heap i).val = (nodeAt heap j).val ∧ ∀ r ∈ O, r ∈ X → ord cr i < ord cr r
  /-- every old node of side `b` is re-used or has a fresh copy in `X` -/
  cover : ∀ i ∈ O, bit (nodeAt heap i).key = b → ∃ j ∈ X, (nodeAt heap j).key = (nodeAt heap i).key ∧
    (nodeAt heap j).val = (nodeAt heap i).val ∧ (j = i ∨ isFresh fr j)
  /-- the re-used nodes are a suffix of the old chain -/
  suffix : ∀ r ∈ O, r ∈ X → ∀ i ∈ O, ord cr r < ord cr i → i ∈ X

/-- the state of the split: `lo` / `hg` are the heads of well-formed new lists -/
def Split (bit : Nat → Bool) (heap : List NodeS) (cr : CR) (fr : Nat × Nat) (O : List Nat) (lo hg : Option Nat) : Prop :=
  (∀ i ∈ O, i < fr.1) ∧ ∃ L H, IsChain heap lo L ∧ IsChain heap hg H ∧
    SideOK bit heap cr fr O false L ∧ SideOK bit heap cr fr O true H

end Flurry.Proto.BinN
