import Flurry.Proto.Resize
import Flurry.Lemmas.ListSet
/-! # The invariant `Inv` of the resize protocol (`Proto/Resize`)

`Inv n0 nthreads stride s` is a conjunction of small facts. The bookkeeping is done with three
counters over `s.threads`:

* `P s` – participants (`= numParticipants s`),
* `F s` – finishers (`isFinisher`),
* `S s` – threads at `pubStoreCtl` (table already swapped, `size_ctl` not yet stored). -/
namespace Flurry.Proto.Resize

theorem countP_pos_of_getElem? {α} {p : α → Bool} {l : List α} {t : Nat} {a : α}
    (h : l[t]? = some a) (hp : p a = true) : 0 < l.countP p := by
  rw [List.countP_pos_iff]
  exact ⟨a, List.mem_of_getElem? h, hp⟩

theorem countP_le_one_unique {α} {p : α → Bool} {l : List α} (hc : l.countP p ≤ 1)
    {t u : Nat} {a b : α} (ha : l[t]? = some a) (hb : l[u]? = some b)
    (pa : p a = true) (pb : p b = true) : t = u := by
  induction l generalizing t u with
  | nil => simp at ha
  | cons y l ih =>
    cases t with
    | zero =>
      cases u with
      | zero => rfl
      | succ u =>
        simp at ha hb; subst ha
        have := countP_pos_of_getElem? hb pb
        rw [List.countP_cons_of_pos pa] at hc; omega
    | succ t =>
      cases u with
      | zero =>
        simp at ha hb; subst hb
        have := countP_pos_of_getElem? ha pa
        rw [List.countP_cons_of_pos pb] at hc; omega
      | succ u =>
        simp at ha hb
        have : l.countP p ≤ 1 := by
          simp [List.countP_cons] at hc; omega
        rw [ih this ha hb]

theorem getD_true_eq_false {m : List Bool} {idx : Nat} (h : idx < m.length) :
    m.getD idx true = m.getD idx false := by
  simp [List.getD, h]

theorem getD_set_true {m : List Bool} {i idx : Nat} (h : m.getD idx false = true) :
    (m.set i true).getD idx false = true := by
  rw [List.getD_eq_getElem?_getD, List.getElem?_set] at *
  split
  · split
    · rfl
    · rename_i h1 h2; subst h1; rw [List.getElem?_eq_none (by omega)] at h; cases h
  · exact h

/-- moving bin `i` keeps `migrations` the 0/1 image of `moved` -/
theorem migrations_set {m : List Bool} {i : Nat} (hi : i < m.length) (h : m.getD i false ≠ true) :
    (m.map fun b => if b then 1 else 0).set i ((m.map fun b => if b then 1 else 0).getD i 0 + 1) =
      (m.set i true).map fun b => if b then 1 else 0 := by
  have : m[i] = false := by simpa [List.getD, hi] using h
  simp [List.map_set, List.getD, hi, this]

theorem thread_of_step {s s' : State} {t c : Nat} (hs : step s t c = some s') :
    ∃ l, s.threads[t]? = some l := by
  cases hl : s.threads[t]? with
  | none => simp [step, hl] at hs
  | some l => exact ⟨l, rfl⟩

theorem helpRefuses_eq_false_iff {maxR g c held : Nat} :
    helpRefuses true maxR g c held = false ↔ g = held ∧ c ≠ maxR ∧ c ≠ 1 := by
  simp [helpRefuses]; omega

theorem acRefuses_eq_false_iff {maxR g c held : Nat} :
    acRefuses maxR g c held = false ↔ (g = held → c ≠ maxR ∧ c ≠ 1) := by
  simp [acRefuses]

theorem bumpPublished_replicate (g : Nat) :
    bumpPublished (List.replicate g 1) g = List.replicate (g + 1) 1 := by
  simp [bumpPublished, List.replicate_succ']

def atStore (l : Local) : Bool := match l.pc with | .pubStoreCtl => true | _ => false

/-- thread is outside the machinery, on one of the two join paths (`help_transfer` / `add_count`,
not admitted yet) or about to attempt an entry CAS -/
def quiet (l : Local) : Bool :=
  match l.pc with
  | .idle | .casInit _ | .casJoin _ | .helpCheckNext | .helpCheckTable | .helpLoadSc
  | .helpLoadIndex _ | .acLoadTable _ | .acLoadNext _ | .acLoadIndex _ => true
  | _ => false

/-- thread is on one of the two join paths, before its CAS -/
def joining (l : Local) : Bool :=
  match l.pc with
  | .helpCheckNext | .helpCheckTable | .helpLoadSc | .helpLoadIndex _ | .acLoadTable _
  | .acLoadNext _ | .acLoadIndex _ => true
  | _ => false

def P (s : State) : Nat := s.threads.countP participating
def F (s : State) : Nat := s.threads.countP isFinisher
def S (s : State) : Nat := s.threads.countP atStore

section
variable {s s' : State} {t : Nat} {l l' : Local}
  (hl : s.threads[t]? = some l) (hth : s'.threads = s.threads.set t l')
include hl hth

theorem P_set : P s' + (participating l).toNat = P s + (participating l').toNat := by
  unfold P; rw [hth]; exact countP_set_add hl

theorem F_set : F s' + (isFinisher l).toNat = F s + (isFinisher l').toNat := by
  unfold F; rw [hth]; exact countP_set_add hl

theorem S_set : S s' + (atStore l).toNat = S s + (atStore l').toNat := by
  unfold S; rw [hth]; exact countP_set_add hl

end

theorem numParticipants_eq (s : State) : numParticipants s = P s := by
  simp [numParticipants, P, List.countP_eq_length_filter]

/-- participant count encoded in the word (`1` for an idle word) -/
def cnt : SC → Nat
  | .idle _ => 1
  | .resizing _ c => c

/-- number of finishers the word announces -/
def finWord : SC → Nat
  | .resizing _ 1 => 1
  | _ => 0

theorem finWord_le (sc : SC) : finWord sc ≤ 1 := by
  unfold finWord; split <;> omega

theorem quiet_of_no_role (l : Local) (hp : participating l = false) (hf : isFinisher l = false) :
    quiet l = true := by
  unfold participating at hp; unfold isFinisher at hf; unfold quiet
  cases h : l.pc <;> simp_all

theorem atStore_isFinisher (l : Local) (h : atStore l = true) : isFinisher l = true := by
  unfold atStore at h; unfold isFinisher
  cases h' : l.pc <;> simp_all

theorem atStore_iff (l : Local) : atStore l = true ↔ l.pc = .pubStoreCtl := by
  unfold atStore
  cases h : l.pc <;> simp

theorem not_both (l : Local) (hp : participating l = true) : isFinisher l = false := by
  unfold participating at hp; unfold isFinisher
  cases h : l.pc <;> simp_all

def MovedFrom (s : State) (lo : Int) : Prop :=
  ∀ idx : Nat, lo ≤ (idx : Int) → idx < s.n → s.moved.getD idx false = true

/-- what a thread knows about the word `sc` it is going to CAS on (`casJoin sc`), once it has seen
a next table and loaded `transfer_index`: the word is not younger than the table the thread holds,
and if it is a "finishing" word (`cnt = 1`; only `add_count` can carry one this far, having loaded
the table of a *later* generation) it is not the current word any more – the CAS will fail -/
def JoinOk (s : State) (l : Local) (sc : SC) : Prop :=
  l.finishing = false ∧ ∃ g c, sc = .resizing g c ∧ g ≤ l.heldGen ∧
    (c = 1 → g < l.heldGen ∧ s.sizeCtl ≠ .resizing g 1)

/-- what `Inv` says of one thread, by pc: what the thread knows of the word it loaded (`JoinOk` on the join
paths), where its index stands, and which bins the finisher's sweep has seen moved (`MovedFrom`). Two
clauses are only carried by `Inv.step` and serve `Lemmas/ResizeProgress` alone: `l.i < l.bound ∧ 0 < ni`
at `claimCas` (a successful claim lowers `transfer_index`) and the range of `l.i` at `leaveLoad` /
`leaveCas` (a failed leave CAS goes back to a `dispatch` that leaves again). -/
def LocalOk (s : State) (l : Local) : Prop :=
  match l.pc with
  | .idle => l.finishing = false
  | .casInit sc => l.finishing = false ∧ ∃ thr, sc = .idle thr
  | .helpCheckNext => l.finishing = false
  | .helpCheckTable => l.finishing = false
  | .helpLoadSc => l.finishing = false
  | .helpLoadIndex sc => JoinOk s l sc
  | .acLoadTable sc => l.finishing = false ∧ ∃ g c, sc = .resizing g c ∧ g ≤ s.gen
  | .acLoadNext sc => l.finishing = false ∧ ∃ g c, sc = .resizing g c ∧ g ≤ l.heldGen ∧
      (c = 1 → g < l.heldGen)
  | .acLoadIndex sc => JoinOk s l sc
  | .casJoin sc => JoinOk s l sc
  | .swapNext => l.finishing = false
  | .storeIndex => l.finishing = false
  | .claimCas ni => l.finishing = false ∧ l.i < l.bound ∧ 0 < ni
  | .leaveLoad => l.finishing = false ∧ (l.i < 0 ∨ (s.n : Int) ≤ l.i)
  | .leaveCas _ => l.finishing = false ∧ (l.i < 0 ∨ (s.n : Int) ≤ l.i)
  | .claimLoad => l.finishing = true → l.advance = true ∧ l.i ≤ s.n ∧ MovedFrom s l.i
  | .dispatch => l.finishing = true → l.i < s.n ∧ MovedFrom s (l.i + 1)
  | .processBin => 0 ≤ l.i ∧ l.i < s.n ∧ (l.finishing = true → MovedFrom s (l.i + 1))
  | .pubClearNext => MovedFrom s 0
  | .pubSwapTable => MovedFrom s 0 ∧ s.nextTable = false
  | .pubStoreCtl => s.nextTable = false

structure Inv (n0 nthreads stride : Nat) (s : State) : Prop where
  stride_eq : s.stride = stride
  nthreads_eq : s.threads.length = nthreads
  n_eq : s.n = n0 * 2 ^ s.gen
  pub_eq : s.published = List.replicate s.gen 1
  moved_len : s.moved.length = s.n
  migr_eq : s.migrations = s.moved.map (fun b => if b then 1 else 0)
  cnt_eq : cnt s.sizeCtl = 1 + P s
  fin_eq : F s = finWord s.sizeCtl
  /-- the word carries the current stamp, except between `pubSwapTable` and `pubStoreCtl` (`S s = 1`),
  where it still carries the previous one: the stale-stamp window of `Lemmas/ResizeThms` -/
  gen_eq : ∀ g c, s.sizeCtl = .resizing g c → g + S s = s.gen
  idle_thr : ∀ thr, s.sizeCtl = .idle thr → thr = threshold s.n ∧ s.nextTable = false
  locals : ∀ (t : Nat) (l : Local), s.threads[t]? = some l → LocalOk s l
  /-- the generation comparison of `help_transfer` is in place -/
  check_eq : s.checkGen = true
  /-- nobody has been admitted to a resize while holding the tables of another generation -/
  stale_eq : s.staleJoins = 0
  held_le : ∀ (t : Nat) (l : Local), s.threads[t]? = some l → l.heldGen ≤ s.gen

end Flurry.Proto.Resize
