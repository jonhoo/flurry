import Flurry.Lemmas.BinXBridge
/-! # Proto/BinX: the memory effect of every transition (C01, C10)

`stepK_mem`: `stepK_inv` without the invariant after the transition. No file uses it: the facts proved by cases on
`MemStep` (`MemStep.dead`, `MemStep.newCells` of `Lemmas/BinXMemStep.lean`) have their users in `Proto/BinXC`, which takes
its `MemStep` from `BinXC.stepK_inv0`. -/
namespace Flurry.Proto.BinX

theorem stepK_mem {s s' : State} {g : Ghost} {t : Nat} {l : Local} (I : Inv s g)
    (hl : s.threads[t]? = some l) (hk : StepK s t l s') : ∃ g', MemStep s s' (vcell l) g g' :=
  let ⟨g', m, _⟩ := stepK_inv I hl hk
  ⟨g', m⟩

end Flurry.Proto.BinX
