import Flurry.Lemmas.BinGNQuiet
import Flurry.Lemmas.BinGNOwn
import Flurry.Lemmas.BinKBasic
/-! # Proto/BinGN: the structural invariant with cells spelt `(g, j)` — definitions, and their executable mirror's source

`Inv s` = the invariants stated in the model's own vocabulary (`GenInv`, `OwnInv`, `RwInv`, `TInv`, `NextEmpty`) ∧ the
clauses `HInv`, `PlanInv`, `BitsInv`, `DInv`, which restate `BinGNP.HInv`, `XInv.plan`, `LInv`'s clauses about the bits
and `DInv` (`Lemmas/BinGNPInv.lean`) without the abbreviation `Cid`. The invariant that is proved of every reachable
state is `BinGNP.Inv` (`Props/C01BinGNLin.lean`, `binGN_inv`); of `BinGN.Inv` the first five clauses are
(`reachable_inv_proved_part`), the other four are not derived from `BinGNP.Inv` here. They are what
`Lemmas/BinGNInvCheck.lean` mirrors as Boolean functions and evaluates after every step of 6 400 random schedules
(10^6 states, 2–4 threads, up to 3 resizes, sleepers stale by two / three generations) — no clause is ever violated
(with `stepNoCheck`: `side`, `refOK`, the plan clauses `src` / `cover` / `fresh` fail within 100 runs). -/
namespace Flurry.Proto.BinGN
open Flurry.Lin
open Flurry.Proto.BinK (nodeAt binAt NextOK chainOf CInv absL)

abbrev CellId := Nat × Nat

def cellI (s : State) (id : CellId) : Cell := cellAt s id.1 id.2

/-- the start of the list of a structure -/
def startOf (tbins : List TBin) : Cell → Option Nat
  | .list h => some h
  | .tree b => (binAt tbins b).first
  | _ => none

/-- the list of a structure -/
def chainC (s : State) (c : Cell) : List Nat := chainOf s.heap (startOf s.tbins c)

/-- the nodes in the tree of a structure -/
def treeOf (s : State) (c : Cell) (j : Nat) : Prop :=
  j < s.heap.length ∧ (nodeAt s.heap j).inTree = true ∧ ∃ b, c = .tree b ∧ (nodeAt s.heap j).owner = some b

def ownerOf : Cell → Option Nat
  | .tree b => some b
  | _ => none

/-- the cell a lookup of `k` ends in -/
def liveId (s : State) (k : Nat) : CellId :=
  if cellOf s s.cur k = .moved then (s.cur + 1, k % 2 ^ (s.cur + 1)) else (s.cur, k % 2 ^ s.cur)

/-- the structure `C` holds exactly the nodes of the list of `old` whose key satisfies
`sel`, as re-used nodes (a suffix, same order) or as copies (same key and value) in front of the re-used ones -/
structure CopyOK (s : State) (old : Cell) (sel : Nat → Bool) (C : Cell) : Prop where
  notMoved : C ≠ .moved
  cinv : CInv s.heap (startOf s.tbins C) (treeOf s C)
  cellOK : ∀ b, C = .tree b → b < s.tbins.length
  chainOwner : ∀ j ∈ chainC s C, (nodeAt s.heap j).owner = ownerOf C
  selOK : ∀ j, (j ∈ chainC s C ∨ treeOf s C j) → sel (nodeAt s.heap j).key = true
  src : ∀ j ∈ chainC s C, j ∉ chainC s old → ∃ i ∈ chainC s old, (nodeAt s.heap i).key = (nodeAt s.heap j).key ∧
    (nodeAt s.heap i).val = (nodeAt s.heap j).val ∧ ∀ r ∈ chainC s old, r ∈ chainC s C → List.Sublist [i, r] (chainC s old)
  cover : ∀ i ∈ chainC s old, sel (nodeAt s.heap i).key = true → ∃ j ∈ chainC s C,
    (nodeAt s.heap j).key = (nodeAt s.heap i).key ∧ (nodeAt s.heap j).val = (nodeAt s.heap i).val ∧
    (j = i ∨ j ∉ chainC s old)
  suffix : ∀ r ∈ chainC s old, r ∈ chainC s C → ∀ i ∈ chainC s old, List.Sublist [r, i] (chainC s old) → i ∈ chainC s C
  order : ∀ i c, i ∈ chainC s old → c ∈ chainC s old → List.Sublist [i, c] (chainC s C) → List.Sublist [i, c] (chainC s old)
  fresh : ∀ b, C = .tree b → old ≠ .tree b →
    binAt s.tbins b = { first := (binAt s.tbins b).first } ∧
    (∀ j, j < s.heap.length → ((nodeAt s.heap j).owner = some b ↔ j ∈ chainC s C)) ∧
    (∀ j ∈ chainC s C, (nodeAt s.heap j).inTree = true)

/-- the transfer that re-uses `TreeBin` `b` is past its first store: `b` is in cell `(cur, j0)` and in a child -/
def Reusing (s : State) (b j0 : Nat) : Prop :=
  ∃ (t : Nat) (l : Local), s.threads[t]? = some l ∧
    ((∃ hi, l.pc = .xStoreHigh j0 (.inr b) hi) ∨ l.pc = .xStoreMoved j0 (.inr b))

/-- the heap (`BinG.HInv`; `side` is `key % 2^g = j`; `curMoved` / `newNotMoved` are part of `GenInv`) -/
structure HInv (s : State) : Prop where
  cinv : ∀ id, CInv s.heap (startOf s.tbins (cellI s id)) (treeOf s (cellI s id))
  ownerOK : ∀ j b, (nodeAt s.heap j).owner = some b → b < s.tbins.length
  firstOK : ∀ b h, (binAt s.tbins b).first = some h → h < s.heap.length
  chainOwner : ∀ id, ∀ j ∈ chainC s (cellI s id), (nodeAt s.heap j).owner = ownerOf (cellI s id)
  /-- every key on the list / in the tree of cell `(g, j)` belongs to the cell -/
  side : ∀ id : CellId, ∀ j, (j ∈ chainC s (cellI s id) ∨ treeOf s (cellI s id) j) →
    (nodeAt s.heap j).key % 2 ^ id.1 = id.2
  /-- two cells hold the same `TreeBin` only while the transfer that re-uses it is past its first store -/
  binsDistinct : ∀ (id id' : CellId) b, cellI s id = .tree b → cellI s id' = .tree b → id = id' ∨
    ∃ j0, Reusing s b j0 ∧ ((id = (s.cur, j0) ∧ id'.1 = s.cur + 1 ∧ id'.2 % 2 ^ s.cur = j0) ∨
      (id' = (s.cur, j0) ∧ id.1 = s.cur + 1 ∧ id.2 % 2 ^ s.cur = j0))

def sideSel (g : Nat) (b : Bool) : Nat → Bool := fun k => bitAt g k == b

/-- the two new structures are the two sides of the chain of the old cell `(cur, j)` -/
structure Plan (s : State) (j : Nat) (lo hi : Cell) : Prop where
  low : CopyOK s (cellAt s s.cur j) (sideSel s.cur false) lo
  high : CopyOK s (cellAt s s.cur j) (sideSel s.cur true) hi
  distinct : ∀ b, lo = .tree b → hi ≠ .tree b

/-- what the program counter of the resizing thread says about the children of the cell under transfer -/
def XPc (s : State) : Pc → Prop
  | .xStoreLow j _ lo hi => Plan s j lo hi
  | .xStoreHigh j _ hi => Plan s j (cellAt s (s.cur + 1) j) hi
  | .xStoreMoved j _ => Plan s j (cellAt s (s.cur + 1) j) (cellAt s (s.cur + 1) (j + 2 ^ s.cur))
  | _ => True

def PlanInv (s : State) : Prop := ∀ (t : Nat) (l : Local), s.threads[t]? = some l → XPc s l.pc

/-- the structures a thread has built (or stored into a cell that is not yet live) but not yet published -/
def pend (s : State) : Pc → List Cell
  | .kStore _ _ _ b => [.tree b]
  | .xStoreLow _ _ lo hi => [lo, hi]
  | .xStoreHigh j _ hi => [cellAt s (s.cur + 1) j, hi]
  | .xStoreMoved j _ => [cellAt s (s.cur + 1) j, cellAt s (s.cur + 1) (j + 2 ^ s.cur)]
  | _ => []

def xferIdx : Pc → Option Nat
  | .xStoreLow j _ _ _ | .xStoreHigh j _ _ | .xStoreMoved j _ => some j
  | _ => none

/-- a `TreeBin` that is built but not yet published (the re-used bin of a transfer is in the old cell) -/
def PrivBin (s : State) (b : Nat) : Prop :=
  ∃ (t : Nat) (l : Local), s.threads[t]? = some l ∧ (.tree b : Cell) ∈ pend s l.pc ∧
    ∀ j, xferIdx l.pc = some j → cellAt s s.cur j ≠ .tree b

def binRef : Pc → Option Nat
  | .rFirst b | .rState b _ | .rLin b _ | .rCas b _ _ | .rTree b | .rRelease b _ | .lFirst b | .tMutex _ b
  | .tCheck _ b | .tFind _ b | .tVal _ b _ _ _ | .lrTry _ b _ _ | .lrLoop _ b _ _ | .tPrependLocked _ b
  | .tTreeLinkLocked _ b _ | .tUnlinkLocked _ b _ _ | .tRestructure _ b _ _ | .tUnlockRoot _ b _
  | .tUntreeify _ b _ | .tUnlockM _ b _ _ | .yMutex _ b | .yCheck _ b | .yBuild _ b => some b
  | .xStoreLow _ (.inr b) _ _ | .xStoreHigh _ (.inr b) _ | .xStoreMoved _ (.inr b) | .xUnlock (.inr b) => some b
  | _ => none

def isLoop : Pc → Bool
  | .lrLoop _ _ _ _ => true
  | _ => false

/-- the synchronisation words of the `TreeBin`s in cells; referenced `TreeBin`s are published
(`lk`, `mx`, `vL`, `vT`, `rd`, `wrd` of `BinG.LInv` are `GenInv`, `OwnInv`, `RwInv`) -/
structure BitsInv (s : State) : Prop where
  bitsNone : ∀ id b, cellI s id = .tree b → (binAt s.tbins b).mutex = none →
    (binAt s.tbins b).writer = false ∧ (binAt s.tbins b).waiter = false
  bitsSome : ∀ (id : CellId) (b t : Nat) (l : Local), cellI s id = .tree b → s.threads[t]? = some l →
    (binAt s.tbins b).mutex = some t →
    (binAt s.tbins b).writer = (wrSec l.pc).isSome ∧ ((binAt s.tbins b).waiter = true → isLoop l.pc = true)
  refOK : ∀ (t : Nat) (l : Local) (b : Nat), s.threads[t]? = some l → binRef l.pc = some b →
    b < s.tbins.length ∧ ¬ PrivBin s b

/-- the walk of a validated list-bin writer looking for `key` on the list from `h` -/
def Walk (s : State) (h key : Nat) (pred cur : Option Nat) : Prop :=
  ∃ l1 l2, chainOf s.heap (some h) = l1 ++ l2 ∧ cur = l2.head? ∧ pred = l1.getLast? ∧
    ∀ j ∈ l1, (nodeAt s.heap j).key ≠ key

def RemOK (s : State) (b : Nat) (p : Pending) (i : Nat) (res : KRes) : Prop :=
  i ∈ chainC s (.tree b) ∧ (nodeAt s.heap i).inTree = true ∧ (nodeAt s.heap i).key = p.key ∧
    specStep (some (nodeAt s.heap i).val) p.op = (none, res)

def FreshOK (s : State) (b : Nat) (p : Pending) : Prop :=
  ∀ j, j < s.heap.length → (nodeAt s.heap j).owner = some b → (nodeAt s.heap j).inTree = true →
    (nodeAt s.heap j).key ≠ p.key

def PcInv (s : State) (p : Pending) : Pc → Prop
  | .rNode (some c) => c < s.heap.length
  | .rState _ (some c) => c < s.heap.length
  | .rCas _ c _ => c < s.heap.length
  | .rLin _ c => c < s.heap.length
  | .lNode (some c) => c < s.heap.length
  | .rVal _ => p.op ≠ .has
  | .wFind _ h pred cur => Walk s h p.key pred cur
  | .wStore _ h pred hit hnext => Walk s h p.key pred hit ∧
      ∀ i, hit = some i → (nodeAt s.heap i).key = p.key ∧ hnext = (nodeAt s.heap i).next
  | .tVal _ b i v res => i ∈ chainC s (.tree b) ∧ (nodeAt s.heap i).key = p.key ∧
      specStep (some (nodeAt s.heap i).val) p.op = (some v, res)
  | .lrTry _ b .insert _ => FreshOK s b p
  | .lrLoop _ b .insert _ => FreshOK s b p
  | .tPrependLocked _ b => FreshOK s b p
  | .tTreeLinkLocked _ b x => x ∈ chainC s (.tree b) ∧ (nodeAt s.heap x).inTree = false ∧
      (nodeAt s.heap x).key = p.key ∧ FreshOK s b p
  | .lrTry _ b (.remove i) res => RemOK s b p i res
  | .lrLoop _ b (.remove i) res => RemOK s b p i res
  | .tUnlinkLocked _ b i res => RemOK s b p i res
  | .tRestructure _ b i _ => i ∉ chainC s (.tree b) ∧ (nodeAt s.heap i).inTree = true ∧ i < s.heap.length ∧
      (nodeAt s.heap i).owner = some b
  | _ => True

/-- the private `TreeBin` of a treeify is a copy of the list from `h` and is in no cell -/
def KInv (s : State) : Pc → Prop
  | .kStore _ _ h b => CopyOK s (.list h) (fun _ => true) (.tree b) ∧ ∀ id, cellI s id ≠ .tree b
  | _ => True

structure DInv (s : State) : Prop where
  pcInv : ∀ (t : Nat) (l : Local) (p : Pending), s.threads[t]? = some l → l.call = some p → PcInv s p l.pc
  kInv : ∀ (t : Nat) (l : Local), s.threads[t]? = some l → KInv s l.pc
  treeSub : ∀ id b, cellI s id = .tree b → ∀ j, j < s.heap.length → (nodeAt s.heap j).owner = some b →
    (nodeAt s.heap j).inTree = true → j ∉ chainC s (.tree b) →
    ∃ (t : Nat) (l : Local), s.threads[t]? = some l ∧
      ((∃ g res, l.pc = .tRestructure g b j res) ∨ (∃ g res, l.pc = .tUntreeify g b res))
  chainSub : ∀ id b, cellI s id = .tree b → ∀ j ∈ chainC s (.tree b), (nodeAt s.heap j).inTree = false →
    ∃ (t : Nat) (l : Local) (g : Nat), s.threads[t]? = some l ∧ l.pc = .tTreeLinkLocked g b j

/-- the clauses in the vocabulary of `desc`, and the restatement of `BinGNP.Inv` -/
structure Inv (s : State) : Prop where
  gen : GenInv s
  own : OwnInv s
  rw : RwInv s
  thr : TInv s
  next : NextEmpty s
  heap : HInv s
  plan : PlanInv s
  bits : BitsInv s
  data : DInv s

theorem reachable_inv_proved_part {n : Nat} {s : State} (hr : Reachable n s) :
    GenInv s ∧ OwnInv s ∧ RwInv s ∧ TInv s ∧ NextEmpty s :=
  ⟨reachable_geninv hr, reachable_owninv hr, reachable_rwinv hr, reachable_tinv hr, reachable_nextEmpty hr⟩

end Flurry.Proto.BinGN
