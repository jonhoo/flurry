import Flurry.Lemmas.BinXDefs
import Flurry.Lemmas.BinNSplit
/-! # Proto/BinX: the split of the old list (`splitBin`) establishes `Split` (C01, C10)

`splitBin` is `BinN.splitBinB hiBit` (`BinN.splitBinB_hiBit`), and `splitBin_spec` is `BinN.splitBinB_spec` read with
the copy set as the index range of the fresh copies: the old chain lies below that range, so `ord` on it is the index.
`splitStep`, `runBitOf`, `splitBin_eq` give the split as a fold; `Lemmas/BinXCProj.lean` compares it with the split of
`Proto/BinXC` step by step.

`bitOf`, `CopiesOK`, `HeapOK`, `SplitInv` state the invariant of the copy loop as `Lemmas/BinNSplit.lean` does, at the split
bit `hiBit` and with the copy set an index range. No proof goes through them (`lastRunStart_le_of_suffix` of
`Lemmas/BinXRetire.lean` is stated with `bitOf`). -/
namespace Flurry.Proto.BinX

/-- the split bit of the node `i` of `heap` -/
def bitOf (heap : List NodeS) (i : Nat) : Bool := hiBit (nodeAt heap i).key

theorem lastRunStart_le (heap : List NodeS) (c : List Nat) : lastRunStart heap c ≤ c.length :=
  BinN.lastRunStartB_le hiBit heap c

theorem lastRunStart_of_last {heap : List NodeS} {c : List Nat} {x : Nat} (hx : c.getLast? = some x) :
    lastRunStart heap c = c.length - (c.reverse.takeWhile (fun i => bitOf heap i == bitOf heap x)).length := by
  unfold lastRunStart
  dsimp only
  rw [List.getLast?_map, hx]
  dsimp only [Option.map_some]
  rw [← List.map_reverse, List.takeWhile_map, List.length_map]
  rfl

/-- one iteration of the copy loop of `splitBin` -/
def splitStep (acc : List NodeS × Option Nat × Option Nat) (i : Nat) : List NodeS × Option Nat × Option Nat :=
  if hiBit (acc.1.getD i dflt).key then
    (acc.1 ++ [⟨(acc.1.getD i dflt).key, (acc.1.getD i dflt).val, acc.2.2, none⟩], acc.2.1, some acc.1.length)
  else
    (acc.1 ++ [⟨(acc.1.getD i dflt).key, (acc.1.getD i dflt).val, acc.2.1, none⟩], some acc.1.length, acc.2.2)

/-- the split bit of a run (of its head) -/
def runBitOf (heap : List NodeS) (run : List Nat) : Bool :=
  match run.head? with
  | some i => hiBit (heap.getD i dflt).key
  | none => false

theorem splitBin_eq (heap : List NodeS) (c : List Nat) :
    splitBin heap c = (c.take (lastRunStart heap c)).foldl splitStep
      (heap,
       (if runBitOf heap (c.drop (lastRunStart heap c)) then none else (c.drop (lastRunStart heap c)).head?),
       (if runBitOf heap (c.drop (lastRunStart heap c)) then (c.drop (lastRunStart heap c)).head? else none)) := rfl

/-- the copies on the new list of side `b`, after the nodes `P` have been processed -/
structure CopiesOK (heap hp : List NodeS) (P : List Nat) (b : Bool) (C : List Nat) : Prop where
  copy : ∀ x ∈ C, heap.length ≤ x ∧ x < hp.length
  side : ∀ x ∈ C, bitOf hp x = b
  cover : ∀ i ∈ P, bitOf heap i = b → ∃ x ∈ C, (nodeAt hp x).key = (nodeAt heap i).key ∧
    (nodeAt hp x).val = (nodeAt heap i).val

/-- the grown heap after the nodes `P` have been copied -/
structure HeapOK (heap : List NodeS) (P : List Nat) (hp : List NodeS) : Prop where
  ext : ∃ cs, hp = heap ++ cs
  src : ∀ x, heap.length ≤ x → x < hp.length → ∃ i ∈ P, (nodeAt hp x).key = (nodeAt heap i).key ∧
    (nodeAt hp x).val = (nodeAt heap i).val
  inj : ∀ x y, heap.length ≤ x → x < hp.length → heap.length ≤ y → y < hp.length →
    (nodeAt hp x).key = (nodeAt hp y).key → x = y
  nextOK : NextOK (heap.length, hp.length) hp

/-- the invariant of the copy loop: `P` are the nodes processed so far, `lr` / `hr` the re-used parts -/
structure SplitInv (heap : List NodeS) (lr hr : List Nat) (P : List Nat)
    (acc : List NodeS × Option Nat × Option Nat) : Prop where
  heapOK : HeapOK heap P acc.1
  chains : ∃ LC HC, IsChain acc.1 acc.2.1 (LC ++ lr) ∧ IsChain acc.1 acc.2.2 (HC ++ hr) ∧
    CopiesOK heap acc.1 P false LC ∧ CopiesOK heap acc.1 P true HC

/-- the copy set of `Proto/BinN` that is the index range `[a, b)` -/
theorem isCopy_addRange (a b i : Nat) : BinN.isCopy (BinN.addRange (fun _ => false) a b) i ↔ isCopy (a, b) i := by
  unfold BinN.isCopy BinN.addRange isCopy
  simp only [Bool.false_or, Bool.and_eq_true, decide_eq_true_eq]

theorem ord_addRange (a b i : Nat) : BinN.ord (BinN.addRange (fun _ => false) a b) i = ord (a, b) i := by
  unfold BinN.ord ord
  by_cases h : isCopy (a, b) i
  · rw [if_pos h, if_pos ((isCopy_addRange a b i).2 h)]
  · rw [if_neg h, if_neg (fun h' => h ((isCopy_addRange a b i).1 h'))]

theorem nextOK_addRange {a b : Nat} {heap : List NodeS}
    (h : BinN.NextOK (BinN.addRange (fun _ => false) a b) heap) : NextOK (a, b) heap := by
  intro i n j hi hj
  have := h i n j hi hj
  rwa [ord_addRange, ord_addRange] at this

theorem sideOK_of_B {a b : Nat} {heap : List NodeS} {O X : List Nat} {s : Bool} (hO : ∀ i ∈ O, i < a)
    (h : BinN.SideOK hiBit heap (BinN.addRange (fun _ => false) a b) (a, b) O s X) : SideOK heap (a, b) O s X := by
  have hord : ∀ i ∈ O, BinN.ord (BinN.addRange (fun _ => false) a b) i = (i : Int) := fun i hi => by
    rw [ord_addRange, ord_not_copy fun hc => absurd (hO i hi) (Nat.not_lt.2 hc.1)]
  refine ⟨h.side, h.keys, h.mem, ?_, h.cover, ?_⟩
  · intro j hj hc
    obtain ⟨i, hi, hk, hv, hlt⟩ := h.src j hj hc
    refine ⟨i, hi, hk, hv, fun r hr hrX => ?_⟩
    have := hlt r hr hrX
    rw [hord i hi, hord r hr] at this
    exact Int.ofNat_lt.1 this
  · intro r hr hrX i hi hlt
    exact h.suffix r hr hrX i hi (by rw [hord r hr, hord i hi]; exact Int.ofNat_lt.2 hlt)

theorem split_of_B {a b : Nat} {heap : List NodeS} {O : List Nat} {lo hg : Option Nat}
    (h : BinN.Split hiBit heap (BinN.addRange (fun _ => false) a b) (a, b) O lo hg) : Split heap (a, b) O lo hg := by
  obtain ⟨hO, L, H, hL, hH, sL, sH⟩ := h
  exact ⟨hO, L, H, hL, hH, sideOK_of_B hO sL, sideOK_of_B hO sH⟩

/-- **the split**: the new heap extends the old one, its `next` pointers go upwards for the new copy
range, and the two heads are the heads of well-formed lists of their sides -/
theorem splitBin_spec {cr0 : CR} {heap : List NodeS} {h : Nat} {O : List Nat}
    (hok : NextOK cr0 heap) (hcr : cr0.1 = cr0.2)
    (hO : IsChain heap (some h) O) (hkeys : KeysDistinct heap O) :
    ∃ ext, (splitBin heap O).1 = heap ++ ext ∧
      NextOK (heap.length, (splitBin heap O).1.length) (splitBin heap O).1 ∧
      Split (splitBin heap O).1 (heap.length, (splitBin heap O).1.length) O
        (splitBin heap O).2.1 (splitBin heap O).2.2 := by
  have hok0 : BinN.NextOK (fun _ => false) heap := by
    intro i n j hi hj
    have := hok i n j hi hj
    have e : ∀ x, ord cr0 x = (x : Int) := fun x => ord_not_copy fun hc => by
      have := hc.1; have := hc.2; omega
    rw [e, e] at this
    exact this
  obtain ⟨ext, h1, h2, h3⟩ := BinN.splitBinB_spec (bit := hiBit) hok0 hO hkeys
  exact ⟨ext, h1, nextOK_addRange h2, split_of_B h3⟩

end Flurry.Proto.BinX
