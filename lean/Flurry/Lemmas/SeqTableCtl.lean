import Flurry.Lemmas.SeqTableTransfer
import Flurry.Props.C14Arith
/-! # `WF` with and without its clauses on the count (`PreWF`), the threshold `loadFactor`, and the
routines that allocate or replace the whole table: `transfer`, `initTable`, `withCapacity`

`initTable` needs more than `WF` of a state without table: `InitOk` (`initTable_wf_counterexample`).
The import of `Props/C14Arith` brings the facts about the generated rounding and threshold arithmetic
(`C14.table_size_le_max` here, `C14.add_count_stored`, `C14.reserve_done_iff`, `C14.reserve_room` in the
files that import this one); that file imports nothing of the sequential model. -/
namespace Flurry.Seq
open Flurry Flurry.Gen

theorem wf_none_iff {m : Map} (ht : m.table = none) : WF m ↔ m.count = 0 ∧ 0 ≤ m.sizeCtl := by
  simp only [WF, ht]

theorem wf_some_iff {m : Map} {t : Table} (ht : m.table = some t) :
    WF m ↔ TableWF m.hash t ∧ m.count = Int.ofNat (entries m).length ∧
      m.sizeCtl = loadFactor (Int.ofNat t.length) ∧
      (m.count < m.sizeCtl ∨ t.length = MAXIMUM_CAPACITY) := by
  simp only [WF, ht]

/-- everything `WF` says about a state with table `t`, except the two clauses on the count -/
structure PreWF (m : Map) (t : Table) : Prop where
  table : m.table = some t
  twf : TableWF m.hash t
  sc : m.sizeCtl = loadFactor (Int.ofNat t.length)

theorem WF.preWF {m : Map} {t : Table} (h : WF m) (ht : m.table = some t) : PreWF m t :=
  ⟨ht, ((wf_some_iff ht).1 h).1, ((wf_some_iff ht).1 h).2.2.1⟩

theorem PreWF.wf {m : Map} {t : Table} (h : PreWF m t) (hc : m.count = Int.ofNat (entries m).length)
    (hb : m.count < m.sizeCtl ∨ t.length = MAXIMUM_CAPACITY) : WF m :=
  (wf_some_iff h.table).2 ⟨h.twf, hc, h.sc, hb⟩

theorem WF.count_eq {m : Map} (hw : WF m) : m.count = Int.ofNat (entries m).length := by
  cases ht : m.table with
  | none => rw [entries_of_table_none ht, ((wf_none_iff ht).1 hw).1]; rfl
  | some t => exact ((wf_some_iff ht).1 hw).2.1

theorem WF.len_eq {m : Map} (hw : WF m) : len m = (entries m).length := by
  rw [len, hw.count_eq]
  exact if_neg (Int.not_lt.2 (Int.natCast_nonneg _))

theorem WF.count_nonneg {m : Map} (hw : WF m) : 0 ≤ m.count :=
  hw.count_eq ▸ Int.natCast_nonneg _

theorem PreWF.of_eq {m m' : Map} {t : Table} (h : PreWF m t) (ht : m'.table = m.table)
    (hh : m'.hash = m.hash) (hs : m'.sizeCtl = m.sizeCtl) : PreWF m' t :=
  ⟨ht.trans h.table, hh ▸ h.twf, hs.trans h.sc⟩

theorem loadFactor_nonneg (n : Nat) : 0 ≤ loadFactor (Int.ofNat n) :=
  Int.sub_nonneg_of_le (Int.ediv_le_self _ (Int.natCast_nonneg n))

theorem loadFactor_pos {n : Nat} (h : 0 < n) : 0 < loadFactor (Int.ofNat n) := by
  have := Int.mul_lt_mul_of_pos_left (by decide : (1 : Int) < 4) (Int.natCast_pos.2 h)
  rw [Int.mul_one] at this
  exact Int.sub_pos_of_lt (Int.ediv_lt_of_lt_mul (by decide) this)

theorem loadFactor_le_self {a : Int} (h : 0 ≤ a) : loadFactor a ≤ a :=
  Int.sub_le_self a (Int.ediv_nonneg h (by decide))

theorem le_loadFactor_double {a : Int} (h : 0 ≤ a) : a ≤ loadFactor (2 * a) :=
  have h2 : 2 * a / 4 ≤ a := Int.ediv_le_of_le_mul (by decide)
    (Int.mul_comm a 4 ▸ Int.mul_le_mul_of_nonneg_right (by decide) h)
  Int.le_sub_right_of_add_le (le_of_le_of_eq (Int.add_le_add_left h2 a) (Int.two_mul a).symm)

theorem loadFactor_le_double (n : Nat) :
    loadFactor (Int.ofNat n) ≤ loadFactor (Int.ofNat (2 * n)) := by
  have h := Int.natCast_nonneg n
  rw [Int.ofNat_eq_natCast, Int.ofNat_eq_natCast, Int.natCast_mul]
  exact Int.le_trans (loadFactor_le_self h) (le_loadFactor_double h)

theorem PreWF.sizeCtl_pos {m : Map} {t : Table} (h : PreWF m t) : 0 < m.sizeCtl := by
  rw [h.sc]; exact loadFactor_pos h.twf.length_pos

theorem transfer_preWF {m : Map} {t : Table} (h : PreWF m t) (hlt : t.length < MAXIMUM_CAPACITY) :
    PreWF (transfer m) (transferTable t) :=
  ⟨transfer_table h.table, transfer_hash m ▸ transferTable_wf h.twf hlt, by
    rw [transfer_sizeCtl h.table, transferTable_length]⟩

/-- the threshold only grows, so a count below it stays below -/
theorem transfer_below {m : Map} {t : Table} (hp : PreWF m t) (h : m.count < m.sizeCtl) :
    (transfer m).count < (transfer m).sizeCtl := by
  rw [transfer_count, transfer_sizeCtl hp.table]
  exact Int.lt_of_lt_of_le (hp.sc ▸ h) (loadFactor_le_double t.length)

theorem transfer_wf {m : Map} {t : Table} (hw : WF m) (ht : m.table = some t)
    (hlt : t.length < MAXIMUM_CAPACITY) : WF (transfer m) := by
  obtain ⟨_, hc, _, hb⟩ := (wf_some_iff ht).1 hw
  exact (transfer_preWF (hw.preWF ht) hlt).wf
    (by rw [transfer_count, (transfer_entries_perm m).length_eq, hc])
    (Or.inl (transfer_below (hw.preWF ht) (hb.resolve_right (Nat.ne_of_lt hlt))))

theorem get_emptyTable {m : Map} {n : Nat} (ht : m.table = some (emptyTable n)) (k : Nat) :
    get k m = none := by
  simp only [get, ht, tableBin_emptyTable, Bin.find]
  split <;> rfl

theorem entries_emptyTable {m : Map} {n : Nat} (ht : m.table = some (emptyTable n)) :
    entries m = [] := by
  rw [entries_eq ht, flatMap_nodes_emptyTable]

/-- a state without bins and a state with a fresh table answer alike -/
theorem same_emptyTable {m m' : Map} {n : Nat} (h0 : tableLen m = 0)
    (ht : m'.table = some (emptyTable n)) (hh : m'.hash = m.hash) : Same m m' :=
  ⟨hh, fun k => by rw [(no_bins h0).1, get_emptyTable ht],
    by rw [(no_bins h0).2, entries_emptyTable ht]⟩

theorem wf_emptyTable {m : Map} {n : Nat} (ht : m.table = some (emptyTable n)) (hp : IsPow2 n)
    (hm : n ≤ MAXIMUM_CAPACITY) (hs : m.sizeCtl = loadFactor (Int.ofNat n)) (hc : m.count = 0) :
    WF m :=
  (wf_some_iff ht).2 ⟨tableWF_emptyTable _ hp hm, by rw [entries_emptyTable ht]; exact hc,
    (emptyTable_length n).symm ▸ hs, Or.inl (hc ▸ hs ▸ loadFactor_pos (isPow2_pos hp))⟩

/-- the value of `size_ctl` before the table exists: `0`, or a requested power-of-two capacity.
`WF` only says `0 ≤ size_ctl` there, which is too weak for `initTable`/`tryPresize`
(see `initTable_wf_counterexample`). -/
def SizeCtlInit (sc : Int) : Prop := sc = 0 ∨ (IsPow2 sc.toNat ∧ sc.toNat ≤ MAXIMUM_CAPACITY)

def InitOk (m : Map) : Prop := m.table = none → SizeCtlInit m.sizeCtl

theorem InitOk.of_some {m : Map} {t : Table} (ht : m.table = some t) : InitOk m := by
  intro h; rw [ht] at h; cases h

theorem initTable_eq (m : Map) :
    initTable m = if tableLen m = 0 then
        { m with table := some (emptyTable (initCapacity m.sizeCtl)),
                 sizeCtl := initThreshold (initCapacity m.sizeCtl) }
      else m := by
  unfold initTable tableLen
  cases m.table with
  | none => rfl
  | some t => cases t <;> rfl

theorem initTable_of_wf_some {m : Map} {t : Table} (hw : WF m) (ht : m.table = some t) :
    initTable m = m := by
  rw [initTable_eq, tableLen_of_some ht, if_neg (Nat.ne_of_gt ((wf_some_iff ht).1 hw).1.length_pos)]

theorem initTable_hash (m : Map) : (initTable m).hash = m.hash := by
  rw [initTable_eq]; split <;> rfl

theorem initTable_count (m : Map) : (initTable m).count = m.count := by
  rw [initTable_eq]; split <;> rfl

theorem initTable_resizes (m : Map) : (initTable m).resizes = m.resizes := by
  rw [initTable_eq]; split <;> rfl

theorem initTable_table_isSome (m : Map) : (initTable m).table.isSome = true := by
  rw [initTable_eq]; split
  · rfl
  next h => cases ht : m.table with
    | none => exact absurd (tableLen_of_none ht) h
    | some t => rfl

theorem initTable_tableLen_le (m : Map) : tableLen m ≤ tableLen (initTable m) := by
  rw [initTable_eq]; split
  next h => exact h ▸ Nat.zero_le _
  next => exact Nat.le_refl _

theorem initTable_same (m : Map) : Same m (initTable m) := by
  rw [initTable_eq]; split
  next h => exact same_emptyTable h rfl rfl
  next => exact Same.refl m

theorem initTable_wf {m : Map} (hw : WF m) (hi : InitOk m) : WF (initTable m) := by
  cases ht : m.table with
  | some t => rw [initTable_of_wf_some hw ht]; exact hw
  | none =>
    have hcap : IsPow2 (initCapacity m.sizeCtl) ∧ initCapacity m.sizeCtl ≤ MAXIMUM_CAPACITY := by
      rcases hi ht with h | ⟨hp, hm⟩
      · rw [h]; exact ⟨⟨4, by decide⟩, by decide⟩
      · have hpos : m.sizeCtl > 0 := Int.lt_of_toNat_lt (isPow2_pos hp)
        rw [initCapacity, if_pos (decide_eq_true hpos)]
        exact ⟨hp, hm⟩
    obtain ⟨hp, hm⟩ := hcap
    rw [initTable_eq, if_pos (tableLen_of_none ht)]
    exact wf_emptyTable rfl hp hm rfl ((wf_none_iff ht).1 hw).1

/-- `WF` alone does not make `initTable` well formed: `size_ctl = 5` before the table exists. -/
theorem initTable_wf_counterexample :
    let m : Map := { hash := id, sizeCtl := 5 }
    WF m ∧ ¬ WF (initTable m) :=
  ⟨⟨rfl, by decide⟩, fun h => (IsPow2.one_or_even (n := 5) h.1.1).elim (by decide) (by decide)⟩

theorem withCapacity_wf (hash : Nat → Nat) (c : Nat) : WF (withCapacity hash c) := by
  unfold withCapacity
  split
  · simp [WF]
  · obtain ⟨k, hk, -⟩ := presizeCap_pow2 c
    exact wf_emptyTable rfl ⟨k, hk⟩ (C14.table_size_le_max c) rfl rfl

theorem withCapacity_initOk (hash : Nat → Nat) (c : Nat) : InitOk (withCapacity hash c) := by
  unfold withCapacity
  split
  · intro _; exact Or.inl rfl
  · exact InitOk.of_some rfl

theorem withCapacity_entries (hash : Nat → Nat) (c : Nat) : entries (withCapacity hash c) = [] := by
  unfold withCapacity
  split
  · rfl
  · exact entries_emptyTable rfl

theorem withCapacity_get (hash : Nat → Nat) (c k : Nat) : get k (withCapacity hash c) = none := by
  unfold withCapacity
  split
  · rfl
  · exact get_emptyTable rfl k

theorem withCapacity_hash (hash : Nat → Nat) (c : Nat) : (withCapacity hash c).hash = hash := by
  unfold withCapacity; split <;> rfl

theorem withCapacity_count (hash : Nat → Nat) (c : Nat) : (withCapacity hash c).count = 0 := by
  unfold withCapacity; split <;> rfl

theorem withCapacity_tableLen (hash : Nat → Nat) (c : Nat) :
    tableLen (withCapacity hash c) = if c = 0 then 0 else presizeCap c := by
  unfold withCapacity
  by_cases h : c = 0
  · simp [h, tableLen]
  · simp [h, tableLen, emptyTable_length]

/-- the fresh map (`HashMap::new`) satisfies both halves of `Good` (`SeqOpsCore`) -/
theorem new_wf_initOk (hash : Nat → Nat) : WF { hash := hash } ∧ InitOk { hash := hash } :=
  ⟨by simp [WF], fun _ => Or.inl rfl⟩

end Flurry.Seq
