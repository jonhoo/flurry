import Flurry.Lemmas.BinKStep
import Flurry.Lemmas.GhostView
/-! # Proto/BinK: the structural invariant (C01, a bin that changes its kind)

* `HInv`: the chain invariant `CInv` of the **live** structure (`liveStart`, `liveTree`), owners and
  `first` fields are valid, the nodes of the live chain belong to the live structure.
* `TInv`: program counters fit the pending operation; times and uniqueness of invocation times.
* `LInv`: the lock word of a node says who is between `wCheck`/`kCheck` and `wUnlock`/`kUnlock` of it; a
  thread past a successful re-check (`validL`, `validT`) sees its structure in the cell (**validated
  holders are unique**); the mutex of a `TreeBin`; for the live `TreeBin` the lock bits of `Proto/BinU`;
  `readers` counts the threads inside the tree; a `TreeBin` that is neither in the cell nor private
  (dead) keeps `writer = true`; nobody refers to a private `TreeBin`.
* `DInv`: what the program counters know (`PcInv`, `KInv`), and for the live `TreeBin` the relation of
  list and tree (`treeSub`, `chainSub`).

Beside the definitions: what `liveStart`, `liveTree`, `liveChain`, `cnt`, `init` are on the inputs that matter; implications
between the classifications of program counters; `LInv.valid_unique`; and `Quiet s s'` (a change of lock words and
synchronisation words only) with what survives it (`NextOK.congr`, `chainOf_congr`, `Quiet.*`, `BuiltOK.quiet`), which
`Lemmas/BinKEmbedInv.lean` uses for the clauses of `Inv` that the image of a state does not show.

`Inv` of a reachable state is read off the invariant of `Proto/BinGN` on the image of the state (`Lemmas/BinKEmbedInv.lean`,
`Lemmas/BinKLin.lean`); no step of BinK is shown to preserve it from the lemmas here. -/
namespace Flurry.Proto.BinK
open Flurry.Lin

/-- the start of the list of the structure the cell holds -/
def liveStart (s : State) : Option Nat :=
  match s.cell with
  | .empty => none
  | .list h => some h
  | .tree b => (binAt s.tbins b).first

theorem liveChain_eq (s : State) : liveChain s = chainOf s.heap (liveStart s) := by
  unfold liveChain liveStart chainOf chainOfBin binAt
  cases s.cell with
  | empty => simp only; rw [chainFrom_none]
  | list h => rfl
  | tree b => rfl

theorem chainOfBin_eq (s : State) (b : Nat) : chainOfBin s b = chainOf s.heap (binAt s.tbins b).first := rfl

/-- the nodes in the tree of the live `TreeBin` -/
def liveTree (s : State) (j : Nat) : Prop :=
  j < s.heap.length ∧ (nodeAt s.heap j).inTree = true ∧ ∃ b, s.cell = .tree b ∧ (nodeAt s.heap j).owner = some b

/-- the owner of the nodes of the live chain -/
def liveOwner (s : State) : Option Nat :=
  match s.cell with
  | .tree b => some b
  | _ => none

/-- private nodes: allocated by a treeify that has not yet stored its `TreeBin` into the cell -/
def Priv (s : State) (j : Nat) : Prop :=
  ∃ (t : Nat) (l : Local) (h b : Nat), s.threads[t]? = some l ∧ l.pc = .kStore h b ∧ (nodeAt s.heap j).owner = some b

structure HInv (s : State) : Prop where
  cinv : CInv s.heap (liveStart s) (liveTree s)
  ownerOK : ∀ j b, (nodeAt s.heap j).owner = some b → b < s.tbins.length
  firstOK : ∀ b h, (binAt s.tbins b).first = some h → h < s.heap.length
  cellOK : ∀ b, s.cell = .tree b → b < s.tbins.length
  chainOwner : ∀ j ∈ liveChain s, (nodeAt s.heap j).owner = liveOwner s

theorem HInv.chain_lt {s : State} (H : HInv s) {i : Nat} (hi : i ∈ liveChain s) : i < s.heap.length := by
  rw [liveChain_eq] at hi; exact H.cinv.chain_lt hi

theorem liveStart_tree {s : State} {b : Nat} (hc : s.cell = .tree b) : liveStart s = (binAt s.tbins b).first := by
  unfold liveStart; rw [hc]

theorem liveOwner_tree {s : State} {b : Nat} (hc : s.cell = .tree b) : liveOwner s = some b := by
  unfold liveOwner; rw [hc]

theorem liveTree_iff_tree {s : State} {b : Nat} (hc : s.cell = .tree b) (j : Nat) :
    liveTree s j ↔ j < s.heap.length ∧ (nodeAt s.heap j).inTree = true ∧ (nodeAt s.heap j).owner = some b := by
  unfold liveTree
  constructor
  · rintro ⟨h1, h2, b', h3, h4⟩
    rw [hc] at h3; cases h3
    exact ⟨h1, h2, h4⟩
  · rintro ⟨h1, h2, h3⟩
    exact ⟨h1, h2, b, hc, h3⟩

theorem liveTree_not_tree {s : State} (hc : ∀ b, s.cell ≠ .tree b) (j : Nat) : ¬ liveTree s j := by
  rintro ⟨_, _, b, h3, _⟩
  exact hc b h3

theorem liveChain_tree {s : State} {b : Nat} (hc : s.cell = .tree b) : liveChain s = chainOfBin s b := by
  unfold liveChain; rw [hc]

theorem liveChain_list {s : State} {h : Nat} (hc : s.cell = .list h) :
    liveChain s = chainFrom s.heap s.heap.length (some h) := by
  unfold liveChain; rw [hc]

theorem init_threads {n t : Nat} {l : Local} (h : (init n).threads[t]? = some l) : l = {} := by
  simp only [init, List.getElem?_replicate] at h
  split at h
  · cases h; rfl
  · cases h

theorem HInv.distinct {s : State} (H : HInv s) :
    ∀ i j, i ∈ liveChain s → j ∈ liveChain s → (nodeAt s.heap i).key = (nodeAt s.heap j).key → i = j := by
  rw [liveChain_eq]; exact H.cinv.distinct

def readerPc : Pc → Bool
  | .rCell _ | .rNode _ | .rFirst _ | .rState _ _ | .rLin _ _ | .rCas _ _ _ | .rTree _ | .rRelease _ _
  | .rVal _ | .lFirst _ | .lNode _ => true
  | _ => false

def kPc : Pc → Bool
  | .kCell | .kLock _ | .kCheck _ | .kBuild _ | .kStore _ _ | .kUnlock _ => true
  | _ => false

/-- holds the lock word of node `h` -/
def holdsLock : Pc → Option Nat
  | .wCheck h | .wFind h _ _ | .wStore h _ _ _ | .wUnlock h _ _ => some h
  | .kCheck h | .kBuild h | .kStore h _ | .kUnlock h => some h
  | _ => none

/-- past the successful re-check of the cell against `list h`, before its store -/
def validL : Pc → Option Nat
  | .wFind h _ _ | .wStore h _ _ _ | .kBuild h | .kStore h _ => some h
  | _ => none

/-- holds the mutex of `TreeBin` `b` -/
def holdsMutex : Pc → Option Nat
  | .tCheck b | .tFind b | .tVal b _ _ _ | .lrTry b _ _ | .lrLoop b _ _ | .tPrependLocked b
  | .tTreeLinkLocked b _ | .tUnlinkLocked b _ _ | .tRestructure b _ _ | .tUnlockRoot b _ | .tUntreeify b _
  | .tUnlockM b _ _ => some b
  | _ => none

/-- past the successful re-check of the cell against `tree b`, before the untreeify store -/
def validT : Pc → Option Nat
  | .tFind b | .tVal b _ _ _ | .lrTry b _ _ | .lrLoop b _ _ | .tPrependLocked b
  | .tTreeLinkLocked b _ | .tUnlinkLocked b _ _ | .tRestructure b _ _ | .tUnlockRoot b _ | .tUntreeify b _ => some b
  | _ => none

/-- holds the write lock of its `TreeBin` -/
def wr : Pc → Bool
  | .tPrependLocked _ | .tTreeLinkLocked _ _ | .tUnlinkLocked _ _ _ | .tRestructure _ _ _ | .tUnlockRoot _ _
  | .tUntreeify _ _ => true
  | _ => false

def isLoop : Pc → Bool
  | .lrLoop _ _ _ => true
  | _ => false

/-- holds a read lock of `TreeBin` `b` -/
def holdsRead : Pc → Option Nat
  | .rTree b | .rRelease b _ => some b
  | _ => none

/-- the `TreeBin` a program counter refers to (but for `kStore`, whose `TreeBin` is private) -/
def binRef : Pc → Option Nat
  | .rFirst b | .rState b _ | .rLin b _ | .rCas b _ _ | .rTree b | .rRelease b _ | .lFirst b | .tMutex b => some b
  | .tCheck b | .tFind b | .tVal b _ _ _ | .lrTry b _ _ | .lrLoop b _ _ | .tPrependLocked b
  | .tTreeLinkLocked b _ | .tUnlinkLocked b _ _ | .tRestructure b _ _ | .tUnlockRoot b _ | .tUntreeify b _
  | .tUnlockM b _ _ => some b
  | _ => none

/-- the private `TreeBin` of a treeify thread that has built it and not yet stored it -/
def isKStore : Pc → Option Nat
  | .kStore _ b => some b
  | _ => none

def cnt (q : Pc → Bool) (ls : List Local) : Nat := (ls.filter (fun l => q l.pc)).length

theorem cnt_set (q : Pc → Bool) (ls : List Local) (i : Nat) (old new : Local) (h : ls[i]? = some old) :
    cnt q (ls.set i new) + (if q old.pc then 1 else 0) = cnt q ls + (if q new.pc then 1 else 0) :=
  Shared.count_set (fun l : Local => q l.pc) ls i old new h

theorem cnt_set_same (q : Pc → Bool) (ls : List Local) (i : Nat) (old new : Local) (h : ls[i]? = some old)
    (hq : q old.pc = q new.pc) : cnt q (ls.set i new) = cnt q ls := by
  have := cnt_set q ls i old new h
  rw [hq] at this
  omega

theorem cnt_pos_of {q : Pc → Bool} {ls : List Local} {i : Nat} {l : Local} (h : ls[i]? = some l)
    (hq : q l.pc = true) : 1 ≤ cnt q ls := by
  unfold cnt
  have hm : l ∈ ls.filter (fun l => q l.pc) :=
    List.mem_filter.mpr ⟨List.mem_iff_getElem?.mpr ⟨i, h⟩, hq⟩
  exact List.length_pos_of_mem hm

theorem cnt_zero_of {q : Pc → Bool} {ls : List Local} (h : ∀ l ∈ ls, q l.pc = false) : cnt q ls = 0 := by
  unfold cnt
  rw [List.length_eq_zero_iff, List.filter_eq_nil_iff]
  intro l hl
  rw [h l hl]; simp

export Flurry.Shared (get_set get_set_self get_set_ne)

def PcOp (pc : Pc) (op : KOp) : Prop := pc ≠ .idle → kPc pc = false → isReader op = readerPc pc

structure TInv (s : State) : Prop where
  opOK : ∀ (t : Nat) (l : Local) (p : Pending), s.threads[t]? = some l → l.call = some p → PcOp l.pc p.op
  histTime : ∀ x ∈ s.hist, x.2.inv ≤ x.2.resp ∧ x.2.resp ≤ s.now
  pendTime : ∀ (t : Nat) (l : Local) (p : Pending), s.threads[t]? = some l → l.call = some p → p.inv ≤ s.now
  uniqHP : ∀ x ∈ s.hist, ∀ (t : Nat) (l : Local) (p : Pending), s.threads[t]? = some l → l.call = some p →
    x.2.inv ≠ p.inv
  uniqPP : ∀ (t t' : Nat) (l l' : Local) (p p' : Pending), s.threads[t]? = some l → s.threads[t']? = some l' →
    l.call = some p → l'.call = some p' → p.inv = p'.inv → t = t'
  uniqHH : s.hist.Pairwise (fun x y => x.2.inv ≠ y.2.inv)

/-- the result of a writer that is past its linearization point -/
def resOfPc : Pc → Option KRes
  | .wUnlock _ res false => some res
  | .tUnlockM _ res false => some res
  | .tTreeLinkLocked _ _ => some .none
  | .tRestructure _ _ res => some res
  | .tUnlockRoot _ res => some res
  | .tUntreeify _ res => some res
  | _ => none

/-- how the ghost layer reads a thread -/
@[reducible] def view : GhostView.View Local Pending KOp KRes :=
  ⟨Local.call, fun l => resOfPc l.pc, Pending.key, Pending.op, Pending.inv⟩

theorem TInv.gen {s : State} (T : TInv s) :
    GhostView.Threads Lin.sig view (fun l p => PcOp l.pc p.op) s.threads s.hist s.now :=
  ⟨T.opOK, T.histTime, T.pendTime, T.uniqHP, T.uniqPP, T.uniqHH⟩

structure LInv (s : State) : Prop where
  lk : ∀ (t : Nat) (l : Local) (h : Nat), s.threads[t]? = some l →
    (holdsLock l.pc = some h ↔ (nodeAt s.heap h).lock = some t)
  lkValid : ∀ h x, (nodeAt s.heap h).lock = some x → x < s.threads.length
  vL : ∀ (t : Nat) (l : Local) (h : Nat), s.threads[t]? = some l → validL l.pc = some h → s.cell = .list h
  mx : ∀ (t : Nat) (l : Local) (b : Nat), s.threads[t]? = some l →
    (holdsMutex l.pc = some b ↔ (binAt s.tbins b).mutex = some t)
  mxValid : ∀ b x, (binAt s.tbins b).mutex = some x → x < s.threads.length
  vT : ∀ (t : Nat) (l : Local) (b : Nat), s.threads[t]? = some l → validT l.pc = some b → s.cell = .tree b
  bitsNone : ∀ b, s.cell = .tree b → (binAt s.tbins b).mutex = none →
    (binAt s.tbins b).writer = false ∧ (binAt s.tbins b).waiter = false
  bitsSome : ∀ (b t : Nat) (l : Local), s.cell = .tree b → s.threads[t]? = some l →
    (binAt s.tbins b).mutex = some t →
    (binAt s.tbins b).writer = wr l.pc ∧ ((binAt s.tbins b).waiter = true → isLoop l.pc = true)
  rd : ∀ b, b < s.tbins.length →
    (binAt s.tbins b).readers = cnt (fun pc => holdsRead pc == some b) s.threads
  wrd : ∀ b, (binAt s.tbins b).writer = true → (binAt s.tbins b).readers = 0
  dead : ∀ b, b < s.tbins.length → s.cell ≠ .tree b →
    (binAt s.tbins b).writer = true ∨ ∃ (t : Nat) (l : Local) (h : Nat), s.threads[t]? = some l ∧ l.pc = .kStore h b
  refOK : ∀ (t : Nat) (l : Local) (b : Nat), s.threads[t]? = some l → binRef l.pc = some b →
    b < s.tbins.length ∧ ∀ (t' : Nat) (l' : Local) (h : Nat), s.threads[t']? = some l' → l'.pc ≠ .kStore h b

theorem holdsLock_of_validL {pc : Pc} {h : Nat} (hv : validL pc = some h) : holdsLock pc = some h := by
  cases pc with
  | wFind | wStore | kBuild | kStore => exact hv
  | _ => cases hv

theorem holdsMutex_of_validT {pc : Pc} {b : Nat} (hv : validT pc = some b) : holdsMutex pc = some b := by
  cases pc with
  | tFind | tVal | lrTry | lrLoop | tPrependLocked | tTreeLinkLocked | tUnlinkLocked | tRestructure | tUnlockRoot
  | tUntreeify => exact hv
  | _ => cases hv

theorem holdsMutex_of_wr {pc : Pc} (hw : wr pc = true) : ∃ b, validT pc = some b := by
  cases pc with
  | tPrependLocked | tTreeLinkLocked | tUnlinkLocked | tRestructure | tUnlockRoot | tUntreeify => exact ⟨_, rfl⟩
  | _ => cases hw

/-- the thread is past a successful re-check of the cell -/
def validated (pc : Pc) : Bool := (validL pc).isSome || (validT pc).isSome

theorem LInv.valid_unique {s : State} (L : LInv s) {t t' : Nat} {l l' : Local}
    (hl : s.threads[t]? = some l) (hl' : s.threads[t']? = some l')
    (h : validated l.pc = true) (h' : validated l'.pc = true) : t = t' := by
  unfold validated at h h'
  cases hv : validL l.pc with
  | some a =>
    have hc := L.vL t l a hl hv
    cases hv' : validL l'.pc with
    | some a' =>
      have hc' := L.vL t' l' a' hl' hv'
      rw [hc] at hc'; cases hc'
      have e1 := (L.lk t l a hl).1 (holdsLock_of_validL hv)
      have e2 := (L.lk t' l' a hl').1 (holdsLock_of_validL hv')
      rw [e1] at e2; exact Option.some.inj e2
    | none =>
      rw [hv'] at h'
      cases hw' : validT l'.pc with
      | none => rw [hw'] at h'; cases h'
      | some b' =>
        have hc' := L.vT t' l' b' hl' hw'
        rw [hc] at hc'; cases hc'
  | none =>
    rw [hv] at h
    cases hw : validT l.pc with
    | none => rw [hw] at h; cases h
    | some b =>
      have hc := L.vT t l b hl hw
      cases hv' : validL l'.pc with
      | some a' =>
        have hc' := L.vL t' l' a' hl' hv'
        rw [hc] at hc'; cases hc'
      | none =>
        rw [hv'] at h'
        cases hw' : validT l'.pc with
        | none => rw [hw'] at h'; cases h'
        | some b' =>
          have hc' := L.vT t' l' b' hl' hw'
          rw [hc] at hc'; cases hc'
          have e1 := (L.mx t l b hl).1 (holdsMutex_of_validT hw)
          have e2 := (L.mx t' l' b hl').1 (holdsMutex_of_validT hw')
          rw [e1] at e2; exact Option.some.inj e2

/-- the walk of a validated list-bin writer looking for `key`, seen on the live chain: the nodes
passed are the prefix `l1` (none of them has the key), `pred` is the last of them, `cur` the next -/
def Walk (s : State) (key : Nat) (pred cur : Option Nat) : Prop :=
  ∃ l1 l2, liveChain s = l1 ++ l2 ∧ cur = l2.head? ∧ pred = l1.getLast? ∧
    ∀ j ∈ l1, (nodeAt s.heap j).key ≠ key

/-- the writer has found the live node `i` and will make `p`'s result `res` by removing it -/
def RemOK (s : State) (p : Pending) (i : Nat) (res : KRes) : Prop :=
  i ∈ liveChain s ∧ (nodeAt s.heap i).inTree = true ∧ (nodeAt s.heap i).key = p.key ∧
    specStep (some (nodeAt s.heap i).val) p.op = (none, res)

/-- no node of the tree of `b` has the key of `p` -/
def FreshOK (s : State) (b : Nat) (p : Pending) : Prop :=
  ∀ j, j < s.heap.length → (nodeAt s.heap j).owner = some b → (nodeAt s.heap j).inTree = true →
    (nodeAt s.heap j).key ≠ p.key

def PcInv (s : State) (p : Pending) : Pc → Prop
  | .rNode (some c) => c < s.heap.length
  | .rState _ (some c) => c < s.heap.length
  | .rCas _ c _ => c < s.heap.length
  | .rLin _ c => c < s.heap.length
  | .lNode (some c) => c < s.heap.length
  | .rVal _ => p.op ≠ .has
  | .wFind _ pred cur => Walk s p.key pred cur
  | .wStore _ pred hit hnext => Walk s p.key pred hit ∧
      ∀ i, hit = some i → (nodeAt s.heap i).key = p.key ∧ hnext = (nodeAt s.heap i).next
  | .tVal _ i v res => i ∈ liveChain s ∧ (nodeAt s.heap i).key = p.key ∧
      specStep (some (nodeAt s.heap i).val) p.op = (some v, res)
  | .lrTry b .insert _ => FreshOK s b p
  | .lrLoop b .insert _ => FreshOK s b p
  | .tPrependLocked b => FreshOK s b p
  | .tTreeLinkLocked b x => x ∈ liveChain s ∧ (nodeAt s.heap x).inTree = false ∧ (nodeAt s.heap x).key = p.key ∧
      FreshOK s b p
  | .lrTry _ (.remove i) res => RemOK s p i res
  | .lrLoop _ (.remove i) res => RemOK s p i res
  | .tUnlinkLocked _ i res => RemOK s p i res
  | .tRestructure b i _ => i ∉ liveChain s ∧ (nodeAt s.heap i).inTree = true ∧ i < s.heap.length ∧
      (nodeAt s.heap i).owner = some b
  | _ => True

/-- the private `TreeBin` `b` is a copy of the live list -/
structure BuiltOK (s : State) (b : Nat) : Prop where
  lt : b < s.tbins.length
  fresh : binAt s.tbins b = { first := (binAt s.tbins b).first }
  len : (chainOfBin s b).length = (liveChain s).length
  kv : ∀ j, j < (liveChain s).length →
    (nodeAt s.heap ((chainOfBin s b).getD j 0)).key = (nodeAt s.heap ((liveChain s).getD j 0)).key ∧
    (nodeAt s.heap ((chainOfBin s b).getD j 0)).val = (nodeAt s.heap ((liveChain s).getD j 0)).val
  own : ∀ j, j < s.heap.length → ((nodeAt s.heap j).owner = some b ↔ j ∈ chainOfBin s b)
  inTree : ∀ j ∈ chainOfBin s b, (nodeAt s.heap j).inTree = true

def KInv (s : State) : Pc → Prop
  | .kStore _ b => BuiltOK s b
  | _ => True

structure DInv (s : State) : Prop where
  pcInv : ∀ (t : Nat) (l : Local) (p : Pending), s.threads[t]? = some l → l.call = some p → PcInv s p l.pc
  kInv : ∀ (t : Nat) (l : Local), s.threads[t]? = some l → KInv s l.pc
  treeSub : ∀ b, s.cell = .tree b → ∀ j, j < s.heap.length → (nodeAt s.heap j).owner = some b →
    (nodeAt s.heap j).inTree = true → j ∉ liveChain s →
    ∃ (t : Nat) (l : Local), s.threads[t]? = some l ∧
      ((∃ res, l.pc = .tRestructure b j res) ∨ (∃ res, l.pc = .tUntreeify b res))
  chainSub : ∀ b, s.cell = .tree b → ∀ j ∈ liveChain s, (nodeAt s.heap j).inTree = false →
    ∃ (t : Nat) (l : Local), s.threads[t]? = some l ∧ l.pc = .tTreeLinkLocked b j

structure Inv (s : State) : Prop where
  heap : HInv s
  thr : TInv s
  lock : LInv s
  data : DInv s

/-- heaps that differ in lock words only -/
def HeapEqv (heap heap' : List NodeS) : Prop :=
  heap'.length = heap.length ∧ ∀ j, (nodeAt heap' j).key = (nodeAt heap j).key ∧
    (nodeAt heap' j).val = (nodeAt heap j).val ∧ (nodeAt heap' j).next = (nodeAt heap j).next ∧
    (nodeAt heap' j).inTree = (nodeAt heap j).inTree ∧ (nodeAt heap' j).owner = (nodeAt heap j).owner

theorem HeapEqv.refl (heap : List NodeS) : HeapEqv heap heap := ⟨rfl, fun _ => ⟨rfl, rfl, rfl, rfl, rfl⟩⟩

theorem heapEqv_lockSet (heap : List NodeS) (h : Nat) (x : Option Nat) : HeapEqv heap (lockSet heap h x) := by
  refine ⟨by simp [lockSet], ?_⟩
  intro j
  unfold lockSet
  rw [nodeAt_modify]
  split <;> exact ⟨rfl, rfl, rfl, rfl, rfl⟩

theorem NextOK.congr {heap heap' : List NodeS} (hok : NextOK heap) (e : HeapEqv heap heap') : NextOK heap' := by
  have hget : ∀ (a : Nat) (n : NodeS), heap'[a]? = some n → heap[a]? = some (nodeAt heap a) ∧ n.next = (nodeAt heap a).next := by
    intro a n hn
    have hal : a < heap'.length := (List.getElem?_eq_some_iff.1 hn).1
    refine ⟨getElem?_nodeAt (e.1 ▸ hal), ?_⟩
    rw [← nodeAt_of_some hn]
    exact (e.2 a).2.2.1
  intro a n b hn hb
  obtain ⟨hn0, hnx⟩ := hget a n hn
  obtain ⟨h1, h2, h3⟩ := hok a _ b hn0 (hnx ▸ hb)
  refine ⟨by rw [e.1]; exact h1, h2, ?_⟩
  intro hab m b' hm hb'
  obtain ⟨hm0, hmx⟩ := hget b m hm
  exact h3 hab _ b' hm0 (hmx ▸ hb')

theorem chainOf_congr {heap heap' : List NodeS} (hok : NextOK heap) (e : HeapEqv heap heap') (st : Option Nat)
    (hst : ∀ i, st = some i → i < heap.length) : chainOf heap' st = chainOf heap st := by
  refine chainOf_eq (hok.congr e) ((chainOf_isChain hok st hst).congr ?_)
  intro j _ n hn
  have hjl : j < heap.length := (List.getElem?_eq_some_iff.1 hn).1
  refine ⟨nodeAt heap' j, getElem?_nodeAt (by rw [e.1]; exact hjl), ?_⟩
  rw [(e.2 j).2.2.1, nodeAt_of_some hn]

structure Quiet (s s' : State) : Prop where
  cell : s'.cell = s.cell
  heap : HeapEqv s.heap s'.heap
  tlen : s'.tbins.length = s.tbins.length
  first : ∀ b, (binAt s'.tbins b).first = (binAt s.tbins b).first

theorem Quiet.start_eq {s s' : State} (q : Quiet s s') : liveStart s' = liveStart s := by
  unfold liveStart
  rw [q.cell]
  cases s.cell with
  | empty => rfl
  | list h => rfl
  | tree b => exact q.first b

theorem Quiet.chain_eq {s s' : State} (q : Quiet s s') (H : HInv s) : liveChain s' = liveChain s := by
  rw [liveChain_eq, liveChain_eq, q.start_eq]
  exact chainOf_congr H.cinv.nextOK q.heap _ H.cinv.startOK

theorem Quiet.binChain_eq {s s' : State} (q : Quiet s s') (H : HInv s) (b : Nat) : chainOfBin s' b = chainOfBin s b := by
  rw [chainOfBin_eq, chainOfBin_eq, q.first]
  exact chainOf_congr H.cinv.nextOK q.heap _ (H.firstOK b)

theorem treeFind_def (s : State) (b k : Nat) :
    treeFind s b k = (List.range s.heap.length).find? fun i =>
      (nodeAt s.heap i).owner == some b && (nodeAt s.heap i).inTree && (nodeAt s.heap i).key == k := rfl

theorem Quiet.find_eq {s s' : State} (q : Quiet s s') (b k : Nat) : treeFind s' b k = treeFind s b k := by
  rw [treeFind_def, treeFind_def, q.heap.1]
  congr 1
  funext i
  rw [(q.heap.2 i).1, (q.heap.2 i).2.2.2.1, (q.heap.2 i).2.2.2.2]

theorem BuiltOK.quiet {s s' : State} (q : Quiet s s') (H : HInv s) {b : Nat}
    (hb : binAt s'.tbins b = binAt s.tbins b) (h : BuiltOK s b) : BuiltOK s' b := by
  obtain ⟨h1, h2, h3, h4, h5, h6⟩ := h
  refine ⟨by rw [q.tlen]; exact h1, by rw [hb]; exact h2, by rw [q.binChain_eq H, q.chain_eq H]; exact h3, ?_, ?_, ?_⟩
  · intro j hj
    rw [q.chain_eq H] at hj ⊢
    rw [q.binChain_eq H, (q.heap.2 _).1, (q.heap.2 _).1, (q.heap.2 _).2.1, (q.heap.2 _).2.1]
    exact h4 j hj
  · intro j hj
    rw [q.heap.1] at hj
    rw [q.binChain_eq H, (q.heap.2 j).2.2.2.2]
    exact h5 j hj
  · intro j hj
    rw [q.binChain_eq H] at hj
    rw [(q.heap.2 j).2.2.2.1]
    exact h6 j hj

end Flurry.Proto.BinK
