import Flurry.Lemmas.BinChain
/-! # Proto/Bin: structural invariants of the heap and the effect of the stores (C01)

* `HInv` is `BinR.Base.HInv` over the state of `Proto/Bin`: it holds iff that holds of the image (`HInv.of_emb`,
  `HInv.to_emb`); the facts below that need `HInv` are those of `Lemmas/BinRBBasic.lean` read
  through `emb`, the access lemmas `nodeAt_*` those of `Lemmas/SharedBasic.lean`.
* the chain after each of the heap surgeries (`modify_chain`, `append_last_chain`,
  `append_empty_chain`, `unlink_mid_chain`, `unlink_head_chain`).
* `HeapStep s s'`: what every transition does to the heap as far as lock-free readers are concerned (the fields are
  explained in `Lemmas/BinRBBasic.lean`).
* `writerStore_spec`: the store of a validated writer is the specification step on its own key and
  leaves the other keys alone. -/
namespace Flurry.Proto.Bin
open Flurry.Lin

def nodeAt (heap : List NodeS) (i : Nat) : NodeS := heap.getD i ⟨0, (0, 0), none, none⟩

theorem nodeAt_of_some {heap : List NodeS} {i : Nat} {n : NodeS} (h : heap[i]? = some n) :
    nodeAt heap i = n := Shared.getD_of_some h

theorem getElem?_nodeAt {heap : List NodeS} {i : Nat} (h : i < heap.length) :
    heap[i]? = some (nodeAt heap i) := Shared.getElem?_getD _ h

theorem nodeAt_emb (heap : List NodeS) (i : Nat) :
    BinR.Base.nodeAt (heap.map eN) i = eN (nodeAt heap i) := getD_map heap i

structure HInv (s : State) : Prop where
  nextOK : NextOK s.heap
  headOK : ∀ h, s.head = some h → h < s.heap.length
  keysDistinct : ∀ i ∈ chain s, ∀ j ∈ chain s, (nodeAt s.heap i).key = (nodeAt s.heap j).key → i = j

theorem HInv.of_emb {s : State} (H : BinR.Base.HInv (emb s)) : HInv s where
  nextOK i n j hn hj := by
    have := H.nextOK i (eN n) j (node_emb hn) hj
    rwa [emb_heap, List.length_map] at this
  headOK h hh := by
    have := H.headOK h hh
    rwa [emb_heap, List.length_map] at this
  keysDistinct i hi j hj hk := by
    have := H.keysDistinct i (by rwa [chain_emb]) j (by rwa [chain_emb])
    rw [emb_heap, nodeAt_emb, nodeAt_emb] at this
    exact this hk

theorem HInv.to_emb {s : State} (H : HInv s) : BinR.Base.HInv (emb s) where
  nextOK i n' j hn hj := by
    rw [emb_heap, List.getElem?_map] at hn
    obtain ⟨n, hn0, rfl⟩ := Option.map_eq_some_iff.1 hn
    rw [emb_heap, List.length_map]
    exact H.nextOK i n j hn0 hj
  headOK h hh := by
    rw [emb_heap, List.length_map]
    exact H.headOK h hh
  keysDistinct i hi j hj hk := by
    rw [chain_emb] at hi hj
    rw [emb_heap, nodeAt_emb, nodeAt_emb] at hk
    exact H.keysDistinct i hi j hj hk

theorem chain_lt {s : State} (H : HInv s) {i : Nat} (hi : i ∈ chain s) : i < s.heap.length := by
  have := BinR.Base.chain_lt H.to_emb (chain_emb s ▸ hi)
  rwa [emb_heap, List.length_map] at this

theorem chain_nodup {s : State} (H : HInv s) : (chain s).Nodup :=
  chain_emb s ▸ BinR.Base.chain_nodup H.to_emb

theorem chain_head_none {s : State} (H : HInv s) (h : s.head = none) : chain s = [] :=
  (chain_emb s).symm.trans (BinR.Base.chain_head_none H.to_emb h)

theorem absOf_eq (s : State) (k : Nat) :
    absOf s k = ((chain s).find? (fun i => (nodeAt s.heap i).key == k)).map
      (fun i => (nodeAt s.heap i).val) := by
  unfold absOf nodeAt
  cases (chain s).find? _ <;> rfl

theorem absOf_eq_none_iff {s : State} {k : Nat} :
    absOf s k = none ↔ ∀ i ∈ chain s, (nodeAt s.heap i).key ≠ k := by
  simpa only [absOf_emb, chain_emb, emb_heap, nodeAt_emb, eN] using
    BinR.Base.absOf_eq_none_iff (s := emb s) (k := k)

theorem absOf_eq_some_iff {s : State} (H : HInv s) {k : Nat} {v : Nat × Nat} :
    absOf s k = some v ↔ ∃ i ∈ chain s, (nodeAt s.heap i).key = k ∧ (nodeAt s.heap i).val = v := by
  simpa only [absOf_emb, chain_emb, emb_heap, nodeAt_emb, eN] using
    BinR.Base.absOf_eq_some_iff H.to_emb (k := k) (v := v)

theorem find_hit_some {s : State} {k i : Nat}
    (h : (chain s).find? (fun i => (nodeAt s.heap i).key == k) = some i) :
    i ∈ chain s ∧ (nodeAt s.heap i).key = k :=
  ⟨List.mem_of_find?_eq_some h, by simpa using List.find?_some h⟩

theorem find_hit_none {s : State} {k : Nat}
    (h : (chain s).find? (fun i => (nodeAt s.heap i).key == k) = none) :
    ∀ i ∈ chain s, (nodeAt s.heap i).key ≠ k := by
  rw [List.find?_eq_none] at h
  intro i hi
  simpa using h i hi

structure HeapStep (s s' : State) : Prop where
  len : s.heap.length ≤ s'.heap.length
  key : ∀ j, j < s.heap.length → (nodeAt s'.heap j).key = (nodeAt s.heap j).key
  off : ∀ j, j < s.heap.length → j ∉ chain s →
    (nodeAt s'.heap j).val = (nodeAt s.heap j).val ∧ (nodeAt s'.heap j).next = (nodeAt s.heap j).next
  noRelink : ∀ j ∈ chain s', j ∈ chain s ∨ s.heap.length ≤ j
  unl : ∀ c ∈ chain s, c ∉ chain s' →
    (nodeAt s'.heap c).val = (nodeAt s.heap c).val ∧ (nodeAt s'.heap c).next = (nodeAt s.heap c).next ∧
    ∀ j ∈ chain s, j ≠ c → j ∈ chain s'

theorem HeapStep.of_emb {s s' : State} (h : BinR.Base.HeapStep (emb s) (emb s')) : HeapStep s s' where
  len := by have := h.len; rwa [emb_heap, emb_heap, List.length_map, List.length_map] at this
  key j hj := by
    have := h.key j (by rwa [emb_heap, List.length_map])
    rwa [emb_heap, emb_heap, nodeAt_emb, nodeAt_emb] at this
  off j hj hjc := by
    have := h.off j (by rwa [emb_heap, List.length_map]) (by rwa [chain_emb])
    rwa [emb_heap, emb_heap, nodeAt_emb, nodeAt_emb] at this
  noRelink j hj := by
    have := h.noRelink j (by rwa [chain_emb])
    rwa [chain_emb, emb_heap, List.length_map] at this
  unl c hc hc' := by
    have := h.unl c (by rwa [chain_emb]) (by rwa [chain_emb])
    rwa [emb_heap, emb_heap, nodeAt_emb, nodeAt_emb, chain_emb, chain_emb] at this

theorem nodeAt_modify (heap : List NodeS) (i : Nat) (f : NodeS → NodeS) (j : Nat) :
    nodeAt (heap.modify i f) j = if i = j ∧ j < heap.length then f (nodeAt heap j) else nodeAt heap j :=
  Shared.getD_modify heap i f j _

theorem nodeAt_append_left {heap : List NodeS} (l : List NodeS) {j : Nat} (hj : j < heap.length) :
    nodeAt (heap ++ l) j = nodeAt heap j := Shared.getD_append_left l _ hj

theorem nodeAt_append_new (heap : List NodeS) (n : NodeS) : nodeAt (heap ++ [n]) heap.length = n :=
  Shared.getD_append_new heap n _

theorem chain_congr {s s' : State} (hh : s'.heap = s.heap) (hd : s'.head = s.head) : chain s' = chain s := by
  unfold chain; rw [hh, hd]

theorem HInv.congr {s s' : State} (H : HInv s) (hh : s'.heap = s.heap) (hd : s'.head = s.head) : HInv s' := by
  refine ⟨by rw [hh]; exact H.nextOK, by rw [hh, hd]; exact H.headOK, ?_⟩
  rw [chain_congr hh hd, hh]; exact H.keysDistinct

theorem modify_chain {s s' : State} (H : HInv s) {i : Nat} {f : NodeS → NodeS}
    (hh : s'.heap = s.heap.modify i f) (hd : s'.head = s.head)
    (hf : ∀ n, (f n).next = n.next ∧ (f n).key = n.key) : chain s' = chain s := by
  have := (BinR.Base.modify_chain (s' := emb s') (i := i)
    (f := fun n => eN (f ⟨n.key, n.val, n.next, n.lock⟩)) H.to_emb
    (by rw [emb_heap, hh, BinR.Base.map_modify eN f (fun n => eN (f ⟨n.key, n.val, n.next, n.lock⟩)) fun _ => rfl]; rfl)
    hd (fun n => hf _)).2.2
  rwa [chain_emb, chain_emb] at this

theorem append_last_chain {s s' : State} (H : HInv s) {new : NodeS} {last : Nat}
    (hlast : (chain s).getLast? = some last) (hnx : new.next = none)
    (hh : s'.heap = (s.heap ++ [new]).modify last (fun n => { n with next := some s.heap.length }))
    (hd : s'.head = s.head) : chain s' = chain s ++ [s.heap.length] := by
  have := (BinR.Base.append_last_chain (s' := emb s') (new := eN new) H.to_emb (chain_emb s ▸ hlast) hnx
    (by rw [emb_heap, hh, BinR.Base.map_modify eN _ (fun n => { n with next := some s.heap.length }) fun _ => rfl,
      List.map_append, emb_heap, List.length_map]; rfl)
    hd).2.2
  rwa [chain_emb, chain_emb, emb_heap, List.length_map] at this

theorem append_empty_chain {s s' : State} (H : HInv s) {new : NodeS}
    (hempty : chain s = []) (hnx : new.next = none)
    (hh : s'.heap = s.heap ++ [new]) (hd : s'.head = some s.heap.length) :
    chain s' = [s.heap.length] := by
  have := (BinR.Base.append_empty_chain (s' := emb s') (new := eN new) H.to_emb (chain_emb s ▸ hempty) hnx
    (by rw [emb_heap, hh, List.map_append]; rfl) (by rw [emb_heap, List.length_map]; exact hd)).2.2
  rwa [chain_emb, chain_emb, hempty, emb_heap, List.length_map] at this

theorem unlink_mid_chain {s s' : State} (H : HInv s) {l1 l2 : List Nat} {pr i : Nat}
    (hch : chain s = l1 ++ pr :: i :: l2)
    (hh : s'.heap = s.heap.modify pr (fun m => { m with next := (nodeAt s.heap i).next }))
    (hd : s'.head = s.head) : chain s' = l1 ++ pr :: l2 := by
  have := (BinR.Base.unlink_mid_chain (s' := emb s') H.to_emb (chain_emb s ▸ hch)
    (by rw [emb_heap, hh, BinR.Base.map_modify eN _ (fun m => { m with next := (nodeAt s.heap i).next }) fun _ => rfl,
      emb_heap, nodeAt_emb]; rfl) hd).2.2
  rwa [chain_emb] at this

theorem unlink_head_chain {s s' : State} (H : HInv s) {l2 : List Nat} {i : Nat}
    (hch : chain s = i :: l2)
    (hh : s'.heap = s.heap) (hd : s'.head = (nodeAt s.heap i).next) : chain s' = l2 := by
  have := (BinR.Base.unlink_head_chain (s' := emb s') H.to_emb (chain_emb s ▸ hch)
    (by rw [emb_heap, hh]; rfl) (by rw [emb_heap, nodeAt_emb]; exact hd)).2.2
  rwa [chain_emb] at this

def StoreOK (s : State) (p : Pending) (r : State × KRes) : Prop :=
  HInv r.1 ∧ HeapStep s r.1 ∧ r.1.threads = s.threads ∧ r.1.hist = s.hist ∧ r.1.now = s.now ∧
  specStep (absOf s p.key) p.op = (absOf r.1 p.key, r.2) ∧ ∀ k, k ≠ p.key → absOf r.1 k = absOf s k

theorem writerStore_frame (s : State) (p : Pending) :
    (writerStore s p).1.threads = s.threads ∧ (writerStore s p).1.hist = s.hist ∧
      (writerStore s p).1.now = s.now := by
  unfold writerStore
  simp only
  repeat' split
  all_goals exact ⟨rfl, rfl, rfl⟩

theorem writerStore_spec {s : State} (H : HInv s) (p : Pending) (hw : isReader p.op = false) :
    StoreOK s p (writerStore s p) := by
  obtain ⟨H', hs, -, -, -, hspec, hfr⟩ :=
    BinR.Base.writerStore_spec H.to_emb (eP p) ((isReader_emb p.op).trans hw)
  rw [writerStore_emb] at H' hs hspec hfr
  obtain ⟨hthr, hhist, hnow⟩ := writerStore_frame s p
  simp only [Prod.map_fst, Prod.map_snd, absOf_emb] at hspec hfr
  exact ⟨.of_emb H', .of_emb hs, hthr, hhist, hnow, spec_of_emb hspec, hfr⟩

end Flurry.Proto.Bin
