/-! # Linearizability of a history of calls, for any type of calls

`Lin.Linearizable`, `Lin2.Linearizable2` and `LinMap.MapLinearizable` speak about an order of
*indices* into the history. Proofs are easier about a *permutation of the list of calls* itself.
This file is generic in the type of calls `α`, the state `σ`, the (partial) step function and the
real-time relation. It shows that the two formulations are equivalent (`glinI_iff_glinL`), that the
indexed real-time condition is a pairwise one (`indexed_iff_pairwise_idx`), and, in list form, the
trace lemma (`glinL_of_trace`) and that a call which may follow all others can be appended
(`GLinL.snoc`). -/
namespace Flurry.LinGen

variable {α β σ : Type}

def runL (step : σ → α → Option σ) : List α → σ → Option σ
  | [], s => some s
  | a :: l, s => (step s a).bind (runL step l)

def runI (step : σ → α → Option σ) (h : List α) : List Nat → σ → Option σ
  | [], s => some s
  | i :: rest, s =>
    match h[i]? with
    | none => none
    | some a => (step s a).bind (runI step h rest)

/-- linearizability, index form (the shape of `Linearizable` / `MapLinearizable`) -/
def GLinI (step : σ → α → Option σ) (rt : α → α → Prop) (h : List α) (init : σ) (Q : σ → Prop) : Prop :=
  ∃ order : List Nat,
    order.Perm (List.range h.length) ∧
    (∀ (p q : Nat) (a b : α), p < q → order[p]? >>= (h[·]?) = some a → order[q]? >>= (h[·]?) = some b →
        rt a b) ∧
    ∃ m, runI step h order init = some m ∧ Q m

/-- linearizability, list form: a permutation of the calls themselves -/
def GLinL (step : σ → α → Option σ) (rt : α → α → Prop) (h : List α) (init : σ) (Q : σ → Prop) : Prop :=
  ∃ l : List α, l.Perm h ∧ l.Pairwise rt ∧ ∃ m, runL step l init = some m ∧ Q m

theorem exists_perm_map (f : α → β) : ∀ (l : List β) (L : List α), l.Perm (L.map f) →
    ∃ L' : List α, L'.Perm L ∧ L'.map f = l
  | [], L, hp => by
    have h1 : L.map f = [] := List.Perm.eq_nil hp.symm
    have h2 : L = [] := by simpa using h1
    subst h2
    exact ⟨[], List.Perm.refl _, rfl⟩
  | b :: l, L, hp => by
    have hb : b ∈ L.map f := hp.subset List.mem_cons_self
    obtain ⟨x, hx, rfl⟩ := List.mem_map.1 hb
    obtain ⟨s, t, rfl⟩ := List.append_of_mem hx
    have h1 : (s ++ x :: t).Perm (x :: (s ++ t)) := List.perm_middle
    have h2 : (f x :: l).Perm (f x :: (s ++ t).map f) := hp.trans (h1.map f)
    obtain ⟨L'', hL, hm⟩ := exists_perm_map f l (s ++ t) (List.Perm.cons_inv h2)
    exact ⟨x :: L'', (List.Perm.cons x hL).trans h1.symm, by simp [hm]⟩

theorem range_map_getElem? (h : List α) : (List.range h.length).map (h[·]?) = h.map some := by
  apply List.ext_getElem?
  intro i
  by_cases hi : i < h.length
  · simp [hi]
  · simp [hi]

theorem runI_eq_runL (step : σ → α → Option σ) (h : List α) : ∀ (order : List Nat) (l : List α) (s : σ),
    order.map (h[·]?) = l.map some → runI step h order s = runL step l s
  | [], l, s, he => by
    have : l = [] := by simpa using he.symm
    subst this; rfl
  | i :: rest, [], s, he => by simp at he
  | i :: rest, a :: l, s, he => by
    simp only [List.map_cons, List.cons.injEq] at he
    simp only [runI, he.1, runL]
    cases step s a with
    | none => rfl
    | some s' => exact runI_eq_runL step h rest l s' he.2

theorem bind_getElem?_eq (h : List α) (order : List Nat) (l : List α)
    (he : order.map (h[·]?) = l.map some) (p : Nat) : (order[p]? >>= (h[·]?)) = l[p]? := by
  have h1 : (order.map (h[·]?))[p]? = (l.map some)[p]? := by rw [he]
  simp only [List.getElem?_map] at h1
  cases ho : order[p]? with
  | none =>
    rw [ho] at h1
    cases hl : l[p]? with
    | none => rfl
    | some a => rw [hl] at h1; simp at h1
  | some i =>
    rw [ho] at h1
    cases hl : l[p]? with
    | none => rw [hl] at h1; simp at h1
    | some a =>
      rw [hl] at h1
      simpa using h1

theorem indexed_iff_pairwise (rt : α → α → Prop) (h : List α) (order : List Nat) (l : List α)
    (he : order.map (h[·]?) = l.map some) :
    (∀ (p q : Nat) (a b : α), p < q → order[p]? >>= (h[·]?) = some a → order[q]? >>= (h[·]?) = some b →
        rt a b) ↔ l.Pairwise rt := by
  simp only [bind_getElem?_eq h order l he]
  rw [List.pairwise_iff_getElem]
  constructor
  · intro hi p q hp hq hpq
    exact hi p q _ _ hpq (List.getElem?_eq_getElem hp) (List.getElem?_eq_getElem hq)
  · intro hpw p q a b hpq ha hb
    obtain ⟨hp, rfl⟩ := List.getElem?_eq_some_iff.1 ha
    obtain ⟨hq, rfl⟩ := List.getElem?_eq_some_iff.1 hb
    exact hpw p q hp hq hpq

theorem glinI_iff_glinL (step : σ → α → Option σ) (rt : α → α → Prop) (h : List α) (init : σ)
    (Q : σ → Prop) : GLinI step rt h init Q ↔ GLinL step rt h init Q := by
  constructor
  · rintro ⟨order, hperm, hrt, m, hrun, hQ⟩
    have h1 : (order.map (h[·]?)).Perm (h.map some) := by
      rw [← range_map_getElem?]; exact hperm.map _
    obtain ⟨l, hl, he⟩ := exists_perm_map some _ h h1
    refine ⟨l, hl, (indexed_iff_pairwise rt h order l he.symm).1 hrt, m, ?_, hQ⟩
    rw [← runI_eq_runL step h order l init he.symm]; exact hrun
  · rintro ⟨l, hl, hpw, m, hrun, hQ⟩
    have h1 : (l.map some).Perm ((List.range h.length).map (h[·]?)) := by
      rw [range_map_getElem?]; exact hl.map _
    obtain ⟨order, ho, he⟩ := exists_perm_map (h[·]?) _ _ h1
    refine ⟨order, ho, (indexed_iff_pairwise rt h order l he).2 hpw, m, ?_, hQ⟩
    rw [runI_eq_runL step h order l init he]; exact hrun

theorem perm_range_of_length_of_mem : ∀ (n : Nat) (order : List Nat),
    order.length = n → (∀ i, i < n → i ∈ order) → order.Perm (List.range n)
  | 0, order, hl, _ => by
    have : order = [] := List.eq_nil_of_length_eq_zero hl
    subst this; simp
  | n + 1, order, hl, hm => by
    have hn : n ∈ order := hm n (Nat.lt_succ_self n)
    have h1 : order.Perm (n :: order.erase n) := List.perm_cons_erase hn
    have h2 : (order.erase n).Perm (List.range n) := by
      apply perm_range_of_length_of_mem n
      · rw [List.length_erase_of_mem hn, hl]; rfl
      · intro i hi
        exact (List.mem_erase_of_ne (by omega)).2 (hm i (by omega))
    rw [List.range_succ]
    exact h1.trans ((List.Perm.cons n h2).trans (List.perm_append_singleton n _).symm)

theorem indexed_iff_pairwise_idx (rt : α → α → Prop) (h : List α) (order : List Nat)
    (hlt : ∀ i ∈ order, i < h.length) :
    (∀ (p q : Nat) (a b : α), p < q → order[p]? >>= (h[·]?) = some a → order[q]? >>= (h[·]?) = some b →
        rt a b) ↔ order.Pairwise (fun i j => ∃ a b, h[i]? = some a ∧ h[j]? = some b ∧ rt a b) := by
  rw [List.pairwise_iff_getElem]
  constructor
  · intro hi p q hp hq hpq
    have h1 := hlt _ (List.getElem_mem hp)
    have h2 := hlt _ (List.getElem_mem hq)
    refine ⟨_, _, List.getElem?_eq_getElem h1, List.getElem?_eq_getElem h2, hi p q _ _ hpq ?_ ?_⟩
    · rw [List.getElem?_eq_getElem hp]; exact List.getElem?_eq_getElem h1
    · rw [List.getElem?_eq_getElem hq]; exact List.getElem?_eq_getElem h2
  · intro hpw p q a b hpq ha hb
    obtain ⟨i, hi, ha⟩ := Option.bind_eq_some_iff.1 ha
    obtain ⟨j, hj, hb⟩ := Option.bind_eq_some_iff.1 hb
    obtain ⟨hp, rfl⟩ := List.getElem?_eq_some_iff.1 hi
    obtain ⟨hq, rfl⟩ := List.getElem?_eq_some_iff.1 hj
    obtain ⟨a', b', ha', hb', hab⟩ := hpw p q hp hq hpq
    rw [ha] at ha'; rw [hb] at hb'
    cases ha'; cases hb'
    exact hab

theorem runL_append (step : σ → α → Option σ) : ∀ (l₁ l₂ : List α) (s : σ),
    runL step (l₁ ++ l₂) s = (runL step l₁ s).bind (runL step l₂)
  | [], _, _ => rfl
  | a :: l₁, l₂, s => by
    simp only [List.cons_append, runL]
    cases step s a with
    | none => rfl
    | some s' => exact runL_append step l₁ l₂ s'

theorem GLinL.snoc {step : σ → α → Option σ} {rt : α → α → Prop} {h : List α} {init : σ}
    {Q Q' : σ → Prop} {c : α} (hl : GLinL step rt h init Q)
    (hc : ∀ m, Q m → ∃ m', step m c = some m' ∧ Q' m') (hlast : ∀ d ∈ h, rt d c) :
    GLinL step rt (h ++ [c]) init Q' := by
  obtain ⟨l, hp, hpw, m, hr, hQ⟩ := hl
  obtain ⟨m', hs, hQ'⟩ := hc m hQ
  refine ⟨l ++ [c], hp.append_right _, List.pairwise_append.2 ⟨hpw, List.pairwise_singleton _ _, ?_⟩,
    m', ?_, hQ'⟩
  · intro a ha b hb
    rw [List.mem_singleton.1 hb]
    exact hlast a (hp.subset ha)
  · rw [runL_append, hr]
    simp only [Option.bind_some, runL, hs]

/-! ## The trace lemma

`A τ` is the abstract state after global step `τ` (`A 0` initial, `A T` final) and every call `c` has
a point `pt c`. A writer (`rd c = false`) takes the state from `A (pt c - 1)` to `A (pt c)`, distinct
writers have distinct points, and a step that is no writer's point leaves `A` unchanged; a reader
is enabled in `A (pt c)` and leaves it as it is. Then the calls sorted by their points, the readers
of a step directly after its writer, run from `A 0` to `A T`. -/

theorem trace_stable {h : List α} (rd : α → Bool) (pt : α → Nat) (A : Nat → σ) (T : Nat)
    (hstab : ∀ τ, 1 ≤ τ → τ ≤ T → (∀ c ∈ h, rd c = false → pt c ≠ τ) → A τ = A (τ - 1))
    (τ1 : Nat) : ∀ τ2, τ1 ≤ τ2 → τ2 ≤ T →
      (∀ c ∈ h, rd c = false → τ1 < pt c → τ2 < pt c) → A τ2 = A τ1
  | 0, h1, _, _ => by rw [Nat.le_zero.1 h1]
  | τ2 + 1, h1, h2, hno => by
    rcases Nat.lt_or_eq_of_le h1 with hlt | rfl
    · have h12 : τ1 ≤ τ2 := Nat.le_of_lt_succ hlt
      rw [hstab (τ2 + 1) (Nat.succ_pos _) h2 ?_, Nat.add_sub_cancel]
      · exact trace_stable rd pt A T hstab τ1 τ2 h12 (Nat.le_of_succ_le h2)
          (fun c hc hcw hlt => Nat.lt_of_succ_lt (hno c hc hcw hlt))
      · intro c hc hcw he
        exact Nat.lt_irrefl _ (he ▸ hno c hc hcw (he ▸ Nat.lt_succ_of_le h12))
    · rfl

theorem trace_run {step : σ → α → Option σ} {h : List α} (rd : α → Bool) (pt : α → Nat)
    (A : Nat → σ) (T : Nat) (hT : ∀ c ∈ h, pt c ≤ T)
    (hw : ∀ c ∈ h, rd c = false → 1 ≤ pt c ∧ step (A (pt c - 1)) c = some (A (pt c)))
    (hr : ∀ c ∈ h, rd c = true → step (A (pt c)) c = some (A (pt c)))
    (hstab : ∀ τ, 1 ≤ τ → τ ≤ T → (∀ c ∈ h, rd c = false → pt c ≠ τ) → A τ = A (τ - 1)) :
    ∀ (l : List α) (τ0 : Nat), τ0 ≤ T → (∀ c ∈ l, c ∈ h) →
      l.Pairwise (fun a b => pt a ≤ pt b ∧ (rd a = true → rd b = false → pt a < pt b)) →
      l.Pairwise (fun c d => rd c = false → rd d = false → pt c ≠ pt d) →
      (∀ c ∈ l, τ0 ≤ pt c ∧ (rd c = false → τ0 < pt c)) →
      (∀ d ∈ h, rd d = false → τ0 < pt d → d ∈ l) →
      runL step l (A τ0) = some (A T)
  | [], τ0, hτ, _, _, _, _, hall => by
    rw [runL, trace_stable rd pt A T hstab τ0 T hτ (Nat.le_refl _)
      (fun d hd hdw hlt => absurd (hall d hd hdw hlt) List.not_mem_nil)]
  | c :: l, τ0, hτ, hsub, hsorted, hinj, hge, hall => by
    have hch : c ∈ h := hsub c List.mem_cons_self
    have hsubl : ∀ d ∈ l, d ∈ h := fun d hd => hsub d (List.mem_cons_of_mem _ hd)
    obtain ⟨hsc, hsl⟩ := List.pairwise_cons.1 hsorted
    obtain ⟨hic, hil⟩ := List.pairwise_cons.1 hinj
    obtain ⟨hc1, hc2⟩ := hge c List.mem_cons_self
    have hcT := hT c hch
    -- the writers after `τ0` are `c` itself or come after `c`
    have hfirst : ∀ d ∈ h, rd d = false → τ0 < pt d → d = c ∨ d ∈ l :=
      fun d hd hdw hlt => List.mem_cons.1 (hall d hd hdw hlt)
    cases hrd : rd c with
    | true =>
      have hA : A (pt c) = A τ0 := by
        refine trace_stable rd pt A T hstab τ0 (pt c) hc1 hcT fun d hd hdw hlt => ?_
        rcases hfirst d hd hdw hlt with rfl | hm
        · rw [hrd] at hdw; cases hdw
        · exact (hsc d hm).2 hrd hdw
      rw [← hA, runL, hr c hch hrd, Option.bind_some]
      refine trace_run rd pt A T hT hw hr hstab l (pt c) hcT hsubl hsl hil
        (fun d hd => ⟨(hsc d hd).1, (hsc d hd).2 hrd⟩) fun d hd hdw hlt => ?_
      rcases hfirst d hd hdw (Nat.lt_of_le_of_lt hc1 hlt) with rfl | hm
      · rw [hrd] at hdw; cases hdw
      · exact hm
    | false =>
      obtain ⟨h1, hs⟩ := hw c hch hrd
      have hlt := hc2 hrd
      have hA : A (pt c - 1) = A τ0 := by
        refine trace_stable rd pt A T hstab τ0 (pt c - 1) (Nat.le_sub_one_of_lt hlt)
          (Nat.le_trans (Nat.sub_le _ _) hcT) fun d hd hdw hlt => ?_
        rcases hfirst d hd hdw hlt with rfl | hm
        · exact Nat.sub_one_lt_of_lt hlt
        · exact Nat.lt_of_lt_of_le (Nat.sub_one_lt_of_lt (hc2 hrd)) (hsc d hm).1
      rw [← hA, runL, hs, Option.bind_some]
      refine trace_run rd pt A T hT hw hr hstab l (pt c) hcT hsubl hsl hil
        (fun d hd => ⟨(hsc d hd).1, fun hdw => Nat.lt_of_le_of_ne (hsc d hd).1 (hic d hd hrd hdw)⟩)
        fun d hd hdw hlt' => ?_
      rcases hfirst d hd hdw (Nat.lt_trans hlt hlt') with rfl | hm
      · exact absurd hlt' (Nat.lt_irrefl _)
      · exact hm

/-- **Trace lemma**, list form. `hrt`: calls whose points are ordered may be ordered that way (for
calls with `inv ≤ pt ≤ resp` this is the real-time condition). The calls are sorted by the key
`2 * pt c` for a writer and `2 * pt c + 1` for a reader. -/
theorem glinL_of_trace {step : σ → α → Option σ} {rt : α → α → Prop} {h : List α} (rd : α → Bool)
    (pt : α → Nat) (A : Nat → σ) (T : Nat)
    (hrt : ∀ a ∈ h, ∀ b ∈ h, pt a ≤ pt b → rt a b) (hT : ∀ c ∈ h, pt c ≤ T)
    (hw : ∀ c ∈ h, rd c = false → 1 ≤ pt c ∧ step (A (pt c - 1)) c = some (A (pt c)))
    (hr : ∀ c ∈ h, rd c = true → step (A (pt c)) c = some (A (pt c)))
    (hinj : h.Pairwise (fun c d => rd c = false → rd d = false → pt c ≠ pt d))
    (hstab : ∀ τ, 1 ≤ τ → τ ≤ T → (∀ c ∈ h, rd c = false → pt c ≠ τ) → A τ = A (τ - 1)) :
    GLinL step rt h (A 0) (· = A T) := by
  let key : α → Nat := fun c => 2 * pt c + (if rd c = true then 1 else 0)
  let le : α → α → Bool := fun a b => decide (key a ≤ key b)
  have hperm : (h.mergeSort le).Perm h := List.mergeSort_perm _ _
  have hsorted : (h.mergeSort le).Pairwise
      (fun a b => pt a ≤ pt b ∧ (rd a = true → rd b = false → pt a < pt b)) := by
    refine (List.pairwise_mergeSort (le := le)
      (fun a b c hab hbc => decide_eq_true (Nat.le_trans (of_decide_eq_true hab) (of_decide_eq_true hbc)))
      (fun a b => (Nat.le_total (key a) (key b)).elim
        (fun h => by simp only [le, decide_eq_true h, Bool.true_or])
        (fun h => by simp only [le, decide_eq_true h, Bool.or_true])) h).imp ?_
    intro a b hab
    have hab : key a ≤ key b := of_decide_eq_true hab
    refine ⟨?_, fun ha hb => ?_⟩
    · simp only [key] at hab; split at hab <;> split at hab <;> omega
    -- the tiebreak: a reader has the odd key `2 * pt a + 1`, a writer the even key `2 * pt b`
    · simp only [key, ha, hb] at hab; simp at hab; omega
  refine ⟨h.mergeSort le, hperm, ?_, A T, ?_, rfl⟩
  · exact hsorted.imp_of_mem fun {a b} ha hb hab => hrt a (hperm.subset ha) b (hperm.subset hb) hab.1
  · exact trace_run rd pt A T hT hw hr hstab _ 0 (Nat.zero_le _) (fun c hc => hperm.subset hc) hsorted
      ((hperm.pairwise_iff (fun hcd h1 h2 e => hcd h2 h1 e.symm)).2 hinj)
      (fun c hc => ⟨Nat.zero_le _, fun hcw => (hw c (hperm.subset hc) hcw).1⟩)
      (fun d hd _ _ => hperm.symm.subset hd)

end Flurry.LinGen
