import Flurry.Lemmas.BinGNNext
import Flurry.Lemmas.BinGNOwnDefs
/-! # Proto/BinGN: while the resizing thread works on a cell (past its load), the cell is not forwarded (`PreInv`);
while `resizing` is set there is a resizing thread (`ResX`) -/
namespace Flurry.Proto.BinGN
open Flurry.Lin
open Flurry.Proto.BinGNP (StepN KMove KBMove)

/-- the cell the resizing thread works on, past the load that showed it is not forwarded -/
def preIdx : Pc → Option Nat
  | .xCasMoved j | .xLock j _ | .xCheck j _ | .xBuild j _ | .yMutex j _ | .yCheck j _ | .yBuild j _
  | .xStoreLow j _ _ _ | .xStoreHigh j _ _ | .xStoreMoved j _ => some j
  | _ => none

def PreInv (s : State) : Prop :=
  ∀ (t : Nat) (l : Local) (j : Nat), s.threads[t]? = some l → preIdx l.pc = some j → cellAt s s.cur j ≠ .moved

theorem preIdx_isX {c : Nat} {l : Local} {j : Nat} (h : preIdx l.pc = some j) : (desc c l).isX = true := by
  obtain ⟨pc, call⟩ := l
  cases pc <;> simp [preIdx] at h <;> rfl

/-- no cell of generation `cur` becomes forwarded; the acting thread keeps or drops its cell, or has just seen
its cell not forwarded -/
theorem preInv_frame {s s' : State} {t : Nat} {l l' : Local} (P : PreInv s) (hl : s.threads[t]? = some l)
    (hthr : s'.threads = s.threads.set t l') (hcur : s'.cur = s.cur)
    (hcell : ∀ j, cellAt s s.cur j ≠ .moved → cellAt s' s.cur j ≠ .moved)
    (hself : ∀ j, preIdx l'.pc = some j → preIdx l.pc = some j ∨ cellAt s s.cur j ≠ .moved) : PreInv s' := by
  intro t1 l1 j h1 hp
  rw [hthr] at h1
  rw [hcur]
  rcases get_set h1 with ⟨rfl, rfl⟩ | ⟨n1, h1⟩
  · rcases hself j hp with h | h
    · exact hcell j (P t1 l j hl h)
    · exact hcell j h
  · exact hcell j (P t1 l1 j h1 hp)

theorem preInv_same {s s' : State} {t : Nat} {l l' : Local} (P : PreInv s) (hl : s.threads[t]? = some l)
    (hthr : s'.threads = s.threads.set t l') (hcur : s'.cur = s.cur) (htabs : s'.tabs = s.tabs)
    (hself : ∀ j, preIdx l'.pc = some j → preIdx l.pc = some j ∨ cellAt s s.cur j ≠ .moved) : PreInv s' :=
  preInv_frame P hl hthr hcur (fun j h => by rw [cellAt_eq, htabs]; exact h) hself

/-- a store of a value that is not the marker -/
theorem preInv_put {s s' : State} {t : Nat} {l l' : Local} {g0 j0 : Nat} {c : Cell} (P : PreInv s)
    (hl : s.threads[t]? = some l)
    (hthr : s'.threads = s.threads.set t l') (hcur : s'.cur = s.cur)
    (htabs : s'.tabs = s.tabs.modify g0 (fun row => row.set j0 c)) (hc : c ≠ .moved)
    (hself : ∀ j, preIdx l'.pc = some j → preIdx l.pc = some j ∨ cellAt s s.cur j ≠ .moved) : PreInv s' := by
  refine preInv_frame P hl hthr hcur ?_ hself
  intro j h
  rw [cellAt_eq, htabs]
  by_cases e : s.cur = g0 ∧ j = j0
  · obtain ⟨rfl, rfl⟩ := e
    rcases cellT_put_self s.tabs s.cur j c with e1 | e1
    · rw [e1]; exact hc
    · rw [e1]; exact h
  · rw [cellT_put_ne _ _ e]; exact h

/-- the resizing thread stores the marker and turns away from the cell -/
theorem preInv_moved {s s' : State} {t : Nat} {l l' : Local} (I : GenInv s)
    (hl : s.threads[t]? = some l) (hX : (desc s.cur l).isX = true)
    (hthr : s'.threads = s.threads.set t l') (hself : preIdx l'.pc = none) : PreInv s' := by
  intro t1 l1 j h1 hp
  rw [hthr] at h1
  rcases get_set h1 with ⟨rfl, rfl⟩ | ⟨n1, h1⟩
  · rw [hself] at hp; cases hp
  · exact absurd (I.uniqX _ _ _ _ h1 hl (preIdx_isX hp) hX) n1

theorem preIdx_of_call {pc : Pc} (h : noCallPc pc = false) : preIdx pc = none := by
  cases pc <;> first | rfl | cases h

theorem PreInv.finish {s : State} {t : Nat} {p : Pending} {res : KRes} (P : PreInv (setT s t ⟨.idle, none⟩)) :
    PreInv (finish s t p res) := P

/-- a step that does not touch the tables, after which the acting thread works on no cell of the transfer -/
theorem preInv_none {s s' : State} {t : Nat} {l l' : Local} (P : PreInv s) (hl : s.threads[t]? = some l)
    (hthr : s'.threads = s.threads.set t l') (hcur : s'.cur = s.cur) (htabs : s'.tabs = s.tabs)
    (h' : preIdx l'.pc = none) : PreInv s' :=
  preInv_same P hl hthr hcur htabs (fun _ h => nomatch h'.symm.trans h)

section
variable {s : State} {t : Nat} {pc pc' : Pc} {hp : List NodeS} {tb : List TBin}

theorem pre_kmove (P : PreInv s) (hl : s.threads[t]? = some ⟨pc, none⟩) (h : KMove s t pc pc' hp) :
    PreInv (setT (BinGNP.qst s hp s.tbins) t ⟨pc', none⟩) := by
  -- the resizing thread has just seen that the cell it turns to is not forwarded
  have seen : ∀ {j : Nat} {c : Cell}, cellAt s s.cur j = c → c ≠ .moved →
      ∀ j', some j = some j' → preIdx pc = some j' ∨ cellAt s s.cur j' ≠ .moved :=
    fun hc hne j' e => by cases e; exact Or.inr (by rw [hc]; exact hne)
  cases h with
  | xCellEmpty hc => exact preInv_same P hl rfl rfl rfl (seen hc (by simp))
  | xCellList hc => exact preInv_same P hl rfl rfl rfl (seen hc (by simp))
  | xCellTree hc => exact preInv_same P hl rfl rfl rfl (seen hc (by simp))
  | xCasFail _ => exact preInv_none P hl rfl rfl rfl rfl
  | xCheckFail _ => exact preInv_none P hl rfl rfl rfl rfl
  | _ => exact preInv_same P hl rfl rfl rfl (fun j h => Or.inl h)

theorem pre_kbmove (P : PreInv s) (hl : s.threads[t]? = some ⟨pc, none⟩) (h : KBMove s t pc pc' tb) :
    PreInv (setT (BinGNP.qst s s.heap tb) t ⟨pc', none⟩) := by
  cases h with
  | yCheckFail _ => exact preInv_none P hl rfl rfl rfl rfl
  | _ => exact preInv_same P hl rfl rfl rfl (fun j h => Or.inl h)

end

theorem stepN_preInv {s s' : State} {t : Nat} {l : Local} (I : GenInv s) (P : PreInv s)
    (hl : s.threads[t]? = some l) (h : StepN s t l s') : PreInv s' := by
  have T := I.thr t _ hl
  obtain ⟨pc, call⟩ := l
  cases h with
  | resizeStart h _ =>
    refine preInv_frame P hl rfl rfl ?_ (fun j h => nomatch h)
    intro j h
    show cellT (s.tabs ++ [List.replicate (2 ^ (s.cur + 1)) (.empty : Cell)]) s.cur j ≠ _
    rw [cellT_alloc]; exact h
  | invoke k op lo h => cases isReader op <;> exact preInv_none P hl rfl rfl rfl rfl
  | move _ _ _ _ hm | bmove _ _ _ _ hm => exact preInv_none P hl rfl rfl rfl (preIdx_of_call hm.callPcs.2)
  | kmove pc' hp hc hm => cases hc; exact pre_kmove P hl hm
  | kbmove pc' tb hc hm => cases hc; exact pre_kbmove P hl hm
  | fin _ _ _ _ _ | bfin _ _ _ _ _ => exact PreInv.finish (preInv_none P hl rfl rfl rfl rfl)
  | cas p g v vi hc hpc _ _ =>
    exact PreInv.finish (preInv_put (c := .list s.heap.length) P hl rfl rfl rfl (by simp) (fun j h => nomatch h))
  | store p g h pred hit hnext hc hpc =>
    obtain ⟨hg, ht⟩ := storeAt_shape (BinGNP.tick s) g p pred hit hnext
    rcases ht with e | ⟨c, hcm, -, e⟩
    · exact preInv_none P hl (hg.set _ _) hg.cur e rfl
    · exact preInv_put P hl (hg.set _ _) hg.cur e hcm (fun j h => nomatch h)
  | unlink p g b i res sm hc hpc =>
    have hg := unlinkOf_grows (BinGNP.tick s) b i
    cases sm <;> exact preInv_none P hl (hg.1.set _ _) hg.1.cur hg.2 rfl
  | untreeify p g b res hc hpc =>
    exact preInv_put (c := cellOfHead _) P hl rfl rfl rfl (cellOfHead_ne_moved _) (fun j h => nomatch h)
  | kstore g k h b hc hpc => exact preInv_put (c := .tree b) P hl rfl rfl rfl (by simp) (fun j h => nomatch h)
  | xcasMoved _ _ hpc _ | xstoreMoved _ _ _ hpc => cases hpc; exact preInv_moved I hl rfl rfl rfl
  | ybuild j b sm sm2 hc hpc =>
    cases hpc
    obtain ⟨hg, ht, -⟩ := ysplitOf_grows (BinGNP.tick s) b sm sm2
    exact preInv_same P hl (hg.set _ _) hg.cur ht (fun j h => Or.inl h)
  | xstoreLow j unl c _ hc hpc | xstoreHigh j unl c hc hpc =>
    cases hc; cases hpc
    exact preInv_put P hl rfl rfl rfl (T.plan c List.mem_cons_self).1 (fun j h => Or.inl h)
  | xcommit hc hpc =>
    cases hpc
    intro t1 l1 j h1 hp
    rcases get_set h1 with ⟨rfl, rfl⟩ | ⟨n1, h1⟩
    · cases hp
    · exact absurd (I.uniqX _ _ _ _ h1 hl (preIdx_isX hp) rfl) n1
  | idle h | xbuild _ _ _ h => cases h; exact preInv_same P hl rfl rfl rfl (fun j h => Or.inl h)
  | maint _ _ | tval _ _ _ _ _ _ _ _ | prepend _ _ _ _ _ _ _ _ | treeLink _ _ _ _ _ _ | untree _ _ _ _ _ _ _
  | kbuild _ _ _ _ _ =>
    exact preInv_none P hl rfl rfl rfl rfl

theorem init_preInv (n : Nat) : PreInv (init n) := by
  intro t l j h hp
  rw [init_threads h] at hp; cases hp

/-- while `resizing` is set there is a resizing thread -/
def ResX (s : State) : Prop := s.resizing = true → ∃ (t : Nat) (l : Local), s.threads[t]? = some l ∧ isXOf l = true

/-- the flag is set by a thread that becomes the resizing thread and cleared by the resizing thread when it stops
being one -/
theorem resX_frame {s s' : State} {t : Nat} {l l' : Local} (R : ResX s) (hl : s.threads[t]? = some l)
    (hthr : s'.threads = s.threads.set t l')
    (hres : s'.resizing = true → s.resizing = true ∨ isXOf l' = true)
    (hX : isXOf l = true → isXOf l' = true ∨ s'.resizing = false) : ResX s' := by
  intro hr
  have hself : s'.threads[t]? = some l' := by
    rw [hthr, List.getElem?_set_self (List.getElem?_eq_some_iff.1 hl).1]
  rcases hres hr with h | h
  · obtain ⟨t1, l1, a, b⟩ := R h
    by_cases e : t1 = t
    · subst e
      rw [hl] at a; cases a
      rcases hX b with h2 | h2
      · exact ⟨t1, l', hself, h2⟩
      · rw [hr] at h2; cases h2
    · exact ⟨t1, l1, by rw [hthr, List.getElem?_set_ne (Ne.symm e)]; exact a, b⟩
  · exact ⟨t, l', hself, h⟩

theorem isXOf_of_call {pc : Pc} {c : Option Pending} (h : noCallPc pc = false) : isXOf ⟨pc, c⟩ = false := by
  cases pc <;> first | rfl | cases h

/-- a step after which `resizing` and the class of the acting thread are as before -/
theorem resX_same {s s' : State} {t : Nat} {l l' : Local} (R : ResX s) (hl : s.threads[t]? = some l)
    (hthr : s'.threads = s.threads.set t l') (hres : s'.resizing = s.resizing) (hx : isXOf l' = isXOf l) : ResX s' :=
  resX_frame R hl hthr (fun h => Or.inl (hres ▸ h)) (fun h => Or.inl (hx ▸ h))

theorem stepN_resX {s s' : State} {t : Nat} {l : Local} (R : ResX s) (hl : s.threads[t]? = some l)
    (h : StepN s t l s') : ResX s' := by
  obtain ⟨pc, call⟩ := l
  cases h with
  | resizeStart h _ => exact resX_frame R hl rfl (fun _ => Or.inr rfl) (fun _ => Or.inl rfl)
  | xcommit hc h => exact resX_frame R hl rfl (fun h => nomatch h) (fun _ => Or.inr rfl)
  | move _ _ _ _ hm | bmove _ _ _ _ hm =>
    exact resX_same R hl rfl rfl ((isXOf_of_call hm.callPcs.2).trans (isXOf_of_call hm.callPcs.1).symm)
  | kmove _ _ hc hm | kbmove _ _ hc hm => cases hc; cases hm <;> exact resX_same R hl rfl rfl rfl
  | fin _ _ _ _ hm | bfin _ _ _ _ hm =>
    exact resX_same (s' := finish _ t _ _) R hl rfl rfl (isXOf_of_call hm.callPcs).symm
  | invoke k op lo h => cases h; cases isReader op <;> exact resX_same R hl rfl rfl rfl
  | cas p g v vi hc h _ _ => cases h; exact resX_same (s' := finish _ t _ _) R hl rfl rfl rfl
  | store p g h pred hit hnext hc hpc =>
    cases hpc
    have hg := (Grows.tick s).trans (storeAt_shape _ g p pred hit hnext).1
    exact resX_same R hl (hg.set _ _) hg.resizing rfl
  | unlink p g b i res sm hc hpc =>
    cases hpc
    have hg := (Grows.tick s).trans (unlinkOf_grows _ b i).1
    cases sm <;> exact resX_same R hl (hg.set _ _) hg.resizing rfl
  | ybuild j b sm sm2 hc hpc =>
    cases hpc
    have hg := (Grows.tick s).trans (ysplitOf_grows _ b sm sm2).1
    exact resX_same R hl (hg.set _ _) hg.resizing rfl
  | idle h | maint _ h | tval _ _ _ _ _ _ _ h | prepend _ _ _ _ _ _ h _ | treeLink _ _ _ _ _ h
  | untree _ _ _ _ _ _ h | untreeify _ _ _ _ _ h | kbuild _ _ _ _ h | kstore _ _ _ _ _ h | xcasMoved _ _ h _
  | xbuild _ _ _ h | xstoreLow _ _ _ _ _ h | xstoreHigh _ _ _ _ h | xstoreMoved _ _ _ h =>
    cases h; exact resX_same R hl rfl rfl rfl

end Flurry.Proto.BinGN
