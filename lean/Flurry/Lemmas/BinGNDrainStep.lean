import Flurry.Lemmas.BinGNDrainCalm
import Flurry.Lemmas.BinGHeapSize
/-! # Proto/BinGN, termination: every transition is calm or disturbing

`stepN_effect`: every transition of a thread that is not `idle` is
* *calm* (`CalmEff`): the `View` and the heap length are unchanged, the thread's calm-step measure `pmV`
  strictly decreases, its `daV` and `growV` do not increase; or
* *disturbing* (`DistEff`): the thread's `daV` decreases by at least one; the heap keeps its length, or
  the thread's `growV` decreases by one and the heap length `n` becomes at most `4 * (n + 1) - 1`; the `WAITER` bit
  of a `TreeBin` is cleared only by the holder of its mutex.
The stores of the resizing thread: `Uv_putCell_moved` (forwarding a cell takes one off the count `Uv`;
`mvOf_putCell_other`: the child stores go to generation `cur + 1`).
Against `Lemmas/BinGDrainStep.lean`: `stepN_effect` is stated of the relation `StepN`, with what the scheduler's outcome
adds as hypotheses (`hpick`: the cell handed out at `xNext` is not yet forwarded; `hcas`: a reader's CAS that loops has
failed); `BinG.stepN_effect` takes `step … = some s'`. -/
namespace Flurry.Proto.BinGNP
open Flurry.Lin
open Flurry.Proto.BinK (binAt binAt_modify binAt_modify_self binAt_append_left)
open Flurry.Proto.BinGProg (le_of_eval lt_of_eval ite_lt_ite chainFrom_length_le copyChain_length)

theorem chainOfBin_length_le (s : State) (b : Nat) : (chainOfBin s b).length ≤ s.heap.length :=
  chainFrom_length_le _ _ _

theorem storeAt_heap_length (s : State) (tab : Nat) (p : Pending) (pred hit hnext : Option Nat) :
    (storeAt s tab p pred hit hnext).1.heap.length ≤ s.heap.length + 1 := by
  unfold storeAt
  cases p.op <;> cases hit <;> cases pred <;>
    simp only [setNode, setCell_heap, List.length_modify, List.length_append, List.length_singleton] <;> omega

theorem storeAt_tbins (s : State) (tab : Nat) (p : Pending) (pred hit hnext : Option Nat) :
    (storeAt s tab p pred hit hnext).1.tbins = s.tbins := by
  unfold storeAt
  cases p.op <;> cases hit <;> cases pred <;> simp only [setNode, setCell_tbins]

theorem unlinkOf_heap_length (s : State) (b i : Nat) : (unlinkOf s b i).heap.length = s.heap.length := by
  unfold unlinkOf
  split
  · show (List.modify _ _ _).length = _
    rw [List.length_modify]
  · rfl

theorem unlinkOf_waiter (s : State) (b i c : Nat) : (binAt (unlinkOf s b i).tbins c).waiter = (binAt s.tbins c).waiter := by
  unfold unlinkOf
  split
  · rfl
  · show (binAt (List.modify _ _ _) c).waiter = _
    rw [binAt_modify]; split <;> rfl

theorem untreeifyOf_heap_length (s : State) (tab : Nat) (k b : Nat) :
    (untreeifyOf s tab k b).heap.length ≤ 2 * s.heap.length := by
  unfold untreeifyOf
  rw [setCell_heap]
  dsimp only
  rw [copyChain_length]
  have := chainOfBin_length_le s b
  omega

theorem untreeifyOf_tbins (s : State) (tab : Nat) (k b : Nat) : (untreeifyOf s tab k b).tbins = s.tbins := by
  unfold untreeifyOf
  rw [setCell_tbins]

theorem buildOf_heap_length (s : State) (h : Nat) : (buildOf s h).heap.length ≤ 2 * s.heap.length := by
  unfold buildOf
  dsimp only
  rw [copyChain_length]
  have := chainFrom_length_le s.heap s.heap.length (some h)
  omega

theorem xsplitOf_heap_length (s : State) (h : Nat) : (xsplitOf s h).1.length ≤ 2 * s.heap.length := by
  rw [xsplitOf_eq]
  have h1 := BinGH.splitBinB_length (bitAt s.cur) s.heap (BinGH.chain s.heap s.tbins (.list h))
  have h2 := BinGH.chain_length_le s.heap s.tbins (.list h)
  show (BinGN.splitBinB (bitAt s.cur) s.heap (BinGH.chain s.heap s.tbins (.list h))).1.length ≤ _
  omega

theorem ysplitOf_size (s : State) (b : Nat) (small small2 : Bool) :
    (ysplitOf s b small small2).1.heap.length ≤ 3 * s.heap.length ∧
    ∃ ext, (ysplitOf s b small small2).1.tbins = s.tbins ++ ext := by
  rw [ysplitOf_eq]
  exact BinGH.ysplit_size (bitAt s.cur) s.heap s.tbins b small small2

theorem cellAt_of_tabs {X s : State} (hX : X.tabs = s.tabs) (id : Cid) : cellAt X id = cellAt s id := by
  unfold cellAt Flurry.Proto.BinGN.cellAt; rw [hX]

/-- forwarding cell `(cur, j)`, which was not forwarded, takes one cell off the count -/
theorem Uv_putCell_moved {s : State} (I : Inv s) (X : State) (hX : X.tabs = s.tabs) (hXc : X.cur = s.cur) {j : Nat}
    (hj : j < 2 ^ s.cur) (hnm : cellAt s (s.cur, j) ≠ .moved) :
    Uv (viewOf (putCell X s.cur j .moved)) = U1 (viewOf s) j := by
  have hu : umv (viewOf s) j = true := by
    show (decide (j < 2 ^ s.cur) && !(cellAt s (s.cur, j) == .moved)) = true
    simp [hj, hnm]
  have h1 := U1_add_one hu
  have hlen := I.rsz.len
  obtain ⟨row, hrow, hrl⟩ := I.rsz.row_of_lt (g := s.cur) (by omega)
  have hcell : ∀ i, cellAt (putCell X s.cur j .moved) (s.cur, i) = if i = j then .moved else cellAt s (s.cur, i) := by
    intro i
    rw [cellAt_putCell X .moved (by rw [hX]; exact hrow) (by rw [hrl]; exact hj), cellAt_of_tabs hX]
    by_cases hi : i = j
    · rw [if_pos hi, if_pos (by rw [hi])]
    · rw [if_neg hi, if_neg (fun e => hi (Prod.mk.inj e).2)]
  have : Uv (viewOf (putCell X s.cur j .moved)) + 1 = Uv (viewOf s) := by
    show cntU (mvOf (viewOf (putCell X s.cur j .moved))) (2 ^ X.cur) + 1 = cntU (mvOf (viewOf s)) (2 ^ s.cur)
    rw [hXc]
    refine cntU_mark (j := j) ?_ ?_ ?_ _ hj
    · show (cellAt s (s.cur, j) == .moved) = false
      simp [hnm]
    · show (cellAt (putCell X s.cur j .moved) (X.cur, j) == .moved) = true
      rw [hXc, hcell, if_pos rfl]; rfl
    · intro i hi
      show (cellAt (putCell X s.cur j .moved) (X.cur, i) == .moved) = (cellAt s (s.cur, i) == .moved)
      rw [hXc, hcell, if_neg hi]
  omega

theorem mvOf_putCell_other {s : State} (X : State) (hX : X.tabs = s.tabs) (hXc : X.cur = s.cur) {g : Nat}
    (hg : g ≠ s.cur) (j : Nat) (c : Cell) :
    (viewOf (putCell X g j c)).cur = (viewOf s).cur ∧ mvOf (viewOf (putCell X g j c)) = mvOf (viewOf s) := by
  refine ⟨hXc, ?_⟩
  funext i
  show (cellAt (putCell X g j c) (X.cur, i) == .moved) = (cellAt s (s.cur, i) == .moved)
  rw [cellAt_putCell_ne X c (by rw [hXc]; intro e; exact hg (Prod.mk.inj e).1.symm), cellAt_of_tabs hX, hXc]

theorem mvOf_putCell_nm {s : State} (X : State) (hX : X.tabs = s.tabs) (hXc : X.cur = s.cur) {g j : Nat} {c : Cell}
    (hnm : cellAt s (g, j) ≠ .moved) (hc : c ≠ .moved) :
    (viewOf (putCell X g j c)).cur = (viewOf s).cur ∧ mvOf (viewOf (putCell X g j c)) = mvOf (viewOf s) := by
  refine ⟨hXc, ?_⟩
  funext i
  show (cellAt (putCell X g j c) (X.cur, i) == .moved) = (cellAt s (s.cur, i) == .moved)
  rw [hXc]
  by_cases hi : (s.cur, i) = (g, j)
  · rw [hi]
    have h2 : (cellAt s (g, j) == .moved) = false := by simp [hnm]
    rw [h2]
    rcases cellAt_putCell_self_or X g j c with h | h
    · rw [h]; simp [hc]
    · rw [h, cellAt_of_tabs hX]; exact h2
  · rw [cellAt_putCell_ne X c hi, cellAt_of_tabs hX]

theorem splitSide_tabs_cur (s : State) (b : Nat) (c : List Nat) (small reuse : Bool) :
    (splitSide s b c small reuse).1.tabs = s.tabs ∧ (splitSide s b c small reuse).1.cur = s.cur := by
  have h := splitSide_frame s b c small reuse
  exact ⟨by rw [h], by rw [h]⟩

theorem ysplitOf_tabs_cur (s : State) (b : Nat) (small small2 : Bool) :
    (ysplitOf s b small small2).1.tabs = s.tabs ∧ (ysplitOf s b small small2).1.cur = s.cur := by
  unfold ysplitOf
  dsimp only
  have h1 := splitSide_tabs_cur s b (lowOf s b) small (highOf s b).isEmpty
  have h2 := splitSide_tabs_cur (splitSide s b (lowOf s b) small (highOf s b).isEmpty).1 b (highOf s b) small2
    (lowOf s b).isEmpty
  exact ⟨h2.1.trans h1.1, h2.2.trans h1.2⟩

theorem mvOf_of_tabs {s s' : State} (ht : s'.tabs = s.tabs) (hc : s'.cur = s.cur) :
    (viewOf s').cur = (viewOf s).cur ∧ mvOf (viewOf s') = mvOf (viewOf s) := by
  refine ⟨hc, ?_⟩
  funext i
  show (cellAt s' (s'.cur, i) == .moved) = (cellAt s (s.cur, i) == .moved)
  rw [cellAt_of_tabs ht, hc]

structure CalmEff (L : Nat) (s s' : State) (t : Nat) (l l' : Local) : Prop where
  thr : s'.threads = s.threads.set t l'
  view : viewOf s' = viewOf s
  hlen : s'.heap.length = s.heap.length
  grow : growV (viewOf s) l' ≤ growV (viewOf s) l
  da : daV (viewOf s) l' ≤ daV (viewOf s) l
  pm : pmV L (viewOf s) l' < pmV L (viewOf s) l

def KeepW (s : State) (pc : Pc) (tb : List TBin) : Prop :=
  ∀ b, b < s.tbins.length → (binAt s.tbins b).waiter = true → (binAt tb b).waiter = true ∨ holdsMutex pc = some b

structure DistEff (s s' : State) (t : Nat) (l l' : Local) : Prop where
  thr : s'.threads = s.threads.set t l'
  hlen : (s'.heap.length = s.heap.length ∧ growV (viewOf s') l' ≤ growV (viewOf s) l) ∨
    (s'.heap.length + 1 ≤ 4 * (s.heap.length + 1) ∧ growV (viewOf s') l' + 1 ≤ growV (viewOf s) l)
  da : daV (viewOf s') l' + 1 ≤ daV (viewOf s) l
  keep : KeepW s l.pc s'.tbins

theorem KeepW.refl (s : State) (pc : Pc) : KeepW s pc s.tbins := fun _ _ h => .inl h

theorem KeepW.append (s : State) (pc : Pc) (ext : List TBin) : KeepW s pc (s.tbins ++ ext) :=
  fun b hb h => .inl (by rw [binAt_append_left _ hb]; exact h)

theorem KeepW.modify {s : State} {pc : Pc} (b0 : Nat) (f : TBin → TBin)
    (hf : ∀ x, x.waiter = true → (f x).waiter = true ∨ holdsMutex pc = some b0) : KeepW s pc (s.tbins.modify b0 f) := by
  intro b hb hw
  rw [binAt_modify]
  split
  · rename_i h
    obtain ⟨rfl, _⟩ := h
    exact hf _ hw
  · exact .inl hw

structure DistOn (s X : State) (l l' : Local) : Prop where
  thr : X.threads = s.threads
  hlen : (X.heap.length = s.heap.length ∧ growV (viewOf X) l' ≤ growV (viewOf s) l) ∨
    (X.heap.length + 1 ≤ 4 * (s.heap.length + 1) ∧ growV (viewOf X) l' + 1 ≤ growV (viewOf s) l)
  da : daV (viewOf X) l' + 1 ≤ daV (viewOf s) l
  keep : KeepW s l.pc X.tbins

theorem DistOn.setT {s X : State} {l l' : Local} {t : Nat} (d : DistOn s X l l') : DistEff s (setT X t l') t l l' :=
  ⟨by rw [← d.thr]; rfl, d.hlen, d.da, d.keep⟩

theorem DistOn.finish {s X : State} {l : Local} {t : Nat} {p : Pending} {res : KRes} (d : DistOn s X l ⟨.idle, none⟩) :
    DistEff s (finish X t p res) t l ⟨.idle, none⟩ :=
  ⟨by rw [← d.thr]; rfl, d.hlen, d.da, d.keep⟩

/-- the resizing thread's store into a cell, or its commit: heap and `TreeBin`s are as before -/
theorem DistEff.cellOnly {s s' : State} {t : Nat} {l l' : Local} (ht : s'.threads = s.threads.set t l')
    (hh : s'.heap = s.heap) (htb : s'.tbins = s.tbins) (hg : growV (viewOf s') l' ≤ growV (viewOf s) l)
    (hda : daV (viewOf s') l' + 1 ≤ daV (viewOf s) l) : DistEff s s' t l l' :=
  ⟨ht, .inl ⟨by rw [hh], hg⟩, hda, by rw [htb]; exact KeepW.refl s l.pc⟩

theorem putCell_setT_frame (s : State) (t : Nat) (l' : Local) (g j : Nat) (c : Cell) :
    (putCell (setT (tick s) t l') g j c).threads = s.threads.set t l' ∧
    (putCell (setT (tick s) t l') g j c).heap = s.heap ∧ (putCell (setT (tick s) t l') g j c).tbins = s.tbins := by
  cases s; exact ⟨rfl, rfl, rfl⟩

theorem stepN_effect {s s' : State} {t : Nat} {l : Local} (I : Inv s) (hl : s.threads[t]? = some l)
    (hne : l.pc ≠ .idle) {L : Nat} (hL : s.heap.length ≤ L)
    (hpick : ∀ j, l.pc = .xNext → (∃ call, s'.threads[t]? = some ⟨.xCell j, call⟩) → umv (viewOf s) j = true)
    (hcas : ∀ b c r, l.pc = .rCas b c r → (∃ call, s'.threads[t]? = some ⟨.rState b (some c), call⟩) →
      casOk s b r = false)
    (hk : StepN s t l s') : ∃ l', CalmEff L s s' t l l' ∨ DistEff s s' t l l' := by
  have href := I.lock.refOK t l
  -- for `omega` in the allocating cases, whose size lemmas speak of `(tick s).heap`
  have htk : (tick s).heap.length = s.heap.length := rfl
  obtain ⟨pc, call⟩ := l
  cases hk with
  | idle hpc | maint _ hpc | resizeStart hpc _ | invoke _ _ _ hpc => exact absurd hpc hne
  | move p pc' hp hc hm =>
    cases hc
    obtain ⟨_, hg, hd⟩ := hm.grow_da (viewOf s) (some p)
    obtain ⟨hv, hln⟩ := view_setT_lock hm.lockKind ⟨pc', some p⟩
    refine ⟨⟨pc', some p⟩, .inl ⟨rfl, hv, hln, hg, hd, hm.calm I.heap hL (fun b c r e => hcas b c r e ?_)⟩⟩
    subst e
    cases hm
    exact ⟨some p, Flurry.Proto.BinK.get_set_self hl⟩
  | kmove pc' hp hc hm =>
    cases hc
    have hpk : ∀ j, pc = .xNext → pc' = .xCell j → umv (viewOf s) j = true := fun j e1 e2 =>
      hpick j e1 ⟨none, by subst e2; exact Flurry.Proto.BinK.get_set_self hl⟩
    obtain ⟨hg, hd⟩ := hm.grow_da hpk none
    obtain ⟨hv, hln⟩ := view_setT_lock hm.lockKind ⟨pc', none⟩
    exact ⟨⟨pc', none⟩, .inl ⟨rfl, hv, hln, hg, hd, hm.calm hpk L⟩⟩
  | kbmove pc' tb hc hm =>
    cases hc
    obtain ⟨_, ⟨b, x, rfl⟩, hg, hd, hpm⟩ := hm.calm L
    obtain ⟨hv, hln⟩ := view_setT_mutex s b x t ⟨pc', none⟩
    exact ⟨⟨pc', none⟩, .inl ⟨rfl, hv, hln, hg, hd, hpm⟩⟩
  | fin p res hp hc hf =>
    cases hc
    obtain ⟨hv, hln⟩ := view_finish_lock (t := t) hf.lockKind p res
    exact ⟨⟨.idle, none⟩, .inl ⟨rfl, hv, hln, Nat.zero_le _, Nat.zero_le _, hf.pm_pos L _ _⟩⟩
  | bmove p pc' tb hc hm =>
    cases hc
    cases hm with
    | @rCasOk b c r _ _ _ =>
      exact ⟨_, .inr (DistOn.setT ⟨rfl, .inl ⟨rfl, le_of_eval rfl⟩, le_of_eval rfl, .modify _ _ fun _ h => .inl h⟩)⟩
    | @rRelVal b i _ =>
      exact ⟨_, .inr (DistOn.setT ⟨rfl, .inl ⟨rfl, le_of_eval rfl⟩, le_of_eval rfl, .modify _ _ fun _ h => .inl h⟩)⟩
    | @tMutex tab b hmx =>
      obtain ⟨hv, hln⟩ := view_setT_mutex s b (some t) t ⟨.tCheck tab b, some p⟩
      exact ⟨_, .inl ⟨rfl, hv, hln, le_of_eval rfl, le_of_eval rfl,
        ite_lt_ite (lt_of_eval rfl) (Nat.add_lt_add_right (lt_of_eval rfl) _)⟩⟩
    | @tUnlockMRetry tab b res =>
      obtain ⟨hv, hln⟩ := view_setT_mutex s b none t ⟨.wCell tab, some p⟩
      exact ⟨_, .inl ⟨rfl, hv, hln, le_of_eval rfl, le_of_eval rfl, Nat.lt_add_of_pos_left (Nat.succ_pos 0)⟩⟩
    | @lrTryOk tab b k res _ _ _ =>
      exact ⟨_, .inr (DistOn.setT ⟨rfl, .inl ⟨rfl, by cases k <;> exact le_of_eval rfl⟩,
        by cases k <;> exact le_of_eval rfl, .modify _ _ fun _ h => .inl h⟩)⟩
    | @lrLoopOk tab b k res _ _ =>
      exact ⟨_, .inr (DistOn.setT ⟨rfl, .inl ⟨rfl, by cases k <;> exact le_of_eval rfl⟩,
        by cases k <;> exact Nat.le_add_right 4 _, .modify _ _ fun _ _ => .inr rfl⟩)⟩
    | @lrLoopWait tab b k res hwt =>
      have hb : b < s.tbins.length := (href b hl rfl).1
      refine ⟨_, .inr (DistOn.setT ⟨rfl, .inl ⟨rfl, Nat.le_refl _⟩, ?_, .modify _ _ fun _ _ => .inl rfl⟩)⟩
      show 4 + (if (binAt (s.tbins.modify b (fun x => { x with waiter := true })) b).waiter = true then 0 else 1) + 1 ≤
        4 + (if (binAt s.tbins b).waiter = true then 0 else 1)
      rw [binAt_modify_self _ hb, hwt]
      exact Nat.le_refl _
    | @unlockRoot tab b res =>
      exact ⟨_, .inr (DistOn.setT ⟨rfl, .inl ⟨rfl, le_of_eval rfl⟩, le_of_eval rfl, .modify _ _ fun _ _ => .inr rfl⟩)⟩
  | bfin p res tb hc hf =>
    cases hc
    cases hf with
    | @rRelNone b =>
      exact ⟨_, .inr (DistOn.finish ⟨rfl, .inl ⟨rfl, le_of_eval rfl⟩, le_of_eval rfl, .modify _ _ fun _ h => .inl h⟩)⟩
    | @rRelHas b i _ =>
      exact ⟨_, .inr (DistOn.finish ⟨rfl, .inl ⟨rfl, le_of_eval rfl⟩, le_of_eval rfl, .modify _ _ fun _ h => .inl h⟩)⟩
    | @tUnlockMFin tab b res =>
      obtain ⟨hv, hln⟩ := view_finish_mutex s b none t p res
      exact ⟨⟨.idle, none⟩, .inl ⟨rfl, hv, hln, Nat.zero_le _, Nat.zero_le _, Nat.succ_pos 0⟩⟩
  | cas p tab v vi hc hpc he hop =>
    cases hpc
    refine ⟨_, .inr (DistOn.finish ⟨setCell_threads _ _ _ _, .inr ⟨?_, le_of_eval rfl⟩, le_of_eval rfl, ?_⟩)⟩
    · rw [setCell_heap]
      show (s.heap ++ [_]).length + 1 ≤ _
      rw [List.length_append, List.length_singleton]; omega
    · rw [setCell_tbins]; exact .refl s _
  | store p tab h pred hit hnext hc hpc =>
    cases hpc
    refine ⟨_, .inr (DistOn.setT ⟨(storeAt_frame (tick s) tab p pred hit hnext).1, .inr ⟨?_, le_of_eval rfl⟩,
      le_of_eval rfl, ?_⟩)⟩
    · have := storeAt_heap_length (tick s) tab p pred hit hnext
      omega
    · rw [storeAt_tbins]; exact .refl s _
  | tval p tab b i v res hc hpc =>
    cases hpc
    exact ⟨_, .inr (DistOn.setT ⟨rfl, .inl ⟨List.length_modify .., le_of_eval rfl⟩, le_of_eval rfl, .refl s _⟩)⟩
  | prepend p tab b v vi hc hpc hop =>
    cases hpc
    refine ⟨_, .inr (DistOn.setT ⟨rfl, .inr ⟨?_, le_of_eval rfl⟩, le_of_eval rfl, .modify _ _ fun _ h => .inl h⟩)⟩
    show (s.heap ++ [_]).length + 1 ≤ _
    rw [List.length_append, List.length_singleton]; omega
  | treeLink p tab b x hc hpc =>
    cases hpc
    exact ⟨_, .inr (DistOn.setT ⟨rfl, .inl ⟨List.length_modify .., le_of_eval rfl⟩, le_of_eval rfl, .refl s _⟩)⟩
  | unlink p tab b i res small hc hpc =>
    cases hpc
    refine ⟨_, .inr (DistOn.setT ⟨(unlinkOf_frame (tick s) b i).1, .inl ⟨unlinkOf_heap_length (tick s) b i, ?_⟩, ?_,
      fun c _ h => .inl ((unlinkOf_waiter (tick s) b i c).trans h)⟩)⟩
    · cases small <;> exact le_of_eval rfl
    · cases small <;> exact le_of_eval rfl
  | untree p tab b i res hc hpc =>
    cases hpc
    exact ⟨_, .inr (DistOn.setT ⟨rfl, .inl ⟨List.length_modify .., le_of_eval rfl⟩, le_of_eval rfl, .refl s _⟩)⟩
  | untreeify p tab b res hc hpc =>
    cases hpc
    refine ⟨_, .inr (DistOn.setT ⟨(untreeifyOf_frame (tick s) tab p.key b).1, .inr ⟨?_, le_of_eval rfl⟩,
      le_of_eval rfl, ?_⟩)⟩
    · have := untreeifyOf_heap_length (tick s) tab p.key b
      omega
    · rw [untreeifyOf_tbins]; exact .refl s _
  | kbuild tab k h hc hpc =>
    cases hpc
    refine ⟨_, .inr (DistOn.setT ⟨rfl, .inr ⟨?_, le_of_eval rfl⟩, le_of_eval rfl, .append s _ _⟩)⟩
    have := buildOf_heap_length (tick s) h
    omega
  | kstore tab k h b hc hpc =>
    cases hpc
    exact ⟨_, .inr (DistOn.setT ⟨setCell_threads _ _ _ _, .inl ⟨congrArg _ (setCell_heap ..), le_of_eval rfl⟩,
      le_of_eval rfl, by rw [setCell_tbins]; exact .refl s _⟩)⟩
  | xbuild j h hc hpc =>
    cases hpc
    -- the copy leaves the cells alone
    have hU := (U1_congr (v := viewOf s) (v' := viewOf (qst s (xsplitOf s h).1 s.tbins)) rfl rfl j).1
    refine ⟨_, .inr (DistOn.setT ⟨rfl, .inr ⟨?_, Nat.le_of_eq (congrArg (· + 1) hU)⟩,
      Nat.le_of_eq (congrArg (4 * · + 4 + 1) hU), .refl s _⟩)⟩
    have := xsplitOf_heap_length s h
    show (xsplitOf s h).1.length + 1 ≤ _
    omega
  | ybuild j b small small2 hc hpc =>
    cases hpc
    obtain ⟨hsz, ext, htb⟩ := ysplitOf_size (tick s) b small small2
    have htc := ysplitOf_tabs_cur (tick s) b small small2
    have hmv := mvOf_of_tabs (s := s) (s' := (ysplitOf (tick s) b small small2).1) htc.1 htc.2
    have hU := (U1_congr hmv.1 hmv.2 j).1
    refine ⟨_, .inr (DistOn.setT ⟨(ysplitOf_frame (tick s) b small small2).1,
      .inr ⟨by omega, Nat.le_of_eq (congrArg (· + 1) hU)⟩, Nat.le_of_eq (congrArg (4 * · + 4 + 1) hU), ?_⟩)⟩
    rw [htb]; exact .append s _ ext
  | xcasMoved j hc hpc h0 =>
    cases hpc
    have hj := I.rsz.idx t _ j hl rfl
    have hnm : cellAt s (s.cur, j) ≠ .moved := by rw [h0]; nofun
    have hU := Uv_putCell_moved I (setT (tick s) t ⟨.xNext, call⟩) rfl rfl hj hnm
    obtain ⟨f1, f2, f3⟩ := putCell_setT_frame s t ⟨.xNext, call⟩ s.cur j .moved
    refine ⟨⟨.xNext, call⟩, .inr (.cellOnly f1 f2 f3 ?_ ?_)⟩
    · show Uv _ ≤ U1 (viewOf s) j + 1
      rw [hU]; exact Nat.le_succ _
    · show 4 * Uv _ + 1 + 1 ≤ 4 * U1 (viewOf s) j + 5
      rw [hU]; omega
  | xstoreLow j unl lo hi hc hpc =>
    cases hpc
    have hmv := mvOf_putCell_other (s := s) (setT (tick s) t ⟨.xStoreHigh j unl hi, call⟩) rfl rfl
      (g := s.cur + 1) (Nat.succ_ne_self _) j lo
    have hU := (U1_congr hmv.1 hmv.2 j).1
    obtain ⟨f1, f2, f3⟩ := putCell_setT_frame s t ⟨.xStoreHigh j unl hi, call⟩ (s.cur + 1) j lo
    exact ⟨⟨.xStoreHigh j unl hi, call⟩, .inr (.cellOnly f1 f2 f3 (Nat.le_of_eq hU)
      (Nat.le_of_eq (congrArg (4 * · + 3 + 1) hU)))⟩
  | xstoreHigh j unl hi hc hpc =>
    cases hpc
    have hmv := mvOf_putCell_other (s := s) (setT (tick s) t ⟨.xStoreMoved j unl, call⟩) rfl rfl
      (g := s.cur + 1) (Nat.succ_ne_self _) (j + 2 ^ s.cur) hi
    have hU := (U1_congr hmv.1 hmv.2 j).1
    obtain ⟨f1, f2, f3⟩ := putCell_setT_frame s t ⟨.xStoreMoved j unl, call⟩ (s.cur + 1) (j + 2 ^ s.cur) hi
    exact ⟨⟨.xStoreMoved j unl, call⟩, .inr (.cellOnly f1 f2 f3 (Nat.le_of_eq hU)
      (Nat.le_of_eq (congrArg (4 * · + 2 + 1) hU)))⟩
  | xstoreMoved j unl hc hpc =>
    cases hpc
    have hj := I.rsz.idx t _ j hl rfl
    have hnm : cellAt s (s.cur, j) ≠ .moved := I.rsz.pre t _ j hl rfl rfl
    have hU := Uv_putCell_moved I (setT (tick s) t ⟨.xUnlock unl, call⟩) rfl rfl hj hnm
    obtain ⟨f1, f2, f3⟩ := putCell_setT_frame s t ⟨.xUnlock unl, call⟩ s.cur j .moved
    exact ⟨⟨.xUnlock unl, call⟩, .inr (.cellOnly f1 f2 f3 (Nat.le_of_eq hU)
      (Nat.le_of_eq (congrArg (4 * · + 1 + 1) hU)))⟩
  | xcommit hc hpc =>
    cases hpc
    exact ⟨⟨.idle, call⟩, .inr (.cellOnly (by cases s; rfl) (by cases s; rfl) (by cases s; rfl) (Nat.le_refl _)
      (Nat.le_refl _))⟩

end Flurry.Proto.BinGNP
