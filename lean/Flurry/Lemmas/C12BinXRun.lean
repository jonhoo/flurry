import Flurry.Lemmas.C12BinX
/-! # C12 for a list bin under resize: a reader's step is always enabled and makes progress (Proto/BinX)

`mu s pc` bounds the number of steps a reader at `pc` still takes when it runs alone from `s`:
load the table pointer, load the old cell, at most **one** forwarding hop (the new cells never hold
the marker, `RInv`), load the new cell, then one step per node of the chain it stands on, which is
finite and acyclic (`NextOK`: `next` strictly increases the rank `ord` — also through the copies a
transfer in progress has made and through the re-used last run) and therefore no longer than the
heap; one last step at the end of the chain. -/
namespace Flurry.Proto.BinX
open Flurry.Lin

/-- the number of nodes a walk that starts at `st` visits -/
def walkLen (heap : List NodeS) (st : Option Nat) : Nat := (chainFrom heap heap.length st).length

theorem walk_isChain {cr : CR} {heap : List NodeS} (hok : NextOK cr heap) {st : Option Nat}
    (hst : ∀ i, st = some i → i < heap.length) : IsChain heap st (chainFrom heap heap.length st) := by
  have h := chainH_isChain (ranked_ord _) hok (c := cellOfHead st) (by
    intro h e
    cases st with
    | none => cases e
    | some i => cases e; exact hst _ rfl)
  unfold chainH at h
  rw [cellHead_cellOfHead] at h
  exact h

theorem walkLen_none (heap : List NodeS) : walkLen heap none = 0 := by
  unfold walkLen; cases heap.length <;> rfl

theorem walkLen_le {cr : CR} {heap : List NodeS} (hok : NextOK cr heap) {st : Option Nat}
    (hst : ∀ i, st = some i → i < heap.length) : walkLen heap st ≤ heap.length := by
  have h := walk_isChain hok hst
  exact length_le_of_nodup_lt (h.nodup hok) h.lt_length

/-- one `next` hop shortens the walk by one node -/
theorem walkLen_step {cr : CR} {heap : List NodeS} (hok : NextOK cr heap) {c : Nat} {n : NodeS}
    (hn : heap[c]? = some n) : walkLen heap (some c) = walkLen heap n.next + 1 := by
  have hc : c < heap.length := (List.getElem?_eq_some_iff.1 hn).1
  have h := walk_isChain hok (st := some c) (by intro i e; cases e; exact hc)
  have hlen := length_le_of_nodup_lt (h.nodup hok) h.lt_length
  unfold walkLen
  cases hL : chainFrom heap heap.length (some c) with
  | nil => rw [hL] at h; cases h
  | cons a l' =>
    rw [hL] at h hlen
    obtain ⟨ha, n', hn', hs⟩ := IsSeg.cons_iff.1 h
    cases ha
    rw [hn] at hn'
    cases hn'
    rw [chainFrom_eq_of_isChain hs (by simp only [List.length_cons] at hlen; omega)]
    rfl

/-- an upper bound on the number of own steps a reader at `pc` still needs in `s` -/
def mu (s : State) : Pc → Nat
  | .rTable => s.heap.length + 4
  | .rCell .old => s.heap.length + 3
  | .rCell .new => s.heap.length + 2
  | .rNode st => walkLen s.heap st + 1
  | _ => 0

/-- the bound of C12 for a list bin under resize: an explicit function of the heap size only -/
def soloBound (s : State) : Nat := s.heap.length + 4

theorem mu_congr {s s1 : State} (h : s1.heap = s.heap) (pc : Pc) : mu s1 pc = mu s pc := by
  unfold mu
  rw [h]

theorem mu_pos {s : State} {pc : Pc} (hr : readerPc pc = true) : 0 < mu s pc := by
  cases pc with
  | rTable | rNode _ => exact Nat.succ_pos _
  | rCell tab => cases tab <;> exact Nat.succ_pos _
  | _ => cases hr

/-- the result of one step of a reader `t` (call `p`, at `pc`) from `s`: it has returned, or it is at
a reader pc with a smaller measure; the history is untouched unless it returned -/
def Outcome (s : State) (t : Nat) (p : Pending) (pc : Pc) (s' : State) : Prop :=
  (s'.threads[t]? = some { pc := .idle, call := none } ∧
    ∃ res, s'.hist = (p.key, { tid := t, op := p.op, res := res, inv := p.inv, resp := s.now + 1 }) :: s.hist) ∨
  (∃ pc', s'.threads[t]? = some { pc := pc', call := some p } ∧ readerPc pc' = true ∧ s'.hist = s.hist ∧
    mu s' pc' < mu s pc)

theorem Outcome.fin {s s1 : State} {t : Nat} {l : Local} {p : Pending} {pc : Pc} (hl : s.threads[t]? = some l)
    (ht : s1.threads = s.threads) (hh : s1.hist = s.hist) (hn : s1.now = s.now + 1) (res : KRes) :
    Outcome s t p pc (finish s1 t p res) := by
  left
  refine ⟨?_, res, ?_⟩
  · show (s1.threads.set t _)[t]? = _
    rw [ht]; exact get_set_self hl
  · show (p.key, _) :: s1.hist = _
    rw [hh, hn]

theorem Outcome.move {s s1 : State} {t : Nat} {l : Local} {p : Pending} {pc : Pc} (hl : s.threads[t]? = some l)
    (pc' : Pc) (ht : s1.threads = s.threads.set t { pc := pc', call := some p }) (hh : s1.hist = s.hist)
    (hr : readerPc pc' = true) (hheap : s1.heap = s.heap) (hmu : mu s pc' < mu s pc) : Outcome s t p pc s1 := by
  right
  refine ⟨pc', ?_, hr, hh, by rw [mu_congr hheap]; exact hmu⟩
  rw [ht]; exact get_set_self hl

/-- **one step of a reader**: enabled, and it returns or gets closer to returning — in every reachable
state, for every choice of the scheduler's arguments. The normal form `StepK` says what a step is if there is one, not
that there is one: the proof goes through the reader's branches of `stepG` itself. -/
theorem reader_step {n : Nat} {s : State} (hr : Reachable n s) {t : Nat} {l : Local}
    (hl : s.threads[t]? = some l) (hrd : readerPc l.pc = true) (inv : Option (Nat × KOp)) (rz : Bool) :
    ∃ p s', l.call = some p ∧ step s t inv rz = some s' ∧ Outcome s t p l.pc s' := by
  obtain ⟨g, I⟩ := reachable_inv hr
  have R := reachable_rinv hr
  have hb := R.bound t l
  obtain ⟨pc, call⟩ := l
  have hcs : call.isSome = true := (I.thr.callOK t _ hl).1 (by
    cases pc with
    | rTable | rCell _ | rNode _ => trivial
    | _ => cases hrd)
  cases call with
  | none => cases hcs
  | some p =>
  suffices h : ∃ s', stepG true s t inv rz = some s' ∧ Outcome s t p pc s' by
    obtain ⟨s', h1, h2⟩ := h
    exact ⟨p, s', rfl, h1, h2⟩
  unfold stepG
  rw [hl]
  cases pc with
  | rTable =>
    refine ⟨_, rfl, ?_⟩
    refine Outcome.move hl (.rCell s.cur) rfl rfl rfl rfl ?_
    show mu s (.rCell s.cur) < s.heap.length + 4
    cases s.cur <;> exact Nat.add_lt_add_left (by decide) _
  | rCell tab =>
    change ∃ s', (match cellOf (tick s) tab p.key with | .empty => _ | .moved => _ | .node h => _) = some s' ∧ _
    rw [show cellOf (tick s) tab p.key = cellOf s tab p.key by cases tab <;> rfl]
    cases hc : cellOf s tab p.key with
    | empty => exact ⟨_, rfl, Outcome.fin (s1 := { s with now := s.now + 1 }) hl rfl rfl rfl _⟩
    | moved =>
      refine ⟨_, rfl, ?_⟩
      refine Outcome.move hl (.rCell .new) rfl rfl rfl rfl ?_
      cases tab with
      | old => exact Nat.lt_succ_self _
      | new =>
        exfalso
        unfold cellOf at hc
        dsimp only at hc
        split at hc
        · exact R.highNM hc
        · exact R.lowNM hc
    | node h =>
      refine ⟨_, rfl, ?_⟩
      refine Outcome.move hl (.rNode (some h)) rfl rfl rfl rfl ?_
      have hh : h < s.heap.length := by
        rw [cellOf_eq] at hc
        exact I.heap.headOK _ _ hc
      have := walkLen_le I.heap.nextOK (st := some h) (by intro i e; cases e; exact hh)
      show walkLen s.heap (some h) + 1 < mu s (.rCell tab)
      cases tab <;> exact Nat.lt_of_le_of_lt (Nat.succ_le_succ this) (Nat.add_lt_add_left (by decide) _)
  | rNode cur =>
    cases cur with
    | none => exact ⟨_, rfl, Outcome.fin (s1 := { s with now := s.now + 1 }) hl rfl rfl rfl _⟩
    | some c =>
      have hc : c < s.heap.length := hb c hl rfl
      have hn : s.heap[c]? = some s.heap[c] := List.getElem?_eq_getElem hc
      change ∃ s', (match s.heap[c]? with | none => none | some n => _) = some s' ∧ _
      rw [hn]
      change ∃ s', (if (s.heap[c].key == p.key) = true then _ else _) = some s' ∧ _
      by_cases hk : (s.heap[c].key == p.key) = true
      · rw [if_pos hk]
        exact ⟨_, rfl, Outcome.fin (s1 := { s with now := s.now + 1 }) hl rfl rfl rfl _⟩
      · rw [if_neg hk]
        refine ⟨_, rfl, ?_⟩
        refine Outcome.move hl (.rNode s.heap[c].next) rfl rfl rfl rfl ?_
        show walkLen s.heap s.heap[c].next + 1 < walkLen s.heap (some c) + 1
        rw [walkLen_step I.heap.nextOK hn]
        exact Nat.lt_succ_self _
  | _ => cases hrd

theorem mu_le_soloBound {n : Nat} {s : State} (hr : Reachable n s) {t : Nat} {l : Local}
    (hl : s.threads[t]? = some l) : mu s l.pc ≤ soloBound s := by
  obtain ⟨g, I⟩ := reachable_inv hr
  have R := reachable_rinv hr
  obtain ⟨pc, call⟩ := l
  cases pc with
  | rTable => exact Nat.le_refl _
  | rCell tab => cases tab <;> exact Nat.add_le_add_left (by decide) _
  | rNode cur =>
    have := walkLen_le I.heap.nextOK (st := cur) (by intro i e; exact R.bound t _ i hl (by rw [e]))
    exact Nat.succ_le_succ (Nat.le_trans this (Nat.le_add_right _ 3))
  | _ => exact Nat.zero_le _

end Flurry.Proto.BinX
