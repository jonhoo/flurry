import Flurry.Lemmas.BinGEmbedMain
import Flurry.Lemmas.BinGLock
import Flurry.Lemmas.BinGGhostL
/-! # Proto/BinG: what holds of every reachable state, in BinG's own terms

BinG is BinGN restricted to generations 0 and 1 (`Lemmas/BinGEmbed*.lean`): the bundle `BinGNP.Bundle` of BinGNP's
invariants (`Lemmas/BinGNPBundle.lean`) and BinGNP's ghost invariant hold of the image `emb s` of every reachable state
(`BinGE.reachable_bundle`, `BinGE.reachable_ginv_emb`, `Lemmas/BinGEmbedMain.lean`), and `BinGE.bundle_step` reads
BinGNP's step lemmas between the images. Here the consequences in BinG's own terms:
* `reachable_inv`: BinG's `Inv`, read off the image clause by clause;
* `binG_linearizable_ext` (`Props/C01BinG.lean` states it as `binG_linearizable`): the history of the image is the
  history of `s`, the abstract states agree; `binG_linearizable_quiescent_aux` is its quiescent case;
* `nocall_abs_invariant`, `step_heap_le` (for `Lemmas/BinGProgReach.lean`): a thread without a call changes no abstract
  state, the heap only grows;
* `quiescent_tree_eq_list_aux` (C06): tree = list for a `TreeBin` in a cell at quiescence.
BinG's ghost invariant `GInv` in its own terms, whose `Foreign` says more than BinGNP's, is not established for
reachable states; its consequence `GInv.linearizable` is in `Lemmas/BinGGhostL.lean`.
Linearization points (BinGNP's): list form — the single store at `wStore` (also for a writer that changes nothing), the
CAS at `wCas`, the load of the empty cell at `wCell` for a writer that changes nothing; tree form — `tVal`,
`tPrependLocked`, `tUnlinkLocked`, `tFind` for a writer that changes nothing; tree readers at `rTree` (they hold a read
lock of a `TreeBin` whose `writer` flag is clear); list walkers in hindsight (`RdOK`).
The conversions (`kBuild`, `kStore`, `tUntreeify`) and the transfer (`xStoreLow`, `xStoreHigh`, `xStoreMoved`,
`xCasMoved`, `xCommit`) change no abstract state. -/
namespace Flurry.Proto.BinG
open Flurry.Lin
open Flurry.Proto.BinK (nodeAt binAt)
open FactsL

variable {s s' : State} {t : Nat} {l : Local}

open Flurry.Proto.BinGE in
/-- **the structural invariant in every reachable state**, read off BinGNP's on the image -/
theorem reachable_inv {n : Nat} (hr : Reachable n s) : Inv s :=
  let ⟨j, X⟩ := reachable_bundle hr
  inv_of_emb j.inv X.newOK X.pre X.post

open Flurry.Proto.BinGE in
theorem step_heap_le {n : Nat} {inv : Option (Nat × KOp)} {lo : Bool} {mt : Option Nat} {rz sm sm2 : Bool}
    (hr : Reachable n s) (hl : s.threads[t]? = some l) (hs : step s t inv lo mt rz sm sm2 = some s') :
    s.heap.length ≤ s'.heap.length :=
  let ⟨j, X⟩ := reachable_bundle hr
  let ⟨_, _, hlen, _⟩ := bundle_step j X (reachable_inv hr) hl (step_stepN hl hs)
  hlen

open Flurry.Proto.BinGE in
/-- the per-key history (completed calls plus writers past their linearization point) is linearizable and ends in
the abstract state of the live structure of the key: a ghost trace of the image is one for `s` -/
theorem binG_linearizable_ext {n : Nat} (hr : Reachable n s) (k : Nat) :
    Lin.Linearizable (callsOnExt s k) none (absOf s k) := by
  obtain ⟨A, pt, g⟩ := reachable_ginv_emb hr k
  obtain ⟨j, X⟩ := reachable_bundle hr
  exact linearizable_of_emb g j.inv.thr (absOf_emb (reachable_inv hr) X.newOK k)

theorem binG_linearizable_quiescent_aux {n : Nat} (hr : Reachable n s) (hq : quiescent s) (k : Nat) :
    Lin.Linearizable (callsOn s k) none (absOf s k) := by
  have := binG_linearizable_ext hr k
  rw [callsOnExt_quiescent hq] at this
  exact this

open Flurry.Proto.BinGE in
/-- every step of a thread that has no call in flight (an idle thread — including the start of the resize and
of a treeify —, a treeifying thread, the resizing thread) leaves the abstract state of every key unchanged -/
theorem nocall_abs_invariant {n : Nat} {s s' : State} (hr : Reachable n s) {t : Nat}
    {inv : Option (Nat × KOp)} {lo : Bool} {mt : Option Nat} {rz sm sm2 : Bool} {l : Local}
    (hl : s.threads[t]? = some l) (hc : l.call = none)
    (hs : step s t inv lo mt rz sm sm2 = some s') (k : Nat) : absOf s' k = absOf s k := by
  obtain ⟨j, X⟩ := reachable_bundle hr
  obtain ⟨-, X'⟩ := reachable_bundle (Reachable.step t inv lo mt rz sm sm2 hr hs)
  have I := reachable_inv hr
  rw [← absOf_emb (reachable_inv (Reachable.step t inv lo mt rz sm sm2 hr hs)) X'.newOK, ← absOf_emb I X.newOK]
  obtain ⟨-, habs, -⟩ := bundle_step j X I hl (step_stepN hl hs)
  exact habs hc k

open Flurry.Proto.BinGE in
/-- at quiescence every `TreeBin` that is in a cell is unlocked and its tree holds exactly the nodes
of its list: BinGNP's `Inv.quiescent_tree_eq_list` on the image -/
theorem quiescent_tree_eq_list_aux {n : Nat} (hr : Reachable n s) (hq : quiescent s) {id : Cid} {b : Nat}
    (hc : cellAt s id = .tree b) :
    (binAt s.tbins b).mutex = none ∧ (binAt s.tbins b).writer = false ∧
    ∀ i, i < s.heap.length → ((nodeAt s.heap i).owner = some b ∧ (nodeAt s.heap i).inTree = true ↔
      i ∈ chainOfBin s b) :=
  let ⟨j, X⟩ := reachable_bundle hr
  j.inv.quiescent_tree_eq_list (quiescent_emb hq) (id := embId id) ((cellAt_emb X.newOK id).trans hc)

end Flurry.Proto.BinG
