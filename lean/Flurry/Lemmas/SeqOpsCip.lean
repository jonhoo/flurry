import Flurry.Lemmas.SeqOpsRemove
/-! # `computeIfPresent` -/
namespace Flurry.Seq
open Flurry Flurry.Gen

/-- `computeIfPresent` in terms of the bin updates: the table is made to exist; nothing is written
unless the key is found and the callback returns -/
theorem cip_eq (k : Nat) (f : Nat → Nat → Nat → CbRes) {m : Map} {t : Table}
    (ht : (initTable m).table = some t) :
    computeIfPresent k f m =
      let h := m.hash k
      let i := bini h t.length
      let b := tableBin t i
      match b.find h k with
      | none => (initTable m, .none)
      | some old =>
        match f old.key old.val old.vi with
        | .panic => (initTable m, .panic)
        | .keep v vi =>
          ({ initTable m with table := some (t.set i (setValBin h k v vi b)) }, .some v vi)
        | .remove =>
          (addCount (-1) none { initTable m with table := some (t.set i (removeBin h k b)) }, .none) := by
  unfold computeIfPresent
  simp only [ht]
  cases tableBin t (bini (m.hash k) t.length) <;> rfl

theorem cip_initTable (k : Nat) (f : Nat → Nat → Nat → CbRes) {m : Map} (hg : Good m) :
    computeIfPresent k f m = computeIfPresent k f (initTable m) := by
  obtain ⟨t, ht⟩ := initTable_table_some m
  rw [cip_eq k f ht, cip_eq k f ((initTable_idem hg).symm ▸ ht), initTable_idem hg, initTable_hash]

theorem get_key_eq {m : Map} (hg : Good m) {k : Nat} {old : Node} (h : get k m = some old) :
    old.key = k := by
  cases ht : m.table with
  | none => rw [get_of_table_none ht] at h; cases h
  | some t => exact ((get_iff ht (hg.wf.tableWF ht)).1 h).2

theorem table_ne_none_of_get {m : Map} {k : Nat} {old : Node} (h : get k m = some old) :
    m.table ≠ none := by
  intro ht; rw [get_of_table_none ht] at h; cases h

/-- the lookup `computeIfPresent` starts with, in terms of `get` -/
theorem find_initTable {m : Map} (hg : Good m) {t : Table} (ht : (initTable m).table = some t)
    (k : Nat) : (tableBin t (bini (m.hash k) t.length)).find (m.hash k) k = get k m := by
  rw [← (initTable_same m).2.1 k, get_eq_find ht (hg.init.wf.tableWF ht), initTable_hash]

/-- the key is absent: the only effect is the (lazy) allocation of the table -/
theorem cip_of_get_none {k : Nat} (f : Nat → Nat → Nat → CbRes) {m : Map} (hg : Good m)
    (h : get k m = none) : computeIfPresent k f m = (initTable m, .none) := by
  obtain ⟨t, ht⟩ := initTable_table_some m
  rw [cip_eq k f ht]
  dsimp only
  rw [find_initTable hg ht, h]

/-- the callback panics: the only effect is the (lazy) allocation of the table — in fact none,
since a present key means the table exists. **No write happens before the callback runs.** -/
theorem cip_of_panic {k : Nat} {f : Nat → Nat → Nat → CbRes} {m : Map} {old : Node} (hg : Good m)
    (h : get k m = some old) (hp : f k old.val old.vi = .panic) :
    computeIfPresent k f m = (initTable m, .panic) := by
  obtain ⟨t, ht⟩ := initTable_table_some m
  rw [cip_eq k f ht]
  dsimp only
  rw [find_initTable hg ht, h]
  dsimp only
  rw [get_key_eq hg h, hp]

/-- what a lookup of `k` finds after `computeIfPresent k f` -/
def cipNew (k : Nat) (f : Nat → Nat → Nat → CbRes) (m : Map) : Option Node :=
  match get k m with
  | none => none
  | some old =>
    match f k old.val old.vi with
    | .panic => some old
    | .keep v vi => some { old with val := v, vi := vi }
    | .remove => none

def cipOut (k : Nat) (f : Nat → Nat → Nat → CbRes) (m : Map) : Out :=
  match get k m with
  | none => .none
  | some old =>
    match f k old.val old.vi with
    | .panic => .panic
    | .keep v vi => .some v vi
    | .remove => .none

/-- by how much `computeIfPresent k f` changes the count -/
def cipDelta (k : Nat) (f : Nat → Nat → Nat → CbRes) (m : Map) : Int :=
  match get k m with
  | none => 0
  | some old =>
    match f k old.val old.vi with
    | .remove => -1
    | _ => 0

theorem cip_spec_some (k : Nat) (f : Nat → Nat → Nat → CbRes) {m : Map} {t : Table} (hw : WF m)
    (ht : m.table = some t) :
    UpdPost m (computeIfPresent k f m).1 k (cipNew k f m) (cipDelta k f m) True ∧
    (computeIfPresent k f m).2 = cipOut k f m := by
  have hinit := initTable_of_wf_some hw ht
  have htw := hw.tableWF ht
  have hget := get_eq_find ht htw k
  have h0 := UpdPost.refl (Good.of_some hw ht) k True
  rw [cip_eq k f (hinit.symm ▸ ht), hinit]
  unfold cipNew cipOut cipDelta
  dsimp only
  rw [hget] at h0 ⊢
  cases hf : (tableBin t (bini (m.hash k) t.length)).find (m.hash k) k with
  | none => rw [hf] at h0; exact ⟨h0, rfl⟩
  | some old =>
    have hk : f old.key old.val old.vi = f k old.val old.vi := by
      rw [((Bin.find_iff_key (htw.bin _)).1 hf).2]
    dsimp only
    rw [hk]
    cases f k old.val old.vi with
    | panic => rw [hf] at h0; exact ⟨h0, rfl⟩
    | keep v vi => exact ⟨(update_post hw ht v vi hf false).mono fun _ => Or.inl rfl, rfl⟩
    | remove => exact ⟨remove_post hw ht hf, rfl⟩

/-- `computeIfPresent` on a `Good` state in terms of lookups. The table never grows;
if it does not exist yet it is allocated (which is not a resize). -/
theorem cip_spec (k : Nat) (f : Nat → Nat → Nat → CbRes) {m : Map} (hg : Good m) :
    UpdPost m (computeIfPresent k f m).1 k (cipNew k f m) (cipDelta k f m) (m.table ≠ none) ∧
    (computeIfPresent k f m).2 = cipOut k f m := by
  cases ht : m.table with
  | some t =>
    obtain ⟨h1, h2⟩ := cip_spec_some k f hg.wf ht
    exact ⟨h1.mono fun _ => trivial, h2⟩
  | none =>
    have hgk := get_of_table_none ht k
    have h0 := (UpdPost.refl hg.init k True).after_init hg
    rw [cip_of_get_none f hg hgk, cipNew, cipOut, cipDelta, hgk]
    rw [(initTable_same m).2.1 k, hgk, ht] at h0
    exact ⟨h0.mono fun g => ⟨g, trivial⟩, rfl⟩

theorem cip_absMap (k : Nat) (f : Nat → Nat → Nat → CbRes) {m : Map} (hg : Good m) :
    absMap (computeIfPresent k f m).1 = (Ref.step (absMap m) (.cip k f)).1 := by
  rw [(cip_spec k f hg).1.absMap_eq, cipNew, Ref.step]
  cases hgk : get k m with
  | none =>
    have ha : absMap m k = none := by rw [absMap_apply, hgk]; rfl
    rw [ha]; exact Ref.upd_self ha
  | some old =>
    have ha : absMap m k = some (old.ki, old.val, old.vi) := by rw [absMap_apply, hgk]; rfl
    rw [ha]
    dsimp only
    cases f k old.val old.vi with
    | panic => exact Ref.upd_self ha
    | keep v vi => dsimp only; rw [Ref.setVal_eq_upd, ha]; rfl
    | remove => rfl

/-- when the callback panics, or the key is absent, the state is exactly
`initTable m`: no write happened -/
theorem cip_unchanged {k : Nat} {f : Nat → Nat → Nat → CbRes} {m : Map} (hg : Good m)
    (h : (computeIfPresent k f m).2 = .panic ∨ absMap m k = none) :
    (computeIfPresent k f m).1 = initTable m := by
  cases hgk : get k m with
  | none => rw [cip_of_get_none f hg hgk]
  | some old =>
    rw [(cip_spec k f hg).2, cipOut, absMap_apply, hgk] at h
    dsimp only at h
    cases hf : f k old.val old.vi with
    | panic => rw [cip_of_panic hg hgk hf]
    | keep v vi => rw [hf] at h; exact h.elim (fun h => nomatch h) (fun h => nomatch h)
    | remove => rw [hf] at h; exact h.elim (fun h => nomatch h) (fun h => nomatch h)

theorem cip_panic_iff {k : Nat} {f : Nat → Nat → Nat → CbRes} {m : Map} (hg : Good m) :
    (computeIfPresent k f m).2 = .panic ↔
      ∃ ki v vi, absMap m k = some (ki, v, vi) ∧ f k v vi = .panic := by
  rw [(cip_spec k f hg).2, cipOut, absMap_apply]
  cases get k m with
  | none => exact ⟨(fun h => nomatch h), fun ⟨_, _, _, h, _⟩ => nomatch h⟩
  | some old =>
    dsimp only [Option.map_some]
    constructor
    · intro h
      refine ⟨old.ki, old.val, old.vi, rfl, ?_⟩
      cases hf : f k old.val old.vi with
      | panic => rfl
      | keep v vi => rw [hf] at h; cases h
      | remove => rw [hf] at h; cases h
    · rintro ⟨ki, v, vi, ha, hf⟩
      cases ha
      rw [hf]

end Flurry.Seq
