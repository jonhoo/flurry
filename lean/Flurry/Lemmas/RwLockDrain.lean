import Flurry.Lemmas.RwLockProgress
/-! # Lemmas/RwLockDrain: the readers can always run to completion, after which the writer is enabled

The per-reader measure `stepsToIdle` looks at the lock word: a reader whose `cas` is going to fail has
the steps of the retry on top (it reloads and then succeeds if nobody interferes). So every step of
a non-idle reader taking `more = false` lowers it, a failed `cas` included (`wake_progress` needs
the `cas` to succeed). Hence from *every* state there is a reader-only run after which all readers
are idle; from every reachable state the writer is enabled at the end of it. -/
namespace Flurry.Proto.RwLock
open Flurry.Gen

/-- steps a reader at this pc needs (alone, taking `more = false`) until it is idle, given the lock
word -/
def stepsToIdle (ls : Int) : RPc → Nat
  | .idle => 0
  | .slow => 1
  | .unpark => 1
  | .loadWaiter => 2
  | .release => 3
  | .tree => 4
  | .cas st => if ls == st then 5 else 8
  | .decide st => if hasBit st WAITER || hasBit st WRITER then 2 else if ls == st then 6 else 9
  | .load => 7

theorem stepReader_stepsToIdle {s : State} {i : Nat} {pc : RPc} (hi : s.readers[i]? = some pc)
    (hne : pc ≠ .idle) :
    ∃ (s' : State) (pc' : RPc), stepReader s i false = some s' ∧ s'.readers = s.readers.set i pc' ∧
      stepsToIdle s'.lockState pc' < stepsToIdle s.lockState pc := by
  refine ⟨_, _, by rw [stepReader_eq, hi]; rfl, rfl, ?_⟩
  cases pc <;> simp only [nextPc] <;> (try split) <;> simp_all [stepsToIdle, holdsRead]
  -- left: `load` (which way the next `decide` goes) and `decide` (whether the `cas` will succeed)
  all_goals split <;> omega

theorem ReaderRun.trans {s s' s'' : State} (r1 : ReaderRun s s') (r2 : ReaderRun s' s'') :
    ReaderRun s s'' := by
  induction r2 with
  | refl => exact r1
  | step j m _ hs' ih => exact ReaderRun.step j m ih hs'

theorem drain_one (k : Nat) : ∀ (s : State) (i : Nat) (pc : RPc), s.readers[i]? = some pc →
    stepsToIdle s.lockState pc < k → ∃ s', ReaderRun s s' ∧ s'.readers = s.readers.set i .idle := by
  induction k with
  | zero => intro s i pc _ hk; omega
  | succ k ih =>
    intro s i pc hi hk
    by_cases hne : pc = .idle
    · obtain ⟨hlt, rfl⟩ := List.getElem?_eq_some_iff.mp hi
      exact ⟨s, .refl s, by rw [← hne, List.set_getElem_self]⟩
    · obtain ⟨s1, pc1, hs, hrs, hlt⟩ := stepReader_stepsToIdle hi hne
      have hi1 : s1.readers[i]? = some pc1 := by
        rw [hrs, List.getElem?_set_self (List.getElem?_eq_some_iff.mp hi).1]
      obtain ⟨s2, r, hrs2⟩ := ih s1 i pc1 hi1 (by omega)
      exact ⟨s2, (ReaderRun.step i false (.refl s) hs).trans r, by rw [hrs2, hrs, List.set_set]⟩

theorem drain_upto (k : Nat) : ∀ s : State, ∃ s', ReaderRun s s' ∧
    s'.readers.length = s.readers.length ∧
    ∀ i : Nat, i < k → i < s.readers.length → s'.readers[i]? = some .idle := by
  induction k with
  | zero => intro s; exact ⟨s, ReaderRun.refl s, rfl, by intro i h; omega⟩
  | succ k ih =>
    intro s
    obtain ⟨s1, r1, hlen1, h1⟩ := ih s
    by_cases hk : k < s.readers.length
    · have hk1 : k < s1.readers.length := by omega
      obtain ⟨s2, r2, h2⟩ := drain_one _ s1 k s1.readers[k] (List.getElem?_eq_getElem hk1)
        (Nat.lt_succ_self _)
      refine ⟨s2, r1.trans r2, by simp [h2, hlen1], ?_⟩
      intro i hik hil
      rw [h2]
      by_cases hik' : i = k
      · subst hik'; simp [hk1]
      · rw [List.getElem?_set_ne (by omega)]
        exact h1 i (by omega) hil
    · exact ⟨s1, r1, hlen1, by intro i hik hil; exact h1 i (by omega) hil⟩

theorem readers_can_drain (s : State) : ∃ s', ReaderRun s s' ∧
    ∀ (i : Nat) (pc : RPc), s'.readers[i]? = some pc → pc = .idle := by
  obtain ⟨s', r, hlen, h⟩ := drain_upto s.readers.length s
  refine ⟨s', r, ?_⟩
  intro i pc hi
  have hlt := (List.getElem?_eq_some_iff.mp hi).1
  have := h i (by omega) (by omega)
  rw [this] at hi
  exact (Option.some.inj hi).symm

/-- possibility-liveness for the writer: from every reachable state the readers alone can bring
the system to a state in which the writer's next step is enabled — in particular a parked writer
always gets its token once the readers have drained. -/
theorem writer_eventually_enabled {n : Nat} {s : State} (h : Reachable n s) :
    ∃ s', ReaderRun s s' ∧ Reachable n s' ∧ stepWriter s' ≠ none := by
  obtain ⟨s', r, hidle⟩ := readers_can_drain s
  exact ⟨s', r, r.reachable h, writer_enabled_of_readers_idle (r.reachable h) hidle⟩

end Flurry.Proto.RwLock
