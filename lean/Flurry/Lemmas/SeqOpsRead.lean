import Flurry.Lemmas.SeqOpsCip
/-! # `len`, `entries`, the read operations, and `clear` -/
namespace Flurry.Seq
open Flurry Flurry.Gen

theorem entries_keys_nodup_of_good {m : Map} (hg : Good m) : ((entries m).map (·.key)).Nodup := by
  cases ht : m.table with
  | none => rw [entries_of_table_none ht]; exact List.nodup_nil
  | some t => exact entries_keys_nodup ht (hg.wf.tableWF ht)

/-- iteration and lookup agree: a node is iterated iff looking up its key finds that very node -/
theorem mem_entries_iff {m : Map} (hg : Good m) {nd : Node} :
    nd ∈ entries m ↔ get nd.key m = some nd := by
  cases ht : m.table with
  | none => rw [entries_of_table_none ht, get_of_table_none ht]; simp
  | some t =>
    rw [get_iff ht (hg.wf.tableWF ht)]
    exact ⟨fun h => ⟨h, rfl⟩, fun h => h.1⟩

theorem get_some_iff {m : Map} (hg : Good m) {k : Nat} {nd : Node} :
    get k m = some nd ↔ nd ∈ entries m ∧ nd.key = k := by
  cases ht : m.table with
  | none => rw [entries_of_table_none ht, get_of_table_none ht]; simp
  | some t => exact get_iff ht (hg.wf.tableWF ht)

theorem len_eq_zero_iff {m : Map} (hg : Good m) : len m = 0 ↔ entries m = [] := by
  rw [hg.wf.len_eq, List.length_eq_zero_iff]

theorem isEmpty_eq {m : Map} (hg : Good m) : (len m == 0) = (entries m).isEmpty := by
  rw [hg.wf.len_eq]
  cases entries m <;> rfl

theorem absMap_isSome_iff {m : Map} (hg : Good m) (k : Nat) :
    (absMap m k).isSome = true ↔ k ∈ (entries m).map (·.key) := by
  rw [absMap_isSome]
  cases ht : m.table with
  | none => rw [entries_of_table_none ht, get_of_table_none ht]; simp
  | some t => exact get_isSome_iff ht (hg.wf.tableWF ht)

theorem len_eq_keys_length {m : Map} (hg : Good m) : len m = ((entries m).map (·.key)).length := by
  rw [List.length_map, hg.wf.len_eq]

theorem absMap_of_mem_entries {m : Map} (hg : Good m) {nd : Node} (h : nd ∈ entries m) :
    absMap m nd.key = some (nd.ki, nd.val, nd.vi) := by
  simp only [absMap, (mem_entries_iff hg).1 h, Option.map_some]

theorem clear_of_none {m : Map} (ht : m.table = none) : clear m = m := by
  simp only [clear, ht]

theorem clear_of_some {m : Map} {t : Table} (ht : m.table = some t) :
    clear m = { m with table := some (emptyTable t.length),
                       count := m.count - Int.ofNat (entries m).length } := by
  simp only [clear, ht]
  split
  · rw [addCount_none]
    show _ = _
    congr 1
  next h =>
    have h0 : (entries m).length = 0 := by
      simp only [entries, ht, Int.ofNat_eq_natCast, bne_iff_ne, ne_eq, Int.neg_eq_zero,
        Int.natCast_eq_zero, Decidable.not_not] at h ⊢
      exact h
    rw [h0]
    simp

theorem clear_table_len (m : Map) : tableLen (clear m) = tableLen m := by
  cases ht : m.table with
  | none => rw [clear_of_none ht]
  | some t => rw [clear_of_some ht, tableLen_of_some ht]; simp [tableLen, emptyTable_length]

theorem clear_resizes (m : Map) : (clear m).resizes = m.resizes := by
  cases ht : m.table with
  | none => rw [clear_of_none ht]
  | some t => rw [clear_of_some ht]

theorem clear_hash (m : Map) : (clear m).hash = m.hash := by
  cases ht : m.table with
  | none => rw [clear_of_none ht]
  | some t => rw [clear_of_some ht]

theorem clear_sizeCtl (m : Map) : (clear m).sizeCtl = m.sizeCtl := by
  cases ht : m.table with
  | none => rw [clear_of_none ht]
  | some t => rw [clear_of_some ht]

theorem clear_entries (m : Map) : entries (clear m) = [] := by
  cases ht : m.table with
  | none => rw [clear_of_none ht, entries_of_table_none ht]
  | some t => rw [clear_of_some ht]; exact entries_emptyTable rfl

theorem clear_get (m : Map) (k : Nat) : get k (clear m) = none := by
  cases ht : m.table with
  | none => rw [clear_of_none ht, get_of_table_none ht]
  | some t => rw [clear_of_some ht]; exact get_emptyTable rfl k

theorem clear_good {m : Map} (hg : Good m) : Good (clear m) := by
  cases ht : m.table with
  | none => rw [clear_of_none ht]; exact hg
  | some t =>
    obtain ⟨htw, hc, hs, _⟩ := (wf_some_iff ht).1 hg.wf
    rw [clear_of_some ht]
    refine Good.of_some ((wf_some_iff rfl).2 ⟨tableWF_emptyTable _ htw.1 htw.2.1, ?_, ?_, Or.inl ?_⟩) rfl
    · rw [entries_emptyTable (m := { m with table := some (emptyTable t.length), count := m.count - Int.ofNat (entries m).length }) (n := t.length) rfl]
      show m.count - Int.ofNat (entries m).length = _
      rw [hc]; simp
    · rw [emptyTable_length]; exact hs
    · show m.count - Int.ofNat (entries m).length < m.sizeCtl
      rw [hc, hs]
      have := loadFactor_pos htw.length_pos
      simp only [Int.ofNat_eq_natCast] at this ⊢
      omega

theorem clear_absMap (m : Map) : absMap (clear m) = Ref.empty := by
  funext k; simp only [absMap, clear_get m k, Ref.empty, Option.map_none]

theorem clear_len {m : Map} (hg : Good m) : len (clear m) = 0 := by
  rw [(clear_good hg).wf.len_eq, clear_entries m]; rfl

end Flurry.Seq
