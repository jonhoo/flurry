import Flurry.Lemmas.BinNStep
import Flurry.Lemmas.SharedBasic
import Flurry.Lemmas.BinXBasic
/-! # Proto/BinN: cells of the generation structure, the shapes of the writer's store, lock words (basic lemmas) -/
namespace Flurry.Proto.BinN
open Flurry.Lin
open Flurry.Proto.BinX (NodeS Cell Pending isReader dflt chainFrom cellHead cellOfHead)

/-- `cellAt` as a function of the tables alone; a cell outside them reads as `empty` -/
def cellT (tabs : List (List Cell)) (g j : Nat) : Cell := (tabs.getD g []).getD j .empty

theorem cellAt_eq (s : State) (g j : Nat) : cellAt s g j = cellT s.tabs g j := rfl
theorem cellOf_eq (s : State) (g k : Nat) : cellOf s g k = cellT s.tabs g (k % 2 ^ g) := rfl

theorem cellT_put_ne (tabs : List (List Cell)) {g j g' j' : Nat} (c : Cell) (h : ¬ (g' = g ∧ j' = j)) :
    cellT (tabs.modify g (fun row => row.set j c)) g' j' = cellT tabs g' j' := by
  unfold cellT
  rw [Shared.getD2_modify_set, if_neg (fun hh => h ⟨hh.1, hh.2.1⟩)]

theorem cellT_put_self (tabs : List (List Cell)) (g j : Nat) (c : Cell) :
    cellT (tabs.modify g (fun row => row.set j c)) g j = c ∨
    cellT (tabs.modify g (fun row => row.set j c)) g j = cellT tabs g j := by
  unfold cellT
  rw [Shared.getD2_modify_set]
  split
  · exact .inl rfl
  · exact .inr rfl

theorem cellT_put_self_eq (tabs : List (List Cell)) {g j : Nat} {row : List Cell} (c : Cell)
    (hr : tabs[g]? = some row) (hj : j < row.length) :
    cellT (tabs.modify g (fun row => row.set j c)) g j = c := by
  unfold cellT
  rw [Shared.getD2_modify_set, if_pos ⟨rfl, rfl, by rw [List.getD_eq_getElem?_getD, hr]; exact hj⟩]

/-- allocating a generation of empty cells changes no cell (a missing cell reads as `empty`) -/
theorem cellT_alloc (tabs : List (List Cell)) (n g j : Nat) :
    cellT (tabs ++ [List.replicate n .empty]) g j = cellT tabs g j :=
  Shared.getD2_append_replicate tabs n g j .empty

theorem init_thread {n t : Nat} {l : Local} (hl : (init n).threads[t]? = some l) : l = {} := by
  simp only [init, List.getElem?_replicate] at hl
  split at hl
  · cases hl; rfl
  · cases hl

theorem putCell_tabs (s : State) (g j : Nat) (c : Cell) :
    (putCell s g j c).tabs = s.tabs.modify g (fun row => row.set j c) := rfl

theorem cellAt_putCell_ne (s : State) {g j g' j' : Nat} (c : Cell) (h : ¬ (g' = g ∧ j' = j)) :
    cellAt (putCell s g j c) g' j' = cellAt s g' j' := cellT_put_ne s.tabs c h

theorem cellAt_putCell_self (s : State) (g j : Nat) (c : Cell) :
    cellAt (putCell s g j c) g j = c ∨ cellAt (putCell s g j c) g j = cellAt s g j :=
  cellT_put_self s.tabs g j c

/-- the unlink store of `storeAt` -/
def unlinkAt (s : State) (g : Nat) (key : Nat) (pred hnext : Option Nat) : State :=
  match pred with
  | some pr => setNode s pr (fun m => { m with next := hnext })
  | none => setCell s g key (match hnext with | some x => .node x | none => .empty)

theorem unlinkAt_none (s : State) (g key : Nat) (hnext : Option Nat) :
    unlinkAt s g key none hnext = setCell s g key (cellOfHead hnext) := by
  cases hnext <;> rfl

/-- the append store of `storeAt` -/
def appendAt (s : State) (g : Nat) (key : Nat) (pred : Option Nat) (v : Nat × Nat) : State :=
  match pred with
  | some l => setNode { s with heap := s.heap ++ [(⟨key, v, none, none⟩ : NodeS)] } l
      (fun n => { n with next := some s.heap.length })
  | none => setCell { s with heap := s.heap ++ [(⟨key, v, none, none⟩ : NodeS)] } g key (.node s.heap.length)

/-- what each operation stores: nothing, a value, a new node, or the unlinking of its node -/
theorem storeAt_cases (s : State) (g : Nat) (p : Pending) (pred hit hnext : Option Nat) :
    (storeAt s g p pred hit hnext).1 = s ∨
    (∃ i v, (storeAt s g p pred hit hnext).1 = setNode s i (fun n => { n with val := v })) ∨
    (∃ v, (storeAt s g p pred hit hnext).1 = appendAt s g p.key pred v) ∨
    (storeAt s g p pred hit hnext).1 = unlinkAt s g p.key pred hnext := by
  unfold storeAt
  match p.op, hit with
  | .ins _ _, some _ | .cipInc _, some _ => exact Or.inr (Or.inl ⟨_, _, rfl⟩)
  | .ins _ _, none | .tryIns _ _, none => exact Or.inr (Or.inr (Or.inl ⟨_, rfl⟩))
  | .rm, some _ | .cipRm, some _ => exact Or.inr (Or.inr (Or.inr rfl))
  | .tryIns _ _, some _ | .rm, none | .cipInc _, none | .cipRm, none | .get, _ | .has, _ => exact Or.inl rfl

def lockAt (heap : List NodeS) (h : Nat) : Option Nat := (heap.getD h dflt).lock

def LockSame (heap heap' : List NodeS) : Prop :=
  heap.length ≤ heap'.length ∧ ∀ i, i < heap.length → lockAt heap' i = lockAt heap i

theorem LockSame.refl (heap : List NodeS) : LockSame heap heap := ⟨Nat.le_refl _, fun _ _ => rfl⟩

theorem LockSame.trans {a b c : List NodeS} (h1 : LockSame a b) (h2 : LockSame b c) : LockSame a c :=
  ⟨Nat.le_trans h1.1 h2.1, fun i hi => by rw [h2.2 i (by have := h1.1; omega), h1.2 i hi]⟩

theorem LockSame.append (heap ext : List NodeS) : LockSame heap (heap ++ ext) := by
  refine ⟨by simp, ?_⟩
  intro i hi
  unfold lockAt
  rw [List.getD_eq_getElem?_getD, List.getD_eq_getElem?_getD, List.getElem?_append_left hi]

theorem LockSame.modify (heap : List NodeS) (i : Nat) (f : NodeS → NodeS) (hf : ∀ n, (f n).lock = n.lock) :
    LockSame heap (heap.modify i f) := by
  refine ⟨by simp, ?_⟩
  intro j hj
  unfold lockAt
  rw [List.getD_eq_getElem?_getD, List.getD_eq_getElem?_getD, List.getElem?_modify]
  by_cases hij : i = j
  · subst hij
    rw [List.getElem?_eq_getElem hj]
    simp [hf]
  · simp [hij]

theorem lockAt_modify_self {heap : List NodeS} {h : Nat} (x : Option Nat) (hh : h < heap.length) :
    lockAt (heap.modify h (fun m => { m with lock := x })) h = x := by
  unfold lockAt
  rw [List.getD_eq_getElem?_getD, List.getElem?_modify, List.getElem?_eq_getElem hh]
  simp

theorem lockAt_modify_ne {heap : List NodeS} {h i : Nat} (x : Option Nat) (hne : i ≠ h) :
    lockAt (heap.modify h (fun m => { m with lock := x })) i = lockAt heap i := by
  unfold lockAt
  rw [List.getD_eq_getElem?_getD, List.getD_eq_getElem?_getD, List.getElem?_modify]
  simp [Ne.symm hne]

theorem lockAt_of_some {heap : List NodeS} {h : Nat} {n : NodeS} (hn : heap[h]? = some n) : lockAt heap h = n.lock := by
  unfold lockAt
  rw [List.getD_eq_getElem?_getD, hn]; rfl

/-- what the writer's store does to the shared state besides the node contents: the tables change at most
in the cell of the writer's key in its generation, and never to a forwarding marker -/
theorem storeAt_shape (s : State) (g : Nat) (p : Pending) (pred hit hnext : Option Nat) :
    (storeAt s g p pred hit hnext).1.threads = s.threads ∧ (storeAt s g p pred hit hnext).1.cur = s.cur ∧
    (storeAt s g p pred hit hnext).1.resizing = s.resizing ∧ (storeAt s g p pred hit hnext).1.now = s.now ∧
    (storeAt s g p pred hit hnext).1.hist = s.hist ∧
    LockSame s.heap (storeAt s g p pred hit hnext).1.heap ∧
    ((storeAt s g p pred hit hnext).1.tabs = s.tabs ∨
      ∃ c, c ≠ .moved ∧ (storeAt s g p pred hit hnext).1.tabs = s.tabs.modify g (fun row => row.set (p.key % 2 ^ g) c)) := by
  rcases storeAt_cases s g p pred hit hnext with h | ⟨i, v, h⟩ | ⟨v, h⟩ | h <;> rw [h]
  · exact ⟨rfl, rfl, rfl, rfl, rfl, LockSame.refl _, Or.inl rfl⟩
  · exact ⟨rfl, rfl, rfl, rfl, rfl, LockSame.modify _ _ _ (fun _ => rfl), Or.inl rfl⟩
  · cases pred with
    | some l =>
      exact ⟨rfl, rfl, rfl, rfl, rfl, (LockSame.append _ _).trans (LockSame.modify _ _ _ fun _ => rfl), Or.inl rfl⟩
    | none => exact ⟨rfl, rfl, rfl, rfl, rfl, LockSame.append _ _, Or.inr ⟨_, Cell.noConfusion, rfl⟩⟩
  · cases pred with
    | some pr => exact ⟨rfl, rfl, rfl, rfl, rfl, LockSame.modify _ _ _ (fun _ => rfl), Or.inl rfl⟩
    | none =>
      rw [unlinkAt_none]
      exact ⟨rfl, rfl, rfl, rfl, rfl, LockSame.refl _, Or.inr ⟨_, BinX.cellOfHead_ne_moved _, rfl⟩⟩

/-- the split only appends nodes (no hypothesis on the chain: the fold appends one node per step) -/
theorem splitBinB_append (bit : Nat → Bool) (heap : List NodeS) (c : List Nat) :
    ∃ ext, (splitBinB bit heap c).1 = heap ++ ext := by
  unfold splitBinB
  simp only
  generalize (c.take (lastRunStartB bit heap c)) = pre
  generalize (if (match (List.drop (lastRunStartB bit heap c) c).head? with
        | some i => bit (heap.getD i dflt).key
        | none => false) = true then none else (List.drop (lastRunStartB bit heap c) c).head?) = lo
  generalize (if (match (List.drop (lastRunStartB bit heap c) c).head? with
        | some i => bit (heap.getD i dflt).key
        | none => false) = true then (List.drop (lastRunStartB bit heap c) c).head? else none) = hg
  suffices h : ∀ (pre : List Nat) (hp : List NodeS) (lo hg : Option Nat), (∃ ext, hp = heap ++ ext) →
      ∃ ext, (pre.foldl
        (fun (acc : List NodeS × Option Nat × Option Nat) i =>
          let (hp, lo, hg) := acc
          let n := hp.getD i dflt
          let idx := hp.length
          if bit n.key then (hp ++ [⟨n.key, n.val, hg, none⟩], lo, some idx)
          else (hp ++ [⟨n.key, n.val, lo, none⟩], some idx, hg)) (hp, lo, hg)).1 = heap ++ ext from
    h pre heap lo hg ⟨[], by simp⟩
  intro pre
  induction pre with
  | nil => intro hp lo hg h; exact h
  | cons i pre ih =>
    intro hp lo hg h
    obtain ⟨ext, rfl⟩ := h
    simp only [List.foldl_cons]
    split
    · exact ih _ _ _ ⟨ext ++ [_], by rw [List.append_assoc]⟩
    · exact ih _ _ _ ⟨ext ++ [_], by rw [List.append_assoc]⟩

theorem splitBinB_lockSame (bit : Nat → Bool) (heap : List NodeS) (c : List Nat) :
    LockSame heap (splitBinB bit heap c).1 := by
  obtain ⟨ext, h⟩ := splitBinB_append bit heap c
  rw [h]; exact LockSame.append _ _

end Flurry.Proto.BinN
