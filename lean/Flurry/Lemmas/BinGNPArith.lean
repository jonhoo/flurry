import Flurry.Lemmas.BinGNPBase
import Flurry.Lemmas.SharedBasic
/-! # Proto/BinGN: the cell of a key in the next generation -/
namespace Flurry.Proto.BinGNP
open Flurry.Lin

export Flurry.Shared (mod_succ_mod high_mod)

/-- the cell index of `k` in generation `g + 1`: the low child if bit `g` is clear, else the high child -/
theorem mod_succ_eq (k g : Nat) : k % 2 ^ (g + 1) = k % 2 ^ g + (if bitAt g k then 2 ^ g else 0) := by
  rw [Nat.mod_pow_succ]
  unfold Flurry.Proto.BinGN.bitAt
  rcases Nat.mod_two_eq_zero_or_one (k / 2 ^ g) with e | e
  · rw [e]; rfl
  · rw [e, Nat.mul_one]; rfl

theorem mod_succ_low {k g : Nat} (h : bitAt g k = false) : k % 2 ^ (g + 1) = k % 2 ^ g := by
  rw [mod_succ_eq, h]; rfl

theorem mod_succ_high {k g : Nat} (h : bitAt g k = true) : k % 2 ^ (g + 1) = k % 2 ^ g + 2 ^ g := by
  rw [mod_succ_eq, h]; rfl

/-- a key of the parent cell `(g, j)` belongs to the child `(g+1, j)` or `(g+1, j + 2^g)` according to bit `g` -/
theorem idOf_succ_of_parent {k g j : Nat} (h : k % 2 ^ g = j) :
    idOf (g + 1) k = if bitAt g k then (g + 1, j + 2 ^ g) else (g + 1, j) := by
  unfold idOf
  cases hb : bitAt g k with
  | false => rw [mod_succ_low hb, h]; simp
  | true => rw [mod_succ_high hb, h]; simp

/-- a key with `k % 2^(g+1) = j'` has parent index `j' % 2^g`; it is the low child iff bit `g` is clear -/
theorem bit_of_child {k g j : Nat} (hj : j < 2 ^ g) :
    (k % 2 ^ (g + 1) = j ↔ k % 2 ^ g = j ∧ bitAt g k = false) ∧
    (k % 2 ^ (g + 1) = j + 2 ^ g ↔ k % 2 ^ g = j ∧ bitAt g k = true) := by
  have hlt : k % 2 ^ g < 2 ^ g := Nat.mod_lt _ (Nat.two_pow_pos g)
  cases hb : bitAt g k with
  | false =>
    rw [mod_succ_low hb]
    exact ⟨⟨fun h => ⟨h, rfl⟩, And.left⟩, ⟨fun h => absurd hlt (Nat.not_lt.2 (h ▸ Nat.le_add_left _ j)), fun h => nomatch h.2⟩⟩
  | true =>
    rw [mod_succ_high hb]
    exact ⟨⟨fun h => absurd hj (Nat.not_lt.2 (h ▸ Nat.le_add_left _ _)), fun h => nomatch h.2⟩,
      ⟨fun h => ⟨Nat.add_right_cancel h, rfl⟩, fun h => by rw [h.1]⟩⟩

end Flurry.Proto.BinGNP
