import Flurry.Proto.BinNH
import Flurry.Lemmas.BinNGenInv
/-! # Proto/BinNH: the generation invariant of the helper model (definitions, frame lemmas)

`Inv s`:
* `gen : GenInv s.n` — `Proto/BinN`'s generation invariant of the shared memory and of the readers and
  writers, LITERALLY (no thread of `s.n` is a `BinN` resizing thread, so its `uniqT` is vacuous);
* per resizing thread (`HOK`): its generation is at most `cur`, and it is `cur` only while `resizing`
  (`gle`, `res`); the cell it turned to exists (`idx`); its program counter matches the lock word (`held`);
  **from the successful re-check to the store of the marker it still sees its node as the head of its cell**
  (`valid`) — hence that cell is not forwarded, hence its generation is `cur`, `resizing` is set, and nobody
  can commit (`HOK.valid_cur`); at `commit` in generation `cur` all cells are forwarded (`commit`). -/
namespace Flurry.Proto.BinNH
open Flurry.Lin
open Flurry.Proto.BinX (NodeS Cell Pending isReader dflt chainFrom cellHead cellOfHead get_set get_set_self get_set_ne
  cellOfHead_ne_moved)
open Flurry.Proto.BinN (cellAt cellOf putCell setNode allMoved splitBinB bitAt lockAt LockSame GenInv ThrOK isT
  Holds vcell genOfPc cellT)

/-- the cell (of its generation) a resizing thread has turned to -/
def cellIdx : HPc → Option Nat
  | .cell j | .casMoved j | .lock j _ | .check j _ | .build j _ | .storeLow j _ _ _ | .storeHigh j _ _
  | .storeMoved j _ | .unlock j _ => some j
  | _ => none

/-- the resizing thread holds the mutex of node `h` -/
def HHolds : HPc → Nat → Prop
  | .check _ h', h => h' = h
  | .build _ h', h => h' = h
  | .storeLow _ h' _ _, h => h' = h
  | .storeHigh _ h' _, h => h' = h
  | .storeMoved _ h', h => h' = h
  | .unlock _ h', h => h' = h
  | _, _ => False

/-- the cell `j` on which the resizing thread holds a VALIDATED lock (after the re-check, before the marker
is stored), and the head `h` it saw -/
def hvalid : HPc → Option (Nat × Nat)
  | .build j h | .storeLow j h _ _ | .storeHigh j h _ | .storeMoved j h => some (j, h)
  | _ => none

/-- the shared memory after the allocation of generation `cur + 1` -/
def allocN (n : BinN.State) : BinN.State :=
  { tickN n with resizing := true, tabs := n.tabs ++ [List.replicate (2 ^ (n.cur + 1)) .empty] }

/-- the shared memory after the publication of generation `cur + 1` -/
def commitN (n : BinN.State) : BinN.State := { tickN n with cur := n.cur + 1, resizing := false }

theorem hvalid_holds {pc : HPc} {j h : Nat} (hv : hvalid pc = some (j, h)) : HHolds pc h ∧ cellIdx pc = some j := by
  cases pc with
  | build _ _ | storeLow _ _ _ _ | storeHigh _ _ _ | storeMoved _ _ => cases hv; exact ⟨rfl, rfl⟩
  | _ => cases hv

/-- what the invariant says about one resizing thread -/
structure HOK (n : BinN.State) (t : Nat) (hp : Helper) : Prop where
  gle : hp.g ≤ n.cur
  res : hp.g = n.cur → n.resizing = true
  idx : ∀ j, cellIdx hp.pc = some j → j < 2 ^ hp.g
  held : ∀ h, HHolds hp.pc h → h < n.heap.length ∧ lockAt n.heap h = some t
  valid : ∀ j h, hvalid hp.pc = some (j, h) → cellAt n hp.g j = .node h
  commit : hp.pc = .commit → hp.g = n.cur → ∀ j, j < 2 ^ n.cur → cellAt n n.cur j = .moved

structure Inv (s : State) : Prop where
  gen : GenInv s.n
  /-- no thread of `s.n` is at one of `Proto/BinN`'s own resizing program counters -/
  noT : ∀ (t : Nat) (l : BinN.Local), s.n.threads[t]? = some l → ¬ isT l.pc
  len : s.hs.length = s.n.threads.length
  /-- a resizing thread has no call in flight -/
  hidle : ∀ (t : Nat) (hp : Helper) (l : BinN.Local), s.hs[t]? = some (some hp) → s.n.threads[t]? = some l → l.pc = .idle
  hok : ∀ t hp, s.hs[t]? = some (some hp) → HOK s.n t hp

/-- a resizing thread that sees a cell of its generation that is not forwarded works for generation `cur`: the older
generations are forwarded for ever -/
theorem HOK.cur_of_not_moved {n : BinN.State} {t : Nat} {hp : Helper} (H : HOK n t hp) (I : GenInv n) {j : Nat}
    (hj : j < 2 ^ hp.g) (hnm : cellAt n hp.g j ≠ .moved) : hp.g = n.cur := by
  have : ¬ hp.g < n.cur := fun hlt => hnm (I.old hp.g j hlt hj)
  have := H.gle
  omega

/-- a cell under a validated transfer lock is not forwarded: the thread works for generation `cur`, and
`resizing` is set -/
theorem HOK.valid_cur {n : BinN.State} {t : Nat} {hp : Helper} (H : HOK n t hp) (I : GenInv n) {j h : Nat}
    (hv : hvalid hp.pc = some (j, h)) : hp.g = n.cur ∧ n.resizing = true := by
  have e := H.cur_of_not_moved I (H.idx j (hvalid_holds hv).2) (by rw [H.valid j h hv]; simp)
  exact ⟨e, H.res e⟩

/-- validated transfer locks are exclusive: two resizing threads of one generation inside the transfer of one cell
are the same thread (both see the head they locked, and its lock word names one owner) -/
theorem HOK.valid_unique {n : BinN.State} {t t1 : Nat} {hp hp1 : Helper} (H : HOK n t hp) (H1 : HOK n t1 hp1)
    (hg : hp.g = hp1.g) {j h h1 : Nat} (hv : hvalid hp.pc = some (j, h)) (hv1 : hvalid hp1.pc = some (j, h1)) :
    t = t1 := by
  have c := H.valid j h hv
  have c1 := H1.valid j h1 hv1
  rw [← hg, c] at c1
  cases c1
  have a := (H.held h (hvalid_holds hv).1).2
  have b := (H1.held h (hvalid_holds hv1).1).2
  rw [a] at b
  exact Option.some.inj b

/-- the frame lemma for a resizing thread that does not act: `cur` stays, `resizing` is not reset, its
lock words and the cells under its validated lock stay, markers stay -/
theorem HOK.frame {n n' : BinN.State} {t : Nat} {hp : Helper} (H : HOK n t hp) (hcur : n'.cur = n.cur)
    (hres : n.resizing = true → n'.resizing = true)
    (hlock : ∀ h, h < n.heap.length → lockAt n.heap h = some t → h < n'.heap.length ∧ lockAt n'.heap h = some t)
    (hcell : ∀ j h, cellAt n hp.g j = .node h → lockAt n.heap h = some t → h < n.heap.length → cellAt n' hp.g j = .node h)
    (hmono : ∀ g j, cellAt n g j = .moved → cellAt n' g j = .moved) : HOK n' t hp := by
  refine ⟨by rw [hcur]; exact H.gle, fun e => hres (H.res (by rw [← hcur]; exact e)), H.idx, ?_, ?_, ?_⟩
  · intro h hh
    obtain ⟨a, b⟩ := H.held h hh
    exact hlock h a b
  · intro j h hv
    obtain ⟨a, b⟩ := H.held h (hvalid_holds hv).1
    exact hcell _ _ (H.valid j h hv) b a
  · intro hc e j hj
    rw [hcur] at e hj ⊢
    exact hmono _ _ (H.commit hc e j hj)

theorem set_self_of_get {α : Type} {l : List α} {t : Nat} {a : α} (h : l[t]? = some a) : l.set t a = l := by
  obtain ⟨ht, rfl⟩ := List.getElem?_eq_some_iff.1 h
  rw [List.set_getElem_self]

/-- the generation invariant of `Proto/BinN` only depends on the tables, `cur`, `resizing`, the threads and
the lock words they hold -/
theorem geninv_congr {n n' : BinN.State} (I : GenInv n) (ht : n'.tabs = n.tabs) (hc : n'.cur = n.cur)
    (hr : n'.resizing = n.resizing) (hth : n'.threads = n.threads)
    (hl : ∀ t1 l1 h, n.threads[t1]? = some l1 → Holds l1.pc h → h < n'.heap.length ∧ lockAt n'.heap h = some t1) :
    GenInv n' := by
  have hcell : ∀ g j, cellAt n' g j = cellAt n g j := fun g j => by rw [BinN.cellAt_eq, BinN.cellAt_eq, ht]
  refine ⟨by rw [ht, hc, hr]; exact I.len, by rw [ht]; exact I.rows, ?_, ?_, ?_, ?_, ?_⟩
  · intro g j hg hj; rw [hcell]; rw [hc] at hg; exact I.old g j hg hj
  · intro j; rw [hcell, hc]; exact I.nextOK j
  · intro j hm; rw [hcell, hc] at hm; rw [hr]; exact I.curMoved j hm
  · rw [hth]; exact I.uniqT
  · intro t1 l1 h1
    rw [hth] at h1
    exact (I.thr t1 l1 h1).congr ht hc hr (fun h hh => hl t1 l1 h h1 hh)

/-- a lock word that is free or held by `t` (whose reader/writer part is idle) is not held by a reader or
writer: their lock words survive its change -/
theorem rw_locks_modify {n : BinN.State} {t : Nat} {h : Nat} {x : Option Nat} (I : GenInv n)
    (hidle : ∀ l, n.threads[t]? = some l → l.pc = .idle)
    (hfree : lockAt n.heap h = none ∨ lockAt n.heap h = some t) :
    ∀ t1 l1 h1, n.threads[t1]? = some l1 → Holds l1.pc h1 →
      h1 < (n.heap.modify h (fun m => { m with lock := x })).length ∧
      lockAt (n.heap.modify h (fun m => { m with lock := x })) h1 = some t1 := by
  intro t1 l1 h1 hl1 hh
  obtain ⟨a, b⟩ := (I.thr t1 l1 hl1).held h1 hh
  have hne' : h1 ≠ h := by
    rintro rfl
    rcases hfree with e | e <;> rw [e] at b
    · cases b
    · have : t = t1 := Option.some.inj b
      subst this
      have := hidle l1 hl1
      rw [this] at hh
      exact hh
  exact ⟨by simpa using a, by rw [BinN.lockAt_modify_ne x hne']; exact b⟩

end Flurry.Proto.BinNH
