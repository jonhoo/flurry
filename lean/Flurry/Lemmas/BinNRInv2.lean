import Flurry.Lemmas.BinNRInv
/-! # Proto/BinNR: the bookkeeping invariant of the retire lists and of `waitFor` (C04)

`RInv2 s`:
* `k1`–`k3`: a retire obligation is a `live` node, in exactly one retire list, once;
* `w1`/`w2`: every thread that was under a guard when `i` was retired (`w0 i`) is still awaited (`∈ waitFor`) or has
  left a guard since (`∈ exited i`); for a freed node all of them have;
* `w3`: `waitFor` only contains threads under a guard; `w4`: `waitFor ⊆ w0` and nobody in `waitFor` has exited. -/
namespace Flurry.Proto.BinNR
open Flurry.Lin
open Flurry.Proto.BinX (get_set_ne)
open Flurry.Proto.BinN (Local Ghost Inv StepK step_stepK)

structure RInv2 (s : State) : Prop where
  k1 : ∀ t i, i ∈ s.pend t → s.life i = .live
  k2 : ∀ t, (s.pend t).Nodup
  k3 : ∀ t t' i, i ∈ s.pend t → i ∈ s.pend t' → t = t'
  w1 : ∀ i w, s.life i = .retired w → ∀ x ∈ s.w0 i, x ∈ w ∨ x ∈ s.exited i
  w2 : ∀ i, s.life i = .freed → ∀ x ∈ s.w0 i, x ∈ s.exited i
  w3 : ∀ i w, s.life i = .retired w → ∀ x ∈ w, guarded s.n x = true
  w4 : ∀ i w, s.life i = .retired w → ∀ x ∈ w, x ∈ s.w0 i ∧ x ∉ s.exited i

theorem retiredBy_nodup {n : BinN.State} {G : Ghost} (I : Inv n G) (t : Nat) : (retiredBy false n t).Nodup := by
  unfold retiredBy
  cases hl : n.threads[t]? with
  | none => exact List.nodup_nil
  | some l =>
    obtain ⟨pc, call⟩ := l
    simp only
    split
    · split <;> simp
    · rename_i j h
      simp only [Bool.false_eq_true, if_false]
      exact copiedPrefix_nodup I hl rfl
    · simp
    · exact List.nodup_nil

theorem pend1_nodup {s : State} {G : Ghost} (R : RInv s G) (K : RInv2 s) {t : Nat} {n' : BinN.State}
    (hRB : ∀ i ∈ retiredBy false s.n t, Live0 s.n i ∧ ¬ Live0 n' i ∧ guarded s.n t = true) : (pend1 s t).Nodup := by
  unfold pend1
  rw [List.nodup_append]
  refine ⟨K.k2 t, retiredBy_nodup R.inv t, ?_⟩
  intro a ha b hb hab
  subst hab
  have := (R.j7 t a ha).1
  rw [R.unl_none_of_live0 (hRB a hb).1] at this; cases this

theorem RInv2.base {s : State} {G : Ghost} (R : RInv s G) (K : RInv2 s) {t : Nat} {l : Local} {pick : Nat}
    {n' : BinN.State} (hl : s.n.threads[t]? = some l) (hK : StepK s.n t l pick n')
    (hRB : ∀ i ∈ retiredBy false s.n t, Live0 s.n i ∧ ¬ Live0 n' i ∧ guarded s.n t = true) :
    RInv2 (afterBase false s t n') := by
  obtain ⟨-, l', hthr⟩ := BinN.stepK_frame hK
  have hgother : ∀ x, x ≠ t → guarded n' x = guarded s.n x := by
    intro x hne; unfold guarded; rw [hthr, get_set_ne hne]
  have hnone : ∀ i, Live0 s.n i → s.unl i = none := fun i h0 => R.unl_none_of_live0 h0
  have P1 : ∀ i, i ∈ pend1 s t → s.life i = .live := by
    intro i hi
    rcases List.mem_append.1 hi with hi | hi
    · exact K.k1 t i hi
    · exact R.j4n i (hnone i (hRB i hi).1)
  have P3 : ∀ i t', i ∈ pend1 s t → i ∈ s.pend t' → t' = t := by
    intro i t' hi hi'
    rcases List.mem_append.1 hi with hi | hi
    · exact K.k3 t' t i hi' hi
    · have := (R.j7 t' i hi').1
      rw [hnone i (hRB i hi).1] at this; cases this
  have P2 := pend1_nodup R K hRB
  have hexit : exitsB s t n' = true → guarded n' t = false := by
    intro h; unfold exitsB at h
    simp only [Bool.and_eq_true, Bool.not_eq_true'] at h; exact h.2
  refine ⟨?_, ?_, ?_, ?_, ?_, ?_, ?_⟩
  · -- k1
    intro t1 i hi
    rw [afterBase_pend] at hi
    rw [afterBase_life]
    by_cases ht : t1 = t
    · subst ht
      rw [if_pos rfl] at hi
      by_cases he : exitsB s t1 n' = true
      · rw [if_pos he] at hi; cases hi
      · rw [if_neg he] at hi
        have : (exitsB s t1 n' && (pend1 s t1).contains i) = false := by
          cases h : exitsB s t1 n' with
          | true => exact absurd h he
          | false => rfl
        rw [this, if_neg (by simp), shrinkLife_live]
        exact P1 i hi
    · rw [if_neg ht] at hi
      have hnc : ¬ (exitsB s t n' && (pend1 s t).contains i) = true := by
        intro hc
        simp only [Bool.and_eq_true, List.contains_iff_mem] at hc
        exact ht (P3 i t1 hc.2 hi)
      rw [if_neg hnc, shrinkLife_live]
      exact K.k1 t1 i hi
  · -- k2
    intro t1
    rw [afterBase_pend]
    by_cases ht : t1 = t
    · rw [if_pos ht]
      by_cases he : exitsB s t n' = true
      · rw [if_pos he]; exact List.nodup_nil
      · rw [if_neg he]; exact P2
    · rw [if_neg ht]; exact K.k2 t1
  · -- k3
    intro t1 t2 i h1 h2
    rw [afterBase_pend] at h1 h2
    by_cases e1 : t1 = t
    · by_cases e2 : t2 = t
      · rw [e1, e2]
      · rw [if_pos e1] at h1
        rw [if_neg e2] at h2
        by_cases he : exitsB s t n' = true
        · rw [if_pos he] at h1; cases h1
        · rw [if_neg he] at h1
          rw [e1]; exact (P3 i t2 h1 h2).symm
    · rw [if_neg e1] at h1
      by_cases e2 : t2 = t
      · rw [if_pos e2] at h2
        by_cases he : exitsB s t n' = true
        · rw [if_pos he] at h2; cases h2
        · rw [if_neg he] at h2
          rw [e2]; exact P3 i t1 h2 h1
      · rw [if_neg e2] at h2
        exact K.k3 t1 t2 i h1 h2
  · -- w1
    intro i w' hw x hx
    rw [afterBase_life] at hw
    rw [afterBase_w0] at hx
    rw [afterBase_exited]
    by_cases hc : (exitsB s t n' && (pend1 s t).contains i) = true
    · rw [if_pos hc] at hw hx
      cases hw
      exact Or.inl hx
    · rw [if_neg hc] at hw hx
      rw [if_neg hc]
      obtain ⟨w, hlw, rfl⟩ := shrinkLife_retired hw
      rcases K.w1 i w hlw x hx with h | h
      · by_cases hg : guarded n' x = true
        · exact Or.inl (List.mem_filter.2 ⟨h, hg⟩)
        · right
          have hgx := K.w3 i w hlw x h
          have hxt : x = t := by
            apply Classical.byContradiction
            intro hne
            rw [hgother x hne] at hg
            exact hg hgx
          subst hxt
          have he : exitsB s x n' = true := by
            unfold exitsB
            rw [hgx]
            cases h' : guarded n' x with
            | true => exact absurd h' hg
            | false => rfl
          rw [if_pos he]
          exact List.mem_cons_self
      · right
        by_cases he : exitsB s t n' = true
        · rw [if_pos he]; exact List.mem_cons_of_mem _ h
        · rw [if_neg he]; exact h
  · -- w2
    intro i hf x hx
    rw [afterBase_life] at hf
    rw [afterBase_w0] at hx
    rw [afterBase_exited]
    by_cases hc : (exitsB s t n' && (pend1 s t).contains i) = true
    · rw [if_pos hc] at hf; cases hf
    · rw [if_neg hc] at hf hx
      rw [if_neg hc]
      rw [shrinkLife_freed] at hf
      have := K.w2 i hf x hx
      by_cases he : exitsB s t n' = true
      · rw [if_pos he]; exact List.mem_cons_of_mem _ this
      · rw [if_neg he]; exact this
  · -- w3
    intro i w' hw x hx
    rw [afterBase_life] at hw
    by_cases hc : (exitsB s t n' && (pend1 s t).contains i) = true
    · rw [if_pos hc] at hw
      cases hw
      exact mem_guardedSet.1 hx
    · rw [if_neg hc] at hw
      obtain ⟨w, -, rfl⟩ := shrinkLife_retired hw
      exact (List.mem_filter.1 hx).2
  · -- w4
    intro i w' hw x hx
    rw [afterBase_life] at hw
    rw [afterBase_w0, afterBase_exited]
    by_cases hc : (exitsB s t n' && (pend1 s t).contains i) = true
    · rw [if_pos hc] at hw
      rw [if_pos hc, if_pos hc]
      cases hw
      exact ⟨hx, by simp⟩
    · rw [if_neg hc] at hw
      rw [if_neg hc, if_neg hc]
      obtain ⟨w, hlw, rfl⟩ := shrinkLife_retired hw
      obtain ⟨hxw, hgx⟩ := List.mem_filter.1 hx
      obtain ⟨h1, h2⟩ := K.w4 i w hlw x hxw
      refine ⟨h1, ?_⟩
      by_cases he : exitsB s t n' = true
      · rw [if_pos he]
        intro hm
        rcases List.mem_cons.1 hm with rfl | hm
        · rw [hexit he] at hgx; cases hgx
        · exact h2 hm
      · rw [if_neg he]; exact h2

theorem RInv2.retire {s s' : State} {G : Ghost} (R : RInv s G) (K : RInv2 s) {t i : Nat}
    (hs : stepG false s t (.retire i) = some s') : RInv2 s' := by
  obtain ⟨hi, rfl⟩ := retire_some hs
  refine ⟨?_, ?_, ?_, ?_, ?_, ?_, ?_⟩
  · intro t1 j hj
    have hj' : j ∈ (if t1 = t then (s.pend t).erase i else s.pend t1) := hj
    show (if j = i then _ else s.life j) = Life.live
    by_cases ht : t1 = t
    · subst ht
      rw [if_pos rfl] at hj'
      obtain ⟨hne, hm⟩ := (K.k2 t1).mem_erase_iff.1 hj'
      rw [if_neg hne]; exact K.k1 t1 j hm
    · rw [if_neg ht] at hj'
      have hne : j ≠ i := by
        intro e; subst e; exact ht (K.k3 t1 t j hj' hi)
      rw [if_neg hne]; exact K.k1 t1 j hj'
  · intro t1
    show (if t1 = t then (s.pend t).erase i else s.pend t1).Nodup
    by_cases ht : t1 = t
    · rw [if_pos ht]; exact (K.k2 t).sublist List.erase_sublist
    · rw [if_neg ht]; exact K.k2 t1
  · intro t1 t2 j h1 h2
    have h1' : j ∈ (if t1 = t then (s.pend t).erase i else s.pend t1) := h1
    have h2' : j ∈ (if t2 = t then (s.pend t).erase i else s.pend t2) := h2
    have m1 : j ∈ s.pend t1 := by
      by_cases ht : t1 = t
      · rw [if_pos ht] at h1'; rw [ht]; exact List.mem_of_mem_erase h1'
      · rw [if_neg ht] at h1'; exact h1'
    have m2 : j ∈ s.pend t2 := by
      by_cases ht : t2 = t
      · rw [if_pos ht] at h2'; rw [ht]; exact List.mem_of_mem_erase h2'
      · rw [if_neg ht] at h2'; exact h2'
    exact K.k3 t1 t2 j m1 m2
  · intro j w hw x hx
    have hw' : (if j = i then Life.retired (guardedSet s.n) else s.life j) = Life.retired w := hw
    have hx' : x ∈ (if j = i then guardedSet s.n else s.w0 j) := hx
    show x ∈ w ∨ x ∈ (if j = i then [] else s.exited j)
    by_cases hj : j = i
    · rw [if_pos hj] at hw' hx'; cases hw'; exact Or.inl hx'
    · rw [if_neg hj] at hw' hx'; rw [if_neg hj]; exact K.w1 j w hw' x hx'
  · intro j hf x hx
    have hf' : (if j = i then Life.retired (guardedSet s.n) else s.life j) = Life.freed := hf
    have hx' : x ∈ (if j = i then guardedSet s.n else s.w0 j) := hx
    show x ∈ (if j = i then [] else s.exited j)
    by_cases hj : j = i
    · rw [if_pos hj] at hf'; cases hf'
    · rw [if_neg hj] at hf' hx'; rw [if_neg hj]; exact K.w2 j hf' x hx'
  · intro j w hw x hx
    have hw' : (if j = i then Life.retired (guardedSet s.n) else s.life j) = Life.retired w := hw
    show guarded s.n x = true
    by_cases hj : j = i
    · rw [if_pos hj] at hw'; cases hw'; exact mem_guardedSet.1 hx
    · rw [if_neg hj] at hw'; exact K.w3 j w hw' x hx
  · intro j w hw x hx
    have hw' : (if j = i then Life.retired (guardedSet s.n) else s.life j) = Life.retired w := hw
    show x ∈ (if j = i then guardedSet s.n else s.w0 j) ∧ x ∉ (if j = i then [] else s.exited j)
    by_cases hj : j = i
    · rw [if_pos hj] at hw'; rw [if_pos hj, if_pos hj]; cases hw'; exact ⟨hx, by simp⟩
    · rw [if_neg hj] at hw'; rw [if_neg hj, if_neg hj]; exact K.w4 j w hw' x hx

theorem RInv2.free {early : Bool} {s s' : State} (K : RInv2 s) {t i : Nat}
    (hs : stepG early s t (.free i) = some s') : RInv2 s' := by
  obtain ⟨hc, rfl⟩ := free_some hs
  refine ⟨?_, K.k2, K.k3, ?_, ?_, ?_, ?_⟩
  · intro t1 j hj
    show (if j = i then Life.freed else s.life j) = Life.live
    have := K.k1 t1 j hj
    by_cases hji : j = i
    · subst hji; rw [hc] at this; cases this
    · rw [if_neg hji]; exact this
  · intro j w hw
    have hw' : (if j = i then Life.freed else s.life j) = Life.retired w := hw
    by_cases hji : j = i
    · rw [if_pos hji] at hw'; cases hw'
    · rw [if_neg hji] at hw'; exact K.w1 j w hw'
  · intro j hf x hx
    have hf' : (if j = i then Life.freed else s.life j) = Life.freed := hf
    by_cases hji : j = i
    · subst hji
      rcases K.w1 j [] hc x hx with h | h
      · cases h
      · exact h
    · rw [if_neg hji] at hf'; exact K.w2 j hf' x hx
  · intro j w hw
    have hw' : (if j = i then Life.freed else s.life j) = Life.retired w := hw
    by_cases hji : j = i
    · rw [if_pos hji] at hw'; cases hw'
    · rw [if_neg hji] at hw'; exact K.w3 j w hw'
  · intro j w hw
    have hw' : (if j = i then Life.freed else s.life j) = Life.retired w := hw
    by_cases hji : j = i
    · rw [if_pos hji] at hw'; cases hw'
    · rw [if_neg hji] at hw'; exact K.w4 j w hw'

theorem RInv2.init (n : Nat) : RInv2 (init n) := by
  refine ⟨?_, ?_, ?_, ?_, ?_, ?_, ?_⟩
  · intro t i h; cases h
  · intro t; exact List.nodup_nil
  · intro t t' i h; cases h
  · intro i w h; cases h
  · intro i h; cases h
  · intro i w h; cases h
  · intro i w h; cases h

theorem reachable_rinv2 {nt : Nat} {s : State} (hr : Reachable nt s) : RInv2 s := by
  induction hr with
  | init => exact RInv2.init nt
  | @step s s' t a hr hs ih =>
    obtain ⟨G, R⟩ := reachable_rinv hr
    cases a with
    | base inv rz pick =>
      obtain ⟨n', l, hl, hb, rfl⟩ := base_some hs
      have hK := step_stepK hl hb
      exact RInv2.base R ih hl hK (retiredBy_dead R.inv hl hb)
    | retire i => exact RInv2.retire R ih hs
    | free i => exact RInv2.free ih hs

end Flurry.Proto.BinNR
