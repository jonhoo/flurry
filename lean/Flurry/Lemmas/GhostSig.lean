import Flurry.Lemmas.LinTrace
import Flurry.Lemmas.Lin2Trace
/-! # Linearization points against a trace, for any type of calls

For one key: `A τ` is the abstract state after global step `τ`, `pt i` the linearization point of the call
invoked at time `i`; `CallOK` says that the point lies in the call's interval and that the trace justifies
the call there. `Trace S H now a A pt` is what a ghost invariant says about the history `H` of the key at time
`now` with abstract state `a`; `Trace.frame` carries it over one step, `Trace.linearizable` /
`Trace.linearizable2` are the way to `Lin.Linearizable` / `Lin2.Linearizable2` (`lin_of_trace`).

Nothing here mentions a state or a thread. `Sig` says how to read a call, whether an operation is a read, and what
the specification is; `Lin.sig` and `Lin2.sig` are the two instances, and only `isRead_cases`, `Trace.linearizable`
and `Trace.linearizable2` speak about them (which is what the two imports are for). Every model states its ghost
invariant with a `CallOK` of its own, written out for its type of calls; it is `CallOK` at the model's signature by
unfolding, so these lemmas apply to it as they are. A fact taken out of one of these lemmas mentions `S.inv c`,
which `rw` and `omega` do not identify with `c.inv` (state it with `show` or a type ascription first). -/
namespace Flurry.GhostView
open Flurry.Lin (KSt)

/-- a type `κ` of calls with operations `ω` and results `ρ`: how to make a call of thread, operation, result,
invocation and response time and how to read these off; which operations are reads; the specification of one key.
(The other signatures of the shared files read heap nodes: `LHeap.Sig` of `Lemmas/ListHeap.lean`, `ListSplit.NodeSig`.) -/
structure Sig (κ ω ρ : Type) where
  make : Nat → ω → ρ → Nat → Nat → κ
  tid : κ → Nat
  op : κ → ω
  res : κ → ρ
  inv : κ → Nat
  resp : κ → Nat
  isRead : ω → Bool
  spec : KSt → ω → KSt × ρ
  tid_make : ∀ t o r i e, tid (make t o r i e) = t
  op_make : ∀ t o r i e, op (make t o r i e) = o
  res_make : ∀ t o r i e, res (make t o r i e) = r
  inv_make : ∀ t o r i e, inv (make t o r i e) = i
  resp_make : ∀ t o r i e, resp (make t o r i e) = e

@[reducible] def _root_.Flurry.Lin.sig : Sig Lin.Call Lin.KOp Lin.KRes :=
  ⟨Lin.Call.mk, Lin.Call.tid, Lin.Call.op, Lin.Call.res, Lin.Call.inv, Lin.Call.resp, Lin.isRead, Lin.specStep,
    fun _ _ _ _ _ => rfl, fun _ _ _ _ _ => rfl, fun _ _ _ _ _ => rfl, fun _ _ _ _ _ => rfl, fun _ _ _ _ _ => rfl⟩

@[reducible] def _root_.Flurry.Lin2.sig : Sig Lin2.Call2 Lin2.KOp2 Lin2.KRes :=
  ⟨Lin2.Call2.mk, Lin2.Call2.tid, Lin2.Call2.op, Lin2.Call2.res, Lin2.Call2.inv, Lin2.Call2.resp, Lin2.isRead,
    Lin2.specStep2,
    fun _ _ _ _ _ => rfl, fun _ _ _ _ _ => rfl, fun _ _ _ _ _ => rfl, fun _ _ _ _ _ => rfl, fun _ _ _ _ _ => rfl⟩

variable {κ ω ρ : Type} {S : Sig κ ω ρ}

/-- `c'` is the call `c`, possibly with a later response -/
def Sim (S : Sig κ ω ρ) (c c' : κ) : Prop :=
  S.tid c' = S.tid c ∧ S.op c' = S.op c ∧ S.res c' = S.res c ∧ S.inv c' = S.inv c ∧ S.resp c ≤ S.resp c'

theorem Sim.refl (c : κ) : Sim S c c := ⟨rfl, rfl, rfl, rfl, Nat.le_refl _⟩

theorem Sim.op_eq {c c' : κ} (h : Sim S c c') : S.op c' = S.op c := h.2.1

theorem Sim.inv_eq {c c' : κ} (h : Sim S c c') : S.inv c' = S.inv c := h.2.2.2.1

/-- the call has a linearization point in its interval at which the trace `A` justifies it -/
def CallOK (S : Sig κ ω ρ) (A : Nat → KSt) (pt : Nat → Nat) (c : κ) : Prop :=
  S.inv c ≤ pt (S.inv c) ∧ pt (S.inv c) ≤ S.resp c ∧
  (S.isRead (S.op c) = true → S.spec (A (pt (S.inv c))) (S.op c) = (A (pt (S.inv c)), S.res c)) ∧
  (S.isRead (S.op c) = false → 1 ≤ pt (S.inv c) ∧ S.spec (A (pt (S.inv c) - 1)) (S.op c) = (A (pt (S.inv c)), S.res c))

theorem CallOK.le_resp {A : Nat → KSt} {pt : Nat → Nat} {c : κ} (h : CallOK S A pt c) : pt (S.inv c) ≤ S.resp c :=
  h.2.1

theorem CallOK.read {A : Nat → KSt} {pt : Nat → Nat} {c : κ} (h : CallOK S A pt c) (hr : S.isRead (S.op c) = true) :
    S.spec (A (pt (S.inv c))) (S.op c) = (A (pt (S.inv c)), S.res c) :=
  h.2.2.1 hr

theorem CallOK.write {A : Nat → KSt} {pt : Nat → Nat} {c : κ} (h : CallOK S A pt c) (hw : S.isRead (S.op c) = false) :
    1 ≤ pt (S.inv c) ∧ S.spec (A (pt (S.inv c) - 1)) (S.op c) = (A (pt (S.inv c)), S.res c) :=
  h.2.2.2 hw

theorem CallOK.sim {A A' : Nat → KSt} {pt pt' : Nat → Nat} {c c' : κ} {T : Nat}
    (h : CallOK S A pt c) (hs : Sim S c c') (hresp : S.resp c ≤ T) (hA' : ∀ τ, τ ≤ T → A' τ = A τ)
    (hpt' : pt' (S.inv c) = pt (S.inv c)) : CallOK S A' pt' c' := by
  obtain ⟨h1, h2, h3, h4⟩ := h
  obtain ⟨_, s2, s3, s4, s5⟩ := hs
  unfold CallOK
  rw [s4, s2, s3, hpt', hA' _ (by omega : pt (S.inv c) ≤ T), hA' _ (by omega : pt (S.inv c) - 1 ≤ T)]
  exact ⟨h1, by omega, h3, h4⟩

/-- the trace extended by the abstract state after the step. `BinX.nextA` (`Lemmas/BinXGhost.lean`) has the same body
and is a definition of its own because `MemStep.carries` of `BinX`, `BinN`, `BinNHM` is stated with it; `BinK` and
`BinRB` re-export this one. -/
def nextA (A : Nat → KSt) (now : Nat) (x : KSt) : Nat → KSt := fun τ => if τ = now + 1 then x else A τ

theorem nextA_old {A : Nat → KSt} {now : Nat} {x : KSt} {τ : Nat} (h : τ ≤ now) : nextA A now x τ = A τ := by
  unfold nextA; rw [if_neg (by omega)]

theorem nextA_new {A : Nat → KSt} {now : Nat} {x : KSt} : nextA A now x (now + 1) = x := by
  unfold nextA; rw [if_pos rfl]

/-- the points with `τ` as the point of the call invoked at time `i` -/
def updPt (pt : Nat → Nat) (i τ : Nat) : Nat → Nat := fun j => if j = i then τ else pt j

theorem updPt_self (pt : Nat → Nat) (i τ : Nat) : updPt pt i τ i = τ := by
  unfold updPt; rw [if_pos rfl]

theorem updPt_ne (pt : Nat → Nat) {i j : Nat} (τ : Nat) (h : j ≠ i) : updPt pt i τ j = pt j := by
  unfold updPt; rw [if_neg h]

theorem CallOK.at {A : Nat → KSt} {pt : Nat → Nat} {c : κ} {τ : Nat} (h1 : S.inv c ≤ τ) (h2 : τ ≤ S.resp c)
    (hr : S.isRead (S.op c) = true → S.spec (A τ) (S.op c) = (A τ, S.res c))
    (hw : S.isRead (S.op c) = false → 1 ≤ τ ∧ S.spec (A (τ - 1)) (S.op c) = (A τ, S.res c)) :
    CallOK S A (updPt pt (S.inv c) τ) c := by
  unfold CallOK
  rw [updPt_self]
  exact ⟨h1, h2, hr, hw⟩

/-- a writer whose effect on the abstract state takes place in the step after `now` has its point there -/
theorem callOK_write {A : Nat → KSt} {pt : Nat → Nat} {now : Nat} {a' : KSt} {c : κ}
    (hwr : S.isRead (S.op c) = false) (hinv : S.inv c ≤ now + 1) (hresp : now + 1 ≤ S.resp c)
    (hspec : S.spec (A now) (S.op c) = (a', S.res c)) : CallOK S (nextA A now a') (updPt pt (S.inv c) (now + 1)) c := by
  refine .at hinv hresp (fun h => by rw [hwr] at h; cases h) (fun _ => ⟨Nat.le_add_left 1 now, ?_⟩)
  rw [Nat.add_sub_cancel, nextA_old (Nat.le_refl _), nextA_new]
  exact hspec

/-- a read whose result is justified by the trace at the earlier time `τ0` has its point there -/
theorem callOK_read {A : Nat → KSt} {pt : Nat → Nat} {now τ0 : Nat} {a' : KSt} {c : κ}
    (hrd : S.isRead (S.op c) = true) (h1 : S.inv c ≤ τ0) (h2 : τ0 ≤ now) (hresp : now ≤ S.resp c)
    (hspec : S.spec (A τ0) (S.op c) = (A τ0, S.res c)) : CallOK S (nextA A now a') (updPt pt (S.inv c) τ0) c :=
  .at h1 (Nat.le_trans h2 hresp) (fun _ => by rw [nextA_old h2]; exact hspec) (fun h => by rw [hrd] at h; cases h)

/-- the trace `A` and the points `pt` account for the history `H` up to time `now`, where the abstract
state is `a`: every call has its point, the trace changes only at the point of a writer, and writers have
distinct points. `h0`: every key is absent at time 0 in every model, so there is no parameter for the first state.
`inj` concludes `S.inv c = S.inv d`, not `c = d`: a call is identified by its invocation time, since from one state to
the next it may be replaced by a `Sim`-related call with a later response (`Trace.frame`) -/
structure Trace (S : Sig κ ω ρ) (H : List κ) (now : Nat) (a : KSt) (A : Nat → KSt) (pt : Nat → Nat) : Prop where
  h0 : A 0 = none
  hA : A now = a
  calls : ∀ c ∈ H, CallOK S A pt c
  stab : ∀ τ, 1 ≤ τ → τ ≤ now → A τ ≠ A (τ - 1) → ∃ c ∈ H, S.isRead (S.op c) = false ∧ pt (S.inv c) = τ
  inj : ∀ c ∈ H, ∀ d ∈ H, S.isRead (S.op c) = false → S.isRead (S.op d) = false →
    pt (S.inv c) = pt (S.inv d) → S.inv c = S.inv d

/-- one step: every old call is still there (`hF`, possibly with a later response), every call of the new
history is an old one or the one new call invoked at `i0`, which is justified by the extended trace and,
if it is a writer, has its point in this step; the abstract state changes only if such a writer is there -/
theorem Trace.frame {H H' : List κ} {now : Nat} {a a' : KSt} {A : Nat → KSt} {pt pt' : Nat → Nat} {i0 : Nat}
    (g : Trace S H now a A pt) (hresp : ∀ c ∈ H, S.resp c ≤ now)
    (hpt' : ∀ c ∈ H, pt' (S.inv c) = pt (S.inv c))
    (hF : ∀ c ∈ H, ∃ c' ∈ H', Sim S c c')
    (hB : ∀ c' ∈ H', (∃ c ∈ H, Sim S c c') ∨
      (S.inv c' = i0 ∧ CallOK S (nextA A now a') pt' c' ∧ (S.isRead (S.op c') = false → pt' (S.inv c') = now + 1)))
    (hchg : a' ≠ a → ∃ c' ∈ H', S.isRead (S.op c') = false ∧ pt' (S.inv c') = now + 1) :
    Trace S H' (now + 1) a' (nextA A now a') pt' := by
  have hold : ∀ τ, τ ≤ now → nextA A now a' τ = A τ := fun τ h => nextA_old h
  refine ⟨?_, nextA_new, ?_, ?_, ?_⟩
  · rw [hold 0 (Nat.zero_le _)]; exact g.h0
  · intro c' hc'
    rcases hB c' hc' with ⟨c, hc, hsim⟩ | ⟨-, hok, -⟩
    · exact (g.calls c hc).sim hsim (hresp c hc) hold (hpt' c hc)
    · exact hok
  · intro τ h1 h2 hne
    rcases Nat.lt_or_ge τ (now + 1) with hlt | hge
    · rw [hold τ (by omega), hold (τ - 1) (by omega)] at hne
      obtain ⟨c, hc, hw, hp⟩ := g.stab τ h1 (by omega) hne
      obtain ⟨c', hc', hsim⟩ := hF c hc
      refine ⟨c', hc', by rw [hsim.op_eq]; exact hw, ?_⟩
      rw [hsim.inv_eq, hpt' c hc]; exact hp
    · have hτ : τ = now + 1 := by omega
      subst hτ
      rw [nextA_new, Nat.add_sub_cancel, hold now (Nat.le_refl _), g.hA] at hne
      exact hchg hne
  · -- two old calls: `g.inj`; an old writer has its point at or before `now`, the new one after it
    have hlt : ∀ c ∈ H, ∀ d' ∈ H', S.inv d' = i0 → (S.isRead (S.op d') = false → pt' (S.inv d') = now + 1) →
        S.isRead (S.op d') = false → pt' (S.inv c) ≠ pt' (S.inv d') := by
      intro c hc d' _ _ hdp hwd hpe
      have h1 := (g.calls c hc).le_resp
      have h2 := hresp c hc
      rw [hpt' c hc, hdp hwd] at hpe
      omega
    intro c' hc' d' hd' hwc hwd hpe
    rcases hB c' hc' with ⟨c, hc, hsc⟩ | ⟨hci, -, hcp⟩ <;> rcases hB d' hd' with ⟨d, hd, hsd⟩ | ⟨hdi, -, hdp⟩
    · rw [hsc.inv_eq, hsd.inv_eq]
      rw [hsc.inv_eq, hsd.inv_eq, hpt' c hc, hpt' d hd] at hpe
      exact g.inj c hc d hd (by rw [← hsc.op_eq]; exact hwc) (by rw [← hsd.op_eq]; exact hwd) hpe
    · rw [hsc.inv_eq] at hpe
      exact absurd hpe (hlt c hc d' hd' hdi hdp hwd)
    · rw [hsd.inv_eq] at hpe
      exact absurd hpe.symm (hlt d hd c' hc' hci hcp hwc)
    · rw [hci, hdi]

/-- a part of `H` that contains all its writers is explained by the same trace and points -/
theorem Trace.sub {H h : List κ} {now : Nat} {a : KSt} {A : Nat → KSt} {pt : Nat → Nat}
    (g : Trace S H now a A pt) (hsub : ∀ c ∈ h, c ∈ H) (hw : ∀ c ∈ H, S.isRead (S.op c) = false → c ∈ h) :
    Trace S h now a A pt := by
  refine ⟨g.h0, g.hA, fun c hc => g.calls c (hsub c hc), ?_, fun c hc d hd => g.inj c (hsub c hc) d (hsub d hd)⟩
  intro τ h1 h2 hne
  obtain ⟨c, hc, hwr, hp⟩ := g.stab τ h1 h2 hne
  exact ⟨c, hw c hc hwr, hwr, hp⟩

theorem Trace.writers {H : List κ} {now : Nat} {a : KSt} {A : Nat → KSt} {pt : Nat → Nat}
    (g : Trace S H now a A pt) : Trace S (H.filter (fun c => !S.isRead (S.op c))) now a A pt :=
  g.sub (fun _ h => (List.mem_filter.1 h).1) (fun _ h hwr => List.mem_filter.2 ⟨h, by rw [hwr]; rfl⟩)

/-- what `lin_of_trace` asks of the points beyond `CallOK`, read off the trace -/
theorem Trace.points {H : List κ} {now : Nat} {a : KSt} {A : Nat → KSt} {pt : Nat → Nat}
    (g : Trace S H now a A pt) (hresp : ∀ c ∈ H, S.resp c ≤ now) (hpw : H.Pairwise (fun c d => S.inv c ≠ S.inv d)) :
    (∀ c ∈ H, S.inv c ≤ pt (S.inv c) ∧ pt (S.inv c) ≤ S.resp c ∧ pt (S.inv c) ≤ now) ∧
    H.Pairwise (fun c d => S.isRead (S.op c) = false → S.isRead (S.op d) = false → pt (S.inv c) ≠ pt (S.inv d)) ∧
    ∀ τ, 1 ≤ τ → τ ≤ now → (∀ c ∈ H, S.isRead (S.op c) = false → pt (S.inv c) ≠ τ) → A τ = A (τ - 1) := by
  refine ⟨?_, ?_, ?_⟩
  · intro c hc
    obtain ⟨h1, h2, -, -⟩ := g.calls c hc
    exact ⟨h1, h2, Nat.le_trans h2 (hresp c hc)⟩
  · refine hpw.imp_of_mem ?_
    intro c d hc hd hne hwc hwd hpe
    exact hne (g.inj c hc d hd hwc hwd hpe)
  · intro τ h1 h2 hno
    apply Classical.byContradiction
    intro hne
    obtain ⟨c, hc, hw, hp⟩ := g.stab τ h1 h2 hne
    exact hno c hc hw hp

theorem isRead_cases {op : Lin.KOp} (h : Lin.isRead op = true) : op = .get ∨ op = .has := by
  cases op <;> first | exact Or.inl rfl | exact Or.inr rfl | cases h

theorem Trace.linearizable {H : Lin.History} {now : Nat} {a : KSt} {A : Nat → KSt} {pt : Nat → Nat}
    (g : Trace Lin.sig H now a A pt) (hresp : ∀ c ∈ H, c.resp ≤ now) (hpw : H.Pairwise (fun c d => c.inv ≠ d.inv)) :
    Lin.Linearizable H none a := by
  obtain ⟨h1, h4, h5⟩ := g.points hresp hpw
  have h := Lin.lin_of_trace (h := H) A now (fun c => pt c.inv) h1 (fun c hc => (g.calls c hc).write)
    (fun c hc => (g.calls c hc).read) h4 h5
  rw [g.h0, g.hA] at h; exact h

theorem Trace.linearizable2 {H : Lin2.History2} {now : Nat} {a : KSt} {A : Nat → KSt} {pt : Nat → Nat}
    (g : Trace Lin2.sig H now a A pt) (hresp : ∀ c ∈ H, c.resp ≤ now) (hpw : H.Pairwise (fun c d => c.inv ≠ d.inv)) :
    Lin2.Linearizable2 H none a := by
  obtain ⟨h1, h4, h5⟩ := g.points hresp hpw
  have h := Lin2.lin_of_trace (h := H) A now (fun c => pt c.inv) h1 (fun c hc => (g.calls c hc).write)
    (fun c hc => (g.calls c hc).read) h4 h5
  rw [g.h0, g.hA] at h; exact h

end Flurry.GhostView
