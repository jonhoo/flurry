import Flurry.Lemmas.BinGInv
import Flurry.Lemmas.BinGHeapStore
/-! # Proto/BinG: the cell a store goes into, and private allocation, at the level of states

`Writable s id`: the situation in which the structure (list / `TreeBin`) of the cell `id` is stored to: `id` is live, no
new structures of a transfer are pending; then the other two cells share no node with it (`Writable.disj`,
`Writable.tree_disj`) and no node is private to a transfer (`Writable.not_privX`). `HInv.valid`: the heap invariant says
that every cell is `BinGH.Valid` for its keys (`KeyOf`). `hinv_grow`: `HInv` survives a step that only appends nodes and
`TreeBin`s and changes no cell (`Ext.hinv`, `Lemmas/BinGPlan.lean`).

These are statements about `HInv` and `Writable` in one state or for one shape of change; apart from `Ext.hinv` nothing uses
them. That a step of BinG preserves the invariant is not proved from them: `Inv` of a reachable state is read off the invariant of
`Proto/BinGN` on the image of the state (`Lemmas/BinGLin.lean`), and a new invariant is added there, to the bundle of
`Lemmas/BinGNPBundle.lean`. -/
namespace Flurry.Proto.BinG
open Flurry.Proto.BinK (nodeAt binAt NextOK chainOf_none)

structure Writable (s : State) (id : Cid) : Prop where
  act : (id = .c0 ∧ s.cell0 ≠ .moved ∧ s.lowCell = .empty ∧ s.highCell = .empty) ∨ (id ≠ .c0 ∧ s.cell0 = .moved)
  noPlan : ∀ (t : Nat) (l : Local), s.threads[t]? = some l → xPc l.pc = true → pend s l.pc = []

namespace Store

theorem chainC_empty (s : State) : chainC s .empty = [] := chainOf_none _
theorem chainC_moved (s : State) : chainC s .moved = [] := chainOf_none _

theorem not_treeOf_empty (s : State) (j : Nat) : ¬ treeOf s .empty j := by
  rintro ⟨_, _, b, hb, _⟩; cases hb

theorem not_treeOf_moved (s : State) (j : Nat) : ¬ treeOf s .moved j := by
  rintro ⟨_, _, b, hb, _⟩; cases hb

theorem ownerOf_eq_some {c : Cell} {b : Nat} : ownerOf c = some b ↔ c = .tree b := BinGH.ownerOf_eq_some

theorem treeOf_owner {s : State} {c : Cell} {j : Nat} (h : treeOf s c j) : (nodeAt s.heap j).owner = ownerOf c :=
  BinGH.inTree_owner h

theorem treeOf_lt {s : State} {c : Cell} {j : Nat} (h : treeOf s c j) : j < s.heap.length := h.1

theorem dfltB_first : Flurry.Proto.BinK.dfltB.first = none := rfl

end Store
open Store

theorem Writable.other_cases {s : State} {id : Cid} (W : Writable s id) {id' : Cid} (hne : id' ≠ id) :
    cellAt s id' = .empty ∨ cellAt s id' = .moved ∨ (id ≠ .c0 ∧ id' ≠ .c0 ∧ sideOf id' = !sideOf id) := by
  rcases W.act with ⟨rfl, _, hlo, hhi⟩ | ⟨hid, hm⟩
  · cases id' with
    | c0 => exact absurd rfl hne
    | lo => exact Or.inl hlo
    | hi => exact Or.inl hhi
  · cases id' with
    | c0 => exact Or.inr (Or.inl hm)
    | lo =>
      refine Or.inr (Or.inr ⟨hid, Cid.noConfusion, ?_⟩)
      cases id with
      | c0 => exact absurd rfl hid
      | lo => exact absurd rfl hne
      | hi => rfl
    | hi =>
      refine Or.inr (Or.inr ⟨hid, Cid.noConfusion, ?_⟩)
      cases id with
      | c0 => exact absurd rfl hid
      | lo => rfl
      | hi => exact absurd rfl hne

theorem Writable.disj {s : State} {id : Cid} (W : Writable s id) (H : HInv s) {id' : Cid} (hne : id' ≠ id) {j : Nat}
    (h' : j ∈ chainC s (cellAt s id') ∨ treeOf s (cellAt s id') j)
    (h : j ∈ chainC s (cellAt s id) ∨ treeOf s (cellAt s id) j) : False := by
  rcases W.other_cases hne with he | he | ⟨h0, h0', hs⟩
  · rw [he, chainC_empty] at h'
    rcases h' with h' | h'
    · cases h'
    · exact not_treeOf_empty s j h'
  · rw [he, chainC_moved] at h'
    rcases h' with h' | h'
    · cases h'
    · exact not_treeOf_moved s j h'
  · have e1 := H.side id' h0' j h'
    have e2 := H.side id h0 j h
    rw [e1, hs] at e2
    cases hb : sideOf id <;> simp [hb] at e2

theorem Writable.tree_disj {s : State} {id : Cid} (W : Writable s id) (H : HInv s) {id' : Cid} (hne : id' ≠ id) {j : Nat}
    (h' : treeOf s (cellAt s id') j) : j ∉ chainC s (cellAt s id) ∧ ¬ treeOf s (cellAt s id) j :=
  ⟨fun h => W.disj H hne (Or.inr h') (Or.inl h), fun h => W.disj H hne (Or.inr h') (Or.inr h)⟩

theorem Writable.not_privX {s : State} {id : Cid} (W : Writable s id) (j : Nat) : ¬ PrivX s j := by
  rintro ⟨t, l, C, hl, hx, hC, -⟩
  rw [W.noPlan t l hl hx] at hC
  cases hC

/-- the keys that may live in cell `id` -/
abbrev KeyOf (id : Cid) (k : Nat) : Prop := id ≠ .c0 → hiBit k = sideOf id

theorem HInv.valid {s : State} (H : HInv s) (id : Cid) : BinGH.Valid s.heap s.tbins (cellAt s id) (KeyOf id) :=
  ⟨H.cinv id, H.cellOK id, H.chainOwner id, fun j hj h0 => H.side id h0 j hj⟩

theorem hinv_grow {s s' : State} (H : HInv s) (hok' : NextOK s'.heap) (hlen : s.heap.length ≤ s'.heap.length)
    (hold : ∀ j, j < s.heap.length → nodeAt s'.heap j = nodeAt s.heap j)
    (hcells : ∀ id, cellAt s' id = cellAt s id) (hcur : s'.cur = s.cur)
    (htl : s.tbins.length ≤ s'.tbins.length)
    (hbin : ∀ b, b < s.tbins.length → binAt s'.tbins b = binAt s.tbins b)
    (hno : ∀ j, s.heap.length ≤ j → ∀ b, (nodeAt s'.heap j).owner = some b → s.tbins.length ≤ b ∧ b < s'.tbins.length)
    (hF : ∀ b h, s.tbins.length ≤ b → (binAt s'.tbins b).first = some h → h < s'.heap.length) :
    HInv s' ∧ ∀ id, chainC s' (cellAt s' id) = chainC s (cellAt s id) := by
  have hV : ∀ id, BinGH.Valid s'.heap s'.tbins (cellAt s' id) (KeyOf id) ∧
      chainC s' (cellAt s' id) = chainC s (cellAt s id) := fun id => by
    rw [hcells id]
    exact (H.valid id).grow hok' hlen hold htl hbin (fun j hj b hb => (hno j hj b hb).1)
  have h0 : s'.cell0 = s.cell0 := hcells .c0
  have h1 : s'.lowCell = s.lowCell := hcells .lo
  have h2 : s'.highCell = s.highCell := hcells .hi
  exact ⟨⟨fun id => (hV id).1.cinv,
    BinGH.ownerOK_frame H.ownerOK htl (fun j hj => by rw [hold j hj]) (fun j hj b hb => (hno j hj b hb).2),
    BinGH.firstOK_frame H.firstOK hlen hbin (fun b h hb => hF b h (Nat.not_lt.1 hb)),
    fun id => (hV id).1.cellOK, fun id => (hV id).1.chainOwner, fun id h0 j hj => (hV id).1.side j hj h0,
    fun hc => by rw [hcur] at hc; rw [h0]; exact H.curMoved hc, by rw [h1, h2]; exact H.newNotMoved,
    fun b => by rw [h1, h2]; exact H.binsDistinct b⟩, fun id => (hV id).2⟩

end Flurry.Proto.BinG
