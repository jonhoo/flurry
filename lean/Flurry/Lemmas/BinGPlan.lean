import Flurry.Lemmas.BinGSplit
import Flurry.Lemmas.BinGStore
/-! # Proto/BinG: the two splits of a transfer as functions of heap and `TreeBin` table; `Plan` after the two build steps

What other files take from here: `xsplitOf_eq`, `ysplitOf_eq`, `splitSide_eq` (the splits of this model are `BinGH.xsplit`,
`BinGH.ysplit`, `BinGH.splitSide` of `Lemmas/BinGHeapPlan.lean` at the split bit `hiBit`), `splitSide_frame`, `frame_trans`
(what a split leaves alone) and `cellOfHead_ne_moved`.

`xbuild_plan` (the list split, `xBuild`) and `ybuild_plan` (the tree split, `yBuild`) state that the successor of a build
step satisfies `Plan`, given `Inv` before the step, with what they rest on: `copyOK_iff`, `Ext s s'` (heap and `TreeBin` table
are extended at the end, `BinGH.Ext`, the cells and the table pointer are unchanged; `Ext.hinv`, `Ext.chainC_eq`),
`NewOrOld`, `plan_of_ext`, `ypre_of_inv`. These are statements about the clause `Plan` of `XInv` for two transitions, and
nothing uses them. That a step of BinG preserves the invariant is not proved from them: `Inv` of a reachable state is read off the invariant of
`Proto/BinGN` on the image of the state (`Lemmas/BinGLin.lean`), and a new invariant is added there, to the bundle of
`Lemmas/BinGNPBundle.lean`. -/
namespace Flurry.Proto.BinG
open Flurry.Lin
open Flurry.Proto.BinK (nodeAt binAt NextOK)

open Flurry.Proto.BinGH (cellOfHead_ne_tree)

export Flurry.Proto.BinGH (cellOfHead_ne_moved)

theorem copyOK_iff {s : State} {old : Cell} {sel : Nat → Bool} {C : Cell} :
    CopyOK s old sel C ↔ BinGH.CopyOK s.heap s.tbins old sel C :=
  ⟨fun h => ⟨h.1, h.2, h.3, h.4, h.5, h.6, h.7, h.8, h.9, h.10⟩,
   fun h => ⟨h.1, h.2, h.3, h.4, h.5, h.6, h.7, h.8, h.9, h.10⟩⟩

theorem startOf_cellOfHead (tb : List TBin) (hd : Option Nat) : startOf tb (cellOfHead hd) = hd :=
  BinGH.startOf_cellOfHead tb hd

theorem not_treeOf_cellOfHead (s : State) (hd : Option Nat) (j : Nat) : ¬ treeOf s (cellOfHead hd) j :=
  BinGH.not_inTree_cellOfHead s.heap hd j

theorem ownerOf_cellOfHead (hd : Option Nat) : ownerOf (cellOfHead hd) = none :=
  BinGH.ownerOf_cellOfHead hd

structure Ext (s s' : State) : Prop extends BinGH.Ext s.heap s.tbins s'.heap s'.tbins where
  cell0 : s'.cell0 = s.cell0
  low : s'.lowCell = s.lowCell
  high : s'.highCell = s.highCell
  cur : s'.cur = s.cur

theorem Ext.cellAt_eq {s s' : State} (e : Ext s s') (id : Cid) : cellAt s' id = cellAt s id := by
  cases id
  · exact e.cell0
  · exact e.low
  · exact e.high

theorem Ext.chainC_eq {s s' : State} (e : Ext s s') (hok : NextOK s.heap) {c : Cell}
    (hst : ∀ x, startOf s.tbins c = some x → x < s.heap.length) (hc : ∀ b, c = .tree b → b < s.tbins.length) :
    chainC s' c = chainC s c := e.toExt.chain_eq hok hst hc

theorem Ext.hinv {s s' : State} (e : Ext s s') (H : HInv s) : HInv s' :=
  (hinv_grow H e.nextOK e.hlen (fun _ hj => e.old hj) e.cellAt_eq e.cur e.blen (fun _ hb => e.bold hb)
    (fun j hj b ho => e.newOwner j b hj ho) e.newFirst).1

/-- the nodes of a planned structure are nodes of the old chain or new nodes; a planned `TreeBin` is the
old one or a new one -/
def NewOrOld (s s' : State) (C : Cell) : Prop :=
  (∀ j ∈ chainC s' C, j ∈ chainC s s.cell0 ∨ s.heap.length ≤ j) ∧
  (∀ x, C = .tree x → s.cell0 = .tree x ∨ s.tbins.length ≤ x)

theorem plan_of_ext {s : State} {t : Nat} {l' : Local} {hp' : List NodeS} {tb' : List TBin} {old lo hi : Cell}
    (H : HInv s) (hcell : s.cell0 = old) (e : BinGH.Ext s.heap s.tbins hp' tb')
    (hlo : BinGH.CopyOK hp' tb' old (fun k => hiBit k == false) lo)
    (hhi : BinGH.CopyOK hp' tb' old (fun k => hiBit k == true) hi)
    (hdist : ∀ b, lo = .tree b → hi ≠ .tree b)
    (hN1 : BinGH.NewOrOld s.heap s.tbins hp' tb' old lo) (hN2 : BinGH.NewOrOld s.heap s.tbins hp' tb' old hi) :
    HInv (setT (qst s hp' tb') t l') ∧ Plan (setT (qst s hp' tb') t l') lo hi ∧ Ext s (setT (qst s hp' tb') t l') ∧
    NewOrOld s (setT (qst s hp' tb') t l') lo ∧ NewOrOld s (setT (qst s hp' tb') t l') hi := by
  have E : Ext s (setT (qst s hp' tb') t l') := ⟨e, rfl, rfl, rfl, rfl⟩
  have hcell' : (setT (qst s hp' tb') t l').cell0 = old := hcell
  unfold NewOrOld
  rw [hcell]
  refine ⟨E.hinv H, ⟨?_, ?_, hdist⟩, E, hN1, hN2⟩
  · rw [hcell']; exact copyOK_iff.2 hlo
  · rw [hcell']; exact copyOK_iff.2 hhi

theorem xsplitOf_eq (s : State) (h : Nat) :
    xsplitOf s h = ((BinGN.splitBinB hiBit s.heap (BinGH.chain s.heap s.tbins (.list h))).1,
      cellOfHead (BinGN.splitBinB hiBit s.heap (BinGH.chain s.heap s.tbins (.list h))).2.1,
      cellOfHead (BinGN.splitBinB hiBit s.heap (BinGH.chain s.heap s.tbins (.list h))).2.2) := rfl

theorem xbuild_plan_ext {s : State} {t : Nat} {l : Local} {h : Nat} (I : Inv s) (hl : s.threads[t]? = some l)
    (hpc : l.pc = .xBuild h) :
    let s' := setT (qst s (xsplitOf s h).1 s.tbins) t { l with pc := .xStoreLow (.inl h) (xsplitOf s h).2.1 (xsplitOf s h).2.2 }
    HInv s' ∧ Plan s' (xsplitOf s h).2.1 (xsplitOf s h).2.2 ∧
    (∃ ext, s'.heap = s.heap ++ ext ∧ ∀ n ∈ ext, n.lock = none ∧ n.inTree = false ∧ n.owner = none) ∧
    (∀ c : Cell, (∀ x, startOf s.tbins c = some x → x < s.heap.length) → chainC s' c = chainC s c) ∧
    Ext s s' ∧ NewOrOld s s' (xsplitOf s h).2.1 ∧ NewOrOld s s' (xsplitOf s h).2.2 := by
  have H := I.heap
  have hcid : cidOf l = .c0 := by unfold cidOf; rw [hpc]; rfl
  have hcell : s.cell0 = .list h := by
    have := I.lock.vL t l h hl (by rw [hpc]; rfl)
    rw [hcid] at this; exact this
  have hcc : cellAt s .c0 = .list h := hcell
  have hC0 := H.cinv .c0
  have hown := H.chainOwner .c0
  rw [hcc] at hC0 hown
  obtain ⟨hext, e, hlo, hhi, hN1, hN2⟩ := BinGH.xsplit_spec hiBit s.tbins hC0 hown rfl
  dsimp only
  rw [xsplitOf_eq]
  generalize BinGN.splitBinB hiBit s.heap (BinGH.chain s.heap s.tbins (.list h)) = R at hext e hlo hhi hN1 hN2 ⊢
  obtain ⟨h1, h2, E, h3, h4⟩ := plan_of_ext (t := t)
    (l' := { l with pc := .xStoreLow (.inl h) (cellOfHead R.2.1) (cellOfHead R.2.2) }) H hcell e hlo hhi
    (fun b hb => absurd hb (cellOfHead_ne_tree _ b)) hN1 hN2
  exact ⟨h1, h2, hext, fun c hst => e.chainOf_eq H.nextOK hst, E, h3, h4⟩

theorem xbuild_plan {s : State} {t : Nat} {l : Local} {h : Nat} (I : Inv s) (hl : s.threads[t]? = some l)
    (hpc : l.pc = .xBuild h) :
    let s' := setT (qst s (xsplitOf s h).1 s.tbins) t { l with pc := .xStoreLow (.inl h) (xsplitOf s h).2.1 (xsplitOf s h).2.2 }
    HInv s' ∧ Plan s' (xsplitOf s h).2.1 (xsplitOf s h).2.2 ∧
    (∃ ext, s'.heap = s.heap ++ ext ∧ ∀ n ∈ ext, n.lock = none ∧ n.inTree = false ∧ n.owner = none) ∧
    (∀ c : Cell, (∀ x, startOf s.tbins c = some x → x < s.heap.length) → chainC s' c = chainC s c) := by
  intro s'
  obtain ⟨a, b, c, d, -⟩ := xbuild_plan_ext I hl hpc
  exact ⟨a, b, c, d⟩

theorem splitSide_eq (s : State) (b : Nat) (c : List Nat) (small reuse : Bool) :
    splitSide s b c small reuse =
      ({ s with heap := (BinGH.splitSide s.heap s.tbins b c small reuse).1,
                tbins := (BinGH.splitSide s.heap s.tbins b c small reuse).2.1 },
        (BinGH.splitSide s.heap s.tbins b c small reuse).2.2) := by
  cases c with
  | nil => rfl
  | cons a c => cases small <;> cases reuse <;> rfl

theorem splitSide_frame (s : State) (b : Nat) (c : List Nat) (small reuse : Bool) :
    (splitSide s b c small reuse).1 =
      { s with heap := (splitSide s b c small reuse).1.heap, tbins := (splitSide s b c small reuse).1.tbins } := by
  rw [splitSide_eq]

theorem frame_trans {s0 s1 s2 : State} (h1 : s1 = { s0 with heap := s1.heap, tbins := s1.tbins })
    (h2 : s2 = { s1 with heap := s2.heap, tbins := s2.tbins }) :
    s2 = { s0 with heap := s2.heap, tbins := s2.tbins } := by
  rw [h2, h1]

theorem ysplitOf_eq (s : State) (b : Nat) (small small2 : Bool) :
    ysplitOf s b small small2 =
      ({ s with heap := (BinGH.ysplit hiBit s.heap s.tbins b small small2).1,
                tbins := (BinGH.ysplit hiBit s.heap s.tbins b small small2).2.1 },
        (BinGH.ysplit hiBit s.heap s.tbins b small small2).2.2.1,
        (BinGH.ysplit hiBit s.heap s.tbins b small small2).2.2.2) := by
  unfold ysplitOf
  dsimp only
  rw [splitSide_eq, splitSide_eq]
  rfl

/-- the thread at `yBuild b` holds the mutex of `b`, so no remover is between its list unlink and its
tree removal: the tree of `b` holds no node that is not on the list -/
theorem ypre_of_inv {s : State} {t : Nat} {l : Local} {b : Nat} (I : Inv s) (hl : s.threads[t]? = some l)
    (hpc : l.pc = .yBuild b) : s.cell0 = .tree b ∧ BinGH.YPre s.heap s.tbins b := by
  have H := I.heap
  have hcid : cidOf l = .c0 := by unfold cidOf; rw [hpc]; rfl
  have hcell : s.cell0 = .tree b := by
    have := I.lock.vT t l b hl (by rw [hpc]; rfl)
    rw [hcid] at this; exact this
  have hcc : cellAt s .c0 = .tree b := hcell
  have hmx : (binAt s.tbins b).mutex = some t := (I.lock.mx t l b hl).1 (by rw [hpc]; rfl)
  have hC0 := H.cinv .c0
  have hown := H.chainOwner .c0
  rw [hcc] at hC0 hown
  refine ⟨hcell, hC0, H.cellOK .c0 b hcell, H.ownerOK, hown, ?_⟩
  intro j hj ho hin
  apply Classical.byContradiction
  intro hn
  obtain ⟨t', l', hl', hcase⟩ := I.data.treeSub .c0 b hcell j hj ho hin hn
  have hm' : holdsMutex l'.pc = some b := by
    rcases hcase with ⟨tab, res, h⟩ | ⟨tab, res, h⟩ <;> rw [h] <;> rfl
  have hmx' := (I.lock.mx t' l' b hl').1 hm'
  rw [hmx] at hmx'
  cases hmx'
  rw [hl] at hl'
  cases hl'
  rcases hcase with ⟨tab, res, h⟩ | ⟨tab, res, h⟩ <;> rw [hpc] at h <;> cases h

theorem ybuild_plan_ext {s : State} {t : Nat} {l : Local} {b : Nat} (small small2 : Bool) (I : Inv s)
    (hl : s.threads[t]? = some l) (hpc : l.pc = .yBuild b) :
    let r := ysplitOf (tick s) b small small2
    let s' := setT r.1 t { l with pc := .xStoreLow (.inr b) r.2.1 r.2.2 }
    HInv s' ∧ Plan s' r.2.1 r.2.2 ∧
    (∃ ext, s'.heap = s.heap ++ ext ∧ ∀ n ∈ ext, n.lock = none) ∧
    (∃ extb, s'.tbins = s.tbins ++ extb ∧ ∀ x ∈ extb, x = { first := x.first }) ∧
    (∀ j, s.heap.length ≤ j → j < s'.heap.length → ∀ b', (nodeAt s'.heap j).owner = some b' → s.tbins.length ≤ b') ∧
    (∀ c : Cell, (∀ x, startOf s.tbins c = some x → x < s.heap.length) → (∀ b', c = .tree b' → b' < s.tbins.length) →
      chainC s' c = chainC s c) ∧
    (∀ id, cellAt s' id = cellAt s id) ∧ s'.cur = s.cur ∧ s'.now = s.now + 1 ∧
    s' = setT (qst s s'.heap s'.tbins) t { l with pc := .xStoreLow (.inr b) r.2.1 r.2.2 } ∧
    Ext s s' ∧ NewOrOld s s' r.2.1 ∧ NewOrOld s s' r.2.2 := by
  obtain ⟨hcell, P⟩ := ypre_of_inv I hl hpc
  obtain ⟨e, hlo, hhi, hdist, hN1, hN2⟩ :=
    BinGH.ysplit_spec hiBit small small2 (hp := (tick s).heap) (tb := (tick s).tbins) P rfl
  dsimp only
  rw [ysplitOf_eq]
  generalize BinGH.ysplit hiBit (tick s).heap (tick s).tbins b small small2 = R at e hlo hhi hdist hN1 hN2 ⊢
  obtain ⟨h1, h2, E, h3, h4⟩ := plan_of_ext (t := t) (l' := { l with pc := .xStoreLow (.inr b) R.2.2.1 R.2.2.2 })
    I.heap hcell e hlo hhi hdist hN1 hN2
  exact ⟨h1, h2, e.heap, e.tbins, fun j hj _ b' ho => (e.newOwner j b' hj ho).1,
    fun c hst hc => E.chainC_eq I.heap.nextOK hst hc, E.cellAt_eq, rfl, rfl, rfl, E, h3, h4⟩

theorem ybuild_plan {s : State} {t : Nat} {l : Local} {b : Nat} (small small2 : Bool) (I : Inv s)
    (hl : s.threads[t]? = some l) (hpc : l.pc = .yBuild b) :
    let r := ysplitOf (tick s) b small small2
    let s' := setT r.1 t { l with pc := .xStoreLow (.inr b) r.2.1 r.2.2 }
    HInv s' ∧ Plan s' r.2.1 r.2.2 ∧
    (∃ ext, s'.heap = s.heap ++ ext ∧ ∀ n ∈ ext, n.lock = none) ∧
    (∃ extb, s'.tbins = s.tbins ++ extb ∧ ∀ x ∈ extb, x = { first := x.first }) ∧
    (∀ j, s.heap.length ≤ j → j < s'.heap.length → ∀ b', (nodeAt s'.heap j).owner = some b' → s.tbins.length ≤ b') ∧
    (∀ c : Cell, (∀ x, startOf s.tbins c = some x → x < s.heap.length) → (∀ b', c = .tree b' → b' < s.tbins.length) →
      chainC s' c = chainC s c) ∧
    (∀ id, cellAt s' id = cellAt s id) ∧ s'.cur = s.cur ∧ s'.now = s.now + 1 ∧
    s' = setT (qst s s'.heap s'.tbins) t { l with pc := .xStoreLow (.inr b) r.2.1 r.2.2 } := by
  intro r s'
  obtain ⟨a1, a2, a3, a4, a5, a6, a7, a8, a9, a10, -⟩ := ybuild_plan_ext small small2 I hl hpc
  exact ⟨a1, a2, a3, a4, a5, a6, a7, a8, a9, a10⟩

end Flurry.Proto.BinG
