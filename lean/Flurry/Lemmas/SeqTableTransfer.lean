import Flurry.Lemmas.SeqTableLookup
import Flurry.Props.C10Arith
/-! # `transferTable` / `transfer`, and the two relations the control routines are stated in

`Same m m'`: every lookup and the entries (up to order) are kept; `Grown m r`: hasher, counter and entries
are kept and the table is not shorter. `transfer_same` and `transfer_grown` are the first instances; `addCount`,
`tryPresize`, `treeifyBin` and `initTable` follow in `SeqTableAddCount`, `SeqTablePresize`, `SeqTableCtl`. -/
namespace Flurry.Seq
open Flurry Flurry.Gen

/-- the doubled table: all low halves, then all high halves (the padding of the definition is
empty and nothing is cut off, because `nextTableLen n = 2 * n`) -/
theorem transferTable_eq (t : Table) :
    transferTable t = t.map (fun b => (splitBin t.length b).1) ++ t.map (fun b => (splitBin t.length b).2) := by
  have hl : ∀ nt : Table, nt.length = nextTableLen t.length →
      (nt ++ emptyTable (nextTableLen t.length - nt.length)).take (nextTableLen t.length) = nt := by
    intro nt h
    rw [← h, Nat.sub_self]
    exact (List.append_nil nt).symm ▸ List.take_length
  rw [transferTable, hl, List.map_map, List.map_map]
  · rfl
  · simp only [List.length_append, List.length_map, C10.double_exact, Nat.two_mul]

theorem transferTable_length (t : Table) : (transferTable t).length = 2 * t.length := by
  rw [transferTable_eq, List.length_append, List.length_map, List.length_map, Nat.two_mul]

theorem tableBin_transferTable_lo {t : Table} {i : Nat} (hi : i < t.length) :
    tableBin (transferTable t) i = (splitBin t.length (tableBin t i)).1 := by
  rw [transferTable_eq, tableBin_append, List.length_map, if_pos hi, tableBin_map rfl]

theorem tableBin_transferTable_hi (t : Table) (i : Nat) :
    tableBin (transferTable t) (i + t.length) = (splitBin t.length (tableBin t i)).2 := by
  rw [transferTable_eq, tableBin_append, List.length_map, if_neg (Nat.not_lt.2 (Nat.le_add_left ..)),
    Nat.add_sub_cancel, tableBin_map rfl]

/-- the nodes of the doubled table are the old nodes, rearranged (no hypothesis needed) -/
theorem transferTable_nodes_perm (t : Table) :
    ((transferTable t).flatMap Bin.nodes).Perm (t.flatMap Bin.nodes) := by
  rw [transferTable_eq, List.flatMap_append]
  generalize t.length = n
  induction t with
  | nil => exact List.Perm.refl _
  | cons b t ih =>
    obtain ⟨p0, p1⟩ := splitBin_nodes_perm n b
    rw [List.map_cons, List.map_cons, List.flatMap_cons, List.flatMap_cons, List.flatMap_cons,
      List.append_assoc]
    refine ((List.perm_append_comm_assoc _ _ _).append_left _).trans ?_
    rw [← List.append_assoc]
    exact ((p0.append p1).trans (filter_bits_perm n b.nodes)).append ih

theorem IsPow2.double {n : Nat} (hn : IsPow2 n) (hlt : n < MAXIMUM_CAPACITY) :
    IsPow2 (2 * n) ∧ 2 * n ≤ MAXIMUM_CAPACITY := by
  obtain ⟨k, rfl⟩ := hn
  rw [max_cap_eq] at *
  rw [← Nat.pow_succ']
  exact ⟨⟨k + 1, rfl⟩, Nat.pow_le_pow_right (by decide) ((Nat.pow_lt_pow_iff_right (by decide)).1 hlt)⟩

theorem transferTable_wf {hash : Nat → Nat} {t : Table} (h : TableWF hash t)
    (hlt : t.length < MAXIMUM_CAPACITY) : TableWF hash (transferTable t) := by
  obtain ⟨hp, hm⟩ := h.1.double hlt
  rw [TableWF, transferTable_length]
  refine ⟨hp, hm, fun i hi => ?_⟩
  by_cases hlo : i < t.length
  · rw [tableBin_transferTable_lo hlo]
    exact (splitBin_wf' h.1 (h.bin i)).1
  · rw [← Nat.sub_add_cancel (Nat.le_of_not_lt hlo), tableBin_transferTable_hi]
    exact (splitBin_wf' h.1 (h.bin _)).2.1

/-- the bin that a hash selects in the doubled table holds the half (chosen by the new bit) of
the bin it selected before -/
theorem transferTable_find {hash : Nat → Nat} {t : Table} (h : TableWF hash t) (hs key : Nat) :
    (tableBin (transferTable t) (bini hs (2 * t.length))).find hs key
      = (tableBin t (bini hs t.length)).find hs key := by
  rw [← splitBin_find h.1 (h.bin _) hs key, bini_double' h.1]
  rcases runBit_cases' h.1 hs with h0 | h1
  · rw [h0, Nat.add_zero, tableBin_transferTable_lo (bini_lt_of_isPow2 hs h.1)]; rfl
  · rw [h1, tableBin_transferTable_hi, if_neg]
    rw [beq_iff_eq]; exact Nat.ne_of_gt h.length_pos

/-- two states answer every lookup alike and hold the same entries (up to iteration order) -/
def Same (m m' : Map) : Prop :=
  m'.hash = m.hash ∧ (∀ k, get k m' = get k m) ∧ (entries m').Perm (entries m)

theorem Same.refl (m : Map) : Same m m := ⟨rfl, fun _ => rfl, List.Perm.refl _⟩

theorem Same.trans {a b c : Map} (h1 : Same a b) (h2 : Same b c) : Same a c :=
  ⟨h2.1.trans h1.1, fun k => (h2.2.1 k).trans (h1.2.1 k), h2.2.2.trans h1.2.2⟩

theorem Same.of_eq {m m' : Map} (ht : m'.table = m.table) (hh : m'.hash = m.hash) : Same m m' :=
  ⟨hh, get_congr ht hh, by rw [entries_congr ht]⟩

theorem Same.length_eq {m m' : Map} (h : Same m m') : (entries m').length = (entries m).length :=
  h.2.2.length_eq

theorem Same.absMap_eq {m m' : Map} (h : Same m m') : absMap m' = absMap m := by
  funext k; simp only [absMap, h.2.1 k]

theorem transfer_of_some {m : Map} {t : Table} (ht : m.table = some t) :
    transfer m = { m with table := some (transferTable t), sizeCtl := postResizeThreshold t.length,
                          resizes := m.resizes + 1 } := by
  simp only [transfer, ht]

theorem transfer_table {m : Map} {t : Table} (ht : m.table = some t) :
    (transfer m).table = some (transferTable t) := by rw [transfer_of_some ht]

theorem transfer_hash (m : Map) : (transfer m).hash = m.hash := by
  unfold transfer; split <;> rfl

theorem transfer_count (m : Map) : (transfer m).count = m.count := by
  unfold transfer; split <;> rfl

theorem transfer_resizes {m : Map} {t : Table} (ht : m.table = some t) :
    (transfer m).resizes = m.resizes + 1 := by rw [transfer_of_some ht]

theorem transfer_resizes_le (m : Map) : m.resizes ≤ (transfer m).resizes := by
  unfold transfer; split <;> simp

theorem transfer_sizeCtl {m : Map} {t : Table} (ht : m.table = some t) :
    (transfer m).sizeCtl = loadFactor (Int.ofNat (2 * t.length)) := by
  rw [transfer_of_some ht]
  show postResizeThreshold t.length = _
  rw [(C10.threshold_after t.length).1, C10.double_exact]

theorem transfer_tableLen_le (m : Map) : tableLen m ≤ tableLen (transfer m) := by
  cases ht : m.table with
  | none => rw [transfer, ht]; exact Nat.le_refl _
  | some t =>
    rw [tableLen_of_some ht, tableLen_of_some (transfer_table ht), transferTable_length]
    exact Nat.le_mul_of_pos_left _ (by decide)

theorem transfer_entries_perm (m : Map) : (entries (transfer m)).Perm (entries m) := by
  cases ht : m.table with
  | none => simp [transfer, ht]
  | some t =>
    rw [entries_eq ht, entries_eq (transfer_table ht)]
    exact transferTable_nodes_perm t

theorem transfer_get {m : Map} {t : Table} (ht : m.table = some t) (hw : TableWF m.hash t)
    (k : Nat) : get k (transfer m) = get k m := by
  have hpos := hw.length_pos
  rw [get_eq_find ht hw]
  simp only [get, transfer_table ht, transfer_hash, transferTable_length]
  rw [if_neg (by simp only [beq_iff_eq]; omega)]
  exact transferTable_find hw _ _

theorem transfer_same {m : Map} {t : Table} (ht : m.table = some t) (hw : TableWF m.hash t) :
    Same m (transfer m) :=
  ⟨transfer_hash m, transfer_get ht hw, transfer_entries_perm m⟩

/-- what the control routines guarantee whatever the state they start from: hasher and counter
stay, the table does not shrink, the entries are rearranged at most -/
structure Grown (m r : Map) : Prop where
  hash : r.hash = m.hash
  count : r.count = m.count
  tableLen_le : tableLen m ≤ tableLen r
  resizes_le : m.resizes ≤ r.resizes
  entries_perm : (entries r).Perm (entries m)

theorem Grown.refl (m : Map) : Grown m m :=
  ⟨rfl, rfl, Nat.le_refl _, Nat.le_refl _, List.Perm.refl _⟩

theorem Grown.trans {a b c : Map} (h1 : Grown a b) (h2 : Grown b c) : Grown a c :=
  ⟨h2.hash.trans h1.hash, h2.count.trans h1.count, Nat.le_trans h1.tableLen_le h2.tableLen_le,
    Nat.le_trans h1.resizes_le h2.resizes_le, h2.entries_perm.trans h1.entries_perm⟩

theorem transfer_grown (m : Map) : Grown m (transfer m) :=
  ⟨transfer_hash m, transfer_count m, transfer_tableLen_le m, transfer_resizes_le m,
    transfer_entries_perm m⟩

end Flurry.Seq
