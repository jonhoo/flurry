import Flurry.Lemmas.C12BinT
/-! # C12 at the tree-bin level: a reader's step is always enabled and makes progress (Proto/BinT)

`mu s pc` is an upper bound on the number of steps a reader at `pc` still takes when it runs alone
from `s` (whatever the other threads are suspended at). `reader_step`: in every reachable state the
step of a thread at a reader pc is enabled, and it either completes the call (the thread is `idle`
again, one entry added to `hist`) or moves to another reader pc with a strictly smaller `mu`.

Why `mu` decreases:
* `next` pointers go strictly downwards in the heap (`NextOK`: nodes are prepended), so a linear walk
  standing on node `c` has at most `c + 1` nodes ahead of it, two steps each (`rState`, `rLin`);
* the lock word belongs to nobody else while the reader runs alone: after a `rState` that saw no
  writer and no waiter and `readers = r`, the CAS `r → r + 1` at `rCas c r` succeeds; a reader that is
  *resumed* at `rCas c r` with a stale `r` fails once, goes back to `rState`, and then succeeds or
  walks the list. Hence the case split in `mu (.rCas c r)`. -/
namespace Flurry.Proto.BinT
open Flurry.Lin Flurry.Shared

/-- an upper bound on the number of own steps a reader at `pc` still needs in `s` -/
def mu (s : State) : Pc → Nat
  | .rFirst => 2 * s.heap.length + 5
  | .rState none => 1
  | .rState (some c) => 2 * c + 6
  | .rLin c => 2 * c + 5
  | .rCas c r => if (!s.writer && !s.waiter && s.readers == r) = true then 4 else 2 * c + 7
  | .rTree => 3
  | .rRelease _ => 2
  | .rVal _ => 1
  | _ => 0

/-- the bound of C12 for a tree bin: an explicit function of the heap size only -/
def soloBound (s : State) : Nat := 2 * s.heap.length + 5

theorem mu_le_soloBound {s : State} {pc : Pc} (hb : RdBound s.heap.length pc) : mu s pc ≤ soloBound s := by
  show mu s pc ≤ 2 * s.heap.length + 5
  cases pc with
  | rFirst => exact Nat.le_refl _
  | rState cur =>
    cases cur with
    | none => show 1 ≤ _; omega
    | some c => have : c < s.heap.length := hb; show 2 * c + 6 ≤ _; omega
  | rLin c => have : c < s.heap.length := hb; show 2 * c + 5 ≤ _; omega
  | rCas c r =>
    have : c < s.heap.length := hb
    simp only [mu]
    split <;> omega
  | rTree => show 3 ≤ _; omega
  | rRelease _ => show 2 ≤ _; omega
  | rVal _ => show 1 ≤ _; omega
  | _ => exact Nat.zero_le _

theorem mu_pos {s : State} {pc : Pc} (hr : readerPc pc = true) : 0 < mu s pc := by
  cases pc with
  | rState cur => cases cur <;> exact Nat.succ_pos _
  | rCas c r => show 0 < (if _ then 4 else 2 * c + 7); split <;> exact Nat.succ_pos _
  | rFirst | rLin _ | rTree | rRelease _ | rVal _ => exact Nat.succ_pos _
  | _ => cases hr

/-- the result of one step of a reader `t` (call `p`, at `pc`) from `s`: it has returned, or it is at
a reader pc with a smaller measure; the history is untouched unless it returned -/
def Outcome (s : State) (t : Nat) (p : Pending) (pc : Pc) (s' : State) : Prop :=
  (s'.threads[t]? = some { pc := .idle, call := none } ∧
    ∃ res, s'.hist = (p.key, { tid := t, op := p.op, res := res, inv := p.inv, resp := s.now + 1 }) :: s.hist) ∨
  (∃ pc', s'.threads[t]? = some { pc := pc', call := some p } ∧ readerPc pc' = true ∧ s'.hist = s.hist ∧
    mu s' pc' < mu s pc)

theorem Outcome.fin {s s1 : State} {t : Nat} {l : Local} {p : Pending} {pc : Pc} (hl : s.threads[t]? = some l)
    (ht : s1.threads = s.threads) (hh : s1.hist = s.hist) (hn : s1.now = s.now + 1) (res : KRes) :
    Outcome s t p pc (finish s1 t p res) := by
  left
  refine ⟨?_, res, ?_⟩
  · show (s1.threads.set t _)[t]? = _
    rw [ht]; exact get_set_self hl
  · show (p.key, _) :: s1.hist = _
    rw [hh, hn]

theorem Outcome.move {s s1 : State} {t : Nat} {l : Local} {p : Pending} {pc : Pc} (hl : s.threads[t]? = some l)
    (pc' : Pc) (ht : s1.threads = s.threads.set t { pc := pc', call := some p }) (hh : s1.hist = s.hist)
    (hr : readerPc pc' = true) (hmu : mu s1 pc' < mu s pc) : Outcome s t p pc s1 := by
  right
  refine ⟨pc', ?_, hr, hh, hmu⟩
  rw [ht]; exact get_set_self hl

/-- **one step of a reader**: enabled, and it returns or gets closer to returning — in every reachable
state, for every choice of the scheduler's arguments. In each case `show` states the branch of the model
taken at this program counter. -/
theorem reader_step {n : Nat} {s : State} (hr : Reachable n s) {t : Nat} {l : Local}
    (hl : s.threads[t]? = some l) (hrd : readerPc l.pc = true) (inv : Option (Nat × KOp)) (b : Bool) :
    ∃ p s', l.call = some p ∧ step s t inv b = some s' ∧ Outcome s t p l.pc s' := by
  have I := reachable_inv hr
  have R := reachable_rinv hr
  have hb := R.bound t l hl
  have hcs := R.callSome t l hl (by intro h; rw [h] at hrd; cases hrd)
  obtain ⟨pc, call⟩ := l
  cases call with
  | none => cases hcs
  | some p =>
  suffices h : ∃ s', stepG true s t inv b = some s' ∧ Outcome s t p pc s' by
    obtain ⟨s', h1, h2⟩ := h
    exact ⟨p, s', rfl, h1, h2⟩
  unfold stepG
  rw [hl]
  cases pc with
  | rFirst =>
    refine ⟨_, rfl, Outcome.move hl (.rState s.first) rfl rfl rfl ?_⟩
    show mu _ (.rState s.first) < 2 * s.heap.length + 5
    cases hf : s.first with
    | none => show 1 < _; omega
    | some h =>
      have := I.heap.firstOK h hf
      show 2 * h + 6 < _
      omega
  | rState cur =>
    cases cur with
    | none => exact ⟨_, rfl, Outcome.fin (s1 := { s with now := s.now + 1 }) hl rfl rfl rfl _⟩
    | some c =>
      show ∃ s', (if (s.writer || s.waiter) = true then _ else _) = some s' ∧ _
      split
      · exact ⟨_, rfl, Outcome.move hl (.rLin c) rfl rfl rfl (Nat.lt_succ_self _)⟩
      · rename_i hbits
        refine ⟨_, rfl, Outcome.move hl (.rCas c s.readers) rfl rfl rfl ?_⟩
        show (if (!s.writer && !s.waiter && s.readers == s.readers) = true then 4 else 2 * c + 7) < 2 * c + 6
        have hw : (!s.writer && !s.waiter && s.readers == s.readers) = true := by
          cases hw : s.writer <;> cases ha : s.waiter <;> simp_all
        rw [if_pos hw]
        omega
  | rLin c =>
    have hc : c < s.heap.length := hb
    have hn : s.heap[c]? = some s.heap[c] := List.getElem?_eq_getElem hc
    show ∃ s', (match s.heap[c]? with
      | none => none
      | some n => if (n.key == p.key) = true then (match p.op with | .has => _ | _ => _) else _) = some s' ∧ _
    rw [hn]
    dsimp only
    split
    · split
      · exact ⟨_, rfl, Outcome.fin (s1 := { s with now := s.now + 1 }) hl rfl rfl rfl _⟩
      · exact ⟨_, rfl, Outcome.move hl (.rVal c) rfl rfl rfl (by show 1 < 2 * c + 5; omega)⟩
    · refine ⟨_, rfl, Outcome.move hl (.rState s.heap[c].next) rfl rfl rfl ?_⟩
      show mu _ (.rState s.heap[c].next) < 2 * c + 5
      cases hx : s.heap[c].next with
      | none => show 1 < _; omega
      | some j =>
        have := I.heap.nextOK c _ j hn hx
        show 2 * j + 6 < _
        omega
  | rCas c r =>
    show ∃ s', (if (!s.writer && !s.waiter && s.readers == r) = true then _ else _) = some s' ∧ _
    split
    · rename_i hcond
      refine ⟨_, rfl, Outcome.move hl .rTree rfl rfl rfl ?_⟩
      show 3 < (if (!s.writer && !s.waiter && s.readers == r) = true then 4 else 2 * c + 7)
      rw [if_pos hcond]; decide
    · rename_i hcond
      refine ⟨_, rfl, Outcome.move hl (.rState (some c)) rfl rfl rfl ?_⟩
      show 2 * c + 6 < (if (!s.writer && !s.waiter && s.readers == r) = true then 4 else 2 * c + 7)
      rw [if_neg hcond]; exact Nat.lt_succ_self _
  | rTree => exact ⟨_, rfl, Outcome.move hl (.rRelease _) rfl rfl rfl (Nat.lt_succ_self 2)⟩
  | rRelease hit =>
    show ∃ s', (match hit, p.op with
      | none, .has => _ | none, _ => _ | some _, .has => _ | some i, _ => _) = some s' ∧ _
    split
    · exact ⟨_, rfl, Outcome.fin (s1 := { s with now := s.now + 1, readers := s.readers - 1 }) hl rfl rfl rfl _⟩
    · exact ⟨_, rfl, Outcome.fin (s1 := { s with now := s.now + 1, readers := s.readers - 1 }) hl rfl rfl rfl _⟩
    · exact ⟨_, rfl, Outcome.fin (s1 := { s with now := s.now + 1, readers := s.readers - 1 }) hl rfl rfl rfl _⟩
    · exact ⟨_, rfl, Outcome.move hl (.rVal _) rfl rfl rfl (Nat.lt_succ_self 1)⟩
  | rVal i =>
    have hc : i < s.heap.length := hb
    have hn : s.heap[i]? = some s.heap[i] := List.getElem?_eq_getElem hc
    show ∃ s', (match s.heap[i]? with | none => none | some n => _) = some s' ∧ _
    rw [hn]
    exact ⟨_, rfl, Outcome.fin (s1 := { s with now := s.now + 1 }) hl rfl rfl rfl _⟩
  | _ => cases hrd

end Flurry.Proto.BinT
