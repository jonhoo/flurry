import Flurry.Lemmas.BinStep
/-! # Proto/Bin: the structural invariant holds in every reachable state (C01)

`TInv`: the program counter of a thread fits its pending operation, completed and pending calls
have well-formed times, and invocation times identify calls. `Inv` = `HInv` and `TInv`. They are the
invariants of `Proto/BinRBase` on the image of the state (`Inv.of_emb`), hence `reachable_inv`. -/
namespace Flurry.Proto.Bin
open Flurry.Lin

def PcOp : Pc → KOp → Prop
  | .idle, _ => True
  | .rHead, op => isReader op = true
  | .rNode _, op => isReader op = true
  | _, op => isReader op = false

structure TInv (s : State) : Prop where
  opOK : ∀ (t : Nat) (l : Local) (p : Pending), s.threads[t]? = some l → l.call = some p → PcOp l.pc p.op
  histTime : ∀ x ∈ s.hist, x.2.inv ≤ x.2.resp ∧ x.2.resp ≤ s.now
  pendTime : ∀ (t : Nat) (l : Local) (p : Pending), s.threads[t]? = some l → l.call = some p → p.inv ≤ s.now
  uniqHP : ∀ x ∈ s.hist, ∀ (t : Nat) (l : Local) (p : Pending), s.threads[t]? = some l → l.call = some p →
    x.2.inv ≠ p.inv
  uniqPP : ∀ (t t' : Nat) (l l' : Local) (p p' : Pending), s.threads[t]? = some l → s.threads[t']? = some l' →
    l.call = some p → l'.call = some p' → p.inv = p'.inv → t = t'
  uniqHH : s.hist.Pairwise (fun x y => x.2.inv ≠ y.2.inv)

def resOfPc : Pc → Option KRes
  | .wUnlock _ res false => some res
  | _ => none

@[reducible] def view : GhostView.View Local Pending KOp KRes :=
  ⟨Local.call, fun l => resOfPc l.pc, Pending.key, Pending.op, Pending.inv⟩

theorem TInv.gen {s : State} (T : TInv s) :
    GhostView.Threads Lin.sig view (fun l p => PcOp l.pc p.op) s.threads s.hist s.now :=
  ⟨T.opOK, T.histTime, T.pendTime, T.uniqHP, T.uniqPP, T.uniqHH⟩

structure Inv (s : State) : Prop where
  heap : HInv s
  thr : TInv s

theorem pcOp_emb {pc : Pc} {op : KOp} (h : BinR.Base.PcOp (ePc pc) (embOp op)) : PcOp pc op := by
  cases pc <;> first | trivial | exact (isReader_emb op).symm.trans h

theorem TInv.of_emb {s : State} (T : BinR.Base.TInv (emb s)) : TInv s where
  opOK t l p hl hc := pcOp_emb (T.opOK t (eL l) (eP p) (thr_emb hl) (call_emb hc))
  histTime x hx := T.histTime (eH x) (List.mem_map_of_mem hx)
  pendTime t l p hl hc := T.pendTime t (eL l) (eP p) (thr_emb hl) (call_emb hc)
  uniqHP x hx t l p hl hc := T.uniqHP (eH x) (List.mem_map_of_mem hx) t (eL l) (eP p) (thr_emb hl) (call_emb hc)
  uniqPP t t' l l' p p' hl hl' hc hc' :=
    T.uniqPP t t' (eL l) (eL l') (eP p) (eP p') (thr_emb hl) (thr_emb hl') (call_emb hc) (call_emb hc')
  uniqHH := (List.pairwise_map (f := eH) (R := fun x y => x.2.inv ≠ y.2.inv)).1 T.uniqHH

theorem Inv.of_emb {s : State} (I : BinR.Base.Inv (emb s)) : Inv s := ⟨.of_emb I.heap, .of_emb I.thr⟩

theorem reachable_inv {n : Nat} {s : State} (hr : Reachable n s) : Inv s := .of_emb (reachable_base hr).1

end Flurry.Proto.Bin
