import Flurry.Proto.BinNR
import Flurry.Lemmas.BinNLin
/-! # Proto/BinNR: reachability from the cells (`Live0`), and where node indices come from (C03, C04)

`acquire`: a thread gets the node indices in its program counter only from its old program counter, from a
cell, or from the `next` field of a node it holds. What a `BinN` transition does to a node that is dead or leaves
the chains (`BinN.dead_step`, `BinN.leave_step`) is in `Lemmas/BinNInvDefs`.

`reach_iff`: the executable test `reach` of `Proto/BinNR`, in which `project` and `simB` (`Lemmas/BinNRRefine.lean`) are
written, is `Live0`, in which the invariant is written. `base_some`, `retire_some`, `free_some`: an enabled `stepG` by
kind of `Act`, with the new state written out; the proofs about a step of `Proto/BinNR` (`Lemmas/BinNRInv*`,
`BinNRRefineProof*`, `Props/C03BinNR`, `Props/C04BinNR`) start from one of the three. -/
namespace Flurry.Proto.BinNR
open Flurry.Lin
open Flurry.Proto.BinX (isReader nodeAt getElem?_nodeAt chainH_empty)
open Flurry.Proto.BinN (Local cellAt Ghost HInv Live chId getCell CellId StepK tick storeAt)

/-- node `i` is in the chain of some cell (of any generation): a lookup that loads a cell now can reach it -/
def Live0 (n : BinN.State) (i : Nat) : Prop := ∃ id : CellId, i ∈ chId n id

theorem Live0.live {n : BinN.State} {G : Ghost} {i : Nat} (h : Live0 n i) : Live n G i := Or.inl h

theorem Live0.lt {n : BinN.State} {G : Ghost} (H : HInv n G) {i : Nat} (h : Live0 n i) : i < n.heap.length := by
  obtain ⟨id, hi⟩ := h
  exact H.chain_lt hi

theorem Live0.succ {n : BinN.State} {G : Ghost} (H : HInv n G) {j i : Nat} (h : Live0 n j)
    (hn : (nodeAt n.heap j).next = some i) : Live0 n i := by
  obtain ⟨id, hj⟩ := h
  exact ⟨id, ((H.isChain id).succ_some H.nextOK hj (getElem?_nodeAt (H.chain_lt hj)) hn).1⟩

theorem Live0.head {n : BinN.State} {G : Ghost} (H : HInv n G) {id : CellId} {h : Nat}
    (hc : getCell n id = .node h) : Live0 n h := by
  obtain ⟨l, hl⟩ := BinX.chainH_node (BinN.ranked_ord _) H.nextOK (H.head id h hc)
  exact ⟨id, by unfold chId; rw [hc, hl]; exact List.mem_cons_self⟩

theorem reach_iff (n : BinN.State) (i : Nat) : reach n i = true ↔ Live0 n i := by
  unfold reach Live0
  simp only [List.any_eq_true, List.contains_iff_mem]
  constructor
  · rintro ⟨row, hrow, c, hc, hi⟩
    obtain ⟨g, hg, rfl⟩ := List.getElem_of_mem hrow
    obtain ⟨j, hj, rfl⟩ := List.getElem_of_mem hc
    refine ⟨(g, j), ?_⟩
    have : getCell n (g, j) = (n.tabs[g])[j] := by
      unfold getCell cellAt
      simp [List.getD_eq_getElem?_getD, hg, hj]
    unfold chId
    rw [this]
    exact hi
  · rintro ⟨⟨g, j⟩, hi⟩
    unfold chId getCell cellAt at hi
    simp only [List.getD_eq_getElem?_getD] at hi
    cases hg : n.tabs[g]? with
    | none => rw [hg] at hi; simp [chainH_empty] at hi
    | some row =>
      rw [hg] at hi
      simp only [Option.getD_some] at hi
      cases hj : row[j]? with
      | none => rw [hj] at hi; simp [chainH_empty] at hi
      | some c =>
        rw [hj] at hi
        exact ⟨row, List.mem_of_getElem? hg, c, List.mem_of_getElem? hj, hi⟩

theorem reach_false_of_not {n : BinN.State} {i : Nat} (h : ¬ Live0 n i) : reach n i = false := by
  cases hr : reach n i with
  | false => rfl
  | true => exact absurd ((reach_iff _ _).1 hr) h

theorem base_some {early : Bool} {s s' : State} {t : Nat} {inv : Option (Nat × KOp)} {rz : Bool} {pick : Nat}
    (hs : stepG early s t (.base inv rz pick) = some s') :
    ∃ n' l, s.n.threads[t]? = some l ∧ BinN.step s.n t inv rz pick = some n' ∧ s' = afterBase early s t n' := by
  unfold stepG at hs
  simp only at hs
  cases hb : BinN.step s.n t inv rz pick with
  | none => rw [hb] at hs; cases hs
  | some n' =>
    rw [hb] at hs
    cases hs
    cases hl : s.n.threads[t]? with
    | none => unfold BinN.step BinN.stepG at hb; rw [hl] at hb; cases hb
    | some l => exact ⟨n', l, rfl, rfl, rfl⟩

theorem retire_some {early : Bool} {s s' : State} {t i : Nat} (hs : stepG early s t (.retire i) = some s') :
    i ∈ s.pend t ∧ s' = { s with
      pend := fun t' => if t' = t then (s.pend t).erase i else s.pend t'
      life := fun j => if j = i then .retired (guardedSet s.n) else s.life j
      w0 := fun j => if j = i then guardedSet s.n else s.w0 j
      exited := fun j => if j = i then [] else s.exited j } := by
  unfold stepG at hs
  simp only at hs
  split at hs
  · rename_i hc; cases hs; exact ⟨by simpa using hc, rfl⟩
  · cases hs

theorem free_some {early : Bool} {s s' : State} {t i : Nat} (hs : stepG early s t (.free i) = some s') :
    s.life i = .retired [] ∧ s' = { s with life := fun j => if j = i then .freed else s.life j } := by
  unfold stepG at hs
  simp only at hs
  split at hs
  · rename_i hc; cases hs; exact ⟨hc, rfl⟩
  · cases hs

/-- **where node indices come from**: after a step, every node index in the program counter of the thread was
there before, or is the head of a cell, or was loaded from the `next` field of a node the thread held -/
theorem acquire {s s' : BinN.State} {t : Nat} {l : Local} {pick : Nat} (hs : StepK s t l pick s') :
    ∃ l', s'.threads = s.threads.set t l' ∧ ∀ i ∈ holds l'.pc,
      i ∈ holds l.pc ∨ (∃ id : CellId, getCell s id = .node i) ∨
      (∃ c ∈ holds l.pc, ∃ n, s.heap[c]? = some n ∧ n.next = some i) := by
  obtain ⟨pc, call⟩ := l
  cases hs with
  | idle hpc => exact ⟨_, rfl, fun i hi => Or.inl hi⟩
  | invoke k op hpc =>
    refine ⟨_, rfl, ?_⟩
    intro i hi
    by_cases hr : isReader op = true <;> simp [holds, hr] at hi
  | resize hpc hr => exact ⟨{ pc := .tNext, call := call }, rfl, fun i hi => by simp [holds] at hi⟩
  | move p pc' hp hm =>
    refine ⟨{ pc := pc', call := call }, rfl, ?_⟩
    intro i hi
    simp only at hm
    cases hm with
    | rTable => simp [holds] at hi
    | rCellMoved _ => simp [holds] at hi
    | @rCellNode g h hc =>
      simp [holds] at hi; subst hi
      exact Or.inr (Or.inl ⟨(g, p.key % 2 ^ g), hc⟩)
    | @rNext c n hn hk =>
      cases hnx : n.next with
      | none => rw [hnx] at hi; simp [holds] at hi
      | some b =>
        rw [hnx] at hi; simp [holds] at hi; subst hi
        exact Or.inr (Or.inr ⟨c, by simp [holds], n, hn, hnx⟩)
    | wTable => simp [holds] at hi
    | wCellEmpty _ _ => simp [holds] at hi
    | wCellMoved _ => simp [holds] at hi
    | @wCellNode g h hc =>
      simp [holds] at hi; subst hi
      exact Or.inr (Or.inl ⟨(g, p.key % 2 ^ g), hc⟩)
    | casFail => simp [holds] at hi
    | checkOk _ => left; simpa [holds] using hi
    | checkFail _ => left; simpa [holds] using hi
    | findEnd => left; simp [holds] at hi ⊢; exact hi
    | @findHit g h pred c n hn hk =>
      simp only [holds, List.mem_cons, List.mem_append, Option.mem_toList] at hi
      rcases hi with h1 | (h1 | h1) | h1
      · left; simp [holds, h1]
      · left; simp [holds, h1]
      · left; cases h1; simp [holds]
      · exact Or.inr (Or.inr ⟨c, by simp [holds], n, hn, h1⟩)
    | @findNext g h pred c n hn hk =>
      simp only [holds, List.mem_cons, List.mem_append, Option.mem_toList] at hi
      rcases hi with h1 | h1 | h1
      · left; simp [holds, h1]
      · left; cases h1; simp [holds]
      · exact Or.inr (Or.inr ⟨c, by simp [holds], n, hn, h1⟩)
  | tmove pc' hp hm =>
    refine ⟨{ pc := pc', call := call }, rfl, ?_⟩
    intro i hi
    simp only at hm
    cases hm with
    | nextDone _ => simp [holds] at hi
    | nextPick _ => simp [holds] at hi
    | cellEmpty _ => simp [holds] at hi
    | @cellNode j h hc =>
      simp [holds] at hi; subst hi
      exact Or.inr (Or.inl ⟨(s.cur, j), hc⟩)
    | cellMoved _ => simp [holds] at hi
    | casFail _ => simp [holds] at hi
    | checkOk _ => left; simpa [holds] using hi
  | lockMove p h x pc' hp hm =>
    refine ⟨{ pc := pc', call := call }, rfl, ?_⟩
    intro i hi
    simp only at hm
    cases hm with
    | lock _ _ => left; simpa [holds] using hi
    | unlockRetry => simp [holds] at hi
  | tlockMove h x pc' hp hm =>
    refine ⟨{ pc := pc', call := call }, rfl, ?_⟩
    intro i hi
    simp only at hm
    cases hm with
    | lock _ _ => left; simpa [holds] using hi
    | checkFail _ => simp [holds] at hi
    | unlock => simp [holds] at hi
  | fin p res hp hf => exact ⟨{ pc := .idle, call := none }, rfl, fun i hi => by simp [holds] at hi⟩
  | cas p g v vi hp hpc hc hop => exact ⟨{ pc := .idle, call := none }, rfl, fun i hi => by simp [holds] at hi⟩
  | store p g h pred hit hnext hp hpc =>
    simp only at hpc; subst hpc
    refine ⟨{ pc := .wUnlock g h (storeAt (tick s) g p pred hit hnext).2 false, call := call }, ?_, ?_⟩
    · show (storeAt _ _ _ _ _ _).1.threads.set _ _ = _
      rw [(BinN.storeAt_thn _ _ _ _ _ _).1]; rfl
    · intro i hi; left; simp [holds] at hi ⊢; exact Or.inl hi
  | unlockFin p g h res hp hpc => exact ⟨{ pc := .idle, call := none }, rfl, fun i hi => by simp [holds] at hi⟩
  | casMoved j hp hpc hc => exact ⟨{ pc := .tNext, call := call }, rfl, fun i hi => by simp [holds] at hi⟩
  | build j h hp hpc =>
    simp only at hpc; subst hpc
    exact ⟨_, rfl, fun i hi => by left; simpa [holds] using hi⟩
  | storeLow j h lo hg hp hpc =>
    simp only at hpc; subst hpc
    exact ⟨{ pc := .tStoreHigh j h hg, call := call }, rfl, fun i hi => by left; simpa [holds] using hi⟩
  | storeHigh j h hg hp hpc =>
    simp only at hpc; subst hpc
    exact ⟨{ pc := .tStoreMoved j h, call := call }, rfl, fun i hi => by left; simpa [holds] using hi⟩
  | storeMoved j h hp hpc =>
    simp only at hpc; subst hpc
    exact ⟨{ pc := .tUnlock j h, call := call }, rfl, fun i hi => by left; simpa [holds] using hi⟩
  | commit hp hpc => exact ⟨{ pc := .idle, call := call }, rfl, fun i hi => by simp [holds] at hi⟩

end Flurry.Proto.BinNR
