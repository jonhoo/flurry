import Flurry.Lemmas.BinGHeapPlan
import Flurry.Lemmas.BinGProgBase
/-! # How much a split grows the heap (`Proto/BinG` and `Proto/BinGN`)

The transfer of a list bin copies at most the nodes of its chain (`splitBinB_length`), the transfer of a tree bin at
most the nodes of both sides and appends to the table of `TreeBin`s (`ysplit_size`); a chain is no longer than the
heap. Both models rewrite their splits to the functions measured here (`xsplitOf_eq`, `ysplitOf_eq`). -/
namespace Flurry.Proto.BinGH
open Flurry.Proto.BinK (NodeS TBin copiesOf_length chainOf nodeAt)
open Flurry.Proto.BinGN (splitBinB)
open Flurry.Proto.BinGNP (splitStep splitBinB_eq)
open Flurry.Proto.BinGProg (chainFrom_length_le)

theorem foldl_splitStep_length (bit : Nat → Bool) : ∀ (l : List Nat) (acc : List NodeS × Option Nat × Option Nat),
    (l.foldl (splitStep bit) acc).1.length = acc.1.length + l.length
  | [], acc => rfl
  | i :: l, acc => by
    simp only [List.foldl_cons, List.length_cons]
    rw [foldl_splitStep_length bit l]
    have : (splitStep bit acc i).1.length = acc.1.length + 1 := by
      unfold splitStep
      split <;> simp
    omega

theorem splitBinB_length (bit : Nat → Bool) (hp : List NodeS) (c : List Nat) :
    (splitBinB bit hp c).1.length ≤ hp.length + c.length := by
  rw [splitBinB_eq, foldl_splitStep_length, List.length_take]
  exact Nat.add_le_add_left (Nat.min_le_right _ _) _

theorem chain_length_le (hp : List NodeS) (tb : List TBin) (c : BinG.Cell) : (chain hp tb c).length ≤ hp.length :=
  chainFrom_length_le _ _ _

theorem splitSide_size (hp : List NodeS) (tb : List TBin) (b : Nat) (c : List Nat) (small reuse : Bool) :
    (splitSide hp tb b c small reuse).1.length ≤ hp.length + c.length ∧
    ∃ ext, (splitSide hp tb b c small reuse).2.1 = tb ++ ext := by
  unfold splitSide
  split
  · exact ⟨Nat.le_add_right _ _, [], (List.append_nil _).symm⟩
  · cases small with
    | true => exact ⟨by simp only [if_true, List.length_append, copiesOf_length]; omega, [], (List.append_nil _).symm⟩
    | false =>
      cases reuse with
      | true => exact ⟨Nat.le_add_right _ _, [], (List.append_nil _).symm⟩
      | false => exact ⟨by simp only [Bool.false_eq_true, if_false, List.length_append, copiesOf_length]; omega, _, rfl⟩

theorem ysplit_size (bit : Nat → Bool) (hp : List NodeS) (tb : List TBin) (b : Nat) (small small2 : Bool) :
    (ysplit bit hp tb b small small2).1.length ≤ 3 * hp.length ∧
    ∃ ext, (ysplit bit hp tb b small small2).2.1 = tb ++ ext := by
  unfold ysplit
  dsimp only
  generalize hlo : (chain hp tb (.tree b)).filter (fun i => !bit (nodeAt hp i).key) = lo
  generalize hhi : (chain hp tb (.tree b)).filter (fun i => bit (nodeAt hp i).key) = hi
  obtain ⟨h1, e1, t1⟩ := splitSide_size hp tb b lo small hi.isEmpty
  obtain ⟨h2, e2, t2⟩ := splitSide_size (splitSide hp tb b lo small hi.isEmpty).1
    (splitSide hp tb b lo small hi.isEmpty).2.1 b hi small2 lo.isEmpty
  have hc := chain_length_le hp tb (.tree b)
  have h3 : lo.length ≤ (chain hp tb (.tree b)).length := hlo ▸ List.length_filter_le _ _
  have h4 : hi.length ≤ (chain hp tb (.tree b)).length := hhi ▸ List.length_filter_le _ _
  exact ⟨by omega, e1 ++ e2, by rw [t2, t1, List.append_assoc]⟩

end Flurry.Proto.BinGH
