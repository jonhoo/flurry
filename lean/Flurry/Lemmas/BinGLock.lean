import Flurry.Lemmas.BinGInvBasic
import Flurry.Lemmas.LockWord
/-! # Proto/BinG: the lock invariant `LInv` in three parts

`LkPart` (the lock words of nodes), `MxPart` (the mutexes of `TreeBin`s) and `RwPart` (the read-write locks) together say
what `LInv` says: `LInv.lkPart`, `LInv.mxPart`, `LInv.rwPart`. `RwPart` is `LockWord.RwOK` of this model (`rwPart_iff`), and
`LInv.lkOwned`, `LInv.mxOwned`, `LInv.rwOK` give `LInv` in the terms of `Lemmas/LockWord.lean`, which the quiescence and
progress layers use. `not_validated_of_cell`: no thread is validated in an empty or forwarded cell.

These are statements about `LInv` in one state. That a step of BinG preserves `LInv` is not proved from the parts: `Inv` of
a reachable state is read off the invariant of `Proto/BinGN` on the image of the state (`Lemmas/BinGLin.lean`), and a new
invariant is added there, to the bundle of `Lemmas/BinGNPBundle.lean`. -/
namespace Flurry.Proto.BinG
open Flurry.Proto.BinK (nodeAt binAt)
open Flurry.Proto.LockWord (RwOK Owned)

def LkPart (s : State) : Prop :=
  (∀ (t : Nat) (l : Local) (h : Nat), s.threads[t]? = some l →
    (holdsLock l.pc = some h ↔ (nodeAt s.heap h).lock = some t)) ∧
  (∀ h x, (nodeAt s.heap h).lock = some x → x < s.threads.length) ∧
  (∀ (t : Nat) (l : Local) (h : Nat), s.threads[t]? = some l → validL l.pc = some h →
    cellAt s (cidOf l) = .list h)

def MxPart (s : State) : Prop :=
  (∀ (t : Nat) (l : Local) (b : Nat), s.threads[t]? = some l →
    (holdsMutex l.pc = some b ↔ (binAt s.tbins b).mutex = some t)) ∧
  (∀ b x, (binAt s.tbins b).mutex = some x → x < s.threads.length) ∧
  (∀ (t : Nat) (l : Local) (b : Nat), s.threads[t]? = some l → validT l.pc = some b →
    cellAt s (cidOf l) = .tree b)

def RwPart (s : State) : Prop :=
  (∀ id b, cellAt s id = .tree b → (binAt s.tbins b).mutex = none →
    (binAt s.tbins b).writer = false ∧ (binAt s.tbins b).waiter = false) ∧
  (∀ (id : Cid) (b t : Nat) (l : Local), cellAt s id = .tree b → s.threads[t]? = some l →
    (binAt s.tbins b).mutex = some t →
    (binAt s.tbins b).writer = wr l.pc ∧ ((binAt s.tbins b).waiter = true → isLoop l.pc = true)) ∧
  (∀ b, b < s.tbins.length →
    (binAt s.tbins b).readers = cnt (fun pc => holdsRead pc == some b) s.threads) ∧
  (∀ b, (binAt s.tbins b).writer = true → (binAt s.tbins b).readers = 0) ∧
  (∀ (t : Nat) (l : Local) (b : Nat), s.threads[t]? = some l → binRef l.pc = some b →
    b < s.tbins.length ∧ ¬ PrivBin s b)

theorem LInv.lkPart {s : State} (L : LInv s) : LkPart s := ⟨L.lk, L.lkValid, L.vL⟩

theorem LInv.mxPart {s : State} (L : LInv s) : MxPart s := ⟨L.mx, L.mxValid, L.vT⟩

theorem LInv.rwPart {s : State} (L : LInv s) : RwPart s :=
  ⟨L.bitsNone, L.bitsSome, L.rd, L.wrd, L.refOK⟩

theorem LInv.lkOwned {s : State} (L : LInv s) :
    Owned (fun l : Local => holdsLock l.pc) s.threads (fun h => (nodeAt s.heap h).lock) := ⟨L.lk, L.lkValid⟩

theorem LInv.mxOwned {s : State} (L : LInv s) :
    Owned (fun l : Local => holdsMutex l.pc) s.threads (fun b => (binAt s.tbins b).mutex) := ⟨L.mx, L.mxValid⟩

theorem not_validated_of_cell {s : State} (L : LInv s) {t1 : Nat} {l1 : Local} (hl1 : s.threads[t1]? = some l1)
    (hc : cellAt s (cidOf l1) = .empty ∨ cellAt s (cidOf l1) = .moved) : validated l1.pc = false := by
  apply Bool.eq_false_iff.2
  intro hv
  rcases validated_cases hv with ⟨a, h2⟩ | ⟨b, h2⟩
  · have := L.vL t1 l1 a hl1 h2
    rcases hc with hc | hc <;> rw [hc] at this <;> cases this
  · have := L.vT t1 l1 b hl1 h2
    rcases hc with hc | hc <;> rw [hc] at this <;> cases this

theorem rwPart_iff {s : State} : RwPart s ↔
    RwOK (fun l : Local => wr l.pc) (fun l => isLoop l.pc) (fun l => holdsRead l.pc) (fun l => binRef l.pc)
      s.tbins s.threads (fun id b => cellAt s id = .tree b) (PrivBin s) :=
  ⟨fun h => ⟨h.1, h.2.1, h.2.2.1, h.2.2.2.1, h.2.2.2.2⟩, fun R => ⟨R.bitsNone, R.bitsSome, R.rd, R.wrd, R.refOK⟩⟩

theorem LInv.rwOK {s : State} (L : LInv s) :
    RwOK (fun l : Local => wr l.pc) (fun l => isLoop l.pc) (fun l => holdsRead l.pc) (fun l => binRef l.pc)
      s.tbins s.threads (fun id b => cellAt s id = .tree b) (PrivBin s) :=
  ⟨L.bitsNone, L.bitsSome, L.rd, L.wrd, L.refOK⟩

end Flurry.Proto.BinG
