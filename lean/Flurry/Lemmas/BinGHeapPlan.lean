import Flurry.Lemmas.BinGNPSplit
import Flurry.Lemmas.BinGHeapFrame
/-! # The transfer of a bin, as far as the heap and the `TreeBin` table are concerned

`Proto/BinG` and `Proto/BinGN` have different states but the same heap `hp : List NodeS` and `TreeBin` table
`tb : List TBin`, and the two build steps of a transfer (`xBuild`: list split, `yBuild`: tree split) touch nothing
else. Everything about them that does not mention a state is here, for an arbitrary split bit:
* `chain hp tb c`, `inTree hp c j`, `CopyOK hp tb old sel C`: the notions of `Lemmas/BinGInv.lean` /
  `Lemmas/BinGNPInv.lean` with heap and table as arguments;
* `Ext hp tb hp' tb'`: heap and table are extended at the end (old nodes and old bins are untouched, new nodes are
  owned by new bins or by nobody); chains of old structures, `CInv` and `CopyOK` survive;
* `copyOK_of_sideSpec`: a structure whose list satisfies `SideSpec` is `CopyOK`. `SideSpec` is what the list split
  (`splitBinB_spec`) and the three outcomes of one side of the tree split (`sideSpec_nil`, `sideSpec_all`,
  `sideSpec_copies`) have in common;
* `xsplit_spec` (list split) and `ysplit_spec` (tree split, `splitSide` twice): the planned cells are `CopyOK` for
  their sides and `NewOrOld`. -/
namespace Flurry.Proto.BinGH
open Flurry.Proto.BinK (NodeS TBin dflt nodeAt binAt NextOK IsChain IsSeg chainOf CInv copiesOf)
open Flurry.Proto.BinG (Cell cellOfHead)
open Flurry.Proto.BinGNP (SideSpec)

/-- the start of the list of a structure -/
def startOf (tb : List TBin) : Cell → Option Nat
  | .list h => some h
  | .tree b => (binAt tb b).first
  | _ => none

/-- the list of a structure -/
def chain (hp : List NodeS) (tb : List TBin) (c : Cell) : List Nat := chainOf hp (startOf tb c)

/-- the nodes in the tree of a structure -/
def inTree (hp : List NodeS) (c : Cell) (j : Nat) : Prop :=
  j < hp.length ∧ (nodeAt hp j).inTree = true ∧ ∃ b, c = .tree b ∧ (nodeAt hp j).owner = some b

/-- the owner of the nodes of a structure -/
def ownerOf : Cell → Option Nat
  | .tree b => some b
  | _ => none

/-- the structure `C` holds exactly the nodes of the list of the old structure `old` whose key satisfies `sel`, as
re-used nodes or as copies (`CopyOK` of `Lemmas/BinGInv.lean`, `Lemmas/BinGNPInv.lean`) -/
structure CopyOK (hp : List NodeS) (tb : List TBin) (old : Cell) (sel : Nat → Bool) (C : Cell) : Prop where
  notMoved : C ≠ .moved
  cinv : CInv hp (startOf tb C) (inTree hp C)
  cellOK : ∀ b, C = .tree b → b < tb.length
  chainOwner : ∀ j ∈ chain hp tb C, (nodeAt hp j).owner = ownerOf C
  selOK : ∀ j, (j ∈ chain hp tb C ∨ inTree hp C j) → sel (nodeAt hp j).key = true
  src : ∀ j ∈ chain hp tb C, j ∉ chain hp tb old → ∃ i ∈ chain hp tb old, (nodeAt hp i).key = (nodeAt hp j).key ∧
    (nodeAt hp i).val = (nodeAt hp j).val ∧ ∀ r ∈ chain hp tb old, r ∈ chain hp tb C → List.Sublist [i, r] (chain hp tb old)
  cover : ∀ i ∈ chain hp tb old, sel (nodeAt hp i).key = true → ∃ j ∈ chain hp tb C,
    (nodeAt hp j).key = (nodeAt hp i).key ∧ (nodeAt hp j).val = (nodeAt hp i).val ∧
    (j = i ∨ j ∉ chain hp tb old)
  suffix : ∀ r ∈ chain hp tb old, r ∈ chain hp tb C → ∀ i ∈ chain hp tb old, List.Sublist [r, i] (chain hp tb old) →
    i ∈ chain hp tb C
  order : ∀ i c, i ∈ chain hp tb old → c ∈ chain hp tb old → List.Sublist [i, c] (chain hp tb C) →
    List.Sublist [i, c] (chain hp tb old)
  fresh : ∀ b, C = .tree b → old ≠ .tree b →
    binAt tb b = { first := (binAt tb b).first } ∧
    (∀ j, j < hp.length → ((nodeAt hp j).owner = some b ↔ j ∈ chain hp tb C)) ∧
    (∀ j ∈ chain hp tb C, (nodeAt hp j).inTree = true)

theorem chain_empty (hp : List NodeS) (tb : List TBin) : chain hp tb .empty = [] := BinK.chainOf_none _

theorem startOf_cellOfHead (tb : List TBin) (hd : Option Nat) : startOf tb (cellOfHead hd) = hd := by
  cases hd <;> rfl

theorem not_inTree_cellOfHead (hp : List NodeS) (hd : Option Nat) (j : Nat) : ¬ inTree hp (cellOfHead hd) j := by
  rintro ⟨_, _, b, hb, _⟩
  cases hd <;> cases hb

theorem ownerOf_cellOfHead (hd : Option Nat) : ownerOf (cellOfHead hd) = none := by
  cases hd <;> rfl

theorem cellOfHead_ne_tree (hd : Option Nat) (b : Nat) : cellOfHead hd ≠ .tree b := by
  cases hd <;> intro h <;> cases h

theorem cellOfHead_ne_moved (hd : Option Nat) : cellOfHead hd ≠ .moved := by
  cases hd <;> intro h <;> cases h

theorem nodeAt_append_ge (heap ext : List NodeS) {j : Nat} (hj : heap.length ≤ j) :
    nodeAt (heap ++ ext) j = dflt ∨ nodeAt (heap ++ ext) j ∈ ext := by
  rw [BinK.nodeAt_eq, List.getElem?_append_right hj]
  cases h : ext[j - heap.length]? with
  | none => exact Or.inl rfl
  | some n => exact Or.inr (List.mem_of_getElem? h)

structure Ext (hp : List NodeS) (tb : List TBin) (hp' : List NodeS) (tb' : List TBin) : Prop where
  heap : ∃ ext, hp' = hp ++ ext ∧ ∀ n ∈ ext, n.lock = none
  tbins : ∃ extb, tb' = tb ++ extb ∧ ∀ x ∈ extb, x = { first := x.first }
  nextOK : NextOK hp'
  /-- a new node is owned by a new bin or by nobody -/
  newOwner : ∀ j b, hp.length ≤ j → (nodeAt hp' j).owner = some b → tb.length ≤ b ∧ b < tb'.length
  newFirst : ∀ b h, tb.length ≤ b → (binAt tb' b).first = some h → h < hp'.length

section
variable {hp hp' hp1 hp2 : List NodeS} {tb tb' tb1 tb2 : List TBin}

theorem Ext.of_append {ext : List NodeS} {extb : List TBin} (hlock : ∀ n ∈ ext, n.lock = none)
    (hbins : ∀ x ∈ extb, x = { first := x.first }) (hok : NextOK (hp ++ ext))
    (hown : ∀ n ∈ ext, ∀ b, n.owner = some b → tb.length ≤ b ∧ b < (tb ++ extb).length)
    (hfirst : ∀ x ∈ extb, ∀ h, x.first = some h → h < (hp ++ ext).length) : Ext hp tb (hp ++ ext) (tb ++ extb) where
  heap := ⟨ext, rfl, hlock⟩
  tbins := ⟨extb, rfl, hbins⟩
  nextOK := hok
  newOwner j b hj ho := by
    rcases nodeAt_append_ge hp ext hj with h | h
    · rw [h] at ho; cases ho
    · exact hown _ h b ho
  newFirst b h hb hf := by
    rw [BinK.binAt_eq, List.getElem?_append_right hb] at hf
    cases hx : extb[b - tb.length]? with
    | none => rw [hx] at hf; cases hf
    | some x => rw [hx] at hf; exact hfirst x (List.mem_of_getElem? hx) h hf

theorem Ext.of_heap_append {ext : List NodeS} (hattr : ∀ n ∈ ext, n.lock = none ∧ n.owner = none)
    (hok : NextOK (hp ++ ext)) : Ext hp tb (hp ++ ext) tb := by
  have := Ext.of_append (tb := tb) (extb := []) (fun n hn => (hattr n hn).1) (fun _ hx => nomatch hx) hok
    (fun n hn b ho => by rw [(hattr n hn).2] at ho; cases ho) (fun _ hx => nomatch hx)
  rwa [List.append_nil] at this

theorem Ext.refl (hok : NextOK hp) : Ext hp tb hp tb := by
  have := Ext.of_heap_append (tb := tb) (ext := []) (fun _ hn => nomatch hn) (by rw [List.append_nil]; exact hok)
  rwa [List.append_nil] at this

theorem Ext.hlen (e : Ext hp tb hp' tb') : hp.length ≤ hp'.length := by
  obtain ⟨ext, h, -⟩ := e.heap
  rw [h, List.length_append]; exact Nat.le_add_right _ _

theorem Ext.blen (e : Ext hp tb hp' tb') : tb.length ≤ tb'.length := by
  obtain ⟨ext, h, -⟩ := e.tbins
  rw [h, List.length_append]; exact Nat.le_add_right _ _

theorem Ext.old (e : Ext hp tb hp' tb') {j : Nat} (hj : j < hp.length) : nodeAt hp' j = nodeAt hp j := by
  obtain ⟨ext, h, -⟩ := e.heap
  rw [h]; exact BinK.nodeAt_append_left _ hj

theorem Ext.bold (e : Ext hp tb hp' tb') {b : Nat} (hb : b < tb.length) : binAt tb' b = binAt tb b := by
  obtain ⟨ext, h, -⟩ := e.tbins
  rw [h]; exact BinK.binAt_append_left _ hb

theorem Ext.owner_old (e : Ext hp tb hp' tb') {j b : Nat} (hb : b < tb.length) (ho : (nodeAt hp' j).owner = some b) :
    j < hp.length :=
  Nat.lt_of_not_le fun hj => Nat.not_lt.2 (e.newOwner j b hj ho).1 hb

theorem Ext.trans (e1 : Ext hp tb hp1 tb1) (e2 : Ext hp1 tb1 hp2 tb2) : Ext hp tb hp2 tb2 where
  heap := by
    obtain ⟨x1, h1, a1⟩ := e1.heap
    obtain ⟨x2, h2, a2⟩ := e2.heap
    exact ⟨x1 ++ x2, by rw [h2, h1, List.append_assoc], fun n hn => (List.mem_append.1 hn).elim (a1 n) (a2 n)⟩
  tbins := by
    obtain ⟨x1, h1, a1⟩ := e1.tbins
    obtain ⟨x2, h2, a2⟩ := e2.tbins
    exact ⟨x1 ++ x2, by rw [h2, h1, List.append_assoc], fun n hn => (List.mem_append.1 hn).elim (a1 n) (a2 n)⟩
  nextOK := e2.nextOK
  newOwner j b hj ho := by
    by_cases hj1 : j < hp1.length
    · rw [e2.old hj1] at ho
      have h := e1.newOwner j b hj ho
      exact ⟨h.1, Nat.lt_of_lt_of_le h.2 e2.blen⟩
    · have h := e2.newOwner j b (Nat.le_of_not_lt hj1) ho
      exact ⟨Nat.le_trans e1.blen h.1, h.2⟩
  newFirst b h hb hf := by
    by_cases hb1 : b < tb1.length
    · rw [e2.bold hb1] at hf
      exact Nat.lt_of_lt_of_le (e1.newFirst b h hb hf) e2.hlen
    · exact e2.newFirst b h (Nat.le_of_not_lt hb1) hf

theorem Ext.ownerOK (e : Ext hp tb hp' tb') (h : ∀ j b, (nodeAt hp j).owner = some b → b < tb.length) :
    ∀ j b, (nodeAt hp' j).owner = some b → b < tb'.length := by
  intro j b ho
  by_cases hj : j < hp.length
  · rw [e.old hj] at ho
    exact Nat.lt_of_lt_of_le (h j b ho) e.blen
  · exact (e.newOwner j b (Nat.le_of_not_lt hj) ho).2

theorem Ext.chainOf_eq (e : Ext hp tb hp' tb') (hok : NextOK hp) {st : Option Nat}
    (hst : ∀ i, st = some i → i < hp.length) : chainOf hp' st = chainOf hp st :=
  BinG.chainOf_frame hok e.nextOK hst e.hlen fun j hj => by
    rw [e.old ((BinK.chainOf_isChain hok st hst).lt_length j hj)]

theorem Ext.startOf_eq (e : Ext hp tb hp' tb') {c : Cell} (hc : ∀ b, c = .tree b → b < tb.length) :
    startOf tb' c = startOf tb c := by
  cases c with
  | tree b => exact congrArg (fun x => x.first) (e.bold (hc b rfl))
  | _ => rfl

theorem Ext.chain_eq (e : Ext hp tb hp' tb') (hok : NextOK hp) {c : Cell}
    (hst : ∀ x, startOf tb c = some x → x < hp.length) (hc : ∀ b, c = .tree b → b < tb.length) :
    chain hp' tb' c = chain hp tb c := by
  unfold chain
  rw [e.startOf_eq hc]
  exact e.chainOf_eq hok hst

theorem Ext.inTree_iff (e : Ext hp tb hp' tb') {c : Cell} (hc : ∀ b, c = .tree b → b < tb.length) (j : Nat) :
    inTree hp' c j ↔ inTree hp c j := by
  unfold inTree
  by_cases hj : j < hp.length
  · rw [e.old hj]
    exact and_congr_left' ⟨fun _ => hj, fun _ => Nat.lt_of_lt_of_le hj e.hlen⟩
  · refine ⟨?_, fun h => absurd h.1 hj⟩
    rintro ⟨_, _, b, rfl, ho⟩
    exact absurd (e.owner_old (hc b rfl) ho) hj

theorem Ext.cinv (e : Ext hp tb hp' tb') {c : Cell} (hc : ∀ b, c = .tree b → b < tb.length)
    (C : CInv hp (startOf tb c) (inTree hp c)) : CInv hp' (startOf tb' c) (inTree hp' c) := by
  rw [e.startOf_eq hc]
  refine (BinG.cinv_frame C e.nextOK e.hlen (fun j hj => by rw [e.old (C.chain_lt hj)]; exact ⟨rfl, rfl⟩) ?_).1
  intro j hj
  have := (e.inTree_iff hc j).1 hj
  exact ⟨this, by rw [e.old this.1]⟩

theorem Ext.copyOK (e : Ext hp tb hp' tb') (hok : NextOK hp) {old : Cell} {sel : Nat → Bool} {C : Cell}
    (hoS : ∀ x, startOf tb old = some x → x < hp.length) (hoB : ∀ b, old = .tree b → b < tb.length)
    (h : CopyOK hp tb old sel C) : CopyOK hp' tb' old sel C := by
  have eC : chain hp' tb' C = chain hp tb C := e.chain_eq hok h.cinv.startOK h.cellOK
  have eO : chain hp' tb' old = chain hp tb old := e.chain_eq hok hoS hoB
  have hC : ∀ j ∈ chain hp tb C, nodeAt hp' j = nodeAt hp j := fun j hj => e.old (h.cinv.chain_lt hj)
  have hO : ∀ j ∈ chain hp tb old, nodeAt hp' j = nodeAt hp j := fun j hj =>
    e.old ((BinK.chainOf_isChain hok _ hoS).lt_length j hj)
  have ht : ∀ j, inTree hp' C j ↔ inTree hp C j := e.inTree_iff h.cellOK
  refine ⟨h.notMoved, e.cinv h.cellOK h.cinv, fun b hb => Nat.lt_of_lt_of_le (h.cellOK b hb) e.blen,
    ?_, ?_, ?_, ?_, by rw [eO, eC]; exact h.suffix, by rw [eO, eC]; exact h.order, ?_⟩ <;> rw [eC]
  · intro j hj
    rw [hC j hj]; exact h.chainOwner j hj
  · intro j hj
    rw [ht] at hj
    rw [e.old (hj.elim (h.cinv.chain_lt ·) (·.1))]; exact h.selOK j hj
  · rw [eO]
    intro j hj hjo
    obtain ⟨i, hi1, hi⟩ := h.src j hj hjo
    exact ⟨i, hi1, by rw [hO i hi1, hC j hj]; exact hi⟩
  · rw [eO]
    intro i hi1 hsel
    rw [hO i hi1] at hsel ⊢
    obtain ⟨j, hj1, hj⟩ := h.cover i hi1 hsel
    exact ⟨j, hj1, by rw [hC j hj1]; exact hj⟩
  · intro b hCb hob
    obtain ⟨f1, f2, f3⟩ := h.fresh b hCb hob
    refine ⟨by rw [e.bold (h.cellOK b hCb)]; exact f1, ?_, fun j hj => by rw [hC j hj]; exact f3 j hj⟩
    intro j _
    by_cases hjl : j < hp.length
    · rw [e.old hjl]; exact f2 j hjl
    · exact ⟨fun ho => absurd (e.owner_old (h.cellOK b hCb) ho) hjl, fun hc => absurd (h.cinv.chain_lt hc) hjl⟩

/-- a structure `C` of the new heap whose list `X` is a side of the list of `old` in the sense of `SideSpec`, whose
tree nodes are on its list and which, if it is a new `TreeBin`, is fresh, is `CopyOK` -/
theorem copyOK_of_sideSpec {bit : Nat → Bool} (e : Ext hp tb hp' tb') {old C : Cell} {side : Bool} {X : List Nat}
    (hO : CInv hp (startOf tb old) (inTree hp old)) (hoB : ∀ b, old = .tree b → b < tb.length)
    (hX : IsChain hp' (startOf tb' C) X) (hS : SideSpec bit hp hp' (chain hp tb old) side X)
    (hnm : C ≠ .moved) (hcell : ∀ b, C = .tree b → b < tb'.length)
    (hown : ∀ j ∈ X, (nodeAt hp' j).owner = ownerOf C) (htree : ∀ j, inTree hp' C j → j ∈ X)
    (hfresh : ∀ b, C = .tree b → old ≠ .tree b → binAt tb' b = { first := (binAt tb' b).first } ∧
      (∀ j, j < hp'.length → (nodeAt hp' j).owner = some b → j ∈ X) ∧ ∀ j ∈ X, (nodeAt hp' j).inTree = true) :
    CopyOK hp' tb' old (fun k => bit k == side) C := by
  have eO : chain hp' tb' old = chain hp tb old := e.chain_eq hO.nextOK hO.startOK hoB
  have hOl : ∀ j ∈ chain hp tb old, j < hp.length := fun j hj => hO.chain_lt hj
  have eC : chain hp' tb' C = X := BinK.chainOf_eq e.nextOK hX
  have hinX : ∀ j, (j ∈ chain hp' tb' C ∨ inTree hp' C j) → j ∈ X := fun j hj => hj.elim (fun h => eC ▸ h) (htree j)
  refine ⟨hnm, ⟨e.nextOK, ?_, fun a b ha hb => hS.keys a b (hinX a ha) (hinX b hb)⟩, hcell, ?_, ?_, ?_, ?_, ?_, ?_, ?_⟩
  · intro h hh
    rw [hh] at hX
    obtain ⟨l, rfl⟩ := BinK.IsChain.start_some hX
    exact hX.lt_length h List.mem_cons_self
  · rw [eC]; exact hown
  · intro j hj
    rw [hS.side j (hinX j hj)]; exact beq_self_eq_true side
  · rw [eC, eO]
    intro j hj hjo
    obtain ⟨i, hi1, hi⟩ := hS.src j hj ((hS.mem j hj).resolve_left hjo)
    exact ⟨i, hi1, by rw [e.old (hOl i hi1)]; exact hi⟩
  · rw [eC, eO]
    intro i hi1 hsel
    rw [e.old (hOl i hi1)] at hsel ⊢
    obtain ⟨j, hj1, hj2, hj3, hj4⟩ := hS.cover i hi1 (eq_of_beq hsel)
    exact ⟨j, hj1, hj2, hj3, hj4.imp id (fun h hm => Nat.not_lt.2 h (hOl j hm))⟩
  · rw [eC, eO]; exact hS.suffix
  · rw [eC, eO]; exact hS.order
  · intro b hb hob
    obtain ⟨f1, f2, f3⟩ := hfresh b hb hob
    rw [eC]
    exact ⟨f1, fun j hj => ⟨f2 j hj, fun hm => by rw [hown j hm, hb]; rfl⟩, f3⟩

theorem chain_of_sideSpec {bit : Nat → Bool} (hok : NextOK hp') {C : Cell} {O : List Nat} {side : Bool} {X : List Nat}
    (hX : IsChain hp' (startOf tb' C) X) (hS : SideSpec bit hp hp' O side X) :
    ∀ j ∈ chain hp' tb' C, j ∈ O ∨ hp.length ≤ j := by
  rw [show chain hp' tb' C = X from BinK.chainOf_eq hok hX]; exact hS.mem

theorem sideSpec_nil {bit : Nat → Bool} {O : List Nat} {b : Bool} (h : ∀ i ∈ O, bit (nodeAt hp i).key ≠ b) :
    SideSpec bit hp hp' O b [] where
  side _ hj := nomatch hj
  keys _ _ hi := nomatch hi
  mem _ hj := nomatch hj
  src _ hj := nomatch hj
  cover i hi hb := absurd hb (h i hi)
  suffix _ _ hr := nomatch hr
  order _ _ _ _ hs := nomatch hs

theorem sideSpec_all {bit : Nat → Bool} {O : List Nat} {b : Bool} (hlt : ∀ i ∈ O, i < hp.length)
    (hold : ∀ i ∈ O, nodeAt hp' i = nodeAt hp i)
    (hkeys : ∀ i j, i ∈ O → j ∈ O → (nodeAt hp i).key = (nodeAt hp j).key → i = j)
    (hall : ∀ i ∈ O, bit (nodeAt hp i).key = b) : SideSpec bit hp hp' O b O where
  side j hj := by rw [hold j hj]; exact hall j hj
  keys i j hi hj h := hkeys i j hi hj (by rw [← hold i hi, ← hold j hj]; exact h)
  mem _ hj := Or.inl hj
  src j hj hge := absurd (hlt j hj) (Nat.not_lt.2 hge)
  cover i hi _ := ⟨i, hi, by rw [hold i hi], by rw [hold i hi], Or.inl rfl⟩
  suffix _ _ _ _ hi _ := hi
  order _ _ _ _ h := h

theorem mem_range'_iff {n m j : Nat} : j ∈ List.range' n m ↔ ∃ k, k < m ∧ j = n + k := by
  rw [List.mem_range'_1]
  constructor
  · rintro ⟨h1, h2⟩
    exact ⟨j - n, Nat.sub_lt_left_of_lt_add h1 h2, (Nat.add_sub_cancel' h1).symm⟩
  · rintro ⟨k, hk, rfl⟩
    exact ⟨Nat.le_add_right _ _, Nat.add_lt_add_left hk _⟩

theorem sideSpec_copies {bit : Nat → Bool} {O c : List Nat} {b : Bool}
    (hc : c = O.filter (fun i => bit (nodeAt hp i).key == b)) (hlt : ∀ i ∈ O, i < hp.length) (hnd : O.Nodup)
    (hkeys : ∀ i j, i ∈ O → j ∈ O → (nodeAt hp i).key = (nodeAt hp j).key → i = j)
    (hkv : ∀ k (hk : k < c.length), (nodeAt hp' (hp.length + k)).key = (nodeAt hp c[k]).key ∧
      (nodeAt hp' (hp.length + k)).val = (nodeAt hp c[k]).val) :
    SideSpec bit hp hp' O b (List.range' hp.length c.length) := by
  have hcO : ∀ i, i ∈ c ↔ i ∈ O ∧ bit (nodeAt hp i).key = b := by
    intro i; rw [hc, List.mem_filter, beq_iff_eq]
  have hXO : ∀ r ∈ O, r ∉ List.range' hp.length c.length := by
    intro r hr hm
    have := hlt r hr
    rw [List.mem_range'_1] at hm
    omega
  refine ⟨?_, ?_, fun j hj => Or.inr (List.mem_range'_1.1 hj).1, ?_, ?_, fun r hr hm => absurd hm (hXO r hr),
    fun i _ hi _ hs => absurd (hs.subset List.mem_cons_self) (hXO i hi)⟩
  · intro j hj
    obtain ⟨k, hk, rfl⟩ := mem_range'_iff.1 hj
    rw [(hkv k hk).1]
    exact ((hcO _).1 (List.getElem_mem hk)).2
  · intro i j hi hj hij
    obtain ⟨ki, hki, rfl⟩ := mem_range'_iff.1 hi
    obtain ⟨kj, hkj, rfl⟩ := mem_range'_iff.1 hj
    rw [(hkv ki hki).1, (hkv kj hkj).1] at hij
    have := hkeys _ _ ((hcO _).1 (List.getElem_mem hki)).1 ((hcO _).1 (List.getElem_mem hkj)).1 hij
    rw [(List.getElem_inj (hc ▸ hnd.sublist List.filter_sublist)).1 this]
  · intro j hj _
    obtain ⟨k, hk, rfl⟩ := mem_range'_iff.1 hj
    exact ⟨c[k], ((hcO _).1 (List.getElem_mem hk)).1, (hkv k hk).1.symm, (hkv k hk).2.symm,
      fun r hr hm => absurd hm (hXO r hr)⟩
  · intro i hi hb
    obtain ⟨k, hk, rfl⟩ := List.getElem_of_mem ((hcO i).2 ⟨hi, hb⟩)
    exact ⟨hp.length + k, mem_range'_iff.2 ⟨k, hk, rfl⟩, (hkv k hk).1, (hkv k hk).2, Or.inr (Nat.le_add_right _ _)⟩

/-- the nodes of a planned structure are nodes of the old list or new nodes; a planned `TreeBin` is the old one or a
new one -/
def NewOrOld (hp : List NodeS) (tb : List TBin) (hp' : List NodeS) (tb' : List TBin) (old C : Cell) : Prop :=
  (∀ j ∈ chain hp' tb' C, j ∈ chain hp tb old ∨ hp.length ≤ j) ∧ (∀ x, C = .tree x → old = .tree x ∨ tb.length ≤ x)

theorem xsplit_spec (bit : Nat → Bool) (tb : List TBin) {h : Nat}
    (hC : CInv hp (startOf tb (.list h)) (inTree hp (.list h)))
    (hown : ∀ j ∈ chain hp tb (.list h), (nodeAt hp j).owner = none)
    {r : List NodeS × Option Nat × Option Nat} (hr : BinGN.splitBinB bit hp (chain hp tb (.list h)) = r) :
    (∃ ext, r.1 = hp ++ ext ∧ ∀ n ∈ ext, n.lock = none ∧ n.inTree = false ∧ n.owner = none) ∧
    Ext hp tb r.1 tb ∧
    CopyOK r.1 tb (.list h) (fun k => bit k == false) (cellOfHead r.2.1) ∧
    CopyOK r.1 tb (.list h) (fun k => bit k == true) (cellOfHead r.2.2) ∧
    NewOrOld hp tb r.1 tb (.list h) (cellOfHead r.2.1) ∧ NewOrOld hp tb r.1 tb (.list h) (cellOfHead r.2.2) := by
  obtain ⟨ext, L, H, hsplit, hattr, hok', hL, hH, hSL, hSH⟩ :=
    BinGNP.splitBinB_spec bit hC.nextOK hC.isChain hC.distinct
  rw [← hsplit] at hok' hL hH hSL hSH
  rw [show BinGN.splitBinB bit hp (chainOf hp (startOf tb (.list h))) = r from hr] at hsplit hok' hL hH hSL hSH
  have e : Ext hp tb r.1 tb := by
    rw [hsplit] at hok' ⊢
    exact Ext.of_heap_append (fun n hn => ⟨(hattr n hn).1, (hattr n hn).2.2⟩) hok'
  have side : ∀ (b : Bool) (hd : Option Nat) (X : List Nat), IsChain r.1 hd X →
      SideSpec bit hp r.1 (chain hp tb (.list h)) b X →
      CopyOK r.1 tb (.list h) (fun k => bit k == b) (cellOfHead hd) ∧ NewOrOld hp tb r.1 tb (.list h) (cellOfHead hd) := by
    intro b hd X hX hS
    rw [← startOf_cellOfHead tb hd] at hX
    refine ⟨copyOK_of_sideSpec e hC (fun _ hb => nomatch hb) hX hS (cellOfHead_ne_moved hd)
      (fun b hb => absurd hb (cellOfHead_ne_tree hd b)) ?_ (fun j hj => absurd hj (not_inTree_cellOfHead _ hd j))
      (fun b hb => absurd hb (cellOfHead_ne_tree hd b)),
      chain_of_sideSpec e.nextOK hX hS, fun x hx => absurd hx (cellOfHead_ne_tree hd x)⟩
    intro j hj
    rw [ownerOf_cellOfHead]
    rcases hS.mem j hj with hm | hm
    · rw [e.old (hC.chain_lt hm)]; exact hown j hm
    · rw [hsplit]
      rcases nodeAt_append_ge hp ext hm with h1 | h1
      · rw [h1]; rfl
      · exact (hattr _ h1).2.2
  exact ⟨⟨ext, hsplit, hattr⟩, e, (side _ _ _ hL hSL).1, (side _ _ _ hH hSH).1, (side _ _ _ hL hSL).2,
    (side _ _ _ hH hSH).2⟩

/-- the copy of a node for a plain list / for the fresh `TreeBin` `b'` -/
def mkL : NodeS → Option Nat → NodeS := fun src nx => ⟨src.key, src.val, nx, none, false, none⟩
def mkT (b' : Nat) : NodeS → Option Nat → NodeS := fun src nx => ⟨src.key, src.val, nx, none, true, some b'⟩

/-- one side of the split of tree bin `b` (`splitSide` of the models): new heap, new `TreeBin` table, planned cell -/
def splitSide (hp : List NodeS) (tb : List TBin) (b : Nat) (c : List Nat) (small reuse : Bool) :
    List NodeS × List TBin × Cell :=
  if c = [] then (hp, tb, .empty)
  else if small then (hp ++ copiesOf hp c mkL, tb, .list hp.length)
  else if reuse then (hp, tb, .tree b)
  else (hp ++ copiesOf hp c (mkT tb.length), tb ++ [{ first := some hp.length }], .tree tb.length)

/-- what the transfer of tree bin `b` knows: the bin is valid, owns the nodes of its list, and its tree holds no node
that is not on its list -/
structure YPre (hp : List NodeS) (tb : List TBin) (b : Nat) : Prop where
  cinv : CInv hp (startOf tb (.tree b)) (inTree hp (.tree b))
  blt : b < tb.length
  ownerOK : ∀ j b', (nodeAt hp j).owner = some b' → b' < tb.length
  chainOwner : ∀ j ∈ chain hp tb (.tree b), (nodeAt hp j).owner = some b
  sub : ∀ j, j < hp.length → (nodeAt hp j).owner = some b → (nodeAt hp j).inTree = true → j ∈ chain hp tb (.tree b)

theorem YPre.bT {b : Nat} (P : YPre hp tb b) : ∀ b', Cell.tree b = .tree b' → b' < tb.length :=
  fun _ hb => Cell.tree.inj hb ▸ P.blt

theorem YPre.chain_eq {b : Nat} (P : YPre hp tb b) (e : Ext hp tb hp' tb') :
    chain hp' tb' (.tree b) = chain hp tb (.tree b) := e.chain_eq P.cinv.nextOK P.cinv.startOK P.bT

theorem YPre.ext {b : Nat} (P : YPre hp tb b) (e : Ext hp tb hp' tb') : YPre hp' tb' b where
  cinv := e.cinv P.bT P.cinv
  blt := Nat.lt_of_lt_of_le P.blt e.blen
  ownerOK := e.ownerOK P.ownerOK
  chainOwner j hj := by
    rw [P.chain_eq e] at hj
    rw [e.old (P.cinv.chain_lt hj)]; exact P.chainOwner j hj
  sub j _ ho hin := by
    rw [P.chain_eq e]
    have hjl := e.owner_old P.blt ho
    rw [e.old hjl] at ho hin
    exact P.sub j hjl ho hin

theorem mem_copiesOf {c : List Nat} {mk : NodeS → Option Nat → NodeS} {n : NodeS} (h : n ∈ copiesOf hp c mk) :
    ∃ src nx, n = mk src nx := by
  obtain ⟨k, _, rfl⟩ := List.mem_map.1 h
  exact ⟨_, _, rfl⟩

theorem getD_eq_getElem_of_lt {c : List Nat} {k : Nat} (hk : k < c.length) : c.getD k 0 = c[k] := by
  simp [List.getD_eq_getElem?_getD, hk]

section side
variable {bit : Nat → Bool} {b : Nat} {side : Bool} {c : List Nat}

theorem copyOK_empty (P : YPre hp tb b)
    (hc : (chain hp tb (.tree b)).filter (fun i => bit (nodeAt hp i).key == side) = []) :
    CopyOK hp tb (.tree b) (fun k => bit k == side) .empty :=
  copyOK_of_sideSpec (.refl P.cinv.nextOK) P.cinv P.bT (C := .empty) (.nil _)
    (sideSpec_nil fun i hi hb => List.filter_eq_nil_iff.1 hc i hi (beq_iff_eq.2 hb))
    (fun h => nomatch h) (fun _ h => nomatch h) (fun _ hj => nomatch hj) (fun _ hj => nomatch hj.2.2)
    (fun _ h => nomatch h)

theorem copyOK_reuse (P : YPre hp tb b) (hall : ∀ i ∈ chain hp tb (.tree b), bit (nodeAt hp i).key = side) :
    CopyOK hp tb (.tree b) (fun k => bit k == side) (.tree b) :=
  copyOK_of_sideSpec (.refl P.cinv.nextOK) P.cinv P.bT P.cinv.isChain
    (sideSpec_all (fun _ hi => P.cinv.chain_lt hi) (fun _ _ => rfl) P.cinv.distinct hall)
    (fun h => nomatch h) P.bT P.chainOwner
    (fun j ⟨hj, hin, _, hb', ho⟩ => P.sub j hj (Cell.tree.inj hb' ▸ ho) hin)
    (fun _ hb' hne => absurd hb' hne)

theorem copies_spec (P : YPre hp tb b)
    (hc : c = (chain hp tb (.tree b)).filter (fun i => bit (nodeAt hp i).key == side)) (hne : c ≠ [])
    (mk : NodeS → Option Nat → NodeS)
    (hmk : ∀ src nx, (mk src nx).key = src.key ∧ (mk src nx).val = src.val ∧ (mk src nx).next = nx) :
    NextOK (hp ++ copiesOf hp c mk) ∧
    IsChain (hp ++ copiesOf hp c mk) (some hp.length) (List.range' hp.length c.length) ∧
    SideSpec bit hp (hp ++ copiesOf hp c mk) (chain hp tb (.tree b)) side (List.range' hp.length c.length) ∧
    ∀ j ∈ List.range' hp.length c.length, ∃ src nx, nodeAt (hp ++ copiesOf hp c mk) j = mk src nx := by
  have hnx : ∀ src nx, (mk src nx).next = nx := fun src nx => (hmk src nx).2.2
  have hget : ∀ k (hk : k < c.length), ∃ nx, nodeAt (hp ++ copiesOf hp c mk) (hp.length + k) = mk (nodeAt hp c[k]) nx :=
    fun k hk => ⟨_, by rw [BinK.copiesOf_get hp c mk hk, getD_eq_getElem_of_lt hk]⟩
  have hX := BinK.copiesOf_isChain hp c mk hnx
  rw [if_neg fun h => hne (List.length_eq_zero_iff.1 h)] at hX
  refine ⟨BinK.nextOK_copies P.cinv.nextOK c mk hnx, hX,
    sideSpec_copies hc (fun i hi => P.cinv.chain_lt hi) P.cinv.nodup P.cinv.distinct ?_, ?_⟩
  · intro k hk
    obtain ⟨nx, e⟩ := hget k hk
    rw [e]; exact ⟨(hmk _ nx).1, (hmk _ nx).2.1⟩
  · intro j hj
    obtain ⟨k, hk, rfl⟩ := mem_range'_iff.1 hj
    obtain ⟨nx, e⟩ := hget k hk
    exact ⟨_, nx, e⟩

theorem splitSide_small_spec (P : YPre hp tb b)
    (hc : c = (chain hp tb (.tree b)).filter (fun i => bit (nodeAt hp i).key == side)) (hne : c ≠ []) :
    Ext hp tb (hp ++ copiesOf hp c mkL) tb ∧
    CopyOK (hp ++ copiesOf hp c mkL) tb (.tree b) (fun k => bit k == side) (.list hp.length) ∧
    ∀ j ∈ chain (hp ++ copiesOf hp c mkL) tb (.list hp.length), j ∈ chain hp tb (.tree b) ∨ hp.length ≤ j := by
  obtain ⟨hok', hX, hS, hnode⟩ := copies_spec P hc hne mkL (fun _ _ => ⟨rfl, rfl, rfl⟩)
  have e : Ext hp tb (hp ++ copiesOf hp c mkL) tb := by
    refine Ext.of_heap_append ?_ hok'
    intro n hn
    obtain ⟨src, nx, rfl⟩ := mem_copiesOf hn
    exact ⟨rfl, rfl⟩
  have hXs : IsChain (hp ++ copiesOf hp c mkL) (startOf tb (.list hp.length)) (List.range' hp.length c.length) := hX
  refine ⟨e, copyOK_of_sideSpec e P.cinv P.bT hXs hS (fun h => nomatch h) (fun _ h => nomatch h) ?_
    (fun j hj => nomatch hj.2.2) (fun _ h => nomatch h), chain_of_sideSpec hok' hXs hS⟩
  intro j hj
  obtain ⟨src, nx, e⟩ := hnode j hj
  rw [e]; rfl

theorem splitSide_fresh_spec (P : YPre hp tb b)
    (hc : c = (chain hp tb (.tree b)).filter (fun i => bit (nodeAt hp i).key == side)) (hne : c ≠ []) :
    Ext hp tb (hp ++ copiesOf hp c (mkT tb.length)) (tb ++ [{ first := some hp.length }]) ∧
    CopyOK (hp ++ copiesOf hp c (mkT tb.length)) (tb ++ [{ first := some hp.length }]) (.tree b)
      (fun k => bit k == side) (.tree tb.length) ∧
    ∀ j ∈ chain (hp ++ copiesOf hp c (mkT tb.length)) (tb ++ [{ first := some hp.length }]) (.tree tb.length),
      j ∈ chain hp tb (.tree b) ∨ hp.length ≤ j := by
  obtain ⟨hok', hX, hS, hnode⟩ := copies_spec P hc hne (mkT tb.length) (fun _ _ => ⟨rfl, rfl, rfl⟩)
  have hlen : (hp ++ copiesOf hp c (mkT tb.length)).length = hp.length + c.length := by
    rw [List.length_append, BinK.copiesOf_length]
  have hbn : binAt (tb ++ [({ first := some hp.length } : TBin)]) tb.length = { first := some hp.length } :=
    BinK.binAt_append_new _ _
  have hblen : tb.length < (tb ++ [({ first := some hp.length } : TBin)]).length := by
    rw [List.length_append]; exact Nat.lt_succ_self _
  have e : Ext hp tb (hp ++ copiesOf hp c (mkT tb.length)) (tb ++ [{ first := some hp.length }]) := by
    refine Ext.of_append ?_ ?_ hok' ?_ ?_
    · intro n hn
      obtain ⟨src, nx, rfl⟩ := mem_copiesOf hn
      rfl
    · intro x hx
      rw [List.mem_singleton.1 hx]
    · intro n hn b' ho
      obtain ⟨src, nx, rfl⟩ := mem_copiesOf hn
      rw [← Option.some.inj ho]
      exact ⟨Nat.le_refl _, hblen⟩
    · intro x hx h hf
      rw [List.mem_singleton.1 hx] at hf
      rw [← Option.some.inj hf, hlen]
      exact Nat.lt_add_of_pos_right (List.length_pos_iff.2 hne)
  -- a node owned by the new bin is a new node
  have hownX : ∀ j, j < (hp ++ copiesOf hp c (mkT tb.length)).length →
      (nodeAt (hp ++ copiesOf hp c (mkT tb.length)) j).owner = some tb.length → j ∈ List.range' hp.length c.length := by
    intro j hj ho
    rw [List.mem_range'_1, ← hlen]
    refine ⟨Nat.le_of_not_lt fun hjl => ?_, hj⟩
    rw [e.old hjl] at ho
    exact Nat.lt_irrefl _ (P.ownerOK j _ ho)
  have hXs : IsChain (hp ++ copiesOf hp c (mkT tb.length))
      (startOf (tb ++ [{ first := some hp.length }]) (.tree tb.length)) (List.range' hp.length c.length) := by
    show IsChain _ (binAt (tb ++ [({ first := some hp.length } : TBin)]) tb.length).first _
    rw [hbn]; exact hX
  refine ⟨e, copyOK_of_sideSpec e P.cinv P.bT hXs hS (fun h => nomatch h) ?_ ?_ ?_ ?_, chain_of_sideSpec hok' hXs hS⟩
  · intro b' hb'
    rw [← Cell.tree.inj hb']; exact hblen
  · intro j hj
    obtain ⟨src, nx, e⟩ := hnode j hj
    rw [e]; rfl
  · rintro j ⟨hj, _, b', hb', ho⟩
    exact hownX j hj (Cell.tree.inj hb' ▸ ho)
  · intro b' hb' _
    rw [← Cell.tree.inj hb']
    refine ⟨by rw [hbn], hownX, ?_⟩
    intro j hj
    obtain ⟨src, nx, e⟩ := hnode j hj
    rw [e]; rfl

theorem splitSide_spec (small reuse : Bool) (P : YPre hp tb b)
    (hc : c = (chain hp tb (.tree b)).filter (fun i => bit (nodeAt hp i).key == side))
    (hreuse : reuse = true → ∀ i ∈ chain hp tb (.tree b), bit (nodeAt hp i).key = side)
    {r : List NodeS × List TBin × Cell} (hr : splitSide hp tb b c small reuse = r) :
    Ext hp tb r.1 r.2.1 ∧ CopyOK r.1 r.2.1 (.tree b) (fun k => bit k == side) r.2.2 ∧
    (c = [] → r.2.2 = .empty) ∧
    (∀ x, r.2.2 = .tree x → (x = b ∧ reuse = true ∧ c ≠ []) ∨ (x = tb.length ∧ r.2.1.length = tb.length + 1)) ∧
    (∀ j ∈ chain r.1 r.2.1 r.2.2, j ∈ chain hp tb (.tree b) ∨ hp.length ≤ j) := by
  unfold splitSide at hr
  by_cases hne : c = []
  · rw [if_pos hne] at hr
    subst hr
    refine ⟨.refl P.cinv.nextOK, copyOK_empty P (hc ▸ hne), fun _ => rfl, (fun _ h => nomatch h), fun j hj => ?_⟩
    rw [show chain hp tb .empty = [] from chain_empty hp tb] at hj
    cases hj
  rw [if_neg hne] at hr
  cases small
  · cases reuse
    · rw [if_neg Bool.false_ne_true, if_neg Bool.false_ne_true] at hr
      subst hr
      obtain ⟨e, h, hn⟩ := splitSide_fresh_spec P hc hne
      refine ⟨e, h, fun h0 => absurd h0 hne, fun x hx => Or.inr ⟨(Cell.tree.inj hx).symm, ?_⟩, hn⟩
      show (tb ++ [_]).length = _
      rw [List.length_append]; rfl
    · rw [if_neg Bool.false_ne_true, if_pos rfl] at hr
      subst hr
      exact ⟨.refl P.cinv.nextOK, copyOK_reuse P (hreuse rfl), fun h0 => absurd h0 hne,
        fun x hx => Or.inl ⟨(Cell.tree.inj hx).symm, rfl, hne⟩, fun j hj => Or.inl hj⟩
  · rw [if_pos rfl] at hr
    subst hr
    obtain ⟨e, h, hn⟩ := splitSide_small_spec P hc hne
    exact ⟨e, h, fun h0 => absurd h0 hne, (fun _ h => nomatch h), hn⟩

end side

theorem all_other_side {bit : Nat → Bool} {O : List Nat} {side : Bool}
    (h : (O.filter (fun i => bit (nodeAt hp i).key == side)).isEmpty = true) :
    ∀ i ∈ O, bit (nodeAt hp i).key = !side := by
  rw [List.isEmpty_iff, List.filter_eq_nil_iff] at h
  intro i hi
  exact Bool.eq_not.2 fun hb => h i hi (beq_iff_eq.2 hb)

/-- the tree split of `yBuild`: `splitSide` for the low nodes, then for the high nodes of the list of tree bin `b`;
new heap, new `TreeBin` table, planned low cell, planned high cell -/
def ysplit (bit : Nat → Bool) (hp : List NodeS) (tb : List TBin) (b : Nat) (small small2 : Bool) :
    List NodeS × List TBin × Cell × Cell :=
  let cLo := (chain hp tb (.tree b)).filter fun i => !bit (nodeAt hp i).key
  let cHi := (chain hp tb (.tree b)).filter fun i => bit (nodeAt hp i).key
  let r1 := splitSide hp tb b cLo small cHi.isEmpty
  let r2 := splitSide r1.1 r1.2.1 b cHi small2 cLo.isEmpty
  (r2.1, r2.2.1, r1.2.2, r2.2.2)

theorem ysplit_spec (bit : Nat → Bool) {b : Nat} (small small2 : Bool) (P : YPre hp tb b)
    {r : List NodeS × List TBin × Cell × Cell} (hr : ysplit bit hp tb b small small2 = r) :
    Ext hp tb r.1 r.2.1 ∧ CopyOK r.1 r.2.1 (.tree b) (fun k => bit k == false) r.2.2.1 ∧
    CopyOK r.1 r.2.1 (.tree b) (fun k => bit k == true) r.2.2.2 ∧ (∀ x, r.2.2.1 = .tree x → r.2.2.2 ≠ .tree x) ∧
    NewOrOld hp tb r.1 r.2.1 (.tree b) r.2.2.1 ∧ NewOrOld hp tb r.1 r.2.1 (.tree b) r.2.2.2 := by
  unfold ysplit at hr
  dsimp only at hr
  have hlo : ((chain hp tb (.tree b)).filter fun i => !bit (nodeAt hp i).key) =
      (chain hp tb (.tree b)).filter fun i => bit (nodeAt hp i).key == false :=
    List.filter_congr fun i _ => by cases bit (nodeAt hp i).key <;> rfl
  have hhi : ((chain hp tb (.tree b)).filter fun i => bit (nodeAt hp i).key) =
      (chain hp tb (.tree b)).filter fun i => bit (nodeAt hp i).key == true :=
    List.filter_congr fun i _ => by cases bit (nodeAt hp i).key <;> rfl
  generalize ((chain hp tb (.tree b)).filter fun i => !bit (nodeAt hp i).key) = cLo at hr hlo
  generalize ((chain hp tb (.tree b)).filter fun i => bit (nodeAt hp i).key) = cHi at hr hhi
  -- the low side
  obtain ⟨e1, h1, -, htree1, hmem1⟩ :=
    splitSide_spec small cHi.isEmpty P hlo (fun h => all_other_side (side := true) (hhi ▸ h)) rfl
  generalize splitSide hp tb b cLo small cHi.isEmpty = r1 at hr e1 h1 htree1 hmem1
  obtain ⟨hp1, tb1, lo⟩ := r1
  dsimp only at hr e1 h1 htree1 hmem1
  have P1 : YPre hp1 tb1 b := P.ext e1
  have eO1 : chain hp1 tb1 (.tree b) = chain hp tb (.tree b) := P.chain_eq e1
  have hold1 : ∀ i ∈ chain hp tb (.tree b), nodeAt hp1 i = nodeAt hp i := fun i hi => e1.old (P.cinv.chain_lt hi)
  -- the high side
  have hc2 : cHi = (chain hp1 tb1 (.tree b)).filter (fun i => bit (nodeAt hp1 i).key == true) := by
    rw [hhi, eO1]
    exact List.filter_congr fun i hi => by rw [hold1 i hi]
  have hre2 : cLo.isEmpty = true → ∀ i ∈ chain hp1 tb1 (.tree b), bit (nodeAt hp1 i).key = true := by
    intro h i hi
    rw [eO1] at hi
    rw [hold1 i hi]
    exact all_other_side (side := false) (hlo ▸ h) i hi
  obtain ⟨e2, h2, hnil2, htree2, hmem2⟩ := splitSide_spec small2 cLo.isEmpty P1 hc2 hre2 rfl
  generalize splitSide hp1 tb1 b cHi small2 cLo.isEmpty = r2 at hr e2 h2 hnil2 htree2 hmem2
  obtain ⟨hp2, tb2, hi⟩ := r2
  dsimp only at hr e2 h2 hnil2 htree2 hmem2
  subst hr
  refine ⟨e1.trans e2, e2.copyOK e1.nextOK P1.cinv.startOK P1.bT h1, h2, ?_, ⟨?_, ?_⟩, ⟨?_, ?_⟩⟩
  · intro x hxlo hxhi
    rcases htree1 x hxlo with ⟨_, hr, _⟩ | ⟨hx, hl1⟩
    · rw [hnil2 (List.isEmpty_iff.1 hr)] at hxhi; cases hxhi
    · -- the low cell is the bin made by the first call: it is not the old bin, nor the bin made by the second call
      subst hx
      rcases htree2 _ hxhi with ⟨hxb, _, _⟩ | ⟨hx2, _⟩
      · exact absurd (hxb ▸ P.blt) (Nat.lt_irrefl _)
      · exact absurd (hx2.trans hl1) (Nat.ne_of_lt (Nat.lt_succ_self _))
  · intro j hj
    rw [e2.chain_eq e1.nextOK h1.cinv.startOK h1.cellOK] at hj
    exact hmem1 j hj
  · intro x hx
    rcases htree1 x hx with ⟨rfl, -⟩ | ⟨rfl, -⟩
    · exact Or.inl rfl
    · exact Or.inr (Nat.le_refl _)
  · intro j hj
    exact (hmem2 j hj).imp (fun h => eO1 ▸ h) (Nat.le_trans e1.hlen)
  · intro x hx
    rcases htree2 x hx with ⟨rfl, -⟩ | ⟨rfl, -⟩
    · exact Or.inl rfl
    · exact Or.inr e1.blen

end
end Flurry.Proto.BinGH
