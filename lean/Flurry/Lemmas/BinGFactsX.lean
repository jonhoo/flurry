import Flurry.Lemmas.BinGInv
/-! # Proto/BinG: the situation of the resizing thread

`XCtx s t l`: thread `t` is THE resizing thread, the old cell is not forwarded, and no other thread is validated,
works in the new table, or is a resizing thread; `TStep s s' t l'`: the shape of the successor state of one of its
transitions. `XCtx.no_privK`: no treeify has a private `TreeBin` then; `XCtx.cases'`: the threads of the successor (an
instance of `get_set`: its hypothesis `XCtx s t l` plays no part). `treeOf_congr`, `xPc_not_tree_writer`: the tree nodes of
a cell depend on the heap only; a program counter of the resize is none of the tree writers' or of a treeify's store.

These are statements about the definitions `XCtx` and `TStep`, and nothing uses them: no transition of BinG is shown to be a
`TStep`. That a step of BinG preserves the invariant is not proved from them: `Inv` of a reachable state is read off the invariant of
`Proto/BinGN` on the image of the state (`Lemmas/BinGLin.lean`), and a new invariant is added there, to the bundle of
`Lemmas/BinGNPBundle.lean`. -/
namespace Flurry.Proto.BinG
open Flurry.Proto.BinK (get_set)

private theorem treeOf_congr {s s' : State} (hh : s'.heap = s.heap) (c : Cell) (j : Nat) : treeOf s' c j ↔ treeOf s c j := by
  unfold treeOf; rw [hh]

private theorem xPc_not_tree_writer {pc : Pc} (hx : xPc pc = true) :
    (∀ tab b j res, pc ≠ .tRestructure tab b j res) ∧ (∀ tab b res, pc ≠ .tUntreeify tab b res) ∧
    (∀ tab b j, pc ≠ .tTreeLinkLocked tab b j) ∧ (∀ tab k h b, pc ≠ .kStore tab k h b) := by
  refine ⟨fun _ _ _ _ e => ?_, fun _ _ _ e => ?_, fun _ _ _ e => ?_, fun _ _ _ _ e => ?_⟩ <;>
  · rw [e] at hx; cases hx

structure XCtx (s : State) (t : Nat) (l : Local) : Prop where
  inv : Inv s
  hl : s.threads[t]? = some l
  call : l.call = none
  xpc : xPc l.pc = true
  notMoved : s.cell0 ≠ .moved
  others : ∀ t1 l1, t1 ≠ t → s.threads[t1]? = some l1 →
    xPc l1.pc = false ∧ validL l1.pc = none ∧ validT l1.pc = none ∧ tabOf l1.pc ≠ some .new

theorem XCtx.no_privK {s : State} {t : Nat} {l : Local} (X : XCtx s t l) (j : Nat) : ¬ PrivK s j := by
  rintro ⟨t1, l1, tab, k, h, b, hl1, hpc, -⟩
  by_cases hne : t1 = t
  · subst hne
    have := X.hl
    rw [hl1] at this; cases this
    have := X.xpc
    rw [hpc] at this; cases this
  · have := (X.others t1 l1 hne hl1).2.1
    rw [hpc] at this; cases this

structure TStep (s s' : State) (t : Nat) (l' : Local) : Prop where
  thr : s'.threads = s.threads.set t l'
  now : s'.now = s.now + 1
  hist : s'.hist = s.hist
  resz : s'.resizing = s.resizing
  call : l'.call = none
  xpc : xPc l'.pc = true

theorem XCtx.cases' {s s' : State} {t : Nat} {l l' : Local} (X : XCtx s t l) (S : TStep s s' t l') {t1 : Nat}
    {l1 : Local} (h1 : s'.threads[t1]? = some l1) : (t1 = t ∧ l1 = l') ∨ (t1 ≠ t ∧ s.threads[t1]? = some l1) := by
  have _ := X
  rw [S.thr] at h1
  exact get_set h1

end Flurry.Proto.BinG
