import Flurry.Lemmas.SeqBinsList
/-! # Bin updates keep `BinWF` (update and removal of a present key, insertion of an absent
key, treeify)

The three updates are written inline in `Flurry.Seq.put` / `replaceNode` / `computeIfPresent`;
`setValBin`, `removeBin`, `insertBin` name them (`put_eq`, `replaceNode_eq`, `cip_eq` in
`SeqOpsPut` / `SeqOpsRemove` / `SeqOpsCip` restate the operations in these terms, by `rfl` per
constructor). -/
namespace Flurry.Seq
open Flurry Flurry.Gen
open Flurry.RB (upd)

/-- `value.swap` on the entry of a bin (the `b'` of `replaceNode`/`computeIfPresent`, `.keep`) -/
def setValBin (h k v vi : Nat) : Bin → Bin
  | .empty => .empty
  | .list ns => .list (listSetVal h k v vi ns)
  | .tree tr o => .tree (RB.setVal h k v vi tr) (listSetVal h k v vi o)

/-- removal of the entry of a bin (the `b'` of `replaceNode`/`computeIfPresent`, removal) -/
def removeBin (h k : Nat) : Bin → Bin
  | .empty => .empty
  | .list ns => Bin.ofNodes (listRemove h k ns)
  | .tree tr o => treeRemove h k tr o

/-- insertion of a new node (the three `none` branches of `put`) -/
def insertBin (nd : Node) : Bin → Bin
  | .empty => .list [nd]
  | .list ns => .list (ns ++ [nd])
  | .tree tr o => .tree (RB.putNew tr nd) (nd :: o)

theorem setValBin_nodes {hash : Nat → Nat} {n i : Nat} (h k v vi : Nat) {b : Bin}
    (hb : BinWF hash n i b) : (setValBin h k v vi b).nodes = b.nodes.map (upd h k v vi) := by
  cases b with
  | empty => rfl
  | list ns => exact listSetVal_eq_map h k v vi ns hb.2.2
  | tree t o => exact listSetVal_eq_map h k v vi o hb.2.2.1

/-- (holds whether or not the key is present) -/
theorem setValBin_wf {hash : Nat → Nat} {n i : Nat} (h k v vi : Nat) {b : Bin}
    (hb : BinWF hash n i b) : BinWF hash n i (setValBin h k v vi b) := by
  cases b with
  | empty => trivial
  | list ns =>
    obtain ⟨h1, h2, h3⟩ := hb
    exact ⟨listSetVal_ne_nil h k v vi ns h1, listSetVal_nodeOk h k v vi ns h2,
      listSetVal_keysNodup h k v vi ns h3⟩
  | tree t o =>
    obtain ⟨h1, h2, h3, h4, h5⟩ := hb
    refine ⟨listSetVal_ne_nil h k v vi o h1, listSetVal_nodeOk h k v vi o h2,
      listSetVal_keysNodup h k v vi o h3, RB.setVal_inv h k v vi t h4, ?_⟩
    rw [RB.setVal_toList_upd h k v vi t h4.1, listSetVal_eq_map h k v vi o h3]
    exact h5.map _

theorem setValBin_list_wf {hash : Nat → Nat} {n i : Nat} (h k v vi : Nat) {ns : List Node}
    (hb : BinWF hash n i (.list ns)) : BinWF hash n i (.list (listSetVal h k v vi ns)) :=
  setValBin_wf h k v vi hb

theorem setValBin_tree_wf {hash : Nat → Nat} {n i : Nat} (h k v vi : Nat) {tr : RB.T}
    {o : List Node} (hb : BinWF hash n i (.tree tr o)) :
    BinWF hash n i (.tree (RB.setVal h k v vi tr) (listSetVal h k v vi o)) :=
  setValBin_wf h k v vi hb

theorem setValBin_find_same {hash : Nat → Nat} {n i : Nat} {h k v vi : Nat} {b : Bin} {old : Node}
    (hb : BinWF hash n i b) (hf : b.find h k = some old) :
    (setValBin h k v vi b).find h k = some { old with val := v, vi := vi } := by
  cases b with
  | empty => simp [Bin.find] at hf
  | list ns => exact listFind_listSetVal_same hf
  | tree t o => exact RB.find_setVal_same h k v vi t old hb.2.2.2.1.1 hf

theorem treeRemove_nodes (h k : Nat) (tr : RB.T) (o : List Node) :
    (treeRemove h k tr o).nodes = listRemove h k o := by
  unfold treeRemove
  cases hl : listRemove h k o with
  | nil => rfl
  | cons a l =>
    simp only
    split
    · simp [untreeify]
    · rfl

theorem removeBin_nodes {hash : Nat → Nat} {n i : Nat} (h k : Nat) {b : Bin}
    (hb : BinWF hash n i b) : (removeBin h k b).nodes = b.nodes.filter (fun x => !(x.hash == h && x.key == k)) := by
  cases b with
  | empty => rfl
  | list ns => simp only [removeBin, nodes_ofNodes]; exact listRemove_eq_filter h k ns hb.2.2
  | tree t o =>
    simp only [removeBin, treeRemove_nodes]; exact listRemove_eq_filter h k o hb.2.2.1

theorem removeBin_list_wf {hash : Nat → Nat} {n i : Nat} (h k : Nat) {ns : List Node}
    (hb : BinWF hash n i (.list ns)) : BinWF hash n i (Bin.ofNodes (listRemove h k ns)) :=
  binWF_ofNodes (listRemove_nodeOk h k ns hb.2.1) (listRemove_keysNodup h k ns hb.2.2)

theorem removeBin_wf {hash : Nat → Nat} {n i : Nat} {h k : Nat} {b : Bin} {old : Node}
    (hb : BinWF hash n i b) (hf : b.find h k = some old) : BinWF hash n i (removeBin h k b) := by
  cases b with
  | empty => trivial
  | list ns => exact removeBin_list_wf h k hb
  | tree t o =>
    have hm := (Bin.find_iff hb).1 hf
    obtain ⟨-, h2, h3, h4, h5⟩ := hb
    simp only [removeBin, treeRemove]
    have hok := listRemove_nodeOk h k o h2
    have hnd := listRemove_keysNodup h k o h3
    cases hl : listRemove h k o with
    | nil => trivial
    | cons a l =>
      rw [hl] at hok hnd
      simp only
      split
      · exact binWF_ofNodes hok hnd
      next hs =>
        have he : ∃ e ∈ RB.toList t, e.hash = h ∧ e.key = k :=
          ⟨old, h5.mem_iff.2 hm.1, hm.2⟩
        refine ⟨by simp, hok, hnd, RB.removeNode_inv h4 (by simpa using hs) he, ?_⟩
        rw [RB.removeNode_toList h4.1 he, ← hl, listRemove_eq_filter h k o h3]
        exact h5.filter _

theorem treeRemove_wf {hash : Nat → Nat} {n i : Nat} {h k : Nat} {tr : RB.T} {o : List Node}
    {old : Node} (hb : BinWF hash n i (.tree tr o)) (hf : RB.find h k tr = some old) :
    BinWF hash n i (treeRemove h k tr o) :=
  removeBin_wf (b := .tree tr o) hb hf

theorem removeBin_find_same {hash : Nat → Nat} {n i : Nat} {h k : Nat} {b : Bin} {old : Node}
    (hb : BinWF hash n i b) (hf : b.find h k = some old) : (removeBin h k b).find h k = none := by
  rw [Bin.find_none_iff (removeBin_wf hb hf), removeBin_nodes h k hb]
  intro x hx hc
  have := (List.mem_filter.1 hx).2
  simp [hc.1, hc.2] at this

theorem removeBin_length {hash : Nat → Nat} {n i : Nat} {h k : Nat} {b : Bin} {old : Node}
    (hb : BinWF hash n i b) (hf : b.find h k = some old) :
    (removeBin h k b).nodes.length + 1 = b.nodes.length := by
  cases b with
  | empty => simp [Bin.find] at hf
  | list ns =>
    rw [removeBin, nodes_ofNodes]; exact listRemove_length hf
  | tree t o =>
    rw [removeBin, treeRemove_nodes]
    have hm := (Bin.find_iff hb).1 hf
    exact listRemove_length ((listFind_iff hb.2.2.1).2 hm)

theorem insertBin_nodes (nd : Node) (b : Bin) :
    (insertBin nd b).nodes = match b with
      | .tree _ o => nd :: o
      | b => b.nodes ++ [nd] := by
  cases b <;> rfl

theorem insertBin_nodes_perm (nd : Node) (b : Bin) : (insertBin nd b).nodes.Perm (nd :: b.nodes) := by
  cases b with
  | empty => exact List.Perm.refl _
  | list ns => simp [insertBin, Bin.nodes]
  | tree t o => exact List.Perm.refl _

theorem insertBin_wf {hash : Nat → Nat} {n i : Nat} {h k : Nat} {b : Bin} {nd : Node}
    (hb : BinWF hash n i b) (hf : b.find h k = none) (hh : nd.hash = h) (hk : nd.key = k)
    (hnd : NodeOk hash n i nd) : BinWF hash n i (insertBin nd b) := by
  have habs := (Bin.find_none_iff hb).1 hf
  have hkeys : ∀ x ∈ b.nodes, x.key ≠ nd.key := by
    intro x hx hxk
    refine habs x hx ⟨?_, hxk.trans hk⟩
    rw [(hb.nodeOk x hx).1, hxk, ← hnd.1, hh]
  have hnodup : KeysNodup (nd :: b.nodes) := keysNodup_cons.2 ⟨hkeys, hb.keysNodup⟩
  have hok : ∀ x ∈ nd :: b.nodes, NodeOk hash n i x := by
    intro x hx
    rcases List.mem_cons.1 hx with rfl | hx
    · exact hnd
    · exact hb.nodeOk x hx
  have hp := insertBin_nodes_perm nd b
  cases b with
  | empty => exact ⟨by simp, hok, hnodup⟩
  | list ns =>
    exact ⟨by simp, fun x hx => hok x (hp.subset hx), hnodup.perm hp.symm⟩
  | tree t o =>
    obtain ⟨-, -, -, h4, h5⟩ := hb
    have hne : ∀ x ∈ RB.toList t, ¬(x.hash = nd.hash ∧ x.key = nd.key) :=
      fun x hx hc => hkeys x (h5.mem_iff.1 hx) hc.2
    exact ⟨by simp, hok, hnodup, RB.putNew_inv t nd h4 hne,
      (RB.insertNew_toList_perm t nd hne).trans (h5.cons nd)⟩

theorem insertBin_find {hash : Nat → Nat} {n i : Nat} {h k : Nat} {b : Bin} {nd : Node}
    (hb : BinWF hash n i b) (hf : b.find h k = none) (hh : nd.hash = h) (hk : nd.key = k)
    (hnd : NodeOk hash n i nd) : (insertBin nd b).find h k = some nd := by
  rw [Bin.find_iff (insertBin_wf hb hf hh hk hnd)]
  exact ⟨(insertBin_nodes_perm nd b).symm.subset (by simp), hh, hk⟩

theorem treeify_wf {hash : Nat → Nat} {n i : Nat} {ns : List Node}
    (hb : BinWF hash n i (.list ns)) : BinWF hash n i (.tree (RB.ofList ns) ns) := by
  obtain ⟨h1, h2, h3⟩ := hb
  exact ⟨h1, h2, h3, RB.ofList_inv ns h3.pairwise_hk, RB.ofList_perm ns h3.pairwise_hk⟩

theorem treeify_find {hash : Nat → Nat} {n i : Nat} {ns : List Node} (h k : Nat)
    (hb : BinWF hash n i (.list ns)) :
    (Bin.tree (RB.ofList ns) ns).find h k = (Bin.list ns).find h k := by
  have hb' := treeify_wf hb
  cases hf : (Bin.list ns).find h k with
  | none => rw [Bin.find_none_iff hb'] ; exact (Bin.find_none_iff hb).1 hf
  | some e => rw [Bin.find_iff hb']; exact (Bin.find_iff hb).1 hf

end Flurry.Seq
