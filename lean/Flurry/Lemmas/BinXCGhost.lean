import Flurry.Lemmas.BinXCInv
/-! # Proto/BinXC: the extended history (C01, C04)

The completed calls on key `k` — including every completed `clear` — plus the calls that have passed
their linearization point for `k` without having responded: writers that have stored and only have to
unlock, and `clear`s that are done with the cell of `k` (`cdone`). -/
namespace Flurry.Proto.BinXC
open Flurry.Lin

theorem isReader_eq_isRead (op : KOp) : isReader op = isRead op := by cases op <;> rfl

/-- has a `clear` that is about to look at cell `idx` of table `tab` already emptied (or found empty) the cell of key `k`? -/
def doneAt (tab : Tab) (idx : Nat) (k : Nat) : Bool :=
  match tab with
  | .old => decide (1 ≤ idx)
  | .new => if hiBit k then decide (2 ≤ idx) else decide (1 ≤ idx)

def cdone : Pc → Nat → Bool
  | .cCell tab idx, k => doneAt tab idx k
  | .cLock tab idx _, k => doneAt tab idx k
  | .cCheck tab idx _, k => doneAt tab idx k
  | .cStore tab idx _, k => doneAt tab idx k
  | .cUnlock tab idx _ retry, k => doneAt tab (if retry then idx else idx + 1) k
  | _, _ => false

/-- operation, result and invocation time of the call of thread-state `l` if it has passed its
linearization point for key `k` without having responded: a writer that has stored and only has to
unlock; a `clear` that is done with the cell of `k` -/
def extResP (k : Nat) (p : Pending) : Pc → Option (KOp × KRes × Nat)
  | .wUnlock _ _ res false => if p.key = k then some (p.op, res, p.inv) else none
  | pc => if cdone pc k then some (.cipRm, .none, p.inv) else none

def extRes (k : Nat) (l : Local) : Option (KOp × KRes × Nat) :=
  match l.call with
  | some p => extResP k p l.pc
  | none => none

def extOf (k now t : Nat) (l : Local) : Option Call :=
  (extRes k l).map fun x => ⟨t, x.1, x.2.1, x.2.2, now⟩

def extCalls (s : State) (k : Nat) : History :=
  (List.range s.threads.length).filterMap (fun t => (s.threads[t]?).bind (extOf k s.now t))

/-- the calls of `extCalls` are counted as responding "now" -/
def callsOnExt (s : State) (k : Nat) : History := callsOn s k ++ extCalls s k

theorem extRes_idle (k : Nat) : extRes k { pc := .idle, call := none } = none := rfl

/-- the history entries that concern key `k` -/
def onKey (k : Nat) (e : Option Nat × Call) : Prop := e.1 = some k ∨ e.1 = none

/-! ## the extended history of key `k` is the one `GhostView` reads through the view of `k`

The trace of a key is kept key by key, so the view may depend on the key: for key `k` a `clear` is a `cipRm` on
`k` that is past its point as soon as it is done with the cell of `k`, and a completed `clear` is a completed
call on `k`. -/

/-- `isC` as a `Bool` -/
def clearing : Pc → Bool
  | .cTable | .cCell _ _ | .cWait | .cLock _ _ _ | .cCheck _ _ _ | .cStore _ _ _ | .cUnlock _ _ _ _ => true
  | _ => false

/-- the result of a call that is past its point for key `k` -/
def resK (k : Nat) : Pc → Option KRes
  | .wUnlock _ _ res false => some res
  | pc => if cdone pc k then some .none else none

/-- the call of a thread as the trace of key `k` counts it -/
def keyed (k : Nat) (pc : Pc) (p : Pending) : Pending := if clearing pc then ⟨k, .cipRm, p.inv⟩ else p

/-- how the trace of key `k` reads a thread -/
@[reducible] def viewK (k : Nat) : GhostView.View Local Pending KOp KRes :=
  ⟨fun l => l.call.map (keyed k l.pc), fun l => resK k l.pc, Pending.key, Pending.op, Pending.inv⟩

theorem keyed_of_not_clearing {k : Nat} {pc : Pc} (h : clearing pc = false) (p : Pending) : keyed k pc p = p := by
  unfold keyed; rw [h]; rfl

/-- how the trace of key `k` reads the history -/
def histK (k : Nat) (hist : List (Option Nat × Call)) : List (Nat × Call) := hist.map fun e => (e.1.getD k, e.2)

theorem callK_some {k : Nat} {l : Local} {q : Pending} (h : (viewK k).call l = some q) :
    ∃ p, l.call = some p ∧ q.inv = p.inv := by
  obtain ⟨pc, call⟩ := l
  cases call with
  | none => cases h
  | some p =>
    refine ⟨p, rfl, ?_⟩
    cases Option.some.inj h
    show (keyed k pc p).inv = p.inv
    unfold keyed; split <;> rfl

theorem TInv.genK {s : State} (T : TInv s) (k : Nat) :
    GhostView.Threads Lin.sig (viewK k) (fun _ _ => True) s.threads (histK k s.hist) s.now where
  opOK _ _ _ _ _ := trivial
  histTime x hx := by
    obtain ⟨y, hy, rfl⟩ := List.mem_map.1 hx
    exact T.histTime y hy
  pendTime t l q hl hq := by
    obtain ⟨p, hp, hi⟩ := callK_some hq
    show q.inv ≤ s.now
    rw [hi]; exact T.pendTime t l p hl hp
  uniqHP x hx t l q hl hq := by
    obtain ⟨y, hy, rfl⟩ := List.mem_map.1 hx
    obtain ⟨p, hp, hi⟩ := callK_some hq
    show y.2.inv ≠ q.inv
    rw [hi]; exact T.uniqHP y hy t l p hl hp
  uniqPP t t' l l' q q' hl hl' hq hq' he := by
    obtain ⟨p, hp, hi⟩ := callK_some hq
    obtain ⟨p', hp', hi'⟩ := callK_some hq'
    exact T.uniqPP t t' l l' p p' hl hl' hp hp' (hi.symm.trans ((he : q.inv = q'.inv).trans hi'))
  uniqHH := (List.pairwise_map (R := fun x y : Nat × Call => x.2.inv ≠ y.2.inv)).2 T.uniqHH

theorem clearing_of_cdone {pc : Pc} {k : Nat} (h : cdone pc k = true) : clearing pc = true := by
  cases pc <;> first | rfl | cases h

theorem extOf_eq (k now t : Nat) (l : Local) : extOf k now t l = GhostView.extOf Lin.sig (viewK k) k now t l := by
  obtain ⟨pc, call⟩ := l
  cases call with
  | none =>
    unfold GhostView.extOf
    generalize (viewK k).res ⟨pc, none⟩ = r
    cases r <;> rfl
  | some p =>
    unfold extOf extRes GhostView.extOf
    show Option.map _ (extResP k p pc) = _
    unfold extResP
    split
    · show Option.map _ (if p.key = k then _ else _) = if p.key = k then _ else _
      split <;> rfl
    · rename_i hne
      have hr : (viewK k).res ⟨pc, some p⟩ = if cdone pc k then some .none else none := by
        show resK k pc = _
        unfold resK
        split
        · exact absurd rfl (hne _ _ _)
        · rfl
      rw [hr]
      cases hd : cdone pc k
      · rfl
      · show _ = if (keyed k pc p).key = k then _ else _
        unfold keyed
        rw [clearing_of_cdone hd, if_pos rfl]
        exact (if_pos rfl).symm

theorem callsOn_eq (s : State) (k : Nat) : callsOn s k = GhostView.callsOn (histK k s.hist) k := by
  unfold callsOn GhostView.callsOn histK
  rw [List.filter_map, ← List.map_reverse, List.map_map]
  have : ((fun e : Nat × Call => e.1 == k) ∘ fun e : Option Nat × Call => (e.1.getD k, e.2)) =
      fun e => e.1 == some k || e.1 == none := by
    funext e
    obtain ⟨ko, c⟩ := e
    cases ko <;> simp
  rw [this]; rfl

theorem callsOnExt_eq (s : State) (k : Nat) :
    callsOnExt s k = GhostView.callsOnExt Lin.sig (viewK k) (histK k s.hist) s.threads k s.now := by
  have : extOf k s.now = fun t l => GhostView.extOf Lin.sig (viewK k) k s.now t l :=
    funext fun t => funext fun l => extOf_eq k s.now t l
  unfold callsOnExt extCalls; rw [this, callsOn_eq]; rfl

theorem callsOnExt_quiescent {s : State} (hq : quiescent s) (k : Nat) : callsOnExt s k = callsOn s k := by
  rw [callsOnExt_eq, callsOn_eq]
  exact GhostView.callsOnExt_quiescent k s.now (fun l hl => by
    obtain ⟨pc, call⟩ := l
    cases (hq _ hl : pc = .idle); rfl)

end Flurry.Proto.BinXC
