import Flurry.Lemmas.BinNAGhost
/-! # Proto/BinNA: the ghost invariant holds in every reachable state (C01, C10)

`ginv_step`: every transition preserves `∃ A pt, GInv`. Linearization points: readers at the load
that returns a cell that is not a marker; writers that see an empty cell and have nothing to insert at
that load; the lock-free insert at its successful CAS; lock-holding writers at their one store
(`wStore`). No step of the resizing thread has a point: none of them changes the abstract state of any
key (`stepK_abs` of `Lemmas/BinNAAbs.lean`, the one fact about `absOf` that `ginv_step` uses). -/
namespace Flurry.Proto.BinNA
open Flurry.Lin

theorem missRes_spec {op : KOp} (h : isRead op = true) : specStep none op = (none, missRes op) := by
  cases op <;> first | rfl | cases h

theorem hitRes_spec {op : KOp} (h : isRead op = true) (v : Nat × Nat) :
    specStep (some v) op = (some v, hitRes op v) := by
  obtain ⟨a, b⟩ := v
  cases op <;> first | rfl | cases h

theorem Move.ext {s : State} {p : Pending} {pc pc' : Pc} (h : Move s p pc pc') :
    resOfPc pc = none ∧ resOfPc pc' = none := by
  cases h <;> exact ⟨rfl, rfl⟩

theorem Fin.ext {s : State} {p : Pending} {pc : Pc} {res : KRes} (h : Fin s p pc res) : resOfPc pc = none := by
  cases h <;> rfl

/-- a call that completes without a store of its own has looked at a cell that is not a marker, and its
result is what the specification gives for the content of that cell, which stays -/
theorem Fin.spec {s : State} {p : Pending} {pc : Pc} {res : KRes} (hf : Fin s p pc res) (hop : PcOp pc p.op) :
    ∃ g, (pc = .rCell g ∨ pc = .wCell g) ∧ getCell s g (ix g p.key) ≠ .moved ∧
      specStep (cellAbs p.key (getCell s g (ix g p.key))) p.op =
        (cellAbs p.key (getCell s g (ix g p.key)), res) := by
  cases hf with
  | @rEmpty g hc =>
    refine ⟨g, .inl rfl, by rw [hc]; nofun, ?_⟩
    rw [hc]; exact missRes_spec ((isReader_eq_isRead _).symm.trans hop)
  | @rMiss g xs hc hlk =>
    refine ⟨g, .inl rfl, by rw [hc]; nofun, ?_⟩
    rw [hc]
    show specStep (lookup p.key xs) p.op = (lookup p.key xs, _)
    rw [hlk]; exact missRes_spec ((isReader_eq_isRead _).symm.trans hop)
  | @rHit g xs v hc hlk =>
    refine ⟨g, .inl rfl, by rw [hc]; nofun, ?_⟩
    rw [hc]
    show specStep (lookup p.key xs) p.op = (lookup p.key xs, _)
    rw [hlk]; exact hitRes_spec ((isReader_eq_isRead _).symm.trans hop) v
  | @wEmpty g hc hnot =>
    refine ⟨g, .inr rfl, by rw [hc]; nofun, ?_⟩
    rw [hc]
    show specStep none p.op = (none, .none)
    have hwr : isReader p.op = false := hop
    cases hop' : p.op with
    | ins v vi => exact absurd ⟨v, vi, .inl hop'⟩ hnot
    | tryIns v vi => exact absurd ⟨v, vi, .inr hop'⟩ hnot
    | get => rw [hop'] at hwr; cases hwr
    | has => rw [hop'] at hwr; cases hwr
    | rm => rfl
    | cipInc nvi => rfl
    | cipRm => rfl

/-- the point of a call that completes without a store of its own: a reader's at the load, a writer's now -/
theorem fin_point {k : Nat} {s : State} {A : Nat → KSt} {pt : Nat → Nat} {t : Nat} {l : Local}
    {p : Pending} {res : KRes}
    (g : GInv k s A pt) (I : Inv s) (hl : s.threads[t]? = some l) (hp : l.call = some p)
    (hk : p.key = k) (hf : Fin s p l.pc res) :
    ∃ τ0, (isRead p.op = true ∧ p.inv ≤ τ0 ∧ τ0 ≤ s.now ∧ specStep (A τ0) p.op = (A τ0, res)) ∨
      (isRead p.op = false ∧ τ0 = s.now + 1 ∧ specStep (absOf s k) p.op = (absOf s k, res)) := by
  have hpi := I.thr.pendTime t l p hl hp
  have hpc := I.pc t l hl
  rw [keyOf_some hp] at hpc
  obtain ⟨g0, hg, hnm, hspec⟩ := hf.spec (I.thr.opOK t l p hl hp)
  have hfw : Fwd s g0 (ix g0 p.key) := by
    rcases hg with h | h <;> rw [h] at hpc <;> exact hpc
  rw [← I.absOf_of_fwd hfw hnm, hk] at hspec
  cases hrd : isRead p.op with
  | false => exact ⟨s.now + 1, .inr ⟨rfl, rfl, hspec⟩⟩
  | true => exact ⟨s.now, .inl ⟨rfl, hpi, Nat.le_refl _, by rw [g.hA]; exact hspec⟩⟩

theorem TInv.call_none {s : State} (T : TInv s) {t : Nat} {l : Local} (hl : s.threads[t]? = some l)
    (h : ¬ isOp l.pc) : l.call = none := by
  cases hc : l.call with
  | none => rfl
  | some p => exact absurd ((T.callOK t l hl).2 (by rw [hc]; rfl)) h

theorem ginv_step {k : Nat} {s s' : State} {A : Nat → KSt} {pt : Nat → Nat} {t : Nat} {l : Local}
    (g : GInv k s A pt) (I : Inv s) (hl : s.threads[t]? = some l) (hstep : StepK s t l s') :
    ∃ A' pt', GInv k s' A' pt' := by
  have I' := stepK_inv I hl hstep
  have T := I.thr
  have hpc0 := I.pc t l hl
  have habs := stepK_abs I hl hstep k
  have tr := g.trace
  have G := T.gen
  -- the thread is counted in the extended history neither before nor after the step
  have quiet : ∀ {l' hnew m}, (∀ c, (k, c) ∉ hnew) → absOf (post s t l' hnew m) k = absOf s k →
      resOfPc l.pc = none → resOfPc l'.pc = none → ∃ A' pt', GInv k (post s t l' hnew m) A' pt' :=
    fun hnk ha he he' => ⟨_, _, .of_trace (tr.quiet_none G hl rfl rfl rfl ha hnk
      (GhostView.extOf_none_of_res he) (GhostView.extOf_none_of_res he'))⟩
  -- the call of the thread, if it has one, is on another key
  have other : ∀ {l' hnew m}, (∀ p, l.call = some p → p.key ≠ k) → (∀ x ∈ hnew, x.1 ≠ k) →
      (l'.call = l.call ∨ l'.call = none) → absOf (post s t l' hnew m) k = absOf s k →
      ∃ A' pt', GInv k (post s t l' hnew m) A' pt' :=
    fun hk hnk hc ha => ⟨_, _, .of_trace (tr.other_key G hl rfl rfl rfl ha hk hnk hc)⟩
  have quietT : ∀ {pc' m}, l.call = none →
      ((∀ p, l.call = some p → p.key ≠ k) → absOf (post s t ⟨pc', l.call⟩ [] m) k = absOf s k) →
      ∃ A' pt', GInv k (post s t ⟨pc', l.call⟩ [] m) A' pt' :=
    fun hc ha => other (fun p h => by rw [hc] at h; cases h) (fun _ h => nomatch h) (.inl rfl)
      (ha (fun p h => by rw [hc] at h; cases h))
  cases hstep with
  | idle call => exact quiet (fun _ => List.not_mem_nil) (absOf_post_none k) rfl rfl
  | invoke call k' op =>
    refine quiet (fun _ => List.not_mem_nil) (absOf_post_none k) rfl ?_
    cases isReader op <;> rfl
  | resize call hr => exact quietT (T.call_none hl id) habs
  | move p pc pc' hm => exact quiet (fun _ => List.not_mem_nil) (absOf_post_none k) hm.ext.1 hm.ext.2
  | acq call pc g0 j pc' ha hfree => cases ha <;> exact quiet (fun _ => List.not_mem_nil) (absOf_post_lock k) rfl rfl
  | rel call pc g0 j pc' hrel => cases hrel <;> exact quiet (fun _ => List.not_mem_nil) (absOf_post_lock k) rfl rfl
  | fin p pc res hf =>
    by_cases hk : p.key = k
    · obtain ⟨τ0, hcase⟩ := fin_point g I hl rfl hk hf
      refine ⟨_, _, .of_trace (tr.call_fin (τ0 := τ0) G hl rfl rfl rfl rfl hk hf.ext rfl ?_)⟩
      rw [absOf_post_none k]
      exact hcase.imp (fun h => ⟨h.1, rfl, h.2⟩) id
    · exact other (fun _ hp' => by cases hp'; exact hk) (fun x hx => by cases List.mem_singleton.1 hx; exact hk)
        (.inr rfl) (absOf_post_none k)
  | cas p g0 v vi hc hop =>
    by_cases hk : p.key = k
    · subst hk
      have hwr : isRead p.op = false := by rcases hop with h | h <;> rw [h] <;> rfl
      obtain ⟨ha0, ha1, -⟩ := cas_abs I I' hpc0 hc
      refine ⟨_, _, .of_trace (tr.call_fin (τ0 := s.now + 1) G hl rfl rfl rfl rfl rfl rfl rfl (.inr ⟨hwr, rfl, ?_⟩))⟩
      rw [ha0, ha1]
      show specStep none p.op = (some (v, vi), KRes.none)
      rcases hop with hop | hop <;> rw [hop] <;> rfl
    · exact other (fun _ hp' => by cases hp'; exact hk) (fun x hx => by cases List.mem_singleton.1 hx; exact hk)
        (.inr rfl) (habs (fun _ hp' => by cases hp'; exact hk))
  | store p g0 =>
    by_cases hk : p.key = k
    · subst hk
      have hwr : isRead p.op = false := (isReader_eq_isRead _).symm.trans (T.opOK t _ p hl rfl)
      exact ⟨_, _, .of_trace (tr.writer_point (hnew := []) G hl rfl rfl rfl rfl rfl (fun _ h => nomatch h) rfl rfl rfl
        hwr (store_abs I I' hpc0.1 hpc0.2.2).1)⟩
    · exact other (fun _ hp' => by cases hp'; exact hk) (fun _ h => nomatch h) (.inl rfl)
        (habs (fun _ hp' => by cases hp'; exact hk))
  | unlockFin p g0 res =>
    by_cases hk : p.key = k
    · exact ⟨_, _, .of_trace (tr.respond G hl rfl rfl rfl (absOf_post_lock k) rfl hk rfl rfl)⟩
    · exact other (fun _ hp' => by cases hp'; exact hk) (fun x hx => by cases List.mem_singleton.1 hx; exact hk)
        (.inr rfl) (absOf_post_lock k)
  | tmove | casMoved | storeLow | storeHigh | storeMoved | commit => exact quietT rfl habs

end Flurry.Proto.BinNA
