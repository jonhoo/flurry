import Flurry.Lemmas.BinRWalk
/-! # Proto/BinR: the simulation by Proto/BinRBase and the walk invariant (C13)

`WInv s`: the projection of `s` satisfies the structural and the lock invariant of `Proto/BinRBase`, and
every walking writer satisfies `WalkOK`. **`stepW_proj`**: every transition of `BinR` is a transition
of `Base` on the projections — the store through the remembered positions is `Base`'s `wWrite` step by
`storeAt_eq_writerStore` — or, for the walk steps, a stutter step that only advances the clock.
`winv_step`, `reachable_winv`. `WInv` is where an invariant of `Base` reaches `Proto/BinR`: a further one
is a further field, preserved in `winv_step` by its `Base` step lemma on a `Base` transition and by a
`*_tick` lemma on a stutter step. -/
namespace Flurry.Proto.BinR
open Flurry.Lin2

structure WInv (s : State) : Prop where
  inv : Base.Inv (proj s)
  linv : Base.LInv (proj s)
  walk : ∀ (t : Nat) (l : Local) (p : Pending), s.threads[t]? = some l → l.call = some p →
    WalkOK (proj s) p.key l.pc

theorem storeAt_frame (s : State) (p : Pending) (pred hit hnext : Option Nat) :
    (storeAt s p pred hit hnext).1.threads = s.threads := by
  unfold storeAt
  simp only
  repeat' split
  all_goals rfl

theorem cL_walk {l : Local} {pc' : Pc} {h : Nat} (h1 : cPc l.pc = .wWrite h) (h2 : cPc pc' = .wWrite h) :
    cL { l with pc := pc' } = cL l := by
  unfold cL
  rw [h1, h2]

/-- a transition that only advances the clock, as seen on the projection -/
theorem stutter {s : State} {t : Nat} {l l' : Local} (hl : s.threads[t]? = some l) (hc : cL l' = cL l) :
    proj (setT (tick s) t l') = Base.tick (proj s) := by
  rw [proj_setT_tick, hc]
  exact Base.setT_self (s := Base.tick (proj s)) (proj_thread hl)

theorem stepW_proj {s s' : State} {t : Nat} {l : Local} (W : WInv s) (hl : s.threads[t]? = some l)
    (hk : StepW s t l s') :
    Base.StepK (proj s) t (cL l) (proj s') ∨ (walkPc l.pc ∧ proj s' = Base.tick (proj s)) := by
  have hl' := proj_thread hl
  cases hk with
  | idle hpc =>
    left
    have : Base.tick (proj s) = Base.setT (Base.tick (proj s)) t (cL l) :=
      (Base.setT_self (s := Base.tick (proj s)) hl').symm
    rw [proj_tick, this]
    exact .idle (by rw [cL_pc, hpc]; rfl)
  | invoke k op hpc =>
    left
    rw [proj_setT_tick]
    have := Base.StepK.invoke (s := proj s) (t := t) (l := cL l) k op (by rw [cL_pc, hpc]; rfl)
    rw [isReader_proj] at this
    cases hr : isReader op <;> rw [hr] at this <;> exact this
  | move p pc' hp hm hnw hw =>
    left
    rw [proj_setT_tick]
    exact Base.StepK.move (cP p) (cPc pc') (by rw [cL_call, hp]; rfl) hm
  | lockMove p h x pc' hp hm hnw hw =>
    left
    rw [proj_setT, proj_setNode_lock, proj_tick]
    exact Base.StepK.lockMove (cP p) h x (cPc pc') (by rw [cL_call, hp]; rfl) hm
  | fin p res hp hf =>
    left
    rw [proj_finish_tick]
    exact Base.StepK.fin (cP p) res (by rw [cL_call, hp]; rfl) hf
  | cas p v vi hp hpc hh hop =>
    left
    have := Base.StepK.cas (s := proj s) (t := t) (l := cL l) (cP p) v vi (by rw [cL_call, hp]; rfl)
      (by rw [cL_pc, hpc]; rfl) hh hop
    rw [proj_finish]
    simpa [proj, tick, Base.tick, cN] using this
  | walkEnd p h pred hp hpc =>
    right
    exact ⟨by rw [hpc]; trivial, stutter hl (cL_walk (h := h) (by rw [hpc]; rfl) rfl)⟩
  | walkHit p h pred c n hp hpc hn hkey =>
    right
    exact ⟨by rw [hpc]; trivial, stutter hl (cL_walk (h := h) (by rw [hpc]; rfl) rfl)⟩
  | walkNext p h pred c n hp hpc hn hkey =>
    right
    exact ⟨by rw [hpc]; trivial, stutter hl (cL_walk (h := h) (by rw [hpc]; rfl) rfl)⟩
  | store p h pred hit hnext hp hpc =>
    left
    have w := W.walk t l p hl hp
    rw [hpc] at w
    obtain ⟨e1, e2⟩ := storeAt_eq_writerStore (s := tick s) (p := p) (W.inv.heap.congr rfl rfl) w.1 w.2
    rw [proj_setT, e1, e2, proj_tick]
    exact Base.StepK.write (cP p) h (by rw [cL_call, hp]; rfl) (by rw [cL_pc, hpc]; rfl)
  | unlockFin p h res hp hpc =>
    left
    rw [proj_finish, proj_setNode_lock, proj_tick]
    exact .unlockFin (cP p) h res (by rw [cL_call, hp]; rfl) (by rw [cL_pc, hpc]; rfl)
  | visitMove pc' h1 h2 =>
    left
    have hc : cL { l with pc := pc' } = cL l := by unfold cL; rw [h1, h2]
    have : Base.tick (proj s) = Base.setT (Base.tick (proj s)) t (cL l) :=
      (Base.setT_self (s := Base.tick (proj s)) hl').symm
    rw [stutter hl hc, this]
    exact .idle (by rw [cL_pc, h1])
  | visitDrop k vi hpc =>
    left
    rw [proj_setT_tick]
    exact Base.StepK.invoke (s := proj s) (t := t) (l := cL l) k (.condRm vi) (by rw [cL_pc, hpc]; rfl)

theorem set_self {α : Type} {l : List α} {t : Nat} {a : α} (h : l[t]? = some a) : l = l.set t a := by
  obtain ⟨ht, rfl⟩ := List.getElem?_eq_some_iff.1 h
  rw [List.set_getElem_self]

theorem inv_tick {B : Base.State} {t : Nat} {l : Base.Local} (I : Base.Inv B) (hl : B.threads[t]? = some l) :
    Base.Inv (Base.tick B) :=
  ⟨I.heap.congr rfl rfl, Base.tinv_keep I.thr hl (set_self hl) rfl rfl (fun p hp => ⟨I.thr.opOK t l p hl hp, Or.inl hp⟩)⟩

theorem linv_tick {B : Base.State} {t : Nat} {l : Base.Local} (L : Base.LInv B) (hl : B.threads[t]? = some l) :
    Base.LInv (Base.tick B) :=
  Base.linv_generic L (set_self hl) (Nat.le_refl _) (fun _ _ _ _ _ _ => rfl) (fun _ _ _ _ _ _ => rfl)
    (fun h hh => L.lockHeld t l h hl hh) (fun h hh => L.validated t l h hl hh)

theorem walk_frame {s s' : State} {t : Nat} {l' : Local} (W : WInv s)
    (hthr : s'.threads = s.threads.set t l')
    (hfr : ∀ t1 l1, t1 ≠ t → s.threads[t1]? = some l1 → walkPc l1.pc → Base.Frozen (proj s) (proj s'))
    (hself : ∀ p, l'.call = some p → WalkOK (proj s') p.key l'.pc) :
    ∀ (t1 : Nat) (l1 : Local) (p1 : Pending), s'.threads[t1]? = some l1 → l1.call = some p1 →
      WalkOK (proj s') p1.key l1.pc := by
  intro t1 l1 p1 hl1 hc1
  rw [hthr] at hl1
  rcases Shared.get_set hl1 with ⟨rfl, rfl⟩ | ⟨hne, hl1⟩
  · exact hself p1 hc1
  · by_cases hw : walkPc l1.pc
    · exact (W.walk t1 l1 p1 hl1 hc1).congr W.inv.heap (hfr t1 l1 hne hl1 hw)
    · exact .of_not_walk hw

theorem winv_step {s s' : State} {t : Nat} {l : Local} (W : WInv s) (hl : s.threads[t]? = some l)
    (hk : StepW s t l s') : WInv s' := by
  have hl' := proj_thread hl
  have hsim := stepW_proj W hl hk
  have H := W.inv.heap
  have hfr : ∀ t1 l1, t1 ≠ t → s.threads[t1]? = some l1 → walkPc l1.pc → Base.Frozen (proj s) (proj s') := by
    intro t1 l1 hne hl1 hw
    rcases hsim with hK | ⟨-, he⟩
    · obtain ⟨h, hh⟩ := walkPc_iff.1 hw
      exact Base.stepK_frozen H W.linv hl' hK hne (proj_thread hl1) hh
    · rw [he]; exact .of_same rfl rfl
  refine ⟨?_, ?_, ?_⟩
  · rcases hsim with hK | ⟨-, he⟩
    · exact (Base.stepK_inv W.inv hl' hK).1
    · rw [he]; exact inv_tick W.inv hl'
  · rcases hsim with hK | ⟨-, he⟩
    · exact Base.stepK_linv W.linv W.inv hl' hK
    · rw [he]; exact linv_tick W.linv hl'
  · cases hk with
    | idle hpc =>
      refine walk_frame (l' := l) W (set_self hl) hfr ?_
      intro p _; rw [hpc]; trivial
    | invoke k op hpc =>
      refine walk_frame W rfl hfr ?_
      intro p _
      cases isReader op <;> trivial
    | move p pc' hp hm hnw hw =>
      refine walk_frame W rfl hfr ?_
      intro p1 hp1
      by_cases hwp : walkPc pc'
      · obtain ⟨h, hpcl, rfl⟩ := hw hwp
        have hm' : Base.Move (proj s) (cP p) (.wCheck h) (.wWrite h) := by
          rw [hpcl] at hm; exact hm
        cases hm' with
        | checkOk hd =>
          exact Walk.start (B := proj (setT (tick s) t { l with pc := .wFind h none (some h) }))
            (H.congr rfl rfl) hd p1.key
      · exact .of_not_walk hwp
    | lockMove p h x pc' hp hm hnw hw =>
      refine walk_frame W rfl hfr ?_
      intro p1 _
      exact .of_not_walk hw
    | fin p res hp hf =>
      refine walk_frame (l' := { pc := .idle, call := none }) W rfl hfr ?_
      intro p1 hp1; cases hp1
    | cas p v vi hp hpc hh hop =>
      refine walk_frame (l' := { pc := .idle, call := none }) W rfl hfr ?_
      intro p1 hp1; cases hp1
    | walkEnd p h pred hp hpc =>
      refine walk_frame W rfl hfr ?_
      intro p1 hp1
      have hpp : p1 = p := by simp only at hp1; rw [hp] at hp1; exact (Option.some.inj hp1).symm
      subst hpp
      have w := W.walk t l p1 hl hp
      rw [hpc] at w
      exact ⟨Walk.congr H (.of_same rfl rfl) w, fun i hi => by cases hi⟩
    | walkHit p h pred c n hp hpc hn hkey =>
      refine walk_frame W rfl hfr ?_
      intro p1 hp1
      have hpp : p1 = p := by simp only at hp1; rw [hp] at hp1; exact (Option.some.inj hp1).symm
      subst hpp
      have w := W.walk t l p1 hl hp
      rw [hpc] at w
      have hn' : (proj s).heap[c]? = some (cN n) := by rw [proj_node, hn]; rfl
      refine ⟨Walk.congr H (.of_same rfl rfl) w, ?_⟩
      intro i hi
      cases hi
      have : Base.nodeAt (proj (setT (tick s) t { l with pc := .wStore h pred (some c) n.next })).heap c = cN n :=
        Base.nodeAt_of_some hn'
      rw [this]
      exact ⟨hkey, rfl⟩
    | walkNext p h pred c n hp hpc hn hkey =>
      refine walk_frame W rfl hfr ?_
      intro p1 hp1
      have hpp : p1 = p := by simp only at hp1; rw [hp] at hp1; exact (Option.some.inj hp1).symm
      subst hpp
      have w := W.walk t l p1 hl hp
      rw [hpc] at w
      have hn' : (proj s).heap[c]? = some (cN n) := by rw [proj_node, hn]; rfl
      exact Walk.congr H (.of_same rfl rfl) (Walk.next H w hn' hkey)
    | store p h pred hit hnext hp hpc =>
      refine walk_frame (l' := { l with pc := .wUnlock h (storeAt (tick s) p pred hit hnext).2 false }) W ?_ hfr ?_
      · show (storeAt (tick s) p pred hit hnext).1.threads.set t _ = _
        rw [storeAt_frame]; rfl
      · intro p1 _; trivial
    | unlockFin p h res hp hpc =>
      refine walk_frame (l' := { pc := .idle, call := none }) W rfl hfr ?_
      intro p1 hp1; cases hp1
    | visitMove pc' h1 h2 =>
      refine walk_frame W rfl hfr ?_
      intro p1 _
      refine .of_not_walk ?_
      intro hw
      obtain ⟨h, hh⟩ := walkPc_iff.1 hw
      rw [h2] at hh; cases hh
    | visitDrop k vi hpc =>
      refine walk_frame W rfl hfr ?_
      intro p1 _
      trivial

theorem proj_init (n : Nat) : proj (init n) = Base.init n := by
  simp [proj, init, Base.init, cL, cPc]

theorem init_winv (n : Nat) : WInv (init n) := by
  refine ⟨by rw [proj_init]; exact Base.init_inv n, by rw [proj_init]; exact Base.init_linv n, ?_⟩
  intro t l p hl hc
  simp only [init, List.getElem?_replicate] at hl
  split at hl
  · cases hl; cases hc
  · cases hl

theorem step_some_thread {s s' : State} {t : Nat} {inv : Option Inv} (hs : step s t inv = some s') :
    ∃ l, s.threads[t]? = some l := by
  cases hl : s.threads[t]? with
  | none => unfold step stepG at hs; rw [hl] at hs; cases hs
  | some l => exact ⟨l, rfl⟩

theorem reachable_winv {n : Nat} {s : State} (hr : Reachable n s) : WInv s := by
  induction hr with
  | init => exact init_winv n
  | @step s s' t inv _ hs ih =>
    obtain ⟨l, hl⟩ := step_some_thread hs
    exact winv_step ih hl (step_stepW hl hs)

end Flurry.Proto.BinR
