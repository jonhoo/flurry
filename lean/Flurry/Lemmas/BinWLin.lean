import Flurry.Lemmas.BinWProj
/-! # Proto/BinW: the extended history (C01)

`callsOnExt` for `BinW` (completed calls plus writers that have stored and only have to unlock) and
its agreement with `Bin.callsOnExt` on the projection. -/
namespace Flurry.Proto.BinW
open Flurry.Lin

def extOf (k now t : Nat) (l : Local) : Option Call :=
  match l.pc, l.call with
  | .wUnlock _ res false, some p => if p.key = k then some ⟨t, p.op, res, p.inv, now⟩ else none
  | _, _ => none

def extCalls (s : State) (k : Nat) : History :=
  (List.range s.threads.length).filterMap (fun t => (s.threads[t]?).bind (extOf k s.now t))

def callsOnExt (s : State) (k : Nat) : History := callsOn s k ++ extCalls s k

theorem extOf_proj (k now t : Nat) (l : Local) : Bin.extOf k now t (cL l) = extOf k now t l := by
  obtain ⟨pc, call⟩ := l
  cases call with
  | none =>
    cases pc with
    | wUnlock h res retry => cases retry <;> rfl
    | _ => rfl
  | some p =>
    cases pc with
    | wUnlock h res retry => cases retry <;> rfl
    | _ => rfl

theorem extCalls_proj (s : State) (k : Nat) : Bin.extCalls (proj s) k = extCalls s k := by
  unfold Bin.extCalls extCalls
  simp only [proj_threads, List.length_map, List.getElem?_map, proj_now]
  congr 1
  funext t
  cases s.threads[t]? with
  | none => rfl
  | some l => exact extOf_proj k s.now t l

theorem callsOnExt_proj (s : State) (k : Nat) : Bin.callsOnExt (proj s) k = callsOnExt s k := by
  unfold Bin.callsOnExt callsOnExt
  rw [extCalls_proj, callsOn_proj]

theorem callsOnExt_quiescent {s : State} (hq : quiescent s) (k : Nat) : callsOnExt s k = callsOn s k := by
  rw [← callsOnExt_proj, Bin.callsOnExt_quiescent (quiescent_proj.2 hq), callsOn_proj]

end Flurry.Proto.BinW
