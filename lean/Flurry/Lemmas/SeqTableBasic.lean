import Flurry.Lemmas.SeqBins
import Flurry.Lemmas.Arith
import Flurry.Lemmas.Bits
/-! # Table basics of the sequential model -/
namespace Flurry.Seq
open Flurry Flurry.Gen

theorem tableBin_eq_getElem {t : Table} {i : Nat} (h : i < t.length) : tableBin t i = t[i] := by
  simp [tableBin, List.getD_eq_getElem?_getD, h]

theorem tableBin_of_le {t : Table} {i : Nat} (h : t.length ≤ i) : tableBin t i = .empty := by
  simp [tableBin, List.getD_eq_getElem?_getD, h]

theorem tableBin_set (t : Table) (i j : Nat) (b : Bin) :
    tableBin (t.set i b) j = if i = j ∧ i < t.length then b else tableBin t j := by
  simp only [tableBin, List.getD_eq_getElem?_getD, List.getElem?_set]
  by_cases hij : i = j
  · subst hij
    by_cases hl : i < t.length <;> simp [hl]
  · simp [hij]

theorem tableBin_set_self {t : Table} {i : Nat} (b : Bin) (h : i < t.length) :
    tableBin (t.set i b) i = b := by simp [tableBin_set, h]

theorem tableBin_set_ne {t : Table} {i j : Nat} (b : Bin) (h : i ≠ j) :
    tableBin (t.set i b) j = tableBin t j := by simp [tableBin_set, h]

theorem tableBin_map {f : Bin → Bin} (hf : f .empty = .empty) (t : Table) (i : Nat) :
    tableBin (t.map f) i = f (tableBin t i) := by
  rw [tableBin, tableBin, List.getD_eq_getElem?_getD, List.getD_eq_getElem?_getD, List.getElem?_map]
  cases t[i]? with
  | none => exact hf.symm
  | some b => rfl

theorem tableBin_append (t₁ t₂ : Table) (i : Nat) :
    tableBin (t₁ ++ t₂) i = if i < t₁.length then tableBin t₁ i else tableBin t₂ (i - t₁.length) := by
  rw [tableBin, tableBin, tableBin, List.getD_eq_getElem?_getD, List.getD_eq_getElem?_getD,
    List.getD_eq_getElem?_getD, List.getElem?_append]
  split <;> rfl

theorem table_length_set (t : Table) (i : Nat) (b : Bin) : (t.set i b).length = t.length :=
  List.length_set

theorem emptyTable_length (n : Nat) : (emptyTable n).length = n := by simp [emptyTable]

theorem tableBin_emptyTable (n i : Nat) : tableBin (emptyTable n) i = .empty := by
  simp only [tableBin, emptyTable, List.getD_eq_getElem?_getD, List.getElem?_replicate]
  split <;> rfl

theorem tableWF_emptyTable (hash : Nat → Nat) {n : Nat} (hp : IsPow2 n) (hm : n ≤ MAXIMUM_CAPACITY) :
    TableWF hash (emptyTable n) := by
  refine ⟨by rwa [emptyTable_length], by rwa [emptyTable_length], fun i _ => ?_⟩
  rw [tableBin_emptyTable]; trivial

theorem flatMap_nodes_emptyTable (n : Nat) : (emptyTable n).flatMap Bin.nodes = [] := by
  induction n with
  | zero => rfl
  | succ n ih =>
    simp only [emptyTable, List.replicate_succ, List.flatMap_cons, Bin.nodes, List.nil_append] at ih ⊢
    exact ih

theorem IsPow2.one_or_even {n : Nat} (h : IsPow2 n) : n = 1 ∨ n % 2 = 0 := by
  obtain ⟨k, rfl⟩ := h
  cases k with
  | zero => exact Or.inl rfl
  | succ k => exact Or.inr (by rw [Nat.pow_succ, Nat.mul_mod_left])

theorem TableWF.length_pos {hash : Nat → Nat} {t : Table} (h : TableWF hash t) : 0 < t.length :=
  isPow2_pos h.1

theorem TableWF.bin {hash : Nat → Nat} {t : Table} (h : TableWF hash t) (i : Nat) :
    BinWF hash t.length i (tableBin t i) := by
  by_cases hi : i < t.length
  · exact h.2.2 i hi
  · rw [tableBin_of_le (by omega)]; trivial

theorem tableWF_set {hash : Nat → Nat} {t : Table} {i : Nat} {b : Bin} (h : TableWF hash t)
    (hb : BinWF hash t.length i b) : TableWF hash (t.set i b) := by
  refine ⟨by rw [table_length_set]; exact h.1, by rw [table_length_set]; exact h.2.1, ?_⟩
  intro j hj
  rw [table_length_set] at hj ⊢
  rw [tableBin_set]
  split
  next hc => obtain ⟨rfl, _⟩ := hc; exact hb
  next => exact h.2.2 j hj

theorem mem_flatMap_nodes {t : Table} {nd : Node} :
    nd ∈ t.flatMap Bin.nodes ↔ ∃ j, j < t.length ∧ nd ∈ (tableBin t j).nodes := by
  rw [List.mem_flatMap]
  constructor
  · rintro ⟨b, hb, hnd⟩
    obtain ⟨j, hj, rfl⟩ := List.getElem_of_mem hb
    exact ⟨j, hj, by rwa [tableBin_eq_getElem hj]⟩
  · rintro ⟨j, hj, hnd⟩
    rw [tableBin_eq_getElem hj] at hnd
    exact ⟨t[j], List.getElem_mem hj, hnd⟩

theorem flatMap_nodes_split {t : Table} {i : Nat} (hi : i < t.length) :
    t.flatMap Bin.nodes =
      (t.take i).flatMap Bin.nodes ++ ((tableBin t i).nodes ++ (t.drop (i + 1)).flatMap Bin.nodes) := by
  conv => lhs; rw [← List.take_append_drop i t, List.drop_eq_getElem_cons hi]
  rw [List.flatMap_append, List.flatMap_cons, tableBin_eq_getElem hi]

theorem flatMap_nodes_set {t : Table} {i : Nat} (b : Bin) (hi : i < t.length) :
    (t.set i b).flatMap Bin.nodes =
      (t.take i).flatMap Bin.nodes ++ (b.nodes ++ (t.drop (i + 1)).flatMap Bin.nodes) := by
  have hi' : i < (t.set i b).length := by rwa [table_length_set]
  rw [flatMap_nodes_split hi', tableBin_set_self b hi, List.take_set_of_le (Nat.le_refl i),
    List.drop_set_of_lt (by omega : i < i + 1)]

/-- the nodes of the updated table: `b.nodes` in place of the nodes of bin `i` -/
theorem flatMap_nodes_set_perm {t : Table} {i : Nat} (b : Bin) (hi : i < t.length) :
    ((t.set i b).flatMap Bin.nodes ++ (tableBin t i).nodes).Perm
      (t.flatMap Bin.nodes ++ b.nodes) := by
  rw [flatMap_nodes_set b hi, flatMap_nodes_split hi, List.append_assoc, List.append_assoc,
    List.append_assoc, List.append_assoc]
  exact ((List.perm_append_comm_assoc _ _ _).trans
    ((List.perm_append_comm.append_left _).trans (List.perm_append_comm_assoc _ _ _))).append_left _

theorem flatMap_nodes_set_length {t : Table} {i : Nat} (b : Bin) (hi : i < t.length) :
    ((t.set i b).flatMap Bin.nodes).length + (tableBin t i).nodes.length =
      (t.flatMap Bin.nodes).length + b.nodes.length := by
  simpa using (flatMap_nodes_set_perm b hi).length_eq

theorem mem_flatMap_nodes_set {t : Table} {i : Nat} {b : Bin} {nd : Node} (hi : i < t.length) :
    nd ∈ (t.set i b).flatMap Bin.nodes ↔
      (nd ∈ b.nodes ∨ ∃ j, j ≠ i ∧ j < t.length ∧ nd ∈ (tableBin t j).nodes) := by
  rw [mem_flatMap_nodes, table_length_set]
  constructor
  · rintro ⟨j, hj, hnd⟩
    by_cases hji : j = i
    · subst hji; rw [tableBin_set_self b hi] at hnd; exact Or.inl hnd
    · rw [tableBin_set_ne b (Ne.symm hji)] at hnd; exact Or.inr ⟨j, hji, hj, hnd⟩
  · rintro (hnd | ⟨j, hji, hj, hnd⟩)
    · exact ⟨i, hi, by rwa [tableBin_set_self b hi]⟩
    · exact ⟨j, hj, by rwa [tableBin_set_ne b (Ne.symm hji)]⟩

/-- a bin with the same node list (e.g. list → tree) leaves the node list of the table as it is -/
theorem flatMap_nodes_set_same {t : Table} {i : Nat} {b : Bin}
    (hb : b.nodes = (tableBin t i).nodes) : (t.set i b).flatMap Bin.nodes = t.flatMap Bin.nodes := by
  by_cases hi : i < t.length
  · rw [flatMap_nodes_set b hi, flatMap_nodes_split hi, hb]
  · rw [List.set_eq_of_length_le (by omega)]

end Flurry.Seq
