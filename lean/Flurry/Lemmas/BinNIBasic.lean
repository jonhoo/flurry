import Flurry.Proto.BinNI
import Flurry.Lemmas.BinNLin
/-! # Proto/BinNI: the shape of the transitions; the shared part is a reachable state of `Proto/BinN` (C07)

`Move n t it o ys es`: what the iterator `it` of thread `t` does on the shared state `n`: `o` = the iterator
afterwards (`none`: it has ended), `ys` / `es` = what it adds to the two logs. `iterStep` computes exactly the
moves (`iterStep_move`, `iterStep_of_move`); an iterator whose pointer is inside the heap has one (`move_exists`). -/
namespace Flurry.Proto.BinNI
open Flurry.Lin
open Flurry.Proto.BinX (NodeS)
open Flurry.Proto.BinN (cellAt)

theorem idle_step {n : BinN.State} {t : Nat} {l : BinN.Local} (hl : n.threads[t]? = some l) (hpc : l.pc = .idle) :
    BinN.step n t none false 0 = some { n with now := n.now + 1 } := by
  unfold BinN.step BinN.stepG
  rw [hl]
  obtain ⟨pc, call⟩ := l
  simp only at hpc; subst hpc
  rfl

theorem init_its {nt t : Nat} {it : Iter} (h : (init nt).its[t]? = some (some it)) : False := by
  have : (List.replicate nt (none : Option Iter))[t]? = some (some it) := h
  rw [List.getElem?_replicate] at this
  split at this <;> cases this

theorem step_cases {s s' : State} {t : Nat} {mk : Bool} {inv : Option (Nat × KOp)} {rz : Bool} {pick : Nat}
    (h : step s t mk inv rz pick = some s') :
    (s.its[t]? = some none ∧ mk = false ∧ ∃ n', BinN.step s.n t inv rz pick = some n' ∧ s' = { s with n := n' }) ∨
    (s.its[t]? = some none ∧ mk = true ∧ ∃ l, s.n.threads[t]? = some l ∧ l.pc = .idle ∧
      s' = { s with n := { s.n with now := s.n.now + 1 },
                    its := s.its.set t (some ⟨s.n.now + 1, s.n.cur, none, rootCells s.n.cur⟩) }) ∨
    (∃ it n', s.its[t]? = some (some it) ∧ BinN.step s.n t none false 0 = some n' ∧ iterStep s t it n' = some s') := by
  unfold step at h
  cases hi : s.its[t]? with
  | none => rw [hi] at h; cases h
  | some o =>
    rw [hi] at h
    cases o with
    | some it =>
      simp only at h
      cases hn : BinN.step s.n t none false 0 with
      | none => rw [hn] at h; cases h
      | some n' => rw [hn] at h; exact Or.inr (Or.inr ⟨it, n', rfl, rfl, h⟩)
    | none =>
      simp only at h
      cases mk with
      | false =>
        simp only [Bool.false_eq_true, if_false] at h
        cases hn : BinN.step s.n t inv rz pick with
        | none => rw [hn] at h; cases h
        | some n' => rw [hn] at h; cases h; exact Or.inl ⟨rfl, rfl, n', rfl, rfl⟩
      | true =>
        simp only [if_true] at h
        cases hl : s.n.threads[t]? with
        | none => rw [hl] at h; cases h
        | some l =>
          rw [hl] at h
          simp only at h
          by_cases hpc : l.pc = .idle
          · rw [if_pos hpc, idle_step hl hpc] at h
            cases h
            exact Or.inr (Or.inl ⟨rfl, rfl, l, rfl, hpc, rfl⟩)
          · rw [if_neg hpc] at h; cases h

inductive Move (n : BinN.State) (t : Nat) (it : Iter) : Option Iter → List Yield → List (Nat × Nat × Nat) → Prop
  | yield {c : Nat} {nd : NodeS} : it.ptr = some c → n.heap[c]? = some nd →
      Move n t it (some { it with ptr := nd.next }) [⟨t, it.t0, nd.key, nd.val, n.now⟩] []
  | done : it.ptr = none → it.todo = [] → Move n t it none [] [(t, it.t0, n.now)]
  | empty {g j : Nat} {rest : List (Nat × Nat)} : it.ptr = none → it.todo = (g, j) :: rest →
      cellAt n g j = .empty → Move n t it (some { it with todo := rest }) [] []
  | node {g j hd : Nat} {rest : List (Nat × Nat)} : it.ptr = none → it.todo = (g, j) :: rest →
      cellAt n g j = .node hd → Move n t it (some { it with ptr := some hd, todo := rest }) [] []
  | moved {g j : Nat} {rest : List (Nat × Nat)} : it.ptr = none → it.todo = (g, j) :: rest →
      cellAt n g j = .moved →
      Move n t it (some { it with todo := (g + 1, j) :: (g + 1, j + 2 ^ g) :: rest }) [] []

theorem iterStep_move {s s' : State} {t : Nat} {it : Iter} {n' : BinN.State} (h : iterStep s t it n' = some s') :
    ∃ o ys es, Move n' t it o ys es ∧
      s' = { n := n', its := s.its.set t o, yields := ys ++ s.yields, ends := es ++ s.ends } := by
  unfold iterStep at h
  obtain ⟨t0, g0, ptr, todo⟩ := it
  cases ptr with
  | some c =>
    simp only at h
    cases hn : n'.heap[c]? with
    | none => rw [hn] at h; cases h
    | some nd => rw [hn] at h; cases h; exact ⟨_, _, _, .yield rfl hn, rfl⟩
  | none =>
    simp only at h
    cases todo with
    | nil => cases h; exact ⟨_, _, _, .done rfl rfl, rfl⟩
    | cons x rest =>
      obtain ⟨g, j⟩ := x
      simp only at h
      cases hc : cellAt n' g j with
      | empty => rw [hc] at h; cases h; exact ⟨_, _, _, .empty rfl rfl hc, rfl⟩
      | node hd => rw [hc] at h; cases h; exact ⟨_, _, _, .node rfl rfl hc, rfl⟩
      | moved => rw [hc] at h; cases h; exact ⟨_, _, _, .moved rfl rfl hc, rfl⟩

theorem iterStep_of_move {s : State} {t : Nat} {it : Iter} {n' : BinN.State} {o : Option Iter} {ys : List Yield}
    {es : List (Nat × Nat × Nat)} (h : Move n' t it o ys es) :
    iterStep s t it n' = some { n := n', its := s.its.set t o, yields := ys ++ s.yields, ends := es ++ s.ends } := by
  unfold iterStep
  cases h with
  | yield hp hn => rw [hp]; simp only; rw [hn]; rfl
  | done hp htd => rw [hp]; simp only; rw [htd]; rfl
  | empty hp htd hc => rw [hp]; simp only; rw [htd]; simp only; rw [hc]; rfl
  | node hp htd hc => rw [hp]; simp only; rw [htd]; simp only; rw [hc]; rfl
  | moved hp htd hc => rw [hp]; simp only; rw [htd]; simp only; rw [hc]; rfl

theorem move_exists (n : BinN.State) (t : Nat) (it : Iter) (hp : ∀ c, it.ptr = some c → c < n.heap.length) :
    ∃ o ys es, Move n t it o ys es := by
  cases hptr : it.ptr with
  | some c => exact ⟨_, _, _, .yield hptr (List.getElem?_eq_getElem (hp c hptr))⟩
  | none =>
    cases htd : it.todo with
    | nil => exact ⟨_, _, _, .done hptr htd⟩
    | cons x rest =>
      obtain ⟨g, j⟩ := x
      cases hc : cellAt n g j with
      | empty => exact ⟨_, _, _, .empty hptr htd hc⟩
      | node hd => exact ⟨_, _, _, .node hptr htd hc⟩
      | moved => exact ⟨_, _, _, .moved hptr htd hc⟩

theorem step_n {s s' : State} {t : Nat} {mk : Bool} {inv : Option (Nat × KOp)} {rz : Bool} {pick : Nat}
    (h : step s t mk inv rz pick = some s') : ∃ inv' rz' pick', BinN.step s.n t inv' rz' pick' = some s'.n := by
  rcases step_cases h with ⟨-, -, n', hn, rfl⟩ | ⟨-, -, l, hl, hpc, rfl⟩ | ⟨it, n', -, hn, hi⟩
  · exact ⟨_, _, _, hn⟩
  · exact ⟨_, _, _, idle_step hl hpc⟩
  · obtain ⟨o, ys, es, -, rfl⟩ := iterStep_move hi; exact ⟨_, _, _, hn⟩

theorem reachable_n {n : Nat} {s : State} (hr : Reachable n s) : BinN.Reachable n s.n := by
  induction hr with
  | init => exact .init
  | step t mk inv rz pick _ hs ih =>
    obtain ⟨inv', rz', pick', h⟩ := step_n hs
    exact .step t inv' rz' pick' ih h

theorem Steps.trans {a b c : State} (h1 : Steps a b) (h2 : Steps b c) : Steps a c := by
  induction h2 with
  | refl => exact h1
  | tail t mk inv rz pick _ hs ih => exact .tail t mk inv rz pick ih hs

theorem Steps.reachable {n : Nat} {a b : State} (hr : Reachable n a) (h : Steps a b) : Reachable n b := by
  induction h with
  | refl => exact hr
  | tail t mk inv rz pick _ hs ih => exact .step t mk inv rz pick ih hs

end Flurry.Proto.BinNI
