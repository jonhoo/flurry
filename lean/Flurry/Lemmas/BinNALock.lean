import Flurry.Lemmas.BinNAInvStep
/-! # Proto/BinNA: a lock word names a thread that is in the critical section of that cell (side invariant)

`PcOK` (in `Inv`) says: a thread in a critical section on cell `(g, j)` finds its own id in the lock
word of `(g, j)` — hence mutual exclusion. This file proves the converse: `LInv`: whenever the lock
word of a cell is `some t`, thread `t` is in a critical section on exactly that cell (`HoldsAt`); so no
lock word is left behind, in particular none in a forwarded table. -/
namespace Flurry.Proto.BinNA
open Flurry.Lin

/-- the thread is in a critical section on cell `(g, j)` -/
def HoldsAt (s : State) (l : Local) (g j : Nat) : Prop :=
  match l.pc, l.call with
  | .wCheck g', some p => g' = g ∧ ix g' p.key = j
  | .wStore g', some p => g' = g ∧ ix g' p.key = j
  | .wUnlock g' _ _, some p => g' = g ∧ ix g' p.key = j
  | .tCheck j', _ => s.cur = g ∧ j' = j
  | .tStoreLow j' _ _, _ => s.cur = g ∧ j' = j
  | .tStoreHigh j' _, _ => s.cur = g ∧ j' = j
  | .tStoreMoved j', _ => s.cur = g ∧ j' = j
  | .tUnlock j', _ => s.cur = g ∧ j' = j
  | _, _ => False

def LInv (s : State) : Prop :=
  ∀ g j t, getLock s g j = some t → ∃ l, s.threads[t]? = some l ∧ HoldsAt s l g j

theorem HoldsAt.congr {s s' : State} {l : Local} {g j : Nat} (hc : s'.cur = s.cur) (h : HoldsAt s l g j) :
    HoldsAt s' l g j := by
  unfold HoldsAt at h ⊢
  rw [hc]; exact h

theorem HoldsAt.of_not_isT {s s' : State} {l : Local} {g j : Nat} (hT : ¬ isT l.pc) (h : HoldsAt s l g j) :
    HoldsAt s' l g j := by
  obtain ⟨pc, call⟩ := l
  cases pc <;> cases call <;> first | exact h | exact absurd trivial hT | exact False.elim h

theorem linv_gen {s : State} {t : Nat} {l l' : Local} {hnew : List (Nat × Call)} {m : Mem} (L : LInv s)
    (hl : s.threads[t]? = some l)
    (hoth : ∀ (t1 : Nat) (l1 : Local), t1 ≠ t → s.threads[t1]? = some l1 → ∀ g j, HoldsAt s l1 g j →
      HoldsAt (post s t l' hnew m) l1 g j)
    (hlocks : ∀ g j t0, getLock (post s t l' hnew m) g j = some t0 →
      (getLock s g j = some t0 ∧ (t0 = t → HoldsAt s l g j → HoldsAt (post s t l' hnew m) l' g j)) ∨
      (t0 = t ∧ HoldsAt (post s t l' hnew m) l' g j)) :
    LInv (post s t l' hnew m) := by
  have hl' : (post s t l' hnew m).threads[t]? = some l' := get_set_self hl
  intro g j t0 h
  rcases hlocks g j t0 h with ⟨h0, hs⟩ | ⟨rfl, hs⟩
  · obtain ⟨l0, hl0, hh⟩ := L g j t0 h0
    by_cases ht : t0 = t
    · subst ht
      rw [hl] at hl0; cases hl0
      exact ⟨l', hl', hs rfl hh⟩
    · exact ⟨l0, (get_set_ne ht).trans hl0, hoth t0 l0 ht hl0 g j hh⟩
  · exact ⟨l', hl', hs⟩

theorem linv_nolock {s : State} {t : Nat} {l l' : Local} {hnew : List (Nat × Call)} {m : Mem} (L : LInv s)
    (hl : s.threads[t]? = some l) (hc : (post s t l' hnew m).cur = s.cur) (hlk : (post s t l' hnew m).locks = s.locks)
    (hself : ∀ g j, HoldsAt s l g j → HoldsAt (post s t l' hnew m) l' g j) : LInv (post s t l' hnew m) :=
  linv_gen L hl (fun _ _ _ _ _ _ h => h.congr hc)
    (fun g j _ h => .inl ⟨(getLock_congr hlk g j).symm.trans h, fun _ hh => hself g j hh⟩)

theorem HoldsAt.locked {s : State} {t : Nat} {l : Local} {g j : Nat} (hh : HoldsAt s l g j)
    (h : PcOK s t (keyOf l.call) l.pc) : getLock s g j = some t := by
  obtain ⟨pc, call⟩ := l
  cases pc with
  | wCheck g' =>
    cases call with
    | none => exact hh.elim
    | some p => obtain ⟨rfl, rfl⟩ := hh; exact h.2
  | wStore g' =>
    cases call with
    | none => exact hh.elim
    | some p => obtain ⟨rfl, rfl⟩ := hh; exact h.2.1
  | wUnlock g' res retry =>
    cases call with
    | none => exact hh.elim
    | some p => obtain ⟨rfl, rfl⟩ := hh; exact h.2
  | tCheck j' => obtain ⟨rfl, rfl⟩ := hh; exact h.2.2
  | tStoreLow j' lo hi => obtain ⟨rfl, rfl⟩ := hh; exact h.2.2.1
  | tStoreHigh j' hi => obtain ⟨rfl, rfl⟩ := hh; exact h.2.2.1
  | tStoreMoved j' => obtain ⟨rfl, rfl⟩ := hh; exact h.2.2.1
  | tUnlock j' => obtain ⟨rfl, rfl⟩ := hh; exact h.2.2
  | _ => exact hh.elim

theorem linv_lock {s : State} {t : Nat} {l l' : Local} {hnew : List (Nat × Call)} {g0 j0 : Nat} {x : Option Nat}
    (I : Inv s) (L : LInv s) (hl : s.threads[t]? = some l) (hg : g0 < s.tabs.length) (hj : j0 < 2 ^ g0)
    (hx : ∀ t0, x = some t0 → t0 = t ∧ HoldsAt (post s t l' hnew (.lock g0 j0 x)) l' g0 j0)
    (hself : ∀ g j, ¬ (g = g0 ∧ j = j0) → HoldsAt s l g j → HoldsAt (post s t l' hnew (.lock g0 j0 x)) l' g j) :
    LInv (post s t l' hnew (.lock g0 j0 x)) := by
  refine linv_gen L hl (fun _ _ _ _ _ _ h => h.congr rfl) ?_
  intro g j t0 h
  rw [getLock_post_lock I hg hj] at h
  split at h
  · rename_i hh
    obtain ⟨rfl, rfl⟩ := hh
    exact .inr (hx t0 h)
  · rename_i hne
    exact .inl ⟨h, fun _ => hself g j hne⟩

theorem lstep {s s' : State} {t : Nat} {l : Local} (I : Inv s) (L : LInv s) (hl : s.threads[t]? = some l)
    (hstep : StepK s t l s') : LInv s' := by
  have hpc0 := I.pc t l hl
  have hcur : s.cur < s.tabs.length := Nat.lt_of_lt_of_le (Nat.lt_succ_self _) I.len_ge
  cases hstep with
  | idle | store | storeLow | storeHigh | storeMoved => exact linv_nolock L hl rfl rfl (fun _ _ => id)
  | invoke | cas | casMoved => exact linv_nolock L hl rfl rfl (fun _ _ => False.elim)
  | resize call hr =>
    exact linv_gen L hl (fun _ _ _ _ _ _ h => h.congr rfl)
      (fun g j t0 h => .inl ⟨(getLock_post_alloc g j).symm.trans h, fun _ => False.elim⟩)
  | move p pc pc' hm => exact linv_nolock L hl rfl rfl (fun _ _ => by cases hm <;> exact id)
  | tmove pc pc' hm => exact linv_nolock L hl rfl rfl (fun _ _ => by cases hm <;> exact id)
  | fin p pc res hf => exact linv_nolock L hl rfl rfl (fun _ _ => by cases hf <;> exact False.elim)
  | acq call pc g0 j0 pc' ha hfree =>
    cases ha with
    | w =>
      exact linv_lock I L hl (I.inb hpc0) (ix_lt _ _) (fun _ h => ⟨(Option.some.inj h).symm, rfl, rfl⟩)
        (fun _ _ _ => False.elim)
    | t =>
      exact linv_lock I L hl hcur hpc0.2 (fun _ h => ⟨(Option.some.inj h).symm, rfl, rfl⟩) (fun _ _ _ => False.elim)
  | rel call pc g0 j0 pc' hrel =>
    -- the releasing thread holds exactly `(g0, j0)`
    cases hrel with
    | w =>
      exact linv_lock I L hl (I.inb hpc0.1) (ix_lt _ _) nofun (fun g j hne hh => absurd ⟨hh.1.symm, hh.2.symm⟩ hne)
    | tFail _ => exact linv_lock I L hl hcur hpc0.2.1 nofun (fun g j hne hh => absurd ⟨hh.1.symm, hh.2.symm⟩ hne)
    | t => exact linv_lock I L hl hcur hpc0.2.1 nofun (fun g j hne hh => absurd ⟨hh.1.symm, hh.2.symm⟩ hne)
  | unlockFin p g0 res =>
    exact linv_lock I L hl (I.inb hpc0.1) (ix_lt _ _) nofun (fun g j hne hh => absurd ⟨hh.1.symm, hh.2.symm⟩ hne)
  | commit =>
    refine linv_gen L hl ?_ (fun g j t0 h => .inl ⟨h, fun _ => False.elim⟩)
    intro t1 l1 hne h1 g j hh
    exact hh.of_not_isT (fun hT1 => hne (I.uniqT t1 t l1 _ h1 hl hT1 trivial))

theorem linv_init (n : Nat) : LInv (init n) :=
  fun g j _ h => nomatch (getD2_singleton (none : Option Nat) g j).symm.trans h

theorem reachable_linv {n : Nat} {s : State} (hr : Reachable n s) : LInv s :=
  reachable_induction (linv_init n) (fun hr L hl h => lstep (reachable_inv hr) L hl h) hr

end Flurry.Proto.BinNA
