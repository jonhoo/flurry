import Flurry.Lemmas.BinGNPLin
import Flurry.Lemmas.BinGNRwDefs
import Flurry.Lemmas.BinGNTimeDefs
/-! # Proto/BinGN: `OwnInv`, `RwInv`, `TInv` read off the structural invariant `BinGNP.Inv`; quiescent states

`BinGNP.LInv` says of every thread that it holds the lock of node `h` / the mutex of bin `b` IFF the lock word says
so, counts the readers of every `TreeBin` and ties the write bit to `wr pc`; `BinGNP.TInv` is `TInv` with `opOK`
asked only of threads that have a call (`tinv_of_tinv` supplies that from `callOK`). The two vocabularies classify the same program counters (`BinGNP.holdNOf_eq`, `noCallPc_eq` … `wrSec_eq`: by
evaluation), so the invariants stated with `desc` are projections of `BinGNP.Inv`. Only `OwnInv.resX` (while
`resizing` is set there is a resizing thread) is not part of `BinGNP.Inv`: `ResX` (`Lemmas/BinGNPre.lean`), carried along
the runs together with `BinGNP.Inv` (`BinGNP.reachable_bundle`). -/
namespace Flurry.Proto.BinGN
open Flurry.Lin
open Flurry.Proto.BinK (nodeAt binAt)

theorem noCallPc_eq (pc : Pc) : BinGNP.noCallPc pc = noCallPc pc := by cases pc <;> rfl
theorem readerPc_eq (pc : Pc) : BinGNP.readerPc pc = readerPc pc := by cases pc <;> rfl
theorem holdsRead_eq (pc : Pc) : BinGNP.holdsRead pc = holdsRead pc := by cases pc <;> rfl

theorem binRef_of_readerRef {pc : Pc} {b : Nat} (h : readerRef pc = some b) : BinGNP.binRef pc = some b := by
  unfold readerRef at h
  split at h <;> first | exact h | cases h

/-- inside the write-locked section of `b`: past the re-check against `tree b`, with the write bit -/
theorem wrSec_eq {pc : Pc} {b : Nat} (h : wrSec pc = some b) :
    BinGNP.validT pc = some b ∧ BinGNP.holdsMutex pc = some b ∧ BinGNP.wr pc = true := by
  unfold wrSec at h
  split at h <;> first | exact ⟨h, h, rfl⟩ | cases h

theorem owninv_of_linv {s : State} (L : BinGNP.LInv s) (hres : s.resizing = true → ∃ (t : Nat) (l : Local),
    s.threads[t]? = some l ∧ isXOf l = true) : OwnInv s := by
  refine ⟨fun h x hx => ?_, fun b x hx => ?_, hres⟩
  · obtain ⟨l, hl, hh⟩ := L.lkOwned.holder hx
    exact ⟨l, hl, (BinGNP.holdNOf_eq l).trans hh⟩
  · obtain ⟨l, hl, hh⟩ := L.mxOwned.holder hx
    exact ⟨l, hl, (BinGNP.holdMOf_eq l).trans hh⟩

theorem nRead_eq (b : Nat) (ls : List Local) : nRead b ls = BinGNP.cnt (fun pc => BinGNP.holdsRead pc == some b) ls := by
  unfold nRead BinGNP.cnt
  rw [List.countP_eq_length_filter]
  simp only [holdsRead_eq]

theorem rwinv_of_linv {s : State} (L : BinGNP.LInv s) : RwInv s := by
  refine ⟨fun t l b hl hr => (L.refOK t l b hl (binRef_of_readerRef hr)).1, fun b hb => ?_, L.wrd, ?_⟩
  · rw [nRead_eq]; exact L.rd b hb
  · intro t l b hl hw
    obtain ⟨hv, hm, hwr⟩ := wrSec_eq hw
    have := (L.bitsSome _ b t l (L.vT t l b hl hv) hl ((L.mx t l b hl).1 hm)).1
    rw [hwr] at this
    exact this

theorem tinv_of_tinv {s : State} (T : BinGNP.TInv s) : TInv s := by
  have nc : ∀ {t : Nat} {l : Local} {p : Pending}, s.threads[t]? = some l → l.call = some p →
      BinGNP.noCallPc l.pc = false := by
    intro t l p hl hp
    cases h : BinGNP.noCallPc l.pc with
    | false => rfl
    | true => rw [(T.callOK t l hl).2 h] at hp; cases hp
  refine ⟨fun t l p hl hp => ?_, fun t l hl => ?_, T.histTime, T.pendTime, T.uniqHP, T.uniqPP, T.uniqHH⟩
  · rw [← readerPc_eq]; exact T.opOK t l p hl hp (nc hl hp)
  · rw [← noCallPc_eq]; exact T.callOK t l hl


theorem reachable_resX {n : Nat} {s : State} (hr : Reachable n s) : ResX s := (BinGNP.reachable_bundle hr).resX

theorem reachable_geninv {n : Nat} {s : State} (hr : Reachable n s) : GenInv s := (BinGNP.reachable_bundle hr).gen

theorem reachable_nextEmpty {n : Nat} {s : State} (hr : Reachable n s) : NextEmpty s := (BinGNP.reachable_bundle hr).next

theorem reachable_owninv {n : Nat} {s : State} (hr : Reachable n s) : OwnInv s :=
  owninv_of_linv (BinGNP.reachable_inv hr).lock (reachable_resX hr)

theorem reachable_rwinv {n : Nat} {s : State} (hr : Reachable n s) : RwInv s :=
  rwinv_of_linv (BinGNP.reachable_inv hr).lock

theorem reachable_tinv {n : Nat} {s : State} (hr : Reachable n s) : TInv s :=
  tinv_of_tinv (BinGNP.reachable_inv hr).thr


theorem quiescent_shape_aux {n : Nat} {s : State} (hr : Reachable n s) (hq : quiescent s) :
    s.resizing = false ∧ s.tabs.length = s.cur + 1 ∧ (∀ j, cellAt s s.cur j ≠ .moved) ∧
    (∀ k, liveCell s k = cellOf s s.cur k) ∧ (∀ h, lockAt s.heap h = none) ∧ (∀ b, mutexAt s.tbins b = none) := by
  have I := reachable_geninv hr
  have O := reachable_owninv hr
  have hidle : ∀ (t : Nat) (l : Local), s.threads[t]? = some l → l.pc = .idle :=
    fun t l h => hq l (List.mem_of_getElem? h)
  have hres : s.resizing = false := by
    cases hx : s.resizing with
    | false => rfl
    | true =>
      obtain ⟨t, l, a, b⟩ := O.resX hx
      obtain ⟨pc, call⟩ := l
      have := hidle t _ a
      simp only at this; subst this
      cases b
  have hnm : ∀ j, cellAt s s.cur j ≠ .moved := by
    intro j hm
    have := I.curMoved j hm
    rw [hres] at this; cases this
  refine ⟨hres, by have := I.len; rw [hres] at this; simpa using this, hnm, ?_, ?_, ?_⟩
  · intro k
    rw [I.liveCell_eq]
    exact if_neg (hnm (k % 2 ^ s.cur))
  · intro h
    cases hx : lockAt s.heap h with
    | none => rfl
    | some x =>
      obtain ⟨l, a, b⟩ := O.ownN h x hx
      obtain ⟨pc, call⟩ := l
      have := hidle x _ a
      simp only at this; subst this
      cases b
  · intro b
    cases hx : mutexAt s.tbins b with
    | none => rfl
    | some x =>
      obtain ⟨l, a, c⟩ := O.ownM b x hx
      obtain ⟨pc, call⟩ := l
      have := hidle x _ a
      simp only at this; subst this
      cases c

theorem holdsRead_ref {pc : Pc} {b : Nat} (h : holdsRead pc = some b) : readerRef pc = some b := by
  cases pc <;> simp [holdsRead] at h <;> simp [readerRef, h]

theorem writer_excludes_readers_aux {n : Nat} {s : State} (hr : Reachable n s) {t t1 : Nat} {l l1 : Local} {b : Nat}
    (hl : s.threads[t]? = some l) (hw : wrSec l.pc = some b) (hl1 : s.threads[t1]? = some l1) :
    holdsRead l1.pc ≠ some b := by
  have R := reachable_rwinv hr
  intro h1
  have hb := R.refR t1 l1 b hl1 (holdsRead_ref h1)
  have h0 := R.wrd b (R.wsec t l b hl hw)
  rw [R.rd b hb] at h0
  unfold nRead at h0
  rw [List.countP_eq_zero] at h0
  have := h0 l1 (List.mem_of_getElem? hl1)
  simp [h1] at this

end Flurry.Proto.BinGN
