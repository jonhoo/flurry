import Flurry.Lemmas.TableLineages
import Flurry.Lemmas.LineagesDrain
import Flurry.Lemmas.TableG
import Flurry.Lemmas.BinGDrainRun
import Flurry.Lemmas.BinGProgSolo
import Flurry.Lemmas.BinGProgStuck
/-! # Proto/TableG, progress: the lineage-level progress theorems lifted to the whole table

A thread that is not `idle` in lineage `i` of a reachable table is `idle` in every other lineage
(`OneBin` + all lineages have the same number of threads), so `TableG.step` lets it take, in lineage
`i`, exactly the steps `BinG.step` lets it take there (`step_lift`; the `inLineage` conditions concern
invocations and treeify keys only). Every other lineage ticks, and a tick changes the clock only.

* `never_stuck_aux` (C11): a table that is not quiescent has a lineage that is not quiescent; its
  witness of `binG_never_stuck_aux` can step in the table;
* `TQStep`, `TQRun`, `Gmu = Σ gmu`: a quiet table step is a quiet step of one lineage and a tick of the others
  (`TQStep.effect`), a quiet lineage step is one of the table (`tqstep_of_qstep`), and `gmu` does not read the clock
  (a tick leaves it as it is, by `rfl`); so quiet table steps drain the table because quiet steps drain a lineage
  (`tqdrains`, from `BinG.qdrains` by `Lineages.Eff.drains`);
* `tqrun_pendOrAns`: along quiet table runs a call stays pending until it is answered;
* `runSolo`, `solo_lift`: a solo run in a lineage is a solo run in the table. -/
namespace Flurry.Proto.TableGP
open Flurry.Lin Flurry.LinMap Flurry.Proto.TableG

theorem binG_threads_length {n : Nat} {s : BinG.State} (hr : BinG.Reachable n s) : s.threads.length = n := by
  induction hr with
  | init => simp [BinG.init]
  | step t inv lo mt rz sm sm2 _ hs ih =>
    obtain ⟨l', h⟩ := BinG.step_threads hs
    rw [h, List.length_set]; exact ih

def IdleElse (S : State) (i t : Nat) : Prop :=
  ∀ (j : Nat) (bj : BinG.State), j ≠ i → S.bins[j]? = some bj → idleIn bj t = true

theorem idleElse_all {S : State} {i t : Nat} (h : IdleElse S i t) :
    ((List.range S.bins.length).all fun j => j == i || idleIn (S.bins.getD j (BinG.init 0)) t) = true :=
  (Lineages.all_idle_iff S.bins _ (idleIn · t) i).2 h

theorem idleElse_of_all {S : State} {i t : Nat}
    (h : ((List.range S.bins.length).all fun j => j == i || idleIn (S.bins.getD j (BinG.init 0)) t) = true) :
    IdleElse S i t :=
  (Lineages.all_idle_iff S.bins _ (idleIn · t) i).1 h

theorem idleElse_of_active {m n : Nat} {S : State} (hr : Reachable m n S) {i t : Nat} {b : BinG.State}
    {l : BinG.Local} (hb : S.bins[i]? = some b) (hl : b.threads[t]? = some l) (hne : l.pc ≠ .idle) :
    IdleElse S i t := by
  intro j bj hji hj
  have I := reachable_tblInv hr
  have hlen_b := binG_threads_length (I.reach i b hb)
  have hlen_j := binG_threads_length (I.reach j bj hj)
  have ht : t < bj.threads.length := by
    rw [hlen_j, ← hlen_b]; exact (List.getElem?_eq_some_iff.1 hl).1
  have hlj : bj.threads[t]? = some bj.threads[t] := List.getElem?_eq_getElem ht
  rcases reachable_oneBin hr t i j b bj l _ (Ne.symm hji) hb hj hl hlj with h | h
  · exact absurd h hne
  · unfold idleIn
    rw [hlj]
    simp [h]

theorem step_lift {S : State} {i t : Nat} {b b' : BinG.State} {inv : Option (Nat × KOp)} {lo : Bool}
    {mt : Option Nat} {rz sm sm2 : Bool} (hb : S.bins[i]? = some b) (he : IdleElse S i t)
    (h1 : inLineage S.bins.length i (inv.map (·.1)) = true) (h2 : inLineage S.bins.length i mt = true)
    (hs : BinG.step b t inv lo mt rz sm sm2 = some b') :
    step S i t inv lo mt rz sm sm2 = some { bins := (S.bins.map tick).set i b' } := by
  unfold step
  simp only [hb, idleElse_all he, h1, h2, hs, Bool.not_true, Bool.false_eq_true, if_false]

theorem active_step_lift {m n : Nat} {S : State} (hr : Reachable m n S) {i t : Nat} {b b' : BinG.State}
    {l : BinG.Local} (hb : S.bins[i]? = some b) (hl : b.threads[t]? = some l) (hne : l.pc ≠ .idle)
    {lo rz sm sm2 : Bool} (hs : BinG.step b t none lo none rz sm sm2 = some b') :
    step S i t none lo none rz sm sm2 = some { bins := (S.bins.map tick).set i b' } :=
  step_lift hb (idleElse_of_active hr hb hl hne) rfl rfl hs

theorem never_stuck_aux {m n : Nat} {S : State} (hr : Reachable m n S) (hq : ¬ quiescent S) :
    ∃ (i : Nat) (b : BinG.State) (t : Nat) (l : BinG.Local), S.bins[i]? = some b ∧ b.threads[t]? = some l ∧
      l.pc ≠ .idle ∧ ∀ (lo rz sm sm2 : Bool), (step S i t none lo none rz sm sm2).isSome = true := by
  obtain ⟨i, b, hb, hnq⟩ := Lineages.exists_not_of_not_forall hq
  have hrb := (reachable_tblInv hr).reach i b hb
  obtain ⟨t, l, hl, hne, he⟩ := BinG.binG_never_stuck_aux (BinG.reachable_inv hrb) (BinG.reachable_binv hrb) hnq
  refine ⟨i, b, t, l, hb, hl, hne, ?_⟩
  intro lo rz sm sm2
  obtain ⟨b', hs⟩ := Option.isSome_iff_exists.1 (he none lo none rz sm sm2)
  rw [active_step_lift hr hb hl hne hs]
  rfl

/-- a quiet step of the table: a thread that is not `idle` in lineage `i` takes a step there; no call,
treeify or resize is started -/
def TQStep (S S' : State) : Prop :=
  ∃ (i t : Nat) (b : BinG.State) (l : BinG.Local) (lo sm sm2 : Bool), S.bins[i]? = some b ∧
    b.threads[t]? = some l ∧ l.pc ≠ .idle ∧ step S i t none lo none false sm sm2 = some S'

inductive TQRun : State → Nat → State → Prop
  | nil (S : State) : TQRun S 0 S
  | cons {S S1 S2 : State} {k : Nat} : TQStep S S1 → TQRun S1 k S2 → TQRun S (k + 1) S2

def Gmu (S : State) : Nat := (S.bins.map BinG.gmu).sum

def DrainBound (S : State) : Nat := (S.bins.map BinG.drainBound).sum

theorem drainBound_tick (b : BinG.State) : BinG.drainBound (tick b) = BinG.drainBound b := rfl

theorem TQStep.effect {S S' : State} (h : TQStep S S') :
    ∃ (i : Nat) (b b' : BinG.State), S.bins[i]? = some b ∧ BinG.QStep b b' ∧
      S' = { bins := (S.bins.map tick).set i b' } := by
  obtain ⟨i, t, b, l, lo, sm, sm2, hb, hl, hne, hs⟩ := h
  obtain ⟨b0, b', hb0, _, _, _, hs', rfl⟩ := step_eq_some hs
  rw [hb] at hb0
  cases hb0
  exact ⟨i, b, b', hb, ⟨t, l, lo, sm, sm2, hl, hne, hs'⟩, rfl⟩

theorem TQStep.reachable {m n : Nat} {S S' : State} (hr : Reachable m n S) (h : TQStep S S') : Reachable m n S' := by
  obtain ⟨i, t, b, l, lo, sm, sm2, _, _, _, hs⟩ := h
  exact Reachable.step i t none lo none false sm sm2 hr hs

theorem TQStep.eff {S S' : State} (h : TQStep S S') : Lineages.Eff tick BinG.QStep S.bins S'.bins := by
  obtain ⟨i, b, b', hb, hq, rfl⟩ := h.effect
  exact ⟨i, b, b', hb, hq, rfl⟩

theorem Gmu_le_DrainBound {m n : Nat} {S : State} (hr : Reachable m n S) : Gmu S ≤ DrainBound S := by
  unfold Gmu DrainBound
  apply sum_map_le_of
  intro b hb
  obtain ⟨i, hi⟩ := List.mem_iff_getElem?.1 hb
  exact BinG.gmu_le_drainBound ((reachable_tblInv hr).reach i b hi)

theorem tqstep_of_qstep {m n : Nat} {S : State} (hr : Reachable m n S) {i : Nat} {b b' : BinG.State}
    (hb : S.bins[i]? = some b) (hq : BinG.QStep b b') : ∃ S', TQStep S S' := by
  obtain ⟨t, l, lo, sm, sm2, hl, hne, hs⟩ := hq
  exact ⟨_, i, t, b, l, lo, sm, sm2, hb, hl, hne, active_step_lift hr hb hl hne hs⟩

theorem tqrun_iff {S S' : State} {k : Nat} : TQRun S k S' ↔ Descent.Run TQStep S k S' :=
  Descent.Run.iff_of .nil .cons fun h => by
    induction h with
    | nil => exact .nil _
    | cons h1 _ ih => exact .cons h1 ih

theorem tqdrains (m n : Nat) : Descent.Drains TQStep (Reachable m n) quiescent Gmu :=
  Lineages.Eff.drains (tick := tick) (BinG.qdrains n) (fun _ => rfl) (bins := State.bins) (fun hr h => h.reachable hr)
    (fun hr hb => (reachable_tblInv hr).reach _ _ hb) TQStep.eff (fun hr hb hq => tqstep_of_qstep hr hb hq)

theorem TQRun.reachable {m n : Nat} {S S' : State} {k : Nat} (hr : Reachable m n S) (h : TQRun S k S') :
    Reachable m n S' :=
  (tqdrains m n).run_inv hr (tqrun_iff.1 h)

theorem tqrun_pendOrAns {S S' : State} {k : Nat} (h : TQRun S k S') {j t : Nat}
    {bj : BinG.State} {p : BinG.Pending} (hj : S.bins[j]? = some bj) (hpa : BinG.PendOrAns bj t p) :
    ∃ bj', S'.bins[j]? = some bj' ∧ BinG.PendOrAns bj' t p :=
  Descent.Run.keeps (P := fun S => ∃ bj', S.bins[j]? = some bj' ∧ BinG.PendOrAns bj' t p)
    (fun h1 ⟨_, hj, hpa⟩ => h1.eff.keeps (fun _ hpa => hpa) (fun _ _ hq => hq.pendOrAns) hj hpa)
    (tqrun_iff.1 h) ⟨bj, hj, hpa⟩

theorem answered_mhist {S : State} {j t : Nat} {bj : BinG.State} {p : BinG.Pending} (hj : S.bins[j]? = some bj)
    (ha : BinG.Answered bj t p) :
    ∃ res resp, (⟨p.key, { tid := t, op := p.op, res := res, inv := p.inv, resp := resp }⟩ : MCall) ∈ mhist S := by
  obtain ⟨res, resp, hm⟩ := ha
  exact ⟨res, resp, mhist_eq S ▸ Lineages.mem_mhist_of_hist (K := keys S.bins.length) hj hm⟩

/-- thread `t` runs alone in lineage `i` for `k` steps (it starts nothing); `none` if one of these
steps is not enabled -/
def runSolo (i t : Nat) (sm sm2 : Bool) : Nat → State → Option State
  | 0, S => some S
  | k + 1, S =>
    match step S i t none false none false sm sm2 with
    | some S' => runSolo i t sm sm2 k S'
    | none => none

theorem runSolo_reachable {m n : Nat} {i t : Nat} {sm sm2 : Bool} : ∀ (k : Nat) {S S' : State},
    Reachable m n S → runSolo i t sm sm2 k S = some S' → Reachable m n S'
  | 0, S, S', hr, h => by simp only [runSolo, Option.some.injEq] at h; exact h ▸ hr
  | k + 1, S, S', hr, h => by
    simp only [runSolo] at h
    cases hs : step S i t none false none false sm sm2 with
    | none => rw [hs] at h; cases h
    | some S1 => rw [hs] at h; exact runSolo_reachable k (.step i t none false none false sm sm2 hr hs) h

def tickN (k : Nat) (b : BinG.State) : BinG.State := { b with now := b.now + k }

theorem tickN_tick (k : Nat) (b : BinG.State) : tickN k (tick b) = tickN (k + 1) b := by
  unfold tickN tick
  simp only [BinG.State.mk.injEq, true_and]
  omega

theorem solo_lift {i t : Nat} {sm sm2 : Bool} : ∀ (k : Nat) {S : State} {b b' : BinG.State},
    S.bins[i]? = some b → IdleElse S i t → BinG.runSolo t sm sm2 k b = some b' →
    ∃ S', runSolo i t sm sm2 k S = some S' ∧ S'.bins.length = S.bins.length ∧ S'.bins[i]? = some b' ∧
      ∀ (j : Nat) (bj : BinG.State), j ≠ i → S.bins[j]? = some bj → S'.bins[j]? = some (tickN k bj)
  | 0, S, b, b', hb, _, h => by
    simp only [BinG.runSolo, Option.some.injEq] at h
    subst h
    exact ⟨S, rfl, rfl, hb, fun j bj _ hj => by rw [hj]; rfl⟩
  | k + 1, S, b, b', hb, he, h => by
    simp only [BinG.runSolo] at h
    cases hs : BinG.step b t none false none false sm sm2 with
    | none => rw [hs] at h; cases h
    | some b1 =>
      rw [hs] at h
      have hstep := step_lift hb he rfl rfl hs
      obtain ⟨h1, h2⟩ := Lineages.set_map_getElem? tick b1 hb
      have he1 : IdleElse { bins := (S.bins.map tick).set i b1 } i t := by
        intro j c hji hc
        rcases Lineages.of_set_map tick _ (idleIn · t) (idleElse_all he) j c hc with ⟨e, _⟩ | ⟨_, b0, _, rfl, hid⟩
        · exact absurd e hji
        · exact hid
      obtain ⟨S', hrun, hlen, hi', hoth⟩ := solo_lift k (S := { bins := (S.bins.map tick).set i b1 }) h1 he1 h
      refine ⟨S', ?_, ?_, hi', ?_⟩
      · simp only [runSolo, hstep]
        exact hrun
      · rw [hlen]
        show ((S.bins.map tick).set i b1).length = _
        rw [List.length_set, List.length_map]
      · intro j bj hji hj
        rw [hoth j (tick bj) hji (h2 j bj hji hj), tickN_tick]

end Flurry.Proto.TableGP
