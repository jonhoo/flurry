import Flurry.Lemmas.BinNIGood
import Flurry.Lemmas.BinNIStep
/-! # Proto/BinNI: the invariant of the iterators; every yield was present (C07)

`Was nt s τ k v`: on the run that led to `s`, the state at time `τ` had `absOf k = some v`.
`IInv`: the structural invariant of `Proto/BinN` on the shared part; an iterating thread is idle in the
shared part; the pointer of every iterator is justified (`IGood`); every cell in `todo` is of a generation
`≤ cur + 1`, and of generation `cur + 1` only behind a forwarding marker (so a cell that is found not
forwarded is the live cell of its keys); every yield is justified.

`iter_enabled`: an iterator is never blocked and writes nothing.

`TimeInv`: every yield and every end lies in the past; an iteration is identified by its thread and its
creation time (a live iterator was created after every completed iteration of its thread); all yields of a
completed iteration happened before its end. -/
namespace Flurry.Proto.BinNI
open Flurry.Lin
open Flurry.Proto.BinX (nodeAt nodeAt_of_some get_set)
open Flurry.Proto.BinN (Ghost Inv HInv cellAt LC IGood chId getCell liveId cellId cellOf)

def Was (nt : Nat) (s : State) (τ k : Nat) (v : Nat × Nat) : Prop :=
  ∃ s₁, Reachable nt s₁ ∧ Steps s₁ s ∧ s₁.n.now = τ ∧ absOf s₁ k = some v

/-- a pending cell is of a generation `≤ cur + 1`, and of generation `cur + 1` only behind a forwarding marker -/
def TodoOK (n : BinN.State) (c : Nat × Nat) : Prop :=
  c.1 ≤ n.cur + 1 ∧ (c.1 = n.cur + 1 → cellAt n n.cur (c.2 % 2 ^ n.cur) = .moved)

structure IInv (nt : Nat) (s : State) (G : Ghost) : Prop where
  inv : Inv s.n G
  -- an iterating thread has no call in flight, so its steps are `tick` on the shared part (`StepI.move`)
  idle : ∀ (t : Nat) (it : Iter), s.its[t]? = some (some it) →
    ∃ l : BinN.Local, s.n.threads[t]? = some l ∧ l.pc = BinN.Pc.idle
  -- the hindsight justification of the pointer, with the run's own past (`Was`) as the history it refers to
  good : ∀ (t : Nat) (it : Iter), s.its[t]? = some (some it) →
    it.t0 ≤ s.n.now ∧ IGood (Was nt s) G it.t0 s.n it.ptr ∧ ∀ c ∈ it.todo, TodoOK s.n c
  -- `iter_yield_was_present` (`Props/C07BinNI.lean`) is this clause; a new yield gets it from `IGood.hit`
  yl : ∀ y ∈ s.yields, ∃ τ, y.t0 ≤ τ ∧ τ ≤ y.time ∧ Was nt s τ y.key y.val

/-- a forwarded cell exists: its index is inside its generation -/
theorem moved_idx_lt {n : BinN.State} (S : BinN.Shape n) {g j : Nat} (hc : cellAt n g j = .moved) : j < 2 ^ g := by
  rcases Nat.lt_or_ge j (2 ^ g) with h | h
  · exact h
  · rw [S.cell_of_idx_ge h] at hc; cases hc

/-- a pending cell that is not forwarded is the live cell of every key of its class -/
theorem TodoOK.liveId {n : BinN.State} {G : Ghost} (H : HInv n G) {g j k : Nat} (ht : TodoOK n (g, j))
    (hk : k % 2 ^ g = j) (hnm : cellAt n g j ≠ .moved) : liveId n k = (g, j) := by
  have hj : j < 2 ^ g := by rw [← hk]; exact BinN.mod_lt_pow k g
  unfold BinN.liveId
  rcases Nat.lt_or_ge g n.cur with h | h
  · exact absurd (H.shape.old g j h hj) hnm
  · have h1 : g ≤ n.cur + 1 := ht.1
    rcases Nat.lt_or_ge n.cur g with h2 | h2
    · have hg : g = n.cur + 1 := by omega
      subst hg
      have h3 : k % 2 ^ n.cur = j % 2 ^ n.cur := BinN.keyOn_mod (Nat.le_succ _) hk
      have : cellOf n n.cur k = .moved := by unfold cellOf; rw [h3]; exact ht.2 rfl
      rw [if_pos this]; unfold cellId; rw [hk]
    · have hg : g = n.cur := by omega
      subst hg
      have : cellOf n n.cur k ≠ .moved := by unfold cellOf; rw [hk]; exact hnm
      rw [if_neg this]; unfold cellId; rw [hk]

/-- a cell that an iterator finds with a list is the live cell of the keys of that list -/
theorem head_live {n : BinN.State} {G : Ghost} (H : HInv n G) {g j hd : Nat} (ht : TodoOK n (g, j))
    (hc : cellAt n g j = .node hd) : hd ∈ LC n (nodeAt n.heap hd).key := by
  have hlt := H.head (g, j) hd hc
  have hmem : hd ∈ chId n (g, j) := by
    unfold chId; rw [show getCell n (g, j) = .node hd from hc]
    obtain ⟨l, hl⟩ := BinX.chainH_node (BinN.ranked_ord _) H.nextOK hlt
    rw [hl]; simp
  rw [H.LC_eq, ht.liveId H (H.side _ hd hmem) (by rw [hc]; simp)]; exact hmem

theorem children_ok {n : BinN.State} (S : BinN.Shape n) {g j : Nat} (hc : cellAt n g j = .moved) :
    TodoOK n (g + 1, j) ∧ TodoOK n (g + 1, j + 2 ^ g) := by
  have hg : g ≤ n.cur := by
    rcases Nat.lt_or_ge n.cur g with h | h
    · exfalso
      rcases Nat.lt_or_ge (n.cur + 1) g with h2 | h2
      · rw [S.cell_of_gen_gt h2] at hc; cases hc
      · have : g = n.cur + 1 := by omega
        subst this; exact S.nextNM j hc
    · exact h
  have hj := moved_idx_lt S hc
  refine ⟨⟨by show g + 1 ≤ _; omega, fun h => ?_⟩, ⟨by show g + 1 ≤ _; omega, fun h => ?_⟩⟩
  · have : g = n.cur := by simpa using h
    subst this
    show cellAt n n.cur (j % 2 ^ n.cur) = _
    rw [Nat.mod_eq_of_lt hj]; exact hc
  · have : g = n.cur := by simpa using h
    subst this
    show cellAt n n.cur ((j + 2 ^ n.cur) % 2 ^ n.cur) = _
    rw [BinN.high_mod j _ hj]; exact hc

theorem init_iinv (nt : Nat) : IInv nt (init nt) {} := by
  refine ⟨BinN.init_inv nt, ?_, ?_, ?_⟩
  · exact fun t it h => (init_its h).elim
  · exact fun t it h => (init_its h).elim
  · intro y hy; cases hy

theorem iinv_step {nt : Nat} {s s' : State} {G : Ghost} {t : Nat} (hr : Reachable nt s) (hst : Steps s s')
    (I : IInv nt s G) (hI : StepI s t s') : ∃ G', IInv nt s' G' := by
  obtain ⟨⟨l, pick, hl, hk⟩, hits, -⟩ := hI.shared
  obtain ⟨G', I', m, -⟩ := BinN.stepK_inv I.inv hl hk
  obtain ⟨hnow, -⟩ := BinN.stepK_frame hk
  obtain ⟨hcur, hmono⟩ := BinN.stepK_mono I.inv hl hk
  have H := I.inv.heap
  have hWas : ∀ τ k v, Was nt s τ k v → Was nt s' τ k v := by
    rintro τ k v ⟨s₁, h1, h2, h3, h4⟩
    exact ⟨s₁, h1, h2.trans hst, h3, h4⟩
  have hWnow : ∀ k v, BinN.absOf s.n k = some v → Was nt s' s.n.now k v := fun k v h => ⟨s, hr, hst, rfl, h⟩
  have hWself : ∀ k v, BinN.absOf s.n k = some v → Was nt s s.n.now k v := fun k v h => ⟨s, hr, .refl s, rfl, h⟩
  have todoC : ∀ c, TodoOK s.n c → TodoOK s'.n c := by
    rintro c ⟨h1, h2⟩
    rcases hcur with e | e
    · exact ⟨by rw [e]; exact h1, fun hg => by rw [e] at hg ⊢; exact hmono _ _ (h2 hg)⟩
    · exact ⟨by omega, fun hg => by omega⟩
  -- an iterator as it is before the transition, seen after it
  have carried : ∀ (t0 : Nat) (ptr : Option Nat) (todo : List (Nat × Nat)), t0 ≤ s.n.now →
      IGood (Was nt s) G t0 s.n ptr → (∀ c ∈ todo, TodoOK s.n c) →
      t0 ≤ s'.n.now ∧ IGood (Was nt s') G' t0 s'.n ptr ∧ ∀ c ∈ todo, TodoOK s'.n c :=
    fun t0 ptr todo h0 h h3 =>
      ⟨by omega, h.carry m H I'.heap hnow h0 hWas hWnow, fun c hc => todoC c (h3 c hc)⟩
  have ylC : ∀ y ∈ s.yields, ∃ τ, y.t0 ≤ τ ∧ τ ≤ y.time ∧ Was nt s' τ y.key y.val := by
    intro y hy
    obtain ⟨τ, h1, h2, h3⟩ := I.yl y hy
    exact ⟨τ, h1, h2, hWas _ _ _ h3⟩
  refine ⟨G', I', idleOK_step I.idle hI, fun t' it' h => ?_, fun y hy => ?_⟩
  · by_cases hne : t' = t
    · subst hne
      cases hI with
      | base hi _ => rw [hi] at h; cases h
      | create hi _ _ =>
        obtain ⟨-, e⟩ | ⟨hne, -⟩ := get_set h
        · cases e
          refine ⟨Nat.le_refl _, .none, fun c hc => ?_⟩
          obtain ⟨j, -, rfl⟩ := List.mem_map.1 hc
          exact ⟨Nat.le_succ _, fun h => absurd h (Nat.ne_of_lt (Nat.lt_succ_self _))⟩
        · exact absurd rfl hne
      | @move _ it o _ _ hi _ _ hm =>
        obtain ⟨g1, g2, g3⟩ := I.good t' it hi
        obtain ⟨-, e⟩ | ⟨hne, -⟩ := get_set h
        · subst e
          cases hm with
          | @yield c nd hp hnd =>
            rw [hp] at g2
            have := g2.next H
            rw [nodeAt_of_some (show s.n.heap[c]? = some nd from hnd)] at this
            exact carried _ _ _ g1 this g3
          | empty hp htd hc =>
            rw [htd] at g3
            exact carried _ _ _ g1 g2 fun c hc => g3 c (List.mem_cons_of_mem _ hc)
          | node hp htd hc =>
            rw [htd] at g3
            exact carried _ _ _ g1 (.on (head_live H (g3 _ List.mem_cons_self) hc))
              fun c hc => g3 c (List.mem_cons_of_mem _ hc)
          | moved hp htd hc =>
            rw [htd] at g3
            obtain ⟨k1, k2⟩ := children_ok H.shape (n := s.n) hc
            refine carried _ _ _ g1 g2 fun c hc' => ?_
            rcases List.mem_cons.1 hc' with rfl | hc'
            · exact k1
            · rcases List.mem_cons.1 hc' with rfl | hc'
              · exact k2
              · exact g3 c (List.mem_cons_of_mem _ hc')
        · exact absurd rfl hne
    · rw [hits t' hne] at h
      obtain ⟨g1, g2, g3⟩ := I.good t' it' h
      exact carried _ _ _ g1 g2 g3
  · cases hI with
    | base _ _ => exact ylC y hy
    | create _ _ _ => exact ylC y hy
    | @move _ it o ys es hi _ _ hm =>
      rcases List.mem_append.1 hy with hy1 | hy1
      · cases hm with
        | @yield c nd hp hnd =>
          cases List.mem_singleton.1 hy1
          obtain ⟨g1, g2, -⟩ := I.good t it hi
          rw [hp] at g2
          obtain ⟨τ, h1, h2, h3⟩ := g2.hit H g1 hWself
          rw [nodeAt_of_some (show s.n.heap[c]? = some nd from hnd)] at h3
          exact ⟨τ, h1, Nat.le_succ_of_le h2, hWas _ _ _ h3⟩
        | done _ _ => cases hy1
        | empty _ _ _ => cases hy1
        | node _ _ _ => cases hy1
        | moved _ _ _ => cases hy1
      · exact ylC y hy1

theorem reachable_iinv {nt : Nat} {s : State} (hr : Reachable nt s) : ∃ G, IInv nt s G := by
  induction hr with
  | init => exact ⟨_, init_iinv nt⟩
  | step t mk inv rz pick hr hs ih =>
    obtain ⟨G, I⟩ := ih
    exact iinv_step hr (.tail t mk inv rz pick (.refl _) hs) I (hr.stepI hs)

/-- a step of an iterating thread is always enabled, whatever the scheduler's other choices; on the shared
part it only advances the clock -/
theorem iter_enabled {nt : Nat} {s : State} {G : Ghost} (I : IInv nt s G) {t : Nat} {it : Iter}
    (hi : s.its[t]? = some (some it)) (mk : Bool) (inv : Option (Nat × KOp)) (rz : Bool) (pick : Nat) :
    ∃ s', step s t mk inv rz pick = some s' ∧ s'.n = BinN.tick s.n ∧ iterStep s t it (BinN.tick s.n) = some s' := by
  obtain ⟨l0, hl0, hpc0⟩ := I.idle t it hi
  obtain ⟨-, g2, -⟩ := I.good t it hi
  obtain ⟨o, ys, es, hm⟩ := move_exists (BinN.tick s.n) t it fun c hc => by rw [hc] at g2; exact g2.lt I.inv.heap
  exact ⟨_, step_of_move hi hl0 hpc0 hm mk inv rz pick, rfl, iterStep_of_move hm⟩

theorem step_now {s s' : State} {t : Nat} {mk : Bool} {inv : Option (Nat × KOp)} {rz : Bool} {pick : Nat}
    (hs : step s t mk inv rz pick = some s') : s'.n.now = s.n.now + 1 := by
  obtain ⟨inv', rz', pick', hn⟩ := step_n hs
  cases hl : s.n.threads[t]? with
  | none => unfold BinN.step BinN.stepG at hn; rw [hl] at hn; cases hn
  | some l => exact (BinN.stepK_frame (BinN.step_stepK hl hn)).1

theorem Steps.now_le {a b : State} (h : Steps a b) : a.n.now ≤ b.n.now := by
  induction h with
  | refl => exact Nat.le_refl _
  | tail t mk inv rz pick _ hs ih => have := step_now hs; omega

/-- The times in the logs. An iteration is named by its thread and creation time `t0`: `live` (a live iterator is
younger than every completed iteration of its thread) keeps the yields of two iterations of one thread apart (`ycEnd` in
`kinv_step`); `ye` is `iter_yields_before_end`. -/
structure TimeInv (s : State) : Prop where
  yt : ∀ y ∈ s.yields, y.time ≤ s.n.now
  et : ∀ e ∈ s.ends, e.2.1 ≤ e.2.2 ∧ e.2.2 ≤ s.n.now
  live : ∀ (t : Nat) (it : Iter), s.its[t]? = some (some it) → it.t0 ≤ s.n.now ∧ ∀ e ∈ s.ends, e.1 = t → e.2.2 < it.t0
  ye : ∀ e ∈ s.ends, ∀ y ∈ s.yields, y.tid = e.1 → y.t0 = e.2.1 → y.time ≤ e.2.2

theorem init_time (nt : Nat) : TimeInv (init nt) := by
  refine ⟨(fun y hy => by cases hy), (fun e he => by cases he), ?_, (fun e he => by cases he)⟩
  exact fun t it h => (init_its h).elim

theorem time_step {s s' : State} {t : Nat} (T : TimeInv s) (hI : StepI s t s') : TimeInv s' := by
  have hnow := hI.now
  have old : ∀ t' it', s.its[t']? = some (some it') → it'.t0 ≤ s.n.now + 1 ∧ ∀ e ∈ s.ends, e.1 = t' → e.2.2 < it'.t0 :=
    fun t' it' h => ⟨Nat.le_succ_of_le (T.live t' it' h).1, (T.live t' it' h).2⟩
  have yt : ∀ y ∈ s.yields, y.time ≤ s.n.now + 1 := fun y hy => Nat.le_succ_of_le (T.yt y hy)
  have et : ∀ e ∈ s.ends, e.2.1 ≤ e.2.2 ∧ e.2.2 ≤ s.n.now + 1 := fun e he =>
    ⟨(T.et e he).1, Nat.le_succ_of_le (T.et e he).2⟩
  cases hI with
  | base hi hn =>
    refine ⟨fun y hy => ?_, fun e he => ?_, fun t' it' h => ?_, T.ye⟩ <;> rw [hnow]
    · exact yt y hy
    · exact et e he
    · exact old t' it' h
  | create hi hl hpc =>
    refine ⟨fun y hy => ?_, fun e he => ?_, fun t' it' h => ?_, T.ye⟩ <;> rw [hnow]
    · exact yt y hy
    · exact et e he
    · rcases get_set h with ⟨-, e⟩ | ⟨-, h⟩
      · cases e; exact ⟨Nat.le_refl _, fun e he _ => Nat.lt_succ_of_le (T.et e he).2⟩
      · exact old t' it' h
  | @move l it o ys es hi hl hpc hm =>
    obtain ⟨hys, hes, ho⟩ := hm.logs
    have hL := T.live t it hi
    refine ⟨fun y hy => ?_, fun e he => ?_, fun t' it' h => ?_, fun e he y hy h1 h2 => ?_⟩
    · rw [hnow]
      rcases List.mem_append.1 hy with hy | hy
      · exact Nat.le_of_eq (hys y hy).2.2.1
      · exact yt y hy
    · rw [hnow]
      rcases List.mem_append.1 he with he | he
      · cases hes e he; exact ⟨Nat.le_succ_of_le hL.1, Nat.le_refl _⟩
      · exact et e he
    · rw [hnow]
      rcases get_set h with ⟨rfl, e⟩ | ⟨hne, h⟩
      · obtain ⟨h1, h2⟩ := ho it' e.symm
        subst h2
        rw [h1]; exact old t' it hi
      · refine ⟨(old t' it' h).1, fun e he h1 => ?_⟩
        rcases List.mem_append.1 he with he | he
        · cases hes e he; exact absurd h1.symm hne
        · exact (old t' it' h).2 e he h1
    · rcases List.mem_append.1 he with he | he
      · rcases List.mem_append.1 hy with hy | hy
        · rw [(hys y hy).2.2.2] at he; cases he
        · cases hes e he; exact yt y hy
      · rcases List.mem_append.1 hy with hy | hy
        · exfalso
          obtain ⟨a, b, -⟩ := hys y hy
          have k1 := hL.2 e he (by rw [← h1, a])
          have k2 := (T.et e he).1
          omega
        · exact T.ye e he y hy h1 h2

theorem reachable_time {nt : Nat} {s : State} (hr : Reachable nt s) : TimeInv s := by
  induction hr with
  | init => exact init_time nt
  | step t mk inv rz pick hr hs ih => exact time_step ih (hr.stepI hs)

/-- every yield of a completed iteration was present at some moment of that iteration -/
theorem yield_within {nt : Nat} {s : State} (hr : Reachable nt s) {t τ0 τ1 : Nat} (he : (t, τ0, τ1) ∈ s.ends)
    {y : Yield} (hy : y ∈ s.yields) (h1 : y.tid = t) (h2 : y.t0 = τ0) :
    ∃ s₁, Reachable nt s₁ ∧ Steps s₁ s ∧ τ0 ≤ s₁.n.now ∧ s₁.n.now ≤ τ1 ∧ absOf s₁ y.key = some y.val := by
  obtain ⟨G, I⟩ := reachable_iinv hr
  obtain ⟨τ, k1, k2, s₁, k3, k4, k5, k6⟩ := I.yl y hy
  have : y.time ≤ τ1 := (reachable_time hr).ye _ he y hy h1 h2
  exact ⟨s₁, k3, k4, by omega, by omega, k6⟩

end Flurry.Proto.BinNI
