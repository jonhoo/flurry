import Flurry.Proto.BinNA
import Flurry.Lemmas.LinSearch
/-! # Proto/BinNA: the model exercised by execution (random schedule explorer) and kernel-checked runs

* `run`, `summary`, `run_reachable`, `ReachableNoCheck`: schedules
  `(thread, invocation, rz, pick)` executed by `step` / `stepG false`, decided by the complete search of
  `Lemmas/LinSearch.lean`;
* `explore`: a seeded random scheduler (any number of threads, `ins / rm / get / has / tryIns / cipInc` on
  a few keys with different low bits, up to three successive resizes started at random, random `pick`,
  one thread per run is "slow": skipped with 0–98 % while it has a call in flight, so that it falls one
  or two generations behind), which drains every thread to `idle` and then decides
  `Linearizable (callsOn s k) none (absOf s k)` for every key; it counts the runs that end in generation
  ≥ 1 / ≥ 2 / = 3, the loads of a cell one / two or more generations behind the table pointer
  (`rCell g` / `wCell g` with `g < cur` / `g + 2 ≤ cur`), the failed re-checks (`wUnlock _ _ true`) and
  the locks taken on a cell that was forwarded meanwhile, and returns the first schedule that is not
  linearizable;
* kernel-checked runs (`decide`): a reader and a writer that loaded the table pointer of generation 0,
  sleep through TWO complete resizes and then follow marker after marker (`schedStale2`); the
  refutation of `stepG false` (`schedLost`: the writer stores into the forwarded cell and overwrites the
  marker) and the same interleaving with the re-check.

`sample` and `sampleNoCheck` run `explore` at build time, with and without the re-check, and print the report. -/
namespace Flurry.Proto.BinNA
open Flurry.Lin

/-- one scheduler decision: thread, invocation, `rz`, `pick` -/
abbrev Sched := List (Nat × Option (Nat × KOp) × Bool × Nat)

abbrev StepFn := State → Nat → Option (Nat × KOp) → Bool → Nat → Option State

/-- run a schedule (`none` if some step is not enabled) -/
def run (f : StepFn) : State → Sched → Option State
  | s, [] => some s
  | s, (t, inv, rz, pick) :: rest =>
    match f s t inv rz pick with
    | none => none
    | some s' => run f s' rest

/-- reachability in the variant without the re-check of the locked cell -/
inductive ReachableNoCheck (nthreads : Nat) : State → Prop
  | init : ReachableNoCheck nthreads (init nthreads)
  | step {s s' : State} (t : Nat) (inv : Option (Nat × KOp)) (rz : Bool) (pick : Nat) :
      ReachableNoCheck nthreads s → stepG false s t inv rz pick = some s' → ReachableNoCheck nthreads s'

theorem run_induction {f : StepFn} {P : State → Prop}
    (hstep : ∀ {s s'} t inv rz pick, P s → f s t inv rz pick = some s' → P s') :
    ∀ (sc : Sched) {s s' : State}, P s → run f s sc = some s' → P s'
  | [], s, s', hp, h => Option.some.inj h ▸ hp
  | (t, inv, rz, pick) :: rest, s, s', hp, h => by
    rw [run] at h
    split at h
    · cases h
    · exact run_induction hstep rest (hstep t inv rz pick hp ‹_›) h

theorem run_reachable {n : Nat} (sc : Sched) {s s' : State} (hr : Reachable n s)
    (h : run step s sc = some s') : Reachable n s' :=
  run_induction .step sc hr h

theorem run_reachableNoCheck {n : Nat} (sc : Sched) {s s' : State} (hr : ReachableNoCheck n s)
    (h : run (stepG false) s sc = some s') : ReachableNoCheck n s' :=
  run_induction .step sc hr h

def quiescentB (s : State) : Bool := s.threads.all (fun l => l.pc == .idle)

theorem quiescentB_iff (s : State) : quiescentB s = true ↔ quiescent s := by
  unfold quiescentB quiescent
  simp [List.all_eq_true]

def linB (s : State) (k : Nat) : Bool := (search (callsOn s k) none (absOf s k)).isSome

theorem linB_iff (s : State) (k : Nat) : linB s k = true ↔ Linearizable (callsOn s k) none (absOf s k) :=
  search_isSome_iff

theorem linB_false_iff (s : State) (k : Nat) :
    linB s k = false ↔ ¬ Linearizable (callsOn s k) none (absOf s k) := by
  rw [← linB_iff]; cases linB s k <;> simp

/-- what the kernel-checked runs evaluate on their final state -/
structure Summary where
  quiescent : Bool
  /-- the exhaustive search finds, for every key asked for, a linearization of its history ending in
  its abstract content -/
  lin : Bool
  hist : History
  abs : KSt
  cur : Nat
  tabs : List (List Cell)
deriving DecidableEq

def summary (ks : List Nat) (s : State) : Summary :=
  ⟨quiescentB s, ks.all (linB s), callsOn s 1, absOf s 1, s.cur, s.tabs⟩

/-! ## the explorer (`#eval` only) -/

def rngNext (x : Nat) : Nat := (x * 6364136223846793005 + 1442695040888963407) % 18446744073709551616
/-- a number below `n` from the high bits -/
def rngPick (x n : Nat) : Nat := (x / 4294967296) % n

structure Cfg where
  nthreads : Nat := 3
  keys : List Nat := [0, 1, 2, 3]
  /-- random steps before the drain -/
  steps : Nat := 200
  /-- calls started at most -/
  calls : Nat := 12
  /-- resizes started at most -/
  resizes : Nat := 3
  /-- percentages for an idle thread -/
  pResize : Nat := 12
  pCall : Nat := 70
  /-- per run one thread is "slow": while it has a call in flight it is skipped with one of these
  percentages (chosen at random per run) -/
  slowPcts : List Nat := [0, 50, 80, 90, 95, 98]
  noCheck : Bool := false

def mkOp (r : Nat) (vi : Nat) : KOp :=
  match r % 12 with
  | 0 | 1 | 2 | 3 => .ins (vi % 7) vi
  | 4 | 5 => .rm
  | 6 | 7 => .get
  | 8 => .has
  | 9 => .tryIns (vi % 7) vi
  | 10 => .cipInc vi
  | _ => .get

/-- event counters -/
structure Cnt where
  /-- a thread loads a cell of generation `g < cur` (`rCell g` / `wCell g`) -/
  stale1 : Nat := 0
  /-- … of generation `g` with `g + 2 ≤ cur` -/
  stale2 : Nat := 0
  /-- … of these, by a reader / by a writer -/
  stale2r : Nat := 0
  stale2w : Nat := 0
  /-- `wUnlock _ _ true` reached: the re-check under the lock failed -/
  failed : Nat := 0
  /-- a step was not enabled (lock held) -/
  blocked : Nat := 0
  /-- a writer acquired the lock of a cell that is `moved` by now -/
  lockedMoved : Nat := 0
deriving Repr

def Cnt.event (c : Cnt) (s s' : State) (t : Nat) : Cnt :=
  let l := s.threads.getD t {}
  let l' := s'.threads.getD t {}
  let c := match l.pc with
    | .rCell g =>
      let c := if g < s.cur then { c with stale1 := c.stale1 + 1 } else c
      if g + 2 ≤ s.cur then { c with stale2 := c.stale2 + 1, stale2r := c.stale2r + 1 } else c
    | .wCell g =>
      let c := if g < s.cur then { c with stale1 := c.stale1 + 1 } else c
      if g + 2 ≤ s.cur then { c with stale2 := c.stale2 + 1, stale2w := c.stale2w + 1 } else c
    | _ => c
  let c := match l'.pc with
    | .wUnlock _ _ true => { c with failed := c.failed + 1 }
    | .wCheck g =>
      match l'.call with
      | some p => if getCell s' g (ix g p.key) == .moved then { c with lockedMoved := c.lockedMoved + 1 } else c
      | none => c
    | _ => c
  c

/-- one random schedule: returns the executed schedule, the final state and the counters -/
def oneRun (cfg : Cfg) (seed : Nat) (cnt : Cnt) : Sched × State × Cnt := Id.run do
  let f : StepFn := stepG (!cfg.noCheck)
  let mut s := init cfg.nthreads
  let mut rng := seed
  let mut sc : Array (Nat × Option (Nat × KOp) × Bool × Nat) := #[]
  let mut cnt := cnt
  let mut calls := 0
  let mut resizes := 0
  rng := rngNext rng
  let slow := rngPick rng cfg.nthreads
  rng := rngNext rng
  let slowPct := cfg.slowPcts.getD (rngPick rng (max cfg.slowPcts.length 1)) 0
  for _ in [0:cfg.steps] do
    rng := rngNext rng
    let t := rngPick rng cfg.nthreads
    rng := rngNext rng
    let l := s.threads.getD t {}
    let mut a : Nat × Option (Nat × KOp) × Bool × Nat := (t, none, false, 0)
    if l.pc == .idle then
      let r := rngPick rng 100
      rng := rngNext rng
      if r < cfg.pResize && !s.resizing && resizes < cfg.resizes && t != slow then
        a := (t, none, true, 0)
        resizes := resizes + 1
      else if r < cfg.pResize + cfg.pCall && calls < cfg.calls then
        let k := cfg.keys.getD (rngPick rng cfg.keys.length) 0
        rng := rngNext rng
        let op := mkOp (rngPick rng 12) (100 + calls)
        a := (t, some (k, op), false, 0)
        calls := calls + 1
      else continue
    else
      if t == slow && l.call.isSome && rngPick rng 100 < slowPct then continue
      rng := rngNext rng
      a := (t, none, false, rngPick rng 8)
    match f s a.1 a.2.1 a.2.2.1 a.2.2.2 with
    | none => cnt := { cnt with blocked := cnt.blocked + 1 }
    | some s' =>
      cnt := cnt.event s s' t
      sc := sc.push a
      s := s'
  -- drain
  for _ in [0:400] do
    if quiescentB s then break
    for t in [0:cfg.nthreads] do
      let l := s.threads.getD t {}
      if l.pc != .idle then
        rng := rngNext rng
        let a : Nat × Option (Nat × KOp) × Bool × Nat := (t, none, false, rngPick rng 8)
        match f s a.1 a.2.1 a.2.2.1 a.2.2.2 with
        | none => cnt := { cnt with blocked := cnt.blocked + 1 }
        | some s' =>
          cnt := cnt.event s s' t
          sc := sc.push a
          s := s'
  return (sc.toList, s, cnt)

structure Out where
  cnt : Cnt := {}
  bad : Option (Sched × Nat) := none
  nbad : Nat := 0
  runs : Nat := 0
  quiescentRuns : Nat := 0
  maxHist : Nat := 0
  maxSched : Nat := 0
  cur1 : Nat := 0
  cur2 : Nat := 0
  cur3 : Nat := 0

def explore (cfg : Cfg) (seed0 nruns : Nat) : Out := Id.run do
  let mut o : Out := {}
  for i in [0:nruns] do
    let (sc, s, cnt') := oneRun cfg (rngNext (seed0 + 7919 * i)) o.cnt
    o := { o with cnt := cnt', runs := o.runs + 1, maxSched := max o.maxSched sc.length }
    if quiescentB s then
      o := { o with quiescentRuns := o.quiescentRuns + 1 }
      let mut isBad := false
      for k in cfg.keys do
        let h := callsOn s k
        if h.length > o.maxHist then o := { o with maxHist := h.length }
        if !linB s k then
          isBad := true
          if o.bad.isNone then o := { o with bad := some (sc, k) }
      if isBad then o := { o with nbad := o.nbad + 1 }
    if s.cur ≥ 1 then o := { o with cur1 := o.cur1 + 1 }
    if s.cur ≥ 2 then o := { o with cur2 := o.cur2 + 1 }
    if s.cur == 3 then o := { o with cur3 := o.cur3 + 1 }
  return o

def Out.report (o : Out) : String :=
  s!"runs {o.runs}, drained to quiescence {o.quiescentRuns}, longest per-key history {o.maxHist}, " ++
  s!"longest schedule {o.maxSched}, final cur ≥ 1: {o.cur1}, ≥ 2: {o.cur2}, = 3: {o.cur3}, " ++
  s!"loads of a cell one or more generations behind: {o.cnt.stale1}, two or more: {o.cnt.stale2} " ++
  s!"(readers {o.cnt.stale2r}, writers {o.cnt.stale2w}), failed re-checks: {o.cnt.failed}, " ++
  s!"locks taken on a forwarded cell: {o.cnt.lockedMoved}, blocked steps: {o.cnt.blocked}, " ++
  (match o.bad with
   | none => "ALL LINEARIZABLE"
   | some (sc, k) => s!"NOT LINEARIZABLE in {o.nbad} runs, first on key {k}: {repr sc}")

/-- a small sample at build time -/
def sample : Out := explore { nthreads := 3, steps := 200 } 11 200
/-- … and the variant without the re-check -/
def sampleNoCheck : Out := explore { nthreads := 3, steps := 200, noCheck := true } 11 60

#eval IO.println ((sample.report.take 600).toString)
#eval IO.println s!"noCheck: {sampleNoCheck.runs} runs, {sampleNoCheck.quiescentRuns} quiescent, not linearizable: {sampleNoCheck.nbad}"

/-! ## kernel-checked runs -/

/-- `n` further steps of thread `t` (`pick = p`) -/
def rep (t n : Nat) (p : Nat := 0) : Sched := List.replicate n (t, none, false, p)
def call (t k : Nat) (op : KOp) : Sched := [(t, some (k, op), false, 0)]
/-- thread `t` starts the next resize -/
def rz (t : Nat) : Sched := [(t, none, true, 0)]

/-- thread 0: `insert(1)` (CAS into the empty cell), `insert(0)` (appended under the lock) -/
def setup : Sched := call 0 1 (.ins 5 100) ++ rep 0 3 ++ call 0 0 (.ins 6 101) ++ rep 0 6

/-- four threads: thread 0 performs the calls, thread 1 is the slow reader, thread 3 the slow writer,
thread 2 resizes twice. -/
def schedStale2A : Sched :=
  setup ++ call 1 1 .get ++ rep 1 1 ++ call 3 1 (.ins 7 102) ++ rep 3 1

def schedStale2B : Sched :=
  schedStale2A ++ rz 2 ++ rep 2 10 ++
  call 0 3 (.ins 8 103) ++ rep 0 6 ++ call 0 1 .get ++ rep 0 2 ++
  rz 2 ++ rep 2 8 ++ rep 2 8 1 ++ rep 2 2 ++
  call 0 1 (.ins 9 104) ++ rep 0 6 ++ call 0 1 .get ++ rep 0 2

def schedStale2 : Sched := schedStale2B ++ rep 1 3 ++ rep 3 7

/-- both slow threads loaded the table pointer of generation 0 BEFORE the first resize started … -/
theorem stale2_before :
    (run step (init 4) schedStale2A).map (fun s => (s.threads.map (·.pc), s.cur, s.resizing, s.tabs)) =
      some ([.idle, .rCell 0, .idle, .wCell 0], 0, false, [[.list [(1, 5, 100), (0, 6, 101)]]]) := by
  decide +kernel

/-- … and still hold it after the SECOND commit: two generations behind, every cell of generations 0
and 1 is a forwarding marker -/
theorem stale2_asleep :
    (run step (init 4) schedStale2B).map (fun s => (s.threads.map (·.pc), s.cur, s.resizing, s.tabs)) =
      some ([.idle, .rCell 0, .idle, .wCell 0], 2, false,
        [[.moved], [.moved, .moved],
         [.list [(0, 6, 101)], .list [(1, 9, 104)], .empty, .list [(3, 8, 103)]]]) := by
  decide +kernel

/-- the final state of the whole run: quiescent, linearizable on every key it touches. The slow `get`
(invoked at 12) follows the markers of generations 0 and 1 and returns (68) the value of generation 2;
the slow `insert` (invoked at 14) follows them too, locks the cell of generation 2 and returns (75) the
previous value it found there -/
theorem stale2_summary :
    (run step (init 4) schedStale2).map (summary [0, 1, 2, 3]) =
      some ⟨true, true,
        [⟨0, .ins 5 100, .none, 1, 4⟩, ⟨0, .get, .some 5 100, 34, 36⟩, ⟨0, .ins 9 104, .some 5 100, 56, 62⟩,
         ⟨0, .get, .some 9 104, 63, 65⟩, ⟨1, .get, .some 9 104, 12, 68⟩, ⟨3, .ins 7 102, .some 9 104, 14, 75⟩],
        some (7, 102), 2,
        [[.moved], [.moved, .moved],
         [.list [(0, 6, 101)], .list [(1, 7, 102)], .empty, .list [(3, 8, 103)]]]⟩ := by
  decide +kernel

/-- the run over two resizes with threads two generations behind is reachable, quiescent and
linearizable on every key it touches -/
theorem stale2_reachable :
    ∃ s, run step (init 4) schedStale2 = some s ∧ Reachable 4 s ∧ quiescent s ∧ s.cur = 2 ∧
      ∀ k ∈ [0, 1, 2, 3], Linearizable (callsOn s k) none (absOf s k) := by
  obtain ⟨s, hr, hs⟩ := Option.map_eq_some_iff.1 stale2_summary
  exact ⟨s, hr, run_reachable _ .init hr, (quiescentB_iff s).1 (congrArg Summary.quiescent hs),
    congrArg Summary.cur hs,
    fun k hk => (linB_iff s k).1 (List.all_eq_true.1 (congrArg Summary.lin hs) k hk)⟩

/-! ### the re-check under the lock is load-bearing across the forwarding

Three threads: thread 0 `insert(1)`; thread 1 calls `insert(1)`, loads the table pointer and the cell
(a list) and is about to take the lock (`wLock 0`), then sleeps; thread 2 resizes: locks the cell,
splits it, stores the children, stores the marker, unlocks, commits. Thread 1 now takes the lock of the
forwarded cell. Without the re-check (`stepG false`) it replaces the MARKER by the list `[1 ↦ 7]`
(`content moved = []`) and returns "no previous value"; `get(1)` in the current table still returns 5. -/

def schedLost : Sched :=
  call 0 1 (.ins 5 100) ++ rep 0 3 ++ call 1 1 (.ins 7 102) ++ rep 1 2 ++ rz 2 ++ rep 2 10 ++ rep 1 4 ++
  call 0 1 .get ++ rep 0 2

/-- the same, and thread 1 is given the steps it needs to start over in the next generation -/
def schedLostLong : Sched := schedLost ++ rep 1 5

/-- the writer is at `wLock 0` when the resize starts, and the cell is forwarded when it gets the lock -/
theorem lost_window :
    (run step (init 3) (call 0 1 (.ins 5 100) ++ rep 0 3 ++ call 1 1 (.ins 7 102) ++ rep 1 2 ++ rz 2 ++
        rep 2 10 ++ rep 1 1)).map (fun s => (s.threads.map (·.pc), s.cur, s.tabs, getLock s 0 0)) =
      some ([.idle, .wCheck 0, .idle], 1, [[.moved], [.empty, .list [(1, 5, 100)]]], some 1) := by
  decide +kernel

/-- without the re-check: the marker of generation 0 is overwritten by a list, `insert(1) = 7` returns
`none` although `insert(1) = 5` returned before it was invoked, and the later `get(1)` returns 5; the
search finds no linearization -/
theorem lost_noCheck_summary :
    (run (stepG false) (init 3) schedLost).map (summary [1]) =
      some ⟨true, false,
        [⟨0, .ins 5 100, .none, 1, 4⟩, ⟨1, .ins 7 102, .none, 5, 22⟩, ⟨0, .get, .some 5 100, 23, 25⟩],
        some (5, 100), 1, [[.list [(1, 7, 102)]], [.empty, .list [(1, 5, 100)]]]⟩ := by
  decide +kernel

theorem lost_check_summary :
    (run step (init 3) schedLostLong).map (summary [1]) =
      some ⟨true, true,
        [⟨0, .ins 5 100, .none, 1, 4⟩, ⟨0, .get, .some 5 100, 23, 25⟩, ⟨1, .ins 7 102, .some 5 100, 5, 30⟩],
        some (7, 102), 1, [[.moved], [.empty, .list [(1, 7, 102)]]]⟩ := by
  decide +kernel

/-- with the re-check the slow insert unlocks, follows the marker and updates generation 1 -/
theorem lost_check_history :
    (run step (init 3) schedLostLong).map (fun s => (callsOn s 1, absOf s 1, s.cur, s.tabs)) =
      some ([⟨0, .ins 5 100, .none, 1, 4⟩, ⟨0, .get, .some 5 100, 23, 25⟩, ⟨1, .ins 7 102, .some 5 100, 5, 30⟩],
        some (7, 102), 1, [[.moved], [.empty, .list [(1, 7, 102)]]]) := by
  have := congrArg (Option.map fun x => (x.hist, x.abs, x.cur, x.tabs)) lost_check_summary
  rw [Option.map_map] at this
  exact this

theorem all_one (p : Nat → Bool) : [1].all p = p 1 := Bool.and_true _

theorem linB_one {s : State} {x : Summary} (h : summary [1] s = x) : linB s 1 = x.lin :=
  (all_one _).symm.trans (congrArg Summary.lin h)

/-- **the re-check is load-bearing**: without it, a reachable quiescent state (after a complete resize)
whose history of key 1 is not linearizable -/
theorem noCheck_not_linearizable :
    ∃ s, ReachableNoCheck 3 s ∧ quiescent s ∧ s.cur = 1 ∧
      ¬ Linearizable (callsOn s 1) none (absOf s 1) := by
  obtain ⟨s, hr, hs⟩ := Option.map_eq_some_iff.1 lost_noCheck_summary
  exact ⟨s, run_reachableNoCheck _ .init hr, (quiescentB_iff s).1 (congrArg Summary.quiescent hs),
    congrArg Summary.cur hs, (linB_false_iff s 1).1 (linB_one hs)⟩

/-- hence per-key linearizability at quiescence is false for the variant without the re-check -/
theorem noCheck_refutes :
    ¬ ∀ (n : Nat) (s : State), ReachableNoCheck n s → quiescent s → ∀ k,
      Linearizable (callsOn s k) none (absOf s k) := by
  intro hall
  obtain ⟨s, hr, hq, -, hn⟩ := noCheck_not_linearizable
  exact hn (hall 3 s hr hq 1)

/-- the same interleaving with the re-check is reachable, quiescent and linearizable -/
theorem lost_check_reachable :
    ∃ s, run step (init 3) schedLostLong = some s ∧ Reachable 3 s ∧ quiescent s ∧
      Linearizable (callsOn s 1) none (absOf s 1) := by
  obtain ⟨s, hr, hs⟩ := Option.map_eq_some_iff.1 lost_check_summary
  exact ⟨s, hr, run_reachable _ .init hr, (quiescentB_iff s).1 (congrArg Summary.quiescent hs),
    (linB_iff s 1).1 (linB_one hs)⟩

end Flurry.Proto.BinNA
