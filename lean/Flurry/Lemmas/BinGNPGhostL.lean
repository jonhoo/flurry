import Flurry.Lemmas.BinGNPGhost
import Flurry.Lemmas.BinKHeapAux
/-! # Proto/BinGN: ghost history and the hindsight invariant of the list walkers — lemmas

The lemmas about the definitions of `Lemmas/BinGNPGhost.lean`:
* the extended history `callsOnExt` is the one of `Lemmas/GhostView.lean` at `view` (`extOf_eq`, `callsOnExt_eq`);
* `HInv.liveLC`: the live chain of a key is a `Live` chain (from `liveCell_exists`, `HInv` alone); foreign nodes:
  `HInv.foreign_key` (by `HInv.side`: `key % 2^id.1 = id.2 ≠ k % 2^id.1`), `HInv.foreign_next`, `foreign_suffix`
  (for the chain of any cell `id` with `k % 2^id.1 ≠ id.2`). A foreign node CAN be on the live chain (a re-used node of a
  child already stored by the transfer of the cell that is still live for `k`), hence `Good.absWit_of_foreign_or_none` asks
  for `c ∉ LC s k`;
* the walker lemmas `Good.first`, `Good.next`, `Good.hit`, `Good.miss`;
* **hindsight** `Good.step`: the justification of a list walker survives every `KStep`;
* `ValWit.kstep`; `GInv.trace`, `GInv.linearizable`; `KStep.of_same'`, `KStep.of_same`. -/
namespace Flurry.Proto.BinGNP
open Flurry.Lin
open Flurry.Proto.BinK (nodeAt binAt NextOK IsChain IsSeg chainOf CInv absL AbsWit OnCond ValWit CallOK nextA
  Live absWit_now onCond_succ nextA_old nextA_new pair_sublist_iff absL_eq_none_iff absL_eq_some_iff
  get_set get_set_ne get_set_self nodeAt_of_some getElem?_nodeAt)

variable {k : Nat} {s s' : State} {A : Nat → KSt} {pt : Nat → Nat} {t : Nat} {l l' : Local} {p : Pending}

theorem extOf_eq (k now t : Nat) (l : Local) : extOf k now t l = GhostView.extOf Lin.sig view k now t l := by
  unfold extOf GhostView.extOf; dsimp only [view]
  cases resOfPc l.pc <;> cases l.call <;> rfl

theorem callsOnExt_eq (s : State) (k : Nat) :
    callsOnExt s k = GhostView.callsOnExt Lin.sig view s.hist s.threads k s.now := by
  have : extOf k s.now = fun t l => GhostView.extOf Lin.sig view k s.now t l :=
    funext fun t => funext fun l => extOf_eq k s.now t l
  unfold callsOnExt extCalls; rw [this]; rfl

theorem extOf_none_of_key {k now t : Nat} {l : Local} {p : Pending} (hp : l.call = some p) (hk : p.key ≠ k) :
    extOf k now t l = none := by
  rw [extOf_eq]
  exact GhostView.extOf_none_of_key (fun q (hq : l.call = some q) => by rw [hp] at hq; cases hq; exact hk)

theorem callsOnExt_quiescent {s : State} (hq : quiescent s) (k : Nat) : callsOnExt s k = callsOn s k := by
  rw [callsOnExt_eq]; exact GhostView.callsOnExt_quiescent k s.now (fun l hl => congrArg resOfPc (hq l hl))

theorem LC_eq (s : State) (k : Nat) : LC s k = chainOf s.heap (startOf s.tbins (liveCell s k)) := rfl

theorem liveFrom_exists (s : State) (k : Nat) : ∀ fuel g, ∃ g', liveFrom s k fuel g = cellAt s (idOf g' k)
  | 0, g => ⟨g, rfl⟩
  | fuel + 1, g => by
    unfold liveFrom
    split
    · exact liveFrom_exists s k fuel (g + 1)
    · exact ⟨g, rfl⟩
/-- the live cell of `k` is the cell of `k` in some generation (`HInv` alone does not say which; with `XInv`: `liveCell_eq`) -/
theorem liveCell_exists (s : State) (k : Nat) : ∃ g, liveCell s k = cellAt s (idOf g k) :=
  liveFrom_exists s k _ _

theorem HInv.liveLC (H : HInv s) (k : Nat) :
    Live s.heap (startOf s.tbins (liveCell s k)) (LC s k) := by
  obtain ⟨g, hg⟩ := liveCell_exists s k
  have C := H.cinv (idOf g k)
  rw [← hg] at C
  exact ⟨C.nextOK, C.isChain, C.distinct⟩

theorem HInv.foreign_key (H : HInv s) {k c : Nat} (h : Foreign s k c) :
    (nodeAt s.heap c).key ≠ k := by
  intro hk
  obtain ⟨id, hc, hno⟩ := h
  have := H.side id c (Or.inl hc)
  rw [hk] at this
  exact hno this

theorem HInv.foreign_lt (H : HInv s) {k c : Nat} (h : Foreign s k c) : c < s.heap.length := by
  obtain ⟨id, hc, -⟩ := h
  exact (H.cinv id).chain_lt hc

theorem HInv.foreign_next (H : HInv s) {k c : Nat} (h : Foreign s k c) :
    c < s.heap.length ∧ ∀ n, (nodeAt s.heap c).next = some n → Foreign s k n := by
  refine ⟨H.foreign_lt h, ?_⟩
  intro n hn
  obtain ⟨id, hc, hno⟩ := h
  have hch := (H.cinv id).isChain
  obtain ⟨l1, l2, nd, hL, hnd, _, _⟩ := hch.at_mem hc
  have hnx : nd.next = l2.head? := (hL ▸ hch).next_eq hnd
  rw [nodeAt_of_some hnd, hnx] at hn
  refine ⟨id, ?_, hno⟩
  unfold chainC
  rw [hL]
  cases l2 with
  | nil => cases hn
  | cons b l2' =>
    simp only [List.head?_cons, Option.some.injEq] at hn
    subst hn
    simp

theorem liveId_moved (hm : cellAt s (idOf s.cur k) = .moved) : liveId s k = idOf (s.cur + 1) k := by
  unfold liveId; rw [if_pos hm]

/-- a foreign node of a generation not younger than the one of the live cell is not on the live chain (a foreign
node of a YOUNGER generation can be: a re-used node of the child `(cur+1, j')` already stored by the transfer of the
cell `(cur, j)` that is still the live cell of `k`) -/
theorem HInv.foreign_not_LC {s : State} (H : HInv s) {k c g : Nat} {id : Cid} (hg : liveCell s k = cellAt s (idOf g k))
    (hc : c ∈ chainC s (cellAt s id)) (hno : k % 2 ^ id.1 ≠ id.2) (hle : id.1 ≤ g) : c ∉ LC s k := by
  intro hc'
  unfold LC at hc'
  rw [hg] at hc'
  have h1 := H.side (idOf g k) c (Or.inl hc')
  have h2 := H.side id c (Or.inl hc)
  apply hno
  rw [← h2]
  have hd : 2 ^ id.1 ∣ 2 ^ g := Nat.pow_dvd_pow 2 hle
  have h1' : (nodeAt s.heap c).key % 2 ^ g = k % 2 ^ g := h1
  rw [← Nat.mod_mod_of_dvd k hd, ← h1', Nat.mod_mod_of_dvd _ hd]

theorem used_of_LC {s : State} (_H : HInv s) {k c : Nat} (h : c ∈ LC s k) : Used s c := by
  unfold LC at h
  obtain ⟨g, hg⟩ := liveCell_exists s k
  rw [hg] at h
  exact Or.inl ⟨idOf g k, h⟩

theorem used_of_foreign {k c : Nat} (h : Foreign s k c) : Used s c := by
  obtain ⟨id, hc, -⟩ := h
  exact Or.inl ⟨id, hc⟩


/-- the pointer loaded from the start of the live chain -/
theorem Good.first {k inv : Nat} (H : HInv s) (hA : A s.now = absOf s k)
    (hinv : inv ≤ s.now) : Good A k inv s (startOf s.tbins (liveCell s k)) := by
  have V := H.liveLC k
  rw [absOf_eq] at hA
  generalize hst : startOf s.tbins (liveCell s k) = st at V
  cases st with
  | none =>
    refine .absent (absWit_now hA hinv ?_)
    rw [IsChain.start_none V.ch]
    intro i hi; cases hi
  | some h =>
    obtain ⟨l, hl⟩ := IsChain.start_some V.ch
    refine .on (by rw [hl]; simp) (Or.inl ?_)
    intro i hi
    have := (pair_sublist_iff (p := []) V.nodup (by rw [hl]; rfl) i).1 hi
    cases this

/-- the pointer loaded from the `next` cell of a node with another key -/
theorem Good.next {k inv : Nat} (H : HInv s) (hA : A s.now = absOf s k)
    (hinv : inv ≤ s.now) {c : Nat} (hg : Good A k inv s (some c)) (hk : (nodeAt s.heap c).key ≠ k) :
    Good A k inv s (nodeAt s.heap c).next := by
  rw [absOf_eq] at hA
  cases hg with
  | on hc hcond =>
    obtain ⟨h1, h2⟩ := onCond_succ (H.liveLC k) hA hinv hc hcond hk
    cases hnx : (nodeAt s.heap c).next with
    | none => exact .absent (h1 hnx)
    | some b => exact .on (h2 b hnx).1 (h2 b hnx).2
  | foreign hf hw =>
    cases hnx : (nodeAt s.heap c).next with
    | none => exact .absent hw
    | some b => exact .foreign ((H.foreign_next hf).2 b hnx) hw
  | off _ _ hnext _ => exact hnext hk

/-- a list walker that finds key `k` in node `c` -/
theorem Good.hit {k inv : Nat} (H : HInv s) (hA : A s.now = absOf s k)
    (hinv : inv ≤ s.now) {c : Nat} (hg : Good A k inv s (some c)) (hk : (nodeAt s.heap c).key = k) :
    ∃ τ, inv ≤ τ ∧ τ ≤ s.now ∧ A τ = some (nodeAt s.heap c).val := by
  rw [absOf_eq] at hA
  cases hg with
  | on hc _ =>
    exact ⟨s.now, hinv, Nat.le_refl _, by rw [hA]; exact (absL_eq_some_iff (H.liveLC k).dist).2 ⟨c, hc, hk, rfl⟩⟩
  | foreign hf _ => exact absurd hk (H.foreign_key hf)
  | off _ _ _ hval => exact hval hk

theorem Good.miss {k inv : Nat} (hg : Good A k inv s none) : AbsWit A inv s.now := by
  cases hg with
  | absent h => exact h

/-- a walker at the end of a list or on a foreign node that is not on the live chain: the key was absent at some
time of the call -/
theorem Good.absWit_of_foreign_or_none {k inv : Nat} {cur : Option Nat}
    (hg : Good A k inv s cur)
    (h : cur = none ∨ ∃ c, cur = some c ∧ Foreign s k c ∧ c ∉ LC s k) :
    AbsWit A inv s.now := by
  rcases h with rfl | ⟨c, rfl, hf, hnl⟩
  · exact hg.miss
  · cases hg with
    | on hc _ => exact absurd hc hnl
    | foreign _ hw => exact hw
    | off hnu _ _ _ => exact absurd (used_of_foreign hf) hnu

/-! ## hindsight: the justification of a list walker survives every transition -/

/-- a walker on the live chain stays justified as long as its node stays on it -/
theorem onCond_kstep {A A' : Nat → KSt} {k inv : Nat} {c : Nat}
    (hs : KStep s s' k) (hnow : s'.now = s.now + 1) (hc : c ∈ LC s k) (hc' : c ∈ LC s' k)
    (hcond : OnCond A k inv s.now s.heap (LC s k) c)
    (hA' : ∀ τ, τ ≤ s.now → A' τ = A τ) (hA : A s.now = absL s.heap (LC s k) k) (hinv : inv ≤ s.now) :
    OnCond A' k inv s'.now s'.heap (LC s' k) c := by
  rw [hnow]
  rcases hcond with h1 | hw
  · by_cases hex : ∃ i, List.Sublist [i, c] (LC s' k) ∧ (nodeAt s'.heap i).key = k
    · obtain ⟨i, hi, hik⟩ := hex
      rcases hs.before c hc hc' i hi with ⟨i0, hi0, hk0⟩ | hall
      · exact absurd (hk0.trans hik) (h1 i0 hi0)
      · right
        refine (absWit_now hA hinv ?_).step hA'
        intro i0 hi0; rw [← hik]; exact hall i0 hi0
    · left
      intro i hi hik
      exact hex ⟨i, hi, hik⟩
  · exact Or.inr (hw.step hA')

/-- the nodes of a suffix of the old live chain stay justified: those that stay on the chain as
before, those that leave it as dead nodes — or, at the forwarding, as foreign nodes -/
theorem good_suffix {A A' : Nat → KSt} {k inv : Nat}
    (H : HInv s) (hs : KStep s s' k) (hnow : s'.now = s.now + 1)
    (hA' : ∀ τ, τ ≤ s.now → A' τ = A τ) (hA : A s.now = absL s.heap (LC s k) k) (hinv : inv ≤ s.now) :
    ∀ (l2 l1 : List Nat), LC s k = l1 ++ l2 → (l2 = [] → AbsWit A inv s.now) →
      (∀ c l2', l2 = c :: l2' → OnCond A k inv s.now s.heap (LC s k) c) →
      Good A' k inv s' l2.head?
  | [], _, _, hnil, _ => .absent (by rw [hnow]; exact (hnil rfl).step hA')
  | c :: l2', l1, hL, _, hcons => by
    have V := H.liveLC k
    have hc : c ∈ LC s k := by rw [hL]; simp
    have hcl := V.ch.lt_length c hc
    have hcond := hcons c l2' rfl
    simp only [List.head?_cons]
    by_cases hc' : c ∈ LC s' k
    · exact .on hc' (onCond_kstep hs hnow hc hc' hcond hA' hA hinv)
    · obtain ⟨hval, hnext, hdead⟩ := hs.leave c hc hc'
      have hkey := hs.key c hcl
      have hn := getElem?_nodeAt hcl
      have hnx : (nodeAt s.heap c).next = l2'.head? := by
        have hch := V.ch
        rw [hL] at hch
        exact hch.next_eq hn
      rcases hdead with hnu | ⟨hf, hrest⟩
      · refine .off hnu (by have := hs.len; omega) ?_ ?_
        · intro hk
          rw [hkey] at hk
          rw [hnext, hnx]
          obtain ⟨h1, h2⟩ := onCond_succ V hA hinv hc hcond hk
          refine good_suffix H hs hnow hA' hA hinv l2' (l1 ++ [c]) (by rw [hL]; simp) ?_ ?_
          · intro hnil
            apply h1
            rw [hnx, hnil]; rfl
          · intro b l3 hb
            refine (h2 b ?_).2
            rw [hnx, hb]; rfl
        · intro hk
          rw [hkey] at hk
          refine ⟨s.now, hinv, by omega, ?_⟩
          rw [hA' _ (Nat.le_refl _), hA, hval]
          exact (absL_eq_some_iff V.dist).2 ⟨c, hc, hk, rfl⟩
      · refine .foreign hf ?_
        rw [hnow]
        have hw : AbsWit A inv s.now := by
          rcases hcond with h1 | hw
          · refine absWit_now hA hinv ?_
            intro j hj
            by_cases hjc : List.Sublist [j, c] (LC s k)
            · exact h1 j hjc
            · exact hrest j hj hjc
          · exact hw
        exact hw.step hA'

/-- the nodes of a suffix of the foreign chain stay justified: as foreign nodes or as dead nodes -/
theorem foreign_suffix {A A' : Nat → KSt} {k inv : Nat}
    (H : HInv s) (hs : KStep s s' k) (hnow : s'.now = s.now + 1)
    (hA' : ∀ τ, τ ≤ s.now → A' τ = A τ) (id : Cid) (hno : k % 2 ^ id.1 ≠ id.2) (hw : AbsWit A inv s.now) :
    ∀ (l2 l1 : List Nat), chainC s (cellAt s id) = l1 ++ l2 → Good A' k inv s' l2.head?
  | [], _, _ => .absent (by rw [hnow]; exact hw.step hA')
  | c :: l2', l1, hL => by
    have hw' : AbsWit A' inv s'.now := by rw [hnow]; exact hw.step hA'
    have hf : Foreign s k c := ⟨id, by rw [hL]; simp, hno⟩
    have hcl := H.foreign_lt hf
    simp only [List.head?_cons]
    rcases hs.foreign c hf with hf' | ⟨hnu, hnext⟩
    · exact .foreign hf' hw'
    · have hch : IsChain s.heap (startOf s.tbins (cellAt s id)) (chainC s (cellAt s id)) :=
        (H.cinv id).isChain
      have hnx : (nodeAt s.heap c).next = l2'.head? := by
        rw [hL] at hch
        exact hch.next_eq (getElem?_nodeAt hcl)
      refine .off hnu (by have := hs.len; omega) ?_ ?_
      · intro _
        rw [hnext, hnx]
        exact foreign_suffix H hs hnow hA' id hno hw l2' (l1 ++ [c]) (by rw [hL]; simp)
      · intro hk
        rw [hs.key c hcl] at hk
        exact absurd hk (H.foreign_key hf)

/-- **hindsight**: the justification of a list walker survives every transition -/
theorem Good.step {A A' : Nat → KSt} {k inv : Nat} {cur : Option Nat}
    (hg : Good A k inv s cur) (H : HInv s) (hs : KStep s s' k) (hnow : s'.now = s.now + 1)
    (hA' : ∀ τ, τ ≤ s.now → A' τ = A τ) (hA : A s.now = absOf s k) (hinv : inv ≤ s.now) :
    Good A' k inv s' cur := by
  rw [absOf_eq] at hA
  induction hg with
  | absent h => exact .absent (by rw [hnow]; exact h.step hA')
  | @on c hc hcond =>
    obtain ⟨l1, l2, hL⟩ := List.append_of_mem hc
    have := good_suffix H hs hnow hA' hA hinv (c :: l2) l1 hL (fun h => by cases h)
      (fun c' l2' h => by cases h; exact hcond)
    simpa using this
  | @foreign c hf hw =>
    obtain ⟨id, hc, hno⟩ := hf
    obtain ⟨l1, l2, hL⟩ := List.append_of_mem hc
    have := foreign_suffix H hs hnow hA' id hno hw (c :: l2) l1 hL
    simpa using this
  | @off c hnu hcl _ hval ih =>
    obtain ⟨hv, hn⟩ := hs.frozen c hcl hnu
    have hkey := hs.key c hcl
    refine .off (fun h => hnu (hs.stable c hcl h)) (by have := hs.len; omega) ?_ ?_
    · intro hk
      rw [hkey] at hk
      rw [hn]
      exact ih hk
    · intro hk
      rw [hkey] at hk
      obtain ⟨τ, h1, h2, h3⟩ := hval hk
      exact ⟨τ, h1, by omega, by rw [hA' _ h2, hv]; exact h3⟩

theorem ValWit.kstep {A A' : Nat → KSt} {k inv : Nat} {i : Nat}
    (h : ValWit A k inv s.now s.heap i) (H' : HInv s') (hs : KStep s s' k)
    (hnow : s'.now = s.now + 1) (hA' : ∀ τ, τ ≤ s.now → A' τ = A τ) (hA'n : A' s'.now = absOf s' k)
    (hinv : inv ≤ s.now) : ValWit A' k inv s'.now s'.heap i := by
  obtain ⟨hk, hil, τ, h1, h2, h3⟩ := h
  have hkey := hs.key i hil
  refine ⟨by rw [hkey]; exact hk, by have := hs.len; omega, ?_⟩
  by_cases hv : (nodeAt s'.heap i).val = (nodeAt s.heap i).val
  · exact ⟨τ, h1, by omega, by rw [hA' _ h2, hv]; exact h3⟩
  · have hc := hs.valchg i hil hv hk
    refine ⟨s'.now, by omega, Nat.le_refl _, ?_⟩
    rw [hA'n, absOf_eq]
    exact (absL_eq_some_iff (H'.liveLC k).dist).2 ⟨i, hc, by rw [hkey]; exact hk, rfl⟩

theorem GInv.trace (g : GInv k s A pt) :
    GhostView.Trace Lin.sig (GhostView.callsOnExt Lin.sig view s.hist s.threads k s.now) s.now (absOf s k) A pt := by
  rw [← callsOnExt_eq]; exact ⟨g.h0, g.hA, g.calls, g.stab, g.inj⟩

theorem GInv.linearizable {k : Nat} {s : State} {A : Nat → KSt} {pt : Nat → Nat}
    (g : GInv k s A pt) (T : TInv s) : Linearizable (callsOnExt s k) none (absOf s k) :=
  callsOnExt_eq s k ▸ g.trace.lin T.gen

/-! ## transitions that change nothing a walker sees -/

theorem mem_LC_lt {s : State} {k i : Nat} (h : i ∈ LC s k) : i < s.heap.length :=
  Flurry.Proto.BinK.mem_chainFrom_lt _ _ _ h

/-- nothing a list walker sees changes: same live chain, old nodes keep key, value and `next`, no
dead node comes to life, foreign nodes stay foreign or die -/
theorem KStep.of_same' (hlen : s.heap.length ≤ s'.heap.length)
    (hold : ∀ j, j < s.heap.length → (nodeAt s'.heap j).key = (nodeAt s.heap j).key ∧
      (nodeAt s'.heap j).val = (nodeAt s.heap j).val ∧ (nodeAt s'.heap j).next = (nodeAt s.heap j).next)
    (hLC : LC s' k = LC s k) (hused : ∀ j, j < s.heap.length → Used s' j → Used s j)
    (hfor : ∀ c, Foreign s k c → Foreign s' k c ∨
      (¬ Used s' c ∧ (nodeAt s'.heap c).next = (nodeAt s.heap c).next)) : KStep s s' k := by
  refine ⟨hlen, fun j hj => (hold j hj).1, fun j hj _ => (hold j hj).2, hused, ?_, ?_, ?_, hfor⟩
  · intro c hc hc'
    rw [hLC] at hc'
    exact absurd hc hc'
  · intro c _ _ i hi
    rw [hLC] at hi
    have hil : i < s.heap.length := mem_LC_lt (hi.subset (by simp))
    exact Or.inl ⟨i, hi, ((hold i hil).1).symm⟩
  · intro j hj hne _
    exact absurd (hold j hj).2.1 hne

theorem KStep.of_same (hlen : s.heap.length ≤ s'.heap.length)
    (hold : ∀ j, j < s.heap.length → (nodeAt s'.heap j).key = (nodeAt s.heap j).key ∧
      (nodeAt s'.heap j).val = (nodeAt s.heap j).val ∧ (nodeAt s'.heap j).next = (nodeAt s.heap j).next)
    (hLC : LC s' k = LC s k) (hused : ∀ j, j < s.heap.length → Used s' j → Used s j)
    (hfor : ∀ c, Foreign s k c → Foreign s' k c) : KStep s s' k :=
  KStep.of_same' hlen hold hLC hused fun c hc => Or.inl (hfor c hc)

end Flurry.Proto.BinGNP
