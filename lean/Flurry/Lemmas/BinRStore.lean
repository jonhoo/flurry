import Flurry.Lemmas.BinRMain
/-! # Proto/BinR: the store of a `condRm` writer, and the first half of a `retain` visit (C13)

`condRm_store`: in a reachable state, the single store of a writer executing `condRm vi` happens
under the validated bin lock, the node it remembered (`hit`) is the node of its key on the live
chain, and the store takes the key to absent iff that node's current value id is `vi`; otherwise the
state is left as it is. `visit_*`: the steps of the first half of a `retain` visit, read off `step`. -/
namespace Flurry.Proto.BinR
open Flurry.Lin2

theorem storeAt_condRm_res (s : State) {p : Pending} {vi : Nat} (hop : p.op = .condRm vi)
    (pred hit hnext : Option Nat) : (storeAt s p pred hit hnext).2 = .none := by
  unfold storeAt
  simp only [hop]
  cases hit with
  | none => rfl
  | some i =>
    simp only
    split <;> rfl

theorem storeAt_condRm_none (s : State) {p : Pending} {vi : Nat} (hop : p.op = .condRm vi)
    (pred hnext : Option Nat) : (storeAt s p pred none hnext).1 = s := by
  unfold storeAt
  simp only [hop]

theorem storeAt_condRm_other (s : State) {p : Pending} {vi i : Nat} (hop : p.op = .condRm vi)
    (pred hnext : Option Nat) (hv : (s.heap.getD i ⟨0, (0, 0), none, none⟩).val.2 ≠ vi) :
    (storeAt s p pred (some i) hnext).1 = s := by
  unfold storeAt
  simp only [hop, if_neg hv]

theorem condRm_store {n : Nat} {s : State} (hr : Reachable n s) {t : Nat} {l : Local} {p : Pending}
    {h : Nat} {pred hit hnext : Option Nat} {vi : Nat}
    (hl : s.threads[t]? = some l) (hpc : l.pc = .wStore h pred hit hnext) (hc : l.call = some p)
    (hop : p.op = .condRm vi) :
    (s.head = some h ∧ (s.heap.getD h ⟨0, (0, 0), none, none⟩).lock = some t) ∧
    (chain s).find? (fun i => (s.heap.getD i ⟨0, (0, 0), none, none⟩).key == p.key) = hit ∧
    (storeAt s p pred hit hnext).2 = .none ∧
    (match hit with
      | some i =>
        if (s.heap.getD i ⟨0, (0, 0), none, none⟩).val.2 = vi then
          absOf s p.key = some (s.heap.getD i ⟨0, (0, 0), none, none⟩).val ∧
          absOf (storeAt s p pred hit hnext).1 p.key = none
        else (storeAt s p pred hit hnext).1 = s
      | none => (storeAt s p pred hit hnext).1 = s) ∧
    ∀ k, k ≠ p.key → absOf (storeAt s p pred hit hnext).1 k = absOf s k := by
  have W := reachable_winv hr
  have H := W.inv.heap
  have w := W.walk t l p hl hc
  rw [hpc] at w
  have hfind := (w.1.positions H (fun i hi => (w.2 i hi).1)).1
  have hfind' : (Base.chain (proj s)).find?
      (fun i => ((proj s).heap.getD i ⟨0, (0, 0), none, none⟩).key == p.key) = hit := hfind
  have hfindS : (chain s).find? (fun i => (s.heap.getD i ⟨0, (0, 0), none, none⟩).key == p.key) = hit := by
    rw [chain_proj] at hfind'
    simpa only [getD_proj, cN_key] using hfind'
  have hval := W.linv.validated t (cL l) h (proj_thread hl) (by rw [cL_pc, hpc]; rfl)
  have hlock := (W.linv.lockHeld t (cL l) h (proj_thread hl) (by rw [cL_pc, hpc]; exact rfl)).2
  have hlock' : (s.heap.getD h ⟨0, (0, 0), none, none⟩).lock = some t := by
    have : Base.nodeAt (proj s).heap h = cN (s.heap.getD h ⟨0, (0, 0), none, none⟩) := getD_proj s h
    rw [this] at hlock
    exact hlock
  obtain ⟨e1, e2⟩ := storeAt_eq_writerStore (s := s) (p := p) H w.1 w.2
  obtain ⟨-, -, -, -, -, hspec, hothers⟩ := Base.writerStore_spec H (cP p) (by rw [cP_op, hop]; rfl)
  rw [← e1, ← e2, absOf_proj, absOf_proj, cP_key, cP_op] at hspec
  refine ⟨⟨hval, hlock'⟩, hfindS, storeAt_condRm_res s hop _ _ _, ?_, ?_⟩
  · cases hit with
    | none => exact storeAt_condRm_none s hop _ _
    | some i =>
      simp only
      by_cases hv : (s.heap.getD i ⟨0, (0, 0), none, none⟩).val.2 = vi
      · rw [if_pos hv]
        have habs : absOf s p.key = some (s.heap.getD i ⟨0, (0, 0), none, none⟩).val := by
          have := Base.absOf_of_hit H hfind
          rw [absOf_proj] at this
          rw [this]
          have hn : Base.nodeAt (proj s).heap i = cN (s.heap.getD i ⟨0, (0, 0), none, none⟩) := getD_proj s i
          rw [hn]; rfl
        refine ⟨habs, ?_⟩
        rw [habs, hop] at hspec
        have hs : specStep2 (some (s.heap.getD i ⟨0, (0, 0), none, none⟩).val) (.condRm vi) = (none, .none) := by
          have : (s.heap.getD i ⟨0, (0, 0), none, none⟩).val =
              ((s.heap.getD i ⟨0, (0, 0), none, none⟩).val.1, vi) := by rw [← hv]
          rw [this]
          simp [specStep2]
        rw [hs] at hspec
        exact (congrArg Prod.fst hspec).symm
      · rw [if_neg hv]
        exact storeAt_condRm_other s hop _ _ hv
  · intro k hk
    have := hothers k (by rw [cP_key]; exact hk)
    rw [← e1, absOf_proj, absOf_proj] at this
    exact this

theorem visit_load {s s' : State} {t : Nat} {l : Local} {inv : Option Inv} {k c : Nat}
    (hl : s.threads[t]? = some l) (hpc : l.pc = .vNode k (some c)) (hs : step s t inv = some s') :
    ∃ nd, s.heap[c]? = some nd ∧
      s' = setT (tick s) t { l with pc := if nd.key = k then .vLoaded k nd.val.2 else .vNode k nd.next } := by
  unfold step stepG at hs
  rw [hl] at hs
  obtain ⟨pc, call⟩ := l
  simp only at hpc
  subst hpc
  simp only at hs
  cases hn : s.heap[c]? with
  | none => rw [hn] at hs; simp at hs
  | some nd =>
    rw [hn] at hs
    simp only at hs
    refine ⟨nd, rfl, ?_⟩
    by_cases hk : nd.key = k
    · rw [if_pos (by simpa using hk)] at hs
      rw [if_pos hk]
      exact (Option.some.inj hs).symm
    · rw [if_neg (by simpa using hk)] at hs
      rw [if_neg hk]
      exact (Option.some.inj hs).symm

theorem visit_drop {s : State} {t : Nat} {l : Local} {k vi : Nat}
    (hl : s.threads[t]? = some l) (hpc : l.pc = .vLoaded k vi) :
    step s t (some .drop) =
      some (setT (tick s) t { pc := .wHead, call := some ⟨k, .condRm vi, s.now + 1⟩ }) := by
  unfold step stepG
  rw [hl]
  obtain ⟨pc, call⟩ := l
  simp only at hpc
  subst hpc
  rfl

theorem visit_keep {s : State} {t : Nat} {l : Local} {k vi : Nat} {inv : Option Inv}
    (hl : s.threads[t]? = some l) (hpc : l.pc = .vLoaded k vi) (hinv : inv ≠ some .drop) :
    step s t inv = some (setT (tick s) t { l with pc := .idle }) := by
  unfold step stepG
  rw [hl]
  obtain ⟨pc, call⟩ := l
  simp only at hpc
  subst hpc
  cases inv with
  | none => rfl
  | some i =>
    cases i with
    | call k' op => rfl
    | visit k' => rfl
    | drop => exact absurd rfl hinv

end Flurry.Proto.BinR
