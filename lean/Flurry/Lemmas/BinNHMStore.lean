import Flurry.Lemmas.BinNHMSurgery
import Flurry.Lemmas.BinXStore
/-! # Proto/BinN and Proto/BinNH: the store of a validated writer (C01)

`store_effect`: thanks to the validated lock the positions a writer remembered during its walk
(`Walk`) are the current ones, so storing through them is one of the list surgeries on the chain of
its (active) cell: it is the specification step on its own key and leaves every other key alone. -/
namespace Flurry.Proto.BinNHM
open Flurry.Proto.BinN
open Flurry.Lin
open Flurry.Proto.BinX (chainH_node NodeS Cell Pending isReader dflt chainFrom cellHead cellOfHead nodeAt IsSeg IsChain chainH
  chainH_empty chainH_moved absIn absIn_eq_some_iff absIn_eq_none_iff KeysDistinct Walk Walk.hit_some Walk.hit_none
  Walk.cur_mem)

/-- what `store_effect` says of the pair `r` that `storeAt` returns for the call `p` on the active cell `id`: a list surgery
on the chain of `id`, the specification step on `p.key`, every other key left alone -/
def StoreOK (s : State) (G : Ghost) (id : CellId) (p : Pending) (r : State × KRes) : Prop :=
  Effect s r.1 G id ∧ r.1.threads = s.threads ∧
  specStep (absOf s p.key) p.op = (absOf r.1 p.key, r.2) ∧ ∀ k, k ≠ p.key → absOf r.1 k = absOf s k

theorem absOf_active {s : State} {G : Ghost} {id : CellId} (H : HInv s G) (act : Active s G id) {k : Nat}
    (hk : keyOn id k) : absOf s k = absIn s.heap (chId s id) k := by
  rw [absOf_eq, H.LC_eq k, H.liveId_of_active act hk]

theorem storeOK_swap {s : State} {G : Ghost} {id : CellId} (H : HInv s G) (act : Active s G id) (p : Pending)
    (hk : keyOn id p.key) {i : Nat} {v : Nat × Nat} {res : KRes}
    (hi : i ∈ chId s id) (hik : (nodeAt s.heap i).key = p.key)
    (hspec : specStep (some (nodeAt s.heap i).val) p.op = (some v, res)) :
    StoreOK s G id p (setNode s i (fun n => { n with val := v }), res) := by
  obtain ⟨he, hab⟩ := swap_effect (s' := setNode s i (fun n => { n with val := v })) H act hi rfl
    (fun id' => getCell_setNode s i _ id') rfl rfl rfl (rows_of_tabs_eq rfl)
  refine ⟨he, rfl, ?_, ?_⟩
  · rw [absOf_active H act hk, (absIn_eq_some_iff (H.keys id)).2 ⟨i, hi, hik, rfl⟩, hspec, hab, if_pos hik]
  · intro k hkne
    rw [hab, if_neg (by rw [hik]; exact fun h => hkne h.symm)]

theorem storeOK_noop {s : State} {G : Ghost} {id : CellId} (H : HInv s G) (act : Active s G id) (p : Pending)
    {res : KRes}
    (hspec : specStep (absOf s p.key) p.op = (absOf s p.key, res)) : StoreOK s G id p (s, res) := by
  obtain ⟨he, hab⟩ := noop_effect (s' := s) H act rfl rfl rfl rfl
  exact ⟨he, rfl, hspec, fun _ _ => rfl⟩

/-- an active cell is inside the tables -/
theorem Active.inTabs {s : State} {G : Ghost} {id : CellId} (S : Shape s) (act : Active s G id) :
    ∃ row, s.tabs[id.1]? = some row ∧ id.2 < row.length := by
  obtain ⟨g, j⟩ := id
  have hg : g < s.tabs.length ∧ j < 2 ^ g := by
    rcases act with ⟨hg, hj, -, -⟩ | ⟨hg, hj, hpar⟩
    · simp only at hg hj
      subst hg
      exact ⟨S.cur_lt, hj⟩
    · simp only at hg hj hpar
      subst hg
      have hr := S.curMoved _ hpar
      have := S.len
      rw [hr] at this
      simp only [if_true] at this
      exact ⟨by omega, hj⟩
  refine ⟨s.tabs[g], List.getElem?_eq_getElem hg.1, ?_⟩
  rw [S.rows g _ (List.getElem?_eq_getElem hg.1)]
  exact hg.2

theorem Active.inTabs_key {s : State} {G : Ghost} {g k : Nat} (S : Shape s) (act : Active s G (cellId g k)) :
    ∃ row, s.tabs[g]? = some row ∧ k % 2 ^ g < row.length := act.inTabs S

theorem storeOK_unlink {s : State} {G : Ghost} {g : Nat} (H : HInv s G) (p : Pending)
    (act : Active s G (cellId g p.key)) {pred : Option Nat} {i : Nat} {res : KRes}
    (w : Walk s.heap (chId s (cellId g p.key)) p.key pred (some i))
    (hik : (nodeAt s.heap i).key = p.key)
    (hspec : specStep (some (nodeAt s.heap i).val) p.op = (none, res)) :
    StoreOK s G (cellId g p.key) p (unlinkAt s g p.key pred (nodeAt s.heap i).next, res) := by
  have hk := keyOn_cellId g p.key
  have hi := w.cur_mem
  obtain ⟨l1, l2, hch, hpred, -⟩ := w.hit_some
  rcases List.eq_nil_or_concat l1 with rfl | ⟨l1', pr, rfl⟩
  · simp only [List.getLast?_nil] at hpred
    subst hpred
    simp only [List.nil_append] at hch
    obtain ⟨hfr1, hfr2, -, -, hfr5, hfr6⟩ := setCell_frame s g p.key (cellOfHead (nodeAt s.heap i).next)
    obtain ⟨hs1, hs2⟩ := setCell_shape s g p.key (cellOfHead (nodeAt s.heap i).next)
    obtain ⟨row, hr, hj⟩ := act.inTabs_key H.shape
    obtain ⟨he, hab⟩ := unlink_head_effect (s' := setCell s g p.key (cellOfHead (nodeAt s.heap i).next))
      H act hch hfr1 (fun id' => getCell_setCell s g p.key _ hr hj id') hfr5 hfr6 hs1 hs2
    rw [unlinkAt_none]
    refine ⟨he, hfr2, ?_, ?_⟩
    · rw [absOf_active H act hk, (absIn_eq_some_iff (H.keys _)).2 ⟨i, hi, hik, rfl⟩, hspec, hab, if_pos hik]
    · intro k hkne
      rw [hab, if_neg (by rw [hik]; exact fun h => hkne h.symm)]
  · simp only [List.concat_eq_append, List.getLast?_append, List.getLast?_singleton, Option.some_or] at hpred
    subst hpred
    have hch' : chId s (cellId g p.key) = l1' ++ pr :: i :: l2 := by rw [hch]; simp
    obtain ⟨he, hab⟩ := unlink_mid_effect (s' := setNode s pr (fun m => { m with next := (nodeAt s.heap i).next }))
      H act hch' rfl (fun id' => getCell_setNode s pr _ id') rfl rfl rfl (rows_of_tabs_eq rfl)
    show StoreOK s G _ p (setNode s pr (fun m => { m with next := (nodeAt s.heap i).next }), res)
    refine ⟨he, rfl, ?_, ?_⟩
    · rw [absOf_active H act hk, (absIn_eq_some_iff (H.keys _)).2 ⟨i, hi, hik, rfl⟩, hspec, hab, if_pos hik]
    · intro k hkne
      rw [hab, if_neg (by rw [hik]; exact fun h => hkne h.symm)]

theorem storeOK_append {s : State} {G : Ghost} {g : Nat} (H : HInv s G) (p : Pending)
    (act : Active s G (cellId g p.key)) {pred : Option Nat} {v : Nat × Nat}
    (w : Walk s.heap (chId s (cellId g p.key)) p.key pred none)
    (hne : chId s (cellId g p.key) ≠ [])
    (hspec : specStep none p.op = (some v, .none)) :
    StoreOK s G (cellId g p.key) p (appendAt s g p.key pred v, KRes.none) := by
  have hk := keyOn_cellId g p.key
  obtain ⟨hpred, hfresh⟩ := w.hit_none
  obtain ⟨l0, last, hch⟩ : ∃ l0 last, chId s (cellId g p.key) = l0 ++ [last] := by
    rcases List.eq_nil_or_concat (chId s (cellId g p.key)) with h | ⟨l0, last, h⟩
    · exact absurd h hne
    · exact ⟨l0, last, by rw [h]; simp⟩
  rw [hch] at hpred
  simp only [List.getLast?_append, List.getLast?_singleton, Option.some_or] at hpred
  subst hpred
  obtain ⟨he, hab⟩ := append_effect (s' := setNode { s with heap := s.heap ++ [(⟨p.key, v, none, none⟩ : NodeS)] } last
      (fun n => { n with next := some s.heap.length })) (new := (⟨p.key, v, none, none⟩ : NodeS))
    H act hch rfl hk hfresh rfl (fun id' => rfl) rfl rfl rfl (rows_of_tabs_eq rfl)
  show StoreOK s G _ p (setNode { s with heap := s.heap ++ [(⟨p.key, v, none, none⟩ : NodeS)] } last
      (fun n => { n with next := some s.heap.length }), KRes.none)
  refine ⟨he, rfl, ?_, ?_⟩
  · rw [absOf_active H act hk, absIn_eq_none_iff.2 hfresh, hspec, hab]; simp
  · intro k hkne
    rw [hab, if_neg (fun h => hkne h.symm)]

/-- **the store of a validated writer** through the positions remembered during its walk is the
specification step on its own key, leaves every other key alone, and is one of the list surgeries -/
theorem store_effect {s : State} {G : Ghost} {g : Nat} (H : HInv s G) (p : Pending)
    (hwr : isReader p.op = false) (act : Active s G (cellId g p.key)) {h : Nat} {pred hit hnext : Option Nat}
    (hcell : cellOf s g p.key = .node h)
    (hw : Walk s.heap (chainH s.heap (cellOf s g p.key)) p.key pred hit)
    (hhit : ∀ i, hit = some i → (nodeAt s.heap i).key = p.key ∧ hnext = (nodeAt s.heap i).next) :
    StoreOK s G (cellId g p.key) p (storeAt s g p pred hit hnext) := by
  have hk := keyOn_cellId g p.key
  have w : Walk s.heap (chId s (cellId g p.key)) p.key pred hit := hw
  have hcell' : getCell s (cellId g p.key) = .node h := hcell
  have hne : chId s (cellId g p.key) ≠ [] := by
    obtain ⟨l, hl⟩ := chainH_node (ranked_ord _) H.nextOK (H.head _ h hcell')
    unfold chId
    rw [hcell', hl]
    exact List.cons_ne_nil _ _
  unfold storeAt
  simp only
  cases hop : p.op with
  | get => rw [hop] at hwr; cases hwr
  | has => rw [hop] at hwr; cases hwr
  | ins v vi =>
    cases hit with
    | some i =>
      dsimp only
      refine storeOK_swap H act p hk w.cur_mem (hhit i rfl).1 ?_
      rw [hop]; rfl
    | none =>
      dsimp only
      refine storeOK_append H p act w hne ?_
      rw [hop]; rfl
  | tryIns v vi =>
    cases hit with
    | some i =>
      dsimp only
      refine storeOK_noop H act p ?_
      rw [absOf_active H act hk, (absIn_eq_some_iff (H.keys _)).2 ⟨i, w.cur_mem, (hhit i rfl).1, rfl⟩, hop]
      rfl
    | none =>
      dsimp only
      refine storeOK_append H p act w hne ?_
      rw [hop]; rfl
  | rm =>
    cases hit with
    | some i =>
      dsimp only
      rw [(hhit i rfl).2]
      refine storeOK_unlink H p act w (hhit i rfl).1 ?_
      rw [hop]; rfl
    | none =>
      dsimp only
      refine storeOK_noop H act p ?_
      rw [absOf_active H act hk, absIn_eq_none_iff.2 w.hit_none.2, hop]; rfl
  | cipInc nvi =>
    cases hit with
    | some i =>
      dsimp only
      refine storeOK_swap H act p hk w.cur_mem (hhit i rfl).1 ?_
      rw [hop]; rfl
    | none =>
      dsimp only
      refine storeOK_noop H act p ?_
      rw [absOf_active H act hk, absIn_eq_none_iff.2 w.hit_none.2, hop]; rfl
  | cipRm =>
    cases hit with
    | some i =>
      dsimp only
      rw [(hhit i rfl).2]
      refine storeOK_unlink H p act w (hhit i rfl).1 ?_
      rw [hop]; rfl
    | none =>
      dsimp only
      refine storeOK_noop H act p ?_
      rw [absOf_active H act hk, absIn_eq_none_iff.2 w.hit_none.2, hop]; rfl

/-- `cas_effect` for the state of the CAS transition: any state `s1` with the memory of `s` (e.g. `tick s`),
the new node appended, the cell set, and any change of the threads / history afterwards (`finish`) -/
theorem cas_setCell_effect {s s1 s' : State} {G : Ghost} {g k : Nat} (H : HInv s G)
    (act : Active s G (cellId g k)) (hempty : cellOf s g k = .empty) {new : NodeS}
    (hnx : new.next = none) (hkey : new.key = k)
    (h1 : s1.heap = s.heap ++ [new]) (ht1 : s1.tabs = s.tabs)
    (hh : s'.heap = s1.heap) (ht : s'.tabs = (setCell s1 g k (.node s.heap.length)).tabs)
    (hcur : s'.cur = s.cur) (hres : s'.resizing = s.resizing) :
    Effect s s' G (cellId g k) ∧
      ∀ k', absOf s' k' = if new.key = k' then some new.val else absOf s k' := by
  obtain ⟨row, hr, hj⟩ := act.inTabs_key H.shape
  obtain ⟨hs1, hs2⟩ := setCell_shape s1 g k (.node s.heap.length)
  have hon : keyOn (cellId g k) new.key := by rw [hkey]; exact keyOn_cellId g k
  refine cas_effect H act hempty hnx hon (by rw [hh, h1]) ?_ hcur hres (by rw [ht, hs1, ht1]) ?_
  · intro id'
    rw [getCell_congr ht, getCell_setCell s1 g k _ (by rw [ht1]; exact hr) hj id']
    split
    · rfl
    · exact getCell_congr ht1 id'
  · intro g' row' hr'
    rw [ht] at hr'
    obtain ⟨row1, hr1, hl⟩ := hs2 g' row' hr'
    exact ⟨row1, by rw [← ht1]; exact hr1, hl⟩

/-- the state of the `wCas` transition of `stepG` -/
theorem cas_finish_effect {s : State} {G : Ghost} {g : Nat} {t : Nat} (H : HInv s G) (p : Pending)
    (act : Active s G (cellId g p.key)) (hempty : cellOf s g p.key = .empty) (v : Nat × Nat) :
    Effect s (finish (setCell { tick s with heap := s.heap ++ [(⟨p.key, v, none, none⟩ : NodeS)] } g p.key
        (.node s.heap.length)) t p .none) G (cellId g p.key) ∧
      ∀ k', absOf (finish (setCell { tick s with heap := s.heap ++ [(⟨p.key, v, none, none⟩ : NodeS)] } g p.key
        (.node s.heap.length)) t p .none) k' = if p.key = k' then some v else absOf s k' :=
  cas_setCell_effect (s1 := { tick s with heap := s.heap ++ [(⟨p.key, v, none, none⟩ : NodeS)] })
    (new := (⟨p.key, v, none, none⟩ : NodeS)) H act hempty rfl rfl rfl rfl rfl rfl rfl rfl

end Flurry.Proto.BinNHM
