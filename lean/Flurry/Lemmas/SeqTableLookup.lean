import Flurry.Lemmas.SeqTableBasic
/-! # Lookup semantics (`get`, `entries`) on a well-formed table -/
namespace Flurry.Seq
open Flurry Flurry.Gen

theorem bini_lt_of_isPow2 (h : Nat) {n : Nat} (hp : IsPow2 n) : bini h n < n := by
  obtain ⟨k, rfl⟩ := hp; exact bini_lt h k

theorem TableWF.nodeOk {hash : Nat → Nat} {t : Table} (h : TableWF hash t) {j : Nat} {nd : Node}
    (hnd : nd ∈ (tableBin t j).nodes) : NodeOk hash t.length j nd :=
  (h.bin j).nodeOk nd hnd

theorem TableWF.mem_nodes_iff {hash : Nat → Nat} {t : Table} (h : TableWF hash t) {nd : Node} :
    nd ∈ t.flatMap Bin.nodes ↔ nd ∈ (tableBin t (bini (hash nd.key) t.length)).nodes := by
  rw [mem_flatMap_nodes]
  constructor
  · rintro ⟨j, _, hnd⟩
    have := h.nodeOk hnd
    rw [← this.1, this.2]; exact hnd
  · intro hnd
    exact ⟨_, bini_lt_of_isPow2 _ h.1, hnd⟩

theorem TableWF.keysNodup {hash : Nat → Nat} {t : Table} (h : TableWF hash t) :
    KeysNodup (t.flatMap Bin.nodes) := by
  rw [keysNodup_iff_pairwise, List.pairwise_flatMap]
  constructor
  · intro b hb
    obtain ⟨j, hj, rfl⟩ := List.getElem_of_mem hb
    have := (h.bin j).keysNodup
    rw [tableBin_eq_getElem hj] at this
    exact keysNodup_iff_pairwise.1 this
  · rw [List.pairwise_iff_getElem]
    intro i j hi hj hij x hx y hy hxy
    rw [← tableBin_eq_getElem hi] at hx
    rw [← tableBin_eq_getElem hj] at hy
    have ox := h.nodeOk hx
    have oy := h.nodeOk hy
    have : i = j := by rw [← ox.2, ← oy.2, ox.1, oy.1, hxy]
    omega

theorem get_eq_find {m : Map} {t : Table} (ht : m.table = some t) (hw : TableWF m.hash t) (k : Nat) :
    get k m = (tableBin t (bini (m.hash k) t.length)).find (m.hash k) k := by
  have := hw.length_pos
  simp only [get, ht]
  rw [if_neg]
  simp only [beq_iff_eq]; omega

theorem entries_eq {m : Map} {t : Table} (ht : m.table = some t) :
    entries m = t.flatMap Bin.nodes := by simp [entries, ht]

theorem get_iff {m : Map} {t : Table} (ht : m.table = some t) (hw : TableWF m.hash t) {k : Nat}
    {nd : Node} : get k m = some nd ↔ nd ∈ entries m ∧ nd.key = k := by
  rw [get_eq_find ht hw, Bin.find_iff_key (hw.bin _), entries_eq ht]
  constructor
  · rintro ⟨h1, rfl⟩; exact ⟨hw.mem_nodes_iff.2 h1, rfl⟩
  · rintro ⟨h1, rfl⟩; exact ⟨hw.mem_nodes_iff.1 h1, rfl⟩

theorem get_none_iff {m : Map} {t : Table} (ht : m.table = some t) (hw : TableWF m.hash t) {k : Nat} :
    get k m = none ↔ ∀ nd ∈ entries m, nd.key ≠ k := by
  constructor
  · intro hg nd hnd hk
    have := (get_iff ht hw).2 ⟨hnd, hk⟩
    rw [hg] at this; cases this
  · intro hall
    cases hg : get k m with
    | none => rfl
    | some nd => exact absurd ((get_iff ht hw).1 hg).2 (hall nd ((get_iff ht hw).1 hg).1)

theorem get_isSome_iff {m : Map} {t : Table} (ht : m.table = some t) (hw : TableWF m.hash t)
    {k : Nat} : (get k m).isSome ↔ k ∈ (entries m).map (·.key) := by
  rw [List.mem_map]
  constructor
  · intro h
    obtain ⟨nd, hnd⟩ := Option.isSome_iff_exists.1 h
    exact ⟨nd, (get_iff ht hw).1 hnd⟩
  · rintro ⟨nd, h1, h2⟩
    rw [(get_iff ht hw).2 ⟨h1, h2⟩]; rfl

theorem entries_keys_nodup {m : Map} {t : Table} (ht : m.table = some t) (hw : TableWF m.hash t) :
    ((entries m).map (·.key)).Nodup := by rw [entries_eq ht]; exact hw.keysNodup

theorem entries_hash {m : Map} {t : Table} (ht : m.table = some t) (hw : TableWF m.hash t)
    {nd : Node} (hnd : nd ∈ entries m) : nd.hash = m.hash nd.key := by
  rw [entries_eq ht] at hnd
  obtain ⟨j, _, hj⟩ := mem_flatMap_nodes.1 hnd
  exact (hw.nodeOk hj).1

theorem get_of_table_none {m : Map} (ht : m.table = none) (k : Nat) : get k m = none := by
  simp [get, ht]
theorem entries_of_table_none {m : Map} (ht : m.table = none) : entries m = [] := by
  simp [entries, ht]

theorem tableLen_of_some {m : Map} {t : Table} (ht : m.table = some t) : tableLen m = t.length := by
  simp only [tableLen, ht]

theorem tableLen_of_none {m : Map} (ht : m.table = none) : tableLen m = 0 := by
  simp only [tableLen, ht]

theorem no_bins {m : Map} (h : tableLen m = 0) : (∀ k, get k m = none) ∧ entries m = [] := by
  cases ht : m.table with
  | none => exact ⟨get_of_table_none ht, entries_of_table_none ht⟩
  | some t =>
    cases List.eq_nil_of_length_eq_zero ((tableLen_of_some ht).symm.trans h)
    exact ⟨fun k => by simp only [get, ht]; rfl, by simp only [entries, ht]; rfl⟩

/-- `get` and `entries` only look at the table and the hasher -/
theorem get_congr {m m' : Map} (ht : m'.table = m.table) (hh : m'.hash = m.hash) (k : Nat) :
    get k m' = get k m := by simp only [get, ht, hh]
theorem entries_congr {m m' : Map} (ht : m'.table = m.table) : entries m' = entries m := by
  simp only [entries, ht]

theorem get_eq_of_perm {m m' : Map} {t t' : Table} (ht : m.table = some t) (ht' : m'.table = some t')
    (hw : TableWF m.hash t) (hw' : TableWF m'.hash t')
    (hp : (entries m').Perm (entries m)) (k : Nat) : get k m' = get k m := by
  apply Option.ext
  intro nd
  rw [get_iff ht hw, get_iff ht' hw', hp.mem_iff]

end Flurry.Seq
