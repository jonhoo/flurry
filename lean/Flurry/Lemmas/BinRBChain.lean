import Flurry.Proto.BinRBase
import Flurry.Lemmas.SharedBasic
/-! # Proto/BinRBase: heap segments and the chain (C01, C13)

`IsSeg heap a l e`: following `next` pointers from the pointer `a` visits exactly the nodes `l` and
ends in the pointer `e` (`Shared.Seg (·.next)`: `isSeg_iff`; the lemmas are those of `Lemmas/SharedBasic.lean`).
`IsChain heap a l = IsSeg heap a l none`. Under `NextOK` (every `next`
pointer goes strictly upwards and stays inside the heap) the executable `chainFrom` computes the
chain, chains are strictly increasing lists, and we get the three heap surgery lemmas
(`IsSeg.congr`, `isChain_append_node`, `isChain_unlink`). -/
namespace Flurry.Proto.BinR.Base
open Flurry.Lin2

theorem map_modify {α β : Type} (g : α → β) (f : α → α) (f' : β → β) (hf : ∀ a, g (f a) = f' (g a))
    (l : List α) (i : Nat) : (l.modify i f).map g = (l.map g).modify i f' := by
  apply List.ext_getElem?
  intro j
  simp only [List.getElem?_map, List.getElem?_modify]
  cases l[j]? with
  | none => rfl
  | some a => by_cases hij : i = j <;> simp [hij, hf]

theorem getD_map {α β : Type} (g : α → β) (l : List α) (i : Nat) (d : α) :
    (l.map g).getD i (g d) = g (l.getD i d) := by
  simp only [List.getD_eq_getElem?_getD, List.getElem?_map]
  cases l[i]? <;> rfl

def NextOK (heap : List NodeS) : Prop :=
  ∀ i n j, heap[i]? = some n → n.next = some j → i < j ∧ j < heap.length

inductive IsSeg (heap : List NodeS) : Option Nat → List Nat → Option Nat → Prop
  | nil (e : Option Nat) : IsSeg heap e [] e
  | cons {i : Nat} {n : NodeS} {l : List Nat} {e : Option Nat} :
      heap[i]? = some n → IsSeg heap n.next l e → IsSeg heap (some i) (i :: l) e

abbrev IsChain (heap : List NodeS) (a : Option Nat) (l : List Nat) : Prop := IsSeg heap a l none

theorem isSeg_iff {heap : List NodeS} {a e : Option Nat} {l : List Nat} :
    IsSeg heap a l e ↔ Shared.Seg (·.next) heap a l e := by
  constructor <;> intro h <;> induction h with
  | nil e => exact .nil _
  | cons hn _ ih => exact .cons hn ih

theorem IsSeg.nil_iff {heap : List NodeS} {a e : Option Nat} : IsSeg heap a [] e ↔ a = e :=
  isSeg_iff.trans Shared.Seg.nil_iff

theorem IsSeg.cons_iff {heap : List NodeS} {a e : Option Nat} {i : Nat} {l : List Nat} :
    IsSeg heap a (i :: l) e ↔ a = some i ∧ ∃ n, heap[i]? = some n ∧ IsSeg heap n.next l e := by
  simp only [isSeg_iff]; exact Shared.Seg.cons_iff

theorem IsSeg.append {heap : List NodeS} {a b c : Option Nat} {l1 l2 : List Nat}
    (h1 : IsSeg heap a l1 b) (h2 : IsSeg heap b l2 c) : IsSeg heap a (l1 ++ l2) c :=
  isSeg_iff.2 ((isSeg_iff.1 h1).append (isSeg_iff.1 h2))

theorem IsSeg.split {heap : List NodeS} {l2 : List Nat} {c : Option Nat} {l1 : List Nat} {a : Option Nat}
    (h : IsSeg heap a (l1 ++ l2) c) : ∃ b, IsSeg heap a l1 b ∧ IsSeg heap b l2 c := by
  simpa only [isSeg_iff] using (isSeg_iff.1 h).split

theorem IsSeg.unique {heap : List NodeS} {a : Option Nat} {l1 : List Nat}
    (h1 : IsSeg heap a l1 none) : ∀ {l2 : List Nat}, IsSeg heap a l2 none → l1 = l2 :=
  fun h2 => (isSeg_iff.1 h1).unique (isSeg_iff.1 h2)

theorem NextOK.rel {heap : List NodeS} (hok : NextOK heap) : Shared.NextRel (·.next) (· < ·) heap :=
  fun i n j hn hj => (hok i n j hn hj).1

theorem IsSeg.ub {heap : List NodeS} (hok : NextOK heap) {a e : Option Nat} {l : List Nat}
    (h : IsSeg heap a l e) : ∀ j ∈ l, ∀ x, e = some x → j < x :=
  (isSeg_iff.1 h).rel_end (r := (· < ·)) (fun _ _ _ => Nat.lt_trans) hok.rel

theorem IsSeg.lt_length {heap : List NodeS} {a e : Option Nat} {l : List Nat} (h : IsSeg heap a l e) :
    ∀ j ∈ l, j < heap.length := (isSeg_iff.1 h).lt_length

theorem IsSeg.sorted {heap : List NodeS} (hok : NextOK heap) {a e : Option Nat} {l : List Nat}
    (h : IsSeg heap a l e) : l.Pairwise (· < ·) :=
  (isSeg_iff.1 h).pairwise (r := (· < ·)) (fun _ _ _ => Nat.lt_trans) hok.rel

theorem IsSeg.nodup {heap : List NodeS} (hok : NextOK heap) {a e : Option Nat} {l : List Nat}
    (h : IsSeg heap a l e) : l.Nodup :=
  (h.sorted hok).imp (fun hab => Nat.ne_of_lt hab)

/-- a segment only depends on the `next` fields of its own nodes -/
theorem IsSeg.congr {heap heap' : List NodeS} {a e : Option Nat} {l : List Nat}
    (h : IsSeg heap a l e)
    (hsame : ∀ j ∈ l, ∀ n, heap[j]? = some n → ∃ n', heap'[j]? = some n' ∧ n'.next = n.next) :
    IsSeg heap' a l e := isSeg_iff.2 ((isSeg_iff.1 h).congr hsame)

theorem IsSeg.succ_none {heap : List NodeS} (hok : NextOK heap) {a : Option Nat} {l : List Nat}
    (h : IsChain heap a l) {c : Nat} {n : NodeS} (hc : c ∈ l) (hn : heap[c]? = some n)
    (hnx : n.next = none) : ∀ j ∈ l, j ≤ c := by
  intro j hj
  rcases ((isSeg_iff.1 h).around (r := (· < ·)) (fun _ _ _ => Nat.lt_trans) hok.rel hc hn).2 j hj with rfl | h1 | ⟨b, hb, -⟩
  · exact Nat.le_refl _
  · exact Nat.le_of_lt h1
  · rw [hnx] at hb; cases hb

theorem IsSeg.succ_some {heap : List NodeS} (hok : NextOK heap) {a : Option Nat} {l : List Nat}
    (h : IsChain heap a l) {c b : Nat} {n : NodeS} (hc : c ∈ l) (hn : heap[c]? = some n)
    (hnx : n.next = some b) : b ∈ l ∧ ∀ j ∈ l, j < b → j ≤ c := by
  obtain ⟨h0, h1⟩ := (isSeg_iff.1 h).around (r := (· < ·)) (fun _ _ _ => Nat.lt_trans) hok.rel hc hn
  refine ⟨h0 b hnx, fun j hj hjb => ?_⟩
  rcases h1 j hj with rfl | h2 | ⟨b', hb, h2⟩
  · exact Nat.le_refl _
  · exact Nat.le_of_lt h2
  · rw [hnx] at hb; cases hb
    have : b ≤ j := h2.elim (fun e => e ▸ Nat.le_refl _) Nat.le_of_lt
    omega

/-- the executable `chainFrom` computes the chain (with enough fuel) -/
theorem chainFrom_isChain {heap : List NodeS} (hok : NextOK heap) :
    ∀ (fuel : Nat) (st : Option Nat),
      (∀ i, st = some i → i < heap.length ∧ heap.length ≤ fuel + i) →
      IsChain heap st (chainFrom heap fuel st)
  | 0, none, _ => by simp only [chainFrom]; exact .nil _
  | 0, some i, h => by have := h i rfl; omega
  | fuel + 1, none, _ => by simp only [chainFrom]; exact .nil _
  | fuel + 1, some i, h => by
    have hi := h i rfl
    have hn : heap[i]? = some heap[i] := List.getElem?_eq_getElem hi.1
    simp only [chainFrom, hn]
    refine .cons hn (chainFrom_isChain hok fuel _ ?_)
    intro j hj
    have := hok _ _ _ hn hj
    omega

theorem isChain_append_node {heap : List NodeS} (hok : NextOK heap) {a : Option Nat} {l0 : List Nat}
    {last : Nat} (h : IsChain heap a (l0 ++ [last])) (new : NodeS) (hnew : new.next = none) :
    IsChain ((heap ++ [new]).modify last (fun n => { n with next := some heap.length })) a
      (l0 ++ [last] ++ [heap.length]) := by
  obtain ⟨b, h1, h2⟩ := h.split
  obtain ⟨rfl, nl, hnl, hs⟩ := IsSeg.cons_iff.1 h2
  have hlast : last < heap.length := (List.getElem?_eq_some_iff.1 hnl).1
  have hlast0 : last ∉ l0 := by
    intro hm
    have := h1.ub hok last hm last rfl
    omega
  rw [List.append_assoc]
  refine IsSeg.append (b := some last) ?_ ?_
  · refine h1.congr ?_
    intro j hj n hn
    have hjl : j < heap.length := (List.getElem?_eq_some_iff.1 hn).1
    have hne : last ≠ j := fun he => hlast0 (he ▸ hj)
    refine ⟨n, ?_, rfl⟩
    rw [List.getElem?_modify, List.getElem?_append_left hjl, hn]
    simp [hne]
  · refine .cons (n := { nl with next := some heap.length }) ?_ ?_
    · rw [List.getElem?_modify, List.getElem?_append_left hlast, hnl]
      simp
    · refine .cons (n := new) ?_ ?_
      · rw [List.getElem?_modify]
        have : last ≠ heap.length := by omega
        simp [this]
      · rw [hnew]; exact .nil _

theorem isChain_unlink {heap : List NodeS} (hok : NextOK heap) {a : Option Nat} {l1 l2 : List Nat}
    {pr i : Nat} {ni : NodeS} (h : IsChain heap a (l1 ++ pr :: i :: l2)) (hni : heap[i]? = some ni) :
    IsChain (heap.modify pr (fun m => { m with next := ni.next })) a (l1 ++ pr :: l2) :=
  isSeg_iff.2 ((isSeg_iff.1 h).unlink (h.nodup hok) hni (fun _ => rfl))

theorem predOf_eq : ∀ (c : List Nat) (i : Nat), predOf c i = Shared.prevOf c i
  | [], _ => rfl
  | [_], _ => rfl
  | a :: b :: rest, i => by
    simp only [predOf, Shared.prevOf, predOf_eq (b :: rest) i]

theorem predOf_head (i : Nat) (l : List Nat) (hi : i ∉ l) : predOf (i :: l) i = none :=
  (predOf_eq _ _).trans (Shared.prevOf_none_of_not_mem_tail i (i :: l) hi)

theorem predOf_mid (i a : Nat) (l2 : List Nat) (ha : a ≠ i) (l1 : List Nat) (hi : i ∉ l1) :
    predOf (l1 ++ a :: i :: l2) i = some a :=
  (predOf_eq _ _).trans (Shared.prevOf_mid i a l2 ha l1 hi)

theorem predOf_cases {l : List Nat} (hnd : l.Nodup) {i : Nat} (hi : i ∈ l) :
    (∃ l2, l = i :: l2 ∧ predOf l i = none) ∨
    (∃ l1 pr l2, l = l1 ++ pr :: i :: l2 ∧ predOf l i = some pr) := by
  simpa only [predOf_eq] using Shared.prevOf_cases hnd hi

end Flurry.Proto.BinR.Base
