import Flurry.Lemmas.BinNHDefs
/-! # Proto/BinNH: what a reader's / writer's transition does to the shared memory

The readers and writers of `Proto/BinNH` take `Proto/BinN`'s transitions literally; `BinN.step_stepK`
dissects them. `RWEff` is all the resizing threads have to know about them: `cur` and `resizing` stay;
a lock word changes only if it was free or the acting thread's own; a cell changes only if it was empty
or its head's mutex is held by the acting thread, and never to a forwarding marker. -/
namespace Flurry.Proto.BinNH
open Flurry.Lin
open Flurry.Proto.BinX (NodeS Cell Pending isReader dflt chainFrom cellHead cellOfHead get_set get_set_self get_set_ne
  cellOfHead_ne_moved)
open Flurry.Proto.BinN (cellAt cellOf putCell setNode allMoved splitBinB bitAt lockAt LockSame GenInv ThrOK isT
  Holds vcell genOfPc cellT StepK tick setT finish)

structure RWEff (n : BinN.State) (t : Nat) (n' : BinN.State) : Prop where
  cur : n'.cur = n.cur
  res : n'.resizing = n.resizing
  hlen : n.heap.length ≤ n'.heap.length
  locks : ∀ h, h < n.heap.length →
    lockAt n'.heap h = lockAt n.heap h ∨ lockAt n.heap h = none ∨ lockAt n.heap h = some t
  cells : ∀ g j, cellAt n' g j = cellAt n g j ∨
    (cellAt n' g j ≠ .moved ∧ (cellAt n g j = .empty ∨
      ∃ h, cellAt n g j = .node h ∧ h < n.heap.length ∧ lockAt n.heap h = some t))
  thr : ∃ l' : BinN.Local, n'.threads = n.threads.set t l' ∧ ¬ isT l'.pc

theorem rwEff_of {n n' : BinN.State} {t : Nat} {l' : BinN.Local} (hc : n'.cur = n.cur) (hr : n'.resizing = n.resizing)
    (hls : LockSame n.heap n'.heap) (ht : n'.tabs = n.tabs) (hthr : n'.threads = n.threads.set t l')
    (hT : ¬ isT l'.pc) : RWEff n t n' :=
  ⟨hc, hr, hls.1, fun h hh => Or.inl (hls.2 h hh),
    fun g j => Or.inl (by rw [BinN.cellAt_eq, BinN.cellAt_eq, ht]), l', hthr, hT⟩

theorem rwEff_lock {n n' : BinN.State} {t : Nat} {l' : BinN.Local} {h : Nat} {x : Option Nat}
    (hc : n'.cur = n.cur) (hr : n'.resizing = n.resizing)
    (hheap : n'.heap = n.heap.modify h (fun m => { m with lock := x }))
    (hfree : lockAt n.heap h = none ∨ lockAt n.heap h = some t)
    (ht : n'.tabs = n.tabs) (hthr : n'.threads = n.threads.set t l') (hT : ¬ isT l'.pc) : RWEff n t n' := by
  refine ⟨hc, hr, by rw [hheap]; simp, ?_, fun g j => Or.inl (by rw [BinN.cellAt_eq, BinN.cellAt_eq, ht]),
    l', hthr, hT⟩
  intro h1 _
  by_cases e : h1 = h
  · subst e; exact Or.inr hfree
  · left; rw [hheap, BinN.lockAt_modify_ne x e]

theorem rwEff_put {n n' : BinN.State} {t : Nat} {l' : BinN.Local} {g j : Nat} {c : Cell}
    (hc : n'.cur = n.cur) (hr : n'.resizing = n.resizing) (hls : LockSame n.heap n'.heap)
    (ht : n'.tabs = n.tabs.modify g (fun row => row.set j c)) (hcm : c ≠ .moved)
    (hold : cellAt n g j = .empty ∨ ∃ h, cellAt n g j = .node h ∧ h < n.heap.length ∧ lockAt n.heap h = some t)
    (hthr : n'.threads = n.threads.set t l') (hT : ¬ isT l'.pc) : RWEff n t n' := by
  refine ⟨hc, hr, hls.1, fun h hh => Or.inl (hls.2 h hh), ?_, l', hthr, hT⟩
  intro g1 j1
  rw [BinN.cellAt_eq, BinN.cellAt_eq, ht]
  by_cases e : g1 = g ∧ j1 = j
  · obtain ⟨rfl, rfl⟩ := e
    rcases BinN.cellT_put_self n.tabs g1 j1 c with e | e
    · right; rw [e]; exact ⟨hcm, hold⟩
    · left; exact e
  · left; exact BinN.cellT_put_ne _ _ e

/-- the transitions of a thread that is not a resizing thread of `Proto/BinN` and does not start a resize -/
theorem stepK_rwEff {n n' : BinN.State} {t : Nat} {l : BinN.Local} {pick : Nat} (I : GenInv n)
    (hl : n.threads[t]? = some l) (hres : l.pc = .idle → n'.resizing = n.resizing) (hnT : ¬ isT l.pc)
    (hs : StepK n t l pick n') : RWEff n t n' := by
  have T := I.thr t l hl
  obtain ⟨pc, call⟩ := l
  simp only at hres hnT
  cases hs with
  | idle hpc =>
    unfold setT tick
    exact rwEff_of rfl rfl (LockSame.refl _) rfl rfl hnT
  | invoke k op hpc =>
    unfold setT tick
    refine rwEff_of rfl rfl (LockSame.refl _) rfl rfl ?_
    cases isReader op <;> exact fun h => h
  | resize hpc hr => have := hres hpc; rw [hr] at this; cases this
  | move p pc' hp hm =>
    unfold setT tick
    refine rwEff_of rfl rfl (LockSame.refl _) rfl rfl ?_
    cases hm <;> exact fun h => h
  | tmove pc' hp hm => cases hm <;> exact absurd trivial hnT
  | lockMove p h x pc' hp hm =>
    unfold setT setNode tick
    cases hm with
    | @lock g h nd hn hfree =>
      exact rwEff_lock rfl rfl rfl (Or.inl (by rw [BinN.lockAt_of_some hn]; exact hfree)) rfl rfl (fun h => h)
    | @unlockRetry g h res =>
      exact rwEff_lock rfl rfl rfl (Or.inr (T.held h rfl).2) rfl rfl (fun h => h)
  | tlockMove h x pc' hp hm => cases hm <;> exact absurd trivial hnT
  | fin p res hp hf =>
    unfold finish setT tick
    exact rwEff_of rfl rfl (LockSame.refl _) rfl rfl (fun h => h)
  | cas p g v vi hp hpc hc hop =>
    unfold finish setT BinN.setCell putCell tick
    exact rwEff_put (g := g) (j := p.key % 2 ^ g) (c := .node n.heap.length) rfl rfl (LockSame.append _ _) rfl
      (by simp) (Or.inl hc) rfl (fun h => h)
  | store p g h pred hit hnext hp hpc =>
    simp only at hp hpc
    subst hp hpc
    obtain ⟨e1, e2, e3, -, -, e6, e7⟩ := BinN.storeAt_shape (tick n) g p pred hit hnext
    have hv0 : vcell n.cur { pc := BinN.Pc.wStore g h pred hit hnext, call := some p } = some (g, p.key % 2 ^ g, h) := rfl
    obtain ⟨hcell, -⟩ := T.valid _ _ _ hv0
    have hheld := T.held h rfl
    have hthr : (setT (BinN.storeAt (tick n) g p pred hit hnext).1 t
        { pc := .wUnlock g h (BinN.storeAt (tick n) g p pred hit hnext).2 false, call := some p }).threads =
        n.threads.set t { pc := .wUnlock g h (BinN.storeAt (tick n) g p pred hit hnext).2 false, call := some p } := by
      show (BinN.storeAt _ _ _ _ _ _).1.threads.set _ _ = _; rw [e1]; rfl
    rcases e7 with e7 | ⟨c, hcm, e7⟩
    · exact rwEff_of e2 e3 e6 e7 hthr (fun h => h)
    · exact rwEff_put e2 e3 e6 e7 hcm (Or.inr ⟨h, hcell, hheld.1, hheld.2⟩) hthr (fun h => h)
  | unlockFin p g h res hp hpc =>
    unfold finish setT setNode tick
    simp only at hp hpc
    subst hp hpc
    exact rwEff_lock rfl rfl rfl (Or.inr (T.held h rfl).2) rfl rfl (fun h => h)
  | casMoved j hp hpc hc => simp only at hpc; subst hpc; exact absurd trivial hnT
  | build j h hp hpc => simp only at hpc; subst hpc; exact absurd trivial hnT
  | storeLow j h lo hg hp hpc => simp only at hpc; subst hpc; exact absurd trivial hnT
  | storeHigh j h hg hp hpc => simp only at hpc; subst hpc; exact absurd trivial hnT
  | storeMoved j h hp hpc => simp only at hpc; subst hpc; exact absurd trivial hnT
  | commit hp hpc => simp only at hpc; subst hpc; exact absurd trivial hnT

/-- a resizing thread that is not the acting reader / writer keeps its invariant -/
theorem HOK.of_rwEff {n n' : BinN.State} {t t1 : Nat} {hp : Helper} (H : HOK n t1 hp) (E : RWEff n t n')
    (hne : t1 ≠ t) : HOK n' t1 hp := by
  refine H.frame E.cur (fun h => by rw [E.res]; exact h) ?_ ?_ ?_
  · intro h hh hlk
    refine ⟨by have := E.hlen; omega, ?_⟩
    rcases E.locks h hh with e | e | e
    · rw [e]; exact hlk
    · rw [e] at hlk; cases hlk
    · rw [e] at hlk; exact absurd (Option.some.inj hlk).symm hne
  · intro j h hc hlk hh
    rcases E.cells hp.g j with e | ⟨-, e | ⟨h', e, -, e'⟩⟩
    · rw [e]; exact hc
    · rw [e] at hc; cases hc
    · rw [e] at hc
      cases hc
      rw [e'] at hlk
      exact absurd (Option.some.inj hlk).symm hne
  · intro g j hm
    rcases E.cells g j with e | ⟨-, e | ⟨h', e, -⟩⟩
    · rw [e]; exact hm
    · rw [e] at hm; cases hm
    · rw [e] at hm; cases hm

end Flurry.Proto.BinNH
