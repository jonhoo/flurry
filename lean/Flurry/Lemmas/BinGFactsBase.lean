import Flurry.Lemmas.BinGInvBasic
/-! # Proto/BinG: the frame of `setCell` and of a completed call that stores into a cell; the pending structures

`FactsL.setCell_*`, `FactsL.finish_setCell_*`: what `setCell` and `finish ∘ setCell` leave alone (used where the
successor states of the normal form are read: `Lemmas/BinGLin.lean`, `Lemmas/BinGEmbedMain.lean`, the progress layer).
`FactsL.pend_of_not_xPc`, `pend_kStore`: `pend` of a program counter outside the resize is `[]` or the one private
`TreeBin` of a treeify, whatever the state. -/
namespace Flurry.Proto.BinG
open Flurry.Lin

variable {s s' : State}

namespace FactsL

theorem setCell_frame (s : State) (tab : Tab) (k : Nat) (c : Cell) :
    (setCell s tab k c).cur = s.cur ∧ (setCell s tab k c).resizing = s.resizing ∧ (setCell s tab k c).now = s.now ∧
      (setCell s tab k c).hist = s.hist := by
  cases tab with
  | old => exact ⟨rfl, rfl, rfl, rfl⟩
  | new => unfold setCell; dsimp only; split <;> exact ⟨rfl, rfl, rfl, rfl⟩

theorem setCell_cur (s : State) (tab : Tab) (k : Nat) (c : Cell) : (setCell s tab k c).cur = s.cur :=
  (setCell_frame s tab k c).1

theorem setCell_resizing (s : State) (tab : Tab) (k : Nat) (c : Cell) : (setCell s tab k c).resizing = s.resizing :=
  (setCell_frame s tab k c).2.1

theorem setCell_now (s : State) (tab : Tab) (k : Nat) (c : Cell) : (setCell s tab k c).now = s.now :=
  (setCell_frame s tab k c).2.2.1

theorem setCell_hist (s : State) (tab : Tab) (k : Nat) (c : Cell) : (setCell s tab k c).hist = s.hist :=
  (setCell_frame s tab k c).2.2.2

theorem finish_setCell_shape (s0 : State) (tab : Tab) (k : Nat) (c : Cell) (t : Nat) (p : Pending) (res : KRes) :
    let s' := finish (setCell s0 tab k c) t p res
    s'.heap = s0.heap ∧ s'.tbins = s0.tbins ∧ s'.threads = s0.threads.set t ⟨.idle, none⟩ ∧ s'.now = s0.now ∧
      s'.cur = s0.cur ∧ s'.resizing = s0.resizing ∧
      s'.hist = (p.key, ⟨t, p.op, res, p.inv, s0.now⟩) :: s0.hist ∧
      ∀ id, cellAt s' id = if id = idOf tab k then c else cellAt s0 id := by
  have hfin : ∀ s1 : State, (finish s1 t p res).heap = s1.heap ∧ (finish s1 t p res).tbins = s1.tbins ∧
      (finish s1 t p res).threads = s1.threads.set t ⟨.idle, none⟩ ∧ (finish s1 t p res).now = s1.now ∧
      (finish s1 t p res).cur = s1.cur ∧ (finish s1 t p res).resizing = s1.resizing ∧
      (finish s1 t p res).hist = (p.key, ⟨t, p.op, res, p.inv, s1.now⟩) :: s1.hist ∧
      ∀ id, cellAt (finish s1 t p res) id = cellAt s1 id :=
    fun s1 => ⟨rfl, rfl, rfl, rfl, rfl, rfl, rfl, fun id => by cases id <;> rfl⟩
  obtain ⟨h1, h2, h3, h4, h5, h6, h7, h8⟩ := hfin (setCell s0 tab k c)
  obtain ⟨g1, g2, g3, g4⟩ := setCell_frame s0 tab k c
  exact ⟨h1.trans (setCell_heap ..), h2.trans (setCell_tbins ..), h3.trans (by rw [setCell_threads]), h4.trans g3,
    h5.trans g1, h6.trans g2, h7.trans (by rw [g3, g4]), fun id => (h8 id).trans (cellAt_setCell ..)⟩

theorem finish_setCell_hist (s0 : State) (tab : Tab) (k : Nat) (c : Cell) (t : Nat) (p : Pending) (res : KRes) :
    (finish (setCell s0 tab k c) t p res).hist = (p.key, ⟨t, p.op, res, p.inv, s0.now⟩) :: s0.hist :=
  (finish_setCell_shape s0 tab k c t p res).2.2.2.2.2.2.1

theorem finish_setCell_threads (s0 : State) (tab : Tab) (k : Nat) (c : Cell) (t : Nat) (p : Pending) (res : KRes) :
    (finish (setCell s0 tab k c) t p res).threads = s0.threads.set t ⟨.idle, none⟩ :=
  (finish_setCell_shape s0 tab k c t p res).2.2.1

theorem side_idOf (tab : Tab) (k : Nat) : idOf tab k ≠ .c0 → hiBit k = sideOf (idOf tab k) := by
  intro h
  cases tab with
  | old => exact absurd rfl h
  | new =>
    show hiBit k = sideOf (if hiBit k then .hi else .lo)
    cases hiBit k <;> rfl

theorem pend_of_not_xPc {pc : Pc} (h : xPc pc = false) : pend s' pc = pend s pc := by
  cases pc <;> first | rfl | cases h

end FactsL

theorem pend_kStore {pc : Pc} {C : Cell} (hx : xPc pc = false) (h : C ∈ pend s pc) :
    ∃ tab k h b, pc = .kStore tab k h b ∧ C = .tree b := by
  cases pc <;> simp [xPc] at hx <;> simp [pend] at h
  exact ⟨_, _, _, _, rfl, h⟩

end Flurry.Proto.BinG
