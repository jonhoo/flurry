import Flurry.Lemmas.BinXDefs
/-! # Proto/BinX: basic consequences of the heap invariant (C01, C10)

`chId`, `putCell` (the chain and the store of a cell by `CellId`), `keyOn` (the keys that live in a cell), `liveId`
(the cell a lookup of a key ends in) and `Active` (the cells whose chain may be written) are defined here. Then: the
three chains under `HInv`, the live chain of a key (`LC_eq`), disjointness of the chains that can
be written at the same time, and the effect of the three list surgeries on the abstract content of a
chain (`absIn_swap`, `absIn_append`, `absIn_unlink`). -/
namespace Flurry.Proto.BinX
open Flurry.Lin

export Flurry.Shared (get_set get_set_self get_set_ne)

def chId (s : State) (id : CellId) : List Nat := chainH s.heap (getCell s id)

theorem chO_eq (s : State) : chO s = chId s .c0 := rfl
theorem chL_eq (s : State) : chL s = chId s .low := rfl
theorem chH_eq (s : State) : chH s = chId s .high := rfl

def putCell (s : State) (id : CellId) (c : Cell) : State :=
  match id with
  | .c0 => { s with cell0 := c }
  | .low => { s with lowCell := c }
  | .high => { s with highCell := c }

theorem setCell_eq (s : State) (tab : Tab) (k : Nat) (c : Cell) : setCell s tab k c = putCell s (cellId tab k) c := by
  cases tab with
  | old => rfl
  | new => unfold setCell cellId; dsimp only; split <;> rfl

theorem getCell_putCell (s : State) (id id' : CellId) (c : Cell) :
    getCell (putCell s id c) id' = if id' = id then c else getCell s id' := by
  cases id <;> cases id' <;> rfl

theorem putCell_frame (s : State) (id : CellId) (c : Cell) :
    (putCell s id c).heap = s.heap ∧ (putCell s id c).threads = s.threads ∧ (putCell s id c).hist = s.hist ∧
    (putCell s id c).now = s.now ∧ (putCell s id c).cur = s.cur ∧ (putCell s id c).resizing = s.resizing := by
  cases id <;> exact ⟨rfl, rfl, rfl, rfl, rfl, rfl⟩

theorem cellHead_cellOfHead (x : Option Nat) : cellHead (cellOfHead x) = x := by
  cases x <;> rfl

theorem cellOfHead_ne_moved (x : Option Nat) : cellOfHead x ≠ .moved := by
  cases x <;> simp [cellOfHead]

theorem absOf_LC (s : State) (k : Nat) : absOf s k = absIn s.heap (LC s k) k := absOf_eq s k

/-- the keys that live in a cell -/
def keyOn (id : CellId) (k : Nat) : Prop :=
  match id with
  | .c0 => True
  | .low => hiBit k = false
  | .high => hiBit k = true

theorem keyOn_cellId (tab : Tab) (k : Nat) : keyOn (cellId tab k) k := by
  cases tab with
  | old => trivial
  | new =>
    unfold cellId; dsimp only
    cases h : hiBit k
    · simp [keyOn, h]
    · simp [keyOn, h]

/-- the cell a lookup of `k` ends in -/
def liveId (s : State) (k : Nat) : CellId :=
  if s.cell0 = .moved then (if hiBit k then .high else .low) else .c0

namespace HInv

variable {s : State} {g : Ghost}

theorem headOK (H : HInv s g) (id : CellId) : ∀ h, getCell s id = .node h → h < s.heap.length := by
  cases id
  · exact H.head0
  · exact H.headL
  · exact H.headH

theorem isChain (H : HInv s g) (id : CellId) : IsChain s.heap (cellHead (getCell s id)) (chId s id) :=
  chainH_isChain (ranked_ord _) H.nextOK (H.headOK id)

theorem chId_eq (H : HInv s g) {id : CellId} {l : List Nat} (h : IsChain s.heap (cellHead (getCell s id)) l) :
    chId s id = l := chainH_eq H.nextOK h

theorem chain_lt (H : HInv s g) {id : CellId} {i : Nat} (hi : i ∈ chId s id) : i < s.heap.length :=
  (H.isChain id).lt_length i hi

theorem chain_nodup (H : HInv s g) (id : CellId) : (chId s id).Nodup := (H.isChain id).nodup H.nextOK

theorem keysId (H : HInv s g) (id : CellId) : KeysDistinct s.heap (chId s id) := by
  cases id
  · exact H.keysO
  · exact H.keysL
  · exact H.keysH

theorem sideId (H : HInv s g) (id : CellId) : ∀ i ∈ chId s id, keyOn id (nodeAt s.heap i).key := by
  cases id
  · intro _ _; trivial
  · exact H.sideL
  · exact H.sideH

theorem not_post_of_ne_moved (H : HInv s g) (h : s.cell0 ≠ .moved) : g.ph ≠ .post :=
  fun hp => h (H.post hp)

theorem post_of_moved (H : HInv s g) (h : s.cell0 = .moved) : g.ph = .post := by
  cases hp : g.ph with
  | pre => exact absurd h (H.pre hp).2.1
  | mid lo hg =>
    obtain ⟨⟨h0, hc⟩, -⟩ := H.mid lo hg hp
    rw [hc] at h; cases h
  | post => rfl

theorem not_copy_of_pre (H : HInv s g) (hp : g.ph = .pre) (i : Nat) : ¬ isCopy g.cr i :=
  fun h => Nat.lt_irrefl _ (Nat.lt_of_le_of_lt h.1 ((H.pre hp).1 ▸ h.2))

theorem liveCell_eq (H : HInv s g) (k : Nat) : liveCell s k = getCell s (liveId s k) := by
  unfold liveCell liveId
  by_cases hm : s.cell0 = .moved
  · rw [if_pos (by rw [hm]; rfl), if_pos hm]
    unfold cellOf; dsimp only; split <;> rfl
  · rw [if_neg (by simpa using hm), if_neg hm]
    have : s.cur ≠ .new := fun hc => hm (H.post (H.curNew hc))
    rw [if_neg (by simpa using this)]
    rfl

theorem LC_eq (H : HInv s g) (k : Nat) : LC s k = chId s (liveId s k) := by
  unfold LC; rw [chainOfCell_eq, H.liveCell_eq]; rfl

theorem absOf_chId (H : HInv s g) (k : Nat) : absOf s k = absIn s.heap (chId s (liveId s k)) k := by
  rw [absOf_LC, H.LC_eq]

theorem chO_moved (h : s.cell0 = .moved) : chId s .c0 = [] := by
  unfold chId getCell; rw [h]; exact chainH_moved _

theorem chL_pre (H : HInv s g) (h : g.ph = .pre) : chId s .low = [] := by
  unfold chId getCell; rw [(H.pre h).2.2.1]; exact chainH_empty _

theorem chH_pre (H : HInv s g) (h : g.ph = .pre) : chId s .high = [] := by
  unfold chId getCell; rw [(H.pre h).2.2.2]; exact chainH_empty _

end HInv

/-- a cell whose chain may be written: the old bin before the split, a new bin after the forwarding -/
def Active (g : Ghost) (id : CellId) : Prop :=
  (id = .c0 ∧ g.ph = .pre) ∨ (id ≠ .c0 ∧ g.ph = .post)

theorem keyOn_excl {k : Nat} (h1 : keyOn .low k) (h2 : keyOn .high k) : False := by
  unfold keyOn at h1 h2; dsimp only at h1 h2; rw [h1] at h2; cases h2

theorem HInv.disjoint {s : State} {g : Ghost} (H : HInv s g) {id id' : CellId} (act : Active g id)
    (hne : id' ≠ id) {i : Nat} (hi : i ∈ chId s id) : i ∉ chId s id' := by
  intro hi'
  rcases act with ⟨rfl, hp⟩ | ⟨hid, hp⟩
  · cases id'
    · exact hne rfl
    · rw [H.chL_pre hp] at hi'; cases hi'
    · rw [H.chH_pre hp] at hi'; cases hi'
  · have hm := H.post hp
    cases id' with
    | c0 => rw [HInv.chO_moved hm] at hi'; cases hi'
    | low =>
      cases id with
      | c0 => exact hid rfl
      | low => exact hne rfl
      | high => exact keyOn_excl (H.sideId .low i hi') (H.sideId .high i hi)
    | high =>
      cases id with
      | c0 => exact hid rfl
      | low => exact keyOn_excl (H.sideId .low i hi) (H.sideId .high i hi')
      | high => exact hne rfl

theorem HInv.liveId_of_active {s : State} {g : Ghost} (H : HInv s g) {id : CellId} (act : Active g id)
    {k : Nat} (hk : keyOn id k) : liveId s k = id := by
  unfold liveId
  rcases act with ⟨rfl, hp⟩ | ⟨hid, hp⟩
  · rw [if_neg (H.pre hp).2.1]
  · rw [if_pos (H.post hp)]
    cases id with
    | c0 => exact absurd rfl hid
    | low => unfold keyOn at hk; dsimp only at hk; rw [hk]; rfl
    | high => unfold keyOn at hk; dsimp only at hk; rw [hk]; rfl

theorem HInv.liveId_ne_of_active {s : State} {g : Ghost} (H : HInv s g) {id : CellId} (act : Active g id)
    {k : Nat} (hk : ¬ keyOn id k) : liveId s k ≠ id := by
  unfold liveId
  rcases act with ⟨rfl, hp⟩ | ⟨hid, hp⟩
  · exact absurd trivial hk
  · rw [if_pos (H.post hp)]
    intro he
    exact hk (he ▸ keyOn_cellId .new k)

theorem KeysDistinct.congr {heap heap' : List NodeS} {C : List Nat} (hd : KeysDistinct heap C)
    (hkey : ∀ j ∈ C, (nodeAt heap' j).key = (nodeAt heap j).key) : KeysDistinct heap' C := by
  intro a ha b hb hab
  rw [hkey a ha, hkey b hb] at hab
  exact hd a ha b hb hab

theorem absIn_same {heap heap' : List NodeS} : ∀ {C : List Nat},
    (∀ j ∈ C, (nodeAt heap' j).key = (nodeAt heap j).key) →
    (∀ j ∈ C, (nodeAt heap' j).val = (nodeAt heap j).val) → ∀ (k : Nat),
    absIn heap' C k = absIn heap C k := by
  intro C hkey hval k
  induction C with
  | nil => rfl
  | cons a C ih =>
    have ih := ih (fun j hj => hkey j (List.mem_cons_of_mem _ hj)) (fun j hj => hval j (List.mem_cons_of_mem _ hj))
    unfold absIn at ih ⊢
    rw [List.find?_cons, List.find?_cons, hkey a List.mem_cons_self]
    cases (nodeAt heap a).key == k
    · exact ih
    · exact congrArg some (hval a List.mem_cons_self)

theorem absIn_swap {heap heap' : List NodeS} {C : List Nat} {i : Nat} {v : Nat × Nat}
    (hd : KeysDistinct heap C) (hi : i ∈ C)
    (hkey : ∀ j ∈ C, (nodeAt heap' j).key = (nodeAt heap j).key)
    (hval : ∀ j ∈ C, (nodeAt heap' j).val = if j = i then v else (nodeAt heap j).val) (k : Nat) :
    absIn heap' C k = if (nodeAt heap i).key = k then some v else absIn heap C k := by
  have hd' := hd.congr hkey
  split
  · rename_i hk
    rw [absIn_eq_some_iff hd']
    exact ⟨i, hi, by rw [hkey i hi, hk], by rw [hval i hi, if_pos rfl]⟩
  · rename_i hk
    refine absIn_congr hd hd' (fun j hj hjk => ⟨j, hj, by rw [hkey j hj, hjk], ?_⟩)
      (fun j hj hjk => ⟨j, hj, by rw [← hkey j hj, hjk]⟩)
    rw [hval j hj, if_neg (show j ≠ i from fun h => hk (h ▸ hjk))]

theorem absIn_append {heap heap' : List NodeS} {C : List Nat} {n : Nat} {new : NodeS}
    (hd : KeysDistinct heap C)
    (hkey : ∀ j ∈ C, (nodeAt heap' j).key = (nodeAt heap j).key)
    (hval : ∀ j ∈ C, (nodeAt heap' j).val = (nodeAt heap j).val)
    (hnew : nodeAt heap' n = new)
    (hfresh : ∀ j ∈ C, (nodeAt heap j).key ≠ new.key) :
    KeysDistinct heap' (C ++ [n]) ∧
    ∀ k, absIn heap' (C ++ [n]) k = if new.key = k then some new.val else absIn heap C k := by
  have hd' : KeysDistinct heap' (C ++ [n]) := by
    intro a ha b hb hab
    rcases List.mem_append.1 ha with ha | ha <;> rcases List.mem_append.1 hb with hb | hb
    · rw [hkey a ha, hkey b hb] at hab
      exact hd a ha b hb hab
    · rw [List.mem_singleton.1 hb, hkey a ha, hnew] at hab
      exact absurd hab (hfresh a ha)
    · rw [List.mem_singleton.1 ha, hkey b hb, hnew] at hab
      exact absurd hab.symm (hfresh b hb)
    · rw [List.mem_singleton.1 ha, List.mem_singleton.1 hb]
  refine ⟨hd', ?_⟩
  intro k
  split
  · rename_i hk
    rw [absIn_eq_some_iff hd']
    exact ⟨n, List.mem_append_right _ (List.mem_singleton.2 rfl), by rw [hnew, hk], by rw [hnew]⟩
  · rename_i hk
    refine absIn_congr hd hd' (fun j hj hjk => ⟨j, List.mem_append_left _ hj, by rw [hkey j hj, hjk], hval j hj⟩) ?_
    intro j hj hjk
    rcases List.mem_append.1 hj with hj | hj
    · exact ⟨j, hj, by rw [← hkey j hj, hjk]⟩
    · rw [List.mem_singleton.1 hj, hnew] at hjk
      exact absurd hjk hk

theorem absIn_unlink {heap heap' : List NodeS} {C C' : List Nat} {i : Nat}
    (hd : KeysDistinct heap C) (hi : i ∈ C) (hC' : ∀ j, j ∈ C' ↔ j ∈ C ∧ j ≠ i)
    (hkey : ∀ j ∈ C, (nodeAt heap' j).key = (nodeAt heap j).key)
    (hval : ∀ j ∈ C, (nodeAt heap' j).val = (nodeAt heap j).val) :
    KeysDistinct heap' C' ∧
    ∀ k, absIn heap' C' k = if (nodeAt heap i).key = k then none else absIn heap C k := by
  have hd' : KeysDistinct heap' C' := by
    intro a ha b hb hab
    have ha' := ((hC' a).1 ha).1
    have hb' := ((hC' b).1 hb).1
    rw [hkey a ha', hkey b hb'] at hab
    exact hd a ha' b hb' hab
  refine ⟨hd', ?_⟩
  intro k
  split
  · rename_i hk
    rw [absIn_eq_none_iff]
    intro j hj
    obtain ⟨hj1, hj2⟩ := (hC' j).1 hj
    rw [hkey j hj1]
    intro hjk
    exact hj2 (hd j hj1 i hi (by rw [hjk, hk]))
  · rename_i hk
    refine absIn_congr hd hd'
      (fun j hj hjk => ⟨j, (hC' j).2 ⟨hj, fun h => hk (h ▸ hjk)⟩, by rw [hkey j hj, hjk], hval j hj⟩) ?_
    intro j hj hjk
    have hj1 := ((hC' j).1 hj).1
    exact ⟨j, hj1, by rw [← hkey j hj1, hjk]⟩

end Flurry.Proto.BinX
