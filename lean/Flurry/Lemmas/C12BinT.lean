import Flurry.Lemmas.BinTInvStep
/-! # C12 at the tree-bin level: what a reader's program counter knows (Proto/BinT)

`RInv`: in every reachable state of `Proto/BinT`
* a thread that is not `idle` has a call in flight (so its step is never disabled for lack of one);
* every heap index a reader's program counter holds (`rState (some c)`, `rLin c`, `rCas c _`,
  `rRelease (some i)`, `rVal i`) is inside the heap (nodes are never freed in the model, and `first`,
  `next` and the tree only ever point to allocated nodes).
Neither fact depends on what the *other* threads are doing. -/
namespace Flurry.Proto.BinT
open Flurry.Lin Flurry.Shared

def RdBound (n : Nat) : Pc → Prop
  | .rState (some c) => c < n
  | .rLin c => c < n
  | .rCas c _ => c < n
  | .rRelease (some i) => i < n
  | .rVal i => i < n
  | _ => True

theorem RdBound.mono {n m : Nat} (h : n ≤ m) {pc : Pc} (hb : RdBound n pc) : RdBound m pc := by
  cases pc with
  | rState cur =>
    cases cur with
    | none => trivial
    | some c => exact Nat.lt_of_lt_of_le hb h
  | rRelease hit =>
    cases hit with
    | none => trivial
    | some i => exact Nat.lt_of_lt_of_le hb h
  | rLin c | rCas c _ | rVal c => exact Nat.lt_of_lt_of_le hb h
  | _ => trivial

structure RInv (s : State) : Prop where
  callSome : ∀ (t : Nat) (l : Local), s.threads[t]? = some l → l.pc ≠ .idle → l.call.isSome = true
  bound : ∀ (t : Nat) (l : Local), s.threads[t]? = some l → RdBound s.heap.length l.pc

theorem rinv_step {s s' : State} {t : Nat} {l' : Local} (R : RInv s)
    (hthr : s'.threads = s.threads.set t l') (hlen : s.heap.length ≤ s'.heap.length)
    (hc : l'.pc ≠ .idle → l'.call.isSome = true) (hb : RdBound s'.heap.length l'.pc) : RInv s' := by
  constructor
  · intro t1 l1 h1 hne
    rw [hthr] at h1
    rcases get_set h1 with ⟨_, rfl⟩ | ⟨_, h1⟩
    · exact hc hne
    · exact R.callSome t1 l1 h1 hne
  · intro t1 l1 h1
    rw [hthr] at h1
    rcases get_set h1 with ⟨_, rfl⟩ | ⟨_, h1⟩
    · exact hb
    · exact (R.bound t1 l1 h1).mono hlen

theorem Move.rdBound {s : State} {t : Nat} {p : Pending} {pc pc' : Pc} {m : Option Nat} {w a : Bool} {r : Nat}
    (hm : Move s t p pc pc' m w a r) (H : HInv s) (hb : RdBound s.heap.length pc) :
    RdBound s.heap.length pc' := by
  cases hm with
  | rFirst =>
    cases hf : s.first with
    | none => trivial
    | some h => exact H.firstOK h hf
  | rLinMode _ => exact hb
  | rTreeMode _ => exact hb
  | @rLinNext c n hn _ =>
    cases hx : n.next with
    | none => trivial
    | some j =>
      have h1 := H.nextOK c n j hn hx
      have h2 : c < s.heap.length := (List.getElem?_eq_some_iff.1 hn).1
      show j < s.heap.length
      omega
  | rLinHit _ _ _ => exact hb
  | rCasOk _ _ _ => trivial
  | rCasFail => exact hb
  | rTree =>
    cases hf : treeFind s p.key with
    | none => trivial
    | some i => exact (treeFind_some hf).1
  | rRelVal _ => exact hb
  | @lrTryOk rmv _ _ _ _ => cases rmv <;> trivial
  | @lrLoopOk rmv _ _ _ => cases rmv <;> trivial
  | _ => trivial

theorem stepK_rinv {s s' : State} {t : Nat} {pc : Pc} {call : Option Pending} (I : Inv s) (R : RInv s)
    (hl : s.threads[t]? = some ⟨pc, call⟩) (hk : StepK s t pc call s') : RInv s' := by
  have hmod : ∀ (i : Nat) (f : NodeS → NodeS), s.heap.length ≤ (s.heap.modify i f).length :=
    fun i f => by rw [List.length_modify]; exact Nat.le_refl _
  cases hk with
  | idle => exact rinv_step R rfl (Nat.le_refl _) (R.callSome t _ hl) (R.bound t _ hl)
  | invoke _ k op =>
    refine rinv_step R rfl (Nat.le_refl _) (fun _ => rfl) ?_
    show RdBound s.heap.length (if isReader op then .rFirst else .wMutex)
    cases isReader op <;> trivial
  | move p pc' m w a r hm =>
    exact rinv_step R rfl (Nat.le_refl _) (fun _ => rfl) (hm.rdBound I.heap (R.bound t _ hl))
  | fin p res m r hf => exact rinv_step R rfl (Nat.le_refl _) (fun h => absurd rfl h) trivial
  | val p i v res => exact rinv_step R rfl (hmod _ _) (fun _ => rfl) trivial
  | prepend p v vi hop =>
    refine rinv_step R rfl ?_ (fun _ => rfl) trivial
    show s.heap.length ≤ (s.heap ++ [_]).length
    rw [List.length_append]; exact Nat.le_add_right _ _
  | treeLink p x bal =>
    refine rinv_step R rfl (hmod _ _) (fun _ => rfl) ?_
    show RdBound _ (if bal then .lrTry none .none else .wUnlockM .none)
    cases bal <;> trivial
  | unlink p i res =>
    refine rinv_step R rfl ?_ (fun _ => rfl) trivial
    show s.heap.length ≤ (unlinkOf s i).1.length
    unfold unlinkOf
    split
    · exact hmod _ _
    · exact Nat.le_refl _
  | untree p i res => exact rinv_step R rfl (hmod _ _) (fun _ => rfl) trivial
  | dead p i res s' => exact (I.data.pcInv t _ p hl rfl : PcInv s p (.wListUnlink i res)).elim

theorem init_rinv (n : Nat) : RInv (init n) := by
  constructor
  · intro t l hl hne
    rw [init_threads hl] at hne
    exact absurd rfl hne
  · intro t l hl
    rw [init_threads hl]
    trivial

theorem reachable_rinv {n : Nat} {s : State} (hr : Reachable n s) : RInv s := by
  induction hr with
  | init => exact init_rinv n
  | @step s s' t inv bal hr hs ih =>
    cases hl : s.threads[t]? with
    | none => unfold step stepG at hs; rw [hl] at hs; cases hs
    | some l => exact stepK_rinv (reachable_inv hr) ih hl (step_stepK hl hs)

end Flurry.Proto.BinT
