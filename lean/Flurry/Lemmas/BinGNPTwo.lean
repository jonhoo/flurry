import Flurry.Lemmas.BinGNPBundle
/-! # Two transitions of BinGN for one transition of a sub-model

`Proto/BinG` and `Proto/BinK` make in one transition, and one tick, what BinGN makes in two (BinG: the start of the
resize and the commit; BinK: the start of a call and of a treeify). Between the images `u`, `u'` of the two states of
the sub-model that is: two transitions of one thread from `u`, after which only the clock differs from `u'` (it is at
`u.now + 2`). `Bundle.two`, `Bundle.two_abs` read BinGNP's step lemmas across it: both transitions, then the clock set
back (`Bundle.setNow`). -/
namespace Flurry.Proto.BinGNP
open Flurry.Lin

variable {u mid u' : State} {t : Nat} {l l1 l' : Local}

/-- `u'` differs from `u` in thread `t`, which records no call or one invoked by then, and in cells, pointer, flag and
clock -/
theorem Bundle.two (j : Bundle u) (hl : u.threads[t]? = some l) (s1 : StepN u t l mid) (hmid : mid.threads[t]? = some l1)
    (s2 : StepN mid t l1 { u' with now := u.now + 2 }) (hthr : u'.threads = u.threads.set t l')
    (hc' : ∀ p, l'.call = some p → p.inv ≤ u'.now) (hhist : u'.hist = u.hist) (hnow : u.now ≤ u'.now) : Bundle u' := by
  refine ((j.stepN hl s1).stepN hmid s2).setNow u'.now (fun x hx => ?_) (fun t1 l2 p h1 hp => ?_)
  · exact Nat.le_trans (j.inv.thr.histTime x (hhist ▸ hx)).2 hnow
  · have h1 : u'.threads[t1]? = some l2 := h1
    rw [hthr] at h1
    rcases Flurry.Shared.get_set h1 with ⟨-, e⟩ | ⟨-, h0⟩
    · exact hc' p (e ▸ hp)
    · exact Nat.le_trans (j.inv.thr.pendTime t1 l2 p h0 hp) hnow

theorem Bundle.two_abs (j : Bundle u) (hl : u.threads[t]? = some l) (s1 : StepN u t l mid)
    (hmid : mid.threads[t]? = some l1) (s2 : StepN mid t l1 { u' with now := u.now + 2 }) (hc : l.call = none)
    (hc1 : l1.call = none) (k : Nat) : absOf u' k = absOf u k :=
  (absOf_setNow u' (u.now + 2) k).symm.trans (((j.stepN hl s1).nocall_abs hmid s2 hc1 k).trans (j.nocall_abs hl s1 hc k))

end Flurry.Proto.BinGNP
