import Flurry.Lemmas.BinRBChain
import Flurry.Lemmas.ListHeap
/-! # Proto/BinRBase: structural invariants of the heap and the effect of the stores (C01, C13)

* `HInv`: `next` pointers go upwards inside the heap, the head is a valid index, the keys on the
  chain are pairwise distinct. `chain_isChain`, `chain_sorted`, `absOf_eq_some_iff`, `absOf_eq_none_iff`.
* the three heap surgeries (`swap`, `append`, `unlink`): each preserves `HInv`, and we compute the
  new chain and the new abstract content. `absOf` is `LHeap.Sig.abs` at `sig` (`absOf_gen`); what a surgery
  does to it is `LHeap.abs_val` / `abs_add` / `abs_del`.
* `HeapStep s s'`: what every transition does to the heap as far as lock-free readers are concerned.
* `writerStore_spec`: the store of a validated writer is the specification step on its own key and
  leaves the other keys alone. -/
namespace Flurry.Proto.BinR.Base
open Flurry.Lin2

def nodeAt (heap : List NodeS) (i : Nat) : NodeS := heap.getD i ⟨0, (0, 0), none, none⟩

theorem nodeAt_of_some {heap : List NodeS} {i : Nat} {n : NodeS} (h : heap[i]? = some n) :
    nodeAt heap i = n := Shared.getD_of_some h

theorem getElem?_nodeAt {heap : List NodeS} {i : Nat} (h : i < heap.length) :
    heap[i]? = some (nodeAt heap i) := Shared.getElem?_getD _ h

structure HInv (s : State) : Prop where
  nextOK : NextOK s.heap
  headOK : ∀ h, s.head = some h → h < s.heap.length
  keysDistinct : ∀ i ∈ chain s, ∀ j ∈ chain s, (nodeAt s.heap i).key = (nodeAt s.heap j).key → i = j

theorem chain_isChain' {s : State} (hok : NextOK s.heap) (hh : ∀ h, s.head = some h → h < s.heap.length) :
    IsChain s.heap s.head (chain s) := by
  refine chainFrom_isChain hok _ _ ?_
  intro i hi
  have := hh i hi
  omega

theorem chain_isChain {s : State} (H : HInv s) : IsChain s.heap s.head (chain s) :=
  chain_isChain' H.nextOK H.headOK

theorem chain_eq' {s : State} (hok : NextOK s.heap) (hh : ∀ h, s.head = some h → h < s.heap.length)
    {l : List Nat} (h : IsChain s.heap s.head l) : chain s = l :=
  (chain_isChain' hok hh).unique h

theorem chain_lt {s : State} (H : HInv s) {i : Nat} (hi : i ∈ chain s) : i < s.heap.length :=
  (chain_isChain H).lt_length i hi

theorem chain_sorted {s : State} (H : HInv s) : (chain s).Pairwise (· < ·) :=
  (chain_isChain H).sorted H.nextOK

theorem chain_nodup {s : State} (H : HInv s) : (chain s).Nodup :=
  (chain_isChain H).nodup H.nextOK

theorem chain_head_none {s : State} (H : HInv s) (h : s.head = none) : chain s = [] := by
  have := chain_isChain H
  rw [h] at this
  cases hc : chain s with
  | nil => rfl
  | cons a l => rw [hc] at this; exact absurd (IsSeg.cons_iff.1 this).1 (by simp)

theorem chain_head_some {s : State} (H : HInv s) {h : Nat} (hh : s.head = some h) :
    ∃ l, chain s = h :: l := by
  have := chain_isChain H
  rw [hh] at this
  cases hc : chain s with
  | nil => rw [hc] at this; cases this
  | cons a l =>
    rw [hc] at this
    obtain ⟨ha, -⟩ := IsSeg.cons_iff.1 this
    cases ha
    exact ⟨l, rfl⟩

theorem absOf_eq (s : State) (k : Nat) :
    absOf s k = ((chain s).find? (fun i => (nodeAt s.heap i).key == k)).map
      (fun i => (nodeAt s.heap i).val) := by
  unfold absOf nodeAt
  cases (chain s).find? _ <;> rfl

/-- how `Lemmas/ListHeap` reads a node: every chain node counts (there is no tree) -/
def sig : LHeap.Sig NodeS := ⟨NodeS.key, NodeS.val, NodeS.next, fun _ => false, fun _ => true, ⟨0, (0, 0), none, none⟩⟩

theorem absOf_gen (s : State) (k : Nat) : absOf s k = sig.abs s.heap (chain s) k := absOf_eq s k

theorem counts_iff {heap : List NodeS} {C : List Nat} {j : Nat} : LHeap.Counts sig heap C j ↔ j ∈ C := and_iff_left rfl

theorem HInv.dist {s : State} (H : HInv s) : LHeap.Dist sig s.heap (chain s) :=
  fun i j hi hj => H.keysDistinct i hi j hj

theorem absOf_eq_none_iff {s : State} {k : Nat} :
    absOf s k = none ↔ ∀ i ∈ chain s, (nodeAt s.heap i).key ≠ k := by
  rw [absOf_gen, LHeap.abs_eq_none_iff]
  exact forall₂_congr fun _ _ => ⟨fun h => h rfl, fun h _ => h⟩

theorem absOf_eq_some_iff {s : State} (H : HInv s) {k : Nat} {v : Nat × Nat} :
    absOf s k = some v ↔ ∃ i ∈ chain s, (nodeAt s.heap i).key = k ∧ (nodeAt s.heap i).val = v := by
  rw [absOf_gen, LHeap.abs_eq_some_iff H.dist]
  exact exists_congr fun _ => and_congr_right fun _ => and_iff_right rfl

theorem find_hit_some {s : State} {k i : Nat}
    (h : (chain s).find? (fun i => (nodeAt s.heap i).key == k) = some i) :
    i ∈ chain s ∧ (nodeAt s.heap i).key = k :=
  ⟨List.mem_of_find?_eq_some h, by simpa using List.find?_some h⟩

theorem find_hit_none {s : State} {k : Nat}
    (h : (chain s).find? (fun i => (nodeAt s.heap i).key == k) = none) :
    ∀ i ∈ chain s, (nodeAt s.heap i).key ≠ k := by
  rw [List.find?_eq_none] at h
  intro i hi
  simpa using h i hi

structure HeapStep (s s' : State) : Prop where
  len : s.heap.length ≤ s'.heap.length
  key : ∀ j, j < s.heap.length → (nodeAt s'.heap j).key = (nodeAt s.heap j).key
  /-- nodes that are not on the chain are not written -/
  off : ∀ j, j < s.heap.length → j ∉ chain s →
    (nodeAt s'.heap j).val = (nodeAt s.heap j).val ∧ (nodeAt s'.heap j).next = (nodeAt s.heap j).next
  /-- an unlinked node never returns to the chain -/
  noRelink : ∀ j ∈ chain s', j ∈ chain s ∨ s.heap.length ≤ j
  /-- a node that is unlinked keeps its value and its `next`, and only one node is unlinked -/
  unl : ∀ c ∈ chain s, c ∉ chain s' →
    (nodeAt s'.heap c).val = (nodeAt s.heap c).val ∧ (nodeAt s'.heap c).next = (nodeAt s.heap c).next ∧
    ∀ j ∈ chain s, j ≠ c → j ∈ chain s'

theorem nodeAt_modify (heap : List NodeS) (i : Nat) (f : NodeS → NodeS) (j : Nat) :
    nodeAt (heap.modify i f) j = if i = j ∧ j < heap.length then f (nodeAt heap j) else nodeAt heap j :=
  Shared.getD_modify heap i f j _

theorem nodeAt_append_left {heap : List NodeS} (l : List NodeS) {j : Nat} (hj : j < heap.length) :
    nodeAt (heap ++ l) j = nodeAt heap j := Shared.getD_append_left l _ hj

theorem nodeAt_append_new (heap : List NodeS) (n : NodeS) : nodeAt (heap ++ [n]) heap.length = n :=
  Shared.getD_append_new heap n _

theorem chain_congr {s s' : State} (hh : s'.heap = s.heap) (hd : s'.head = s.head) : chain s' = chain s := by
  unfold chain; rw [hh, hd]

theorem absOf_congr {s s' : State} (hh : s'.heap = s.heap) (hd : s'.head = s.head) (k : Nat) :
    absOf s' k = absOf s k := by
  rw [absOf_eq, absOf_eq, chain_congr hh hd, hh]

theorem HInv.congr {s s' : State} (H : HInv s) (hh : s'.heap = s.heap) (hd : s'.head = s.head) : HInv s' := by
  refine ⟨by rw [hh]; exact H.nextOK, by rw [hh, hd]; exact H.headOK, ?_⟩
  rw [chain_congr hh hd, hh]; exact H.keysDistinct

theorem HeapStep.of_same {s s' : State} (hh : s'.heap = s.heap) (hd : s'.head = s.head) : HeapStep s s' := by
  have hc := chain_congr hh hd
  refine ⟨by rw [hh]; exact Nat.le_refl _, by intros; rw [hh], by intros; rw [hh]; exact ⟨rfl, rfl⟩, ?_, ?_⟩
  · intro j hj; rw [hc] at hj; exact Or.inl hj
  · intro c hc1 hc2; rw [hc] at hc2; exact absurd hc1 hc2

theorem modify_chain {s s' : State} (H : HInv s) {i : Nat} {f : NodeS → NodeS}
    (hh : s'.heap = s.heap.modify i f) (hd : s'.head = s.head)
    (hf : ∀ n, (f n).next = n.next ∧ (f n).key = n.key) :
    NextOK s'.heap ∧ (∀ h, s'.head = some h → h < s'.heap.length) ∧ chain s' = chain s := by
  have hok : NextOK s'.heap := by
    intro a n b hn hb
    rw [hh, List.getElem?_modify] at hn
    rw [hh, List.length_modify]
    cases hn0 : s.heap[a]? with
    | none => rw [hn0] at hn; cases hn
    | some n0 =>
      rw [hn0] at hn
      simp only [Option.map_eq_map, Option.map_some, Option.some.injEq] at hn
      subst hn
      refine H.nextOK a n0 b hn0 ?_
      split at hb
      · rw [(hf n0).1] at hb; exact hb
      · exact hb
  have hho : ∀ h, s'.head = some h → h < s'.heap.length := by
    intro h hhd
    rw [hh, List.length_modify]
    exact H.headOK h (hd ▸ hhd)
  refine ⟨hok, hho, chain_eq' hok hho ?_⟩
  rw [hd]
  refine (chain_isChain H).congr ?_
  intro j _ n hn
  rw [hh, List.getElem?_modify, hn]
  by_cases hij : i = j
  · exact ⟨f n, by simp [hij], (hf n).1⟩
  · exact ⟨n, by simp [hij], rfl⟩

theorem modify_hinv {s s' : State} (H : HInv s) {i : Nat} {f : NodeS → NodeS}
    (hh : s'.heap = s.heap.modify i f) (hd : s'.head = s.head)
    (hf : ∀ n, (f n).next = n.next ∧ (f n).key = n.key) : HInv s' := by
  obtain ⟨hok, hho, hc⟩ := modify_chain H hh hd hf
  refine ⟨hok, hho, ?_⟩
  rw [hc]
  intro a ha b hb hab
  refine H.keysDistinct a ha b hb ?_
  have hkey : ∀ j, (nodeAt s'.heap j).key = (nodeAt s.heap j).key := by
    intro j; rw [hh, nodeAt_modify]; split
    · exact (hf _).2
    · rfl
  rw [hkey, hkey] at hab
  exact hab

theorem modify_heapStep {s s' : State} (H : HInv s) {i : Nat} {f : NodeS → NodeS}
    (hh : s'.heap = s.heap.modify i f) (hd : s'.head = s.head)
    (hf : ∀ n, (f n).next = n.next ∧ (f n).key = n.key)
    (hv : i ∈ chain s ∨ ∀ n, (f n).val = n.val) : HeapStep s s' := by
  obtain ⟨-, -, hc⟩ := modify_chain H hh hd hf
  refine ⟨by rw [hh, List.length_modify]; exact Nat.le_refl _, ?_, ?_, ?_, ?_⟩
  · intro j _
    rw [hh, nodeAt_modify]; split
    · exact (hf _).2
    · rfl
  · intro j _ hjc
    rw [hh, nodeAt_modify]; split
    · rename_i hij
      rcases hv with hv | hv
      · exact absurd (hij.1 ▸ hv) hjc
      · exact ⟨hv _, (hf _).1⟩
    · exact ⟨rfl, rfl⟩
  · intro j hj; rw [hc] at hj; exact Or.inl hj
  · intro c hc1 hc2; rw [hc] at hc2; exact absurd hc1 hc2

/-- a modification that keeps key, value and `next` (lock / unlock) is invisible -/
theorem modify_absOf_same {s s' : State} (H : HInv s) {i : Nat} {f : NodeS → NodeS}
    (hh : s'.heap = s.heap.modify i f) (hd : s'.head = s.head)
    (hf : ∀ n, (f n).next = n.next ∧ (f n).key = n.key) (hv : ∀ n, (f n).val = n.val) (k : Nat) :
    absOf s' k = absOf s k := by
  obtain ⟨-, -, hc⟩ := modify_chain H hh hd hf
  have hkey : ∀ j, (nodeAt s'.heap j).key = (nodeAt s.heap j).key := by
    intro j; rw [hh, nodeAt_modify]; split
    · exact (hf _).2
    · rfl
  have hval : ∀ j, (nodeAt s'.heap j).val = (nodeAt s.heap j).val := by
    intro j; rw [hh, nodeAt_modify]; split
    · exact hv _
    · rfl
  rw [absOf_eq, absOf_eq, hc]
  simp only [hkey, hval]

theorem swap_absOf {s s' : State} (H : HInv s) {i : Nat} (hi : i ∈ chain s) {v : Nat × Nat}
    (hh : s'.heap = s.heap.modify i (fun n => { n with val := v })) (hd : s'.head = s.head) (k : Nat) :
    absOf s' k = if (nodeAt s.heap i).key = k then some v else absOf s k := by
  have hf : ∀ n : NodeS, ({ n with val := v } : NodeS).next = n.next ∧ ({ n with val := v } : NodeS).key = n.key :=
    fun n => ⟨rfl, rfl⟩
  have H' := modify_hinv H hh hd hf
  obtain ⟨-, -, hc⟩ := modify_chain H hh hd hf
  have hil := chain_lt H hi
  have hkey : ∀ j, (nodeAt s'.heap j).key = (nodeAt s.heap j).key := by
    intro j; rw [hh, nodeAt_modify]; split <;> rfl
  have hval : ∀ j, (nodeAt s'.heap j).val = if j = i then v else (nodeAt s.heap j).val := by
    intro j; rw [hh, nodeAt_modify]
    by_cases hij : i = j
    · subst hij; simp [hil]
    · have : ¬ j = i := fun h => hij h.symm
      simp [hij, this]
  rw [absOf_gen, absOf_gen]
  exact LHeap.abs_val H.dist H'.dist ⟨hi, rfl⟩ (fun j => by rw [counts_iff, counts_iff, hc]) hkey hval k

theorem nextOK_append {heap : List NodeS} (hok : NextOK heap) {new : NodeS} (hnew : new.next = none) :
    NextOK (heap ++ [new]) := by
  intro a n b hn hb
  rw [List.length_append, List.length_singleton]
  by_cases ha : a < heap.length
  · rw [List.getElem?_append_left ha] at hn
    have := hok a n b hn hb
    omega
  · have hlen : a < (heap ++ [new]).length := (List.getElem?_eq_some_iff.1 hn).1
    rw [List.length_append, List.length_singleton] at hlen
    have : a = heap.length := by omega
    subst this
    simp only [List.getElem?_concat_length, Option.some.injEq] at hn
    subst hn
    rw [hnew] at hb; cases hb

theorem nextOK_modify_next {heap : List NodeS} (hok : NextOK heap) {i : Nat} {x : Option Nat}
    (hx : ∀ b, x = some b → i < b ∧ b < heap.length) :
    NextOK (heap.modify i (fun n => { n with next := x })) := by
  intro a n b hn hb
  rw [List.length_modify]
  rw [List.getElem?_modify] at hn
  cases hn0 : heap[a]? with
  | none => rw [hn0] at hn; cases hn
  | some n0 =>
    rw [hn0] at hn
    simp only [Option.map_eq_map, Option.map_some, Option.some.injEq] at hn
    subst hn
    split at hb
    · rename_i hia
      subst hia
      exact hx b hb
    · exact hok a n0 b hn0 hb

/-- what `append_last` and `append_empty` share: once the new chain is known, the invariant, the
`HeapStep` and the new abstract content follow from the fields of the old nodes -/
theorem append_summary {s s' : State} (H : HInv s) {new : NodeS}
    (hok' : NextOK s'.heap) (hho' : ∀ h, s'.head = some h → h < s'.heap.length)
    (hlen : s'.heap.length = s.heap.length + 1)
    (hc : chain s' = chain s ++ [s.heap.length])
    (hold : ∀ j, j < s.heap.length → (nodeAt s'.heap j).key = (nodeAt s.heap j).key ∧
      (nodeAt s'.heap j).val = (nodeAt s.heap j).val ∧
      (j ∉ chain s → (nodeAt s'.heap j).next = (nodeAt s.heap j).next))
    (hnew : nodeAt s'.heap s.heap.length = new)
    (hfresh : ∀ i ∈ chain s, (nodeAt s.heap i).key ≠ new.key) :
    HInv s' ∧ HeapStep s s' ∧
      ∀ k, absOf s' k = if new.key = k then some new.val else absOf s k := by
  have H' : HInv s' := by
    refine ⟨hok', hho', ?_⟩
    rw [hc]
    intro a ha b hb hab
    rcases List.mem_append.1 ha with ha | ha <;> rcases List.mem_append.1 hb with hb | hb
    · rw [(hold a (chain_lt H ha)).1, (hold b (chain_lt H hb)).1] at hab
      exact H.keysDistinct a ha b hb hab
    · have hb' : b = s.heap.length := by simpa using hb
      subst hb'
      rw [(hold a (chain_lt H ha)).1, hnew] at hab
      exact absurd hab (hfresh a ha)
    · have ha' : a = s.heap.length := by simpa using ha
      subst ha'
      rw [(hold b (chain_lt H hb)).1, hnew] at hab
      exact absurd hab.symm (hfresh b hb)
    · have ha' : a = s.heap.length := by simpa using ha
      have hb' : b = s.heap.length := by simpa using hb
      rw [ha', hb']
  refine ⟨H', ⟨by omega, fun j hj => (hold j hj).1, fun j hj hjc => ⟨(hold j hj).2.1, (hold j hj).2.2 hjc⟩, ?_, ?_⟩, ?_⟩
  · intro j hj
    rw [hc] at hj
    rcases List.mem_append.1 hj with hj | hj
    · exact Or.inl hj
    · have : j = s.heap.length := by simpa using hj
      exact Or.inr (by omega)
  · intro c hc1 hc2
    exact absurd (hc ▸ List.mem_append_left _ hc1) hc2
  · intro k
    have := LHeap.abs_add H.dist H'.dist (x := s.heap.length) ⟨by rw [hc]; simp, rfl⟩
      (fun j => by rw [counts_iff, counts_iff, hc, List.mem_append, List.mem_singleton, or_comm])
      (fun j hj => ⟨(hold j (chain_lt H hj.1)).1, (hold j (chain_lt H hj.1)).2.1⟩) k
    rw [show sig.at s'.heap s.heap.length = new from hnew] at this
    rw [absOf_gen, absOf_gen]; exact this

theorem append_last_chain {s s' : State} (H : HInv s) {new : NodeS} {last : Nat}
    (hlast : (chain s).getLast? = some last) (hnx : new.next = none)
    (hh : s'.heap = (s.heap ++ [new]).modify last (fun n => { n with next := some s.heap.length }))
    (hd : s'.head = s.head) :
    NextOK s'.heap ∧ (∀ h, s'.head = some h → h < s'.heap.length) ∧
      chain s' = chain s ++ [s.heap.length] := by
  obtain ⟨l0, hl0⟩ := List.getLast?_eq_some_iff.1 hlast
  have hll : last < s.heap.length := chain_lt H (by rw [hl0]; simp)
  have hok' : NextOK s'.heap := by
    rw [hh]
    refine nextOK_modify_next (nextOK_append H.nextOK hnx) ?_
    intro b hb
    cases hb
    rw [List.length_append, List.length_singleton]
    omega
  have hho' : ∀ h, s'.head = some h → h < s'.heap.length := by
    intro h hhd
    have := H.headOK h (hd ▸ hhd)
    rw [hh, List.length_modify, List.length_append]
    omega
  refine ⟨hok', hho', chain_eq' hok' hho' ?_⟩
  rw [hd, hh, hl0]
  have := chain_isChain H
  rw [hl0] at this
  exact isChain_append_node H.nextOK this new hnx

theorem append_last {s s' : State} (H : HInv s) {new : NodeS} {last : Nat}
    (hlast : (chain s).getLast? = some last) (hnx : new.next = none)
    (hh : s'.heap = (s.heap ++ [new]).modify last (fun n => { n with next := some s.heap.length }))
    (hd : s'.head = s.head)
    (hfresh : ∀ i ∈ chain s, (nodeAt s.heap i).key ≠ new.key) :
    HInv s' ∧ HeapStep s s' ∧
      ∀ k, absOf s' k = if new.key = k then some new.val else absOf s k := by
  obtain ⟨hok', hho', hc⟩ := append_last_chain H hlast hnx hh hd
  have hlc : last ∈ chain s := List.mem_of_getLast? hlast
  have hlen : s'.heap.length = s.heap.length + 1 := by
    rw [hh, List.length_modify, List.length_append, List.length_singleton]
  refine append_summary H hok' hho' hlen hc ?_ ?_ hfresh
  · intro j hj
    rw [hh, nodeAt_modify, nodeAt_append_left _ hj]
    split
    · rename_i hjl
      refine ⟨rfl, rfl, fun hjc => absurd (hjl.1 ▸ hlc) hjc⟩
    · exact ⟨rfl, rfl, fun _ => rfl⟩
  · rw [hh, nodeAt_modify, nodeAt_append_new]
    have : ¬ (last = s.heap.length ∧ s.heap.length < (s.heap ++ [new]).length) := by
      intro h; have := chain_lt H hlc; omega
    rw [if_neg this]

theorem append_empty_chain {s s' : State} (H : HInv s) {new : NodeS}
    (hempty : chain s = []) (hnx : new.next = none)
    (hh : s'.heap = s.heap ++ [new]) (hd : s'.head = some s.heap.length) :
    NextOK s'.heap ∧ (∀ h, s'.head = some h → h < s'.heap.length) ∧
      chain s' = chain s ++ [s.heap.length] := by
  have hok' : NextOK s'.heap := by rw [hh]; exact nextOK_append H.nextOK hnx
  have hho' : ∀ h, s'.head = some h → h < s'.heap.length := by
    intro h hhd
    rw [hd] at hhd; cases hhd
    rw [hh, List.length_append, List.length_singleton]
    omega
  refine ⟨hok', hho', chain_eq' hok' hho' ?_⟩
  rw [hd, hempty, hh]
  refine .cons (n := new) (by simp) ?_
  rw [hnx]; exact .nil _

/-- install the first node of an empty bin (by the lock-free CAS; `writerStore` has the same case) -/
theorem append_empty {s s' : State} (H : HInv s) {new : NodeS}
    (hempty : chain s = []) (hnx : new.next = none)
    (hh : s'.heap = s.heap ++ [new]) (hd : s'.head = some s.heap.length) :
    HInv s' ∧ HeapStep s s' ∧
      ∀ k, absOf s' k = if new.key = k then some new.val else absOf s k := by
  obtain ⟨hok', hho', hc⟩ := append_empty_chain H hempty hnx hh hd
  have hlen : s'.heap.length = s.heap.length + 1 := by
    rw [hh, List.length_append, List.length_singleton]
  refine append_summary H hok' hho' hlen hc ?_ ?_ (by rw [hempty]; intro i hi; cases hi)
  · intro j hj
    rw [hh, nodeAt_append_left _ hj]
    exact ⟨rfl, rfl, fun _ => rfl⟩
  · rw [hh, nodeAt_append_new]

/-- the same for `unlink_mid` and `unlink_head` -/
theorem unlink_summary {s s' : State} (H : HInv s) {i : Nat} (hi : i ∈ chain s)
    (hok' : NextOK s'.heap) (hho' : ∀ h, s'.head = some h → h < s'.heap.length)
    (hlen : s'.heap.length = s.heap.length)
    (hc : ∀ j, j ∈ chain s' ↔ j ∈ chain s ∧ j ≠ i)
    (hold : ∀ j, j < s.heap.length → (nodeAt s'.heap j).key = (nodeAt s.heap j).key ∧
      (nodeAt s'.heap j).val = (nodeAt s.heap j).val ∧
      ((j ∉ chain s ∨ j = i) → (nodeAt s'.heap j).next = (nodeAt s.heap j).next)) :
    HInv s' ∧ HeapStep s s' ∧
      ∀ k, absOf s' k = if (nodeAt s.heap i).key = k then none else absOf s k := by
  have H' : HInv s' := by
    refine ⟨hok', hho', ?_⟩
    intro a ha b hb hab
    have ha' := ((hc a).1 ha).1
    have hb' := ((hc b).1 hb).1
    rw [(hold a (chain_lt H ha')).1, (hold b (chain_lt H hb')).1] at hab
    exact H.keysDistinct a ha' b hb' hab
  refine ⟨H', ⟨by omega, fun j hj => (hold j hj).1,
    fun j hj hjc => ⟨(hold j hj).2.1, (hold j hj).2.2 (Or.inl hjc)⟩, ?_, ?_⟩, ?_⟩
  · intro j hj
    exact Or.inl ((hc j).1 hj).1
  · intro c hc1 hc2
    have hci : c = i := by
      apply Classical.byContradiction
      intro hne
      exact hc2 ((hc c).2 ⟨hc1, hne⟩)
    subst hci
    have hcl := chain_lt H hc1
    exact ⟨(hold c hcl).2.1, (hold c hcl).2.2 (Or.inr rfl), fun j hj hne => (hc j).2 ⟨hj, hne⟩⟩
  · intro k
    rw [absOf_gen, absOf_gen]
    exact LHeap.abs_del H.dist H'.dist hi (fun j => by rw [counts_iff, counts_iff, hc, and_comm])
      (fun j hj => ⟨(hold j (chain_lt H hj.1)).1, (hold j (chain_lt H hj.1)).2.1⟩) k

theorem unlink_mid_chain {s s' : State} (H : HInv s) {l1 l2 : List Nat} {pr i : Nat}
    (hch : chain s = l1 ++ pr :: i :: l2)
    (hh : s'.heap = s.heap.modify pr (fun m => { m with next := (nodeAt s.heap i).next }))
    (hd : s'.head = s.head) :
    NextOK s'.heap ∧ (∀ h, s'.head = some h → h < s'.heap.length) ∧ chain s' = l1 ++ pr :: l2 := by
  have hni := getElem?_nodeAt (chain_lt H (show i ∈ chain s by rw [hch]; simp))
  have hchain := chain_isChain H
  rw [hch] at hchain
  -- `pr.next = some i`
  obtain ⟨b, h1, h2⟩ := hchain.split
  obtain ⟨-, np, hnp, hs⟩ := IsSeg.cons_iff.1 h2
  obtain ⟨hb, -⟩ := IsSeg.cons_iff.1 hs
  have hok' : NextOK s'.heap := by
    rw [hh]
    refine nextOK_modify_next H.nextOK ?_
    intro b hb'
    have h3 := H.nextOK pr np i hnp hb
    have h4 := H.nextOK i _ b hni hb'
    omega
  have hho' : ∀ h, s'.head = some h → h < s'.heap.length := by
    intro h hhd
    rw [hh, List.length_modify]
    exact H.headOK h (hd ▸ hhd)
  refine ⟨hok', hho', chain_eq' hok' hho' ?_⟩
  rw [hd, hh]
  exact isChain_unlink H.nextOK hchain hni

theorem unlink_mid {s s' : State} (H : HInv s) {l1 l2 : List Nat} {pr i : Nat}
    (hch : chain s = l1 ++ pr :: i :: l2)
    (hh : s'.heap = s.heap.modify pr (fun m => { m with next := (nodeAt s.heap i).next }))
    (hd : s'.head = s.head) :
    HInv s' ∧ HeapStep s s' ∧
      ∀ k, absOf s' k = if (nodeAt s.heap i).key = k then none else absOf s k := by
  obtain ⟨hok', hho', hc⟩ := unlink_mid_chain H hch hh hd
  have hi : i ∈ chain s := by rw [hch]; simp
  have hpr : pr ∈ chain s := by rw [hch]; simp
  have hnd := chain_nodup H
  rw [hch] at hnd
  have hpri : pr ≠ i := by
    intro he
    subst he
    have := (List.nodup_append.1 hnd).2.1
    simp at this
  refine unlink_summary H hi hok' hho' (by rw [hh, List.length_modify]) ?_ ?_
  · intro j
    rw [hc, hch]
    simp only [List.mem_append, List.mem_cons]
    constructor
    · intro hj
      refine ⟨by rcases hj with hj | hj | hj <;> simp [hj], ?_⟩
      rintro rfl
      have h5 := List.nodup_append.1 hnd
      rcases hj with hj | hj | hj
      · exact h5.2.2 j hj j (by simp) rfl
      · exact hpri hj.symm
      · have := (List.nodup_cons.1 (List.nodup_cons.1 h5.2.1).2).1
        exact this hj
    · rintro ⟨hj | hj | hj | hj, hne⟩
      · exact Or.inl hj
      · exact Or.inr (Or.inl hj)
      · exact absurd hj hne
      · exact Or.inr (Or.inr hj)
  · intro j hj
    rw [hh, nodeAt_modify]
    split
    · rename_i hjp
      refine ⟨rfl, rfl, ?_⟩
      rintro (hjc | hji)
      · exact absurd (hjp.1 ▸ hpr) hjc
      · exact absurd (hjp.1.trans hji) hpri
    · exact ⟨rfl, rfl, fun _ => rfl⟩

theorem unlink_head_chain {s s' : State} (H : HInv s) {l2 : List Nat} {i : Nat}
    (hch : chain s = i :: l2)
    (hh : s'.heap = s.heap) (hd : s'.head = (nodeAt s.heap i).next) :
    NextOK s'.heap ∧ (∀ h, s'.head = some h → h < s'.heap.length) ∧ chain s' = l2 := by
  have hni := getElem?_nodeAt (chain_lt H (show i ∈ chain s by rw [hch]; simp))
  have hchain := chain_isChain H
  rw [hch] at hchain
  obtain ⟨-, ni, hni', hs⟩ := IsSeg.cons_iff.1 hchain
  rw [hni] at hni'; cases hni'
  have hok' : NextOK s'.heap := by rw [hh]; exact H.nextOK
  have hho' : ∀ h, s'.head = some h → h < s'.heap.length := by
    intro h hhd
    rw [hd] at hhd
    rw [hh]
    exact (H.nextOK i _ h hni hhd).2
  refine ⟨hok', hho', chain_eq' hok' hho' ?_⟩
  rw [hd, hh]; exact hs

theorem unlink_head {s s' : State} (H : HInv s) {l2 : List Nat} {i : Nat}
    (hch : chain s = i :: l2)
    (hh : s'.heap = s.heap) (hd : s'.head = (nodeAt s.heap i).next) :
    HInv s' ∧ HeapStep s s' ∧
      ∀ k, absOf s' k = if (nodeAt s.heap i).key = k then none else absOf s k := by
  obtain ⟨hok', hho', hc⟩ := unlink_head_chain H hch hh hd
  have hi : i ∈ chain s := by rw [hch]; simp
  have hnd := chain_nodup H
  rw [hch] at hnd
  refine unlink_summary H hi hok' hho' (by rw [hh]) ?_ ?_
  · intro j
    rw [hc, hch]
    simp only [List.mem_cons]
    constructor
    · intro hj
      refine ⟨Or.inr hj, ?_⟩
      rintro rfl
      exact (List.nodup_cons.1 hnd).1 hj
    · rintro ⟨hj | hj, hne⟩
      · exact absurd hj hne
      · exact hj
  · intro j _
    rw [hh]
    exact ⟨rfl, rfl, fun _ => rfl⟩

/-- the unlink store of `writerStore` -/
theorem unlink_store {s s' : State} (H : HInv s) {i : Nat} (hi : i ∈ chain s)
    (hs' : s' = (match predOf (chain s) i with
      | some pr => setNode s pr (fun m => { m with next := (nodeAt s.heap i).next })
      | none => { s with head := (nodeAt s.heap i).next })) :
    HInv s' ∧ HeapStep s s' ∧
      ∀ k, absOf s' k = if (nodeAt s.heap i).key = k then none else absOf s k := by
  rcases predOf_cases (chain_nodup H) hi with ⟨l2, hch, hp⟩ | ⟨l1, pr, l2, hch, hp⟩
  · rw [hp] at hs'
    subst hs'
    exact unlink_head H hch rfl rfl
  · rw [hp] at hs'
    subst hs'
    exact unlink_mid H hch rfl rfl

/-- all that the proofs of `stepK_inv` and `ginv_step` ask of a writer's store with outcome `r`
(shown of `writerStore` in `writerStore_spec`) -/
def StoreOK (s : State) (p : Pending) (r : State × KRes) : Prop :=
  HInv r.1 ∧ HeapStep s r.1 ∧ r.1.threads = s.threads ∧ r.1.hist = s.hist ∧ r.1.now = s.now ∧
  specStep2 (absOf s p.key) p.op = (absOf r.1 p.key, r.2) ∧ ∀ k, k ≠ p.key → absOf r.1 k = absOf s k

/-- `StoreOK`, and no lock word is touched -/
def StoreLockOK (s : State) (p : Pending) (r : State × KRes) : Prop :=
  StoreOK s p r ∧ ∀ j, j < s.heap.length → (nodeAt r.1.heap j).lock = (nodeAt s.heap j).lock

theorem lock_modify {heap : List NodeS} {i : Nat} {f : NodeS → NodeS} (hf : ∀ n, (f n).lock = n.lock) (j : Nat) :
    (nodeAt (heap.modify i f) j).lock = (nodeAt heap j).lock := by
  rw [nodeAt_modify]; split
  · exact hf _
  · rfl

theorem absOf_of_hit {s : State} (H : HInv s) {k i : Nat}
    (h : (chain s).find? (fun i => (nodeAt s.heap i).key == k) = some i) :
    absOf s k = some (nodeAt s.heap i).val := by
  obtain ⟨hi, hk⟩ := find_hit_some h
  exact (absOf_eq_some_iff H).2 ⟨i, hi, hk, rfl⟩

theorem absOf_of_miss {s : State} {k : Nat}
    (h : (chain s).find? (fun i => (nodeAt s.heap i).key == k) = none) : absOf s k = none :=
  absOf_eq_none_iff.2 (find_hit_none h)

theorem storeOK_swap {s : State} (H : HInv s) (p : Pending) {i : Nat} {v : Nat × Nat} {res : KRes}
    (h : (chain s).find? (fun i => (nodeAt s.heap i).key == p.key) = some i)
    (hspec : specStep2 (some (nodeAt s.heap i).val) p.op = (some v, res)) :
    StoreLockOK s p (setNode s i (fun n => { n with val := v }), res) := by
  obtain ⟨hi, hk⟩ := find_hit_some h
  have hf : ∀ n : NodeS, ({ n with val := v } : NodeS).next = n.next ∧ ({ n with val := v } : NodeS).key = n.key :=
    fun n => ⟨rfl, rfl⟩
  have hab := swap_absOf (s' := setNode s i (fun n => { n with val := v })) H hi rfl rfl
  refine ⟨⟨modify_hinv H rfl rfl hf, modify_heapStep H rfl rfl hf (Or.inl hi), rfl, rfl, rfl, ?_, ?_⟩,
    fun j _ => lock_modify (f := fun n => { n with val := v }) (fun _ => rfl) j⟩
  · rw [absOf_of_hit H h, hspec, hab, if_pos hk]
  · intro k hkne
    rw [hab, if_neg (by rw [hk]; exact fun h => hkne h.symm)]

theorem storeOK_append {s : State} (H : HInv s) (p : Pending) {v : Nat × Nat}
    (h : (chain s).find? (fun i => (nodeAt s.heap i).key == p.key) = none)
    (hspec : specStep2 none p.op = (some v, .none)) :
    StoreLockOK s p
      (match (chain s).getLast? with
        | some l => (setNode { s with heap := s.heap ++ [(⟨p.key, v, none, none⟩ : NodeS)] } l
            (fun n => { n with next := some s.heap.length }), KRes.none)
        | none => ({ { s with heap := s.heap ++ [(⟨p.key, v, none, none⟩ : NodeS)] } with head := some s.heap.length }, KRes.none)) := by
  have hfresh := find_hit_none h
  cases hl : (chain s).getLast? with
  | some l =>
    obtain ⟨H', hs, hab⟩ := append_last (s' := setNode { s with heap := s.heap ++ [(⟨p.key, v, none, none⟩ : NodeS)] } l
            (fun n => { n with next := some s.heap.length })) (new := (⟨p.key, v, none, none⟩ : NodeS)) H hl rfl rfl rfl hfresh
    refine ⟨⟨H', hs, rfl, rfl, rfl, ?_, ?_⟩,
      fun j hj => (lock_modify (f := fun n => { n with next := some s.heap.length }) (fun _ => rfl) j).trans
        (by rw [nodeAt_append_left _ hj])⟩
    · rw [absOf_of_miss h, hspec, hab]; simp
    · intro k hk
      rw [hab, if_neg (fun h => hk h.symm)]
  | none =>
    have hempty : chain s = [] := List.getLast?_eq_none_iff.1 hl
    obtain ⟨H', hs, hab⟩ := append_empty (s' := { { s with heap := s.heap ++ [(⟨p.key, v, none, none⟩ : NodeS)] } with head := some s.heap.length })
      (new := (⟨p.key, v, none, none⟩ : NodeS)) H hempty rfl rfl rfl
    refine ⟨⟨H', hs, rfl, rfl, rfl, ?_, ?_⟩, fun j hj => by rw [nodeAt_append_left _ hj]⟩
    · rw [absOf_of_miss h, hspec, hab]; simp
    · intro k hk
      rw [hab, if_neg (fun h => hk h.symm)]

theorem storeOK_unlink {s : State} (H : HInv s) (p : Pending) {i : Nat} {res : KRes}
    (h : (chain s).find? (fun i => (nodeAt s.heap i).key == p.key) = some i)
    (hspec : specStep2 (some (nodeAt s.heap i).val) p.op = (none, res)) :
    StoreLockOK s p
      ((match predOf (chain s) i with
        | some pr => setNode s pr (fun m => { m with next := (nodeAt s.heap i).next })
        | none => { s with head := (nodeAt s.heap i).next }), res) := by
  obtain ⟨hi, hk⟩ := find_hit_some h
  obtain ⟨H', hs, hab⟩ := unlink_store H hi rfl
  refine ⟨⟨H', hs, ?_, ?_, ?_, ?_, ?_⟩, fun j _ => ?_⟩
  rotate_right
  · cases predOf (chain s) i with
    | none => rfl
    | some pr => exact lock_modify (f := fun m => { m with next := (nodeAt s.heap i).next }) (fun _ => rfl) j
  · cases predOf (chain s) i <;> rfl
  · cases predOf (chain s) i <;> rfl
  · cases predOf (chain s) i <;> rfl
  · rw [absOf_of_hit H h, hspec, hab, if_pos hk]
  · intro k hkne
    rw [hab, if_neg (by rw [hk]; exact fun h => hkne h.symm)]

theorem storeOK_noop {s : State} (H : HInv s) (p : Pending) {res : KRes}
    (hspec : specStep2 (absOf s p.key) p.op = (absOf s p.key, res)) : StoreLockOK s p (s, res) :=
  ⟨⟨H, HeapStep.of_same rfl rfl, rfl, rfl, rfl, hspec, fun _ _ => rfl⟩, fun _ _ => rfl⟩

theorem writerStore_spec_lock {s : State} (H : HInv s) (p : Pending) (hw : isReader p.op = false) :
    StoreLockOK s p (writerStore s p) := by
  obtain ⟨key, op, inv⟩ := p
  unfold writerStore
  simp only
  cases hit : (chain s).find? (fun i => (s.heap.getD i ⟨0, (0, 0), none, none⟩).key == key) with
  | none =>
    -- the key is absent: an insert appends a node, the other writers find nothing to do
    have hab : absOf s key = none := absOf_of_miss hit
    cases op with
    | ins v vi => exact storeOK_append H ⟨key, .ins v vi, inv⟩ hit rfl
    | tryIns v vi => exact storeOK_append H ⟨key, .tryIns v vi, inv⟩ hit rfl
    | get => cases hw
    | has => cases hw
    | _ => exact storeOK_noop H ⟨key, _, inv⟩ (by rw [hab]; rfl)
  | some i =>
    have hab : absOf s key = some (nodeAt s.heap i).val := absOf_of_hit H hit
    cases op with
    | ins v vi => exact storeOK_swap H ⟨key, .ins v vi, inv⟩ hit rfl
    | cipInc nvi => exact storeOK_swap H ⟨key, .cipInc nvi, inv⟩ hit rfl
    | rm => exact storeOK_unlink H ⟨key, .rm, inv⟩ hit rfl
    | cipRm => exact storeOK_unlink H ⟨key, .cipRm, inv⟩ hit rfl
    | tryIns v vi => exact storeOK_noop H ⟨key, .tryIns v vi, inv⟩ (by rw [hab]; rfl)
    | condRm vi =>
      simp only
      by_cases hv : (s.heap.getD i ⟨0, (0, 0), none, none⟩).val.2 = vi
      · rw [if_pos hv]
        refine storeOK_unlink H ⟨key, .condRm vi, inv⟩ hit ?_
        show specStep2 (some ((nodeAt s.heap i).val.1, (nodeAt s.heap i).val.2)) _ = _
        simp only [specStep2, if_pos (show (nodeAt s.heap i).val.2 = vi from hv)]
      · rw [if_neg hv]
        refine storeOK_noop H ⟨key, .condRm vi, inv⟩ ?_
        rw [hab]
        show specStep2 (some ((nodeAt s.heap i).val.1, (nodeAt s.heap i).val.2)) _ = _
        simp only [specStep2, if_neg (show ¬ (nodeAt s.heap i).val.2 = vi from hv)]
    | get => cases hw
    | has => cases hw

theorem writerStore_spec {s : State} (H : HInv s) (p : Pending) (hw : isReader p.op = false) :
    StoreOK s p (writerStore s p) := (writerStore_spec_lock H p hw).1

end Flurry.Proto.BinR.Base
