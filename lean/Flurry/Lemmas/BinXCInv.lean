import Flurry.Lemmas.BinXCThreads
/-! # Proto/BinXC: the structural invariant holds in every reachable state (C01, C03, C04)

The case analysis is `stepK_inv0`: every transition preserves `Inv0` (`Lemmas/BinXCMem.lean`: heap invariant of the
projected memory, thread-level invariants, and `RInv`: retired nodes are dead) and its memory effect is a `MemStep`;
each case goes through `inv_step` or one of its three forms. `stepK_inv` adds the clause `nm` of `Inv`;
`reachable_inv`. `stepK_abs`: a transition changes the abstract state of no key but that of the thread's own call
(the source of `transfer_abs_invariant`). For `RInv`: `cstore_mem`, `copied_dead` (what `clear` and the forwarding
retire is dead), and `reachableNow_live` (what an operation starting now can reach is live: C03). -/
namespace Flurry.Proto.BinXC
open Flurry.Lin
open Flurry.Proto.BinX (Ghost CellId CR Active MemStep)

theorem Move.holds {s : State} {p : Pending} {pc pc' : Pc} (hm : Move s p pc pc') {h : Nat}
    (hh : Holds pc' h) : Holds pc h := by
  cases hm with
  | checkOk _ | checkFail _ | findEnd | findHit _ _ | findNext _ _ => exact hh
  | _ => exact hh.elim

theorem Move.isOp {s : State} {p : Pending} {pc pc' : Pc} (hm : Move s p pc pc') :
    isOp pc' ∧ isOp pc ∧ ¬ isT pc ∧ ¬ isT pc' := by
  cases hm <;> exact ⟨trivial, trivial, id, id⟩

theorem Move.pcOp {s : State} {p : Pending} {pc pc' : Pc} (hm : Move s p pc pc') {op : KOp}
    (hp : PcOp pc op) : PcOp pc' op := by
  cases hm <;> exact hp

theorem CMove.holds {s : State} {pc pc' : Pc} (hm : CMove s pc pc') {h : Nat}
    (hh : Holds pc' h) : Holds pc h := by
  cases hm with
  | checkOk _ | checkFail _ => exact hh
  | _ => exact hh.elim

theorem CMove.isOp {s : State} {pc pc' : Pc} (hm : CMove s pc pc') :
    isOp pc' ∧ isOp pc ∧ ¬ isT pc ∧ ¬ isT pc' ∧ isC pc ∧ isC pc' := by
  cases hm <;> exact ⟨trivial, trivial, id, id, trivial, trivial⟩

theorem CMove.pcOp {s : State} {pc pc' : Pc} (hm : CMove s pc pc') {op : KOp}
    (hp : PcOp pc op) : PcOp pc' op := by
  cases hm with
  | cellNode hi _ => exact ⟨hp, hi⟩
  | _ => exact hp

theorem TMove.isT {s : State} {pc pc' : Pc} (hm : TMove s pc pc') : isT pc ∧ isT pc' ∧ ¬ isOp pc ∧ ¬ isOp pc' := by
  cases hm <;> exact ⟨trivial, trivial, id, id⟩

theorem curNew_mem {s : State} {g : Ghost} (H : BinX.HInv (mem s) g) (h : s.cur = .new) : g.ph = .post :=
  H.curNew (by rw [mem_cur, h]; rfl)

theorem cell0_moved_mem {s : State} {g : Ghost} (H : BinX.HInv (mem s) g) (h : s.cell0 = .moved) : g.ph = .post :=
  H.post_of_moved (by rw [mem_cell0, h]; rfl)

theorem Move.pcPh {s : State} {g : Ghost} (H : BinX.HInv (mem s) g) {p : Pending} {pc pc' : Pc} (hm : Move s p pc pc')
    (hp : PcPh (mem s) g pc) : PcPh (mem s) g pc' := by
  cases hm with
  | rTable =>
    intro ht
    simp only [tabOf, Option.some.injEq] at ht
    exact curNew_mem H ht
  | wTable =>
    intro ht
    simp only [tabOf, Option.some.injEq] at ht
    exact curNew_mem H ht
  | @rCellMoved tab hc =>
    intro _
    cases tab with
    | old => exact cell0_moved_mem H hc
    | new => exact hp rfl
  | @wCellMoved tab hc =>
    intro _
    cases tab with
    | old => exact cell0_moved_mem H hc
    | new => exact hp rfl
  | rCellNode _ | rNext _ _ => exact fun ht => nomatch ht
  | _ => exact hp

theorem CMove.pcPh {s : State} {g : Ghost} (H : BinX.HInv (mem s) g) {pc pc' : Pc} (hm : CMove s pc pc')
    (hp : PcPh (mem s) g pc) : PcPh (mem s) g pc' := by
  cases hm with
  | table =>
    intro ht
    simp only [tabOf, Option.some.injEq] at ht
    exact curNew_mem H ht
  | cellMoved _ _ => exact fun ht => nomatch ht
  | waitGo hc => exact fun _ => curNew_mem H hc
  | _ => exact hp

theorem heap_get_mem {s : State} {c : Nat} {n : NodeS} (hn : s.heap[c]? = some n) :
    (mem s).heap[c]? = some (cN n) := by
  rw [mem_heap, List.getElem?_map, hn]; rfl

theorem Move.walk {s : State} {g : Ghost} (H : BinX.HInv (mem s) g) {p : Pending} {pc pc' : Pc} (hm : Move s p pc pc')
    (hw : WalkOK (mem s) p pc) : WalkOK (mem s) p pc' := by
  cases hm with
  | @checkOk tab h hc =>
    show BinX.Walk _ _ _ _ _
    have hc' : BinX.cellOf (mem s) (cT tab) p.key = .node h := by rw [cellOf_mem, hc]; rfl
    rw [hc']
    rw [BinX.cellOf_eq] at hc'
    obtain ⟨l', hl'⟩ := BinX.chainH_node (BinX.ranked_ord _) H.nextOK (H.headOK _ h hc')
    rw [hl']
    exact BinX.Walk.start p.key
  | findEnd => exact ⟨hw, fun i hi => by cases hi⟩
  | @findHit tab h pred c n hn hk =>
    exact ⟨hw, fun i hi => by cases hi; rw [BinX.nodeAt_of_some (heap_get_mem hn)]; exact ⟨hk, rfl⟩⟩
  | @findNext tab h pred c n hn hk =>
    show BinX.Walk _ _ _ _ _
    have hC := H.isChain (BinX.cellId (cT tab) p.key)
    unfold BinX.chId at hC
    rw [← BinX.cellOf_eq] at hC
    exact BinX.Walk.next hC hw (heap_get_mem hn) hk
  | _ => trivial

theorem Move.vcell {s : State} {p : Pending} {pc pc' : Pc} {call : Option Pending} (hm : Move s p pc pc')
    (hc : call = some p) {id : CellId} {h : Nat} (hv : vcell ⟨pc', call⟩ = some (id, h)) :
    vcell ⟨pc, call⟩ = some (id, h) ∨ (BinX.getCell (mem s) id = .node h) := by
  subst hc
  cases hm with
  | @checkOk tab h' hcell =>
    right
    simp only [BinXC.vcell, Option.some.injEq, Prod.mk.injEq] at hv
    obtain ⟨rfl, rfl⟩ := hv
    rw [← BinX.cellOf_eq, cellOf_mem, hcell]; rfl
  | findEnd | findHit _ _ | findNext _ _ => exact .inl hv
  | _ => cases hv

theorem CMove.vcell {s : State} {pc pc' : Pc} {call : Option Pending} (hm : CMove s pc pc')
    {id : CellId} {h : Nat} (hv : vcell ⟨pc', call⟩ = some (id, h)) :
    BinX.getCell (mem s) id = .node h := by
  cases hm with
  | @checkOk tab idx h' hcell =>
    simp only [BinXC.vcell, Option.some.injEq, Prod.mk.injEq] at hv
    obtain ⟨rfl, rfl⟩ := hv
    rw [cellAt_mem, hcell]; rfl
  | _ => cases call <;> cases hv

theorem CMove.walk {s : State} {m : BinX.State} {p : Pending} {pc pc' : Pc} (hm : CMove s pc pc') : WalkOK m p pc' := by
  cases hm <;> trivial

theorem rinv_step {s s' : State} {g g' : Ghost} {v : Option (CellId × Nat)} (I : Inv0 s g)
    (m : MemStep (mem s) (mem s') v g g')
    (hR : ∀ i ∈ s'.retired, i ∈ s.retired ∨ (i < s.heap.length ∧ ¬ BinX.Live (mem s') g'.cr i)) : RInv s' g' := by
  refine ⟨fun i hi => ?_⟩
  have hlen : s.heap.length ≤ s'.heap.length := by
    have := m.len_le I.heap
    rwa [mem_heap, mem_heap, List.length_map, List.length_map] at this
  rcases hR i hi with h | ⟨h1, h2⟩
  · obtain ⟨h1, h2⟩ := I.ret.dead i h
    exact ⟨Nat.lt_of_lt_of_le h1 hlen, m.dead I.heap i (by rwa [mem_heap, List.length_map]) h2⟩
  · exact ⟨Nat.lt_of_lt_of_le h1 hlen, h2⟩

/-- `Inv0` after a transition, clause by clause: `hres` … `hmid` feed `pinv_step`, `hheld` and `hselfV` feed `linv_step`,
`hselfW` feeds `winv_step`, `hR` feeds `rinv_step`. `stepK_inv0` uses it through three forms: `inv_same` for a transition
without a store (the start of the resize among them), `inv_op` for a store or lock move by a thread that is not
transferring (ghost unchanged), `inv_t` for the transferring thread. -/
theorem inv_step {s s' : State} {g g' : Ghost} {t : Nat} {l l' : Local} (I : Inv0 s g)
    (hl : s.threads[t]? = some l) (m : MemStep (mem s) (mem s') (vcell l) g g')
    (hthr : s'.threads = s.threads.set t l') (T' : TInv s')
    (hR : ∀ i ∈ s'.retired, i ∈ s.retired ∨ (i < s.heap.length ∧ ¬ BinX.Live (mem s') g'.cr i))
    (hres : s'.resizing = s.resizing ∨ (s'.resizing = true ∧ s.resizing = false))
    (hlT : isT l.pc ∨ WStep (mem s) (mem s') g g')
    (hself : PcPh (mem s') g' l'.pc)
    (hT : isT l'.pc → isT l.pc ∨ s.resizing = false)
    (hresz : isT l'.pc → s'.resizing = true)
    (hmid : ∀ lo hg, g'.ph = .mid lo hg → (isMidPc l.pc ∨ g.ph ≠ g'.ph) → isMidPc l'.pc)
    (hheld : ∀ (t1 : Nat) (l1 : Local) (h1 : Nat), s'.threads[t1]? = some l1 → Holds l1.pc h1 →
      h1 < (mem s').heap.length ∧ (BinX.nodeAt (mem s').heap h1).lock = some t1)
    (hselfV : ∀ id h, vcell l' = some (id, h) → BinX.getCell (mem s') id = .node h)
    (hselfW : ∀ p, l'.call = some p → WalkOK (mem s') p l'.pc) : MemStep (mem s) (mem s') (vcell l) g g' ∧ Inv0 s' g' :=
  ⟨m, m.hinv I.heap, T', pinv_step I hl m hthr hres hlT hself hT hresz hmid,
    linv_step I hl m hthr hheld hselfV, winv_step I hl m hthr hselfW, rinv_step I m hR⟩

theorem isMidPc_isT {pc : Pc} (h : isMidPc pc) : isT pc := by
  cases pc with
  | tStoreLow _ _ _ | tStoreHigh _ _ | tStoreMoved _ => trivial
  | _ => exact h.elim

theorem isT_not_isOp {pc : Pc} (h : isT pc) : ¬ isOp pc := by
  cases pc with
  | tCell | tCasMoved | tLock _ | tCheck _ | tBuild _ | tStoreLow _ _ _ | tStoreHigh _ _ | tStoreMoved _
  | tUnlock _ | tCommit => exact id
  | _ => exact h.elim

theorem inv_op {s s' : State} {g : Ghost} {t : Nat} {l l' : Local} (I : Inv0 s g)
    (hl : s.threads[t]? = some l) (nT : ¬ isT l.pc) (nT' : ¬ isT l'.pc) (m : MemStep (mem s) (mem s') (vcell l) g g)
    (hw : WStep (mem s) (mem s') g g) (hthr : s'.threads = s.threads.set t l') (T' : TInv s')
    (hR : ∀ i ∈ s'.retired, i ∈ s.retired ∨ (i < s.heap.length ∧ ¬ BinX.Live (mem s') g.cr i))
    (hres : s'.resizing = s.resizing) (hself : PcPh (mem s') g l'.pc)
    (hheld : ∀ (t1 : Nat) (l1 : Local) (h1 : Nat), s'.threads[t1]? = some l1 → Holds l1.pc h1 →
      h1 < (mem s').heap.length ∧ (BinX.nodeAt (mem s').heap h1).lock = some t1)
    (hselfV : ∀ id h, vcell l' = some (id, h) → BinX.getCell (mem s') id = .node h)
    (hselfW : ∀ p, l'.call = some p → WalkOK (mem s') p l'.pc) : MemStep (mem s) (mem s') (vcell l) g g ∧ Inv0 s' g :=
  inv_step I hl m hthr T' hR (Or.inl hres) (Or.inr hw) hself (fun h => absurd h nT') (fun h => absurd h nT')
    (fun _ _ _ h => h.elim (fun h => absurd (isMidPc_isT h) nT) (fun h => absurd rfl h)) hheld hselfV hselfW

theorem inv_t {s s' : State} {g g' : Ghost} {t : Nat} {l : Local} {pc' : Pc} (I : Inv0 s g)
    (hl : s.threads[t]? = some l) (hc : l.call = none) (hT : isT l.pc) (m : MemStep (mem s) (mem s') (vcell l) g g')
    (hthr : s'.threads = s.threads.set t { l with pc := pc' }) (hhist : s'.hist = s.hist)
    (hnow : s'.now = s.now + 1) (hres : s'.resizing = s.resizing)
    (hR : ∀ i ∈ s'.retired, i ∈ s.retired ∨ (i < s.heap.length ∧ ¬ BinX.Live (mem s') g'.cr i))
    (hop : ¬ isOp pc') (hself : PcPh (mem s') g' pc')
    (hmid : ∀ lo hg, g'.ph = .mid lo hg → (isMidPc l.pc ∨ g.ph ≠ g'.ph) → isMidPc pc')
    (hheld : ∀ (t1 : Nat) (l1 : Local) (h1 : Nat), s'.threads[t1]? = some l1 → Holds l1.pc h1 →
      h1 < (mem s').heap.length ∧ (BinX.nodeAt (mem s').heap h1).lock = some t1)
    (hselfV : ∀ id h, vcell { l with pc := pc' } = some (id, h) → BinX.getCell (mem s') id = .node h) :
    MemStep (mem s) (mem s') (vcell l) g g' ∧ Inv0 s' g' :=
  inv_step I hl m hthr
    (tinv_keep I.thr hl hthr hnow hhist rfl (fun _ hp => nomatch hc.symm.trans hp)
      ⟨fun h => absurd h hop, fun h => absurd h (isT_not_isOp hT)⟩) hR
    (Or.inl hres) (Or.inl hT) hself (fun _ => Or.inl hT) (fun _ => hres ▸ I.ph.resz t l hl hT) hmid hheld hselfV
    (fun _ hp => nomatch hc.symm.trans hp)

theorem inv_same {s s' : State} {g : Ghost} {t : Nat} {l l' : Local} (I : Inv0 s g)
    (hl : s.threads[t]? = some l)
    (hmem : mem s' = BinX.tick (mem s)) (hret : s'.retired = s.retired)
    (hthr : s'.threads = s.threads.set t l') (T' : TInv s')
    (hres : s'.resizing = s.resizing ∨ (s'.resizing = true ∧ s.resizing = false))
    (hself : PcPh (mem s) g l'.pc)
    (hT : isT l'.pc → isT l.pc ∨ s.resizing = false)
    (hresz : isT l'.pc → s'.resizing = true)
    (hmid : isMidPc l.pc → isMidPc l'.pc)
    (hold : ∀ h, Holds l'.pc h → Holds l.pc h)
    (hselfV : ∀ id h, vcell l' = some (id, h) → vcell l = some (id, h) ∨ BinX.getCell (mem s) id = .node h)
    (hselfW : ∀ p, l'.call = some p → WalkOK (mem s) p l'.pc) : MemStep (mem s) (mem s') (vcell l) g g ∧ Inv0 s' g := by
  have hh : (mem s').heap = (mem s).heap := congrArg (·.heap) hmem
  have hL : (mem s').lowCell = (mem s).lowCell := congrArg (·.lowCell) hmem
  have hH : (mem s').highCell = (mem s).highCell := congrArg (·.highCell) hmem
  have hcell : ∀ id, BinX.getCell (mem s') id = BinX.getCell (mem s) id := fun id => by rw [hmem, BinX.getCell_tick]
  refine inv_step I hl (.same hh (congrArg (·.cell0) hmem) hL hH (congrArg (·.cur) hmem)) hthr T' (fun i hi => .inl (hret ▸ hi)) hres (Or.inr (.of_same hL hH))
    (hself.of_cells fun _ _ _ => ⟨hL, hH⟩) hT hresz
    (fun _ _ _ hm => hm.elim hmid (fun h => absurd rfl h))
    (held_quiet I hl hthr (by rw [hh]; exact Nat.le_refl _) (fun j _ => by rw [hh]) hold) ?_ ?_
  · intro id h hv
    rw [hcell]
    exact (hselfV id h hv).elim (fun h1 => (I.lock.validated t l id h hl h1).1) (fun h1 => h1)
  · intro p hp
    refine (hselfW p hp).congr ?_
    intro tab _
    rw [BinX.cellOf_eq, BinX.cellOf_eq, hcell, hh]
    exact ⟨rfl, rfl, fun j _ => ⟨rfl, rfl⟩⟩

theorem lt_mem_heap {s : State} {h : Nat} {n : NodeS} (hn : s.heap[h]? = some n) : h < (mem s).heap.length := by
  rw [mem_heap, List.length_map]; exact (List.getElem?_eq_some_iff.1 hn).1

theorem nodeAt_mem_of_some {s : State} {h : Nat} {n : NodeS} (hn : s.heap[h]? = some n) :
    BinX.nodeAt (mem s).heap h = cN n := BinX.nodeAt_of_some (heap_get_mem hn)

theorem mem_lock_heap (s : State) (h : Nat) (x : Option Nat) :
    (mem (setNode s h (fun m => { m with lock := x }))).heap = (mem s).heap.modify h (fun m => { m with lock := x }) := by
  rw [mem_setNode_lock]; rfl

theorem mem_retireHit (s : State) (op : KOp) (hit : Option Nat) : mem (retireHit s op hit) = mem s := by
  unfold retireHit; split <;> rfl

theorem retireHit_frame (s : State) (op : KOp) (hit : Option Nat) :
    (retireHit s op hit).threads = s.threads ∧ (retireHit s op hit).hist = s.hist ∧
    (retireHit s op hit).now = s.now ∧ (retireHit s op hit).resizing = s.resizing := by
  unfold retireHit; split <;> exact ⟨rfl, rfl, rfl, rfl⟩

theorem retireHit_retired (s : State) (op : KOp) (hit : Option Nat) :
    (retireHit s op hit).retired = s.retired ∨
    ∃ i, hit = some i ∧ (op = .rm ∨ op = .cipRm) ∧ (retireHit s op hit).retired = i :: s.retired := by
  unfold retireHit
  split
  · exact Or.inr ⟨_, rfl, Or.inl rfl, rfl⟩
  · exact Or.inr ⟨_, rfl, Or.inr rfl, rfl⟩
  · exact Or.inl rfl

theorem cas_frame (s : State) (t : Nat) (p : Pending) (tab : Tab) (v : Nat × Nat) :
    (casS s t p tab v).threads = s.threads.set t ⟨.idle, none⟩ ∧ (casS s t p tab v).now = s.now + 1 ∧
    (casS s t p tab v).hist = (some p.key, ⟨t, p.op, .none, p.inv, s.now + 1⟩) :: s.hist ∧
    (casS s t p tab v).resizing = s.resizing ∧ (casS s t p tab v).retired = s.retired := by
  obtain ⟨f2, f3, f4, f5, f6⟩ := appendAt_frame (tick s) tab p.key none v
  unfold casS finish setT
  exact ⟨by rw [f2]; rfl, f4, by rw [f3, f4]; rfl, f5, f6⟩

theorem cas_mem {s : State} {g : Ghost} (I : Inv0 s g) {t : Nat} {p : Pending} {tab : Tab}
    (hl : s.threads[t]? = some ⟨.wCas tab, some p⟩) (hc : cellOf s tab p.key = .empty) (v : Nat × Nat) :
    Active g (BinX.cellId (cT tab) p.key) ∧
    BinX.Effect (mem s) (mem (casS s t p tab v)) g (BinX.cellId (cT tab) p.key) ∧
    (∀ k, absOf (casS s t p tab v) k = if p.key = k then some v else absOf s k) ∧
    BinX.getCell (mem s) (BinX.cellId (cT tab) p.key) = .empty := by
  have hc' : BinX.getCell (mem s) (BinX.cellId (cT tab) p.key) = .empty := by
    rw [← BinX.cellOf_eq, cellOf_mem, hc]; rfl
  have act := I.active_of_empty (k := p.key) hl id rfl hc'
  have hms : mem (casS s t p tab v) = BinX.appendAt (BinX.tick (mem s)) (cT tab) p.key none v :=
    (mem_finish _ t p .none).trans (mem_appendAt (tick s) tab p.key none v)
  obtain ⟨f1, -, -, -, f5, -⟩ := BinX.setCell_frame
    { BinX.tick (mem s) with heap := (mem s).heap ++ [(⟨p.key, v, none, none⟩ : BinX.NodeS)] } (cT tab) p.key
    (.node (mem s).heap.length)
  obtain ⟨he, habs⟩ := BinX.cas_effect (s' := mem (casS s t p tab v)) (new := ⟨p.key, v, none, none⟩) I.heap act hc' rfl
    (BinX.keyOn_cellId (cT tab) p.key) (hms ▸ f1)
    (fun id' => hms ▸ (BinX.getCell_setCell _ _ _ _ id').trans (by cases id' <;> rfl)) (hms ▸ f5)
  exact ⟨act, he, fun k => by rw [← absOf_mem, ← absOf_mem]; exact habs k, hc'⟩

theorem store_frame (s : State) (t : Nat) (p : Pending) (tab : Tab) (h : Nat) (pred hit hnext : Option Nat) :
    (storeS s t p tab h pred hit hnext).threads =
      s.threads.set t ⟨.wUnlock tab h (storeAt (tick s) tab p pred hit hnext).2 false, some p⟩ ∧
    (storeS s t p tab h pred hit hnext).now = s.now + 1 ∧ (storeS s t p tab h pred hit hnext).hist = s.hist ∧
    (storeS s t p tab h pred hit hnext).resizing = s.resizing := by
  obtain ⟨f1, f2, f3, f4, -⟩ := storeAt_frame (tick s) tab p pred hit hnext
  obtain ⟨r1, r2, r3, r4⟩ := retireHit_frame (storeAt (tick s) tab p pred hit hnext).1 p.op hit
  unfold storeS setT
  exact ⟨by rw [r1, f1]; rfl, r3.trans f3, r2.trans f2, r4.trans f4⟩

theorem store_mem {s : State} {g : Ghost} (I : Inv0 s g) {t : Nat} {p : Pending} {tab : Tab}
    {h : Nat} {pred hit hnext : Option Nat} (hl : s.threads[t]? = some ⟨.wStore tab h pred hit hnext, some p⟩) :
    Active g (BinX.cellId (cT tab) p.key) ∧
    BinX.Effect (mem s) (mem (storeS s t p tab h pred hit hnext)) g (BinX.cellId (cT tab) p.key) ∧
    specStep (absOf s p.key) p.op =
      (absOf (storeS s t p tab h pred hit hnext) p.key, (storeAt (tick s) tab p pred hit hnext).2) ∧
    (∀ k, k ≠ p.key → absOf (storeS s t p tab h pred hit hnext) k = absOf s k) ∧
    ∀ i ∈ (storeS s t p tab h pred hit hnext).retired, i ∈ s.retired ∨
      (i < s.heap.length ∧ ¬ BinX.Live (mem (storeS s t p tab h pred hit hnext)) g.cr i) := by
  obtain ⟨act, he, -, -, -, -, hspec, hother⟩ := I.store_ok hl
  obtain ⟨hm1, hm2⟩ := storeAt_mem (tick s) tab p pred hit hnext
  have hms : mem (storeS s t p tab h pred hit hnext) =
      (BinX.storeAt (BinX.tick (mem s)) (cT tab) (cP p) pred hit hnext).1 :=
    (mem_retireHit _ p.op hit).trans hm1
  have hat : ∀ k, BinX.absOf (BinX.tick (mem s)) k = absOf s k := fun k =>
    (BinX.absOf_congr rfl rfl rfl rfl rfl k).trans (absOf_mem s k)
  have he' := hms ▸ he.of_tick
  have hspec' : specStep (absOf s p.key) p.op =
      (absOf (storeS s t p tab h pred hit hnext) p.key, (storeAt (tick s) tab p pred hit hnext).2) := by
    rw [← absOf_mem (storeS s t p tab h pred hit hnext), hms, hm2, ← hat]; exact hspec
  refine ⟨act, he', hspec', fun k hk => by rw [← absOf_mem, hms, ← hat]; exact hother k hk, ?_⟩
  intro j hj
  have hr : (storeAt (tick s) tab p pred hit hnext).1.retired = s.retired := (storeAt_frame (tick s) tab p pred hit hnext).2.2.2.2
  rcases retireHit_retired (storeAt (tick s) tab p pred hit hnext).1 p.op hit with hret | ⟨i, rfl, hop, hret⟩
  · exact .inl (hr ▸ hret ▸ hj)
  · rcases List.mem_cons.1 (hr ▸ hret ▸ hj) with rfl | hj
    · -- the unlinked node has the key of the call, which is absent afterwards
      obtain ⟨-, -, hs, -⟩ := id he'
      have hw := I.walk.walk t _ p hl rfl
      have hmemC : j ∈ BinX.chId (mem s) (BinX.cellId (cT tab) p.key) := by
        have := hw.1.cur_mem
        rwa [BinX.cellOf_eq] at this
      have hjl := I.heap.chain_lt hmemC
      have hlc : j ∈ BinX.LC (mem s) p.key := by
        rw [I.heap.LC_eq, I.heap.liveId_of_active act (BinX.keyOn_cellId _ _)]; exact hmemC
      have hnone : BinX.absOf (mem (storeS s t p tab h pred (some j) hnext)) p.key = none := by
        have := congrArg Prod.fst hspec'
        rw [absOf_mem]
        rcases hop with hop | hop <;> rw [hop] at this <;> exact this.symm
      have hnot : j ∉ BinX.LC (mem (storeS s t p tab h pred (some j) hnext)) p.key := fun hin =>
        (BinX.absOf_none_iff.1 hnone) j hin ((hs.key j hjl).trans (hw.2 j rfl).1)
      exact .inr ⟨by rwa [mem_heap, List.length_map] at hjl, (hs.unl p.key j hlc hnot).2.2.1⟩
    · exact .inl hj

theorem chId_mem_node {s : State} {id : CellId} {h : Nat} (hc : BinX.getCell (mem s) id = .node h) :
    BinX.chId (mem s) id = chainFrom s.heap s.heap.length (some h) := by
  unfold BinX.chId BinX.chainH
  rw [hc, mem_heap, List.length_map, chainFrom_map]
  rfl

theorem cstore_frame (s : State) (t : Nat) (p : Pending) (tab : Tab) (idx h : Nat) :
    (cstoreS s t p tab idx h).threads = s.threads.set t ⟨.cUnlock tab idx h false, some p⟩ ∧
    (cstoreS s t p tab idx h).now = s.now + 1 ∧ (cstoreS s t p tab idx h).hist = s.hist ∧
    (cstoreS s t p tab idx h).resizing = s.resizing ∧
    (cstoreS s t p tab idx h).retired = chainFrom s.heap s.heap.length (some h) ++ s.retired ∧
    (cstoreS s t p tab idx h).heap = s.heap := by
  obtain ⟨f1, f2, f3, f4, f5, f6⟩ := setCellAt_frame (tick s) tab idx .empty
  unfold cstoreS setT
  exact ⟨by rw [f2]; rfl, f4, f3, f5, by rw [f6]; rfl, f1⟩

theorem cstore_mem {s : State} {g : Ghost} (I : Inv0 s g) {t : Nat} {p : Pending} {tab : Tab} {idx h : Nat}
    (hl : s.threads[t]? = some ⟨.cStore tab idx h, some p⟩) :
    Active g (cellIdAt tab idx) ∧ MemStep (mem s) (mem (cstoreS s t p tab idx h)) (some (cellIdAt tab idx, h)) g g ∧
    (∀ k, absOf (cstoreS s t p tab idx h) k = if BinX.liveId (mem s) k = cellIdAt tab idx then none else absOf s k) ∧
    ∀ i ∈ (cstoreS s t p tab idx h).retired, i ∈ s.retired ∨
      (i < s.heap.length ∧ ¬ BinX.Live (mem (cstoreS s t p tab idx h)) g.cr i) := by
  have act := I.active_of_vcell hl rfl id
  obtain ⟨hc, -⟩ := I.lock.validated t _ _ h hl rfl
  have hms : mem (cstoreS s t p tab idx h) = BinX.putCell (BinX.tick (mem s)) (cellIdAt tab idx) .empty :=
    mem_setCellAt (tick s) tab idx .empty
  obtain ⟨f1, -, -, -, f5, -⟩ := BinX.putCell_frame (BinX.tick (mem s)) (cellIdAt tab idx) .empty
  obtain ⟨u, habs⟩ := BinX.clear_update (s' := mem (cstoreS s t p tab idx h)) I.heap act (hms ▸ f1)
    (fun id' => by rw [hms, BinX.getCell_putCell, BinX.getCell_tick]) (hms ▸ f5)
  refine ⟨act, .clear _ h act u (hms ▸ f1) rfl, fun k => by rw [← absOf_mem, ← absOf_mem]; exact habs k, ?_⟩
  intro j hj
  rw [(cstore_frame s t p tab idx h).2.2.2.2.1] at hj
  rcases List.mem_append.1 hj with hj | hj
  · rw [← chId_mem_node hc] at hj
    have hlt := I.heap.chain_lt hj
    exact .inr ⟨by rwa [mem_heap, List.length_map] at hlt, fun hl => (u.live_of_cleared I.heap act hl).2 hj⟩
  · exact .inl hj

/-- the forwarding retires the copied nodes: they are dead -/
theorem copied_dead {s : State} {g : Ghost} (I : Inv0 s g) {h : Nat} {lo hg : Option Nat} {s' : State}
    (hp : g.ph = .mid lo hg) (hc0 : (mem s).cell0 = .node h)
    (hlow : (mem s).lowCell = BinX.cellOfHead lo) (hhigh : (mem s).highCell = BinX.cellOfHead hg)
    (hh : (mem s').heap = (mem s).heap) (h0 : (mem s').cell0 = .moved) (hL : (mem s').lowCell = (mem s).lowCell)
    (hH : (mem s').highCell = (mem s).highCell) {cr : CR} :
    ∀ i ∈ copiedOf s h ++ s.retired, i ∈ s.retired ∨ (i < s.heap.length ∧ ¬ BinX.Live (mem s') cr i) := by
  intro j hj
  have hO : BinX.chO (mem s) = chainFrom s.heap s.heap.length (some h) := chId_mem_node (id := .c0) hc0
  rcases List.mem_append.1 hj with hj | hj
  · have hj' : j ∈ (BinX.chO (mem s)).take (BinX.lastRunStart (mem s).heap (BinX.chO (mem s))) := by
      rw [hO, mem_heap, lastRunStart_mem]; exact hj
    obtain ⟨n1, n2⟩ := BinX.copied_dead I.heap hp hlow hhigh hj'
    have hlt : j < (mem s).heap.length := I.heap.chain_lt (id := .c0) (List.mem_of_mem_take hj')
    exact .inr ⟨by rwa [mem_heap, List.length_map] at hlt, fun hl => (BinX.live_of_moved hh h0 hL hH hl).elim n1 n2⟩
  · exact .inl hj

theorem PcPh.of_tab {s s' : BinX.State} {g g' : Ghost} {pc pc' : Pc} (hp : PcPh s g pc) (hT : ¬ isT pc) (hT' : ¬ isT pc')
    (htab : tabOf pc' = tabOf pc) (hmono : g.ph = .post → g'.ph = .post) : PcPh s' g' pc' :=
  (iff_of_not_isT hT').2 fun ht => hmono ((iff_of_not_isT hT).1 hp (htab ▸ ht))

theorem PcPh.idle (s : BinX.State) (g : Ghost) : PcPh s g .idle := fun h => nomatch h

theorem build_mem {s s' : State} {g : Ghost} (I : Inv0 s g) {t : Nat} {h : Nat}
    (hl : s.threads[t]? = some ⟨.tBuild h, none⟩)
    (hh : s'.heap = (splitBin s.heap (chainFrom s.heap s.heap.length (some h))).1)
    (h0 : s'.cell0 = s.cell0) (hL : s'.lowCell = s.lowCell) (hH : s'.highCell = s.highCell) (hc : s'.cur = s.cur) :
    (mem s).cell0 = .node h ∧
    MemStep (mem s) (mem s') (some (.c0, h)) g ⟨.mid (splitBin s.heap (chainFrom s.heap s.heap.length (some h))).2.1
      (splitBin s.heap (chainFrom s.heap s.heap.length (some h))).2.2, ((mem s).heap.length, (mem s').heap.length)⟩ ∧
    (∀ k, absOf s' k = absOf s k) ∧
    (∀ j, j < (mem s).heap.length → BinX.nodeAt (mem s').heap j = BinX.nodeAt (mem s).heap j) ∧
    (mem s).heap.length ≤ (mem s').heap.length := by
  have hph : g.ph = .pre := I.ph.pcPh t _ hl
  have hc0 : (mem s).cell0 = .node h := (I.lock.validated t _ _ h hl rfl).1
  have hsb : BinX.splitBin (mem s).heap (BinX.chainFrom (mem s).heap (mem s).heap.length (some h)) =
      ((splitBin s.heap (chainFrom s.heap s.heap.length (some h))).1.map cN,
        (splitBin s.heap (chainFrom s.heap s.heap.length (some h))).2) := by
    rw [mem_heap, List.length_map, chainFrom_map, splitBin_mem]
  have hh' : (mem s').heap = (BinX.splitBin (mem s).heap (BinX.chainFrom (mem s).heap (mem s).heap.length (some h))).1 := by
    rw [hsb, mem_heap, hh]
  have h0' : (mem s').cell0 = (mem s).cell0 := congrArg cC h0
  have hL' : (mem s').lowCell = (mem s).lowCell := congrArg cC hL
  have hH' : (mem s').highCell = (mem s).highCell := congrArg cC hH
  have hc' : (mem s').cur = (mem s).cur := congrArg cT hc
  obtain ⟨-, -, habs, hnode, hlen⟩ := BinX.build_effect I.heap hph hc0 hh' h0' hL' hH' hc'
  have m := MemStep.build (v := some (.c0, h)) h hph rfl hc0 hh' h0' hL' hH' hc'
  rw [hsb] at m
  exact ⟨hc0, m, fun k => by rw [← absOf_mem, ← absOf_mem]; exact habs k, hnode, hlen⟩

theorem absOf_same {s s' : State} (hmem : mem s' = BinX.tick (mem s)) (k : Nat) : absOf s' k = absOf s k := by
  rw [← absOf_mem, ← absOf_mem, hmem]; exact BinX.absOf_congr rfl rfl rfl rfl rfl k

theorem absOf_of_mem {s s' : State} {k : Nat} (h : BinX.absOf (mem s') k = BinX.absOf (mem s) k) :
    absOf s' k = absOf s k := by
  rw [← absOf_mem, ← absOf_mem]; exact h

theorem stepK_inv0 {s s' : State} {g : Ghost} {t : Nat} {l : Local} (I : Inv0 s g)
    (hl : s.threads[t]? = some l) (hk : StepK s t l s') : ∃ g', MemStep (mem s) (mem s') (vcell l) g g' ∧ Inv0 s' g' := by
  -- the state in constructor form, so that the fields of the successor states are projections of a constructor
  obtain ⟨heap, c0, cL, cH, cur, rz, thr, hist, ret, now⟩ := s
  let s : State := ⟨heap, c0, cL, cH, cur, rz, thr, hist, ret, now⟩
  have T := I.thr
  have H := I.heap
  have hph := I.ph.pcPh t l hl
  have L := I.lock.lockHeld t l
  have hop := T.opOK t l
  have hv := I.lock.validated t l
  cases hk with
  | idle call =>
    exact ⟨g, inv_same I hl rfl rfl rfl (tinv_keep T hl rfl rfl rfl rfl (fun p hp => hop p hl hp) Iff.rfl) (Or.inl rfl)
      hph Or.inl (I.ph.resz t _ hl) id (fun _ hh => hh) (fun _ _ hv => Or.inl hv) (fun p hp => I.walk.walk t _ p hl hp)⟩
  | invoke call k op =>
    cases hr : isReader op <;>
      exact ⟨g, inv_same I hl rfl rfl rfl (tinv_invoke T hl rfl rfl rfl rfl hr trivial) (Or.inl rfl)
        (fun ht => nomatch ht) False.elim False.elim False.elim (fun _ => False.elim)
        (fun _ _ hv => nomatch hv) (fun _ _ => trivial)⟩
  | clearStart call =>
    exact ⟨g, inv_same I hl rfl rfl rfl (tinv_invoke T hl rfl rfl rfl rfl rfl trivial) (Or.inl rfl)
      (fun ht => nomatch ht) False.elim False.elim False.elim (fun _ => False.elim) (fun _ _ hv => nomatch hv)
      (fun _ _ => trivial)⟩
  | cmove p pc pc' hm =>
    obtain ⟨o1, o2, o3, o4, -, -⟩ := hm.isOp
    exact ⟨g, inv_same I hl rfl rfl rfl
      (tinv_keep T hl rfl rfl rfl rfl (fun p' hp' => hm.pcOp (hop p' hl hp')) ⟨fun _ => o2, fun _ => o1⟩)
      (Or.inl rfl) (hm.pcPh H hph) (fun h => absurd h o4) (fun h => absurd h o4)
      (fun h => absurd (isMidPc_isT h) o3) (fun _ hh => hm.holds hh) (fun _ _ hv => Or.inr (hm.vcell hv))
      (fun _ _ => hm.walk)⟩
  | cEmpty p tab idx hi hc =>
    exact ⟨g, inv_same I hl rfl rfl rfl (tinv_keep T hl rfl rfl rfl rfl (fun p' hp' => hop p' hl hp') Iff.rfl) (Or.inl rfl)
      hph False.elim False.elim False.elim (fun _ => False.elim) (fun _ _ hv => nomatch hv) (fun _ _ => trivial)⟩
  | cFin p tab idx hi =>
    exact ⟨g, inv_same I hl rfl rfl rfl (tinv_finish T hl rfl rfl rfl rfl rfl id) (Or.inl rfl) (PcPh.idle _ g)
      False.elim False.elim False.elim (fun _ => False.elim) (fun _ _ hv => nomatch hv) (fun _ hp' => nomatch hp')⟩
  | cStore p tab idx h =>
    obtain ⟨act, m, -, hR⟩ := cstore_mem I hl
    obtain ⟨hthr, hnow, hhist, hres, -, hheap⟩ := cstore_frame s t p tab idx h
    have hheap' : (mem (cstoreS s t p tab idx h)).heap = (mem s).heap := congrArg (List.map cN) hheap
    exact ⟨g, inv_op I hl id id m (.of_active act) hthr
      (tinv_keep T hl hthr hnow hhist rfl (fun p' hp' => hop p' hl hp') Iff.rfl)
      hR hres hph (held_quiet I hl hthr (Nat.le_of_eq (congrArg List.length hheap'.symm)) (fun j _ => by rw [hheap'])
        (fun _ hh => hh))
      (fun _ _ hv => nomatch hv) (fun _ _ => trivial)⟩
  | resize call hr =>
    exact ⟨g, inv_same I hl rfl rfl rfl (tinv_keep T hl rfl rfl rfl rfl (fun _ _ => trivial) Iff.rfl)
      (Or.inr ⟨rfl, hr⟩) (I.ph.noResz hr) (fun _ => Or.inr hr) (fun _ => rfl)
      False.elim (fun _ => False.elim) (fun _ _ hv => nomatch hv) (fun _ _ => trivial)⟩
  | move p pc pc' hm =>
    obtain ⟨o1, o2, o3, o4⟩ := hm.isOp
    exact ⟨g, inv_same I hl rfl rfl rfl
      (tinv_keep T hl rfl rfl rfl rfl (fun p' hp' => hm.pcOp (hop p' hl hp')) ⟨fun _ => o2, fun _ => o1⟩)
      (Or.inl rfl) (hm.pcPh H hph) (fun h => absurd h o4) (fun h => absurd h o4)
      (fun h => absurd (isMidPc_isT h) o3) (fun _ hh => hm.holds hh) (fun _ _ hv => hm.vcell rfl hv)
      (fun p' hp' => by cases hp'; exact hm.walk H (I.walk.walk t _ p hl rfl))⟩
  | tmove pc pc' hm =>
    obtain ⟨hT0, -, -, hop'⟩ := hm.isT
    have go : PcPh (mem s) g pc' → ¬ isMidPc pc → (∀ h, Holds pc' h → Holds pc h) →
        (∀ id h, vcell ⟨pc', none⟩ = some (id, h) → BinX.getCell (mem s) id = .node h) →
        ∃ g', MemStep (mem s) (mem (setT (tick s) t ⟨pc', none⟩)) (vcell ⟨pc, none⟩) g g' ∧
          Inv0 (setT (tick s) t ⟨pc', none⟩) g' :=
      fun hself hnm hold hv => ⟨g, inv_t I hl rfl hT0 (.same rfl rfl rfl rfl rfl) rfl rfl rfl rfl (fun _ hi => .inl hi) hop'
        hself (fun _ _ _ h => h.elim (fun h => absurd h hnm) (fun h => absurd rfl h))
        (held_quiet I hl rfl (Nat.le_refl _) (fun _ _ => rfl) hold) hv⟩
    cases hm with
    | cellEmpty _ => exact go hph id (fun _ => id) (fun _ _ hv => nomatch hv)
    | cellNode _ => exact go hph id (fun _ => id) (fun _ _ hv => nomatch hv)
    | cellMoved hc => exact absurd (cC_eq_moved.2 hc) (H.pre hph).2.1
    | casFail _ => exact go hph id (fun _ => id) (fun _ _ hv => nomatch hv)
    | checkOk hc => exact go hph id (fun _ => id) (fun _ _ hv => by cases hv; exact cC_eq_node.2 hc)
  | lockMove p pc h x pc' hm =>
    have go : ¬ isT pc → ¬ isT pc' → tabOf pc' = tabOf pc → isOp pc → isOp pc' → (∀ op, PcOp pc op → PcOp pc' op) →
        h < (mem s).heap.length →
        (((BinX.nodeAt (mem s).heap h).lock = none ∧ x = some t ∧ ∀ h', Holds pc' h' → h' = h) ∨
          ((BinX.nodeAt (mem s).heap h).lock = some t ∧ ∀ h', ¬ Holds pc' h')) →
        (∀ c, vcell ⟨pc', c⟩ = none) → (∀ m p', WalkOK m p' pc') →
        ∃ g', MemStep (mem s) (mem (setT (setNode (tick s) h (fun m => { m with lock := x })) t ⟨pc', some p⟩))
            (vcell ⟨pc, some p⟩) g g' ∧
          Inv0 (setT (setNode (tick s) h (fun m => { m with lock := x })) t ⟨pc', some p⟩) g' :=
      fun nT nT' htab o o' hpo hi hx hv hw => ⟨g, inv_op I hl nT nT'
        (.lock h x (mem_lock_heap (tick s) h x) rfl rfl rfl rfl) (.of_same rfl rfl) rfl
        (tinv_keep T hl rfl rfl rfl rfl (fun p' hp' => hpo _ (hop p' hl hp')) ⟨fun _ => o, fun _ => o'⟩)
        (fun _ hi => .inl hi) rfl (hph.of_tab nT nT' htab id)
        (held_mod I rfl (mem_lock_heap (tick s) h x) hi hx) (fun _ _ h' => by rw [hv] at h'; cases h')
        (fun p' _ => hw _ p')⟩
    cases hm with
    | lock hn hlk =>
      exact go id id rfl trivial trivial (fun _ h => h) (lt_mem_heap hn)
        (Or.inl ⟨by rw [nodeAt_mem_of_some hn]; exact hlk, rfl, fun _ hh => hh.symm⟩) (fun _ => rfl) (fun _ _ => trivial)
    | cLock hn hlk =>
      exact go id id rfl trivial trivial (fun _ h => h) (lt_mem_heap hn)
        (Or.inl ⟨by rw [nodeAt_mem_of_some hn]; exact hlk, rfl, fun _ hh => hh.symm⟩) (fun _ => rfl) (fun _ _ => trivial)
    | unlockRetry =>
      exact go id id rfl trivial trivial (fun _ h => h) (L h hl rfl).1 (Or.inr ⟨(L h hl rfl).2, fun _ => id⟩)
        (fun _ => rfl) (fun _ _ => trivial)
    | cUnlock =>
      exact go id id rfl trivial trivial (fun _ h => h.1) (L h hl rfl).1 (Or.inr ⟨(L h hl rfl).2, fun _ => id⟩)
        (fun _ => rfl) (fun _ _ => trivial)
  | tlockMove pc h x pc' hm =>
    have go : isT pc → ¬ isOp pc' → ¬ isMidPc pc → PcPh (mem s) g pc' → h < (mem s).heap.length →
        (((BinX.nodeAt (mem s).heap h).lock = none ∧ x = some t ∧ ∀ h', Holds pc' h' → h' = h) ∨
          ((BinX.nodeAt (mem s).heap h).lock = some t ∧ ∀ h', ¬ Holds pc' h')) →
        (vcell ⟨pc', none⟩ = none) →
        ∃ g', MemStep (mem s) (mem (setT (setNode (tick s) h (fun m => { m with lock := x })) t ⟨pc', none⟩))
            (vcell ⟨pc, none⟩) g g' ∧
          Inv0 (setT (setNode (tick s) h (fun m => { m with lock := x })) t ⟨pc', none⟩) g' :=
      fun hT0 hop' hnm hself hi hx hv => ⟨g, inv_t I hl rfl hT0 (.lock h x (mem_lock_heap (tick s) h x) rfl rfl rfl rfl)
        rfl rfl rfl rfl (fun _ hi => .inl hi) hop'
        (hself.of_cells fun _ _ _ => ⟨rfl, rfl⟩) (fun _ _ _ h => h.elim (fun h => absurd h hnm) (fun h => absurd rfl h))
        (held_mod I rfl (mem_lock_heap (tick s) h x) hi hx) (fun _ _ h' => by rw [hv] at h'; cases h')⟩
    cases hm with
    | lock hn hlk =>
      exact go trivial id id hph (lt_mem_heap hn)
        (Or.inl ⟨by rw [nodeAt_mem_of_some hn]; exact hlk, rfl, fun _ hh => hh.symm⟩) rfl
    | checkFail _ => exact go trivial id id hph (L h hl rfl).1 (Or.inr ⟨(L h hl rfl).2, fun _ => id⟩) rfl
    | unlock => exact go trivial id id hph (L h hl rfl).1 (Or.inr ⟨(L h hl rfl).2, fun _ => id⟩) rfl
  | fin p pc res hf =>
    refine ⟨g, inv_same I hl rfl rfl rfl (tinv_finish T hl rfl rfl rfl rfl rfl id) (Or.inl rfl) (PcPh.idle _ g)
      False.elim False.elim ?_ (fun _ => False.elim) (fun _ _ hv => nomatch hv) (fun _ hp' => nomatch hp')⟩
    intro hmid
    cases hf <;> exact hmid.elim
  | cas p tab v vi hc _ =>
    obtain ⟨act, he, -, hc'⟩ := cas_mem I hl hc (v, vi)
    obtain ⟨hthr, hnow, hhist, hres, hret⟩ := cas_frame s t p tab (v, vi)
    obtain ⟨_, u, -, hlk⟩ := id he
    exact ⟨g, inv_op I hl id id (.upd _ act he (Or.inl hc')) (.of_active act) hthr
      (tinv_finish T hl rfl hthr hnow hhist rfl id) (fun _ hi => .inl (hret ▸ hi)) hres (PcPh.idle _ g)
      (held_quiet I hl hthr u.len hlk (fun _ => False.elim)) (fun _ _ hv => nomatch hv) (fun _ hp' => nomatch hp')⟩
  | store p tab h pred hit hnext =>
    obtain ⟨act, he, -, -, hR⟩ := store_mem I hl
    obtain ⟨hthr, hnow, hhist, hres⟩ := store_frame s t p tab h pred hit hnext
    obtain ⟨_, u, -, hlk⟩ := id he
    exact ⟨g, inv_op I hl id id (.upd _ act he (Or.inr ⟨h, rfl⟩)) (.of_active act) hthr
      (tinv_keep T hl hthr hnow hhist rfl (fun p' hp' => hop p' hl hp') Iff.rfl)
      hR hres (hph.of_tab id id rfl id) (held_quiet I hl hthr u.len hlk (fun _ hh => hh)) (fun _ _ hv => nomatch hv)
      (fun _ _ => trivial)⟩
  | unlockFin p tab h res =>
    exact ⟨g, inv_op I hl id id (.lock h none (mem_lock_heap (tick s) h none) rfl rfl rfl rfl) (.of_same rfl rfl) rfl
      (tinv_finish T hl rfl rfl rfl rfl rfl id) (fun _ hi => .inl hi) rfl (PcPh.idle _ g)
      (held_mod I rfl (mem_lock_heap (tick s) h none) (L h hl rfl).1 (Or.inr ⟨(L h hl rfl).2, fun _ => id⟩))
      (fun _ _ hv => nomatch hv) (fun _ hp' => nomatch hp')⟩
  | casMoved hc =>
    exact ⟨_, inv_t I hl rfl trivial (.casMoved hph (cC_eq_empty.2 hc) rfl rfl rfl rfl rfl) rfl rfl rfl rfl
      (fun _ hi => .inl hi) id rfl (fun _ _ hp' => nomatch hp')
      (held_quiet I hl rfl (Nat.le_refl _) (fun _ _ => rfl) (fun _ => False.elim)) (fun _ _ hv => nomatch hv)⟩
  | build h =>
    obtain ⟨hc, m, -, hnode, hlen⟩ := build_mem (s' := buildS s t h) I hl rfl rfl rfl rfl rfl
    obtain ⟨-, -, hlow, hhigh⟩ := H.pre hph
    exact ⟨_, inv_t I hl rfl trivial m rfl rfl rfl rfl (fun _ hi => .inl hi) id ⟨rfl, hlow, hhigh⟩ (fun _ _ _ _ => trivial)
      (held_quiet I hl rfl hlen (fun j hj => by rw [hnode j hj]) (fun _ hh => hh))
      (fun _ _ hv' => by cases hv'; exact hc)⟩
  | storeLow h lo hg =>
    exact ⟨g, inv_t I hl rfl trivial
      (.storeNew lo hg hph.1 rfl rfl (Or.inr ⟨hph.2.1, cC_cellOfHead lo⟩) (Or.inl rfl) rfl)
      rfl rfl rfl rfl (fun _ hi => .inl hi) id ⟨lo, hph.1, cC_cellOfHead lo, hph.2.2⟩ (fun _ _ _ _ => trivial)
      (held_quiet I hl rfl (Nat.le_refl _) (fun _ _ => rfl) (fun _ hh => hh))
      (fun _ _ hv' => by cases hv'; exact (hv _ h hl rfl).1)⟩
  | storeHigh h hg =>
    obtain ⟨lo, h1, h2, h3⟩ := hph
    exact ⟨g, inv_t I hl rfl trivial
      (.storeNew lo hg h1 rfl rfl (Or.inl rfl) (Or.inr ⟨h3, cC_cellOfHead hg⟩) rfl)
      rfl rfl rfl rfl (fun _ hi => .inl hi) id ⟨lo, hg, h1, h2, cC_cellOfHead hg⟩ (fun _ _ _ _ => trivial)
      (held_quiet I hl rfl (Nat.le_refl _) (fun _ _ => rfl) (fun _ hh => hh))
      (fun _ _ hv' => by cases hv'; exact (hv _ h hl rfl).1)⟩
  | storeMoved h =>
    obtain ⟨lo, hg, h1, h2, h3⟩ := hph
    exact ⟨_, inv_t I hl rfl trivial (.moved h lo hg h1 rfl h2 h3 rfl rfl rfl rfl rfl) rfl rfl rfl rfl
      (copied_dead (s' := { (setT (tick s) t ⟨.tUnlock h, none⟩) with cell0 := .moved, retired := copiedOf s h ++ ret })
        I h1 (hv _ h hl rfl).1 h2 h3 rfl rfl rfl rfl) id rfl
      (fun _ _ hp' => nomatch hp')
      (held_quiet I hl rfl (Nat.le_refl _) (fun _ _ => rfl) (fun _ hh => hh)) (fun _ _ hv => nomatch hv)⟩
  | commit =>
    exact ⟨g, inv_t I hl rfl trivial (.commit hph rfl rfl rfl rfl) rfl rfl rfl rfl (fun _ hi => .inl hi) id
      (PcPh.idle _ g) (fun _ _ hp' _ => by rw [hph] at hp'; cases hp')
      (held_quiet I hl rfl (Nat.le_refl _) (fun _ _ => rfl) (fun _ => False.elim)) (fun _ _ hv => nomatch hv)⟩

theorem stepK_inv {s s' : State} {g : Ghost} {t : Nat} {l : Local} (I : Inv s g)
    (hl : s.threads[t]? = some l) (hk : StepK s t l s') : ∃ g', MemStep (mem s) (mem s') (vcell l) g g' ∧ Inv s' g' :=
  let ⟨g', m, I'⟩ := stepK_inv0 I.to0 hl hk
  ⟨g', m, I'.heap, I'.thr, I'.ph, I'.lock, I'.walk, I'.ret, m.newCells I.nm⟩

/-- a transition changes the abstract state of no key but that of the thread's own call (the transfer: of
none; a `clear`: of any) -/
theorem stepK_abs {s s' : State} {g : Ghost} {t : Nat} {l : Local} (I : Inv0 s g) (hl : s.threads[t]? = some l)
    (hk : StepK s t l s') {k : Nat} (hkey : ∀ p, l.call = some p → p.key ≠ k ∧ ¬ isC l.pc) : absOf s' k = absOf s k := by
  obtain ⟨heap, c0, cL, cH, cur, rz, thr, hist, ret, now⟩ := s
  let s : State := ⟨heap, c0, cL, cH, cur, rz, thr, hist, ret, now⟩
  have H := I.heap
  have hph := I.ph.pcPh t l hl
  cases hk with
  | idle _ | invoke _ _ _ | clearStart _ | cmove _ _ _ _ | cEmpty _ _ _ _ _ | cFin _ _ _ _ | resize _ _
  | move _ _ _ _ | tmove _ _ _ | fin _ _ _ _ => exact absOf_same rfl k
  | lockMove _ _ h x _ _ | tlockMove _ h x _ _ =>
    exact absOf_of_mem ((BinX.lock_effect H (mem_lock_heap (tick s) h x) rfl rfl rfl rfl).2.2.2.1 k)
  | unlockFin _ _ h _ =>
    exact absOf_of_mem ((BinX.lock_effect H (mem_lock_heap (tick s) h none) rfl rfl rfl rfl).2.2.2.1 k)
  | cas p tab v vi hc _ => rw [(cas_mem I hl hc (v, vi)).2.2.1 k, if_neg (hkey p rfl).1]
  | store p tab h pred hit hnext => exact (store_mem I hl).2.2.2.1 k fun h => (hkey p rfl).1 h.symm
  | cStore p _ _ _ => exact absurd trivial (hkey p rfl).2
  | casMoved hc =>
    exact absOf_of_mem ((BinX.casMoved_effect (s' := mem { setT (tick s) t _ with cell0 := .moved })
      H hph (cC_eq_empty.2 hc) rfl rfl rfl rfl).2.2 k)
  | build h => exact (build_mem (s' := buildS s t h) I hl rfl rfl rfl rfl rfl).2.2.1 k
  | storeLow h lo hg =>
    exact absOf_of_mem ((BinX.storeNew_effect (s' := mem { setT (tick s) t _ with lowCell := cellOfHead lo })
      H hph.1 rfl rfl (Or.inr ⟨hph.2.1, cC_cellOfHead lo⟩) (Or.inl rfl) rfl).2.2 k)
  | storeHigh h hg =>
    obtain ⟨lo, h1, h2, h3⟩ := hph
    exact absOf_of_mem ((BinX.storeNew_effect (s' := mem { setT (tick s) t _ with highCell := cellOfHead hg })
      H h1 rfl rfl (Or.inl rfl) (Or.inr ⟨h3, cC_cellOfHead hg⟩) rfl).2.2 k)
  | storeMoved h =>
    obtain ⟨lo, hg, h1, h2, h3⟩ := hph
    exact absOf_of_mem ((BinX.moved_effect (s' := mem { setT (tick s) t _ with cell0 := .moved, retired := _ })
      H h1 h2 h3 rfl rfl rfl rfl).2 k)
  | commit =>
    exact absOf_of_mem ((BinX.commit_effect (s' := mem { setT (tick s) t _ with cur := .new }) H hph rfl rfl rfl rfl).2.2 k)

theorem init_thread {n t : Nat} {l : Local} (hl : (init n).threads[t]? = some l) : l = {} := by
  simp only [init, List.getElem?_replicate] at hl
  split at hl
  · cases hl; rfl
  · cases hl

theorem mem_init (n : Nat) : mem (init n) = { (BinX.init 0) with now := 0 } := rfl

theorem init_inv (n : Nat) : Inv (init n) {} := by
  refine ⟨?_, ⟨?_, ?_, ?_, ?_, ?_, ?_, ?_⟩, ⟨?_, ?_, ?_, ?_, ?_⟩, ⟨?_, ?_⟩, ⟨?_⟩, ⟨?_⟩, ⟨by simp [init, cC], by simp [init, cC]⟩⟩
  · exact BinX.init_hinv 0
  · intro t l p hl hc; rw [init_thread hl] at hc; cases hc
  · intro t l hl; rw [init_thread hl]; exact ⟨fun h => False.elim h, fun h => by cases h⟩
  · intro x hx; simp [init] at hx
  · intro t l p hl hc; rw [init_thread hl] at hc; cases hc
  · intro x hx; simp [init] at hx
  · intro t t' l l' p p' hl _ hc; rw [init_thread hl] at hc; cases hc
  · simp [init]
  · intro t l hl; rw [init_thread hl]; exact PcPh.idle _ _
  · intro t t' l l' hl _ hT; rw [init_thread hl] at hT; exact False.elim hT
  · intro t l hl hT; rw [init_thread hl] at hT; exact False.elim hT
  · intro _; rfl
  · intro lo hg h; cases h
  · intro t l h hl hh; rw [init_thread hl] at hh; exact False.elim hh
  · intro t l id h hl hv; rw [init_thread hl] at hv; cases hv
  · intro t l p hl hc; rw [init_thread hl] at hc; cases hc
  · intro i hi; simp [init] at hi

theorem step_inv {s s' : State} {g : Ghost} {t : Nat} {inv : Option (Nat × KOp)} {rz cl : Bool} (I : Inv s g)
    (hs : step s t inv rz cl = some s') : ∃ g', Inv s' g' := by
  cases hl : s.threads[t]? with
  | none => unfold step stepG at hs; rw [hl] at hs; cases hs
  | some l =>
    obtain ⟨g', -, I'⟩ := stepK_inv I hl (step_stepK hl hs)
    exact ⟨g', I'⟩

theorem reachable_inv {n : Nat} {s : State} (hr : Reachable n s) : ∃ g, Inv s g := by
  induction hr with
  | init => exact ⟨_, init_inv n⟩
  | step t inv rz cl _ hs ih =>
    obtain ⟨g, I⟩ := ih
    exact step_inv I hs

/-- everything an operation that starts now can reach is live -/
theorem reachableNow_live {s : State} (cr : CR) {i : Nat} (hi : i ∈ reachableNow s) : BinX.Live (mem s) cr i := by
  unfold reachableNow at hi
  rw [List.mem_flatMap] at hi
  obtain ⟨c, hc, hic⟩ := hi
  rw [← chainH_mem] at hic
  have hcases : c = s.cell0 ∨ c = s.lowCell ∨ c = s.highCell := by
    unfold startCells at hc
    split at hc
    · simp at hc; rcases hc with h | h
      · exact Or.inr (Or.inl h)
      · exact Or.inr (Or.inr h)
    · split at hc
      · simp at hc; exact hc
      · simp at hc; exact Or.inl hc
  rcases hcases with rfl | rfl | rfl
  · exact Or.inl hic
  · exact Or.inr (Or.inl hic)
  · exact Or.inr (Or.inr (Or.inl hic))

end Flurry.Proto.BinXC
