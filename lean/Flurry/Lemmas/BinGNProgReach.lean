import Flurry.Lemmas.BinGNProgInv
import Flurry.Lemmas.BinGNPLin
/-! # Proto/BinGN, progress: `BInv` in every reachable state

The twin of `Lemmas/BinGProgReach.lean`: the lower progress and drain files take `Inv s` and `BInv s` as hypotheses and
import the definitions of the invariant only; the proof of the invariant (`reachable_bundle`, `Lemmas/BinGNPLin.lean`)
enters here, and the files that speak of `Reachable` (`BinGNProgSolo`, `BinGNDrainRun` and what follows them) import this one. -/
namespace Flurry.Proto.BinGNP

theorem reachable_binv {n : Nat} {s : State} (hr : Reachable n s) : BInv s := by
  induction hr with
  | init => exact init_binv n
  | @step s s' t inv lo mt rz sm sm2 pick hr hs ih =>
    have I := reachable_inv hr
    have F := (reachable_bundle hr).fresh
    have E := step_eff I (pubRead_of I F) (planSep_of I F) hs
      (reachable_xshape (Flurry.Proto.BinGN.Reachable.step t inv lo mt rz sm sm2 pick hr hs))
    cases hl : s.threads[t]? with
    | none => unfold step stepG at hs; rw [hl] at hs; cases hs
    | some l => exact stepN_binv I ih hl (E.kstep 0).len (step_stepN hl hs)

end Flurry.Proto.BinGNP
