import Flurry.Lemmas.TableGHeapKeys
import Flurry.Lemmas.TableEntries
/-! # Proto/TableG: the entries of the whole table; iteration = lookup (C05)

`entries S`: the entries of all lineages, lineage by lineage (`BinG.entries`: the lists of the live
cells) — what an iterator over the whole table that starts now and runs alone yields. They are
`Lineages.entries` for the spread of keys of `Lemmas/TableG.lean` (`entries_eq`).

The one fact that is not lineage-local: **every key stored in lineage `i` is a key of lineage `i`**
(`stored_key_in_own_lineage`, `Lemmas/TableGHeapKeys.lean`: it holds in every reachable state, so the facts about
`entries` need no quiescence; `lineage_quiescent` is what the statements under quiescence of `Props/C05TableG.lean`
take each lineage from). -/
namespace Flurry.Proto.TableG
open Flurry.Lin Flurry.LinMap

/-- what an iterator over the whole table yields: the entries of all lineages -/
def entries (S : State) : List (Nat × (Nat × Nat)) := S.bins.flatMap BinG.entries

theorem entries_eq (S : State) :
    entries S = Lineages.entries (keys S.bins.length) BinG.entries S.bins (BinG.init 0) := by
  unfold entries Lineages.entries Lineages.gather
  rw [List.flatMap_def, Lineages.flatten_map_eq_range BinG.entries S.bins (BinG.init 0)]
  exact congrArg (fun f => ((List.range S.bins.length).map f).flatten)
    (funext fun i => (List.map_id' (BinG.entries (S.bins.getD i (BinG.init 0)))).symm)

theorem ownE {m n : Nat} {S : State} (hr : Reachable m n S) : (keys m).Own Prod.fst BinG.entries S.bins :=
  fun _ _ hb _ he => ⟨stored_key_in_own_lineage hr hb he, rfl⟩

/-- no key is yielded twice, across all lineages and both tables -/
theorem entries_keys_nodup {m n : Nat} {S : State} (hr : Reachable m n S) : ((entries S).map (·.1)).Nodup := by
  have I := reachable_tblInv hr
  rw [entries_eq, I.len]
  exact Lineages.entries_keys_nodup (ownE hr) fun i b hb => BinG.entries_keys_nodup (BinG.reachable_inv (I.reach i b hb)).heap

/-- iteration over the whole table yields exactly the keys a lookup finds, with the value it returns -/
theorem mem_entries_iff_absMap {m n : Nat} {S : State} (hr : Reachable m n S) (hm : 0 < m)
    (k : Nat) (v : Nat × Nat) : (k, v) ∈ entries S ↔ absMap S k = some v := by
  have I := reachable_tblInv hr
  obtain ⟨b, hb, hd⟩ := bin_of_key hm I k
  unfold absMap
  rw [hd, entries_eq, I.len, Lineages.mem_entries_iff (ownE hr) hb]
  exact BinG.mem_entries_iff_absOf (BinG.reachable_inv (I.reach _ b hb)).heap k v

/-- where an entry of the whole table is: in the lineage of its key, and — once that lineage is
forwarded — in the cell of the next table that bit 0 of the key selects -/
theorem entry_position {m n : Nat} {S : State} (hr : Reachable m n S)
    {i : Nat} {b : BinG.State} (hb : S.bins[i]? = some b) {k : Nat} {v : Nat × Nat}
    (he : (k, v) ∈ BinG.entries b) :
    lineageOf m k = i ∧ (k, v) ∈ BinG.entriesOfCell b (BinG.liveCell b k) ∧
      ((k, v) ∈ BinG.entriesOfCell b b.lowCell → BinG.hiBit k = false) ∧
      ((k, v) ∈ BinG.entriesOfCell b b.highCell → BinG.hiBit k = true) := by
  have hH := (BinG.reachable_inv ((reachable_tblInv hr).reach i b hb)).heap
  exact ⟨stored_key_in_own_lineage hr hb he, (BinG.entries_in_liveCell hH).1 he,
    (BinG.entries_own_cell hH).1, (BinG.entries_own_cell hH).2⟩

theorem lineage_quiescent {m n : Nat} {S : State} (hr : Reachable m n S) (hq : quiescent S) {b : BinG.State}
    (hb : b ∈ S.bins) : BinG.Reachable n b ∧ BinG.quiescent b := by
  obtain ⟨i, hi⟩ := List.mem_iff_getElem?.1 hb
  exact ⟨(reachable_tblInv hr).reach i b hi, hq b hb⟩

end Flurry.Proto.TableG
