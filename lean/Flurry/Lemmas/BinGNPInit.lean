import Flurry.Lemmas.BinGNPInv
import Flurry.Lemmas.BinGNGenDefs
/-! # Proto/BinGN: the structural invariant holds initially

Every cell of `init n` reads as `empty` (`tabs = [[.empty]]`, cells that do not exist read as `empty`), so every chain
and tree is empty; every thread is `idle` without a call. The generation fields of `XInv` (`len`, `rows`, `old`,
`newNotMoved`, `noResz`, `idx`, `pre`, `post`, `nextEmpty`, `tabNew`) and `HInv.side` / `HInv.binsDistinct` follow from
that. -/
namespace Flurry.Proto.BinGNP
open Flurry.Lin
open Flurry.Proto.BinK (nodeAt binAt NextOK IsChain IsSeg chainOf CInv absL nodeAt_ge binAt_ge chainOf_none)

export Flurry.Proto.BinGN (init_threads)

theorem init_cellAt (n : Nat) (id : Cid) : cellAt (init n) id = .empty := by
  obtain ⟨g, j⟩ := id
  show ([[(.empty : Cell)]].getD g []).getD j .empty = .empty
  cases g with
  | zero => cases j <;> rfl
  | succ g => cases j <;> rfl

theorem init_chainC (n : Nat) (id : Cid) : chainC (init n) (cellAt (init n) id) = [] := by
  rw [init_cellAt]; exact chainOf_none _

theorem init_node (n j : Nat) : nodeAt (init n).heap j = dflt := nodeAt_ge (Nat.zero_le j)
theorem init_bin (n b : Nat) : binAt (init n).tbins b = dfltB := binAt_ge (Nat.zero_le b)

theorem init_hinv (n : Nat) : HInv (init n) := by
  refine ⟨?_, ?_, ?_, ?_, ?_, ?_, ?_⟩
  · intro id
    rw [init_cellAt]
    refine ⟨?_, ?_, ?_⟩
    · intro i n' j h; cases h
    · intro h hh; cases hh
    · intro i j hi
      rcases hi with hi | hi
      · simp only [startOf] at hi; rw [chainOf_none] at hi; cases hi
      · exact absurd hi (treeOf_empty _ i)
  · intro j b hj; rw [init_node] at hj; cases hj
  · intro b h hf; rw [init_bin] at hf; cases hf
  · intro id b hb; rw [init_cellAt] at hb; cases hb
  · intro id j hj; rw [init_chainC] at hj; cases hj
  · intro id j hj
    rcases hj with hj | hj
    · rw [init_chainC] at hj; cases hj
    · rw [init_cellAt] at hj; exact absurd hj (treeOf_empty _ j)
  · intro id id' b hb; rw [init_cellAt] at hb; cases hb

theorem init_inv (n : Nat) : Inv (init n) := by
  have hnt : ∀ id b, cellAt (init n) id ≠ .tree b := fun id b h => by rw [init_cellAt] at h; cases h
  refine ⟨init_hinv n, ⟨?_, ?_, ?_, ?_, ?_, ?_, ?_⟩, ⟨?_, ?_, ?_, ?_, ?_, ?_, ?_, ?_, ?_, ?_, ?_, ?_, ?_⟩,
    ⟨?_, ?_, ?_, ?_, ?_, ?_, ?_, ?_, ?_, ?_, ?_⟩, ⟨?_, ?_, ?_, ?_⟩⟩
  -- TInv
  · intro t l p hl hc; cases init_threads hl; cases hc
  · intro t l hl; cases init_threads hl; exact ⟨fun _ => rfl, fun _ => rfl⟩
  · intro x hx; cases hx
  · intro t l p hl hc; cases init_threads hl; cases hc
  · intro x hx; cases hx
  · intro t t' l l' p p' hl _ hc; cases init_threads hl; cases hc
  · exact List.Pairwise.nil
  -- XInv
  · intro t t' l l' hl _ hx; cases init_threads hl; cases hx
  · intro t l hl hx; cases init_threads hl; cases hx
  · rfl
  · intro g row h
    cases g with
    | zero => cases h; rfl
    | succ g => cases h
  · intro g j hg; cases hg
  · intro j; rw [init_cellAt]; exact nofun
  · intro _ j; rw [init_cellAt]; exact nofun
  · intro t l j hl hx; cases init_threads hl; cases hx
  · intro t l j hl hx; cases init_threads hl; cases hx
  · intro t l hl hx; cases init_threads hl; cases hx
  · intro j' h; exact absurd (init_cellAt n _) h
  · intro t l g hl hx; cases init_threads hl; cases hx
  · intro t l hl; cases init_threads hl; trivial
  -- LInv
  · intro t l h hl
    cases init_threads hl
    rw [init_node]
    exact ⟨nofun, nofun⟩
  · intro h x hx; rw [init_node] at hx; cases hx
  · intro t l h hl hv; cases init_threads hl; cases hv
  · intro t l b hl
    cases init_threads hl
    rw [init_bin]
    exact ⟨nofun, nofun⟩
  · intro b x hx; rw [init_bin] at hx; cases hx
  · intro t l b hl hv; cases init_threads hl; cases hv
  · intro id b hb; exact absurd hb (hnt id b)
  · intro id b t l hb; exact absurd hb (hnt id b)
  · intro b hb; cases hb
  · intro b hw; rw [init_bin] at hw; cases hw
  · intro t l b hl hr; cases init_threads hl; cases hr
  -- DInv
  · intro t l p hl hc; cases init_threads hl; cases hc
  · intro t l hl; cases init_threads hl; trivial
  · intro id b hb; exact absurd hb (hnt id b)
  · intro id b hb; exact absurd hb (hnt id b)

end Flurry.Proto.BinGNP
