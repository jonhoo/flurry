import Flurry.Lemmas.TableLineages
import Flurry.Proto.TableNI
import Flurry.Lemmas.TableN
import Flurry.Lemmas.BinNIInv
/-! # Proto/TableNI: invariants of the table with concurrent table iterations (C07, C01)

* `tick_is_step`: a tick of a lineage is the no-op `BinNI.step` of the clock thread (idle, not iterating);
* `TblInv m n S`: `m` lineages, each `BinNI.Reachable (n + 1)`, the clock thread idle and not iterating in
  each, and all lineages at one clock value;
* the key translation of the map history (`proj_mhist`, as in `Lemmas/TableN.lean`; with it C01 at quiescence,
  `map_linearizable_aux`, which `Props/C07TableNI.lean` states as `tableNI_map_linearizable`) and of the yields
  (`mem_tyields`, `filter_tyields`: the yields with key `k` are, re-keyed, the yields of lineage `k % m` with
  key `k / m` — the other lineages yield keys of their own class only; `tyields` is a `Lineages.gather`);
* `before_of_steps`: every state of the run of the table is, lineage by lineage, a past state (`Before`);
  `before_set`: so is the table with one lineage replaced by a past state of that lineage. -/
namespace Flurry.Proto.TableNI
open Flurry.Lin Flurry.LinMap
open Flurry.Proto.BinX (get_set)
open Flurry.Proto.TableN (lineageOf localKey inLineage localInv)

/-- a transition of thread `t` leaves the iterator part and the `BinN` local of every other thread alone -/
theorem step_other {s s' : BinNI.State} {t c : Nat} {mk : Bool} {inv : Option (Nat × KOp)} {rz : Bool} {pick : Nat}
    (hs : BinNI.step s t mk inv rz pick = some s') (hne : c ≠ t) :
    s'.its[c]? = s.its[c]? ∧ s'.n.threads[c]? = s.n.threads[c]? := by
  constructor
  · rcases BinNI.step_cases hs with ⟨-, -, n', -, rfl⟩ | ⟨-, -, l, -, -, rfl⟩ | ⟨it, n', -, -, hit⟩
    · rfl
    · show (s.its.set t _)[c]? = _
      rw [List.getElem?_set_ne (fun e => hne e.symm)]
    · obtain ⟨o, ys, es, -, rfl⟩ := BinNI.iterStep_move hit
      exact List.getElem?_set_ne (fun e => hne e.symm)
  · obtain ⟨inv', rz', pick', hn⟩ := BinNI.step_n hs
    obtain ⟨l', hl'⟩ := BinN.step_threads hn
    rw [hl', List.getElem?_set_ne (fun e => hne e.symm)]

def ClockOK (c : Nat) (b : BinNI.State) : Prop :=
  b.its[c]? = some none ∧ ∃ l, b.n.threads[c]? = some l ∧ l.pc = .idle

theorem tick_is_step {b : BinNI.State} {c : Nat} (h : ClockOK c b) :
    BinNI.step b c false none false 0 = some (tick b) := by
  obtain ⟨h1, l, hl, hpc⟩ := h
  unfold BinNI.step
  rw [h1]
  simp only [Bool.false_eq_true, if_false]
  rw [BinNI.idle_step hl hpc]
  rfl

theorem step_clockOK {b b' : BinNI.State} {t c : Nat} {mk : Bool} {inv : Option (Nat × KOp)} {rz : Bool} {pick : Nat}
    (h : ClockOK c b) (hs : BinNI.step b t mk inv rz pick = some b') (hne : t ≠ c) : ClockOK c b' := by
  obtain ⟨e1, e2⟩ := step_other hs (fun e => hne e.symm)
  unfold ClockOK
  rw [e1, e2]
  exact h

theorem init_clockOK (n : Nat) : ClockOK n (BinNI.init (n + 1)) := by
  refine ⟨?_, {}, ?_, rfl⟩
  · show (List.replicate (n + 1) none)[n]? = some none
    rw [List.getElem?_replicate]; simp
  · show (List.replicate (n + 1) ({} : BinN.Local))[n]? = some {}
    rw [List.getElem?_replicate]; simp

theorem step_eq_some {S S' : State} {i t : Nat} {mk : Bool} {inv : Option (Nat × KOp)} {rz : Bool} {pick : Nat}
    (hs : step S i t mk inv rz pick = some S') :
    ∃ b b', S.bins[i]? = some b ∧ t ≠ S.clk ∧
      ((List.range S.bins.length).all fun j => j == i || idleIn (S.bins.getD j (BinNI.init 0)) t) = true ∧
      (∀ k op, inv = some (k, op) → lineageOf S.bins.length k = i) ∧
      BinNI.step b t mk (localInv S.bins.length inv) rz pick = some b' ∧
      S' = { S with bins := (S.bins.map tick).set i b' } := by
  unfold step at hs
  cases hb : S.bins[i]? with
  | none => rw [hb] at hs; cases hs
  | some b =>
    rw [hb] at hs
    dsimp only at hs
    by_cases h0 : t = S.clk
    · rw [if_pos (by simpa using h0)] at hs; cases hs
    · rw [if_neg (by simpa using h0)] at hs
      obtain ⟨h1, hs⟩ := Lineages.guard_some hs
      obtain ⟨h2, hs⟩ := Lineages.guard_some hs
      cases h4 : BinNI.step b t mk (localInv S.bins.length inv) rz pick with
      | none => rw [h4] at hs; cases hs
      | some b' =>
        rw [h4] at hs
        refine ⟨b, b', rfl, h0, h1, ?_, h4, (Option.some.inj hs).symm⟩
        rintro k op rfl
        simpa [inLineage] using h2

/-- every lineage of `S` has its successor at the same index of the list after a step -/
theorem step_bins_fwd {S : State} {i : Nat} {b b' : BinNI.State} (hb : S.bins[i]? = some b) :
    ∀ (j : Nat) (b0 : BinNI.State), S.bins[j]? = some b0 →
      ∃ c, ((S.bins.map tick).set i b')[j]? = some c ∧ ((j = i ∧ c = b' ∧ b0 = b) ∨ (j ≠ i ∧ c = tick b0)) := by
  intro j b0 hj
  by_cases hji : j = i
  · subst hji
    rw [hb] at hj; cases hj
    exact ⟨b', (Lineages.set_map_getElem? tick b' hb).1, Or.inl ⟨rfl, rfl, rfl⟩⟩
  · exact ⟨tick b0, (Lineages.set_map_getElem? tick b' hb).2 j b0 hji hj, Or.inr ⟨hji, rfl⟩⟩

structure TblInv (m n : Nat) (S : State) : Prop where
  len : S.bins.length = m
  clk : S.clk = n
  reach : ∀ (j : Nat) (b : BinNI.State), S.bins[j]? = some b → BinNI.Reachable (n + 1) b
  clock : ∀ (j : Nat) (b : BinNI.State), S.bins[j]? = some b → ClockOK n b
  /-- not needed for `reach` or `clock`; `Props/C07TableNI.lean` reads `clocks_agree` off it -/
  now : ∃ τ, ∀ (j : Nat) (b : BinNI.State), S.bins[j]? = some b → b.n.now = τ

theorem init_bin {m n j : Nat} {b : BinNI.State} (h : (init m n).bins[j]? = some b) : b = BinNI.init (n + 1) :=
  Lineages.eq_of_getElem?_replicate h

theorem init_tblInv (m n : Nat) : TblInv m n (init m n) := by
  refine ⟨by simp [init], rfl, ?_, ?_, ⟨0, ?_⟩⟩
  · intro j b h; rw [init_bin h]; exact BinNI.Reachable.init
  · intro j b h; rw [init_bin h]; exact init_clockOK n
  · intro j b h; rw [init_bin h]; rfl

theorem step_tblInv {m n : Nat} {S S' : State} {i t : Nat} {mk : Bool} {inv : Option (Nat × KOp)} {rz : Bool}
    {pick : Nat} (I : TblInv m n S) (hs : step S i t mk inv rz pick = some S') : TblInv m n S' := by
  obtain ⟨b, b', hb, htc, hidle, _, hb', rfl⟩ := step_eq_some hs
  have hget := Lineages.of_set_map_any (bins := S.bins) tick (i := i) (b' := b')
  obtain ⟨τ, hτ⟩ := I.now
  refine ⟨?_, I.clk, ?_, ?_, ⟨τ + 1, ?_⟩⟩
  · show ((S.bins.map tick).set i b').length = m
    rw [List.length_set, List.length_map]; exact I.len
  · intro j c hc
    rcases hget j c hc with ⟨rfl, rfl⟩ | ⟨_, b0, hj, rfl⟩
    · exact BinNI.Reachable.step t mk _ rz pick (I.reach j b hb) hb'
    · exact BinNI.Reachable.step n false none false 0 (I.reach j b0 hj) (tick_is_step (I.clock j b0 hj))
  · intro j c hc
    rcases hget j c hc with ⟨rfl, rfl⟩ | ⟨_, b0, hj, rfl⟩
    · exact step_clockOK (I.clock j b hb) hb' (by rw [← I.clk]; exact htc)
    · exact I.clock j b0 hj  -- `ClockOK` does not read the clock
  · intro j c hc
    rcases hget j c hc with ⟨rfl, rfl⟩ | ⟨_, b0, hj, rfl⟩
    · rw [BinNI.step_now hb', hτ j b hb]
    · show b0.n.now + 1 = τ + 1
      rw [hτ j b0 hj]

theorem reachable_tblInv {m n : Nat} {S : State} (hr : Reachable m n S) : TblInv m n S := by
  induction hr with
  | init => exact init_tblInv m n
  | step i t mk inv rz pick _ hs ih => exact step_tblInv ih hs

theorem Steps.reachable {m n : Nat} {S S' : State} (hr : Reachable m n S) (h : Steps S S') : Reachable m n S' := by
  induction h with
  | refl => exact hr
  | tail i t mk inv rz pick _ hs ih => exact Reachable.step i t mk inv rz pick ih hs

theorem before_of_steps {m n : Nat} {S₁ S : State} (hr : Reachable m n S₁) (h : Steps S₁ S) : Before n S₁ S := by
  induction h with
  | refl =>
    have I := reachable_tblInv hr
    refine ⟨rfl, ?_⟩
    intro i b₁ b h1 h2
    rw [h1] at h2; cases h2
    exact ⟨I.reach i b₁ h1, BinNI.Steps.refl _⟩
  | @tail S' S'' i t mk inv rz pick hst hs ih =>
    have I := reachable_tblInv (Steps.reachable hr hst)
    obtain ⟨b, b', hb, htc, hidle, _, hb', rfl⟩ := step_eq_some hs
    refine ⟨?_, ?_⟩
    · show S₁.bins.length = ((S'.bins.map tick).set i b').length
      rw [List.length_set, List.length_map]; exact ih.len
    · intro j b₁ c h1 hc
      rcases Lineages.of_set_map_any tick j c hc with ⟨rfl, rfl⟩ | ⟨_, b0, hj, rfl⟩
      · obtain ⟨r, st⟩ := ih.lin j b₁ b h1 hb
        exact ⟨r, BinNI.Steps.tail t mk _ rz pick st hb'⟩
      · obtain ⟨r, st⟩ := ih.lin j b₁ b0 h1 hj
        exact ⟨r, BinNI.Steps.tail n false none false 0 st (tick_is_step (I.clock j b0 hj))⟩

theorem getD_of_get {S : State} {i : Nat} {b : BinNI.State} (hb : S.bins[i]? = some b) :
    S.bins.getD i (BinNI.init 0) = b := by
  rw [List.getD_eq_getElem?_getD, hb]; rfl

theorem mhist_eq (S : State) :
    mhist S = Lineages.mhist (TableN.keys S.bins.length) (·.n.hist) S.bins (BinNI.init 0) := rfl

theorem proj_mhist {m n : Nat} {S : State} (I : TblInv m n S) {k : Nat} {b : BinNI.State}
    (hb : S.bins[lineageOf m k]? = some b) : proj (mhist S) k = BinN.callsOn b.n (localKey m k) := by
  rw [mhist_eq, I.len]
  exact Lineages.proj_mhist _ (TableN.own I.len) hb

theorem bin_of_key {m n : Nat} (hm : 0 < m) {S : State} (I : TblInv m n S) (k : Nat) :
    ∃ b, S.bins[lineageOf m k]? = some b := by
  have hlt : lineageOf m k < S.bins.length := by rw [I.len]; exact Nat.mod_lt _ hm
  exact ⟨S.bins[lineageOf m k], List.getElem?_eq_getElem hlt⟩

theorem absMap_eq {m : Nat} {S : State} (hlen : S.bins.length = m) {k : Nat} {b : BinNI.State}
    (hb : S.bins[lineageOf m k]? = some b) : absMap S k = BinNI.absOf b (localKey m k) := by
  unfold absMap
  rw [hlen, getD_of_get hb]

theorem mhist_wf {m n : Nat} {S : State} (hr : Reachable m n S) : ∀ c ∈ mhist S, c.call.inv ≤ c.call.resp := by
  intro c hc
  rw [mhist_eq] at hc
  obtain ⟨i, b, q, hb, hmem, -⟩ := Lineages.mem_mhist hc
  exact ((BinN.reachable_tinv (BinNI.reachable_n ((reachable_tblInv hr).reach i b hb))).histTime (q, c.call) hmem).1

theorem map_linearizable_aux {m n : Nat} (hm : 0 < m) {S : State} (hr : Reachable m n S)
    (hq : quiescent S) : MapLinearizable (mhist S) (fun _ => none) (absMap S) :=
  Flurry.LinMap.map_linearizable_of_proj (mhist_wf hr) fun k => by
    have I := reachable_tblInv hr
    obtain ⟨b, hb⟩ := bin_of_key hm I k
    rw [proj_mhist I hb, absMap_eq I.len hb]
    exact BinN.binN_linearizable_quiescent_aux (BinNI.reachable_n (I.reach _ b hb))
      (hq b (List.mem_of_getElem? hb)) (localKey m k)

theorem tyields_eq (S : State) :
    tyields S = Lineages.gather (rekey S.bins.length) (·.yields) S.bins (BinNI.init 0) := rfl

theorem mem_tyields {S : State} {y : BinNI.Yield} (hy : y ∈ tyields S) :
    ∃ i b y0, S.bins[i]? = some b ∧ y0 ∈ b.yields ∧ y = rekey S.bins.length i y0 := Lineages.mem_gather.1 hy

theorem filter_tyields {m n : Nat} (I : TblInv m n S) (k : Nat) (p : BinNI.Yield → Bool)
    {b : BinNI.State} (hb : S.bins[lineageOf m k]? = some b) :
    (tyields S).filter (fun y => p y && decide (y.key = k)) =
      (b.yields.filter fun y0 => p (rekey m (lineageOf m k) y0) && decide (y0.key = localKey m k)).map
        (rekey m (lineageOf m k)) := by
  rw [tyields_eq, I.len]
  exact Lineages.filter_gather (K := TableN.keys m) (key := BinNI.Yield.key) (fun _ _ => rfl) (TableN.own I.len) p hb

theorem before_set {m n : Nat} {S : State} (I : TblInv m n S) {i : Nat} {b s₁ : BinNI.State}
    (hb : S.bins[i]? = some b) (hr1 : BinNI.Reachable (n + 1) s₁) (hst : BinNI.Steps s₁ b) :
    Before n { S with bins := S.bins.set i s₁ } S := by
  refine ⟨List.length_set, ?_⟩
  intro j b₁ c h1 hc
  rcases get_set h1 with ⟨rfl, rfl⟩ | ⟨hne, h1⟩
  · rw [hb] at hc; cases hc
    exact ⟨hr1, hst⟩
  · rw [h1] at hc; cases hc
    exact ⟨I.reach j b₁ h1, BinNI.Steps.refl _⟩

end Flurry.Proto.TableNI
