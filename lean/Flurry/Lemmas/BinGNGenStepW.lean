import Flurry.Lemmas.BinGNGenStepR
/-! # Proto/BinGN: the shape half of the generation invariant — the steps of a thread with a call in flight

`ShapeInv s'` from `GenInv s`, per class of transition. Of the lock half of `GenInv s` the stores use that the cell
under a validated lock is not a forwarding marker (`POK.valid`). -/
namespace Flurry.Proto.BinGN
open Flurry.Lin
open Flurry.Proto.BinGNP (Move BMove)

/-- the acting thread changes data only -/
theorem shape_grows {s s' : State} {t : Nat} {l l' : Local} (I : GenInv s) (hl : s.threads[t]? = some l)
    (hg : Grows s s') (htabs : s'.tabs = s.tabs) (le : (desc s.cur l').sle (desc s.cur l)) : ShapeInv (setT s' t l') :=
  shape_weak I hl (hg.set t l') hg.cur hg.resizing htabs le

theorem ShapeInv.finish {s : State} {t : Nat} {p : Pending} {res : KRes} (I : ShapeInv (setT s t ⟨.idle, none⟩)) :
    ShapeInv (finish s t p res) :=
  ⟨I.len, I.rows, I.old, I.nextOK, I.curMoved, I.uniqX,
    fun t1 l1 h1 => ⟨(I.thr t1 l1 h1).tres, (I.thr t1 l1 h1).gen, (I.thr t1 l1 h1).idx, (I.thr t1 l1 h1).commit⟩⟩

section
variable {s : State} {t : Nat} {p : Pending} {pc pc' : Pc} {hp : List NodeS} {tb : List TBin} {res : KRes}

theorem shape_move (I : GenInv s) (hl : s.threads[t]? = some ⟨pc, some p⟩) (h : Move s t p pc pc' hp) :
    ShapeInv (setT (BinGNP.qst s hp s.tbins) t ⟨pc', some p⟩) := by
  have T := I.thr t _ hl
  obtain ⟨heap, tbins, tabs, cur, resizing, threads, hist, now⟩ := s
  cases h with
  | rTable | wTable => exact shape_gen I hl rfl rfl rfl rfl rfl (cur_gen _ p.key)
  | rCellMoved hm | wCellMoved hm => exact shape_gen I hl rfl rfl rfl rfl rfl (gen_follow I (T.gen _ _ rfl) hm)
  | rCellList _ => exact shape_weak I hl rfl rfl rfl rfl (.bot _)
  | @rCellTree lo _ _ _ => cases lo <;> exact shape_weak I hl rfl rfl rfl rfl (.bot _)
  | _ => exact shape_weak I hl rfl rfl rfl rfl (.same rfl)

theorem shape_bmove (I : GenInv s) (hl : s.threads[t]? = some ⟨pc, some p⟩) (h : BMove s t p pc pc' tb) :
    ShapeInv (setT (BinGNP.qst s s.heap tb) t ⟨pc', some p⟩) := by
  obtain ⟨heap, tbins, tabs, cur, resizing, threads, hist, now⟩ := s
  cases h with
  | @lrTryOk _ _ k _ _ _ _ | @lrLoopOk _ _ k _ _ _ => cases k <;> exact shape_weak I hl rfl rfl rfl rfl (.same rfl)
  | _ => exact shape_weak I hl rfl rfl rfl rfl (.same rfl)

/-- a call returns: the thread knows nothing any more, whatever it did to heap and `TreeBin` table -/
theorem shape_finish {l : Local} (I : GenInv s) (hl : s.threads[t]? = some l) :
    ShapeInv (finish (BinGNP.qst s hp tb) t p res) :=
  ShapeInv.finish (shape_weak I hl rfl rfl rfl rfl (.bot _))

theorem shape_cas {g v vi : Nat} (I : GenInv s) (hl : s.threads[t]? = some ⟨.wCas g, some p⟩)
    (hc : cellOf s g p.key = .empty) :
    ShapeInv (finish (setCell (BinGNP.qst s (s.heap ++ [⟨p.key, (v, vi), none, none, false, none⟩]) s.tbins)
      g p.key (.list s.heap.length)) t p .none) := by
  have hc' : cellAt s g (p.key % 2 ^ g) = .empty := hc
  exact ShapeInv.finish (shape_put (c := .list s.heap.length) I hl rfl rfl rfl rfl (Or.inl (by rw [hc']; simp))
    (fun h => nomatch h) ⟨id, .inl rfl, .inr rfl, id⟩)

theorem shape_store {g h : Nat} {pred hit hnext : Option Nat} (I : GenInv s)
    (hl : s.threads[t]? = some ⟨.wStore g h pred hit hnext, some p⟩) :
    ShapeInv (setT (storeAt (BinGNP.tick s) g p pred hit hnext).1 t
      ⟨.wUnlock g h (storeAt (BinGNP.tick s) g p pred hit hnext).2 false, some p⟩) := by
  obtain ⟨hcell, -⟩ := (I.thr t _ hl).valid g (p.key % 2 ^ g) (.list h) rfl
  obtain ⟨hg, ht⟩ := storeAt_shape (BinGNP.tick s) g p pred hit hnext
  have hg := (Grows.tick s).trans hg
  rcases ht with e | ⟨c, hcm, hct, e⟩
  · exact shape_grows I hl hg e (.same rfl)
  · exact shape_put I hl (hg.set _ _) hg.cur hg.resizing e (Or.inl (by rw [hcell]; simp)) (fun h => absurd h hcm)
      (.same rfl)

theorem shape_untreeify {g b : Nat} (I : GenInv s) (hl : s.threads[t]? = some ⟨.tUntreeify g b res, some p⟩) :
    ShapeInv (setT (BinGNP.untreeifyOf (BinGNP.tick s) g p.key b) t ⟨.tUnlockM g b res false, some p⟩) := by
  obtain ⟨hcell, -⟩ := (I.thr t _ hl).valid g (p.key % 2 ^ g) (.tree b) rfl
  exact shape_put I hl rfl rfl rfl rfl (Or.inl (by rw [hcell]; simp)) (fun h => absurd h (cellOfHead_ne_moved _))
    (.same rfl)

end
end Flurry.Proto.BinGN
