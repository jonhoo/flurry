import Flurry.Lemmas.TableLineages
import Flurry.Lemmas.TableEntries
import Flurry.Lemmas.TableGN
import Flurry.Lemmas.BinGNQuiescent
import Flurry.Lemmas.BinGNProgStuck
import Flurry.Lemmas.BinGNProgSolo
/-! # Proto/TableGN: the lineage-level well-formedness (C05) and progress (C11, C12) theorems lifted to the table

`Proto/TableGN`: `m` lineages of `Proto/BinGN` on one clock, key `k` of the table ↦ lineage `k % m`, local key
`k / m`. Inside lineage `i` the keys are the LOCAL names `q`; the key of the table such an entry stands for is
`globalKey m i q = i + m * q`.

* `entries S`: what an iterator over the whole table that starts now and runs alone yields — the entries of all
  lineages (`BinGNQ.entries`: the lists of the live cells), lineage by lineage, each re-keyed to the key of the table
  (`rekey m i`);
* `mem_entries`, `mem_entries_iff_absMap`, `entries_keys_nodup`: iteration = lookup, no key twice across all
  lineages (`globalKey` is injective on a lineage and separates the lineages) — in every reachable state; `entries`
  is `Lineages.entries` (`Lemmas/TableEntries.lean`);
* `entry_lineage`: an entry with key `k` is in lineage `k % m` under the name `k / m`, on the list of the cell a lookup
  of `k / m` ends in there;
* C11: a thread that is not `idle` in lineage `i` of a reachable table is `idle` in every other lineage
  (`idleElse_of_active`: `OneBin`, and all lineages have the same number of threads), so `TableGN.step` lets it take in
  lineage `i` exactly the steps `BinGN.step` lets it take there (`step_lift`); `TEnabled S i t`, the notion
  `Props/C11TableGN.lean` is stated in: the table step of `t` in lineage `i` is enabled whatever the scheduler's
  arguments, and it follows from `BinGNP.Enabled` in the lineage (`tenabled_of_enabled`); a table that is not quiescent
  has a lineage that is not, and the witness of `binGN_never_stuck_aux` there can step in the table (`never_stuck_aux`);
* C12: a solo run in a lineage is a solo run in the table (`runSolo`, `solo_lift`): the other lineages only tick.

`IdleElse` … `step_lift` and `runSolo` … `solo_lift` are the text of `Lemmas/TableGP.lean` with `BinGN` for `BinG`:
they speak only of `bins`, `idleIn` and `tick`. -/
namespace Flurry.Proto.TableGNL
open Flurry.Lin Flurry.LinMap Flurry.Proto.TableGN
open Flurry.Proto.TableN (lineageOf localKey globalKey inLineage localInv)

def rekey (m i : Nat) (e : Nat × (Nat × Nat)) : Nat × (Nat × Nat) := (globalKey m i e.1, e.2)

def lineageEntries (m i : Nat) (b : BinGN.State) : List (Nat × (Nat × Nat)) :=
  (BinGNQ.entries b).map (rekey m i)

/-- what an iterator over the whole table yields: the entries of all lineages, lineage by lineage, under the keys of
the table -/
def entries (S : State) : List (Nat × (Nat × Nat)) :=
  (List.range S.bins.length).flatMap fun i => lineageEntries S.bins.length i (S.bins.getD i (BinGN.init 0))

theorem entries_eq (S : State) :
    entries S = Lineages.entries (TableN.keys S.bins.length) BinGNQ.entries S.bins (BinGN.init 0) := rfl

theorem mem_entries {S : State} {k : Nat} {v : Nat × Nat} :
    (k, v) ∈ entries S ↔ ∃ (i : Nat) (b : BinGN.State) (q : Nat), S.bins[i]? = some b ∧
      (q, v) ∈ BinGNQ.entries b ∧ k = globalKey S.bins.length i q :=
  Lineages.mem_entries (K := TableN.keys S.bins.length) (ent := BinGNQ.entries) (d := BinGN.init 0)

theorem mem_entries_iff_absMap {m n : Nat} {S : State} (hr : Reachable m n S) (hm : 0 < m)
    (k : Nat) (v : Nat × Nat) : (k, v) ∈ entries S ↔ absMap S k = some v := by
  have I := reachable_tblInv hr
  obtain ⟨b, hb, hd⟩ := bin_of_key hm I k
  unfold absMap
  rw [hd, entries_eq, I.len, Lineages.mem_entries_iff (TableN.own I.len) hb]
  have J := BinGNP.reachable_inv (I.reach _ b hb)
  exact BinGNQ.mem_entries_iff_absOf J.heap J.rsz _ v

theorem entries_keys_nodup {m n : Nat} {S : State} (hr : Reachable m n S) :
    ((entries S).map (·.1)).Nodup := by
  have I := reachable_tblInv hr
  rw [entries_eq, I.len]
  exact Lineages.entries_keys_nodup (TableN.own I.len) fun i b hb =>
    BinGNQ.entries_keys_nodup (BinGNP.reachable_inv (I.reach i b hb)).heap

/-- where an entry of the table is: in the lineage of its key, under its local name, on the list of the cell a lookup
of the key ends in -/
theorem entry_lineage {m n : Nat} {S : State} (hr : Reachable m n S) (hm : 0 < m)
    {k : Nat} {v : Nat × Nat} (he : (k, v) ∈ entries S) :
    ∃ b, S.bins[lineageOf m k]? = some b ∧ (localKey m k, v) ∈ BinGNQ.entries b ∧
      (localKey m k, v) ∈ BinGNQ.entriesOfCell b (BinGN.liveCell b (localKey m k)) := by
  have I := reachable_tblInv hr
  obtain ⟨b, hb, hd⟩ := bin_of_key hm I k
  have hrb := I.reach _ b hb
  have ha := (mem_entries_iff_absMap hr hm k v).1 he
  unfold absMap at ha
  have J := BinGNP.reachable_inv hrb
  rw [hd, I.len, ← BinGNQ.mem_entries_iff_absOf J.heap J.rsz] at ha
  exact ⟨b, hb, ha, (BinGNQ.entries_in_liveCell J.heap J.rsz).1 ha⟩

theorem lineage_quiescent {m n : Nat} {S : State} (hr : Reachable m n S) (hq : quiescent S) {b : BinGN.State}
    (hb : b ∈ S.bins) : BinGN.Reachable n b ∧ BinGN.quiescent b := by
  obtain ⟨i, hi⟩ := List.mem_iff_getElem?.1 hb
  exact ⟨(reachable_tblInv hr).reach i b hi, hq b hb⟩

theorem binGN_threads_length {n : Nat} {s : BinGN.State} (hr : BinGN.Reachable n s) : s.threads.length = n := by
  induction hr with
  | init => simp [BinGN.init]
  | step t inv lo mt rz sm sm2 pick _ hs ih =>
    obtain ⟨l', h⟩ := BinGN.step_threads hs
    rw [h, List.length_set]; exact ih

def IdleElse (S : State) (i t : Nat) : Prop :=
  ∀ (j : Nat) (bj : BinGN.State), j ≠ i → S.bins[j]? = some bj → idleIn bj t = true

theorem idleElse_all {S : State} {i t : Nat} (h : IdleElse S i t) :
    ((List.range S.bins.length).all fun j => j == i || idleIn (S.bins.getD j (BinGN.init 0)) t) = true :=
  (Lineages.all_idle_iff S.bins _ (idleIn · t) i).2 h

theorem idleElse_of_all {S : State} {i t : Nat}
    (h : ((List.range S.bins.length).all fun j => j == i || idleIn (S.bins.getD j (BinGN.init 0)) t) = true) :
    IdleElse S i t :=
  (Lineages.all_idle_iff S.bins _ (idleIn · t) i).1 h

theorem idleElse_of_active {m n : Nat} {S : State} (hr : Reachable m n S) {i t : Nat} {b : BinGN.State}
    {l : BinGN.Local} (hb : S.bins[i]? = some b) (hl : b.threads[t]? = some l) (hne : l.pc ≠ .idle) :
    IdleElse S i t := by
  intro j bj hji hj
  have I := reachable_tblInv hr
  have hlen_b := binGN_threads_length (I.reach i b hb)
  have hlen_j := binGN_threads_length (I.reach j bj hj)
  have ht : t < bj.threads.length := by
    rw [hlen_j, ← hlen_b]; exact (List.getElem?_eq_some_iff.1 hl).1
  have hlj : bj.threads[t]? = some bj.threads[t] := List.getElem?_eq_getElem ht
  rcases reachable_oneBin hr t i j b bj l _ (Ne.symm hji) hb hj hl hlj with h | h
  · exact absurd h hne
  · unfold idleIn
    rw [hlj]
    simp [h]

/-- the step of the table is the step of the lineage (under the local names of the keys), when the thread is idle
elsewhere and the keys (if any) are keys of that lineage -/
theorem step_lift {S : State} {i t : Nat} {b b' : BinGN.State} {inv : Option (Nat × KOp)} {lo : Bool}
    {mt : Option Nat} {rz sm sm2 : Bool} {pick : Nat} (hb : S.bins[i]? = some b) (he : IdleElse S i t)
    (h1 : inLineage S.bins.length i (inv.map (·.1)) = true) (h2 : inLineage S.bins.length i mt = true)
    (hs : BinGN.step b t (localInv S.bins.length inv) lo (localMt S.bins.length mt) rz sm sm2 pick = some b') :
    step S i t inv lo mt rz sm sm2 pick = some { bins := (S.bins.map tick).set i b' } := by
  unfold step
  simp only [hb, idleElse_all he, h1, h2, hs, Bool.not_true, Bool.false_eq_true, if_false]

/-- the table step of thread `t` in lineage `i` is enabled for every value of the scheduler's arguments (the keys
they name, if any, being keys of lineage `i`) -/
def TEnabled (S : State) (i t : Nat) : Prop :=
  ∀ (inv : Option (Nat × KOp)) (lo : Bool) (mt : Option Nat) (rz sm sm2 : Bool) (pick : Nat),
    inLineage S.bins.length i (inv.map (·.1)) = true → inLineage S.bins.length i mt = true →
    (step S i t inv lo mt rz sm sm2 pick).isSome = true

theorem tenabled_of_enabled {m n : Nat} {S : State} (hr : Reachable m n S) {i t : Nat} {b : BinGN.State}
    {l : BinGN.Local} (hb : S.bins[i]? = some b) (hl : b.threads[t]? = some l) (hne : l.pc ≠ .idle)
    (he : BinGNP.Enabled b t) : TEnabled S i t := by
  intro inv lo mt rz sm sm2 pick h1 h2
  obtain ⟨b', hs⟩ := Option.isSome_iff_exists.1
    (he (localInv S.bins.length inv) lo (localMt S.bins.length mt) rz sm sm2 pick)
  rw [step_lift hb (idleElse_of_active hr hb hl hne) h1 h2 hs]
  rfl

theorem never_stuck_aux {m n : Nat} {S : State} (hr : Reachable m n S) (hq : ¬ quiescent S) :
    ∃ (i : Nat) (b : BinGN.State) (t : Nat) (l : BinGN.Local), S.bins[i]? = some b ∧ b.threads[t]? = some l ∧
      l.pc ≠ .idle ∧ IdleElse S i t ∧ TEnabled S i t := by
  obtain ⟨i, b, hb, hnq⟩ := Lineages.exists_not_of_not_forall hq
  have hrb := (reachable_tblInv hr).reach i b hb
  obtain ⟨t, l, hl, hne, he⟩ :=
    BinGNP.binGN_never_stuck_aux (BinGNP.reachable_inv hrb) (BinGNP.reachable_binv hrb) hnq
  exact ⟨i, b, t, l, hb, hl, hne, idleElse_of_active hr hb hl hne, tenabled_of_enabled hr hb hl hne he⟩

/-- thread `t` runs alone in lineage `i` for `k` steps (it starts nothing); `none` if one of these steps is not
enabled -/
def runSolo (i t : Nat) (sm sm2 : Bool) : Nat → State → Option State
  | 0, S => some S
  | k + 1, S =>
    match step S i t none false none false sm sm2 0 with
    | some S' => runSolo i t sm sm2 k S'
    | none => none

theorem runSolo_reachable {m n : Nat} {i t : Nat} {sm sm2 : Bool} : ∀ (k : Nat) {S S' : State},
    Reachable m n S → runSolo i t sm sm2 k S = some S' → Reachable m n S'
  | 0, S, S', hr, h => by simp only [runSolo, Option.some.injEq] at h; exact h ▸ hr
  | k + 1, S, S', hr, h => by
    simp only [runSolo] at h
    cases hs : step S i t none false none false sm sm2 0 with
    | none => rw [hs] at h; cases h
    | some S1 => rw [hs] at h; exact runSolo_reachable k (.step i t none false none false sm sm2 0 hr hs) h

def tickN (k : Nat) (b : BinGN.State) : BinGN.State := { b with now := b.now + k }

theorem tickN_tick (k : Nat) (b : BinGN.State) : tickN k (tick b) = tickN (k + 1) b := by
  unfold tickN tick
  simp only [BinGN.State.mk.injEq, true_and]
  omega

theorem solo_lift {i t : Nat} {sm sm2 : Bool} : ∀ (k : Nat) {S : State} {b b' : BinGN.State},
    S.bins[i]? = some b → IdleElse S i t → BinGNP.runSolo t sm sm2 k b = some b' →
    ∃ S', runSolo i t sm sm2 k S = some S' ∧ S'.bins.length = S.bins.length ∧ S'.bins[i]? = some b' ∧
      ∀ (j : Nat) (bj : BinGN.State), j ≠ i → S.bins[j]? = some bj → S'.bins[j]? = some (tickN k bj)
  | 0, S, b, b', hb, _, h => by
    simp only [BinGNP.runSolo, Option.some.injEq] at h
    subst h
    exact ⟨S, rfl, rfl, hb, fun j bj _ hj => by rw [hj]; rfl⟩
  | k + 1, S, b, b', hb, he, h => by
    simp only [BinGNP.runSolo] at h
    cases hs : BinGN.step b t none false none false sm sm2 0 with
    | none => rw [hs] at h; cases h
    | some b1 =>
      rw [hs] at h
      have hstep : step S i t none false none false sm sm2 0 = some { bins := (S.bins.map tick).set i b1 } :=
        step_lift (inv := none) (mt := none) hb he rfl rfl hs
      obtain ⟨h1, h2⟩ := Lineages.set_map_getElem? tick b1 hb
      have he1 : IdleElse { bins := (S.bins.map tick).set i b1 } i t := by
        intro j c hji hc
        rcases Lineages.of_set_map tick _ (idleIn · t) (idleElse_all he) j c hc with ⟨e, _⟩ | ⟨_, b0, _, rfl, hid⟩
        · exact absurd e hji
        · exact hid
      obtain ⟨S', hrun, hlen, hi', hoth⟩ := solo_lift k (S := { bins := (S.bins.map tick).set i b1 }) h1 he1 h
      refine ⟨S', ?_, ?_, hi', ?_⟩
      · simp only [runSolo, hstep]
        exact hrun
      · rw [hlen]
        show ((S.bins.map tick).set i b1).length = _
        rw [List.length_set, List.length_map]
      · intro j bj hji hj
        rw [hoth j (tick bj) hji (h2 j bj hji hj), tickN_tick]

end Flurry.Proto.TableGNL
