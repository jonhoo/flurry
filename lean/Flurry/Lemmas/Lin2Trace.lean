import Flurry.Lemmas.Lin2Basic
/-! # The trace lemma for `Lin2`: linearizability from an abstract-state trace

`isRead`: the operations that leave the state of the key as it is (every `CallOK` distinguishes them).
`lin_of_trace` is `LinGen.glinL_of_trace`, where its hypotheses are explained, for `Lin2`. -/
namespace Flurry.Lin2

def isRead : KOp2 → Bool
  | .get | .has => true
  | _ => false

theorem lin_of_trace {h : History2} (A : Nat → KSt) (T : Nat) (pt : Call2 → Nat)
    (hpt : ∀ c ∈ h, c.inv ≤ pt c ∧ pt c ≤ c.resp ∧ pt c ≤ T)
    (hw : ∀ c ∈ h, isRead c.op = false → 1 ≤ pt c ∧ specStep2 (A (pt c - 1)) c.op = (A (pt c), c.res))
    (hr : ∀ c ∈ h, isRead c.op = true → specStep2 (A (pt c)) c.op = (A (pt c), c.res))
    (hinj : h.Pairwise (fun c d => isRead c.op = false → isRead d.op = false → pt c ≠ pt d))
    (hstab : ∀ τ, 1 ≤ τ → τ ≤ T → (∀ c ∈ h, isRead c.op = false → pt c ≠ τ) → A τ = A (τ - 1)) :
    Linearizable2 h (A 0) (A T) := by
  refine linearizable_iff_linL.2 (LinGen.glinL_of_trace (fun c => isRead c.op) pt A T ?_
    (fun c hc => (hpt c hc).2.2) (fun c hc hcw => ⟨(hw c hc hcw).1, kstep_of_spec (hw c hc hcw).2⟩)
    (fun c hc hcr => kstep_of_spec (hr c hc hcr)) hinj hstab)
  intro a ha b hb hab
  have := hpt a ha
  have := hpt b hb
  show ¬ _ < _
  omega

end Flurry.Lin2
