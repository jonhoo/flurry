import Flurry.Lemmas.BinNRank
/-! # Proto/BinN: the order `ord cr` with `cr` a SET of copies

The lemmas about segments, chains and `NextOK` under the surgeries are those of `Lemmas/BinXChain`, for the rank `ord cr`
(`Lemmas/BinNRank`). Here: `ord cr` is injective (`ord_inj`) and induction along `next` (`NextOK.induction`). No file uses
the other two, `ord_addRange_new` and `nextOK_congr` (`NextOK` under a change of the set of copies outside the heap). -/
namespace Flurry.Proto.BinN
open Flurry.Proto.BinX (NodeS nodeAt getElem?_nodeAt)

theorem ord_inj {cr : CR} {i j : Nat} (h : ord cr i = ord cr j) : i = j := by
  unfold ord at h
  split at h <;> split at h <;> omega

/-- induction along `next`, from the end of a list backwards: `next` pointers go strictly upwards in `ord` and
stay inside the heap -/
theorem NextOK.induction {cr : CR} {heap : List NodeS} (hok : NextOK cr heap) {Q : Nat → Prop}
    (step : ∀ c, c < heap.length → (∀ d, (nodeAt heap c).next = some d → Q d) → Q c) :
    ∀ c, c < heap.length → Q c :=
  BinX.rank_induction (ranked_ord cr) fun c hc ih => step c hc fun d hd =>
    ih d (hok c _ d (getElem?_nodeAt hc) hd).2 (hok c _ d (getElem?_nodeAt hc) hd).1

theorem ord_addRange_new {cr : CR} {a b i : Nat} (h1 : a ≤ i) (h2 : i < b) :
    ord (addRange cr a b) i = -(i : Int) - 1 :=
  ord_copy (isCopy_addRange.2 (Or.inr ⟨h1, h2⟩))

theorem nextOK_congr {cr cr' : CR} {heap : List NodeS} (hok : NextOK cr heap)
    (h : ∀ i, i < heap.length → cr' i = cr i) : NextOK cr' heap := by
  intro i n j hn hj
  obtain ⟨h1, h2⟩ := hok i n j hn hj
  have e : ∀ x, x < heap.length → ord cr' x = ord cr x :=
    fun x hx => ord_congr (by unfold isCopy; rw [h x hx])
  rw [e i (List.getElem?_eq_some_iff.1 hn).1, e j h2]
  exact ⟨h1, h2⟩

end Flurry.Proto.BinN
