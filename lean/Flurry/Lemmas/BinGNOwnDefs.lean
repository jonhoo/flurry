import Flurry.Lemmas.BinGNGenFrame
/-! # Proto/BinGN: every lock word has an owner whose program counter says so (definitions)

The converse of the lock part of `GenInv`: `OwnInv s` says that a node lock / `TreeBin` mutex that is taken is
taken by a thread whose program counter holds it, and that while `resizing` is set there is a resizing thread.
Consequence (`Lemmas/BinGNOwn.lean`): in a quiescent state nothing is locked and no resize is half done.
`LockExt`, `MutexExt` (a heap / `TreeBin` table extended by unlocked entries) come with the lemmas that say what they are on
`modify` and `++`; no proof of the library goes through them. -/
namespace Flurry.Proto.BinGN
open Flurry.Lin

/-- the parts of a descriptor that do not depend on `cur` -/
def holdNOf (l : Local) : Option Nat := (desc 0 l).holdN
def holdMOf (l : Local) : Option Nat := (desc 0 l).holdM
def isXOf (l : Local) : Bool := (desc 0 l).isX

theorem desc_holds_indep (c : Nat) (l : Local) :
    (desc c l).holdN = holdNOf l ∧ (desc c l).holdM = holdMOf l ∧ (desc c l).isX = isXOf l := by
  obtain ⟨pc, call⟩ := l; cases pc <;> exact ⟨rfl, rfl, rfl⟩

structure OwnInv (s : State) : Prop where
  ownN : ∀ h x, lockAt s.heap h = some x → ∃ l : Local, s.threads[x]? = some l ∧ holdNOf l = some h
  ownM : ∀ b x, mutexAt s.tbins b = some x → ∃ l : Local, s.threads[x]? = some l ∧ holdMOf l = some b
  resX : s.resizing = true → ∃ (t : Nat) (l : Local), s.threads[t]? = some l ∧ isXOf l = true

/-- the heap grew by unlocked nodes, and no lock word of an old node changed -/
def LockExt (heap heap' : List NodeS) : Prop :=
  LockSame heap heap' ∧ ∀ i, heap.length ≤ i → lockAt heap' i = none

theorem LockExt.modify (heap : List NodeS) (i : Nat) (f : NodeS → NodeS) (hf : ∀ n, (f n).lock = n.lock) :
    LockExt heap (heap.modify i f) := by
  refine ⟨LockSame.modify _ _ _ hf, fun j hj => ?_⟩
  unfold lockAt; rw [List.getD_eq_getElem?_getD, List.getElem?_eq_none (by simpa using hj)]; rfl

theorem LockExt.append (heap ext : List NodeS) (hx : ∀ n ∈ ext, n.lock = none) : LockExt heap (heap ++ ext) := by
  refine ⟨LockSame.append _ _, fun i hi => ?_⟩
  unfold lockAt
  rw [List.getD_eq_getElem?_getD, List.getElem?_append_right hi]
  cases he : ext[i - heap.length]? with
  | none => rfl
  | some n => exact hx n (List.mem_of_getElem? he)

/-- the `TreeBin` table grew by unlocked bins, and no mutex of an old bin changed -/
def MutexExt (tb tb' : List TBin) : Prop :=
  MutexSame tb tb' ∧ ∀ i, tb.length ≤ i → mutexAt tb' i = none

theorem MutexExt.modify (tb : List TBin) (i : Nat) (f : TBin → TBin) (hf : ∀ n, (f n).mutex = n.mutex) :
    MutexExt tb (tb.modify i f) := by
  refine ⟨MutexSame.modify _ _ _ hf, fun j hj => ?_⟩
  unfold mutexAt; rw [List.getD_eq_getElem?_getD, List.getElem?_eq_none (by simpa using hj)]; rfl

end Flurry.Proto.BinGN
