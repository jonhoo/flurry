import Flurry.Lemmas.BinNBasic
import Flurry.Lemmas.BinNHMSurgeryDefs
/-! # Proto/BinN: what a transition does to the heap (C01, C10)

`HeapStep`, `Update`, `Effect` as in `Lemmas/BinNHMSurgeryDefs.lean`, stated over `BinN.Ghost`; each is equivalent to
that file's notion at the ghost `BinNHM.toM G` (`heapStep_toM`, `update_toM`, `effect_toM`), which is how every lemma
about them is proved. The equivalences match the fields of the two structures by position: a clause added to one has to be
added to the other at the same place. -/
namespace Flurry.Proto.BinN
open Flurry.Lin
open Flurry.Proto.BinX (NodeS Cell Pending dflt chainFrom cellHead cellOfHead nodeAt IsSeg IsChain chainH chainH_empty
  chainH_moved absIn absIn_same KeysDistinct cellHead_cellOfHead cellOfHead_ne_moved)
open BinNHM (toM live_toM active_toM hinv_toM)

structure HeapStep (s s' : State) (G G' : Ghost) : Prop where
  len : s.heap.length ≤ s'.heap.length
  key : ∀ j, j < s.heap.length → (nodeAt s'.heap j).key = (nodeAt s.heap j).key
  ordS : ∀ j, j < s.heap.length → ord G'.cr j = ord G.cr j
  movedMono : ∀ id, getCell s id = .moved → getCell s' id = .moved
  off : ∀ j, j < s.heap.length → ¬ Live s G j →
    (nodeAt s'.heap j).val = (nodeAt s.heap j).val ∧ (nodeAt s'.heap j).next = (nodeAt s.heap j).next ∧
    ¬ Live s' G' j
  lc : ∀ k j, j ∈ LC s' k → j ∈ LC s k ∨ (s.heap.length ≤ j ∧ ¬ isCopy G'.cr j)
  unl : ∀ k c, c ∈ LC s k → c ∉ LC s' k →
    (nodeAt s'.heap c).val = (nodeAt s.heap c).val ∧ (nodeAt s'.heap c).next = (nodeAt s.heap c).next ∧
    ¬ Live s' G' c ∧ ∀ j ∈ LC s k, j ≠ c → j ∈ LC s' k
  unlC : ∀ id c, c ∈ chId s id → c ∉ chId s' id →
    (nodeAt s'.heap c).val = (nodeAt s.heap c).val ∧ (nodeAt s'.heap c).next = (nodeAt s.heap c).next ∧
    ¬ Live s' G' c ∧ ∀ j ∈ chId s id, j ≠ c → j ∈ chId s' id

theorem heapStep_toM {s s' : State} {G G' : Ghost} : BinNHM.HeapStep s s' (toM G) (toM G') ↔ HeapStep s s' G G' := by
  constructor
  · rintro ⟨a, b, c, d, e, f, g, h⟩
    refine ⟨a, b, c, d, fun j hj hl => ?_, f, fun k x h1 h2 => ?_, fun id x h1 h2 => ?_⟩
    · obtain ⟨e1, e2, e3⟩ := e j hj (mt live_toM.1 hl); exact ⟨e1, e2, mt live_toM.2 e3⟩
    · obtain ⟨e1, e2, e3, e4⟩ := g k x h1 h2; exact ⟨e1, e2, mt live_toM.2 e3, e4⟩
    · obtain ⟨e1, e2, e3, e4⟩ := h id x h1 h2; exact ⟨e1, e2, mt live_toM.2 e3, e4⟩
  · rintro ⟨a, b, c, d, e, f, g, h⟩
    refine ⟨a, b, c, d, fun j hj hl => ?_, f, fun k x h1 h2 => ?_, fun id x h1 h2 => ?_⟩
    · obtain ⟨e1, e2, e3⟩ := e j hj (mt live_toM.2 hl); exact ⟨e1, e2, mt live_toM.1 e3⟩
    · obtain ⟨e1, e2, e3, e4⟩ := g k x h1 h2; exact ⟨e1, e2, mt live_toM.1 e3, e4⟩
    · obtain ⟨e1, e2, e3, e4⟩ := h id x h1 h2; exact ⟨e1, e2, mt live_toM.1 e3, e4⟩

theorem Live_congr {s s' : State} (hh : s'.heap = s.heap) (ht : s'.tabs = s.tabs) (G : Ghost) (i : Nat) :
    Live s' G i ↔ Live s G i := by
  rw [← live_toM, ← live_toM]; exact BinNHM.Live_congr hh ht _ i

theorem HInv.congr {s s' : State} {G : Ghost} (H : HInv s G) (hh : s'.heap = s.heap) (ht : s'.tabs = s.tabs)
    (hc : s'.cur = s.cur) (hr : s'.resizing = s.resizing) : HInv s' G :=
  hinv_toM.2 ⟨H.toM.congr hh ht hc hr, (hinv_toM.1 H).2.mono (Nat.le_of_eq (by rw [hh])) rfl (fun _ h => h)⟩

theorem Active.congr {s s' : State} {G : Ghost} {id : CellId} (act : Active s G id) (ht : s'.tabs = s.tabs)
    (hc : s'.cur = s.cur) : Active s' G id :=
  active_toM.1 (BinNHM.Active.congr (active_toM.2 act) ht hc)

structure Update (s s' : State) (G : Ghost) (id : CellId) (C' : List Nat) : Prop where
  nextOK : NextOK G.cr s'.heap
  len : s.heap.length ≤ s'.heap.length
  cell : ∀ id', id' ≠ id → getCell s' id' = getCell s id'
  cur : s'.cur = s.cur
  resz : s'.resizing = s.resizing
  tlen : s'.tabs.length = s.tabs.length
  rows : ∀ (g : Nat) (row' : List Cell), s'.tabs[g]? = some row' →
    ∃ row : List Cell, s.tabs[g]? = some row ∧ row'.length = row.length
  notMoved : getCell s' id ≠ .moved
  chain : IsChain s'.heap (cellHead (getCell s' id)) C'
  other : ∀ j, j < s.heap.length → j ∉ chId s id → nodeAt s'.heap j = nodeAt s.heap j
  keys : KeysDistinct s'.heap C'
  side : ∀ j ∈ C', keyOn id (nodeAt s'.heap j).key

def Effect (s s' : State) (G : Ghost) (id : CellId) : Prop :=
  ∃ C', Update s s' G id C' ∧ HeapStep s s' G G

theorem update_toM {s s' : State} {G : Ghost} {id : CellId} {C' : List Nat} :
    BinNHM.Update s s' (toM G) id C' ↔ Update s s' G id C' :=
  ⟨fun ⟨a, b, c, d, e, f, g, h, i, j, k, l⟩ => ⟨a, b, c, d, e, f, g, h, i, j, k, l⟩,
    fun ⟨a, b, c, d, e, f, g, h, i, j, k, l⟩ => ⟨a, b, c, d, e, f, g, h, i, j, k, l⟩⟩

theorem effect_toM {s s' : State} {G : Ghost} {id : CellId} : BinNHM.Effect s s' (toM G) id ↔ Effect s s' G id := by
  unfold Effect BinNHM.Effect
  exact exists_congr fun C' => and_congr update_toM heapStep_toM

end Flurry.Proto.BinN
