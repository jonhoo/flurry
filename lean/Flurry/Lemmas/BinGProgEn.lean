import Flurry.Lemmas.BinGProgInv
import Flurry.Lemmas.BinGProgBase
/-! # Proto/BinG, progress: when is the step of a thread enabled?

`Blocked s pc`: the thread is at one of the six *waiting* program counters and what it waits for is
taken: the lock word of the head node (`wLock`, `kLock`, `xLock`), the mutex of the `TreeBin`
(`tMutex`, `yMutex`), or — parked at `lrLoop` with `WAITER` set — the read-write lock while a writer
or readers remain.

`step_enabled_or_blocked`: in a state that satisfies the structural invariant `Inv` and the auxiliary
invariant `BInv` (so: in every reachable state) the step of a thread that is not `idle` is enabled,
for every value of the scheduler's arguments, unless the thread is `Blocked`. In particular `stepG`
never returns `none` for lack of a call, for an index outside the heap or for a call that does not
fit the program counter. -/
namespace Flurry.Proto.BinG
open Flurry.Lin
open Flurry.Proto.BinK (nodeAt binAt isInsert_iff)
open Flurry.Proto.BinGProg

/-- the thread waits for something that is taken -/
def Blocked (s : State) : Pc → Prop
  | .wLock _ h | .kLock _ _ h | .xLock h => (nodeAt s.heap h).lock.isSome = true
  | .tMutex _ b | .yMutex b => (binAt s.tbins b).mutex.isSome = true
  | .lrLoop _ b _ _ => (binAt s.tbins b).waiter = true ∧
      ((binAt s.tbins b).writer = true ∨ (binAt s.tbins b).readers ≠ 0)
  | _ => False

/-- the program counters at which a thread may have to wait -/
def waitPc : Pc → Bool
  | .wLock _ _ | .kLock _ _ _ | .xLock _ | .tMutex _ _ | .yMutex _ | .lrLoop _ _ _ _ => true
  | _ => false

theorem not_blocked_of_not_waitPc {s : State} {pc : Pc} (h : waitPc pc = false) : ¬ Blocked s pc := by
  cases pc <;> first | exact id | cases h

/-- `stepG` is a `match` on the program counter and the call: with both known, reduce it to the
alternative at hand -/
local macro "at_pc" : tactic => `(tactic| conv => lhs; arg 1; whnf)

/-- The alternatives of `stepG` come in five kinds: a plain `some _`; a branch on the shared state with a
step in every branch; a read of a heap node whose index the invariants bound; one of the three waits;
a branch on the operation, whose `none` alternatives `TInv.opOK` and `BInv` exclude. -/
theorem step_enabled_or_blocked {s : State} (I : Inv s) (B : BInv s) {t : Nat} {l : Local}
    (hl : s.threads[t]? = some l) (hne : l.pc ≠ .idle) (inv : Option (Nat × KOp)) (lo : Bool)
    (mt : Option Nat) (rz sm sm2 : Bool) :
    (step s t inv lo mt rz sm sm2).isSome = true ∨ Blocked s l.pc := by
  have hcall := I.thr.callOK t l hl
  have hb := B t l hl
  have hpi := I.data.pcInv t l
  have hop := I.thr.opOK t l
  obtain ⟨pc, call⟩ := l
  -- the program counter says whether there is a call
  obtain ⟨p, rfl⟩ : ∃ p : Pending, call = if noCallPc pc = true then none else some p := by
    cases call with
    | none => exact ⟨⟨0, .get, 0⟩, by rw [if_pos (hcall.1 rfl)]⟩
    | some p => exact ⟨p, by rw [if_neg (fun h => nomatch hcall.2 h)]⟩
  unfold step stepG
  rw [hl]
  cases pc with
  | idle => exact absurd rfl hne
  | kTable _ | kBuild _ _ _ | kStore _ _ _ _ | kUnlock _ | xBuild _ | yBuild _ | xStoreLow _ _ _
  | xStoreHigh _ _ | xStoreMoved _ | xCommit | rTable _ | rFirst _ | rTree _ | lFirst _ | wTable
  | wStore _ _ _ _ _ | tVal _ _ _ _ _ | tTreeLinkLocked _ _ _ | tUnlinkLocked _ _ _ _
  | tRestructure _ _ _ _ | tUnlockRoot _ _ _ | tUntreeify _ _ _ => left; rfl
  | kCheck _ _ _ | xCasMoved | xCheck _ | yCheck _ | rCas _ _ _ | wCheck _ _ | wUnlock _ _ _ _
  | tCheck _ _ | lrTry _ _ _ _ | tUnlockM _ _ _ _ => exact .inl (isSome_ite rfl rfl)
  | kCell _ _ | xCell | rCell _ _ | rRelease _ _ | wCas _ => left; at_pc; split <;> rfl
  | wCell _ => left; at_pc; split <;> first | rfl | (split <;> rfl)
  | xUnlock unl => left; cases unl <;> rfl
  | rNode cur =>
    cases cur with
    | none => left; rfl
    | some c => exact .inl (isSome_at (hpi p hl rfl) fun _ => isSome_ite rfl rfl)
  | rState _ cur =>
    cases cur with
    | none => left; rfl
    | some c => exact .inl (isSome_ite rfl rfl)
  | rLin _ c => exact .inl (isSome_at (hpi p hl rfl) fun _ => isSome_ite (by split <;> rfl) rfl)
  | lNode cur =>
    cases cur with
    | none => left; rfl
    | some c => exact .inl (isSome_at (hpi p hl rfl) fun _ => isSome_ite (by split <;> rfl) rfl)
  | rVal _ => exact .inl (isSome_at (hb.1 _ rfl) fun _ => rfl)
  | wFind _ _ _ cur =>
    cases cur with
    | none => left; rfl
    | some c => exact .inl (isSome_at (hb.1 _ rfl) fun _ => isSome_ite rfl rfl)
  | kLock _ _ _ | xLock _ | wLock _ _ => exact lockword_enabled (hb.1 _ rfl) _
  | yMutex _ | tMutex _ _ => exact mutexword_enabled _ _
  | lrLoop _ _ _ _ => exact lrLoop_enabled _ _ _
  | tFind _ _ =>
    have hrd : isReader p.op = false := hop p hl rfl rfl
    left; at_pc
    split <;> first | rfl | (rename_i h; rw [h] at hrd; cases hrd)
  | tPrependLocked _ _ =>
    obtain ⟨_, hp', hins⟩ := hb.2 rfl
    cases hp'
    obtain ⟨v, vi, h | h⟩ := isInsert_iff.1 hins <;> (left; at_pc; rw [h]; rfl)

/-- the CAS of a reader at `rCas b c r` would succeed -/
def casOk (s : State) (b r : Nat) : Bool :=
  !(binAt s.tbins b).writer && !(binAt s.tbins b).waiter && (binAt s.tbins b).readers == r

/-- a failed CAS of a reader was a CAS that had to fail -/
theorem rcas_fail_cond {s s' : State} {t : Nat} {b c r : Nat} {call : Option Pending}
    (hl : s.threads[t]? = some ⟨.rCas b c r, call⟩) {inv : Option (Nat × KOp)} {lo : Bool} {mt : Option Nat}
    {rz sm sm2 : Bool} (hs : step s t inv lo mt rz sm sm2 = some s')
    (h' : ∃ call', s'.threads[t]? = some ⟨.rState b (some c), call'⟩) :
    casOk s b r = false := by
  cases hc : casOk s b r with
  | false => rfl
  | true =>
    exfalso
    unfold step stepG at hs
    rw [hl] at hs
    cases call with
    | none => cases hs
    | some p =>
      cases ite_some_eq hs hc
      obtain ⟨call', h'⟩ := h'
      have h2 : (s.threads.set t ⟨.rTree b, some p⟩)[t]? = _ := Flurry.Proto.BinK.get_set_self hl
      cases h2.symm.trans h'

end Flurry.Proto.BinG
