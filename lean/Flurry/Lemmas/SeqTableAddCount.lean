import Flurry.Lemmas.SeqTableCtl
/-! # The resize loop, `addCount` -/
namespace Flurry.Seq
open Flurry Flurry.Gen

/-- `transfer` until `stop` holds, `fuel` times at most: the loops of `addCount` and of `tryPresize`
are both of this shape and differ in the test -/
def growLoop (stop : Map → Bool) : Nat → Map → Map
  | 0, m => m
  | fuel + 1, m => if stop m then m else growLoop stop fuel (transfer m)

theorem growLoop_of_stop {stop : Map → Bool} {m : Map} (h : stop m = true) :
    ∀ fuel, growLoop stop fuel m = m
  | 0 => rfl
  | _ + 1 => if_pos h

theorem growLoop_grown (stop : Map → Bool) : ∀ fuel m, Grown m (growLoop stop fuel m)
  | 0, m => Grown.refl m
  | fuel + 1, m => by
    rw [growLoop]
    by_cases h : stop m = true
    · rw [if_pos h]; exact Grown.refl m
    · rw [if_neg h]; exact (transfer_grown m).trans (growLoop_grown stop fuel (transfer m))

theorem fuel_64 {n : Nat} (h : 0 < n) : MAXIMUM_CAPACITY < n * 2 ^ 64 :=
  Nat.lt_of_lt_of_le (by decide : MAXIMUM_CAPACITY < 1 * 2 ^ 64) (Nat.mul_le_mul_right _ h)

/-- The loop on a state that is well formed up to the clauses on the count, for a test that
holds at the maximum length. Whatever the fuel, the result is such a state with the same
lookups, and the clause `count < sizeCtl` (or maximum length) survives; every round doubles the
length, so with `2^30 < len * 2^fuel` the loop ends because the test holds. -/
theorem growLoop_spec {stop : Map → Bool}
    (hmax : ∀ m t, m.table = some t → MAXIMUM_CAPACITY ≤ t.length → stop m = true) (fuel : Nat) :
    ∀ {m : Map} {t : Table}, PreWF m t →
      ∃ t', PreWF (growLoop stop fuel m) t' ∧ Same m (growLoop stop fuel m) ∧
        ((m.count < m.sizeCtl ∨ t.length = MAXIMUM_CAPACITY) →
          (growLoop stop fuel m).count < (growLoop stop fuel m).sizeCtl ∨
            t'.length = MAXIMUM_CAPACITY) ∧
        (MAXIMUM_CAPACITY < t.length * 2 ^ fuel → stop (growLoop stop fuel m) = true) := by
  induction fuel with
  | zero =>
    intro m t hp
    exact ⟨t, hp, Same.refl m, id, fun hf =>
      absurd hf (by rw [Nat.pow_zero, Nat.mul_one]; exact Nat.not_lt.2 hp.twf.2.1)⟩
  | succ fuel ih =>
    intro m t hp
    rw [growLoop]
    by_cases h : stop m = true
    · rw [if_pos h]; exact ⟨t, hp, Same.refl m, id, fun _ => h⟩
    · rw [if_neg h]
      have hlt : t.length < MAXIMUM_CAPACITY :=
        Nat.lt_of_not_le fun hle => h (hmax m t hp.table hle)
      obtain ⟨t', hp', s, hb, hs⟩ := ih (transfer_preWF hp hlt)
      exact ⟨t', hp', (transfer_same hp.table hp.twf).trans s,
        fun hlt' => hb (Or.inl (transfer_below hp (hlt'.resolve_right (Nat.ne_of_lt hlt)))),
        fun hf => hs (by rwa [transferTable_length, Nat.mul_comm 2, Nat.mul_assoc, ← Nat.pow_succ'])⟩

def addCountStop (m : Map) : Bool :=
  addCountBelow m.count m.sizeCtl ||
    match m.table with
    | none => true
    | some t => addCountAtMax t.length || decide (m.sizeCtl < 0)

theorem ite_or {α : Type} (a b : Bool) (x y : α) :
    (if (a || b) = true then x else y) = if a = true then x else if b = true then x else y := by
  cases a <;> rfl

theorem addCount_go_succ (fuel : Nat) (m : Map) :
    addCount.go (fuel + 1) m.count m =
      if addCountStop m then m else addCount.go fuel (transfer m).count (transfer m) := by
  rw [addCount.go, addCountStop, ite_or]
  cases m.table with
  | none => rfl
  | some t =>
    show _ = if _ then m else if (_ || _) = true then m else _
    rw [ite_or]; simp only [decide_eq_true_eq]

theorem addCount_go_eq : ∀ (fuel : Nat) (m : Map),
    addCount.go fuel m.count m = growLoop addCountStop fuel m
  | 0, _ => rfl
  | fuel + 1, m => by rw [addCount_go_succ, growLoop, addCount_go_eq fuel (transfer m)]

theorem addCountStop_iff {m : Map} {t : Table} (ht : m.table = some t) :
    addCountStop m = true ↔
      m.count < m.sizeCtl ∨ MAXIMUM_CAPACITY ≤ t.length ∨ m.sizeCtl < 0 := by
  simp only [addCountStop, ht, addCountBelow, addCountAtMax, Bool.or_eq_true, decide_eq_true_eq,
    ge_iff_le]

/-- with `hint = none` no resize is ever attempted (`replaceNode`, `clear`) -/
theorem addCount_none (n : Int) (m : Map) : addCount n none m = { m with count := m.count + n } := by
  unfold addCount
  simp only [C14.add_count_stored]

theorem addCount_some (n : Int) (h : Nat) (m : Map) :
    addCount n (some h) m = growLoop addCountStop 64 { m with count := m.count + n } := by
  rw [← addCount_go_eq]
  unfold addCount
  simp only [C14.add_count_stored, C14.add_count_local]

theorem addCount_grown (n : Int) (hint : Option Nat) (m : Map) :
    Grown { m with count := m.count + n } (addCount n hint m) := by
  cases hint
  · rw [addCount_none]; exact Grown.refl _
  · rw [addCount_some]; exact growLoop_grown _ _ _

theorem addCount_hash (n : Int) (hint : Option Nat) (m : Map) :
    (addCount n hint m).hash = m.hash := (addCount_grown n hint m).hash

theorem addCount_tableLen_le (n : Int) (hint : Option Nat) (m : Map) :
    tableLen m ≤ tableLen (addCount n hint m) := (addCount_grown n hint m).tableLen_le

theorem addCount_resizes_le (n : Int) (hint : Option Nat) (m : Map) :
    m.resizes ≤ (addCount n hint m).resizes := (addCount_grown n hint m).resizes_le

theorem addCount_entries_perm (n : Int) (hint : Option Nat) (m : Map) :
    (entries (addCount n hint m)).Perm (entries m) := (addCount_grown n hint m).entries_perm

/-- `addCount n (some _)` (the caller is `put`, with `n = 1`). The caller has already changed the
entries, so the old count is off by `n`; the state is otherwise well formed. The result is well
formed: the loop grows the table until `count < sizeCtl` or the maximum length is reached, and 64
rounds are enough. -/
theorem addCount_some_wf {n : Int} {h : Nat} {m : Map} {t : Table} (hp : PreWF m t)
    (hc : m.count + n = Int.ofNat (entries m).length) :
    WF (addCount n (some h) m) ∧ Same m (addCount n (some h) m) ∧
      (addCount n (some h) m).count = m.count + n := by
  have g := addCount_grown n (some h) m
  rw [addCount_some] at g ⊢
  obtain ⟨t', hp', s, -, hs⟩ := growLoop_spec
    (fun m t ht hle => (addCountStop_iff ht).2 (Or.inr (Or.inl hle))) 64
    (hp.of_eq (m' := { m with count := m.count + n }) rfl rfl rfl)
  refine ⟨hp'.wf ?_ ?_, s, g.count⟩
  · rw [g.count, s.length_eq]; exact hc
  · have h1 := hp'.sizeCtl_pos
    have h2 := hp'.twf.2.1
    rcases (addCountStop_iff hp'.table).1 (hs (fuel_64 hp.twf.length_pos)) with h | h | h
    · exact Or.inl h
    · exact Or.inr (Nat.le_antisymm h2 h)
    · omega

/-- When the new count is below the threshold (or the table is at its maximum
length) `addCount` only changes the counter, whatever the hint. -/
theorem addCount_of_below {n : Int} {hint : Option Nat} {m : Map} {t : Table}
    (ht : m.table = some t)
    (hb : m.count + n < m.sizeCtl ∨ t.length = MAXIMUM_CAPACITY) :
    addCount n hint m = { m with count := m.count + n } := by
  cases hint with
  | none => exact addCount_none n m
  | some h =>
    rw [addCount_some]
    exact growLoop_of_stop ((addCountStop_iff (m := { m with count := m.count + n }) ht).2
      (hb.imp id fun h => Or.inl (Nat.le_of_eq h.symm))) 64

theorem addCount_below_wf {n : Int} {hint : Option Nat} {m : Map} {t : Table} (hp : PreWF m t)
    (hc : m.count + n = Int.ofNat (entries m).length)
    (hb : m.count + n < m.sizeCtl ∨ t.length = MAXIMUM_CAPACITY) :
    WF (addCount n hint m) ∧ Same m (addCount n hint m) ∧
      (addCount n hint m).count = m.count + n ∧ (addCount n hint m).table = m.table ∧
      (addCount n hint m).sizeCtl = m.sizeCtl ∧ (addCount n hint m).resizes = m.resizes := by
  rw [addCount_of_below hp.table hb]
  exact ⟨(hp.of_eq (m' := { m with count := m.count + n }) rfl rfl rfl).wf hc hb,
    Same.of_eq rfl rfl, rfl, rfl, rfl, rfl⟩

/-- `n = 1`, `hint = some _` from a well-formed state `m0` whose table got one more entry -/
theorem addCount_insert_wf {h : Nat} {m0 m : Map} {t t' : Table} (hw : WF m0)
    (ht0 : m0.table = some t) (hm : m = { m0 with table := some t' })
    (htw : TableWF m0.hash t') (hlen : t'.length = t.length)
    (hent : (t'.flatMap Bin.nodes).length = (t.flatMap Bin.nodes).length + 1) :
    WF (addCount 1 (some h) m) ∧ Same m (addCount 1 (some h) m) ∧
      (addCount 1 (some h) m).count = m0.count + 1 := by
  obtain ⟨_, hc, hs, _⟩ := (wf_some_iff ht0).1 hw
  subst hm
  refine addCount_some_wf ⟨rfl, htw, by rw [hlen]; exact hs⟩ ?_
  show m0.count + 1 = Int.ofNat (t'.flatMap Bin.nodes).length
  rw [hent, hc, entries_eq ht0]
  rfl

end Flurry.Seq
