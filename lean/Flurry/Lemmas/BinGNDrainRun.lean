import Flurry.Lemmas.BinGNDrainStep
import Flurry.Lemmas.BinGNProgStuck
import Flurry.Lemmas.BinGNProgReach
import Flurry.Lemmas.Descent
/-! # Proto/BinGN, termination: every quiet step of a non-idle thread decreases `gmu`; runs are bounded

The twin of `Lemmas/BinGDrainRun.lean`: `step_gmu_lt` assembles the strict decrease from `stepN_effect`, and with
`binGN_never_stuck_aux` quiet steps drain the lineage (`qdrains`, an instance of `Descent.Drains`). Two things are
needed here beyond the twin. The resizing thread's `daV` / `growV` read the view through `cur` and the forwarded cells of
generation `cur`, so a step of another thread must leave these alone: it forwards no cell and overwrites no marker
(`stepN_frame_nx`, from `LInv.vL`, `LInv.vT`: a validated cell is not forwarded). And `xNext` accepts any cell, so a
quiet step (`QStep`) restricts `pick` to a cell that is not yet forwarded, while there is one (`xnext_pick_cond`;
`exists_not_moved`: the restriction disables nobody). A call stays pending until it is answered (`PendOrAns`,
`QRun.pendOrAns`), and is answered in a quiescent state (`answered_of_quiescent`). -/
namespace Flurry.Proto.BinGNP
open Flurry.Lin
open Flurry.Proto.BinK (get_set_self get_set_ne)
open Flurry.Proto.BinGProg (ite_some_eq ite_some_eq_neg lt_succ_mul_four_pow succ_mul_four_pow_le wsum_lt_of_lower
  wsum_lt_of_upper)

theorem heap_lt_N (s : State) : s.heap.length < N s := lt_succ_mul_four_pow _ _

theorem PM_mono {T L L' : Nat} (h : L ≤ L') : PM T L ≤ PM T L' := by unfold PM; omega

theorem putCell_tabs_length (s : State) (g j : Nat) (c : Cell) : (putCell s g j c).tabs.length = s.tabs.length := by
  show (List.modify _ _ _).length = _
  rw [List.length_modify]

theorem mv_trans {s s1 s' : State} (h1 : (viewOf s1).cur = (viewOf s).cur ∧ mvOf (viewOf s1) = mvOf (viewOf s))
    (ht : s'.tabs = s1.tabs) (hc : s'.cur = s1.cur) :
    (viewOf s').cur = (viewOf s).cur ∧ mvOf (viewOf s') = mvOf (viewOf s) :=
  have h2 := mvOf_of_tabs ht hc
  ⟨h2.1.trans h1.1, h2.2.trans h1.2⟩

theorem storeAt_shape (X : State) (g : Nat) (p : Pending) (pred hit hnext : Option Nat) :
    ((storeAt X g p pred hit hnext).1.tabs = X.tabs ∧ (storeAt X g p pred hit hnext).1.cur = X.cur) ∨
    ∃ (Y : State) (c : Cell), (storeAt X g p pred hit hnext).1 = putCell Y g (p.key % 2 ^ g) c ∧ Y.tabs = X.tabs ∧
      Y.cur = X.cur ∧ c ≠ .moved := by
  unfold storeAt
  cases p.op <;> cases hit <;> cases pred <;>
    first
    | exact .inl ⟨rfl, rfl⟩
    | (cases hnext <;> exact .inr ⟨_, _, rfl, rfl, rfl, nofun⟩)

theorem storeAt_tabs_length (s : State) (g : Nat) (p : Pending) (pred hit hnext : Option Nat) :
    (storeAt s g p pred hit hnext).1.tabs.length = s.tabs.length := by
  rcases storeAt_shape s g p pred hit hnext with ⟨ht, _⟩ | ⟨Y, c, e, hY, _, _⟩
  · rw [ht]
  · rw [e, putCell_tabs_length, hY]

theorem storeAt_mv {s : State} (X : State) (hX : X.tabs = s.tabs) (hXc : X.cur = s.cur) (g : Nat) (p : Pending)
    (pred hit hnext : Option Nat) (hnm : cellAt s (idOf g p.key) ≠ .moved) :
    (viewOf (storeAt X g p pred hit hnext).1).cur = (viewOf s).cur ∧
      mvOf (viewOf (storeAt X g p pred hit hnext).1) = mvOf (viewOf s) := by
  rcases storeAt_shape X g p pred hit hnext with ⟨ht, hc⟩ | ⟨Y, c, e, hY, hYc, hcm⟩
  · exact mvOf_of_tabs (ht.trans hX) (hc.trans hXc)
  · rw [e]
    exact mvOf_putCell_nm (s := s) Y (hY.trans hX) (hYc.trans hXc) hnm hcm

theorem stepN_tabs_length {s s' : State} {t : Nat} {l : Local} (hk : StepN s t l s') (hne : l.pc ≠ .idle) :
    s'.tabs.length = s.tabs.length := by
  obtain ⟨pc, call⟩ := l
  cases hk with
  | idle hpc => exact absurd hpc hne
  | maint k hpc => exact absurd hpc hne
  | resizeStart hpc hr => exact absurd hpc hne
  | invoke k op lo hpc => exact absurd hpc hne
  | store p g h pred hit hnext hc hpc => exact storeAt_tabs_length (tick s) g p pred hit hnext
  | cas p g v vi hc hpc he hop => exact putCell_tabs_length _ _ _ _
  | untreeify p g b res hc hpc => exact putCell_tabs_length _ _ _ _
  | kstore g k h b hc hpc => exact putCell_tabs_length _ _ _ _
  | unlink p g b i res small hc hpc =>
    show (unlinkOf (tick s) b i).tabs.length = _
    unfold unlinkOf
    split <;> rfl
  | xcasMoved j hc hpc h0 => exact putCell_tabs_length _ _ _ _
  | ybuild j b small small2 hc hpc =>
    show (ysplitOf (tick s) b small small2).1.tabs.length = _
    rw [(ysplitOf_tabs_cur (tick s) b small small2).1]; rfl
  | xstoreLow j unl lo hi hc hpc => exact putCell_tabs_length _ _ _ _
  | xstoreHigh j unl hi hc hpc => exact putCell_tabs_length _ _ _ _
  | xstoreMoved j unl hc hpc => exact putCell_tabs_length _ _ _ _
  | _ => rfl

/-- a step of a thread that is neither `idle` nor the resizing thread leaves the table pointer alone and forwards no
cell (nor overwrites a forwarding marker) -/
theorem stepN_frame_nx {s s' : State} {t : Nat} {l : Local} (I : Inv s) (hl : s.threads[t]? = some l)
    (hk : StepN s t l s') (hne : l.pc ≠ .idle)
    (hnx : xPc l.pc = false) : (viewOf s').cur = (viewOf s).cur ∧ mvOf (viewOf s') = mvOf (viewOf s) := by
  have hvL := I.lock.vL t l
  have hvT := I.lock.vT t l
  obtain ⟨pc, call⟩ := l
  cases hk with
  | idle hpc | maint _ hpc | resizeStart hpc _ | invoke _ _ _ hpc => exact absurd hpc hne
  | store p g h pred hit hnext hc hpc =>
    cases hpc; cases hc
    have hnm : cellAt s (idOf g p.key) ≠ .moved := by
      rw [show cellAt s (idOf g p.key) = _ from hvL h hl rfl]; nofun
    exact mv_trans (storeAt_mv (s := s) (tick s) rfl rfl g p pred hit hnext hnm) rfl rfl
  | cas p g v vi hc hpc he hop =>
    have hnm : cellAt s (idOf g p.key) ≠ .moved := by
      rw [← cellOf_eq, he]; nofun
    exact mv_trans (mvOf_putCell_nm (s := s) (qst s (s.heap ++ [⟨p.key, (v, vi), none, none, false, none⟩]) s.tbins)
      rfl rfl (g := g) (j := p.key % 2 ^ g) (c := .list s.heap.length) hnm nofun) rfl rfl
  | untreeify p g b res hc hpc =>
    cases hpc; cases hc
    have hnm : cellAt s (idOf g p.key) ≠ .moved := by
      rw [show cellAt s (idOf g p.key) = _ from hvT b hl rfl]; nofun
    refine mv_trans (s1 := untreeifyOf (tick s) g p.key b) ?_ rfl rfl
    unfold untreeifyOf
    refine mvOf_putCell_nm (s := s) _ rfl rfl hnm ?_
    unfold Flurry.Proto.BinG.cellOfHead
    split <;> nofun
  | kstore g k h b hc hpc =>
    cases hpc
    have hnm : cellAt s (idOf g k) ≠ .moved := by
      rw [show cellAt s (idOf g k) = _ from hvL h hl rfl]; nofun
    exact mv_trans (mvOf_putCell_nm (s := s) (tick s) rfl rfl (g := g) (j := k % 2 ^ g) (c := .tree b) hnm nofun)
      rfl rfl
  | unlink p g b i res small hc hpc =>
    have : (unlinkOf (tick s) b i).tabs = s.tabs ∧ (unlinkOf (tick s) b i).cur = s.cur := by
      unfold unlinkOf
      split <;> exact ⟨rfl, rfl⟩
    exact mvOf_of_tabs (s := s) (s' := setT (unlinkOf (tick s) b i) t _) this.1 this.2
  | xcasMoved _ _ hpc _ | xbuild _ _ _ hpc | ybuild _ _ _ _ _ hpc | xstoreLow _ _ _ _ _ hpc | xstoreHigh _ _ _ _ hpc
  | xstoreMoved _ _ _ hpc | xcommit _ hpc => cases hpc; cases hnx
  | _ => exact mvOf_of_tabs rfl rfl

/-- the pick of the resizing thread at `xNext`, when restricted to cells that are not forwarded, is such a cell -/
theorem xnext_pick_cond {s s' : State} {t : Nat} {call : Option Pending}
    (hl : s.threads[t]? = some ⟨.xNext, call⟩) {inv : Option (Nat × KOp)} {lo : Bool} {mt : Option Nat}
    {rz sm sm2 : Bool} {pick : Nat} (hs : step s t inv lo mt rz sm sm2 pick = some s')
    (hpk : allMoved s s.cur = false → cellAt s (s.cur, pick % 2 ^ s.cur) ≠ .moved) (j : Nat)
    (h' : ∃ call', s'.threads[t]? = some ⟨.xCell j, call'⟩) : umv (viewOf s) j = true := by
  unfold step stepG at hs
  rw [hl] at hs
  obtain ⟨call', h'⟩ := h'
  cases call with
  | some p => cases hs
  | none =>
    by_cases ham : allMoved s s.cur = true
    · cases ite_some_eq hs ham
      have h2 : (s.threads.set t ⟨.xCommit, none⟩)[t]? = _ := get_set_self hl
      cases h2.symm.trans h'
    · cases ite_some_eq_neg hs ham
      have h2 : (s.threads.set t ⟨.xCell (pick % 2 ^ s.cur), none⟩)[t]? = _ := get_set_self hl
      cases h2.symm.trans h'
      have hnm := hpk (Bool.eq_false_iff.2 ham)
      have hlt : pick % 2 ^ s.cur < 2 ^ s.cur := Nat.mod_lt _ (Nat.pow_pos (by omega))
      show (decide (pick % 2 ^ s.cur < 2 ^ s.cur) && !(cellAt s (s.cur, pick % 2 ^ s.cur) == .moved)) = true
      simp [hlt, hnm]

theorem G_set {s s' : State} {t : Nat} {l l' : Local} (hl : s.threads[t]? = some l)
    (hthr : s'.threads = s.threads.set t l') (d : Nat) (hg : growV (viewOf s') l' + d ≤ growV (viewOf s) l)
    (hoth : ∀ i x, i ≠ t → s.threads[i]? = some x → growV (viewOf s') x ≤ growV (viewOf s) x) : G s' + d ≤ G s := by
  unfold G
  rw [hthr]
  exact sum_set_add_le _ _ d s.threads t l l' hl hoth hg

theorem growV_nx {v : View} {l : Local} (h : xPc l.pc = false) : growV v l = grow l.pc := by
  obtain ⟨pc, call⟩ := l
  cases pc with
  | xNext | xCell _ | xCasMoved _ | xLock _ _ | xCheck _ _ | xBuild _ _ | yMutex _ _ | yCheck _ _ | yBuild _ _
  | xStoreLow _ _ _ _ | xStoreHigh _ _ _ | xStoreMoved _ _ | xUnlock _ | xCommit => cases h
  | _ => rfl

theorem W_le {s s' : State} (hlen : s'.threads.length = s.threads.length) (htab : s'.tabs.length = s.tabs.length)
    (hN : N s' ≤ N s) : W s' ≤ W s := by
  unfold W
  rw [hlen, htab]
  have := Nat.mul_le_mul_left s.threads.length (PM_mono (T := s.tabs.length) hN)
  omega

theorem step_gmu_lt {n : Nat} {s s' : State} (hr : Reachable n s) {t : Nat} {l : Local}
    (hl : s.threads[t]? = some l) (hne : l.pc ≠ .idle) {inv : Option (Nat × KOp)} {lo : Bool}
    {mt : Option Nat} {rz sm sm2 : Bool} {pick : Nat} (hs : step s t inv lo mt rz sm sm2 pick = some s')
    (hpk : l.pc = .xNext → allMoved s s.cur = false → cellAt s (s.cur, pick % 2 ^ s.cur) ≠ .moved) : gmu s' < gmu s := by
  have I := reachable_inv hr
  have hr' : Reachable n s' := Flurry.Proto.BinGN.Reachable.step t inv lo mt rz sm sm2 pick hr hs
  have I' := reachable_inv hr'
  have B' := reachable_binv hr'
  have hcas : ∀ b c r, l.pc = .rCas b c r → (∃ call, s'.threads[t]? = some ⟨.rState b (some c), call⟩) →
      casOk s b r = false := by
    intro b c r hpc h'
    obtain ⟨pc, call⟩ := l
    cases hpc
    exact rcas_fail_cond hl hs h'
  have hpick : ∀ j, l.pc = .xNext → (∃ call, s'.threads[t]? = some ⟨.xCell j, call⟩) → umv (viewOf s) j = true := by
    intro j hpc h'
    obtain ⟨pc, call⟩ := l
    cases hpc
    exact xnext_pick_cond hl hs (hpk rfl) j h'
  obtain ⟨l', he⟩ := stepN_effect I hl hne (Nat.le_of_lt (heap_lt_N s)) hpick hcas (step_stepN hl hs)
  have htabs : s'.tabs.length = s.tabs.length := stepN_tabs_length (step_stepN hl hs) hne
  have hoth : ∀ i x, i ≠ t → s.threads[i]? = some x →
      (xPc x.pc = true → daV (viewOf s') x = daV (viewOf s) x ∧ growV (viewOf s') x = growV (viewOf s) x) := by
    intro i x hi hx hxx
    have hnx : xPc l.pc = false := by
      cases h : xPc l.pc with
      | false => rfl
      | true => exact absurd (I.rsz.uniqX i t x l hx hl hxx h) hi
    have hfr := stepN_frame_nx I hl (step_stepN hl hs) hne hnx
    exact daV_growV_xeq hfr.1 hfr.2 x hxx
  have hgoth : ∀ i x, i ≠ t → s.threads[i]? = some x → growV (viewOf s') x ≤ growV (viewOf s) x := by
    intro i x hi hx
    cases hxx : xPc x.pc with
    | true => rw [(hoth i x hi hx hxx).2]; exact Nat.le_refl _
    | false => rw [growV_nx hxx, growV_nx hxx]; exact Nat.le_refl _
  rcases he with e | e
  · -- calm
    have hG : G s' ≤ G s := by
      unfold G
      rw [e.thr, e.view]
      exact sum_set_add_le _ _ 0 s.threads t l l' hl (fun _ _ _ _ => Nat.le_refl _) e.grow
    have hN : N s' ≤ N s := succ_mul_four_pow_le (.inl ⟨e.hlen, hG⟩)
    have htl : s'.threads.length = s.threads.length := by rw [e.thr, List.length_set]
    have hW := W_le htl htabs hN
    have hDA : DA s' ≤ DA s := by
      unfold DA
      rw [e.thr, e.view]
      exact sum_set_add_le _ _ 0 s.threads t l l' hl (fun _ _ _ _ => Nat.le_refl _) e.da
    have hPS : PS s' + 1 ≤ PS s := by
      unfold PS
      rw [e.thr, e.view]
      refine sum_set_add_le (pmV (N s) (viewOf s)) (pmV (N s') (viewOf s)) 1 s.threads t l l' hl
        (fun _ x _ _ => pmV_mono hN _ x) ?_
      have := pmV_mono hN (viewOf s) l'
      have := e.pm
      omega
    exact wsum_lt_of_lower hW hDA hPS
  · -- disturbing
    have hGN : N s' ≤ N s :=
      succ_mul_four_pow_le
        (e.hlen.imp (fun h => ⟨h.1, G_set hl e.thr 0 h.2 hgoth⟩) (fun h => ⟨h.1, G_set hl e.thr 1 h.2 hgoth⟩))
    have htl : s'.threads.length = s.threads.length := by rw [e.thr, List.length_set]
    have hW := W_le htl htabs hGN
    have hDA : DA s' + 1 ≤ DA s := by
      unfold DA
      rw [e.thr]
      refine sum_set_add_le (daV (viewOf s)) (daV (viewOf s')) 1 s.threads t l l' hl ?_ e.da
      intro i x hi hx
      cases hxx : xPc x.pc with
      | true => rw [(hoth i x hi hx hxx).1]; exact Nat.le_refl _
      | false =>
        refine daV_le_of_waiter x hxx fun b ⟨tab, k, res, hpc⟩ hw => ?_
        have hm : holdsMutex x.pc = some b := by rw [hpc]; rfl
        have hb : b < s.tbins.length := (I.lock.refOK i x b hx (by rw [hpc]; rfl)).1
        refine (e.keep b hb hw).resolve_right fun h => hi ?_
        -- the mutex of bin `b` has one holder
        have h1 := (I.lock.mx t l b hl).1 h
        rw [(I.lock.mx i x b hx).1 hm] at h1
        exact Option.some.inj h1
    have hPS : PS s' ≤ s'.threads.length * PM s'.tabs.length (N s') := by
      unfold PS
      refine sum_map_le_card _ _ _ (fun x hx => ?_)
      obtain ⟨i, hi⟩ := List.mem_iff_getElem?.1 hx
      exact pmV_le _ ((walkOK_of_inv I' B' hi).mono (Nat.le_of_lt (heap_lt_N s')))
    have hPM := Nat.mul_le_mul_left s.threads.length (PM_mono (T := s.tabs.length) hGN)
    rw [htl, htabs] at hPS
    exact wsum_lt_of_upper hW hDA (Nat.le_trans hPS hPM) rfl

/-- a quiet step of a thread that is not `idle`: no call, treeify or resize is started.
**Scheduler restriction on `pick`**: when the stepping thread is the resizing thread at `xNext` and some cell of
generation `cur` is not yet forwarded, the cell it is given, `pick % 2 ^ cur`, is one that is not yet forwarded
(the model's `xNext` accepts any cell, and `xCell j` on a forwarded cell returns to `xNext` without progress: an
adversarial `pick` could loop there for ever). -/
def QStep (s s' : State) : Prop :=
  ∃ (t : Nat) (l : Local) (lo sm sm2 : Bool) (pick : Nat), s.threads[t]? = some l ∧ l.pc ≠ .idle ∧
    (l.pc = .xNext → allMoved s s.cur = false → cellAt s (s.cur, pick % 2 ^ s.cur) ≠ .moved) ∧
    stepQuiet s t lo sm sm2 pick = some s'

inductive QRun : State → Nat → State → Prop
  | nil (s : State) : QRun s 0 s
  | cons {s s1 s2 : State} {k : Nat} : QStep s s1 → QRun s1 k s2 → QRun s (k + 1) s2

theorem QStep.reachable {n : Nat} {s s' : State} (hr : Reachable n s) (h : QStep s s') : Reachable n s' := by
  obtain ⟨t, l, lo, sm, sm2, pick, _, _, _, hs⟩ := h
  exact Flurry.Proto.BinGN.Reachable.step t none lo none false sm sm2 pick hr hs

theorem QStep.gmu_lt {n : Nat} {s s' : State} (hr : Reachable n s) (h : QStep s s') : gmu s' < gmu s := by
  obtain ⟨t, l, lo, sm, sm2, pick, hl, hne, hpk, hs⟩ := h
  exact step_gmu_lt hr hl hne hs hpk

theorem qrun_iff {s s' : State} {k : Nat} : QRun s k s' ↔ Descent.Run QStep s k s' :=
  Descent.Run.iff_of .nil .cons fun h => by
    induction h with
    | nil => exact .nil _
    | cons h1 _ ih => exact .cons h1 ih

/-- while `allMoved` says no, some cell of generation `cur` is not forwarded -/
theorem exists_not_moved {s : State} (I : Inv s) (h : allMoved s s.cur = false) :
    ∃ j, j < 2 ^ s.cur ∧ cellAt s (s.cur, j) ≠ .moved := by
  have hcur : s.cur < s.tabs.length := by have := I.rsz.len; omega
  have hgd : s.tabs.getD s.cur [] = s.tabs[s.cur] := by
    rw [List.getD_eq_getElem?_getD, List.getElem?_eq_getElem hcur]; rfl
  unfold Flurry.Proto.BinGN.allMoved at h
  rw [hgd, List.all_eq_false] at h
  obtain ⟨x, hx, hxm⟩ := h
  obtain ⟨j, hj, rfl⟩ := List.getElem_of_mem hx
  refine ⟨j, I.rsz.rows s.cur _ (List.getElem?_eq_getElem hcur) ▸ hj, ?_⟩
  show Flurry.Proto.BinGN.cellAt s s.cur j ≠ .moved
  unfold Flurry.Proto.BinGN.cellAt
  rw [hgd, List.getD_eq_getElem?_getD, List.getElem?_eq_getElem hj]
  exact fun e => hxm (by rw [show s.tabs[s.cur][j] = (.moved : Cell) from e]; rfl)

/-- a state that is not quiescent has a quiet step (`binGN_never_stuck_aux`), also under the restriction on `pick` -/
theorem qstep_of_not_quiescent {n : Nat} {s : State} (hr : Reachable n s) (hq : ¬ quiescent s) : ∃ s', QStep s s' := by
  obtain ⟨t, l, hl, hne, he⟩ := binGN_never_stuck_aux (reachable_inv hr) (reachable_binv hr) hq
  have hpick : ∃ pick, allMoved s s.cur = false → cellAt s (s.cur, pick % 2 ^ s.cur) ≠ .moved := by
    cases ham : allMoved s s.cur with
    | true => exact ⟨0, fun h => by cases h⟩
    | false =>
      obtain ⟨j, hj, hnm⟩ := exists_not_moved (reachable_inv hr) ham
      exact ⟨j, fun _ => by rw [Nat.mod_eq_of_lt hj]; exact hnm⟩
  obtain ⟨pick, hp⟩ := hpick
  obtain ⟨s', hs⟩ := Option.isSome_iff_exists.1 (he none false none false false false pick)
  exact ⟨s', t, l, false, false, false, pick, hl, hne, fun _ => hp, hs⟩

theorem no_qstep_of_quiescent {s s' : State} (hq : quiescent s) : ¬ QStep s s' := by
  rintro ⟨t, l, lo, sm, sm2, pick, hl, hne, _⟩
  exact hne (hq l (List.mem_iff_getElem?.2 ⟨t, hl⟩))

theorem qdrains (n : Nat) : Descent.Drains QStep (Reachable n) quiescent gmu :=
  ⟨fun hr h => h.reachable hr, fun hr h => h.gmu_lt hr, qstep_of_not_quiescent, no_qstep_of_quiescent⟩

theorem QRun.reachable {n : Nat} {s s' : State} {k : Nat} (hr : Reachable n s) (h : QRun s k s') : Reachable n s' :=
  (qdrains n).run_inv hr (qrun_iff.1 h)

def Answered (s : State) (t : Nat) (p : Pending) : Prop :=
  ∃ res resp, (p.key, { tid := t, op := p.op, res := res, inv := p.inv, resp := resp }) ∈ s.hist

def PendOrAns (s : State) (t : Nat) (p : Pending) : Prop :=
  (∃ l, s.threads[t]? = some l ∧ l.call = some p) ∨ Answered s t p

theorem QStep.pendOrAns {s s' : State} (h : QStep s s') {t0 : Nat} {p : Pending} (hpa : PendOrAns s t0 p) :
    PendOrAns s' t0 p := by
  obtain ⟨t, l, lo, sm, sm2, pick, hl, hne, _, hs⟩ := h
  have hk := stepN_call (step_stepN hl hs) hne
  rcases hpa with ⟨l0, hl0, hp⟩ | ⟨res, resp, hm⟩
  · by_cases htt : t0 = t
    · subst htt
      rw [hl] at hl0
      cases hl0
      rcases hk with ⟨l', hthr, hc, _⟩ | ⟨p', res, hp', _, hh⟩
      · exact .inl ⟨l', by rw [hthr]; exact get_set_self hl, by rw [hc]; exact hp⟩
      · rw [hp] at hp'
        cases hp'
        exact .inr ⟨res, _, by rw [hh]; exact List.mem_cons_self⟩
    · rcases hk with ⟨l', hthr, _, _⟩ | ⟨_, _, _, hthr, _⟩ <;>
        exact .inl ⟨l0, by rw [hthr, get_set_ne htt]; exact hl0, hp⟩
  · rcases hk with ⟨_, _, _, hh⟩ | ⟨_, _, _, _, hh⟩
    · exact .inr ⟨res, resp, by rw [hh]; exact hm⟩
    · exact .inr ⟨res, resp, by rw [hh]; exact List.mem_cons_of_mem _ hm⟩

theorem QRun.pendOrAns {s s' : State} {k : Nat} (h : QRun s k s') {t0 : Nat} {p : Pending}
    (hpa : PendOrAns s t0 p) : PendOrAns s' t0 p :=
  Descent.Run.keeps (P := (PendOrAns · t0 p)) (fun h1 => h1.pendOrAns) (qrun_iff.1 h) hpa

theorem answered_of_quiescent {n : Nat} {s : State} (hr : Reachable n s) (hq : quiescent s) {t : Nat} {p : Pending}
    (hpa : PendOrAns s t p) : Answered s t p := by
  rcases hpa with ⟨l1, hl1, hp1⟩ | ha
  · exfalso
    have hidle : l1.pc = .idle := hq l1 (List.mem_iff_getElem?.2 ⟨t, hl1⟩)
    have := ((reachable_inv hr).thr.callOK t l1 hl1).2 (by rw [hidle]; rfl)
    rw [hp1] at this
    cases this
  · exact ha

end Flurry.Proto.BinGNP
