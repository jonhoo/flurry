import Flurry.Lemmas.BinNHMSurgeryDefs
import Flurry.Lemmas.BinNSplit
/-! # Proto/BinN and Proto/BinNH: what the lock words and the steps of the transfer do to the heap (C01, C10)

One lemma per kind of store (as `Lemmas/BinXTransfer.lean` for the one transfer of `Proto/BinX`): lock / unlock; the
split (`build_effect`: the cell enters `G.mid`); the stores of the two new lists into the next table
(`storeNew_effect`); the empty-bin CAS `empty → moved`; the allocation of the next generation; the publication of the
next table; and the store of the forwarding marker (`moved_effect`: the cell leaves `G.mid`, and the live chain of
every key of the cell switches from the old list to its new list without changing the abstract content). Each frames
the splits of the other cells that are under way.

The `Shape` of the successor state is a hypothesis wherever the tables change (`Lemmas/BinNGenReach.lean`). -/
namespace Flurry.Proto.BinNHM
open Flurry.Proto.BinN
open Flurry.Lin
open Flurry.Proto.BinX (chainH_eq nextOK_modify_same NodeS Cell Pending dflt chainFrom cellHead cellOfHead nodeAt nodeAt_modify nodeAt_append_left
  IsSeg IsChain chainH chainH_empty chainH_moved absIn absIn_same absIn_congr KeysDistinct cellHead_cellOfHead
  cellOfHead_ne_moved)

/-- the live chain of every key is unchanged when the chains, the tables and `cur` are -/
theorem LC_of_chId {s s' : State} {G : Ghost} (H : HInv s G) (ht : s'.tabs = s.tabs) (hc : s'.cur = s.cur)
    (hch : ∀ id, chId s' id = chId s id) (k : Nat) : LC s' k = LC s k := by
  rw [H.LC_eq, ← hch]
  unfold LC
  rw [chainOfCell_eq, liveCell_congr ht hc, H.liveCell_eq]
  unfold chId
  rw [getCell_congr ht]

/-- a transition that does not change any node (as far as key, value and `next` go) nor the live chains -/
theorem HeapStep.of_quiet {s s' : State} {G G' : Ghost} (hlen : s.heap.length ≤ s'.heap.length)
    (hnode : ∀ j, j < s.heap.length → (nodeAt s'.heap j).key = (nodeAt s.heap j).key ∧
      (nodeAt s'.heap j).val = (nodeAt s.heap j).val ∧ (nodeAt s'.heap j).next = (nodeAt s.heap j).next)
    (hord : ∀ j, j < s.heap.length → ord G'.cr j = ord G.cr j)
    (hmoved : ∀ id, getCell s id = .moved → getCell s' id = .moved)
    (hlive : ∀ j, j < s.heap.length → ¬ Live s G j → ¬ Live s' G' j)
    (hlc : ∀ k, LC s' k = LC s k)
    (hsub : ∀ id c, c ∈ chId s id → c ∈ chId s' id) : HeapStep s s' G G' := by
  refine ⟨hlen, fun j hj => (hnode j hj).1, hord, hmoved, ?_, ?_, ?_, ?_⟩
  · intro j hj hnl
    exact ⟨(hnode j hj).2.1, (hnode j hj).2.2, hlive j hj hnl⟩
  · intro k j hj; rw [hlc] at hj; exact Or.inl hj
  · intro k c hc1 hc2; rw [hlc] at hc2; exact absurd hc1 hc2
  · intro id c hc1 hc2; exact absurd (hsub id c hc1) hc2

theorem SideOK.congr_heap {bit : Nat → Bool} {heap heap' : List NodeS} {cr : CR} {fr : Nat × Nat} {O X : List Nat}
    {b : Bool} (sX : SideOK bit heap cr fr O b X)
    (hk : ∀ j, (nodeAt heap' j).key = (nodeAt heap j).key)
    (hv : ∀ j, (nodeAt heap' j).val = (nodeAt heap j).val) : SideOK bit heap' cr fr O b X :=
  BinN.SideOK.congr_heap sX hk hv

/-- a split that is under way survives the allocation of nodes (another helper's split) -/
theorem Split.extend {bit : Nat → Bool} {heap ext : List NodeS} {cr : CR} {fr : Nat × Nat} {O : List Nat}
    {lo hg : Option Nat} {b : Nat} (sp : Split bit heap cr fr O lo hg) (hO : ∀ i ∈ O, i < heap.length) :
    Split bit (heap ++ ext) (addRange cr heap.length b) fr O lo hg := by
  obtain ⟨h1, L, Hc, hL, hH, sL, sH⟩ := sp
  have hn : ∀ i, i < heap.length → nodeAt (heap ++ ext) i = nodeAt heap i := fun i hi => nodeAt_append_left _ hi
  have side : ∀ (b' : Bool) (X : List Nat), (∀ j ∈ X, j < heap.length) → SideOK bit heap cr fr O b' X →
      SideOK bit (heap ++ ext) (addRange cr heap.length b) fr O b' X := by
    intro b' X hX sX
    have ho : ∀ i, i < heap.length → ord (addRange cr heap.length b) i = ord cr i := fun i hi => ord_addRange_old hi
    refine ⟨fun j hj => by rw [hn j (hX j hj)]; exact sX.side j hj,
      sX.keys.congr (fun j hj => by rw [hn j (hX j hj)]), sX.mem, ?_, ?_, ?_⟩
    · intro j hj hf
      obtain ⟨i, hi, h5, h6, h7⟩ := sX.src j hj hf
      refine ⟨i, hi, by rw [hn i (hO i hi), hn j (hX j hj)]; exact h5,
        by rw [hn i (hO i hi), hn j (hX j hj)]; exact h6, ?_⟩
      intro r hr hrX
      rw [ho i (hO i hi), ho r (hO r hr)]; exact h7 r hr hrX
    · intro i hi hb
      rw [hn i (hO i hi)] at hb
      obtain ⟨j, hj, h5, h6, h7⟩ := sX.cover i hi hb
      exact ⟨j, hj, by rw [hn i (hO i hi), hn j (hX j hj)]; exact h5,
        by rw [hn i (hO i hi), hn j (hX j hj)]; exact h6, h7⟩
    · intro r hr hrX i hi hlt
      rw [ho r (hO r hr), ho i (hO i hi)] at hlt
      exact sX.suffix r hr hrX i hi hlt
  exact ⟨h1, L, Hc, hL.append_heap ext, hH.append_heap ext, side false L (fun j hj => hL.lt_length j hj) sL,
    side true Hc (fun j hj => hH.lt_length j hj) sH⟩

/-- the ghost after the split of cell `j`: the fresh copies are copies, the split is recorded -/
def buildG (G : Ghost) (j : Nat) (lo hg : Option Nat) (a b : Nat) : Ghost :=
  { G.setMid j (some (lo, hg, (a, b))) with cr := addRange G.cr a b }

theorem buildG_self (G : Ghost) (j : Nat) (lo hg : Option Nat) (a b : Nat) :
    (buildG G j lo hg a b).mid j = some (lo, hg, (a, b)) := setMid_self G j _

theorem buildG_ne (G : Ghost) {j i : Nat} (lo hg : Option Nat) (a b : Nat) (h : i ≠ j) :
    (buildG G j lo hg a b).mid i = G.mid i := setMid_ne G _ h

theorem lock_effect {s s' : State} {G : Ghost} (H : HInv s G) {i : Nat} {x : Option Nat}
    (hh : s'.heap = s.heap.modify i (fun m => { m with lock := x }))
    (ht : s'.tabs = s.tabs) (hc : s'.cur = s.cur) (hr : s'.resizing = s.resizing) :
    HInv s' G ∧ HeapStep s s' G G ∧ (∀ id, chId s' id = chId s id) ∧ (∀ k, absOf s' k = absOf s k) ∧
    (∀ j, (nodeAt s'.heap j).key = (nodeAt s.heap j).key ∧ (nodeAt s'.heap j).val = (nodeAt s.heap j).val ∧
      (nodeAt s'.heap j).next = (nodeAt s.heap j).next) := by
  have hnode : ∀ j, (nodeAt s'.heap j).key = (nodeAt s.heap j).key ∧
      (nodeAt s'.heap j).val = (nodeAt s.heap j).val ∧ (nodeAt s'.heap j).next = (nodeAt s.heap j).next := by
    intro j; rw [hh, nodeAt_modify]; split <;> exact ⟨rfl, rfl, rfl⟩
  have hlen : s'.heap.length = s.heap.length := by rw [hh, List.length_modify]
  have hok' : NextOK G.cr s'.heap := by rw [hh]; exact nextOK_modify_same H.nextOK (fun _ => rfl)
  have hcA : ∀ g j, cellAt s' g j = cellAt s g j := fun g j => by rw [cellAt_eq, cellAt_eq, ht]
  have hcell : ∀ id, getCell s' id = getCell s id := getCell_congr ht
  have hch : ∀ id, chId s' id = chId s id := by
    intro id
    refine chainH_eq hok' ?_
    rw [hcell id, hh]
    exact (H.isChain id).modify (fun _ _ => rfl)
  have hkd : ∀ C, KeysDistinct s.heap C → KeysDistinct s'.heap C :=
    fun C hd => hd.congr (fun j _ => (hnode j).1)
  have hlc : ∀ k, LC s' k = LC s k := LC_of_chId H ht hc hch
  -- the lists of a split that is under way
  have hmidch : ∀ j lo hg fr, G.mid j = some (lo, hg, fr) →
      chainH s'.heap (cellOfHead lo) = chainH s.heap (cellOfHead lo) ∧
      chainH s'.heap (cellOfHead hg) = chainH s.heap (cellOfHead hg) := by
    intro j lo hg fr hm
    obtain ⟨hLc, hHc, -, -⟩ := H.mid_facts hm
    refine ⟨chainH_eq hok' ?_, chainH_eq hok' ?_⟩
    · rw [cellHead_cellOfHead, hh]; exact hLc.modify (fun _ _ => rfl)
    · rw [cellHead_cellOfHead, hh]; exact hHc.modify (fun _ _ => rfl)
  have H' : HInv s' G := by
    refine ⟨H.shape.congr ht hc hr, hok', by rw [hlen]; exact H.crLt, by rw [hlen]; exact H.frOK, ?_, ?_, ?_, ?_, ?_⟩
    · intro id h hn; rw [hcell] at hn; rw [hlen]; exact H.head id h hn
    · intro id; rw [hch]; exact hkd _ (H.keys id)
    · intro id i hi; rw [hch] at hi; rw [(hnode i).1]; exact H.side id i hi
    · intro j'; rw [hcA, hcA, hc]; exact H.nextEmpty j'
    · intro j lo hg fr hm
      obtain ⟨h1, h2, h3, h4, hlt, L, Hc, hLc, hHc, sL, sH⟩ := H.mid j lo hg _ hm
      rw [hcA, hcA, hcA, hc, hch]
      refine ⟨h1, h2, h3, h4, hlt, L, Hc, ?_, ?_, ?_, ?_⟩
      · rw [hh]; exact hLc.modify (fun _ _ => rfl)
      · rw [hh]; exact hHc.modify (fun _ _ => rfl)
      · exact sL.congr_heap (fun j => (hnode j).1) (fun j => (hnode j).2.1)
      · exact sH.congr_heap (fun j => (hnode j).1) (fun j => (hnode j).2.1)
  refine ⟨H', ?_, hch, ?_, hnode⟩
  · refine HeapStep.of_quiet (by rw [hlen]; exact Nat.le_refl _) (fun j _ => hnode j) (fun _ _ => rfl)
      (fun id h => by rw [hcell]; exact h) ?_ hlc (fun id c h => by rw [hch]; exact h)
    intro j _ hnl hl
    apply hnl
    rcases hl with ⟨id, hl⟩ | ⟨j0, lo, hg, fr, hm, hl⟩
    · rw [hch] at hl; exact Or.inl ⟨id, hl⟩
    · obtain ⟨e1, e2⟩ := hmidch j0 lo hg fr hm
      rw [e1, e2] at hl
      exact Or.inr ⟨j0, lo, hg, fr, hm, hl⟩
  · intro k
    rw [absOf_eq, absOf_eq, hlc k]
    exact absIn_same (fun j _ => (hnode j).1) (fun j _ => (hnode j).2.1) k

theorem build_effect {s s' : State} {G : Ghost} (H : HInv s G) {j h : Nat} (hmid : G.mid j = none)
    (hj : j < 2 ^ s.cur) (hc0 : cellAt s s.cur j = .node h)
    (hh : s'.heap = (splitBinB (bitAt s.cur) s.heap (chainFrom s.heap s.heap.length (some h))).1)
    (ht : s'.tabs = s.tabs) (hc : s'.cur = s.cur) (hr : s'.resizing = s.resizing) :
    HInv s' (buildG G j (splitBinB (bitAt s.cur) s.heap (chainFrom s.heap s.heap.length (some h))).2.1
                (splitBinB (bitAt s.cur) s.heap (chainFrom s.heap s.heap.length (some h))).2.2
                s.heap.length s'.heap.length) ∧
    HeapStep s s' G (buildG G j (splitBinB (bitAt s.cur) s.heap (chainFrom s.heap s.heap.length (some h))).2.1
                (splitBinB (bitAt s.cur) s.heap (chainFrom s.heap s.heap.length (some h))).2.2
                s.heap.length s'.heap.length) ∧
    (∀ k, absOf s' k = absOf s k) := by
  have hOeq : chainFrom s.heap s.heap.length (some h) = chId s (s.cur, j) := by
    unfold chId chainH getCell; rw [hc0]; rfl
  have hO : IsChain s.heap (some h) (chId s (s.cur, j)) := by
    have := H.isChain (s.cur, j)
    rw [getCell_mk, hc0] at this
    exact this
  rw [hOeq] at hh ⊢
  obtain ⟨ext, hext, hok', hsplit⟩ := splitBinB_spec (bit := bitAt s.cur) H.nextOK hO (H.keys _)
  rw [← hh] at hext hok' hsplit
  generalize (splitBinB (bitAt s.cur) s.heap (chId s (s.cur, j))).2.1 = lo at hsplit ⊢
  generalize (splitBinB (bitAt s.cur) s.heap (chId s (s.cur, j))).2.2 = hg at hsplit ⊢
  have hlen : s.heap.length ≤ s'.heap.length := by rw [hext, List.length_append]; omega
  have hnode : ∀ i, i < s.heap.length → nodeAt s'.heap i = nodeAt s.heap i := by
    intro i hi; rw [hext, nodeAt_append_left _ hi]
  have hcA : ∀ g i, cellAt s' g i = cellAt s g i := fun g i => by rw [cellAt_eq, cellAt_eq, ht]
  have hcell : ∀ id, getCell s' id = getCell s id := getCell_congr ht
  have hch : ∀ id, chId s' id = chId s id := by
    intro id
    refine chainH_eq hok' ?_
    rw [hcell id, hext]
    exact (H.isChain id).append_heap ext
  have hlc : ∀ k, LC s' k = LC s k := LC_of_chId H ht hc hch
  have hnm : cellAt s s.cur j ≠ .moved := by rw [hc0]; simp
  have hjm : j % 2 ^ s.cur = j := Nat.mod_eq_of_lt hj
  have hnmid : ¬ IsMid G j := not_isMid_of_none hmid
  have hmidG : ∀ x, ¬ IsMid (buildG G j lo hg s.heap.length s'.heap.length) x → ¬ IsMid G x := by
    intro x hx hx'
    apply hx
    by_cases e : x = j
    · subst e; exact isMid_of (buildG_self _ _ _ _ _ _)
    · unfold IsMid; rw [buildG_ne _ _ _ _ _ e]; exact hx'
  -- the lists of the other splits that are under way
  have hothers : ∀ j0 lo0 hg0 fr0, G.mid j0 = some (lo0, hg0, fr0) →
      chainH s'.heap (cellOfHead lo0) = chainH s.heap (cellOfHead lo0) ∧
      chainH s'.heap (cellOfHead hg0) = chainH s.heap (cellOfHead hg0) := by
    intro j0 lo0 hg0 fr0 hm
    obtain ⟨hL0, hH0, -, -⟩ := H.mid_facts hm
    refine ⟨chainH_eq hok' ?_, chainH_eq hok' ?_⟩
    · rw [cellHead_cellOfHead, hext]; exact hL0.append_heap ext
    · rw [cellHead_cellOfHead, hext]; exact hH0.append_heap ext
  obtain ⟨hOlt, L, Hc, hLc, hHc, sL, sH⟩ := hsplit
  have eLo : chainH s'.heap (cellOfHead lo) = L := chainH_eq hok' (by rw [cellHead_cellOfHead]; exact hLc)
  have eHg : chainH s'.heap (cellOfHead hg) = Hc := chainH_eq hok' (by rw [cellHead_cellOfHead]; exact hHc)
  refine ⟨?_, ?_, ?_⟩
  · refine ⟨H.shape.congr ht hc hr, hok', ?_, ?_, ?_, ?_, ?_, ?_, ?_⟩
    · intro i hi
      rcases isCopy_addRange.1 hi with h1 | h1
      · have := H.crLt i h1; omega
      · exact h1.2
    · intro j0 lo0 hg0 fr0 hm
      by_cases e : j0 = j
      · subst e
        rw [buildG_self] at hm
        simp only [Option.some.injEq, Prod.mk.injEq] at hm
        obtain ⟨-, -, rfl⟩ := hm
        exact ⟨Nat.le_refl _, fun i hi => isCopy_addRange.2 (Or.inr hi)⟩
      · rw [buildG_ne _ _ _ _ _ e] at hm
        obtain ⟨f1, f2⟩ := H.frOK j0 lo0 hg0 fr0 hm
        exact ⟨Nat.le_trans f1 hlen, fun i hi => isCopy_addRange.2 (Or.inl (f2 i hi))⟩
    · intro id h' hn; rw [hcell] at hn; have := H.head id h' hn; omega
    · intro id; rw [hch]
      exact (H.keys id).congr (fun i hi => by rw [hnode i (H.chain_lt hi)])
    · intro id i hi; rw [hch] at hi; rw [hnode i (H.chain_lt hi)]; exact H.side id i hi
    · intro j' h1 h2
      rw [hcA, hc] at h1
      rw [hcA, hc]
      rw [hc] at h2
      exact H.nextEmpty j' h1 (hmidG _ h2)
    · intro j0 lo0 hg0 fr0 hm
      by_cases e : j0 = j
      · subst e
        rw [buildG_self] at hm
        simp only [Option.some.injEq, Prod.mk.injEq] at hm
        obtain ⟨rfl, rfl, rfl⟩ := hm
        rw [hcA, hcA, hcA, hc, hch]
        refine ⟨hj, ⟨h, hc0⟩, Or.inl ?_, Or.inl ?_, hOlt, L, Hc, hLc, hHc, sL, sH⟩
        · exact H.nextEmpty j0 (by rw [hjm]; exact hnm) (by rw [hjm]; exact hnmid)
        · exact H.nextEmpty (j0 + 2 ^ s.cur) (by rw [high_mod _ _ hj]; exact hnm) (by rw [high_mod _ _ hj]; exact hnmid)
      · rw [buildG_ne _ _ _ _ _ e] at hm
        obtain ⟨g1, g2, g3, g4, g5⟩ := H.mid j0 lo0 hg0 fr0 hm
        rw [hcA, hcA, hcA, hc, hch]
        refine ⟨g1, g2, g3, g4, ?_⟩
        rw [hext]
        exact Split.extend g5 (fun i hi => H.chain_lt hi)
  · refine HeapStep.of_quiet hlen (fun i hi => by rw [hnode i hi]; exact ⟨rfl, rfl, rfl⟩) ?_
      (fun id hm => by rw [hcell]; exact hm) ?_ hlc (fun id c hm => by rw [hch]; exact hm)
    · intro i hi
      exact ord_addRange_old hi
    · intro i hi hnl hl
      apply hnl
      rcases hl with ⟨id, hl⟩ | ⟨j0, lo0, hg0, fr0, hm, hl⟩
      · rw [hch] at hl; exact Or.inl ⟨id, hl⟩
      · by_cases e : j0 = j
        · subst e
          rw [buildG_self] at hm
          simp only [Option.some.injEq, Prod.mk.injEq] at hm
          obtain ⟨rfl, rfl, rfl⟩ := hm
          rw [eLo, eHg] at hl
          have : i ∈ chId s (s.cur, j0) ∨ isFresh (s.heap.length, s'.heap.length) i := by
            rcases hl with hl | hl
            · exact sL.mem i hl
            · exact sH.mem i hl
          rcases this with h1 | h1
          · exact Or.inl ⟨_, h1⟩
          · have := h1.1
            dsimp only at this
            omega
        · rw [buildG_ne _ _ _ _ _ e] at hm
          obtain ⟨e1, e2⟩ := hothers j0 lo0 hg0 fr0 hm
          rw [e1, e2] at hl
          exact Or.inr ⟨j0, lo0, hg0, fr0, hm, hl⟩
  · intro k
    rw [absOf_eq, absOf_eq, hlc k]
    have hl2 := H.LC_eq k
    refine absIn_same ?_ ?_ k
    · intro i hi; rw [hl2] at hi; rw [hnode i (H.chain_lt hi)]
    · intro i hi; rw [hl2] at hi; rw [hnode i (H.chain_lt hi)]

theorem storeNew_effect {s s' : State} {G : Ghost} (H : HInv s G) (S' : Shape s') {j : Nat} {lo hg : Option Nat} {fr : Nat × Nat}
    (hmid : G.mid j = some (lo, hg, fr)) (hres : s.resizing = true) {j' : Nat} {c : Cell}
    (hcase : (j' = j ∧ c = cellOfHead lo ∧ cellAt s (s.cur + 1) j = .empty) ∨
      (j' = j + 2 ^ s.cur ∧ c = cellOfHead hg ∧ cellAt s (s.cur + 1) (j + 2 ^ s.cur) = .empty))
    (hh : s'.heap = s.heap) (ht : s'.tabs = s.tabs.modify (s.cur + 1) (fun row => row.set j' c))
    (hc : s'.cur = s.cur) :
    HInv s' G ∧ HeapStep s s' G G ∧ (∀ k, absOf s' k = absOf s k) := by
  obtain ⟨hjlt, ⟨h, hc0⟩, hlow, hhigh, hOlt, L, Hc, hLc, hHc, sL, sH⟩ := H.mid j lo hg _ hmid
  have S := H.shape
  have hp2 : 0 < 2 ^ s.cur := Nat.two_pow_pos _
  have hnm : cellAt s s.cur j ≠ .moved := by rw [hc0]; simp
  -- the facts about the new list, uniformly for both sides
  obtain ⟨b, x, X, hcx, hX, sX, hj'lt, hpar, hemp, harith, hxmid⟩ :
      ∃ (b : Bool) (x : Option Nat) (X : List Nat), c = cellOfHead x ∧ IsChain s.heap x X ∧
        SideOK (bitAt s.cur) s.heap G.cr fr (chId s (s.cur, j)) b X ∧ j' < 2 ^ (s.cur + 1) ∧
        j' % 2 ^ s.cur = j ∧ cellAt s (s.cur + 1) j' = .empty ∧
        (∀ k, bitAt s.cur k = b → k % 2 ^ s.cur = j → k % 2 ^ (s.cur + 1) = j') ∧ (x = lo ∨ x = hg) := by
    rcases hcase with ⟨rfl, rfl, he⟩ | ⟨rfl, rfl, he⟩
    · refine ⟨false, lo, L, rfl, hLc, sL, by rw [Nat.pow_succ]; omega, Nat.mod_eq_of_lt hjlt, he, ?_, Or.inl rfl⟩
      intro k hb hk
      rw [mod_succ_bit, hb, hk]; simp
    · refine ⟨true, hg, Hc, rfl, hHc, sH, by rw [Nat.pow_succ]; omega, high_mod _ _ hjlt, he, ?_, Or.inr rfl⟩
      intro k hb hk
      rw [mod_succ_bit, hb, hk]; simp
  subst hcx
  have hcs : cellAt s' (s.cur + 1) j' = cellOfHead x := cellAt_put_self S ht (S.next_lt hres) hj'lt
  have hcn : ∀ g i, ¬ (g = s.cur + 1 ∧ i = j') → cellAt s' g i = cellAt s g i := fun g i h => cellAt_put_ne ht h
  have hccur : ∀ i, cellAt s' s.cur i = cellAt s s.cur i := fun i => hcn _ _ (mt And.left (Nat.succ_ne_self _).symm)
  have hgn : ∀ id, id ≠ (s.cur + 1, j') → getCell s' id = getCell s id := fun id h => getCell_put_ne ht h
  have hchn : ∀ id, id ≠ (s.cur + 1, j') → chId s' id = chId s id := by
    intro id h; unfold chId; rw [hh, hgn id h]
  have hchs : chId s' (s.cur + 1, j') = X := by
    refine chainH_eq (ρ := ord G.cr) (by rw [hh]; exact H.nextOK) ?_
    rw [getCell_mk, hcs, cellHead_cellOfHead, hh]; exact hX
  have hchold : chId s (s.cur + 1, j') = [] := chId_of_empty hemp
  have hXlive : ∀ i ∈ X, Live s G i := by
    intro i hi
    refine Or.inr ⟨j, lo, hg, fr, hmid, ?_⟩
    have eX : chainH s.heap (cellOfHead x) = X := chainH_eq H.nextOK (by rw [cellHead_cellOfHead]; exact hX)
    rcases hxmid with rfl | rfl
    · left; rw [eX]; exact hi
    · right; rw [eX]; exact hi
  have H' : HInv s' G := by
    refine ⟨S', by rw [hh]; exact H.nextOK, by rw [hh]; exact H.crLt, by rw [hh]; exact H.frOK, ?_, ?_, ?_, ?_, ?_⟩
    · intro id h' hn
      rw [hh]
      by_cases hid : id = (s.cur + 1, j')
      · subst hid
        rw [getCell_mk, hcs] at hn
        have : x = some h' := by
          cases x with
          | none => cases hn
          | some y => cases hn; rfl
        subst this
        cases hX with
        | cons hn' _ => exact (List.getElem?_eq_some_iff.1 hn').1
      · rw [hgn id hid] at hn; exact H.head id h' hn
    · intro id
      rw [hh]
      by_cases hid : id = (s.cur + 1, j')
      · subst hid; rw [hchs]; exact sX.keys
      · rw [hchn id hid]; exact H.keys id
    · intro id i hi
      rw [hh]
      by_cases hid : id = (s.cur + 1, j')
      · subst hid
        rw [hchs] at hi
        have hkj : (nodeAt s.heap i).key % 2 ^ s.cur = j := by
          rcases sX.mem i hi with h1 | h1
          · exact H.side (s.cur, j) i h1
          · obtain ⟨i0, hi0, hk0, -, -⟩ := sX.src i hi h1
            rw [← hk0]
            exact H.side (s.cur, j) i0 hi0
        exact harith _ (sX.side i hi) hkj
      · rw [hchn id hid] at hi; exact H.side id i hi
    · intro j'' h1 h2
      rw [hc] at h1 h2 ⊢
      rw [hccur] at h1
      have he := H.nextEmpty j'' h1 h2
      by_cases hjj : j'' = j'
      · subst hjj
        rw [hpar] at h2
        exact absurd (isMid_of hmid) h2
      · rw [hcn _ _ (fun h => hjj h.2)]; exact he
    · intro j0 lo0 hg0 fr0 hm
      by_cases ej : j0 = j
      · subst ej
        rw [hmid] at hm
        simp only [Option.some.injEq, Prod.mk.injEq] at hm
        obtain ⟨rfl, rfl, rfl⟩ := hm
        rw [hc, hccur, hh, hchn _ (by intro e; injection e with e1 e2; omega)]
        refine ⟨hjlt, ⟨h, hc0⟩, ?_, ?_, hOlt, L, Hc, hLc, hHc, sL, sH⟩
        · rcases hcase with ⟨rfl, hcl, -⟩ | ⟨rfl, -, -⟩
          · right; rw [hcs]; exact hcl
          · rw [hcn _ _ (fun h => by omega)]; exact hlow
        · rcases hcase with ⟨rfl, -, -⟩ | ⟨rfl, hcl, -⟩
          · rw [hcn _ _ (fun h => by omega)]; exact hhigh
          · right; rw [hcs]; exact hcl
      · -- the split of another cell: its cells and lists are untouched
        obtain ⟨g1, g2, g3, g4, g5⟩ := H.mid j0 lo0 hg0 fr0 hm
        have hj'1 : j' ≠ j0 := by
          intro e; rw [e, Nat.mod_eq_of_lt g1] at hpar; exact ej hpar
        have hj'2 : j' ≠ j0 + 2 ^ s.cur := by
          intro e; rw [e, high_mod _ _ g1] at hpar; exact ej hpar
        rw [hc, hccur, hh, hchn _ (by intro e; injection e with e1 e2; omega),
          hcn _ _ (fun h => hj'1 h.2.symm), hcn _ _ (fun h => hj'2 h.2.symm)]
        exact ⟨g1, g2, g3, g4, g5⟩
  have hlid : ∀ k, liveId s' k = liveId s k := fun k => liveId_congr_cur hc (hccur _)
  have hlne : ∀ k, liveId s k ≠ (s.cur + 1, j') := by
    intro k he
    by_cases hm : cellAt s s.cur (k % 2 ^ s.cur) = .moved
    · rw [liveId_next hm] at he
      injection he with _ e2
      have : k % 2 ^ s.cur = j := by rw [← mod_succ_mod, e2, hpar]
      rw [this] at hm
      exact hnm hm
    · rw [liveId_cur hm] at he
      injection he with e1 _
      omega
  have hlc : ∀ k, LC s' k = LC s k := by
    intro k
    rw [H'.LC_eq, H.LC_eq, hlid, hchn _ (hlne k)]
  refine ⟨H', ?_, ?_⟩
  · refine HeapStep.of_quiet (by rw [hh]; exact Nat.le_refl _) (fun i _ => by rw [hh]; exact ⟨rfl, rfl, rfl⟩)
      (fun _ _ => rfl) ?_ ?_ hlc ?_
    · intro id hm
      have : id ≠ (s.cur + 1, j') := by
        rintro rfl
        rw [getCell_mk, hemp] at hm; cases hm
      rw [hgn id this]; exact hm
    · intro i _ hnl hl
      refine hnl (hl.of_same_heap hh fun id hl => ?_)
      by_cases hid : id = (s.cur + 1, j')
      · subst hid
        rw [hchs] at hl
        exact hXlive i hl
      · rw [hchn id hid] at hl; exact Or.inl ⟨id, hl⟩
    · intro id c' hm
      by_cases hid : id = (s.cur + 1, j')
      · subst hid; rw [hchold] at hm; cases hm
      · rw [hchn id hid]; exact hm
  · intro k
    rw [absOf_eq, absOf_eq, hlc k, hh]

theorem casMoved_effect {s s' : State} {G : Ghost} (H : HInv s G) (S' : Shape s') {j : Nat} (hmid : G.mid j = none)
    (hj : j < 2 ^ s.cur) (hc0 : cellAt s s.cur j = .empty)
    (hh : s'.heap = s.heap) (ht : s'.tabs = s.tabs.modify s.cur (fun row => row.set j .moved))
    (hc : s'.cur = s.cur) :
    HInv s' G ∧ HeapStep s s' G G ∧ (∀ k, absOf s' k = absOf s k) := by
  have S := H.shape
  have hcs : cellAt s' s.cur j = .moved := cellAt_put_self S ht S.cur_lt hj
  have hcn : ∀ g i, ¬ (g = s.cur ∧ i = j) → cellAt s' g i = cellAt s g i := fun g i h => cellAt_put_ne ht h
  have hgn : ∀ id, id ≠ (s.cur, j) → getCell s' id = getCell s id := fun id h => getCell_put_ne ht h
  have hch : ∀ id, chId s' id = chId s id := by
    intro id
    by_cases hid : id = (s.cur, j)
    · subst hid
      rw [chId_of_moved (by rw [getCell_mk]; exact hcs), chId_of_empty (by rw [getCell_mk]; exact hc0)]
    · unfold chId; rw [hh, hgn id hid]
  have hnm : cellAt s s.cur j ≠ .moved := by rw [hc0]; simp
  have H' : HInv s' G := by
    refine ⟨S', by rw [hh]; exact H.nextOK, by rw [hh]; exact H.crLt, by rw [hh]; exact H.frOK, ?_, ?_, ?_, ?_, ?_⟩
    · intro id h' hn
      rw [hh]
      by_cases hid : id = (s.cur, j)
      · subst hid; rw [getCell_mk, hcs] at hn; cases hn
      · rw [hgn id hid] at hn; exact H.head id h' hn
    · intro id; rw [hch, hh]; exact H.keys id
    · intro id; rw [hch, hh]; exact H.side id
    · intro j'' h1 h2
      rw [hc] at h1 h2 ⊢
      have hne : j'' % 2 ^ s.cur ≠ j := by
        intro e; rw [e] at h1; exact h1 hcs
      rw [hcn _ _ (fun h => hne h.2)] at h1
      rw [hcn _ _ (mt And.left (Nat.succ_ne_self _))]
      exact H.nextEmpty j'' h1 h2
    · intro j0 lo0 hg0 fr0 hm
      have ej : j0 ≠ j := by intro e; rw [e, hmid] at hm; cases hm
      obtain ⟨g1, g2, g3, g4, g5⟩ := H.mid j0 lo0 hg0 fr0 hm
      rw [hc, hcn _ _ (fun h => ej h.2), hcn _ _ (mt And.left (Nat.succ_ne_self _)), hcn _ _ (mt And.left (Nat.succ_ne_self _)), hh, hch]
      exact ⟨g1, g2, g3, g4, g5⟩
  have hlc : ∀ k, LC s' k = LC s k := by
    intro k
    rw [H'.LC_eq, H.LC_eq, hch]
    by_cases hk : k % 2 ^ s.cur = j
    · have h1 : liveId s' k = (s.cur + 1, k % 2 ^ (s.cur + 1)) := by
        have := liveId_next (s := s') (k := k) (by rw [hc, hk]; exact hcs)
        rw [hc] at this; exact this
      have h2 : liveId s k = (s.cur, j) := by rw [liveId_cur (by rw [hk]; exact hnm), hk]
      rw [h1, h2, chId_of_empty (id := (s.cur, j)) (by rw [getCell_mk]; exact hc0)]
      refine chId_of_empty ?_
      rw [getCell_mk]
      refine H.nextEmpty _ ?_ ?_
      · rw [mod_succ_mod, hk]; exact hnm
      · rw [mod_succ_mod, hk]; exact not_isMid_of_none hmid
    · rw [liveId_congr_cur hc (hcn _ _ (fun h => hk h.2))]
  refine ⟨H', ?_, ?_⟩
  · refine HeapStep.of_quiet (by rw [hh]; exact Nat.le_refl _) (fun i _ => by rw [hh]; exact ⟨rfl, rfl, rfl⟩)
      (fun _ _ => rfl) ?_ ?_ hlc (fun id c' hm => by rw [hch]; exact hm)
    · intro id hm
      by_cases hid : id = (s.cur, j)
      · subst hid; exact hcs
      · rw [hgn id hid]; exact hm
    · intro i _ hnl hl
      exact hnl (hl.of_same_heap hh fun id hl => Or.inl ⟨id, hch id ▸ hl⟩)
  · intro k
    rw [absOf_eq, absOf_eq, hlc k, hh]

/-- in the state before the store of `moved`, the new chains are the split lists -/
theorem mid_chains {s : State} {G : Ghost} (H : HInv s G) {j : Nat} {lo hg : Option Nat} {fr : Nat × Nat}
    (hmid : G.mid j = some (lo, hg, fr))
    (hlow : cellAt s (s.cur + 1) j = cellOfHead lo) (hhigh : cellAt s (s.cur + 1) (j + 2 ^ s.cur) = cellOfHead hg) :
    (∀ i ∈ chId s (s.cur, j), i < fr.1) ∧
    SideOK (bitAt s.cur) s.heap G.cr fr (chId s (s.cur, j)) false (chId s (s.cur + 1, j)) ∧
    SideOK (bitAt s.cur) s.heap G.cr fr (chId s (s.cur, j)) true (chId s (s.cur + 1, j + 2 ^ s.cur)) := by
  obtain ⟨-, -, -, -, hlt, L, Hc, hLc, hHc, sL, sH⟩ := H.mid j lo hg _ hmid
  have eL : chId s (s.cur + 1, j) = L := by
    refine H.chId_eq ?_
    rw [getCell_mk, hlow, cellHead_cellOfHead]; exact hLc
  have eH : chId s (s.cur + 1, j + 2 ^ s.cur) = Hc := by
    refine H.chId_eq ?_
    rw [getCell_mk, hhigh, cellHead_cellOfHead]; exact hHc
  rw [eL, eH]
  exact ⟨hlt, sL, sH⟩

theorem moved_effect {s s' : State} {G : Ghost} (H : HInv s G) (S' : Shape s') {j : Nat} {lo hg : Option Nat} {fr : Nat × Nat}
    (hmid : G.mid j = some (lo, hg, fr))
    (hlow : cellAt s (s.cur + 1) j = cellOfHead lo) (hhigh : cellAt s (s.cur + 1) (j + 2 ^ s.cur) = cellOfHead hg)
    (hh : s'.heap = s.heap) (ht : s'.tabs = s.tabs.modify s.cur (fun row => row.set j .moved))
    (hc : s'.cur = s.cur) :
    HInv s' (G.setMid j none) ∧ (∀ k, absOf s' k = absOf s k) := by
  obtain ⟨hlt, sL, sH⟩ := mid_chains H hmid hlow hhigh
  obtain ⟨hj, ⟨h, hc0⟩, -⟩ := H.mid j lo hg _ hmid
  have S := H.shape
  have hnm : cellAt s s.cur j ≠ .moved := by rw [hc0]; simp
  have hcs : cellAt s' s.cur j = .moved := cellAt_put_self S ht S.cur_lt hj
  have hcn : ∀ g i, ¬ (g = s.cur ∧ i = j) → cellAt s' g i = cellAt s g i := fun g i h => cellAt_put_ne ht h
  have hgn : ∀ id, id ≠ (s.cur, j) → getCell s' id = getCell s id := fun id h => getCell_put_ne ht h
  have hchn : ∀ id, id ≠ (s.cur, j) → chId s' id = chId s id := by
    intro id h; unfold chId; rw [hh, hgn id h]
  have hchs : chId s' (s.cur, j) = [] := chId_of_moved (by rw [getCell_mk]; exact hcs)
  have hold : ∀ j0 x, (G.setMid j none).mid j0 = some x → j0 ≠ j ∧ G.mid j0 = some x := fun _ _ => setMid_none_some
  have H' : HInv s' (G.setMid j none) := by
    refine ⟨S', by rw [hh]; exact H.nextOK, by rw [hh]; exact H.crLt,
      fun j0 lo0 hg0 fr0 hm => by rw [hh]; exact H.frOK j0 lo0 hg0 fr0 (hold _ _ hm).2, ?_, ?_, ?_, ?_, ?_⟩
    · intro id h' hn
      rw [hh]
      by_cases hid : id = (s.cur, j)
      · subst hid; rw [getCell_mk, hcs] at hn; cases hn
      · rw [hgn id hid] at hn; exact H.head id h' hn
    · intro id
      by_cases hid : id = (s.cur, j)
      · subst hid; rw [hchs]; intro a ha; cases ha
      · rw [hchn id hid, hh]; exact H.keys id
    · intro id
      by_cases hid : id = (s.cur, j)
      · subst hid; rw [hchs]; intro a ha; cases ha
      · rw [hchn id hid, hh]; exact H.side id
    · intro j'' h1 h2
      rw [hc] at h1 h2 ⊢
      have hne : j'' % 2 ^ s.cur ≠ j := by
        intro e; rw [e] at h1; exact h1 hcs
      rw [hcn _ _ (fun h => hne h.2)] at h1
      rw [hcn _ _ (mt And.left (Nat.succ_ne_self _))]
      refine H.nextEmpty j'' h1 ?_
      intro hm
      apply h2
      unfold IsMid at hm ⊢
      rw [setMid_ne _ _ hne]; exact hm
    · intro j0 lo0 hg0 fr0 hm
      obtain ⟨ej, hm⟩ := hold _ _ hm
      obtain ⟨g1, g2, g3, g4, g5⟩ := H.mid j0 lo0 hg0 fr0 hm
      rw [hc, hcn _ _ (fun h => ej h.2), hcn _ _ (mt And.left (Nat.succ_ne_self _)), hcn _ _ (mt And.left (Nat.succ_ne_self _)), hh,
        hchn _ (by intro e; injection e with e1 e2; exact ej e2)]
      exact ⟨g1, g2, g3, g4, g5⟩
  refine ⟨H', ?_⟩
  intro k
  rw [absOf_eq, absOf_eq, H'.LC_eq, H.LC_eq, hh]
  by_cases hk : k % 2 ^ s.cur = j
  · have h1 : liveId s' k = (s.cur + 1, k % 2 ^ (s.cur + 1)) := by
      have := liveId_next (s := s') (k := k) (by rw [hc, hk]; exact hcs)
      rw [hc] at this; exact this
    have h2 : liveId s k = (s.cur, j) := by rw [liveId_cur (by rw [hk]; exact hnm), hk]
    rw [h1, h2, hchn _ (by intro e; injection e with e1 e2; omega), mod_succ_bit, hk]
    cases hb : bitAt s.cur k
    · simp only [Bool.false_eq_true, if_false, Nat.add_zero]
      exact sideOK_abs (H.keys _) sL hb
    · simp only [if_true]
      exact sideOK_abs (H.keys _) sH hb
  · have hl : liveId s' k = liveId s k := liveId_congr_cur hc (hcn _ _ (fun h => hk h.2))
    have hne : liveId s k ≠ (s.cur, j) := by
      intro he
      by_cases hm : cellAt s s.cur (k % 2 ^ s.cur) = .moved
      · rw [liveId_next hm] at he
        injection he with e1 _
        omega
      · rw [liveId_cur hm] at he
        injection he with _ e2
        exact hk e2
    rw [hl, hchn _ hne]

/-- after the forwarding only the nodes of the other chains, and of the other splits, are live -/
theorem live_of_moved' {s s' : State} {G : Ghost} (S : Shape s) {j : Nat} (hj : j < 2 ^ s.cur)
    (hh : s'.heap = s.heap) (ht : s'.tabs = s.tabs.modify s.cur (fun row => row.set j .moved)) {i : Nat}
    (hl : Live s' (G.setMid j none) i) : (∃ id, id ≠ (s.cur, j) ∧ i ∈ chId s id) ∨
      ∃ j0 lo hg fr, j0 ≠ j ∧ G.mid j0 = some (lo, hg, fr) ∧
        (i ∈ chainH s.heap (cellOfHead lo) ∨ i ∈ chainH s.heap (cellOfHead hg)) := by
  have hcs : cellAt s' s.cur j = .moved := cellAt_put_self S ht S.cur_lt hj
  rcases hl with ⟨id, hl⟩ | ⟨j0, lo, hg, fr, hm, hl⟩
  · by_cases hid : id = (s.cur, j)
    · subst hid
      rw [chId_of_moved (by rw [getCell_mk]; exact hcs)] at hl
      cases hl
    · refine Or.inl ⟨id, hid, ?_⟩
      unfold chId at hl ⊢
      rw [hh, getCell_put_ne ht hid] at hl
      exact hl
  · by_cases e : j0 = j
    · subst e; rw [setMid_self] at hm; cases hm
    · rw [setMid_ne _ _ e] at hm
      rw [hh] at hl
      exact Or.inr ⟨j0, lo, hg, fr, e, hm, hl⟩

theorem live_of_moved {s s' : State} {G : Ghost} (S : Shape s) {j : Nat} (hj : j < 2 ^ s.cur)
    (hh : s'.heap = s.heap) (ht : s'.tabs = s.tabs.modify s.cur (fun row => row.set j .moved)) {i : Nat}
    (hl : Live s' (G.setMid j none) i) : Live s G i := by
  rcases live_of_moved' S hj hh ht hl with ⟨id, -, h⟩ | ⟨j0, lo, hg, fr, -, hm, h⟩
  · exact Or.inl ⟨id, h⟩
  · exact Or.inr ⟨j0, lo, hg, fr, hm, h⟩

theorem alloc_effect {s s' : State} {G : Ghost} (H : HInv s G) (S' : Shape s') (hmid : ∀ j, G.mid j = none)
    (hh : s'.heap = s.heap) (ht : s'.tabs = s.tabs ++ [List.replicate (2 ^ (s.cur + 1)) .empty])
    (hc : s'.cur = s.cur) :
    HInv s' G ∧ HeapStep s s' G G ∧ (∀ k, absOf s' k = absOf s k) := by
  have hcA : ∀ g i, cellAt s' g i = cellAt s g i := fun g i => by
    rw [cellAt_eq, cellAt_eq, ht]; exact cellT_alloc _ _ _ _
  have hcell : ∀ id, getCell s' id = getCell s id := fun id => hcA _ _
  have hch : ∀ id, chId s' id = chId s id := by
    intro id; unfold chId; rw [hh, hcell]
  have H' : HInv s' G := by
    refine ⟨S', by rw [hh]; exact H.nextOK, by rw [hh]; exact H.crLt, by rw [hh]; exact H.frOK, ?_, ?_, ?_, ?_, ?_⟩
    · intro id h' hn; rw [hcell] at hn; rw [hh]; exact H.head id h' hn
    · intro id; rw [hch, hh]; exact H.keys id
    · intro id; rw [hch, hh]; exact H.side id
    · intro j'; rw [hcA, hcA, hc]; exact H.nextEmpty j'
    · intro j0 lo0 hg0 fr hm; rw [hmid j0] at hm; cases hm
  have hlc : ∀ k, LC s' k = LC s k := by
    intro k
    rw [H'.LC_eq, H.LC_eq, hch, liveId_congr_cur hc (hcA _ _)]
  refine ⟨H', ?_, ?_⟩
  · refine HeapStep.of_quiet (by rw [hh]; exact Nat.le_refl _) (fun i _ => by rw [hh]; exact ⟨rfl, rfl, rfl⟩)
      (fun _ _ => rfl) (fun id hm => by rw [hcell]; exact hm) ?_ hlc (fun id c' hm => by rw [hch]; exact hm)
    intro i _ hnl hl
    exact hnl (hl.of_same_heap hh fun id hl => Or.inl ⟨id, hch id ▸ hl⟩)
  · intro k
    rw [absOf_eq, absOf_eq, hlc k, hh]

theorem commit_effect {s s' : State} {G : Ghost} (H : HInv s G) (S' : Shape s') (hmid : ∀ j, G.mid j = none)
    (hall : ∀ j, j < 2 ^ s.cur → cellAt s s.cur j = .moved)
    (hh : s'.heap = s.heap) (ht : s'.tabs = s.tabs) (hc : s'.cur = s.cur + 1) :
    HInv s' G ∧ HeapStep s s' G G ∧ (∀ k, absOf s' k = absOf s k) := by
  have S := H.shape
  have hcA : ∀ g i, cellAt s' g i = cellAt s g i := fun g i => by rw [cellAt_eq, cellAt_eq, ht]
  have hcell : ∀ id, getCell s' id = getCell s id := getCell_congr ht
  have hch : ∀ id, chId s' id = chId s id := chId_congr hh ht
  have H' : HInv s' G := by
    refine ⟨S', by rw [hh]; exact H.nextOK, by rw [hh]; exact H.crLt, by rw [hh]; exact H.frOK, ?_, ?_, ?_, ?_, ?_⟩
    · intro id h' hn; rw [hcell] at hn; rw [hh]; exact H.head id h' hn
    · intro id; rw [hch, hh]; exact H.keys id
    · intro id; rw [hch, hh]; exact H.side id
    · intro j' _ _
      rw [hcA, hc]
      exact S.cell_of_gen_gt (by omega)
    · intro j0 lo0 hg0 fr hm; rw [hmid j0] at hm; cases hm
  have hlid : ∀ k, liveId s' k = liveId s k := by
    intro k
    have h1 : liveId s' k = (s'.cur, k % 2 ^ s'.cur) := by
      refine liveId_cur ?_
      rw [hcA, hc]; exact S.nextNM _
    rw [h1, hc, liveId_next (hall _ (mod_lt_pow _ _))]
  have hlc : ∀ k, LC s' k = LC s k := by
    intro k
    rw [H'.LC_eq, H.LC_eq, hch, hlid]
  refine ⟨H', ?_, ?_⟩
  · refine HeapStep.of_quiet (by rw [hh]; exact Nat.le_refl _) (fun i _ => by rw [hh]; exact ⟨rfl, rfl, rfl⟩)
      (fun _ _ => rfl) (fun id hm => by rw [hcell]; exact hm) ?_ hlc (fun id c' hm => by rw [hch]; exact hm)
    intro i _ hnl hl
    exact hnl (hl.of_same_heap hh fun id hl => Or.inl ⟨id, hch id ▸ hl⟩)
  · intro k
    rw [absOf_eq, absOf_eq, hlc k, hh]

end Flurry.Proto.BinNHM
