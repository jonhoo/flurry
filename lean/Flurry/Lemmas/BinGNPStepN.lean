import Flurry.Lemmas.BinGNPStep
/-! # Proto/BinGN: `step` in normal form

`step_stepN`: every transition of `step = stepG true` is one of the transitions listed by `StepN`
(`Lemmas/BinGNPStep.lean`); `step_cases`: and it is a transition of an existing thread. `stepN_of_step` computes
the result of `stepG` program counter by program counter and names the constructor of `StepN` it is. -/
namespace Flurry.Proto.BinGNP
open Flurry.Lin
open Flurry.Proto.BinK (nodeAt binAt lockSet isInsert)

theorem setT_self {s : State} {t : Nat} {l : Local} (hl : s.threads[t]? = some l) : setT s t l = s := by
  unfold setT
  obtain ⟨ht, rfl⟩ := List.getElem?_eq_some_iff.1 hl
  rw [List.set_getElem_self]

theorem cellOf_tick (s : State) (g : Nat) (k : Nat) : cellOf (tick s) g k = cellOf s g k := rfl

/-- every transition of thread `t` that `step` allows is one of the transitions listed by `StepN` -/
theorem stepN_of_step {s : State} {t : Nat} {l : Local} (inv : Option (Nat × KOp)) (lo : Bool)
    (mt : Option Nat) (rz sm sm2 : Bool) (pick : Nat) (hl : s.threads[t]? = some l) :
    (step s t inv lo mt rz sm sm2 pick).elim True (StepN s t l) := by
  have idle : ∀ call, s.threads[t]? = some ⟨.idle, call⟩ → StepN s t ⟨.idle, call⟩ (tick s) := fun call hl => by
    rw [← setT_self (s := tick s) hl]; exact .idle rfl
  have chk : ∀ {c d : Cell}, (!true || c == d) = true ↔ c = d := by simp
  unfold step stepG
  rw [hl]
  obtain ⟨pc, call⟩ := l
  -- the goal keeps the `let`s of `stepG`: the cases of `cases pc` share them; a branch that returns `some X` reduces by
  -- computation, a branch that is stuck at a `match` or `if` is exposed by `show` and split
  cases pc with
  | idle =>
    show (if _ then _ else _ : Option State).elim True _
    split
    · split
      · exact idle call hl
      · rename_i hr; exact StepN.resizeStart rfl (Bool.eq_false_iff.2 hr)
    · split
      · exact StepN.maint _ rfl
      · split
        · exact idle call hl
        · exact StepN.invoke _ _ lo rfl
  | rTable lo' =>
    cases call with
    | none => exact True.intro
    | some p => exact StepN.move p _ _ rfl .rTable
  | rCell lo' g =>
    cases call with
    | none => exact True.intro
    | some p =>
      show (match (_ : Cell) with | .empty => _ | .moved => _ | .list h => _ | .tree b => _ : Option State).elim True _
      split
      · rename_i hc; exact StepN.fin p _ _ rfl (.rCellEmpty hc)
      · rename_i hc; exact StepN.move p _ _ rfl (.rCellMoved hc)
      · rename_i hc; exact StepN.move p _ _ rfl (.rCellList hc)
      · rename_i hc; exact StepN.move p _ _ rfl (.rCellTree hc)
  | rNode cur' =>
    cases call with
    | none => cases cur' <;> exact True.intro
    | some p =>
      cases cur' with
      | none => exact StepN.fin p _ _ rfl .rNodeMiss
      | some c =>
        show (match (_ : Option NodeS) with | none => _ | some n => _ : Option State).elim True _
        split
        · exact True.intro
        · rename_i n hn
          split
          · rename_i hk; exact StepN.fin p _ _ rfl (.rNodeHit hn (beq_iff_eq.1 hk))
          · rename_i hk; exact StepN.move p _ _ rfl (.rNodeNext hn (fun e => hk (beq_iff_eq.2 e)))
  | rFirst b =>
    cases call with
    | none => exact True.intro
    | some p => exact StepN.move p _ _ rfl .rFirst
  | rState b cur' =>
    cases call with
    | none => cases cur' <;> exact True.intro
    | some p =>
      cases cur' with
      | none => exact StepN.fin p _ _ rfl .rMiss
      | some c =>
        show (if _ then _ else _ : Option State).elim True _
        split
        · rename_i hb; exact StepN.move p _ _ rfl (.rLinMode hb)
        · rename_i hb; exact StepN.move p _ _ rfl (.rTreeMode (Bool.eq_false_iff.2 hb))
  | rLin b c =>
    cases call with
    | none => exact True.intro
    | some p =>
      show (match (_ : Option NodeS) with | none => _ | some n => _ : Option State).elim True _
      split
      · exact True.intro
      · rename_i n hn
        split
        · rename_i hk
          split
          · rename_i hop; exact StepN.fin p _ _ rfl (.rLinHas hn (beq_iff_eq.1 hk) hop)
          · rename_i hop; exact StepN.move p _ _ rfl (.rLinHit hn (beq_iff_eq.1 hk) hop)
        · rename_i hk; exact StepN.move p _ _ rfl (.rLinNext hn (fun e => hk (beq_iff_eq.2 e)))
  | rCas b c r =>
    cases call with
    | none => exact True.intro
    | some p =>
      show (if _ then _ else _ : Option State).elim True _
      split
      · rename_i hb
        simp only [Bool.and_eq_true, Bool.not_eq_eq_eq_not, Bool.not_true, beq_iff_eq] at hb
        exact .bmove p _ _ rfl (.rCasOk hb.1.1 hb.1.2 hb.2)
      · exact StepN.move p _ _ rfl .rCasFail
  | rTree b =>
    cases call with
    | none => exact True.intro
    | some p => exact StepN.move p _ _ rfl .rTree
  | rRelease b hit =>
    cases call with
    | none => exact True.intro
    | some p =>
      show (match (generalizing := false) hit, p.op with | none, _ => _ | some _, .has => _ | some i, _ => _ : Option State).elim True _
      split
      · exact StepN.bfin p _ _ rfl .rRelNone
      · rename_i hop; exact StepN.bfin p _ _ rfl (.rRelHas hop)
      · rename_i hop; exact StepN.bmove p _ _ rfl (.rRelVal hop)
  | rVal i =>
    cases call with
    | none => exact True.intro
    | some p =>
      show (match (_ : Option NodeS) with | none => _ | some n => _ : Option State).elim True _
      split
      · exact True.intro
      · rename_i n hn; exact StepN.fin p _ _ rfl (.rVal hn)
  | lFirst b =>
    cases call with
    | none => exact True.intro
    | some p => exact StepN.move p _ _ rfl .lFirst
  | lNode cur' =>
    cases call with
    | none => cases cur' <;> exact True.intro
    | some p =>
      cases cur' with
      | none => exact StepN.fin p _ _ rfl .lMiss
      | some c =>
        show (match (_ : Option NodeS) with | none => _ | some n => _ : Option State).elim True _
        split
        · exact True.intro
        · rename_i n hn
          split
          · rename_i hk
            split
            · rename_i hop; exact StepN.fin p _ _ rfl (.lHas hn (beq_iff_eq.1 hk) hop)
            · rename_i hop; exact StepN.move p _ _ rfl (.lHit hn (beq_iff_eq.1 hk) hop)
          · rename_i hk; exact StepN.move p _ _ rfl (.lNext hn (fun e => hk (beq_iff_eq.2 e)))
  | wTable =>
    cases call with
    | none => exact True.intro
    | some p => exact StepN.move p _ _ rfl .wTable
  | wCell g =>
    cases call with
    | none => exact True.intro
    | some p =>
      show (match (_ : Cell) with | .empty => _ | .moved => _ | .list h => _ | .tree b => _ : Option State).elim True _
      split
      · rename_i hc
        cases hop : p.op
        all_goals first
          | exact StepN.move p _ _ rfl (.wCellCas hc (by rw [hop]; rfl))
          | exact StepN.fin p _ _ rfl (.wCellEmpty hc (by rw [hop]; rfl))
      · rename_i hc; exact StepN.move p _ _ rfl (.wCellMoved hc)
      · rename_i hc; exact StepN.move p _ _ rfl (.wCellList hc)
      · rename_i hc; exact StepN.move p _ _ rfl (.wCellTree hc)
  | wCas g =>
    cases call with
    | none => exact True.intro
    | some p =>
      show (match (_ : Cell), p.op with | .empty, .ins v vi => _ | .empty, .tryIns v vi => _ | _, _ => _ : Option State).elim True _
      split
      · rename_i v vi hc hop; exact StepN.cas p g v vi rfl rfl hc (Or.inl hop)
      · rename_i v vi hc hop; exact StepN.cas p g v vi rfl rfl hc (Or.inr hop)
      · rename_i h1 h2
        refine StepN.move p _ _ rfl (.wCasFail ?_)
        cases hop : p.op with
        | ins v vi => exact Or.inl (fun hc => h1 v vi hc hop)
        | tryIns v vi => exact Or.inl (fun hc => h2 v vi hc hop)
        | _ => exact Or.inr rfl
  | wLock g h =>
    cases call with
    | none => exact True.intro
    | some p =>
      show (match (_ : Option NodeS) with | none => _ | some n => _ : Option State).elim True _
      split
      · exact True.intro
      · rename_i n hn
        split
        · exact True.intro
        · rename_i hf; exact StepN.move p _ _ rfl (.wLock hn (Option.not_isSome_iff_eq_none.1 hf))
  | wCheck g h =>
    cases call with
    | none => exact True.intro
    | some p =>
      show (if _ then _ else _ : Option State).elim True _
      split
      · rename_i hc; exact StepN.move p _ _ rfl (.wCheckOk (chk.1 hc))
      · rename_i hc; exact StepN.move p _ _ rfl (.wCheckFail (fun e => hc (chk.2 e)))
  | wFind g h pred cur' =>
    cases call with
    | none => cases cur' <;> exact True.intro
    | some p =>
      cases cur' with
      | none => exact StepN.move p _ _ rfl .wFindEnd
      | some c =>
        show (match (_ : Option NodeS) with | none => _ | some n => _ : Option State).elim True _
        split
        · exact True.intro
        · rename_i n hn
          split
          · rename_i hk; exact StepN.move p _ _ rfl (.wFindHit hn (beq_iff_eq.1 hk))
          · rename_i hk; exact StepN.move p _ _ rfl (.wFindNext hn (fun e => hk (beq_iff_eq.2 e)))
  | wStore g h pred hit hnext =>
    cases call with
    | none => exact True.intro
    | some p => exact StepN.store p g h pred hit hnext rfl rfl
  | wUnlock g h res retry =>
    cases call with
    | none => exact True.intro
    | some p =>
      cases retry with
      | true => exact StepN.move p _ _ rfl .wUnlockRetry
      | false => exact StepN.fin p _ _ rfl .wUnlockFin
  | tMutex g b =>
    cases call with
    | none => exact True.intro
    | some p =>
      show (if _ then _ else _ : Option State).elim True _
      split
      · exact True.intro
      · rename_i hf; exact StepN.bmove p _ _ rfl (.tMutex (Option.not_isSome_iff_eq_none.1 hf))
  | tCheck g b =>
    cases call with
    | none => exact True.intro
    | some p =>
      show (if _ then _ else _ : Option State).elim True _
      split
      · rename_i hc; exact StepN.move p _ _ rfl (.tCheckOk (chk.1 hc))
      · rename_i hc; exact StepN.move p _ _ rfl (.tCheckFail (fun e => hc (chk.2 e)))
  | tFind g b =>
    cases call with
    | none => exact True.intro
    | some p =>
      have some_ : ∀ i, treeFind s b p.key = some i → absTree s b p.key = some (nodeAt s.heap i).val :=
        fun i h => by unfold absTree; rw [h]
      have none_ : treeFind s b p.key = none → absTree s b p.key = none := fun h => by unfold absTree; rw [h]
      show (match p.op, treeFind _ b p.key with
        | .ins v vi, some i => _ | .ins _ _, none => _ | .tryIns _ _, some i => _ | .tryIns _ _, none => _
        | .rm, some i => _ | .rm, none => _ | .cipInc nvi, some i => _ | .cipInc _, none => _
        | .cipRm, some i => _ | .cipRm, none => _ | .get, _ => _ | .has, _ => _ : Option State).elim True _
      split
      · rename_i v vi i hop hf; exact StepN.move p _ _ rfl (.findVal hf (by rw [hop]; rfl))
      · rename_i v vi hop hf; exact StepN.move p _ _ rfl (.findInsert hf (by rw [hop]; rfl))
      · rename_i v vi i hop hf
        refine StepN.move p _ _ rfl (.findDone ?_)
        rw [some_ i hf, hop]
        exact (fun x : Nat × Nat => (rfl : specStep (some x) (.tryIns v vi) = (some x, .exists_ x.1 x.2))) _
      · rename_i v vi hop hf; exact StepN.move p _ _ rfl (.findInsert hf (by rw [hop]; rfl))
      · rename_i i hop hf; exact StepN.move p _ _ rfl (.findRemove hf (by rw [hop]; rfl))
      · rename_i hop hf; exact StepN.move p _ _ rfl (.findDone (by rw [none_ hf, hop]; rfl))
      · rename_i nvi i hop hf
        refine StepN.move p _ _ rfl (.findVal hf ?_)
        rw [hop]
        exact (fun x : Nat × Nat =>
          (rfl : specStep (some x) (.cipInc nvi) = (some (x.1 + 1, nvi), .some (x.1 + 1) nvi))) _
      · rename_i nvi hop hf; exact StepN.move p _ _ rfl (.findDone (by rw [none_ hf, hop]; rfl))
      · rename_i i hop hf; exact StepN.move p _ _ rfl (.findRemove hf (by rw [hop]; rfl))
      · rename_i hop hf; exact StepN.move p _ _ rfl (.findDone (by rw [none_ hf, hop]; rfl))
      · exact True.intro
      · exact True.intro
  | tVal g b i v res =>
    cases call with
    | none => exact True.intro
    | some p => exact StepN.tval p g b i v res rfl rfl
  | lrTry g b k res =>
    cases call with
    | none => exact True.intro
    | some p =>
      show (if _ then _ else _ : Option State).elim True _
      split
      · rename_i hb
        simp only [Bool.and_eq_true, Bool.not_eq_eq_eq_not, Bool.not_true, beq_iff_eq] at hb
        exact .bmove p _ _ rfl (.lrTryOk hb.1.1 hb.1.2 hb.2)
      · exact StepN.move p _ _ rfl .lrTryFail
  | lrLoop g b k res =>
    cases call with
    | none => exact True.intro
    | some p =>
      show (if _ then _ else _ : Option State).elim True _
      split
      · rename_i hb
        simp only [Bool.and_eq_true, Bool.not_eq_eq_eq_not, Bool.not_true, beq_iff_eq] at hb
        exact .bmove p _ _ rfl (.lrLoopOk hb.1 hb.2)
      · split
        · rename_i hw; exact StepN.bmove p _ _ rfl (.lrLoopWait (show (s.tbins.getD b dfltB).waiter = false by
          simpa only [Bool.not_eq_eq_eq_not, Bool.not_true] using hw))
        · exact True.intro
  | tPrependLocked g b =>
    cases call with
    | none => exact True.intro
    | some p =>
      show (match p.op with | .ins v vi => _ | .tryIns v vi => _ | _ => _ : Option State).elim True _
      split
      · rename_i v vi hop; exact StepN.prepend p g b v vi rfl rfl (Or.inl hop)
      · rename_i v vi hop; exact StepN.prepend p g b v vi rfl rfl (Or.inr hop)
      · exact True.intro
  | tTreeLinkLocked g b x =>
    cases call with
    | none => exact True.intro
    | some p => exact StepN.treeLink p g b x rfl rfl
  | tUnlinkLocked g b i res =>
    cases call with
    | none => exact True.intro
    | some p => exact StepN.unlink p g b i res sm rfl rfl
  | tRestructure g b i res =>
    cases call with
    | none => exact True.intro
    | some p => exact StepN.untree p g b i res rfl rfl
  | tUnlockRoot g b res =>
    cases call with
    | none => exact True.intro
    | some p => exact StepN.bmove p _ _ rfl .unlockRoot
  | tUntreeify g b res =>
    cases call with
    | none => exact True.intro
    | some p => exact StepN.untreeify p g b res rfl rfl
  | tUnlockM g b res retry =>
    cases call with
    | none => exact True.intro
    | some p =>
      cases retry with
      | true => exact StepN.bmove p _ _ rfl .tUnlockMRetry
      | false => exact StepN.bfin p _ _ rfl .tUnlockMFin
  | kTable k =>
    cases call with
    | some p => exact True.intro
    | none => exact StepN.kmove _ _ rfl .kTable
  | kCell g k =>
    cases call with
    | some p => exact True.intro
    | none =>
      show (match (_ : Cell) with | .list h => _ | .moved => _ | _ => _ : Option State).elim True _
      split
      · rename_i hc; exact StepN.kmove _ _ rfl (.kCellList hc)
      · rename_i hc; exact StepN.kmove _ _ rfl (.kCellMoved hc)
      · rename_i h1 h2; exact StepN.kmove _ _ rfl (.kCellOther h1 h2)
  | kLock g k h =>
    cases call with
    | some p => exact True.intro
    | none =>
      show (match (_ : Option NodeS) with | none => _ | some n => _ : Option State).elim True _
      split
      · exact True.intro
      · rename_i n hn
        split
        · exact True.intro
        · rename_i hf; exact StepN.kmove _ _ rfl (.kLock hn (Option.not_isSome_iff_eq_none.1 hf))
  | kCheck g k h =>
    cases call with
    | some p => exact True.intro
    | none =>
      show (if _ then _ else _ : Option State).elim True _
      split
      · rename_i hc; exact StepN.kmove _ _ rfl (.kCheckOk (chk.1 hc))
      · rename_i hc; exact StepN.kmove _ _ rfl (.kCheckFail (fun e => hc (chk.2 e)))
  | kBuild g k h =>
    cases call with
    | some p => exact True.intro
    | none => exact StepN.kbuild g k h rfl rfl
  | kStore g k h b =>
    cases call with
    | some p => exact True.intro
    | none => exact StepN.kstore g k h b rfl rfl
  | kUnlock h =>
    cases call with
    | some p => exact True.intro
    | none => exact StepN.kmove _ _ rfl .kUnlock
  | xNext =>
    cases call with
    | some p => exact True.intro
    | none =>
      show (if _ then _ else _ : Option State).elim True _
      split
      · rename_i ha; exact StepN.kmove _ _ rfl (.xNextCommit ha)
      · rename_i ha; exact StepN.kmove _ _ rfl (.xNextCell (Bool.eq_false_iff.2 ha))
  | xCell j =>
    cases call with
    | some p => exact True.intro
    | none =>
      show (match (_ : Cell) with | .empty => _ | .list h => _ | .tree b => _ | .moved => _ : Option State).elim True _
      split
      · rename_i hc; exact StepN.kmove _ _ rfl (.xCellEmpty hc)
      · rename_i hc; exact StepN.kmove _ _ rfl (.xCellList hc)
      · rename_i hc; exact StepN.kmove _ _ rfl (.xCellTree hc)
      · rename_i hc; exact StepN.kmove _ _ rfl (.xCellMoved hc)
  | xCasMoved j =>
    cases call with
    | some p => exact True.intro
    | none =>
      show (if _ then _ else _ : Option State).elim True _
      split
      · rename_i hc; exact StepN.xcasMoved j rfl rfl (beq_iff_eq.1 hc)
      · rename_i hc; exact StepN.kmove _ _ rfl (.xCasFail (fun e => hc (beq_iff_eq.2 e)))
  | xLock j h =>
    cases call with
    | some p => exact True.intro
    | none =>
      show (match (_ : Option NodeS) with | none => _ | some n => _ : Option State).elim True _
      split
      · exact True.intro
      · rename_i n hn
        split
        · exact True.intro
        · rename_i hf; exact StepN.kmove _ _ rfl (.xLock hn (Option.not_isSome_iff_eq_none.1 hf))
  | xCheck j h =>
    cases call with
    | some p => exact True.intro
    | none =>
      show (if _ then _ else _ : Option State).elim True _
      split
      · rename_i hc; exact StepN.kmove _ _ rfl (.xCheckOk (chk.1 hc))
      · rename_i hc; exact StepN.kmove _ _ rfl (.xCheckFail (fun e => hc (chk.2 e)))
  | xBuild j h =>
    cases call with
    | some p => exact True.intro
    | none => exact StepN.xbuild j h rfl rfl
  | yMutex j b =>
    cases call with
    | some p => exact True.intro
    | none =>
      show (if _ then _ else _ : Option State).elim True _
      split
      · exact True.intro
      · rename_i hf; exact StepN.kbmove _ _ rfl (.yMutex (Option.not_isSome_iff_eq_none.1 hf))
  | yCheck j b =>
    cases call with
    | some p => exact True.intro
    | none =>
      show (if _ then _ else _ : Option State).elim True _
      split
      · rename_i hc; exact StepN.kmove _ _ rfl (.yCheckOk (chk.1 hc))
      · rename_i hc; exact StepN.kbmove _ _ rfl (.yCheckFail (fun e => hc (chk.2 e)))
  | yBuild j b =>
    cases call with
    | some p => exact True.intro
    | none => exact StepN.ybuild j b sm sm2 rfl rfl
  | xStoreLow j unl lo' hi' =>
    cases call with
    | some p => exact True.intro
    | none => exact StepN.xstoreLow j unl lo' hi' rfl rfl
  | xStoreHigh j unl hi' =>
    cases call with
    | some p => exact True.intro
    | none => exact StepN.xstoreHigh j unl hi' rfl rfl
  | xStoreMoved j unl =>
    cases call with
    | some p => exact True.intro
    | none => exact StepN.xstoreMoved j unl rfl rfl
  | xUnlock unl =>
    cases call with
    | some p => exact True.intro
    | none =>
      cases unl with
      | inl h => exact StepN.kmove _ _ rfl .xUnlockL
      | inr b => exact StepN.kbmove _ _ rfl .xUnlockT
  | xCommit =>
    cases call with
    | some p => exact True.intro
    | none => exact StepN.xcommit rfl rfl

theorem step_stepN {s s' : State} {t : Nat} {l : Local} {inv : Option (Nat × KOp)} {lo : Bool}
    {mt : Option Nat} {rz sm sm2 : Bool} {pick : Nat}
    (hl : s.threads[t]? = some l) (hs : step s t inv lo mt rz sm sm2 pick = some s') : StepN s t l s' := by
  have := stepN_of_step inv lo mt rz sm sm2 pick hl
  rwa [hs] at this

/-- an enabled step is a step of an existing thread, and is one of the transitions listed by `StepN` -/
theorem step_cases {s s' : State} {t : Nat} {inv : Option (Nat × KOp)} {lo : Bool} {mt : Option Nat}
    {rz sm sm2 : Bool} {pick : Nat} (hs : step s t inv lo mt rz sm sm2 pick = some s') :
    ∃ l, s.threads[t]? = some l ∧ StepN s t l s' := by
  cases hl : s.threads[t]? with
  | none => unfold step stepG at hs; rw [hl] at hs; cases hs
  | some l => exact ⟨l, rfl, step_stepN hl hs⟩

end Flurry.Proto.BinGNP
