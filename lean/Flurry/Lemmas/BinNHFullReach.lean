import Flurry.Lemmas.BinNHFullCases
/-! # Proto/BinNH: every transition preserves the complete invariant and the ghost invariant (`full_step`); they hold in every reachable state (C01, C10) -/
namespace Flurry.Proto.BinNH
open Flurry.Lin
open Flurry.Proto.BinX (NodeS Cell Pending isReader dflt chainFrom cellHead cellOfHead get_set get_set_self get_set_ne
  cellOfHead_ne_moved nodeAt chainH nextA nodeAt_append_left)
open Flurry.Proto.BinN (cellAt cellOf putCell setNode allMoved splitBinB bitAt lockAt LockSame GenInv ThrOK isT
  Holds vcell genOfPc cellT StepK tick setT finish TInv WInv getCell chId CellId)
open Flurry.Proto.BinNHM (Ghost IsMid HInv MemStep GInv Good buildG)

/-- an idle thread becomes a resizing thread: it joins the running resize (`n' = tickN`) or starts one
(`n' = allocN`) -/
theorem full_start {k : Nat} {s : State} {G : Ghost} {A : Nat → KSt} {pt : Nat → Nat} {t : Nat} {l : BinN.Local}
    {n' : BinN.State} (F : Full s G) (g : GInv k s.n G A pt)
    (hl : s.n.threads[t]? = some l) (hidle : l.pc = .idle) (hh : s.hs[t]? = some none)
    (hn' : (n' = tickN s.n) ∨ (s.n.resizing = false ∧ n' = allocN s.n))
    (B' : Inv (setH s t n' (some ⟨s.n.cur, .next⟩))) :
    ∃ A', Full (setH s t n' (some ⟨s.n.cur, .next⟩)) G ∧ GInv k n' G A' pt ∧
      ∀ k', BinN.absOf n' k' = BinN.absOf s.n k' := by
  have HI := F.inv.heap
  have S' : BinN.Shape n' := B'.gen.shape
  have key : n'.threads = s.n.threads ∧ n'.now = s.n.now + 1 ∧ n'.hist = s.n.hist ∧ n'.cur = s.n.cur ∧
      n'.heap = s.n.heap ∧ (∀ g j, cellAt n' g j = cellAt s.n g j) ∧ HInv n' G ∧ MemStep s.n n' G G ∧
      ∀ k', BinN.absOf n' k' = BinN.absOf s.n k' := by
    rcases hn' with rfl | ⟨hr, rfl⟩
    · exact ⟨rfl, rfl, rfl, rfl, rfl, fun _ _ => rfl, HI.congr rfl rfl rfl rfl,
        .heap (BinNHM.HeapStep.of_same rfl rfl rfl), BinN.absOf_congr_mem rfl rfl rfl⟩
    · obtain ⟨H', hstep, habs⟩ := BinNHM.alloc_effect (s' := allocN s.n) HI S' (F.mid_none_of_not_resizing hr)
        rfl rfl rfl
      exact ⟨rfl, rfl, rfl, rfl, rfl, fun g j => BinN.cellT_alloc _ _ _ _, H', .heap hstep, habs⟩
  obtain ⟨hthr, hnow, hhist, hc, hheap, hcell, H', m, habs⟩ := key
  refine full_helper F g hl hidle B' hthr hnow hhist H' m habs ?_ ?_ ?_ ?_
  · intro t1 l1 g1 j' h' _ _ _ _
    exact ⟨hcell _ _, by rw [hheap], fun i _ => by rw [hheap]; exact ⟨rfl, rfl⟩⟩
  · intro j hm t1 l1 h h1
    rw [hc]; exact F.inv.midw j hm t1 l1 h h1
  · intro t1 hp1 h1
    rcases get_set h1 with ⟨-, e⟩ | ⟨-, h1⟩
    · cases e; trivial
    · exact (F.pcMid t1 hp1 h1).frame hc (fun j lo hg fr _ hm => ⟨hm, hcell _ _, hcell _ _⟩)
  · intro j hm
    obtain ⟨t1, hp1, h1, hm1⟩ := F.midHas j hm
    have ne : t1 ≠ t := by
      rintro rfl
      rw [hh] at h1; cases h1
    exact ⟨t1, hp1, by rw [get_set_ne ne]; exact h1, hm1⟩

theorem full_hstep {k : Nat} {s : State} {G : Ghost} {A : Nat → KSt} {pt : Nat → Nat} {t : Nat} {l : BinN.Local}
    {hp : Helper} {n' : BinN.State} {po : Option HPc} (F : Full s G) (g : GInv k s.n G A pt)
    (hl : s.n.threads[t]? = some l) (hh : s.hs[t]? = some (some hp)) (hs : HStep s.n t hp.g hp.pc n' po)
    (B' : Inv (setH s t n' (po.map fun pc' => ⟨hp.g, pc'⟩))) :
    ∃ G' A', Full (setH s t n' (po.map fun pc' => ⟨hp.g, pc'⟩)) G' ∧ GInv k n' G' A' pt ∧
      ∀ k', BinN.absOf n' k' = BinN.absOf s.n k' := by
  have HI := F.inv.heap
  obtain ⟨g0, pc⟩ := hp
  cases hs with
  | move hm =>
    exact ⟨G, full_quiet F g hl hh B' hm.not_mid.1 hm.not_mid.2 rfl rfl rfl rfl rfl (HI.congr rfl rfl rfl rfl)
      (.heap (BinNHM.HeapStep.of_same rfl rfl rfl)) (BinN.absOf_congr_mem rfl rfl rfl) (BinN.chId_congr rfl rfl)
      (fun j => ⟨rfl, rfl⟩)⟩
  | lock j h _ _ =>
    obtain ⟨H', hstep, hch, habs, hn⟩ := BinNHM.lock_effect
      (s' := setNode (tickN s.n) h (fun m => { m with lock := some t })) HI rfl rfl rfl rfl
    exact ⟨G, full_quiet (po := some (.check j h)) F g hl hh B' (fun h => h) (fun _ e => by cases e; exact fun h => h)
      rfl rfl rfl rfl rfl H' (.heap hstep) habs hch (fun i => ⟨(hn i).1, (hn i).2.2⟩)⟩
  | unlockC j h =>
    obtain ⟨H', hstep, hch, habs, hn⟩ := BinNHM.lock_effect
      (s' := setNode (tickN s.n) h (fun m => { m with lock := none })) HI rfl rfl rfl rfl
    exact ⟨G, full_quiet (po := some (.cell j)) F g hl hh B' (fun h => h) (fun _ e => by cases e; exact fun h => h)
      rfl rfl rfl rfl rfl H' (.heap hstep) habs hch (fun i => ⟨(hn i).1, (hn i).2.2⟩)⟩
  | unlockU j h =>
    obtain ⟨H', hstep, hch, habs, hn⟩ := BinNHM.lock_effect
      (s' := setNode (tickN s.n) h (fun m => { m with lock := none })) HI rfl rfl rfl rfl
    exact ⟨G, full_quiet (po := some .next) F g hl hh B' (fun h => h) (fun _ e => by cases e; exact fun h => h)
      rfl rfl rfl rfl rfl H' (.heap hstep) habs hch (fun i => ⟨(hn i).1, (hn i).2.2⟩)⟩
  | build j h => exact full_build F g hl hh rfl rfl rfl B'
  | cas j hc => exact full_cas F g hl hh hc B'
  | low j h lo hg => exact full_low F g hl hh B'
  | high j h hg => exact full_high F g hl hh B'
  | marker j h => exact full_marker F g hl hh B'
  | commit hg R => exact full_commit F g hl hh hg R B'

/-- **every transition preserves the complete invariant and the ghost invariant**; the transitions of the
resizing threads (and the start of a resize) change the abstract state of no key -/
theorem full_step {k : Nat} {s s' : State} {G : Ghost} {A : Nat → KSt} {pt : Nat → Nat} {t : Nat}
    {inv : Option (Nat × KOp)} {rz leave : Bool} {pick : Nat} (F : Full s G) (g : GInv k s.n G A pt)
    (hs : step s t inv rz leave pick = some s') :
    (∃ G' A' pt', Full s' G' ∧ GInv k s'.n G' A' pt') ∧
    ((∃ hp, s.hs[t]? = some (some hp)) ∨ (s.hs[t]? = some none ∧ s'.hs[t]? ≠ some none) →
      ∀ k', absOf s' k' = absOf s k') := by
  have B' := step_inv F.base hs
  cases step_stepH hs with
  | @rw l n' hl hh K hres =>
    obtain ⟨A', pt', F', g'⟩ := full_rw F g hl hh K (stepK_rwEff F.base.gen hl hres (F.base.noT t l hl) K) B'
    refine ⟨⟨G, A', pt', F', g'⟩, ?_⟩
    rintro (⟨hp, h⟩ | ⟨-, h⟩)
    · rw [hh] at h; cases h
    · exact absurd hh h
  | join hl hh hi R =>
    obtain ⟨A', F', g', habs⟩ := full_start F g hl hi hh (Or.inl rfl) B'
    exact ⟨⟨G, A', pt, F', g'⟩, fun _ k' => habs k'⟩
  | start hl hh hi R =>
    obtain ⟨A', F', g', habs⟩ := full_start (n' := allocN s.n) F g hl hi hh (Or.inr ⟨R, rfl⟩) B'
    exact ⟨⟨G, A', pt, F', g'⟩, fun _ k' => habs k'⟩
  | helper hl hh hst =>
    obtain ⟨G', A', F', g', habs⟩ := full_hstep F g hl hh hst B'
    exact ⟨⟨G', A', pt, F', g'⟩, fun _ k' => habs k'⟩

theorem init_full (n : Nat) : Full (init n) {} := by
  refine ⟨init_inv n, BinNHM.init_inv n, ?_, ?_⟩
  · intro t hp h0
    have := List.eq_of_mem_replicate (List.mem_of_getElem? (show (List.replicate n none)[t]? = some (some hp) from h0))
    cases this
  · intro j hm; cases hm

theorem reachable_full {n : Nat} {s : State} (hr : Reachable n s) (k : Nat) :
    ∃ G A pt, Full s G ∧ GInv k s.n G A pt := by
  induction hr with
  | init => exact ⟨_, _, _, init_full n, BinNHM.init_ginv n k⟩
  | step t inv rz leave pick _ hs ih =>
    obtain ⟨G, A, pt, F, g⟩ := ih
    exact (full_step F g hs).1

end Flurry.Proto.BinNH
