import Flurry.Lemmas.BinRBInv
/-! # Proto/BinRBase: the lock protocol (C01, C13)

The mutex of a bin lives in its first node. `LInv`: a thread between `wCheck` and its unlock holds
the mutex of the node it locked; a thread in `wWrite h` has validated that `h` is the current head.
Consequence (`writers_mutex`): at most one thread is about to perform a store.

The linearizability proof of `Proto/BinRBase` does not use these facts: in the model the store of a
writer is one atomic transition on the current chain. `Proto/BinR`, where the store goes through
positions remembered during a walk, does (`stepK_frozen` in `Lemmas/BinRWalk.lean`). -/
namespace Flurry.Proto.BinR.Base
open Flurry.Lin2
open Flurry.Shared (get_set)

/-- the thread holds the mutex of node `h` -/
def Holds : Pc → Nat → Prop
  | .wCheck h', h => h' = h
  | .wWrite h', h => h' = h
  | .wUnlock h' _ _, h => h' = h
  | _, _ => False

structure LInv (s : State) : Prop where
  lockHeld : ∀ (t : Nat) (l : Local) (h : Nat), s.threads[t]? = some l → Holds l.pc h →
    h < s.heap.length ∧ (nodeAt s.heap h).lock = some t
  validated : ∀ (t : Nat) (l : Local) (h : Nat), s.threads[t]? = some l → l.pc = .wWrite h → s.head = some h

theorem linv_generic {s s' : State} {t : Nat} {l' : Local} (L : LInv s)
    (hthr : s'.threads = s.threads.set t l') (hlen : s.heap.length ≤ s'.heap.length)
    (hlock : ∀ (t1 : Nat) (l1 : Local) (h1 : Nat), t1 ≠ t → s.threads[t1]? = some l1 → Holds l1.pc h1 →
      (nodeAt s'.heap h1).lock = (nodeAt s.heap h1).lock)
    (hhead : ∀ (t1 : Nat) (l1 : Local) (h1 : Nat), t1 ≠ t → s.threads[t1]? = some l1 → l1.pc = .wWrite h1 →
      s'.head = s.head)
    (hself : ∀ h, Holds l'.pc h → h < s'.heap.length ∧ (nodeAt s'.heap h).lock = some t)
    (hval : ∀ h, l'.pc = .wWrite h → s'.head = some h) : LInv s' := by
  refine ⟨?_, ?_⟩
  · intro t1 l1 h1 hl1 hh
    rw [hthr] at hl1
    rcases get_set hl1 with ⟨rfl, rfl⟩ | ⟨hne, hl1⟩
    · exact hself h1 hh
    · obtain ⟨h2, h3⟩ := L.lockHeld t1 l1 h1 hl1 hh
      exact ⟨by omega, by rw [hlock t1 l1 h1 hne hl1 hh]; exact h3⟩
  · intro t1 l1 h1 hl1 hpc
    rw [hthr] at hl1
    rcases get_set hl1 with ⟨rfl, rfl⟩ | ⟨hne, hl1⟩
    · exact hval h1 hpc
    · rw [hhead t1 l1 h1 hne hl1 hpc]; exact L.validated t1 l1 h1 hl1 hpc

theorem Move.holds {s : State} {p : Pending} {pc pc' : Pc} (hm : Move s p pc pc') {h : Nat}
    (hh : Holds pc' h) : Holds pc h := by
  cases hm <;> first | exact hh | cases hh

theorem Move.validated {s : State} {p : Pending} {pc pc' : Pc} (hm : Move s p pc pc') {h : Nat}
    (hh : pc' = .wWrite h) : s.head = some h ∨ pc = .wWrite h := by
  cases hm with
  | checkOk hd => cases hh; exact Or.inl hd
  | rHead => cases hh
  | rNext _ _ => cases hh
  | toCas _ => cases hh
  | toLock _ => cases hh
  | casFail => cases hh
  | checkFail => cases hh

/-- thread `t` writes the lock word of node `h`, which no other thread holds -/
theorem linv_setLock {s s' : State} {t h : Nat} {x : Option Nat} {l' : Local} (L : LInv s)
    (hthr : s'.threads = s.threads.set t l')
    (hheap : s'.heap = s.heap.modify h (fun m => { m with lock := x })) (hhead : s'.head = s.head)
    (hlt : h < s.heap.length) (hown : ∀ t1, (nodeAt s.heap h).lock = some t1 → t1 = t)
    (hself : ∀ h', Holds l'.pc h' → h' = h ∧ x = some t) (hval : ∀ h', l'.pc ≠ .wWrite h') : LInv s' := by
  have hlen : s'.heap.length = s.heap.length := by rw [hheap, List.length_modify]
  refine linv_generic L hthr (Nat.le_of_eq hlen.symm) ?_ (fun _ _ _ _ _ _ => hhead) ?_
    (fun h' hh => absurd hh (hval h'))
  · intro t1 l1 h1 hne hl1 hh
    rw [hheap, nodeAt_modify]
    split
    · rename_i hc
      have := (L.lockHeld t1 l1 h1 hl1 hh).2
      rw [← hc.1] at this
      exact absurd (hown t1 this) hne
    · rfl
  · intro h' hh
    obtain ⟨rfl, rfl⟩ := hself h' hh
    refine ⟨Nat.lt_of_lt_of_eq hlt hlen.symm, ?_⟩
    rw [hheap, nodeAt_modify, if_pos ⟨rfl, hlt⟩]

theorem stepK_linv {s s' : State} {t : Nat} {l : Local} (L : LInv s) (I : Inv s)
    (hl : s.threads[t]? = some l) (hk : StepK s t l s') : LInv s' := by
  cases hk with
  | idle hpc =>
    refine linv_generic L rfl (Nat.le_refl _) (fun _ _ _ _ _ _ => rfl) (fun _ _ _ _ _ _ => rfl) ?_ ?_
    · intro h hh; exact L.lockHeld t l h hl hh
    · intro h hh; exact L.validated t l h hl hh
  | invoke k op hpc =>
    refine linv_generic (l' := { pc := if isReader op then .rHead else .wHead, call := some ⟨k, op, s.now + 1⟩ })
      L rfl (Nat.le_refl _) (fun _ _ _ _ _ _ => rfl) (fun _ _ _ _ _ _ => rfl) ?_ ?_
    · intro h hh; cases hr : isReader op <;> simp [hr, Holds] at hh
    · intro h hh; cases hr : isReader op <;> simp [hr] at hh
  | move p pc' hp hm =>
    refine linv_generic (l' := { l with pc := pc' }) L rfl (Nat.le_refl _) (fun _ _ _ _ _ _ => rfl)
      (fun _ _ _ _ _ _ => rfl) ?_ ?_
    · intro h hh; exact L.lockHeld t l h hl (hm.holds hh)
    · intro h hh
      rcases hm.validated hh with hd | hpc
      · exact hd
      · exact L.validated t l h hl hpc
  | lockMove p h x pc' hp hm =>
    obtain ⟨pc, call⟩ := l
    simp only at hm hp
    cases hm with
    | @lock _ n hn hlk =>
      refine linv_setLock L rfl rfl rfl (List.getElem?_eq_some_iff.1 hn).1 ?_ (fun h' hh => ⟨Eq.symm hh, rfl⟩) nofun
      intro t1 h1
      rw [nodeAt_of_some hn, hlk] at h1; cases h1
    | @unlockRetry _ res =>
      obtain ⟨hlt, hmine⟩ := L.lockHeld t _ h hl (show Holds (.wUnlock h res true) h from rfl)
      refine linv_setLock L rfl rfl rfl hlt ?_ nofun nofun
      intro t1 h1
      rw [hmine] at h1; exact (Option.some.inj h1).symm
  | fin p res hp hf =>
    refine linv_generic (l' := { pc := .idle, call := none }) L rfl (Nat.le_refl _)
      (fun _ _ _ _ _ _ => rfl) (fun _ _ _ _ _ _ => rfl) ?_ ?_
    · intro h hh; cases hh
    · intro h hh; cases hh
  | cas p v vi hp hpc hh hop =>
    refine linv_generic (l' := { pc := .idle, call := none }) L rfl
      (by show _ ≤ (s.heap ++ [_]).length; rw [List.length_append]; omega) ?_ ?_ ?_ ?_
    · intro t1 l1 h1 hne hl1 hhold
      show (nodeAt (s.heap ++ [_]) h1).lock = _
      rw [nodeAt_append_left _ (L.lockHeld t1 l1 h1 hl1 hhold).1]
    · intro t1 l1 h1 hne hl1 hpc1
      have := L.validated t1 l1 h1 hl1 hpc1
      rw [hh] at this; cases this
    · intro h hh; cases hh
    · intro h hh; cases hh
  | write p h hp hpc =>
    have hop := I.thr.opOK t l p hl hp
    rw [hpc] at hop
    obtain ⟨⟨-, hs, hthr, -⟩, hlk⟩ := writerStore_spec_lock (s := tick s) (I.heap.congr rfl rfl) p hop
    have hlen := hs.len
    obtain ⟨hlt, hmine⟩ := L.lockHeld t l h hl (by rw [hpc]; exact rfl)
    have hhd := L.validated t l h hl hpc
    refine linv_generic (t := t) (l' := { l with pc := .wUnlock h (writerStore (tick s) p).2 false }) L ?_ hlen ?_ ?_ ?_ ?_
    · show (writerStore (tick s) p).1.threads.set t _ = _
      rw [hthr]; rfl
    · intro t1 l1 h1 hne hl1 hhold
      exact hlk h1 (L.lockHeld t1 l1 h1 hl1 hhold).1
    · intro t1 l1 h1 hne hl1 hpc1
      exfalso
      have h2 := L.validated t1 l1 h1 hl1 hpc1
      rw [hhd] at h2; cases h2
      have h3 := (L.lockHeld t1 l1 h hl1 (by rw [hpc1]; exact rfl)).2
      rw [hmine] at h3; cases h3
      exact hne rfl
    · intro h' hh
      have : h = h' := hh
      subst this
      exact ⟨Nat.lt_of_lt_of_le hlt hlen, by rw [show (setT _ t _).heap = (writerStore (tick s) p).1.heap from rfl, hlk h hlt]; exact hmine⟩
    · intro h' hh; cases hh
  | unlockFin p h res hp hpc =>
    obtain ⟨hlt, hmine⟩ := L.lockHeld t l h hl (by rw [hpc]; exact rfl)
    refine linv_setLock (l' := { pc := .idle, call := none }) L rfl rfl rfl hlt ?_ nofun nofun
    intro t1 h1
    rw [hmine] at h1; exact (Option.some.inj h1).symm

theorem init_linv (n : Nat) : LInv (init n) := by
  refine ⟨?_, ?_⟩
  · intro t l h hl hh; rw [init_threads hl] at hh; cases hh
  · intro t l h hl hh; rw [init_threads hl] at hh; cases hh

theorem reachable_linv {n : Nat} {s : State} (hr : Reachable n s) : LInv s := by
  induction hr with
  | init => exact init_linv n
  | @step s s' t inv hr hs ih =>
    cases hl : s.threads[t]? with
    | none => unfold step at hs; rw [hl] at hs; cases hs
    | some l => exact stepK_linv ih (reachable_inv hr) hl (step_stepK hl hs)

/-- two threads about to store both hold the mutex of the head, so they are one thread -/
theorem LInv.mutex {s : State} (L : LInv s) {t1 t2 : Nat} {l1 l2 : Local} {h1 h2 : Nat}
    (hl1 : s.threads[t1]? = some l1) (hl2 : s.threads[t2]? = some l2)
    (hp1 : l1.pc = .wWrite h1) (hp2 : l2.pc = .wWrite h2) : t1 = t2 ∧ h1 = h2 := by
  have e1 := L.validated t1 l1 h1 hl1 hp1
  have e2 := L.validated t2 l2 h2 hl2 hp2
  rw [e1] at e2; cases e2
  have k1 := (L.lockHeld t1 l1 h1 hl1 (by rw [hp1]; exact rfl)).2
  have k2 := (L.lockHeld t2 l2 h1 hl2 (by rw [hp2]; exact rfl)).2
  rw [k1] at k2; cases k2
  exact ⟨rfl, rfl⟩

/-- **mutual exclusion of validated writers**: at most one thread is about to perform a store -/
theorem writers_mutex {n : Nat} {s : State} (hr : Reachable n s) {t1 t2 : Nat} {l1 l2 : Local} {h1 h2 : Nat}
    (hl1 : s.threads[t1]? = some l1) (hl2 : s.threads[t2]? = some l2)
    (hp1 : l1.pc = .wWrite h1) (hp2 : l2.pc = .wWrite h2) : t1 = t2 ∧ h1 = h2 :=
  (reachable_linv hr).mutex hl1 hl2 hp1 hp2

/-- a validated writer still sees its node as the head when it stores, and holds its mutex -/
theorem writer_validated {n : Nat} {s : State} (hr : Reachable n s) {t : Nat} {l : Local} {h : Nat}
    (hl : s.threads[t]? = some l) (hp : l.pc = .wWrite h) :
    s.head = some h ∧ (nodeAt s.heap h).lock = some t :=
  ⟨(reachable_linv hr).validated t l h hl hp,
    ((reachable_linv hr).lockHeld t l h hl (by rw [hp]; exact rfl)).2⟩

end Flurry.Proto.BinR.Base
