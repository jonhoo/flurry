import Flurry.Lemmas.BinNSurgeryDefs
import Flurry.Lemmas.BinNHMTransfer
/-! # Proto/BinN: what the steps of the transfer do to the heap (C01, C10)

`tBuild` (the split), `tStoreLow`, `tStoreHigh`, the empty-bin CAS `empty → moved`, the allocation of the next
generation, the publication of the next table, and the store of the forwarding marker: the lemmas of
`Lemmas/BinNHMTransfer.lean` with at most one split under way.

The `Shape` of the successor state is a hypothesis wherever the tables change (`Lemmas/BinNGenReach.lean`). -/
namespace Flurry.Proto.BinN
open Flurry.Lin
open Flurry.Proto.BinX (NodeS Cell Pending dflt chainFrom cellOfHead nodeAt)
open BinNHM (toM toM_mid toM_mid_none toM_clear live_toM hinv_toM FrOK)

theorem midIdx_none {G : Ghost} (h : G.mid = none) (x : Nat) : midIdx G ≠ some x := by
  unfold midIdx; rw [h]; intro e; cases e

theorem effect_of_toM {s s' : State} {G : Ghost} {P : Prop} (H : HInv s G)
    (h : BinNHM.HInv s' (toM G) ∧ BinNHM.HeapStep s s' (toM G) (toM G) ∧ P) : HInv s' G ∧ HeapStep s s' G G ∧ P :=
  ⟨hinv_toM.2 ⟨h.1, (hinv_toM.1 H).2.mono h.2.1.len rfl (fun _ h => h)⟩, heapStep_toM.1 h.2.1, h.2.2⟩

theorem toM_build {G : Ghost} (hmid : G.mid = none) (j : Nat) (lo hg : Option Nat) (a b : Nat) :
    toM (Ghost.mk (addRange G.cr a b) (some (j, lo, hg)) (a, b)) = BinNHM.buildG (toM G) j lo hg a b := by
  unfold toM BinNHM.buildG BinNHM.Ghost.setMid
  simp only [hmid]

theorem build_effect {s s' : State} {G : Ghost} (H : HInv s G) (hmid : G.mid = none) {j h : Nat}
    (hj : j < 2 ^ s.cur) (hc0 : cellAt s s.cur j = .node h)
    (hh : s'.heap = (splitBinB (bitAt s.cur) s.heap (chainFrom s.heap s.heap.length (some h))).1)
    (ht : s'.tabs = s.tabs) (hc : s'.cur = s.cur) (hr : s'.resizing = s.resizing) :
    HInv s' (Ghost.mk (addRange G.cr s.heap.length s'.heap.length)
              (some (j, (splitBinB (bitAt s.cur) s.heap (chainFrom s.heap s.heap.length (some h))).2.1,
                (splitBinB (bitAt s.cur) s.heap (chainFrom s.heap s.heap.length (some h))).2.2))
              (s.heap.length, s'.heap.length)) ∧
    HeapStep s s' G (Ghost.mk (addRange G.cr s.heap.length s'.heap.length)
              (some (j, (splitBinB (bitAt s.cur) s.heap (chainFrom s.heap s.heap.length (some h))).2.1,
                (splitBinB (bitAt s.cur) s.heap (chainFrom s.heap s.heap.length (some h))).2.2))
              (s.heap.length, s'.heap.length)) ∧
    (∀ k, absOf s' k = absOf s k) := by
  obtain ⟨H', hs, rest⟩ := BinNHM.build_effect H.toM (toM_mid_none hmid j) hj hc0 hh ht hc hr
  rw [← toM_build hmid] at H' hs
  exact ⟨hinv_toM.2 ⟨H', H'.frOK j _ _ _ (toM_mid.2 ⟨rfl, rfl⟩)⟩, heapStep_toM.1 hs, rest⟩

theorem storeNew_effect {s s' : State} {G : Ghost} (H : HInv s G) (S' : Shape s') {j : Nat} {lo hg : Option Nat}
    (hmid : G.mid = some (j, lo, hg)) (hres : s.resizing = true) {j' : Nat} {c : Cell}
    (hcase : (j' = j ∧ c = cellOfHead lo ∧ cellAt s (s.cur + 1) j = .empty) ∨
      (j' = j + 2 ^ s.cur ∧ c = cellOfHead hg ∧ cellAt s (s.cur + 1) (j + 2 ^ s.cur) = .empty))
    (hh : s'.heap = s.heap) (ht : s'.tabs = s.tabs.modify (s.cur + 1) (fun row => row.set j' c))
    (hc : s'.cur = s.cur) :
    HInv s' G ∧ HeapStep s s' G G ∧ (∀ k, absOf s' k = absOf s k) :=
  effect_of_toM H (BinNHM.storeNew_effect H.toM S' (toM_mid.2 ⟨hmid, rfl⟩) hres hcase hh ht hc)

theorem casMoved_effect {s s' : State} {G : Ghost} (H : HInv s G) (S' : Shape s') (hmid : G.mid = none) {j : Nat}
    (hj : j < 2 ^ s.cur) (hc0 : cellAt s s.cur j = .empty)
    (hh : s'.heap = s.heap) (ht : s'.tabs = s.tabs.modify s.cur (fun row => row.set j .moved))
    (hc : s'.cur = s.cur) :
    HInv s' G ∧ HeapStep s s' G G ∧ (∀ k, absOf s' k = absOf s k) :=
  effect_of_toM H (BinNHM.casMoved_effect H.toM S' (toM_mid_none hmid j) hj hc0 hh ht hc)

theorem mid_chains {s : State} {G : Ghost} (H : HInv s G) {j : Nat} {lo hg : Option Nat}
    (hmid : G.mid = some (j, lo, hg))
    (hlow : cellAt s (s.cur + 1) j = cellOfHead lo) (hhigh : cellAt s (s.cur + 1) (j + 2 ^ s.cur) = cellOfHead hg) :
    (∀ i ∈ chId s (s.cur, j), i < G.fr.1) ∧
    SideOK (bitAt s.cur) s.heap G.cr G.fr (chId s (s.cur, j)) false (chId s (s.cur + 1, j)) ∧
    SideOK (bitAt s.cur) s.heap G.cr G.fr (chId s (s.cur, j)) true (chId s (s.cur + 1, j + 2 ^ s.cur)) :=
  BinNHM.mid_chains H.toM (toM_mid.2 ⟨hmid, rfl⟩) hlow hhigh

theorem moved_effect {s s' : State} {G : Ghost} (H : HInv s G) (S' : Shape s') {j : Nat} {lo hg : Option Nat}
    (hmid : G.mid = some (j, lo, hg))
    (hlow : cellAt s (s.cur + 1) j = cellOfHead lo) (hhigh : cellAt s (s.cur + 1) (j + 2 ^ s.cur) = cellOfHead hg)
    (hh : s'.heap = s.heap) (ht : s'.tabs = s.tabs.modify s.cur (fun row => row.set j .moved))
    (hc : s'.cur = s.cur) :
    HInv s' { G with mid := none } ∧ (∀ k, absOf s' k = absOf s k) := by
  obtain ⟨H', rest⟩ := BinNHM.moved_effect H.toM S' (toM_mid.2 ⟨hmid, rfl⟩) hlow hhigh hh ht hc
  rw [← toM_clear hmid] at H'
  exact ⟨hinv_toM.2 ⟨H', (hinv_toM.1 H).2.mono (Nat.le_of_eq (by rw [hh])) rfl (fun _ h => h)⟩, rest⟩

theorem live_of_moved {s s' : State} {G : Ghost} (S : Shape s) {j : Nat} (hj : j < 2 ^ s.cur)
    (hh : s'.heap = s.heap) (ht : s'.tabs = s.tabs.modify s.cur (fun row => row.set j .moved)) {i : Nat}
    (hl : Live s' { G with mid := none } i) : Live s G i := by
  rcases hl with ⟨id, hl⟩ | ⟨j0, lo, hg, hm, -⟩
  · exact live_toM.1 (BinNHM.live_of_moved (G := toM G) S hj hh ht (Or.inl ⟨id, hl⟩))
  · cases hm

theorem alloc_effect {s s' : State} {G : Ghost} (H : HInv s G) (S' : Shape s') (hmid : G.mid = none)
    (hh : s'.heap = s.heap) (ht : s'.tabs = s.tabs ++ [List.replicate (2 ^ (s.cur + 1)) .empty])
    (hc : s'.cur = s.cur) :
    HInv s' G ∧ HeapStep s s' G G ∧ (∀ k, absOf s' k = absOf s k) :=
  effect_of_toM H (BinNHM.alloc_effect H.toM S' (toM_mid_none hmid) hh ht hc)

theorem commit_effect {s s' : State} {G : Ghost} (H : HInv s G) (S' : Shape s') (hmid : G.mid = none)
    (hall : ∀ j, j < 2 ^ s.cur → cellAt s s.cur j = .moved)
    (hh : s'.heap = s.heap) (ht : s'.tabs = s.tabs) (hc : s'.cur = s.cur + 1) :
    HInv s' G ∧ HeapStep s s' G G ∧ (∀ k, absOf s' k = absOf s k) :=
  effect_of_toM H (BinNHM.commit_effect H.toM S' (toM_mid_none hmid) hall hh ht hc)

end Flurry.Proto.BinN
