import Flurry.Lemmas.BinGNPFactsT1
/-! # Proto/BinGN: the facts about the tree-bin writer stores `prepend` and `unlink`

`prepend_facts` (`tPrependLocked`: a fresh node is put in front of the list of the `TreeBin` of the
writer's cell) and `unlink_facts` (`tUnlinkLocked`: the list unlink of a removal): under `XShape s'`, `Eff s s'`, the
specified effect on the abstract state of the writer's key, and no effect on the other keys.
Both are stores into the structure of the cell `id := idOf tab p.key = cidOf s l` of generation `tab`, in which the
writer is validated; the heap part is `sprepend_store` / `sunlink_store` (`Lemmas/BinGNPStore.lean`), the rest is the
assembly `T1.eff_tree_store`. -/
namespace Flurry.Proto.BinGNP
open Flurry.Lin
open Flurry.Proto.BinK (nodeAt binAt NextOK IsChain IsSeg chainOf CInv absL HeapStep
  nodeAt_modify nodeAt_append_left nodeAt_append_new nodeAt_ge binAt_modify binAt_modify_self binAt_modify_ne
  predOf_cases absL_eq_none_iff)
open Store FactsL

/-! ## `tPrependLocked` -/

variable {s s' : State} {t : Nat} {l l' : Local} {p : Pending}

/-- the insertion of a new key into the tree bin: the store to `first` (`tPrependLocked`) -/
theorem prepend_facts {tab : Nat} {b v vi : Nat}
    (I : Inv s) (hl : s.threads[t]? = some l) (hp : l.call = some p) (hpc : l.pc = .tPrependLocked tab b)
    (hop : p.op = .ins v vi ∨ p.op = .tryIns v vi) :
    let s' := setT (setBin (qst s (s.heap ++ [⟨p.key, (v, vi), (binAt s.tbins b).first, none, false, some b⟩]) s.tbins) b
        (fun y => { y with first := some s.heap.length })) t { l with pc := .tTreeLinkLocked tab b s.heap.length }
    XShape s' → (Eff s s' ∧ specStep (absOf s p.key) p.op = (absOf s' p.key, .none) ∧
      ∀ k, k ≠ p.key → absOf s' k = absOf s k) := by
  obtain ⟨pc, call⟩ := l
  simp only at hp hpc
  subst hp hpc
  intro s' XS'
  let new : NodeS := ⟨p.key, (v, vi), (binAt s.tbins b).first, none, false, some b⟩
  let id : Cid := idOf tab p.key
  have H := I.heap
  have X := I.rsz
  have P := T1.tw_tPrependLocked tab b
  have h0 : FreshOK s b p := I.data.pcInv t _ p hl rfl
  obtain ⟨hcell, W⟩ := T1.ctx I hl P rfl
  have hb0 : b < s.tbins.length := H.cellOK id b hcell
  obtain ⟨ht, hc⟩ := T1.tree_chain I hl P.mx hcell
  have hsup : ∀ j ∈ chainOfBin s b, (nodeAt s.heap j).inTree = true := by
    intro j hj
    rcases hc j hj with h | ⟨_, e⟩
    · exact h
    · cases e
  have hcells : ∀ id', cellAt s' id' = cellAt s id' := fun _ => rfl
  have hcell' : cellAt s' id = .tree b := by rw [hcells]; exact hcell
  have htb : s'.tbins = s.tbins.modify b (fun y => { y with first := some s.heap.length }) := rfl
  have hold0 : ∀ j, j < s.heap.length → nodeAt s'.heap j = nodeAt s.heap j := fun j hj => nodeAt_append_left _ hj
  have hnew0 : nodeAt s'.heap s.heap.length = new := nodeAt_append_new _ _
  have hlen : s'.heap.length = s.heap.length + 1 := List.length_append
  have hchain : chainC s (cellAt s id) = chainOfBin s b := by rw [hcell]; rfl
  -- a node of the successor heap that is in the tree is an old one
  have hinT : ∀ j, j < s'.heap.length → (nodeAt s'.heap j).inTree = true → j < s.heap.length := by
    intro j hj hin
    apply Classical.byContradiction
    intro hn
    have : j = s.heap.length := by omega
    subst this
    rw [hnew0] at hin; cases hin
  have hfr : ∀ j, (j ∈ chainC s (cellAt s id) ∨ treeOf s (cellAt s id) j) → (nodeAt s.heap j).key ≠ new.key := by
    rintro j (hj | hj)
    · have ho := H.chainOwner id j hj
      rw [hcell] at ho
      exact h0 j ((H.cinv id).chain_lt hj) ho (hsup j (by rw [← hchain]; exact hj))
    · rw [hcell] at hj
      obtain ⟨h1, h2, b', hb', h3⟩ := hj
      cases hb'
      exact h0 j h1 h3 h2
  have hT : ∀ j, treeOf s' (cellAt s' id) j → j < s.heap.length ∧ treeOf s (cellAt s id) j := by
    intro j hj
    rw [hcell'] at hj
    obtain ⟨h1, h2, b', hb', h3⟩ := hj
    cases hb'
    have hjl := hinT j h1 h2
    rw [hold0 j hjl] at h2 h3
    rw [hcell]
    exact ⟨hjl, hjl, h2, b, rfl, h3⟩
  obtain ⟨H', T, hs, hlc, -, habs⟩ := sprepend_store (s' := s') (id := id) (new := new) H X W rfl
    (by rw [hcell']; show (binAt s'.tbins b).first = _; rw [htb, binAt_modify_self _ hb0])
    (by rw [hcell]; rfl) hfr hT (by rw [htb, List.length_modify])
    (by intro b' hb'; rw [htb, binAt_modify_ne]; intro e; subst e; exact hb' hcell)
    (fun id' _ => hcells id') rfl (P.reusing rfl hl) (by rw [hcells]) (by rw [hcell']; rfl) rfl
  have hlc' : chainOfBin s' b = s.heap.length :: chainOfBin s b := by
    rw [← hchain, ← hlc, hcell']; rfl
  have hsync : ∀ b', (binAt s'.tbins b').mutex = (binAt s.tbins b').mutex ∧
      (binAt s'.tbins b').writer = (binAt s.tbins b').writer ∧ (binAt s'.tbins b').waiter = (binAt s.tbins b').waiter ∧
      (binAt s'.tbins b').readers = (binAt s.tbins b').readers := by
    intro b'
    rw [htb, binAt_modify]
    split <;> exact ⟨rfl, rfl, rfl, rfl⟩
  have hlock : ∀ h, (nodeAt s'.heap h).lock = (nodeAt s.heap h).lock := by
    intro h
    by_cases hh : h < s.heap.length
    · rw [hold0 h hh]
    · by_cases hh2 : h = s.heap.length
      · subst hh2; rw [hnew0, nodeAt_ge (Nat.le_refl _)]; rfl
      · rw [nodeAt_ge (by omega), nodeAt_ge (by omega)]
  have hfresh' : FreshOK s' b p := by
    intro j hj ho hin
    have hjl := hinT j hj hin
    rw [hold0 j hjl] at ho hin ⊢
    exact h0 j hjl ho hin
  have E : Eff s s' := by
    refine T1.eff_tree_store (pc' := .tTreeLinkLocked tab b s.heap.length) I hl P (T1.tw_tTreeLinkLocked tab b _) rfl
      (Or.inr rfl) rfl ⟨by rw [hlc']; exact List.mem_cons_self, by rw [hnew0], by rw [hnew0], hfresh'⟩
      rfl rfl rfl (by rw [htb, List.length_modify]) hsync hcells H' XS' T hs hlock ?_ ?_
    · intro j hj ho hin hnc
      have hjl := hinT j hj hin
      rw [hold0 j hjl] at ho hin
      rcases ht j hjl ho hin with h | ⟨_, _, e⟩ | ⟨_, _, e⟩
      · exact absurd (by rw [hlc']; exact List.mem_cons_of_mem _ h) hnc
      · cases e
      · cases e
    · intro j hj hin
      rw [hlc'] at hj
      rcases List.mem_cons.1 hj with hj | hj
      · exact ⟨tab, by rw [hj]⟩
      · have hjl : j < s.heap.length := (H.cinv id).chain_lt (show j ∈ chainC s (cellAt s id) by rw [hchain]; exact hj)
        rw [hold0 j hjl, hsup j hj] at hin; cases hin
  have habs0 : absOf s p.key = none := by
    rw [absOf_id X W (side_idOf tab p.key), absL_eq_none_iff]
    intro j hj; exact hfr j (Or.inl hj)
  exact ⟨E, abs_update habs rfl (by rw [habs0]; exact insert_spec hop)⟩

/-! ## `tUnlinkLocked` -/

private theorem unlinkOf_shape_g {b i : Nat} (t : Nat) (l' : Local) (hnd : (chainOfBin s b).Nodup)
    (hb0 : b < s.tbins.length) (hi : i ∈ chainOfBin s b) :
    let s' := setT (unlinkOf (tick s) b i) t l'
    (∀ id, cellAt s' id = cellAt s id) ∧ s'.cur = s.cur ∧ s'.resizing = s.resizing ∧ s'.now = s.now + 1 ∧
      s'.hist = s.hist ∧ s'.threads = s.threads.set t l' ∧ s'.tbins.length = s.tbins.length ∧
      (∀ b', (binAt s'.tbins b').mutex = (binAt s.tbins b').mutex ∧ (binAt s'.tbins b').writer = (binAt s.tbins b').writer ∧
        (binAt s'.tbins b').waiter = (binAt s.tbins b').waiter ∧ (binAt s'.tbins b').readers = (binAt s.tbins b').readers) ∧
      (∀ b', b' ≠ b → binAt s'.tbins b' = binAt s.tbins b') ∧
      ((∃ l2, chainOfBin s b = i :: l2 ∧ s'.heap = s.heap ∧ (binAt s'.tbins b).first = (nodeAt s.heap i).next) ∨
        (∃ l1 pr l2, chainOfBin s b = l1 ++ pr :: i :: l2 ∧
          s'.heap = s.heap.modify pr (fun m => { m with next := (nodeAt s.heap i).next }) ∧
          (binAt s'.tbins b).first = (binAt s.tbins b).first)) := by
  have hlcb : chainOfBin (tick s) b = chainOfBin s b := rfl
  rcases predOf_cases hnd hi with ⟨l2, hch, hpr⟩ | ⟨l1, pr, l2, hch, hpr⟩
  · have hU : unlinkOf (tick s) b i = setBin (tick s) b (fun y => { y with first := (nodeAt s.heap i).next }) := by
      unfold unlinkOf; rw [hlcb, hpr]; rfl
    rw [hU]
    have e : (setT (setBin (tick s) b (fun y => { y with first := (nodeAt s.heap i).next })) t l').tbins =
        s.tbins.modify b (fun y => { y with first := (nodeAt s.heap i).next }) := rfl
    have hb : ∀ b', binAt (s.tbins.modify b (fun y => { y with first := (nodeAt s.heap i).next })) b' =
        if b = b' ∧ b' < s.tbins.length then { binAt s.tbins b' with first := (nodeAt s.heap i).next }
        else binAt s.tbins b' := fun b' => binAt_modify _ _ _ _
    refine ⟨fun _ => rfl, rfl, rfl, rfl, rfl, rfl, List.length_modify .., ?_, ?_, Or.inl ⟨l2, hch, rfl, ?_⟩⟩
    · intro b'
      rw [e, hb]
      split <;> exact ⟨rfl, rfl, rfl, rfl⟩
    · intro b' hne
      rw [e, hb, if_neg (fun h => hne h.1.symm)]
    · rw [e, hb, if_pos ⟨rfl, hb0⟩]
  · have hU : unlinkOf (tick s) b i = setNode (tick s) pr (fun m => { m with next := (nodeAt s.heap i).next }) := by
      unfold unlinkOf; rw [hlcb, hpr]; rfl
    rw [hU]
    exact ⟨fun _ => rfl, rfl, rfl, rfl, rfl, rfl, rfl, fun b' => ⟨rfl, rfl, rfl, rfl⟩, fun _ _ => rfl,
      Or.inr ⟨l1, pr, l2, hch, rfl, rfl⟩⟩

/-- the removal from the tree bin: the list unlink (`tUnlinkLocked`) -/
theorem unlink_facts {tab : Nat} {b i : Nat} {res : KRes} (small : Bool)
    (I : Inv s) (hl : s.threads[t]? = some l) (hp : l.call = some p) (hpc : l.pc = .tUnlinkLocked tab b i res) :
    let s' := setT (unlinkOf (tick s) b i) t
      { l with pc := if small then .tUntreeify tab b res else .tRestructure tab b i res }
    XShape s' → (Eff s s' ∧ specStep (absOf s p.key) p.op = (absOf s' p.key, res) ∧
      ∀ k, k ≠ p.key → absOf s' k = absOf s k) := by
  obtain ⟨pc, call⟩ := l
  simp only at hp hpc
  subst hp hpc
  intro s' XS'
  let pc' : Pc := if small then .tUntreeify tab b res else .tRestructure tab b i res
  let id : Cid := idOf tab p.key
  have H := I.heap
  have X := I.rsz
  have P := T1.tw_tUnlinkLocked tab b i res
  have P' : T1.TW tab b pc' := by
    cases small
    · exact T1.tw_tRestructure tab b i res
    · exact T1.tw_tUntreeify tab b res
  obtain ⟨hi, hin0, hkey0, hspec⟩ : RemOK s b p i res := I.data.pcInv t _ p hl rfl
  obtain ⟨hcell, W⟩ := T1.ctx I hl P rfl
  have hb0 : b < s.tbins.length := H.cellOK id b hcell
  obtain ⟨ht, hc⟩ := T1.tree_chain I hl P.mx hcell
  have hchain : chainC s (cellAt s id) = chainOfBin s b := by rw [hcell]; rfl
  have hi' : i ∈ chainC s (cellAt s id) := by rw [hchain]; exact hi
  have hil : i < s.heap.length := (H.cinv id).chain_lt hi'
  obtain ⟨hcells, hcur, hresz, hnow, hhist, hthr, htlen, hsync, hbin, hcase⟩ :=
    unlinkOf_shape_g t ⟨pc', some p⟩ (by rw [← hchain]; exact (H.cinv id).nodup) hb0 hi
  have hcell' : cellAt s' id = .tree b := by rw [hcells]; exact hcell
  have hfields0 : ∀ j, (nodeAt s'.heap j).inTree = (nodeAt s.heap j).inTree ∧
      (nodeAt s'.heap j).owner = (nodeAt s.heap j).owner := by
    intro j
    rcases hcase with ⟨l2, _, hh, _⟩ | ⟨l1, pr, l2, _, hh, _⟩
    · rw [hh]; exact ⟨rfl, rfl⟩
    · rw [hh, nodeAt_modify]; split <;> exact ⟨rfl, rfl⟩
  have hlen0 : s'.heap.length = s.heap.length := by
    rcases hcase with ⟨l2, _, hh, _⟩ | ⟨l1, pr, l2, _, hh, _⟩
    · rw [hh]
    · rw [hh, List.length_modify]
  have hT : ∀ j, treeOf s' (cellAt s' id) j → treeOf s (cellAt s id) j := by
    intro j hj
    rw [hcell'] at hj
    rw [hcell]
    obtain ⟨h1, h2, b', hb', h3⟩ := hj
    cases hb'
    rw [hlen0] at h1
    rw [(hfields0 j).1] at h2
    rw [(hfields0 j).2] at h3
    exact ⟨h1, h2, b, rfl, h3⟩
  have hnm : cellAt s' id ≠ .moved := by rw [hcell']; exact fun h => by cases h
  obtain ⟨H', T, hs, hmem, -, hf, habs⟩ := sunlink_store (s' := s') (id := id) (i := i) H X W
    (by rw [hchain, hcell', hcell]; exact hcase) hT htlen
    (by intro b' hb'; exact hbin b' (fun e => hb' (by rw [e]; exact hcell)))
    (fun id' _ => hcells id') hcur (P.reusing hthr hl) (by rw [hcells]) hnm
  have hmem' : ∀ j, j ∈ chainOfBin s' b ↔ j ∈ chainOfBin s b ∧ j ≠ i := by
    intro j
    have := hmem j
    rw [hcell', hchain] at this
    exact this
  have hself : PcInv s' p pc' := by
    cases small
    · refine ⟨fun h => ((hmem' i).1 h).2 rfl, by rw [(hfields0 i).1]; exact hin0, by rw [hlen0]; exact hil, ?_⟩
      rw [(hfields0 i).2]
      have := H.chainOwner id i hi'
      rw [hcell] at this
      exact this
    · trivial
  have E : Eff s s' := by
    refine T1.eff_tree_store (pc' := pc') I hl P P' rfl (Or.inr (by cases small <;> rfl)) (by cases small <;> rfl) hself
      hthr hnow hhist htlen hsync hcells H' XS' T hs (fun h => (hf h).2.2.2.2) ?_ ?_
    · intro j hj ho hin hnc
      rw [hlen0] at hj
      rw [(hfields0 j).1] at hin; rw [(hfields0 j).2] at ho
      have hji : j = i := by
        apply Classical.byContradiction
        intro hne
        rcases ht j hj ho hin with h | ⟨_, _, e⟩ | ⟨_, _, e⟩
        · exact hnc ((hmem' j).2 ⟨h, hne⟩)
        · cases e
        · cases e
      subst hji
      cases small
      · exact Or.inl ⟨tab, res, rfl⟩
      · exact Or.inr ⟨tab, res, rfl⟩
    · intro j hj hin
      rw [(hfields0 j).1] at hin
      rcases hc j ((hmem' j).1 hj).1 with h | ⟨_, e⟩
      · rw [h] at hin; cases hin
      · cases e
  have habs1 := absOf_of_mem H X W hi'
  rw [hkey0] at habs1
  exact ⟨E, abs_update habs hkey0 (by rw [habs1]; exact hspec)⟩

end Flurry.Proto.BinGNP
