import Flurry.Lemmas.BinGExamples
import Flurry.Lemmas.BinGQuiescent
/-! # Proto/BinG at quiescence: kernel-checked instances (C05, non-vacuity)

The runs of `Lemmas/BinGExamples.lean`, looked at through `liveCells` / `entries`: quiescent?, the
three cells, the table pointer, the resize flag, the live cells, what an iterator yields, the abstract
state of the keys 0, 1, 2, every lock word free, the synchronisation words of every `TreeBin`. All by
`decide` (kernel evaluation of the model). -/
namespace Flurry.Proto.BinG
open Flurry.Lin

structure QView where
  quiescent : Bool
  cells : Cell × Cell × Cell
  cur : Tab
  resizing : Bool
  live : List Cell
  entries : List (Nat × (Nat × Nat))
  /-- the abstract state of the keys 0, 1, 2 -/
  abs : List KSt
  /-- every lock word of every node is free -/
  nodesUnlocked : Bool
  /-- mutex, write lock, waiter bit, readers of every `TreeBin` -/
  bins : List (Option Nat × Bool × Bool × Nat)
deriving DecidableEq, Repr

def qview (s : State) : QView :=
  ⟨quiescentB s, (s.cell0, s.lowCell, s.highCell), s.cur, s.resizing, liveCells s, entries s,
    (List.range 3).map (absOf s), s.heap.all (fun n => n.lock.isNone),
    s.tbins.map (fun b => (b.mutex, b.writer, b.waiter, b.readers))⟩

/-- before the resize (two inserts, one key per side, then a treeify): one live cell, the old one,
holding `TreeBin` 0; the cells of the next table are empty -/
theorem qview_before : (run step (init 4) setupBoth).map qview =
    some ⟨true, (.tree 0, .empty, .empty), .old, false, [.tree 0], [(1, (5, 100)), (0, (6, 101))],
      [some (6, 101), some (5, 100), none], true, [(none, false, false, 0)]⟩ := by decide +kernel

/-- after a tree-bin transfer that splits `TreeBin` 0 into two fresh `TreeBin`s (with a reader inside
the old bin all along, an update and a lookup in the new table): two live cells, key 0 in the low one,
key 1 in the high one, with the updated value -/
theorem qview_stale : (run step (init 4) schedStale).map qview =
    some ⟨true, (.moved, .tree 1, .tree 2), .new, true, [.tree 1, .tree 2], [(0, (6, 101)), (1, (7, 102))],
      [some (6, 101), some (7, 102), none], true,
      [(none, false, false, 0), (none, false, false, 0), (none, false, false, 0)]⟩ := by decide +kernel

/-- after a tree-bin transfer that re-uses the old `TreeBin` in the low cell (high side empty) -/
theorem qview_reuse : (run step (init 4) schedReuse).map qview =
    some ⟨true, (.moved, .tree 0, .empty), .new, true, [.tree 0, .empty], [(0, (5, 100)), (2, (7, 102))],
      [some (5, 100), none, some (7, 102)], true, [(none, false, false, 0)]⟩ := by decide +kernel

/-- after a tree-bin transfer into two plain lists (both sides small) -/
theorem qview_lists : (run step (init 4) schedLostLong).map qview =
    some ⟨true, (.moved, .list 4, .list 5), .new, true, [.list 4, .list 5], [(0, (6, 101)), (1, (7, 102))],
      [some (6, 101), some (7, 102), none], true, [(none, false, false, 0)]⟩ := by decide +kernel

theorem of_qview {sc : Sched} {v : QView} (h : (run step (init 4) sc).map qview = some v) (hq : v.quiescent = true) :
    ∃ s, Reachable 4 s ∧ quiescent s ∧ qview s = v := by
  cases hr : run step (init 4) sc with
  | none => rw [hr] at h; cases h
  | some s =>
    rw [hr] at h
    simp only [Option.map_some, Option.some.injEq] at h
    refine ⟨s, run_reachable _ .init hr, (quiescentB_iff s).1 ?_, h⟩
    have : (qview s).quiescent = true := by rw [h]; exact hq
    exact this

end Flurry.Proto.BinG
