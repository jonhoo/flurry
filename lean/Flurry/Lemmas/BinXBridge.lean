import Flurry.Lemmas.BinXEmbed
import Flurry.Lemmas.BinXCLin
/-! # `Proto/BinX`: the invariants are those of `Proto/BinXC` on the image of the state

`reachable_base`: the invariants of `Proto/BinXC` hold on the image of every reachable state of `Proto/BinX`;
`Inv.of_emb`, `GInv.of_emb` read `Proto/BinX`'s own `Inv`, `GInv` off them (`reachable_inv`, `reachable_ginv_aux`,
which `Props/C01BinX` states as `reachable_ginv`).
`BinXC.mem (emb r s) = memX s` (`mem_emb`), `s` with `resizing`, threads and history reset, and every memory-level
notion is the same on `memX s` and `s` (`HInv.of_memX`, `Good.of_memX`, `MemStep.of_memX`). Conversely `Inv.to_emb`: the
image of a state with `Inv` has `BinXC.Inv0`, so `BinXC.stepK_inv0` / `stepK_abs` give `stepK_inv` (every transition
preserves `Inv`, the ghost state updated by `tBuild`, by the store of the forwarding marker and by the CAS of the marker
into the empty old cell) and `stepK_abs` (a transition changes the abstract state of no key but that of the thread's own
call). Nothing is proved per transition of `Proto/BinX`. A new thread-level invariant of `Proto/BinX` is added to
`BinXC.Inv0`, proved there, and bridged in both directions (an `of_emb` and a `to_emb` lemma, as for `TInv` … `WInv`
here); a fact about the memory alone is proved by cases on `MemStep`. -/
namespace Flurry.Proto.BinX
open Flurry.Lin

/-- the shared memory and the clock of a state (what `BinXC.mem` keeps) -/
def memX (s : State) : State := { s with resizing := false, threads := [], hist := [] }

theorem cC_eC (c : Cell) : BinXC.cC (eC c) = c := by cases c <;> rfl
theorem cT_eT (c : Tab) : BinXC.cT (eT c) = c := by cases c <;> rfl

theorem mem_emb (r : List Nat) (s : State) : BinXC.mem (emb r s) = memX s := by
  simp only [BinXC.mem, emb, memX, map_cN_eN, cC_eC, cT_eT]

theorem HInv.of_memX {s : State} {g : Ghost} (H : HInv (memX s) g) : HInv s g := H.congr rfl rfl rfl rfl rfl
theorem HInv.memX {s : State} {g : Ghost} (H : HInv s g) : HInv (memX s) g := H.congr rfl rfl rfl rfl rfl

theorem thr_of_emb {r : List Nat} {s : State} {t : Nat} {l' : BinXC.Local} (hl' : (emb r s).threads[t]? = some l') :
    ∃ l, s.threads[t]? = some l ∧ eL l = l' := by
  rw [emb, List.getElem?_map] at hl'
  cases h : s.threads[t]? with
  | none => rw [h] at hl'; cases hl'
  | some l => rw [h] at hl'; exact ⟨l, rfl, Option.some.inj hl'⟩

theorem pcOp_emb {pc : Pc} {op : KOp} : BinXC.PcOp (ePc pc) op ↔ PcOp pc op := by cases pc <;> exact Iff.rfl
theorem isOp_emb {pc : Pc} : BinXC.isOp (ePc pc) ↔ isOp pc := by cases pc <;> exact Iff.rfl
theorem isT_emb {pc : Pc} : BinXC.isT (ePc pc) ↔ isT pc := by cases pc <;> exact Iff.rfl
theorem isMidPc_emb {pc : Pc} : BinXC.isMidPc (ePc pc) ↔ isMidPc pc := by cases pc <;> exact Iff.rfl
theorem holds_emb {pc : Pc} {h : Nat} : BinXC.Holds (ePc pc) h ↔ Holds pc h := by cases pc <;> exact Iff.rfl

theorem isC_emb {pc : Pc} : ¬ BinXC.isC (ePc pc) := by cases pc <;> exact id

theorem tabOf_emb (pc : Pc) : BinXC.tabOf (ePc pc) = (tabOf pc).map eT := by cases pc <;> rfl

theorem pcPh_emb {s : State} {g : Ghost} {pc : Pc} : BinXC.PcPh (memX s) g (ePc pc) ↔ PcPh s g pc := by
  have hn : ∀ o : Option Tab, o.map eT = some BinXC.Tab.new ↔ o = some Tab.new := fun o => by
    cases o with
    | none => simp
    | some tab => cases tab <;> simp [eT]
  cases pc
  case tCell | tCasMoved | tLock | tCheck | tBuild | tStoreLow | tStoreHigh | tStoreMoved | tUnlock | tCommit =>
    exact Iff.rfl
  all_goals
    show (BinXC.tabOf (ePc _) = _ → _) ↔ (tabOf _ = _ → _)
    rw [tabOf_emb]
    exact imp_congr_left (hn _)

theorem vcell_emb (l : Local) : BinXC.vcell (eL l) = vcell l := by
  obtain ⟨pc, call⟩ := l
  cases pc <;> cases call <;> first | rfl | (show some (cellId (BinXC.cT (eT _)) _, _) = _; rw [cT_eT]; rfl)

theorem walkOK_emb {s : State} {p : Pending} {pc : Pc} : BinXC.WalkOK (memX s) (eP p) (ePc pc) ↔ WalkOK s p pc := by
  cases pc
  case wFind tab _ _ _ => show Walk _ (chainH _ (cellOf _ (BinXC.cT (eT tab)) _)) _ _ _ ↔ _; rw [cT_eT]; exact Iff.rfl
  case wStore tab _ _ _ _ =>
    show (Walk _ (chainH _ (cellOf _ (BinXC.cT (eT tab)) _)) _ _ _ ∧ _) ↔ _; rw [cT_eT]; exact Iff.rfl
  all_goals exact Iff.rfl

theorem call_emb {l : Local} {p : Pending} (hp : l.call = some p) : (eL l).call = some (eP p) :=
  congrArg (Option.map eP) hp

theorem TInv.of_emb {r : List Nat} {s : State} (T : BinXC.TInv (emb r s)) : TInv s where
  opOK t l p hl hc := pcOp_emb.1 (T.opOK t (eL l) (eP p) (thr_emb hl) (call_emb hc))
  callOK t l hl := isOp_emb.symm.trans ((T.callOK t (eL l) (thr_emb hl)).trans (by
    show (l.call.map eP).isSome = true ↔ _; rw [Option.isSome_map]))
  histTime x hx := T.histTime (eH x) (List.mem_map_of_mem hx)
  pendTime t l p hl hc := T.pendTime t (eL l) (eP p) (thr_emb hl) (call_emb hc)
  uniqHP x hx t l p hl hc := T.uniqHP (eH x) (List.mem_map_of_mem hx) t (eL l) (eP p) (thr_emb hl) (call_emb hc)
  uniqPP t t' l l' p p' hl hl' hc hc' :=
    T.uniqPP t t' (eL l) (eL l') (eP p) (eP p') (thr_emb hl) (thr_emb hl') (call_emb hc) (call_emb hc')
  uniqHH := (List.pairwise_map (f := eH) (R := fun x y => x.2.inv ≠ y.2.inv)).1 T.uniqHH

theorem PInv.of_emb {r : List Nat} {s : State} {g : Ghost} (P : BinXC.PInv (emb r s) g) : PInv s g where
  pcPh t l hl := pcPh_emb.1 (mem_emb r s ▸ P.pcPh t (eL l) (thr_emb hl))
  uniqT t t' l l' hl hl' hT hT' := P.uniqT t t' (eL l) (eL l') (thr_emb hl) (thr_emb hl') (isT_emb.2 hT) (isT_emb.2 hT')
  resz t l hl hT := P.resz t (eL l) (thr_emb hl) (isT_emb.2 hT)
  noResz := P.noResz
  midHas lo hg hp := by
    obtain ⟨t, l', hl', hm⟩ := P.midHas lo hg hp
    obtain ⟨l, hl, rfl⟩ := thr_of_emb hl'
    exact ⟨t, l, hl, isMidPc_emb.1 hm⟩

theorem LInv.of_emb {r : List Nat} {s : State} (L : BinXC.LInv (emb r s)) : LInv s where
  lockHeld t l h hl hh := by
    have := L.lockHeld t (eL l) h (thr_emb hl) (holds_emb.2 hh)
    rwa [mem_emb] at this
  validated t l id h hl hv := by
    have := L.validated t (eL l) id h (thr_emb hl) ((vcell_emb l).trans hv)
    rw [mem_emb] at this
    exact ⟨this.1, holds_emb.1 this.2⟩

theorem WInv.of_emb {r : List Nat} {s : State} (W : BinXC.WInv (emb r s)) : WInv s where
  walk t l p hl hc := walkOK_emb.1 (mem_emb r s ▸ W.walk t (eL l) (eP p) (thr_emb hl) (call_emb hc))

theorem Inv.of_emb {r : List Nat} {s : State} {g : Ghost} (I : BinXC.Inv0 (emb r s) g) : Inv s g :=
  ⟨.of_memX (mem_emb r s ▸ I.heap), .of_emb I.thr, .of_emb I.ph, .of_emb I.lock, .of_emb I.walk⟩

theorem emb_init (n : Nat) : emb [] (init n) = BinXC.init n := by
  simp only [emb, init, BinXC.init, List.map_replicate, List.map_nil]
  rfl

theorem reachable_base {n : Nat} {s : State} (hr : Reachable n s) (k : Nat) :
    ∃ r G A pt, BinXC.Inv (emb r s) G ∧ BinXC.GInv k (emb r s) G A pt := by
  induction hr with
  | init => exact ⟨[], _, _, _, emb_init n ▸ BinXC.init_inv n, emb_init n ▸ BinXC.init_ginv n k⟩
  | @step s s' t inv rz _ hs ih =>
    obtain ⟨r, G, A, pt, I, g⟩ := ih
    cases hl : s.threads[t]? with
    | none => unfold step stepG at hs; rw [hl] at hs; cases hs
    | some l =>
      obtain ⟨r', hk⟩ := (step_stepK hl hs).base r
      obtain ⟨G', A', pt', I', g'⟩ := BinXC.ginv_step g I (thr_emb hl) hk
      exact ⟨r', G', A', pt', I', g'⟩

theorem absOf_emb (r : List Nat) (s : State) (k : Nat) : BinXC.absOf (emb r s) k = absOf s k := by
  rw [← BinXC.absOf_mem, mem_emb]; rfl

theorem callsOn_emb (r : List Nat) (s : State) (k : Nat) : BinXC.callsOn (emb r s) k = callsOn s k := by
  show (((s.hist.map eH).filter _).reverse.map _) = ((s.hist.filter _).reverse.map _)
  rw [List.filter_map, ← List.map_reverse, List.map_map]
  have : ((fun e : Option Nat × Call => e.1 == some k || e.1 == none) ∘ eH) = fun e => e.1 == k := by
    funext e; simp [eH]
  rw [this]; rfl

theorem extOf_emb (k now t : Nat) (l : Local) : BinXC.extOf k now t (eL l) = extOf k now t l := by
  obtain ⟨pc, call⟩ := l
  cases call with
  | none => cases pc <;> first | rfl | (rename_i b; cases b <;> rfl)
  | some p =>
    cases pc
    case wUnlock tab h res b =>
      cases b
      · show Option.map _ (if p.key = k then _ else _) = if p.key = k then _ else _
        split <;> rfl
      · rfl
    all_goals rfl

theorem extCalls_emb (r : List Nat) (s : State) (k : Nat) : BinXC.extCalls (emb r s) k = extCalls s k := by
  show (List.range (s.threads.map eL).length).filterMap _ = (List.range s.threads.length).filterMap _
  rw [List.length_map]
  refine congrArg (fun f => (List.range s.threads.length).filterMap f) (funext fun t => ?_)
  show ((s.threads.map eL)[t]?).bind _ = _
  rw [List.getElem?_map]
  cases s.threads[t]? with
  | none => rfl
  | some l => exact extOf_emb k s.now t l

theorem callsOnExt_emb (r : List Nat) (s : State) (k : Nat) : BinXC.callsOnExt (emb r s) k = callsOnExt s k := by
  rw [BinXC.callsOnExt, callsOn_emb, extCalls_emb]; rfl

theorem Good.of_memX {cr : CR} {A : Nat → KSt} {k inv : Nat} {s : State} {cur : Option Nat}
    (h : Good cr A k inv (memX s) cur) : Good cr A k inv s cur := by
  induction h with
  | absent h1 h2 h3 => exact .absent h1 h2 h3
  | on h1 h2 => exact .on h1 h2
  | foreign h1 h2 h3 h4 h5 => exact .foreign h1 h2 h3 h4 h5
  | off h1 h2 _ h4 ih => exact .off h1 h2 ih h4

theorem GInv.of_emb {r : List Nat} {k : Nat} {s : State} {G : Ghost} {A : Nat → KSt} {pt : Nat → Nat}
    (g : BinXC.GInv k (emb r s) G A pt) : GInv k s G A pt where
  h0 := g.h0
  hA := g.hA.trans (absOf_emb r s k)
  calls := callsOnExt_emb r s k ▸ g.calls
  stab := callsOnExt_emb r s k ▸ g.stab
  inj := callsOnExt_emb r s k ▸ g.inj
  readers t l p cur hl hc hk hpc :=
    .of_memX (mem_emb r s ▸ g.readers t (eL l) (eP p) cur (thr_emb hl) (call_emb hc) hk (congrArg ePc hpc))

theorem reachable_ginv_aux {n : Nat} {s : State} (hr : Reachable n s) (k : Nat) :
    ∃ G A pt, Inv s G ∧ GInv k s G A pt :=
  let ⟨_, G, A, pt, I, g⟩ := reachable_base hr k
  ⟨G, A, pt, .of_emb I.to0, .of_emb g⟩

theorem reachable_inv {n : Nat} {s : State} (hr : Reachable n s) : ∃ g, Inv s g :=
  let ⟨_, g, _, _, I, _⟩ := reachable_base hr 0
  ⟨g, .of_emb I.to0⟩

theorem call_of_emb {l : Local} {p' : BinXC.Pending} (hc : (eL l).call = some p') : ∃ p, l.call = some p ∧ eP p = p' := by
  obtain ⟨pc, call⟩ := l
  cases call with
  | none => cases hc
  | some p => exact ⟨p, rfl, Option.some.inj hc⟩

theorem hist_of_emb {r : List Nat} {s : State} {x : Option Nat × Call} (hx : x ∈ (emb r s).hist) :
    ∃ y ∈ s.hist, eH y = x := List.mem_map.1 hx

theorem TInv.to_emb {r : List Nat} {s : State} (T : TInv s) : BinXC.TInv (emb r s) where
  opOK t l' p' hl' hc' := by
    obtain ⟨l, hl, rfl⟩ := thr_of_emb hl'
    obtain ⟨p, hc, rfl⟩ := call_of_emb hc'
    exact pcOp_emb.2 (T.opOK t l p hl hc)
  callOK t l' hl' := by
    obtain ⟨l, hl, rfl⟩ := thr_of_emb hl'
    exact isOp_emb.trans ((T.callOK t l hl).trans (by show _ ↔ (l.call.map eP).isSome = true; rw [Option.isSome_map]))
  histTime x hx := by
    obtain ⟨y, hy, rfl⟩ := hist_of_emb hx
    exact T.histTime y hy
  pendTime t l' p' hl' hc' := by
    obtain ⟨l, hl, rfl⟩ := thr_of_emb hl'
    obtain ⟨p, hc, rfl⟩ := call_of_emb hc'
    exact T.pendTime t l p hl hc
  uniqHP x hx t l' p' hl' hc' := by
    obtain ⟨y, hy, rfl⟩ := hist_of_emb hx
    obtain ⟨l, hl, rfl⟩ := thr_of_emb hl'
    obtain ⟨p, hc, rfl⟩ := call_of_emb hc'
    exact T.uniqHP y hy t l p hl hc
  uniqPP t t' l1 l2 p1 p2 h1 h2 c1 c2 := by
    obtain ⟨l, hl, rfl⟩ := thr_of_emb h1
    obtain ⟨l', hl', rfl⟩ := thr_of_emb h2
    obtain ⟨p, hc, rfl⟩ := call_of_emb c1
    obtain ⟨p', hc', rfl⟩ := call_of_emb c2
    exact T.uniqPP t t' l l' p p' hl hl' hc hc'
  uniqHH := (List.pairwise_map (f := eH) (R := fun x y => x.2.inv ≠ y.2.inv)).2 T.uniqHH

theorem PInv.to_emb {r : List Nat} {s : State} {g : Ghost} (P : PInv s g) : BinXC.PInv (emb r s) g where
  pcPh t l' hl' := by
    obtain ⟨l, hl, rfl⟩ := thr_of_emb hl'
    exact mem_emb r s ▸ pcPh_emb.2 (P.pcPh t l hl)
  uniqT t t' l1 l2 h1 h2 hT hT' := by
    obtain ⟨l, hl, rfl⟩ := thr_of_emb h1
    obtain ⟨l', hl', rfl⟩ := thr_of_emb h2
    exact P.uniqT t t' l l' hl hl' (isT_emb.1 hT) (isT_emb.1 hT')
  resz t l' hl' hT := by
    obtain ⟨l, hl, rfl⟩ := thr_of_emb hl'
    exact P.resz t l hl (isT_emb.1 hT)
  noResz := P.noResz
  midHas lo hg hp :=
    let ⟨t, l, hl, hm⟩ := P.midHas lo hg hp
    ⟨t, eL l, thr_emb hl, isMidPc_emb.2 hm⟩

theorem LInv.to_emb {r : List Nat} {s : State} (L : LInv s) : BinXC.LInv (emb r s) where
  lockHeld t l' h hl' hh := by
    obtain ⟨l, hl, rfl⟩ := thr_of_emb hl'
    rw [mem_emb]
    exact L.lockHeld t l h hl (holds_emb.1 hh)
  validated t l' id h hl' hv := by
    obtain ⟨l, hl, rfl⟩ := thr_of_emb hl'
    rw [mem_emb]
    have := L.validated t l id h hl ((vcell_emb l).symm.trans hv)
    exact ⟨this.1, holds_emb.2 this.2⟩

theorem WInv.to_emb {r : List Nat} {s : State} (W : WInv s) : BinXC.WInv (emb r s) where
  walk t l' p' hl' hc' := by
    obtain ⟨l, hl, rfl⟩ := thr_of_emb hl'
    obtain ⟨p, hc, rfl⟩ := call_of_emb hc'
    exact mem_emb r s ▸ walkOK_emb.2 (W.walk t l p hl hc)

/-- with an empty retired list -/
theorem Inv.to_emb {s : State} {g : Ghost} (I : Inv s g) : BinXC.Inv0 (emb [] s) g :=
  ⟨mem_emb [] s ▸ I.heap.memX, I.thr.to_emb, I.ph.to_emb, I.lock.to_emb, I.walk.to_emb, ⟨fun _ h => nomatch h⟩⟩

theorem getCell_memX (s : State) (id : CellId) : getCell (memX s) id = getCell s id := by cases id <;> rfl

theorem Update.of_memX {s s' : State} {g : Ghost} {id : CellId} {C' : List Nat}
    (u : Update (memX s) (memX s') g id C') : Update s s' g id C' where
  nextOK := u.nextOK
  len := u.len
  cell id' h := by have := u.cell id' h; rwa [getCell_memX, getCell_memX] at this
  cur := u.cur
  notMoved := by have := u.notMoved; rwa [getCell_memX] at this
  chain := by have := u.chain; rwa [getCell_memX] at this
  other j hj hn := u.other j hj (by rwa [chId, getCell_memX])
  keys := u.keys
  side := u.side

theorem Effect.of_memX {s s' : State} {g : Ghost} {id : CellId} (e : Effect (memX s) (memX s') g id) :
    Effect s s' g id :=
  let ⟨C', u, hs, hlk⟩ := e
  ⟨C', u.of_memX, ⟨hs.len, hs.key, hs.ordS, hs.movedMono, hs.off, hs.lc, hs.unl⟩, hlk⟩

theorem MemStep.of_memX {s s' : State} {v : Option (CellId × Nat)} {g g' : Ghost}
    (m : MemStep (memX s) (memX s') v g g') : MemStep s s' v g g' := by
  cases m with
  | same h1 h2 h3 h4 h5 => exact .same h1 h2 h3 h4 h5
  | lock i x h1 h2 h3 h4 h5 => exact .lock i x h1 h2 h3 h4 h5
  | upd id a e h => exact .upd id a e.of_memX (getCell_memX s id ▸ h)
  | clear id h a u hh hv => exact .clear id h a u.of_memX hh hv
  | build h hp hv hc h1 h2 h3 h4 h5 => exact .build h hp hv hc h1 h2 h3 h4 h5
  | storeNew lo hg hp h1 h2 h3 h4 h5 => exact .storeNew lo hg hp h1 h2 h3 h4 h5
  | casMoved hp hc h1 h2 h3 h4 h5 => exact .casMoved hp hc h1 h2 h3 h4 h5
  | commit hp h1 h2 h3 h4 => exact .commit hp h1 h2 h3 h4
  | moved h lo hg hp hv hl hh h1 h2 h3 h4 h5 => exact .moved h lo hg hp hv hl hh h1 h2 h3 h4 h5

theorem stepK_inv {s s' : State} {g : Ghost} {t : Nat} {l : Local} (I : Inv s g)
    (hl : s.threads[t]? = some l) (hk : StepK s t l s') : ∃ g', MemStep s s' (vcell l) g g' ∧ Inv s' g' := by
  obtain ⟨r', hk'⟩ := hk.base []
  obtain ⟨g', m, I'⟩ := BinXC.stepK_inv0 I.to_emb (thr_emb hl) hk'
  rw [mem_emb, mem_emb, vcell_emb] at m
  exact ⟨g', m.of_memX, .of_emb I'⟩

theorem stepK_abs {s s' : State} {g : Ghost} {t : Nat} {l : Local} (I : Inv s g) (hl : s.threads[t]? = some l)
    (hk : StepK s t l s') {k : Nat} (hkey : ∀ p, l.call = some p → p.key ≠ k) : absOf s' k = absOf s k := by
  obtain ⟨r', hk'⟩ := hk.base []
  rw [← absOf_emb r', ← absOf_emb []]
  refine BinXC.stepK_abs I.to_emb (thr_emb hl) hk' fun p' hp' => ?_
  obtain ⟨p, hp, rfl⟩ := call_of_emb hp'
  exact ⟨hkey p hp, isC_emb⟩

theorem isT_not_isOp {pc : Pc} (h : isT pc) : ¬ isOp pc := by
  cases pc with
  | tCell | tCasMoved | tLock _ | tCheck _ | tBuild _ | tStoreLow _ _ _ | tStoreHigh _ _ | tStoreMoved _ | tUnlock _
  | tCommit => exact id
  | _ => exact h.elim

end Flurry.Proto.BinX
