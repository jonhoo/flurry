import Flurry.Lemmas.BinGNQuiescent
import Flurry.Lemmas.BinGNExamples
/-! # Proto/BinGN at quiescence: kernel-checked reachable states (non-vacuity of C05 for any number of resizes)

The runs of `Lemmas/BinGNExamples.lean` (two complete resizes, tree bins that are split, re-used, re-used again),
with the quiescent view computed by `decide`: the live cells are the four cells of generation 2, the entries the
iterator yields, the abstract state of the keys `0 … 5`, all lock words. And one NON-quiescent state (between the
store of the forwarding marker of `(0, 0)` and the commit): the live cells are the two children. -/
namespace Flurry.Proto.BinGNQ
open Flurry.Lin
open Flurry.Proto.BinGNP
open Flurry.Proto.BinGN (Sched run quiescentB quiescentB_iff run_reachable schedStale2 schedReuse2 setupBoth rz xferTree)

/-- what is computed of a state -/
structure QView where
  quiescent : Bool
  cur : Nat
  resizing : Bool
  tabs : List (List Cell)
  live : List Cell
  entries : List (Nat × (Nat × Nat))
  /-- the abstract state of the keys `0 … 5` -/
  abs : List (Option (Nat × Nat))
  nodesUnlocked : Bool
  /-- per `TreeBin`: mutex, write lock, waiter bit, reader count -/
  bins : List (Option Nat × Bool × Bool × Nat)
deriving DecidableEq, Repr

def qview (s : State) : QView :=
  ⟨quiescentB s, s.cur, s.resizing, s.tabs, liveCells s, entries s, (List.range 6).map (absOf s),
    s.heap.all (fun n => n.lock.isNone), s.tbins.map (fun b => (b.mutex, b.writer, b.waiter, b.readers))⟩

theorem of_qview {sc : Sched} {v : QView} (h : (run step (init 4) sc).map qview = some v) :
    ∃ s, Reachable 4 s ∧ (v.quiescent = true → quiescent s) ∧ qview s = v := by
  cases hr : run step (init 4) sc with
  | none => rw [hr] at h; cases h
  | some s =>
    rw [hr] at h
    simp only [Option.map_some, Option.some.injEq] at h
    refine ⟨s, run_reachable _ .init hr, ?_, h⟩
    intro hq
    rw [← h] at hq
    exact (quiescentB_iff s).1 hq

/-- `schedStale2`: `TreeBin` 0 `{1,3,5,0}` split into two fresh `TreeBin`s by resize `0 → 1`; resize `1 → 2` re-uses
bin 1 in `(2,0)` and splits bin 2 into the fresh `TreeBin` 3 `{1,5}` in `(2,1)` and the plain list `[3]` in `(2,3)`;
a reader and a writer that slept inside the long dead bin 0 through both resizes -/
theorem qview_stale2 : (run step (init 4) schedStale2).map qview =
    some ⟨true, 2, false, [[.moved], [.moved, .moved], [.tree 1, .tree 3, .empty, .list 14]],
      [.tree 1, .tree 3, .empty, .list 14], [(0, (3, 103)), (1, (9, 105)), (5, (4, 102)), (3, (8, 104))],
      [some (3, 103), some (9, 105), none, some (8, 104), none, some (4, 102)], true,
      [(none, false, false, 0), (none, false, false, 0), (none, false, false, 0), (none, false, false, 0)]⟩ := by
  decide +kernel

/-- `schedReuse2`: the one `TreeBin` re-used by both resizes -/
theorem qview_reuse2 : (run step (init 4) schedReuse2).map qview =
    some ⟨true, 2, false, [[.moved], [.moved, .moved], [.tree 0, .empty, .empty, .empty]],
      [.tree 0, .empty, .empty, .empty], [(0, (5, 100)), (4, (7, 102))],
      [some (5, 100), none, none, none, some (7, 102), none], true, [(none, false, false, 0)]⟩ := by
  decide +kernel

/-- a resize in progress: `TreeBin` 0 `{1,3,5,0}` of cell `(0,0)` has been transferred (marker stored, mutex
released), the resizing thread 3 is back at `xNext`, the table pointer still refers to generation 0 -/
def schedMid : Sched := setupBoth ++ rz 3 ++ xferTree 3 0 false false

/-- the live cells of the NON-quiescent state after `schedMid` are the two children `(1,0) = tree 1`, `(1,1) = tree 2`
of the forwarded cell `(0,0)`; the entries on their lists are the abstract state -/
theorem qview_mid : (run step (init 4) schedMid).map qview =
    some ⟨false, 0, true, [[.moved], [.tree 1, .tree 2]], [.tree 1, .tree 2],
      [(0, (3, 103)), (1, (5, 100)), (3, (6, 101)), (5, (4, 102))],
      [some (3, 103), some (5, 100), none, some (6, 101), none, some (4, 102)], true,
      [(none, false, false, 0), (none, false, false, 0), (none, false, false, 0)]⟩ := by
  decide +kernel

end Flurry.Proto.BinGNQ
