import Flurry.Lemmas.LinBasic
import Flurry.Lemmas.LinSearch
import Flurry.Lemmas.LinPoints
import Flurry.Lemmas.LinTrace
import Flurry.Lemmas.Lin2Trace
import Flurry.Lemmas.Lin2CondRm
import Flurry.Lemmas.LinLocal
/-! # The lemmas about `Lin`, `Lin2` and `LinMap`, gathered

This file imports the whole family except `LinCounter` (C08: a counter created by an `ins` of the history), which
imports this file. `LinGen`: any type of calls, list form. `Lin2Basic`, `Lin2Search`, `Lin2Points`, `Lin2Trace`: the facts
about `Lin2` (`Lin` with one more operation, `condRm`); `Lin2CondRm` (C13): what the specification of `condRm` implies.
`LinEmbed`: a history of `Lin` and its image under `embCall` in `Lin2` have the same specification, `replay`,
`Linearizable`, `validate`, `search`. `LinBasic`, `LinSearch`, `LinPoints`, `LinTrace` hold the same facts for `Lin`.
Read off `Lin2` through `embCall`: `validate_iff`, `linearizable_iff_pairwise` (`LinBasic`), `search_sound`,
`search_isSome_iff` (`LinSearch`), `replay_append`, `lin_of_points`, `lin_of_points_sorted`, `spec_cipInc_counts`,
`lin_snoc_get` (`LinPoints`). Stated for `Lin` directly, beside their twins: `rtOk`, `kstep`, `krt`, `replay_eq_runI`,
`linearizable_iff_linL` (`LinBasic`), `replay_cons_some`, `replay_cons_eq_some` (`LinSearch`), the `spec_*` facts about one or
two steps of `specStep` (`LinPoints`), `lin_of_trace` (`LinTrace`). `LinLocal` (namespace `LinMap`): locality for the map object. -/
