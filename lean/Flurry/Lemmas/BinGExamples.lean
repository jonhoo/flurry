import Flurry.Proto.BinG
import Flurry.Lemmas.LinSearch
/-! # Proto/BinG: the model exercised by execution (random schedule explorer) and three kernel-checked runs

* `explore`: a seeded random scheduler over `step` / `stepNoCheck` (any number of threads, calls on a few
  keys of both `hiBit` values, treeify, the resize, iterators, both `small` decisions at random), which
  drains every thread to `idle` and then decides `Linearizable (callsOn s k) none (absOf s k)` for every
  key with the complete search of `Lemmas/LinSearch.lean`; it reports the coverage of `Pc`
  constructors, of the four per-side outcomes of a tree-bin transfer, of failed re-checks and of lock
  waits across a transfer, and returns the first schedule that is not linearizable;
* kernel-checked runs (`decide`): a tree-bin transfer that re-uses the old `TreeBin`, a tree-bin
  transfer with a writer queued on the mutex and a reader inside the old bin, and the refutation of
  `stepNoCheck`.

Exploration done before any proof (compiled with `lake env lean --run`; seeds / sizes as arguments):
70 000 schedules of `step` (2, 3 and 4 threads, 150–300 random steps + drain, up to 14 calls on 2–4
keys of both `hiBit` values, up to 4 treeify starts, one resize): every run drained to quiescence and
every per-key history (up to 12 calls) linearizable; all 91 tags of `pcTag` (every `Pc` constructor, per
table, with / without retry) reached; all nine combinations of the per-side outcomes of a tree-bin
transfer (empty / small list / re-used `TreeBin` / fresh `TreeBin`) reached several hundred times each;
tens of thousands of failed re-checks after the forwarding and of lock waits across a transfer
(`wLock`, `tMutex`, `kLock`). With `stepNoCheck` non-linearizable runs are found within a few runs.
The structural invariant `Inv` of `Lemmas/BinGInv.lean` and the per-transition facts `Eff` of
`Lemmas/BinGFacts.lean` were also checked by execution (3 000 runs each) before they were proved. -/
namespace Flurry.Proto.BinG
open Flurry.Lin

/-- one scheduler decision: the arguments of `step` -/
structure Act where
  t : Nat
  inv : Option (Nat × KOp) := none
  lo : Bool := false
  maint : Option Nat := none
  rz : Bool := false
  sm : Bool := false
  sm2 : Bool := false
deriving Repr, DecidableEq

abbrev Sched := List Act

abbrev StepFn := State → Nat → Option (Nat × KOp) → Bool → Option Nat → Bool → Bool → Bool → Option State

def act (f : StepFn) (s : State) (a : Act) : Option State := f s a.t a.inv a.lo a.maint a.rz a.sm a.sm2

/-- run a schedule (`none` if some step is not enabled) -/
def run (f : StepFn) : State → Sched → Option State
  | s, [] => some s
  | s, a :: rest =>
    match act f s a with
    | none => none
    | some s' => run f s' rest

theorem run_reachable {n : Nat} : ∀ (sc : Sched) {s s' : State}, Reachable n s → run step s sc = some s' →
    Reachable n s'
  | [], s, s', hr, h => by simp only [run, Option.some.injEq] at h; exact h ▸ hr
  | a :: rest, s, s', hr, h => by
    simp only [run] at h
    cases hs : act step s a with
    | none => rw [hs] at h; cases h
    | some s1 => rw [hs] at h; exact run_reachable rest (.step a.t a.inv a.lo a.maint a.rz a.sm a.sm2 hr hs) h

theorem run_reachableNoCheck {n : Nat} : ∀ (sc : Sched) {s s' : State}, ReachableNoCheck n s →
    run stepNoCheck s sc = some s' → ReachableNoCheck n s'
  | [], s, s', hr, h => by simp only [run, Option.some.injEq] at h; exact h ▸ hr
  | a :: rest, s, s', hr, h => by
    simp only [run] at h
    cases hs : act stepNoCheck s a with
    | none => rw [hs] at h; cases h
    | some s1 => rw [hs] at h; exact run_reachableNoCheck rest (.step a.t a.inv a.lo a.maint a.rz a.sm a.sm2 hr hs) h

def quiescentB (s : State) : Bool := s.threads.all (fun l => l.pc == .idle)

theorem quiescentB_iff (s : State) : quiescentB s = true ↔ quiescent s := by
  unfold quiescentB quiescent
  simp [List.all_eq_true]

def linB (s : State) (k : Nat) : Bool := (search (callsOn s k) none (absOf s k)).isSome

theorem linB_iff (s : State) (k : Nat) : linB s k = true ↔ Linearizable (callsOn s k) none (absOf s k) :=
  search_isSome_iff

theorem linB_false_iff (s : State) (k : Nat) : linB s k = false ↔ ¬ Linearizable (callsOn s k) none (absOf s k) := by
  rw [← linB_iff]; cases linB s k <;> simp

/-! ## the explorer (`#eval` only) -/

def pcTag : Pc → String
  | .idle => "idle"
  | .rTable lo => if lo then "rTable.it" else "rTable"
  | .rCell lo tab => (if lo then "rCell.it" else "rCell") ++ (if tab == .old then ".old" else ".new")
  | .rNode _ => "rNode"
  | .rFirst _ => "rFirst"
  | .rState _ _ => "rState"
  | .rLin _ _ => "rLin"
  | .rCas _ _ _ => "rCas"
  | .rTree _ => "rTree"
  | .rRelease _ _ => "rRelease"
  | .rVal _ => "rVal"
  | .lFirst _ => "lFirst"
  | .lNode _ => "lNode"
  | .wTable => "wTable"
  | .wCell tab => if tab == .old then "wCell.old" else "wCell.new"
  | .wCas tab => if tab == .old then "wCas.old" else "wCas.new"
  | .wLock tab _ => if tab == .old then "wLock.old" else "wLock.new"
  | .wCheck tab _ => if tab == .old then "wCheck.old" else "wCheck.new"
  | .wFind tab _ _ _ => if tab == .old then "wFind.old" else "wFind.new"
  | .wStore tab _ _ _ _ => if tab == .old then "wStore.old" else "wStore.new"
  | .wUnlock tab _ _ retry => (if tab == .old then "wUnlock.old" else "wUnlock.new") ++ (if retry then ".retry" else "")
  | .tMutex tab _ => if tab == .old then "tMutex.old" else "tMutex.new"
  | .tCheck tab _ => if tab == .old then "tCheck.old" else "tCheck.new"
  | .tFind tab _ => if tab == .old then "tFind.old" else "tFind.new"
  | .tVal tab _ _ _ _ => if tab == .old then "tVal.old" else "tVal.new"
  | .lrTry tab _ _ _ => if tab == .old then "lrTry.old" else "lrTry.new"
  | .lrLoop tab _ _ _ => if tab == .old then "lrLoop.old" else "lrLoop.new"
  | .tPrependLocked tab _ => if tab == .old then "tPrependLocked.old" else "tPrependLocked.new"
  | .tTreeLinkLocked tab _ _ => if tab == .old then "tTreeLinkLocked.old" else "tTreeLinkLocked.new"
  | .tUnlinkLocked tab _ _ _ => if tab == .old then "tUnlinkLocked.old" else "tUnlinkLocked.new"
  | .tRestructure tab _ _ _ => if tab == .old then "tRestructure.old" else "tRestructure.new"
  | .tUnlockRoot tab _ _ => if tab == .old then "tUnlockRoot.old" else "tUnlockRoot.new"
  | .tUntreeify tab _ _ => if tab == .old then "tUntreeify.old" else "tUntreeify.new"
  | .tUnlockM tab _ _ retry => (if tab == .old then "tUnlockM.old" else "tUnlockM.new") ++ (if retry then ".retry" else "")
  | .kTable _ => "kTable"
  | .kCell tab _ => if tab == .old then "kCell.old" else "kCell.new"
  | .kLock tab _ _ => if tab == .old then "kLock.old" else "kLock.new"
  | .kCheck tab _ _ => if tab == .old then "kCheck.old" else "kCheck.new"
  | .kBuild tab _ _ => if tab == .old then "kBuild.old" else "kBuild.new"
  | .kStore tab _ _ _ => if tab == .old then "kStore.old" else "kStore.new"
  | .kUnlock _ => "kUnlock"
  | .xCell => "xCell"
  | .xCasMoved => "xCasMoved"
  | .xLock _ => "xLock"
  | .xCheck _ => "xCheck"
  | .xBuild _ => "xBuild"
  | .yMutex _ => "yMutex"
  | .yCheck _ => "yCheck"
  | .yBuild _ => "yBuild"
  | .xStoreLow (.inl _) _ _ => "xStoreLow.list"
  | .xStoreLow (.inr _) _ _ => "xStoreLow.tree"
  | .xStoreHigh (.inl _) _ => "xStoreHigh.list"
  | .xStoreHigh (.inr _) _ => "xStoreHigh.tree"
  | .xStoreMoved (.inl _) => "xStoreMoved.list"
  | .xStoreMoved (.inr _) => "xStoreMoved.tree"
  | .xUnlock (.inl _) => "xUnlock.list"
  | .xUnlock (.inr _) => "xUnlock.tree"
  | .xCommit => "xCommit"

abbrev Cov := List (String × Nat)

def Cov.bump (c : Cov) (k : String) : Cov :=
  match c with
  | [] => [(k, 1)]
  | (k', n) :: rest => if k' == k then (k', n + 1) :: rest else (k', n) :: Cov.bump rest k

def rngNext (x : Nat) : Nat := (x * 6364136223846793005 + 1442695040888963407) % 18446744073709551616
/-- a number below `n` from the high bits -/
def rngPick (x n : Nat) : Nat := (x / 4294967296) % n

/-- does the thread still work in the old table although the old cell is forwarded -/
def pcOldTab : Pc → Bool
  | .wCell .old | .wCas .old | .wLock .old _ | .wCheck .old _ | .wFind .old _ _ _ | .wStore .old _ _ _ _
  | .wUnlock .old _ _ _ | .tMutex .old _ | .tCheck .old _ | .tFind .old _ | .tVal .old _ _ _ _
  | .lrTry .old _ _ _ | .lrLoop .old _ _ _ | .tUnlockM .old _ _ _ | .kCell .old _ | .kLock .old _ _
  | .kCheck .old _ _ | .rCell _ .old => true
  | _ => false

def sideTag (b : Nat) : Cell → String
  | .empty => "empty"
  | .list _ => "smallList"
  | .tree b' => if b' == b then "reusedTreeBin" else "freshTreeBin"
  | .moved => "moved?"

def isResizerLockPc : Pc → Bool
  | .xCheck _ | .xBuild _ | .yCheck _ | .yBuild _ | .xStoreLow _ _ _ | .xStoreHigh _ _ | .xStoreMoved _ | .xUnlock _ => true
  | _ => false

/-- coverage events of one executed step `s —a→ s'` -/
def events (s s' : State) (a : Act) (c : Cov) : Cov := Id.run do
  let mut c := c
  let l' := s'.threads.getD a.t {}
  let l := s.threads.getD a.t {}
  c := c.bump ("pc:" ++ pcTag l'.pc)
  match l.pc, l'.pc with
  | .yBuild b, .xStoreLow _ lo hi =>
    c := c.bump ("treeTransfer.low:" ++ sideTag b lo)
    c := c.bump ("treeTransfer.high:" ++ sideTag b hi)
    c := c.bump ("treeTransfer:" ++ sideTag b lo ++ "/" ++ sideTag b hi)
  | .xBuild _, .xStoreLow _ lo hi =>
    c := c.bump ("listTransfer:" ++ sideTag 0 lo ++ "/" ++ sideTag 0 hi)
  | _, _ => pure ()
  -- the forwarding store: who is inside the old structure right now
  if s.cell0 != .moved && s'.cell0 == .moved then
    for l in s'.threads do
      if l.call.isSome then
        match l.pc with
        | .rTable _ | .wTable | .idle => pure ()
        | pc => c := c.bump ("insideAtForward:" ++ pcTag pc)
  if s'.cell0 == .moved && pcOldTab l'.pc then c := c.bump ("oldTabAfterForward:" ++ pcTag l'.pc)
  return c

/-- a blocked step: is the lock held by the resizing thread -/
def blockedEvent (s : State) (t : Nat) (c : Cov) : Cov :=
  let l := s.threads.getD t {}
  let holderPc (o : Option Nat) : Pc := match o with | some u => (s.threads.getD u {}).pc | none => .idle
  match l.pc with
  | .tMutex _ b =>
    if isResizerLockPc (holderPc (s.tbins.getD b dfltB).mutex) then c.bump "waitsForTransfer:tMutex" else c.bump "blocked:tMutex"
  | .wLock _ h =>
    if isResizerLockPc (holderPc (s.heap.getD h dflt).lock) then c.bump "waitsForTransfer:wLock" else c.bump "blocked:wLock"
  | .kLock _ _ h =>
    if isResizerLockPc (holderPc (s.heap.getD h dflt).lock) then c.bump "waitsForTransfer:kLock" else c.bump "blocked:kLock"
  | .xLock _ => c.bump "blocked:xLock"
  | .yMutex _ => c.bump "blocked:yMutex"
  | .lrLoop _ _ _ _ => c.bump "blocked:lrLoop"
  | pc => c.bump ("blocked?:" ++ pcTag pc)

structure Cfg where
  nthreads : Nat := 3
  keys : List Nat := [0, 1, 2]
  /-- random steps before the drain -/
  steps : Nat := 120
  /-- calls started at most -/
  calls : Nat := 10
  /-- treeify starts at most -/
  maints : Nat := 3
  /-- percentages for an idle thread -/
  pResize : Nat := 4
  pMaint : Nat := 10
  pCall : Nat := 60
  noCheck : Bool := false

def mkOp (r : Nat) (vi : Nat) : KOp :=
  match r % 12 with
  | 0 | 1 | 2 | 3 => .ins (vi % 7) vi
  | 4 | 5 => .rm
  | 6 | 7 => .get
  | 8 => .has
  | 9 => .tryIns (vi % 7) vi
  | 10 => .cipInc vi
  | _ => .get

structure Out where
  cov : Cov
  bad : Option (Sched × Nat)
  runs : Nat
  quiescentRuns : Nat
  maxHist : Nat

/-- one random schedule: returns the executed schedule, the final state and the coverage -/
def oneRun (cfg : Cfg) (seed : Nat) (cov : Cov) : Sched × State × Cov := Id.run do
  let f : StepFn := if cfg.noCheck then stepNoCheck else step
  let mut s := init cfg.nthreads
  let mut rng := seed
  let mut sc : Array Act := #[]
  let mut cov := cov
  let mut calls := 0
  let mut maints := 0
  for _ in [0:cfg.steps] do
    rng := rngNext rng
    let t := rngPick rng cfg.nthreads
    rng := rngNext rng
    let l := s.threads.getD t {}
    let mut a : Act := { t := t }
    if l.pc == .idle then
      let r := rngPick rng 100
      rng := rngNext rng
      if r < cfg.pResize && !s.resizing then a := { t := t, rz := true }
      else if r < cfg.pResize + cfg.pMaint && maints < cfg.maints then
        a := { t := t, maint := some (cfg.keys.getD (rngPick rng cfg.keys.length) 0) }
        maints := maints + 1
      else if r < cfg.pResize + cfg.pMaint + cfg.pCall && calls < cfg.calls then
        let k := cfg.keys.getD (rngPick rng cfg.keys.length) 0
        rng := rngNext rng
        let op := mkOp (rngPick rng 12) (100 + calls)
        rng := rngNext rng
        a := { t := t, inv := some (k, op), lo := rngPick rng 3 == 0 }
        calls := calls + 1
      else continue
    else
      a := { t := t, sm := rngPick rng 2 == 0, sm2 := rngPick rng 4 < 2 }
    match act f s a with
    | none => cov := blockedEvent s t cov
    | some s' =>
      cov := events s s' a cov
      sc := sc.push a
      s := s'
  -- drain
  for _ in [0:400] do
    if quiescentB s then break
    for t in [0:cfg.nthreads] do
      let l := s.threads.getD t {}
      if l.pc != .idle then
        rng := rngNext rng
        let a : Act := { t := t, sm := rngPick rng 2 == 0, sm2 := rngPick rng 4 < 2 }
        match act f s a with
        | none => cov := blockedEvent s t cov
        | some s' =>
          cov := events s s' a cov
          sc := sc.push a
          s := s'
  return (sc.toList, s, cov)

def explore (cfg : Cfg) (seed0 nruns : Nat) : Out := Id.run do
  let mut cov : Cov := []
  let mut bad : Option (Sched × Nat) := none
  let mut q := 0
  let mut mh := 0
  for i in [0:nruns] do
    let (sc, s, cov') := oneRun cfg (rngNext (seed0 + 7919 * i)) cov
    cov := cov'
    if quiescentB s then
      q := q + 1
      for k in cfg.keys do
        let h := callsOn s k
        if h.length > mh then mh := h.length
        if !linB s k && bad.isNone then bad := some (sc, k)
    else cov := cov.bump "notDrained"
    if s.cur == .new then cov := cov.bump "final:resized"
  return { cov := cov, bad := bad, runs := nruns, quiescentRuns := q, maxHist := mh }

def Out.report (o : Out) : String :=
  let lines := (o.cov.toArray.qsort (fun a b => a.1 < b.1)).toList.map fun (k, n) => s!"  {k}: {n}"
  s!"runs {o.runs}, drained to quiescence {o.quiescentRuns}, longest per-key history {o.maxHist}, " ++
  (match o.bad with | none => "ALL LINEARIZABLE" | some (sc, k) => s!"NOT LINEARIZABLE on key {k}: {repr sc}") ++
  "\n" ++ "\n".intercalate lines

/-- a small sample at build time (larger runs: see the file header of the report); prints the coverage -/
def sample : Out := explore { nthreads := 3, steps := 150, calls := 12, maints := 4 } 11 300

#eval IO.println (s!"{sample.runs} runs, {sample.quiescentRuns} quiescent, not linearizable: {sample.bad.isSome}, " ++
  s!"coverage entries: {sample.cov.length}")

/-! ## three kernel-checked runs

Four threads: thread 0 performs most calls, thread 1 treeifies, thread 2 is the slow one, thread 3
resizes. -/

/-- `n` further steps of thread `t` -/
def rep (t n : Nat) : Sched := List.replicate n { t := t }
def call (t k : Nat) (op : KOp) : Sched := [{ t := t, inv := some (k, op) }]

/-- quiescent? and, per key `0, 1, 2`: the abstract state and whether the history is linearizable -/
def verdict (f : StepFn) (n : Nat) (sc : Sched) : Option (Bool × List (KSt × Bool)) :=
  (run f (init n) sc).map fun s => (quiescentB s, (List.range 3).map fun k => (absOf s k, linB s k))

/-- thread 0: `insert(0)`, `insert(2)` (both low); thread 1 treeifies the bin: `TreeBin` 0 over the
nodes 2, 3 -/
def setupLow : Sched :=
  call 0 0 (.ins 5 100) ++ rep 0 3 ++ call 0 2 (.ins 6 101) ++ rep 0 8 ++ [{ t := 1, maint := some 0 }] ++ rep 1 7

/-- thread 0: `insert(1)`, `insert(0)` (one key per side); thread 1 treeifies -/
def setupBoth : Sched :=
  call 0 1 (.ins 5 100) ++ rep 0 3 ++ call 0 0 (.ins 6 101) ++ rep 0 8 ++ [{ t := 1, maint := some 0 }] ++ rep 1 7

/-- **the re-used `TreeBin`, with a writer queued on its mutex across the transfer**: thread 2 calls
`insert(2)` and loads the old cell (`tree 0`); thread 3 starts the resize and takes the mutex of bin 0 … -/
def schedReuseA : Sched := setupLow ++ call 2 2 (.ins 7 102) ++ rep 2 2 ++ [{ t := 3, rz := true }] ++ rep 3 3
/-- … splits (high side empty, low side not small: the old `TreeBin` itself goes to the low cell),
stores low, high, `moved` (thread 2 is blocked all the time: `reuse_blocked`), unlocks, commits;
thread 2 gets the mutex, fails its re-check (`cell0 = moved`), follows the marker, finds the *same*
`TreeBin` in the new table, locks it again and updates the node; thread 0: `get(2)` -/
def schedReuse : Sched := schedReuseA ++ rep 3 6 ++ rep 2 10 ++ call 0 2 .get ++ rep 0 8

/-- two observations `f`, `g` of the final state of a run from one evaluation of the run -/
theorem map_both {α β γ : Type} [DecidableEq β] [DecidableEq γ] {x : Option α} {f : α → β} {g : α → γ} {b : β} {c : γ}
    (h : x.map (fun s => decide (f s = b) && decide (g s = c)) = some true) :
    x.map f = some b ∧ x.map g = some c := by
  cases x with
  | none => cases h
  | some s =>
    have h' : (decide (f s = b) && decide (g s = c)) = true := Option.some.inj h
    rw [Bool.and_eq_true, decide_eq_true_iff, decide_eq_true_iff] at h'
    exact ⟨congrArg some h'.1, congrArg some h'.2⟩

theorem reuse_run :
    (run step (init 4) schedReuse).map (fun s =>
      decide ((quiescentB s, (List.range 3).map fun k => (absOf s k, linB s k)) =
        (true, [(some (5, 100), true), (none, true), (some (7, 102), true)])) &&
      decide ((s.cell0, s.lowCell, s.highCell, s.cur, callsOn s 2) =
        (.moved, .tree 0, .empty, .new,
          [⟨0, .ins 6 101, .none, 5, 13⟩, ⟨2, .ins 7 102, .some 6 101, 22, 44⟩, ⟨0, .get, .some 7 102, 45, 53⟩]))) = some true := by
  decide +kernel

theorem verdict_reuse : verdict step 4 schedReuse =
    some (true, [(some (5, 100), true), (none, true), (some (7, 102), true)]) := (map_both reuse_run).1

/-- the old `TreeBin` is in the new low cell; the slow insert was invoked (22) before the transfer and
returned (44) after it -/
theorem reuse_history :
    (run step (init 4) schedReuse).map (fun s => (s.cell0, s.lowCell, s.highCell, s.cur, callsOn s 2)) =
      some (.moved, .tree 0, .empty, .new,
        [⟨0, .ins 6 101, .none, 5, 13⟩, ⟨2, .ins 7 102, .some 6 101, 22, 44⟩, ⟨0, .get, .some 7 102, 45, 53⟩]) :=
  (map_both reuse_run).2

/-- while the transfer holds the mutex (here: after it stored the low cell) the queued writer cannot move -/
theorem reuse_blocked :
    ((run step (init 4) (schedReuseA ++ rep 3 2)).map fun s =>
      (s.lowCell, (s.threads.getD 2 {}).pc, (act step s { t := 2 }).isNone)) =
      some (.tree 0, .tMutex .old 0, true) := by decide +kernel

/-- **a lock-protocol reader inside the old `TreeBin` across a transfer that splits it into two fresh
`TreeBin`s** (hindsight): thread 2 calls `get(1)`, takes the read lock of bin 0 and finds node 2; the
bin is transferred (both sides non-empty and not small: fresh bins 1 and 2); thread 0 `insert(1)` and
`get(1)` in the new table return / see the new value; only then thread 2 releases the read lock and
reads the (frozen) value of node 2 -/
def schedStale : Sched :=
  setupBoth ++ call 2 1 .get ++ rep 2 6 ++ [{ t := 3, rz := true }] ++ rep 3 9 ++
  call 0 1 (.ins 7 102) ++ rep 0 7 ++ call 0 1 .get ++ rep 0 8 ++ rep 2 2

theorem stale_run :
    (run step (init 4) schedStale).map (fun s =>
      decide ((quiescentB s, (List.range 3).map fun k => (absOf s k, linB s k)) =
        (true, [(some (6, 101), true), (some (7, 102), true), (none, true)])) &&
      decide ((s.cell0, s.lowCell, s.highCell, s.cur, callsOn s 1) =
        (.moved, .tree 1, .tree 2, .new,
          [⟨0, .ins 5 100, .none, 1, 4⟩, ⟨0, .ins 7 102, .some 5 100, 39, 46⟩, ⟨0, .get, .some 7 102, 47, 55⟩,
           ⟨2, .get, .some 5 100, 22, 57⟩]))) = some true := by
  decide +kernel

theorem verdict_stale : verdict step 4 schedStale =
    some (true, [(some (6, 101), true), (some (7, 102), true), (none, true)]) := (map_both stale_run).1

/-- the slow `get` (invoked at 22) returns the old value at 57, after `get = 7` returned at 55 -/
theorem stale_history :
    (run step (init 4) schedStale).map (fun s => (s.cell0, s.lowCell, s.highCell, s.cur, callsOn s 1)) =
      some (.moved, .tree 1, .tree 2, .new,
        [⟨0, .ins 5 100, .none, 1, 4⟩, ⟨0, .ins 7 102, .some 5 100, 39, 46⟩, ⟨0, .get, .some 7 102, 47, 55⟩,
         ⟨2, .get, .some 5 100, 22, 57⟩]) :=
  (map_both stale_run).2

/-- **without the re-check a completed insert is lost across a tree-bin transfer**: thread 2 calls
`insert(1)` and loads the old cell (`tree 0`); the bin is transferred (both sides `small`: plain lists
of fresh nodes 4, 5); thread 2 takes the mutex of the dead bin 0 and (`stepNoCheck`) overwrites the
dead node 2; thread 0's later `get(1)` finds the old value in node 5 -/
def schedLost : Sched :=
  setupBoth ++ call 2 1 (.ins 7 102) ++ rep 2 2 ++ [{ t := 3, rz := true }] ++
  List.replicate 9 { t := 3, sm := true, sm2 := true } ++ rep 2 5 ++ call 0 1 .get ++ rep 0 4

/-- the same, and thread 2 is given the steps it needs to start over in the new table -/
def schedLostLong : Sched := schedLost ++ rep 2 8

theorem lost_noCheck_run :
    (run stepNoCheck (init 4) schedLost).map (fun s =>
      decide ((quiescentB s, (List.range 3).map fun k => (absOf s k, linB s k)) =
        (true, [(some (6, 101), true), (some (5, 100), false), (none, true)])) &&
      decide ((s.cell0, s.lowCell, s.highCell, callsOn s 1) =
        (.moved, .list 4, .list 5,
          [⟨0, .ins 5 100, .none, 1, 4⟩, ⟨2, .ins 7 102, .some 5 100, 22, 39⟩, ⟨0, .get, .some 5 100, 40, 43⟩]))) = some true := by
  decide +kernel

theorem verdict_lost_noCheck : verdict stepNoCheck 4 schedLost =
    some (true, [(some (6, 101), true), (some (5, 100), false), (none, true)]) := (map_both lost_noCheck_run).1

theorem verdict_lost_check : verdict step 4 schedLostLong =
    some (true, [(some (6, 101), true), (some (7, 102), true), (none, true)]) := by decide +kernel

theorem lost_noCheck_history :
    (run stepNoCheck (init 4) schedLost).map (fun s => (s.cell0, s.lowCell, s.highCell, callsOn s 1)) =
      some (.moved, .list 4, .list 5,
        [⟨0, .ins 5 100, .none, 1, 4⟩, ⟨2, .ins 7 102, .some 5 100, 22, 39⟩, ⟨0, .get, .some 5 100, 40, 43⟩]) :=
  (map_both lost_noCheck_run).2

theorem of_verdict {f : StepFn} {n : Nat} {sc : Sched} {v : List (KSt × Bool)}
    (h : verdict f n sc = some (true, v)) :
    ∃ s, run f (init n) sc = some s ∧ quiescent s ∧ ∀ k, k < 3 → (v.getD k (none, true)).2 = linB s k := by
  unfold verdict at h
  cases hr : run f (init n) sc with
  | none => rw [hr] at h; cases h
  | some s =>
    rw [hr] at h
    simp only [Option.map_some, Option.some.injEq, Prod.mk.injEq] at h
    refine ⟨s, rfl, (quiescentB_iff s).1 h.1, ?_⟩
    intro k hk
    rw [← h.2]
    simp [List.getD, hk]

/-- **the re-checks are load-bearing**: `binG_linearizable_quiescent` is false for `stepNoCheck` -/
theorem noCheck_refutes_aux :
    ∃ (n : Nat) (s : State) (k : Nat), ReachableNoCheck n s ∧ quiescent s ∧
      ¬ Linearizable (callsOn s k) none (absOf s k) := by
  obtain ⟨s, hr, hq, hv⟩ := of_verdict verdict_lost_noCheck
  refine ⟨4, s, 1, run_reachableNoCheck _ .init hr, hq, (linB_false_iff s 1).1 ?_⟩
  have := hv 1 (by omega)
  simpa using this.symm

theorem lin_of_verdict {n : Nat} {sc : Sched} {v : List (KSt × Bool)} (h : verdict step n sc = some (true, v))
    (hv : ∀ k, k < 3 → (v.getD k (none, true)).2 = true) :
    ∃ s, run step (init n) sc = some s ∧ Reachable n s ∧ quiescent s ∧
      ∀ k, k < 3 → Linearizable (callsOn s k) none (absOf s k) := by
  obtain ⟨s, hr, hq, hl⟩ := of_verdict h
  exact ⟨s, hr, run_reachable _ .init hr, hq, fun k hk => (linB_iff s k).1 ((hl k hk).symm.trans (hv k hk))⟩

/-- the three runs with the re-checks are reachable quiescent states with linearizable histories -/
theorem runs_linearizable :
    ∀ sc ∈ [schedReuse, schedStale, schedLostLong], ∃ s, run step (init 4) sc = some s ∧ Reachable 4 s ∧
      quiescent s ∧ ∀ k, k < 3 → Linearizable (callsOn s k) none (absOf s k) := by
  intro sc hsc
  simp only [List.mem_cons, List.not_mem_nil, or_false] at hsc
  rcases hsc with rfl | rfl | rfl
  · exact lin_of_verdict verdict_reuse (by decide)
  · exact lin_of_verdict verdict_stale (by decide)
  · exact lin_of_verdict verdict_lost_check (by decide)

end Flurry.Proto.BinG
