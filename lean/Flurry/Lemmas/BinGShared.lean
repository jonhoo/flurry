import Flurry.Lemmas.BinKInv
/-! # What `Lemmas/BinG*.lean` and `Lemmas/BinGNP*.lean` share

Facts about Booleans, lists, heaps and `TreeBin` tables that mention no state of `Proto/BinG` or `Proto/BinGN`.

Where a fact that mentions no state goes: the namespace `BinGS` (this file) has what both invariants' DEFINITIONS need, so
it comes before `Lemmas/BinGInv.lean`; `BinG` and `BinG.Store` (`Lemmas/BinGHeapFrame.lean`) have the facts in the terms of
`Lemmas/BinKBasic.lean` (`CInv`, `HeapStep`, `absL`) behind the stores of the two models; `BinGH` (`Lemmas/BinGHeapPlan.lean`,
`BinGHeapStore.lean`, `BinGHeapSize.lean`) has the notions of the invariants with heap and table as arguments (`chain`,
`inTree`, `CopyOK`, `Valid`) and the lemmas about them; `BinK` (`Lemmas/BinKHeapAux.lean`) has four facts about functions of
`Proto/BinK` (`chainFrom`, `binAt`, `copiesOf`). -/
namespace Flurry.Proto.BinGS
open Flurry.Proto.BinK (NodeS TBin nodeAt binAt NextOK chainOf chainFrom HeapEqv binAt_modify)

theorem imp_of_bor {a b : Bool} (h : (!a || b) = true) : a = true → b = true := by
  cases a <;> simp_all

theorem range_split {n m : Nat} (h : n ≤ m) : List.range m = List.range n ++ List.range' n (m - n) := by
  rw [List.range_eq_range', List.range_eq_range']
  have := List.range'_append_1 (s := 0) (m := n) (n := m - n)
  simp at this
  rw [this]
  congr 1
  omega

theorem find?_congr_mem {α : Type} {p q : α → Bool} : ∀ {l : List α}, (∀ x ∈ l, p x = q x) → l.find? p = l.find? q
  | [], _ => rfl
  | a :: l, h => by
    have ha := h a (by simp)
    have ih := find?_congr_mem (l := l) (fun x hx => h x (by simp [hx]))
    simp only [List.find?_cons, ha, ih]

theorem chainOf_oob {heap : List NodeS} {h : Nat} (hh : heap.length ≤ h) : chainOf heap (some h) = [] := by
  unfold chainOf
  cases hlen : heap.length with
  | zero => rfl
  | succ n =>
    unfold chainFrom
    have : heap[h]? = none := List.getElem?_eq_none (by omega)
    rw [this]

/-- `chainOf_congr` without validity of the start: a chain from a start that is no heap index is empty -/
theorem chainOf_congr' {heap heap' : List NodeS} (hok : NextOK heap) (e : HeapEqv heap heap') (st : Option Nat) :
    chainOf heap' st = chainOf heap st := by
  cases st with
  | none => rw [Flurry.Proto.BinK.chainOf_none, Flurry.Proto.BinK.chainOf_none]
  | some h =>
    by_cases hh : h < heap.length
    · exact Flurry.Proto.BinK.chainOf_congr hok e _ (fun i hi => by cases hi; exact hh)
    · rw [chainOf_oob (Nat.le_of_not_lt hh), chainOf_oob (by rw [e.1]; exact Nat.le_of_not_lt hh)]

/-! ## the core of the copy relation

`CopyOK s old sel C` of `Lemmas/BinGInv.lean` and `Lemmas/BinGNPInv.lean` relates the list `O` of the old structure and
the list `C` of the new one through key, value and owner of their nodes; `tr` is the tree of the new structure, `ow`
the owner of its nodes. This part depends on the state through these data only. -/

structure CopyH (heap : List NodeS) (O C : List Nat) (tr : Nat → Prop) (sel : Nat → Bool) (ow : Option Nat) : Prop where
  chainOwner : ∀ j ∈ C, (nodeAt heap j).owner = ow
  selOK : ∀ j, (j ∈ C ∨ tr j) → sel (nodeAt heap j).key = true
  src : ∀ j ∈ C, j ∉ O → ∃ i ∈ O, (nodeAt heap i).key = (nodeAt heap j).key ∧
    (nodeAt heap i).val = (nodeAt heap j).val ∧ ∀ r ∈ O, r ∈ C → List.Sublist [i, r] O
  cover : ∀ i ∈ O, sel (nodeAt heap i).key = true → ∃ j ∈ C,
    (nodeAt heap j).key = (nodeAt heap i).key ∧ (nodeAt heap j).val = (nodeAt heap i).val ∧ (j = i ∨ j ∉ O)
  suffix : ∀ r ∈ O, r ∈ C → ∀ i ∈ O, List.Sublist [r, i] O → i ∈ C
  order : ∀ i c, i ∈ O → c ∈ O → List.Sublist [i, c] C → List.Sublist [i, c] O

/-- the relation survives if the nodes of the two lists keep key and value, those of the new list their owner, and the
tree of the new structure does not grow -/
theorem CopyH.congr {heap heap' : List NodeS} {O C : List Nat} {tr tr' : Nat → Prop} {sel : Nat → Bool} {ow : Option Nat}
    (h : CopyH heap O C tr sel ow)
    (hO : ∀ j ∈ O, (nodeAt heap' j).key = (nodeAt heap j).key ∧ (nodeAt heap' j).val = (nodeAt heap j).val)
    (hC : ∀ j ∈ C, (nodeAt heap' j).key = (nodeAt heap j).key ∧ (nodeAt heap' j).val = (nodeAt heap j).val ∧
      (nodeAt heap' j).owner = (nodeAt heap j).owner)
    (htr : ∀ j, tr' j → tr j ∧ (nodeAt heap' j).key = (nodeAt heap j).key) : CopyH heap' O C tr' sel ow := by
  refine ⟨?_, ?_, ?_, ?_, h.suffix, h.order⟩
  · intro j hj
    rw [(hC j hj).2.2]; exact h.chainOwner j hj
  · rintro j (hj | hj)
    · rw [(hC j hj).1]; exact h.selOK j (Or.inl hj)
    · rw [(htr j hj).2]; exact h.selOK j (Or.inr (htr j hj).1)
  · intro j hj hjo
    obtain ⟨i, hi1, hi2, hi3, hi4⟩ := h.src j hj hjo
    exact ⟨i, hi1, by rw [(hO i hi1).1, (hC j hj).1]; exact hi2, by rw [(hO i hi1).2, (hC j hj).2.1]; exact hi3, hi4⟩
  · intro i hi1 hsel
    rw [(hO i hi1).1] at hsel
    obtain ⟨j, hj1, hj2, hj3, hj4⟩ := h.cover i hi1 hsel
    exact ⟨j, hj1, by rw [(hO i hi1).1, (hC j hj1).1]; exact hj2, by rw [(hO i hi1).2, (hC j hj1).2.1]; exact hj3, hj4⟩

end Flurry.Proto.BinGS
