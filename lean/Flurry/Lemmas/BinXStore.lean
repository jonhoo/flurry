import Flurry.Lemmas.BinXSurgery
/-! # Proto/BinX: the store of a validated writer (C01)

`store_effect`: thanks to the validated lock the positions a writer remembered during its walk
(`Walk`) are the current ones, so storing through them is one of the list surgeries on the chain of
its (active) cell: it is the specification step on its own key and leaves every other key alone. -/
namespace Flurry.Proto.BinX
open Flurry.Lin

variable {s s' : State} {g : Ghost} {id : CellId} {tab : Tab}

theorem getCell_setNode (s : State) (i : Nat) (f : NodeS → NodeS) (id : CellId) :
    getCell (setNode s i f) id = getCell s id := by cases id <;> rfl

theorem Walk.hit_some {heap : List NodeS} {C : List Nat} {key : Nat} {pred : Option Nat} {i : Nat}
    (w : Walk heap C key pred (some i)) :
    ∃ l1 l2, C = l1 ++ i :: l2 ∧ pred = l1.getLast? ∧ ∀ j ∈ l1, (nodeAt heap j).key ≠ key := by
  obtain ⟨l1, l2, hch, hcur, hpred, hkeys⟩ := w
  cases l2 with
  | nil => cases hcur
  | cons c l2' =>
    simp only [List.head?_cons, Option.some.injEq] at hcur
    subst hcur
    exact ⟨l1, l2', hch, hpred, hkeys⟩

theorem Walk.hit_none {heap : List NodeS} {C : List Nat} {key : Nat} {pred : Option Nat}
    (w : Walk heap C key pred none) :
    pred = C.getLast? ∧ ∀ j ∈ C, (nodeAt heap j).key ≠ key := by
  obtain ⟨l1, l2, hch, hcur, hpred, hkeys⟩ := w
  cases l2 with
  | nil =>
    rw [List.append_nil] at hch
    subst hch
    exact ⟨hpred, hkeys⟩
  | cons c l2' => cases hcur

theorem Walk.cur_mem {heap : List NodeS} {C : List Nat} {key : Nat} {pred : Option Nat} {i : Nat}
    (w : Walk heap C key pred (some i)) : i ∈ C := by
  obtain ⟨l1, l2, hch, -, -⟩ := w.hit_some
  rw [hch]; simp

/-- what the store of a writer guarantees -/
def StoreOK (s : State) (g : Ghost) (id : CellId) (p : Pending) (r : State × KRes) : Prop :=
  Effect s r.1 g id ∧ r.1.threads = s.threads ∧ r.1.hist = s.hist ∧ r.1.now = s.now ∧
  r.1.resizing = s.resizing ∧
  specStep (absOf s p.key) p.op = (absOf r.1 p.key, r.2) ∧ ∀ k, k ≠ p.key → absOf r.1 k = absOf s k

theorem absOf_active (H : HInv s g) (act : Active g id) {k : Nat}
    (hk : keyOn id k) : absOf s k = absIn s.heap (chId s id) k := by
  rw [H.absOf_chId, H.liveId_of_active act hk]

theorem setCell_frame (s : State) (tab : Tab) (k : Nat) (c : Cell) :
    (setCell s tab k c).heap = s.heap ∧ (setCell s tab k c).threads = s.threads ∧
    (setCell s tab k c).hist = s.hist ∧ (setCell s tab k c).now = s.now ∧ (setCell s tab k c).cur = s.cur ∧
    (setCell s tab k c).resizing = s.resizing := by
  rw [setCell_eq]; exact putCell_frame _ _ _

theorem getCell_setCell (s : State) (tab : Tab) (k : Nat) (c : Cell) (id' : CellId) :
    getCell (setCell s tab k c) id' = if id' = cellId tab k then c else getCell s id' := by
  rw [setCell_eq, getCell_putCell]

theorem StoreOK.of_abs {p : Pending} {res : KRes} {v' : KSt} {key : Nat}
    (hkey : key = p.key) (he : Effect s s' g id) (hthr : s'.threads = s.threads) (hhist : s'.hist = s.hist)
    (hnow : s'.now = s.now) (hrz : s'.resizing = s.resizing) (hspec : specStep (absOf s p.key) p.op = (v', res))
    (hab : ∀ k, absOf s' k = if key = k then v' else absOf s k) : StoreOK s g id p (s', res) := by
  subst hkey
  exact ⟨he, hthr, hhist, hnow, hrz, by rw [hspec, hab, if_pos rfl], fun k hk => by rw [hab, if_neg (Ne.symm hk)]⟩

theorem absOf_hit (H : HInv s g) (act : Active g id) {p : Pending}
    (hk : keyOn id p.key) {i : Nat} (hi : i ∈ chId s id) (hik : (nodeAt s.heap i).key = p.key) :
    absOf s p.key = some (nodeAt s.heap i).val := by
  rw [absOf_active H act hk]
  exact (absIn_eq_some_iff (H.keysId id)).2 ⟨i, hi, hik, rfl⟩

theorem absOf_miss (H : HInv s g) (act : Active g id) {p : Pending}
    (hk : keyOn id p.key) {pred : Option Nat} (w : Walk s.heap (chId s id) p.key pred none) :
    absOf s p.key = none := by
  rw [absOf_active H act hk]
  exact absIn_eq_none_iff.2 w.hit_none.2

theorem storeOK_swap (H : HInv s g) (act : Active g id) (p : Pending)
    (hk : keyOn id p.key) {i : Nat} {v : Nat × Nat} {res : KRes}
    (hi : i ∈ chId s id) (hik : (nodeAt s.heap i).key = p.key)
    (hspec : specStep (some (nodeAt s.heap i).val) p.op = (some v, res)) :
    StoreOK s g id p (setNode s i (fun n => { n with val := v }), res) := by
  obtain ⟨he, hab⟩ := swap_effect (s' := setNode s i (fun n => { n with val := v })) H act hi rfl
    (getCell_setNode s i _) rfl
  exact .of_abs hik he rfl rfl rfl rfl (by rw [absOf_hit H act hk hi hik]; exact hspec) hab

theorem storeOK_noop (H : HInv s g) (p : Pending)
    (hnm : getCell s id ≠ .moved) {res : KRes}
    (hspec : specStep (absOf s p.key) p.op = (absOf s p.key, res)) : StoreOK s g id p (s, res) :=
  ⟨(noop_effect (s' := s) (id := id) H hnm rfl (fun _ => rfl) rfl).1, rfl, rfl, rfl, rfl, hspec, fun _ _ => rfl⟩

def unlinkAt (s : State) (tab : Tab) (key : Nat) (pred hnext : Option Nat) : State :=
  match pred with
  | some pr => setNode s pr (fun m => { m with next := hnext })
  | none => setCell s tab key (match hnext with | some x => .node x | none => .empty)

def appendAt (s : State) (tab : Tab) (key : Nat) (pred : Option Nat) (v : Nat × Nat) : State :=
  match pred with
  | some l => setNode { s with heap := s.heap ++ [(⟨key, v, none, none⟩ : NodeS)] } l
      (fun n => { n with next := some s.heap.length })
  | none => setCell { s with heap := s.heap ++ [(⟨key, v, none, none⟩ : NodeS)] } tab key (.node s.heap.length)

theorem storeOK_unlink (H : HInv s g) (p : Pending)
    (act : Active g (cellId tab p.key)) {pred : Option Nat} {i : Nat} {res : KRes}
    (w : Walk s.heap (chId s (cellId tab p.key)) p.key pred (some i))
    (hik : (nodeAt s.heap i).key = p.key)
    (hspec : specStep (some (nodeAt s.heap i).val) p.op = (none, res)) :
    StoreOK s g (cellId tab p.key) p (unlinkAt s tab p.key pred (nodeAt s.heap i).next, res) := by
  have hspec' : specStep (absOf s p.key) p.op = (none, res) := by
    rw [absOf_hit H act (keyOn_cellId tab p.key) w.cur_mem hik]; exact hspec
  obtain ⟨l1, l2, hch, hpred, -⟩ := w.hit_some
  rcases List.eq_nil_or_concat l1 with rfl | ⟨l1', pr, rfl⟩
  · cases hpred
    have hcoh : (match (nodeAt s.heap i).next with | some x => Cell.node x | none => Cell.empty) =
        cellOfHead (nodeAt s.heap i).next := by cases (nodeAt s.heap i).next <;> rfl
    obtain ⟨hfr1, hfr2, hfr3, hfr4, hfr5, hfr6⟩ := setCell_frame s tab p.key (cellOfHead (nodeAt s.heap i).next)
    obtain ⟨he, hab⟩ := unlink_head_effect (s' := setCell s tab p.key (cellOfHead (nodeAt s.heap i).next))
      H act hch hfr1 (getCell_setCell s tab p.key _) hfr5
    unfold unlinkAt
    rw [hcoh]
    exact .of_abs hik he hfr2 hfr3 hfr4 hfr6 hspec' hab
  · rw [List.concat_eq_append] at hch hpred
    rw [List.getLast?_concat] at hpred
    cases hpred
    obtain ⟨he, hab⟩ := unlink_mid_effect (s' := setNode s pr (fun m => { m with next := (nodeAt s.heap i).next }))
      H act (hch.trans (List.append_assoc l1' [pr] (i :: l2))) rfl (getCell_setNode s pr _) rfl
    exact .of_abs hik he rfl rfl rfl rfl hspec' hab

theorem storeOK_append (H : HInv s g) (p : Pending)
    (act : Active g (cellId tab p.key)) {pred : Option Nat} {v : Nat × Nat}
    (w : Walk s.heap (chId s (cellId tab p.key)) p.key pred none)
    (hne : chId s (cellId tab p.key) ≠ [])
    (hspec : specStep none p.op = (some v, .none)) :
    StoreOK s g (cellId tab p.key) p (appendAt s tab p.key pred v, KRes.none) := by
  have hk := keyOn_cellId tab p.key
  obtain ⟨hpred, hfresh⟩ := w.hit_none
  rcases List.eq_nil_or_concat (chId s (cellId tab p.key)) with h | ⟨l0, last, hch⟩
  · exact absurd h hne
  · rw [List.concat_eq_append] at hch
    rw [hch, List.getLast?_concat] at hpred
    cases hpred
    obtain ⟨he, hab⟩ := append_effect (s' := setNode { s with heap := s.heap ++ [(⟨p.key, v, none, none⟩ : NodeS)] } last
        (fun n => { n with next := some s.heap.length })) (new := (⟨p.key, v, none, none⟩ : NodeS))
      H act hch rfl hk hfresh rfl (getCell_setNode _ last _) rfl
    exact .of_abs rfl he rfl rfl rfl rfl (by rw [absOf_miss H act hk w]; exact hspec) hab

theorem storeOK_miss (H : HInv s g) (act : Active g id) (p : Pending)
    (hk : keyOn id p.key) (hnm : getCell s id ≠ .moved) {pred : Option Nat}
    (w : Walk s.heap (chId s id) p.key pred none) {res : KRes} (hspec : specStep none p.op = (none, res)) :
    StoreOK s g id p (s, res) :=
  storeOK_noop H p hnm (by rw [absOf_miss H act hk w]; exact hspec)

/-- **the store of a validated writer** through the positions remembered during its walk is the
specification step on its own key, leaves every other key alone, and is one of the list surgeries -/
theorem store_effect (H : HInv s g) (p : Pending)
    (hw : isReader p.op = false) (act : Active g (cellId tab p.key)) {pred hit hnext : Option Nat}
    (w : Walk s.heap (chId s (cellId tab p.key)) p.key pred hit)
    (hne : chId s (cellId tab p.key) ≠ [])
    (hh : ∀ i, hit = some i → (nodeAt s.heap i).key = p.key ∧ hnext = (nodeAt s.heap i).next) :
    StoreOK s g (cellId tab p.key) p (storeAt s tab p pred hit hnext) := by
  have hk := keyOn_cellId tab p.key
  have hnm := notMoved_of_chId_ne_nil hne
  obtain ⟨key, op, inv⟩ := p
  cases hit with
  | none =>
    cases op with
    | get => cases hw
    | has => cases hw
    | ins v vi => exact storeOK_append H _ act w hne rfl
    | tryIns v vi => exact storeOK_append H _ act w hne rfl
    | rm => exact storeOK_miss H act _ hk hnm w rfl
    | cipInc nvi => exact storeOK_miss H act _ hk hnm w rfl
    | cipRm => exact storeOK_miss H act _ hk hnm w rfl
  | some i =>
    obtain ⟨hik, rfl⟩ := hh i rfl
    cases op with
    | get => cases hw
    | has => cases hw
    | ins v vi => exact storeOK_swap H act _ hk w.cur_mem hik rfl
    | tryIns v vi => exact storeOK_noop H _ hnm (by rw [absOf_hit H act hk w.cur_mem hik]; rfl)
    | rm => exact storeOK_unlink H _ act w hik rfl
    | cipInc nvi => exact storeOK_swap H act _ hk w.cur_mem hik rfl
    | cipRm => exact storeOK_unlink H _ act w hik rfl

end Flurry.Proto.BinX
