import Flurry.Lemmas.TableLineages
import Flurry.Proto.TableK
import Flurry.Lemmas.BinKLin
import Flurry.Lemmas.LinLocal
/-! # Proto/TableK: a table of fixed length is linearizable as a MAP (C01)

A `tick` of a bin — its clock advances while a thread acts in another bin — IS a transition of
`Proto/BinK`: the step of a thread that is idle in that bin and starts nothing
(`BinK.step b t none false false false = some (tick b)`, `tick_is_step`), and `TableK.step` lets thread
`t` act in bin `i` only while it is idle in every other bin. Hence every bin of a reachable table is
literally `BinK.Reachable` (`TblInv.reach`), and all bin-level theorems apply to it unchanged.

* `BinK.Frame`, `StepK.frame`: what a transition of `Proto/BinK` does to the thread list and the history (the local
  state of the acting thread changes; a completed call is recorded), read off the normal form `StepK`
  (`Lemmas/TableG.lean` reads the same off `stepN_call`; `BinG.Frame` of `Lemmas/BinGProgRead.lean` is another
  notion, the frame of a reader's step);
* `BinK.KeysIn P s`: every key in the bin's history and in its calls in flight satisfies `P`;
  preserved by `BinK.step` if the invoked key satisfies `P` (`step_keysIn`);
* `TblInv m n S`: `m` bins, each `BinK.Reachable n`, bin `j` holding keys `≡ j (mod m)` only;
* `OneBin S`: of two different bins, a thread is idle in one (`Lineages.OneBin` at the threads of `BinK`);
* `proj_mhist`: the projection of the map history on key `k` is the per-key history of bin `k % m`
  (as a list, not only up to order: the other bins contribute nothing);
* `bin_of_key`, `mhist_wf`: what `Props/C01TableK.lean` needs for locality
  (`LinMap.map_linearizable_of_proj`, the statement of `C01.locality`). -/

namespace Flurry.Proto.BinK
open Flurry.Lin

/-- every key that occurs in the bin — in a completed call or in a call in flight — satisfies `P` -/
structure KeysIn (P : Nat → Prop) (s : State) : Prop where
  hist : ∀ x ∈ s.hist, P x.1
  pend : ∀ (t : Nat) (l : Local) (p : Pending), s.threads[t]? = some l → l.call = some p → P p.key

inductive Frame (s : State) (t : Nat) (l : Local) (s' : State) : Prop
  | keep (l' : Local) : s'.threads = s.threads.set t l' → s'.hist = s.hist → l'.call = l.call → Frame s t l s'
  | idle : l.pc = .idle → Frame s t l s'
  | fin (p : Pending) (c : Call) : l.call = some p → s'.threads = s.threads.set t { pc := .idle, call := none } →
      s'.hist = (p.key, c) :: s.hist → Frame s t l s'

theorem StepK.frame {s s' : State} {t : Nat} {l : Local} (h : StepK s t l s') : Frame s t l s' := by
  cases h with
  | idle h => exact .idle h
  | maint h => exact .idle h
  | invoke k op lo h => exact .idle h
  | move p pc' hp hc _ => exact .keep _ rfl rfl rfl
  | bmove p pc' tb hc _ => exact .keep _ rfl rfl rfl
  | kmove pc' hp hc _ => exact .keep _ rfl rfl rfl
  | fin p res hp hc _ => exact .fin p _ hc rfl rfl
  | bfin p res tb hc _ => exact .fin p _ hc rfl rfl
  | cas p v vi hc _ _ _ => exact .fin p _ hc rfl rfl
  | store p h pred hit hnext hc _ =>
    refine .keep { l with pc := .wUnlock h (storeAt (tick s) p pred hit hnext).2 false } ?_ ?_ rfl
    · show ((storeAt (tick s) p pred hit hnext).1.threads).set t _ = _
      rw [(storeAt_frame (tick s) p pred hit hnext).1]; rfl
    · show (storeAt (tick s) p pred hit hnext).1.hist = _
      rw [(storeAt_frame (tick s) p pred hit hnext).2.1]; rfl
  | tval p b i v res hc _ => exact .keep _ rfl rfl rfl
  | prepend p b v vi hc _ _ => exact .keep _ rfl rfl rfl
  | treeLink p b x hc _ => exact .keep _ rfl rfl rfl
  | unlink p b i res small hc _ =>
    refine .keep { l with pc := if small then .tUntreeify b res else .tRestructure b i res } ?_ ?_ rfl
    · show ((unlinkOf (tick s) b i).threads).set t _ = _
      rw [unlinkOf_threads]; rfl
    · show (unlinkOf (tick s) b i).hist = _
      rw [unlinkOf_hist]; rfl
  | untree p b i res hc _ => exact .keep _ rfl rfl rfl
  | untreeify p b res hc _ => exact .keep _ rfl rfl rfl
  | kbuild h hc _ => exact .keep _ rfl rfl rfl
  | kstore h b hc _ => exact .keep _ rfl rfl rfl

theorem KeysIn.of_prev {P : Nat → Prop} {s s' : State} (K : KeysIn P s)
    (hh : ∀ x ∈ s'.hist, x ∈ s.hist ∨ P x.1)
    (hp : ∀ (t : Nat) (l : Local) (p : Pending), s'.threads[t]? = some l → l.call = some p →
      (∃ l0, s.threads[t]? = some l0 ∧ l0.call = some p) ∨ P p.key) : KeysIn P s' := by
  refine ⟨?_, ?_⟩
  · intro x hx
    rcases hh x hx with h | h
    · exact K.hist x h
    · exact h
  · intro t l p hl hc
    rcases hp t l p hl hc with ⟨l0, h0, hc0⟩ | h
    · exact K.pend t l0 p h0 hc0
    · exact h

theorem step_idle {s s' : State} {t : Nat} {l : Local} {inv : Option (Nat × KOp)} {lo mt sm : Bool}
    (hl : s.threads[t]? = some l) (hpc : l.pc = .idle) (hs : step s t inv lo mt sm = some s') :
    s'.hist = s.hist ∧ ∃ l', s'.threads = s.threads.set t l' ∧
      (l'.call = l.call ∨ ∃ k op τ, inv = some (k, op) ∧ l'.call = some ⟨k, op, τ⟩) := by
  obtain ⟨pc, call⟩ := l
  simp only at hpc
  subst hpc
  unfold step stepG at hs
  simp only [hl] at hs
  cases mt with
  | true =>
    simp only [if_true, Option.some.injEq] at hs
    subst hs
    exact ⟨rfl, _, rfl, Or.inl rfl⟩
  | false =>
    simp only [Bool.false_eq_true, if_false] at hs
    cases inv with
    | none =>
      simp only [Option.some.injEq] at hs
      subst hs
      refine ⟨rfl, ⟨.idle, call⟩, ?_, Or.inl rfl⟩
      show s.threads = s.threads.set t ⟨.idle, call⟩
      obtain ⟨ht, e⟩ := List.getElem?_eq_some_iff.1 hl
      rw [← e, List.set_getElem_self]
    | some ko =>
      obtain ⟨k, op⟩ := ko
      simp only [Option.some.injEq] at hs
      subst hs
      exact ⟨rfl, _, rfl, Or.inr ⟨k, op, _, rfl, rfl⟩⟩

theorem step_keysIn {P : Nat → Prop} {s s' : State} {t : Nat} {inv : Option (Nat × KOp)} {lo mt sm : Bool}
    (K : KeysIn P s) (hinv : ∀ k op, inv = some (k, op) → P k)
    (hs : step s t inv lo mt sm = some s') : KeysIn P s' := by
  cases hl : s.threads[t]? with
  | none =>
    unfold step stepG at hs
    simp only [hl] at hs
    cases hs
  | some l =>
    have keepCase : ∀ l' : Local, s'.threads = s.threads.set t l' → s'.hist = s.hist →
        (l'.call = l.call ∨ ∃ k op τ, inv = some (k, op) ∧ l'.call = some ⟨k, op, τ⟩) → KeysIn P s' := by
      intro l' hthr hhist hcall
      refine K.of_prev (fun x hx => Or.inl (hhist ▸ hx)) ?_
      intro t1 l1 p1 h1 hc1
      rw [hthr] at h1
      rcases get_set h1 with ⟨rfl, rfl⟩ | ⟨_, h1⟩
      · rcases hcall with hc | ⟨k, op, τ, hi, hc⟩
        · exact Or.inl ⟨l, hl, hc ▸ hc1⟩
        · rw [hc] at hc1
          cases hc1
          exact Or.inr (hinv k op hi)
      · exact Or.inl ⟨l1, h1, hc1⟩
    by_cases hpc : l.pc = .idle
    · obtain ⟨hh, l', hthr, hcall⟩ := step_idle hl hpc hs
      exact keepCase l' hthr hh hcall
    · cases (step_stepK hl hs).frame with
      | keep l' hthr hhist hcall => exact keepCase l' hthr hhist (Or.inl hcall)
      | idle h => exact absurd h hpc
      | fin p c hc hthr hhist =>
        refine K.of_prev ?_ ?_
        · intro x hx
          rw [hhist] at hx
          rcases List.mem_cons.1 hx with rfl | hx
          · exact Or.inr (K.pend t l p hl hc)
          · exact Or.inl hx
        · intro t1 l1 p1 h1 hc1
          rw [hthr] at h1
          rcases get_set h1 with ⟨rfl, rfl⟩ | ⟨_, h1⟩
          · cases hc1
          · exact Or.inl ⟨l1, h1, hc1⟩

theorem step_threads {s s' : State} {t : Nat} {inv : Option (Nat × KOp)} {lo mt sm : Bool}
    (hs : step s t inv lo mt sm = some s') : ∃ l', s'.threads = s.threads.set t l' := by
  cases hl : s.threads[t]? with
  | none =>
    unfold step stepG at hs
    simp only [hl] at hs
    cases hs
  | some l =>
    by_cases hpc : l.pc = .idle
    · obtain ⟨_, l', hthr, _⟩ := step_idle hl hpc hs
      exact ⟨l', hthr⟩
    · cases (step_stepK hl hs).frame with
      | keep l' hthr _ _ => exact ⟨l', hthr⟩
      | idle h => exact absurd h hpc
      | fin p c _ hthr _ => exact ⟨_, hthr⟩

theorem init_keysIn (P : Nat → Prop) (n : Nat) : KeysIn P (init n) := by
  refine ⟨?_, ?_⟩
  · intro x hx
    simp [init] at hx
  · intro t l p hl hc
    rw [Lineages.eq_of_getElem?_replicate hl] at hc
    cases hc

end Flurry.Proto.BinK

namespace Flurry.Proto.TableK
open Flurry.Lin Flurry.LinMap

theorem tick_is_step {b : BinK.State} {t : Nat} (h : idleIn b t = true) :
    BinK.step b t none false false false = some (tick b) := by
  unfold idleIn at h
  split at h
  · rename_i l hl
    obtain ⟨pc, call⟩ := l
    simp only [beq_iff_eq] at h
    subst h
    unfold BinK.step BinK.stepG
    simp only [hl]
    rfl
  · cases h

structure TblInv (m n : Nat) (S : State) : Prop where
  len : S.bins.length = m
  reach : ∀ (j : Nat) (b : BinK.State), S.bins[j]? = some b → BinK.Reachable n b
  keys : ∀ (j : Nat) (b : BinK.State), S.bins[j]? = some b → BinK.KeysIn (fun k => k % m = j) b

theorem init_tblInv (m n : Nat) : TblInv m n (init m n) := by
  refine ⟨by simp [init], ?_, ?_⟩
  · intro j b h
    rw [Lineages.eq_of_getElem?_replicate h]
    exact BinK.Reachable.init
  · intro j b h
    rw [Lineages.eq_of_getElem?_replicate h]
    exact BinK.init_keysIn _ n

theorem step_eq_some {S S' : State} {i t : Nat} {inv : Option (Nat × KOp)} {lo mt sm : Bool}
    (hs : step S i t inv lo mt sm = some S') :
    ∃ b b', S.bins[i]? = some b ∧
      ((List.range S.bins.length).all fun j => j == i || idleIn (S.bins.getD j (BinK.init 0)) t) = true ∧
      (∀ k op, inv = some (k, op) → k % S.bins.length = i) ∧
      BinK.step b t inv lo mt sm = some b' ∧ S' = { bins := (S.bins.map tick).set i b' } := by
  unfold step at hs
  cases hb : S.bins[i]? with
  | none => rw [hb] at hs; cases hs
  | some b =>
    rw [hb] at hs
    obtain ⟨h1, hs⟩ := Lineages.guard_some hs
    obtain ⟨h2, hs⟩ := Lineages.guard_some hs
    cases h3 : BinK.step b t inv lo mt sm with
    | none => rw [h3] at hs; cases hs
    | some b' =>
      rw [h3] at hs
      refine ⟨b, b', rfl, h1, ?_, h3, (Option.some.inj hs).symm⟩
      rintro k op rfl
      simpa using h2

theorem step_tblInv {m n : Nat} {S S' : State} {i t : Nat} {inv : Option (Nat × KOp)} {lo mt sm : Bool}
    (I : TblInv m n S) (hs : step S i t inv lo mt sm = some S') : TblInv m n S' := by
  obtain ⟨b, b', hb, hidle, hkey, hb', rfl⟩ := step_eq_some hs
  refine ⟨?_, ?_, ?_⟩
  · show ((S.bins.map tick).set i b').length = m
    rw [List.length_set, List.length_map]; exact I.len
  · exact Lineages.forall_of_set_map tick _ (idleIn · t) hidle (P := fun _ c => BinK.Reachable n c) I.reach
      (BinK.Reachable.step t inv lo mt sm (I.reach i b hb) hb')
      fun _ b0 h hid => BinK.Reachable.step t none false false false h (tick_is_step hid)
  · exact Lineages.forall_of_set_map tick _ (idleIn · t) hidle I.keys
      (BinK.step_keysIn (I.keys i b hb) (fun k op hinv => by rw [← I.len]; exact hkey k op hinv) hb')
      fun _ _ h _ => ⟨h.hist, h.pend⟩

theorem reachable_tblInv {m n : Nat} {S : State} (hr : Reachable m n S) : TblInv m n S := by
  induction hr with
  | init => exact init_tblInv m n
  | step i t inv lo mt sm _ hs ih => exact step_tblInv ih hs

/-- of two different bins, thread `t` is idle in one -/
def OneBin (S : State) : Prop :=
  Lineages.OneBin (fun b : BinK.State => b.threads) (fun l : BinK.Local => l.pc = .idle) S.bins

theorem idleIn_pc {b : BinK.State} {t : Nat} {l : BinK.Local} (h : idleIn b t = true) (hl : b.threads[t]? = some l) :
    l.pc = .idle := by
  unfold idleIn at h
  rw [hl] at h
  simpa using h

theorem init_oneBin (m n : Nat) : OneBin (init m n) :=
  Lineages.OneBin.replicate m
    fun _ _ hl => by rw [Lineages.eq_of_getElem?_replicate hl]

theorem step_oneBin {S S' : State} {i t : Nat} {inv : Option (Nat × KOp)} {lo mt sm : Bool}
    (O : OneBin S) (hs : step S i t inv lo mt sm = some S') : OneBin S' := by
  obtain ⟨b, b', hb, hidle, _, hb', rfl⟩ := step_eq_some hs
  exact Lineages.OneBin.step O tick
    (fun _ => rfl) _ idleIn (fun _ _ _ => idleIn_pc) hb hidle (BinK.step_threads hb')

theorem reachable_oneBin {m n : Nat} {S : State} (hr : Reachable m n S) : OneBin S := by
  induction hr with
  | init => exact init_oneBin m n
  | step i t inv lo mt sm _ hs ih => exact step_oneBin ih hs

/-- key `k` lives in bin `k % m` under its own name -/
def keys (m : Nat) : Lineages.Keys where
  lin k := k % m
  loc k := k
  glob _ q := q
  glob_lin_loc _ := rfl

theorem mhist_eq (S : State) : mhist S = Lineages.mhist (keys S.bins.length) (·.hist) S.bins (BinK.init 0) :=
  Lineages.flatten_map_eq_range binCalls S.bins _

theorem own {m n : Nat} {S : State} (I : TblInv m n S) : (keys m).Own Prod.fst (·.hist) S.bins :=
  fun i b hb e he => ⟨(I.keys i b hb).hist e he, rfl⟩

theorem callsOn_other_bin {m n : Nat} {S : State} (I : TblInv m n S) {j : Nat} {b : BinK.State}
    (hb : S.bins[j]? = some b) {k : Nat} (hk : k % m ≠ j) : BinK.callsOn b k = [] := by
  rw [List.eq_nil_iff_forall_not_mem]
  intro c hc
  rw [BinK.mem_callsOn] at hc
  exact hk ((I.keys j b hb).hist _ hc)

theorem proj_mhist {m n : Nat} {S : State} (I : TblInv m n S) {k : Nat} {b : BinK.State}
    (hb : S.bins[k % m]? = some b) : proj (mhist S) k = BinK.callsOn b k := by
  rw [mhist_eq, I.len]
  exact Lineages.proj_mhist _ (own I) hb

theorem bin_of_key {m n : Nat} (hm : 0 < m) {S : State} (I : TblInv m n S) (k : Nat) :
    ∃ b, S.bins[k % m]? = some b ∧ S.bins.getD (k % S.bins.length) (BinK.init 0) = b := by
  rw [I.len]
  exact Lineages.exists_getD _ (by rw [I.len]; exact Nat.mod_lt _ hm)

theorem mhist_wf {m n : Nat} {S : State} (hr : Reachable m n S) : ∀ c ∈ mhist S, c.call.inv ≤ c.call.resp := by
  intro c hc
  rw [mhist_eq] at hc
  obtain ⟨i, b, q, hb, hmem, -⟩ := Lineages.mem_mhist hc
  exact ((BinK.reachable_inv ((reachable_tblInv hr).reach i b hb)).thr.histTime _ hmem).1

end Flurry.Proto.TableK
