import Flurry.Lemmas.SeqTable
import Flurry.Seq.Step
/-! # The invariant of operation sequences, and lookups after a bin update

`Good m := WF m ∧ InitOk m` is the invariant carried through operation sequences. Between the
update of a bin and `addCount` the count is off and `WF` does not hold; what `treeifyBin` does to
such a state is `treeifyBin_pre` (`SeqTablePresize.lean`). -/
namespace Flurry.Seq
open Flurry Flurry.Gen
open Flurry.RB (upd)

/-- the invariant of operation sequences: well formed, and `size_ctl` is `0` or a requested
power-of-two capacity while the table does not exist yet -/
def Good (m : Map) : Prop := WF m ∧ InitOk m

theorem Good.wf {m : Map} (h : Good m) : WF m := h.1
theorem Good.initOk {m : Map} (h : Good m) : InitOk m := h.2

theorem Good.of_some {m : Map} {t : Table} (hw : WF m) (ht : m.table = some t) : Good m :=
  ⟨hw, InitOk.of_some ht⟩

theorem InitOk.of_tableLen_pos {m : Map} (h : 0 < tableLen m) : InitOk m :=
  fun ht => absurd (tableLen_of_none ht) (Nat.ne_of_gt h)

theorem Good.of_tableLen_pos {m : Map} (hw : WF m) (h : 0 < tableLen m) : Good m :=
  ⟨hw, InitOk.of_tableLen_pos h⟩

theorem good_withCapacity (hash : Nat → Nat) (c : Nat) : Good (withCapacity hash c) :=
  ⟨withCapacity_wf hash c, withCapacity_initOk hash c⟩

theorem initTable_table_some (m : Map) : ∃ t, (initTable m).table = some t :=
  Option.isSome_iff_exists.1 (initTable_table_isSome m)

theorem initTable_table_ne_none (m : Map) : (initTable m).table ≠ none :=
  fun h => (initTable_table_some m).elim fun _ ht => nomatch ht.symm.trans h

theorem Good.init {m : Map} (h : Good m) : Good (initTable m) :=
  (initTable_table_some m).elim fun _ ht => Good.of_some (initTable_wf h.1 h.2) ht

theorem initTable_idem {m : Map} (h : Good m) : initTable (initTable m) = initTable m :=
  (initTable_table_some m).elim fun _ ht => initTable_of_wf_some h.init.wf ht

theorem Good.initTable_eq {m : Map} (h : Good m) (hne : m.table ≠ none) : initTable m = m := by
  cases ht : m.table with
  | none => exact absurd ht hne
  | some t => exact initTable_of_wf_some h.1 ht

theorem absMap_apply (m : Map) (k : Nat) :
    absMap m k = (get k m).map fun nd => (nd.ki, nd.val, nd.vi) := rfl

/-- `Same.absMap_eq` from the lookups alone; the proofs use that one -/
theorem absMap_congr {m m' : Map} (h : ∀ k, get k m' = get k m) : absMap m' = absMap m := by
  funext k; simp only [absMap, h k]

theorem absMap_isSome (m : Map) (k : Nat) : (absMap m k).isSome = (get k m).isSome :=
  Option.isSome_map

theorem WF.tableWF {m : Map} {t : Table} (hw : WF m) (ht : m.table = some t) : TableWF m.hash t :=
  ((wf_some_iff ht).1 hw).1

theorem WF.tableLen_pos {m : Map} {t : Table} (hw : WF m) (ht : m.table = some t) :
    0 < tableLen m := by
  rw [tableLen_of_some ht]; exact (hw.tableWF ht).length_pos

theorem PreWF.tableLen_pos {m : Map} {t : Table} (hp : PreWF m t) : 0 < tableLen m := by
  rw [tableLen_of_some hp.table]; exact hp.twf.length_pos

theorem loadFactor_mono {a b : Nat} (h : a ≤ b) :
    loadFactor (Int.ofNat a) ≤ loadFactor (Int.ofNat b) := by
  simp only [loadFactor, Int.ofNat_eq_natCast]; omega

theorem get_set_bin {m m' : Map} {t : Table} (ht : m.table = some t) (hw : TableWF m.hash t)
    {i : Nat} {b' : Bin} (hi : i < t.length) (ht' : m'.table = some (t.set i b'))
    (hh : m'.hash = m.hash) (k' : Nat) :
    get k' m' = if bini (m.hash k') t.length = i then b'.find (m.hash k') k' else get k' m := by
  have hpos := hw.length_pos
  rw [get_eq_find ht hw]
  simp only [get, ht', hh, table_length_set]
  rw [if_neg (by simp only [beq_iff_eq]; omega), tableBin_set]
  by_cases h : bini (m.hash k') t.length = i
  · subst h; simp [hi]
  · have : ¬ i = bini (m.hash k') t.length := fun e => h e.symm
    simp [h, this]

theorem Bin.find_congr {hash : Nat → Nat} {n i : Nat} {b b' : Bin} (hb : BinWF hash n i b)
    (hb' : BinWF hash n i b') {h k : Nat}
    (hm : ∀ e, e.hash = h → e.key = k → (e ∈ b'.nodes ↔ e ∈ b.nodes)) :
    b'.find h k = b.find h k := by
  apply Option.ext
  intro e
  rw [Bin.find_iff hb, Bin.find_iff hb']
  exact ⟨fun ⟨h1, h2, h3⟩ => ⟨(hm e h2 h3).1 h1, h2, h3⟩, fun ⟨h1, h2, h3⟩ => ⟨(hm e h2 h3).2 h1, h2, h3⟩⟩

theorem insertBin_find_other {hash : Nat → Nat} {n i : Nat} {h k : Nat} {b : Bin} {nd : Node}
    (hb : BinWF hash n i b) (hf : b.find h k = none) (hh : nd.hash = h) (hk : nd.key = k)
    (hnd : NodeOk hash n i nd) {h' k' : Nat} (hne : k' ≠ k) :
    (insertBin nd b).find h' k' = b.find h' k' := by
  refine Bin.find_congr hb (insertBin_wf hb hf hh hk hnd) ?_
  intro e _ hek
  rw [(insertBin_nodes_perm nd b).mem_iff, List.mem_cons]
  exact ⟨fun h1 => h1.resolve_left fun he => hne (hek.symm.trans (he ▸ hk)), Or.inr⟩

theorem setValBin_find_other {hash : Nat → Nat} {n i : Nat} (h k v vi : Nat) {b : Bin}
    (hb : BinWF hash n i b) {h' k' : Nat} (hne : k' ≠ k) :
    (setValBin h k v vi b).find h' k' = b.find h' k' := by
  refine Bin.find_congr hb (setValBin_wf h k v vi hb) ?_
  intro e _ hek
  have hupd : ∀ x : Node, x.key = k' → upd h k v vi x = x := fun x hx =>
    if_neg fun hc => hne (hx.symm.trans hc.2)
  rw [setValBin_nodes h k v vi hb, List.mem_map]
  constructor
  · rintro ⟨x, hx, rfl⟩
    rwa [hupd x ((RB.upd_key h k v vi x).symm.trans hek)]
  · exact fun he => ⟨e, he, hupd e hek⟩

theorem removeBin_find_other {hash : Nat → Nat} {n i : Nat} {h k : Nat} {b : Bin} {old : Node}
    (hb : BinWF hash n i b) (hf : b.find h k = some old) {h' k' : Nat} (hne : k' ≠ k) :
    (removeBin h k b).find h' k' = b.find h' k' := by
  refine Bin.find_congr hb (removeBin_wf hb hf) ?_
  intro e _ hek
  rw [removeBin_nodes h k hb, List.mem_filter]
  refine ⟨fun h1 => h1.1, fun h1 => ⟨h1, ?_⟩⟩
  have : ¬ e.key = k := fun h2 => hne (hek.symm.trans h2)
  simp [this]

end Flurry.Seq
