/-! # `List.set` and sums over a list; a list of entries against a lookup function

What replacing one element of a list (`List.set`) does to a lookup, a count and a sum of a map (`sum_map_set`; with the
summand function changed as well: `sum_set_add_le`, the form the termination measures use), and sums compared entry by
entry. Then a list of entries with distinct keys that agrees with a lookup function (`entries_len`: its keys are the keys
the lookup finds and their number is its length; it has no entry twice: `nodup_of_keys_nodup`).

The file has two namespaces. `Flurry.Shared` (that of `Lemmas/SharedBasic.lean`) holds the lookup in `l.set t a` in the
forms the small-step models use on their thread lists: `get_set` (what an entry found there is), `get_set_self`,
`get_set_ne`; with `Shared.count_set` for a count they are what a new model takes. `Flurry.getElem?_set_of_some` is the
same lookup as one equation with an `if`, and `Flurry.countP_set_add` the count over `countP` instead of `filter`: the
forms of the protocol models (`Reclaim*`, `Resize*`, `RwLockBasic`), which rewrite with them. -/
namespace Flurry.Shared

theorem get_set {α} {l : List α} {t t' : Nat} {a b : α} (h : (l.set t a)[t']? = some b) :
    (t' = t ∧ b = a) ∨ (t' ≠ t ∧ l[t']? = some b) := by
  rw [List.getElem?_set] at h
  by_cases htt : t = t'
  · rw [if_pos htt] at h
    split at h
    · cases h; exact Or.inl ⟨htt.symm, rfl⟩
    · cases h
  · rw [if_neg htt] at h
    exact Or.inr ⟨fun e => htt e.symm, h⟩

theorem get_set_self {α} {l : List α} {t : Nat} {a b : α} (h : l[t]? = some b) :
    (l.set t a)[t]? = some a := by
  rw [List.getElem?_set, if_pos rfl, if_pos (List.getElem?_eq_some_iff.1 h).1]

theorem get_set_ne {α} {l : List α} {t t' : Nat} {a : α} (h : t' ≠ t) :
    (l.set t a)[t']? = l[t']? := by
  rw [List.getElem?_set, if_neg (fun e => h e.symm)]

end Flurry.Shared

namespace Flurry

theorem getElem?_set_of_some {α} {l : List α} {i : Nat} {a : α} (h : l[i]? = some a) (b : α) (j : Nat) :
    (l.set i b)[j]? = if j = i then some b else l[j]? := by
  by_cases hij : j = i
  · subst hij; rw [if_pos rfl, Shared.get_set_self h]
  · rw [if_neg hij, Shared.get_set_ne hij]

theorem countP_set_add {α} {p : α → Bool} {l : List α} {t : Nat} {a x : α} (h : l[t]? = some a) :
    (l.set t x).countP p + (p a).toNat = l.countP p + (p x).toNat := by
  induction l generalizing t with
  | nil => simp at h
  | cons y l ih =>
    cases t with
    | zero =>
      obtain rfl : y = a := by simpa using h
      simp only [List.set_cons_zero, List.countP_cons, Bool.toNat, Bool.cond_eq_ite]; omega
    | succ t =>
      have := ih (t := t) (by simpa using h)
      simp only [List.set_cons_succ, List.countP_cons]; omega

theorem sum_map_set {α} (f : α → Nat) {l : List α} {t : Nat} {a : α} (h : l[t]? = some a) (x : α) :
    ((l.set t x).map f).sum + f a = (l.map f).sum + f x := by
  induction l generalizing t with
  | nil => simp at h
  | cons y l ih =>
    cases t with
    | zero =>
      obtain rfl : y = a := by simpa using h
      simp only [List.set_cons_zero, List.map_cons, List.sum_cons]; omega
    | succ t =>
      have := ih (t := t) (by simpa using h)
      simp only [List.set_cons_succ, List.map_cons, List.sum_cons]; omega

theorem sum_map_le_of {α : Type} (f f' : α → Nat) : ∀ (ls : List α), (∀ x ∈ ls, f' x ≤ f x) →
    (ls.map f').sum ≤ (ls.map f).sum
  | [], _ => Nat.le_refl _
  | a :: as, h => by
    have h1 := h a List.mem_cons_self
    have h2 := sum_map_le_of f f' as (fun x hx => h x (List.mem_cons_of_mem _ hx))
    simp only [List.map_cons, List.sum_cons]
    omega

theorem sum_map_le_card {α : Type} (f : α → Nat) (c : Nat) : ∀ (ls : List α), (∀ x ∈ ls, f x ≤ c) →
    (ls.map f).sum ≤ ls.length * c
  | [], _ => by simp
  | a :: as, h => by
    have h1 := h a List.mem_cons_self
    have h2 := sum_map_le_card f c as (fun x hx => h x (List.mem_cons_of_mem _ hx))
    simp only [List.map_cons, List.sum_cons, List.length_cons, Nat.add_mul, Nat.one_mul]
    omega

/-- the sum after one entry was replaced and the summand function changed: the other entries do not
grow, the replaced entry shrinks by at least `d` -/
theorem sum_set_add_le {α : Type} (f f' : α → Nat) (d : Nat) : ∀ (ls : List α) (t : Nat) (l l' : α),
    ls[t]? = some l → (∀ i x, i ≠ t → ls[i]? = some x → f' x ≤ f x) → f' l' + d ≤ f l →
    ((ls.set t l').map f').sum + d ≤ (ls.map f).sum
  | [], t, l, l', h, _, _ => by simp at h
  | a :: as, 0, l, l', h, ho, hd => by
    have ha : a = l := by simpa using h
    subst ha
    have h2 := sum_map_le_of f f' as (fun x hx => by
      obtain ⟨i, hi⟩ := List.mem_iff_getElem?.1 hx
      exact ho (i + 1) x (by omega) (by simpa using hi))
    simp only [List.set_cons_zero, List.map_cons, List.sum_cons]
    omega
  | a :: as, t + 1, l, l', h, ho, hd => by
    have h1 : f' a ≤ f a := ho 0 a (by omega) (by simp)
    have h2 := sum_set_add_le f f' d as t l l' (by simpa using h)
      (fun i x hi hx => ho (i + 1) x (by omega) (by simpa using hx)) hd
    simp only [List.set_cons_succ, List.map_cons, List.sum_cons]
    omega

section lookup
variable {V : Type} {es : List (Nat × V)} {abs : Nat → Option V}

theorem nodup_of_keys_nodup (h : (es.map (·.1)).Nodup) : es.Nodup := by
  unfold List.Nodup at h ⊢
  rw [List.pairwise_map] at h
  exact h.imp fun hab e => hab (by rw [e])

theorem mem_keys_iff_lookup (hiff : ∀ k v, (k, v) ∈ es ↔ abs k = some v) (k : Nat) : k ∈ es.map (·.1) ↔ abs k ≠ none := by
  rw [List.mem_map]
  constructor
  · rintro ⟨⟨k', v⟩, h, rfl⟩
    rw [(hiff k' v).1 h]
    exact fun e => by cases e
  · intro h
    cases ha : abs k with
    | none => exact absurd ha h
    | some v => exact ⟨(k, v), (hiff k v).2 ha, rfl⟩

/-- **iteration and `len` agree with lookup**: the keys of a list of entries that has no key twice and agrees with a
lookup function are the keys the lookup finds, and any duplicate-free enumeration of those keys has as many members as
there are entries (what C05 states of the entries of a lineage and of a table; the first conjunct repeats `hnd`, as
those statements do) -/
theorem entries_len (hnd : (es.map (·.1)).Nodup) (hiff : ∀ k v, (k, v) ∈ es ↔ abs k = some v) :
    (es.map (·.1)).Nodup ∧ (∀ k, k ∈ es.map (·.1) ↔ abs k ≠ none) ∧
    ∀ ks : List Nat, ks.Nodup → (∀ k, k ∈ ks ↔ abs k ≠ none) → ks.Perm (es.map (·.1)) ∧ ks.length = es.length := by
  refine ⟨hnd, mem_keys_iff_lookup hiff, fun ks hks h => ?_⟩
  have hp : ks.Perm (es.map (·.1)) := by
    rw [List.perm_ext_iff_of_nodup hks hnd]
    intro k
    rw [h, mem_keys_iff_lookup hiff]
  exact ⟨hp, by rw [hp.length_eq, List.length_map]⟩

end lookup

end Flurry
