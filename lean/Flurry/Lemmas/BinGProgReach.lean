import Flurry.Lemmas.BinGProgInv
import Flurry.Lemmas.BinGLin
/-! # Proto/BinG, progress: `BInv` in every reachable state

The files `BinGProgInv` … `BinGProgStepW`, `BinGDrainDefs` … `BinGDrainStep` take `Inv s` and `BInv s` as hypotheses and import
the definitions of the invariant only. This is where its proof (`reachable_inv`, `step_heap_le` of `Lemmas/BinGLin.lean`)
enters: the files that speak of `Reachable` (`BinGProgSolo`, `BinGDrainRun` and what follows them) import this one. -/
namespace Flurry.Proto.BinG

theorem reachable_binv {n : Nat} {s : State} (hr : Reachable n s) : BInv s := by
  induction hr with
  | init => exact init_binv n
  | @step s s' t inv lo mt rz sm sm2 hr hs ih =>
    have I := reachable_inv hr
    cases hl : s.threads[t]? with
    | none => unfold step stepG at hs; rw [hl] at hs; cases hs
    | some l => exact stepN_binv I ih hl (step_heap_le hr hl hs) (step_stepN hl hs)

end Flurry.Proto.BinG
