import Flurry.Lemmas.BinRBBasic
/-! # Proto/BinRBase: the transitions in normal form (C01, C13)

`StepK s t l s'` lists the possible transitions of thread `t` (with local state `l`) as
constructors with explicit successor states; `step_stepK` dissects `step` once and for all. `StepK` follows from
`step` and is weaker: a branch that `step` takes when a test fails (`checkFail`, `casFail`) is listed without the
negation of the test, so enabledness and determinism are not read off it. -/
namespace Flurry.Proto.BinR.Base
open Flurry.Lin2

def tick (s : State) : State := { s with now := s.now + 1 }

/-- transitions that only change the program counter of the thread -/
inductive Move (s : State) (p : Pending) : Pc → Pc → Prop
  | rHead : Move s p .rHead (.rNode s.head)
  | rNext {c : Nat} {n : NodeS} : s.heap[c]? = some n → n.key ≠ p.key →
      Move s p (.rNode (some c)) (.rNode n.next)
  | toCas : s.head = none → Move s p .wHead .wCas
  | toLock {h : Nat} : s.head = some h → Move s p .wHead (.wLock h)
  | casFail : Move s p .wCas .wHead
  | checkOk {h : Nat} : s.head = some h → Move s p (.wCheck h) (.wWrite h)
  | checkFail {h : Nat} : Move s p (.wCheck h) (.wUnlock h .none true)

/-- transitions that change the lock word of node `h` to `x` -/
inductive LockMove (s : State) (t : Nat) : Pc → Nat → Option Nat → Pc → Prop
  | lock {h : Nat} {n : NodeS} : s.heap[h]? = some n → n.lock = none →
      LockMove s t (.wLock h) h (some t) (.wCheck h)
  | unlockRetry {h : Nat} {res : KRes} : LockMove s t (.wUnlock h res true) h none .wHead

/-- calls that complete without a store of their own -/
inductive Fin (s : State) (p : Pending) : Pc → KRes → Prop
  | miss : Fin s p (.rNode none) (match p.op with | .has => .bool false | _ => .none)
  | hit {c : Nat} {n : NodeS} : s.heap[c]? = some n → n.key = p.key →
      Fin s p (.rNode (some c)) (match p.op with | .has => .bool true | _ => .some n.val.1 n.val.2)
  | emptyBin : s.head = none → (∀ v vi, p.op ≠ .ins v vi ∧ p.op ≠ .tryIns v vi) → Fin s p .wHead .none

inductive StepK (s : State) (t : Nat) (l : Local) : State → Prop
  | idle : l.pc = .idle → StepK s t l (setT (tick s) t l)
  | invoke (k : Nat) (op : KOp2) : l.pc = .idle →
      StepK s t l (setT (tick s) t
        { pc := if isReader op then .rHead else .wHead, call := some ⟨k, op, s.now + 1⟩ })
  | move (p : Pending) (pc' : Pc) : l.call = some p → Move s p l.pc pc' →
      StepK s t l (setT (tick s) t { l with pc := pc' })
  | lockMove (p : Pending) (h : Nat) (x : Option Nat) (pc' : Pc) : l.call = some p →
      LockMove s t l.pc h x pc' →
      StepK s t l (setT (setNode (tick s) h (fun m => { m with lock := x })) t { l with pc := pc' })
  | fin (p : Pending) (res : KRes) : l.call = some p → Fin s p l.pc res →
      StepK s t l (finish (tick s) t p res)
  | cas (p : Pending) (v vi : Nat) : l.call = some p → l.pc = .wCas → s.head = none →
      (p.op = .ins v vi ∨ p.op = .tryIns v vi) →
      StepK s t l (finish { tick s with heap := s.heap ++ [⟨p.key, (v, vi), none, none⟩],
                                        head := some s.heap.length } t p .none)
  | write (p : Pending) (h : Nat) : l.call = some p → l.pc = .wWrite h →
      StepK s t l (setT (writerStore (tick s) p).1 t
        { l with pc := .wUnlock h (writerStore (tick s) p).2 false })
  | unlockFin (p : Pending) (h : Nat) (res : KRes) : l.call = some p → l.pc = .wUnlock h res false →
      StepK s t l (finish (setNode (tick s) h (fun m => { m with lock := none })) t p res)

theorem setT_self {s : State} {t : Nat} {l : Local} (hl : s.threads[t]? = some l) : setT s t l = s := by
  unfold setT
  obtain ⟨ht, rfl⟩ := List.getElem?_eq_some_iff.1 hl
  rw [List.set_getElem_self]

theorem stepK_of_step {s : State} {t : Nat} {l : Local} (inv : Option (Nat × KOp2))
    (hl : s.threads[t]? = some l) : (step s t inv).elim True (StepK s t l) := by
  unfold step
  rw [hl]
  obtain ⟨pc, call⟩ := l
  cases pc with
  | idle =>
    cases inv with
    | none =>
      show StepK s t _ (tick s)
      rw [← setT_self (s := tick s) hl]
      exact StepK.idle rfl
    | some ko => exact StepK.invoke ko.1 ko.2 rfl
  | rHead =>
    cases call with
    | none => exact True.intro
    | some p => exact StepK.move p _ rfl .rHead
  | rNode cur =>
    cases call with
    | none => cases cur <;> exact True.intro
    | some p =>
      cases cur with
      | none => exact StepK.fin p _ rfl .miss
      | some c =>
        show (match s.heap[c]? with | none => none | some n => _ : Option State).elim True _
        split
        · exact True.intro
        · rename_i n hn
          show (if _ then _ else _ : Option State).elim True _
          split
          · rename_i hk; exact StepK.fin p _ rfl (.hit hn (eq_of_beq hk))
          · rename_i hk; exact StepK.move p _ rfl (.rNext hn fun h => hk (beq_iff_eq.2 h))
  | wHead =>
    cases call with
    | none => exact True.intro
    | some p =>
      show (match s.head with | none => _ | some h => _ : Option State).elim True _
      split
      · rename_i hh
        show (match p.op with | .ins _ _ => _ | .tryIns _ _ => _ | _ => _ : Option State).elim True _
        split
        · exact StepK.move p _ rfl (.toCas hh)
        · exact StepK.move p _ rfl (.toCas hh)
        · rename_i h1 h2
          exact StepK.fin p _ rfl (.emptyBin hh fun v vi => ⟨h1 v vi, h2 v vi⟩)
      · rename_i h hh; exact StepK.move p _ rfl (.toLock hh)
  | wCas =>
    cases call with
    | none => exact True.intro
    | some p =>
      show (match s.head, p.op with | none, .ins v vi => _ | none, .tryIns v vi => _ | _, _ => _ :
        Option State).elim True _
      split
      · rename_i v vi hh hop; exact StepK.cas p v vi rfl rfl hh (Or.inl hop)
      · rename_i v vi hh hop; exact StepK.cas p v vi rfl rfl hh (Or.inr hop)
      · exact StepK.move p _ rfl .casFail
  | wLock h =>
    cases call with
    | none => exact True.intro
    | some p =>
      show (match s.heap[h]? with | none => none | some n => _ : Option State).elim True _
      split
      · exact True.intro
      · rename_i n hn
        show (if _ then _ else _ : Option State).elim True _
        split
        · exact True.intro
        · rename_i hlk
          exact StepK.lockMove p h (some t) _ rfl (.lock hn (Option.not_isSome_iff_eq_none.1 hlk))
  | wCheck h =>
    cases call with
    | none => exact True.intro
    | some p =>
      show (if _ then _ else _ : Option State).elim True _
      split
      · rename_i hh; exact StepK.move p _ rfl (.checkOk (eq_of_beq hh))
      · exact StepK.move p _ rfl .checkFail
  | wWrite h =>
    cases call with
    | none => exact True.intro
    | some p => exact StepK.write p h rfl rfl
  | wUnlock h res retry =>
    cases call with
    | none => exact True.intro
    | some p =>
      cases retry with
      | true => exact StepK.lockMove p h none _ rfl .unlockRetry
      | false => exact StepK.unlockFin p h res rfl rfl

theorem step_stepK {s s' : State} {t : Nat} {l : Local} {inv : Option (Nat × KOp2)}
    (hl : s.threads[t]? = some l) (hs : step s t inv = some s') : StepK s t l s' := by
  have := stepK_of_step inv hl
  rwa [hs] at this

end Flurry.Proto.BinR.Base
