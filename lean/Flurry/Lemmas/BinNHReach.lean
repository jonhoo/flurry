import Flurry.Lemmas.BinNHStep
import Flurry.Lemmas.BinNHInv
import Flurry.Lemmas.BinNGenReach
/-! # Proto/BinNH: every transition preserves the invariant of the helper model (`inv_rw`, `hstep_inv`, `stepH_inv`); it holds in every reachable state -/
namespace Flurry.Proto.BinNH
open Flurry.Lin
open Flurry.Proto.BinX (NodeS Cell Pending isReader dflt chainFrom cellHead cellOfHead get_set get_set_self get_set_ne
  cellOfHead_ne_moved)
open Flurry.Proto.BinN (cellAt cellOf putCell setNode allMoved splitBinB bitAt lockAt LockSame GenInv ThrOK isT
  Holds vcell genOfPc cellT StepK tick setT finish)

theorem inv_rw {s : State} {t : Nat} {n' : BinN.State} (I : Inv s) (hh : s.hs[t]? = some none)
    (G' : GenInv n') (E : RWEff s.n t n') : Inv { s with n := n' } := by
  obtain ⟨l', hthr, hT⟩ := E.thr
  refine ⟨G', ?_, ?_, ?_, ?_⟩
  · intro t1 l1 h1
    have h1 : (s.n.threads.set t l')[t1]? = some l1 := by rw [← hthr]; exact h1
    rcases get_set h1 with ⟨-, e⟩ | ⟨-, h1⟩
    · rw [e]; exact hT
    · exact I.noT t1 l1 h1
  · show s.hs.length = n'.threads.length
    rw [hthr, List.length_set]; exact I.len
  · intro t1 hp l1 h0 h1
    have h0 : s.hs[t1]? = some (some hp) := h0
    have h1 : (s.n.threads.set t l')[t1]? = some l1 := by rw [← hthr]; exact h1
    rcases get_set h1 with ⟨e, -⟩ | ⟨-, h1⟩
    · rw [e, hh] at h0; cases h0
    · exact I.hidle t1 hp l1 h0 h1
  · intro t1 hp h0
    have h0 : s.hs[t1]? = some (some hp) := h0
    have ne : t1 ≠ t := by rintro rfl; rw [hh] at h0; cases h0
    exact (I.hok t1 hp h0).of_rwEff E ne

/-- `BinN.no_writer_on_child` for the shared memory of this model, whose threads are never at a resizing program counter
of `Proto/BinN` (`Inv.noT`) -/
theorem no_writer_on_child {s : State} (I : Inv s) {j j' : Nat} (hnm : cellAt s.n s.n.cur j ≠ .moved)
    (hpar : j' % 2 ^ s.n.cur = j) :
    ∀ (t1 : Nat) (l1 : BinN.Local) (h : Nat), s.n.threads[t1]? = some l1 → vcell s.n.cur l1 ≠ some (s.n.cur + 1, j', h) :=
  fun t1 l1 h h1 => BinN.no_writer_on_child I.gen hnm hpar t1 l1 h h1 (I.noT t1 l1 h1)

/-- By cases on `HStep`, each through the lemma of `Lemmas/BinNHInv.lean` for its kind of store: the pc-only moves (leaving
among them) through `inv_pc`, the lock moves through `inv_lockmod`, the split through `inv_heap`, the CAS and the three
stores through `inv_put`, then `inv_commit`; what is left in each case is `HOK` of the acting helper at its new program
counter (`plain` when that holds no lock). -/
theorem hstep_inv {s : State} {t : Nat} {l : BinN.Local} {hp : Helper} {n' : BinN.State} {po : Option HPc} (I : Inv s)
    (hl : s.n.threads[t]? = some l) (hh : s.hs[t]? = some (some hp)) (hs : HStep s.n t hp.g hp.pc n' po) :
    Inv (setH s t n' (po.map fun pc' => ⟨hp.g, pc'⟩)) := by
  have H := I.hok t hp hh
  have hidl := I.hidle t hp l hh hl
  have hidle : ∀ l' : BinN.Local, s.n.threads[t]? = some l' → l'.pc = .idle :=
    fun l' h' => by rw [hl] at h'; cases h'; exact hidl
  obtain ⟨g, pc⟩ := hp
  have G := I.gen
  -- the invariant of the acting thread at a program counter that holds no lock
  have plain : ∀ {n1 : BinN.State} {pc' : HPc}, n1.cur = s.n.cur → n1.resizing = s.n.resizing →
      (∀ j, cellIdx pc' = some j → j < 2 ^ g) → (∀ h, ¬ HHolds pc' h) → hvalid pc' = none → pc' ≠ .commit →
      HOK n1 t ⟨g, pc'⟩ := fun hc hr hi hh hv hcm =>
    ⟨by rw [hc]; exact H.gle, fun e => by rw [hr]; exact H.res (by rw [← hc]; exact e), hi, fun h a => absurd a (hh h),
      fun j h a => (by rw [hv] at a; cases a), fun a => absurd a hcm⟩
  change HStep s.n t g pc n' po at hs
  show Inv (setH s t n' (po.map fun pc' => ⟨g, pc'⟩))
  cases hs with
  | move hm =>
    refine inv_pc I hidle ?_
    intro hp e
    cases hm with
    | quit => cases e
    | late => cases e
    | done hg hall =>
      cases e
      refine ⟨H.gle, H.res, fun j h => (by cases h), fun h hh => hh.elim, fun j h hv => (by cases hv), ?_⟩
      intro _ _ j hj
      subst hg
      exact (geninv_tick G).of_allMoved hall j hj
    | pick j hj =>
      cases e; exact plain rfl rfl (fun j' h => by cases h; exact hj) (fun _ h => h) rfl (fun h => by cases h)
    | cellEmpty =>
      cases e; exact plain rfl rfl (fun j' h => by cases h; exact H.idx _ rfl) (fun _ h => h) rfl (fun h => by cases h)
    | cellNode =>
      cases e; exact plain rfl rfl (fun j' h => by cases h; exact H.idx _ rfl) (fun _ h => h) rfl (fun h => by cases h)
    | cellMoved => cases e; exact plain rfl rfl (fun j' h => by cases h) (fun _ h => h) rfl (fun h => by cases h)
    | casFail =>
      cases e; exact plain rfl rfl (fun j' h => by cases h; exact H.idx _ rfl) (fun _ h => h) rfl (fun h => by cases h)
    | @checkOk j h hc =>
      cases e
      refine ⟨H.gle, H.res, fun j' h => (by cases h; exact H.idx j rfl), fun h' hh' => H.held h' hh', ?_,
        fun h => (by cases h)⟩
      intro j' h' hv
      simp only [hvalid, Option.some.injEq, Prod.mk.injEq] at hv
      obtain ⟨rfl, rfl⟩ := hv
      exact hc
  | @lock j h nd hn hfree =>
    have hlen : h < s.n.heap.length := (List.getElem?_eq_some_iff.1 hn).1
    refine inv_lockmod I hidle (Or.inl (by rw [BinN.lockAt_of_some hn]; exact hfree)) ?_
    intro hp e; cases e
    refine ⟨H.gle, H.res, fun j' h => (by cases h; exact H.idx j rfl), ?_, fun j h hv => (by cases hv),
      fun h => (by cases h)⟩
    intro h' hh'
    cases hh'
    exact ⟨by show h < (s.n.heap.modify _ _).length; simpa using hlen, BinN.lockAt_modify_self _ hlen⟩
  | unlockC j h =>
    refine inv_lockmod I hidle (Or.inr (H.held h rfl).2) ?_
    intro hp e; cases e
    exact plain rfl rfl (fun j' h => by cases h; exact H.idx j rfl) (fun _ h => h) rfl (fun h => by cases h)
  | unlockU j h =>
    refine inv_lockmod I hidle (Or.inr (H.held h rfl).2) ?_
    intro hp e; cases e
    exact plain rfl rfl (fun j' h => by cases h) (fun _ h => h) rfl (fun h => by cases h)
  | build j h =>
    have hj : j < 2 ^ g := H.idx j rfl
    have hheld := H.held h rfl
    have hcell : cellAt s.n g j = .node h := H.valid j h rfl
    have ls : LockSame s.n.heap (splitBinB (bitAt g) s.n.heap (chainFrom s.n.heap s.n.heap.length (some h))).1 :=
      BinN.splitBinB_lockSame (bitAt g) s.n.heap (chainFrom s.n.heap s.n.heap.length (some h))
    refine inv_heap I hidle ls ?_
    intro hp e; cases e
    refine ⟨H.gle, H.res, fun j' h => (by cases h; exact hj), ?_, ?_, fun h => (by cases h)⟩
    · intro h' hh'; cases hh'
      exact ⟨by have := ls.1; show h < (splitBinB _ _ _).1.length; omega, by
        show lockAt (splitBinB _ _ _).1 h = _; rw [ls.2 h hheld.1]; exact hheld.2⟩
    · intro j' h' hv
      simp only [hvalid, Option.some.injEq, Prod.mk.injEq] at hv
      obtain ⟨rfl, rfl⟩ := hv
      exact hcell
  | cas j hc =>
    have hj : j < 2 ^ g := H.idx j rfl
    have hg : g = s.n.cur := H.cur_of_not_moved G hj (by show cellAt s.n g j ≠ _; rw [hc]; simp)
    refine inv_put I hl hidl (Or.inr rfl) (fun _ => ⟨hg, H.res hg⟩) ?_ ?_ ?_
    · intro t1 l1 h _ h1
      exact BinN.no_vcell_of_not_node G (by rw [hc]; simp) t1 l1 h h1
    · intro t1 hp h _ _ _ hcell
      rw [hc] at hcell; cases hcell
    · intro hp e; cases e
      exact plain rfl rfl (fun j' h => by cases h) (fun _ h => h) rfl (fun h => by cases h)
  | low j h lo hg =>
    have hj : j < 2 ^ g := H.idx j rfl
    have hcell : cellAt s.n g j = .node h := H.valid j h rfl
    obtain ⟨hgc, R⟩ := H.valid_cur G (j := j) (h := h) rfl
    have hgc : g = s.n.cur := hgc
    subst hgc
    have hnm : cellAt s.n s.n.cur j ≠ .moved := by rw [hcell]; simp
    refine inv_put I hl hidl (Or.inl (G.nextOK j)) (fun h => absurd h (cellOfHead_ne_moved lo)) ?_ ?_ ?_
    · intro t1 l1 h' _ h1
      exact no_writer_on_child I hnm (Nat.mod_eq_of_lt hj) t1 l1 h' h1
    · intro t1 hp h' _ hh1 e
      have := (I.hok t1 hp hh1).gle
      omega
    · intro hp e; cases e
      refine ⟨H.gle, H.res, fun j' h => (by cases h; exact hj), fun h' hh' => H.held h' hh', ?_, fun h => (by cases h)⟩
      intro j' h' hv
      simp only [hvalid, Option.some.injEq, Prod.mk.injEq] at hv
      obtain ⟨rfl, rfl⟩ := hv
      show cellT (s.n.tabs.modify (s.n.cur + 1) _) s.n.cur j = _
      rw [BinN.cellT_put_ne _ _ (by intro ⟨h1, _⟩; omega)]
      exact hcell
  | high j h hg =>
    have hj : j < 2 ^ g := H.idx j rfl
    have hcell : cellAt s.n g j = .node h := H.valid j h rfl
    obtain ⟨hgc, R⟩ := H.valid_cur G (j := j) (h := h) rfl
    have hgc : g = s.n.cur := hgc
    subst hgc
    have hnm : cellAt s.n s.n.cur j ≠ .moved := by rw [hcell]; simp
    refine inv_put I hl hidl (Or.inl (G.nextOK _)) (fun h => absurd h (cellOfHead_ne_moved hg)) ?_ ?_ ?_
    · intro t1 l1 h' _ h1
      exact no_writer_on_child I hnm (BinN.high_mod j s.n.cur hj) t1 l1 h' h1
    · intro t1 hp h' _ hh1 e
      have := (I.hok t1 hp hh1).gle
      omega
    · intro hp e; cases e
      refine ⟨H.gle, H.res, fun j' h => (by cases h; exact hj), fun h' hh' => H.held h' hh', ?_, fun h => (by cases h)⟩
      intro j' h' hv
      simp only [hvalid, Option.some.injEq, Prod.mk.injEq] at hv
      obtain ⟨rfl, rfl⟩ := hv
      show cellT (s.n.tabs.modify (s.n.cur + 1) _) s.n.cur j = _
      rw [BinN.cellT_put_ne _ _ (by intro ⟨h1, _⟩; omega)]
      exact hcell
  | marker j h =>
    have hj : j < 2 ^ g := H.idx j rfl
    have hcell : cellAt s.n g j = .node h := H.valid j h rfl
    have hheld := H.held h rfl
    obtain ⟨hgc, R⟩ := H.valid_cur G (j := j) (h := h) rfl
    have hgc : g = s.n.cur := hgc
    refine inv_put I hl hidl (Or.inr rfl) (fun _ => ⟨hgc, R⟩) ?_ ?_ ?_
    · intro t1 l1 h' ne h1 hv
      obtain ⟨c1, hh1⟩ := (G.thr t1 l1 h1).valid _ _ _ hv
      rw [hcell] at c1
      cases c1
      have := ((G.thr t1 l1 h1).held h hh1).2
      rw [hheld.2] at this
      exact ne (Option.some.inj this).symm
    · intro t1 hp h' ne _ _ c1 hlk
      rw [hcell] at c1
      cases c1
      rw [hheld.2] at hlk
      exact ne (Option.some.inj hlk).symm
    · intro hp e; cases e
      exact ⟨H.gle, H.res, fun j' h => (by cases h; exact hj), fun h' hh' => H.held h' hh', fun j h hv => (by cases hv),
        fun h => (by cases h)⟩
  | commit hg R => exact inv_commit I hidle R (H.commit rfl hg)

theorem stepH_inv {s s' : State} {t : Nat} (I : Inv s) (hs : StepH s t s') : Inv s' := by
  cases hs with
  | @rw l n' hl hh K hres =>
    exact inv_rw I hh (BinN.stepK_geninv I.gen hl K) (stepK_rwEff I.gen hl hres (I.noT t l hl) K)
  | @join l hl hh hi R =>
    refine inv_pc I (fun l' h' => by rw [hl] at h'; cases h'; exact hi) ?_
    intro hp e; cases e
    exact ⟨Nat.le_refl _, fun _ => R, fun j h => (by cases h), fun h hh => hh.elim, fun j h hv => (by cases hv),
      fun h => (by cases h)⟩
  | @start l hl hh hi R => exact inv_alloc I (fun l' h' => by rw [hl] at h'; cases h'; exact hi) R
  | helper hl hh hst => exact hstep_inv I hl hh hst

theorem step_inv {s s' : State} {t : Nat} {inv : Option (Nat × KOp)} {rz leave : Bool} {pick : Nat} (I : Inv s)
    (hs : step s t inv rz leave pick = some s') : Inv s' := stepH_inv I (step_stepH hs)

theorem init_inv (n : Nat) : Inv (init n) := by
  refine ⟨BinN.init_geninv n, ?_, ?_, ?_, ?_⟩
  · intro t l h1
    rw [BinN.init_thread h1]; exact fun h => h
  · show (List.replicate n none).length = (List.replicate n _).length
    simp
  · intro t hp l h0
    have := List.eq_of_mem_replicate (List.mem_of_getElem? (show (List.replicate n none)[t]? = some (some hp) from h0))
    cases this
  · intro t hp h0
    have := List.eq_of_mem_replicate (List.mem_of_getElem? (show (List.replicate n none)[t]? = some (some hp) from h0))
    cases this

theorem reachable_inv {n : Nat} {s : State} (hr : Reachable n s) : Inv s := by
  induction hr with
  | init => exact init_inv n
  | step t inv rz leave pick _ hs ih => exact step_inv ih hs

end Flurry.Proto.BinNH
