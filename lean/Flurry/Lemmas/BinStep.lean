import Flurry.Lemmas.BinBasic
import Flurry.Lemmas.BinRBLock
import Flurry.Lemmas.BinRBMain
/-! # Proto/Bin: the transitions in normal form (C01)

`StepK s t l s'` lists the possible transitions of thread `t` (with local state `l`) as
constructors with explicit successor states (the normal form of `Lemmas/BinRBStep.lean`, over `KOp`; like it, it
follows from `step` and is weaker); `step_stepK` dissects `step` once and for all.
`StepK.base`: `emb` maps a transition to a transition of `Proto/BinRBase`; hence the invariants of
`Proto/BinRBase` hold on the image of every reachable state (`reachable_base`). -/
namespace Flurry.Proto.Bin
open Flurry.Lin

def tick (s : State) : State := { s with now := s.now + 1 }

inductive Move (s : State) (p : Pending) : Pc → Pc → Prop
  | rHead : Move s p .rHead (.rNode s.head)
  | rNext {c : Nat} {n : NodeS} : s.heap[c]? = some n → n.key ≠ p.key →
      Move s p (.rNode (some c)) (.rNode n.next)
  | toCas : s.head = none → Move s p .wHead .wCas
  | toLock {h : Nat} : s.head = some h → Move s p .wHead (.wLock h)
  | casFail : Move s p .wCas .wHead
  | checkOk {h : Nat} : s.head = some h → Move s p (.wCheck h) (.wWrite h)
  | checkFail {h : Nat} : Move s p (.wCheck h) (.wUnlock h .none true)

inductive LockMove (s : State) (t : Nat) : Pc → Nat → Option Nat → Pc → Prop
  | lock {h : Nat} {n : NodeS} : s.heap[h]? = some n → n.lock = none →
      LockMove s t (.wLock h) h (some t) (.wCheck h)
  | unlockRetry {h : Nat} {res : KRes} : LockMove s t (.wUnlock h res true) h none .wHead

inductive Fin (s : State) (p : Pending) : Pc → KRes → Prop
  | miss : Fin s p (.rNode none) (match p.op with | .has => .bool false | _ => .none)
  | hit {c : Nat} {n : NodeS} : s.heap[c]? = some n → n.key = p.key →
      Fin s p (.rNode (some c)) (match p.op with | .has => .bool true | _ => .some n.val.1 n.val.2)
  | emptyBin : s.head = none → (∀ v vi, p.op ≠ .ins v vi ∧ p.op ≠ .tryIns v vi) → Fin s p .wHead .none

inductive StepK (s : State) (t : Nat) (l : Local) : State → Prop
  | idle : l.pc = .idle → StepK s t l (setT (tick s) t l)
  | invoke (k : Nat) (op : KOp) : l.pc = .idle →
      StepK s t l (setT (tick s) t
        { pc := if isReader op then .rHead else .wHead, call := some ⟨k, op, s.now + 1⟩ })
  | move (p : Pending) (pc' : Pc) : l.call = some p → Move s p l.pc pc' →
      StepK s t l (setT (tick s) t { l with pc := pc' })
  | lockMove (p : Pending) (h : Nat) (x : Option Nat) (pc' : Pc) : l.call = some p →
      LockMove s t l.pc h x pc' →
      StepK s t l (setT (setNode (tick s) h (fun m => { m with lock := x })) t { l with pc := pc' })
  | fin (p : Pending) (res : KRes) : l.call = some p → Fin s p l.pc res →
      StepK s t l (finish (tick s) t p res)
  | cas (p : Pending) (v vi : Nat) : l.call = some p → l.pc = .wCas → s.head = none →
      (p.op = .ins v vi ∨ p.op = .tryIns v vi) →
      StepK s t l (finish { tick s with heap := s.heap ++ [⟨p.key, (v, vi), none, none⟩],
                                        head := some s.heap.length } t p .none)
  | write (p : Pending) (h : Nat) : l.call = some p → l.pc = .wWrite h →
      StepK s t l (setT (writerStore (tick s) p).1 t
        { l with pc := .wUnlock h (writerStore (tick s) p).2 false })
  | unlockFin (p : Pending) (h : Nat) (res : KRes) : l.call = some p → l.pc = .wUnlock h res false →
      StepK s t l (finish (setNode (tick s) h (fun m => { m with lock := none })) t p res)

theorem setT_self {s : State} {t : Nat} {l : Local} (hl : s.threads[t]? = some l) : setT s t l = s := by
  unfold setT
  obtain ⟨ht, rfl⟩ := List.getElem?_eq_some_iff.1 hl
  rw [List.set_getElem_self]

theorem stepK_of_step {s : State} {t : Nat} {l : Local} (inv : Option (Nat × KOp))
    (hl : s.threads[t]? = some l) : (step s t inv).elim True (StepK s t l) := by
  unfold step
  rw [hl]
  obtain ⟨pc, call⟩ := l
  cases pc with
  | idle =>
    cases inv with
    | none =>
      show StepK s t _ (tick s)
      rw [← setT_self (s := tick s) hl]
      exact StepK.idle rfl
    | some ko => exact StepK.invoke ko.1 ko.2 rfl
  | rHead =>
    cases call with
    | none => exact True.intro
    | some p => exact StepK.move p _ rfl .rHead
  | rNode cur =>
    cases call with
    | none => cases cur <;> exact True.intro
    | some p =>
      cases cur with
      | none => exact StepK.fin p _ rfl .miss
      | some c =>
        show (match s.heap[c]? with | none => none | some n => _ : Option State).elim True _
        split
        · exact True.intro
        · rename_i n hn
          show (if _ then _ else _ : Option State).elim True _
          split
          · rename_i hk; exact StepK.fin p _ rfl (.hit hn (eq_of_beq hk))
          · rename_i hk; exact StepK.move p _ rfl (.rNext hn fun h => hk (beq_iff_eq.2 h))
  | wHead =>
    cases call with
    | none => exact True.intro
    | some p =>
      show (match s.head with | none => _ | some h => _ : Option State).elim True _
      split
      · rename_i hh
        show (match p.op with | .ins _ _ => _ | .tryIns _ _ => _ | _ => _ : Option State).elim True _
        split
        · exact StepK.move p _ rfl (.toCas hh)
        · exact StepK.move p _ rfl (.toCas hh)
        · rename_i h1 h2
          exact StepK.fin p _ rfl (.emptyBin hh fun v vi => ⟨h1 v vi, h2 v vi⟩)
      · rename_i h hh; exact StepK.move p _ rfl (.toLock hh)
  | wCas =>
    cases call with
    | none => exact True.intro
    | some p =>
      show (match s.head, p.op with | none, .ins v vi => _ | none, .tryIns v vi => _ | _, _ => _ :
        Option State).elim True _
      split
      · rename_i v vi hh hop; exact StepK.cas p v vi rfl rfl hh (Or.inl hop)
      · rename_i v vi hh hop; exact StepK.cas p v vi rfl rfl hh (Or.inr hop)
      · exact StepK.move p _ rfl .casFail
  | wLock h =>
    cases call with
    | none => exact True.intro
    | some p =>
      show (match s.heap[h]? with | none => none | some n => _ : Option State).elim True _
      split
      · exact True.intro
      · rename_i n hn
        show (if _ then _ else _ : Option State).elim True _
        split
        · exact True.intro
        · rename_i hlk
          exact StepK.lockMove p h (some t) _ rfl (.lock hn (Option.not_isSome_iff_eq_none.1 hlk))
  | wCheck h =>
    cases call with
    | none => exact True.intro
    | some p =>
      show (if _ then _ else _ : Option State).elim True _
      split
      · rename_i hh; exact StepK.move p _ rfl (.checkOk (eq_of_beq hh))
      · exact StepK.move p _ rfl .checkFail
  | wWrite h =>
    cases call with
    | none => exact True.intro
    | some p => exact StepK.write p h rfl rfl
  | wUnlock h res retry =>
    cases call with
    | none => exact True.intro
    | some p =>
      cases retry with
      | true => exact StepK.lockMove p h none _ rfl .unlockRetry
      | false => exact StepK.unlockFin p h res rfl rfl

theorem step_stepK {s s' : State} {t : Nat} {l : Local} {inv : Option (Nat × KOp)}
    (hl : s.threads[t]? = some l) (hs : step s t inv = some s') : StepK s t l s' := by
  have := stepK_of_step inv hl
  rwa [hs] at this

theorem emb_tick (s : State) : emb (tick s) = BinR.Base.tick (emb s) := rfl

theorem Move.base {s : State} {p : Pending} {pc pc' : Pc} (h : Move s p pc pc') :
    BinR.Base.Move (emb s) (eP p) (ePc pc) (ePc pc') := by
  cases h with
  | rHead => exact .rHead
  | rNext hn hk => exact .rNext (node_emb hn) hk
  | toCas hh => exact .toCas hh
  | toLock hh => exact .toLock hh
  | casFail => exact .casFail
  | checkOk hh => exact .checkOk hh
  | checkFail => exact .checkFail

theorem LockMove.base {s : State} {t h : Nat} {x : Option Nat} {pc pc' : Pc} (hm : LockMove s t pc h x pc') :
    BinR.Base.LockMove (emb s) t (ePc pc) h x (ePc pc') := by
  cases hm with
  | lock hn hlk => exact .lock (node_emb hn) hlk
  | unlockRetry => exact .unlockRetry

theorem embOp_eq_ins {op : KOp} {v vi : Nat} : embOp op = .ins v vi ↔ op = .ins v vi := by
  cases op <;> simp [embOp]

theorem embOp_eq_tryIns {op : KOp} {v vi : Nat} : embOp op = .tryIns v vi ↔ op = .tryIns v vi := by
  cases op <;> simp [embOp]

theorem Fin.base {s : State} {p : Pending} {pc : Pc} {res : KRes} (h : Fin s p pc res) :
    BinR.Base.Fin (emb s) (eP p) (ePc pc) (embRes res) := by
  obtain ⟨key, op, inv⟩ := p
  cases h with
  | miss => cases op <;> exact .miss
  | hit hn hk => cases op <;> exact .hit (node_emb hn) hk
  | emptyBin hh hop =>
    exact .emptyBin hh fun v vi =>
      ⟨fun h => (hop v vi).1 (embOp_eq_ins.1 h), fun h => (hop v vi).2 (embOp_eq_tryIns.1 h)⟩

theorem StepK.base {s s' : State} {t : Nat} {l : Local} (h : StepK s t l s') :
    BinR.Base.StepK (emb s) t (eL l) (emb s') := by
  cases h with
  | idle hpc => rw [← setT_emb]; exact .idle (congrArg ePc hpc)
  | invoke k op hpc =>
    have := BinR.Base.StepK.invoke (s := emb s) (t := t) (l := eL l) k (embOp op) (congrArg ePc hpc)
    rw [isReader_emb] at this
    rw [← setT_emb]
    cases hr : isReader op <;> rw [hr] at this <;> exact this
  | move p pc' hp hm => rw [← setT_emb]; exact .move (eP p) (ePc pc') (call_emb hp) hm.base
  | lockMove p h x pc' hp hm =>
    rw [← setT_emb, ← setNode_emb _ h _ (fun m => { m with lock := x }) fun _ => rfl]
    exact .lockMove (eP p) h x (ePc pc') (call_emb hp) hm.base
  | fin p res hp hf => rw [← finish_emb]; exact .fin (eP p) (embRes res) (call_emb hp) hf.base
  | cas p v vi hp hpc hh hop =>
    rw [← finish_emb]
    have := BinR.Base.StepK.cas (s := emb s) (t := t) (l := eL l) (eP p) v vi (call_emb hp) (congrArg ePc hpc) hh
      (hop.imp (congrArg embOp) (congrArg embOp))
    rw [emb_heap, List.length_map] at this
    exact (emb_push (tick s) ⟨p.key, (v, vi), none, none⟩ (some s.heap.length)) ▸ this
  | write p h hp hpc =>
    have := BinR.Base.StepK.write (s := emb s) (t := t) (l := eL l) (eP p) h (call_emb hp) (congrArg ePc hpc)
    rw [← emb_tick, writerStore_emb] at this
    rw [← setT_emb]
    exact this
  | unlockFin p h res hp hpc =>
    rw [← finish_emb, ← setNode_emb _ h _ (fun m => { m with lock := none }) fun _ => rfl]
    exact .unlockFin (eP p) h (embRes res) (call_emb hp) (congrArg ePc hpc)

theorem reachable_base {n : Nat} {s : State} (hr : Reachable n s) :
    BinR.Base.Inv (emb s) ∧ BinR.Base.LInv (emb s) ∧ ∀ k, ∃ A pt, BinR.Base.GInv k (emb s) A pt := by
  induction hr with
  | init =>
    rw [emb_init]
    exact ⟨BinR.Base.init_inv n, BinR.Base.init_linv n, fun k => ⟨_, _, BinR.Base.init_ginv n k⟩⟩
  | @step s s' t inv _ hs ih =>
    obtain ⟨I, L, G⟩ := ih
    cases hl : s.threads[t]? with
    | none => unfold step at hs; rw [hl] at hs; cases hs
    | some l =>
      have hk := (step_stepK hl hs).base
      have hl' := thr_emb hl
      refine ⟨(BinR.Base.stepK_inv I hl' hk).1,
        BinR.Base.stepK_linv L I hl' hk, fun k => ?_⟩
      obtain ⟨A, pt, g⟩ := G k
      exact BinR.Base.ginv_step g I hl' hk

end Flurry.Proto.Bin
