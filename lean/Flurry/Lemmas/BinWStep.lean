import Flurry.Lemmas.BinWProj
/-! # Proto/BinW: the transitions in normal form (C01)

`StepW s t l s'` lists the transitions of `BinW.step` with explicit successor states. The
transitions that `Proto/Bin` also has are phrased through `Bin.Move` / `Bin.LockMove` / `Bin.Fin`
on the projected state; the new ones are the three walk steps and the store through the
remembered positions. `step_stepW` dissects `step` once and for all; the side conditions of `move` are explained in
`Lemmas/BinRStep.lean`, of which this file is the part without `condRm` and the `retain` visit. -/
namespace Flurry.Proto.BinW
open Flurry.Lin

theorem tick_def (s : State) : ({ s with now := s.now + 1 } : State) = tick s := rfl

def walkPc : Pc → Prop
  | .wFind _ _ _ => True
  | .wStore _ _ _ _ => True
  | _ => False

theorem walkPc_iff {pc : Pc} : walkPc pc ↔ ∃ h, cPc pc = .wWrite h := by
  cases pc <;> simp [walkPc, cPc]

inductive StepW (s : State) (t : Nat) (l : Local) : State → Prop
  | idle : l.pc = .idle → StepW s t l (tick s)
  | invoke (k : Nat) (op : KOp) : l.pc = .idle →
      StepW s t l (setT (tick s) t
        { pc := if isReader op then .rHead else .wHead, call := some ⟨k, op, s.now + 1⟩ })
  | move (p : Pending) (pc' : Pc) : l.call = some p → Bin.Move (proj s) (cP p) (cPc l.pc) (cPc pc') →
      ¬ walkPc l.pc → (walkPc pc' → ∃ h, l.pc = .wCheck h ∧ pc' = .wFind h none (some h)) →
      StepW s t l (setT (tick s) t { l with pc := pc' })
  | lockMove (p : Pending) (h : Nat) (x : Option Nat) (pc' : Pc) : l.call = some p →
      Bin.LockMove (proj s) t (cPc l.pc) h x (cPc pc') → ¬ walkPc l.pc → ¬ walkPc pc' →
      StepW s t l (setT (setNode (tick s) h (fun m => { m with lock := x })) t { l with pc := pc' })
  | fin (p : Pending) (res : KRes) : l.call = some p → Bin.Fin (proj s) (cP p) (cPc l.pc) res →
      StepW s t l (finish (tick s) t p res)
  | cas (p : Pending) (v vi : Nat) : l.call = some p → l.pc = .wCas → s.head = none →
      (p.op = .ins v vi ∨ p.op = .tryIns v vi) →
      StepW s t l (finish { tick s with heap := s.heap ++ [⟨p.key, (v, vi), none, none⟩],
                                        head := some s.heap.length } t p .none)
  | walkEnd (p : Pending) (h : Nat) (pred : Option Nat) : l.call = some p → l.pc = .wFind h pred none →
      StepW s t l (setT (tick s) t { l with pc := .wStore h pred none none })
  | walkHit (p : Pending) (h : Nat) (pred : Option Nat) (c : Nat) (n : NodeS) : l.call = some p →
      l.pc = .wFind h pred (some c) → s.heap[c]? = some n → n.key = p.key →
      StepW s t l (setT (tick s) t { l with pc := .wStore h pred (some c) n.next })
  | walkNext (p : Pending) (h : Nat) (pred : Option Nat) (c : Nat) (n : NodeS) : l.call = some p →
      l.pc = .wFind h pred (some c) → s.heap[c]? = some n → n.key ≠ p.key →
      StepW s t l (setT (tick s) t { l with pc := .wFind h (some c) n.next })
  | store (p : Pending) (h : Nat) (pred hit hnext : Option Nat) : l.call = some p →
      l.pc = .wStore h pred hit hnext →
      StepW s t l (setT (storeAt (tick s) p pred hit hnext).1 t
        { l with pc := .wUnlock h (storeAt (tick s) p pred hit hnext).2 false })
  | unlockFin (p : Pending) (h : Nat) (res : KRes) : l.call = some p → l.pc = .wUnlock h res false →
      StepW s t l (finish (setNode (tick s) h (fun m => { m with lock := none })) t p res)

theorem stepW_of_step {s : State} {t : Nat} {l : Local} (inv : Option (Nat × KOp))
    (hl : s.threads[t]? = some l) : (step s t inv).elim True (StepW s t l) := by
  unfold step stepG
  rw [hl]
  obtain ⟨pc, call⟩ := l
  have hnode : ∀ {c : Nat} {n : NodeS}, s.heap[c]? = some n → (proj s).heap[c]? = some (cN n) :=
    fun hn => by rw [proj_node, hn]; rfl
  cases pc with
  | idle =>
    cases inv with
    | none => exact StepW.idle rfl
    | some ko => exact StepW.invoke ko.1 ko.2 rfl
  | rHead =>
    cases call with
    | none => exact True.intro
    | some p => exact StepW.move p (.rNode s.head) rfl .rHead (fun h => h) (fun h => h.elim)
  | rNode cur =>
    cases call with
    | none => cases cur <;> exact True.intro
    | some p =>
      cases cur with
      | none => exact StepW.fin p _ rfl .miss
      | some c =>
        show (match s.heap[c]? with | none => none | some n => _ : Option State).elim True _
        split
        · exact True.intro
        · rename_i n hn
          show (if _ then _ else _ : Option State).elim True _
          split
          · rename_i hk; exact StepW.fin p _ rfl (.hit (hnode hn) (eq_of_beq hk))
          · rename_i hk
            exact StepW.move p (.rNode n.next) rfl (.rNext (hnode hn) fun h => hk (beq_iff_eq.2 h))
              (fun h => h) (fun h => h.elim)
  | wHead =>
    cases call with
    | none => exact True.intro
    | some p =>
      show (match s.head with | none => _ | some h => _ : Option State).elim True _
      split
      · rename_i hh
        show (match p.op with | .ins _ _ => _ | .tryIns _ _ => _ | _ => _ : Option State).elim True _
        split
        · exact StepW.move p .wCas rfl (.toCas hh) (fun h => h) (fun h => h.elim)
        · exact StepW.move p .wCas rfl (.toCas hh) (fun h => h) (fun h => h.elim)
        · rename_i h1 h2
          exact StepW.fin p _ rfl (.emptyBin hh fun v vi => ⟨h1 v vi, h2 v vi⟩)
      · rename_i h hh; exact StepW.move p (.wLock h) rfl (.toLock hh) (fun h => h) (fun h => h.elim)
  | wCas =>
    cases call with
    | none => exact True.intro
    | some p =>
      show (match s.head, p.op with | none, .ins v vi => _ | none, .tryIns v vi => _ | _, _ => _ :
        Option State).elim True _
      split
      · rename_i v vi hh hop; exact StepW.cas p v vi rfl rfl hh (Or.inl hop)
      · rename_i v vi hh hop; exact StepW.cas p v vi rfl rfl hh (Or.inr hop)
      · exact StepW.move p .wHead rfl .casFail (fun h => h) (fun h => h.elim)
  | wLock h =>
    cases call with
    | none => exact True.intro
    | some p =>
      show (match s.heap[h]? with | none => none | some n => _ : Option State).elim True _
      split
      · exact True.intro
      · rename_i n hn
        show (if _ then _ else _ : Option State).elim True _
        split
        · exact True.intro
        · rename_i hlk
          exact StepW.lockMove p h (some t) (.wCheck h) rfl
            (.lock (hnode hn) (Option.not_isSome_iff_eq_none.1 hlk)) (fun h => h) (fun h => h)
  | wCheck h =>
    cases call with
    | none => exact True.intro
    | some p =>
      show (if (!true || s.head == some h) = true then _ else _ : Option State).elim True _
      split
      · rename_i hh
        exact StepW.move p (.wFind h none (some h)) rfl (.checkOk (eq_of_beq hh)) (fun h => h)
          (fun _ => ⟨h, rfl, rfl⟩)
      · exact StepW.move p (.wUnlock h .none true) rfl .checkFail (fun h => h) (fun h => h.elim)
  | wFind h pred cur =>
    cases call with
    | none => cases cur <;> exact True.intro
    | some p =>
      cases cur with
      | none => exact StepW.walkEnd p h pred rfl rfl
      | some c =>
        show (match s.heap[c]? with | none => none | some n => _ : Option State).elim True _
        split
        · exact True.intro
        · rename_i n hn
          show (if _ then _ else _ : Option State).elim True _
          split
          · rename_i hk; exact StepW.walkHit p h pred c n rfl rfl hn (eq_of_beq hk)
          · rename_i hk; exact StepW.walkNext p h pred c n rfl rfl hn fun h => hk (beq_iff_eq.2 h)
  | wStore h pred hit hnext =>
    cases call with
    | none => exact True.intro
    | some p => exact StepW.store p h pred hit hnext rfl rfl
  | wUnlock h res retry =>
    cases call with
    | none => exact True.intro
    | some p =>
      cases retry with
      | true => exact StepW.lockMove p h none .wHead rfl .unlockRetry (fun h => h) (fun h => h)
      | false => exact StepW.unlockFin p h res rfl rfl

theorem step_stepW {s s' : State} {t : Nat} {l : Local} {inv : Option (Nat × KOp)}
    (hl : s.threads[t]? = some l) (hs : step s t inv = some s') : StepW s t l s' := by
  have := stepW_of_step inv hl
  rwa [hs] at this

end Flurry.Proto.BinW
