import Flurry.Lemmas.ReclaimBasic
/-! # No use after free in protected runs of the reclamation discipline (C03)

`Inv`: a held pointer is in range and its holder `MayHold` it, and an unpublished object is held by its
creator only. `inv_step` gets both clauses from the two views of a step in `Lemmas/ReclaimBasic`: on the
thread side `mem_holdsOf_step` (where a pointer held after the step comes from), on the object side
`step_obj` with `ObjStep.mayHold` and `ObjStep.fresh_origin`. The hypothesis on runs is `publishGuarded`;
`HoldsGuarded` derives it from `allocGuarded`. -/
namespace Flurry.Proto.Reclaim

/-- along the run of `es` from `s`, every `publish t o` is performed while `t` is guarded. A
condition on the run, not on `step`: `Proto/Reclaim` lets an unguarded thread allocate and publish,
and `unguarded_creator_bad_touch` is what then goes wrong. -/
def publishGuarded (s : State) : List Ev → Bool
  | [] => true
  | e :: es =>
    (match e with | .publish t _ => guardedB s t | _ => true) &&
    (match step s e with | some s' => publishGuarded s' es | none => true)

/-- along the run of `es` from `s`, every `alloc t` is performed while `t` is guarded -/
def allocGuarded (s : State) : List Ev → Bool
  | [] => true
  | e :: es =>
    (match e with | .alloc t => guardedB s t | _ => true) &&
    (match step s e with | some s' => allocGuarded s' es | none => true)

/-- thread `t`, with guard flag `g`, may hold a pointer to an object in this state: an unguarded thread only to an
object it created and has not published yet; a guarded one to any object that is not freed, and if the object is
retired the collector waits for `t` -/
def MayHold (g : Bool) (t : Nat) : OSt → Prop
  | .fresh => True
  | .linked | .unlinked => g = true
  | .retired w => g = true ∧ t ∈ w
  | .freed => False

theorem MayHold.mono {g g' : Bool} {t : Nat} {st : OSt} (hg : g = true → g' = true) (h : MayHold g t st) :
    MayHold g' t st := by
  cases st with
  | fresh => trivial
  | linked | unlinked => exact hg h
  | retired w => exact ⟨hg h.1, h.2⟩
  | freed => exact h

theorem MayHold.guarded_or_fresh {g : Bool} {t : Nat} {st : OSt} (h : MayHold g t st) : g = true ∨ st = .fresh := by
  cases st with
  | fresh => exact .inr rfl
  | linked | unlinked => exact .inl h
  | retired w => exact .inl h.1
  | freed => exact h.elim

theorem MayHold.dropWaiter {g : Bool} {t t0 : Nat} {st : OSt} (hne : t ≠ t0) (h : MayHold g t st) :
    MayHold g t (dropWaiter t0 st) := by
  cases st with
  | retired w => exact ⟨h.1, List.mem_filter.2 ⟨h.2, bne_iff_ne.2 hne⟩⟩
  | _ => exact h

structure Inv (s : State) : Prop where
  /-- held pointers are in range, and their holders may hold them -/
  held : ∀ t o, o ∈ holdsOf s t → ∃ st, s.objs[o]? = some st ∧ MayHold (guardedB s t) t st
  /-- an unpublished object is held by its creator only -/
  freshUnique : ∀ t t' o, s.objs[o]? = some .fresh → o ∈ holdsOf s t → o ∈ holdsOf s t' → t = t'

theorem holdsOf_init (n t : Nat) : holdsOf (init n) t = [] := by
  unfold holdsOf init
  simp only [List.getElem?_replicate]
  by_cases h : t < n
  · rw [if_pos h]
  · rw [if_neg h]

theorem inv_init (n : Nat) : Inv (init n) :=
  ⟨fun t o h => by rw [holdsOf_init] at h; (cases h),
   fun t t' o _ h _ => by rw [holdsOf_init] at h; cases h⟩

theorem Inv.notFreed {s : State} (hI : Inv s) {t o : Nat} (hm : o ∈ holdsOf s t) : s.objs[o]? ≠ some .freed := by
  obtain ⟨st, h0, hm0⟩ := hI.held t o hm
  rw [h0]; rintro ⟨⟩; exact hm0

theorem Inv.waited {s : State} (hI : Inv s) {t o : Nat} {w : List Nat} (hm : o ∈ holdsOf s t)
    (ho : s.objs[o]? = some (.retired w)) : t ∈ w := by
  obtain ⟨st, h0, hm0⟩ := hI.held t o hm
  rw [ho] at h0; cases h0; exact hm0.2

/-- whatever an event other than `t`'s own `exit` and an unprotected retire does to an object, a holder `t` that may
hold it may still hold it afterwards (given that publishers are guarded) -/
theorem ObjStep.mayHold {s : State} {o t : Nat} {e : Ev} {st : OSt} {b : Option OSt}
    (hs : ObjStep s o e (some st) b) (hx : e ≠ .exit t) (hp : ∀ t0, e ≠ .unprotectedRetire t0 o)
    (hg : ∀ t0, e = .publish t0 o → st = .fresh → o ∈ holdsOf s t0 → guardedB s t = true)
    (hm : MayHold (guardedB s t) t st) : ∃ st', b = some st' ∧ MayHold (guardedB s t) t st' := by
  cases hs with
  | same => exact ⟨st, rfl, hm⟩
  | exit t0 hb => exact ⟨_, hb, hm.dropWaiter fun e => hx (e ▸ rfl)⟩
  | publish t0 hm0 => exact ⟨_, rfl, hg t0 rfl rfl hm0⟩
  | unlink t0 => exact ⟨_, rfl, hm⟩
  | retire t0 => exact ⟨_, rfl, hm, mem_activeThreads_iff.2 hm⟩
  | unprotectedRetire t0 => exact absurd rfl (hp t0)
  | free => exact nomatch hm.2

theorem ObjStep.fresh_origin {s : State} {o : Nat} {e : Ev} {a : Option OSt} (hs : ObjStep s o e a (some .fresh)) :
    a = some .fresh ∨ (a = none ∧ ∃ t, e = .alloc t) := by
  cases hs with
  | same => exact .inl rfl
  | exit t0 hb =>
    cases a with
    | none => cases hb
    | some st => rw [dropWaiter_eq_fresh.1 (Option.some.inj hb).symm]; exact .inl rfl
  | alloc t0 => exact .inr ⟨rfl, t0, rfl⟩

theorem inv_step {s s' : State} {e : Ev} (hI : Inv s) (hp : ∀ t o, e ≠ .unprotectedRetire t o)
    (hg : ∀ t o, e = .publish t o → guardedB s t = true) (h : step s e = some s') : Inv s' := by
  constructor
  · intro t o hm
    rcases mem_holdsOf_step h hm with ⟨hm0, hne, hgm⟩ | ⟨rfl, rfl, -⟩ | ⟨rfl, hl, hg'⟩
    · -- an old pointer: its object has moved on, and `t` may still hold it
      obtain ⟨st, h0, hm1⟩ := hI.held t o hm0
      have hs := step_obj h o
      rw [h0] at hs
      obtain ⟨st', h1, hm2⟩ := hs.mayHold hne (hp · o) (fun t0 he hst hm' => by
        -- on `publish` the creator is the only holder, and it is guarded
        rw [hI.freshUnique t t0 o (hst ▸ h0) hm0 hm']; exact hg t0 o he) hm1
      exact ⟨st', h1, hm2.mono hgm⟩
    · cases Step.of_step h
      exact ⟨.fresh, List.getElem?_concat_length, trivial⟩
    · cases Step.of_step h
      exact ⟨.linked, hl, hg'⟩
  · intro t1 t2 o hf h1 h2
    have hs := step_obj h o
    rw [hf] at hs
    rcases hs.fresh_origin with ha | ⟨ha, t0, rfl⟩
    · -- an old unpublished object: both pointers are old
      have old : ∀ t, o ∈ holdsOf s' t → o ∈ holdsOf s t := fun t hm => by
        rcases mem_holdsOf_step h hm with ⟨hm0, -⟩ | ⟨-, rfl, -⟩ | ⟨-, hl, -⟩
        · exact hm0
        · rw [List.getElem?_eq_none (Nat.le_refl _)] at ha; cases ha
        · rw [ha] at hl; cases hl
      exact hI.freshUnique t1 t2 o ha (old t1 h1) (old t2 h2)
    · -- the object allocated by this step: nobody held it before, held pointers being in range
      have new : ∀ t, o ∈ holdsOf s' t → t = t0 := fun t hm => by
        rcases mem_holdsOf_step h hm with ⟨hm0, -⟩ | ⟨he, -⟩ | ⟨he, -⟩
        · obtain ⟨st, h0, -⟩ := hI.held t o hm0
          rw [ha] at h0; cases h0
        · exact (Ev.alloc.inj he).symm
        · cases he
      rw [new t1 h1, new t2 h2]

theorem inv_step_badTouches {s s' : State} {e : Ev} (hI : Inv s) (h : step s e = some s') :
    s'.badTouches = s.badTouches := by
  cases Step.of_step h with
  | touch ht ho hm => exact if_neg fun e => hI.notFreed (mem_holdsOf ht hm) (by rw [ho, e])
  | _ => rfl

theorem inv_run {s s' : State} {es : List Ev} (hI : Inv s) (hp : Protected es)
    (hg : publishGuarded s es = true) (h : run s es = some s') :
    Inv s' ∧ s'.badTouches = s.badTouches := by
  induction es generalizing s with
  | nil => simp at h; subst h; exact ⟨hI, rfl⟩
  | cons e es ih =>
    obtain ⟨s1, h1, h2⟩ := run_cons_some.1 h
    obtain ⟨hpe, hpes⟩ := hp.cons
    simp only [publishGuarded, h1, Bool.and_eq_true] at hg
    have hI1 : Inv s1 := inv_step hI hpe (by rintro t o rfl; exact hg.1) h1
    obtain ⟨hI', hb⟩ := ih hI1 hpes hg.2 h2
    exact ⟨hI', by rw [hb, inv_step_badTouches hI h1]⟩

/-- whoever holds a pointer is guarded. Kept by every step of a run with guarded allocations (`acquire` needs a
guard, `exit` drops all pointers), and it makes the publisher of a held object guarded: that is how
`allocGuarded` gives `publishGuarded`. -/
def HoldsGuarded (s : State) : Prop := ∀ t o, o ∈ holdsOf s t → guardedB s t = true

theorem holdsGuarded_init (n : Nat) : HoldsGuarded (init n) := fun t o h => by
  rw [holdsOf_init] at h; cases h

theorem holdsGuarded_step {s s' : State} {e : Ev} (hH : HoldsGuarded s)
    (hg : ∀ t, e = .alloc t → guardedB s t = true) (h : step s e = some s') : HoldsGuarded s' := by
  intro t o hm
  rcases mem_holdsOf_step h hm with ⟨hm0, -, hgm⟩ | ⟨he, -, hg'⟩ | ⟨-, -, hg'⟩
  · exact hgm (hH t o hm0)
  · rw [hg']; exact hg t he
  · exact hg'

theorem publishGuarded_of_allocGuarded {s s' : State} {es : List Ev} (hH : HoldsGuarded s)
    (hg : allocGuarded s es = true) (h : run s es = some s') :
    publishGuarded s es = true ∧ HoldsGuarded s' := by
  induction es generalizing s with
  | nil => simp at h; subst h; exact ⟨rfl, hH⟩
  | cons e es ih =>
    obtain ⟨s1, h1, h2⟩ := run_cons_some.1 h
    simp only [allocGuarded, h1, Bool.and_eq_true] at hg
    have hH1 : HoldsGuarded s1 := holdsGuarded_step hH (by rintro t rfl; exact hg.1) h1
    obtain ⟨hpg, hH'⟩ := ih hH1 hg.2 h2
    refine ⟨?_, hH'⟩
    simp only [publishGuarded, h1, hpg, Bool.and_true]
    cases e with
    | publish t o =>
      cases Step.of_step h1 with
      | publish ht _ hm => exact hH t o (mem_holdsOf ht hm)
    | _ => rfl

/-- **no use after free** (`badTouches` stays `0`) in protected runs where objects are published
under a guard. Without the guard hypothesis the statement is false: `no_touch_after_free_needs_guard`. -/
theorem no_touch_after_free_of_publishGuarded {n : Nat} {es : List Ev} {s : State}
    (h : run (init n) es = some s) (hp : Protected es) (hg : publishGuarded (init n) es = true) :
    s.badTouches = 0 :=
  (inv_run (inv_init n) hp hg h).2

/-- **no use after free** in protected runs where threads only hold pointers while guarded
(every `alloc t` happens while `t` is guarded; `acquire` requires a guard anyway) -/
theorem no_touch_after_free {n : Nat} {es : List Ev} {s : State}
    (h : run (init n) es = some s) (hp : Protected es) (hg : allocGuarded (init n) es = true) :
    s.badTouches = 0 :=
  no_touch_after_free_of_publishGuarded h hp (publishGuarded_of_allocGuarded (holdsGuarded_init n) hg h).1

/-- C03: a pointer a thread holds is valid: the object has not been freed -/
theorem held_pointers_valid_of_publishGuarded {n : Nat} {es : List Ev} {s : State}
    (h : run (init n) es = some s) (hp : Protected es) (hg : publishGuarded (init n) es = true) :
    ∀ (t : Nat) (th : Thread) (o : Nat), s.threads[t]? = some th → o ∈ th.holds → s.objs[o]? ≠ some .freed := by
  intro t th o ht hm
  exact (inv_run (inv_init n) hp hg h).1.notFreed (mem_holdsOf ht hm)

theorem held_pointers_valid {n : Nat} {es : List Ev} {s : State}
    (h : run (init n) es = some s) (hp : Protected es) (hg : allocGuarded (init n) es = true) :
    ∀ (t : Nat) (th : Thread) (o : Nat), s.threads[t]? = some th → o ∈ th.holds → s.objs[o]? ≠ some .freed :=
  held_pointers_valid_of_publishGuarded h hp (publishGuarded_of_allocGuarded (holdsGuarded_init n) hg h).1

/-- C03/C04: while a thread holds a pointer to a retired object the collector waits for it, so
`free` is not enabled -/
theorem free_refused_while_held {n : Nat} {es : List Ev} {s : State}
    (h : run (init n) es = some s) (hp : Protected es) (hg : publishGuarded (init n) es = true)
    {t : Nat} {th : Thread} {o : Nat} (ht : s.threads[t]? = some th) (hm : o ∈ th.holds) :
    step s (.free o) = none := by
  cases hst : step s (.free o) with
  | none => rfl
  | some s' =>
    cases Step.of_step hst with
    | free ho => exact nomatch (inv_run (inv_init n) hp hg h).1.waited (mem_holdsOf ht hm) ho

theorem holder_guarded_or_fresh {n : Nat} {es : List Ev} {s : State}
    (h : run (init n) es = some s) (hp : Protected es) (hg : publishGuarded (init n) es = true) :
    ∀ (t : Nat) (th : Thread) (o : Nat), s.threads[t]? = some th → o ∈ th.holds → th.guarded = true ∨ s.objs[o]? = some .fresh := by
  intro t th o ht hm
  obtain ⟨st, h0, hm0⟩ := (inv_run (inv_init n) hp hg h).1.held t o (mem_holdsOf ht hm)
  rw [guardedB_of_some ht] at hm0
  exact hm0.guarded_or_fresh.imp id (fun e : st = .fresh => e ▸ h0)

def isUnprotected : Ev → Bool
  | .unprotectedRetire _ _ => true
  | _ => false

theorem protected_iff {es : List Ev} : Protected es ↔ es.all (fun e => !isUnprotected e) = true := by
  simp only [Protected, List.all_eq_true]
  constructor
  · intro h e he; cases e <;> simp [isUnprotected]; exact h _ he _ _ rfl
  · intro h e he t o hc; subst hc; simpa [isUnprotected] using h _ he

instance (es : List Ev) : Decidable (Protected es) := decidable_of_iff _ protected_iff.symm

end Flurry.Proto.Reclaim
