import Flurry.Lemmas.ListSet
import Flurry.Lemmas.BinGNPLin
/-! # Proto/BinGN at quiescence: what an iterator yields is what lookups find (C05), any number of resizes

The twin of `Lemmas/BinGQuiescent.lean` for the cells `(g, j)` of `Proto/BinGN`.

`liveIds s`: the ids of the cells a lookup that starts now can end in — below cell `(cur, j)` that is `(cur, j)`
itself until its forwarding marker is stored, and its two children `(cur+1, j)`, `(cur+1, j + 2^cur)` afterwards;
for `j = 0 … 2^cur − 1` in this order. When generation `cur` holds no marker (no resize is running — in particular
at quiescence) these are exactly the cells `(cur, 0) … (cur, 2^cur − 1)` (`liveIds_of_not_moved`).
`liveCells s`: the contents of these cells. `entries s`: the (key, value) pairs of the nodes on the lists of the live
cells, in list order — what an iterator that starts now and runs alone yields (for a tree bin the iterator walks
the `first` / `next` list, `chainOfBin`).

From the structural invariant `BinGNP.Inv` (`Lemmas/BinGNPInv.lean`):
* `entries_keys_nodup`, `mem_entries_iff_absOf`, `entries_own_cell`, `entries_in_liveCell`: no key twice (across
  ALL live cells: within a cell by `CInv.distinct`, across cells by `HInv.side`), iteration = lookup, every entry
  in the cell its key selects — in EVERY reachable state;
* `quiescent_node_unlocked`, `quiescent_mutex_free`, `quiescent_no_readers`, `quiescent_bin_unlocked`: at
  quiescence no lock word, mutex, write lock, waiter bit or read lock is held;
* `entries_linearized`: at quiescence the history of a yielded key linearizes to "present with the yielded value",
  that of any other key to "absent". -/
namespace Flurry.Proto.BinGNQ
open Flurry.Lin
open Flurry.Proto.BinGNP
open Flurry.Proto.BinK (nodeAt binAt)

/-- the ids of the cells a lookup of a key of cell `(cur, j)` that starts now can end in -/
def liveIdsOf (s : State) (j : Nat) : List Cid :=
  if cellAt s (s.cur, j) = .moved then [(s.cur + 1, j), (s.cur + 1, j + 2 ^ s.cur)] else [(s.cur, j)]

/-- the ids of the cells a lookup that starts now can end in -/
def liveIds (s : State) : List Cid := (List.range (2 ^ s.cur)).flatMap (liveIdsOf s)

def liveCells (s : State) : List Cell := (liveIds s).map (cellAt s)

def entriesOfCell (s : State) (c : Cell) : List (Nat × (Nat × Nat)) :=
  (chainOfCell s c).map fun i => ((s.heap.getD i dflt).key, (s.heap.getD i dflt).val)

def entries (s : State) : List (Nat × (Nat × Nat)) := (liveCells s).flatMap (entriesOfCell s)

theorem mem_liveIds {s : State} {id : Cid} : id ∈ liveIds s ↔ ∃ j, j < 2 ^ s.cur ∧ id ∈ liveIdsOf s j := by
  unfold liveIds
  rw [List.mem_flatMap]
  constructor
  · rintro ⟨j, hj, h⟩; exact ⟨j, List.mem_range.1 hj, h⟩
  · rintro ⟨j, hj, h⟩; exact ⟨j, List.mem_range.2 hj, h⟩

theorem liveIdsOf_mod {s : State} {j : Nat} (hj : j < 2 ^ s.cur) {id : Cid} (h : id ∈ liveIdsOf s j) :
    id.2 % 2 ^ s.cur = j := by
  unfold liveIdsOf at h
  split at h
  · simp only [List.mem_cons, List.not_mem_nil, or_false] at h
    rcases h with rfl | rfl
    · exact Nat.mod_eq_of_lt hj
    · exact high_mod hj
  · simp only [List.mem_cons, List.not_mem_nil, or_false] at h
    subst h
    exact Nat.mod_eq_of_lt hj

theorem liveIdsOf_nodup (s : State) (j : Nat) : (liveIdsOf s j).Nodup := by
  unfold liveIdsOf
  split
  · refine List.nodup_cons.2 ⟨?_, by simp⟩
    simp only [List.mem_cons, List.not_mem_nil, or_false]
    intro h
    have h1 := (Prod.mk.inj h).2
    have h2 := Nat.two_pow_pos s.cur
    omega
  · simp

theorem liveIds_nodup (s : State) : (liveIds s).Nodup := by
  unfold liveIds List.Nodup
  rw [List.pairwise_flatMap]
  refine ⟨fun j _ => liveIdsOf_nodup s j, ?_⟩
  refine List.Pairwise.imp_of_mem ?_ (List.nodup_range (n := 2 ^ s.cur))
  intro a b ha hb hab x hx y hy hxy
  subst hxy
  exact hab ((liveIdsOf_mod (List.mem_range.1 ha) hx).symm.trans (liveIdsOf_mod (List.mem_range.1 hb) hy))

/-- a key that belongs to a live cell is looked up there -/
theorem liveId_of_mem {s : State} {id : Cid} (h : id ∈ liveIds s) {k : Nat} (hk : k % 2 ^ id.1 = id.2) :
    liveId s k = id := by
  obtain ⟨j, hj, hid⟩ := mem_liveIds.1 h
  unfold liveIdsOf at hid
  unfold liveId idOf
  split at hid
  · rename_i hm
    simp only [List.mem_cons, List.not_mem_nil, or_false] at hid
    have hkj : k % 2 ^ s.cur = j := by
      have h1 := mod_succ_mod k s.cur
      rcases hid with rfl | rfl
      · simp only at hk
        rw [hk] at h1
        rw [← h1]
        exact Nat.mod_eq_of_lt hj
      · simp only at hk
        rw [hk] at h1
        rw [← h1]
        exact high_mod hj
    rw [hkj, if_pos hm]
    rcases hid with rfl | rfl
    · simp only at hk
      rw [hk]
    · simp only at hk
      rw [hk]
  · rename_i hm
    simp only [List.mem_cons, List.not_mem_nil, or_false] at hid
    subst hid
    simp only at hk
    rw [hk, if_neg hm]

theorem liveId_mem (s : State) (k : Nat) : liveId s k ∈ liveIds s := by
  refine mem_liveIds.2 ⟨k % 2 ^ s.cur, Nat.mod_lt _ (Nat.two_pow_pos _), ?_⟩
  unfold liveId liveIdsOf idOf
  by_cases hm : cellAt s (s.cur, k % 2 ^ s.cur) = .moved
  · rw [if_pos hm, if_pos hm, mod_succ_eq]
    cases bitAt s.cur k <;> simp
  · rw [if_neg hm, if_neg hm]
    simp

theorem flatMap_singleton_aux {α β : Type} (f : α → β) (l : List α) : l.flatMap (fun a => [f a]) = l.map f := by
  induction l with
  | nil => rfl
  | cons a l ih => rw [List.flatMap_cons, ih]; rfl

/-- when generation `cur` holds no forwarding marker (no resize running), the live cells are exactly the cells of
generation `cur` -/
theorem liveIds_of_not_moved {s : State} (h : ∀ j, cellAt s (s.cur, j) ≠ .moved) :
    liveIds s = (List.range (2 ^ s.cur)).map fun j => (s.cur, j) := by
  unfold liveIds
  have : liveIdsOf s = fun j => [(s.cur, j)] := funext fun j => if_neg (h j)
  rw [this, flatMap_singleton_aux]

theorem liveCells_of_not_moved {s : State} (h : ∀ j, cellAt s (s.cur, j) ≠ .moved) :
    liveCells s = (List.range (2 ^ s.cur)).map fun j => Flurry.Proto.BinGN.cellAt s s.cur j := by
  unfold liveCells
  rw [liveIds_of_not_moved h, List.map_map]
  rfl

theorem mem_entriesOfCell {s : State} {c : Cell} {k : Nat} {v : Nat × Nat} :
    (k, v) ∈ entriesOfCell s c ↔ ∃ i ∈ chainC s c, (nodeAt s.heap i).key = k ∧ (nodeAt s.heap i).val = v := by
  unfold entriesOfCell
  rw [chainOfCell_eq, List.mem_map]
  constructor
  · rintro ⟨i, hi, he⟩
    simp only [Prod.mk.injEq] at he
    exact ⟨i, hi, he.1, he.2⟩
  · rintro ⟨i, hi, hk, hv⟩
    exact ⟨i, hi, by simp only [Prod.mk.injEq]; exact ⟨hk, hv⟩⟩

theorem entriesOfCell_keys (s : State) (c : Cell) :
    (entriesOfCell s c).map (·.1) = (chainC s c).map fun i => (nodeAt s.heap i).key := by
  unfold entriesOfCell
  rw [chainOfCell_eq, List.map_map]
  rfl

theorem mem_entries {s : State} {x : Nat × (Nat × Nat)} :
    x ∈ entries s ↔ ∃ id, id ∈ liveIds s ∧ x ∈ entriesOfCell s (cellAt s id) := by
  unfold entries liveCells
  rw [List.flatMap_map, List.mem_flatMap]

/-- at quiescence (no marker in generation `cur`): the entries are those of the cells `(cur, 0) … (cur, 2^cur − 1)` -/
theorem entries_of_not_moved {s : State} (h : ∀ j, cellAt s (s.cur, j) ≠ .moved) :
    entries s = (List.range (2 ^ s.cur)).flatMap fun j => entriesOfCell s (Flurry.Proto.BinGN.cellAt s s.cur j) := by
  unfold entries
  rw [liveCells_of_not_moved h, List.flatMap_map]

theorem cell_keys_nodup {s : State} (H : HInv s) (id : Cid) :
    ((entriesOfCell s (cellAt s id)).map (·.1)).Nodup := by
  rw [entriesOfCell_keys]
  have C := H.cinv id
  have hnd : (chainC s (cellAt s id)).Nodup := C.nodup
  unfold List.Nodup
  rw [List.pairwise_map]
  refine List.Pairwise.imp_of_mem ?_ hnd
  intro a b ha hb hab hk
  exact hab (C.distinct a b ha hb hk)

/-- an entry of cell `(g, j)` belongs to that cell: `key % 2^g = j` -/
theorem cell_side {s : State} (H : HInv s) {id : Cid} {k : Nat} {v : Nat × Nat}
    (h : (k, v) ∈ entriesOfCell s (cellAt s id)) : k % 2 ^ id.1 = id.2 := by
  obtain ⟨i, hi, hk, -⟩ := mem_entriesOfCell.1 h
  rw [← hk]
  exact H.side id i (Or.inl hi)

theorem entries_keys_nodup {s : State} (H : HInv s) : ((entries s).map (·.1)).Nodup := by
  unfold entries liveCells
  rw [List.flatMap_map, List.map_flatMap]
  unfold List.Nodup
  rw [List.pairwise_flatMap]
  refine ⟨fun id _ => cell_keys_nodup H id, ?_⟩
  refine List.Pairwise.imp_of_mem ?_ (liveIds_nodup s)
  intro a b ha hb hab x hx y hy hxy
  subst hxy
  obtain ⟨⟨k, v⟩, hx', rfl⟩ := List.mem_map.1 hx
  obtain ⟨⟨k', v'⟩, hy', hk⟩ := List.mem_map.1 hy
  simp only at hk
  subst hk
  exact hab ((liveId_of_mem ha (cell_side H hx')).symm.trans (liveId_of_mem hb (cell_side H hy')))

/-- an entry found in the live cell `(g, j)` has `key % 2^g = j` -/
theorem entries_own_cell {s : State} (H : HInv s) {id : Cid} {k : Nat} {v : Nat × Nat}
    (h : (k, v) ∈ entriesOfCell s (cellAt s id)) : k % 2 ^ id.1 = id.2 := cell_side H h

theorem entries_in_liveCell {s : State} (H : HInv s) (X : XInv s) {k : Nat} {v : Nat × Nat} :
    (k, v) ∈ entries s ↔ (k, v) ∈ entriesOfCell s (liveCell s k) := by
  rw [liveCell_eq X, mem_entries]
  constructor
  · rintro ⟨id, hid, h⟩
    rw [liveId_of_mem hid (cell_side H h)]
    exact h
  · intro h
    exact ⟨liveId s k, liveId_mem s k, h⟩

theorem mem_entries_iff_absOf {s : State} (H : HInv s) (X : XInv s) (k : Nat) (v : Nat × Nat) :
    (k, v) ∈ entries s ↔ absOf s k = some v := by
  rw [entries_in_liveCell H X, mem_entriesOfCell, absOf_eq]
  unfold LC
  have hd : ∀ i j, i ∈ chainC s (liveCell s k) → j ∈ chainC s (liveCell s k) →
      (nodeAt s.heap i).key = (nodeAt s.heap j).key → i = j := by
    rw [liveCell_eq X]
    exact (H.cinv (liveId s k)).distinct
  rw [Flurry.Proto.BinK.absL_eq_some_iff hd]

theorem quiescent_node_unlocked {s : State} (I : Inv s) (hq : quiescent s) (j : Nat) :
    (nodeAt s.heap j).lock = none := I.lock.lkOwned.free (fun l hl => by rw [hq l hl]; rfl) j

theorem quiescent_mutex_free {s : State} (I : Inv s) (hq : quiescent s) (b : Nat) :
    (binAt s.tbins b).mutex = none := I.lock.mxOwned.free (fun l hl => by rw [hq l hl]; rfl) b

theorem quiescent_no_readers {s : State} (I : Inv s) (hq : quiescent s) {b : Nat} (hb : b < s.tbins.length) :
    (binAt s.tbins b).readers = 0 := I.lock.rwOK.no_readers (fun l hl => by rw [hq l hl]; rfl) hb

theorem quiescent_bin_unlocked {s : State} (I : Inv s) (hq : quiescent s) {id : Cid} {b : Nat}
    (hc : cellAt s id = .tree b) :
    (binAt s.tbins b).mutex = none ∧ (binAt s.tbins b).writer = false ∧ (binAt s.tbins b).waiter = false ∧
      (binAt s.tbins b).readers = 0 := by
  have hm := quiescent_mutex_free I hq b
  obtain ⟨hw, hwt⟩ := I.lock.bitsNone id b hc hm
  exact ⟨hm, hw, hwt, quiescent_no_readers I hq (I.heap.cellOK id b hc)⟩

theorem liveCells_sub {s : State} {c : Cell} (h : c ∈ liveCells s) : ∃ id, id ∈ liveIds s ∧ c = cellAt s id := by
  unfold liveCells at h
  obtain ⟨id, hid, rfl⟩ := List.mem_map.1 h
  exact ⟨id, hid, rfl⟩

theorem liveCells_not_moved {s : State} (X : XInv s) {c : Cell} (h : c ∈ liveCells s) : c ≠ .moved := by
  obtain ⟨id, hid, rfl⟩ := liveCells_sub h
  obtain ⟨j, -, hj⟩ := mem_liveIds.1 hid
  unfold liveIdsOf at hj
  split at hj
  · simp only [List.mem_cons, List.not_mem_nil, or_false] at hj
    rcases hj with rfl | rfl
    · exact X.newNotMoved _
    · exact X.newNotMoved _
  · simp only [List.mem_cons, List.not_mem_nil, or_false] at hj
    subst hj
    assumption

theorem entries_linearized {n : Nat} {s : State} (hr : Reachable n s) (hq : quiescent s) (k : Nat) :
    (∀ v, (k, v) ∈ entries s → Lin.Linearizable (callsOn s k) none (some v)) ∧
    (k ∉ (entries s).map (·.1) → Lin.Linearizable (callsOn s k) none none) := by
  have I := reachable_inv hr
  have H := I.heap
  have X := I.rsz
  have hlin := binGN_linearizable_quiescent_aux hr hq k
  constructor
  · intro v hv
    rw [← (mem_entries_iff_absOf H X k v).1 hv]
    exact hlin
  · intro hk
    have : absOf s k = none := by
      cases ha : absOf s k with
      | none => rfl
      | some v => exact absurd ((mem_keys_iff_lookup (mem_entries_iff_absOf H X) k).2 (by rw [ha]; exact fun e => by cases e)) hk
    rw [this] at hlin
    exact hlin

theorem liveCell_mem_liveCells {s : State} (X : XInv s) (k : Nat) : liveCell s k ∈ liveCells s := by
  rw [liveCell_eq X]
  unfold liveCells
  exact List.mem_map.2 ⟨liveId s k, liveId_mem s k, rfl⟩

theorem quiescent_live_unlocked {s : State} (I : Inv s) (hq : quiescent s) {c : Cell} (hc : c ∈ liveCells s) :
    (∀ j ∈ chainOfCell s c, (nodeAt s.heap j).lock = none) ∧
    ∀ b, c = .tree b → (binAt s.tbins b).mutex = none ∧ (binAt s.tbins b).writer = false ∧
      (binAt s.tbins b).waiter = false ∧ (binAt s.tbins b).readers = 0 := by
  refine ⟨fun j _ => quiescent_node_unlocked I hq j, ?_⟩
  intro b hb
  obtain ⟨id, -, hid⟩ := liveCells_sub hc
  exact quiescent_bin_unlocked I hq (id := id) (by rw [← hid, hb])

end Flurry.Proto.BinGNQ
