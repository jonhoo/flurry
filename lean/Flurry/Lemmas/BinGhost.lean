import Flurry.Lemmas.BinInv
/-! # Proto/Bin: ghost history and the hindsight invariant of the readers (C01)

`extOf`, `callsOnExt`, `Good`, `CallOK`, `GInv` are those of `Lemmas/BinRBGhost.lean` (explained
there) over the state of `Proto/Bin` and the operations of `Lin`. `GInv` holds of a state when
`BinR.Base.GInv` holds of its image (`GInv.of_emb`), and every transition preserves it there
(`BinR.Base.ginv_step`). -/
namespace Flurry.Proto.Bin
open Flurry.Lin

def extOf (k now t : Nat) (l : Local) : Option Call :=
  match l.pc, l.call with
  | .wUnlock _ res false, some p => if p.key = k then some ⟨t, p.op, res, p.inv, now⟩ else none
  | _, _ => none

def extCalls (s : State) (k : Nat) : History :=
  (List.range s.threads.length).filterMap (fun t => (s.threads[t]?).bind (extOf k s.now t))

def callsOnExt (s : State) (k : Nat) : History := callsOn s k ++ extCalls s k

theorem extOf_eq (k now t : Nat) (l : Local) : extOf k now t l = GhostView.extOf Lin.sig view k now t l := by
  obtain ⟨pc, call⟩ := l
  unfold extOf GhostView.extOf
  cases call <;> cases pc <;> first | rfl | (rename_i h res retry; cases retry <;> rfl)

theorem callsOnExt_eq (s : State) (k : Nat) :
    callsOnExt s k = GhostView.callsOnExt Lin.sig view s.hist s.threads k s.now := by
  have : extOf k s.now = fun t l => GhostView.extOf Lin.sig view k s.now t l :=
    funext fun t => funext fun l => extOf_eq k s.now t l
  unfold callsOnExt extCalls
  rw [this]; rfl

theorem callsOnExt_quiescent {s : State} (hq : quiescent s) (k : Nat) : callsOnExt s k = callsOn s k := by
  rw [callsOnExt_eq]
  exact GhostView.callsOnExt_quiescent k s.now (fun l hl => congrArg resOfPc (hq l hl))

inductive Good (A : Nat → KSt) (k inv : Nat) (s : State) : Option Nat → Prop
  | absent {τ : Nat} : inv ≤ τ → τ ≤ s.now → A τ = none → Good A k inv s none
  | on {c : Nat} : c ∈ chain s → (∀ i ∈ chain s, i < c → (nodeAt s.heap i).key ≠ k) →
      Good A k inv s (some c)
  | off {c : Nat} : c ∉ chain s → c < s.heap.length →
      ((nodeAt s.heap c).key ≠ k → Good A k inv s (nodeAt s.heap c).next) →
      ((nodeAt s.heap c).key = k → ∃ τ, inv ≤ τ ∧ τ ≤ s.now ∧ A τ = some (nodeAt s.heap c).val) →
      Good A k inv s (some c)

def CallOK (A : Nat → KSt) (pt : Nat → Nat) (c : Call) : Prop :=
  c.inv ≤ pt c.inv ∧ pt c.inv ≤ c.resp ∧
  (isRead c.op = true → specStep (A (pt c.inv)) c.op = (A (pt c.inv), c.res)) ∧
  (isRead c.op = false → 1 ≤ pt c.inv ∧ specStep (A (pt c.inv - 1)) c.op = (A (pt c.inv), c.res))

structure GInv (k : Nat) (s : State) (A : Nat → KSt) (pt : Nat → Nat) : Prop where
  h0 : A 0 = none
  hA : A s.now = absOf s k
  calls : ∀ c ∈ callsOnExt s k, CallOK A pt c
  stab : ∀ τ, 1 ≤ τ → τ ≤ s.now → A τ ≠ A (τ - 1) →
    ∃ c ∈ callsOnExt s k, isRead c.op = false ∧ pt c.inv = τ
  inj : ∀ c ∈ callsOnExt s k, ∀ d ∈ callsOnExt s k, isRead c.op = false → isRead d.op = false →
    pt c.inv = pt d.inv → c.inv = d.inv
  readers : ∀ (t : Nat) (l : Local) (p : Pending) (cur : Option Nat), s.threads[t]? = some l →
    l.call = some p → p.key = k → l.pc = .rNode cur → Good A k p.inv s cur

theorem GInv.trace {k : Nat} {s : State} {A : Nat → KSt} {pt : Nat → Nat} (g : GInv k s A pt) :
    GhostView.Trace Lin.sig (GhostView.callsOnExt Lin.sig view s.hist s.threads k s.now) s.now (absOf s k) A pt := by
  rw [← callsOnExt_eq]; exact ⟨g.h0, g.hA, g.calls, g.stab, g.inj⟩

theorem isRead_emb (op : KOp) : Lin2.isRead (embOp op) = isRead op := by cases op <;> rfl

theorem callsOn_emb (s : State) (k : Nat) : BinR.Base.callsOn (emb s) k = (callsOn s k).map embCall := by
  simp only [BinR.Base.callsOn, callsOn, emb, List.filter_map, List.map_reverse, List.map_map]
  rfl

theorem extOf_emb (k now t : Nat) (l : Local) :
    BinR.Base.extOf k now t (eL l) = (extOf k now t l).map embCall := by
  obtain ⟨pc, call⟩ := l
  cases pc with
  | wUnlock h res b =>
    cases b <;> cases call <;> try rfl
    simp only [BinR.Base.extOf, extOf, eL, ePc, Option.map_some, eP]
    split <;> rfl
  | _ => cases call <;> rfl

theorem callsOnExt_emb (s : State) (k : Nat) :
    BinR.Base.callsOnExt (emb s) k = (callsOnExt s k).map embCall := by
  rw [BinR.Base.callsOnExt, callsOnExt, List.map_append, callsOn_emb]
  congr 1
  simp only [BinR.Base.extCalls, extCalls, emb, List.length_map, List.getElem?_map, List.map_filterMap]
  congr 1
  funext t
  cases s.threads[t]? with
  | none => rfl
  | some l => exact extOf_emb k s.now t l

theorem mem_ext_emb {s : State} {k : Nat} {c : Call} (hc : c ∈ callsOnExt s k) :
    embCall c ∈ BinR.Base.callsOnExt (emb s) k := by
  rw [callsOnExt_emb]; exact List.mem_map_of_mem hc

theorem callOK_emb {A : Nat → KSt} {pt : Nat → Nat} {c : Call} (h : BinR.Base.CallOK A pt (embCall c)) :
    CallOK A pt c :=
  ⟨h.1, h.2.1, fun hr => spec_of_emb (h.2.2.1 ((isRead_emb c.op).trans hr)),
    fun hw => ⟨(h.2.2.2 ((isRead_emb c.op).trans hw)).1, spec_of_emb (h.2.2.2 ((isRead_emb c.op).trans hw)).2⟩⟩

theorem Good.of_emb {A : Nat → KSt} {k inv : Nat} {s : State} {cur : Option Nat}
    (hg : BinR.Base.Good A k inv (emb s) cur) : Good A k inv s cur := by
  generalize hs : emb s = s' at hg
  induction hg with
  | absent h1 h2 h3 => subst hs; exact .absent h1 h2 h3
  | on hc hbefore =>
    subst hs
    rw [chain_emb] at hc hbefore
    refine .on hc fun i hi hic => ?_
    have := hbefore i hi hic
    rwa [emb_heap, nodeAt_emb] at this
  | off hc hcl _ hval ih =>
    subst hs
    rw [chain_emb] at hc
    rw [emb_heap, List.length_map] at hcl
    rw [emb_heap, nodeAt_emb] at hval ih
    exact .off hc hcl ih hval

theorem GInv.of_emb {k : Nat} {s : State} {A : Nat → KSt} {pt : Nat → Nat}
    (g : BinR.Base.GInv k (emb s) A pt) : GInv k s A pt where
  h0 := g.h0
  hA := by rw [← absOf_emb]; exact g.hA
  calls c hc := callOK_emb (g.calls (embCall c) (mem_ext_emb hc))
  stab τ h1 h2 hne := by
    obtain ⟨c', hc', hw, hp⟩ := g.stab τ h1 h2 hne
    rw [callsOnExt_emb] at hc'
    obtain ⟨c, hc, rfl⟩ := List.mem_map.1 hc'
    exact ⟨c, hc, (isRead_emb c.op).symm.trans hw, hp⟩
  inj c hc d hd hwc hwd hpe :=
    g.inj (embCall c) (mem_ext_emb hc) (embCall d) (mem_ext_emb hd) ((isRead_emb _).trans hwc)
      ((isRead_emb _).trans hwd) hpe
  readers t l p cur hl hc hk hpc :=
    .of_emb (g.readers t (eL l) (eP p) cur (thr_emb hl) (call_emb hc) hk (congrArg ePc hpc))

end Flurry.Proto.Bin
