import Flurry.Lemmas.BinNIInv
/-! # Proto/BinNI: untouched keys, and the key classes of the pending cells (C07)

`Unch` / `UnchI`: `k ↦ v` in every state of the run since `t0` / at a time in `[t0, t1]`; `Yielded`.

The key class of a cell `(g, j)` is `{k | k % 2^g = j}` (`Covers`). A pending cell that is not forwarded is the
live cell of the keys of its class (`frame_live`); a forwarded cell hands each key of its class to exactly one
of its two children (`frame_child`, `covers_child`). The pending cells of an iterator have pairwise disjoint
key classes (`reachable_frames_disjoint`): the root cells have, and a forwarded cell is replaced by its two
children, whose classes are disjoint and contained in the parent's. So at most one pending cell covers a given
key — and a cell that has been popped (walked, or replaced by its children) is never pushed again: children
are pushed only when a forwarding marker is LOADED. -/
namespace Flurry.Proto.BinNI
open Flurry.Lin
open Flurry.Proto.BinX (nextA)
open Flurry.Proto.BinN (Ghost HInv cellAt Good)

/-- `k ↦ v` in every state of the run since `t0` -/
def Unch (nt : Nat) (s : State) (t0 k : Nat) (v : Nat × Nat) : Prop :=
  ∀ s₁, Reachable nt s₁ → Steps s₁ s → t0 ≤ s₁.n.now → absOf s₁ k = some v

/-- `k ↦ v` in every state of the run at a time in `[t0, t1]` -/
def UnchI (nt : Nat) (s : State) (t0 t1 k : Nat) (v : Nat × Nat) : Prop :=
  ∀ s₁, Reachable nt s₁ → Steps s₁ s → t0 ≤ s₁.n.now → s₁.n.now ≤ t1 → absOf s₁ k = some v

theorem Unch.down {nt : Nat} {s s' : State} {t0 k : Nat} {v : Nat × Nat} (hst : Steps s s')
    (h : Unch nt s' t0 k v) : Unch nt s t0 k v := fun s₁ r st => h s₁ r (st.trans hst)

theorem Unch.now {nt : Nat} {s s' : State} {t0 k : Nat} {v : Nat × Nat} (hr : Reachable nt s) (hst : Steps s s')
    (h0 : t0 ≤ s.n.now) (h : Unch nt s' t0 k v) : BinN.absOf s.n k = some v := h s hr hst h0

/-- unchanged during an iteration that ends after `s`: unchanged up to `s` -/
theorem UnchI.unch {nt : Nat} {s s' : State} {t0 t1 k : Nat} {v : Nat × Nat} (hst : Steps s s')
    (h1 : s.n.now ≤ t1) (h : UnchI nt s' t0 t1 k v) : Unch nt s t0 k v :=
  fun s₁ r st a => h s₁ r (st.trans hst) a (Nat.le_trans st.now_le h1)

/-- the iteration `(t, t0)` has yielded `(k, v)` -/
def Yielded (s : State) (t t0 k : Nat) (v : Nat × Nat) : Prop :=
  ∃ y ∈ s.yields, y.tid = t ∧ y.t0 = t0 ∧ y.key = k ∧ y.val = v

theorem frame_live {n : BinN.State} {G : Ghost} (H : HInv n G) {g j k : Nat} (ht : TodoOK n (g, j))
    (hk : k % 2 ^ g = j) (hnm : cellAt n g j ≠ .moved) : BinN.liveCell n k = cellAt n g j := by
  rw [H.liveCell_eq k, ht.liveId H hk hnm]; rfl

theorem frame_child {g j k : Nat} (hk : k % 2 ^ g = j) : k % 2 ^ (g + 1) = j ∨ k % 2 ^ (g + 1) = j + 2 ^ g :=
  BinN.child_cases (BinN.mod_lt_pow k (g + 1)) (by rw [BinN.mod_succ_mod]; exact hk)

theorem nextA_const (v : Nat × Nat) (now : Nat) :
    nextA (fun _ => some v) now (some v) = fun _ => some v := by
  funext τ; unfold nextA; split <;> rfl

theorem good_none_false {G : Ghost} {k t0 : Nat} {v : Nat × Nat} {n : BinN.State}
    (h : Good G (fun _ => some v) k t0 n none) : False := by
  obtain ⟨τ, -, -, h3⟩ := h.miss
  cases h3

/-- two cells with disjoint key classes: no key is covered (`Covers`, below) by both -/
def Disj (a b : Nat × Nat) : Prop := ∀ k, ¬ (k % 2 ^ a.1 = a.2 ∧ k % 2 ^ b.1 = b.2)

theorem Disj.symm {a b : Nat × Nat} (h : Disj a b) : Disj b a := fun k ⟨h1, h2⟩ => h k ⟨h2, h1⟩

theorem rootCells_disj (g : Nat) : (rootCells g).Pairwise Disj := by
  unfold rootCells
  rw [List.pairwise_map]
  refine List.Pairwise.imp ?_ (List.pairwise_lt_range (n := 2 ^ g))
  intro a b hab k ⟨h1, h2⟩
  have h1' : k % 2 ^ g = a := h1
  have h2' : k % 2 ^ g = b := h2
  omega

/-- key `k` is of the class of cell `c` -/
def Covers (c : Nat × Nat) (k : Nat) : Prop := k % 2 ^ c.1 = c.2

theorem covers_child {g j k : Nat} (hj : j < 2 ^ g) {c : Nat × Nat} (hc : c = (g + 1, j) ∨ c = (g + 1, j + 2 ^ g))
    (h : Covers c k) : Covers (g, j) k := by
  unfold Covers at h ⊢
  rcases hc with rfl | rfl
  · have := BinN.keyOn_mod (Nat.le_succ g) h
    rw [this]; exact Nat.mod_eq_of_lt hj
  · have := BinN.keyOn_mod (Nat.le_succ g) h
    rw [this]; exact BinN.high_mod _ g hj

/-- the children of a cell: disjoint from each other, and from everything the parent is disjoint from -/
theorem children_disj {g j : Nat} (hj : j < 2 ^ g) {rest : List (Nat × Nat)}
    (h : ((g, j) :: rest).Pairwise Disj) : ((g + 1, j) :: (g + 1, j + 2 ^ g) :: rest).Pairwise Disj := by
  obtain ⟨h1, h2⟩ := List.pairwise_cons.1 h
  refine List.pairwise_cons.2 ⟨?_, List.pairwise_cons.2 ⟨?_, h2⟩⟩
  · intro b hb
    rcases List.mem_cons.1 hb with rfl | hb
    · intro k ⟨a1, a2⟩
      have a1' : k % 2 ^ (g + 1) = j := a1
      have a2' : k % 2 ^ (g + 1) = j + 2 ^ g := a2
      have := Nat.two_pow_pos g
      omega
    · intro k ⟨a1, a2⟩
      exact h1 b hb k ⟨covers_child hj (Or.inl rfl) a1, a2⟩
  · intro b hb k ⟨a1, a2⟩
    exact h1 b hb k ⟨covers_child hj (Or.inr rfl) a1, a2⟩

theorem reachable_frames_disjoint {nt : Nat} {s : State} (hr : Reachable nt s) :
    ∀ (t : Nat) (it : Iter), s.its[t]? = some (some it) → it.todo.Pairwise Disj := by
  refine iter_induction (Φ := fun _ _ it => it.todo.Pairwise Disj) (fun _ _ _ _ h => h)
    (fun _ _ => rootCells_disj _) ?_ hr
  intro s t it it' ys es hr hi hm hT
  cases hm with
  | yield _ _ => exact hT
  | empty _ htd _ => rw [htd] at hT; exact (List.pairwise_cons.1 hT).2
  | node _ htd _ => rw [htd] at hT; exact (List.pairwise_cons.1 hT).2
  | moved _ htd hc =>
    obtain ⟨G, I⟩ := reachable_iinv hr
    rw [htd] at hT
    exact children_disj (moved_idx_lt I.inv.heap.shape (n := s.n) hc) hT

end Flurry.Proto.BinNI
