import Flurry.Lin
import Flurry.Lin2
/-! # `Lin` is the fragment of `Lin2` without `condRm`

`Flurry/Lin2.lean` is `Flurry/Lin.lean` with one more operation. `embCall` maps a call of `Lin` to
the same call of `Lin2`; the specification, `replay`, `Linearizable`, `validate` and `search` of a
history are those of its image (`specStep2_emb`, `replay2_map`, `linearizable2_map`, `validate_map`,
`search_map`). So a statement about the history alone that is proved for `Lin2` holds for `Lin`; one that
also quantifies over functions on calls (`lin_of_trace`, with its points `pt : Call → Nat`) is not carried
by these lemmas and is proved for `Lin` directly (`Lemmas/LinTrace.lean`). -/
namespace Flurry.Lin
open Flurry.Lin2 (KOp2 Call2 specStep2 replay2 Linearizable2)

def embOp : KOp → KOp2
  | .ins v vi => .ins v vi
  | .tryIns v vi => .tryIns v vi
  | .get => .get
  | .has => .has
  | .rm => .rm
  | .cipInc nvi => .cipInc nvi
  | .cipRm => .cipRm

def embRes : KRes → Lin2.KRes
  | .none => .none
  | .some v vi => .some v vi
  | .exists_ v vi => .exists_ v vi
  | .bool b => .bool b

def embCall (c : Call) : Call2 := ⟨c.tid, embOp c.op, embRes c.res, c.inv, c.resp⟩

theorem embRes_inj {a b : KRes} : embRes a = embRes b ↔ a = b := by
  cases a <;> cases b <;> simp [embRes]

theorem specStep2_emb (st : KSt) (op : KOp) :
    specStep2 st (embOp op) = ((specStep st op).1, embRes (specStep st op).2) := by
  rcases st with _ | ⟨v, vi⟩ <;> cases op <;> rfl

theorem spec_of_emb {st st' : KSt} {op : KOp} {res : KRes}
    (h : specStep2 st (embOp op) = (st', embRes res)) : specStep st op = (st', res) := by
  rw [specStep2_emb] at h
  obtain ⟨h1, h2⟩ := Prod.mk.inj h
  exact Prod.ext h1 (embRes_inj.1 h2)

theorem replay2_map (h : History) : ∀ (o : List Nat) (st : KSt),
    replay2 (h.map embCall) o st = replay h o st
  | [], _ => rfl
  | i :: o, st => by
    simp only [replay2, replay, List.getElem?_map]
    cases h[i]? with
    | none => rfl
    | some c => simp only [Option.map_some, embCall, specStep2_emb, embRes_inj, replay2_map h o]

theorem linearizable2_map {h : History} {init fin : KSt} :
    Linearizable2 (h.map embCall) init fin ↔ Linearizable h init fin := by
  unfold Linearizable2 Linearizable
  simp only [List.length_map, replay2_map]
  refine exists_congr fun order => and_congr_right fun _ => and_congr_left' ?_
  have key : ∀ p : Nat, (order[p]? >>= fun i : Nat => (h.map embCall)[i]?) =
      (order[p]? >>= fun i : Nat => h[i]?).map embCall := by
    intro p; cases order[p]? <;> simp
  simp only [key, Option.map_eq_some_iff]
  constructor
  · intro H p q a b hpq ha hb; exact H p q _ _ hpq ⟨a, ha, rfl⟩ ⟨b, hb, rfl⟩
  · rintro H p q _ _ hpq ⟨a, ha, rfl⟩ ⟨b, hb, rfl⟩; exact H p q a b hpq ha hb

theorem realTimeOk_map (h : History) : ∀ o : List Nat,
    Lin2.realTimeOk (h.map embCall) o = realTimeOk h o
  | [] => rfl
  | i :: o => by
    simp only [Lin2.realTimeOk, realTimeOk, List.getElem?_map, realTimeOk_map h o]
    congr 2
    funext j
    cases h[i]? <;> cases h[j]? <;> rfl

theorem validate_map (h : History) (o : List Nat) (init fin : KSt) :
    Lin2.validate (h.map embCall) o init fin = validate h o init fin := by
  simp only [Lin2.validate, validate, List.length_map, realTimeOk_map, replay2_map]
  rfl

theorem search_go_map (h : History) (fin : KSt) : ∀ (fuel : Nat) (rem acc : List Nat) (st : KSt),
    Lin2.search.go (h.map embCall) fin fuel rem acc st = search.go h fin fuel rem acc st
  | 0, _, _, _ => rfl
  | fuel + 1, [], acc, st => rfl
  | fuel + 1, r :: rs, acc, st => by
    rw [Lin2.search.go.eq_3 _ fin _ acc st fuel (by simp), search.go.eq_3 h fin _ acc st fuel (by simp)]
    congr 1
    funext i
    simp only [List.getElem?_map]
    cases h[i]? with
    | none => rfl
    | some c =>
      simp only [Option.map_some, embCall, specStep2_emb, embRes_inj, search_go_map h fin fuel]
      congr 2
      refine congrArg _ (funext fun j => ?_)
      cases h[j]? <;> rfl

theorem search_map (h : History) (init fin : KSt) :
    Lin2.search (h.map embCall) init fin = search h init fin := by
  simp only [Lin2.search, search, List.length_map, search_go_map]

end Flurry.Lin
