import Flurry.Lemmas.BinNIBasic
/-! # Proto/BinNI: the hindsight justification of an iterator (C07)

`IGood P G t0 s ptr`: the justification of an iterator created at `t0` that holds the pointer `ptr`
(`P τ k v`: "at time `τ` the abstract content of `k` was `some v`"):
* `none`: nothing to justify;
* `on`: the node is on the live chain of ITS OWN key (so what the iterator reads there is the abstract
  content of that key now);
* `off`: the node is dead (unlinked, or copied by a transfer): its fields are frozen, its value was the
  abstract content of its key at some time in `[t0, now]`, and its successor is justified again.

`IGood.carry`: every transition of `Proto/BinN` carries the justification over. A node on the live chain of
its own key is justified as a reader of that key standing on it is (`Good.on`), so `MemStep.carries` does the
work; a dead node stays dead with its fields (`dead_step`).

`stepK_mono`: forwarding markers are for ever, the table pointer advances by at most one.

Everything in this file is about `BinN.State` alone and is in the namespace of `Proto/BinN`. -/
namespace Flurry.Proto.BinN
open Flurry.Lin
open Flurry.Proto.BinX (Cell nodeAt getElem?_nodeAt nextA)

theorem liveId_of_keyOn {s : State} {k k' : Nat} (h : keyOn (liveId s k) k') : liveId s k' = liveId s k := by
  unfold liveId at h ⊢
  by_cases hm : cellOf s s.cur k = .moved
  · rw [if_pos hm] at h ⊢
    have h1 : k' % 2 ^ (s.cur + 1) = k % 2 ^ (s.cur + 1) := h
    have h2 : k' % 2 ^ s.cur = k % 2 ^ s.cur := by
      rw [keyOn_mod (Nat.le_succ s.cur) h1]; exact (keyOn_mod (Nat.le_succ s.cur) rfl).symm
    have : cellOf s s.cur k' = .moved := by unfold cellOf at hm ⊢; rw [h2]; exact hm
    rw [if_pos this]; unfold cellId; rw [h1]
  · rw [if_neg hm] at h ⊢
    have h2 : k' % 2 ^ s.cur = k % 2 ^ s.cur := h
    have : cellOf s s.cur k' ≠ .moved := by unfold cellOf at hm ⊢; rw [h2]; exact hm
    rw [if_neg this]; unfold cellId; rw [h2]

theorem HInv.LC_of_mem {s : State} {G : Ghost} (H : HInv s G) {k b : Nat} (hb : b ∈ LC s k) :
    LC s (nodeAt s.heap b).key = LC s k := by
  rw [H.LC_eq] at hb
  rw [H.LC_eq, H.LC_eq, liveId_of_keyOn (H.side _ b hb)]

inductive IGood (P : Nat → Nat → Nat × Nat → Prop) (G : Ghost) (t0 : Nat) (s : State) : Option Nat → Prop
  | none : IGood P G t0 s none
  | on {c : Nat} : c ∈ LC s (nodeAt s.heap c).key → IGood P G t0 s (some c)
  | off {c : Nat} : ¬ Live s G c → c < s.heap.length → IGood P G t0 s (nodeAt s.heap c).next →
      (∃ τ, t0 ≤ τ ∧ τ ≤ s.now ∧ P τ (nodeAt s.heap c).key (nodeAt s.heap c).val) → IGood P G t0 s (some c)

theorem IGood.lt {P : Nat → Nat → Nat × Nat → Prop} {G : Ghost} {t0 : Nat} {s : State} (H : HInv s G) {c : Nat}
    (h : IGood P G t0 s (some c)) : c < s.heap.length := by
  cases h with
  | on hc => exact H.LC_lt hc
  | off _ hl _ _ => exact hl

theorem IGood.head {P : Nat → Nat → Nat × Nat → Prop} {G : Ghost} {t0 : Nat} {s : State} (H : HInv s G) {h : Nat}
    (hl : h ∈ LC s (nodeAt s.heap h).key) : IGood P G t0 s (some h) := .on hl

/-- what the iterator reads in the node it stands on was the content of that key at some time since its creation -/
theorem IGood.hit {P : Nat → Nat → Nat × Nat → Prop} {G : Ghost} {t0 : Nat} {s : State} (H : HInv s G) {c : Nat}
    (h : IGood P G t0 s (some c)) (ht0 : t0 ≤ s.now)
    (hP : ∀ k v, absOf s k = some v → P s.now k v) :
    ∃ τ, t0 ≤ τ ∧ τ ≤ s.now ∧ P τ (nodeAt s.heap c).key (nodeAt s.heap c).val := by
  cases h with
  | on hc => exact ⟨s.now, ht0, Nat.le_refl _, hP _ _ (H.absOf_some_iff.2 ⟨c, hc, rfl, rfl⟩)⟩
  | off _ _ _ hv => exact hv

theorem IGood.next {P : Nat → Nat → Nat × Nat → Prop} {G : Ghost} {t0 : Nat} {s : State} (H : HInv s G) {c : Nat}
    (h : IGood P G t0 s (some c)) : IGood P G t0 s (nodeAt s.heap c).next := by
  cases h with
  | on hc =>
    have hn := getElem?_nodeAt (H.LC_lt hc)
    cases hnx : (nodeAt s.heap c).next with
    | none => exact .none
    | some b =>
      obtain ⟨hb, -⟩ := (H.LC_isChain _).succ_some H.nextOK hc hn hnx
      exact .on (by rw [H.LC_of_mem hb]; exact hb)
  | off _ _ hnext _ => exact hnext

theorem IGood.congr {P P' : Nat → Nat → Nat × Nat → Prop} {G : Ghost} {t0 : Nat} {s s' : State} {ptr : Option Nat}
    (h : IGood P G t0 s ptr) (hh : s'.heap = s.heap) (ht : s'.tabs = s.tabs) (hc : s'.cur = s.cur)
    (hnow : s.now ≤ s'.now) (hP : ∀ τ k v, P τ k v → P' τ k v) : IGood P' G t0 s' ptr := by
  induction h with
  | none => exact .none
  | on hc' => exact .on (by rw [hh, LC_congr hh ht hc]; exact hc')
  | off hd hl _ hv ih =>
    refine .off (fun h => hd ((Live_congr hh ht G _).1 h)) (by rw [hh]; exact hl) (by rw [hh]; exact ih) ?_
    obtain ⟨τ, h1, h2, h3⟩ := hv
    rw [hh]
    exact ⟨τ, h1, by omega, hP _ _ _ h3⟩

/-- **hindsight for iterators**: a node on the live chain of its own key is justified as a reader of that key
standing on it is; `MemStep.carries` carries that reader over, and what it says afterwards is `IGood` again -/
theorem IGood.carry {P P' : Nat → Nat → Nat × Nat → Prop} {G G' : Ghost} {t0 : Nat} {s s' : State} {ptr : Option Nat}
    (hg : IGood P G t0 s ptr) (m : MemStep s s' G G') (H : HInv s G) (H' : HInv s' G')
    (hnow : s'.now = s.now + 1) (ht0 : t0 ≤ s.now) (hP : ∀ τ k v, P τ k v → P' τ k v)
    (hPnow : ∀ k v, absOf s k = some v → P' s.now k v) : IGood P' G' t0 s' ptr := by
  have hlen := memStep_len m
  have onC : ∀ c, c < s.heap.length → c ∈ LC s (nodeAt s.heap c).key → IGood P' G' t0 s' (some c) := by
    refine H.nextOK.induction fun c hcl ih hc => ?_
    have hkey := m.key_old hcl
    -- the reader of `c`'s key, standing on `c`; only the present moment of its history matters
    have J : Good G (fun τ => if τ = s.now then absOf s (nodeAt s.heap c).key else Option.none) (nodeAt s.heap c).key t0 s
        (some c) :=
      .on hc fun i hi hlt hik => by rw [H.LC_keys _ i hi c hc hik] at hlt; omega
    have J' := m.carries (x := Option.none) H H' hnow (if_pos rfl) t0 (some c) ht0 J
    cases J' with
    | on hc' _ => exact .on (by rw [hkey]; exact hc')
    | foreign hcid hno _ _ _ => exact absurd (hkey ▸ H'.side _ c hcid) hno
    | off hdead hlt _ hval =>
      obtain ⟨τ, -, -, h3⟩ := hval hkey
      have hc0 : c ∈ chId s (liveId s (nodeAt s.heap c).key) := by rw [← H.LC_eq]; exact hc
      have hnx := (leave_step m ⟨_, hc0⟩ fun h => hdead (Or.inl h)).2
      refine .off hdead hlt ?_ ⟨s.now, ht0, by omega, ?_⟩
      · rw [hnx]
        cases hd : (nodeAt s.heap c).next with
        | none => exact .none
        | some d =>
          obtain ⟨hd', -⟩ := (H.LC_isChain _).succ_some H.nextOK hc (getElem?_nodeAt hcl) hd
          exact ih d hd (by rw [H.LC_of_mem hd']; exact hd')
      · rw [hkey]
        refine hPnow _ _ ?_
        unfold nextA at h3
        split at h3
        · cases h3
        · have h3' : (if τ = s.now then absOf s (nodeAt s.heap c).key else Option.none) = _ := h3
          split at h3'
          · exact h3'
          · cases h3'
  induction hg with
  | none => exact .none
  | on hc => exact onC _ (H.LC_lt hc) hc
  | @off c hd hcl _ hv ih =>
    obtain ⟨hdead, hnx⟩ := dead_step m hcl hd
    refine .off hdead (by omega) (by rw [hnx]; exact ih) ?_
    obtain ⟨τ, h1, h2, h3⟩ := hv
    rw [m.key_old hcl, m.dead_val hcl hd]
    exact ⟨τ, h1, by omega, hP _ _ _ h3⟩

theorem cellT_put_mono (tabs : List (List Cell)) {g j g' j' : Nat} {c : Cell}
    (h : cellT tabs g j ≠ .moved ∨ c = .moved) (hm : cellT tabs g' j' = .moved) :
    cellT (tabs.modify g (fun row => row.set j c)) g' j' = .moved := by
  by_cases he : g' = g ∧ j' = j
  · obtain ⟨rfl, rfl⟩ := he
    rcases h with h | h
    · exact absurd hm h
    · rcases cellT_put_self tabs g' j' c with e | e
      · rw [e, h]
      · rw [e, hm]
  · rw [cellT_put_ne tabs c he]; exact hm

/-- **forwarding markers are stable and the table pointer advances by at most one** -/
theorem stepK_mono {s s' : State} {G : Ghost} {t : Nat} {l : Local} {pick : Nat} (I : Inv s G)
    (hl : s.threads[t]? = some l) (h : StepK s t l pick s') :
    (s'.cur = s.cur ∨ s'.cur = s.cur + 1) ∧ ∀ g j, cellAt s g j = .moved → cellAt s' g j = .moved := by
  -- the state in constructor form, as in `stepK_inv`
  obtain ⟨heap, tabs, cur, resizing, threads, hist, now⟩ := s
  let s : State := ⟨heap, tabs, cur, resizing, threads, hist, now⟩
  have T := I.gen.thr t l hl
  cases h with
  | resize h1 h2 => exact ⟨Or.inl rfl, fun g j hm => by rw [cellAt_eq] at hm ⊢; show cellT (_ ++ _) g j = _; rw [cellT_alloc]; exact hm⟩
  | cas p g v vi h1 h2 h3 h4 =>
    refine ⟨Or.inl rfl, fun g' j' hm => ?_⟩
    rw [cellAt_eq] at hm ⊢
    exact cellT_put_mono s.tabs (Or.inl (by rw [← cellOf_eq, h3]; simp)) hm
  | store p g hh pred hit hnext h1 h2 =>
    obtain ⟨-, e2, -, -, -, -, e7⟩ := storeAt_shape (tick s) g p pred hit hnext
    refine ⟨Or.inl e2, fun g' j' hm => ?_⟩
    rw [cellAt_eq] at hm ⊢
    show cellT (storeAt (tick s) g p pred hit hnext).1.tabs g' j' = _
    rcases e7 with e | ⟨c, -, e⟩
    · rw [e]; exact hm
    · rw [e]
      have hv : vcell s.cur l = some (g, p.key % 2 ^ g, hh) := by unfold vcell; rw [h2, h1]
      have := (T.valid _ _ _ hv).1
      exact cellT_put_mono s.tabs (Or.inl (by rw [← cellAt_eq, this]; simp)) hm
  | casMoved j h1 h2 h3 =>
    exact ⟨Or.inl rfl, fun g' j' hm => by rw [cellAt_eq] at hm ⊢; exact cellT_put_mono s.tabs (Or.inr rfl) hm⟩
  | storeMoved j hh h1 h2 =>
    exact ⟨Or.inl rfl, fun g' j' hm => by rw [cellAt_eq] at hm ⊢; exact cellT_put_mono s.tabs (Or.inr rfl) hm⟩
  | storeLow j hh lo hg h1 h2 =>
    exact ⟨Or.inl rfl, fun g' j' hm => by
      rw [cellAt_eq] at hm ⊢; exact cellT_put_mono s.tabs (Or.inl (by rw [← cellAt_eq]; exact I.gen.nextOK _)) hm⟩
  | storeHigh j hh hg h1 h2 =>
    exact ⟨Or.inl rfl, fun g' j' hm => by
      rw [cellAt_eq] at hm ⊢; exact cellT_put_mono s.tabs (Or.inl (by rw [← cellAt_eq]; exact I.gen.nextOK _)) hm⟩
  | commit h1 h2 => exact ⟨Or.inr rfl, fun g j hm => hm⟩
  | _ => exact ⟨Or.inl rfl, fun g j hm => hm⟩

end Flurry.Proto.BinN
