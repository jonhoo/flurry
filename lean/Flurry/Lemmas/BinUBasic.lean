import Flurry.Lemmas.BinUStep
import Flurry.Lemmas.ListHeap
/-! # Proto/BinU: the heap invariant, the abstract state (list membership), and the five stores (C01/C07, tree bins)

* `HInv`: `next` pointers go downwards, `first` is valid, keys are pairwise distinct among the
  nodes that are on the list or in the tree.
* `absOf s k` (from the model): the value of the node with key `k` on the **list**: this is the
  ghost abstract state of the linearizability proof ("the list is the truth"). `absTree = absOf`
  whenever list and tree hold the same nodes (`absTree_eq_absOf`).
* `HeapStep s s'`: what a transition does to the heap as far as list-walking readers are concerned.
* the five stores (`val`, `prepend`, `treeLink`, `unlink`, `untree`): each preserves `HInv`, is a
  `HeapStep`, and we compute the new chain and the new abstract state. The arguments about the heap are those
  of `Lemmas/ListHeap`, read through `sig` (`HInv.gen`, `HInv.of_gen`, `HeapStep.of_gen`).

The file follows `Lemmas/BinTBasic.lean` declaration by declaration; what is said there of a definition or lemma of the
same name is not repeated. -/
namespace Flurry.Proto.BinU
open Flurry.Lin Flurry.Shared

def Alive (s : State) (i : Nat) : Prop :=
  i ∈ chain s ∨ (i < s.heap.length ∧ (nodeAt s.heap i).inTree = true)

structure HInv (s : State) : Prop where
  nextOK : NextOK s.heap
  firstOK : ∀ h, s.first = some h → h < s.heap.length
  keysDistinct : ∀ i j, Alive s i → Alive s j → (nodeAt s.heap i).key = (nodeAt s.heap j).key → i = j

theorem chain_isChain' {s : State} (hok : NextOK s.heap) (hh : ∀ h, s.first = some h → h < s.heap.length) :
    Seg NodeS.next s.heap s.first (chain s) none := by
  refine chainFrom_seg hok _ _ ?_
  intro i hi
  have := hh i hi
  omega

theorem chain_isChain {s : State} (H : HInv s) : Seg NodeS.next s.heap s.first (chain s) none :=
  chain_isChain' H.nextOK H.firstOK

theorem chain_eq' {s : State} (hok : NextOK s.heap) (hh : ∀ h, s.first = some h → h < s.heap.length)
    {l : List Nat} (h : Seg NodeS.next s.heap s.first l none) : chain s = l :=
  (chain_isChain' hok hh).unique h

theorem chain_lt {s : State} (H : HInv s) {i : Nat} (hi : i ∈ chain s) : i < s.heap.length :=
  (chain_isChain H).lt_length i hi

theorem chain_sorted {s : State} (H : HInv s) : (chain s).Pairwise (· > ·) :=
  (chain_isChain H).sorted H.nextOK

theorem chain_nodup {s : State} (H : HInv s) : (chain s).Nodup :=
  (chain_isChain H).nodup H.nextOK

theorem chain_first_none {s : State} (H : HInv s) (h : s.first = none) : chain s = [] := by
  have := chain_isChain H
  rw [h] at this
  cases hc : chain s with
  | nil => rfl
  | cons a l => rw [hc] at this; exact absurd (Seg.cons_iff.1 this).1 (by simp)

theorem chain_first_some {s : State} (H : HInv s) {h : Nat} (hh : s.first = some h) :
    ∃ l, chain s = h :: l := by
  have := chain_isChain H
  rw [hh] at this
  cases hc : chain s with
  | nil => rw [hc] at this; cases this
  | cons a l =>
    rw [hc] at this
    obtain ⟨ha, -⟩ := Seg.cons_iff.1 this
    cases ha
    exact ⟨l, rfl⟩

theorem chain_congr {s s' : State} (hh : s'.heap = s.heap) (hd : s'.first = s.first) : chain s' = chain s := by
  unfold chain; rw [hh, hd]

theorem Alive.congr {s s' : State} (hh : s'.heap = s.heap) (hd : s'.first = s.first) (i : Nat) :
    Alive s' i ↔ Alive s i := by
  unfold Alive; rw [chain_congr hh hd, hh]

theorem HInv.congr {s s' : State} (H : HInv s) (hh : s'.heap = s.heap) (hd : s'.first = s.first) : HInv s' := by
  refine ⟨by rw [hh]; exact H.nextOK, by rw [hh, hd]; exact H.firstOK, ?_⟩
  intro i j hi hj
  rw [hh]
  exact H.keysDistinct i j ((Alive.congr hh hd i).1 hi) ((Alive.congr hh hd j).1 hj)

theorem treeFind_some {s : State} {k i : Nat} (h : treeFind s k = some i) :
    i < s.heap.length ∧ (nodeAt s.heap i).inTree = true ∧ (nodeAt s.heap i).key = k := by
  unfold treeFind at h
  have h1 := List.mem_of_find?_eq_some h
  have h2 := List.find?_some h
  simp only [Bool.and_eq_true, beq_iff_eq] at h2
  exact ⟨List.mem_range.1 h1, h2.1, h2.2⟩

theorem treeFind_none {s : State} {k : Nat} (h : treeFind s k = none) :
    ∀ j, j < s.heap.length → (nodeAt s.heap j).inTree = true → (nodeAt s.heap j).key ≠ k := by
  unfold treeFind at h
  rw [List.find?_eq_none] at h
  intro j hj hin hk
  have := h j (List.mem_range.2 hj)
  simp only [Bool.and_eq_true, beq_iff_eq, not_and] at this
  exact this hin hk

theorem treeFind_of {s : State} (H : HInv s) {k i : Nat} (hi : i < s.heap.length)
    (hin : (nodeAt s.heap i).inTree = true) (hk : (nodeAt s.heap i).key = k) : treeFind s k = some i := by
  cases hf : treeFind s k with
  | none => exact absurd hk (treeFind_none hf i hi hin)
  | some j =>
    obtain ⟨hj, hjin, hjk⟩ := treeFind_some hf
    rw [H.keysDistinct j i (Or.inr ⟨hj, hjin⟩) (Or.inr ⟨hi, hin⟩) (by rw [hjk, hk])]

/-- how `Lemmas/ListHeap` reads a node: every list node counts -/
def sig : LHeap.Sig NodeS := ⟨NodeS.key, NodeS.val, NodeS.next, NodeS.inTree, fun _ => true, dflt⟩

theorem absOf_eq (s : State) (k : Nat) : absOf s k = sig.abs s.heap (chain s) k := by
  unfold absOf
  show _ = ((chain s).find? (fun i => (s.heap.getD i dflt).key == k)).map _
  cases (chain s).find? (fun i => (s.heap.getD i dflt).key == k) <;> rfl

theorem counts_iff {heap : List NodeS} {C : List Nat} {j : Nat} : LHeap.Counts sig heap C j ↔ j ∈ C := and_iff_left rfl

theorem HInv.gen {s : State} (H : HInv s) : LHeap.HInvG sig s.heap s.first (chain s) :=
  ⟨H.nextOK, H.firstOK, chain_isChain H, H.keysDistinct⟩

theorem HInv.of_gen {s : State} {C : List Nat} (V : LHeap.HInvG sig s.heap s.first C) : HInv s ∧ chain s = C := by
  obtain rfl := chain_eq' V.nextOK V.firstOK V.seg
  exact ⟨⟨V.nextOK, V.firstOK, V.keysDistinct⟩, rfl⟩

theorem absOf_eq_none_iff {s : State} {k : Nat} :
    absOf s k = none ↔ ∀ i ∈ chain s, (nodeAt s.heap i).key ≠ k := by
  rw [absOf_eq, LHeap.abs_eq_none_iff]
  exact forall₂_congr fun _ _ => ⟨fun h => h rfl, fun h _ => h⟩

theorem absOf_eq_some_iff {s : State} (H : HInv s) {k : Nat} {v : Nat × Nat} :
    absOf s k = some v ↔ ∃ i ∈ chain s, (nodeAt s.heap i).key = k ∧ (nodeAt s.heap i).val = v := by
  rw [absOf_eq, LHeap.abs_eq_some_iff H.gen.dist]
  exact exists_congr fun _ => and_congr_right fun _ => and_iff_right rfl

theorem absOf_congr {s s' : State} (hh : s'.heap = s.heap) (hd : s'.first = s.first) (k : Nat) :
    absOf s' k = absOf s k := by
  rw [absOf_eq, absOf_eq, chain_congr hh hd, hh]

theorem absTree_eq_absOf {s : State} (H : HInv s)
    (hsub : ∀ j, j < s.heap.length → (nodeAt s.heap j).inTree = true → j ∈ chain s)
    (hsup : ∀ j ∈ chain s, (nodeAt s.heap j).inTree = true) (k : Nat) :
    absTree s k = absOf s k := by
  unfold absTree
  cases hf : treeFind s k with
  | none =>
    simp only
    symm
    rw [absOf_eq_none_iff]
    intro i hi
    exact treeFind_none hf i (chain_lt H hi) (hsup i hi)
  | some i =>
    simp only
    obtain ⟨hi, hin, hk⟩ := treeFind_some hf
    symm
    rw [absOf_eq_some_iff H]
    exact ⟨i, hsub i hi hin, hk, rfl⟩

/-- the abstract state of `s'` when the list keeps its members, their keys and values -/
theorem absOf_same {s s' : State} (H : HInv s) (H' : HInv s') (hc : chain s' = chain s)
    (hkv : ∀ j, (nodeAt s'.heap j).key = (nodeAt s.heap j).key ∧ (nodeAt s'.heap j).val = (nodeAt s.heap j).val)
    (k : Nat) : absOf s' k = absOf s k := by
  rw [absOf_eq, absOf_eq]
  exact LHeap.abs_same H.gen.dist H'.gen.dist (fun j => by rw [counts_iff, counts_iff, hc]) (fun j _ => hkv j) k

/-- `LHeap.HStep sig` between two states, without the conjuncts of `unl` and `valchg` that say a node counts: every
list node does (`HeapStep.of_gen`) -/
structure HeapStep (s s' : State) : Prop where
  len : s.heap.length ≤ s'.heap.length
  key : ∀ j, j < s.heap.length → (nodeAt s'.heap j).key = (nodeAt s.heap j).key
  off : ∀ j, j < s.heap.length → j ∉ chain s →
    (nodeAt s'.heap j).val = (nodeAt s.heap j).val ∧ (nodeAt s'.heap j).next = (nodeAt s.heap j).next
  noRelink : ∀ j ∈ chain s', j ∈ chain s ∨ s.heap.length ≤ j
  unl : ∀ c ∈ chain s, c ∉ chain s' →
    (nodeAt s'.heap c).val = (nodeAt s.heap c).val ∧ (nodeAt s'.heap c).next = (nodeAt s.heap c).next ∧
    ∀ j ∈ chain s, j ≠ c → j ∈ chain s'
  fresh : ∀ j ∈ chain s', s.heap.length ≤ j → ∀ i ∈ chain s, (nodeAt s.heap i).key ≠ (nodeAt s'.heap j).key
  valchg : ∀ j, j < s.heap.length → (nodeAt s'.heap j).val ≠ (nodeAt s.heap j).val → j ∈ chain s'

theorem HeapStep.of_gen {s s' : State} (h : LHeap.HStep sig s.heap (chain s) s'.heap (chain s')) : HeapStep s s' :=
  ⟨h.len, h.key, h.off, h.noRelink, fun c h1 h2 => ⟨(h.unl c h1 h2).1, (h.unl c h1 h2).2.1, (h.unl c h1 h2).2.2.2⟩,
    h.fresh, fun j h1 h2 => (h.valchg j h1 h2).1⟩

theorem HeapStep.of_same {s s' : State} (H : HInv s) (hh : s'.heap = s.heap) (hd : s'.first = s.first) : HeapStep s s' := by
  refine .of_gen ?_; rw [chain_congr hh hd, hh]; exact .of_same H.gen

theorem nodeAt_modify_self {heap : List NodeS} {i : Nat} (f : NodeS → NodeS) (hi : i < heap.length) :
    nodeAt (heap.modify i f) i = f (nodeAt heap i) := by
  rw [nodeAt_modify, if_pos ⟨rfl, hi⟩]

theorem modify_summary {s s' : State} (H : HInv s) {i : Nat} {f : NodeS → NodeS}
    (hh : s'.heap = s.heap.modify i f) (hd : s'.first = s.first)
    (hf : ∀ n, (f n).next = n.next ∧ (f n).key = n.key)
    (halive : (nodeAt s'.heap i).inTree = true → Alive s i)
    (hv : (nodeAt s'.heap i).val ≠ (nodeAt s.heap i).val → i ∈ chain s) :
    HInv s' ∧ HeapStep s s' ∧ chain s' = chain s ∧ s'.heap.length = s.heap.length ∧
      (∀ j, (nodeAt s'.heap j).key = (nodeAt s.heap j).key) ∧
      (∀ j, j ≠ i → nodeAt s'.heap j = nodeAt s.heap j) := by
  rw [hh] at halive hv
  obtain ⟨V', hs, hkey, hother⟩ := LHeap.modify_summary H.gen hf halive (fun h => ⟨hv h, rfl⟩)
  rw [← hh, ← hd] at V'
  obtain ⟨H', hc⟩ := HInv.of_gen V'
  refine ⟨H', .of_gen (by rw [hc, hh]; exact hs), hc, ?_⟩
  rw [hh]
  exact ⟨List.length_modify .., hkey, hother⟩

theorem val_store {s s' : State} (H : HInv s) {i : Nat} {v : Nat × Nat}
    (hi : i ∈ chain s)
    (hh : s'.heap = s.heap.modify i (fun n => { n with val := v })) (hd : s'.first = s.first) :
    HInv s' ∧ HeapStep s s' ∧ chain s' = chain s ∧ s'.heap.length = s.heap.length ∧
      (∀ j, (nodeAt s'.heap j).key = (nodeAt s.heap j).key) ∧
      (∀ j, (nodeAt s'.heap j).inTree = (nodeAt s.heap j).inTree) ∧
      (∀ j, (nodeAt s'.heap j).val = if j = i then v else (nodeAt s.heap j).val) ∧
      ∀ k, absOf s' k = if (nodeAt s.heap i).key = k then some v else absOf s k := by
  have hil := chain_lt H hi
  have hself : nodeAt s'.heap i = { nodeAt s.heap i with val := v } := by
    rw [hh]; exact nodeAt_modify_self _ hil
  obtain ⟨H', hs, hc, hlen, hkey, hother⟩ := modify_summary H hh hd (fun n => ⟨rfl, rfl⟩)
    (fun _ => Or.inl hi) (fun _ => hi)
  have hint : ∀ j, (nodeAt s'.heap j).inTree = (nodeAt s.heap j).inTree := by
    intro j
    by_cases hji : j = i
    · subst hji; rw [hself]
    · rw [hother j hji]
  have hval : ∀ j, (nodeAt s'.heap j).val = if j = i then v else (nodeAt s.heap j).val := by
    intro j
    by_cases hji : j = i
    · subst hji; rw [hself, if_pos rfl]
    · rw [hother j hji, if_neg hji]
  refine ⟨H', hs, hc, hlen, hkey, hint, hval, fun k => ?_⟩
  rw [absOf_eq, absOf_eq]
  exact LHeap.abs_val H.gen.dist H'.gen.dist ⟨hi, rfl⟩ (fun j => by rw [counts_iff, counts_iff, hc]) hkey hval k

theorem treeLink_store {s s' : State} (H : HInv s) {x : Nat}
    (hx : x ∈ chain s)
    (hh : s'.heap = s.heap.modify x (fun n => { n with inTree := true })) (hd : s'.first = s.first) :
    HInv s' ∧ HeapStep s s' ∧ chain s' = chain s ∧ s'.heap.length = s.heap.length ∧
      (∀ j, (nodeAt s'.heap j).key = (nodeAt s.heap j).key) ∧
      (∀ j, (nodeAt s'.heap j).val = (nodeAt s.heap j).val) ∧
      (∀ j, (nodeAt s'.heap j).inTree = if j = x then true else (nodeAt s.heap j).inTree) ∧
      ∀ k, absOf s' k = absOf s k := by
  have hxl := chain_lt H hx
  have hself : nodeAt s'.heap x = { nodeAt s.heap x with inTree := true } := by
    rw [hh]; exact nodeAt_modify_self _ hxl
  obtain ⟨H', hs, hc, hlen, hkey, hother⟩ := modify_summary H hh hd (fun n => ⟨rfl, rfl⟩)
    (fun _ => Or.inl hx) (fun hne => absurd (by rw [hself]) hne)
  have hval : ∀ j, (nodeAt s'.heap j).val = (nodeAt s.heap j).val := by
    intro j
    by_cases hji : j = x
    · subst hji; rw [hself]
    · rw [hother j hji]
  have hint : ∀ j, (nodeAt s'.heap j).inTree = if j = x then true else (nodeAt s.heap j).inTree := by
    intro j
    by_cases hji : j = x
    · subst hji; rw [hself, if_pos rfl]
    · rw [hother j hji, if_neg hji]
  exact ⟨H', hs, hc, hlen, hkey, hval, hint, absOf_same H H' hc (fun j => ⟨hkey j, hval j⟩)⟩

/-- taking a node out of the tree (`absOf` reads the list only) -/
theorem untree_store {s s' : State} (H : HInv s) {i : Nat}
    (hh : s'.heap = s.heap.modify i (fun n => { n with inTree := false })) (hd : s'.first = s.first) :
    HInv s' ∧ HeapStep s s' ∧ chain s' = chain s ∧ s'.heap.length = s.heap.length ∧
      (∀ j, (nodeAt s'.heap j).key = (nodeAt s.heap j).key) ∧
      (∀ j, (nodeAt s'.heap j).val = (nodeAt s.heap j).val) ∧
      (∀ j, j ≠ i → (nodeAt s'.heap j).inTree = (nodeAt s.heap j).inTree) ∧
      (i < s.heap.length → (nodeAt s'.heap i).inTree = false) ∧
      ∀ k, absOf s' k = absOf s k := by
  have hself : (nodeAt s'.heap i).inTree = false := by
    rw [hh, nodeAt_modify]
    split
    · rfl
    · rename_i hn
      have : ¬ i < s.heap.length := fun h => hn ⟨rfl, h⟩
      unfold nodeAt
      rw [List.getD_eq_getElem?_getD, List.getElem?_eq_none (by omega)]
      rfl
  obtain ⟨H', hs, hc, hlen, hkey, hother⟩ := modify_summary H hh hd (fun n => ⟨rfl, rfl⟩)
    (fun h => by rw [hself] at h; cases h)
    (fun hne => by
      exfalso; apply hne
      rw [hh, nodeAt_modify]; split <;> rfl)
  have hval : ∀ j, (nodeAt s'.heap j).val = (nodeAt s.heap j).val := by
    intro j
    by_cases hji : j = i
    · subst hji; rw [hh, nodeAt_modify]; split <;> rfl
    · rw [hother j hji]
  exact ⟨H', hs, hc, hlen, hkey, hval, fun j hj => by rw [hother j hj], fun _ => hself,
    absOf_same H H' hc (fun j => ⟨hkey j, hval j⟩)⟩

theorem prepend_store {s s' : State} (H : HInv s) {new : NodeS}
    (hnext : new.next = s.first)
    (hfresh : ∀ j, Alive s j → (nodeAt s.heap j).key ≠ new.key)
    (hh : s'.heap = s.heap ++ [new]) (hd : s'.first = some s.heap.length) :
    HInv s' ∧ HeapStep s s' ∧ chain s' = s.heap.length :: chain s ∧
      s'.heap.length = s.heap.length + 1 ∧
      (∀ j, j < s.heap.length → nodeAt s'.heap j = nodeAt s.heap j) ∧
      nodeAt s'.heap s.heap.length = new ∧
      ∀ k, absOf s' k = if new.key = k then some new.val else absOf s k := by
  obtain ⟨V', hs, hold, hnew⟩ := LHeap.prepend_summary H.gen hnext hfresh
  rw [← hh, ← hd] at V'
  obtain ⟨H', hc⟩ := HInv.of_gen V'
  rw [← hh, ← hc] at hs
  rw [← hh] at hold hnew
  refine ⟨H', .of_gen hs, hc, by rw [hh, List.length_append, List.length_singleton], hold, hnew, fun k => ?_⟩
  have := LHeap.abs_add H.gen.dist H'.gen.dist (x := s.heap.length) ⟨by rw [hc]; exact List.mem_cons_self, rfl⟩
    (fun j => by rw [counts_iff, counts_iff, hc, List.mem_cons])
    (fun j hj => by rw [hold j (chain_lt H hj.1)]; exact ⟨rfl, rfl⟩) k
  rw [hnew] at this
  rw [absOf_eq, absOf_eq]; exact this

structure Unlinked (s s' : State) (i : Nat) : Prop where
  hinv : HInv s'
  step : HeapStep s s'
  chain : ∀ j, j ∈ chain s' ↔ j ∈ chain s ∧ j ≠ i
  len : s'.heap.length = s.heap.length
  node : ∀ j, (nodeAt s'.heap j).key = (nodeAt s.heap j).key ∧
    (nodeAt s'.heap j).val = (nodeAt s.heap j).val ∧ (nodeAt s'.heap j).inTree = (nodeAt s.heap j).inTree
  abs : ∀ k, absOf s' k = if (nodeAt s.heap i).key = k then none else absOf s k

theorem unlink_store {s s' : State} (H : HInv s) {i : Nat} (hi : i ∈ chain s)
    (hh : s'.heap = (unlinkOf s i).1) (hd : s'.first = (unlinkOf s i).2) :
    Unlinked s s' i := by
  unfold unlinkOf at hh hd
  rw [predOf_eq_prevOf] at hh hd
  have of {heap' st' C} (hh : s'.heap = heap') (hd : s'.first = st')
      (U : LHeap.Unlinked sig s.heap (chain s) heap' st' C i) : Unlinked s s' i := by
    subst hh hd
    obtain ⟨H', rfl⟩ := HInv.of_gen U.hinv
    exact ⟨H', .of_gen U.step, U.chain, U.len, fun j => ⟨(U.node j).1, (U.node j).2.1, (U.node j).2.2.1⟩,
      fun k => by rw [absOf_eq, absOf_eq]; exact U.abs k⟩
  rcases prevOf_cases (chain_nodup H) hi with ⟨l2, hch, hp⟩ | ⟨l1, pr, l2, hch, hp⟩
  · rw [hp] at hh hd
    exact of hh hd (LHeap.unlink_head H.gen rfl hch)
  · rw [hp] at hh hd
    exact of hh hd (LHeap.unlink_mid H.gen rfl hch (fun _ => ⟨rfl, rfl, rfl, rfl, rfl⟩))

end Flurry.Proto.BinU
