import Flurry.Lemmas.BinNHMInvFrame
import Flurry.Lemmas.BinNHMInvDefs
/-! # Proto/BinN and Proto/BinNH: the structural invariant `RWInv` after each kind of transition of a reader or writer (C01, C10)

`inv_same` (no store), `inv_lock` (a lock word), `inv_update` (a store into the chain of an active cell); `AbsEff`:
what the transition does to the abstract states. The case analysis over `StepK` is `stepK_rw` in
`Lemmas/BinNHMInvStep.lean`. -/
namespace Flurry.Proto.BinNHM
open Flurry.Proto.BinN
open Flurry.Lin
open Flurry.Proto.BinX (NodeS Cell Pending isReader dflt chainFrom cellHead cellOfHead nodeAt nodeAt_of_some getElem?_nodeAt
  nodeAt_append_left IsSeg IsChain chainH absIn KeysDistinct Walk get_set get_set_self get_set_ne cellOfHead_ne_moved)

/-- what a transition does to the abstract states of the keys -/
inductive AbsEff (s s' : State) (l : Local) : Prop
  | quiet : (∀ k, absOf s' k = absOf s k) → AbsEff s s' l
  | cas (p : Pending) (g v vi : Nat) : l.call = some p → l.pc = .wCas g → cellOf s g p.key = .empty →
      (p.op = .ins v vi ∨ p.op = .tryIns v vi) →
      (∀ k, absOf s' k = if p.key = k then some (v, vi) else absOf s k) → AbsEff s s' l
  | store (p : Pending) (g h : Nat) (pred hit hnext : Option Nat) : l.call = some p →
      l.pc = .wStore g h pred hit hnext →
      specStep (absOf s p.key) p.op = (absOf s' p.key, (storeAt (tick s) g p pred hit hnext).2) →
      (∀ k, k ≠ p.key → absOf s' k = absOf s k) → AbsEff s s' l

/-- the new program counter is not one of `Proto/BinN`'s resizing program counters -/
theorem noT_set {s s' : State} {t : Nat} {l' : Local}
    (h : ∀ (t : Nat) (l : Local), s.threads[t]? = some l → ¬ isT l.pc)
    (hthr : s'.threads = s.threads.set t l') (hT : ¬ isT l'.pc) :
    ∀ (t : Nat) (l : Local), s'.threads[t]? = some l → ¬ isT l.pc := by
  intro t1 l1 h1
  rw [hthr] at h1
  rcases get_set h1 with ⟨-, rfl⟩ | ⟨-, h1⟩
  · exact hT
  · exact h t1 l1 h1

/-- no reader / writer is validated on a cell that is being split: the frame. `hnew`: the acting thread does not
become validated on a cell that is being split. -/
theorem midw_set {s s' : State} {G : Ghost} {t : Nat} {l' : Local} (I : RWInv s G)
    (hthr : s'.threads = s.threads.set t l') (hc : s'.cur = s.cur)
    (hnew : ∀ j h, IsMid G j → ¬ isT l'.pc → vcell s.cur l' ≠ some (s.cur, j, h)) :
    ∀ j, IsMid G j → ∀ (t1 : Nat) (l1 : Local) (h : Nat), s'.threads[t1]? = some l1 → ¬ isT l1.pc →
      vcell s'.cur l1 ≠ some (s'.cur, j, h) := by
  intro j hm t1 l1 h0 h1
  rw [hthr] at h1
  rw [hc]
  rcases get_set h1 with ⟨-, rfl⟩ | ⟨-, h1⟩
  · exact hnew j h0 hm
  · exact I.midw j hm t1 l1 h0 h1

theorem inv_same {s s' : State} {G : Ghost} {t : Nat} {l l' : Local} (I : RWInv s G)
    (Gn' : GenInv s') (Tn' : TInv s') (m : SameMem s s') (hthr : s'.threads = s.threads.set t l')
    (hnew : ∀ j h, IsMid G j → ¬ isT l'.pc → vcell s.cur l' ≠ some (s.cur, j, h))
    (hself : ∀ p, l'.call = some p → WalkOK s' p l'.pc) :
    RWInv s' G ∧ HeapStep s s' G G ∧ AbsEff s s' l := by
  obtain ⟨a, b, c, d⟩ := m
  refine ⟨⟨Gn', I.heap.congr a b c d, Tn', ?_, midw_set I hthr c hnew⟩,
    HeapStep.of_same a b c, .quiet (absOf_congr_mem a b c)⟩
  refine winv_frame I.walk hthr ?_ hself
  intro t1 l1 g j h _ _ _ _
  exact hfr_same b (chId_congr a b) (fun i => by rw [a]; exact ⟨rfl, rfl⟩) g j

theorem inv_lock {s s' : State} {G : Ghost} {t : Nat} {l l' : Local} {i : Nat} {x : Option Nat} (I : RWInv s G)
    (Gn' : GenInv s') (Tn' : TInv s')
    (hh : s'.heap = s.heap.modify i (fun m => { m with lock := x }))
    (ht : s'.tabs = s.tabs) (hc : s'.cur = s.cur) (hr : s'.resizing = s.resizing)
    (hthr : s'.threads = s.threads.set t l')
    (hnew : ∀ j h, IsMid G j → ¬ isT l'.pc → vcell s.cur l' ≠ some (s.cur, j, h))
    (hself : ∀ p, l'.call = some p → WalkOK s' p l'.pc) :
    RWInv s' G ∧ HeapStep s s' G G ∧ AbsEff s s' l := by
  obtain ⟨H', hs, hch, habs, hn⟩ := lock_effect I.heap hh ht hc hr
  refine ⟨⟨Gn', H', Tn', ?_, midw_set I hthr hc hnew⟩, hs, .quiet habs⟩
  refine winv_frame I.walk hthr ?_ hself
  intro t1 l1 g j h _ _ _ _
  exact hfr_same ht hch (fun i => ⟨(hn i).1, (hn i).2.2⟩) g j

theorem inv_update {s s' : State} {G : Ghost} {t : Nat} {l' : Local} {id : CellId} (I : RWInv s G)
    (Gn' : GenInv s') (Tn' : TInv s') (act : Active s G id)
    (e : Effect s s' G id) (hthr : s'.threads = s.threads.set t l')
    (hnew : ∀ j h, IsMid G j → ¬ isT l'.pc → vcell s.cur l' ≠ some (s.cur, j, h))
    (hother : ∀ (t1 : Nat) (l1 : Local) (h : Nat), t1 ≠ t → s.threads[t1]? = some l1 →
      vcell s.cur l1 ≠ some (id.1, id.2, h))
    (hself : ∀ p, l'.call = some p → WalkOK s' p l'.pc) :
    RWInv s' G ∧ HeapStep s s' G G := by
  obtain ⟨C', u, hs⟩ := e
  refine ⟨⟨Gn', hinv_update I.heap act u, Tn', ?_, midw_set I hthr u.cur hnew⟩, hs⟩
  refine winv_frame I.walk hthr ?_ hself
  intro t1 l1 g j h n1 h1 hv _
  refine hfr_update I.heap act u ?_
  intro he
  apply hother t1 l1 h n1 h1
  rw [← he]; exact hv

/-- a store into the chain of an active cell leaves the cell that is being split and its children alone -/
theorem Update.mid_cells {s s' : State} {G : Ghost} {id : CellId} {C' : List Nat} (H : HInv s G) (act : Active s G id)
    (u : Update s s' G id C') {j : Nat} {lo hg : Option Nat} {fr : Nat × Nat} (hm : G.mid j = some (lo, hg, fr)) :
    cellAt s' s.cur j = cellAt s s.cur j ∧ cellAt s' (s.cur + 1) j = cellAt s (s.cur + 1) j ∧
    cellAt s' (s.cur + 1) (j + 2 ^ s.cur) = cellAt s (s.cur + 1) (j + 2 ^ s.cur) := by
  obtain ⟨h1, h2, h3, -⟩ := act.ne_mid H hm
  exact ⟨u.cell (s.cur, j) (fun h => h1 h.symm), u.cell (s.cur + 1, j) (fun h => h2 h.symm),
    u.cell (s.cur + 1, j + 2 ^ s.cur) (fun h => h3 h.symm)⟩

theorem splitBinB_ext (bit : Nat → Bool) (heap : List NodeS) (c : List Nat) :
    ∃ ext, (splitBinB bit heap c).1 = heap ++ ext := splitBinB_append bit heap c

end Flurry.Proto.BinNHM
