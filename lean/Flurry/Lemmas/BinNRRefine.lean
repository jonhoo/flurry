import Flurry.Proto.BinNR
import Flurry.Proto.Reclaim2
/-! # Proto/BinNR → Proto/Reclaim2: the projection of a concrete run onto the events of the abstract discipline

`project s t a s'` = the `Reclaim2.Ev` events of one `BinNR` transition `s —(t, a)→ s'` (objects = node indices):
`enter` (invocation / start of a resize), `acquire` of every node index the step dereferences or has in its program
counter afterwards, `touch` of every node it dereferences, `alloc` of every node it creates, `publish` of every node
that becomes reachable from a cell, `unlink` of every node that stops being reachable, `retire` (explicit, or of the
whole retire list at the response), `exit` (response / commit), `free`.

`simB a s`: the abstract state `a` describes the concrete state `s` (same objects, same life cycle state with the same
unlink-time and `waitFor` sets, same guards, the abstract `holds` contain the program counter's node indices).

`refinesB nthreads sched`: the projection of the whole run is accepted by `Reclaim2.run`, step by step, and `simB` holds
after every step. Checked by execution (`Lemmas/BinNRRefineExamples.lean`) and proved for all runs (`refines`,
`Lemmas/BinNRRefineProofMain.lean`, with `Sim`, the `Prop` form of `simB`). -/
namespace Flurry.Proto.BinNR
open Flurry.Proto.Reclaim2 (Ev)

def project (s : State) (t : Nat) (a : Act) (s' : State) : List Ev :=
  match a with
  | .retire i => [.retire t i]
  | .free i => [.free i]
  | .base .. =>
    let n := s.n
    let n' := s'.n
    let N := n.heap.length
    let N' := n'.heap.length
    let ex : Bool := guarded n t && !guarded n' t
    (if !guarded n t && guarded n' t then [Ev.enter t] else []) ++
    ((touches n t ++ holdsOf n' t).map (Ev.acquire t)) ++
    ((touches n t).map (Ev.touch t)) ++
    (List.replicate (N' - N) (Ev.alloc t)) ++
    (((List.range N').filter fun i => !reach n i && reach n' i).map (Ev.publish t)) ++
    (((List.range N).filter fun i => reach n i && !reach n' i).map (Ev.unlink t)) ++
    (if ex then (s.pend t ++ retiredBy false n t).map (Ev.retire t) else []) ++
    (if ex then [Ev.exit t] else [])

def sameSet (a b : List Nat) : Bool := a.all (b.contains ·) && b.all (a.contains ·)

def simB (nthreads : Nat) (a : Reclaim2.State) (s : State) : Bool :=
  a.nobjs == s.n.heap.length && a.badTouches == 0 &&
  ((List.range nthreads).all fun t =>
    a.guarded t == guarded s.n t && (holdsOf s.n t).all (a.holds t).contains) &&
  ((List.range s.n.heap.length).all fun i =>
    match a.objs i, s.unl i, s.life i with
    | .fresh, none, .live => !reach s.n i
    | .linked, none, .live => reach s.n i
    | .unlinked u, some u', .live => sameSet u u' && !reach s.n i
    | .retired u w, some u', .retired w' => sameSet u u' && sameSet w w' && !reach s.n i
    | .freed, some [], .freed => !reach s.n i
    | _, _, _ => false)

/-- run the concrete schedule, project every step, feed the events to the abstract discipline; `some none` = every
step enabled, every event accepted, `simB` after every step; `some (some k)` = first failure at step `k` -/
def refinesFrom (nthreads : Nat) : Reclaim2.State → State → List (Nat × Act) → Nat → Option (Option Nat)
  | _, _, [], _ => some none
  | a, s, (t, x) :: rest, k =>
    match stepG false s t x with
    | none => none
    | some s' =>
      match Reclaim2.run a (project s t x s') with
      | none => some (some k)
      | some a' => if simB nthreads a' s' then refinesFrom nthreads a' s' rest (k + 1) else some (some k)

def refinesB (nthreads : Nat) (sc : List (Nat × Act)) : Option (Option Nat) :=
  refinesFrom nthreads (Reclaim2.init nthreads) (init nthreads) sc 0

end Flurry.Proto.BinNR
