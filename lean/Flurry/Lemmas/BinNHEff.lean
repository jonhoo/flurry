import Flurry.Lemmas.BinNHReach
import Flurry.Lemmas.BinNLive
/-! # Proto/BinNH: every transition, by its effect on the shared memory

`step_cases`: a transition is a reader's / writer's (`RWEff`; also joining a running resize, an idle step,
an invocation), the allocation of the next generation, or a transition of a resizing thread (`HStep`:
the shared memory afterwards, explicitly).

`absOf_lockmod`: a lock word is no part of the abstract state. It is proved of the raw heap (`chainFrom_lockmod`),
without any invariant, because the generation-level theorems of `Props/C01BinNH.lean` that use it have only `Inv`. -/
namespace Flurry.Proto.BinNH
open Flurry.Lin
open Flurry.Proto.BinX (NodeS Cell Pending isReader dflt chainFrom cellHead cellOfHead get_set get_set_self get_set_ne
  cellOfHead_ne_moved)
open Flurry.Proto.BinN (cellAt cellOf putCell setNode allMoved splitBinB bitAt lockAt LockSame GenInv ThrOK isT
  Holds vcell genOfPc cellT StepK tick setT finish)

theorem step_cases {s s' : State} {t : Nat} {inv : Option (Nat × KOp)} {rz leave : Bool} {pick : Nat} (I : Inv s)
    (hs : step s t inv rz leave pick = some s') :
    (s.hs[t]? = some none ∧ RWEff s.n t s'.n) ∨
    (s.hs[t]? = some none ∧ s.n.resizing = false ∧ s'.n = allocN s.n) ∨
    (∃ hp po, s.hs[t]? = some (some hp) ∧ HStep s.n t hp.g hp.pc s'.n po) := by
  cases step_stepH hs with
  | @rw l n' hl hh K hres => exact Or.inl ⟨hh, stepK_rwEff I.gen hl hres (I.noT t l hl) K⟩
  | @join l hl hh hi R =>
    exact Or.inl ⟨hh, rwEff_of (l' := l) rfl rfl (LockSame.refl _) rfl (set_self_of_get hl).symm (I.noT t l hl)⟩
  | start hl hh hi R => exact Or.inr (Or.inl ⟨hh, R, rfl⟩)
  | @helper l hp n' po hl hh hst => exact Or.inr (Or.inr ⟨hp, po, hh, hst⟩)

theorem chainFrom_lockmod (heap : List NodeS) (h : Nat) (x : Option Nat) :
    ∀ (fuel : Nat) (o : Option Nat),
      chainFrom (heap.modify h (fun m => { m with lock := x })) fuel o = chainFrom heap fuel o := by
  intro fuel
  induction fuel with
  | zero => intro o; rfl
  | succ f ih =>
    intro o
    cases o with
    | none => rfl
    | some i =>
      simp only [chainFrom]
      rw [List.getElem?_modify]
      cases hi : heap[i]? with
      | none => rfl
      | some nd =>
        by_cases e : h = i
        · subst e; simp [ih]
        · simp [e, ih]

theorem getD_lockmod (heap : List NodeS) (h : Nat) (x : Option Nat) (i : Nat) :
    ((heap.modify h (fun m => { m with lock := x })).getD i dflt).key = (heap.getD i dflt).key ∧
    ((heap.modify h (fun m => { m with lock := x })).getD i dflt).val = (heap.getD i dflt).val := by
  rw [List.getD_eq_getElem?_getD, List.getD_eq_getElem?_getD, List.getElem?_modify]
  cases hi : heap[i]? with
  | none => exact ⟨rfl, rfl⟩
  | some nd =>
    by_cases e : h = i
    · simp [e]
    · simp [e]

theorem absOf_lockmod (n : BinN.State) (h : Nat) (x : Option Nat) (k : Nat) :
    BinN.absOf (setNode (tickN n) h (fun m => { m with lock := x })) k = BinN.absOf n k := by
  have hl : BinN.liveCell (setNode (tickN n) h (fun m => { m with lock := x })) k = BinN.liveCell n k :=
    BinN.liveCell_congr (s := n) (s' := setNode (tickN n) h (fun m => { m with lock := x })) rfl rfl k
  unfold BinN.absOf BinN.chainOfCell
  rw [hl]
  show (match List.find? (fun i => ((n.heap.modify h _).getD i dflt).key == k)
      (chainFrom (n.heap.modify h _) (n.heap.modify h _).length _) with
    | some i => some ((n.heap.modify h _).getD i dflt).val
    | none => none) = _
  rw [chainFrom_lockmod, List.length_modify]
  have e1 : (fun i => ((n.heap.modify h (fun m => { m with lock := x })).getD i dflt).key == k) =
      (fun i => (n.heap.getD i dflt).key == k) := by
    funext i; rw [(getD_lockmod n.heap h x i).1]
  rw [e1]
  cases List.find? (fun i => (n.heap.getD i dflt).key == k) (chainFrom n.heap n.heap.length (cellHead (BinN.liveCell n k))) with
  | none => rfl
  | some i => simp only; rw [(getD_lockmod n.heap h x i).2]

end Flurry.Proto.BinNH
