import Flurry.Proto.BinW
import Flurry.Lemmas.Bin
/-! # Proto/BinW → Proto/Bin: the projection (C01)

`proj : BinW.State → Bin.State` forgets the positions a walking writer remembers: `wFind h _ _` and
`wStore h _ _ _` both become `Bin`'s `wWrite h`. Heap, bin cell, history and clock are kept.
This file: the conversion functions and how they commute with the state updates. -/
namespace Flurry.Proto.BinW
open Flurry.Lin

def cN (n : NodeS) : Bin.NodeS := ⟨n.key, n.val, n.next, n.lock⟩

def cP (p : Pending) : Bin.Pending := ⟨p.key, p.op, p.inv⟩

def cPc : Pc → Bin.Pc
  | .idle => .idle
  | .rHead => .rHead
  | .rNode c => .rNode c
  | .wHead => .wHead
  | .wCas => .wCas
  | .wLock h => .wLock h
  | .wCheck h => .wCheck h
  | .wFind h _ _ => .wWrite h
  | .wStore h _ _ _ => .wWrite h
  | .wUnlock h r b => .wUnlock h r b

def cL (l : Local) : Bin.Local := ⟨cPc l.pc, l.call.map cP⟩

def proj (s : State) : Bin.State := ⟨s.heap.map cN, s.head, s.threads.map cL, s.hist, s.now⟩

def tick (s : State) : State := { s with now := s.now + 1 }

@[simp] theorem cN_key (n : NodeS) : (cN n).key = n.key := rfl
@[simp] theorem cN_val (n : NodeS) : (cN n).val = n.val := rfl
@[simp] theorem cN_next (n : NodeS) : (cN n).next = n.next := rfl
@[simp] theorem cN_lock (n : NodeS) : (cN n).lock = n.lock := rfl
@[simp] theorem cP_key (p : Pending) : (cP p).key = p.key := rfl
@[simp] theorem cP_op (p : Pending) : (cP p).op = p.op := rfl
@[simp] theorem cP_inv (p : Pending) : (cP p).inv = p.inv := rfl
@[simp] theorem cL_pc (l : Local) : (cL l).pc = cPc l.pc := rfl
@[simp] theorem cL_call (l : Local) : (cL l).call = l.call.map cP := rfl
@[simp] theorem proj_heap (s : State) : (proj s).heap = s.heap.map cN := rfl
@[simp] theorem proj_head (s : State) : (proj s).head = s.head := rfl
@[simp] theorem proj_threads (s : State) : (proj s).threads = s.threads.map cL := rfl
@[simp] theorem proj_hist (s : State) : (proj s).hist = s.hist := rfl
@[simp] theorem proj_now (s : State) : (proj s).now = s.now := rfl

theorem proj_thread {s : State} {t : Nat} {l : Local} (hl : s.threads[t]? = some l) :
    (proj s).threads[t]? = some (cL l) := by
  simp [hl]

theorem proj_node {s : State} {c : Nat} : (proj s).heap[c]? = (s.heap[c]?).map cN := by
  simp

theorem proj_setT (s : State) (t : Nat) (l : Local) : proj (setT s t l) = Bin.setT (proj s) t (cL l) := by
  simp [proj, setT, Bin.setT, List.map_set]

theorem proj_finish (s : State) (t : Nat) (p : Pending) (res : KRes) :
    proj (finish s t p res) = Bin.finish (proj s) t (cP p) res := by
  simp [proj, finish, setT, Bin.finish, Bin.setT, List.map_set, cL, cPc]

theorem proj_setNode (s : State) (i : Nat) (f : NodeS → NodeS) (f' : Bin.NodeS → Bin.NodeS)
    (hf : ∀ a, cN (f a) = f' (cN a)) : proj (setNode s i f) = Bin.setNode (proj s) i f' := by
  simp only [proj, setNode, Bin.setNode]
  rw [BinR.Base.map_modify cN f f' hf]

theorem proj_setNode_val (s : State) (i : Nat) (x : Nat × Nat) :
    proj (setNode s i (fun m => { m with val := x })) = Bin.setNode (proj s) i (fun m => { m with val := x }) :=
  proj_setNode s i _ _ (fun _ => rfl)

theorem proj_setNode_next (s : State) (i : Nat) (x : Option Nat) :
    proj (setNode s i (fun m => { m with next := x })) = Bin.setNode (proj s) i (fun m => { m with next := x }) :=
  proj_setNode s i _ _ (fun _ => rfl)

theorem getD_proj (s : State) (i : Nat) :
    (proj s).heap.getD i ⟨0, (0, 0), none, none⟩ = cN (s.heap.getD i ⟨0, (0, 0), none, none⟩) := by
  simp only [proj_heap, List.getD_eq_getElem?_getD, List.getElem?_map]
  cases s.heap[i]? <;> rfl

theorem chainFrom_proj (heap : List NodeS) : ∀ (fuel : Nat) (st : Option Nat),
    Bin.chainFrom (heap.map cN) fuel st = chainFrom heap fuel st
  | 0, _ => by simp [Bin.chainFrom, chainFrom]
  | _ + 1, none => by simp [Bin.chainFrom, chainFrom]
  | fuel + 1, some i => by
    simp only [Bin.chainFrom, chainFrom, List.getElem?_map]
    cases heap[i]? with
    | none => rfl
    | some n => simp [chainFrom_proj heap fuel]

theorem chain_proj (s : State) : Bin.chain (proj s) = chain s := by
  simp [Bin.chain, chain, chainFrom_proj]

theorem absOf_proj (s : State) (k : Nat) : Bin.absOf (proj s) k = absOf s k := by
  unfold Bin.absOf absOf
  rw [chain_proj]
  simp only [getD_proj, cN_key, cN_val]
  cases List.find? (fun i => (s.heap.getD i ⟨0, (0, 0), none, none⟩).key == k) (chain s) <;> rfl

theorem callsOn_proj (s : State) (k : Nat) : Bin.callsOn (proj s) k = callsOn s k := rfl

theorem cPc_idle {pc : Pc} : cPc pc = .idle ↔ pc = .idle := by
  cases pc <;> simp [cPc]

theorem quiescent_proj {s : State} : Bin.quiescent (proj s) ↔ quiescent s := by
  simp [Bin.quiescent, quiescent, cPc_idle]

end Flurry.Proto.BinW
