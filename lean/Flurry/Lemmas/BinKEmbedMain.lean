import Flurry.Lemmas.BinKEmbedInv
import Flurry.Lemmas.BinGNPLin
import Flurry.Lemmas.BinGNPTwo
import Flurry.Lemmas.BinKGhost
/-! # BinGNP's invariants on the image, carried along BinK's runs

What establishes what. BinK has no per-transition proof of its structural invariant or of a ghost invariant. Instead:
* `BinGNP.Bundle u` (`Lemmas/BinGNPBundle.lean`): what BinGNP proves of a state of BinGN transition by transition.
* `bundle_step`: a transition of BinK (`BinK.StepK`) between the images: by `sim` it is one transition of BinGN, or (a
  call starts, a treeify starts) two, after which BinGN's clock is one tick ahead and is set back (`Bundle.two`,
  `Lemmas/BinGNPTwo.lean`). It gives `Bundle (emb s')` and BinGNP's ghost invariant at `emb s'` (`BinGNP.ginv_step` of
  `Lemmas/BinGNPLin.lean`; the two double transitions in one ghost step each, `ginv_fused`: between the two images only
  the acting thread and the clock differ, the thread was idle and is next seen at `rCell` / `wCell` / `kCell`, where it is
  not past a linearization point and knows nothing yet, which is a case of `BinGNP.ginv_thread_only`).
* `XExtra s` (`Lemmas/BinKEmbedInv.lean`): the two clauses of BinK's `Inv` that the image does not show; they are the one
  thing proved over `BinK.StepK` directly (`XExtra.stepK`).
* `reachable_bundle`: `Bundle (emb s) ∧ XExtra s` in every reachable state of BinK. BinK's `Inv s` is then read off clause
  by clause (`inv_of_emb`); `Lemmas/BinKLin.lean` states it (`BinK.reachable_inv`).
* `reachable_ginv_emb`: BinGNP's ghost invariant holds of the image of every reachable state (from `BinGNP.init_ginv` of
  `Lemmas/BinGNPInitG.lean`). The ghost invariant stays on the image: linearizability of BinK's histories is read off it
  (`linearizable`, with `callsOnExt_emb`, `absOf_emb`; `Props/C01BinK.lean` states it as `binK_linearizable`). Nothing
  establishes the ghost invariant `BinK.GInv` of `Lemmas/BinKGhost.lean` of reachable states; what follows from it is
  `GInv.linearizable` of `Lemmas/BinKLin.lean`.
* `conversion_abs`: the stores of the two conversions change no abstract state, by BinGNP's facts about the same
  stores between the images. -/
namespace Flurry.Proto.BinKE
open Flurry.Lin
open Flurry.Proto.BinGNP (cellAt liveId Used GInv Inv QuietC RdOK resOfPc)

/-- an idle thread is next seen about to load the cell, with the call it has started or as a treeifying thread: heap,
`TreeBin`s, tables and pointer are as before, and the new program counter knows nothing yet -/
theorem ginv_fused {u u' : BinGN.State} {k : Nat} {A : Nat → KSt} {pt : Nat → Nat} {t : Nat} {l l' : BinGN.Local}
    (g : GInv k u A pt) (I' : Inv u) (I'' : Inv u') (hl : u.threads[t]? = some l) (hpc : l.pc = .idle)
    (hpc' : (∃ lo, l'.pc = .rCell lo u.cur) ∨ l'.pc = .wCell u.cur ∨ l'.pc = .kCell 0 0)
    (hthr : u'.threads = u.threads.set t l')
    (hnow : u'.now = u.now + 1) (hhist : u'.hist = u.hist) (hheap : u'.heap = u.heap) (htb : u'.tbins = u.tbins)
    (htabs : u'.tabs = u.tabs) (hcur : u'.cur = u.cur) : ∃ A' pt', GInv k u' A' pt' := by
  obtain ⟨f1, f2, f3, f4, f5, f6⟩ : BinGNP.pend u' l'.pc = [] ∧ BinGNP.xPc l'.pc = false ∧ BinGNP.xIdx l'.pc = none ∧
      (∀ tab k h b, l'.pc ≠ .kStore tab k h b) ∧ resOfPc l'.pc = none ∧ ∀ (A : Nat → KSt) (inv : Nat), RdOK A k inv u' l'.pc := by
    rcases hpc' with ⟨lo, h⟩ | h | h <;> rw [h] <;> exact ⟨rfl, rfl, rfl, nofun, rfl, fun _ _ => trivial⟩
  have hcells : ∀ id, cellAt u' id = cellAt u id := fun id => by unfold cellAt BinGN.cellAt; rw [htabs]
  have hlid : ∀ k, liveId u' k = liveId u k := fun k => by unfold liveId; rw [hcells, hcur]
  have q := QuietC.of_same hcells hheap htb
  exact BinGNP.ginv_thread_only g I' I'' hl hthr hnow hhist hheap htb hcells hlid
    (q.used_sub I'.heap hcur hthr hl (by rw [hpc]; exact f1) (by rw [hpc]; exact f2) (by rw [hpc]; exact f3)
      (fun tab k h b => by rw [hpc]; exact ⟨fun e => absurd e (f4 tab k h b), nofun⟩))
    (Or.inr (by rw [hpc]; rfl)) (Or.inr f5) (fun _ _ _ => f6 _ _)

theorem bundle_step {s s' : BinK.State} {t : Nat} {l : BinK.Local} (j : BinGNP.Bundle (emb s))
    (hl : s.threads[t]? = some l) (h : BinK.StepK s t l s') :
    BinGNP.Bundle (emb s') ∧
      ∀ {k : Nat} {A : Nat → KSt} {pt : Nat → Nat}, GInv k (emb s) A pt → ∃ A' pt', GInv k (emb s') A' pt' := by
  have hl' := emb_get hl
  have hthr : ∀ l' : BinK.Local, (s.threads.set t l').map embL = (emb s).threads.set t (embL l') := fun _ => List.map_set
  have epc : l.pc = .idle → (embL l).pc = .idle := fun e => by show embPc l.pc = _; rw [e]; rfl
  rcases sim h with h1 | ⟨k', op, lo, hpc, rfl⟩ | ⟨hpc, rfl⟩
  · have j' := j.stepN hl' h1
    exact ⟨j', fun g => BinGNP.ginv_step g j.inv (BinGNP.pubRead_of j.inv j.fresh) (BinGNP.planSep_of j.inv j.fresh) hl' h1
      j'.inv.rsz.shape⟩
  · obtain ⟨mid, u, s1, hmid, s2, rfl⟩ := stepN_invoke_emb hl hpc k' op lo
    have j' := j.two hl' s1 hmid s2 (hthr _) (fun p hp => by cases hp; exact Nat.le_refl _) rfl (Nat.le_succ _)
    exact ⟨j', fun g => ginv_fused g j.inv j'.inv hl' (epc hpc)
      (by cases BinK.isReader op; exact .inr (.inl rfl); exact .inl ⟨lo, rfl⟩) (hthr _) rfl rfl rfl rfl rfl rfl⟩
  · have hc := BinGNP.call_none_of_idle j.inv.thr hl' (epc hpc)
    obtain ⟨mid, u, s1, hmid, s2, rfl⟩ := stepN_maint_emb hl hpc hc
    have j' := j.two hl' s1 hmid s2 (hthr _) (fun p hp => nomatch hc.symm.trans hp) rfl (Nat.le_succ _)
    exact ⟨j', fun g => ginv_fused g j.inv j'.inv hl' (epc hpc) (.inr (.inr rfl)) (hthr _) rfl rfl rfl rfl rfl rfl⟩

theorem reachable_bundle {n : Nat} {s : BinK.State} (hr : BinK.Reachable n s) : BinGNP.Bundle (emb s) ∧ XExtra s := by
  induction hr with
  | init =>
    exact ⟨emb_init n ▸ BinGNP.Bundle.init n, fun b hb _ => absurd hb (Nat.not_lt_zero _), fun t l h => by
      rw [BinK.init_threads h]; trivial⟩
  | @step s s' t inv lo mt sm _ hs ih =>
    obtain ⟨j, X⟩ := ih
    cases hl : s.threads[t]? with
    | none => unfold BinK.step BinK.stepG at hs; rw [hl] at hs; cases hs
    | some l =>
      have hK := BinK.step_stepK hl hs
      exact ⟨(bundle_step j hl hK).1, X.stepK (inv_of_emb j.inv X.dead X.built) hl hK⟩

theorem resOfPc_emb (pc : BinK.Pc) : BinGNP.resOfPc (embPc pc) = BinK.resOfPc pc := by
  cases pc <;> first | rfl | (rename_i r; cases r <;> rfl)

theorem extCalls_emb (s : BinK.State) (k : Nat) : BinGNP.extCalls (emb s) k = BinK.extCalls s k := by
  unfold BinGNP.extCalls BinK.extCalls
  rw [show (emb s).threads = s.threads.map embL from rfl, List.length_map]
  refine congrArg (fun f => List.filterMap f (List.range s.threads.length)) ?_
  funext t
  rw [List.getElem?_map]
  cases s.threads[t]? with
  | none => rfl
  | some l =>
    show BinGNP.extOf k s.now t (embL l) = BinK.extOf k s.now t l
    unfold BinGNP.extOf BinK.extOf
    rw [show (embL l).pc = embPc l.pc from rfl, resOfPc_emb]; rfl

theorem callsOnExt_emb (s : BinK.State) (k : Nat) : BinGNP.callsOnExt (emb s) k = BinK.callsOnExt s k := by
  unfold BinGNP.callsOnExt BinK.callsOnExt
  rw [extCalls_emb]; rfl

theorem quiescent_emb {s : BinK.State} (hq : BinK.quiescent s) : BinGN.quiescent (emb s) := fun l hl => by
  obtain ⟨l0, h0, rfl⟩ := List.mem_map.1 hl
  show embPc l0.pc = _; rw [hq l0 h0]; rfl

theorem reachable_ginv_emb {n : Nat} {s : BinK.State} (hr : BinK.Reachable n s) (k : Nat) :
    ∃ A pt, GInv k (emb s) A pt := by
  induction hr with
  | init => exact ⟨_, _, emb_init n ▸ BinGNP.init_ginv n k⟩
  | @step s s' t inv lo mt sm hr hs ih =>
    obtain ⟨A, pt, g⟩ := ih
    cases hl : s.threads[t]? with
    | none => unfold BinK.step BinK.stepG at hs; rw [hl] at hs; cases hs
    | some l => exact (bundle_step (reachable_bundle hr).1 hl (BinK.step_stepK hl hs)).2 g

theorem linearizable {n : Nat} {s : BinK.State} (hr : BinK.Reachable n s) (k : Nat) :
    Lin.Linearizable (BinK.callsOnExt s k) none (BinK.absOf s k) := by
  obtain ⟨A, pt, g⟩ := reachable_ginv_emb hr k
  have := g.linearizable (reachable_bundle hr).1.inv.thr
  rw [callsOnExt_emb, absOf_emb] at this
  exact this

theorem conversion_abs {n : Nat} {s s' : BinK.State} (hr : BinK.Reachable n s) {t : Nat}
    {inv : Option (Nat × KOp)} {lo mt sm : Bool} {l : BinK.Local}
    (hl : s.threads[t]? = some l)
    (hpc : (∃ h b, l.pc = .kStore h b) ∨ (∃ b res, l.pc = .tUntreeify b res))
    (hs : BinK.step s t inv lo mt sm = some s') (k : Nat) : BinK.absOf s' k = BinK.absOf s k := by
  have j := (reachable_bundle hr).1
  have hK := BinK.step_stepK hl hs
  have j' := (bundle_step j hl hK).1
  rw [← absOf_emb, ← absOf_emb]
  obtain ⟨pc, call⟩ := l
  simp only at hpc
  -- the treeifying thread has no call: `Bundle.nocall_abs`. The untreeifying thread has one, so BinGNP's facts about
  -- its store (`untreeify_facts`) are taken between the images by hand; every other constructor of `StepK` has another pc
  rcases hpc with ⟨h, b, rfl⟩ | ⟨b, res, rfl⟩
  · rcases sim hK with h1 | ⟨_, _, _, hi, -⟩ | ⟨hi, -⟩
    · exact j.nocall_abs (emb_get hl) h1 ((j.inv.thr.callOK t _ (emb_get hl)).2 rfl) k
    · cases hi
    · cases hi
  · cases hK
    case untreeify p b' res' hp hpc' =>
      cases hpc'
      have e : emb (BinK.setT (BinK.untreeifyOf (BinK.tick s) b) t ⟨.tUnlockM b res false, call⟩) =
          BinGN.setT (BinGNP.untreeifyOf (BinGNP.tick (emb s)) 0 p.key b) t ⟨.tUnlockM 0 b res false, call⟩ := by
        rw [emb_setT, emb_untreeifyOf (BinK.tick s) b p.key]; rfl
      have := (BinGNP.untreeify_facts (s := emb s) (t := t) (l := embL ⟨.tUntreeify b res, call⟩) (p := p) j.inv
        (emb_get hl) hp rfl (Eq.mp (congrArg BinGNP.XShape e) j'.inv.rsz.shape)).2 k
      exact (congrArg (fun u => BinGN.absOf u k = BinGN.absOf (emb s) k) e).mpr this
    all_goals first | contradiction | (rename_i hm; cases hm)

end Flurry.Proto.BinKE
