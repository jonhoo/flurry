import Flurry.Lemmas.BinGInv
import Flurry.Lemmas.BinGNPInvBasic
import Flurry.Lemmas.BinGStep
import Flurry.Lemmas.BinGNPStep
/-! # Proto/BinG is Proto/BinGN restricted to generations 0 and 1

`emb : BinG.State → BinGN.State` reads the old table as generation 0 (`cell0` = cell `(0, 0)`) and the new table as
generation 1 (`lowCell` = `(1, 0)`, `highCell` = `(1, 1)`); generation 1 exists in the image from the start of the
resize on, the pointer is `0` / `1`, and `resizing` of the image ends with the commit (BinG's flag stays set, so that
there is one resize). Heap, `TreeBin` table, history and clock are unchanged; program counters go through `embPc`
(`tab ↦ 0 / 1`, the resizer works on cell index `0`; BinG's `xCommit` is BinGN's `xNext` with every cell forwarded, so
that the resizer's transitions after a cell is done correspond one to one and the commit is `xNext → xCommit → idle`).

What is here: the accessors on the image (`cellAt_emb`, `cellOf_emb`, `chainC_emb`, `liveCell_emb`, the functions of
the program counter) and `emb` through the builders of successor states (`emb_setT`, `emb_setCell`, `ysplitOf_emb`, …).
`Lemmas/BinGEmbedSim` has the transitions of BinG's normal form as transitions of BinGN's between the images (the start
of the resize and the commit are TWO transitions of BinGN each, which allocates the generation before it picks a cell
and checks that all cells are forwarded before it commits, and BinGN's clock is then one tick ahead),
`Lemmas/BinGEmbedInv` reads BinG's invariant off BinGNP's on the image
(only this direction is used: the image of a state that satisfies BinG's `HInv` / `XInv` need not satisfy BinGNP's,
which say more about the threads), `Lemmas/BinGEmbedGhost` the histories, and `Lemmas/BinGEmbedMain` carries BinGNP's
invariants on the image along BinG's runs. -/
namespace Flurry.Proto.BinGE
open Flurry.Lin
open Flurry.Proto.BinG (Tab Cid)

def tabIx : Tab → Nat
  | .old => 0
  | .new => 1

/-- the program counter of BinGN at the same place of the same operation: the old table is generation `0`, the new one
generation `1`, the resizer works on cell index `0`; `xCommit` is `xNext` (with every cell forwarded) -/
def embPc : BinG.Pc → BinGN.Pc
  | .idle => .idle
  | .rTable lo => .rTable lo
  | .rCell lo tab => .rCell lo (tabIx tab)
  | .rNode c => .rNode c
  | .rFirst b => .rFirst b
  | .rState b c => .rState b c
  | .rLin b c => .rLin b c
  | .rCas b c r => .rCas b c r
  | .rTree b => .rTree b
  | .rRelease b hit => .rRelease b hit
  | .rVal i => .rVal i
  | .lFirst b => .lFirst b
  | .lNode c => .lNode c
  | .wTable => .wTable
  | .wCell tab => .wCell (tabIx tab)
  | .wCas tab => .wCas (tabIx tab)
  | .wLock tab h => .wLock (tabIx tab) h
  | .wCheck tab h => .wCheck (tabIx tab) h
  | .wFind tab h pred cur => .wFind (tabIx tab) h pred cur
  | .wStore tab h pred hit hnext => .wStore (tabIx tab) h pred hit hnext
  | .wUnlock tab h res retry => .wUnlock (tabIx tab) h res retry
  | .tMutex tab b => .tMutex (tabIx tab) b
  | .tCheck tab b => .tCheck (tabIx tab) b
  | .tFind tab b => .tFind (tabIx tab) b
  | .tVal tab b i v res => .tVal (tabIx tab) b i v res
  | .lrTry tab b k res => .lrTry (tabIx tab) b k res
  | .lrLoop tab b k res => .lrLoop (tabIx tab) b k res
  | .tPrependLocked tab b => .tPrependLocked (tabIx tab) b
  | .tTreeLinkLocked tab b x => .tTreeLinkLocked (tabIx tab) b x
  | .tUnlinkLocked tab b i res => .tUnlinkLocked (tabIx tab) b i res
  | .tRestructure tab b i res => .tRestructure (tabIx tab) b i res
  | .tUnlockRoot tab b res => .tUnlockRoot (tabIx tab) b res
  | .tUntreeify tab b res => .tUntreeify (tabIx tab) b res
  | .tUnlockM tab b res retry => .tUnlockM (tabIx tab) b res retry
  | .kTable k => .kTable k
  | .kCell tab k => .kCell (tabIx tab) k
  | .kLock tab k h => .kLock (tabIx tab) k h
  | .kCheck tab k h => .kCheck (tabIx tab) k h
  | .kBuild tab k h => .kBuild (tabIx tab) k h
  | .kStore tab k h b => .kStore (tabIx tab) k h b
  | .kUnlock h => .kUnlock h
  | .xCell => .xCell 0
  | .xCasMoved => .xCasMoved 0
  | .xLock h => .xLock 0 h
  | .xCheck h => .xCheck 0 h
  | .xBuild h => .xBuild 0 h
  | .yMutex b => .yMutex 0 b
  | .yCheck b => .yCheck 0 b
  | .yBuild b => .yBuild 0 b
  | .xStoreLow unl lo hi => .xStoreLow 0 unl lo hi
  | .xStoreHigh unl hi => .xStoreHigh 0 unl hi
  | .xStoreMoved unl => .xStoreMoved 0 unl
  | .xUnlock unl => .xUnlock unl
  | .xCommit => .xNext

def embL (l : BinG.Local) : BinGN.Local := { pc := embPc l.pc, call := l.call }

/-- generation `1` is there from the start of the resize on, and `resizing` of the image ends with the commit, as in
BinGN; everything but cells, pointer, flag and program counters is unchanged -/
def emb (s : BinG.State) : BinGN.State :=
  { heap := s.heap, tbins := s.tbins,
    tabs := if s.resizing then [[s.cell0], [s.lowCell, s.highCell]] else [[s.cell0]],
    cur := tabIx s.cur,
    resizing := s.resizing && s.cur == .old,
    threads := s.threads.map embL, hist := s.hist, now := s.now }

def embId : Cid → BinGNP.Cid
  | .c0 => (0, 0)
  | .lo => (1, 0)
  | .hi => (1, 1)

/-- before the resize the image has no generation 1, whose cells then read `empty`: so must BinG's new cells -/
def NewOK (s : BinG.State) : Prop := s.resizing = false → s.lowCell = .empty ∧ s.highCell = .empty

theorem emb_cur_old {s : BinG.State} (hc : s.cur = .old) : (emb s).cur = 0 := by show tabIx s.cur = 0; rw [hc]; rfl

theorem emb_cur_new {s : BinG.State} (hc : s.cur = .new) : (emb s).cur = 1 := by show tabIx s.cur = 1; rw [hc]; rfl

theorem cellAt_emb {s : BinG.State} (hn : NewOK s) (id : Cid) :
    BinGNP.cellAt (emb s) (embId id) = BinG.cellAt s id := by
  unfold BinGNP.cellAt BinGN.cellAt emb
  cases hr : s.resizing with
  | true => cases id <;> rfl
  | false =>
    obtain ⟨h1, h2⟩ := hn hr
    cases id
    · rfl
    · exact h1.symm
    · exact h2.symm

theorem idOf_emb (tab : Tab) (k : Nat) : BinGNP.idOf (tabIx tab) k = embId (BinG.idOf tab k) := by
  cases tab with
  | old => unfold BinGNP.idOf tabIx BinG.idOf embId; simp [Nat.mod_one]
  | new =>
    unfold BinGNP.idOf tabIx BinG.idOf BinG.hiBit
    rcases Nat.mod_two_eq_zero_or_one k with h | h <;> simp [h, embId]

theorem cellOf_emb {s : BinG.State} (hn : NewOK s) (tab : Tab) (k : Nat) :
    BinGN.cellOf (emb s) (tabIx tab) k = BinG.cellOf s tab k := by
  rw [BinGNP.cellOf_eq, BinG.cellOf_eq, idOf_emb, cellAt_emb hn]

theorem bitAt_zero (k : Nat) : BinGN.bitAt 0 k = BinG.hiBit k := by
  unfold BinGN.bitAt BinG.hiBit; simp

theorem startOf_eq (tb : List BinK.TBin) (c : BinG.Cell) : BinGNP.startOf tb c = BinG.startOf tb c := by
  cases c <;> rfl

theorem chainC_emb (s : BinG.State) (c : BinG.Cell) : BinGNP.chainC (emb s) c = BinG.chainC s c := by
  unfold BinGNP.chainC BinG.chainC; rw [startOf_eq]; rfl

theorem ownerOf_eq (c : BinG.Cell) : BinGNP.ownerOf c = BinG.ownerOf c := by cases c <;> rfl

theorem emb_threads_get {s : BinG.State} {t : Nat} {l : BinGN.Local} (h : (emb s).threads[t]? = some l) :
    ∃ l0, s.threads[t]? = some l0 ∧ l = embL l0 := by
  have : (emb s).threads = s.threads.map embL := rfl
  rw [this, List.getElem?_map] at h
  cases h0 : s.threads[t]? with
  | none => rw [h0] at h; cases h
  | some l0 => rw [h0] at h; exact ⟨l0, rfl, (Option.some.inj h).symm⟩

theorem emb_get {s : BinG.State} {t : Nat} {l : BinG.Local} (hl : s.threads[t]? = some l) :
    (emb s).threads[t]? = some (embL l) := by
  show (s.threads.map embL)[t]? = _; rw [List.getElem?_map, hl]; rfl

theorem new_ne_moved {s : BinG.State} (hnm : s.lowCell ≠ .moved ∧ s.highCell ≠ .moved) (k : Nat) :
    BinG.cellOf s .new k ≠ .moved := by
  rw [BinG.cellOf_eq]; unfold BinG.idOf; dsimp only
  split
  · exact hnm.2
  · exact hnm.1

/-- a lookup that has reached generation 1 ends there: the new cells are never forwarded -/
theorem liveFrom_new {s : BinG.State} (hnm : s.lowCell ≠ .moved ∧ s.highCell ≠ .moved) (hn : NewOK s) (k fuel : Nat) :
    BinGN.liveFrom (emb s) k fuel 1 = BinG.cellOf s .new k := by
  have c1 : BinGN.cellOf (emb s) 1 k = BinG.cellOf s .new k := cellOf_emb hn .new k
  cases fuel with
  | zero => exact c1
  | succ n =>
    show (match BinGN.cellOf (emb s) 1 k with | .moved => _ | c => c) = _
    rw [c1]
    split
    · rename_i h; exact absurd h (new_ne_moved hnm k)
    · rfl

/-- the live cell: the image has at least generation 0, so the fuel of `liveFrom` is positive; from generation 0 the
lookup ends in `cell0` or, behind the marker, in generation 1 (`liveFrom_new`); the pointer moves only behind the marker -/
theorem liveCell_emb {s : BinG.State} (hnm : s.lowCell ≠ .moved ∧ s.highCell ≠ .moved)
    (hcm : s.cur = .new → s.cell0 = .moved) (hn : NewOK s) (k : Nat) : BinGN.liveCell (emb s) k = BinG.liveCell s k := by
  obtain ⟨n, hlen⟩ : ∃ n, (emb s).tabs.length = n + 1 := by
    show ∃ n, (if s.resizing then _ else _ : List (List BinG.Cell)).length = n + 1
    cases s.resizing <;> exact ⟨_, rfl⟩
  have c0 : BinGN.cellOf (emb s) 0 k = s.cell0 := cellOf_emb hn .old k
  unfold BinGN.liveCell BinG.liveCell
  rw [hlen]
  cases hc : s.cur with
  | new => rw [emb_cur_new hc, liveFrom_new hnm hn, if_pos (by simp [hcm hc])]
  | old =>
    rw [emb_cur_old hc]
    show (match BinGN.cellOf (emb s) 0 k with | .moved => BinGN.liveFrom (emb s) k n 1 | c => c) = _
    rw [c0]
    by_cases hmv : s.cell0 = .moved
    · rw [hmv, if_pos (by rfl)]; exact liveFrom_new hnm hn k n
    · rw [if_neg (by simpa using hmv), if_neg (by simp)]
      split
      · rename_i h; exact absurd h hmv
      · rfl

theorem holdsLock_emb (pc : BinG.Pc) : BinGNP.holdsLock (embPc pc) = BinG.holdsLock pc := by cases pc <;> rfl
theorem holdsMutex_emb (pc : BinG.Pc) : BinGNP.holdsMutex (embPc pc) = BinG.holdsMutex pc := by cases pc <;> rfl
theorem validL_emb (pc : BinG.Pc) : BinGNP.validL (embPc pc) = BinG.validL pc := by cases pc <;> rfl
theorem validT_emb (pc : BinG.Pc) : BinGNP.validT (embPc pc) = BinG.validT pc := by cases pc <;> rfl
theorem wr_emb (pc : BinG.Pc) : BinGNP.wr (embPc pc) = BinG.wr pc := by cases pc <;> rfl
theorem isLoop_emb (pc : BinG.Pc) : BinGNP.isLoop (embPc pc) = BinG.isLoop pc := by cases pc <;> rfl
theorem holdsRead_emb (pc : BinG.Pc) : BinGNP.holdsRead (embPc pc) = BinG.holdsRead pc := by cases pc <;> rfl
theorem binRef_emb (pc : BinG.Pc) : BinGNP.binRef (embPc pc) = BinG.binRef pc := by
  cases pc with
  | xStoreLow unl lo hi => cases unl <;> rfl
  | xStoreHigh unl hi => cases unl <;> rfl
  | xStoreMoved unl => cases unl <;> rfl
  | xUnlock unl => cases unl <;> rfl
  | _ => rfl
theorem xPc_emb (pc : BinG.Pc) : BinGNP.xPc (embPc pc) = BinG.xPc pc := by cases pc <;> rfl
theorem tabOf_emb (pc : BinG.Pc) : BinGNP.tabOf (embPc pc) = (BinG.tabOf pc).map tabIx := by cases pc <;> rfl
theorem keyOf_emb (l : BinG.Local) : BinGNP.keyOf (embL l) = BinG.keyOf l := by
  obtain ⟨pc, call⟩ := l
  cases pc <;> cases call <;> rfl

theorem emb_setT (s : BinG.State) (t : Nat) (l : BinG.Local) :
    emb (BinG.setT s t l) = BinGN.setT (emb s) t (embL l) := by
  unfold emb BinG.setT BinGN.setT
  simp only [List.map_set]

theorem emb_qst (s : BinG.State) (hp : List BinK.NodeS) (tb : List BinK.TBin) :
    emb (BinG.qst s hp tb) = BinGNP.qst (emb s) hp tb := rfl

/-- a store into the cell of a key: in the new table only once the resize has allocated it -/
theorem emb_setCell {s : BinG.State} (tab : Tab) (k : Nat) (c : BinG.Cell) (h : tab = .new → s.resizing = true) :
    emb (BinG.setCell s tab k c) = BinGN.setCell (emb s) (tabIx tab) k c := by
  cases tab with
  | old =>
    unfold BinG.setCell BinGN.setCell BinGN.putCell emb tabIx
    cases s.resizing <;> simp [Nat.mod_one]
  | new =>
    have hr := h rfl
    unfold BinG.setCell BinGN.setCell BinGN.putCell emb tabIx BinG.hiBit
    rcases Nat.mod_two_eq_zero_or_one k with hk | hk <;> simp [hr, hk]

theorem splitSide_emb (s : BinG.State) (b : Nat) (c : List Nat) (sm ru : Bool) :
    BinGN.splitSide (emb s) b c sm ru = (emb (BinG.splitSide s b c sm ru).1, (BinG.splitSide s b c sm ru).2) := by
  unfold BinGN.splitSide BinG.splitSide
  by_cases h1 : c.isEmpty = true
  · rw [if_pos h1, if_pos h1]
  · rw [if_neg h1, if_neg h1]
    cases sm with
    | true => rfl
    | false =>
      cases ru with
      | true => rfl
      | false => rfl

theorem lowOf_emb {s : BinG.State} (h : s.cur = .old) (b : Nat) : BinGNP.lowOf (emb s) b = BinG.lowOf s b := by
  unfold BinGNP.lowOf BinG.lowOf
  have := emb_cur_old h
  rw [this]
  have e : (fun i => !BinGN.bitAt 0 ((emb s).heap.getD i BinK.dflt).key) = fun i => !BinG.hiBit (s.heap.getD i BinK.dflt).key := by
    funext i; rw [bitAt_zero]; rfl
  rw [e]; rfl

theorem highOf_emb {s : BinG.State} (h : s.cur = .old) (b : Nat) : BinGNP.highOf (emb s) b = BinG.highOf s b := by
  unfold BinGNP.highOf BinG.highOf
  have := emb_cur_old h
  rw [this]
  have e : (fun i => BinGN.bitAt 0 ((emb s).heap.getD i BinK.dflt).key) = fun i => BinG.hiBit (s.heap.getD i BinK.dflt).key := by
    funext i; rw [bitAt_zero]; rfl
  rw [e]; rfl

theorem ysplitOf_emb {s : BinG.State} (h : s.cur = .old) (b : Nat) (sm sm2 : Bool) :
    BinGNP.ysplitOf (emb s) b sm sm2 =
      (emb (BinG.ysplitOf s b sm sm2).1, (BinG.ysplitOf s b sm sm2).2.1, (BinG.ysplitOf s b sm sm2).2.2) := by
  unfold BinGNP.ysplitOf BinG.ysplitOf
  simp only [lowOf_emb h, highOf_emb h, splitSide_emb]

theorem emb_init (n : Nat) : emb (BinG.init n) = BinGN.init n := by
  unfold emb BinG.init BinGN.init
  simp only [List.map_replicate]
  rfl

end Flurry.Proto.BinGE
