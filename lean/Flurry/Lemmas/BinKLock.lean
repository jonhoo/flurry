import Flurry.Lemmas.BinKInv
import Flurry.Lemmas.LockWord
/-! # Proto/BinK: two statements about the lock invariant `LInv` (C01, a bin that changes its kind)

`RwPart` is the part of `LInv` about the read-write locks of the `TreeBin`s, `LInv.rwPart` reads it off; `LInv.mxOwned` is
the mutex part as an `Owned` of `Lemmas/LockWord.lean`. `others_not_valid`: while a thread is past its re-check of the
cell, or the cell is empty, no other thread is past its re-check.

That a step of BinK preserves `LInv` is not proved from these: `Inv` of a reachable state is read off the invariant of
`Proto/BinGN` on the image of the state (`Lemmas/BinKEmbedInv.lean`, `Lemmas/BinKLin.lean`). -/
namespace Flurry.Proto.BinK
open Flurry.Lin

def RwPart (s : State) : Prop :=
  (∀ b, s.cell = .tree b → (binAt s.tbins b).mutex = none →
    (binAt s.tbins b).writer = false ∧ (binAt s.tbins b).waiter = false) ∧
  (∀ (b t : Nat) (l : Local), s.cell = .tree b → s.threads[t]? = some l →
    (binAt s.tbins b).mutex = some t →
    (binAt s.tbins b).writer = wr l.pc ∧ ((binAt s.tbins b).waiter = true → isLoop l.pc = true)) ∧
  (∀ b, b < s.tbins.length →
    (binAt s.tbins b).readers = cnt (fun pc => holdsRead pc == some b) s.threads) ∧
  (∀ b, (binAt s.tbins b).writer = true → (binAt s.tbins b).readers = 0) ∧
  (∀ b, b < s.tbins.length → s.cell ≠ .tree b →
    (binAt s.tbins b).writer = true ∨ ∃ (t : Nat) (l : Local) (h : Nat), s.threads[t]? = some l ∧ l.pc = .kStore h b) ∧
  (∀ (t : Nat) (l : Local) (b : Nat), s.threads[t]? = some l → binRef l.pc = some b →
    b < s.tbins.length ∧ ∀ (t' : Nat) (l' : Local) (h : Nat), s.threads[t']? = some l' → l'.pc ≠ .kStore h b)

theorem LInv.mxOwned {s : State} (L : LInv s) :
    Flurry.Proto.LockWord.Owned (fun l : Local => holdsMutex l.pc) s.threads (fun b => (binAt s.tbins b).mutex) :=
  ⟨L.mx, L.mxValid⟩

theorem LInv.rwPart {s : State} (L : LInv s) : RwPart s :=
  ⟨L.bitsNone, L.bitsSome, L.rd, L.wrd, L.dead, L.refOK⟩

/-- the cell changes only in a step of a validated thread or when it is empty; then no other thread
is validated -/
theorem others_not_valid {s : State} {t : Nat} {l : Local} (L : LInv s) (hl : s.threads[t]? = some l)
    (hv : validated l.pc = true ∨ s.cell = .empty) {t1 : Nat} {l1 : Local} (hne : t1 ≠ t)
    (hl1 : s.threads[t1]? = some l1) : validL l1.pc = none ∧ validT l1.pc = none := by
  rcases hv with hv | hv
  · cases h1 : validated l1.pc with
    | true => exact absurd (L.valid_unique hl1 hl h1 hv) hne
    | false =>
      unfold validated at h1
      cases h2 : validL l1.pc <;> cases h3 : validT l1.pc <;> simp [h2, h3] at h1 ⊢
  · constructor
    · cases h2 : validL l1.pc with
      | none => rfl
      | some a => have := L.vL t1 l1 a hl1 h2; rw [hv] at this; cases this
    · cases h2 : validT l1.pc with
      | none => rfl
      | some a => have := L.vT t1 l1 a hl1 h2; rw [hv] at this; cases this

end Flurry.Proto.BinK
