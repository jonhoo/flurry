import Flurry.Proto.BinGN
import Flurry.Lemmas.LinSearch
/-! # Proto/BinGN: the model exercised by execution (random schedule explorer) and kernel-checked runs

* `explore`: a seeded random scheduler over `step` / `stepNoCheck` (any number of threads, calls on a few
  keys with different low bits, treeify, resizes whenever none is running, the resizing thread's cell
  order at random, both `small` decisions at random, iterators, optionally a *sleeper*: thread 0 is frozen
  a random number of steps after it loaded the table pointer and only woken when `cur` has reached a given
  generation — so it sits in a table / inside a `TreeBin` that is two or three generations old), then a
  drain to quiescence; every quiescent per-key history is decided by the complete procedure `Lin.search`
  against `absOf`. Coverage: every `Pc` constructor, the per-side outcomes of a tree-bin transfer per
  generation, a `TreeBin` re-used by one resize and re-used AGAIN by the next, readers / writers inside
  a `TreeBin` while the table pointer is two generations ahead.
* kernel-checked runs (`decide`): see the end of the file. -/
namespace Flurry.Proto.BinGN
open Flurry.Lin

structure Act where
  t : Nat
  inv : Option (Nat × KOp) := none
  lo : Bool := false
  maint : Option Nat := none
  rz : Bool := false
  sm : Bool := false
  sm2 : Bool := false
  pick : Nat := 0
deriving Repr, DecidableEq

abbrev Sched := List Act

abbrev StepFn := State → Nat → Option (Nat × KOp) → Bool → Option Nat → Bool → Bool → Bool → Nat → Option State

def act (f : StepFn) (s : State) (a : Act) : Option State := f s a.t a.inv a.lo a.maint a.rz a.sm a.sm2 a.pick

/-- run a schedule (`none` if some step is not enabled) -/
def run (f : StepFn) : State → Sched → Option State
  | s, [] => some s
  | s, a :: rest =>
    match act f s a with
    | none => none
    | some s' => run f s' rest

theorem run_reachable {n : Nat} : ∀ (sc : Sched) {s s' : State}, Reachable n s → run step s sc = some s' →
    Reachable n s'
  | [], s, s', hr, h => by simp only [run, Option.some.injEq] at h; exact h ▸ hr
  | a :: rest, s, s', hr, h => by
    simp only [run] at h
    cases hs : act step s a with
    | none => rw [hs] at h; cases h
    | some s1 => rw [hs] at h; exact run_reachable rest (.step a.t a.inv a.lo a.maint a.rz a.sm a.sm2 a.pick hr hs) h

theorem run_reachableNoCheck {n : Nat} : ∀ (sc : Sched) {s s' : State}, ReachableNoCheck n s →
    run stepNoCheck s sc = some s' → ReachableNoCheck n s'
  | [], s, s', hr, h => by simp only [run, Option.some.injEq] at h; exact h ▸ hr
  | a :: rest, s, s', hr, h => by
    simp only [run] at h
    cases hs : act stepNoCheck s a with
    | none => rw [hs] at h; cases h
    | some s1 =>
      rw [hs] at h
      exact run_reachableNoCheck rest (.step a.t a.inv a.lo a.maint a.rz a.sm a.sm2 a.pick hr hs) h

def quiescentB (s : State) : Bool := s.threads.all (fun l => l.pc == .idle)

theorem quiescentB_iff (s : State) : quiescentB s = true ↔ quiescent s := by
  unfold quiescentB quiescent
  simp [List.all_eq_true]

def linB (s : State) (k : Nat) : Bool := (search (callsOn s k) none (absOf s k)).isSome

theorem linB_iff (s : State) (k : Nat) : linB s k = true ↔ Linearizable (callsOn s k) none (absOf s k) :=
  search_isSome_iff

theorem linB_false_iff (s : State) (k : Nat) : linB s k = false ↔ ¬ Linearizable (callsOn s k) none (absOf s k) := by
  rw [← linB_iff]; cases linB s k <;> simp

/-! ## the explorer (`#eval` / `lean --run` only) -/

def pcTag : Pc → String
  | .idle => "idle"
  | .rTable lo => if lo then "rTable.it" else "rTable"
  | .rCell lo _ => if lo then "rCell.it" else "rCell"
  | .rNode _ => "rNode" | .rFirst _ => "rFirst" | .rState _ _ => "rState" | .rLin _ _ => "rLin"
  | .rCas _ _ _ => "rCas" | .rTree _ => "rTree" | .rRelease _ _ => "rRelease" | .rVal _ => "rVal"
  | .lFirst _ => "lFirst" | .lNode _ => "lNode"
  | .wTable => "wTable" | .wCell _ => "wCell" | .wCas _ => "wCas" | .wLock _ _ => "wLock"
  | .wCheck _ _ => "wCheck" | .wFind _ _ _ _ => "wFind" | .wStore _ _ _ _ _ => "wStore"
  | .wUnlock _ _ _ retry => if retry then "wUnlock.retry" else "wUnlock"
  | .tMutex _ _ => "tMutex" | .tCheck _ _ => "tCheck" | .tFind _ _ => "tFind" | .tVal _ _ _ _ _ => "tVal"
  | .lrTry _ _ _ _ => "lrTry" | .lrLoop _ _ _ _ => "lrLoop" | .tPrependLocked _ _ => "tPrependLocked"
  | .tTreeLinkLocked _ _ _ => "tTreeLinkLocked" | .tUnlinkLocked _ _ _ _ => "tUnlinkLocked"
  | .tRestructure _ _ _ _ => "tRestructure" | .tUnlockRoot _ _ _ => "tUnlockRoot"
  | .tUntreeify _ _ _ => "tUntreeify"
  | .tUnlockM _ _ _ retry => if retry then "tUnlockM.retry" else "tUnlockM"
  | .kTable _ => "kTable" | .kCell _ _ => "kCell" | .kLock _ _ _ => "kLock" | .kCheck _ _ _ => "kCheck"
  | .kBuild _ _ _ => "kBuild" | .kStore _ _ _ _ => "kStore" | .kUnlock _ => "kUnlock"
  | .xNext => "xNext" | .xCell _ => "xCell" | .xCasMoved _ => "xCasMoved" | .xLock _ _ => "xLock"
  | .xCheck _ _ => "xCheck" | .xBuild _ _ => "xBuild" | .yMutex _ _ => "yMutex" | .yCheck _ _ => "yCheck"
  | .yBuild _ _ => "yBuild"
  | .xStoreLow _ (.inl _) _ _ => "xStoreLow.list" | .xStoreLow _ (.inr _) _ _ => "xStoreLow.tree"
  | .xStoreHigh _ (.inl _) _ => "xStoreHigh.list" | .xStoreHigh _ (.inr _) _ => "xStoreHigh.tree"
  | .xStoreMoved _ (.inl _) => "xStoreMoved.list" | .xStoreMoved _ (.inr _) => "xStoreMoved.tree"
  | .xUnlock (.inl _) => "xUnlock.list" | .xUnlock (.inr _) => "xUnlock.tree"
  | .xCommit => "xCommit"

/-- the generation a program counter works in -/
def genOf : Pc → Option Nat
  | .rCell _ g | .wCell g | .wCas g | .wLock g _ | .wCheck g _ | .wFind g _ _ _ | .wStore g _ _ _ _
  | .wUnlock g _ _ _ | .tMutex g _ | .tCheck g _ | .tFind g _ | .tVal g _ _ _ _ | .lrTry g _ _ _
  | .lrLoop g _ _ _ | .tPrependLocked g _ | .tTreeLinkLocked g _ _ | .tUnlinkLocked g _ _ _
  | .tRestructure g _ _ _ | .tUnlockRoot g _ _ | .tUntreeify g _ _ | .tUnlockM g _ _ _
  | .kCell g _ | .kLock g _ _ | .kCheck g _ _ | .kBuild g _ _ | .kStore g _ _ _ => some g
  | _ => none

/-- the `TreeBin` a reader is inside -/
def readerBin : Pc → Option Nat
  | .rFirst b | .rState b _ | .rLin b _ | .rCas b _ _ | .rTree b | .rRelease b _ | .lFirst b => some b
  | _ => none

abbrev Cov := List (String × Nat)

def Cov.bump (c : Cov) (k : String) : Cov :=
  match c with
  | [] => [(k, 1)]
  | (k', n) :: rest => if k' == k then (k', n + 1) :: rest else (k', n) :: Cov.bump rest k

def rngNext (x : Nat) : Nat := (x * 6364136223846793005 + 1442695040888963407) % 18446744073709551616
def rngPick (x n : Nat) : Nat := (x / 4294967296) % n

def sideTag (b : Nat) : Cell → String
  | .empty => "empty"
  | .list _ => "smallList"
  | .tree b' => if b' == b then "reusedTreeBin" else "freshTreeBin"
  | .moved => "moved?"

/-- is `TreeBin` `b` in a cell of generation `g` -/
def binInGen (s : State) (g b : Nat) : Bool := (s.tabs.getD g []).any (· == .tree b)

/-- coverage events of one executed step `s —a→ s'`; `rgen`: the generation in which the thread entered the
structure it reads (readers do not carry it in their program counter) -/
def events (s s' : State) (a : Act) (rgen : Nat) (c : Cov) : Cov := Id.run do
  let mut c := c
  let l' := s'.threads.getD a.t {}
  let l := s.threads.getD a.t {}
  c := c.bump ("pc:" ++ pcTag l'.pc)
  match genOf l.pc with
  | some g =>
    if g + 2 ≤ s.cur then c := c.bump ("stale>=2:" ++ pcTag l.pc)
    else if g + 1 ≤ s.cur then c := c.bump ("stale=1:" ++ pcTag l.pc)
    else if g == s.cur + 1 then c := c.bump ("inNext:" ++ pcTag l.pc)
  | none => pure ()
  match readerBin l.pc with
  | some b =>
    if rgen + 2 ≤ s.cur then
      c := c.bump ("treeReaderStale>=2:" ++ pcTag l.pc)
      -- is the bin the reader is inside still live (re-used) two generations later?
      if binInGen s s.cur b || binInGen s (s.cur + 1) b then c := c.bump ("treeReaderStale>=2.binStillLive:" ++ pcTag l.pc)
    else if rgen + 1 ≤ s.cur then c := c.bump ("treeReaderStale=1:" ++ pcTag l.pc)
  | none => pure ()
  match l.pc with
  | .rNode _ | .lNode _ | .rVal _ => if rgen + 2 ≤ s.cur then c := c.bump ("listReaderStale>=2:" ++ pcTag l.pc)
  | _ => pure ()
  match l.pc, l'.pc with
  | .yBuild _ b, .xStoreLow _ _ lo hi =>
    c := c.bump (s!"treeTransfer.g{s.cur}:" ++ sideTag b lo ++ "/" ++ sideTag b hi)
  | .xBuild _ _, .xStoreLow _ _ lo hi =>
    c := c.bump (s!"listTransfer.g{s.cur}:" ++ sideTag 0 lo ++ "/" ++ sideTag 0 hi ++
      (if s'.heap.length > s.heap.length then "+copies" else ""))
  | .wCheck _ _, .wUnlock _ _ _ true => c := c.bump "recheckFailed:wCheck"
  | .tCheck _ _, .tUnlockM _ _ _ true => c := c.bump "recheckFailed:tCheck"
  | .kCheck _ _ _, .kUnlock _ => c := c.bump "recheckFailed:kCheck"
  | .xCheck _ _, .xCell _ => c := c.bump "recheckFailed:xCheck"
  | .yCheck _ _, .xCell _ => c := c.bump "recheckFailed:yCheck"
  | .xCommit, _ => c := c.bump s!"commit->{s'.cur}"
  | .kStore g _ _ _, _ => c := c.bump s!"treeify.g{g}"
  | .tUntreeify g _ _, _ => c := c.bump s!"untreeify.g{g}"
  | _, _ => pure ()
  return c

structure Cfg where
  nthreads : Nat := 3
  keys : List Nat := [0, 1, 2, 3, 4, 6]
  steps : Nat := 250
  calls : Nat := 14
  maints : Nat := 5
  resizes : Nat := 3
  pResize : Nat := 5
  pMaint : Nat := 12
  pCall : Nat := 60
  noCheck : Bool := false
  /-- thread `0` is frozen while it has a call in flight and `cur < wake` (0 = no sleeper) -/
  wake : Nat := 0

def mkOp (r : Nat) (vi : Nat) : KOp :=
  match r % 13 with
  | 0 | 1 | 2 | 3 => .ins (vi % 7) vi
  | 4 | 5 => .rm
  | 6 | 7 => .get
  | 8 => .has
  | 9 => .tryIns (vi % 7) vi
  | 10 => .cipInc vi
  | 11 => .cipRm
  | _ => .get

structure Out where
  cov : Cov
  bad : Option (Sched × Nat)
  runs : Nat
  quiescentRuns : Nat
  maxHist : Nat
  maxGen : Nat

def frozen (cfg : Cfg) (s : State) (t : Nat) (sleepAt : Nat) : Bool :=
  cfg.wake > 0 && t == 0 && s.cur < cfg.wake &&
    (let l := s.threads.getD 0 {}
     l.call.isSome && (match l.pc with | .rTable _ | .wTable => false | _ => true) && sleepAt == 0)

/-- bookkeeping of the explorer after an executed step: the generation in which each thread entered the
structure it reads; the `TreeBin`s that have been re-used by a transfer -/
def track (s s' : State) (a : Act) (rgens : Array Nat) (reused : List Nat) (cov : Cov) : Array Nat × List Nat × Cov :=
  let l := s.threads.getD a.t {}
  let l' := s'.threads.getD a.t {}
  let rgens := match l.pc, l'.pc with
    | .rCell _ g, .rNode _ | .rCell _ g, .rFirst _ | .rCell _ g, .lFirst _ => rgens.setIfInBounds a.t g
    | _, _ => rgens
  match l.pc, l'.pc with
  | .yBuild _ b, .xStoreLow _ _ lo hi =>
    if lo == .tree b || hi == .tree b then
      if reused.contains b then (rgens, reused, cov.bump s!"treeBinReusedAGAIN.g{s.cur}") else (rgens, b :: reused, cov)
    else (rgens, reused, cov)
  | _, _ => (rgens, reused, cov)

def oneRun (cfg : Cfg) (seed : Nat) (cov : Cov) : Sched × State × Cov := Id.run do
  let f : StepFn := if cfg.noCheck then stepNoCheck else step
  let mut s := init cfg.nthreads
  let mut rng := seed
  let mut sc : Array Act := #[]
  let mut cov := cov
  let mut calls := 0
  let mut maints := 0
  let mut rzs := 0
  let mut rgens : Array Nat := Array.replicate cfg.nthreads 0
  let mut reused : List Nat := []
  rng := rngNext rng
  let mut extra := rngPick rng 10
  for _ in [0:cfg.steps] do
    rng := rngNext rng
    let t := rngPick rng cfg.nthreads
    rng := rngNext rng
    let l := s.threads.getD t {}
    if frozen cfg s t extra then continue
    let mut a : Act := { t := t }
    if l.pc == .idle then
      let r := rngPick rng 100
      rng := rngNext rng
      if r < cfg.pResize && !s.resizing && rzs < cfg.resizes && !(cfg.wake > 0 && t == 0) then
        a := { t := t, rz := true }
        rzs := rzs + 1
      else if r < cfg.pResize + cfg.pMaint && maints < cfg.maints && !(cfg.wake > 0 && t == 0) then
        a := { t := t, maint := some (cfg.keys.getD (rngPick rng cfg.keys.length) 0) }
        maints := maints + 1
      else if r < cfg.pResize + cfg.pMaint + cfg.pCall && calls < cfg.calls then
        let k := cfg.keys.getD (rngPick rng cfg.keys.length) 0
        rng := rngNext rng
        let op := mkOp (rngPick rng 13) (100 + calls)
        rng := rngNext rng
        a := { t := t, inv := some (k, op), lo := rngPick rng 4 == 0 }
        calls := calls + 1
      else continue
    else
      a := { t := t, sm := rngPick rng 3 == 0, sm2 := rngPick rng 7 < 2, pick := rngPick rng 64 }
      if cfg.wake > 0 && t == 0 && l.call.isSome && s.cur < cfg.wake then
        match l.pc with
        | .rTable _ | .wTable => pure ()
        | _ => if extra > 0 then extra := extra - 1
    match act f s a with
    | none => cov := cov.bump ("blocked:" ++ pcTag l.pc)
    | some s' =>
      cov := events s s' a (rgens.getD t 0) cov
      (rgens, reused, cov) := track s s' a rgens reused cov
      sc := sc.push a
      s := s'
  -- drain (the sleeper last, so that the resizes complete first)
  let mut stuck := false
  for _ in [0:800] do
    if quiescentB s then break
    let mut progress := false
    for t' in [0:cfg.nthreads] do
      let t := cfg.nthreads - 1 - t'
      let l := s.threads.getD t {}
      if l.pc != .idle then
        if frozen cfg s t 0 && !stuck then continue
        rng := rngNext rng
        let a : Act := { t := t, sm := rngPick rng 3 == 0, sm2 := rngPick rng 7 < 2, pick := rngPick rng 64 }
        match act f s a with
        | none => cov := cov.bump ("blocked:" ++ pcTag l.pc)
        | some s' =>
          cov := events s s' a (rgens.getD t 0) cov
          (rgens, reused, cov) := track s s' a rgens reused cov
          sc := sc.push a
          s := s'
          progress := true
    stuck := !progress
  return (sc.toList, s, cov)

def explore (cfg : Cfg) (seed0 nruns : Nat) : Out := Id.run do
  let mut cov : Cov := []
  let mut bad : Option (Sched × Nat) := none
  let mut q := 0
  let mut mh := 0
  let mut mg := 0
  for i in [0:nruns] do
    let (sc, s, cov') := oneRun cfg (rngNext (seed0 + 7919 * i)) cov
    cov := cov'
    if s.cur > mg then mg := s.cur
    cov := cov.bump s!"final:cur={s.cur}"
    if quiescentB s then
      q := q + 1
      for k in cfg.keys do
        let h := callsOn s k
        if h.length > mh then mh := h.length
        if !linB s k && bad.isNone then bad := some (sc, k)
    else cov := cov.bump "notDrained"
  return { cov := cov, bad := bad, runs := nruns, quiescentRuns := q, maxHist := mh, maxGen := mg }

def Out.report (o : Out) : String :=
  let lines := (o.cov.toArray.qsort (fun a b => a.1 < b.1)).toList.map fun (k, n) => s!"  {k}: {n}"
  s!"runs {o.runs}, drained to quiescence {o.quiescentRuns}, longest per-key history {o.maxHist}, max generation {o.maxGen}, " ++
  (match o.bad with | none => "ALL LINEARIZABLE" | some (sc, k) => s!"NOT LINEARIZABLE on key {k}: {repr sc}") ++
  "\n" ++ "\n".intercalate lines

/-! ## kernel-checked runs

Four threads: thread 0 performs most calls, thread 1 treeifies and then is the slow reader, thread 2 is the
slow writer, thread 3 resizes — twice. -/

def rep (t n : Nat) : Sched := List.replicate n { t := t }
def call (t k : Nat) (op : KOp) : Sched := [{ t := t, inv := some (k, op) }]
def rz (t : Nat) : Sched := [{ t := t, rz := true }]
/-- the resizing thread `t` transfers the tree bin in cell `j` (9 steps from `xNext` back to `xNext`);
`sm`, `sm2`: the low / high side becomes a plain list -/
def xferTree (t j : Nat) (sm sm2 : Bool) : Sched :=
  [{ t := t, pick := j }] ++ rep t 3 ++ [{ t := t, sm := sm, sm2 := sm2 }] ++ rep t 4
/-- … forwards the empty cell `j` -/
def xferEmpty (t j : Nat) : Sched := [{ t := t, pick := j }] ++ rep t 2
/-- `xNext` (all forwarded), `xCommit` -/
def commit (t : Nat) : Sched := rep t 2

/-- quiescent in generation 2?, and per key `0 … 5`: the abstract state and whether the exhaustive search
finds a linearization of the key's history ending in it -/
def verdict (f : StepFn) (n : Nat) (sc : Sched) : Option (Bool × List (KSt × Bool)) :=
  (run f (init n) sc).map fun s => (quiescentB s && s.cur == 2, (List.range 6).map fun k => (absOf s k, linB s k))

/-- thread 0: `insert(0)`, `insert(4)` (bits 0 and 1 of both keys are clear: they stay together through two
splits); thread 1 treeifies cell `(0,0)`: `TreeBin` 0 over the nodes 2, 3 -/
def setupLow : Sched :=
  call 0 0 (.ins 5 100) ++ rep 0 3 ++ call 0 4 (.ins 6 101) ++ rep 0 8 ++ [{ t := 1, maint := some 0 }] ++ rep 1 7

/-- **a `TreeBin` that is re-used by the first resize and re-used AGAIN by the second, with a writer queued
on its mutex and a reader holding its read lock all the time.** Thread 2 calls `insert(4)` and loads cell
`(0,0) = tree 0` (about to lock the mutex of bin 0); thread 1 calls `get(0)`, takes the read lock of bin 0 and
finds node 2. Resize `0 → 1`: the high side is empty and the low side is not small: bin 0 itself goes to
`(1,0)`. Resize `1 → 2`: again bin 0 itself goes to `(2,0)`. Thread 2 wakes up in generation 0: takes the
mutex, its re-check fails (`(0,0) = moved`), it follows `(0,0) → (1,0) → (2,0)`, finds the SAME `TreeBin`,
locks it again and updates node 3. Thread 0: `get(4)` (lock protocol, second reader). Thread 1 releases the
read lock it has held across both resizes. -/
def schedReuse2 : Sched :=
  setupLow ++ call 2 4 (.ins 7 102) ++ rep 2 2 ++ call 1 0 .get ++ rep 1 6 ++
  rz 3 ++ xferTree 3 0 false false ++ commit 3 ++
  rz 3 ++ xferTree 3 0 false false ++ xferEmpty 3 1 ++ commit 3 ++
  rep 2 11 ++ call 0 4 .get ++ rep 0 8 ++ rep 1 2

theorem verdict_reuse2 : verdict step 4 schedReuse2 =
    some (true, [(some (5, 100), true), (none, true), (none, true), (none, true), (some (7, 102), true), (none, true)]) := by
  decide +kernel

/-- the one and only `TreeBin` is in cell `(2,0)`; generations 0 and 1 are forwarded; the slow insert was
invoked (22) before the first resize and returned (69) after the second; the reader (invoked 25) returned at 80 -/
theorem reuse2_history :
    (run step (init 4) schedReuse2).map (fun s => (s.tabs, s.tbins.length, callsOn s 4, callsOn s 0)) =
      some ([[.moved], [.moved, .moved], [.tree 0, .empty, .empty, .empty]], 1,
        [⟨0, .ins 6 101, .none, 5, 13⟩, ⟨2, .ins 7 102, .some 6 101, 22, 69⟩, ⟨0, .get, .some 7 102, 70, 78⟩],
        [⟨0, .ins 5 100, .none, 1, 4⟩, ⟨1, .get, .some 5 100, 25, 80⟩]) := by
  decide +kernel

/-- thread 0: `insert(1)`, `insert(3)`, `insert(5)`, `insert(0)`; thread 1 treeifies: `TreeBin` 0 -/
def setupBoth : Sched :=
  call 0 1 (.ins 5 100) ++ rep 0 3 ++ call 0 3 (.ins 6 101) ++ rep 0 8 ++ call 0 5 (.ins 4 102) ++ rep 0 9 ++
  call 0 0 (.ins 3 103) ++ rep 0 10 ++ [{ t := 1, maint := some 0 }] ++ rep 1 7

/-- resize `0 → 1`: bin 0 `{1,3,5,0}` is split into two fresh `TreeBin`s (1: `{0}`, 2: `{1,3,5}`);
resize `1 → 2`: bin 1 is re-used in `(2,0)`; bin 2 is split into the fresh `TreeBin` 3 `{1,5}` in `(2,1)` and the
plain list `[3]` in `(2,3)` -/
def twoResizes : Sched :=
  rz 3 ++ xferTree 3 0 false false ++ commit 3 ++
  rz 3 ++ xferTree 3 0 false false ++ xferTree 3 1 false true ++ commit 3

/-- **a reader and a writer inside a `TreeBin` that is two generations old.** Thread 1 calls `get(1)`, takes
the read lock of bin 0 in generation 0 and finds its node; thread 2 calls `insert(3)` and loads `(0,0) = tree 0`;
both sleep through BOTH resizes (`twoResizes`). Thread 0 (generation 2): `insert(1) = 9` returns the old value,
`get(1)` returns 9. Only then thread 1 releases the read lock of the long dead bin 0 and returns the OLD value
(hindsight across two forwardings). Thread 2 takes the mutex of the dead bin 0, fails its re-check, follows
`(0,0) → (1,1) → (2,3)`, finds a plain LIST there and updates it under the node lock. -/
def schedStale2 : Sched :=
  setupBoth ++ call 1 1 .get ++ rep 1 6 ++ call 2 3 (.ins 8 104) ++ rep 2 2 ++ twoResizes ++
  call 0 1 (.ins 9 105) ++ rep 0 7 ++ call 0 1 .get ++ rep 0 8 ++ rep 1 2 ++ rep 2 11 ++ call 0 3 .get ++ rep 0 3

/-- the same without the re-checks: thread 2 trusts the mutex of the bin that died two generations ago and
overwrites its node; `insert(3) = 8` returns, a later `get(3)` still finds 6 -/
def schedLost2 : Sched :=
  setupBoth ++ call 1 1 .get ++ rep 1 6 ++ call 2 3 (.ins 8 104) ++ rep 2 2 ++ twoResizes ++
  call 0 1 (.ins 9 105) ++ rep 0 7 ++ call 0 1 .get ++ rep 0 8 ++ rep 1 2 ++ rep 2 5 ++ call 0 3 .get ++ rep 0 3

theorem verdict_stale2 : verdict step 4 schedStale2 =
    some (true, [(some (3, 103), true), (some (9, 105), true), (none, true), (some (8, 104), true), (none, true),
      (some (4, 102), true)]) := by
  decide +kernel

theorem verdict_lost2_noCheck : verdict stepNoCheck 4 schedLost2 =
    some (true, [(some (3, 103), true), (some (9, 105), true), (none, true), (some (6, 101), false), (none, true),
      (some (4, 102), true)]) := by
  decide +kernel

/-- the slow `get(1)` (invoked at 43 in generation 0) returns the old value at 104, after `get(1) = 9` returned
at 102 in generation 2; the slow `insert(3)` (invoked at 50) returns at 115 -/
theorem stale2_history :
    (run step (init 4) schedStale2).map (fun s => (s.tabs, callsOn s 1, callsOn s 3)) =
      some ([[.moved], [.moved, .moved], [.tree 1, .tree 3, .empty, .list 14]],
        [⟨0, .ins 5 100, .none, 1, 4⟩, ⟨0, .ins 9 105, .some 5 100, 86, 93⟩, ⟨0, .get, .some 9 105, 94, 102⟩,
         ⟨1, .get, .some 5 100, 43, 104⟩],
        [⟨0, .ins 6 101, .none, 5, 13⟩, ⟨2, .ins 8 104, .some 6 101, 50, 115⟩, ⟨0, .get, .some 8 104, 116, 119⟩]) := by
  decide +kernel

theorem of_verdict {f : StepFn} {n : Nat} {sc : Sched} {r : List (KSt × Bool)}
    (h : verdict f n sc = some (true, r)) :
    ∃ s, run f (init n) sc = some s ∧ quiescent s ∧ s.cur = 2 ∧
      (List.range 6).map (fun k => (absOf s k, linB s k)) = r := by
  unfold verdict at h
  cases hr : run f (init n) sc with
  | none => rw [hr] at h; cases h
  | some s =>
    rw [hr] at h
    simp only [Option.map_some, Option.some.injEq, Prod.mk.injEq] at h
    have h1 := h.1
    simp only [Bool.and_eq_true, beq_iff_eq] at h1
    exact ⟨s, rfl, (quiescentB_iff s).1 h1.1, h1.2, h.2⟩

/-- **the re-checks are load-bearing across any number of forwardings, also inside tree bins**: without them, a
reachable quiescent state (after two complete resizes) whose history of key 3 is not linearizable -/
theorem noCheck_not_linearizable :
    ∃ s, ReachableNoCheck 4 s ∧ quiescent s ∧ s.cur = 2 ∧ ¬ Lin.Linearizable (callsOn s 3) none (absOf s 3) := by
  obtain ⟨s, hr, hq, hc, hv⟩ := of_verdict verdict_lost2_noCheck
  refine ⟨s, run_reachableNoCheck _ .init hr, hq, hc, (linB_false_iff s 3).1 ?_⟩
  have h1 : (((List.range 6).map (fun k => (absOf s k, linB s k)))[3]?).map (·.2) = some false := by
    rw [hv]; rfl
  simpa using h1

theorem noCheck_refutes_aux :
    ∃ (n : Nat) (s : State) (k : Nat), ReachableNoCheck n s ∧ quiescent s ∧
      ¬ Linearizable (callsOn s k) none (absOf s k) := by
  obtain ⟨s, hr, hq, -, hn⟩ := noCheck_not_linearizable
  exact ⟨4, s, 3, hr, hq, hn⟩

/-- the two runs of the checked model are reachable quiescent states in generation 2 whose histories are
linearizable for the keys `0 … 5` (complete decision procedure, kernel-checked) -/
theorem runs_linearizable :
    ∀ sc ∈ [schedReuse2, schedStale2], ∃ s, run step (init 4) sc = some s ∧ Reachable 4 s ∧
      quiescent s ∧ s.cur = 2 ∧ ∀ k, k < 6 → Linearizable (callsOn s k) none (absOf s k) := by
  intro sc hsc
  simp only [List.mem_cons, List.not_mem_nil, or_false] at hsc
  rcases hsc with rfl | rfl
  · obtain ⟨s, hr, hq, hc, hv⟩ := of_verdict verdict_reuse2
    refine ⟨s, hr, run_reachable _ .init hr, hq, hc, fun k hk => (linB_iff s k).1 ?_⟩
    have h1 : ∀ k < 6, (((List.range 6).map (fun k => (absOf s k, linB s k)))[k]?).map (·.2) = some true := by
      rw [hv]; decide
    have := h1 k hk
    simpa [hk] using this
  · obtain ⟨s, hr, hq, hc, hv⟩ := of_verdict verdict_stale2
    refine ⟨s, hr, run_reachable _ .init hr, hq, hc, fun k hk => (linB_iff s k).1 ?_⟩
    have h1 : ∀ k < 6, (((List.range 6).map (fun k => (absOf s k, linB s k)))[k]?).map (·.2) = some true := by
      rw [hv]; decide
    have := h1 k hk
    simpa [hk] using this

/-- a small sample at build time (larger runs: see the file header of `Props/C01BinGN.lean`) -/
def sample : Out := explore { nthreads := 3, steps := 250, wake := 2 } 11 150

#eval IO.println (s!"{sample.runs} runs, {sample.quiescentRuns} quiescent, max generation {sample.maxGen}, " ++
  s!"not linearizable: {sample.bad.isSome}, coverage entries: {sample.cov.length}")

end Flurry.Proto.BinGN
