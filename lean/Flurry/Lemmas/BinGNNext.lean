import Flurry.Lemmas.BinGNNextDefs
/-! # Proto/BinGN: the cells of the generation being filled are empty until the transfer of their parent stores
them — every transition -/
namespace Flurry.Proto.BinGN
open Flurry.Lin
open Flurry.Proto.BinGNP (StepN KMove KBMove)

/-- a thread that works in generation `cur + 1` for key `k` is behind the forwarded parent of its cell -/
theorem parent_moved_of_gen {s : State} (I : GenInv s) {t : Nat} {l : Local} {g k : Nat}
    (hl : s.threads[t]? = some l) (hg : (desc s.cur l).gen = some (g, k)) :
    g = s.cur + 1 → cellAt s s.cur ((k % 2 ^ g) % 2 ^ s.cur) = .moved := by
  intro e
  subst e
  rw [mod_succ_mod]
  exact ((I.thr t l hl).gen _ _ hg).2 rfl

/-- only the resizing thread records stored children -/
theorem stored_of_call {pc : Pc} (h : noCallPc pc = false) : storedLow pc = none ∧ storedHigh pc = none := by
  cases pc <;> first | exact ⟨rfl, rfl⟩ | cases h

/-- a step of a thread with a call in flight that does not touch the tables -/
theorem nextEmpty_call {s s' : State} {t : Nat} {l l' : Local} (N : NextEmpty s) (hl : s.threads[t]? = some l)
    (hthr : s'.threads = s.threads.set t l') (hcur : s'.cur = s.cur) (htabs : s'.tabs = s.tabs)
    (h : noCallPc l.pc = false) (h' : storedLow l'.pc = none ∧ storedHigh l'.pc = none) : NextEmpty s' :=
  nextEmpty_same N hl hthr hcur htabs (h'.1.trans (stored_of_call h).1.symm) (h'.2.trans (stored_of_call h).2.symm)

/-- the resizing thread stores child `j'` of the generation being filled and records it -/
theorem nextEmpty_child {s s' : State} {t : Nat} {l l' : Local} {j' : Nat} {c : Cell} (N : NextEmpty s)
    (hl : s.threads[t]? = some l) (hthr : s'.threads = s.threads.set t l') (hcur : s'.cur = s.cur)
    (htabs : s'.tabs = s.tabs.modify (s.cur + 1) (fun row => row.set j' c))
    (hrec : storedLow l'.pc = some j' ∨ ∃ j, storedHigh l'.pc = some j ∧ j' = j + 2 ^ s.cur)
    (hlo : ∀ j, storedLow l.pc = some j → storedLow l'.pc = some j)
    (hhi : ∀ j, storedHigh l.pc = some j → storedHigh l'.pc = some j) : NextEmpty s' := by
  have ht : t < s.threads.length := (List.getElem?_eq_some_iff.1 hl).1
  have hne : ∀ g j0, ¬ (g = s.cur + 1 ∧ j0 = j') → cellAt s' g j0 = cellAt s g j0 := fun g j0 h => by
    rw [cellAt_eq, htabs]; exact cellT_put_ne _ _ h
  refine nextEmpty_frame N hcur ?_ ?_ ?_
  · intro j0 hm
    exact (hne _ _ (by intro ⟨h, _⟩; omega)).trans hm
  · intro j'' h
    by_cases e : j'' = j'
    · subst e
      refine Or.inr (Or.inr ⟨t, l', by rw [hthr]; exact List.getElem?_set_self ht, ?_⟩)
      rw [hcur]; exact hrec
    · rw [hne _ _ (by intro ⟨_, h⟩; exact e h)] at h
      exact Or.inl h
  · intro j'' h
    exact Or.inl (h.of_set hl hthr hcur (hlo _) hhi)

theorem nextEmpty_of_empty {s : State} (h : ∀ j, cellAt s (s.cur + 1) j = .empty) : NextEmpty s :=
  fun j hne => absurd (h j) hne

/-- the resizing thread forwards cell `j`, having stored both children -/
theorem nextEmpty_xstoreMoved {s : State} {t j : Nat} {unl : Nat ⊕ Nat} (I : GenInv s) (N : NextEmpty s)
    (hl : s.threads[t]? = some ⟨.xStoreMoved j unl, none⟩) :
    NextEmpty (putCell (setT (BinGNP.tick s) t ⟨.xUnlock unl, none⟩) s.cur j .moved) := by
  have hj := (I.thr t _ hl).idx j rfl
  have ht : t < s.threads.length := (List.getElem?_eq_some_iff.1 hl).1
  obtain ⟨hself, hne⟩ := I.put_moved hj
  refine nextEmpty_frame N rfl ?_ ?_ ?_
  · intro j0 hm
    by_cases e : j0 = j
    · subst e; exact hself
    · exact (hne _ _ (by intro ⟨_, h⟩; exact e h)).trans hm
  · intro j' h
    have h' : cellT (s.tabs.modify s.cur (fun row => row.set j .moved)) (s.cur + 1) j' ≠ .empty := h
    rw [hne _ _ (by intro ⟨h, _⟩; omega)] at h'
    exact Or.inl h'
  · intro j' h
    obtain ⟨t1, l1, h1, hw⟩ := h
    by_cases e : t1 = t
    · subst e
      rw [hl] at h1; cases h1
      right
      rcases hw with hw | ⟨j0, hw, hj0⟩
      · cases hw
        rw [Nat.mod_eq_of_lt hj]; exact hself
      · cases hw
        rw [hj0, high_mod hj]; exact hself
    · exact Or.inl ⟨t1, l1, by show (s.threads.set _ _)[t1]? = _; rw [List.getElem?_set_ne (Ne.symm e)]; exact h1, hw⟩

section
variable {s : State} {t : Nat} {p : Pending}

theorem nextEmpty_store {g h : Nat} {pred hit hnext : Option Nat} (I : GenInv s) (N : NextEmpty s)
    (hl : s.threads[t]? = some ⟨.wStore g h pred hit hnext, some p⟩) :
    NextEmpty (setT (storeAt (BinGNP.tick s) g p pred hit hnext).1 t
      ⟨.wUnlock g h (storeAt (BinGNP.tick s) g p pred hit hnext).2 false, some p⟩) := by
  obtain ⟨hcell, -⟩ := (I.thr t _ hl).valid g (p.key % 2 ^ g) (.list h) rfl
  obtain ⟨hg, ht⟩ := storeAt_shape (BinGNP.tick s) g p pred hit hnext
  rcases ht with e | ⟨c, -, -, e⟩
  · exact nextEmpty_same N hl (hg.set _ _) hg.cur e rfl rfl
  · exact nextEmpty_put N hl (hg.set _ _) hg.cur e (Or.inl (by rw [hcell]; simp)) (parent_moved_of_gen I hl rfl)
      rfl rfl

theorem nextEmpty_unlink {g b i : Nat} {res : KRes} {sm : Bool} (N : NextEmpty s)
    (hl : s.threads[t]? = some ⟨.tUnlinkLocked g b i res, some p⟩) :
    NextEmpty (setT (BinGNP.unlinkOf (BinGNP.tick s) b i) t
      ⟨if sm then .tUntreeify g b res else .tRestructure g b i res, some p⟩) := by
  have hg := unlinkOf_grows (BinGNP.tick s) b i
  cases sm <;> exact nextEmpty_same N hl (hg.1.set _ _) hg.1.cur hg.2 rfl rfl

theorem nextEmpty_ybuild {j b : Nat} {sm sm2 : Bool} (N : NextEmpty s)
    (hl : s.threads[t]? = some ⟨.yBuild j b, none⟩) :
    NextEmpty (setT (BinGNP.ysplitOf (BinGNP.tick s) b sm sm2).1 t
      ⟨.xStoreLow j (.inr b) (BinGNP.ysplitOf (BinGNP.tick s) b sm sm2).2.1
        (BinGNP.ysplitOf (BinGNP.tick s) b sm sm2).2.2, none⟩) := by
  obtain ⟨hg, ht, -⟩ := ysplitOf_grows (BinGNP.tick s) b sm sm2
  exact nextEmpty_same N hl (hg.set _ _) hg.cur ht rfl rfl

end

theorem NextEmpty.finish {s : State} {t : Nat} {p : Pending} {res : KRes} (N : NextEmpty (setT s t ⟨.idle, none⟩)) :
    NextEmpty (finish s t p res) := N

theorem stepN_nextEmpty {s s' : State} {t : Nat} {l : Local} (I : GenInv s) (N : NextEmpty s)
    (hl : s.threads[t]? = some l) (h : StepN s t l s') : NextEmpty s' := by
  have T := I.thr t _ hl
  obtain ⟨pc, call⟩ := l
  obtain ⟨heap, tbins, tabs, cur, resizing, threads, hist, now⟩ := s
  cases h with
  | resizeStart h hr =>
    have hlen : tabs.length = cur + 1 := by have := I.len; rw [show resizing = false from hr] at this; simpa using this
    exact nextEmpty_of_empty fun j => (cellT_alloc _ _ _ _).trans (cellT_beyond (Nat.le_of_eq hlen) j)
  | move p pc' hp hc hm => exact nextEmpty_call N hl rfl rfl rfl hm.callPcs.1 (stored_of_call hm.callPcs.2)
  | bmove p pc' tb hc hm => exact nextEmpty_call N hl rfl rfl rfl hm.callPcs.1 (stored_of_call hm.callPcs.2)
  | kmove pc' hp hc hm => cases hm <;> exact nextEmpty_same N hl rfl rfl rfl rfl rfl
  | kbmove pc' tb hc hm => cases hm <;> exact nextEmpty_same N hl rfl rfl rfl rfl rfl
  | fin p res hp hc hf => exact NextEmpty.finish (nextEmpty_call N hl rfl rfl rfl hf.callPcs ⟨rfl, rfl⟩)
  | bfin p res tb hc hf => exact NextEmpty.finish (nextEmpty_call N hl rfl rfl rfl hf.callPcs ⟨rfl, rfl⟩)
  | cas p g v vi hc hpc hcell _ =>
    cases hc; cases hpc
    exact NextEmpty.finish (nextEmpty_put N hl rfl rfl rfl (Or.inl (by rw [cellAt_eq, ← cellOf_eq, hcell]; simp))
      (parent_moved_of_gen I hl rfl) rfl rfl)
  | store p g h pred hit hnext hc hpc => cases hc; cases hpc; exact nextEmpty_store I N hl
  | unlink p g b i res sm hc hpc => cases hc; cases hpc; exact nextEmpty_unlink N hl
  | untreeify p g b res hc hpc =>
    cases hc; cases hpc
    obtain ⟨hcell, -⟩ := T.valid g (p.key % 2 ^ g) (.tree b) rfl
    exact nextEmpty_put N hl rfl rfl rfl (Or.inl (by rw [hcell]; simp)) (parent_moved_of_gen I hl rfl) rfl rfl
  | kstore g k h b hc hpc =>
    cases hc; cases hpc
    obtain ⟨hcell, -⟩ := T.valid g (k % 2 ^ g) (.list h) rfl
    exact nextEmpty_put N hl rfl rfl rfl (Or.inl (by rw [hcell]; simp)) (parent_moved_of_gen I hl rfl) rfl rfl
  | xcasMoved j hc hpc _ =>
    cases hpc
    exact nextEmpty_put (c := .moved) N hl rfl rfl rfl (Or.inr rfl) (fun e => absurd e (Nat.ne_of_lt (Nat.lt_succ_self _)))
      rfl rfl
  | ybuild j b sm sm2 hc hpc => cases hc; cases hpc; exact nextEmpty_ybuild N hl
  | xstoreLow j unl lo hi hc hpc =>
    cases hpc
    exact nextEmpty_child N hl rfl rfl rfl (Or.inl rfl) (fun _ e => nomatch e) (fun _ e => nomatch e)
  | xstoreHigh j unl hi hc hpc =>
    cases hpc
    exact nextEmpty_child N hl rfl rfl rfl (Or.inr ⟨j, rfl, rfl⟩) (fun _ e => e) (fun _ e => nomatch e)
  | xstoreMoved j unl hc hpc => cases hc; cases hpc; exact nextEmpty_xstoreMoved I N hl
  | xcommit hc hpc =>
    cases hc; cases hpc
    have hlen : tabs.length = cur + 2 := by have := I.len; rw [show resizing = true from T.tres rfl] at this; simpa using this
    exact nextEmpty_of_empty fun j => cellT_beyond (Nat.le_of_eq hlen) j
  | invoke k op lo h => cases h; cases isReader op <;> exact nextEmpty_same N hl rfl rfl rfl rfl rfl
  | idle h | maint _ h | tval _ _ _ _ _ _ _ h | prepend _ _ _ _ _ _ h _ | treeLink _ _ _ _ _ h | untree _ _ _ _ _ _ h
  | kbuild _ _ _ _ h | xbuild _ _ _ h =>
    cases h; exact nextEmpty_same N hl rfl rfl rfl rfl rfl

theorem init_nextEmpty (n : Nat) : NextEmpty (init n) := by
  intro j' hne
  exfalso
  apply hne
  show cellT [[(.empty : Cell)]] 1 j' = _
  unfold cellT; simp

end Flurry.Proto.BinGN
