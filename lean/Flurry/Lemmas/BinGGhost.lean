import Flurry.Lemmas.BinGInv
import Flurry.Lemmas.BinKGhost
/-! # Proto/BinG: ghost history and the hindsight invariants of the readers — definitions

`Good`, `KStep`, `TreeOK`, `RdOK`, `GInv` (and `Eff` of `Lemmas/BinGFacts.lean`) are kept as statements: nothing establishes
them for a transition of BinG. The ghost invariant that is established for a reachable state of BinG is `BinGNP.GInv` on
the image of the state (`Lemmas/BinGEmbedGhost.lean`, `Lemmas/BinGLin.lean`); `GInv` here has its consequence
`GInv.linearizable` proved (`Lemmas/BinGGhostL.lean`), and `GInv.readers` is one of its fields.

For a fixed key `k` the ghost state is `A : Nat → KSt` (`A τ` = `absOf` of `k` after global step `τ`) and
`pt : Nat → Nat` (`pt i` = linearization point of the call invoked at `i`), as in
`Lemmas/BinKGhost.lean` (whose generic parts — `AbsWit`, `OnCond`, `Live`, `onCond_succ`,
`absWit_now`, `ValWit`, `CallOK`, `nextA` — are re-used).

* `callsOnExt`: the completed calls plus the calls of writers that are past their linearization point.
* `Good A k inv s cur`: the hindsight justification of a thread walking a list with the pointer `cur`:
  `absent` (the key was absent at some time of the call), `on` (a node of the live chain of `k`, no node
  in front of it has key `k`), `foreign` (after the forwarding: a node of the live chain of the *other*
  side, reached through the old list or a re-used `TreeBin`; the key was absent at some time of the
  call), `off` (a dead node: on no chain of a cell or of an unpublished structure; frozen).
* `KStep s s' k`: what a transition does to the heap as far as a list walker looking for `k` is
  concerned (generalises `HeapStep` of `Lemmas/BinKBasic.lean`: a node that leaves the live chain of
  `k` dies — or, at the forwarding, becomes foreign; nodes in front of a node that stays are old
  predecessors, copies of old predecessors, or carry a key that was absent).
* `TreeOK`: the justification of a lock-protocol reader of `TreeBin` `b`: `b` is in the live cell of
  `k`, or `b` is dead with its write lock held for ever (untreeified), or the tree content of `b` for `k`
  was the abstract state at some time of the call (a transferred bin, a re-used bin of the other side).
* `RdOK`, `GInv`. -/
namespace Flurry.Proto.BinG
open Flurry.Lin
open Flurry.Proto.BinK (nodeAt binAt NextOK IsChain IsSeg chainOf CInv absL AbsWit OnCond ValWit CallOK nextA)

theorem isReader_eq_isRead (op : KOp) : isReader op = isRead op := by cases op <;> rfl

/-- the result of a writer that is past its linearization point -/
def resOfPc : Pc → Option KRes
  | .wUnlock _ _ res false => some res
  | .tUnlockM _ _ res false => some res
  | .tTreeLinkLocked _ _ _ => some .none
  | .tRestructure _ _ _ res => some res
  | .tUnlockRoot _ _ res => some res
  | .tUntreeify _ _ res => some res
  | _ => none

def extOf (k now t : Nat) (l : Local) : Option Call :=
  match resOfPc l.pc, l.call with
  | some res, some p => if p.key = k then some ⟨t, p.op, res, p.inv, now⟩ else none
  | _, _ => none

def extCalls (s : State) (k : Nat) : History :=
  (List.range s.threads.length).filterMap (fun t => (s.threads[t]?).bind (extOf k s.now t))

def callsOnExt (s : State) (k : Nat) : History := callsOn s k ++ extCalls s k

/-- the new cell of the other side -/
def otherId (k : Nat) : Cid := if hiBit k then .lo else .hi

/-- after the forwarding: a node on the live chain of the side `k` does not belong to -/
def Foreign (s : State) (k : Nat) (j : Nat) : Prop :=
  s.cell0 = .moved ∧ j ∈ chainC s (cellAt s (otherId k))

inductive Good (A : Nat → KSt) (k inv : Nat) (s : State) : Option Nat → Prop
  | absent : AbsWit A inv s.now → Good A k inv s none
  | on {c : Nat} : c ∈ LC s k → OnCond A k inv s.now s.heap (LC s k) c → Good A k inv s (some c)
  | foreign {c : Nat} : Foreign s k c → AbsWit A inv s.now → Good A k inv s (some c)
  | off {c : Nat} : ¬ Used s c → c < s.heap.length →
      ((nodeAt s.heap c).key ≠ k → Good A k inv s (nodeAt s.heap c).next) →
      ((nodeAt s.heap c).key = k → ∃ τ, inv ≤ τ ∧ τ ≤ s.now ∧ A τ = some (nodeAt s.heap c).val) →
      Good A k inv s (some c)

structure KStep (s s' : State) (k : Nat) : Prop where
  len : s.heap.length ≤ s'.heap.length
  key : ∀ j, j < s.heap.length → (nodeAt s'.heap j).key = (nodeAt s.heap j).key
  /-- dead nodes are frozen -/
  frozen : ∀ j, j < s.heap.length → ¬ Used s j →
    (nodeAt s'.heap j).val = (nodeAt s.heap j).val ∧ (nodeAt s'.heap j).next = (nodeAt s.heap j).next
  /-- dead nodes stay dead -/
  stable : ∀ j, j < s.heap.length → Used s' j → Used s j
  /-- a node that leaves the live chain of `k` keeps value and `next` in this step, and dies — or (at
  the forwarding) becomes foreign, and then no node from it on has key `k` -/
  leave : ∀ c ∈ LC s k, c ∉ LC s' k →
    (nodeAt s'.heap c).val = (nodeAt s.heap c).val ∧ (nodeAt s'.heap c).next = (nodeAt s.heap c).next ∧
    (¬ Used s' c ∨ (Foreign s' k c ∧ ∀ j ∈ LC s k, ¬ List.Sublist [j, c] (LC s k) → (nodeAt s.heap j).key ≠ k))
  /-- a node in front of a node that stays is an old predecessor, has the key of one, or has a key that
  is not on the old chain -/
  before : ∀ c ∈ LC s k, c ∈ LC s' k → ∀ i, List.Sublist [i, c] (LC s' k) →
    (∃ i0, List.Sublist [i0, c] (LC s k) ∧ (nodeAt s.heap i0).key = (nodeAt s'.heap i).key) ∨
    (∀ i0 ∈ LC s k, (nodeAt s.heap i0).key ≠ (nodeAt s'.heap i).key)
  /-- the value of a node with key `k` is stored only while it is (and stays) live for `k` -/
  valchg : ∀ j, j < s.heap.length → (nodeAt s'.heap j).val ≠ (nodeAt s.heap j).val →
    (nodeAt s.heap j).key = k → j ∈ LC s' k
  /-- a foreign node stays foreign or dies, keeping its `next` -/
  foreign : ∀ c, Foreign s k c → Foreign s' k c ∨
    (¬ Used s' c ∧ (nodeAt s'.heap c).next = (nodeAt s.heap c).next)

def InCell (s : State) (b : Nat) : Prop := ∃ id, cellAt s id = .tree b

/-- the tree of `TreeBin` `b` justifies a lookup of `k` invoked at `inv` -/
def TreeOK (A : Nat → KSt) (k inv : Nat) (s : State) (b : Nat) : Prop :=
  cellAt s (liveId s k) = .tree b ∨
  (¬ InCell s b ∧ (binAt s.tbins b).writer = true) ∨
  ∃ τ, inv ≤ τ ∧ τ ≤ s.now ∧ A τ = absTree s b k

def RdOK (A : Nat → KSt) (k inv : Nat) (s : State) : Pc → Prop
  | .rNode cur => Good A k inv s cur
  | .rFirst b => Good A k inv s (binAt s.tbins b).first ∧ TreeOK A k inv s b
  | .lFirst b => Good A k inv s (binAt s.tbins b).first
  | .rState b cur => Good A k inv s cur ∧ TreeOK A k inv s b
  | .rLin b c => Good A k inv s (some c) ∧ TreeOK A k inv s b
  | .rCas b c _ => Good A k inv s (some c) ∧ TreeOK A k inv s b
  | .rTree b => TreeOK A k inv s b
  | .rRelease _ none => AbsWit A inv s.now
  | .rRelease _ (some i) => ValWit A k inv s.now s.heap i
  | .rVal i => ValWit A k inv s.now s.heap i
  | .lNode cur => Good A k inv s cur
  | _ => True

structure GInv (k : Nat) (s : State) (A : Nat → KSt) (pt : Nat → Nat) : Prop where
  h0 : A 0 = none
  hA : A s.now = absOf s k
  calls : ∀ c ∈ callsOnExt s k, CallOK A pt c
  stab : ∀ τ, 1 ≤ τ → τ ≤ s.now → A τ ≠ A (τ - 1) →
    ∃ c ∈ callsOnExt s k, isRead c.op = false ∧ pt c.inv = τ
  inj : ∀ c ∈ callsOnExt s k, ∀ d ∈ callsOnExt s k, isRead c.op = false → isRead d.op = false →
    pt c.inv = pt d.inv → c.inv = d.inv
  readers : ∀ (t : Nat) (l : Local) (p : Pending), s.threads[t]? = some l →
    l.call = some p → p.key = k → RdOK A k p.inv s l.pc

end Flurry.Proto.BinG
