import Flurry.Lemmas.BinRBInv
import Flurry.Lemmas.GhostView
/-! # Proto/BinRBase: ghost history and the hindsight invariant of the readers (C01, C13)

For a fixed key `k` the ghost state is `A : Nat → KSt` (`A τ` = abstract state of `k` after global
step `τ`) and `pt : Nat → Nat` (`pt i` = linearization point of the call invoked at time `i`).

* `callsOnExt`: the completed calls plus the calls of writers that have done their store.
* `Good A k inv s cur`: the hindsight justification of a lock-free reader (invoked at `inv`)
  holding the pointer `cur`:
  - `cur = none`: at some time in `[inv, now]` the key was absent;
  - `cur` on the chain: no node before it has key `k` (so "now" is a good time);
  - `cur` unlinked: its fields are frozen; if it has key `k` its value was the abstract value at
    some time in `[inv, now]`; otherwise its (frozen) successor is `Good` again.
  `Good.step`: `Good` survives every transition of every thread; `Good.head`, `Good.next`: the
  reader's own moves.
* `GInv`: the ghost invariant, a `Trace` of `Lemmas/GhostSig.lean` plus the readers' justifications.

`extOf`, `callsOnExt`, `CallOK` and the first five fields of `GInv` are those of `Lemmas/GhostView.lean` at `Lin2.sig`
and `view`, written out in the model's terms (`extOf_eq`, `callsOnExt_eq`, `GInv.trace`). -/
namespace Flurry.Proto.BinR.Base
open Flurry.Lin2

theorem isReader_eq_isRead (op : KOp2) : isReader op = isRead op := by cases op <;> rfl

/-- the call of a writer that has stored and only has to unlock, counted as responding at `now` -/
def extOf (k now t : Nat) (l : Local) : Option Call2 :=
  match l.pc, l.call with
  | .wUnlock _ res false, some p => if p.key = k then some ⟨t, p.op, res, p.inv, now⟩ else none
  | _, _ => none

def extCalls (s : State) (k : Nat) : History2 :=
  (List.range s.threads.length).filterMap (fun t => (s.threads[t]?).bind (extOf k s.now t))

/-- the completed calls on key `k`, plus the calls of writers that have already performed their
store and only have to unlock (they are counted as responding "now") -/
def callsOnExt (s : State) (k : Nat) : History2 := callsOn s k ++ extCalls s k

theorem extOf_eq (k now t : Nat) (l : Local) : extOf k now t l = GhostView.extOf Lin2.sig view k now t l := by
  obtain ⟨pc, call⟩ := l
  unfold extOf GhostView.extOf
  cases call <;> cases pc <;> first | rfl | (rename_i h res retry; cases retry <;> rfl)

theorem callsOnExt_eq (s : State) (k : Nat) :
    callsOnExt s k = GhostView.callsOnExt Lin2.sig view s.hist s.threads k s.now := by
  have : extOf k s.now = fun t l => GhostView.extOf Lin2.sig view k s.now t l :=
    funext fun t => funext fun l => extOf_eq k s.now t l
  unfold callsOnExt extCalls
  rw [this]; rfl

theorem callsOnExt_quiescent {s : State} (hq : quiescent s) (k : Nat) : callsOnExt s k = callsOn s k := by
  rw [callsOnExt_eq]
  exact GhostView.callsOnExt_quiescent k s.now (fun l hl => congrArg resOfPc (hq l hl))

inductive Good (A : Nat → KSt) (k inv : Nat) (s : State) : Option Nat → Prop
  | absent {τ : Nat} : inv ≤ τ → τ ≤ s.now → A τ = none → Good A k inv s none
  | on {c : Nat} : c ∈ chain s → (∀ i ∈ chain s, i < c → (nodeAt s.heap i).key ≠ k) →
      Good A k inv s (some c)
  | off {c : Nat} : c ∉ chain s → c < s.heap.length →
      ((nodeAt s.heap c).key ≠ k → Good A k inv s (nodeAt s.heap c).next) →
      ((nodeAt s.heap c).key = k → ∃ τ, inv ≤ τ ∧ τ ≤ s.now ∧ A τ = some (nodeAt s.heap c).val) →
      Good A k inv s (some c)

theorem Good.of_succ {A : Nat → KSt} {k inv : Nat} {s : State} (H : HInv s) (hA : A s.now = absOf s k)
    (hinv : inv ≤ s.now) {c : Nat} (hc : c ∈ chain s)
    (hbefore : ∀ i ∈ chain s, i < c → (nodeAt s.heap i).key ≠ k) (hk : (nodeAt s.heap c).key ≠ k) :
    Good A k inv s (nodeAt s.heap c).next := by
  have hn := getElem?_nodeAt (chain_lt H hc)
  cases hnx : (nodeAt s.heap c).next with
  | none =>
    have hle := (chain_isChain H).succ_none H.nextOK hc hn hnx
    refine .absent hinv (Nat.le_refl _) ?_
    rw [hA, absOf_eq_none_iff]
    intro i hi
    rcases Nat.lt_or_ge i c with hlt | hge
    · exact hbefore i hi hlt
    · have : i = c := Nat.le_antisymm (hle i hi) hge
      rw [this]; exact hk
  | some b =>
    obtain ⟨hb, hle⟩ := (chain_isChain H).succ_some H.nextOK hc hn hnx
    refine .on hb ?_
    intro i hi hib
    rcases Nat.lt_or_ge i c with hlt | hge
    · exact hbefore i hi hlt
    · have : i = c := Nat.le_antisymm (hle i hi hib) hge
      rw [this]; exact hk

/-- the pointer loaded from the bin cell -/
theorem Good.head {A : Nat → KSt} {k inv : Nat} {s : State} (H : HInv s) (hA : A s.now = absOf s k)
    (hinv : inv ≤ s.now) : Good A k inv s s.head := by
  cases hh : s.head with
  | none =>
    refine .absent hinv (Nat.le_refl _) ?_
    rw [hA, absOf_eq_none_iff, chain_head_none H hh]
    intro i hi; cases hi
  | some h =>
    obtain ⟨l, hl⟩ := chain_head_some H hh
    refine .on (by rw [hl]; simp) ?_
    intro i hi hih
    have hs := chain_sorted H
    rw [hl] at hs hi
    rcases List.mem_cons.1 hi with rfl | hi
    · omega
    · have := (List.pairwise_cons.1 hs).1 i hi
      omega

/-- the pointer loaded from the `next` cell of a node with another key -/
theorem Good.next {A : Nat → KSt} {k inv : Nat} {s : State} (H : HInv s) (hA : A s.now = absOf s k)
    (hinv : inv ≤ s.now) {c : Nat} (hg : Good A k inv s (some c)) (hk : (nodeAt s.heap c).key ≠ k) :
    Good A k inv s (nodeAt s.heap c).next := by
  cases hg with
  | on hc hbefore => exact Good.of_succ H hA hinv hc hbefore hk
  | off _ _ hnext _ => exact hnext hk

/-- a reader that finds key `k` in node `c` -/
theorem Good.hit {A : Nat → KSt} {k inv : Nat} {s : State} (H : HInv s) (hA : A s.now = absOf s k)
    (hinv : inv ≤ s.now) {c : Nat} (hg : Good A k inv s (some c)) (hk : (nodeAt s.heap c).key = k) :
    ∃ τ, inv ≤ τ ∧ τ ≤ s.now ∧ A τ = some (nodeAt s.heap c).val := by
  cases hg with
  | on hc _ =>
    exact ⟨s.now, hinv, Nat.le_refl _, by rw [hA]; exact (absOf_eq_some_iff H).2 ⟨c, hc, hk, rfl⟩⟩
  | off _ _ _ hval => exact hval hk

theorem Good.miss {A : Nat → KSt} {k inv : Nat} {s : State} (hg : Good A k inv s none) :
    ∃ τ, inv ≤ τ ∧ τ ≤ s.now ∧ A τ = none := by
  cases hg with
  | absent h1 h2 h3 => exact ⟨_, h1, h2, h3⟩

/-- **hindsight**: the justification of a reader survives every transition -/
theorem Good.step {A A' : Nat → KSt} {k inv : Nat} {s s' : State} {cur : Option Nat}
    (hg : Good A k inv s cur) (H : HInv s) (hs : HeapStep s s')
    (hnow : s'.now = s.now + 1) (hA' : ∀ τ, τ ≤ s.now → A' τ = A τ) (hA : A s.now = absOf s k)
    (hinv : inv ≤ s.now) : Good A' k inv s' cur := by
  induction hg with
  | absent h1 h2 h3 => exact .absent h1 (hnow ▸ Nat.le_succ_of_le h2) (by rw [hA' _ h2]; exact h3)
  | @on c hc hbefore =>
    have hcl := chain_lt H hc
    by_cases hc' : c ∈ chain s'
    · refine .on hc' ?_
      intro i hi hic
      rcases hs.noRelink i hi with hi0 | hi0
      · rw [hs.key i (chain_lt H hi0)]; exact hbefore i hi0 hic
      · omega
    · obtain ⟨hval, hnext, hrest⟩ := hs.unl c hc hc'
      have hkey := hs.key c hcl
      refine .off hc' (Nat.lt_of_lt_of_le hcl hs.len) ?_ ?_
      · intro hk
        rw [hkey] at hk
        rw [hnext]
        have hn := getElem?_nodeAt hcl
        cases hnx : (nodeAt s.heap c).next with
        | none =>
          have hle := (chain_isChain H).succ_none H.nextOK hc hn hnx
          refine .absent (τ := s.now) hinv (hnow ▸ Nat.le_succ _) ?_
          rw [hA' _ (Nat.le_refl _), hA, absOf_eq_none_iff]
          intro i hi
          rcases Nat.lt_or_ge i c with hlt | hge
          · exact hbefore i hi hlt
          · have : i = c := Nat.le_antisymm (hle i hi) hge
            rw [this]; exact hk
        | some b =>
          obtain ⟨hb, hle⟩ := (chain_isChain H).succ_some H.nextOK hc hn hnx
          have hcb := (H.nextOK c _ b hn hnx)
          have hb' : b ∈ chain s' := hrest b hb (by omega)
          refine .on hb' ?_
          intro i hi hib
          rcases hs.noRelink i hi with hi0 | hi0
          · rw [hs.key i (chain_lt H hi0)]
            rcases Nat.lt_or_ge i c with hlt | hge
            · exact hbefore i hi0 hlt
            · have : i = c := Nat.le_antisymm (hle i hi0 hib) hge
              rw [this]; exact hk
          · omega
      · intro hk
        rw [hkey] at hk
        refine ⟨s.now, hinv, hnow ▸ Nat.le_succ _, ?_⟩
        rw [hA' _ (Nat.le_refl _), hA, hval]
        exact (absOf_eq_some_iff H).2 ⟨c, hc, hk, rfl⟩
  | @off c hc hcl _ hval ih =>
    have hc' : c ∉ chain s' := by
      intro hm
      rcases hs.noRelink c hm with h0 | h0
      · exact hc h0
      · omega
    obtain ⟨hv, hn⟩ := hs.off c hcl hc
    have hkey := hs.key c hcl
    refine .off hc' (Nat.lt_of_lt_of_le hcl hs.len) ?_ ?_
    · intro hk
      rw [hkey] at hk
      rw [hn]
      exact ih hk
    · intro hk
      rw [hkey] at hk
      obtain ⟨τ, h1, h2, h3⟩ := hval hk
      exact ⟨τ, h1, hnow ▸ Nat.le_succ_of_le h2, by rw [hA' _ h2, hv]; exact h3⟩

def CallOK (A : Nat → KSt) (pt : Nat → Nat) (c : Call2) : Prop :=
  c.inv ≤ pt c.inv ∧ pt c.inv ≤ c.resp ∧
  (isRead c.op = true → specStep2 (A (pt c.inv)) c.op = (A (pt c.inv), c.res)) ∧
  (isRead c.op = false → 1 ≤ pt c.inv ∧ specStep2 (A (pt c.inv - 1)) c.op = (A (pt c.inv), c.res))

structure GInv (k : Nat) (s : State) (A : Nat → KSt) (pt : Nat → Nat) : Prop where
  h0 : A 0 = none
  hA : A s.now = absOf s k
  calls : ∀ c ∈ callsOnExt s k, CallOK A pt c
  stab : ∀ τ, 1 ≤ τ → τ ≤ s.now → A τ ≠ A (τ - 1) →
    ∃ c ∈ callsOnExt s k, isRead c.op = false ∧ pt c.inv = τ
  inj : ∀ c ∈ callsOnExt s k, ∀ d ∈ callsOnExt s k, isRead c.op = false → isRead d.op = false →
    pt c.inv = pt d.inv → c.inv = d.inv
  readers : ∀ (t : Nat) (l : Local) (p : Pending) (cur : Option Nat), s.threads[t]? = some l →
    l.call = some p → p.key = k → l.pc = .rNode cur → Good A k p.inv s cur

export Flurry.GhostView (nextA nextA_old nextA_new)

theorem GInv.trace {k : Nat} {s : State} {A : Nat → KSt} {pt : Nat → Nat} (g : GInv k s A pt) :
    GhostView.Trace Lin2.sig (GhostView.callsOnExt Lin2.sig view s.hist s.threads k s.now) s.now (absOf s k) A pt := by
  rw [← callsOnExt_eq]; exact ⟨g.h0, g.hA, g.calls, g.stab, g.inj⟩

end Flurry.Proto.BinR.Base
