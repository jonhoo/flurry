import Flurry.Lemmas.BinNHEff
import Flurry.Lemmas.BinNHMLin
/-! # Proto/BinNH: the complete invariant of the helper model (C01, C10)

`Full s G`: the generation-level invariant `Inv s` (`Lemmas/BinNHDefs.lean`), the structural invariant
`BinNHM.Inv s.n G` of the shared memory, the readers and the writers — `Proto/BinN`'s heap invariant with
any number of cells in mid-transfer (`Lemmas/BinNHM*.lean`: `G.mid j = some (lo, hg, fr)`, a map over the cells) — and
the link between
the helpers' program counters and the ghost: a helper between its split and its marker store is recorded in
`G.mid` with exactly the lists it remembers, and has stored exactly what its program counter says (`pcMid`);
every recorded split belongs to such a helper (`midHas`).

Every transition preserves `∃ G A pt, Full s G ∧ GInv k s.n G A pt` (`full_step` in `Lemmas/BinNHFullReach.lean`) —
the readers and writers by `BinNHM.ginv_step` (`BinNHM.ginv_rw`, the case analysis `BinN.ginv_step` uses for them as well;
the ghost unchanged), the helper parts
by the effect lemmas of `Lemmas/BinNHMTransfer.lean`, each of which frames the splits of the OTHER helpers. -/
namespace Flurry.Proto.BinNH
open Flurry.Lin
open Flurry.Proto.BinX (NodeS Cell Pending isReader dflt chainFrom cellHead cellOfHead get_set get_set_self get_set_ne
  cellOfHead_ne_moved nodeAt chainH nextA)
open Flurry.Proto.BinN (cellAt cellOf putCell setNode allMoved splitBinB bitAt lockAt LockSame GenInv ThrOK isT
  Holds vcell genOfPc cellT StepK tick setT finish TInv WInv getCell chId CellId)
open Flurry.Proto.BinNHM (Ghost IsMid HInv MemStep GInv Good)

/-- the helper is in the middle phase on cell `j` -/
def isMidH : HPc → Nat → Prop
  | .storeLow j' _ _ _, j => j' = j
  | .storeHigh j' _ _, j => j' = j
  | .storeMoved j' _, j => j' = j
  | _, _ => False

theorem isMidH_midPc {pc : HPc} {j : Nat} (h : isMidH pc j) : midPc pc := by
  cases pc with
  | storeLow _ _ _ _ | storeHigh _ _ _ | storeMoved _ _ => trivial
  | _ => exact h.elim

theorem isMidH_hvalid {pc : HPc} {j : Nat} (h : isMidH pc j) : ∃ h', hvalid pc = some (j, h') := by
  cases pc with
  | storeLow _ _ _ _ | storeHigh _ _ _ | storeMoved _ _ => cases h; exact ⟨_, rfl⟩
  | _ => exact h.elim

/-- how a helper's program counter constrains the ghost and the two children of the cell it has split -/
def PcMidH (n : BinN.State) (G : Ghost) : HPc → Prop
  | .storeLow j _ lo hg => ∃ fr, G.mid j = some (lo, hg, fr) ∧ cellAt n (n.cur + 1) j = .empty ∧
      cellAt n (n.cur + 1) (j + 2 ^ n.cur) = .empty
  | .storeHigh j _ hg => ∃ lo fr, G.mid j = some (lo, hg, fr) ∧ cellAt n (n.cur + 1) j = cellOfHead lo ∧
      cellAt n (n.cur + 1) (j + 2 ^ n.cur) = .empty
  | .storeMoved j _ => ∃ lo hg fr, G.mid j = some (lo, hg, fr) ∧ cellAt n (n.cur + 1) j = cellOfHead lo ∧
      cellAt n (n.cur + 1) (j + 2 ^ n.cur) = cellOfHead hg
  | _ => True

theorem pcMidH_of_not_mid (n : BinN.State) (G : Ghost) {pc : HPc} (h : ¬ midPc pc) : PcMidH n G pc := by
  cases pc with
  | storeLow _ _ _ _ | storeHigh _ _ _ | storeMoved _ _ => exact absurd trivial h
  | _ => trivial

structure Full (s : State) (G : Ghost) : Prop where
  base : Inv s
  inv : BinNHM.Inv s.n G
  pcMid : ∀ (t : Nat) (hp : Helper), s.hs[t]? = some (some hp) → PcMidH s.n G hp.pc
  midHas : ∀ j, IsMid G j → ∃ (t : Nat) (hp : Helper), s.hs[t]? = some (some hp) ∧ isMidH hp.pc j

namespace Full
variable {s : State} {G : Ghost}

/-- a cell that is being split: a helper of generation `cur` holds the validated lock of its head -/
theorem mid_lock (F : Full s G) {j : Nat} (hm : IsMid G j) :
    ∃ (t : Nat) (hp : Helper) (h : Nat), s.hs[t]? = some (some hp) ∧ isMidH hp.pc j ∧ hvalid hp.pc = some (j, h) ∧
      hp.g = s.n.cur ∧ cellAt s.n s.n.cur j = .node h ∧ lockAt s.n.heap h = some t := by
  obtain ⟨t, hp, hh, hmid⟩ := F.midHas j hm
  obtain ⟨h, hv⟩ := isMidH_hvalid hmid
  have H := F.base.hok t hp hh
  obtain ⟨e, -⟩ := H.valid_cur F.base.gen hv
  exact ⟨t, hp, h, hh, hmid, hv, e, by rw [← e]; exact H.valid j h hv, (H.held h (hvalid_holds hv).1).2⟩

/-- a thread that is not a helper does not hold the bin lock of a cell that is being split -/
theorem rw_not_lock (F : Full s G) {t : Nat} (hh : s.hs[t]? = some none) :
    ∀ j h, IsMid G j → cellAt s.n s.n.cur j = .node h → lockAt s.n.heap h ≠ some t := by
  intro j h hm hc hlk
  obtain ⟨t', hp, h', hh', -, -, -, hc', hlk'⟩ := F.mid_lock hm
  rw [hc] at hc'; cases hc'
  rw [hlk] at hlk'
  cases hlk'
  rw [hh] at hh'; cases hh'

/-- the cell a helper holds a validated lock on is recorded as being split only if that helper is in its
middle phase -/
theorem mid_none_of (F : Full s G) {t : Nat} {hp : Helper} {j h : Nat} (hh : s.hs[t]? = some (some hp))
    (hv : hvalid hp.pc = some (j, h)) (hnm : ¬ midPc hp.pc) : G.mid j = none := by
  cases hm : G.mid j with
  | none => rfl
  | some x =>
    exfalso
    have him : IsMid G j := by unfold IsMid; rw [hm]; rfl
    obtain ⟨t', hp', h', hh', hmid', hv', e', hc', hlk'⟩ := F.mid_lock him
    have H := F.base.hok t hp hh
    obtain ⟨e, -⟩ := H.valid_cur F.base.gen hv
    have hc := H.valid j h hv
    rw [e, hc'] at hc
    cases hc
    have := (H.held _ (hvalid_holds hv).1).2
    rw [hlk'] at this
    cases this
    rw [hh] at hh'; cases hh'
    exact hnm (isMidH_midPc hmid')

/-- no split is under way outside a resize -/
theorem mid_none_of_not_resizing (F : Full s G) (hr : s.n.resizing = false) (j : Nat) : G.mid j = none := by
  cases hm : G.mid j with
  | none => rfl
  | some x =>
    exfalso
    have him : IsMid G j := by unfold IsMid; rw [hm]; rfl
    obtain ⟨t', hp', h', hh', -, -, e', -, -⟩ := F.mid_lock him
    have := (F.base.hok t' hp' hh').res e'
    rw [hr] at this; cases this

/-- no split is under way when every cell is forwarded -/
theorem mid_none_of_allMoved (F : Full s G) (hall : ∀ j, j < 2 ^ s.n.cur → cellAt s.n s.n.cur j = .moved) (j : Nat) :
    G.mid j = none := by
  cases hm : G.mid j with
  | none => rfl
  | some x =>
    exfalso
    obtain ⟨hj, ⟨h, hc⟩, -⟩ := F.inv.heap.mid j x.1 x.2.1 x.2.2 hm
    rw [hall j hj] at hc; cases hc

end Full

end Flurry.Proto.BinNH
