import Flurry.Lemmas.RwLockInv
/-! # Lemmas/RwLockThms: the lock word, mutual exclusion, no lost wake-up, no stuck state

The statements with a hypothesis `Reachable n s` hold for every number `n` of readers; those
without one (`wBits_eq`, `waker_exists`, `reader_always_enabled`, `stepWriter_eq_none_iff`) hold of
every state. Nine statements are used by nothing; they unfold a definition, read off one clause of
`Inv`, or follow from `waiterSet_iff` / `mutual_exclusion` in a line: `writerHolds_iff`,
`waiterBit_iff`, `waiterSet_waiting`, `casWaiter_not_waiting`, `decide_waiting_hasBit`,
`reader_cas_free`, `lockState_eq_WRITER`, `no_reader_in_tree`, `no_lost_wakeup_decide`. -/
namespace Flurry.Proto.RwLock
open Flurry.Gen

theorem writerHolds_iff (s : State) : writerHolds s = true ↔ s.wpc = .hold ∨ s.wpc = .swapOut := by
  rcases s with ⟨ls, ws, tk, wpc, wt, rs⟩
  cases wpc <;> simp [writerHolds]

theorem waiterBit_iff (s : State) : waiterBit s = true ↔
    s.waiting = true ∧ (s.wpc = .publish ∨ s.wpc = .load ∨ (∃ st, s.wpc = .decide st) ∨
      (∃ st, s.wpc = .casWriter st) ∨ s.wpc = .park) := by
  rcases s with ⟨ls, ws, tk, wpc, wt, rs⟩
  cases wpc <;> simp [waiterBit]

theorem wBits_eq (s : State) : wBits s.wpc s.waiting =
    (if writerHolds s then WRITER else 0) + (if waiterBit s then WAITER else 0) := by
  rcases s with ⟨ls, ws, tk, wpc, wt, rs⟩
  cases wpc <;> cases wt <;> simp [wBits, writerHolds, waiterBit]

theorem lockState_eq {n : Nat} {s : State} (h : Reachable n s) :
    s.lockState = (if writerHolds s then WRITER else 0) + (if waiterBit s then WAITER else 0)
      + READER * (numHolding s.readers : Int) := by
  have := (inv_of_reachable h).lock
  rw [wBits_eq] at this
  exact this

theorem lockState_eq' {n : Nat} {s : State} (h : Reachable n s) :
    s.lockState = (if writerHolds s then 1 else 0) + (if waiterBit s then 2 else 0)
      + 4 * (numHolding s.readers : Int) := by
  have := lockState_eq h
  simpa [WRITER, WAITER, READER] using this

theorem waiterSet_iff {n : Nat} {s : State} (h : Reachable n s) : s.waiterSet = true ↔
    s.waiting = true ∧ (s.wpc = .load ∨ (∃ st, s.wpc = .decide st) ∨
      (∃ st, s.wpc = .casWriter st) ∨ s.wpc = .park ∨ s.wpc = .swapOut) := by
  have hw := (inv_of_reachable h).writer
  rcases s with ⟨ls, ws, tk, wpc, wt, rs⟩
  cases wpc <;> simp_all [WInv]

theorem waiterSet_waiting {n : Nat} {s : State} (h : Reachable n s) (hw : s.waiterSet = true) :
    s.waiting = true := ((waiterSet_iff h).mp hw).1

theorem casWaiter_not_waiting {n : Nat} {s : State} (h : Reachable n s) {st : Int}
    (hpc : s.wpc = .casWaiter st) : s.waiting = false ∧ hasBit st WAITER = false := by
  have hw := (inv_of_reachable h).writer
  rcases s with ⟨ls, ws, tk, wpc, wt, rs⟩
  simp only at hpc; subst hpc
  simp_all [WInv]

theorem decide_waiting_hasBit {n : Nat} {s : State} (h : Reachable n s) {st : Int}
    (hpc : s.wpc = .decide st) (hwt : s.waiting = true) : hasBit st WAITER = true := by
  have hw := (inv_of_reachable h).writer
  rcases s with ⟨ls, ws, tk, wpc, wt, rs⟩
  simp only at hpc hwt; subst hpc
  simp_all [WInv]

theorem reader_cas_free {n : Nat} {s : State} (h : Reachable n s) {i : Nat} {st : Int}
    (hi : s.readers[i]? = some (.cas st)) : hasBit st WAITER = false ∧ hasBit st WRITER = false :=
  (inv_of_reachable h).readers _ (List.mem_iff_getElem?.mpr ⟨i, hi⟩)

theorem mutual_exclusion {n : Nat} {s : State} (h : Reachable n s)
    (hw : s.wpc = .hold ∨ s.wpc = .swapOut) : numHolding s.readers = 0 := by
  have hw' := (inv_of_reachable h).writer
  rcases s with ⟨ls, ws, tk, wpc, wt, rs⟩
  rcases hw with hw | hw <;> cases hw
  · exact hw'.2
  · exact hw'.2.2

theorem lockState_eq_WRITER {n : Nat} {s : State} (h : Reachable n s)
    (hw : s.wpc = .hold ∨ s.wpc = .swapOut) : s.lockState = WRITER := by
  have hl := (inv_of_reachable h).lock
  rw [show cnt holdsRead s.readers = 0 from mutual_exclusion h hw] at hl
  rcases hw with hw | hw <;> rw [hl, hw] <;> rfl

theorem no_reader_in_tree {n : Nat} {s : State} (h : Reachable n s)
    (hw : s.wpc = .hold ∨ s.wpc = .swapOut) (i : Nat) (pc : RPc) (hi : s.readers[i]? = some pc) :
    holdsRead pc = false := by
  have h0 := mutual_exclusion h hw
  cases hp : holdsRead pc with
  | false => rfl
  | true =>
    have : 1 ≤ cnt holdsRead s.readers := (cnt_pos_iff _ _).mpr ⟨i, pc, hi, hp⟩
    rw [numHolding_eq_cnt] at h0
    omega

/-- who is going to set the token: a reader that still holds the lock (the last one out sees
`READER + WAITER`, loads the published handle and unparks), one at `unpark`, or one at
`loadWaiter` -/
theorem waker_exists {rs : List RPc}
    (hk : 1 ≤ cnt holdsRead rs + cnt isUnpark rs + cnt isLoadWaiter rs) :
    1 ≤ numHolding rs ∨ (∃ i : Nat, rs[i]? = some .unpark) ∨ (∃ i : Nat, rs[i]? = some .loadWaiter) := by
  by_cases h1 : 1 ≤ cnt holdsRead rs
  · exact .inl h1
  · by_cases h2 : 1 ≤ cnt isUnpark rs
    · obtain ⟨i, pc, hi, hp⟩ := (cnt_pos_iff _ _).mp h2
      exact .inr (.inl ⟨i, (isUnpark_iff pc).mp hp ▸ hi⟩)
    · obtain ⟨i, pc, hi, hp⟩ := (cnt_pos_iff _ _).mp (show 1 ≤ cnt isLoadWaiter rs by omega)
      exact .inr (.inr ⟨i, (isLoadWaiter_iff pc).mp hp ▸ hi⟩)

/-- the writer about to park without a token has a waker in the sense of `waker_exists`, and its
handle is published for those that still have to load it (clause `park` of `WInv`) -/
theorem no_lost_wakeup {n : Nat} {s : State} (h : Reachable n s)
    (hp : s.wpc = .park) (ht : s.token = false) :
    (1 ≤ numHolding s.readers ∧ s.waiterSet = true) ∨
    (∃ i : Nat, s.readers[i]? = some .unpark) ∨
    (∃ i : Nat, s.readers[i]? = some .loadWaiter ∧ s.waiterSet = true) := by
  have hw := (inv_of_reachable h).writer
  rcases s with ⟨ls, ws, tk, wpc, wt, rs⟩
  cases hp; cases ht
  exact (waker_exists (hw.2.2.resolve_left Bool.false_ne_true)).imp (⟨·, hw.2.1⟩)
    (.imp_right fun ⟨i, hi⟩ => ⟨i, hi, hw.2.1⟩)

/-- the same one step earlier: the writer has read a state with `WAITER` and readers and will go
to `park` -/
theorem no_lost_wakeup_decide {n : Nat} {s : State} (h : Reachable n s) {st : Int}
    (hp : s.wpc = .decide st) (hwt : s.waiting = true) (hst : freeExceptWaiter st = false)
    (ht : s.token = false) :
    (1 ≤ numHolding s.readers ∧ s.waiterSet = true) ∨
    (∃ i : Nat, s.readers[i]? = some .unpark) ∨
    (∃ i : Nat, s.readers[i]? = some .loadWaiter ∧ s.waiterSet = true) := by
  have hw := (inv_of_reachable h).writer
  rcases s with ⟨ls, ws, tk, wpc, wt, rs⟩
  cases hp; cases ht
  have hws := hw.1.trans hwt
  exact (waker_exists (((hw.2 hwt).2 hst).resolve_left Bool.false_ne_true)).imp (⟨·, hws⟩)
    (.imp_right fun ⟨i, hi⟩ => ⟨i, hi, hws⟩)

theorem reader_always_enabled (s : State) (i : Nat) (more : Bool) (hi : i < s.readers.length) :
    (stepReader s i more).isSome = true := by
  rw [stepReader_eq, List.getElem?_eq_getElem hi]; rfl

/-- the only disabled transition of the whole model is `park` without a token -/
theorem stepWriter_eq_none_iff (s : State) :
    stepWriter s = none ↔ s.wpc = .park ∧ s.token = false := by
  rcases s with ⟨ls, ws, tk, wpc, wt, rs⟩
  cases wpc <;> simp only [stepWriter] <;> (repeat' split) <;> simp [*]

theorem writer_enabled_of_readers_idle {n : Nat} {s : State} (h : Reachable n s)
    (hidle : ∀ (i : Nat) (pc : RPc), s.readers[i]? = some pc → pc = .idle) :
    stepWriter s ≠ none := by
  intro hn
  obtain ⟨hp, ht⟩ := (stepWriter_eq_none_iff s).mp hn
  rcases no_lost_wakeup h hp ht with ⟨h1, -⟩ | ⟨i, hi⟩ | ⟨i, hi, -⟩
  · have : cnt holdsRead s.readers = 0 := cnt_eq_zero_of_all _ _ (by
      intro i pc hi; rw [hidle i pc hi]; rfl)
    rw [numHolding_eq_cnt] at h1; omega
  · cases hidle i _ hi
  · cases hidle i _ hi

theorem not_stuck {n : Nat} {s : State} (h : Reachable n s) :
    ∃ (a : Actor) (more : Bool) (s' : State), step s a more = some s' := by
  by_cases hl : 0 < s.readers.length
  · have := reader_always_enabled s 0 false hl
    obtain ⟨s', hs'⟩ := Option.isSome_iff_exists.mp this
    exact ⟨.reader 0, false, s', hs'⟩
  · have hnil : s.readers = [] := List.eq_nil_of_length_eq_zero (by omega)
    have := writer_enabled_of_readers_idle h (by intro i pc hi; simp [hnil] at hi)
    cases hs : stepWriter s with
    | none => exact absurd hs this
    | some s' => exact ⟨.writer, false, s', hs⟩

end Flurry.Proto.RwLock
