import Flurry.Lemmas.BinNAInvStep
/-! # Proto/BinNA: the content of every bin is well-formed (side invariant)

`CellWF g j c`: a list cell `(g, j)` is non-empty, its keys are pairwise distinct and all belong to
cell `j` of generation `g`. `wf_step`: preserved by every transition (the writer's copy-on-write store,
the lock-free insert, the split of a transfer). Not needed for linearizability (lookups and stores are
defined for arbitrary lists), proved as a sanity property of the model. -/
namespace Flurry.Proto.BinNA
open Flurry.Lin

def keys (xs : List Entry) : List Nat := xs.map (·.1)

def CellWF (g j : Nat) : Cell → Prop
  | .list xs => xs ≠ [] ∧ (keys xs).Nodup ∧ ∀ e ∈ xs, ix g e.1 = j
  | _ => True

def WF (s : State) : Prop := ∀ g j, CellWF g j (getCell s g j)

theorem lookup_eq_none_iff {k : Nat} {xs : List Entry} : lookup k xs = none ↔ k ∉ keys xs := by
  induction xs with
  | nil => exact ⟨fun _ => List.not_mem_nil, fun _ => rfl⟩
  | cons e xs ih =>
    rw [lookup_cons]
    show _ ↔ k ∉ e.1 :: keys xs
    rw [List.mem_cons, not_or]
    by_cases he : e.1 = k
    · rw [if_pos he]; exact ⟨nofun, fun h => absurd he.symm h.1⟩
    · rw [if_neg he, ih]; exact ⟨fun h => ⟨fun e' => he e'.symm, h⟩, fun h => h.2⟩

theorem cellWF_mkCell {g j : Nat} {xs : List Entry} (hn : (keys xs).Nodup) (hk : ∀ e ∈ xs, ix g e.1 = j) :
    CellWF g j (mkCell xs) := by
  cases xs with
  | nil => trivial
  | cons e xs => exact ⟨by simp, hn, hk⟩

theorem keys_filter_nodup {xs : List Entry} (q : Entry → Bool) (hn : (keys xs).Nodup) :
    (keys (xs.filter q)).Nodup := by
  unfold keys at hn ⊢
  exact hn.sublist (List.filter_sublist.map _)

theorem cellWF_newContent {g : Nat} {key : Nat} {xs : List Entry} {st : KSt}
    (hn : (keys xs).Nodup) (hk : ∀ e ∈ xs, ix g e.1 = ix g key) :
    CellWF g (ix g key) (mkCell (newContent key xs st)) := by
  cases st with
  | none =>
    refine cellWF_mkCell (keys_filter_nodup _ hn) ?_
    intro e he
    exact hk e (List.mem_filter.1 he).1
  | some v =>
    show CellWF g (ix g key) (mkCell (if (lookup key xs).isSome then
      xs.map (fun e => if e.1 == key then (key, v) else e) else xs ++ [(key, v)]))
    split
    · refine cellWF_mkCell ?_ ?_
      · have : keys (xs.map (fun e => if e.1 == key then (key, v) else e)) = keys xs := by
          unfold keys
          rw [List.map_map]
          apply List.map_congr_left
          intro e _
          show (if e.1 == key then (key, v) else e).1 = e.1
          by_cases h : e.1 = key
          · simp [h]
          · simp [h]
        rw [this]; exact hn
      · intro e he
        obtain ⟨e0, he0, rfl⟩ := List.mem_map.1 he
        by_cases h : e0.1 = key
        · simp [h]
        · simp only [beq_iff_eq, h, if_false]; exact hk e0 he0
    · rename_i hnone
      have hnone' : lookup key xs = none := by
        cases h : lookup key xs with
        | none => rfl
        | some w => rw [h] at hnone; simp at hnone
      refine cellWF_mkCell ?_ ?_
      · unfold keys
        rw [List.map_append]
        refine List.nodup_append.2 ⟨hn, by simp, ?_⟩
        intro a ha b hb
        simp only [List.map_cons, List.map_nil, List.mem_singleton] at hb
        subst hb
        intro hab
        subst hab
        exact lookup_eq_none_iff.1 hnone' ha
      · intro e he
        rcases List.mem_append.1 he with h | h
        · exact hk e h
        · simp only [List.mem_singleton] at h; subst h; rfl

theorem wf_cell {s : State} {t : Nat} {l' : Local} {hnew : List (Nat × Call)} {g j : Nat} {c : Cell} (W : WF s)
    (hc : CellWF g j c) : WF (post s t l' hnew (.cell g j c)) := by
  intro g' j'
  show CellWF g' j' (getCell (setCell s g j c) g' j')
  rw [getCell_setCell]
  split
  · rename_i h
    obtain ⟨rfl, rfl, _⟩ := h
    exact hc
  · exact W g' j'

theorem wf_of_same {s s' : State} (W : WF s) (hc : ∀ g j, getCell s' g j = getCell s g j) : WF s' := by
  intro g j; rw [hc]; exact W g j

theorem wf_step {s s' : State} {t : Nat} {l : Local} (I : Inv s) (W : WF s) (hl : s.threads[t]? = some l)
    (hstep : StepK s t l s') : WF s' := by
  have hpc0 := I.pc t l hl
  cases hstep with
  | resize call hr => exact wf_of_same W getCell_post_alloc
  | cas p g0 v vi hc hop =>
    exact wf_cell W ⟨List.cons_ne_nil _ _, List.pairwise_singleton _ _, fun e he => List.mem_singleton.1 he ▸ rfl⟩
  | store p g0 =>
    refine wf_cell W ?_
    have hw := W g0 (ix g0 p.key)
    have hlist : isList (getCell s g0 (ix g0 p.key)) = true := hpc0.2.2
    unfold storeCell
    cases hc : getCell s g0 (ix g0 p.key) with
    | list xs =>
      rw [hc] at hw
      exact cellWF_newContent hw.2.1 hw.2.2
    | _ => rw [hc] at hlist; cases hlist
  | casMoved | storeMoved => exact wf_cell W trivial
  | storeLow j lo hi =>
    obtain ⟨h1, h2, h3, xs, h4, h5, -⟩ := hpc0
    have hw := W s.cur j
    rw [h4] at hw
    refine wf_cell W (h5 ▸ cellWF_mkCell (keys_filter_nodup _ hw.2.1) ?_)
    intro e he
    obtain ⟨hm, hb⟩ := List.mem_filter.1 he
    rw [ix_succ, if_neg (by simpa using hb)]
    exact hw.2.2 e hm
  | storeHigh j hi =>
    obtain ⟨h1, h2, h3, xs, h4, h5, h6, -⟩ := hpc0
    have hw := W s.cur j
    rw [h4] at hw
    refine wf_cell W (h6 ▸ cellWF_mkCell (keys_filter_nodup _ hw.2.1) ?_)
    intro e he
    obtain ⟨hm, hb⟩ := List.mem_filter.1 he
    rw [ix_succ, if_pos hb, hw.2.2 e hm]
  | _ => exact wf_of_same W (getCell_congr rfl)

theorem wf_init (n : Nat) : WF (init n) := fun g j => getCell_init n g j ▸ trivial

theorem reachable_wf {n : Nat} {s : State} (hr : Reachable n s) : WF s :=
  reachable_induction (wf_init n) (fun hr W hl h => wf_step (reachable_inv hr) W hl h) hr

end Flurry.Proto.BinNA
