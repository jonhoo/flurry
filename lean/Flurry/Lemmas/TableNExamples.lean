import Flurry.Lemmas.TableN
/-! # Proto/TableN: non-vacuity — a concrete reachable quiescent table, one lineage resized TWICE, the other once

Two lineages (`m = 2`: key `k` in lineage `k % 2` under the local name `k / 2`, so keys 0, 2, 4, 6 are
the local keys 0, 1, 2, 3 of lineage 0 and keys 1, 3, 5, 7 those of lineage 1), two threads, 114
transitions on one clock.

* **before**: thread 0 inserts keys 0 and 2 (lineage 0: CAS into the empty cell, then an append under
  the head lock) while thread 1 inserts keys 1 and 3 (lineage 1);
* **lineage 0 is resized by thread 0** (generation 0 → 1; the one cell is split: node 1 — the last run —
  is re-used, node 0 is copied); thread 1's `get(2)` is invoked after the resize started, loads
  generation 0 and the old cell, stands on node 0 of the old list while the low cell, the high cell and
  the forwarding marker are stored (`example_during`), walks on in the old list and returns after the
  commit of thread 0;
* **lineage 1 is resized by thread 1** (0 → 1) — thread 0's `insert(3)` is invoked when lineage 0 is at
  generation 1 and lineage 1 still at generation 0 (`example_between`), and completes in generation 0 of
  lineage 1 before thread 1 takes the head lock;
* **lineage 0 is resized AGAIN, by thread 1** (1 → 2, cell 1 first, then cell 0) — thread 0's `insert(4)`
  (local key 2: cell `(1,0)`, after the split cell `(2,2)`) is invoked during this resize, finds node 2 at
  the head of cell `(1,0)`, waits for the lock that the resizing thread holds, gets it after the
  forwarding marker is stored, fails its re-check, unlocks, looks at the cell again, follows the marker
  into generation 2 and CASes into the empty cell `(2,2)` after the commit (`example_second_resize`);
* **after**: `get(2)` (lineage 0, generation 2), `remove(1)` (lineage 1, generation 1), `insert(6)`
  (lineage 0, cell `(2,3)`, a new key in the newest table), `get(3)` (lineage 1).

The final state is reachable and quiescent; lineage 0 is at generation 2 (generations 0 and 1 forwarded),
lineage 1 at generation 1 — the lineages ARE at different generations, which the model allows and the code
does not (header of `Proto/TableN.lean`); the map history holds the eleven calls under their ORIGINAL
keys with times on ONE clock (calls of different lineages overlap), and the abstract map is
`{0 ↦ (10,100), 2 ↦ (20,200), 3 ↦ (41,401), 4 ↦ (50,500), 6 ↦ (60,600)}`. `step` refuses a call on a key of
another lineage and a thread that is busy in another lineage — in particular a thread that is in the
middle of the resize of one lineage cannot start the resize of another. -/
namespace Flurry.Proto.TableN
open Flurry.Lin Flurry.LinMap
open Flurry.Proto.BinX (Cell)

/-- `(lineage, thread, invocation (key of the table), resize, pick)` -/
abbrev Sch := Nat × Nat × Option (Nat × KOp) × Bool × Nat

def run (S : State) : List Sch → Option State
  | [] => some S
  | (i, t, inv, rz, pick) :: rest =>
    match step S i t inv rz pick with
    | some S' => run S' rest
    | none => none

theorem run_reachable {m n : Nat} : ∀ (sched : List Sch) {S S' : State},
    Reachable m n S → run S sched = some S' → Reachable m n S'
  | [], S, S', hr, h => by
    simp only [run, Option.some.injEq] at h
    exact h ▸ hr
  | (i, t, inv, rz, pick) :: rest, S, S', hr, h => by
    simp only [run] at h
    cases hs : step S i t inv rz pick with
    | none => rw [hs] at h; cases h
    | some S1 =>
      rw [hs] at h
      exact run_reachable rest (Reachable.step i t inv rz pick hr hs) h

/-- thread `t` starts a call on key `k` (of the table) in lineage `i` -/
abbrev call (i t k : Nat) (op : KOp) : List Sch := [(i, t, some (k, op), false, 0)]
/-- `n` further steps of thread `t` in lineage `i` -/
abbrev go (i t n : Nat) : List Sch := List.replicate n (i, t, none, false, 0)
/-- thread `t` starts a resize of lineage `i` (allocates its next generation) -/
abbrev resize (i t : Nat) : List Sch := [(i, t, none, true, 0)]
/-- the resizing thread `t` of lineage `i` turns to cell `j` of the current generation and takes `n` more steps -/
abbrev xfer (i t j n : Nat) : List Sch := [(i, t, none, false, j)] ++ go i t n

def exBefore : List Sch :=
  call 0 0 0 (.ins 10 100) ++ call 1 1 1 (.ins 11 101) ++ go 0 0 3 ++ go 1 1 3 ++
  call 0 0 2 (.ins 20 200) ++ call 1 1 3 (.ins 30 300) ++ go 1 1 8 ++ go 0 0 8

/-- thread 0 starts the resize of lineage 0 (`tNext`, `tCell`); thread 1 calls `get(2)` and loads the
generation and the old cell; thread 0 locks, re-checks, splits, stores low, high and the marker -/
def exResize0a : List Sch :=
  resize 0 0 ++ xfer 0 0 0 1 ++ call 0 1 2 .get ++ go 0 1 2 ++ go 0 0 6

/-- … thread 1 walks on in the old list, thread 0 unlocks and commits, thread 1 finds its key -/
def exResize0 : List Sch := exResize0a ++ go 0 1 1 ++ go 0 0 3 ++ go 0 1 1

/-- thread 0 updates key 3 in generation 0 of lineage 1; thread 1 resizes lineage 1 -/
def exResize1 : List Sch :=
  call 1 0 3 (.ins 41 401) ++ go 1 0 1 ++ resize 1 1 ++ xfer 1 1 0 1 ++ go 1 0 7 ++ go 1 1 9

/-- thread 1 starts the SECOND resize of lineage 0 and transfers cell `(1,1)`; thread 0 calls `insert(4)`
and loads generation 1 and the head of cell `(1,0)`; thread 1 locks that head, splits, stores low, high -/
def exResize2a : List Sch :=
  resize 0 1 ++ xfer 0 1 1 8 ++ call 0 0 4 (.ins 50 500) ++ go 0 0 2 ++ xfer 0 1 0 6

/-- … thread 1 stores the marker and unlocks; thread 0 locks, fails the re-check, unlocks; thread 1
commits; thread 0 follows the marker and CASes into the empty cell `(2,2)` -/
def exResize2 : List Sch := exResize2a ++ go 0 1 2 ++ go 0 0 3 ++ go 0 1 2 ++ go 0 0 3

def exAfter : List Sch :=
  call 0 0 2 .get ++ call 1 1 1 .rm ++ go 0 0 3 ++ go 1 1 7 ++
  call 0 1 6 (.ins 60 600) ++ call 1 0 3 .get ++ go 0 1 3 ++ go 1 0 3

def exSchedule : List Sch := exBefore ++ exResize0 ++ exResize1 ++ exResize2 ++ exAfter

def exHist : MHistory :=
  [ ⟨0, ⟨0, .ins 10 100, .none, 1, 5⟩⟩, ⟨2, ⟨0, .ins 20 200, .none, 9, 26⟩⟩,
    ⟨2, ⟨1, .get, .some 20 200, 30, 43⟩⟩, ⟨4, ⟨0, .ins 50 500, .none, 75, 94⟩⟩,
    ⟨2, ⟨0, .get, .some 20 200, 95, 99⟩⟩, ⟨6, ⟨1, .ins 60 600, .none, 107, 111⟩⟩,
    ⟨1, ⟨1, .ins 11 101, .none, 2, 8⟩⟩, ⟨3, ⟨1, .ins 30 300, .none, 10, 18⟩⟩,
    ⟨3, ⟨0, .ins 41 401, .some 30 300, 44, 55⟩⟩, ⟨1, ⟨1, .rm, .some 11 101, 96, 106⟩⟩,
    ⟨3, ⟨0, .get, .some 41 401, 108, 114⟩⟩ ]

/-- the abstract map on the keys `0 … 7` -/
def exAbs : List KSt :=
  [some (10, 100), none, some (20, 200), some (41, 401), some (50, 500), none, some (60, 600), none]

/-- per lineage: the cells of all generations, the generation of the table pointer, a resize is running, clock -/
def shape (S : State) : List (List (List Cell) × Nat × Bool × Nat) :=
  S.bins.map fun b => (b.tabs, b.cur, b.resizing, b.now)

/-- lineage 0: generations 0 and 1 forwarded, generation 2 current; lineage 1: generation 0 forwarded,
generation 1 current -/
def exShape : List (List (List Cell) × Nat × Bool × Nat) :=
  [([[.moved], [.moved, .moved], [.node 2, .node 1, .node 3, .node 4]], 2, false, 114),
   ([[.moved], [.empty, .node 1]], 1, false, 114)]

/-- a check of the state a schedule ends in -/
def checkRun (sched : List Sch) (P : State → Bool) : Bool :=
  match run (init 2 2) sched with
  | some S => P S
  | none => false

theorem checkRun_sound {sched : List Sch} {P : State → Bool} (h : checkRun sched P = true) :
    ∃ S, Reachable 2 2 S ∧ P S = true := by
  unfold checkRun at h
  cases hrun : run (init 2 2) sched with
  | none => rw [hrun] at h; cases h
  | some S => rw [hrun] at h; exact ⟨S, run_reachable sched Reachable.init hrun, h⟩

def exCheck : Bool :=
  checkRun exSchedule fun S =>
    S.bins.all (fun b => b.threads.all (fun l => l.pc == .idle)) && mhist S == exHist &&
      (List.range 8).map (absMap S) == exAbs && shape S == exShape

theorem exCheck_true : exCheck = true := by decide +kernel

/-- a reachable quiescent table with two lineages, one resized twice and one once, whose history holds
calls on keys of both lineages before, during and after the resizes -/
theorem example_state :
    ∃ S : State, Reachable 2 2 S ∧ quiescent S ∧ mhist S = exHist ∧ (List.range 8).map (absMap S) = exAbs ∧
      shape S = exShape := by
  obtain ⟨S, hr, h⟩ := checkRun_sound exCheck_true
  simp only [Bool.and_eq_true, List.all_eq_true, beq_iff_eq] at h
  obtain ⟨⟨⟨hq, hh⟩, ha⟩, hs⟩ := h
  exact ⟨S, hr, fun b hb l hl => hq b hb l hl, hh, ha, hs⟩

/-- the lineages of that state are at different generations: lineage 0 at generation 2, lineage 1 at generation 1 -/
theorem example_generations : ∃ S : State, Reachable 2 2 S ∧ quiescent S ∧ S.bins.map (·.cur) = [2, 1] := by
  obtain ⟨S, hr, hq, -, -, hs⟩ := example_state
  refine ⟨S, hr, hq, ?_⟩
  have h2 : (shape S).map (·.2.1) = S.bins.map (·.cur) := by
    unfold shape
    rw [List.map_map]
    rfl
  rw [← h2, hs]
  rfl

/-- during the first resize of lineage 0 (clock 38): the two cells of generation 1 and the forwarding
marker are stored, the table pointer still is generation 0, the resizing thread holds the head lock, and
the reader stands on node 0 of the old list; lineage 1 is untouched -/
def exDuring : Bool :=
  match run (init 2 2) (exBefore ++ exResize0a) with
  | some S =>
    shape S == [([[.moved], [.node 2, .node 1]], 0, true, 38), ([[.node 0]], 0, false, 38)] &&
      (S.bins.map fun b => b.threads.map (·.pc)) == [[.tUnlock 0 0, .rNode (some 0)], [.idle, .idle]]
  | none => false

theorem example_during : exDuring = true := by decide +kernel

/-- lineages at different generations (clock 44): lineage 0 is at generation 1, lineage 1 at generation 0
(not even allocated the next one) and thread 0 has just been invoked there -/
def exBetween : Bool :=
  match run (init 2 2) (exBefore ++ exResize0 ++ call 1 0 3 (.ins 41 401)) with
  | some S =>
    shape S == [([[.moved], [.node 2, .node 1]], 1, false, 44), ([[.node 0]], 0, false, 44)] &&
      (S.bins.map fun b => b.threads.map (·.pc)) == [[.idle, .idle], [.wTable, .idle]]
  | none => false

theorem example_between : exBetween = true := by decide +kernel

/-- during the SECOND resize of lineage 0 (clock 84): cell `(1,1)` is forwarded, cell `(1,0)` is split
into `(2,0)` and `(2,2)` but not yet forwarded; thread 0 (`insert(4)`) is about to lock the head of
`(1,0)`, which the resizing thread holds; lineage 1 is at generation 1 -/
def exSecond : Bool :=
  match run (init 2 2) (exBefore ++ exResize0 ++ exResize1 ++ exResize2a) with
  | some S =>
    shape S == [([[.moved], [.node 2, .moved], [.node 2, .node 1, .empty, .empty]], 1, true, 84),
                ([[.moved], [.node 2, .node 1]], 1, false, 84)] &&
      (S.bins.map fun b => b.threads.map (·.pc)) == [[.wLock 1 2, .tStoreMoved 0 2], [.idle, .idle]]
  | none => false

theorem example_second_resize : exSecond = true := by decide +kernel

/-- refused: a call on a key of another lineage (key 1 belongs to lineage 1, key 2 to lineage 0); a
thread that is busy in another lineage — with a call, or in the middle of a resize (so a thread resizes
the lineages one at a time; another thread may resize another lineage meanwhile) -/
theorem example_refused :
    (step (init 2 2) 0 0 (some (1, .ins 1 1)) false 0).isNone = true ∧
    (step (init 2 2) 1 0 (some (2, .ins 1 1)) false 0).isNone = true ∧
    (run (init 2 2) (call 0 0 2 (.ins 1 1) ++ call 1 0 1 .get)).isNone = true ∧
    (run (init 2 2) (call 0 0 2 (.ins 1 1) ++ go 1 0 1)).isNone = true ∧
    (run (init 2 2) (resize 0 0 ++ go 0 0 1 ++ resize 1 0)).isNone = true ∧
    (run (init 2 2) (resize 0 0 ++ go 0 0 1 ++ resize 1 1 ++ go 1 1 1 ++ go 0 0 1)).isSome = true := by decide +kernel

end Flurry.Proto.TableN
