import Flurry.Lemmas.Lin2Basic
/-! # The brute-force witness search is sound and complete

`search.go` spends one unit of fuel on every index it takes out of `rem` and one more on the empty `rem`, where it
compares the state with `fin`: hence the fuel `h.length + 1`, and `rem.length < fuel` in `go_complete`.
`tryNext` names the function under `firstM` in `search.go`, so that `go_cons_eq` unfolds `go` once and the two
directions are proved for one candidate (`tryNext_eq_some`, `tryNext_isSome`) apart from the recursion.
`go` tests a candidate `i` against the `j ≠ i` of `rem` and goes on with `rem.erase i`; that this tests `i` against
all that is left needs `i ∉ rem.erase i`, which is why `go_sound` carries `rem.Nodup`. -/
namespace Flurry.Lin2

theorem firstM_eq_some {α β : Type} {f : α → Option β} {b : β} :
    ∀ {l : List α}, l.firstM f = some b → ∃ x ∈ l, f x = some b
  | [], hl => by simp [List.firstM] at hl
  | a :: l, hl => by
    have hl' : (f a).or (l.firstM f) = some b := by simpa [List.firstM] using hl
    rcases Option.or_eq_some_iff.1 hl' with h1 | ⟨_, h2⟩
    · exact ⟨a, List.mem_cons_self, h1⟩
    · obtain ⟨x, hx, hfx⟩ := firstM_eq_some h2
      exact ⟨x, List.mem_cons_of_mem _ hx, hfx⟩

theorem firstM_isSome {α β : Type} {f : α → Option β} :
    ∀ {l : List α}, (∃ x ∈ l, (f x).isSome = true) → (l.firstM f).isSome = true
  | [], hl => by simp at hl
  | a :: l, ⟨x, hx, hfx⟩ => by
    have : ((a :: l).firstM f) = (f a).or (l.firstM f) := by simp [List.firstM]
    rw [this]
    cases hfa : f a with
    | some y => simp
    | none =>
      rcases List.mem_cons.1 hx with rfl | hx'
      · simp [hfa] at hfx
      · simpa using firstM_isSome ⟨x, hx', hfx⟩

/-- the body of `search.go` for one candidate `i` -/
def tryNext (h : History2) (fin : KSt) (fuel : Nat) (rem acc : List Nat) (st : KSt) (i : Nat) :
    Option (List Nat) :=
  match h[i]? with
  | none => none
  | some c =>
    if rem.all (fun j => j == i || match h[j]? with | some d => mayPrecede c d | none => false) then
      let r := specStep2 st c.op
      if r.2 = c.res then search.go h fin fuel (rem.erase i) (i :: acc) r.1 else none
    else none

theorem go_cons_eq (h : History2) (fin : KSt) (fuel : Nat) (rem acc : List Nat) (st : KSt)
    (hne : rem ≠ []) :
    search.go h fin (fuel + 1) rem acc st = rem.firstM (tryNext h fin fuel rem acc st) := by
  rw [search.go.eq_3 h fin rem acc st fuel (by simpa using hne)]
  rfl

theorem tryNext_eq_some {h : History2} {fin : KSt} {fuel : Nat} {rem acc : List Nat} {st : KSt}
    {i : Nat} {order : List Nat} (ht : tryNext h fin fuel rem acc st i = some order) :
    ∃ c, h[i]? = some c ∧ (∀ j ∈ rem, j ≠ i → rtOk h i j = true) ∧
      (specStep2 st c.op).2 = c.res ∧
      search.go h fin fuel (rem.erase i) (i :: acc) (specStep2 st c.op).1 = some order := by
  unfold tryNext at ht
  cases hc : h[i]? with
  | none => simp [hc] at ht
  | some c =>
    simp only [hc] at ht
    split at ht
    · rename_i hall
      split at ht
      · rename_i hres
        refine ⟨c, rfl, ?_, hres, ht⟩
        intro j hj hji
        have := List.all_eq_true.1 hall j hj
        simp only [Bool.or_eq_true, beq_iff_eq, hji, false_or] at this
        unfold rtOk
        rw [hc]
        cases hd : h[j]? with
        | none => simp [hd] at this
        | some d => simpa [hd] using this
      · simp at ht
    · simp at ht

theorem tryNext_isSome {h : History2} {fin : KSt} {fuel : Nat} {rem acc : List Nat} {st : KSt}
    {i : Nat} {c : Call2} (hc : h[i]? = some c) (hrt : ∀ j ∈ rem, j ≠ i → rtOk h i j = true)
    (hres : (specStep2 st c.op).2 = c.res)
    (hgo : (search.go h fin fuel (rem.erase i) (i :: acc) (specStep2 st c.op).1).isSome = true) :
    (tryNext h fin fuel rem acc st i).isSome = true := by
  unfold tryNext
  simp only [hc]
  have hall : rem.all (fun j => j == i || match h[j]? with | some d => mayPrecede c d | none => false) = true := by
    apply List.all_eq_true.2
    intro j hj
    by_cases hji : j = i
    · simp [hji]
    · have := hrt j hj hji
      unfold rtOk at this
      rw [hc] at this
      cases hd : h[j]? with
      | none => simp [hd] at this
      | some d => simpa [hd] using Or.inr this
  rw [if_pos hall]
  simp only [hres, if_true]
  exact hgo

theorem replay_cons_some {h : History2} {i : Nat} {rest : List Nat} {st : KSt} {c : Call2}
    (hc : h[i]? = some c) :
    replay2 h (i :: rest) st =
      if (specStep2 st c.op).2 = c.res then replay2 h rest (specStep2 st c.op).1 else none := by
  simp [replay2, hc]

theorem replay_cons_eq_some {h : History2} {i : Nat} {rest : List Nat} {st fin : KSt}
    (hr : replay2 h (i :: rest) st = some fin) :
    ∃ c, h[i]? = some c ∧ (specStep2 st c.op).2 = c.res ∧
      replay2 h rest (specStep2 st c.op).1 = some fin := by
  cases hc : h[i]? with
  | none => simp [replay2, hc] at hr
  | some c =>
    rw [replay_cons_some hc] at hr
    split at hr
    · rename_i hres; exact ⟨c, rfl, hres, hr⟩
    · simp at hr

theorem go_sound (h : History2) (fin : KSt) : ∀ (fuel : Nat) (rem acc : List Nat) (st : KSt)
    (order : List Nat), rem.Nodup → search.go h fin fuel rem acc st = some order →
    ∃ tail, order = acc.reverse ++ tail ∧ tail.Perm rem ∧
      tail.Pairwise (fun i j => rtOk h i j = true) ∧ replay2 h tail st = some fin
  | 0, rem, acc, st, order, _, hgo => by simp [search.go] at hgo
  | fuel + 1, [], acc, st, order, _, hgo => by
    rw [search.go.eq_2] at hgo
    split at hgo
    · rename_i hst
      refine ⟨[], ?_, List.Perm.refl _, List.Pairwise.nil, ?_⟩
      · simpa using (Option.some.inj hgo).symm
      · simp [replay2, hst]
    · simp at hgo
  | fuel + 1, r :: rs, acc, st, order, hnd, hgo => by
    rw [go_cons_eq h fin fuel (r :: rs) acc st (by simp)] at hgo
    obtain ⟨i, hi, hti⟩ := firstM_eq_some hgo
    obtain ⟨c, hc, hrt, hres, hgo'⟩ := tryNext_eq_some hti
    obtain ⟨tail, ho, hperm, hpw, hrep⟩ :=
      go_sound h fin fuel ((r :: rs).erase i) (i :: acc) _ order (hnd.erase i) hgo'
    refine ⟨i :: tail, ?_, ?_, ?_, ?_⟩
    · simp [ho]
    · exact ((List.Perm.cons i hperm).trans (List.perm_cons_erase hi).symm)
    · refine List.pairwise_cons.2 ⟨?_, hpw⟩
      intro j hj
      have hj' := hperm.subset hj
      have := (List.Nodup.mem_erase_iff hnd).1 hj'
      exact hrt j this.2 this.1
    · rw [replay_cons_some hc, if_pos hres]; exact hrep

theorem search_sound {h : History2} {init fin : KSt} {order : List Nat}
    (hs : search h init fin = some order) : validate h order init fin = true := by
  unfold search at hs
  obtain ⟨tail, ho, hperm, hpw, hrep⟩ :=
    go_sound h fin _ _ _ _ order List.nodup_range hs
  simp only [List.reverse_nil, List.nil_append] at ho
  subst ho
  exact validate_iff.2 ⟨hperm, hpw, hrep⟩

theorem search_linearizable {h : History2} {init fin : KSt} {order : List Nat}
    (hs : search h init fin = some order) : Linearizable2 h init fin :=
  validate_sound (search_sound hs)

theorem go_complete (h : History2) (fin : KSt) : ∀ (fuel : Nat) (rem acc : List Nat) (st : KSt)
    (tail : List Nat), rem.length < fuel → tail.Perm rem →
    tail.Pairwise (fun i j => rtOk h i j = true) → replay2 h tail st = some fin →
    (search.go h fin fuel rem acc st).isSome = true
  | 0, rem, acc, st, tail, hf, _, _, _ => by omega
  | fuel + 1, [], acc, st, tail, _, hperm, _, hrep => by
    have : tail = [] := hperm.eq_nil
    subst this
    simp only [replay2, Option.some.injEq] at hrep
    rw [search.go.eq_2, if_pos hrep]; rfl
  | fuel + 1, r :: rs, acc, st, tail, hf, hperm, hpw, hrep => by
    rw [go_cons_eq h fin fuel (r :: rs) acc st (by simp)]
    match tail, hperm, hpw, hrep with
    | [], hperm, _, _ => exact absurd hperm.symm.eq_nil (by simp)
    | i :: tail', hperm, hpw, hrep =>
      obtain ⟨c, hc, hres, hrep'⟩ := replay_cons_eq_some hrep
      have hi : i ∈ r :: rs := hperm.subset List.mem_cons_self
      have hperm' : tail'.Perm ((r :: rs).erase i) := by
        have := hperm.erase i
        simpa using this
      apply firstM_isSome
      refine ⟨i, hi, tryNext_isSome hc ?_ hres ?_⟩
      · intro j hj hji
        have hj' : j ∈ i :: tail' := hperm.symm.subset hj
        rcases List.mem_cons.1 hj' with rfl | hj''
        · exact absurd rfl hji
        · exact (List.pairwise_cons.1 hpw).1 j hj''
      · apply go_complete h fin fuel _ _ _ tail' ?_ hperm' (List.pairwise_cons.1 hpw).2 hrep'
        rw [List.length_erase_of_mem hi]
        simp only [List.length_cons] at hf ⊢
        omega

theorem search_complete {h : History2} {init fin : KSt} (hl : Linearizable2 h init fin) :
    (search h init fin).isSome = true := by
  obtain ⟨order, hperm, hpw, hrep⟩ := linearizable_iff_pairwise.1 hl
  unfold search
  exact go_complete h fin _ _ _ _ order (by simp) hperm hpw hrep

theorem search_isSome_iff {h : History2} {init fin : KSt} :
    (search h init fin).isSome = true ↔ Linearizable2 h init fin := by
  constructor
  · intro hs
    obtain ⟨order, ho⟩ := Option.isSome_iff_exists.1 hs
    exact search_linearizable ho
  · exact search_complete

theorem search_eq_none_iff {h : History2} {init fin : KSt} :
    search h init fin = none ↔ ¬ Linearizable2 h init fin := by
  rw [← search_isSome_iff]
  cases search h init fin <;> simp

instance (h : History2) (init fin : KSt) : Decidable (Linearizable2 h init fin) :=
  decidable_of_iff _ search_isSome_iff

end Flurry.Lin2
