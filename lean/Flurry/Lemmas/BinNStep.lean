import Flurry.Proto.BinN
/-! # Proto/BinN: the transitions in normal form

`StepK s t l pick s'` lists the possible transitions of thread `t` (with local state `l`) with explicit
successor states, grouped by their effect on the shared memory (`pick` only matters to `TMove.nextPick`);
`stepK_of_step` dissects `step` once and for all (as `Lemmas/BinXStep.lean` does for `Proto/BinX`), `step_stepK` is
its form for an enabled step. -/
namespace Flurry.Proto.BinN
open Flurry.Lin
open Flurry.Proto.BinX (NodeS Cell Pending isReader dflt chainFrom cellHead cellOfHead)

def tick (s : State) : State := { s with now := s.now + 1 }

def insLike (op : KOp) : Prop := ∃ v vi, op = .ins v vi ∨ op = .tryIns v vi

/-- transitions of a thread with a call in flight that only change its program counter -/
inductive Move (s : State) (p : Pending) : Pc → Pc → Prop
  | rTable : Move s p .rTable (.rCell s.cur)
  | rCellMoved {g : Nat} : cellOf s g p.key = .moved → Move s p (.rCell g) (.rCell (g + 1))
  | rCellNode {g : Nat} {h : Nat} : cellOf s g p.key = .node h → Move s p (.rCell g) (.rNode (some h))
  | rNext {c : Nat} {n : NodeS} : s.heap[c]? = some n → n.key ≠ p.key →
      Move s p (.rNode (some c)) (.rNode n.next)
  | wTable : Move s p .wTable (.wCell s.cur)
  | wCellEmpty {g : Nat} : cellOf s g p.key = .empty → insLike p.op → Move s p (.wCell g) (.wCas g)
  | wCellMoved {g : Nat} : cellOf s g p.key = .moved → Move s p (.wCell g) (.wCell (g + 1))
  | wCellNode {g : Nat} {h : Nat} : cellOf s g p.key = .node h → Move s p (.wCell g) (.wLock g h)
  | casFail {g : Nat} : Move s p (.wCas g) (.wCell g)
  | checkOk {g : Nat} {h : Nat} : cellOf s g p.key = .node h →
      Move s p (.wCheck g h) (.wFind g h none (some h))
  | checkFail {g : Nat} {h : Nat} : cellOf s g p.key ≠ .node h →
      Move s p (.wCheck g h) (.wUnlock g h .none true)
  | findEnd {g : Nat} {h : Nat} {pred : Option Nat} :
      Move s p (.wFind g h pred none) (.wStore g h pred none none)
  | findHit {g : Nat} {h : Nat} {pred : Option Nat} {c : Nat} {n : NodeS} :
      s.heap[c]? = some n → n.key = p.key →
      Move s p (.wFind g h pred (some c)) (.wStore g h pred (some c) n.next)
  | findNext {g : Nat} {h : Nat} {pred : Option Nat} {c : Nat} {n : NodeS} :
      s.heap[c]? = some n → n.key ≠ p.key →
      Move s p (.wFind g h pred (some c)) (.wFind g h (some c) n.next)

/-- transitions of the resizing thread that only change its program counter -/
inductive TMove (s : State) (pick : Nat) : Pc → Pc → Prop
  | nextDone : allMoved s s.cur = true → TMove s pick .tNext .tCommit
  | nextPick : allMoved s s.cur = false → TMove s pick .tNext (.tCell (pick % 2 ^ s.cur))
  | cellEmpty {j : Nat} : cellAt s s.cur j = .empty → TMove s pick (.tCell j) (.tCasMoved j)
  | cellNode {j h : Nat} : cellAt s s.cur j = .node h → TMove s pick (.tCell j) (.tLock j h)
  | cellMoved {j : Nat} : cellAt s s.cur j = .moved → TMove s pick (.tCell j) .tNext
  | casFail {j : Nat} : cellAt s s.cur j ≠ .empty → TMove s pick (.tCasMoved j) (.tCell j)
  | checkOk {j h : Nat} : cellAt s s.cur j = .node h → TMove s pick (.tCheck j h) (.tBuild j h)

/-- transitions of a writer that change the lock word of node `h` to `x` -/
inductive LockMove (s : State) (t : Nat) : Pc → Nat → Option Nat → Pc → Prop
  | lock {g : Nat} {h : Nat} {n : NodeS} : s.heap[h]? = some n → n.lock = none →
      LockMove s t (.wLock g h) h (some t) (.wCheck g h)
  | unlockRetry {g : Nat} {h : Nat} {res : KRes} : LockMove s t (.wUnlock g h res true) h none (.wCell g)

/-- transitions of the resizing thread that change the lock word of node `h` to `x` -/
inductive TLockMove (s : State) (t : Nat) : Pc → Nat → Option Nat → Pc → Prop
  | lock {j h : Nat} {n : NodeS} : s.heap[h]? = some n → n.lock = none →
      TLockMove s t (.tLock j h) h (some t) (.tCheck j h)
  | checkFail {j h : Nat} : cellAt s s.cur j ≠ .node h → TLockMove s t (.tCheck j h) h none (.tCell j)
  | unlock {j h : Nat} : TLockMove s t (.tUnlock j h) h none .tNext

def missRes (op : KOp) : KRes := match op with | .has => .bool false | _ => .none
def hitRes (op : KOp) (n : NodeS) : KRes := match op with | .has => .bool true | _ => .some n.val.1 n.val.2

/-- calls that complete without a store of their own -/
inductive Fin (s : State) (p : Pending) : Pc → KRes → Prop
  | rEmpty {g : Nat} : cellOf s g p.key = .empty → Fin s p (.rCell g) (missRes p.op)
  | miss : Fin s p (.rNode none) (missRes p.op)
  | hit {c : Nat} {n : NodeS} : s.heap[c]? = some n → n.key = p.key →
      Fin s p (.rNode (some c)) (hitRes p.op n)
  | wEmpty {g : Nat} : cellOf s g p.key = .empty → ¬ insLike p.op → Fin s p (.wCell g) .none

inductive StepK (s : State) (t : Nat) (l : Local) (pick : Nat) : State → Prop
  | idle : l.pc = .idle → StepK s t l pick (setT (tick s) t l)
  | invoke (k : Nat) (op : KOp) : l.pc = .idle →
      StepK s t l pick (setT (tick s) t
        { pc := if isReader op then .rTable else .wTable, call := some ⟨k, op, s.now + 1⟩ })
  /-- an idle thread starts the resize of generation `cur`: it allocates generation `cur + 1` -/
  | resize : l.pc = .idle → s.resizing = false →
      StepK s t l pick { (setT (tick s) t { l with pc := .tNext }) with
        resizing := true, tabs := s.tabs ++ [List.replicate (2 ^ (s.cur + 1)) .empty] }
  | move (p : Pending) (pc' : Pc) : l.call = some p → Move s p l.pc pc' →
      StepK s t l pick (setT (tick s) t { l with pc := pc' })
  | tmove (pc' : Pc) : l.call = none → TMove s pick l.pc pc' →
      StepK s t l pick (setT (tick s) t { l with pc := pc' })
  | lockMove (p : Pending) (h : Nat) (x : Option Nat) (pc' : Pc) : l.call = some p → LockMove s t l.pc h x pc' →
      StepK s t l pick (setT (setNode (tick s) h (fun m => { m with lock := x })) t { l with pc := pc' })
  | tlockMove (h : Nat) (x : Option Nat) (pc' : Pc) : l.call = none → TLockMove s t l.pc h x pc' →
      StepK s t l pick (setT (setNode (tick s) h (fun m => { m with lock := x })) t { l with pc := pc' })
  | fin (p : Pending) (res : KRes) : l.call = some p → Fin s p l.pc res →
      StepK s t l pick (finish (tick s) t p res)
  | cas (p : Pending) (g : Nat) (v vi : Nat) : l.call = some p → l.pc = .wCas g →
      cellOf s g p.key = .empty → (p.op = .ins v vi ∨ p.op = .tryIns v vi) →
      StepK s t l pick (finish (setCell { tick s with heap := s.heap ++ [⟨p.key, (v, vi), none, none⟩] } g p.key
        (.node s.heap.length)) t p .none)
  | store (p : Pending) (g : Nat) (h : Nat) (pred hit hnext : Option Nat) : l.call = some p →
      l.pc = .wStore g h pred hit hnext →
      StepK s t l pick (setT (storeAt (tick s) g p pred hit hnext).1 t
        { l with pc := .wUnlock g h (storeAt (tick s) g p pred hit hnext).2 false })
  | unlockFin (p : Pending) (g : Nat) (h : Nat) (res : KRes) : l.call = some p →
      l.pc = .wUnlock g h res false →
      StepK s t l pick (finish (setNode (tick s) h (fun m => { m with lock := none })) t p res)
  | casMoved (j : Nat) : l.call = none → l.pc = .tCasMoved j → cellAt s s.cur j = .empty →
      StepK s t l pick (putCell (setT (tick s) t { l with pc := .tNext }) s.cur j .moved)
  | build (j h : Nat) : l.call = none → l.pc = .tBuild j h →
      StepK s t l pick (setT { tick s with heap := (splitBinB (bitAt s.cur) s.heap (chainFrom s.heap s.heap.length (some h))).1 } t
        { l with pc := .tStoreLow j h (splitBinB (bitAt s.cur) s.heap (chainFrom s.heap s.heap.length (some h))).2.1
                                      (splitBinB (bitAt s.cur) s.heap (chainFrom s.heap s.heap.length (some h))).2.2 })
  | storeLow (j h : Nat) (lo hg : Option Nat) : l.call = none → l.pc = .tStoreLow j h lo hg →
      StepK s t l pick (putCell (setT (tick s) t { l with pc := .tStoreHigh j h hg }) (s.cur + 1) j (cellOfHead lo))
  | storeHigh (j h : Nat) (hg : Option Nat) : l.call = none → l.pc = .tStoreHigh j h hg →
      StepK s t l pick (putCell (setT (tick s) t { l with pc := .tStoreMoved j h }) (s.cur + 1) (j + 2 ^ s.cur) (cellOfHead hg))
  | storeMoved (j h : Nat) : l.call = none → l.pc = .tStoreMoved j h →
      StepK s t l pick (putCell (setT (tick s) t { l with pc := .tUnlock j h }) s.cur j .moved)
  | commit : l.call = none → l.pc = .tCommit →
      StepK s t l pick { (setT (tick s) t { l with pc := .idle }) with cur := s.cur + 1, resizing := false }

theorem setT_self {s : State} {t : Nat} {l : Local} (hl : s.threads[t]? = some l) : setT s t l = s := by
  unfold setT
  obtain ⟨ht, rfl⟩ := List.getElem?_eq_some_iff.1 hl
  rw [List.set_getElem_self]

theorem stepK_of_step {s : State} {t : Nat} {l : Local} (inv : Option (Nat × KOp)) (rz : Bool) (pick : Nat)
    (hl : s.threads[t]? = some l) : (step s t inv rz pick).elim True (StepK s t l pick) := by
  unfold step stepG
  rw [hl]
  obtain ⟨pc, call⟩ := l
  by_cases hidle : pc = .idle
  · subst hidle
    have hid : tick s = setT (tick s) t ⟨.idle, call⟩ := (setT_self (s := tick s) hl).symm
    cases rz with
    | true =>
      show (if s.resizing = true then _ else _ : Option State).elim True _
      split
      · show StepK s t _ pick (tick s)
        rw [hid]
        exact StepK.idle rfl
      · rename_i hrz
        exact StepK.resize rfl (Bool.not_eq_true _ ▸ hrz)
    | false =>
      cases inv with
      | none =>
        show StepK s t _ pick (tick s)
        rw [hid]
        exact StepK.idle rfl
      | some ko => exact StepK.invoke ko.1 ko.2 rfl
  · cases call with
    | none =>
      cases pc with
      | idle => exact absurd rfl hidle
      | rNode cur | wFind _ _ _ cur => cases cur <;> exact True.intro
      | tNext =>
        show (if allMoved _ s.cur = true then _ else _ : Option State).elim True _
        split
        · rename_i ha; exact StepK.tmove _ rfl (.nextDone ha)
        · rename_i ha; exact StepK.tmove _ rfl (.nextPick (Bool.not_eq_true _ ▸ ha))
      | tCell j =>
        show (match cellAt _ s.cur j with | .empty => _ | .node h => _ | .moved => _ : Option State).elim True _
        split
        · rename_i hc; exact StepK.tmove _ rfl (.cellEmpty hc)
        · rename_i h hc; exact StepK.tmove _ rfl (.cellNode hc)
        · rename_i hc; exact StepK.tmove _ rfl (.cellMoved hc)
      | tCasMoved j =>
        show (if _ then _ else _ : Option State).elim True _
        split
        · rename_i hc; exact StepK.casMoved j rfl rfl (eq_of_beq hc)
        · rename_i hc; exact StepK.tmove _ rfl (.casFail fun h => hc (beq_iff_eq.2 h))
      | tLock j h =>
        show (match s.heap[h]? with | none => none | some n => _ : Option State).elim True _
        split
        · exact True.intro
        · rename_i n hn
          show (if _ then _ else _ : Option State).elim True _
          split
          · exact True.intro
          · rename_i hlk
            exact StepK.tlockMove h (some t) _ rfl (.lock hn (Option.not_isSome_iff_eq_none.1 hlk))
      | tCheck j h =>
        show (if (!true || cellAt _ s.cur j == .node h) = true then _ else _ : Option State).elim True _
        split
        · rename_i hh; exact StepK.tmove _ rfl (.checkOk (eq_of_beq hh))
        · rename_i hh; exact StepK.tlockMove h none _ rfl (.checkFail fun h => hh (beq_iff_eq.2 h))
      | tBuild j h => exact StepK.build j h rfl rfl
      | tStoreLow j h lo hg => exact StepK.storeLow j h lo hg rfl rfl
      | tStoreHigh j h hg => exact StepK.storeHigh j h hg rfl rfl
      | tStoreMoved j h => exact StepK.storeMoved j h rfl rfl
      | tUnlock j h => exact StepK.tlockMove h none _ rfl .unlock
      | tCommit => exact StepK.commit rfl rfl
      | _ => exact True.intro
    | some p =>
      cases pc with
      | idle => exact absurd rfl hidle
      | rTable => exact StepK.move p _ rfl .rTable
      | rCell g =>
        show (match cellOf _ g p.key with | .empty => _ | .moved => _ | .node h => _ : Option State).elim True _
        split
        · rename_i hc; exact StepK.fin p _ rfl (.rEmpty hc)
        · rename_i hc; exact StepK.move p _ rfl (.rCellMoved hc)
        · rename_i h hc; exact StepK.move p _ rfl (.rCellNode hc)
      | rNode cur =>
        cases cur with
        | none => exact StepK.fin p _ rfl .miss
        | some c =>
          show (match s.heap[c]? with | none => none | some n => _ : Option State).elim True _
          split
          · exact True.intro
          · rename_i n hn
            show (if _ then _ else _ : Option State).elim True _
            split
            · rename_i hk; exact StepK.fin p _ rfl (.hit hn (eq_of_beq hk))
            · rename_i hk; exact StepK.move p _ rfl (.rNext hn fun h => hk (beq_iff_eq.2 h))
      | wTable => exact StepK.move p _ rfl .wTable
      | wCell g =>
        show (match cellOf _ g p.key with | .empty => _ | .moved => _ | .node h => _ : Option State).elim True _
        split
        · rename_i hc
          show (match p.op with | .ins _ _ => _ | .tryIns _ _ => _ | _ => _ : Option State).elim True _
          split
          · rename_i v vi hop; exact StepK.move p _ rfl (.wCellEmpty hc ⟨v, vi, Or.inl hop⟩)
          · rename_i v vi hop; exact StepK.move p _ rfl (.wCellEmpty hc ⟨v, vi, Or.inr hop⟩)
          · rename_i h1 h2
            exact StepK.fin p _ rfl (.wEmpty hc fun ⟨v, vi, h⟩ => h.elim (h1 v vi) (h2 v vi))
        · rename_i hc; exact StepK.move p _ rfl (.wCellMoved hc)
        · rename_i h hc; exact StepK.move p _ rfl (.wCellNode hc)
      | wCas g =>
        show (match cellOf _ g p.key, p.op with
          | .empty, .ins v vi => _ | .empty, .tryIns v vi => _ | _, _ => _ : Option State).elim True _
        split
        · rename_i v vi hh hop; exact StepK.cas p g v vi rfl rfl hh (Or.inl hop)
        · rename_i v vi hh hop; exact StepK.cas p g v vi rfl rfl hh (Or.inr hop)
        · exact StepK.move p _ rfl .casFail
      | wLock g h =>
        show (match s.heap[h]? with | none => none | some n => _ : Option State).elim True _
        split
        · exact True.intro
        · rename_i n hn
          show (if _ then _ else _ : Option State).elim True _
          split
          · exact True.intro
          · rename_i hlk
            exact StepK.lockMove p h (some t) _ rfl (.lock hn (Option.not_isSome_iff_eq_none.1 hlk))
      | wCheck g h =>
        show (if (!true || cellOf _ g p.key == .node h) = true then _ else _ : Option State).elim True _
        split
        · rename_i hh; exact StepK.move p _ rfl (.checkOk (s := s) (eq_of_beq hh))
        · rename_i hh; exact StepK.move p _ rfl (.checkFail (s := s) fun h => hh (beq_iff_eq.2 h))
      | wFind g h pred cur =>
        cases cur with
        | none => exact StepK.move p _ rfl .findEnd
        | some c =>
          show (match s.heap[c]? with | none => none | some n => _ : Option State).elim True _
          split
          · exact True.intro
          · rename_i n hn
            show (if _ then _ else _ : Option State).elim True _
            split
            · rename_i hk; exact StepK.move p _ rfl (.findHit hn (eq_of_beq hk))
            · rename_i hk; exact StepK.move p _ rfl (.findNext hn fun h => hk (beq_iff_eq.2 h))
      | wStore g h pred hit hnext => exact StepK.store p g h pred hit hnext rfl rfl
      | wUnlock g h res retry =>
        cases retry with
        | true => exact StepK.lockMove p h none _ rfl .unlockRetry
        | false => exact StepK.unlockFin p g h res rfl rfl
      | _ => exact True.intro

theorem step_stepK {s s' : State} {t : Nat} {l : Local} {inv : Option (Nat × KOp)} {rz : Bool} {pick : Nat}
    (hl : s.threads[t]? = some l) (hs : step s t inv rz pick = some s') : StepK s t l pick s' := by
  have := stepK_of_step inv rz pick hl
  rwa [hs] at this

end Flurry.Proto.BinN
