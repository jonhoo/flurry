import Flurry.Lemmas.BinGHeapFrame
import Flurry.Lemmas.BinGHeapPlan
/-! # Stores into ONE structure of a heap that holds several

`Proto/BinG` and `Proto/BinGN` have different cells but the same heap and `TreeBin` table, and a store goes into the
structure `C0` (list / `TreeBin`) of one cell. What such a store does to heap and table, and what it leaves alone,
is here, with the notions of `Lemmas/BinGHeapPlan.lean` (`chain`, `inTree`, `startOf`, `ownerOf`); the state-level
lemmas of `Lemmas/BinGNPStore.lean` add the cells.

* `Valid hp tb C K`: what the heap invariants of the two models say about one structure (`K`: the keys that may
  live in it); `Valid.frame`: a structure whose nodes and `TreeBin` are unchanged stays valid, with the same list.
* `Touch hp tb hp' tb' C0`: heap and table change inside the structure `C0` only; `Touch.chain_frame`,
  `Touch.inTree_iff`, `Touch.valid_frame`: a structure that shares no node and no `TreeBin` with `C0` is untouched.
* `Inside hp tb hp' tb' C0 C0' K`: a store that allocates no `TreeBin` and keeps the owner of the structure;
  `Inside.valid`: the new structure `C0'` is valid.
* `val_inside` … `unlink_inside`: the stores of `Lemmas/BinKBasic.lean` are `Inside`.
* `convert_valid`: the structure is switched to a copy of its list, described as a set (distinct keys, every node has
  a source, every old node has a copy).
* `Valid.grow`: allocation at the end of heap and table. -/
namespace Flurry.Proto.BinGH
open Flurry.Proto.BinK (NodeS TBin nodeAt binAt NextOK IsChain CInv absL HeapStep chainOf_isChain nodeAt_modify
  nodeAt_modify_ne nodeAt_append_left nodeAt_append_new binAt_ge)
open Flurry.Proto.BinG (Cell chainOf_frame cinv_frame)
open Flurry.Proto.BinG.Store (owner_ge absL_congr nodeAt_modify_flip mem_erase_mid)
open Flurry.Proto.BinK (nodeAt_append_link)

section
variable {hp hp' : List NodeS} {tb tb' : List TBin} {C C0 C0' : Cell} {K : Nat → Prop}

theorem startOf_congr (h : ∀ b, C = .tree b → binAt tb' b = binAt tb b) : startOf tb' C = startOf tb C := by
  cases C with
  | tree b => exact congrArg (·.first) (h b rfl)
  | _ => rfl

theorem ownerOf_eq_some {b : Nat} : ownerOf C = some b ↔ C = .tree b := by
  cases C <;> simp [ownerOf]

theorem tree_iff_of_owner (h : ownerOf C0' = ownerOf C0) {b : Nat} : C0' = .tree b ↔ C0 = .tree b := by
  rw [← ownerOf_eq_some, ← ownerOf_eq_some, h]

theorem inTree_owner {j : Nat} (h : inTree hp C j) : (nodeAt hp j).owner = ownerOf C := by
  obtain ⟨_, _, b, rfl, hb⟩ := h
  exact hb

/-- the structure `C` is well-formed, its `TreeBin` exists and owns the nodes of its list, and the keys of its nodes
satisfy `K` -/
structure Valid (hp : List NodeS) (tb : List TBin) (C : Cell) (K : Nat → Prop) : Prop where
  cinv : CInv hp (startOf tb C) (inTree hp C)
  cellOK : ∀ b, C = .tree b → b < tb.length
  chainOwner : ∀ j ∈ chain hp tb C, (nodeAt hp j).owner = ownerOf C
  side : ∀ j, (j ∈ chain hp tb C ∨ inTree hp C j) → K (nodeAt hp j).key

theorem Valid.lt (V : Valid hp tb C K) {j : Nat} (hj : j ∈ chain hp tb C ∨ inTree hp C j) : j < hp.length :=
  hj.elim V.cinv.chain_lt (·.1)

theorem Valid.frame (V : Valid hp tb C K) (hok' : NextOK hp') (hlen : hp.length ≤ hp'.length)
    (htlen : tb.length ≤ tb'.length) (hbin : ∀ b, C = .tree b → binAt tb' b = binAt tb b)
    (hnode : ∀ j ∈ chain hp tb C, nodeAt hp' j = nodeAt hp j)
    (htree : ∀ j, inTree hp' C j → inTree hp C j ∧ (nodeAt hp' j).key = (nodeAt hp j).key) :
    Valid hp' tb' C K ∧ chain hp' tb' C = chain hp tb C := by
  have hst : startOf tb' C = startOf tb C := startOf_congr hbin
  obtain ⟨C', hc⟩ := cinv_frame (T' := inTree hp' C) V.cinv hok' hlen
    (fun j hj => by rw [hnode j hj]; exact ⟨rfl, rfl⟩) htree
  have hc' : chain hp' tb' C = chain hp tb C := by unfold chain; rw [hst]; exact hc
  refine ⟨⟨hst ▸ C', fun b hb => Nat.lt_of_lt_of_le (V.cellOK b hb) htlen, ?_, ?_⟩, hc'⟩
  · intro j hj
    rw [hc'] at hj
    rw [hnode j hj]; exact V.chainOwner j hj
  · intro j hj
    rcases hj with hj | hj
    · rw [hc'] at hj
      rw [hnode j hj]; exact V.side j (Or.inl hj)
    · rw [(htree j hj).2]; exact V.side j (Or.inr (htree j hj).1)

theorem ownerOK_frame (h : ∀ j b, (nodeAt hp j).owner = some b → b < tb.length) (htlen : tb.length ≤ tb'.length)
    (hkeep : ∀ j, j < hp.length → (nodeAt hp' j).owner = (nodeAt hp j).owner)
    (hO : ∀ j, hp.length ≤ j → ∀ b, (nodeAt hp' j).owner = some b → b < tb'.length) :
    ∀ j b, (nodeAt hp' j).owner = some b → b < tb'.length := by
  intro j b hj
  by_cases hjl : j < hp.length
  · rw [hkeep j hjl] at hj
    exact Nat.lt_of_lt_of_le (h j b hj) htlen
  · exact hO j (Nat.not_lt.1 hjl) b hj

theorem firstOK_frame {S : Nat → Prop} (h : ∀ b x, (binAt tb b).first = some x → x < hp.length)
    (hlen : hp.length ≤ hp'.length) (hsame : ∀ b, S b → binAt tb' b = binAt tb b)
    (hF : ∀ b x, ¬ S b → (binAt tb' b).first = some x → x < hp'.length) :
    ∀ b x, (binAt tb' b).first = some x → x < hp'.length := by
  intro b x hf
  by_cases hb : S b
  · rw [hsame b hb] at hf
    exact Nat.lt_of_lt_of_le (h b x hf) hlen
  · exact hF b x hb hf

structure Touch (hp : List NodeS) (tb : List TBin) (hp' : List NodeS) (tb' : List TBin) (C0 : Cell) : Prop where
  len : hp.length ≤ hp'.length
  tlen : tb.length ≤ tb'.length
  /-- old nodes outside the structure are unchanged -/
  node : ∀ j, j < hp.length → j ∉ chain hp tb C0 → ¬ inTree hp C0 j → nodeAt hp' j = nodeAt hp j
  /-- old nodes keep key, owner, lock -/
  keep : ∀ j, j < hp.length → (nodeAt hp' j).key = (nodeAt hp j).key ∧
    (nodeAt hp' j).owner = (nodeAt hp j).owner ∧ (nodeAt hp' j).lock = (nodeAt hp j).lock
  /-- new nodes belong to the bin of the structure, to a new bin, or to no bin -/
  newOwner : ∀ j, hp.length ≤ j → ∀ b, (nodeAt hp' j).owner = some b → C0 = .tree b ∨ tb.length ≤ b
  /-- other old bins are unchanged -/
  bin : ∀ b, b < tb.length → C0 ≠ .tree b → binAt tb' b = binAt tb b

theorem Touch.startOf_eq (T : Touch hp tb hp' tb' C0) (hbin : ∀ b, C = .tree b → C0 ≠ .tree b ∧ b < tb.length) :
    startOf tb' C = startOf tb C :=
  startOf_congr (fun b hC => T.bin b (hbin b hC).2 (hbin b hC).1)

theorem Touch.chain_frame (T : Touch hp tb hp' tb' C0) (hok : NextOK hp) (hok' : NextOK hp')
    (hst : ∀ h, startOf tb C = some h → h < hp.length)
    (hdisj : ∀ j ∈ chain hp tb C, j ∉ chain hp tb C0 ∧ ¬ inTree hp C0 j)
    (hbin : ∀ b, C = .tree b → C0 ≠ .tree b ∧ b < tb.length) :
    chain hp' tb' C = chain hp tb C ∧ ∀ j ∈ chain hp tb C, nodeAt hp' j = nodeAt hp j := by
  have hnode : ∀ j ∈ chain hp tb C, nodeAt hp' j = nodeAt hp j := fun j hj =>
    T.node j ((chainOf_isChain hok _ hst).lt_length j hj) (hdisj j hj).1 (hdisj j hj).2
  refine ⟨?_, hnode⟩
  unfold chain
  rw [T.startOf_eq hbin]
  exact chainOf_frame hok hok' hst T.len (fun j hj => by rw [hnode j hj])

theorem Touch.inTree_iff (T : Touch hp tb hp' tb' C0)
    (hown : ∀ j ∈ chain hp tb C0, (nodeAt hp j).owner = ownerOf C0)
    (hbin : ∀ b, C = .tree b → C0 ≠ .tree b ∧ b < tb.length) (j : Nat) : inTree hp' C j ↔ inTree hp C j := by
  have hnode : ∀ b, C = .tree b → j < hp.length → (nodeAt hp j).owner = some b → nodeAt hp' j = nodeAt hp j := by
    intro b hC hj ho
    refine T.node j hj (fun hc => ?_) (fun ht => ?_)
    · exact (hbin b hC).1 (ownerOf_eq_some.1 ((hown j hc).symm.trans ho))
    · exact (hbin b hC).1 (ownerOf_eq_some.1 ((inTree_owner ht).symm.trans ho))
  constructor
  · rintro ⟨_, h2, b, hC, h3⟩
    have hj : j < hp.length := Nat.lt_of_not_le fun hj =>
      (T.newOwner j hj b h3).elim (hbin b hC).1 (fun h => absurd (hbin b hC).2 (Nat.not_lt.2 h))
    have ho : (nodeAt hp j).owner = some b := (T.keep j hj).2.1 ▸ h3
    exact ⟨hj, hnode b hC hj ho ▸ h2, b, hC, ho⟩
  · rintro ⟨h1, h2, b, hC, h3⟩
    rw [← hnode b hC h1 h3] at h2 h3
    exact ⟨Nat.lt_of_lt_of_le h1 T.len, h2, b, hC, h3⟩

/-- a valid structure that shares no node and no `TreeBin` with `C0` -/
theorem Touch.valid_frame (T : Touch hp tb hp' tb' C0) (hok' : NextOK hp')
    (hown : ∀ j ∈ chain hp tb C0, (nodeAt hp j).owner = ownerOf C0) (V : Valid hp tb C K)
    (hdisj : ∀ j ∈ chain hp tb C, j ∉ chain hp tb C0 ∧ ¬ inTree hp C0 j) (hne : ∀ b, C = .tree b → C0 ≠ .tree b) :
    chain hp' tb' C = chain hp tb C ∧ (∀ j ∈ chain hp tb C, nodeAt hp' j = nodeAt hp j) ∧ Valid hp' tb' C K := by
  have hbin : ∀ b, C = .tree b → C0 ≠ .tree b ∧ b < tb.length := fun b hb => ⟨hne b hb, V.cellOK b hb⟩
  have hnode := (T.chain_frame V.cinv.nextOK hok' V.cinv.startOK hdisj hbin).2
  obtain ⟨V', hc⟩ := V.frame hok' T.len T.tlen (fun b hb => T.bin b (hbin b hb).2 (hbin b hb).1) hnode
    (fun j hj => have h := (T.inTree_iff hown hbin j).1 hj; ⟨h, (T.keep j h.1).1⟩)
  exact ⟨hc, hnode, V'⟩

/-- a store into the structure `C0` that makes it `C0'`: no `TreeBin` is allocated, the structure keeps its owner; a
node on the new list was on the old list or is a new node with the owner of the structure and a key in `K`
(`chainIn`), a node in the new tree was in the old structure (`treeIn`) -/
structure Inside (hp : List NodeS) (tb : List TBin) (hp' : List NodeS) (tb' : List TBin) (C0 C0' : Cell)
    (K : Nat → Prop) : Prop where
  len : hp.length ≤ hp'.length
  node : ∀ j, j < hp.length → j ∉ chain hp tb C0 → ¬ inTree hp C0 j → nodeAt hp' j = nodeAt hp j
  keep : ∀ j, j < hp.length → (nodeAt hp' j).key = (nodeAt hp j).key ∧
    (nodeAt hp' j).owner = (nodeAt hp j).owner ∧ (nodeAt hp' j).lock = (nodeAt hp j).lock
  bin : ∀ b, b < tb.length → C0 ≠ .tree b → binAt tb' b = binAt tb b
  cinv : CInv hp' (startOf tb' C0') (inTree hp' C0')
  tl : tb'.length = tb.length
  owner : ownerOf C0' = ownerOf C0
  newIn : ∀ j, hp.length ≤ j → ∀ b, (nodeAt hp' j).owner = some b → C0 = .tree b
  chainIn : ∀ j ∈ chain hp' tb' C0', j ∈ chain hp tb C0 ∨
    (hp.length ≤ j ∧ (nodeAt hp' j).owner = ownerOf C0' ∧ K (nodeAt hp' j).key)
  treeIn : ∀ j, inTree hp' C0' j → j ∈ chain hp tb C0 ∨ inTree hp C0 j

theorem Inside.touch (I : Inside hp tb hp' tb' C0 C0' K) : Touch hp tb hp' tb' C0 :=
  ⟨I.len, Nat.le_of_eq I.tl.symm, I.node, I.keep, fun j hj b hb => Or.inl (I.newIn j hj b hb), I.bin⟩

theorem Inside.valid (I : Inside hp tb hp' tb' C0 C0' K) (V : Valid hp tb C0 K) : Valid hp' tb' C0' K := by
  refine ⟨I.cinv, fun b hb => I.tl ▸ V.cellOK b ((tree_iff_of_owner I.owner).1 hb), ?_, ?_⟩
  · intro j hj
    rcases I.chainIn j hj with hj | ⟨_, ho, _⟩
    · rw [(I.keep j (V.cinv.chain_lt hj)).2.1, I.owner]; exact V.chainOwner j hj
    · exact ho
  · intro j hj
    have hj' : (j ∈ chain hp tb C0 ∨ inTree hp C0 j) ∨ K (nodeAt hp' j).key := by
      rcases hj with hj | hj
      · exact (I.chainIn j hj).imp Or.inl (fun h => h.2.2)
      · exact Or.inl (I.treeIn j hj)
    rcases hj' with hj' | hj'
    · rw [(I.keep j (V.lt hj')).1]; exact V.side j hj'
    · exact hj'

theorem Inside.newOK (I : Inside hp tb hp' tb' C0 C0' K) (V : Valid hp tb C0 K) :
    ∀ j, hp.length ≤ j → ∀ b, (nodeAt hp' j).owner = some b → b < tb'.length :=
  fun j hj b hb => I.tl ▸ V.cellOK b (I.newIn j hj b hb)

theorem Inside.firstOK (I : Inside hp tb hp' tb' C0 C0' K) (b x : Nat)
    (hb : ¬ (b < tb.length ∧ C0 ≠ .tree b)) (hf : (binAt tb' b).first = some x) : x < hp'.length := by
  by_cases hbl : b < tb.length
  · refine I.cinv.startOK x ?_
    rw [(tree_iff_of_owner I.owner).2 (Classical.not_not.1 fun h => hb ⟨hbl, h⟩)]; exact hf
  · rw [binAt_ge (I.tl ▸ Nat.not_lt.1 hbl)] at hf
    cases hf

theorem Inside.of_modify {i : Nat} {f : NodeS → NodeS} (hi : i ∈ chain hp tb C0 ∨ inTree hp C0 i)
    (hf : ∀ n, (f n).key = n.key ∧ (f n).owner = n.owner ∧ (f n).lock = n.lock)
    (C' : CInv (hp.modify i f) (startOf tb C0) (inTree (hp.modify i f) C0))
    (hc : chain (hp.modify i f) tb C0 = chain hp tb C0)
    (htr : ∀ j, inTree (hp.modify i f) C0 j → j ∈ chain hp tb C0 ∨ inTree hp C0 j) :
    Inside hp tb (hp.modify i f) tb C0 C0 K := by
  have hlen : (hp.modify i f).length = hp.length := List.length_modify _ _ _
  refine ⟨Nat.le_of_eq hlen.symm, ?_, ?_, fun _ _ _ => rfl, C', rfl, rfl,
    fun j hj b hb => absurd hb (owner_ge (hlen ▸ hj) b), fun j hj => Or.inl (hc ▸ hj), htr⟩
  · intro j _ h1 h2
    refine nodeAt_modify_ne f ?_
    rintro rfl
    exact hi.elim h1 h2
  · intro j _
    rw [nodeAt_modify]
    split
    · exact hf _
    · exact ⟨rfl, rfl, rfl⟩

theorem inTree_of {j : Nat} (hlen : hp'.length = hp.length)
    (hin : (nodeAt hp' j).inTree = true → (nodeAt hp j).inTree = true)
    (ho : (nodeAt hp' j).owner = (nodeAt hp j).owner) (h : inTree hp' C j) : inTree hp C j := by
  obtain ⟨h1, h2, b, h3, h4⟩ := h
  exact ⟨hlen ▸ h1, hin h2, b, h3, ho ▸ h4⟩

theorem val_inside (V : Valid hp tb C0 K) {i : Nat} {v : Nat × Nat} (hi : i ∈ chain hp tb C0)
    (hh : hp' = hp.modify i (fun n => { n with val := v })) (htb : tb' = tb) (hc0 : C0' = C0) :
    Inside hp tb hp' tb' C0 C0' K ∧
      HeapStep hp (chain hp tb C0) (fun _ => False) hp' (chain hp' tb' C0') (fun _ => False) ∧
      chain hp' tb' C0' = chain hp tb C0 ∧
      (∀ j, nodeAt hp' j = if j = i then { nodeAt hp j with val := v } else nodeAt hp j) ∧
      ∀ k, absL hp' (chain hp' tb' C0') k =
        if (nodeAt hp i).key = k then some v else absL hp (chain hp tb C0) k := by
  subst hp' tb' C0'
  have hT : ∀ j, inTree (hp.modify i fun n => { n with val := v }) C0 j → inTree hp C0 j := fun j =>
    inTree_of (List.length_modify _ _ _) (fun h => by rw [nodeAt_modify] at h; split at h <;> exact h)
      (by rw [nodeAt_modify]; split <;> rfl)
  obtain ⟨C', hs, hc, hnode, habs⟩ := Flurry.Proto.BinK.val_store (T' := inTree _ C0) (P := fun _ => False)
    (P' := fun _ => False) V.cinv (v := v) hi (fun j hj => Or.inr (hT j hj)) (fun _ _ h => h)
  exact ⟨.of_modify (Or.inl hi) (fun n => ⟨rfl, rfl, rfl⟩) C' hc (fun j hj => Or.inr (hT j hj)),
    by rw [show chain _ tb C0 = _ from hc]; exact hs, hc, hnode, habs⟩

theorem flag_inside (V : Valid hp tb C0 K) {i : Nat} {x : Bool} (hi : i ∈ chain hp tb C0 ∨ inTree hp C0 i)
    (hh : hp' = hp.modify i (fun n => { n with inTree := x })) (htb : tb' = tb) (hc0 : C0' = C0)
    (hx : x = true → i ∈ chain hp tb C0) :
    Inside hp tb hp' tb' C0 C0' K ∧
      HeapStep hp (chain hp tb C0) (fun _ => False) hp' (chain hp' tb' C0') (fun _ => False) ∧
      chain hp' tb' C0' = chain hp tb C0 ∧ hp'.length = hp.length ∧
      (∀ j, nodeAt hp' j = if j = i ∧ j < hp.length then { nodeAt hp j with inTree := x } else nodeAt hp j) ∧
      ∀ k, absL hp' (chain hp' tb' C0') k = absL hp (chain hp tb C0) k := by
  subst hp' tb' C0'
  have hlen : (hp.modify i fun n => { n with inTree := x }).length = hp.length := List.length_modify _ _ _
  have hnode := nodeAt_modify_flip hp i (fun n => { n with inTree := x })
  have hval : ∀ j, (nodeAt (hp.modify i fun n => { n with inTree := x }) j).val = (nodeAt hp j).val := by
    intro j; rw [nodeAt_modify]; split <;> rfl
  have hT : ∀ j, inTree (hp.modify i fun n => { n with inTree := x }) C0 j → j ∈ chain hp tb C0 ∨ inTree hp C0 j := by
    intro j hj
    by_cases hji : j = i
    · subst hji
      by_cases hxt : x = true
      · exact Or.inl (hx hxt)
      · exfalso
        obtain ⟨h1, h2, -⟩ := hj
        rw [hnode, if_pos ⟨rfl, hlen ▸ h1⟩] at h2
        exact hxt h2
    · have e : nodeAt (hp.modify i fun n => { n with inTree := x }) j = nodeAt hp j := by
        rw [hnode, if_neg (fun e => hji e.1)]
      exact Or.inr (inTree_of hlen (fun h => e ▸ h) (by rw [e]) hj)
  obtain ⟨C', hs, hc, hkey, -, -⟩ := Flurry.Proto.BinK.modify_summary (T' := inTree _ C0) (P := fun _ => False)
    (P' := fun _ => False) V.cinv (i := i) (f := fun n => { n with inTree := x }) (fun n => ⟨rfl, rfl⟩) hT
    (fun hne => absurd (hval i) hne) (fun _ _ h => h)
  have hc' : chain (hp.modify i fun n => { n with inTree := x }) tb C0 = chain hp tb C0 := hc
  refine ⟨.of_modify hi (fun n => ⟨rfl, rfl, rfl⟩) C' hc hT, by rw [hc']; exact hs, hc, hlen, hnode, fun k => ?_⟩
  rw [hc']
  exact absL_congr (fun j _ => ⟨hkey j, hval j⟩) k

theorem newOwner_one {new : NodeS} (hlen : hp'.length = hp.length + 1) (hnewn : nodeAt hp' hp.length = new)
    (hno : new.owner = ownerOf C0) (j : Nat) (hj : hp.length ≤ j) (b : Nat) (hb : (nodeAt hp' j).owner = some b) :
    C0 = .tree b := by
  by_cases hjl : j = hp.length
  · subst hjl
    rw [hnewn, hno] at hb
    exact ownerOf_eq_some.1 hb
  · exact absurd hb (owner_ge (hlen ▸ Nat.lt_of_le_of_ne hj (Ne.symm hjl)) b)

theorem prepend_inside (V : Valid hp tb C0 K) {new : NodeS} (hh : hp' = hp ++ [new])
    (hst' : startOf tb' C0' = some hp.length) (hnext : new.next = startOf tb C0)
    (hfresh : ∀ j, (j ∈ chain hp tb C0 ∨ inTree hp C0 j) → (nodeAt hp j).key ≠ new.key)
    (hT : ∀ j, inTree hp' C0' j → j < hp.length ∧ inTree hp C0 j) (htl : tb'.length = tb.length)
    (hbin : ∀ b, C0 ≠ .tree b → binAt tb' b = binAt tb b) (hlo : ownerOf C0' = ownerOf C0)
    (hno : new.owner = ownerOf C0') (hside : K new.key) :
    Inside hp tb hp' tb' C0 C0' K ∧
      HeapStep hp (chain hp tb C0) (fun _ => False) hp' (chain hp' tb' C0') (fun _ => False) ∧
      chain hp' tb' C0' = hp.length :: chain hp tb C0 ∧
      (nodeAt hp' hp.length = new ∧ ∀ j, j < hp.length → nodeAt hp' j = nodeAt hp j) ∧
      ∀ k, absL hp' (chain hp' tb' C0') k = if new.key = k then some new.val else absL hp (chain hp tb C0) k := by
  subst hp'
  have hlen : (hp ++ [new]).length = hp.length + 1 := by rw [List.length_append, List.length_singleton]
  have hnewn : nodeAt (hp ++ [new]) hp.length = new := nodeAt_append_new _ _
  have hold : ∀ j, j < hp.length → nodeAt (hp ++ [new]) j = nodeAt hp j := fun j hj => nodeAt_append_left _ hj
  obtain ⟨C', hs, hc, habs⟩ := Flurry.Proto.BinK.prepend_store (T' := inTree (hp ++ [new]) C0') (P := fun _ => False)
    (P' := fun _ => False) V.cinv hnext hfresh hT (fun _ _ h => h)
  have hc' : chain (hp ++ [new]) tb' C0' = hp.length :: chain hp tb C0 := by unfold chain; rw [hst']; exact hc
  rw [← hst'] at C'
  refine ⟨⟨hlen ▸ Nat.le_succ _, fun j hj _ _ => hold j hj, fun j hj => by rw [hold j hj]; exact ⟨rfl, rfl, rfl⟩,
    fun b _ hne => hbin b hne, C', htl, hlo, newOwner_one hlen hnewn (hlo ▸ hno), ?_, fun j hj => Or.inr (hT j hj).2⟩,
    by rw [hc']; exact hs, hc', ⟨hnewn, hold⟩, by rw [hc']; exact hc ▸ habs⟩
  intro j hj
  rw [hc'] at hj
  rcases List.mem_cons.1 hj with rfl | hj
  · exact Or.inr ⟨Nat.le_refl _, by rw [hnewn]; exact hno, by rw [hnewn]; exact hside⟩
  · exact Or.inl hj

theorem append_inside (V : Valid hp tb C0 K) {new : NodeS} {l1 : List Nat} {pr : Nat}
    (hch : chain hp tb C0 = l1 ++ [pr])
    (hh : hp' = (hp ++ [new]).modify pr (fun m => { m with next := some hp.length })) (htb : tb' = tb)
    (hc0 : C0' = C0) (hnext : new.next = none)
    (hfresh : ∀ j, (j ∈ chain hp tb C0 ∨ inTree hp C0 j) → (nodeAt hp j).key ≠ new.key)
    (hT : ∀ j, inTree hp' C0' j → j < hp.length ∧ inTree hp C0 j)
    (hno : new.owner = ownerOf C0) (hside : K new.key) :
    Inside hp tb hp' tb' C0 C0' K ∧
      HeapStep hp (chain hp tb C0) (fun _ => False) hp' (chain hp' tb' C0') (fun _ => False) ∧
      chain hp' tb' C0' = chain hp tb C0 ++ [hp.length] ∧
      (∀ j, nodeAt hp' j = if j = pr then { nodeAt hp j with next := some hp.length }
        else if j = hp.length then new else nodeAt hp j) ∧
      ∀ k, absL hp' (chain hp' tb' C0') k = if new.key = k then some new.val else absL hp (chain hp tb C0) k := by
  subst hp' tb' C0'
  obtain ⟨C', hs, hc, habs⟩ := Flurry.Proto.BinK.append_store (T' := inTree _ C0) (P := fun _ => False)
    (P' := fun _ => False) V.cinv hch hnext hfresh hT (fun _ _ h => h)
  have hc' : chain ((hp ++ [new]).modify pr fun m => { m with next := some hp.length }) tb C0 =
      chain hp tb C0 ++ [hp.length] := hc
  have hpr : pr ∈ chain hp tb C0 := by rw [hch]; exact List.mem_append_right _ (List.mem_singleton_self _)
  have hprl := V.cinv.chain_lt hpr
  have hnode := nodeAt_append_link new hprl
  have hlen : ((hp ++ [new]).modify pr fun m => { m with next := some hp.length }).length = hp.length + 1 := by
    rw [List.length_modify, List.length_append, List.length_singleton]
  have hnewn : nodeAt ((hp ++ [new]).modify pr fun m => { m with next := some hp.length }) hp.length = new := by
    rw [hnode, if_neg (Nat.ne_of_gt hprl), if_pos rfl]
  refine ⟨⟨hlen ▸ Nat.le_succ _, ?_, ?_, fun _ _ _ => rfl, C', rfl, rfl, newOwner_one hlen hnewn hno, ?_,
    fun j hj => Or.inr (hT j hj).2⟩, by rw [hc']; exact hs, hc', hnode, habs⟩
  · intro j hj h1 _
    rw [hnode, if_neg (fun (e : j = pr) => h1 (e ▸ hpr)), if_neg (Nat.ne_of_lt hj)]
  · intro j hj
    rw [hnode, if_neg (Nat.ne_of_lt hj)]
    split <;> exact ⟨rfl, rfl, rfl⟩
  · intro j hj
    rw [hc'] at hj
    rcases List.mem_append.1 hj with hj | hj
    · exact Or.inl hj
    · cases List.mem_singleton.1 hj
      exact Or.inr ⟨Nat.le_refl _, by rw [hnewn]; exact hno, by rw [hnewn]; exact hside⟩

theorem unlink_inside (V : Valid hp tb C0 K) {i : Nat}
    (hcase : (∃ l2, chain hp tb C0 = i :: l2 ∧ hp' = hp ∧ startOf tb' C0' = (nodeAt hp i).next) ∨
      (∃ l1 pr l2, chain hp tb C0 = l1 ++ pr :: i :: l2 ∧
        hp' = hp.modify pr (fun m => { m with next := (nodeAt hp i).next }) ∧ startOf tb' C0' = startOf tb C0))
    (hT : ∀ j, inTree hp' C0' j → inTree hp C0 j) (htl : tb'.length = tb.length)
    (hbin : ∀ b, C0 ≠ .tree b → binAt tb' b = binAt tb b) (hlo : ownerOf C0' = ownerOf C0) :
    Inside hp tb hp' tb' C0 C0' K ∧
      HeapStep hp (chain hp tb C0) (fun _ => False) hp' (chain hp' tb' C0') (fun _ => False) ∧ i ∈ chain hp tb C0 ∧
      (∀ j, j ∈ chain hp' tb' C0' ↔ j ∈ chain hp tb C0 ∧ j ≠ i) ∧ hp'.length = hp.length ∧
      (∀ j, (nodeAt hp' j).key = (nodeAt hp j).key ∧ (nodeAt hp' j).val = (nodeAt hp j).val ∧
        (nodeAt hp' j).inTree = (nodeAt hp j).inTree ∧ (nodeAt hp' j).owner = (nodeAt hp j).owner ∧
        (nodeAt hp' j).lock = (nodeAt hp j).lock) ∧
      ∀ k, absL hp' (chain hp' tb' C0') k = if (nodeAt hp i).key = k then none else absL hp (chain hp tb C0) k := by
  have hnd := V.cinv.nodup
  -- the heap-level facts of the two cases
  have main : CInv hp' (startOf tb' C0') (inTree hp' C0') ∧
      HeapStep hp (chain hp tb C0) (fun _ => False) hp' (chain hp' tb' C0') (fun _ => False) ∧ i ∈ chain hp tb C0 ∧
      (∀ j, j ∈ chain hp' tb' C0' ↔ j ∈ chain hp tb C0 ∧ j ≠ i) ∧ hp'.length = hp.length ∧
      (∀ j, (nodeAt hp' j).key = (nodeAt hp j).key ∧ (nodeAt hp' j).val = (nodeAt hp j).val ∧
        (nodeAt hp' j).inTree = (nodeAt hp j).inTree ∧ (nodeAt hp' j).owner = (nodeAt hp j).owner ∧
        (nodeAt hp' j).lock = (nodeAt hp j).lock) ∧
      (∀ j, j ∉ chain hp tb C0 → nodeAt hp' j = nodeAt hp j) ∧
      ∀ k, absL hp' (chain hp' tb' C0') k = if (nodeAt hp i).key = k then none else absL hp (chain hp tb C0) k := by
    rcases hcase with ⟨l2, hch, hh, hst⟩ | ⟨l1, pr, l2, hch, hh, hst⟩ <;> subst hp'
    · obtain ⟨C', hs, hc, ha⟩ := Flurry.Proto.BinK.unlink_head (T' := inTree hp C0') (P := fun _ => False)
        (P' := fun _ => False) V.cinv hch hT (fun _ _ h => h)
      unfold chain at hch ⊢
      rw [hst]
      refine ⟨C', hs, by rw [hch]; exact List.mem_cons_self, fun j => ?_, rfl, fun j => ⟨rfl, rfl, rfl, rfl, rfl⟩,
        fun j _ => rfl, ha⟩
      rw [hc, hch]
      exact mem_erase_mid (l1 := []) (hch ▸ hnd) j
    · obtain ⟨C', hs, hc, hf, ha⟩ := Flurry.Proto.BinK.unlink_mid (T' := inTree _ C0') (P := fun _ => False)
        (P' := fun _ => False) V.cinv hch hT (fun _ _ h => h)
      have hpr : pr ∈ chain hp tb C0 := by rw [hch]; exact List.mem_append_right _ List.mem_cons_self
      unfold chain at hch hpr ⊢
      rw [hst]
      refine ⟨C', hs, by rw [hch]; exact List.mem_append_right _ (List.mem_cons_of_mem _ List.mem_cons_self),
        fun j => ?_, List.length_modify _ _ _, hf, fun j hj => nodeAt_modify_ne _ (fun (e : pr = j) => hj (e ▸ hpr)),
        ha⟩
      rw [hc, hch, List.append_cons l1 pr l2, List.append_cons l1 pr (i :: l2)]
      exact mem_erase_mid (by rw [← List.append_cons, ← hch]; exact hnd) j
  obtain ⟨C', hs, hi, hmem, hlen, hf, hoff, habs⟩ := main
  exact ⟨⟨Nat.le_of_eq hlen.symm, fun j _ h1 _ => hoff j h1, fun j _ => ⟨(hf j).1, (hf j).2.2.2.1, (hf j).2.2.2.2⟩,
    fun b _ hne => hbin b hne, C', htl, hlo, fun j hj b hb => absurd hb (owner_ge (hlen ▸ hj) b),
    fun j hj => Or.inl ((hmem j).1 hj).1, fun j hj => Or.inr (hT j hj)⟩, hs, hi, hmem, hlen, hf, habs⟩

/-- the structure `C0` is switched to `C0'`, whose list `L'` is a copy of the old list (treeify: the nodes of `L'` are
private nodes, `P`; untreeify: they are new); the copy is described as a set: distinct keys, every node of `L'` has a
source on the old list, every node of the old list has a copy. A new node with an owner belongs to the old `TreeBin`
of the structure (`hnewOwner`). -/
theorem convert_valid {P : Nat → Prop} {L' : List Nat} (V : Valid hp tb C0 K) (hok' : NextOK hp')
    (hlen : hp.length ≤ hp'.length) (hold : ∀ j, j < hp.length → nodeAt hp' j = nodeAt hp j) (htb : tb' = tb)
    (hch' : IsChain hp' (startOf tb' C0') L')
    (hdist : ∀ a b, a ∈ L' → b ∈ L' → (nodeAt hp' a).key = (nodeAt hp' b).key → a = b)
    (hsrc : ∀ j ∈ L', ∃ i ∈ chain hp tb C0, (nodeAt hp i).key = (nodeAt hp' j).key ∧
      (nodeAt hp i).val = (nodeAt hp' j).val)
    (hcov : ∀ i ∈ chain hp tb C0, ∃ j ∈ L', (nodeAt hp' j).key = (nodeAt hp i).key ∧
      (nodeAt hp' j).val = (nodeAt hp i).val)
    (hnew : ∀ j ∈ L', j ∉ chain hp tb C0 ∧ (hp.length ≤ j ∨ P j))
    (hT : ∀ j, inTree hp' C0' j → j ∈ L')
    (hnewOwner : ∀ j, hp.length ≤ j → ∀ b, (nodeAt hp' j).owner = some b → C0 = .tree b)
    (hC : ∀ b, C0' = .tree b → b < tb'.length) (hown : ∀ j ∈ L', (nodeAt hp' j).owner = ownerOf C0') :
    Valid hp' tb' C0' K ∧ Touch hp tb hp' tb' C0 ∧
      HeapStep hp (chain hp tb C0) P hp' (chain hp' tb' C0') (fun _ => False) ∧ chain hp' tb' C0' = L' ∧
      ∀ k, absL hp' (chain hp' tb' C0') k = absL hp (chain hp tb C0) k := by
  have hc : chain hp' tb' C0' = L' := Flurry.Proto.BinK.chainOf_eq hok' hch'
  have C' : CInv hp' (startOf tb' C0') (inTree hp' C0') := by
    refine ⟨hok', fun h hh => ?_, fun a b ha hb => ?_⟩
    · obtain ⟨l, hl⟩ := Flurry.Proto.BinK.IsChain.start_some (hh ▸ hch')
      exact hch'.lt_length h (by rw [hl]; exact List.mem_cons_self)
    · exact hdist a b (ha.elim (fun h => hc ▸ h) (hT a)) (hb.elim (fun h => hc ▸ h) (hT b))
  rw [hc]
  refine ⟨⟨C', hC, fun j hj => hown j (hc ▸ hj), fun j hj => ?_⟩,
    ⟨hlen, Nat.le_of_eq (congrArg _ htb.symm), fun j hj _ _ => hold j hj,
      fun j hj => by rw [hold j hj]; exact ⟨rfl, rfl, rfl⟩, fun j hj b hb => Or.inl (hnewOwner j hj b hb),
      fun b _ _ => by rw [htb]⟩,
    ⟨hlen, fun j hj => by rw [hold j hj], fun j hj _ => by rw [hold j hj]; exact ⟨rfl, rfl⟩, fun _ _ h => h.elim,
      fun j hj => Or.inr (hnew j hj).2, fun i c hi _ h => absurd hi (hnew i (h.subset List.mem_cons_self)).1,
      fun j _ _ c hc1 hc2 => absurd hc1 (hnew c hc2).1⟩, rfl, fun k => ?_⟩
  · obtain ⟨i, hi, hk, -⟩ := hsrc j (hj.elim (fun hj => hc ▸ hj) (hT j))
    rw [← hk]
    exact V.side i (Or.inl hi)
  · cases ha : absL hp (chain hp tb C0) k with
    | none =>
      rw [Flurry.Proto.BinK.absL_eq_none_iff] at ha ⊢
      intro j hj
      obtain ⟨i, hi, hk, -⟩ := hsrc j hj
      rw [← hk]; exact ha i hi
    | some w =>
      rw [Flurry.Proto.BinK.absL_eq_some_iff (L := chain hp tb C0) V.cinv.distinct] at ha
      obtain ⟨i, hi, hik, hiv⟩ := ha
      obtain ⟨j, hj, hjk, hjv⟩ := hcov i hi
      rw [Flurry.Proto.BinK.absL_eq_some_iff hdist]
      exact ⟨j, hj, by rw [hjk, hik], by rw [hjv, hiv]⟩

theorem Valid.grow (V : Valid hp tb C K) (hok' : NextOK hp') (hlen : hp.length ≤ hp'.length)
    (hold : ∀ j, j < hp.length → nodeAt hp' j = nodeAt hp j) (htlen : tb.length ≤ tb'.length)
    (hbin : ∀ b, b < tb.length → binAt tb' b = binAt tb b)
    (hno : ∀ j, hp.length ≤ j → ∀ b, (nodeAt hp' j).owner = some b → tb.length ≤ b) :
    Valid hp' tb' C K ∧ chain hp' tb' C = chain hp tb C := by
  refine V.frame hok' hlen htlen (fun b hb => hbin b (V.cellOK b hb)) (fun j hj => hold j (V.cinv.chain_lt hj)) ?_
  rintro j ⟨_, h2, b, h3, h4⟩
  have hjl : j < hp.length := Nat.lt_of_not_le fun hjl =>
    absurd (V.cellOK b h3) (Nat.not_lt.2 (hno j hjl b h4))
  rw [hold j hjl] at h2 h4 ⊢
  exact ⟨⟨hjl, h2, b, h3, h4⟩, rfl⟩

end
end Flurry.Proto.BinGH
