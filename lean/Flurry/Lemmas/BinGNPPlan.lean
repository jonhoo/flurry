import Flurry.Lemmas.BinGNPSplit
import Flurry.Lemmas.BinGNPStore
/-! # Proto/BinGN: the two build steps of a transfer establish `Plan`

`xbuild_plan_ext`: the list split (`xBuild`); `ybuild_plan_ext`: the tree split (`yBuild`) of the cell `(s.cur, jc)`; these are
what `Lemmas/BinGNPFactsX.lean` uses (`HInv s'`, `Plan`, `Ext s s'` and where the nodes of the planned structures come from);
`xbuild_plan`, `ybuild_plan` are corollaries that speak of the heap extension and the chains instead of `Ext`; no proof
uses them. Both steps change the heap and the `TreeBin` table only, and what
they do there is in `Lemmas/BinGHeapPlan.lean` (`xsplit_spec`, `ysplit_spec`, split bit `bitAt s.cur`); `copyOK_iff`,
`splitSide_eq`, `ysplitOf_eq` connect the notions of this model with the ones there. `storeAt_frame`, `unlinkOf_frame`,
`untreeifyOf_frame`, `ysplitOf_frame`: the builders of successor states leave threads, history and clock alone. -/
namespace Flurry.Proto.BinGNP
open Flurry.Lin
open Flurry.Proto.BinK (nodeAt binAt NextOK)

export Flurry.Proto.BinGH (mkL mkT nodeAt_append_ge cellOfHead_ne_tree cellOfHead_ne_moved)

theorem copyOK_iff {s : State} {old : Cell} {sel : Nat → Bool} {C : Cell} :
    CopyOK s old sel C ↔ BinGH.CopyOK s.heap s.tbins old sel C :=
  ⟨fun h => ⟨h.1, h.2, h.3, h.4, h.5, h.6, h.7, h.8, h.9, h.10⟩,
   fun h => ⟨h.1, h.2, h.3, h.4, h.5, h.6, h.7, h.8, h.9, h.10⟩⟩

theorem startOf_cellOfHead (tb : List TBin) (hd : Option Nat) : startOf tb (cellOfHead hd) = hd :=
  BinGH.startOf_cellOfHead tb hd

theorem not_treeOf_cellOfHead (s : State) (hd : Option Nat) (j : Nat) : ¬ treeOf s (cellOfHead hd) j :=
  BinGH.not_inTree_cellOfHead s.heap hd j

theorem ownerOf_cellOfHead (hd : Option Nat) : ownerOf (cellOfHead hd) = none :=
  BinGH.ownerOf_cellOfHead hd

/-! ## the list split -/

/-- the nodes of a planned structure are nodes of the old chain or new nodes; a planned `TreeBin` is the
old one or a new one -/
def NewOrOld (s s' : State) (jc : Nat) (C : Cell) : Prop :=
  (∀ j ∈ chainC s' C, j ∈ chainC s (cellAt s (s.cur, jc)) ∨ s.heap.length ≤ j) ∧
  (∀ x, C = .tree x → (cellAt s (s.cur, jc)) = .tree x ∨ s.tbins.length ≤ x)

/-- a build step of a thread `t` that is not past the first store of a transfer replaces heap and `TreeBin` table by
extensions in which the two planned cells are the two sides of the old cell -/
theorem plan_of_ext {s : State} {t : Nat} {l l' : Local} {jc : Nat} {hp' : List NodeS} {tb' : List TBin}
    {old lo hi : Cell} (H : HInv s) (hl : s.threads[t]? = some l)
    (hnot : ∀ j0 b, ¬ ((∃ hi, l.pc = .xStoreHigh j0 (.inr b) hi) ∨ l.pc = .xStoreMoved j0 (.inr b)))
    (hcell : cellAt s (s.cur, jc) = old) (e : BinGH.Ext s.heap s.tbins hp' tb')
    (hlo : BinGH.CopyOK hp' tb' old (fun k => bitAt s.cur k == false) lo)
    (hhi : BinGH.CopyOK hp' tb' old (fun k => bitAt s.cur k == true) hi)
    (hdist : ∀ b, lo = .tree b → hi ≠ .tree b)
    (hN1 : BinGH.NewOrOld s.heap s.tbins hp' tb' old lo) (hN2 : BinGH.NewOrOld s.heap s.tbins hp' tb' old hi) :
    HInv (setT (qst s hp' tb') t l') ∧ Plan (setT (qst s hp' tb') t l') jc lo hi ∧
    Ext s (setT (qst s hp' tb') t l') ∧
    NewOrOld s (setT (qst s hp' tb') t l') jc lo ∧ NewOrOld s (setT (qst s hp' tb') t l') jc hi := by
  have E : Ext s (setT (qst s hp' tb') t l') := ⟨e, rfl, rfl, reusing_of_set (s' := setT (qst s hp' tb') t l') rfl hl (fun b j0 h => absurd h (hnot j0 b))⟩
  have hcell' : cellAt (setT (qst s hp' tb') t l') ((setT (qst s hp' tb') t l').cur, jc) = old := hcell
  unfold NewOrOld
  rw [hcell]
  refine ⟨E.hinv H, ⟨?_, ?_, hdist⟩, E, hN1, hN2⟩
  · rw [hcell']; exact copyOK_iff.2 hlo
  · rw [hcell']; exact copyOK_iff.2 hhi

theorem xsplitOf_eq (s : State) (h : Nat) :
    xsplitOf s h = ((splitBinB (bitAt s.cur) s.heap (BinGH.chain s.heap s.tbins (.list h))).1,
      cellOfHead (splitBinB (bitAt s.cur) s.heap (BinGH.chain s.heap s.tbins (.list h))).2.1,
      cellOfHead (splitBinB (bitAt s.cur) s.heap (BinGH.chain s.heap s.tbins (.list h))).2.2) := rfl

theorem xbuild_plan_ext {s : State} {t : Nat} {l : Local} {jc h : Nat} (I : Inv s) (hl : s.threads[t]? = some l)
    (hpc : l.pc = .xBuild jc h) :
    let s' := setT (qst s (xsplitOf s h).1 s.tbins) t { l with pc := .xStoreLow jc (.inl h) (xsplitOf s h).2.1 (xsplitOf s h).2.2 }
    HInv s' ∧ Plan s' jc (xsplitOf s h).2.1 (xsplitOf s h).2.2 ∧
    (∃ ext, s'.heap = s.heap ++ ext ∧ ∀ n ∈ ext, n.lock = none ∧ n.inTree = false ∧ n.owner = none) ∧
    (∀ c : Cell, (∀ x, startOf s.tbins c = some x → x < s.heap.length) → chainC s' c = chainC s c) ∧
    Ext s s' ∧ NewOrOld s s' jc (xsplitOf s h).2.1 ∧ NewOrOld s s' jc (xsplitOf s h).2.2 := by
  have H := I.heap
  have hcid : cidOf s l = (s.cur, jc) := by unfold cidOf; rw [hpc]; rfl
  have hcell : cellAt s (s.cur, jc) = .list h := by
    have := I.lock.vL t l h hl (by rw [hpc]; rfl)
    rw [hcid] at this; exact this
  have hC0 := H.cinv (s.cur, jc)
  have hown := H.chainOwner (s.cur, jc)
  rw [hcell] at hC0 hown
  obtain ⟨hext, e, hlo, hhi, hN1, hN2⟩ := BinGH.xsplit_spec (bitAt s.cur) s.tbins hC0 hown rfl
  dsimp only
  rw [xsplitOf_eq]
  generalize splitBinB (bitAt s.cur) s.heap (BinGH.chain s.heap s.tbins (.list h)) = R at hext e hlo hhi hN1 hN2 ⊢
  obtain ⟨h1, h2, E, h3, h4⟩ := plan_of_ext
    (l' := { l with pc := .xStoreLow jc (.inl h) (cellOfHead R.2.1) (cellOfHead R.2.2) }) H hl
    (by rw [hpc]; rintro j0 b (⟨hi, hh⟩ | hh) <;> cases hh) hcell e hlo hhi
    (fun b hb => absurd hb (cellOfHead_ne_tree _ b)) hN1 hN2
  exact ⟨h1, h2, hext, fun c hst => e.chainOf_eq H.nextOK hst, E, h3, h4⟩

theorem xbuild_plan {s : State} {t : Nat} {l : Local} {j h : Nat} (I : Inv s) (hl : s.threads[t]? = some l)
    (hpc : l.pc = .xBuild j h) :
    let s' := setT (qst s (xsplitOf s h).1 s.tbins) t { l with pc := .xStoreLow j (.inl h) (xsplitOf s h).2.1 (xsplitOf s h).2.2 }
    HInv s' ∧ Plan s' j (xsplitOf s h).2.1 (xsplitOf s h).2.2 ∧
    (∃ ext, s'.heap = s.heap ++ ext ∧ ∀ n ∈ ext, n.lock = none ∧ n.inTree = false ∧ n.owner = none) ∧
    (∀ c : Cell, (∀ x, startOf s.tbins c = some x → x < s.heap.length) → chainC s' c = chainC s c) := by
  intro s'
  obtain ⟨a, b, c, d, -⟩ := xbuild_plan_ext I hl hpc
  exact ⟨a, b, c, d⟩

/-! ## the tree split -/

theorem splitSide_eq (s : State) (b : Nat) (c : List Nat) (small reuse : Bool) :
    splitSide s b c small reuse =
      ({ s with heap := (BinGH.splitSide s.heap s.tbins b c small reuse).1,
                tbins := (BinGH.splitSide s.heap s.tbins b c small reuse).2.1 },
        (BinGH.splitSide s.heap s.tbins b c small reuse).2.2) := by
  cases c with
  | nil => rfl
  | cons a c => cases small <;> cases reuse <;> rfl

theorem splitSide_frame (s : State) (b : Nat) (c : List Nat) (small reuse : Bool) :
    (splitSide s b c small reuse).1 =
      { s with heap := (splitSide s b c small reuse).1.heap, tbins := (splitSide s b c small reuse).1.tbins } := by
  rw [splitSide_eq]

theorem frame_trans {s0 s1 s2 : State} (h1 : s1 = { s0 with heap := s1.heap, tbins := s1.tbins })
    (h2 : s2 = { s1 with heap := s2.heap, tbins := s2.tbins }) :
    s2 = { s0 with heap := s2.heap, tbins := s2.tbins } := by
  rw [h2, h1]

/-- a state built by `storeAt`, `unlinkOf`, `untreeifyOf`, `ysplitOf` has the threads, history and clock of the state it is
built from (four lemmas; the step lemma, the progress and the drain layer apply them at `tick s`) -/
theorem storeAt_frame (s : State) (tab : Nat) (p : Pending) (pred hit hnext : Option Nat) :
    (storeAt s tab p pred hit hnext).1.threads = s.threads ∧ (storeAt s tab p pred hit hnext).1.hist = s.hist ∧
      (storeAt s tab p pred hit hnext).1.now = s.now := by
  unfold storeAt
  cases p.op <;> cases hit <;> cases pred <;> exact ⟨rfl, rfl, rfl⟩

theorem unlinkOf_frame (s : State) (b i : Nat) :
    (unlinkOf s b i).threads = s.threads ∧ (unlinkOf s b i).hist = s.hist ∧ (unlinkOf s b i).now = s.now := by
  unfold unlinkOf
  split <;> exact ⟨rfl, rfl, rfl⟩

theorem untreeifyOf_frame (s : State) (tab : Nat) (k b : Nat) :
    (untreeifyOf s tab k b).threads = s.threads ∧ (untreeifyOf s tab k b).hist = s.hist ∧
      (untreeifyOf s tab k b).now = s.now := ⟨rfl, rfl, rfl⟩

theorem ysplitOf_frame (s : State) (b : Nat) (small small2 : Bool) :
    (ysplitOf s b small small2).1.threads = s.threads ∧ (ysplitOf s b small small2).1.hist = s.hist ∧
      (ysplitOf s b small small2).1.now = s.now := by
  unfold ysplitOf
  dsimp only
  have f1 := splitSide_frame s b (lowOf s b) small (highOf s b).isEmpty
  have f2 := splitSide_frame (splitSide s b (lowOf s b) small (highOf s b).isEmpty).1 b (highOf s b) small2
    (lowOf s b).isEmpty
  have f := frame_trans f1 f2
  rw [f]
  exact ⟨rfl, rfl, rfl⟩

theorem ysplitOf_eq (s : State) (b : Nat) (small small2 : Bool) :
    ysplitOf s b small small2 =
      ({ s with heap := (BinGH.ysplit (bitAt s.cur) s.heap s.tbins b small small2).1,
                tbins := (BinGH.ysplit (bitAt s.cur) s.heap s.tbins b small small2).2.1 },
        (BinGH.ysplit (bitAt s.cur) s.heap s.tbins b small small2).2.2.1,
        (BinGH.ysplit (bitAt s.cur) s.heap s.tbins b small small2).2.2.2) := by
  unfold ysplitOf
  dsimp only
  rw [splitSide_eq, splitSide_eq]
  rfl

/-- the thread at `yBuild jc b` holds the mutex of `b`, so no remover is between its list unlink and its
tree removal: the tree of `b` holds no node that is not on the list -/
theorem ypre_of_inv {s : State} {t : Nat} {l : Local} {jc b : Nat} (I : Inv s) (hl : s.threads[t]? = some l)
    (hpc : l.pc = .yBuild jc b) : cellAt s (s.cur, jc) = .tree b ∧ BinGH.YPre s.heap s.tbins b := by
  have H := I.heap
  have hcid : cidOf s l = (s.cur, jc) := by unfold cidOf; rw [hpc]; rfl
  have hcell : cellAt s (s.cur, jc) = .tree b := by
    have := I.lock.vT t l b hl (by rw [hpc]; rfl)
    rw [hcid] at this; exact this
  have hmx : (binAt s.tbins b).mutex = some t := (I.lock.mx t l b hl).1 (by rw [hpc]; rfl)
  have hC0 := H.cinv (s.cur, jc)
  have hown := H.chainOwner (s.cur, jc)
  rw [hcell] at hC0 hown
  refine ⟨hcell, hC0, H.cellOK (s.cur, jc) b hcell, H.ownerOK, hown, ?_⟩
  intro j hj ho hin
  apply Classical.byContradiction
  intro hn
  obtain ⟨t', l', hl', hcase⟩ := I.data.treeSub (s.cur, jc) b hcell j hj ho hin hn
  have hm' : holdsMutex l'.pc = some b := by
    rcases hcase with ⟨tab, res, h⟩ | ⟨tab, res, h⟩ <;> rw [h] <;> rfl
  have hmx' := (I.lock.mx t' l' b hl').1 hm'
  rw [hmx] at hmx'
  cases hmx'
  rw [hl] at hl'
  cases hl'
  rcases hcase with ⟨tab, res, h⟩ | ⟨tab, res, h⟩ <;> rw [hpc] at h <;> cases h

theorem ybuild_plan_ext {s : State} {t : Nat} {l : Local} {jc b : Nat} (small small2 : Bool) (I : Inv s)
    (hl : s.threads[t]? = some l) (hpc : l.pc = .yBuild jc b) :
    let r := ysplitOf (tick s) b small small2
    let s' := setT r.1 t { l with pc := .xStoreLow jc (.inr b) r.2.1 r.2.2 }
    HInv s' ∧ Plan s' jc r.2.1 r.2.2 ∧
    (∃ ext, s'.heap = s.heap ++ ext ∧ ∀ n ∈ ext, n.lock = none) ∧
    (∃ extb, s'.tbins = s.tbins ++ extb ∧ ∀ x ∈ extb, x = { first := x.first }) ∧
    (∀ j, s.heap.length ≤ j → j < s'.heap.length → ∀ b', (nodeAt s'.heap j).owner = some b' → s.tbins.length ≤ b') ∧
    (∀ c : Cell, (∀ x, startOf s.tbins c = some x → x < s.heap.length) → (∀ b', c = .tree b' → b' < s.tbins.length) →
      chainC s' c = chainC s c) ∧
    (∀ id, cellAt s' id = cellAt s id) ∧ s'.cur = s.cur ∧ s'.now = s.now + 1 ∧
    s' = setT (qst s s'.heap s'.tbins) t { l with pc := .xStoreLow jc (.inr b) r.2.1 r.2.2 } ∧
    Ext s s' ∧ NewOrOld s s' jc r.2.1 ∧ NewOrOld s s' jc r.2.2 := by
  obtain ⟨hcell, P⟩ := ypre_of_inv I hl hpc
  obtain ⟨e, hlo, hhi, hdist, hN1, hN2⟩ :=
    BinGH.ysplit_spec (bitAt (tick s).cur) small small2 (hp := (tick s).heap) (tb := (tick s).tbins) P rfl
  dsimp only
  rw [ysplitOf_eq]
  generalize BinGH.ysplit (bitAt (tick s).cur) (tick s).heap (tick s).tbins b small small2 = R
    at e hlo hhi hdist hN1 hN2 ⊢
  obtain ⟨h1, h2, E, h3, h4⟩ := plan_of_ext (l' := { l with pc := .xStoreLow jc (.inr b) R.2.2.1 R.2.2.2 })
    I.heap hl (by rw [hpc]; rintro j0 b' (⟨hi, hh⟩ | hh) <;> cases hh) hcell e hlo hhi hdist hN1 hN2
  exact ⟨h1, h2, e.heap, e.tbins, fun j hj _ b' ho => (e.newOwner j b' hj ho).1,
    fun c hst hc => E.chainC_eq I.heap.nextOK hst hc, E.cellAt_eq, rfl, rfl, rfl, E, h3, h4⟩

theorem ybuild_plan {s : State} {t : Nat} {l : Local} {j b : Nat} (small small2 : Bool) (I : Inv s)
    (hl : s.threads[t]? = some l) (hpc : l.pc = .yBuild j b) :
    let r := ysplitOf (tick s) b small small2
    let s' := setT r.1 t { l with pc := .xStoreLow j (.inr b) r.2.1 r.2.2 }
    HInv s' ∧ Plan s' j r.2.1 r.2.2 ∧
    (∃ ext, s'.heap = s.heap ++ ext ∧ ∀ n ∈ ext, n.lock = none) ∧
    (∃ extb, s'.tbins = s.tbins ++ extb ∧ ∀ x ∈ extb, x = { first := x.first }) ∧
    (∀ i, s.heap.length ≤ i → i < s'.heap.length → ∀ b', (nodeAt s'.heap i).owner = some b' → s.tbins.length ≤ b') ∧
    (∀ c : Cell, (∀ x, startOf s.tbins c = some x → x < s.heap.length) → (∀ b', c = .tree b' → b' < s.tbins.length) →
      chainC s' c = chainC s c) ∧
    (∀ id, cellAt s' id = cellAt s id) ∧ s'.cur = s.cur ∧ s'.now = s.now + 1 ∧
    s' = setT (qst s s'.heap s'.tbins) t { l with pc := .xStoreLow j (.inr b) r.2.1 r.2.2 } := by
  intro r s'
  obtain ⟨a1, a2, a3, a4, a5, a6, a7, a8, a9, a10, -⟩ := ybuild_plan_ext small small2 I hl hpc
  exact ⟨a1, a2, a3, a4, a5, a6, a7, a8, a9, a10⟩

end Flurry.Proto.BinGNP
