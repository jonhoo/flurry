import Flurry.Lemmas.BinRLin
import Flurry.Lemmas.BinRBMain

/-! # Proto/BinR: the list bin with the writer's traversal spelled out is linearizable (C13)

`Proto/BinR.lean` is `Proto/BinRBase.lean` with the walk of a validated writer made explicit: one `next`
load per transition, then a single store *through the positions remembered during the walk*. Here
the lock inside the first node and the re-check of the bin cell are load-bearing: the proof needs
that nobody else changes the chain between the walk and the store (`Base.stepK_frozen`, from the lock
invariant `Base.LInv`), so that the remembered positions are the current ones
(`storeAt_eq_writerStore`). With that, every `BinR` transition is a `Base` transition on the projected
state or a stutter step (`stepW_proj`), the ghost invariant of `Proto/BinRBase` transfers, and so does
the theorem. The variant that does not compare the value id is refuted in `Lemmas/BinRExamples.lean`. -/
namespace Flurry.Proto.BinR
open Flurry.Lin2

theorem reachable_ginv {n : Nat} {s : State} (hr : Reachable n s) (k : Nat) :
    ∃ A pt, Base.GInv k (proj s) A pt := by
  induction hr with
  | init => exact ⟨_, _, by rw [proj_init]; exact Base.init_ginv n k⟩
  | @step s s' t inv hr hs ih =>
    obtain ⟨A, pt, g⟩ := ih
    obtain ⟨l, hl⟩ := step_some_thread hs
    exact ginv_stepW g (reachable_winv hr) hl (step_stepW hl hs)

/-- `reachable_winv` and `reachable_ginv` in one statement, as `BinW.binw_simulated`; nothing uses it -/
theorem binR_simulated {n : Nat} {s : State} (hr : Reachable n s) :
    Base.Inv (proj s) ∧ Base.LInv (proj s) ∧ ∀ k, ∃ A pt, Base.GInv k (proj s) A pt :=
  ⟨(reachable_winv hr).inv, (reachable_winv hr).linv, reachable_ginv hr⟩

/-- at most one thread is walking the list or about to store: validated writers exclude each other -/
theorem walkers_mutex {n : Nat} {s : State} (hr : Reachable n s) {t1 t2 : Nat} {l1 l2 : Local}
    (hl1 : s.threads[t1]? = some l1) (hl2 : s.threads[t2]? = some l2)
    (hp1 : walkPc l1.pc) (hp2 : walkPc l2.pc) : t1 = t2 := by
  obtain ⟨h1, hh1⟩ := walkPc_iff.1 hp1
  obtain ⟨h2, hh2⟩ := walkPc_iff.1 hp2
  exact ((reachable_winv hr).linv.mutex (proj_thread hl1) (proj_thread hl2) hh1 hh2).1

/-- **the store through the remembered positions is the store on the current chain**: when a writer
reaches `wStore`, what `storeAt` does with the positions it remembered is exactly what
`Base.writerStore` does on the current state -/
theorem storeAt_eq_writerStore_reachable {n : Nat} {s : State} (hr : Reachable n s) {t : Nat} {l : Local}
    {p : Pending} {h : Nat} {pred hit hnext : Option Nat}
    (hl : s.threads[t]? = some l) (hpc : l.pc = .wStore h pred hit hnext) (hc : l.call = some p) :
    proj (storeAt s p pred hit hnext).1 = (Base.writerStore (proj s) (cP p)).1 ∧
    (storeAt s p pred hit hnext).2 = (Base.writerStore (proj s) (cP p)).2 := by
  have W := reachable_winv hr
  have w := W.walk t l p hl hc
  rw [hpc] at w
  exact storeAt_eq_writerStore W.inv.heap w.1 w.2

/-- **One list bin with the writer's walk spelled out, `condRm` and the `retain` visit** (`C13R.binR_linearizable`).
Under every interleaving of any number
of threads, the per-key history (completed calls plus stored-but-not-yet-unlocked writers) is
linearizable and ends in the abstract content of the bin. -/
theorem binR_linearizable {n : Nat} {s : State} (hr : Reachable n s) (k : Nat) :
    Lin2.Linearizable2 (callsOnExt s k) none (absOf s k) := by
  obtain ⟨A, pt, g⟩ := reachable_ginv hr k
  have := g.linearizable (reachable_winv hr).inv
  rw [callsOnExt_proj, absOf_proj] at this
  exact this

theorem binR_linearizable_quiescent {n : Nat} {s : State} (hr : Reachable n s) (hq : quiescent s) (k : Nat) :
    Lin2.Linearizable2 (callsOn s k) none (absOf s k) := by
  have := binR_linearizable hr k
  rw [callsOnExt_quiescent hq] at this
  exact this

end Flurry.Proto.BinR
