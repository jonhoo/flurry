import Flurry.Lemmas.BinGEmbed
import Flurry.Lemmas.BinGInvBasic
/-! # Proto/BinG: the structural invariant read off the image in Proto/BinGN

`BinGNP.Inv (emb s) → BinG.Inv s`, clause by clause. The two developments define `startOf`, `ownerOf`, `chainC`,
`treeOf`, `Walk`, `FreshOK`, `RemOK` and the fields of `CopyOK` by the same text over heap and `TreeBin` table, which
`emb` does not change: these agree definitionally, and a `CopyOK` of the image is a `CopyOK` of the state field by field.
What needs an argument is what mentions cells, the table pointer or the program counter: the functions of the
program counter go through `embPc` (one case analysis each), the cells through `cellAt_emb`, and the resizing thread of
BinG says two things that BinGN's does not (it loads the old cell only while it is not forwarded, and it is past the
marker when it unlocks or commits): they are hypotheses of `xinv_of_emb`, as is `NewOK`, which the image cannot see. -/
namespace Flurry.Proto.BinGE
open Flurry.Lin
open Flurry.Proto.BinK (nodeAt)
open Flurry.Proto.BinG (Tab Cid)

theorem readerPc_emb (pc : BinG.Pc) : BinGNP.readerPc (embPc pc) = BinG.readerPc pc := by cases pc <;> rfl
theorem kPc_emb (pc : BinG.Pc) : BinGNP.kPc (embPc pc) = BinG.kPc pc := by cases pc <;> rfl

theorem embPc_idle {pc : BinG.Pc} : embPc pc = .idle ↔ pc = .idle := by
  refine ⟨fun h => ?_, fun h => h ▸ rfl⟩
  cases pc with
  | idle => rfl
  | _ => cases h

theorem noCallPc_emb (pc : BinG.Pc) : BinGNP.noCallPc (embPc pc) = BinG.noCallPc pc := by
  unfold BinGNP.noCallPc BinG.noCallPc
  rw [kPc_emb, xPc_emb, show (embPc pc == BinGN.Pc.idle) = (pc == BinG.Pc.idle) from decide_eq_decide.2 embPc_idle]

/-- BinG's resizer is `xPre` already when it loads the old cell; BinGN's may load a forwarded cell -/
theorem xPre_emb (pc : BinG.Pc) (h : pc ≠ .xCell) : BinGNP.xPre (embPc pc) = BinG.xPre pc := by
  cases pc <;> first | rfl | exact absurd rfl h

/-- the resizer of the image works on cell index `0`, at exactly the program counters that are `xPre` in BinG -/
theorem xIdx_emb (pc : BinG.Pc) : BinGNP.xIdx (embPc pc) = if BinG.xPre pc then some 0 else none := by
  cases pc <;> rfl

theorem lowStored_emb (pc : BinG.Pc) : BinGNP.lowStored (embPc pc) = if BinG.lowStored pc then some 0 else none := by
  cases pc <;> rfl

theorem highStored_emb (pc : BinG.Pc) : BinGNP.highStored (embPc pc) = if BinG.highStored pc then some 0 else none := by
  cases pc <;> rfl

/-! ## which program counter has a given image -/

theorem embPc_tRestructure {pc : BinG.Pc} {g b j : Nat} {res : KRes} (h : embPc pc = .tRestructure g b j res) :
    ∃ tab, pc = .tRestructure tab b j res := by
  cases pc with
  | tRestructure tab b' j' res' => cases h; exact ⟨tab, rfl⟩
  | _ => cases h

theorem embPc_tUntreeify {pc : BinG.Pc} {g b : Nat} {res : KRes} (h : embPc pc = .tUntreeify g b res) :
    ∃ tab, pc = .tUntreeify tab b res := by
  cases pc with
  | tUntreeify tab b' res' => cases h; exact ⟨tab, rfl⟩
  | _ => cases h

theorem embPc_tTreeLinkLocked {pc : BinG.Pc} {g b j : Nat} (h : embPc pc = .tTreeLinkLocked g b j) :
    ∃ tab, pc = .tTreeLinkLocked tab b j := by
  cases pc with
  | tTreeLinkLocked tab b' j' => cases h; exact ⟨tab, rfl⟩
  | _ => cases h

/-! ## the cell a thread works in -/

theorem tabOf_of_xPre {pc : BinG.Pc} (h : BinG.xPre pc = true) : BinG.tabOf pc = none := by
  cases pc <;> first | rfl | cases h

theorem cidOf_emb (s : BinG.State) (l : BinG.Local) (hc : BinG.xPc l.pc = true → s.cur = .old) :
    BinGNP.cidOf (emb s) (embL l) = embId (BinG.cidOf l) := by
  unfold BinGNP.cidOf BinG.cidOf
  rw [show (embL l).pc = embPc l.pc from rfl, xIdx_emb, tabOf_emb]
  cases hp : BinG.xPre l.pc with
  | true =>
    rw [if_pos rfl, tabOf_of_xPre hp]
    show ((emb s).cur, 0) = _
    rw [emb_cur_old (hc (BinG.xPc_of_xPre hp))]; rfl
  | false =>
    rw [if_neg (by simp)]
    cases BinG.tabOf l.pc with
    | none => rfl
    | some tab => show BinGNP.idOf (tabIx tab) (BinGNP.keyOf (embL l)) = _; rw [keyOf_emb, idOf_emb]

/-! ## the lock part and the heap part of the invariant -/

theorem privBin_emb {s : BinG.State} (hn : NewOK s) (hc : ∀ l ∈ s.threads, BinG.xPc l.pc = true → s.cur = .old)
    {b : Nat} (h : BinG.PrivBin s b) : BinGNP.PrivBin (emb s) b := by
  obtain ⟨⟨t, l, hl, hp⟩, h0⟩ := h
  have hcur : BinG.xPc l.pc = true → (emb s).cur = 0 := fun h => by
    show tabIx s.cur = 0; rw [hc l (List.mem_of_getElem? hl) h]; rfl
  have c0 : BinGNP.cellAt (emb s) (0, 0) = s.cell0 := cellAt_emb hn .c0
  have c1 : BinGNP.cellAt (emb s) (1, 0) = s.lowCell := cellAt_emb hn .lo
  have c2 : BinGNP.cellAt (emb s) (1, 1) = s.highCell := cellAt_emb hn .hi
  obtain ⟨pc, call⟩ := l
  -- only `kStore` and the three stores of the resizer, which works on cell `(0, 0)`, have something pending
  refine ⟨t, embL ⟨pc, call⟩, emb_get hl, ?_⟩
  cases pc with
  | kStore tab k h b1 => exact ⟨hp, nofun⟩
  | xStoreLow unl lo hi =>
    have e := hcur rfl
    exact ⟨hp, fun j hj => by cases hj; rw [e, c0]; exact h0⟩
  | xStoreHigh unl hi =>
    have e := hcur rfl
    refine ⟨?_, fun j hj => by cases hj; rw [e, c0]; exact h0⟩
    show _ ∈ [BinGNP.cellAt (emb s) ((emb s).cur + 1, 0), hi]
    rw [e, c1]; exact hp
  | xStoreMoved unl =>
    have e := hcur rfl
    refine ⟨?_, fun j hj => by cases hj; rw [e, c0]; exact h0⟩
    show _ ∈ [BinGNP.cellAt (emb s) ((emb s).cur + 1, 0), BinGNP.cellAt (emb s) ((emb s).cur + 1, 0 + 2 ^ (emb s).cur)]
    rw [e, c1, c2]; exact hp
  | _ => cases hp

theorem linv_of_emb {s : BinG.State} (hn : NewOK s) (hc : ∀ l ∈ s.threads, BinG.xPc l.pc = true → s.cur = .old)
    (L : BinGNP.LInv (emb s)) : BinG.LInv s := by
  have get : ∀ {t : Nat} {l : BinG.Local}, s.threads[t]? = some l → (emb s).threads[t]? = some (embL l) := emb_get
  have hx : ∀ {t : Nat} {l : BinG.Local}, s.threads[t]? = some l → BinG.xPc l.pc = true → s.cur = .old :=
    fun hl => hc _ (List.mem_of_getElem? hl)
  have len : (emb s).threads.length = s.threads.length := by
    show (s.threads.map embL).length = _; rw [List.length_map]
  refine ⟨?_, fun h x hh => len ▸ L.lkValid h x hh, ?_, ?_, fun b x hh => len ▸ L.mxValid b x hh, ?_, ?_, ?_, ?_, L.wrd, ?_⟩
  · intro t l h hl; rw [← holdsLock_emb]; exact L.lk t _ h (get hl)
  · intro t l h hl hv
    have := L.vL t _ h (get hl) (by rw [show (embL l).pc = embPc l.pc from rfl, validL_emb]; exact hv)
    rw [cidOf_emb s l (hx hl), cellAt_emb hn] at this; exact this
  · intro t l b hl; rw [← holdsMutex_emb]; exact L.mx t _ b (get hl)
  · intro t l b hl hv
    have := L.vT t _ b (get hl) (by rw [show (embL l).pc = embPc l.pc from rfl, validT_emb]; exact hv)
    rw [cidOf_emb s l (hx hl), cellAt_emb hn] at this; exact this
  · intro id b h; exact L.bitsNone (embId id) b (by rw [cellAt_emb hn]; exact h)
  · intro id b t l h hl hm
    have := L.bitsSome (embId id) b t _ (by rw [cellAt_emb hn]; exact h) (get hl) hm
    rw [show (embL l).pc = embPc l.pc from rfl, wr_emb, isLoop_emb] at this; exact this
  · intro b hb
    refine (L.rd b hb).trans ?_
    show BinGNP.cnt _ (s.threads.map embL) = _
    unfold BinGNP.cnt BinG.cnt
    rw [List.filter_map, List.length_map]
    congr 2
    funext l; show (BinGNP.holdsRead (embPc l.pc) == some b) = _; rw [holdsRead_emb]
  · intro t l b hl hb
    obtain ⟨h1, h2⟩ := L.refOK t _ b (get hl) (by rw [show (embL l).pc = embPc l.pc from rfl, binRef_emb]; exact hb)
    exact ⟨h1, fun hp => h2 (privBin_emb hn hc hp)⟩

theorem hinv_of_emb {s : BinG.State} (hn : NewOK s) (H : BinGNP.HInv (emb s)) (X : BinGNP.XInv (emb s)) :
    BinG.HInv s := by
  have ca := cellAt_emb hn
  refine ⟨?_, H.ownerOK, H.firstOK, ?_, ?_, ?_, ?_, ?_, ?_⟩
  · intro id; have := H.cinv (embId id); rw [ca, startOf_eq] at this; exact this
  · intro id b h; exact H.cellOK (embId id) b (by rw [ca]; exact h)
  · intro id j hj
    have := H.chainOwner (embId id) j (by rw [ca, chainC_emb]; exact hj)
    rw [ca, ownerOf_eq] at this; exact this
  · intro id hne j hj
    have := H.side (embId id) j (by rw [ca, chainC_emb]; exact hj)
    unfold BinG.hiBit
    cases id with
    | c0 => exact absurd rfl hne
    | lo => have e : (nodeAt s.heap j).key % 2 = 0 := this; rw [e]; rfl
    | hi => have e : (nodeAt s.heap j).key % 2 = 1 := this; rw [e]; rfl
  · intro hc
    have hcur := emb_cur_new hc
    have := X.old 0 0 (by rw [hcur]; exact Nat.zero_lt_one) Nat.zero_lt_one
    rw [show ((0, 0) : BinGNP.Cid) = embId .c0 from rfl, ca] at this; exact this
  · cases hc : s.cur with
    | old =>
      have hcur := emb_cur_old hc
      have h0 := X.newNotMoved 0; have h1 := X.newNotMoved 1
      rw [hcur] at h0 h1
      rw [show ((0 + 1, 0) : BinGNP.Cid) = embId .lo from rfl, ca] at h0
      rw [show ((0 + 1, 1) : BinGNP.Cid) = embId .hi from rfl, ca] at h1
      exact ⟨h0, h1⟩
    | new =>
      have hcur := emb_cur_new hc
      have hr : (emb s).resizing = false := by show (s.resizing && s.cur == .old) = false; rw [hc]; simp
      have h0 := X.noResz hr 0; have h1 := X.noResz hr 1
      rw [hcur] at h0 h1
      rw [show ((1, 0) : BinGNP.Cid) = embId .lo from rfl, ca] at h0
      rw [show ((1, 1) : BinGNP.Cid) = embId .hi from rfl, ca] at h1
      exact ⟨h0, h1⟩
  · intro b hl hh
    rcases H.binsDistinct (embId .lo) (embId .hi) b (by rw [ca]; exact hl) (by rw [ca]; exact hh) with h | ⟨j0, _, h | h⟩
    · cases h
    · have h1 := h.1; have h2 := h.2.1
      have e1 : (1 : Nat) = (emb s).cur := congrArg Prod.fst h1
      have e2 : (1 : Nat) = (emb s).cur + 1 := h2
      omega
    · have h1 := h.1; have h2 := h.2.1
      have e1 : (1 : Nat) = (emb s).cur := congrArg Prod.fst h1
      have e2 : (1 : Nat) = (emb s).cur + 1 := h2
      omega

/-! ## the clauses about copies, plans and what a program counter knows -/

theorem sideSel_zero (b : Bool) : BinGNP.sideSel 0 b = BinG.sideSel b := by
  funext k; unfold BinGNP.sideSel BinG.sideSel; rw [bitAt_zero]

/-- the clauses of `CopyOK` have the same text in both developments and speak of heap and `TreeBin` table only; they
are listed by position, as are those of `HInv`, `LInv`, `TInv`, `XInv`, `DInv` in the `…_of_emb` lemmas of this file: a
clause added to one of these structures is added there too -/
theorem copyOK_of_emb {s : BinG.State} {old C : BinG.Cell} {sel : Nat → Bool} (h : BinGNP.CopyOK (emb s) old sel C) :
    BinG.CopyOK s old sel C :=
  ⟨h.notMoved, h.cinv, h.cellOK, h.chainOwner, h.selOK, h.src, h.cover, h.suffix, h.order, h.fresh⟩

theorem plan_of_emb {s : BinG.State} (hn : NewOK s) (hc : s.cur = .old) {lo hi : BinG.Cell}
    (P : BinGNP.Plan (emb s) 0 lo hi) : BinG.Plan s lo hi := by
  have c0 : BinGNP.cellAt (emb s) (0, 0) = s.cell0 := cellAt_emb hn .c0
  have l := P.low
  have h := P.high
  rw [emb_cur_old hc, c0, sideSel_zero] at l h
  exact ⟨copyOK_of_emb l, copyOK_of_emb h, P.distinct⟩

theorem xpc_of_emb {s : BinG.State} (hn : NewOK s) {pc : BinG.Pc} (hc : BinG.xPc pc = true → s.cur = .old)
    (h : BinGNP.XPc (emb s) (embPc pc)) : BinG.XPc s pc := by
  cases pc with
  | xStoreLow unl lo hi => exact plan_of_emb hn (hc rfl) h
  | xStoreHigh unl hi =>
    have h : BinGNP.Plan (emb s) 0 (BinGNP.cellAt (emb s) ((emb s).cur + 1, 0)) hi := h
    rw [emb_cur_old (hc rfl), show ((0 + 1, 0) : BinGNP.Cid) = embId .lo from rfl, cellAt_emb hn] at h
    exact plan_of_emb hn (hc rfl) h
  | xStoreMoved unl =>
    have h : BinGNP.Plan (emb s) 0 (BinGNP.cellAt (emb s) ((emb s).cur + 1, 0))
      (BinGNP.cellAt (emb s) ((emb s).cur + 1, 0 + 2 ^ (emb s).cur)) := h
    rw [emb_cur_old (hc rfl), show ((0 + 1, 0) : BinGNP.Cid) = embId .lo from rfl,
      show ((0 + 1, 0 + 2 ^ 0) : BinGNP.Cid) = embId .hi from rfl, cellAt_emb hn, cellAt_emb hn] at h
    exact plan_of_emb hn (hc rfl) h
  | _ => exact trivial

/-- `Walk`, `FreshOK`, `RemOK` and the bounds have the same bodies in both developments: each clause is the other's -/
theorem pcInv_of_emb (s : BinG.State) (p : BinK.Pending) (pc : BinG.Pc) (h : BinGNP.PcInv (emb s) p (embPc pc)) :
    BinG.PcInv s p pc := by
  cases pc with
  | rNode c => cases c <;> exact h
  | rState b c => cases c <;> exact h
  | lNode c => cases c <;> exact h
  | lrTry tab b k res => cases k <;> exact h
  | lrLoop tab b k res => cases k <;> exact h
  | _ => exact h

theorem kinv_of_emb {s : BinG.State} (hn : NewOK s) {pc : BinG.Pc} (h : BinGNP.KInv (emb s) (embPc pc)) :
    BinG.KInv s pc := by
  cases pc with
  | kStore tab k h0 b =>
    obtain ⟨c, hne⟩ : BinGNP.CopyOK (emb s) (.list h0) (fun _ => true) (.tree b) ∧
      ∀ id, BinGNP.cellAt (emb s) id ≠ .tree b := h
    exact ⟨copyOK_of_emb c, fun id e => hne (embId id) (by rw [cellAt_emb hn]; exact e)⟩
  | _ => exact trivial

/-! ## what the generation structure of the image says about BinG's pointer and flag -/

/-- a resizing thread exists only before the commit -/
theorem xold_of_emb {s : BinG.State} (X' : BinGNP.XInv (emb s)) :
    ∀ l ∈ s.threads, BinG.xPc l.pc = true → s.cur = .old ∧ s.resizing = true := by
  intro l hl hx
  obtain ⟨t, ht⟩ := List.mem_iff_getElem?.1 hl
  have hr : (s.resizing && s.cur == .old) = true :=
    X'.resz t _ (emb_get ht) (by rw [show (embL l).pc = embPc l.pc from rfl, xPc_emb]; exact hx)
  cases hc : s.cur <;> cases hres : s.resizing <;> rw [hc, hres] at hr <;> first | exact ⟨rfl, rfl⟩ | cases hr

theorem cur_old_of_emb {s : BinG.State} (X' : BinGNP.XInv (emb s)) (h : s.resizing = false) : s.cur = .old := by
  have hl : (emb s).tabs.length = (emb s).cur + 1 + (if (emb s).resizing then 1 else 0) := X'.len
  have e1 : (emb s).tabs = [[s.cell0]] := by show (if s.resizing then _ else _) = _; rw [h]; rfl
  have e2 : (emb s).resizing = false := by show (s.resizing && s.cur == .old) = false; rw [h]; rfl
  rw [e1, e2] at hl
  cases hc : s.cur with
  | old => rfl
  | new => rw [emb_cur_new hc] at hl; cases hl

theorem tinv_of_emb {s : BinG.State} (T : BinGNP.TInv (emb s)) : BinG.TInv s := by
  refine ⟨?_, ?_, T.histTime, ?_, ?_, ?_, T.uniqHH⟩
  · intro t l p hl hp
    have := T.opOK t _ p (emb_get hl) hp
    unfold BinGNP.PcOp at this
    rw [show (embL l).pc = embPc l.pc from rfl, noCallPc_emb, readerPc_emb] at this
    exact this
  · intro t l hl
    have := T.callOK t _ (emb_get hl)
    rw [show (embL l).pc = embPc l.pc from rfl, noCallPc_emb] at this
    exact this
  · exact fun t l p hl hp => T.pendTime t _ p (emb_get hl) hp
  · exact fun x hx t l p hl hp => T.uniqHP x hx t _ p (emb_get hl) hp
  · exact fun t t' l l' p p' hl hl' hp hp' => T.uniqPP t t' _ _ p p' (emb_get hl) (emb_get hl') hp hp'

theorem xinv_of_emb {s : BinG.State} (hn : NewOK s) (X' : BinGNP.XInv (emb s))
    (hpre : ∀ (t : Nat) (l : BinG.Local), s.threads[t]? = some l → l.pc = .xCell → s.cell0 ≠ .moved)
    (hpost : ∀ (t : Nat) (l : BinG.Local), s.threads[t]? = some l → BinG.xPc l.pc = true → BinG.xPre l.pc = false →
      s.cell0 = .moved) : BinG.XInv s := by
  have pcE : ∀ l : BinG.Local, (embL l).pc = embPc l.pc := fun _ => rfl
  have c0 : BinGNP.cellAt (emb s) (0, 0) = s.cell0 := cellAt_emb hn .c0
  have c1 : BinGNP.cellAt (emb s) (1, 0) = s.lowCell := cellAt_emb hn .lo
  have c2 : BinGNP.cellAt (emb s) (1, 1) = s.highCell := cellAt_emb hn .hi
  have xo : ∀ {t : Nat} {l : BinG.Local}, s.threads[t]? = some l → BinG.xPc l.pc = true → s.cur = .old :=
    fun hl hx => (xold_of_emb X' _ (List.mem_of_getElem? hl) hx).1
  -- after the commit the old cell is forwarded: it belongs to a generation behind the pointer
  have moved_of_new : s.cur = .new → s.cell0 = .moved := fun hc => by
    have hcur := emb_cur_new hc
    have := X'.old 0 0 (by rw [hcur]; exact Nat.zero_lt_one) Nat.zero_lt_one
    rw [c0] at this; exact this
  -- before the marker is stored a new cell is `empty` unless the transfer has stored it
  have stored : ∀ j', s.cell0 ≠ .moved → BinGNP.cellAt (emb s) (1, j') ≠ .empty → BinGNP.StoredW (emb s) j' := by
    intro j' hm hne
    cases hc : s.cur with
    | new => exact absurd (moved_of_new hc) hm
    | old =>
      have hcur := emb_cur_old hc
      have := X'.nextEmpty j' (by rw [hcur]; exact hne)
      rw [hcur, Nat.pow_zero, Nat.mod_one, c0] at this
      exact this.resolve_left hm
  refine ⟨?_, ?_, ?_, ?_, hpost, ?_, ?_, ?_, ?_⟩
  · intro t t' l l' hl hl' hx hx'
    exact X'.uniqX t t' _ _ (emb_get hl) (emb_get hl') (by rw [pcE, xPc_emb]; exact hx) (by rw [pcE, xPc_emb]; exact hx')
  · exact fun t l hl hx => (xold_of_emb X' l (List.mem_of_getElem? hl) hx).2
  · intro hr
    have e2 : (emb s).resizing = false := by show (s.resizing && s.cur == .old) = false; rw [hr]; rfl
    have := X'.noResz e2 0
    rw [emb_cur_old (cur_old_of_emb X' hr), c0] at this; exact this
  · intro t l hl hp
    by_cases hxc : l.pc = .xCell
    · exact hpre t l hl hxc
    · have := X'.pre t _ 0 (emb_get hl) (by rw [pcE, xPre_emb _ hxc]; exact hp) (by rw [pcE, xIdx_emb, hp]; rfl)
      rw [emb_cur_old (xo hl (BinG.xPc_of_xPre hp)), c0] at this; exact this
  · intro hm hno
    apply Classical.byContradiction
    intro hne
    obtain ⟨t, l', hl', hs⟩ := stored 0 hm (by rw [c1]; exact hne)
    obtain ⟨l, hl, rfl⟩ := emb_threads_get hl'
    rcases hs with hs | ⟨j, -, hj⟩
    · rw [pcE, lowStored_emb, hno t l hl] at hs; cases hs
    · have := Nat.two_pow_pos (emb s).cur
      omega
  · intro hm hno
    apply Classical.byContradiction
    intro hne
    obtain ⟨t, l', hl', hs⟩ := stored 1 hm (by rw [c2]; exact hne)
    obtain ⟨l, hl, rfl⟩ := emb_threads_get hl'
    rcases hs with hs | ⟨j, hs, -⟩
    · rw [pcE, lowStored_emb] at hs; split at hs <;> cases hs
    · rw [pcE, highStored_emb, hno t l hl] at hs; cases hs
  · intro t l hl htab
    cases hc : s.cur with
    | new => exact moved_of_new hc
    | old =>
      have hcur := emb_cur_old hc
      have := (X'.tabNew t _ 1 (emb_get hl) (by rw [pcE, tabOf_emb, htab]; rfl)).2 (by rw [hcur])
      rw [hcur, show BinGNP.idOf 0 (BinGNP.keyOf (embL l)) = (0, 0) from by unfold BinGNP.idOf; rw [Nat.pow_zero, Nat.mod_one],
        c0] at this
      exact this
  · intro t l hl
    exact xpc_of_emb hn (xo hl) (X'.plan t _ (emb_get hl))

theorem dinv_of_emb {s : BinG.State} (hn : NewOK s) (D : BinGNP.DInv (emb s)) : BinG.DInv s := by
  refine ⟨fun t l p hl hp => pcInv_of_emb s p l.pc (D.pcInv t _ p (emb_get hl) hp),
    fun t l hl => kinv_of_emb hn (D.kInv t _ (emb_get hl)), ?_, ?_⟩
  · intro id b hc j hj ho hin hnc
    obtain ⟨t, l', hl', hpc⟩ := D.treeSub (embId id) b (by rw [cellAt_emb hn]; exact hc) j hj ho hin hnc
    obtain ⟨l, hl, rfl⟩ := emb_threads_get hl'
    refine ⟨t, l, hl, ?_⟩
    rcases hpc with ⟨g, res, e⟩ | ⟨g, res, e⟩
    · obtain ⟨tab, e⟩ := embPc_tRestructure e; exact Or.inl ⟨tab, res, e⟩
    · obtain ⟨tab, e⟩ := embPc_tUntreeify e; exact Or.inr ⟨tab, res, e⟩
  · intro id b hc j hj hin
    obtain ⟨t, l', g, hl', e⟩ := D.chainSub (embId id) b (by rw [cellAt_emb hn]; exact hc) j hj hin
    obtain ⟨l, hl, rfl⟩ := emb_threads_get hl'
    obtain ⟨tab, e⟩ := embPc_tTreeLinkLocked e
    exact ⟨t, l, tab, hl, e⟩

theorem inv_of_emb {s : BinG.State} (I' : BinGNP.Inv (emb s)) (hn : NewOK s)
    (hpre : ∀ (t : Nat) (l : BinG.Local), s.threads[t]? = some l → l.pc = .xCell → s.cell0 ≠ .moved)
    (hpost : ∀ (t : Nat) (l : BinG.Local), s.threads[t]? = some l → BinG.xPc l.pc = true → BinG.xPre l.pc = false →
      s.cell0 = .moved) : BinG.Inv s :=
  ⟨hinv_of_emb hn I'.heap I'.rsz, tinv_of_emb I'.thr, xinv_of_emb hn I'.rsz hpre hpost,
    linv_of_emb hn (fun l hl hx => (xold_of_emb I'.rsz l hl hx).1) I'.lock, dinv_of_emb hn I'.data⟩

theorem absOf_emb {s : BinG.State} (I : BinG.Inv s) (hn : NewOK s) (k : Nat) : BinGN.absOf (emb s) k = BinG.absOf s k := by
  unfold BinGN.absOf BinG.absOf
  rw [liveCell_emb I.heap.newNotMoved I.heap.curMoved hn]
  rfl

end Flurry.Proto.BinGE
