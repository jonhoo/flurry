import Flurry.Proto.BinGN
import Flurry.Lemmas.SharedBasic
/-! # Proto/BinGN: the invariant of the generation structure and of the bin locks (definitions, cells, lock words)

`GenInv s`: the shape of the tables (`cur + 1` generations, one more while a resize runs; generation `g` has
`2^g` cells), every generation older than `cur` is forwarded for ever, the cells of the next generation are
never forwarded, at most one resizing thread, every `TreeBin` id in a cell exists; and per thread (`POK` of
the thread's descriptor `desc`): the generation it works in is at most `cur + 1`, and it is `cur + 1` only
behind a forwarding marker that is still there; the node locks and the `TreeBin` mutexes match the program
counters; a thread holding a *validated* lock (after the re-check: a list writer, a tree writer, treeify, the
transfer) still sees its structure in its cell.

The file also holds what both vocabularies (`BinGN`, `BinGNP`) use of cells and lookups: `cellT` (a cell of a table of rows)
with its stores and allocation, `liveFrom` / `liveCell` under a change that keeps the tables, `init_threads`. `LockSame` /
`MutexSame` (a heap / `TreeBin` table that grew without changing an old lock word) and the lemmas on `lockAt` / `mutexAt`
say what these definitions are on `modify` and `++`. `LockExt` / `MutexExt` (`Lemmas/BinGNOwnDefs.lean`) are built on them; no
invariant proof goes through either (only the tactic abbreviations of `Lemmas/BinGNGenStepR.lean` name them, and nothing calls
those). -/
namespace Flurry.Proto.BinGN
open Flurry.Lin

def cellT (tabs : List (List Cell)) (g j : Nat) : Cell := (tabs.getD g []).getD j .empty

theorem cellAt_eq (s : State) (g j : Nat) : cellAt s g j = cellT s.tabs g j := rfl
theorem cellOf_eq (s : State) (g k : Nat) : cellOf s g k = cellT s.tabs g (k % 2 ^ g) := rfl

theorem cellT_put_ne (tabs : List (List Cell)) {g j g' j' : Nat} (c : Cell) (h : ¬ (g' = g ∧ j' = j)) :
    cellT (tabs.modify g (fun row => row.set j c)) g' j' = cellT tabs g' j' := by
  unfold cellT
  rw [Shared.getD2_modify_set, if_neg (fun hh => h ⟨hh.1, hh.2.1⟩)]

theorem cellT_put_self (tabs : List (List Cell)) (g j : Nat) (c : Cell) :
    cellT (tabs.modify g (fun row => row.set j c)) g j = c ∨
    cellT (tabs.modify g (fun row => row.set j c)) g j = cellT tabs g j := by
  unfold cellT
  rw [Shared.getD2_modify_set]
  split
  · exact .inl rfl
  · exact .inr rfl

theorem cellT_put_self_eq (tabs : List (List Cell)) {g j : Nat} {row : List Cell} (c : Cell)
    (hr : tabs[g]? = some row) (hj : j < row.length) :
    cellT (tabs.modify g (fun row => row.set j c)) g j = c := by
  unfold cellT
  rw [Shared.getD2_modify_set, if_pos ⟨rfl, rfl, by rw [List.getD_eq_getElem?_getD, hr]; exact hj⟩]

/-- allocating a generation of empty cells changes no cell (a missing cell reads as `empty`) -/
theorem cellT_alloc (tabs : List (List Cell)) (n g j : Nat) :
    cellT (tabs ++ [List.replicate n .empty]) g j = cellT tabs g j :=
  Shared.getD2_append_replicate tabs n g j .empty

/-- a cell of a generation that is not allocated reads as `empty` -/
theorem cellT_beyond {tabs : List (List Cell)} {g : Nat} (h : tabs.length ≤ g) (j : Nat) : cellT tabs g j = .empty := by
  have e : tabs.getD g [] = [] := by rw [List.getD_eq_getElem?_getD, List.getElem?_eq_none h]; rfl
  unfold cellT
  rw [e]; rfl

export Flurry.Shared (mod_lt_pow mod_succ_mod high_mod)

theorem init_threads {n t : Nat} {l : Local} (h : (init n).threads[t]? = some l) : l = {} :=
  List.eq_of_mem_replicate (List.mem_of_getElem? h)

theorem liveFrom_of_not_moved (s : State) (k fuel g : Nat) (h : cellOf s g k ≠ .moved) :
    liveFrom s k fuel g = cellOf s g k := by
  cases fuel with
  | zero => rfl
  | succ f =>
    unfold liveFrom
    split
    · rename_i hm; exact absurd hm h
    · rfl

theorem liveFrom_of_moved (s : State) (k f g : Nat) (h : cellOf s g k = .moved) :
    liveFrom s k (f + 1) g = liveFrom s k f (g + 1) := by
  conv => lhs; unfold liveFrom
  rw [h]

theorem liveFrom_congr {s s' : State} (h : s'.tabs = s.tabs) (k : Nat) :
    ∀ (f g : Nat), liveFrom s' k f g = liveFrom s k f g := by
  have hc : ∀ g, cellOf s' g k = cellOf s g k := fun g => by rw [cellOf_eq, cellOf_eq, h]
  intro f
  induction f with
  | zero => intro g; exact hc g
  | succ f ih =>
    intro g
    unfold liveFrom
    rw [hc g]
    split
    · exact ih _
    · rfl

theorem liveCell_congr {s s' : State} (h : s'.tabs = s.tabs) (hc : s'.cur = s.cur) (k : Nat) :
    liveCell s' k = liveCell s k := by
  unfold liveCell
  rw [h, hc]
  exact liveFrom_congr h k _ _

def lockAt (heap : List NodeS) (h : Nat) : Option Nat := (heap.getD h dflt).lock
def mutexAt (tb : List TBin) (b : Nat) : Option Nat := (tb.getD b dfltB).mutex

def LockSame (heap heap' : List NodeS) : Prop :=
  heap.length ≤ heap'.length ∧ ∀ i, i < heap.length → lockAt heap' i = lockAt heap i

theorem LockSame.refl (heap : List NodeS) : LockSame heap heap := ⟨Nat.le_refl _, fun _ _ => rfl⟩

theorem LockSame.trans {a b c : List NodeS} (h1 : LockSame a b) (h2 : LockSame b c) : LockSame a c :=
  ⟨Nat.le_trans h1.1 h2.1, fun i hi => by rw [h2.2 i (by have := h1.1; omega), h1.2 i hi]⟩

theorem LockSame.append (heap ext : List NodeS) : LockSame heap (heap ++ ext) := by
  refine ⟨by simp, ?_⟩
  intro i hi
  unfold lockAt
  rw [List.getD_eq_getElem?_getD, List.getD_eq_getElem?_getD, List.getElem?_append_left hi]

theorem LockSame.modify (heap : List NodeS) (i : Nat) (f : NodeS → NodeS) (hf : ∀ n, (f n).lock = n.lock) :
    LockSame heap (heap.modify i f) := by
  refine ⟨by simp, ?_⟩
  intro j hj
  unfold lockAt
  rw [List.getD_eq_getElem?_getD, List.getD_eq_getElem?_getD, List.getElem?_modify]
  by_cases hij : i = j
  · subst hij
    rw [List.getElem?_eq_getElem hj]
    simp [hf]
  · simp [hij]

theorem lockAt_modify_self {heap : List NodeS} {h : Nat} (x : Option Nat) (hh : h < heap.length) :
    lockAt (heap.modify h (fun m => { m with lock := x })) h = x := by
  unfold lockAt
  rw [List.getD_eq_getElem?_getD, List.getElem?_modify, List.getElem?_eq_getElem hh]
  simp

theorem lockAt_modify_ne {heap : List NodeS} {h i : Nat} (x : Option Nat) (hne : i ≠ h) :
    lockAt (heap.modify h (fun m => { m with lock := x })) i = lockAt heap i := by
  unfold lockAt
  rw [List.getD_eq_getElem?_getD, List.getD_eq_getElem?_getD, List.getElem?_modify]
  simp [Ne.symm hne]

theorem lockAt_of_some {heap : List NodeS} {h : Nat} {n : NodeS} (hn : heap[h]? = some n) : lockAt heap h = n.lock := by
  unfold lockAt
  rw [List.getD_eq_getElem?_getD, hn]; rfl

def MutexSame (tb tb' : List TBin) : Prop :=
  tb.length ≤ tb'.length ∧ ∀ i, i < tb.length → mutexAt tb' i = mutexAt tb i

theorem MutexSame.refl (tb : List TBin) : MutexSame tb tb := ⟨Nat.le_refl _, fun _ _ => rfl⟩

theorem MutexSame.trans {a b c : List TBin} (h1 : MutexSame a b) (h2 : MutexSame b c) : MutexSame a c :=
  ⟨Nat.le_trans h1.1 h2.1, fun i hi => by rw [h2.2 i (by have := h1.1; omega), h1.2 i hi]⟩

theorem MutexSame.append (tb ext : List TBin) : MutexSame tb (tb ++ ext) := by
  refine ⟨by simp, ?_⟩
  intro i hi
  unfold mutexAt
  rw [List.getD_eq_getElem?_getD, List.getD_eq_getElem?_getD, List.getElem?_append_left hi]

theorem MutexSame.modify (tb : List TBin) (i : Nat) (f : TBin → TBin) (hf : ∀ n, (f n).mutex = n.mutex) :
    MutexSame tb (tb.modify i f) := by
  refine ⟨by simp, ?_⟩
  intro j hj
  unfold mutexAt
  rw [List.getD_eq_getElem?_getD, List.getD_eq_getElem?_getD, List.getElem?_modify]
  by_cases hij : i = j
  · subst hij
    rw [List.getElem?_eq_getElem hj]
    simp [hf]
  · simp [hij]

theorem mutexAt_modify_self {tb : List TBin} {b : Nat} (x : Option Nat) (hb : b < tb.length) :
    mutexAt (tb.modify b (fun m => { m with mutex := x })) b = x := by
  unfold mutexAt
  rw [List.getD_eq_getElem?_getD, List.getElem?_modify, List.getElem?_eq_getElem hb]
  simp

theorem mutexAt_modify_ne {tb : List TBin} {b i : Nat} (x : Option Nat) (hne : i ≠ b) :
    mutexAt (tb.modify b (fun m => { m with mutex := x })) i = mutexAt tb i := by
  unfold mutexAt
  rw [List.getD_eq_getElem?_getD, List.getD_eq_getElem?_getD, List.getElem?_modify]
  simp [Ne.symm hne]

def binOfCell : Cell → Option Nat
  | .tree b => some b
  | _ => none

/-- what the invariant needs to know about a program counter -/
structure Desc where
  /-- the thread is the resizing thread -/
  isX : Bool := false
  /-- the generation it works in, and its key -/
  gen : Option (Nat × Nat) := none
  /-- the cell (of generation `cur`) the resizing thread is transferring -/
  idx : Option Nat := none
  commit : Bool := false
  /-- the node whose lock it holds -/
  holdN : Option Nat := none
  /-- the `TreeBin` whose mutex it holds -/
  holdM : Option Nat := none
  /-- the cell on which it holds a validated lock, and what it saw there -/
  valid : Option (Nat × Nat × Cell) := none
  /-- cells it remembers and may store later (the planned new cells of a transfer, the private `TreeBin` of a
  treeify), `TreeBin`s it is about to lock -/
  plan : List Cell := []

def unlN : Nat ⊕ Nat → Option Nat | .inl h => some h | .inr _ => none
def unlM : Nat ⊕ Nat → Option Nat | .inl _ => none | .inr b => some b
def unlCell : Nat ⊕ Nat → Cell | .inl h => .list h | .inr b => .tree b

/-- the descriptor of a program counter; `cur`: the table pointer (the generation the resizing thread works
in); `key`: the key of the call in flight -/
def descPc (cur key : Nat) : Pc → Desc
  | .rCell _ g => { gen := some (g, key) }
  | .wCell g | .wCas g => { gen := some (g, key) }
  | .wLock g _ => { gen := some (g, key) }
  | .wCheck g h => { gen := some (g, key), holdN := some h }
  | .wFind g h _ _ | .wStore g h _ _ _ =>
    { gen := some (g, key), holdN := some h, valid := some (g, key % 2 ^ g, .list h) }
  | .wUnlock g h _ _ => { gen := some (g, key), holdN := some h }
  | .tMutex g b => { gen := some (g, key), plan := [.tree b] }
  | .tCheck g b => { gen := some (g, key), holdM := some b }
  | .tFind g b | .tVal g b _ _ _ | .lrTry g b _ _ | .lrLoop g b _ _ | .tPrependLocked g b
  | .tTreeLinkLocked g b _ | .tUnlinkLocked g b _ _ | .tRestructure g b _ _ | .tUnlockRoot g b _
  | .tUntreeify g b _ =>
    { gen := some (g, key), holdM := some b, valid := some (g, key % 2 ^ g, .tree b) }
  | .tUnlockM g b _ _ => { gen := some (g, key), holdM := some b }
  | .kCell g k | .kLock g k _ => { gen := some (g, k) }
  | .kCheck g k h => { gen := some (g, k), holdN := some h }
  | .kBuild g k h => { gen := some (g, k), holdN := some h, valid := some (g, k % 2 ^ g, .list h) }
  | .kStore g k h b => { gen := some (g, k), holdN := some h, valid := some (g, k % 2 ^ g, .list h), plan := [.tree b] }
  | .kUnlock h => { holdN := some h }
  | .xNext => { isX := true }
  | .xCell j | .xCasMoved j | .xLock j _ => { isX := true, idx := some j }
  | .yMutex j b => { isX := true, idx := some j, plan := [.tree b] }
  | .xCheck j h => { isX := true, idx := some j, holdN := some h }
  | .yCheck j b => { isX := true, idx := some j, holdM := some b }
  | .xBuild j h => { isX := true, idx := some j, holdN := some h, valid := some (cur, j, .list h) }
  | .yBuild j b => { isX := true, idx := some j, holdM := some b, valid := some (cur, j, .tree b) }
  | .xStoreLow j unl lo hi =>
    { isX := true, idx := some j, holdN := unlN unl, holdM := unlM unl, valid := some (cur, j, unlCell unl),
      plan := [lo, hi] }
  | .xStoreHigh j unl hi =>
    { isX := true, idx := some j, holdN := unlN unl, holdM := unlM unl, valid := some (cur, j, unlCell unl),
      plan := [hi] }
  | .xStoreMoved j unl =>
    { isX := true, idx := some j, holdN := unlN unl, holdM := unlM unl, valid := some (cur, j, unlCell unl) }
  | .xUnlock unl => { isX := true, holdN := unlN unl, holdM := unlM unl }
  | .xCommit => { isX := true, commit := true }
  | _ => {}

/-- the key of the call in flight, `0` without one. `BinGNP.keyOf` is another function: it reads the key of a treeify
thread off its program counter (`desc` takes that key from the program counter itself). -/
def keyOf (l : Local) : Nat := match l.call with | some p => p.key | none => 0

def desc (cur : Nat) (l : Local) : Desc := descPc cur (keyOf l) l.pc

/-- what the invariant says about one thread (through its descriptor) -/
structure POK (s : State) (t : Nat) (D : Desc) : Prop where
  tres : D.isX = true → s.resizing = true
  gen : ∀ g k, D.gen = some (g, k) → g ≤ s.cur + 1 ∧ (g = s.cur + 1 → cellOf s s.cur k = .moved)
  idx : ∀ j, D.idx = some j → j < 2 ^ s.cur
  commit : D.commit = true → ∀ j, j < 2 ^ s.cur → cellAt s s.cur j = .moved
  heldN : ∀ h, D.holdN = some h → h < s.heap.length ∧ lockAt s.heap h = some t
  heldM : ∀ b, D.holdM = some b → b < s.tbins.length ∧ mutexAt s.tbins b = some t
  valid : ∀ g j c, D.valid = some (g, j, c) → cellAt s g j = c ∧
    ((∃ h, c = .list h ∧ D.holdN = some h) ∨ (∃ b, c = .tree b ∧ D.holdM = some b))
  plan : ∀ c ∈ D.plan, c ≠ .moved ∧ ∀ b, c = .tree b → b < s.tbins.length

structure GenInv (s : State) : Prop where
  len : s.tabs.length = s.cur + 1 + (if s.resizing then 1 else 0)
  rows : ∀ g row, s.tabs[g]? = some row → row.length = 2 ^ g
  /-- every cell of a generation older than `cur` is forwarded -/
  old : ∀ g j, g < s.cur → j < 2 ^ g → cellAt s g j = .moved
  /-- no cell of the next generation is forwarded -/
  nextOK : ∀ j, cellAt s (s.cur + 1) j ≠ .moved
  /-- forwarding markers in generation `cur` only while a resize runs -/
  curMoved : ∀ j, cellAt s s.cur j = .moved → s.resizing = true
  uniqX : ∀ (t t' : Nat) (l l' : Local), s.threads[t]? = some l → s.threads[t']? = some l' →
    (desc s.cur l).isX = true → (desc s.cur l').isX = true → t = t'
  /-- every `TreeBin` a cell refers to exists -/
  bins : ∀ g j b, cellAt s g j = .tree b → b < s.tbins.length
  thr : ∀ (t : Nat) (l : Local), s.threads[t]? = some l → POK s t (desc s.cur l)

end Flurry.Proto.BinGN
