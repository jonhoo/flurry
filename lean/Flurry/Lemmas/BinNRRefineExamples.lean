import Flurry.Lemmas.BinNRRefineProofMain
import Flurry.Lemmas.BinNRRuns
/-! # Proto/BinNR → Proto/Reclaim2: the refinement checked by execution

Every schedule produced by the random explorer of `Lemmas/BinNRExamples.lean` (removals, replacing inserts, 1–3
resizes, eager `free`, explicit `retire` at random times, the sleeper stale by two generations) is projected onto
`Reclaim2.Ev` events and fed to `Reclaim2.run`; `simB` is asserted after every step (`refineExplore`). By `refines`
that check accepts every enabled schedule (`refinesFrom_of_run`), in particular the hand-written schedules of
`Lemmas/BinNRRuns.lean`. -/
namespace Flurry.Proto.BinNR
open Flurry.Proto.Reclaim2 (Ev)

def refineExplore (cfg : Cfg) (seed0 nruns : Nat) : String := Id.run do
  let mut steps := 0
  let mut events := 0
  let mut bad : Option (Nat × Nat) := none
  for i in [0:nruns] do
    let x := oneRun cfg (rngNextR (seed0 + 7919 * i)) []
    let sc := x.sc.toList.map fun r => (r.t, r.a)
    steps := steps + sc.length
    match refinesB cfg.nthreads sc with
    | some none => pure ()
    | some (some k) => if bad.isNone then bad := some (i, k)
    | none => if bad.isNone then bad := some (i, 0)
  return s!"runs {nruns}, transitions {steps}: " ++
    (match bad with | none => "every projected event accepted by Reclaim2.run, simB after every step"
                    | some (i, k) => s!"FAILED in run {i} at step {k}")
where rngNextR (x : Nat) : Nat := Flurry.Proto.BinN.rngNext x

def toSc (sc : Sched) : List (Nat × Act) := sc.map fun r => (r.t, r.a)

/-- **the check cannot fail**: the projection of every enabled schedule is accepted, with `simB` after every step
(`refines`, and `Sim` implies `simB`) -/
theorem refinesFrom_of_run {nt : Nat} : ∀ (sc : Sched) {evs : List Ev} {a : Reclaim2.State} {s s' : State} (k : Nat),
    ReachableTr nt evs s → Reclaim2.run (Reclaim2.init nt) evs = some a → run false s sc = some s' →
    refinesFrom nt a s (toSc sc) k = some none
  | [], _, _, _, _, _, _, _, _ => rfl
  | x :: rest, evs, a, s, s', k, htr, ha, h => by
    obtain ⟨s1, hs, h'⟩ := run_cons.1 h
    have htr1 := ReachableTr.step x.t x.a htr hs
    obtain ⟨a1, ha1, S1⟩ := refines htr1
    have hp : Reclaim2.run a (project s x.t x.a s1) = some a1 := by
      rw [Reclaim2.run_append, ha] at ha1; exact ha1
    obtain ⟨G, R⟩ := reachable_rinv htr1.reachable
    have hs' : stepG false s x.t x.a = some s1 := hs
    simp only [toSc, List.map_cons, refinesFrom, hs', hp, S1.simB R (Reclaim2.reachable_inv ha1).bad nt, if_true]
    exact refinesFrom_of_run rest (k + 1) htr1 ha1 h'

theorem refinesB_of_run {n : Nat} {sc : Sched} {α : Type} {f : State → α} {v : α}
    (h : (run false (init n) sc).map f = some v) : refinesB n (toSc sc) = some none :=
  let ⟨_, hr, _⟩ := of_map h
  refinesFrom_of_run sc 0 .init rfl hr

/-! ## the hand-written runs of `Lemmas/BinNRRuns.lean`: `refinesB_of_run` on the runs evaluated there (`*_final`) -/

/-- a reader is awaited by a removed node -/
theorem remove_refines : refinesB 3 (toSc schedRemove) = some none := refinesB_of_run remove_final

/-- a reader walks the retired copied prefix of a transferred list -/
theorem transfer_refines : refinesB 3 (toSc schedTransfer) = some none := refinesB_of_run transfer_final

/-- two resizes, the reader stale by two generations walks `a → b → c` through retired nodes: the `acquire` of `b`
(unlinked and retired) is the event `Proto/Reclaim` rejects and `Proto/Reclaim2` accepts -/
theorem transfer2_refines : refinesB 3 (toSc schedTransfer2) = some none := refinesB_of_run transfer2_final

/-- the late reader that never holds the freed node -/
theorem late_refines : refinesB 3 (toSc schedLate) = some none := refinesB_of_run late_final

end Flurry.Proto.BinNR

#print axioms Flurry.Proto.BinNR.transfer2_refines
