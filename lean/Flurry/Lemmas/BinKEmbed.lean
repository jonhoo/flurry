import Flurry.Lemmas.BinKStep
import Flurry.Lemmas.BinGNPStep
/-! # Proto/BinK is Proto/BinGN restricted to generation 0, never resized

`emb : BinK.State → BinGN.State` reads the one bin cell as cell `(0, 0)` of a table that is never resized (`tabs =
[[cell]]`, pointer `0`, `resizing = false`); heap, `TreeBin` table, history and clock are unchanged, program counters
go through `embPc` (generation `0`; the treeify thread works for key `0`, every key lives in cell `(0, 0)`). Every
accessor of the image is unconditional (`cellAt_emb`, `liveCell_emb`, `absOf_emb`, `emb_init`; `callsOn` is the same
by definition).

Every transition of BinK's normal form is a transition of BinGN's between the images (`sim`: the sub-relations
`move_emb` … `kmove_emb`, `emb` through the successor states of the stores), but for two that are two transitions
of BinGN each, which loads the table pointer first: the start of a call (`idle → rTable / wTable → rCell 0 / wCell 0`,
`stepN_invoke_emb`) and the start of a treeify (`idle → kTable 0 → kCell 0 0`, `stepN_maint_emb`); BinGN's clock is then
one tick ahead, the invocation stamp is the same. No case needs anything of the state. -/
namespace Flurry.Proto.BinKE
open Flurry.Lin

def embCell : BinK.Cell → BinG.Cell
  | .empty => .empty
  | .list h => .list h
  | .tree b => .tree b

/-- the program counter of BinGN at the same place of the same operation, in generation `0`; the treeify thread works
for key `0` -/
def embPc : BinK.Pc → BinGN.Pc
  | .idle => .idle
  | .rCell lo => .rCell lo 0
  | .rNode c => .rNode c
  | .rFirst b => .rFirst b
  | .rState b c => .rState b c
  | .rLin b c => .rLin b c
  | .rCas b c r => .rCas b c r
  | .rTree b => .rTree b
  | .rRelease b hit => .rRelease b hit
  | .rVal i => .rVal i
  | .lFirst b => .lFirst b
  | .lNode c => .lNode c
  | .wCell => .wCell 0
  | .wCas => .wCas 0
  | .wLock h => .wLock 0 h
  | .wCheck h => .wCheck 0 h
  | .wFind h pred cur => .wFind 0 h pred cur
  | .wStore h pred hit hnext => .wStore 0 h pred hit hnext
  | .wUnlock h res retry => .wUnlock 0 h res retry
  | .tMutex b => .tMutex 0 b
  | .tCheck b => .tCheck 0 b
  | .tFind b => .tFind 0 b
  | .tVal b i v res => .tVal 0 b i v res
  | .lrTry b k res => .lrTry 0 b k res
  | .lrLoop b k res => .lrLoop 0 b k res
  | .tPrependLocked b => .tPrependLocked 0 b
  | .tTreeLinkLocked b x => .tTreeLinkLocked 0 b x
  | .tUnlinkLocked b i res => .tUnlinkLocked 0 b i res
  | .tRestructure b i res => .tRestructure 0 b i res
  | .tUnlockRoot b res => .tUnlockRoot 0 b res
  | .tUntreeify b res => .tUntreeify 0 b res
  | .tUnlockM b res retry => .tUnlockM 0 b res retry
  | .kCell => .kCell 0 0
  | .kLock h => .kLock 0 0 h
  | .kCheck h => .kCheck 0 0 h
  | .kBuild h => .kBuild 0 0 h
  | .kStore h b => .kStore 0 0 h b
  | .kUnlock h => .kUnlock h

def embL (l : BinK.Local) : BinGN.Local := { pc := embPc l.pc, call := l.call }

/-- one generation with the one cell, never resized; everything but cell and program counters is unchanged -/
def emb (s : BinK.State) : BinGN.State :=
  { heap := s.heap, tbins := s.tbins, tabs := [[embCell s.cell]], cur := 0, resizing := false,
    threads := s.threads.map embL, hist := s.hist, now := s.now }

theorem cellAt_emb (s : BinK.State) : BinGNP.cellAt (emb s) (0, 0) = embCell s.cell := rfl

theorem cellOf_emb (s : BinK.State) (k : Nat) : BinGN.cellOf (emb s) 0 k = embCell s.cell := by
  unfold BinGN.cellOf
  rw [show k % 2 ^ 0 = 0 from by simp [Nat.mod_one]]
  rfl

theorem embCell_inj {c c' : BinK.Cell} (h : embCell c = embCell c') : c = c' := by
  cases c <;> cases c' <;> first | rfl | (cases h; done) | (cases h; rfl)

theorem embCell_ne_moved (c : BinK.Cell) : embCell c ≠ .moved := by cases c <;> nofun

theorem liveCell_emb (s : BinK.State) (k : Nat) : BinGN.liveCell (emb s) k = embCell s.cell := by
  unfold BinGN.liveCell
  show BinGN.liveFrom (emb s) k 1 0 = _
  unfold BinGN.liveFrom
  rw [cellOf_emb]
  cases s.cell <;> rfl

theorem absOf_emb (s : BinK.State) (k : Nat) : BinGN.absOf (emb s) k = BinK.absOf s k := by
  unfold BinGN.absOf BinK.absOf
  rw [liveCell_emb]
  have : BinGN.chainOfCell (emb s) (embCell s.cell) = BinK.liveChain s := by
    unfold BinGN.chainOfCell BinK.liveChain embCell
    cases s.cell <;> rfl
  rw [this]; rfl

theorem emb_init (n : Nat) : emb (BinK.init n) = BinGN.init n := by
  unfold emb BinK.init BinGN.init
  simp only [List.map_replicate]
  rfl

theorem emb_get {s : BinK.State} {t : Nat} {l : BinK.Local} (hl : s.threads[t]? = some l) :
    (emb s).threads[t]? = some (embL l) := by
  show (s.threads.map embL)[t]? = _; rw [List.getElem?_map, hl]; rfl

theorem emb_threads_get {s : BinK.State} {t : Nat} {l : BinGN.Local} (h : (emb s).threads[t]? = some l) :
    ∃ l0, s.threads[t]? = some l0 ∧ l = embL l0 := by
  have : (emb s).threads = s.threads.map embL := rfl
  rw [this, List.getElem?_map] at h
  cases h0 : s.threads[t]? with
  | none => rw [h0] at h; cases h
  | some l0 => rw [h0] at h; exact ⟨l0, rfl, (Option.some.inj h).symm⟩

theorem emb_setT (s : BinK.State) (t : Nat) (l : BinK.Local) :
    emb (BinK.setT s t l) = BinGN.setT (emb s) t (embL l) := by
  unfold emb BinK.setT BinGN.setT
  simp only [List.map_set]

/-! ## the two transitions of BinK that are two transitions of BinGN: a call starts, a treeify starts -/

/-- BinGN loads the table pointer first: `idle → rTable / wTable → rCell 0 / wCell 0`; its clock is then one tick ahead,
the invocation stamp is the same -/
theorem stepN_invoke_emb {s : BinK.State} {t : Nat} {l : BinK.Local} (hl : s.threads[t]? = some l) (hpc : l.pc = .idle)
    (k : Nat) (op : KOp) (lo : Bool) :
    ∃ mid u, BinGNP.StepN (emb s) t (embL l) mid ∧
      mid.threads[t]? = some { pc := if BinK.isReader op then .rTable lo else .wTable, call := some ⟨k, op, s.now + 1⟩ } ∧
      BinGNP.StepN mid t { pc := if BinK.isReader op then .rTable lo else .wTable, call := some ⟨k, op, s.now + 1⟩ } u ∧
      u = { emb (BinK.setT (BinK.tick s) t
              { pc := if BinK.isReader op then .rCell lo else .wCell, call := some ⟨k, op, s.now + 1⟩ }) with
            now := s.now + 2 } := by
  have h1 := BinGNP.StepN.invoke (s := emb s) (t := t) (l := embL l) k op lo (by show embPc l.pc = _; rw [hpc]; rfl)
  have hm := Flurry.Shared.get_set_self (a := (⟨if BinK.isReader op then .rTable lo else .wTable,
    some ⟨k, op, s.now + 1⟩⟩ : BinGN.Local)) (emb_get hl)
  cases hop : BinK.isReader op <;> rw [hop] at h1 hm
  · refine ⟨_, _, h1, hm, BinGNP.StepN.move ⟨k, op, s.now + 1⟩ _ _ rfl BinGNP.Move.wTable, ?_⟩
    unfold emb BinK.setT BinGN.setT BinGNP.qst BinGNP.tick BinK.tick
    simp [List.map_set, embL, embPc]
  · refine ⟨_, _, h1, hm, BinGNP.StepN.move ⟨k, op, s.now + 1⟩ _ _ rfl (BinGNP.Move.rTable (lo := lo)), ?_⟩
    unfold emb BinK.setT BinGN.setT BinGNP.qst BinGNP.tick BinK.tick
    simp [List.map_set, embL, embPc]

/-- treeify: `idle → kTable 0 → kCell 0 0` -/
theorem stepN_maint_emb {s : BinK.State} {t : Nat} {l : BinK.Local} (hl : s.threads[t]? = some l) (hpc : l.pc = .idle)
    (hc : l.call = none) :
    ∃ mid u, BinGNP.StepN (emb s) t (embL l) mid ∧ mid.threads[t]? = some { embL l with pc := .kTable 0 } ∧
      BinGNP.StepN mid t { embL l with pc := .kTable 0 } u ∧
      u = { emb (BinK.setT (BinK.tick s) t { l with pc := .kCell }) with now := s.now + 2 } := by
  refine ⟨_, _, BinGNP.StepN.maint 0 (by show embPc l.pc = _; rw [hpc]; rfl), Flurry.Shared.get_set_self (emb_get hl),
    BinGNP.StepN.kmove _ _ hc BinGNP.KMove.kTable, ?_⟩
  unfold emb BinK.setT BinGN.setT BinGNP.qst BinGNP.tick BinK.tick
  simp [List.map_set, embL, embPc]

section
variable {s : BinK.State} {t : Nat} {p : BinK.Pending} {pc pc' : BinK.Pc} {hp : List BinK.NodeS}
  {tb : List BinK.TBin} {res : KRes}

theorem cellOf_eq_emb {c : BinK.Cell} (k : Nat) (h : s.cell = c) : BinGN.cellOf (emb s) 0 k = embCell c := by rw [cellOf_emb, h]

theorem cellOf_ne_emb {c : BinK.Cell} (k : Nat) (h : s.cell ≠ c) : BinGN.cellOf (emb s) 0 k ≠ embCell c := by
  rw [cellOf_emb]; exact fun e => h (embCell_inj e)

theorem move_emb (hm : BinK.Move s t p pc pc' hp) : BinGNP.Move (emb s) t p (embPc pc) (embPc pc') hp := by
  cases hm with
  | rCellList h => exact .rCellList (cellOf_eq_emb _ h)
  | rCellTree h => rename_i lo b; cases lo <;> exact .rCellTree (cellOf_eq_emb _ h)
  | wCellCas h h' => exact .wCellCas (cellOf_eq_emb _ h) h'
  | wCellList h => exact .wCellList (cellOf_eq_emb _ h)
  | wCellTree h => exact .wCellTree (cellOf_eq_emb _ h)
  | wCasFail h => exact .wCasFail (h.imp (cellOf_ne_emb (c := .empty) _) id)
  | wCheckOk h => exact .wCheckOk (cellOf_eq_emb _ h)
  | wCheckFail h => exact .wCheckFail (cellOf_ne_emb (c := .list _) _ h)
  | tCheckOk h => exact .tCheckOk (cellOf_eq_emb _ h)
  | tCheckFail h => exact .tCheckFail (cellOf_ne_emb (c := .tree _) _ h)
  | findInsert h1 h2 => exact .findInsert h1 h2
  | findRemove h1 h2 => exact .findRemove h1 h2
  | findVal h1 h2 => exact .findVal h1 h2
  | findDone h => exact .findDone h
  | _ => first | (constructor <;> assumption) | constructor

theorem afterLock_emb (b : Nat) (k : BinK.After) (res : KRes) :
    embPc (BinK.afterLock b k res) = BinGN.afterLock 0 b k res := by cases k <;> rfl

theorem bmove_emb (hm : BinK.BMove s t p pc pc' tb) : BinGNP.BMove (emb s) t p (embPc pc) (embPc pc') tb := by
  cases hm with
  | lrTryOk h1 h2 h3 => rw [afterLock_emb]; exact .lrTryOk h1 h2 h3
  | lrLoopOk h1 h2 => rw [afterLock_emb]; exact .lrLoopOk h1 h2
  | _ => first | (constructor <;> assumption) | constructor

theorem fin_emb (hf : BinK.Fin s p pc res hp) : BinGNP.Fin (emb s) p (embPc pc) res hp := by
  cases hf with
  | rCellEmpty h => exact .rCellEmpty (cellOf_eq_emb _ h)
  | wCellEmpty h h' => exact .wCellEmpty (cellOf_eq_emb _ h) h'
  | _ => first | (constructor <;> assumption) | constructor

theorem bfin_emb (hf : BinK.BFin s p pc res tb) : BinGNP.BFin (emb s) p (embPc pc) res tb := by
  cases hf <;> first | (constructor <;> assumption) | constructor

theorem kmove_emb (hm : BinK.KMove s t pc pc' hp) : BinGNP.KMove (emb s) t (embPc pc) (embPc pc') hp := by
  cases hm with
  | kCellList h => exact .kCellList (cellOf_eq_emb _ h)
  | kCellOther h => exact .kCellOther (fun h0 => cellOf_ne_emb (c := .list h0) _ (h h0)) (by rw [cellOf_emb]; exact embCell_ne_moved _)
  | kLock h1 h2 => exact .kLock h1 h2
  | kCheckOk h => exact .kCheckOk (cellOf_eq_emb _ h)
  | kCheckFail h => exact .kCheckFail (cellOf_ne_emb (c := .list _) _ h)
  | kUnlock => exact .kUnlock

theorem emb_qst (s : BinK.State) (hp : List BinK.NodeS) (tb : List BinK.TBin) :
    emb (BinK.qst s hp tb) = BinGNP.qst (emb s) hp tb := rfl

theorem emb_finish (s : BinK.State) (t : Nat) (p : BinK.Pending) (res : KRes) :
    emb (BinK.finish s t p res) = BinGN.finish (emb s) t p res := by
  unfold BinK.finish BinGN.finish
  rw [show BinGN.setT (emb s) t { pc := .idle, call := none } = emb (BinK.setT s t { pc := .idle, call := none }) from
    (emb_setT s t { pc := .idle, call := none }).symm]
  rfl

theorem emb_cell (s : BinK.State) (c : BinK.Cell) (k : Nat) :
    emb { s with cell := c } = BinGN.setCell (emb s) 0 k (embCell c) := by
  unfold emb BinGN.setCell BinGN.putCell
  simp [Nat.mod_one]

theorem cellOfHead_eq (x : Option Nat) :
    BinG.cellOfHead x = embCell (match x with | some h => .list h | none => .empty) := by cases x <;> rfl

theorem emb_storeAt (s : BinK.State) (p : BinK.Pending) (pred hit hnext : Option Nat) :
    BinGN.storeAt (emb s) 0 p pred hit hnext =
      (emb (BinK.storeAt s p pred hit hnext).1, (BinK.storeAt s p pred hit hnext).2) := by
  obtain ⟨key, op, inv⟩ := p
  unfold BinGN.storeAt BinK.storeAt
  cases op <;> cases hit <;> cases pred <;> first
    | rfl
    | (dsimp only; exact Prod.ext (emb_cell { s with heap := _ } (.list _) key).symm rfl)
    | (cases hnext <;> dsimp only <;> first
        | exact Prod.ext (emb_cell s .empty key).symm rfl
        | exact Prod.ext (emb_cell s (.list _) key).symm rfl)

theorem emb_unlinkOf (s : BinK.State) (b i : Nat) : emb (BinK.unlinkOf s b i) = BinGNP.unlinkOf (emb s) b i := by
  unfold BinGNP.unlinkOf BinK.unlinkOf
  rw [show BinGN.chainOfBin (emb s) b = BinK.chainOfBin s b from rfl]
  cases BinK.predOf (BinK.chainOfBin s b) i <;> rfl

theorem emb_untreeifyOf (s : BinK.State) (b k : Nat) :
    emb (BinK.untreeifyOf s b) = BinGNP.untreeifyOf (emb s) 0 k b := by
  unfold BinGNP.untreeifyOf BinK.untreeifyOf
  rw [cellOfHead_eq]
  exact emb_cell { s with heap := _ } _ k

/-- every transition of BinK's normal form but the start of a call and the start of a treeify is one transition of
BinGN's between the images -/
theorem sim {s s' : BinK.State} {t : Nat} {l : BinK.Local} (h : BinK.StepK s t l s') :
    BinGNP.StepN (emb s) t (embL l) (emb s') ∨
    (∃ k op lo, l.pc = .idle ∧ s' = BinK.setT (BinK.tick s) t
      { pc := if BinK.isReader op then .rCell lo else .wCell, call := some ⟨k, op, s.now + 1⟩ }) ∨
    (l.pc = .idle ∧ s' = BinK.setT (BinK.tick s) t { l with pc := .kCell }) := by
  have epc : ∀ {pc : BinK.Pc}, l.pc = pc → (embL l).pc = embPc pc := fun e => by show embPc l.pc = _; rw [e]
  cases h with
  | invoke k op lo hpc => exact .inr (.inl ⟨k, op, lo, hpc, rfl⟩)
  | maint hpc => exact .inr (.inr ⟨hpc, rfl⟩)
  | idle hpc => refine .inl ?_; rw [emb_setT]; exact .idle (epc hpc)
  | move p pc' hp hc hm => refine .inl ?_; rw [emb_setT, emb_qst]; exact .move p _ hp hc (move_emb hm)
  | bmove p pc' tb hc hm => refine .inl ?_; rw [emb_setT, emb_qst]; exact .bmove p _ tb hc (bmove_emb hm)
  | kmove pc' hp hc hm => refine .inl ?_; rw [emb_setT, emb_qst]; exact .kmove _ hp hc (kmove_emb hm)
  | fin p res hp hc hf => refine .inl ?_; rw [emb_finish, emb_qst]; exact .fin p res hp hc (fin_emb hf)
  | bfin p res tb hc hf => refine .inl ?_; rw [emb_finish, emb_qst]; exact .bfin p res tb hc (bfin_emb hf)
  | cas p v vi hc hpc he hop =>
    refine .inl ?_
    rw [emb_finish]
    have key := BinGNP.StepN.cas (s := emb s) (t := t) p 0 v vi hc (epc hpc) (cellOf_eq_emb _ he) hop
    exact (congrArg (fun x => BinGNP.StepN (emb s) t (embL l) (BinGN.finish x t p .none))
      (emb_cell (BinK.qst s _ s.tbins) (.list s.heap.length) p.key)).mpr key
  | store p h pred hit hnext hc hpc =>
    refine .inl ?_
    have key := BinGNP.StepN.store (s := emb s) (t := t) p 0 h pred hit hnext hc (epc hpc)
    rw [show BinGNP.tick (emb s) = emb (BinK.tick s) from rfl, emb_storeAt] at key
    rw [emb_setT]; exact key
  | tval p b i v res hc hpc => refine .inl ?_; rw [emb_setT]; exact .tval p 0 b i v res hc (epc hpc)
  | prepend p b v vi hc hpc hop => refine .inl ?_; rw [emb_setT]; exact .prepend p 0 b v vi hc (epc hpc) hop
  | treeLink p b x hc hpc => refine .inl ?_; rw [emb_setT]; exact .treeLink p 0 b x hc (epc hpc)
  | unlink p b i res small hc hpc =>
    refine .inl ?_
    rw [emb_setT, emb_unlinkOf]
    have key := BinGNP.StepN.unlink (s := emb s) (t := t) p 0 b i res small hc (epc hpc)
    cases small <;> exact key
  | untree p b i res hc hpc => refine .inl ?_; rw [emb_setT]; exact .untree p 0 b i res hc (epc hpc)
  | untreeify p b res hc hpc =>
    refine .inl ?_
    rw [emb_setT, emb_untreeifyOf (BinK.tick s) b p.key]
    exact .untreeify p 0 b res hc (epc hpc)
  | kbuild h hc hpc => refine .inl ?_; rw [emb_setT]; exact .kbuild 0 0 h hc (epc hpc)
  | kstore h b hc hpc =>
    refine .inl ?_
    rw [emb_cell (BinK.setT (BinK.tick s) t _) (.tree b) 0, emb_setT]
    exact .kstore 0 0 h b hc (epc hpc)

end

end Flurry.Proto.BinKE
