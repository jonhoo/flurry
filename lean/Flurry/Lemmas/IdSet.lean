/-! # Sets of function ids as bit masks

The generated tables name functions by number, and `Gen.readClosure` is a list of such numbers.
The table theorems of `Props/C12.lean` and `Props/C15.lean` ask of every call edge and of every
site whether a number is in that list; `contains_eq_testBit` states the question as a bit test on
the list's mask, and in that form they are evaluated. The namespace is `Flurry.Sig`, that of the vocabulary of the
generated tables (`Flurry/SigDefs.lean`), which those two files open. -/
namespace Flurry.Sig

def mask : List Nat → Nat
  | [] => 0
  | i :: l => 1 <<< i ||| mask l

theorem contains_eq_testBit (l : List Nat) (n : Nat) : l.contains n = (mask l).testBit n := by
  induction l with
  | nil => simp [mask]
  | cons a l ih =>
    rw [List.contains_cons, ih]
    simp [mask, Nat.one_shiftLeft, Nat.testBit_two_pow, Bool.beq_eq_decide_eq, eq_comm]

end Flurry.Sig
