import Flurry.Lemmas.BinGNDrainDefs
/-! # Proto/BinGN, termination: calm steps

A *calm* step — a load, a lock / unlock of a node or of a bin mutex, a local move, a return without a
store — leaves the `View` of the shared state alone (`viewOf s' = viewOf s`, heap length unchanged) and
strictly decreases the calm-step measure `pmV` of the thread that takes it, without increasing the
number of disturbing steps it has ahead (`daV`) nor the number of allocations it may still perform (`growV`).
A forwarding hop is calm because a marker is only found in an allocated generation (`lt_tabs_of_moved`), so `T - g`
strictly decreases; the resizing thread's choice of a cell at `xNext` is calm only if the cell it is handed is not yet
forwarded (hypothesis `hpk`, discharged from the `pick` restriction of `QStep`).
Against `Lemmas/BinGDrainCalm.lean`: `Move.calm` takes the failed CAS of a reader as the hypothesis `hcas`, which
`step_gmu_lt` discharges with `rcas_fail_cond`, where `BinG.Move.calm` takes the step and calls `rcas_fail_cond` itself. -/
namespace Flurry.Proto.BinGNP
open Flurry.Lin
open Flurry.Proto.BinK (nodeAt binAt isInsert binAt_modify)
open Flurry.Proto.BinGProg (le_of_eval lt_of_eval ite_le ite_lt_ite ite_pos_lt lt_ite_pos lt_ite_neg lockSet_next lockSet_length)

theorem view_of_lockKind {s s' : State} {t : Nat} {pc pc' : Pc} {hp : List NodeS} (hk : LockKind s t pc pc' hp)
    (hh : s'.heap = hp) (ht : s'.tbins = s.tbins) (h0 : s'.tabs = s.tabs) (hc : s'.cur = s.cur) :
    viewOf s' = viewOf s ∧ s'.heap.length = s.heap.length := by
  have : hp.length = s.heap.length ∧ ∀ i, (nodeAt hp i).next = (nodeAt s.heap i).next := by
    rcases hk with ⟨rfl, _⟩ | ⟨h, rfl, _⟩ | ⟨h, rfl, _⟩
    · exact ⟨rfl, fun _ => rfl⟩
    · exact ⟨lockSet_length _ _ _, lockSet_next _ _ _⟩
    · exact ⟨lockSet_length _ _ _, lockSet_next _ _ _⟩
  refine ⟨viewOf_eq h0 hc (fun i => by rw [hh]; exact this.2 i) (fun b => by rw [ht]) (fun b => by rw [ht])
    (fun b => by rw [ht]), by rw [hh]; exact this.1⟩

theorem view_of_mutex {s s' : State} {b : Nat} {x : Option Nat} (hh : s'.heap = s.heap)
    (ht : s'.tbins = s.tbins.modify b (fun y => { y with mutex := x })) (h0 : s'.tabs = s.tabs)
    (hc : s'.cur = s.cur) :
    viewOf s' = viewOf s ∧ s'.heap.length = s.heap.length := by
  refine ⟨viewOf_eq h0 hc (fun i => by rw [hh]) ?_ ?_ ?_, by rw [hh]⟩ <;>
    (intro c; rw [ht, binAt_modify]; split <;> rfl)

theorem view_setT_lock {s : State} {t : Nat} {pc pc' : Pc} {hp : List NodeS} (hk : LockKind s t pc pc' hp)
    (l' : Local) :
    viewOf (setT (qst s hp s.tbins) t l') = viewOf s ∧ (setT (qst s hp s.tbins) t l').heap.length = s.heap.length := by
  cases s
  exact view_of_lockKind hk rfl rfl rfl rfl

theorem view_finish_lock {s : State} {t : Nat} {pc pc' : Pc} {hp : List NodeS} (hk : LockKind s t pc pc' hp)
    (p : Pending) (res : KRes) :
    viewOf (finish (qst s hp s.tbins) t p res) = viewOf s ∧
      (finish (qst s hp s.tbins) t p res).heap.length = s.heap.length := by
  cases s
  exact view_of_lockKind hk rfl rfl rfl rfl

theorem view_setT_mutex (s : State) (b : Nat) (x : Option Nat) (t : Nat) (l' : Local) :
    viewOf (setT (qst s s.heap (s.tbins.modify b (fun y => { y with mutex := x }))) t l') = viewOf s ∧
      (setT (qst s s.heap (s.tbins.modify b (fun y => { y with mutex := x }))) t l').heap.length = s.heap.length := by
  cases s
  exact view_of_mutex rfl rfl rfl rfl

theorem view_finish_mutex (s : State) (b : Nat) (x : Option Nat) (t : Nat) (p : Pending) (res : KRes) :
    viewOf (finish (qst s s.heap (s.tbins.modify b (fun y => { y with mutex := x }))) t p res) = viewOf s ∧
      (finish (qst s s.heap (s.tbins.modify b (fun y => { y with mutex := x }))) t p res).heap.length =
        s.heap.length := by
  cases s
  exact view_of_mutex rfl rfl rfl rfl

/-- only an allocated generation holds a forwarding marker -/
theorem lt_tabs_of_moved {s : State} {g k : Nat} (h : cellOf s g k = .moved) : g < s.tabs.length := by
  apply Classical.byContradiction
  intro hn
  have : s.tabs.getD g [] = [] := by
    rw [List.getD_eq_getElem?_getD, List.getElem?_eq_none (by omega)]; rfl
  unfold Flurry.Proto.BinGN.cellOf Flurry.Proto.BinGN.cellAt at h
  rw [this] at h
  cases h

theorem Move.grow_da {s : State} {t : Nat} {p : Pending} {pc pc' : Pc} {hp : List NodeS}
    (hm : Move s t p pc pc' hp) (v : View) (call : Option Pending) :
    pc' ≠ .idle ∧ growV v ⟨pc', call⟩ ≤ growV v ⟨pc, call⟩ ∧ daV v ⟨pc', call⟩ ≤ daV v ⟨pc, call⟩ := by
  cases hm with
  | @rCellTree lo _ _ _ => cases lo <;> exact ⟨nofun, le_of_eval rfl, le_of_eval rfl⟩
  | lrTryFail => exact ⟨nofun, le_of_eval rfl, Nat.add_le_add_left (ite_le (Nat.zero_le _) (Nat.le_refl _)) 4⟩
  | _ => exact ⟨nofun, le_of_eval rfl, le_of_eval rfl⟩

/-- the resizing thread's entries of `daV` / `growV` count the cells of generation `cur` that are not yet forwarded: picking one of them
at `xNext` (`hpk`) takes it out of the count, finding a cell forwarded puts nothing back -/
theorem KMove.grow_da {s : State} {t : Nat} {pc pc' : Pc} {hp : List NodeS} (hm : KMove s t pc pc' hp)
    (hpk : ∀ j, pc = .xNext → pc' = .xCell j → umv (viewOf s) j = true) (call : Option Pending) :
    growV (viewOf s) ⟨pc', call⟩ ≤ growV (viewOf s) ⟨pc, call⟩ ∧ daV (viewOf s) ⟨pc', call⟩ ≤ daV (viewOf s) ⟨pc, call⟩ := by
  cases hm with
  | xNextCommit _ => exact ⟨Nat.zero_le _, Nat.le_add_left 1 _⟩
  | @xNextCell pick _ =>
    have h1 := U1_add_one (hpk _ rfl rfl)
    exact ⟨Nat.le_of_eq h1, show 4 * U1 (viewOf s) (pick % 2 ^ s.cur) + 5 ≤ 4 * Uv (viewOf s) + 1 by omega⟩
  | @xCellMoved j _ =>
    have := Uv_le_U1_add_one (viewOf s) j
    exact ⟨this, show 4 * Uv (viewOf s) + 1 ≤ 4 * U1 (viewOf s) j + 5 by omega⟩
  | kTable | kCellList _ | kCellMoved _ | kCellOther _ _ | kLock _ _ | kCheckOk _ | kCheckFail _ | kUnlock =>
    exact ⟨le_of_eval rfl, le_of_eval rfl⟩
  | _ => exact ⟨Nat.le_refl _, Nat.le_refl _⟩

theorem Move.calm {s : State} {t : Nat} {p : Pending} {pc pc' : Pc} {hp : List NodeS}
    (hm : Move s t p pc pc' hp) (H : HInv s) {L : Nat} (hL : s.heap.length ≤ L)
    (hcas : ∀ b c r, pc = .rCas b c r → casOk s b r = false) :
    pmV L (viewOf s) ⟨pc', some p⟩ < pmV L (viewOf s) ⟨pc, some p⟩ := by
  have hrk : ∀ {c : Nat} {n : NodeS} {j : Nat}, s.heap[c]? = some n → n.next = some j →
      rankL L (viewOf s).next j < rankL L (viewOf s).next c := fun hn hx => rankL_lt H.nextOK hL hn hx
  have hr2 : ∀ {c : Nat}, c < s.heap.length → rankL L (viewOf s).next c ≤ 2 * L :=
    fun hc => rankL_le_two _ (by omega)
  have hT : (viewOf s).T = s.tabs.length := rfl
  cases hm with
  | rTable => simp only [pmV, hT]; omega
  | @rCellMoved lo g hc => have := lt_tabs_of_moved hc; simp only [pmV, hT]; omega
  | @rCellList lo g h hc => have := hr2 (cellOf_list_lt H hc); simp only [pmV]; omega
  | @rCellTree lo g b hc =>
    cases lo with
    | false => show 4 * L + 7 < 4 * L + 8 + ((viewOf s).T - g); omega
    | true => show 2 * L + 3 < 4 * L + 8 + ((viewOf s).T - g); omega
  | @rNodeNext c n hn hk | @lNext c n hn hk | @wFindNext _ _ _ c n hn hk =>
    cases hx : n.next with
    | none => simp only [pmV]; omega
    | some j => have := hrk hn hx; simp only [pmV]; omega
  | @rLinNext b c n hn hk =>
    cases hx : n.next with
    | none => simp only [pmV]; omega
    | some j => have := hrk hn hx; simp only [pmV]; omega
  | @rFirst b =>
    cases hf : (binAt s.tbins b).first with
    | none => simp only [pmV]; omega
    | some h => have := hr2 (H.firstOK b h hf); simp only [pmV]; omega
  | @lFirst b =>
    cases hf : (binAt s.tbins b).first with
    | none => simp only [pmV]; omega
    | some h => have := hr2 (H.firstOK b h hf); simp only [pmV]; omega
  | rLinMode _ | rLinHit _ _ _ | lHit _ _ _ | wFindHit _ _ | wUnlockRetry => simp only [pmV]; omega
  | @rTreeMode b c hbits =>
    have hw := Bool.or_eq_false_iff.1 hbits
    have hok : casOk s b (binAt s.tbins b).readers = true := by
      unfold casOk; rw [hw.1, hw.2, beq_self_eq_true]; rfl
    exact ite_pos_lt hok (by simp only [pmV]; omega)
  | @rCasFail b c r =>
    exact lt_ite_neg (c := casOk s b r = true) (by rw [hcas b c r rfl]; nofun) (by simp only [pmV]; omega)
  | rTree | wFindEnd | findVal _ _ | findInsert _ _ | findRemove _ _ | findDone _ | lrTryFail => exact lt_of_eval rfl
  | wTable => simp only [pmV, fresh, hT]; omega
  | @wCellMoved g hc => have := lt_tabs_of_moved hc; simp only [pmV, fresh, hT]; omega
  | @wCellCas g hc hi => exact ite_pos_lt ⟨hc, hi⟩ (lt_fresh g (by omega))
  | @wCellList g h hc => exact ite_pos_lt hc (lt_fresh g (by omega))
  | @wCellTree g b hc => exact ite_pos_lt hc (lt_fresh g (by omega))
  | @wCasFail g hor =>
    refine lt_ite_neg (c := cellOf s g p.key = .empty ∧ isInsert p.op = true) ?_ (by simp only [pmV]; omega)
    rintro ⟨h1, h2⟩
    rcases hor with h | h
    · exact h h1
    · rw [h] at h2; cases h2
  | wLock _ _ => exact ite_lt_ite (by omega) (by omega)
  | @wCheckOk g h hc => exact lt_ite_pos hc (by have := hr2 (cellOf_list_lt H hc); simp only [pmV]; omega)
  | wCheckFail hc | tCheckFail hc => exact lt_ite_neg hc (by simp only [pmV]; omega)
  | tCheckOk hc => exact lt_ite_pos hc (lt_of_eval rfl)

theorem KMove.calm {s : State} {t : Nat} {pc pc' : Pc} {hp : List NodeS}
    (hm : KMove s t pc pc' hp) (hpk : ∀ j, pc = .xNext → pc' = .xCell j → umv (viewOf s) j = true) (L : Nat) :
    pmV L (viewOf s) ⟨pc', none⟩ < pmV L (viewOf s) ⟨pc, none⟩ := by
  have hT : (viewOf s).T = s.tabs.length := rfl
  -- a cell that holds something else than the marker
  have xb : ∀ {j : Nat} {c : Cell}, cellAt s (s.cur, j) = c → c ≠ .moved → xbase (viewOf s) j = 10 :=
    fun h0 hc => if_neg (show (viewOf s).xc _ ≠ .moved by rw [show (viewOf s).xc _ = _ from h0]; exact hc)
  cases hm with
  | kTable => simp only [pmV, hT]; omega
  | kCellList _ | kCellOther _ _ => simp only [pmV]; omega
  | kCellMoved hc => have := lt_tabs_of_moved hc; simp only [pmV, hT]; omega
  | kLock _ _ | kCheckOk _ | kCheckFail _ | kUnlock | xNextCommit _ | xUnlockL => exact lt_of_eval rfl
  | @xNextCell pick _ =>
    have hu := hpk _ rfl rfl
    have hnm : (viewOf s).xc (pick % 2 ^ s.cur) ≠ .moved := by
      intro hm
      unfold umv mvOf at hu
      rw [hm] at hu
      simp at hu
    show xbase _ _ < 13
    unfold xbase
    rw [if_neg hnm]
    exact lt_of_eval rfl
  | xCellEmpty h0 | xCellList h0 | xCellTree h0 =>
    exact ite_pos_lt h0 (Nat.lt_of_lt_of_eq (lt_of_eval rfl) (xb h0 nofun).symm)
  | @xCellMoved j h0 => exact lt_ite_pos (c := (viewOf s).xc j = .moved) h0 (lt_of_eval rfl)
  | xCasFail hne | xCheckFail hne => exact lt_ite_neg hne (Nat.lt_succ_self _)
  | xLock _ _ => exact ite_lt_ite (lt_of_eval rfl) (Nat.lt_succ_self _)
  | xCheckOk h0 | yCheckOk h0 => exact lt_ite_pos h0 (lt_of_eval rfl)

theorem KBMove.calm {s : State} {t : Nat} {pc pc' : Pc} {tb : List TBin} (hm : KBMove s t pc pc' tb) (L : Nat) :
    pc' ≠ .idle ∧ (∃ b x, tb = s.tbins.modify b (fun y => { y with mutex := x })) ∧
    growV (viewOf s) ⟨pc', none⟩ ≤ growV (viewOf s) ⟨pc, none⟩ ∧ daV (viewOf s) ⟨pc', none⟩ ≤ daV (viewOf s) ⟨pc, none⟩ ∧
      pmV L (viewOf s) ⟨pc', none⟩ < pmV L (viewOf s) ⟨pc, none⟩ := by
  cases hm with
  | @yMutex j b _ =>
    exact ⟨nofun, ⟨b, some t, rfl⟩, Nat.le_refl _, Nat.le_refl _, ite_lt_ite (lt_of_eval rfl) (Nat.lt_succ_self _)⟩
  | @yCheckFail j b hne =>
    exact ⟨nofun, ⟨b, none, rfl⟩, Nat.le_refl _, Nat.le_refl _, lt_ite_neg hne (Nat.lt_succ_self _)⟩
  | @xUnlockT b => exact ⟨nofun, ⟨b, none, rfl⟩, Nat.le_refl _, Nat.le_refl _, lt_of_eval rfl⟩

theorem Fin.pm_pos {s : State} {p : Pending} {pc : Pc} {res : KRes} {hp : List NodeS} (hf : Fin s p pc res hp)
    (L : Nat) (v : View) (call : Option Pending) : 0 < pmV L v ⟨pc, call⟩ := by
  cases hf with
  | @rCellEmpty lo g _ => exact Nat.lt_of_lt_of_le (Nat.succ_pos 7) (Nat.le_trans (Nat.le_add_left _ _) (Nat.le_add_right _ _))
  | @wCellEmpty g _ _ => exact Nat.lt_of_lt_of_le (Nat.succ_pos 11) (Nat.le_trans (Nat.le_add_left _ _) (Nat.le_add_right _ _))
  | _ => exact Nat.succ_pos _

end Flurry.Proto.BinGNP
