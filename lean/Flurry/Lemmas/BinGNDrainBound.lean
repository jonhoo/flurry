import Flurry.Lemmas.BinGNDrainRun
/-! # Proto/BinGN, termination: an explicit bound of the measure `gmu`

`gmu s ≤ drainBound s`, a function of the heap length, the number of threads, the number of generations and
`2 ^ cur` (the number of cells the resize in flight may still have to transfer) only. -/
namespace Flurry.Proto.BinGNP
open Flurry.Lin
open Flurry.Proto.BinGProg (le_of_eval ite_le)

theorem cntU_le (f : Nat → Bool) : ∀ n, cntU f n ≤ n
  | 0 => Nat.le_refl _
  | n + 1 => by
    have := cntU_le f n
    simp only [cntU]
    split <;> omega

theorem Uv_le (v : View) : Uv v ≤ 2 ^ v.cur := cntU_le _ _

theorem growV_le (v : View) (l : Local) : growV v l ≤ 2 ^ v.cur + 1 := by
  have h0 := Uv_le v
  have h1 := fun j => Nat.le_trans (U1_le v j) h0
  obtain ⟨pc, call⟩ := l
  cases pc with
  | xNext | xUnlock _ => exact Nat.le_succ_of_le h0
  | xCell j | xCasMoved j | xLock j _ | xCheck j _ | xBuild j _ | yMutex j _ | yCheck j _ | yBuild j _ =>
    exact Nat.succ_le_succ (h1 j)
  | xStoreLow j _ _ _ | xStoreHigh j _ _ | xStoreMoved j _ => exact Nat.le_succ_of_le (h1 j)
  | wUnlock _ _ _ retry | tUnlockM _ _ _ retry =>
    cases retry <;> exact Nat.le_trans (le_of_eval rfl) (Nat.le_add_left 1 _)
  | _ => exact Nat.le_trans (le_of_eval rfl) (Nat.le_add_left 1 _)

theorem daV_le (v : View) (l : Local) : daV v l ≤ 4 * 2 ^ v.cur + 5 := by
  have h0 := Nat.mul_le_mul_left 4 (Uv_le v)
  have h1 := fun j => Nat.mul_le_mul_left 4 (Nat.le_trans (U1_le v j) (Uv_le v))
  obtain ⟨pc, call⟩ := l
  cases pc with
  | lrLoop _ b _ _ =>
    exact Nat.le_trans (Nat.add_le_add_left (ite_le (Nat.zero_le _) (Nat.le_refl _)) 4) (Nat.le_add_left 5 _)
  | xNext | xUnlock _ => exact Nat.add_le_add h0 (le_of_eval rfl)
  | xCell j | xCasMoved j | xLock j _ | xCheck j _ | xBuild j _ | yMutex j _ | yCheck j _ | yBuild j _
  | xStoreLow j _ _ _ | xStoreHigh j _ _ | xStoreMoved j _ => exact Nat.add_le_add (h1 j) (le_of_eval rfl)
  | wUnlock _ _ _ retry | tUnlockM _ _ _ retry =>
    cases retry <;> exact Nat.le_trans (le_of_eval rfl) (Nat.le_add_left 5 _)
  | _ => exact Nat.le_trans (le_of_eval rfl) (Nat.le_add_left 5 _)

def drainBound (s : State) : Nat :=
  (s.threads.length * (4 * ((s.heap.length + 1) * 4 ^ (s.threads.length * (2 ^ s.cur + 1))) + 20 + s.tabs.length) + 1) *
      (s.threads.length * (4 * 2 ^ s.cur + 5)) +
    s.threads.length * (4 * ((s.heap.length + 1) * 4 ^ (s.threads.length * (2 ^ s.cur + 1))) + 20 + s.tabs.length)

theorem gmu_le_drainBound {n : Nat} {s : State} (hr : Reachable n s) : gmu s ≤ drainBound s := by
  have I := reachable_inv hr
  have B := reachable_binv hr
  have hG : G s ≤ s.threads.length * (2 ^ s.cur + 1) :=
    sum_map_le_card _ _ _ (fun x _ => growV_le (viewOf s) x)
  have hN : N s ≤ (s.heap.length + 1) * 4 ^ (s.threads.length * (2 ^ s.cur + 1)) :=
    Nat.mul_le_mul_left _ (Nat.pow_le_pow_right (by omega) hG)
  have hDA : DA s ≤ s.threads.length * (4 * 2 ^ s.cur + 5) :=
    sum_map_le_card _ _ _ (fun x _ => daV_le (viewOf s) x)
  have hPS : PS s ≤ s.threads.length * PM s.tabs.length (N s) := by
    unfold PS
    refine sum_map_le_card _ _ _ (fun x hx => ?_)
    obtain ⟨i, hi⟩ := List.mem_iff_getElem?.1 hx
    exact pmV_le _ ((walkOK_of_inv I B hi).mono (Nat.le_of_lt (heap_lt_N s)))
  have hPM : PM s.tabs.length (N s) ≤
      4 * ((s.heap.length + 1) * 4 ^ (s.threads.length * (2 ^ s.cur + 1))) + 20 + s.tabs.length := by
    unfold PM; omega
  have h1 := Nat.mul_le_mul_left s.threads.length hPM
  unfold gmu drainBound W
  have h2 : (s.threads.length * PM s.tabs.length (N s) + 1) * DA s ≤
      (s.threads.length * (4 * ((s.heap.length + 1) * 4 ^ (s.threads.length * (2 ^ s.cur + 1))) + 20 + s.tabs.length) + 1) *
        (s.threads.length * (4 * 2 ^ s.cur + 5)) :=
    Nat.mul_le_mul (by omega) hDA
  omega

end Flurry.Proto.BinGNP
