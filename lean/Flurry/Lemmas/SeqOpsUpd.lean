import Flurry.Lemmas.SeqOpsCore
/-! # The three single-key updates on a well-formed state with a table

`StepPost` is defined here; `UpdPost` below and `OpPost` (`SeqOpsCap`) extend it.
`UpdPost m r k new dc G`: `r` is `m` with the lookup of `k` changed to `new`, every other lookup
kept, the count moved by `dc`; the table never shrinks; and under the side condition `G` neither
the table nor the threshold nor the resize counter moves.

Every update runs through the same stages: one bin is replaced (`UpdMid.setBin`), the bin is
perhaps treeified (`UpdMid.treeify`), and the counter is brought up to date (`UpdMid.add_count`, or `UpdMid.done`
when the number of entries did not change). -/
namespace Flurry.Seq
open Flurry Flurry.Gen

/-- what every operation guarantees, whatever its callbacks do: the invariant, the hasher, and that
the table does not shrink -/
structure StepPost (m r : Map) : Prop where
  good : Good r
  hash : r.hash = m.hash
  len_le : tableLen m ≤ tableLen r
  resizes_le : m.resizes ≤ r.resizes

theorem StepPost.refl {m : Map} (hg : Good m) : StepPost m m :=
  ⟨hg, rfl, Nat.le_refl _, Nat.le_refl _⟩

theorem StepPost.trans {a b c : Map} (h1 : StepPost a b) (h2 : StepPost b c) : StepPost a c :=
  ⟨h2.good, h2.hash.trans h1.hash, Nat.le_trans h1.len_le h2.len_le,
    Nat.le_trans h1.resizes_le h2.resizes_le⟩

theorem StepPost.table_ne_none {m r : Map} (h : StepPost m r) (hg : Good m)
    (hne : m.table ≠ none) : r.table ≠ none := by
  cases ht : m.table with
  | none => exact absurd ht hne
  | some t =>
    intro hn
    have := Nat.lt_of_lt_of_le (hg.wf.tableLen_pos ht) h.len_le
    rw [tableLen_of_none hn] at this
    exact Nat.lt_irrefl 0 this

structure UpdPost (m r : Map) (k : Nat) (new : Option Node) (dc : Int) (G : Prop) : Prop
    extends StepPost m r where
  get_same : get k r = new
  get_other : ∀ k', k' ≠ k → get k' r = get k' m
  count : r.count = m.count + dc
  noGrow : G → tableLen r = tableLen m ∧ r.resizes = m.resizes ∧ r.sizeCtl = m.sizeCtl

theorem UpdPost.refl {m : Map} (hg : Good m) (k : Nat) (G : Prop) : UpdPost m m k (get k m) 0 G :=
  ⟨.refl hg, rfl, fun _ _ => rfl, (Int.add_zero _).symm, fun _ => ⟨rfl, rfl, rfl⟩⟩

theorem UpdPost.mono {m r : Map} {k : Nat} {new : Option Node} {dc : Int} {G G' : Prop}
    (h : UpdPost m r k new dc G) (hgg : G' → G) : UpdPost m r k new dc G' :=
  { h with noGrow := fun g => h.noGrow (hgg g) }

/-- allocating the table first changes no lookup (and is no growth if the table exists) -/
theorem UpdPost.after_init {m r : Map} {k : Nat} {new : Option Node} {dc : Int} {G : Prop}
    (hg : Good m) (h : UpdPost (initTable m) r k new dc G) :
    UpdPost m r k new dc (m.table ≠ none ∧ G) :=
  ⟨⟨h.good, h.hash.trans (initTable_hash m), Nat.le_trans (initTable_tableLen_le m) h.len_le,
      initTable_resizes m ▸ h.resizes_le⟩, h.get_same,
    fun k' hne => (h.get_other k' hne).trans ((initTable_same m).2.1 k'),
    h.count.trans (by rw [initTable_count]), fun g => hg.initTable_eq g.1 ▸ h.noGrow g.2⟩

def Ref.upd (r : Ref) (k : Nat) (x : Option (Nat × Nat × Nat)) : Ref :=
  fun k' => if k' = k then x else r k'

theorem Ref.upd_self {r : Ref} {k : Nat} {x : Option (Nat × Nat × Nat)} (h : r k = x) :
    r.upd k x = r := by
  funext k'
  by_cases hk : k' = k
  · rw [Ref.upd, if_pos hk, hk, h]
  · rw [Ref.upd, if_neg hk]

theorem Ref.setVal_eq_upd (r : Ref) (k v vi : Nat) :
    r.setVal k v vi = r.upd k ((r k).map fun (ki0, _, _) => (ki0, v, vi)) := rfl

theorem Ref.insert_eq_upd (r : Ref) (k ki v vi : Nat) :
    r.insert k ki v vi = r.upd k (some (((r k).map (·.1)).getD ki, v, vi)) := by
  funext k'
  rw [Ref.upd, Ref.insert]
  cases r k with
  | none => rfl
  | some x => rfl

theorem UpdPost.absMap_eq {m r : Map} {k : Nat} {new : Option Node} {dc : Int} {G : Prop}
    (h : UpdPost m r k new dc G) :
    absMap r = (absMap m).upd k (new.map fun nd => (nd.ki, nd.val, nd.vi)) := by
  funext k'
  by_cases hk : k' = k
  · rw [Ref.upd, if_pos hk, hk, absMap, h.get_same]
  · rw [Ref.upd, if_neg hk, absMap, absMap, h.get_other k' hk]

/-- the state between the update of a bin and `addCount`: as `UpdPost`, but the stored count is
still that of `m`, while the entries already number `dc` more (so `WF` need not hold) -/
structure UpdMid (m r : Map) (k : Nat) (new : Option Node) (dc : Int) (G : Prop) : Prop where
  pre : ∃ t, PreWF r t
  hash : r.hash = m.hash
  get_same : get k r = new
  get_other : ∀ k', k' ≠ k → get k' r = get k' m
  count : r.count = m.count
  cnt : r.count + dc = Int.ofNat (entries r).length
  len_le : tableLen m ≤ tableLen r
  resizes_le : m.resizes ≤ r.resizes
  noGrow : G → tableLen r = tableLen m ∧ r.resizes = m.resizes ∧ r.sizeCtl = m.sizeCtl

theorem count_after_set {e e' o n : Nat} {dc : Int} (h : e' + o = e + n) (hl : (n : Int) = o + dc) :
    Int.ofNat e + dc = Int.ofNat e' := by
  have h' : (e' : Int) + o = e + n := by exact_mod_cast h
  rw [hl, ← Int.add_assoc, Int.add_right_comm] at h'
  exact ((Int.add_left_inj _).1 h').symm

section
variable {m r : Map} {t : Table} {k : Nat} {new : Option Node} {dc : Int} {G : Prop}

/-- the bin of `k` is replaced by a well-formed bin that answers `new` for `k`, answers every other
key as before, and holds `dc` more nodes -/
theorem UpdMid.setBin (hw : WF m) (ht : m.table = some t) (k : Nat) {b' : Bin}
    (hb' : BinWF m.hash t.length (bini (m.hash k) t.length) b')
    (hs : b'.find (m.hash k) k = new)
    (ho : ∀ k', k' ≠ k →
      b'.find (m.hash k') k' = (tableBin t (bini (m.hash k) t.length)).find (m.hash k') k')
    (hl : (b'.nodes.length : Int) = (tableBin t (bini (m.hash k) t.length)).nodes.length + dc) :
    UpdMid m { m with table := some (t.set (bini (m.hash k) t.length) b') } k new dc True := by
  obtain ⟨htw, hc, hsc, -⟩ := (wf_some_iff ht).1 hw
  have hi := bini_lt_of_isPow2 (m.hash k) htw.1
  generalize hm2 : ({ m with table := some (t.set (bini (m.hash k) t.length) b') } : Map) = m2
  have ht2 : m2.table = some (t.set (bini (m.hash k) t.length) b') := by rw [← hm2]
  have hh2 : m2.hash = m.hash := by rw [← hm2]
  have hc2 : m2.count = m.count := by rw [← hm2]
  have hl2 : tableLen m2 = tableLen m := by
    rw [tableLen_of_some ht2, tableLen_of_some ht, table_length_set]
  refine ⟨⟨_, ht2, hh2.symm ▸ tableWF_set htw hb', by rw [table_length_set, ← hm2]; exact hsc⟩, hh2,
    (get_set_bin ht htw hi ht2 hh2 k).trans ((if_pos rfl).trans hs), ?_, hc2,
    by rw [hc2, hc, entries_eq ht2, entries_eq ht]
       exact count_after_set (flatMap_nodes_set_length b' hi) hl,
    Nat.le_of_eq hl2.symm, by rw [← hm2]; exact Nat.le_refl _,
    fun _ => ⟨hl2, by rw [← hm2], by rw [← hm2]⟩⟩
  intro k' hne
  rw [get_set_bin ht htw hi ht2 hh2]
  by_cases h : bini (m.hash k') t.length = bini (m.hash k) t.length
  · rw [if_pos h, ho k' hne, get_eq_find ht htw, h]
  · rw [if_neg h]

/-- `treeifyBin` (perhaps) on the intermediate state: the table may grow, unless it is big enough
for the bin to be converted in place -/
theorem UpdMid.treeify (h : UpdMid m r k new dc G) (c : Bool) (i : Nat) :
    UpdMid m (if c then treeifyBin i r else r) k new dc
      (G ∧ (c = false ∨ treeifyTooSmall (tableLen m) = false)) := by
  cases c with
  | false => exact { h with noGrow := fun g => h.noGrow g.1 }
  | true =>
    obtain ⟨tr, hp⟩ := h.pre
    obtain ⟨t', hp', hs, -⟩ := treeifyBin_pre i hp
    have hc := treeifyBin_count i r
    show UpdMid m (treeifyBin i r) k new dc _
    refine ⟨⟨t', hp'⟩, hs.1.trans h.hash, (hs.2.1 k).trans h.get_same,
      fun k' hne => (hs.2.1 k').trans (h.get_other k' hne), hc.trans h.count, ?_,
      Nat.le_trans h.len_le (treeifyBin_tableLen_le i r),
      Nat.le_trans h.resizes_le (treeifyBin_resizes_le i r), ?_⟩
    · rw [hc, hs.length_eq]; exact h.cnt
    · rintro ⟨g, g'⟩
      obtain ⟨a, b, c⟩ := h.noGrow g
      have hbig : treeifyTooSmall tr.length = false := by
        rw [← tableLen_of_some hp.table, a]; exact g'.resolve_left (fun e => nomatch e)
      obtain ⟨t', h1, h2, h3, h4⟩ := treeifyBin_table_length (i := i) hp.table hbig
      exact ⟨by rw [tableLen_of_some h1, h2, ← tableLen_of_some hp.table, a], h4.trans b, h3.trans c⟩

/-- `addCount` brings the counter up to date; with a hint it resizes as needed, without one the new
count has to be below the threshold -/
theorem UpdMid.add_count (h : UpdMid m r k new dc G) (hint : Option Nat)
    (hb : hint = none → G ∧ (m.count + dc < m.sizeCtl ∨ tableLen m = MAXIMUM_CAPACITY)) :
    UpdPost m (addCount dc hint r) k new dc
      (G ∧ (m.count + dc < m.sizeCtl ∨ tableLen m = MAXIMUM_CAPACITY)) := by
  obtain ⟨tr, hp⟩ := h.pre
  have below : G ∧ (m.count + dc < m.sizeCtl ∨ tableLen m = MAXIMUM_CAPACITY) →
      r.count + dc < r.sizeCtl ∨ tr.length = MAXIMUM_CAPACITY := fun g => by
    obtain ⟨a, -, c⟩ := h.noGrow g.1
    rw [h.count, c, ← tableLen_of_some hp.table, a]; exact g.2
  have key : WF (addCount dc hint r) ∧ Same r (addCount dc hint r) := by
    cases hint with
    | some bc => exact ⟨(addCount_some_wf hp h.cnt).1, (addCount_some_wf hp h.cnt).2.1⟩
    | none => exact ⟨(addCount_below_wf hp h.cnt (below (hb rfl))).1,
        (addCount_below_wf hp h.cnt (below (hb rfl))).2.1⟩
  refine ⟨⟨Good.of_tableLen_pos key.1 (Nat.lt_of_lt_of_le hp.tableLen_pos (addCount_tableLen_le _ _ _)),
      (addCount_hash _ _ _).trans h.hash, Nat.le_trans h.len_le (addCount_tableLen_le _ _ _),
      Nat.le_trans h.resizes_le (addCount_resizes_le _ _ _)⟩, (key.2.2.1 k).trans h.get_same,
    fun k' hne => (key.2.2.1 k').trans (h.get_other k' hne), h.count ▸ (addCount_grown _ _ _).count,
    fun g => ?_⟩
  rw [addCount_of_below hp.table (below g)]
  exact h.noGrow g.1

theorem UpdMid.done (h : UpdMid m r k new 0 G) (hw : WF m) (ht : m.table = some t) :
    UpdPost m r k new 0 G := by
  obtain ⟨tr, hp⟩ := h.pre
  obtain ⟨_, _, hs, hlt⟩ := (wf_some_iff ht).1 hw
  have hl : t.length ≤ tr.length := by
    rw [← tableLen_of_some ht, ← tableLen_of_some hp.table]; exact h.len_le
  -- the threshold grows with the table, and the count is that of `m`
  have hb : r.count < r.sizeCtl ∨ tr.length = MAXIMUM_CAPACITY :=
    hlt.elim (fun g => Or.inl (h.count ▸ hp.sc ▸ Int.lt_of_lt_of_le g (hs ▸ loadFactor_mono hl)))
      fun g => Or.inr (Nat.le_antisymm hp.twf.2.1 (g ▸ hl))
  exact ⟨⟨Good.of_some (hp.wf ((Int.add_zero _).symm.trans h.cnt) hb) hp.table, h.hash, h.len_le,
      h.resizes_le⟩, h.get_same, h.get_other, h.count.trans (Int.add_zero _).symm, h.noGrow⟩

end

section
variable {m : Map} {t : Table}

/-- insertion of a new node for an absent key, then (maybe) `treeifyBin`, then `addCount 1` -/
theorem insert_post (hw : WF m) (ht : m.table = some t) {k : Nat} {nd : Node}
    (hf : (tableBin t (bini (m.hash k) t.length)).find (m.hash k) k = none)
    (hh : nd.hash = m.hash k) (hk : nd.key = k) (c : Bool) (bc : Nat) :
    let i := bini (m.hash k) t.length
    let m2 : Map := { m with table := some (t.set i (insertBin nd (tableBin t i))) }
    UpdPost m (addCount 1 (some bc) (if c then treeifyBin i m2 else m2)) k (some nd) 1
      ((c = false ∨ treeifyTooSmall (tableLen m) = false) ∧
        (m.count + 1 < m.sizeCtl ∨ tableLen m = MAXIMUM_CAPACITY)) := by
  have hbw := (hw.tableWF ht).bin (bini (m.hash k) t.length)
  have hok : NodeOk m.hash t.length (bini (m.hash k) t.length) nd := ⟨by rw [hh, hk], by rw [hh]⟩
  have h2 : UpdMid m _ k (some nd) 1 True :=
    UpdMid.setBin hw ht k (insertBin_wf hbw hf hh hk hok) (insertBin_find hbw hf hh hk hok)
      (fun _ hne => insertBin_find_other hbw hf hh hk hok hne)
      (by rw [(insertBin_nodes_perm nd _).length_eq]; exact Int.natCast_add _ 1)
  exact ((h2.treeify c _).add_count (some bc) fun h => nomatch h).mono fun g => ⟨⟨trivial, g.1⟩, g.2⟩

/-- update of the value of a present key, then (maybe) `treeifyBin` -/
theorem update_post (hw : WF m) (ht : m.table = some t) {k : Nat} {old : Node} (v vi : Nat)
    (hf : (tableBin t (bini (m.hash k) t.length)).find (m.hash k) k = some old) (c : Bool) :
    let i := bini (m.hash k) t.length
    let m2 : Map := { m with table := some (t.set i (setValBin (m.hash k) k v vi (tableBin t i))) }
    UpdPost m (if c then treeifyBin i m2 else m2) k (some { old with val := v, vi := vi }) 0
      (c = false ∨ treeifyTooSmall (tableLen m) = false) := by
  have hbw := (hw.tableWF ht).bin (bini (m.hash k) t.length)
  have h2 : UpdMid m _ k (some { old with val := v, vi := vi }) 0 True :=
    UpdMid.setBin hw ht k (setValBin_wf _ k v vi hbw) (setValBin_find_same hbw hf)
      (fun _ hne => setValBin_find_other _ k v vi hbw hne)
      (by rw [setValBin_nodes _ k v vi hbw, List.length_map]; exact (Int.add_zero _).symm)
  exact ((h2.treeify c _).done hw ht).mono fun g => ⟨trivial, g⟩

/-- removal of a present key, then `addCount (-1)`: never grows -/
theorem remove_post (hw : WF m) (ht : m.table = some t) {k : Nat} {old : Node}
    (hf : (tableBin t (bini (m.hash k) t.length)).find (m.hash k) k = some old) :
    let i := bini (m.hash k) t.length
    let m2 : Map := { m with table := some (t.set i (removeBin (m.hash k) k (tableBin t i))) }
    UpdPost m (addCount (-1) none m2) k none (-1) True := by
  have hbw := (hw.tableWF ht).bin (bini (m.hash k) t.length)
  have h2 : UpdMid m _ k none (-1) True :=
    UpdMid.setBin hw ht k (removeBin_wf hbw hf) (removeBin_find_same hbw hf)
      (fun _ hne => removeBin_find_other hbw hf hne)
      (by have := removeBin_length hbw hf; omega)
  have hb : m.count + -1 < m.sizeCtl ∨ tableLen m = MAXIMUM_CAPACITY :=
    (tableLen_of_some ht ▸ ((wf_some_iff ht).1 hw).2.2.2).imp_left fun h => by omega
  exact (h2.add_count none fun _ => ⟨trivial, hb⟩).mono fun _ => ⟨trivial, hb⟩

end

end Flurry.Seq
