import Flurry.Lemmas.BinGNPInvQ
import Flurry.Lemmas.BinGNPInvBasic
/-! # Proto/BinGN: the generic part of the preservation of the ghost invariant

* (tree = list for a `TreeBin` in a cell whose write lock is free is `Inv.tree_eq_chain`, `Inv.absTree_eq_abs` of
  `Lemmas/BinGNPInvQ.lean`;) the tree of a `TreeBin` in a cell `id` in which `k` does not live
  (`k % 2^id.1 ≠ id.2`) has no node with key `k` (`Inv.absTree_other`; `HInv.first_foreign`);
* `LiveBin.cases`: `b` is in the live cell of `k`, or in the live cell of a key `k'` in which `k` does not live;
  `liveId_eq_of_mod`, `liveId_not_LC`: a node on the chain of the live cell of `k'`, in which `k` does not live, is
  not on the live chain of `k`;
* `TreeOK.step`, `RdOK.step`: the justifications of the readers survive every transition (`Eff`). They, and the
  hypothesis `hself` of `readers_step`, ask for `¬ InCell s b → ¬ PrivBin s b`, which is what `Eff.dead` needs: for a
  `TreeBin` just loaded from a cell it is trivial, whereas "a `TreeBin` in a cell that a thread works in is not
  private" does NOT follow from `Inv` (an empty `TreeBin` in a cell of generation `cur` cannot be told apart from the
  pending one of the transfer of another cell by `HInv.side`);
* `Next s t l' new s'`: what the ghost side reads of a successor state (thread `t` is now `l'`, the clock has advanced,
  the calls `new` are in front of the history); `readers_step`; `GInv.succ`: the ghost invariant of the successor
  state from the trace of its history (the step kinds of `Lemmas/GhostView.lean`) and the justifications of its
  readers; `ginv_other_key`, `ginv_call_fin`. -/
namespace Flurry.Proto.BinGNP
open Flurry.Lin
open Flurry.GhostView (updPt updPt_self updPt_ne)
open Flurry.Proto.BinK (nodeAt binAt NextOK IsChain IsSeg chainOf CInv absL AbsWit OnCond ValWit CallOK nextA
  nextA_old nextA_new absL_eq_none_iff absL_eq_some_iff get_set get_set_ne get_set_self)

variable {k : Nat} {s s' : State} {A : Nat → KSt} {pt : Nat → Nat} {t : Nat} {l l' : Local} {p : Pending}

/-- the tree of a `TreeBin` in a cell in which `k` does not live has no node with key `k` -/
theorem Inv.absTree_other (I : Inv s) {k b : Nat} {id : Cid}
    (hc : cellAt s id = .tree b) (hno : k % 2 ^ id.1 ≠ id.2) : absTree s b k = none := by
  unfold absTree
  cases hf : treeFind s b k with
  | none => rfl
  | some i =>
    exfalso
    obtain ⟨hi, ho, hin, hk⟩ := treeFind_some hf
    have hside := I.heap.side id i (Or.inr (by rw [hc]; exact ⟨hi, hin, b, rfl, ho⟩))
    rw [hk] at hside
    exact hno hside

/-! ## the justifications of the readers survive a transition -/

theorem TreeOK.step {A A' : Nat → KSt} {k inv : Nat} {b : Nat}
    (h : TreeOK A k inv s b) (E : Eff s s') (hnow : s'.now = s.now + 1)
    (hA' : ∀ τ, τ ≤ s.now → A' τ = A τ) (hA'n : A' s'.now = absOf s' k) (hinv : inv ≤ s.now)
    (hb : b < s.tbins.length) (hnp : ¬ InCell s b → ¬ PrivBin s b) : TreeOK A' k inv s' b := by
  rcases h with h | h | ⟨τ, h1, h2, h3⟩
  · rcases E.live b k h with h' | h' | h'
    · exact Or.inl h'
    · exact Or.inr (Or.inl h')
    · exact Or.inr (Or.inr ⟨s'.now, by omega, Nat.le_refl _, by rw [hA'n, h']⟩)
  · obtain ⟨h1, h2⟩ := E.dead b hb h.1 (hnp h.1)
    exact Or.inr (Or.inl ⟨h1, h2 h.2⟩)
  · by_cases he : absTree s' b k = absTree s b k
    · exact Or.inr (Or.inr ⟨τ, h1, by omega, by rw [hA' τ h2, he]; exact h3⟩)
    · exact Or.inl (E.tree b k hb he).2

/-- a key that lives in the live cell of `k` has the same live cell -/
theorem liveId_eq_of_mod {k κ : Nat} (h : κ % 2 ^ (liveId s k).1 = (liveId s k).2) :
    liveId s κ = liveId s k := by
  unfold liveId at h ⊢
  by_cases hm : cellAt s (idOf s.cur k) = .moved
  · rw [if_pos hm] at h ⊢
    have h1 : κ % 2 ^ (s.cur + 1) = k % 2 ^ (s.cur + 1) := h
    have hd : 2 ^ s.cur ∣ 2 ^ (s.cur + 1) := Nat.pow_dvd_pow 2 (Nat.le_succ _)
    have h0 : κ % 2 ^ s.cur = k % 2 ^ s.cur := by
      rw [← Nat.mod_mod_of_dvd κ hd, h1, Nat.mod_mod_of_dvd k hd]
    have e0 : idOf s.cur κ = idOf s.cur k := by unfold idOf; rw [h0]
    rw [e0, if_pos hm]
    unfold idOf; rw [h1]
  · rw [if_neg hm] at h ⊢
    have h0 : κ % 2 ^ s.cur = k % 2 ^ s.cur := h
    have e0 : idOf s.cur κ = idOf s.cur k := by unfold idOf; rw [h0]
    rw [e0, if_neg hm]

theorem liveId_mod (s : State) (k : Nat) : k % 2 ^ (liveId s k).1 = (liveId s k).2 := by
  unfold liveId
  split <;> rfl

/-- a node on the chain (or in the tree) of the live cell of `k'`, in which `k` does not live, is not on the live
chain of `k` (two live cells are the same or hold nodes with different keys) -/
theorem liveId_not_LC (H : HInv s) (X : XInv s) {k k' c : Nat}
    (hc : c ∈ chainC s (cellAt s (liveId s k'))) (hno : k % 2 ^ (liveId s k').1 ≠ (liveId s k').2) :
    c ∉ LC s k := by
  intro hc'
  unfold LC at hc'
  rw [liveCell_eq X k] at hc'
  have h1 := H.side (liveId s k') c (Or.inl hc)
  have h2 := H.side (liveId s k) c (Or.inl hc')
  have e1 := liveId_eq_of_mod h1
  have e2 := liveId_eq_of_mod h2
  apply hno
  rw [← e1, e2]
  exact liveId_mod s k

/-- a `TreeBin` a lookup can end in is in the live cell of `k`, or in the live cell of a key `k'` in which `k` does
not live -/
theorem LiveBin.cases {b : Nat} (h : LiveBin s b) (k : Nat) :
    cellAt s (liveId s k) = .tree b ∨
      ∃ k', cellAt s (liveId s k') = .tree b ∧ k % 2 ^ (liveId s k').1 ≠ (liveId s k').2 := by
  obtain ⟨k', hk'⟩ := h
  by_cases hm : k % 2 ^ (liveId s k').1 = (liveId s k').2
  · left
    rw [liveId_eq_of_mod hm]; exact hk'
  · exact Or.inr ⟨k', hk', hm⟩

/-- the `first` field of a `TreeBin` in a cell is the head of the chain of that cell -/
theorem HInv.first_mem (H : HInv s) {id : Cid} {b c : Nat} (hc : cellAt s id = .tree b)
    (hf : (binAt s.tbins b).first = some c) : c ∈ chainC s (cellAt s id) := by
  have hch := (H.cinv id).isChain
  rw [hc] at hch ⊢
  have hst : startOf s.tbins (.tree b) = some c := hf
  rw [hst] at hch
  obtain ⟨l', hl'⟩ := IsChain.start_some hch
  unfold chainC
  rw [hst, hl']
  exact List.mem_cons_self

/-- the `first` field of a `TreeBin` in a cell in which `k` does not live: nothing or a foreign node -/
theorem HInv.first_foreign (H : HInv s) {k b : Nat} {id : Cid}
    (hc : cellAt s id = .tree b) (hno : k % 2 ^ id.1 ≠ id.2) :
    (binAt s.tbins b).first = none ∨ ∃ c, (binAt s.tbins b).first = some c ∧ Foreign s k c := by
  cases hf : (binAt s.tbins b).first with
  | none => exact Or.inl rfl
  | some c => exact Or.inr ⟨c, rfl, id, H.first_mem hc hf, hno⟩

/-- the pointer a reader loads from the `first` field of its `TreeBin` stays justified -/
theorem Good.first_step {A A' : Nat → KSt} {k inv : Nat} {b : Nat}
    (h : Good A k inv s (binAt s.tbins b).first) (I : Inv s) (E : Eff s s') (hnow : s'.now = s.now + 1)
    (hA' : ∀ τ, τ ≤ s.now → A' τ = A τ) (hA : A s.now = absOf s k) (hA'n : A' s'.now = absOf s' k)
    (hinv : inv ≤ s.now) (hb : b < s.tbins.length) : Good A' k inv s' (binAt s'.tbins b).first := by
  have H' := E.inv.heap
  by_cases hfe : (binAt s'.tbins b).first = (binAt s.tbins b).first
  · rw [hfe]
    exact h.step I.heap (E.kstep k) hnow hA' hA hinv
  · obtain ⟨hl, hl'⟩ := E.first b hb hfe
    by_cases hcl' : cellAt s' (liveId s' k) = .tree b
    · have := Good.first (A := A') (k := k) (inv := inv) H' hA'n (by omega)
      rw [liveCell_eq E.inv.rsz k, hcl'] at this
      exact this
    · rcases hl'.cases k with hc' | ⟨k1', hc', hno'⟩
      · exact absurd hc' hcl'
      · -- `b` is in a cell in which `k` does not live: the key was absent at some time of the call
        have hw' : AbsWit A' inv s'.now := by
          by_cases hlv : cellAt s (liveId s k) = .tree b
          · rcases E.live b k hlv with h1 | h1 | h1
            · exact absurd h1 hcl'
            · exact absurd ⟨liveId s' k1', hc'⟩ h1.1
            · refine ⟨s'.now, by omega, Nat.le_refl _, ?_⟩
              rw [hA'n, ← h1]
              exact E.inv.absTree_other hc' hno'
          · rcases hl.cases k with hc | ⟨k1, hc, hno⟩
            · exact absurd hc hlv
            · have hff : (binAt s.tbins b).first = none ∨
                  ∃ c, (binAt s.tbins b).first = some c ∧ Foreign s k c ∧ c ∉ LC s k := by
                rcases I.heap.first_foreign hc hno with hn | ⟨c, hn, hf⟩
                · exact Or.inl hn
                · exact Or.inr ⟨c, hn, hf, liveId_not_LC I.heap I.rsz (I.heap.first_mem hc hn) hno⟩
              have hw := Good.absWit_of_foreign_or_none h hff
              rw [hnow]
              exact hw.step hA'
        rcases H'.first_foreign hc' hno' with hn | ⟨c, hn, hf⟩
        · rw [hn]; exact .absent hw'
        · rw [hn]; exact .foreign hf hw'

theorem RdOK.step {A A' : Nat → KSt} {k inv : Nat} {pc : Pc}
    (h : RdOK A k inv s pc) (I : Inv s) (E : Eff s s') (hnow : s'.now = s.now + 1)
    (hA' : ∀ τ, τ ≤ s.now → A' τ = A τ) (hA : A s.now = absOf s k) (hA'n : A' s'.now = absOf s' k)
    (hinv : inv ≤ s.now)
    (href : ∀ b, binRef pc = some b → b < s.tbins.length ∧ (¬ InCell s b → ¬ PrivBin s b)) :
    RdOK A' k inv s' pc := by
  have H' := E.inv.heap
  have hg : ∀ cur, Good A k inv s cur → Good A' k inv s' cur :=
    fun cur hgood => hgood.step I.heap (E.kstep k) hnow hA' hA hinv
  have ht : ∀ b, binRef pc = some b → TreeOK A k inv s b → TreeOK A' k inv s' b :=
    fun b hb htree => htree.step E hnow hA' hA'n hinv (href b hb).1 (href b hb).2
  have hf : ∀ b, binRef pc = some b → Good A k inv s (binAt s.tbins b).first →
      Good A' k inv s' (binAt s'.tbins b).first :=
    fun b hb hgood => hgood.first_step I E hnow hA' hA hA'n hinv (href b hb).1
  cases pc <;> simp only [RdOK] at h ⊢
  case rNode cur => exact hg _ h
  case rFirst b => exact ⟨hf b rfl h.1, ht b rfl h.2⟩
  case lFirst b => exact hf b rfl h
  case rState b cur => exact ⟨hg _ h.1, ht b rfl h.2⟩
  case rLin b c => exact ⟨hg _ h.1, ht b rfl h.2⟩
  case rCas b c r => exact ⟨hg _ h.1, ht b rfl h.2⟩
  case rTree b => exact ht b rfl h
  case rRelease b hit =>
    cases hit with
    | none => rw [hnow]; exact AbsWit.step h hA'
    | some i => exact ValWit.kstep h H' (E.kstep k) hnow hA' hA'n hinv
  case rVal i => exact ValWit.kstep h H' (E.kstep k) hnow hA' hA'n hinv
  case lNode cur => exact hg _ h

/-! ## the generic preservation lemmas -/

theorem RdOK_of_not_reader {k inv : Nat} {pc : Pc} (h : readerPc pc = false) :
    RdOK A k inv s pc := by
  cases pc <;> first | trivial | cases h

/-- what the ghost trace reads of the successor state: thread `t` is now `l'`, the clock has advanced by one, the calls
`new` are in front of the history -/
structure Next (s : State) (t : Nat) (l' : Local) (new : List (Nat × Call)) (s' : State) : Prop where
  thr : s'.threads = s.threads.set t l'
  now : s'.now = s.now + 1
  hist : s'.hist = new ++ s.hist

theorem readers_step {new : List (Nat × Call)} (g : GInv k s A pt) (I : Inv s) (E : Eff s s') (f : Next s t l' new s')
    (hself : ∀ (p : Pending), l'.call = some p → p.key = k →
      (p.inv ≤ s.now ∧ RdOK A k p.inv s l'.pc ∧ ∀ b, binRef l'.pc = some b → b < s.tbins.length ∧ (¬ InCell s b → ¬ PrivBin s b)) ∨
      RdOK (nextA A s.now (absOf s' k)) k p.inv s' l'.pc) :
    ∀ (t1 : Nat) (l1 : Local) (p1 : Pending), s'.threads[t1]? = some l1 →
      l1.call = some p1 → p1.key = k → RdOK (nextA A s.now (absOf s' k)) k p1.inv s' l1.pc := by
  intro t1 l1 p1 h1 hc1 hk1
  have hA'n : nextA A s.now (absOf s' k) s'.now = absOf s' k := by rw [f.now, nextA_new]
  rw [f.thr] at h1
  rcases get_set h1 with ⟨rfl, rfl⟩ | ⟨_, h1⟩
  · rcases hself p1 hc1 hk1 with ⟨hi, hg, hb⟩ | hg
    · exact hg.step I E f.now (fun τ h => nextA_old h) g.hA hA'n hi hb
    · exact hg
  · exact (g.readers t1 l1 p1 h1 hc1 hk1).step I E f.now (fun τ h => nextA_old h) g.hA hA'n
      (I.thr.pendTime t1 l1 p1 h1 hc1)
      (fun b hr => ⟨(I.lock.refOK t1 l1 b h1 hr).1, fun _ => (I.lock.refOK t1 l1 b h1 hr).2⟩)

/-- the ghost invariant of the successor state, from the trace of its history (`Lemmas/GhostView.lean`) and the
justifications of its readers -/
theorem GInv.succ {A' : Nat → KSt} {pt' : Nat → Nat}
    {hnew : List (Nat × Call)}
    (f : Next s t l' hnew s')
    (T : GhostView.Trace Lin.sig (GhostView.callsOnExt Lin.sig view (hnew ++ s.hist) (s.threads.set t l') k (s.now + 1))
      (s.now + 1) (absOf s' k) A' pt')
    (hreaders : ∀ (t1 : Nat) (l1 : Local) (p1 : Pending), s'.threads[t1]? = some l1 →
      l1.call = some p1 → p1.key = k → RdOK A' k p1.inv s' l1.pc) : GInv k s' A' pt' := by
  rw [← f.thr, ← f.now, ← f.hist, ← callsOnExt_eq] at T
  exact ⟨T.h0, T.hA, T.calls, T.stab, T.inj, hreaders⟩

theorem ginv_other_key {hnew : List (Nat × Call)}
    (g : GInv k s A pt) (I : Inv s) (E : Eff s s')
    (hl : s.threads[t]? = some l) (hk : ∀ p, l.call = some p → p.key ≠ k)
    (f : Next s t l' hnew s') (hnk : ∀ x ∈ hnew, x.1 ≠ k)
    (habs : absOf s' k = absOf s k) (hcall : l'.call = l.call ∨ l'.call = none) :
    GInv k s' (nextA A s.now (absOf s' k)) pt := by
  refine GInv.succ f (g.trace.other_key I.thr.gen hl rfl rfl rfl habs hk hnk hcall)
    (readers_step g I E f ?_)
  intro p1 hp1 hk1
  rcases hcall with h | h
  · rw [h] at hp1; exact absurd hk1 (hk p1 hp1)
  · rw [h] at hp1; cases hp1

theorem ginv_call_fin {res : KRes} {τ0 : Nat}
    (g : GInv k s A pt) (I : Inv s) (E : Eff s s')
    (hl : s.threads[t]? = some l) (hp : l.call = some p) (hk : p.key = k)
    (f : Next s t { pc := .idle, call := none } [(p.key, ⟨t, p.op, res, p.inv, s.now + 1⟩)] s')
    (hres0 : resOfPc l.pc = none)
    (hcase : (isRead p.op = true ∧ absOf s' k = absOf s k ∧ p.inv ≤ τ0 ∧ τ0 ≤ s.now ∧
        specStep (A τ0) p.op = (A τ0, res)) ∨
      (isRead p.op = false ∧ τ0 = s.now + 1 ∧ specStep (absOf s k) p.op = (absOf s' k, res))) :
    GInv k s' (nextA A s.now (absOf s' k)) (updPt pt p.inv τ0) :=
  GInv.succ f
    (g.trace.call_fin I.thr.gen hl rfl rfl rfl hp hk hres0 rfl hcase)
    (readers_step g I E f (fun _ hp1 => by cases hp1))

end Flurry.Proto.BinGNP
