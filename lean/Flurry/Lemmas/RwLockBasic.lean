import Flurry.Proto.RwLock
import Flurry.Lemmas.ListSet
/-! # Lemmas/RwLockBasic: counting readers by pc, a reader step in normal form, the invariant `Inv`

`cnt p rs` counts the readers whose pc satisfies `p`. It is `rs.countP p` (`cnt_eq_countP`), spelt
like `numHolding` of `Proto/RwLock` so that `numHolding = cnt holdsRead` by `rfl`; the `cnt_*`
lemmas are the `List.countP` ones (`numHolding_set` and `mem_set_cases` are used by nothing).
`stepReader_eq` writes a reader step as one record update in terms of `nextPc`; the proofs about a
reader step in `Lemmas/RwLock*` start from it. `Inv` (the lock word is the writer's bits plus `READER` per holder;
`WInv` per writer pc, `RInv` per reader pc) is defined here; that every step preserves it is
`Lemmas/RwLockInv`. -/
namespace Flurry.Proto.RwLock
open Flurry.Gen

def cnt (p : RPc → Bool) (rs : List RPc) : Nat := (rs.filter p).length

theorem numHolding_eq_cnt (rs : List RPc) : numHolding rs = cnt holdsRead rs := rfl

theorem cnt_eq_countP (p : RPc → Bool) (rs : List RPc) : cnt p rs = rs.countP p :=
  List.countP_eq_length_filter.symm

theorem cnt_set (p : RPc → Bool) {rs : List RPc} {i : Nat} {old : RPc} (h : rs[i]? = some old) (new : RPc) :
    cnt p (rs.set i new) + (p old).toNat = cnt p rs + (p new).toNat := by
  rw [cnt_eq_countP, cnt_eq_countP]; exact countP_set_add h

theorem cnt_pos_iff (p : RPc → Bool) (rs : List RPc) :
    1 ≤ cnt p rs ↔ ∃ (i : Nat) (pc : RPc), rs[i]? = some pc ∧ p pc = true := by
  rw [cnt_eq_countP]
  refine List.countP_pos_iff.trans ⟨fun ⟨pc, hm, hp⟩ => ?_, fun ⟨i, pc, hi, hp⟩ => ?_⟩
  · obtain ⟨i, hi⟩ := List.mem_iff_getElem?.mp hm
    exact ⟨i, pc, hi, hp⟩
  · exact ⟨pc, List.mem_iff_getElem?.mpr ⟨i, hi⟩, hp⟩

theorem cnt_ge (p : RPc → Bool) {rs : List RPc} {i : Nat} {old : RPc} (h : rs[i]? = some old) :
    (p old).toNat ≤ cnt p rs := by
  cases hp : p old
  · exact Nat.zero_le _
  · exact (cnt_pos_iff _ _).mpr ⟨i, old, h, hp⟩

theorem numHolding_set (rs : List RPc) (i : Nat) (old new : RPc) (h : rs[i]? = some old) :
    numHolding (rs.set i new) =
      numHolding rs - (if holdsRead old then 1 else 0) + (if holdsRead new then 1 else 0) := by
  have h1 := cnt_set holdsRead h new
  have h2 := cnt_ge holdsRead h
  simp only [numHolding_eq_cnt]
  cases ho : holdsRead old <;> cases hn : holdsRead new <;> simp [ho, hn] at h1 h2 ⊢ <;> omega

theorem cnt_eq_zero_of_all (p : RPc → Bool) (rs : List RPc)
    (h : ∀ (i : Nat) (pc : RPc), rs[i]? = some pc → p pc = false) : cnt p rs = 0 := by
  rw [cnt_eq_countP, List.countP_eq_zero]
  intro pc hm
  obtain ⟨i, hi⟩ := List.mem_iff_getElem?.mp hm
  rw [h i pc hi]; exact Bool.false_ne_true

def isUnpark : RPc → Bool
  | .unpark => true
  | _ => false

def isLoadWaiter : RPc → Bool
  | .loadWaiter => true
  | _ => false

theorem isUnpark_iff (pc : RPc) : isUnpark pc = true ↔ pc = .unpark := by cases pc <;> simp [isUnpark]
theorem isLoadWaiter_iff (pc : RPc) : isLoadWaiter pc = true ↔ pc = .loadWaiter := by
  cases pc <;> simp [isLoadWaiter]

theorem mem_set_cases {rs : List RPc} {i : Nat} {new x : RPc} (h : x ∈ rs.set i new) :
    x ∈ rs ∨ x = new := List.mem_or_eq_of_mem_set h

def nextPc (s : State) (more : Bool) : RPc → RPc
  | .idle => .load
  | .load => .decide s.lockState
  | .decide st => if hasBit st WAITER || hasBit st WRITER then .slow else .cas st
  | .slow => if more then .load else .idle
  | .cas st => if s.lockState == st then .tree else .load
  | .tree => .release
  | .release => if s.lockState == READER + WAITER then .loadWaiter else .idle
  | .loadWaiter => if s.waiterSet then .unpark else .idle
  | .unpark => .idle

/-- a reader step moves one reader's pc and leaves the writer alone; the lock word follows
`holdsRead`, and only `unpark` sets the token -/
theorem stepReader_eq (s : State) (i : Nat) (more : Bool) :
    stepReader s i more = s.readers[i]?.map fun pc =>
      { s with lockState := s.lockState + READER * (holdsRead (nextPc s more pc)).toNat
                 - READER * (holdsRead pc).toNat,
               token := s.token || isUnpark pc,
               readers := s.readers.set i (nextPc s more pc) } := by
  unfold stepReader
  cases s.readers[i]? with
  | none => rfl
  | some pc =>
    cases pc <;> simp only [Option.map_some, nextPc, setReader, holdsRead, isUnpark]
    all_goals (try split)
    all_goals simp [*]
    -- left: the successful `cas`, where the new word is written as `st + READER`
    exact (eq_of_beq ‹_›).symm

/-- the writer holds the write lock (`WRITER` bit set by this thread) -/
def writerHolds (s : State) : Bool :=
  match s.wpc with
  | .hold | .swapOut => true
  | _ => false

/-- the `WAITER` bit is set: from the successful `casWaiter` (which sets `waiting`) until the
successful `casWriter` (which leaves to `swapOut`) -/
def waiterBit (s : State) : Bool :=
  match s.wpc with
  | .publish | .load | .decide _ | .casWriter _ | .park => s.waiting
  | _ => false

/-- contribution of the writer to the lock word -/
def wBits (pc : WPc) (waiting : Bool) : Int :=
  match pc with
  | .hold | .swapOut => WRITER
  | .publish | .load | .decide _ | .casWriter _ | .park => if waiting then WAITER else 0
  | _ => 0

/-- per-pc facts about the writer. `K` = readers holding a read lock or on their way to wake. -/
def WInv (s : State) : Prop :=
  let H := cnt holdsRead s.readers
  let K := cnt holdsRead s.readers + cnt isUnpark s.readers + cnt isLoadWaiter s.readers
  match s.wpc with
  | .idle => s.waiterSet = false
  | .tryFast => s.waiting = false ∧ s.waiterSet = false
  | .load => s.waiterSet = s.waiting
  | .decide st => s.waiterSet = s.waiting ∧
      (s.waiting = true → hasBit st WAITER = true ∧
        (freeExceptWaiter st = false → s.token = true ∨ 1 ≤ K))
  | .casWriter st => s.waiterSet = s.waiting ∧ (st = 0 ∨ st = WAITER)
  | .swapOut => s.waiterSet = true ∧ s.waiting = true ∧ H = 0
  | .casWaiter st => s.waiting = false ∧ s.waiterSet = false ∧ hasBit st WAITER = false
  | .publish => s.waiting = true ∧ s.waiterSet = false
  | .park => s.waiting = true ∧ s.waiterSet = true ∧ (s.token = true ∨ 1 ≤ K)
  | .hold => s.waiterSet = false ∧ H = 0

/-- per-pc facts about a reader: a `cas` is only attempted from a state without writer/waiter -/
def RInv (pc : RPc) : Prop :=
  match pc with
  | .cas st => hasBit st WAITER = false ∧ hasBit st WRITER = false
  | _ => True

structure Inv (s : State) : Prop where
  lock : s.lockState = wBits s.wpc s.waiting + READER * (cnt holdsRead s.readers : Nat)
  writer : WInv s
  readers : ∀ pc ∈ s.readers, RInv pc

end Flurry.Proto.RwLock
