import Flurry.Lemmas.BinGNGenStepX
/-! # Proto/BinGN: the generation invariant holds initially; every transition establishes its shape half -/
namespace Flurry.Proto.BinGN
open Flurry.Lin
open Flurry.Proto.BinGNP (StepN)

theorem init_geninv (n : Nat) : GenInv (init n) := by
  refine ⟨rfl, ?_, ?_, ?_, ?_, ?_, ?_, ?_⟩
  · intro g row h
    cases g with
    | zero => cases h; rfl
    | succ g => cases h
  · intro g j hg; cases hg
  · intro j
    show cellT [[(.empty : Cell)]] 1 j ≠ _
    unfold cellT; simp
  · intro j hm
    have : cellT [[(.empty : Cell)]] 0 j = .moved := hm
    unfold cellT at this
    cases j <;> simp at this
  · intro t t' l l' h1 _ hT
    rw [init_threads h1] at hT; cases hT
  · intro g j b h
    have : cellT [[(.empty : Cell)]] g j = .tree b := h
    unfold cellT at this
    cases g with
    | zero => cases j <;> simp at this
    | succ g => simp at this
  · intro t l h1
    rw [init_threads h1]; exact POK.empty _ _

theorem stepN_shape {s s' : State} {t : Nat} {l : Local} (I : GenInv s) (hl : s.threads[t]? = some l)
    (h : StepN s t l s') : ShapeInv s' := by
  obtain ⟨pc, call⟩ := l
  cases h with
  | idle h => exact shape_grows I hl (.tick s) rfl (.same rfl)
  | maint k h => cases h; exact shape_weak I hl rfl rfl rfl rfl (.same rfl)
  | resizeStart h hr => cases h; exact shape_alloc I hl hr
  | invoke k op lo h =>
    cases h; cases isReader op <;> exact shape_weak I hl rfl rfl rfl rfl (.same rfl)
  | move p pc' hp hc hm => cases hc; exact shape_move I hl hm
  | bmove p pc' tb hc hm => cases hc; exact shape_bmove I hl hm
  | kmove pc' hp hc hm => cases hc; exact shape_kmove I hl hm
  | kbmove pc' tb hc hm => cases hc; exact shape_kbmove I hl hm
  | fin p res hp hc hf => exact shape_finish I hl
  | bfin p res tb hc hf => exact shape_finish I hl
  | cas p g v vi hc hpc hcell _ => cases hc; cases hpc; exact shape_cas I hl hcell
  | store p g h pred hit hnext hc hpc => cases hc; cases hpc; exact shape_store I hl
  | tval p g b i v res hc hpc =>
    cases hc; cases hpc
    exact shape_grows I hl ((Grows.tick s).trans (.setNode _ i _)) rfl (.same rfl)
  | prepend p g b v vi hc hpc _ =>
    cases hc; cases hpc
    exact shape_weak I hl rfl rfl rfl rfl (.same rfl)
  | treeLink _ _ _ i hc hpc | untree _ _ _ i _ hc hpc =>
    cases hc; cases hpc
    exact shape_grows I hl ((Grows.tick s).trans (.setNode _ i _)) rfl (.same rfl)
  | unlink p g b i res sm hc hpc =>
    cases hc; cases hpc
    cases sm <;> exact shape_grows I hl ((Grows.tick s).trans (unlinkOf_grows _ b i).1) (unlinkOf_grows _ b i).2
      (.same rfl)
  | untreeify p g b res hc hpc => cases hc; cases hpc; exact shape_untreeify I hl
  | kbuild g k h hc hpc => cases hc; cases hpc; exact shape_kbuild I hl
  | kstore g k h b hc hpc => cases hc; cases hpc; exact shape_kstore I hl
  | xcasMoved j hc hpc hcell => cases hc; cases hpc; exact shape_xcasMoved I hl
  | xbuild j h hc hpc => cases hc; cases hpc; exact shape_xbuild I hl
  | ybuild j b sm sm2 hc hpc => cases hc; cases hpc; exact shape_ybuild I hl
  | xstoreLow j unl lo hi hc hpc => cases hc; cases hpc; exact shape_xstoreLow I hl
  | xstoreHigh j unl hi hc hpc => cases hc; cases hpc; exact shape_xstoreHigh I hl
  | xstoreMoved j unl hc hpc => cases hc; cases hpc; exact shape_xstoreMoved I hl
  | xcommit hc hpc => cases hc; cases hpc; exact shape_xcommit I hl

end Flurry.Proto.BinGN
