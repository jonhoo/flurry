import Flurry.Lemmas.BinGEmbed
/-! # Proto/BinG in Proto/BinGN: every transition of BinG's normal form is a transition of BinGN's between the images

The sub-relations (`move_emb`, `bmove_emb`, `fin_emb`, `bfin_emb`, `kmove_emb`, `kbmove_emb`), `emb` through the
successor states of the stores (`emb_finish`, `emb_storeAt`, `emb_unlinkOf`, `emb_untreeifyOf`, `xsplitOf_emb`, the
resizer's stores into its three cells `emb_putLow`, `emb_putHigh`, `emb_putMoved`), and the assembly `sim`: one
transition of BinGN for every constructor of `BinG.StepN` but two. The start of the resize
(`stepN_resizeStart_emb`) and the commit (`stepN_xcommit_emb`) are two transitions of BinGN each: BinGN allocates
the generation before it picks a cell, and finds every cell forwarded before it commits (BinG's `xCommit` is
BinGN's `xNext` in that state). What `sim` needs of the state it takes as hypotheses about the acting thread: the
new cells read `empty` before the resize (`NewOK`) and are never forwarded, a thread works in the new table only
once the resize has allocated it, and the resizer works while the pointer is at the old table and `resizing` is set. -/
namespace Flurry.Proto.BinGE
open Flurry.Lin
open Flurry.Proto.BinG (Tab Cid)

variable {s : BinG.State} {t : Nat} {p : BinK.Pending} {pc pc' : BinG.Pc} {hp : List BinK.NodeS}
  {tb : List BinK.TBin} {res : KRes}

theorem afterLock_emb (tab : Tab) (b : Nat) (k : BinK.After) (res : KRes) :
    embPc (BinG.afterLock tab b k res) = BinGN.afterLock (tabIx tab) b k res := by
  cases k <;> rfl

theorem move_emb {s : BinG.State} (hn : NewOK s) (hnm : s.lowCell ≠ .moved ∧ s.highCell ≠ .moved)
    {t : Nat} {p : BinK.Pending} {pc pc' : BinG.Pc} {hp : List BinK.NodeS}
    (hm : BinG.Move s t p pc pc' hp) : BinGNP.Move (emb s) t p (embPc pc) (embPc pc') hp := by
  have co : ∀ tab k, BinGN.cellOf (emb s) (tabIx tab) k = BinG.cellOf s tab k := cellOf_emb hn
  have new := new_ne_moved hnm
  cases hm with
  | rCellMoved h =>
    rename_i lo tab
    cases tab with
    | old => exact .rCellMoved (g := 0) (by rw [← h]; exact co .old _)
    | new => exact absurd h (new _)
  | wCellMoved h =>
    rename_i tab
    cases tab with
    | old => exact .wCellMoved (g := 0) (by rw [← h]; exact co .old _)
    | new => exact absurd h (new _)
  | rCellTree h => rename_i lo tab b; cases lo <;> exact .rCellTree (by rw [co]; exact h)
  | findInsert h1 h2 => exact .findInsert h1 h2
  | findRemove h1 h2 => exact .findRemove h1 h2
  | findVal h1 h2 => exact .findVal h1 h2
  | findDone h => exact .findDone h
  -- every other constructor is the one of the same name, its premise about a cell goes through `cellOf_emb`
  | _ => first
    | exact BinGNP.Move.rTable | exact BinGNP.Move.wTable
    | (constructor <;> first | (rw [co]; assumption) | assumption)
    | constructor

theorem bmove_emb (hm : BinG.BMove s t p pc pc' tb) : BinGNP.BMove (emb s) t p (embPc pc) (embPc pc') tb := by
  cases hm with
  | lrTryOk h1 h2 h3 => rw [afterLock_emb]; exact .lrTryOk h1 h2 h3
  | lrLoopOk h1 h2 => rw [afterLock_emb]; exact .lrLoopOk h1 h2
  | rCasOk h1 h2 h3 => exact .rCasOk h1 h2 h3
  | rRelVal h => exact .rRelVal h
  | tMutex h => exact .tMutex h
  | lrLoopWait h => exact .lrLoopWait h
  | unlockRoot => exact .unlockRoot
  | tUnlockMRetry => exact .tUnlockMRetry

theorem fin_emb (hn : NewOK s) (hf : BinG.Fin s p pc res hp) : BinGNP.Fin (emb s) p (embPc pc) res hp := by
  cases hf with
  | rCellEmpty h => exact .rCellEmpty (by rw [cellOf_emb hn]; exact h)
  | wCellEmpty h h' => exact .wCellEmpty (by rw [cellOf_emb hn]; exact h) h'
  | rNodeMiss => exact .rNodeMiss
  | rNodeHit h1 h2 => exact .rNodeHit h1 h2
  | rMiss => exact .rMiss
  | rLinHas h1 h2 h3 => exact .rLinHas h1 h2 h3
  | rVal h => exact .rVal h
  | lMiss => exact .lMiss
  | lHas h1 h2 h3 => exact .lHas h1 h2 h3
  | wUnlockFin => exact .wUnlockFin

theorem bfin_emb (hf : BinG.BFin s p pc res tb) : BinGNP.BFin (emb s) p (embPc pc) res tb := by
  cases hf with
  | rRelNone => exact .rRelNone
  | rRelHas h => exact .rRelHas h
  | tUnlockMFin => exact .tUnlockMFin

theorem cell0_emb (hn : NewOK s) (hc : s.cur = .old) : BinGNP.cellAt (emb s) ((emb s).cur, 0) = s.cell0 := by
  rw [emb_cur_old hc]
  exact cellAt_emb hn .c0

/-- the treeify thread works in the table it loaded, the resizing thread in the old table while the pointer is there -/
theorem kmove_emb (hn : NewOK s) (hnm : s.lowCell ≠ .moved ∧ s.highCell ≠ .moved)
    (hx : BinG.xPc pc = true → s.cur = .old)
    (hm : BinG.KMove s t pc pc' hp) : BinGNP.KMove (emb s) t (embPc pc) (embPc pc') hp := by
  have co : ∀ tab k, BinGN.cellOf (emb s) (tabIx tab) k = BinG.cellOf s tab k := cellOf_emb hn
  have c0 : BinG.xPc pc = true → BinGNP.cellAt (emb s) ((emb s).cur, 0) = s.cell0 := fun h => cell0_emb hn (hx h)
  cases hm with
  | kTable => exact .kTable
  | kCellList h => exact .kCellList (by rw [co]; exact h)
  | kCellMoved h =>
    rename_i tab k
    cases tab with
    | old => exact .kCellMoved (g := 0) (by rw [← h]; exact co .old _)
    | new => exact absurd h (new_ne_moved hnm _)
  | kCellOther h1 h2 => exact .kCellOther (by rw [co]; exact h1) (by rw [co]; exact h2)
  | kLock h1 h2 => exact .kLock h1 h2
  | kCheckOk h => exact .kCheckOk (by rw [co]; exact h)
  | kCheckFail h => exact .kCheckFail (by rw [co]; exact h)
  | kUnlock => exact .kUnlock
  | xCellEmpty h => exact .xCellEmpty (by rw [c0 rfl]; exact h)
  | xCellList h => exact .xCellList (by rw [c0 rfl]; exact h)
  | xCellTree h => exact .xCellTree (by rw [c0 rfl]; exact h)
  | xCellMoved h => exact .xCellMoved (by rw [c0 rfl]; exact h)
  | xCasFail h => exact .xCasFail (by rw [c0 rfl]; exact h)
  | xLock h1 h2 => exact .xLock h1 h2
  | xCheckOk h => exact .xCheckOk (by rw [c0 rfl]; exact h)
  | xCheckFail h => exact .xCheckFail (by rw [c0 rfl]; exact h)
  | yCheckOk h => exact .yCheckOk (by rw [c0 rfl]; exact h)
  | xUnlockL => exact .xUnlockL

theorem kbmove_emb (hn : NewOK s) (hx : BinG.xPc pc = true → s.cur = .old)
    (hm : BinG.KBMove s t pc pc' tb) : BinGNP.KBMove (emb s) t (embPc pc) (embPc pc') tb := by
  cases hm with
  | yMutex h => exact .yMutex h
  | yCheckFail h => exact .yCheckFail (by rw [cell0_emb hn (hx rfl)]; exact h)
  | xUnlockT => exact .xUnlockT

theorem emb_finish (s : BinG.State) (t : Nat) (p : BinK.Pending) (res : KRes) :
    emb (BinG.finish s t p res) = BinGN.finish (emb s) t p res := by
  unfold BinG.finish BinGN.finish
  rw [show BinGN.setT (emb s) t { pc := .idle, call := none } = emb (BinG.setT s t { pc := .idle, call := none }) from
    (emb_setT s t { pc := .idle, call := none }).symm]
  rfl

theorem emb_setCell_heap (s : BinG.State) (hp : List BinK.NodeS) (tab : Tab) (k : Nat) (c : BinG.Cell)
    (h : tab = .new → s.resizing = true) :
    emb (BinG.setCell { s with heap := hp } tab k c) = BinGN.setCell { emb s with heap := hp } (tabIx tab) k c :=
  emb_setCell (s := { s with heap := hp }) tab k c h

theorem emb_storeAt (s : BinG.State) (tab : Tab) (p : BinK.Pending) (pred hit hnext : Option Nat)
    (h : tab = .new → s.resizing = true) :
    BinGN.storeAt (emb s) (tabIx tab) p pred hit hnext =
      (emb (BinG.storeAt s tab p pred hit hnext).1, (BinG.storeAt s tab p pred hit hnext).2) := by
  obtain ⟨key, op, inv⟩ := p
  unfold BinGN.storeAt BinG.storeAt
  cases op <;> cases hit <;> cases pred <;> first
    | rfl
    | exact Prod.ext (emb_setCell_heap s _ tab key _ h).symm rfl
    | exact Prod.ext (emb_setCell (s := s) tab key _ h).symm rfl

theorem emb_unlinkOf (s : BinG.State) (b i : Nat) : emb (BinG.unlinkOf s b i) = BinGNP.unlinkOf (emb s) b i := by
  unfold BinGNP.unlinkOf BinG.unlinkOf
  rw [show BinGN.chainOfBin (emb s) b = BinG.chainOfBin s b from rfl]
  cases BinK.predOf (BinG.chainOfBin s b) i <;> rfl

theorem emb_untreeifyOf (s : BinG.State) (tab : Tab) (k b : Nat) (h : tab = .new → s.resizing = true) :
    emb (BinG.untreeifyOf s tab k b) = BinGNP.untreeifyOf (emb s) (tabIx tab) k b := by
  unfold BinGNP.untreeifyOf BinG.untreeifyOf
  exact emb_setCell_heap s _ tab k _ h

/-- the split bit of generation 0 is the bit that separates the two new cells -/
theorem xsplitOf_emb (hc : s.cur = .old) (h : Nat) : BinGNP.xsplitOf (emb s) h = BinG.xsplitOf s h := by
  unfold BinGNP.xsplitOf BinG.xsplitOf
  rw [emb_cur_old hc,
    show BinGN.bitAt 0 = BinG.hiBit from funext bitAt_zero, BinGN.splitBinB_hiBit]
  rfl

theorem emb_putLow (hr : s.resizing = true) (hc : s.cur = .old) (c : BinG.Cell) :
    emb { s with lowCell := c } = BinGN.putCell (emb s) ((emb s).cur + 1) 0 c := by
  rw [emb_cur_old hc]
  unfold emb BinGN.putCell
  simp only [hr]; rfl

theorem emb_putHigh (hr : s.resizing = true) (hc : s.cur = .old) (c : BinG.Cell) :
    emb { s with highCell := c } = BinGN.putCell (emb s) ((emb s).cur + 1) (0 + 2 ^ (emb s).cur) c := by
  rw [emb_cur_old hc]
  unfold emb BinGN.putCell
  simp only [hr]; rfl

theorem emb_putMoved (hc : s.cur = .old) :
    emb { s with cell0 := .moved } = BinGN.putCell (emb s) (emb s).cur 0 .moved := by
  rw [emb_cur_old hc]
  unfold emb BinGN.putCell
  cases s.resizing <;> rfl

/-- every transition of BinG's normal form but the start of the resize and the commit is ONE transition of BinGN's
between the images. `hx`, `htn` speak of the acting thread: the resizer works while the pointer is at the old table
and `resizing` is set, and a thread works in the new table only once the resize has allocated it. The second and the
third disjunct name the two exceptions by their successor states: they are `stepN_resizeStart_emb`, `stepN_xcommit_emb`. -/
theorem sim {s s' : BinG.State} {t : Nat} {l : BinG.Local} (hn : NewOK s)
    (hnm : s.lowCell ≠ .moved ∧ s.highCell ≠ .moved)
    (hx : BinG.xPc l.pc = true → s.cur = .old ∧ s.resizing = true)
    (htn : BinG.tabOf l.pc = some .new → s.resizing = true) (h : BinG.StepN s t l s') :
    BinGNP.StepN (emb s) t (embL l) (emb s') ∨
    (l.pc = .idle ∧ s.resizing = false ∧
      s' = { (BinG.setT (BinG.tick s) t { l with pc := .xCell }) with resizing := true }) ∨
    (l.call = none ∧ l.pc = .xCommit ∧ s' = { (BinG.setT (BinG.tick s) t { l with pc := .idle }) with cur := .new }) := by
  have epc : ∀ {pc : BinG.Pc}, l.pc = pc → (embL l).pc = embPc pc := fun e => by show embPc l.pc = _; rw [e]
  have hxc := fun e => (hx e).1
  cases h with
  | resizeStart hpc hr => exact .inr (.inl ⟨hpc, hr, rfl⟩)
  | xcommit hc hpc => exact .inr (.inr ⟨hc, hpc, rfl⟩)
  | idle hpc => refine .inl ?_; rw [emb_setT]; exact .idle (epc hpc)
  | maint k hpc => refine .inl ?_; rw [emb_setT]; exact .maint k (epc hpc)
  | invoke k op lo hpc =>
    refine .inl ?_
    rw [emb_setT]
    have key := BinGNP.StepN.invoke (s := emb s) (t := t) k op lo (epc hpc)
    revert key; cases BinK.isReader op <;> exact id
  | move p pc' hp hc hm => refine .inl ?_; rw [emb_setT, emb_qst]; exact .move p _ hp hc (move_emb hn hnm hm)
  | bmove p pc' tb hc hm => refine .inl ?_; rw [emb_setT, emb_qst]; exact .bmove p _ tb hc (bmove_emb hm)
  | kmove pc' hp hc hm => refine .inl ?_; rw [emb_setT, emb_qst]; exact .kmove _ hp hc (kmove_emb hn hnm hxc hm)
  | kbmove pc' tb hc hm => refine .inl ?_; rw [emb_setT, emb_qst]; exact .kbmove _ tb hc (kbmove_emb hn hxc hm)
  | fin p res hp hc hf => refine .inl ?_; rw [emb_finish, emb_qst]; exact .fin p res hp hc (fin_emb hn hf)
  | bfin p res tb hc hf => refine .inl ?_; rw [emb_finish, emb_qst]; exact .bfin p res tb hc (bfin_emb hf)
  | cas p tab v vi hc hpc he hop =>
    refine .inl ?_
    have hnew : tab = .new → s.resizing = true := fun e => htn (by rw [hpc, e]; rfl)
    rw [emb_finish, emb_setCell (s := BinG.qst s _ s.tbins) tab _ _ hnew, emb_qst]
    exact .cas p (tabIx tab) v vi hc (epc hpc) (by rw [cellOf_emb hn]; exact he) hop
  | store p tab h pred hit hnext hc hpc =>
    refine .inl ?_
    have hnew : tab = .new → s.resizing = true := fun e => htn (by rw [hpc, e]; rfl)
    have key := BinGNP.StepN.store (s := emb s) (t := t) p (tabIx tab) h pred hit hnext hc (epc hpc)
    rw [show BinGNP.tick (emb s) = emb (BinG.tick s) from rfl, emb_storeAt (BinG.tick s) tab p pred hit hnext hnew] at key
    rw [emb_setT]; exact key
  | tval p tab b i v res hc hpc => refine .inl ?_; rw [emb_setT]; exact .tval p (tabIx tab) b i v res hc (epc hpc)
  | prepend p tab b v vi hc hpc hop =>
    refine .inl ?_; rw [emb_setT]; exact .prepend p (tabIx tab) b v vi hc (epc hpc) hop
  | treeLink p tab b x hc hpc => refine .inl ?_; rw [emb_setT]; exact .treeLink p (tabIx tab) b x hc (epc hpc)
  | unlink p tab b i res small hc hpc =>
    refine .inl ?_
    rw [emb_setT, emb_unlinkOf]
    have key := BinGNP.StepN.unlink (s := emb s) (t := t) p (tabIx tab) b i res small hc (epc hpc)
    cases small <;> exact key
  | untree p tab b i res hc hpc => refine .inl ?_; rw [emb_setT]; exact .untree p (tabIx tab) b i res hc (epc hpc)
  | untreeify p tab b res hc hpc =>
    refine .inl ?_
    have hnew : tab = .new → s.resizing = true := fun e => htn (by rw [hpc, e]; rfl)
    rw [emb_setT, emb_untreeifyOf (BinG.tick s) tab p.key b hnew]
    exact .untreeify p (tabIx tab) b res hc (epc hpc)
  | kbuild tab k h hc hpc => refine .inl ?_; rw [emb_setT]; exact .kbuild (tabIx tab) k h hc (epc hpc)
  | kstore tab k h b hc hpc =>
    refine .inl ?_
    rw [emb_setT, emb_setCell (s := BinG.tick s) tab k _ (fun e => htn (by rw [hpc, e]; rfl))]
    exact .kstore (tabIx tab) k h b hc (epc hpc)
  | xcasMoved hc hpc h0 =>
    refine .inl ?_
    have hcur := hxc (by rw [hpc]; rfl)
    rw [emb_putMoved (s := BinG.setT (BinG.tick s) t _) hcur, emb_setT]
    exact .xcasMoved 0 hc (epc hpc) (by rw [cell0_emb hn hcur]; exact h0)
  | xbuild h hc hpc =>
    refine .inl ?_
    have key := BinGNP.StepN.xbuild (s := emb s) (t := t) 0 h hc (epc hpc)
    rw [xsplitOf_emb (hxc (by rw [hpc]; rfl))] at key
    rw [emb_setT, emb_qst]; exact key
  | ybuild b small small2 hc hpc =>
    refine .inl ?_
    have key := BinGNP.StepN.ybuild (s := emb s) (t := t) 0 b small small2 hc (epc hpc)
    rw [show BinGNP.tick (emb s) = emb (BinG.tick s) from rfl, ysplitOf_emb (s := BinG.tick s) (hxc (by rw [hpc]; rfl))] at key
    rw [emb_setT]; exact key
  | xstoreLow unl lo hi hc hpc =>
    refine .inl ?_
    obtain ⟨hcur, hr⟩ := hx (by rw [hpc]; rfl)
    rw [emb_putLow (s := BinG.setT (BinG.tick s) t _) hr hcur, emb_setT]
    exact .xstoreLow 0 unl lo hi hc (epc hpc)
  | xstoreHigh unl hi hc hpc =>
    refine .inl ?_
    obtain ⟨hcur, hr⟩ := hx (by rw [hpc]; rfl)
    rw [emb_putHigh (s := BinG.setT (BinG.tick s) t _) hr hcur, emb_setT]
    exact .xstoreHigh 0 unl hi hc (epc hpc)
  | xstoreMoved unl hc hpc =>
    refine .inl ?_
    rw [emb_putMoved (s := BinG.setT (BinG.tick s) t _) (hxc (by rw [hpc]; rfl)), emb_setT]
    exact .xstoreMoved 0 unl hc (epc hpc)

/-- the start of the resize: two steps of BinGN, and the clock of BinGN is then one tick ahead -/
theorem stepN_resizeStart_emb {s : BinG.State} {t : Nat} {l : BinG.Local} (hl : s.threads[t]? = some l)
    (hpc : l.pc = .idle) (hcall : l.call = none) (hr : s.resizing = false)
    (hc0 : s.cur = .old) (hn : NewOK s) (hm : s.cell0 ≠ .moved) :
    ∃ mid u, BinGNP.StepN (emb s) t (embL l) mid ∧ mid.threads[t]? = some { embL l with pc := .xNext } ∧
      BinGNP.StepN mid t { embL l with pc := .xNext } u ∧
      u = { emb ({ (BinG.setT (BinG.tick s) t { l with pc := .xCell }) with resizing := true }) with now := s.now + 2 } := by
  obtain ⟨h1, h2⟩ := hn hr
  have hcur := emb_cur_old hc0
  have hnot : BinGN.allMoved
      { (BinGN.setT (BinGNP.tick (emb s)) t { embL l with pc := .xNext }) with
        resizing := true, tabs := (emb s).tabs ++ [List.replicate (2 ^ ((emb s).cur + 1)) .empty] } (emb s).cur = false := by
    rw [hcur]
    unfold BinGN.allMoved emb
    simp [hr, hm]
  refine ⟨_, _, BinGNP.StepN.resizeStart (by show embPc l.pc = _; rw [hpc]; rfl)
    (by show (s.resizing && _) = false; rw [hr]; rfl),
    Flurry.Shared.get_set_self (emb_get hl),
    BinGNP.StepN.kmove (.xCell (0 % 2 ^ (emb s).cur)) _ hcall (BinGNP.KMove.xNextCell (pick := 0) hnot), ?_⟩
  unfold emb BinG.setT BinGN.setT BinGNP.qst BinGNP.tick BinG.tick
  simp [hr, hc0, h1, h2, List.map_set, embL, embPc, tabIx]

/-- the commit: BinGN's resizer first finds every cell of the generation forwarded, then commits; its clock is then
one tick ahead -/
theorem stepN_xcommit_emb {s : BinG.State} {t : Nat} {l : BinG.Local} (hl : s.threads[t]? = some l)
    (hc : l.call = none) (hpc : l.pc = .xCommit) (hcur : s.cur = .old) (hr : s.resizing = true) (hm : s.cell0 = .moved) :
    ∃ mid u, BinGNP.StepN (emb s) t (embL l) mid ∧ mid.threads[t]? = some { embL l with pc := .xCommit } ∧
      BinGNP.StepN mid t { embL l with pc := .xCommit } u ∧
      u = { emb ({ (BinG.setT (BinG.tick s) t { l with pc := .idle }) with cur := .new }) with now := s.now + 2 } := by
  have hall : BinGN.allMoved (emb s) (emb s).cur = true := by
    rw [emb_cur_old hcur]
    unfold BinGN.allMoved emb
    simp [hr, hm]
  have h1 : (embL l).pc = .xNext := by show embPc l.pc = _; rw [hpc]; rfl
  have k1 := BinGNP.StepN.kmove (s := emb s) (t := t) (l := embL l) .xCommit (emb s).heap hc (h1 ▸ BinGNP.KMove.xNextCommit hall)
  refine ⟨_, _, k1,
    Flurry.Shared.get_set_self (emb_get hl),
    BinGNP.StepN.xcommit hc rfl, ?_⟩
  unfold emb BinG.setT BinGN.setT BinGNP.qst BinGNP.tick BinG.tick
  simp [hr, hcur, List.map_set, embL, embPc, tabIx]

end Flurry.Proto.BinGE
