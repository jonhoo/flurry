import Flurry.Lemmas.BinNAAbs
/-! # Proto/BinNA: the extended history and the ghost invariant (C01, C10)

For a fixed key `k`: `A τ` = abstract state of `k` after global step `τ`, `pt i` = linearization point
of the call invoked at time `i` (`Lemmas/GhostSig.lean`; no hindsight is needed here because a reader obtains
the whole bin with one load).

`callsOnExt`: the completed calls plus the calls of writers that have stored and only have to unlock, which is
the extended history of `Lemmas/GhostView.lean` for `view` (`callsOnExt_eq`). `GInv`, the ghost invariant, has the
fields of `GhostView.Trace Lin.sig` one for one, and `CallOK` is `GhostView.CallOK Lin.sig` unfolded (both of
`Lemmas/GhostSig.lean`): the proofs convert at once with `GInv.trace` / `GInv.of_trace` and work on the generic structure. -/
namespace Flurry.Proto.BinNA
open Flurry.Lin

theorem isReader_eq_isRead (op : KOp) : isReader op = isRead op := by cases op <;> rfl

/-- the call of a writer that has stored and only has to unlock, counted as responding at `now` -/
def extOf (k now t : Nat) (l : Local) : Option Call :=
  match l.pc, l.call with
  | .wUnlock _ res false, some p => if p.key = k then some ⟨t, p.op, res, p.inv, now⟩ else none
  | _, _ => none

def extCalls (s : State) (k : Nat) : History :=
  (List.range s.threads.length).filterMap (fun t => (s.threads[t]?).bind (extOf k s.now t))

/-- the completed calls on key `k`, plus the calls of writers that have already performed their
store and only have to unlock (they are counted as responding "now") -/
def callsOnExt (s : State) (k : Nat) : History := callsOn s k ++ extCalls s k

theorem extOf_eq (k now t : Nat) (l : Local) : extOf k now t l = GhostView.extOf Lin.sig view k now t l := by
  obtain ⟨pc, call⟩ := l
  unfold extOf GhostView.extOf
  cases call <;> cases pc <;> first | rfl | (rename_i retry; cases retry <;> rfl)

theorem callsOnExt_eq (s : State) (k : Nat) :
    callsOnExt s k = GhostView.callsOnExt Lin.sig view s.hist s.threads k s.now := by
  have : extOf k s.now = fun t l => GhostView.extOf Lin.sig view k s.now t l :=
    funext fun t => funext fun l => extOf_eq k s.now t l
  unfold callsOnExt extCalls; rw [this]; rfl

theorem callsOnExt_quiescent {s : State} (hq : quiescent s) (k : Nat) : callsOnExt s k = callsOn s k := by
  rw [callsOnExt_eq]; exact GhostView.callsOnExt_quiescent k s.now (fun l hl => congrArg resOfPc (hq l hl))

/-- the call has a linearization point in its interval at which the trace `A` justifies it -/
def CallOK (A : Nat → KSt) (pt : Nat → Nat) (c : Call) : Prop :=
  c.inv ≤ pt c.inv ∧ pt c.inv ≤ c.resp ∧
  (isRead c.op = true → specStep (A (pt c.inv)) c.op = (A (pt c.inv), c.res)) ∧
  (isRead c.op = false → 1 ≤ pt c.inv ∧ specStep (A (pt c.inv - 1)) c.op = (A (pt c.inv), c.res))

structure GInv (k : Nat) (s : State) (A : Nat → KSt) (pt : Nat → Nat) : Prop where
  h0 : A 0 = none
  hA : A s.now = absOf s k
  calls : ∀ c ∈ callsOnExt s k, CallOK A pt c
  stab : ∀ τ, 1 ≤ τ → τ ≤ s.now → A τ ≠ A (τ - 1) →
    ∃ c ∈ callsOnExt s k, isRead c.op = false ∧ pt c.inv = τ
  inj : ∀ c ∈ callsOnExt s k, ∀ d ∈ callsOnExt s k, isRead c.op = false → isRead d.op = false →
    pt c.inv = pt d.inv → c.inv = d.inv

theorem GInv.trace {k : Nat} {s : State} {A : Nat → KSt} {pt : Nat → Nat} (g : GInv k s A pt) :
    GhostView.Trace Lin.sig (GhostView.callsOnExt Lin.sig view s.hist s.threads k s.now) s.now (absOf s k) A pt := by
  rw [← callsOnExt_eq]; exact ⟨g.h0, g.hA, g.calls, g.stab, g.inj⟩

theorem GInv.of_trace {k : Nat} {s : State} {A : Nat → KSt} {pt : Nat → Nat}
    (tr : GhostView.Trace Lin.sig (GhostView.callsOnExt Lin.sig view s.hist s.threads k s.now) s.now (absOf s k) A pt) :
    GInv k s A pt := by
  rw [← callsOnExt_eq] at tr; exact ⟨tr.h0, tr.hA, tr.calls, tr.stab, tr.inj⟩

end Flurry.Proto.BinNA
