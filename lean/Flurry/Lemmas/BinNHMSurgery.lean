import Flurry.Lemmas.BinNHMSurgeryDefs
/-! # Proto/BinN and Proto/BinNH: the generic surgery on the chain of an active cell (C01, C10)

`hinv_update` / `heapStep_update`: a store into the chain of an *active* cell does not affect the other
chains — nor the cell that is being split and its two new lists (`HInv.mid_key`, `HInv.mid_disjoint`):
writers go on in the other cells while the resizing thread is between its split and the store of the
forwarding marker. The stores themselves: `swap_effect` (a value), `append_effect`, `cas_effect` (the first node of
an empty bin), `unlink_mid_effect`, `unlink_head_effect`, `noop_effect`. -/
namespace Flurry.Proto.BinNHM
open Flurry.Proto.BinN
open Flurry.Lin
open Flurry.Proto.BinX (chainH_eq nextOK_modify_same nextOK_append nextOK_modify_next NodeS Cell Pending dflt chainFrom cellHead cellOfHead nodeAt nodeAt_eq nodeAt_of_some
  getElem?_nodeAt nodeAt_modify nodeAt_append_left nodeAt_append_new IsSeg IsChain chainH chainH_empty
  chainH_moved absIn absIn_same absIn_swap absIn_append absIn_unlink KeysDistinct cellHead_cellOfHead
  cellOfHead_ne_moved isChain_append_node isChain_unlink)

theorem SideOK.congr {bit : Nat → Bool} {heap heap' : List NodeS} {cr : CR} {fr : Nat × Nat} {O X : List Nat} {b : Bool}
    (h : SideOK bit heap cr fr O b X) (hO : ∀ i ∈ O, nodeAt heap' i = nodeAt heap i)
    (hX : ∀ i ∈ X, nodeAt heap' i = nodeAt heap i) : SideOK bit heap' cr fr O b X := BinN.SideOK.congr h hO hX

theorem Split.congr {bit : Nat → Bool} {heap heap' : List NodeS} {cr : CR} {fr : Nat × Nat} {O : List Nat}
    {lo hg : Option Nat} (h : Split bit heap cr fr O lo hg) (hlen : heap.length ≤ heap'.length)
    (hsame : ∀ L Hh, IsChain heap lo L → IsChain heap hg Hh → ∀ i, (i ∈ O ∨ i ∈ L ∨ i ∈ Hh) →
      nodeAt heap' i = nodeAt heap i) : Split bit heap' cr fr O lo hg := BinN.Split.congr h hlen hsame

/-- every node of the cell being split and of its two new lists holds a key of that cell -/
theorem HInv.mid_key {s : State} {G : Ghost} (H : HInv s G) {j : Nat} {lo hg : Option Nat} {fr : Nat × Nat}
    (hm : G.mid j = some (lo, hg, fr)) {i : Nat}
    (hi : i ∈ chId s (s.cur, j) ∨ i ∈ chainH s.heap (cellOfHead lo) ∨ i ∈ chainH s.heap (cellOfHead hg)) :
    (nodeAt s.heap i).key % 2 ^ s.cur = j ∧ i < s.heap.length := by
  obtain ⟨hL, hH, sL, sH⟩ := H.mid_facts hm
  have hO : ∀ i ∈ chId s (s.cur, j), (nodeAt s.heap i).key % 2 ^ s.cur = j := fun i hi => H.side (s.cur, j) i hi
  have hX : ∀ b X, SideOK (bitAt s.cur) s.heap G.cr fr (chId s (s.cur, j)) b X → ∀ i ∈ X,
      (nodeAt s.heap i).key % 2 ^ s.cur = j := by
    intro b X sX i hi
    rcases sX.mem i hi with h | h
    · exact hO i h
    · obtain ⟨i0, hi0, hk, -⟩ := sX.src i hi h
      rw [← hk]; exact hO i0 hi0
  rcases hi with hi | hi | hi
  · exact ⟨hO i hi, H.chain_lt hi⟩
  · exact ⟨hX _ _ sL i hi, hL.lt_length i hi⟩
  · exact ⟨hX _ _ sH i hi, hH.lt_length i hi⟩

/-- an active cell is neither the cell being split nor one of its children -/
theorem Active.ne_mid {s : State} {G : Ghost} {id : CellId} (H : HInv s G) (act : Active s G id) {j : Nat}
    {lo hg : Option Nat} {fr : Nat × Nat} (hm : G.mid j = some (lo, hg, fr)) :
    id ≠ (s.cur, j) ∧ id ≠ (s.cur + 1, j) ∧ id ≠ (s.cur + 1, j + 2 ^ s.cur) ∧
      ¬ (id.1 = s.cur + 1 ∧ id.2 % 2 ^ s.cur = j) := by
  obtain ⟨hj, ⟨h, hn⟩, -⟩ := H.mid j lo hg _ hm
  have hmi := isMid_of hm
  obtain ⟨g, x⟩ := id
  have key : ¬ (g = s.cur + 1 ∧ x % 2 ^ s.cur = j) := by
    rintro ⟨hg1, hx⟩
    rcases act with ⟨hg2, -⟩ | ⟨-, -, hpar⟩
    · simp only at hg2; omega
    · simp only at hpar
      rw [hx, hn] at hpar; cases hpar
  refine ⟨?_, ?_, ?_, key⟩
  · intro e
    cases e
    rcases act with ⟨-, -, -, hmid⟩ | ⟨hg2, -⟩
    · exact hmid hmi
    · simp only at hg2; omega
  · intro e
    cases e
    exact key ⟨rfl, Nat.mod_eq_of_lt hj⟩
  · intro e
    cases e
    exact key ⟨rfl, high_mod j s.cur hj⟩

/-- the chain of an active cell shares no node with the cell being split and its two new lists -/
theorem HInv.mid_disjoint {s : State} {G : Ghost} {id : CellId} (H : HInv s G) (act : Active s G id) {j : Nat}
    {lo hg : Option Nat} {fr : Nat × Nat} (hm : G.mid j = some (lo, hg, fr)) {i : Nat}
    (hi : i ∈ chId s (s.cur, j) ∨ i ∈ chainH s.heap (cellOfHead lo) ∨ i ∈ chainH s.heap (cellOfHead hg)) :
    i ∉ chId s id := by
  intro hc
  have hk := (H.mid_key hm hi).1
  have hs := H.side id i hc
  obtain ⟨h1, -, -, h4⟩ := act.ne_mid H hm
  obtain ⟨g, x⟩ := id
  unfold keyOn at hs
  simp only at hs h4
  rcases act with ⟨hg1, -⟩ | ⟨hg1, -⟩
  · simp only at hg1
    subst hg1
    apply h1
    rw [← hs, hk]
  · simp only at hg1
    subst hg1
    apply h4
    refine ⟨rfl, ?_⟩
    rw [← keyOn_mod (Nat.le_succ s.cur) hs, hk]

theorem Update.chains {s s' : State} {G : Ghost} {id : CellId} {C' : List Nat} (H : HInv s G)
    (act : Active s G id) (u : Update s s' G id C') :
    chId s' id = C' ∧ ∀ id', id' ≠ id → chId s' id' = chId s id' := by
  refine ⟨chainH_eq u.nextOK u.chain, ?_⟩
  intro id' hne
  refine chainH_eq u.nextOK ?_
  rw [u.cell id' hne]
  refine isChain_congr_nodes (H.isChain id') u.len ?_
  intro j hj
  exact u.other j (H.chain_lt hj) (fun hm => H.disjoint act hne hm hj)

/-- an update of an active cell forwards no cell and un-forwards none -/
theorem Update.moved_iff {s s' : State} {G : Ghost} {id : CellId} {C' : List Nat} (S : Shape s)
    (act : Active s G id) (u : Update s s' G id C') (id' : CellId) :
    getCell s' id' = .moved ↔ getCell s id' = .moved := by
  by_cases hid : id' = id
  · subst hid
    exact ⟨fun h => absurd h u.notMoved, fun h => absurd h (act.notMoved S)⟩
  · rw [u.cell id' hid]

theorem Update.cellAt_moved_iff {s s' : State} {G : Ghost} {id : CellId} {C' : List Nat} (S : Shape s)
    (act : Active s G id) (u : Update s s' G id C') (g j : Nat) :
    cellAt s' g j = .moved ↔ cellAt s g j = .moved := u.moved_iff S act (g, j)

theorem Update.active_iff {s s' : State} {G : Ghost} {id : CellId} {C' : List Nat} (S : Shape s)
    (act : Active s G id) (u : Update s s' G id C') (id' : CellId) : Active s' G id' ↔ Active s G id' := by
  unfold Active
  have h1 : getCell s' id' ≠ .moved ↔ getCell s id' ≠ .moved := not_congr (u.moved_iff S act id')
  rw [u.cur, h1, u.cellAt_moved_iff S act]

theorem Update.liveId_eq {s s' : State} {G : Ghost} {id : CellId} {C' : List Nat} (H : HInv s G)
    (act : Active s G id) (u : Update s s' G id C') (k : Nat) : liveId s' k = liveId s k := by
  unfold liveId cellOf
  rw [u.cur]
  by_cases hm : cellAt s s.cur (k % 2 ^ s.cur) = .moved
  · rw [if_pos hm, if_pos ((u.cellAt_moved_iff H.shape act _ _).2 hm)]
  · rw [if_neg hm, if_neg (fun h => hm ((u.cellAt_moved_iff H.shape act _ _).1 h))]

theorem Update.shape {s s' : State} {G : Ghost} {id : CellId} {C' : List Nat} (S : Shape s)
    (act : Active s G id) (u : Update s s' G id C') : Shape s' := by
  have hmv := u.cellAt_moved_iff S act
  refine ⟨by rw [u.tlen, u.cur, u.resz]; exact S.len, ?_, ?_, ?_, ?_⟩
  · intro g row' hr'
    obtain ⟨row, hr, hl⟩ := u.rows g row' hr'
    rw [hl]; exact S.rows g row hr
  · intro g j hg hj
    rw [u.cur] at hg
    exact (hmv g j).2 (S.old g j hg hj)
  · intro j hm
    rw [u.cur] at hm
    exact S.nextNM j ((hmv _ j).1 hm)
  · intro j hm
    rw [u.cur] at hm
    rw [u.resz]
    exact S.curMoved j ((hmv _ j).1 hm)

/-- the nodes of the cell being split and of its two new lists are not touched -/
theorem Update.mid_same {s s' : State} {G : Ghost} {id : CellId} {C' : List Nat} (H : HInv s G)
    (act : Active s G id) (u : Update s s' G id C') {j : Nat} {lo hg : Option Nat} {fr : Nat × Nat}
    (hm : G.mid j = some (lo, hg, fr)) {i : Nat}
    (hi : i ∈ chId s (s.cur, j) ∨ i ∈ chainH s.heap (cellOfHead lo) ∨ i ∈ chainH s.heap (cellOfHead hg)) :
    nodeAt s'.heap i = nodeAt s.heap i :=
  u.other i (H.mid_key hm hi).2 (H.mid_disjoint act hm hi)

/-- the two new lists of the split are the same lists after the update -/
theorem Update.mid_lists {s s' : State} {G : Ghost} {id : CellId} {C' : List Nat} (H : HInv s G)
    (act : Active s G id) (u : Update s s' G id C') {j : Nat} {lo hg : Option Nat} {fr : Nat × Nat}
    (hm : G.mid j = some (lo, hg, fr)) :
    chainH s'.heap (cellOfHead lo) = chainH s.heap (cellOfHead lo) ∧
    chainH s'.heap (cellOfHead hg) = chainH s.heap (cellOfHead hg) := by
  obtain ⟨hL, hH, -, -⟩ := H.mid_facts hm
  constructor
  · refine chainH_eq u.nextOK ?_
    rw [cellHead_cellOfHead]
    exact isChain_congr_nodes hL u.len (fun i hi => u.mid_same H act hm (Or.inr (Or.inl hi)))
  · refine chainH_eq u.nextOK ?_
    rw [cellHead_cellOfHead]
    exact isChain_congr_nodes hH u.len (fun i hi => u.mid_same H act hm (Or.inr (Or.inr hi)))

theorem hinv_update {s s' : State} {G : Ghost} {id : CellId} {C' : List Nat} (H : HInv s G)
    (act : Active s G id) (u : Update s s' G id C') : HInv s' G := by
  obtain ⟨hC, hO⟩ := u.chains H act
  have hlen := u.len
  have S := H.shape
  have hmv := u.cellAt_moved_iff S act
  have hheads : ∀ id'' h, getCell s' id'' = .node h → h < s'.heap.length := by
    intro id'' h hc
    by_cases hid : id'' = id
    · subst hid
      have := u.chain
      rw [hc] at this
      cases hcc : C' with
      | nil => rw [hcc] at this; cases this
      | cons a l =>
        rw [hcc] at this
        obtain ⟨ha, n, hn, -⟩ := IsSeg.cons_iff.1 this
        cases ha
        exact (List.getElem?_eq_some_iff.1 hn).1
    · rw [u.cell id'' hid] at hc
      have := H.head id'' h hc
      omega
  have hnode : ∀ id'', id'' ≠ id → ∀ j ∈ chId s id'', nodeAt s'.heap j = nodeAt s.heap j := by
    intro id'' hne j hj
    exact u.other j (H.chain_lt hj) (fun hm => H.disjoint act hne hm hj)
  have hkeys : ∀ id'', KeysDistinct s'.heap (chId s' id'') := by
    intro id''
    by_cases hid : id'' = id
    · subst hid; rw [hC]; exact u.keys
    · rw [hO id'' hid]
      exact (H.keys id'').congr (fun j hj => by rw [hnode id'' hid j hj])
  have hside : ∀ id'', ∀ j ∈ chId s' id'', keyOn id'' (nodeAt s'.heap j).key := by
    intro id'' j hj
    by_cases hid : id'' = id
    · subst hid; rw [hC] at hj; exact u.side j hj
    · rw [hO id'' hid] at hj
      rw [hnode id'' hid j hj]
      exact H.side id'' j hj
  refine ⟨u.shape S act, u.nextOK, fun i hi => Nat.lt_of_lt_of_le (H.crLt i hi) hlen,
    (fun j lo hg fr hm => ⟨Nat.le_trans (H.frOK j lo hg fr hm).1 hlen, (H.frOK j lo hg fr hm).2⟩), hheads, hkeys, hside, ?_, ?_⟩
  · intro j' h1 h2
    rw [u.cur] at h1 h2 ⊢
    have h1' : cellAt s s.cur (j' % 2 ^ s.cur) ≠ .moved := fun h => h1 ((hmv _ _).2 h)
    have he := H.nextEmpty j' h1' h2
    have hne : ((s.cur + 1, j') : CellId) ≠ id := by
      intro e
      subst e
      rcases act with ⟨hg, -⟩ | ⟨-, -, hpar⟩
      · simp only at hg; omega
      · exact h1' hpar
    have := u.cell _ hne
    rw [getCell_mk, getCell_mk] at this
    rw [this]; exact he
  · intro j lo hg fr hm
    obtain ⟨hj, hn, hcl, hch, hsp⟩ := H.mid j lo hg _ hm
    obtain ⟨n1, n2, n3, -⟩ := act.ne_mid H hm
    have e1 := u.cell _ (Ne.symm n1)
    have e2 := u.cell _ (Ne.symm n2)
    have e3 := u.cell _ (Ne.symm n3)
    rw [getCell_mk, getCell_mk] at e1 e2 e3
    rw [u.cur, e1, e2, e3, hO _ (Ne.symm n1)]
    refine ⟨hj, hn, hcl, hch, hsp.congr hlen ?_⟩
    intro L Hh hL hH i hi
    have eL : chainH s.heap (cellOfHead lo) = L := chainH_eq H.nextOK (by rw [cellHead_cellOfHead]; exact hL)
    have eH : chainH s.heap (cellOfHead hg) = Hh := chainH_eq H.nextOK (by rw [cellHead_cellOfHead]; exact hH)
    rw [← eL, ← eH] at hi
    exact u.mid_same H act hm hi

theorem Update.LC_eq {s s' : State} {G : Ghost} {id : CellId} {C' : List Nat} (H : HInv s G)
    (act : Active s G id) (u : Update s s' G id C') (k : Nat) :
    LC s' k = if liveId s k = id then C' else LC s k := by
  have H' := hinv_update H act u
  obtain ⟨hC, hO⟩ := u.chains H act
  rw [H'.LC_eq, H.LC_eq, u.liveId_eq H act]
  split
  · rename_i h; rw [h, hC]
  · rename_i h; rw [hO _ h]

theorem heapStep_update {s s' : State} {G : Ghost} {id : CellId} {C' : List Nat} (H : HInv s G)
    (act : Active s G id) (u : Update s s' G id C')
    (hsub : ∀ j ∈ C', j ∈ chId s id ∨ s.heap.length ≤ j)
    (hkey : ∀ j, j < s.heap.length → (nodeAt s'.heap j).key = (nodeAt s.heap j).key)
    (hunl : ∀ c ∈ chId s id, c ∉ C' → (nodeAt s'.heap c).val = (nodeAt s.heap c).val ∧
      (nodeAt s'.heap c).next = (nodeAt s.heap c).next ∧ ∀ j ∈ chId s id, j ≠ c → j ∈ C') :
    HeapStep s s' G G := by
  obtain ⟨hC, hO⟩ := u.chains H act
  -- dead nodes stay dead
  have hdead : ∀ j, j < s.heap.length → (j ∈ chId s id → j ∉ C') → (∀ id', id' ≠ id → j ∉ chId s id') →
      (∀ x lo hg fr, G.mid x = some (lo, hg, fr) → j ∉ chainH s.heap (cellOfHead lo) ∧ j ∉ chainH s.heap (cellOfHead hg)) →
      ¬ Live s' G j := by
    intro j hj h1 h2 h3
    rintro (⟨id', hm⟩ | ⟨x, lo, hg, fr, hmid, hm⟩)
    · by_cases hid : id' = id
      · subst hid
        rw [hC] at hm
        rcases hsub j hm with h | h
        · exact h1 h hm
        · omega
      · rw [hO id' hid] at hm
        exact h2 id' hid hm
    · obtain ⟨e1, e2⟩ := u.mid_lists H act hmid
      rw [e1, e2] at hm
      obtain ⟨n1, n2⟩ := h3 x lo hg fr hmid
      rcases hm with hm | hm
      · exact n1 hm
      · exact n2 hm
  -- a node of the updated chain is on neither of the two new lists
  have hmidC : ∀ c ∈ chId s id, ∀ x lo hg fr, G.mid x = some (lo, hg, fr) →
      c ∉ chainH s.heap (cellOfHead lo) ∧ c ∉ chainH s.heap (cellOfHead hg) := by
    intro c hc x lo hg fr hmid
    exact ⟨fun h => H.mid_disjoint act hmid (Or.inr (Or.inl h)) hc,
      fun h => H.mid_disjoint act hmid (Or.inr (Or.inr h)) hc⟩
  have hunlC : ∀ c, c ∈ chId s id → c ∉ C' →
      (nodeAt s'.heap c).val = (nodeAt s.heap c).val ∧ (nodeAt s'.heap c).next = (nodeAt s.heap c).next ∧
      ¬ Live s' G c := by
    intro c hc1 hc2
    obtain ⟨h1, h2, -⟩ := hunl c hc1 hc2
    exact ⟨h1, h2, hdead c (H.chain_lt hc1) (fun _ => hc2) (fun id' hne => H.disjoint act hne hc1) (hmidC c hc1)⟩
  refine ⟨u.len, hkey, fun _ _ => rfl, fun id' => (u.moved_iff H.shape act id').2, ?_, ?_, ?_, ?_⟩
  · intro j hj hnl
    have hnot : ∀ id', j ∉ chId s id' := fun id' hm => hnl (Or.inl ⟨id', hm⟩)
    have := u.other j hj (hnot id)
    refine ⟨by rw [this], by rw [this], ?_⟩
    refine hdead j hj (fun h => absurd h (hnot id)) (fun id' _ => hnot id') ?_
    intro x lo hg fr hmid
    exact ⟨fun h => hnl (Or.inr ⟨x, lo, hg, fr, hmid, Or.inl h⟩), fun h => hnl (Or.inr ⟨x, lo, hg, fr, hmid, Or.inr h⟩)⟩
  · intro k j hj
    rw [u.LC_eq H act] at hj
    split at hj
    · rename_i hid
      rcases hsub j hj with h | h
      · left; rw [H.LC_eq, hid]; exact h
      · right
        refine ⟨h, ?_⟩
        intro hcp
        have := H.crLt j hcp
        omega
    · exact Or.inl hj
  · intro k c hc1 hc2
    rw [u.LC_eq H act] at hc2
    split at hc2
    · rename_i hid
      rw [H.LC_eq, hid] at hc1
      obtain ⟨h1, h2, h3⟩ := hunlC c hc1 hc2
      refine ⟨h1, h2, h3, ?_⟩
      intro j hj hne
      rw [H.LC_eq, hid] at hj
      rw [u.LC_eq H act, if_pos hid]
      exact (hunl c hc1 hc2).2.2 j hj hne
    · exact absurd hc1 hc2
  · intro id' c hc1 hc2
    by_cases hid : id' = id
    · subst hid
      rw [hC] at hc2
      obtain ⟨h1, h2, h3⟩ := hunlC c hc1 hc2
      refine ⟨h1, h2, h3, ?_⟩
      intro j hj hne
      rw [hC]
      exact (hunl c hc1 hc2).2.2 j hj hne
    · rw [hO id' hid] at hc2
      exact absurd hc1 hc2

theorem Update.abs {s s' : State} {G : Ghost} {id : CellId} {C' : List Nat} (H : HInv s G)
    (act : Active s G id) (u : Update s s' G id C') (k : Nat) :
    absOf s' k = if liveId s k = id then absIn s'.heap C' k else absOf s k := by
  have hlc := u.LC_eq H act k
  rw [absOf_eq, absOf_eq, hlc]
  split
  · rfl
  · rename_i hid
    rw [H.LC_eq k]
    refine absIn_same ?_ ?_ k
    · intro j hj
      rw [u.other j (H.chain_lt hj) (fun hm => H.disjoint act hid hm hj)]
    · intro j hj
      rw [u.other j (H.chain_lt hj) (fun hm => H.disjoint act hid hm hj)]


theorem Update.abs_key {s s' : State} {G : Ghost} {id : CellId} {C' : List Nat} (H : HInv s G) (act : Active s G id)
    (u : Update s s' G id C') {κ : Nat} (hκ : keyOn id κ) {x : KSt}
    (habs : ∀ k, absIn s'.heap C' k = if κ = k then x else absIn s.heap (chId s id) k) :
    ∀ k, absOf s' k = if κ = k then x else absOf s k := by
  intro k
  rw [u.abs H act]
  by_cases hlid : liveId s k = id
  · rw [if_pos hlid, habs]
    split
    · rfl
    · rw [absOf_eq, H.LC_eq k, hlid]
  · rw [if_neg hlid, if_neg (fun (hk : κ = k) => hlid (H.liveId_of_active act (hk ▸ hκ)))]

/-- a new node is not a copy and lies above every old node -/
theorem ord_new {s : State} {G : Ghost} (H : HInv s G) {j : Nat} (hj : j < s.heap.length) :
    ord G.cr j < ord G.cr s.heap.length := by
  have h1 := ord_le_self G.cr j
  have h2 : ¬ isCopy G.cr s.heap.length := fun h => Nat.lt_irrefl _ (H.crLt _ h)
  rw [ord_not_copy h2]
  omega

theorem swap_effect {s s' : State} {G : Ghost} {id : CellId} (H : HInv s G) (act : Active s G id)
    {i : Nat} (hi : i ∈ chId s id) {v : Nat × Nat}
    (hh : s'.heap = s.heap.modify i (fun n => { n with val := v }))
    (hcell : ∀ id', getCell s' id' = getCell s id') (hcur : s'.cur = s.cur)
    (hres : s'.resizing = s.resizing) (htl : s'.tabs.length = s.tabs.length)
    (hrows : ∀ (g : Nat) (row' : List Cell), s'.tabs[g]? = some row' →
      ∃ row : List Cell, s.tabs[g]? = some row ∧ row'.length = row.length) :
    Effect s s' G id ∧
      ∀ k, absOf s' k = if (nodeAt s.heap i).key = k then some v else absOf s k := by
  have hil := H.chain_lt hi
  have hkey : ∀ j, (nodeAt s'.heap j).key = (nodeAt s.heap j).key := by
    intro j; rw [hh, nodeAt_modify]; split <;> rfl
  have hnext : ∀ j, (nodeAt s'.heap j).next = (nodeAt s.heap j).next := by
    intro j; rw [hh, nodeAt_modify]; split <;> rfl
  have hval : ∀ j, (nodeAt s'.heap j).val = if j = i then v else (nodeAt s.heap j).val := by
    intro j; rw [hh, nodeAt_modify]
    by_cases hij : i = j
    · subst hij; simp [hil]
    · have : ¬ j = i := fun h => hij h.symm
      simp [hij, this]
  have u : Update s s' G id (chId s id) := by
    refine ⟨?_, ?_, fun id' _ => hcell id', hcur, hres, htl, hrows, ?_, ?_, ?_, ?_, ?_⟩
    · rw [hh]; exact nextOK_modify_same H.nextOK (fun _ => rfl)
    · rw [hh, List.length_modify]; exact Nat.le_refl _
    · rw [hcell id]; exact act.notMoved H.shape
    · rw [hcell id, hh]
      exact (H.isChain id).modify (fun _ _ => rfl)
    · intro j _ hj
      rw [hh, nodeAt_modify]
      have : i ≠ j := fun h => hj (h ▸ hi)
      simp [this]
    · exact (H.keys id).congr (fun j _ => hkey j)
    · intro j hj; rw [hkey]; exact H.side id j hj
  refine ⟨⟨_, u, ?_⟩, ?_⟩
  · refine heapStep_update H act u (fun j hj => Or.inl hj) (fun j _ => hkey j) ?_
    intro c hc hc'; exact absurd hc hc'
  · exact u.abs_key H act (H.side id i hi)
      (absIn_swap (heap' := s'.heap) (H.keys id) hi (fun j _ => hkey j) (fun j _ => hval j))

theorem append_effect {s s' : State} {G : Ghost} {id : CellId} (H : HInv s G) (act : Active s G id)
    {l0 : List Nat} {last : Nat} (hch : chId s id = l0 ++ [last]) {new : NodeS}
    (hnx : new.next = none) (hon : keyOn id new.key)
    (hfresh : ∀ i ∈ chId s id, (nodeAt s.heap i).key ≠ new.key)
    (hh : s'.heap = (s.heap ++ [new]).modify last (fun n => { n with next := some s.heap.length }))
    (hcell : ∀ id', getCell s' id' = getCell s id') (hcur : s'.cur = s.cur)
    (hres : s'.resizing = s.resizing) (htl : s'.tabs.length = s.tabs.length)
    (hrows : ∀ (g : Nat) (row' : List Cell), s'.tabs[g]? = some row' →
      ∃ row : List Cell, s.tabs[g]? = some row ∧ row'.length = row.length) :
    Effect s s' G id ∧
      ∀ k, absOf s' k = if new.key = k then some new.val else absOf s k := by
  have hlc : last ∈ chId s id := by rw [hch]; simp
  have hll := H.chain_lt hlc
  have hnd := H.chain_nodup id
  have hold : ∀ j, j < s.heap.length → (nodeAt s'.heap j).key = (nodeAt s.heap j).key ∧
      (nodeAt s'.heap j).val = (nodeAt s.heap j).val ∧ (j ≠ last → nodeAt s'.heap j = nodeAt s.heap j) := by
    intro j hj
    rw [hh, nodeAt_modify, nodeAt_append_left _ hj]
    split
    · rename_i hjl
      exact ⟨rfl, rfl, fun hne => absurd hjl.1.symm hne⟩
    · exact ⟨rfl, rfl, fun _ => rfl⟩
  have hnew : nodeAt s'.heap s.heap.length = new := by
    rw [hh, nodeAt_modify, nodeAt_append_new]
    have : ¬ (last = s.heap.length ∧ s.heap.length < (s.heap ++ [new]).length) := by
      intro h; omega
    rw [if_neg this]
  have hnotin : s.heap.length ∉ chId s id := fun hm => Nat.lt_irrefl _ (H.chain_lt hm)
  obtain ⟨hd', habs⟩ := absIn_append (heap' := s'.heap) (H.keys id) (fun j hj => (hold j (H.chain_lt hj)).1)
    (fun j hj => (hold j (H.chain_lt hj)).2.1) hnew hfresh
  have u : Update s s' G id (chId s id ++ [s.heap.length]) := by
    refine ⟨?_, ?_, fun id' _ => hcell id', hcur, hres, htl, hrows, ?_, ?_, ?_, hd', ?_⟩
    · rw [hh]
      refine nextOK_modify_next (nextOK_append H.nextOK hnx) ?_
      intro b hb
      cases hb
      rw [List.length_append, List.length_singleton]
      exact ⟨ord_new H hll, by omega⟩
    · rw [hh, List.length_modify, List.length_append]; omega
    · rw [hcell id]; exact act.notMoved H.shape
    · rw [hcell id, hh, hch]
      have := H.isChain id
      rw [hch] at this
      exact isChain_append_node this (hch ▸ hnd) new hnx
    · intro j hj hjc
      exact (hold j hj).2.2 (fun h => hjc (h ▸ hlc))
    · intro j hj
      rcases List.mem_append.1 hj with hj | hj
      · rw [(hold j (H.chain_lt hj)).1]; exact H.side id j hj
      · have : j = s.heap.length := by simpa using hj
        subst this
        rw [hnew]; exact hon
  refine ⟨⟨_, u, ?_⟩, ?_⟩
  · refine heapStep_update H act u ?_ (fun j hj => (hold j hj).1) ?_
    · intro j hj
      rcases List.mem_append.1 hj with hj | hj
      · exact Or.inl hj
      · have : j = s.heap.length := by simpa using hj
        exact Or.inr (by omega)
    · intro c hc hc'
      exact absurd (List.mem_append_left _ hc) hc'
  · exact u.abs_key H act hon habs

theorem cas_effect {s s' : State} {G : Ghost} {id : CellId} (H : HInv s G) (act : Active s G id)
    (hempty : getCell s id = .empty) {new : NodeS}
    (hnx : new.next = none) (hon : keyOn id new.key)
    (hh : s'.heap = s.heap ++ [new])
    (hcell : ∀ id', getCell s' id' = if id' = id then .node s.heap.length else getCell s id')
    (hcur : s'.cur = s.cur)
    (hres : s'.resizing = s.resizing) (htl : s'.tabs.length = s.tabs.length)
    (hrows : ∀ (g : Nat) (row' : List Cell), s'.tabs[g]? = some row' →
      ∃ row : List Cell, s.tabs[g]? = some row ∧ row'.length = row.length) :
    Effect s s' G id ∧
      ∀ k, absOf s' k = if new.key = k then some new.val else absOf s k := by
  have hch : chId s id = [] := chId_of_empty hempty
  have hold : ∀ j, j < s.heap.length → nodeAt s'.heap j = nodeAt s.heap j := by
    intro j hj; rw [hh, nodeAt_append_left _ hj]
  have hnew : nodeAt s'.heap s.heap.length = new := by rw [hh, nodeAt_append_new]
  obtain ⟨hd', habs⟩ := absIn_append (heap := s.heap) (heap' := s'.heap) (C := []) (n := s.heap.length) (new := new)
    (fun a ha => by cases ha) (fun j hj => by cases hj) (fun j hj => by cases hj) hnew
    (fun j hj => by cases hj)
  have u : Update s s' G id [s.heap.length] := by
    refine ⟨?_, ?_, ?_, hcur, hres, htl, hrows, ?_, ?_, ?_, hd', ?_⟩
    · rw [hh]; exact nextOK_append H.nextOK hnx
    · rw [hh, List.length_append]; omega
    · intro id' hne; rw [hcell id', if_neg hne]
    · rw [hcell id, if_pos rfl]; simp
    · rw [hcell id, if_pos rfl, hh]
      refine .cons (n := new) (by simp) ?_
      rw [hnx]; exact .nil _
    · intro j hj _; exact hold j hj
    · intro j hj
      have : j = s.heap.length := by simpa using hj
      subst this
      rw [hnew]; exact hon
  refine ⟨⟨_, u, ?_⟩, ?_⟩
  · refine heapStep_update H act u ?_ (fun j hj => by rw [hold j hj]) ?_
    · intro j hj
      have : j = s.heap.length := by simpa using hj
      exact Or.inr (by omega)
    · intro c hc; rw [hch] at hc; cases hc
  · refine u.abs_key H act hon ?_
    intro k
    have := habs k
    rw [List.nil_append] at this
    rw [this, hch]

theorem unlink_mid_effect {s s' : State} {G : Ghost} {id : CellId} (H : HInv s G) (act : Active s G id)
    {l1 l2 : List Nat} {pr i : Nat} (hch : chId s id = l1 ++ pr :: i :: l2)
    (hh : s'.heap = s.heap.modify pr (fun m => { m with next := (nodeAt s.heap i).next }))
    (hcell : ∀ id', getCell s' id' = getCell s id') (hcur : s'.cur = s.cur)
    (hres : s'.resizing = s.resizing) (htl : s'.tabs.length = s.tabs.length)
    (hrows : ∀ (g : Nat) (row' : List Cell), s'.tabs[g]? = some row' →
      ∃ row : List Cell, s.tabs[g]? = some row ∧ row'.length = row.length) :
    Effect s s' G id ∧
      ∀ k, absOf s' k = if (nodeAt s.heap i).key = k then none else absOf s k := by
  have hi : i ∈ chId s id := by rw [hch]; simp
  have hpr : pr ∈ chId s id := by rw [hch]; simp
  have hil := H.chain_lt hi
  have hni := getElem?_nodeAt hil
  have hchain := H.isChain id
  rw [hch] at hchain
  have hnd := H.chain_nodup id
  rw [hch] at hnd
  have hpri : pr ≠ i := by
    intro he
    subst he
    have := (List.nodup_append.1 hnd).2.1
    simp at this
  obtain ⟨b, h1, h2⟩ := hchain.split
  obtain ⟨-, np, hnp, hs⟩ := IsSeg.cons_iff.1 h2
  obtain ⟨hb, -⟩ := IsSeg.cons_iff.1 hs
  have hold : ∀ j, j < s.heap.length → (nodeAt s'.heap j).key = (nodeAt s.heap j).key ∧
      (nodeAt s'.heap j).val = (nodeAt s.heap j).val ∧ (j ≠ pr → nodeAt s'.heap j = nodeAt s.heap j) := by
    intro j hj
    rw [hh, nodeAt_modify]
    split
    · rename_i hjl
      exact ⟨rfl, rfl, fun hne => absurd hjl.1.symm hne⟩
    · exact ⟨rfl, rfl, fun _ => rfl⟩
  have hmem : ∀ j, j ∈ l1 ++ pr :: l2 ↔ j ∈ chId s id ∧ j ≠ i := by
    intro j
    rw [hch]
    simp only [List.mem_append, List.mem_cons]
    constructor
    · intro hj
      refine ⟨by rcases hj with hj | hj | hj <;> simp [hj], ?_⟩
      rintro rfl
      have h5 := List.nodup_append.1 hnd
      rcases hj with hj | hj | hj
      · exact h5.2.2 j hj j (by simp) rfl
      · exact hpri hj.symm
      · have := (List.nodup_cons.1 (List.nodup_cons.1 h5.2.1).2).1
        exact this hj
    · rintro ⟨hj | hj | hj | hj, hne⟩
      · exact Or.inl hj
      · exact Or.inr (Or.inl hj)
      · exact absurd hj hne
      · exact Or.inr (Or.inr hj)
  obtain ⟨hd', habs⟩ := absIn_unlink (heap' := s'.heap) (H.keys id) hi hmem
    (fun j hj => (hold j (H.chain_lt hj)).1) (fun j hj => (hold j (H.chain_lt hj)).2.1)
  have u : Update s s' G id (l1 ++ pr :: l2) := by
    refine ⟨?_, ?_, fun id' _ => hcell id', hcur, hres, htl, hrows, ?_, ?_, ?_, hd', ?_⟩
    · rw [hh]
      refine nextOK_modify_next H.nextOK ?_
      intro b hb'
      have h3 := H.nextOK pr np i hnp hb
      have h4 := H.nextOK i _ b hni hb'
      exact ⟨by omega, h4.2⟩
    · rw [hh, List.length_modify]; exact Nat.le_refl _
    · rw [hcell id]; exact act.notMoved H.shape
    · rw [hcell id, hh]
      have := H.isChain id
      rw [hch] at this
      exact isChain_unlink this hnd hni
    · intro j hj hjc
      exact (hold j hj).2.2 (fun h => hjc (h ▸ hpr))
    · intro j hj
      have hj' := ((hmem j).1 hj).1
      rw [(hold j (H.chain_lt hj')).1]; exact H.side id j hj'
  refine ⟨⟨_, u, ?_⟩, u.abs_key H act (H.side id i hi) habs⟩
  refine heapStep_update H act u (fun j hj => Or.inl ((hmem j).1 hj).1) (fun j hj => (hold j hj).1) ?_
  intro c hc hc'
  have hci : c = i := by
    apply Classical.byContradiction
    intro hne
    exact hc' ((hmem c).2 ⟨hc, hne⟩)
  subst hci
  have := (hold c hil).2.2 (fun h => hpri h.symm)
  exact ⟨by rw [this], by rw [this], fun j hj hne => (hmem j).2 ⟨hj, hne⟩⟩

theorem unlink_head_effect {s s' : State} {G : Ghost} {id : CellId} (H : HInv s G) (act : Active s G id)
    {l2 : List Nat} {i : Nat} (hch : chId s id = i :: l2)
    (hh : s'.heap = s.heap)
    (hcell : ∀ id', getCell s' id' = if id' = id then cellOfHead (nodeAt s.heap i).next else getCell s id')
    (hcur : s'.cur = s.cur)
    (hres : s'.resizing = s.resizing) (htl : s'.tabs.length = s.tabs.length)
    (hrows : ∀ (g : Nat) (row' : List Cell), s'.tabs[g]? = some row' →
      ∃ row : List Cell, s.tabs[g]? = some row ∧ row'.length = row.length) :
    Effect s s' G id ∧
      ∀ k, absOf s' k = if (nodeAt s.heap i).key = k then none else absOf s k := by
  have hi : i ∈ chId s id := by rw [hch]; simp
  have hil := H.chain_lt hi
  have hni := getElem?_nodeAt hil
  have hchain := H.isChain id
  rw [hch] at hchain
  have hnd := H.chain_nodup id
  rw [hch] at hnd
  obtain ⟨-, ni, hni', hs⟩ := IsSeg.cons_iff.1 hchain
  rw [hni] at hni'; cases hni'
  have hmem : ∀ j, j ∈ l2 ↔ j ∈ chId s id ∧ j ≠ i := by
    intro j
    rw [hch]
    simp only [List.mem_cons]
    constructor
    · intro hj
      refine ⟨Or.inr hj, ?_⟩
      rintro rfl
      exact (List.nodup_cons.1 hnd).1 hj
    · rintro ⟨hj | hj, hne⟩
      · exact absurd hj hne
      · exact hj
  obtain ⟨hd', habs⟩ := absIn_unlink (heap' := s'.heap) (H.keys id) hi hmem
    (fun j _ => by rw [hh]) (fun j _ => by rw [hh])
  have u : Update s s' G id l2 := by
    refine ⟨by rw [hh]; exact H.nextOK, by rw [hh]; exact Nat.le_refl _, ?_, hcur, hres, htl, hrows, ?_, ?_, ?_, hd', ?_⟩
    · intro id' hne; rw [hcell id', if_neg hne]
    · rw [hcell id, if_pos rfl]; exact cellOfHead_ne_moved _
    · rw [hcell id, if_pos rfl, cellHead_cellOfHead, hh]; exact hs
    · intro j _ _; rw [hh]
    · intro j hj
      have hj' := ((hmem j).1 hj).1
      rw [hh]; exact H.side id j hj'
  refine ⟨⟨_, u, ?_⟩, u.abs_key H act (H.side id i hi) habs⟩
  refine heapStep_update H act u (fun j hj => Or.inl ((hmem j).1 hj).1) (fun j _ => by rw [hh]) ?_
  intro c hc hc'
  have hci : c = i := by
    apply Classical.byContradiction
    intro hne
    exact hc' ((hmem c).2 ⟨hc, hne⟩)
  subst hci
  exact ⟨by rw [hh], by rw [hh], fun j hj hne => (hmem j).2 ⟨hj, hne⟩⟩

theorem noop_effect {s s' : State} {G : Ghost} {id : CellId} (H : HInv s G) (act : Active s G id)
    (hh : s'.heap = s.heap) (ht : s'.tabs = s.tabs) (hcur : s'.cur = s.cur) (hres : s'.resizing = s.resizing) :
    Effect s s' G id ∧ ∀ k, absOf s' k = absOf s k := by
  have hcell : ∀ id', getCell s' id' = getCell s id' := getCell_congr ht
  refine ⟨⟨chId s id, ?_, HeapStep.of_same hh ht hcur⟩, absOf_congr_mem hh ht hcur⟩
  refine ⟨by rw [hh]; exact H.nextOK, by rw [hh]; exact Nat.le_refl _, fun id' _ => hcell id', hcur, hres,
    by rw [ht], fun g row' hr => ⟨row', by rw [← ht]; exact hr, rfl⟩, ?_, ?_, ?_, ?_, ?_⟩
  · rw [hcell id]; exact act.notMoved H.shape
  · rw [hcell id, hh]; exact H.isChain id
  · intro j _ _; rw [hh]
  · rw [hh]; exact H.keys id
  · rw [hh]; exact H.side id

/-- the store that empties an active cell (the case `MemStep.clear`) -/
theorem clear_update {s s' : State} {G : Ghost} {id : CellId} (H : HInv s G) (act : Active s G id)
    (hh : s'.heap = s.heap)
    (hcell : ∀ id', getCell s' id' = if id' = id then .empty else getCell s id') (hcur : s'.cur = s.cur)
    (hres : s'.resizing = s.resizing) (htl : s'.tabs.length = s.tabs.length)
    (hrows : ∀ (g : Nat) (row' : List Cell), s'.tabs[g]? = some row' →
      ∃ row : List Cell, s.tabs[g]? = some row ∧ row'.length = row.length) :
    Update s s' G id [] ∧ ∀ k, absOf s' k = if liveId s k = id then none else absOf s k := by
  have u : Update s s' G id [] := by
    refine ⟨by rw [hh]; exact H.nextOK, by rw [hh]; exact Nat.le_refl _, ?_, hcur, hres, htl, hrows, ?_, ?_, ?_, ?_, ?_⟩
    · intro id' hne; rw [hcell id', if_neg hne]
    · rw [hcell id, if_pos rfl]; simp
    · rw [hcell id, if_pos rfl]; exact .nil _
    · intro j _ _; rw [hh]
    · intro a ha; cases ha
    · intro j hj; cases hj
  refine ⟨u, ?_⟩
  intro k
  rw [u.abs H act]
  split
  · rfl
  · rfl

theorem Update.live_of_cleared {s s' : State} {G : Ghost} {id : CellId} (H : HInv s G) (act : Active s G id)
    (u : Update s s' G id []) {j : Nat} (hl : Live s' G j) : Live s G j ∧ j ∉ chId s id := by
  obtain ⟨hC, hO⟩ := u.chains H act
  rcases hl with ⟨id', hm⟩ | ⟨x, lo, hg, fr, hmid, hm⟩
  · by_cases hid : id' = id
    · subst hid; rw [hC] at hm; cases hm
    · rw [hO id' hid] at hm
      exact ⟨Or.inl ⟨id', hm⟩, fun hj => H.disjoint act hid hj hm⟩
  · obtain ⟨e1, e2⟩ := u.mid_lists H act hmid
    rw [e1, e2] at hm
    exact ⟨Or.inr ⟨x, lo, hg, fr, hmid, hm⟩, H.mid_disjoint act hmid (Or.inr hm)⟩

end Flurry.Proto.BinNHM
