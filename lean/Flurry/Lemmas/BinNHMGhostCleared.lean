import Flurry.Lemmas.BinNHMGhostMoved
/-! # Proto/BinN and Proto/BinNH: hindsight across the store that empties a cell (C01)

`Good.cleared`: the justification of a reader survives the store that empties the (active) cell `id`: all
nodes of its chain die at once, with the values and successors they have now. -/
namespace Flurry.Proto.BinNHM
open Flurry.Proto.BinN
open Flurry.Lin
open Flurry.Proto.BinX (NodeS Cell Pending dflt chainFrom cellHead cellOfHead nodeAt nodeAt_of_some getElem?_nodeAt
  IsSeg IsChain chainH absIn KeysDistinct)

theorem Good.cleared {A A' : Nat → KSt} {k inv : Nat} {s s' : State} {G : Ghost} {id : CellId}
    {cur : Option Nat} (hgood : Good G A k inv s cur) (H : HInv s G)
    (hO : ∀ id', id' ≠ id → chId s' id' = chId s id')
    (hLC : ∀ k, LC s' k = if liveId s k = id then [] else LC s k)
    (hlive : ∀ j, Live s' G j → Live s G j ∧ j ∉ chId s id)
    (hh : s'.heap = s.heap)
    (hnow : s'.now = s.now + 1) (hA' : ∀ τ, τ ≤ s.now → A' τ = A τ) (hA : A s.now = absOf s k)
    (hinv : inv ≤ s.now) : Good G A' k inv s' cur := by
  have hle : ∀ {τ : Nat}, τ ≤ s.now → τ ≤ s'.now := fun h => hnow ▸ Nat.le_succ_of_le h
  have hnow' : s.now ≤ s'.now := hnow ▸ Nat.le_succ _
  have hAnow : A' s.now = absOf s k := by rw [hA' _ (Nat.le_refl _)]; exact hA
  have hchain := H.isChain id
  have hlt : ∀ c ∈ chId s id, c < s.heap.length := fun c hc => H.chain_lt hc
  -- nodes of the cleared chain that were on the live chain of `k`
  have onC : liveId s k = id → ∀ c, c < s.heap.length → c ∈ chId s id →
      (∀ i ∈ chId s id, ord G.cr i < ord G.cr c → (nodeAt s.heap i).key ≠ k) →
      Good G A' k inv s' (some c) := by
    intro hlid
    have hlc : LC s k = chId s id := by rw [H.LC_eq, hlid]
    refine H.nextOK.induction fun c hcl ih hc hbefore => ?_
    · have hn' := getElem?_nodeAt hcl
      refine .off (fun hl => (hlive c hl).2 hc) (by rw [hh]; exact hcl) ?_ ?_
      · intro hk
        rw [hh] at hk ⊢
        have hle : ∀ i ∈ chId s id, ord G.cr i ≤ ord G.cr c → (nodeAt s.heap i).key ≠ k := by
          intro i hi hic
          rcases Int.lt_or_eq_of_le hic with hlt' | heq
          · exact hbefore i hi hlt'
          · rw [ord_inj heq]; exact hk
        cases hnx : (nodeAt s.heap c).next with
        | none =>
          have h3 := hchain.succ_none H.nextOK hc hn' hnx
          refine .absent (τ := s.now) hinv hnow' ?_
          rw [hAnow, H.absOf_none_iff, hlc]
          intro i hi
          exact hle i hi (h3 i hi)
        | some d =>
          obtain ⟨hd, h3⟩ := hchain.succ_some H.nextOK hc hn' hnx
          refine ih d hnx hd ?_
          intro i hi hid
          exact hle i hi (h3 i hi hid)
      · intro hk
        rw [hh] at hk ⊢
        refine ⟨s.now, hinv, hnow', ?_⟩
        rw [hAnow]
        exact H.absOf_some_iff.2 ⟨c, by rw [hlc]; exact hc, hk, rfl⟩
  -- nodes of the cleared chain that a reader of another key stands on
  have forC : ∀ {τ : Nat}, ¬ keyOn id k → inv ≤ τ → τ ≤ s.now → A τ = none →
      ∀ c, c < s.heap.length → c ∈ chId s id → Good G A' k inv s' (some c) := by
    intro τ hno h1 h2 h3
    refine H.nextOK.induction fun c hcl ih hc => ?_
    · have hn' := getElem?_nodeAt hcl
      have hside : (nodeAt s.heap c).key ≠ k := by
        intro hk
        have := H.side id c hc
        rw [hk] at this
        exact hno this
      refine .off (fun hl => (hlive c hl).2 hc) (by rw [hh]; exact hcl) ?_
        (fun hk => absurd (by rw [hh] at hk; exact hk) hside)
      intro _
      rw [hh]
      cases hnx : (nodeAt s.heap c).next with
      | none => exact .absent h1 (hle h2) (by rw [hA' _ h2]; exact h3)
      | some d =>
        obtain ⟨hd, -⟩ := hchain.succ_some H.nextOK hc hn' hnx
        exact ih d hnx hd
  induction hgood with
  | absent h1 h2 h3 => exact .absent h1 (hle h2) (by rw [hA' _ h2]; exact h3)
  | @on c hcm hbefore =>
    by_cases hlid : liveId s k = id
    · have hlc : LC s k = chId s id := by rw [H.LC_eq, hlid]
      rw [hlc] at hcm hbefore
      exact onC hlid c (hlt c hcm) hcm hbefore
    · have hlc' : LC s' k = LC s k := by rw [hLC k, if_neg hlid]
      refine .on (by rw [hlc']; exact hcm) ?_
      intro i hi hic
      rw [hlc'] at hi
      rw [hh]
      exact hbefore i hi hic
  | @foreign c τ id' hcm hno h1 h2 h3 =>
    by_cases he : id' = id
    · subst he
      exact forC hno h1 h2 h3 c (hlt c hcm) hcm
    · exact .foreign (by rw [hO id' he]; exact hcm) hno h1 (hle h2) (by rw [hA' _ h2]; exact h3)
  | @off c hcl hclt _ hval ih =>
    refine .off (fun hl => hcl (hlive c hl).1) (by rw [hh]; exact hclt) ?_ ?_
    · intro hk
      rw [hh] at hk ⊢
      exact ih hk
    · intro hk
      rw [hh] at hk ⊢
      obtain ⟨τ, h1, h2, h3⟩ := hval hk
      exact ⟨τ, h1, hle h2, by rw [hA' _ h2]; exact h3⟩

end Flurry.Proto.BinNHM
