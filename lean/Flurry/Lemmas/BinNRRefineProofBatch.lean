import Flurry.Proto.Reclaim2
/-! # Proto/Reclaim2: runs of batches of events of one kind (used by the refinement proof of `Proto/BinNR`) -/
namespace Flurry.Proto.Reclaim2

theorem run_append (a : State) (e1 e2 : List Ev) :
    run a (e1 ++ e2) = (run a e1).bind (fun a' => run a' e2) := by
  induction e1 generalizing a with
  | nil => rfl
  | cons e es ih =>
    simp only [List.cons_append, run]
    cases step a e with
    | none => rfl
    | some a1 => exact ih a1

theorem run_append_some {a a1 a2 : State} {e1 e2 : List Ev} (h1 : run a e1 = some a1) (h2 : run a1 e2 = some a2) :
    run a (e1 ++ e2) = some a2 := by
  rw [run_append, h1]; exact h2

theorem active_eq {a a' : State} (h1 : a'.nthreads = a.nthreads) (h2 : a'.guarded = a.guarded) :
    active a' = active a := by unfold active; rw [h1, h2]

/-- what `retire` makes of an object -/
def retireOf (act : List Nat) : OSt → OSt
  | .unlinked u => .retired u act
  | st => st

theorem run_acquire (t : Nat) : ∀ (os : List Nat) (a : State),
    (∀ o ∈ os, a.guarded t = true ∧ o < a.nobjs ∧ acquirable t (a.objs o) = true) →
    ∃ a', run a (os.map (Ev.acquire t)) = some a' ∧ a'.objs = a.objs ∧ a'.guarded = a.guarded ∧ a'.nobjs = a.nobjs ∧
      a'.nthreads = a.nthreads ∧ (∀ x, x ≠ t → a'.holds x = a.holds x) ∧
      (∀ o, o ∈ a'.holds t ↔ o ∈ os ∨ o ∈ a.holds t)
  | [], a, _ => ⟨a, rfl, rfl, rfl, rfl, rfl, fun _ _ => rfl, fun o => by simp⟩
  | o :: os, a, h => by
    obtain ⟨h1, h2, h3⟩ := h o List.mem_cons_self
    have hs : step a (.acquire t o) =
        some { a with holds := fun x => if x = t then o :: a.holds t else a.holds x } := by
      unfold step; simp only; rw [if_pos ⟨h1, h2, h3⟩]
    obtain ⟨a', r, e1, e2, e3, e4, e5, e6⟩ := run_acquire t os
      { a with holds := fun x => if x = t then o :: a.holds t else a.holds x }
      (fun o' ho' => h o' (List.mem_cons_of_mem _ ho'))
    refine ⟨a', ?_, e1, e2, e3, e4, ?_, ?_⟩
    · simp only [List.map_cons, run, hs]; exact r
    · intro x hx
      rw [e5 x hx]
      show (if x = t then o :: a.holds t else a.holds x) = a.holds x
      rw [if_neg hx]
    · intro o'
      rw [e6 o']
      show o' ∈ os ∨ o' ∈ (if t = t then o :: a.holds t else a.holds t) ↔ _
      rw [if_pos rfl]
      simp only [List.mem_cons]
      constructor
      · rintro (h | h | h)
        · exact Or.inl (Or.inr h)
        · exact Or.inl (Or.inl h)
        · exact Or.inr h
      · rintro ((h | h) | h)
        · exact Or.inr (Or.inl h)
        · exact Or.inl h
        · exact Or.inr (Or.inr h)

theorem run_touch (t : Nat) : ∀ (os : List Nat) (a : State),
    (∀ o ∈ os, o ∈ a.holds t ∧ a.objs o ≠ .freed) → run a (os.map (Ev.touch t)) = some a
  | [], _, _ => rfl
  | o :: os, a, h => by
    obtain ⟨h1, h2⟩ := h o List.mem_cons_self
    have hs : step a (.touch t o) = some a := by
      unfold step; simp only; rw [if_pos h1, if_neg h2]
    simp only [List.map_cons, run, hs]
    exact run_touch t os a (fun o' ho' => h o' (List.mem_cons_of_mem _ ho'))

theorem run_alloc (t : Nat) : ∀ (k : Nat) (a : State), (k ≠ 0 → a.guarded t = true) →
    ∃ a', run a (List.replicate k (Ev.alloc t)) = some a' ∧ a'.objs = a.objs ∧ a'.guarded = a.guarded ∧
      a'.nobjs = a.nobjs + k ∧ a'.nthreads = a.nthreads ∧ (∀ x, x ≠ t → a'.holds x = a.holds x) ∧
      (∀ o, o ∈ a.holds t → o ∈ a'.holds t)
  | 0, a, _ => ⟨a, rfl, rfl, rfl, rfl, rfl, fun _ _ => rfl, fun _ h => h⟩
  | k + 1, a, h => by
    have hg := h (Nat.succ_ne_zero k)
    have hs : step a (.alloc t) =
        some { a with nobjs := a.nobjs + 1, holds := fun x => if x = t then a.nobjs :: a.holds t else a.holds x } := by
      unfold step; simp only; rw [if_pos hg]
    obtain ⟨a', r, e1, e2, e3, e4, e5, e6⟩ := run_alloc t k
      { a with nobjs := a.nobjs + 1, holds := fun x => if x = t then a.nobjs :: a.holds t else a.holds x }
      (fun _ => hg)
    refine ⟨a', ?_, e1, e2, ?_, e4, ?_, ?_⟩
    · simp only [List.replicate_succ, run, hs]; exact r
    · rw [e3]; show a.nobjs + 1 + k = a.nobjs + (k + 1); omega
    · intro x hx
      rw [e5 x hx]
      show (if x = t then a.nobjs :: a.holds t else a.holds x) = a.holds x
      rw [if_neg hx]
    · intro o ho
      apply e6
      show o ∈ (if t = t then a.nobjs :: a.holds t else a.holds t)
      rw [if_pos rfl]; exact List.mem_cons_of_mem _ ho

/-- a batch of events `ev o`, one for each of the pairwise different objects `os`, each of which only rewrites
the state of its own object (by `f`), in any state that differs from `a` in other objects only -/
theorem run_objs (ev : Nat → Ev) (f : OSt → OSt) : ∀ (os : List Nat) (a : State),
    (∀ b : State, b.guarded = a.guarded → b.nobjs = a.nobjs → b.nthreads = a.nthreads → ∀ o ∈ os,
      b.objs o = a.objs o → step b (ev o) = some (setObj b o (f (a.objs o)))) → os.Nodup →
    ∃ a', run a (os.map ev) = some a' ∧ a'.objs = (fun x => if x ∈ os then f (a.objs x) else a.objs x) ∧
      a'.guarded = a.guarded ∧ a'.nobjs = a.nobjs ∧ a'.nthreads = a.nthreads ∧ a'.holds = a.holds
  | [], a, _, _ => ⟨a, rfl, by funext x; simp, rfl, rfl, rfl, rfl⟩
  | o :: os, a, h, hnd => by
    obtain ⟨hno, hnd'⟩ := List.nodup_cons.1 hnd
    have hne : ∀ o' ∈ os, o' ≠ o := fun o' ho' e => hno (e ▸ ho')
    have hs := h a rfl rfl rfl o List.mem_cons_self rfl
    have hobj : ∀ o' ∈ os, (setObj a o (f (a.objs o))).objs o' = a.objs o' := fun o' ho' => if_neg (hne o' ho')
    obtain ⟨a', r, e1, e2, e3, e4, e5⟩ := run_objs ev f os (setObj a o (f (a.objs o))) (by
      intro b g1 g2 g3 o' ho' hb
      rw [hobj o' ho'] at hb ⊢
      exact h b g1 g2 g3 o' (List.mem_cons_of_mem _ ho') hb) hnd'
    refine ⟨a', by simp only [List.map_cons, run, hs]; exact r, ?_, e2, e3, e4, e5⟩
    rw [e1]
    funext x
    by_cases hx : x ∈ os
    · rw [if_pos hx, if_pos (List.mem_cons_of_mem _ hx), hobj x hx]
    · rw [if_neg hx]
      show (if x = o then f (a.objs o) else a.objs x) = _
      by_cases hxo : x = o
      · rw [if_pos hxo, if_pos (hxo ▸ List.mem_cons_self), hxo]
      · rw [if_neg hxo, if_neg (by simp [hx, hxo])]

theorem run_publish (t : Nat) (os : List Nat) (a : State)
    (h : ∀ o ∈ os, a.guarded t = true ∧ o < a.nobjs ∧ a.objs o = .fresh) (hnd : os.Nodup) :
    ∃ a', run a (os.map (Ev.publish t)) = some a' ∧
      a'.objs = (fun x => if x ∈ os then OSt.linked else a.objs x) ∧ a'.guarded = a.guarded ∧ a'.nobjs = a.nobjs ∧
      a'.nthreads = a.nthreads ∧ a'.holds = a.holds :=
  run_objs (Ev.publish t) (fun _ => .linked) os a (fun b g1 g2 _ o ho hb => by
    obtain ⟨h1, h2, h3⟩ := h o ho
    unfold step; simp only; rw [if_pos ⟨g2 ▸ h2, hb ▸ h3, g1 ▸ h1⟩]) hnd

theorem run_unlink (t : Nat) (os : List Nat) (a : State) (h : ∀ o ∈ os, a.objs o = .linked) (hnd : os.Nodup) :
    ∃ a', run a (os.map (Ev.unlink t)) = some a' ∧
      a'.objs = (fun x => if x ∈ os then OSt.unlinked (active a) else a.objs x) ∧ a'.guarded = a.guarded ∧
      a'.nobjs = a.nobjs ∧ a'.nthreads = a.nthreads ∧ a'.holds = a.holds :=
  run_objs (Ev.unlink t) (fun _ => .unlinked (active a)) os a (fun b g1 _ g3 o ho hb => by
    unfold step; simp only; rw [if_pos (hb ▸ h o ho), active_eq g3 g1]) hnd

theorem run_retire (t : Nat) (os : List Nat) (a : State)
    (h : ∀ o ∈ os, a.guarded t = true ∧ ∃ u, a.objs o = .unlinked u) (hnd : os.Nodup) :
    ∃ a', run a (os.map (Ev.retire t)) = some a' ∧
      a'.objs = (fun x => if x ∈ os then retireOf (active a) (a.objs x) else a.objs x) ∧ a'.guarded = a.guarded ∧
      a'.nobjs = a.nobjs ∧ a'.nthreads = a.nthreads ∧ a'.holds = a.holds :=
  run_objs (Ev.retire t) (retireOf (active a)) os a (fun b g1 _ g3 o ho hb => by
    obtain ⟨h1, u, hu⟩ := h o ho
    unfold step; simp only; rw [hb, hu]; simp only; rw [if_pos (g1 ▸ h1), active_eq g3 g1]; rfl) hnd

end Flurry.Proto.Reclaim2
