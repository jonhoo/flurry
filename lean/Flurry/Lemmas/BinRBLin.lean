import Flurry.Lemmas.BinRBGhost
/-! # Proto/BinRBase: every transition preserves the ghost invariant (C01, C13)

`ginv_step`: every transition preserves `∃ A pt, GInv k s A pt`. Linearization points:
writers through the lock at their `wWrite` step, the lock-free insert at its successful CAS,
writers that find the bin empty at their `wHead` step, readers in hindsight (from `Good`).
`reachable_ginv` is in `Lemmas/BinRBMain.lean`. -/
namespace Flurry.Proto.BinR.Base
open Flurry.Lin2
open Flurry.Shared (get_set)

theorem readers_step {k : Nat} {s s' : State} {A : Nat → KSt} {pt : Nat → Nat} {t : Nat} {l' : Local}
    (g : GInv k s A pt) (I : Inv s) (hs : HeapStep s s')
    (hthr : s'.threads = s.threads.set t l') (hnow : s'.now = s.now + 1) (x : KSt)
    (hself : ∀ (p : Pending) (cur : Option Nat), l'.call = some p → p.key = k → l'.pc = .rNode cur →
      p.inv ≤ s.now ∧ Good A k p.inv s cur) :
    ∀ (t1 : Nat) (l1 : Local) (p1 : Pending) (cur : Option Nat), s'.threads[t1]? = some l1 →
      l1.call = some p1 → p1.key = k → l1.pc = .rNode cur → Good (nextA A s.now x) k p1.inv s' cur := by
  intro t1 l1 p1 cur h1 hc1 hk1 hpc1
  rw [hthr] at h1
  rcases get_set h1 with ⟨rfl, rfl⟩ | ⟨_, h1⟩
  · obtain ⟨hi, hg⟩ := hself p1 cur hc1 hk1 hpc1
    exact hg.step I.heap hs hnow (fun τ h => nextA_old h) g.hA hi
  · exact (g.readers t1 l1 p1 cur h1 hc1 hk1 hpc1).step I.heap hs hnow (fun τ h => nextA_old h) g.hA
      (I.thr.pendTime t1 l1 p1 h1 hc1)

/-- the ghost invariant after a step of thread `t`, from the trace of the key after it (one of the `Trace.*` step
lemmas of `Lemmas/GhostView.lean`) and what the acting thread knows as a reader -/
theorem ginv_next {k : Nat} {s s' : State} {A : Nat → KSt} {pt pt' : Nat → Nat} {t : Nat} {l' : Local}
    (g : GInv k s A pt) (I : Inv s) (hs : HeapStep s s')
    (hthr : s'.threads = s.threads.set t l') (hnow : s'.now = s.now + 1)
    (tr : GhostView.Trace Lin2.sig (GhostView.callsOnExt Lin2.sig view s'.hist s'.threads k s'.now) s'.now (absOf s' k)
      (nextA A s.now (absOf s' k)) pt')
    (hself : ∀ (p : Pending) (cur : Option Nat), l'.call = some p → p.key = k → l'.pc = .rNode cur →
      p.inv ≤ s.now ∧ Good A k p.inv s cur) :
    GInv k s' (nextA A s.now (absOf s' k)) pt' := by
  rw [← callsOnExt_eq] at tr
  exact ⟨tr.h0, tr.hA, tr.calls, tr.stab, tr.inj, readers_step g I hs hthr hnow _ hself⟩

theorem res_none {l : Local} {pc : Pc} (h : l.pc = pc) (h' : resOfPc pc = none) : view.res l = none := by
  show resOfPc l.pc = none
  rw [h]; exact h'

theorem resOfPc_invoke (op : KOp2) : resOfPc (if isReader op then .rHead else .wHead) = none := by
  cases isReader op <;> rfl

theorem Move.not_ext {s : State} {p : Pending} {pc pc' : Pc} (h : Move s p pc pc') :
    resOfPc pc = none ∧ resOfPc pc' = none := by
  cases h <;> exact ⟨rfl, rfl⟩

theorem LockMove.not_ext {s : State} {t h : Nat} {x : Option Nat} {pc pc' : Pc}
    (hm : LockMove s t pc h x pc') :
    resOfPc pc = none ∧ resOfPc pc' = none ∧ ∀ cur, pc' ≠ .rNode cur := by
  cases hm <;> exact ⟨rfl, rfl, by intro cur; simp⟩

theorem Fin.not_ext {s : State} {p : Pending} {pc : Pc} {res : KRes} (h : Fin s p pc res) : resOfPc pc = none := by
  cases h <;> rfl

theorem Move.good {s : State} {p : Pending} {pc pc' : Pc} (h : Move s p pc pc') {cur : Option Nat}
    (hc : pc' = .rNode cur) :
    (pc = .rHead ∧ cur = s.head) ∨
    (∃ c n, pc = .rNode (some c) ∧ s.heap[c]? = some n ∧ n.key ≠ p.key ∧ cur = n.next) := by
  cases h with
  | rHead => cases hc; exact Or.inl ⟨rfl, rfl⟩
  | rNext hn hk => cases hc; exact Or.inr ⟨_, _, rfl, hn, hk, rfl⟩
  | toCas _ => cases hc
  | toLock _ => cases hc
  | casFail => cases hc
  | checkOk _ => cases hc
  | checkFail => cases hc

/-- the point of a call that completes without a store: a time that justifies the result of a read, or a write
that changes nothing now -/
theorem fin_point {k : Nat} {s : State} {A : Nat → KSt} {pt : Nat → Nat} {t : Nat} {l : Local}
    {p : Pending} {res : KRes}
    (g : GInv k s A pt) (I : Inv s) (hl : s.threads[t]? = some l) (hp : l.call = some p)
    (hk : p.key = k) (hf : Fin s p l.pc res) :
    ∃ τ0, (isRead p.op = true ∧ p.inv ≤ τ0 ∧ τ0 ≤ s.now ∧ specStep2 (A τ0) p.op = (A τ0, res)) ∨
      (isRead p.op = false ∧ τ0 = s.now + 1 ∧ specStep2 (absOf s k) p.op = (absOf s k, res)) := by
  have hop := I.thr.opOK t l p hl hp
  have hpi := I.thr.pendTime t l p hl hp
  obtain ⟨pc, call⟩ := l
  simp only at hp hf hop
  subst hp
  cases hf with
  | miss =>
    have hrd : isRead p.op = true := by rw [← isReader_eq_isRead]; exact hop
    obtain ⟨τ, h1, h2, h3⟩ := (g.readers t _ p none hl rfl hk rfl).miss
    refine ⟨τ, Or.inl ⟨hrd, h1, h2, ?_⟩⟩
    rw [h3]
    cases hop' : p.op <;> rw [hop'] at hrd <;> first | rfl | cases hrd
  | @hit c n hn hkey =>
    have hrd : isRead p.op = true := by rw [← isReader_eq_isRead]; exact hop
    have hnode := nodeAt_of_some hn
    obtain ⟨τ, h1, h2, h3⟩ := (g.readers t _ p (some c) hl rfl hk rfl).hit I.heap g.hA hpi
      (by rw [hnode, hkey, hk])
    refine ⟨τ, Or.inl ⟨hrd, h1, h2, ?_⟩⟩
    rw [h3, hnode]
    cases hop' : p.op <;> rw [hop'] at hrd <;> first | rfl | cases hrd
  | emptyBin hh hnot =>
    have hwr : isRead p.op = false := by rw [← isReader_eq_isRead]; exact hop
    refine ⟨s.now + 1, Or.inr ⟨hwr, rfl, ?_⟩⟩
    have hnone : absOf s k = none := by
      rw [absOf_eq_none_iff, chain_head_none I.heap hh]; intro i hi; cases hi
    rw [hnone]
    cases hop' : p.op with
    | ins v vi => exact absurd hop' (hnot v vi).1
    | tryIns v vi => exact absurd hop' (hnot v vi).2
    | get => rw [hop'] at hwr; cases hwr
    | has => rw [hop'] at hwr; cases hwr
    | rm => rfl
    | cipInc nvi => rfl
    | cipRm => rfl
    | condRm vi => rfl

theorem ginv_step {k : Nat} {s s' : State} {A : Nat → KSt} {pt : Nat → Nat} {t : Nat} {l : Local}
    (g : GInv k s A pt) (I : Inv s) (hl : s.threads[t]? = some l) (hstep : StepK s t l s') :
    ∃ A' pt', GInv k s' A' pt' := by
  have hhs := (stepK_inv I hl hstep).2
  have T := I.thr.gen
  have hother : ∀ {p : Pending}, l.call = some p → p.key ≠ k → ∀ q, view.call l = some q → q.key ≠ k :=
    fun hp hk q (hq : l.call = some q) => by rw [hp] at hq; cases hq; exact hk
  cases hstep with
  | idle hpc =>
    refine ⟨_, _, ginv_next g I hhs rfl rfl (g.trace.quiet_keep (hnew := []) T hl rfl rfl rfl
      (absOf_congr rfl rfl k) (fun _ h => nomatch h) rfl rfl) ?_⟩
    intro p cur _ _ hc
    rw [hpc] at hc; cases hc
  | invoke k' op hpc =>
    refine ⟨_, _, ginv_next g I hhs rfl rfl (g.trace.quiet_none (hnew := []) T hl rfl rfl rfl
      (absOf_congr rfl rfl k) (fun _ h => nomatch h) (GhostView.extOf_none_of_res (res_none hpc rfl))
      (GhostView.extOf_none_of_res (resOfPc_invoke op))) ?_⟩
    intro p cur _ _ hc
    cases hr : isReader op <;> simp [hr] at hc
  | move p pc' hp hm =>
    refine ⟨_, _, ginv_next g I hhs rfl rfl (g.trace.quiet_none (hnew := []) T hl rfl rfl rfl
      (absOf_congr rfl rfl k) (fun _ h => nomatch h) (GhostView.extOf_none_of_res (res_none rfl hm.not_ext.1))
      (GhostView.extOf_none_of_res hm.not_ext.2)) ?_⟩
    intro p1 cur hc1 hk1 hpc1
    simp only at hc1 hpc1
    have hpp : p1 = p := by rw [hp] at hc1; exact (Option.some.inj hc1).symm
    subst hpp
    have hpi := I.thr.pendTime t l p1 hl hp
    refine ⟨hpi, ?_⟩
    rcases hm.good hpc1 with ⟨_, rfl⟩ | ⟨c, n, hpc, hn, hne, rfl⟩
    · exact Good.head I.heap g.hA hpi
    · have hnode := nodeAt_of_some hn
      have := (g.readers t l p1 (some c) hl hp hk1 hpc).next I.heap g.hA hpi (by rw [hnode, ← hk1]; exact hne)
      rw [hnode] at this
      exact this
  | lockMove p h x pc' hp hm =>
    refine ⟨_, _, ginv_next g I hhs rfl rfl (g.trace.quiet_none (hnew := []) T hl rfl rfl rfl
      (modify_absOf_same (s' := setT (setNode (tick s) h (fun m => { m with lock := x })) t { l with pc := pc' })
        I.heap rfl rfl (lock_frame x) (fun _ => rfl) k)
      (fun _ h => nomatch h) (GhostView.extOf_none_of_res (res_none rfl hm.not_ext.1))
      (GhostView.extOf_none_of_res hm.not_ext.2.1)) ?_⟩
    intro p1 cur _ _ hpc1
    exact absurd hpc1 (hm.not_ext.2.2 cur)
  | fin p res hp hf =>
    have habs : ∀ k, absOf (finish (tick s) t p res) k = absOf s k := absOf_congr rfl rfl
    by_cases hk : p.key = k
    · obtain ⟨τ0, h⟩ := fin_point g I hl hp hk hf
      refine ⟨_, _, ginv_next (l' := { pc := .idle, call := none }) g I hhs rfl rfl
        (g.trace.call_fin (τ0 := τ0) T hl rfl rfl rfl hp hk (res_none rfl hf.not_ext) rfl ?_)
        (fun _ _ h => nomatch h)⟩
      rw [habs k]
      exact h.imp (fun ⟨a, b, c, d⟩ => ⟨a, rfl, b, c, d⟩)
        (fun ⟨a, b, c⟩ => ⟨a, b, by rw [← g.hA] at c ⊢; exact c⟩)
    · exact ⟨_, _, ginv_next (l' := { pc := .idle, call := none }) g I hhs rfl rfl
        (g.trace.other_key (hnew := [(p.key, ⟨t, p.op, res, p.inv, s.now + 1⟩)]) T hl rfl rfl rfl (habs k)
          (hother hp hk) (fun x hx e => hk ((List.mem_singleton.1 hx ▸ rfl : x.1 = p.key).symm.trans e)) (Or.inr rfl))
        (fun _ _ h => nomatch h)⟩
  | cas p v vi hp hpc hh hop =>
    obtain ⟨-, -, habs⟩ := cas_effect I.heap hh t p v vi
    have hwr : isRead p.op = false := by rw [← isReader_eq_isRead]; exact isReader_of_insLike hop
    by_cases hk : p.key = k
    · have hnone : absOf s k = none := by
        rw [absOf_eq_none_iff, chain_head_none I.heap hh]; intro i hi; cases hi
      refine ⟨_, _, ginv_next (l' := { pc := .idle, call := none }) g I hhs rfl rfl
        (g.trace.call_fin (τ0 := s.now + 1) T hl rfl rfl rfl hp hk (res_none hpc rfl) rfl (Or.inr ⟨hwr, rfl, ?_⟩))
        (fun _ _ h => nomatch h)⟩
      rw [habs k, if_pos hk, hnone]
      show specStep2 none p.op = _
      rcases hop with hop | hop <;> rw [hop] <;> rfl
    · exact ⟨_, _, ginv_next (l' := { pc := .idle, call := none }) g I hhs rfl rfl
        (g.trace.other_key (hnew := [(p.key, ⟨t, p.op, .none, p.inv, s.now + 1⟩)]) T hl rfl rfl rfl
          (by rw [habs k, if_neg hk]) (hother hp hk)
          (fun x hx e => hk ((List.mem_singleton.1 hx ▸ rfl : x.1 = p.key).symm.trans e)) (Or.inr rfl))
        (fun _ _ h => nomatch h)⟩
  | write p h hp hpc =>
    have hop := I.thr.opOK t l p hl hp
    rw [hpc] at hop
    have hwr : isRead p.op = false := by rw [← isReader_eq_isRead]; exact hop
    obtain ⟨-, -, hthr, hhist, hnow, hspec, hothr⟩ := writerStore_spec (s := tick s) (I.heap.congr rfl rfl) p hop
    have hthr' : (setT (writerStore (tick s) p).1 t
        { l with pc := .wUnlock h (writerStore (tick s) p).2 false }).threads =
        s.threads.set t { l with pc := .wUnlock h (writerStore (tick s) p).2 false } := by
      show (writerStore (tick s) p).1.threads.set t _ = _
      rw [hthr]; rfl
    have hnow' : (setT (writerStore (tick s) p).1 t
        { l with pc := .wUnlock h (writerStore (tick s) p).2 false }).now = s.now + 1 := hnow
    have hhist' : (setT (writerStore (tick s) p).1 t
        { l with pc := .wUnlock h (writerStore (tick s) p).2 false }).hist = [] ++ s.hist := hhist
    have habs : ∀ k, absOf (setT (writerStore (tick s) p).1 t
        { l with pc := .wUnlock h (writerStore (tick s) p).2 false }) k = absOf (writerStore (tick s) p).1 k :=
      absOf_congr rfl rfl
    by_cases hk : p.key = k
    · refine ⟨_, _, ginv_next g I hhs hthr' hnow'
        (g.trace.writer_point T hl hthr' hnow' hhist' hp hk (fun _ h => nomatch h) (res_none hpc rfl) rfl rfl hwr ?_)
        (fun _ _ _ _ h => nomatch h)⟩
      rw [habs k, ← hk]; exact hspec
    · exact ⟨_, _, ginv_next g I hhs hthr' hnow'
        (g.trace.other_key T hl hthr' hnow' hhist' (by rw [habs k]; exact hothr k (fun h => hk h.symm))
          (hother hp hk) (fun _ h => nomatch h) (Or.inl rfl))
        (fun _ _ _ _ h => nomatch h)⟩
  | unlockFin p h res hp hpc =>
    have habs : ∀ k, absOf (finish (setNode (tick s) h (fun m => { m with lock := none })) t p res) k = absOf s k :=
      modify_absOf_same I.heap rfl rfl (lock_frame none) (fun _ => rfl)
    by_cases hk : p.key = k
    · exact ⟨_, _, ginv_next (l' := { pc := .idle, call := none }) g I hhs rfl rfl
        (g.trace.respond T hl rfl rfl rfl (habs k) hp hk (by show resOfPc l.pc = _; rw [hpc]; rfl) rfl)
        (fun _ _ h => nomatch h)⟩
    · exact ⟨_, _, ginv_next (l' := { pc := .idle, call := none }) g I hhs rfl rfl
        (g.trace.other_key (hnew := [(p.key, ⟨t, p.op, res, p.inv, s.now + 1⟩)]) T hl rfl rfl rfl (habs k)
          (hother hp hk) (fun x hx e => hk ((List.mem_singleton.1 hx ▸ rfl : x.1 = p.key).symm.trans e)) (Or.inr rfl))
        (fun _ _ h => nomatch h)⟩

end Flurry.Proto.BinR.Base
