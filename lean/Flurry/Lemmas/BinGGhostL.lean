import Flurry.Lemmas.BinGGhost
/-! # Proto/BinG: the extended history, the live chain and the way from the ghost invariant to linearizability

Lemmas about the definitions of `Lemmas/BinGGhost.lean`. The extended history `callsOnExt` is the one of
`Lemmas/GhostView.lean` at `view` (`extOf_eq`, `callsOnExt_eq`) and `TInv` is its `Threads` (`TInv.gen`), so that a
ghost invariant gives linearizability of the extended history (`GInv.trace`, `GInv.linearizable`; `CallOK` of
`Lemmas/BinKGhost.lean` unfolds to `GhostView.CallOK Lin.sig`, which is why the fields of `GInv` are the fields of
`GhostView.Trace`). What `extOf`, `callsOnExt`, `LC`, `liveId`, `idOf`, `otherId` are on the inputs that matter.

No lemma here is about a transition: the ghost invariant of a reachable state is `BinGNP.GInv` on the image of the state in
`Proto/BinGN` (`Lemmas/BinGEmbedGhost.lean`); the lemmas about the walkers are in `Lemmas/BinGNPGhostL.lean`. -/
namespace Flurry.Proto.BinG
open Flurry.Lin
open Flurry.Proto.BinK (chainOf)

variable {k : Nat} {s : State} {A : Nat → KSt} {pt : Nat → Nat} {l : Local}

/-- how the ghost layer reads a thread -/
@[reducible] def view : GhostView.View Local Pending KOp KRes :=
  ⟨fun l => l.call, fun l => resOfPc l.pc, fun p => p.key, fun p => p.op, fun p => p.inv⟩

theorem TInv.gen (T : TInv s) :
    GhostView.Threads Lin.sig view (fun l p => PcOp l.pc p.op) s.threads s.hist s.now :=
  ⟨T.opOK, T.histTime, T.pendTime, T.uniqHP, T.uniqPP, T.uniqHH⟩

theorem extOf_eq (k now t : Nat) (l : Local) : extOf k now t l = GhostView.extOf Lin.sig view k now t l := by
  unfold extOf GhostView.extOf; dsimp only [view]
  cases resOfPc l.pc <;> cases l.call <;> rfl

theorem callsOnExt_eq (s : State) (k : Nat) :
    callsOnExt s k = GhostView.callsOnExt Lin.sig view s.hist s.threads k s.now := by
  have : extOf k s.now = fun t l => GhostView.extOf Lin.sig view k s.now t l :=
    funext fun t => funext fun l => extOf_eq k s.now t l
  unfold callsOnExt extCalls; rw [this]; rfl

theorem extOf_eq_some {k now t : Nat} {c : Call} :
    extOf k now t l = some c ↔ ∃ res p, resOfPc l.pc = some res ∧ l.call = some p ∧ p.key = k ∧
      c = ⟨t, p.op, res, p.inv, now⟩ := by
  rw [extOf_eq]; exact GhostView.extOf_eq_some

theorem extOf_none_of_pc {k now t : Nat} (h : resOfPc l.pc = none) : extOf k now t l = none := by
  rw [extOf_eq]; exact GhostView.extOf_none_of_res h

theorem extOf_none_of_key {k now t : Nat} {l : Local} {p : Pending} (hp : l.call = some p) (hk : p.key ≠ k) :
    extOf k now t l = none := by
  rw [extOf_eq]
  exact GhostView.extOf_none_of_key (fun q (hq : l.call = some q) => by rw [hp] at hq; cases hq; exact hk)

theorem mem_callsOn {c : Call} : c ∈ callsOn s k ↔ (k, c) ∈ s.hist :=
  GhostView.mem_callsOn

theorem mem_callsOnExt {c : Call} :
    c ∈ callsOnExt s k ↔ (k, c) ∈ s.hist ∨ ∃ t l, s.threads[t]? = some l ∧ extOf k s.now t l = some c := by
  rw [callsOnExt_eq]; simp only [extOf_eq]; exact GhostView.mem_callsOnExt

theorem callsOnExt_quiescent {s : State} (hq : quiescent s) (k : Nat) : callsOnExt s k = callsOn s k := by
  rw [callsOnExt_eq]; exact GhostView.callsOnExt_quiescent k s.now (fun l hl => congrArg resOfPc (hq l hl))

theorem LC_eq (s : State) (k : Nat) : LC s k = chainOf s.heap (startOf s.tbins (liveCell s k)) := rfl

theorem used_of_LC {s : State} (H : HInv s) {k c : Nat} (h : c ∈ LC s k) : Used s c := by
  unfold LC at h
  rw [liveCell_eq H k] at h
  exact Or.inl ⟨liveId s k, h⟩

theorem liveId_moved (hm : s.cell0 = .moved) (k : Nat) : liveId s k = idOf .new k := by
  unfold liveId; rw [if_pos hm]

theorem sideOf_otherId (k : Nat) : sideOf (otherId k) = !hiBit k := by
  unfold otherId
  cases hiBit k <;> rfl

theorem sideOf_idOf_new (k : Nat) : sideOf (idOf .new k) = hiBit k := by
  unfold idOf
  cases hiBit k <;> rfl

theorem otherId_ne_c0 (k : Nat) : otherId k ≠ .c0 := by
  unfold otherId
  cases hiBit k <;> simp

theorem idOf_new_ne_c0 (k : Nat) : idOf .new k ≠ .c0 := by
  unfold idOf
  cases hiBit k <;> simp

theorem GInv.trace (g : GInv k s A pt) :
    GhostView.Trace Lin.sig (GhostView.callsOnExt Lin.sig view s.hist s.threads k s.now) s.now (absOf s k) A pt := by
  rw [← callsOnExt_eq]; exact ⟨g.h0, g.hA, g.calls, g.stab, g.inj⟩

theorem GInv.linearizable {k : Nat} {s : State} {A : Nat → KSt} {pt : Nat → Nat}
    (g : GInv k s A pt) (T : TInv s) : Linearizable (callsOnExt s k) none (absOf s k) :=
  callsOnExt_eq s k ▸ g.trace.lin T.gen

end Flurry.Proto.BinG
