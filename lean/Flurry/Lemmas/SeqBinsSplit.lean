import Flurry.Lemmas.SeqBinsUpdate
/-! # The split of a bin on resize (`splitBin`: `splitList` with `lastRunStart`, `splitTree`)

A node of bin `i` of a table of `n = 2^k` bins goes to bin `i` of the doubled table if its bit
`hash & n` is `0` and to bin `i + n` otherwise (`bini_double'`, `runBit_cases'`: `bini_double`,
`runBit_cases` of `Lemmas/Bits.lean` for `IsPow2 n`). -/
namespace Flurry.Seq
open Flurry Flurry.Gen

abbrev bit0 (n : Nat) : Node → Bool := fun nd => runBit nd.hash n == 0
abbrev bit1 (n : Nat) : Node → Bool := fun nd => runBit nd.hash n != 0

theorem bit1_eq_not_bit0 (n : Nat) (x : Node) : bit1 n x = !bit0 n x := rfl
theorem bit0_eq_not_bit1 (n : Nat) (x : Node) : bit0 n x = !bit1 n x := (Bool.not_not _).symm

theorem filter_bits_perm (n : Nat) (l : List Node) :
    (l.filter (bit0 n) ++ l.filter (bit1 n)).Perm l := List.filter_append_perm (bit0 n) l

theorem bini_double' {n : Nat} (hn : IsPow2 n) (h : Nat) :
    bini h (2 * n) = bini h n + runBit h n := by
  obtain ⟨k, rfl⟩ := hn
  rw [← Nat.pow_succ', bini_double]

theorem runBit_cases' {n : Nat} (hn : IsPow2 n) (h : Nat) : runBit h n = 0 ∨ runBit h n = n := by
  obtain ⟨k, rfl⟩ := hn
  exact runBit_cases h k

theorem isPow2_pos {n : Nat} (h : IsPow2 n) : 0 < n := by
  obtain ⟨k, rfl⟩ := h; exact Nat.two_pow_pos k

theorem nodeOk_double {hash : Nat → Nat} {n i : Nat} {nd : Node} (hn : IsPow2 n)
    (h : NodeOk hash n i nd) :
    NodeOk hash (2 * n) i nd ∧ bit0 n nd = true ∨ NodeOk hash (2 * n) (i + n) nd ∧ bit1 n nd = true := by
  have hd := bini_double' hn nd.hash
  rw [h.2] at hd
  rcases runBit_cases' hn nd.hash with h0 | h1
  · exact Or.inl ⟨⟨h.1, by rw [hd, h0]; rfl⟩, by rw [bit0, h0]; rfl⟩
  · refine Or.inr ⟨⟨h.1, by rw [hd, h1]⟩, ?_⟩
    rw [bit1, h1, bne_iff_ne]; exact Nat.ne_of_gt (isPow2_pos hn)

theorem nodeOk_filter {hash : Nat → Nat} {n i : Nat} {l : List Node} (hn : IsPow2 n)
    (h : ∀ nd ∈ l, NodeOk hash n i nd) :
    (∀ nd ∈ l.filter (bit0 n), NodeOk hash (2 * n) i nd) ∧
    ∀ nd ∈ l.filter (bit1 n), NodeOk hash (2 * n) (i + n) nd := by
  refine ⟨fun nd hnd => ?_, fun nd hnd => ?_⟩ <;> obtain ⟨h1, h2⟩ := List.mem_filter.1 hnd <;>
    rcases nodeOk_double hn (h nd h1) with h3 | h3
  · exact h3.1
  · rw [bit0_eq_not_bit1, h3.2] at h2; cases h2
  · rw [bit1_eq_not_bit0, h3.2] at h2; cases h2
  · exact h3.1

theorem lastRunStart_cons_cons (n : Nat) (a b : Node) (rest : List Node) :
    lastRunStart n (a :: b :: rest) =
      if lastRunStart n (b :: rest) = 0 ∧ runBit a.hash n = runBit b.hash n then 0
      else lastRunStart n (b :: rest) + 1 := by
  simp only [lastRunStart, Bool.and_eq_true, beq_iff_eq]

theorem lastRunStart_lt (n : Nat) (ns : List Node) (hn : ns ≠ []) :
    lastRunStart n ns < ns.length := by
  induction ns with
  | nil => exact absurd rfl hn
  | cons a ns ih =>
    cases ns with
    | nil => exact Nat.zero_lt_one
    | cons b rest =>
      rw [lastRunStart_cons_cons]
      split
      · exact Nat.zero_lt_succ _
      · exact Nat.succ_lt_succ (ih (List.cons_ne_nil _ _))

theorem lastRunStart_const (n : Nat) (ns : List Node) :
    ∀ x ∈ ns.drop (lastRunStart n ns), ∀ y ∈ ns.drop (lastRunStart n ns),
      runBit x.hash n = runBit y.hash n := by
  induction ns with
  | nil => intro x hx; cases hx
  | cons a ns ih =>
    cases ns with
    | nil => intro x hx y hy; rw [List.mem_singleton.1 hx, List.mem_singleton.1 hy]
    | cons b rest =>
      rw [lastRunStart_cons_cons]
      split
      next hc =>
        rw [hc.1] at ih
        have key : ∀ x ∈ a :: b :: rest, runBit x.hash n = runBit b.hash n := fun x hx =>
          (List.mem_cons.1 hx).elim (fun h => h ▸ hc.2) fun h => ih x h b (List.mem_cons_self ..)
        intro x hx y hy
        rw [key x hx, key y hy]
      next => exact ih

/-- the run that starts at `lastRunStart` is maximal: the node before it has the other bit -/
theorem lastRunStart_maximal (n : Nat) (ns : List Node) (j : Nat)
    (hj : lastRunStart n ns = j + 1) :
    ∃ a b, ns[j]? = some a ∧ ns[j + 1]? = some b ∧ runBit a.hash n ≠ runBit b.hash n := by
  induction ns generalizing j with
  | nil => cases hj
  | cons a ns ih =>
    cases ns with
    | nil => cases hj
    | cons b rest =>
      rw [lastRunStart_cons_cons] at hj
      split at hj
      · cases hj
      next hc =>
        have hr : lastRunStart n (b :: rest) = j := Nat.succ.inj hj
        cases j with
        | zero => exact ⟨a, b, rfl, rfl, fun h => hc ⟨hr, h⟩⟩
        | succ j => exact ih j hr

theorem foldl_partition {α : Type} (p : α → Bool) (l a b : List α) :
    l.foldl (fun acc x => if p x then (x :: acc.1, acc.2) else (acc.1, x :: acc.2)) (a, b) =
      ((l.filter p).reverse ++ a, (l.filter fun x => !p x).reverse ++ b) := by
  induction l generalizing a b with
  | nil => rfl
  | cons x l ih =>
    rw [List.foldl_cons, List.filter_cons, List.filter_cons]
    cases p x <;> simp [ih]

theorem filter_of_const {α : Type} {p : α → Bool} {c : Bool} {l : List α}
    (h : ∀ x ∈ l, p x = c) :
    l.filter p = (if c then l else []) ∧ (l.filter fun x => !p x) = if c then [] else l := by
  cases c
  · exact ⟨List.filter_eq_nil_iff.2 fun x hx => by rw [h x hx]; exact Bool.false_ne_true,
      List.filter_eq_self.2 fun x hx => by rw [h x hx]; rfl⟩
  · exact ⟨List.filter_eq_self.2 h,
      List.filter_eq_nil_iff.2 fun x hx => by rw [h x hx]; exact Bool.false_ne_true⟩

/-- the exact result of `splitList`: the reused suffix, preceded by the *reversed* copies of the
prefix nodes with that bit -/
theorem splitList_eq (n : Nat) (ns : List Node) :
    splitList n ns =
      (((ns.take (lastRunStart n ns)).filter (bit0 n)).reverse
          ++ (ns.drop (lastRunStart n ns)).filter (bit0 n),
       ((ns.take (lastRunStart n ns)).filter (bit1 n)).reverse
          ++ (ns.drop (lastRunStart n ns)).filter (bit1 n)) := by
  have hconst := lastRunStart_const n ns
  rw [splitList, foldl_partition (bit0 n)]
  cases hs : ns.drop (lastRunStart n ns) with
  | nil => rfl
  | cons a l =>
    rw [hs] at hconst
    obtain ⟨e0, e1⟩ := filter_of_const (p := bit0 n) fun x hx =>
      congrArg (· == 0) (hconst x hx a (List.mem_cons_self ..))
    exact Prod.ext (congrArg (_ ++ ·) e0.symm) (congrArg (_ ++ ·) e1.symm)

/-- one half of `splitTree` (`mk` / `mkHi`), its untreeify test `c` evaluated -/
def splitHalf (t : RB.T) (o : List Node) (c : Bool) (mine other : List Node) : Bin :=
  if c then untreeify mine
  else if other.length != 0 then .tree (RB.ofList mine) mine
  else .tree t o

/-- the old tree is reused exactly when the other half is empty, that is when nothing is filtered out -/
theorem filter_eq_self_of_other {o : List Node} {p q : Node → Bool} (hq : ∀ x, q x = !p x)
    (h : ¬ ((o.filter q).length != 0) = true) : o.filter p = o := by
  rw [bne_iff_ne, Decidable.not_not, List.length_eq_zero_iff, List.filter_eq_nil_iff] at h
  exact List.filter_eq_self.2 fun x hx => by
    have := h x hx
    rwa [hq, Bool.not_eq_true, Bool.not_eq_false'] at this

theorem splitHalf_nodes (t : RB.T) (o : List Node) {p q : Node → Bool} (hq : ∀ x, q x = !p x)
    (c : Bool) : (splitHalf t o c (o.filter p) (o.filter q)).nodes = o.filter p := by
  unfold splitHalf
  split
  · exact nodes_ofNodes _
  · split
    · rfl
    next hl => exact (filter_eq_self_of_other hq hl).symm

theorem splitHalf_wf {hash : Nat → Nat} {m i n' j : Nat} {t : RB.T} {o : List Node}
    {p q : Node → Bool} (hq : ∀ x, q x = !p x) (c : Bool) (hb : BinWF hash m i (.tree t o))
    (hok : ∀ nd ∈ o.filter p, NodeOk hash n' j nd) (hc : c = false → o.filter p ≠ []) :
    BinWF hash n' j (splitHalf t o c (o.filter p) (o.filter q)) := by
  unfold splitHalf
  split
  · exact binWF_ofNodes hok (hb.2.2.1.filter p)
  next hcf =>
    split
    · exact treeify_wf ⟨hc (Bool.eq_false_iff.2 hcf), hok, hb.2.2.1.filter p⟩
    next hl =>
      rw [filter_eq_self_of_other hq hl] at hok
      exact ⟨hb.1, hok, hb.2.2.1, hb.2.2.2⟩

theorem splitTree_nodes (n : Nat) (t : RB.T) (o : List Node) :
    (splitTree n t o).1.nodes = o.filter (bit0 n) ∧ (splitTree n t o).2.nodes = o.filter (bit1 n) :=
  ⟨splitHalf_nodes t o (bit1_eq_not_bit0 n) _, splitHalf_nodes t o (bit0_eq_not_bit1 n) _⟩

theorem splitTree_wf {hash : Nat → Nat} {n i : Nat} {t : RB.T} {o : List Node} (hn : IsPow2 n)
    (hb : BinWF hash n i (.tree t o)) :
    BinWF hash (2 * n) i (splitTree n t o).1 ∧ BinWF hash (2 * n) (i + n) (splitTree n t o).2 :=
  have hne : ∀ {l : List Node}, decide (l.length ≤ UNTREEIFY_THRESHOLD) = false → l ≠ [] :=
    fun h he => by rw [he] at h; cases h
  ⟨splitHalf_wf (bit1_eq_not_bit0 _) _ hb (nodeOk_filter hn hb.2.1).1 hne,
    splitHalf_wf (bit0_eq_not_bit1 _) _ hb (nodeOk_filter hn hb.2.1).2 hne⟩

theorem splitBin_list (n : Nat) (ns : List Node) :
    splitBin n (.list ns) = (Bin.ofNodes (splitList n ns).1, Bin.ofNodes (splitList n ns).2) := rfl

/-- the node lists of the two halves (for a tree bin these are equalities, `splitTree_nodes`; for a
list bin see `splitList_eq` for the exact order) -/
theorem splitBin_nodes_perm (n : Nat) (b : Bin) :
    (splitBin n b).1.nodes.Perm (b.nodes.filter (bit0 n)) ∧
    (splitBin n b).2.nodes.Perm (b.nodes.filter (bit1 n)) := by
  cases b with
  | empty => exact ⟨.refl _, .refl _⟩
  | list ns =>
    have h := fun p => List.filter_append (p := p) (ns.take (lastRunStart n ns))
      (ns.drop (lastRunStart n ns))
    simp only [List.take_append_drop] at h
    rw [splitBin_list, nodes_ofNodes, nodes_ofNodes, splitList_eq, nodes_list, h, h]
    exact ⟨(List.reverse_perm _).append_right _, (List.reverse_perm _).append_right _⟩
  | tree t o =>
    obtain ⟨h1, h2⟩ := splitTree_nodes n t o
    rw [splitBin, h1, h2]
    exact ⟨.refl _, .refl _⟩

/-- a list with the nodes of a well-formed bin that satisfy `p`, in any order, as a bin -/
theorem binWF_ofNodes_filter {hash : Nat → Nat} {n i n' j : Nat} {b : Bin} {p : Node → Bool}
    {l : List Node} (hb : BinWF hash n i b) (hp : l.Perm (b.nodes.filter p))
    (hok : ∀ nd ∈ b.nodes.filter p, NodeOk hash n' j nd) : BinWF hash n' j (Bin.ofNodes l) :=
  binWF_ofNodes (fun nd hnd => hok nd (hp.subset hnd)) ((hb.keysNodup.filter p).perm hp.symm)

/-- the split of a well-formed bin for any power-of-two length (`i < n` is not needed) -/
theorem splitBin_wf' {hash : Nat → Nat} {n i : Nat} {b : Bin} (hn : IsPow2 n)
    (hb : BinWF hash n i b) :
    BinWF hash (2 * n) i (splitBin n b).1 ∧ BinWF hash (2 * n) (i + n) (splitBin n b).2 ∧
    ((splitBin n b).1.nodes ++ (splitBin n b).2.nodes).Perm b.nodes := by
  obtain ⟨p0, p1⟩ := splitBin_nodes_perm n b
  refine ⟨?_, ?_, (p0.append p1).trans (filter_bits_perm _ _)⟩
  · cases b with
    | empty => trivial
    | tree t o => exact (splitTree_wf hn hb).1
    | list ns =>
      rw [splitBin_list, nodes_ofNodes] at p0
      exact binWF_ofNodes_filter hb p0 (nodeOk_filter hn hb.nodeOk).1
  · cases b with
    | empty => trivial
    | tree t o => exact (splitTree_wf hn hb).2
    | list ns =>
      rw [splitBin_list, nodes_ofNodes] at p1
      exact binWF_ofNodes_filter hb p1 (nodeOk_filter hn hb.nodeOk).2

theorem splitBin_wf {hash : Nat → Nat} {k i : Nat} {b : Bin} (hb : BinWF hash (2 ^ k) i b) :
    BinWF hash (2 * 2 ^ k) i (splitBin (2 ^ k) b).1 ∧
    BinWF hash (2 * 2 ^ k) (i + 2 ^ k) (splitBin (2 ^ k) b).2 ∧
    ((splitBin (2 ^ k) b).1.nodes ++ (splitBin (2 ^ k) b).2.nodes).Perm b.nodes :=
  splitBin_wf' ⟨k, rfl⟩ hb

/-- a bin made of the nodes that satisfy `p` answers like the whole bin for a hash with `p` -/
theorem Bin.find_filter {hash : Nat → Nat} {n i n' j : Nat} {b b' : Bin} {p : Node → Bool}
    (hb : BinWF hash n i b) (hb' : BinWF hash n' j b') (hp : b'.nodes.Perm (b.nodes.filter p))
    {h : Nat} (hh : ∀ x : Node, x.hash = h → p x = true) (key : Nat) :
    b'.find h key = b.find h key := by
  apply Option.ext
  intro e
  rw [Bin.find_iff hb, Bin.find_iff hb', hp.mem_iff, List.mem_filter]
  exact ⟨fun ⟨⟨h1, _⟩, h2⟩ => ⟨h1, h2⟩, fun ⟨h1, h2⟩ => ⟨⟨h1, hh e h2.1⟩, h2⟩⟩

theorem splitBin_find {hash : Nat → Nat} {n i : Nat} {b : Bin} (hn : IsPow2 n)
    (hb : BinWF hash n i b) (h key : Nat) :
    (if runBit h n == 0 then (splitBin n b).1 else (splitBin n b).2).find h key = b.find h key := by
  obtain ⟨w0, w1, -⟩ := splitBin_wf' hn hb
  obtain ⟨p0, p1⟩ := splitBin_nodes_perm n b
  cases hc : runBit h n == 0
  · exact Bin.find_filter hb w1 p1 (fun x hx => by rw [bit1, hx, bne, hc]; rfl) key
  · exact Bin.find_filter hb w0 p0 (fun x hx => by rw [bit0, hx]; exact hc) key

end Flurry.Seq
