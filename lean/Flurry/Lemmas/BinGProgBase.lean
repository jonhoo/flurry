import Flurry.Lemmas.BinKStep
/-! # What the progress and termination proofs of `Proto/BinG` and `Proto/BinGN` share

Facts that mention no `State` of either model:
* how an inequality between two entries of the constant tables of the measures (`pmV`, `daV`, `grow`) is proved: by
  evaluation (`le_of_eval`, `lt_of_eval`), through the `if`s by which an entry reads the view (`ite_le` … `ite_lt_ite`);
* when an `Option`-valued branch of a step function is `some _`, and the three places where a step
  waits (the lock word of a node, the mutex of a `TreeBin`, the parked writer of its read-write lock),
  stated in the shape the branches have in `stepG`, so that they apply to a goal about `stepG` by
  unification;
* `rankL`, the measure of a walk along `next` pointers relative to a bound `L` of the heap length;
* the length of a chain and of the heap after a chain was copied;
* the arithmetic of the termination measure: `(n + 1) * 4 ^ g`, the bound of the heap length of every later state
  (`n` the heap length, `g` the number of threads that may still allocate), and the strict decrease of a measure
  `W * DA + PS` in two levels. -/
namespace Flurry.Proto.BinGProg
open Flurry.Proto.BinK (NodeS TBin nodeAt nodeAt_of_some NextOK rank rank_lt chainFrom copyChain copyChain_eq copiesOf_length
  lockSet nodeAt_modify)

/-- an inequality between entries of constant tables, by evaluation -/
theorem le_of_eval {a b : Nat} (h : Nat.ble a b = true) : a ≤ b := Nat.le_of_ble_eq_true h

theorem lt_of_eval {a b : Nat} (h : Nat.ble (a + 1) b = true) : a < b := Nat.le_of_ble_eq_true h

theorem ite_le {c : Prop} [Decidable c] {a b n : Nat} (ha : a ≤ n) (hb : b ≤ n) : (if c then a else b) ≤ n := by
  split
  · exact ha
  · exact hb

theorem le_ite {c : Prop} [Decidable c] {a b n : Nat} (ha : n ≤ a) (hb : n ≤ b) : n ≤ (if c then a else b) := by
  split
  · exact ha
  · exact hb

theorem ite_le_ite {c : Prop} [Decidable c] {a b a' b' : Nat} (ha : a ≤ a') (hb : b ≤ b') :
    (if c then a else b) ≤ (if c then a' else b') := by
  split
  · exact ha
  · exact hb

theorem ite_pos_lt {c : Prop} [Decidable c] {a b n : Nat} (hc : c) (h : a < n) : (if c then a else b) < n := by
  rw [if_pos hc]; exact h

theorem lt_ite_pos {c : Prop} [Decidable c] {a b n : Nat} (hc : c) (h : n < a) : n < (if c then a else b) := by
  rw [if_pos hc]; exact h

theorem lt_ite_neg {c : Prop} [Decidable c] {a b n : Nat} (hc : ¬ c) (h : n < b) : n < (if c then a else b) := by
  rw [if_neg hc]; exact h

theorem ite_lt_ite {c : Prop} [Decidable c] {a b a' b' : Nat} (ha : a < a') (hb : b < b') :
    (if c then a else b) < (if c then a' else b') := by
  split
  · exact ha
  · exact hb

theorem isSome_ite {σ : Type} {c : Prop} [Decidable c] {a b : Option σ} (ha : a.isSome = true)
    (hb : b.isSome = true) : (if c then a else b).isSome = true := by
  split
  · exact ha
  · exact hb

theorem ite_some_eq {σ : Type} {c : Prop} [Decidable c] {a b x : σ} (h : (if c then some a else some b) = some x)
    (hc : c) : x = a := by
  rw [if_pos hc] at h
  exact (Option.some.inj h).symm

theorem ite_some_eq_neg {σ : Type} {c : Prop} [Decidable c] {a b x : σ}
    (h : (if c then some a else some b) = some x) (hc : ¬ c) : x = b := by
  rw [if_neg hc] at h
  exact (Option.some.inj h).symm

/-- a branch that reads node `c` of the heap -/
theorem isSome_at {σ : Type} {heap : List NodeS} {c : Nat} (hc : c < heap.length) {f : NodeS → Option σ}
    (hf : ∀ n, (f n).isSome = true) :
    (match heap[c]? with
      | none => none
      | some n => f n).isSome = true := by
  rw [List.getElem?_eq_getElem hc]
  exact hf _

/-- taking the lock word of node `h` -/
theorem lockword_enabled {σ : Type} {heap : List NodeS} {h : Nat} (hc : h < heap.length) (k : NodeS → σ) :
    (match heap[h]? with
      | none => none
      | some n => if n.lock.isSome then none else some (k n)).isSome = true ∨
    (nodeAt heap h).lock.isSome = true := by
  rw [nodeAt_of_some (List.getElem?_eq_getElem hc), List.getElem?_eq_getElem hc]
  by_cases hk : heap[h].lock.isSome = true
  · exact .inr hk
  · left
    show (if heap[h].lock.isSome = true then none else some (k heap[h])).isSome = true
    rw [if_neg hk]; rfl

/-- taking the mutex of a `TreeBin` -/
theorem mutexword_enabled {σ : Type} (x : TBin) (k : σ) :
    (if x.mutex.isSome then none else some k).isSome = true ∨ x.mutex.isSome = true := by
  by_cases hk : x.mutex.isSome = true
  · exact .inr hk
  · exact .inl (by rw [if_neg hk]; rfl)

/-- the loop of `lock_root`: take the write lock, or set `WAITER`, or park -/
theorem lrLoop_enabled {σ : Type} (x : TBin) (a b : σ) :
    (if !x.writer && x.readers == 0 then some a else if !x.waiter then some b else none).isSome = true ∨
    (x.waiter = true ∧ (x.writer = true ∨ x.readers ≠ 0)) := by
  by_cases h1 : (!x.writer && x.readers == 0) = true
  · exact .inl (by rw [if_pos h1]; rfl)
  · by_cases h2 : (!x.waiter) = true
    · exact .inl (by rw [if_neg h1, if_pos h2]; rfl)
    · refine .inr ⟨by simpa using h2, ?_⟩
      cases hw : x.writer
      · exact .inr (by simpa [hw] using h1)
      · exact .inl rfl

/-- as `BinK.rank`, with `L` in place of the heap length. `BinG.rankL` and `BinGNP.rankL` are this definition once more,
in the namespace of each model, where its measure `pmV` is stated; their lemmas are the ones proved here. -/
def rankL (L : Nat) (next : Nat → Option Nat) (i : Nat) : Nat :=
  match next i with
  | some j => if j < i then L + i + 1 else L - i
  | none => L - i

theorem rankL_le (L : Nat) (next : Nat → Option Nat) (i : Nat) : rankL L next i ≤ L + i + 1 := by
  unfold rankL
  split
  · split <;> omega
  · omega

theorem rankL_mono {L L' : Nat} (h : L ≤ L') (next : Nat → Option Nat) (i : Nat) :
    rankL L next i ≤ rankL L' next i := by
  unfold rankL
  split
  · split <;> omega
  · omega

/-- inside the heap `rankL` is `rank`, shifted -/
theorem rankL_eq_rank_add {heap : List NodeS} {L : Nat} (hL : heap.length ≤ L) {i : Nat} (hi : i < heap.length) :
    rankL L (fun i => (nodeAt heap i).next) i = rank heap i + (L - heap.length) := by
  unfold rankL rank
  dsimp only
  cases (nodeAt heap i).next with
  | none => dsimp only; omega
  | some j => dsimp only; split <;> omega

theorem rankL_lt {heap : List NodeS} (hok : NextOK heap) {L : Nat} (hL : heap.length ≤ L) {i j : Nat} {n : NodeS}
    (hn : heap[i]? = some n) (hj : n.next = some j) :
    rankL L (fun i => (nodeAt heap i).next) j < rankL L (fun i => (nodeAt heap i).next) i := by
  rw [rankL_eq_rank_add hL (hok i n j hn hj).1, rankL_eq_rank_add hL (List.getElem?_eq_some_iff.1 hn).1]
  exact Nat.add_lt_add_right (rank_lt hok hn hj) _

theorem lockSet_next (heap : List NodeS) (h : Nat) (x : Option Nat) (i : Nat) :
    (nodeAt (lockSet heap h x) i).next = (nodeAt heap i).next := by
  unfold lockSet
  rw [nodeAt_modify]
  split <;> rfl

theorem lockSet_length (heap : List NodeS) (h : Nat) (x : Option Nat) : (lockSet heap h x).length = heap.length := by
  unfold lockSet; rw [List.length_modify]

theorem chainFrom_length_le (heap : List NodeS) : ∀ (fuel : Nat) (st : Option Nat),
    (chainFrom heap fuel st).length ≤ fuel
  | 0, _ => by simp [Flurry.Proto.BinK.chainFrom]
  | fuel + 1, none => by simp [Flurry.Proto.BinK.chainFrom]
  | fuel + 1, some i => by
    unfold Flurry.Proto.BinK.chainFrom
    split
    · simp
    · have := chainFrom_length_le heap fuel
      simp only [List.length_cons]
      rename_i n _
      have := this n.next
      omega

theorem copyChain_length (heap : List NodeS) (c : List Nat) (mk : NodeS → Option Nat → NodeS) :
    (copyChain heap c mk).1.length = heap.length + c.length := by
  rw [copyChain_eq]
  simp only [List.length_append, copiesOf_length]

theorem lt_succ_mul_four_pow (n g : Nat) : n < (n + 1) * 4 ^ g := by
  have : 0 < 4 ^ g := Nat.pow_pos (by omega)
  have := Nat.le_mul_of_pos_right (n + 1) this
  omega

/-- the bound does not grow when the heap keeps its length, nor when it at most quadruples (`n + 1`, that is) and one
thread fewer may allocate -/
theorem succ_mul_four_pow_le {n n' g g' : Nat}
    (h : (n' = n ∧ g' ≤ g) ∨ (n' + 1 ≤ 4 * (n + 1) ∧ g' + 1 ≤ g)) : (n' + 1) * 4 ^ g' ≤ (n + 1) * 4 ^ g := by
  rcases h with ⟨rfl, hg⟩ | ⟨hn, hg⟩
  · exact Nat.mul_le_mul_left _ (Nat.pow_le_pow_right (by omega) hg)
  · calc (n' + 1) * 4 ^ g' ≤ (4 * (n + 1)) * 4 ^ g' := Nat.mul_le_mul_right _ hn
      _ = (n + 1) * 4 ^ (g' + 1) := by rw [Nat.pow_succ]; ac_rfl
      _ ≤ (n + 1) * 4 ^ g := Nat.mul_le_mul_left _ (Nat.pow_le_pow_right (by omega) hg)

/-- the lower level drops, the upper level and its weight do not grow -/
theorem wsum_lt_of_lower {W W' DA DA' PS PS' : Nat} (hW : W' ≤ W) (hDA : DA' ≤ DA) (hPS : PS' + 1 ≤ PS) :
    W' * DA' + PS' < W * DA + PS := by
  have := Nat.mul_le_mul hW hDA
  omega

/-- the upper level drops: its weight `W = B + 1` pays for a lower level that is only known to be at most `B` -/
theorem wsum_lt_of_upper {W W' DA DA' PS PS' B : Nat} (hW : W' ≤ W) (hDA : DA' + 1 ≤ DA) (hPS : PS' ≤ B)
    (hB : W = B + 1) : W' * DA' + PS' < W * DA + PS := by
  have h1 : W' * DA' ≤ W * DA' := Nat.mul_le_mul_right _ hW
  have h2 : W * (DA' + 1) ≤ W * DA := Nat.mul_le_mul_left _ hDA
  have h3 : W * (DA' + 1) = W * DA' + W := by rw [Nat.mul_add, Nat.mul_one]
  omega

end Flurry.Proto.BinGProg
