import Flurry.Lemmas.TableGExamples
import Flurry.Lemmas.TableGQuiescent
/-! # Proto/TableG at quiescence: concrete instances (C05, non-vacuity)

The run of `Lemmas/TableGExamples.lean` (two lineages, two threads), looked at through `entries`:
* at its end (clock 100): both lineages transferred — lineage 0 by a list split, lineage 1 by a tree-bin
  split into two fresh `TreeBin`s — and committed; the iterator yields the four keys 0, 1, 5 (lineage 0)
  and 3 (lineage 1) with the values of the abstract map; key 2 was removed after the resize;
* in the middle (clock 49, also quiescent): lineage 0 is committed, lineage 1 has not been touched —
  the iterator walks the two cells of the next table in lineage 0 and the old cell (a `TreeBin`) in
  lineage 1. -/
namespace Flurry.Proto.TableG
open Flurry.Lin Flurry.LinMap

/-- the end of the run: a reachable quiescent table, both lineages resized (one of them by a tree-bin
transfer), with its entries and its abstract map on the keys `0 … 5` -/
theorem example_end :
    ∃ S : State, Reachable 2 2 S ∧ quiescent S ∧
      entries S = [(0, (30, 300)), (1, (10, 100)), (5, (50, 500)), (3, (41, 401))] ∧
      S.bins.map BinG.liveCells = [[.list 1, .list 2], [.tree 1, .tree 2]] ∧
      (List.range 6).map (absMap S) = exAbs := by
  have h := exRun
  simp only [Bool.and_eq_true] at h
  obtain ⟨S, hrun, h⟩ := (Option.any_eq_true _ _).1 h.2
  simp only [Bool.and_eq_true, beq_iff_eq] at h
  obtain ⟨⟨⟨⟨⟨⟨hq, -⟩, ha⟩, -⟩, he⟩, hl⟩, -⟩ := h
  exact ⟨S, run_reachable exSchedule Reachable.init hrun, (quiescentB_iff S).1 hq, he, hl, ha⟩

/-- the middle of the run: a reachable quiescent table with one lineage resized and the other not -/
theorem example_mid :
    ∃ S : State, Reachable 2 2 S ∧ quiescent S ∧
      entries S = [(0, (30, 300)), (1, (10, 100)), (2, (20, 200)), (3, (40, 400))] ∧
      S.bins.map BinG.liveCells = [[.list 1, .list 2], [.tree 0]] ∧
      shape S = [(.moved, .list 1, .list 2, .new, true, 49), (.tree 0, .empty, .empty, .old, false, 49)] := by
  have h := exRun
  simp only [Bool.and_eq_true] at h
  obtain ⟨S, hrun, h⟩ := (Option.any_eq_true _ _).1 h.1.1.2
  simp only [Bool.and_eq_true, beq_iff_eq] at h
  obtain ⟨⟨⟨⟨⟨hq, he⟩, hl⟩, hs⟩, -⟩, -⟩ := h
  exact ⟨S, run_reachable _ Reachable.init hrun, (quiescentB_iff S).1 hq, he, hl, hs⟩

end Flurry.Proto.TableG
