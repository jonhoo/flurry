import Flurry.Lemmas.BinGNPBase
import Flurry.Lemmas.BinGShared
import Flurry.Lemmas.GhostView
/-! # Proto/BinGN: the structural invariant `Inv` (definitions, and the lemmas that say what they abbreviate)

`Inv s = HInv s ∧ TInv s ∧ XInv s ∧ LInv s ∧ DInv s` over the cells `Cid = (g, j)`:
* `HInv`: every cell holds a well-formed structure (`CInv` of its list and tree); `side`: every key on the list / in the tree of
  cell `(g, j)` satisfies `key % 2^g = j`; `binsDistinct`: two cells hold the same `TreeBin` only while the transfer that
  re-uses it is past its first store (`Reusing`);
* `TInv`: program counters fit the pending call; times and uniqueness of invocation times (`GhostView.Threads`);
* `XInv`: the generations (`len`, `rows`, `old`, `newNotMoved`, `noResz`, `idx`, `pre`, `post`, `nextEmpty`, `tabNew`) and what
  the resizing thread knows of the children of the cell under transfer (`plan`: `Plan s j lo hi` is relative to the cell
  `(cur, j)` and the split bit `bitAt cur`);
* `LInv`: lock words, mutexes and read-write locks against the program counters; a validated thread sees its structure in
  its cell `cidOf s l` (the resizing thread works in `(cur, j)`, `xIdx`; every other thread in `idOf g (keyOf l)`);
* `DInv`: what a program counter knows of the structure it is validated for (`PcInv`, `KInv`), list = tree for a `TreeBin` in
  a cell.
`pend`, `PrivBin`, `PrivX` refer to the cell under transfer `(cur, j)` and its children `(cur+1, j)`, `(cur+1, j + 2^cur)`.
`Used` is not part of `Inv`: it is defined here for `KStep` (`Lemmas/BinGNPGhost.lean`). -/
namespace Flurry.Proto.BinGNP
open Flurry.Lin
open Flurry.Proto.BinK (nodeAt binAt NextOK IsChain IsSeg chainOf CInv absL)

def startOf (tbins : List TBin) : Cell → Option Nat
  | .list h => some h
  | .tree b => (binAt tbins b).first
  | _ => none

def chainC (s : State) (c : Cell) : List Nat := chainOf s.heap (startOf s.tbins c)

theorem chainOfCell_eq (s : State) (c : Cell) : chainOfCell s c = chainC s c := by
  unfold chainOfCell chainC chainOf startOf chainOfBin binAt
  cases c with
  | empty => simp only; rw [Flurry.Proto.BinK.chainFrom_none]
  | list h => rfl
  | tree b => rfl
  | moved => simp only; rw [Flurry.Proto.BinK.chainFrom_none]

theorem chainOfBin_eq (s : State) (b : Nat) : chainOfBin s b = chainC s (.tree b) := rfl

/-- the nodes in the tree of a structure -/
def treeOf (s : State) (c : Cell) (j : Nat) : Prop :=
  j < s.heap.length ∧ (nodeAt s.heap j).inTree = true ∧ ∃ b, c = .tree b ∧ (nodeAt s.heap j).owner = some b

theorem treeOf_empty (s : State) (j : Nat) : ¬ treeOf s .empty j := by
  rintro ⟨_, _, b, hb, _⟩; cases hb

def ownerOf : Cell → Option Nat
  | .tree b => some b
  | _ => none

/-- the cell a lookup of `k` ends in -/
def liveId (s : State) (k : Nat) : Cid :=
  if cellAt s (idOf s.cur k) = .moved then idOf (s.cur + 1) k else idOf s.cur k

/-- the live chain of key `k` -/
def LC (s : State) (k : Nat) : List Nat := chainC s (liveCell s k)

theorem absOf_eq (s : State) (k : Nat) : absOf s k = absL s.heap (LC s k) k := by
  unfold absOf absL LC nodeAt
  rw [chainOfCell_eq]
  cases (chainC s (liveCell s k)).find? (fun i => (s.heap.getD i dflt).key == k) <;> rfl

/-- the structure `C` holds exactly the nodes of the list `O` of the old structure `old` whose key
satisfies `sel`: as re-used nodes (a suffix of `O`, in the same order) or as copies (nodes not on `O`,
same key and value, in front of the re-used ones) -/
structure CopyOK (s : State) (old : Cell) (sel : Nat → Bool) (C : Cell) : Prop where
  notMoved : C ≠ .moved
  cinv : CInv s.heap (startOf s.tbins C) (treeOf s C)
  cellOK : ∀ b, C = .tree b → b < s.tbins.length
  chainOwner : ∀ j ∈ chainC s C, (nodeAt s.heap j).owner = ownerOf C
  selOK : ∀ j, (j ∈ chainC s C ∨ treeOf s C j) → sel (nodeAt s.heap j).key = true
  src : ∀ j ∈ chainC s C, j ∉ chainC s old → ∃ i ∈ chainC s old, (nodeAt s.heap i).key = (nodeAt s.heap j).key ∧
    (nodeAt s.heap i).val = (nodeAt s.heap j).val ∧ ∀ r ∈ chainC s old, r ∈ chainC s C → List.Sublist [i, r] (chainC s old)
  cover : ∀ i ∈ chainC s old, sel (nodeAt s.heap i).key = true → ∃ j ∈ chainC s C,
    (nodeAt s.heap j).key = (nodeAt s.heap i).key ∧ (nodeAt s.heap j).val = (nodeAt s.heap i).val ∧
    (j = i ∨ j ∉ chainC s old)
  suffix : ∀ r ∈ chainC s old, r ∈ chainC s C → ∀ i ∈ chainC s old, List.Sublist [r, i] (chainC s old) → i ∈ chainC s C
  order : ∀ i c, i ∈ chainC s old → c ∈ chainC s old → List.Sublist [i, c] (chainC s C) → List.Sublist [i, c] (chainC s old)
  /-- a `TreeBin` other than the old one is fresh: default synchronisation words, the tree holds
  exactly the nodes of the list, none of which is an old node -/
  fresh : ∀ b, C = .tree b → old ≠ .tree b →
    binAt s.tbins b = { first := (binAt s.tbins b).first } ∧
    (∀ j, j < s.heap.length → ((nodeAt s.heap j).owner = some b ↔ j ∈ chainC s C)) ∧
    (∀ j ∈ chainC s C, (nodeAt s.heap j).inTree = true)

theorem CopyOK.toH {s : State} {old : Cell} {sel : Nat → Bool} {C : Cell} (h : CopyOK s old sel C) :
    Flurry.Proto.BinGS.CopyH s.heap (chainC s old) (chainC s C) (treeOf s C) sel (ownerOf C) :=
  ⟨h.chainOwner, h.selOK, h.src, h.cover, h.suffix, h.order⟩

/-- the transfer of cell `(cur, j0)` re-uses the `TreeBin` `b` of that cell for a child (`reused_bin` in flurry's `transfer`:
one side of the split is empty) and is past its first store; only then may two cells hold `b`
(`HInv.binsDistinct`) -/
def Reusing (s : State) (b j0 : Nat) : Prop :=
  ∃ (t : Nat) (l : Local), s.threads[t]? = some l ∧
    ((∃ hi, l.pc = .xStoreHigh j0 (.inr b) hi) ∨ l.pc = .xStoreMoved j0 (.inr b))

structure HInv (s : State) : Prop where
  cinv : ∀ id, CInv s.heap (startOf s.tbins (cellAt s id)) (treeOf s (cellAt s id))
  ownerOK : ∀ j b, (nodeAt s.heap j).owner = some b → b < s.tbins.length
  firstOK : ∀ b h, (binAt s.tbins b).first = some h → h < s.heap.length
  cellOK : ∀ id b, cellAt s id = .tree b → b < s.tbins.length
  chainOwner : ∀ id, ∀ j ∈ chainC s (cellAt s id), (nodeAt s.heap j).owner = ownerOf (cellAt s id)
  /-- every key on the list / in the tree of cell `(g, j)` belongs to the cell -/
  side : ∀ id : Cid, ∀ j, (j ∈ chainC s (cellAt s id) ∨ treeOf s (cellAt s id) j) →
    (nodeAt s.heap j).key % 2 ^ id.1 = id.2
  /-- two cells hold the same `TreeBin` only while the transfer that re-uses it is past its first store -/
  binsDistinct : ∀ (id id' : Cid) b, cellAt s id = .tree b → cellAt s id' = .tree b → id = id' ∨
    ∃ j0, Reusing s b j0 ∧ ((id = (s.cur, j0) ∧ id'.1 = s.cur + 1 ∧ id'.2 % 2 ^ s.cur = j0) ∨
      (id' = (s.cur, j0) ∧ id.1 = s.cur + 1 ∧ id.2 % 2 ^ s.cur = j0))

/-- `NextOK` speaks of the whole heap and is a field of `CInv` of every cell; any cell gives it -/
theorem HInv.nextOK {s : State} (H : HInv s) : NextOK s.heap := (H.cinv (0, 0)).nextOK

def readerPc : Pc → Bool
  | .rTable _ | .rCell _ _ | .rNode _ | .rFirst _ | .rState _ _ | .rLin _ _ | .rCas _ _ _ | .rTree _
  | .rRelease _ _ | .rVal _ | .lFirst _ | .lNode _ => true
  | _ => false

/-- program counters of the treeify thread -/
def kPc : Pc → Bool
  | .kTable _ | .kCell _ _ | .kLock _ _ _ | .kCheck _ _ _ | .kBuild _ _ _ | .kStore _ _ _ _ | .kUnlock _ => true
  | _ => false

/-- program counters of the resizing thread -/
def xPc : Pc → Bool
  | .xNext | .xCell _ | .xCasMoved _ | .xLock _ _ | .xCheck _ _ | .xBuild _ _ | .yMutex _ _ | .yCheck _ _ | .yBuild _ _
  | .xStoreLow _ _ _ _ | .xStoreHigh _ _ _ | .xStoreMoved _ _ | .xUnlock _ | .xCommit => true
  | _ => false

/-- program counters without a call in flight -/
def noCallPc (pc : Pc) : Bool := pc == .idle || kPc pc || xPc pc

def unlL : Nat ⊕ Nat → Option Nat
  | .inl h => some h
  | .inr _ => none

def unlT : Nat ⊕ Nat → Option Nat
  | .inl _ => none
  | .inr b => some b

/-- holds the lock word of node `h` -/
def holdsLock : Pc → Option Nat
  | .wCheck _ h | .wFind _ h _ _ | .wStore _ h _ _ _ | .wUnlock _ h _ _ => some h
  | .kCheck _ _ h | .kBuild _ _ h | .kStore _ _ h _ | .kUnlock h => some h
  | .xCheck _ h | .xBuild _ h => some h
  | .xStoreLow _ unl _ _ | .xStoreHigh _ unl _ | .xStoreMoved _ unl | .xUnlock unl => unlL unl
  | _ => none

/-- the table a program counter works in -/
def tabOf : Pc → Option Nat
  | .rCell _ tab | .wCell tab | .wCas tab | .wLock tab _ | .wCheck tab _ | .wFind tab _ _ _
  | .wStore tab _ _ _ _ | .wUnlock tab _ _ _ => some tab
  | .tMutex tab _ | .tCheck tab _ | .tFind tab _ | .tVal tab _ _ _ _ | .lrTry tab _ _ _ | .lrLoop tab _ _ _
  | .tPrependLocked tab _ | .tTreeLinkLocked tab _ _ | .tUnlinkLocked tab _ _ _ | .tRestructure tab _ _ _
  | .tUnlockRoot tab _ _ | .tUntreeify tab _ _ | .tUnlockM tab _ _ _ => some tab
  | .kCell tab _ | .kLock tab _ _ | .kCheck tab _ _ | .kBuild tab _ _ | .kStore tab _ _ _ => some tab
  | _ => none

/-- the key whose cell the thread works in -/
def keyOf (l : Local) : Nat :=
  match l.pc, l.call with
  | .kCell _ k, _ | .kLock _ k _, _ | .kCheck _ k _, _ | .kBuild _ k _, _ | .kStore _ k _ _, _ => k
  | _, some p => p.key
  | _, none => 0

/-- the cell (of generation `cur`) the resizing thread is transferring -/
def xIdx : Pc → Option Nat
  | .xCell j | .xCasMoved j | .xLock j _ | .xCheck j _ | .xBuild j _ | .yMutex j _ | .yCheck j _ | .yBuild j _
  | .xStoreLow j _ _ _ | .xStoreHigh j _ _ | .xStoreMoved j _ => some j
  | _ => none

/-- the cell the thread works in; `(0, 0)` for a program counter that has neither `xIdx` nor `tabOf`. That value is never
meant: `LInv.vL` / `vT` read `cidOf` of validated threads only, and every validated program counter has one of the two. -/
def cidOf (s : State) (l : Local) : Cid :=
  match xIdx l.pc with
  | some j => (s.cur, j)
  | none =>
    match tabOf l.pc with
    | some tab => idOf tab (keyOf l)
    | none => (0, 0)

/-- past the successful re-check of its cell against `list h`, before its store -/
def validL : Pc → Option Nat
  | .wFind _ h _ _ | .wStore _ h _ _ _ | .kBuild _ _ h | .kStore _ _ h _ => some h
  | .xBuild _ h => some h
  | .xStoreLow _ unl _ _ | .xStoreHigh _ unl _ | .xStoreMoved _ unl => unlL unl
  | _ => none

/-- holds the mutex of `TreeBin` `b` -/
def holdsMutex : Pc → Option Nat
  | .tCheck _ b | .tFind _ b | .tVal _ b _ _ _ | .lrTry _ b _ _ | .lrLoop _ b _ _ | .tPrependLocked _ b
  | .tTreeLinkLocked _ b _ | .tUnlinkLocked _ b _ _ | .tRestructure _ b _ _ | .tUnlockRoot _ b _
  | .tUntreeify _ b _ | .tUnlockM _ b _ _ => some b
  | .yCheck _ b | .yBuild _ b => some b
  | .xStoreLow _ unl _ _ | .xStoreHigh _ unl _ | .xStoreMoved _ unl | .xUnlock unl => unlT unl
  | _ => none

/-- past the successful re-check of its cell against `tree b`, before the untreeify / forwarding store -/
def validT : Pc → Option Nat
  | .tFind _ b | .tVal _ b _ _ _ | .lrTry _ b _ _ | .lrLoop _ b _ _ | .tPrependLocked _ b
  | .tTreeLinkLocked _ b _ | .tUnlinkLocked _ b _ _ | .tRestructure _ b _ _ | .tUnlockRoot _ b _
  | .tUntreeify _ b _ => some b
  | .yBuild _ b => some b
  | .xStoreLow _ unl _ _ | .xStoreHigh _ unl _ | .xStoreMoved _ unl => unlT unl
  | _ => none

/-- holds the write lock of its `TreeBin` -/
def wr : Pc → Bool
  | .tPrependLocked _ _ | .tTreeLinkLocked _ _ _ | .tUnlinkLocked _ _ _ _ | .tRestructure _ _ _ _
  | .tUnlockRoot _ _ _ | .tUntreeify _ _ _ => true
  | _ => false

def isLoop : Pc → Bool
  | .lrLoop _ _ _ _ => true
  | _ => false

/-- holds a read lock of `TreeBin` `b` -/
def holdsRead : Pc → Option Nat
  | .rTree b | .rRelease b _ => some b
  | _ => none

/-- the `TreeBin` a program counter refers to -/
def binRef : Pc → Option Nat
  | .rFirst b | .rState b _ | .rLin b _ | .rCas b _ _ | .rTree b | .rRelease b _ | .lFirst b | .tMutex _ b => some b
  | .tCheck _ b | .tFind _ b | .tVal _ b _ _ _ | .lrTry _ b _ _ | .lrLoop _ b _ _ | .tPrependLocked _ b
  | .tTreeLinkLocked _ b _ | .tUnlinkLocked _ b _ _ | .tRestructure _ b _ _ | .tUnlockRoot _ b _
  | .tUntreeify _ b _ | .tUnlockM _ b _ _ => some b
  | .yMutex _ b | .yCheck _ b | .yBuild _ b => some b
  | .xStoreLow _ unl _ _ | .xStoreHigh _ unl _ | .xStoreMoved _ unl | .xUnlock unl => unlT unl
  | _ => none

/-- the structures a thread has built (or stored into a cell that is not yet live) but not yet published -/
def pend (s : State) : Pc → List Cell
  | .kStore _ _ _ b => [.tree b]
  | .xStoreLow _ _ lo hi => [lo, hi]
  | .xStoreHigh j _ hi => [cellAt s (s.cur + 1, j), hi]
  | .xStoreMoved j _ => [cellAt s (s.cur + 1, j), cellAt s (s.cur + 1, j + 2 ^ s.cur)]
  | _ => []

/-- a `TreeBin` that is built but not yet published (the re-used bin of a transfer is in the old cell) -/
def PrivBin (s : State) (b : Nat) : Prop :=
  ∃ (t : Nat) (l : Local), s.threads[t]? = some l ∧ (.tree b : Cell) ∈ pend s l.pc ∧
    ∀ j, xIdx l.pc = some j → cellAt s (s.cur, j) ≠ .tree b

/-- private nodes of a treeify: the nodes of its unpublished `TreeBin` -/
def PrivK (s : State) (j : Nat) : Prop :=
  ∃ (t : Nat) (l : Local) (tab : Nat) (k h b : Nat), s.threads[t]? = some l ∧ l.pc = .kStore tab k h b ∧
    (nodeAt s.heap j).owner = some b

/-- private nodes of the transfer: the copies in the new structures that are not yet live -/
def PrivX (s : State) (j : Nat) : Prop :=
  ∃ (t : Nat) (l : Local) (C : Cell), s.threads[t]? = some l ∧ xPc l.pc = true ∧ C ∈ pend s l.pc ∧
    j ∈ chainC s C ∧ ∀ j0, xIdx l.pc = some j0 → j ∉ chainC s (cellAt s (s.cur, j0))

/-- nodes that may still be written or linked: on the chain of a cell, or private -/
def Used (s : State) (j : Nat) : Prop :=
  (∃ id, j ∈ chainC s (cellAt s id)) ∨ PrivK s j ∨ PrivX s j

def cnt (q : Pc → Bool) (ls : List Local) : Nat := (ls.filter (fun l => q l.pc)).length

def PcOp (pc : Pc) (op : KOp) : Prop := noCallPc pc = false → isReader op = readerPc pc

structure TInv (s : State) : Prop where
  opOK : ∀ (t : Nat) (l : Local) (p : Pending), s.threads[t]? = some l → l.call = some p → PcOp l.pc p.op
  callOK : ∀ (t : Nat) (l : Local), s.threads[t]? = some l → (l.call = none ↔ noCallPc l.pc = true)
  histTime : ∀ x ∈ s.hist, x.2.inv ≤ x.2.resp ∧ x.2.resp ≤ s.now
  pendTime : ∀ (t : Nat) (l : Local) (p : Pending), s.threads[t]? = some l → l.call = some p → p.inv ≤ s.now
  uniqHP : ∀ x ∈ s.hist, ∀ (t : Nat) (l : Local) (p : Pending), s.threads[t]? = some l → l.call = some p →
    x.2.inv ≠ p.inv
  uniqPP : ∀ (t t' : Nat) (l l' : Local) (p p' : Pending), s.threads[t]? = some l → s.threads[t']? = some l' →
    l.call = some p → l'.call = some p' → p.inv = p'.inv → t = t'
  uniqHH : s.hist.Pairwise (fun x y => x.2.inv ≠ y.2.inv)

/-- the result of a writer that is past its linearization point -/
def resOfPc : Pc → Option KRes
  | .wUnlock _ _ res false => some res
  | .tUnlockM _ _ res false => some res
  | .tTreeLinkLocked _ _ _ => some .none
  | .tRestructure _ _ _ res => some res
  | .tUnlockRoot _ _ res => some res
  | .tUntreeify _ _ res => some res
  | _ => none

/-- how the ghost layer reads a thread -/
@[reducible] def view : GhostView.View Local Pending KOp KRes :=
  ⟨fun l => l.call, fun l => resOfPc l.pc, fun p => p.key, fun p => p.op, fun p => p.inv⟩

theorem TInv.gen {s : State} (T : TInv s) :
    GhostView.Threads Lin.sig view (fun l p => PcOp l.pc p.op) s.threads s.hist s.now :=
  ⟨T.opOK, T.histTime, T.pendTime, T.uniqHP, T.uniqPP, T.uniqHH⟩

theorem TInv.of_gen {s : State}
    (T : GhostView.Threads Lin.sig view (fun l p => PcOp l.pc p.op) s.threads s.hist s.now)
    (hc : ∀ (t : Nat) (l : Local), s.threads[t]? = some l → (l.call = none ↔ noCallPc l.pc = true)) : TInv s :=
  ⟨T.opOK, hc, T.histTime, T.pendTime, T.uniqHP, T.uniqPP, T.uniqHH⟩

/-- the low child of the cell under transfer has been stored (and the forwarding marker has not) -/
def lowStored : Pc → Option Nat
  | .xStoreHigh j _ _ | .xStoreMoved j _ => some j
  | _ => none

def highStored : Pc → Option Nat
  | .xStoreMoved j _ => some j
  | _ => none

/-- the resizing thread works on cell `(cur, j)`, which is not forwarded (it has seen it non-empty, or is about
to CAS it) -/
def xPre : Pc → Bool
  | .xCasMoved _ | .xLock _ _ | .xCheck _ _ | .xBuild _ _ | .yMutex _ _ | .yCheck _ _ | .yBuild _ _
  | .xStoreLow _ _ _ _ | .xStoreHigh _ _ _ | .xStoreMoved _ _ => true
  | _ => false

def sideSel (g : Nat) (b : Bool) : Nat → Bool := fun k => bitAt g k == b

/-- the two new structures are the two sides of the chain of the old cell `(cur, j)` -/
structure Plan (s : State) (j : Nat) (lo hi : Cell) : Prop where
  low : CopyOK s (cellAt s (s.cur, j)) (sideSel s.cur false) lo
  high : CopyOK s (cellAt s (s.cur, j)) (sideSel s.cur true) hi
  distinct : ∀ b, lo = .tree b → hi ≠ .tree b

/-- what the program counter of the resizing thread says about the children of the cell under transfer -/
def XPc (s : State) : Pc → Prop
  | .xStoreLow j _ lo hi => Plan s j lo hi
  | .xStoreHigh j _ hi => Plan s j (cellAt s (s.cur + 1, j)) hi
  | .xStoreMoved j _ => Plan s j (cellAt s (s.cur + 1, j)) (cellAt s (s.cur + 1, j + 2 ^ s.cur))
  | _ => True

/-- the transfer in progress has stored child `j'` -/
def StoredW (s : State) (j' : Nat) : Prop :=
  ∃ (t : Nat) (l : Local), s.threads[t]? = some l ∧
    (lowStored l.pc = some j' ∨ ∃ j, highStored l.pc = some j ∧ j' = j + 2 ^ s.cur)

structure XInv (s : State) : Prop where
  uniqX : ∀ (t t' : Nat) (l l' : Local), s.threads[t]? = some l → s.threads[t']? = some l' →
    xPc l.pc = true → xPc l'.pc = true → t = t'
  resz : ∀ (t : Nat) (l : Local), s.threads[t]? = some l → xPc l.pc = true → s.resizing = true
  /-- the shape of the tables: generations `0 … cur` (+ `cur + 1` while a resize runs), `2^g` cells each -/
  len : s.tabs.length = s.cur + 1 + (if s.resizing then 1 else 0)
  rows : ∀ g row, s.tabs[g]? = some row → row.length = 2 ^ g
  /-- every cell of a generation older than `cur` is forwarded -/
  old : ∀ g j, g < s.cur → j < 2 ^ g → cellAt s (g, j) = .moved
  /-- no cell of the next generation is forwarded -/
  newNotMoved : ∀ j, cellAt s (s.cur + 1, j) ≠ .moved
  noResz : s.resizing = false → ∀ j, cellAt s (s.cur, j) ≠ .moved
  idx : ∀ (t : Nat) (l : Local) (j : Nat), s.threads[t]? = some l → xIdx l.pc = some j → j < 2 ^ s.cur
  /-- while the resizing thread works on a cell (past its load), the cell is not forwarded -/
  pre : ∀ (t : Nat) (l : Local) (j : Nat), s.threads[t]? = some l → xPre l.pc = true → xIdx l.pc = some j →
    cellAt s (s.cur, j) ≠ .moved
  /-- the resizing thread commits only when every cell is forwarded -/
  post : ∀ (t : Nat) (l : Local), s.threads[t]? = some l → l.pc = .xCommit → ∀ j, j < 2 ^ s.cur →
    cellAt s (s.cur, j) = .moved
  /-- cells of the generation being filled are empty until the transfer of their parent stores them -/
  nextEmpty : ∀ j', cellAt s (s.cur + 1, j') ≠ .empty → cellAt s (s.cur, j' % 2 ^ s.cur) = .moved ∨ StoredW s j'
  /-- a thread works in a generation `≤ cur + 1`, and in `cur + 1` only behind a forwarding marker (it got there as
  `help_transfer` does: it found `moved` in the cell of its key and continued in the next table) -/
  tabNew : ∀ (t : Nat) (l : Local) (g : Nat), s.threads[t]? = some l → tabOf l.pc = some g →
    g ≤ s.cur + 1 ∧ (g = s.cur + 1 → cellAt s (idOf s.cur (keyOf l)) = .moved)
  plan : ∀ (t : Nat) (l : Local), s.threads[t]? = some l → XPc s l.pc

/-- `XInv` without `plan`: the part that speaks of tables, generations and the resizing thread only. The twelve fields
repeat those of `XInv` word for word and `XShape.xinv` / `XInv.shape` (`Lemmas/BinGNPShape.lean`) pass them by position: a
clause added to `XInv` that does not speak of plans is added here and in both conversions. -/
structure XShape (s : State) : Prop where
  uniqX : ∀ (t t' : Nat) (l l' : Local), s.threads[t]? = some l → s.threads[t']? = some l' →
    xPc l.pc = true → xPc l'.pc = true → t = t'
  resz : ∀ (t : Nat) (l : Local), s.threads[t]? = some l → xPc l.pc = true → s.resizing = true
  len : s.tabs.length = s.cur + 1 + (if s.resizing then 1 else 0)
  rows : ∀ g row, s.tabs[g]? = some row → row.length = 2 ^ g
  old : ∀ g j, g < s.cur → j < 2 ^ g → cellAt s (g, j) = .moved
  newNotMoved : ∀ j, cellAt s (s.cur + 1, j) ≠ .moved
  noResz : s.resizing = false → ∀ j, cellAt s (s.cur, j) ≠ .moved
  idx : ∀ (t : Nat) (l : Local) (j : Nat), s.threads[t]? = some l → xIdx l.pc = some j → j < 2 ^ s.cur
  pre : ∀ (t : Nat) (l : Local) (j : Nat), s.threads[t]? = some l → xPre l.pc = true → xIdx l.pc = some j →
    cellAt s (s.cur, j) ≠ .moved
  post : ∀ (t : Nat) (l : Local), s.threads[t]? = some l → l.pc = .xCommit → ∀ j, j < 2 ^ s.cur →
    cellAt s (s.cur, j) = .moved
  nextEmpty : ∀ j', cellAt s (s.cur + 1, j') ≠ .empty → cellAt s (s.cur, j' % 2 ^ s.cur) = .moved ∨ StoredW s j'
  tabNew : ∀ (t : Nat) (l : Local) (g : Nat), s.threads[t]? = some l → tabOf l.pc = some g →
    g ≤ s.cur + 1 ∧ (g = s.cur + 1 → cellAt s (idOf s.cur (keyOf l)) = .moved)

theorem XShape.xinv {s : State} (X : XShape s) (hplan : ∀ (t : Nat) (l : Local), s.threads[t]? = some l → XPc s l.pc) :
    XInv s :=
  ⟨X.uniqX, X.resz, X.len, X.rows, X.old, X.newNotMoved, X.noResz, X.idx, X.pre, X.post, X.nextEmpty, X.tabNew, hplan⟩

structure LInv (s : State) : Prop where
  lk : ∀ (t : Nat) (l : Local) (h : Nat), s.threads[t]? = some l →
    (holdsLock l.pc = some h ↔ (nodeAt s.heap h).lock = some t)
  lkValid : ∀ h x, (nodeAt s.heap h).lock = some x → x < s.threads.length
  vL : ∀ (t : Nat) (l : Local) (h : Nat), s.threads[t]? = some l → validL l.pc = some h →
    cellAt s (cidOf s l) = .list h
  mx : ∀ (t : Nat) (l : Local) (b : Nat), s.threads[t]? = some l →
    (holdsMutex l.pc = some b ↔ (binAt s.tbins b).mutex = some t)
  mxValid : ∀ b x, (binAt s.tbins b).mutex = some x → x < s.threads.length
  vT : ∀ (t : Nat) (l : Local) (b : Nat), s.threads[t]? = some l → validT l.pc = some b →
    cellAt s (cidOf s l) = .tree b
  bitsNone : ∀ id b, cellAt s id = .tree b → (binAt s.tbins b).mutex = none →
    (binAt s.tbins b).writer = false ∧ (binAt s.tbins b).waiter = false
  bitsSome : ∀ (id : Cid) (b t : Nat) (l : Local), cellAt s id = .tree b → s.threads[t]? = some l →
    (binAt s.tbins b).mutex = some t →
    (binAt s.tbins b).writer = wr l.pc ∧ ((binAt s.tbins b).waiter = true → isLoop l.pc = true)
  rd : ∀ b, b < s.tbins.length →
    (binAt s.tbins b).readers = cnt (fun pc => holdsRead pc == some b) s.threads
  wrd : ∀ b, (binAt s.tbins b).writer = true → (binAt s.tbins b).readers = 0
  refOK : ∀ (t : Nat) (l : Local) (b : Nat), s.threads[t]? = some l → binRef l.pc = some b →
    b < s.tbins.length ∧ ¬ PrivBin s b

/-- the thread is past a successful re-check of its cell -/
def validated (pc : Pc) : Bool := (validL pc).isSome || (validT pc).isSome

/-- the walk of a validated list-bin writer looking for `key` on the list from `h`: the nodes passed
are the prefix `l1` (none of them has the key), `pred` is the last of them, `cur` the next -/
def Walk (s : State) (h key : Nat) (pred cur : Option Nat) : Prop :=
  ∃ l1 l2, chainOf s.heap (some h) = l1 ++ l2 ∧ cur = l2.head? ∧ pred = l1.getLast? ∧
    ∀ j ∈ l1, (nodeAt s.heap j).key ≠ key

/-- the writer has found the node `i` of the list of bin `b` and will make `p`'s result `res` by removing it -/
def RemOK (s : State) (b : Nat) (p : Pending) (i : Nat) (res : KRes) : Prop :=
  i ∈ chainOfBin s b ∧ (nodeAt s.heap i).inTree = true ∧ (nodeAt s.heap i).key = p.key ∧
    specStep (some (nodeAt s.heap i).val) p.op = (none, res)

/-- no node of the tree of `b` has the key of `p` -/
def FreshOK (s : State) (b : Nat) (p : Pending) : Prop :=
  ∀ j, j < s.heap.length → (nodeAt s.heap j).owner = some b → (nodeAt s.heap j).inTree = true →
    (nodeAt s.heap j).key ≠ p.key

def PcInv (s : State) (p : Pending) : Pc → Prop
  | .rNode (some c) => c < s.heap.length
  | .rState _ (some c) => c < s.heap.length
  | .rCas _ c _ => c < s.heap.length
  | .rLin _ c => c < s.heap.length
  | .lNode (some c) => c < s.heap.length
  | .rVal _ => p.op ≠ .has
  | .wFind _ h pred cur => Walk s h p.key pred cur
  | .wStore _ h pred hit hnext => Walk s h p.key pred hit ∧
      ∀ i, hit = some i → (nodeAt s.heap i).key = p.key ∧ hnext = (nodeAt s.heap i).next
  | .tVal _ b i v res => i ∈ chainOfBin s b ∧ (nodeAt s.heap i).key = p.key ∧
      specStep (some (nodeAt s.heap i).val) p.op = (some v, res)
  | .lrTry _ b .insert _ => FreshOK s b p
  | .lrLoop _ b .insert _ => FreshOK s b p
  | .tPrependLocked _ b => FreshOK s b p
  | .tTreeLinkLocked _ b x => x ∈ chainOfBin s b ∧ (nodeAt s.heap x).inTree = false ∧ (nodeAt s.heap x).key = p.key ∧
      FreshOK s b p
  | .lrTry _ b (.remove i) res => RemOK s b p i res
  | .lrLoop _ b (.remove i) res => RemOK s b p i res
  | .tUnlinkLocked _ b i res => RemOK s b p i res
  | .tRestructure _ b i _ => i ∉ chainOfBin s b ∧ (nodeAt s.heap i).inTree = true ∧ i < s.heap.length ∧
      (nodeAt s.heap i).owner = some b
  | _ => True

/-- the private `TreeBin` of a treeify is a copy of the list from `h` and is in no cell -/
def KInv (s : State) : Pc → Prop
  | .kStore _ _ h b => CopyOK s (.list h) (fun _ => true) (.tree b) ∧ ∀ id, cellAt s id ≠ .tree b
  | _ => True

structure DInv (s : State) : Prop where
  pcInv : ∀ (t : Nat) (l : Local) (p : Pending), s.threads[t]? = some l → l.call = some p → PcInv s p l.pc
  kInv : ∀ (t : Nat) (l : Local), s.threads[t]? = some l → KInv s l.pc
  /-- a node in the tree of a `TreeBin` that is in a cell is on its list, unless a remover is about to
  take it out of the tree (or to untreeify) -/
  treeSub : ∀ id b, cellAt s id = .tree b → ∀ j, j < s.heap.length → (nodeAt s.heap j).owner = some b →
    (nodeAt s.heap j).inTree = true → j ∉ chainOfBin s b →
    ∃ (t : Nat) (l : Local), s.threads[t]? = some l ∧
      ((∃ tab res, l.pc = .tRestructure tab b j res) ∨ (∃ tab res, l.pc = .tUntreeify tab b res))
  /-- a node on the list of a `TreeBin` that is in a cell is in its tree, unless an inserter is about
  to link it -/
  chainSub : ∀ id b, cellAt s id = .tree b → ∀ j ∈ chainOfBin s b, (nodeAt s.heap j).inTree = false →
    ∃ (t : Nat) (l : Local) (tab : Nat), s.threads[t]? = some l ∧ l.pc = .tTreeLinkLocked tab b j

structure Inv (s : State) : Prop where
  heap : HInv s
  thr : TInv s
  rsz : XInv s
  lock : LInv s
  data : DInv s

end Flurry.Proto.BinGNP
