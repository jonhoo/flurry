import Flurry.Gen.Arith
/-! Bit arithmetic of bin indices: the generated `bini` (`hash & (len-1)`) and `runBit`
(`hash & n`) for power-of-two table lengths. -/
namespace Flurry
open Flurry.Gen

theorem bini_eq_mod (h k : Nat) : bini h (2 ^ k) = h % 2 ^ k := by
  simp only [bini]
  exact Nat.and_two_pow_sub_one_eq_mod h k

theorem bini_lt (h k : Nat) : bini h (2 ^ k) < 2 ^ k := by
  rw [bini_eq_mod]; exact Nat.mod_lt _ (Nat.two_pow_pos k)

theorem runBit_eq (h k : Nat) : runBit h (2 ^ k) = (h / 2 ^ k % 2) * 2 ^ k := by
  have := Nat.div_add_mod (h &&& 2 ^ k) (2 ^ k)
  rw [Nat.and_div_two_pow, Nat.and_mod_two_pow, Nat.mod_self, Nat.and_zero, Nat.add_zero,
    Nat.div_self (Nat.two_pow_pos k), Nat.and_one_is_mod, Nat.mul_comm] at this
  exact this.symm

theorem runBit_cases (h k : Nat) : runBit h (2 ^ k) = 0 ∨ runBit h (2 ^ k) = 2 ^ k := by
  rw [runBit_eq]
  rcases Nat.mod_two_eq_zero_or_one (h / 2 ^ k) with h0 | h1
  · left; simp [h0]
  · right; simp [h1]

/-- the bin index in the doubled table is the old index, plus `n` iff the split bit is set -/
theorem bini_double (h k : Nat) : bini h (2 ^ (k + 1)) = bini h (2 ^ k) + runBit h (2 ^ k) := by
  rw [bini_eq_mod, bini_eq_mod, runBit_eq, Nat.pow_succ, Nat.mod_mul, Nat.mul_comm (2 ^ k)]

end Flurry
