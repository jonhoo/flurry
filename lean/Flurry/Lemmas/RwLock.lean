import Flurry.Lemmas.RwLockBasic
import Flurry.Lemmas.RwLockInv
import Flurry.Lemmas.RwLockThms
import Flurry.Lemmas.RwLockProgress
import Flurry.Lemmas.RwLockDrain
import Flurry.Lemmas.RwLockRuns

