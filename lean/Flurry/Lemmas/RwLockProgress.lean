import Flurry.Lemmas.RwLockThms
/-! # Lemmas/RwLockProgress: reader-only runs, and where the token and the wake-up pcs come from

`ReaderRun` (runs in which only readers step) with `park_token_when_readers_done`; then a measure
that nothing uses; then provenance: only a reader at `unpark` sets the token
(`token_set_only_by_unpark`), `unpark` is entered only from `loadWaiter` under a published handle,
`loadWaiter` only by the last reader out of a lock word `READER + WAITER`. -/
namespace Flurry.Proto.RwLock
open Flurry.Gen

theorem stepReader_wpc {s s' : State} {i : Nat} {more : Bool} (hs : stepReader s i more = some s') :
    s'.wpc = s.wpc ∧ s'.waiting = s.waiting ∧ s'.waiterSet = s.waiterSet := by
  rw [stepReader_eq] at hs
  obtain ⟨pc, -, rfl⟩ := Option.map_eq_some_iff.mp hs
  exact ⟨rfl, rfl, rfl⟩

inductive ReaderRun : State → State → Prop
  | refl (s : State) : ReaderRun s s
  | step {s s' s'' : State} (i : Nat) (more : Bool) :
      ReaderRun s s' → stepReader s' i more = some s'' → ReaderRun s s''

theorem ReaderRun.reachable {n : Nat} {s s' : State} (h : Reachable n s) (r : ReaderRun s s') :
    Reachable n s' := by
  induction r with
  | refl => exact h
  | step i more _ hs ih => exact Reachable.step (.reader i) more ih hs

theorem ReaderRun.wpc {s s' : State} (r : ReaderRun s s') : s'.wpc = s.wpc := by
  induction r with
  | refl => rfl
  | step i more _ hs ih => rw [(stepReader_wpc hs).1, ih]

/-- if the writer is at `park` and the readers run until all of them are idle, the writer has a
token: it cannot sleep forever -/
theorem park_token_when_readers_done {n : Nat} {s s' : State} (h : Reachable n s)
    (hp : s.wpc = .park) (r : ReaderRun s s')
    (hidle : ∀ (i : Nat) (pc : RPc), s'.readers[i]? = some pc → pc = .idle) :
    s'.token = true := by
  have hr := r.reachable h
  have hp' : s'.wpc = .park := by rw [r.wpc, hp]
  have := writer_enabled_of_readers_idle hr hidle
  cases ht : s'.token with
  | true => rfl
  | false => exact absurd ((stepWriter_eq_none_iff s').mpr ⟨hp', ht⟩) this

/-! ## a measure: stages a reader still has to go through (taking `more = false`)

Nothing uses this group (`stagesLeft`, `μ`, `wake_progress`, `all_idle_of_μ_zero`). `μ` falls at
every reader step except a failed `cas` (`wake_progress`). The drain argument
(`Lemmas/RwLockDrain`) runs on `stepsToIdle ls`, which differs from `stagesLeft` only at `cas st`
and `decide st`: it adds the three steps of the retry when `ls ≠ st`, so that it falls at a failed
`cas` too, and counts the two steps of the slow path when `st` carries `WAITER` or `WRITER`. -/

def stagesLeft : RPc → Nat
  | .idle => 0
  | .slow => 1
  | .unpark => 1
  | .loadWaiter => 2
  | .release => 3
  | .tree => 4
  | .cas _ => 5
  | .decide _ => 6
  | .load => 7

def μ (s : State) : Nat := (s.readers.map stagesLeft).sum

theorem stagesLeft_nextPc {s : State} {pc : RPc} (hne : pc ≠ .idle)
    (hcas : ∀ st, pc = .cas st → s.lockState = st) :
    stagesLeft (nextPc s false pc) < stagesLeft pc := by
  cases pc <;> simp only [nextPc] <;> (try split) <;> simp_all [stagesLeft]

/-- every reader step with `more = false` from a non-idle pc strictly decreases `μ`, unless it is
a failed `cas` (the lock word changed since the reader loaded it; it then retries from `load`) -/
theorem wake_progress {s s' : State} {i : Nat} {pc : RPc} (hi : s.readers[i]? = some pc)
    (hne : pc ≠ .idle) (hcas : ∀ st, pc = .cas st → s.lockState = st)
    (hs : stepReader s i false = some s') : μ s' < μ s := by
  rw [stepReader_eq, hi] at hs
  cases hs
  have := sum_map_set stagesLeft hi (nextPc s false pc)
  have := stagesLeft_nextPc hne hcas
  simp only [μ]; omega

theorem all_idle_of_μ_zero {s : State} (h : μ s = 0) (i : Nat) (pc : RPc)
    (hi : s.readers[i]? = some pc) : pc = .idle := by
  have hm : stagesLeft pc ∈ s.readers.map stagesLeft :=
    List.mem_map.mpr ⟨pc, List.mem_iff_getElem?.mpr ⟨i, hi⟩, rfl⟩
  have : stagesLeft pc = 0 := List.sum_eq_zero_iff_forall_eq_nat.mp h _ hm
  cases pc <;> simp [stagesLeft] at this ⊢

theorem stepWriter_token {s s' : State} (hs : stepWriter s = some s') (h1 : s'.token = true) :
    s.token = true := by
  rcases s with ⟨ls, ws, tk, wpc, wt, rs⟩
  cases wpc <;> simp only [stepWriter] at hs <;> (repeat' split at hs) <;> cases hs <;>
    first | exact h1 | cases h1

theorem token_set_only_by_unpark {s s' : State} {a : Actor} {more : Bool}
    (hs : step s a more = some s') (h0 : s.token = false) (h1 : s'.token = true) :
    ∃ i : Nat, a = .reader i ∧ s.readers[i]? = some .unpark := by
  cases a with
  | writer => rw [stepWriter_token hs h1] at h0; cases h0
  | reader i =>
    simp only [step, stepReader_eq] at hs
    obtain ⟨pc, hget, rfl⟩ := Option.map_eq_some_iff.mp hs
    simp only [h0, Bool.false_or, isUnpark_iff] at h1
    exact ⟨i, rfl, h1 ▸ hget⟩

theorem nextPc_eq_unpark {s : State} {more : Bool} {pc : RPc} (h : nextPc s more pc = .unpark) :
    pc = .loadWaiter ∧ s.waiterSet = true := by
  cases pc <;> simp only [nextPc] at h <;> (try split at h) <;> simp_all

theorem nextPc_eq_loadWaiter {s : State} {more : Bool} {pc : RPc} (h : nextPc s more pc = .loadWaiter) :
    pc = .release ∧ s.lockState = READER + WAITER := by
  cases pc <;> simp only [nextPc] at h <;> (try split at h) <;> simp_all

theorem nextPc_of_stepReader {s s' : State} {i : Nat} {more : Bool} {pc' : RPc}
    (hs : stepReader s i more = some s') (hu : s'.readers[i]? = some pc') :
    ∃ pc, s.readers[i]? = some pc ∧ nextPc s more pc = pc' ∧
      s'.readers = s.readers.set i pc' := by
  rw [stepReader_eq] at hs
  obtain ⟨pc, hget, rfl⟩ := Option.map_eq_some_iff.mp hs
  rw [List.getElem?_set_self (List.getElem?_eq_some_iff.mp hget).1] at hu
  cases hu
  exact ⟨pc, hget, rfl, rfl⟩

/-- a reader reaches `unpark` only from `loadWaiter`, having seen the published handle; the
writer is then really waiting: it set `WAITER` in this lock attempt, published its handle, and has
not yet executed the `swapOut` -/
theorem unpark_only_when_published {n : Nat} {s s' : State} {i : Nat} {more : Bool}
    (h : Reachable n s) (hs : stepReader s i more = some s')
    (hu : s'.readers[i]? = some .unpark) :
    s.readers[i]? = some .loadWaiter ∧ s.waiterSet = true ∧ s.waiting = true ∧
      (s.wpc = .load ∨ (∃ st, s.wpc = .decide st) ∨ (∃ st, s.wpc = .casWriter st) ∨
        s.wpc = .park ∨ s.wpc = .swapOut) := by
  obtain ⟨pc, hget, hn, -⟩ := nextPc_of_stepReader hs hu
  obtain ⟨rfl, hws⟩ := nextPc_eq_unpark hn
  exact ⟨hget, hws, (waiterSet_iff h).mp hws⟩

theorem loadWaiter_only_last_reader {n : Nat} {s s' : State} {i : Nat} {more : Bool}
    (h : Reachable n s) (hs : stepReader s i more = some s')
    (hu : s'.readers[i]? = some .loadWaiter) :
    s.readers[i]? = some .release ∧ s.lockState = READER + WAITER ∧ waiterBit s = true ∧
      numHolding s.readers = 1 ∧ numHolding s'.readers = 0 := by
  obtain ⟨pc, hget, hn, hrs⟩ := nextPc_of_stepReader hs hu
  obtain ⟨rfl, hls⟩ := nextPc_eq_loadWaiter hn
  -- the word is `READER + WAITER`: one holder, the `WAITER` bit, no `WRITER` bit
  have hl := lockState_eq' h
  have e1 := cnt_set holdsRead hget .loadWaiter
  have g1 := cnt_ge holdsRead hget
  simp only [numHolding_eq_cnt, hrs, hls, holdsRead, READER, WAITER] at hl e1 g1 ⊢
  refine ⟨hget, trivial, ?_⟩
  cases writerHolds s <;> cases hb : waiterBit s <;> simp [hb] at hl e1 g1 ⊢ <;> omega

end Flurry.Proto.RwLock
