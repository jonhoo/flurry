import Flurry.Lemmas.ResizeInv
/-! # Safety of the resize protocol, for every `Reachable n nthreads stride s`

In one window the word lags behind the table: between `pubSwapTable` (which bumps `gen` and doubles
`n`) and `pubStoreCtl` (which overwrites the word) `size_ctl` still carries the stamp of the *old*
generation, `s.sizeCtl = resizing (s.gen - 1) 1`. So `s.sizeCtl = resizing g c → g = s.gen` fails
there, and so does "a finisher exists only while `s.sizeCtl = resizing s.gen 1`"
(`stale_stamp_window` exhibits the run); `count_invariant` and `single_finisher_word` state the
exact shape of the window. (This is a property of the real code as well and it is harmless there
for the same reason as in the model: a helper that reads the new table computes the new stamp and
refuses to join, and nobody can initiate because the word is not idle.)

Used by nothing: `checkGen_true`, `count_invariant_gen`, `count_invariant_idle`, `finisher_sweep`,
`join_path_word`, `maxResizers_eq`, `no_finisher`, `processBin_in_range`, `single_finisher`,
`single_finisher_exists`, `stamp_stable`, `threshold_eq`. -/
namespace Flurry.Proto.Resize

variable {n nthreads stride : Nat} {s : State}

def run (s : State) : List (Nat × Nat) → Option State
  | [] => some s
  | (t, c) :: r => (step s t c).bind (fun s' => run s' r)

theorem reachable_run {s s' : State} (h : Reachable n nthreads stride s) {steps : List (Nat × Nat)}
    (hr : run s steps = some s') : Reachable n nthreads stride s' := by
  induction steps generalizing s with
  | nil => simp [Resize.run] at hr; subst hr; exact h
  | cons p r ih =>
    obtain ⟨t, c⟩ := p
    simp only [Resize.run] at hr
    cases hs : Resize.step s t c with
    | none => simp [hs] at hr
    | some s1 =>
      simp [hs] at hr
      exact ih (Reachable.step t c h hs) hr

theorem Reachable.localOk (hr : Reachable n nthreads stride s) {l : Local} (hl : l ∈ s.threads) :
    LocalOk s l := by
  obtain ⟨t, ht⟩ := List.mem_iff_getElem?.mp hl
  exact hr.inv.locals t l ht

theorem held_le_gen (hr : Reachable n nthreads stride s) {l : Local} (hl : l ∈ s.threads) :
    l.heldGen ≤ s.gen := by
  obtain ⟨t, ht⟩ := List.mem_iff_getElem?.mp hl
  exact hr.inv.held_le t l ht

/-- no step touches the model parameters; `size_ctl` is written only by a successful initiation,
join or leave CAS and by the finisher's final store -/
theorem step_params_word {t c : Nat} {s' : State} {l : Local} (hl : s.threads[t]? = some l)
    (hs : step s t c = some s') :
    (s'.maxResizers = s.maxResizers ∧ s'.checkGen = s.checkGen) ∧
    (s'.sizeCtl = s.sizeCtl ∨
     (l.pc = .casInit s.sizeCtl ∧ s'.sizeCtl = .resizing s.gen 2 ∧ s'.gen = s.gen ∧ s'.n = s.n) ∨
     (∃ g k, s.sizeCtl = .resizing g k ∧
       (l.pc = .casJoin s.sizeCtl ∧ s'.sizeCtl = .resizing g (k + 1) ∨
        l.pc = .leaveCas s.sizeCtl ∧ s'.sizeCtl = .resizing g (k - 1))) ∨
     (l.pc = .pubStoreCtl ∧ ∃ thr, s'.sizeCtl = .idle thr)) := by
  cases hpc : l.pc <;> simp only [step, hl, hpc] at hs
  case casInit sc =>
    split at hs <;> cases hs
    · rename_i hw; cases eq_of_beq hw
      exact ⟨⟨rfl, rfl⟩, .inr (.inl ⟨rfl, rfl, rfl, rfl⟩)⟩
    · exact ⟨⟨rfl, rfl⟩, .inl rfl⟩
  case casJoin sc =>
    split at hs
    · rename_i hw; cases eq_of_beq hw
      split at hs
      · rename_i g k hsc
        have : (s'.maxResizers = s.maxResizers ∧ s'.checkGen = s.checkGen) ∧
            s'.sizeCtl = .resizing g (k + 1) := by
          split at hs <;> cases hs <;> exact ⟨⟨rfl, rfl⟩, rfl⟩
        exact ⟨this.1, .inr (.inr (.inl ⟨g, k, hsc, .inl ⟨rfl, this.2⟩⟩))⟩
      · cases hs; exact ⟨⟨rfl, rfl⟩, .inl rfl⟩
    · cases hs; exact ⟨⟨rfl, rfl⟩, .inl rfl⟩
  case leaveCas sc =>
    split at hs
    · rename_i hw; cases eq_of_beq hw
      split at hs
      · rename_i g k hsc
        have : (s'.maxResizers = s.maxResizers ∧ s'.checkGen = s.checkGen) ∧
            s'.sizeCtl = .resizing g (k - 1) := by
          split at hs <;> cases hs <;> exact ⟨⟨rfl, rfl⟩, rfl⟩
        exact ⟨this.1, .inr (.inr (.inl ⟨g, k, hsc, .inr ⟨rfl, this.2⟩⟩))⟩
      · cases hs; exact ⟨⟨rfl, rfl⟩, .inl rfl⟩
    · cases hs; exact ⟨⟨rfl, rfl⟩, .inl rfl⟩
  case pubStoreCtl => cases hs; exact ⟨⟨rfl, rfl⟩, .inr (.inr (.inr ⟨rfl, _, rfl⟩))⟩
  all_goals (repeat' split at hs) <;> cases hs <;> exact ⟨⟨rfl, rfl⟩, .inl rfl⟩

/-- the word counts the participants; its stamp is the current generation except in the window
between `pubSwapTable` and `pubStoreCtl`, where it is the previous one (and then `c = 1`) -/
theorem count_invariant (hr : Reachable n nthreads stride s) {g c : Nat}
    (h : s.sizeCtl = .resizing g c) :
    c = 1 + numParticipants s ∧
    (g = s.gen ∨ (g + 1 = s.gen ∧ c = 1 ∧ ∃ l ∈ s.threads, l.pc = .pubStoreCtl)) := by
  have I := hr.inv
  have h1 := I.cnt_eq
  rw [h] at h1; simp only [cnt] at h1
  rw [numParticipants_eq]
  refine ⟨h1, ?_⟩
  have h2 := I.gen_eq g c h
  have h3 := S_le_F s
  have h4 := I.fin_eq
  have h5 := finWord_le s.sizeCtl
  rcases Nat.eq_zero_or_pos (S s) with h0 | h0
  · left; omega
  · right
    have hS : S s = 1 := by omega
    have hF : finWord s.sizeCtl = 1 := by omega
    obtain ⟨g', hg'⟩ := finWord_eq_one hF
    rw [h] at hg'; cases hg'
    refine ⟨by omega, rfl, ?_⟩
    obtain ⟨l, hl, hp⟩ := List.countP_pos_iff.mp (show 0 < s.threads.countP atStore from h0)
    exact ⟨l, hl, (atStore_iff l).mp hp⟩

theorem count_invariant_gen (hr : Reachable n nthreads stride s) {g c : Nat}
    (h : s.sizeCtl = .resizing g c) (hns : ∀ l ∈ s.threads, l.pc ≠ .pubStoreCtl) : g = s.gen := by
  rcases (count_invariant hr h).2 with h1 | ⟨_, _, l, hl, hp⟩
  · exact h1
  · exact absurd hp (hns l hl)

theorem count_invariant_gen' (hr : Reachable n nthreads stride s) {g c : Nat}
    (h : s.sizeCtl = .resizing g c) (hc : c ≠ 1) : g = s.gen := by
  rcases (count_invariant hr h).2 with h1 | ⟨_, h2, _⟩
  · exact h1
  · exact absurd h2 hc

theorem count_invariant_idle (hr : Reachable n nthreads stride s) {thr : Nat}
    (h : s.sizeCtl = .idle thr) : numParticipants s = 0 := by
  rw [numParticipants_eq]; exact (hr.inv.counters_of_idle h).1

theorem single_finisher_unique (hr : Reachable n nthreads stride s) {t u : Nat} {l l' : Local}
    (ht : s.threads[t]? = some l) (hu : s.threads[u]? = some l')
    (hl : isFinisher l = true) (hl' : isFinisher l' = true) : t = u :=
  countP_le_one_unique (p := isFinisher) (by simpa [F] using hr.inv.F_le) ht hu hl hl'

/-- a finisher exists only while the word is `resizing _ 1` (stamp: current generation, or the
previous one once the finisher itself is at `pubStoreCtl`), and then nobody participates -/
theorem single_finisher_word (hr : Reachable n nthreads stride s) {l : Local} (hl : l ∈ s.threads)
    (hf : isFinisher l = true) :
    numParticipants s = 0 ∧
    ((l.pc ≠ .pubStoreCtl ∧ s.sizeCtl = .resizing s.gen 1) ∨
     (l.pc = .pubStoreCtl ∧ ∃ g, g + 1 = s.gen ∧ s.sizeCtl = .resizing g 1)) := by
  have I := hr.inv
  obtain ⟨t, ht⟩ := List.mem_iff_getElem?.mp hl
  obtain ⟨⟨g, hg⟩, hP, hF⟩ := I.word_of_finisher ht hf
  rw [numParticipants_eq]
  refine ⟨hP, ?_⟩
  have h2 := I.gen_eq g 1 hg
  have h3 := S_le_F s
  by_cases hpc : l.pc = .pubStoreCtl
  · right
    have : 0 < S s := countP_pos_of_getElem? ht (by simp [atStore, hpc])
    exact ⟨hpc, g, by omega, hg⟩
  · left
    have : S s = 0 := by
      apply List.countP_eq_zero.mpr
      intro a ha hpa
      obtain ⟨u, hu⟩ := List.mem_iff_getElem?.mp ha
      have := single_finisher_unique hr ht hu hf (atStore_isFinisher a hpa)
      subst this
      rw [ht] at hu; cases hu
      exact hpc ((atStore_iff _).mp hpa)
    have : g = s.gen := by omega
    subst this
    exact ⟨hpc, hg⟩

theorem single_finisher_exists (hr : Reachable n nthreads stride s) {g : Nat}
    (h : s.sizeCtl = .resizing g 1) : ∃ l ∈ s.threads, isFinisher l = true := by
  have h4 := hr.inv.fin_eq
  rw [h] at h4; simp only [finWord] at h4
  have : 0 < s.threads.countP isFinisher := by simp only [F] at h4; omega
  obtain ⟨l, hl, hp⟩ := List.countP_pos_iff.mp this
  exact ⟨l, hl, hp⟩

theorem no_finisher (hr : Reachable n nthreads stride s)
    (h : ∀ g, s.sizeCtl ≠ .resizing g 1) : ∀ l ∈ s.threads, isFinisher l = false := by
  intro l hl
  cases hf : isFinisher l with
  | false => rfl
  | true =>
    obtain ⟨t, ht⟩ := List.mem_iff_getElem?.mp hl
    obtain ⟨⟨g, hg⟩, _⟩ := hr.inv.word_of_finisher ht hf
    exact absurd hg (h g)

/-- idle word: every thread is outside the machinery, or at `casInit` (holding an idle word), or at
`casJoin` holding a resizing word – which differs from the current word, so that CAS will fail –,
or somewhere on one of the two join paths before that CAS -/
theorem single_finisher_idle (hr : Reachable n nthreads stride s) {thr : Nat}
    (h : s.sizeCtl = .idle thr) {l : Local} (hl : l ∈ s.threads) :
    l.finishing = false ∧
    (l.pc = .idle ∨ (∃ thr', l.pc = .casInit (.idle thr')) ∨
     (∃ g c, l.pc = .casJoin (.resizing g c) ∧ s.sizeCtl ≠ .resizing g c) ∨ joining l = true) := by
  obtain ⟨hP, hF, -⟩ := hr.inv.counters_of_idle h
  have h1 : participating l = false := by
    have := List.countP_eq_zero.mp hP l hl; simpa using this
  have h2 : isFinisher l = false := by
    have := List.countP_eq_zero.mp hF l hl; simpa using this
  have hq := quiet_of_no_role l h1 h2
  have hL := hr.localOk hl
  -- `LocalOk` at each of the ten quiet program counters
  cases hpc : l.pc <;> simp only [quiet, hpc, Bool.false_eq_true] at hq <;>
    simp only [LocalOk, hpc] at hL
  case idle => exact ⟨hL, .inl rfl⟩
  case casInit =>
    obtain ⟨hf, thr', rfl⟩ := hL
    exact ⟨hf, .inr (.inl ⟨thr', rfl⟩)⟩
  case casJoin =>
    obtain ⟨hf, g, c, rfl, -⟩ := hL
    exact ⟨hf, .inr (.inr (.inl ⟨g, c, rfl, by rw [h]; exact fun e => nomatch e⟩))⟩
  case helpLoadIndex | acLoadTable | acLoadNext | acLoadIndex =>
    exact ⟨hL.1, .inr (.inr (.inr (by simp only [joining, hpc])))⟩
  all_goals exact ⟨hL, .inr (.inr (.inr (by simp only [joining, hpc])))⟩

theorem single_finisher (hr : Reachable n nthreads stride s) :
    (∀ (t u : Nat) (l l' : Local), s.threads[t]? = some l → s.threads[u]? = some l' →
        isFinisher l = true → isFinisher l' = true → t = u) ∧
    (∀ l ∈ s.threads, isFinisher l = true →
        numParticipants s = 0 ∧
        ((l.pc ≠ .pubStoreCtl ∧ s.sizeCtl = .resizing s.gen 1) ∨
         (l.pc = .pubStoreCtl ∧ ∃ g, g + 1 = s.gen ∧ s.sizeCtl = .resizing g 1))) ∧
    (∀ thr, s.sizeCtl = .idle thr → ∀ l ∈ s.threads,
        l.finishing = false ∧
        (l.pc = .idle ∨ (∃ thr', l.pc = .casInit (.idle thr')) ∨
         (∃ g c, l.pc = .casJoin (.resizing g c) ∧ s.sizeCtl ≠ .resizing g c) ∨ joining l = true)) :=
  ⟨fun _ _ _ _ ht hu hl hl' => single_finisher_unique hr ht hu hl hl',
   fun _ hl hf => single_finisher_word hr hl hf,
   fun _ h _ hl => single_finisher_idle hr h hl⟩

theorem moved_once (hr : Reachable n nthreads stride s) :
    s.moved.length = s.n ∧ s.migrations.length = s.n ∧
    ∀ idx, idx < s.n →
      s.migrations.getD idx 0 ≤ 1 ∧
      (s.moved.getD idx false = true ↔ s.migrations.getD idx 0 = 1) := by
  have I := hr.inv
  have h1 := I.moved_len
  have h2 := I.migr_eq
  refine ⟨h1, by rw [h2, List.length_map, h1], ?_⟩
  intro idx hidx
  have hlt : idx < s.moved.length := by omega
  rw [h2]
  simp only [List.getD, List.getElem?_map, List.getElem?_eq_getElem hlt, Option.map_some,
    Option.getD_some]
  cases s.moved[idx] <;> simp

theorem all_moved_at_publish (hr : Reachable n nthreads stride s) {l : Local} (hl : l ∈ s.threads)
    (hpc : l.pc = .pubClearNext ∨ l.pc = .pubSwapTable) :
    ∀ idx, idx < s.n → s.moved.getD idx false = true := by
  have hL := hr.localOk hl
  intro idx hidx
  rcases hpc with hpc | hpc <;> simp only [LocalOk, hpc] at hL
  · exact hL idx (by omega) hidx
  · exact hL.1 idx (by omega) hidx

theorem all_migrated_once_at_publish (hr : Reachable n nthreads stride s) {l : Local}
    (hl : l ∈ s.threads) (hpc : l.pc = .pubClearNext ∨ l.pc = .pubSwapTable) :
    ∀ idx, idx < s.n → s.migrations.getD idx 0 = 1 := fun idx hidx =>
  ((moved_once hr).2.2 idx hidx).2.1 (all_moved_at_publish hr hl hpc idx hidx)

/-- the key invariant: the finisher walks `i = n, n-1, …, 0` and has seen every bin above its
index moved (it never claims) -/
theorem finisher_sweep (hr : Reachable n nthreads stride s) {l : Local} (hl : l ∈ s.threads)
    (hf : l.finishing = true) :
    (l.pc = .claimLoad → l.advance = true ∧ l.i ≤ s.n ∧
        ∀ idx : Nat, l.i ≤ idx → idx < s.n → s.moved.getD idx false = true) ∧
    (l.pc = .dispatch ∨ l.pc = .processBin → l.i < s.n ∧
        ∀ idx : Nat, l.i < idx → idx < s.n → s.moved.getD idx false = true) ∧
    (l.pc = .processBin → 0 ≤ l.i) := by
  have hL := hr.localOk hl
  refine ⟨?_, ?_, ?_⟩
  · intro hpc; simp only [LocalOk, hpc] at hL; exact hL hf
  · rintro (hpc | hpc) <;> simp only [LocalOk, hpc] at hL
    · exact ⟨(hL hf).1, fun idx h1 h2 => (hL hf).2 idx (by omega) h2⟩
    · exact ⟨hL.2.1, fun idx h1 h2 => hL.2.2 hf idx (by omega) h2⟩
  · intro hpc; simp only [LocalOk, hpc] at hL; exact hL.1

theorem processBin_in_range (hr : Reachable n nthreads stride s) {l : Local} (hl : l ∈ s.threads)
    (hpc : l.pc = .processBin) : 0 ≤ l.i ∧ l.i < s.n := by
  have hL := hr.localOk hl
  simp only [LocalOk, hpc] at hL; exact ⟨hL.1, hL.2.1⟩

theorem single_publication (hr : Reachable n nthreads stride s) :
    (∀ g, s.published.getD g 0 ≤ 1) ∧ s.published.length = s.gen ∧
    (∀ g, g < s.gen → s.published.getD g 0 = 1) ∧ s.n = n * 2 ^ s.gen := by
  have I := hr.inv
  have h1 := I.pub_eq
  refine ⟨?_, by rw [h1, List.length_replicate], ?_, I.n_eq⟩
  · intro g; rw [h1]
    simp only [List.getD, List.getElem?_replicate]
    split <;> simp
  · intro g hg; rw [h1]
    simp [List.getD, hg]

theorem no_overlap (hr : Reachable n nthreads stride s) (h : s.nextTable = true) :
    ∃ c, s.sizeCtl = .resizing s.gen c := by
  have I := hr.inv
  cases hsc : s.sizeCtl with
  | idle thr => have := (I.idle_thr thr hsc).2; simp_all
  | resizing g c =>
    rcases (count_invariant hr hsc).2 with h1 | ⟨_, _, l, hl, hp⟩
    · subst h1; exact ⟨c, rfl⟩
    · have hL := hr.localOk hl
      simp only [LocalOk, hp] at hL
      simp_all

/-- a step that turns an idle word into a resizing one is a successful `casInit`: it starts from a
state without next table in which every thread is quiet, and installs exactly `resizing s.gen 2` -/
theorem resize_starts_from_idle (hr : Reachable n nthreads stride s) {t c : Nat} {s' : State}
    (hs : step s t c = some s') {thr : Nat} (hidle : s.sizeCtl = .idle thr)
    (hne : s'.sizeCtl ≠ s.sizeCtl) :
    s'.sizeCtl = .resizing s.gen 2 ∧ s.nextTable = false ∧ thr = threshold s.n ∧
    (∃ l, s.threads[t]? = some l ∧ l.pc = .casInit (.idle thr)) ∧
    s'.gen = s.gen ∧ s'.n = s.n := by
  obtain ⟨hthr, hnt⟩ := hr.inv.idle_thr thr hidle
  obtain ⟨l, hl⟩ := thread_of_step hs
  rcases (step_params_word hl hs).2 with e | ⟨hpc, e', hg, hn⟩ | ⟨g, k, e, -⟩ | ⟨hpc, -⟩
  · exact absurd e hne
  · exact ⟨e', hnt, hthr, ⟨l, hl, hidle ▸ hpc⟩, hg, hn⟩
  · rw [hidle] at e; cases e
  · -- beside a thread at `pubStoreCtl` the word is not idle
    obtain ⟨⟨g, hg⟩, -⟩ := hr.inv.word_of_finisher hl (by simp [isFinisher, hpc])
    rw [hidle] at hg; cases hg

/-- a resizing word is only ever replaced by a resizing word with the *same* stamp or by an idle
word: resizes of different generations never overlap -/
theorem stamp_stable (hr : Reachable n nthreads stride s) {t ch : Nat} {s' : State}
    (hs : step s t ch = some s') {g c g' c' : Nat} (h : s.sizeCtl = .resizing g c)
    (h' : s'.sizeCtl = .resizing g' c') : g' = g := by
  obtain ⟨l, hl⟩ := thread_of_step hs
  rcases (step_params_word hl hs).2 with e | ⟨hpc, -⟩ | ⟨g0, k, e, ⟨-, e'⟩ | ⟨-, e'⟩⟩ | ⟨-, thr, e'⟩
  · rw [e, h] at h'; cases h'; rfl
  · -- an initiation CAS expects an idle word
    have hL := hr.inv.locals t l hl
    simp only [LocalOk, hpc, h] at hL
    obtain ⟨-, thr, e⟩ := hL; cases e
  · rw [h] at e; rw [h'] at e'; cases e; injection e'
  · rw [h] at e; rw [h'] at e'; cases e; injection e'
  · rw [h'] at e'; cases e'

theorem quiescent_after (hr : Reachable n nthreads stride s) (h : allIdle s) :
    s.sizeCtl = .idle (threshold s.n) ∧ s.nextTable = false := by
  have I := hr.inv
  have hP : P s = 0 := by
    apply List.countP_eq_zero.mpr
    intro l hl; simp [participating, h l hl]
  have hF : F s = 0 := by
    apply List.countP_eq_zero.mpr
    intro l hl
    have hL := hr.localOk hl
    simp only [LocalOk, h l hl] at hL
    simp [isFinisher, h l hl, hL]
  cases hsc : s.sizeCtl with
  | idle thr =>
    obtain ⟨h1, h2⟩ := I.idle_thr thr hsc
    subst h1; exact ⟨rfl, h2⟩
  | resizing g c =>
    have h1 := I.cnt_eq; rw [hsc] at h1; simp only [cnt] at h1
    have h2 := I.fin_eq; rw [hsc] at h2
    have : c = 1 := by omega
    subst this; simp [finWord] at h2; omega

/-! ## finding F6: what the generation comparison of `help_transfer` buys -/

theorem checkGen_true (hr : Reachable n nthreads stride s) : s.checkGen = true := hr.inv.check_eq

theorem maxResizers_eq (hr : Reachable n nthreads stride s) : s.maxResizers = 2 ^ 32 - 1 := by
  induction hr with
  | init => rfl
  | step t c _ hs ih =>
    obtain ⟨l, hl⟩ := thread_of_step hs
    rw [(step_params_word hl hs).1.1, ih]

theorem join_ready_current (hr : Reachable n nthreads stride s) {l : Local} (hl : l ∈ s.threads)
    {sc : SC} (hpc : l.pc = .casJoin sc) (hsc : s.sizeCtl = sc) :
    l.heldGen = s.gen ∧ ∃ k, sc = .resizing s.gen k ∧ 2 ≤ k := by
  obtain ⟨t, ht⟩ := List.mem_iff_getElem?.mp hl
  obtain ⟨hcur, k, hk, h2, -⟩ := hr.inv.join_ready ht hpc hsc
  exact ⟨hcur, k, hk, h2⟩

/-- a thread that is past its refusal test and has seen a next table carries a word that is not
younger than the table it holds (for `help_transfer` they are equal – this is where `checkGen` is
used –; `add_count` loads the word first and the table afterwards), and if it is a "finishing" word
it is strictly older and not the current word any more -/
theorem join_path_word (hr : Reachable n nthreads stride s) {l : Local} (hl : l ∈ s.threads)
    {sc : SC} (hpc : l.pc = .helpLoadIndex sc ∨ l.pc = .acLoadIndex sc ∨ l.pc = .casJoin sc) :
    ∃ g k, sc = .resizing g k ∧ g ≤ l.heldGen ∧ l.heldGen ≤ s.gen ∧
      (k = 1 → g < l.heldGen ∧ s.sizeCtl ≠ sc) := by
  have hL := hr.localOk hl
  have hh := held_le_gen hr hl
  rcases hpc with hpc | hpc | hpc <;> simp only [LocalOk, hpc] at hL <;>
    (obtain ⟨_, g, k, rfl, hgh, hk1⟩ := hL
     exact ⟨g, k, rfl, hgh, hh, fun h1 => by subst h1; exact hk1 rfl⟩)

/-- **no thread is ever admitted to a resize while holding the tables of another generation** -/
theorem no_stale_join (hr : Reachable n nthreads stride s) : s.staleJoins = 0 := hr.inv.stale_eq

theorem join_step_current (hr : Reachable n nthreads stride s) {t c : Nat} {s' : State} {l : Local}
    {sc : SC} (hl : s.threads[t]? = some l) (hpc : l.pc = .casJoin sc)
    (hs : step s t c = some s') (hne : s'.sizeCtl ≠ s.sizeCtl) :
    l.heldGen = s.gen ∧ ∃ k, sc = .resizing s.gen k ∧ 2 ≤ k ∧ s'.sizeCtl = .resizing s.gen (k + 1) ∧
      ∃ l', s'.threads = s.threads.set t l' ∧ participating l' = true ∧ l'.heldGen = s'.gen := by
  have hL := hr.inv.locals t l hl
  simp only [LocalOk, hpc] at hL
  have hfin := hL.1
  simp only [step, hl, hpc] at hs
  split at hs
  · rename_i hword
    have hword : s.sizeCtl = sc := by simpa using hword
    obtain ⟨hh, k, rfl, hk⟩ := join_ready_current hr (List.mem_of_getElem? hl) hpc hword
    simp only [hh, beq_self_eq_true, if_true] at hs
    injection hs with hs; subst hs
    exact ⟨hh, k, rfl, hk, rfl, _, rfl, by simp [participating], rfl⟩
  · injection hs with hs; subst hs
    exact absurd rfl hne

theorem threshold_eq (m : Nat) : threshold m = m - m / 4 := rfl

end Flurry.Proto.Resize
