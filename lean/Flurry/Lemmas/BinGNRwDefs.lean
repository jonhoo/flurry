import Flurry.Proto.BinGN
/-! # Proto/BinGN: the read-write lock of a `TreeBin` (definitions)

`RwInv s`: every `TreeBin` a reader refers to exists; the reader count of every `TreeBin` is the number of
threads that hold a read lock on it (`rTree`, `rRelease`); while the write bit is set the reader count is zero;
a tree writer in its locked section (`tPrependLocked` … `tUntreeify`) has the write bit of its bin set.
Consequence (`Lemmas/BinGNOwn.lean`): a tree writer in its locked section excludes every lock-protocol reader
from the tree of its bin — in every generation, also for a `TreeBin` that transfers have re-used.
`RwSame` (the read-write words of a `TreeBin` table that grew) and `RwSame.modify` have no user. -/
namespace Flurry.Proto.BinGN
open Flurry.Lin

/-- holds a read lock of `TreeBin` `b` -/
def holdsRead : Pc → Option Nat
  | .rTree b | .rRelease b _ => some b
  | _ => none

/-- is inside the write-locked section of `TreeBin` `b` -/
def wrSec : Pc → Option Nat
  | .tPrependLocked _ b | .tTreeLinkLocked _ b _ | .tUnlinkLocked _ b _ _ | .tRestructure _ b _ _
  | .tUnlockRoot _ b _ | .tUntreeify _ b _ => some b
  | _ => none

/-- the `TreeBin` a reader refers to -/
def readerRef : Pc → Option Nat
  | .rFirst b | .rState b _ | .rLin b _ | .rCas b _ _ | .rTree b | .rRelease b _ | .lFirst b => some b
  | _ => none

def binOf (tb : List TBin) (b : Nat) : TBin := tb.getD b dfltB

/-- number of threads that hold a read lock on `b` -/
def nRead (b : Nat) (ls : List Local) : Nat := ls.countP (fun l => holdsRead l.pc == some b)

structure RwInv (s : State) : Prop where
  refR : ∀ (t : Nat) (l : Local) (b : Nat), s.threads[t]? = some l → readerRef l.pc = some b → b < s.tbins.length
  rd : ∀ b, b < s.tbins.length → (binOf s.tbins b).readers = nRead b s.threads
  wrd : ∀ b, (binOf s.tbins b).writer = true → (binOf s.tbins b).readers = 0
  wsec : ∀ (t : Nat) (l : Local) (b : Nat), s.threads[t]? = some l → wrSec l.pc = some b →
    (binOf s.tbins b).writer = true

/-- the read-write words of the old bins are unchanged; new bins have default words -/
def RwSame (tb tb' : List TBin) : Prop :=
  tb.length ≤ tb'.length ∧ (∀ i, i < tb.length → (binOf tb' i).readers = (binOf tb i).readers ∧
    (binOf tb' i).writer = (binOf tb i).writer) ∧
  ∀ i, tb.length ≤ i → (binOf tb' i).readers = 0 ∧ (binOf tb' i).writer = false

theorem binOf_ge (tb : List TBin) {i : Nat} (h : tb.length ≤ i) : binOf tb i = dfltB := by
  unfold binOf; rw [List.getD_eq_getElem?_getD, List.getElem?_eq_none h]; rfl

theorem binOf_modify_ne (tb : List TBin) {b i : Nat} (f : TBin → TBin) (h : i ≠ b) :
    binOf (tb.modify b f) i = binOf tb i := by
  unfold binOf; rw [List.getD_eq_getElem?_getD, List.getD_eq_getElem?_getD, List.getElem?_modify]; simp [Ne.symm h]

theorem binOf_modify_self (tb : List TBin) {b : Nat} (f : TBin → TBin) (h : b < tb.length) :
    binOf (tb.modify b f) b = f (binOf tb b) := by
  unfold binOf; rw [List.getD_eq_getElem?_getD, List.getD_eq_getElem?_getD, List.getElem?_modify, List.getElem?_eq_getElem h]; simp

theorem RwSame.modify (tb : List TBin) (b : Nat) (f : TBin → TBin)
    (hf : ∀ n, (f n).readers = n.readers ∧ (f n).writer = n.writer) : RwSame tb (tb.modify b f) := by
  refine ⟨by simp, fun i hi => ?_, fun i hi => ?_⟩
  · by_cases e : i = b
    · subst e; rw [binOf_modify_self _ _ hi]; exact hf _
    · rw [binOf_modify_ne _ _ e]; exact ⟨rfl, rfl⟩
  · rw [binOf_ge _ (by simpa using hi)]; exact ⟨rfl, rfl⟩

end Flurry.Proto.BinGN
