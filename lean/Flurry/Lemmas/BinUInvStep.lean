import Flurry.Lemmas.BinUInv
/-! # Proto/BinU: every transition preserves the structural invariant (C01, tree bins)

The file follows `Lemmas/BinTInvStep.lean` declaration by declaration; what is said there of a definition or lemma of the
same name is not repeated. -/
namespace Flurry.Proto.BinU
open Flurry.Lin Flurry.Shared

theorem Move.sync_ok {s : State} {t : Nat} {p : Pending} {pc pc' : Pc} {m : Option Nat} {w a : Bool} {r : Nat}
    (hm : Move s t p pc pc' m w a r)
    (V : LockView t s.mutex s.writer s.waiter s.readers (crit pc) (wr pc) (isLoop pc) (holdsRead pc)) :
    SyncOK t s.mutex m s.writer s.waiter w a s.readers r (crit pc') (wr pc') (isLoop pc')
      (holdsRead pc) (holdsRead pc') := by
  cases hm with
  | rFirst | rLinMode _ | rTreeMode _ | rLinNext _ _ | rLinHit _ _ _ | rCasFail | rTree
  | lFirst | lNext _ _ | lHit _ _ _ =>
    exact V.outside_same rfl rfl
  | rCasOk hw _ _ => exact V.outside rfl rfl rfl (fun h => by rw [hw] at h; cases h)
  | rRelVal _ =>
    have := V.pos rfl
    exact V.outside rfl rfl (Nat.sub_add_cancel this) (fun h => by rw [V.excl h])
  | wMutex hm => exact V.acquire hm rfl rfl
  | findVal _ _ | findInsert _ | findRemove _ _ | findDone _ | restructNone =>
    exact V.holder_same rfl rfl rfl rfl rfl Bool.noConfusion
  | lrTryFail => exact V.holder_same rfl rfl rfl rfl rfl (fun _ => rfl)
  | @lrTryOk k _ _ ha hr => cases k <;> exact V.holder rfl rfl rfl rfl rfl (by rw [ha]; exact Bool.noConfusion) (fun _ => hr)
  | @lrLoopOk k _ _ hr => cases k <;> exact V.holder rfl rfl rfl rfl rfl Bool.noConfusion (fun _ => hr)
  | lrLoopWait _ => exact V.holder rfl rfl rfl rfl (V.bits (V.mine.1 rfl)).1 (fun _ => rfl) V.excl
  | unlockRoot => exact V.holder rfl rfl rfl rfl rfl Bool.noConfusion Bool.noConfusion

theorem Fin.sync_ok {s : State} {t : Nat} {p : Pending} {pc : Pc} {res : KRes} {m : Option Nat} {r : Nat}
    (hf : Fin s p pc res m r)
    (V : LockView t s.mutex s.writer s.waiter s.readers (crit pc) (wr pc) (isLoop pc) (holdsRead pc)) :
    SyncOK t s.mutex m s.writer s.waiter s.writer s.waiter s.readers r (crit .idle) (wr .idle) (isLoop .idle)
      (holdsRead pc) (holdsRead .idle) := by
  cases hf with
  | rMiss | rLinHas _ _ _ | rVal _ | lMiss | lHas _ _ _ => exact V.outside_same rfl rfl
  | rRelNone | rRelHas _ =>
    have := V.pos rfl
    exact V.outside rfl rfl (Nat.sub_add_cancel this) (fun h => by rw [V.excl h])
  | unlockM => exact V.release rfl rfl rfl rfl

theorem Move.src {s : State} {t : Nat} {p : Pending} {pc pc' : Pc} {m : Option Nat} {w a : Bool} {r : Nat}
    (hm : Move s t p pc pc' m w a r) :
    pc ≠ .idle ∧ readerPc pc' = readerPc pc ∧
    (∀ j res, pc ≠ .wRestructure (some j) res) ∧ (∀ j, pc ≠ .wTreeLinkLocked j) := by
  cases hm
  case lrTryOk k _ _ _ _ => cases k <;> exact ⟨by simp, rfl, by simp, by simp⟩
  case lrLoopOk k _ _ _ => cases k <;> exact ⟨by simp, rfl, by simp, by simp⟩
  all_goals exact ⟨by simp, rfl, by simp, by simp⟩

theorem Move.dst_ne {s : State} {t : Nat} {p : Pending} {pc pc' : Pc} {m : Option Nat} {w a : Bool} {r : Nat}
    (hm : Move s t p pc pc' m w a r) :
    (∀ j res, pc' ≠ .wRestructure (some j) res) ∧ (∀ j, pc' ≠ .wTreeLinkLocked j) := by
  cases hm
  case lrTryOk k res _ _ _ => cases k <;> exact ⟨by intro j res; simp [afterLock], by intro j; simp [afterLock]⟩
  case lrLoopOk k res _ _ => cases k <;> exact ⟨by intro j res; simp [afterLock], by intro j; simp [afterLock]⟩
  all_goals exact ⟨by intro j res; simp, by intro j; simp⟩

theorem Fin.src_ne {s : State} {p : Pending} {pc : Pc} {res : KRes} {m : Option Nat} {r : Nat}
    (hf : Fin s p pc res m r) :
    (∀ j res, pc ≠ .wRestructure (some j) res) ∧ (∀ j, pc ≠ .wTreeLinkLocked j) := by
  cases hf <;> exact ⟨by intro j res; simp, by intro j; simp⟩

theorem Move.pcInv {s : State} {t : Nat} {p : Pending} {pc pc' : Pc} {m : Option Nat} {w a : Bool} {r : Nat}
    (hm : Move s t p pc pc' m w a r) (I : Inv s) (hl : s.threads[t]? = some ⟨pc, some p⟩) :
    PcInv s p pc' := by
  have h0 : PcInv s p pc := I.data.pcInv t _ p hl rfl
  cases hm with
  | rFirst | lFirst =>
    cases hf : s.first with
    | none => trivial
    | some h => exact I.heap.firstOK h hf
  | rLinMode _ | rTreeMode _ | rCasFail | lrLoopWait _ => exact h0
  | @rLinNext c n hn hk | @lNext c n hn hk =>
    cases hnx : n.next with
    | none => trivial
    | some b =>
      have h1 := I.heap.nextOK c n b hn hnx
      have h2 := (List.getElem?_eq_some_iff.1 hn).1
      show b < s.heap.length
      omega
  | rLinHit _ _ hop | rRelVal hop | lHit _ _ hop => exact hop
  | rCasOk _ _ _ | rTree | wMutex _ | findDone _ | restructNone | unlockRoot => trivial
  | @findVal i v res hf hspec =>
    obtain ⟨hi, hin, hk⟩ := treeFind_some hf
    exact ⟨I.tree_sub_chain_of_crit hl rfl (by simp) i hi hin, hk, hspec⟩
  | findInsert hf => exact treeFind_none hf
  | @findRemove i res hf hspec =>
    obtain ⟨hi, hin, hk⟩ := treeFind_some hf
    exact ⟨I.tree_sub_chain_of_crit hl rfl (by simp) i hi hin, hin, hk, hspec⟩
  | @lrTryOk k res _ _ _ | @lrTryFail k res | @lrLoopOk k res _ _ =>
    cases k with
    | rebalance => trivial
    | insert | remove i => exact h0

theorem crit_facts {pc : Pc} (h : crit pc = true) :
    readerPc pc = false ∧ pc ≠ .idle ∧ holdsRead pc = false := by
  cases pc <;> simp [crit] at h <;> simp [readerPc, holdsRead]

theorem winv_frame {s s' : State} {t : Nat} {l l' : Local} (I : Inv s) (hl : s.threads[t]? = some l)
    (hh : s'.heap = s.heap) (hd : s'.first = s.first) (hthr : s'.threads = s.threads.set t l')
    (hsrc : (∀ j res, l.pc ≠ .wRestructure (some j) res) ∧ (∀ j, l.pc ≠ .wTreeLinkLocked j))
    (hnew : ∀ p, l'.call = some p → PcInv s p l'.pc) : WInv s' := by
  have hc := chain_congr hh hd
  refine ⟨?_, ?_, ?_⟩
  · intro t1 l1 p1 h1 hc1
    rw [hthr] at h1
    rcases get_set h1 with ⟨rfl, rfl⟩ | ⟨_, h1⟩
    · exact (hnew p1 hc1).congr hh hd
    · exact (I.data.pcInv t1 l1 p1 h1 hc1).congr hh hd
  · intro j hj hin hnc
    rw [hh] at hj hin
    rw [hc] at hnc
    obtain ⟨t0, l0, res, h0, hpc0⟩ := I.data.treeSub j hj hin hnc
    by_cases ht : t0 = t
    · subst ht
      rw [hl] at h0; cases h0
      exact absurd hpc0 (hsrc.1 j res)
    · exact ⟨t0, l0, res, by rw [hthr, get_set_ne ht]; exact h0, hpc0⟩
  · intro j hj hin
    rw [hc] at hj
    rw [hh] at hin
    obtain ⟨t0, l0, h0, hpc0⟩ := I.data.chainSub j hj hin
    by_cases ht : t0 = t
    · subst ht
      rw [hl] at h0; cases h0
      exact absurd hpc0 (hsrc.2 j)
    · exact ⟨t0, l0, by rw [hthr, get_set_ne ht]; exact h0, hpc0⟩

theorem pcInv_noncrit {s s' : State} {p : Pending} {pc : Pc} (hnc : crit pc = false) (h : PcInv s p pc)
    (hlen : s.heap.length ≤ s'.heap.length) : PcInv s' p pc := by
  cases pc with
  | rState cur | lNode cur =>
    cases cur with
    | none => trivial
    | some c => exact Nat.lt_of_lt_of_le h hlen
  | rLin c | rCas c r => exact Nat.lt_of_lt_of_le h hlen
  | rVal i => exact h
  | idle | rFirst | rTree | rRelease _ | wMutex | lFirst => trivial
  | _ => cases hnc

theorem inv_holder_step {s s' : State} {t : Nat} {pc pc' : Pc} {p : Pending} {heap' : List NodeS}
    {first' : Option Nat} (I : Inv s) (hl : s.threads[t]? = some ⟨pc, some p⟩)
    (hs' : s' = storeTo s heap' first' t ⟨pc', some p⟩)
    (hc : crit pc = true) (hc' : crit pc' = true) (hwr : wr pc' = wr pc) (hloop0 : isLoop pc = false)
    (H' : HInv s') (hlen : s.heap.length ≤ s'.heap.length)
    (hself : PcInv s' p pc')
    (htree : ∀ j, j < s'.heap.length → (nodeAt s'.heap j).inTree = true → j ∉ chain s' →
      ∃ res, pc' = .wRestructure (some j) res)
    (hchain : ∀ j ∈ chain s', (nodeAt s'.heap j).inTree = false → pc' = .wTreeLinkLocked j) : Inv s' := by
  have hthr : s'.threads = s.threads.set t ⟨pc', some p⟩ := by rw [hs']; rfl
  have hself' : s'.threads[t]? = some ⟨pc', some p⟩ := by rw [hthr]; exact get_set_self hl
  refine ⟨H', ?_, ?_, ?_, ?_, ?_⟩
  · refine tinv_step (hnew := []) I.thr hl hthr (by rw [hs']; rfl) (by rw [hs']; rfl) ?_ (fun _ h => Or.inl h)
      (fun _ h => absurd h List.not_mem_nil)
    intro p1 hp1 _
    have := I.thr.opOK t _ p1 hl hp1 (crit_facts hc).2.1
    rw [this, (crit_facts hc).1, (crit_facts hc').1]
  · refine linv_step I.lock hl hthr ?_
    rw [hs']
    exact (I.lock.view hl).holder_same hc hc' (crit_facts hc).2.2 (crit_facts hc').2.2 hwr
      (fun h => by rw [hloop0] at h; cases h)
  · intro t1 l1 p1 h1 hc1
    rw [hthr] at h1
    rcases get_set h1 with ⟨rfl, rfl⟩ | ⟨hne, h1⟩
    · cases hc1; exact hself
    · have hnc : crit l1.pc = false := by
        cases hcr : crit l1.pc with
        | false => rfl
        | true => exact absurd (I.lock.crit_unique h1 hl hcr hc) hne
      exact pcInv_noncrit hnc (I.data.pcInv t1 l1 p1 h1 hc1) hlen
  · intro j hj hin hnc
    obtain ⟨res, hpc⟩ := htree j hj hin hnc
    exact ⟨t, _, res, hself', hpc⟩
  · intro j hj hin
    exact ⟨t, _, hself', hchain j hj hin⟩

/-! ## the five stores

Every store is the linearization point of its writer's call (`StoreOK`) or changes no abstract state
(`SilentOK`); the structural invariant and the ghost invariant both take what they need from these. -/

/-- a store that is the linearization point of the writer's call `p` with result `res`: `specStep` at the key of `p`,
no other key changes -/
def StoreOK (s s' : State) (p : Pending) (res : KRes) : Prop :=
  Inv s' ∧ HeapStep s s' ∧ (∀ k, k ≠ p.key → absOf s' k = absOf s k) ∧
    specStep (absOf s p.key) p.op = (absOf s' p.key, res)

/-- a store that changes no abstract state -/
def SilentOK (s s' : State) : Prop := Inv s' ∧ HeapStep s s' ∧ ∀ k, absOf s' k = absOf s k

theorem val_facts {s : State} {t : Nat} {p : Pending} {i : Nat} {v : Nat × Nat} {res : KRes} (I : Inv s)
    (hl : s.threads[t]? = some ⟨.wVal i v res, some p⟩) :
    StoreOK s (storeTo s (s.heap.modify i (fun n => { n with val := v })) s.first t ⟨.wUnlockM res, some p⟩) p res := by
  obtain ⟨hi, hkey0, hspec⟩ : PcInv s p (.wVal i v res) := I.data.pcInv t _ p hl rfl
  have hsub := I.tree_sub_chain_of_crit hl rfl (by simp)
  have hsup := I.chain_sub_tree_of_crit hl rfl (by simp)
  obtain ⟨H', hs, hc, hlen, -, hint, -, hga⟩ :=
    val_store (s' := storeTo s (s.heap.modify i (fun n => { n with val := v })) s.first t
        ⟨.wUnlockM res, some p⟩) I.heap hi rfl rfl
  refine ⟨inv_holder_step I hl rfl rfl rfl rfl rfl H' (by omega) trivial ?_ ?_, hs, ?_, ?_⟩
  · intro j hj hjin hnc
    rw [hint] at hjin; rw [hc] at hnc; rw [hlen] at hj
    exact absurd (hsub j hj hjin) hnc
  · intro j hj hjin
    rw [hint] at hjin; rw [hc] at hj
    rw [hsup j hj] at hjin; cases hjin
  · intro k hk
    rw [hga k, if_neg (fun e => hk (e.symm.trans hkey0))]
  · rw [hga p.key, if_pos hkey0, (absOf_eq_some_iff I.heap).2 ⟨i, hi, hkey0, rfl⟩]
    exact hspec

theorem prepend_facts {s : State} {t : Nat} {p : Pending} {v vi : Nat} (I : Inv s)
    (hl : s.threads[t]? = some ⟨.wPrependLocked, some p⟩) (hop : p.op = .ins v vi ∨ p.op = .tryIns v vi) :
    StoreOK s (storeTo s (s.heap ++ [⟨p.key, (v, vi), s.first, false⟩]) (some s.heap.length) t
      ⟨.wTreeLinkLocked s.heap.length, some p⟩) p .none := by
  have h0 : FreshOK s p := (I.data.pcInv t _ p hl rfl : PcInv s p .wPrependLocked)
  have hsub := I.tree_sub_chain_of_crit hl rfl (by simp)
  have hsup := I.chain_sub_tree_of_crit hl rfl (by simp)
  have hfr : ∀ j, Alive s j → (nodeAt s.heap j).key ≠ p.key := by
    intro j hj
    rcases hj with hj | ⟨hj1, hj2⟩
    · exact h0 j (chain_lt I.heap hj) (hsup j hj)
    · exact h0 j hj1 hj2
  obtain ⟨H', hs, hc, hlen, hold, hnew, hga⟩ :=
    prepend_store (s' := storeTo s (s.heap ++ [⟨p.key, (v, vi), s.first, false⟩]) (some s.heap.length) t
        ⟨.wTreeLinkLocked s.heap.length, some p⟩)
      (new := ⟨p.key, (v, vi), s.first, false⟩) I.heap rfl hfr rfl rfl
  refine ⟨inv_holder_step I hl rfl rfl rfl rfl rfl H' (by omega) ?_ ?_ ?_, hs,
    fun k hk => by rw [hga k, if_neg (fun e => hk e.symm)], ?_⟩
  · refine ⟨by rw [hc]; exact List.mem_cons_self, by rw [hnew], by rw [hnew], ?_⟩
    intro j hj hjin
    rw [hlen] at hj
    by_cases hjl : j < s.heap.length
    · rw [hold j hjl] at hjin ⊢
      exact h0 j hjl hjin
    · have : j = s.heap.length := by omega
      subst this
      rw [hnew] at hjin; cases hjin
  · intro j hj hjin hnc
    rw [hlen] at hj
    by_cases hjl : j < s.heap.length
    · rw [hold j hjl] at hjin
      exact absurd (by rw [hc]; exact List.mem_cons_of_mem _ (hsub j hjl hjin)) hnc
    · have : j = s.heap.length := by omega
      subst this
      rw [hnew] at hjin; cases hjin
  · intro j hj hjin
    rw [hc] at hj
    rcases List.mem_cons.1 hj with hj | hj
    · rw [hj]
    · rw [hold j (chain_lt I.heap hj), hsup j hj] at hjin; cases hjin
  · have h1 : absOf s p.key = none := absOf_eq_none_iff.2 (fun j hj => hfr j (Or.inl hj))
    rw [hga p.key, if_pos rfl, h1]
    rcases hop with hop | hop <;> rw [hop] <;> rfl

theorem treeLink_facts {s : State} {t : Nat} {p : Pending} {x : Nat} (I : Inv s)
    (hl : s.threads[t]? = some ⟨.wTreeLinkLocked x, some p⟩) :
    SilentOK s (storeTo s (s.heap.modify x (fun n => { n with inTree := true })) s.first t
      ⟨.wUnlockRoot .none, some p⟩) := by
  obtain ⟨hx, -, -, -⟩ : PcInv s p (.wTreeLinkLocked x) := I.data.pcInv t _ p hl rfl
  have hsub := I.tree_sub_chain_of_crit hl rfl (by simp)
  obtain ⟨H', hs, hc, hlen, -, -, hint, hga⟩ :=
    treeLink_store (s' := storeTo s (s.heap.modify x (fun n => { n with inTree := true })) s.first t
        ⟨.wUnlockRoot .none, some p⟩) I.heap hx rfl rfl
  refine ⟨inv_holder_step I hl rfl rfl rfl rfl rfl H' (by omega) trivial ?_ ?_, hs, hga⟩
  · intro j hj hjin hnc
    rw [hc] at hnc; rw [hlen] at hj
    rw [hint] at hjin
    split at hjin
    · rename_i hjx; exact absurd (hjx ▸ hx) hnc
    · exact absurd (hsub j hj hjin) hnc
  · intro j hj hjin
    rw [hc] at hj
    rw [hint] at hjin
    split at hjin
    · cases hjin
    · rename_i hne
      cases (I.holder_sets hl rfl).2 j hj hjin
      exact absurd rfl hne

theorem unlink_facts {s : State} {t : Nat} {p : Pending} {i : Nat} {res : KRes} (I : Inv s)
    (hl : s.threads[t]? = some ⟨.wUnlinkLocked i res, some p⟩) :
    StoreOK s (storeTo s (unlinkOf s i).1 (unlinkOf s i).2 t ⟨.wRestructure (some i) res, some p⟩) p res := by
  obtain ⟨hi, hin, hkey0, hspec⟩ : PcInv s p (.wUnlinkLocked i res) := I.data.pcInv t _ p hl rfl
  have hsub := I.tree_sub_chain_of_crit hl rfl (by simp)
  have hsup := I.chain_sub_tree_of_crit hl rfl (by simp)
  obtain ⟨H', hs, hc, hlen, hold, hga⟩ :=
    unlink_store (s' := storeTo s (unlinkOf s i).1 (unlinkOf s i).2 t ⟨.wRestructure (some i) res, some p⟩)
      I.heap hi rfl rfl
  refine ⟨inv_holder_step I hl rfl rfl rfl rfl rfl H' (by omega) ?_ ?_ ?_, hs, ?_, ?_⟩
  · exact ⟨fun h => ((hc i).1 h).2 rfl, by rw [(hold i).2.2]; exact hin, by rw [hlen]; exact chain_lt I.heap hi⟩
  · intro j hj hjin hnc
    rw [hlen] at hj
    rw [(hold j).2.2] at hjin
    have hjc := hsub j hj hjin
    by_cases hji : j = i
    · exact ⟨res, by rw [hji]⟩
    · exact absurd ((hc j).2 ⟨hjc, hji⟩) hnc
  · intro j hj hjin
    rw [(hold j).2.2, hsup j ((hc j).1 hj).1] at hjin; cases hjin
  · intro k hk
    rw [hga k, if_neg (fun e => hk (e.symm.trans hkey0))]
  · rw [hga p.key, if_pos hkey0, (absOf_eq_some_iff I.heap).2 ⟨i, hi, hkey0, rfl⟩]
    exact hspec

theorem untree_facts {s : State} {t : Nat} {p : Pending} {i : Nat} {res : KRes} (I : Inv s)
    (hl : s.threads[t]? = some ⟨.wRestructure (some i) res, some p⟩) :
    SilentOK s (storeTo s (s.heap.modify i (fun n => { n with inTree := false })) s.first t
      ⟨.wUnlockRoot res, some p⟩) := by
  obtain ⟨hi, -, hil⟩ : PcInv s p (.wRestructure (some i) res) := I.data.pcInv t _ p hl rfl
  have hsup := I.chain_sub_tree_of_crit hl rfl (by simp)
  obtain ⟨H', hs, hc, hlen, -, -, hint, hself, hga⟩ :=
    untree_store (s' := storeTo s (s.heap.modify i (fun n => { n with inTree := false })) s.first t
        ⟨.wUnlockRoot res, some p⟩) I.heap rfl rfl
  refine ⟨inv_holder_step I hl rfl rfl rfl rfl rfl H' (by omega) trivial ?_ ?_, hs, hga⟩
  · intro j hj hjin hnc
    rw [hc] at hnc; rw [hlen] at hj
    by_cases hji : j = i
    · subst hji; rw [hself hil] at hjin; cases hjin
    · rw [hint j hji] at hjin
      obtain ⟨res0, hpc0⟩ := (I.holder_sets hl rfl).1 j hj hjin hnc
      cases hpc0
      exact absurd rfl hji
  · intro j hj hjin
    rw [hc] at hj
    have hji : j ≠ i := fun e => hi (e ▸ hj)
    rw [hint j hji, hsup j hj] at hjin; cases hjin

theorem stepK_inv {s s' : State} {t : Nat} {pc : Pc} {call : Option Pending} (I : Inv s)
    (hl : s.threads[t]? = some ⟨pc, call⟩) (hk : StepK s t pc call s') : Inv s' := by
  have V := I.lock.view hl
  cases hk with
  | idle =>
    exact ⟨I.heap.congr rfl rfl, tinv_step (hnew := []) I.thr hl rfl rfl rfl (fun p hp => I.thr.opOK t _ p hl hp)
        (fun _ h => Or.inl h) (fun _ h => absurd h List.not_mem_nil),
      linv_step I.lock hl rfl (V.outside_same rfl rfl),
      winv_frame I hl rfl rfl rfl ⟨by simp, by simp⟩ (fun p hp => I.data.pcInv t _ p hl hp)⟩
  | invoke _ k op lo =>
    refine ⟨I.heap.congr rfl rfl, tinv_step (hnew := []) I.thr hl rfl rfl rfl ?_
        (fun _ h => Or.inr (by cases h; rfl)) (fun _ h => absurd h List.not_mem_nil), linv_step I.lock hl rfl ?_,
      winv_frame I hl rfl rfl rfl ⟨by simp, by simp⟩ ?_⟩
    · intro _ hp _
      cases hp
      show isReader op = readerPc (if isReader op then (if lo then .lFirst else .rFirst) else .wMutex)
      cases isReader op <;> cases lo <;> rfl
    · show SyncOK _ _ _ _ _ _ _ _ _
        (crit (if isReader op then (if lo then .lFirst else .rFirst) else .wMutex)) _ _ _ _
      cases isReader op <;> cases lo <;> exact V.outside_same rfl rfl
    · intro p _
      show PcInv s p (if isReader op then (if lo then .lFirst else .rFirst) else .wMutex)
      cases isReader op <;> cases lo <;> trivial
  | move p pc' m w a r hm =>
    refine ⟨I.heap.congr rfl rfl, tinv_step (hnew := []) I.thr hl rfl rfl rfl ?_ (fun _ h => Or.inl h)
        (fun _ h => absurd h List.not_mem_nil), linv_step I.lock hl rfl (hm.sync_ok V),
      winv_frame I hl rfl rfl rfl hm.src.2.2 ?_⟩
    · intro p1 hp1 _
      show isReader p1.op = readerPc pc'
      rw [hm.src.2.1]
      exact I.thr.opOK t _ p1 hl hp1 hm.src.1
    · intro p1 hp1
      cases hp1
      exact hm.pcInv I hl
  | fin p res m r hf =>
    exact ⟨I.heap.congr rfl rfl,
      tinv_step (hnew := [(p.key, ⟨t, p.op, res, p.inv, s.now + 1⟩)]) I.thr hl rfl rfl rfl
        (fun _ h => by cases h) (fun _ h => by cases h)
        (fun x hx => by cases List.mem_singleton.1 hx; exact ⟨rfl, rfl, rfl, p, rfl, rfl⟩),
      linv_step I.lock hl rfl (hf.sync_ok V), winv_frame I hl rfl rfl rfl hf.src_ne (fun _ h => by cases h)⟩
  | val p i v res => exact (val_facts I hl).1
  | prepend p v vi hop => exact (prepend_facts I hl hop).1
  | treeLink p x => exact (treeLink_facts I hl).1
  | unlink p i res => exact (unlink_facts I hl).1
  | untree p i res => exact (untree_facts I hl).1
  | dead p s' hd =>
    have h0 : PcInv s p pc := I.data.pcInv t _ p hl rfl
    cases pc <;> first | exact h0.elim | cases hd

theorem init_threads {n t : Nat} {l : Local} (h : (init n).threads[t]? = some l) : l = {} := by
  simp only [init, List.getElem?_replicate] at h
  split at h
  · cases h; rfl
  · cases h

theorem init_inv (n : Nat) : Inv (init n) := by
  have hchain : chain (init n) = [] := by simp [chain, init, chainFrom]
  refine ⟨⟨?_, ?_, ?_⟩, ⟨?_, ?_, ?_, ?_, ?_, ?_⟩, ⟨?_, ?_, ?_, ?_, ?_, ?_⟩, ⟨?_, ?_, ?_⟩⟩
  · intro i n' j h; simp [init] at h
  · intro h hh; simp [init] at hh
  · intro i j hi
    rcases hi with hi | ⟨hi, _⟩
    · rw [hchain] at hi; cases hi
    · simp [init] at hi
  · intro t l p hl hc; rw [init_threads hl] at hc; cases hc
  · intro x hx; simp [init] at hx
  · intro t l p hl hc; rw [init_threads hl] at hc; cases hc
  · intro x hx; simp [init] at hx
  · intro t t' l l' p p' hl _ hc; rw [init_threads hl] at hc; cases hc
  · simp [init]
  · intro t l hl
    rw [init_threads hl]
    constructor
    · intro h; cases h
    · intro h; simp [init] at h
  · intro h hm; simp [init] at hm
  · intro _; exact ⟨rfl, rfl⟩
  · intro t l hl hm; simp [init] at hm
  · show 0 = cnt holdsRead (List.replicate n {})
    rw [cnt_replicate_idle holdsRead rfl]
  · intro h; cases h
  · intro t l p hl hc; rw [init_threads hl] at hc; cases hc
  · intro j hj; simp [init] at hj
  · intro j hj; rw [hchain] at hj; cases hj

theorem step_inv {s s' : State} {t : Nat} {inv : Option (Nat × KOp)} {bal lo : Bool} (I : Inv s)
    (hs : step s t inv bal lo = some s') : Inv s' := by
  cases hl : s.threads[t]? with
  | none => unfold step stepG at hs; rw [hl] at hs; cases hs
  | some l => exact stepK_inv I hl (step_stepK hl hs)

theorem reachable_inv {n : Nat} {s : State} (hr : Reachable n s) : Inv s := by
  induction hr with
  | init => exact init_inv n
  | step t inv bal lo _ hs ih => exact step_inv ih hs

end Flurry.Proto.BinU
