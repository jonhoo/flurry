import Flurry.Lemmas.BinNRank
import Flurry.Proto.BinN
import Flurry.Lemmas.ListSplit
/-! # Proto/BinN: the split of the old list (`splitBinB`) establishes `Split` (C01, C10)

`splitBinB bit` is `ListSplit.splitG` at the node type of `Proto/BinX` (`sig`, `splitBinB_eqG`), so
`ListSplit.splitG_spec` describes the two new lists by their position on the old chain `O`. Here that is read in the
terms of the heap invariant: the old chain may contain copies of earlier generations, so it is sorted by `ord cr0`
(not by index), and "before on `O`" is "smaller in `ord`" (`IsSeg.sorted`, `pair_sublist_of_sorted`); the fresh copies
point to nodes of smaller index, so `next` pointers still go upwards in `ord` once the fresh index range has been
added to the copy set (`nextOK_addRange`); `sideOK_ofG` reads `ListSplit.SideSpec` as `SideOK`, and `splitBinB_spec` is the
result the step proofs use.

`bitOfB`, `CopiesOKB`, `HeapOKB`, `SplitInvB` state the invariant of the copy loop in the terms of this model (`NextOK` over
the grown copy set is a clause of `HeapOKB`). No proof goes through them: the loop is treated once, in
`Lemmas/ListSplit.lean`, with an invariant that is private to `ListSplit.splitG_spec`. -/
namespace Flurry.Proto.BinN
open Flurry.Proto.BinX (NodeS dflt nodeAt IsChain KeysDistinct nodeAt_append_left)

/-- `ord cr` is injective; `Lemmas/BinNChain.lean`, which this file does not import, states it as `BinN.ord_inj` -/
private theorem ord_inj {cr : CR} {i j : Nat} (h : ord cr i = ord cr j) : i = j := by
  unfold ord at h
  split at h <;> split at h <;> omega

/-- on a list sorted by `f`, the smaller of two members comes first -/
theorem pair_sublist_of_sorted {f : Nat → Int} {O : List Nat} (hs : O.Pairwise (fun x y => f x < f y)) {r i : Nat}
    (hr : r ∈ O) (hi : i ∈ O) (hlt : f r < f i) : List.Sublist [r, i] O := by
  obtain ⟨p, q, rfl⟩ := List.append_of_mem hi
  have hp := List.pairwise_append.1 hs
  rcases List.mem_append.1 hr with hrp | hrq
  · exact List.Sublist.append (List.singleton_sublist.2 hrp) (List.singleton_sublist.2 List.mem_cons_self)
  · rcases List.mem_cons.1 hrq with rfl | hrq
    · exact absurd hlt (Int.lt_irrefl _)
    · have := List.rel_of_pairwise_cons hp.2.1 hrq
      omega

/-- how `Lemmas/ListSplit.lean` reads a node; a fresh copy is an unlocked node -/
@[reducible] def sig : ListSplit.NodeSig NodeS :=
  ⟨fun n => n.key, fun n => n.val, fun n => n.next, fun k v nx => ⟨k, v, nx, none⟩, dflt,
    fun _ _ _ => rfl, fun _ _ _ => rfl, fun _ _ _ => rfl⟩

theorem splitBinB_eqG (bit : Nat → Bool) (heap : List NodeS) (c : List Nat) :
    splitBinB bit heap c = ListSplit.splitG sig bit heap c := rfl

/-- the split bit of the node `i` of `heap` -/
def bitOfB (bit : Nat → Bool) (heap : List NodeS) (i : Nat) : Bool := bit (nodeAt heap i).key

theorem lastRunStartB_le (bit : Nat → Bool) (heap : List NodeS) (c : List Nat) :
    lastRunStartB bit heap c ≤ c.length :=
  ListSplit.lastRunStartG_le sig bit heap c

/-- the copies on the new list of side `b`, after the nodes `P` have been processed -/
structure CopiesOKB (bit : Nat → Bool) (heap hp : List NodeS) (P : List Nat) (b : Bool) (C : List Nat) : Prop where
  copy : ∀ x ∈ C, heap.length ≤ x ∧ x < hp.length
  side : ∀ x ∈ C, bitOfB bit hp x = b
  cover : ∀ i ∈ P, bitOfB bit heap i = b → ∃ x ∈ C, (nodeAt hp x).key = (nodeAt heap i).key ∧
    (nodeAt hp x).val = (nodeAt heap i).val

/-- the grown heap after the nodes `P` have been copied -/
structure HeapOKB (cr0 : CR) (heap : List NodeS) (P : List Nat) (hp : List NodeS) : Prop where
  ext : ∃ cs, hp = heap ++ cs
  src : ∀ x, heap.length ≤ x → x < hp.length → ∃ i ∈ P, (nodeAt hp x).key = (nodeAt heap i).key ∧
    (nodeAt hp x).val = (nodeAt heap i).val
  inj : ∀ x y, heap.length ≤ x → x < hp.length → heap.length ≤ y → y < hp.length →
    (nodeAt hp x).key = (nodeAt hp y).key → x = y
  nextOK : NextOK (addRange cr0 heap.length hp.length) hp

/-- the invariant of the copy loop: `P` are the nodes processed so far, `lr` / `hr` the re-used parts -/
structure SplitInvB (bit : Nat → Bool) (cr0 : CR) (heap : List NodeS) (lr hr : List Nat) (P : List Nat)
    (acc : List NodeS × Option Nat × Option Nat) : Prop where
  heapOK : HeapOKB cr0 heap P acc.1
  chains : ∃ LC HC, IsChain acc.1 acc.2.1 (LC ++ lr) ∧ IsChain acc.1 acc.2.2 (HC ++ hr) ∧
    CopiesOKB bit heap acc.1 P false LC ∧ CopiesOKB bit heap acc.1 P true HC

/-- fresh copies that point to nodes of smaller index: `next` pointers go upwards in `ord` once their index range has
been added to the copy set (a later copy has a smaller `ord`) -/
theorem nextOK_addRange {cr0 : CR} {heap ext : List NodeS} (hok : NextOK cr0 heap)
    (h : ListSplit.FreshDown sig heap.length ext) :
    NextOK (addRange cr0 heap.length (heap ++ ext).length) (heap ++ ext) := by
  intro i n j hn hj
  by_cases hi : i < heap.length
  · rw [List.getElem?_append_left hi] at hn
    obtain ⟨h1, h2⟩ := hok i n j hn hj
    rw [ord_addRange_old hi, ord_addRange_old h2]
    exact ⟨h1, by rw [List.length_append]; omega⟩
  · have hi' : heap.length ≤ i := Nat.le_of_not_lt hi
    rw [List.getElem?_append_right hi'] at hn
    obtain ⟨hlt, rfl⟩ := List.getElem?_eq_some_iff.1 hn
    obtain ⟨k, v, nx, e, hdown⟩ := h (i - heap.length) hlt
    rw [e] at hj
    have hji := hdown j hj
    have hil : i < (heap ++ ext).length := by rw [List.length_append]; omega
    rw [ord_copy (isCopy_addRange.2 (Or.inr ⟨hi', hil⟩))]
    have := ord_ge (addRange cr0 heap.length (heap ++ ext).length) j
    exact ⟨by omega, by omega⟩

/-- `ListSplit.SideSpec` on an old chain sorted by `ord cr0` is `SideOK` -/
theorem sideOK_ofG {bit : Nat → Bool} {cr0 : CR} {heap ext : List NodeS} {O X : List Nat} {b : Bool}
    (hs : O.Pairwise (fun x y => ord cr0 x < ord cr0 y)) (hlt : ∀ i ∈ O, i < heap.length)
    (hX : ∀ j ∈ X, j < (heap ++ ext).length)
    (h : ListSplit.SideSpec sig bit heap (heap ++ ext) O b X) :
    SideOK bit (heap ++ ext) (addRange cr0 heap.length (heap ++ ext).length) (heap.length, (heap ++ ext).length) O b X := by
  have hold : ∀ i ∈ O, nodeAt (heap ++ ext) i = nodeAt heap i := fun i hi => nodeAt_append_left ext (hlt i hi)
  have hord : ∀ i ∈ O, ord (addRange cr0 heap.length (heap ++ ext).length) i = ord cr0 i := fun i hi =>
    ord_addRange_old (hlt i hi)
  refine ⟨h.side, fun i hi j hj e => h.keys i j hi hj e, fun j hj => (h.mem j hj).imp id fun hge => ⟨hge, hX j hj⟩,
    ?_, ?_, ?_⟩
  · intro j hj hf
    obtain ⟨i, hi, hk, hv, hsub⟩ := h.src j hj hf.1
    refine ⟨i, hi, by rw [hold i hi]; exact hk, by rw [hold i hi]; exact hv, fun r hr hrX => ?_⟩
    rw [hord i hi, hord r hr]
    exact List.rel_of_pairwise_cons (hs.sublist (hsub r hr hrX)) List.mem_cons_self
  · intro i hi hb
    rw [hold i hi] at hb
    obtain ⟨j, hj, hk, hv, hor⟩ := h.cover i hi hb
    exact ⟨j, hj, by rw [hold i hi]; exact hk, by rw [hold i hi]; exact hv, hor.imp id fun hge => ⟨hge, hX j hj⟩⟩
  · intro r hr hrX i hi hri
    rw [hord r hr, hord i hi] at hri
    exact h.suffix r hr hrX i hi (pair_sublist_of_sorted hs hr hi hri)

/-- **the split**: the new heap extends the old one, its `next` pointers go upwards once the fresh index
range has been added to the copy set, and the two heads are the heads of well-formed lists of their sides -/
theorem splitBinB_spec {bit : Nat → Bool} {cr0 : CR} {heap : List NodeS} {h : Nat} {O : List Nat}
    (hok : NextOK cr0 heap) (hO : IsChain heap (some h) O) (hkeys : KeysDistinct heap O) :
    ∃ ext, (splitBinB bit heap O).1 = heap ++ ext ∧
      NextOK (addRange cr0 heap.length (splitBinB bit heap O).1.length) (splitBinB bit heap O).1 ∧
      Split bit (splitBinB bit heap O).1 (addRange cr0 heap.length (splitBinB bit heap O).1.length)
        (heap.length, (splitBinB bit heap O).1.length) O
        (splitBinB bit heap O).2.1 (splitBinB bit heap O).2.2 := by
  have hsorted : O.Pairwise (fun x y => ord cr0 x < ord cr0 y) := hO.sorted hok
  have hnd : O.Nodup := hsorted.imp (fun hab he => by subst he; exact Int.lt_irrefl _ hab)
  obtain ⟨ext, L, H, h1, hdown, hL, hH, sL, sH⟩ :=
    ListSplit.splitG_spec sig bit (BinX.isSeg_iff.1 hO) hnd (fun i j hi hj e => hkeys i hi j hj e)
  rw [splitBinB_eqG, h1]
  exact ⟨ext, rfl, nextOK_addRange hok hdown, hO.lt_length, L, H, BinX.isSeg_iff.2 hL, BinX.isSeg_iff.2 hH,
    sideOK_ofG hsorted hO.lt_length hL.lt_length sL, sideOK_ofG hsorted hO.lt_length hH.lt_length sH⟩

end Flurry.Proto.BinN
