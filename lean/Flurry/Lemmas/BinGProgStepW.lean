import Flurry.Lemmas.BinGInvQ
import Flurry.Lemmas.BinGProgAll
/-! # Proto/BinG, progress: one step of any thread that is not blocked

`thread_step`: in every state with the invariants, the step of a thread that is not `idle` and not
`Blocked` is enabled (for every value of the scheduler's arguments), and it either brings the thread
back to `idle` (a call returns: one entry added to `hist`) or to a program counter with a strictly
smaller measure `wmu` (`Lemmas/BinGProgAll.lean`): a calm transition leaves the view alone and decreases
the calm-step measure (`Lemmas/BinGDrainCalm.lean`); after a store the rest of the protocol has
constant length. `reader_step_aux` is its corollary for a thread at a reader program counter, which is never `Blocked`
and whose `wmu` is `mu` (`wmu_reader`): the step is enabled and ends in `Outcome` (`Lemmas/BinGProgRead.lean`). -/
namespace Flurry.Proto.BinG
open Flurry.Lin
open Flurry.Proto.BinK (binAt get_set_self binAt_modify_self)
open Flurry.Proto.BinGProg (lt_of_eval ite_lt_ite lt_ite_pos le_ite)

theorem Progress.of_setT {s X : State} {t : Nat} {l : Local} (hl : s.threads[t]? = some l) {pc' : Pc}
    (hX : X.threads = s.threads ∧ X.hist = s.hist ∧ X.now = s.now + 1) (hne : pc' ≠ .idle)
    (hmu : wmu (setT X t ⟨pc', l.call⟩) ⟨pc', l.call⟩ < wmu s l) : Progress s t l (setT X t ⟨pc', l.call⟩) :=
  .inr ⟨pc', (by show (X.threads.set t _)[t]? = _; rw [hX.1]; exact get_set_self hl), hne, hX.2.1, hmu⟩

/-- after a calm transition the view and the heap length are those of `s`, and off `lrLoop` `wmu` is `pmV` -/
theorem Progress.of_calm {s X : State} {t : Nat} {l : Local} (hl : s.threads[t]? = some l) {pc' : Pc}
    (hX : X.threads = s.threads ∧ X.hist = s.hist ∧ X.now = s.now + 1)
    (hv : viewOf (setT X t ⟨pc', l.call⟩) = viewOf s ∧ (setT X t ⟨pc', l.call⟩).heap.length = s.heap.length)
    (hne : pc' ≠ .idle) (hl1 : isLoop l.pc = false) (hl2 : isLoop pc' = false)
    (hpm : pmV s.heap.length (viewOf s) ⟨pc', l.call⟩ < pmV s.heap.length (viewOf s) l) :
    Progress s t l (setT X t ⟨pc', l.call⟩) := by
  refine Progress.of_setT hl hX hne ?_
  rw [wmu_eq hl1, wmu_eq (l := ⟨pc', l.call⟩) hl2, hv.1, hv.2]
  exact hpm

/-- **one step of a thread that is not blocked**: enabled, and the thread is `idle` again or closer to
it — in every state with the invariants, for every choice of the scheduler's arguments -/
theorem thread_step {s : State} (I : Inv s) (B : BInv s) {t : Nat} {l : Local}
    (hl : s.threads[t]? = some l) (hne : l.pc ≠ .idle) (hnb : ¬ Blocked s l.pc)
    (inv : Option (Nat × KOp)) (lo : Bool) (mt : Option Nat) (rz sm sm2 : Bool) :
    ∃ s', step s t inv lo mt rz sm sm2 = some s' ∧ Progress s t l s' := by
  obtain ⟨s', hs⟩ := Option.isSome_iff_exists.1
    ((step_enabled_or_blocked I B hl hne inv lo mt rz sm sm2).resolve_right hnb)
  refine ⟨s', hs, ?_⟩
  have hk := step_stepN hl hs
  have href := I.lock.refOK t l
  obtain ⟨pc, call⟩ := l
  cases hk with
  | idle hpc | maint _ hpc | resizeStart hpc _ | invoke _ _ _ hpc => exact absurd hpc hne
  | fin p res hp hc hf => exact Progress.fin (s1 := qst s hp s.tbins) hl hc rfl rfl rfl res
  | bfin p res tb hc hf => exact Progress.fin (s1 := qst s s.heap tb) hl hc rfl rfl rfl res
  | cas p tab v vi hc hpc he hop =>
    exact Progress.fin (s1 := setCell (qst s _ s.tbins) tab p.key _) hl hc (setCell_threads _ _ _ _)
      (setCell_hist _ _ _ _) (setCell_now _ _ _ _) .none
  | move p pc' hp hc hm =>
    cases hc
    obtain ⟨hl1, hl2 | ⟨tab, b, k, res, rfl, rfl⟩⟩ := hm.loop
    · exact Progress.of_calm hl ⟨rfl, rfl, rfl⟩ (view_setT_lock hm.lockKind _) (hm.grow_da (viewOf s) none).1 hl1 hl2
        (hm.calm I.heap (Nat.le_refl _) hl hs (get_set_self hl))
    · -- `lrTry` falls through to `lrLoop`
      cases hm
      exact Progress.of_setT hl ⟨rfl, rfl, rfl⟩ nofun (Nat.lt_succ_of_le (wmu_lrLoop_le ..))
  | kmove pc' hp hc hm =>
    cases hc
    by_cases hid : pc' = .idle
    · subst hid
      exact Progress.done hl rfl rfl rfl
    · exact Progress.of_calm hl ⟨rfl, rfl, rfl⟩ (view_setT_lock hm.lockKind _) hid
        (by cases hm <;> rfl) (by cases hm <;> rfl) (hm.calm I.heap _)
  | kbmove pc' tb hc hm =>
    cases hc
    have hlp : isLoop pc = false ∧ isLoop pc' = false := by cases hm <;> exact ⟨rfl, rfl⟩
    obtain ⟨h1, ⟨b, x, rfl⟩, _, _, hpm⟩ := hm.calm s.heap.length
    exact Progress.of_calm hl ⟨rfl, rfl, rfl⟩ (view_setT_mutex s b x t _) h1 hlp.1 hlp.2 hpm
  | bmove p pc' tb hc hm =>
    cases hc
    cases hm with
    | rCasOk _ _ _ =>
      exact Progress.of_setT hl ⟨rfl, rfl, rfl⟩ nofun
        (Nat.lt_of_lt_of_le (lt_of_eval rfl) (le_ite (n := 4) (Nat.le_refl _) (Nat.le_add_left 4 _)))
    | rRelVal _ | unlockRoot => exact Progress.of_setT hl ⟨rfl, rfl, rfl⟩ nofun (lt_of_eval rfl)
    | @lrTryOk _ _ k _ _ _ _ =>
      exact Progress.of_setT hl ⟨rfl, rfl, rfl⟩ (by cases k <;> nofun) (by cases k <;> exact lt_of_eval rfl)
    | @tMutex tab b _ =>
      exact Progress.of_calm hl ⟨rfl, rfl, rfl⟩ (view_setT_mutex s b (some t) t _) nofun rfl rfl
        (ite_lt_ite (lt_of_eval rfl) (Nat.add_lt_add_right (lt_of_eval rfl) _))
    | @tUnlockMRetry tab b res =>
      exact Progress.of_calm hl ⟨rfl, rfl, rfl⟩ (view_setT_mutex s b none t _) nofun rfl rfl
        (Nat.lt_add_of_pos_left (Nat.succ_pos 0))
    | @lrLoopOk tab b k res hw hr =>
      have hc : lrCond s b = true := by unfold lrCond; rw [hw, hr]; rfl
      refine Progress.of_setT hl ⟨rfl, rfl, rfl⟩ (by cases k <;> nofun) ?_
      refine Nat.lt_of_lt_of_le (m := 5) (by cases k <;> exact lt_of_eval rfl) ?_
      show 5 ≤ (if lrCond s b = true then 5 else 0) + _
      rw [if_pos hc]; exact Nat.le_add_right _ _
    | @lrLoopWait tab b k res hwt =>
      have hb : b < s.tbins.length := (href b hl rfl).1
      refine Progress.of_setT hl ⟨rfl, rfl, rfl⟩ nofun ?_
      -- setting `WAITER` leaves `lrCond` alone and takes the `1` of the second summand away
      show (if lrCond (setT (qst s s.heap _) t _) b = true then 5 else 0) +
          (if (binAt (s.tbins.modify b _) b).waiter = true then 0 else 1) <
        (if lrCond s b = true then 5 else 0) + (if (binAt s.tbins b).waiter = true then 0 else 1)
      have h1 : lrCond (setT (qst s s.heap (s.tbins.modify b fun x => { x with waiter := true })) t
          ⟨.lrLoop tab b k res, some p⟩) b = lrCond s b := by
        show (!(binAt (s.tbins.modify b _) b).writer && (binAt (s.tbins.modify b _) b).readers == 0) = _
        rw [binAt_modify_self _ hb]; rfl
      rw [h1, binAt_modify_self _ hb, hwt]
      simp
  | store p tab h pred hit hnext hc hpc =>
    cases hpc; exact Progress.of_setT hl (storeAt_frame (tick s) tab p pred hit hnext) nofun (lt_of_eval rfl)
  | unlink p tab b i res small hc hpc =>
    cases hpc
    exact Progress.of_setT hl (unlinkOf_frame (tick s) b i) (by cases small <;> nofun) (by cases small <;> exact lt_of_eval rfl)
  | untreeify p tab b res hc hpc =>
    cases hpc; exact Progress.of_setT hl (untreeifyOf_frame (tick s) tab p.key b) nofun (lt_of_eval rfl)
  | kstore tab k h b hc hpc =>
    cases hpc
    exact Progress.of_setT hl ⟨setCell_threads _ _ _ _, setCell_hist _ _ _ _, setCell_now _ _ _ _⟩
      nofun (lt_of_eval rfl)
  | ybuild b small small2 hc hpc =>
    cases hpc; exact Progress.of_setT hl (ysplitOf_frame (tick s) b small small2) nofun (lt_of_eval rfl)
  | tval _ _ _ _ _ _ _ hpc | prepend _ _ _ _ _ _ hpc _ | treeLink _ _ _ _ _ hpc | untree _ _ _ _ _ _ hpc
  | kbuild _ _ _ _ hpc | xbuild _ _ hpc =>
    cases hpc; exact Progress.of_setT hl ⟨rfl, rfl, rfl⟩ nofun (lt_of_eval rfl)
  | xcasMoved hc hpc h0 =>
    cases hpc
    exact Progress.move hl .xCommit (by cases s; rfl) (by cases s; rfl) nofun (lt_ite_pos h0 (lt_of_eval rfl))
  | xstoreLow unl lo hi hc hpc =>
    cases hpc; exact Progress.move hl (.xStoreHigh unl hi) (by cases s; rfl) (by cases s; rfl) nofun (lt_of_eval rfl)
  | xstoreHigh unl hi hc hpc =>
    cases hpc; exact Progress.move hl (.xStoreMoved unl) (by cases s; rfl) (by cases s; rfl) nofun (lt_of_eval rfl)
  | xstoreMoved unl hc hpc =>
    cases hpc; exact Progress.move hl (.xUnlock unl) (by cases s; rfl) (by cases s; rfl) nofun (lt_of_eval rfl)
  | xcommit hc hpc =>
    cases hpc; cases hc
    exact Progress.done hl rfl (by cases s; rfl) (by cases s; rfl)

/-- **one step of a reader**: enabled, and it returns or gets closer to returning — in every state
with the invariants, for every choice of the scheduler's arguments -/
theorem reader_step_aux {s : State} (I : Inv s) (B : BInv s) {t : Nat} {l : Local}
    (hl : s.threads[t]? = some l) (hrd : readerPc l.pc = true) (inv : Option (Nat × KOp)) (lo : Bool)
    (mt : Option Nat) (rz sm sm2 : Bool) :
    ∃ p s', l.call = some p ∧ step s t inv lo mt rz sm sm2 = some s' ∧ Outcome s t p l.pc s' := by
  obtain ⟨hne, _, hnw⟩ := readerPc_facts hrd
  obtain ⟨s', hs, hp⟩ := thread_step I B hl hne (not_blocked_of_not_waitPc hnw) inv lo mt rz sm sm2
  obtain ⟨p, tb, hpc, _, hcl⟩ := (step_stepN hl hs).reader hrd
  refine ⟨p, s', hpc, hs, ?_⟩
  obtain ⟨pc, call⟩ := l
  cases hpc
  rcases hcl with ⟨pc', hr', rfl, _⟩ | ⟨res, rfl⟩
  · have hl' : (setT (qst s s.heap tb) t ⟨pc', some p⟩).threads[t]? = some ⟨pc', some p⟩ := get_set_self hl
    refine .inr ⟨pc', hl', hr', rfl, ?_⟩
    rcases hp with ⟨hidle, _⟩ | ⟨pc'', hl1, _, _, hmu⟩
    · cases hl'.symm.trans hidle
    · cases hl'.symm.trans hl1
      rwa [wmu_reader hrd, wmu_reader (l := ⟨pc', some p⟩) hr'] at hmu
  · exact .inl ⟨get_set_self hl, res, rfl⟩

end Flurry.Proto.BinG
