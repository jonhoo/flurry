import Flurry.Lemmas.ResizeThms
/-! # Progress of the resize protocol

`mu s` is a natural-number measure – the sum over all threads of a potential `pot` that bounds the
number of steps the thread can still take inside the machinery – with

* `mu_decreases`: **every** step of a thread inside the machinery (`quiet l = false`: participant
  or finisher) strictly decreases `mu`. This includes failed CASes: the potential of a thread at
  `claimCas ni` / `leaveCas sc` is *staleness aware* (larger when the loaded value is out of date),
  and a successful step of another thread that makes a loaded value stale pays for it
  (`8 * Δ transferIndex` resp. `5 * Δ cnt`).
* `progress_possible`: from every reachable state there is a finite run of steps of non-idle
  threads that reaches `allIdle` (and then `quiescent_after` applies).

`stride ≥ 1` is needed (with `stride = 0` a claim does not lower `transfer_index`). -/
namespace Flurry.Proto.Resize

variable {n0 nthreads stride : Nat} {s s' : State} {t : Nat} {l l' : Local}

theorem sum_map_le_add {α} {f g : α → Nat} {k : Nat} {l : List α}
    (h : ∀ (u : Nat) (b : α), l[u]? = some b → g b ≤ f b + k) :
    (l.map g).sum ≤ (l.map f).sum + l.length * k := by
  induction l with
  | nil => simp
  | cons y l ih =>
    have h0 := h 0 y (by simp)
    have := ih (fun u b hu => h (u + 1) b (by simpa using hu))
    simp only [List.map_cons, List.sum_cons, List.length_cons, Nat.add_mul]
    omega

theorem sum_set_le {α} {f g : α → Nat} {k : Nat} {l : List α} {t : Nat} {a x : α}
    (hl : l[t]? = some a)
    (h : ∀ (u : Nat) (b : α), u ≠ t → l[u]? = some b → g b ≤ f b + k) :
    ((l.set t x).map g).sum + f a ≤ (l.map f).sum + g x + l.length * k := by
  induction l generalizing t with
  | nil => simp at hl
  | cons y l ih =>
    cases t with
    | zero =>
      simp at hl; subst hl
      have := sum_map_le_add (f := f) (g := g) (k := k) (l := l)
        (fun u b hu => h (u + 1) b (by omega) (by simpa using hu))
      simp only [List.set_cons_zero, List.map_cons, List.sum_cons, List.length_cons, Nat.add_mul]
      omega
    | succ t =>
      simp at hl
      have h0 := h 0 y (by omega) (by simp)
      have := ih hl (fun u b hu hb => h (u + 1) b (by omega) (by simpa using hb))
      simp only [List.set_cons_succ, List.map_cons, List.sum_cons, List.length_cons, Nat.add_mul]
      omega

/-- bound on the steps of the finisher's sweep and publication -/
def FIN (n : Nat) : Nat := 3 * (n + 1) + 10
/-- bound on the steps from `leaveLoad` on -/
def LV (n : Nat) (sc : SC) : Nat := FIN n + 5 * cnt sc + 10
/-- bound on the steps of a participant at the top of the claim loop -/
def RR (n : Nat) (sc : SC) (ti : Int) : Nat := 8 * ti.toNat + LV n sc + 10
/-- bins left in the claimed stride -/
def qq (l : Local) : Nat := (l.i - l.bound).toNat
/-- `i` is outside the table: the "done" branch of `dispatch` -/
def outR (n : Nat) (l : Local) : Prop := l.i < 0 ∨ (n : Int) ≤ l.i

instance (n : Nat) (l : Local) : Decidable (outR n l) := by unfold outR; infer_instance

theorem outR_iff {n : Nat} {l : Local} : outR n l ↔ l.i < 0 ∨ (n : Int) ≤ l.i := Iff.rfl

/-- Potential of one thread: a bound on the steps it can still take inside the machinery. It depends
on the shared state only through `n`, `size_ctl`, `transfer_index` and the number of threads.
* A bin takes 3 steps (`claimLoad`, `dispatch`, `processBin`): `3 * qq l` for the rest of a claimed
  stride, `3 * (l.i + 1)` for the rest of the finisher's sweep. The small constants number the
  steps of one round.
* A failed CAS is retried within 3 steps, and it fails only because a CAS of another thread
  succeeded. So a thread whose loaded value is stale holds 5 more, and the successful step pays for
  it: a claim lowers `transfer_index` by at least 1 and so takes 8 = 3 + 5 off every `RR` (the 3
  go to the claimer's `3 * qq l` for the bin it now has to process); a leave lowers the count and
  takes 5 off every `LV`.
* `storeIndex` raises `transfer_index` to `n`, hence every other `RR` by at most `8 * n` (and 5 more
  where it makes a loaded index stale): the initiator holds `len * (8 * n + 5)` for that. -/
def pot (n : Nat) (sc : SC) (ti : Int) (len : Nat) (l : Local) : Nat :=
  match l.pc with
  | .idle | .casInit _ | .casJoin _ | .helpCheckNext | .helpCheckTable | .helpLoadSc
  | .helpLoadIndex _ | .acLoadTable _ | .acLoadNext _ | .acLoadIndex _ => 0
  | .swapNext => len * (8 * n + 5) + 8 * n + LV n sc + 21
  | .storeIndex => len * (8 * n + 5) + 8 * n + LV n sc + 20
  | .claimLoad =>
    if l.finishing then (if l.advance then 3 * (l.i + 1).toNat + 6 else 3 * (l.i + 1).toNat + 10)
    else (if l.advance then 3 * qq l + 4 + RR n sc ti else 3 * qq l + 7 + RR n sc ti)
  | .claimCas ni => if ti = ni then 3 + RR n sc ti else 3 * qq l + 8 + RR n sc ti
  | .dispatch =>
    if l.finishing then (if outR n l then 4 else 3 * (l.i + 1).toNat + 8)
    else (if outR n l then LV n sc + 3 else 3 * qq l + 6 + RR n sc ti)
  | .processBin =>
    if l.finishing then 3 * (l.i + 1).toNat + 7 else 3 * qq l + 5 + RR n sc ti
  | .leaveLoad => LV n sc + 2
  | .leaveCas sc' => if sc = sc' then LV n sc + 1 else LV n sc + 6
  | .pubClearNext => 3
  | .pubSwapTable => 2
  | .pubStoreCtl => 1

def potS (s : State) (l : Local) : Nat := pot s.n s.sizeCtl s.transferIndex s.threads.length l

def mu (s : State) : Nat := (s.threads.map (potS s)).sum

theorem pot_quiet {n : Nat} {sc : SC} {ti : Int} {len : Nat} {l : Local} (h : quiet l = true) :
    pot n sc ti len l = 0 := by
  unfold quiet at h; unfold pot
  split <;> simp_all

/-- The potential of a bystander depends on `size_ctl` and `transfer_index` through `LV` and `RR`:
it grows by at most `k` if they do, provided a change that makes the value a thread at `claimCas` /
`leaveCas` has loaded stale pays 5 more. -/
theorem pot_le {n len k : Nat} {sc sc' : SC} {ti ti' : Int} {lu : Local}
    (hq : ∀ ni, lu.pc = .claimCas ni → lu.i < lu.bound)
    (hLV : LV n sc' ≤ LV n sc + k) (hRR : RR n sc' ti' ≤ RR n sc ti + k)
    (hti : ti' ≠ ti → RR n sc' ti' + 5 ≤ RR n sc ti + k)
    (hsc : sc' ≠ sc → LV n sc' + 5 ≤ LV n sc + k) :
    pot n sc' ti' len lu ≤ pot n sc ti len lu + k := by
  cases hpc : lu.pc <;> simp only [pot, hpc]
  case claimCas ni =>
    have : qq lu = 0 := by have := hq ni hpc; unfold qq; omega
    by_cases h : ti' = ti
    · subst h; split <;> omega
    · have := hti h; split <;> split <;> omega
  case leaveCas sc0 =>
    by_cases h : sc' = sc
    · subst h; split <;> omega
    · have := hsc h; split <;> split <;> omega
  -- the finisher's potential does not depend on the shared state
  case claimLoad | dispatch =>
    split
    · exact Nat.le_add_right _ _
    · split <;> omega
  case processBin =>
    split
    · exact Nat.le_add_right _ _
    · omega
  case swapNext | storeIndex | leaveLoad => omega
  -- quiet or publishing: a constant
  all_goals exact Nat.le_add_right _ _

/-- number of steps a thread on its way into the machinery (at the initiation CAS, or somewhere on
one of the two join paths up to and including the join CAS) needs at most to get in or give up -/
def epot (l : Local) : Nat :=
  match l.pc with
  | .casInit _ | .casJoin _ => 1
  | .helpLoadIndex _ | .acLoadIndex _ => 2
  | .helpLoadSc | .acLoadNext _ => 3
  | .helpCheckTable | .acLoadTable _ => 4
  | .helpCheckNext => 5
  | _ => 0

/-- thread is on its way in: at one of the two entry CASes or on a join path -/
def isEntry (l : Local) : Bool := epot l != 0

/-- what a step of thread `t` inside the machinery achieves: `mu` decreases and `t` did not move to
an entry CAS -/
def Decr (s s' : State) (t : Nat) : Prop :=
  mu s' < mu s ∧ ∃ l', s'.threads = s.threads.set t l' ∧ isEntry l' = false

theorem Decr.of_lt (hl : s.threads[t]? = some l) (hth : s'.threads = s.threads.set t l')
    (he : isEntry l' = false) (k : Nat)
    (hoth : ∀ (u : Nat) (lu : Local), u ≠ t → s.threads[u]? = some lu → potS s' lu ≤ potS s lu + k)
    (hself : potS s' l' + s.threads.length * k < potS s l) : Decr s s' t := by
  have := sum_set_le (f := potS s) (g := potS s') (k := k) (x := l') hl hoth
  refine ⟨?_, l', hth, he⟩
  simp only [mu, hth]; omega

theorem Decr.local (hl : s.threads[t]? = some l) (hth : s'.threads = s.threads.set t l')
    (he : isEntry l' = false) (hn : s'.n = s.n) (hw : s'.sizeCtl = s.sizeCtl)
    (hti : s'.transferIndex = s.transferIndex)
    (hself : pot s.n s.sizeCtl s.transferIndex s.threads.length l' <
      pot s.n s.sizeCtl s.transferIndex s.threads.length l) : Decr s s' t := by
  have hp : potS s' = potS s := by
    funext x; simp only [potS, hn, hw, hti, hth, List.length_set]
  exact .of_lt hl hth he 0 (fun _ _ _ _ => by rw [hp]; exact Nat.le_refl _) (by rw [hp]; exact hself)

theorem claim_lt {ni : Int} {stride : Nat} (hst : 1 ≤ stride) (hni : 0 < ni) :
    0 ≤ (if ni > (stride : Int) then ni - stride else 0) ∧
      (if ni > (stride : Int) then ni - stride else 0) < ni := by
  split <;> omega

theorem Inv.claimCas_lt (h : Inv n0 nthreads stride s) {u : Nat} {lu : Local}
    (hu : s.threads[u]? = some lu) {ni : Int} (hp : lu.pc = .claimCas ni) : lu.i < lu.bound := by
  have hLu := h.locals u lu hu
  simp only [LocalOk, hp] at hLu
  exact hLu.2.1

/-- the finisher's last two steps change `n` and `size_ctl`, but everybody else is quiet -/
theorem Decr.fin (h : Inv n0 nthreads stride s) (hl : s.threads[t]? = some l)
    (hf : isFinisher l = true) (hth : s'.threads = s.threads.set t l') (he : isEntry l' = false)
    (hself : potS s' l' < potS s l) : Decr s s' t :=
  .of_lt hl hth he 0
    (fun u lu hne hu => by simp only [potS, pot_quiet (h.others_quiet hl hf hne hu).1]; omega)
    (by omega)

/-- **the measure theorem**: every step of a thread inside the machinery (participant or finisher;
successful or failed CAS alike) strictly decreases `mu` -/
theorem mu_decreases_inv {c : Nat} (h : Inv n0 nthreads stride s) (hst : 1 ≤ stride)
    (hl : s.threads[t]? = some l) (hact : quiet l = false)
    (hs : step s t c = some s') : Decr s s' t := by
  have hL := h.locals t l hl
  cases hpc : l.pc <;> simp only [quiet, hpc, Bool.true_eq_false] at hact <;>
    simp only [LocalOk, hpc] at hL <;> simp only [step, hl, hpc] at hs
  case claimLoad =>
    split at hs
    · cases hs
      rename_i hadv
      have hadv : l.advance = false := by simpa using hadv
      have hfin : l.finishing = false := by
        cases hf : l.finishing
        · rfl
        · rw [(hL hf).1] at hadv; cases hadv
      refine .local hl rfl rfl rfl rfl rfl ?_
      simp only [pot, hpc, qq, outR_iff, RR, hadv, hfin, Bool.false_eq_true, if_false]
      split <;> omega
    · rename_i hadv
      have hadv : l.advance = true := by simpa using hadv
      split at hs
      · cases hs
        rename_i hcond
        refine .local hl rfl rfl rfl rfl rfl ?_
        cases hf : l.finishing <;>
          simp only [pot, hpc, qq, outR_iff, RR, hadv, hf, Bool.false_eq_true, if_false, if_true]
        · have : l.bound ≤ l.i - 1 := by simpa [hf] using hcond
          split <;> omega
        · split <;> omega
      · rename_i hnf
        obtain ⟨hib, hfin⟩ : l.i - 1 < l.bound ∧ l.finishing = false := by simpa using hnf
        split at hs <;> cases hs <;> refine .local hl rfl rfl rfl rfl rfl ?_ <;>
          simp only [pot, hpc, qq, outR_iff, RR, hadv, hfin, Bool.false_eq_true, if_false, if_true]
        · split <;> omega
        · omega
  case swapNext =>
    cases hs
    refine .local hl rfl rfl rfl rfl rfl ?_
    simp only [pot, hpc]; omega
  case storeIndex =>
    cases hs
    refine .of_lt hl rfl rfl (8 * s.n + 5) ?_ ?_
    · intro u lu _ hu
      simp only [potS, setT, List.length_set]
      refine pot_le ?_ (by omega) ?_ ?_ (fun e => absurd rfl e)
      · exact fun _ => h.claimCas_lt hu
      · simp only [RR, Int.toNat_natCast]; omega
      · intro _; simp only [RR, Int.toNat_natCast]; omega
    · simp only [potS, setT, pot, hpc, qq, RR, Int.toNat_natCast, Int.sub_self, Int.toNat_zero,
        Bool.false_eq_true, if_false, if_true]
      omega
  case claimCas ni =>
    split at hs <;> cases hs
    · rename_i h1
      have h1 : s.transferIndex = ni := by simpa using h1
      -- the claim lowers `transfer_index` by at least 1: 8 off everybody's `RR`
      have hnb0 := claim_lt (stride := s.stride) (h.stride_eq ▸ hst) hL.2.2
      generalize (if ni > (s.stride : Int) then ni - s.stride else 0) = nb at hnb0
      refine .of_lt hl rfl rfl 0 ?_ ?_
      · intro u lu _ hu
        simp only [potS, setT, List.length_set, h1]
        refine pot_le ?_ (Nat.le_refl _) ?_ ?_ (fun e => absurd rfl e)
        · exact fun _ => h.claimCas_lt hu
        · simp only [RR]; omega
        · intro _; simp only [RR]; omega
      · simp only [potS, setT, pot, hpc, h1, qq, outR_iff, RR, hL.1, Bool.false_eq_true, if_false,
          if_true]
        split <;> omega
    · rename_i h1
      have h1 : s.transferIndex ≠ ni := by simpa using h1
      refine .local hl rfl rfl rfl rfl rfl ?_
      simp only [pot, hpc, h1, qq, RR, hL.1, Bool.false_eq_true, if_false]
      split <;> omega
  case dispatch =>
    split at hs
    · rename_i hout
      have hout : outR s.n l := by simpa [outR] using hout
      split at hs <;> cases hs <;> refine .local hl rfl rfl rfl rfl rfl ?_ <;> rename_i hf <;>
        simp only [pot, hpc, hf, hout, Bool.false_eq_true, if_false, if_true] <;> omega
    · cases hs
      rename_i hin
      have hin : ¬ outR s.n l := by simpa [outR] using hin
      refine .local hl rfl rfl rfl rfl rfl ?_
      simp only [pot, hpc, hin, if_false, qq]
      split <;> omega
  case processBin =>
    split at hs <;> cases hs <;> refine .local hl rfl rfl rfl rfl rfl ?_ <;>
      simp only [pot, hpc, qq, if_true] <;> split <;> omega
  case leaveLoad =>
    cases hs
    refine .local hl rfl rfl rfl rfl rfl ?_
    simp only [pot, hpc, if_true]; omega
  case leaveCas sc =>
    obtain ⟨k, hsc, -, hk2, -, -⟩ := h.word_of_participant hl (by simp [participating, hpc, hL.1])
    split at hs
    · rename_i hword
      obtain rfl : sc = .resizing s.gen k := by rw [← hsc]; exact (eq_of_beq hword).symm
      -- the leave lowers the count: 5 off everybody's `LV`
      have hoth : ∀ (u : Nat) (lu : Local), u ≠ t → s.threads[u]? = some lu →
          pot s.n (.resizing s.gen (k - 1)) s.transferIndex s.threads.length lu ≤
            pot s.n s.sizeCtl s.transferIndex s.threads.length lu + 0 := fun u lu _ hu => by
        rw [hsc]
        exact pot_le (fun _ => h.claimCas_lt hu) (by simp only [LV, cnt]; omega)
          (by simp only [RR, LV, cnt]; omega) (fun e => absurd rfl e)
          (fun _ => by simp only [LV, cnt]; omega)
      simp only at hs
      split at hs <;> cases hs <;> refine .of_lt hl rfl rfl 0 ?_ ?_
      · simpa only [potS, setT, List.length_set] using hoth
      · rename_i hk
        obtain rfl : k = 2 := by simpa using hk
        simp only [potS, setT, pot, hpc, hsc, LV, FIN, cnt, if_true]
        omega
      · simpa only [potS, setT, List.length_set] using hoth
      · simp only [potS, pot, hpc, hsc, if_true]
        omega
    · cases hs
      rename_i h1
      have h1 : s.sizeCtl ≠ sc := by simpa using h1
      refine .local hl rfl rfl rfl rfl rfl ?_
      simp only [pot, hpc, h1, outR, hL.2, hL.1, Bool.false_eq_true, if_false, if_true]
      omega
  case pubClearNext =>
    cases hs
    refine .local hl rfl rfl rfl rfl rfl ?_
    simp only [pot, hpc]; omega
  case pubSwapTable =>
    cases hs
    refine .fin h hl (by simp [isFinisher, hpc]) rfl rfl ?_
    simp only [potS, pot, hpc]; omega
  case pubStoreCtl =>
    cases hs
    refine .fin h hl (by simp [isFinisher, hpc]) rfl rfl ?_
    simp only [potS, pot, hpc]; omega

theorem mu_decreases {n nthreads stride : Nat} {c : Nat} (hr : Reachable n nthreads stride s)
    (hst : 1 ≤ stride) (hl : s.threads[t]? = some l) (hact : quiet l = false)
    (hs : step s t c = some s') : mu s' < mu s :=
  (mu_decreases_inv hr.inv hst hl hact hs).1

/-- a run in which only non-idle threads take steps: no thread leaves `idle` (one that is already at
`casInit` / `casJoin` is busy, and its CAS may still initiate or join) -/
inductive BusyRun : State → List (Nat × Nat) → State → Prop
  | nil (s : State) : BusyRun s [] s
  | cons {s s' s'' : State} {t c : Nat} {l : Local} {r : List (Nat × Nat)} :
      s.threads[t]? = some l → l.pc ≠ .idle → step s t c = some s' → BusyRun s' r s'' →
      BusyRun s ((t, c) :: r) s''

theorem BusyRun.run_eq {r : List (Nat × Nat)} {s s' : State} (h : BusyRun s r s') :
    run s r = some s' := by
  induction h with
  | nil => rfl
  | cons _ _ hs _ ih => simp [run, hs, ih]

theorem BusyRun.append {r1 r2 : List (Nat × Nat)} {s1 s2 s3 : State} (h1 : BusyRun s1 r1 s2)
    (h2 : BusyRun s2 r2 s3) : BusyRun s1 (r1 ++ r2) s3 := by
  induction h1 with
  | nil => simpa using h2
  | cons a b c' _ ih => exact BusyRun.cons a b c' (ih h2)

theorem step_isSome (hl : s.threads[t]? = some l) (c : Nat) : ∃ s', step s t c = some s' := by
  cases hpc : l.pc <;> simp only [step, hl, hpc] <;> (repeat' split) <;> exact ⟨_, rfl⟩

/-- steps the threads on their way in still need -/
def entrySteps (s : State) : Nat := (s.threads.map epot).sum

theorem entrySteps_eq_zero_iff : entrySteps s = 0 ↔ ∀ l ∈ s.threads, isEntry l = false := by
  simp [entrySteps, isEntry, List.sum_eq_zero_iff_forall_eq_nat]

theorem step_entry {c : Nat} (hl : s.threads[t]? = some l) (he : isEntry l = true)
    (hs : step s t c = some s') : ∃ l', s'.threads = s.threads.set t l' ∧ epot l' < epot l := by
  cases hpc : l.pc <;> simp [isEntry, epot, hpc] at he
  all_goals
    simp only [step, hl, hpc] at hs
    (repeat' split at hs) <;>
      (injection hs with hs; subst hs; exact ⟨_, rfl, by simp [epot, hpc]⟩)

theorem idle_of_quiet (hq : quiet l = true) (he : isEntry l = false) : l.pc = .idle := by
  cases hpc : l.pc <;> simp only [quiet, hpc, Bool.false_eq_true] at hq <;>
    simp [isEntry, epot, hpc] at he
  rfl

theorem entrySteps_of_step {l'} (hl : s.threads[t]? = some l)
    (hth : s'.threads = s.threads.set t l') : entrySteps s' + epot l ≤ entrySteps s + epot l' := by
  have := sum_map_set epot hl l'
  simp only [entrySteps, hth]; omega

/-- phase 1: let every thread that is on its way in go all the way (in, or back to `idle`) -/
theorem drain_entries {n nthreads stride : Nat} (hr : Reachable n nthreads stride s) :
    ∃ r s1, BusyRun s r s1 ∧ Reachable n nthreads stride s1 ∧ entrySteps s1 = 0 := by
  generalize hk : entrySteps s = k
  induction k using Nat.strongRecOn generalizing s with
  | _ k ih =>
    by_cases h0 : entrySteps s = 0
    · exact ⟨[], s, BusyRun.nil s, hr, h0⟩
    · have : ¬ ∀ l ∈ s.threads, isEntry l = false := fun h => h0 (entrySteps_eq_zero_iff.mpr h)
      simp only [Classical.not_forall] at this
      obtain ⟨l, hmem, he⟩ := this
      have he : isEntry l = true := by simpa using he
      obtain ⟨t, hl⟩ := List.mem_iff_getElem?.mp hmem
      obtain ⟨s', hs⟩ := step_isSome hl 0
      obtain ⟨l', hth, he'⟩ := step_entry hl he hs
      have hE := entrySteps_of_step hl hth
      obtain ⟨r, s1, hrun, hr1, h0⟩ := ih (entrySteps s') (by omega) (Reachable.step t 0 hr hs) rfl
      have hne : l.pc ≠ .idle := by intro h; simp [isEntry, epot, h] at he
      exact ⟨_, s1, BusyRun.cons hl hne hs hrun, hr1, h0⟩

/-- phase 2: run the threads inside the machinery until none is left -/
theorem drain_active {n nthreads stride : Nat} (hst : 1 ≤ stride)
    (hr : Reachable n nthreads stride s) (hE : entrySteps s = 0) :
    ∃ r s2, BusyRun s r s2 ∧ Reachable n nthreads stride s2 ∧ allIdle s2 := by
  generalize hk : mu s = k
  induction k using Nat.strongRecOn generalizing s with
  | _ k ih =>
    rcases Nat.eq_zero_or_pos (s.threads.countP (fun l => !quiet l)) with h0 | hpos
    · refine ⟨[], s, BusyRun.nil s, hr, ?_⟩
      intro l hmem
      have hq : quiet l = true := by
        have := List.countP_eq_zero.mp h0 l hmem; simpa using this
      exact idle_of_quiet hq (entrySteps_eq_zero_iff.mp hE l hmem)
    · obtain ⟨l, hmem, hact⟩ := List.countP_pos_iff.mp hpos
      have hact : quiet l = false := by simpa using hact
      obtain ⟨t, hl⟩ := List.mem_iff_getElem?.mp hmem
      obtain ⟨s', hs⟩ := step_isSome hl 0
      obtain ⟨hlt, l', hth, he'⟩ := mu_decreases_inv hr.inv hst hl hact hs
      have hE' := entrySteps_of_step hl hth
      have he0 : epot l = 0 := by
        have := entrySteps_eq_zero_iff.mp hE l hmem; simpa [isEntry] using this
      have he1 : epot l' = 0 := by simpa [isEntry] using he'
      have hr' := Reachable.step t 0 hr hs
      obtain ⟨r, s2, hrun, hr2, hidle⟩ := ih (mu s') (by omega) hr' (by omega) rfl
      have hne : l.pc ≠ .idle := by intro h; simp [quiet, h] at hact
      exact ⟨_, s2, BusyRun.cons hl hne hs hrun, hr2, hidle⟩

/-- **progress**: from every reachable state (in particular from every state whose word is
`resizing`) there is a finite run in which only non-idle threads take steps – so no thread leaves
`idle` – that ends with all threads idle; the map is then not resizing and carries the threshold
of the final table length -/
theorem progress_possible {n nthreads stride : Nat} (hst : 1 ≤ stride)
    (hr : Reachable n nthreads stride s) :
    ∃ r s', BusyRun s r s' ∧ run s r = some s' ∧ Reachable n nthreads stride s' ∧ allIdle s' ∧
      s'.sizeCtl = .idle (threshold s'.n) ∧ s'.nextTable = false := by
  obtain ⟨r1, s1, hrun1, hr1, hE⟩ := drain_entries hr
  obtain ⟨r2, s2, hrun2, hr2, hidle⟩ := drain_active hst hr1 hE
  have hrun := hrun1.append hrun2
  exact ⟨_, s2, hrun, hrun.run_eq, hr2, hidle, quiescent_after hr2 hidle⟩

end Flurry.Proto.Resize
