import Flurry.Lemmas.BinNAInvStep
/-! # Proto/BinNA: the abstract content of a key — "follow markers until a live cell" (C01, C10)

* `live2` / `livePos`: under the invariant the marker-following lookup `liveFrom` looks at the cell of
  generation `cur` unless it is forwarded, and then at the child cell in generation `cur + 1`
  (`Inv.absOf_eq`);
* `Inv.livePos_of_fwd` (**the key lemma**): the cell a thread working in generation `g` looks at, if it
  is not a marker, IS the cell a lookup started now would end in;
* `write_live`: the effect of a writer's CAS / store on the abstract content;
* `abs_casMoved`, `abs_storeChild`, `abs_storeMoved`, `abs_same`, `abs_commit`: no step of the
  resizing thread changes the abstract content of any key;
* `stepK_abs`: a transition changes the abstract content of no key but that of the thread's own call. -/
namespace Flurry.Proto.BinNA
open Flurry.Lin

/-- the cell `(g, j)` a lookup of `k` started now ends in: generation `cur`, or `cur + 1` behind a marker -/
def livePos (s : State) (k : Nat) : Nat × Nat :=
  if getCell s s.cur (ix s.cur k) = .moved then (s.cur + 1, ix (s.cur + 1) k) else (s.cur, ix s.cur k)

/-- `liveFrom` under the invariant, where at most two generations matter (`Inv.liveFrom_eq`) -/
def live2 (s : State) (k : Nat) : Cell := getCell s (livePos s k).1 (livePos s k).2

theorem liveFrom_succ (s : State) (f g k : Nat) :
    liveFrom s (f + 1) g k =
      if getCell s g (ix g k) = .moved then liveFrom s f (g + 1) k else getCell s g (ix g k) := by
  rw [liveFrom]
  split
  · rename_i h; rw [if_pos h]
  · rename_i h; rw [if_neg h]

theorem Inv.liveFrom_eq {s : State} (I : Inv s) (k : Nat) : liveFrom s s.tabs.length s.cur k = live2 s k := by
  unfold live2 livePos
  by_cases hm : getCell s s.cur (ix s.cur k) = .moved
  · rw [if_pos hm, I.len_rz (I.rz_of_moved hm), liveFrom_succ, if_pos hm, liveFrom_succ,
      if_neg (I.newer _ _ (Nat.lt_succ_self _))]
  · obtain ⟨n, hn⟩ := Nat.exists_eq_succ_of_ne_zero (Nat.ne_of_gt (Nat.lt_of_lt_of_le (Nat.succ_pos _) I.len_ge))
    rw [if_neg hm, hn, liveFrom_succ, if_neg hm]

theorem Inv.absOf_eq {s : State} (I : Inv s) (k : Nat) : absOf s k = cellAbs k (live2 s k) := by
  unfold absOf; rw [I.liveFrom_eq]

/-- **the key lemma**: a cell that a thread (which followed the markers) looks at and that is not a
marker is the live cell of its key -/
theorem Inv.livePos_of_fwd {s : State} (I : Inv s) {g k : Nat} (hf : Fwd s g (ix g k))
    (hnm : getCell s g (ix g k) ≠ .moved) : livePos s k = (g, ix g k) := by
  have hge : s.cur ≤ g := Nat.le_of_not_lt (fun h => hnm (I.old g _ h (ix_lt g k)))
  unfold livePos
  by_cases hg : g = s.cur + 1
  · subst hg
    rw [if_pos ((ix_ix _ _).symm ▸ hf.2 rfl)]
  · cases Nat.le_antisymm (Nat.le_of_lt_succ (Nat.lt_of_le_of_ne hf.1 hg)) hge
    rw [if_neg hnm]

theorem Inv.live_of_fwd {s : State} (I : Inv s) {g k : Nat} (hf : Fwd s g (ix g k))
    (hnm : getCell s g (ix g k) ≠ .moved) : live2 s k = getCell s g (ix g k) := by
  unfold live2; rw [I.livePos_of_fwd hf hnm]

theorem Inv.absOf_of_fwd {s : State} (I : Inv s) {g k : Nat} (hf : Fwd s g (ix g k))
    (hnm : getCell s g (ix g k) ≠ .moved) : absOf s k = cellAbs k (getCell s g (ix g k)) := by
  rw [I.absOf_eq, I.live_of_fwd hf hnm]

theorem absOf_congr {s s' : State} (ht : s'.tabs = s.tabs) (hc : s'.cur = s.cur) (k : Nat) :
    absOf s' k = absOf s k := by
  have : ∀ fuel g, liveFrom s' fuel g k = liveFrom s fuel g k := by
    intro fuel
    induction fuel with
    | zero => intro g; rfl
    | succ n ih =>
      intro g
      rw [liveFrom, liveFrom, getCell_congr ht, ih]
  unfold absOf
  rw [ht, hc, this]

theorem absOf_post_none {s : State} {t : Nat} {l' : Local} {hnew : List (Nat × Call)} (k : Nat) :
    absOf (post s t l' hnew .none) k = absOf s k :=
  absOf_congr (s := s) (s' := post s t l' hnew .none) rfl rfl k

theorem absOf_post_lock {s : State} {t : Nat} {l' : Local} {hnew : List (Nat × Call)} {g j : Nat} {x : Option Nat}
    (k : Nat) : absOf (post s t l' hnew (.lock g j x)) k = absOf s k :=
  absOf_congr (s := s) (s' := post s t l' hnew (.lock g j x)) rfl rfl k

theorem write_live {s s' : State} {g j : Nat} {c1 : Cell}
    (hcells : ∀ g' j', getCell s' g' j' = if g' = g ∧ j' = j then c1 else getCell s g' j') (hcur : s'.cur = s.cur)
    (h0 : getCell s g j ≠ .moved) (h1 : c1 ≠ .moved) (k : Nat) :
    live2 s' k = if livePos s k = (g, j) then c1 else live2 s k := by
  have hpos : livePos s' k = livePos s k := by
    unfold livePos
    rw [hcur]
    have : getCell s' s.cur (ix s.cur k) = .moved ↔ getCell s s.cur (ix s.cur k) = .moved := by
      rw [hcells]
      split
      · rename_i h
        obtain ⟨e1, e2⟩ := h
        subst e1
        rw [e2]
        exact ⟨fun h => absurd h h1, fun h => absurd h h0⟩
      · exact Iff.rfl
    by_cases hm : getCell s s.cur (ix s.cur k) = .moved
    · rw [if_pos hm, if_pos (this.2 hm)]
    · rw [if_neg hm, if_neg (fun h => hm (this.1 h))]
  unfold live2
  rw [hpos, hcells]
  by_cases h : livePos s k = (g, j)
  · rw [if_pos h, if_pos (by rw [h]; exact ⟨rfl, rfl⟩)]
  · rw [if_neg h, if_neg]
    intro hh
    exact h (Prod.ext hh.1 hh.2)

theorem write_abs {s : State} (I : Inv s) {t : Nat} {l' : Local} {hnew : List (Nat × Call)} {g key : Nat}
    {c1 : Cell} (I' : Inv (post s t l' hnew (.cell g (ix g key) c1)))
    (hf : Fwd s g (ix g key)) (h0 : getCell s g (ix g key) ≠ .moved) (h1 : c1 ≠ .moved)
    (hother : ∀ k, k ≠ key → cellAbs k c1 = cellAbs k (getCell s g (ix g key))) :
    absOf s key = cellAbs key (getCell s g (ix g key)) ∧
      absOf (post s t l' hnew (.cell g (ix g key) c1)) key = cellAbs key c1 ∧
      ∀ k, k ≠ key → absOf (post s t l' hnew (.cell g (ix g key) c1)) k = absOf s k := by
  have hw := write_live (getCell_post_cell (t := t) (l' := l') (hnew := hnew) (c := c1) I (I.inb hf) (ix_lt g key)) rfl h0 h1
  have hpos := I.livePos_of_fwd hf h0
  refine ⟨I.absOf_of_fwd hf h0, ?_, ?_⟩
  · rw [I'.absOf_eq, hw, if_pos hpos]
  · intro k hk
    rw [I'.absOf_eq, I.absOf_eq, hw]
    by_cases hp : livePos s k = (g, ix g key)
    · rw [if_pos hp, hother k hk]
      unfold live2; rw [hp]
    · rw [if_neg hp]

theorem cas_abs {s : State} (I : Inv s) {t : Nat} {l' : Local} {hnew : List (Nat × Call)} {g key : Nat}
    {v : Nat × Nat} (I' : Inv (post s t l' hnew (.cell g (ix g key) (.list [(key, v)]))))
    (hf : Fwd s g (ix g key)) (hc : getCell s g (ix g key) = .empty) :
    absOf s key = none ∧ absOf (post s t l' hnew (.cell g (ix g key) (.list [(key, v)]))) key = some v ∧
      ∀ k, k ≠ key → absOf (post s t l' hnew (.cell g (ix g key) (.list [(key, v)]))) k = absOf s k := by
  obtain ⟨h0, h1, h2⟩ := write_abs (c1 := .list [(key, v)]) I I' hf (by rw [hc]; nofun) nofun (by
    intro k hk
    rw [hc]
    show lookup k [(key, v)] = none
    rw [lookup_cons, if_neg (fun h => hk h.symm)]; rfl)
  rw [hc] at h0
  refine ⟨h0, ?_, h2⟩
  rw [h1]
  show lookup key [(key, v)] = _
  rw [lookup_cons, if_pos rfl]

theorem store_abs {s : State} (I : Inv s) {t : Nat} {l' : Local} {hnew : List (Nat × Call)} {g : Nat} {p : Pending}
    (I' : Inv (post s t l' hnew (.cell g (ix g p.key) (storeCell s g p))))
    (hf : Fwd s g (ix g p.key)) (hlist : isList (getCell s g (ix g p.key)) = true) :
    specStep (absOf s p.key) p.op =
        (absOf (post s t l' hnew (.cell g (ix g p.key) (storeCell s g p))) p.key, storeRes s g p) ∧
      ∀ k, k ≠ p.key → absOf (post s t l' hnew (.cell g (ix g p.key) (storeCell s g p))) k = absOf s k := by
  have hnm := isList_ne_moved hlist
  obtain ⟨h0, h1, h2⟩ := write_abs (c1 := storeCell s g p) I I' hf hnm (mkCell_ne_moved _) (by
    intro k hk
    unfold storeCell
    rw [cellAbs_mkCell, lookup_newContent, if_neg hk, cellAbs_content hnm])
  refine ⟨?_, h2⟩
  rw [h0, h1]
  unfold storeCell storeRes
  rw [cellAbs_mkCell, lookup_newContent, if_pos rfl, cellAbs_content hnm]

theorem abs_forward {s s' : State} {j : Nat}
    (hcells : ∀ g' j', getCell s' g' j' = if g' = s.cur ∧ j' = j then .moved else getCell s g' j') (hcur : s'.cur = s.cur)
    (h0 : getCell s s.cur j ≠ .moved)
    (hch : ∀ k, ix s.cur k = j →
      cellAbs k (getCell s (s.cur + 1) (ix (s.cur + 1) k)) = cellAbs k (getCell s s.cur j)) (k : Nat) :
    cellAbs k (live2 s' k) = cellAbs k (live2 s k) := by
  have hup : ∀ j', getCell s' (s.cur + 1) j' = getCell s (s.cur + 1) j' := fun j' => by
    rw [hcells, if_neg (fun h => Nat.succ_ne_self _ h.1)]
  unfold live2 livePos
  rw [hcur]
  by_cases hk : ix s.cur k = j
  · rw [if_pos (by rw [hcells, if_pos ⟨rfl, hk⟩]), if_neg (by rw [hk]; exact h0)]
    show cellAbs k (getCell s' (s.cur + 1) (ix (s.cur + 1) k)) = cellAbs k (getCell s s.cur (ix s.cur k))
    rw [hup, hch k hk, hk]
  · have e1 : getCell s' s.cur (ix s.cur k) = getCell s s.cur (ix s.cur k) := by
      rw [hcells, if_neg (fun h => hk h.2)]
    rw [e1]
    split
    · show cellAbs k (getCell s' (s.cur + 1) _) = _
      rw [hup]
    · show cellAbs k (getCell s' s.cur _) = _
      rw [e1]

theorem abs_casMoved {s s' : State} {j : Nat}
    (hcells : ∀ g' j', getCell s' g' j' = if g' = s.cur ∧ j' = j then .moved else getCell s g' j') (hcur : s'.cur = s.cur)
    (h0 : getCell s s.cur j = .empty)
    (hch : ∀ j', j' % 2 ^ s.cur = j → getCell s (s.cur + 1) j' = .empty) (k : Nat) :
    cellAbs k (live2 s' k) = cellAbs k (live2 s k) :=
  abs_forward hcells hcur (by rw [h0]; nofun) (fun k hk => by rw [hch _ ((ix_ix _ _).trans hk), h0]) k

theorem abs_storeChild {s s' : State} {j' : Nat} {c : Cell}
    (hcells : ∀ g1 j1, getCell s' g1 j1 = if g1 = s.cur + 1 ∧ j1 = j' then c else getCell s g1 j1) (hcur : s'.cur = s.cur)
    (hpar : getCell s s.cur (j' % 2 ^ s.cur) ≠ .moved) (k : Nat) : live2 s' k = live2 s k := by
  unfold live2 livePos
  rw [hcur]
  have e1 : getCell s' s.cur (ix s.cur k) = getCell s s.cur (ix s.cur k) := by
    rw [hcells, if_neg (fun h => Nat.succ_ne_self _ h.1.symm)]
  rw [e1]
  split
  · rename_i hm
    simp only
    rw [hcells, if_neg]
    intro h
    apply hpar
    rw [← h.2, ix_ix]; exact hm
  · simp only; rw [e1]

theorem abs_storeMoved {s s' : State} {j : Nat} {xs : List Entry}
    (hcells : ∀ g' j', getCell s' g' j' = if g' = s.cur ∧ j' = j then .moved else getCell s g' j') (hcur : s'.cur = s.cur)
    (h0 : getCell s s.cur j = .list xs)
    (hlo : getCell s (s.cur + 1) j = mkCell (splitLo s.cur xs))
    (hhi : getCell s (s.cur + 1) (j + 2 ^ s.cur) = mkCell (splitHi s.cur xs)) (k : Nat) :
    cellAbs k (live2 s' k) = cellAbs k (live2 s k) := by
  refine abs_forward hcells hcur (by rw [h0]; nofun) (fun k hk => ?_) k
  rw [h0, ix_succ, hk]
  show _ = lookup k xs
  cases hb : hiBit s.cur k with
  | true => rw [if_pos rfl, hhi, cellAbs_mkCell, lookup_splitHi, hb, if_pos rfl]
  | false => rw [if_neg Bool.false_ne_true, hlo, cellAbs_mkCell, lookup_splitLo, hb, if_neg Bool.false_ne_true]

theorem abs_same {s s' : State} (hc : ∀ g j, getCell s' g j = getCell s g j) (hcur : s'.cur = s.cur) (k : Nat) :
    live2 s' k = live2 s k := by
  have hp : livePos s' k = livePos s k := by unfold livePos; rw [hcur, hc]
  unfold live2; rw [hp, hc]

theorem abs_commit {s s' : State} (I : Inv s) (hc : ∀ g j, getCell s' g j = getCell s g j)
    (hcur : s'.cur = s.cur + 1)
    (hall : ∀ j, j < 2 ^ s.cur → getCell s s.cur j = .moved) (k : Nat) : live2 s' k = live2 s k := by
  have hp' : livePos s' k = (s.cur + 1, ix (s.cur + 1) k) := by
    unfold livePos
    rw [hcur, hc, if_neg (I.newer _ _ (Nat.lt_succ_self _))]
  have hp : livePos s k = (s.cur + 1, ix (s.cur + 1) k) := by
    unfold livePos
    rw [if_pos (hall _ (ix_lt _ _))]
  unfold live2; rw [hp', hp, hc]

/-- **a transition changes the abstract content of no key but that of the thread's own call**; in
particular no step of a resize has an abstract effect -/
theorem stepK_abs {s s' : State} {t : Nat} {l : Local} (I : Inv s) (hl : s.threads[t]? = some l)
    (hstep : StepK s t l s') (k : Nat) (hk : ∀ p, l.call = some p → p.key ≠ k) : absOf s' k = absOf s k := by
  have I' := stepK_inv I hl hstep
  have hpc0 := I.pc t l hl
  have hcur : s.cur < s.tabs.length := Nat.lt_of_lt_of_le (Nat.lt_succ_self _) I.len_ge
  cases hstep with
  | resize call hr => rw [I'.absOf_eq, I.absOf_eq, abs_same (s := s) getCell_post_alloc rfl k]
  | acq | rel | unlockFin => exact absOf_post_lock k
  | cas p g0 v vi hc hop => exact (cas_abs I I' hpc0 hc).2.2 k (fun h => hk p rfl h.symm)
  | store p g0 => exact (store_abs I I' hpc0.1 hpc0.2.2).2 k (fun h => hk p rfl h.symm)
  | casMoved j hc =>
    rw [I'.absOf_eq, I.absOf_eq]
    refine abs_casMoved (getCell_post_cell I hcur hpc0.2) rfl hc ?_ k
    intro j' hj'
    exact I.child j' (by rw [hj', hc]; nofun) (I.noMid hl trivial (fun _ => id) _)
  | storeLow j lo hi =>
    obtain ⟨h1, h2, h3, xs, h4, -⟩ := hpc0
    rw [I'.absOf_eq, I.absOf_eq, abs_storeChild
      (getCell_post_child I h1 (Nat.lt_of_lt_of_le h2 (Nat.pow_le_pow_right Nat.two_pos (Nat.le_succ _)))) rfl
      (by rw [Nat.mod_eq_of_lt h2, h4]; nofun) k]
  | storeHigh j hi =>
    obtain ⟨h1, h2, h3, xs, h4, -⟩ := hpc0
    rw [I'.absOf_eq, I.absOf_eq, abs_storeChild
      (getCell_post_child I h1 (by rw [Nat.pow_succ, Nat.mul_two]; exact Nat.add_lt_add_right h2 _ : j + 2 ^ s.cur < 2 ^ (s.cur + 1))) rfl
      (by rw [add_pow_mod h2, h4]; nofun) k]
  | storeMoved j =>
    obtain ⟨h1, h2, h3, xs, h4, h5, h8⟩ := hpc0
    rw [I'.absOf_eq, I.absOf_eq]
    exact abs_storeMoved (getCell_post_cell I hcur h2) rfl h4 h5 h8 k
  | commit =>
    rw [I'.absOf_eq, I.absOf_eq,
      abs_commit (s' := post s t ⟨.idle, none⟩ [] .commit) I (fun _ _ => rfl) rfl hpc0.2 k]
  | _ => exact absOf_post_none k

end Flurry.Proto.BinNA
