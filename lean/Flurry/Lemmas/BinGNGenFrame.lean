import Flurry.Lemmas.BinGNGenDefs
import Flurry.Lemmas.SharedBasic
/-! # Proto/BinGN: the generation invariant — consequences, and frame lemmas for its shape half

`ShapeInv s` is `GenInv s` without what it says of lock words, mutexes, validated cells and planned cells (`SOK` of a
thread's descriptor: `POK` without `heldN`, `heldM`, `valid`, `plan`). Only this half is proved transition by
transition: `shape_frame` and its instances `shape_weak`, `shape_gen`, `shape_put` give `ShapeInv s'`; they read only
the shape fields of `GenInv s` (the lock fields are read where they are called, `Lemmas/BinGNGenStepW.lean` /
`BinGNGenStepX.lean`). The other half of `GenInv s'` is read off `BinGNP.Inv s'` (`Lemmas/BinGNPShape.lean`).
`Desc.le` / `POK.weaken` order whole descriptors and have no user: the step proofs use the shape part `Desc.sle` only. -/
namespace Flurry.Proto.BinGN
open Flurry.Lin

export Flurry.Shared (get_set)

/-- a descriptor that knows nothing more than another one -/
structure Desc.le (D' D : Desc) : Prop where
  isX : D'.isX = true → D.isX = true
  gen : D'.gen = none ∨ D'.gen = D.gen
  idx : D'.idx = none ∨ D'.idx = D.idx
  commit : D'.commit = true → D.commit = true
  holdN : D'.holdN = none ∨ D'.holdN = D.holdN
  holdM : D'.holdM = none ∨ D'.holdM = D.holdM
  valid : D'.valid = none ∨ (D'.valid = D.valid ∧ D'.holdN = D.holdN ∧ D'.holdM = D.holdM)
  plan : ∀ c ∈ D'.plan, c ∈ D.plan

theorem POK.weaken {s : State} {t : Nat} {D D' : Desc} (h : POK s t D) (le : D'.le D) : POK s t D' := by
  refine ⟨fun hx => h.tres (le.isX hx), ?_, ?_, fun hc => h.commit (le.commit hc), ?_, ?_, ?_, ?_⟩
  · intro g k hg
    rcases le.gen with e | e
    · rw [e] at hg; cases hg
    · rw [e] at hg; exact h.gen g k hg
  · intro j hj
    rcases le.idx with e | e
    · rw [e] at hj; cases hj
    · rw [e] at hj; exact h.idx j hj
  · intro x hx
    rcases le.holdN with e | e
    · rw [e] at hx; cases hx
    · rw [e] at hx; exact h.heldN x hx
  · intro x hx
    rcases le.holdM with e | e
    · rw [e] at hx; cases hx
    · rw [e] at hx; exact h.heldM x hx
  · intro g j c hv
    rcases le.valid with e | ⟨e, e1, e2⟩
    · rw [e] at hv; cases hv
    · rw [e] at hv; rw [e1, e2]; exact h.valid g j c hv
  · intro c hc
    exact h.plan c (le.plan c hc)

/-- a thread that is not the resizing thread: its descriptor does not depend on `cur` -/
theorem desc_cur_indep {c c' : Nat} {l : Local} (h : (desc c l).isX = false) : desc c l = desc c' l := by
  obtain ⟨pc, call⟩ := l
  cases pc <;> first | rfl | cases h

/-- only the resizing thread has a cell index or is about to commit -/
theorem desc_notX {c : Nat} {l : Local} (h : (desc c l).isX = false) :
    (desc c l).idx = none ∧ (desc c l).commit = false := by
  obtain ⟨pc, call⟩ := l
  cases pc <;> first | exact ⟨rfl, rfl⟩ | cases h

namespace GenInv
variable {s : State}

theorem cur_lt (I : GenInv s) : s.cur < s.tabs.length := by
  have := I.len
  omega

theorem row_cur (I : GenInv s) : ∃ row, s.tabs[s.cur]? = some row ∧ row.length = 2 ^ s.cur := by
  have h := I.cur_lt
  exact ⟨s.tabs[s.cur], List.getElem?_eq_getElem h, I.rows _ _ (List.getElem?_eq_getElem h)⟩

theorem row_next (I : GenInv s) (hr : s.resizing = true) :
    ∃ row, s.tabs[s.cur + 1]? = some row ∧ row.length = 2 ^ (s.cur + 1) := by
  have h : s.cur + 1 < s.tabs.length := by
    have := I.len
    rw [hr] at this
    simp at this
    omega
  exact ⟨s.tabs[s.cur + 1], List.getElem?_eq_getElem h, I.rows _ _ (List.getElem?_eq_getElem h)⟩

/-- **mutual exclusion**: at most one thread holds a validated lock on a cell -/
theorem mutex (I : GenInv s) {t t1 : Nat} {l l1 : Local} {g j : Nat} {c c1 : Cell}
    (hl : s.threads[t]? = some l) (hl1 : s.threads[t1]? = some l1)
    (hv : (desc s.cur l).valid = some (g, j, c)) (hv1 : (desc s.cur l1).valid = some (g, j, c1)) : t = t1 := by
  obtain ⟨e, hh⟩ := (I.thr t l hl).valid g j c hv
  obtain ⟨e1, hh1⟩ := (I.thr t1 l1 hl1).valid g j c1 hv1
  rw [e] at e1
  subst e1
  rcases hh with ⟨h, rfl, a⟩ | ⟨b, rfl, a⟩
  · rcases hh1 with ⟨h1, e2, a1⟩ | ⟨b1, e2, a1⟩
    · cases e2
      have x := ((I.thr t l hl).heldN h a).2
      have y := ((I.thr t1 l1 hl1).heldN h a1).2
      rw [x] at y; exact Option.some.inj y
    · cases e2
  · rcases hh1 with ⟨h1, e2, a1⟩ | ⟨b1, e2, a1⟩
    · cases e2
    · cases e2
      have x := ((I.thr t l hl).heldM b a).2
      have y := ((I.thr t1 l1 hl1).heldM b a1).2
      rw [x] at y; exact Option.some.inj y

/-- all cells of generation `cur` are forwarded -/
theorem of_allMoved (I : GenInv s) (h : allMoved s s.cur = true) : ∀ j, j < 2 ^ s.cur → cellAt s s.cur j = .moved := by
  obtain ⟨row, hr, hlen⟩ := I.row_cur
  intro j hj
  unfold allMoved at h
  rw [List.getD_eq_getElem?_getD, hr] at h
  simp only [Option.getD_some, List.all_eq_true, beq_iff_eq] at h
  have e : s.tabs.getD s.cur [] = row := by rw [List.getD_eq_getElem?_getD, hr]; rfl
  unfold cellAt
  rw [e, List.getD_eq_getElem?_getD, List.getElem?_eq_getElem (by omega)]
  exact h _ (List.getElem_mem _)

/-- the cells after the marker has been stored into cell `(cur, j)` -/
theorem put_moved (I : GenInv s) {j : Nat} (hj : j < 2 ^ s.cur) :
    cellT (s.tabs.modify s.cur (fun row => row.set j .moved)) s.cur j = .moved ∧
    ∀ g j0, ¬ (g = s.cur ∧ j0 = j) →
      cellT (s.tabs.modify s.cur (fun row => row.set j .moved)) g j0 = cellAt s g j0 := by
  obtain ⟨row, hr, hlen⟩ := I.row_cur
  exact ⟨cellT_put_self_eq _ _ hr (by omega), fun g j0 h => cellT_put_ne _ _ h⟩

end GenInv

structure SOK (s : State) (D : Desc) : Prop where
  tres : D.isX = true → s.resizing = true
  gen : ∀ g k, D.gen = some (g, k) → g ≤ s.cur + 1 ∧ (g = s.cur + 1 → cellOf s s.cur k = .moved)
  idx : ∀ j, D.idx = some j → j < 2 ^ s.cur
  commit : D.commit = true → ∀ j, j < 2 ^ s.cur → cellAt s s.cur j = .moved

structure ShapeInv (s : State) : Prop where
  len : s.tabs.length = s.cur + 1 + (if s.resizing then 1 else 0)
  rows : ∀ g row, s.tabs[g]? = some row → row.length = 2 ^ g
  old : ∀ g j, g < s.cur → j < 2 ^ g → cellAt s g j = .moved
  nextOK : ∀ j, cellAt s (s.cur + 1) j ≠ .moved
  curMoved : ∀ j, cellAt s s.cur j = .moved → s.resizing = true
  uniqX : ∀ (t t' : Nat) (l l' : Local), s.threads[t]? = some l → s.threads[t']? = some l' →
    (desc s.cur l).isX = true → (desc s.cur l').isX = true → t = t'
  thr : ∀ (t : Nat) (l : Local), s.threads[t]? = some l → SOK s (desc s.cur l)

theorem POK.sok {s : State} {t : Nat} {D : Desc} (h : POK s t D) : SOK s D := ⟨h.tres, h.gen, h.idx, h.commit⟩

/-- the shape half of a descriptor knows nothing more than that of another -/
structure Desc.sle (D' D : Desc) : Prop where
  isX : D'.isX = true → D.isX = true
  gen : D'.gen = none ∨ D'.gen = D.gen
  idx : D'.idx = none ∨ D'.idx = D.idx
  commit : D'.commit = true → D.commit = true

def Desc.shape (D : Desc) : Bool × Option (Nat × Nat) × Option Nat × Bool := (D.isX, D.gen, D.idx, D.commit)

theorem Desc.sle.same {D' D : Desc} (h : D'.shape = D.shape) : D'.sle D := by
  have a : D'.isX = D.isX := congrArg (·.1) h
  have b : D'.gen = D.gen := congrArg (·.2.1) h
  have c : D'.idx = D.idx := congrArg (·.2.2.1) h
  have d : D'.commit = D.commit := congrArg (·.2.2.2) h
  exact ⟨fun h => a ▸ h, .inr b, .inr c, fun h => d ▸ h⟩

/-- a thread that is done knows nothing -/
theorem Desc.sle.bot (D : Desc) : ({} : Desc).sle D := ⟨nofun, .inl rfl, .inl rfl, nofun⟩

theorem SOK.weaken {s : State} {D D' : Desc} (h : SOK s D) (le : D'.sle D) : SOK s D' := by
  refine ⟨fun hx => h.tres (le.isX hx), ?_, ?_, fun hc => h.commit (le.commit hc)⟩
  · intro g k hg
    rcases le.gen with e | e
    · rw [e] at hg; cases hg
    · rw [e] at hg; exact h.gen g k hg
  · intro j hj
    rcases le.idx with e | e
    · rw [e] at hj; cases hj
    · rw [e] at hj; exact h.idx j hj

/-- a validated thread that is not the resizing thread: its cell is the cell of its key in its generation -/
theorem valid_writer {cur : Nat} {l : Local} {g j : Nat} {c : Cell} (hv : (desc cur l).valid = some (g, j, c))
    (hX : (desc cur l).isX = false) : ∃ k, (desc cur l).gen = some (g, k) ∧ j = k % 2 ^ g := by
  obtain ⟨pc, call⟩ := l
  cases pc <;> first | (cases hX; done) | (cases hv; done) | (cases hv; exact ⟨_, rfl, rfl⟩)

/-- a thread other than the resizing thread is not a resizing thread -/
theorem not_isX_of_ne {s : State} (I : GenInv s) {t t1 : Nat} {l l1 : Local} (hl : s.threads[t]? = some l)
    (hX : (desc s.cur l).isX = true) (n1 : t1 ≠ t) (h1 : s.threads[t1]? = some l1) : (desc s.cur l1).isX = false := by
  cases hx : (desc s.cur l1).isX with
  | false => rfl
  | true => exact absurd (I.uniqX _ _ _ _ h1 hl hx hX) n1

/-- transitions that keep `cur`, `resizing` and the shape of the tables, and only add markers where they belong -/
theorem shape_frame {s s' : State} {t : Nat} {l l' : Local} (I : GenInv s) (hl : s.threads[t]? = some l)
    (hthr : s'.threads = s.threads.set t l') (hcur : s'.cur = s.cur) (hres : s'.resizing = s.resizing)
    (hlen : s'.tabs.length = s.tabs.length)
    (hrows : ∀ (g : Nat) (row' : List Cell), s'.tabs[g]? = some row' →
      ∃ row : List Cell, s.tabs[g]? = some row ∧ row'.length = row.length)
    (hmono : ∀ g j, cellAt s g j = .moved → cellAt s' g j = .moved)
    (hnew : ∀ g j, cellAt s' g j = .moved → cellAt s g j = .moved ∨ (g = s.cur ∧ s.resizing = true))
    (hX : (desc s.cur l').isX = true → (desc s.cur l).isX = true)
    (hself : SOK s' (desc s.cur l')) : ShapeInv s' := by
  refine ⟨?_, ?_, ?_, ?_, ?_, ?_, ?_⟩
  · rw [hlen, hcur, hres]; exact I.len
  · intro g row' hr'
    obtain ⟨row, hr, he⟩ := hrows g row' hr'
    rw [he]; exact I.rows g row hr
  · intro g j hg hj
    rw [hcur] at hg
    exact hmono g j (I.old g j hg hj)
  · intro j hm
    rw [hcur] at hm
    rcases hnew _ _ hm with h | ⟨h, -⟩
    · exact I.nextOK j h
    · omega
  · intro j hm
    rw [hcur] at hm
    rw [hres]
    rcases hnew _ _ hm with h | ⟨-, h⟩
    · exact I.curMoved j h
    · exact h
  · intro t1 t2 l1 l2 h1 h2 hT1 hT2
    rw [hthr] at h1 h2
    rw [hcur] at hT1 hT2
    rcases get_set h1 with ⟨e1, f1⟩ | ⟨n1, h1⟩ <;> rcases get_set h2 with ⟨e2, f2⟩ | ⟨n2, h2⟩
    · rw [e1, e2]
    · rw [f1] at hT1; rw [e1]; exact I.uniqX _ _ _ _ hl h2 (hX hT1) hT2
    · rw [f2] at hT2; rw [e2]; exact I.uniqX _ _ _ _ h1 hl hT1 (hX hT2)
    · exact I.uniqX _ _ _ _ h1 h2 hT1 hT2
  · intro t1 l1 h1
    rw [hthr] at h1
    rw [hcur]
    rcases get_set h1 with ⟨rfl, rfl⟩ | ⟨n1, h1⟩
    · exact hself
    · have T := I.thr t1 l1 h1
      refine ⟨?_, ?_, ?_, ?_⟩
      · rw [hres]; exact T.tres
      · intro g k hg
        rw [hcur]
        obtain ⟨a, b⟩ := T.gen g k hg
        exact ⟨a, fun e => hmono _ _ (b e)⟩
      · rw [hcur]; exact T.idx
      · rw [hcur]; intro hc j hj; exact hmono _ _ (T.commit hc j hj)

/-- transitions that do not touch the tables: the acting thread's new descriptor knows no more shape than the old -/
theorem shape_weak {s s' : State} {t : Nat} {l l' : Local} (I : GenInv s) (hl : s.threads[t]? = some l)
    (hthr : s'.threads = s.threads.set t l') (hcur : s'.cur = s.cur) (hres : s'.resizing = s.resizing)
    (htabs : s'.tabs = s.tabs) (le : (desc s.cur l').sle (desc s.cur l)) : ShapeInv s' := by
  have hc : ∀ g j, cellAt s' g j = cellAt s g j := fun g j => by rw [cellAt_eq, cellAt_eq, htabs]
  refine shape_frame I hl hthr hcur hres (by rw [htabs]) ?_ ?_ ?_ le.isX ?_
  · intro g row' h; rw [htabs] at h; exact ⟨row', h, rfl⟩
  · intro g j h; rw [hc]; exact h
  · intro g j h; rw [hc] at h; exact Or.inl h
  · have T := ((I.thr t l hl).sok).weaken le
    refine ⟨?_, ?_, ?_, ?_⟩
    · rw [hres]; exact T.tres
    · intro g k hg; rw [hcur]; unfold cellOf; rw [hc]; exact T.gen g k hg
    · rw [hcur]; exact T.idx
    · rw [hcur]; intro h j hj; rw [hc]; exact T.commit h j hj

/-- the thread turns to generation `g`; the tables do not change -/
theorem shape_gen {s s' : State} {t : Nat} {l l' : Local} {g k : Nat} (I : GenInv s) (hl : s.threads[t]? = some l)
    (hthr : s'.threads = s.threads.set t l') (hcur : s'.cur = s.cur) (hres : s'.resizing = s.resizing)
    (htabs : s'.tabs = s.tabs) (e : desc s.cur l' = { gen := some (g, k) })
    (hg : g ≤ s.cur + 1 ∧ (g = s.cur + 1 → cellOf s s.cur k = .moved)) : ShapeInv s' := by
  have hc : ∀ g j, cellAt s' g j = cellAt s g j := fun g j => by rw [cellAt_eq, cellAt_eq, htabs]
  refine shape_frame I hl hthr hcur hres (by rw [htabs]) ?_ ?_ ?_ (fun h => by rw [e] at h; cases h) ?_
  · intro g row' h; rw [htabs] at h; exact ⟨row', h, rfl⟩
  · intro g j h; rw [hc]; exact h
  · intro g j h; rw [hc] at h; exact Or.inl h
  · rw [e]
    refine ⟨(by intro h; cases h), ?_, (by intro _ h; cases h), (by intro h; cases h)⟩
    intro g' k' h
    cases h
    rw [hcur]; unfold cellOf; rw [hc]; exact hg

/-- a store of `c` into cell `(g0, j0)`; the acting thread's new descriptor knows no more shape than the old -/
theorem shape_put {s s' : State} {t : Nat} {l l' : Local} {g0 j0 : Nat} {c : Cell} (I : GenInv s)
    (hl : s.threads[t]? = some l)
    (hthr : s'.threads = s.threads.set t l') (hcur : s'.cur = s.cur) (hres : s'.resizing = s.resizing)
    (htabs : s'.tabs = s.tabs.modify g0 (fun row => row.set j0 c))
    (hold : cellAt s g0 j0 ≠ .moved ∨ c = .moved)
    (hc : c = .moved → g0 = s.cur ∧ s.resizing = true)
    (le : (desc s.cur l').sle (desc s.cur l)) : ShapeInv s' := by
  have hne : ∀ g j, ¬ (g = g0 ∧ j = j0) → cellAt s' g j = cellAt s g j := by
    intro g j h
    rw [cellAt_eq, cellAt_eq, htabs]
    exact cellT_put_ne _ _ h
  have hself' : cellAt s' g0 j0 = c ∨ cellAt s' g0 j0 = cellAt s g0 j0 := by
    rw [cellAt_eq, cellAt_eq, htabs]
    exact cellT_put_self _ _ _ _
  have hmono : ∀ g j, cellAt s g j = .moved → cellAt s' g j = .moved := by
    intro g j hm
    by_cases h : g = g0 ∧ j = j0
    · obtain ⟨rfl, rfl⟩ := h
      rcases hself' with e | e
      · rcases hold with h1 | h1
        · exact absurd hm h1
        · rw [e]; exact h1
      · rw [e]; exact hm
    · rw [hne g j h]; exact hm
  refine shape_frame I hl hthr hcur hres (by rw [htabs]; simp) ?_ hmono ?_ le.isX ?_
  · intro g row' hr'
    rw [htabs, List.getElem?_modify] at hr'
    cases hr : s.tabs[g]? with
    | none => rw [hr] at hr'; cases hr'
    | some row =>
      rw [hr] at hr'
      simp only [Option.map_eq_map, Option.map_some, Option.some.injEq] at hr'
      refine ⟨row, rfl, ?_⟩
      rw [← hr']
      split <;> simp
  · intro g j hm
    by_cases h : g = g0 ∧ j = j0
    · obtain ⟨rfl, rfl⟩ := h
      rcases hself' with e | e
      · rw [e] at hm
        exact Or.inr (hc hm)
      · rw [e] at hm; exact Or.inl hm
    · rw [hne g j h] at hm; exact Or.inl hm
  · have T := ((I.thr t l hl).sok).weaken le
    refine ⟨?_, ?_, ?_, ?_⟩
    · rw [hres]; exact T.tres
    · intro g k hg
      rw [hcur]
      obtain ⟨a, b⟩ := T.gen g k hg
      exact ⟨a, fun e => hmono _ _ (b e)⟩
    · rw [hcur]; exact T.idx
    · rw [hcur]; intro h j hj; exact hmono _ _ (T.commit h j hj)

end Flurry.Proto.BinGN
