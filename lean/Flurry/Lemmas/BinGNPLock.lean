import Flurry.Lemmas.BinGNPInvBasic
import Flurry.Lemmas.LockWord
/-! # Proto/BinGN: preservation of the lock invariant `LInv`, generic lemmas

`LInv` is split into the part about the lock words of nodes (`LkPart`), the part about the mutexes of
`TreeBin`s (`MxPart`) and the part about the read-write locks (`RwPart`). For a step of thread `t` from `l`
to `l'`:
* `lk_step`: from a description of the new lock words (`LockFun`: `lockfun_same` / `_acq` / `_rel`);
* `mx_step`: from a description of the new mutexes (`MutexFun`: `mutexfun_same` / `_acq` / `_rel`);
* `rw_gen`, `rw_bin`, `rw_cell`: the read-write lock part.

The ownership clauses of `LkPart` and `MxPart` are instances of `LockWord.Owned`, `RwPart` is `LockWord.RwOK` of this model
(`rwPart_iff`). What this model adds to the lock words:
* a cell changes only by a step of a thread validated **in that cell** (`cidOf s l = id`), or when it is empty: the hypothesis
  `hvo` of `lk_step` / `mx_step`; `others_not_valid_cell` is stated for the threads that work in the same cell;
* `cidOf s l` reads `s.cur` for the resizing thread (and nothing else of the state), and `LkPart s'` / `MxPart s'` speak of
  `cidOf s' l1`: `lk_step` / `mx_step` ask for `s'.cur = s.cur`, `lk_step_gen` / `mx_step_gen` (for `xCommit`, which moves
  `cur`) for `cidOf s' l1 = cidOf s l1` of the other threads, which `cidOf_others` gives because no other thread is a resizing
  thread;
* `rw_gen` also covers the steps that append fresh `TreeBin`s (`kBuild`, `yBuild`) and the steps that put a `TreeBin` into
  another cell (the re-used bin of a transfer moves to a child cell). Its hypothesis on the synchronisation words is asked
  for **every** `b`, also beyond the table, where `binAt` is the default bin: an appended fresh bin has the synchronisation
  words of the default bin. -/
namespace Flurry.Proto.BinGNP
open Flurry.Lin
open Flurry.Proto.BinK (nodeAt binAt lockSet get_set)
open Flurry.Proto.LockWord (Owned WordFun RwOK wordfun_same wordfun_acq wordfun_rel lock_lockSet mutex_modify)

/-! ## `cidOf` depends on the state through `cur` only -/

theorem cidOf_cur {s s' : State} (hcur : s'.cur = s.cur) (l : Local) : cidOf s' l = cidOf s l := by
  unfold cidOf; rw [hcur]

theorem cidOf_noX {s s' : State} {l : Local} (h : xIdx l.pc = none) : cidOf s' l = cidOf s l := by
  unfold cidOf; rw [h]

theorem xPc_of_xIdx {pc : Pc} {j : Nat} (h : xIdx pc = some j) : xPc pc = true := by
  unfold xIdx at h
  split at h <;> first | rfl | cases h

/-- the stepping thread is the resizing thread: no other thread works in a cell named by `cur` -/
theorem cidOf_others {s s' : State} {t t1 : Nat} {l l1 : Local} (X : XInv s) (hl : s.threads[t]? = some l)
    (hx : xPc l.pc = true) (hne : t1 ≠ t) (hl1 : s.threads[t1]? = some l1) : cidOf s' l1 = cidOf s l1 := by
  cases h : xIdx l1.pc with
  | none => exact cidOf_noX h
  | some j => exact absurd (X.uniqX t1 t l1 l hl1 hl (xPc_of_xIdx h) hx) hne

def LkPart (s : State) : Prop :=
  (∀ (t : Nat) (l : Local) (h : Nat), s.threads[t]? = some l →
    (holdsLock l.pc = some h ↔ (nodeAt s.heap h).lock = some t)) ∧
  (∀ h x, (nodeAt s.heap h).lock = some x → x < s.threads.length) ∧
  (∀ (t : Nat) (l : Local) (h : Nat), s.threads[t]? = some l → validL l.pc = some h →
    cellAt s (cidOf s l) = .list h)

def MxPart (s : State) : Prop :=
  (∀ (t : Nat) (l : Local) (b : Nat), s.threads[t]? = some l →
    (holdsMutex l.pc = some b ↔ (binAt s.tbins b).mutex = some t)) ∧
  (∀ b x, (binAt s.tbins b).mutex = some x → x < s.threads.length) ∧
  (∀ (t : Nat) (l : Local) (b : Nat), s.threads[t]? = some l → validT l.pc = some b →
    cellAt s (cidOf s l) = .tree b)

def RwPart (s : State) : Prop :=
  (∀ id b, cellAt s id = .tree b → (binAt s.tbins b).mutex = none →
    (binAt s.tbins b).writer = false ∧ (binAt s.tbins b).waiter = false) ∧
  (∀ (id : Cid) (b t : Nat) (l : Local), cellAt s id = .tree b → s.threads[t]? = some l →
    (binAt s.tbins b).mutex = some t →
    (binAt s.tbins b).writer = wr l.pc ∧ ((binAt s.tbins b).waiter = true → isLoop l.pc = true)) ∧
  (∀ b, b < s.tbins.length →
    (binAt s.tbins b).readers = cnt (fun pc => holdsRead pc == some b) s.threads) ∧
  (∀ b, (binAt s.tbins b).writer = true → (binAt s.tbins b).readers = 0) ∧
  (∀ (t : Nat) (l : Local) (b : Nat), s.threads[t]? = some l → binRef l.pc = some b →
    b < s.tbins.length ∧ ¬ PrivBin s b)

theorem LInv.of_parts {s : State} (h1 : LkPart s) (h2 : MxPart s) (h3 : RwPart s) : LInv s :=
  ⟨h1.1, h1.2.1, h1.2.2, h2.1, h2.2.1, h2.2.2, h3.1, h3.2.1, h3.2.2.1, h3.2.2.2.1, h3.2.2.2.2⟩

theorem LInv.lkPart {s : State} (L : LInv s) : LkPart s := ⟨L.lk, L.lkValid, L.vL⟩

theorem LInv.mxPart {s : State} (L : LInv s) : MxPart s := ⟨L.mx, L.mxValid, L.vT⟩

theorem LInv.rwPart {s : State} (L : LInv s) : RwPart s :=
  ⟨L.bitsNone, L.bitsSome, L.rd, L.wrd, L.refOK⟩

theorem LInv.lkOwned {s : State} (L : LInv s) :
    Owned (fun l : Local => holdsLock l.pc) s.threads (fun h => (nodeAt s.heap h).lock) := ⟨L.lk, L.lkValid⟩

theorem LInv.mxOwned {s : State} (L : LInv s) :
    Owned (fun l : Local => holdsMutex l.pc) s.threads (fun b => (binAt s.tbins b).mutex) := ⟨L.mx, L.mxValid⟩

/-! ## validated threads of one cell -/

theorem not_validated_of_cell {s : State} (L : LInv s) {t1 : Nat} {l1 : Local} (hl1 : s.threads[t1]? = some l1)
    (hc : cellAt s (cidOf s l1) = .empty ∨ cellAt s (cidOf s l1) = .moved) : validated l1.pc = false := by
  apply Bool.eq_false_iff.2
  intro hv
  rcases validated_cases hv with ⟨a, h2⟩ | ⟨b, h2⟩
  · have := L.vL t1 l1 a hl1 h2
    rcases hc with hc | hc <;> rw [hc] at this <;> cases this
  · have := L.vT t1 l1 b hl1 h2
    rcases hc with hc | hc <;> rw [hc] at this <;> cases this

/-- a cell changes only in a step of a thread validated in it, or when it is empty; then no other
thread that works in it is validated -/
theorem others_not_validated {s : State} {t : Nat} {l : Local} {id : Cid} (L : LInv s) (hl : s.threads[t]? = some l)
    (hv : (validated l.pc = true ∧ cidOf s l = id) ∨ cellAt s id = .empty) {t1 : Nat} {l1 : Local} (hne : t1 ≠ t)
    (hl1 : s.threads[t1]? = some l1) (hc : cidOf s l1 = id) : validated l1.pc = false := by
  rcases hv with ⟨hv, hid⟩ | hv
  · exact Bool.eq_false_iff.2 fun h1 => hne (L.valid_unique hl1 hl h1 hv (by rw [hc, hid]))
  · exact not_validated_of_cell L hl1 (Or.inl (by rw [hc]; exact hv))

theorem others_not_valid_cell {s : State} {t : Nat} {l : Local} {id : Cid} (L : LInv s) (hl : s.threads[t]? = some l)
    (hv : (validated l.pc = true ∧ cidOf s l = id) ∨ cellAt s id = .empty) {t1 : Nat} {l1 : Local} (hne : t1 ≠ t)
    (hl1 : s.threads[t1]? = some l1) (hc : cidOf s l1 = id) : validL l1.pc = none ∧ validT l1.pc = none :=
  not_validated (others_not_validated L hl hv hne hl1 hc)

theorem valid_step {valid : Pc → Option Nat} {C : Nat → Cell} {s s' : State} {t : Nat} {l l' : Local} (L : LInv s)
    (hl : s.threads[t]? = some l) (hthr : s'.threads = s.threads.set t l')
    (hcid : ∀ t1 l1, t1 ≠ t → s.threads[t1]? = some l1 → cidOf s' l1 = cidOf s l1)
    (hval : ∀ {pc i}, valid pc = some i → validated pc = true)
    (hV : ∀ (t1 : Nat) (l1 : Local) (i : Nat), s.threads[t1]? = some l1 → valid l1.pc = some i →
      cellAt s (cidOf s l1) = C i)
    (hv : ∀ i, valid l'.pc = some i → cellAt s' (cidOf s' l') = C i)
    (hvo : ∀ id, cellAt s' id = cellAt s id ∨ (validated l.pc = true ∧ cidOf s l = id) ∨ cellAt s id = .empty) :
    ∀ (t1 : Nat) (l1 : Local) (i : Nat), s'.threads[t1]? = some l1 → valid l1.pc = some i →
      cellAt s' (cidOf s' l1) = C i := by
  intro t1 l1 i h1 hv1
  rw [hthr] at h1
  rcases get_set h1 with ⟨rfl, rfl⟩ | ⟨hne, h1⟩
  · exact hv i hv1
  · rw [hcid t1 l1 hne h1]
    rcases hvo (cidOf s l1) with hc | hc
    · rw [hc]; exact hV t1 l1 i h1 hv1
    · have := others_not_validated L hl hc hne h1 rfl
      rw [hval hv1] at this; cases this

/-! ## the lock words of nodes -/

/-- the lock words after a step of thread `t` from `pc` to `pc'` -/
def LockFun (s s' : State) (t : Nat) (pc pc' : Pc) : Prop :=
  ∀ h, (nodeAt s'.heap h).lock =
    if holdsLock pc' = some h then some t else if holdsLock pc = some h then none else (nodeAt s.heap h).lock

theorem lockfun_same {s s' : State} {t : Nat} {l : Local} {pc' : Pc} (L : LInv s) (hl : s.threads[t]? = some l)
    (e : holdsLock pc' = holdsLock l.pc) (hh : ∀ h, (nodeAt s'.heap h).lock = (nodeAt s.heap h).lock) :
    LockFun s s' t l.pc pc' :=
  wordfun_same hh e (fun h => (L.lk t l h hl).1)

theorem lockfun_acq {s s' : State} {t : Nat} {l : Local} {pc' : Pc} {h0 : Nat} (e0 : holdsLock l.pc = none)
    (e1 : holdsLock pc' = some h0) (hlt : h0 < s.heap.length) (hh : s'.heap = lockSet s.heap h0 (some t)) :
    LockFun s s' t l.pc pc' :=
  wordfun_acq e0 e1 (fun h => by rw [hh]; exact lock_lockSet hlt _ h)

theorem lockfun_rel {s s' : State} {t : Nat} {l : Local} {pc' : Pc} {h0 : Nat} (L : LInv s)
    (hl : s.threads[t]? = some l) (e0 : holdsLock l.pc = some h0) (e1 : holdsLock pc' = none)
    (hh : s'.heap = lockSet s.heap h0 none) :
    LockFun s s' t l.pc pc' :=
  wordfun_rel e0 e1 (fun h => by rw [hh]; exact lock_lockSet (L.lock_lt hl e0) _ h)

theorem lk_step_gen {s s' : State} {t : Nat} {l l' : Local} (L : LInv s) (hl : s.threads[t]? = some l)
    (hthr : s'.threads = s.threads.set t l')
    (hcid : ∀ t1 l1, t1 ≠ t → s.threads[t1]? = some l1 → cidOf s' l1 = cidOf s l1)
    (hf : LockFun s s' t l.pc l'.pc)
    (hacq : ∀ h, holdsLock l'.pc = some h → holdsLock l.pc = some h ∨ (nodeAt s.heap h).lock = none)
    (hv : ∀ h, validL l'.pc = some h → cellAt s' (cidOf s' l') = .list h)
    (hvo : ∀ id, cellAt s' id = cellAt s id ∨ (validated l.pc = true ∧ cidOf s l = id) ∨ cellAt s id = .empty) :
    LkPart s' := by
  have O := L.lkOwned.step hl hf hacq
  rw [← hthr] at O
  exact ⟨O.own, O.lt, valid_step L hl hthr hcid validated_of_validL L.vL hv hvo⟩

theorem lk_step {s s' : State} {t : Nat} {l l' : Local} (L : LInv s) (hl : s.threads[t]? = some l)
    (hthr : s'.threads = s.threads.set t l') (hcur : s'.cur = s.cur)
    (hf : LockFun s s' t l.pc l'.pc)
    (hacq : ∀ h, holdsLock l'.pc = some h → holdsLock l.pc = some h ∨ (nodeAt s.heap h).lock = none)
    (hv : ∀ h, validL l'.pc = some h → cellAt s' (cidOf s' l') = .list h)
    (hvo : ∀ id, cellAt s' id = cellAt s id ∨ (validated l.pc = true ∧ cidOf s l = id) ∨ cellAt s id = .empty) :
    LkPart s' :=
  lk_step_gen L hl hthr (fun _ l1 _ _ => cidOf_cur hcur l1) hf hacq hv hvo

/-! ## the mutexes of `TreeBin`s -/

/-- the mutex words after a step of thread `t` from `pc` to `pc'` -/
def MutexFun (s s' : State) (t : Nat) (pc pc' : Pc) : Prop :=
  ∀ b, (binAt s'.tbins b).mutex =
    if holdsMutex pc' = some b then some t else if holdsMutex pc = some b then none else (binAt s.tbins b).mutex

theorem mutexfun_same {s s' : State} {t : Nat} {l : Local} {pc' : Pc} (L : LInv s) (hl : s.threads[t]? = some l)
    (e : holdsMutex pc' = holdsMutex l.pc) (hh : ∀ b, (binAt s'.tbins b).mutex = (binAt s.tbins b).mutex) :
    MutexFun s s' t l.pc pc' :=
  wordfun_same hh e (fun b => (L.mx t l b hl).1)

theorem mutexfun_acq {s s' : State} {t : Nat} {l : Local} {pc' : Pc} {b0 : Nat} (e0 : holdsMutex l.pc = none)
    (e1 : holdsMutex pc' = some b0) (hlt : b0 < s.tbins.length)
    (hh : s'.tbins = s.tbins.modify b0 (fun x => { x with mutex := some t })) :
    MutexFun s s' t l.pc pc' :=
  wordfun_acq e0 e1 (fun b => by rw [hh]; exact mutex_modify hlt _ b)

theorem mutexfun_rel {s s' : State} {t : Nat} {l : Local} {pc' : Pc} {b0 : Nat} (L : LInv s)
    (hl : s.threads[t]? = some l) (e0 : holdsMutex l.pc = some b0) (e1 : holdsMutex pc' = none)
    (hh : s'.tbins = s.tbins.modify b0 (fun x => { x with mutex := none })) :
    MutexFun s s' t l.pc pc' :=
  wordfun_rel e0 e1 (fun b => by rw [hh]; exact mutex_modify (L.mutex_lt hl e0) _ b)

theorem mx_step_gen {s s' : State} {t : Nat} {l l' : Local} (L : LInv s) (hl : s.threads[t]? = some l)
    (hthr : s'.threads = s.threads.set t l')
    (hcid : ∀ t1 l1, t1 ≠ t → s.threads[t1]? = some l1 → cidOf s' l1 = cidOf s l1)
    (hf : MutexFun s s' t l.pc l'.pc)
    (hacq : ∀ b, holdsMutex l'.pc = some b → holdsMutex l.pc = some b ∨ (binAt s.tbins b).mutex = none)
    (hv : ∀ b, validT l'.pc = some b → cellAt s' (cidOf s' l') = .tree b)
    (hvo : ∀ id, cellAt s' id = cellAt s id ∨ (validated l.pc = true ∧ cidOf s l = id) ∨ cellAt s id = .empty) :
    MxPart s' := by
  have O := L.mxOwned.step hl hf hacq
  rw [← hthr] at O
  exact ⟨O.own, O.lt, valid_step L hl hthr hcid validated_of_validT L.vT hv hvo⟩

theorem mx_step {s s' : State} {t : Nat} {l l' : Local} (L : LInv s) (hl : s.threads[t]? = some l)
    (hthr : s'.threads = s.threads.set t l') (hcur : s'.cur = s.cur)
    (hf : MutexFun s s' t l.pc l'.pc)
    (hacq : ∀ b, holdsMutex l'.pc = some b → holdsMutex l.pc = some b ∨ (binAt s.tbins b).mutex = none)
    (hv : ∀ b, validT l'.pc = some b → cellAt s' (cidOf s' l') = .tree b)
    (hvo : ∀ id, cellAt s' id = cellAt s id ∨ (validated l.pc = true ∧ cidOf s l = id) ∨ cellAt s id = .empty) :
    MxPart s' :=
  mx_step_gen L hl hthr (fun _ l1 _ _ => cidOf_cur hcur l1) hf hacq hv hvo

/-! ## the read-write locks -/

theorem rwPart_iff {s : State} : RwPart s ↔
    RwOK (fun l : Local => wr l.pc) (fun l => isLoop l.pc) (fun l => holdsRead l.pc) (fun l => binRef l.pc)
      s.tbins s.threads (fun id b => cellAt s id = .tree b) (PrivBin s) :=
  ⟨fun h => ⟨h.1, h.2.1, h.2.2.1, h.2.2.2.1, h.2.2.2.2⟩, fun R => ⟨R.bitsNone, R.bitsSome, R.rd, R.wrd, R.refOK⟩⟩

theorem LInv.rwOK {s : State} (L : LInv s) :
    RwOK (fun l : Local => wr l.pc) (fun l => isLoop l.pc) (fun l => holdsRead l.pc) (fun l => binRef l.pc)
      s.tbins s.threads (fun id b => cellAt s id = .tree b) (PrivBin s) := rwPart_iff.1 L.rwPart

/-- steps that leave mutex, `writer` and `waiter` of every `TreeBin` alone (general form: fresh `TreeBin`s may be appended,
cells may change: `hcell` says that a `TreeBin` in a cell of `s'` was in some cell of `s` or has default synchronisation
words). `hkeep` (the thread may hold the mutex of a bin that stays in a cell: `xStoreLow` … of a tree transfer) is asked only
for a bin that is in a cell of `s'`: after `tUntreeify` the bin is in no cell, and `wr` changes. -/
theorem rw_gen {s s' : State} {t : Nat} {l l' : Local} (L : LInv s) (hl : s.threads[t]? = some l)
    (hthr : s'.threads = s.threads.set t l')
    (hcell : ∀ id b, cellAt s' id = .tree b → (∃ id0, cellAt s id0 = .tree b) ∨
      ((binAt s.tbins b).mutex = none ∧ (binAt s.tbins b).writer = false ∧ (binAt s.tbins b).waiter = false))
    (htlen : s.tbins.length ≤ s'.tbins.length)
    (hsync : ∀ b, (binAt s'.tbins b).mutex = (binAt s.tbins b).mutex ∧
      (binAt s'.tbins b).writer = (binAt s.tbins b).writer ∧ (binAt s'.tbins b).waiter = (binAt s.tbins b).waiter)
    (hrd : ∀ b, b < s.tbins.length →
      (binAt s'.tbins b).readers + (if holdsRead l.pc = some b then 1 else 0) =
        (binAt s.tbins b).readers + (if holdsRead l'.pc = some b then 1 else 0))
    (hnew : ∀ b, s.tbins.length ≤ b → b < s'.tbins.length → (binAt s'.tbins b).readers = 0)
    (hwrd : ∀ b, (binAt s.tbins b).writer = true → (binAt s'.tbins b).readers = 0)
    (hkeep : ∀ b, holdsMutex l.pc = some b → (∃ id, cellAt s' id = .tree b) →
      wr l'.pc = wr l.pc ∧ (isLoop l.pc = true → isLoop l'.pc = true))
    (href : ∀ b, binRef l'.pc = some b → binRef l.pc = some b ∨ (b < s.tbins.length ∧ ¬ PrivBin s b))
    (hpriv : ∀ b, b < s.tbins.length → PrivBin s' b → PrivBin s b) : RwPart s' :=
  rwPart_iff.2 (L.rwOK.gen (holdsMutex := fun l : Local => holdsMutex l.pc) hl hthr href hpriv (fun b => (L.mx t l b hl).2) binRef_of_holdsRead
    hcell htlen hsync hrd hnew hwrd hkeep)

/-- steps in which thread `t` changes mutex, `writer` or `waiter` of `TreeBin` `b0` (whose mutex it
holds or acquires); the cells are unchanged. The new table is a variable `tb` with `htb : s'.tbins = tb`, so that a caller
names it once instead of having `s'.tbins` unfolded in every hypothesis. -/
theorem rw_bin {s s' : State} {t : Nat} {l l' : Local} {b0 : Nat} {tb : List TBin} (L : LInv s)
    (hl : s.threads[t]? = some l) (hthr : s'.threads = s.threads.set t l')
    (hcell : ∀ id, cellAt s' id = cellAt s id) (htb : s'.tbins = tb) (htlen : tb.length = s.tbins.length)
    (hbin : ∀ b, b ≠ b0 → binAt tb b = binAt s.tbins b)
    (hrd0 : (binAt tb b0).readers = (binAt s.tbins b0).readers)
    (hmine : holdsMutex l.pc = none ∨ holdsMutex l.pc = some b0)
    (hmf : MutexFun s s' t l.pc l'.pc)
    (hbitsT : (∃ id, cellAt s id = .tree b0) → (binAt tb b0).mutex = some t →
      (binAt tb b0).writer = wr l'.pc ∧ ((binAt tb b0).waiter = true → isLoop l'.pc = true))
    (hbitsNone : (∃ id, cellAt s id = .tree b0) → (binAt tb b0).mutex = none →
      (binAt tb b0).writer = false ∧ (binAt tb b0).waiter = false)
    (hbitsOther : ∀ x, x ≠ t → (binAt tb b0).mutex = some x →
      (binAt tb b0).writer = (binAt s.tbins b0).writer ∧ (binAt tb b0).waiter = (binAt s.tbins b0).waiter)
    (hwrd0 : (binAt tb b0).writer = true → (binAt s.tbins b0).readers = 0)
    (hread : holdsRead l'.pc = holdsRead l.pc)
    (href : ∀ b, binRef l'.pc = some b → binRef l.pc = some b ∨ (b < s.tbins.length ∧ ¬ PrivBin s b))
    (hpriv : ∀ b, b < s.tbins.length → PrivBin s' b → PrivBin s b) : RwPart s' := by
  subst htb
  exact rwPart_iff.2 (L.rwOK.bin (holdsMutex := fun l : Local => holdsMutex l.pc) hl hthr href hpriv (fun b => (L.mx t l b hl).2)
    (fun id b => by rw [hcell]) htlen hbin hrd0 hmine hmf hbitsT hbitsNone hbitsOther hwrd0 hread)

/-- steps that change cells and leave every `TreeBin` alone (the conversions, the stores of a
transfer): a `TreeBin` in a cell of `s'` was in some cell of `s` or has default synchronisation words -/
theorem rw_cell {s s' : State} {t : Nat} {l l' : Local} (L : LInv s) (hl : s.threads[t]? = some l)
    (hthr : s'.threads = s.threads.set t l') (htb : s'.tbins = s.tbins)
    (hbits : ∀ id b, cellAt s' id = .tree b → (∃ id0, cellAt s id0 = .tree b) ∨
      ((binAt s.tbins b).mutex = none ∧ (binAt s.tbins b).writer = false ∧ (binAt s.tbins b).waiter = false))
    (hkeep : ∀ b, holdsMutex l.pc = some b → (∃ id, cellAt s' id = .tree b) →
      wr l'.pc = wr l.pc ∧ (isLoop l.pc = true → isLoop l'.pc = true))
    (hread : holdsRead l'.pc = holdsRead l.pc)
    (href : ∀ b, binRef l'.pc = some b → binRef l.pc = some b ∨ (b < s.tbins.length ∧ ¬ PrivBin s b))
    (hpriv : ∀ b, b < s.tbins.length → PrivBin s' b → PrivBin s b) : RwPart s' := by
  refine rw_gen L hl hthr hbits (Nat.le_of_eq (congrArg _ htb.symm)) (fun b => by rw [htb]; exact ⟨rfl, rfl, rfl⟩)
    (fun b _ => by rw [htb, hread]) (fun b h1 h2 => absurd (htb ▸ h2) (Nat.not_lt.2 h1))
    (fun b hw => by rw [htb]; exact L.wrd b hw) hkeep href hpriv

/-! ## the whole lock invariant for the steps that leave cells and synchronisation words alone -/

/-- the lock invariant after a transition that leaves the cells, the mutexes and the synchronisation
words alone (`Move`, `Fin`, `KMove` of `Lemmas/BinGNPStep.lean`, and the stores into the heap) -/
theorem linv_same {s s' : State} {t : Nat} {l l' : Local} (L : LInv s) (hl : s.threads[t]? = some l)
    (hcell : ∀ id, cellAt s' id = cellAt s id) (hthr : s'.threads = s.threads.set t l') (hcur : s'.cur = s.cur)
    (htlen : s'.tbins.length = s.tbins.length)
    (hsync : ∀ b, (binAt s'.tbins b).mutex = (binAt s.tbins b).mutex ∧
      (binAt s'.tbins b).writer = (binAt s.tbins b).writer ∧ (binAt s'.tbins b).waiter = (binAt s.tbins b).waiter ∧
      (binAt s'.tbins b).readers = (binAt s.tbins b).readers)
    (hlf : LockFun s s' t l.pc l'.pc)
    (hacq : ∀ h, holdsLock l'.pc = some h → holdsLock l.pc = some h ∨ (nodeAt s.heap h).lock = none)
    (hvL : ∀ h, validL l'.pc = some h → cellAt s (cidOf s l') = .list h)
    (hvT : ∀ b, validT l'.pc = some b → cellAt s (cidOf s l') = .tree b)
    (hm : holdsMutex l'.pc = holdsMutex l.pc) (hr : holdsRead l'.pc = holdsRead l.pc)
    (hkeep : ∀ b, holdsMutex l.pc = some b → (∃ id, cellAt s' id = .tree b) →
      wr l'.pc = wr l.pc ∧ (isLoop l.pc = true → isLoop l'.pc = true))
    (href : ∀ b, binRef l'.pc = some b → binRef l.pc = some b ∨ (b < s.tbins.length ∧ ¬ PrivBin s b))
    (hpriv : ∀ b, b < s.tbins.length → PrivBin s' b → PrivBin s b) : LInv s' := by
  refine LInv.of_parts
    (lk_step L hl hthr hcur hlf hacq (fun h hv => by rw [hcell, cidOf_cur hcur]; exact hvL h hv)
      (fun id => Or.inl (hcell id)))
    (mx_step L hl hthr hcur (mutexfun_same L hl hm (fun b => (hsync b).1)) (fun b hb => Or.inl (hm ▸ hb))
      (fun b hv => by rw [hcell, cidOf_cur hcur]; exact hvT b hv) (fun id => Or.inl (hcell id)))
    (rw_gen L hl hthr (fun id b hc => Or.inl ⟨id, hcell id ▸ hc⟩) (Nat.le_of_eq htlen.symm)
      (fun b => ⟨(hsync b).1, (hsync b).2.1, (hsync b).2.2.1⟩)
      (fun b _ => by rw [(hsync b).2.2.2, hr]) (fun b h1 h2 => absurd (htlen ▸ h2) (Nat.not_lt.2 h1))
      (fun b hw => by rw [(hsync b).2.2.2]; exact L.wrd b hw) hkeep href hpriv)

end Flurry.Proto.BinGNP
