import Flurry.Lemmas.BinNIFrames
/-! # Proto/BinNI: a key that is present and untouched during a whole iteration is yielded EXACTLY once (C07)

For a live iterator created at `t0` and a key `k` with `absOf k = some v` in every state since `t0` (`Unch`),
exactly one of three holds (`Phase`):
* `pending`: a pending cell covers `k`, no node with key `k` is reachable from the pointer through `next`
  (`NoK`), and `k` has not been yielded;
* `walking`: the pointer is justified AS A READER OF `k` would be (`BinN.Good` with the constant history
  `some v`: with a history that is never `none` a justified walk cannot end without meeting `k`), at most one
  node with key `k` is reachable from it (`AtMost1`), no pending cell covers `k`, and `k` has not been yielded;
* `done`: `(k, v)` has been yielded, once; no node with key `k` is reachable from the pointer and no pending
  cell covers `k`.
`Phase.env`: a transition of `Proto/BinN` keeps the phase (`MemStep.carries` for the reader's justification;
the reachable `k`-nodes only become fewer: `BinN.stepK_delta`, `Reach.delta`). `Phase.move`: what the iterator's
own moves do to it, on a fixed shared state: a pending cell that is loaded is forwarded (one child covers `k`) or
is the live cell of `k` (`frame_live`), then not empty, its head justified for `k` (`Good.cell`), its list with
distinct keys of the cell's class; the pending cells have pairwise disjoint classes
(`reachable_frames_disjoint`); `next` pointers have no cycles, so after the node of `k` no node of `k` follows.
At the end of an iteration only `done` is possible (`KInv.done`).

First part (about `BinN.State` alone, in the namespace of `Proto/BinN`): what a transition does to the nodes reachable through `next`. `Reach heap p i`:
node `i` is reachable from the pointer `p` through `next`. `Delta k h h'`: every old node keeps its key, and its
`next` either stays, or skips one node (a writer's unlink), or is set to a FRESH node that has no successor and whose key is not `k` (a writer's append). `stepK_delta`: every transition of
`Proto/BinN` that leaves `absOf k = some v` unchanged is such a `Delta k` — the transfer never writes the
`next` of an old node, a lock only writes the lock word, and an append of a node with key `k` would be an
insert that found `k` absent. Hence (`Reach.delta`) the nodes with key `k` reachable from a fixed pointer
can only become fewer. -/
namespace Flurry.Proto.BinN
open Flurry.Lin
open Flurry.Proto.BinX (NodeS Cell Pending isReader dflt chainFrom cellHead cellOfHead nodeAt nodeAt_of_some getElem?_nodeAt
  IsSeg IsChain chainH Walk)

inductive Reach (heap : List NodeS) : Option Nat → Nat → Prop
  | here {c : Nat} {nd : NodeS} : heap[c]? = some nd → Reach heap (some c) c
  | step {c i : Nat} {nd : NodeS} : heap[c]? = some nd → Reach heap nd.next i → Reach heap (some c) i

theorem Reach.lt {heap : List NodeS} {p : Option Nat} {i : Nat} (h : Reach heap p i) : i < heap.length := by
  induction h with
  | @here c nd hn =>
    rcases Nat.lt_or_ge c heap.length with h | h
    · exact h
    · rw [List.getElem?_eq_none h] at hn; cases hn
  | step _ _ ih => exact ih

theorem Reach.ord_le {cr : CR} {heap : List NodeS} (hok : NextOK cr heap) {p : Option Nat} {i : Nat}
    (h : Reach heap p i) : ∀ c, p = some c → ord cr c ≤ ord cr i := by
  induction h with
  | here _ => intro c hc; cases hc; exact Int.le_refl _
  | @step c i nd hn hr ih =>
    intro c' hc; cases hc
    cases hnx : nd.next with
    | none => rw [hnx] at hr; cases hr
    | some b =>
      have h1 := ih b hnx
      have h2 := (hok c nd b hn hnx).1
      omega

/-- no cycles: a node is not reachable from its successor -/
theorem Reach.ord_lt {cr : CR} {heap : List NodeS} (hok : NextOK cr heap) {c i : Nat} {nd : NodeS}
    (hn : heap[c]? = some nd) (hr : Reach heap nd.next i) : ord cr c < ord cr i := by
  cases hnx : nd.next with
  | none => rw [hnx] at hr; cases hr
  | some b =>
    have h1 := (hr.ord_le hok) b hnx
    have h2 := (hok c nd b hn hnx).1
    omega

theorem Reach.mem_chain {heap : List NodeS} {p : Option Nat} {i : Nat} (h : Reach heap p i) :
    ∀ l, IsChain heap p l → i ∈ l := by
  induction h with
  | here _ => intro l hl; cases hl; simp
  | @step c i nd hn hr ih =>
    intro l hl
    cases hl with
    | cons hn' hs =>
      rw [hn] at hn'; cases hn'
      exact List.mem_cons_of_mem _ (ih _ hs)

structure Delta (k : Nat) (h h' : List NodeS) : Prop where
  len : h.length ≤ h'.length
  old : ∀ (c : Nat) (nd' : NodeS), c < h.length → h'[c]? = some nd' → ∃ nd, h[c]? = some nd ∧ nd'.key = nd.key ∧
    (nd'.next = nd.next ∨
     (∃ x ndx, nd.next = some x ∧ h[x]? = some ndx ∧ nd'.next = ndx.next) ∨
     (∃ j ndj, nd'.next = some j ∧ h.length ≤ j ∧ h'[j]? = some ndj ∧ ndj.key ≠ k ∧ ndj.next = none))

/-- what is reachable afterwards was reachable before, or is a fresh node whose key is not `k` -/
theorem Reach.delta {k : Nat} {cr : CR} {h h' : List NodeS} (d : Delta k h h') (hok : NextOK cr h) {p : Option Nat} {i : Nat}
    (hr : Reach h' p i) : (∀ c, p = some c → c < h.length) →
    (i < h.length ∧ Reach h p i) ∨ (h.length ≤ i ∧ ∀ nd, h'[i]? = some nd → nd.key ≠ k) := by
  induction hr with
  | @here c nd' hn' =>
    intro hp
    obtain ⟨nd, hn, -, -⟩ := d.old c nd' (hp c rfl) hn'
    exact Or.inl ⟨hp c rfl, .here hn⟩
  | @step c i nd' hn' hr ih =>
    intro hp
    obtain ⟨nd, hn, -, hcase⟩ := d.old c nd' (hp c rfl) hn'
    rcases hcase with e | ⟨x, ndx, hx, hndx, e⟩ | ⟨j, ndj, e, hj, hndj, hkj, hnj⟩
    · have hval : ∀ b, nd'.next = some b → b < h.length := fun b hb => (hok c nd b hn (by rw [← e]; exact hb)).2
      rcases ih hval with ⟨h1, h2⟩ | h2
      · exact Or.inl ⟨h1, .step hn (by rw [← e]; exact h2)⟩
      · exact Or.inr h2
    · have hval : ∀ b, nd'.next = some b → b < h.length := fun b hb => (hok x ndx b hndx (by rw [← e]; exact hb)).2
      rcases ih hval with ⟨h1, h2⟩ | h2
      · exact Or.inl ⟨h1, .step hn (by rw [hx]; exact .step hndx (by rw [← e]; exact h2))⟩
      · exact Or.inr h2
    · rw [e] at hr
      cases hr with
      | here _ => exact Or.inr ⟨hj, fun nd hnd => by rw [hndj] at hnd; cases hnd; exact hkj⟩
      | step hj' hr2 =>
        rw [hndj] at hj'; cases hj'
        rw [hnj] at hr2; cases hr2

theorem getElem?_modify' {α : Type} (h : List α) (i c : Nat) (f : α → α) :
    (h.modify i f)[c]? = if i = c then h[c]?.map f else h[c]? := by
  rw [List.getElem?_modify]; by_cases e : i = c <;> simp [e]

theorem delta_of_key_next_kept {k : Nat} {h h' : List NodeS} (hlen : h.length ≤ h'.length)
    (hold : ∀ (c : Nat) (nd' : NodeS), c < h.length → h'[c]? = some nd' →
      ∃ nd, h[c]? = some nd ∧ nd'.key = nd.key ∧ nd'.next = nd.next) : Delta k h h' :=
  ⟨hlen, fun c nd' hc hn => by
    obtain ⟨nd, h1, h2, h3⟩ := hold c nd' hc hn
    exact ⟨nd, h1, h2, Or.inl h3⟩⟩

theorem delta_same (k : Nat) (h : List NodeS) : Delta k h h :=
  delta_of_key_next_kept (Nat.le_refl _) (fun _ nd' _ hn => ⟨nd', hn, rfl, rfl⟩)

theorem delta_append (k : Nat) (h ext : List NodeS) : Delta k h (h ++ ext) :=
  delta_of_key_next_kept (by simp) (fun c nd' hc hn => by
    rw [List.getElem?_append_left hc] at hn
    exact ⟨nd', hn, rfl, rfl⟩)

theorem delta_modify (k : Nat) (h : List NodeS) (i : Nat) (f : NodeS → NodeS)
    (hf : ∀ m, (f m).key = m.key ∧ (f m).next = m.next) : Delta k h (h.modify i f) :=
  delta_of_key_next_kept (by simp) (fun c nd' hc hn => by
    rw [getElem?_modify'] at hn
    by_cases e : i = c
    · rw [if_pos e] at hn
      cases hx : h[c]? with
      | none => rw [hx] at hn; cases hn
      | some nd =>
        rw [hx] at hn; cases hn
        exact ⟨nd, rfl, (hf nd).1, (hf nd).2⟩
    · rw [if_neg e] at hn
      exact ⟨nd', hn, rfl, rfl⟩)

/-- the writer's append behind node `l` -/
theorem delta_link {k : Nat} (h : List NodeS) (l : Nat) (new : NodeS) (hk : new.key ≠ k) (hn : new.next = none) :
    Delta k h ((h ++ [new]).modify l (fun n => { n with next := some h.length })) := by
  refine ⟨by simp, fun c nd' hc hget => ?_⟩
  rw [getElem?_modify'] at hget
  by_cases e : l = c
  · subst e
    rw [if_pos rfl, List.getElem?_append_left hc] at hget
    cases hx : h[l]? with
    | none => rw [hx] at hget; cases hget
    | some nd =>
      rw [hx] at hget; cases hget
      refine ⟨nd, rfl, rfl, Or.inr (Or.inr ⟨h.length, new, rfl, Nat.le_refl _, ?_, hk, hn⟩)⟩
      rw [getElem?_modify', if_neg (by omega)]
      simp
  · rw [if_neg e, List.getElem?_append_left hc] at hget
    exact ⟨nd', hget, rfl, Or.inl rfl⟩

/-- the writer's unlink of the successor `i` of node `pr` -/
theorem delta_unlink {k : Nat} (h : List NodeS) {pr i : Nat} {npr ni : NodeS} (hpr : h[pr]? = some npr)
    (hnx : npr.next = some i) (hi : h[i]? = some ni) :
    Delta k h (h.modify pr (fun m => { m with next := ni.next })) := by
  refine ⟨by simp, fun c nd' hc hget => ?_⟩
  rw [getElem?_modify'] at hget
  by_cases e : pr = c
  · subst e
    rw [if_pos rfl, hpr] at hget
    cases hget
    exact ⟨npr, hpr, rfl, Or.inr (Or.inl ⟨i, ni, hnx, hi, rfl⟩)⟩
  · rw [if_neg e] at hget
    exact ⟨nd', hget, rfl, Or.inl rfl⟩

/-- the predecessor remembered by a writer's walk points to the node it found -/
theorem walk_pred_hit {heap : List NodeS} {a : Option Nat} {C : List Nat} (hc : IsChain heap a C) {key : Nat}
    {pred hit : Option Nat} (w : Walk heap C key pred hit) {i pr : Nat} (hi : hit = some i) (hp : pred = some pr) :
    ∃ npr ni, heap[pr]? = some npr ∧ npr.next = some i ∧ heap[i]? = some ni := by
  obtain ⟨l1, l2, rfl, h2, h1, -⟩ := w
  cases l2 with
  | nil => rw [hi] at h2; cases h2
  | cons i' l2' =>
    rw [hi] at h2
    have : i = i' := by simpa using h2
    subst this
    rw [hp] at h1
    obtain ⟨ys, rfl⟩ := List.getLast?_eq_some_iff.1 h1.symm
    rw [List.append_assoc] at hc
    obtain ⟨b, -, hb⟩ := IsSeg.split hc
    obtain ⟨-, npr, hnpr, hs⟩ := IsSeg.cons_iff.1 hb
    obtain ⟨hnx, ni, hni, -⟩ := IsSeg.cons_iff.1 hs
    exact ⟨npr, ni, hnpr, hnx, hni⟩

theorem storeAt_res_append (s : State) (g : Nat) (p : Pending) (pred hnext : Option Nat) {v vi : Nat}
    (hop : p.op = .ins v vi ∨ p.op = .tryIns v vi) : (storeAt s g p pred none hnext).2 = .none := by
  unfold storeAt
  rcases hop with h | h <;> rw [h]

theorem spec_res_present (v0 : Nat × Nat) {op : KOp} {v vi : Nat} (hop : op = .ins v vi ∨ op = .tryIns v vi) :
    (specStep (some v0) op).2 ≠ .none := by
  obtain ⟨a, b⟩ := v0
  rcases hop with h | h <;> rw [h] <;> simp [specStep, resOf]

/-- the writer's store, on the nodes -/
theorem storeAt_delta (s : State) (g : Nat) (p : Pending) (pred hit hnext : Option Nat) (k : Nat)
    (happ : hit = none → ∀ v vi, (p.op = .ins v vi ∨ p.op = .tryIns v vi) → p.key ≠ k)
    (hunl : ∀ i pr, hit = some i → pred = some pr →
      ∃ npr ni, s.heap[pr]? = some npr ∧ npr.next = some i ∧ s.heap[i]? = some ni ∧ hnext = ni.next) :
    Delta k s.heap (storeAt s g p pred hit hnext).1.heap := by
  have hval : ∀ (i : Nat) (x : Nat × Nat), Delta k s.heap (setNode s i (fun n => { n with val := x })).heap :=
    fun i x => delta_modify k s.heap i _ (fun m => ⟨rfl, rfl⟩)
  have happend : ∀ v vi, (p.op = .ins v vi ∨ p.op = .tryIns v vi) → hit = none →
      Delta k s.heap (appendAt s g p.key pred (v, vi)).heap := by
    intro v vi hop hh
    unfold appendAt
    cases pred with
    | some l => exact delta_link s.heap l _ (happ hh v vi hop) rfl
    | none => exact delta_append k s.heap _
  have hunlink : ∀ i, hit = some i → Delta k s.heap (unlinkAt s g p.key pred hnext).heap := by
    intro i hh
    unfold unlinkAt
    cases pred with
    | some pr =>
      obtain ⟨npr, ni, h1, h2, h3, h4⟩ := hunl i pr hh rfl
      subst h4
      exact delta_unlink s.heap h1 h2 h3
    | none => exact delta_same k s.heap
  unfold storeAt
  cases hop : p.op with
  | ins v vi =>
    cases hit with
    | some i => exact hval i _
    | none => exact happend v vi (Or.inl hop) rfl
  | tryIns v vi =>
    cases hit with
    | some i => exact delta_same k s.heap
    | none => exact happend v vi (Or.inr hop) rfl
  | rm =>
    cases hit with
    | some i => exact hunlink i rfl
    | none => exact delta_same k s.heap
  | cipInc nvi =>
    cases hit with
    | some i => exact hval i _
    | none => exact delta_same k s.heap
  | cipRm =>
    cases hit with
    | some i => exact hunlink i rfl
    | none => exact delta_same k s.heap
  | get => exact delta_same k s.heap
  | has => exact delta_same k s.heap

theorem stepK_delta {s s' : State} {G : Ghost} {t : Nat} {l : Local} {pick : Nat} (I : Inv s G)
    (hl : s.threads[t]? = some l) (h : StepK s t l pick s') {k : Nat} {v : Nat × Nat}
    (hv : absOf s k = some v) : Delta k s.heap s'.heap := by
  -- the state in constructor form, as in `stepK_inv`
  obtain ⟨heap, tabs, cur, resizing, threads, hist, now⟩ := s
  let s : State := ⟨heap, tabs, cur, resizing, threads, hist, now⟩
  have T := I.gen.thr t l hl
  have H := I.heap
  cases h with
  | lockMove p hh x pc' hp hm => exact delta_modify k s.heap hh _ (fun m => ⟨rfl, rfl⟩)
  | tlockMove hh x pc' hp hm => exact delta_modify k s.heap hh _ (fun m => ⟨rfl, rfl⟩)
  | unlockFin p g hh res hp hpc => exact delta_modify k s.heap hh _ (fun m => ⟨rfl, rfl⟩)
  | cas p g v1 vi1 hp hpc hc hop => exact delta_append k s.heap _
  | build j hh hp hpc =>
    obtain ⟨ext, hext⟩ := BinNHM.splitBinB_ext (bitAt s.cur) s.heap (chainFrom s.heap s.heap.length (some hh))
    show Delta k s.heap (splitBinB (bitAt s.cur) s.heap (chainFrom s.heap s.heap.length (some hh))).1
    rw [hext]
    exact delta_append k s.heap ext
  | store p g hh pred hit hnext hp hpc =>
    obtain ⟨pc, call⟩ := l
    simp only at hp hpc
    subst hp hpc
    have hv0 : vcell s.cur { pc := Pc.wStore g hh pred hit hnext, call := some p } = some (g, p.key % 2 ^ g, hh) := rfl
    have act := I.active_of_vcell hl rfl rfl (fun h => h) hv0
    obtain ⟨hcell, -⟩ := T.valid _ _ _ hv0
    have hwr : isReader p.op = false := I.thr.opOK t _ p hl rfl
    have hw := I.walk.walk t _ p hl rfl
    obtain ⟨-, -, hspec, -⟩ := store_effect (s := tick s) (H.sameMem (SameMem.tick s)) p hwr
      (act.sameMem (SameMem.tick s)) (h := hh) hcell hw.1 hw.2
    refine storeAt_delta (tick s) g p pred hit hnext k ?_ ?_
    · intro hnone v1 vi1 hop hkey
      subst hnone
      have h2 := congrArg Prod.snd hspec
      simp only at h2
      rw [absOf_sameMem (SameMem.tick s), hkey, hv, storeAt_res_append _ _ _ _ _ hop] at h2
      exact spec_res_present v hop h2
    · intro i pr hi hpred
      have hchain : IsChain s.heap (cellHead (getCell s (cellId g p.key))) (chId s (cellId g p.key)) := H.isChain _
      obtain ⟨npr, ni, a, b, c⟩ := walk_pred_hit hchain hw.1 hi hpred
      refine ⟨npr, ni, a, b, c, ?_⟩
      rw [(hw.2 i hi).2]
      exact congrArg NodeS.next (nodeAt_of_some c)
  | _ => exact delta_same k s.heap

end Flurry.Proto.BinN

namespace Flurry.Proto.BinNI
open Flurry.Lin
open Flurry.Proto.BinX (NodeS Cell Pending isReader dflt chainFrom cellHead cellOfHead nodeAt nodeAt_of_some
  getElem?_nodeAt get_set chainH)
open Flurry.Proto.BinN (Ghost Inv HInv MemStep StepK Good cellAt Reach Delta chId getCell tick)

def NoK (k : Nat) (h : List NodeS) (ptr : Option Nat) : Prop := ∀ i, Reach h ptr i → (nodeAt h i).key ≠ k

def AtMost1 (k : Nat) (h : List NodeS) (ptr : Option Nat) : Prop :=
  ∀ i j, Reach h ptr i → Reach h ptr j → (nodeAt h i).key = k → (nodeAt h j).key = k → i = j

/-- the number of yields of key `k` by the iteration `(t, t0)` -/
def Ycnt (s : State) (t t0 k : Nat) : Nat :=
  (s.yields.filter fun y => decide (y.tid = t ∧ y.t0 = t0 ∧ y.key = k)).length

theorem ycnt_cons {s s' : State} {y : Yield} (h : s'.yields = y :: s.yields) (t t0 k : Nat) :
    Ycnt s' t t0 k = (if y.tid = t ∧ y.t0 = t0 ∧ y.key = k then 1 else 0) + Ycnt s t t0 k := by
  unfold Ycnt
  rw [h, List.filter_cons]
  by_cases e : y.tid = t ∧ y.t0 = t0 ∧ y.key = k
  · rw [if_pos e, if_pos (by simpa using e)]; simp; omega
  · rw [if_neg e, if_neg (by simpa using e)]; simp

theorem ycnt_same {s s' : State} (h : s'.yields = s.yields) (t t0 k : Nat) : Ycnt s' t t0 k = Ycnt s t t0 k := by
  unfold Ycnt; rw [h]

theorem nok_none (k : Nat) (h : List NodeS) : NoK k h none := fun i hr => by cases hr

theorem key_old {k : Nat} {h h' : List NodeS} (d : Delta k h h') {i : Nat} (hi : i < h.length) :
    (nodeAt h' i).key = (nodeAt h i).key := by
  have hi' : i < h'.length := Nat.lt_of_lt_of_le hi d.len
  obtain ⟨nd, h1, h2, -⟩ := d.old i _ hi (getElem?_nodeAt hi')
  rw [h2, nodeAt_of_some h1]

theorem nok_delta {k : Nat} {cr : BinN.CR} {h h' : List NodeS} (d : Delta k h h') (hok : BinN.NextOK cr h) {ptr : Option Nat}
    (hp : ∀ c, ptr = some c → c < h.length) (hn : NoK k h ptr) : NoK k h' ptr := by
  intro i hr
  rcases hr.delta d hok hp with ⟨h1, h2⟩ | ⟨-, h2⟩
  · rw [key_old d h1]; exact hn i h2
  · exact h2 _ (getElem?_nodeAt hr.lt)

theorem am1_delta {k : Nat} {cr : BinN.CR} {h h' : List NodeS} (d : Delta k h h') (hok : BinN.NextOK cr h) {ptr : Option Nat}
    (hp : ∀ c, ptr = some c → c < h.length) (hn : AtMost1 k h ptr) : AtMost1 k h' ptr := by
  intro i j hri hrj hi hj
  rcases hri.delta d hok hp with ⟨a1, a2⟩ | ⟨-, a2⟩
  · rcases hrj.delta d hok hp with ⟨b1, b2⟩ | ⟨-, b2⟩
    · rw [key_old d a1] at hi; rw [key_old d b1] at hj
      exact hn i j a2 b2 hi hj
    · exact absurd hj (b2 _ (getElem?_nodeAt hrj.lt))
  · exact absurd hi (a2 _ (getElem?_nodeAt hri.lt))

inductive Phase (G : Ghost) (s : State) (t : Nat) (it : Iter) (k : Nat) (v : Nat × Nat) : Prop
  | pending : (∃ c ∈ it.todo, Covers c k) → NoK k s.n.heap it.ptr → Ycnt s t it.t0 k = 0 → Phase G s t it k v
  | walking : Good G (fun _ => some v) k it.t0 s.n it.ptr → AtMost1 k s.n.heap it.ptr →
      (∀ c ∈ it.todo, ¬ Covers c k) → Ycnt s t it.t0 k = 0 → Phase G s t it k v
  | done : Yielded s t it.t0 k v → Ycnt s t it.t0 k = 1 → NoK k s.n.heap it.ptr →
      (∀ c ∈ it.todo, ¬ Covers c k) → Phase G s t it k v

/-- a transition of the shared part that leaves `k ↦ v`, and yields nothing for this iteration and `k` -/
theorem Phase.env {G G' : Ghost} {s s' : State} {t : Nat} {it : Iter} {k : Nat} {v : Nat × Nat}
    (m : MemStep s.n s'.n G G') (H : HInv s.n G) (H' : HInv s'.n G') (hnow : s'.n.now = s.n.now + 1)
    (d : Delta k s.n.heap s'.n.heap) (hv : BinN.absOf s.n k = some v) (h0 : it.t0 ≤ s.n.now)
    (hp : ∀ c, it.ptr = some c → c < s.n.heap.length)
    (hyc : Ycnt s' t it.t0 k = Ycnt s t it.t0 k) (hyl : ∀ y ∈ s.yields, y ∈ s'.yields)
    (h : Phase G s t it k v) : Phase G' s' t it k v := by
  cases h with
  | pending hc hn hz => exact .pending hc (nok_delta d H.nextOK hp hn) (hyc ▸ hz)
  | walking hg ha hnc hz =>
    have := m.carries (k := k) (A := fun _ => some v) (x := some v) H H' hnow (by rw [hv]) it.t0 it.ptr h0 hg
    rw [nextA_const] at this
    exact .walking this (am1_delta d H.nextOK hp ha) hnc (hyc ▸ hz)
  | done hY h1 hn hnc =>
    obtain ⟨y, hy, e⟩ := hY
    exact .done ⟨y, hyl y hy, e⟩ (hyc ▸ h1) (nok_delta d H.nextOK hp hn) hnc

/-- the list of a pending cell that does not cover `k` has no node of `k` -/
theorem nok_head {n : BinN.State} {G : Ghost} (H : HInv n G) {g j hd k : Nat} (hc : cellAt n g j = .node hd)
    (hnc : ¬ Covers (g, j) k) : NoK k n.heap (some hd) := by
  have hchain := H.isChain (g, j)
  rw [show getCell n (g, j) = .node hd from hc] at hchain
  intro i hi hik
  have := H.side (g, j) i (hi.mem_chain _ hchain)
  rw [hik] at this
  exact hnc this

/-- **the iterator's own moves**, on a fixed shared state -/
theorem Phase.move {G : Ghost} {s s' : State} {t : Nat} {it it' : Iter} {ys : List Yield}
    {es : List (Nat × Nat × Nat)} {k : Nat} {v : Nat × Nat} (H : HInv s.n G) (hv : BinN.absOf s.n k = some v)
    (h0 : it.t0 ≤ s.n.now) (htd : ∀ c ∈ it.todo, TodoOK s.n c) (hdj : it.todo.Pairwise Disj)
    (hm : Move s.n t it (some it') ys es) (hn : s'.n = s.n) (hy : s'.yields = ys ++ s.yields)
    (h : Phase G s t it k v) : Phase G s' t it' k v := by
  have up : Yielded s t it.t0 k v → Yielded s' t it.t0 k v := by
    rintro ⟨y, hy', e⟩
    exact ⟨y, by rw [hy]; exact List.mem_append_right _ hy', e⟩
  cases hm with
  | @yield c nd hp hnd =>
    have hnd' : nodeAt s.n.heap c = nd := nodeAt_of_some hnd
    have sub : ∀ i, Reach s.n.heap nd.next i → Reach s.n.heap (some c) i := fun i h => .step hnd h
    have hyc : Ycnt s' t it.t0 k = (if nd.key = k then 1 else 0) + Ycnt s t it.t0 k := by
      rw [ycnt_cons hy]
      by_cases e : nd.key = k
      · rw [if_pos ⟨rfl, rfl, e⟩, if_pos e]
      · rw [if_neg (fun h => e h.2.2), if_neg e]
    cases h with
    | pending hc hnk hz =>
      rw [hp] at hnk
      have e : nd.key ≠ k := hnd' ▸ hnk c (.here hnd)
      rw [if_neg e] at hyc
      exact .pending hc (by rw [hn]; exact fun i hi => hnk i (sub i hi)) (by rw [hyc, hz])
    | walking hg ha hnc hz =>
      rw [hp] at hg ha
      by_cases e : nd.key = k
      · rw [if_pos e] at hyc
        have hck : (nodeAt s.n.heap c).key = k := by rw [hnd']; exact e
        obtain ⟨τ, -, -, h3⟩ := hg.hit H (by rw [hv]) h0 hck
        have hval : nd.val = v := by rw [← hnd']; cases h3; rfl
        refine .done ⟨⟨t, it.t0, nd.key, nd.val, _⟩, by rw [hy]; exact List.mem_cons_self, rfl, rfl, e, hval⟩
          (by rw [hyc, hz]) ?_ hnc
        rw [hn]
        intro i hi hik
        have := ha i c (sub i hi) (.here hnd) hik hck
        have hlt := Reach.ord_lt H.nextOK hnd hi
        rw [this] at hlt
        omega
      · rw [if_neg e] at hyc
        have := hg.next H (by rw [hv]) h0 (by rw [hnd']; exact e)
        rw [hnd'] at this
        exact .walking (by rw [hn]; exact this) (by rw [hn]; exact fun i j hi hj => ha i j (sub i hi) (sub j hj))
          hnc (by rw [hyc, hz])
    | done hY h1 hnk hnc =>
      rw [hp] at hnk
      have e : nd.key ≠ k := hnd' ▸ hnk c (.here hnd)
      rw [if_neg e] at hyc
      exact .done (up hY) (by rw [hyc, h1]) (by rw [hn]; exact fun i hi => hnk i (sub i hi)) hnc
  | @empty g j rest hp htodo hc =>
    have hyc : Ycnt s' t it.t0 k = Ycnt s t it.t0 k := ycnt_same hy _ _ _
    rw [htodo] at htd
    cases h with
    | pending hcv hnk hz =>
      obtain ⟨c, hc', hcov⟩ := hcv
      rw [htodo] at hc'
      rcases List.mem_cons.1 hc' with rfl | hc'
      · exfalso
        have hlive := frame_live H (htd _ List.mem_cons_self) hcov (by rw [hc]; simp)
        rw [hc] at hlive
        have := BinN.absOf_of_empty hlive
        rw [hv] at this; cases this
      · exact .pending ⟨c, hc', hcov⟩ (by rw [hn]; exact hnk) (hyc.trans hz)
    | walking hg _ _ _ => rw [hp] at hg; exact (good_none_false hg).elim
    | done hY h1 hnk hnc =>
      rw [htodo] at hnc
      exact .done (up hY) (hyc.trans h1) (by rw [hn]; exact hnk) fun c hc => hnc c (List.mem_cons_of_mem _ hc)
  | @node g j hd rest hp htodo hc =>
    have hyc : Ycnt s' t it.t0 k = Ycnt s t it.t0 k := ycnt_same hy _ _ _
    rw [htodo] at htd hdj
    obtain ⟨hd1, -⟩ := List.pairwise_cons.1 hdj
    cases h with
    | pending hcv hnk hz =>
      obtain ⟨c, hc', hcov⟩ := hcv
      rw [htodo] at hc'
      rcases List.mem_cons.1 hc' with rfl | hc'
      · have hlive := frame_live H (htd _ List.mem_cons_self) hcov (by rw [hc]; simp)
        rw [hc] at hlive
        have hchain := H.isChain (g, j)
        rw [show getCell s.n (g, j) = .node hd from hc] at hchain
        refine .walking (by rw [hn]; exact Good.cell H hlive) ?_ (fun c' hc' hcov' => hd1 c' hc' k ⟨hcov, hcov'⟩)
          (hyc.trans hz)
        rw [hn]
        intro i i' hi hi' hik hik'
        exact H.keys (g, j) i (hi.mem_chain _ hchain) i' (hi'.mem_chain _ hchain) (by rw [hik, hik'])
      · exact .pending ⟨c, hc', hcov⟩ (by rw [hn]; exact nok_head H hc fun hgj => hd1 c hc' k ⟨hgj, hcov⟩)
          (hyc.trans hz)
    | walking hg _ _ _ => rw [hp] at hg; exact (good_none_false hg).elim
    | done hY h1 hnk hnc =>
      rw [htodo] at hnc
      exact .done (up hY) (hyc.trans h1) (by rw [hn]; exact nok_head H hc (hnc _ List.mem_cons_self))
        fun c hc => hnc c (List.mem_cons_of_mem _ hc)
  | @moved g j rest hp htodo hc =>
    have hyc : Ycnt s' t it.t0 k = Ycnt s t it.t0 k := ycnt_same hy _ _ _
    have hj := moved_idx_lt H.shape hc
    have notcov : (∀ c ∈ it.todo, ¬ Covers c k) →
        ∀ c ∈ (g + 1, j) :: (g + 1, j + 2 ^ g) :: rest, ¬ Covers c k := by
      intro hnc c' hc' hcov
      rw [htodo] at hnc
      rcases List.mem_cons.1 hc' with rfl | hc'
      · exact hnc (g, j) List.mem_cons_self (covers_child hj (Or.inl rfl) hcov)
      · rcases List.mem_cons.1 hc' with rfl | hc'
        · exact hnc (g, j) List.mem_cons_self (covers_child hj (Or.inr rfl) hcov)
        · exact hnc c' (List.mem_cons_of_mem _ hc') hcov
    cases h with
    | pending hcv hnk hz =>
      refine .pending ?_ (by rw [hn]; exact hnk) (hyc.trans hz)
      obtain ⟨c, hc', hcov⟩ := hcv
      rw [htodo] at hc'
      rcases List.mem_cons.1 hc' with rfl | hc'
      · rcases frame_child hcov with h1 | h1
        · exact ⟨(g + 1, j), List.mem_cons_self, h1⟩
        · exact ⟨(g + 1, j + 2 ^ g), List.mem_cons_of_mem _ List.mem_cons_self, h1⟩
      · exact ⟨c, List.mem_cons_of_mem _ (List.mem_cons_of_mem _ hc'), hcov⟩
    | walking hg _ _ _ => rw [hp] at hg; exact (good_none_false hg).elim
    | done hY h1 hnk hnc => exact .done (up hY) (hyc.trans h1) (by rw [hn]; exact hnk) (notcov hnc)

theorem ycnt_append {s s' : State} {ys : List Yield} (h : s'.yields = ys ++ s.yields) (t t0 k : Nat)
    (hys : ∀ y ∈ ys, ¬ (y.tid = t ∧ y.t0 = t0 ∧ y.key = k)) : Ycnt s' t t0 k = Ycnt s t t0 k := by
  unfold Ycnt
  rw [h, List.filter_append, List.length_append,
    List.filter_eq_nil_iff.2 (fun y hy => by simpa using hys y hy)]
  exact Nat.zero_add _

structure KInv (nt : Nat) (s : State) (G : Ghost) : Prop where
  inv : Inv s.n G
  live : ∀ (t : Nat) (it : Iter), s.its[t]? = some (some it) → ∀ (k : Nat) (v : Nat × Nat),
    Unch nt s it.t0 k v → Phase G s t it k v
  done : ∀ e ∈ s.ends, ∀ (k : Nat) (v : Nat × Nat), UnchI nt s e.2.1 e.2.2 k v →
    Yielded s e.1 e.2.1 k v ∧ Ycnt s e.1 e.2.1 k = 1

theorem init_kinv (nt : Nat) : KInv nt (init nt) {} :=
  ⟨BinN.init_inv nt, fun t it h => (init_its h).elim, fun e he => by cases he⟩

theorem kinv_step {nt : Nat} {s s' : State} {G : Ghost} {t : Nat} {mk : Bool} {inv : Option (Nat × KOp)} {rz : Bool}
    {pick : Nat} (hr : Reachable nt s) (K : KInv nt s G) (hs : step s t mk inv rz pick = some s') :
    ∃ G', KInv nt s' G' := by
  have hI := hr.stepI hs
  have hr' : Reachable nt s' := .step t mk inv rz pick hr hs
  have hst : Steps s s' := .tail t mk inv rz pick (.refl s) hs
  obtain ⟨G0, I⟩ := reachable_iinv hr
  have T := reachable_time hr
  obtain ⟨⟨l, pick', hl, hk⟩, hits, ys, es, hyl, hen, hys, -⟩ := hI.shared
  obtain ⟨G', I', m, -⟩ := BinN.stepK_inv K.inv hl hk
  obtain ⟨hnow, -⟩ := BinN.stepK_frame hk
  have H := K.inv.heap
  -- an iterator as it is before the transition, on the new shared part, as long as its iteration yields nothing
  have env : ∀ (t' : Nat) (it' : Iter) (yl : List Yield), s.its[t']? = some (some it') →
      (∀ y ∈ s.yields, y ∈ yl) → (∀ k, Ycnt { s' with yields := yl } t' it'.t0 k = Ycnt s t' it'.t0 k) →
      ∀ k v, Unch nt s' it'.t0 k v → Phase G' { s' with yields := yl } t' it' k v := by
    intro t' it' yl hi hmono hyc k v hu
    have h0 := (T.live t' it' hi).1
    have hv := Unch.now hr hst h0 hu
    obtain ⟨-, g2, -⟩ := I.good t' it' hi
    have hp : ∀ c, it'.ptr = some c → c < s.n.heap.length := fun c hc => by rw [hc] at g2; exact g2.lt I.inv.heap
    exact Phase.env (s' := { s' with yields := yl }) m H I'.heap hnow (BinN.stepK_delta K.inv hl hk hv) hv h0 hp
      (hyc k) hmono (K.live t' it' hi k v (Unch.down hst hu))
  -- the new yields are of a live iteration of thread `t`: of no other thread and of no completed iteration
  have ycOther : ∀ t' t0 k, t' ≠ t → Ycnt s' t' t0 k = Ycnt s t' t0 k := fun t' t0 k hne =>
    ycnt_append hyl _ _ _ fun y hy h => hne ((hys y hy).1 ▸ h.1).symm
  have ycEnd : ∀ e ∈ s.ends, ∀ k, Ycnt s' e.1 e.2.1 k = Ycnt s e.1 e.2.1 k := by
    intro e he k
    refine ycnt_append hyl _ _ _ fun y hy h => ?_
    obtain ⟨a, -, it, hi, b⟩ := hys y hy
    have k1 := (T.live t it hi).2 e he (by rw [← h.1, a])
    have k2 := (T.et e he).1
    have k3 := h.2.1
    omega
  have doneOld : ∀ e ∈ s.ends, ∀ (k : Nat) (v : Nat × Nat), UnchI nt s' e.2.1 e.2.2 k v →
      Yielded s' e.1 e.2.1 k v ∧ Ycnt s' e.1 e.2.1 k = 1 := by
    intro e he k v hu
    obtain ⟨⟨y, hy, h⟩, h1⟩ := K.done e he k v (fun s₁ r st a b => hu s₁ r (st.trans hst) a b)
    exact ⟨⟨y, by rw [hyl]; exact List.mem_append_right _ hy, h⟩, by rw [ycEnd e he]; exact h1⟩
  refine ⟨G', I', fun t' it' h k v hu => ?_, fun e he k v hu => ?_⟩
  · by_cases hne : t' = t
    · subst hne
      cases hI with
      | base hi _ => rw [hi] at h; cases h
      | create hi _ _ =>
        obtain ⟨-, e⟩ | ⟨hne, -⟩ := get_set h
        · cases e
          refine .pending ⟨(s.n.cur, k % 2 ^ s.n.cur),
            List.mem_map.2 ⟨_, List.mem_range.2 (BinN.mod_lt_pow _ _), rfl⟩, rfl⟩ (nok_none _ _) ?_
          show Ycnt s t' (s.n.now + 1) k = 0
          unfold Ycnt
          rw [List.length_eq_zero_iff, List.filter_eq_nil_iff]
          intro y hy hd
          have hd' : y.tid = t' ∧ y.t0 = s.n.now + 1 ∧ y.key = k := by simpa using hd
          obtain ⟨τ, h1, h2, -⟩ := I.yl y hy
          have := T.yt y hy
          omega
        · exact absurd rfl hne
      | @move _ it o ys' es' hi _ _ hm =>
        obtain ⟨-, e⟩ | ⟨hne, -⟩ := get_set h
        · subst e
          have h0 := (T.live t' it hi).1
          obtain ⟨-, -, g3⟩ := I.good t' it hi
          rw [(hm.logs.2.2 it' rfl).1] at hu
          have hv' : BinN.absOf (tick s.n) k = some v := Unch.now hr' (.refl _) (Nat.le_succ_of_le h0) hu
          exact Phase.move (s := { n := tick s.n, its := s.its.set t' (some it'), yields := s.yields, ends := es' ++ s.ends })
            I'.heap hv' (Nat.le_succ_of_le h0) g3
            (reachable_frames_disjoint hr t' it hi) hm rfl rfl
            (env t' it s.yields hi (fun _ h => h) (fun _ => rfl) k v hu)
        · exact absurd rfl hne
    · rw [hits t' hne] at h
      exact env t' it' s'.yields h (fun y hy => by rw [hyl]; exact List.mem_append_right _ hy)
        (fun k => ycOther _ _ _ hne) k v hu
  · cases hI with
    | base _ _ => exact doneOld e he k v hu
    | create _ _ _ => exact doneOld e he k v hu
    | @move _ it o ys' es' hi _ _ hm =>
      rcases List.mem_append.1 he with he1 | he1
      · cases hm with
        | done hp htd =>
          cases List.mem_singleton.1 he1
          have hU : Unch nt s it.t0 k v := hu.unch hst (Nat.le_succ s.n.now)
          cases K.live t it hi k v hU with
          | pending hc _ _ => obtain ⟨c, hc, -⟩ := hc; rw [htd] at hc; cases hc
          | walking hg _ _ _ => rw [hp] at hg; exact (good_none_false hg).elim
          | done hY h1 _ _ => exact ⟨hY, h1⟩
        | yield _ _ => cases he1
        | empty _ _ _ => cases he1
        | node _ _ _ => cases he1
        | moved _ _ _ => cases he1
      · exact doneOld e he1 k v hu

theorem reachable_kinv {nt : Nat} {s : State} (hr : Reachable nt s) : ∃ G, KInv nt s G := by
  induction hr with
  | init => exact ⟨_, init_kinv nt⟩
  | step t mk inv rz pick hr hs ih =>
    obtain ⟨G, K⟩ := ih
    exact kinv_step hr K hs

end Flurry.Proto.BinNI
