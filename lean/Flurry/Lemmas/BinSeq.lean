import Flurry.Lemmas.BinWEmbed
import Flurry.Lemmas.SeqBinsList
/-! # Proto/Bin ↔ Seq/Model: the store of a validated writer is the sequential list update (C01)

`Seq/Model.lean` (the sequential functional model of the whole map, compared with the real
implementation bin by bin and node by node after every operation) describes what `put`,
`replace_node` and `compute_if_present` do to a *list* bin with `listFind`, `listSetVal`,
`listRemove` and `ns ++ [nd]`. `Proto/Bin.lean` (the concurrent small-step model of one list bin)
describes the same writes as one atomic store into a heap of nodes with `next` pointers
(`writerStore`). This file proves that `writerStore` agrees with `seqStore`, a transcription by
hand of those list-bin arms as a function of the bin alone. That `seqStore` is what `Seq.put`,
`Seq.replaceNode` and `Seq.computeIfPresent` compute on a `.list` bin is read off their definitions:
no theorem relates `seqStore` to them.

* `binNodes s`: the bin as the sequential model sees it (the nodes on the chain, in list order).
* `binNodes_swap`, `binNodes_unlink`, `binNodes_append`: the three kinds of store are `listSetVal`,
  `listRemove` and `ns ++ [nd]`. `listFind_binNodes`: the sequential lookup on `binNodes` is
  the writer's `find?` on the chain; `listFind_binNodes_absOf`: it is the abstract content `absOf`.
* `seqStore`: the list-bin arms of `Seq.put` / `Seq.replaceNode` / `Seq.computeIfPresent`,
  transcribed as a function of the bin alone; **`writerStore_refines_seq`**: `writerStore` computes `seqStore` on
  `binNodes`, new bin and result. `seqStore_res`: the result is that of `Lin.specStep`.
* `binNodes_cas`: the lock-free CAS into an empty bin takes `binNodes` from `[]` to `[node]`, which
  is `seqStore` as well (`cas_refines_seq`).
* `stepK_refines_seq`: every transition leaves `binNodes` alone or is one of these two stores.
  (Restated for reachable states in `Props/C01Bin.lean`: `bin_step_refines_seq`,
  `bin_write_refines_seq`.)
* `BinW.storeAt_refines_seq`: the store through the positions remembered during the walk, on
  reachable states of `Proto/BinW`.

What is *not* tracked by the concurrent model: the hash (all keys of one bin have the same bin
index, and `Seq` only uses the hash of a list node together with the key; it is set to `0`), and
`ki`, the key-instance id (set to `0`; `listSetVal` keeps the `ki` of the old node, and so does the
value swap of the concurrent model, which does not touch the key). -/
namespace Flurry.Proto.Bin
open Flurry.Lin Flurry.Seq

/-- the bin as the sequential model sees it: the nodes on the chain, in list order (all keys of one
bin have the same bin index; the hash is immaterial here and set to 0) -/
def binNodes (s : State) : List Flurry.Node :=
  (chain s).map fun i => let n := s.heap.getD i ⟨0, (0, 0), none, none⟩
    { hash := 0, key := n.key, ki := 0, val := n.val.1, vi := n.val.2 }

def toNode (heap : List NodeS) (i : Nat) : Flurry.Node :=
  { hash := 0, key := (nodeAt heap i).key, ki := 0, val := (nodeAt heap i).val.1, vi := (nodeAt heap i).val.2 }

/-- the node a `put` of a new key appends -/
def mkNode (k v vi : Nat) : Flurry.Node := { hash := 0, key := k, ki := 0, val := v, vi := vi }

theorem binNodes_eq (s : State) : binNodes s = (chain s).map (toNode s.heap) := rfl

theorem binNodes_congr {s s' : State} (hh : s'.heap = s.heap) (hd : s'.head = s.head) :
    binNodes s' = binNodes s := by
  rw [binNodes_eq, binNodes_eq, chain_congr hh hd, hh]

@[simp] theorem toNode_hash (heap : List NodeS) (i : Nat) : (toNode heap i).hash = 0 := rfl
@[simp] theorem toNode_key (heap : List NodeS) (i : Nat) : (toNode heap i).key = (nodeAt heap i).key := rfl
@[simp] theorem toNode_val (heap : List NodeS) (i : Nat) : (toNode heap i).val = (nodeAt heap i).val.1 := rfl
@[simp] theorem toNode_vi (heap : List NodeS) (i : Nat) : (toNode heap i).vi = (nodeAt heap i).val.2 := rfl

theorem resOf_some (x : Nat × Nat) : resOf (some x) = .some x.1 x.2 := by
  cases x; rfl

theorem toNode_modify_next (heap : List NodeS) (pr : Nat) (x : Option Nat) (j : Nat) :
    toNode (heap.modify pr (fun m => { m with next := x })) j = toNode heap j := by
  unfold toNode
  rw [nodeAt_modify]
  split <;> rfl

theorem toNode_modify_val {heap : List NodeS} {i : Nat} (hi : i < heap.length) (w : Nat × Nat) (j : Nat) :
    toNode (heap.modify i (fun n => { n with val := w })) j =
      if j = i then { toNode heap j with val := w.1, vi := w.2 } else toNode heap j := by
  unfold toNode
  rw [nodeAt_modify]
  by_cases hji : j = i
  · subst hji
    rw [if_pos ⟨rfl, hi⟩, if_pos rfl]
  · have : ¬ (i = j ∧ j < heap.length) := fun h => hji h.1.symm
    rw [if_neg this, if_neg hji]

theorem toNode_append_left {heap : List NodeS} (l : List NodeS) {j : Nat} (hj : j < heap.length) :
    toNode (heap ++ l) j = toNode heap j := by
  unfold toNode
  rw [nodeAt_append_left l hj]

theorem toNode_append_new (heap : List NodeS) (k : Nat) (w : Nat × Nat) (nx lk : Option Nat) :
    toNode (heap ++ [⟨k, w, nx, lk⟩]) heap.length = mkNode k w.1 w.2 := by
  unfold toNode
  rw [nodeAt_append_new]
  rfl

theorem listFind_map_toNode (heap : List NodeS) (k : Nat) : ∀ l : List Nat,
    listFind 0 k (l.map (toNode heap)) =
      (l.find? (fun i => (nodeAt heap i).key == k)).map (toNode heap)
  | [] => rfl
  | a :: l => by
    have ih := listFind_map_toNode heap k l
    simp only [List.map_cons, listFind, List.find?_cons, toNode_hash, toNode_key, BEq.rfl, Bool.true_and]
    cases hk : (nodeAt heap a).key == k
    · simp only [Bool.false_eq_true, if_false]
      exact ih
    · simp only [if_true, Option.map_some]

theorem listFind_binNodes (s : State) (k : Nat) :
    listFind 0 k (binNodes s) =
      ((chain s).find? (fun i => (nodeAt s.heap i).key == k)).map (toNode s.heap) := by
  rw [binNodes_eq, listFind_map_toNode]

theorem listFind_binNodes_absOf (s : State) (k : Nat) :
    (listFind 0 k (binNodes s)).map (fun nd => (nd.val, nd.vi)) = absOf s k := by
  rw [listFind_binNodes, absOf_eq, Option.map_map]
  rfl

theorem key_ne_of_hit {s : State} (H : HInv s) {k i : Nat}
    (hit : (chain s).find? (fun i => (nodeAt s.heap i).key == k) = some i) :
    ∀ j ∈ chain s, j ≠ i → (nodeAt s.heap j).key ≠ k := by
  obtain ⟨hi, hk⟩ := find_hit_some hit
  intro j hj hji hjk
  exact hji (H.keysDistinct j hj i hi (by rw [hjk, hk]))

theorem no_match_map {heap : List NodeS} {k : Nat} {l : List Nat}
    (h : ∀ j ∈ l, (nodeAt heap j).key ≠ k) :
    ∀ x ∈ l.map (toNode heap), ¬(x.hash = 0 ∧ x.key = k) := by
  intro x hx
  obtain ⟨j, hj, rfl⟩ := List.mem_map.1 hx
  exact fun hc => h j hj hc.2

theorem binNodes_swap {s : State} (H : HInv s) {k i : Nat}
    (hit : (chain s).find? (fun i => (nodeAt s.heap i).key == k) = some i) (v vi : Nat) :
    binNodes (setNode s i (fun n => { n with val := (v, vi) })) = listSetVal 0 k v vi (binNodes s) := by
  obtain ⟨hi, hk⟩ := find_hit_some hit
  have hne := key_ne_of_hit H hit
  have hnd := chain_nodup H
  have hil := chain_lt H hi
  have hf : ∀ n : NodeS, ({ n with val := (v, vi) } : NodeS).next = n.next ∧
      ({ n with val := (v, vi) } : NodeS).key = n.key := fun n => ⟨rfl, rfl⟩
  have hc := modify_chain (s' := setNode s i (fun n => { n with val := (v, vi) })) H rfl rfl hf
  obtain ⟨l1, l2, hch⟩ := List.append_of_mem hi
  rw [hch] at hnd hne
  have h5 := List.nodup_append.1 hnd
  have hi1 : ∀ j ∈ l1, j ≠ i := fun j hj he => h5.2.2 j hj i (by simp) he
  have hi2 : ∀ j ∈ l2, j ≠ i := fun j hj he => (List.nodup_cons.1 h5.2.1).1 (he ▸ hj)
  rw [binNodes_eq, binNodes_eq, hc, hch]
  show List.map (toNode (s.heap.modify i (fun n => { n with val := (v, vi) }))) _ = _
  rw [List.map_append, List.map_cons, List.map_append, List.map_cons,
    listSetVal_split 0 k v vi _ _ _
      (no_match_map (fun j hj => hne j (by simp [hj]) (hi1 j hj))) ⟨rfl, hk⟩]
  have e1 : l1.map (toNode (s.heap.modify i (fun n => { n with val := (v, vi) }))) = l1.map (toNode s.heap) := by
    refine List.map_congr_left ?_
    intro j hj
    rw [toNode_modify_val hil, if_neg (hi1 j hj)]
  have e2 : l2.map (toNode (s.heap.modify i (fun n => { n with val := (v, vi) }))) = l2.map (toNode s.heap) := by
    refine List.map_congr_left ?_
    intro j hj
    rw [toNode_modify_val hil, if_neg (hi2 j hj)]
  rw [e1, e2, toNode_modify_val hil, if_pos rfl]

theorem binNodes_unlink {s : State} (H : HInv s) {k i : Nat}
    (hit : (chain s).find? (fun i => (nodeAt s.heap i).key == k) = some i) :
    binNodes (match predOf (chain s) i with
      | some pr => setNode s pr (fun m => { m with next := (nodeAt s.heap i).next })
      | none => { s with head := (nodeAt s.heap i).next }) = listRemove 0 k (binNodes s) := by
  obtain ⟨hi, hk⟩ := find_hit_some hit
  have hne := key_ne_of_hit H hit
  have hnd := chain_nodup H
  rcases predOf_cases hnd hi with ⟨l2, hch, hp⟩ | ⟨l1, pr, l2, hch, hp⟩
  · rw [hp]
    have hc := unlink_head_chain (s' := { s with head := (nodeAt s.heap i).next }) H hch rfl rfl
    rw [binNodes_eq, binNodes_eq, hc, hch, List.map_cons]
    exact (listRemove_split 0 k [] _ _ (by intro x hx; cases hx) ⟨rfl, hk⟩).symm
  · rw [hp]
    have hc := unlink_mid_chain
      (s' := setNode s pr (fun m => { m with next := (nodeAt s.heap i).next })) H hch rfl rfl
    rw [hch] at hnd hne
    have h5 := List.nodup_append.1 hnd
    have hi1 : ∀ j ∈ l1, j ≠ i := fun j hj he => h5.2.2 j hj i (by simp) he
    have hpri : pr ≠ i := by
      intro he
      have := (List.nodup_cons.1 h5.2.1).1
      exact this (by simp [he])
    rw [binNodes_eq, binNodes_eq, hc, hch]
    show List.map (toNode (s.heap.modify pr (fun m => { m with next := (nodeAt s.heap i).next }))) _ = _
    have e : ∀ l : List Nat,
        l.map (toNode (s.heap.modify pr (fun m => { m with next := (nodeAt s.heap i).next }))) =
          l.map (toNode s.heap) := fun l => List.map_congr_left (fun j _ => toNode_modify_next _ _ _ j)
    rw [e]
    have hsplit : l1 ++ pr :: i :: l2 = (l1 ++ [pr]) ++ i :: l2 := by simp
    have hsplit' : l1 ++ pr :: l2 = (l1 ++ [pr]) ++ l2 := by simp
    rw [hsplit, hsplit', List.map_append (l₁ := l1 ++ [pr]) (l₂ := l2),
      List.map_append (l₁ := l1 ++ [pr]) (l₂ := i :: l2), List.map_cons]
    refine (listRemove_split 0 k _ _ _ (no_match_map ?_) ⟨rfl, hk⟩).symm
    intro j hj
    rcases List.mem_append.1 hj with hj | hj
    · exact hne j (by simp [hj]) (hi1 j hj)
    · have : j = pr := by simpa using hj
      subst this
      exact hne j (by simp) hpri

theorem binNodes_append {s : State} (H : HInv s) {k : Nat}
    (hit : (chain s).find? (fun i => (nodeAt s.heap i).key == k) = none) (v vi : Nat) :
    binNodes (match (chain s).getLast? with
        | some l => setNode { s with heap := s.heap ++ [(⟨k, (v, vi), none, none⟩ : NodeS)] } l
            (fun n => { n with next := some s.heap.length })
        | none => { { s with heap := s.heap ++ [(⟨k, (v, vi), none, none⟩ : NodeS)] } with
            head := some s.heap.length }) = binNodes s ++ [mkNode k v vi] := by
  have hfresh := find_hit_none hit
  cases hl : (chain s).getLast? with
  | some l =>
    have hc := append_last_chain
      (s' := setNode { s with heap := s.heap ++ [(⟨k, (v, vi), none, none⟩ : NodeS)] } l
        (fun n => { n with next := some s.heap.length }))
      (new := (⟨k, (v, vi), none, none⟩ : NodeS)) H hl rfl rfl rfl
    show binNodes (setNode { s with heap := s.heap ++ [(⟨k, (v, vi), none, none⟩ : NodeS)] } l
        (fun n => { n with next := some s.heap.length })) = _
    have hheap : (setNode { s with heap := s.heap ++ [(⟨k, (v, vi), none, none⟩ : NodeS)] } l
        (fun n => { n with next := some s.heap.length })).heap =
        (s.heap ++ [(⟨k, (v, vi), none, none⟩ : NodeS)]).modify l
          (fun n => { n with next := some s.heap.length }) := rfl
    rw [binNodes_eq, binNodes_eq, hc, hheap, List.map_append, List.map_cons, List.map_nil,
      toNode_modify_next, toNode_append_new]
    congr 1
    refine List.map_congr_left ?_
    intro j hj
    rw [toNode_modify_next, toNode_append_left _ (chain_lt H hj)]
  | none =>
    have hempty : chain s = [] := List.getLast?_eq_none_iff.1 hl
    have hc := append_empty_chain
      (s' := { { s with heap := s.heap ++ [(⟨k, (v, vi), none, none⟩ : NodeS)] } with
        head := some s.heap.length })
      (new := (⟨k, (v, vi), none, none⟩ : NodeS)) H hempty rfl rfl rfl
    show binNodes { { s with heap := s.heap ++ [(⟨k, (v, vi), none, none⟩ : NodeS)] } with
        head := some s.heap.length } = _
    rw [binNodes_eq, binNodes_eq, hc, hempty]
    show [toNode (s.heap ++ [(⟨k, (v, vi), none, none⟩ : NodeS)]) s.heap.length] = _
    rw [toNode_append_new]
    rfl

/-- what the sequential model does to a *list* bin `ns` for key `k`: the `.list ns` arms of
`Seq.put k _ v vi false` (`ins`), `Seq.put k _ v vi true` (`tryIns`), `Seq.replaceNode k none none`
(`rm`), `Seq.computeIfPresent k (fun _ v _ => .keep (v + 1) nvi)` (`cipInc`) and
`Seq.computeIfPresent k (fun _ _ _ => .remove)` (`cipRm`), with hash `0` and key-instance id `0`,
together with the per-key result. Readers store nothing. The arms are copied by hand; nothing is
proved about `seqStore` and these functions. -/
def seqStore (ns : List Flurry.Node) (k : Nat) : KOp → List Flurry.Node × KRes
  | .ins v vi =>
    match listFind 0 k ns with
    | some old => (listSetVal 0 k v vi ns, .some old.val old.vi)
    | none => (ns ++ [{ hash := 0, key := k, ki := 0, val := v, vi := vi }], .none)
  | .tryIns v vi =>
    match listFind 0 k ns with
    | some old => (ns, .exists_ old.val old.vi)
    | none => (ns ++ [{ hash := 0, key := k, ki := 0, val := v, vi := vi }], .none)
  | .rm =>
    match listFind 0 k ns with
    | some old => (listRemove 0 k ns, .some old.val old.vi)
    | none => (ns, .none)
  | .cipInc nvi =>
    match listFind 0 k ns with
    | some old => (listSetVal 0 k (old.val + 1) nvi ns, .some (old.val + 1) nvi)
    | none => (ns, .none)
  | .cipRm =>
    match listFind 0 k ns with
    | some _ => (listRemove 0 k ns, .none)
    | none => (ns, .none)
  | .get => (ns, .none)
  | .has => (ns, .none)

theorem seqStore_res (ns : List Flurry.Node) (k : Nat) (op : KOp) (hw : isReader op = false) :
    (seqStore ns k op).2 = (specStep ((listFind 0 k ns).map (fun nd => (nd.val, nd.vi))) op).2 := by
  cases op <;> first | (unfold seqStore specStep; cases listFind 0 k ns <;> rfl) | cases hw

/-- **the store of a validated writer is the sequential update of the list bin**: same new bin, node
by node and in the same order, and same result -/
theorem writerStore_refines_seq {s : State} (H : HInv s) (p : Pending) :
    binNodes (writerStore s p).1 = (seqStore (binNodes s) p.key p.op).1 ∧
      (writerStore s p).2 = (seqStore (binNodes s) p.key p.op).2 := by
  obtain ⟨key, op, inv⟩ := p
  unfold writerStore seqStore
  -- the sequential lookup is the writer's `find?` on the chain
  simp only [listFind_binNodes]
  cases hit : (chain s).find? (fun i => (nodeAt s.heap i).key == key) with
  | none =>
    have hit' : (chain s).find? (fun i => (s.heap.getD i ⟨0, (0, 0), none, none⟩).key == key) = none := hit
    simp only [hit', Option.map_none]
    cases op with
    | ins v vi =>
      have hb := binNodes_append H hit v vi
      cases hl : (chain s).getLast? <;> rw [hl] at hb <;> exact ⟨hb, rfl⟩
    | tryIns v vi =>
      have hb := binNodes_append H hit v vi
      cases hl : (chain s).getLast? <;> rw [hl] at hb <;> exact ⟨hb, rfl⟩
    | _ => exact ⟨rfl, rfl⟩
  | some i =>
    have hit' : (chain s).find? (fun i => (s.heap.getD i ⟨0, (0, 0), none, none⟩).key == key) = some i := hit
    simp only [hit', Option.map_some]
    cases op with
    | ins v vi => exact ⟨binNodes_swap H hit v vi, resOf_some _⟩
    | cipInc nvi => exact ⟨binNodes_swap H hit _ nvi, rfl⟩
    | rm => exact ⟨binNodes_unlink H hit, resOf_some _⟩
    | cipRm => exact ⟨binNodes_unlink H hit, rfl⟩
    | _ => exact ⟨rfl, rfl⟩

theorem binNodes_keysNodup {s : State} (H : HInv s) : KeysNodup (binNodes s) := by
  unfold KeysNodup
  rw [binNodes_eq, List.map_map]
  refine (List.pairwise_map).2 ?_
  refine (chain_nodup H).imp_of_mem ?_
  intro a b ha hb hab he
  exact hab (H.keysDistinct a ha b hb he)

theorem binNodes_empty {s : State} (H : HInv s) (hh : s.head = none) : binNodes s = [] := by
  rw [binNodes_eq, chain_head_none H hh]
  rfl

/-- the CAS `none → new node` of `put` / `try_insert` on an empty bin: `[] ↦ [node]` -/
theorem binNodes_cas {s : State} (H : HInv s) (hh : s.head = none) (k v vi : Nat) :
    binNodes s = [] ∧
    binNodes { s with heap := s.heap ++ [(⟨k, (v, vi), none, none⟩ : NodeS)], head := some s.heap.length } =
      [{ hash := 0, key := k, ki := 0, val := v, vi := vi }] := by
  have hempty := chain_head_none H hh
  refine ⟨binNodes_empty H hh, ?_⟩
  have hc := append_empty_chain
    (s' := { s with heap := s.heap ++ [(⟨k, (v, vi), none, none⟩ : NodeS)], head := some s.heap.length })
    (new := (⟨k, (v, vi), none, none⟩ : NodeS)) H hempty rfl rfl rfl
  rw [binNodes_eq, hc]
  show [toNode (s.heap ++ [(⟨k, (v, vi), none, none⟩ : NodeS)]) s.heap.length] = _
  rw [toNode_append_new]
  rfl

/-- the CAS is the sequential update as well (the `.empty` arm of `Seq.put`: `.list [nd]`) -/
theorem cas_refines_seq {s : State} (H : HInv s) (hh : s.head = none) (p : Pending) {v vi : Nat}
    (hop : p.op = .ins v vi ∨ p.op = .tryIns v vi) :
    binNodes { s with heap := s.heap ++ [(⟨p.key, (v, vi), none, none⟩ : NodeS)], head := some s.heap.length } =
      (seqStore (binNodes s) p.key p.op).1 ∧ KRes.none = (seqStore (binNodes s) p.key p.op).2 := by
  obtain ⟨h0, h1⟩ := binNodes_cas H hh p.key v vi
  rw [h1, h0]
  rcases hop with hop | hop <;> rw [hop] <;> exact ⟨rfl, rfl⟩

theorem toNode_modify_same (heap : List NodeS) (i : Nat) {f : NodeS → NodeS}
    (hf : ∀ n, (f n).key = n.key ∧ (f n).val = n.val) (j : Nat) :
    toNode (heap.modify i f) j = toNode heap j := by
  unfold toNode
  rw [nodeAt_modify]
  split
  · rw [(hf _).1, (hf _).2]
  · rfl

theorem binNodes_setNode_lock {s : State} (H : HInv s) (h : Nat) (x : Option Nat) :
    binNodes (setNode s h (fun m => { m with lock := x })) = binNodes s := by
  have hc := modify_chain (s' := setNode s h (fun m => { m with lock := x })) H rfl rfl
    (fun n => ⟨rfl, rfl⟩)
  rw [binNodes_eq, binNodes_eq, hc]
  exact List.map_congr_left (fun j _ =>
    toNode_modify_same s.heap h (f := fun m => { m with lock := x }) (fun n => ⟨rfl, rfl⟩) j)

/-- **every transition is a step of the sequential bin or leaves it alone**: the bin as the
sequential model sees it changes only at the store of a validated writer and at the CAS into an
empty bin, and there it changes by `seqStore` of the call of the thread. -/
theorem stepK_refines_seq {s s' : State} {t : Nat} {l : Local} (H : HInv s) (hs : StepK s t l s') :
    binNodes s' = binNodes s ∨
      ∃ p, l.call = some p ∧
        (l.pc = .wCas ∨ ∃ h, l.pc = .wWrite h) ∧
        binNodes s' = (seqStore (binNodes s) p.key p.op).1 := by
  have Ht : HInv (tick s) := H.congr rfl rfl
  have hbt : binNodes (tick s) = binNodes s := binNodes_congr rfl rfl
  cases hs with
  | idle _ => exact Or.inl (binNodes_congr rfl rfl)
  | invoke k op _ => exact Or.inl (binNodes_congr rfl rfl)
  | move p pc' _ _ => exact Or.inl (binNodes_congr rfl rfl)
  | lockMove p h x pc' _ _ =>
    refine Or.inl ?_
    have e1 : binNodes (setT (setNode (tick s) h (fun m => { m with lock := x })) t { l with pc := pc' }) =
        binNodes (setNode (tick s) h (fun m => { m with lock := x })) := binNodes_congr rfl rfl
    rw [e1, binNodes_setNode_lock Ht, hbt]
  | fin p res _ _ => exact Or.inl (binNodes_congr rfl rfl)
  | cas p v vi hc hpc hh hop =>
    refine Or.inr ⟨p, hc, Or.inl hpc, ?_⟩
    have e2 := (cas_refines_seq H hh p hop).1
    exact (binNodes_congr rfl rfl).trans e2
  | write p h hc hpc =>
    refine Or.inr ⟨p, hc, Or.inr ⟨h, hpc⟩, ?_⟩
    have e1 : binNodes (setT (writerStore (tick s) p).1 t
        { l with pc := .wUnlock h (writerStore (tick s) p).2 false }) =
        binNodes (writerStore (tick s) p).1 := binNodes_congr rfl rfl
    rw [e1, (writerStore_refines_seq Ht p).1, hbt]
  | unlockFin p h res _ _ =>
    refine Or.inl ?_
    have e1 : binNodes (finish (setNode (tick s) h (fun m => { m with lock := none })) t p res) =
        binNodes (setNode (tick s) h (fun m => { m with lock := none })) := binNodes_congr rfl rfl
    rw [e1, binNodes_setNode_lock Ht, hbt]

end Flurry.Proto.Bin

/-! ## the same for `Proto/BinW` (the writer's walk spelled out) -/
namespace Flurry.Proto.BinW
open Flurry.Lin Flurry.Seq

def binNodes (s : State) : List Flurry.Node := Bin.binNodes (proj s)

/-- **the store through the positions remembered during the walk is the sequential update of the
list bin**, for every writer that reaches `wStore` in a reachable state -/
theorem storeAt_refines_seq {n : Nat} {s : State} (hr : Reachable n s) {t : Nat} {l : Local}
    {p : Pending} {h : Nat} {pred hit hnext : Option Nat}
    (hl : s.threads[t]? = some l) (hpc : l.pc = .wStore h pred hit hnext) (hc : l.call = some p) :
    binNodes (storeAt s p pred hit hnext).1 = (Bin.seqStore (binNodes s) p.key p.op).1 ∧
      (storeAt s p pred hit hnext).2 = (Bin.seqStore (binNodes s) p.key p.op).2 := by
  obtain ⟨e1, e2⟩ := storeAt_eq_writerStore_of_reachable hr hl hpc hc
  unfold binNodes
  rw [e1, e2]
  exact Bin.writerStore_refines_seq (reachable_sim hr).1.heap (cP p)

end Flurry.Proto.BinW
