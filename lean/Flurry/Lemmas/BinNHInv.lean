import Flurry.Lemmas.BinNHStepRW
/-! # Proto/BinNH: the invariant of the helper model after each kind of transition of a helper part

`inv_helper` assembles `Inv` after a transition of the helper part of one thread; its instances for the kinds of
store: `inv_pc` (none; also joining and leaving), `inv_put` (a cell), `inv_lockmod` (a lock word that is free or the
thread's own), `inv_heap` (the nodes the split allocates), `inv_alloc` (an idle thread starts a resize), `inv_commit`. That every transition preserves `Inv`
is `stepH_inv` in `Lemmas/BinNHReach.lean`. -/
namespace Flurry.Proto.BinNH
open Flurry.Lin
open Flurry.Proto.BinX (NodeS Cell Pending isReader dflt chainFrom cellHead cellOfHead get_set get_set_self get_set_ne
  cellOfHead_ne_moved)
open Flurry.Proto.BinN (cellAt cellOf putCell setNode allMoved splitBinB bitAt lockAt LockSame GenInv ThrOK isT
  Holds vcell genOfPc cellT StepK tick setT finish)

/-- assembling the invariant after a transition of the helper part of thread `t` (the reader/writer parts
of all threads are untouched) -/
theorem inv_helper {s : State} {t : Nat} {n' : BinN.State} {ho : Option Helper} (I : Inv s)
    (G' : GenInv n') (hth : n'.threads = s.n.threads)
    (hselfidle : ∀ l : BinN.Local, s.n.threads[t]? = some l → l.pc = .idle)
    (hself : ∀ hp, ho = some hp → HOK n' t hp)
    (hothers : ∀ t1 hp, t1 ≠ t → s.hs[t1]? = some (some hp) → HOK n' t1 hp) : Inv (setH s t n' ho) := by
  refine ⟨G', ?_, ?_, ?_, ?_⟩
  · intro t1 l1 h1
    have h1 : s.n.threads[t1]? = some l1 := by rw [← hth]; exact h1
    exact I.noT t1 l1 h1
  · show (s.hs.set t ho).length = n'.threads.length
    rw [List.length_set, hth]; exact I.len
  · intro t1 hp l1 hh h1
    have h2 : s.n.threads[t1]? = some l1 := by rw [← hth]; exact h1
    rcases get_set hh with ⟨e, -⟩ | ⟨-, hh⟩
    · rw [e] at h2; exact hselfidle l1 h2
    · exact I.hidle t1 hp l1 hh h2
  · intro t1 hp hh
    rcases get_set hh with ⟨rfl, e⟩ | ⟨ne, hh⟩
    · exact hself hp e.symm
    · exact hothers t1 hp ne hh

theorem geninv_tick {n : BinN.State} (I : GenInv n) : GenInv (tickN n) :=
  geninv_congr I rfl rfl rfl rfl (fun t1 l1 h h1 hh => (I.thr t1 l1 h1).held h hh)

/-- `HOK.frame` when nothing the helper looks at has changed -/
theorem HOK.same {n n' : BinN.State} {t : Nat} {hp : Helper} (H : HOK n t hp) (hc : n'.cur = n.cur)
    (hr : n.resizing = true → n'.resizing = true) (hh : n'.heap = n.heap) (ht : ∀ g j, cellAt n' g j = cellAt n g j) :
    HOK n' t hp :=
  H.frame hc hr (fun h a b => by rw [hh]; exact ⟨a, b⟩) (fun j h a _ _ => by rw [ht]; exact a)
    (fun g j a => by rw [ht]; exact a)

theorem inv_pc {s : State} {t : Nat} {ho : Option Helper} (I : Inv s)
    (hselfidle : ∀ l : BinN.Local, s.n.threads[t]? = some l → l.pc = .idle)
    (hself : ∀ hp, ho = some hp → HOK (tickN s.n) t hp) : Inv (setH s t (tickN s.n) ho) :=
  inv_helper I (geninv_tick I.gen) rfl hselfidle hself
    (fun t1 hp _ hh => (I.hok t1 hp hh).same rfl id rfl (fun _ _ => rfl))

/-- `hold`, `hc`, `hother` are `BinN.geninv_put`'s; `hhelpers`: no other helper of generation `g0` holds the lock of the head
of the cell (it would be validated on it and lose `HOK.valid`); `hself`: the acting helper's own clause afterwards. -/
theorem inv_put {s : State} {t : Nat} {l : BinN.Local} {g0 j0 : Nat} {c : Cell} {ho : Option Helper} (I : Inv s)
    (hl : s.n.threads[t]? = some l) (hidle : l.pc = .idle)
    (hold : cellAt s.n g0 j0 ≠ .moved ∨ c = .moved)
    (hc : c = .moved → g0 = s.n.cur ∧ s.n.resizing = true)
    (hother : ∀ (t1 : Nat) (l1 : BinN.Local) h, t1 ≠ t → s.n.threads[t1]? = some l1 → vcell s.n.cur l1 ≠ some (g0, j0, h))
    (hhelpers : ∀ t1 hp h, t1 ≠ t → s.hs[t1]? = some (some hp) → hp.g = g0 → cellAt s.n g0 j0 = .node h →
      lockAt s.n.heap h = some t1 → False)
    (hself : ∀ hp, ho = some hp → HOK (putCell (tickN s.n) g0 j0 c) t hp) :
    Inv (setH s t (putCell (tickN s.n) g0 j0 c) ho) := by
  have G' : GenInv (putCell (tickN s.n) g0 j0 c) := by
    obtain ⟨pc, call⟩ := l
    simp only at hidle; subst hidle
    refine BinN.geninv_put (t := t) (l := ⟨.idle, call⟩) (l' := ⟨.idle, call⟩) I.gen hl ?_ rfl rfl rfl hold hc hother ?_ id
      (BinN.thrOK_idle _ t call)
    · show s.n.threads = s.n.threads.set t _
      exact (set_self_of_get hl).symm
    · intro t1 l1 h _ h1 hh
      exact (I.gen.thr t1 l1 h1).held h hh
  refine inv_helper I G' rfl (fun l' h' => by rw [hl] at h'; cases h'; exact hidle) hself ?_
  intro t1 hp ne hh
  have H := I.hok t1 hp hh
  have hne : ∀ g j, ¬ (g = g0 ∧ j = j0) → cellAt (putCell (tickN s.n) g0 j0 c) g j = cellAt s.n g j :=
    fun g j h => BinN.cellT_put_ne _ _ h
  have hself' : cellAt (putCell (tickN s.n) g0 j0 c) g0 j0 = c ∨
      cellAt (putCell (tickN s.n) g0 j0 c) g0 j0 = cellAt s.n g0 j0 := BinN.cellT_put_self _ _ _ _
  refine H.frame rfl id (fun h a b => ⟨a, b⟩) ?_ ?_
  · intro j h hcell hlk _
    by_cases e : hp.g = g0 ∧ j = j0
    · obtain ⟨e1, rfl⟩ := e
      rw [e1] at hcell
      exact (hhelpers t1 hp h ne hh e1 hcell hlk).elim
    · rw [hne hp.g j e]; exact hcell
  · intro g j hm
    by_cases e : g = g0 ∧ j = j0
    · obtain ⟨rfl, rfl⟩ := e
      rcases hself' with e1 | e1
      · rcases hold with h1 | h1
        · exact absurd hm h1
        · rw [e1]; exact h1
      · rw [e1]; exact hm
    · rw [hne g j e]; exact hm

theorem inv_lockmod {s : State} {t : Nat} {h : Nat} {x : Option Nat} {ho : Option Helper} (I : Inv s)
    (hidle : ∀ l : BinN.Local, s.n.threads[t]? = some l → l.pc = .idle)
    (hfree : lockAt s.n.heap h = none ∨ lockAt s.n.heap h = some t)
    (hself : ∀ hp, ho = some hp → HOK (setNode (tickN s.n) h (fun m => { m with lock := x })) t hp) :
    Inv (setH s t (setNode (tickN s.n) h (fun m => { m with lock := x })) ho) := by
  have G' : GenInv (setNode (tickN s.n) h (fun m => { m with lock := x })) :=
    geninv_congr I.gen rfl rfl rfl rfl (rw_locks_modify I.gen hidle hfree)
  refine inv_helper I G' rfl hidle hself ?_
  intro t1 hp ne hh
  refine (I.hok t1 hp hh).frame rfl id ?_ (fun j h a _ _ => a) (fun g j a => a)
  intro h1 a b
  have hne' : h1 ≠ h := by
    rintro rfl
    rcases hfree with e | e <;> rw [e] at b
    · cases b
    · exact ne (Option.some.inj b).symm
  exact ⟨by show h1 < (s.n.heap.modify _ _).length; simpa using a, by
    show lockAt (s.n.heap.modify _ _) h1 = _; rw [BinN.lockAt_modify_ne x hne']; exact b⟩

theorem inv_heap {s : State} {t : Nat} {heap' : List NodeS} {ho : Option Helper} (I : Inv s)
    (hidle : ∀ l : BinN.Local, s.n.threads[t]? = some l → l.pc = .idle) (hls : LockSame s.n.heap heap')
    (hself : ∀ hp, ho = some hp → HOK { tickN s.n with heap := heap' } t hp) :
    Inv (setH s t { tickN s.n with heap := heap' } ho) := by
  have G' : GenInv { tickN s.n with heap := heap' } :=
    geninv_congr I.gen rfl rfl rfl rfl (BinN.locks_of_lockSame I.gen hls)
  refine inv_helper I G' rfl hidle hself ?_
  intro t1 hp ne hh
  refine (I.hok t1 hp hh).frame rfl id ?_ (fun j h a _ _ => a) (fun g j a => a)
  intro h1 a b
  exact ⟨by have := hls.1; show h1 < heap'.length; omega, by show lockAt heap' h1 = _; rw [hls.2 h1 a]; exact b⟩

theorem inv_alloc {s : State} {t : Nat} (I : Inv s) (hidle : ∀ l : BinN.Local, s.n.threads[t]? = some l → l.pc = .idle)
    (hr : s.n.resizing = false) :
    Inv (setH s t (allocN s.n) (some ⟨s.n.cur, .next⟩)) := by
  have G := I.gen
  have hc : ∀ g j, cellAt (allocN s.n) g j = cellAt s.n g j := fun g j => BinN.cellT_alloc _ _ _ _
  have G' : GenInv (allocN s.n) :=
    BinN.geninv_alloc G hr rfl rfl rfl G.uniqT fun t1 l1 h1 => (G.thr t1 l1 h1).alloc (I.noT t1 l1 h1) hc rfl rfl
  refine inv_helper I G' rfl hidle ?_ ?_
  · intro hp e
    cases e
    exact ⟨Nat.le_refl _, fun _ => rfl, fun j h => (by cases h), fun h hh => hh.elim, fun j h hv => (by cases hv),
      fun h => (by cases h)⟩
  · intro t1 hp ne hh
    exact (I.hok t1 hp hh).same rfl (fun _ => rfl) rfl hc

theorem inv_commit {s : State} {t : Nat} (I : Inv s) (hidle : ∀ l : BinN.Local, s.n.threads[t]? = some l → l.pc = .idle)
    (R : s.n.resizing = true) (hall : ∀ j, j < 2 ^ s.n.cur → cellAt s.n s.n.cur j = .moved) :
    Inv (setH s t (commitN s.n) none) := by
  have G := I.gen
  have G' : GenInv (commitN s.n) :=
    BinN.geninv_commit G R hall rfl rfl rfl G.uniqT fun t1 l1 h1 => (G.thr t1 l1 h1).commit_w (I.noT t1 l1 h1) rfl rfl rfl
  refine inv_helper I G' rfl hidle (fun hp e => by cases e) ?_
  intro t1 hp ne hh
  have H := I.hok t1 hp hh
  refine ⟨?_, ?_, H.idx, H.held, H.valid, ?_⟩
  · show hp.g ≤ s.n.cur + 1
    have := H.gle; omega
  · intro e
    have e : hp.g = s.n.cur + 1 := e
    have := H.gle; omega
  · intro _ e
    have e : hp.g = s.n.cur + 1 := e
    have := H.gle; omega

end Flurry.Proto.BinNH
