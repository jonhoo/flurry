import Flurry.Lemmas.BinNRFacts
import Flurry.Lemmas.BinXRetire
/-! # Proto/BinNR: the nodes a step hands to `retire` are made unreachable by that step (C03: unlink before retire)

* `hit_dead`: the remover's unlink store makes the node it found unreachable;
* `copiedPrefix_dead`: the store of the forwarding marker makes exactly the copied prefix unreachable: the
  re-used last run is the MAXIMAL suffix of the old chain with equal split bits (`BinN.lastRunStartB_le_of_suffix`, `Lemmas/BinXRetire.lean`);
  a node of the old chain that is also in a new chain is followed in the old chain only by nodes of the same
  new chain (`SideOK.suffix`), which all have the split bit of that side (`SideOK.side`): it lies in the last
  run, not in the copied prefix;
* `retiredBy_dead`: the two together, for `retiredBy`. -/
namespace Flurry.Proto.BinNR
open Flurry.Lin
open Flurry.Proto.BinX (Pending isReader chainFrom nodeAt absIn_eq_some_iff)
open Flurry.Proto.BinN (Pc Local Ghost Inv chId getCell CellId chId_of_moved chId_of_empty tick setT putCell storeAt
  vcell cellId keyOn_cellId SameMem store_effect hinv_update absOf_active LC SideOK bitAt getCell_put_ne
  cellAt_put_self)

/-- the unlink store of a remover: the node it found was in the chain of its cell and is in no chain afterwards -/
theorem hit_dead {s : BinN.State} {G : Ghost} (I : Inv s G) {t : Nat} {p : Pending} {g h i : Nat}
    {pred hnext : Option Nat}
    (hl : s.threads[t]? = some { pc := .wStore g h pred (some i) hnext, call := some p })
    (hop : p.op = .rm ∨ p.op = .cipRm) :
    Live0 s i ∧ ¬ Live0 (storeAt (tick s) g p pred (some i) hnext).1 i := by
  have H := I.heap
  have T := I.gen.thr t _ hl
  have hv0 : vcell s.cur { pc := Pc.wStore g h pred (some i) hnext, call := some p } = some (g, p.key % 2 ^ g, h) := rfl
  have act := I.active_of_vcell hl rfl rfl (fun h => h) hv0
  obtain ⟨hcell, -⟩ := T.valid _ _ _ hv0
  have hwr : isReader p.op = false := I.thr.opOK t _ p hl rfl
  have hw := I.walk.walk t _ p hl rfl
  have Ht := H.sameMem (SameMem.tick s)
  have actt := act.sameMem (SameMem.tick s)
  obtain ⟨⟨C', u, hs⟩, -, hspec, -⟩ := store_effect (s := tick s) Ht p hwr actt (h := h) hcell hw.1 hw.2
  have H' := hinv_update Ht actt u
  have hmem : i ∈ chId (tick s) (cellId g p.key) := hw.1.cur_mem
  have hkey : (nodeAt (tick s).heap i).key = p.key := (hw.2 i rfl).1
  refine ⟨⟨cellId g p.key, hmem⟩, ?_⟩
  have habs : BinN.absOf (tick s) p.key = some (nodeAt (tick s).heap i).val := by
    rw [absOf_active Ht actt (keyOn_cellId g p.key)]
    exact (absIn_eq_some_iff (Ht.keys _)).2 ⟨i, hmem, hkey, rfl⟩
  have hnone : BinN.absOf (storeAt (tick s) g p pred (some i) hnext).1 p.key = none := by
    rw [habs] at hspec
    rcases hop with h | h <;> rw [h] at hspec <;> simp only [specStep, Prod.mk.injEq] at hspec <;> exact hspec.1.symm
  have hLC : i ∈ LC (tick s) p.key := by
    rw [Ht.LC_eq, Ht.liveId_of_active actt (keyOn_cellId g p.key)]; exact hmem
  have hnLC : i ∉ LC (storeAt (tick s) g p pred (some i) hnext).1 p.key := by
    intro hin
    have := (H'.absOf_none_iff).1 hnone i hin
    apply this
    rw [hs.key i (Ht.chain_lt hmem)]
    exact hkey
  obtain ⟨-, -, hdead, -⟩ := hs.unl p.key i hLC hnLC
  exact fun h0 => hdead h0.live

/-- what the invariant says at the store of the forwarding marker -/
theorem storeMoved_facts {s : BinN.State} {G : Ghost} (I : Inv s G) {t j h : Nat} {l : Local}
    (hl : s.threads[t]? = some l) (hpc : l.pc = .tStoreMoved j h) :
    chId s (s.cur, j) = chainFrom s.heap s.heap.length (some h) ∧
    SideOK (bitAt s.cur) s.heap G.cr G.fr (chId s (s.cur, j)) false (chId s (s.cur + 1, j)) ∧
    SideOK (bitAt s.cur) s.heap G.cr G.fr (chId s (s.cur, j)) true (chId s (s.cur + 1, j + 2 ^ s.cur)) := by
  have hp := I.ph.pcMid t l hl
  have T := I.gen.thr t l hl
  obtain ⟨pc, call⟩ := l
  simp only at hpc
  subst hpc
  obtain ⟨lo, hg, hmid, hlow, hhigh⟩ := hp
  obtain ⟨hcell, -⟩ := T.valid s.cur j h rfl
  obtain ⟨-, sL, sH⟩ := BinN.mid_chains I.heap hmid hlow hhigh
  refine ⟨?_, sL, sH⟩
  unfold chId getCell
  simp only
  rw [hcell]
  rfl

theorem copiedPrefix_nodup {s : BinN.State} {G : Ghost} (I : Inv s G) {t j h : Nat} {l : Local}
    (hl : s.threads[t]? = some l) (hpc : l.pc = .tStoreMoved j h) : (copiedPrefix s h).Nodup := by
  obtain ⟨hO, -⟩ := storeMoved_facts I hl hpc
  unfold copiedPrefix
  dsimp only
  rw [← hO]
  exact (I.heap.chain_nodup (s.cur, j)).sublist (List.take_sublist _ _)

/-- the store of the forwarding marker makes exactly the copied prefix unreachable: every node of the copied prefix
is in the chain of the old cell before the store and in no chain of any cell after it -/
theorem copiedPrefix_dead {s s' : BinN.State} {G : Ghost} (I : Inv s G) {t j h : Nat} {l : Local}
    (hl : s.threads[t]? = some l) (hpc : l.pc = .tStoreMoved j h)
    (hheap : s'.heap = s.heap)
    (hcell : ∀ id : CellId, id ≠ (s.cur, j) → getCell s' id = getCell s id)
    (hmv : getCell s' (s.cur, j) = .moved) :
    ∀ x ∈ copiedPrefix s h, Live0 s x ∧ ¬ Live0 s' x := by
  obtain ⟨hO, sL, sH⟩ := storeMoved_facts I hl hpc
  have H := I.heap
  have S := H.shape
  intro x hx
  unfold copiedPrefix at hx
  dsimp only at hx
  rw [← hO] at hx
  have hxO : x ∈ chId s (s.cur, j) := List.mem_of_mem_take hx
  refine ⟨⟨(s.cur, j), hxO⟩, ?_⟩
  rintro ⟨id, hid⟩
  by_cases hideq : id = (s.cur, j)
  · subst hideq
    rw [chId_of_moved hmv] at hid
    cases hid
  · have e : chId s' id = chId s id := by
      unfold chId
      rw [hheap, hcell id hideq]
    rw [e] at hid
    obtain ⟨g, j'⟩ := id
    have k1 : (nodeAt s.heap x).key % 2 ^ s.cur = j := H.side _ x hxO
    have k2 : (nodeAt s.heap x).key % 2 ^ g = j' := H.side _ x hid
    have hne' : getCell s (g, j') ≠ .empty := fun h => by rw [chId_of_empty h] at hid; cases hid
    have hnm' : getCell s (g, j') ≠ .moved := fun h => by rw [chId_of_moved h] at hid; cases hid
    have hj' : j' < 2 ^ g := by
      rw [← k2]; exact Nat.mod_lt _ (Nat.two_pow_pos g)
    -- a node of the old chain that is in the new chain `X` of side `b` is not in the copied prefix
    have key : ∀ (b : Bool) (X : List Nat),
        SideOK (bitAt s.cur) s.heap G.cr G.fr (chId s (s.cur, j)) b X → x ∈ X → False := by
      intro b X sX hxX
      refine BinN.not_mem_take_lastRun (H.chain_nodup (s.cur, j)) ((H.isChain (s.cur, j)).sorted H.nextOK) hxO
        (sX.side x hxX) ?_ hx
      intro i hi hlt
      exact sX.side i (sX.suffix x hxO hxX i hi hlt)
    rcases Nat.lt_or_ge g s.cur with hg | hg
    · exact hnm' (S.old g j' hg hj')
    · rcases Nat.lt_or_ge (s.cur + 1) g with hg2 | hg2
      · exact hne' (S.cell_of_gen_gt hg2)
      · rcases Nat.lt_or_ge s.cur g with hg3 | hg3
        · have : g = s.cur + 1 := by omega
          subst this
          have hb := BinN.mod_succ_bit (nodeAt s.heap x).key s.cur
          rw [k2, k1] at hb
          cases hbit : bitAt s.cur (nodeAt s.heap x).key with
          | false =>
            rw [hbit] at hb
            simp only [Bool.false_eq_true, if_false, Nat.add_zero] at hb
            subst hb
            exact key false _ sL hid
          | true =>
            rw [hbit] at hb
            simp only [if_true] at hb
            subst hb
            exact key true _ sH hid
        · have : g = s.cur := by omega
          subst this
          apply hideq
          rw [← k1, ← k2]

theorem Live0_congr {n n' : BinN.State} (hh : n'.heap = n.heap) (ht : n'.tabs = n.tabs) (i : Nat) :
    Live0 n' i ↔ Live0 n i := by
  unfold Live0
  constructor
  · rintro ⟨id, h⟩; rw [BinN.chId_congr hh ht] at h; exact ⟨id, h⟩
  · rintro ⟨id, h⟩; rw [← BinN.chId_congr hh ht] at h; exact ⟨id, h⟩

/-- **unlink before retire**: every node a step of thread `t` hands to `retire` was in a chain before the step and
is in no chain of any cell after it; and `t` is under a guard -/
theorem retiredBy_dead {n n' : BinN.State} {G : Ghost} (I : Inv n G) {t : Nat} {l : Local}
    {inv : Option (Nat × KOp)} {rz : Bool} {pick : Nat}
    (hl : n.threads[t]? = some l) (hb : BinN.step n t inv rz pick = some n') :
    ∀ i ∈ retiredBy false n t, Live0 n i ∧ ¬ Live0 n' i ∧ guarded n t = true := by
  intro i hi
  have hg : guarded n t = true := by
    unfold guarded; rw [hl]
    refine bne_iff_ne.2 fun h => ?_
    unfold retiredBy at hi; rw [hl] at hi; simp only [h] at hi; cases hi
  unfold retiredBy at hi
  rw [hl] at hi
  obtain ⟨pc, call⟩ := l
  simp only at hi
  split at hi
  · -- the remover's unlink store
    rename_i g h pred i0 hnext p
    have hop : p.op = .rm ∨ p.op = .cipRm := by
      split at hi
      · rename_i hop; exact Or.inl hop
      · rename_i hop; exact Or.inr hop
      · cases hi
    have hi0 : i = i0 := by
      split at hi
      · simpa using hi
      · simpa using hi
      · cases hi
    subst hi0
    obtain ⟨h0, h1⟩ := hit_dead I hl hop
    unfold BinN.step BinN.stepG at hb
    rw [hl] at hb
    cases hb
    exact ⟨h0, fun hc => h1 ((Live0_congr rfl rfl i).1 hc), hg⟩
  · -- the store of the forwarding marker
    rename_i j h
    simp only [Bool.false_eq_true, if_false] at hi
    have hj : j < 2 ^ n.cur := (I.gen.thr t _ hl).idx j rfl
    unfold BinN.step BinN.stepG at hb
    rw [hl] at hb
    cases hb
    have ht : (putCell (setT (tick n) t { pc := .tUnlock j h, call := none }) n.cur j .moved).tabs =
        n.tabs.modify n.cur (fun row => row.set j .moved) := rfl
    obtain ⟨h0, h1⟩ := copiedPrefix_dead (s' := putCell (setT (tick n) t { pc := .tUnlock j h, call := none }) n.cur j .moved)
      I hl rfl rfl (fun id hne => getCell_put_ne ht hne)
      (cellAt_put_self I.heap.shape ht I.heap.shape.cur_lt hj) i hi
    exact ⟨h0, h1, hg⟩
  · simp at hi
  · cases hi

end Flurry.Proto.BinNR

#print axioms Flurry.Proto.BinNR.copiedPrefix_nodup
#print axioms Flurry.Proto.BinNR.copiedPrefix_dead
