import Flurry.Lemmas.BinRBChain
import Flurry.Lemmas.BinRBBasic
import Flurry.Lemmas.BinRBStep
import Flurry.Lemmas.BinRBInv
import Flurry.Lemmas.BinRBLock
import Flurry.Lemmas.BinRBGhost
import Flurry.Lemmas.BinRBLin
/-! # The lemmas about `Proto/BinRBase`, gathered (the main theorems are in `Lemmas/BinRBMain.lean`) -/
