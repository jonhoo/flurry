import Flurry.Proto.BinG
import Flurry.Lemmas.BinKStep
/-! # Proto/BinG: the transitions in normal form

`StepN s t l s'` lists the transitions of thread `t` of `step = stepG true` with explicit successor
states, grouped by what they do to the shared state (as `Lemmas/BinKStep.lean`):
* `move` / `bmove` / `fin` / `bfin` (a call in flight), `kmove` / `kbmove` (treeify and resize
  threads): heap cells other than lock words, the `first` fields, the three bin cells and the table
  pointer are untouched; the program counter moves, one lock word of a node or the synchronisation
  words of one `TreeBin` may change;
* the stores of `Proto/BinK`: `cas`, `store`, `tval`, `prepend`, `treeLink`, `unlink`, `untree`,
  `untreeify`, `kbuild`, `kstore` (in the cell of the key in table `tab`);
* the resize: `resizeStart`, `xcasMoved`, `xbuild` (list split), `ybuild` (tree split), `xstoreLow`,
  `xstoreHigh`, `xstoreMoved`, `xcommit`.
`step_stepN` (`Lemmas/BinGStepN.lean`) dissects `step` once and for all. -/
namespace Flurry.Proto.BinG
open Flurry.Lin
open Flurry.Proto.BinK (nodeAt binAt lockSet isInsert)

/-- the state with the clock advanced -/
def tick (s : State) : State := { s with now := s.now + 1 }

/-- clock advanced, heap and `TreeBin` table replaced -/
def qst (s : State) (hp : List NodeS) (tb : List TBin) : State :=
  { s with now := s.now + 1, heap := hp, tbins := tb }

/-- the list unlink of node `i` of tree bin `b` -/
def unlinkOf (s : State) (b i : Nat) : State :=
  match predOf (chainOfBin s b) i with
  | some pr => setNode s pr (fun m => { m with next := (nodeAt s.heap i).next })
  | none => setBin s b (fun y => { y with first := (nodeAt s.heap i).next })

/-- the tree's view of key `k` in bin `b` -/
def absTree (s : State) (b k : Nat) : KSt :=
  match treeFind s b k with
  | some i => some (nodeAt s.heap i).val
  | none => none

/-- transitions of a thread with a call in flight that leave the shared state alone but for one lock
word of a node, and do not complete the call: `Move s t p pc pc' heap'` -/
inductive Move (s : State) (t : Nat) (p : Pending) : Pc → Pc → List NodeS → Prop
  | rTable {lo : Bool} : Move s t p (.rTable lo) (.rCell lo s.cur) s.heap
  | rCellMoved {lo : Bool} {tab : Tab} : cellOf s tab p.key = .moved →
      Move s t p (.rCell lo tab) (.rCell lo .new) s.heap
  | rCellList {lo : Bool} {tab : Tab} {h : Nat} : cellOf s tab p.key = .list h →
      Move s t p (.rCell lo tab) (.rNode (some h)) s.heap
  | rCellTree {lo : Bool} {tab : Tab} {b : Nat} : cellOf s tab p.key = .tree b →
      Move s t p (.rCell lo tab) (if lo then .lFirst b else .rFirst b) s.heap
  | rNodeNext {c : Nat} {n : NodeS} : s.heap[c]? = some n → n.key ≠ p.key →
      Move s t p (.rNode (some c)) (.rNode n.next) s.heap
  | rFirst {b : Nat} : Move s t p (.rFirst b) (.rState b (binAt s.tbins b).first) s.heap
  | rLinMode {b c : Nat} : ((binAt s.tbins b).writer || (binAt s.tbins b).waiter) = true →
      Move s t p (.rState b (some c)) (.rLin b c) s.heap
  | rTreeMode {b c : Nat} : ((binAt s.tbins b).writer || (binAt s.tbins b).waiter) = false →
      Move s t p (.rState b (some c)) (.rCas b c (binAt s.tbins b).readers) s.heap
  | rLinNext {b c : Nat} {n : NodeS} : s.heap[c]? = some n → n.key ≠ p.key →
      Move s t p (.rLin b c) (.rState b n.next) s.heap
  | rLinHit {b c : Nat} {n : NodeS} : s.heap[c]? = some n → n.key = p.key → p.op ≠ .has →
      Move s t p (.rLin b c) (.rVal c) s.heap
  | rCasFail {b c r : Nat} : Move s t p (.rCas b c r) (.rState b (some c)) s.heap
  | rTree {b : Nat} : Move s t p (.rTree b) (.rRelease b (treeFind s b p.key)) s.heap
  | lFirst {b : Nat} : Move s t p (.lFirst b) (.lNode (binAt s.tbins b).first) s.heap
  | lNext {c : Nat} {n : NodeS} : s.heap[c]? = some n → n.key ≠ p.key →
      Move s t p (.lNode (some c)) (.lNode n.next) s.heap
  | lHit {c : Nat} {n : NodeS} : s.heap[c]? = some n → n.key = p.key → p.op ≠ .has →
      Move s t p (.lNode (some c)) (.rVal c) s.heap
  | wTable : Move s t p .wTable (.wCell s.cur) s.heap
  | wCellMoved {tab : Tab} : cellOf s tab p.key = .moved → Move s t p (.wCell tab) (.wCell .new) s.heap
  | wCellCas {tab : Tab} : cellOf s tab p.key = .empty → isInsert p.op = true →
      Move s t p (.wCell tab) (.wCas tab) s.heap
  | wCellList {tab : Tab} {h : Nat} : cellOf s tab p.key = .list h →
      Move s t p (.wCell tab) (.wLock tab h) s.heap
  | wCellTree {tab : Tab} {b : Nat} : cellOf s tab p.key = .tree b →
      Move s t p (.wCell tab) (.tMutex tab b) s.heap
  | wCasFail {tab : Tab} : (cellOf s tab p.key ≠ .empty ∨ isInsert p.op = false) →
      Move s t p (.wCas tab) (.wCell tab) s.heap
  | wLock {tab : Tab} {h : Nat} {n : NodeS} : s.heap[h]? = some n → n.lock = none →
      Move s t p (.wLock tab h) (.wCheck tab h) (lockSet s.heap h (some t))
  | wCheckOk {tab : Tab} {h : Nat} : cellOf s tab p.key = .list h →
      Move s t p (.wCheck tab h) (.wFind tab h none (some h)) s.heap
  | wCheckFail {tab : Tab} {h : Nat} : cellOf s tab p.key ≠ .list h →
      Move s t p (.wCheck tab h) (.wUnlock tab h .none true) s.heap
  | wFindEnd {tab : Tab} {h : Nat} {pred : Option Nat} :
      Move s t p (.wFind tab h pred none) (.wStore tab h pred none none) s.heap
  | wFindHit {tab : Tab} {h : Nat} {pred : Option Nat} {c : Nat} {n : NodeS} : s.heap[c]? = some n →
      n.key = p.key → Move s t p (.wFind tab h pred (some c)) (.wStore tab h pred (some c) n.next) s.heap
  | wFindNext {tab : Tab} {h : Nat} {pred : Option Nat} {c : Nat} {n : NodeS} : s.heap[c]? = some n →
      n.key ≠ p.key → Move s t p (.wFind tab h pred (some c)) (.wFind tab h (some c) n.next) s.heap
  | wUnlockRetry {tab : Tab} {h : Nat} {res : KRes} :
      Move s t p (.wUnlock tab h res true) (.wCell tab) (lockSet s.heap h none)
  | tCheckOk {tab : Tab} {b : Nat} : cellOf s tab p.key = .tree b →
      Move s t p (.tCheck tab b) (.tFind tab b) s.heap
  | tCheckFail {tab : Tab} {b : Nat} : cellOf s tab p.key ≠ .tree b →
      Move s t p (.tCheck tab b) (.tUnlockM tab b .none true) s.heap
  | findVal {tab : Tab} {b i : Nat} {v : Nat × Nat} {res : KRes} : treeFind s b p.key = some i →
      specStep (some (nodeAt s.heap i).val) p.op = (some v, res) →
      Move s t p (.tFind tab b) (.tVal tab b i v res) s.heap
  | findInsert {tab : Tab} {b : Nat} : treeFind s b p.key = none → isInsert p.op = true →
      Move s t p (.tFind tab b) (.lrTry tab b .insert .none) s.heap
  | findRemove {tab : Tab} {b i : Nat} {res : KRes} : treeFind s b p.key = some i →
      specStep (some (nodeAt s.heap i).val) p.op = (none, res) →
      Move s t p (.tFind tab b) (.lrTry tab b (.remove i) res) s.heap
  | findDone {tab : Tab} {b : Nat} {res : KRes} :
      specStep (absTree s b p.key) p.op = (absTree s b p.key, res) →
      Move s t p (.tFind tab b) (.tUnlockM tab b res false) s.heap
  | lrTryFail {tab : Tab} {b : Nat} {k : After} {res : KRes} :
      Move s t p (.lrTry tab b k res) (.lrLoop tab b k res) s.heap

/-- transitions of a thread with a call in flight that change the synchronisation words of one
`TreeBin` and do not complete the call: `BMove s t p pc pc' tbins'` -/
inductive BMove (s : State) (t : Nat) (p : Pending) : Pc → Pc → List TBin → Prop
  | rCasOk {b c r : Nat} : (binAt s.tbins b).writer = false → (binAt s.tbins b).waiter = false →
      (binAt s.tbins b).readers = r →
      BMove s t p (.rCas b c r) (.rTree b) (s.tbins.modify b (fun x => { x with readers := x.readers + 1 }))
  | rRelVal {b i : Nat} : p.op ≠ .has →
      BMove s t p (.rRelease b (some i)) (.rVal i) (s.tbins.modify b (fun x => { x with readers := x.readers - 1 }))
  | tMutex {tab : Tab} {b : Nat} : (binAt s.tbins b).mutex = none →
      BMove s t p (.tMutex tab b) (.tCheck tab b) (s.tbins.modify b (fun x => { x with mutex := some t }))
  | lrTryOk {tab : Tab} {b : Nat} {k : After} {res : KRes} : (binAt s.tbins b).writer = false →
      (binAt s.tbins b).waiter = false → (binAt s.tbins b).readers = 0 →
      BMove s t p (.lrTry tab b k res) (afterLock tab b k res) (s.tbins.modify b (fun x => { x with writer := true }))
  | lrLoopOk {tab : Tab} {b : Nat} {k : After} {res : KRes} : (binAt s.tbins b).writer = false →
      (binAt s.tbins b).readers = 0 →
      BMove s t p (.lrLoop tab b k res) (afterLock tab b k res)
        (s.tbins.modify b (fun x => { x with writer := true, waiter := false }))
  | lrLoopWait {tab : Tab} {b : Nat} {k : After} {res : KRes} : (binAt s.tbins b).waiter = false →
      BMove s t p (.lrLoop tab b k res) (.lrLoop tab b k res) (s.tbins.modify b (fun x => { x with waiter := true }))
  | unlockRoot {tab : Tab} {b : Nat} {res : KRes} :
      BMove s t p (.tUnlockRoot tab b res) (.tUnlockM tab b res false)
        (s.tbins.modify b (fun x => { x with writer := false, waiter := false }))
  | tUnlockMRetry {tab : Tab} {b : Nat} {res : KRes} :
      BMove s t p (.tUnlockM tab b res true) (.wCell tab) (s.tbins.modify b (fun x => { x with mutex := none }))

/-- calls that complete without a store: `Fin s p pc res heap'` -/
inductive Fin (s : State) (p : Pending) : Pc → KRes → List NodeS → Prop
  | rCellEmpty {lo : Bool} {tab : Tab} : cellOf s tab p.key = .empty →
      Fin s p (.rCell lo tab) (absentRes p.op) s.heap
  | rNodeMiss : Fin s p (.rNode none) (absentRes p.op) s.heap
  | rNodeHit {c : Nat} {n : NodeS} : s.heap[c]? = some n → n.key = p.key →
      Fin s p (.rNode (some c)) (match p.op with | .has => .bool true | _ => .some n.val.1 n.val.2) s.heap
  | rMiss {b : Nat} : Fin s p (.rState b none) (absentRes p.op) s.heap
  | rLinHas {b c : Nat} {n : NodeS} : s.heap[c]? = some n → n.key = p.key → p.op = .has →
      Fin s p (.rLin b c) (.bool true) s.heap
  | rVal {i : Nat} {n : NodeS} : s.heap[i]? = some n → Fin s p (.rVal i) (.some n.val.1 n.val.2) s.heap
  | lMiss : Fin s p (.lNode none) (absentRes p.op) s.heap
  | lHas {c : Nat} {n : NodeS} : s.heap[c]? = some n → n.key = p.key → p.op = .has →
      Fin s p (.lNode (some c)) (.bool true) s.heap
  | wCellEmpty {tab : Tab} : cellOf s tab p.key = .empty → isInsert p.op = false →
      Fin s p (.wCell tab) .none s.heap
  | wUnlockFin {tab : Tab} {h : Nat} {res : KRes} :
      Fin s p (.wUnlock tab h res false) res (lockSet s.heap h none)

/-- calls that complete with a change of the synchronisation words of one `TreeBin`:
`BFin s p pc res tbins'` -/
inductive BFin (s : State) (p : Pending) : Pc → KRes → List TBin → Prop
  | rRelNone {b : Nat} : BFin s p (.rRelease b none) (absentRes p.op)
      (s.tbins.modify b (fun x => { x with readers := x.readers - 1 }))
  | rRelHas {b i : Nat} : p.op = .has → BFin s p (.rRelease b (some i)) (.bool true)
      (s.tbins.modify b (fun x => { x with readers := x.readers - 1 }))
  | tUnlockMFin {tab : Tab} {b : Nat} {res : KRes} : BFin s p (.tUnlockM tab b res false) res
      (s.tbins.modify b (fun x => { x with mutex := none }))

/-- transitions of the treeify thread and of the resizing thread that change at most one lock word
of a node: `KMove s t pc pc' heap'` -/
inductive KMove (s : State) (t : Nat) : Pc → Pc → List NodeS → Prop
  | kTable {k : Nat} : KMove s t (.kTable k) (.kCell s.cur k) s.heap
  | kCellList {tab : Tab} {k h : Nat} : cellOf s tab k = .list h →
      KMove s t (.kCell tab k) (.kLock tab k h) s.heap
  | kCellMoved {tab : Tab} {k : Nat} : cellOf s tab k = .moved → KMove s t (.kCell tab k) (.kCell .new k) s.heap
  | kCellOther {tab : Tab} {k : Nat} : (∀ h, cellOf s tab k ≠ .list h) → cellOf s tab k ≠ .moved →
      KMove s t (.kCell tab k) .idle s.heap
  | kLock {tab : Tab} {k h : Nat} {n : NodeS} : s.heap[h]? = some n → n.lock = none →
      KMove s t (.kLock tab k h) (.kCheck tab k h) (lockSet s.heap h (some t))
  | kCheckOk {tab : Tab} {k h : Nat} : cellOf s tab k = .list h →
      KMove s t (.kCheck tab k h) (.kBuild tab k h) s.heap
  | kCheckFail {tab : Tab} {k h : Nat} : cellOf s tab k ≠ .list h →
      KMove s t (.kCheck tab k h) (.kUnlock h) s.heap
  | kUnlock {h : Nat} : KMove s t (.kUnlock h) .idle (lockSet s.heap h none)
  | xCellEmpty : s.cell0 = .empty → KMove s t .xCell .xCasMoved s.heap
  | xCellList {h : Nat} : s.cell0 = .list h → KMove s t .xCell (.xLock h) s.heap
  | xCellTree {b : Nat} : s.cell0 = .tree b → KMove s t .xCell (.yMutex b) s.heap
  | xCellMoved : s.cell0 = .moved → KMove s t .xCell .xCommit s.heap
  | xCasFail : s.cell0 ≠ .empty → KMove s t .xCasMoved .xCell s.heap
  | xLock {h : Nat} {n : NodeS} : s.heap[h]? = some n → n.lock = none →
      KMove s t (.xLock h) (.xCheck h) (lockSet s.heap h (some t))
  | xCheckOk {h : Nat} : s.cell0 = .list h → KMove s t (.xCheck h) (.xBuild h) s.heap
  | xCheckFail {h : Nat} : s.cell0 ≠ .list h → KMove s t (.xCheck h) .xCell (lockSet s.heap h none)
  | yCheckOk {b : Nat} : s.cell0 = .tree b → KMove s t (.yCheck b) (.yBuild b) s.heap
  | xUnlockL {h : Nat} : KMove s t (.xUnlock (.inl h)) .xCommit (lockSet s.heap h none)

/-- transitions of the resizing thread that change the mutex of one `TreeBin`:
`KBMove s t pc pc' tbins'` -/
inductive KBMove (s : State) (t : Nat) : Pc → Pc → List TBin → Prop
  | yMutex {b : Nat} : (binAt s.tbins b).mutex = none →
      KBMove s t (.yMutex b) (.yCheck b) (s.tbins.modify b (fun x => { x with mutex := some t }))
  | yCheckFail {b : Nat} : s.cell0 ≠ .tree b →
      KBMove s t (.yCheck b) .xCell (s.tbins.modify b (fun x => { x with mutex := none }))
  | xUnlockT {b : Nat} : KBMove s t (.xUnlock (.inr b)) .xCommit (s.tbins.modify b (fun x => { x with mutex := none }))

/-- the state after the copy made by `kBuild` -/
def buildOf (s : State) (h : Nat) : State :=
  { s with
    heap := (copyChain s.heap (chainFrom s.heap s.heap.length (some h))
      (fun src nx => ⟨src.key, src.val, nx, none, true, some s.tbins.length⟩)).1,
    tbins := s.tbins ++ [{ first := (copyChain s.heap (chainFrom s.heap s.heap.length (some h))
      (fun src nx => ⟨src.key, src.val, nx, none, true, some s.tbins.length⟩)).2 }] }

/-- the state after the copy and store of `tUntreeify` -/
def untreeifyOf (s : State) (tab : Tab) (k b : Nat) : State :=
  setCell { s with
    heap := (copyChain s.heap (chainOfBin s b) (fun src nx => ⟨src.key, src.val, nx, none, false, none⟩)).1 }
    tab k (cellOfHead (copyChain s.heap (chainOfBin s b) (fun src nx => ⟨src.key, src.val, nx, none, false, none⟩)).2)

/-- the list split of `xBuild`: new heap, planned low cell, planned high cell -/
def xsplitOf (s : State) (h : Nat) : List NodeS × Cell × Cell :=
  let r := splitBin s.heap (chainFrom s.heap s.heap.length (some h))
  (r.1, cellOfHead r.2.1, cellOfHead r.2.2)

/-- the low nodes / the high nodes of the list of tree bin `b` -/
def lowOf (s : State) (b : Nat) : List Nat := (chainOfBin s b).filter fun i => !hiBit (s.heap.getD i dflt).key
def highOf (s : State) (b : Nat) : List Nat := (chainOfBin s b).filter fun i => hiBit (s.heap.getD i dflt).key

/-- the tree split of `yBuild`: the state after both sides, planned low cell, planned high cell -/
def ysplitOf (s : State) (b : Nat) (small small2 : Bool) : State × Cell × Cell :=
  let r1 := splitSide s b (lowOf s b) small (highOf s b).isEmpty
  let r2 := splitSide r1.1 b (highOf s b) small2 (lowOf s b).isEmpty
  (r2.1, r1.2, r2.2)

inductive StepN (s : State) (t : Nat) (l : Local) : State → Prop
  | idle : l.pc = .idle → StepN s t l (setT (tick s) t l)
  | maint (k : Nat) : l.pc = .idle → StepN s t l (setT (tick s) t { l with pc := .kTable k })
  | resizeStart : l.pc = .idle → s.resizing = false →
      StepN s t l { (setT (tick s) t { l with pc := .xCell }) with resizing := true }
  | invoke (k : Nat) (op : KOp) (lo : Bool) : l.pc = .idle →
      StepN s t l (setT (tick s) t
        { pc := if isReader op then .rTable lo else .wTable, call := some ⟨k, op, s.now + 1⟩ })
  | move (p : Pending) (pc' : Pc) (hp : List NodeS) : l.call = some p →
      Move s t p l.pc pc' hp → StepN s t l (setT (qst s hp s.tbins) t { l with pc := pc' })
  | bmove (p : Pending) (pc' : Pc) (tb : List TBin) : l.call = some p →
      BMove s t p l.pc pc' tb → StepN s t l (setT (qst s s.heap tb) t { l with pc := pc' })
  | kmove (pc' : Pc) (hp : List NodeS) : l.call = none →
      KMove s t l.pc pc' hp → StepN s t l (setT (qst s hp s.tbins) t { l with pc := pc' })
  | kbmove (pc' : Pc) (tb : List TBin) : l.call = none →
      KBMove s t l.pc pc' tb → StepN s t l (setT (qst s s.heap tb) t { l with pc := pc' })
  | fin (p : Pending) (res : KRes) (hp : List NodeS) : l.call = some p →
      Fin s p l.pc res hp → StepN s t l (finish (qst s hp s.tbins) t p res)
  | bfin (p : Pending) (res : KRes) (tb : List TBin) : l.call = some p →
      BFin s p l.pc res tb → StepN s t l (finish (qst s s.heap tb) t p res)
  | cas (p : Pending) (tab : Tab) (v vi : Nat) : l.call = some p → l.pc = .wCas tab →
      cellOf s tab p.key = .empty → (p.op = .ins v vi ∨ p.op = .tryIns v vi) →
      StepN s t l (finish (setCell (qst s (s.heap ++ [⟨p.key, (v, vi), none, none, false, none⟩]) s.tbins)
        tab p.key (.list s.heap.length)) t p .none)
  | store (p : Pending) (tab : Tab) (h : Nat) (pred hit hnext : Option Nat) : l.call = some p →
      l.pc = .wStore tab h pred hit hnext →
      StepN s t l (setT (storeAt (tick s) tab p pred hit hnext).1 t
        { l with pc := .wUnlock tab h (storeAt (tick s) tab p pred hit hnext).2 false })
  | tval (p : Pending) (tab : Tab) (b i : Nat) (v : Nat × Nat) (res : KRes) : l.call = some p →
      l.pc = .tVal tab b i v res →
      StepN s t l (setT (setNode (tick s) i (fun n => { n with val := v })) t { l with pc := .tUnlockM tab b res false })
  | prepend (p : Pending) (tab : Tab) (b v vi : Nat) : l.call = some p → l.pc = .tPrependLocked tab b →
      (p.op = .ins v vi ∨ p.op = .tryIns v vi) →
      StepN s t l (setT
        (setBin (qst s (s.heap ++ [⟨p.key, (v, vi), (binAt s.tbins b).first, none, false, some b⟩]) s.tbins)
          b (fun y => { y with first := some s.heap.length })) t
        { l with pc := .tTreeLinkLocked tab b s.heap.length })
  | treeLink (p : Pending) (tab : Tab) (b x : Nat) : l.call = some p → l.pc = .tTreeLinkLocked tab b x →
      StepN s t l (setT (setNode (tick s) x (fun n => { n with inTree := true })) t
        { l with pc := .tUnlockRoot tab b .none })
  | unlink (p : Pending) (tab : Tab) (b i : Nat) (res : KRes) (small : Bool) : l.call = some p →
      l.pc = .tUnlinkLocked tab b i res →
      StepN s t l (setT (unlinkOf (tick s) b i) t
        { l with pc := if small then .tUntreeify tab b res else .tRestructure tab b i res })
  | untree (p : Pending) (tab : Tab) (b i : Nat) (res : KRes) : l.call = some p → l.pc = .tRestructure tab b i res →
      StepN s t l (setT (setNode (tick s) i (fun n => { n with inTree := false })) t
        { l with pc := .tUnlockRoot tab b res })
  | untreeify (p : Pending) (tab : Tab) (b : Nat) (res : KRes) : l.call = some p → l.pc = .tUntreeify tab b res →
      StepN s t l (setT (untreeifyOf (tick s) tab p.key b) t { l with pc := .tUnlockM tab b res false })
  | kbuild (tab : Tab) (k h : Nat) : l.call = none → l.pc = .kBuild tab k h →
      StepN s t l (setT (buildOf (tick s) h) t { l with pc := .kStore tab k h s.tbins.length })
  | kstore (tab : Tab) (k h b : Nat) : l.call = none → l.pc = .kStore tab k h b →
      StepN s t l (setT (setCell (tick s) tab k (.tree b)) t { l with pc := .kUnlock h })
  | xcasMoved : l.call = none → l.pc = .xCasMoved → s.cell0 = .empty →
      StepN s t l { (setT (tick s) t { l with pc := .xCommit }) with cell0 := .moved }
  | xbuild (h : Nat) : l.call = none → l.pc = .xBuild h →
      StepN s t l (setT (qst s (xsplitOf s h).1 s.tbins) t
        { l with pc := .xStoreLow (.inl h) (xsplitOf s h).2.1 (xsplitOf s h).2.2 })
  | ybuild (b : Nat) (small small2 : Bool) : l.call = none → l.pc = .yBuild b →
      StepN s t l (setT (ysplitOf (tick s) b small small2).1 t
        { l with pc := .xStoreLow (.inr b) (ysplitOf (tick s) b small small2).2.1 (ysplitOf (tick s) b small small2).2.2 })
  | xstoreLow (unl : Nat ⊕ Nat) (lo hi : Cell) : l.call = none → l.pc = .xStoreLow unl lo hi →
      StepN s t l { (setT (tick s) t { l with pc := .xStoreHigh unl hi }) with lowCell := lo }
  | xstoreHigh (unl : Nat ⊕ Nat) (hi : Cell) : l.call = none → l.pc = .xStoreHigh unl hi →
      StepN s t l { (setT (tick s) t { l with pc := .xStoreMoved unl }) with highCell := hi }
  | xstoreMoved (unl : Nat ⊕ Nat) : l.call = none → l.pc = .xStoreMoved unl →
      StepN s t l { (setT (tick s) t { l with pc := .xUnlock unl }) with cell0 := .moved }
  | xcommit : l.call = none → l.pc = .xCommit →
      StepN s t l { (setT (tick s) t { l with pc := .idle }) with cur := .new }

end Flurry.Proto.BinG
