import Flurry.Lemmas.TableGNL
import Flurry.Lemmas.TableGNExamples
/-! # Proto/TableGN, C05 / C11 / C12 at table level: concrete instances

The run of `Lemmas/TableGNExamples.lean` (two lineages, two threads; lineage 0: keys 0, 2, 4, 6, a tree bin that is
transferred by a resize; lineage 1: keys 1, 3, still at generation 0).

* `example_end`: its end — reachable, quiescent; the iterator over the table yields the keys 0, 4 | 2, 6 (lineage 0,
  cells `(1, 0)` = `TreeBin` 1 and `(1, 1)` = a list: local keys 0, 2 | 1, 3) and nothing in lineage 1;
* `example_busy`: its middle (`exBefore ++ exResizeA`) — thread 0 is in the middle of the transfer of the tree bin of
  lineage 0 (`xUnlock`, holding the mutex of the old `TreeBin`), thread 1 is a reader inside that old `TreeBin`
  (`rTree 0`, holding its read lock); not quiescent; the entries on the live lists are the abstract map;
* `example_busy_solo`: from there the reader, running alone, returns `get 2 = some (20, 200)` in 3 table steps, while
  lineage 1 only ticks (clock 50 → 53). -/
namespace Flurry.Proto.TableGNL
open Flurry.Lin Flurry.LinMap Flurry.Proto.TableGN

/-- the middle of the run: a resize of lineage 0 in progress, a reader inside the old `TreeBin` -/
def busyState : Option State := run (init 2 2) (exBefore ++ exResizeA)

def exBusyCheck : Bool :=
  busyState.any fun S =>
    pcs S == [[.xUnlock (.inr 0), .rTree 0], [.idle, .idle]] &&
      entries S == [(0, (10, 100)), (4, (40, 400)), (2, (20, 200)), (1, (11, 101))] &&
      (List.range 8).map (absMap S) ==
        [some (10, 100), some (11, 101), some (20, 200), none, some (40, 400), none, none, none] &&
      (S.bins[0]?).map (fun b => (b.threads[1]?, BinGNP.soloBound b)) ==
        some (some { pc := .rTree 0, call := some ⟨1, .get, 36⟩ }, 48)

/-- running alone from `busyState`, the reader (thread 1, lineage 0) returns `get 2 = some (20, 200)` in 3 steps — the
call is recorded in the lineage under the local key `1` — while the resizing thread stays at `xUnlock` and lineage 1
only ticks (clock 50 → 53) -/
def exSoloCheck : Bool :=
  (busyState.bind fun S => (runSolo 0 1 false false 3 S).map fun S' =>
      ((S'.bins[0]?).map (fun b => (b.threads.map (·.pc), b.hist.head?)),
        (S.bins[1]?).map (fun b => (b.threads.map (·.pc), b.now)),
        (S'.bins[1]?).map (fun b => (b.threads.map (·.pc), b.now)))) ==
    some (some ([.xUnlock (.inr 0), .idle], some (1, { tid := 1, op := .get, res := .some 20 200, inv := 36, resp := 53 })),
      some ([.idle, .idle], 50), some ([.idle, .idle], 53))

def exEndCheck : Bool :=
  (run (init 2 2) exSchedule).any fun S =>
    S.bins.all (fun b => b.threads.all (fun l => l.pc == .idle)) &&
      entries S == [(0, (10, 100)), (4, (40, 400)), (2, (20, 200)), (6, (60, 600))] &&
      S.bins.map BinGNQ.liveCells == [[.tree 1, .list 8], [.empty]] &&
      (List.range 8).map (absMap S) == exAbs

/-- the middle of the run, the solo run from there and the end of the run -/
theorem exRunL : (exBusyCheck && exSoloCheck && exEndCheck) = true := by decide +kernel

theorem example_end : ∃ S : State, Reachable 2 2 S ∧ quiescent S ∧
    entries S = [(0, (10, 100)), (4, (40, 400)), (2, (20, 200)), (6, (60, 600))] ∧
    S.bins.map BinGNQ.liveCells = [[.tree 1, .list 8], [.empty]] ∧ (List.range 8).map (absMap S) = exAbs := by
  have h := exRunL
  simp only [Bool.and_eq_true] at h
  obtain ⟨S, hrun, h⟩ := (Option.any_eq_true _ _).1 h.2
  simp only [Bool.and_eq_true, List.all_eq_true, beq_iff_eq] at h
  obtain ⟨⟨⟨hq, he⟩, hl⟩, ha⟩ := h
  exact ⟨S, run_reachable exSchedule Reachable.init hrun, fun b hb l hl => hq b hb l hl, he, hl, ha⟩

theorem example_busy : ∃ S : State, busyState = some S ∧ Reachable 2 2 S ∧
    pcs S = [[.xUnlock (.inr 0), .rTree 0], [.idle, .idle]] ∧
    entries S = [(0, (10, 100)), (4, (40, 400)), (2, (20, 200)), (1, (11, 101))] ∧
    (List.range 8).map (absMap S) =
      [some (10, 100), some (11, 101), some (20, 200), none, some (40, 400), none, none, none] ∧
    (S.bins[0]?).map (fun b => (b.threads[1]?, BinGNP.soloBound b)) =
      some (some { pc := .rTree 0, call := some ⟨1, .get, 36⟩ }, 48) := by
  have h := exRunL
  simp only [Bool.and_eq_true] at h
  obtain ⟨S, hrun, h⟩ := (Option.any_eq_true _ _).1 h.1.1
  simp only [Bool.and_eq_true, beq_iff_eq] at h
  obtain ⟨⟨⟨hp, he⟩, ha⟩, hb⟩ := h
  exact ⟨S, hrun, run_reachable _ Reachable.init hrun, hp, he, ha, hb⟩

theorem example_busy_solo : exSoloCheck = true := by
  have h := exRunL
  simp only [Bool.and_eq_true] at h
  exact h.1.2

end Flurry.Proto.TableGNL
