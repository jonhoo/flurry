import Flurry.Lemmas.BinGNPInv
import Flurry.Lemmas.BinGHeapFrame
import Flurry.Lemmas.BinGNGenDefs
/-! # Proto/BinGN: the structural invariant — basic lemmas

`TInv` after a step of one thread (`tinv_step`); how the classifications of program counters imply each other;
`LInv.valid_unique`. A store into a cell that does not exist is a no-op, hence the existence hypotheses of `cellAt_putCell`,
`cellAt_setCell` (`XInv.cellAt_putCell`, `XInv.cellAt_setCell` take them from `XInv`); `liveCell_eq`: a lookup follows at most
one marker.

**Which relation between a state and its successor to reach for.**
* `QuietC s s'`: every cell READS the same, the heap is the same but for lock words, the `TreeBin` table but for
  synchronisation words; nothing is said of `tabs` and `cur`. It covers `Move`, `KMove`, `Fin`, idle, maint, invoke, the steps
  on the synchronisation words of one `TreeBin`, `resizeStart` (a generation of empty cells is appended) and `xCommit`; what
  such a step preserves is proved for it. `QuietC.hinv` needs `Reusing` to be preserved (`HInv.binsDistinct` mentions the
  threads).
* `Quiet s s'` is `QuietC` with `tabs` and `cur` unchanged (`Quiet.toC`). `BStep.quiet` produces it; its lemmas are the
  `QuietC` ones at `q.toC`, and the proofs use `Quiet.cellAt_eq` and `Quiet.toC` only (`Quiet.cellOf_eq` … `Quiet.used_of` here,
  `Quiet.LC_eq'`, `Quiet.abs_eq'`, `XPc.quiet` in `Lemmas/BinGNPInvQ.lean` have no user): reach for `QuietC`.
* `SameC s s' C` is about ONE structure `C` (the list of `C`, the data of its nodes, the nodes its `TreeBin` owns read the
  same). The assertions of the program counters and the list = tree clauses of `DInv` are preserved under it (`PcInv.frame`,
  `CopyOK.frame`, `Plan.frame`, `XPc.frame`, `listTree_frame`); every kind of step gives it for the structures it leaves alone:
  `QuietC.sameC` (all), `Ext.sameC` (all that exist), `Touch.sameC` (those that share nothing with the cell written).
* `Touch s s' id` (`Lemmas/BinGNPStore.lean`): heap and `TreeBin` table change inside the structure of cell `id` only; the
  stores of a writer or of the treeify thread into a cell for which `Writable s id` holds. `Ext s s'` (same file): nodes and
  `TreeBin`s are appended, nothing that exists changes (`kBuild`, `xBuild`, `yBuild`).
* `BStep` (`Lemmas/BinGNPInvQB.lean`) and `TStep` (`Lemmas/BinGNPFactsX.lean`) are not frames but the SHAPE of the successor
  for one class of transitions (which fields of the state change at all): a step on the synchronisation words of a `TreeBin`,
  a step of the resizing thread. `BinGN.Grows` (`Lemmas/BinGNStepTools.lean`) plays that role for the generation invariants. -/
namespace Flurry.Proto.BinGNP
open Flurry.Lin Flurry.Proto.BinGS
open Flurry.Proto.BinK (nodeAt binAt NextOK IsChain IsSeg chainOf CInv absL HeapEqv get_set get_set_self get_set_ne)
open Flurry.Proto.BinG (cinv_frame)
open Flurry.Proto.BinG.Store (owner_ge)

export Flurry.Proto.BinGN (liveFrom_of_not_moved liveFrom_of_moved liveFrom_congr liveCell_congr)
export Flurry.Shared (mod_lt_pow)

theorem cnt_pos_of {q : Pc → Bool} {ls : List Local} {i : Nat} {l : Local} (h : ls[i]? = some l)
    (hq : q l.pc = true) : 1 ≤ cnt q ls := by
  unfold cnt
  have hm : l ∈ ls.filter (fun l => q l.pc) :=
    List.mem_filter.mpr ⟨List.mem_iff_getElem?.mpr ⟨i, h⟩, hq⟩
  exact List.length_pos_of_mem hm

/-- `TInv` after a step of thread `t`: the clock advances; the call of `t`, if it has one afterwards, is the one it had
or one invoked now; the history is unchanged, or the call of `t` has completed into it -/
theorem tinv_step {s s' : State} {t : Nat} {l l' : Local} (T : TInv s)
    (hl : s.threads[t]? = some l) (hthr : s'.threads = s.threads.set t l') (hnow : s'.now = s.now + 1)
    (hcallOK : l'.call = none ↔ noCallPc l'.pc = true)
    (hpc : ∀ p, l'.call = some p → PcOp l'.pc p.op)
    (hcall : ∀ p, l'.call = some p → l.call = some p ∨ p.inv = s.now + 1)
    (hhist : s'.hist = s.hist ∨ ∃ p res, l.call = some p ∧ l'.call = none ∧
      s'.hist = (p.key, ⟨t, p.op, res, p.inv, s.now + 1⟩) :: s.hist) : TInv s' := by
  have hc : ∀ (t1 : Nat) (l1 : Local), s'.threads[t1]? = some l1 → (l1.call = none ↔ noCallPc l1.pc = true) := by
    intro t1 l1 h1
    rw [hthr] at h1
    rcases get_set h1 with ⟨rfl, rfl⟩ | ⟨_, h1⟩
    · exact hcallOK
    · exact T.callOK t1 l1 h1
  rcases hhist with h | ⟨p, res, hp, hn, h⟩
  · exact .of_gen (T.gen.step (hnew := []) hl hthr hnow h hpc hcall (fun _ hx => nomatch hx)) hc
  · refine .of_gen (T.gen.step (hnew := [(p.key, (⟨t, p.op, res, p.inv, s.now + 1⟩ : Call))]) hl hthr hnow h hpc hcall ?_) hc
    intro x hx
    cases List.mem_singleton.1 hx
    exact ⟨rfl, hn, rfl, p, hp, rfl⟩

theorem tinv_keep {s s' : State} {t : Nat} {l l' : Local} (T : TInv s)
    (hl : s.threads[t]? = some l) (hthr : s'.threads = s.threads.set t l') (hnow : s'.now = s.now + 1)
    (hhist : s'.hist = s.hist) (hcall : l'.call = l.call)
    (hcallOK : l'.call = none ↔ noCallPc l'.pc = true)
    (hpc : ∀ p, l.call = some p → PcOp l'.pc p.op) : TInv s' :=
  tinv_step T hl hthr hnow hcallOK (fun p hp => hpc p (hcall ▸ hp)) (fun _ hp => Or.inl (hcall ▸ hp)) (Or.inl hhist)

theorem tinv_keep_none {s s' : State} {t : Nat} {l l' : Local} (T : TInv s)
    (hl : s.threads[t]? = some l) (hthr : s'.threads = s.threads.set t l') (hnow : s'.now = s.now + 1)
    (hhist : s'.hist = s.hist) (hcall : l'.call = l.call) (hc : l.call = none) (hno : noCallPc l'.pc = true) :
    TInv s' :=
  tinv_keep T hl hthr hnow hhist hcall (by rw [hcall, hc, hno]; exact ⟨fun _ => rfl, fun _ => rfl⟩)
    (fun _ hp => by rw [hc] at hp; cases hp)

theorem tinv_invoke {s s' : State} {t : Nat} {l l' : Local} {k : Nat} {op : KOp} (T : TInv s)
    (hl : s.threads[t]? = some l) (hthr : s'.threads = s.threads.set t l') (hnow : s'.now = s.now + 1)
    (hhist : s'.hist = s.hist) (hcall : l'.call = some ⟨k, op, s.now + 1⟩)
    (hno : noCallPc l'.pc = false)
    (hpc : PcOp l'.pc op) : TInv s' :=
  tinv_step T hl hthr hnow (by rw [hcall, hno]; simp) (fun p hp => by rw [hcall] at hp; cases hp; exact hpc)
    (fun p hp => by rw [hcall] at hp; cases hp; exact Or.inr rfl) (Or.inl hhist)

theorem tinv_finish {s s' : State} {t : Nat} {l l' : Local} {p : Pending} {res : KRes} (T : TInv s)
    (hl : s.threads[t]? = some l) (hp : l.call = some p)
    (hthr : s'.threads = s.threads.set t l') (hnow : s'.now = s.now + 1)
    (hhist : s'.hist = (p.key, ⟨t, p.op, res, p.inv, s.now + 1⟩) :: s.hist) (hcall : l'.call = none)
    (hno : noCallPc l'.pc = true) :
    TInv s' :=
  tinv_step T hl hthr hnow (by rw [hcall, hno]; simp) (fun p' hp' => by rw [hcall] at hp'; cases hp')
    (fun p' hp' => by rw [hcall] at hp'; cases hp') (Or.inr ⟨p, res, hp, hcall, hhist⟩)

theorem holdsLock_of_validL {pc : Pc} {h : Nat} (hv : validL pc = some h) : holdsLock pc = some h := by
  cases pc <;> first | exact hv | cases hv

theorem holdsMutex_of_validT {pc : Pc} {b : Nat} (hv : validT pc = some b) : holdsMutex pc = some b := by
  cases pc <;> first | exact hv | cases hv

theorem holdsMutex_of_wr {pc : Pc} (hw : wr pc = true) : ∃ b, validT pc = some b := by
  cases pc <;> cases hw <;> exact ⟨_, rfl⟩

theorem binRef_of_holdsMutex {pc : Pc} {b : Nat} (h : holdsMutex pc = some b) : binRef pc = some b := by
  cases pc <;> first | exact h | cases h

theorem binRef_of_holdsRead {pc : Pc} {b : Nat} (h : holdsRead pc = some b) : binRef pc = some b := by
  cases pc <;> first | exact h | cases h

theorem validated_of_validL {pc : Pc} {h : Nat} (hv : validL pc = some h) : validated pc = true := by
  unfold validated; rw [hv]; rfl

theorem validated_of_validT {pc : Pc} {b : Nat} (hv : validT pc = some b) : validated pc = true := by
  unfold validated; rw [hv]; simp

theorem validated_cases {pc : Pc} (h : validated pc = true) : (∃ a, validL pc = some a) ∨ (∃ b, validT pc = some b) := by
  unfold validated at h
  cases hv : validL pc with
  | some a => exact Or.inl ⟨a, rfl⟩
  | none =>
    cases hw : validT pc with
    | some b => exact Or.inr ⟨b, rfl⟩
    | none => rw [hv, hw] at h; cases h

theorem not_validated {pc : Pc} (h : validated pc = false) : validL pc = none ∧ validT pc = none := by
  unfold validated at h
  cases h2 : validL pc <;> cases h3 : validT pc <;> simp [h2, h3] at h ⊢

theorem afterLock_holdsMutex (tab : Nat) (b : Nat) (k : After) (res : KRes) :
    holdsMutex (afterLock tab b k res) = some b := by
  cases k <;> rfl

theorem afterLock_wr (tab : Nat) (b : Nat) (k : After) (res : KRes) : wr (afterLock tab b k res) = true := by
  cases k <;> rfl

theorem afterLock_validT (tab : Nat) (b : Nat) (k : After) (res : KRes) :
    validT (afterLock tab b k res) = some b := by
  cases k <;> rfl

theorem afterLock_binRef (tab : Nat) (b : Nat) (k : After) (res : KRes) :
    binRef (afterLock tab b k res) = some b := by
  cases k <;> rfl

theorem afterLock_holdsLock (tab : Nat) (b : Nat) (k : After) (res : KRes) :
    holdsLock (afterLock tab b k res) = none := by
  cases k <;> rfl

theorem afterLock_validL (tab : Nat) (b : Nat) (k : After) (res : KRes) :
    validL (afterLock tab b k res) = none := by
  cases k <;> rfl

theorem afterLock_holdsRead (tab : Nat) (b : Nat) (k : After) (res : KRes) :
    holdsRead (afterLock tab b k res) = none := by
  cases k <;> rfl

theorem afterLock_tabOf (tab : Nat) (b : Nat) (k : After) (res : KRes) :
    tabOf (afterLock tab b k res) = some tab := by
  cases k <;> rfl

theorem afterLock_pend (s : State) (tab : Nat) (b : Nat) (k : After) (res : KRes) :
    pend s (afterLock tab b k res) = [] := by
  cases k <;> rfl

theorem afterLock_xPc (tab : Nat) (b : Nat) (k : After) (res : KRes) : xPc (afterLock tab b k res) = false := by
  cases k <;> rfl

theorem afterLock_kPc (tab : Nat) (b : Nat) (k : After) (res : KRes) : kPc (afterLock tab b k res) = false := by
  cases k <;> rfl

theorem afterLock_readerPc (tab : Nat) (b : Nat) (k : After) (res : KRes) :
    readerPc (afterLock tab b k res) = false := by
  cases k <;> rfl

theorem afterLock_noCallPc (tab : Nat) (b : Nat) (k : After) (res : KRes) :
    noCallPc (afterLock tab b k res) = false := by
  cases k <;> rfl

theorem afterLock_isLoop (tab : Nat) (b : Nat) (k : After) (res : KRes) :
    isLoop (afterLock tab b k res) = false := by
  cases k <;> rfl

/-- a thread that keeps its call and moves to `afterLock` works in the same cell as at a program
counter of table `tab` -/
theorem afterLock_cidOf (s : State) (tab : Nat) (b : Nat) (k : After) (res : KRes) (p : Pending) :
    cidOf s { pc := afterLock tab b k res, call := some p } = idOf tab p.key := by
  cases k <;> rfl

theorem cellAt_def (s : State) (id : Cid) : cellAt s id = ((s.tabs[id.1]?).getD [])[id.2]?.getD .empty := by
  unfold cellAt Flurry.Proto.BinGN.cellAt
  rw [List.getD_eq_getElem?_getD, List.getD_eq_getElem?_getD]

theorem putCell_tabs (s : State) (g j : Nat) (c : Cell) :
    (putCell s g j c).tabs = s.tabs.modify g (fun row => row.set j c) := rfl

theorem cellAt_putCell_ne (s : State) {g j : Nat} (c : Cell) {id : Cid} (h : id ≠ (g, j)) :
    cellAt (putCell s g j c) id = cellAt s id := by
  obtain ⟨g', j'⟩ := id
  exact Flurry.Proto.BinGN.cellT_put_ne s.tabs c (fun e => h (Prod.ext e.1 e.2))

theorem cellAt_putCell_self (s : State) {g j : Nat} {row : List Cell} (c : Cell)
    (hr : s.tabs[g]? = some row) (hj : j < row.length) : cellAt (putCell s g j c) (g, j) = c :=
  Flurry.Proto.BinGN.cellT_put_self_eq s.tabs c hr hj

/-- a store into a cell that does not exist is a no-op -/
theorem cellAt_putCell_self_or (s : State) (g j : Nat) (c : Cell) :
    cellAt (putCell s g j c) (g, j) = c ∨ cellAt (putCell s g j c) (g, j) = cellAt s (g, j) :=
  Flurry.Proto.BinGN.cellT_put_self s.tabs g j c

theorem cellAt_putCell (s : State) {g j : Nat} {row : List Cell} (c : Cell)
    (hr : s.tabs[g]? = some row) (hj : j < row.length) (id : Cid) :
    cellAt (putCell s g j c) id = if id = (g, j) then c else cellAt s id := by
  by_cases h : id = (g, j)
  · rw [if_pos h, h]; exact cellAt_putCell_self s c hr hj
  · rw [if_neg h]; exact cellAt_putCell_ne s c h

theorem setCell_eq (s : State) (g k : Nat) (c : Cell) : setCell s g k c = putCell s g (k % 2 ^ g) c := rfl

theorem cellAt_setCell_ne (s : State) {g : Nat} (k : Nat) (c : Cell) {id : Cid} (h : id ≠ idOf g k) :
    cellAt (setCell s g k c) id = cellAt s id :=
  cellAt_putCell_ne s c h

theorem cellAt_setCell (s : State) {g : Nat} {row : List Cell} (k : Nat) (c : Cell)
    (hr : s.tabs[g]? = some row) (hlen : row.length = 2 ^ g) (id : Cid) :
    cellAt (setCell s g k c) id = if id = idOf g k then c else cellAt s id :=
  cellAt_putCell s c hr (by rw [hlen]; exact mod_lt_pow k g) id

theorem setCell_heap (s : State) (tab : Nat) (k : Nat) (c : Cell) : (setCell s tab k c).heap = s.heap := rfl

theorem setCell_tbins (s : State) (tab : Nat) (k : Nat) (c : Cell) : (setCell s tab k c).tbins = s.tbins := rfl

theorem setCell_threads (s : State) (tab : Nat) (k : Nat) (c : Cell) : (setCell s tab k c).threads = s.threads := rfl

theorem setCell_cur (s : State) (tab : Nat) (k : Nat) (c : Cell) : (setCell s tab k c).cur = s.cur := rfl

theorem setCell_resizing (s : State) (tab : Nat) (k : Nat) (c : Cell) : (setCell s tab k c).resizing = s.resizing := rfl

theorem putCell_heap (s : State) (g j : Nat) (c : Cell) : (putCell s g j c).heap = s.heap := rfl

theorem putCell_tbins (s : State) (g j : Nat) (c : Cell) : (putCell s g j c).tbins = s.tbins := rfl

theorem putCell_threads (s : State) (g j : Nat) (c : Cell) : (putCell s g j c).threads = s.threads := rfl

theorem putCell_cur (s : State) (g j : Nat) (c : Cell) : (putCell s g j c).cur = s.cur := rfl

theorem putCell_resizing (s : State) (g j : Nat) (c : Cell) : (putCell s g j c).resizing = s.resizing := rfl

theorem XInv.row_of_lt {s : State} (X : XInv s) {g : Nat} (hg : g < s.tabs.length) :
    ∃ row, s.tabs[g]? = some row ∧ row.length = 2 ^ g := by
  refine ⟨s.tabs[g], List.getElem?_eq_getElem hg, X.rows g _ (List.getElem?_eq_getElem hg)⟩

theorem XInv.gen_lt {s : State} (X : XInv s) {g : Nat} (hg : g ≤ s.cur) : g < s.tabs.length := by
  have := X.len; omega

theorem XInv.gen_lt_resz {s : State} (X : XInv s) (hr : s.resizing = true) {g : Nat} (hg : g ≤ s.cur + 1) :
    g < s.tabs.length := by
  have := X.len; rw [hr] at this; simp only [if_true] at this; omega

theorem XInv.cellAt_putCell {s : State} (X : XInv s) {g j : Nat} (hg : g < s.tabs.length) (hj : j < 2 ^ g)
    (c : Cell) (id : Cid) : cellAt (putCell s g j c) id = if id = (g, j) then c else cellAt s id := by
  obtain ⟨row, hr, hlen⟩ := X.row_of_lt hg
  exact BinGNP.cellAt_putCell s c hr (by rw [hlen]; exact hj) id

theorem XInv.cellAt_putCell_self {s : State} (X : XInv s) {g j : Nat} (hg : g < s.tabs.length) (hj : j < 2 ^ g)
    (c : Cell) : cellAt (putCell s g j c) (g, j) = c := by
  rw [X.cellAt_putCell hg hj, if_pos rfl]

theorem XInv.cellAt_setCell {s : State} (X : XInv s) {g : Nat} (hg : g < s.tabs.length) (k : Nat) (c : Cell)
    (id : Cid) : cellAt (setCell s g k c) id = if id = idOf g k then c else cellAt s id :=
  X.cellAt_putCell hg (mod_lt_pow k g) c id

theorem cellAt_oob {s : State} {g : Nat} (hg : s.tabs.length ≤ g) (j : Nat) : cellAt s (g, j) = .empty :=
  Flurry.Proto.BinGN.cellT_beyond hg j

/-- a lookup that starts now follows at most one forwarding marker, when no cell of the next generation is forwarded
(`XInv.newNotMoved`; stated so that it applies to a state of which `XInv` is not yet known) -/
theorem liveCell_eq' {s : State} (hn : ∀ j, cellAt s (s.cur + 1, j) ≠ .moved) (k : Nat) :
    liveCell s k = cellAt s (liveId s k) := by
  unfold liveCell liveId
  by_cases hm : cellAt s (idOf s.cur k) = .moved
  · rw [if_pos hm]
    cases hf : s.tabs.length with
    | zero =>
      rw [show cellAt s (idOf s.cur k) = .empty from cellAt_oob (hf ▸ Nat.zero_le _) _] at hm
      cases hm
    | succ f =>
      rw [liveFrom_of_moved s k f s.cur hm]
      exact liveFrom_of_not_moved s k f _ (hn _)
  · rw [if_neg hm]
    exact liveFrom_of_not_moved s k _ _ hm

theorem liveCell_eq {s : State} (X : XInv s) (k : Nat) : liveCell s k = cellAt s (liveId s k) :=
  liveCell_eq' X.newNotMoved k

/-- `liveId` reads `cur` and whether the cell of the key in generation `cur` is forwarded, nothing else -/
theorem liveId_congr {s s' : State} (hcur : s'.cur = s.cur) {k : Nat}
    (hmv : cellAt s' (idOf s.cur k) = .moved ↔ cellAt s (idOf s.cur k) = .moved) : liveId s' k = liveId s k := by
  unfold liveId
  rw [hcur]
  by_cases hm : cellAt s (idOf s.cur k) = .moved
  · rw [if_pos hm, if_pos (hmv.2 hm)]
  · rw [if_neg hm, if_neg (fun h => hm (hmv.1 h))]

theorem LInv.valid_unique {s : State} (L : LInv s) {t t' : Nat} {l l' : Local}
    (hl : s.threads[t]? = some l) (hl' : s.threads[t']? = some l')
    (h : validated l.pc = true) (h' : validated l'.pc = true) (hc : cidOf s l = cidOf s l') : t = t' := by
  rcases validated_cases h with ⟨a, hv⟩ | ⟨b, hw⟩
  · have hcell := L.vL t l a hl hv
    rcases validated_cases h' with ⟨a', hv'⟩ | ⟨b', hw'⟩
    · have hcell' := L.vL t' l' a' hl' hv'
      rw [← hc, hcell] at hcell'; cases hcell'
      have e1 := (L.lk t l a hl).1 (holdsLock_of_validL hv)
      have e2 := (L.lk t' l' a hl').1 (holdsLock_of_validL hv')
      rw [e1] at e2; exact Option.some.inj e2
    · have hcell' := L.vT t' l' b' hl' hw'
      rw [← hc, hcell] at hcell'; cases hcell'
  · have hcell := L.vT t l b hl hw
    rcases validated_cases h' with ⟨a', hv'⟩ | ⟨b', hw'⟩
    · have hcell' := L.vL t' l' a' hl' hv'
      rw [← hc, hcell] at hcell'; cases hcell'
    · have hcell' := L.vT t' l' b' hl' hw'
      rw [← hc, hcell] at hcell'; cases hcell'
      have e1 := (L.mx t l b hl).1 (holdsMutex_of_validT hw)
      have e2 := (L.mx t' l' b hl').1 (holdsMutex_of_validT hw')
      rw [e1] at e2; exact Option.some.inj e2

theorem LInv.reader_pos {s : State} (L : LInv s) {t : Nat} {l : Local} {b : Nat} (hl : s.threads[t]? = some l)
    (h : holdsRead l.pc = some b) : 1 ≤ (binAt s.tbins b).readers := by
  have hb := (L.refOK t l b hl (binRef_of_holdsRead h)).1
  rw [L.rd b hb]
  exact cnt_pos_of hl (by simp [h])

theorem LInv.lock_lt {s : State} (L : LInv s) {t : Nat} {l : Local} {h : Nat} (hl : s.threads[t]? = some l)
    (hh : holdsLock l.pc = some h) : h < s.heap.length := by
  have hlk := (L.lk t l h hl).1 hh
  apply Classical.byContradiction
  intro hn
  rw [Flurry.Proto.BinK.nodeAt_ge (Nat.le_of_not_lt hn)] at hlk
  cases hlk

theorem LInv.mutex_lt {s : State} (L : LInv s) {t : Nat} {l : Local} {b : Nat} (hl : s.threads[t]? = some l)
    (hh : holdsMutex l.pc = some b) : b < s.tbins.length :=
  (L.refOK t l b hl (binRef_of_holdsMutex hh)).1

structure Quiet (s s' : State) : Prop where
  tabs : s'.tabs = s.tabs
  cur : s'.cur = s.cur
  heap : Flurry.Proto.BinK.HeapEqv s.heap s'.heap
  tlen : s'.tbins.length = s.tbins.length
  first : ∀ b, (binAt s'.tbins b).first = (binAt s.tbins b).first

theorem Quiet.cellAt_eq {s s' : State} (q : Quiet s s') (id : Cid) : cellAt s' id = cellAt s id := by
  unfold cellAt Flurry.Proto.BinGN.cellAt
  rw [q.tabs]

/-- `Quiet` with "every cell reads the same" instead of "same tables", and without `cur`: covers a step that allocates a
generation of empty cells (`resizeStart`) or moves the table pointer (`xCommit`) -/
structure QuietC (s s' : State) : Prop where
  cells : ∀ id, cellAt s' id = cellAt s id
  heap : Flurry.Proto.BinK.HeapEqv s.heap s'.heap
  tlen : s'.tbins.length = s.tbins.length
  first : ∀ b, (binAt s'.tbins b).first = (binAt s.tbins b).first

theorem Quiet.toC {s s' : State} (q : Quiet s s') : QuietC s s' := ⟨q.cellAt_eq, q.heap, q.tlen, q.first⟩

theorem QuietC.of_same {s s' : State} (hcells : ∀ id, cellAt s' id = cellAt s id) (hheap : s'.heap = s.heap)
    (htb : s'.tbins = s.tbins) : QuietC s s' :=
  ⟨hcells, by rw [hheap]; exact HeapEqv.refl _, by rw [htb], fun _ => by rw [htb]⟩

theorem reusing_of_set {s s' : State} {t : Nat} {l l' : Local}
    (hthr : s'.threads = s.threads.set t l') (hl : s.threads[t]? = some l)
    (hpc : ∀ b j0, ((∃ hi, l.pc = .xStoreHigh j0 (.inr b) hi) ∨ l.pc = .xStoreMoved j0 (.inr b)) →
      ((∃ hi, l'.pc = .xStoreHigh j0 (.inr b) hi) ∨ l'.pc = .xStoreMoved j0 (.inr b))) :
    ∀ b j0, Reusing s b j0 → Reusing s' b j0 := by
  rintro b j0 ⟨t1, l1, h1, hr⟩
  by_cases ht : t1 = t
  · subst ht
    rw [hl] at h1; cases h1
    exact ⟨t1, l', by rw [hthr]; exact get_set_self hl, hpc b j0 hr⟩
  · exact ⟨t1, l1, by rw [hthr, get_set_ne ht]; exact h1, hr⟩

theorem reusing_of_set_pc {s s' : State} {t : Nat} {l l' : Local}
    (hthr : s'.threads = s.threads.set t l') (hl : s.threads[t]? = some l)
    (hpc : (∀ j u hi, l.pc ≠ .xStoreHigh j u hi) ∧ (∀ j u, l.pc ≠ .xStoreMoved j u)) :
    ∀ b j0, Reusing s b j0 → Reusing s' b j0 := by
  refine reusing_of_set hthr hl ?_
  rintro b j0 (⟨hi, h⟩ | h)
  · exact absurd h (hpc.1 _ _ _)
  · exact absurd h (hpc.2 _ _)

theorem reusing_of_threads {s s' : State} (hthr : s'.threads = s.threads) :
    ∀ b j0, Reusing s b j0 → Reusing s' b j0 := by
  rintro b j0 ⟨t1, l1, h1, hr⟩
  exact ⟨t1, l1, by rw [hthr]; exact h1, hr⟩

theorem treeFind_def (s : State) (b k : Nat) :
    treeFind s b k = (List.range s.heap.length).find? fun i =>
      (nodeAt s.heap i).owner == some b && (nodeAt s.heap i).inTree && (nodeAt s.heap i).key == k := rfl

theorem treeFind_some {s : State} {b k i : Nat} (h : treeFind s b k = some i) :
    i < s.heap.length ∧ (nodeAt s.heap i).owner = some b ∧ (nodeAt s.heap i).inTree = true ∧
      (nodeAt s.heap i).key = k := by
  rw [treeFind_def] at h
  have h1 := List.mem_of_find?_eq_some h
  have h2 := List.find?_some h
  simp only [Bool.and_eq_true, beq_iff_eq] at h2
  exact ⟨List.mem_range.1 h1, h2.1.1, h2.1.2, h2.2⟩

theorem treeFind_none {s : State} {b k : Nat} (h : treeFind s b k = none) :
    ∀ j, j < s.heap.length → (nodeAt s.heap j).owner = some b → (nodeAt s.heap j).inTree = true →
      (nodeAt s.heap j).key ≠ k := by
  rw [treeFind_def, List.find?_eq_none] at h
  intro j hj ho hin hk
  have := h j (List.mem_range.2 hj)
  simp only [Bool.and_eq_true, beq_iff_eq, not_and] at this
  exact this ⟨ho, hin⟩ hk

theorem QuietC.cellAt_eq {s s' : State} (q : QuietC s s') (id : Cid) : cellAt s' id = cellAt s id :=
  q.cells id

theorem QuietC.startOf_eq {s s' : State} (q : QuietC s s') (c : Cell) : startOf s'.tbins c = startOf s.tbins c := by
  cases c with
  | empty => rfl
  | list h => rfl
  | tree b => exact q.first b
  | moved => rfl

theorem QuietC.key_eq {s s' : State} (q : QuietC s s') (j : Nat) : (nodeAt s'.heap j).key = (nodeAt s.heap j).key :=
  (q.heap.2 j).1

theorem QuietC.val_eq {s s' : State} (q : QuietC s s') (j : Nat) : (nodeAt s'.heap j).val = (nodeAt s.heap j).val :=
  (q.heap.2 j).2.1

theorem QuietC.next_eq {s s' : State} (q : QuietC s s') (j : Nat) : (nodeAt s'.heap j).next = (nodeAt s.heap j).next :=
  (q.heap.2 j).2.2.1

theorem QuietC.inTree_eq {s s' : State} (q : QuietC s s') (j : Nat) :
    (nodeAt s'.heap j).inTree = (nodeAt s.heap j).inTree :=
  (q.heap.2 j).2.2.2.1

theorem QuietC.owner_eq {s s' : State} (q : QuietC s s') (j : Nat) :
    (nodeAt s'.heap j).owner = (nodeAt s.heap j).owner :=
  (q.heap.2 j).2.2.2.2

theorem QuietC.hlen {s s' : State} (q : QuietC s s') : s'.heap.length = s.heap.length := q.heap.1

theorem QuietC.chainOf_eq {s s' : State} (q : QuietC s s') (H : HInv s) (st : Option Nat) :
    chainOf s'.heap st = chainOf s.heap st :=
  chainOf_congr' H.nextOK q.heap st

theorem QuietC.chainC_eq {s s' : State} (q : QuietC s s') (H : HInv s) (c : Cell) : chainC s' c = chainC s c := by
  unfold chainC
  rw [q.startOf_eq, q.chainOf_eq H]

theorem QuietC.chainC_cell {s s' : State} (q : QuietC s s') (H : HInv s) (id : Cid) :
    chainC s' (cellAt s' id) = chainC s (cellAt s id) := by
  rw [q.cellAt_eq, q.chainC_eq H]

theorem QuietC.treeOf_iff {s s' : State} (q : QuietC s s') (c : Cell) (j : Nat) : treeOf s' c j ↔ treeOf s c j := by
  unfold treeOf
  rw [q.hlen, q.inTree_eq, q.owner_eq]

/-! ## the frame of one structure

`SameC s s' C`: the structure `C` reads the same after the step. A step that changes lock and synchronisation words only
(`QuietC`) and an allocation at the end (`Ext.sameC`) frame every structure; a store into the structure of one cell frames
the structures that share nothing with it (`Touch.sameC`).
What the assertions of the program counters (`PcInv`, `KInv`, `XPc`) and `DInv.treeSub` / `chainSub` read of the state is
a few structures, so each has one preservation lemma over `SameC` (`Lemmas/BinGNPFactsX.lean` has the case of equal heap and
`TreeBin` table by substitution: `CopyOK.congr`, `Plan.congr`, `PcInv.congr`). -/

/-- node `j` carries the same data in `s'` as in `s` (its lock word may differ) -/
structure SameN (s s' : State) (j : Nat) : Prop where
  key : (nodeAt s'.heap j).key = (nodeAt s.heap j).key
  val : (nodeAt s'.heap j).val = (nodeAt s.heap j).val
  next : (nodeAt s'.heap j).next = (nodeAt s.heap j).next
  inTree : (nodeAt s'.heap j).inTree = (nodeAt s.heap j).inTree
  owner : (nodeAt s'.heap j).owner = (nodeAt s.heap j).owner

theorem SameN.of_eq {s s' : State} {j : Nat} (h : nodeAt s'.heap j = nodeAt s.heap j) : SameN s s' j := by
  refine ⟨?_, ?_, ?_, ?_, ?_⟩ <;> rw [h]

theorem QuietC.sameN {s s' : State} (q : QuietC s s') (j : Nat) : SameN s s' j :=
  ⟨q.key_eq j, q.val_eq j, q.next_eq j, q.inTree_eq j, q.owner_eq j⟩

/-- the structure `C` reads the same in `s'` as in `s`: its list, the data of the nodes on it, the nodes its `TreeBin`
owns; lock words and the synchronisation words of the `TreeBin` may differ -/
structure SameC (s s' : State) (C : Cell) : Prop where
  chain : chainC s' C = chainC s C
  start : startOf s'.tbins C = startOf s.tbins C
  node : ∀ j ∈ chainC s C, SameN s s' j
  own : ∀ b, C = .tree b →
    (∀ j, j < s.heap.length → ((nodeAt s.heap j).owner = some b ∨ (nodeAt s'.heap j).owner = some b) → SameN s s' j) ∧
    (∀ j, s.heap.length ≤ j → (nodeAt s'.heap j).owner ≠ some b)

theorem QuietC.sameC {s s' : State} (q : QuietC s s') (H : HInv s) (C : Cell) : SameC s s' C :=
  ⟨q.chainC_eq H C, q.startOf_eq C, fun j _ => q.sameN j,
    fun b _ => ⟨fun j _ _ => q.sameN j, fun _ hj => owner_ge (q.hlen ▸ hj) b⟩⟩

/-- a node that the `TreeBin` of the structure owns after the step is an old node with the same data -/
theorem SameC.owned {s s' : State} {b : Nat} (F : SameC s s' (.tree b)) {j : Nat}
    (ho : (nodeAt s'.heap j).owner = some b) : j < s.heap.length ∧ SameN s s' j := by
  have hj : j < s.heap.length := Nat.lt_of_not_le fun h => (F.own b rfl).2 j h ho
  exact ⟨hj, (F.own b rfl).1 j hj (Or.inr ho)⟩

theorem SameC.treeOf_iff {s s' : State} {C : Cell} (F : SameC s s' C) (hlen : s.heap.length ≤ s'.heap.length) (j : Nat) :
    treeOf s' C j ↔ treeOf s C j := by
  constructor
  · rintro ⟨h1, h2, b, rfl, h3⟩
    obtain ⟨hj, e⟩ := F.owned h3
    exact ⟨hj, e.inTree ▸ h2, b, rfl, e.owner ▸ h3⟩
  · rintro ⟨h1, h2, b, rfl, h3⟩
    have e := (F.own b rfl).1 j h1 (Or.inl h3)
    exact ⟨Nat.lt_of_lt_of_le h1 hlen, e.inTree.trans h2, b, rfl, e.owner.trans h3⟩

theorem SameC.tree_key {s s' : State} {C : Cell} (F : SameC s s' C) {j : Nat} (h : treeOf s C j) :
    (nodeAt s'.heap j).key = (nodeAt s.heap j).key := by
  obtain ⟨hjl, _, b, rfl, h3⟩ := h
  exact ((F.own b rfl).1 j hjl (Or.inl h3)).key

theorem SameC.cinv {s s' : State} {C : Cell} (F : SameC s s' C) (hok' : NextOK s'.heap)
    (hlen : s.heap.length ≤ s'.heap.length) (h : CInv s.heap (startOf s.tbins C) (treeOf s C)) :
    CInv s'.heap (startOf s'.tbins C) (treeOf s' C) := by
  rw [F.start]
  refine (cinv_frame h hok' hlen (fun j hj => ⟨(F.node j hj).next, (F.node j hj).key⟩) ?_).1
  intro j hj
  have h1 := (F.treeOf_iff hlen j).1 hj
  exact ⟨h1, F.tree_key h1⟩

theorem SameC.chainOfBin {s s' : State} {b : Nat} (F : SameC s s' (.tree b)) : chainOfBin s' b = chainOfBin s b := F.chain

theorem QuietC.hinv' {s s' : State} (q : QuietC s s') (H : HInv s)
    (hbd : ∀ (id id' : Cid) b, cellAt s id = .tree b → cellAt s id' = .tree b → id = id' ∨
      ∃ j0, Reusing s' b j0 ∧ ((id = (s'.cur, j0) ∧ id'.1 = s'.cur + 1 ∧ id'.2 % 2 ^ s'.cur = j0) ∨
        (id' = (s'.cur, j0) ∧ id.1 = s'.cur + 1 ∧ id.2 % 2 ^ s'.cur = j0))) : HInv s' := by
  refine ⟨?_, ?_, ?_, ?_, ?_, ?_, ?_⟩
  · intro id
    rw [q.cellAt_eq]
    exact (q.sameC H _).cinv (H.nextOK.congr q.heap) (Nat.le_of_eq q.hlen.symm) (H.cinv id)
  · intro j b hj
    rw [q.owner_eq] at hj
    rw [q.tlen]; exact H.ownerOK j b hj
  · intro b h hh
    rw [q.first] at hh
    rw [q.hlen]; exact H.firstOK b h hh
  · intro id b hb
    rw [q.cellAt_eq] at hb
    rw [q.tlen]; exact H.cellOK id b hb
  · intro id j hj
    rw [q.chainC_cell H] at hj
    rw [q.owner_eq, q.cellAt_eq]
    exact H.chainOwner id j hj
  · intro id j hj
    rw [q.chainC_cell H, q.cellAt_eq, q.treeOf_iff] at hj
    rw [q.key_eq]
    exact H.side id j hj
  · intro id id' b h1 h2
    rw [q.cellAt_eq] at h1 h2
    exact hbd id id' b h1 h2

theorem QuietC.hinv {s s' : State} (q : QuietC s s') (H : HInv s) (hcur : s'.cur = s.cur)
    (hre : ∀ b j0, Reusing s b j0 → Reusing s' b j0) : HInv s' := by
  refine q.hinv' H ?_
  intro id id' b h1 h2
  rcases H.binsDistinct id id' b h1 h2 with h | ⟨j0, hr, h⟩
  · exact Or.inl h
  · exact Or.inr ⟨j0, hre b j0 hr, by rw [hcur]; exact h⟩

/-- a copy survives if the old and the new structure read the same; a *fresh* `TreeBin` of the new structure
(`old ≠ .tree b`) keeps its default synchronisation words (`hb`) -/
theorem CopyOK.frame {s s' : State} {old : Cell} {sel : Nat → Bool} {C : Cell} (hok' : NextOK s'.heap)
    (hlen : s.heap.length ≤ s'.heap.length) (htl : s.tbins.length ≤ s'.tbins.length)
    (Fo : SameC s s' old) (Fc : SameC s s' C)
    (hb : ∀ b, C = .tree b → old ≠ .tree b → binAt s'.tbins b = binAt s.tbins b)
    (h : CopyOK s old sel C) : CopyOK s' old sel C := by
  have eC := Fc.chain
  have K : CopyH s'.heap (chainC s' old) (chainC s' C) (treeOf s' C) sel (ownerOf C) := by
    rw [eC, Fo.chain]
    refine h.toH.congr (fun j hj => ⟨(Fo.node j hj).key, (Fo.node j hj).val⟩)
      (fun j hj => ⟨(Fc.node j hj).key, (Fc.node j hj).val, (Fc.node j hj).owner⟩) ?_
    intro j hj
    have hj' := (Fc.treeOf_iff hlen j).1 hj
    exact ⟨hj', Fc.tree_key hj'⟩
  refine ⟨h.notMoved, Fc.cinv hok' hlen h.cinv, fun b hb => Nat.lt_of_lt_of_le (h.cellOK b hb) htl, K.chainOwner,
    K.selOK, K.src, K.cover, K.suffix, K.order, ?_⟩
  intro b hCb hob
  obtain ⟨f1, f2, f3⟩ := h.fresh b hCb hob
  obtain ⟨g2, g3⟩ := Fc.own b hCb
  refine ⟨by rw [hb b hCb hob]; exact f1, ?_, ?_⟩
  · intro j hj
    rw [eC]
    by_cases hjl : j < s.heap.length
    · rw [← f2 j hjl]
      exact ⟨fun ho => (g2 j hjl (Or.inr ho)).owner.symm.trans ho, fun ho => (g2 j hjl (Or.inl ho)).owner.trans ho⟩
    · exact ⟨fun ho => absurd ho (g3 j (Nat.le_of_not_lt hjl)), fun hc => absurd (h.cinv.chain_lt hc) hjl⟩
  · intro j hj
    rw [eC] at hj
    rw [(Fc.node j hj).inTree]; exact f3 j hj

theorem Plan.frame {s s' : State} {j : Nat} {lo hi : Cell} (hok' : NextOK s'.heap) (hlen : s.heap.length ≤ s'.heap.length)
    (htl : s.tbins.length ≤ s'.tbins.length) (hcur : s'.cur = s.cur)
    (h0 : cellAt s' (s.cur, j) = cellAt s (s.cur, j))
    (F0 : SameC s s' (cellAt s (s.cur, j))) (Flo : SameC s s' lo) (Fhi : SameC s s' hi)
    (hlo : ∀ b, lo = .tree b → cellAt s (s.cur, j) ≠ .tree b → binAt s'.tbins b = binAt s.tbins b)
    (hhi : ∀ b, hi = .tree b → cellAt s (s.cur, j) ≠ .tree b → binAt s'.tbins b = binAt s.tbins b)
    (h : Plan s j lo hi) : Plan s' j lo hi := by
  refine ⟨?_, ?_, h.distinct⟩
  · rw [hcur, h0]; exact h.low.frame hok' hlen htl F0 Flo hlo
  · rw [hcur, h0]; exact h.high.frame hok' hlen htl F0 Fhi hhi

/-- only the *fresh* `TreeBin`s of the plan (not the re-used old one) have to be unchanged -/
theorem QuietC.plan' {s s' : State} (q : QuietC s s') (H : HInv s) (hcur : s'.cur = s.cur) {j : Nat} {lo hi : Cell}
    (hlo : ∀ b, lo = .tree b → cellAt s (s.cur, j) ≠ .tree b → binAt s'.tbins b = binAt s.tbins b)
    (hhi : ∀ b, hi = .tree b → cellAt s (s.cur, j) ≠ .tree b → binAt s'.tbins b = binAt s.tbins b)
    (h : Plan s j lo hi) : Plan s' j lo hi :=
  h.frame (H.nextOK.congr q.heap) (Nat.le_of_eq q.hlen.symm) (Nat.le_of_eq q.tlen.symm) hcur (q.cellAt_eq _)
    (q.sameC H _) (q.sameC H _) (q.sameC H _) hlo hhi

/-- what the program counter of the resizing thread says about the children of the cell under transfer survives if the
cell under transfer and its children are unchanged, the three structures read the same, and a fresh `TreeBin` among them
keeps its synchronisation words -/
theorem XPc.frame {s s' : State} {pc : Pc} (hok' : NextOK s'.heap) (hlen : s.heap.length ≤ s'.heap.length)
    (htl : s.tbins.length ≤ s'.tbins.length) (hcur : s'.cur = s.cur)
    (hcells : ∀ j, xIdx pc = some j → cellAt s' (s.cur, j) = cellAt s (s.cur, j) ∧
      cellAt s' (s.cur + 1, j) = cellAt s (s.cur + 1, j) ∧
      cellAt s' (s.cur + 1, j + 2 ^ s.cur) = cellAt s (s.cur + 1, j + 2 ^ s.cur))
    (F0 : ∀ j, xIdx pc = some j → SameC s s' (cellAt s (s.cur, j)))
    (F : xPc pc = true → ∀ C ∈ pend s pc, SameC s s' C)
    (hb : xPc pc = true → ∀ b, (.tree b : Cell) ∈ pend s pc →
      (∀ j, xIdx pc = some j → cellAt s (s.cur, j) ≠ .tree b) → binAt s'.tbins b = binAt s.tbins b)
    (h : XPc s pc) : XPc s' pc := by
  have P : ∀ {j : Nat} {lo hi : Cell}, xPc pc = true → xIdx pc = some j → lo ∈ pend s pc → hi ∈ pend s pc →
      Plan s j lo hi → Plan s' j lo hi := fun hx hj hlo hhi h =>
    h.frame hok' hlen htl hcur (hcells _ hj).1 (F0 _ hj) (F hx _ hlo) (F hx _ hhi)
      (fun b e h0 => hb hx b (e ▸ hlo) (fun j' hj' => by rw [hj] at hj'; cases hj'; exact h0))
      (fun b e h0 => hb hx b (e ▸ hhi) (fun j' hj' => by rw [hj] at hj'; cases hj'; exact h0))
  cases pc <;> try exact trivial
  case xStoreLow j unl lo hi => exact P rfl rfl (by simp [pend]) (by simp [pend]) h
  case xStoreHigh j unl hi =>
    show Plan s' j (cellAt s' (s'.cur + 1, j)) hi
    rw [hcur, (hcells j rfl).2.1]
    exact P rfl rfl (by simp [pend]) (by simp [pend]) h
  case xStoreMoved j unl =>
    show Plan s' j (cellAt s' (s'.cur + 1, j)) (cellAt s' (s'.cur + 1, j + 2 ^ s'.cur))
    rw [hcur, (hcells j rfl).2.1, (hcells j rfl).2.2]
    exact P rfl rfl (by simp [pend]) (by simp [pend]) h

theorem QuietC.liveId_eq {s s' : State} (q : QuietC s s') (hcur : s'.cur = s.cur) (k : Nat) : liveId s' k = liveId s k :=
  liveId_congr hcur (by rw [q.cellAt_eq])

theorem QuietC.find_eq {s s' : State} (q : QuietC s s') (b k : Nat) : treeFind s' b k = treeFind s b k := by
  rw [treeFind_def, treeFind_def, q.hlen]
  congr 1
  funext i
  rw [q.key_eq, q.inTree_eq, q.owner_eq]

/-- `PcInv s p pc` reads of the state: a lower bound of the heap length; the list the pc is validated for, with key and
`next` of its nodes; the list of the `TreeBin` it is validated for, with key, value and tree flag of its nodes; owner, tree
flag and key of the nodes that `TreeBin` owns -/
theorem PcInv.frame {s s' : State} {p : Pending} {pc : Pc} (hlen : s.heap.length ≤ s'.heap.length) (h : PcInv s p pc)
    (hL : ∀ h, validL pc = some h → SameC s s' (.list h))
    (hT : ∀ b, validT pc = some b → SameC s s' (.tree b)) : PcInv s' p pc := by
  have walk : ∀ {h0 : Nat} {pred cur : Option Nat}, validL pc = some h0 → Walk s h0 p.key pred cur →
      Walk s' h0 p.key pred cur ∧ ∀ i, cur = some i → i ∈ chainC s (.list h0) := by
    rintro h0 pred cur hv ⟨l1, l2, hch, hcur, hpred, hkeys⟩
    have F := hL h0 hv
    have hch' : chainC s (.list h0) = l1 ++ l2 := hch
    refine ⟨⟨l1, l2, F.chain.trans hch, hcur, hpred, fun j hj => ?_⟩, fun i hi => ?_⟩
    · rw [(F.node j (hch' ▸ List.mem_append_left _ hj)).key]; exact hkeys j hj
    · subst hi
      cases l2 with
      | nil => cases hcur
      | cons a l2' => cases hcur; exact hch' ▸ List.mem_append_right _ List.mem_cons_self
  have fresh : ∀ {b : Nat}, validT pc = some b → FreshOK s b p → FreshOK s' b p := by
    intro b hv hf j _ ho hin
    obtain ⟨hjl, e⟩ := (hT b hv).owned ho
    rw [e.key]; exact hf j hjl (e.owner ▸ ho) (e.inTree ▸ hin)
  have rem : ∀ {b i : Nat} {res : KRes}, validT pc = some b → RemOK s b p i res → RemOK s' b p i res := by
    rintro b i res hv ⟨h1, h2, h3, h4⟩
    have e := (hT b hv).node i h1
    exact ⟨(hT b hv).chainOfBin ▸ h1, e.inTree.trans h2, e.key.trans h3, by rw [e.val]; exact h4⟩
  cases pc <;> try exact trivial
  case rNode cur =>
    cases cur with
    | none => trivial
    | some c => exact Nat.lt_of_lt_of_le h hlen
  case rState b cur =>
    cases cur with
    | none => trivial
    | some c => exact Nat.lt_of_lt_of_le h hlen
  case rLin b c => exact Nat.lt_of_lt_of_le h hlen
  case rCas b c r => exact Nat.lt_of_lt_of_le h hlen
  case rVal i => exact h
  case lNode cur =>
    cases cur with
    | none => trivial
    | some c => exact Nat.lt_of_lt_of_le h hlen
  case wFind tab h0 pred cur => exact (walk rfl h).1
  case wStore tab h0 pred hit hnext =>
    obtain ⟨w', hmem⟩ := walk rfl h.1
    refine ⟨w', fun i hi => ?_⟩
    have e := (hL h0 rfl).node i (hmem i hi)
    rw [e.key, e.next]; exact h.2 i hi
  case tVal tab b i v res =>
    have e := (hT b rfl).node i h.1
    exact ⟨(hT b rfl).chainOfBin ▸ h.1, e.key.trans h.2.1, by rw [e.val]; exact h.2.2⟩
  case lrTry tab b k res =>
    cases k with
    | insert => exact fresh rfl h
    | remove i => exact rem rfl h
  case lrLoop tab b k res =>
    cases k with
    | insert => exact fresh rfl h
    | remove i => exact rem rfl h
  case tPrependLocked tab b => exact fresh rfl h
  case tTreeLinkLocked tab b x =>
    have e := (hT b rfl).node x h.1
    exact ⟨(hT b rfl).chainOfBin ▸ h.1, e.inTree.trans h.2.1, e.key.trans h.2.2.1, fresh rfl h.2.2.2⟩
  case tUnlinkLocked tab b i res => exact rem rfl h
  case tRestructure tab b i res =>
    obtain ⟨h1, h2, h3, h4⟩ := h
    have e := ((hT b rfl).own b rfl).1 i h3 (Or.inl h4)
    exact ⟨by rw [(hT b rfl).chainOfBin]; exact h1, e.inTree.trans h2, Nat.lt_of_lt_of_le h3 hlen, e.owner.trans h4⟩

theorem PcInv.quietC {s s' : State} (q : QuietC s s') (H : HInv s) {p : Pending} {pc : Pc} (h : PcInv s p pc) :
    PcInv s' p pc :=
  h.frame (Nat.le_of_eq q.hlen.symm) (fun _ _ => q.sameC H _) (fun _ _ => q.sameC H _)

theorem KInv.quietC {s s' : State} (q : QuietC s s') (H : HInv s) {pc : Pc}
    (hb : ∀ tab k h b, pc = .kStore tab k h b → binAt s'.tbins b = binAt s.tbins b)
    (h : KInv s pc) : KInv s' pc := by
  cases pc <;> try exact trivial
  case kStore tab k h0 b =>
    simp only [KInv] at h ⊢
    refine ⟨h.1.frame (H.nextOK.congr q.heap) (Nat.le_of_eq q.hlen.symm) (Nat.le_of_eq q.tlen.symm) (q.sameC H _)
      (q.sameC H _) (fun b' hb' _ => by cases hb'; exact hb tab k h0 b rfl), ?_⟩
    intro id
    rw [q.cellAt_eq]; exact h.2 id

theorem QuietC.pend_eq {s s' : State} (q : QuietC s s') (hcur : s'.cur = s.cur) (pc : Pc) : pend s' pc = pend s pc := by
  cases pc
  case xStoreHigh j unl hi =>
    show [cellAt s' (s'.cur + 1, j), hi] = [cellAt s (s.cur + 1, j), hi]
    rw [q.cellAt_eq, hcur]
  case xStoreMoved j unl =>
    show [cellAt s' (s'.cur + 1, j), cellAt s' (s'.cur + 1, j + 2 ^ s'.cur)] = _
    rw [q.cellAt_eq, q.cellAt_eq, hcur]; rfl
  all_goals rfl

/-- nodes that may still be written or linked: none is added by a quiet step of thread `t` that keeps its `pend` list
and its cell and does not enter `kStore` or the resize -/
theorem QuietC.used_sub {s s' : State} {t : Nat} {l l' : Local} (q : QuietC s s') (H : HInv s) (hcur : s'.cur = s.cur)
    (hthr : s'.threads = s.threads.set t l') (hl : s.threads[t]? = some l)
    (hpend : pend s' l'.pc = pend s l.pc) (hx : xPc l'.pc = xPc l.pc) (hxi : xIdx l'.pc = xIdx l.pc)
    (hk : ∀ tab k h b, l'.pc = .kStore tab k h b ↔ l.pc = .kStore tab k h b) :
    ∀ j, Used s' j → Used s j := by
  rintro j (⟨id, hj⟩ | ⟨t1, l1, tab, k, h, b, h1, hpc, ho⟩ | ⟨t1, l1, C, h1, hx1, hC, hj, hn⟩)
  · exact Or.inl ⟨id, by rw [q.chainC_cell H] at hj; exact hj⟩
  · rw [q.owner_eq] at ho
    rw [hthr] at h1
    rcases get_set h1 with ⟨rfl, rfl⟩ | ⟨_, h1⟩
    · exact Or.inr (Or.inl ⟨t1, l, tab, k, h, b, hl, (hk tab k h b).1 hpc, ho⟩)
    · exact Or.inr (Or.inl ⟨t1, l1, tab, k, h, b, h1, hpc, ho⟩)
  · rw [q.chainC_eq H] at hj
    have hn' : ∀ j0, xIdx l1.pc = some j0 → j ∉ chainC s (cellAt s (s.cur, j0)) := by
      intro j0 h0
      have := hn j0 h0
      rw [hcur, q.chainC_cell H] at this
      exact this
    rw [hthr] at h1
    rcases get_set h1 with ⟨rfl, rfl⟩ | ⟨_, h1⟩
    · exact Or.inr (Or.inr ⟨t1, l, C, hl, hx ▸ hx1, hpend ▸ hC, hj, hxi ▸ hn'⟩)
    · exact Or.inr (Or.inr ⟨t1, l1, C, h1, hx1, q.pend_eq hcur _ ▸ hC, hj, hn'⟩)

theorem QuietC.LC_eq' {s s' : State} (q : QuietC s s') (H : HInv s) {k : Nat} (hlc : liveCell s' k = liveCell s k) :
    LC s' k = LC s k := by
  unfold LC; rw [hlc, q.chainC_eq H]

theorem QuietC.abs_eq' {s s' : State} (q : QuietC s s') (H : HInv s) {k : Nat} (hlc : liveCell s' k = liveCell s k) :
    absOf s' k = absOf s k := by
  rw [BinGNP.absOf_eq, BinGNP.absOf_eq, q.LC_eq' H hlc]
  unfold absL
  have : (fun i => (nodeAt s'.heap i).key == k) = (fun i => (nodeAt s.heap i).key == k) := by
    funext i; rw [q.key_eq]
  rw [this]
  cases (LC s k).find? (fun i => (nodeAt s.heap i).key == k) with
  | none => rfl
  | some i => simp only [Option.map_some]; rw [q.val_eq]

theorem Quiet.cellOf_eq {s s' : State} (q : Quiet s s') (tab : Nat) (k : Nat) : cellOf s' tab k = cellOf s tab k := by
  rw [BinGNP.cellOf_eq, BinGNP.cellOf_eq, q.cellAt_eq]

theorem Quiet.chainC_list {s s' : State} (q : Quiet s s') (H : HInv s) (h : Nat) :
    chainC s' (.list h) = chainC s (.list h) := q.toC.chainC_eq H _

theorem Quiet.plan {s s' : State} (q : Quiet s s') (H : HInv s) {j : Nat} {lo hi : Cell}
    (hlo : ∀ b, lo = .tree b → binAt s'.tbins b = binAt s.tbins b)
    (hhi : ∀ b, hi = .tree b → binAt s'.tbins b = binAt s.tbins b)
    (h : Plan s j lo hi) : Plan s' j lo hi :=
  q.toC.plan' H q.cur (fun b hC _ => hlo b hC) (fun b hC _ => hhi b hC) h

theorem Quiet.abs_eq {s s' : State} (q : Quiet s s') (H : HInv s) (hcur : s'.cur = s.cur) (k : Nat) :
    absOf s' k = absOf s k :=
  q.toC.abs_eq' H (liveCell_congr q.tabs hcur k)

theorem Quiet.find_eq {s s' : State} (q : Quiet s s') (b k : Nat) : treeFind s' b k = treeFind s b k :=
  q.toC.find_eq b k

theorem PcInv.quiet {s s' : State} (q : Quiet s s') (H : HInv s) {p : Pending} {pc : Pc} (h : PcInv s p pc) :
    PcInv s' p pc :=
  h.quietC q.toC H

theorem KInv.quiet {s s' : State} (q : Quiet s s') (H : HInv s) {pc : Pc}
    (hb : ∀ tab k h b, pc = .kStore tab k h b → binAt s'.tbins b = binAt s.tbins b)
    (h : KInv s pc) : KInv s' pc :=
  h.quietC q.toC H hb

theorem Quiet.used_of {s s' : State} {t : Nat} {l l' : Local} (q : Quiet s s') (H : HInv s)
    (hthr : s'.threads = s.threads.set t l') (hl : s.threads[t]? = some l)
    (hpend : pend s' l'.pc = pend s l.pc) (hx : xPc l'.pc = xPc l.pc) (hxi : xIdx l'.pc = xIdx l.pc)
    (hk : ∀ tab k h b, l'.pc = .kStore tab k h b ↔ l.pc = .kStore tab k h b) :
    ∀ j, Used s' j → Used s j :=
  q.toC.used_sub H q.cur hthr hl hpend hx hxi hk

/-- list = tree for a `TreeBin` in a cell (`DInv.treeSub`, `DInv.chainSub`) survives a step of thread `t` after which the bin
reads the same, provided `t` was not the thread that accounts for a difference (`hnot`) -/
theorem listTree_frame {s s' : State} {t : Nat} {l l' : Local} (D : DInv s) (hl : s.threads[t]? = some l)
    (hthr : s'.threads = s.threads.set t l') (hlen : s.heap.length ≤ s'.heap.length) {id0 : Cid} {b : Nat}
    (hc : cellAt s id0 = .tree b) (F : SameC s s' (.tree b))
    (hnot : (∀ tab j res, l.pc ≠ .tRestructure tab b j res) ∧ (∀ tab res, l.pc ≠ .tUntreeify tab b res) ∧
      (∀ tab j, l.pc ≠ .tTreeLinkLocked tab b j)) :
    (∀ j, j < s'.heap.length → (nodeAt s'.heap j).owner = some b → (nodeAt s'.heap j).inTree = true →
      j ∉ chainOfBin s' b → ∃ (t0 : Nat) (l0 : Local), s'.threads[t0]? = some l0 ∧
        ((∃ tab res, l0.pc = .tRestructure tab b j res) ∨ (∃ tab res, l0.pc = .tUntreeify tab b res))) ∧
    (∀ j ∈ chainOfBin s' b, (nodeAt s'.heap j).inTree = false →
      ∃ (t0 : Nat) (l0 : Local) (tab : Nat), s'.threads[t0]? = some l0 ∧ l0.pc = .tTreeLinkLocked tab b j) := by
  have other : ∀ {t0 : Nat} {l0 : Local}, s.threads[t0]? = some l0 → l0.pc ≠ l.pc → s'.threads[t0]? = some l0 := by
    intro t0 l0 hl0 hne
    have : t0 ≠ t := by rintro rfl; rw [hl] at hl0; cases hl0; exact hne rfl
    rw [hthr, get_set_ne this]; exact hl0
  constructor
  · intro j hj ho hin hnc
    obtain ⟨g1, g2, b', hb', g3⟩ := (F.treeOf_iff hlen j).1 ⟨hj, hin, b, rfl, ho⟩
    cases hb'
    rw [F.chainOfBin] at hnc
    obtain ⟨t0, l0, hl0, hw⟩ := D.treeSub id0 b hc j g1 g3 g2 hnc
    refine ⟨t0, l0, other hl0 ?_, hw⟩
    rcases hw with ⟨tab, res, e⟩ | ⟨tab, res, e⟩
    · rw [e]; exact (hnot.1 tab j res).symm
    · rw [e]; exact (hnot.2.1 tab res).symm
  · intro j hj hin
    rw [F.chainOfBin] at hj
    rw [(F.node j hj).inTree] at hin
    obtain ⟨t0, l0, tab, hl0, hw⟩ := D.chainSub id0 b hc j hj hin
    exact ⟨t0, l0, tab, other hl0 (by rw [hw]; exact (hnot.2.2 tab j).symm), hw⟩

/-- `DInv.treeSub` / `chainSub` name three program counters of the thread that accounts for a difference between the list
and the tree of `b` (`tRestructure`, `tUntreeify`, `tTreeLinkLocked`); a thread at none of them for any `TreeBin` is at none of
them for `b` -/
theorem notWit_at {pc : Pc} (h : (∀ tab b j res, pc ≠ .tRestructure tab b j res) ∧ (∀ tab b res, pc ≠ .tUntreeify tab b res) ∧
    (∀ tab b j, pc ≠ .tTreeLinkLocked tab b j)) (b : Nat) :
    (∀ tab j res, pc ≠ .tRestructure tab b j res) ∧ (∀ tab res, pc ≠ .tUntreeify tab b res) ∧
      (∀ tab j, pc ≠ .tTreeLinkLocked tab b j) :=
  ⟨fun tab j res => h.1 tab b j res, fun tab => h.2.1 tab b, fun tab => h.2.2 tab b⟩

theorem notWit_of_wr {pc : Pc} (h : wr pc = false) (b : Nat) :
    (∀ tab j res, pc ≠ .tRestructure tab b j res) ∧ (∀ tab res, pc ≠ .tUntreeify tab b res) ∧
      (∀ tab j, pc ≠ .tTreeLinkLocked tab b j) :=
  ⟨fun _ _ _ e => (by rw [e] at h; cases h), fun _ _ e => (by rw [e] at h; cases h), fun _ _ e => (by rw [e] at h; cases h)⟩

theorem notWit_of_validT {pc : Pc} {b : Nat} (h : validT pc ≠ some b) :
    (∀ tab j res, pc ≠ .tRestructure tab b j res) ∧ (∀ tab res, pc ≠ .tUntreeify tab b res) ∧
      (∀ tab j, pc ≠ .tTreeLinkLocked tab b j) :=
  ⟨fun _ _ _ e => h (by rw [e]; rfl), fun _ _ e => h (by rw [e]; rfl), fun _ _ e => h (by rw [e]; rfl)⟩

end Flurry.Proto.BinGNP
