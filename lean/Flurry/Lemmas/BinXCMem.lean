import Flurry.Lemmas.BinXCDefs
/-! # Proto/BinXC: `Inv0`, mutual exclusion of the validated lock holders, frame (C01, C04)

`Inv0` is `Inv` without the clause `nm` (`Inv.to0`): what `stepK_inv0` preserves and what the image of a state of
`Proto/BinX` has (`Lemmas/BinXBridge.lean`). Then, as the first part of `Lemmas/BinXMemStep.lean` (`Inv.mutex`, `Inv.post_of_new`, stated there over `Proto/BinX`'s own
thread-level invariants), with `clear` at `cStore` as one more kind of validated lock holder; `Inv0.frame` is
`MemStep.frame'` for a thread of this model. -/
namespace Flurry.Proto.BinXC
open Flurry.Lin
open Flurry.Proto.BinX (Ghost CellId Active MemStep)

/-- `Inv` without `nm`: preserved by every transition on its own (`nm` is what `clear` needs on top,
and what an image of a state of `Proto/BinX` need not have) -/
structure Inv0 (s : State) (g : Ghost) : Prop where
  heap : BinX.HInv (mem s) g
  thr : TInv s
  ph : PInv s g
  lock : LInv s
  walk : WInv s
  ret : RInv s g

theorem Inv.to0 {s : State} {g : Ghost} (I : Inv s g) : Inv0 s g := ⟨I.heap, I.thr, I.ph, I.lock, I.walk, I.ret⟩

theorem Inv0.mutex {s : State} {g : Ghost} (I : Inv0 s g) {t t1 : Nat} {l l1 : Local} {id : CellId} {h h1 : Nat}
    (hl : s.threads[t]? = some l) (hl1 : s.threads[t1]? = some l1)
    (hv : vcell l = some (id, h)) (hv1 : vcell l1 = some (id, h1)) : t = t1 := by
  obtain ⟨c1, k1⟩ := I.lock.validated t l id h hl hv
  obtain ⟨c2, k2⟩ := I.lock.validated t1 l1 id h1 hl1 hv1
  rw [c1] at c2
  cases c2
  have e1 := (I.lock.lockHeld t l h hl k1).2
  have e2 := (I.lock.lockHeld t1 l1 h hl1 k2).2
  rw [e1] at e2
  cases e2
  rfl

theorem vcell_mid {l : Local} (h : isMidPc l.pc) : ∃ h', vcell l = some (.c0, h') := by
  obtain ⟨pc, call⟩ := l
  cases pc with
  | tStoreLow h' _ _ => exact ⟨h', rfl⟩
  | tStoreHigh h' _ => exact ⟨h', rfl⟩
  | tStoreMoved h' => exact ⟨h', rfl⟩
  | _ => exact h.elim

theorem cellId_ne_c0 {tab : Tab} {k : Nat} (h : BinX.cellId (cT tab) k ≠ .c0) : tab = .new := by
  cases tab with
  | old => exact absurd rfl h
  | new => rfl

theorem cellIdAt_ne_c0 {tab : Tab} {idx : Nat} (h : cellIdAt tab idx ≠ .c0) : tab = .new := by
  cases tab with
  | old => exact absurd rfl h
  | new => rfl

theorem cellIdAt_new_ne_c0 (idx : Nat) : cellIdAt .new idx ≠ .c0 := by
  cases idx <;> simp [cellIdAt]

/-- who holds a validated lock: a writer between its re-check and its store, a `clear` at its store
(on a cell of the table they work in), or the transferring thread from `tBuild` to `tStoreMoved` (on
the old cell) -/
theorem vcell_cases {l : Local} {id : CellId} {h : Nat} (hv : vcell l = some (id, h)) :
    Holds l.pc h ∧
    ((∃ tab, tabOf l.pc = some tab ∧ ¬ isT l.pc ∧ (id ≠ .c0 → tab = .new)) ∨ (id = .c0 ∧ isT l.pc)) := by
  obtain ⟨pc, call⟩ := l
  cases pc with
  | wFind tab _ _ _ =>
    cases call with
    | none => cases hv
    | some p => cases hv; exact ⟨rfl, Or.inl ⟨tab, rfl, id, cellId_ne_c0⟩⟩
  | wStore tab _ _ _ _ =>
    cases call with
    | none => cases hv
    | some p => cases hv; exact ⟨rfl, Or.inl ⟨tab, rfl, id, cellId_ne_c0⟩⟩
  | cStore tab _ _ => cases hv; exact ⟨rfl, Or.inl ⟨tab, rfl, id, cellIdAt_ne_c0⟩⟩
  | tBuild _ => cases hv; exact ⟨rfl, Or.inr ⟨rfl, trivial⟩⟩
  | tStoreLow _ _ _ => cases hv; exact ⟨rfl, Or.inr ⟨rfl, trivial⟩⟩
  | tStoreHigh _ _ => cases hv; exact ⟨rfl, Or.inr ⟨rfl, trivial⟩⟩
  | tStoreMoved _ => cases hv; exact ⟨rfl, Or.inr ⟨rfl, trivial⟩⟩
  | _ => cases hv

theorem vcell_holds {l : Local} {id : CellId} {h : Nat} (hv : vcell l = some (id, h)) : Holds l.pc h :=
  (vcell_cases hv).1

theorem vcell_tab {l : Local} {id : CellId} {h : Nat} (hv : vcell l = some (id, h)) (hid : id ≠ .c0) :
    ¬ isT l.pc ∧ tabOf l.pc = some .new := by
  rcases (vcell_cases hv).2 with ⟨tab, htab, hT, hn⟩ | ⟨h0, -⟩
  · rw [hn hid] at htab; exact ⟨hT, htab⟩
  · exact absurd h0 hid

theorem PcPh.iff_of_not_isT {s : BinX.State} {g : Ghost} {pc : Pc} (hT : ¬ isT pc) :
    PcPh s g pc ↔ (tabOf pc = some .new → g.ph = .post) := by
  cases pc with
  | tCell | tCasMoved | tLock _ | tCheck _ | tBuild _ | tStoreLow _ _ _ | tStoreHigh _ _ | tStoreMoved _
  | tUnlock _ | tCommit => exact absurd trivial hT
  | _ => exact Iff.rfl

theorem Inv0.post_of_new {s : State} {g : Ghost} (I : Inv0 s g) {t : Nat} {l : Local}
    (hl : s.threads[t]? = some l) (hT : ¬ isT l.pc) (htab : tabOf l.pc = some .new) : g.ph = .post :=
  (PcPh.iff_of_not_isT hT).1 (I.ph.pcPh t l hl) htab

theorem Inv0.active_of_vcell {s : State} {g : Ghost} (I : Inv0 s g) {t : Nat} {l : Local} {id : CellId} {h : Nat}
    (hl : s.threads[t]? = some l) (hv : vcell l = some (id, h)) (hnm : ¬ isMidPc l.pc) : Active g id := by
  obtain ⟨hc, -⟩ := I.lock.validated t l id h hl hv
  by_cases hid : id = .c0
  · subst hid
    left
    refine ⟨rfl, ?_⟩
    cases hp : g.ph with
    | pre => rfl
    | mid lo hg =>
      obtain ⟨t1, l1, hl1, hm1⟩ := I.ph.midHas lo hg hp
      obtain ⟨h1, hv1⟩ := vcell_mid hm1
      have := I.mutex hl hl1 hv hv1
      subst this
      rw [hl] at hl1; cases hl1
      exact absurd hm1 hnm
    | post =>
      have := I.heap.post hp
      unfold BinX.getCell at hc
      rw [this] at hc; cases hc
  · right
    refine ⟨hid, ?_⟩
    obtain ⟨hT, htab⟩ := vcell_tab hv hid
    exact I.post_of_new hl hT htab

theorem Inv0.active_of_empty {s : State} {g : Ghost} (I : Inv0 s g) {t : Nat} {l : Local} {tab : Tab} {k : Nat}
    (hl : s.threads[t]? = some l) (hT : ¬ isT l.pc) (htab : tabOf l.pc = some tab)
    (he : BinX.getCell (mem s) (BinX.cellId (cT tab) k) = .empty) : Active g (BinX.cellId (cT tab) k) := by
  cases tab with
  | old =>
    left
    refine ⟨rfl, ?_⟩
    have he' : (mem s).cell0 = .empty := he
    cases hp : g.ph with
    | pre => rfl
    | mid lo hg =>
      obtain ⟨⟨h, hc⟩, -⟩ := I.heap.mid lo hg hp
      rw [hc] at he'; cases he'
    | post =>
      have := I.heap.post hp
      rw [this] at he'; cases he'
  | new => exact Or.inr ⟨BinX.cellId_new_ne_c0 k, I.post_of_new hl hT htab⟩

/-- the store of a validated writer, in context (on the projected memory) -/
theorem Inv0.store_ok {s : State} {g : Ghost} (I : Inv0 s g) {t : Nat} {p : Pending} {tab : Tab}
    {h : Nat} {pred hit hnext : Option Nat} (hl : s.threads[t]? = some ⟨.wStore tab h pred hit hnext, some p⟩) :
    Active g (BinX.cellId (cT tab) p.key) ∧
    BinX.StoreOK (BinX.tick (mem s)) g (BinX.cellId (cT tab) p.key) (cP p)
      (BinX.storeAt (BinX.tick (mem s)) (cT tab) (cP p) pred hit hnext) := by
  have act := I.active_of_vcell hl rfl id
  refine ⟨act, ?_⟩
  have hw := I.walk.walk t _ p hl rfl
  obtain ⟨hc, -⟩ := I.lock.validated t _ _ h hl rfl
  have hne : BinX.chId (BinX.tick (mem s)) (BinX.cellId (cT tab) p.key) ≠ [] := by
    rw [BinX.chId_tick]
    unfold BinX.chId
    rw [hc]
    obtain ⟨l', hl'⟩ := BinX.chainH_node (BinX.ranked_ord _) I.heap.nextOK (I.heap.headOK _ h hc)
    rw [hl']; simp
  refine BinX.store_effect (p := cP p) I.heap.tick (I.thr.opOK t _ p hl rfl) act ?_ hne hw.2
  rw [BinX.chId_tick]
  have := hw.1
  rwa [BinX.cellOf_eq] at this

/-- **frame**: a transition of thread `t` does not touch the cell, the chain and the chain nodes of a
cell on which another thread holds a validated lock -/
theorem Inv0.frame {s : State} {m' : BinX.State} {g g' : Ghost} {t t1 : Nat} {l l1 : Local} (I : Inv0 s g)
    (hl : s.threads[t]? = some l) (m : MemStep (mem s) m' (vcell l) g g') (hne : t1 ≠ t)
    (hl1 : s.threads[t1]? = some l1) {id1 : CellId} {h1 : Nat} (hv1 : vcell l1 = some (id1, h1)) :
    BinX.getCell m' id1 = BinX.getCell (mem s) id1 ∧ BinX.chId m' id1 = BinX.chId (mem s) id1 ∧
      ∀ j ∈ BinX.chId (mem s) id1, (BinX.nodeAt m'.heap j).key = (BinX.nodeAt (mem s).heap j).key ∧
        (BinX.nodeAt m'.heap j).next = (BinX.nodeAt (mem s).heap j).next := by
  obtain ⟨hcell1, -⟩ := I.lock.validated t1 l1 id1 h1 hl1 hv1
  refine m.frame' I.heap hcell1 ?_ ?_
  · intro hid
    obtain ⟨hT, htab⟩ := vcell_tab hv1 hid
    exact I.post_of_new hl1 hT htab
  · intro h hv
    exact hne (I.mutex hl1 hl hv1 hv)

end Flurry.Proto.BinXC
