import Flurry.Lemmas.BinGNPInit
import Flurry.Lemmas.BinGNPInvQB
import Flurry.Lemmas.BinGNPFactsL
import Flurry.Lemmas.BinGNPFactsT1
import Flurry.Lemmas.BinGNPFactsT2
import Flurry.Lemmas.BinGNPFactsK
import Flurry.Lemmas.BinGNPFactsX
import Flurry.Lemmas.BinGNPPlanSep
import Flurry.Lemmas.BinGNPShape
import Flurry.Lemmas.BinGNGenReach
import Flurry.Lemmas.BinGNPLinQ
/-! # What BinGNP proves of a state of BinGN, as one bundle

`stepN_facts` is the case split over the transitions `StepN`: for each it calls the per-transition lemma — of
`Lemmas/BinGNPInvQ*.lean` (quiet transitions), `Lemmas/BinGNPFactsL.lean`, `BinGNPFactsT1.lean`, `BinGNPFactsT2.lean`,
`BinGNPFactsK.lean` (the stores of list and tree writers, treeify, untreeify), `Lemmas/BinGNPFactsX.lean` (the
resizes) — and concludes `Eff s s'` (structural invariant, `KStep` of every key, frame facts for the lock-protocol
readers) and the kind of step the transition is for the ghost trace of a key (`StepKind`, `Lemmas/BinGNPLinQ.lean`:
which frame of threads, clock and history, what the acting thread knows before and after, the effect on `absOf`). It
takes `Inv s`, `PubRead s` (for `eff_move`), `PlanSep s` (for the two child stores) and the generation structure
`XShape s'` of the successor state. As far as `Eff` and the ghost invariant go, a new transition of `StepN` is entered
here and only here, with its lemma and its kind: `Bundle.stepN`, `Bundle.nocall_abs` and `ginv_step`
(`Lemmas/BinGNPLin.lean`) read their conclusions off this one.

`Bundle u`: `Inv u` together with the invariants of the generation structure that this step lemma asks for
(`GenInv`, `NextEmpty`, `PreInv`, `FreshInv`) and with `ResX` (while `resizing` is set some thread is the resizing
thread). `Bundle.stepN`: every transition of BinGN's normal form preserves it. The
parts need each other: the shape half of `GenInv u'` (`BinGN.stepN_shape`), `NextEmpty u'` and `PreInv u'` follow from the
bundle at `u` and give `XShape u'`, hence `Inv u'`; the lock half of `GenInv u'` is then read off `Inv u'`
(`geninv_of`), so who holds which lock word is proved once, in `Inv`.
`Bundle.nocall_abs`: a thread without a call in flight changes no abstract state; `Bundle.setNow`: only the stamps of
`TInv` look at the clock, so the bundle survives setting it back. `Proto/BinGN` carries `Bundle` along its own runs
(`reachable_bundle`, `Lemmas/BinGNPLin.lean`), its sub-models (`Proto/BinG`, `Proto/BinK`) on the image of their states
(`Lemmas/BinGEmbedMain.lean`, `Lemmas/BinKEmbedMain.lean`). -/
namespace Flurry.Proto.BinGNP
open Flurry.Lin

/-- `X` is built from `tick s`, whose clock is `s.now + 1` by `rfl`: `f` is one of the four frames of `Lemmas/BinGNPPlan.lean` at `tick s` -/
theorem Next.setT {s X : State} {t : Nat} {l' : Local}
    (f : X.threads = s.threads ∧ X.hist = s.hist ∧ X.now = s.now + 1) : Next s t l' [] (setT X t l') :=
  ⟨by show X.threads.set t l' = _; rw [f.1], f.2.2, f.2.1⟩

theorem stepN_facts {s s' : State} {t : Nat} {l : Local} (I : Inv s) (P : PubRead s) (PS : PlanSep s)
    (hl : s.threads[t]? = some l) (hs : StepN s t l s') (XS' : XShape s') : Eff s s' ∧ StepKind s t l s' := by
  -- the per-transition lemma gives `Eff` and the effect on `absOf`, which is the last field of the kind;
  -- `⟨rfl, rfl, rfl⟩` is the frame `Next` of a successor state that is a structure update
  cases hs with
  | idle hpc => exact (eff_idle I hl hpc XS').imp_right (.nocall (call_none_of_idle I.thr hl hpc) ⟨rfl, rfl, rfl⟩)
  | maint k hpc => exact (eff_maint I hl k hpc XS').imp_right (.nocall (call_none_of_idle I.thr hl hpc) ⟨rfl, rfl, rfl⟩)
  | resizeStart hpc hr =>
    exact (eff_resizeStart I hl hpc hr XS').imp_right (.nocall (call_none_of_idle I.thr hl hpc) ⟨rfl, rfl, rfl⟩)
  | invoke k op lo hpc => exact (eff_invoke I hl k op lo hpc XS').imp_right (.invoke hpc ⟨rfl, rfl, rfl⟩)
  | move p pc' hp hpc hm => exact (eff_move I P hl hpc hm XS').imp_right (.move hpc hm ⟨rfl, rfl, rfl⟩)
  | bmove p pc' tb hpc hm => exact (eff_bmove I hl hpc hm XS').imp_right (.bmove hpc hm ⟨rfl, rfl, rfl⟩)
  | kmove pc' hp hc hm => exact (eff_kmove I hl hc hm XS').imp_right (.nocall hc ⟨rfl, rfl, rfl⟩)
  | kbmove pc' tb hc hm => exact (eff_kbmove I hl hc hm XS').imp_right (.nocall hc ⟨rfl, rfl, rfl⟩)
  | fin p res hp hpc hf => exact (eff_fin I hl hpc hf XS').imp_right (.fin hpc hf ⟨rfl, rfl, rfl⟩)
  | bfin p res tb hpc hf => exact (eff_bfin I hl hpc hf XS').imp_right (.bfin hpc hf ⟨rfl, rfl, rfl⟩)
  | cas p tab v vi hp hpc he hop =>
    exact (cas_facts I hl hp hpc he hop XS').imp_right fun h =>
      .complete hp (by rw [hpc]; rfl) (by rw [hpc]; rfl) ⟨rfl, rfl, rfl⟩ h.1 h.2
  | store p tab h pred hit hnext hp hpc =>
    exact (store_facts I hl hp hpc XS').imp_right fun h =>
      .point hp (by rw [hpc]; rfl) (by rw [hpc]; rfl) (.setT (storeAt_frame (tick s) tab p pred hit hnext)) rfl rfl h.1 h.2
  | tval p tab b i v res hp hpc =>
    exact (tval_facts I hl hp hpc XS').imp_right fun h =>
      .point hp (by rw [hpc]; rfl) (by rw [hpc]; rfl) ⟨rfl, rfl, rfl⟩ rfl rfl h.1 h.2
  | prepend p tab b v vi hp hpc hop =>
    exact (prepend_facts I hl hp hpc hop XS').imp_right fun h =>
      .point hp (by rw [hpc]; rfl) (by rw [hpc]; rfl) ⟨rfl, rfl, rfl⟩ rfl rfl h.1 h.2
  | treeLink p tab b x hp hpc =>
    exact (treeLink_facts I hl hp hpc XS').imp_right (.silent ⟨rfl, rfl, rfl⟩ (by rw [hpc]; rfl) rfl)
  | unlink p tab b i res small hp hpc =>
    exact (unlink_facts small I hl hp hpc XS').imp_right fun h =>
      .point (res := res) hp (by rw [hpc]; rfl) (by rw [hpc]; rfl) (.setT (unlinkOf_frame (tick s) b i))
        (by cases small <;> rfl) (by cases small <;> rfl) h.1 h.2
  | untree p tab b i res hp hpc =>
    exact (untree_facts I hl hp hpc XS').imp_right (.silent ⟨rfl, rfl, rfl⟩ (by rw [hpc]; rfl) rfl)
  | untreeify p tab b res hp hpc =>
    exact (untreeify_facts I hl hp hpc XS').imp_right (.silent ⟨rfl, rfl, rfl⟩ (by rw [hpc]; rfl) rfl)
  | kbuild tab k h hc hpc => exact (kbuild_facts I hl hc hpc XS').imp_right (.nocall hc ⟨rfl, rfl, rfl⟩)
  | kstore tab k h b hc hpc => exact (kstore_facts I hl hc hpc XS').imp_right (.nocall hc ⟨rfl, rfl, rfl⟩)
  | xcasMoved j hc hpc h0 => exact (xcasMoved_facts I hl hc hpc h0 XS').imp_right (.nocall hc ⟨rfl, rfl, rfl⟩)
  | xbuild j h hc hpc => exact (xbuild_facts I hl hc hpc XS').imp_right (.nocall hc ⟨rfl, rfl, rfl⟩)
  | ybuild j b small small2 hc hpc =>
    exact (ybuild_facts small small2 I hl hc hpc XS').imp_right
      (.nocall hc (.setT (ysplitOf_frame (tick s) b small small2)))
  | xstoreLow j unl lo hi hc hpc => exact (xstoreLow_facts I hl hc hpc PS XS').imp_right (.nocall hc ⟨rfl, rfl, rfl⟩)
  | xstoreHigh j unl hi hc hpc => exact (xstoreHigh_facts I hl hc hpc PS XS').imp_right (.nocall hc ⟨rfl, rfl, rfl⟩)
  | xstoreMoved j unl hc hpc => exact (xstoreMoved_facts I hl hc hpc XS').imp_right (.nocall hc ⟨rfl, rfl, rfl⟩)
  | xcommit hc hpc => exact (eff_xcommit I hl hc hpc XS').imp_right (.nocall hc ⟨rfl, rfl, rfl⟩)

/-- what BinGNP proves of a state of BinGN transition by transition: the structural invariant and the invariants of
the generation structure that its step lemma asks for -/
structure Bundle (u : State) : Prop where
  inv : Inv u
  gen : BinGN.GenInv u
  next : BinGN.NextEmpty u
  pre : BinGN.PreInv u
  fresh : BinGN.FreshInv u
  resX : BinGN.ResX u

theorem Bundle.init (n : Nat) : Bundle (init n) :=
  ⟨init_inv n, BinGN.init_geninv n, BinGN.init_nextEmpty n, BinGN.init_preInv n, BinGN.init_freshInv n,
    fun h => nomatch h⟩

theorem Bundle.stepN {u u' : State} {t : Nat} {l : Local} (j : Bundle u) (hl : u.threads[t]? = some l)
    (h : StepN u t l u') : Bundle u' := by
  have S' := BinGN.stepN_shape j.gen hl h
  have N' := BinGN.stepN_nextEmpty j.gen j.next hl h
  have P' := BinGN.stepN_preInv j.gen j.pre hl h
  have I' := (stepN_facts j.inv (pubRead_of j.inv j.fresh) (planSep_of j.inv j.fresh) hl h
    (xshape_of S' N' P')).1.inv
  exact ⟨I', geninv_of S' I', N', P', BinGN.stepN_freshInv j.gen j.fresh hl h, BinGN.stepN_resX j.resX hl h⟩

/-! ## the clock

Of all these only `TInv.histTime` / `pendTime` look at the clock; the clauses that are defined by cases on the program
counter have to be taken apart for Lean to see it. `copyOK_setNow` and `Bundle.setNow` list the clauses of `CopyOK`,
`HInv`, `TInv`, `XInv`, `LInv`, `DInv`, `GenInv`, `POK`, `FreshInv` by position: a clause added to one of them is added
here too. -/

theorem copyOK_setNow {u : State} {old C : Cell} {sel : Nat → Bool} (m : Nat)
    (h : CopyOK u old sel C) : CopyOK { u with now := m } old sel C :=
  ⟨h.notMoved, h.cinv, h.cellOK, h.chainOwner, h.selOK, h.src, h.cover, h.suffix, h.order, h.fresh⟩

theorem plan_setNow {u : State} {j : Nat} {lo hi : Cell} (m : Nat) (h : Plan u j lo hi) :
    Plan { u with now := m } j lo hi :=
  ⟨copyOK_setNow m h.low, copyOK_setNow m h.high, h.distinct⟩

theorem xpc_setNow {u : State} {pc : Pc} (m : Nat) (h : XPc u pc) :
    XPc { u with now := m } pc := by
  cases pc with
  | xStoreLow j unl lo hi => exact plan_setNow m h
  | xStoreHigh j unl hi => exact plan_setNow m h
  | xStoreMoved j unl => exact plan_setNow m h
  | _ => trivial

theorem kinv_setNow {u : State} {pc : Pc} (m : Nat) (h : KInv u pc) :
    KInv { u with now := m } pc := by
  cases pc with
  | kStore g k h0 b => exact ⟨copyOK_setNow m h.1, h.2⟩
  | _ => trivial

theorem pcInv_setNow {u : State} {p : Pending} {pc : Pc} (m : Nat) (h : PcInv u p pc) :
    PcInv { u with now := m } p pc := by
  cases pc with
  | lrTry g b k res => cases k <;> exact h
  | lrLoop g b k res => cases k <;> exact h
  | rNode c => cases c <;> exact h
  | rState b c => cases c <;> exact h
  | lNode c => cases c <;> exact h
  | _ => exact h

theorem Bundle.setNow {u : State} (j : Bundle u) (m : Nat) (hh : ∀ x ∈ u.hist, x.2.resp ≤ m)
    (hp : ∀ (t : Nat) (l : Local) (p : Pending), u.threads[t]? = some l → l.call = some p → p.inv ≤ m) :
    Bundle { u with now := m } := by
  obtain ⟨⟨H, T, X, L, D⟩, G, N, P, F, R⟩ := j
  exact ⟨⟨⟨H.cinv, H.ownerOK, H.firstOK, H.cellOK, H.chainOwner, H.side, H.binsDistinct⟩,
      ⟨T.opOK, T.callOK, fun x hx => ⟨(T.histTime x hx).1, hh x hx⟩, hp, T.uniqHP, T.uniqPP, T.uniqHH⟩,
      ⟨X.uniqX, X.resz, X.len, X.rows, X.old, X.newNotMoved, X.noResz, X.idx, X.pre, X.post, X.nextEmpty, X.tabNew,
        fun t l hl => xpc_setNow m (X.plan t l hl)⟩,
      ⟨L.lk, L.lkValid, L.vL, L.mx, L.mxValid, L.vT, L.bitsNone, L.bitsSome, L.rd, L.wrd, L.refOK⟩,
      ⟨fun t l p hl hc => pcInv_setNow m (D.pcInv t l p hl hc), fun t l hl => kinv_setNow m (D.kInv t l hl),
        D.treeSub, D.chainSub⟩⟩,
    ⟨G.len, G.rows, G.old, G.nextOK, G.curMoved, G.uniqX, G.bins,
      fun t1 l1 h1 => ⟨(G.thr t1 l1 h1).tres, (G.thr t1 l1 h1).gen, (G.thr t1 l1 h1).idx, (G.thr t1 l1 h1).commit,
        (G.thr t1 l1 h1).heldN, (G.thr t1 l1 h1).heldM, (G.thr t1 l1 h1).valid, (G.thr t1 l1 h1).plan⟩⟩,
    N, P, ⟨F.noCell, F.uniq, F.dist⟩, R⟩

/-- a thread without a call in flight changes no abstract state (`StepKind.nocall_abs`) -/
theorem Bundle.nocall_abs {u u' : State} {t : Nat} {l : Local} (j : Bundle u) (hl : u.threads[t]? = some l)
    (h : StepN u t l u') : l.call = none → ∀ k, absOf u' k = absOf u k :=
  (stepN_facts j.inv (pubRead_of j.inv j.fresh) (planSep_of j.inv j.fresh) hl h
    (j.stepN hl h).inv.rsz.shape).2.nocall_abs

theorem absOf_setNow (u : State) (m k : Nat) : absOf { u with now := m } k = absOf u k := by
  unfold absOf
  rw [liveCell_congr (s' := { u with now := m }) (s := u) rfl rfl k]
  rfl

end Flurry.Proto.BinGNP
