import Flurry.Lemmas.BinXCProj
/-! # `Proto/BinX` is `Proto/BinXC` without `clear`

`emb r : BinX.State → BinXC.State` maps a state of `Proto/BinX` to the same state of `Proto/BinXC`
with retired list `r` (a ghost field `Proto/BinX` does not have). `StepK.base`: every transition of
`Proto/BinX` is the transition of `Proto/BinXC` with the same name. The two models declare their node, cell, table and
program-counter types separately; `eN`, `eC`, `eT`, `eP`, `ePc`, `eL` are the identity maps from `Proto/BinX`'s to
`Proto/BinXC`'s, inverse to `cN`, `cC`, `cT` of `Lemmas/BinXCProj.lean`. `BinX.StepK` keeps the local state `l` fixed with
premises `l.pc = …`, `BinXC.StepK` is indexed by `⟨pc, call⟩`: hence the `cases hp; cases hpc` in `StepK.base`. -/
namespace Flurry.Proto.BinX
open Flurry.Lin

def eN (n : NodeS) : BinXC.NodeS := ⟨n.key, n.val, n.next, n.lock⟩

def eC : Cell → BinXC.Cell
  | .empty => .empty
  | .node h => .node h
  | .moved => .moved

def eT : Tab → BinXC.Tab
  | .old => .old
  | .new => .new

def eP (p : Pending) : BinXC.Pending := ⟨p.key, p.op, p.inv⟩

def ePc : Pc → BinXC.Pc
  | .idle => .idle
  | .rTable => .rTable
  | .rCell tab => .rCell (eT tab)
  | .rNode c => .rNode c
  | .wTable => .wTable
  | .wCell tab => .wCell (eT tab)
  | .wCas tab => .wCas (eT tab)
  | .wLock tab h => .wLock (eT tab) h
  | .wCheck tab h => .wCheck (eT tab) h
  | .wFind tab h pr c => .wFind (eT tab) h pr c
  | .wStore tab h pr hit hn => .wStore (eT tab) h pr hit hn
  | .wUnlock tab h r b => .wUnlock (eT tab) h r b
  | .tCell => .tCell
  | .tCasMoved => .tCasMoved
  | .tLock h => .tLock h
  | .tCheck h => .tCheck h
  | .tBuild h => .tBuild h
  | .tStoreLow h lo hg => .tStoreLow h lo hg
  | .tStoreHigh h hg => .tStoreHigh h hg
  | .tStoreMoved h => .tStoreMoved h
  | .tUnlock h => .tUnlock h
  | .tCommit => .tCommit

def eL (l : Local) : BinXC.Local := ⟨ePc l.pc, l.call.map eP⟩

def eH (x : Nat × Call) : Option Nat × Call := (some x.1, x.2)

def emb (r : List Nat) (s : State) : BinXC.State :=
  ⟨s.heap.map eN, eC s.cell0, eC s.lowCell, eC s.highCell, eT s.cur, s.resizing, s.threads.map eL,
    s.hist.map eH, r, s.now⟩

theorem emb_tick (r : List Nat) (s : State) : emb r (tick s) = BinXC.tick (emb r s) := rfl

theorem setT_emb (r : List Nat) (s : State) (t : Nat) (l : Local) :
    BinXC.setT (emb r s) t (eL l) = emb r (setT s t l) := by
  simp only [BinXC.setT, emb, setT, List.map_set]

theorem finish_emb (r : List Nat) (s : State) (t : Nat) (p : Pending) (res : KRes) :
    BinXC.finish (emb r s) t (eP p) res = emb r (finish s t p res) := by
  simp only [BinXC.finish, BinXC.setT, emb, finish, setT, List.map_set, List.map_cons]
  rfl

theorem setNode_emb (r : List Nat) (s : State) (i : Nat) (f : NodeS → NodeS) (f' : BinXC.NodeS → BinXC.NodeS)
    (hf : ∀ a, eN (f a) = f' (eN a)) : BinXC.setNode (emb r s) i f' = emb r (setNode s i f) := by
  simp only [BinXC.setNode, emb, setNode, BinXC.map_modify eN f f' hf]

theorem cellOf_emb (r : List Nat) (s : State) (tab : Tab) (k : Nat) :
    BinXC.cellOf (emb r s) (eT tab) k = eC (cellOf s tab k) := by
  cases tab with
  | old => rfl
  | new =>
    unfold BinXC.cellOf cellOf eT
    show (if hiBit k = true then _ else _) = _
    split <;> rfl

theorem setCell_emb (r : List Nat) (s : State) (tab : Tab) (k : Nat) (c : Cell) :
    BinXC.setCell (emb r s) (eT tab) k (eC c) = emb r (setCell s tab k c) := by
  cases tab with
  | old => rfl
  | new =>
    unfold BinXC.setCell setCell eT
    show (if hiBit k = true then _ else _) = _
    split <;> rfl

theorem eC_eq {a : Cell} {b : BinXC.Cell} : eC a = b ↔ a = BinXC.cC b := by
  cases a <;> cases b <;> simp [eC, BinXC.cC]

theorem eC_cellOfHead (x : Option Nat) : eC (cellOfHead x) = BinXC.cellOfHead x := by cases x <;> rfl

theorem cell_emb {r : List Nat} {s : State} {tab : Tab} {k : Nat} {c : Cell} (h : cellOf s tab k = c) :
    BinXC.cellOf (emb r s) (eT tab) k = eC c := by rw [cellOf_emb, h]

theorem thr_emb {r : List Nat} {s : State} {t : Nat} {l : Local} (hl : s.threads[t]? = some l) :
    (emb r s).threads[t]? = some (eL l) := by
  rw [emb, List.getElem?_map, hl]; rfl

theorem node_emb {r : List Nat} {s : State} {c : Nat} {n : NodeS} (hn : s.heap[c]? = some n) :
    (emb r s).heap[c]? = some (eN n) := by
  rw [emb, List.getElem?_map, hn]; rfl

theorem emb_push (r : List Nat) (s : State) (n : NodeS) :
    emb r { s with heap := s.heap ++ [n] } = { emb r s with heap := (emb r s).heap ++ [eN n] } := by
  simp only [emb, List.map_append, List.map_cons, List.map_nil]

theorem emb_len (r : List Nat) (s : State) : (emb r s).heap.length = s.heap.length := List.length_map _

theorem getD_emb (r : List Nat) (s : State) (i : Nat) : (emb r s).heap.getD i BinXC.dflt = eN (s.heap.getD i dflt) :=
  by
  show (s.heap.map eN).getD i (eN dflt) = _
  rw [List.getD_eq_getElem?_getD, List.getD_eq_getElem?_getD, List.getElem?_map]
  cases s.heap[i]? <;> rfl

theorem appendAt_emb (r : List Nat) (s : State) (tab : Tab) (key : Nat) (pred : Option Nat) (v : Nat × Nat) :
    BinXC.appendAt (emb r s) (eT tab) key pred v = emb r (appendAt s tab key pred v) := by
  unfold BinXC.appendAt appendAt
  rw [emb_len]
  cases pred with
  | none =>
    exact (congrArg (BinXC.setCell · _ key (.node s.heap.length)) (emb_push r s ⟨key, v, none, none⟩).symm).trans
      (setCell_emb r _ tab key (.node s.heap.length))
  | some l =>
    exact (congrArg (BinXC.setNode · l _) (emb_push r s ⟨key, v, none, none⟩).symm).trans
      (setNode_emb r _ l _ _ fun _ => rfl)

theorem unlinkAt_emb (r : List Nat) (s : State) (tab : Tab) (key : Nat) (pred hnext : Option Nat) :
    BinXC.unlinkAt (emb r s) (eT tab) key pred hnext = emb r (unlinkAt s tab key pred hnext) := by
  unfold BinXC.unlinkAt unlinkAt
  cases pred with
  | some pr => exact setNode_emb r s pr _ _ fun _ => rfl
  | none =>
    cases hnext with
    | none => exact setCell_emb r s tab key .empty
    | some x => exact setCell_emb r s tab key (.node x)

theorem storeAt_emb (r : List Nat) (s : State) (tab : Tab) (p : Pending) (pred hit hnext : Option Nat) :
    BinXC.storeAt (emb r s) (eT tab) (eP p) pred hit hnext =
      (emb r (storeAt s tab p pred hit hnext).1, (storeAt s tab p pred hit hnext).2) := by
  obtain ⟨key, op, inv⟩ := p
  have hv : ∀ i, ((emb r s).heap.getD i BinXC.dflt).val = (s.heap.getD i dflt).val := fun i => by rw [getD_emb]; rfl
  cases op <;> cases hit
  case ins.some v vi i =>
    exact Prod.ext (setNode_emb r s i _ _ fun _ => rfl) (congrArg (fun x => resOf (some x)) (hv i))
  case cipInc.some nvi i =>
    show (BinXC.setNode (emb r s) i (fun m => { m with val := (((emb r s).heap.getD i BinXC.dflt).val.1 + 1, nvi) }),
      KRes.some (((emb r s).heap.getD i BinXC.dflt).val.1 + 1) nvi) = _
    rw [hv i]
    exact Prod.ext (setNode_emb r s i _ _ fun _ => rfl) rfl
  case tryIns.some v vi i =>
    show (emb r s, KRes.exists_ ((emb r s).heap.getD i BinXC.dflt).val.1 ((emb r s).heap.getD i BinXC.dflt).val.2) = _
    rw [hv i]; rfl
  case rm.some i =>
    exact Prod.ext (unlinkAt_emb r s tab key pred hnext) (congrArg (fun x => resOf (some x)) (hv i))
  all_goals first
    | rfl
    | exact Prod.ext (appendAt_emb r s tab key pred _) rfl
    | exact Prod.ext (unlinkAt_emb r s tab key pred hnext) rfl

theorem map_cN_eN (heap : List NodeS) : (heap.map eN).map BinXC.cN = heap := by
  rw [List.map_map]; exact List.map_id' heap

theorem map_eN_cN (heap : List BinXC.NodeS) : (heap.map BinXC.cN).map eN = heap := by
  rw [List.map_map]; exact List.map_id' heap

theorem chainFrom_emb (heap : List NodeS) (fuel : Nat) (st : Option Nat) :
    BinXC.chainFrom (heap.map eN) fuel st = chainFrom heap fuel st := by
  rw [← BinXC.chainFrom_map, map_cN_eN]

/-- the split of the image is the image of the split: from `BinXC.splitBin_mem`, as `eN` and `cN` are inverse -/
theorem splitBin_emb (heap : List NodeS) (c : List Nat) :
    BinXC.splitBin (heap.map eN) c = ((splitBin heap c).1.map eN, (splitBin heap c).2) := by
  have h := BinXC.splitBin_mem (heap.map eN) c
  rw [map_cN_eN] at h
  rw [h, map_eN_cN]

theorem isReader_emb (op : KOp) : BinXC.isReader op = isReader op := by cases op <;> rfl

theorem Move.base {r : List Nat} {s : State} {p : Pending} {pc pc' : Pc} (h : Move s p pc pc') :
    BinXC.Move (emb r s) (eP p) (ePc pc) (ePc pc') := by
  cases h with
  | rTable => exact .rTable
  | rCellMoved hc => exact .rCellMoved (cell_emb hc)
  | rCellNode hc => exact .rCellNode (cell_emb hc)
  | rNext hn hk => exact .rNext (node_emb hn) hk
  | wTable => exact .wTable
  | wCellEmpty hc hi => exact .wCellEmpty (cell_emb hc) hi
  | wCellMoved hc => exact .wCellMoved (cell_emb hc)
  | wCellNode hc => exact .wCellNode (cell_emb hc)
  | casFail => exact .casFail
  | checkOk hc => exact .checkOk (cell_emb hc)
  | checkFail hc => exact .checkFail fun h => hc (by rw [cellOf_emb] at h; exact eC_eq.1 h)
  | findEnd => exact .findEnd
  | findHit hn hk => exact .findHit (node_emb hn) hk
  | findNext hn hk => exact .findNext (node_emb hn) hk

theorem TMove.base {r : List Nat} {s : State} {pc pc' : Pc} (h : TMove s pc pc') :
    BinXC.TMove (emb r s) (ePc pc) (ePc pc') := by
  cases h with
  | cellEmpty hc => exact .cellEmpty (congrArg eC hc)
  | cellNode hc => exact .cellNode (congrArg eC hc)
  | cellMoved hc => exact .cellMoved (congrArg eC hc)
  | casFail hc => exact .casFail fun h => hc (eC_eq.1 h)
  | checkOk hc => exact .checkOk (congrArg eC hc)

theorem LockMove.base {r : List Nat} {s : State} {t h : Nat} {x : Option Nat} {pc pc' : Pc}
    (hm : LockMove s t pc h x pc') : BinXC.LockMove (emb r s) t (ePc pc) h x (ePc pc') := by
  cases hm with
  | lock hn hlk => exact .lock (node_emb hn) hlk
  | unlockRetry => exact .unlockRetry

theorem TLockMove.base {r : List Nat} {s : State} {t h : Nat} {x : Option Nat} {pc pc' : Pc}
    (hm : TLockMove s t pc h x pc') : BinXC.TLockMove (emb r s) t (ePc pc) h x (ePc pc') := by
  cases hm with
  | lock hn hlk => exact .lock (node_emb hn) hlk
  | checkFail hc => exact .checkFail fun h => hc (eC_eq.1 h)
  | unlock => exact .unlock

theorem Fin.base {r : List Nat} {s : State} {p : Pending} {pc : Pc} {res : KRes} (h : Fin s p pc res) :
    BinXC.Fin (emb r s) (eP p) (ePc pc) res := by
  cases h with
  | rEmpty hc => exact .rEmpty (cell_emb hc)
  | miss => exact .miss
  | hit hn hk => exact .hit (node_emb hn) hk
  | wEmpty hc hi => exact .wEmpty (cell_emb hc) hi

/-- the retired list after the store of a writer -/
def retR (r : List Nat) (op : KOp) (hit : Option Nat) : List Nat :=
  match op, hit with
  | .rm, some i | .cipRm, some i => i :: r
  | _, _ => r

theorem retireHit_emb (r : List Nat) (s : State) (op : KOp) (hit : Option Nat) :
    BinXC.retireHit (emb r s) op hit = emb (retR r op hit) s := by
  cases op <;> cases hit <;> rfl

theorem StepK.base {s s' : State} {t : Nat} {l : Local} (r : List Nat) (h : StepK s t l s') :
    ∃ r', BinXC.StepK (emb r s) t (eL l) (emb r' s') := by
  obtain ⟨pc, call⟩ := l
  cases h with
  | idle hpc => cases hpc; exact ⟨r, by rw [← setT_emb]; exact .idle _⟩
  | invoke k op hpc =>
    cases hpc
    refine ⟨r, ?_⟩
    rw [← setT_emb]
    have := BinXC.StepK.invoke (s := emb r s) (t := t) (call.map eP) k op
    rw [isReader_emb] at this
    cases hr : isReader op <;> rw [hr] at this <;> exact this
  | resize hpc hres =>
    cases hpc
    refine ⟨r, ?_⟩
    show BinXC.StepK _ _ _ { emb r (setT (tick s) t ⟨.tCell, call⟩) with resizing := true }
    rw [← setT_emb]
    exact .resize _ hres
  | move p pc' hp hm => cases hp; exact ⟨r, by rw [← setT_emb]; exact .move _ _ _ hm.base⟩
  | tmove pc' hp hm => cases hp; exact ⟨r, by rw [← setT_emb]; exact .tmove _ _ hm.base⟩
  | lockMove p h x pc' hp hm =>
    cases hp
    refine ⟨r, ?_⟩
    rw [← setT_emb, ← setNode_emb r _ h _ (fun m => { m with lock := x }) fun _ => rfl]
    exact .lockMove _ _ h x _ hm.base
  | tlockMove h x pc' hp hm =>
    cases hp
    refine ⟨r, ?_⟩
    rw [← setT_emb, ← setNode_emb r _ h _ (fun m => { m with lock := x }) fun _ => rfl]
    exact .tlockMove _ h x _ hm.base
  | fin p res hp hf => cases hp; exact ⟨r, by rw [← finish_emb]; exact .fin _ _ _ hf.base⟩
  | cas p tab v vi hp hpc hc hop =>
    cases hp; cases hpc
    refine ⟨r, ?_⟩
    have := BinXC.StepK.cas (s := emb r s) (t := t) (eP p) (eT tab) v vi (cell_emb hc) hop
    rw [BinXC.casS, ← emb_tick, appendAt_emb, finish_emb] at this
    exact this
  | store p tab h pred hit hnext hp hpc =>
    cases hp; cases hpc
    refine ⟨retR r p.op hit, ?_⟩
    have := BinXC.StepK.store (s := emb r s) (t := t) (eP p) (eT tab) h pred hit hnext
    rw [BinXC.storeS, ← emb_tick, storeAt_emb] at this
    show BinXC.StepK _ _ _ (emb _ (setT _ t ⟨.wUnlock tab h _ false, some p⟩))
    rw [← setT_emb, ← retireHit_emb]
    exact this
  | unlockFin p tab h res hp hpc =>
    cases hp; cases hpc
    refine ⟨r, ?_⟩
    rw [← finish_emb, ← setNode_emb r _ h _ (fun m => { m with lock := none }) fun _ => rfl]
    exact .unlockFin _ _ h res
  | casMoved hp hpc hc =>
    cases hp; cases hpc
    refine ⟨r, ?_⟩
    show BinXC.StepK _ _ _ { emb r (setT (tick s) t ⟨.tCommit, none⟩) with cell0 := .moved }
    rw [← setT_emb]
    exact .casMoved (congrArg eC hc)
  | build h hp hpc =>
    cases hp; cases hpc
    refine ⟨r, ?_⟩
    have := BinXC.StepK.build (s := emb r s) (t := t) h
    rw [BinXC.buildS] at this
    simp only [show (emb r s).heap = s.heap.map eN from rfl, List.length_map, chainFrom_emb, splitBin_emb] at this
    rw [← setT_emb]
    exact this
  | storeLow h lo hg hp hpc =>
    cases hp; cases hpc
    refine ⟨r, ?_⟩
    show BinXC.StepK _ _ _ { emb r (setT (tick s) t ⟨.tStoreHigh h hg, none⟩) with lowCell := eC (cellOfHead lo) }
    rw [← setT_emb, eC_cellOfHead]
    exact .storeLow h lo hg
  | storeHigh h hg hp hpc =>
    cases hp; cases hpc
    refine ⟨r, ?_⟩
    show BinXC.StepK _ _ _ { emb r (setT (tick s) t ⟨.tStoreMoved h, none⟩) with highCell := eC (cellOfHead hg) }
    rw [← setT_emb, eC_cellOfHead]
    exact .storeHigh h hg
  | storeMoved h hp hpc =>
    cases hp; cases hpc
    refine ⟨BinXC.copiedOf (emb r s) h ++ r, ?_⟩
    show BinXC.StepK _ _ _ { emb r (setT (tick s) t ⟨.tUnlock h, none⟩) with
      cell0 := .moved, retired := BinXC.copiedOf (emb r s) h ++ r }
    rw [← setT_emb]
    exact .storeMoved h
  | commit hp hpc =>
    cases hp; cases hpc
    refine ⟨r, ?_⟩
    show BinXC.StepK _ _ _ { emb r (setT (tick s) t ⟨.idle, none⟩) with cur := .new }
    rw [← setT_emb]
    exact .commit

end Flurry.Proto.BinX
