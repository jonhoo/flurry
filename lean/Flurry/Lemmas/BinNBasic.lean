import Flurry.Lemmas.BinNHMBasic
/-! # Proto/BinN: basic consequences of the heap invariant (C01, C10)

The lemmas of `Lemmas/BinNHMBasic.lean`, read through `BinNHM.toM`; `midIdx_some` opens `midIdx`. -/
namespace Flurry.Proto.BinN
open Flurry.Lin
open Flurry.Proto.BinX (IsChain cellHead)

namespace Shape
variable {s : State}

theorem cell_next_of_not_resizing (S : Shape s) (hr : s.resizing = false) (j : Nat) :
    cellAt s (s.cur + 1) j = .empty := BinNHM.Shape.cell_next_of_not_resizing S hr j

end Shape

namespace HInv
variable {s : State} {G : Ghost}

theorem isChain (H : HInv s G) (id : CellId) : IsChain s.heap (cellHead (getCell s id)) (chId s id) := H.toM.isChain id

theorem chain_lt (H : HInv s G) {id : CellId} {i : Nat} (hi : i ∈ chId s id) : i < s.heap.length := H.toM.chain_lt hi

theorem chain_nodup (H : HInv s G) (id : CellId) : (chId s id).Nodup := H.toM.chain_nodup id

theorem liveCell_eq (H : HInv s G) (k : Nat) : liveCell s k = getCell s (liveId s k) := H.toM.liveCell_eq k

theorem LC_eq (H : HInv s G) (k : Nat) : LC s k = chId s (liveId s k) := H.toM.LC_eq k

end HInv

theorem midIdx_some {G : Ghost} {j : Nat} (h : midIdx G = some j) : ∃ lo hg, G.mid = some (j, lo, hg) := by
  unfold midIdx at h
  cases hm : G.mid with
  | none => rw [hm] at h; cases h
  | some x =>
    obtain ⟨j', lo, hg⟩ := x
    rw [hm] at h
    simp only [Option.map_some, Option.some.injEq] at h
    subst h
    exact ⟨lo, hg, rfl⟩

theorem HInv.disjoint {s : State} {G : Ghost} (H : HInv s G) {id id' : CellId} (act : Active s G id)
    (hne : id' ≠ id) {i : Nat} (hi : i ∈ chId s id) : i ∉ chId s id' :=
  H.toM.disjoint (BinNHM.active_toM.2 act) hne hi

theorem HInv.liveId_of_active {s : State} {G : Ghost} (H : HInv s G) {id : CellId} (act : Active s G id)
    {k : Nat} (hk : keyOn id k) : liveId s k = id :=
  H.toM.liveId_of_active (BinNHM.active_toM.2 act) hk

theorem HInv.liveId_ne_of_active {s : State} {G : Ghost} (_H : HInv s G) {id : CellId} (_act : Active s G id)
    {k : Nat} (hk : ¬ keyOn id k) : liveId s k ≠ id :=
  _H.toM.liveId_ne_of_active (BinNHM.active_toM.2 _act) hk

end Flurry.Proto.BinN
