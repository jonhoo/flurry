import Flurry.Lemmas.ResizeBasic
import Flurry.Lemmas.ResizeInv
import Flurry.Lemmas.ResizeThms
import Flurry.Lemmas.ResizeProgress
import Flurry.Lemmas.ResizeExamples

