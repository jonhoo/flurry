import Flurry.Lemmas.BinNGenDefs
import Flurry.Lemmas.BinXBasic
import Flurry.Lemmas.GhostView
/-! # Proto/BinN: times, operations and program counters fit (`TInv`) in every reachable state

The part of the invariant that does not look at the heap or the tables (as `BinX.TInv`): the operation of a pending
call fits the program counter, a thread has a call iff its program counter is one of a call, time
stamps are ordered, invocation times are unique. `view` is how `Lemmas/GhostView` reads a thread of this model
(`resOfPc`: a writer that has stored has its result); `TInv` is `GhostView.Threads` at `view` plus `callOK`
(`TInv.gen`, `TInv.of_gen`), so its preservation is `Threads.step` in three forms: `tinv_keep`, `tinv_invoke`,
`tinv_finish`. -/
namespace Flurry.Proto.BinN
open Flurry.Lin
open Flurry.Proto.BinX (NodeS Cell Pending isReader dflt chainFrom cellHead cellOfHead get_set get_set_self get_set_ne)

def PcOp : Pc → KOp → Prop
  | .rTable, op => isReader op = true
  | .rCell _, op => isReader op = true
  | .rNode _, op => isReader op = true
  | .wTable, op => isReader op = false
  | .wCell _, op => isReader op = false
  | .wCas _, op => isReader op = false
  | .wLock _ _, op => isReader op = false
  | .wCheck _ _, op => isReader op = false
  | .wFind _ _ _ _, op => isReader op = false
  | .wStore _ _ _ _ _, op => isReader op = false
  | .wUnlock _ _ _ _, op => isReader op = false
  | _, _ => True

/-- program counters of a call in flight -/
def isOp : Pc → Prop
  | .rTable | .rCell _ | .rNode _ | .wTable | .wCell _ | .wCas _ | .wLock _ _ | .wCheck _ _
  | .wFind _ _ _ _ | .wStore _ _ _ _ _ | .wUnlock _ _ _ _ => True
  | _ => False

structure TInv (s : State) : Prop where
  opOK : ∀ (t : Nat) (l : Local) (p : Pending), s.threads[t]? = some l → l.call = some p → PcOp l.pc p.op
  callOK : ∀ (t : Nat) (l : Local), s.threads[t]? = some l → (isOp l.pc ↔ l.call.isSome)
  histTime : ∀ x ∈ s.hist, x.2.inv ≤ x.2.resp ∧ x.2.resp ≤ s.now
  pendTime : ∀ (t : Nat) (l : Local) (p : Pending), s.threads[t]? = some l → l.call = some p → p.inv ≤ s.now
  uniqHP : ∀ x ∈ s.hist, ∀ (t : Nat) (l : Local) (p : Pending), s.threads[t]? = some l → l.call = some p →
    x.2.inv ≠ p.inv
  uniqPP : ∀ (t t' : Nat) (l l' : Local) (p p' : Pending), s.threads[t]? = some l → s.threads[t']? = some l' →
    l.call = some p → l'.call = some p' → p.inv = p'.inv → t = t'
  uniqHH : s.hist.Pairwise (fun x y => x.2.inv ≠ y.2.inv)

/-- the result of a writer that has stored and only has to unlock -/
def resOfPc : Pc → Option KRes
  | .wUnlock _ _ res false => some res
  | _ => none

/-- how the ghost layer reads a thread -/
@[reducible] def view : GhostView.View Local Pending KOp KRes :=
  ⟨Local.call, fun l => resOfPc l.pc, Pending.key, Pending.op, Pending.inv⟩

theorem TInv.gen {s : State} (T : TInv s) :
    GhostView.Threads Lin.sig view (fun l p => PcOp l.pc p.op) s.threads s.hist s.now :=
  ⟨T.opOK, T.histTime, T.pendTime, T.uniqHP, T.uniqPP, T.uniqHH⟩

/-- `TInv` is `GhostView.Threads` plus the clause that a thread has a call iff its program counter is one of a call -/
theorem TInv.of_gen {s : State}
    (T : GhostView.Threads Lin.sig view (fun l p => PcOp l.pc p.op) s.threads s.hist s.now)
    (hc : ∀ (t : Nat) (l : Local), s.threads[t]? = some l → (isOp l.pc ↔ l.call.isSome)) : TInv s :=
  ⟨T.opOK, hc, T.histTime, T.pendTime, T.uniqHP, T.uniqPP, T.uniqHH⟩

theorem TInv.callOK_set {s s' : State} {t : Nat} {l' : Local} (T : TInv s)
    (hthr : s'.threads = s.threads.set t l') (h : isOp l'.pc ↔ l'.call.isSome) :
    ∀ (t1 : Nat) (l1 : Local), s'.threads[t1]? = some l1 → (isOp l1.pc ↔ l1.call.isSome) := by
  intro t1 l1 h1
  rw [hthr] at h1
  rcases get_set h1 with ⟨rfl, rfl⟩ | ⟨_, h1⟩
  · exact h
  · exact T.callOK t1 l1 h1

theorem tinv_keep {s s' : State} {t : Nat} {l l' : Local} (T : TInv s)
    (hl : s.threads[t]? = some l) (hthr : s'.threads = s.threads.set t l') (hnow : s'.now = s.now + 1)
    (hhist : s'.hist = s.hist) (hcall : l'.call = l.call)
    (hpc : ∀ p, l.call = some p → PcOp l'.pc p.op) (hop : isOp l'.pc ↔ isOp l.pc) : TInv s' :=
  .of_gen (T.gen.step (hnew := []) hl hthr hnow hhist (fun p (h : l'.call = some p) => hpc p (hcall ▸ h))
    (fun p (h : l'.call = some p) => Or.inl (show l.call = some p from hcall ▸ h)) (fun _ h => nomatch h))
    (T.callOK_set hthr (by rw [hop, hcall]; exact T.callOK _ l hl))

theorem tinv_invoke {s s' : State} {t : Nat} {l l' : Local} {k : Nat} {op : KOp} (T : TInv s)
    (hl : s.threads[t]? = some l) (hthr : s'.threads = s.threads.set t l') (hnow : s'.now = s.now + 1)
    (hhist : s'.hist = s.hist) (hcall : l'.call = some ⟨k, op, s.now + 1⟩)
    (hpc : PcOp l'.pc op) (hop : isOp l'.pc) : TInv s' := by
  refine .of_gen (T.gen.step (hnew := []) hl hthr hnow hhist ?_ ?_ (fun _ h => nomatch h))
    (T.callOK_set hthr (by rw [hcall]; exact ⟨fun _ => rfl, fun _ => hop⟩))
  · intro p (h : l'.call = some p); rw [hcall] at h; cases h; exact hpc
  · intro p (h : l'.call = some p); rw [hcall] at h; cases h; exact Or.inr rfl

theorem tinv_finish {s s' : State} {t : Nat} {l l' : Local} {p : Pending} {res : KRes} (T : TInv s)
    (hl : s.threads[t]? = some l) (hp : l.call = some p)
    (hthr : s'.threads = s.threads.set t l') (hnow : s'.now = s.now + 1)
    (hhist : s'.hist = (p.key, ⟨t, p.op, res, p.inv, s.now + 1⟩) :: s.hist) (hcall : l'.call = none)
    (hop : ¬ isOp l'.pc) : TInv s' := by
  refine .of_gen (T.gen.step (hnew := [(p.key, (⟨t, p.op, res, p.inv, s.now + 1⟩ : Call))]) hl hthr hnow hhist ?_ ?_ ?_)
    (T.callOK_set hthr (by rw [hcall]; exact ⟨fun h => absurd h hop, fun h => by cases h⟩))
  · intro q (h : l'.call = some q); rw [hcall] at h; cases h
  · intro q (h : l'.call = some q); rw [hcall] at h; cases h
  · intro x hx; cases List.mem_singleton.1 hx; exact ⟨rfl, hcall, rfl, p, hp, rfl⟩

/-- `TInv` only looks at the threads, the history and the clock -/
theorem tinv_of_frame {s s1 s' : State} (T : TInv s1) (h1 : s1.threads = s.threads) (h2 : s1.hist = s.hist)
    (h3 : s1.now = s.now) (hs' : s'.threads = s.threads ∧ s'.hist = s.hist ∧ s'.now = s.now) : TInv s' := by
  obtain ⟨e1, e2, e3⟩ := hs'
  exact ⟨by rw [e1, ← h1]; exact T.opOK, by rw [e1, ← h1]; exact T.callOK, by rw [e2, e3, ← h2, ← h3]; exact T.histTime,
    by rw [e1, e3, ← h1, ← h3]; exact T.pendTime, by rw [e1, e2, ← h1, ← h2]; exact T.uniqHP,
    by rw [e1, ← h1]; exact T.uniqPP, by rw [e2, ← h2]; exact T.uniqHH⟩

theorem Move.isOp {s : State} {p : Pending} {pc pc' : Pc} (hm : Move s p pc pc') :
    isOp pc' ∧ isOp pc ∧ ¬ isT pc ∧ ¬ isT pc' := by
  cases hm <;> exact ⟨trivial, trivial, id, id⟩

theorem Move.pcOp {s : State} {p : Pending} {pc pc' : Pc} (hm : Move s p pc pc') {op : KOp}
    (hp : PcOp pc op) : PcOp pc' op := by
  cases hm <;> exact hp

theorem TMove.isT {s : State} {pick : Nat} {pc pc' : Pc} (hm : TMove s pick pc pc') :
    isT pc ∧ isT pc' ∧ ¬ isOp pc ∧ ¬ isOp pc' := by
  cases hm <;> exact ⟨trivial, trivial, id, id⟩

theorem LockMove.isOp {s : State} {t h : Nat} {x : Option Nat} {pc pc' : Pc} (hm : LockMove s t pc h x pc') :
    isOp pc' ∧ isOp pc ∧ ¬ isT pc ∧ ¬ isT pc' := by
  cases hm <;> exact ⟨trivial, trivial, id, id⟩

theorem LockMove.pcOp {s : State} {t h : Nat} {x : Option Nat} {pc pc' : Pc} (hm : LockMove s t pc h x pc')
    {op : KOp} (hp : PcOp pc op) : PcOp pc' op := by
  cases hm <;> exact hp

theorem TLockMove.isT {s : State} {t h : Nat} {x : Option Nat} {pc pc' : Pc} (hm : TLockMove s t pc h x pc') :
    isT pc ∧ isT pc' ∧ ¬ isOp pc ∧ ¬ isOp pc' := by
  cases hm <;> exact ⟨trivial, trivial, id, id⟩

theorem Fin.isOp {s : State} {p : Pending} {pc : Pc} {res : KRes} (hf : Fin s p pc res) : isOp pc ∧ ¬ isT pc := by
  cases hf <;> exact ⟨trivial, id⟩

theorem invoke_pc (op : KOp) :
    (if isReader op then Pc.rTable else Pc.wTable) = .rTable ∨ (if isReader op then Pc.rTable else Pc.wTable) = .wTable := by
  cases isReader op
  · right; rfl
  · left; rfl

theorem storeAt_thn (s : State) (g : Nat) (p : Pending) (pred hit hnext : Option Nat) :
    (storeAt s g p pred hit hnext).1.threads = s.threads ∧ (storeAt s g p pred hit hnext).1.hist = s.hist ∧
    (storeAt s g p pred hit hnext).1.now = s.now :=
  have h := storeAt_shape s g p pred hit hnext
  ⟨h.1, h.2.2.2.2.1, h.2.2.2.1⟩

theorem TInv.no_call {s : State} (T : TInv s) {t : Nat} {l : Local} (hl : s.threads[t]? = some l)
    (h : ¬ isOp l.pc) : l.call = none := by
  cases hc : l.call with
  | none => rfl
  | some p => exact absurd ((T.callOK t l hl).2 (by rw [hc]; rfl)) h

theorem TInv.idle_no_call {s : State} (T : TInv s) {t : Nat} {l : Local} (hl : s.threads[t]? = some l)
    (h : l.pc = .idle) : l.call = none :=
  T.no_call hl (by rw [h]; exact id)

theorem stepK_tinv {s s' : State} {t : Nat} {l : Local} {pick : Nat} (T : TInv s)
    (hl : s.threads[t]? = some l) (hstep : StepK s t l pick s') : TInv s' := by
  have nocall : ∀ {l' : Local}, l.call = none → ∀ p, l.call = some p → PcOp l'.pc p.op := by
    intro l' h p hp; rw [h] at hp; cases hp
  cases hstep with
  | idle hpc =>
    unfold setT tick
    exact tinv_keep T hl rfl rfl rfl rfl (fun p hp => T.opOK t l p hl hp) Iff.rfl
  | invoke k op hpc =>
    unfold setT tick
    have hcases := invoke_pc op
    refine tinv_invoke (l' := { pc := if isReader op then .rTable else .wTable, call := some ⟨k, op, s.now + 1⟩ })
      T hl rfl rfl rfl rfl ?_ ?_
    · cases hr : isReader op <;> simp [PcOp, hr]
    · rcases hcases with h | h <;> (show isOp (if isReader op then Pc.rTable else Pc.wTable); rw [h]; trivial)
  | resize hpc hr =>
    unfold setT tick
    exact tinv_keep (l' := { l with pc := .tNext }) T hl rfl rfl rfl rfl (fun _ _ => trivial)
      (by rw [hpc]; exact ⟨fun h => h, fun h => h⟩)
  | move p pc' hp hm =>
    unfold setT tick
    obtain ⟨o1, o2, -, -⟩ := hm.isOp
    exact tinv_keep (l' := { l with pc := pc' }) T hl rfl rfl rfl rfl
      (fun p' hp' => hm.pcOp (T.opOK t l p' hl hp')) ⟨fun _ => o2, fun _ => o1⟩
  | tmove pc' hp hm =>
    unfold setT tick
    obtain ⟨-, -, o3, o4⟩ := hm.isT
    exact tinv_keep (l' := { l with pc := pc' }) T hl rfl rfl rfl rfl (nocall hp)
      ⟨fun h => absurd h o4, fun h => absurd h o3⟩
  | lockMove p h x pc' hp hm =>
    unfold setT setNode tick
    obtain ⟨o1, o2, -, -⟩ := hm.isOp
    exact tinv_keep (l' := { l with pc := pc' }) T hl rfl rfl rfl rfl
      (fun p' hp' => hm.pcOp (T.opOK t l p' hl hp')) ⟨fun _ => o2, fun _ => o1⟩
  | tlockMove h x pc' hp hm =>
    unfold setT setNode tick
    obtain ⟨-, -, o3, o4⟩ := hm.isT
    exact tinv_keep (l' := { l with pc := pc' }) T hl rfl rfl rfl rfl (nocall hp)
      ⟨fun h => absurd h o4, fun h => absurd h o3⟩
  | fin p res hp hf =>
    unfold finish setT tick
    exact tinv_finish (l' := { pc := .idle, call := none }) T hl hp rfl rfl rfl rfl id
  | cas p g v vi hp hpc hc hop =>
    unfold finish setT setCell putCell tick
    exact tinv_finish (l' := { pc := .idle, call := none }) T hl hp rfl rfl rfl rfl id
  | store p g h pred hit hnext hp hpc =>
    obtain ⟨e1, e2, e3⟩ := storeAt_thn (tick s) g p pred hit hnext
    refine tinv_keep (l' := { l with pc := .wUnlock g h (storeAt (tick s) g p pred hit hnext).2 false }) T hl
      (by show (storeAt (tick s) g p pred hit hnext).1.threads.set t _ = _; rw [e1]; rfl)
      (by show (storeAt (tick s) g p pred hit hnext).1.now = _; rw [e3]; rfl)
      (by show (storeAt (tick s) g p pred hit hnext).1.hist = _; rw [e2]; rfl) rfl
      (fun p' hp' => by have := T.opOK t l p' hl hp'; rw [hpc] at this; exact this)
      (by rw [hpc]; exact ⟨fun _ => trivial, fun _ => trivial⟩)
  | unlockFin p g h res hp hpc =>
    unfold finish setT setNode tick
    exact tinv_finish (l' := { pc := .idle, call := none }) T hl hp rfl rfl rfl rfl id
  | casMoved j hp hpc hc =>
    unfold putCell setT tick
    exact tinv_keep (l' := { l with pc := .tNext }) T hl rfl rfl rfl rfl (nocall hp)
      (by rw [hpc]; exact ⟨fun h => False.elim h, fun h => False.elim h⟩)
  | build j h hp hpc =>
    unfold setT tick
    exact tinv_keep (l' := { l with pc := .tStoreLow j h _ _ }) T hl rfl rfl rfl rfl (nocall hp)
      (by rw [hpc]; exact ⟨fun h => False.elim h, fun h => False.elim h⟩)
  | storeLow j h lo hg hp hpc =>
    unfold putCell setT tick
    exact tinv_keep (l' := { l with pc := .tStoreHigh j h hg }) T hl rfl rfl rfl rfl (nocall hp)
      (by rw [hpc]; exact ⟨fun h => False.elim h, fun h => False.elim h⟩)
  | storeHigh j h hg hp hpc =>
    unfold putCell setT tick
    exact tinv_keep (l' := { l with pc := .tStoreMoved j h }) T hl rfl rfl rfl rfl (nocall hp)
      (by rw [hpc]; exact ⟨fun h => False.elim h, fun h => False.elim h⟩)
  | storeMoved j h hp hpc =>
    unfold putCell setT tick
    exact tinv_keep (l' := { l with pc := .tUnlock j h }) T hl rfl rfl rfl rfl (nocall hp)
      (by rw [hpc]; exact ⟨fun h => False.elim h, fun h => False.elim h⟩)
  | commit hp hpc =>
    unfold setT tick
    exact tinv_keep (l' := { l with pc := .idle }) T hl rfl rfl rfl rfl (nocall hp)
      (by rw [hpc]; exact ⟨fun h => False.elim h, fun h => False.elim h⟩)

theorem init_tinv (n : Nat) : TInv (init n) := by
  refine ⟨?_, ?_, ?_, ?_, ?_, ?_, ?_⟩
  · intro t l p hl hc; rw [init_thread hl] at hc; cases hc
  · intro t l hl; rw [init_thread hl]; exact ⟨fun h => False.elim h, fun h => by cases h⟩
  · intro x hx; simp [init] at hx
  · intro t l p hl hc; rw [init_thread hl] at hc; cases hc
  · intro x hx; simp [init] at hx
  · intro t t' l l' p p' hl _ hc; rw [init_thread hl] at hc; cases hc
  · simp [init]

theorem step_tinv {s s' : State} {t : Nat} {inv : Option (Nat × KOp)} {rz : Bool} {pick : Nat} (T : TInv s)
    (hs : step s t inv rz pick = some s') : TInv s' := by
  cases hl : s.threads[t]? with
  | none => unfold step stepG at hs; rw [hl] at hs; cases hs
  | some l => exact stepK_tinv T hl (step_stepK hl hs)

theorem reachable_tinv {n : Nat} {s : State} (hr : Reachable n s) : TInv s := by
  induction hr with
  | init => exact init_tinv n
  | step t inv rz pick _ hs ih => exact step_tinv ih hs

end Flurry.Proto.BinN
