import Flurry.Lemmas.BinKLock
/-! # Proto/BinK: transitions that touch lock words only; the tree lookup (C01, a bin that changes its kind)

`LockKind`: what a transition does to the lock words of the nodes (nothing, one word taken, one word released);
`Move.lockKind`, `Fin.lockKind`, `KMove.lockKind`: the transitions that leave the shared state alone but for one lock
word are of these kinds, so their heaps differ from the old one in lock words only (`LockKind.heapEqv`;
`Lemmas/BinKEmbedInv.lean` uses these). `Walk.cur_mem`: a validated list-bin writer stands on the live chain;
`treeFind_some` / `_none`: what a lookup in the tree of a `TreeBin` returns. -/
namespace Flurry.Proto.BinK
open Flurry.Lin

def LockKind (s : State) (t : Nat) (pc pc' : Pc) (hp : List NodeS) : Prop :=
  (hp = s.heap ∧ holdsLock pc' = holdsLock pc) ∨
  (∃ h0, hp = lockSet s.heap h0 (some t) ∧ h0 < s.heap.length ∧ (nodeAt s.heap h0).lock = none ∧
    holdsLock pc = none ∧ holdsLock pc' = some h0) ∨
  (∃ h0, hp = lockSet s.heap h0 none ∧ holdsLock pc = some h0 ∧ holdsLock pc' = none)

theorem Move.lockKind {s : State} {t : Nat} {p : Pending} {pc pc' : Pc} {hp : List NodeS}
    (hm : Move s t p pc pc' hp) : LockKind s t pc pc' hp := by
  cases hm
  case wLock h n hn hlk =>
    exact Or.inr (Or.inl ⟨h, rfl, (List.getElem?_eq_some_iff.1 hn).1, by rw [nodeAt_of_some hn]; exact hlk, rfl, rfl⟩)
  case wUnlockRetry h res => exact Or.inr (Or.inr ⟨h, rfl, rfl, rfl⟩)
  case rCellTree lo b hc => cases lo <;> exact Or.inl ⟨rfl, rfl⟩
  all_goals exact Or.inl ⟨rfl, rfl⟩

theorem Fin.lockKind {s : State} {t : Nat} {p : Pending} {pc : Pc} {res : KRes} {hp : List NodeS}
    (hf : Fin s p pc res hp) : LockKind s t pc .idle hp := by
  cases hf
  case wUnlockFin h => exact Or.inr (Or.inr ⟨h, rfl, rfl, rfl⟩)
  all_goals exact Or.inl ⟨rfl, rfl⟩

theorem KMove.lockKind {s : State} {t : Nat} {pc pc' : Pc} {hp : List NodeS}
    (hk : KMove s t pc pc' hp) : LockKind s t pc pc' hp := by
  cases hk
  case kLock h n hn hlk =>
    exact Or.inr (Or.inl ⟨h, rfl, (List.getElem?_eq_some_iff.1 hn).1, by rw [nodeAt_of_some hn]; exact hlk, rfl, rfl⟩)
  case kUnlock h => exact Or.inr (Or.inr ⟨h, rfl, rfl, rfl⟩)
  all_goals exact Or.inl ⟨rfl, rfl⟩

theorem LockKind.heapEqv {s : State} {t : Nat} {pc pc' : Pc} {hp : List NodeS} (k : LockKind s t pc pc' hp) :
    HeapEqv s.heap hp := by
  rcases k with ⟨rfl, -⟩ | ⟨h0, rfl, -⟩ | ⟨h0, rfl, -⟩
  · exact HeapEqv.refl _
  · exact heapEqv_lockSet _ _ _
  · exact heapEqv_lockSet _ _ _

theorem treeFind_some {s : State} {b k i : Nat} (h : treeFind s b k = some i) :
    i < s.heap.length ∧ (nodeAt s.heap i).owner = some b ∧ (nodeAt s.heap i).inTree = true ∧
      (nodeAt s.heap i).key = k := by
  rw [treeFind_def] at h
  have h1 := List.mem_of_find?_eq_some h
  have h2 := List.find?_some h
  simp only [Bool.and_eq_true, beq_iff_eq] at h2
  exact ⟨List.mem_range.1 h1, h2.1.1, h2.1.2, h2.2⟩

theorem treeFind_none {s : State} {b k : Nat} (h : treeFind s b k = none) :
    ∀ j, j < s.heap.length → (nodeAt s.heap j).owner = some b → (nodeAt s.heap j).inTree = true →
      (nodeAt s.heap j).key ≠ k := by
  rw [treeFind_def, List.find?_eq_none] at h
  intro j hj ho hin hk
  have := h j (List.mem_range.2 hj)
  simp only [Bool.and_eq_true, beq_iff_eq, not_and] at this
  exact this ⟨ho, hin⟩ hk

theorem Walk.cur_mem {s : State} {key : Nat} {pred : Option Nat} {i : Nat} (w : Walk s key pred (some i)) :
    i ∈ liveChain s := by
  obtain ⟨l1, l2, hch, hcur, -, -⟩ := w
  cases l2 with
  | nil => cases hcur
  | cons c l2' => cases hcur; rw [hch]; simp

end Flurry.Proto.BinK
