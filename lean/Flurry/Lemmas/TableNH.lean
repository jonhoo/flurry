import Flurry.Lemmas.TableLineages
import Flurry.Proto.TableNH
import Flurry.Lemmas.TableN
import Flurry.Lemmas.BinNHFullReach
/-! # Proto/TableNH: a table through any number of COOPERATIVE resizes is linearizable as a MAP (C01)

The construction of `Lemmas/TableN.lean` over `Proto/BinNH` lineages. A `tick` of a lineage IS a transition
of `Proto/BinNH`: the step of a thread that is idle there, is not a resizing thread there, and starts
nothing — no call, no resize (`BinNH.step b t none false false 0 = some (tick b)`, `tick_is_step`), and
`TableNH.step` lets thread `t` act in lineage `i` only while it is idle (in that sense) in every other
lineage. Hence every lineage of a reachable table is literally `BinNH.Reachable` (`TblInv.reach`); the key
translation lemmas are those of `Lemmas/TableN.lean`. -/
namespace Flurry.Proto.TableNH
open Flurry.Lin Flurry.LinMap
open Flurry.Proto.TableN (lineageOf localKey inLineage localInv)

theorem tick_is_step {b : BinNH.State} {t : Nat} (h : idleIn b t = true) :
    BinNH.step b t none false false 0 = some (tick b) := by
  unfold idleIn at h
  split at h
  · rename_i l hl hh
    obtain ⟨pc, call⟩ := l
    simp only [beq_iff_eq] at h
    subst h
    unfold BinNH.step BinNH.stepG
    simp only [hl, hh]
    rfl
  · cases h

structure TblInv (m n : Nat) (S : State) : Prop where
  len : S.bins.length = m
  reach : ∀ (j : Nat) (b : BinNH.State), S.bins[j]? = some b → BinNH.Reachable n b

theorem init_bin {m n j : Nat} {b : BinNH.State} (h : (init m n).bins[j]? = some b) : b = BinNH.init n :=
  Lineages.eq_of_getElem?_replicate h

theorem init_tblInv (m n : Nat) : TblInv m n (init m n) := by
  refine ⟨by simp [init], ?_⟩
  intro j b h
  rw [init_bin h]
  exact BinNH.Reachable.init

theorem step_eq_some {S S' : State} {i t : Nat} {inv : Option (Nat × KOp)} {rz leave : Bool} {pick : Nat}
    (hs : step S i t inv rz leave pick = some S') :
    ∃ b b', S.bins[i]? = some b ∧
      ((List.range S.bins.length).all fun j => j == i || idleIn (S.bins.getD j (BinNH.init 0)) t) = true ∧
      (∀ k op, inv = some (k, op) → lineageOf S.bins.length k = i) ∧
      BinNH.step b t (localInv S.bins.length inv) rz leave pick = some b' ∧
      S' = { bins := (S.bins.map tick).set i b' } := by
  unfold step at hs
  cases hb : S.bins[i]? with
  | none => rw [hb] at hs; cases hs
  | some b =>
    rw [hb] at hs
    obtain ⟨h1, hs⟩ := Lineages.guard_some hs
    obtain ⟨h2, hs⟩ := Lineages.guard_some hs
    cases h4 : BinNH.step b t (localInv S.bins.length inv) rz leave pick with
    | none => rw [h4] at hs; cases hs
    | some b' =>
      rw [h4] at hs
      refine ⟨b, b', rfl, h1, ?_, h4, (Option.some.inj hs).symm⟩
      rintro k op rfl
      simpa [inLineage] using h2

theorem step_tblInv {m n : Nat} {S S' : State} {i t : Nat} {inv : Option (Nat × KOp)} {rz leave : Bool} {pick : Nat}
    (I : TblInv m n S) (hs : step S i t inv rz leave pick = some S') : TblInv m n S' := by
  obtain ⟨b, b', hb, hidle, _, hb', rfl⟩ := step_eq_some hs
  refine ⟨?_, ?_⟩
  · show ((S.bins.map tick).set i b').length = m
    rw [List.length_set, List.length_map]; exact I.len
  · exact Lineages.forall_of_set_map tick _ (idleIn · t) hidle (P := fun _ c => BinNH.Reachable n c) I.reach
      (BinNH.Reachable.step t _ rz leave pick (I.reach i b hb) hb')
      fun _ b0 h hid => BinNH.Reachable.step t none false false 0 h (tick_is_step hid)

theorem reachable_tblInv {m n : Nat} {S : State} (hr : Reachable m n S) : TblInv m n S := by
  induction hr with
  | init => exact init_tblInv m n
  | step i t inv rz leave pick _ hs ih => exact step_tblInv ih hs

theorem mhist_eq (S : State) :
    mhist S = Lineages.mhist (TableN.keys S.bins.length) (·.n.hist) S.bins (BinNH.init 0) := rfl

theorem proj_mhist {m n : Nat} {S : State} (I : TblInv m n S) {k : Nat} {b : BinNH.State}
    (hb : S.bins[lineageOf m k]? = some b) : proj (mhist S) k = BinNH.callsOn b (localKey m k) := by
  rw [mhist_eq, I.len]
  exact Lineages.proj_mhist _ (TableN.own I.len) hb

theorem bin_of_key {m n : Nat} (hm : 0 < m) {S : State} (I : TblInv m n S) (k : Nat) :
    ∃ b, S.bins[lineageOf m k]? = some b ∧ S.bins.getD (lineageOf S.bins.length k) (BinNH.init 0) = b := by
  rw [I.len]
  exact Lineages.exists_getD _ (by rw [I.len]; exact Nat.mod_lt _ hm)

theorem mhist_own_lineage {m n : Nat} {S : State} (I : TblInv m n S) {c : MCall} (hc : c ∈ mhist S) :
    ∃ b, S.bins[lineageOf m c.key]? = some b ∧ (localKey m c.key, c.call) ∈ b.n.hist :=
  Lineages.mem_mhist_own (TableN.own I.len) (I.len ▸ mhist_eq S ▸ hc)

theorem mhist_wf {m n : Nat} {S : State} (hr : Reachable m n S) : ∀ c ∈ mhist S, c.call.inv ≤ c.call.resp := by
  intro c hc
  rw [mhist_eq] at hc
  obtain ⟨i, b, q, hb, hmem, -⟩ := Lineages.mem_mhist hc
  -- the structural invariant comes bundled with the ghost invariant of a key: any key will do
  obtain ⟨G, A, pt, F, -⟩ := BinNH.reachable_full ((reachable_tblInv hr).reach i b hb) 0
  exact (F.inv.thr.histTime (q, c.call) hmem).1

end Flurry.Proto.TableNH
