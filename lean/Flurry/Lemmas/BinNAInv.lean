import Flurry.Lemmas.BinNABasic
/-! # Proto/BinNA: the structural invariant is preserved by shared-memory effects (C01, C10)

`Keeps s s' t1`: what thread `t1` knows about the shared state survives the transition `s → s'`;
`MayWrite`: the permission under which a thread writes a cell (CAS into an empty cell, or a store under
the cell's lock into a cell that is a list, or the resizer's store of a child of the cell it has
locked); `Eff`: a transition that keeps `cur` / `resizing` and writes cells / lock words only with
permission; `inv_eff`: such a transition preserves `Inv`. -/
namespace Flurry.Proto.BinNA
open Flurry.Lin

theorem Inv.rz_of_moved {s : State} (I : Inv s) {j : Nat} (h : getCell s s.cur j = .moved) :
    s.resizing = true := by
  cases hr : s.resizing with
  | true => rfl
  | false => exact absurd h (I.noRz hr j)

theorem Inv.len_ge {s : State} (I : Inv s) : s.cur + 1 ≤ s.tabs.length := by
  rw [I.shape.len]; exact Nat.le_add_right _ _

theorem Inv.len_rz {s : State} (I : Inv s) (h : s.resizing = true) : s.tabs.length = s.cur + 2 := by
  rw [I.shape.len, if_pos h]

theorem Inv.inb {s : State} (I : Inv s) {g j : Nat} (hf : Fwd s g j) : g < s.tabs.length := by
  by_cases hg : g = s.cur + 1
  · rw [hg, I.len_rz (I.rz_of_moved (hf.2 hg))]; exact Nat.lt_succ_self _
  · exact Nat.lt_of_lt_of_le (Nat.lt_of_le_of_ne hf.1 hg) I.len_ge

theorem Inv.row {s : State} (I : Inv s) {g : Nat} (hg : g < s.tabs.length) :
    (s.tabs.getD g []).length = 2 ^ g := I.shape.row g hg

theorem Inv.lrow {s : State} (I : Inv s) {g : Nat} (hg : g < s.tabs.length) :
    (s.locks.getD g []).length = 2 ^ g := I.shape.lrow g hg

theorem fwd_cur (s : State) (j : Nat) : Fwd s s.cur j :=
  ⟨Nat.le_succ _, fun h => absurd h (Nat.ne_of_lt (Nat.lt_succ_self _))⟩

theorem add_pow_mod {j g : Nat} (h : j < 2 ^ g) : (j + 2 ^ g) % 2 ^ g = j := by
  rw [Nat.add_mod_right]; exact Nat.mod_eq_of_lt h

/-- following a marker: the next generation may be worked in -/
theorem Inv.fwd_next {s : State} (I : Inv s) {g k : Nat} (hf : Fwd s g (ix g k))
    (hm : getCell s g (ix g k) = .moved) : Fwd s (g + 1) (ix (g + 1) k) := by
  have hne : g ≠ s.cur + 1 := fun h => I.newer g _ (h ▸ Nat.lt_succ_self _) hm
  refine ⟨Nat.succ_le_of_lt (Nat.lt_of_le_of_ne hf.1 hne), ?_⟩
  intro h
  cases h
  rw [ix_ix]; exact hm

structure Keeps (s s' : State) (t1 : Nat) : Prop where
  cur : s'.cur = s.cur
  rz : s.resizing = true → s'.resizing = true
  moved : ∀ g j, getCell s g j = .moved → getCell s' g j = .moved
  lock : ∀ g j, getLock s g j = some t1 → getLock s' g j = some t1
  list : ∀ g j, Fwd s g j → getLock s g j = some t1 → isList (getCell s g j) = true →
    getCell s' g j = getCell s g j
  child : ∀ j', getLock s s.cur (j' % 2 ^ s.cur) = some t1 → isList (getCell s s.cur (j' % 2 ^ s.cur)) = true →
    getCell s' (s.cur + 1) j' = getCell s (s.cur + 1) j'

theorem Keeps.fwd {s s' : State} {t1 : Nat} (K : Keeps s s' t1) {g j : Nat} (h : Fwd s g j) : Fwd s' g j := by
  unfold Fwd at h ⊢
  rw [K.cur]
  exact ⟨h.1, fun hg => K.moved _ _ (h.2 hg)⟩

theorem Keeps.of_same {s s' : State} {t1 : Nat} (hcur : s'.cur = s.cur) (hrz : s.resizing = true → s'.resizing = true)
    (hc : ∀ g j, getCell s' g j = getCell s g j) (hl : ∀ g j, getLock s' g j = getLock s g j) : Keeps s s' t1 :=
  ⟨hcur, hrz, fun g j h => by rw [hc]; exact h, fun g j h => by rw [hl]; exact h, fun g j _ _ _ => hc g j,
    fun j' _ _ => hc _ _⟩

theorem Keeps.locked {s s' : State} {t1 j : Nat} {xs : List Entry} (K : Keeps s s' t1) (h2 : j < 2 ^ s.cur)
    (h3 : getLock s s.cur j = some t1) (h4 : getCell s s.cur j = .list xs) :
    getCell s' s.cur j = .list xs ∧ getCell s' (s.cur + 1) j = getCell s (s.cur + 1) j ∧
      getCell s' (s.cur + 1) (j + 2 ^ s.cur) = getCell s (s.cur + 1) (j + 2 ^ s.cur) := by
  have hl : isList (getCell s s.cur j) = true := by rw [h4]; rfl
  refine ⟨(K.list _ _ (fwd_cur s j) h3 hl).trans h4, K.child j ?_ ?_, K.child (j + 2 ^ s.cur) ?_ ?_⟩
  · rw [Nat.mod_eq_of_lt h2]; exact h3
  · rw [Nat.mod_eq_of_lt h2]; exact hl
  · rw [add_pow_mod h2]; exact h3
  · rw [add_pow_mod h2]; exact hl

theorem PcOK.keeps {s s' : State} {t1 key : Nat} {pc : Pc} (K : Keeps s s' t1) (h : PcOK s t1 key pc) :
    PcOK s' t1 key pc := by
  unfold PcOK
  rw [K.cur]
  cases pc with
  | idle | rTable | wTable => trivial
  | rCell g | wCell g | wCas g | wLock g => exact K.fwd h
  | wCheck g | wUnlock g res retry => exact ⟨K.fwd h.1, K.lock _ _ h.2⟩
  | wStore g =>
    obtain ⟨h1, h2, h3⟩ := h
    exact ⟨K.fwd h1, K.lock _ _ h2, (K.list _ _ h1 h2 h3).symm ▸ h3⟩
  | tNext => exact K.rz h
  | tCommit => exact ⟨K.rz h.1, fun j hj => K.moved _ _ (h.2 j hj)⟩
  | tCell j | tCasMoved j | tLock j => exact ⟨K.rz h.1, h.2⟩
  | tCheck j | tUnlock j => exact ⟨K.rz h.1, h.2.1, K.lock _ _ h.2.2⟩
  | tStoreLow j lo hi =>
    obtain ⟨h1, h2, h3, xs, h4, h5, h6, h7, h8⟩ := h
    obtain ⟨e1, e2, e3⟩ := K.locked h2 h3 h4
    exact ⟨K.rz h1, h2, K.lock _ _ h3, xs, e1, h5, h6, e2.trans h7, e3.trans h8⟩
  | tStoreHigh j hi =>
    obtain ⟨h1, h2, h3, xs, h4, h5, h6, h8⟩ := h
    obtain ⟨e1, e2, e3⟩ := K.locked h2 h3 h4
    exact ⟨K.rz h1, h2, K.lock _ _ h3, xs, e1, e2.trans h5, h6, e3.trans h8⟩
  | tStoreMoved j =>
    obtain ⟨h1, h2, h3, xs, h4, h5, h8⟩ := h
    obtain ⟨e1, e2, e3⟩ := K.locked h2 h3 h4
    exact ⟨K.rz h1, h2, K.lock _ _ h3, xs, e1, e2.trans h5, e3.trans h8⟩

/-- thread `t` (whose next program counter is `pc'`) may write cell `(g, j)` -/
def MayWrite (s : State) (t : Nat) (pc' : Pc) (g j : Nat) : Prop :=
  (Fwd s g j ∧ (getCell s g j = .empty ∨ (getLock s g j = some t ∧ isList (getCell s g j) = true))) ∨
  (g = s.cur + 1 ∧ getLock s s.cur (j % 2 ^ s.cur) = some t ∧ isList (getCell s s.cur (j % 2 ^ s.cur)) = true ∧
    MidAt pc' (j % 2 ^ s.cur))

/-- a transition of thread `t` that keeps `cur` / `resizing` and writes only with permission -/
structure Eff (s s' : State) (t : Nat) (l' : Local) : Prop where
  thr : s'.threads = s.threads.set t l'
  cur : s'.cur = s.cur
  rz : s'.resizing = s.resizing
  shape : Shape s'
  cells : ∀ g j, getCell s' g j ≠ getCell s g j →
    MayWrite s t l'.pc g j ∧ (getCell s' g j = .moved → g = s.cur ∧ s.resizing = true)
  locks : ∀ g j, getLock s' g j ≠ getLock s g j → getLock s g j = none ∨ getLock s g j = some t

theorem isList_ne_moved {c : Cell} (h : isList c = true) : c ≠ .moved := by
  intro e; rw [e] at h; cases h

theorem isList_ne_empty {c : Cell} (h : isList c = true) : c ≠ .empty := by
  intro e; rw [e] at h; cases h

theorem Eff.moved {s s' : State} {t : Nat} {l' : Local} (e : Eff s s' t l') (I : Inv s) {g j : Nat}
    (h : getCell s g j = .moved) : getCell s' g j = .moved := by
  apply Classical.byContradiction
  intro hne
  have hch : getCell s' g j ≠ getCell s g j := by rw [h]; exact hne
  rcases (e.cells g j hch).1 with ⟨_, h1 | ⟨_, h1⟩⟩ | ⟨hg, _⟩
  · rw [h] at h1; cases h1
  · exact isList_ne_moved h1 h
  · exact I.newer g j (hg ▸ Nat.lt_succ_self _) h

theorem Eff.keeps {s s' : State} {t t1 : Nat} {l' : Local} (e : Eff s s' t l') (I : Inv s) (hne : t1 ≠ t) :
    Keeps s s' t1 := by
  refine ⟨e.cur, fun h => by rw [e.rz]; exact h, fun g j h => e.moved I h, ?_, ?_, ?_⟩
  · intro g j h
    apply Classical.byContradiction
    intro hc
    have hch : getLock s' g j ≠ getLock s g j := by rw [h]; exact hc
    rcases e.locks g j hch with h1 | h1
    · rw [h] at h1; cases h1
    · rw [h] at h1; cases h1; exact hne rfl
  · intro g j hf hl hlist
    apply Classical.byContradiction
    intro hch
    rcases (e.cells g j hch).1 with ⟨_, h1 | ⟨h1, _⟩⟩ | ⟨hg, _, h2, _⟩
    · exact isList_ne_empty hlist h1
    · rw [hl] at h1; cases h1; exact hne rfl
    · exact isList_ne_moved h2 (hf.2 hg)
  · intro j' hl hlist
    apply Classical.byContradiction
    intro hch
    rcases (e.cells _ j' hch).1 with ⟨hf, _⟩ | ⟨_, h1, _⟩
    · exact isList_ne_moved hlist (hf.2 rfl)
    · rw [hl] at h1; cases h1; exact hne rfl

/-- Beside `Eff` a transition owes `TInv`, the moving thread's own `PcOK` (`hself`), and two things about the resize:
`hT`, it does not make a thread the resizing thread (for `uniqT`; the start and the commit of a resize change `cur` /
`resizing` and have `inv_alloc`, `inv_commit` instead), and
`hmid`, a thread that leaves the middle of the transfer of a cell has forwarded that cell (for `child`). -/
theorem inv_eff {s s' : State} {t : Nat} {l l' : Local} (I : Inv s) (hl : s.threads[t]? = some l)
    (e : Eff s s' t l') (T' : TInv s')
    (hself : PcOK s' t (keyOf l'.call) l'.pc)
    (hT : isT l'.pc → isT l.pc)
    (hmid : ∀ p, MidAt l.pc p → MidAt l'.pc p ∨ getCell s' s.cur p = .moved) : Inv s' := by
  have hl' : s'.threads[t]? = some l' := by rw [e.thr]; exact get_set_self hl
  refine ⟨e.shape, T', ?_, ?_, ?_, ?_, ?_, ?_⟩
  · intro g j hg hj
    rw [e.cur] at hg
    exact e.moved I (I.old g j hg hj)
  · intro g j hg hm
    rw [e.cur] at hg
    by_cases hch : getCell s' g j = getCell s g j
    · rw [hch] at hm; exact I.newer g j hg hm
    · exact absurd ((e.cells g j hch).2 hm).1 (Nat.ne_of_gt hg)
  · intro hr j hm
    rw [e.rz] at hr
    rw [e.cur] at hm
    by_cases hch : getCell s' s.cur j = getCell s s.cur j
    · rw [hch] at hm; exact I.noRz hr j hm
    · have := ((e.cells _ j hch).2 hm).2
      rw [hr] at this; cases this
  · intro j' hpar hno
    rw [e.cur] at hpar hno ⊢
    have hpar0 : getCell s s.cur (j' % 2 ^ s.cur) ≠ .moved := fun h => hpar (e.moved I h)
    have hno0 : ∀ (t1 : Nat) (l1 : Local), s.threads[t1]? = some l1 → ¬ MidAt l1.pc (j' % 2 ^ s.cur) := by
      intro t1 l1 h1 hm1
      by_cases ht : t1 = t
      · subst ht
        rw [hl] at h1; cases h1
        rcases hmid _ hm1 with h | h
        · exact hno t1 l' hl' h
        · exact hpar h
      · exact hno t1 l1 (by rw [e.thr, get_set_ne ht]; exact h1) hm1
    have h0 := I.child j' hpar0 hno0
    by_cases hch : getCell s' (s.cur + 1) j' = getCell s (s.cur + 1) j'
    · rw [hch]; exact h0
    · rcases (e.cells _ j' hch).1 with ⟨hf, _⟩ | ⟨_, _, _, hm⟩
      · exact absurd (hf.2 rfl) hpar0
      · exact absurd hm (hno t l' hl')
  · intro t1 l1 h1
    rw [e.thr] at h1
    rcases get_set h1 with ⟨rfl, rfl⟩ | ⟨hne, h1⟩
    · exact hself
    · exact (I.pc t1 l1 h1).keeps (e.keeps I hne)
  · intro t1 t2 l1 l2 h1 h2 hT1 hT2
    rw [e.thr] at h1 h2
    rcases get_set h1 with ⟨e1, e1'⟩ | ⟨hne1, h1'⟩ <;> rcases get_set h2 with ⟨e2, e2'⟩ | ⟨hne2, h2'⟩
    · rw [e1, e2]
    · subst e1 e1'
      exact I.uniqT _ _ _ _ hl h2' (hT hT1) hT2
    · subst e2 e2'
      exact I.uniqT _ _ _ _ h1' hl hT1 (hT hT2)
    · exact I.uniqT _ _ _ _ h1' h2' hT1 hT2

theorem Shape.of_len {s s' : State} (S : Shape s) (hc : s'.cur = s.cur) (hr : s'.resizing = s.resizing)
    (ht : s'.tabs.length = s.tabs.length) (hl : s'.locks.length = s.locks.length)
    (hrow : ∀ g, (s'.tabs.getD g []).length = (s.tabs.getD g []).length)
    (hlrow : ∀ g, (s'.locks.getD g []).length = (s.locks.getD g []).length) : Shape s' := by
  refine ⟨?_, ?_, ?_, ?_⟩
  · rw [ht, hc, hr]; exact S.len
  · rw [ht, hl]; exact S.llen
  · intro g hg; rw [hrow]; exact S.row g (ht ▸ hg)
  · intro g hg; rw [hlrow]; exact S.lrow g (ht ▸ hg)

theorem getCell_congr {s s' : State} (ht : s'.tabs = s.tabs) (g j : Nat) : getCell s' g j = getCell s g j := by
  unfold getCell; rw [ht]

theorem getLock_congr {s s' : State} (ht : s'.locks = s.locks) (g j : Nat) : getLock s' g j = getLock s g j := by
  unfold getLock; rw [ht]

theorem getCell_post_cell {s : State} (I : Inv s) {t : Nat} {l' : Local} {hnew : List (Nat × Call)} {g j : Nat}
    {c : Cell} (hg : g < s.tabs.length) (hj : j < 2 ^ g) (g' j' : Nat) :
    getCell (post s t l' hnew (.cell g j c)) g' j' = if g' = g ∧ j' = j then c else getCell s g' j' :=
  getD2_modify_set_of_lt (I.row hg) hj g' j' c .empty

theorem getLock_post_lock {s : State} (I : Inv s) {t : Nat} {l' : Local} {hnew : List (Nat × Call)} {g j : Nat}
    {x : Option Nat} (hg : g < s.tabs.length) (hj : j < 2 ^ g) (g' j' : Nat) :
    getLock (post s t l' hnew (.lock g j x)) g' j' = if g' = g ∧ j' = j then x else getLock s g' j' :=
  getD2_modify_set_of_lt (I.lrow hg) hj g' j' x none

theorem eff_none {s : State} {t : Nat} {l' : Local} {hnew : List (Nat × Call)} (I : Inv s) :
    Eff s (post s t l' hnew .none) t l' :=
  ⟨rfl, rfl, rfl, I.shape.of_len rfl rfl rfl rfl (fun _ => rfl) (fun _ => rfl),
    fun g j h => absurd (getCell_congr rfl g j) h, fun g j h => absurd (getLock_congr rfl g j) h⟩

theorem eff_lock {s : State} {t : Nat} {l' : Local} {hnew : List (Nat × Call)} {g j : Nat} {x : Option Nat}
    (I : Inv s) (hold : getLock s g j = none ∨ getLock s g j = some t) :
    Eff s (post s t l' hnew (.lock g j x)) t l' := by
  refine ⟨rfl, rfl, rfl, I.shape.of_len rfl rfl rfl (List.length_modify ..) (fun _ => rfl) (fun _ => len2_modify_set ..), fun g' j' h => absurd (getCell_congr rfl g' j') h, ?_⟩
  intro g' j' h
  have e1 : getLock (post s t l' hnew (.lock g j x)) g' j' = getLock (setLock s g j x) g' j' := rfl
  rw [e1, getLock_setLock] at h
  split at h
  · rename_i hh
    obtain ⟨rfl, rfl, _⟩ := hh
    exact hold
  · exact absurd rfl h

theorem eff_cell {s : State} {t : Nat} {l' : Local} {hnew : List (Nat × Call)} {g j : Nat} {c : Cell} (I : Inv s)
    (hw : MayWrite s t l'.pc g j) (hm : c = .moved → g = s.cur ∧ s.resizing = true) :
    Eff s (post s t l' hnew (.cell g j c)) t l' := by
  refine ⟨rfl, rfl, rfl, I.shape.of_len rfl rfl (List.length_modify ..) rfl (fun _ => len2_modify_set ..) (fun _ => rfl), ?_, fun g' j' h => absurd (getLock_congr rfl g' j') h⟩
  intro g' j' h
  have e1 : getCell (post s t l' hnew (.cell g j c)) g' j' = getCell (setCell s g j c) g' j' := rfl
  rw [e1, getCell_setCell] at h ⊢
  split at h
  · rename_i hh
    obtain ⟨rfl, rfl, hlt⟩ := hh
    rw [if_pos ⟨rfl, rfl, hlt⟩]
    exact ⟨hw, hm⟩
  · exact absurd rfl h

end Flurry.Proto.BinNA
