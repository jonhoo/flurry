import Flurry.Lemmas.BinGNTimeDefs
import Flurry.Lemmas.BinGNPStepN
/-! # Proto/BinGN: tools for the step proofs of the invariants

Every invariant of `Proto/BinGN` is proved by cases on the normal form `StepN` (`Lemmas/BinGNPStep.lean`). What
the cases share is here:
* the transitions of a call in flight that only move a program counter (`Move`, `BMove`, `Fin`, `BFin`) by the
  class of program counter they connect;
* `Grows s s'`: the successor states of the transitions that build or change nodes and `TreeBin`s (`storeAt`,
  `splitSide`, the unlink of a tree node, …) differ from `s` in heap, `TreeBin` table, cells and clock only. -/
namespace Flurry.Proto.BinGNP
open Flurry.Lin
open Flurry.Proto.BinGN (noCallPc)
variable {s : State} {t : Nat} {p : Pending} {pc pc' : Pc} {hp : List NodeS} {tb : List TBin} {res : KRes}

theorem Move.callPcs (h : Move s t p pc pc' hp) : noCallPc pc = false ∧ noCallPc pc' = false := by
  cases h with
  | @rCellTree lo _ _ _ => cases lo <;> exact ⟨rfl, rfl⟩
  | _ => exact ⟨rfl, rfl⟩

theorem BMove.callPcs (h : BMove s t p pc pc' tb) : noCallPc pc = false ∧ noCallPc pc' = false := by
  cases h with
  | @lrTryOk _ _ k _ _ _ _ => cases k <;> exact ⟨rfl, rfl⟩
  | @lrLoopOk _ _ k _ _ _ => cases k <;> exact ⟨rfl, rfl⟩
  | _ => exact ⟨rfl, rfl⟩

theorem Fin.callPcs (h : Fin s p pc res hp) : noCallPc pc = false := by
  cases h <;> rfl

theorem BFin.callPcs (h : BFin s p pc res tb) : noCallPc pc = false := by
  cases h <;> rfl

end Flurry.Proto.BinGNP

namespace Flurry.Proto.BinGN
open Flurry.Lin
open Flurry.Proto.BinGNP (unlinkOf untreeifyOf buildOf ysplitOf lowOf highOf)

/-- `s'` is `s` with cells stored, nodes and `TreeBin`s added or changed: `cur`, `resizing` and the threads are the
same, and the `TreeBin` table has not shrunk -/
structure Grows (s s' : State) : Prop where
  threads : s'.threads = s.threads
  cur : s'.cur = s.cur
  resizing : s'.resizing = s.resizing
  tbins : s.tbins.length ≤ s'.tbins.length

namespace Grows
variable {s s' s'' : State}

theorem refl (s : State) : Grows s s :=
  ⟨rfl, rfl, rfl, Nat.le_refl _⟩

theorem trans (h : Grows s s') (h' : Grows s' s'') : Grows s s'' :=
  ⟨h'.threads.trans h.threads, h'.cur.trans h.cur, h'.resizing.trans h.resizing, Nat.le_trans h.tbins h'.tbins⟩

/-- heap, `TreeBin` table, cells and clock change -/
theorem of_ext {hp : List NodeS} {tb : List TBin} {tabs : List (List Cell)} {now : Nat}
    (hM : s.tbins.length ≤ tb.length) :
    Grows s { s with heap := hp, tbins := tb, tabs := tabs, now := now } :=
  ⟨rfl, rfl, rfl, hM⟩

theorem tick (s : State) : Grows s (BinGNP.tick s) := of_ext (Nat.le_refl _)

theorem putCell (s : State) (g j : Nat) (c : Cell) : Grows s (putCell s g j c) :=
  of_ext (Nat.le_refl _)

theorem setNode (s : State) (i : Nat) (f : NodeS → NodeS) : Grows s (setNode s i f) :=
  of_ext (Nat.le_refl _)

theorem setBin (s : State) (b : Nat) (f : TBin → TBin) : Grows s (setBin s b f) :=
  of_ext (by show _ ≤ (List.modify _ _ _).length; rw [List.length_modify]; exact Nat.le_refl _)

theorem setHeap (s : State) (hp : List NodeS) : Grows s { s with heap := hp } :=
  of_ext (s := s) (Nat.le_refl _)

/-- the threads after the acting thread has moved on -/
theorem set (h : Grows s s') (t : Nat) (l' : Local) : s'.threads.set t l' = s.threads.set t l' := by
  rw [h.threads]

end Grows

theorem cellOfHead_ne_moved (x : Option Nat) : cellOfHead x ≠ .moved := by cases x <;> simp [BinG.cellOfHead]
theorem cellOfHead_ne_tree (x : Option Nat) (b : Nat) : cellOfHead x ≠ .tree b := by cases x <;> simp [BinG.cellOfHead]

/-- `Y` differs from `s` in data only, and its tables are those of `s` but for the cell of key `k` in generation
`g`, which may have been set to a list or to `empty` -/
def StoreShape (s : State) (g k : Nat) (Y : State) : Prop :=
  Grows s Y ∧
    (Y.tabs = s.tabs ∨ ∃ c, c ≠ .moved ∧ (∀ b, c ≠ .tree b) ∧ Y.tabs = s.tabs.modify g (fun row => row.set (k % 2 ^ g) c))

/-- the list writer's store: the value of a node, a `next` field, a new node, or the cell of its key -/
theorem storeAt_shape (s : State) (g : Nat) (p : Pending) (pred hit hnext : Option Nat) :
    StoreShape s g p.key (storeAt s g p pred hit hnext).1 := by
  have same : StoreShape s g p.key s := ⟨.refl s, Or.inl rfl⟩
  have val : ∀ i (f : NodeS → NodeS), StoreShape s g p.key (setNode s i f) :=
    fun i f => ⟨.setNode s i f, Or.inl rfl⟩
  have app : ∀ (pred : Option Nat) (n : NodeS), StoreShape s g p.key
      (match pred with
        | some l => setNode { s with heap := s.heap ++ [n] } l (fun m => { m with next := some s.heap.length })
        | none => setCell { s with heap := s.heap ++ [n] } g p.key (.list s.heap.length)) := by
    intro pred n
    cases pred with
    | some l => exact ⟨(Grows.setHeap s _).trans (.setNode _ l _), Or.inl rfl⟩
    | none => exact ⟨(Grows.setHeap s _).trans (.putCell _ _ _ _), Or.inr ⟨_, by simp, by simp, rfl⟩⟩
  have unl : ∀ pred : Option Nat, StoreShape s g p.key
      (match pred with
        | some pr => setNode s pr (fun m => { m with next := hnext })
        | none => setCell s g p.key (match hnext with | some x => .list x | none => .empty)) := by
    intro pred
    cases pred with
    | some l => exact val _ _
    | none => exact ⟨.putCell _ _ _ _, Or.inr ⟨_, by cases hnext <;> simp, by cases hnext <;> simp, rfl⟩⟩
  unfold storeAt
  simp only
  split
  · exact val _ _
  · exact app _ _
  · exact same
  · exact app _ _
  · exact unl _
  · exact same
  · exact val _ _
  · exact same
  · exact unl _
  · exact same
  · exact same
  · exact same

/-- one side of a tree-bin split changes data only; its cell is `empty`, a list, the re-used bin `b` (only if
the side is not empty and `reuse` is set) or the one `TreeBin` it has added -/
theorem splitSide_grows (s : State) (b : Nat) (c : List Nat) (sm ru : Bool) :
    Grows s (splitSide s b c sm ru).1 ∧ (splitSide s b c sm ru).1.tabs = s.tabs ∧
    (splitSide s b c sm ru).2 ≠ .moved ∧
    ∀ b', (splitSide s b c sm ru).2 = .tree b' →
      (b' = b ∧ ru = true ∧ c.isEmpty = false ∧ (splitSide s b c sm ru).1.tbins.length = s.tbins.length) ∨
      (b' = s.tbins.length ∧ (splitSide s b c sm ru).1.tbins.length = s.tbins.length + 1) := by
  unfold splitSide
  split
  · exact ⟨.refl s, rfl, by simp, fun b' h => by cases h⟩
  · rename_i hne
    split
    · exact ⟨.setHeap s _, rfl, cellOfHead_ne_moved _,
        fun b' h => absurd h (cellOfHead_ne_tree _ _)⟩
    · split
      · rename_i hru
        exact ⟨.refl s, rfl, by simp, fun b' h => by cases h; exact Or.inl ⟨rfl, hru, by simpa using hne, rfl⟩⟩
      · refine ⟨.of_ext (by simp), rfl, by simp, fun b' h => ?_⟩
        cases h
        exact Or.inr ⟨rfl, by simp⟩

/-- the unlink of a tree node from the list of its bin changes a `next` field or the `first` field of the bin -/
theorem unlinkOf_grows (s : State) (b i : Nat) : Grows s (unlinkOf s b i) ∧ (unlinkOf s b i).tabs = s.tabs := by
  unfold unlinkOf
  split
  · exact ⟨.setNode s _ _, rfl⟩
  · exact ⟨.setBin s b _, rfl⟩

theorem buildOf_grows (s : State) (h : Nat) : Grows s (buildOf s h) :=
  .of_ext (by simp)

/-- the tree split changes data only; a planned cell is not the marker; a `TreeBin` in a planned cell is the
re-used bin `b` or a new one; the two planned cells do not hold the same `TreeBin` (`b` being an old one) -/
theorem ysplitOf_grows (s : State) (b : Nat) (sm sm2 : Bool) :
    Grows s (ysplitOf s b sm sm2).1 ∧ (ysplitOf s b sm sm2).1.tabs = s.tabs ∧
    (ysplitOf s b sm sm2).2.1 ≠ .moved ∧ (ysplitOf s b sm sm2).2.2 ≠ .moved ∧
    (∀ b', (ysplitOf s b sm sm2).2.1 = .tree b' ∨ (ysplitOf s b sm sm2).2.2 = .tree b' →
      b' = b ∨ (s.tbins.length ≤ b' ∧ b' < (ysplitOf s b sm sm2).1.tbins.length)) ∧
    (b < s.tbins.length → ∀ b', (ysplitOf s b sm sm2).2.1 = .tree b' → (ysplitOf s b sm sm2).2.2 ≠ .tree b') := by
  obtain ⟨g1, t1, m1, c1⟩ := splitSide_grows s b (lowOf s b) sm (highOf s b).isEmpty
  obtain ⟨g2, t2, m2, c2⟩ :=
    splitSide_grows (splitSide s b (lowOf s b) sm (highOf s b).isEmpty).1 b (highOf s b) sm2 (lowOf s b).isEmpty
  have hlen := g2.tbins
  refine ⟨g1.trans g2, t2.trans t1, m1, m2, ?_, ?_⟩
  · rintro b' (h | h)
    · rcases c1 b' h with ⟨e, -⟩ | ⟨e, l⟩
      · exact Or.inl e
      · exact Or.inr ⟨by rw [e]; exact Nat.le_refl _, Nat.lt_of_lt_of_le (by rw [e, l]; exact Nat.lt_succ_self _) hlen⟩
    · rcases c2 b' h with ⟨e, -⟩ | ⟨e, l⟩
      · exact Or.inl e
      · exact Or.inr ⟨by rw [e]; exact g1.tbins, by rw [e]; show _ < (splitSide _ _ _ _ _).1.tbins.length; rw [l]; exact Nat.lt_succ_self _⟩
  · intro hb b' hlo hhi
    rcases c1 b' hlo with ⟨e1, r1, n1, l1⟩ | ⟨e1, l1⟩ <;> rcases c2 b' hhi with ⟨e2, r2, n2, l2⟩ | ⟨e2, l2⟩
    · -- both re-used: each side would have to be empty for the other to be re-used
      rw [r2] at n1; cases n1
    · omega
    · omega
    · omega

end Flurry.Proto.BinGN
