import Flurry.Lemmas.BinXBridge
/-! # C12 for a list bin under resize: what a reader's program counter knows (Proto/BinX)

`RInv`: in every reachable state of `Proto/BinX`
* the node a reader stands on (`rNode (some c)`) is inside the heap (nodes are never freed in the
  model; bin cells and `next` only ever point to allocated nodes — also while a transfer is copying
  nodes and re-linking the last run);
* the cells of the *new* table never hold the forwarding marker: following a forwarding marker takes
  a reader to a cell that is `empty` or a `node`, so there is exactly one forwarding hop.
Neither fact depends on what the other threads are doing. -/
namespace Flurry.Proto.BinX
open Flurry.Lin

/-- program counters of a reader: load the table pointer, load a bin cell (and follow the
forwarding marker into the new table), walk the list -/
def readerPc : Pc → Bool
  | .rTable | .rCell _ | .rNode _ => true
  | _ => false

structure RInv (s : State) : Prop where
  bound : ∀ (t : Nat) (l : Local) (c : Nat), s.threads[t]? = some l → l.pc = .rNode (some c) → c < s.heap.length
  lowNM : s.lowCell ≠ .moved
  highNM : s.highCell ≠ .moved

/-- both facts are read off the invariants carried on the image in `Proto/BinXC` (`reachable_base`): the node a
reader stands on is justified in hindsight (`Good.lt`), and the new cells hold no marker (`BinXC.Inv.nm`) -/
theorem reachable_rinv {n : Nat} {s : State} (hr : Reachable n s) : RInv s := by
  obtain ⟨r, _, _, _, I, -⟩ := reachable_base hr 0
  have hnm := I.nm
  rw [mem_emb] at hnm
  refine ⟨fun t l c hl hpc => ?_, hnm.1, hnm.2⟩
  obtain ⟨pc, call⟩ := l
  cases hpc
  obtain ⟨_, J0⟩ := reachable_inv hr
  cases call with
  | none => exact nomatch (J0.thr.callOK t _ hl).1 trivial
  | some p =>
    obtain ⟨G, A, pt, J, g⟩ := reachable_ginv_aux hr p.key
    exact (g.readers t _ p (some c) hl rfl rfl rfl).lt J.heap

end Flurry.Proto.BinX
