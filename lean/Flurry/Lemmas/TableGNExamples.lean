import Flurry.Lemmas.TableGN
/-! # Proto/TableGN: non-vacuity — a concrete reachable quiescent table, a TREE bin of one lineage transferred

Two lineages (`m = 2`: key `k` in lineage `k % 2` under the local name `k / 2`, so keys 0, 2, 4, 6 are the local
keys 0, 1, 2, 3 of lineage 0 and keys 1, 3, 5, 7 those of lineage 1), two threads, 91 transitions on one clock.

* **before**: thread 0 inserts keys 0, 2 and 4 (lineage 0: CAS into the empty cell, then two appends under the
  head lock) while thread 1 inserts key 1 (lineage 1); then thread 0 **treeifies the bin of key 4** — the treeify
  key is a key of the TABLE: `step` checks `4 % 2 = 0` and hands the local name `4 / 2 = 2` to lineage 0, whose cell
  `(0, 0)` becomes `TreeBin` 0 holding the local keys 0, 1, 2 (`example_treeified`);
* **lineage 0 is resized by thread 0** (generation 0 → 1) — the transfer of a TREE bin: thread 1's `get(2)` is invoked
  first, takes the read lock of `TreeBin` 0 and sits inside its tree (`rTree 0`); thread 0 allocates generation 1,
  takes the mutex of `TreeBin` 0, re-checks, splits (low side: local keys 0, 2 → a FRESH `TreeBin` 1; high side:
  local key 1 → a plain list of one fresh node), stores the low cell, the high cell and the forwarding marker —
  all while the reader still holds its read lock in the old `TreeBin` (`example_during`); the reader finishes
  (`some (20, 200)`); thread 1's `insert(6)` (local key 3) is invoked DURING the resize (marker stored, not yet
  committed), loads generation 0, finds the marker, goes on to generation 1, locks the head of the list in cell
  `(1, 1)`, and is in its walk when thread 0 unlocks the mutex and commits (`example_straddle`); it appends after
  the commit;
* **after**: `get(4)` (lineage 0, generation 1, through the read lock of the fresh `TreeBin` 1), `remove(1)`
  (lineage 1, still generation 0), `get(6)` (lineage 0, the list bin `(1, 1)`), `has(3)` (lineage 1, absent).

The final state is reachable and quiescent; lineage 0 is at generation 1 (generation 0 forwarded; cell `(1, 0)` a
tree bin, cell `(1, 1)` a list bin), lineage 1 at generation 0 — the lineages ARE at different generations, which
the model allows and the code does not (header of `Proto/TableGN.lean`); the map history holds the ten calls
under their ORIGINAL keys with times on ONE clock (calls of different lineages overlap), and the abstract map is
`{0 ↦ (10,100), 2 ↦ (20,200), 4 ↦ (40,400), 6 ↦ (60,600)}`. `step` refuses a call on a key of another lineage, a
treeify for the bin of a key of another lineage, and a thread that is busy in another lineage — with a call, a
treeify, or in the middle of a resize. -/
namespace Flurry.Proto.TableGN
open Flurry.Lin Flurry.LinMap
open Flurry.Proto.BinG (Cell)

/-- `(lineage, thread, invocation (key of the table), listOnly, treeify (key of the table), resize, small, small2, pick)` -/
abbrev Sch := Nat × Nat × Option (Nat × KOp) × Bool × Option Nat × Bool × Bool × Bool × Nat

def run (S : State) : List Sch → Option State
  | [] => some S
  | (i, t, inv, lo, mt, rz, sm, sm2, pick) :: rest =>
    match step S i t inv lo mt rz sm sm2 pick with
    | some S' => run S' rest
    | none => none

theorem run_reachable {m n : Nat} : ∀ (sched : List Sch) {S S' : State},
    Reachable m n S → run S sched = some S' → Reachable m n S'
  | [], S, S', hr, h => by
    simp only [run, Option.some.injEq] at h
    exact h ▸ hr
  | (i, t, inv, lo, mt, rz, sm, sm2, pick) :: rest, S, S', hr, h => by
    simp only [run] at h
    cases hs : step S i t inv lo mt rz sm sm2 pick with
    | none => rw [hs] at h; cases h
    | some S1 =>
      rw [hs] at h
      exact run_reachable rest (Reachable.step i t inv lo mt rz sm sm2 pick hr hs) h

abbrev call (i t k : Nat) (op : KOp) : List Sch := [(i, t, some (k, op), false, none, false, false, false, 0)]
abbrev go (i t n : Nat) : List Sch := List.replicate n (i, t, none, false, none, false, false, false, 0)
/-- `n` further steps of thread `t` in lineage `i` with the size decisions `sm` (low side) and `sm2` (high side) -/
abbrev goS (i t n : Nat) (sm sm2 : Bool) : List Sch := List.replicate n (i, t, none, false, none, false, sm, sm2, 0)
abbrev treeify (i t k : Nat) : List Sch := [(i, t, none, false, some k, false, false, false, 0)]
abbrev resize (i t : Nat) : List Sch := [(i, t, none, false, none, true, false, false, 0)]

/-- inserts in both lineages; then thread 0 treeifies the bin of key 4 (lineage 0, local key 2) -/
def exInserts : List Sch :=
  call 0 0 0 (.ins 10 100) ++ call 1 1 1 (.ins 11 101) ++ go 0 0 3 ++ go 1 1 3 ++
  call 0 0 2 (.ins 20 200) ++ go 0 0 8 ++ call 0 0 4 (.ins 40 400) ++ go 0 0 9

def exBefore : List Sch := exInserts ++ treeify 0 0 4 ++ go 0 0 7

/-- thread 1 calls `get(2)` and takes the read lock of `TreeBin` 0; thread 0 starts the resize of lineage 0, takes
the mutex, re-checks, splits (low: fresh `TreeBin`, high: plain list), stores low, high and the marker -/
def exResizeA : List Sch := call 0 1 2 .get ++ go 0 1 5 ++ resize 0 0 ++ goS 0 0 8 false true

/-- … thread 1 finishes its read and calls `insert(6)`: generation 0, marker, generation 1, lock, re-check -/
def exResizeB : List Sch := exResizeA ++ go 0 1 3 ++ call 0 1 6 (.ins 60 600) ++ go 0 1 5

/-- … thread 0 unlocks the mutex and commits; thread 1 appends and unlocks -/
def exResize : List Sch := exResizeB ++ go 0 0 3 ++ go 0 1 4

def exAfter : List Sch :=
  call 0 0 4 .get ++ call 1 1 1 .rm ++ go 0 0 8 ++ go 1 1 7 ++
  call 0 1 6 .get ++ call 1 0 3 .has ++ go 0 1 4 ++ go 1 0 2

def exSchedule : List Sch := exBefore ++ exResize ++ exAfter

def exHist : MHistory :=
  [ ⟨0, ⟨0, .ins 10 100, .none, 1, 5⟩⟩, ⟨2, ⟨0, .ins 20 200, .none, 9, 17⟩⟩,
    ⟨4, ⟨0, .ins 40 400, .none, 18, 27⟩⟩, ⟨2, ⟨1, .get, .some 20 200, 36, 53⟩⟩,
    ⟨6, ⟨1, .ins 60 600, .none, 54, 66⟩⟩, ⟨4, ⟨0, .get, .some 40 400, 67, 76⟩⟩,
    ⟨6, ⟨1, .get, .some 60 600, 84, 89⟩⟩,
    ⟨1, ⟨1, .ins 11 101, .none, 2, 8⟩⟩, ⟨1, ⟨1, .rm, .some 11 101, 68, 83⟩⟩,
    ⟨3, ⟨0, .has, .bool false, 85, 91⟩⟩ ]

/-- the abstract map on the keys `0 … 7` -/
def exAbs : List KSt :=
  [some (10, 100), none, some (20, 200), none, some (40, 400), none, some (60, 600), none]

/-- per lineage: the cells of all generations, the generation of the table pointer, a resize is running, clock -/
def shape (S : State) : List (List (List Cell) × Nat × Bool × Nat) :=
  S.bins.map fun b => (b.tabs, b.cur, b.resizing, b.now)

/-- per lineage, per thread: the program counter -/
def pcs (S : State) : List (List BinGN.Pc) := S.bins.map fun b => b.threads.map (·.pc)

/-- lineage 0: generation 0 forwarded, generation 1 current with a tree bin and a list bin; lineage 1: generation 0 -/
def exShape : List (List (List Cell) × Nat × Bool × Nat) :=
  [([[.moved], [.tree 1, .list 8]], 1, false, 91), ([[.empty]], 0, false, 91)]

/-- after the treeify of "the bin of key 4" (clock 35): cell `(0, 0)` of lineage 0 — the bin of local key `4 / 2 = 2`
— is a tree bin; lineage 1 is untouched (its cell still is the list bin of key 1) -/
def exTreeified : Bool :=
  match run (init 2 2) exBefore with
  | some S =>
    shape S == [([[.tree 0]], 0, false, 35), ([[.list 0]], 0, false, 35)] &&
      pcs S == [[.idle, .idle], [.idle, .idle]]
  | none => false


/-- during the transfer of the tree bin (clock 50): the fresh `TreeBin` 1 (low), the plain list (high) and the
forwarding marker are stored, `cur` still is generation 0, the resizing thread still holds the mutex of the old
`TreeBin` 0 (`xUnlock (inr 0)`), and the reader sits inside the tree of the old `TreeBin` 0 with its read lock -/
def exDuring : Bool :=
  match run (init 2 2) (exBefore ++ exResizeA) with
  | some S =>
    shape S == [([[.moved], [.tree 1, .list 8]], 0, true, 50), ([[.list 0]], 0, false, 50)] &&
      pcs S == [[.xUnlock (.inr 0), .rTree 0], [.idle, .idle]]
  | none => false


/-- a writer invoked during the resize (clock 59): it has followed the marker into generation 1 — not yet
published — and walks the list of cell `(1, 1)` under its head lock; the resizing thread is about to unlock and
commit -/
def exStraddle : Bool :=
  match run (init 2 2) (exBefore ++ exResizeB) with
  | some S =>
    shape S == [([[.moved], [.tree 1, .list 8]], 0, true, 59), ([[.list 0]], 0, false, 59)] &&
      pcs S == [[.xUnlock (.inr 0), .wFind 1 8 none (some 8)], [.idle, .idle]]
  | none => false

/-- the end of the run (clock 91) -/
def exCheck : Bool :=
  (run (init 2 2) exSchedule).any fun S =>
    S.bins.all (fun b => b.threads.all (fun l => l.pc == .idle)) && mhist S == exHist &&
      (List.range 8).map (absMap S) == exAbs && shape S == exShape

/-- the four prefixes of `exSchedule` that are looked at -/
theorem exRun : (exTreeified && exDuring && exStraddle && exCheck) = true := by decide +kernel

theorem example_treeified : exTreeified = true := by
  have h := exRun
  simp only [Bool.and_eq_true] at h
  exact h.1.1.1

theorem example_during : exDuring = true := by
  have h := exRun
  simp only [Bool.and_eq_true] at h
  exact h.1.1.2

theorem example_straddle : exStraddle = true := by
  have h := exRun
  simp only [Bool.and_eq_true] at h
  exact h.1.2

/-- a reachable quiescent table with two lineages, a tree bin of lineage 0 transferred, whose history holds calls
on keys of both lineages before, during and after the resize -/
theorem example_state :
    ∃ S : State, Reachable 2 2 S ∧ quiescent S ∧ mhist S = exHist ∧ (List.range 8).map (absMap S) = exAbs ∧
      shape S = exShape := by
  have h := exRun
  simp only [Bool.and_eq_true] at h
  obtain ⟨S, hrun, h⟩ := (Option.any_eq_true _ _).1 h.2
  simp only [Bool.and_eq_true, List.all_eq_true, beq_iff_eq] at h
  obtain ⟨⟨⟨hq, hh⟩, ha⟩, hs⟩ := h
  exact ⟨S, run_reachable exSchedule Reachable.init hrun, fun b hb l hl => hq b hb l hl, hh, ha, hs⟩

/-- the lineages of that state are at different generations: lineage 0 at generation 1, lineage 1 at generation 0 -/
theorem example_generations : ∃ S : State, Reachable 2 2 S ∧ quiescent S ∧ S.bins.map (·.cur) = [1, 0] := by
  obtain ⟨S, hr, hq, -, -, hs⟩ := example_state
  refine ⟨S, hr, hq, ?_⟩
  have h2 : (shape S).map (·.2.1) = S.bins.map (·.cur) := by
    unfold shape
    rw [List.map_map]
    rfl
  rw [← h2, hs]
  rfl


/-- refused: a call on a key of another lineage (key 1 belongs to lineage 1, key 2 to lineage 0); a treeify for the
bin of a key of another lineage (the treeify key is translated like the invocation key); a thread that is busy in
another lineage — with a call, with a treeify, or in the middle of a resize (so a thread resizes the lineages one
at a time; another thread may resize another lineage meanwhile) -/
theorem example_refused :
    (step (init 2 2) 0 0 (some (1, .ins 1 1)) false none false false false 0).isNone = true ∧
    (step (init 2 2) 1 0 (some (2, .ins 1 1)) false none false false false 0).isNone = true ∧
    (step (init 2 2) 0 0 none false (some 1) false false false 0).isNone = true ∧
    (step (init 2 2) 1 0 none false (some 4) false false false 0).isNone = true ∧
    (step (init 2 2) 0 0 none false (some 4) false false false 0).isSome = true ∧
    (run (init 2 2) (call 0 0 2 (.ins 1 1) ++ call 1 0 1 .get)).isNone = true ∧
    (run (init 2 2) (call 0 0 2 (.ins 1 1) ++ go 1 0 1)).isNone = true ∧
    (run (init 2 2) (treeify 0 0 4 ++ treeify 1 0 1)).isNone = true ∧
    (run (init 2 2) (resize 0 0 ++ go 0 0 1 ++ resize 1 0)).isNone = true ∧
    (run (init 2 2) (resize 0 0 ++ go 0 0 1 ++ resize 1 1 ++ go 1 1 1 ++ go 0 0 1)).isSome = true := by decide +kernel

end Flurry.Proto.TableGN
