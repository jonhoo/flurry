import Flurry.Lemmas.BinGDrainCalm
import Flurry.Lemmas.BinGHeapSize
/-! # Proto/BinG, termination: every transition is calm or disturbing

`stepN_effect`: every transition of a thread that is not `idle` is
* *calm* (`CalmEff`): the `View` and the heap length are unchanged, the thread's calm-step measure `pmV`
  strictly decreases, its `daV` and `grow` do not increase; or
* *disturbing* (`DistEff`): the thread's `daV` decreases by at least one; the heap keeps its length, or
  the thread was a heap-grower (`grow = 1`), is none any more, and the heap length `n` becomes at most
  `4 * (n + 1) - 1` (an allocation adds one node, or copies of nodes of a chain, which is no longer than the heap: the
  heap at most doubles at a treeify, an untreeify or a list split, at most triples at a tree split,
  `Lemmas/BinGHeapSize.lean`); the
  `WAITER` bit of a `TreeBin` is cleared only by the holder of its mutex. -/
namespace Flurry.Proto.BinG
open Flurry.Lin
open Flurry.Proto.BinK (binAt binAt_modify binAt_modify_self binAt_append_left)
open Flurry.Proto.BinGProg (le_of_eval lt_of_eval ite_lt_ite chainFrom_length_le copyChain_length)

theorem chainOfBin_length_le (s : State) (b : Nat) : (chainOfBin s b).length ≤ s.heap.length :=
  chainFrom_length_le _ _ _

theorem storeAt_heap_length (s : State) (tab : Tab) (p : Pending) (pred hit hnext : Option Nat) :
    (storeAt s tab p pred hit hnext).1.heap.length ≤ s.heap.length + 1 := by
  unfold storeAt
  cases p.op <;> cases hit <;> cases pred <;>
    simp only [setNode, setCell_heap, List.length_modify, List.length_append, List.length_singleton] <;> omega

theorem storeAt_tbins (s : State) (tab : Tab) (p : Pending) (pred hit hnext : Option Nat) :
    (storeAt s tab p pred hit hnext).1.tbins = s.tbins := by
  unfold storeAt
  cases p.op <;> cases hit <;> cases pred <;> simp only [setNode, setCell_tbins]

theorem unlinkOf_heap_length (s : State) (b i : Nat) : (unlinkOf s b i).heap.length = s.heap.length := by
  unfold unlinkOf
  split
  · show (List.modify _ _ _).length = _
    rw [List.length_modify]
  · rfl

theorem unlinkOf_waiter (s : State) (b i c : Nat) : (binAt (unlinkOf s b i).tbins c).waiter = (binAt s.tbins c).waiter := by
  unfold unlinkOf
  split
  · rfl
  · show (binAt (List.modify _ _ _) c).waiter = _
    rw [binAt_modify]; split <;> rfl

theorem untreeifyOf_heap_length (s : State) (tab : Tab) (k b : Nat) :
    (untreeifyOf s tab k b).heap.length ≤ 2 * s.heap.length := by
  unfold untreeifyOf
  rw [setCell_heap]
  dsimp only
  rw [copyChain_length]
  have := chainOfBin_length_le s b
  omega

theorem untreeifyOf_tbins (s : State) (tab : Tab) (k b : Nat) : (untreeifyOf s tab k b).tbins = s.tbins := by
  unfold untreeifyOf
  rw [setCell_tbins]

theorem buildOf_heap_length (s : State) (h : Nat) : (buildOf s h).heap.length ≤ 2 * s.heap.length := by
  unfold buildOf
  dsimp only
  rw [copyChain_length]
  have := chainFrom_length_le s.heap s.heap.length (some h)
  omega

theorem xsplitOf_heap_length (s : State) (h : Nat) : (xsplitOf s h).1.length ≤ 2 * s.heap.length := by
  rw [xsplitOf_eq]
  have h1 := BinGH.splitBinB_length (hiBit) s.heap (BinGH.chain s.heap s.tbins (.list h))
  have h2 := BinGH.chain_length_le s.heap s.tbins (.list h)
  show (BinGN.splitBinB (hiBit) s.heap (BinGH.chain s.heap s.tbins (.list h))).1.length ≤ _
  omega

theorem ysplitOf_size (s : State) (b : Nat) (small small2 : Bool) :
    (ysplitOf s b small small2).1.heap.length ≤ 3 * s.heap.length ∧
    ∃ ext, (ysplitOf s b small small2).1.tbins = s.tbins ++ ext := by
  rw [ysplitOf_eq]
  exact BinGH.ysplit_size (hiBit) s.heap s.tbins b small small2

structure CalmEff (L : Nat) (s s' : State) (t : Nat) (l l' : Local) : Prop where
  thr : s'.threads = s.threads.set t l'
  view : viewOf s' = viewOf s
  hlen : s'.heap.length = s.heap.length
  grow : grow l'.pc ≤ grow l.pc
  da : daV (viewOf s) l' ≤ daV (viewOf s) l
  pm : pmV L (viewOf s) l' < pmV L (viewOf s) l

/-- the `WAITER` bits of the `TreeBin`s of `s` are those of `tb`, but for one that the holder of its
mutex may have cleared -/
def KeepW (s : State) (pc : Pc) (tb : List TBin) : Prop :=
  ∀ b, b < s.tbins.length → (binAt s.tbins b).waiter = true → (binAt tb b).waiter = true ∨ holdsMutex pc = some b

structure DistEff (s s' : State) (t : Nat) (l l' : Local) : Prop where
  thr : s'.threads = s.threads.set t l'
  hlen : (s'.heap.length = s.heap.length ∧ grow l'.pc ≤ grow l.pc) ∨
    (s'.heap.length + 1 ≤ 4 * (s.heap.length + 1) ∧ grow l'.pc + 1 ≤ grow l.pc)
  da : daV (viewOf s') l' + 1 ≤ daV (viewOf s) l
  keep : KeepW s l.pc s'.tbins

theorem KeepW.refl (s : State) (pc : Pc) : KeepW s pc s.tbins := fun _ _ h => .inl h

theorem KeepW.append (s : State) (pc : Pc) (ext : List TBin) : KeepW s pc (s.tbins ++ ext) :=
  fun b hb h => .inl (by rw [binAt_append_left _ hb]; exact h)

/-- one `TreeBin` gets new words `f x` whose `WAITER` bit is the old one or set -/
theorem KeepW.modify {s : State} {pc : Pc} (b0 : Nat) (f : TBin → TBin)
    (hf : ∀ x, x.waiter = true → (f x).waiter = true ∨ holdsMutex pc = some b0) : KeepW s pc (s.tbins.modify b0 f) := by
  intro b hb hw
  rw [binAt_modify]
  split
  · rename_i h
    obtain ⟨rfl, _⟩ := h
    exact hf _ hw
  · exact .inl hw

/-- what a disturbing transition does to the state `X` it passes to `setT` / `finish` -/
structure DistOn (s X : State) (l l' : Local) : Prop where
  thr : X.threads = s.threads
  hlen : (X.heap.length = s.heap.length ∧ grow l'.pc ≤ grow l.pc) ∨
    (X.heap.length + 1 ≤ 4 * (s.heap.length + 1) ∧ grow l'.pc + 1 ≤ grow l.pc)
  da : daV (viewOf X) l' + 1 ≤ daV (viewOf s) l
  keep : KeepW s l.pc X.tbins

theorem DistOn.setT {s X : State} {l l' : Local} {t : Nat} (d : DistOn s X l l') : DistEff s (setT X t l') t l l' :=
  ⟨by rw [← d.thr]; rfl, d.hlen, d.da, d.keep⟩

theorem DistOn.finish {s X : State} {l : Local} {t : Nat} {p : Pending} {res : KRes} (d : DistOn s X l ⟨.idle, none⟩) :
    DistEff s (finish X t p res) t l ⟨.idle, none⟩ :=
  ⟨by rw [← d.thr]; rfl, d.hlen, d.da, d.keep⟩

/-- a transition that stores into a cell or the table pointer only -/
theorem DistEff.cellOnly {s s' : State} {t : Nat} {l l' : Local} (ht : s'.threads = s.threads.set t l')
    (hh : s'.heap = s.heap) (htb : s'.tbins = s.tbins) (hg : grow l'.pc ≤ grow l.pc)
    (hda : ∀ v, daV v l' + 1 ≤ daV (viewOf s) l) : DistEff s s' t l l' :=
  ⟨ht, .inl ⟨by rw [hh], hg⟩, hda _, by rw [htb]; exact KeepW.refl s l.pc⟩

/-- **every transition of a thread that is not `idle` is calm or disturbing** -/
theorem stepN_effect {s s' : State} {t : Nat} {l : Local} (I : Inv s) (hl : s.threads[t]? = some l)
    (hne : l.pc ≠ .idle) {L : Nat} (hL : s.heap.length ≤ L)
    {inv : Option (Nat × KOp)} {lo : Bool} {mt : Option Nat} {rz sm sm2 : Bool}
    (hs : step s t inv lo mt rz sm sm2 = some s') : ∃ l', CalmEff L s s' t l l' ∨ DistEff s s' t l l' := by
  have hk := step_stepN hl hs
  have href := I.lock.refOK t l
  -- for `omega` in the allocating cases, whose size lemmas speak of `(tick s).heap`
  have htk : (tick s).heap.length = s.heap.length := rfl
  obtain ⟨pc, call⟩ := l
  cases hk with
  | idle hpc | maint _ hpc | resizeStart hpc _ | invoke _ _ _ hpc => exact absurd hpc hne
  | move p pc' hp hc hm =>
    cases hc
    obtain ⟨_, hg, hd⟩ := hm.grow_da (viewOf s) (some p)
    obtain ⟨hv, hln⟩ := view_setT_lock hm.lockKind ⟨pc', some p⟩
    exact ⟨⟨pc', some p⟩, .inl ⟨rfl, hv, hln, hg, hd,
      hm.calm I.heap hL hl hs (Flurry.Proto.BinK.get_set_self hl)⟩⟩
  | kmove pc' hp hc hm =>
    cases hc
    obtain ⟨hg, hd⟩ := hm.grow_da (viewOf s) none
    obtain ⟨hv, hln⟩ := view_setT_lock hm.lockKind ⟨pc', none⟩
    exact ⟨⟨pc', none⟩, .inl ⟨rfl, hv, hln, hg, hd, hm.calm I.heap L⟩⟩
  | kbmove pc' tb hc hm =>
    cases hc
    obtain ⟨_, ⟨b, x, rfl⟩, hg, hd, hpm⟩ := hm.calm L
    obtain ⟨hv, hln⟩ := view_setT_mutex s b x t ⟨pc', none⟩
    exact ⟨⟨pc', none⟩, .inl ⟨rfl, hv, hln, hg, hd, hpm⟩⟩
  | fin p res hp hc hf =>
    cases hc
    obtain ⟨hv, hln⟩ := view_finish_lock (t := t) hf.lockKind p res
    exact ⟨⟨.idle, none⟩, .inl ⟨rfl, hv, hln, Nat.zero_le _, Nat.zero_le _, hf.pm_pos L _ _⟩⟩
  | bmove p pc' tb hc hm =>
    cases hc
    cases hm with
    | @rCasOk b c r _ _ _ =>
      exact ⟨_, .inr (DistOn.setT ⟨rfl, .inl ⟨rfl, le_of_eval rfl⟩, le_of_eval rfl, .modify _ _ fun _ h => .inl h⟩)⟩
    | @rRelVal b i _ =>
      exact ⟨_, .inr (DistOn.setT ⟨rfl, .inl ⟨rfl, le_of_eval rfl⟩, le_of_eval rfl, .modify _ _ fun _ h => .inl h⟩)⟩
    | @tMutex tab b hmx =>
      obtain ⟨hv, hln⟩ := view_setT_mutex s b (some t) t ⟨.tCheck tab b, some p⟩
      exact ⟨_, .inl ⟨rfl, hv, hln, le_of_eval rfl, le_of_eval rfl,
        ite_lt_ite (lt_of_eval rfl) (Nat.add_lt_add_right (lt_of_eval rfl) _)⟩⟩
    | @tUnlockMRetry tab b res =>
      obtain ⟨hv, hln⟩ := view_setT_mutex s b none t ⟨.wCell tab, some p⟩
      exact ⟨_, .inl ⟨rfl, hv, hln, le_of_eval rfl, le_of_eval rfl, Nat.lt_add_of_pos_left (Nat.succ_pos 0)⟩⟩
    | @lrTryOk tab b k res _ _ _ =>
      exact ⟨_, .inr (DistOn.setT ⟨rfl, .inl ⟨rfl, by cases k <;> exact le_of_eval rfl⟩,
        by cases k <;> exact le_of_eval rfl, .modify _ _ fun _ h => .inl h⟩)⟩
    | @lrLoopOk tab b k res _ _ =>
      exact ⟨_, .inr (DistOn.setT ⟨rfl, .inl ⟨rfl, by cases k <;> exact le_of_eval rfl⟩,
        by cases k <;> exact Nat.le_add_right 4 _, .modify _ _ fun _ _ => .inr rfl⟩)⟩
    | @lrLoopWait tab b k res hwt =>
      have hb : b < s.tbins.length := (href b hl rfl).1
      refine ⟨_, .inr (DistOn.setT ⟨rfl, .inl ⟨rfl, Nat.le_refl _⟩, ?_, .modify _ _ fun _ _ => .inl rfl⟩)⟩
      show 4 + (if (binAt (s.tbins.modify b (fun x => { x with waiter := true })) b).waiter = true then 0 else 1) + 1 ≤
        4 + (if (binAt s.tbins b).waiter = true then 0 else 1)
      rw [binAt_modify_self _ hb, hwt]
      exact Nat.le_refl _
    | @unlockRoot tab b res =>
      exact ⟨_, .inr (DistOn.setT ⟨rfl, .inl ⟨rfl, le_of_eval rfl⟩, le_of_eval rfl, .modify _ _ fun _ _ => .inr rfl⟩)⟩
  | bfin p res tb hc hf =>
    cases hc
    cases hf with
    | @rRelNone b =>
      exact ⟨_, .inr (DistOn.finish ⟨rfl, .inl ⟨rfl, le_of_eval rfl⟩, le_of_eval rfl, .modify _ _ fun _ h => .inl h⟩)⟩
    | @rRelHas b i _ =>
      exact ⟨_, .inr (DistOn.finish ⟨rfl, .inl ⟨rfl, le_of_eval rfl⟩, le_of_eval rfl, .modify _ _ fun _ h => .inl h⟩)⟩
    | @tUnlockMFin tab b res =>
      obtain ⟨hv, hln⟩ := view_finish_mutex s b none t p res
      exact ⟨⟨.idle, none⟩, .inl ⟨rfl, hv, hln, Nat.zero_le _, Nat.zero_le _, Nat.succ_pos 0⟩⟩
  | cas p tab v vi hc hpc he hop =>
    cases hpc
    refine ⟨_, .inr (DistOn.finish ⟨setCell_threads _ _ _ _, .inr ⟨?_, le_of_eval rfl⟩, le_of_eval rfl, ?_⟩)⟩
    · rw [setCell_heap]
      show (s.heap ++ [_]).length + 1 ≤ _
      rw [List.length_append, List.length_singleton]; omega
    · rw [setCell_tbins]; exact .refl s _
  | store p tab h pred hit hnext hc hpc =>
    cases hpc
    refine ⟨_, .inr (DistOn.setT ⟨(storeAt_frame (tick s) tab p pred hit hnext).1, .inr ⟨?_, le_of_eval rfl⟩,
      le_of_eval rfl, ?_⟩)⟩
    · have := storeAt_heap_length (tick s) tab p pred hit hnext
      omega
    · rw [storeAt_tbins]; exact .refl s _
  | tval p tab b i v res hc hpc =>
    cases hpc
    exact ⟨_, .inr (DistOn.setT ⟨rfl, .inl ⟨List.length_modify .., le_of_eval rfl⟩, le_of_eval rfl, .refl s _⟩)⟩
  | prepend p tab b v vi hc hpc hop =>
    cases hpc
    refine ⟨_, .inr (DistOn.setT ⟨rfl, .inr ⟨?_, le_of_eval rfl⟩, le_of_eval rfl, .modify _ _ fun _ h => .inl h⟩)⟩
    show (s.heap ++ [_]).length + 1 ≤ _
    rw [List.length_append, List.length_singleton]; omega
  | treeLink p tab b x hc hpc =>
    cases hpc
    exact ⟨_, .inr (DistOn.setT ⟨rfl, .inl ⟨List.length_modify .., le_of_eval rfl⟩, le_of_eval rfl, .refl s _⟩)⟩
  | unlink p tab b i res small hc hpc =>
    cases hpc
    refine ⟨_, .inr (DistOn.setT ⟨(unlinkOf_frame (tick s) b i).1, .inl ⟨unlinkOf_heap_length (tick s) b i, ?_⟩, ?_,
      fun c _ h => .inl ((unlinkOf_waiter (tick s) b i c).trans h)⟩)⟩
    · cases small <;> exact le_of_eval rfl
    · cases small <;> exact le_of_eval rfl
  | untree p tab b i res hc hpc =>
    cases hpc
    exact ⟨_, .inr (DistOn.setT ⟨rfl, .inl ⟨List.length_modify .., le_of_eval rfl⟩, le_of_eval rfl, .refl s _⟩)⟩
  | untreeify p tab b res hc hpc =>
    cases hpc
    refine ⟨_, .inr (DistOn.setT ⟨(untreeifyOf_frame (tick s) tab p.key b).1, .inr ⟨?_, le_of_eval rfl⟩,
      le_of_eval rfl, ?_⟩)⟩
    · have := untreeifyOf_heap_length (tick s) tab p.key b
      omega
    · rw [untreeifyOf_tbins]; exact .refl s _
  | kbuild tab k h hc hpc =>
    cases hpc
    refine ⟨_, .inr (DistOn.setT ⟨rfl, .inr ⟨?_, le_of_eval rfl⟩, le_of_eval rfl, .append s _ _⟩)⟩
    have := buildOf_heap_length (tick s) h
    omega
  | kstore tab k h b hc hpc =>
    cases hpc
    exact ⟨_, .inr (DistOn.setT ⟨setCell_threads _ _ _ _, .inl ⟨congrArg _ (setCell_heap ..), le_of_eval rfl⟩,
      le_of_eval rfl, by rw [setCell_tbins]; exact .refl s _⟩)⟩
  | xbuild h hc hpc =>
    cases hpc
    refine ⟨_, .inr (DistOn.setT ⟨rfl, .inr ⟨?_, le_of_eval rfl⟩, le_of_eval rfl, .refl s _⟩)⟩
    have := xsplitOf_heap_length s h
    show (xsplitOf s h).1.length + 1 ≤ _
    omega
  | ybuild b small small2 hc hpc =>
    cases hpc
    obtain ⟨hsz, ext, htb⟩ := ysplitOf_size (tick s) b small small2
    refine ⟨_, .inr (DistOn.setT ⟨(ysplitOf_frame (tick s) b small small2).1, .inr ⟨by omega, le_of_eval rfl⟩,
      le_of_eval rfl, ?_⟩)⟩
    rw [htb]; exact .append s _ ext
  | xcasMoved hc hpc h0 =>
    cases hpc
    exact ⟨⟨.xCommit, call⟩, .inr (.cellOnly (by cases s; rfl) (by cases s; rfl) (by cases s; rfl) (le_of_eval rfl)
      fun _ => le_of_eval rfl)⟩
  | xstoreLow unl lo hi hc hpc =>
    cases hpc
    exact ⟨⟨.xStoreHigh unl hi, call⟩, .inr (.cellOnly (by cases s; rfl) (by cases s; rfl) (by cases s; rfl)
      (le_of_eval rfl) fun _ => le_of_eval rfl)⟩
  | xstoreHigh unl hi hc hpc =>
    cases hpc
    exact ⟨⟨.xStoreMoved unl, call⟩, .inr (.cellOnly (by cases s; rfl) (by cases s; rfl) (by cases s; rfl)
      (le_of_eval rfl) fun _ => le_of_eval rfl)⟩
  | xstoreMoved unl hc hpc =>
    cases hpc
    exact ⟨⟨.xUnlock unl, call⟩, .inr (.cellOnly (by cases s; rfl) (by cases s; rfl) (by cases s; rfl)
      (le_of_eval rfl) fun _ => le_of_eval rfl)⟩
  | xcommit hc hpc =>
    cases hpc
    exact ⟨⟨.idle, call⟩, .inr (.cellOnly (by cases s; rfl) (by cases s; rfl) (by cases s; rfl) (le_of_eval rfl)
      fun _ => le_of_eval rfl)⟩

end Flurry.Proto.BinG
