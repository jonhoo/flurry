import Flurry.Lemmas.BinRStep
/-! # Proto/BinR: the remembered positions of a walking writer are the current ones (C13)

* `Base.stepK_frozen`: while some thread is a validated writer (`wWrite h`), no *other* thread changes
  the chain, a key or a `next` pointer (the lock-free CAS needs an empty bin, a second validated
  writer is excluded by the mutex of the head node, lock/unlock only touch lock words).
* `Walk B key pred cur`: the nodes walked over are a prefix `l1` of the current chain without the
  key, `pred` is the last of them and `cur` is the head of the rest.
* **`storeAt_eq_writerStore`**: under `Walk`, storing through the remembered positions is exactly
  `Base.writerStore` on the current state. -/
namespace Flurry.Proto.BinR.Base
open Flurry.Lin2

/-- what a transition of another thread leaves alone while a validated writer exists -/
structure Frozen (s s' : State) : Prop where
  chain : chain s' = chain s
  key : ∀ j, j < s.heap.length → (nodeAt s'.heap j).key = (nodeAt s.heap j).key
  next : ∀ j, j < s.heap.length → (nodeAt s'.heap j).next = (nodeAt s.heap j).next

theorem Frozen.of_same {s s' : State} (hh : s'.heap = s.heap) (hd : s'.head = s.head) : Frozen s s' :=
  ⟨chain_congr hh hd, fun _ _ => by rw [hh], fun _ _ => by rw [hh]⟩

theorem Frozen.of_lock {s s' : State} (H : HInv s) {i : Nat} {x : Option Nat}
    (hh : s'.heap = s.heap.modify i (fun m => { m with lock := x })) (hd : s'.head = s.head) :
    Frozen s s' := by
  refine ⟨(modify_chain H hh hd (lock_frame x)).2.2, ?_, ?_⟩
  · intro j _; rw [hh, nodeAt_modify]; split <;> rfl
  · intro j _; rw [hh, nodeAt_modify]; split <;> rfl

theorem stepK_frozen {s s' : State} {t t1 : Nat} {l l1 : Local} {h : Nat} (H : HInv s) (L : LInv s)
    (hl : s.threads[t]? = some l) (hk : StepK s t l s') (hne : t1 ≠ t)
    (hl1 : s.threads[t1]? = some l1) (hpc1 : l1.pc = .wWrite h) : Frozen s s' := by
  have hhd := L.validated t1 l1 h hl1 hpc1
  cases hk with
  | idle hpc => exact .of_same rfl rfl
  | invoke k op hpc => exact .of_same rfl rfl
  | move p pc' hp hm => exact .of_same rfl rfl
  | lockMove p h' x pc' hp hm => exact .of_lock H rfl rfl
  | fin p res hp hf => exact .of_same rfl rfl
  | cas p v vi hp hpc hh hop => rw [hh] at hhd; cases hhd
  | write p h' hp hpc =>
    exfalso
    have h2 := L.validated t l h' hl hpc
    rw [hhd] at h2; cases h2
    have h3 := (L.lockHeld t l h hl (by rw [hpc]; exact rfl)).2
    have h4 := (L.lockHeld t1 l1 h hl1 (by rw [hpc1]; exact rfl)).2
    rw [h3] at h4; cases h4
    exact hne rfl
  | unlockFin p h' res hp hpc => exact .of_lock H rfl rfl

end Flurry.Proto.BinR.Base

namespace Flurry.Proto.BinR
open Flurry.Lin2

/-- the walk of a validated writer looking for `key`, seen on the current chain: the nodes passed
are the prefix `l1` (none of them has the key), `pred` is the last of them, `cur` the next node -/
def Walk (B : Base.State) (key : Nat) (pred cur : Option Nat) : Prop :=
  ∃ l1 l2, Base.chain B = l1 ++ l2 ∧ cur = l2.head? ∧ pred = l1.getLast? ∧
    ∀ j ∈ l1, (Base.nodeAt B.heap j).key ≠ key

theorem Walk.start {B : Base.State} (H : Base.HInv B) {h : Nat} (hh : B.head = some h) (key : Nat) :
    Walk B key none (some h) := by
  obtain ⟨l, hl⟩ := Base.chain_head_some H hh
  exact ⟨[], h :: l, by rw [hl]; rfl, rfl, rfl, fun j hj => by cases hj⟩

theorem Walk.next {B : Base.State} (H : Base.HInv B) {key : Nat} {pred : Option Nat} {c : Nat} {n : Base.NodeS}
    (w : Walk B key pred (some c)) (hn : B.heap[c]? = some n) (hk : n.key ≠ key) :
    Walk B key (some c) n.next := by
  obtain ⟨l1, l2, hch, hcur, -, hkeys⟩ := w
  cases l2 with
  | nil => cases hcur
  | cons c' l2' =>
    cases hcur
    have hchain := Base.chain_isChain H
    rw [hch] at hchain
    obtain ⟨b, -, h2⟩ := hchain.split
    obtain ⟨-, n', hn', hs⟩ := Base.IsSeg.cons_iff.1 h2
    rw [hn] at hn'; cases hn'
    refine ⟨l1 ++ [c], l2', by rw [hch]; simp, ?_, by simp, ?_⟩
    · cases l2' with
      | nil => exact Base.IsSeg.nil_iff.1 hs
      | cons d l3 => exact (Base.IsSeg.cons_iff.1 hs).1
    · intro j hj
      rcases List.mem_append.1 hj with hj | hj
      · exact hkeys j hj
      · have : j = c := by simpa using hj
        subst this
        rw [Base.nodeAt_of_some hn]; exact hk

theorem Walk.congr {B B' : Base.State} (H : Base.HInv B) (f : Base.Frozen B B') {key : Nat} {pred cur : Option Nat}
    (w : Walk B key pred cur) : Walk B' key pred cur := by
  obtain ⟨l1, l2, hch, hcur, hpred, hkeys⟩ := w
  refine ⟨l1, l2, by rw [f.chain, hch], hcur, hpred, ?_⟩
  intro j hj
  have hjc : j ∈ Base.chain B := by rw [hch]; exact List.mem_append_left _ hj
  rw [f.key j (Base.chain_lt H hjc)]
  exact hkeys j hj

/-- what the positions in a walking writer's program counter mean on the projected state `B` -/
def WalkOK (B : Base.State) (key : Nat) : Pc → Prop
  | .wFind _ pred cur => Walk B key pred cur
  | .wStore _ pred hit hnext => Walk B key pred hit ∧
      ∀ i, hit = some i → (Base.nodeAt B.heap i).key = key ∧ hnext = (Base.nodeAt B.heap i).next
  | _ => True

theorem WalkOK.of_not_walk {B : Base.State} {key : Nat} {pc : Pc} (h : ¬ walkPc pc) : WalkOK B key pc := by
  cases pc <;> first | trivial | exact absurd trivial h

theorem Walk.cur_mem {B : Base.State} {key : Nat} {pred : Option Nat} {i : Nat} (w : Walk B key pred (some i)) :
    i ∈ Base.chain B := by
  obtain ⟨l1, l2, hch, hcur, -, -⟩ := w
  cases l2 with
  | nil => cases hcur
  | cons c l2' => cases hcur; rw [hch]; simp

theorem WalkOK.congr {B B' : Base.State} (H : Base.HInv B) (f : Base.Frozen B B') {key : Nat} {pc : Pc}
    (w : WalkOK B key pc) : WalkOK B' key pc := by
  cases pc with
  | wFind h pred cur => exact Walk.congr H f w
  | wStore h pred hit hnext =>
    refine ⟨Walk.congr H f w.1, ?_⟩
    intro i hi
    subst hi
    have hil := Base.chain_lt H w.1.cur_mem
    rw [f.key i hil, f.next i hil]
    exact w.2 i rfl
  | _ => trivial

/-- what the remembered positions are in terms of the current chain -/
theorem Walk.positions {B : Base.State} (H : Base.HInv B) {key : Nat} {pred hit : Option Nat}
    (w : Walk B key pred hit) (hk : ∀ i, hit = some i → (Base.nodeAt B.heap i).key = key) :
    (Base.chain B).find? (fun i => (Base.nodeAt B.heap i).key == key) = hit ∧
    (hit = none → pred = (Base.chain B).getLast?) ∧
    (∀ i, hit = some i → Base.predOf (Base.chain B) i = pred) := by
  obtain ⟨l1, l2, hch, hcur, hpred, hkeys⟩ := w
  have hnone : l1.find? (fun i => (Base.nodeAt B.heap i).key == key) = none := by
    rw [List.find?_eq_none]
    intro j hj
    simpa using hkeys j hj
  have hnd := Base.chain_nodup H
  rw [hch] at hnd
  cases l2 with
  | nil =>
    subst hcur
    refine ⟨?_, ?_, fun i hi => by cases hi⟩
    · rw [hch, List.append_nil]; exact hnone
    · intro _; rw [hch, List.append_nil]; exact hpred
  | cons c l2' =>
    simp only [List.head?_cons] at hcur
    subst hcur
    refine ⟨?_, fun h => (by cases h), ?_⟩
    · rw [hch, List.find?_append, hnone]
      simp [hk c rfl]
    · intro i hi
      cases hi
      rw [hch, hpred]
      have h5 := List.nodup_append.1 hnd
      have hc1 : c ∉ l1 := fun hm => h5.2.2 c hm c (by simp) rfl
      have hc2 : c ∉ l2' := (List.nodup_cons.1 h5.2.1).1
      rcases List.eq_nil_or_concat l1 with rfl | ⟨l1', pr, rfl⟩
      · exact Base.predOf_head c l2' hc2
      · have hpr : pr ≠ c := fun he => hc1 (by simp [he])
        have : c ∉ l1' := fun hm => hc1 (by simp [hm])
        have h := Base.predOf_mid c pr l2' hpr l1' this
        simp only [List.concat_eq_append, List.append_assoc, List.singleton_append, List.getLast?_append,
          List.getLast?_singleton] at h ⊢
        simpa using h

theorem map_modify_val (l : List NodeS) (i : Nat) (x : Nat × Nat) :
    (l.modify i (fun n => { n with val := x })).map cN = (l.map cN).modify i (fun n => { n with val := x }) :=
  Base.map_modify cN _ _ (fun _ => rfl) l i

theorem map_modify_next (l : List NodeS) (i : Nat) (x : Option Nat) :
    (l.modify i (fun n => { n with next := x })).map cN = (l.map cN).modify i (fun n => { n with next := x }) :=
  Base.map_modify cN _ _ (fun _ => rfl) l i

theorem proj_unlinkAt (s : State) (pred hnext : Option Nat) :
    proj (match pred with
      | some pr => setNode s pr (fun m => { m with next := hnext })
      | none => { s with head := hnext }) =
    (match pred with
      | some pr => Base.setNode (proj s) pr (fun m => { m with next := hnext })
      | none => { proj s with head := hnext }) := by
  cases pred with
  | none => rfl
  | some pr => exact proj_setNode_next s pr _

/-- thanks to the validated lock the positions a writer remembered during its walk
are the current ones, so storing through them is exactly what `Base.writerStore` does on the current
state (same new state up to the projection, same result) -/
theorem storeAt_eq_writerStore {s : State} {p : Pending} {pred hit hnext : Option Nat}
    (H : Base.HInv (proj s)) (w : Walk (proj s) p.key pred hit)
    (hh : ∀ i, hit = some i → (Base.nodeAt (proj s).heap i).key = p.key ∧ hnext = (Base.nodeAt (proj s).heap i).next) :
    proj (storeAt s p pred hit hnext).1 = (Base.writerStore (proj s) (cP p)).1 ∧
    (storeAt s p pred hit hnext).2 = (Base.writerStore (proj s) (cP p)).2 := by
  obtain ⟨hfind, hlast, hpredOf⟩ := w.positions H (fun i hi => (hh i hi).1)
  have hfind' : (Base.chain (proj s)).find? (fun i => ((proj s).heap.getD i ⟨0, (0, 0), none, none⟩).key == (cP p).key) = hit := hfind
  obtain ⟨key, op, inv⟩ := p
  unfold Base.writerStore storeAt
  simp only [hfind', cP_op]
  cases hit with
  | none =>
    -- the key was not found and `pred` is the last node: an insert appends behind it
    rw [← hlast rfl]
    cases op with
    | ins v vi => cases pred <;> exact ⟨by simp [proj, cN, setNode, Base.setNode, map_modify_next], rfl⟩
    | tryIns v vi => cases pred <;> exact ⟨by simp [proj, cN, setNode, Base.setNode, map_modify_next], rfl⟩
    | _ => exact ⟨rfl, rfl⟩
  | some i =>
    -- the key was found in node `i`, `pred` is its predecessor and `hnext` its successor
    have hnode : (proj s).heap.getD i ⟨0, (0, 0), none, none⟩ = cN (s.heap.getD i ⟨0, (0, 0), none, none⟩) :=
      getD_proj s i
    have hnx : hnext = (cN (s.heap.getD i ⟨0, (0, 0), none, none⟩)).next := hnode ▸ (hh i rfl).2
    cases op with
    | ins v vi => dsimp only; rw [hnode]; exact ⟨proj_setNode_val s i (v, vi), rfl⟩
    | cipInc nvi => dsimp only; rw [hnode]; exact ⟨proj_setNode_val s i _, rfl⟩
    | tryIns v vi => dsimp only; rw [hnode]; exact ⟨rfl, rfl⟩
    | rm => dsimp only; rw [hpredOf i rfl, hnode]; exact ⟨hnx ▸ proj_unlinkAt s pred hnext, rfl⟩
    | cipRm => dsimp only; rw [hpredOf i rfl, hnode]; exact ⟨hnx ▸ proj_unlinkAt s pred hnext, rfl⟩
    | condRm vi =>
      dsimp only
      rw [hpredOf i rfl, hnode]
      show _ = (if (s.heap.getD i ⟨0, (0, 0), none, none⟩).val.2 = vi then _ else _ : Base.State × KRes).1 ∧
        _ = (if (s.heap.getD i ⟨0, (0, 0), none, none⟩).val.2 = vi then _ else _ : Base.State × KRes).2
      split
      · exact ⟨hnx ▸ proj_unlinkAt s pred hnext, rfl⟩
      · exact ⟨rfl, rfl⟩
    | _ => exact ⟨rfl, rfl⟩

end Flurry.Proto.BinR
