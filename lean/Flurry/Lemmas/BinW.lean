import Flurry.Lemmas.BinWProj
import Flurry.Lemmas.BinWStep
import Flurry.Lemmas.BinWWalk
import Flurry.Lemmas.BinWLin
import Flurry.Lemmas.BinWEmbed
/-! # The lemmas about `Proto/BinW`, gathered (main theorems in `Props/C01BinW.lean`, counterexamples for the
variant without the re-check in `Lemmas/BinWExamples.lean`)

The invariants of `Proto/Bin` hold on the projection `proj s` of every reachable state of `Proto/BinW`
(`reachable_sim`). They come along `embW` from `Proto/BinR` over `Proto/BinRBase` (the same two models with one
more operation and the `retain` visit, `Lemmas/BinR*.lean`), where every transition is a `Base` transition on the
projection or, for the walk steps, a stutter step that only advances the clock (`BinR.stepW_proj`). That every
`BinW` transition is a `Bin` transition on `proj s` is not stated. -/
