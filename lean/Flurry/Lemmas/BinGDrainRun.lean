import Flurry.Lemmas.BinGDrainStep
import Flurry.Lemmas.BinGProgStuck
import Flurry.Lemmas.BinGProgReach
import Flurry.Lemmas.Descent
/-! # Proto/BinG, termination: every quiet step of a non-idle thread decreases `gmu`; runs are bounded

`step_gmu_lt` assembles the strict decrease from `stepN_effect`: a calm step lowers the stepping thread's
summand of `PS` and nothing else; a disturbing step lowers `DA`, which outweighs all of `PS`. With
`binG_never_stuck_aux` (no deadlock) this makes quiet steps drain the lineage (`qdrains`, an instance of
`Descent.Drains`): a quiet run (`QRun`) is no longer than `gmu` of its first state and ends quiescent if it cannot
be extended. A call in flight stays pending until it is answered (`PendOrAns`). -/
namespace Flurry.Proto.BinG
open Flurry.Lin
open Flurry.Proto.BinK (get_set_self get_set_ne)
open Flurry.Proto.BinGProg (lt_succ_mul_four_pow succ_mul_four_pow_le wsum_lt_of_lower wsum_lt_of_upper)

theorem heap_lt_N (s : State) : s.heap.length < N s := lt_succ_mul_four_pow _ _

theorem PM_mono {L L' : Nat} (h : L ≤ L') : PM L ≤ PM L' := by unfold PM; omega

theorem G_set {s s' : State} {t : Nat} {l l' : Local} (hl : s.threads[t]? = some l)
    (hthr : s'.threads = s.threads.set t l') (d : Nat) (hg : grow l'.pc + d ≤ grow l.pc) : G s' + d ≤ G s := by
  unfold G
  rw [hthr]
  exact sum_set_add_le _ _ d s.threads t l l' hl (fun _ _ _ _ => Nat.le_refl _) hg

theorem W_le {s s' : State} (hlen : s'.threads.length = s.threads.length) (hN : N s' ≤ N s) : W s' ≤ W s := by
  unfold W
  rw [hlen]
  have := Nat.mul_le_mul_left s.threads.length (PM_mono hN)
  omega

/-- **every enabled quiet step of a thread that is not `idle` strictly decreases `gmu`** (in fact every
enabled step of such a thread: it ignores the scheduler's `inv`, `lo`, `mt`, `rz`, and `stepN_effect` covers
every value of `sm`, `sm2`) -/
theorem step_gmu_lt {n : Nat} {s s' : State} (hr : Reachable n s) {t : Nat} {l : Local}
    (hl : s.threads[t]? = some l) (hne : l.pc ≠ .idle) {inv : Option (Nat × KOp)} {lo : Bool} {mt : Option Nat}
    {rz sm sm2 : Bool} (hs : step s t inv lo mt rz sm sm2 = some s') : gmu s' < gmu s := by
  have I := reachable_inv hr
  have hr' : Reachable n s' := Reachable.step t inv lo mt rz sm sm2 hr hs
  have I' := reachable_inv hr'
  have B' := reachable_binv hr'
  obtain ⟨l', he⟩ := stepN_effect I hl hne (Nat.le_of_lt (heap_lt_N s)) hs
  rcases he with e | e
  · -- calm
    have hG : G s' ≤ G s := G_set hl e.thr 0 e.grow
    have hN : N s' ≤ N s := succ_mul_four_pow_le (.inl ⟨e.hlen, hG⟩)
    have htl : s'.threads.length = s.threads.length := by rw [e.thr, List.length_set]
    have hW := W_le htl hN
    have hDA : DA s' ≤ DA s := by
      unfold DA
      rw [e.thr, e.view]
      exact sum_set_add_le _ _ 0 s.threads t l l' hl (fun _ _ _ _ => Nat.le_refl _) e.da
    have hPS : PS s' + 1 ≤ PS s := by
      unfold PS
      rw [e.thr, e.view]
      refine sum_set_add_le (pmV (N s) (viewOf s)) (pmV (N s') (viewOf s)) 1 s.threads t l l' hl
        (fun _ x _ _ => pmV_mono hN _ x) ?_
      have := pmV_mono hN (viewOf s) l'
      have := e.pm
      omega
    exact wsum_lt_of_lower hW hDA hPS
  · -- disturbing
    have hGN : N s' ≤ N s :=
      succ_mul_four_pow_le (e.hlen.imp (fun h => ⟨h.1, G_set hl e.thr 0 h.2⟩) (fun h => ⟨h.1, G_set hl e.thr 1 h.2⟩))
    have htl : s'.threads.length = s.threads.length := by rw [e.thr, List.length_set]
    have hW := W_le htl hGN
    have hDA : DA s' + 1 ≤ DA s := by
      unfold DA
      rw [e.thr]
      refine sum_set_add_le (daV (viewOf s)) (daV (viewOf s')) 1 s.threads t l l' hl ?_ e.da
      intro i x hi hx
      -- the `WAITER` bit at which `x` is parked is cleared only by the holder of the mutex of bin `b`; `x` holds it, and
      -- the mutex has one holder, so the stepping thread would be `x`
      refine daV_le_of_waiter x fun tab b k res hpc hw =>
        (e.keep b (I.lock.refOK i x b hx (by rw [hpc]; rfl)).1 hw).resolve_right fun h => hi ?_
      have h1 := (I.lock.mx t l b hl).1 h
      have h2 := (I.lock.mx i x b hx).1 (by rw [hpc]; rfl)
      rw [h1] at h2
      exact (Option.some.inj h2).symm
    have hPS : PS s' ≤ s'.threads.length * PM (N s') := by
      unfold PS
      refine sum_map_le_card _ _ _ (fun x hx => ?_)
      obtain ⟨i, hi⟩ := List.mem_iff_getElem?.1 hx
      exact pmV_le _ ((walkOK_of_inv I' B' hi).mono (Nat.le_of_lt (heap_lt_N s')))
    have hPM := Nat.mul_le_mul_left s.threads.length (PM_mono hGN)
    rw [htl] at hPS
    exact wsum_lt_of_upper hW hDA (Nat.le_trans hPS hPM) rfl

theorem gmu_le_drainBound {n : Nat} {s : State} (hr : Reachable n s) : gmu s ≤ drainBound s := by
  have I := reachable_inv hr
  have B := reachable_binv hr
  have hG : G s ≤ s.threads.length := by
    have := sum_map_le_card (fun l : Local => grow l.pc) 1 s.threads (fun x _ => grow_le_one x.pc)
    unfold G; omega
  have hN : N s ≤ (s.heap.length + 1) * 4 ^ s.threads.length :=
    Nat.mul_le_mul_left _ (Nat.pow_le_pow_right (by omega) hG)
  have hDA : DA s ≤ s.threads.length * 5 := sum_map_le_card _ 5 _ (fun x _ => daV_le _ x)
  have hPS : PS s ≤ s.threads.length * PM (N s) := by
    unfold PS
    refine sum_map_le_card _ _ _ (fun x hx => ?_)
    obtain ⟨i, hi⟩ := List.mem_iff_getElem?.1 hx
    exact pmV_le _ ((walkOK_of_inv I B hi).mono (Nat.le_of_lt (heap_lt_N s)))
  have hPM : PM (N s) ≤ 4 * ((s.heap.length + 1) * 4 ^ s.threads.length) + 20 := by unfold PM; omega
  have h1 := Nat.mul_le_mul_left s.threads.length hPM
  unfold gmu drainBound W
  have h2 : (s.threads.length * PM (N s) + 1) * DA s ≤
      (s.threads.length * (4 * ((s.heap.length + 1) * 4 ^ s.threads.length) + 20) + 1) * (5 * s.threads.length) :=
    Nat.mul_le_mul (by omega) (by omega)
  omega

/-- a quiet step of a thread that is not `idle`: no call, treeify or resize is started -/
def QStep (s s' : State) : Prop :=
  ∃ (t : Nat) (l : Local) (lo sm sm2 : Bool), s.threads[t]? = some l ∧ l.pc ≠ .idle ∧ stepQuiet s t lo sm sm2 = some s'

inductive QRun : State → Nat → State → Prop
  | nil (s : State) : QRun s 0 s
  | cons {s s1 s2 : State} {k : Nat} : QStep s s1 → QRun s1 k s2 → QRun s (k + 1) s2

theorem QStep.reachable {n : Nat} {s s' : State} (hr : Reachable n s) (h : QStep s s') : Reachable n s' := by
  obtain ⟨t, l, lo, sm, sm2, _, _, hs⟩ := h
  exact Reachable.step t none lo none false sm sm2 hr hs

theorem QStep.gmu_lt {n : Nat} {s s' : State} (hr : Reachable n s) (h : QStep s s') : gmu s' < gmu s := by
  obtain ⟨t, l, lo, sm, sm2, hl, hne, hs⟩ := h
  exact step_gmu_lt hr hl hne hs

theorem qrun_iff {s s' : State} {k : Nat} : QRun s k s' ↔ Descent.Run QStep s k s' :=
  Descent.Run.iff_of .nil .cons fun h => by
    induction h with
    | nil => exact .nil _
    | cons h1 _ ih => exact .cons h1 ih

/-- a state that is not quiescent has a quiet step (`binG_never_stuck_aux`) -/
theorem qstep_of_not_quiescent {n : Nat} {s : State} (hr : Reachable n s) (hq : ¬ quiescent s) : ∃ s', QStep s s' := by
  obtain ⟨t, l, hl, hne, he⟩ := binG_never_stuck_aux (reachable_inv hr) (reachable_binv hr) hq
  obtain ⟨s', hs⟩ := Option.isSome_iff_exists.1 (he none false none false false false)
  exact ⟨s', t, l, false, false, false, hl, hne, hs⟩

theorem no_qstep_of_quiescent {s s' : State} (hq : quiescent s) : ¬ QStep s s' := by
  rintro ⟨t, l, lo, sm, sm2, hl, hne, _⟩
  exact hne (hq l (List.mem_iff_getElem?.2 ⟨t, hl⟩))

/-- quiet steps keep reachability, lower `gmu`, and exist exactly in the states that are not quiescent -/
theorem qdrains (n : Nat) : Descent.Drains QStep (Reachable n) quiescent gmu :=
  ⟨fun hr h => h.reachable hr, fun hr h => h.gmu_lt hr, qstep_of_not_quiescent, no_qstep_of_quiescent⟩

theorem QRun.reachable {n : Nat} {s s' : State} {k : Nat} (hr : Reachable n s) (h : QRun s k s') : Reachable n s' :=
  (qdrains n).run_inv hr (qrun_iff.1 h)

/-- the call `p` of thread `t` has been answered: `hist` has an entry with its key, operation and
invocation time -/
def Answered (s : State) (t : Nat) (p : Pending) : Prop :=
  ∃ res resp, (p.key, { tid := t, op := p.op, res := res, inv := p.inv, resp := resp }) ∈ s.hist

def PendOrAns (s : State) (t : Nat) (p : Pending) : Prop :=
  (∃ l, s.threads[t]? = some l ∧ l.call = some p) ∨ Answered s t p

theorem QStep.pendOrAns {s s' : State} (h : QStep s s') {t0 : Nat} {p : Pending} (hpa : PendOrAns s t0 p) :
    PendOrAns s' t0 p := by
  obtain ⟨t, l, lo, sm, sm2, hl, hne, hs⟩ := h
  have hk := stepN_call (step_stepN hl hs) hne
  rcases hpa with ⟨l0, hl0, hp⟩ | ⟨res, resp, hm⟩
  · by_cases htt : t0 = t
    · subst htt
      rw [hl] at hl0
      cases hl0
      rcases hk with ⟨l', hthr, hc, _⟩ | ⟨p', res, hp', _, hh⟩
      · exact .inl ⟨l', by rw [hthr]; exact get_set_self hl, by rw [hc]; exact hp⟩
      · rw [hp] at hp'
        cases hp'
        exact .inr ⟨res, _, by rw [hh]; exact List.mem_cons_self⟩
    · rcases hk with ⟨l', hthr, _, _⟩ | ⟨_, _, _, hthr, _⟩ <;>
        exact .inl ⟨l0, by rw [hthr, get_set_ne htt]; exact hl0, hp⟩
  · rcases hk with ⟨_, _, _, hh⟩ | ⟨_, _, _, _, hh⟩
    · exact .inr ⟨res, resp, by rw [hh]; exact hm⟩
    · exact .inr ⟨res, resp, by rw [hh]; exact List.mem_cons_of_mem _ hm⟩

theorem QRun.pendOrAns {s s' : State} {k : Nat} (h : QRun s k s') {t0 : Nat} {p : Pending}
    (hpa : PendOrAns s t0 p) : PendOrAns s' t0 p :=
  Descent.Run.keeps (P := (PendOrAns · t0 p)) (fun h1 => h1.pendOrAns) (qrun_iff.1 h) hpa

/-- in a quiescent reachable state no call is in flight -/
theorem answered_of_quiescent {n : Nat} {s : State} (hr : Reachable n s) (hq : quiescent s) {t : Nat} {p : Pending}
    (hpa : PendOrAns s t p) : Answered s t p := by
  rcases hpa with ⟨l1, hl1, hp1⟩ | ha
  · exfalso
    have hidle : l1.pc = .idle := hq l1 (List.mem_iff_getElem?.2 ⟨t, hl1⟩)
    have := ((reachable_inv hr).thr.callOK t l1 hl1).2 (by rw [hidle]; rfl)
    rw [hp1] at this
    cases this
  · exact ha

end Flurry.Proto.BinG
