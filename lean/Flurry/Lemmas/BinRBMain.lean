import Flurry.Lemmas.BinRBLin

/-! # Proto/BinRBase: one list bin is linearizable under every interleaving (C01 through `Proto/Bin`, C13 through `Proto/BinR`)

`Proto/BinRBase.lean` models one list bin with any number of threads performing `get`, `contains_key`,
`insert`, `try_insert`, `remove`, `compute_if_present` (increment / remove) and `retain`'s
conditional removal, one shared-memory access per transition. For every reachable state and every key, the history of that key — the
completed calls, plus the calls of writers that have done their store and only have to unlock —
is linearizable from "absent" to the key's current abstract state.

Linearization points: lock-holding writers at their single store (`wWrite`), the lock-free insert
into an empty bin at its successful CAS, writers that see an empty bin at the load of the bin cell,
readers *in hindsight* (`Good`, `Good.step` in `Lemmas/BinRBGhost.lean`).

The theorems over `Reachable` here, with `reachable_inv` (`BinRBInv.lean`) and `reachable_linv`,
`writers_mutex`, `writer_validated` (`BinRBLock.lean`), are results about `Proto/BinRBase` itself and
nothing reads them. `Proto/Bin`, `Proto/BinW` and `Proto/BinR` run their own inductions from
`init_inv`, `init_linv`, `init_ginv`, `stepK_inv`, `stepK_linv`, `ginv_step` (`Bin.reachable_base`,
`BinW.reachable_base`, `BinR.winv_step`, `BinR.reachable_ginv`) and take from this file
`init_ginv` and `GInv.linearizable` only. -/
namespace Flurry.Proto.BinR.Base
open Flurry.Lin2

theorem init_ginv (n k : Nat) : GInv k (init n) (fun _ => none) id := by
  have ha : absOf (init n) k = none := by
    rw [absOf_eq_none_iff]
    intro i hi
    simp [chain, init, chainFrom] at hi
  have tr := GhostView.Trace.init (S := Lin2.sig) (V := view) (ts := (init n).threads) k (fun l hl => by
    obtain ⟨t, hl⟩ := List.mem_iff_getElem?.1 hl; rw [init_threads hl]; rfl)
  rw [← ha, show ([] : List (Nat × Call2)) = (init n).hist from rfl, show 0 = (init n).now from rfl,
    ← callsOnExt_eq] at tr
  refine ⟨tr.h0, tr.hA, tr.calls, tr.stab, tr.inj, ?_⟩
  · intro t l p cur hl hc
    rw [init_threads hl] at hc
    cases hc

theorem reachable_ginv {n : Nat} {s : State} (hr : Reachable n s) (k : Nat) :
    ∃ A pt, GInv k s A pt := by
  induction hr with
  | init => exact ⟨_, _, init_ginv n k⟩
  | @step s s' t inv hr hs ih =>
    obtain ⟨A, pt, g⟩ := ih
    cases hl : s.threads[t]? with
    | none => unfold step at hs; rw [hl] at hs; cases hs
    | some l => exact ginv_step g (reachable_inv hr) hl (step_stepK hl hs)

/-- from the ghost invariant to linearizability (the trace lemma), for any part of the history that
contains its writer calls -/
theorem GInv.linearizable_part {k : Nat} {s : State} {A : Nat → KSt} {pt : Nat → Nat}
    (g : GInv k s A pt) (I : Inv s) (q : Call2 → Bool)
    (hq : ∀ c ∈ callsOnExt s k, isRead c.op = false → q c = true) :
    Linearizable2 ((callsOnExt s k).filter q) none (absOf s k) := by
  rw [callsOnExt_eq] at hq ⊢
  exact (g.trace.sub (fun _ h => (List.mem_filter.1 h).1)
      (fun c hc hw => List.mem_filter.2 ⟨hc, hq c hc hw⟩)).linearizable2
    (fun _ hc => I.thr.gen.resp_le (List.mem_filter.1 hc).1) ((I.thr.gen.pairwise k).filter _)

theorem GInv.linearizable {k : Nat} {s : State} {A : Nat → KSt} {pt : Nat → Nat}
    (g : GInv k s A pt) (I : Inv s) : Linearizable2 (callsOnExt s k) none (absOf s k) :=
  callsOnExt_eq s k ▸ g.trace.lin2 I.thr.gen

/-- the writer calls (`insert`, `try_insert`, `remove`, `compute_if_present`, `condRm`) of the extended history -/
def writerCallsOn (s : State) (k : Nat) : History2 := (callsOnExt s k).filter (fun c => !isRead c.op)

/-- writers only: the points are the store steps -/
theorem GInv.linearizable_writers {k : Nat} {s : State} {A : Nat → KSt} {pt : Nat → Nat}
    (g : GInv k s A pt) (I : Inv s) : Linearizable2 (writerCallsOn s k) none (absOf s k) :=
  g.linearizable_part I _ (fun _ _ hw => by rw [hw]; rfl)

/-- **writers-only linearizability**: the sub-history of the writer calls on `k` is linearizable from
"absent" to the current abstract state (linearization points = the store steps). -/
theorem bin_linearizable_writers {n : Nat} {s : State} (hr : Reachable n s) (k : Nat) :
    Lin2.Linearizable2 (writerCallsOn s k) none (absOf s k) := by
  obtain ⟨A, pt, g⟩ := reachable_ginv hr k
  exact g.linearizable_writers (reachable_inv hr)

/-- **C01, bin level.** Under every interleaving of any number of threads, the per-key history of
a list bin (completed calls plus stored-but-not-yet-unlocked writers) is linearizable and ends in
the abstract content of the bin. -/
theorem bin_linearizable {n : Nat} {s : State} (hr : Reachable n s) (k : Nat) :
    Lin2.Linearizable2 (callsOnExt s k) none (absOf s k) := by
  obtain ⟨A, pt, g⟩ := reachable_ginv hr k
  exact g.linearizable (reachable_inv hr)

theorem bin_linearizable_quiescent {n : Nat} {s : State} (hr : Reachable n s) (hq : quiescent s) (k : Nat) :
    Lin2.Linearizable2 (callsOn s k) none (absOf s k) := by
  have := bin_linearizable hr k
  rw [callsOnExt_quiescent hq] at this
  exact this

end Flurry.Proto.BinR.Base
