import Flurry.Lemmas.TableLineages
import Flurry.Proto.TableN
import Flurry.Lemmas.BinNLin
import Flurry.Lemmas.LinLocal
/-! # Proto/TableN: a table through any number of resizes is linearizable as a MAP (C01)

The construction of `Lemmas/TableG.lean` over `Proto/BinN` lineages. A `tick` of a lineage — its clock
advances while a thread acts in another lineage — IS a transition of `Proto/BinN`: the step of a
thread that is idle in that lineage and starts nothing — no call, no resize
(`BinN.step b t none false 0 = some (tick b)`, `tick_is_step`), and `TableN.step` lets thread `t` act
in lineage `i` only while it is idle in every other lineage. Hence every lineage of a reachable table
is literally `BinN.Reachable` (`TblInv.reach`), and all lineage-level theorems apply to it unchanged.

Other than in `Lemmas/TableG.lean` no "keys stay in their class" invariant is needed: inside lineage
`i` the key `k` of the table is called `k / m`, every natural number is a local key, and the translation
back `q ↦ i + m * q` is injective on a lineage and separates the lineages (`globalKey_eq_iff`):

* `BinN.step_threads`, and `BinN.binN_linearizable_quiescent_aux`, the quiescent form of the lineage theorem in the
  shape `Lemmas/TableNI.lean` uses;
* `TblInv m n S`: `m` lineages, each `BinN.Reachable n`; `OneBin S`: of two different lineages, a thread is idle in
  one (`resizer_idle_elsewhere`);
* `keys`, `own`, `proj_mhist` (over `Lineages.proj_mhist`): the projection of the map history on key
  `k` is the history of local key `k / m` in lineage `k % m` (as a list, not only up to order: the
  other lineages contribute nothing);
* `bin_of_key`, `mhist_wf`: what `Props/C01TableN.lean` composes with locality
  (`LinMap.map_linearizable_of_proj`, the statement of `C01.locality`). -/

namespace Flurry.Proto.BinN
open Flurry.Lin

theorem StepK.threads {s s' : State} {t : Nat} {l : Local} {pick : Nat} (h : StepK s t l pick s') :
    ∃ l', s'.threads = s.threads.set t l' := (stepK_frame h).2

theorem step_threads {s s' : State} {t : Nat} {inv : Option (Nat × KOp)} {rz : Bool} {pick : Nat}
    (hs : step s t inv rz pick = some s') : ∃ l', s'.threads = s.threads.set t l' := by
  cases hl : s.threads[t]? with
  | none => unfold step stepG at hs; rw [hl] at hs; cases hs
  | some l => exact (step_stepK hl hs).threads

/-- the quiescent form of the lineage theorem (`Props/C01BinN.lean`: `binN_linearizable_quiescent`) -/
theorem binN_linearizable_quiescent_aux {n : Nat} {s : State} (hr : Reachable n s) (hq : quiescent s) (k : Nat) :
    Lin.Linearizable (callsOn s k) none (absOf s k) := by
  obtain ⟨G, A, pt, I, g⟩ := reachable_ginv hr k
  exact g.core.linearizable_quiescent I.thr hq

end Flurry.Proto.BinN

namespace Flurry.Proto.TableN
open Flurry.Lin Flurry.LinMap

theorem globalKey_lineage_local (m k : Nat) : globalKey m (lineageOf m k) (localKey m k) = k :=
  Nat.mod_add_div k m

theorem lineageOf_globalKey {m i : Nat} (hi : i < m) (q : Nat) : lineageOf m (globalKey m i q) = i := by
  unfold lineageOf globalKey
  rw [Nat.add_mul_mod_self_left, Nat.mod_eq_of_lt hi]

theorem localKey_globalKey {m i : Nat} (hi : i < m) (q : Nat) : localKey m (globalKey m i q) = q := by
  unfold localKey globalKey
  rw [Nat.add_mul_div_left _ _ (Nat.lt_of_le_of_lt (Nat.zero_le i) hi), Nat.div_eq_of_lt hi, Nat.zero_add]

/-- **the key translation is injective on a lineage and separates the lineages**: `i + m * q`
determines `i` and `q` when `i < m` -/
theorem globalKey_eq_iff {m i : Nat} (hi : i < m) (q k : Nat) :
    globalKey m i q = k ↔ i = lineageOf m k ∧ q = localKey m k := by
  constructor
  · intro h
    subst h
    exact ⟨(lineageOf_globalKey hi q).symm, (localKey_globalKey hi q).symm⟩
  · rintro ⟨rfl, rfl⟩
    exact globalKey_lineage_local m k

theorem tick_eq (b : BinN.State) : tick b = BinN.tick b := rfl

theorem tick_is_step {b : BinN.State} {t : Nat} (h : idleIn b t = true) :
    BinN.step b t none false 0 = some (tick b) := by
  unfold idleIn at h
  split at h
  · rename_i l hl
    obtain ⟨pc, call⟩ := l
    simp only [beq_iff_eq] at h
    subst h
    unfold BinN.step BinN.stepG
    simp only [hl]
    rfl
  · cases h

structure TblInv (m n : Nat) (S : State) : Prop where
  len : S.bins.length = m
  reach : ∀ (j : Nat) (b : BinN.State), S.bins[j]? = some b → BinN.Reachable n b

theorem init_bin {m n j : Nat} {b : BinN.State} (h : (init m n).bins[j]? = some b) : b = BinN.init n :=
  Lineages.eq_of_getElem?_replicate h

theorem init_tblInv (m n : Nat) : TblInv m n (init m n) := by
  refine ⟨by simp [init], ?_⟩
  intro j b h
  rw [init_bin h]
  exact BinN.Reachable.init

theorem step_eq_some {S S' : State} {i t : Nat} {inv : Option (Nat × KOp)} {rz : Bool} {pick : Nat}
    (hs : step S i t inv rz pick = some S') :
    ∃ b b', S.bins[i]? = some b ∧
      ((List.range S.bins.length).all fun j => j == i || idleIn (S.bins.getD j (BinN.init 0)) t) = true ∧
      (∀ k op, inv = some (k, op) → lineageOf S.bins.length k = i) ∧
      BinN.step b t (localInv S.bins.length inv) rz pick = some b' ∧
      S' = { bins := (S.bins.map tick).set i b' } := by
  unfold step at hs
  cases hb : S.bins[i]? with
  | none => rw [hb] at hs; cases hs
  | some b =>
    rw [hb] at hs
    obtain ⟨h1, hs⟩ := Lineages.guard_some hs
    obtain ⟨h2, hs⟩ := Lineages.guard_some hs
    cases h4 : BinN.step b t (localInv S.bins.length inv) rz pick with
    | none => rw [h4] at hs; cases hs
    | some b' =>
      rw [h4] at hs
      refine ⟨b, b', rfl, h1, ?_, h4, (Option.some.inj hs).symm⟩
      rintro k op rfl
      simpa [inLineage] using h2

theorem step_tblInv {m n : Nat} {S S' : State} {i t : Nat} {inv : Option (Nat × KOp)} {rz : Bool} {pick : Nat}
    (I : TblInv m n S) (hs : step S i t inv rz pick = some S') : TblInv m n S' := by
  obtain ⟨b, b', hb, hidle, _, hb', rfl⟩ := step_eq_some hs
  refine ⟨?_, ?_⟩
  · show ((S.bins.map tick).set i b').length = m
    rw [List.length_set, List.length_map]; exact I.len
  · exact Lineages.forall_of_set_map tick _ (idleIn · t) hidle (P := fun _ c => BinN.Reachable n c) I.reach
      (BinN.Reachable.step t _ rz pick (I.reach i b hb) hb')
      fun _ b0 h hid => BinN.Reachable.step t none false 0 h (tick_is_step hid)

theorem reachable_tblInv {m n : Nat} {S : State} (hr : Reachable m n S) : TblInv m n S := by
  induction hr with
  | init => exact init_tblInv m n
  | step i t inv rz pick _ hs ih => exact step_tblInv ih hs

/-- of two different lineages, thread `t` is idle in one -/
def OneBin (S : State) : Prop :=
  Lineages.OneBin (fun b : BinN.State => b.threads) (fun l : BinN.Local => l.pc = .idle) S.bins

theorem idleIn_pc {b : BinN.State} {t : Nat} {l : BinN.Local} (h : idleIn b t = true) (hl : b.threads[t]? = some l) :
    l.pc = .idle := by
  unfold idleIn at h
  rw [hl] at h
  simpa using h

theorem init_oneBin (m n : Nat) : OneBin (init m n) :=
  Lineages.OneBin.replicate m
    fun _ _ hl => by rw [BinN.init_thread hl]

theorem step_oneBin {S S' : State} {i t : Nat} {inv : Option (Nat × KOp)} {rz : Bool} {pick : Nat}
    (O : OneBin S) (hs : step S i t inv rz pick = some S') : OneBin S' := by
  obtain ⟨b, b', hb, hidle, _, hb', rfl⟩ := step_eq_some hs
  exact Lineages.OneBin.step O tick
    (fun _ => rfl) _ idleIn (fun _ _ _ => idleIn_pc) hb hidle (BinN.step_threads hb')

theorem reachable_oneBin {m n : Nat} {S : State} (hr : Reachable m n S) : OneBin S := by
  induction hr with
  | init => exact init_oneBin m n
  | step i t inv rz pick _ hs ih => exact step_oneBin ih hs

/-- key `k` lives in lineage `k % m` under the name `k / m` -/
def keys (m : Nat) : Lineages.Keys where
  lin := lineageOf m
  loc := localKey m
  glob := globalKey m
  glob_lin_loc := globalKey_lineage_local m

theorem mhist_eq (S : State) : mhist S = Lineages.mhist (keys S.bins.length) (·.hist) S.bins (BinN.init 0) := rfl

/-- the key translation separates the lineages -/
theorem own {β α : Type} {m : Nat} {lkey : α → Nat} {items : β → List α} {bins : List β} (hlen : bins.length = m) :
    (keys m).Own lkey items bins := by
  intro i b hb e _
  have hi : i < m := hlen ▸ (List.getElem?_eq_some_iff.1 hb).1
  exact ⟨lineageOf_globalKey hi _, localKey_globalKey hi _⟩

theorem proj_mhist {m n : Nat} {S : State} (I : TblInv m n S) {k : Nat} {b : BinN.State}
    (hb : S.bins[lineageOf m k]? = some b) : proj (mhist S) k = BinN.callsOn b (localKey m k) := by
  rw [mhist_eq, I.len]
  exact Lineages.proj_mhist _ (own I.len) hb

theorem bin_of_key {m n : Nat} (hm : 0 < m) {S : State} (I : TblInv m n S) (k : Nat) :
    ∃ b, S.bins[lineageOf m k]? = some b ∧ S.bins.getD (lineageOf S.bins.length k) (BinN.init 0) = b := by
  rw [I.len]
  exact Lineages.exists_getD _ (by rw [I.len]; exact Nat.mod_lt _ hm)

/-- every call of the map history on key `k` is recorded in lineage `k % m`, under the local name `k / m` -/
theorem mhist_own_lineage {m n : Nat} {S : State} (I : TblInv m n S) {c : MCall} (hc : c ∈ mhist S) :
    ∃ b, S.bins[lineageOf m c.key]? = some b ∧ (localKey m c.key, c.call) ∈ b.hist :=
  Lineages.mem_mhist_own (own I.len) (I.len ▸ mhist_eq S ▸ hc)

/-- every call recorded in lineage `i` under the local name `q` is in the map history under the key
`i + m * q`, which is a key of lineage `i` with local name `q` -/
theorem mem_mhist_of_hist {m n : Nat} {S : State} (I : TblInv m n S) {i : Nat} {b : BinN.State} {q : Nat} {c : Call}
    (hb : S.bins[i]? = some b) (h : (q, c) ∈ b.hist) :
    (⟨globalKey m i q, c⟩ : MCall) ∈ mhist S ∧ lineageOf m (globalKey m i q) = i ∧ localKey m (globalKey m i q) = q := by
  refine ⟨?_, own (lkey := Prod.fst) I.len i b hb _ h⟩
  rw [mhist_eq, I.len]
  exact Lineages.mem_mhist_of_hist (K := keys m) hb h

/-- a thread that is resizing a lineage is idle in every other lineage -/
theorem resizer_idle_elsewhere {S : State} (O : OneBin S) {t i j : Nat} {bi bj : BinN.State} {li lj : BinN.Local}
    (hne : i ≠ j) (hi : S.bins[i]? = some bi) (hj : S.bins[j]? = some bj)
    (hli : bi.threads[t]? = some li) (hlj : bj.threads[t]? = some lj) (hT : BinN.isT li.pc) : lj.pc = .idle := by
  rcases O t i j bi bj li lj hne hi hj hli hlj with h | h
  · rw [h] at hT; exact absurd hT id
  · exact h

theorem mhist_wf {m n : Nat} {S : State} (hr : Reachable m n S) : ∀ c ∈ mhist S, c.call.inv ≤ c.call.resp := by
  intro c hc
  rw [mhist_eq] at hc
  obtain ⟨i, b, q, hb, hmem, -⟩ := Lineages.mem_mhist hc
  exact ((BinN.reachable_tinv ((reachable_tblInv hr).reach i b hb)).histTime (q, c.call) hmem).1

end Flurry.Proto.TableN
