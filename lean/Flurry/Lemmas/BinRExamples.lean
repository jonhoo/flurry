import Flurry.Lemmas.BinRStore
import Flurry.Lemmas.Lin2Search
/-! # Proto/BinR: the id comparison of `condRm` is load-bearing; non-vacuity (C13)

Concrete schedules, evaluated by the kernel (`decide`), judged by the complete decision procedure
`Lin2.search` (`Lin2.search_eq_none_iff`).

* `schedReplaced`: `insert(0 ↦ (5, id 1))`; a `retain` visit of key 0 by thread 1 loads id 1; thread
  0 replaces the value by `(7, id 2)`; the predicate says "drop", thread 1 runs `condRm 1`.
  With the comparison the key keeps `(7, 2)` and the history is linearizable; in the variant that
  unlinks without comparing (`stepNoCompare`) the key is gone and the history is **not**
  linearizable.
* `schedRace`: the same with the `condRm 1` call (invoked directly) overlapping the insert.
* `schedRemoves`: nothing replaces the value: `condRm 1` removes the key (the conditional removal is
  not vacuous). `schedKeep`: the predicate says "keep": no call, nothing changes. -/
namespace Flurry.Proto.BinR
open Flurry.Lin2

abbrev Sched := List (Nat × Option Inv)

def run (f : State → Nat → Option Inv → Option State) : State → Sched → Option State
  | s, [] => some s
  | s, (t, inv) :: rest =>
    match f s t inv with
    | none => none
    | some s' => run f s' rest

/-- reachability in the variant whose `condRm` does not compare the value id -/
inductive ReachableNoCompare (nthreads : Nat) : State → Prop
  | init : ReachableNoCompare nthreads (init nthreads)
  | step {s s' : State} (t : Nat) (inv : Option Inv) :
      ReachableNoCompare nthreads s → stepNoCompare s t inv = some s' → ReachableNoCompare nthreads s'

theorem run_reachable {n : Nat} : ∀ (sc : Sched) {s s' : State}, Reachable n s → run step s sc = some s' →
    Reachable n s'
  | [], s, s', hr, h => by simp only [run, Option.some.injEq] at h; exact h ▸ hr
  | (t, inv) :: rest, s, s', hr, h => by
    simp only [run] at h
    cases hs : step s t inv with
    | none => rw [hs] at h; cases h
    | some s1 => rw [hs] at h; exact run_reachable rest (.step t inv hr hs) h

theorem run_reachableNoCompare {n : Nat} : ∀ (sc : Sched) {s s' : State}, ReachableNoCompare n s →
    run stepNoCompare s sc = some s' → ReachableNoCompare n s'
  | [], s, s', hr, h => by simp only [run, Option.some.injEq] at h; exact h ▸ hr
  | (t, inv) :: rest, s, s', hr, h => by
    simp only [run] at h
    cases hs : stepNoCompare s t inv with
    | none => rw [hs] at h; cases h
    | some s1 => rw [hs] at h; exact run_reachableNoCompare rest (.step t inv hr hs) h

/-- what we look at in the final state: is it quiescent, and does the exhaustive search find a
linearization of the history of key `k` ending in the abstract content of the bin -/
def verdict (f : State → Nat → Option Inv → Option State) (n : Nat) (sc : Sched) (k : Nat) :
    Option (Bool × Bool) :=
  (run f (init n) sc).map fun s =>
    (s.threads.all (fun l => l.pc == .idle), (search (callsOn s k) none (absOf s k)).isSome)

theorem of_verdict {f : State → Nat → Option Inv → Option State} {n : Nat} {sc : Sched} {k : Nat}
    {b : Bool} (h : verdict f n sc k = some (true, b)) :
    ∃ s, run f (init n) sc = some s ∧ quiescent s ∧ (search (callsOn s k) none (absOf s k)).isSome = b := by
  unfold verdict at h
  cases hr : run f (init n) sc with
  | none => rw [hr] at h; cases h
  | some s =>
    rw [hr] at h
    simp only [Option.map_some, Option.some.injEq, Prod.mk.injEq] at h
    refine ⟨s, rfl, ?_, h.2⟩
    intro l hl
    have := List.all_eq_true.1 h.1 l hl
    simpa using this

/-- `insert(0 ↦ (5, id 1))` by thread 0 (CAS into the empty bin); thread 1's `retain` visits key 0
and loads the value id 1; thread 0 replaces the value by `(7, id 2)` (lock, re-check, walk, store,
unlock); the predicate says "drop"; thread 1 runs `condRm 1` -/
def schedReplaced : Sched :=
  [ (0, some (.call 0 (.ins 5 1))), (0, none), (0, none),
    (1, some (.visit 0)), (1, none), (1, none),
    (0, some (.call 0 (.ins 7 2))), (0, none), (0, none), (0, none), (0, none), (0, none), (0, none),
    (1, some .drop), (1, none), (1, none), (1, none), (1, none), (1, none), (1, none) ]

/-- the same race with `condRm 1` invoked directly and overlapping the insert: both load the head,
the insert goes first -/
def schedRace : Sched :=
  [ (0, some (.call 0 (.ins 5 1))), (0, none), (0, none),
    (1, some (.call 0 (.condRm 1))), (0, some (.call 0 (.ins 7 2))),
    (1, none), (0, none),
    (0, none), (0, none), (0, none), (0, none), (0, none),
    (1, none), (1, none), (1, none), (1, none), (1, none),
    (0, some (.call 0 .get)), (0, none), (0, none) ]

/-- nothing replaces the value: the visit loads id 1, the predicate says "drop", `condRm 1` removes
the key; a final `get` sees nothing -/
def schedRemoves : Sched :=
  [ (0, some (.call 0 (.ins 5 1))), (0, none), (0, none),
    (1, some (.visit 0)), (1, none), (1, none),
    (1, some .drop), (1, none), (1, none), (1, none), (1, none), (1, none), (1, none),
    (0, some (.call 0 .get)), (0, none), (0, none) ]

/-- the predicate says "keep" -/
def schedKeep : Sched :=
  [ (0, some (.call 0 (.ins 5 1))), (0, none), (0, none),
    (1, some (.visit 0)), (1, none), (1, none), (1, none),
    (0, some (.call 0 .get)), (0, none), (0, none) ]

theorem verdict_replaced_noCompare : verdict stepNoCompare 2 schedReplaced 0 = some (true, false) := by
  decide

theorem verdict_replaced : verdict step 2 schedReplaced 0 = some (true, true) := by decide

theorem verdict_race_noCompare : verdict stepNoCompare 2 schedRace 0 = some (true, false) := by decide

theorem verdict_race : verdict step 2 schedRace 0 = some (true, true) := by decide

theorem verdict_removes : verdict step 2 schedRemoves 0 = some (true, true) := by decide

theorem verdict_keep : verdict step 2 schedKeep 0 = some (true, true) := by decide

/-- the histories, for the reader. With the comparison: the replaced value `(7, 2)` survives. -/
theorem replaced_history :
    (run step (init 2) schedReplaced).map (fun s => (callsOn s 0, absOf s 0)) =
      some ([⟨0, .ins 5 1, .none, 1, 3⟩, ⟨0, .ins 7 2, .some 5 1, 7, 13⟩, ⟨1, .condRm 1, .none, 14, 20⟩],
        some (7, 2)) := by
  decide

/-- without the comparison the same run loses the value the insert stored -/
theorem replaced_noCompare_history :
    (run stepNoCompare (init 2) schedReplaced).map (fun s => (callsOn s 0, absOf s 0)) =
      some ([⟨0, .ins 5 1, .none, 1, 3⟩, ⟨0, .ins 7 2, .some 5 1, 7, 13⟩, ⟨1, .condRm 1, .none, 14, 20⟩],
        none) := by
  decide

theorem race_history :
    (run step (init 2) schedRace).map (fun s => (callsOn s 0, absOf s 0)) =
      some ([⟨0, .ins 5 1, .none, 1, 3⟩, ⟨0, .ins 7 2, .some 5 1, 5, 12⟩, ⟨1, .condRm 1, .none, 4, 17⟩,
        ⟨0, .get, .some 7 2, 18, 20⟩], some (7, 2)) := by
  decide

theorem race_noCompare_history :
    (run stepNoCompare (init 2) schedRace).map (fun s => (callsOn s 0, absOf s 0)) =
      some ([⟨0, .ins 5 1, .none, 1, 3⟩, ⟨0, .ins 7 2, .some 5 1, 5, 12⟩, ⟨1, .condRm 1, .none, 4, 17⟩,
        ⟨0, .get, .none, 18, 20⟩], none) := by
  decide

/-- the conditional removal does remove when the observed value is still there -/
theorem removes_history :
    (run step (init 2) schedRemoves).map (fun s => (callsOn s 0, absOf s 0, s.head)) =
      some ([⟨0, .ins 5 1, .none, 1, 3⟩, ⟨1, .condRm 1, .none, 7, 13⟩, ⟨0, .get, .none, 14, 16⟩],
        none, none) := by
  decide

/-- "keep": the visit leaves no trace in the history and the key keeps its value -/
theorem keep_history :
    (run step (init 2) schedKeep).map (fun s => (callsOn s 0, absOf s 0)) =
      some ([⟨0, .ins 5 1, .none, 1, 3⟩, ⟨0, .get, .some 5 1, 8, 10⟩], some (5, 1)) := by
  decide

/-- **the comparison is load-bearing (1)**: without it, a reachable quiescent state whose history of
key 0 is not linearizable — the `retain` visit removed a value its predicate never saw -/
theorem noCompare_not_linearizable_replaced :
    ∃ s, ReachableNoCompare 2 s ∧ quiescent s ∧ ¬ Lin2.Linearizable2 (callsOn s 0) none (absOf s 0) := by
  obtain ⟨s, hr, hq, hs⟩ := of_verdict verdict_replaced_noCompare
  refine ⟨s, run_reachableNoCompare _ .init hr, hq, search_eq_none_iff.1 ?_⟩
  cases h : search (callsOn s 0) none (absOf s 0) with
  | none => rfl
  | some o => rw [h] at hs; cases hs

/-- **the comparison is load-bearing (2)**: the same with the calls overlapping -/
theorem noCompare_not_linearizable_race :
    ∃ s, ReachableNoCompare 2 s ∧ quiescent s ∧ ¬ Lin2.Linearizable2 (callsOn s 0) none (absOf s 0) := by
  obtain ⟨s, hr, hq, hs⟩ := of_verdict verdict_race_noCompare
  refine ⟨s, run_reachableNoCompare _ .init hr, hq, search_eq_none_iff.1 ?_⟩
  cases h : search (callsOn s 0) none (absOf s 0) with
  | none => rfl
  | some o => rw [h] at hs; cases hs

/-- the same schedules with the comparison: every step is enabled, the final state is reachable,
quiescent and (as `binR_linearizable_quiescent` says it must be) linearizable -/
theorem compare_replaced :
    ∃ s, run step (init 2) schedReplaced = some s ∧ Reachable 2 s ∧ quiescent s ∧
      (search (callsOn s 0) none (absOf s 0)).isSome = true := by
  obtain ⟨s, hr, hq, hs⟩ := of_verdict verdict_replaced
  exact ⟨s, hr, run_reachable _ .init hr, hq, hs⟩

theorem compare_removes :
    ∃ s, run step (init 2) schedRemoves = some s ∧ Reachable 2 s ∧ quiescent s ∧
      (search (callsOn s 0) none (absOf s 0)).isSome = true := by
  obtain ⟨s, hr, hq, hs⟩ := of_verdict verdict_removes
  exact ⟨s, hr, run_reachable _ .init hr, hq, hs⟩

/-- hence `binR_linearizable_quiescent` is false for the variant that does not compare the id -/
theorem noCompare_refutes :
    ¬ ∀ (n : Nat) (s : State), ReachableNoCompare n s → quiescent s → ∀ k,
      Lin2.Linearizable2 (callsOn s k) none (absOf s k) := by
  intro hall
  obtain ⟨s, hr, hq, hn⟩ := noCompare_not_linearizable_replaced
  exact hn (hall 2 s hr hq 0)

end Flurry.Proto.BinR
