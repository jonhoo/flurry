import Flurry.Props.C11BinGN
import Flurry.Lemmas.BinGNExamples
/-! # C11 / C12 for `Proto/BinGN`: non-vacuity, evaluated by the kernel

A reader that loaded the table pointer one resize ago, while the NEXT resize is in the middle of moving the
`TreeBin` it is going to read (mutex held by the resizing thread) and a writer is queued on that mutex.
The last example instantiates the theorems of `Props/C11BinGN.lean` and `Props/C12BinGN.lean` at that state, hence the
import of a `Props` module; `Props/C11BinGNDrain.lean` imports this file for `midState`. -/
namespace Flurry.Proto.BinGNProg
open Flurry.Lin
open Flurry.Proto.BinGN
open Flurry.Proto.BinGNP

/-- thread 0: `insert(0)`, `insert(4)`; thread 1 treeifies (`TreeBin` 0 over nodes 2, 3) — `setupLow`; thread 1 invokes
`get(4)` and loads the table pointer (generation 0), then sleeps at `rCell false 0`; thread 3 resizes `0 → 1` (bin 0 is
re-used in `(1,0)`), commits, starts the resize `1 → 2`, takes the mutex of bin 0, splits, stores both children and is
suspended at `xStoreMoved` — **mid-transfer, holding the mutex**; thread 2 invokes `remove(0)`, loads `(1,0) = tree 0`
and **waits for the mutex** at `tMutex 1 0`. -/
def midSched : Sched :=
  setupLow ++ call 1 4 .get ++ rep 1 1 ++
  rz 3 ++ xferTree 3 0 false false ++ commit 3 ++
  rz 3 ++ [{ t := 3, pick := 0 }] ++ rep 3 6 ++ call 2 0 .rm ++ rep 2 2

def midState : Option State := run step (init 4) midSched

/-- one more step of the transfer: `(1,0)` is forwarded, the mutex is not yet released (`xUnlock`) -/
def fwdState : Option State := run step (init 4) (midSched ++ rep 3 1)

theorem midState_spec : ∃ s, midState = some s ∧ Reachable 4 s ∧ ¬ quiescent s ∧
    s.threads = [ { pc := .idle, call := none },
                  { pc := .rCell false 0, call := some ⟨4, .get, 22⟩ },
                  { pc := .tMutex 1 0, call := some ⟨0, .rm, 44⟩ },
                  { pc := .xStoreMoved 0 (.inr 0), call := none } ] ∧
    s.tabs = [[.moved], [.tree 0, .empty], [.tree 0, .empty, .empty, .empty]] ∧
    s.tbins = [{ first := some 2, mutex := some 3, writer := false, waiter := false, readers := 0 }] ∧
    s.cur = 1 ∧ s.resizing = true := by
  have h : (midState.map fun s => (s.threads, s.tabs, s.tbins, s.cur, s.resizing)) =
      some ([ { pc := .idle, call := none },
              { pc := .rCell false 0, call := some ⟨4, .get, 22⟩ },
              { pc := .tMutex 1 0, call := some ⟨0, .rm, 44⟩ },
              { pc := .xStoreMoved 0 (.inr 0), call := none } ],
            [[.moved], [.tree 0, .empty], [.tree 0, .empty, .empty, .empty]],
            [{ first := some 2, mutex := some 3, writer := false, waiter := false, readers := 0 }], 1, true) := by
    decide +kernel
  cases hs : midState with
  | none => rw [hs] at h; cases h
  | some s =>
    rw [hs] at h
    simp only [Option.map_some, Option.some.injEq, Prod.mk.injEq] at h
    obtain ⟨h1, h2, h3, h4, h5⟩ := h
    refine ⟨s, rfl, run_reachable midSched Reachable.init hs, ?_, h1, h2, h3, h4, h5⟩
    intro hq
    have := hq _ (List.mem_iff_getElem?.2 ⟨1, by rw [h1]; rfl⟩)
    cases this

set_option maxRecDepth 16384 in
/-- in that state the *writer* `remove(0)` is blocked (it waits for the mutex); the other three threads can move -/
example : (midState.map fun s => (List.range 4).map fun t => (act step s { t := t }).isSome) =
    some [true, true, false, true] := by decide +kernel

set_option maxRecDepth 16384 in
/-- the reader, running alone, follows the forwarding marker of generation 0, finds `tree 0` in `(1,0)` (not yet
forwarded), takes the read lock although the mutex is held, and answers `some (6, 101)` in 8 steps — within
`soloBound = 3 + 4 * 4 + 10 = 29` -/
example : (midState.bind fun s => (runSolo 1 false false 8 s).map fun s' =>
      (soloBound s, s'.threads[1]?, s'.hist.head?)) =
    some (29, some { pc := .idle, call := none },
      some (4, { tid := 1, op := .get, res := .some 6 101, inv := 22, resp := 54 })) := by decide +kernel

set_option maxRecDepth 16384 in
/-- … while the transfer still holds the mutex where it was suspended -/
example : (midState.bind fun s => (runSolo 1 false false 8 s).map fun s' => (s'.threads[3]?, s'.tbins)) =
    some (some { pc := .xStoreMoved 0 (.inr 0), call := none },
      [{ first := some 2, mutex := some 3, writer := false, waiter := false, readers := 0 }]) := by decide +kernel

set_option maxRecDepth 16384 in
/-- with `(1,0)` forwarded as well and the mutex still held (`xUnlock`) … -/
example : (fwdState.map fun s => (s.tabs, s.threads[3]?)) =
    some ([[.moved], [.moved, .empty], [.tree 0, .empty, .empty, .empty]],
      some { pc := .xUnlock (.inr 0), call := none }) := by decide +kernel

set_option maxRecDepth 16384 in
/-- … the reader follows TWO forwarding markers (`(0,0) → (1,0) → (2,0)`): 9 steps -/
example : (fwdState.bind fun s => (runSolo 1 false false 9 s).map fun s' => (s'.threads[1]?, s'.hist.head?)) =
    some (some { pc := .idle, call := none },
      some (4, { tid := 1, op := .get, res := .some 6 101, inv := 22, resp := 56 })) := by decide +kernel

/-- the general theorems instantiated at `midState`: the reader terminates alone; the queued writer is `Blocked`, waits
for another thread, and some thread that is not idle can move -/
example : ∃ s, midState = some s ∧
    (∃ k, k ≤ soloBound s ∧ ∃ (s' : State) (p : Pending) (res : KRes) (resp : Nat),
      runSolo 1 false false k s = some s' ∧ s'.threads[1]? = some { pc := .idle, call := none } ∧
      s'.threads[3]? = some { pc := .xStoreMoved 0 (.inr 0), call := none } ∧
      s'.hist = (p.key, { tid := 1, op := p.op, res := res, inv := p.inv, resp := resp }) :: s.hist) ∧
    Blocked s (.tMutex 1 0) ∧
    (∃ (t' : Nat) (l' : Local), t' ≠ 2 ∧ s.threads[t']? = some l' ∧ l'.pc ≠ .idle) ∧
    (∃ (t : Nat) (l : Local), s.threads[t]? = some l ∧ l.pc ≠ .idle ∧ Enabled s t) := by
  obtain ⟨s, hs, hr, hq, hthr, _, htb, _, _⟩ := midState_spec
  have h1 : s.threads[1]? = some { pc := .rCell false 0, call := some ⟨4, .get, 22⟩ } := by rw [hthr]; rfl
  have h2 : s.threads[2]? = some { pc := .tMutex 1 0, call := some ⟨0, .rm, 44⟩ } := by rw [hthr]; rfl
  have h3 : s.threads[3]? = some { pc := .xStoreMoved 0 (.inr 0), call := none } := by rw [hthr]; rfl
  have hb : Blocked s (.tMutex 1 0) := by
    show (Flurry.Proto.BinK.binAt s.tbins 0).mutex.isSome = true
    rw [htb]; rfl
  obtain ⟨k, hk, s', p, res, resp, _, hrun, hf, hidle, hh⟩ := reader_solo_terminates hr h1 rfl false false
  obtain ⟨t', l', hne, hl', hni, _⟩ := blocked_waits_for_other hr h2 hb
  exact ⟨s, hs, ⟨k, hk, s', p, res, resp, hrun, hidle, (hf.others 3 (by decide)).trans h3, hh⟩, hb,
    ⟨t', l', hne, hl', hni⟩, binGN_never_stuck_all hr hq⟩

end Flurry.Proto.BinGNProg
