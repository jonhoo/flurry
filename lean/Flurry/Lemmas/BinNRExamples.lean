import Flurry.Proto.BinNR
import Flurry.Lemmas.BinNExamples
/-! # Proto/BinNR: the model exercised by execution (C03, C04)

* `explore`: the seeded random scheduler of `Lemmas/BinNExamples.lean` over `BinNR.stepG early` (calls with
  removals and replacing inserts on a few keys, 1–3 resizes, optionally the *sleeper* that is frozen with a
  pointer into a table two generations old), with **eager `free`** (after every step every node whose
  `waitFor` is empty is freed) and explicit `retire` steps at random times (otherwise at the response).
  After EVERY step `check` asserts by brute force, for all threads and all node indices: no step touches a
  freed node, every holder of a retired node is awaited, retired nodes are unreachable, and the clauses
  `j1`–`j5`, `j7` of `RInv` (`Lemmas/BinNRInv.lean`; all but the ghost clause `inv`) and `k1`–`k3`, `w1`, `w2` of
  `RInv2` (`Lemmas/BinNRInv2.lean`; `w3`, `w4` are not tested).
* kernel-checked runs and the kernel-checked refutation of the `early` variant: `Lemmas/BinNRRuns.lean`. -/
namespace Flurry.Proto.BinNR
open Flurry.Lin
open Flurry.Proto.BinX (NodeS Cell Pending isReader dflt chainFrom cellHead cellOfHead)
open Flurry.Proto.BinN (Pc Local cellAt cellOf chainOfCell rngNext rngPick mkOp pcTag Cov Cov.bump)

structure RAct where
  t : Nat
  a : Act
deriving Repr, DecidableEq

abbrev Sched := List RAct

def act (early : Bool) (s : State) (x : RAct) : Option State := stepG early s x.t x.a

def run (early : Bool) : State → Sched → Option State
  | s, [] => some s
  | s, x :: rest =>
    match act early s x with
    | none => none
    | some s' => run early s' rest

def subsetB (a b : List Nat) : Bool := a.all fun x => b.contains x

/-- C03 on one state: no thread is about to touch a freed node -/
def noTouchFreedB (nthreads : Nat) (s : State) : Bool :=
  (List.range nthreads).all fun t => (touches s.n t).all fun i => s.life i != .freed

/-- every holder of a retired node is awaited (and nobody holds a freed node) -/
def holdersAwaitedB (nthreads : Nat) (s : State) : Bool :=
  (List.range nthreads).all fun t => (holdsOf s.n t).all fun i =>
    match s.life i with
    | .live => true
    | .retired w => w.contains t
    | .freed => false

/-- a node that is not `live` is in no chain of any cell -/
def retiredUnreachableB (s : State) : Bool :=
  (List.range s.n.heap.length).all fun i => s.life i == .live || !reach s.n i

/-- the proof invariant, by brute force; `none` = holds, `some tag` = the first clause that fails -/
def check (nthreads : Nat) (s : State) : Option String := Id.run do
  let N := s.n.heap.length
  let gs := guardedSet s.n
  if !noTouchFreedB nthreads s then return some "touch-after-free"
  if !holdersAwaitedB nthreads s then return some "holder-not-awaited"
  if !retiredUnreachableB s then return some "retired-reachable"
  for i in [0:N + 2] do
    match s.unl i with
    | some u =>
      if reach s.n i || N ≤ i then return some "J1"
      if !subsetB u gs then return some "J5"
      match (s.n.heap.getD i dflt).next with
      | some j =>
        if !(reach s.n j || (match s.unl j with | some uj => subsetB u uj | none => false)) then return some "J3"
      | none => pure ()
      match s.life i with
      | .live => pure ()
      | .retired w => if !subsetB u w then return some "J4r"
      | .freed => if u != [] then return some "J4f"
    | none => if s.life i != .live then return some "J4n"
    match s.life i with
    | .live => pure ()
    | .retired w =>
      if !((s.w0 i).all fun t => w.contains t || (s.exited i).contains t) then return some "Wr"
    | .freed => if !subsetB (s.w0 i) (s.exited i) then return some "Wf"
  for t in [0:nthreads] do
    for i in holdsOf s.n t do
      if !(reach s.n i || (match s.unl i with | some u => u.contains t | none => false)) then return some "J2"
    for i in s.pend t do
      if (s.unl i).isNone || s.life i != .live || !guarded s.n t then return some "J7"
      for t' in [0:nthreads] do
        if t' != t && (s.pend t').contains i then return some "J7x"
    if !(s.pend t).Nodup then return some "J7d"
  return none

/-- the nodes of the old list `h` of cell `(cur, j)` that are in neither new list -/
def notReused (n : BinN.State) (j h : Nat) : List Nat :=
  (chainFrom n.heap n.heap.length (some h)).filter fun x =>
    !(chainOfCell n (cellAt n (n.cur + 1) j)).contains x &&
    !(chainOfCell n (cellAt n (n.cur + 1) (j + 2 ^ n.cur))).contains x

structure Cfg where
  nthreads : Nat := 3
  keys : List Nat := [0, 1, 2, 3]
  steps : Nat := 200
  calls : Nat := 12
  resizes : Nat := 3
  pResize : Nat := 6
  pCall : Nat := 70
  /-- probability (%) that a thread with a retire obligation retires now -/
  pRetire : Nat := 30
  early : Bool := false
  /-- thread `0` is frozen while it has a call in flight and `cur < wake` (0 = no sleeper) -/
  wake : Nat := 0

def frozen (cfg : Cfg) (s : State) (t : Nat) (extra : Nat) : Bool :=
  cfg.wake > 0 && t == 0 && s.n.cur < cfg.wake &&
    (let l := s.n.threads.getD 0 {}
     l.call.isSome && (match l.pc with | .rTable | .wTable => false | _ => true) && extra == 0)

def mkOpR (r vi : Nat) : KOp :=
  match r % 12 with
  | 0 | 1 | 2 => .ins (vi % 7) vi
  | 3 | 4 | 5 | 6 => .rm
  | 7 | 8 => .get
  | 9 => .cipRm
  | 10 => .cipInc vi
  | _ => .has

structure St where
  s : State
  sc : Array RAct := #[]
  cov : Cov := []
  bad : Option String := none

/-- execute one action, then free eagerly, checking after every single transition -/
def exec (cfg : Cfg) (x : St) (a : RAct) : St := Id.run do
  if x.bad.isSome then return x
  match act cfg.early x.s a with
  | none => return { x with cov := x.cov.bump ("blocked:" ++ pcTag (x.s.n.threads.getD a.t {}).pc) }
  | some s' =>
    let mut cov := x.cov
    let mut sc := x.sc.push a
    let mut bad := check cfg.nthreads s'
    let l := x.s.n.threads.getD a.t {}
    match a.a with
    | .base .. =>
      cov := cov.bump ("pc:" ++ pcTag (s'.n.threads.getD a.t {}).pc)
      match l.pc with
      | .tStoreMoved j h =>
        let cp := copiedPrefix x.s.n h
        cov := cov.bump s!"transfer:prefix={cp.length}"
        if cp != notReused x.s.n j h then bad := some "prefix≠notReused"
      | .rNode (some c) =>
        match x.s.life c with
        | .retired _ =>
          cov := cov.bump "readerTouchesRetired"
          if x.s.n.cur ≥ 2 && l.call.any (fun p => p.inv < 40) then cov := cov.bump "staleReaderTouchesRetired"
        | _ => pure ()
      | .wLock _ h | .wUnlock _ h _ _ =>
        match x.s.life h with
        | .retired _ => cov := cov.bump "writerLocksRetired"
        | _ => pure ()
      | _ => pure ()
      if !(retiredBy cfg.early x.s.n a.t).isEmpty then cov := cov.bump "unlink"
    | .retire _ => cov := cov.bump "retire(explicit)"
    | .free _ => pure ()
    let mut s := s'
    -- eager free
    for i in [0:s.n.heap.length] do
      if bad.isSome then break
      if s.life i == .retired [] then
        match act cfg.early s ⟨0, .free i⟩ with
        | some s2 =>
          s := s2
          sc := sc.push ⟨0, .free i⟩
          cov := cov.bump "free"
          bad := check cfg.nthreads s
        | none => bad := some "free-refused"
    return { s := s, sc := sc, cov := cov, bad := bad }

def oneRun (cfg : Cfg) (seed : Nat) (cov : Cov) : St := Id.run do
  let mut x : St := { s := init cfg.nthreads, cov := cov }
  let mut rng := seed
  let mut calls := 0
  let mut rzs := 0
  rng := rngNext rng
  let mut extra := rngPick rng 8
  for _ in [0:cfg.steps] do
    if x.bad.isSome then break
    rng := rngNext rng
    let t := rngPick rng cfg.nthreads
    rng := rngNext rng
    let s := x.s
    let l := s.n.threads.getD t {}
    if frozen cfg s t extra then continue
    let mut a : Act := .base none false 0
    if l.pc == .idle then
      let r := rngPick rng 100
      rng := rngNext rng
      if r < cfg.pResize && !s.n.resizing && rzs < cfg.resizes && !(cfg.wake > 0 && t == 0) then
        a := .base none true 0
        rzs := rzs + 1
      else if r < cfg.pResize + cfg.pCall && calls < cfg.calls then
        let k := cfg.keys.getD (rngPick rng cfg.keys.length) 0
        rng := rngNext rng
        let op := if cfg.wake > 0 && t == 0 then KOp.get else mkOpR (rngPick rng 12) (100 + calls)
        a := .base (some (k, op)) false 0
        calls := calls + 1
      else continue
    else
      let r := rngPick rng 100
      rng := rngNext rng
      match s.pend t with
      | i :: _ => if r < cfg.pRetire then a := .retire i else a := .base none false (rngPick rng 64)
      | [] => a := .base none false (rngPick rng 64)
      if cfg.wake > 0 && t == 0 && l.call.isSome && s.n.cur < cfg.wake then
        match l.pc with
        | .rTable | .wTable => pure ()
        | _ => if extra > 0 then extra := extra - 1
    x := exec cfg x ⟨t, a⟩
  -- drain
  let mut stuck := false
  for _ in [0:600] do
    if x.bad.isSome || BinN.quiescentB x.s.n then break
    let mut progress := false
    for t' in [0:cfg.nthreads] do
      let t := cfg.nthreads - 1 - t'
      let l := x.s.n.threads.getD t {}
      if l.pc != .idle then
        if frozen cfg x.s t 0 && !stuck then continue
        rng := rngNext rng
        let before := x.sc.size
        x := exec cfg x ⟨t, .base none false (rngPick rng 64)⟩
        if x.sc.size > before then progress := true
    stuck := !progress
  return x

structure Out where
  cov : Cov
  bad : Option (String × Sched)
  runs : Nat
  steps : Nat
  maxGen : Nat
  leaked : Nat

def explore (cfg : Cfg) (seed0 nruns : Nat) : Out := Id.run do
  let mut cov : Cov := []
  let mut bad : Option (String × Sched) := none
  let mut steps := 0
  let mut mg := 0
  let mut leaked := 0
  for i in [0:nruns] do
    let x := oneRun cfg (rngNext (seed0 + 7919 * i)) cov
    cov := x.cov
    steps := steps + x.sc.size
    if x.s.n.cur > mg then mg := x.s.n.cur
    cov := cov.bump s!"final:cur={x.s.n.cur}"
    match x.bad with
    | some b => if bad.isNone then bad := some (b, x.sc.toList)
    | none =>
      if BinN.quiescentB x.s.n then
        -- at quiescence everything that was unlinked has been freed
        for j in [0:x.s.n.heap.length] do
          if (x.s.unl j).isSome && x.s.life j != .freed then leaked := leaked + 1
      else cov := cov.bump "notDrained"
  return { cov := cov, bad := bad, runs := nruns, steps := steps, maxGen := mg, leaked := leaked }

def Out.report (o : Out) : String :=
  let lines := (o.cov.toArray.qsort (fun a b => a.1 < b.1)).toList.map fun (k, n) => s!"  {k}: {n}"
  s!"runs {o.runs}, transitions {o.steps} (each checked), max generation {o.maxGen}, unlinked-but-not-freed at quiescence {o.leaked}, " ++
  (match o.bad with | none => "ALL CHECKS PASS" | some (b, sc) => s!"VIOLATION {b}: {repr sc}") ++
  "\n" ++ "\n".intercalate lines

end Flurry.Proto.BinNR
