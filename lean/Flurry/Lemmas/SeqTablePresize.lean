import Flurry.Lemmas.SeqTableAddCount
/-! # `tryPresize`, `treeifyBin`, `reserve` -/
namespace Flurry.Seq
open Flurry Flurry.Gen

theorem get_of_tableLen_zero {m : Map} (h : tableLen m = 0) (k : Nat) : get k m = none :=
  (no_bins h).1 k

def presizeStop (req : Int) (m : Map) : Bool :=
  decide (m.sizeCtl < 0) || tryPresizeDone req m.sizeCtl (tableLen m)

/-- the state after the allocation of the first table -/
def presizeAlloc (req : Int) (m : Map) : Map :=
  { m with table := some (emptyTable (tryPresizeInitCap req m.sizeCtl)),
           sizeCtl := tryPresizeThreshold (tryPresizeInitCap req m.sizeCtl) }

theorem tryPresize_go_eq (req : Int) (fuel : Nat) : ∀ {m : Map}, tableLen m ≠ 0 →
    tryPresize.go req fuel m = growLoop (presizeStop req) fuel m := by
  induction fuel with
  | zero => intro m _; rfl
  | succ fuel ih =>
    intro m h0
    have h0' : ¬ (tableLen m == 0) = true := by rwa [beq_iff_eq]
    rw [tryPresize.go, growLoop, presizeStop, ite_or, if_neg h0',
      ih (Nat.ne_of_gt (Nat.lt_of_lt_of_le (Nat.pos_of_ne_zero h0) (transfer_tableLen_le m)))]
    simp only [decide_eq_true_eq]

theorem tryPresize_of_table {size : Nat} {m : Map} (h0 : tableLen m ≠ 0) :
    tryPresize size m = growLoop (presizeStop (tryPresizeCap size)) 64 m :=
  tryPresize_go_eq _ 64 h0

theorem tryPresize_of_no_table {size : Nat} {m : Map} (h0 : tableLen m = 0)
    (hs : ¬ m.sizeCtl < 0) :
    tryPresize size m =
      growLoop (presizeStop (tryPresizeCap size)) 63 (presizeAlloc (tryPresizeCap size) m) := by
  have h0' : (tableLen m == 0) = true := by rwa [beq_iff_eq]
  obtain ⟨k, hk, -⟩ := presizeCap_pow2 size
  rw [tryPresize, tryPresize.go, if_neg hs, if_pos h0']
  refine tryPresize_go_eq _ 63 (Nat.ne_of_gt (Nat.lt_of_lt_of_eq ?_ (emptyTable_length _).symm))
  rw [tryPresizeCap_eq]
  exact Nat.lt_of_lt_of_le (hk ▸ Nat.two_pow_pos k)
    (Int.toNat_natCast (presizeCap size) ▸ Int.toNat_le_toNat (Int.le_max_left _ _))

theorem tryPresize_grown (size : Nat) (m : Map) : Grown m (tryPresize size m) := by
  by_cases h0 : tableLen m = 0
  · by_cases hs : m.sizeCtl < 0
    · rw [tryPresize, tryPresize.go, if_pos hs]; exact Grown.refl m
    · rw [tryPresize_of_no_table h0 hs]
      refine Grown.trans (b := presizeAlloc (tryPresizeCap size) m)
        ⟨rfl, rfl, h0 ▸ Nat.zero_le _, Nat.le_refl _, ?_⟩ (growLoop_grown _ _ _)
      rw [(no_bins h0).2, entries_emptyTable (m := presizeAlloc _ m) rfl]
  · rw [tryPresize_of_table h0]; exact growLoop_grown _ _ _

theorem tryPresize_hash (size : Nat) (m : Map) : (tryPresize size m).hash = m.hash :=
  (tryPresize_grown size m).hash

theorem tryPresize_entries_perm (size : Nat) (m : Map) :
    (entries (tryPresize size m)).Perm (entries m) :=
  (tryPresize_grown size m).entries_perm

theorem presizeStop_of_max (req : Int) (m : Map) (t : Table) (ht : m.table = some t)
    (h : MAXIMUM_CAPACITY ≤ t.length) : presizeStop req m = true := by
  rw [presizeStop, tableLen_of_some ht, (C14.reserve_done_iff _ _ _).2 (Or.inr h), Bool.or_true]

/-- the result of the loop: well formed, same lookups, and the exit test holds -/
def PresizePost (req : Int) (m r : Map) : Prop :=
  WF r ∧ Same m r ∧ ∃ t', r.table = some t' ∧ tryPresizeDone req r.sizeCtl t'.length = true

theorem presizeLoop_wf (req : Int) {fuel : Nat} {m : Map} {t : Table} (hw : WF m)
    (ht : m.table = some t) (hf : MAXIMUM_CAPACITY < t.length * 2 ^ fuel) :
    PresizePost req m (growLoop (presizeStop req) fuel m) := by
  obtain ⟨_, _, _, hb⟩ := (wf_some_iff ht).1 hw
  obtain ⟨t', hp', s, hb', hs⟩ := growLoop_spec (presizeStop_of_max req) fuel (hw.preWF ht)
  refine ⟨hp'.wf ?_ (hb' hb), s, t', hp'.table, ?_⟩
  · rw [(growLoop_grown _ _ _).count, hw.count_eq, s.length_eq]
  · have h1 := hs hf
    rwa [presizeStop, tableLen_of_some hp'.table,
      decide_eq_false (Int.not_lt.2 (Int.le_of_lt hp'.sizeCtl_pos)), Bool.false_or] at h1

/-- `tryPresize` on a well-formed state. 64 rounds are enough: the result satisfies the
exit test of the loop (`requested ≤ sizeCtl` or the maximum length is reached). -/
theorem tryPresize_spec (size : Nat) {m : Map} (hw : WF m) (hi : InitOk m) :
    WF (tryPresize size m) ∧ Same m (tryPresize size m) ∧
    (tryPresize size m).count = m.count ∧
    ∃ t', (tryPresize size m).table = some t' ∧
      tryPresizeDone (tryPresizeCap size) (tryPresize size m).sizeCtl t'.length = true := by
  suffices h : PresizePost (tryPresizeCap size) m (tryPresize size m) from
    ⟨h.1, h.2.1, (tryPresize_grown size m).count, h.2.2⟩
  cases ht : m.table with
  | some t =>
    have hpos := (hw.preWF ht).twf.length_pos
    rw [tryPresize_of_table (by rw [tableLen_of_some ht]; exact Nat.ne_of_gt hpos)]
    exact presizeLoop_wf _ hw ht (fuel_64 hpos)
  | none =>
    obtain ⟨hc, hsc⟩ := (wf_none_iff ht).1 hw
    -- the first table is as long as the rounded request, or as `size_ctl` asks
    have hcap : IsPow2 (tryPresizeInitCap (tryPresizeCap size) m.sizeCtl) ∧
        tryPresizeInitCap (tryPresizeCap size) m.sizeCtl ≤ MAXIMUM_CAPACITY := by
      obtain ⟨k, hk, -⟩ := presizeCap_pow2 size
      have hm := C14.table_size_le_max size
      rw [tryPresizeCap_eq, tryPresizeInitCap, hk] at *
      rcases Int.le_total m.sizeCtl (Int.ofNat (2 ^ k)) with h | h
      · rw [Int.max_eq_left h]; exact ⟨⟨k, rfl⟩, hm⟩
      · rw [Int.max_eq_right h]
        exact (hi ht).resolve_left fun h0 => by
          rw [h0] at h; exact Int.not_le.2 (Int.ofNat_lt.2 (Nat.two_pow_pos k)) h
    obtain ⟨hp, hm⟩ := hcap
    rw [tryPresize_of_no_table (tableLen_of_none ht) (Int.not_lt.2 hsc)]
    obtain ⟨w, s, d⟩ := presizeLoop_wf (tryPresizeCap size)
      (wf_emptyTable (m := presizeAlloc (tryPresizeCap size) m) rfl hp hm rfl hc) rfl (by
        rw [emptyTable_length]
        exact Nat.lt_of_lt_of_le (by decide : MAXIMUM_CAPACITY < 1 * 2 ^ 63)
          (Nat.mul_le_mul_right _ (isPow2_pos hp)))
    exact ⟨w, (same_emptyTable (m' := presizeAlloc (tryPresizeCap size) m)
      (tableLen_of_none ht) rfl rfl).trans s, d⟩

/-- after `tryPresize` the table exists (so `InitOk` holds trivially) -/
theorem tryPresize_initOk (size : Nat) {m : Map} (hw : WF m) (hi : InitOk m) :
    InitOk (tryPresize size m) := by
  obtain ⟨_, _, _, t', ht', _⟩ := tryPresize_spec size hw hi
  exact InitOk.of_some ht'

/-- room as requested (`size < 2^29`): the threshold is above `size` afterwards -/
theorem tryPresize_room (size : Nat) {m : Map} (hw : WF m) (hi : InitOk m)
    (hs : size < MAXIMUM_CAPACITY / 2) :
    (size : Int) < (tryPresize size m).sizeCtl ∨ tableLen (tryPresize size m) = MAXIMUM_CAPACITY := by
  obtain ⟨w, _, _, t', ht', hd⟩ := tryPresize_spec size hw hi
  rcases (C14.reserve_done_iff _ _ _).1 hd with h | h
  · exact Or.inl (C14.reserve_room size hs _ h)
  · exact Or.inr ((tableLen_of_some ht').trans (Nat.le_antisymm (w.preWF ht').twf.2.1 h))

theorem reserve_spec (additional : Nat) {m : Map} (hw : WF m) (hi : InitOk m) :
    WF (reserve additional m) ∧ Same m (reserve additional m) ∧
    (reserve additional m).count = m.count ∧ tableLen m ≤ tableLen (reserve additional m) ∧
    m.resizes ≤ (reserve additional m).resizes :=
  have h := tryPresize_spec (reserveArg (len m) additional) hw hi
  have g := tryPresize_grown (reserveArg (len m) additional) m
  ⟨h.1, h.2.1, g.count, g.tableLen_le, g.resizes_le⟩

theorem treeifyBin_none {i : Nat} {m : Map} (ht : m.table = none) : treeifyBin i m = m := by
  rw [treeifyBin, ht]

/-- `treeifyBin` does nothing, or resizes a short table, or turns a list bin into a tree bin -/
theorem treeifyBin_cases (i : Nat) {m : Map} {t : Table} (ht : m.table = some t) :
    treeifyBin i m = m ∨
    (treeifyTooSmall t.length = true ∧
      treeifyBin i m = tryPresize (treeifyPresizeArg t.length) m) ∨
    ∃ ns, treeifyTooSmall t.length = false ∧ tableBin t i = .list ns ∧
      treeifyBin i m = { m with table := some (t.set i (.tree (RB.ofList ns) ns)) } := by
  rw [treeifyBin, ht]
  dsimp only
  cases hs : treeifyTooSmall t.length with
  | true => exact Or.inr (Or.inl ⟨rfl, rfl⟩)
  | false =>
    cases hb : tableBin t i with
    | list ns => exact Or.inr (Or.inr ⟨ns, rfl, rfl, rfl⟩)
    | empty => exact Or.inl rfl
    | tree _ _ => exact Or.inl rfl

theorem treeify_set_grown {m : Map} {t : Table} {i : Nat} {ns : List Node} (ht : m.table = some t)
    (hb : tableBin t i = .list ns) :
    Grown m { m with table := some (t.set i (.tree (RB.ofList ns) ns)) } := by
  refine ⟨rfl, rfl, ?_, Nat.le_refl _, ?_⟩
  · rw [tableLen_of_some ht, tableLen_of_some (m := { m with table := _ }) rfl, table_length_set]
    exact Nat.le_refl _
  · rw [entries_eq (m := { m with table := _ }) rfl, entries_eq ht,
      flatMap_nodes_set_same (by rw [hb]; rfl)]

theorem treeifyBin_grown (i : Nat) (m : Map) : Grown m (treeifyBin i m) := by
  cases ht : m.table with
  | none => rw [treeifyBin_none ht]; exact Grown.refl m
  | some t =>
    rcases treeifyBin_cases i ht with h | ⟨_, h⟩ | ⟨ns, _, hb, h⟩ <;> rw [h]
    · exact Grown.refl m
    · exact tryPresize_grown _ m
    · exact treeify_set_grown ht hb

theorem treeifyBin_hash (i : Nat) (m : Map) : (treeifyBin i m).hash = m.hash :=
  (treeifyBin_grown i m).hash

theorem treeifyBin_count (i : Nat) (m : Map) : (treeifyBin i m).count = m.count :=
  (treeifyBin_grown i m).count

theorem treeifyBin_tableLen_le (i : Nat) (m : Map) : tableLen m ≤ tableLen (treeifyBin i m) :=
  (treeifyBin_grown i m).tableLen_le

theorem treeifyBin_resizes_le (i : Nat) (m : Map) : m.resizes ≤ (treeifyBin i m).resizes :=
  (treeifyBin_grown i m).resizes_le

/-- `treeifyBin` on a state with a table whose count may be off -/
theorem treeifyBin_pre (i : Nat) {m : Map} {t : Table} (hp : PreWF m t) :
    ∃ t', PreWF (treeifyBin i m) t' ∧ Same m (treeifyBin i m) ∧
      ((m.count < m.sizeCtl ∨ t.length = MAXIMUM_CAPACITY) →
        (treeifyBin i m).count < (treeifyBin i m).sizeCtl ∨ t'.length = MAXIMUM_CAPACITY) := by
  rcases treeifyBin_cases i hp.table with h | ⟨_, h⟩ | ⟨ns, _, hb, h⟩ <;> rw [h]
  · exact ⟨t, hp, Same.refl m, id⟩
  · rw [tryPresize_of_table (by
      rw [tableLen_of_some hp.table]; exact Nat.ne_of_gt hp.twf.length_pos)]
    obtain ⟨t', hp', s, hb', _⟩ := growLoop_spec (presizeStop_of_max _) 64 hp
    exact ⟨t', hp', s, hb'⟩
  · have g := (treeify_set_grown hp.table hb).entries_perm
    have htw' := tableWF_set hp.twf (treeify_wf (hb ▸ hp.twf.bin i))
    exact ⟨_, ⟨rfl, htw', (table_length_set t i _).symm ▸ hp.sc⟩,
      ⟨rfl, get_eq_of_perm hp.table rfl hp.twf htw' g, g⟩,
      fun h => (table_length_set t i _).symm ▸ h⟩

theorem treeifyBin_spec (i : Nat) {m : Map} (hw : WF m) :
    WF (treeifyBin i m) ∧ Same m (treeifyBin i m) ∧ (treeifyBin i m).count = m.count ∧
    tableLen m ≤ tableLen (treeifyBin i m) ∧ m.resizes ≤ (treeifyBin i m).resizes := by
  have g := treeifyBin_grown i m
  suffices h : WF (treeifyBin i m) ∧ Same m (treeifyBin i m) from
    ⟨h.1, h.2, g.count, g.tableLen_le, g.resizes_le⟩
  cases ht : m.table with
  | none => rw [treeifyBin_none ht]; exact ⟨hw, Same.refl m⟩
  | some t =>
    obtain ⟨_, _, _, hb⟩ := (wf_some_iff ht).1 hw
    obtain ⟨t', hp', s, hb'⟩ := treeifyBin_pre i (hw.preWF ht)
    exact ⟨hp'.wf (by rw [g.count, hw.count_eq, s.length_eq]) (hb' hb), s⟩

theorem treeifyBin_wf (i : Nat) {m : Map} (hw : WF m) : WF (treeifyBin i m) :=
  (treeifyBin_spec i hw).1

theorem treeifyBin_same (i : Nat) {m : Map} (hw : WF m) : Same m (treeifyBin i m) :=
  (treeifyBin_spec i hw).2.1

theorem treeifyBin_table_length {i : Nat} {m : Map} {t : Table} (ht : m.table = some t)
    (hbig : treeifyTooSmall t.length = false) :
    ∃ t', (treeifyBin i m).table = some t' ∧ t'.length = t.length ∧
      (treeifyBin i m).sizeCtl = m.sizeCtl ∧ (treeifyBin i m).resizes = m.resizes := by
  rcases treeifyBin_cases i ht with h | ⟨hs, _⟩ | ⟨ns, _, _, h⟩
  · rw [h]; exact ⟨t, ht, rfl, rfl, rfl⟩
  · rw [hbig] at hs; cases hs
  · rw [h]; exact ⟨_, rfl, table_length_set _ _ _, rfl, rfl⟩

/-- after `treeifyBin` the table still exists (so `InitOk` holds trivially) -/
theorem treeifyBin_initOk (i : Nat) {m : Map} {t : Table} (hw : WF m) (ht : m.table = some t) :
    ∃ t', (treeifyBin i m).table = some t' := by
  obtain ⟨t', hp', _⟩ := treeifyBin_pre i (hw.preWF ht)
  exact ⟨t', hp'.table⟩

end Flurry.Seq
