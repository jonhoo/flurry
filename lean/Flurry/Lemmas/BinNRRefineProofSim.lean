import Flurry.Lemmas.BinNRInv2
import Flurry.Lemmas.BinNRRefine
import Flurry.Lemmas.BinNRRefineProofBatch
import Flurry.Lemmas.Reclaim2
/-! # Proto/BinNR → Proto/Reclaim2: the simulation relation `Sim` (the Prop version of `simB`) and the facts about the
concrete side that the refinement proof needs -/
namespace Flurry.Proto.BinNR
open Flurry.Lin
open Flurry.Proto.BinX (isReader get_set_self)
open Flurry.Proto.BinN (Local Ghost)
open Flurry.Proto.Reclaim2 (OSt acquirable active)

/-- the abstract object state describes the concrete node -/
def ObjRel (st : OSt) (unl : Option (List Nat)) (life : Life) (r : Bool) : Prop :=
  match st with
  | .fresh => unl = none ∧ life = .live ∧ r = false
  | .linked => unl = none ∧ life = .live ∧ r = true
  | .unlinked u => ∃ u', unl = some u' ∧ (∀ x, x ∈ u ↔ x ∈ u') ∧ life = .live
  | .retired u w => ∃ u' w', unl = some u' ∧ life = .retired w' ∧ (∀ x, x ∈ u ↔ x ∈ u') ∧ (∀ x, x ∈ w ↔ x ∈ w')
  | .freed => life = .freed

/-- `ObjRel` as a family indexed by the concrete side: `cases` on it, with the concrete `unl` / `life` / `reach` known,
leaves the abstract states that fit -/
inductive ObjV : OSt → Option (List Nat) → Life → Bool → Prop
  | fresh : ObjV .fresh none .live false
  | linked : ObjV .linked none .live true
  | unlinked {u u' : List Nat} {r : Bool} : (∀ x, x ∈ u ↔ x ∈ u') → ObjV (.unlinked u) (some u') .live r
  | retired {u w u' w' : List Nat} {r : Bool} : (∀ x, x ∈ u ↔ x ∈ u') → (∀ x, x ∈ w ↔ x ∈ w') →
      ObjV (.retired u w) (some u') (.retired w') r
  | freed {unl : Option (List Nat)} {r : Bool} : ObjV .freed unl .freed r

theorem objRel_iff {st : OSt} {unl : Option (List Nat)} {life : Life} {r : Bool} :
    ObjRel st unl life r ↔ ObjV st unl life r := by
  constructor
  · intro h
    cases st with
    | fresh => obtain ⟨rfl, rfl, rfl⟩ := h; exact .fresh
    | linked => obtain ⟨rfl, rfl, rfl⟩ := h; exact .linked
    | unlinked u => obtain ⟨u', rfl, h2, rfl⟩ := h; exact .unlinked h2
    | retired u w => obtain ⟨u', w', rfl, rfl, h3, h4⟩ := h; exact .retired h3 h4
    | freed => cases (show life = .freed from h); exact .freed
  · intro h
    cases h with
    | fresh => exact ⟨rfl, rfl, rfl⟩
    | linked => exact ⟨rfl, rfl, rfl⟩
    | unlinked h2 => exact ⟨_, rfl, h2, rfl⟩
    | retired h3 h4 => exact ⟨_, _, rfl, rfl, h3, h4⟩
    | freed => exact rfl

/-- the abstract state `a` of `Proto/Reclaim2` describes the concrete state `s` of `Proto/BinNR` -/
structure Sim (a : Reclaim2.State) (s : State) : Prop where
  nthr : a.nthreads = s.n.threads.length
  nobjs : a.nobjs = s.n.heap.length
  grd : ∀ t, a.guarded t = guarded s.n t
  hld : ∀ t, ∀ i ∈ holdsOf s.n t, i ∈ a.holds t
  obj : ∀ i, i < s.n.heap.length → ObjRel (a.objs i) (s.unl i) (s.life i) (reach s.n i)

theorem Sim.mem_active {a : Reclaim2.State} {s : State} (S : Sim a s) {x : Nat} :
    x ∈ active a ↔ guarded s.n x = true := by
  unfold active
  rw [List.mem_filter, List.mem_range, S.grd x, S.nthr]
  exact ⟨fun h => h.2, fun h => ⟨guarded_lt h, h⟩⟩

theorem Sim.view {a : Reclaim2.State} {s : State} (S : Sim a s) {i : Nat} (hi : i < s.n.heap.length) :
    ObjV (a.objs i) (s.unl i) (s.life i) (reach s.n i) := objRel_iff.1 (S.obj i hi)

theorem Sim.linked {a : Reclaim2.State} {s : State} {G : Ghost} (S : Sim a s) (R : RInv s G) {i : Nat}
    (h0 : Live0 s.n i) : a.objs i = .linked := by
  have h := S.view (h0.lt R.inv.heap)
  have hun := R.unl_none_of_live0 h0
  rw [hun, (reach_iff _ _).2 h0] at h
  generalize a.objs i = st at h ⊢
  generalize hlf : s.life i = lf at h
  cases h with
  | linked => rfl
  | freed => have := R.j4f i hlf; rw [hun] at this; cases this

theorem Sim.fresh {a : Reclaim2.State} {s : State} {G : Ghost} (S : Sim a s) (R : RInv s G) {i : Nat}
    (hi : i < s.n.heap.length) (hun : s.unl i = none) (hr : reach s.n i = false) : a.objs i = .fresh := by
  have h := S.view hi
  rw [hun, hr] at h
  generalize a.objs i = st at h ⊢
  generalize hlf : s.life i = lf at h
  cases h with
  | fresh => rfl
  | freed => have := R.j4f i hlf; rw [hun] at this; cases this

theorem Sim.unlinked {a : Reclaim2.State} {s : State} (S : Sim a s) {i : Nat} {u' : List Nat}
    (hi : i < s.n.heap.length) (hun : s.unl i = some u') (hl : s.life i = .live) :
    ∃ u, a.objs i = .unlinked u ∧ ∀ x, x ∈ u ↔ x ∈ u' := by
  have h := S.view hi
  rw [hun, hl] at h
  generalize a.objs i = st at h ⊢
  cases h with
  | unlinked h2 => exact ⟨_, rfl, h2⟩

/-- whatever a thread may pick up concretely, it may `acquire` abstractly -/
theorem Sim.acquirable {a : Reclaim2.State} {s : State} {G : Ghost} (S : Sim a s) (R : RInv s G) {t i : Nat}
    (h : Live0 s.n i ∨ ∃ u, s.unl i = some u ∧ t ∈ u) : i < a.nobjs ∧ acquirable t (a.objs i) = true := by
  rw [S.nobjs]
  rcases h with h0 | ⟨u', hu, ht⟩
  · exact ⟨h0.lt R.inv.heap, by rw [S.linked R h0]; rfl⟩
  · have hi := (R.j1 i u' hu).2
    refine ⟨hi, ?_⟩
    have h := S.view hi
    rw [hu] at h
    generalize a.objs i = st at h ⊢
    generalize hlf : s.life i = lf at h
    cases h with
    | unlinked h2 => simp only [Reclaim2.acquirable, List.contains_iff_mem]; exact (h2 t).2 ht
    | retired h2 _ => simp only [Reclaim2.acquirable, List.contains_iff_mem]; exact (h2 t).2 ht
    | freed => have := R.j4f i hlf; rw [hu] at this; cases this; cases ht

theorem sameSet_of_iff {a b : List Nat} (h : ∀ x, x ∈ a ↔ x ∈ b) : sameSet a b = true := by
  simp only [sameSet, Bool.and_eq_true, List.all_eq_true, List.contains_iff_mem]
  exact ⟨fun x hx => (h x).1 hx, fun x hx => (h x).2 hx⟩

theorem Sim.simB {a : Reclaim2.State} {s : State} {G : Ghost} (S : Sim a s) (R : RInv s G) (hb : a.badTouches = 0)
    (n : Nat) : simB n a s = true := by
  simp only [BinNR.simB, Bool.and_eq_true, beq_iff_eq, List.all_eq_true, List.mem_range]
  refine ⟨⟨⟨S.nobjs, hb⟩, fun t _ => ⟨S.grd t, fun i hi => List.contains_iff_mem.2 (S.hld t i hi)⟩⟩, fun i hi => ?_⟩
  have h := S.view hi
  have hdead : ∀ u, s.unl i = some u → (!reach s.n i) = true := fun u hu => by
    rw [reach_false_of_not (R.not_live0_of_unl hu)]; rfl
  generalize hst : a.objs i = st at h
  generalize hun : s.unl i = un at h
  generalize hlf : s.life i = lf at h
  generalize hre : reach s.n i = re at h
  cases h with
  | fresh => rfl
  | linked => rfl
  | unlinked h2 => simp only [sameSet_of_iff h2, ← hre, hdead _ hun]; rfl
  | retired h3 h4 => simp only [sameSet_of_iff h3, sameSet_of_iff h4, ← hre, hdead _ hun]; rfl
  | freed =>
    rw [R.j4f i hlf] at hun; subst hun
    simp only [← hre, hdead [] (R.j4f i hlf)]

theorem acquirable_not_freed {t : Nat} {st : OSt} (h : acquirable t st = true) : st ≠ .freed := by
  intro e; rw [e] at h; cases h

/-- the pre-state justification of every node the step dereferences -/
theorem RInv.pre_touches {s : State} {G : Ghost} (R : RInv s G) {t i : Nat} (hi : i ∈ touches s.n t) :
    (Live0 s.n i ∨ ∃ u, s.unl i = some u ∧ t ∈ u) ∧ guarded s.n t = true := by
  rcases touches_sub R.inv hi with ⟨l, hl, hh⟩ | h0
  · exact ⟨R.j2 t l i hl hh, guarded_of_holds hl hh⟩
  · refine ⟨Or.inl h0, ?_⟩
    unfold touches at hi
    unfold guarded
    cases hl : s.n.threads[t]? with
    | none => rw [hl] at hi; cases hi
    | some l =>
      rw [hl] at hi
      refine bne_iff_ne.2 fun h => ?_
      simp only [h] at hi; cases hi

theorem idle_step {n n' : BinN.State} {t : Nat} {l : Local} {inv : Option (Nat × KOp)} {rz : Bool} {pick : Nat}
    (hl : n.threads[t]? = some l) (hb : BinN.step n t inv rz pick = some n') (hpc : guarded n t = false) :
    guarded n' t = true ∨ (n'.heap = n.heap ∧ n'.tabs = n.tabs) := by
  have hidle : l.pc = .idle := by
    unfold guarded at hpc; rw [hl] at hpc
    simpa using hpc
  obtain ⟨pc, call⟩ := l
  simp only at hidle
  subst hidle
  have hset : ∀ (m : BinN.State) (l' : Local), m.threads = n.threads → l'.pc ≠ .idle →
      guarded { m with threads := m.threads.set t l' } t = true := by
    intro m l' hm hl'
    unfold guarded
    show (match (m.threads.set t l')[t]? with | some l => l.pc != .idle | none => false) = true
    rw [hm, get_set_self hl]
    exact bne_iff_ne.2 hl'
  unfold BinN.step BinN.stepG at hb
  rw [hl] at hb
  simp only at hb
  cases rz with
  | true =>
    simp only [if_true] at hb
    split at hb
    · cases hb; exact Or.inr ⟨rfl, rfl⟩
    · cases hb; exact Or.inl (hset _ _ rfl (by simp))
  | false =>
    simp only [Bool.false_eq_true, if_false] at hb
    cases inv with
    | none => cases hb; exact Or.inr ⟨rfl, rfl⟩
    | some x => cases hb; exact Or.inl (hset _ _ rfl (by cases isReader x.2 <;> simp))

theorem reach_congr {n n' : BinN.State} (hh : n'.heap = n.heap) (ht : n'.tabs = n.tabs) (i : Nat) :
    reach n' i = reach n i := by
  unfold reach BinN.chainOfCell; rw [hh, ht]

end Flurry.Proto.BinNR
