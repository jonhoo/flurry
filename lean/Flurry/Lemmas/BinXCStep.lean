import Flurry.Proto.BinXC
/-! # Proto/BinXC: the transitions in normal form (C01, C03, C04)

`StepK s t l s'` lists the possible transitions of thread `t` (with local state `l`) with explicit
successor states, grouped by their effect on the shared memory; `step_stepK` dissects `step` once
and for all. `Move`, `TMove`, `TLockMove`, `Fin` are those of `Lemmas/BinXStep.lean` over this model's types; `StepK` is
indexed by the local state in constructor form `⟨pc, call⟩`, where `BinX.StepK` has premises `l.pc = …`, `l.call = …`. -/
namespace Flurry.Proto.BinXC
open Flurry.Lin

def tick (s : State) : State := { s with now := s.now + 1 }

def insLike (op : KOp) : Prop := ∃ v vi, op = .ins v vi ∨ op = .tryIns v vi

inductive Move (s : State) (p : Pending) : Pc → Pc → Prop
  | rTable : Move s p .rTable (.rCell s.cur)
  | rCellMoved {tab : Tab} : cellOf s tab p.key = .moved → Move s p (.rCell tab) (.rCell .new)
  | rCellNode {tab : Tab} {h : Nat} : cellOf s tab p.key = .node h → Move s p (.rCell tab) (.rNode (some h))
  | rNext {c : Nat} {n : NodeS} : s.heap[c]? = some n → n.key ≠ p.key →
      Move s p (.rNode (some c)) (.rNode n.next)
  | wTable : Move s p .wTable (.wCell s.cur)
  | wCellEmpty {tab : Tab} : cellOf s tab p.key = .empty → insLike p.op → Move s p (.wCell tab) (.wCas tab)
  | wCellMoved {tab : Tab} : cellOf s tab p.key = .moved → Move s p (.wCell tab) (.wCell .new)
  | wCellNode {tab : Tab} {h : Nat} : cellOf s tab p.key = .node h → Move s p (.wCell tab) (.wLock tab h)
  | casFail {tab : Tab} : Move s p (.wCas tab) (.wCell tab)
  | checkOk {tab : Tab} {h : Nat} : cellOf s tab p.key = .node h →
      Move s p (.wCheck tab h) (.wFind tab h none (some h))
  | checkFail {tab : Tab} {h : Nat} : cellOf s tab p.key ≠ .node h →
      Move s p (.wCheck tab h) (.wUnlock tab h .none true)
  | findEnd {tab : Tab} {h : Nat} {pred : Option Nat} :
      Move s p (.wFind tab h pred none) (.wStore tab h pred none none)
  | findHit {tab : Tab} {h : Nat} {pred : Option Nat} {c : Nat} {n : NodeS} :
      s.heap[c]? = some n → n.key = p.key →
      Move s p (.wFind tab h pred (some c)) (.wStore tab h pred (some c) n.next)
  | findNext {tab : Tab} {h : Nat} {pred : Option Nat} {c : Nat} {n : NodeS} :
      s.heap[c]? = some n → n.key ≠ p.key →
      Move s p (.wFind tab h pred (some c)) (.wFind tab h (some c) n.next)

/-- transitions of a `clear` that only change its program counter (reading a cell as empty is a
linearization point and is listed separately: `StepK.cEmpty`) -/
inductive CMove (s : State) : Pc → Pc → Prop
  | table : CMove s .cTable (.cCell s.cur 0)
  | cellMoved {tab : Tab} {idx : Nat} : idx < tabLen tab → cellAt s tab idx = .moved → CMove s (.cCell tab idx) .cWait
  | cellNode {tab : Tab} {idx h : Nat} : idx < tabLen tab → cellAt s tab idx = .node h →
      CMove s (.cCell tab idx) (.cLock tab idx h)
  | waitGo : s.cur = .new → CMove s .cWait (.cCell .new 0)
  | waitStay : s.cur ≠ .new → CMove s .cWait .cWait
  | checkOk {tab : Tab} {idx h : Nat} : cellAt s tab idx = .node h → CMove s (.cCheck tab idx h) (.cStore tab idx h)
  | checkFail {tab : Tab} {idx h : Nat} : cellAt s tab idx ≠ .node h →
      CMove s (.cCheck tab idx h) (.cUnlock tab idx h true)

inductive TMove (s : State) : Pc → Pc → Prop
  | cellEmpty : s.cell0 = .empty → TMove s .tCell .tCasMoved
  | cellNode {h : Nat} : s.cell0 = .node h → TMove s .tCell (.tLock h)
  | cellMoved : s.cell0 = .moved → TMove s .tCell .tCommit
  | casFail : s.cell0 ≠ .empty → TMove s .tCasMoved .tCell
  | checkOk {h : Nat} : s.cell0 = .node h → TMove s (.tCheck h) (.tBuild h)

/-- as in `Lemmas/BinXStep.lean`, with the lock and the unlock of a `clear` -/
inductive LockMove (s : State) (t : Nat) : Pc → Nat → Option Nat → Pc → Prop
  | lock {tab : Tab} {h : Nat} {n : NodeS} : s.heap[h]? = some n → n.lock = none →
      LockMove s t (.wLock tab h) h (some t) (.wCheck tab h)
  | unlockRetry {tab : Tab} {h : Nat} {res : KRes} : LockMove s t (.wUnlock tab h res true) h none (.wCell tab)
  | cLock {tab : Tab} {idx h : Nat} {n : NodeS} : s.heap[h]? = some n → n.lock = none →
      LockMove s t (.cLock tab idx h) h (some t) (.cCheck tab idx h)
  | cUnlock {tab : Tab} {idx h : Nat} {retry : Bool} :
      LockMove s t (.cUnlock tab idx h retry) h none (.cCell tab (if retry then idx else idx + 1))

inductive TLockMove (s : State) (t : Nat) : Pc → Nat → Option Nat → Pc → Prop
  | lock {h : Nat} {n : NodeS} : s.heap[h]? = some n → n.lock = none →
      TLockMove s t (.tLock h) h (some t) (.tCheck h)
  | checkFail {h : Nat} : s.cell0 ≠ .node h → TLockMove s t (.tCheck h) h none .tCell
  | unlock {h : Nat} : TLockMove s t (.tUnlock h) h none .tCommit

def missRes (op : KOp) : KRes := match op with | .has => .bool false | _ => .none
def hitRes (op : KOp) (n : NodeS) : KRes := match op with | .has => .bool true | _ => .some n.val.1 n.val.2

inductive Fin (s : State) (p : Pending) : Pc → KRes → Prop
  | rEmpty {tab : Tab} : cellOf s tab p.key = .empty → Fin s p (.rCell tab) (missRes p.op)
  | miss : Fin s p (.rNode none) (missRes p.op)
  | hit {c : Nat} {n : NodeS} : s.heap[c]? = some n → n.key = p.key →
      Fin s p (.rNode (some c)) (hitRes p.op n)
  | wEmpty {tab : Tab} : cellOf s tab p.key = .empty → ¬ insLike p.op → Fin s p (.wCell tab) .none

/-- the nodes of the old list (head `h`) that the transfer copied -/
def copiedOf (s : State) (h : Nat) : List Nat :=
  (chainFrom s.heap s.heap.length (some h)).take (lastRunStart s.heap (chainFrom s.heap s.heap.length (some h)))

/-- a removal retires the node it unlinked -/
def retireHit (s' : State) (op : KOp) (hit : Option Nat) : State :=
  match op, hit with
  | .rm, some i | .cipRm, some i => { s' with retired := i :: s'.retired }
  | _, _ => s'

def unlinkAt (s : State) (tab : Tab) (key : Nat) (pred hnext : Option Nat) : State :=
  match pred with
  | some pr => setNode s pr (fun m => { m with next := hnext })
  | none => setCell s tab key (match hnext with | some x => .node x | none => .empty)

def appendAt (s : State) (tab : Tab) (key : Nat) (pred : Option Nat) (v : Nat × Nat) : State :=
  match pred with
  | some l => setNode { s with heap := s.heap ++ [(⟨key, v, none, none⟩ : NodeS)] } l
      (fun n => { n with next := some s.heap.length })
  | none => setCell { s with heap := s.heap ++ [(⟨key, v, none, none⟩ : NodeS)] } tab key (.node s.heap.length)

def casS (s : State) (t : Nat) (p : Pending) (tab : Tab) (v : Nat × Nat) : State :=
  finish (appendAt (tick s) tab p.key none v) t p .none

def storeS (s : State) (t : Nat) (p : Pending) (tab : Tab) (h : Nat) (pred hit hnext : Option Nat) : State :=
  setT (retireHit (storeAt (tick s) tab p pred hit hnext).1 p.op hit) t
    ⟨.wUnlock tab h (storeAt (tick s) tab p pred hit hnext).2 false, some p⟩

def cstoreS (s : State) (t : Nat) (p : Pending) (tab : Tab) (idx h : Nat) : State :=
  setT { setCellAt (tick s) tab idx .empty with
      retired := chainFrom s.heap s.heap.length (some h) ++ (setCellAt (tick s) tab idx .empty).retired } t
    ⟨.cUnlock tab idx h false, some p⟩

def buildS (s : State) (t : Nat) (h : Nat) : State :=
  setT { tick s with heap := (splitBin s.heap (chainFrom s.heap s.heap.length (some h))).1 } t
    ⟨.tStoreLow h (splitBin s.heap (chainFrom s.heap s.heap.length (some h))).2.1
      (splitBin s.heap (chainFrom s.heap s.heap.length (some h))).2.2, none⟩

inductive StepK (s : State) (t : Nat) : Local → State → Prop
  | idle (call : Option Pending) : StepK s t ⟨.idle, call⟩ (setT (tick s) t ⟨.idle, call⟩)
  | invoke (call : Option Pending) (k : Nat) (op : KOp) :
      StepK s t ⟨.idle, call⟩ (setT (tick s) t ⟨if isReader op then .rTable else .wTable, some ⟨k, op, s.now + 1⟩⟩)
  | clearStart (call : Option Pending) :
      StepK s t ⟨.idle, call⟩ (setT (tick s) t ⟨.cTable, some ⟨0, .cipRm, s.now + 1⟩⟩)
  | cmove (p : Pending) (pc pc' : Pc) : CMove s pc pc' → StepK s t ⟨pc, some p⟩ (setT (tick s) t ⟨pc', some p⟩)
  | cEmpty (p : Pending) (tab : Tab) (idx : Nat) : idx < tabLen tab → cellAt s tab idx = .empty →
      StepK s t ⟨.cCell tab idx, some p⟩ (setT (tick s) t ⟨.cCell tab (idx + 1), some p⟩)
  | cFin (p : Pending) (tab : Tab) (idx : Nat) : tabLen tab ≤ idx →
      StepK s t ⟨.cCell tab idx, some p⟩ (finishClear (tick s) t p)
  | cStore (p : Pending) (tab : Tab) (idx h : Nat) : StepK s t ⟨.cStore tab idx h, some p⟩ (cstoreS s t p tab idx h)
  | resize (call : Option Pending) : s.resizing = false →
      StepK s t ⟨.idle, call⟩ { (setT (tick s) t ⟨.tCell, call⟩) with resizing := true }
  | move (p : Pending) (pc pc' : Pc) : Move s p pc pc' → StepK s t ⟨pc, some p⟩ (setT (tick s) t ⟨pc', some p⟩)
  | tmove (pc pc' : Pc) : TMove s pc pc' → StepK s t ⟨pc, none⟩ (setT (tick s) t ⟨pc', none⟩)
  | lockMove (p : Pending) (pc : Pc) (h : Nat) (x : Option Nat) (pc' : Pc) : LockMove s t pc h x pc' →
      StepK s t ⟨pc, some p⟩ (setT (setNode (tick s) h (fun m => { m with lock := x })) t ⟨pc', some p⟩)
  | tlockMove (pc : Pc) (h : Nat) (x : Option Nat) (pc' : Pc) : TLockMove s t pc h x pc' →
      StepK s t ⟨pc, none⟩ (setT (setNode (tick s) h (fun m => { m with lock := x })) t ⟨pc', none⟩)
  | fin (p : Pending) (pc : Pc) (res : KRes) : Fin s p pc res → StepK s t ⟨pc, some p⟩ (finish (tick s) t p res)
  | cas (p : Pending) (tab : Tab) (v vi : Nat) : cellOf s tab p.key = .empty →
      (p.op = .ins v vi ∨ p.op = .tryIns v vi) → StepK s t ⟨.wCas tab, some p⟩ (casS s t p tab (v, vi))
  | store (p : Pending) (tab : Tab) (h : Nat) (pred hit hnext : Option Nat) :
      StepK s t ⟨.wStore tab h pred hit hnext, some p⟩ (storeS s t p tab h pred hit hnext)
  | unlockFin (p : Pending) (tab : Tab) (h : Nat) (res : KRes) :
      StepK s t ⟨.wUnlock tab h res false, some p⟩
        (finish (setNode (tick s) h (fun m => { m with lock := none })) t p res)
  | casMoved : s.cell0 = .empty →
      StepK s t ⟨.tCasMoved, none⟩ { (setT (tick s) t ⟨.tCommit, none⟩) with cell0 := .moved }
  | build (h : Nat) : StepK s t ⟨.tBuild h, none⟩ (buildS s t h)
  | storeLow (h : Nat) (lo hg : Option Nat) :
      StepK s t ⟨.tStoreLow h lo hg, none⟩ { (setT (tick s) t ⟨.tStoreHigh h hg, none⟩) with lowCell := cellOfHead lo }
  | storeHigh (h : Nat) (hg : Option Nat) :
      StepK s t ⟨.tStoreHigh h hg, none⟩ { (setT (tick s) t ⟨.tStoreMoved h, none⟩) with highCell := cellOfHead hg }
  | storeMoved (h : Nat) :
      StepK s t ⟨.tStoreMoved h, none⟩
        { (setT (tick s) t ⟨.tUnlock h, none⟩) with cell0 := .moved, retired := copiedOf s h ++ s.retired }
  | commit : StepK s t ⟨.tCommit, none⟩ { (setT (tick s) t ⟨.idle, none⟩) with cur := .new }

theorem setT_self {s : State} {t : Nat} {l : Local} (hl : s.threads[t]? = some l) : setT s t l = s := by
  unfold setT
  obtain ⟨ht, rfl⟩ := List.getElem?_eq_some_iff.1 hl
  rw [List.set_getElem_self]

theorem stepK_idle {s : State} {t : Nat} {call : Option Pending} (inv : Option (Nat × KOp)) (rz cl : Bool)
    (hl : s.threads[t]? = some ⟨.idle, call⟩) : (step s t inv rz cl).elim True (StepK s t ⟨.idle, call⟩) := by
  unfold step stepG
  rw [hl]
  have hid : tick s = setT (tick s) t ⟨.idle, call⟩ := (setT_self (s := tick s) hl).symm
  cases rz with
  | true =>
    show (if (tick s).resizing = true then some (tick s) else _ : Option State).elim True _
    split
    · show StepK s t _ (tick s)
      rw [hid]
      exact .idle call
    · rename_i hrz
      exact StepK.resize call (Bool.not_eq_true _ ▸ hrz)
  | false =>
    cases cl with
    | true => exact StepK.clearStart call
    | false =>
      cases inv with
      | none =>
        show StepK s t _ (tick s)
        rw [hid]
        exact .idle call
      | some ko => exact StepK.invoke call ko.1 ko.2

theorem stepK_of_step {s : State} {t : Nat} {l : Local} (inv : Option (Nat × KOp)) (rz cl : Bool)
    (hl : s.threads[t]? = some l) : (step s t inv rz cl).elim True (StepK s t l) := by
  obtain ⟨pc, call⟩ := l
  by_cases hpc : pc = .idle
  · subst hpc
    exact stepK_idle inv rz cl hl
  unfold step stepG
  rw [hl]
  -- program counter and call in constructor form: every branch of `stepG` is then a match on constructors
  cases call with
  | none =>
    cases pc with
    | idle => exact absurd rfl hpc
    | tCell =>
      show (match s.cell0 with | .empty => _ | .node h => _ | .moved => _ : Option State).elim True _
      split
      · rename_i hc
        exact StepK.tmove _ _ (.cellEmpty hc)
      · rename_i h hc
        exact StepK.tmove _ _ (.cellNode hc)
      · rename_i hc
        exact StepK.tmove _ _ (.cellMoved hc)
    | tCasMoved =>
      show (if (s.cell0 == .empty) = true then _ else _ : Option State).elim True _
      split
      · rename_i hc
        exact StepK.casMoved (eq_of_beq hc)
      · rename_i hc
        exact StepK.tmove _ _ (.casFail fun h => hc (beq_iff_eq.2 h))
    | tLock h =>
      show (match s.heap[h]? with | none => none | some n => _ : Option State).elim True _
      split
      · exact True.intro
      · rename_i n hn
        split
        · exact True.intro
        · rename_i hlk
          exact StepK.tlockMove _ h (some t) _ (.lock hn (Option.not_isSome_iff_eq_none.1 hlk))
    | tCheck h =>
      show (if (s.cell0 == .node h) = true then _ else _ : Option State).elim True _
      split
      · rename_i hh
        exact StepK.tmove _ _ (.checkOk (eq_of_beq hh))
      · rename_i hh
        exact StepK.tlockMove _ h none _ (.checkFail fun h => hh (beq_iff_eq.2 h))
    | tBuild h => exact StepK.build h
    | tStoreLow h lo hg =>
      exact StepK.storeLow h lo hg
    | tStoreHigh h hg => exact StepK.storeHigh h hg
    | tStoreMoved h =>
      exact StepK.storeMoved h
    | tUnlock h => exact StepK.tlockMove _ h none _ .unlock
    | tCommit =>
      exact StepK.commit
    | rNode cur => cases cur <;> exact True.intro
    | wFind _ _ _ cur => cases cur <;> exact True.intro
    | _ => exact True.intro
  | some p =>
    cases pc with
    | idle => exact absurd rfl hpc
    | rTable => exact StepK.move p _ _ .rTable
    | rCell tab =>
      show (match cellOf s tab p.key with | .empty => _ | .moved => _ | .node h => _ : Option State).elim True _
      split
      · rename_i hc
        exact StepK.fin p _ _ (.rEmpty hc)
      · rename_i hc
        exact StepK.move p _ _ (.rCellMoved hc)
      · rename_i h hc
        exact StepK.move p _ _ (.rCellNode hc)
    | rNode cur =>
      cases cur with
      | none =>
        exact StepK.fin p _ _ .miss
      | some c =>
        show (match s.heap[c]? with | none => none | some n => _ : Option State).elim True _
        split
        · exact True.intro
        · rename_i n hn
          split
          · rename_i hk
            exact StepK.fin p _ _ (.hit hn (eq_of_beq hk))
          · rename_i hk
            exact StepK.move p _ _ (.rNext hn fun h => hk (beq_iff_eq.2 h))
    | wTable => exact StepK.move p _ _ .wTable
    | wCell tab =>
      show (match cellOf s tab p.key with | .empty => _ | .moved => _ | .node h => _ : Option State).elim True _
      split
      · rename_i hc
        split
        · rename_i v vi hop
          exact StepK.move p _ _ (.wCellEmpty hc ⟨v, vi, Or.inl hop⟩)
        · rename_i v vi hop
          exact StepK.move p _ _ (.wCellEmpty hc ⟨v, vi, Or.inr hop⟩)
        · rename_i h1 h2
          exact StepK.fin p _ _ (.wEmpty hc fun ⟨v, vi, h⟩ => h.elim (h1 v vi) (h2 v vi))
      · rename_i hc
        exact StepK.move p _ _ (.wCellMoved hc)
      · rename_i h hc
        exact StepK.move p _ _ (.wCellNode hc)
    | wCas tab =>
      show (match cellOf s tab p.key, p.op with
        | .empty, .ins v vi => _ | .empty, .tryIns v vi => _ | _, _ => _ : Option State).elim True _
      split
      · rename_i v vi hh hop
        exact StepK.cas p tab v vi hh (Or.inl hop)
      · rename_i v vi hh hop
        exact StepK.cas p tab v vi hh (Or.inr hop)
      · exact StepK.move p _ _ .casFail
    | wLock tab h =>
      show (match s.heap[h]? with | none => none | some n => _ : Option State).elim True _
      split
      · exact True.intro
      · rename_i n hn
        split
        · exact True.intro
        · rename_i hlk
          exact StepK.lockMove p _ h (some t) _ (.lock hn (Option.not_isSome_iff_eq_none.1 hlk))
    | wCheck tab h =>
      show (if (cellOf s tab p.key == .node h) = true then _ else _ : Option State).elim True _
      split
      · rename_i hh
        exact StepK.move p _ _ (.checkOk (eq_of_beq hh))
      · rename_i hh
        exact StepK.move p _ _ (.checkFail fun h => hh (beq_iff_eq.2 h))
    | wFind tab h pred cur =>
      cases cur with
      | none =>
        exact StepK.move p _ _ .findEnd
      | some c =>
        show (match s.heap[c]? with | none => none | some n => _ : Option State).elim True _
        split
        · exact True.intro
        · rename_i n hn
          split
          · rename_i hk
            exact StepK.move p _ _ (.findHit hn (eq_of_beq hk))
          · rename_i hk
            exact StepK.move p _ _ (.findNext hn fun h => hk (beq_iff_eq.2 h))
    | wStore tab h pred hit hnext => exact StepK.store p tab h pred hit hnext
    | wUnlock tab h res retry =>
      cases retry with
      | true => exact StepK.lockMove p _ h none _ .unlockRetry
      | false => exact StepK.unlockFin p tab h res
    | cTable => exact StepK.cmove p _ _ .table
    | cCell tab idx =>
      show (if idx ≥ tabLen tab then _ else
        match cellAt s tab idx with | .empty => _ | .moved => _ | .node h => _ : Option State).elim True _
      split
      · rename_i hi
        exact StepK.cFin p tab idx hi
      · rename_i hi
        have hi' : idx < tabLen tab := Nat.lt_of_not_le hi
        split
        · rename_i hc
          exact StepK.cEmpty p tab idx hi' hc
        · rename_i hc
          exact StepK.cmove p _ _ (.cellMoved hi' hc)
        · rename_i h hc
          exact StepK.cmove p _ _ (.cellNode hi' hc)
    | cWait =>
      show (if ((tick s).cur == .new) = true then _ else _ : Option State).elim True _
      split
      · rename_i hc
        exact StepK.cmove p _ _ (.waitGo (eq_of_beq hc))
      · rename_i hc
        exact StepK.cmove p _ _ (.waitStay fun h => hc (beq_iff_eq.2 h))
    | cLock tab idx h =>
      show (match s.heap[h]? with | none => none | some n => _ : Option State).elim True _
      split
      · exact True.intro
      · rename_i n hn
        split
        · exact True.intro
        · rename_i hlk
          exact StepK.lockMove p _ h (some t) _ (.cLock hn (Option.not_isSome_iff_eq_none.1 hlk))
    | cCheck tab idx h =>
      show (if (cellAt (tick s) tab idx == .node h) = true then _ else _ : Option State).elim True _
      split
      · rename_i hh
        exact StepK.cmove p _ _ (.checkOk (s := s) (eq_of_beq hh))
      · rename_i hh
        exact StepK.cmove p _ _ (.checkFail (s := s) fun h => hh (beq_iff_eq.2 h))
    | cStore tab idx h => exact StepK.cStore p tab idx h
    | cUnlock tab idx h retry =>
      exact StepK.lockMove p _ h none _ .cUnlock
    | _ => exact True.intro

theorem step_stepK {s s' : State} {t : Nat} {l : Local} {inv : Option (Nat × KOp)} {rz cl : Bool}
    (hl : s.threads[t]? = some l) (hs : step s t inv rz cl = some s') : StepK s t l s' := by
  have := stepK_of_step inv rz cl hl
  rwa [hs] at this

end Flurry.Proto.BinXC
