import Flurry.Proto.Reclaim
import Flurry.Lemmas.ListSet
/-! # Basic lemmas about the reclamation discipline `Proto/Reclaim`

`activeThreads` membership, `run` over `::` (and over `++`: `run_append`, `run_append_some`, which nothing
uses), the transition relation `Step`, and the two views of a step the invariants are proved from: what it does
to one object (`step_obj`) and to one thread (`step_thr`). `Lemmas/ReclaimSafe` takes the thread view through
`mem_holdsOf_step`: a pointer `t` holds after a step is one it held before, the object just allocated, or a
linked object just acquired. `Proto.ite_some_inv` is shared with `Lemmas/Reclaim2`. -/
theorem Flurry.Proto.ite_some_inv {α} {c : Prop} [Decidable c] {a b : α} (h : (if c then some a else none) = some b) :
    c ∧ b = a := by
  by_cases hc : c
  · rw [if_pos hc] at h; exact ⟨hc, (Option.some.inj h).symm⟩
  · rw [if_neg hc] at h; cases h

namespace Flurry.Proto.Reclaim

theorem mem_activeThreads {ts : List Thread} {t : Nat} :
    t ∈ activeThreads ts ↔ ∃ th, ts[t]? = some th ∧ th.guarded = true := by
  simp [activeThreads, List.mem_map, List.mem_filter, List.mem_zipIdx_iff_getElem?]

/-- thread `t` exists and holds a guard -/
def guardedB (s : State) (t : Nat) : Bool :=
  match s.threads[t]? with
  | some th => th.guarded
  | none => false

def holdsOf (s : State) (t : Nat) : List Nat :=
  match s.threads[t]? with
  | some th => th.holds
  | none => []

theorem guardedB_of_some {s : State} {t : Nat} {th : Thread} (h : s.threads[t]? = some th) :
    guardedB s t = th.guarded := by simp only [guardedB, h]
theorem holdsOf_of_some {s : State} {t : Nat} {th : Thread} (h : s.threads[t]? = some th) :
    holdsOf s t = th.holds := by simp only [holdsOf, h]

theorem mem_holdsOf {s : State} {t o : Nat} {th : Thread} (h : s.threads[t]? = some th) (hm : o ∈ th.holds) :
    o ∈ holdsOf s t := holdsOf_of_some h ▸ hm

theorem getElem?_concat {α} (l : List α) (a : α) (j : Nat) :
    (l ++ [a])[j]? = if j = l.length then some a else l[j]? := by
  by_cases hj : j = l.length
  · rw [if_pos hj, hj, List.getElem?_concat_length]
  · rw [if_neg hj]
    by_cases hlt : j < l.length
    · exact List.getElem?_append_left hlt
    · have hle := Nat.le_of_not_lt hlt
      rw [List.getElem?_eq_none hle, List.getElem?_eq_none]
      rw [List.length_append]; exact Nat.lt_of_le_of_ne hle (Ne.symm hj)

theorem holdsOf_set {s s' : State} {t : Nat} {th th' : Thread} (hs : s'.threads = s.threads.set t th')
    (h : s.threads[t]? = some th) (t' : Nat) :
    holdsOf s' t' = if t' = t then th'.holds else holdsOf s t' := by
  unfold holdsOf; rw [hs, getElem?_set_of_some h]
  by_cases e : t' = t
  · rw [if_pos e, if_pos e]
  · rw [if_neg e, if_neg e]
theorem guardedB_set {s s' : State} {t : Nat} {th th' : Thread} (hs : s'.threads = s.threads.set t th')
    (h : s.threads[t]? = some th) (t' : Nat) :
    guardedB s' t' = if t' = t then th'.guarded else guardedB s t' := by
  unfold guardedB; rw [hs, getElem?_set_of_some h]
  by_cases e : t' = t
  · rw [if_pos e, if_pos e]
  · rw [if_neg e, if_neg e]
theorem mem_activeThreads_iff {s : State} {t : Nat} : t ∈ activeThreads s.threads ↔ guardedB s t = true := by
  rw [mem_activeThreads, guardedB]; split <;> simp_all

@[simp] theorem run_nil (s : State) : run s [] = some s := rfl

theorem run_cons (s : State) (e : Ev) (es : List Ev) :
    run s (e :: es) = (step s e).bind (fun s' => run s' es) := by
  simp only [run]; cases step s e <;> rfl

theorem run_cons_some {s s' : State} {e : Ev} {es : List Ev} :
    run s (e :: es) = some s' ↔ ∃ s1, step s e = some s1 ∧ run s1 es = some s' := by
  rw [run_cons]; cases step s e <;> simp

theorem run_append (s : State) (es fs : List Ev) :
    run s (es ++ fs) = (run s es).bind (fun s' => run s' fs) := by
  induction es generalizing s with
  | nil => simp
  | cons e es ih =>
    simp only [List.cons_append, run_cons]
    cases step s e <;> simp [ih]

theorem run_append_some {s s' : State} {es fs : List Ev} :
    run s (es ++ fs) = some s' ↔ ∃ s1, run s es = some s1 ∧ run s1 fs = some s' := by
  rw [run_append]; cases run s es <;> simp

theorem run_preserves {P : State → Prop} (hstep : ∀ s e s', P s → step s e = some s' → P s')
    {s s' : State} {es : List Ev} (h0 : P s) (h : run s es = some s') : P s' := by
  induction es generalizing s with
  | nil => simp at h; exact h ▸ h0
  | cons e es ih =>
    obtain ⟨s1, h1, h2⟩ := run_cons_some.1 h
    exact ih (hstep _ _ _ h0 h1) h2

theorem Protected.cons {e : Ev} {es : List Ev} (h : Protected (e :: es)) :
    (∀ t o, e ≠ .unprotectedRetire t o) ∧ Protected es :=
  ⟨fun t o => h e (by simp) t o, fun e' he' => h e' (by simp [he'])⟩

theorem protected_nil : Protected [] := fun _ h => by simp at h

theorem dropWaiter_eq_fresh {t : Nat} {st : OSt} : dropWaiter t st = .fresh ↔ st = .fresh := by
  cases st <;> simp [dropWaiter]
theorem dropWaiter_eq_linked {t : Nat} {st : OSt} : dropWaiter t st = .linked ↔ st = .linked := by
  cases st <;> simp [dropWaiter]
theorem dropWaiter_eq_unlinked {t : Nat} {st : OSt} : dropWaiter t st = .unlinked ↔ st = .unlinked := by
  cases st <;> simp [dropWaiter]
theorem dropWaiter_eq_freed {t : Nat} {st : OSt} : dropWaiter t st = .freed ↔ st = .freed := by
  cases st <;> simp [dropWaiter]
theorem dropWaiter_eq_retired {t : Nat} {st : OSt} {w' : List Nat} :
    dropWaiter t st = .retired w' ↔ ∃ w, st = .retired w ∧ w' = w.filter (· != t) := by
  cases st <;> simp [dropWaiter, eq_comm]

/-- `step s e = some s'` spelt out event by event: what the event requires of `s`, and the successor state -/
inductive Step (s : State) : Ev → State → Prop
  | enter {t th} : s.threads[t]? = some th → th.guarded = false →
      Step s (.enter t) (setThr s t { th with guarded := true })
  | exit {t th} : s.threads[t]? = some th → th.guarded = true →
      Step s (.exit t) { setThr s t { guarded := false, holds := [] } with objs := s.objs.map (dropWaiter t) }
  | alloc {t th} : s.threads[t]? = some th →
      Step s (.alloc t) { setThr s t { th with holds := s.objs.length :: th.holds } with
                            objs := s.objs ++ [.fresh], frees := s.frees ++ [0] }
  | publish {t o th} : s.threads[t]? = some th → s.objs[o]? = some .fresh → o ∈ th.holds →
      Step s (.publish t o) (setObj s o .linked)
  | acquire {t o th} : s.threads[t]? = some th → s.objs[o]? = some .linked → th.guarded = true →
      Step s (.acquire t o) (setThr s t { th with holds := o :: th.holds })
  | touch {t o th st} : s.threads[t]? = some th → s.objs[o]? = some st → o ∈ th.holds →
      Step s (.touch t o) { s with badTouches := if st = .freed then s.badTouches + 1 else s.badTouches }
  | unlink {t o th} : s.threads[t]? = some th → s.objs[o]? = some .linked → o ∈ th.holds → th.guarded = true →
      Step s (.unlink t o) (setObj s o .unlinked)
  | retire {t o th} : s.threads[t]? = some th → s.objs[o]? = some .unlinked → th.guarded = true →
      Step s (.retire t o) (setObj s o (.retired (activeThreads s.threads)))
  | unprotectedRetire {t o th} : s.threads[t]? = some th → s.objs[o]? = some .unlinked →
      Step s (.unprotectedRetire t o) { setObj s o .freed with frees := s.frees.set o (s.frees.getD o 0 + 1) }
  | free {o} : s.objs[o]? = some (.retired []) →
      Step s (.free o) { setObj s o .freed with frees := s.frees.set o (s.frees.getD o 0 + 1) }

theorem Step.of_step {s s' : State} {e : Ev} (h : step s e = some s') : Step s e s' := by
  cases e with
  | enter t =>
    unfold step at h; simp only at h
    split at h
    · split at h
      · cases h
      · cases h; exact .enter ‹_› (Bool.eq_false_iff.2 ‹_›)
    · cases h
  | exit t =>
    unfold step at h; simp only at h
    split at h
    · obtain ⟨hg, rfl⟩ := ite_some_inv h; exact .exit ‹_› hg
    · cases h
  | alloc t =>
    unfold step at h; simp only at h
    split at h
    · cases h; exact .alloc ‹_›
    · cases h
  | publish t o =>
    unfold step at h; simp only [List.contains_iff_mem] at h
    split at h
    · obtain ⟨hm, rfl⟩ := ite_some_inv h; exact .publish ‹_› ‹_› hm
    · cases h
  | acquire t o =>
    unfold step at h; simp only at h
    split at h
    · obtain ⟨hg, rfl⟩ := ite_some_inv h; exact .acquire ‹_› ‹_› hg
    · cases h
  | touch t o =>
    unfold step at h; simp only [List.contains_iff_mem] at h
    split at h
    · obtain ⟨hm, rfl⟩ := ite_some_inv h
      rename_i th st _ _
      have e : (if st = .freed then { s with badTouches := s.badTouches + 1 } else s) =
          { s with badTouches := if st = .freed then s.badTouches + 1 else s.badTouches } := by split <;> rfl
      rw [e]; exact .touch ‹_› ‹_› hm
    · cases h
  | unlink t o =>
    unfold step at h; simp only [Bool.and_eq_true, List.contains_iff_mem] at h
    split at h
    · obtain ⟨hm, rfl⟩ := ite_some_inv h; exact .unlink ‹_› ‹_› hm.1 hm.2
    · cases h
  | retire t o =>
    unfold step at h; simp only at h
    split at h
    · obtain ⟨hg, rfl⟩ := ite_some_inv h; exact .retire ‹_› ‹_› hg
    · cases h
  | unprotectedRetire t o =>
    unfold step at h; simp only at h
    split at h
    · cases h; exact .unprotectedRetire ‹_› ‹_›
    · cases h
  | free o =>
    unfold step at h; simp only at h
    split at h
    · cases h; exact .free ‹_›
    · cases h

/-- `ObjStep s o e a b`: event `e`, enabled in `s`, takes object `o` from `a = s.objs[o]?` to `b`. `exit` is the
only event that looks at every object; each of the others leaves all objects but one as they are. -/
inductive ObjStep (s : State) (o : Nat) : Ev → Option OSt → Option OSt → Prop
  | same {e a} : (∀ t, e ≠ .exit t) → ObjStep s o e a a
  | exit (t) {a b} : b = a.map (dropWaiter t) → ObjStep s o (.exit t) a b
  | alloc (t) : ObjStep s o (.alloc t) none (some .fresh)
  | publish (t) : o ∈ holdsOf s t → ObjStep s o (.publish t o) (some .fresh) (some .linked)
  | unlink (t) : ObjStep s o (.unlink t o) (some .linked) (some .unlinked)
  | retire (t) : ObjStep s o (.retire t o) (some .unlinked) (some (.retired (activeThreads s.threads)))
  | unprotectedRetire (t) : ObjStep s o (.unprotectedRetire t o) (some .unlinked) (some .freed)
  | free : ObjStep s o (.free o) (some (.retired [])) (some .freed)

theorem ObjStep.of_set {s : State} {o o' : Nat} {e : Ev} {a b : OSt} {objs' : List OSt}
    (ho : s.objs[o']? = some a) (hO : objs' = s.objs.set o' b) (hne : ∀ t, e ≠ .exit t)
    (hm : o = o' → ObjStep s o e (some a) (some b)) : ObjStep s o e s.objs[o]? objs'[o]? := by
  rw [hO, getElem?_set_of_some ho]
  by_cases hoo : o = o'
  · rw [if_pos hoo]; have := hm hoo; subst hoo; rwa [ho]
  · rw [if_neg hoo]; exact .same hne

theorem step_obj {s s' : State} {e : Ev} (h : step s e = some s') (o : Nat) :
    ObjStep s o e s.objs[o]? s'.objs[o]? := by
  cases Step.of_step h with
  | enter | acquire | touch => exact .same nofun
  | exit => exact .exit _ List.getElem?_map
  | alloc =>
    show ObjStep s o _ _ (s.objs ++ [.fresh])[o]?
    rw [getElem?_concat]
    by_cases ho : o = s.objs.length
    · rw [if_pos ho, ho, List.getElem?_eq_none (Nat.le_refl _)]; exact .alloc _
    · rw [if_neg ho]; exact .same nofun
  | publish ht ho hm =>
    exact .of_set ho rfl nofun (fun e => by subst e; exact .publish _ (mem_holdsOf ht hm))
  | unlink _ ho => exact .of_set ho rfl nofun (fun e => e ▸ .unlink _)
  | retire _ ho => exact .of_set ho rfl nofun (fun e => e ▸ .retire _)
  | unprotectedRetire _ ho => exact .of_set ho rfl nofun (fun e => e ▸ .unprotectedRetire _)
  | free ho => exact .of_set ho rfl nofun (fun e => e ▸ .free)

/-- `ThrStep s t e g hs g' hs'`: event `e`, enabled in `s`, takes the guard flag and the pointers of thread `t`
from `g`, `hs` to `g'`, `hs'` -/
inductive ThrStep (s : State) (t : Nat) : Ev → Bool → List Nat → Bool → List Nat → Prop
  | same {e g hs} : e ≠ .exit t → ThrStep s t e g hs g hs
  | enter (hs) : ThrStep s t (.enter t) false hs true hs
  | exit (hs) : ThrStep s t (.exit t) true hs false []
  | alloc (g hs) : ThrStep s t (.alloc t) g hs g (s.objs.length :: hs)
  | acquire (o hs) : s.objs[o]? = some .linked → ThrStep s t (.acquire t o) true hs true (o :: hs)

theorem ThrStep.of_set {s s' : State} {t t' : Nat} {e : Ev} {th th' : Thread}
    (ht : s.threads[t']? = some th) (hT : s'.threads = s.threads.set t' th') (hne : t ≠ t' → e ≠ .exit t)
    (hm : t = t' → ThrStep s t e th.guarded th.holds th'.guarded th'.holds) :
    ThrStep s t e (guardedB s t) (holdsOf s t) (guardedB s' t) (holdsOf s' t) := by
  rw [guardedB_set hT ht, holdsOf_set hT ht]
  by_cases htt : t = t'
  · rw [if_pos htt, if_pos htt]; have := hm htt; subst htt; rwa [guardedB_of_some ht, holdsOf_of_some ht]
  · rw [if_neg htt, if_neg htt]; exact .same (hne htt)

theorem step_thr {s s' : State} {e : Ev} (h : step s e = some s') (t : Nat) :
    ThrStep s t e (guardedB s t) (holdsOf s t) (guardedB s' t) (holdsOf s' t) := by
  cases Step.of_step h with
  | enter ht hg => exact .of_set ht rfl nofun (fun e => by rw [e, hg]; exact .enter _)
  | exit ht hg =>
    exact .of_set ht rfl (fun hne e => hne (Ev.exit.inj e).symm) (fun e => by rw [e, hg]; exact .exit _)
  | alloc ht => exact .of_set ht rfl nofun (fun e => e ▸ .alloc _ _)
  | acquire ht ho hg => exact .of_set ht rfl nofun (fun e => by rw [e, hg]; exact .acquire _ _ ho)
  | publish | touch | unlink | retire | unprotectedRetire | free => exact .same nofun

theorem mem_holdsOf_step {s s' : State} {e : Ev} (h : step s e = some s') {t o : Nat} (hm : o ∈ holdsOf s' t) :
    (o ∈ holdsOf s t ∧ e ≠ .exit t ∧ (guardedB s t = true → guardedB s' t = true)) ∨
      (e = .alloc t ∧ o = s.objs.length ∧ guardedB s' t = guardedB s t) ∨
      (e = .acquire t o ∧ s.objs[o]? = some .linked ∧ guardedB s' t = true) := by
  have hs := step_thr h t
  generalize guardedB s t = g, holdsOf s t = hs0, guardedB s' t = g', holdsOf s' t = hs' at hs hm
  cases hs with
  | same hne => exact .inl ⟨hm, hne, id⟩
  | enter => exact .inl ⟨hm, nofun, fun _ => rfl⟩
  | exit => cases hm
  | alloc =>
    rcases List.mem_cons.1 hm with rfl | hm
    · exact .inr (.inl ⟨rfl, rfl, rfl⟩)
    · exact .inl ⟨hm, nofun, id⟩
  | acquire _ _ hl =>
    rcases List.mem_cons.1 hm with rfl | hm
    · exact .inr (.inr ⟨rfl, hl, rfl⟩)
    · exact .inl ⟨hm, nofun, id⟩

end Flurry.Proto.Reclaim
