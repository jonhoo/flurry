import Flurry.Lemmas.BinKEmbedMain
import Flurry.Lemmas.LinSearch
/-! # Proto/BinK: the invariant of every reachable state; the re-check (C01, a bin that changes its kind)

`reachable_inv`: the structural invariant `Inv` holds in every reachable state. It is not proved transition by
transition here: `Proto/BinK` is `Proto/BinGN` restricted to one cell that is never resized, and `Inv s` is read off
BinGNP's invariant on the image of `s` (`Lemmas/BinKEmbedMain.lean`, where the linearizability of BinK's histories is
read off BinGNP's ghost invariant in the same way). `GInv.linearizable`: from the ghost invariant of
`Lemmas/BinKGhost.lean` to `Lin.Linearizable`; nothing establishes that invariant, and nothing uses the lemma.
`runNC`, `ncSchedule`, `ncCheck_true`: without the re-check of the cell a completed insert is lost
(`Props/C01BinK.lean`, `noCheck_refutes`); `nc_history` shows the history and the final abstract state of that run, and
nothing uses it. -/
namespace Flurry.Proto.BinK
open Flurry.Lin

theorem reachable_inv {n : Nat} {s : State} (hr : Reachable n s) : Inv s :=
  let ⟨j, X⟩ := BinKE.reachable_bundle hr
  BinKE.inv_of_emb j.inv X.dead X.built

theorem GInv.linearizable {k : Nat} {s : State} {A : Nat → KSt} {pt : Nat → Nat}
    (g : GInv k s A pt) (I : Inv s) : Linearizable (callsOnExt s k) none (absOf s k) :=
  callsOnExt_eq s k ▸ g.trace.lin I.thr.gen

/-! ## the re-check of the cell is load-bearing -/

abbrev Sch := Nat × Option (Nat × KOp) × Bool × Bool × Bool

/-- run a schedule of `(thread, invocation, listOnly, maint, small)` WITHOUT the re-check of the cell -/
def runNC (s : State) : List Sch → Option State
  | [] => some s
  | (t, inv, lo, mt, sm) :: rest =>
    match stepNoCheck s t inv lo mt sm with
    | some s' => runNC s' rest
    | none => none

theorem runNC_reachable {n : Nat} : ∀ (sched : List Sch) {s s' : State},
    ReachableNoCheck n s → runNC s sched = some s' → ReachableNoCheck n s'
  | [], s, s', hr, h => by
    simp only [runNC, Option.some.injEq] at h
    exact h ▸ hr
  | (t, inv, lo, mt, sm) :: rest, s, s', hr, h => by
    simp only [runNC] at h
    cases hs : stepNoCheck s t inv lo mt sm with
    | none => rw [hs] at h; cases h
    | some s1 =>
      rw [hs] at h
      exact runNC_reachable rest (ReachableNoCheck.step t inv lo mt sm hr hs) h

abbrev go (t : Nat) : Sch := (t, none, false, false, false)

/-- thread 0 inserts key 1 (CAS into the empty cell), invokes a second `ins 1` and loads the cell
(`list 0`); thread 1 treeifies the bin (lock node 0, copy, store `tree 0`, unlock); thread 0 then
locks node 0 — the head of the **dead** list —, trusts the lock, finds key 1 and overwrites the value
of the dead node: the update is lost -/
def ncSchedule : List Sch :=
  [ (0, some (1, .ins 10 100), false, false, false), go 0, go 0,
    (0, some (1, .ins 20 101), false, false, false), go 0,
    (1, none, false, true, false), go 1, go 1, go 1, go 1, go 1, go 1,
    go 0, go 0, go 0, go 0, go 0 ]

def ncCheck : Bool :=
  (runNC (init 2) ncSchedule).any fun s =>
    s.threads.all (fun l => l.pc == .idle) && (search (callsOn s 1) none (absOf s 1)).isNone

theorem ncCheck_true : ncCheck = true := by decide

theorem nc_history : (runNC (init 2) ncSchedule).map (fun s => (callsOn s 1, absOf s 1)) =
    some ([ ⟨0, .ins 10 100, .none, 1, 3⟩, ⟨0, .ins 20 101, .some 10 100, 4, 17⟩ ], some (10, 100)) := by decide

end Flurry.Proto.BinK
