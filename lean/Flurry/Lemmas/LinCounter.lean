import Flurry.Lemmas.Lin
/-! # A counter that starts absent: one `ins`, then concurrent increments (C08)

`spec_cipInc_counts` (`LinPoints.lean`) counts increments on a key that is present from the start.
The concurrent models (`Proto/BinG`, `Proto/TableK`, `Proto/TableG`) start from the EMPTY map, so the
counter has to be created by a call of the history itself. This file treats that shape for an
arbitrary linearizable history:

* `CounterShape h v vi`: call `i` of `h` is `ins v vi`, every other call is a
  `compute_if_present(|x| x + 1)` that reported a value (it found the key);
* `replay_cipInc_on`: along a replay from a present key, if every index of the order is an increment
  the payload grows by the length of the order;
* `replay_none_head`: from the absent key, a non-empty order replays only if it starts with the `ins`
  (an increment on an absent key answers `.none`, which contradicts its recorded result);
* **`counter_from_insert`**: every linearizable history of that shape ends with payload
  `v + (h.length - 1)` — whatever the interleaving, no increment is lost, none is applied twice
  (`counter_of_shape`: the same with the hypothesis written `CounterShape`, the form `Props/C08Table.lean` uses);
* `increments_counted`: without any assumption on results, the payload is `v + m` for some `m ≤ h.length - 1`: the
  number of calls a witness order puts after the insert (the increments before it found nothing). -/
namespace Flurry.Lin

def CounterShape (h : History) (v vi : Nat) : Prop :=
  ∃ i, i < h.length ∧ (h[i]?.map (·.op)) = some (.ins v vi) ∧
    ∀ j, j < h.length → j ≠ i → ∃ c nvi, h[j]? = some c ∧ c.op = .cipInc nvi ∧ c.res ≠ .none

theorem replay_cipInc_on {h : History} :
    ∀ (order : List Nat) (v vi : Nat) (fin : KSt),
      (∀ j ∈ order, ∃ c n, h[j]? = some c ∧ c.op = .cipInc n) →
      replay h order (some (v, vi)) = some fin → ∃ vi', fin = some (v + order.length, vi')
  | [], v, vi, fin, _, hr => by
    simp only [replay, Option.some.injEq] at hr
    exact ⟨vi, by simp [← hr]⟩
  | i :: rest, v, vi, fin, hall, hr => by
    obtain ⟨c, hc, _, hr'⟩ := replay_cons_eq_some hr
    obtain ⟨c', n, hc', hn⟩ := hall i (List.mem_cons_self ..)
    rw [hc] at hc'; cases hc'
    rw [hn] at hr'
    obtain ⟨vi', hfin⟩ := replay_cipInc_on rest (v + 1) n fin
      (fun j hj => hall j (List.mem_cons_of_mem _ hj)) hr'
    exact ⟨vi', by rw [hfin, List.length_cons]; congr 2; omega⟩

theorem replay_cipInc_absent {h : History} :
    ∀ (order : List Nat) (fin : KSt),
      (∀ j ∈ order, ∃ c n, h[j]? = some c ∧ c.op = .cipInc n) →
      replay h order none = some fin → fin = none
  | [], fin, _, hr => by
    simp only [replay, Option.some.injEq] at hr
    exact hr.symm
  | i :: rest, fin, hall, hr => by
    obtain ⟨c, hc, _, hr'⟩ := replay_cons_eq_some hr
    obtain ⟨c', n, hc', hn⟩ := hall i (List.mem_cons_self ..)
    rw [hc] at hc'; cases hc'
    rw [hn] at hr'
    exact replay_cipInc_absent rest fin (fun j hj => hall j (List.mem_cons_of_mem _ hj)) hr'

theorem replay_none_head {h : History} {j : Nat} {rest : List Nat} {fin : KSt} {c : Call} {nvi : Nat}
    (hc : h[j]? = some c) (hop : c.op = .cipInc nvi) (hres : c.res ≠ .none) :
    replay h (j :: rest) none ≠ some fin := by
  intro hr
  obtain ⟨c', hc', hres', _⟩ := replay_cons_eq_some hr
  rw [hc] at hc'; cases hc'
  rw [hop] at hres'
  exact hres hres'.symm

/-- **no lost update, from the empty map**: a linearizable history that consists of one `ins v vi` and
otherwise only `compute_if_present(|x| x + 1)` calls that all reported a value ends — whatever the
interleaving was — with payload `v +` the number of increments -/
theorem counter_from_insert {h : History} {fin : KSt} {v vi : Nat}
    (hl : Linearizable h none fin)
    (hshape : ∃ i, i < h.length ∧ (h[i]?.map (·.op)) = some (.ins v vi) ∧
      ∀ j, j < h.length → j ≠ i → ∃ c nvi, h[j]? = some c ∧ c.op = .cipInc nvi ∧ c.res ≠ .none) :
    ∃ vi', fin = some (v + (h.length - 1), vi') := by
  obtain ⟨order, hperm, _, hrep⟩ := hl
  obtain ⟨i, hi, hins, hinc⟩ := hshape
  have hlen : order.length = h.length := by simpa using hperm.length_eq
  have hnd : order.Nodup := hperm.nodup_iff.2 List.nodup_range
  have hlt : ∀ j ∈ order, j < h.length := fun j hj => List.mem_range.1 (hperm.subset hj)
  cases order with
  | nil => simp at hlen; omega
  | cons j rest =>
    have hj : j = i := by
      apply Classical.byContradiction
      intro hne
      obtain ⟨c, nvi, hc, hop, hres⟩ := hinc j (hlt j (List.mem_cons_self ..)) hne
      exact replay_none_head hc hop hres hrep
    subst hj
    obtain ⟨c, hc, _, hr'⟩ := replay_cons_eq_some hrep
    have hop : c.op = .ins v vi := by simpa [hc] using hins
    rw [hop] at hr'
    have hnot : j ∉ rest := (List.nodup_cons.1 hnd).1
    obtain ⟨vi', hfin⟩ := replay_cipInc_on rest v vi fin (by
      intro q hq
      have hne : q ≠ j := fun he => hnot (he ▸ hq)
      obtain ⟨c, nvi, hc, hop, _⟩ := hinc q (hlt q (List.mem_cons_of_mem _ hq)) hne
      exact ⟨c, nvi, hc, hop⟩) hr'
    refine ⟨vi', ?_⟩
    rw [hfin]
    simp only [List.length_cons] at hlen
    congr 2; omega

theorem counter_of_shape {h : History} {fin : KSt} {v vi : Nat}
    (hl : Linearizable h none fin) (hshape : CounterShape h v vi) :
    ∃ vi', fin = some (v + (h.length - 1), vi') := counter_from_insert hl hshape

/-- nothing assumed about results: one `ins v vi`, otherwise increments. Some witness order splits at
the insert; the increments linearized before it found nothing, every one linearized after it counted:
the payload is `v + m`, `m` the number of calls after the insert (the statement keeps `m ≤ h.length - 1` of it). -/
theorem increments_counted {h : History} {fin : KSt} {v vi : Nat}
    (hl : Linearizable h none fin)
    (hshape : ∃ i, i < h.length ∧ (h[i]?.map (·.op)) = some (.ins v vi) ∧
      ∀ j, j < h.length → j ≠ i → ∃ c nvi, h[j]? = some c ∧ c.op = .cipInc nvi) :
    ∃ m vi', m ≤ h.length - 1 ∧ fin = some (v + m, vi') := by
  obtain ⟨order, hperm, _, hrep⟩ := hl
  obtain ⟨i, hi, hins, hinc⟩ := hshape
  have hlen : order.length = h.length := by simpa using hperm.length_eq
  have hnd : order.Nodup := hperm.nodup_iff.2 List.nodup_range
  have hlt : ∀ j ∈ order, j < h.length := fun j hj => List.mem_range.1 (hperm.subset hj)
  have hmem : i ∈ order := hperm.symm.subset (List.mem_range.2 hi)
  obtain ⟨pre, post, hsplit⟩ := List.append_of_mem hmem
  subst hsplit
  have hnd' := hnd
  rw [List.nodup_append] at hnd'
  obtain ⟨_, hndp, hdisj⟩ := hnd'
  have hpre : ∀ q ∈ pre, ∃ c n, h[q]? = some c ∧ c.op = .cipInc n := by
    intro q hq
    have hne : q ≠ i := fun he => hdisj q hq i (List.mem_cons_self ..) he
    exact hinc q (hlt q (List.mem_append_left _ hq)) hne
  have hpost : ∀ q ∈ post, ∃ c n, h[q]? = some c ∧ c.op = .cipInc n := by
    intro q hq
    have hne : q ≠ i := fun he => (List.nodup_cons.1 hndp).1 (he ▸ hq)
    exact hinc q (hlt q (List.mem_append_right _ (List.mem_cons_of_mem _ hq))) hne
  rw [replay_append] at hrep
  cases hmid : replay h pre none with
  | none => simp [hmid] at hrep
  | some mid =>
    have hmid' := replay_cipInc_absent pre mid hpre hmid
    subst hmid'
    rw [hmid] at hrep
    simp only [Option.bind_some] at hrep
    obtain ⟨c, hc, _, hr'⟩ := replay_cons_eq_some hrep
    have hop : c.op = .ins v vi := by simpa [hc] using hins
    rw [hop] at hr'
    obtain ⟨vi', hfin⟩ := replay_cipInc_on post v vi fin hpost hr'
    refine ⟨post.length, vi', ?_, hfin⟩
    simp only [List.length_append, List.length_cons] at hlen
    omega

def counterShapeB (h : History) (v vi i : Nat) : Bool :=
  decide (i < h.length) && (h[i]?.map (·.op)) == some (.ins v vi) &&
    (List.range h.length).all fun j => j == i ||
      match h[j]? with
      | some c => (match c.op with | .cipInc _ => true | _ => false) && c.res != .none
      | none => false

theorem counterShape_of_check {h : History} {v vi i : Nat} (hc : counterShapeB h v vi i = true) :
    CounterShape h v vi := by
  simp only [counterShapeB, Bool.and_eq_true, decide_eq_true_eq, beq_iff_eq, List.all_eq_true,
    List.mem_range, Bool.or_eq_true] at hc
  obtain ⟨⟨hi, hins⟩, hall⟩ := hc
  refine ⟨i, hi, hins, ?_⟩
  intro j hj hne
  rcases hall j hj with he | hb
  · exact absurd he hne
  · cases hcj : h[j]? with
    | none => simp [hcj] at hb
    | some c =>
      simp only [hcj, Bool.and_eq_true, bne_iff_ne, ne_eq] at hb
      cases hop : c.op with
      | cipInc nvi => exact ⟨c, nvi, rfl, hop, hb.2⟩
      | _ => simp [hop] at hb

end Flurry.Lin
