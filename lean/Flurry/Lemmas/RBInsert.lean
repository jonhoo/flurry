import Flurry.Lemmas.RBBasic
/-! # Insertion into tree bins preserves the red-black invariant

`balIns` keeps the in-order listing, and repairs a red focus plugged into a path that satisfies
`Del.CI`; `descend` finds the sorted position; hence `insertNew` / `putNew` / `ofList` keep
`TreeInv` and add exactly the new entry. -/
namespace Flurry.RB.Ins
open T Ctx Del

-- `Del.lt_irrefl` / `Del.lt_asymm` of `RBDelete` (which this file does not import) once more; nothing below uses them
theorem lt_irrefl' (a : Node) : ¬ lt a a := by unfold lt; omega

theorem lt_asymm' {a b : Node} (h1 : lt a b) : ¬ lt b a := by unfold lt at *; omega

@[simp] theorem isRed_nil : isRed nil = false := rfl

theorem toList_balIns (x : T) (c : Ctx) : toList (balIns x c) = toList (zip x c) := by
  fun_induction balIns x c <;> simp [*, toList_zip, ctxL, ctxR, toList]

/-- `balance_insertion` repairs the one violation a red focus can cause: a red parent -/
theorem balIns_good {x : T} {c : Ctx} {n : Nat} (hx : isRed x = true) (hb : BH x n)
    (hr : NoRedRed x) (hc : CI c n) : Good (balIns x c) := by
  -- the cases are numbered in the order of the branches of `balIns`: 1 root; `x` a left child:
  -- 2 black parent, 3 no grandparent, 4 / 5 parent a left child with red / black uncle, 6 / 7 / 8
  -- parent a right child with red uncle / black uncle and `x` a node / `nil`; `x` a right child:
  -- 9, 10 likewise, 11 / 12 / 13 parent a left child, 14 / 15 parent a right child
  fun_induction balIns x c generalizing n
  case case1 => exact ⟨isRed_blacken _, NoRedRed_blacken hr, _, BH_blacken_red hx hb⟩
  -- black parent: nothing to repair
  case case2 h | case9 h =>
    exact plug hc hb hr fun hh => by cases (show _ = true from hh); cases h
  -- red parent `p`: its other child is black (`b1 r1 c1`) and it is not the root
  all_goals
    obtain rfl := Bool.of_not_eq_false (Bool.not_eq_true' _ ▸ ‹¬(!_) = true›)
    clear ‹¬(!true) = true›
    obtain ⟨b1, r1, h3, hc⟩ := hc
    obtain ⟨c1, hg⟩ := h3 rfl
  case case3 | case10 => cases hg
  case case8 | case13 => cases hx
  -- the grandparent `g` is black; `b2 r2` speak of the uncle
  all_goals
    obtain ⟨b2, r2, -, hc⟩ := hc
    cases (show _ = false from hg)
    replace b2 : BH _ n := b2
    replace hc : CI _ (n + 1) := hc
  -- red uncle: `p` and the uncle turn black, `g` turns red and is the new focus
  case case4 hu ih =>
    exact ih rfl (BH_red.2 ⟨BH_black_succ.2 ⟨hb, b1⟩, BH_blacken_red hu b2⟩)
      ⟨fun _ => ⟨rfl, isRed_blacken _⟩, ⟨nofun, hr, r1⟩, NoRedRed_blacken r2⟩ hc
  case case6 hu ih =>
    exact ih rfl (BH_red.2 ⟨BH_blacken_red hu b2, BH_black_succ.2 ⟨hb, b1⟩⟩)
      ⟨fun _ => ⟨isRed_blacken _, rfl⟩, NoRedRed_blacken r2, ⟨nofun, hr, r1⟩⟩ hc
  case case11 hu ih =>
    exact ih rfl (BH_red.2 ⟨BH_black_succ.2 ⟨b1, hb⟩, BH_blacken_red hu b2⟩)
      ⟨fun _ => ⟨rfl, isRed_blacken _⟩, ⟨nofun, r1, hr⟩, NoRedRed_blacken r2⟩ hc
  case case14 hu ih =>
    exact ih rfl (BH_red.2 ⟨BH_blacken_red hu b2, BH_black_succ.2 ⟨b1, hb⟩⟩)
      ⟨fun _ => ⟨isRed_blacken _, rfl⟩, NoRedRed_blacken r2, ⟨nofun, r1, hr⟩⟩ hc
  -- black uncle: the rotations put a black node with two red children in the place of `g`
  case case5 hu =>
    exact plug hc (BH_black_succ.2 ⟨hb, BH_red.2 ⟨b1, b2⟩⟩)
      ⟨nofun, hr, fun _ => ⟨c1, Bool.eq_false_iff.2 hu⟩, r1, r2⟩ fun _ => rfl
  case case15 hu =>
    exact plug hc (BH_black_succ.2 ⟨BH_red.2 ⟨b2, b1⟩, hb⟩)
      ⟨nofun, ⟨fun _ => ⟨Bool.eq_false_iff.2 hu, c1⟩, r2, r1⟩, hr⟩ fun _ => rfl
  case case7 hu _ _ _ _ =>
    rw [isRed_node] at hx; subst hx
    exact plug hc (BH_black_succ.2 ⟨BH_red.2 ⟨b2, (BH_red.1 hb).1⟩, BH_red.2 ⟨(BH_red.1 hb).2, b1⟩⟩)
      ⟨nofun, ⟨fun _ => ⟨Bool.eq_false_iff.2 hu, (hr.1 rfl).1⟩, r2, hr.2.1⟩,
        fun _ => ⟨(hr.1 rfl).2, c1⟩, hr.2.2, r1⟩ fun _ => rfl
  case case12 hu _ _ _ _ =>
    rw [isRed_node] at hx; subst hx
    exact plug hc (BH_black_succ.2 ⟨BH_red.2 ⟨b1, (BH_red.1 hb).1⟩, BH_red.2 ⟨(BH_red.1 hb).2, b2⟩⟩)
      ⟨nofun, ⟨fun _ => ⟨c1, (hr.1 rfl).1⟩, r1, hr.2.1⟩,
        fun _ => ⟨(hr.1 rfl).2, Bool.eq_false_iff.2 hu⟩, hr.2.2, r2⟩ fun _ => rfl

theorem descend_isSome (e : Node) (t : T) (c : Ctx)
    (h : NoKey e.hash e.key (toList t)) : ∃ c', descend e t c = some c' := by
  induction t generalizing c with
  | nil => exact ⟨c, rfl⟩
  | node red l x r ihl ihr =>
    simp only [NoKey, toList, List.mem_append, List.mem_cons] at h
    unfold descend
    split
    · exact ihl _ (fun y hy => h y (Or.inl hy))
    · split
      · exact ihr _ (fun y hy => h y (Or.inr (Or.inr hy)))
      · rename_i h1 h2
        exact absurd (key_eq_of_stop h1 h2) (h x (Or.inr (Or.inl rfl)))

theorem descend_zip {e : Node} {t : T} {c c' : Ctx} (h : descend e t c = some c') :
    zip nil c' = zip t c := by
  induction t generalizing c with
  | nil => cases h; rfl
  | node red l x r ihl ihr =>
    unfold descend at h
    split at h
    · exact ihl h
    · split at h
      · exact ihr h
      · cases h

theorem descend_sorted (e : Node) (t : T) (c c' : Ctx) (h : descend e t c = some c')
    (hb : BST t) (hl : ∀ x ∈ ctxL c, lt x e) (hr : ∀ x ∈ ctxR c, lt e x) :
    (∀ x ∈ ctxL c', lt x e) ∧ (∀ x ∈ ctxR c', lt e x) := by
  induction t generalizing c with
  | nil => cases h; exact ⟨hl, hr⟩
  | node red l x r ihl ihr =>
    unfold descend at h
    obtain ⟨b1, b2, b3, b4⟩ := hb
    rw [all_iff] at b1 b2
    split at h
    next hlt =>
      have hlt : lt e x := ltHK_iff.1 hlt
      refine ihl _ h b3 hl fun y hy => ?_
      rcases List.mem_cons.1 hy with rfl | hy
      · exact hlt
      · exact (List.mem_append.1 hy).elim (fun hy => lt_trans hlt (b2 y hy)) (hr y)
    · split at h
      next hgt =>
        have hgt : lt x e := gtHK_iff.1 hgt
        refine ihr _ h b4 (fun y hy => ?_) hr
        rcases List.mem_append.1 hy with hy | hy
        · exact hl y hy
        · exact (List.mem_append.1 hy).elim (fun hy => lt_trans (b1 y hy) hgt)
            fun hy => List.mem_singleton.1 hy ▸ hgt
      · cases h

end Flurry.RB.Ins

namespace Flurry.RB
open T Ctx Del Ins

theorem insertNew_toList (t : T) (e : Node)
    (h : NoKey e.hash e.key (toList t)) :
    ∃ L R, toList t = L ++ R ∧ toList (insertNew t e) = L ++ e :: R ∧
      (BST t → (∀ x ∈ L, lt x e) ∧ (∀ x ∈ R, lt e x)) := by
  cases t with
  | nil => exact ⟨[], [], by simp [toList, insertNew]⟩
  | node red l x r =>
    obtain ⟨c, hc⟩ := descend_isSome e (node red l x r) top h
    have hl := congrArg toList (descend_zip hc)
    simp only [toList_zip, zip, toList, List.append_nil] at hl
    refine ⟨ctxL c, ctxR c, hl.symm, ?_, ?_⟩
    · simp [insertNew, hc, toList_balIns, toList_zip, toList]
    · intro hb
      exact descend_sorted _ _ _ _ hc hb (by simp [ctxL]) (by simp [ctxR])

theorem insertNew_toList_perm (t : T) (e : Node)
    (h : NoKey e.hash e.key (toList t)) :
    (toList (insertNew t e)).Perm (e :: toList t) := by
  obtain ⟨L, R, h1, h2, -⟩ := insertNew_toList t e h
  rw [h1, h2]
  exact List.perm_middle

theorem insertNew_bst (t : T) (e : Node) (hb : BST t)
    (h : NoKey e.hash e.key (toList t)) : BST (insertNew t e) := by
  obtain ⟨L, R, h1, h2, h3⟩ := insertNew_toList t e h
  obtain ⟨h4, h5⟩ := h3 hb
  rw [bst_iff_pairwise] at hb ⊢
  rw [h1, List.pairwise_append] at hb
  rw [h2, List.pairwise_append, List.pairwise_cons]
  refine ⟨hb.1, ⟨h5, hb.2.1⟩, ?_⟩
  intro a ha b hb'
  rcases List.mem_cons.1 hb' with rfl | hb'
  · exact h4 a ha
  · exact hb.2.2 a ha b hb'

theorem insertNew_inv (t : T) (e : Node) (hi : TreeInv t)
    (h : NoKey e.hash e.key (toList t)) : TreeInv (insertNew t e) := by
  refine ⟨insertNew_bst t e hi.1 h, ?_⟩
  cases t with
  | nil => exact ⟨rfl, ⟨nofun, trivial, trivial⟩, 1, BH.black BH.nil BH.nil⟩
  | node red l x r =>
    -- the tree is the path to the hole with nothing plugged in: its invariant is that of the path
    obtain ⟨c, hc⟩ := descend_isSome e (node red l x r) top h
    obtain ⟨n, hci, hn, -, -⟩ := unplug (c := c) (t := nil) (descend_zip hc ▸ hi.2)
    simp only [insertNew, hc]
    exact balIns_good rfl (BH_red.2 ⟨hn, hn⟩) ⟨fun _ => ⟨rfl, rfl⟩, trivial, trivial⟩ hci

/-- `find_or_put_tree_val` for an absent key -/
theorem putNew_inv (t : T) (e : Node) (hi : TreeInv t)
    (h : NoKey e.hash e.key (toList t)) : TreeInv (putNew t e) :=
  insertNew_inv t e hi h

theorem Ins.treeInv_nil : TreeInv nil := ⟨trivial, rfl, trivial, 0, BH.nil⟩

theorem Ins.foldl_insertNew (ns : List Node) (t : T) (hi : TreeInv t)
    (hd : ns.Pairwise (fun a b => ¬(a.hash = b.hash ∧ a.key = b.key)))
    (ht : ∀ x ∈ toList t, ∀ y ∈ ns, ¬(x.hash = y.hash ∧ x.key = y.key)) :
    TreeInv (ns.foldl insertNew t) ∧ (toList (ns.foldl insertNew t)).Perm (toList t ++ ns) := by
  induction ns generalizing t with
  | nil => simpa using hi
  | cons e ns ih =>
    rw [List.pairwise_cons] at hd
    have hne : NoKey e.hash e.key (toList t) :=
      fun x hx => ht x hx e (List.mem_cons_self)
    have hp := insertNew_toList_perm t e hne
    have := ih (insertNew t e) (insertNew_inv t e hi hne) hd.2 (by
      intro x hx y hy
      rcases List.mem_cons.1 (hp.subset hx) with rfl | hx
      · exact hd.1 y hy
      · exact ht x hx y (List.mem_cons_of_mem _ hy))
    refine ⟨this.1, this.2.trans ?_⟩
    exact (hp.append_right ns).trans (by simpa using List.perm_middle.symm)

theorem ofList_inv (ns : List Node)
    (hd : ns.Pairwise (fun a b => ¬(a.hash = b.hash ∧ a.key = b.key))) : TreeInv (ofList ns) :=
  (foldl_insertNew ns nil treeInv_nil hd (by simp [toList])).1

theorem ofList_perm (ns : List Node)
    (hd : ns.Pairwise (fun a b => ¬(a.hash = b.hash ∧ a.key = b.key))) :
    (toList (ofList ns)).Perm ns := by
  simpa [toList, ofList] using (foldl_insertNew ns nil treeInv_nil hd (by simp [toList])).2

theorem ofList_size (ns : List Node)
    (hd : ns.Pairwise (fun a b => ¬(a.hash = b.hash ∧ a.key = b.key))) :
    size (ofList ns) = ns.length := by
  rw [size_eq_length]; exact (ofList_perm ns hd).length_eq

end Flurry.RB
