import Flurry.Lemmas.BinKBasic
/-! # Proto/BinK: the transitions in normal form (C01, a bin that changes its kind)

`StepK s t l s'` lists the transitions of thread `t` of `step = stepG true` with explicit successor
states, grouped by what they do to the shared state:
* `idle` / `maint` / `invoke`: an idle thread does nothing, starts a treeify, or invokes a call;
* `move` / `kmove` / `fin`: heap cells other than lock words, the `first` fields, the bin cell and every
  `TreeBin` are untouched; the program counter moves and one lock word of a node may change (`Move`,
  `KMove` for the treeify thread, `Fin` for calls that complete);
* `bmove` / `bfin`: the same, but the synchronisation words (mutex, `writer`, `waiter`, `readers`) of one
  `TreeBin` change instead (`BMove`, `BFin` for calls that complete);
* the stores: `cas`, `store` (the single store of a list-bin writer), `tval`, `prepend`, `treeLink`,
  `unlink`, `untree`, `untreeify`, `kbuild`, `kstore`.
`step_stepK` dissects `step` once and for all. -/
namespace Flurry.Proto.BinK
open Flurry.Lin

def tick (s : State) : State := { s with now := s.now + 1 }

def qst (s : State) (hp : List NodeS) (tb : List TBin) : State :=
  { s with now := s.now + 1, heap := hp, tbins := tb }

theorem setT_frame (s : State) (t : Nat) (l : Local) :
    (setT s t l).heap = s.heap ∧ (setT s t l).tbins = s.tbins ∧ (setT s t l).cell = s.cell ∧
      (setT s t l).hist = s.hist ∧ (setT s t l).now = s.now := ⟨rfl, rfl, rfl, rfl, rfl⟩

def lockSet (heap : List NodeS) (h : Nat) (x : Option Nat) : List NodeS :=
  heap.modify h (fun m => { m with lock := x })

/-- the list unlink of node `i` of tree bin `b` -/
def unlinkOf (s : State) (b i : Nat) : State :=
  match predOf (chainOfBin s b) i with
  | some pr => setNode s pr (fun m => { m with next := (nodeAt s.heap i).next })
  | none => setBin s b (fun y => { y with first := (nodeAt s.heap i).next })

theorem unlinkOf_threads (s : State) (b i : Nat) : (unlinkOf s b i).threads = s.threads := by
  unfold unlinkOf; split <;> rfl

theorem unlinkOf_hist (s : State) (b i : Nat) : (unlinkOf s b i).hist = s.hist := by
  unfold unlinkOf; split <;> rfl

def isInsert : KOp → Bool
  | .ins _ _ | .tryIns _ _ => true
  | _ => false

/-- the tree's view of key `k` in bin `b` -/
def absTree (s : State) (b k : Nat) : KSt :=
  match treeFind s b k with
  | some i => some (nodeAt s.heap i).val
  | none => none

/-- transitions of a thread with a call in flight that leave the shared state alone but for one lock
word of a node, and do not complete the call: `Move s t p pc pc' heap'` -/
inductive Move (s : State) (t : Nat) (p : Pending) : Pc → Pc → List NodeS → Prop
  | rCellList {lo : Bool} {h : Nat} : s.cell = .list h →
      Move s t p (.rCell lo) (.rNode (some h)) s.heap
  | rCellTree {lo : Bool} {b : Nat} : s.cell = .tree b →
      Move s t p (.rCell lo) (if lo then .lFirst b else .rFirst b) s.heap
  | rNodeNext {c : Nat} {n : NodeS} : s.heap[c]? = some n → n.key ≠ p.key →
      Move s t p (.rNode (some c)) (.rNode n.next) s.heap
  | rFirst {b : Nat} : Move s t p (.rFirst b) (.rState b (binAt s.tbins b).first) s.heap
  | rLinMode {b c : Nat} : ((binAt s.tbins b).writer || (binAt s.tbins b).waiter) = true →
      Move s t p (.rState b (some c)) (.rLin b c) s.heap
  | rTreeMode {b c : Nat} : ((binAt s.tbins b).writer || (binAt s.tbins b).waiter) = false →
      Move s t p (.rState b (some c)) (.rCas b c (binAt s.tbins b).readers) s.heap
  | rLinNext {b c : Nat} {n : NodeS} : s.heap[c]? = some n → n.key ≠ p.key →
      Move s t p (.rLin b c) (.rState b n.next) s.heap
  | rLinHit {b c : Nat} {n : NodeS} : s.heap[c]? = some n → n.key = p.key → p.op ≠ .has →
      Move s t p (.rLin b c) (.rVal c) s.heap
  | rCasFail {b c r : Nat} : Move s t p (.rCas b c r) (.rState b (some c)) s.heap
  | rTree {b : Nat} : Move s t p (.rTree b) (.rRelease b (treeFind s b p.key)) s.heap
  | lFirst {b : Nat} : Move s t p (.lFirst b) (.lNode (binAt s.tbins b).first) s.heap
  | lNext {c : Nat} {n : NodeS} : s.heap[c]? = some n → n.key ≠ p.key →
      Move s t p (.lNode (some c)) (.lNode n.next) s.heap
  | lHit {c : Nat} {n : NodeS} : s.heap[c]? = some n → n.key = p.key → p.op ≠ .has →
      Move s t p (.lNode (some c)) (.rVal c) s.heap
  | wCellCas : s.cell = .empty → isInsert p.op = true → Move s t p .wCell .wCas s.heap
  | wCellList {h : Nat} : s.cell = .list h → Move s t p .wCell (.wLock h) s.heap
  | wCellTree {b : Nat} : s.cell = .tree b → Move s t p .wCell (.tMutex b) s.heap
  | wCasFail : (s.cell ≠ .empty ∨ isInsert p.op = false) → Move s t p .wCas .wCell s.heap
  | wLock {h : Nat} {n : NodeS} : s.heap[h]? = some n → n.lock = none →
      Move s t p (.wLock h) (.wCheck h) (lockSet s.heap h (some t))
  | wCheckOk {h : Nat} : s.cell = .list h → Move s t p (.wCheck h) (.wFind h none (some h)) s.heap
  | wCheckFail {h : Nat} : s.cell ≠ .list h → Move s t p (.wCheck h) (.wUnlock h .none true) s.heap
  | wFindEnd {h : Nat} {pred : Option Nat} :
      Move s t p (.wFind h pred none) (.wStore h pred none none) s.heap
  | wFindHit {h : Nat} {pred : Option Nat} {c : Nat} {n : NodeS} : s.heap[c]? = some n → n.key = p.key →
      Move s t p (.wFind h pred (some c)) (.wStore h pred (some c) n.next) s.heap
  | wFindNext {h : Nat} {pred : Option Nat} {c : Nat} {n : NodeS} : s.heap[c]? = some n → n.key ≠ p.key →
      Move s t p (.wFind h pred (some c)) (.wFind h (some c) n.next) s.heap
  | wUnlockRetry {h : Nat} {res : KRes} :
      Move s t p (.wUnlock h res true) .wCell (lockSet s.heap h none)
  | tCheckOk {b : Nat} : s.cell = .tree b → Move s t p (.tCheck b) (.tFind b) s.heap
  | tCheckFail {b : Nat} : s.cell ≠ .tree b → Move s t p (.tCheck b) (.tUnlockM b .none true) s.heap
  | findVal {b i : Nat} {v : Nat × Nat} {res : KRes} : treeFind s b p.key = some i →
      specStep (some (nodeAt s.heap i).val) p.op = (some v, res) →
      Move s t p (.tFind b) (.tVal b i v res) s.heap
  | findInsert {b : Nat} : treeFind s b p.key = none → isInsert p.op = true →
      Move s t p (.tFind b) (.lrTry b .insert .none) s.heap
  | findRemove {b i : Nat} {res : KRes} : treeFind s b p.key = some i →
      specStep (some (nodeAt s.heap i).val) p.op = (none, res) →
      Move s t p (.tFind b) (.lrTry b (.remove i) res) s.heap
  | findDone {b : Nat} {res : KRes} : specStep (absTree s b p.key) p.op = (absTree s b p.key, res) →
      Move s t p (.tFind b) (.tUnlockM b res false) s.heap
  | lrTryFail {b : Nat} {k : After} {res : KRes} :
      Move s t p (.lrTry b k res) (.lrLoop b k res) s.heap

/-- transitions of a thread with a call in flight that change the synchronisation words of one
`TreeBin` and do not complete the call: `BMove s t p pc pc' tbins'` -/
inductive BMove (s : State) (t : Nat) (p : Pending) : Pc → Pc → List TBin → Prop
  | rCasOk {b c r : Nat} : (binAt s.tbins b).writer = false → (binAt s.tbins b).waiter = false →
      (binAt s.tbins b).readers = r →
      BMove s t p (.rCas b c r) (.rTree b) (s.tbins.modify b (fun x => { x with readers := x.readers + 1 }))
  | rRelVal {b i : Nat} : p.op ≠ .has →
      BMove s t p (.rRelease b (some i)) (.rVal i) (s.tbins.modify b (fun x => { x with readers := x.readers - 1 }))
  | tMutex {b : Nat} : (binAt s.tbins b).mutex = none →
      BMove s t p (.tMutex b) (.tCheck b) (s.tbins.modify b (fun x => { x with mutex := some t }))
  | lrTryOk {b : Nat} {k : After} {res : KRes} : (binAt s.tbins b).writer = false →
      (binAt s.tbins b).waiter = false → (binAt s.tbins b).readers = 0 →
      BMove s t p (.lrTry b k res) (afterLock b k res) (s.tbins.modify b (fun x => { x with writer := true }))
  | lrLoopOk {b : Nat} {k : After} {res : KRes} : (binAt s.tbins b).writer = false →
      (binAt s.tbins b).readers = 0 →
      BMove s t p (.lrLoop b k res) (afterLock b k res) (s.tbins.modify b (fun x => { x with writer := true, waiter := false }))
  | lrLoopWait {b : Nat} {k : After} {res : KRes} : (binAt s.tbins b).waiter = false →
      BMove s t p (.lrLoop b k res) (.lrLoop b k res) (s.tbins.modify b (fun x => { x with waiter := true }))
  | unlockRoot {b : Nat} {res : KRes} :
      BMove s t p (.tUnlockRoot b res) (.tUnlockM b res false) (s.tbins.modify b (fun x => { x with writer := false, waiter := false }))
  | tUnlockMRetry {b : Nat} {res : KRes} :
      BMove s t p (.tUnlockM b res true) .wCell (s.tbins.modify b (fun x => { x with mutex := none }))

/-- calls that complete without a store: `Fin s p pc res heap'` -/
inductive Fin (s : State) (p : Pending) : Pc → KRes → List NodeS → Prop
  | rCellEmpty {lo : Bool} : s.cell = .empty → Fin s p (.rCell lo) (absentRes p.op) s.heap
  | rNodeMiss : Fin s p (.rNode none) (absentRes p.op) s.heap
  | rNodeHit {c : Nat} {n : NodeS} : s.heap[c]? = some n → n.key = p.key →
      Fin s p (.rNode (some c)) (match p.op with | .has => .bool true | _ => .some n.val.1 n.val.2) s.heap
  | rMiss {b : Nat} : Fin s p (.rState b none) (absentRes p.op) s.heap
  | rLinHas {b c : Nat} {n : NodeS} : s.heap[c]? = some n → n.key = p.key → p.op = .has →
      Fin s p (.rLin b c) (.bool true) s.heap
  | rVal {i : Nat} {n : NodeS} : s.heap[i]? = some n → Fin s p (.rVal i) (.some n.val.1 n.val.2) s.heap
  | lMiss : Fin s p (.lNode none) (absentRes p.op) s.heap
  | lHas {c : Nat} {n : NodeS} : s.heap[c]? = some n → n.key = p.key → p.op = .has →
      Fin s p (.lNode (some c)) (.bool true) s.heap
  | wCellEmpty : s.cell = .empty → isInsert p.op = false → Fin s p .wCell .none s.heap
  | wUnlockFin {h : Nat} {res : KRes} : Fin s p (.wUnlock h res false) res (lockSet s.heap h none)

/-- calls that complete with a change of the synchronisation words of one `TreeBin`:
`BFin s p pc res tbins'` -/
inductive BFin (s : State) (p : Pending) : Pc → KRes → List TBin → Prop
  | rRelNone {b : Nat} : BFin s p (.rRelease b none) (absentRes p.op)
      (s.tbins.modify b (fun x => { x with readers := x.readers - 1 }))
  | rRelHas {b i : Nat} : p.op = .has → BFin s p (.rRelease b (some i)) (.bool true)
      (s.tbins.modify b (fun x => { x with readers := x.readers - 1 }))
  | tUnlockMFin {b : Nat} {res : KRes} : BFin s p (.tUnlockM b res false) res
      (s.tbins.modify b (fun x => { x with mutex := none }))

/-- transitions of the treeify thread other than the copy and the store into the cell:
`KMove s t pc pc' heap'` -/
inductive KMove (s : State) (t : Nat) : Pc → Pc → List NodeS → Prop
  | kCellList {h : Nat} : s.cell = .list h → KMove s t .kCell (.kLock h) s.heap
  | kCellOther : (∀ h, s.cell ≠ .list h) → KMove s t .kCell .idle s.heap
  | kLock {h : Nat} {n : NodeS} : s.heap[h]? = some n → n.lock = none →
      KMove s t (.kLock h) (.kCheck h) (lockSet s.heap h (some t))
  | kCheckOk {h : Nat} : s.cell = .list h → KMove s t (.kCheck h) (.kBuild h) s.heap
  | kCheckFail {h : Nat} : s.cell ≠ .list h → KMove s t (.kCheck h) (.kUnlock h) s.heap
  | kUnlock {h : Nat} : KMove s t (.kUnlock h) .idle (lockSet s.heap h none)

/-- the state after the copy made by `kBuild` -/
def buildOf (s : State) (h : Nat) : State :=
  { s with
    heap := (copyChain s.heap (chainFrom s.heap s.heap.length (some h))
      (fun src nx => ⟨src.key, src.val, nx, none, true, some s.tbins.length⟩)).1,
    tbins := s.tbins ++ [{ first := (copyChain s.heap (chainFrom s.heap s.heap.length (some h))
      (fun src nx => ⟨src.key, src.val, nx, none, true, some s.tbins.length⟩)).2 }] }

/-- the state after the copy and store of `tUntreeify` -/
def untreeifyOf (s : State) (b : Nat) : State :=
  { s with
    heap := (copyChain s.heap (chainOfBin s b) (fun src nx => ⟨src.key, src.val, nx, none, false, none⟩)).1,
    cell := match (copyChain s.heap (chainOfBin s b) (fun src nx => ⟨src.key, src.val, nx, none, false, none⟩)).2 with
      | some h => .list h
      | none => .empty }

inductive StepK (s : State) (t : Nat) (l : Local) : State → Prop
  | idle : l.pc = .idle → StepK s t l (setT (tick s) t l)
  | maint : l.pc = .idle → StepK s t l (setT (tick s) t { l with pc := .kCell })
  | invoke (k : Nat) (op : KOp) (lo : Bool) : l.pc = .idle →
      StepK s t l (setT (tick s) t
        { pc := if isReader op then .rCell lo else .wCell, call := some ⟨k, op, s.now + 1⟩ })
  | move (p : Pending) (pc' : Pc) (hp : List NodeS) : l.call = some p →
      Move s t p l.pc pc' hp → StepK s t l (setT (qst s hp s.tbins) t { l with pc := pc' })
  | bmove (p : Pending) (pc' : Pc) (tb : List TBin) : l.call = some p →
      BMove s t p l.pc pc' tb → StepK s t l (setT (qst s s.heap tb) t { l with pc := pc' })
  | kmove (pc' : Pc) (hp : List NodeS) : l.call = none →
      KMove s t l.pc pc' hp → StepK s t l (setT (qst s hp s.tbins) t { l with pc := pc' })
  | fin (p : Pending) (res : KRes) (hp : List NodeS) : l.call = some p →
      Fin s p l.pc res hp → StepK s t l (finish (qst s hp s.tbins) t p res)
  | bfin (p : Pending) (res : KRes) (tb : List TBin) : l.call = some p →
      BFin s p l.pc res tb → StepK s t l (finish (qst s s.heap tb) t p res)
  | cas (p : Pending) (v vi : Nat) : l.call = some p → l.pc = .wCas → s.cell = .empty →
      (p.op = .ins v vi ∨ p.op = .tryIns v vi) →
      StepK s t l (finish { heap := s.heap ++ [⟨p.key, (v, vi), none, none, false, none⟩], tbins := s.tbins,
                            cell := .list s.heap.length, threads := s.threads, hist := s.hist,
                            now := s.now + 1 } t p .none)
  | store (p : Pending) (h : Nat) (pred hit hnext : Option Nat) : l.call = some p →
      l.pc = .wStore h pred hit hnext →
      StepK s t l (setT (storeAt (tick s) p pred hit hnext).1 t
        { l with pc := .wUnlock h (storeAt (tick s) p pred hit hnext).2 false })
  | tval (p : Pending) (b i : Nat) (v : Nat × Nat) (res : KRes) : l.call = some p → l.pc = .tVal b i v res →
      StepK s t l (setT (setNode (tick s) i (fun n => { n with val := v })) t { l with pc := .tUnlockM b res false })
  | prepend (p : Pending) (b v vi : Nat) : l.call = some p → l.pc = .tPrependLocked b →
      (p.op = .ins v vi ∨ p.op = .tryIns v vi) →
      StepK s t l (setT
        (setBin { heap := s.heap ++ [⟨p.key, (v, vi), (binAt s.tbins b).first, none, false, some b⟩],
                  tbins := s.tbins, cell := s.cell, threads := s.threads, hist := s.hist, now := s.now + 1 }
          b (fun y => { y with first := some s.heap.length })) t
        { l with pc := .tTreeLinkLocked b s.heap.length })
  | treeLink (p : Pending) (b x : Nat) : l.call = some p → l.pc = .tTreeLinkLocked b x →
      StepK s t l (setT (setNode (tick s) x (fun n => { n with inTree := true })) t
        { l with pc := .tUnlockRoot b .none })
  | unlink (p : Pending) (b i : Nat) (res : KRes) (small : Bool) : l.call = some p →
      l.pc = .tUnlinkLocked b i res →
      StepK s t l (setT (unlinkOf (tick s) b i) t
        { l with pc := if small then .tUntreeify b res else .tRestructure b i res })
  | untree (p : Pending) (b i : Nat) (res : KRes) : l.call = some p → l.pc = .tRestructure b i res →
      StepK s t l (setT (setNode (tick s) i (fun n => { n with inTree := false })) t
        { l with pc := .tUnlockRoot b res })
  | untreeify (p : Pending) (b : Nat) (res : KRes) : l.call = some p → l.pc = .tUntreeify b res →
      StepK s t l (setT (untreeifyOf (tick s) b) t { l with pc := .tUnlockM b res false })
  | kbuild (h : Nat) : l.call = none → l.pc = .kBuild h →
      StepK s t l (setT (buildOf (tick s) h) t { l with pc := .kStore h s.tbins.length })
  | kstore (h b : Nat) : l.call = none → l.pc = .kStore h b →
      StepK s t l { (setT (tick s) t { l with pc := .kUnlock h }) with cell := .tree b }

theorem setT_self {s : State} {t : Nat} {l : Local} (hl : s.threads[t]? = some l) : setT s t l = s := by
  unfold setT
  obtain ⟨ht, rfl⟩ := List.getElem?_eq_some_iff.1 hl
  rw [List.set_getElem_self]

theorem isInsert_iff {op : KOp} : isInsert op = true ↔ ∃ v vi, op = .ins v vi ∨ op = .tryIns v vi := by
  cases op <;> simp [isInsert]

theorem isInsert_false {op : KOp} (h1 : ∀ v vi, op = .ins v vi → False) (h2 : ∀ v vi, op = .tryIns v vi → False) :
    isInsert op = false := by
  cases op <;> first | rfl | exact absurd rfl (h1 _ _) | exact absurd rfl (h2 _ _)

theorem ne_of_beq {a b : Nat} (h : ¬ (a == b) = true) : a ≠ b := fun e => h (beq_iff_eq.2 e)

theorem step_stepK {s s' : State} {t : Nat} {l : Local} {inv : Option (Nat × KOp)} {lo mt sm : Bool}
    (hl : s.threads[t]? = some l) (hs : step s t inv lo mt sm = some s') : StepK s t l s' := by
  unfold step stepG at hs
  rw [hl] at hs
  dsimp only at hs
  split at hs
  next hpc => -- idle
    split at hs
    · cases hs; exact .maint hpc
    · split at hs
      · cases hs
        have h := StepK.idle (s := s) (t := t) (l := l) hpc
        rwa [setT_self (s := tick s) hl] at h
      · cases hs; exact .invoke _ _ lo hpc
  next lo' p hpc hp => -- rCell
    split at hs
    next hc => cases hs; exact .fin p _ _ hp (by rw [hpc]; exact .rCellEmpty hc)
    next h hc => cases hs; exact .move p _ _ hp (by rw [hpc]; exact .rCellList hc)
    next b hc => cases hs; exact .move p _ _ hp (by rw [hpc]; exact .rCellTree hc)
  next p hpc hp => cases hs; exact .fin p _ _ hp (by rw [hpc]; exact .rNodeMiss)
  next c p hpc hp => -- rNode
    split at hs
    · cases hs
    next n hn =>
      split at hs
      next hk => cases hs; exact .fin p _ _ hp (by rw [hpc]; exact .rNodeHit hn (beq_iff_eq.1 hk))
      next hk => cases hs; exact .move p _ _ hp (by rw [hpc]; exact .rNodeNext hn (ne_of_beq hk))
  next b p hpc hp => cases hs; exact .move p _ _ hp (by rw [hpc]; exact .rFirst)
  next b p hpc hp => cases hs; exact .fin p _ _ hp (by rw [hpc]; exact .rMiss)
  next b c p hpc hp => -- rState
    split at hs
    next hb => cases hs; exact .move p _ _ hp (by rw [hpc]; exact .rLinMode hb)
    next hb => cases hs; exact .move p _ _ hp (by rw [hpc]; exact .rTreeMode (Bool.eq_false_iff.2 hb))
  next b c p hpc hp => -- rLin
    split at hs
    · cases hs
    next n hn =>
      split at hs
      next hk =>
        split at hs
        next hop => cases hs; exact .fin p _ _ hp (by rw [hpc]; exact .rLinHas hn (beq_iff_eq.1 hk) hop)
        next hop => cases hs; exact .move p _ _ hp (by rw [hpc]; exact .rLinHit hn (beq_iff_eq.1 hk) hop)
      next hk => cases hs; exact .move p _ _ hp (by rw [hpc]; exact .rLinNext hn (ne_of_beq hk))
  next b c r p hpc hp => -- rCas
    split at hs
    next hb =>
      cases hs
      simp only [Bool.and_eq_true, Bool.not_eq_eq_eq_not, Bool.not_true, beq_iff_eq] at hb
      exact .bmove p _ _ hp (by rw [hpc]; exact .rCasOk hb.1.1 hb.1.2 hb.2)
    next => cases hs; exact .move p _ _ hp (by rw [hpc]; exact .rCasFail)
  next b p hpc hp => cases hs; exact .move p _ _ hp (by rw [hpc]; exact .rTree)
  next b hit p hpc hp => -- rRelease
    split at hs
    next => cases hs; exact .bfin p _ _ hp (by rw [hpc]; exact .rRelNone)
    next i hop => cases hs; exact .bfin p _ _ hp (by rw [hpc]; exact .rRelHas hop)
    next i hop => cases hs; exact .bmove p _ _ hp (by rw [hpc]; exact .rRelVal hop)
  next i p hpc hp => -- rVal
    split at hs
    · cases hs
    next n hn => cases hs; exact .fin p _ _ hp (by rw [hpc]; exact .rVal hn)
  next b p hpc hp => cases hs; exact .move p _ _ hp (by rw [hpc]; exact .lFirst)
  next p hpc hp => cases hs; exact .fin p _ _ hp (by rw [hpc]; exact .lMiss)
  next c p hpc hp => -- lNode
    split at hs
    · cases hs
    next n hn =>
      split at hs
      next hk =>
        split at hs
        next hop => cases hs; exact .fin p _ _ hp (by rw [hpc]; exact .lHas hn (beq_iff_eq.1 hk) hop)
        next hop => cases hs; exact .move p _ _ hp (by rw [hpc]; exact .lHit hn (beq_iff_eq.1 hk) hop)
      next hk => cases hs; exact .move p _ _ hp (by rw [hpc]; exact .lNext hn (ne_of_beq hk))
  next p hpc hp => -- wCell
    split at hs
    next hc =>
      split at hs
      next v vi hop => cases hs; exact .move p _ _ hp (by rw [hpc]; exact .wCellCas hc (by rw [hop]; rfl))
      next v vi hop => cases hs; exact .move p _ _ hp (by rw [hpc]; exact .wCellCas hc (by rw [hop]; rfl))
      next h1 h2 => cases hs; exact .fin p _ _ hp (by rw [hpc]; exact .wCellEmpty hc (isInsert_false h1 h2))
    next h hc => cases hs; exact .move p _ _ hp (by rw [hpc]; exact .wCellList hc)
    next b hc => cases hs; exact .move p _ _ hp (by rw [hpc]; exact .wCellTree hc)
  next p hpc hp => -- wCas
    split at hs
    next v vi hc hop => cases hs; exact .cas p v vi hp hpc hc (Or.inl hop)
    next v vi hc hop => cases hs; exact .cas p v vi hp hpc hc (Or.inr hop)
    next h1 h2 =>
      cases hs
      have : s.cell ≠ .empty ∨ isInsert p.op = false :=
        Classical.or_iff_not_imp_left.2 fun hc =>
          isInsert_false (fun v vi => h1 v vi (Classical.not_not.1 hc)) (fun v vi => h2 v vi (Classical.not_not.1 hc))
      exact .move p _ _ hp (by rw [hpc]; exact .wCasFail this)
  next h p hpc hp => -- wLock
    split at hs
    · cases hs
    next n hn =>
      split at hs
      · cases hs
      next hlk =>
        cases hs
        exact .move p _ _ hp (by rw [hpc]; exact .wLock hn (Option.not_isSome_iff_eq_none.1 hlk))
  next h p hpc hp => -- wCheck
    split at hs
    next hc => cases hs; exact .move p _ _ hp (by rw [hpc]; exact .wCheckOk (by simpa using hc))
    next hc => cases hs; exact .move p _ _ hp (by rw [hpc]; exact .wCheckFail (by simpa using hc))
  next h pred cur p hpc hp => -- wFind
    split at hs
    next => cases hs; exact .move p _ _ hp (by rw [hpc]; exact .wFindEnd)
    next c =>
      split at hs
      · cases hs
      next n hn =>
        split at hs
        next hk => cases hs; exact .move p _ _ hp (by rw [hpc]; exact .wFindHit hn (beq_iff_eq.1 hk))
        next hk => cases hs; exact .move p _ _ hp (by rw [hpc]; exact .wFindNext hn (ne_of_beq hk))
  next h pred hit hnext p hpc hp => cases hs; exact .store p h pred hit hnext hp hpc
  next h res retry p hpc hp => -- wUnlock
    split at hs
    next hr => cases hs; subst hr; exact .move p _ _ hp (by rw [hpc]; exact .wUnlockRetry)
    next hr => 
      cases hs
      have : retry = false := Bool.eq_false_iff.2 hr
      subst this
      exact .fin p _ _ hp (by rw [hpc]; exact .wUnlockFin)
  next b p hpc hp => -- tMutex
    split at hs
    · cases hs
    next hm =>
      cases hs
      exact .bmove p _ _ hp (by rw [hpc]; exact .tMutex (Option.not_isSome_iff_eq_none.1 hm))
  next b p hpc hp => -- tCheck
    split at hs
    next hc => cases hs; exact .move p _ _ hp (by rw [hpc]; exact .tCheckOk (by simpa using hc))
    next hc => cases hs; exact .move p _ _ hp (by rw [hpc]; exact .tCheckFail (by simpa using hc))
  next b p hpc hp => -- tFind
    have habs : ∀ i, treeFind s b p.key = some i → absTree s b p.key = some (nodeAt s.heap i).val := by
      intro i h; unfold absTree; rw [h]
    have habsN : treeFind s b p.key = none → absTree s b p.key = none := by
      intro h; unfold absTree; rw [h]
    split at hs
    next v vi i hop hf => cases hs; exact .move p _ _ hp (by rw [hpc]; exact .findVal hf (by rw [hop]; rfl))
    next v vi hop hf => cases hs; exact .move p _ _ hp (by rw [hpc]; exact .findInsert hf (by rw [hop]; rfl))
    next v vi i hop hf =>
      cases hs
      exact .move p _ _ hp (by rw [hpc]; exact .findDone (by rw [habs i hf, hop]; rfl))
    next v vi hop hf => cases hs; exact .move p _ _ hp (by rw [hpc]; exact .findInsert hf (by rw [hop]; rfl))
    next i hop hf => cases hs; exact .move p _ _ hp (by rw [hpc]; exact .findRemove hf (by rw [hop]; rfl))
    next hop hf => cases hs; exact .move p _ _ hp (by rw [hpc]; exact .findDone (by rw [habsN hf, hop]; rfl))
    next nvi i hop hf => cases hs; exact .move p _ _ hp (by rw [hpc]; exact .findVal hf (by rw [hop]; rfl))
    next nvi hop hf => cases hs; exact .move p _ _ hp (by rw [hpc]; exact .findDone (by rw [habsN hf, hop]; rfl))
    next i hop hf => cases hs; exact .move p _ _ hp (by rw [hpc]; exact .findRemove hf (by rw [hop]; rfl))
    next hop hf => cases hs; exact .move p _ _ hp (by rw [hpc]; exact .findDone (by rw [habsN hf, hop]; rfl))
    · cases hs
    · cases hs
  next b i v res p hpc hp => cases hs; exact .tval p b i v res hp hpc
  next b k res p hpc hp => -- lrTry
    split at hs
    next hb =>
      cases hs
      simp only [Bool.and_eq_true, Bool.not_eq_eq_eq_not, Bool.not_true, beq_iff_eq] at hb
      exact .bmove p _ _ hp (by rw [hpc]; exact .lrTryOk hb.1.1 hb.1.2 hb.2)
    next => cases hs; exact .move p _ _ hp (by rw [hpc]; exact .lrTryFail)
  next b k res p hpc hp => -- lrLoop
    split at hs
    next hb =>
      cases hs
      simp only [Bool.and_eq_true, Bool.not_eq_eq_eq_not, Bool.not_true, beq_iff_eq] at hb
      exact .bmove p _ _ hp (by rw [hpc]; exact .lrLoopOk hb.1 hb.2)
    next =>
      split at hs
      next hw =>
        cases hs
        exact .bmove p _ _ hp (by rw [hpc]; exact .lrLoopWait ((Bool.not_eq_true' _).mp hw))
      · cases hs
  next b p hpc hp => -- tPrependLocked
    split at hs
    next v vi hop => cases hs; exact .prepend p b v vi hp hpc (Or.inl hop)
    next v vi hop => cases hs; exact .prepend p b v vi hp hpc (Or.inr hop)
    · cases hs
  next b x p hpc hp => cases hs; exact .treeLink p b x hp hpc
  next b i res p hpc hp => cases hs; exact .unlink p b i res sm hp hpc
  next b i res p hpc hp => cases hs; exact .untree p b i res hp hpc
  next b res p hpc hp => cases hs; exact .bmove p _ _ hp (by rw [hpc]; exact .unlockRoot)
  next b res p hpc hp => cases hs; exact .untreeify p b res hp hpc
  next b res retry p hpc hp => -- tUnlockM
    split at hs
    next hr => cases hs; subst hr; exact .bmove p _ _ hp (by rw [hpc]; exact .tUnlockMRetry)
    next hr =>
      cases hs
      have : retry = false := Bool.eq_false_iff.2 hr
      subst this
      exact .bfin p _ _ hp (by rw [hpc]; exact .tUnlockMFin)
  next hpc hc => -- kCell
    split at hs
    next h hcl => cases hs; exact .kmove _ _ hc (by rw [hpc]; exact .kCellList hcl)
    next hcl => cases hs; exact .kmove _ _ hc (by rw [hpc]; exact .kCellOther hcl)
  next h hpc hc => -- kLock
    split at hs
    · cases hs
    next n hn =>
      split at hs
      · cases hs
      next hlk =>
        cases hs
        exact .kmove _ _ hc (by rw [hpc]; exact .kLock hn (Option.not_isSome_iff_eq_none.1 hlk))
  next h hpc hc => -- kCheck
    split at hs
    next hcl => cases hs; exact .kmove _ _ hc (by rw [hpc]; exact .kCheckOk (by simpa using hcl))
    next hcl => cases hs; exact .kmove _ _ hc (by rw [hpc]; exact .kCheckFail (by simpa using hcl))
  next h hpc hc => cases hs; exact .kbuild h hc hpc
  next h b hpc hc => cases hs; exact .kstore h b hc hpc
  next h hpc hc => cases hs; exact .kmove _ _ hc (by rw [hpc]; exact .kUnlock)
  · cases hs


/-- the state after a list-bin insertion through the remembered predecessor -/
def appendOf (s : State) (p : Pending) (pred : Option Nat) (v vi : Nat) : State :=
  match pred with
  | some l => setNode { s with heap := s.heap ++ [⟨p.key, (v, vi), none, none, false, none⟩] } l
      (fun n => { n with next := some s.heap.length })
  | none => { s with heap := s.heap ++ [⟨p.key, (v, vi), none, none, false, none⟩], cell := .list s.heap.length }

/-- the state after a list-bin removal through the remembered predecessor and successor -/
def unlinkL (s : State) (pred hnext : Option Nat) : State :=
  match pred with
  | some pr => setNode s pr (fun m => { m with next := hnext })
  | none => { s with cell := match hnext with | some x => .list x | none => .empty }

theorem storeAt_eq (s : State) (p : Pending) (pred hit hnext : Option Nat) :
    storeAt s p pred hit hnext =
      match p.op, hit with
      | .ins v vi, some i => (setNode s i (fun n => { n with val := (v, vi) }), resOf (some (nodeAt s.heap i).val))
      | .ins v vi, none => (appendOf s p pred v vi, .none)
      | .tryIns _ _, some i => (s, .exists_ (nodeAt s.heap i).val.1 (nodeAt s.heap i).val.2)
      | .tryIns v vi, none => (appendOf s p pred v vi, .none)
      | .rm, some i => (unlinkL s pred hnext, resOf (some (nodeAt s.heap i).val))
      | .rm, none => (s, .none)
      | .cipInc nvi, some i =>
        (setNode s i (fun m => { m with val := ((nodeAt s.heap i).val.1 + 1, nvi) }), .some ((nodeAt s.heap i).val.1 + 1) nvi)
      | .cipInc _, none => (s, .none)
      | .cipRm, some _ => (unlinkL s pred hnext, .none)
      | .cipRm, none => (s, .none)
      | .get, _ => (s, .none)
      | .has, _ => (s, .none) := by
  unfold storeAt appendOf unlinkL nodeAt
  cases p.op <;> cases hit <;> cases pred <;> rfl

theorem storeAt_frame (s : State) (p : Pending) (pred hit hnext : Option Nat) :
    (storeAt s p pred hit hnext).1.threads = s.threads ∧ (storeAt s p pred hit hnext).1.hist = s.hist ∧
      (storeAt s p pred hit hnext).1.now = s.now ∧ (storeAt s p pred hit hnext).1.tbins = s.tbins := by
  rw [storeAt_eq]
  split <;> first | exact ⟨rfl, rfl, rfl, rfl⟩ | (cases pred <;> exact ⟨rfl, rfl, rfl, rfl⟩)

end Flurry.Proto.BinK
