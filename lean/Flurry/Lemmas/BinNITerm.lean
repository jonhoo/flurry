import Flurry.Lemmas.BinNIInv
/-! # Proto/BinNI: an iterator that runs alone ends within an explicit number of steps (C07)

Measure: the rank distance of the pointer to the end of the heap (next pointers go strictly upwards in
`ord`), plus, for every pending cell of generation `g`, `D W (T − g)` with `W = 2·|heap| + 3`,
`T` = number of allocated generations, `D W 0 = W`, `D W (d+1) = 2 · D W d + 1` (a forwarded cell is
replaced by its two children of the next generation; only cells of generations `≤ cur < T` are forwarded). -/
namespace Flurry.Proto.BinNI
open Flurry.Lin
open Flurry.Proto.BinN (Ghost HInv cellAt ord)

/-- `m` consecutive steps of thread `t` alone (it creates nothing, starts no call and no resize) -/
inductive SoloSteps (t : Nat) : Nat → State → State → Prop
  | zero (s : State) : SoloSteps t 0 s s
  | succ {m : Nat} {s s' s'' : State} : step s t false none false 0 = some s' → SoloSteps t m s' s'' →
      SoloSteps t (m + 1) s s''

def D (W : Nat) : Nat → Nat
  | 0 => W
  | d + 1 => 2 * D W d + 1

theorem D_ge (W d : Nat) : W ≤ D W d := by
  induction d with
  | zero => exact Nat.le_refl _
  | succ d ih => show W ≤ 2 * D W d + 1; omega

def ptrM (L : Nat) (cr : BinN.CR) : Option Nat → Nat
  | none => 0
  | some c => ((L : Int) - ord cr c).toNat + 1

/-- the cost of the pending cells -/
def todoM (W T : Nat) (todo : List (Nat × Nat)) : Nat := (todo.map fun c => D W (T - c.1)).sum

def mu (n : BinN.State) (G : Ghost) (it : Iter) : Nat :=
  ptrM n.heap.length G.cr it.ptr + todoM (2 * n.heap.length + 3) n.tabs.length it.todo

theorem ptrM_le {L c : Nat} (cr : BinN.CR) (h : c < L) : ptrM L cr (some c) ≤ 2 * L + 1 := by
  have := BinN.ord_ge cr c
  show ((L : Int) - ord cr c).toNat + 1 ≤ _
  omega

theorem todoM_cons (W T g j : Nat) (rest : List (Nat × Nat)) :
    todoM W T ((g, j) :: rest) = D W (T - g) + todoM W T rest := by
  simp [todoM]

theorem ptrM_next {n0 : BinN.State} {G : Ghost} (H : HInv n0 G) {c : Nat} (hc : c < n0.heap.length) :
    ptrM n0.heap.length G.cr (n0.heap[c]).next < ptrM n0.heap.length G.cr (some c) := by
  cases hnx : (n0.heap[c]).next with
  | none => show 0 < _ + 1; omega
  | some b =>
    obtain ⟨h1, h2⟩ := H.nextOK c _ b (List.getElem?_eq_getElem hc) hnx
    have := BinN.ord_le_self G.cr b
    show ((n0.heap.length : Int) - ord G.cr b).toNat + 1 < ((n0.heap.length : Int) - ord G.cr c).toNat + 1
    omega

/-- a move on the memory of `n0` that does not end the iteration decreases the measure -/
theorem Move.mu_lt {n0 n : BinN.State} {G : Ghost} (H : HInv n0 G) (hh : n.heap = n0.heap) (ht : n.tabs = n0.tabs)
    {t : Nat} {it it' : Iter} {ys : List Yield} {es : List (Nat × Nat × Nat)} (hm : Move n t it (some it') ys es) :
    (∀ c, it'.ptr = some c → c < n0.heap.length) ∧ mu n0 G it' < mu n0 G it := by
  have hcell : ∀ g j, cellAt n g j = cellAt n0 g j := fun g j => by rw [BinN.cellAt_eq, BinN.cellAt_eq, ht]
  unfold mu
  cases hm with
  | @yield c nd hp hnd =>
    rw [hh] at hnd
    have hlt := (List.getElem?_eq_some_iff.1 hnd).1
    rw [List.getElem?_eq_getElem hlt] at hnd
    cases hnd
    refine ⟨fun b hb => (H.nextOK c _ b (List.getElem?_eq_getElem hlt) hb).2, ?_⟩
    rw [hp]
    exact Nat.add_lt_add_right (ptrM_next H hlt) _
  | @empty g j rest hp htd hc =>
    have hD := D_ge (2 * n0.heap.length + 3) (n0.tabs.length - g)
    refine ⟨fun c h => (by rw [hp] at h; cases h), ?_⟩
    show ptrM _ _ it.ptr + todoM _ _ rest < ptrM _ _ it.ptr + todoM _ _ it.todo
    rw [htd, todoM_cons]; omega
  | @node g j hd rest hp htd hc =>
    have hD := D_ge (2 * n0.heap.length + 3) (n0.tabs.length - g)
    rw [hcell] at hc
    have hlt := H.head (g, j) hd hc
    refine ⟨fun c h => (by cases h; exact hlt), ?_⟩
    show ptrM _ _ (some hd) + todoM _ _ rest < ptrM _ _ it.ptr + todoM _ _ it.todo
    rw [hp, htd, todoM_cons]
    have := ptrM_le G.cr hlt
    show _ < 0 + _
    omega
  | @moved g j rest hp htd hc =>
    rw [hcell] at hc
    have hg : g + 1 ≤ n0.cur + 1 := (children_ok H.shape hc).1.1
    have hcur := H.shape.cur_lt
    refine ⟨fun c h => (by rw [hp] at h; cases h), ?_⟩
    show ptrM _ _ it.ptr + todoM _ _ ((g + 1, j) :: (g + 1, j + 2 ^ g) :: rest) <
      ptrM _ _ it.ptr + todoM _ _ it.todo
    have e : n0.tabs.length - g = (n0.tabs.length - (g + 1)) + 1 := by omega
    have hDD : D (2 * n0.heap.length + 3) (n0.tabs.length - g) =
        2 * D (2 * n0.heap.length + 3) (n0.tabs.length - (g + 1)) + 1 := by rw [e]; rfl
    rw [htd, todoM_cons, todoM_cons, todoM_cons, hDD]; omega

/-- one step of an iterator that runs on the memory of `n0` -/
theorem solo_one {n0 : BinN.State} {G : Ghost} (H : HInv n0 G) {t : Nat} {s : State} {it : Iter}
    (hh : s.n.heap = n0.heap) (ht : s.n.tabs = n0.tabs)
    (hi : s.its[t]? = some (some it))
    (hidle : ∃ l : BinN.Local, s.n.threads[t]? = some l ∧ l.pc = BinN.Pc.idle)
    (hptr : ∀ c, it.ptr = some c → c < n0.heap.length) :
    ∃ s', step s t false none false 0 = some s' ∧ s'.n = BinN.tick s.n ∧
      (s'.its[t]? = some none ∨ ∃ it', s'.its[t]? = some (some it') ∧
        (∀ c, it'.ptr = some c → c < n0.heap.length) ∧ mu n0 G it' < mu n0 G it) := by
  obtain ⟨l0, hl0, hpc0⟩ := hidle
  obtain ⟨o, ys, es, hm⟩ := move_exists (BinN.tick s.n) t it fun c hc => by
    show c < s.n.heap.length; rw [hh]; exact hptr c hc
  have hlen : t < s.its.length := (List.getElem?_eq_some_iff.1 hi).1
  refine ⟨_, step_of_move hi hl0 hpc0 hm false none false 0, rfl, ?_⟩
  show (s.its.set t o)[t]? = some none ∨ ∃ it', (s.its.set t o)[t]? = some (some it') ∧ _
  rw [List.getElem?_set_self hlen]
  cases o with
  | none => exact Or.inl rfl
  | some it' => exact Or.inr ⟨it', rfl, Move.mu_lt (n := BinN.tick s.n) H hh ht hm⟩

theorem solo_aux {n0 : BinN.State} {G : Ghost} (H : HInv n0 G) (t : Nat) : ∀ (μ : Nat) (s : State) (it : Iter),
    s.n.heap = n0.heap → s.n.tabs = n0.tabs → s.n.cur = n0.cur → s.its[t]? = some (some it) →
    (∃ l : BinN.Local, s.n.threads[t]? = some l ∧ l.pc = BinN.Pc.idle) →
    (∀ c, it.ptr = some c → c < n0.heap.length) → mu n0 G it ≤ μ →
    ∃ m s', m ≤ μ + 1 ∧ SoloSteps t m s s' ∧ s'.its[t]? = some none ∧
      s'.n.heap = n0.heap ∧ s'.n.tabs = n0.tabs ∧ s'.n.cur = n0.cur := by
  intro μ
  induction μ with
  | zero =>
    intro s it hh ht hc hi hidle hptr hmu
    obtain ⟨s', h1, h2, h3⟩ := solo_one H hh ht hi hidle hptr
    rcases h3 with h3 | ⟨it', -, -, h5⟩
    · exact ⟨1, s', by omega, .succ h1 (.zero _), h3, by rw [h2]; exact hh, by rw [h2]; exact ht, by rw [h2]; exact hc⟩
    · omega
  | succ μ ih =>
    intro s it hh ht hc hi hidle hptr hmu
    obtain ⟨s', h1, h2, h3⟩ := solo_one H hh ht hi hidle hptr
    rcases h3 with h3 | ⟨it', h4, h5, h6⟩
    · exact ⟨1, s', by omega, .succ h1 (.zero _), h3, by rw [h2]; exact hh, by rw [h2]; exact ht, by rw [h2]; exact hc⟩
    · obtain ⟨m, s'', k1, k2, k3⟩ := ih s' it' (by rw [h2]; exact hh) (by rw [h2]; exact ht) (by rw [h2]; exact hc) h4
        (by rw [h2]; exact hidle) h5 (by omega)
      exact ⟨m + 1, s'', by omega, .succ h1 k2, k3⟩

end Flurry.Proto.BinNI
