import Flurry.Lemmas.SeqTableBasic
import Flurry.Lemmas.SeqTableLookup
import Flurry.Lemmas.SeqTableTransfer
import Flurry.Lemmas.SeqTableCtl
import Flurry.Lemmas.SeqTableAddCount
import Flurry.Lemmas.SeqTablePresize
/-! # The lemmas of `SeqTable*` applied to two concrete tables (8 and 64 bins)

Their hypotheses are met there, and evaluation gives what they say. -/
namespace Flurry.Seq
open Flurry Flurry.Gen

private def nd (k : Nat) : Node := { hash := k, key := k, ki := 0, val := k, vi := k }

private def t8 : Table :=
  [.empty, .list [nd 1, nd 9], .list [nd 2], .empty, .empty, .list [nd 5], .empty, .empty]

private def m8 : Map := { table := some t8, count := 4, sizeCtl := 6, hash := id }

private theorem t8_wf : TableWF id t8 := ⟨⟨3, rfl⟩, by decide +kernel, by decide +kernel⟩

private theorem m8_wf : WF m8 :=
  (wf_some_iff (t := t8) rfl).2 ⟨t8_wf, by decide +kernel, by decide +kernel, Or.inl (by decide +kernel)⟩

example : tableBin (t8.set 3 (.list [nd 3])) 3 = .list [nd 3] := tableBin_set_self _ (by decide +kernel)
example : TableWF id (t8.set 3 (.list [nd 3])) := tableWF_set t8_wf (by decide +kernel)
example : ((t8.set 1 (.list [nd 1])).flatMap Bin.nodes).length + 2 = 4 + 1 :=
  flatMap_nodes_set_length (t := t8) (i := 1) (.list [nd 1]) (by decide +kernel)
example : TableWF id (emptyTable 16) := tableWF_emptyTable id ⟨4, rfl⟩ (by decide +kernel)

example : get 9 m8 = some (nd 9) := (get_iff (t := t8) rfl t8_wf).2 ⟨by decide +kernel, rfl⟩
example : get 17 m8 = none := (get_none_iff (t := t8) rfl t8_wf).2 (by decide +kernel)
example : ((entries m8).map (·.key)).Nodup := entries_keys_nodup (t := t8) rfl t8_wf

-- 1 stays in bin 1, 9 moves to bin 9
example : tableBin (transferTable t8) 1 = .list [nd 1] ∧ tableBin (transferTable t8) 9 = .list [nd 9] := by
  decide +kernel
example : TableWF id (transferTable t8) := transferTable_wf t8_wf (by decide +kernel)
example : get 9 (transfer m8) = get 9 m8 := transfer_get (t := t8) rfl t8_wf 9
example : WF (transfer m8) := transfer_wf (t := t8) m8_wf rfl (by decide +kernel)
example : (transfer m8).sizeCtl = 12 ∧ tableLen (transfer m8) = 16 ∧ (transfer m8).resizes = 1 := by
  decide +kernel

-- `addCount` after two more nodes were put into the table of `m8` one by one: the second
-- one reaches the threshold 6 and the table is doubled
private def t8' : Table := (t8.set 3 (.list [nd 3])).set 4 (.list [nd 4])
private def m8' : Map := { m8 with table := some t8', count := 5 }
private theorem m8'_pre : PreWF m8' t8' :=
  ⟨rfl, tableWF_set (tableWF_set t8_wf (by decide +kernel)) (by decide +kernel), by decide +kernel⟩
example : WF (addCount 1 (some 1) m8') := (addCount_some_wf m8'_pre (by decide +kernel)).1
example : tableLen (addCount 1 (some 1) m8') = 16 ∧ (addCount 1 (some 1) m8').count = 6 := by decide +kernel
-- a decrement that stays below the threshold changes nothing but the counter, even with a hint
-- (the removals of the model pass `none`, like those of `src/map.rs`: `C14.removals_pass_no_hint`)
example : addCount (-1) (some 1) { m8 with table := some (t8.set 5 .empty) } =
    { m8 with table := some (t8.set 5 .empty), count := 3 } :=
  addCount_of_below (t := t8.set 5 .empty) rfl (Or.inl (by decide +kernel))

example : WF (initTable { hash := id }) := initTable_wf (new_wf_initOk id).1 (new_wf_initOk id).2
example : tableLen (initTable { hash := id }) = 16 := by decide +kernel
example : WF (withCapacity id 100) := withCapacity_wf id 100
example : WF (tryPresize 100 { hash := id }) := (tryPresize_spec 100 (new_wf_initOk id).1 (new_wf_initOk id).2).1
example : WF (tryPresize 100 m8) ∧ ∀ k, get k (tryPresize 100 m8) = get k m8 :=
  have h := tryPresize_spec 100 m8_wf (InitOk.of_some (t := t8) rfl)
  ⟨h.1, h.2.1.2.1⟩
example : (100 : Int) < (tryPresize 100 m8).sizeCtl ∨ tableLen (tryPresize 100 m8) = MAXIMUM_CAPACITY :=
  tryPresize_room 100 m8_wf (InitOk.of_some (t := t8) rfl) (by decide +kernel)
-- 8 bins < 64: `treeifyBin` resizes instead of converting the bin
example : WF (treeifyBin 1 m8) ∧ tableLen m8 ≤ tableLen (treeifyBin 1 m8) :=
  ⟨treeifyBin_wf 1 m8_wf, (treeifyBin_spec 1 m8_wf).2.2.2.1⟩

-- 64 bins: the list bin becomes a tree bin, lookups unchanged
private def t64 : Table := (emptyTable 64).set 1 (.list [nd 1, nd 65, nd 129])
private def m64 : Map := { table := some t64, count := 3, sizeCtl := 48, hash := id }
private theorem m64_wf : WF m64 :=
  (wf_some_iff (t := t64) rfl).2
    ⟨tableWF_set (tableWF_emptyTable id ⟨6, rfl⟩ (by decide +kernel)) (by decide +kernel), by decide +kernel, by decide +kernel,
      Or.inl (by decide +kernel)⟩
example : (treeifyBin 1 m64).table =
    some (t64.set 1 (.tree (RB.ofList [nd 1, nd 65, nd 129]) [nd 1, nd 65, nd 129])) := by decide +kernel
example : WF (treeifyBin 1 m64) ∧ ∀ k, get k (treeifyBin 1 m64) = get k m64 :=
  ⟨treeifyBin_wf 1 m64_wf, (treeifyBin_same 1 m64_wf).2.1⟩
example : len m64 = 3 := by rw [m64_wf.len_eq]; decide +kernel

end Flurry.Seq
