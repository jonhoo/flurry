import Flurry.Proto.BinNA
/-! # Proto/BinNA: the transitions in normal form (C01, C10)

`StepK s t l s'` lists the possible transitions of thread `t` (with local state `l`); every successor
state has the form `post s t l' hnew m`: the thread continues as `l'`, the calls `hnew` complete, the
shared memory changes by `m : Mem` (nothing, one lock word, one cell, the allocation of the next
generation, the commit). `step_stepK` dissects `step` once and for all. `TMove.nextCell` has no premise
`allMoved s = false`, so `StepK` is slightly larger than `step`; every invariant is proved of `StepK`. -/
namespace Flurry.Proto.BinNA
open Flurry.Lin

def insLike (op : KOp) : Prop := ∃ v vi, op = .ins v vi ∨ op = .tryIns v vi

/-- transitions of a thread with a call in flight that only change its program counter -/
inductive Move (s : State) (p : Pending) : Pc → Pc → Prop
  | rTable : Move s p .rTable (.rCell s.cur)
  | rMoved {g : Nat} : getCell s g (ix g p.key) = .moved → Move s p (.rCell g) (.rCell (g + 1))
  | wTable : Move s p .wTable (.wCell s.cur)
  | wEmpty {g : Nat} : getCell s g (ix g p.key) = .empty → insLike p.op → Move s p (.wCell g) (.wCas g)
  | wMoved {g : Nat} : getCell s g (ix g p.key) = .moved → Move s p (.wCell g) (.wCell (g + 1))
  | wList {g : Nat} {xs : List Entry} : getCell s g (ix g p.key) = .list xs → Move s p (.wCell g) (.wLock g)
  | casFail {g : Nat} : Move s p (.wCas g) (.wCell g)
  | checkOk {g : Nat} : isList (getCell s g (ix g p.key)) = true → Move s p (.wCheck g) (.wStore g)
  | checkFail {g : Nat} : isList (getCell s g (ix g p.key)) = false →
      Move s p (.wCheck g) (.wUnlock g .none true)

/-- transitions of the resizing thread that only change its program counter -/
inductive TMove (s : State) : Pc → Pc → Prop
  | nextDone : allMoved s = true → TMove s .tNext .tCommit
  | nextCell {pick : Nat} : TMove s .tNext (.tCell (pick % 2 ^ s.cur))
  | cellEmpty {j : Nat} : getCell s s.cur j = .empty → TMove s (.tCell j) (.tCasMoved j)
  | cellList {j : Nat} {xs : List Entry} : getCell s s.cur j = .list xs → TMove s (.tCell j) (.tLock j)
  | cellMoved {j : Nat} : getCell s s.cur j = .moved → TMove s (.tCell j) .tNext
  | casFail {j : Nat} : getCell s s.cur j ≠ .empty → TMove s (.tCasMoved j) (.tCell j)
  | checkOk {j : Nat} {xs : List Entry} : getCell s s.cur j = .list xs →
      TMove s (.tCheck j) (.tStoreLow j (mkCell (splitLo s.cur xs)) (mkCell (splitHi s.cur xs)))

/-- calls that complete without a store of their own -/
inductive Fin (s : State) (p : Pending) : Pc → KRes → Prop
  | rEmpty {g : Nat} : getCell s g (ix g p.key) = .empty → Fin s p (.rCell g) (missRes p.op)
  | rMiss {g : Nat} {xs : List Entry} : getCell s g (ix g p.key) = .list xs → lookup p.key xs = none →
      Fin s p (.rCell g) (missRes p.op)
  | rHit {g : Nat} {xs : List Entry} {v : Nat × Nat} : getCell s g (ix g p.key) = .list xs →
      lookup p.key xs = some v → Fin s p (.rCell g) (hitRes p.op v)
  | wEmpty {g : Nat} : getCell s g (ix g p.key) = .empty → ¬ insLike p.op → Fin s p (.wCell g) .none

/-- lock acquisitions: call and program counter before, cell, program counter after -/
inductive Acq (s : State) : Option Pending → Pc → Nat → Nat → Pc → Prop
  | w {g : Nat} {p : Pending} : Acq s (some p) (.wLock g) g (ix g p.key) (.wCheck g)
  | t {j : Nat} : Acq s none (.tLock j) s.cur j (.tCheck j)

/-- lock releases that do not complete a call -/
inductive Rel (s : State) : Option Pending → Pc → Nat → Nat → Pc → Prop
  | w {g : Nat} {p : Pending} {res : KRes} : Rel s (some p) (.wUnlock g res true) g (ix g p.key) (.wCell g)
  | tFail {j : Nat} : isList (getCell s s.cur j) = false → Rel s none (.tCheck j) s.cur j (.tCell j)
  | t {j : Nat} : Rel s none (.tUnlock j) s.cur j .tNext

/-- the store of a lock-holding writer: new cell and result -/
def storeCell (s : State) (g : Nat) (p : Pending) : Cell :=
  mkCell (newContent p.key (content (getCell s g (ix g p.key)))
    (specStep (lookup p.key (content (getCell s g (ix g p.key)))) p.op).1)
def storeRes (s : State) (g : Nat) (p : Pending) : KRes :=
  (specStep (lookup p.key (content (getCell s g (ix g p.key)))) p.op).2

/-- what one transition does to the shared memory -/
inductive Mem where
  | none
  | lock (g j : Nat) (x : Option Nat)
  | cell (g j : Nat) (c : Cell)
  | alloc
  | commit

def Mem.app (s : State) : Mem → State
  | .none => s
  | .lock g j x => setLock s g j x
  | .cell g j c => setCell s g j c
  | .alloc => { s with resizing := true
                       tabs := s.tabs ++ [List.replicate (2 ^ (s.cur + 1)) .empty]
                       locks := s.locks ++ [List.replicate (2 ^ (s.cur + 1)) Option.none] }
  | .commit => { s with cur := s.cur + 1, resizing := false }

/-- the successor state of a transition of thread `t`: the clock advances, the thread continues as
`l'`, the completed calls `hnew` are recorded, the shared memory changes by `m` -/
def post (s : State) (t : Nat) (l' : Local) (hnew : List (Nat × Call)) (m : Mem) : State :=
  { m.app s with threads := s.threads.set t l', now := s.now + 1, hist := hnew ++ s.hist }

/-- the record of the call `p` of thread `t` that responds in this transition -/
def done (s : State) (t : Nat) (p : Pending) (res : KRes) : List (Nat × Call) :=
  [(p.key, ⟨t, p.op, res, p.inv, s.now + 1⟩)]

inductive StepK (s : State) (t : Nat) : Local → State → Prop
  | idle (call : Option Pending) : StepK s t ⟨.idle, call⟩ (post s t ⟨.idle, call⟩ [] .none)
  | invoke (call : Option Pending) (k : Nat) (op : KOp) :
      StepK s t ⟨.idle, call⟩
        (post s t ⟨if isReader op then .rTable else .wTable, some ⟨k, op, s.now + 1⟩⟩ [] .none)
  | resize (call : Option Pending) : s.resizing = false →
      StepK s t ⟨.idle, call⟩ (post s t ⟨.tNext, call⟩ [] .alloc)
  | move (p : Pending) (pc pc' : Pc) : Move s p pc pc' →
      StepK s t ⟨pc, some p⟩ (post s t ⟨pc', some p⟩ [] .none)
  | tmove (pc pc' : Pc) : TMove s pc pc' → StepK s t ⟨pc, none⟩ (post s t ⟨pc', none⟩ [] .none)
  | acq (call : Option Pending) (pc : Pc) (g j : Nat) (pc' : Pc) : Acq s call pc g j pc' → getLock s g j = none →
      StepK s t ⟨pc, call⟩ (post s t ⟨pc', call⟩ [] (.lock g j (some t)))
  | rel (call : Option Pending) (pc : Pc) (g j : Nat) (pc' : Pc) : Rel s call pc g j pc' →
      StepK s t ⟨pc, call⟩ (post s t ⟨pc', call⟩ [] (.lock g j none))
  | fin (p : Pending) (pc : Pc) (res : KRes) : Fin s p pc res →
      StepK s t ⟨pc, some p⟩ (post s t ⟨.idle, none⟩ (done s t p res) .none)
  | cas (p : Pending) (g v vi : Nat) : getCell s g (ix g p.key) = .empty →
      (p.op = .ins v vi ∨ p.op = .tryIns v vi) →
      StepK s t ⟨.wCas g, some p⟩
        (post s t ⟨.idle, none⟩ (done s t p .none) (.cell g (ix g p.key) (.list [(p.key, (v, vi))])))
  | store (p : Pending) (g : Nat) :
      StepK s t ⟨.wStore g, some p⟩
        (post s t ⟨.wUnlock g (storeRes s g p) false, some p⟩ [] (.cell g (ix g p.key) (storeCell s g p)))
  | unlockFin (p : Pending) (g : Nat) (res : KRes) :
      StepK s t ⟨.wUnlock g res false, some p⟩
        (post s t ⟨.idle, none⟩ (done s t p res) (.lock g (ix g p.key) none))
  | casMoved (j : Nat) : getCell s s.cur j = .empty →
      StepK s t ⟨.tCasMoved j, none⟩ (post s t ⟨.tNext, none⟩ [] (.cell s.cur j .moved))
  | storeLow (j : Nat) (lo hi : Cell) :
      StepK s t ⟨.tStoreLow j lo hi, none⟩ (post s t ⟨.tStoreHigh j hi, none⟩ [] (.cell (s.cur + 1) j lo))
  | storeHigh (j : Nat) (hi : Cell) :
      StepK s t ⟨.tStoreHigh j hi, none⟩
        (post s t ⟨.tStoreMoved j, none⟩ [] (.cell (s.cur + 1) (j + 2 ^ s.cur) hi))
  | storeMoved (j : Nat) :
      StepK s t ⟨.tStoreMoved j, none⟩ (post s t ⟨.tUnlock j, none⟩ [] (.cell s.cur j .moved))
  | commit : StepK s t ⟨.tCommit, none⟩ (post s t ⟨.idle, none⟩ [] .commit)

theorem post_self {s : State} {t : Nat} {l : Local} (hl : s.threads[t]? = some l) :
    post s t l [] .none = { s with now := s.now + 1 } := by
  obtain ⟨ht, rfl⟩ := List.getElem?_eq_some_iff.1 hl
  unfold post
  rw [List.set_getElem_self]
  rfl

theorem step_stepK {s s' : State} {t : Nat} {l : Local} {inv : Option (Nat × KOp)} {rz : Bool} {pick : Nat}
    (hl : s.threads[t]? = some l) (hs : step s t inv rz pick = some s') : StepK s t l s' := by
  unfold step stepG at hs
  rw [hl] at hs
  obtain ⟨pc, call⟩ := l
  cases pc
  case idle =>
    simp only at hs
    split at hs
    · split at hs
      · exact Option.some.inj hs ▸ post_self hl ▸ .idle _
      · rename_i hrz
        exact Option.some.inj hs ▸ .resize _ (Bool.eq_false_iff.2 hrz)
    · split at hs
      · exact Option.some.inj hs ▸ post_self hl ▸ .idle _
      · exact Option.some.inj hs ▸ .invoke _ _ _
  all_goals cases call <;> simp only [reduceCtorEq] at hs
  case rTable.some p =>
    exact Option.some.inj hs ▸ .move p _ _ .rTable
  case rCell.some g p =>
    split at hs
    · rename_i hc
      exact Option.some.inj hs ▸ .fin p _ _ (.rEmpty hc)
    · rename_i hc
      exact Option.some.inj hs ▸ .move p _ _ (.rMoved hc)
    · rename_i xs hc
      split at hs
      · rename_i hlk
        exact Option.some.inj hs ▸ .fin p _ _ (.rMiss hc hlk)
      · rename_i v hlk
        exact Option.some.inj hs ▸ .fin p _ _ (.rHit hc hlk)
  case wTable.some p =>
    exact Option.some.inj hs ▸ .move p _ _ .wTable
  case wCell.some g p =>
    split at hs
    · rename_i hc
      split at hs
      · rename_i v vi hop
        exact Option.some.inj hs ▸ .move p _ _ (.wEmpty hc ⟨v, vi, .inl hop⟩)
      · rename_i v vi hop
        exact Option.some.inj hs ▸ .move p _ _ (.wEmpty hc ⟨v, vi, .inr hop⟩)
      · rename_i h1 h2
        exact Option.some.inj hs ▸ .fin p _ _ (.wEmpty hc fun ⟨v, vi, h⟩ => h.elim (h1 v vi) (h2 v vi))
    · rename_i hc
      exact Option.some.inj hs ▸ .move p _ _ (.wMoved hc)
    · rename_i xs hc
      exact Option.some.inj hs ▸ .move p _ _ (.wList hc)
  case wCas.some g p =>
    split at hs
    · rename_i v vi hc hop
      exact Option.some.inj hs ▸ .cas p g v vi hc (.inl hop)
    · rename_i v vi hc hop
      exact Option.some.inj hs ▸ .cas p g v vi hc (.inr hop)
    · exact Option.some.inj hs ▸ .move p _ _ .casFail
  case wLock.some g p =>
    split at hs
    · cases hs
    · rename_i hlk
      exact Option.some.inj hs ▸ .acq _ _ g _ _ .w (Option.not_isSome_iff_eq_none.1 hlk)
  case wCheck.some g p =>
    split at hs
    · rename_i hc
      exact Option.some.inj hs ▸ .move p _ _ (.checkOk hc)
    · rename_i hc
      exact Option.some.inj hs ▸ .move p _ _ (.checkFail (Bool.eq_false_iff.2 hc))
  case wStore.some g p =>
    exact Option.some.inj hs ▸ .store p g
  case wUnlock.some g res retry p =>
    cases retry
    · exact Option.some.inj hs ▸ .unlockFin p g res
    · exact Option.some.inj hs ▸ .rel _ _ g _ _ .w
  case tNext.none =>
    split at hs
    · rename_i hm
      exact Option.some.inj hs ▸ .tmove _ _ (.nextDone hm)
    · exact Option.some.inj hs ▸ .tmove _ _ .nextCell
  case tCell.none j =>
    split at hs
    · rename_i hc
      exact Option.some.inj hs ▸ .tmove _ _ (.cellEmpty hc)
    · rename_i xs hc
      exact Option.some.inj hs ▸ .tmove _ _ (.cellList hc)
    · rename_i hc
      exact Option.some.inj hs ▸ .tmove _ _ (.cellMoved hc)
  case tCasMoved.none j =>
    split at hs
    · rename_i hc
      exact Option.some.inj hs ▸ .casMoved j hc
    · rename_i hc
      exact Option.some.inj hs ▸ .tmove _ _ (.casFail hc)
  case tLock.none j =>
    split at hs
    · cases hs
    · rename_i hlk
      exact Option.some.inj hs ▸ .acq _ _ _ j _ .t (Option.not_isSome_iff_eq_none.1 hlk)
  case tCheck.none j =>
    split at hs
    · rename_i xs hc
      exact Option.some.inj hs ▸ .tmove _ _ (.checkOk hc)
    · rename_i hc
      cases hs
      refine .rel _ _ _ j _ (.tFail ?_)
      cases hcc : getCell s s.cur j with
      | list xs => exact absurd hcc (hc xs)
      | empty => rfl
      | moved => rfl
  case tStoreLow.none j lo hi =>
    exact Option.some.inj hs ▸ .storeLow j lo hi
  case tStoreHigh.none j hi =>
    exact Option.some.inj hs ▸ .storeHigh j hi
  case tStoreMoved.none j =>
    exact Option.some.inj hs ▸ .storeMoved j
  case tUnlock.none j =>
    exact Option.some.inj hs ▸ .rel _ _ _ j _ .t
  case tCommit.none =>
    exact Option.some.inj hs ▸ .commit

theorem reachable_induction {n : Nat} {P : State → Prop} (h0 : P (init n))
    (hstep : ∀ {s s' t l}, Reachable n s → P s → s.threads[t]? = some l → StepK s t l s' → P s') {s : State}
    (hr : Reachable n s) : P s := by
  induction hr with
  | init => exact h0
  | @step s s' t inv rz pick hr hs ih =>
    cases hl : s.threads[t]? with
    | none => unfold step stepG at hs; rw [hl] at hs; cases hs
    | some l => exact hstep hr ih hl (step_stepK hl hs)

end Flurry.Proto.BinNA
