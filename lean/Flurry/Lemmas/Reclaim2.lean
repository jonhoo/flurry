import Flurry.Proto.Reclaim2
import Flurry.Lemmas.ReclaimBasic
/-! # The invariant of the generalised reclamation discipline `Proto/Reclaim2` (C03, C04)

`step` is inverted event by event (`step_enter` … `step_free`). `Lemmas/ReclaimBasic`, which is about the other
model `Proto/Reclaim`, is imported for `Proto.ite_some_inv` alone. -/
namespace Flurry.Proto.Reclaim2

theorem step_enter {s s' : State} {t : Nat} (h : step s (.enter t) = some s') :
    (t < s.nthreads ∧ s.guarded t = false) ∧
      s' = { s with guarded := fun x => if x = t then true else s.guarded x } := ite_some_inv h

theorem step_exit {s s' : State} {t : Nat} (h : step s (.exit t) = some s') :
    s.guarded t = true ∧
      s' = { s with guarded := fun x => if x = t then false else s.guarded x
                    holds := fun x => if x = t then [] else s.holds x
                    objs := fun o => prune t (s.objs o) } := ite_some_inv h

theorem step_alloc {s s' : State} {t : Nat} (h : step s (.alloc t) = some s') :
    s.guarded t = true ∧
      s' = { s with nobjs := s.nobjs + 1, holds := fun x => if x = t then s.nobjs :: s.holds t else s.holds x } :=
  ite_some_inv h

theorem step_publish {s s' : State} {t o : Nat} (h : step s (.publish t o) = some s') :
    (o < s.nobjs ∧ s.objs o = .fresh ∧ s.guarded t = true) ∧ s' = setObj s o .linked := ite_some_inv h

theorem step_acquire {s s' : State} {t o : Nat} (h : step s (.acquire t o) = some s') :
    (s.guarded t = true ∧ o < s.nobjs ∧ acquirable t (s.objs o) = true) ∧
      s' = { s with holds := fun x => if x = t then o :: s.holds t else s.holds x } := ite_some_inv h

theorem step_touch {s s' : State} {t o : Nat} (h : step s (.touch t o) = some s') :
    o ∈ s.holds t ∧ s' = if s.objs o = .freed then { s with badTouches := s.badTouches + 1 } else s :=
  ite_some_inv h

theorem step_unlink {s s' : State} {t o : Nat} (h : step s (.unlink t o) = some s') :
    s.objs o = .linked ∧ s' = setObj s o (.unlinked (active s)) := ite_some_inv h

theorem step_retire {s s' : State} {t o : Nat} (h : step s (.retire t o) = some s') :
    ∃ u, s.objs o = .unlinked u ∧ s.guarded t = true ∧ s' = setObj s o (.retired u (active s)) := by
  have h : (match s.objs o with
    | .unlinked u => if s.guarded t = true then some (setObj s o (.retired u (active s))) else none
    | _ => none) = some s' := h
  split at h
  · exact ⟨_, ‹_›, ite_some_inv h⟩
  · cases h

theorem step_free {s s' : State} {o : Nat} (h : step s (.free o) = some s') :
    ∃ u, s.objs o = .retired u [] ∧
      s' = { (setObj s o .freed) with frees := fun x => if x = o then s.frees o + 1 else s.frees x } := by
  have h : (match s.objs o with
    | .retired _ [] => some { (setObj s o .freed) with frees := fun x => if x = o then s.frees o + 1 else s.frees x }
    | _ => none) = some s' := h
  split at h
  · exact ⟨_, ‹_›, (Option.some.inj h).symm⟩
  · cases h

/-- thread `t` may hold a pointer to an object in this state -/
def Holdable (t : Nat) : OSt → Prop
  | .fresh => True
  | .linked => True
  | .unlinked u => t ∈ u
  | .retired u _ => t ∈ u
  | .freed => False

/-- the sets an unlinked or retired object carries are as they should be, given who is under a guard: the
unlink-time set holds guarded threads only, and the collector waits for all of them -/
def SetsOK (g : Nat → Bool) : OSt → Prop
  | .unlinked u => ∀ x ∈ u, g x = true
  | .retired u w => u ⊆ w ∧ ∀ x ∈ u, g x = true
  | _ => True

structure Inv (s : State) : Prop where
  /-- the reader invariant: a pointer is held only under a guard, to an object that is not yet unlinked or was
  unlinked while the holder was under its current guard -/
  hold : ∀ t o, o ∈ s.holds t → s.guarded t = true ∧ o < s.nobjs ∧ Holdable t (s.objs o)
  sets : ∀ o, SetsOK s.guarded (s.objs o)
  thr : ∀ t, s.guarded t = true → t < s.nthreads
  fresh : ∀ o, s.nobjs ≤ o → s.objs o = .fresh
  frees : ∀ o, s.frees o = if s.objs o = .freed then 1 else 0
  bad : s.badTouches = 0

theorem Inv.waitFor_covers {s : State} (I : Inv s) {o : Nat} {u w : List Nat} (h : s.objs o = .retired u w) : u ⊆ w := by
  have := I.sets o
  rw [h] at this; exact this.1

theorem SetsOK.mono {g g' : Nat → Bool} {st : OSt} (hg : ∀ x, g x = true → g' x = true) (h : SetsOK g st) :
    SetsOK g' st := by
  cases st with
  | unlinked u => exact fun x hx => hg x (h x hx)
  | retired u w => exact ⟨h.1, fun x hx => hg x (h.2 x hx)⟩
  | _ => trivial

theorem SetsOK.prune {g g' : Nat → Bool} {t : Nat} {st : OSt} (hg : ∀ x, x ≠ t → g x = true → g' x = true)
    (h : SetsOK g st) : SetsOK g' (prune t st) := by
  have hf : ∀ {u : List Nat}, (∀ x ∈ u, g x = true) → ∀ x ∈ u.filter (· != t), g' x = true := fun hu x hx => by
    rw [List.mem_filter, bne_iff_ne] at hx
    exact hg x hx.2 (hu x hx.1)
  cases st with
  | unlinked u => exact hf h
  | retired u w =>
    refine ⟨fun x hx => ?_, hf h.2⟩
    rw [List.mem_filter] at hx ⊢
    exact ⟨h.1 hx.1, hx.2⟩
  | _ => trivial

theorem mem_active {s : State} (I : Inv s) {x : Nat} : x ∈ active s ↔ s.guarded x = true := by
  unfold active
  rw [List.mem_filter, List.mem_range]
  exact ⟨fun h => h.2, fun h => ⟨I.thr x h, h⟩⟩

theorem acquirable_holdable {t : Nat} {st : OSt} (h : acquirable t st = true) : Holdable t st := by
  cases st <;> simp_all [acquirable, Holdable]

theorem holdable_prune {t t0 : Nat} {st : OSt} (hne : t ≠ t0) (h : Holdable t st) : Holdable t (prune t0 st) := by
  cases st with
  | unlinked u => simp only [prune, Holdable, List.mem_filter] at h ⊢; exact ⟨h, by simpa using hne⟩
  | retired u w => simp only [prune, Holdable, List.mem_filter] at h ⊢; exact ⟨h, by simpa using hne⟩
  | _ => exact h

theorem prune_freed {t0 : Nat} {st : OSt} : prune t0 st = .freed ↔ st = .freed := by
  cases st <;> simp [prune]

theorem prune_fresh {t0 : Nat} {st : OSt} : prune t0 st = .fresh ↔ st = .fresh := by
  cases st <;> simp [prune]

theorem Inv.init (n : Nat) : Inv (init n) :=
  ⟨fun _ _ h => (nomatch h), fun _ => trivial, fun _ h => (nomatch h), fun _ _ => rfl, fun _ => rfl, rfl⟩

theorem Inv.lt_nobjs {s : State} (I : Inv s) {o : Nat} (h : s.objs o ≠ .fresh) : o < s.nobjs :=
  Nat.lt_of_not_le fun hle => h (I.fresh o hle)

/-- an event that only moves object `o` to `st'` (and, for `free`, counts it in `f`) keeps the invariant if `o` has
been allocated, every holder of `o` may still hold it, and the sets `st'` carries are as they should be -/
theorem Inv.setObj {s : State} (I : Inv s) {o : Nat} {st' : OSt} {f : Nat → Nat} (hlt : o < s.nobjs)
    (hh : ∀ t, o ∈ s.holds t → s.guarded t = true → Holdable t (s.objs o) → Holdable t st')
    (hs : SetsOK s.guarded st') (hfo : f o = if st' = .freed then 1 else 0) (hf : ∀ x, x ≠ o → f x = s.frees x) :
    Inv { setObj s o st' with frees := f } := by
  refine ⟨?_, ?_, I.thr, ?_, ?_, I.bad⟩
  · intro t x hx
    obtain ⟨h1, h2, h3⟩ := I.hold t x hx
    refine ⟨h1, h2, ?_⟩
    show Holdable t (if x = o then st' else s.objs x)
    by_cases e : x = o
    · rw [if_pos e]; subst e; exact hh t hx h1 h3
    · rw [if_neg e]; exact h3
  · intro x
    show SetsOK s.guarded (if x = o then st' else s.objs x)
    by_cases e : x = o
    · rw [if_pos e]; exact hs
    · rw [if_neg e]; exact I.sets x
  · intro x hx
    show (if x = o then st' else s.objs x) = .fresh
    rw [if_neg (fun e : x = o => Nat.not_le.2 hlt (e ▸ hx))]; exact I.fresh x hx
  · intro x
    show f x = if (if x = o then st' else s.objs x) = .freed then 1 else 0
    by_cases e : x = o
    · rw [if_pos e, e, hfo]
    · rw [if_neg e, hf x e]; exact I.frees x

theorem Inv.step {s s' : State} {e : Ev} (I : Inv s) (h : Reclaim2.step s e = some s') : Inv s' := by
  cases e with
  | enter t =>
    obtain ⟨hc, rfl⟩ := step_enter h
    have hg : ∀ x, s.guarded x = true → (if x = t then true else s.guarded x) = true := fun x hx => by
      by_cases e : x = t
      · rw [if_pos e]
      · rw [if_neg e]; exact hx
    refine ⟨?_, fun o => (I.sets o).mono hg, ?_, I.fresh, I.frees, I.bad⟩
    · intro t1 o ho
      obtain ⟨h1, h2, h3⟩ := I.hold t1 o ho
      exact ⟨hg t1 h1, h2, h3⟩
    · intro t1 ht1
      have ht1' : (if t1 = t then true else s.guarded t1) = true := ht1
      by_cases e : t1 = t
      · rw [e]; exact hc.1
      · rw [if_neg e] at ht1'; exact I.thr t1 ht1'
  | exit t =>
    obtain ⟨hc, rfl⟩ := step_exit h
    have hg : ∀ x, x ≠ t → s.guarded x = true → (if x = t then false else s.guarded x) = true :=
      fun x hne hx => by rw [if_neg hne]; exact hx
    refine ⟨?_, fun o => (I.sets o).prune hg, ?_, fun o ho => prune_fresh.2 (I.fresh o ho), ?_, I.bad⟩
    · intro t1 o ho
      have ho' : o ∈ (if t1 = t then [] else s.holds t1) := ho
      by_cases e : t1 = t
      · rw [if_pos e] at ho'; cases ho'
      · rw [if_neg e] at ho'
        obtain ⟨h1, h2, h3⟩ := I.hold t1 o ho'
        exact ⟨hg t1 e h1, h2, holdable_prune e h3⟩
    · intro t1 ht1
      have ht1' : (if t1 = t then false else s.guarded t1) = true := ht1
      by_cases e : t1 = t
      · rw [if_pos e] at ht1'; cases ht1'
      · rw [if_neg e] at ht1'; exact I.thr t1 ht1'
    · intro o
      show s.frees o = if prune t (s.objs o) = .freed then 1 else 0
      rw [I.frees o]
      by_cases hf : s.objs o = .freed
      · rw [if_pos hf, if_pos (prune_freed.2 hf)]
      · rw [if_neg hf, if_neg (fun h => hf (prune_freed.1 h))]
  | alloc t =>
    obtain ⟨hc, rfl⟩ := step_alloc h
    refine ⟨?_, I.sets, I.thr, fun o ho => I.fresh o (Nat.le_of_succ_le ho), I.frees, I.bad⟩
    intro t1 o ho
    have ho' : o ∈ (if t1 = t then s.nobjs :: s.holds t else s.holds t1) := ho
    show s.guarded t1 = true ∧ o < s.nobjs + 1 ∧ Holdable t1 (s.objs o)
    have old : o ∈ s.holds t1 → s.guarded t1 = true ∧ o < s.nobjs + 1 ∧ Holdable t1 (s.objs o) := fun ho =>
      have ⟨h1, h2, h3⟩ := I.hold t1 o ho
      ⟨h1, Nat.lt_succ_of_lt h2, h3⟩
    by_cases e : t1 = t
    · subst e
      rw [if_pos rfl] at ho'
      rcases List.mem_cons.1 ho' with rfl | ho'
      · refine ⟨hc, Nat.lt_succ_self _, ?_⟩
        rw [I.fresh _ (Nat.le_refl _)]; trivial
      · exact old ho'
    · rw [if_neg e] at ho'; exact old ho'
  | publish t o =>
    obtain ⟨hc, rfl⟩ := step_publish h
    exact I.setObj hc.1 (fun _ _ _ _ => trivial) trivial (by rw [I.frees, hc.2.1]; rfl) (fun _ _ => rfl)
  | acquire t o =>
    obtain ⟨hc, rfl⟩ := step_acquire h
    refine ⟨?_, I.sets, I.thr, I.fresh, I.frees, I.bad⟩
    intro t1 o1 ho
    have ho' : o1 ∈ (if t1 = t then o :: s.holds t else s.holds t1) := ho
    by_cases e : t1 = t
    · subst e
      rw [if_pos rfl] at ho'
      rcases List.mem_cons.1 ho' with rfl | ho'
      · exact ⟨hc.1, hc.2.1, acquirable_holdable hc.2.2⟩
      · exact I.hold t1 o1 ho'
    · rw [if_neg e] at ho'; exact I.hold t1 o1 ho'
  | touch t o =>
    obtain ⟨hc, rfl⟩ := step_touch h
    have hnf : s.objs o ≠ .freed := by
      intro hf
      have := (I.hold t o hc).2.2
      rw [hf] at this; exact this
    rw [if_neg hnf]; exact I
  | unlink t o =>
    -- a holder is under its guard, so it is in the unlink-time set
    obtain ⟨hc, rfl⟩ := step_unlink h
    exact I.setObj (I.lt_nobjs (by rw [hc]; nofun)) (fun t1 _ h1 _ => (mem_active I).2 h1)
      (fun x hx => (mem_active I).1 hx) (by rw [I.frees, hc]; rfl) (fun _ _ => rfl)
  | retire t o =>
    -- the unlink-time set is kept, and its members, being under their guards, are all waited for
    obtain ⟨u, hs, hc, rfl⟩ := step_retire h
    have hu : ∀ x ∈ u, s.guarded x = true := by
      have := I.sets o
      rw [hs] at this; exact this
    exact I.setObj (I.lt_nobjs (by rw [hs]; nofun)) (fun t1 _ _ h3 => by rw [hs] at h3; exact h3)
      ⟨fun x hx => (mem_active I).2 (hu x hx), hu⟩ (by rw [I.frees, hs]; rfl) (fun _ _ => rfl)
  | free o =>
    -- the collector waits for nobody, so nobody holds `o`
    obtain ⟨u, hs, rfl⟩ := step_free h
    exact I.setObj (I.lt_nobjs (by rw [hs]; nofun))
      (fun t1 _ _ h3 => by rw [hs] at h3; exact nomatch I.waitFor_covers hs h3) trivial
      (by rw [if_pos rfl, I.frees, hs]; rfl) (fun x e => if_neg e)

theorem Inv.run {s s' : State} (I : Inv s) : ∀ {es : List Ev}, run s es = some s' → Inv s'
  | [], h => by simp only [Reclaim2.run, Option.some.injEq] at h; exact h ▸ I
  | e :: es, h => by
    simp only [Reclaim2.run] at h
    cases hs : Reclaim2.step s e with
    | none => rw [hs] at h; cases h
    | some s1 => rw [hs] at h; exact (I.step hs).run h

theorem reachable_inv {n : Nat} {es : List Ev} {s : State} (h : run (init n) es = some s) : Inv s :=
  (Inv.init n).run h

end Flurry.Proto.Reclaim2
