import Flurry.Lemmas.BinGNPInvW
import Flurry.Lemmas.BinGNPInvQ
/-! # Proto/BinGN: what the per-transition files `Lemmas/BinGNPFactsL.lean`, `BinGNPFactsT1.lean`, `BinGNPFactsT2.lean`,
`BinGNPFactsK.lean` share

The generation a thread works in exists (`gen_of_tabOf`); the pending structures of a thread other than a resizing
thread and the private `TreeBin`s across a store into a writable cell `id`; the abstract state of a key read off the
chain of its cell. A transfer of ANOTHER cell may have pending structures while the cell `id` is written:
`Writable.pend_eq` and `Writable.privBin_back` use `Writable.pend_frame` (the cell under transfer and its children
are not `id`). The lemmas up to `insert_spec` stand in the namespace `FactsL`, which `Lemmas/BinGNPFactsL.lean` continues
(the division of `Lemmas/BinGFactsBase.lean` / `BinGFactsL.lean`). -/
namespace Flurry.Proto.BinGNP
open Flurry.Lin
open Flurry.Proto.BinK (nodeAt binAt absL absL_eq_some_iff get_set HeapStep)
open Store

variable {s s' : State} {t : Nat} {l l' : Local} {p : Pending}

namespace FactsL

theorem side_idOf (tab : Nat) (k : Nat) : k % 2 ^ (idOf tab k).1 = (idOf tab k).2 := rfl

theorem gen_of_tabOf (X : XInv s) {g : Nat} (hl : s.threads[t]? = some l)
    (hg : tabOf l.pc = some g) : g < s.tabs.length := by
  obtain ⟨hle, hnew⟩ := X.tabNew t l g hl hg
  by_cases h : g = s.cur + 1
  · cases hr : s.resizing with
    | false => exact absurd (hnew h) (X.noResz hr _)
    | true => exact X.gen_lt_resz hr hle
  · exact X.gen_lt (by omega)

theorem pend_of_not_xPc {pc : Pc} (h : xPc pc = false) : pend s' pc = pend s pc := by
  cases pc <;> first | rfl | cases h

theorem absOf_id (X : XInv s) {id : Cid} (W : Writable s id) {k : Nat}
    (hside : k % 2 ^ id.1 = id.2) : absOf s k = absL s.heap (chainC s (cellAt s id)) k := by
  rw [absOf_eq, LC_eq_live X.newNotMoved, (W.liveId_iff k).2 hside]

theorem absOf_of_mem (H : HInv s) (X : XInv s) {id : Cid} (W : Writable s id) {i : Nat}
    (hi : i ∈ chainC s (cellAt s id)) : absOf s (nodeAt s.heap i).key = some (nodeAt s.heap i).val := by
  rw [absOf_eq, LC_eq_live X.newNotMoved, W.liveId_of_mem H (Or.inl hi)]
  exact (absL_eq_some_iff (H.cinv id).distinct).2 ⟨i, hi, rfl, rfl⟩

theorem abs_update {κ : Nat} {x : KSt} {res : KRes}
    (habs : ∀ k, absOf s' k = if κ = k then x else absOf s k) (hκ : κ = p.key)
    (hspec : specStep (absOf s p.key) p.op = (x, res)) :
    specStep (absOf s p.key) p.op = (absOf s' p.key, res) ∧ ∀ k, k ≠ p.key → absOf s' k = absOf s k := by
  subst hκ
  exact ⟨by rw [habs p.key, if_pos rfl]; exact hspec, fun k hk => by rw [habs k, if_neg (fun e => hk e.symm)]⟩

theorem insert_spec {op : KOp} {v vi : Nat} (hop : op = .ins v vi ∨ op = .tryIns v vi) :
    specStep none op = (some (v, vi), .none) := by
  rcases hop with hop | hop <;> rw [hop] <;> rfl

end FactsL
open FactsL

theorem Writable.pend_eq {id : Cid} (W : Writable s id) (H : HInv s) (X : XInv s)
    (hcur : s'.cur = s.cur) (hoth : ∀ id', id' ≠ id → cellAt s' id' = cellAt s id') {t1 : Nat} {l1 : Local}
    (h1 : s.threads[t1]? = some l1) : pend s' l1.pc = pend s l1.pc := by
  cases hx : xPc l1.pc with
  | false => exact pend_of_not_xPc hx
  | true =>
    cases hp : pend s l1.pc with
    | nil => exact pend_nil_indep hp
    | cons C rest =>
      obtain ⟨j0, hj0, _, hlo, hhi, _⟩ := W.pend_frame H X h1 hx (C := C) (by rw [hp]; simp)
      rw [← hp]
      refine pend_congr hcur ?_
      intro j hj
      rw [hj0] at hj; cases hj
      exact ⟨hoth _ hlo, hoth _ hhi⟩

theorem privBin_back0 {b : Nat}
    (hthr : s'.threads = s.threads.set t l') (hcur : s'.cur = s.cur)
    (hpend : ∀ (t1 : Nat) (l1 : Local), t1 ≠ t → s.threads[t1]? = some l1 → (.tree b : Cell) ∈ pend s' l1.pc →
      (.tree b : Cell) ∈ pend s l1.pc)
    (hself : (.tree b : Cell) ∉ pend s' l'.pc)
    (hc0 : ∀ (t1 : Nat) (l1 : Local) (j : Nat), s.threads[t1]? = some l1 → (.tree b : Cell) ∈ pend s l1.pc →
      xIdx l1.pc = some j → cellAt s (s.cur, j) = .tree b → cellAt s' (s.cur, j) = .tree b)
    (h : PrivBin s' b) : PrivBin s b := by
  obtain ⟨t1, l1, h1, hp, hc⟩ := h
  rw [hthr] at h1
  rcases get_set h1 with ⟨rfl, rfl⟩ | ⟨hne, h1⟩
  · exact absurd hp hself
  · have hp0 := hpend t1 l1 hne h1 hp
    refine ⟨t1, l1, h1, hp0, ?_⟩
    intro j hj e
    have := hc j hj
    rw [hcur] at this
    exact this (hc0 t1 l1 j h1 hp0 hj e)

theorem Writable.privBin_back {id : Cid} (W : Writable s id) (H : HInv s) (X : XInv s)
      {b : Nat} (hthr : s'.threads = s.threads.set t l') (hcur : s'.cur = s.cur)
    (hoth : ∀ id', id' ≠ id → cellAt s' id' = cellAt s id') (hself : (.tree b : Cell) ∉ pend s' l'.pc)
    (h : PrivBin s' b) : PrivBin s b := by
  refine privBin_back0 hthr hcur (fun t1 l1 _ h1 hm => by rw [W.pend_eq H X hcur hoth h1] at hm; exact hm) hself ?_ h
  intro t1 l1 j h1 hm hj e
  obtain ⟨j0, hj0, hne, _⟩ := W.pend_frame H X h1 (xPc_of_xIdx hj) hm
  rw [hj] at hj0; cases hj0
  rw [hoth _ hne]; exact e

/-- the lock invariant after a step of thread `t` that keeps the lock word and the mutex it holds, leaves lock
words and the synchronisation words of the `TreeBin`s alone (`TreeBin`s may be added), and changes cells only where `t`
is validated or the cell is empty -/
theorem linv_keep (L : LInv s) (hl : s.threads[t]? = some l)
    (hthr : s'.threads = s.threads.set t l') (hcur : s'.cur = s.cur)
    (hlock : ∀ h, (nodeAt s'.heap h).lock = (nodeAt s.heap h).lock) (htlen : s.tbins.length ≤ s'.tbins.length)
    (hsync : ∀ b, (binAt s'.tbins b).mutex = (binAt s.tbins b).mutex ∧
      (binAt s'.tbins b).writer = (binAt s.tbins b).writer ∧ (binAt s'.tbins b).waiter = (binAt s.tbins b).waiter ∧
      (binAt s'.tbins b).readers = (binAt s.tbins b).readers)
    (eL : holdsLock l'.pc = holdsLock l.pc) (eM : holdsMutex l'.pc = holdsMutex l.pc)
    (hvL : ∀ h, validL l'.pc = some h → cellAt s' (cidOf s' l') = .list h)
    (hvT : ∀ b, validT l'.pc = some b → cellAt s' (cidOf s' l') = .tree b)
    (hvo : ∀ id, cellAt s' id = cellAt s id ∨ (validated l.pc = true ∧ cidOf s l = id) ∨ cellAt s id = .empty)
    (hbits : ∀ id b, cellAt s' id = .tree b → (∃ id0, cellAt s id0 = .tree b) ∨
      ((binAt s.tbins b).mutex = none ∧ (binAt s.tbins b).writer = false ∧ (binAt s.tbins b).waiter = false))
    (hwr : ∀ b, holdsMutex l.pc = some b → (∃ id, cellAt s' id = .tree b) →
      wr l'.pc = wr l.pc ∧ (isLoop l.pc = true → isLoop l'.pc = true))
    (eR : holdsRead l'.pc = holdsRead l.pc) (eB : ∀ b, binRef l'.pc = some b → binRef l.pc = some b)
    (hpriv : ∀ b, b < s.tbins.length → PrivBin s' b → PrivBin s b) : LInv s' :=
  LInv.of_parts
    (lk_step L hl hthr hcur (lockfun_same L hl eL hlock) (fun h hp => Or.inl (eL ▸ hp)) hvL hvo)
    (mx_step L hl hthr hcur (mutexfun_same L hl eM (fun b => (hsync b).1)) (fun b hp => Or.inl (eM ▸ hp)) hvT hvo)
    (rw_gen L hl hthr hbits htlen (fun b => ⟨(hsync b).1, (hsync b).2.1, (hsync b).2.2.1⟩)
      (fun b _ => by rw [(hsync b).2.2.2, eR])
      (fun b hb _ => by rw [(hsync b).2.2.2, Flurry.Proto.BinK.binAt_ge hb]; rfl)
      (fun b hw => by rw [(hsync b).2.2.2]; exact L.wrd b hw) hwr (fun b hr => Or.inl (eB b hr)) hpriv)

/-- **a store of a validated thread (or the CAS into the empty cell) into the structure of cell `id`** that leaves the
lock words and the synchronisation words alone: afterwards the thread holds what it held and has nothing pending.
What depends on the contents of the cell is asked for a `TreeBin` only: one in the cell before (`hwr`, `hfirst`,
`htreeb`, `hlive`: it stays, or it is dead with its write lock held) and one in the cell afterwards (`hafter`: it was
there, or it is the private bin of the treeifying thread itself; `htree`, `hchain`: its tree and its list agree). -/
theorem eff_cstore {id : Cid} {P P' : Nat → Prop} (I : Inv s) (W : Writable s id) (T : Touch s s' id)
    (hs : HeapStep s.heap (chainC s (cellAt s id)) P s'.heap (chainC s' (cellAt s' id)) P') (hP : ∀ j, P j → PrivK s j)
    (hl : s.threads[t]? = some l)
    (hv : (validated l.pc = true ∧ cidOf s l = id) ∨ (cellAt s id = .empty ∧ validT l.pc = none))
    (hthr : s'.threads = s.threads.set t l') (H' : HInv s') (T' : TInv s')
    (htlen : s'.tbins.length = s.tbins.length)
    (hsync : ∀ b, (binAt s'.tbins b).mutex = (binAt s.tbins b).mutex ∧
      (binAt s'.tbins b).writer = (binAt s.tbins b).writer ∧ (binAt s'.tbins b).waiter = (binAt s.tbins b).waiter ∧
      (binAt s'.tbins b).readers = (binAt s.tbins b).readers)
    (XS' : XShape s')
    (hlock : ∀ h', (nodeAt s'.heap h').lock = (nodeAt s.heap h').lock)
    (e1 : holdsLock l'.pc = holdsLock l.pc)
    (e2 : ∀ h, validL l'.pc = some h → cellAt s' (cidOf s' l') = .list h)
    (e3 : ∀ b, validT l'.pc = some b → cellAt s' (cidOf s' l') = .tree b)
    (e4 : holdsMutex l'.pc = holdsMutex l.pc) (e5 : holdsRead l'.pc = holdsRead l.pc)
    (e6 : ∀ b, binRef l'.pc = some b → binRef l.pc = some b) (e7 : xPc l'.pc = false) (e8 : pend s' l'.pc = [])
    (e9 : ∀ p, l'.call = some p → PcInv s' p l'.pc) (e10 : KInv s' l'.pc)
    (hnm : cellAt s' id ≠ .moved)
    (hwr : ∀ b, holdsMutex l.pc = some b → (∃ id, cellAt s' id = .tree b) →
      wr l'.pc = wr l.pc ∧ (isLoop l.pc = true → isLoop l'.pc = true))
    (hfirst : ∀ b, cellAt s id = .tree b → (binAt s'.tbins b).first ≠ (binAt s.tbins b).first → cellAt s' id = .tree b)
    (htreeb : ∀ b k, cellAt s id = .tree b → absTree s' b k ≠ absTree s b k → cellAt s' id = .tree b)
    (hlive : ∀ b, cellAt s id = .tree b → cellAt s' id = .tree b ∨ (¬ InCell s' b ∧ (binAt s'.tbins b).writer = true))
    (hafter : ∀ b, cellAt s' id = .tree b → cellAt s id = .tree b ∨ ((∃ tab k h, l.pc = .kStore tab k h b) ∧
      ((binAt s.tbins b).mutex = none ∧ (binAt s.tbins b).writer = false ∧ (binAt s.tbins b).waiter = false) ∧ PrivBin s b))
    (htree : ∀ b, cellAt s' id = .tree b → ∀ j, j < s'.heap.length → (nodeAt s'.heap j).owner = some b →
      (nodeAt s'.heap j).inTree = true → j ∉ chainOfBin s' b →
      (∃ tab res, l'.pc = .tRestructure tab b j res) ∨ (∃ tab res, l'.pc = .tUntreeify tab b res))
    (hchain : ∀ b, cellAt s' id = .tree b → ∀ j ∈ chainOfBin s' b, (nodeAt s'.heap j).inTree = false →
      ∃ tab, l'.pc = .tTreeLinkLocked tab b j) : Eff s s' := by
  have hvo : ∀ id', cellAt s' id' = cellAt s id' ∨ (validated l.pc = true ∧ cidOf s l = id') ∨ cellAt s id' = .empty := by
    intro id'
    by_cases hne : id' = id
    · subst hne
      rcases hv with h | h
      · exact Or.inr (Or.inl h)
      · exact Or.inr (Or.inr h.1)
    · exact Or.inl (T.cells id' hne)
  have L' : LInv s' := by
    refine linv_keep I.lock hl hthr T.cur hlock (Nat.le_of_eq htlen.symm) hsync e1 e4 e2 e3 hvo ?_ hwr e5 e6
      (fun b' _ h => W.privBin_back I.heap I.rsz hthr T.cur T.cells (by rw [e8]; exact fun h => by cases h) h)
    intro id' b hc
    by_cases hne : id' = id
    · subst hne
      rcases hafter b hc with h | ⟨_, hbits, _⟩
      · exact Or.inl ⟨_, h⟩
      · exact Or.inr hbits
    · rw [T.cells id' hne] at hc; exact Or.inl ⟨id', hc⟩
  have Iv' : Inv s' := inv_store I W T hl hv hthr H' T' L' XS' e7 (fun b hc => (hafter b hc).imp (fun h => h) (·.1)) e9 e10
    htree hchain
  exact eff_store Iv' I W T
    (kstep_of_store I W H' T hs hP (W.moved_iff I.rsz T.cells hnm) hl hthr
      (fun tab k h b e => absurd e (not_kStore_of_pend e8 tab k h b)) (fun _ => e8)) hnm
    hfirst htreeb (fun b _ hw => Or.inl (by rw [(hsync b).2.1]; exact hw)) hlive
    (fun b hc => (hafter b hc).imp (fun h => h) (·.2.2))

end Flurry.Proto.BinGNP
