import Flurry.Lemmas.BinNHDefs
/-! # Proto/BinNH: the transitions in normal form

`StepH s t s'` lists the transitions of thread `t` with explicit successor states: a reader's / writer's
transition is literally one of `Proto/BinN` (`BinN.StepK`, also the idle step and the invocation), an idle thread
joins or starts a resize, a resizing thread makes an `HStep`. `stepH_of_step` dissects `step` once; `step_stepH` is its
form for an enabled step. The pc-only moves `HMove` of a helper after a load (`cellEmpty`, `cellNode`, `cellMoved`,
`casFail`) do not record what was loaded: nothing the invariants say depends on it (what a helper relies on it
re-checks under the lock: `checkOk`). -/
namespace Flurry.Proto.BinNH
open Flurry.Lin
open Flurry.Proto.BinX (NodeS Cell Pending isReader dflt chainFrom cellHead cellOfHead)
open Flurry.Proto.BinN (cellAt putCell setNode allMoved splitBinB bitAt StepK tick setT)

/-- the middle phase: between the split and the store of the marker -/
def midPc : HPc → Prop
  | .storeLow _ _ _ _ | .storeHigh _ _ _ | .storeMoved _ _ => True
  | _ => False

/-- transitions of a resizing thread of generation `g` that only change its program counter (`none`: it
becomes idle) -/
inductive HMove (n : BinN.State) (g : Nat) : HPc → Option HPc → Prop
  /-- the resize it worked for is over, or it leaves -/
  | quit : HMove n g .next none
  | done : g = n.cur → allMoved n g = true → HMove n g .next (some .commit)
  | pick (j : Nat) : j < 2 ^ g → HMove n g .next (some (.cell j))
  | cellEmpty {j : Nat} : HMove n g (.cell j) (some (.casMoved j))
  | cellNode {j h : Nat} : HMove n g (.cell j) (some (.lock j h))
  | cellMoved {j : Nat} : HMove n g (.cell j) (some .next)
  | casFail {j : Nat} : HMove n g (.casMoved j) (some (.cell j))
  | checkOk {j h : Nat} : cellAt n g j = .node h → HMove n g (.check j h) (some (.build j h))
  /-- a commit that comes too late -/
  | late : HMove n g .commit none

/-- the transitions of a resizing thread `t` of generation `g`: shared memory and program counter afterwards -/
inductive HStep (n : BinN.State) (t g : Nat) : HPc → BinN.State → Option HPc → Prop
  | move {pc : HPc} {po : Option HPc} : HMove n g pc po → HStep n t g pc (tickN n) po
  | lock (j h : Nat) {nd : NodeS} : n.heap[h]? = some nd → nd.lock = none →
      HStep n t g (.lock j h) (setNode (tickN n) h (fun m => { m with lock := some t })) (some (.check j h))
  | unlockC (j h : Nat) : HStep n t g (.check j h) (setNode (tickN n) h (fun m => { m with lock := none })) (some (.cell j))
  | unlockU (j h : Nat) : HStep n t g (.unlock j h) (setNode (tickN n) h (fun m => { m with lock := none })) (some .next)
  | build (j h : Nat) :
      HStep n t g (.build j h)
        { tickN n with heap := (splitBinB (bitAt g) n.heap (chainFrom n.heap n.heap.length (some h))).1 }
        (some (.storeLow j h (splitBinB (bitAt g) n.heap (chainFrom n.heap n.heap.length (some h))).2.1
          (splitBinB (bitAt g) n.heap (chainFrom n.heap n.heap.length (some h))).2.2))
  | cas (j : Nat) : cellAt n g j = .empty → HStep n t g (.casMoved j) (putCell (tickN n) g j .moved) (some .next)
  | low (j h : Nat) (lo hg : Option Nat) :
      HStep n t g (.storeLow j h lo hg) (putCell (tickN n) (g + 1) j (cellOfHead lo)) (some (.storeHigh j h hg))
  | high (j h : Nat) (hg : Option Nat) :
      HStep n t g (.storeHigh j h hg) (putCell (tickN n) (g + 1) (j + 2 ^ g) (cellOfHead hg)) (some (.storeMoved j h))
  | marker (j h : Nat) : HStep n t g (.storeMoved j h) (putCell (tickN n) g j .moved) (some (.unlock j h))
  | commit : g = n.cur → n.resizing = true → HStep n t g .commit (commitN n) none

theorem HMove.not_mid {n : BinN.State} {g : Nat} {pc : HPc} {po : Option HPc} (h : HMove n g pc po) :
    ¬ midPc pc ∧ ∀ pc', po = some pc' → ¬ midPc pc' := by
  cases h <;> exact ⟨fun h => h, fun _ e => by cases e <;> exact fun h => h⟩

theorem hstep_of_helperStep (s : State) (t g : Nat) (pc : HPc) (leave : Bool) (pick : Nat) :
    (helperStep true s t g pc leave pick).elim True fun s' =>
      ∃ po, HStep s.n t g pc s'.n po ∧ s' = setH s t s'.n (po.map fun pc' => ⟨g, pc'⟩) := by
  unfold helperStep
  cases pc with
  | next =>
    show (if g ≠ s.n.cur ∨ s.n.resizing = false then _ else _ : Option State).elim True _
    split
    · exact ⟨none, .move .quit, rfl⟩
    · rename_i hval
      show (if leave = true then _ else _ : Option State).elim True _
      split
      · exact ⟨none, .move .quit, rfl⟩
      · have hg : g = s.n.cur := Classical.byContradiction fun e => hval (Or.inl e)
        show (if allMoved _ g = true then _ else _ : Option State).elim True _
        split
        · rename_i hall; exact ⟨_, .move (.done hg hall), rfl⟩
        · exact ⟨_, .move (.pick _ (Nat.mod_lt _ (Nat.pos_of_ne_zero (by simp)))), rfl⟩
  | cell j =>
    show (match cellAt _ g j with | .empty => _ | .node h => _ | .moved => _ : Option State).elim True _
    split
    · exact ⟨_, .move .cellEmpty, rfl⟩
    · exact ⟨_, .move .cellNode, rfl⟩
    · exact ⟨_, .move .cellMoved, rfl⟩
  | casMoved j =>
    show (if _ then _ else _ : Option State).elim True _
    split
    · rename_i hc; exact ⟨_, .cas j (eq_of_beq hc), rfl⟩
    · exact ⟨_, .move .casFail, rfl⟩
  | lock j h =>
    show (match s.n.heap[h]? with | none => none | some nd => _ : Option State).elim True _
    split
    · exact True.intro
    · rename_i nd hn
      show (if _ then _ else _ : Option State).elim True _
      split
      · exact True.intro
      · rename_i hfree; exact ⟨_, .lock j h hn (Option.not_isSome_iff_eq_none.1 hfree), rfl⟩
  | check j h =>
    show (if (!true || cellAt _ g j == .node h) = true then _ else _ : Option State).elim True _
    split
    · rename_i hc; exact ⟨_, .move (.checkOk (n := s.n) (eq_of_beq hc)), rfl⟩
    · exact ⟨_, .unlockC j h, rfl⟩
  | build j h => exact ⟨_, .build j h, rfl⟩
  | storeLow j h lo hg => exact ⟨_, .low j h lo hg, rfl⟩
  | storeHigh j h hg => exact ⟨_, .high j h hg, rfl⟩
  | storeMoved j h => exact ⟨_, .marker j h, rfl⟩
  | unlock j h => exact ⟨_, .unlockU j h, rfl⟩
  | commit =>
    show (if g = s.n.cur ∧ s.n.resizing = true then _ else _ : Option State).elim True _
    split
    · rename_i hc; exact ⟨none, .commit hc.1 hc.2, rfl⟩
    · exact ⟨none, .move .late, rfl⟩

inductive StepH (s : State) (t : Nat) : State → Prop
  /-- a reader's / writer's transition, an idle step, an invocation: a transition of `Proto/BinN` (other than the
  start of a resize) -/
  | rw {l : BinN.Local} {n' : BinN.State} : s.n.threads[t]? = some l → s.hs[t]? = some none → StepK s.n t l 0 n' →
      (l.pc = .idle → n'.resizing = s.n.resizing) → StepH s t { s with n := n' }
  | join {l : BinN.Local} : s.n.threads[t]? = some l → s.hs[t]? = some none → l.pc = .idle → s.n.resizing = true →
      StepH s t (setH s t (tickN s.n) (some ⟨s.n.cur, .next⟩))
  | start {l : BinN.Local} : s.n.threads[t]? = some l → s.hs[t]? = some none → l.pc = .idle → s.n.resizing = false →
      StepH s t (setH s t (allocN s.n) (some ⟨s.n.cur, .next⟩))
  | helper {l : BinN.Local} {hp : Helper} {n' : BinN.State} {po : Option HPc} : s.n.threads[t]? = some l →
      s.hs[t]? = some (some hp) → HStep s.n t hp.g hp.pc n' po → StepH s t (setH s t n' (po.map fun pc' => ⟨hp.g, pc'⟩))

theorem stepH_of_step (s : State) (t : Nat) (inv : Option (Nat × KOp)) (rz leave : Bool) (pick : Nat) :
    (step s t inv rz leave pick).elim True (StepH s t) := by
  unfold step stepG
  cases hl : s.n.threads[t]? with
  | none => exact True.intro
  | some l =>
    cases hh : s.hs[t]? with
    | none => exact True.intro
    | some ho =>
      cases ho with
      | some hp =>
        show (helperStep true s t hp.g hp.pc leave pick).elim True _
        have := hstep_of_helperStep s t hp.g hp.pc leave pick
        cases hs : helperStep true s t hp.g hp.pc leave pick with
        | none => exact True.intro
        | some s' =>
          rw [hs] at this
          obtain ⟨po, hst, es⟩ := this
          show StepH s t s'
          rw [es]; exact .helper hl hh hst
      | none =>
        show (if l.pc = .idle then _ else _ : Option State).elim True _
        split
        · rename_i hi
          cases rz with
          | true =>
            show (if s.n.resizing = true then _ else _ : Option State).elim True _
            split
            · rename_i R; exact .join hl hh hi R
            · rename_i R; exact .start hl hh hi (Bool.not_eq_true _ ▸ R)
          | false =>
            cases inv with
            | none =>
              show StepH s t { s with n := tickN s.n }
              have e : tickN s.n = setT (tick s.n) t l := (BinN.setT_self (s := tick s.n) hl).symm
              rw [e]; exact .rw hl hh (.idle hi) fun _ => rfl
            | some ko => exact .rw hl hh (.invoke ko.1 ko.2 hi) fun _ => rfl
        · rename_i hni
          show ((BinN.stepG true s.n t none false 0).map _).elim True _
          cases hn : BinN.stepG true s.n t none false 0 with
          | none => exact True.intro
          | some n' =>
            exact .rw hl hh (BinN.step_stepK hl (show BinN.step s.n t none false 0 = some n' from hn))
              fun hi => absurd hi hni

theorem step_stepH {s s' : State} {t : Nat} {inv : Option (Nat × KOp)} {rz leave : Bool} {pick : Nat}
    (hs : step s t inv rz leave pick = some s') : StepH s t s' := by
  have := stepH_of_step s t inv rz leave pick
  rwa [hs] at this

end Flurry.Proto.BinNH
