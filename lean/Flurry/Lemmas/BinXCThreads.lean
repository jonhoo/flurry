import Flurry.Lemmas.BinXCMem
import Flurry.Lemmas.GhostView
/-! # Proto/BinXC: the thread-level invariants are preserved (C01, C04)

Generic preservation lemmas for `TInv` (times and operations), `PInv` (program counters vs. phase),
`LInv` (locks) and `WInv` (walks), parameterised by the memory effect `MemStep` of the transition and
by the obligations of the stepping thread itself. -/
namespace Flurry.Proto.BinXC
open Flurry.Lin
open Flurry.Proto.BinX (Ghost CellId Active MemStep get_set get_set_self get_set_ne)

/-- how `GhostView.Threads` reads a thread, for `TInv` (times and invocation stamps). `res` is left empty: which calls
are past their point depends on the key (a `clear` is past its point for every key it is done with); the trace of key
`k` reads the threads through `viewK k` (`Lemmas/BinXCGhost.lean`). -/
@[reducible] def view : GhostView.View Local Pending KOp KRes :=
  ⟨Local.call, fun _ => none, Pending.key, Pending.op, Pending.inv⟩

theorem TInv.gen {s : State} (T : TInv s) :
    GhostView.Threads Lin.sig view (fun l p => PcOp l.pc p.op) s.threads s.hist s.now :=
  ⟨T.opOK, T.histTime, T.pendTime, T.uniqHP, T.uniqPP, T.uniqHH⟩

theorem TInv.of_gen {s : State}
    (T : GhostView.Threads Lin.sig view (fun l p => PcOp l.pc p.op) s.threads s.hist s.now)
    (hc : ∀ (t : Nat) (l : Local), s.threads[t]? = some l → (isOp l.pc ↔ l.call.isSome)) : TInv s :=
  ⟨T.opOK, hc, T.histTime, T.pendTime, T.uniqHP, T.uniqPP, T.uniqHH⟩

theorem tinv_post {s s' : State} {t : Nat} {l l' : Local} {hnew : List (Option Nat × Call)} (T : TInv s)
    (hl : s.threads[t]? = some l) (hthr : s'.threads = s.threads.set t l') (hnow : s'.now = s.now + 1)
    (hhist : s'.hist = hnew ++ s.hist)
    (hop : ∀ p, l'.call = some p → PcOp l'.pc p.op) (hcall : isOp l'.pc ↔ l'.call.isSome)
    (hpend : ∀ p, l'.call = some p → l.call = some p ∨ p.inv = s.now + 1)
    (hdone : hnew = [] ∨ ∃ p ko op res, l.call = some p ∧ l'.call = none ∧
      hnew = [(ko, ⟨t, op, res, p.inv, s.now + 1⟩)]) : TInv s' := by
  refine .of_gen (T.gen.step hl hthr hnow hhist hop hpend ?_) ?_
  · intro x hx
    rcases hdone with rfl | ⟨p, ko, op, res, hp, hn, rfl⟩
    · cases hx
    · cases List.mem_singleton.1 hx
      exact ⟨rfl, hn, rfl, p, hp, rfl⟩
  · intro t1 l1 h1
    rw [hthr] at h1
    rcases get_set h1 with ⟨rfl, rfl⟩ | ⟨_, h1⟩
    · exact hcall
    · exact T.callOK t1 l1 h1

theorem tinv_keep {s s' : State} {t : Nat} {l l' : Local} (T : TInv s)
    (hl : s.threads[t]? = some l) (hthr : s'.threads = s.threads.set t l') (hnow : s'.now = s.now + 1)
    (hhist : s'.hist = s.hist) (hcall : l'.call = l.call)
    (hpc : ∀ p, l.call = some p → PcOp l'.pc p.op) (hop : isOp l'.pc ↔ isOp l.pc) : TInv s' :=
  tinv_post (hnew := []) T hl hthr hnow hhist (fun p h => hpc p (hcall ▸ h))
    (by rw [hop, hcall]; exact T.callOK t l hl) (fun p h => .inl (hcall ▸ h)) (.inl rfl)

theorem tinv_invoke {s s' : State} {t : Nat} {l l' : Local} {k : Nat} {op : KOp} (T : TInv s)
    (hl : s.threads[t]? = some l) (hthr : s'.threads = s.threads.set t l') (hnow : s'.now = s.now + 1)
    (hhist : s'.hist = s.hist) (hcall : l'.call = some ⟨k, op, s.now + 1⟩)
    (hpc : PcOp l'.pc op) (hop : isOp l'.pc) : TInv s' :=
  tinv_post (hnew := []) T hl hthr hnow hhist (fun p h => by cases hcall.symm.trans h; exact hpc)
    (by rw [hcall]; exact ⟨fun _ => rfl, fun _ => hop⟩) (fun p h => by cases hcall.symm.trans h; exact .inr rfl)
    (.inl rfl)

theorem tinv_finish {s s' : State} {t : Nat} {l l' : Local} {p : Pending} {res : KRes} {ko : Option Nat} {op : KOp}
    (T : TInv s)
    (hl : s.threads[t]? = some l) (hp : l.call = some p)
    (hthr : s'.threads = s.threads.set t l') (hnow : s'.now = s.now + 1)
    (hhist : s'.hist = (ko, ⟨t, op, res, p.inv, s.now + 1⟩) :: s.hist) (hcall : l'.call = none)
    (hop : ¬ isOp l'.pc) : TInv s' :=
  tinv_post T hl hthr hnow hhist (fun _ h => nomatch hcall.symm.trans h)
    (by rw [hcall]; exact ⟨fun h => absurd h hop, fun h => nomatch h⟩) (fun _ h => nomatch hcall.symm.trans h)
    (.inr ⟨p, ko, op, res, hp, hcall, rfl⟩)

theorem PcPh.of_not_isT {s s' : BinX.State} {g g' : Ghost} {pc : Pc} (hT : ¬ isT pc) (h : PcPh s g pc)
    (hmono : g.ph = .post → g'.ph = .post) : PcPh s' g' pc :=
  (iff_of_not_isT hT).2 fun ht => hmono ((iff_of_not_isT hT).1 h ht)

theorem PcPh.of_cells {s s' : BinX.State} {g : Ghost} {pc : Pc} (h : PcPh s g pc)
    (hcells : ∀ lo hg, g.ph = .mid lo hg → s'.lowCell = s.lowCell ∧ s'.highCell = s.highCell) :
    PcPh s' g pc := by
  cases pc with
  | tStoreLow _ lo hg =>
    obtain ⟨h1, h2, h3⟩ := h
    obtain ⟨e1, e2⟩ := hcells _ _ h1
    exact ⟨h1, e1 ▸ h2, e2 ▸ h3⟩
  | tStoreHigh _ hg =>
    obtain ⟨lo, h1, h2, h3⟩ := h
    obtain ⟨e1, e2⟩ := hcells _ _ h1
    exact ⟨lo, h1, e1 ▸ h2, e2 ▸ h3⟩
  | tStoreMoved _ =>
    obtain ⟨lo, hg, h1, h2, h3⟩ := h
    obtain ⟨e1, e2⟩ := hcells _ _ h1
    exact ⟨lo, hg, h1, e1 ▸ h2, e2 ▸ h3⟩
  | _ => exact h

/-- memory effects of threads other than the resizing one do not change the ghost state, nor the
new cells while the ghost is in its middle phase (between the split and the forwarding) -/
def WStep (s s' : BinX.State) (g g' : Ghost) : Prop :=
  g' = g ∧ ∀ lo hg, g.ph = .mid lo hg → s'.lowCell = s.lowCell ∧ s'.highCell = s.highCell

theorem WStep.of_same {s s' : BinX.State} {g : Ghost} (hL : s'.lowCell = s.lowCell) (hH : s'.highCell = s.highCell) :
    WStep s s' g g := ⟨rfl, fun _ _ _ => ⟨hL, hH⟩⟩

theorem WStep.of_active {s s' : BinX.State} {g : Ghost} {id : CellId} (act : Active g id) : WStep s s' g g :=
  ⟨rfl, fun lo hg hp => absurd hp (act.ne_mid lo hg)⟩

theorem pinv_step {s s' : State} {g g' : Ghost} {t : Nat} {l l' : Local} (I : Inv0 s g)
    (hl : s.threads[t]? = some l) (m : MemStep (mem s) (mem s') (vcell l) g g')
    (hthr : s'.threads = s.threads.set t l')
    (hres : s'.resizing = s.resizing ∨ (s'.resizing = true ∧ s.resizing = false))
    (hlT : isT l.pc ∨ WStep (mem s) (mem s') g g')
    (hself : PcPh (mem s') g' l'.pc)
    (hT : isT l'.pc → isT l.pc ∨ s.resizing = false)
    (hresz : isT l'.pc → s'.resizing = true)
    (hmid : ∀ lo hg, g'.ph = .mid lo hg → (isMidPc l.pc ∨ g.ph ≠ g'.ph) → isMidPc l'.pc) : PInv s' g' := by
  have P := I.ph
  refine ⟨?_, ?_, ?_, ?_, ?_⟩
  · intro t1 l1 h1
    rw [hthr] at h1
    rcases get_set h1 with ⟨rfl, rfl⟩ | ⟨hne, h1⟩
    · exact hself
    · have hold := P.pcPh t1 l1 h1
      by_cases hT1 : isT l1.pc
      · rcases hlT with hlT | hlT
        · exact absurd (P.uniqT t1 t l1 l h1 hl hT1 hlT) hne
        · obtain ⟨rfl, hcells⟩ := hlT
          exact hold.of_cells hcells
      · exact hold.of_not_isT hT1 m.post_mono
  · intro t1 t2 l1 l2 h1 h2 hT1 hT2
    rw [hthr] at h1 h2
    rcases get_set h1 with ⟨e1, e1'⟩ | ⟨hne1, h1'⟩ <;> rcases get_set h2 with ⟨e2, e2'⟩ | ⟨hne2, h2'⟩
    · rw [e1, e2]
    · subst e1 e1'
      rcases hT hT1 with h | h
      · exact P.uniqT _ _ _ _ hl h2' h hT2
      · have := P.resz t2 l2 h2' hT2
        rw [h] at this; cases this
    · subst e2 e2'
      rcases hT hT2 with h | h
      · exact P.uniqT _ _ _ _ h1' hl hT1 h
      · have := P.resz t1 l1 h1' hT1
        rw [h] at this; cases this
    · exact P.uniqT _ _ _ _ h1' h2' hT1 hT2
  · intro t1 l1 h1 hT1
    rw [hthr] at h1
    rcases get_set h1 with ⟨rfl, rfl⟩ | ⟨hne, h1⟩
    · exact hresz hT1
    · have := P.resz t1 l1 h1 hT1
      rcases hres with h | h
      · rw [h]; exact this
      · exact h.1
  · intro hr
    have hr0 : s.resizing = false := by
      rcases hres with h | h
      · rw [← h]; exact hr
      · rw [h.1] at hr; cases hr
    rcases hlT with hlT | hlT
    · have := P.resz t l hl hlT
      rw [hr0] at this; cases this
    · obtain ⟨rfl, -⟩ := hlT
      exact P.noResz hr0
  · intro lo hg hp
    by_cases hgg : g.ph = g'.ph
    · obtain ⟨t1, l1, h1, hm1⟩ := P.midHas lo hg (by rw [hgg]; exact hp)
      by_cases ht : t1 = t
      · subst ht
        rw [hl] at h1; cases h1
        exact ⟨t1, l', by rw [hthr]; exact get_set_self hl, hmid lo hg hp (Or.inl hm1)⟩
      · exact ⟨t1, l1, by rw [hthr, get_set_ne ht]; exact h1, hm1⟩
    · exact ⟨t, l', by rw [hthr]; exact get_set_self hl, hmid lo hg hp (Or.inr hgg)⟩

theorem linv_step {s s' : State} {g g' : Ghost} {t : Nat} {l l' : Local} (I : Inv0 s g)
    (hl : s.threads[t]? = some l) (m : MemStep (mem s) (mem s') (vcell l) g g')
    (hthr : s'.threads = s.threads.set t l')
    (hheld : ∀ (t1 : Nat) (l1 : Local) (h1 : Nat), s'.threads[t1]? = some l1 → Holds l1.pc h1 →
      h1 < (mem s').heap.length ∧ (BinX.nodeAt (mem s').heap h1).lock = some t1)
    (hselfV : ∀ id h, vcell l' = some (id, h) → BinX.getCell (mem s') id = .node h) : LInv s' := by
  refine ⟨hheld, ?_⟩
  intro t1 l1 id h1 hl1 hv
  refine ⟨?_, vcell_holds hv⟩
  rw [hthr] at hl1
  rcases get_set hl1 with ⟨rfl, rfl⟩ | ⟨hne, hl1⟩
  · exact hselfV id h1 hv
  · rw [(I.frame hl m hne hl1 hv).1]
    exact (I.lock.validated t1 l1 id h1 hl1 hv).1

theorem held_quiet {s s' : State} {g : Ghost} {t : Nat} {l l' : Local} (I : Inv0 s g)
    (hl : s.threads[t]? = some l) (hthr : s'.threads = s.threads.set t l')
    (hlen : (mem s).heap.length ≤ (mem s').heap.length)
    (hq : ∀ j, j < (mem s).heap.length → (BinX.nodeAt (mem s').heap j).lock = (BinX.nodeAt (mem s).heap j).lock)
    (hold : ∀ h, Holds l'.pc h → Holds l.pc h) :
    ∀ (t1 : Nat) (l1 : Local) (h1 : Nat), s'.threads[t1]? = some l1 → Holds l1.pc h1 →
      h1 < (mem s').heap.length ∧ (BinX.nodeAt (mem s').heap h1).lock = some t1 := by
  intro t1 l1 h1 hl1 hh
  rw [hthr] at hl1
  have key : ∃ l0, s.threads[t1]? = some l0 ∧ Holds l0.pc h1 := by
    rcases get_set hl1 with ⟨rfl, rfl⟩ | ⟨_, hl1⟩
    · exact ⟨l, hl, hold h1 hh⟩
    · exact ⟨l1, hl1, hh⟩
  obtain ⟨l0, h0, hh0⟩ := key
  obtain ⟨a, b⟩ := I.lock.lockHeld t1 l0 h1 h0 hh0
  exact ⟨Nat.lt_of_lt_of_le a hlen, (hq h1 a).trans b⟩

theorem held_mod {s s' : State} {g : Ghost} {t : Nat} {l' : Local} (I : Inv0 s g)
    (hthr : s'.threads = s.threads.set t l') {i : Nat} {x : Option Nat}
    (hh : (mem s').heap = (mem s).heap.modify i (fun m => { m with lock := x })) (hi : i < (mem s).heap.length)
    (hx : ((BinX.nodeAt (mem s).heap i).lock = none ∧ x = some t ∧ ∀ h, Holds l'.pc h → h = i) ∨
      ((BinX.nodeAt (mem s).heap i).lock = some t ∧ ∀ h, ¬ Holds l'.pc h)) :
    ∀ (t1 : Nat) (l1 : Local) (h1 : Nat), s'.threads[t1]? = some l1 → Holds l1.pc h1 →
      h1 < (mem s').heap.length ∧ (BinX.nodeAt (mem s').heap h1).lock = some t1 := by
  intro t1 l1 h1 hl1 hh1
  rw [hthr] at hl1
  rw [hh, List.length_modify, BinX.nodeAt_modify]
  rcases get_set hl1 with ⟨rfl, rfl⟩ | ⟨hne, hl1⟩
  · rcases hx with ⟨_, rfl, honly⟩ | ⟨_, hnone⟩
    · cases honly h1 hh1
      exact ⟨hi, by rw [if_pos ⟨rfl, hi⟩]⟩
    · exact absurd hh1 (hnone h1)
  · obtain ⟨a, b⟩ := I.lock.lockHeld t1 l1 h1 hl1 hh1
    refine ⟨a, ?_⟩
    split
    · rename_i hc
      obtain ⟨rfl, _⟩ := hc
      rcases hx with ⟨h2, _⟩ | ⟨h2, _⟩ <;> rw [b] at h2 <;> cases h2
      exact absurd rfl hne
    · exact b

theorem WalkOK.congr {s s' : BinX.State} {p : Pending} {pc : Pc} (w : WalkOK s p pc)
    (hf : ∀ tab, tabOf pc = some tab → BinX.cellOf s' (cT tab) p.key = BinX.cellOf s (cT tab) p.key ∧
      BinX.chainH s'.heap (BinX.cellOf s (cT tab) p.key) = BinX.chainH s.heap (BinX.cellOf s (cT tab) p.key) ∧
      ∀ j ∈ BinX.chainH s.heap (BinX.cellOf s (cT tab) p.key), (BinX.nodeAt s'.heap j).key = (BinX.nodeAt s.heap j).key ∧
        (BinX.nodeAt s'.heap j).next = (BinX.nodeAt s.heap j).next) : WalkOK s' p pc := by
  cases pc with
  | wFind tab h pred cur =>
    obtain ⟨h1, h2, h3⟩ := hf tab rfl
    show BinX.Walk s'.heap (BinX.chainH s'.heap (BinX.cellOf s' (cT tab) p.key)) p.key pred cur
    rw [h1, h2]
    exact BinX.Walk.congr w (fun j hj => (h3 j hj).1)
  | wStore tab h pred hit hnext =>
    obtain ⟨h1, h2, h3⟩ := hf tab rfl
    obtain ⟨w1, w2⟩ := w
    refine ⟨?_, ?_⟩
    · show BinX.Walk s'.heap (BinX.chainH s'.heap (BinX.cellOf s' (cT tab) p.key)) p.key pred hit
      rw [h1, h2]
      exact BinX.Walk.congr w1 (fun j hj => (h3 j hj).1)
    · intro i hi
      subst hi
      obtain ⟨e1, e2⟩ := h3 i w1.cur_mem
      rw [e1, e2]; exact w2 i rfl
  | _ => trivial

theorem winv_step {s s' : State} {g g' : Ghost} {t : Nat} {l l' : Local} (I : Inv0 s g)
    (hl : s.threads[t]? = some l) (m : MemStep (mem s) (mem s') (vcell l) g g')
    (hthr : s'.threads = s.threads.set t l')
    (hself : ∀ p, l'.call = some p → WalkOK (mem s') p l'.pc) : WInv s' := by
  refine ⟨?_⟩
  intro t1 l1 p1 hl1 hc1
  rw [hthr] at hl1
  rcases get_set hl1 with ⟨rfl, rfl⟩ | ⟨hne, hl1⟩
  · exact hself p1 hc1
  · have hold := I.walk.walk t1 l1 p1 hl1 hc1
    obtain ⟨pc1, call1⟩ := l1
    simp only at hc1 hold
    subst hc1
    cases pc1 with
    | wFind tab h pred cur | wStore tab h pred hit hnext =>
      obtain ⟨e1, e2, e3⟩ := I.frame hl m hne hl1 (id1 := BinX.cellId (cT tab) p1.key) (h1 := h) rfl
      refine hold.congr ?_
      intro tab' htab
      cases htab
      rw [BinX.cellOf_eq, BinX.cellOf_eq, e1]
      unfold BinX.chId at e2 e3
      rw [e1] at e2
      exact ⟨rfl, e2, e3⟩
    | _ => trivial

end Flurry.Proto.BinXC
