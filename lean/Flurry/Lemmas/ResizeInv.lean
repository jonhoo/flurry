import Flurry.Lemmas.ResizeBasic
/-! # `Inv` is inductive: it holds in every reachable state of the resize protocol

`Inv.step` is one case analysis over the pc of the moving thread. Its cases end in `Inv.move` (the thread
changes its local state and keeps its role), `Inv.setWord` (it also writes `size_ctl`) or
`Inv.setNextTable` (it also writes the next-table flag), all instances of the accounting lemma
`Inv.of_set`, which `processBin` and `pubSwapTable` call directly. What the `LocalOk` of the other
threads needs of the change is `LocalOk.frame`. -/
namespace Flurry.Proto.Resize

variable {n0 nthreads stride : Nat} {s s' : State} {t : Nat} {l l' : Local}

theorem S_le_F (s : State) : S s ≤ F s :=
  List.countP_mono_left (fun l _ h => atStore_isFinisher l h)

theorem Inv.F_le (h : Inv n0 nthreads stride s) : F s ≤ 1 := by
  rw [h.fin_eq]; exact finWord_le _

theorem finWord_eq_one {sc : SC} (h : finWord sc = 1) : ∃ g, sc = .resizing g 1 := by
  unfold finWord at h; split at h
  · exact ⟨_, rfl⟩
  · omega

theorem Inv.counters_of_idle (h : Inv n0 nthreads stride s) {thr : Nat} (hw : s.sizeCtl = .idle thr) :
    P s = 0 ∧ F s = 0 ∧ S s = 0 := by
  have h1 := h.cnt_eq
  have h2 := h.fin_eq
  have h3 := S_le_F s
  rw [hw] at h1 h2
  simp only [cnt, finWord] at h1 h2
  omega

theorem Inv.word_of_finisher (h : Inv n0 nthreads stride s) (hl : s.threads[t]? = some l)
    (hf : isFinisher l = true) : (∃ g, s.sizeCtl = .resizing g 1) ∧ P s = 0 ∧ F s = 1 := by
  have h1 : 0 < F s := countP_pos_of_getElem? hl hf
  have h2 := h.F_le
  have h3 : F s = 1 := by omega
  have h4 := h.fin_eq
  rw [h3] at h4
  obtain ⟨g, hg⟩ := finWord_eq_one h4.symm
  have h5 := h.cnt_eq
  rw [hg] at h5; simp [cnt] at h5
  exact ⟨⟨g, hg⟩, by omega, h3⟩

theorem Inv.word_of_participant (h : Inv n0 nthreads stride s) (hl : s.threads[t]? = some l)
    (hp : participating l = true) :
    ∃ c, s.sizeCtl = .resizing s.gen c ∧ c = 1 + P s ∧ 2 ≤ c ∧ F s = 0 ∧ S s = 0 := by
  have h1 : 0 < P s := countP_pos_of_getElem? hl hp
  have h5 := h.cnt_eq
  cases hsc : s.sizeCtl with
  | idle thr => rw [hsc] at h5; simp [cnt] at h5; omega
  | resizing g c =>
    rw [hsc] at h5; simp [cnt] at h5
    have h4 := h.fin_eq
    have hF : F s = 0 := by
      rw [h4, hsc]; unfold finWord; split
      · rename_i heq; cases heq; omega
      · rfl
    have hS : S s = 0 := by have := S_le_F s; omega
    have := h.gen_eq g c hsc
    have : g = s.gen := by omega
    subst this
    exact ⟨c, rfl, h5, by omega, hF, hS⟩

theorem Inv.others_quiet (h : Inv n0 nthreads stride s) (hl : s.threads[t]? = some l)
    (hf : isFinisher l = true) {u : Nat} {lu : Local} (hu : u ≠ t)
    (hlu : s.threads[u]? = some lu) : quiet lu = true ∧ isFinisher lu = false := by
  obtain ⟨_, hP, hF⟩ := h.word_of_finisher hl hf
  have hnf : isFinisher lu = false := by
    cases hq : isFinisher lu with
    | false => rfl
    | true =>
      exact absurd (countP_le_one_unique (p := isFinisher) (by simpa [F] using h.F_le) hlu hl hq hf) hu
  have hnp : participating lu = false := by
    simpa using List.countP_eq_zero.mp hP lu (List.mem_of_getElem? hlu)
  exact ⟨quiet_of_no_role lu hnp hnf, hnf⟩

theorem Inv.other_not_finisher (h : Inv n0 nthreads stride s) (hl : s.threads[t]? = some l)
    (hin : participating l = true ∨ isFinisher l = true) {u : Nat} {lu : Local} (hu : u ≠ t)
    (hlu : s.threads[u]? = some lu) : isFinisher lu = false := by
  rcases hin with hp | hf
  · obtain ⟨_, _, _, _, hF, _⟩ := h.word_of_participant hl hp
    simpa using List.countP_eq_zero.mp hF lu (List.mem_of_getElem? hlu)
  · exact (h.others_quiet hl hf hu hlu).2

/-- the only way the word of a *past* generation can show up is by staying -/
def WordFrame (s s' : State) : Prop :=
  ∀ g, g < s.gen → s'.sizeCtl = .resizing g 1 → s.sizeCtl = .resizing g 1

theorem WordFrame.of_eq (h : s'.sizeCtl = s.sizeCtl) : WordFrame s s' := by
  intro g _ hw; rw [← h]; exact hw

theorem JoinOk.frame {sc : SC} (h : JoinOk s l sc) (hheld : l.heldGen ≤ s.gen)
    (hw : WordFrame s s') : JoinOk s' l sc := by
  obtain ⟨hf, g, c, rfl, hg, hc⟩ := h
  refine ⟨hf, g, c, rfl, hg, fun h1 => ⟨(hc h1).1, fun h2 => (hc h1).2 (hw g ?_ h2)⟩⟩
  have := (hc h1).1; omega

/-- what `LocalOk` says of a thread survives a change of the shared state if the generation does
not go back and no word of a past generation appears; a thread inside the machinery also needs the
table length kept and the moved bins still moved, a finisher the next-table flag. -/
theorem LocalOk.frame (h : LocalOk s l) (hgen : s.gen ≤ s'.gen) (hheld : l.heldGen ≤ s.gen)
    (hw : WordFrame s s')
    (hin : quiet l = false → s'.n = s.n ∧
      ∀ idx, s.moved.getD idx false = true → s'.moved.getD idx false = true)
    (hnt : isFinisher l = true → s'.nextTable = s.nextTable) : LocalOk s' l := by
  have mf : quiet l = false → ∀ lo, MovedFrom s lo → MovedFrom s' lo := fun hq lo H idx h1 h2 =>
    (hin hq).2 idx (H idx h1 ((hin hq).1 ▸ h2))
  cases hpc : l.pc <;> simp only [LocalOk, hpc] at h ⊢ <;> try exact h
  case helpLoadIndex | acLoadIndex | casJoin => exact h.frame hheld hw
  case acLoadTable =>
    obtain ⟨hf, g, c, rfl, hg⟩ := h
    exact ⟨hf, g, c, rfl, Nat.le_trans hg hgen⟩
  all_goals
    have hq : quiet l = false := by simp only [quiet, hpc]
    have hn := (hin hq).1
    replace mf := mf hq
  case leaveLoad | leaveCas => rw [hn]; exact h
  case claimLoad => exact fun hf => ⟨(h hf).1, hn ▸ (h hf).2.1, mf _ (h hf).2.2⟩
  case dispatch => exact fun hf => ⟨hn ▸ (h hf).1, mf _ (h hf).2⟩
  case processBin => exact ⟨h.1, hn ▸ h.2.1, fun hf => mf _ (h.2.2 hf)⟩
  all_goals
    have hnt := hnt (by simp only [isFinisher, hpc, Bool.or_true])
  case pubClearNext => exact mf _ h
  case pubSwapTable => exact ⟨mf _ h.1, hnt ▸ h.2⟩
  case pubStoreCtl => exact hnt ▸ h

theorem Inv.init (n0 nthreads stride : Nat) : Inv n0 nthreads stride (init n0 nthreads stride true) := by
  have hth : ∀ l ∈ List.replicate nthreads ({} : Local), l = {} := fun l hl => List.eq_of_mem_replicate hl
  refine ⟨rfl, by simp [Resize.init], by simp [Resize.init], rfl, by simp [Resize.init],
    by simp [Resize.init], ?_, ?_, ?_, ?_, ?_, rfl, rfl, ?_⟩
  · simp [Resize.init, cnt, P]; intros; simp [participating]
  · simp [Resize.init, finWord, F]; intros; simp [isFinisher]
  · simp [Resize.init]
  · simp [Resize.init]
  · intro t l hl
    have := hth l (List.mem_of_getElem? hl)
    subst this; simp [LocalOk]
  · intro t l hl
    have := hth l (List.mem_of_getElem? hl)
    subst this; simp [Resize.init]

/-- general form: thread `t` goes from `l` to `l'`, the word becomes `w`, the generation `gn`;
the three counters change by what `t` contributes to them before and after -/
theorem Inv.of_set (h : Inv n0 nthreads stride s) (hl : s.threads[t]? = some l) (w : SC) (gn : Nat)
    (hth : s'.threads = s.threads.set t l') (hword : s'.sizeCtl = w) (hgn : s'.gen = gn)
    (hstride : s'.stride = s.stride)
    (hck : s'.checkGen = s.checkGen) (hsj : s'.staleJoins = s.staleJoins)
    (hn : s'.n = n0 * 2 ^ gn) (hpub : s'.published = List.replicate gn 1)
    (hml : s'.moved.length = s'.n)
    (hmg : s'.migrations = s'.moved.map (fun b => if b then 1 else 0))
    (hcnt : cnt w + (participating l).toNat = cnt s.sizeCtl + (participating l').toNat)
    (hfin : finWord w + (isFinisher l).toNat = finWord s.sizeCtl + (isFinisher l').toNat)
    (hg : ∀ g c, w = .resizing g c → g + S s + (atStore l').toNat = gn + (atStore l).toNat)
    (hidle : ∀ thr, w = .idle thr → thr = threshold s'.n ∧ s'.nextTable = false)
    (hloc : LocalOk s' l')
    (hothers : ∀ (u : Nat) (lu : Local), u ≠ t → s.threads[u]? = some lu → LocalOk s lu → LocalOk s' lu)
    (hgen : s.gen ≤ gn) (hheld : l'.heldGen ≤ gn) :
    Inv n0 nthreads stride s' := by
  have hP := P_set hl hth
  have hF := F_set hl hth
  have hS := S_set hl hth
  subst hword hgn
  refine ⟨by rw [hstride, h.stride_eq], by rw [hth, List.length_set, h.nthreads_eq],
    hn, hpub, hml, hmg, ?_, ?_, ?_, hidle, ?_, by rw [hck, h.check_eq], by rw [hsj, h.stale_eq], ?_⟩
  · have := h.cnt_eq; omega
  · have := h.fin_eq; omega
  · intro g c hsc
    have := hg g c hsc; omega
  · intro u lu hu
    rw [hth, getElem?_set_of_some hl] at hu
    split at hu
    · cases hu; exact hloc
    · exact hothers u lu ‹_› hu (h.locals u lu hu)
  · intro u lu hu
    rw [hth, getElem?_set_of_some hl] at hu
    split at hu
    · cases hu; exact hheld
    · exact Nat.le_trans (h.held_le u lu hu) hgen

theorem Inv.setWord (h : Inv n0 nthreads stride s) (hl : s.threads[t]? = some l) {w : SC}
    (hcnt : cnt w + (participating l).toNat = cnt s.sizeCtl + (participating l').toNat)
    (hfin : finWord w + (isFinisher l).toNat = finWord s.sizeCtl + (isFinisher l').toNat)
    (hg : ∀ g c, w = .resizing g c → g + S s + (atStore l').toNat = s.gen + (atStore l).toNat)
    (hidle : ∀ thr, w = .idle thr → thr = threshold s.n ∧ s.nextTable = false)
    (hw : WordFrame s { s with sizeCtl := w })
    (hloc : LocalOk { s with sizeCtl := w } l')
    (hheld : l'.heldGen = l.heldGen ∨ l'.heldGen = s.gen) :
    Inv n0 nthreads stride { setT s t l' with sizeCtl := w } :=
  h.of_set hl w s.gen rfl rfl rfl rfl rfl rfl h.n_eq h.pub_eq h.moved_len h.migr_eq hcnt hfin hg hidle
    hloc
    (fun u lu _ hu hlu => hlu.frame (Nat.le_refl _) (h.held_le u lu hu) hw
      (fun _ => ⟨rfl, fun _ h => h⟩) (fun _ => rfl))
    (Nat.le_refl _) (by have := h.held_le t l hl; omega)

/-- the counters `P`, `F`, `S` cannot tell the two locals apart -/
def SameRole (l l' : Local) : Prop :=
  participating l' = participating l ∧ isFinisher l' = isFinisher l ∧ atStore l' = atStore l

theorem Inv.move (h : Inv n0 nthreads stride s) (hl : s.threads[t]? = some l)
    (hrole : SameRole l l') (hloc : LocalOk s l')
    (hheld : l'.heldGen = l.heldGen ∨ l'.heldGen = s.gen := by exact .inl rfl) :
    Inv n0 nthreads stride (setT s t l') :=
  h.setWord (w := s.sizeCtl) hl (by rw [hrole.1]) (by rw [hrole.2.1])
    (fun g c hsc => by rw [hrole.2.2]; have := h.gen_eq g c hsc; omega) h.idle_thr
    (.of_eq rfl) hloc hheld

/-- `t` moves without changing its role and sets the next-table flag, which only a finisher looks
at: fine if `t` is inside the machinery, since then no other thread is a finisher -/
theorem Inv.setNextTable (h : Inv n0 nthreads stride s) (hl : s.threads[t]? = some l)
    (hin : participating l = true ∨ isFinisher l = true) (hrole : SameRole l l') {b : Bool}
    (hloc : LocalOk { s with nextTable := b } l') (hheld : l'.heldGen = l.heldGen := by rfl) :
    Inv n0 nthreads stride { setT s t l' with nextTable := b } := by
  have hword : ∀ thr, s.sizeCtl ≠ .idle thr := by
    intro thr e
    rcases hin with hp | hf
    · obtain ⟨c, hc, _⟩ := h.word_of_participant hl hp; rw [hc] at e; cases e
    · obtain ⟨⟨g, hg⟩, _⟩ := h.word_of_finisher hl hf; rw [hg] at e; cases e
  refine h.of_set hl s.sizeCtl s.gen rfl rfl rfl rfl rfl rfl h.n_eq h.pub_eq h.moved_len h.migr_eq
    (by rw [hrole.1]) (by rw [hrole.2.1]) (fun g c hsc => by rw [hrole.2.2, h.gen_eq g c hsc])
    (fun thr e => absurd e (hword thr)) hloc ?_ (Nat.le_refl _) (hheld ▸ h.held_le t l hl)
  intro u lu hne hu hlu
  exact hlu.frame (Nat.le_refl _) (h.held_le u lu hu) (.of_eq rfl) (fun _ => ⟨rfl, fun _ h => h⟩)
    (fun hf => by rw [h.other_not_finisher hl hin hne hu] at hf; cases hf)

/-- `Inv` says nothing about `transfer_index` -/
theorem Inv.setTransferIndex (h : Inv n0 nthreads stride s) (ti : Int) :
    Inv n0 nthreads stride { s with transferIndex := ti } :=
  ⟨h.stride_eq, h.nthreads_eq, h.n_eq, h.pub_eq, h.moved_len, h.migr_eq, h.cnt_eq, h.fin_eq,
    h.gen_eq, h.idle_thr, h.locals, h.check_eq, h.stale_eq, h.held_le⟩


theorem finWord_of_ne_one {g c : Nat} (hc : c ≠ 1) : finWord (.resizing g c) = 0 := by
  unfold finWord; split
  · rename_i heq; cases heq; exact absurd rfl hc
  · rfl

theorem Inv.S_pos_nextTable (h : Inv n0 nthreads stride s) (hS : 0 < S s) : s.nextTable = false := by
  obtain ⟨l, hl, hp⟩ := List.countP_pos_iff.mp (show 0 < s.threads.countP atStore from hS)
  obtain ⟨t, ht⟩ := List.mem_iff_getElem?.mp hl
  have hL := h.locals t l ht
  simp only [LocalOk, (atStore_iff l).mp hp] at hL
  exact hL

theorem Inv.word_gen_le (h : Inv n0 nthreads stride s) {g c : Nat} (hsc : s.sizeCtl = .resizing g c) :
    g ≤ s.gen := by
  have := h.gen_eq g c hsc; omega

theorem Inv.word_gen_eq (h : Inv n0 nthreads stride s) {g c : Nat} (hsc : s.sizeCtl = .resizing g c)
    (hc : c ≠ 1) : g = s.gen ∧ S s = 0 := by
  have h1 := h.gen_eq g c hsc
  have h2 := S_le_F s
  have h3 := h.fin_eq
  rw [hsc, finWord_of_ne_one hc] at h3
  omega

/-- A thread whose join CAS is about to succeed holds the tables of the current generation
(finding F6): the word it carries is the current one, so no finishing word, so it has the current
stamp; and that stamp is not younger than the held table, which is not younger than the current one.
The word also counts a participant besides the finisher's `1`. -/
theorem Inv.join_ready (h : Inv n0 nthreads stride s) (hl : s.threads[t]? = some l) {sc : SC}
    (hpc : l.pc = .casJoin sc) (hsc : s.sizeCtl = sc) :
    l.heldGen = s.gen ∧ ∃ k, sc = .resizing s.gen k ∧ 2 ≤ k ∧ S s = 0 := by
  have hL := h.locals t l hl
  simp only [LocalOk, hpc] at hL
  obtain ⟨-, g, k, rfl, hgh, hk1⟩ := hL
  have hk : k ≠ 1 := fun h1 => (hk1 h1).2 (h1 ▸ hsc)
  obtain ⟨rfl, hS⟩ := h.word_gen_eq hsc hk
  have hheld := h.held_le t l hl
  have hc := h.cnt_eq
  rw [hsc] at hc; simp only [cnt] at hc
  exact ⟨by omega, k, rfl, by omega, hS⟩

-- `by simp [hpc]` below evaluates these at the two program counters of a move
attribute [local simp] SameRole participating isFinisher atStore

theorem Inv.step {c : Nat} (h : Inv n0 nthreads stride s) (hs : step s t c = some s') :
    Inv n0 nthreads stride s' := by
  obtain ⟨l, hl⟩ := thread_of_step hs
  have hL := h.locals t l hl
  cases hpc : l.pc <;> simp only [LocalOk, hpc] at hL <;>
    simp only [Resize.step, hl, hpc, h.check_eq] at hs
  case idle =>
    split at hs
    · cases hs
      exact h.move hl (by simp [hpc]) (by simp only [LocalOk]; exact ⟨hL, _, rfl⟩)
    · cases hs
      rename_i g k hsc
      exact h.move hl (by simp [hpc])
        (by simp only [LocalOk]; exact ⟨hL, g, k, rfl, h.word_gen_le hsc⟩)
    · split at hs <;> cases hs
      · exact h.move hl (by simp [hpc]) hL (.inr rfl)
      · exact h
    · cases hs; exact h
  case casInit sc =>
    obtain ⟨hfin, thr, rfl⟩ := hL
    split at hs <;> cases hs
    · rename_i hw
      have hw : s.sizeCtl = .idle thr := eq_of_beq hw
      have hS := (h.counters_of_idle hw).2.2
      refine h.setWord hl ?_ ?_ ?_ (fun _ e => nomatch e) ?_ ?_ (.inl rfl)
      · simp [cnt, hw, hpc, hfin]
      · simp [finWord, hw, hpc]
      · intro g c e; cases e; simp [hpc, hS]
      · intro g _ e; simp at e
      · exact hfin
    · exact h.move hl (by simp [hpc]) hfin
  case swapNext =>
    cases hs
    exact h.setNextTable hl (.inl (by simp [hpc, hL])) (by simp [hpc]) hL
  case storeIndex =>
    cases hs
    refine (h.move hl (by simp [hpc, hL]) ?_).setTransferIndex _
    simp only [LocalOk]; exact fun hf => nomatch hf
  case helpCheckNext | helpCheckTable =>
    split at hs <;> cases hs <;> exact h.move hl (by simp [hpc]) hL
  case helpLoadSc =>
    split at hs
    · cases hs; exact h.move hl (by simp [hpc]) hL
    · split at hs <;> cases hs
      · exact h.move hl (by simp [hpc]) hL
      · rename_i g k _ href
        -- not refused: the word carries the stamp of the held table and is no finishing word
        obtain ⟨hg, -, hk⟩ := helpRefuses_eq_false_iff.1 (Bool.eq_false_iff.2 href)
        refine h.move hl (by simp [hpc]) ?_
        simp only [LocalOk]
        exact ⟨hL, g, k, rfl, Nat.le_of_eq hg, fun h1 => absurd h1 hk⟩
  case helpLoadIndex | acLoadIndex =>
    split at hs <;> cases hs
    · exact h.move hl (by simp [hpc]) hL.1
    · exact h.move hl (by simp [hpc]) hL
  case acLoadTable sc =>
    obtain ⟨hfin, g, k, rfl, hgk⟩ := hL
    simp only at hs
    split at hs <;> cases hs
    · exact h.move hl (by simp [hpc]) hfin (.inr rfl)
    · rename_i href
      refine h.move hl (by simp [hpc]) ?_ (.inr rfl)
      simp only [LocalOk]
      refine ⟨hfin, g, k, rfl, hgk, fun h1 => ?_⟩
      have := acRefuses_eq_false_iff.1 (Bool.eq_false_iff.2 href)
      omega
  case acLoadNext sc =>
    obtain ⟨hfin, g, k, rfl, hgk, hk1⟩ := hL
    have hheld := h.held_le t l hl
    split at hs <;> cases hs
    · rename_i hnt
      refine h.move hl (by simp [hpc]) ?_
      simp only [LocalOk]
      refine ⟨hfin, g, k, rfl, hgk, fun h1 => ⟨hk1 h1, fun hword => ?_⟩⟩
      -- a finishing word of an older generation is current only after the swap, when the next
      -- table is gone; but the thread has just seen one
      have h2 := h.gen_eq g 1 hword
      have h3 := hk1 h1
      rw [h.S_pos_nextTable (by omega)] at hnt
      exact nomatch hnt
    · exact h.move hl (by simp [hpc]) hfin
  case casJoin sc =>
    have hfin := hL.1
    split at hs
    · rename_i hword
      have hword : s.sizeCtl = sc := eq_of_beq hword
      obtain ⟨hcur, k, rfl, hk, hS⟩ := h.join_ready hl hpc hword
      simp only at hs
      split at hs <;> cases hs
      · refine h.setWord hl ?_ ?_ ?_ (fun _ e => nomatch e) ?_ ?_ (.inl rfl)
        · simp [cnt, hword, hpc]
        · simp [hword, finWord_of_ne_one (show k ≠ 1 by omega),
            finWord_of_ne_one (show k + 1 ≠ 1 by omega), hpc, hfin]
        · intro g' c' e; cases e; simp [hpc, hS]
        · intro g' hg' e; cases e; omega
        · simp only [LocalOk]; exact fun hf => nomatch hf
      · exact absurd (beq_iff_eq.2 hcur) ‹_›
    · cases hs; exact h.move hl (by simp [hpc]) hfin
  case claimLoad =>
    split at hs
    · cases hs
      rename_i hadv
      refine h.move hl (by simp [hpc]) ?_
      simp only [LocalOk]
      intro hf; simp [(hL hf).1] at hadv
    · split at hs
      · cases hs
        refine h.move hl (by simp [hpc]) ?_
        simp only [LocalOk, Int.sub_add_cancel]
        exact fun hf => ⟨by have := (hL hf).2.1; omega, (hL hf).2.2⟩
      · rename_i hnf
        obtain ⟨hib, hfin⟩ : l.i - 1 < l.bound ∧ l.finishing = false := by simpa using hnf
        split at hs <;> cases hs
        · refine h.move hl (by simp [hpc]) ?_
          simp only [LocalOk, hfin]; exact fun hf => nomatch hf
        · refine h.move hl (by simp [hpc]) ?_
          simp only [LocalOk]
          exact ⟨hfin, hib, by omega⟩
  case claimCas ni =>
    split at hs <;> cases hs
    · refine (h.move hl (by simp [hpc]) ?_).setTransferIndex _
      simp only [LocalOk, hL.1]; exact fun hf => nomatch hf
    · refine h.move hl (by simp [hpc]) ?_
      simp only [LocalOk, hL.1]; exact fun hf => nomatch hf
  case dispatch =>
    split at hs
    · rename_i hout
      have hout : l.i < 0 ∨ (s.n : Int) ≤ l.i := by simpa using hout
      split at hs <;> cases hs
      · rename_i hf
        -- the finisher's sweep is through: `i < 0`, every bin from `0` on is moved
        refine h.move hl (by simp [hpc, hf]) ?_
        simp only [LocalOk]
        intro idx h1 h2
        exact (hL hf).2 idx (by have := (hL hf).1; omega) h2
      · rename_i hf
        refine h.move hl (by simp [hpc]) ?_
        simp only [LocalOk]
        exact ⟨by simpa using hf, hout⟩
    · cases hs
      rename_i hin
      have hin : 0 ≤ l.i ∧ l.i < s.n := by simp at hin; omega
      refine h.move hl (by simp [hpc]) ?_
      simp only [LocalOk]
      exact ⟨hin.1, hin.2, fun hf => (hL hf).2⟩
  case processBin =>
    obtain ⟨hi0, hin, hmf⟩ := hL
    have hidx : l.i.toNat < s.moved.length := by have := h.moved_len; omega
    rw [getD_true_eq_false hidx] at hs
    -- after the step bin `i` is moved, and so are those above it if this is the finisher's sweep
    have hloc : ∀ {s' : State}, s'.n = s.n → s'.moved.getD l.i.toNat false = true →
        (∀ idx, s.moved.getD idx false = true → s'.moved.getD idx false = true) →
        LocalOk s' { l with advance := true, pc := .claimLoad } := by
      intro s' hn hi hmono
      simp only [LocalOk]
      refine fun hf => ⟨trivial, by omega, fun idx h1 h2 => ?_⟩
      by_cases h3 : l.i < (idx : Int)
      · exact hmono idx (hmf hf idx (by omega) (hn ▸ h2))
      · obtain rfl : idx = l.i.toNat := by omega
        exact hi
    split at hs <;> cases hs
    · rename_i hmv
      exact h.move hl (by simp [hpc]) (hloc rfl hmv fun _ h => h)
    · rename_i hnm
      refine h.of_set hl s.sizeCtl s.gen rfl rfl rfl rfl rfl rfl h.n_eq h.pub_eq
        (by simp [setT, h.moved_len]) (h.migr_eq ▸ migrations_set hidx hnm) (by simp [hpc])
        (by simp [hpc]) (fun g c hsc => by simpa [hpc] using h.gen_eq g c hsc) h.idle_thr
        (hloc rfl (by simp [List.getD, hidx]) fun _ => getD_set_true) ?_ (Nat.le_refl _)
        (h.held_le t l hl)
      intro u lu _ hu hlu
      exact hlu.frame (Nat.le_refl _) (h.held_le u lu hu) (.of_eq rfl)
        (fun _ => ⟨rfl, fun _ => getD_set_true⟩) (fun _ => rfl)
  case leaveLoad =>
    cases hs
    exact h.move hl (by simp [hpc]) hL
  case leaveCas sc =>
    obtain ⟨k, hsc, -, hk2, -, hS⟩ := h.word_of_participant hl (by simp [hpc, hL.1])
    split at hs
    · rename_i hword
      obtain rfl : sc = .resizing s.gen k := by rw [← hsc]; exact (eq_of_beq hword).symm
      simp only at hs
      split at hs <;> cases hs
      · -- the last participant leaves and becomes the finisher; its sweep starts above the table
        rename_i hk
        obtain rfl : k = 2 := by simpa using hk
        refine h.setWord hl ?_ ?_ ?_ (fun _ e => nomatch e) ?_ ?_ (.inl rfl)
        · simp [cnt, hsc, hpc, hL.1]
        · simp [finWord, hsc, hpc, hL.1]
        · intro g c e; cases e; simp [hpc, hS]
        · intro g hg e; cases e; omega
        · simp only [LocalOk, MovedFrom]
          exact fun _ => ⟨trivial, Int.le_refl _, fun idx h1 h2 => by omega⟩
      · rename_i hk
        have hk : k ≠ 2 := by simpa using hk
        refine h.setWord hl ?_ ?_ ?_ (fun _ e => nomatch e) ?_ hL.1 (.inl rfl)
        · simp [cnt, hsc, hpc, hL.1]; omega
        · simp [hsc, finWord_of_ne_one (show k ≠ 1 by omega),
            finWord_of_ne_one (show k - 1 ≠ 1 by omega), hpc, hL.1]
        · intro g c e; injection e with e; simp [hpc, hS, ← e]
        · intro g hg e; injection e with e; omega
    · cases hs
      refine h.move hl (by simp [hpc]) ?_
      simp only [LocalOk, hL.1]; exact fun hf => nomatch hf
  case pubClearNext =>
    cases hs
    exact h.setNextTable hl (.inr (by simp [hpc])) (by simp [hpc]) ⟨hL, rfl⟩
  case pubSwapTable =>
    have hp : isFinisher l = true := by simp [hpc]
    obtain ⟨⟨g, hsc⟩, -, -⟩ := h.word_of_finisher hl hp
    cases hs
    refine h.of_set hl s.sizeCtl (s.gen + 1) rfl rfl rfl rfl rfl rfl ?_ ?_ ?_ ?_ (by simp [hpc])
      (by simp [hpc]) ?_ ?_ hL.2 ?_ (Nat.le_succ _) (Nat.le_succ_of_le (h.held_le t l hl))
    · show 2 * s.n = n0 * 2 ^ (s.gen + 1)
      rw [h.n_eq, Nat.pow_succ]; simp [Nat.mul_comm, Nat.mul_left_comm]
    · show bumpPublished s.published s.gen = List.replicate (s.gen + 1) 1
      rw [h.pub_eq, bumpPublished_replicate]
    · simp
    · simp
    · intro g' c' e
      have := h.gen_eq g' c' e
      simp [hpc]; omega
    · intro thr e; rw [hsc] at e; cases e
    · intro u lu hne hu hlu
      obtain ⟨hq, hnf⟩ := h.others_quiet hl hp hne hu
      exact hlu.frame (Nat.le_succ _) (h.held_le u lu hu) (.of_eq rfl)
        (fun h => by rw [hq] at h; cases h) (fun h => by rw [hnf] at h; cases h)
  case pubStoreCtl =>
    obtain ⟨⟨g, hsc⟩, -, -⟩ := h.word_of_finisher hl (by simp [hpc])
    cases hs
    refine h.setWord hl ?_ ?_ (fun _ _ e => nomatch e) ?_ (fun _ _ e => nomatch e) rfl (.inl rfl)
    · simp [cnt, hsc, hpc]
    · simp [finWord, hsc, hpc]
    · intro thr e; cases e; exact ⟨rfl, hL⟩

theorem Reachable.inv {n nthreads stride : Nat} {s : State} (h : Reachable n nthreads stride s) :
    Inv n nthreads stride s := by
  induction h with
  | init => exact Inv.init n nthreads stride
  | step t c _ hs ih => exact ih.step hs

end Flurry.Proto.Resize
