import Flurry.Lemmas.SeqOpsRoom
/-! # The operations of the sequential model refine the reference map: `step`, `run`

Invariant: `Good m := WF m ∧ InitOk m` (`SeqOpsCore`). Every single-key operation replaces one bin
and then brings the counter up to date (`SeqOpsUpd`: `UpdPost`); `put`, `replaceNode` and
`computeIfPresent` are each reduced to that by one equation (`SeqOpsPut`, `SeqOpsRemove`,
`SeqOpsCip`); `len`, `entries`, the reads and `clear` are in `SeqOpsRead`; `retain` and the bulk
operations are loops over these (`SeqOpsRetain`, `SeqOpsBulk`); what one operation guarantees is `OpPost`
(`SeqOpsCap`: `step_spec`), whose part that holds whatever the callbacks do is `StepPost` (`SeqOpsUpd`);
the rest of `SeqOpsCap` and `SeqOpsRoom` are about capacity. -/
namespace Flurry.Seq
open Flurry Flurry.Gen

theorem step_refines_lemma {m : Map} (hg : Good m) (op : Op) (ht : op.total) :
    Good (step m op).1 ∧ absMap (step m op).1 = (Ref.step (absMap m) op).1 ∧
    (op.answered = true → (step m op).2 = (Ref.step (absMap m) op).2) :=
  ⟨step_good hg op, (step_spec hg op).abs ht, (step_spec hg op).ans ht⟩

/-- `len` / `is_empty` are answered from the model's own count, not by the reference map
(`C02.len_spec` says that this is the number of keys present) -/
theorem step_len (m : Map) : step m .len = (m, .nat (len m)) := rfl
theorem step_isEmpty (m : Map) : step m .isEmpty = (m, .bool (len m == 0)) := rfl

def Ref.run (r : Ref) : List Op → Ref × List Ans
  | [] => (r, [])
  | op :: ops => let s := Ref.step r op; let rs := Ref.run s.1 ops; (rs.1, s.2 :: rs.2)

theorem run_nil (m : Map) : run m [] = (m, []) := rfl
theorem run_cons (m : Map) (op : Op) (ops : List Op) :
    run m (op :: ops) = ((run (step m op).1 ops).1, (step m op).2 :: (run (step m op).1 ops).2) := rfl
theorem Ref.run_cons (r : Ref) (op : Op) (ops : List Op) :
    Ref.run r (op :: ops) =
      ((Ref.run (Ref.step r op).1 ops).1, (Ref.step r op).2 :: (Ref.run (Ref.step r op).1 ops).2) := rfl

theorem run_append (m : Map) (ops₁ ops₂ : List Op) :
    (run m (ops₁ ++ ops₂)).1 = (run (run m ops₁).1 ops₂).1 := by
  induction ops₁ generalizing m with
  | nil => rfl
  | cons op rest ih => rw [List.cons_append, run_cons, run_cons]; exact ih _

/-- every state reachable from a `Good` state is `Good` — whatever the callbacks do —, with the
same hasher and a table that never shrank -/
theorem run_post {m : Map} (hg : Good m) (ops : List Op) : StepPost m (run m ops).1 := by
  induction ops generalizing m with
  | nil => exact .refl hg
  | cons op rest ih => exact (step_post hg op).trans (ih (step_good hg op))

theorem run_good {m : Map} (hg : Good m) (ops : List Op) : Good (run m ops).1 := (run_post hg ops).good

theorem run_hash {m : Map} (hg : Good m) (ops : List Op) : (run m ops).1.hash = m.hash :=
  (run_post hg ops).hash

theorem run_removal_never_grows {m : Map} (hg : Good m) (ops : List Op)
    (hops : ∀ op ∈ ops, op.nonGrowing = true) :
    (run m ops).1.resizes = m.resizes ∧ (m.table ≠ none → tableLen (run m ops).1 = tableLen m) := by
  induction ops generalizing m with
  | nil => exact ⟨rfl, fun _ => rfl⟩
  | cons op rest ih =>
    rw [run_cons]
    obtain ⟨h1, h2⟩ := step_removal_never_grows hg op (hops op (by simp))
    obtain ⟨h3, h4⟩ := ih (step_good hg op) (fun o ho => hops o (by simp [ho]))
    refine ⟨h3.trans h1, fun hne => ?_⟩
    have hl := (h2 hne).1
    have hne' := (step_post hg op).table_ne_none hg hne
    exact (h4 hne').trans hl

/-- **a run refines the reference map**: same abstract map, same answers (of the operations
the reference determines) -/
theorem run_refines {m : Map} (hg : Good m) (ops : List Op) (ht : ∀ op ∈ ops, op.total) :
    Good (run m ops).1 ∧ absMap (run m ops).1 = (Ref.run (absMap m) ops).1 ∧
    (run m ops).2.length = ops.length ∧ (Ref.run (absMap m) ops).2.length = ops.length ∧
    ∀ (i : Nat) (op : Op), ops[i]? = some op → op.answered = true →
      (run m ops).2[i]? = (Ref.run (absMap m) ops).2[i]? := by
  induction ops generalizing m with
  | nil => exact ⟨hg, rfl, rfl, rfl, fun i op h => nomatch h⟩
  | cons op rest ih =>
    obtain ⟨s1, s2, s3⟩ := step_refines_lemma hg op (ht op List.mem_cons_self)
    obtain ⟨r1, r2, r3, r4, r5⟩ := ih s1 (fun o ho => ht o (List.mem_cons_of_mem _ ho))
    rw [run_cons, Ref.run_cons, ← s2]
    refine ⟨r1, r2, congrArg (· + 1) r3, congrArg (· + 1) r4, ?_⟩
    intro i o hi ha
    cases i with
    | zero => cases hi; exact congrArg some (s3 ha)
    | succ j => exact r5 j o hi ha

/-- `ex0` (`with_capacity(4)` under the identity hash: 8 bins, threshold 6) and `ex2` (two entries put into it)
are the sample states of the `example`s in `Props/C02`, `C05`, `C13`, `C14`, `C18` -/
def ex0 : Map := { hash := fun k => k, table := some (emptyTable 8), sizeCtl := 6 }

theorem withCapacity_id_4 : withCapacity (fun k => k) 4 = ex0 := by
  simp [withCapacity, presizeCap, npow2, npow2Go, MAXIMUM_CAPACITY, presizeThreshold, loadFactor, ex0]

theorem ex0_good : Good ex0 := withCapacity_id_4 ▸ good_withCapacity _ 4

def ex2 : Map := (run ex0 [.ins 1 7 10 100, .ins 2 8 20 200]).1

theorem ex2_good : Good ex2 := run_good ex0_good _

example : tableLen ex2 = 8 ∧ len ex2 = 2 ∧ ex2.sizeCtl = 6 := by decide +kernel
example : absMap ex2 1 = some (7, 10, 100) ∧ absMap ex2 3 = none := by decide +kernel
example : (entries ex2).map (·.key) = [1, 2] := by decide +kernel

end Flurry.Seq
