import Flurry.Proto.BinN
import Flurry.Lemmas.LinSearch
/-! # Proto/BinN: the model exercised by execution (random schedule explorer) and kernel-checked runs

* `explore`: a seeded random scheduler over `step` / `stepG false` (any number of threads, calls on a
  few keys with different low bits, resizes whenever none is running, the resizing thread's cell order
  at random, optionally a *sleeper*: a designated thread that is frozen as soon as it has a call in
  flight and is only woken when `cur` has reached a given generation — so it holds a pointer into a table
  that is two or three generations old), then a drain to quiescence; every quiescent per-key history is
  decided by the complete procedure `Lin.search` against `absOf`.
* kernel-checked runs (`decide`): see the end of the file. -/
namespace Flurry.Proto.BinN
open Flurry.Lin
open Flurry.Proto.BinX (NodeS Cell Pending isReader dflt chainFrom cellHead cellOfHead)

structure Act where
  t : Nat
  inv : Option (Nat × KOp) := none
  rz : Bool := false
  pick : Nat := 0
deriving Repr, DecidableEq

abbrev Sched := List Act
abbrev StepFn := State → Nat → Option (Nat × KOp) → Bool → Nat → Option State

def act (f : StepFn) (s : State) (a : Act) : Option State := f s a.t a.inv a.rz a.pick

/-- run a schedule (`none` if some step is not enabled) -/
def run (f : StepFn) : State → Sched → Option State
  | s, [] => some s
  | s, a :: rest =>
    match act f s a with
    | none => none
    | some s' => run f s' rest

def quiescentB (s : State) : Bool := s.threads.all (fun l => l.pc == .idle)
def linB (s : State) (k : Nat) : Bool := (search (callsOn s k) none (absOf s k)).isSome

/-! ## the explorer (`#eval` only) -/

def pcTag : Pc → String
  | .idle => "idle" | .rTable => "rTable" | .rCell _ => "rCell" | .rNode _ => "rNode"
  | .wTable => "wTable" | .wCell _ => "wCell" | .wCas _ => "wCas" | .wLock _ _ => "wLock"
  | .wCheck _ _ => "wCheck" | .wFind _ _ _ _ => "wFind" | .wStore _ _ _ _ _ => "wStore"
  | .wUnlock _ _ _ r => if r then "wUnlock.retry" else "wUnlock"
  | .tNext => "tNext" | .tCell _ => "tCell" | .tCasMoved _ => "tCasMoved" | .tLock _ _ => "tLock"
  | .tCheck _ _ => "tCheck" | .tBuild _ _ => "tBuild" | .tStoreLow _ _ _ _ => "tStoreLow"
  | .tStoreHigh _ _ _ => "tStoreHigh" | .tStoreMoved _ _ => "tStoreMoved" | .tUnlock _ _ => "tUnlock"
  | .tCommit => "tCommit"

/-- the generation a program counter works in (`genOfPc` of `Lemmas/BinNGenDefs.lean`, which this file does not import) -/
def genOf : Pc → Option Nat
  | .rCell g | .wCell g | .wCas g | .wLock g _ | .wCheck g _ | .wFind g _ _ _ | .wStore g _ _ _ _
  | .wUnlock g _ _ _ => some g
  | _ => none

abbrev Cov := List (String × Nat)

def Cov.bump (c : Cov) (k : String) : Cov :=
  match c with
  | [] => [(k, 1)]
  | (k', n) :: rest => if k' == k then (k', n + 1) :: rest else (k', n) :: Cov.bump rest k

def rngNext (x : Nat) : Nat := (x * 6364136223846793005 + 1442695040888963407) % 18446744073709551616
def rngPick (x n : Nat) : Nat := (x / 4294967296) % n

/-- coverage events of one executed step `s —a→ s'` -/
def events (s s' : State) (a : Act) (c : Cov) : Cov := Id.run do
  let mut c := c
  let l' := s'.threads.getD a.t {}
  let l := s.threads.getD a.t {}
  c := c.bump ("pc:" ++ pcTag l'.pc)
  -- how far behind the table pointer is the generation the thread works in
  match genOf l.pc with
  | some g =>
    if g + 2 ≤ s.cur then c := c.bump ("stale>=2:" ++ pcTag l.pc)
    else if g + 1 ≤ s.cur then c := c.bump ("stale=1:" ++ pcTag l.pc)
    else if g == s.cur + 1 then c := c.bump ("inNext:" ++ pcTag l.pc)
  | none => pure ()
  match l.pc, l'.pc with
  | .rNode _, _ => if s.cur ≥ 2 && l.call.any (fun p => p.inv < 40) then c := c.bump "oldReaderWalksAfterGen2"
  | .wCheck _ _, .wUnlock _ _ _ true => c := c.bump "recheckFailed"
  | .tCheck _ _, .tCell _ => c := c.bump "transferRecheckFailed"
  | .tBuild _ _, .tStoreLow _ _ lo hg =>
    c := c.bump ("split:" ++ (if lo.isSome then "L" else "-") ++ (if hg.isSome then "H" else "-") ++
      (if s'.heap.length > s.heap.length then s!"+{s'.heap.length - s.heap.length}copies" else ""))
  | .tCommit, _ => c := c.bump s!"commit->{s'.cur}"
  | _, _ => pure ()
  return c

structure Cfg where
  nthreads : Nat := 3
  keys : List Nat := [0, 1, 2, 3]
  steps : Nat := 200
  calls : Nat := 12
  /-- resizes started at most -/
  resizes : Nat := 3
  pResize : Nat := 6
  pCall : Nat := 70
  noCheck : Bool := false
  /-- thread `0` is frozen while it has a call in flight and `cur < wake` (0 = no sleeper) -/
  wake : Nat := 0

def mkOp (r : Nat) (vi : Nat) : KOp :=
  match r % 12 with
  | 0 | 1 | 2 | 3 => .ins (vi % 7) vi
  | 4 | 5 => .rm
  | 6 | 7 => .get
  | 8 => .has
  | 9 => .tryIns (vi % 7) vi
  | 10 => .cipInc vi
  | _ => .get

structure Out where
  cov : Cov
  bad : Option (Sched × Nat)
  runs : Nat
  quiescentRuns : Nat
  maxHist : Nat
  maxGen : Nat

/-- the sleeper is frozen once it has left the `rTable`/`wTable` step behind (it holds a table pointer) -/
def frozen (cfg : Cfg) (s : State) (t : Nat) (sleepAt : Nat) : Bool :=
  cfg.wake > 0 && t == 0 && s.cur < cfg.wake &&
    (let l := s.threads.getD 0 {}
     l.call.isSome && (match l.pc with | .rTable | .wTable => false | _ => true) && sleepAt == 0)

def oneRun (cfg : Cfg) (seed : Nat) (cov : Cov) : Sched × State × Cov := Id.run do
  let f : StepFn := if cfg.noCheck then stepG false else step
  let mut s := init cfg.nthreads
  let mut rng := seed
  let mut sc : Array Act := #[]
  let mut cov := cov
  let mut calls := 0
  let mut rzs := 0
  -- the sleeper takes a random number of steps (0–7) after loading the table pointer before it freezes
  rng := rngNext rng
  let mut extra := rngPick rng 8
  for _ in [0:cfg.steps] do
    rng := rngNext rng
    let t := rngPick rng cfg.nthreads
    rng := rngNext rng
    let l := s.threads.getD t {}
    if frozen cfg s t extra then continue
    let mut a : Act := { t := t }
    if l.pc == .idle then
      let r := rngPick rng 100
      rng := rngNext rng
      if r < cfg.pResize && !s.resizing && rzs < cfg.resizes && !(cfg.wake > 0 && t == 0) then
        a := { t := t, rz := true }
        rzs := rzs + 1
      else if r < cfg.pResize + cfg.pCall && calls < cfg.calls then
        let k := cfg.keys.getD (rngPick rng cfg.keys.length) 0
        rng := rngNext rng
        let op := mkOp (rngPick rng 12) (100 + calls)
        a := { t := t, inv := some (k, op) }
        calls := calls + 1
      else continue
    else
      a := { t := t, pick := rngPick rng 64 }
      if cfg.wake > 0 && t == 0 && l.call.isSome && s.cur < cfg.wake then
        match l.pc with
        | .rTable | .wTable => pure ()
        | _ => if extra > 0 then extra := extra - 1
    match act f s a with
    | none => cov := cov.bump ("blocked:" ++ pcTag l.pc)
    | some s' =>
      cov := events s s' a cov
      sc := sc.push a
      s := s'
  -- drain (the sleeper last, so that the resizes complete first)
  let mut stuck := false
  for _ in [0:600] do
    if quiescentB s then break
    let mut progress := false
    for t' in [0:cfg.nthreads] do
      let t := cfg.nthreads - 1 - t'
      let l := s.threads.getD t {}
      if l.pc != .idle then
        -- the sleeper is only woken when the others cannot go on without it
        if frozen cfg s t 0 && !stuck then continue
        rng := rngNext rng
        let a : Act := { t := t, pick := rngPick rng 64 }
        match act f s a with
        | none => cov := cov.bump ("blocked:" ++ pcTag l.pc)
        | some s' =>
          cov := events s s' a cov
          sc := sc.push a
          s := s'
          progress := true
    stuck := !progress
  return (sc.toList, s, cov)

def explore (cfg : Cfg) (seed0 nruns : Nat) : Out := Id.run do
  let mut cov : Cov := []
  let mut bad : Option (Sched × Nat) := none
  let mut q := 0
  let mut mh := 0
  let mut mg := 0
  for i in [0:nruns] do
    let (sc, s, cov') := oneRun cfg (rngNext (seed0 + 7919 * i)) cov
    cov := cov'
    if s.cur > mg then mg := s.cur
    cov := cov.bump s!"final:cur={s.cur}"
    if quiescentB s then
      q := q + 1
      for k in cfg.keys do
        let h := callsOn s k
        if h.length > mh then mh := h.length
        if !linB s k && bad.isNone then bad := some (sc, k)
    else cov := cov.bump "notDrained"
  return { cov := cov, bad := bad, runs := nruns, quiescentRuns := q, maxHist := mh, maxGen := mg }

def Out.report (o : Out) : String :=
  let lines := (o.cov.toArray.qsort (fun a b => a.1 < b.1)).toList.map fun (k, n) => s!"  {k}: {n}"
  s!"runs {o.runs}, drained to quiescence {o.quiescentRuns}, longest per-key history {o.maxHist}, max generation {o.maxGen}, " ++
  (match o.bad with | none => "ALL LINEARIZABLE" | some (sc, k) => s!"NOT LINEARIZABLE on key {k}: {repr sc}") ++
  "\n" ++ "\n".intercalate lines

/-! ## kernel-checked runs

Four threads: thread 0 performs the calls, thread 1 is the slow reader, thread 2 resizes (twice), thread 3
is the slow writer. `setup` builds the list `[a: key 1, b: key 2, c: key 3]` in cell `(0,0)`.
First resize (split bit 0): last run `[c]` (high) is re-used, `a` is copied to `a'` (high), `b` to `b'`
(low): `(1,0) = [b']`, `(1,1) = [a', c]`. Second resize (split bit 1): `(1,0)` moves as a whole to
`(2,2)`; in `(1,1)` the last run `[c]` is re-used once more (`(2,3) = [c]`) and `a'` is copied to `a''`
(`(2,1) = [a'']`).

* `schedA` — **stale by two generations**: the reader `get(3)` loads the table pointer (generation 0), the
  writer `insert(1)` even loads the old head `a` — then both sleep while BOTH resizes run and commit.
  The writer wakes up, takes the mutex of the dead node `a`, its re-check sees `(0,0) = moved ≠ node a`,
  it unlocks and follows the markers `(0,0) → (1,1) → (2,1)` and updates `a''`; the reader follows
  `(0,0) → (1,1) → (2,3)` and finds `c`.
* `schedANoCheck` — the same without the re-check (`stepG false`): the writer overwrites the dead node `a`
  (dead for two generations); its `insert` returns, but a later `get(1)` still finds the old value: not
  linearizable (`noCheck_refutes`).
* `schedB` — **hindsight across two forwardings**: `get(1)` loads the old head `a` in generation 0 and
  sleeps through both resizes; `insert(1)` updates `a''` and a `get(1)` returns the new value; only then
  the slow reader reads the (frozen) `a` and returns the OLD value. Linearizable all the same. -/

/-- reachability in the variant without the re-checks -/
inductive ReachableNoCheck (nthreads : Nat) : State → Prop
  | init : ReachableNoCheck nthreads (init nthreads)
  | step {s s' : State} (t : Nat) (inv : Option (Nat × KOp)) (rz : Bool) (pick : Nat) :
      ReachableNoCheck nthreads s → stepG false s t inv rz pick = some s' → ReachableNoCheck nthreads s'

theorem run_reachable {n : Nat} : ∀ (sc : Sched) {s s' : State}, Reachable n s → run step s sc = some s' →
    Reachable n s'
  | [], s, s', hr, h => by simp only [run, Option.some.injEq] at h; exact h ▸ hr
  | a :: rest, s, s', hr, h => by
    simp only [run] at h
    cases hs : act step s a with
    | none => rw [hs] at h; cases h
    | some s1 => rw [hs] at h; exact run_reachable rest (.step a.t a.inv a.rz a.pick hr hs) h

theorem run_reachableNoCheck {n : Nat} : ∀ (sc : Sched) {s s' : State}, ReachableNoCheck n s →
    run (stepG false) s sc = some s' → ReachableNoCheck n s'
  | [], s, s', hr, h => by simp only [run, Option.some.injEq] at h; exact h ▸ hr
  | a :: rest, s, s', hr, h => by
    simp only [run] at h
    cases hs : act (stepG false) s a with
    | none => rw [hs] at h; cases h
    | some s1 => rw [hs] at h; exact run_reachableNoCheck rest (.step a.t a.inv a.rz a.pick hr hs) h

/-- quiescent in generation 2?, and per key `0 … 3`: the abstract state and whether the exhaustive
search finds a linearization of the key's history ending in it -/
def verdict (f : StepFn) (n : Nat) (sc : Sched) : Option (Bool × List (KSt × Bool)) :=
  (run f (init n) sc).map fun s => (quiescentB s && s.cur == 2, (List.range 4).map fun k => (absOf s k, linB s k))

theorem quiescent_of_quiescentB {s : State} (h : quiescentB s = true) : quiescent s := by
  intro l hl
  have := List.all_eq_true.1 h l hl
  simpa using this

def rep (t n : Nat) : Sched := List.replicate n { t := t }
def call (t k : Nat) (op : KOp) : Sched := [{ t := t, inv := some (k, op) }]
def rz (t : Nat) : Sched := [{ t := t, rz := true }]
/-- the resizing thread `t` transfers the non-empty cell `j` (9 steps from `tNext` back to `tNext`) -/
def xfer (t j : Nat) : Sched := [{ t := t, pick := j }] ++ rep t 8
/-- `tNext` (all forwarded), `tCommit` -/
def commit (t : Nat) : Sched := rep t 2

/-- thread 0: `insert(1)` (CAS into the empty cell), `insert(2)`, `insert(3)` (appended under the lock) -/
def setup : Sched :=
  call 0 1 (.ins 5 100) ++ rep 0 3 ++ call 0 2 (.ins 6 101) ++ rep 0 8 ++ call 0 3 (.ins 7 102) ++ rep 0 9

/-- thread 2: resize `0 → 1` (one cell), then resize `1 → 2` (two cells) -/
def twoResizes : Sched :=
  rz 2 ++ xfer 2 0 ++ commit 2 ++ rz 2 ++ xfer 2 0 ++ xfer 2 1 ++ commit 2

def schedA : Sched :=
  setup ++ call 1 3 .get ++ rep 1 1 ++ call 3 1 (.ins 8 103) ++ rep 3 2 ++ twoResizes ++
  call 0 1 .get ++ rep 0 3 ++ rep 3 11 ++ rep 1 4 ++ call 0 1 .get ++ rep 0 3

def schedANoCheck : Sched :=
  setup ++ call 1 3 .get ++ rep 1 1 ++ call 3 1 (.ins 8 103) ++ rep 3 2 ++ twoResizes ++
  call 0 1 .get ++ rep 0 3 ++ rep 3 5 ++ rep 1 4 ++ call 0 1 .get ++ rep 0 3

def schedB : Sched :=
  setup ++ call 1 1 .get ++ rep 1 2 ++ twoResizes ++
  call 0 1 (.ins 9 104) ++ rep 0 7 ++ call 0 1 .get ++ rep 0 3 ++ rep 1 1

theorem run_A :
    verdict step 4 schedA =
      some (true, [(none, true), (some (8, 103), true), (some (6, 101), true), (some (7, 102), true)]) ∧
    (run step (init 4) schedA).map (·.tabs) =
      some [[.moved], [.moved, .moved], [.empty, .node 5, .node 4, .node 2]] ∧
    (run step (init 4) schedA).map (fun s => (callsOn s 1, callsOn s 3)) =
      some ([⟨0, .ins 5 100, .none, 1, 4⟩, ⟨0, .get, .some 5 100, 62, 65⟩, ⟨3, .ins 8 103, .some 5 100, 26, 76⟩,
             ⟨0, .get, .some 8 103, 81, 84⟩],
            [⟨0, .ins 7 102, .none, 14, 23⟩, ⟨1, .get, .some 7 102, 24, 80⟩]) := by
  decide +kernel

theorem verdict_A : verdict step 4 schedA =
    some (true, [(none, true), (some (8, 103), true), (some (6, 101), true), (some (7, 102), true)]) := run_A.1

theorem run_A_noCheck :
    verdict (stepG false) 4 schedANoCheck =
      some (true, [(none, true), (some (5, 100), false), (some (6, 101), true), (some (7, 102), true)]) ∧
    (run (stepG false) (init 4) schedANoCheck).map (fun s => callsOn s 1) =
      some [⟨0, .ins 5 100, .none, 1, 4⟩, ⟨0, .get, .some 5 100, 62, 65⟩, ⟨3, .ins 8 103, .some 5 100, 26, 70⟩,
            ⟨0, .get, .some 5 100, 75, 78⟩] := by
  decide +kernel

theorem verdict_A_noCheck : verdict (stepG false) 4 schedANoCheck =
    some (true, [(none, true), (some (5, 100), false), (some (6, 101), true), (some (7, 102), true)]) :=
  run_A_noCheck.1

theorem run_B :
    verdict step 4 schedB =
      some (true, [(none, true), (some (9, 104), true), (some (6, 101), true), (some (7, 102), true)]) ∧
    (run step (init 4) schedB).map (fun s => callsOn s 1) =
      some [⟨0, .ins 5 100, .none, 1, 4⟩, ⟨0, .ins 9 104, .some 5 100, 60, 67⟩, ⟨0, .get, .some 9 104, 68, 71⟩,
            ⟨1, .get, .some 5 100, 24, 72⟩] := by
  decide +kernel

theorem verdict_B : verdict step 4 schedB =
    some (true, [(none, true), (some (9, 104), true), (some (6, 101), true), (some (7, 102), true)]) := run_B.1

/-- the final cells: generations 0 and 1 are forwarded for ever -/
theorem tabs_A : (run step (init 4) schedA).map (·.tabs) =
    some [[.moved], [.moved, .moved], [.empty, .node 5, .node 4, .node 2]] := run_A.2.1

/-- the stale writer (invoked at 26, before the first resize) responds at 76 after both resizes, having
followed two markers; the stale reader (invoked at 24) responds at 80 -/
theorem history_A : (run step (init 4) schedA).map (fun s => (callsOn s 1, callsOn s 3)) =
    some ([⟨0, .ins 5 100, .none, 1, 4⟩, ⟨0, .get, .some 5 100, 62, 65⟩, ⟨3, .ins 8 103, .some 5 100, 26, 76⟩,
           ⟨0, .get, .some 8 103, 81, 84⟩],
          [⟨0, .ins 7 102, .none, 14, 23⟩, ⟨1, .get, .some 7 102, 24, 80⟩]) := run_A.2.2

/-- without the re-check: `insert(1) = 8` returns at 70 (it overwrote a node that has been dead for two
generations), the later `get(1)` still returns 5 -/
theorem history_A_noCheck : (run (stepG false) (init 4) schedANoCheck).map (fun s => callsOn s 1) =
    some [⟨0, .ins 5 100, .none, 1, 4⟩, ⟨0, .get, .some 5 100, 62, 65⟩, ⟨3, .ins 8 103, .some 5 100, 26, 70⟩,
          ⟨0, .get, .some 5 100, 75, 78⟩] := run_A_noCheck.2

/-- the slow `get(1)` (invoked at 24, in generation 0) returns the old value at 72, after `get(1) = 9`
returned at 71 in generation 2 -/
theorem history_B : (run step (init 4) schedB).map (fun s => callsOn s 1) =
    some [⟨0, .ins 5 100, .none, 1, 4⟩, ⟨0, .ins 9 104, .some 5 100, 60, 67⟩, ⟨0, .get, .some 9 104, 68, 71⟩,
          ⟨1, .get, .some 5 100, 24, 72⟩] := run_B.2

theorem of_verdict {f : StepFn} {n : Nat} {sc : Sched} {r : List (KSt × Bool)}
    (h : verdict f n sc = some (true, r)) :
    ∃ s, run f (init n) sc = some s ∧ quiescent s ∧ s.cur = 2 ∧
      (List.range 4).map (fun k => (absOf s k, linB s k)) = r := by
  unfold verdict at h
  cases hr : run f (init n) sc with
  | none => rw [hr] at h; cases h
  | some s =>
    rw [hr] at h
    simp only [Option.map_some, Option.some.injEq, Prod.mk.injEq] at h
    have h1 := h.1
    simp only [Bool.and_eq_true, beq_iff_eq] at h1
    exact ⟨s, rfl, quiescent_of_quiescentB h1.1, h1.2, h.2⟩

theorem lin_of_linB {s : State} {k : Nat} (h : linB s k = true) :
    Lin.Linearizable (callsOn s k) none (absOf s k) :=
  search_isSome_iff.1 h

theorem not_lin_of_linB {s : State} {k : Nat} (h : linB s k = false) :
    ¬ Lin.Linearizable (callsOn s k) none (absOf s k) := by
  intro hl
  have := search_isSome_iff.2 hl
  unfold linB at h
  rw [this] at h
  cases h

/-- **the re-check is load-bearing across ANY number of forwardings**: without it, a reachable quiescent
state (after two complete resizes) whose history of key 1 is not linearizable (a completed insert is lost
in a node that died two generations ago) -/
theorem noCheck_not_linearizable :
    ∃ s, ReachableNoCheck 4 s ∧ quiescent s ∧ s.cur = 2 ∧
      ¬ Lin.Linearizable (callsOn s 1) none (absOf s 1) := by
  obtain ⟨s, hr, hq, hc, hv⟩ := of_verdict verdict_A_noCheck
  refine ⟨s, run_reachableNoCheck _ .init hr, hq, hc, not_lin_of_linB ?_⟩
  have h1 : (((List.range 4).map (fun k => (absOf s k, linB s k)))[1]?).map (·.2) = some false := by
    rw [hv]; rfl
  simpa using h1

/-- hence a theorem `binN_linearizable_quiescent` is false for the variant without the re-checks -/
theorem noCheck_refutes :
    ¬ ∀ (n : Nat) (s : State), ReachableNoCheck n s → quiescent s → ∀ k,
      Lin.Linearizable (callsOn s k) none (absOf s k) := by
  intro hall
  obtain ⟨s, hr, hq, -, hn⟩ := noCheck_not_linearizable
  exact hn (hall 4 s hr hq 1)

/-- the stale-by-two-generations run of the checked model is reachable, quiescent, in generation 2, and the
histories of all four keys are linearizable (decided by the complete procedure) -/
theorem stale_two_generations_linearizable :
    ∃ s, run step (init 4) schedA = some s ∧ Reachable 4 s ∧ quiescent s ∧ s.cur = 2 ∧
      ∀ k < 4, Lin.Linearizable (callsOn s k) none (absOf s k) := by
  obtain ⟨s, hr, hq, hc, hv⟩ := of_verdict verdict_A
  refine ⟨s, hr, run_reachable _ .init hr, hq, hc, ?_⟩
  intro k hk
  apply lin_of_linB
  have h1 : ∀ k < 4, (((List.range 4).map (fun k => (absOf s k, linB s k)))[k]?).map (·.2) = some true := by
    rw [hv]; decide
  have := h1 k hk
  simpa [hk] using this

/-- the stale read across two forwardings is reachable, and linearizable -/
theorem stale_read_two_generations_linearizable :
    ∃ s, run step (init 4) schedB = some s ∧ Reachable 4 s ∧ quiescent s ∧ s.cur = 2 ∧
      ∀ k < 4, Lin.Linearizable (callsOn s k) none (absOf s k) := by
  obtain ⟨s, hr, hq, hc, hv⟩ := of_verdict verdict_B
  refine ⟨s, hr, run_reachable _ .init hr, hq, hc, ?_⟩
  intro k hk
  apply lin_of_linB
  have h1 : ∀ k < 4, (((List.range 4).map (fun k => (absOf s k, linB s k)))[k]?).map (·.2) = some true := by
    rw [hv]; decide
  have := h1 k hk
  simpa [hk] using this

/-- a small sample at build time -/
def sample : Out := explore { nthreads := 3, steps := 250, calls := 12, wake := 2 } 11 200

#eval IO.println (s!"{sample.runs} runs, {sample.quiescentRuns} quiescent, max generation {sample.maxGen}, " ++
  s!"not linearizable: {sample.bad.isSome}, coverage entries: {sample.cov.length}")

end Flurry.Proto.BinN
