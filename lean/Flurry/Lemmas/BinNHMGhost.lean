import Flurry.Lemmas.BinNHMSurgeryDefs
import Flurry.Lemmas.BinNExt
/-! # Proto/BinN and Proto/BinNH: the hindsight invariant of the readers (C01, C10)

As in `Lemmas/BinXGhost.lean`, for a fixed key `k`: `A τ` = abstract state of `k` after global step `τ`.

`Good G A k inv s cur`: the hindsight justification of a lock-free reader (invoked at `inv`) holding the
pointer `cur`:
* `absent`: `cur = none` and at some time in `[inv, now]` the key was absent;
* `on`: `cur` is on the live chain of `k` and no node before it (in `ord`) has key `k`;
* `foreign`: `cur` is on the chain of a cell `id` in which `k` does not live — the reader came there through
  the list of an ancestor cell that has been split since (possibly several generations ago) — and at some
  time in `[inv, now]` the key was absent;
* `off`: `cur` is dead: its fields are frozen; if it has key `k` its value was the abstract value at some
  time in `[inv, now]`, otherwise its successor is `Good` again.

`Good.step`: `Good` survives every `HeapStep`. That it survives the store of a forwarding marker (in any generation)
is `Good.moved` in `Lemmas/BinNHMGhostMoved.lean`; `Good.cleared` (`Lemmas/BinNHMGhostCleared.lean`) is the case of a
store that empties a cell (see `MemStep.clear`). -/
namespace Flurry.Proto.BinNHM
open Flurry.Proto.BinN
open Flurry.Lin
open Flurry.Proto.BinX (NodeS Cell Pending dflt chainFrom cellHead cellOfHead nodeAt nodeAt_of_some getElem?_nodeAt
  IsSeg IsChain chainH chainH_empty chainH_moved absIn absIn_eq_none_iff absIn_eq_some_iff KeysDistinct)

namespace HInv
variable {s : State} {G : Ghost}

theorem LC_isChain (H : HInv s G) (k : Nat) : IsChain s.heap (cellHead (liveCell s k)) (LC s k) := by
  rw [H.LC_eq, H.liveCell_eq]; exact H.isChain _

theorem LC_lt (H : HInv s G) {k i : Nat} (hi : i ∈ LC s k) : i < s.heap.length :=
  (H.LC_isChain k).lt_length i hi

theorem LC_keys (H : HInv s G) (k : Nat) : KeysDistinct s.heap (LC s k) := by
  rw [H.LC_eq]; exact H.keys _

/-- `_H` is not used: it is there for the dot notation, beside `H.absOf_some_iff`, which needs it -/
theorem absOf_none_iff (_H : HInv s G) {k : Nat} : absOf s k = none ↔ ∀ i ∈ LC s k, (nodeAt s.heap i).key ≠ k := by
  rw [absOf_eq]; exact absIn_eq_none_iff

theorem absOf_some_iff (H : HInv s G) {k : Nat} {v : Nat × Nat} :
    absOf s k = some v ↔ ∃ i ∈ LC s k, (nodeAt s.heap i).key = k ∧ (nodeAt s.heap i).val = v := by
  rw [absOf_eq]; exact absIn_eq_some_iff (H.LC_keys k)

end HInv

inductive Good (G : Ghost) (A : Nat → KSt) (k inv : Nat) (s : State) : Option Nat → Prop
  | absent {τ : Nat} : inv ≤ τ → τ ≤ s.now → A τ = none → Good G A k inv s none
  | on {c : Nat} : c ∈ LC s k → (∀ i ∈ LC s k, ord G.cr i < ord G.cr c → (nodeAt s.heap i).key ≠ k) →
      Good G A k inv s (some c)
  | foreign {c τ : Nat} {id : CellId} : c ∈ chId s id → ¬ keyOn id k → inv ≤ τ → τ ≤ s.now → A τ = none →
      Good G A k inv s (some c)
  | off {c : Nat} : ¬ Live s G c → c < s.heap.length →
      ((nodeAt s.heap c).key ≠ k → Good G A k inv s (nodeAt s.heap c).next) →
      ((nodeAt s.heap c).key = k → ∃ τ, inv ≤ τ ∧ τ ≤ s.now ∧ A τ = some (nodeAt s.heap c).val) →
      Good G A k inv s (some c)

/-- the successor of a chain node whose predecessors (and itself) do not have key `k` is `Good` -/
theorem Good.of_succ {A : Nat → KSt} {k inv : Nat} {s : State} {G : Ghost} (H : HInv s G)
    (hA : A s.now = absOf s k) (hinv : inv ≤ s.now) {c : Nat} (hc : c ∈ LC s k)
    (hbefore : ∀ i ∈ LC s k, ord G.cr i < ord G.cr c → (nodeAt s.heap i).key ≠ k)
    (hk : (nodeAt s.heap c).key ≠ k) : Good G A k inv s (nodeAt s.heap c).next := by
  have hn := getElem?_nodeAt (H.LC_lt hc)
  have hle : ∀ i ∈ LC s k, ord G.cr i ≤ ord G.cr c → (nodeAt s.heap i).key ≠ k := by
    intro i hi hic
    rcases Int.lt_or_eq_of_le hic with hlt | heq
    · exact hbefore i hi hlt
    · rw [ord_inj heq]; exact hk
  cases hnx : (nodeAt s.heap c).next with
  | none =>
    have h1 := (H.LC_isChain k).succ_none H.nextOK hc hn hnx
    refine .absent hinv (Nat.le_refl _) ?_
    rw [hA, H.absOf_none_iff]
    intro i hi
    exact hle i hi (h1 i hi)
  | some b =>
    obtain ⟨hb, h1⟩ := (H.LC_isChain k).succ_some H.nextOK hc hn hnx
    refine .on hb ?_
    intro i hi hib
    exact hle i hi (h1 i hi hib)

/-- the pointer loaded from the (live) cell -/
theorem Good.cell {A : Nat → KSt} {k inv : Nat} {s : State} {G : Ghost} (H : HInv s G) {h : Nat}
    (hcell : liveCell s k = .node h) : Good G A k inv s (some h) := by
  have hC := H.LC_isChain k
  rw [hcell] at hC
  cases hl : LC s k with
  | nil => rw [hl] at hC; cases hC
  | cons a l =>
    rw [hl] at hC
    obtain ⟨ha, -⟩ := IsSeg.cons_iff.1 hC
    cases ha
    refine .on (by rw [hl]; simp) ?_
    intro i hi hih
    have hs := hC.sorted H.nextOK
    rw [hl] at hi
    rcases List.mem_cons.1 hi with rfl | hi
    · omega
    · have := (List.pairwise_cons.1 hs).1 i hi
      omega

/-- the pointer loaded from the `next` cell of a node with another key -/
theorem Good.next {A : Nat → KSt} {k inv : Nat} {s : State} {G : Ghost} (H : HInv s G)
    (hA : A s.now = absOf s k) (hinv : inv ≤ s.now) {c : Nat} (hg : Good G A k inv s (some c))
    (hk : (nodeAt s.heap c).key ≠ k) : Good G A k inv s (nodeAt s.heap c).next := by
  cases hg with
  | on hc hbefore => exact Good.of_succ H hA hinv hc hbefore hk
  | @foreign _ τ id hc hno h1 h2 h3 =>
    have hn := getElem?_nodeAt (H.chain_lt hc)
    cases hnx : (nodeAt s.heap c).next with
    | none => exact .absent h1 h2 h3
    | some b =>
      obtain ⟨hb, -⟩ := (H.isChain id).succ_some H.nextOK hc hn hnx
      exact .foreign hb hno h1 h2 h3
  | off _ _ hnext _ => exact hnext hk

/-- a reader that finds key `k` in node `c` -/
theorem Good.hit {A : Nat → KSt} {k inv : Nat} {s : State} {G : Ghost} (H : HInv s G)
    (hA : A s.now = absOf s k) (hinv : inv ≤ s.now) {c : Nat} (hg : Good G A k inv s (some c))
    (hk : (nodeAt s.heap c).key = k) :
    ∃ τ, inv ≤ τ ∧ τ ≤ s.now ∧ A τ = some (nodeAt s.heap c).val := by
  cases hg with
  | on hc _ =>
    exact ⟨s.now, hinv, Nat.le_refl _, by rw [hA]; exact H.absOf_some_iff.2 ⟨c, hc, hk, rfl⟩⟩
  | @foreign _ _ id hc hno _ _ _ =>
    exfalso
    have := H.side id c hc
    rw [hk] at this
    exact hno this
  | off _ _ _ hval => exact hval hk

theorem Good.miss {G : Ghost} {A : Nat → KSt} {k inv : Nat} {s : State} (hg : Good G A k inv s none) :
    ∃ τ, inv ≤ τ ∧ τ ≤ s.now ∧ A τ = none := by
  cases hg with
  | absent h1 h2 h3 => exact ⟨_, h1, h2, h3⟩

/-- **hindsight**: the justification of a reader survives every transition that is a `HeapStep` -/
theorem Good.step {A A' : Nat → KSt} {k inv : Nat} {s s' : State} {G G' : Ghost} {cur : Option Nat}
    (hg : Good G A k inv s cur) (H : HInv s G) (hs : HeapStep s s' G G')
    (hnow : s'.now = s.now + 1) (hA' : ∀ τ, τ ≤ s.now → A' τ = A τ) (hA : A s.now = absOf s k)
    (hinv : inv ≤ s.now) : Good G' A' k inv s' cur := by
  have hle : ∀ {τ : Nat}, τ ≤ s.now → τ ≤ s'.now := fun h => hnow ▸ Nat.le_succ_of_le h
  have hnow' : s.now ≤ s'.now := hnow ▸ Nat.le_succ _
  -- a chain node that stays on the chain stays justified
  have hon : ∀ (c : Nat), c ∈ LC s k → c ∈ LC s' k →
      (∀ i ∈ LC s k, ord G.cr i < ord G.cr c → (nodeAt s.heap i).key ≠ k) →
      ∀ i ∈ LC s' k, ord G'.cr i < ord G'.cr c → (nodeAt s'.heap i).key ≠ k := by
    intro c hc hc' hbefore i hi hic
    have hcl := H.LC_lt hc
    rcases hs.lc k i hi with hi0 | ⟨hi0, hncp⟩
    · have hil := H.LC_lt hi0
      rw [hs.key i hil]
      rw [hs.ordS i hil, hs.ordS c hcl] at hic
      exact hbefore i hi0 hic
    · exfalso
      rw [ord_not_copy hncp, hs.ordS c hcl] at hic
      have := ord_le_self G.cr c
      omega
  induction hg with
  | absent h1 h2 h3 => exact .absent h1 (hle h2) (by rw [hA' _ h2]; exact h3)
  | @on c hc hbefore =>
    have hcl := H.LC_lt hc
    by_cases hc' : c ∈ LC s' k
    · exact .on hc' (hon c hc hc' hbefore)
    · obtain ⟨hval, hnext, hdead, hrest⟩ := hs.unl k c hc hc'
      have hkey := hs.key c hcl
      refine .off hdead (Nat.lt_of_lt_of_le hcl hs.len) ?_ ?_
      · intro hk
        rw [hkey] at hk
        rw [hnext]
        have hn := getElem?_nodeAt hcl
        have hle : ∀ i ∈ LC s k, ord G.cr i ≤ ord G.cr c → (nodeAt s.heap i).key ≠ k := by
          intro i hi hic
          rcases Int.lt_or_eq_of_le hic with hlt | heq
          · exact hbefore i hi hlt
          · rw [ord_inj heq]; exact hk
        cases hnx : (nodeAt s.heap c).next with
        | none =>
          have h1 := (H.LC_isChain k).succ_none H.nextOK hc hn hnx
          refine .absent (τ := s.now) hinv hnow' ?_
          rw [hA' _ (Nat.le_refl _), hA, H.absOf_none_iff]
          intro i hi
          exact hle i hi (h1 i hi)
        | some b =>
          obtain ⟨hb, h1⟩ := (H.LC_isChain k).succ_some H.nextOK hc hn hnx
          have hcb := (H.nextOK c _ b hn hnx).1
          have hbc : b ≠ c := by intro h; rw [h] at hcb; omega
          have hb' : b ∈ LC s' k := hrest b hb hbc
          refine .on hb' (hon b hb hb' ?_)
          intro i hi hib
          exact hle i hi (h1 i hi hib)
      · intro hk
        rw [hkey] at hk
        refine ⟨s.now, hinv, hnow', ?_⟩
        rw [hA' _ (Nat.le_refl _), hA, hval]
        exact H.absOf_some_iff.2 ⟨c, hc, hk, rfl⟩
  | @foreign c τ id hc hno h1 h2 h3 =>
    have h3' : A' τ = none := by rw [hA' _ h2]; exact h3
    have hcl := H.chain_lt hc
    by_cases hc' : c ∈ chId s' id
    · exact .foreign hc' hno h1 (hle h2) h3'
    · obtain ⟨hval, hnext, hdead, hrest⟩ := hs.unlC id c hc hc'
      have hkey := hs.key c hcl
      have hside : (nodeAt s.heap c).key ≠ k := by
        intro hk
        have := H.side id c hc
        rw [hk] at this
        exact hno this
      refine .off hdead (Nat.lt_of_lt_of_le hcl hs.len) ?_ (fun hk => absurd (hkey ▸ hk) hside)
      intro _
      rw [hnext]
      have hn := getElem?_nodeAt hcl
      cases hnx : (nodeAt s.heap c).next with
      | none => exact .absent h1 (hle h2) h3'
      | some b =>
        obtain ⟨hb, -⟩ := (H.isChain id).succ_some H.nextOK hc hn hnx
        have hcb := (H.nextOK c _ b hn hnx).1
        have hbc : b ≠ c := by intro h; rw [h] at hcb; omega
        exact .foreign (hrest b hb hbc) hno h1 (hle h2) h3'
  | @off c hc hcl _ hval ih =>
    obtain ⟨hv, hn, hdead⟩ := hs.off c hcl hc
    have hkey := hs.key c hcl
    refine .off hdead (Nat.lt_of_lt_of_le hcl hs.len) ?_ ?_
    · intro hk
      rw [hkey] at hk
      rw [hn]
      exact ih hk
    · intro hk
      rw [hkey] at hk
      obtain ⟨τ, h1, h2, h3⟩ := hval hk
      exact ⟨τ, h1, hle h2, by rw [hA' _ h2, hv]; exact h3⟩

end Flurry.Proto.BinNHM
