import Flurry.Lemmas.BinKEmbed
import Flurry.Lemmas.BinGNPInvBasic
import Flurry.Lemmas.BinKInvQ
/-! # BinK's invariant read off BinGNP's on the image

`inv_of_emb`: `BinGNP.Inv (emb s)` gives `BinK.Inv s` clause by clause (`hinv_of_emb`, `tinv_of_emb`, `linv_of_emb`,
`dinv_of_emb`; the functions of the program counter agree by evaluation, every thread works in the one cell; what a
program counter knows BinGNP states on the chain from the locked head / of the locked `TreeBin`, which is the live chain
for a thread past its re-check) — but for two clauses that the image does not show and that are proved of BinK directly
(`XExtra`, `XExtra.stepK`): an untreeified `TreeBin` keeps its write bit (`LInv.dead`; in BinGN a bin also dies by transfer,
with the bit clear, so BinGNP knows this of the dead bins of a run, not of a state), and the private `TreeBin` of a
treeify is an index-by-index copy of the live list (`BuiltOK`; BinGNP's `CopyOK` knows the copy up to the order of the
copies). -/
namespace Flurry.Proto.BinKE
open Flurry.Lin
open Flurry.Proto.BinK (nodeAt binAt chainOf get_set Quiet HeapEqv)

theorem holdsLock_emb (pc : BinK.Pc) : BinGNP.holdsLock (embPc pc) = BinK.holdsLock pc := by cases pc <;> rfl
theorem holdsMutex_emb (pc : BinK.Pc) : BinGNP.holdsMutex (embPc pc) = BinK.holdsMutex pc := by cases pc <;> rfl
theorem validL_emb (pc : BinK.Pc) : BinGNP.validL (embPc pc) = BinK.validL pc := by cases pc <;> rfl
theorem validT_emb (pc : BinK.Pc) : BinGNP.validT (embPc pc) = BinK.validT pc := by cases pc <;> rfl
theorem wr_emb (pc : BinK.Pc) : BinGNP.wr (embPc pc) = BinK.wr pc := by cases pc <;> rfl
theorem isLoop_emb (pc : BinK.Pc) : BinGNP.isLoop (embPc pc) = BinK.isLoop pc := by cases pc <;> rfl
theorem holdsRead_emb (pc : BinK.Pc) : BinGNP.holdsRead (embPc pc) = BinK.holdsRead pc := by cases pc <;> rfl
theorem binRef_emb (pc : BinK.Pc) : BinGNP.binRef (embPc pc) = BinK.binRef pc := by cases pc <;> rfl

/-- every thread works in the one cell -/
theorem cellAt_cidOf_emb (s : BinK.State) (l : BinK.Local) : BinGNP.cellAt (emb s) (BinGNP.cidOf (emb s) (embL l)) = embCell s.cell := by
  have h : BinGNP.cidOf (emb s) (embL l) = (0, 0) := by
    obtain ⟨pc, call⟩ := l
    unfold BinGNP.cidOf
    cases pc <;> first | rfl | (simp only [embL, embPc, BinGNP.xIdx, BinGNP.tabOf, BinGNP.idOf]; simp [Nat.mod_one])
  rw [h]; rfl

theorem startOf_emb (s : BinK.State) : BinGNP.startOf (emb s).tbins (embCell s.cell) = BinK.liveStart s := by
  unfold BinK.liveStart embCell; cases s.cell <;> rfl

theorem chainC_emb (s : BinK.State) : BinGNP.chainC (emb s) (embCell s.cell) = BinK.liveChain s := by
  rw [BinK.liveChain_eq]; unfold BinGNP.chainC; rw [startOf_emb]; rfl

theorem treeOf_emb (s : BinK.State) (j : Nat) : BinGNP.treeOf (emb s) (embCell s.cell) j ↔ BinK.liveTree s j := by
  unfold BinGNP.treeOf BinK.liveTree
  constructor
  · rintro ⟨h1, h2, b, hb, ho⟩
    exact ⟨h1, h2, b, embCell_inj (c' := .tree b) hb, ho⟩
  · rintro ⟨h1, h2, b, hb, ho⟩
    exact ⟨h1, h2, b, by rw [hb]; rfl, ho⟩

theorem hinv_of_emb {s : BinK.State} (H : BinGNP.HInv (emb s)) : BinK.HInv s := by
  refine ⟨?_, H.ownerOK, H.firstOK, ?_, ?_⟩
  · have := H.cinv (0, 0)
    rw [cellAt_emb, startOf_emb] at this
    exact ⟨this.nextOK, this.startOK, fun i j hi hj =>
      this.keysDistinct i j (hi.imp id (treeOf_emb s i).2) (hj.imp id (treeOf_emb s j).2)⟩
  · intro b hb; exact H.cellOK (0, 0) b (by rw [cellAt_emb, hb]; rfl)
  · intro j hj
    have := H.chainOwner (0, 0) j (by rw [cellAt_emb, chainC_emb]; exact hj)
    rw [cellAt_emb] at this
    refine this.trans ?_
    unfold BinK.liveOwner embCell; cases s.cell <;> rfl

/-- the lock part; `dead` (an untreeified `TreeBin` keeps its write bit) is not a clause of BinGNP's state invariant -/
theorem linv_of_emb {s : BinK.State} (L : BinGNP.LInv (emb s))
    (hdead : ∀ b, b < s.tbins.length → s.cell ≠ .tree b → (binAt s.tbins b).writer = true ∨
      ∃ (t : Nat) (l : BinK.Local) (h : Nat), s.threads[t]? = some l ∧ l.pc = .kStore h b) : BinK.LInv s := by
  have len : (emb s).threads.length = s.threads.length := by
    show (s.threads.map embL).length = _; rw [List.length_map]
  have cell : ∀ {l : BinK.Local} {c : BinK.Cell}, BinGNP.cellAt (emb s) (BinGNP.cidOf (emb s) (embL l)) = embCell c → s.cell = c :=
    fun h => embCell_inj (by rw [← h, cellAt_cidOf_emb])
  refine ⟨?_, fun h x hh => len ▸ L.lkValid h x hh, ?_, ?_, fun b x hh => len ▸ L.mxValid b x hh, ?_, ?_, ?_, ?_, L.wrd,
    hdead, ?_⟩
  · intro t l h hl; rw [← holdsLock_emb]; exact L.lk t _ h (emb_get hl)
  · intro t l h hl hv
    exact cell (c := .list h) (L.vL t _ h (emb_get hl) (by rw [show (embL l).pc = embPc l.pc from rfl, validL_emb]; exact hv))
  · intro t l b hl; rw [← holdsMutex_emb]; exact L.mx t _ b (emb_get hl)
  · intro t l b hl hv
    exact cell (c := .tree b) (L.vT t _ b (emb_get hl) (by rw [show (embL l).pc = embPc l.pc from rfl, validT_emb]; exact hv))
  · intro b h; exact L.bitsNone (0, 0) b (by rw [cellAt_emb, h]; rfl)
  · intro b t l h hl hm
    have := L.bitsSome (0, 0) b t _ (by rw [cellAt_emb, h]; rfl) (emb_get hl) hm
    rw [show (embL l).pc = embPc l.pc from rfl, wr_emb, isLoop_emb] at this; exact this
  · intro b hb
    refine (L.rd b hb).trans ?_
    show BinGNP.cnt _ (s.threads.map embL) = _
    unfold BinGNP.cnt BinK.cnt
    rw [List.filter_map, List.length_map]
    congr 2
    funext l; show (BinGNP.holdsRead (embPc l.pc) == some b) = _; rw [holdsRead_emb]
  · intro t l b hl hb
    obtain ⟨h1, h2⟩ := L.refOK t _ b (emb_get hl) (by rw [show (embL l).pc = embPc l.pc from rfl, binRef_emb]; exact hb)
    refine ⟨h1, fun t' l' h hl' hpc' => h2 ⟨t', embL l', emb_get hl', ?_, ?_⟩⟩
    · show (.tree b : BinG.Cell) ∈ BinGNP.pend (emb s) (embPc l'.pc); rw [hpc']; exact List.mem_singleton.2 rfl
    · intro j hj
      have : BinGNP.xIdx (embPc l'.pc) = some j := hj
      rw [hpc'] at this; cases this

theorem readerPc_emb (pc : BinK.Pc) : BinGNP.readerPc (embPc pc) = BinK.readerPc pc := by cases pc <;> rfl
theorem noCallPc_emb (pc : BinK.Pc) : BinGNP.noCallPc (embPc pc) = (pc == .idle || BinK.kPc pc) := by cases pc <;> rfl

theorem tinv_of_emb {s : BinK.State} (T : BinGNP.TInv (emb s)) : BinK.TInv s := by
  refine ⟨?_, T.histTime, fun t l p hl hp => T.pendTime t _ p (emb_get hl) hp, ?_, ?_, T.uniqHH⟩
  · intro t l p hl hp hi hk
    have := T.opOK t _ p (emb_get hl) hp (by
      rw [show (embL l).pc = embPc l.pc from rfl, noCallPc_emb, hk]
      cases h : l.pc <;> first | rfl | exact absurd h hi)
    rw [show (embL l).pc = embPc l.pc from rfl, readerPc_emb] at this
    exact this
  · intro x hx t l p hl hp; exact T.uniqHP x hx t _ p (emb_get hl) hp
  · intro t t' l l' p p' hl hl' hp hp'; exact T.uniqPP t t' _ _ p p' (emb_get hl) (emb_get hl') hp hp'

/-- what a program counter knows; BinGNP states it on the chain from the locked head / of the locked `TreeBin`, which
is the live chain for a thread past its re-check -/
theorem pcInv_of_emb {s : BinK.State} {p : BinK.Pending} {pc : BinK.Pc}
    (hvL : ∀ h, BinK.validL pc = some h → s.cell = .list h) (hvT : ∀ b, BinK.validT pc = some b → s.cell = .tree b)
    (h : BinGNP.PcInv (emb s) p (embPc pc)) : BinK.PcInv s p pc := by
  cases pc with
  | wFind h0 pred cur =>
    obtain ⟨l1, l2, e, r⟩ := (h : BinGNP.Walk (emb s) h0 p.key pred cur)
    exact ⟨l1, l2, ((BinK.liveChain_list (hvL h0 rfl)).trans e), r⟩
  | wStore h0 pred hit hnext =>
    obtain ⟨⟨l1, l2, e, r⟩, h2⟩ := (h : BinGNP.Walk (emb s) h0 p.key pred hit ∧ _)
    exact ⟨⟨l1, l2, ((BinK.liveChain_list (hvL h0 rfl)).trans e), r⟩, h2⟩
  | tVal b i v res => rw [BinK.PcInv, BinK.liveChain_tree (hvT b rfl)]; exact h
  | tTreeLinkLocked b x => rw [BinK.PcInv, BinK.liveChain_tree (hvT b rfl)]; exact h
  | tUnlinkLocked b i res => unfold BinK.PcInv BinK.RemOK; rw [BinK.liveChain_tree (hvT b rfl)]; exact h
  | tRestructure b i res => rw [BinK.PcInv, BinK.liveChain_tree (hvT b rfl)]; exact h
  | lrTry b k res =>
    cases k with
    | insert => exact h
    | remove i => unfold BinK.PcInv BinK.RemOK; rw [BinK.liveChain_tree (hvT b rfl)]; exact h
  | lrLoop b k res =>
    cases k with
    | insert => exact h
    | remove i => unfold BinK.PcInv BinK.RemOK; rw [BinK.liveChain_tree (hvT b rfl)]; exact h
  | rNode c => cases c <;> exact h
  | rState b c => cases c <;> exact h
  | lNode c => cases c <;> exact h
  | _ => exact h

theorem embPc_tRestructure {pc : BinK.Pc} {g b j : Nat} {res : KRes} (h : embPc pc = .tRestructure g b j res) :
    pc = .tRestructure b j res := by cases pc <;> first | (cases h; rfl) | cases h
theorem embPc_tUntreeify {pc : BinK.Pc} {g b : Nat} {res : KRes} (h : embPc pc = .tUntreeify g b res) :
    pc = .tUntreeify b res := by cases pc <;> first | (cases h; rfl) | cases h
theorem embPc_tTreeLinkLocked {pc : BinK.Pc} {g b j : Nat} (h : embPc pc = .tTreeLinkLocked g b j) :
    pc = .tTreeLinkLocked b j := by cases pc <;> first | (cases h; rfl) | cases h

theorem dinv_of_emb {s : BinK.State} (D : BinGNP.DInv (emb s)) (L : BinK.LInv s)
    (hbuilt : ∀ (t : Nat) (l : BinK.Local), s.threads[t]? = some l → BinK.KInv s l.pc) : BinK.DInv s := by
  refine ⟨fun t l p hl hp => pcInv_of_emb (fun h hv => L.vL t l h hl hv) (fun b hv => L.vT t l b hl hv)
    (D.pcInv t _ p (emb_get hl) hp), hbuilt, ?_, ?_⟩
  · intro b hc j hj ho hi hn
    obtain ⟨t, l, hl, h⟩ := D.treeSub (0, 0) b (by rw [cellAt_emb, hc]; rfl) j hj ho hi
      (by rw [BinK.liveChain_tree hc] at hn; exact hn)
    obtain ⟨l0, hl0, rfl⟩ := emb_threads_get hl
    refine ⟨t, l0, hl0, ?_⟩
    rcases h with ⟨g, res, e⟩ | ⟨g, res, e⟩
    · exact .inl ⟨res, embPc_tRestructure e⟩
    · exact .inr ⟨res, embPc_tUntreeify e⟩
  · intro b hc j hj hi
    obtain ⟨t, l, g, hl, h⟩ := D.chainSub (0, 0) b (by rw [cellAt_emb, hc]; rfl) j
      (by rw [BinK.liveChain_tree hc] at hj; exact hj) hi
    obtain ⟨l0, hl0, rfl⟩ := emb_threads_get hl
    exact ⟨t, l0, hl0, embPc_tTreeLinkLocked h⟩

theorem inv_of_emb {s : BinK.State} (I' : BinGNP.Inv (emb s))
    (hdead : ∀ b, b < s.tbins.length → s.cell ≠ .tree b → (binAt s.tbins b).writer = true ∨
      ∃ (t : Nat) (l : BinK.Local) (h : Nat), s.threads[t]? = some l ∧ l.pc = .kStore h b)
    (hbuilt : ∀ (t : Nat) (l : BinK.Local), s.threads[t]? = some l → BinK.KInv s l.pc) : BinK.Inv s :=
  have L := linv_of_emb I'.lock hdead
  ⟨hinv_of_emb I'.heap, tinv_of_emb I'.thr, L, dinv_of_emb I'.data L hbuilt⟩

/-! ## the two clauses the image does not show -/

/-- an untreeified `TreeBin` keeps its write bit; the private `TreeBin` of a treeify is an index-by-index copy of the
live list (BinGNP knows it as a copy up to order) -/
structure XExtra (s : BinK.State) : Prop where
  dead : ∀ b, b < s.tbins.length → s.cell ≠ .tree b → (binAt s.tbins b).writer = true ∨
    ∃ (t : Nat) (l : BinK.Local) (h : Nat), s.threads[t]? = some l ∧ l.pc = .kStore h b
  built : ∀ (t : Nat) (l : BinK.Local), s.threads[t]? = some l → BinK.KInv s l.pc

theorem kInv_of {s : BinK.State} {pc : BinK.Pc} (h : BinK.isKStore pc = none) : BinK.KInv s pc := by
  cases pc <;> first | trivial | cases h

theorem isKStore_of {pc : BinK.Pc} {h b : Nat} (e : pc = .kStore h b) : BinK.isKStore pc = some b := by rw [e]; rfl

/-- transitions that leave the cell, the data fields of the heap and the `first` fields alone -/
theorem XExtra.quiet {s s' : BinK.State} {t : Nat} {l l' : BinK.Local} (X : XExtra s) (I : BinK.Inv s)
    (hl : s.threads[t]? = some l) (hthr : s'.threads = s.threads.set t l') (q : Quiet s s')
    (hk : BinK.isKStore l.pc = none) (hk' : BinK.isKStore l'.pc = none)
    (hbin : ∀ b, BinK.binRef l.pc ≠ some b → binAt s'.tbins b = binAt s.tbins b)
    (hw : ∀ b, BinK.validT l.pc ≠ some b → (binAt s.tbins b).writer = true → (binAt s'.tbins b).writer = true) :
    XExtra s' := by
  refine ⟨fun b hb hc => ?_, fun t1 l1 h1 => ?_⟩
  · rw [q.tlen] at hb; rw [q.cell] at hc
    rcases X.dead b hb hc with h | ⟨t0, l0, h0, hl0, hpc0⟩
    · exact .inl (hw b (fun hv => hc (I.lock.vT t l b hl hv)) h)
    · refine .inr ⟨t0, l0, h0, ?_, hpc0⟩
      rw [hthr, List.getElem?_set_ne]; exact hl0
      rintro rfl; rw [hl] at hl0; cases hl0; rw [isKStore_of hpc0] at hk; cases hk
  · rw [hthr] at h1
    rcases get_set h1 with ⟨rfl, rfl⟩ | ⟨n1, h1⟩
    · exact kInv_of hk'
    · have K := X.built t1 l1 h1
      cases hp : l1.pc with
      | kStore h b =>
        rw [hp] at K
        exact BinK.BuiltOK.quiet q I.heap (hbin b (fun hr => (I.lock.refOK t l b hl hr).2 t1 l1 h h1 hp)) K
      | _ => trivial

/-- the stores of a validated thread (or the CAS into the empty cell): no other thread is at `kStore` (`hno`), the
`TreeBin` table keeps its length and its write bits, and a `TreeBin` leaves the cell only with its write bit set (`hcell`):
both clauses survive -/
theorem XExtra.store {s s' : BinK.State} {t : Nat} {l l' : BinK.Local} (X : XExtra s) (hl : s.threads[t]? = some l)
    (hthr : s'.threads = s.threads.set t l')
    (hk : BinK.isKStore l.pc = none) (hk' : BinK.isKStore l'.pc = none)
    (hno : ∀ t1 l1, t1 ≠ t → s.threads[t1]? = some l1 → BinK.isKStore l1.pc = none)
    (htlen : s'.tbins.length = s.tbins.length)
    (hw : ∀ b, (binAt s.tbins b).writer = true → (binAt s'.tbins b).writer = true)
    (hcell : ∀ b, s'.cell ≠ .tree b → s.cell ≠ .tree b ∨ (binAt s.tbins b).writer = true) : XExtra s' := by
  refine ⟨fun b hb hc => ?_, fun t1 l1 h1 => ?_⟩
  · rw [htlen] at hb
    rcases hcell b hc with hc0 | h
    · rcases X.dead b hb hc0 with h | ⟨t0, l0, h0, hl0, hpc0⟩
      · exact .inl (hw b h)
      · by_cases e : t0 = t
        · subst e; rw [hl] at hl0; cases hl0; rw [isKStore_of hpc0] at hk; cases hk
        · have := hno t0 l0 e hl0; rw [isKStore_of hpc0] at this; cases this
    · exact .inl (hw b h)
  · rw [hthr] at h1
    rcases get_set h1 with ⟨rfl, rfl⟩ | ⟨n1, h1⟩
    · exact kInv_of hk'
    · exact kInv_of (hno t1 l1 n1 h1)

theorem isKStore_of_validL {pc : BinK.Pc} (h : BinK.validL pc = none) : BinK.isKStore pc = none := by
  cases pc <;> first | rfl | cases h

theorem quiet_of {s s' : BinK.State} (hc : s'.cell = s.cell) (hh : HeapEqv s.heap s'.heap) (ht : s'.tbins = s.tbins) :
    Quiet s s' := ⟨hc, hh, by rw [ht], fun _ => by rw [ht]⟩

/-- the `TreeBin` that `kBuild` allocates: its nodes are the copies, at the end of the heap, of the nodes of the live list,
in list order -/
theorem builtOK_kbuild {s : BinK.State} (H : BinK.HInv s) {h : Nat} (hcell : s.cell = .list h) (t : Nat) (l' : BinK.Local) :
    BinK.BuiltOK (BinK.setT (BinK.buildOf (BinK.tick s) h) t l') s.tbins.length := by
  let s' := BinK.setT (BinK.buildOf (BinK.tick s) h) t l'
  show BinK.BuiltOK s' s.tbins.length
  have hC : BinK.chainFrom s.heap s.heap.length (some h) = BinK.liveChain s := (BinK.liveChain_list hcell).symm
  let mk : BinK.NodeS → Option Nat → BinK.NodeS := fun src nx => ⟨src.key, src.val, nx, none, true, some s.tbins.length⟩
  let x : BinK.TBin := { first := if (BinK.liveChain s).length = 0 then none else some s.heap.length }
  have hheap : s'.heap = s.heap ++ BinK.copiesOf s.heap (BinK.liveChain s) mk := by
    show (BinK.copyChain s.heap (BinK.chainFrom s.heap s.heap.length (some h)) mk).1 = _
    rw [BinK.copyChain_eq, hC]
  have htb : s'.tbins = s.tbins ++ [x] := by
    show s.tbins ++ [{ first := (BinK.copyChain s.heap (BinK.chainFrom s.heap s.heap.length (some h)) mk).2 }] = _
    rw [BinK.copyChain_eq, hC]
  obtain ⟨hlen, hold, hnewn, -, -⟩ := BinK.copies_shape s.heap (BinK.liveChain s) mk (fun _ _ => rfl)
  rw [← hheap] at hlen hold hnewn
  have hbin : binAt s'.tbins s.tbins.length = x := by
    rw [htb, BinK.binAt_append_one, if_neg (Nat.lt_irrefl _), if_pos rfl]
  have hok' : BinK.NextOK s'.heap := by
    rw [hheap]; exact BinK.nextOK_copies H.cinv.nextOK _ _ (fun _ _ => rfl)
  -- the live chain is a chain of the extended heap
  have hlc : BinK.liveChain s' = BinK.liveChain s := by
    rw [BinK.liveChain_eq s', BinK.liveChain_eq s]
    rw [show BinK.liveStart s' = BinK.liveStart s from by unfold BinK.liveStart; rw [show s'.cell = s.cell from rfl, hcell]]
    refine BinK.chainOf_eq hok' (H.cinv.isChain.congr ?_)
    intro j hj n hn
    have hjl : j < s.heap.length := (List.getElem?_eq_some_iff.1 hn).1
    exact ⟨n, by rw [hheap, List.getElem?_append_left hjl]; exact hn, rfl⟩
  have hchb : BinK.chainOfBin s' s.tbins.length = List.range' s.heap.length (BinK.liveChain s).length := by
    rw [BinK.chainOfBin_eq, hbin]
    refine BinK.chainOf_eq hok' ?_
    rw [hheap]; exact BinK.copiesOf_isChain _ _ _ (fun _ _ => rfl)
  refine ⟨by rw [htb]; simp, by rw [hbin], by rw [hchb, hlc]; simp, ?_, ?_, ?_⟩
  · intro j hj
    rw [hlc] at hj ⊢
    rw [hchb, BinK.getD_range' _ _ _ hj, hnewn j hj]
    have hjl : (BinK.liveChain s).getD j 0 < s.heap.length := by
      have : (BinK.liveChain s).getD j 0 = (BinK.liveChain s)[j] := by simp [List.getD_eq_getElem?_getD, hj]
      rw [this]; exact H.chain_lt (List.getElem_mem hj)
    rw [hold _ hjl]
    exact ⟨rfl, rfl⟩
  · intro j hj
    rw [hchb, List.mem_range'_1]
    by_cases hjl : j < s.heap.length
    · rw [hold j hjl]
      exact ⟨fun ho => absurd (H.ownerOK j _ ho) (Nat.lt_irrefl _), fun hr => absurd hr.1 (Nat.not_le_of_lt hjl)⟩
    · obtain ⟨k, hk, rfl⟩ : ∃ k, k < (BinK.liveChain s).length ∧ j = s.heap.length + k :=
        ⟨j - s.heap.length, by omega, by omega⟩
      rw [hnewn k hk]
      exact ⟨fun _ => by omega, fun _ => rfl⟩
  · intro j hj
    rw [hchb, List.mem_range'_1] at hj
    obtain ⟨k, hk, rfl⟩ : ∃ k, k < (BinK.liveChain s).length ∧ j = s.heap.length + k :=
      ⟨j - s.heap.length, by omega, by omega⟩
    rw [hnewn k hk]

section
variable {s : BinK.State} {t : Nat} {pc pc' : BinK.Pc} {call : Option BinK.Pending} {p : BinK.Pending}
  {hp : List BinK.NodeS} {tb : List BinK.TBin} {res : KRes}

/-! ### transitions that move a program counter and at most one lock word or the synchronisation words of one `TreeBin` -/

theorem XExtra.move (X : XExtra s) (I : BinK.Inv s) (hl : s.threads[t]? = some ⟨pc, call⟩) (hm : BinK.Move s t p pc pc' hp) :
    XExtra (BinK.setT (BinK.qst s hp s.tbins) t ⟨pc', call⟩) := by
  refine X.quiet I hl rfl (quiet_of rfl hm.lockKind.heapEqv rfl) ?_ ?_ (fun _ _ => rfl) (fun _ _ h => h)
  · cases hm <;> rfl
  · cases hm with
    | @rCellTree lo b _ => cases lo <;> rfl
    | _ => rfl

theorem XExtra.kmove (X : XExtra s) (I : BinK.Inv s) (hl : s.threads[t]? = some ⟨pc, call⟩) (hm : BinK.KMove s t pc pc' hp) :
    XExtra (BinK.setT (BinK.qst s hp s.tbins) t ⟨pc', call⟩) := by
  refine X.quiet I hl rfl (quiet_of rfl hm.lockKind.heapEqv rfl) ?_ ?_ (fun _ _ => rfl) (fun _ _ h => h)
  · cases hm <;> rfl
  · cases hm <;> rfl

theorem XExtra.fin (X : XExtra s) (I : BinK.Inv s) (hl : s.threads[t]? = some ⟨pc, call⟩) (hf : BinK.Fin s p pc res hp) :
    XExtra (BinK.finish (BinK.qst s hp s.tbins) t p res) := by
  refine X.quiet (l' := ⟨.idle, none⟩) I hl rfl (quiet_of rfl (BinK.Fin.lockKind (t := t) hf).heapEqv rfl) ?_ rfl
    (fun _ _ => rfl) (fun _ _ h => h)
  cases hf <;> rfl

/-- the write bit is cleared by `unlockRoot` only, in the `TreeBin` the thread has validated -/
theorem XExtra.bmove (X : XExtra s) (I : BinK.Inv s) (hl : s.threads[t]? = some ⟨pc, call⟩) (hm : BinK.BMove s t p pc pc' tb) :
    XExtra (BinK.setT (BinK.qst s s.heap tb) t ⟨pc', call⟩) := by
  refine X.quiet I hl rfl ⟨rfl, HeapEqv.refl _, ?_, ?_⟩ ?_ ?_ ?_ ?_
  · cases hm <;> exact List.length_modify _ _ _
  · intro b; cases hm <;> (show (binAt (List.modify _ _ _) b).first = _; rw [BinK.binAt_modify]; split <;> rfl)
  · cases hm <;> rfl
  · cases hm with
    | @lrTryOk _ k _ _ _ _ => cases k <;> rfl
    | @lrLoopOk _ k _ _ _ => cases k <;> rfl
    | _ => rfl
  · intro b hr
    cases hm <;> exact BinK.binAt_modify_ne _ (fun e => hr (congrArg some e))
  · intro b hv h
    cases hm <;> (show (binAt (List.modify _ _ _) b).writer = true; rw [BinK.binAt_modify]; split) <;>
      first | exact h | rfl | (rename_i e; exact absurd (congrArg some e.1) hv)

theorem XExtra.bfin (X : XExtra s) (I : BinK.Inv s) (hl : s.threads[t]? = some ⟨pc, call⟩) (hf : BinK.BFin s p pc res tb) :
    XExtra (BinK.finish (BinK.qst s s.heap tb) t p res) := by
  refine X.quiet (l' := ⟨.idle, none⟩) I hl rfl ⟨rfl, HeapEqv.refl _, ?_, ?_⟩ ?_ rfl ?_ ?_
  · cases hf <;> exact List.length_modify _ _ _
  · intro b; cases hf <;> (show (binAt (List.modify _ _ _) b).first = _; rw [BinK.binAt_modify]; split <;> rfl)
  · cases hf <;> rfl
  · intro b hr
    cases hf <;> exact BinK.binAt_modify_ne _ (fun e => hr (congrArg some e))
  · intro b hv h
    cases hf <;> (show (binAt (List.modify _ _ _) b).writer = true; rw [BinK.binAt_modify]; split) <;>
      first | exact h | rfl

end

/-- while a thread is validated no other thread is at `kStore` -/
theorem no_kStore_of_validated {s : BinK.State} {t : Nat} {l : BinK.Local} (L : BinK.LInv s) (hl : s.threads[t]? = some l)
    (hv : BinK.validated l.pc = true ∨ s.cell = .empty) :
    ∀ t1 l1, t1 ≠ t → s.threads[t1]? = some l1 → BinK.isKStore l1.pc = none :=
  fun _ _ n1 h1 => isKStore_of_validL (BinK.others_not_valid L hl hv n1 h1).1

/-- the stores of a tree writer that holds the write lock, and the list writer's store: the cell keeps its kind of
content, no `TreeBin` is added, no write bit cleared -/
theorem XExtra.wstore {s x s' : BinK.State} {t : Nat} {l l' : BinK.Local} (X : XExtra s) (L : BinK.LInv s)
    (hl : s.threads[t]? = some l) (hv : BinK.validated l.pc = true)
    (hk : BinK.isKStore l.pc = none) (hk' : BinK.isKStore l'.pc = none) (hs' : s' = BinK.setT x t l')
    (hthr : x.threads = s.threads) (htlen : x.tbins.length = s.tbins.length)
    (hw : ∀ b, (binAt s.tbins b).writer = true → (binAt x.tbins b).writer = true)
    (hcell : ∀ b, x.cell ≠ .tree b → s.cell ≠ .tree b) : XExtra s' := by
  subst hs'
  exact X.store hl (by show x.threads.set t l' = _; rw [hthr]) hk hk' (no_kStore_of_validated L hl (.inl hv)) htlen hw
    (fun b hc => .inl (hcell b hc))

theorem unlinkOf_cell_tbins (s : BinK.State) (b i : Nat) :
    (BinK.unlinkOf s b i).cell = s.cell ∧ (BinK.unlinkOf s b i).tbins.length = s.tbins.length ∧
      ∀ b', (binAt s.tbins b').writer = true → (binAt (BinK.unlinkOf s b i).tbins b').writer = true := by
  unfold BinK.unlinkOf
  split
  · exact ⟨rfl, rfl, fun _ h => h⟩
  · refine ⟨rfl, List.length_modify _ _ _, fun b' h => ?_⟩
    show (binAt (List.modify _ _ _) b').writer = true
    rw [BinK.binAt_modify]; split <;> exact h

theorem XExtra.stepK {s s' : BinK.State} {t : Nat} {l : BinK.Local} (X : XExtra s) (I : BinK.Inv s)
    (hl : s.threads[t]? = some l) (h : BinK.StepK s t l s') : XExtra s' := by
  have L := I.lock
  have noT : ∀ {h0 : Nat}, s.cell = .list h0 → ∀ b, s.cell ≠ .tree b := fun e b e' => by rw [e] at e'; cases e'
  obtain ⟨pc, call⟩ := l
  cases h with
  | idle hpc => cases hpc; exact X.quiet I hl rfl (quiet_of rfl (HeapEqv.refl _) rfl) rfl rfl (fun _ _ => rfl) (fun _ _ h => h)
  | maint hpc => cases hpc; exact X.quiet I hl rfl (quiet_of rfl (HeapEqv.refl _) rfl) rfl rfl (fun _ _ => rfl) (fun _ _ h => h)
  | invoke k op lo hpc =>
    cases hpc
    refine X.quiet I hl rfl (quiet_of rfl (HeapEqv.refl _) rfl) rfl ?_ (fun _ _ => rfl) (fun _ _ h => h)
    cases BinK.isReader op <;> rfl
  | move p pc' hp hc hm => exact X.move I hl hm
  | kmove pc' hp hc hm => exact X.kmove I hl hm
  | fin p res hp hc hf => exact X.fin I hl hf
  | bmove p pc' tb hc hm => exact X.bmove I hl hm
  | bfin p res tb hc hf => exact X.bfin I hl hf
  | cas p v vi hc hpc he hop =>
    cases hpc
    exact X.store (l' := ⟨.idle, none⟩) hl rfl rfl rfl (no_kStore_of_validated L hl (.inr he)) rfl (fun _ h => h)
      (fun b _ => .inl (by rw [he]; nofun))
  | store p h0 pred hit hnext hc hpc =>
    cases hpc
    have fr := BinK.storeAt_frame (BinK.tick s) p pred hit hnext
    exact X.wstore L hl rfl rfl rfl rfl fr.1 (by rw [fr.2.2.2]; rfl) (fun b h => by rw [fr.2.2.2]; exact h)
      (fun b _ => noT (L.vL t _ h0 hl rfl) b)
  | tval p b i v res hc hpc => cases hpc; exact X.wstore L hl rfl rfl rfl rfl rfl rfl (fun _ h => h) (fun _ h => h)
  | treeLink p b x hc hpc => cases hpc; exact X.wstore L hl rfl rfl rfl rfl rfl rfl (fun _ h => h) (fun _ h => h)
  | untree p b i res hc hpc => cases hpc; exact X.wstore L hl rfl rfl rfl rfl rfl rfl (fun _ h => h) (fun _ h => h)
  | prepend p b v vi hc hpc hop =>
    cases hpc
    refine X.wstore L hl rfl rfl rfl rfl rfl (List.length_modify _ _ _) (fun b' h => ?_) (fun _ h => h)
    exact (BinK.binAt_modify_keep (fun x : BinK.TBin => x.writer) s.tbins b
      (f := fun y => { y with first := some s.heap.length }) (fun _ => rfl) b').trans h
  | unlink p b i res small hc hpc =>
    cases hpc
    have fr := unlinkOf_cell_tbins (BinK.tick s) b i
    exact X.wstore L hl rfl rfl (by cases small <;> rfl) rfl (BinK.unlinkOf_threads _ b i) fr.2.1 fr.2.2
      (fun b' h => by rw [fr.1] at h; exact h)
  | untreeify p b res hc hpc =>
    cases hpc
    have hcell := L.vT t _ b hl rfl
    have hwr := (L.bitsSome b t _ hcell hl ((L.mx t _ b hl).1 rfl)).1
    refine X.store hl rfl rfl rfl (no_kStore_of_validated L hl (.inl rfl)) rfl (fun _ h => h) (fun b' _ => ?_)
    by_cases e : b' = b
    · subst e; exact .inr hwr
    · exact .inl (by rw [hcell]; intro e'; cases e'; exact e rfl)
  | kbuild h0 hc hpc =>
    cases hpc
    have hcell := L.vL t _ h0 hl rfl
    have hno := no_kStore_of_validated L hl (.inl rfl)
    have hself : (s.threads.set t ⟨.kStore h0 s.tbins.length, call⟩)[t]? = some ⟨.kStore h0 s.tbins.length, call⟩ :=
      Flurry.Shared.get_set_self hl
    refine ⟨fun b' hb' _ => ?_, fun t1 l1 h1 => ?_⟩
    · by_cases e : b' < s.tbins.length
      · rcases X.dead b' e (noT hcell b') with h | ⟨t0, l0, h0', hl0, hpc0⟩
        · refine .inl ?_
          show (binAt (s.tbins ++ [_]) b').writer = true
          rw [BinK.binAt_append_one, if_pos e]; exact h
        · by_cases e0 : t0 = t
          · subst e0; rw [hl] at hl0; cases hl0; cases hpc0
          · have := hno t0 l0 e0 hl0; rw [isKStore_of hpc0] at this; cases this
      · have hb'' : b' < (s.tbins ++ [_]).length := hb'
        have : b' = s.tbins.length := by simp at hb''; omega
        subst this
        exact .inr ⟨t, _, h0, hself, rfl⟩
    · have h1' : (s.threads.set t _)[t1]? = some l1 := h1
      rcases get_set h1' with ⟨rfl, rfl⟩ | ⟨n1, h1'⟩
      · exact builtOK_kbuild I.heap hcell t1 _
      · exact kInv_of (hno t1 l1 n1 h1')
  | kstore h0 b hc hpc =>
    cases hpc
    have hcell := L.vL t _ h0 hl rfl
    have hno := no_kStore_of_validated L hl (.inl rfl)
    refine ⟨fun b' hb' hc' => ?_, fun t1 l1 h1 => ?_⟩
    · have hne : b' ≠ b := fun e => hc' (by rw [e])
      rcases X.dead b' hb' (noT hcell b') with h | ⟨t0, l0, h0', hl0, hpc0⟩
      · exact .inl h
      · by_cases e : t0 = t
        · subst e; rw [hl] at hl0; cases hl0; cases hpc0; exact absurd rfl hne
        · have := hno t0 l0 e hl0; rw [isKStore_of hpc0] at this; cases this
    · have h1' : (s.threads.set t _)[t1]? = some l1 := h1
      rcases get_set h1' with ⟨rfl, rfl⟩ | ⟨n1, h1'⟩
      · trivial
      · exact kInv_of (hno t1 l1 n1 h1')

end Flurry.Proto.BinKE
