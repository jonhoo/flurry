import Flurry.Lemmas.BinGNPFactsBase
import Flurry.Lemmas.BinKHeapAux
import Flurry.Lemmas.BinGNPPlan
import Flurry.Lemmas.BinGNPFactsX
/-! # Proto/BinGN: the conversions `untreeify`, `kbuild`, `kstore` (per-transition facts)

Each transition is first treated for an abstract successor state `s'` described by its fields
(`*_core`), then the description is checked for the successor state of the `StepN` constructor
(`*_facts`). All three change no abstract state: `Eff s s' ∧ ∀ k, absOf s' k = absOf s k`.

The two stores into the cell end in `eff_cstore` (`Lemmas/BinGNPFactsBase.lean`), the build in `Ext.facts`
(`Lemmas/BinGNPFactsX.lean`). Every `*_core` takes the generation structure `XS' : XShape s'` of the successor state,
which these ask for; every `*_facts` reads `let s' := …; XShape s' → …`. The generation `tab` of the acting thread
exists (`gen_of_tabOf`), so that the store goes through `XInv.cellAt_setCell`. -/
namespace Flurry.Proto.BinGNP
open Flurry.Lin
open Flurry.Proto.BinK (nodeAt binAt NextOK IsChain IsSeg chainOf CInv absL HeapStep getElem?_nodeAt nodeAt_of_some
  chainOf_eq chainOf_isChain get_set get_set_self get_set_ne copiesOf copiesOf_length copiesOf_get copiesOf_isChain
  nextOK_copies copyChain_eq nodeAt_append_left nodeAt_ge binAt_ge binAt_append_left binAt_append_new
  getD_range' copiesOf_lock)
open Store FactsL

variable {s s' : State} {t : Nat} {l l' : Local} {p : Pending}

private theorem cellAt_setT (s : State) (t : Nat) (l : Local) (id : Cid) : cellAt (setT s t l) id = cellAt s id := rfl

/-! ## `kstore`: the private `TreeBin` of a treeify is stored into the cell -/

theorem kstore_core {tab : Nat} {k0 h b : Nat} {id : Cid}
    (I : Inv s) (hl : s.threads[t]? = some l) (hc : l.call = none) (hpc : l.pc = .kStore tab k0 h b)
    (hcid : cidOf s l = id)
    (hheap : s'.heap = s.heap) (htb : s'.tbins = s.tbins)
    (hthr : s'.threads = s.threads.set t { l with pc := .kUnlock h })
    (hcells : ∀ id', cellAt s' id' = if id' = id then .tree b else cellAt s id')
    (hcur : s'.cur = s.cur) (hnow : s'.now = s.now + 1)
    (hhist : s'.hist = s.hist) (XS' : XShape s') : Eff s s' ∧ ∀ k, absOf s' k = absOf s k := by
  have H := I.heap
  have X := I.rsz
  have L := I.lock
  have hvL : validL l.pc = some h := by rw [hpc]; rfl
  have hvv := validated_of_validL hvL
  have hx : xPc l.pc = false := by rw [hpc]; rfl
  have hcell : cellAt s id = .list h := hcid ▸ L.vL t l h hl hvL
  have W : Writable s id := hcid ▸ Writable.of_validated I hl hvv hx
  have hB := I.data.kInv t l hl
  rw [hpc] at hB
  simp only [KInv] at hB
  obtain ⟨hcp, hnc⟩ := hB
  have hfr := hcp.fresh b rfl (by simp)
  have hold : ∀ j, j < s.heap.length → nodeAt s'.heap j = nodeAt s.heap j := fun j _ => by rw [hheap]
  have hcid' : cellAt s' id = .tree b := by rw [hcells, if_pos rfl]
  have hoth : ∀ id', id' ≠ id → cellAt s' id' = cellAt s id' := fun id' hne => by rw [hcells, if_neg hne]
  have hchb : chainC s' (.tree b) = chainC s (.tree b) := by unfold chainC; rw [hheap, htb]
  have hre : ∀ b j0, Reusing s b j0 → Reusing s' b j0 :=
    reusing_of_set_pc hthr hl (by rw [hpc]; exact ⟨fun _ _ _ e => (by cases e), fun _ _ e => (by cases e)⟩)
  have hjn : ∀ j ∈ chainC s (.tree b), j ∉ chainC s (cellAt s id) := by
    intro j hj hc'
    have h1 := H.chainOwner id j hc'
    rw [hcell] at h1
    have h2 := hcp.chainOwner j hj
    rw [h2] at h1; cases h1
  obtain ⟨H', T, hs, hlc, habs⟩ := sconvert_store_cover (s' := s') (id := id) (L' := chainC s (.tree b)) H X W
    (by rw [hheap]; exact H.nextOK) (by rw [hheap]; exact Nat.le_refl _) hold htb hoth hcur hre
    (by rw [hcid', hheap, htb]; exact hcp.cinv.isChain)
    (by rw [hheap]; exact hcp.cinv.distinct)
    (by
      intro j hj
      rw [hheap, hcell]
      obtain ⟨i, hi, h1, h2, -⟩ := hcp.src j hj (by rw [← hcell]; exact hjn j hj)
      exact ⟨i, hi, h1, h2⟩)
    (by
      intro i hi
      rw [hcell] at hi
      rw [hheap]
      obtain ⟨j, hj, h1, h2, -⟩ := hcp.cover i hi rfl
      exact ⟨j, hj, h1, h2⟩)
    (by
      intro j hj
      exact ⟨hjn j hj, Or.inr ⟨t, l, tab, k0, h, b, hl, hpc, hcp.chainOwner j hj⟩⟩)
    (by
      intro j hj
      rw [hcid'] at hj
      obtain ⟨h1, h2, b', hb', h3⟩ := hj
      cases hb'
      rw [hheap] at h1 h3
      exact (hfr.2.1 j h1).1 h3)
    (by
      intro j hj b' hb'
      rw [hheap] at hb'
      exact absurd hb' (owner_ge hj b'))
    (by
      intro b' hb'
      rw [hcid'] at hb'; cases hb'
      rw [htb]; exact hcp.cellOK b rfl)
    (by
      intro j hj
      rw [hheap, hcid']; exact hcp.chainOwner j hj)
    (by rw [hcid']; simp)
    (by
      intro b' hb' id' _
      rw [hcid'] at hb'; cases hb'
      exact hnc id')
  have hnm : cellAt s' id ≠ .moved := by rw [hcid']; simp
  have hTinv : TInv s' := by
    refine tinv_keep (l' := { l with pc := .kUnlock h }) I.thr hl hthr hnow hhist rfl ⟨fun _ => rfl, fun _ => hc⟩ ?_
    intro p hp
    rw [hc] at hp; cases hp
  refine ⟨eff_cstore (l' := { l with pc := .kUnlock h }) I W T hs (fun _ hp => hp) hl (Or.inl ⟨hvv, hcid⟩) hthr H' hTinv
    (by rw [htb]) (fun _ => by rw [htb]; exact ⟨rfl, rfl, rfl, rfl⟩) XS' (fun x => by rw [hheap]) (by rw [hpc]; rfl)
    (fun _ hh => nomatch hh) (fun _ hh => nomatch hh) (by rw [hpc]; rfl) (by rw [hpc]; rfl)
    (fun _ hb' => nomatch hb') rfl rfl (fun p hp => by have : l.call = some p := hp; rw [hc] at this; cases this)
    (by simp only [KInv]) hnm (fun b' hb' => by rw [hpc] at hb'; cases hb') ?_ ?_ ?_ ?_ ?_ ?_, habs⟩
  · intro b' hb'
    rw [hcell] at hb'; cases hb'
  · intro b' k hb'
    rw [hcell] at hb'; cases hb'
  · intro b' hb'
    rw [hcell] at hb'; cases hb'
  · intro b' hb'
    rw [hcid'] at hb'; cases hb'
    exact Or.inr ⟨⟨tab, k0, h, hpc⟩, by rw [hfr.1]; exact ⟨rfl, rfl, rfl⟩,
      t, l, hl, by rw [hpc]; simp [pend], fun j hj => by rw [hpc] at hj; cases hj⟩
  · intro b' hb' j hj ho hin hnot
    rw [hcid'] at hb'; cases hb'
    rw [hheap] at hj ho
    exact absurd (by rw [chainOfBin_eq, hchb]; exact (hfr.2.1 j hj).1 ho) hnot
  · intro b' hb' j hj hin
    rw [hcid'] at hb'; cases hb'
    rw [chainOfBin_eq, hchb] at hj
    rw [hheap, hfr.2.2 j hj] at hin; cases hin

theorem kstore_facts {tab : Nat} {k0 h b : Nat}
    (I : Inv s) (hl : s.threads[t]? = some l) (hc : l.call = none) (hpc : l.pc = .kStore tab k0 h b) :
    let s' := setT (setCell (tick s) tab k0 (.tree b)) t { l with pc := .kUnlock h }
    XShape s' → (Eff s s' ∧ ∀ k, absOf s' k = absOf s k) := by
  intro s' XS'
  have hcid : cidOf s l = idOf tab k0 := by
    unfold cidOf keyOf
    rw [hpc]
    rfl
  obtain ⟨row, hr, hrl⟩ := I.rsz.row_of_lt (gen_of_tabOf I.rsz hl (by rw [hpc]; rfl))
  refine kstore_core (s' := s') I hl hc hpc hcid rfl rfl ?_ ?_ rfl rfl rfl XS'
  · show (setCell (tick s) tab k0 (.tree b)).threads.set t _ = _
    rw [setCell_threads]; rfl
  · intro id'
    show cellAt (setT (setCell (tick s) tab k0 (.tree b)) t _) id' = _
    rw [cellAt_setT]
    refine (cellAt_setCell _ _ _ hr hrl id').trans ?_
    rfl

/-! ## `untreeify`: the list of the `TreeBin` is copied into fresh plain nodes and stored into the cell -/

theorem untreeify_core {tab : Nat} {b : Nat} {res : KRes} {id : Cid}
    (I : Inv s) (hl : s.threads[t]? = some l) (hp : l.call = some p) (hpc : l.pc = .tUntreeify tab b res)
    (hcid : cidOf s l = id)
    (hheap : s'.heap = s.heap ++ copiesOf s.heap (chainC s (.tree b)) mkL)
    (htb : s'.tbins = s.tbins)
    (hthr : s'.threads = s.threads.set t { l with pc := .tUnlockM tab b res false })
    (hcells : ∀ id', cellAt s' id' = if id' = id then
      cellOfHead (if (chainC s (.tree b)).length = 0 then none else some s.heap.length) else cellAt s id')
    (hcur : s'.cur = s.cur) (hnow : s'.now = s.now + 1)
    (hhist : s'.hist = s.hist) (XS' : XShape s') : Eff s s' ∧ ∀ k, absOf s' k = absOf s k := by
  have H := I.heap
  have X := I.rsz
  have L := I.lock
  have hvT : validT l.pc = some b := by rw [hpc]; rfl
  have hvv := validated_of_validT hvT
  have hx : xPc l.pc = false := by rw [hpc]; rfl
  have hcell : cellAt s id = .tree b := hcid ▸ L.vT t l b hl hvT
  have W : Writable s id := hcid ▸ Writable.of_validated I hl hvv hx
  have hO : chainC s (cellAt s id) = chainC s (.tree b) := by rw [hcell]
  generalize hOe : chainC s (.tree b) = O at hheap hcells hO
  have hlen : s'.heap.length = s.heap.length + O.length := by
    rw [hheap, List.length_append, copiesOf_length]
  have hold : ∀ j, j < s.heap.length → nodeAt s'.heap j = nodeAt s.heap j := by
    intro j hj; rw [hheap]; exact nodeAt_append_left _ hj
  have hnewn : ∀ j, j < O.length → nodeAt s'.heap (s.heap.length + j) =
      mkL (nodeAt s.heap (O.getD j 0)) (if j + 1 < O.length then some (s.heap.length + j + 1) else none) := by
    intro j hj; rw [hheap]; exact copiesOf_get _ _ _ hj
  have hnode : ∀ j, j < s'.heap.length → ¬ j < s.heap.length → ∃ k, k < O.length ∧ j = s.heap.length + k := by
    intro j h1 h2; exact ⟨j - s.heap.length, by omega, by omega⟩
  have hok' : NextOK s'.heap := by rw [hheap]; exact nextOK_copies H.nextOK _ _ (fun _ _ => rfl)
  have hcid' : cellAt s' id = cellOfHead (if O.length = 0 then none else some s.heap.length) := by
    rw [hcells, if_pos rfl]
  have hoth : ∀ id', id' ≠ id → cellAt s' id' = cellAt s id' := fun id' hne => by rw [hcells, if_neg hne]
  have hnt : ∀ b', cellAt s' id ≠ .tree b' := fun b' => by rw [hcid']; exact cellOfHead_ne_tree _ b'
  have hre : ∀ b j0, Reusing s b j0 → Reusing s' b j0 :=
    reusing_of_set_pc hthr hl (by rw [hpc]; exact ⟨fun _ _ _ e => (by cases e), fun _ _ e => (by cases e)⟩)
  have hnm : cellAt s' id ≠ .moved := by rw [hcid']; exact cellOfHead_ne_moved _
  have hnoOwner : ∀ j, s.heap.length ≤ j → ∀ b', (nodeAt s'.heap j).owner ≠ some b' := by
    intro j hj b' ho
    by_cases hj2 : j < s'.heap.length
    · obtain ⟨k, hk, rfl⟩ := hnode j hj2 (by omega)
      rw [hnewn k hk] at ho; cases ho
    · exact owner_ge (Nat.le_of_not_lt hj2) b' ho
  obtain ⟨H', T, hs, hlc, habs⟩ := sconvert_store (s' := s') (id := id) (L' := List.range' s.heap.length O.length) H X W
    hok' (by omega) hold htb hoth hcur hre
    (by rw [hcid', startOf_cellOfHead, hheap]; exact copiesOf_isChain _ _ _ (fun _ _ => rfl))
    (by rw [hO]; simp)
    (by
      intro j hj
      rw [hO] at hj ⊢
      rw [getD_range' _ _ _ hj, hnewn j hj]
      exact ⟨rfl, rfl⟩)
    (by
      intro j hj
      obtain ⟨k, hk, rfl⟩ := BinGH.mem_range'_iff.1 hj
      refine ⟨fun h => ?_, Or.inl (by omega)⟩
      have := (H.cinv id).chain_lt h
      omega)
    (by
      intro j hj
      rw [hcid'] at hj
      exact absurd hj (not_treeOf_cellOfHead s' _ j))
    (fun j hj b' hb' => absurd hb' (hnoOwner j hj b'))
    (fun b' hb' => absurd hb' (hnt b'))
    (by
      intro j hj
      obtain ⟨k, hk, rfl⟩ := BinGH.mem_range'_iff.1 hj
      rw [hnewn k hk, hcid', ownerOf_cellOfHead]
      rfl)
    hnm
    (fun b' hb' => absurd hb' (hnt b'))
  -- the bin is in no cell any more, its write lock stays held
  have hnotin : ¬ InCell s' b := by
    rintro ⟨id', h⟩
    by_cases he : id' = id
    · subst he; exact hnt b h
    · rw [hoth id' he] at h
      exact W.tree_ne H X he h hcell
  have hmt := (L.mx t l b hl).1 (holdsMutex_of_validT hvT)
  have hwr : (binAt s.tbins b).writer = true := by
    have := (L.bitsSome id b t l hcell hl hmt).1
    rw [hpc] at this; exact this
  have hlock : ∀ x, (nodeAt s'.heap x).lock = (nodeAt s.heap x).lock := fun x => by
    rw [hheap]; exact copiesOf_lock (fun _ _ => rfl) x
  have hTinv : TInv s' := by
    refine tinv_keep (l' := { l with pc := .tUnlockM tab b res false }) I.thr hl hthr hnow hhist rfl
      ⟨fun e => (by rw [hp] at e; cases e), fun e => (by simp [noCallPc, kPc, xPc] at e)⟩ ?_
    intro p1 hp1 hn
    have := I.thr.opOK t l p1 hl hp1
    rw [hpc] at this
    exact this rfl
  refine ⟨eff_cstore (l' := { l with pc := .tUnlockM tab b res false }) I W T hs (fun _ hp => hp) hl (Or.inl ⟨hvv, hcid⟩) hthr
    H' hTinv (by rw [htb]) (fun _ => by rw [htb]; exact ⟨rfl, rfl, rfl, rfl⟩) XS' hlock (by rw [hpc]; rfl)
    (fun _ hh => nomatch hh) (fun _ hh => nomatch hh) (by rw [hpc]; rfl) (by rw [hpc]; rfl)
    (fun b' hb' => by rw [hpc]; exact hb') rfl rfl (by intro p1 _; simp only [PcInv]) (by simp only [KInv]) hnm ?_
    (fun b' _ hne => absurd (by rw [htb]) hne) ?_ ?_
    (fun b' hb' => absurd hb' (hnt b')) (fun b' hb' => absurd hb' (hnt b')) (fun b' hb' => absurd hb' (hnt b')), habs⟩
  · intro b' hb' hin
    rw [hpc] at hb'
    cases hb'
    exact absurd hin hnotin
  · intro b' k _ hne
    exact absurd (absTree_frame T.len (fun j hj _ => hold j hj) (fun j hj => hnoOwner j hj b') k) hne
  · intro b' hb'
    rw [hcell] at hb'; cases hb'
    exact Or.inr ⟨hnotin, by rw [htb]; exact hwr⟩

theorem untreeify_facts {tab : Nat} {b : Nat} {res : KRes}
    (I : Inv s) (hl : s.threads[t]? = some l) (hp : l.call = some p) (hpc : l.pc = .tUntreeify tab b res) :
    let s' := setT (untreeifyOf (tick s) tab p.key b) t { l with pc := .tUnlockM tab b res false }
    XShape s' → (Eff s s' ∧ ∀ k, absOf s' k = absOf s k) := by
  intro s' XS'
  obtain ⟨row, hr, hrl⟩ := I.rsz.row_of_lt (gen_of_tabOf I.rsz hl (by rw [hpc]; rfl))
  have hcid : cidOf s l = idOf tab p.key := by
    unfold cidOf keyOf
    rw [hpc, hp]
    rfl
  refine untreeify_core (s' := s') I hl hp hpc hcid rfl rfl ?_ ?_ rfl rfl rfl XS'
  · show (untreeifyOf (tick s) tab p.key b).threads.set t _ = _
    unfold untreeifyOf
    rw [setCell_threads]; rfl
  · intro id'
    show cellAt (setT (untreeifyOf (tick s) tab p.key b) t _) id' = _
    unfold untreeifyOf
    rw [cellAt_setT]
    refine (cellAt_setCell _ _ _ hr hrl id').trans ?_
    rfl

/-! ## `kbuild`: the list is copied into a fresh, private `TreeBin` -/

/-- the private `TreeBin` made by `kBuild` is a copy of the list from `h`: the copy of one side of a split
(`BinGH.sideSpec_copies`, `Lemmas/BinGHeapPlan.lean`) whose side is the whole chain -/
theorem copyOK_kbuild {h : Nat} {O : List Nat} (E : Ext s s')
    (hCI : CInv s.heap (startOf s.tbins (.list h)) (treeOf s (.list h)))
    (hOe : chainC s (.list h) = O)
    (hnewn : ∀ j, j < O.length → nodeAt s'.heap (s.heap.length + j) =
      mkT s.tbins.length (nodeAt s.heap (O.getD j 0)) (if j + 1 < O.length then some (s.heap.length + j + 1) else none))
    (hlen : s'.heap.length = s.heap.length + O.length)
    (htlen : s'.tbins.length = s.tbins.length + 1)
    (hbnew : binAt s'.tbins s.tbins.length = { first := if O.length = 0 then none else some s.heap.length })
    (hX : IsChain s'.heap (startOf s'.tbins (.tree s.tbins.length)) (List.range' s.heap.length O.length))
    (hownOld : ∀ j, j < s.heap.length → (nodeAt s.heap j).owner ≠ some s.tbins.length) :
    CopyOK s' (.list h) (fun _ => true) (.tree s.tbins.length) := by
  subst hOe
  have hS : SideSpec (fun _ => true) s.heap s'.heap (chainC s (.list h)) true
      (List.range' s.heap.length (chainC s (.list h)).length) :=
    BinGH.sideSpec_copies (c := chainC s (.list h)) (List.filter_eq_self.2 fun _ _ => rfl).symm (fun i hi => hCI.chain_lt hi) hCI.nodup hCI.distinct
      (fun k hk => by rw [hnewn k hk, BinGH.getD_eq_getElem_of_lt hk]; exact ⟨rfl, rfl⟩)
  have hnew : ∀ j ∈ List.range' s.heap.length (chainC s (.list h)).length,
      (nodeAt s'.heap j).owner = some s.tbins.length ∧ (nodeAt s'.heap j).inTree = true := by
    intro j hj
    obtain ⟨k, hk, rfl⟩ := BinGH.mem_range'_iff.1 hj
    rw [hnewn k hk]; exact ⟨rfl, rfl⟩
  have hmem : ∀ j, j < s'.heap.length → (nodeAt s'.heap j).owner = some s.tbins.length →
      j ∈ List.range' s.heap.length (chainC s (.list h)).length := by
    intro j hj ho
    rw [List.mem_range'_1]
    refine ⟨Nat.le_of_not_lt fun hjl => hownOld j hjl (by rw [← E.old hjl]; exact ho), by omega⟩
  refine copyOK_iff.2 (BinGH.copyOK_of_sideSpec (old := .list h) (C := .tree s.tbins.length) E.toExt hCI
    (fun _ hb => nomatch hb) hX hS (fun e => nomatch e) ?_ ?_ ?_ ?_)
  · intro b hb; cases hb; omega
  · intro j hj; exact (hnew j hj).1
  · rintro j ⟨h1, _, b, hb, ho⟩
    cases hb; exact hmem j h1 ho
  · intro b hb _
    cases hb
    exact ⟨by rw [hbnew], hmem, fun j hj => (hnew j hj).2⟩

theorem kbuild_core {tab : Nat} {k0 h : Nat} {id : Cid}
    (I : Inv s) (hl : s.threads[t]? = some l) (hc : l.call = none) (hpc : l.pc = .kBuild tab k0 h)
    (hcid : cidOf s l = id) (hcid2 : idOf tab k0 = id)
    (hheap : s'.heap = s.heap ++ copiesOf s.heap (chainC s (.list h)) (mkT s.tbins.length))
    (htb : s'.tbins = s.tbins ++ [{ first := if (chainC s (.list h)).length = 0 then none else some s.heap.length }])
    (hthr : s'.threads = s.threads.set t { l with pc := .kStore tab k0 h s.tbins.length })
    (htabs : s'.tabs = s.tabs)
    (hcur : s'.cur = s.cur) (hnow : s'.now = s.now + 1)
    (hhist : s'.hist = s.hist) (XS' : XShape s') : Eff s s' ∧ ∀ k, absOf s' k = absOf s k := by
  have H := I.heap
  have hcell : cellAt s id = .list h := hcid ▸ I.lock.vL t l h hl (by rw [hpc]; rfl)
  generalize hOe : chainC s (.list h) = O at hheap htb
  have hlen : s'.heap.length = s.heap.length + O.length := by
    rw [hheap, List.length_append, copiesOf_length]
  have htlen : s'.tbins.length = s.tbins.length + 1 := by rw [htb]; simp
  have hnewn : ∀ j, j < O.length → nodeAt s'.heap (s.heap.length + j) =
      mkT s.tbins.length (nodeAt s.heap (O.getD j 0))
        (if j + 1 < O.length then some (s.heap.length + j + 1) else none) := by
    intro j hj; rw [hheap]; exact copiesOf_get _ _ _ hj
  have hbnew : binAt s'.tbins s.tbins.length = { first := if O.length = 0 then none else some s.heap.length } := by
    rw [htb]; exact binAt_append_new _ _
  have hok' : NextOK (s.heap ++ copiesOf s.heap O (mkT s.tbins.length)) := nextOK_copies H.nextOK _ _ (fun _ _ => rfl)
  have hre : ∀ b j0, Reusing s b j0 → Reusing s' b j0 :=
    reusing_of_set_pc hthr hl (by rw [hpc]; exact ⟨fun _ _ _ e => (by cases e), fun _ _ e => (by cases e)⟩)
  have E : Ext s s' := by
    refine ⟨?_, htabs, hcur, hre⟩
    rw [hheap, htb]
    refine BinGH.Ext.of_append ?_ ?_ hok' ?_ ?_
    · intro n hn
      obtain ⟨src, nx, rfl⟩ := BinGH.mem_copiesOf hn
      rfl
    · intro x hx
      cases List.mem_singleton.1 hx; rfl
    · intro n hn b ho
      obtain ⟨src, nx, rfl⟩ := BinGH.mem_copiesOf hn
      cases ho
      simp
    · intro x hx h' hf
      cases List.mem_singleton.1 hx
      simp only at hf
      rw [List.length_append, copiesOf_length]
      split at hf
      · cases hf
      · cases hf; omega
  have hcells := E.cellAt_eq
  have hX : IsChain s'.heap (startOf s'.tbins (.tree s.tbins.length)) (List.range' s.heap.length O.length) := by
    show IsChain s'.heap (binAt s'.tbins s.tbins.length).first _
    rw [hbnew, hheap]
    exact copiesOf_isChain _ _ _ (fun _ _ => rfl)
  have hcp : CopyOK s' (.list h) (fun _ => true) (.tree s.tbins.length) :=
    copyOK_kbuild E (hcell ▸ H.cinv id) hOe hnewn hlen htlen hbnew hX
      (fun j _ ho => by have := H.ownerOK j _ ho; omega)
  refine E.facts (l' := { l with pc := .kStore tab k0 h s.tbins.length }) I hl hc hc hthr hnow hhist XS'
    (by rw [hpc]; exact ⟨rfl, rfl, rfl, rfl, rfl, fun _ hb => nomatch hb⟩) (by rw [hpc]; rfl) rfl ?_ (fun _ hv => nomatch hv)
    (InvW.XPc_of_not_plan rfl) ⟨hcp, ?_⟩ ?_ ?_ (fun e => nomatch e)
  · intro h' hh
    cases hh
    show cellAt s' (idOf tab k0) = _
    rw [hcid2, hcells, hcell]
  · intro id' e
    rw [hcells] at e
    have := H.cellOK id' _ e
    omega
  · intro tab' k' h' b' e
    cases e
    exact Or.inr (Nat.le_refl _)
  · intro b hm
    cases List.mem_singleton.1 hm
    exact Or.inl (Nat.le_refl _)

theorem kbuild_facts {tab : Nat} {k0 h : Nat}
    (I : Inv s) (hl : s.threads[t]? = some l) (hc : l.call = none) (hpc : l.pc = .kBuild tab k0 h) :
    let s' := setT (buildOf (tick s) h) t { l with pc := .kStore tab k0 h s.tbins.length }
    XShape s' → (Eff s s' ∧ ∀ k, absOf s' k = absOf s k) := by
  intro s' XS'
  have hcid : cidOf s l = idOf tab k0 := by
    unfold cidOf keyOf
    rw [hpc]
    rfl
  exact kbuild_core (s' := s') I hl hc hpc hcid rfl rfl rfl rfl rfl rfl rfl rfl XS'

end Flurry.Proto.BinGNP
