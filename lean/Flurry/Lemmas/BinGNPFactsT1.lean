import Flurry.Lemmas.BinGNPFactsBase
/-! # Proto/BinGN: the stores of a tree-bin writer that change one field of one node

`tval_facts` (the value store, a linearization point), `treeLink_facts` (the freshly prepended node is linked into
the tree), `untree_facts` (the unlinked node is taken out of the tree): each establishes `Eff s s'` and describes
the abstract states, under the hypothesis `XShape s'` (the generation structure of the successor state).

* `T1.TW tab b pc`: what the program counters of a tree-form writer of generation `tab` that holds the mutex of `b` have
  in common;
* `T1.treeSub_self`, `T1.chainSub_self`: the exceptions of `DInv.treeSub` / `DInv.chainSub` for the bin whose mutex
  the acting thread holds are about the acting thread itself;
* `T1.eff_tree_store`: the common assembly (`TInv`, then `eff_cstore` of `Lemmas/BinGNPFactsBase.lean`) for every
  store of such a writer that leaves the cells, the lock words, the synchronisation words and `cur` alone (also used
  for `prepend` and `unlink`, `Lemmas/BinGNPFactsT2.lean`). -/
namespace Flurry.Proto.BinGNP
open Flurry.Lin
open Flurry.Proto.BinK (nodeAt binAt NextOK IsChain IsSeg chainOf CInv absL HeapStep get_set get_set_self get_set_ne
  absL_eq_some_iff)
open Store InvW FactsL

variable {s s' : State} {t : Nat} {l l' : Local} {p : Pending}

namespace T1

/-- a tree-form writer of generation `tab` holding the mutex of `b` -/
structure TW (tab : Nat) (b : Nat) (pc : Pc) : Prop where
  cid : ∀ (s : State) (p : Pending), cidOf s ⟨pc, some p⟩ = idOf tab p.key
  tab : tabOf pc = some tab
  x : xPc pc = false
  nc : noCallPc pc = false
  rd : readerPc pc = false
  lk : holdsLock pc = none
  vL : validL pc = none
  mx : holdsMutex pc = some b
  hr : holdsRead pc = none
  br : binRef pc = some b
  lp : isLoop pc = false
  pend : ∀ s : State, pend s pc = []

theorem TW.nk {tab : Nat} {b : Nat} {pc : Pc} (P : TW tab b pc) (tab' : Nat) (k h b' : Nat) :
    pc ≠ .kStore tab' k h b' := by
  intro e
  have := P.vL
  rw [e] at this; cases this

/-- the re-used `TreeBin`s of the transfers are those before a step of a tree-form writer -/
theorem TW.reusing {tab : Nat} {b : Nat} {pc : Pc} (P : TW tab b pc)
    (hthr : s'.threads = s.threads.set t l') (hl : s.threads[t]? = some ⟨pc, some p⟩) :
    ∀ b' j0, Reusing s b' j0 → Reusing s' b' j0 := by
  refine reusing_of_set_pc hthr hl ⟨fun _ _ _ e => ?_, fun _ _ e => ?_⟩ <;>
  · have := P.x
    rw [show pc = _ from e] at this; cases this

theorem tw_tVal (tab : Nat) (b i : Nat) (v : Nat × Nat) (res : KRes) : TW tab b (.tVal tab b i v res) :=
  ⟨fun _ _ => rfl, rfl, rfl, rfl, rfl, rfl, rfl, rfl, rfl, rfl, rfl, fun _ => rfl⟩

theorem tw_tPrependLocked (tab : Nat) (b : Nat) : TW tab b (.tPrependLocked tab b) :=
  ⟨fun _ _ => rfl, rfl, rfl, rfl, rfl, rfl, rfl, rfl, rfl, rfl, rfl, fun _ => rfl⟩

theorem tw_tTreeLinkLocked (tab : Nat) (b x : Nat) : TW tab b (.tTreeLinkLocked tab b x) :=
  ⟨fun _ _ => rfl, rfl, rfl, rfl, rfl, rfl, rfl, rfl, rfl, rfl, rfl, fun _ => rfl⟩

theorem tw_tUnlinkLocked (tab : Nat) (b i : Nat) (res : KRes) : TW tab b (.tUnlinkLocked tab b i res) :=
  ⟨fun _ _ => rfl, rfl, rfl, rfl, rfl, rfl, rfl, rfl, rfl, rfl, rfl, fun _ => rfl⟩

theorem tw_tRestructure (tab : Nat) (b i : Nat) (res : KRes) : TW tab b (.tRestructure tab b i res) :=
  ⟨fun _ _ => rfl, rfl, rfl, rfl, rfl, rfl, rfl, rfl, rfl, rfl, rfl, fun _ => rfl⟩

theorem tw_tUntreeify (tab : Nat) (b : Nat) (res : KRes) : TW tab b (.tUntreeify tab b res) :=
  ⟨fun _ _ => rfl, rfl, rfl, rfl, rfl, rfl, rfl, rfl, rfl, rfl, rfl, fun _ => rfl⟩

theorem tw_tUnlockM (tab : Nat) (b : Nat) (res : KRes) (retry : Bool) : TW tab b (.tUnlockM tab b res retry) :=
  ⟨fun _ _ => rfl, rfl, rfl, rfl, rfl, rfl, rfl, rfl, rfl, rfl, rfl, fun _ => rfl⟩

theorem tw_tUnlockRoot (tab : Nat) (b : Nat) (res : KRes) : TW tab b (.tUnlockRoot tab b res) :=
  ⟨fun _ _ => rfl, rfl, rfl, rfl, rfl, rfl, rfl, rfl, rfl, rfl, rfl, fun _ => rfl⟩

/-- a validated tree-form writer sees its `TreeBin` in the cell of its key, and may store into that cell -/
theorem ctx {tab : Nat} {b : Nat} {pc : Pc} (I : Inv s)
    (hl : s.threads[t]? = some ⟨pc, some p⟩) (P : TW tab b pc) (hvT : validT pc = some b) :
    cellAt s (idOf tab p.key) = .tree b ∧ Writable s (idOf tab p.key) :=
  ⟨P.cid s p ▸ I.lock.vT t ⟨pc, some p⟩ b hl hvT, P.cid s p ▸ Writable.of_validated I hl (validated_of_validT hvT) P.x⟩

theorem mutex_unique (L : LInv s) {t t0 : Nat} {l l0 : Local} {b : Nat}
    (hl : s.threads[t]? = some l) (hl0 : s.threads[t0]? = some l0)
    (h : holdsMutex l.pc = some b) (h0 : holdsMutex l0.pc = some b) : t0 = t := by
  have e1 := (L.mx t l b hl).1 h
  have e2 := (L.mx t0 l0 b hl0).1 h0
  rw [e1] at e2
  exact (Option.some.inj e2).symm

/-- a node in the tree of the bin whose mutex thread `t` holds that is not on its list: thread `t` itself is
about to take it out of the tree (or to untreeify) -/
theorem treeSub_self {id : Cid} {b j : Nat} (I : Inv s)
    (hl : s.threads[t]? = some l) (hm : holdsMutex l.pc = some b) (hcell : cellAt s id = .tree b)
    (hj : j < s.heap.length) (ho : (nodeAt s.heap j).owner = some b) (hin : (nodeAt s.heap j).inTree = true)
    (hnc : j ∉ chainOfBin s b) :
    (∃ tab res, l.pc = .tRestructure tab b j res) ∨ (∃ tab res, l.pc = .tUntreeify tab b res) := by
  obtain ⟨t0, l0, h0, hw⟩ := I.data.treeSub id b hcell j hj ho hin hnc
  have hm0 : holdsMutex l0.pc = some b := by
    rcases hw with ⟨tab, res, e⟩ | ⟨tab, res, e⟩ <;> rw [e] <;> rfl
  have := mutex_unique I.lock hl h0 hm hm0
  subst this
  rw [hl] at h0; cases h0
  exact hw

/-- a node on the list of the bin whose mutex thread `t` holds that is not in its tree: thread `t` itself is
about to link it -/
theorem chainSub_self {id : Cid} {b j : Nat} (I : Inv s)
    (hl : s.threads[t]? = some l) (hm : holdsMutex l.pc = some b) (hcell : cellAt s id = .tree b)
    (hj : j ∈ chainOfBin s b) (hin : (nodeAt s.heap j).inTree = false) :
    ∃ tab, l.pc = .tTreeLinkLocked tab b j := by
  obtain ⟨t0, l0, tab, h0, hw⟩ := I.data.chainSub id b hcell j hj hin
  have hm0 : holdsMutex l0.pc = some b := by rw [hw]; rfl
  have := mutex_unique I.lock hl h0 hm hm0
  subst this
  rw [hl] at h0; cases h0
  exact ⟨tab, hw⟩

/-- the common assembly: a store of a tree-form writer into the structure of its cell that leaves the cells, the
lock words and the synchronisation words alone; `htree` and `hchain` say that tree and list of the bin agree
afterwards, up to the node the new program counter is about -/
theorem eff_tree_store {tab : Nat} {b : Nat} {pc pc' : Pc}
    (I : Inv s) (hl : s.threads[t]? = some ⟨pc, some p⟩)
    (P : TW tab b pc) (P' : TW tab b pc') (hvT : validT pc = some b)
    (hvT' : validT pc' = none ∨ validT pc' = some b) (hwr : wr pc' = wr pc)
    (hself : PcInv s' p pc')
    (hthr : s'.threads = s.threads.set t ⟨pc', some p⟩)
    (hnow : s'.now = s.now + 1) (hhist : s'.hist = s.hist) (htlen : s'.tbins.length = s.tbins.length)
    (hsync : ∀ b, (binAt s'.tbins b).mutex = (binAt s.tbins b).mutex ∧
      (binAt s'.tbins b).writer = (binAt s.tbins b).writer ∧ (binAt s'.tbins b).waiter = (binAt s.tbins b).waiter ∧
      (binAt s'.tbins b).readers = (binAt s.tbins b).readers)
    (hcells : ∀ id', cellAt s' id' = cellAt s id')
    (H' : HInv s') (XS' : XShape s') (T : Touch s s' (idOf tab p.key))
    (hs : HeapStep s.heap (chainC s (cellAt s (idOf tab p.key))) (fun _ => False) s'.heap
      (chainC s' (cellAt s' (idOf tab p.key))) (fun _ => False))
    (hlock : ∀ h, (nodeAt s'.heap h).lock = (nodeAt s.heap h).lock)
    (htree : ∀ j, j < s'.heap.length → (nodeAt s'.heap j).owner = some b → (nodeAt s'.heap j).inTree = true →
      j ∉ chainOfBin s' b → (∃ tab res, pc' = .tRestructure tab b j res) ∨ (∃ tab res, pc' = .tUntreeify tab b res))
    (hchain : ∀ j ∈ chainOfBin s' b, (nodeAt s'.heap j).inTree = false → ∃ tab, pc' = .tTreeLinkLocked tab b j) :
    Eff s s' := by
  obtain ⟨hcellb, W⟩ := ctx I hl P hvT
  have T' : TInv s' := by
    refine tinv_keep (l' := ⟨pc', some p⟩) I.thr hl hthr hnow hhist rfl ?_ ?_
    · show (some p = none) ↔ noCallPc pc' = true
      rw [P'.nc]; simp
    · intro p1 hp1 _
      cases hp1
      have := I.thr.opOK t ⟨pc, some p⟩ p hl rfl P.nc
      show isReader p.op = readerPc pc'
      rw [P'.rd, this]; exact P.rd
  have hcb' : ∀ b', cellAt s' (idOf tab p.key) = .tree b' → b' = b := by
    intro b' h
    rw [hcells, hcellb] at h
    cases h; rfl
  refine eff_cstore (l' := ⟨pc', some p⟩) I W T hs (fun _ h => h.elim) hl (Or.inl ⟨validated_of_validT hvT, P.cid s p⟩) hthr
    H' T' htlen hsync XS' hlock (by show holdsLock pc' = holdsLock pc; rw [P'.lk, P.lk]) ?_ ?_
    (by show holdsMutex pc' = holdsMutex pc; rw [P'.mx, P.mx]) (by show holdsRead pc' = holdsRead pc; rw [P'.hr, P.hr]) ?_
    P'.x (P'.pend s') (fun p1 hp1 => by cases hp1; exact hself) (KInv_of_not_kStore P'.nk)
    (by rw [hcells]; exact W.not_moved I.rsz) ?_ (fun b' hc _ => by rw [hcells]; exact hc)
    (fun b' _ hc _ => by rw [hcells]; exact hc) (fun b' hc => Or.inl (by rw [hcells]; exact hc))
    (fun b' hc => Or.inl (by rw [← hcells]; exact hc)) ?_ ?_
  · intro h hh
    have : validL pc' = some h := hh
    rw [P'.vL] at this; cases this
  · intro b' hb'
    have hb'' : validT pc' = some b' := hb'
    rw [show cidOf s' ⟨pc', some p⟩ = idOf tab p.key from P'.cid s' p, hcells]
    rcases hvT' with h | h
    · rw [h] at hb''; cases hb''
    · rw [h] at hb''; cases hb''; exact hcellb
  · intro b' hb'
    have hb'' : binRef pc' = some b' := hb'
    show binRef pc = some b'
    rw [P.br]; rw [P'.br] at hb''; exact hb''
  · intro b' _ _
    refine ⟨hwr, fun h => ?_⟩
    have : isLoop pc = true := h
    rw [P.lp] at this; cases this
  · intro b' hc
    have := hcb' b' hc
    subst this
    exact htree
  · intro b' hc
    have := hcb' b' hc
    subst this
    exact hchain

/-- tree and list of the bin whose mutex the acting thread holds agree, up to the node its program counter is about -/
theorem tree_chain {id : Cid} {b : Nat} (I : Inv s)
    (hl : s.threads[t]? = some l) (hm : holdsMutex l.pc = some b) (hcell : cellAt s id = .tree b) :
    (∀ j, j < s.heap.length → (nodeAt s.heap j).owner = some b → (nodeAt s.heap j).inTree = true →
      j ∈ chainOfBin s b ∨ (∃ tab res, l.pc = .tRestructure tab b j res) ∨ (∃ tab res, l.pc = .tUntreeify tab b res)) ∧
    (∀ j ∈ chainOfBin s b, (nodeAt s.heap j).inTree = true ∨ ∃ tab, l.pc = .tTreeLinkLocked tab b j) := by
  constructor
  · intro j hj ho hin
    by_cases hnc : j ∈ chainOfBin s b
    · exact Or.inl hnc
    · exact Or.inr (treeSub_self I hl hm hcell hj ho hin hnc)
  · intro j hj
    cases hin : (nodeAt s.heap j).inTree with
    | true => exact Or.inl rfl
    | false => exact Or.inr (chainSub_self I hl hm hcell hj hin)

end T1

/-! ## the three stores -/

/-- the value store of a tree-bin writer (`tVal`): the linearization point of a replace / update of a present key -/
theorem tval_facts {tab : Nat} {b i : Nat} {v : Nat × Nat} {res : KRes}
    (I : Inv s) (hl : s.threads[t]? = some l) (hp : l.call = some p) (hpc : l.pc = .tVal tab b i v res) :
    let s' := setT (setNode (tick s) i (fun n => { n with val := v })) t { l with pc := .tUnlockM tab b res false }
    XShape s' →
      (Eff s s' ∧ specStep (absOf s p.key) p.op = (absOf s' p.key, res) ∧ ∀ k, k ≠ p.key → absOf s' k = absOf s k) := by
  intro s' XS'
  obtain ⟨pc0, call0⟩ := l
  simp only at hp hpc
  subst hp hpc
  have H := I.heap
  have X := I.rsz
  have P := T1.tw_tVal tab b i v res
  obtain ⟨hi, hkey0, hspec⟩ : PcInv s p (.tVal tab b i v res) := I.data.pcInv t _ p hl rfl
  obtain ⟨hcellb, W⟩ := T1.ctx I hl P rfl
  have hi' : i ∈ chainC s (cellAt s (idOf tab p.key)) := by rw [hcellb]; exact hi
  obtain ⟨H', T, hs, hlc, hnode, habs⟩ := sval_store (s' := s') H X W hi' rfl rfl (fun _ => rfl) rfl (P.reusing rfl hl)
  have hlen : s'.heap.length = s.heap.length := List.length_modify ..
  have hfield : ∀ j, (nodeAt s'.heap j).inTree = (nodeAt s.heap j).inTree ∧
      (nodeAt s'.heap j).owner = (nodeAt s.heap j).owner ∧ (nodeAt s'.heap j).lock = (nodeAt s.heap j).lock := by
    intro j; rw [hnode]; split <;> exact ⟨rfl, rfl, rfl⟩
  have hcb' : chainOfBin s' b = chainOfBin s b := by
    have h1 : cellAt s' (idOf tab p.key) = .tree b := hcellb
    rw [h1, hcellb] at hlc; exact hlc
  obtain ⟨ht, hc⟩ := T1.tree_chain I hl P.mx hcellb
  refine ⟨?_, ?_⟩
  · refine T1.eff_tree_store (pc' := .tUnlockM tab b res false) I hl P (T1.tw_tUnlockM tab b res false) rfl (Or.inl rfl) rfl
      trivial rfl rfl rfl rfl (fun _ => ⟨rfl, rfl, rfl, rfl⟩) (fun _ => rfl) H' XS' T hs (fun h => (hfield h).2.2) ?_ ?_
    · intro j hj ho hin hnc
      rw [(hfield j).1] at hin; rw [(hfield j).2.1] at ho; rw [hlen] at hj; rw [hcb'] at hnc
      rcases ht j hj ho hin with h | ⟨_, _, e⟩ | ⟨_, _, e⟩
      · exact absurd h hnc
      · cases e
      · cases e
    · intro j hj hin
      rw [hcb'] at hj; rw [(hfield j).1] at hin
      rcases hc j hj with h | ⟨_, e⟩
      · rw [h] at hin; cases hin
      · cases e
  · have habs0 := absOf_of_mem H X W hi'
    rw [hkey0] at habs0
    exact abs_update habs hkey0 (by rw [habs0]; exact hspec)

/-- what `treeLink` and `untree` share: the `inTree` flag of node `x`, which the program counter is about, is set to
`f`; afterwards tree and list of the bin agree -/
private theorem flag_facts {tab : Nat} {b x : Nat} {f : Bool} {pc : Pc} {res : KRes}
    (I : Inv s) (hl : s.threads[t]? = some ⟨pc, some p⟩) (P : T1.TW tab b pc) (hvT : validT pc = some b)
    (hwr : wr pc = true)
    (hx : x ∈ chainC s (.tree b) ∨ treeOf s (.tree b) x) (hxf : f = true → x ∈ chainC s (.tree b))
    (hexc : ∀ j, j ≠ x → (∀ tab res, pc ≠ .tRestructure tab b j res) ∧ ∀ tab, pc ≠ .tTreeLinkLocked tab b j)
    (hun : ∀ tab res, pc ≠ .tUntreeify tab b res)
    (hxc : if f then x ∈ chainOfBin s b else x ∉ chainOfBin s b) :
    let s' := setT (setNode (tick s) x (fun n => { n with inTree := f })) t ⟨.tUnlockRoot tab b res, some p⟩
    XShape s' → (Eff s s' ∧ ∀ k, absOf s' k = absOf s k) := by
  intro s' XS'
  have H := I.heap
  have X := I.rsz
  obtain ⟨hcellb, W⟩ := T1.ctx I hl P hvT
  obtain ⟨H', T, hs, hlc, hlen, hnode, habs⟩ := sflag_store (s' := s') (x := f) H X W (by rw [hcellb]; exact hx) rfl rfl
    (fun _ => rfl) rfl (P.reusing rfl hl) (by rw [hcellb]; exact hxf)
  have hfield : ∀ j, (nodeAt s'.heap j).owner = (nodeAt s.heap j).owner ∧ (nodeAt s'.heap j).lock = (nodeAt s.heap j).lock ∧
      (j ≠ x → (nodeAt s'.heap j).inTree = (nodeAt s.heap j).inTree) ∧
      (j = x → j < s.heap.length → (nodeAt s'.heap j).inTree = f) := by
    intro j; rw [hnode]; split
    · rename_i h; exact ⟨rfl, rfl, fun hne => absurd h.1 hne, fun _ _ => rfl⟩
    · rename_i h; exact ⟨rfl, rfl, fun _ => rfl, fun h1 h2 => absurd ⟨h1, h2⟩ h⟩
  have hcb' : chainOfBin s' b = chainOfBin s b := by
    have h1 : cellAt s' (idOf tab p.key) = .tree b := hcellb
    rw [h1, hcellb] at hlc; exact hlc
  obtain ⟨ht, hc⟩ := T1.tree_chain I hl P.mx hcellb
  refine ⟨?_, habs⟩
  refine T1.eff_tree_store (pc' := .tUnlockRoot tab b res) I hl P (T1.tw_tUnlockRoot tab b res) hvT (Or.inr rfl) hwr.symm
    trivial rfl rfl rfl rfl (fun _ => ⟨rfl, rfl, rfl, rfl⟩) (fun _ => rfl) H' XS' T hs (fun h => (hfield h).2.1) ?_ ?_
  · intro j hj ho hin hnc
    exfalso
    rw [hlen] at hj; rw [hcb'] at hnc; rw [(hfield j).1] at ho
    by_cases hjx : j = x
    · subst hjx
      rw [(hfield j).2.2.2 rfl hj] at hin
      subst hin
      exact hnc hxc
    · rw [(hfield j).2.2.1 hjx] at hin
      rcases ht j hj ho hin with h | ⟨tab', res', e⟩ | ⟨tab', res', e⟩
      · exact hnc h
      · exact (hexc j hjx).1 tab' res' e
      · exact hun tab' res' e
  · intro j hj hin
    exfalso
    rw [hcb'] at hj
    have hjl : j < s.heap.length := (H.cinv (idOf tab p.key)).chain_lt (by rw [hcellb]; exact hj)
    by_cases hjx : j = x
    · subst hjx
      rw [(hfield j).2.2.2 rfl hjl] at hin
      subst hin
      exact hxc hj
    · rw [(hfield j).2.2.1 hjx] at hin
      rcases hc j hj with h | ⟨tab', e⟩
      · rw [h] at hin; cases hin
      · exact (hexc j hjx).2 tab' e

/-- linking the freshly prepended node into the tree (`tTreeLinkLocked`) -/
theorem treeLink_facts {tab : Nat} {b x : Nat}
    (I : Inv s) (hl : s.threads[t]? = some l) (hp : l.call = some p) (hpc : l.pc = .tTreeLinkLocked tab b x) :
    let s' := setT (setNode (tick s) x (fun n => { n with inTree := true })) t { l with pc := .tUnlockRoot tab b .none }
    XShape s' → (Eff s s' ∧ ∀ k, absOf s' k = absOf s k) := by
  obtain ⟨pc0, call0⟩ := l
  simp only at hp hpc
  subst hp hpc
  obtain ⟨hx, -⟩ : PcInv s p (.tTreeLinkLocked tab b x) := I.data.pcInv t _ p hl rfl
  exact flag_facts (f := true) I hl (T1.tw_tTreeLinkLocked tab b x) rfl rfl (Or.inl hx) (fun _ => hx)
    (fun j hjx => ⟨fun _ _ e => (by cases e), fun _ e => (by cases e; exact hjx rfl)⟩) (fun _ _ e => by cases e) hx

/-- taking the unlinked node out of the tree (`tRestructure`) -/
theorem untree_facts {tab : Nat} {b i : Nat} {res : KRes}
    (I : Inv s) (hl : s.threads[t]? = some l) (hp : l.call = some p) (hpc : l.pc = .tRestructure tab b i res) :
    let s' := setT (setNode (tick s) i (fun n => { n with inTree := false })) t { l with pc := .tUnlockRoot tab b res }
    XShape s' → (Eff s s' ∧ ∀ k, absOf s' k = absOf s k) := by
  obtain ⟨pc0, call0⟩ := l
  simp only at hp hpc
  subst hp hpc
  obtain ⟨hi, hin0, hil, hio⟩ : PcInv s p (.tRestructure tab b i res) := I.data.pcInv t _ p hl rfl
  exact flag_facts (f := false) I hl (T1.tw_tRestructure tab b i res) rfl rfl (Or.inr ⟨hil, hin0, b, rfl, hio⟩)
    (fun h => by cases h) (fun j hji => ⟨fun _ _ e => (by cases e; exact hji rfl), fun _ e => (by cases e)⟩)
    (fun _ _ e => by cases e) hi

end Flurry.Proto.BinGNP
