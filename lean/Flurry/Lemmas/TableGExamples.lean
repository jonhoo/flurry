import Flurry.Lemmas.TableG
import Flurry.Lemmas.TableGQuiescent
/-! # Proto/TableG: non-vacuity — a concrete reachable quiescent table, resized, with calls before, during and after

Two lineages (`m = 2`: key `k` in lineage `(k / 2) % 2`, so keys 0, 1, 4, 5 in lineage 0 and 2, 3 in
lineage 1; odd keys go to the high cell), two threads, 100 transitions on one clock.

* **before**: thread 0 inserts key 1 and key 0 (lineage 0, a list bin with one key per side) while
  thread 1 inserts key 2 and key 3 (lineage 1) and then treeifies that bin (`TreeBin` 0);
* **lineage 0 is transferred by thread 0** (list split: node 1 — the last run — is re-used, node 0 is
  copied); thread 1's `get(0)` is invoked after the resize started, loads the old table pointer and the
  old cell, stands on node 0 of the old list while the low cell, the high cell and the forwarding
  marker are stored (`example_during`), walks on in the old list and returns after the commit of
  thread 0 (`cur = new` in lineage 0);
* **lineage 1 is transferred by thread 1** (a helper; tree-bin split into two fresh `TreeBin`s) —
  thread 0's `insert(3)` is invoked when lineage 0 is committed and lineage 1 is not even forwarded,
  and completes in the OLD table of lineage 1 (the per-lineage table pointer) before thread 1 takes the
  mutex; thread 1 stores low, high, marker, unlocks, commits (`cur = new` in lineage 1);
* **after**: `get(1)` (lineage 0, high), `remove(2)` (lineage 1, low, tree form), `insert(5)` (lineage 0,
  high, a new key in the new table), `get(3)` (lineage 1, high, lock-protocol reader of the new `TreeBin`).

The final state is reachable and quiescent, both lineages are forwarded and committed, the map
history holds the ten calls with times on ONE clock (calls of different lineages overlap), and the
abstract map is `{0 ↦ (30,300), 1 ↦ (10,100), 3 ↦ (41,401), 5 ↦ (50,500)}`. `step` refuses a call on a
key of another lineage, a thread that is busy in another lineage — in particular a thread that is in
the middle of the transfer of one lineage cannot start the transfer of another —, and a second
transfer of the same lineage is a no-op. -/
namespace Flurry.Proto.TableG
open Flurry.Lin Flurry.LinMap

/-- `(lineage, thread, invocation, listOnly, maint, resize, small, small2)` -/
abbrev Sch := Nat × Nat × Option (Nat × KOp) × Bool × Option Nat × Bool × Bool × Bool

def run (S : State) : List Sch → Option State
  | [] => some S
  | (i, t, inv, lo, mt, rz, sm, sm2) :: rest =>
    match step S i t inv lo mt rz sm sm2 with
    | some S' => run S' rest
    | none => none

theorem run_reachable {m n : Nat} : ∀ (sched : List Sch) {S S' : State},
    Reachable m n S → run S sched = some S' → Reachable m n S'
  | [], S, S', hr, h => by
    simp only [run, Option.some.injEq] at h
    exact h ▸ hr
  | (i, t, inv, lo, mt, rz, sm, sm2) :: rest, S, S', hr, h => by
    simp only [run] at h
    cases hs : step S i t inv lo mt rz sm sm2 with
    | none => rw [hs] at h; cases h
    | some S1 =>
      rw [hs] at h
      exact run_reachable rest (Reachable.step i t inv lo mt rz sm sm2 hr hs) h

abbrev call (i t k : Nat) (op : KOp) : List Sch := [(i, t, some (k, op), false, none, false, false, false)]
abbrev go (i t n : Nat) : List Sch := List.replicate n (i, t, none, false, none, false, false, false)
abbrev treeify (i t k : Nat) : List Sch := [(i, t, none, false, some k, false, false, false)]
abbrev resize (i t : Nat) : List Sch := [(i, t, none, false, none, true, false, false)]

def exBefore : List Sch :=
  call 0 0 1 (.ins 10 100) ++ call 1 1 2 (.ins 20 200) ++ go 0 0 3 ++ go 1 1 3 ++
  call 0 0 0 (.ins 30 300) ++ call 1 1 3 (.ins 40 400) ++ go 1 1 8 ++ go 0 0 8 ++ treeify 1 1 2 ++ go 1 1 7

/-- thread 0 starts the transfer of lineage 0 (`xCell`, `xLock`); thread 1 calls `get(0)` and loads
the table pointer and the old cell; thread 0 re-checks, splits, stores low, high and the marker -/
def exResize0a : List Sch :=
  resize 0 0 ++ go 0 0 2 ++ call 0 1 0 .get ++ go 0 1 2 ++ go 0 0 5

/-- … thread 1 walks on in the old list, thread 0 unlocks and commits, thread 1 finds its key -/
def exResize0 : List Sch := exResize0a ++ go 0 1 1 ++ go 0 0 2 ++ go 0 1 1

/-- thread 0 updates key 3 in the old table of lineage 1; thread 1 transfers lineage 1 -/
def exResize1 : List Sch :=
  call 1 0 3 (.ins 41 401) ++ go 1 0 1 ++ resize 1 1 ++ go 1 1 1 ++ go 1 0 6 ++ go 1 1 8

def exAfter : List Sch :=
  call 0 0 1 .get ++ call 1 1 2 .rm ++ go 0 0 3 ++ go 1 1 10 ++
  call 0 1 5 (.ins 50 500) ++ call 1 0 3 .get ++ go 0 1 8 ++ go 1 0 8

def exSchedule : List Sch := exBefore ++ exResize0 ++ exResize1 ++ exAfter

def exHist : MHistory :=
  [ ⟨1, ⟨0, .ins 10 100, .none, 1, 5⟩⟩, ⟨0, ⟨0, .ins 30 300, .none, 9, 26⟩⟩,
    ⟨0, ⟨1, .get, .some 30 300, 38, 49⟩⟩, ⟨1, ⟨0, .get, .some 10 100, 68, 72⟩⟩,
    ⟨5, ⟨1, .ins 50 500, .none, 83, 92⟩⟩,
    ⟨2, ⟨1, .ins 20 200, .none, 2, 8⟩⟩, ⟨3, ⟨1, .ins 40 400, .none, 10, 18⟩⟩,
    ⟨3, ⟨0, .ins 41 401, .some 40 400, 50, 59⟩⟩, ⟨2, ⟨1, .rm, .some 20 200, 69, 82⟩⟩,
    ⟨3, ⟨0, .get, .some 41 401, 84, 100⟩⟩ ]

/-- the abstract map on the keys `0 … 5` -/
def exAbs : List KSt := [some (30, 300), some (10, 100), none, some (41, 401), none, some (50, 500)]

/-- per lineage: old cell, low cell, high cell, table pointer, the resize has been started, clock -/
def shape (S : State) : List (BinG.Cell × BinG.Cell × BinG.Cell × BinG.Tab × Bool × Nat) :=
  S.bins.map fun b => (b.cell0, b.lowCell, b.highCell, b.cur, b.resizing, b.now)

def exShape : List (BinG.Cell × BinG.Cell × BinG.Cell × BinG.Tab × Bool × Nat) :=
  [(.moved, .list 1, .list 2, .new, true, 100), (.moved, .tree 1, .tree 2, .new, true, 100)]

def quiescentB (S : State) : Bool := S.bins.all (fun b => b.threads.all (fun l => l.pc == .idle))

theorem quiescentB_iff (S : State) : quiescentB S = true ↔ quiescent S := by
  unfold quiescentB quiescent BinG.quiescent
  simp [List.all_eq_true]

/-- every lock word of every node free; mutex, write lock, waiter bit and readers of every `TreeBin` clear -/
def unlockedB (S : State) : Bool :=
  S.bins.all fun b => b.heap.all (fun n => n.lock.isNone) &&
    b.tbins.all (fun x => x.mutex.isNone && !x.writer && !x.waiter && x.readers == 0)

/-- the end of the run (clock 100), with what the iterator yields -/
def exCheck : Bool :=
  (run (init 2 2) exSchedule).any fun S =>
    quiescentB S && mhist S == exHist && (List.range 6).map (absMap S) == exAbs && shape S == exShape &&
      entries S == [(0, (30, 300)), (1, (10, 100)), (5, (50, 500)), (3, (41, 401))] &&
      S.bins.map BinG.liveCells == [[.list 1, .list 2], [.tree 1, .tree 2]] && unlockedB S

/-- the middle of the run (clock 49, also quiescent): lineage 0 is committed, lineage 1 untouched -/
def exMidCheck : Bool :=
  (run (init 2 2) (exBefore ++ exResize0)).any fun S =>
    quiescentB S && entries S == [(0, (30, 300)), (1, (10, 100)), (2, (20, 200)), (3, (40, 400))] &&
      S.bins.map BinG.liveCells == [[.list 1, .list 2], [.tree 0]] &&
      shape S == [(.moved, .list 1, .list 2, .new, true, 49), (.tree 0, .empty, .empty, .old, false, 49)] &&
      (List.range 6).map (absMap S) == [some (30, 300), some (10, 100), some (20, 200), some (40, 400), none, none] &&
      unlockedB S

/-- during the transfer of lineage 0 (clock 45): the two new cells and the forwarding marker are
stored, the table pointer is still the old one, the transferring thread holds the head lock, and the
reader stands on node 0 of the old list -/
def exDuring : Bool :=
  match run (init 2 2) (exBefore ++ exResize0a) with
  | some S =>
    shape S == [(.moved, .list 1, .list 2, .old, true, 45), (.tree 0, .empty, .empty, .old, false, 45)] &&
      (S.bins.map fun b => b.threads.map (·.pc)) == [[.xUnlock (.inl 0), .rNode (some 0)], [.idle, .idle]]
  | none => false

/-- the state in the middle: lineage 0 is forwarded and committed, lineage 1 is untouched (its old cell
holds the `TreeBin`, its table pointer is the old one), thread 0 has just been invoked there -/
def exBetween : Bool :=
  match run (init 2 2) (exBefore ++ exResize0 ++ call 1 0 3 (.ins 41 401)) with
  | some S =>
    shape S == [(.moved, .list 1, .list 2, .new, true, 50), (.tree 0, .empty, .empty, .old, false, 50)] &&
      (S.bins.map fun b => b.threads.map (·.pc)) == [[.idle, .idle], [.wTable, .idle]]
  | none => false

/-- the four prefixes of `exSchedule` that are looked at -/
theorem exRun : (exDuring && exMidCheck && exBetween && exCheck) = true := by decide +kernel

theorem example_during : exDuring = true := by
  have h := exRun
  simp only [Bool.and_eq_true] at h
  exact h.1.1.1

theorem example_between : exBetween = true := by
  have h := exRun
  simp only [Bool.and_eq_true] at h
  exact h.1.2

/-- a reachable quiescent table with two lineages, both transferred and committed, whose history
holds calls on keys of both lineages and both sides, before, during and after the resize -/
theorem example_state :
    ∃ S : State, Reachable 2 2 S ∧ quiescent S ∧ mhist S = exHist ∧ (List.range 6).map (absMap S) = exAbs ∧
      shape S = exShape := by
  have h := exRun
  simp only [Bool.and_eq_true] at h
  obtain ⟨S, hrun, h⟩ := (Option.any_eq_true _ _).1 h.2
  simp only [Bool.and_eq_true, beq_iff_eq] at h
  obtain ⟨⟨⟨⟨⟨⟨hq, hh⟩, ha⟩, hs⟩, -⟩, -⟩, -⟩ := h
  exact ⟨S, run_reachable exSchedule Reachable.init hrun, (quiescentB_iff S).1 hq, hh, ha, hs⟩

/-- refused: a call on a key of another lineage (key 2 belongs to lineage 1, key 1 to lineage 0); a
treeify named by a key of another lineage; a thread that is busy in another lineage — with a call,
or in the middle of a transfer (so a thread transfers the lineages one at a time; another thread may
transfer another lineage meanwhile) -/
theorem example_refused :
    (step (init 2 2) 0 0 (some (2, .ins 1 1)) false none false false false).isNone = true ∧
    (step (init 2 2) 1 0 (some (1, .ins 1 1)) false none false false false).isNone = true ∧
    (step (init 2 2) 0 0 none false (some 3) false false false).isNone = true ∧
    (run (init 2 2) (call 0 0 1 (.ins 1 1) ++ call 1 0 2 .get)).isNone = true ∧
    (run (init 2 2) (resize 0 0 ++ go 0 0 1 ++ resize 1 0)).isNone = true ∧
    (run (init 2 2) (resize 0 0 ++ go 0 0 1 ++ resize 1 1 ++ go 1 1 1 ++ go 0 0 1)).isSome = true := by decide +kernel

end Flurry.Proto.TableG
