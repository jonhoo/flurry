import Flurry.Lemmas.BinNRRefineProofSim
/-! # Proto/BinNR → Proto/Reclaim2: every transition is simulated — the projected events are accepted and `Sim` is kept -/
namespace Flurry.Proto.BinNR
open Flurry.Lin
open Flurry.Proto.BinX (get_set_self get_set_ne)
open Flurry.Proto.BinN (Local Ghost stepK_inv step_stepK memStep_len dead_step)
open Flurry.Proto.Reclaim2 (OSt Ev active prune retireOf run_append_some run_acquire run_touch run_alloc run_publish
  run_unlink run_retire)

/-- pruning a list at the `exit` of `t` (if the step ends the guard) -/
def pruned (ex : Bool) (t : Nat) (u : List Nat) : List Nat := if ex then u.filter (· != t) else u

/-- the abstract object after the optional `exit t` -/
def prunedObj (ex : Bool) (t : Nat) (st : OSt) : OSt := if ex then prune t st else st

theorem prunedObj_unlinked (ex : Bool) (t : Nat) (u : List Nat) : prunedObj ex t (.unlinked u) = .unlinked (pruned ex t u) := by
  cases ex <;> rfl
theorem prunedObj_retired (ex : Bool) (t : Nat) (u w : List Nat) :
    prunedObj ex t (.retired u w) = .retired (pruned ex t u) (pruned ex t w) := by cases ex <;> rfl
theorem prunedObj_fresh (ex : Bool) (t : Nat) : prunedObj ex t .fresh = .fresh := by cases ex <;> rfl
theorem prunedObj_linked (ex : Bool) (t : Nat) : prunedObj ex t .linked = .linked := by cases ex <;> rfl
theorem prunedObj_freed (ex : Bool) (t : Nat) : prunedObj ex t .freed = .freed := by cases ex <;> rfl

/-- A `base` step is simulated. `project` turns it into eight batches of events (`hproj`); each batch is run from the
state the batch before leaves (`a1` … `a8`, with what it does to `objs`, `guarded`, `nobjs`, `holds`), where `gm`, the
guards during the step, counts `t` as guarded if it is before or after. `Sim` is then re-established object by object,
by cases on `reach` before and after; there `j5` and `w3` (awaited threads are under a guard) make the pruning at
`exit t` agree with the filter by `guarded n'` in `afterBase`. -/
theorem sim_base {s : State} {G : Ghost} {a : Reclaim2.State} (R : RInv s G) (K : RInv2 s) (S : Sim a s)
    (IA : Reclaim2.Inv a) {t : Nat} {l : Local} {pick : Nat} {n' : BinN.State} {inv : Option (Nat × KOp)} {rz : Bool}
    (hl : s.n.threads[t]? = some l) (hb : BinN.step s.n t inv rz pick = some n') :
    ∃ a', Reclaim2.run a (project s t (.base inv rz pick) (afterBase false s t n')) = some a' ∧
      Sim a' (afterBase false s t n') := by
  have hK := step_stepK hl hb
  obtain ⟨G', I', m, -⟩ := stepK_inv R.inv hl hK
  obtain ⟨-, l', hthr⟩ := BinN.stepK_frame hK
  have hRB := retiredBy_dead R.inv hl hb
  have H := R.inv.heap
  have hlen := memStep_len m
  have hl' : n'.threads[t]? = some l' := by rw [hthr]; exact get_set_self hl
  have hlenT : n'.threads.length = s.n.threads.length := by rw [hthr, List.length_set]
  have hgo : ∀ x, x ≠ t → guarded n' x = guarded s.n x := by
    intro x hne; unfold guarded; rw [hthr, get_set_ne hne]
  have hho : ∀ x, x ≠ t → holdsOf n' x = holdsOf s.n x := by
    intro x hne; unfold holdsOf; rw [hthr, get_set_ne hne]
  -- guards during the step
  let gm : Nat → Bool := fun x => guarded s.n x || guarded n' x
  have hgm_lt : ∀ x, gm x = true → x < s.n.threads.length := by
    intro x hx
    simp only [gm, Bool.or_eq_true] at hx
    rcases hx with h | h
    · exact guarded_lt h
    · rw [← hlenT]; exact guarded_lt h
  have hgmt : gm t = true ∨ (n'.heap = s.n.heap ∧ n'.tabs = s.n.tabs) := by
    cases h0 : guarded s.n t with
    | true => left; simp [gm, h0]
    | false =>
      rcases idle_step hl hb h0 with h | h
      · left; simp [gm, h]
      · exact Or.inr h
  have hdead' : ∀ i u, s.unl i = some u → ¬ Live0 n' i := by
    intro i u hu h0
    obtain ⟨hd, hlt⟩ := R.j1 i u hu
    exact (dead_step m hlt hd).1 h0.live
  -- the event list
  have hproj : project s t (.base inv rz pick) (afterBase false s t n') =
      (if (!guarded s.n t && guarded n' t) = true then [Ev.enter t] else []) ++
      ((touches s.n t ++ holdsOf n' t).map (Ev.acquire t)) ++
      ((touches s.n t).map (Ev.touch t)) ++
      (List.replicate (n'.heap.length - s.n.heap.length) (Ev.alloc t)) ++
      (((List.range n'.heap.length).filter fun i => !reach s.n i && reach n' i).map (Ev.publish t)) ++
      (((List.range s.n.heap.length).filter fun i => reach s.n i && !reach n' i).map (Ev.unlink t)) ++
      (if exitsB s t n' = true then (pend1 s t).map (Ev.retire t) else []) ++
      (if exitsB s t n' = true then [Ev.exit t] else []) := rfl
  rw [hproj]
  -- `enter t` is accepted by `Sim` alone (`nthr`, `grd`); no clause of the invariant is involved
  obtain ⟨a1, r1, o1, g1, b1, n1, d1⟩ : ∃ a1, Reclaim2.run a
      (if (!guarded s.n t && guarded n' t) = true then [Ev.enter t] else []) = some a1 ∧ a1.objs = a.objs ∧
      a1.guarded = gm ∧ a1.nobjs = a.nobjs ∧ a1.nthreads = a.nthreads ∧ a1.holds = a.holds := by
    by_cases he : (!guarded s.n t && guarded n' t) = true
    · rw [if_pos he]
      simp only [Bool.and_eq_true, Bool.not_eq_true'] at he
      have hs : Reclaim2.step a (.enter t) =
          some { a with guarded := fun x => if x = t then true else a.guarded x } := by
        unfold Reclaim2.step; simp only
        rw [if_pos ⟨by rw [S.nthr]; exact (List.getElem?_eq_some_iff.1 hl).1, by rw [S.grd]; exact he.1⟩]
      refine ⟨{ a with guarded := fun x => if x = t then true else a.guarded x },
        by simp only [Reclaim2.run, hs], rfl, ?_, rfl, rfl, rfl⟩
      funext x
      show (if x = t then true else a.guarded x) = (guarded s.n x || guarded n' x)
      by_cases hx : x = t
      · rw [if_pos hx, hx, he.2]; simp
      · rw [if_neg hx, S.grd, hgo x hx]; simp
    · rw [if_neg he]
      refine ⟨a, rfl, rfl, ?_, rfl, rfl, rfl⟩
      funext x
      show a.guarded x = (guarded s.n x || guarded n' x)
      rw [S.grd]
      by_cases hx : x = t
      · rw [hx]
        revert he
        cases guarded s.n t <;> cases guarded n' t <;> simp
      · rw [hgo x hx]; simp
  -- `acquire` wants `acquirable`: `j2` justifies the nodes of the old program counter (`pre_touches`), `j2` with `j3`
  -- those loaded from a `next` field (`pre_holds`; the head of a cell is `Live0`); `Sim.acquirable` needs `j1` for the bound and
  -- `j4f` against `.freed`
  obtain ⟨a2, r2, o2, g2, b2, n2, d2, d2'⟩ := run_acquire t (touches s.n t ++ holdsOf n' t) a1 (by
    intro o ho
    have hjust : (Live0 s.n o ∨ ∃ u, s.unl o = some u ∧ t ∈ u) ∧ gm t = true := by
      rcases List.mem_append.1 ho with ho | ho
      · obtain ⟨h1, h2⟩ := R.pre_touches ho
        exact ⟨h1, by simp [gm, h2]⟩
      · refine ⟨R.pre_holds hl hK o ho, ?_⟩
        have : guarded n' t = true := by
          unfold holdsOf at ho; rw [hl'] at ho
          exact guarded_of_holds hl' ho
        simp [gm, this]
    obtain ⟨h1, h2⟩ := S.acquirable R hjust.1
    rw [g1, b1, o1]
    exact ⟨hjust.2, h1, h2⟩)
  -- `touch` wants the node held and not freed: it is among those just acquired (`d2'`), by the same `j2` / `j4f`
  have r3 : Reclaim2.run a2 ((touches s.n t).map (Ev.touch t)) = some a2 := by
    refine run_touch t _ a2 ?_
    intro o ho
    refine ⟨(d2' o).2 (Or.inl (List.mem_append_left _ ho)), ?_⟩
    rw [o2, o1]
    exact acquirable_not_freed (S.acquirable R (R.pre_touches ho).1).2
  -- `alloc` wants `t` under a guard: a thread unguarded before and after leaves heap and cells alone (`idle_step`,
  -- `hgmt`); no clause of the invariant is involved
  obtain ⟨a4, r4, o4, g4, b4, n4, d4, d4'⟩ := run_alloc t (n'.heap.length - s.n.heap.length) a2 (by
    intro hk
    rw [g2, g1]
    rcases hgmt with h | ⟨h, -⟩
    · exact h
    · rw [h] at hk; exact absurd (Nat.sub_self _) hk)
  have b4' : a4.nobjs = n'.heap.length := by rw [b4, b2, b1, S.nobjs]; omega
  -- `publish` wants `.fresh`: a node that becomes reachable has `unl = none` (`j1` with `dead_step`: `hdead'`), so it
  -- is `.fresh` by `Sim.fresh` (`j4f` against `.freed`) or lies beyond the old heap (`IA.fresh`)
  have hPmem : ∀ o, o ∈ (List.range n'.heap.length).filter (fun i => !reach s.n i && reach n' i) ↔
      o < n'.heap.length ∧ reach s.n o = false ∧ reach n' o = true := by
    intro o; simp [List.mem_filter, List.mem_range]
  have hUmem : ∀ o, o ∈ (List.range s.n.heap.length).filter (fun i => reach s.n i && !reach n' i) ↔
      o < s.n.heap.length ∧ reach s.n o = true ∧ reach n' o = false := by
    intro o; simp [List.mem_filter, List.mem_range]
  have hpubFresh : ∀ o, reach s.n o = false → reach n' o = true → a.objs o = .fresh ∧ s.unl o = none := by
    intro o h0 h1
    have hun : s.unl o = none := by
      cases hu : s.unl o with
      | none => rfl
      | some u => exact absurd ((reach_iff _ _).1 h1) (hdead' o u hu)
    refine ⟨?_, hun⟩
    by_cases hlt : o < s.n.heap.length
    · exact S.fresh R hlt hun h0
    · exact IA.fresh o (by rw [S.nobjs]; omega)
  obtain ⟨a5, r5, o5, g5, b5, n5, d5⟩ := run_publish t _ a4 (by
    intro o ho
    obtain ⟨h1, h2, h3⟩ := (hPmem o).1 ho
    refine ⟨?_, by rw [b4']; exact h1, by rw [o4, o2, o1]; exact (hpubFresh o h2 h3).1⟩
    rw [g4, g2, g1]
    rcases hgmt with h | ⟨hh, ht⟩
    · exact h
    · rw [reach_congr hh ht, h2] at h3; cases h3) (List.nodup_range.filter _)
  -- `unlink` wants `.linked`: a node that leaves the chains is `Live0`, so not unlinked (`j1`) and not freed (`j4f`): `Sim.linked`
  obtain ⟨a6, r6, o6, g6, b6, n6, d6⟩ := run_unlink t _ a5 (by
    intro o ho
    obtain ⟨h1, h2, h3⟩ := (hUmem o).1 ho
    rw [o5]
    show (if o ∈ _ then OSt.linked else a4.objs o) = .linked
    split
    · rfl
    · rw [o4, o2, o1]; exact S.linked R ((reach_iff _ _).1 h2)) (List.nodup_range.filter _)
  have hact : ∀ x, x ∈ active a5 ↔ gm x = true := by
    intro x
    unfold Reclaim2.active
    rw [List.mem_filter, List.mem_range, g5, g4, g2, g1, n5, n4, n2, n1, S.nthr]
    exact ⟨fun h => h.2, fun h => ⟨hgm_lt x h, h⟩⟩
  have o6' : ∀ x, a6.objs x =
      if x ∈ (List.range s.n.heap.length).filter (fun i => reach s.n i && !reach n' i) then OSt.unlinked (active a5)
      else if x ∈ (List.range n'.heap.length).filter (fun i => !reach s.n i && reach n' i) then OSt.linked
      else a.objs x := by
    intro x; rw [o6, o5, o4, o2, o1]
  -- facts about the retire list
  have hRl : ∀ o, o ∈ pend1 s t → o < s.n.heap.length ∧ reach n' o = false ∧ s.life o = .live ∧
      ((o ∈ s.pend t ∧ reach s.n o = false ∧ (s.unl o).isSome = true) ∨ (reach s.n o = true)) := by
    intro o ho
    rcases List.mem_append.1 ho with hp | hr
    · obtain ⟨h1, -⟩ := R.j7 t o hp
      cases hu : s.unl o with
      | none => rw [hu] at h1; cases h1
      | some u =>
        exact ⟨(R.j1 o u hu).2, reach_false_of_not (hdead' o u hu), K.k1 t o hp,
          Or.inl ⟨hp, reach_false_of_not (R.not_live0_of_unl hu), rfl⟩⟩
    · obtain ⟨h0, h1, -⟩ := hRB o hr
      exact ⟨h0.lt H, reach_false_of_not h1, R.j4n o (R.unl_none_of_live0 h0), Or.inr ((reach_iff _ _).2 h0)⟩
  have hRlnd := pend1_nodup R K hRB
  -- `retire` wants `.unlinked` and no node twice: an obligation of `pend t` is unlinked (`j7`) and `live` (`k1`), hence
  -- `.unlinked` by `Sim.unlinked`; a node of `retiredBy` is one the `unlink` batch has just made `.unlinked` (`hRB`); `pend1_nodup` is `k2` and `j7`.
  -- `exit t` only wants `t` guarded.
  obtain ⟨a8, r78, o8, g8, b8, n8, d8, d8'⟩ : ∃ a8, Reclaim2.run a6
      ((if exitsB s t n' = true then (pend1 s t).map (Ev.retire t) else []) ++
       (if exitsB s t n' = true then [Ev.exit t] else [])) = some a8 ∧
      (∀ x, a8.objs x = prunedObj (exitsB s t n') t
        (if exitsB s t n' = true ∧ x ∈ pend1 s t then retireOf (active a5) (a6.objs x) else a6.objs x)) ∧
      a8.guarded = guarded n' ∧ a8.nobjs = a6.nobjs ∧ a8.nthreads = a6.nthreads ∧
      (∀ x, x ≠ t → a8.holds x = a6.holds x) ∧ (exitsB s t n' = false → a8.holds t = a6.holds t) := by
    have hga6 : a6.guarded = gm := by rw [g6, g5, g4, g2, g1]
    by_cases hex : exitsB s t n' = true
    · have hex' := hex
      simp only [exitsB, Bool.and_eq_true, Bool.not_eq_true'] at hex'
      rw [if_pos hex, if_pos hex]
      have hgt : gm t = true := by simp [gm, hex'.1]
      obtain ⟨a7, r7, o7, g7, b7, n7, d7⟩ := run_retire t (pend1 s t) a6 (by
        intro o ho
        refine ⟨by rw [hga6]; exact hgt, ?_⟩
        obtain ⟨h1, h2, h3, h4⟩ := hRl o ho
        rw [o6' o]
        rcases h4 with ⟨hp, h5, h6⟩ | h5
        · rw [if_neg (by rw [hUmem]; intro h; rw [h5] at h; cases h.2.1),
            if_neg (by rw [hPmem]; intro h; rw [h2] at h; cases h.2.2)]
          cases hu : s.unl o with
          | none => rw [hu] at h6; cases h6
          | some u' =>
            obtain ⟨u, hu1, -⟩ := S.unlinked h1 hu h3
            exact ⟨u, hu1⟩
        · rw [if_pos ((hUmem o).2 ⟨h1, h5, h2⟩)]
          exact ⟨_, rfl⟩) hRlnd
      have hs : Reclaim2.step a7 (.exit t) = some { a7 with
          guarded := fun x => if x = t then false else a7.guarded x
          holds := fun x => if x = t then [] else a7.holds x
          objs := fun o => prune t (a7.objs o) } := by
        unfold Reclaim2.step; simp only
        rw [if_pos (by rw [g7, hga6]; exact hgt)]
      refine ⟨{ a7 with
          guarded := fun x => if x = t then false else a7.guarded x
          holds := fun x => if x = t then [] else a7.holds x
          objs := fun o => prune t (a7.objs o) },
        run_append_some r7 (by simp only [Reclaim2.run, hs]), ?_, ?_, b7, n7, ?_, ?_⟩
      · intro x
        show prune t (a7.objs x) = _
        rw [o7, hex]
        simp only [prunedObj, if_true, true_and]
        rw [Reclaim2.active_eq (a' := a6) (a := a5) n6 g6]
      · funext x
        show (if x = t then false else a7.guarded x) = guarded n' x
        by_cases hx : x = t
        · rw [if_pos hx, hx, hex'.2]
        · rw [if_neg hx, g7, hga6]
          show (guarded s.n x || guarded n' x) = guarded n' x
          rw [hgo x hx]; simp
      · intro x hx
        show (if x = t then [] else a7.holds x) = a6.holds x
        rw [if_neg hx, d7]
      · intro h; rw [hex] at h; cases h
    · have hexf : exitsB s t n' = false := by
        cases h : exitsB s t n' with
        | true => exact absurd h hex
        | false => rfl
      rw [if_neg hex, if_neg hex]
      refine ⟨a6, rfl, ?_, ?_, rfl, rfl, fun _ _ => rfl, fun _ => rfl⟩
      · intro x
        rw [hexf]
        simp [prunedObj]
      · rw [hga6]
        funext x
        show (guarded s.n x || guarded n' x) = guarded n' x
        by_cases hx : x = t
        · rw [hx]
          simp only [exitsB] at hexf
          revert hexf
          cases guarded s.n t <;> cases guarded n' t <;> simp
        · rw [hgo x hx]; simp
  rw [List.append_assoc]
  refine ⟨a8, run_append_some (run_append_some (run_append_some (run_append_some (run_append_some
    (run_append_some r1 r2) r3) r4) r5) r6) r78, ?_⟩
  have PRL : ∀ (u : List Nat) (x : Nat), (∀ y ∈ u, gm y = true) →
      (x ∈ pruned (exitsB s t n') t u ↔ x ∈ u ∧ guarded n' x = true) := by
    intro u x hu
    unfold pruned
    by_cases hex : exitsB s t n' = true
    · have hex' := hex
      simp only [exitsB, Bool.and_eq_true, Bool.not_eq_true'] at hex'
      rw [if_pos hex, List.mem_filter]
      constructor
      · rintro ⟨h1, h2⟩
        have hne : x ≠ t := by simpa using h2
        refine ⟨h1, ?_⟩
        have := hu x h1
        simp only [gm, Bool.or_eq_true] at this
        rcases this with h | h
        · rw [hgo x hne]; exact h
        · exact h
      · rintro ⟨h1, h2⟩
        refine ⟨h1, ?_⟩
        have : x ≠ t := by intro e; rw [e, hex'.2] at h2; cases h2
        simpa using this
    · rw [if_neg hex]
      constructor
      · intro h1
        refine ⟨h1, ?_⟩
        have := hu x h1
        simp only [gm, Bool.or_eq_true] at this
        rcases this with h | h
        · by_cases hx : x = t
          · rw [hx] at h ⊢
            cases hg : guarded n' t with
            | true => rfl
            | false => exact absurd (by simp [exitsB, h, hg]) hex
          · rw [hgo x hx]; exact h
        · exact h
      · exact fun h => h.1
  have hgmact : ∀ y ∈ active a5, gm y = true := fun y hy => (hact y).1 hy
  have actpr : ∀ x, x ∈ pruned (exitsB s t n') t (active a5) ↔ x ∈ guardedSet n' := by
    intro x
    rw [PRL _ x hgmact, mem_guardedSet, hact]
    constructor
    · exact fun h => h.2
    · intro h; exact ⟨by simp [gm, h], h⟩
  have filt : ∀ (u u' : List Nat) (x : Nat), (∀ y, y ∈ u ↔ y ∈ u') → (∀ y ∈ u', guarded s.n y = true) →
      (x ∈ pruned (exitsB s t n') t u ↔ x ∈ u'.filter (guarded n')) := by
    intro u u' x huu hg
    rw [PRL u x (fun y hy => by simp [gm, hg y ((huu y).1 hy)]), List.mem_filter, huu x]
  have hunl' : ∀ i, (afterBase false s t n').unl i =
      if (reach s.n i && !reach n' i) = true then some (guardedSet n')
      else (s.unl i).map (·.filter (guarded n')) := fun _ => rfl
  have hnotRl : ∀ i, reach n' i = true → ¬ (exitsB s t n' && (pend1 s t).contains i) = true := by
    intro i h1 hc
    simp only [Bool.and_eq_true, List.contains_iff_mem] at hc
    have := (hRl i hc.2).2.1
    rw [h1] at this; cases this
  refine ⟨?_, ?_, ?_, ?_, ?_⟩
  · rw [n8, n6, n5, n4, n2, n1, S.nthr]; exact hlenT.symm
  · rw [b8, b6, b5, b4']; rfl
  · intro x; rw [g8]; rfl
  · intro x i hi
    have hi' : i ∈ holdsOf n' x := hi
    by_cases hx : x = t
    · rw [hx] at hi' ⊢
      have hg : guarded n' t = true := by
        unfold holdsOf at hi'; rw [hl'] at hi'; exact guarded_of_holds hl' hi'
      have hexf : exitsB s t n' = false := by simp [exitsB, hg]
      rw [d8' hexf, d6, d5]
      exact d4' i ((d2' i).2 (Or.inl (List.mem_append_right _ hi')))
    · rw [d8 x hx, d6, d5, d4 x hx, d2 x hx, d1]
      rw [hho x hx] at hi'
      exact S.hld x i hi'
  · intro i hi
    show ObjRel (a8.objs i) ((afterBase false s t n').unl i) ((afterBase false s t n').life i) (reach n' i)
    rw [o8 i, hunl' i, afterBase_life]
    have hcond : (exitsB s t n' = true ∧ i ∈ pend1 s t) ↔ (exitsB s t n' && (pend1 s t).contains i) = true := by
      simp only [Bool.and_eq_true, List.contains_iff_mem]
    cases h0 : reach s.n i with
    | true =>
      have hL0 := (reach_iff _ _).1 h0
      have hiN := hL0.lt H
      have hun := R.unl_none_of_live0 hL0
      have hlive := R.j4n i hun
      cases h1 : reach n' i with
      | false =>
        have h6 : a6.objs i = OSt.unlinked (active a5) := by
          rw [o6' i, if_pos ((hUmem i).2 ⟨hiN, h0, h1⟩)]
        simp only [Bool.not_false, Bool.and_self, if_true]
        by_cases hc : (exitsB s t n' && (pend1 s t).contains i) = true
        · rw [if_pos hc, if_pos (hcond.2 hc), h6]
          show ObjRel (prunedObj _ t (OSt.retired _ _)) _ _ _
          rw [prunedObj_retired]
          exact objRel_iff.2 (.retired actpr actpr)
        · rw [if_neg hc, if_neg (fun h => hc (hcond.1 h)), h6, prunedObj_unlinked, hlive]
          exact objRel_iff.2 (.unlinked actpr)
      | true =>
        have nU : i ∉ (List.range s.n.heap.length).filter (fun i => reach s.n i && !reach n' i) := by
          rw [hUmem]; intro h; rw [h1] at h; cases h.2.2
        have nP : i ∉ (List.range n'.heap.length).filter (fun i => !reach s.n i && reach n' i) := by
          rw [hPmem]; intro h; rw [h0] at h; cases h.2.1
        have h6 : a6.objs i = OSt.linked := by
          rw [o6' i, if_neg nU, if_neg nP]; exact S.linked R hL0
        simp only [Bool.not_true, Bool.and_false, Bool.false_eq_true, if_false]
        rw [if_neg (hnotRl i h1), if_neg (fun h => hnotRl i h1 (hcond.1 h)), h6, prunedObj_linked, hun, hlive]
        exact objRel_iff.2 .linked
    | false =>
      have nU : i ∉ (List.range s.n.heap.length).filter (fun i => reach s.n i && !reach n' i) := by
        rw [hUmem]; intro h; rw [h0] at h; cases h.2.1
      cases h1 : reach n' i with
      | true =>
        obtain ⟨hfr, hun⟩ := hpubFresh i h0 h1
        have h6 : a6.objs i = OSt.linked := by
          rw [o6' i, if_neg nU, if_pos ((hPmem i).2 ⟨hi, h0, h1⟩)]
        simp only [Bool.not_true, Bool.and_false, Bool.false_eq_true, if_false]
        rw [if_neg (hnotRl i h1), if_neg (fun h => hnotRl i h1 (hcond.1 h)), h6, prunedObj_linked, hun, R.j4n i hun]
        exact objRel_iff.2 .linked
      | false =>
        have nP : i ∉ (List.range n'.heap.length).filter (fun i => !reach s.n i && reach n' i) := by
          rw [hPmem]; intro h; rw [h1] at h; cases h.2.2
        have h6 : a6.objs i = a.objs i := by rw [o6' i, if_neg nU, if_neg nP]
        simp only [Bool.not_false, Bool.and_true, Bool.false_eq_true, if_false]
        by_cases hc : (exitsB s t n' && (pend1 s t).contains i) = true
        · rw [if_pos hc, if_pos (hcond.2 hc), h6]
          obtain ⟨hiN, -, hlive, h4⟩ := hRl i (hcond.2 hc).2
          rcases h4 with ⟨-, -, h6'⟩ | h5
          · cases hu : s.unl i with
            | none => rw [hu] at h6'; cases h6'
            | some u' =>
              obtain ⟨u, hu1, hu2⟩ := S.unlinked hiN hu hlive
              rw [hu1]
              show ObjRel (prunedObj _ t (OSt.retired _ _)) _ _ _
              rw [prunedObj_retired]
              exact objRel_iff.2 (.retired (fun x => filt u u' x hu2 (R.j5 i u' hu)) actpr)
          · rw [h0] at h5; cases h5
        · rw [if_neg hc, if_neg (fun h => hc (hcond.1 h)), h6]
          by_cases hiN : i < s.n.heap.length
          · have h := S.view hiN
            rw [h0] at h
            generalize a.objs i = st at h ⊢
            generalize hun : s.unl i = un at h ⊢
            generalize hlf : s.life i = lf at h ⊢
            cases h with
            | fresh => rw [prunedObj_fresh]; exact objRel_iff.2 .fresh
            | unlinked e2 => rw [prunedObj_unlinked]; exact objRel_iff.2 (.unlinked fun x => filt _ _ x e2 (R.j5 i _ hun))
            | retired e3 e4 =>
              rw [prunedObj_retired]
              exact objRel_iff.2 (.retired (fun x => filt _ _ x e3 (R.j5 i _ hun)) fun x => filt _ _ x e4 (K.w3 i _ hlf))
            | freed => rw [prunedObj_freed]; exact objRel_iff.2 .freed
          · have hun : s.unl i = none := by
              cases hu : s.unl i with
              | none => rfl
              | some u => exact absurd (R.j1 i u hu).2 hiN
            rw [IA.fresh i (by rw [S.nobjs]; omega), prunedObj_fresh, hun, R.j4n i hun]
            exact objRel_iff.2 .fresh

end Flurry.Proto.BinNR
