import Flurry.Lemmas.BinNOrd
/-! # Proto/BinN: `ord cr` for a SET `cr` of copies is a rank of the heap indices

The values and bounds of `ord cr` (`ranked_ord`: it is a rank in the sense of `Lemmas/BinXChain`, so the lemmas about
segments and chains there apply to `NextOK cr heap`, which unfolds to `BinX.NextUp (ord cr) heap`), and
`ord_addRange_old`: adding an index range to the set of copies leaves the rank of the indices below the range. -/
namespace Flurry.Proto.BinN

theorem ord_copy {cr : CR} {i : Nat} (h : isCopy cr i) : ord cr i = -(i : Int) - 1 := by
  unfold ord; rw [if_pos h]

theorem ord_not_copy {cr : CR} {i : Nat} (h : ¬ isCopy cr i) : ord cr i = (i : Int) := by
  unfold ord; rw [if_neg h]

theorem ord_le_self (cr : CR) (i : Nat) : ord cr i ≤ (i : Int) := by
  unfold ord; split <;> omega

theorem ord_ge (cr : CR) (i : Nat) : -(i : Int) - 1 ≤ ord cr i := by
  unfold ord; split <;> omega

theorem ranked_ord (cr : CR) : BinX.Ranked (ord cr) := fun i => ⟨ord_ge cr i, ord_le_self cr i⟩

theorem isCopy_addRange {cr : CR} {a b i : Nat} :
    isCopy (addRange cr a b) i ↔ isCopy cr i ∨ (a ≤ i ∧ i < b) := by
  unfold isCopy addRange
  simp

theorem ord_congr {cr cr' : CR} {i : Nat} (h : isCopy cr' i ↔ isCopy cr i) : ord cr' i = ord cr i := by
  by_cases hc : isCopy cr i
  · rw [ord_copy hc, ord_copy (h.2 hc)]
  · rw [ord_not_copy hc, ord_not_copy (mt h.1 hc)]

theorem ord_addRange_old {cr : CR} {a b i : Nat} (h : i < a) : ord (addRange cr a b) i = ord cr i :=
  ord_congr (isCopy_addRange.trans ⟨fun h1 => h1.elim id (fun h2 => by omega), Or.inl⟩)

end Flurry.Proto.BinN
