import Flurry.Lemmas.BinEmbed
import Flurry.Lemmas.BinChain
import Flurry.Lemmas.BinBasic
import Flurry.Lemmas.BinStep
import Flurry.Lemmas.BinInv
import Flurry.Lemmas.BinLock
import Flurry.Lemmas.BinGhost
/-! # The lemmas about `Proto/Bin`, gathered (main theorems in `Props/C01Bin.lean`)

They are proved for `Proto/BinRBase` (`Lemmas/BinRB*.lean`), which has one more operation, and carried over along
`emb` (`BinEmbed.lean`). -/
