import Flurry.LinMap
import Flurry.Lemmas.LinGen
import Flurry.Lemmas.LinSearch
/-! # Locality (Herlihy & Wing) for the map object

`map_linearizable_of_proj` (per-key linearizable ⇒ map linearizable),
`proj_linearizable_of_map` (the converse), `untouched_of_map`.

Both `Linearizable` and `MapLinearizable` are first brought into "list of calls" form
(`linearizable_iff_LinL`, `mapLinearizable_iff_mlinL`, via `LinGen.glinI_iff_glinL`). In that form

* the converse direction filters the global order to one key (`mlinL_proj`);
* the hard direction peels off, by induction on the number of calls, a call that may go first:
  among the heads of the chosen per-key orders the one with the least invocation time
  (`mlinL_of_proj`). No other remaining call `d` responded before it was invoked: the head `c'` of
  `d`'s own key precedes-or-equals `d` in that key's order, so `inv c ≤ inv c' ≤ resp d`
  (for `d = c'` this is where `inv ≤ resp` is used). -/
namespace Flurry.LinMap
open Flurry.Lin Flurry.LinGen

def mstep (m : MSt) (c : MCall) : Option MSt :=
  if (mspecStep m c.key c.call.op).2 = c.call.res then some (mspecStep m c.key c.call.op).1 else none

def mrt (a b : MCall) : Prop := ¬ (b.call.resp < a.call.inv)

theorem mreplay_eq_runI (h : MHistory) : ∀ (order : List Nat) (m : MSt),
    mreplay h order m = runI mstep h order m
  | [], m => rfl
  | i :: rest, m => by
    cases hc : h[i]? with
    | none => simp [mreplay, runI, hc]
    | some c =>
      simp only [mreplay, runI, hc, mstep]
      split
      · simpa using mreplay_eq_runI h rest _
      · simp

/-- per-key linearizability, list form: `GLinL kstep krt h init (· = fin)` with the final state put in -/
def LinL (h : History) (init fin : KSt) : Prop :=
  ∃ l : List Call, l.Perm h ∧ l.Pairwise krt ∧ runL kstep l init = some fin

def MLinL (h : MHistory) (init fin : MSt) : Prop :=
  ∃ l : List MCall, l.Perm h ∧ l.Pairwise mrt ∧ ∃ m, runL mstep l init = some m ∧ ∀ k, m k = fin k

theorem linearizable_iff_LinL {h : History} {init fin : KSt} :
    Linearizable h init fin ↔ LinL h init fin := by
  simp only [Lin.linearizable_iff_linL, GLinL, LinL, exists_eq_right]

theorem mapLinearizable_iff_mlinL {h : MHistory} {init fin : MSt} :
    MapLinearizable h init fin ↔ MLinL h init fin := by
  have h1 : MapLinearizable h init fin ↔ GLinI mstep mrt h init (fun m => ∀ k, m k = fin k) := by
    unfold MapLinearizable GLinI
    simp only [mreplay_eq_runI, mrt]
  rw [h1, glinI_iff_glinL]
  rfl

theorem proj_cons_self (c : MCall) (h : MHistory) : proj (c :: h) c.key = c.call :: proj h c.key := by
  simp [proj]

theorem proj_cons_ne {c : MCall} {k : Nat} (hk : c.key ≠ k) (h : MHistory) :
    proj (c :: h) k = proj h k := by
  simp [proj, hk]

theorem mem_proj {h : MHistory} {k : Nat} {c : Call} : c ∈ proj h k ↔ (⟨k, c⟩ : MCall) ∈ h := by
  simp only [proj, List.mem_map, List.mem_filter, beq_iff_eq]
  constructor
  · rintro ⟨d, ⟨hd, rfl⟩, rfl⟩; exact hd
  · intro hc; exact ⟨⟨k, c⟩, ⟨hc, rfl⟩, rfl⟩

theorem proj_perm {l h : MHistory} (hp : l.Perm h) (k : Nat) : (proj l k).Perm (proj h k) :=
  (hp.filter _).map _

theorem proj_pairwise {l : MHistory} (hp : l.Pairwise mrt) (k : Nat) : (proj l k).Pairwise krt := by
  unfold proj
  rw [List.pairwise_map]
  exact (hp.filter _).imp (fun h => h)

theorem mstep_eq_some {m m' : MSt} {c : MCall} (hs : mstep m c = some m') :
    kstep (m c.key) c.call = some (m' c.key) ∧ ∀ k, k ≠ c.key → m' k = m k := by
  unfold mstep at hs
  split at hs
  · rename_i hres
    cases hs
    refine ⟨?_, ?_⟩
    · simp only [mspecStep] at hres
      simp [kstep, hres, mspecStep]
    · intro k hk
      simp [mspecStep, hk]
  · cases hs

theorem mstep_of_kstep {m : MSt} {k : Nat} {c : Call} {s : KSt} (hs : kstep (m k) c = some s) :
    ∃ m', mstep m ⟨k, c⟩ = some m' ∧ m' k = s ∧ ∀ k', k' ≠ k → m' k' = m k' := by
  unfold kstep at hs
  split at hs
  · rename_i hres
    cases hs
    refine ⟨(mspecStep m k c.op).1, ?_, ?_, ?_⟩
    · simp [mstep, mspecStep, hres]
    · simp [mspecStep]
    · intro k' hk'; simp [mspecStep, hk']
  · cases hs

theorem runL_proj (k : Nat) : ∀ (l : List MCall) (m m' : MSt),
    runL mstep l m = some m' → runL kstep (proj l k) (m k) = some (m' k)
  | [], m, m', hr => by
    simp only [runL, Option.some.injEq] at hr
    subst hr; rfl
  | c :: l, m, m', hr => by
    simp only [runL] at hr
    cases hs : mstep m c with
    | none => simp [hs] at hr
    | some m1 =>
      rw [hs] at hr
      simp only [Option.bind_some] at hr
      have ih := runL_proj k l m1 m' hr
      obtain ⟨h1, h2⟩ := mstep_eq_some hs
      by_cases hk : c.key = k
      · subst hk
        rw [proj_cons_self]
        simp only [runL, h1, Option.bind_some]
        exact ih
      · rw [proj_cons_ne hk, ← h2 k (Ne.symm hk)]
        exact ih

theorem mlinL_proj {h : MHistory} {init fin : MSt} (hm : MLinL h init fin) (k : Nat) :
    LinL (proj h k) (init k) (fin k) := by
  obtain ⟨l, hp, hpw, m, hr, hfin⟩ := hm
  refine ⟨proj l k, proj_perm hp k, proj_pairwise hpw k, ?_⟩
  rw [← hfin k]
  exact runL_proj k l init m hr

theorem exists_min {α : Type} (f : α → Nat) : ∀ (l : List α), l ≠ [] → ∃ x ∈ l, ∀ y ∈ l, f x ≤ f y
  | [], h => absurd rfl h
  | [a], _ => ⟨a, by simp, by simp⟩
  | a :: b :: l, _ => by
    obtain ⟨x, hx, hmin⟩ := exists_min f (b :: l) (by simp)
    by_cases hax : f a ≤ f x
    · refine ⟨a, by simp, ?_⟩
      intro y hy
      rcases List.mem_cons.1 hy with rfl | hy
      · exact Nat.le_refl _
      · exact Nat.le_trans hax (hmin y hy)
    · refine ⟨x, List.mem_cons_of_mem _ hx, ?_⟩
      intro y hy
      rcases List.mem_cons.1 hy with rfl | hy
      · omega
      · exact hmin y hy

theorem linL_nil {init fin : KSt} (hl : LinL [] init fin) : fin = init := by
  obtain ⟨l, hp, _, hr⟩ := hl
  have : l = [] := List.Perm.eq_nil hp
  subst this
  simpa [runL] using hr.symm

theorem mlinL_of_proj : ∀ (n : Nat) (h : MHistory) (init fin : MSt), h.length = n →
    (∀ c ∈ h, c.call.inv ≤ c.call.resp) →
    (∀ k, LinL (proj h k) (init k) (fin k)) → MLinL h init fin
  | 0, h, init, fin, hn, _, hk => by
    have : h = [] := List.eq_nil_of_length_eq_zero hn
    subst this
    refine ⟨[], List.Perm.refl _, List.Pairwise.nil, init, rfl, ?_⟩
    intro k
    exact (linL_nil (hk k)).symm
  | n + 1, h, init, fin, hn, hwf, hk => by
    -- choose the per-key orders
    obtain ⟨L, hL⟩ := Classical.skolem.1 hk
    have hmemL : ∀ (k : Nat) (c : Call), c ∈ L k ↔ (⟨k, c⟩ : MCall) ∈ h := by
      intro k c
      rw [← mem_proj]
      exact (hL k).1.mem_iff
    -- the candidates: the heads of the per-key orders
    let H := h.filter (fun d => decide ((L d.key).head? = some d.call))
    have hH : ∀ d, d ∈ H ↔ d ∈ h ∧ (L d.key).head? = some d.call := by
      intro d; simp [H]
    -- the head of the order of the key of any call is a candidate
    have hhead : ∀ d ∈ h, ∃ c' t', L d.key = c' :: t' ∧ (⟨d.key, c'⟩ : MCall) ∈ H := by
      intro d hd
      have hdL : d.call ∈ L d.key := (hmemL d.key d.call).2 hd
      cases hLk : L d.key with
      | nil => rw [hLk] at hdL; simp at hdL
      | cons c' t' =>
        refine ⟨c', t', rfl, (hH _).2 ⟨?_, ?_⟩⟩
        · exact (hmemL d.key c').1 (by rw [hLk]; simp)
        · simp [hLk]
    have hHne : H ≠ [] := by
      cases h with
      | nil => simp at hn
      | cons d0 h0 =>
        obtain ⟨c', t', _, hc'⟩ := hhead d0 (by simp)
        exact List.ne_nil_of_mem hc'
    obtain ⟨x, hxH, hmin⟩ := exists_min (fun d : MCall => d.call.inv) H hHne
    obtain ⟨hxh, hxhead⟩ := (hH x).1 hxH
    obtain ⟨ks, c⟩ := x
    simp only at hxhead hmin
    -- the order of key `ks` is `c :: t`
    obtain ⟨t, hLks⟩ : ∃ t, L ks = c :: t := by
      cases hLk : L ks with
      | nil => rw [hLk] at hxhead; simp at hxhead
      | cons c' t' =>
        rw [hLk] at hxhead
        simp only [List.head?_cons, Option.some.injEq] at hxhead
        subst hxhead
        exact ⟨t', rfl⟩
    obtain ⟨hpks, hpwks, hrunks⟩ := hL ks
    rw [hLks] at hpks hpwks hrunks
    simp only [runL] at hrunks
    cases hs : kstep (init ks) c with
    | none => simp [hs] at hrunks
    | some s1 =>
      rw [hs] at hrunks
      simp only [Option.bind_some] at hrunks
      obtain ⟨init', hms, hi1, hi2⟩ := mstep_of_kstep hs
      have hperm : h.Perm (⟨ks, c⟩ :: h.erase ⟨ks, c⟩) := List.perm_cons_erase hxh
      have hlen : (h.erase ⟨ks, c⟩).length = n := by
        rw [List.length_erase_of_mem hxh, hn]; rfl
      have hwf' : ∀ d ∈ h.erase ⟨ks, c⟩, d.call.inv ≤ d.call.resp :=
        fun d hd => hwf d (List.mem_of_mem_erase hd)
      have hk' : ∀ k, LinL (proj (h.erase ⟨ks, c⟩) k) (init' k) (fin k) := by
        intro k
        have hpk := proj_perm hperm k
        by_cases hkk : k = ks
        · subst hkk
          have h1 : proj (⟨k, c⟩ :: h.erase ⟨k, c⟩) k = c :: proj (h.erase ⟨k, c⟩) k :=
            proj_cons_self ⟨k, c⟩ _
          rw [h1] at hpk
          refine ⟨t, List.Perm.cons_inv (hpks.trans hpk), (List.pairwise_cons.1 hpwks).2, ?_⟩
          rw [hi1]; exact hrunks
        · have h1 : proj (⟨ks, c⟩ :: h.erase ⟨ks, c⟩) k = proj (h.erase ⟨ks, c⟩) k :=
            proj_cons_ne (c := ⟨ks, c⟩) (Ne.symm hkk) _
          rw [h1] at hpk
          obtain ⟨hp1, hp2, hp3⟩ := hL k
          refine ⟨L k, hp1.trans hpk, hp2, ?_⟩
          rw [hi2 k hkk]; exact hp3
      obtain ⟨l', hl'p, hl'pw, m, hl'r, hl'fin⟩ :=
        mlinL_of_proj n (h.erase ⟨ks, c⟩) init' fin hlen hwf' hk'
      refine ⟨⟨ks, c⟩ :: l', (List.Perm.cons _ hl'p).trans hperm.symm, ?_, m, ?_, hl'fin⟩
      · refine List.pairwise_cons.2 ⟨?_, hl'pw⟩
        intro d hd
        have hdh : d ∈ h := List.mem_of_mem_erase (hl'p.subset hd)
        obtain ⟨c', t', hLd, hc'H⟩ := hhead d hdh
        have hle : c.inv ≤ c'.inv := hmin _ hc'H
        have hdL : d.call ∈ L d.key := (hmemL d.key d.call).2 hdh
        rw [hLd] at hdL
        unfold mrt
        simp only
        rcases List.mem_cons.1 hdL with heq | hmem
        · have := hwf d hdh
          rw [heq] at this ⊢
          omega
        · have hpwd := (hL d.key).2.1
          rw [hLd] at hpwd
          have := (List.pairwise_cons.1 hpwd).1 _ hmem
          unfold krt at this
          omega
      · simp only [runL, hms, Option.bind_some]
        exact hl'r

theorem map_linearizable_of_proj {h : MHistory} {init fin : MSt}
    (hwf : ∀ c ∈ h, c.call.inv ≤ c.call.resp)
    (hk : ∀ k, Linearizable (proj h k) (init k) (fin k)) : MapLinearizable h init fin :=
  mapLinearizable_iff_mlinL.2
    (mlinL_of_proj h.length h init fin rfl hwf (fun k => linearizable_iff_LinL.1 (hk k)))

theorem proj_linearizable_of_map {h : MHistory} {init fin : MSt}
    (hm : MapLinearizable h init fin) (k : Nat) : Linearizable (proj h k) (init k) (fin k) :=
  linearizable_iff_LinL.2 (mlinL_proj (mapLinearizable_iff_mlinL.1 hm) k)

theorem untouched_of_map {h : MHistory} {init fin : MSt} (hm : MapLinearizable h init fin)
    (k : Nat) (hk : ∀ c ∈ h, c.key ≠ k) : fin k = init k := by
  have h1 := mlinL_proj (mapLinearizable_iff_mlinL.1 hm) k
  have h2 : proj h k = [] := by
    simp only [proj, List.map_eq_nil_iff, List.filter_eq_nil_iff, beq_iff_eq]
    exact hk
  rw [h2] at h1
  exact linL_nil h1

end Flurry.LinMap
