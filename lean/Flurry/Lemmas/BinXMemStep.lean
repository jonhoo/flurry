import Flurry.Lemmas.BinXTransfer
import Flurry.Lemmas.BinXStep
/-! # Proto/BinX: mutual exclusion and the memory effects of the transitions (C01, C10)

* `Inv.mutex`: at most one thread holds a validated lock on a cell (writers after their re-check,
  the transferring thread from `tBuild` to `tStoreMoved`).
* `MemStep s s' v g g'`: the kinds of memory effects of a transition whose acting thread holds the validated lock `v`
  (its `vcell`); each preserves the heap invariant (with the new ghost state, `MemStep.hinv`) and leaves alone the
  cells on which other threads hold a validated lock (`MemStep.frame'`). The kind `clear` is the store of
  `Proto/BinXC`'s `clear`; no transition of `Proto/BinX` has it. -/
namespace Flurry.Proto.BinX
open Flurry.Lin

theorem Inv.mutex {s : State} {g : Ghost} (I : Inv s g) {t t1 : Nat} {l l1 : Local} {id : CellId} {h h1 : Nat}
    (hl : s.threads[t]? = some l) (hl1 : s.threads[t1]? = some l1)
    (hv : vcell l = some (id, h)) (hv1 : vcell l1 = some (id, h1)) : t = t1 := by
  obtain ⟨c1, k1⟩ := I.lock.validated t l id h hl hv
  obtain ⟨c2, k2⟩ := I.lock.validated t1 l1 id h1 hl1 hv1
  rw [c1] at c2
  cases c2
  have e1 := (I.lock.lockHeld t l h hl k1).2
  have e2 := (I.lock.lockHeld t1 l1 h hl1 k2).2
  rw [e1] at e2
  cases e2
  rfl

theorem PcPh.iff_of_not_isT {s : State} {g : Ghost} {pc : Pc} (hT : ¬ isT pc) :
    PcPh s g pc ↔ (tabOf pc = some .new → g.ph = .post) := by
  cases pc with
  | tCell | tCasMoved | tLock _ | tCheck _ | tBuild _ | tStoreLow _ _ _ | tStoreHigh _ _ | tStoreMoved _ | tUnlock _
  | tCommit => exact absurd trivial hT
  | _ => exact Iff.rfl

theorem Inv.post_of_new {s : State} {g : Ghost} (I : Inv s g) {t : Nat} {l : Local}
    (hl : s.threads[t]? = some l) (hT : ¬ isT l.pc) (htab : tabOf l.pc = some .new) : g.ph = .post :=
  (PcPh.iff_of_not_isT hT).1 (I.ph.pcPh t l hl) htab

theorem cellId_new_ne_c0 (k : Nat) : cellId .new k ≠ .c0 := by
  unfold cellId; dsimp only; split <;> simp

inductive MemStep (s s' : State) (v : Option (CellId × Nat)) (g : Ghost) : Ghost → Prop
  | same : s'.heap = s.heap → s'.cell0 = s.cell0 → s'.lowCell = s.lowCell → s'.highCell = s.highCell →
      s'.cur = s.cur → MemStep s s' v g g
  | lock (i : Nat) (x : Option Nat) : s'.heap = s.heap.modify i (fun m => { m with lock := x }) →
      s'.cell0 = s.cell0 → s'.lowCell = s.lowCell → s'.highCell = s.highCell → s'.cur = s.cur →
      MemStep s s' v g g
  | upd (id : CellId) : Active g id → Effect s s' g id →
      (getCell s id = .empty ∨ ∃ h, v = some (id, h)) → MemStep s s' v g g
  | clear (id : CellId) (h : Nat) : Active g id → Update s s' g id [] → s'.heap = s.heap →
      v = some (id, h) → MemStep s s' v g g
  | build (h : Nat) : g.ph = .pre → v = some (.c0, h) → s.cell0 = .node h →
      s'.heap = (splitBin s.heap (chainFrom s.heap s.heap.length (some h))).1 →
      s'.cell0 = s.cell0 → s'.lowCell = s.lowCell → s'.highCell = s.highCell → s'.cur = s.cur →
      MemStep s s' v g ⟨.mid (splitBin s.heap (chainFrom s.heap s.heap.length (some h))).2.1
        (splitBin s.heap (chainFrom s.heap s.heap.length (some h))).2.2, (s.heap.length, s'.heap.length)⟩
  | storeNew (lo hg : Option Nat) : g.ph = .mid lo hg → s'.heap = s.heap → s'.cell0 = s.cell0 →
      (s'.lowCell = s.lowCell ∨ (s.lowCell = .empty ∧ s'.lowCell = cellOfHead lo)) →
      (s'.highCell = s.highCell ∨ (s.highCell = .empty ∧ s'.highCell = cellOfHead hg)) →
      s'.cur = s.cur → MemStep s s' v g g
  | casMoved : g.ph = .pre → s.cell0 = .empty → s'.heap = s.heap → s'.cell0 = .moved →
      s'.lowCell = s.lowCell → s'.highCell = s.highCell → s'.cur = s.cur → MemStep s s' v g ⟨.post, g.cr⟩
  | commit : g.ph = .post → s'.heap = s.heap → s'.cell0 = s.cell0 → s'.lowCell = s.lowCell →
      s'.highCell = s.highCell → MemStep s s' v g g
  | moved (h : Nat) (lo hg : Option Nat) : g.ph = .mid lo hg → v = some (.c0, h) →
      s.lowCell = cellOfHead lo → s.highCell = cellOfHead hg →
      s'.heap = s.heap → s'.cell0 = .moved →
      s'.lowCell = s.lowCell → s'.highCell = s.highCell → s'.cur = s.cur → MemStep s s' v g ⟨.post, g.cr⟩

theorem getCell_tick (s : State) (id : CellId) : getCell (tick s) id = getCell s id := by cases id <;> rfl

theorem chId_tick (s : State) (id : CellId) : chId (tick s) id = chId s id := by
  unfold chId; rw [getCell_tick]; rfl

theorem Effect.of_tick {s s' : State} {g : Ghost} {id : CellId} (e : Effect (tick s) s' g id) : Effect s s' g id := by
  obtain ⟨C', u, hs, hlk⟩ := e
  refine ⟨C', ?_, ?_, hlk⟩
  · refine ⟨u.nextOK, u.len, ?_, u.cur, u.notMoved, u.chain, ?_, u.keys, u.side⟩
    · intro id' hne; rw [u.cell id' hne, getCell_tick]
    · intro j hj hjc; exact u.other j hj (by rw [chId_tick]; exact hjc)
  · exact ⟨hs.len, hs.key, hs.ordS, hs.movedMono, hs.off, hs.lc, hs.unl⟩

theorem HInv.tick {s : State} {g : Ghost} (H : HInv s g) : HInv (tick s) g := H.congr rfl rfl rfl rfl rfl

theorem MemStep.hinv {s s' : State} {v : Option (CellId × Nat)} {g g' : Ghost} (H : HInv s g) (m : MemStep s s' v g g') :
    HInv s' g' := by
  cases m with
  | same hh h0 hL hH hc => exact H.congr hh h0 hL hH hc
  | lock i x hh h0 hL hH hc => exact (lock_effect H hh h0 hL hH hc).1
  | upd id act he _ =>
    obtain ⟨C', u, -, -⟩ := he
    exact hinv_update H act u
  | clear id h act u hh hv => exact hinv_update H act u
  | build h hp hv hc0 hh h0 hL hH hc => exact (build_effect H hp hc0 hh h0 hL hH hc).1
  | storeNew lo hg hp hh h0 hL hH hc => exact (storeNew_effect H hp hh h0 hL hH hc).1
  | casMoved hp hc0 hh h0 hL hH hc => exact (casMoved_effect H hp hc0 hh h0 hL hH).1
  | commit hp hh h0 hL hH => exact (commit_effect H hp hh h0 hL hH).1
  | moved h lo hg hp hv hlow hhigh hh h0 hL hH hc => exact (moved_effect H hp hlow hhigh hh h0 hL hH).1

/-- what a memory effect is to a list walker: a step of the heap it tolerates (`HeapStep`), the clearing of a cell, or
the forwarding -/
theorem MemStep.heapStep {s s' : State} {v : Option (CellId × Nat)} {g g' : Ghost} (H : HInv s g) (m : MemStep s s' v g g') :
    HeapStep s s' g.cr g'.cr ∨ (∃ id, Active g id ∧ Update s s' g id [] ∧ s'.heap = s.heap ∧ g' = g) ∨
    (∃ lo hg, g.ph = .mid lo hg ∧ s.lowCell = cellOfHead lo ∧ s.highCell = cellOfHead hg ∧ s'.heap = s.heap ∧
      s'.cell0 = .moved ∧ s'.lowCell = s.lowCell ∧ s'.highCell = s.highCell ∧ s'.cur = s.cur ∧ g' = ⟨.post, g.cr⟩) := by
  cases m with
  | same hh h0 hL hH hc => exact .inl (.of_same hh h0 hL hH hc)
  | lock i x hh h0 hL hH hc => exact .inl (lock_effect H hh h0 hL hH hc).2.1
  | upd id act he _ => exact .inl he.choose_spec.2.1
  | clear id h act u hh hv => exact .inr (.inl ⟨id, act, u, hh, rfl⟩)
  | build h hp hv hc0 hh h0 hL hH hc => exact .inl (build_effect H hp hc0 hh h0 hL hH hc).2.1
  | storeNew lo hg hp hh h0 hL hH hc => exact .inl (storeNew_effect H hp hh h0 hL hH hc).2.1
  | casMoved hp hc0 hh h0 hL hH hc => exact .inl (casMoved_effect H hp hc0 hh h0 hL hH).2.1
  | commit hp hh h0 hL hH => exact .inl (commit_effect H hp hh h0 hL hH).2.1
  | moved h lo hg hp hv hlow hhigh hh h0 hL hH hc => exact .inr (.inr ⟨lo, hg, hp, hlow, hhigh, hh, h0, hL, hH, hc, rfl⟩)

theorem MemStep.dead {s s' : State} {v : Option (CellId × Nat)} {g g' : Ghost} (H : HInv s g) (m : MemStep s s' v g g') :
    ∀ j, j < s.heap.length → ¬ Live s g.cr j → ¬ Live s' g'.cr j := by
  intro j hj hnl
  rcases m.heapStep H with hs | ⟨id, act, u, -, rfl⟩ | ⟨lo, hg, -, -, -, hh, h0, hL, hH, -, rfl⟩
  · exact (hs.off j hj hnl).2.2
  · exact fun hl => hnl (u.live_of_cleared H act hl).1
  · exact fun hl => hnl ((live_of_moved hh h0 hL hH hl).elim (fun h => .inr (.inl h)) (fun h => .inr (.inr (.inl h))))

/-- the cells of the new table never hold a forwarding marker -/
theorem MemStep.newCells {s s' : State} {v : Option (CellId × Nat)} {g g' : Ghost} (m : MemStep s s' v g g')
    (h : s.lowCell ≠ .moved ∧ s.highCell ≠ .moved) : s'.lowCell ≠ .moved ∧ s'.highCell ≠ .moved := by
  have hupd : ∀ {id : CellId} {C' : List Nat}, Update s s' g id C' → s'.lowCell ≠ .moved ∧ s'.highCell ≠ .moved := by
    intro id C' u
    have key : ∀ id', getCell s id' ≠ .moved → getCell s' id' ≠ .moved := by
      intro id' h1
      by_cases hid : id' = id
      · subst hid; exact u.notMoved
      · rw [u.cell id' hid]; exact h1
    exact ⟨key .low h.1, key .high h.2⟩
  cases m with
  | same hh h0 hL hH hc => rw [hL, hH]; exact h
  | lock i x hh h0 hL hH hc => rw [hL, hH]; exact h
  | upd id act he _ =>
    obtain ⟨C', u, -, -⟩ := he
    exact hupd u
  | clear id h' act u hh hv => exact hupd u
  | build h' hp hv hc0 hh h0 hL hH hc => rw [hL, hH]; exact h
  | storeNew lo hg hp hh h0 hL hH hc =>
    refine ⟨?_, ?_⟩
    · rcases hL with hL | ⟨_, hL⟩
      · rw [hL]; exact h.1
      · rw [hL]; exact cellOfHead_ne_moved _
    · rcases hH with hH | ⟨_, hH⟩
      · rw [hH]; exact h.2
      · rw [hH]; exact cellOfHead_ne_moved _
  | casMoved hp hc0 hh h0 hL hH hc => rw [hL, hH]; exact h
  | commit hp hh h0 hL hH => rw [hL, hH]; exact h
  | moved h' lo hg hp hv hlow hhigh hh h0 hL hH hc => rw [hL, hH]; exact h

theorem MemStep.len_le {s s' : State} {v : Option (CellId × Nat)} {g g' : Ghost} (H : HInv s g) (m : MemStep s s' v g g') :
    s.heap.length ≤ s'.heap.length := by
  rcases m.heapStep H with hs | ⟨_, _, _, hh, _⟩ | ⟨_, _, _, _, _, hh, _⟩
  · exact hs.len
  · rw [hh]; exact Nat.le_refl _
  · rw [hh]; exact Nat.le_refl _

theorem MemStep.locks {s s' : State} {v : Option (CellId × Nat)} {g g' : Ghost} (H : HInv s g) (m : MemStep s s' v g g') :
    (∀ j, j < s.heap.length → (nodeAt s'.heap j).lock = (nodeAt s.heap j).lock) ∨
    ∃ i x, s'.heap = s.heap.modify i (fun m => { m with lock := x }) := by
  cases m with
  | same hh h0 hL hH hc => left; intro j _; rw [hh]
  | lock i x hh h0 hL hH hc => exact Or.inr ⟨i, x, hh⟩
  | upd id act he _ =>
    obtain ⟨C', -, -, hlk⟩ := he
    exact Or.inl hlk
  | clear id h act u hh hv => left; intro j _; rw [hh]
  | build h hp hv hc0 hh h0 hL hH hc =>
    left; intro j hj; rw [(build_effect H hp hc0 hh h0 hL hH hc).2.2.2.1 j hj]
  | storeNew lo hg hp hh h0 hL hH hc => left; intro j _; rw [hh]
  | casMoved hp hc0 hh h0 hL hH hc => left; intro j _; rw [hh]
  | commit hp hh h0 hL hH => left; intro j _; rw [hh]
  | moved h lo hg hp hv hlow hhigh hh h0 hL hH hc => left; intro j _; rw [hh]

/-- **frame** (thread-free form): a memory effect whose author is not validated on `id1` does not touch
the cell `id1` (which holds a node), its chain and its chain nodes -/
theorem MemStep.frame' {s s' : State} {g g' : Ghost} {v : Option (CellId × Nat)} (H : HInv s g)
    (m : MemStep s s' v g g') {id1 : CellId} {h1 : Nat} (hcell1 : getCell s id1 = .node h1)
    (hpost1 : id1 ≠ .c0 → g.ph = .post) (hexcl : ∀ h, v ≠ some (id1, h)) :
    getCell s' id1 = getCell s id1 ∧ chId s' id1 = chId s id1 ∧
      ∀ j ∈ chId s id1, (nodeAt s'.heap j).key = (nodeAt s.heap j).key ∧
        (nodeAt s'.heap j).next = (nodeAt s.heap j).next := by
  have hsame : ∀ {s'' : State}, s''.heap = s.heap → getCell s'' id1 = getCell s id1 →
      getCell s'' id1 = getCell s id1 ∧ chId s'' id1 = chId s id1 ∧
      ∀ j ∈ chId s id1, (nodeAt s''.heap j).key = (nodeAt s.heap j).key ∧
        (nodeAt s''.heap j).next = (nodeAt s.heap j).next := by
    intro s'' hh hc
    refine ⟨hc, by unfold chId; rw [hh, hc], fun j _ => by rw [hh]; exact ⟨rfl, rfl⟩⟩
  cases m with
  | same hh h0 hL hH hc => exact hsame hh (by cases id1 <;> assumption)
  | lock i x hh h0 hL hH hc =>
    obtain ⟨-, -, hch, -, hn⟩ := lock_effect H hh h0 hL hH hc
    exact ⟨by cases id1 <;> assumption, hch id1, fun j _ => hn j⟩
  | upd id act he hex =>
    obtain ⟨C', u, -, -⟩ := he
    have hid : id1 ≠ id := by
      rintro rfl
      rcases hex with he | ⟨h, hv⟩
      · rw [he] at hcell1; cases hcell1
      · exact hexcl h hv
    refine ⟨u.cell id1 hid, (u.chains H act).2 id1 hid, ?_⟩
    intro j hj
    rw [u.other j (H.chain_lt hj) (fun hm => H.disjoint act hid hm hj)]
    exact ⟨rfl, rfl⟩
  | clear id h act u hh hv =>
    have hid : id1 ≠ id := by
      rintro rfl
      exact hexcl h hv
    refine ⟨u.cell id1 hid, (u.chains H act).2 id1 hid, ?_⟩
    intro j _
    rw [hh]
    exact ⟨rfl, rfl⟩
  | build h hp hv hc0 hh h0 hL hH hc =>
    obtain ⟨H', -, -, hnode, hlen⟩ := build_effect H hp hc0 hh h0 hL hH hc
    have hcell : getCell s' id1 = getCell s id1 := by cases id1 <;> assumption
    refine ⟨hcell, ?_, fun j hj => by rw [hnode j (H.chain_lt hj)]; exact ⟨rfl, rfl⟩⟩
    refine chainH_eq H'.nextOK ?_
    rw [hcell]
    refine (H.isChain id1).congr ?_
    intro j hj n hn
    have hjl := H.chain_lt hj
    exact ⟨nodeAt s'.heap j, getElem?_nodeAt (by omega), by rw [hnode j hjl, nodeAt_of_some hn]⟩
  | storeNew lo hg hp hh h0 hL hH hc =>
    have hid : id1 = .c0 := by
      apply Classical.byContradiction
      intro hid
      have := hpost1 hid
      rw [hp] at this; cases this
    subst hid
    exact hsame hh h0
  | casMoved hp hc0 hh h0 hL hH hc =>
    have hid : id1 ≠ .c0 := by
      rintro rfl
      have : s.cell0 = .node h1 := hcell1
      rw [hc0] at this; cases this
    have := hpost1 hid
    rw [hp] at this; cases this
  | commit hp hh h0 hL hH => exact hsame hh (by cases id1 <;> assumption)
  | moved h lo hg hp hv hlow hhigh hh h0 hL hH hc =>
    by_cases hid : id1 = .c0
    · subst hid
      exact absurd hv (hexcl h)
    · have := hpost1 hid
      rw [hp] at this; cases this

end Flurry.Proto.BinX
