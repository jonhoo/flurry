import Flurry.Lemmas.BinGNPBase
import Flurry.Lemmas.BinKChain
import Flurry.Lemmas.ListSplit
/-! # The split of a list bin by an arbitrary bit (`splitBinB bit`) establishes `SideSpec bit` for both sides

`SideSpec bit heap hp O b X`: the new list `X` of side `b` (chain in the new heap `hp`, which extends the old heap
`heap`) relative to the old chain `O`; the side of a node is `bit` of its key (`Proto/BinG`: the fixed `hiBit`; in
`Proto/BinGN` the split of generation `g` uses `bit = bitAt g`). Common interface of the list split (`splitBinB`)
and of the tree split (`splitSide`: fresh copies in list order, or the whole old list re-used when the other side
is empty).

`splitBinB bit` is `ListSplit.splitG` at the node type of `Proto/BinK` (`sig`, `splitBinB_eqG`), `SideSpec` is
`ListSplit.SideSpec sig` written out (`SideSpec.ofG`), and `splitBinB_spec` is `ListSplit.splitG_spec`: the new heap
extends the old one by fresh unlocked list nodes (`freshDown_attr`), `NextOK` is preserved (every fresh node points to a
node of smaller index: `nextOK_freshDown`), and the two heads are the heads of chains that satisfy `SideSpec bit`.
`splitStep`, `runBitOf`, `splitBinB_eq` give the split as a fold; `Lemmas/BinGHeapSize.lean` counts the copies with them.

`bitOf`, `CopiesOK`, `HeapOK`, `SplitInv` state the invariant of the copy loop at this node type (`NextOK` and the
attributes of the fresh nodes are clauses of `HeapOK`). No proof goes through them: the loop is treated once, in
`Lemmas/ListSplit.lean`, with an invariant that is private to `ListSplit.splitG_spec`. -/
namespace Flurry.Proto.BinGNP
open Flurry.Proto.BinK (nodeAt NextOK IsChain)

variable {bit : Nat → Bool}

/-- `ListSplit.SideSpec sig`, field by field (the fields are explained there), in the words of this node type: the form
in which the plans and stores of a transfer use it -/
structure SideSpec (bit : Nat → Bool) (heap hp : List NodeS) (O : List Nat) (b : Bool) (X : List Nat) : Prop where
  side : ∀ j ∈ X, bit (nodeAt hp j).key = b
  keys : ∀ i j, i ∈ X → j ∈ X → (nodeAt hp i).key = (nodeAt hp j).key → i = j
  mem : ∀ j ∈ X, j ∈ O ∨ heap.length ≤ j
  src : ∀ j ∈ X, heap.length ≤ j → ∃ i ∈ O, (nodeAt heap i).key = (nodeAt hp j).key ∧
    (nodeAt heap i).val = (nodeAt hp j).val ∧ ∀ r ∈ O, r ∈ X → List.Sublist [i, r] O
  cover : ∀ i ∈ O, bit (nodeAt heap i).key = b → ∃ j ∈ X, (nodeAt hp j).key = (nodeAt heap i).key ∧
    (nodeAt hp j).val = (nodeAt heap i).val ∧ (j = i ∨ heap.length ≤ j)
  suffix : ∀ r ∈ O, r ∈ X → ∀ i ∈ O, List.Sublist [r, i] O → i ∈ X
  order : ∀ i c, i ∈ O → c ∈ O → List.Sublist [i, c] X → List.Sublist [i, c] O

/-- how `Lemmas/ListSplit.lean` reads a node; a fresh copy is an unlocked list node -/
@[reducible] def sig : ListSplit.NodeSig NodeS :=
  ⟨fun n => n.key, fun n => n.val, fun n => n.next, fun k v nx => ⟨k, v, nx, none, false, none⟩, dflt,
    fun _ _ _ => rfl, fun _ _ _ => rfl, fun _ _ _ => rfl⟩

theorem splitBinB_eqG (bit : Nat → Bool) (heap : List NodeS) (c : List Nat) :
    splitBinB bit heap c = ListSplit.splitG sig bit heap c := rfl

def bitOf (bit : Nat → Bool) (heap : List NodeS) (i : Nat) : Bool := bit (nodeAt heap i).key

theorem lastRunStartB_le (bit : Nat → Bool) (heap : List NodeS) (c : List Nat) : lastRunStartB bit heap c ≤ c.length :=
  ListSplit.lastRunStartG_le sig bit heap c

theorem lastRunStartB_bits (bit : Nat → Bool) (heap : List NodeS) (c : List Nat) :
    ∃ b, ∀ i ∈ c.drop (lastRunStartB bit heap c), bitOf bit heap i = b :=
  ListSplit.lastRunStartG_bits sig bit heap c

/-- one iteration of the copy loop of `splitBinB bit` -/
def splitStep (bit : Nat → Bool) (acc : List NodeS × Option Nat × Option Nat) (i : Nat) : List NodeS × Option Nat × Option Nat :=
  if bit (acc.1.getD i dflt).key then
    (acc.1 ++ [⟨(acc.1.getD i dflt).key, (acc.1.getD i dflt).val, acc.2.2, none, false, none⟩],
      acc.2.1, some acc.1.length)
  else
    (acc.1 ++ [⟨(acc.1.getD i dflt).key, (acc.1.getD i dflt).val, acc.2.1, none, false, none⟩],
      some acc.1.length, acc.2.2)

def runBitOf (bit : Nat → Bool) (heap : List NodeS) (run : List Nat) : Bool :=
  match run.head? with
  | some i => bit (heap.getD i dflt).key
  | none => false

theorem splitBinB_eq (bit : Nat → Bool) (heap : List NodeS) (c : List Nat) :
    splitBinB bit heap c = (c.take (lastRunStartB bit heap c)).foldl (splitStep bit)
      (heap,
       (if runBitOf bit heap (c.drop (lastRunStartB bit heap c)) then none else (c.drop (lastRunStartB bit heap c)).head?),
       (if runBitOf bit heap (c.drop (lastRunStartB bit heap c)) then (c.drop (lastRunStartB bit heap c)).head? else none)) := rfl

/-- the copies on the new list of side `b`, after the nodes `P` have been processed -/
structure CopiesOK (bit : Nat → Bool) (heap hp : List NodeS) (P : List Nat) (b : Bool) (C : List Nat) : Prop where
  copy : ∀ x ∈ C, heap.length ≤ x ∧ x < hp.length
  side : ∀ x ∈ C, bitOf bit hp x = b
  cover : ∀ i ∈ P, bitOf bit heap i = b → ∃ x ∈ C, (nodeAt hp x).key = (nodeAt heap i).key ∧
    (nodeAt hp x).val = (nodeAt heap i).val

/-- the grown heap after the nodes `P` have been copied -/
structure HeapOK (heap : List NodeS) (P : List Nat) (hp : List NodeS) : Prop where
  ext : ∃ cs, hp = heap ++ cs ∧ ∀ n ∈ cs, n.lock = none ∧ n.inTree = false ∧ n.owner = none
  src : ∀ x, heap.length ≤ x → x < hp.length → ∃ i ∈ P, (nodeAt hp x).key = (nodeAt heap i).key ∧
    (nodeAt hp x).val = (nodeAt heap i).val
  inj : ∀ x y, heap.length ≤ x → x < hp.length → heap.length ≤ y → y < hp.length →
    (nodeAt hp x).key = (nodeAt hp y).key → x = y
  nextOK : NextOK hp

/-- the invariant of the copy loop: `P` are the nodes processed so far, `lr` / `hr` the re-used parts -/
structure SplitInv (bit : Nat → Bool) (heap : List NodeS) (lr hr : List Nat) (P : List Nat)
    (acc : List NodeS × Option Nat × Option Nat) : Prop where
  heapOK : HeapOK heap P acc.1
  chains : ∃ LC HC, IsChain acc.1 acc.2.1 (LC ++ lr) ∧ IsChain acc.1 acc.2.2 (HC ++ hr) ∧
    CopiesOK bit heap acc.1 P false LC ∧ CopiesOK bit heap acc.1 P true HC

theorem SideSpec.ofG {heap hp : List NodeS} {O X : List Nat} {b : Bool}
    (h : ListSplit.SideSpec sig bit heap hp O b X) : SideSpec bit heap hp O b X :=
  ⟨h.side, h.keys, h.mem, h.src, h.cover, h.suffix, h.order⟩

/-- a fresh copy is an unlocked list node -/
theorem freshDown_attr {n : Nat} {ext : List NodeS} (h : ListSplit.FreshDown sig n ext) :
    ∀ m ∈ ext, m.lock = none ∧ m.inTree = false ∧ m.owner = none := by
  intro m hm
  obtain ⟨j, hj, rfl⟩ := List.getElem_of_mem hm
  obtain ⟨k, v, nx, e, -⟩ := h j hj
  rw [e]; exact ⟨rfl, rfl, rfl⟩

/-- nodes that point to nodes of smaller index keep `NextOK` -/
theorem nextOK_freshDown {heap ext : List NodeS} (hok : NextOK heap) (h : ListSplit.FreshDown sig heap.length ext) :
    NextOK (heap ++ ext) := by
  intro i n j hn hj
  by_cases hi : i < heap.length
  · rw [List.getElem?_append_left hi] at hn
    obtain ⟨h1, h2, h3⟩ := hok i n j hn hj
    refine ⟨by rw [List.length_append]; omega, h2, fun hij m j' hm => ?_⟩
    rw [List.getElem?_append_left h1] at hm
    exact h3 hij m j' hm
  · have hi' : heap.length ≤ i := Nat.le_of_not_lt hi
    rw [List.getElem?_append_right hi'] at hn
    obtain ⟨hlt, rfl⟩ := List.getElem?_eq_some_iff.1 hn
    obtain ⟨k, v, nx, e, hdown⟩ := h (i - heap.length) hlt
    rw [e] at hj
    have := hdown j hj
    refine ⟨by rw [List.length_append]; omega, by omega, fun hij => by omega⟩

/-- **the split**: the new heap extends the old one by fresh unlocked list nodes, `NextOK` holds for
it, and the two heads are the heads of chains that satisfy `SideSpec` for their sides -/
theorem splitBinB_spec (bit : Nat → Bool) {heap : List NodeS} {h : Nat} {O : List Nat} (hok : NextOK heap)
    (hO : IsChain heap (some h) O)
    (hkeys : ∀ i j, i ∈ O → j ∈ O → (nodeAt heap i).key = (nodeAt heap j).key → i = j) :
    ∃ ext L H, (splitBinB bit heap O).1 = heap ++ ext ∧
      (∀ n ∈ ext, n.lock = none ∧ n.inTree = false ∧ n.owner = none) ∧
      NextOK (heap ++ ext) ∧
      IsChain (heap ++ ext) (splitBinB bit heap O).2.1 L ∧ IsChain (heap ++ ext) (splitBinB bit heap O).2.2 H ∧
      SideSpec bit heap (heap ++ ext) O false L ∧ SideSpec bit heap (heap ++ ext) O true H := by
  obtain ⟨ext, L, H, h1, hdown, hL, hH, sL, sH⟩ :=
    ListSplit.splitG_spec sig bit (BinK.isSeg_iff.1 hO) (hO.nodup hok) hkeys
  exact ⟨ext, L, H, h1, freshDown_attr hdown, nextOK_freshDown hok hdown, BinK.isSeg_iff.2 hL, BinK.isSeg_iff.2 hH,
    .ofG sL, .ofG sH⟩

end Flurry.Proto.BinGNP
