import Flurry.Lemmas.BinXTransfer
/-! # Proto/BinX: the copied nodes of the old list are not re-used (C03)

`lastRunStart` is *maximal*: a suffix of the old chain whose nodes all have the split bit of its last
node starts at or after `lastRunStart`. Hence (`copied_not_reused`) the nodes the transfer copies — the
nodes before `lastRunStart`, which it retires after the forwarding — are on neither new list: they are
dead from the forwarding on (`copied_dead`, in the state before the store of the marker: what `BinXC.copied_dead`
uses). The maximality is stated once, for any split bit (`BinN.lastRunStartB_le_of_suffix`,
which `Lemmas/BinNRRetired.lean` uses as it is). -/
namespace Flurry.Proto.BinN
open Flurry.Proto.BinX (NodeS dflt nodeAt)

/-- maximality of the last run: a non-empty suffix whose nodes all have the same split bit lies inside it -/
theorem lastRunStartB_le_of_suffix (bit : Nat → Bool) (heap : List NodeS) (pre suf : List Nat) (b : Bool)
    (hne : suf ≠ []) (hb : ∀ i ∈ suf, bit (heap.getD i dflt).key = b) :
    lastRunStartB bit heap (pre ++ suf) ≤ pre.length := by
  unfold lastRunStartB
  dsimp only
  rw [List.getLast?_eq_head?_reverse, List.map_append, List.reverse_append]
  have hall : ∀ a ∈ (suf.map fun i => bit (heap.getD i dflt).key).reverse, a = b := by
    intro a ha
    rw [List.mem_reverse, List.mem_map] at ha
    obtain ⟨i, hi, rfl⟩ := ha
    exact hb i hi
  have hlen : (suf.map fun i => bit (heap.getD i dflt).key).reverse.length = suf.length := by
    rw [List.length_reverse, List.length_map]
  generalize (suf.map fun i => bit (heap.getD i dflt).key).reverse = r at hall hlen
  cases r with
  | nil =>
    exfalso
    apply hne
    exact List.eq_nil_of_length_eq_zero hlen.symm
  | cons a r' =>
    have ha : a = b := hall a List.mem_cons_self
    subst ha
    simp only [List.cons_append, List.head?_cons]
    have hp : ∀ x ∈ a :: r', (fun y => y == a) x = true := by
      intro x hx
      rw [hall x hx]
      simp
    have e := List.takeWhile_append_of_pos (p := fun y => y == a) (l₂ := (pre.map fun i => bit (heap.getD i dflt).key).reverse) hp
    rw [List.cons_append] at e
    rw [e, List.length_append, List.length_append, hlen]
    omega

/-- a node of a duplicate-free chain `O` sorted along `lt`, all of whose successors (and itself) have the split bit `b`,
is not in the copied prefix -/
theorem not_mem_take_lastRun {bit : Nat → Bool} {heap : List NodeS} {lt : Nat → Nat → Prop} {O : List Nat} {x : Nat}
    {b : Bool} (hnd : O.Nodup) (hs : O.Pairwise lt) (hx : x ∈ O) (hbx : bit (nodeAt heap x).key = b)
    (hb : ∀ i ∈ O, lt x i → bit (nodeAt heap i).key = b) : x ∉ O.take (lastRunStartB bit heap O) := by
  obtain ⟨pre, post, rfl⟩ := List.append_of_mem hx
  have hpost : ∀ i ∈ post, lt x i := by
    have := (List.pairwise_append.1 hs).2.1
    exact (List.pairwise_cons.1 this).1
  have hle := lastRunStartB_le_of_suffix bit heap pre (x :: post) b (by simp) (by
    intro i hi
    rcases List.mem_cons.1 hi with rfl | hi
    · exact hbx
    · exact hb i (List.mem_append_right _ (List.mem_cons_of_mem _ hi)) (hpost i hi))
  intro hmem
  rw [List.take_append_of_le_length hle] at hmem
  have hpre : x ∈ pre := List.mem_of_mem_take hmem
  exact (List.nodup_append.1 hnd).2.2 x hpre x List.mem_cons_self rfl

end Flurry.Proto.BinN

namespace Flurry.Proto.BinX
open Flurry.Lin

theorem lastRunStart_le_of_suffix {heap : List NodeS} {c : List Nat} {j : Nat} {b : Bool}
    (hj : j < c.length) (hall : ∀ i ∈ c.drop j, bitOf heap i = b) : lastRunStart heap c ≤ j := by
  have h := BinN.lastRunStartB_le_of_suffix hiBit heap (c.take j) (c.drop j) b
    (fun e => by rw [List.drop_eq_nil_iff] at e; omega) hall
  rw [List.take_append_drop, List.length_take, Nat.min_eq_left (Nat.le_of_lt hj)] at h
  exact h

theorem copied_not_reused {heap : List NodeS} {cr : CR} {O X : List Nat} {b : Bool}
    (hsorted : O.Pairwise (· < ·)) (sX : SideOK heap cr O b X) {r : Nat}
    (hr : r ∈ O.take (lastRunStart heap O)) : r ∉ X := by
  intro hrX
  have hrO : r ∈ O := List.mem_of_mem_take hr
  -- every node of `O` from `r` on is re-used in `X`, hence has bit `b`: `r` lies in the last run
  exact BinN.not_mem_take_lastRun (bit := hiBit) (hsorted.imp fun h => Nat.ne_of_lt h) hsorted hrO (sX.side r hrX)
    (fun i hi hlt => sX.side i (sX.suffix r hrO hrX i hi hlt)) hr

/-- in the state before the store of `moved`: the copied nodes are dead afterwards -/
theorem copied_dead {s : State} {g : Ghost} (H : HInv s g) {lo hg : Option Nat} (hp : g.ph = .mid lo hg)
    (hlow : s.lowCell = cellOfHead lo) (hhigh : s.highCell = cellOfHead hg) {r : Nat}
    (hr : r ∈ (chO s).take (lastRunStart s.heap (chO s))) : r ∉ chL s ∧ r ∉ chH s := by
  obtain ⟨hlt, sL, sH⟩ := mid_chains H hp hlow hhigh
  have hsorted : (chO s).Pairwise (· < ·) := by
    have h1 := (H.isChain .c0).sorted H.nextOK
    have h2 : chId s .c0 = chO s := rfl
    rw [h2] at h1
    refine h1.imp_of_mem ?_
    intro a b ha hb hab
    rw [ord_not_copy (H.oNotCopy a ha), ord_not_copy (H.oNotCopy b hb)] at hab
    exact Int.ofNat_lt.1 hab
  exact ⟨copied_not_reused hsorted sL hr, copied_not_reused hsorted sH hr⟩

end Flurry.Proto.BinX
