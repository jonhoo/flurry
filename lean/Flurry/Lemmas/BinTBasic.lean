import Flurry.Lemmas.BinTStep
import Flurry.Lemmas.ListHeap
/-! # Proto/BinT: the heap invariant, the ghost abstract state, and the five stores (C01, tree bins)

* `HInv`: `next` pointers go downwards, `first` is valid, keys are pairwise distinct among the
  nodes that are on the list or in the tree.
* `gAbs s k`: the **ghost abstract state** of key `k` — the value of the node with key `k` that is
  *both on the list and in the tree*. A freshly prepended node counts only once it is linked into
  the tree (`wTreeLink`), a node under removal stops counting when it is unlinked from the list
  (`wUnlinkLocked`, under the write lock). `gAbs = absOf` whenever the tree is contained in the list
  (`gAbs_eq_absOf`): in every state except while a thread is at `wRestructure (some i)`, between the list unlink of
  `i` and its removal from the tree.
* `HeapStep s s'`: what a transition does to the heap as far as list-walking readers are concerned.
* the five stores (`val`, `prepend`, `treeLink`, `unlink`, `untree`): each preserves `HInv`, is a
  `HeapStep`, and we compute the new chain and the new ghost state. The arguments about the heap are those
  of `Lemmas/ListHeap`, read through `sig` (`HInv.gen`, `HInv.of_gen`, `HeapStep.of_gen`). -/
namespace Flurry.Proto.BinT
open Flurry.Lin Flurry.Shared

/-- on the list or in the tree -/
def Alive (s : State) (i : Nat) : Prop :=
  i ∈ chain s ∨ (i < s.heap.length ∧ (nodeAt s.heap i).inTree = true)

structure HInv (s : State) : Prop where
  nextOK : NextOK s.heap
  firstOK : ∀ h, s.first = some h → h < s.heap.length
  keysDistinct : ∀ i j, Alive s i → Alive s j → (nodeAt s.heap i).key = (nodeAt s.heap j).key → i = j

theorem chain_isChain' {s : State} (hok : NextOK s.heap) (hh : ∀ h, s.first = some h → h < s.heap.length) :
    Seg NodeS.next s.heap s.first (chain s) none := by
  refine chainFrom_seg hok _ _ ?_
  intro i hi
  have := hh i hi
  omega

theorem chain_isChain {s : State} (H : HInv s) : Seg NodeS.next s.heap s.first (chain s) none :=
  chain_isChain' H.nextOK H.firstOK

theorem chain_eq' {s : State} (hok : NextOK s.heap) (hh : ∀ h, s.first = some h → h < s.heap.length)
    {l : List Nat} (h : Seg NodeS.next s.heap s.first l none) : chain s = l :=
  (chain_isChain' hok hh).unique h

theorem chain_lt {s : State} (H : HInv s) {i : Nat} (hi : i ∈ chain s) : i < s.heap.length :=
  (chain_isChain H).lt_length i hi

theorem chain_sorted {s : State} (H : HInv s) : (chain s).Pairwise (· > ·) :=
  (chain_isChain H).sorted H.nextOK

theorem chain_nodup {s : State} (H : HInv s) : (chain s).Nodup :=
  (chain_isChain H).nodup H.nextOK

theorem chain_first_none {s : State} (H : HInv s) (h : s.first = none) : chain s = [] := by
  have := chain_isChain H
  rw [h] at this
  cases hc : chain s with
  | nil => rfl
  | cons a l => rw [hc] at this; exact absurd (Seg.cons_iff.1 this).1 (by simp)

theorem chain_first_some {s : State} (H : HInv s) {h : Nat} (hh : s.first = some h) :
    ∃ l, chain s = h :: l := by
  have := chain_isChain H
  rw [hh] at this
  cases hc : chain s with
  | nil => rw [hc] at this; cases this
  | cons a l =>
    rw [hc] at this
    obtain ⟨ha, -⟩ := Seg.cons_iff.1 this
    cases ha
    exact ⟨l, rfl⟩

theorem chain_congr {s s' : State} (hh : s'.heap = s.heap) (hd : s'.first = s.first) : chain s' = chain s := by
  unfold chain; rw [hh, hd]

theorem Alive.congr {s s' : State} (hh : s'.heap = s.heap) (hd : s'.first = s.first) (i : Nat) :
    Alive s' i ↔ Alive s i := by
  unfold Alive; rw [chain_congr hh hd, hh]

theorem HInv.congr {s s' : State} (H : HInv s) (hh : s'.heap = s.heap) (hd : s'.first = s.first) : HInv s' := by
  refine ⟨by rw [hh]; exact H.nextOK, by rw [hh, hd]; exact H.firstOK, ?_⟩
  intro i j hi hj
  rw [hh]
  exact H.keysDistinct i j ((Alive.congr hh hd i).1 hi) ((Alive.congr hh hd j).1 hj)

theorem treeFind_some {s : State} {k i : Nat} (h : treeFind s k = some i) :
    i < s.heap.length ∧ (nodeAt s.heap i).inTree = true ∧ (nodeAt s.heap i).key = k := by
  unfold treeFind at h
  have h1 := List.mem_of_find?_eq_some h
  have h2 := List.find?_some h
  simp only [Bool.and_eq_true, beq_iff_eq] at h2
  exact ⟨List.mem_range.1 h1, h2.1, h2.2⟩

theorem treeFind_none {s : State} {k : Nat} (h : treeFind s k = none) :
    ∀ j, j < s.heap.length → (nodeAt s.heap j).inTree = true → (nodeAt s.heap j).key ≠ k := by
  unfold treeFind at h
  rw [List.find?_eq_none] at h
  intro j hj hin hk
  have := h j (List.mem_range.2 hj)
  simp only [Bool.and_eq_true, beq_iff_eq, not_and] at this
  exact this hin hk

theorem treeFind_of {s : State} (H : HInv s) {k i : Nat} (hi : i < s.heap.length)
    (hin : (nodeAt s.heap i).inTree = true) (hk : (nodeAt s.heap i).key = k) : treeFind s k = some i := by
  cases hf : treeFind s k with
  | none => exact absurd hk (treeFind_none hf i hi hin)
  | some j =>
    obtain ⟨hj, hjin, hjk⟩ := treeFind_some hf
    rw [H.keysDistinct j i (Or.inr ⟨hj, hjin⟩) (Or.inr ⟨hi, hin⟩) (by rw [hjk, hk])]

def gFind (s : State) (k : Nat) : Option Nat :=
  (chain s).find? (fun i => (nodeAt s.heap i).inTree && (nodeAt s.heap i).key == k)

/-- the ghost abstract state: the node with key `k` that is on the list *and* in the tree -/
def gAbs (s : State) (k : Nat) : KSt := (gFind s k).map (fun i => (nodeAt s.heap i).val)

/-- how `Lemmas/ListHeap` reads a node: a list node counts once it is in the tree; `gAbs s k` is
`sig.abs s.heap (chain s) k` by `rfl` -/
def sig : LHeap.Sig NodeS := ⟨NodeS.key, NodeS.val, NodeS.next, NodeS.inTree, NodeS.inTree, dflt⟩

theorem HInv.gen {s : State} (H : HInv s) : LHeap.HInvG sig s.heap s.first (chain s) :=
  ⟨H.nextOK, H.firstOK, chain_isChain H, H.keysDistinct⟩

theorem HInv.of_gen {s : State} {C : List Nat} (V : LHeap.HInvG sig s.heap s.first C) : HInv s ∧ chain s = C := by
  obtain rfl := chain_eq' V.nextOK V.firstOK V.seg
  exact ⟨⟨V.nextOK, V.firstOK, V.keysDistinct⟩, rfl⟩

theorem gAbs_eq_none_iff {s : State} {k : Nat} :
    gAbs s k = none ↔ ∀ i ∈ chain s, (nodeAt s.heap i).inTree = true → (nodeAt s.heap i).key ≠ k :=
  LHeap.abs_eq_none_iff (G := sig)

theorem gAbs_eq_some_iff {s : State} (H : HInv s) {k : Nat} {v : Nat × Nat} :
    gAbs s k = some v ↔ ∃ i ∈ chain s, (nodeAt s.heap i).inTree = true ∧ (nodeAt s.heap i).key = k ∧
      (nodeAt s.heap i).val = v :=
  LHeap.abs_eq_some_iff H.gen.dist

theorem gAbs_congr {s s' : State} (hh : s'.heap = s.heap) (hd : s'.first = s.first) (k : Nat) :
    gAbs s' k = gAbs s k := by
  unfold gAbs gFind; rw [chain_congr hh hd, hh]

theorem gAbs_eq_absOf {s : State} (H : HInv s)
    (hsub : ∀ j, j < s.heap.length → (nodeAt s.heap j).inTree = true → j ∈ chain s) (k : Nat) :
    gAbs s k = absOf s k := by
  unfold absOf
  cases hf : treeFind s k with
  | none =>
    simp only
    rw [gAbs_eq_none_iff]
    intro i hi hin
    exact treeFind_none hf i (chain_lt H hi) hin
  | some i =>
    simp only
    obtain ⟨hi, hin, hk⟩ := treeFind_some hf
    rw [gAbs_eq_some_iff H]
    exact ⟨i, hsub i hi hin, hin, hk, rfl⟩

/-- `LHeap.HStep sig` between the heaps and chains of two states, field by field (`HeapStep.of_gen`); the fields are
explained there -/
structure HeapStep (s s' : State) : Prop where
  len : s.heap.length ≤ s'.heap.length
  key : ∀ j, j < s.heap.length → (nodeAt s'.heap j).key = (nodeAt s.heap j).key
  off : ∀ j, j < s.heap.length → j ∉ chain s →
    (nodeAt s'.heap j).val = (nodeAt s.heap j).val ∧ (nodeAt s'.heap j).next = (nodeAt s.heap j).next
  noRelink : ∀ j ∈ chain s', j ∈ chain s ∨ s.heap.length ≤ j
  unl : ∀ c ∈ chain s, c ∉ chain s' →
    (nodeAt s'.heap c).val = (nodeAt s.heap c).val ∧ (nodeAt s'.heap c).next = (nodeAt s.heap c).next ∧
    (nodeAt s.heap c).inTree = true ∧ ∀ j ∈ chain s, j ≠ c → j ∈ chain s'
  fresh : ∀ j ∈ chain s', s.heap.length ≤ j → ∀ i ∈ chain s, (nodeAt s.heap i).key ≠ (nodeAt s'.heap j).key
  valchg : ∀ j, j < s.heap.length → (nodeAt s'.heap j).val ≠ (nodeAt s.heap j).val →
    j ∈ chain s' ∧ (nodeAt s'.heap j).inTree = true

theorem HeapStep.of_gen {s s' : State} (h : LHeap.HStep sig s.heap (chain s) s'.heap (chain s')) : HeapStep s s' :=
  ⟨h.len, h.key, h.off, h.noRelink, h.unl, h.fresh, h.valchg⟩

theorem HeapStep.of_same {s s' : State} (H : HInv s) (hh : s'.heap = s.heap) (hd : s'.first = s.first) : HeapStep s s' := by
  refine .of_gen ?_; rw [chain_congr hh hd, hh]; exact .of_same H.gen

theorem nodeAt_modify_self {heap : List NodeS} {i : Nat} (f : NodeS → NodeS) (hi : i < heap.length) :
    nodeAt (heap.modify i f) i = f (nodeAt heap i) := by
  rw [nodeAt_modify, if_pos ⟨rfl, hi⟩]

/-- the common part of the three one-node stores -/
theorem modify_summary {s s' : State} (H : HInv s) {i : Nat} {f : NodeS → NodeS}
    (hh : s'.heap = s.heap.modify i f) (hd : s'.first = s.first)
    (hf : ∀ n, (f n).next = n.next ∧ (f n).key = n.key)
    (halive : (nodeAt s'.heap i).inTree = true → Alive s i)
    (hv : (nodeAt s'.heap i).val ≠ (nodeAt s.heap i).val → i ∈ chain s ∧ (nodeAt s'.heap i).inTree = true) :
    HInv s' ∧ HeapStep s s' ∧ chain s' = chain s ∧ s'.heap.length = s.heap.length ∧
      (∀ j, (nodeAt s'.heap j).key = (nodeAt s.heap j).key) ∧
      (∀ j, j ≠ i → nodeAt s'.heap j = nodeAt s.heap j) := by
  rw [hh] at halive hv
  obtain ⟨V', hs, hkey, hother⟩ := LHeap.modify_summary H.gen hf halive hv
  rw [← hh, ← hd] at V'
  obtain ⟨H', hc⟩ := HInv.of_gen V'
  refine ⟨H', .of_gen (by rw [hc, hh]; exact hs), hc, ?_⟩
  rw [hh]
  exact ⟨List.length_modify .., hkey, hother⟩

theorem val_store {s s' : State} (H : HInv s) {i : Nat} {v : Nat × Nat}
    (hi : i ∈ chain s) (hin : (nodeAt s.heap i).inTree = true)
    (hh : s'.heap = s.heap.modify i (fun n => { n with val := v })) (hd : s'.first = s.first) :
    HInv s' ∧ HeapStep s s' ∧ chain s' = chain s ∧ s'.heap.length = s.heap.length ∧
      (∀ j, (nodeAt s'.heap j).key = (nodeAt s.heap j).key) ∧
      (∀ j, (nodeAt s'.heap j).inTree = (nodeAt s.heap j).inTree) ∧
      (∀ j, (nodeAt s'.heap j).val = if j = i then v else (nodeAt s.heap j).val) ∧
      ∀ k, gAbs s' k = if (nodeAt s.heap i).key = k then some v else gAbs s k := by
  have hil := chain_lt H hi
  have hself : nodeAt s'.heap i = { nodeAt s.heap i with val := v } := by
    rw [hh]; exact nodeAt_modify_self _ hil
  obtain ⟨H', hs, hc, hlen, hkey, hother⟩ := modify_summary H hh hd (fun n => ⟨rfl, rfl⟩)
    (fun _ => Or.inl hi) (fun _ => ⟨hi, by rw [hself]; exact hin⟩)
  have hint : ∀ j, (nodeAt s'.heap j).inTree = (nodeAt s.heap j).inTree := by
    intro j
    by_cases hji : j = i
    · subst hji; rw [hself]
    · rw [hother j hji]
  have hval : ∀ j, (nodeAt s'.heap j).val = if j = i then v else (nodeAt s.heap j).val := by
    intro j
    by_cases hji : j = i
    · subst hji; rw [hself, if_pos rfl]
    · rw [hother j hji, if_neg hji]
  refine ⟨H', hs, hc, hlen, hkey, hint, hval,
    LHeap.abs_val (G := sig) H.gen.dist H'.gen.dist ⟨hi, hin⟩ (fun j => ?_) hkey hval⟩
  show (j ∈ chain s' ∧ (nodeAt s'.heap j).inTree = true) ↔ (j ∈ chain s ∧ (nodeAt s.heap j).inTree = true)
  rw [hc, hint]

theorem treeLink_store {s s' : State} (H : HInv s) {x : Nat}
    (hx : x ∈ chain s)
    (hh : s'.heap = s.heap.modify x (fun n => { n with inTree := true })) (hd : s'.first = s.first) :
    HInv s' ∧ HeapStep s s' ∧ chain s' = chain s ∧ s'.heap.length = s.heap.length ∧
      (∀ j, (nodeAt s'.heap j).key = (nodeAt s.heap j).key) ∧
      (∀ j, (nodeAt s'.heap j).val = (nodeAt s.heap j).val) ∧
      (∀ j, (nodeAt s'.heap j).inTree = if j = x then true else (nodeAt s.heap j).inTree) ∧
      ∀ k, gAbs s' k = if (nodeAt s.heap x).key = k then some (nodeAt s.heap x).val else gAbs s k := by
  have hxl := chain_lt H hx
  have hself : nodeAt s'.heap x = { nodeAt s.heap x with inTree := true } := by
    rw [hh]; exact nodeAt_modify_self _ hxl
  obtain ⟨H', hs, hc, hlen, hkey, hother⟩ := modify_summary H hh hd (fun n => ⟨rfl, rfl⟩)
    (fun _ => Or.inl hx) (fun hne => absurd (by rw [hself]) hne)
  have hval : ∀ j, (nodeAt s'.heap j).val = (nodeAt s.heap j).val := by
    intro j
    by_cases hji : j = x
    · subst hji; rw [hself]
    · rw [hother j hji]
  have hint : ∀ j, (nodeAt s'.heap j).inTree = if j = x then true else (nodeAt s.heap j).inTree := by
    intro j
    by_cases hji : j = x
    · subst hji; rw [hself, if_pos rfl]
    · rw [hother j hji, if_neg hji]
  refine ⟨H', hs, hc, hlen, hkey, hval, hint, ?_⟩
  intro k
  have : gAbs s' k = if (nodeAt s'.heap x).key = k then some (nodeAt s'.heap x).val else gAbs s k :=
    LHeap.abs_add (G := sig) H.gen.dist H'.gen.dist (x := x) ⟨hc ▸ hx, (hint x).trans (if_pos rfl)⟩ ?_
      (fun j _ => ⟨hkey j, hval j⟩) k
  · rw [hkey, hval] at this; exact this
  · intro j
    show (j ∈ chain s' ∧ (nodeAt s'.heap j).inTree = true) ↔ (j = x ∨ (j ∈ chain s ∧ (nodeAt s.heap j).inTree = true))
    rw [hc, hint]
    by_cases hji : j = x
    · subst hji; simp [hx]
    · simp [hji]

/-- taking an unlinked node out of the tree -/
theorem untree_store {s s' : State} (H : HInv s) {i : Nat} (hi : i ∉ chain s)
    (hh : s'.heap = s.heap.modify i (fun n => { n with inTree := false })) (hd : s'.first = s.first) :
    HInv s' ∧ HeapStep s s' ∧ chain s' = chain s ∧ s'.heap.length = s.heap.length ∧
      (∀ j, (nodeAt s'.heap j).key = (nodeAt s.heap j).key) ∧
      (∀ j, (nodeAt s'.heap j).val = (nodeAt s.heap j).val) ∧
      (∀ j, j ≠ i → (nodeAt s'.heap j).inTree = (nodeAt s.heap j).inTree) ∧
      (i < s.heap.length → (nodeAt s'.heap i).inTree = false) ∧
      ∀ k, gAbs s' k = gAbs s k := by
  have hself : (nodeAt s'.heap i).inTree = false := by
    rw [hh, nodeAt_modify]
    split
    · rfl
    · rename_i hn
      have : ¬ i < s.heap.length := fun h => hn ⟨rfl, h⟩
      unfold nodeAt
      rw [List.getD_eq_getElem?_getD, List.getElem?_eq_none (by omega)]
      rfl
  obtain ⟨H', hs, hc, hlen, hkey, hother⟩ := modify_summary H hh hd (fun n => ⟨rfl, rfl⟩)
    (fun h => by rw [hself] at h; cases h)
    (fun hne => by
      exfalso; apply hne
      rw [hh, nodeAt_modify]; split <;> rfl)
  have hval : ∀ j, (nodeAt s'.heap j).val = (nodeAt s.heap j).val := by
    intro j
    by_cases hji : j = i
    · subst hji; rw [hh, nodeAt_modify]; split <;> rfl
    · rw [hother j hji]
  refine ⟨H', hs, hc, hlen, hkey, hval, fun j hj => by rw [hother j hj], fun _ => hself, ?_⟩
  refine LHeap.abs_same (G := sig) H.gen.dist H'.gen.dist ?_ (fun j _ => ⟨hkey j, hval j⟩)
  intro j
  show (j ∈ chain s' ∧ (nodeAt s'.heap j).inTree = true) ↔ (j ∈ chain s ∧ (nodeAt s.heap j).inTree = true)
  rw [hc]
  by_cases hji : j = i
  · subst hji
    exact ⟨fun h => absurd h.1 hi, fun h => absurd h.1 hi⟩
  · rw [hother j hji]

theorem prepend_store {s s' : State} (H : HInv s) {new : NodeS}
    (hnext : new.next = s.first) (hnt : new.inTree = false)
    (hfresh : ∀ j, Alive s j → (nodeAt s.heap j).key ≠ new.key)
    (hh : s'.heap = s.heap ++ [new]) (hd : s'.first = some s.heap.length) :
    HInv s' ∧ HeapStep s s' ∧ chain s' = s.heap.length :: chain s ∧
      s'.heap.length = s.heap.length + 1 ∧
      (∀ j, j < s.heap.length → nodeAt s'.heap j = nodeAt s.heap j) ∧
      nodeAt s'.heap s.heap.length = new ∧
      ∀ k, gAbs s' k = gAbs s k := by
  obtain ⟨V', hs, hold, hnew⟩ := LHeap.prepend_summary H.gen hnext hfresh
  rw [← hh, ← hd] at V'
  obtain ⟨H', hc⟩ := HInv.of_gen V'
  rw [← hh, ← hc] at hs
  rw [← hh] at hold hnew
  refine ⟨H', .of_gen hs, hc, by rw [hh, List.length_append, List.length_singleton], hold, hnew, ?_⟩
  refine LHeap.abs_same (G := sig) H.gen.dist H'.gen.dist ?_ ?_
  · intro j
    show (j ∈ chain s' ∧ (nodeAt s'.heap j).inTree = true) ↔ (j ∈ chain s ∧ (nodeAt s.heap j).inTree = true)
    rw [hc]
    constructor
    · rintro ⟨hj, hjin⟩
      rcases List.mem_cons.1 hj with hj | hj
      · subst hj; rw [show nodeAt s'.heap s.heap.length = new from hnew, hnt] at hjin; cases hjin
      · rw [show nodeAt s'.heap j = nodeAt s.heap j from hold j (chain_lt H hj)] at hjin
        exact ⟨hj, hjin⟩
    · rintro ⟨hj, hjin⟩
      exact ⟨List.mem_cons_of_mem _ hj, by rw [show nodeAt s'.heap j = nodeAt s.heap j from hold j (chain_lt H hj)]; exact hjin⟩
  · intro j hj
    rw [hold j (chain_lt H hj.1)]; exact ⟨rfl, rfl⟩

/-- what the list unlink of `i`, a node on the list and in the tree, does -/
structure Unlinked (s s' : State) (i : Nat) : Prop where
  hinv : HInv s'
  step : HeapStep s s'
  chain : ∀ j, j ∈ chain s' ↔ j ∈ chain s ∧ j ≠ i
  len : s'.heap.length = s.heap.length
  node : ∀ j, (nodeAt s'.heap j).key = (nodeAt s.heap j).key ∧
    (nodeAt s'.heap j).val = (nodeAt s.heap j).val ∧ (nodeAt s'.heap j).inTree = (nodeAt s.heap j).inTree
  abs : ∀ k, gAbs s' k = if (nodeAt s.heap i).key = k then none else gAbs s k

theorem unlink_store {s s' : State} (H : HInv s) {i : Nat} (hi : i ∈ chain s)
    (hin : (nodeAt s.heap i).inTree = true)
    (hh : s'.heap = (unlinkOf s i).1) (hd : s'.first = (unlinkOf s i).2) :
    Unlinked s s' i := by
  unfold unlinkOf at hh hd
  rw [predOf_eq_prevOf] at hh hd
  have of {heap' st' C} (hh : s'.heap = heap') (hd : s'.first = st')
      (U : LHeap.Unlinked sig s.heap (chain s) heap' st' C i) : Unlinked s s' i := by
    subst hh hd
    obtain ⟨H', rfl⟩ := HInv.of_gen U.hinv
    exact ⟨H', .of_gen U.step, U.chain, U.len, fun j => ⟨(U.node j).1, (U.node j).2.1, (U.node j).2.2.1⟩, U.abs⟩
  rcases prevOf_cases (chain_nodup H) hi with ⟨l2, hch, hp⟩ | ⟨l1, pr, l2, hch, hp⟩
  · rw [hp] at hh hd
    exact of hh hd (LHeap.unlink_head H.gen hin hch)
  · rw [hp] at hh hd
    exact of hh hd (LHeap.unlink_mid H.gen hin hch (fun _ => ⟨rfl, rfl, rfl, rfl, rfl⟩))

end Flurry.Proto.BinT
