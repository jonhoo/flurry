import Flurry.Lemmas.IterBasic
import Flurry.Lemmas.IterFrozen
import Flurry.Lemmas.IterCases
/-! # The traverser model `Seq/Iter` on a frozen chain of tables: `IterBasic` (one turn of `advance` /
`recover`), `IterFrozen` (`traverse_frozen`: the traversal yields `contents`), `IterCases` (special
cases and concrete chains) -/
