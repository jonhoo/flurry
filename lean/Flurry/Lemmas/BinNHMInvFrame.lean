import Flurry.Lemmas.BinNHMStore
import Flurry.Lemmas.BinNHMTransfer
/-! # Proto/BinN and Proto/BinNH: frame lemmas for the preservation of the structural invariant

`SameMem s s'`: the two states differ in threads, clock and history only. Every successor state of the normal form is
`setT` / `finish` of `tick` of a state with the store done, so the invariants and the effects of a store (`HeapStep`,
`Update`, `Effect`) are moved along `SameMem` (`HInv.sameMem`, `Effect.congr`, …) and `stepK_rw` turns on that.
`hfr_update` / `hfr_put` / `hfr_same`: the chains of the other cells, as the walking writers see them. -/
namespace Flurry.Proto.BinNHM
open Flurry.Proto.BinN
open Flurry.Lin
open Flurry.Proto.BinX (NodeS Cell Pending isReader dflt chainFrom cellHead cellOfHead nodeAt nodeAt_of_some getElem?_nodeAt
  nodeAt_append_left IsSeg IsChain chainH absIn KeysDistinct Walk get_set get_set_self get_set_ne)

def SameMem (s s' : State) : Prop :=
  s'.heap = s.heap ∧ s'.tabs = s.tabs ∧ s'.cur = s.cur ∧ s'.resizing = s.resizing

theorem SameMem.tick (s : State) : SameMem s (tick s) := ⟨rfl, rfl, rfl, rfl⟩
theorem SameMem.setT (s : State) (t : Nat) (l : Local) : SameMem s (setT s t l) := ⟨rfl, rfl, rfl, rfl⟩
theorem SameMem.finish (s : State) (t : Nat) (p : Pending) (res : KRes) : SameMem s (finish s t p res) :=
  ⟨rfl, rfl, rfl, rfl⟩

theorem SameMem.trans {s s1 s2 : State} (m : SameMem s s1) (m' : SameMem s1 s2) : SameMem s s2 :=
  ⟨m'.1.trans m.1, m'.2.1.trans m.2.1, m'.2.2.1.trans m.2.2.1, m'.2.2.2.trans m.2.2.2⟩

theorem Live_congr' {s s' : State} (m : SameMem s s') (G : Ghost) (i : Nat) : Live s' G i ↔ Live s G i :=
  Live_congr m.1 m.2.1 G i

theorem HeapStep.congr {s0 s1 s s' : State} {G G' : Ghost} (hs : HeapStep s0 s1 G G') (m0 : SameMem s0 s)
    (m1 : SameMem s1 s') : HeapStep s s' G G' := by
  obtain ⟨a0, b0, c0, d0⟩ := m0
  obtain ⟨a1, b1, c1, d1⟩ := m1
  have hg0 : ∀ id, getCell s id = getCell s0 id := getCell_congr b0
  have hg1 : ∀ id, getCell s' id = getCell s1 id := getCell_congr b1
  have hc0 : ∀ id, chId s id = chId s0 id := chId_congr a0 b0
  have hc1 : ∀ id, chId s' id = chId s1 id := chId_congr a1 b1
  have hl0 : ∀ k, LC s k = LC s0 k := LC_congr a0 b0 c0
  have hl1 : ∀ k, LC s' k = LC s1 k := LC_congr a1 b1 c1
  have hv0 : ∀ G i, Live s G i ↔ Live s0 G i := Live_congr a0 b0
  have hv1 : ∀ G i, Live s' G i ↔ Live s1 G i := Live_congr a1 b1
  refine ⟨by rw [a0, a1]; exact hs.len, by rw [a0, a1]; exact hs.key, by rw [a0]; exact hs.ordS, ?_, ?_, ?_, ?_, ?_⟩
  · intro id h; rw [hg1]; rw [hg0] at h; exact hs.movedMono id h
  · intro j hj hnl
    rw [a0] at hj
    rw [hv0] at hnl
    rw [a0, a1, hv1]
    exact hs.off j hj hnl
  · intro k j hj
    rw [hl1] at hj
    rw [hl0, a0]
    exact hs.lc k j hj
  · intro k c h1 h2
    rw [hl0] at h1
    rw [hl1] at h2
    rw [a0, a1, hv1, hl0, hl1]
    exact hs.unl k c h1 h2
  · intro id c h1 h2
    rw [hc0] at h1
    rw [hc1] at h2
    rw [a0, a1, hv1, hc0, hc1]
    exact hs.unlC id c h1 h2

theorem Update.congr {s0 s1 s s' : State} {G : Ghost} {id : CellId} {C' : List Nat} (u : Update s0 s1 G id C')
    (m0 : SameMem s0 s) (m1 : SameMem s1 s') : Update s s' G id C' := by
  obtain ⟨a0, b0, c0, d0⟩ := m0
  obtain ⟨a1, b1, c1, d1⟩ := m1
  have hg0 : ∀ id, getCell s id = getCell s0 id := getCell_congr b0
  have hg1 : ∀ id, getCell s' id = getCell s1 id := getCell_congr b1
  refine ⟨by rw [a1]; exact u.nextOK, by rw [a0, a1]; exact u.len, ?_, by rw [c0, c1]; exact u.cur,
    by rw [d0, d1]; exact u.resz, by rw [b0, b1]; exact u.tlen, by rw [b0, b1]; exact u.rows, ?_, ?_, ?_,
    by rw [a1]; exact u.keys, by rw [a1]; exact u.side⟩
  · intro id' hne; rw [hg1, hg0]; exact u.cell id' hne
  · rw [hg1]; exact u.notMoved
  · rw [hg1, a1]; exact u.chain
  · intro j hj hn
    rw [a0] at hj
    rw [chId_congr a0 b0] at hn
    rw [a0, a1]
    exact u.other j hj hn

theorem Effect.congr {s0 s1 s s' : State} {G : Ghost} {id : CellId} (e : Effect s0 s1 G id) (m0 : SameMem s0 s)
    (m1 : SameMem s1 s') : Effect s s' G id := by
  obtain ⟨C', u, hs⟩ := e
  exact ⟨C', u.congr m0 m1, hs.congr m0 m1⟩

theorem absOf_sameMem {s s' : State} (m : SameMem s s') (k : Nat) : absOf s' k = absOf s k :=
  absOf_congr_mem m.1 m.2.1 m.2.2.1 k

theorem HInv.sameMem {s s' : State} {G : Ghost} (H : HInv s G) (m : SameMem s s') : HInv s' G :=
  H.congr m.1 m.2.1 m.2.2.1 m.2.2.2

theorem Active.sameMem {s s' : State} {G : Ghost} {id : CellId} (act : Active s G id) (m : SameMem s s') :
    Active s' G id := act.congr m.2.1 m.2.2.1

/-- the chain of a cell other than the updated one, as the walking writers see it -/
theorem hfr_update {s s' : State} {G : Ghost} {id : CellId} {C' : List Nat} (H : HInv s G) (act : Active s G id)
    (u : Update s s' G id C') {g j : Nat} (hne : (g, j) ≠ id) :
    cellAt s' g j = cellAt s g j ∧ chainH s'.heap (cellAt s g j) = chainH s.heap (cellAt s g j) ∧
    ∀ i ∈ chainH s.heap (cellAt s g j), (nodeAt s'.heap i).key = (nodeAt s.heap i).key ∧
      (nodeAt s'.heap i).next = (nodeAt s.heap i).next := by
  have hcell : cellAt s' g j = cellAt s g j := u.cell (g, j) hne
  have hch : chId s' (g, j) = chId s (g, j) := (u.chains H act).2 (g, j) hne
  refine ⟨hcell, ?_, ?_⟩
  · unfold chId getCell at hch
    rw [hcell] at hch
    exact hch
  · intro i hi
    have hi' : i ∈ chId s (g, j) := hi
    have hnot : i ∉ chId s id := fun h => H.disjoint act hne h hi'
    rw [u.other i (H.chain_lt hi') hnot]
    exact ⟨rfl, rfl⟩

/-- the same when only a cell is stored -/
theorem hfr_put {s s' : State} {g0 j0 : Nat} {c : Cell} (hh : s'.heap = s.heap)
    (ht : s'.tabs = s.tabs.modify g0 (fun row => row.set j0 c)) {g j : Nat} (hne : ¬ (g = g0 ∧ j = j0)) :
    cellAt s' g j = cellAt s g j ∧ chainH s'.heap (cellAt s g j) = chainH s.heap (cellAt s g j) ∧
    ∀ i ∈ chainH s.heap (cellAt s g j), (nodeAt s'.heap i).key = (nodeAt s.heap i).key ∧
      (nodeAt s'.heap i).next = (nodeAt s.heap i).next := by
  refine ⟨?_, by rw [hh], fun i _ => by rw [hh]; exact ⟨rfl, rfl⟩⟩
  rw [cellAt_eq, cellAt_eq, ht]
  exact cellT_put_ne _ _ hne

/-- the same when nothing but lock words changes -/
theorem hfr_same {s s' : State} (ht : s'.tabs = s.tabs) (hch : ∀ id, chId s' id = chId s id)
    (hn : ∀ j, (nodeAt s'.heap j).key = (nodeAt s.heap j).key ∧ (nodeAt s'.heap j).next = (nodeAt s.heap j).next)
    (g j : Nat) :
    cellAt s' g j = cellAt s g j ∧ chainH s'.heap (cellAt s g j) = chainH s.heap (cellAt s g j) ∧
    ∀ i ∈ chainH s.heap (cellAt s g j), (nodeAt s'.heap i).key = (nodeAt s.heap i).key ∧
      (nodeAt s'.heap i).next = (nodeAt s.heap i).next := by
  have hcell : cellAt s' g j = cellAt s g j := by rw [cellAt_eq, cellAt_eq, ht]
  refine ⟨hcell, ?_, fun i _ => hn i⟩
  have := hch (g, j)
  unfold chId getCell at this
  rw [hcell] at this
  exact this

end Flurry.Proto.BinNHM
