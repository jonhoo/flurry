import Flurry.Lemmas.BinEmbed
/-! # Proto/Bin: heap segments and the chain (C01)

`NextOK` and `IsSeg` are those of `Lemmas/BinRBChain.lean` over the nodes of `Proto/Bin`
(`IsSeg` is `Shared.Seg (·.next)`: `isSeg_iff`). That `chainFrom` computes the chain under `NextOK`,
and the heap surgery lemmas, are proved there for `Proto/BinRBase` and read through `emb`
(`Lemmas/BinBasic.lean`), in terms of `chain`: no proof uses `IsSeg`, `IsSeg.append` or
`IsSeg.unique`. -/
namespace Flurry.Proto.Bin
open Flurry.Lin

def NextOK (heap : List NodeS) : Prop :=
  ∀ i n j, heap[i]? = some n → n.next = some j → i < j ∧ j < heap.length

inductive IsSeg (heap : List NodeS) : Option Nat → List Nat → Option Nat → Prop
  | nil (e : Option Nat) : IsSeg heap e [] e
  | cons {i : Nat} {n : NodeS} {l : List Nat} {e : Option Nat} :
      heap[i]? = some n → IsSeg heap n.next l e → IsSeg heap (some i) (i :: l) e

theorem isSeg_iff {heap : List NodeS} {a e : Option Nat} {l : List Nat} :
    IsSeg heap a l e ↔ Shared.Seg (·.next) heap a l e := by
  constructor <;> intro h <;> induction h with
  | nil e => exact .nil _
  | cons hn _ ih => exact .cons hn ih

theorem IsSeg.append {heap : List NodeS} {a b c : Option Nat} {l1 l2 : List Nat}
    (h1 : IsSeg heap a l1 b) (h2 : IsSeg heap b l2 c) : IsSeg heap a (l1 ++ l2) c :=
  isSeg_iff.2 ((isSeg_iff.1 h1).append (isSeg_iff.1 h2))

theorem IsSeg.unique {heap : List NodeS} {a : Option Nat} {l1 : List Nat}
    (h1 : IsSeg heap a l1 none) : ∀ {l2 : List Nat}, IsSeg heap a l2 none → l1 = l2 :=
  fun h2 => (isSeg_iff.1 h1).unique (isSeg_iff.1 h2)

theorem predOf_cases {l : List Nat} (hnd : l.Nodup) {i : Nat} (hi : i ∈ l) :
    (∃ l2, l = i :: l2 ∧ predOf l i = none) ∨
    (∃ l1 pr l2, l = l1 ++ pr :: i :: l2 ∧ predOf l i = some pr) := by
  simpa only [predOf_emb] using BinR.Base.predOf_cases hnd hi

end Flurry.Proto.Bin
