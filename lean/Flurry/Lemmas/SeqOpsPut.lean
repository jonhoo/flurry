import Flurry.Lemmas.SeqOpsUpd
/-! # `put` (`insert` / `try_insert`) -/
namespace Flurry.Seq
open Flurry Flurry.Gen

/-- the bin count that `put` hands to the treeify test (and to `addCount`) -/
def putBinCount (k : Nat) (m0 : Map) : Nat :=
  match (initTable m0).table with
  | none => 0
  | some t =>
    match tableBin t (bini (m0.hash k) t.length) with
    | .empty => 0
    | .list ns => listBinCount (m0.hash k) k ns 0
    | .tree _ _ => 2

/-- what a lookup of `k` finds after `put k ki v vi nr` -/
def putNew (k ki v vi : Nat) (nr : Bool) (m : Map) : Node :=
  match get k m with
  | none => { hash := m.hash k, key := k, ki := ki, val := v, vi := vi }
  | some old => if nr then old else { old with val := v, vi := vi }

/-- what `put k _ _ _ nr` answers -/
def putOut (k : Nat) (nr : Bool) (m : Map) : Out :=
  match get k m with
  | none => .none
  | some old => if nr then .exists_ old.val old.vi else .some old.val old.vi

/-- `put` in terms of the bin updates: the table is made to exist; a present key has its value
replaced (unless `nr`), an absent key gets a new node and the counter is raised; the bin count
`putBinCount` decides about treeifying and is handed to `addCount` -/
theorem put_eq (k ki v vi : Nat) (nr : Bool) {m : Map} {t : Table}
    (ht : (initTable m).table = some t) :
    put k ki v vi nr m =
      let h := m.hash k
      let i := bini h t.length
      let b := tableBin t i
      let bc := putBinCount k m
      match b.find h k with
      | some old =>
        if nr then (initTable m, .exists_ old.val old.vi)
        else
          let m2 : Map := { initTable m with table := some (t.set i (setValBin h k v vi b)) }
          (if treeifyCond bc then treeifyBin i m2 else m2, .some old.val old.vi)
      | none =>
        let m2 : Map := { initTable m with table := some (t.set i (insertBin ⟨h, k, ki, v, vi⟩ b)) }
        (addCount 1 (some bc) (if treeifyCond bc then treeifyBin i m2 else m2), .none) := by
  unfold put putBinCount
  simp only [ht]
  cases tableBin t (bini (m.hash k) t.length) <;> rfl

theorem putBinCount_initTable (k : Nat) {m : Map} (hg : Good m) :
    putBinCount k (initTable m) = putBinCount k m := by
  unfold putBinCount
  rw [initTable_idem hg, initTable_hash]

theorem put_initTable (k ki v vi : Nat) (nr : Bool) {m : Map} (hg : Good m) :
    put k ki v vi nr m = put k ki v vi nr (initTable m) := by
  obtain ⟨t, ht⟩ := initTable_table_some m
  rw [put_eq k ki v vi nr ht, put_eq k ki v vi nr ((initTable_idem hg).symm ▸ ht),
    initTable_idem hg, initTable_hash, putBinCount_initTable k hg]

/-- the side condition under which `put` leaves the table, the threshold and the resize counter
alone: no crowded bin in a small table, and (for a new key) the new count is below the threshold -/
def PutNoGrow (k : Nat) (m : Map) : Prop :=
  (treeifyCond (putBinCount k m) = false ∨ treeifyTooSmall (tableLen m) = false) ∧
    ((get k m).isSome ∨ m.count + 1 < m.sizeCtl ∨ tableLen m = MAXIMUM_CAPACITY)

theorem put_spec_some (k ki v vi : Nat) (nr : Bool) {m : Map} {t : Table} (hw : WF m)
    (ht : m.table = some t) :
    UpdPost m (put k ki v vi nr m).1 k (some (putNew k ki v vi nr m))
      (if (get k m).isSome then 0 else 1) (PutNoGrow k m) ∧
    (put k ki v vi nr m).2 = putOut k nr m := by
  have hinit := initTable_of_wf_some hw ht
  have hget := get_eq_find ht (hw.tableWF ht) k
  rw [put_eq k ki v vi nr (hinit.symm ▸ ht), hinit]
  unfold putNew putOut PutNoGrow
  dsimp only
  rw [hget]
  cases hf : (tableBin t (bini (m.hash k) t.length)).find (m.hash k) k with
  | none =>
    exact ⟨(insert_post hw ht hf rfl rfl (treeifyCond (putBinCount k m)) (putBinCount k m)).mono
      fun g => ⟨g.1, g.2.resolve_left Bool.false_ne_true⟩, rfl⟩
  | some old =>
    cases nr with
    | true =>
      have h0 := UpdPost.refl (Good.of_some hw ht) k
        ((treeifyCond (putBinCount k m) = false ∨ treeifyTooSmall (tableLen m) = false) ∧
          ((some old).isSome = true ∨ m.count + 1 < m.sizeCtl ∨ tableLen m = MAXIMUM_CAPACITY))
      rw [hget, hf] at h0
      exact ⟨h0, rfl⟩
    | false =>
      exact ⟨(update_post hw ht v vi hf (treeifyCond (putBinCount k m))).mono fun g => g.1, rfl⟩

theorem put_spec (k ki v vi : Nat) (nr : Bool) {m : Map} (hg : Good m) :
    UpdPost m (put k ki v vi nr m).1 k (some (putNew k ki v vi nr m))
      (if (get k m).isSome then 0 else 1) (m.table ≠ none ∧ PutNoGrow k m) ∧
    (put k ki v vi nr m).2 = putOut k nr m := by
  obtain ⟨t, ht⟩ := initTable_table_some m
  have h := put_spec_some k ki v vi nr hg.init.wf ht
  rw [← put_initTable k ki v vi nr hg, putNew, putOut, (initTable_same m).2.1 k, initTable_hash] at h
  exact ⟨(h.1.after_init hg).mono fun g => ⟨g.1, by rw [hg.initTable_eq g.1]; exact g.2⟩, h.2⟩

theorem put_absMap (k ki v vi : Nat) (nr : Bool) {m : Map} (hg : Good m) :
    absMap (put k ki v vi nr m).1 =
      if nr = true ∧ (absMap m k).isSome = true then absMap m else (absMap m).insert k ki v vi := by
  rw [(put_spec k ki v vi nr hg).1.absMap_eq, Ref.insert_eq_upd, putNew]
  cases hgk : get k m with
  | none =>
    have ha : absMap m k = none := by rw [absMap_apply, hgk]; rfl
    rw [ha, if_neg (fun h => nomatch h.2)]; rfl
  | some old =>
    have ha : absMap m k = some (old.ki, old.val, old.vi) := by rw [absMap_apply, hgk]; rfl
    cases nr with
    | true => rw [if_pos ⟨rfl, by rw [ha]; rfl⟩]; exact Ref.upd_self ha
    | false => rw [ha, if_neg (fun h => nomatch h.1)]; rfl

/-- `insert` / `try_insert` of a key that is present keeps the key instance stored first -/
theorem put_keeps_first_key (k ki' v vi : Nat) (nr : Bool) {m : Map} (hg : Good m) {ki v0 vi0 : Nat}
    (hpre : absMap m k = some (ki, v0, vi0)) :
    ∃ v1 vi1, absMap (put k ki' v vi nr m).1 k = some (ki, v1, vi1) := by
  rw [put_absMap k ki' v vi nr hg]
  by_cases h : nr = true ∧ (absMap m k).isSome = true
  · rw [if_pos h]; exact ⟨v0, vi0, hpre⟩
  · rw [if_neg h, Ref.insert_eq_upd, Ref.upd, if_pos rfl, hpre]; exact ⟨v, vi, rfl⟩

end Flurry.Seq
