import Flurry.Lemmas.IterBasic
/-! # Lemmas/IterFrozen: the traverser on a frozen chain yields exactly `contents`

`traverse_subtree`: positioned at bin `i` of table `j` (any stack, any base), the traverser spends
`steps c d j i` turns to yield `resolve c d j i` (the depth-first walk of the forwarding tree below
that bin, low half before high half) and is then in the state `recover` computes from the position
it started at. `traverse_top` chains this over the top-level bins. -/
namespace Flurry.Seq.Iter
open Flurry

theorem traverse_subtree {c : Chain} (hwf : ChainWF c) :
    ∀ d j, j < c.length → c.length - j ≤ d →
    ∀ (σ : List Frame) (i b bl bs m : Nat), i < (tableAt c j).length → b < bl →
      traverse c (steps c d j i + m) ⟨some j, σ, i, b, bl, bs⟩ =
        resolve c d j i ++
          traverse c m (recover ⟨some j, σ, i, b, bl, bs⟩ (tableAt c j).length) := by
  intro d
  induction d with
  | zero => intro j hj hd; omega
  | succ d ih =>
    intro j hj hd σ i b bl bs m hi hb
    cases hbin : (tableAt c j).getD i (.nodes []) with
    | nodes ns =>
      have hs : steps c (d + 1) j i = 1 := by rw [steps, hbin]
      have hr : resolve c (d + 1) j i = ns := by rw [resolve, hbin]
      rw [hs, hr, Nat.add_comm 1 m, traverse_succ, advance_nodes c j σ i b bl bs ns hb hi hbin]
    | moved =>
      have hj1 : j + 1 < c.length := hwf.moved_not_last hj hi hbin
      have hlen : (tableAt c (j + 1)).length = 2 * (tableAt c j).length := hwf.len_succ hj1
      have hs : steps c (d + 1) j i =
          1 + steps c d (j + 1) i + steps c d (j + 1) (i + (tableAt c j).length) := by
        rw [steps, hbin]
      have hr : resolve c (d + 1) j i =
          resolve c d (j + 1) i ++ resolve c d (j + 1) (i + (tableAt c j).length) := by
        rw [resolve, hbin]
      have e : steps c (d + 1) j i + m =
          (steps c d (j + 1) i + (steps c d (j + 1) (i + (tableAt c j).length) + m)) + 1 := by
        rw [hs]; omega
      rw [e, hr, traverse_succ, advance_moved c j σ i b bl bs hb hi hbin]
      simp only [List.nil_append]
      rw [ih (j + 1) hj1 (by omega) _ i b bl bs _ (by omega) hb]
      rw [hlen, recover_low _ _ _ _ _ _ _ _ (by simp; omega)]
      simp only []
      rw [ih (j + 1) hj1 (by omega) _ _ b bl bs m (by omega) hb]
      rw [hlen, recover_high _ _ _ _ _ _ _ _ (by simp; omega)]
      simp only [List.append_assoc]

/-- the state at the beginning of top-level bin `b` -/
def topSt (c : Chain) (b : Nat) : St :=
  ⟨some 0, [], b, b, (tableAt c 0).length, (tableAt c 0).length⟩

theorem initSt_eq_topSt (c : Chain) (hc : c ≠ []) : initSt c = topSt c 0 := by
  cases c with
  | nil => exact absurd rfl hc
  | cons t c => simp [initSt, topSt, tableAt]

/-- turns spent on the top-level bins `b, b+1, …, b+r-1` -/
def topSteps (c : Chain) (d : Nat) : Nat → Nat → Nat
  | _, 0 => 0
  | b, r + 1 => steps c d 0 b + topSteps c d (b + 1) r

/-- the bound by the depth `d` alone, for any chain (with `steps_le`); nothing below uses it: the fuel
argument (`topSteps_le_fuelFor`) needs the bound by the length of a well-formed chain, `topSteps_le_wf` -/
theorem topSteps_le (c : Chain) (d b r : Nat) : topSteps c d b r ≤ r * (2 ^ d - 1) := by
  induction r generalizing b with
  | zero => simp [topSteps]
  | succ r ih =>
    have h1 := steps_le c d 0 b
    have h2 := ih (b + 1)
    simp only [topSteps, Nat.succ_mul]
    omega

theorem traverse_top {c : Chain} (hwf : ChainWF c) (hc : 0 < c.length) (d : Nat)
    (hd : c.length ≤ d) :
    ∀ r b m, b + r = (tableAt c 0).length →
      traverse c (topSteps c d b r + m) (topSt c b) =
        (List.range' b r).flatMap (fun i => resolve c d 0 i) := by
  intro r
  induction r with
  | zero =>
    intro b m hb
    simp only [topSteps, List.range'_zero, List.flatMap_nil]
    exact traverse_done c _ _ _ _ _ _ _ (by omega)
  | succ r ih =>
    intro b m hb
    have e : topSteps c d b (r + 1) + m = steps c d 0 b + (topSteps c d (b + 1) r + m) := by
      simp only [topSteps]; omega
    rw [e, topSt, traverse_subtree hwf d 0 hc (by omega) [] b b _ _ _ (by omega) (by omega)]
    rw [recover_nil]
    simp only [ge_iff_le, Nat.le_add_left, if_true]
    have := ih (b + 1) m (by omega)
    rw [topSt] at this
    rw [this, List.range'_succ, List.flatMap_cons]

/-- the general form: any fuel of at least `topSteps` (in particular `fuelFor c`) gives
`contents c` -/
theorem traverse_eq_contents {c : Chain} (hwf : ChainWF c) (m : Nat) :
    traverse c (topSteps c (c.length + 1) 0 (tableAt c 0).length + m) (initSt c) = contents c := by
  cases hc : c with
  | nil => simp [contents, tableAt, topSteps, traverse_done, initSt]
  | cons t c' =>
    rw [← hc]
    have hpos : 0 < c.length := by rw [hc]; simp
    rw [initSt_eq_topSt c (by rw [hc]; simp)]
    rw [traverse_top hwf hpos (c.length + 1) (by omega) _ 0 m (by omega)]
    simp [contents, List.range_eq_range']

theorem lt_of_getD_moved {t : FTable} {i : Nat} (h : t.getD i (.nodes []) = .moved) :
    i < t.length := by
  apply Classical.byContradiction
  intro hn
  rw [List.getD_eq_getElem?_getD, List.getElem?_eq_none (by omega)] at h
  simp at h

/-- on a well-formed chain the forwarding tree below a bin of table `j` has depth at most
`c.length - j`, whatever the fuel -/
theorem steps_le_wf {c : Chain} (hwf : ChainWF c) :
    ∀ d j i, j < c.length → steps c d j i ≤ 2 ^ (c.length - j) - 1 := by
  intro d
  induction d with
  | zero => intro j i _; exact Nat.zero_le _
  | succ d ih =>
    intro j i hj
    obtain ⟨k, hk⟩ : ∃ k, c.length - j = k + 1 := ⟨c.length - j - 1, by omega⟩
    rw [hk]
    unfold steps
    split
    · exact steps_bound (Nat.zero_le _) (Nat.zero_le _)
    · rename_i hbin
      have hj1 := hwf.moved_not_last hj (lt_of_getD_moved hbin) hbin
      have e : c.length - (j + 1) = k := by omega
      exact steps_bound (e ▸ ih (j + 1) _ hj1) (e ▸ ih (j + 1) _ hj1)

theorem topSteps_le_wf {c : Chain} (hwf : ChainWF c) (hc : 0 < c.length) (d b r : Nat) :
    topSteps c d b r ≤ r * (2 ^ c.length - 1) := by
  induction r generalizing b with
  | zero => simp [topSteps]
  | succ r ih =>
    have h1 := steps_le_wf hwf d 0 b hc
    have h2 := ih (b + 1)
    simp only [topSteps, Nat.succ_mul]
    simp only [Nat.sub_zero] at h1
    omega

/-- the traversal needs at most one turn per node of a full binary forwarding tree below each
top-level bin; `fuelFor` is larger -/
theorem topSteps_le_fuelFor {c : Chain} (hwf : ChainWF c) (d : Nat) :
    topSteps c d 0 (tableAt c 0).length ≤ fuelFor c := by
  cases hc : c with
  | nil => simp [tableAt, topSteps]
  | cons t c' =>
    rw [← hc]
    have hpos : 0 < c.length := by rw [hc]; simp
    exact Nat.le_trans (topSteps_le_wf hwf hpos d 0 _) hwf.fuel_bound

/-- on a frozen well-formed chain the traverser terminates within `fuelFor c` turns and yields
exactly the entries a lookup would find (`contents c`: each once if no node sits in two places of
the chain), top-level bin by top-level bin, and within a bin the forwarding tree left to right. -/
theorem traverse_frozen {c : Chain} (hwf : ChainWF c) :
    traverse c (fuelFor c) (initSt c) = contents c := by
  have h := topSteps_le_fuelFor hwf (c.length + 1)
  have := traverse_eq_contents hwf (fuelFor c - topSteps c (c.length + 1) 0 (tableAt c 0).length)
  rwa [Nat.add_sub_cancel' h] at this

theorem no_fuel_needed_more {c : Chain} (hwf : ChainWF c) (k : Nat) :
    traverse c (fuelFor c + k) (initSt c) = traverse c (fuelFor c) (initSt c) := by
  rw [traverse_frozen hwf]
  have h := topSteps_le_fuelFor hwf (c.length + 1)
  have := traverse_eq_contents hwf
    (fuelFor c - topSteps c (c.length + 1) 0 (tableAt c 0).length + k)
  rwa [← Nat.add_assoc, Nat.add_sub_cancel' h] at this

theorem traverse_frozen_ge {c : Chain} (hwf : ChainWF c) (fuel : Nat) (h : fuelFor c ≤ fuel) :
    traverse c fuel (initSt c) = contents c := by
  have := no_fuel_needed_more hwf (fuel - fuelFor c)
  rw [Nat.add_sub_cancel' h] at this
  rw [this, traverse_frozen hwf]

theorem traverse_nodup {c : Chain} (hwf : ChainWF c) (h : (contents c).Nodup) :
    (traverse c (fuelFor c) (initSt c)).Nodup := by
  rw [traverse_frozen hwf]; exact h

theorem traverse_perm {c : Chain} (hwf : ChainWF c) :
    (traverse c (fuelFor c) (initSt c)).Perm (contents c) := by
  rw [traverse_frozen hwf]

end Flurry.Seq.Iter
