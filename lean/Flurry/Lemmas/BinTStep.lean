import Flurry.Lemmas.BinTChain
import Flurry.Lemmas.SharedBasic
/-! # Proto/BinT: the transitions of the repaired model in normal form (C01, tree bins)

`StepK s t pc call s'` lists the transitions of thread `t` of `step = stepG true` with explicit successor
states, grouped by what they do to the shared state:
* `move`: heap and `first` untouched; the program counter moves and the synchronisation words
  (`mutex`, `writer`, `waiter`, `readers`) may change (`Move`);
* `fin`: a call completes without a store (`Fin`);
* the five stores: `val`, `prepend`, `treeLink`, `unlink` (under the write lock), `untree`;
* `dead`: the program counter `wListUnlink` of the original order, which `step` never reaches.
Successor states are written with the two flat updates `syncTo` (nothing stored) and `storeTo` (a store of
the mutex holder), so that every field of a successor is one projection away from the old state.
`step_stepK` dissects `step` once and for all; `StepK` follows from `step` and is weaker (`rCasFail`, `lrTryFail`
come without the negation of the test that failed, `dead` allows any successor). -/
namespace Flurry.Proto.BinT
open Flurry.Lin Flurry.Shared

/-- the successor of a step of thread `t` that stores nothing: clock advanced, synchronisation words and
history replaced, `t` continues as `l'` -/
def syncTo (s : State) (m : Option Nat) (w a : Bool) (r : Nat) (hist : List (Nat × Call)) (t : Nat) (l' : Local) :
    State :=
  { s with mutex := m, writer := w, waiter := a, readers := r, threads := s.threads.set t l', hist := hist,
           now := s.now + 1 }

/-- the successor of a store of thread `t`: clock advanced, heap and `first` replaced, `t` continues as `l'` -/
def storeTo (s : State) (heap : List NodeS) (first : Option Nat) (t : Nat) (l' : Local) : State :=
  { s with heap := heap, first := first, threads := s.threads.set t l', now := s.now + 1 }

/-- where `lock_root` continues once the write lock is held -/
def afterLock (rmv : Option Nat) (res : KRes) : Pc :=
  match rmv with
  | some i => .wUnlinkLocked i res
  | none => .wRestructure none res

/-- heap and `first` after the list unlink of node `i`: `pred.next := i.next`, or `first := i.next` if `i`
has no predecessor -/
def unlinkOf (s : State) (i : Nat) : List NodeS × Option Nat :=
  match predOf (chain s) i with
  | some pr => (s.heap.modify pr (fun m => { m with next := (nodeAt s.heap i).next }), s.first)
  | none => (s.heap, (nodeAt s.heap i).next)

/-- transitions that leave heap and `first` alone and do not complete the call:
`Move s t p pc pc' mutex' writer' waiter' readers'` -/
inductive Move (s : State) (t : Nat) (p : Pending) : Pc → Pc → Option Nat → Bool → Bool → Nat → Prop
  | rFirst : Move s t p .rFirst (.rState s.first) s.mutex s.writer s.waiter s.readers
  | rLinMode {c : Nat} : (s.writer || s.waiter) = true →
      Move s t p (.rState (some c)) (.rLin c) s.mutex s.writer s.waiter s.readers
  | rTreeMode {c : Nat} : (s.writer || s.waiter) = false →
      Move s t p (.rState (some c)) (.rCas c s.readers) s.mutex s.writer s.waiter s.readers
  | rLinNext {c : Nat} {n : NodeS} : s.heap[c]? = some n → n.key ≠ p.key →
      Move s t p (.rLin c) (.rState n.next) s.mutex s.writer s.waiter s.readers
  | rLinHit {c : Nat} {n : NodeS} : s.heap[c]? = some n → n.key = p.key → p.op ≠ .has →
      Move s t p (.rLin c) (.rVal c) s.mutex s.writer s.waiter s.readers
  | rCasOk {c r : Nat} : s.writer = false → s.waiter = false → s.readers = r →
      Move s t p (.rCas c r) .rTree s.mutex s.writer s.waiter (s.readers + 1)
  | rCasFail {c r : Nat} : Move s t p (.rCas c r) (.rState (some c)) s.mutex s.writer s.waiter s.readers
  | rTree : Move s t p .rTree (.rRelease (treeFind s p.key)) s.mutex s.writer s.waiter s.readers
  | rRelVal {i : Nat} : p.op ≠ .has →
      Move s t p (.rRelease (some i)) (.rVal i) s.mutex s.writer s.waiter (s.readers - 1)
  | wMutex : s.mutex = none → Move s t p .wMutex .wFind (some t) s.writer s.waiter s.readers
  | findVal {i : Nat} {v : Nat × Nat} {res : KRes} : treeFind s p.key = some i →
      specStep (some (nodeAt s.heap i).val) p.op = (some v, res) →
      Move s t p .wFind (.wVal i v res) s.mutex s.writer s.waiter s.readers
  | findPrepend : treeFind s p.key = none →
      Move s t p .wFind .wPrepend s.mutex s.writer s.waiter s.readers
  | findRemove {i : Nat} {res : KRes} : treeFind s p.key = some i →
      specStep (some (nodeAt s.heap i).val) p.op = (none, res) →
      Move s t p .wFind (.lrTry (some i) res) s.mutex s.writer s.waiter s.readers
  | findDone {res : KRes} : specStep (absOf s p.key) p.op = (absOf s p.key, res) →
      Move s t p .wFind (.wUnlockM res) s.mutex s.writer s.waiter s.readers
  | lrTryOk {rmv : Option Nat} {res : KRes} : s.writer = false → s.waiter = false → s.readers = 0 →
      Move s t p (.lrTry rmv res) (afterLock rmv res) s.mutex true s.waiter s.readers
  | lrTryFail {rmv : Option Nat} {res : KRes} :
      Move s t p (.lrTry rmv res) (.lrLoop rmv res) s.mutex s.writer s.waiter s.readers
  | lrLoopOk {rmv : Option Nat} {res : KRes} : s.writer = false → s.readers = 0 →
      Move s t p (.lrLoop rmv res) (afterLock rmv res) s.mutex true false s.readers
  | lrLoopWait {rmv : Option Nat} {res : KRes} : s.waiter = false →
      Move s t p (.lrLoop rmv res) (.lrLoop rmv res) s.mutex s.writer true s.readers
  | restructNone {res : KRes} :
      Move s t p (.wRestructure none res) (.wUnlockRoot res) s.mutex s.writer s.waiter s.readers
  | unlockRoot {res : KRes} :
      Move s t p (.wUnlockRoot res) (.wUnlockM res) s.mutex false false s.readers

/-- calls that complete without a store: `Fin s p pc res mutex' readers'` -/
inductive Fin (s : State) (p : Pending) : Pc → KRes → Option Nat → Nat → Prop
  | rMiss : Fin s p (.rState none) (match p.op with | .has => .bool false | _ => .none) s.mutex s.readers
  | rLinHas {c : Nat} {n : NodeS} : s.heap[c]? = some n → n.key = p.key → p.op = .has →
      Fin s p (.rLin c) (.bool true) s.mutex s.readers
  | rRelNone : Fin s p (.rRelease none) (match p.op with | .has => .bool false | _ => .none)
      s.mutex (s.readers - 1)
  | rRelHas {i : Nat} : p.op = .has → Fin s p (.rRelease (some i)) (.bool true) s.mutex (s.readers - 1)
  | rVal {i : Nat} {n : NodeS} : s.heap[i]? = some n → Fin s p (.rVal i) (.some n.val.1 n.val.2) s.mutex s.readers
  | unlockM {res : KRes} : Fin s p (.wUnlockM res) res none s.readers

inductive StepK (s : State) (t : Nat) : Pc → Option Pending → State → Prop
  | idle (call : Option Pending) :
      StepK s t .idle call (syncTo s s.mutex s.writer s.waiter s.readers s.hist t ⟨.idle, call⟩)
  | invoke (call : Option Pending) (k : Nat) (op : KOp) :
      StepK s t .idle call (syncTo s s.mutex s.writer s.waiter s.readers s.hist t
        ⟨if isReader op then .rFirst else .wMutex, some ⟨k, op, s.now + 1⟩⟩)
  | move {pc : Pc} (p : Pending) (pc' : Pc) (m : Option Nat) (w a : Bool) (r : Nat) :
      Move s t p pc pc' m w a r → StepK s t pc (some p) (syncTo s m w a r s.hist t ⟨pc', some p⟩)
  | fin {pc : Pc} (p : Pending) (res : KRes) (m : Option Nat) (r : Nat) : Fin s p pc res m r →
      StepK s t pc (some p) (syncTo s m s.writer s.waiter r
        ((p.key, ⟨t, p.op, res, p.inv, s.now + 1⟩) :: s.hist) t ⟨.idle, none⟩)
  | val (p : Pending) (i : Nat) (v : Nat × Nat) (res : KRes) :
      StepK s t (.wVal i v res) (some p)
        (storeTo s (s.heap.modify i (fun n => { n with val := v })) s.first t ⟨.wUnlockM res, some p⟩)
  | prepend (p : Pending) (v vi : Nat) : (p.op = .ins v vi ∨ p.op = .tryIns v vi) →
      StepK s t .wPrepend (some p)
        (storeTo s (s.heap ++ [⟨p.key, (v, vi), s.first, false⟩]) (some s.heap.length) t
          ⟨.wTreeLink s.heap.length, some p⟩)
  | treeLink (p : Pending) (x : Nat) (bal : Bool) :
      StepK s t (.wTreeLink x) (some p)
        (storeTo s (s.heap.modify x (fun n => { n with inTree := true })) s.first t
          ⟨if bal then .lrTry none .none else .wUnlockM .none, some p⟩)
  | unlink (p : Pending) (i : Nat) (res : KRes) :
      StepK s t (.wUnlinkLocked i res) (some p)
        (storeTo s (unlinkOf s i).1 (unlinkOf s i).2 t ⟨.wRestructure (some i) res, some p⟩)
  | untree (p : Pending) (i : Nat) (res : KRes) :
      StepK s t (.wRestructure (some i) res) (some p)
        (storeTo s (s.heap.modify i (fun n => { n with inTree := false })) s.first t ⟨.wUnlockRoot res, some p⟩)
  | dead (p : Pending) (i : Nat) (res : KRes) (s' : State) : StepK s t (.wListUnlink i res) (some p) s'

theorem treeFind_congr {s s' : State} (h : s'.heap = s.heap) (k : Nat) : treeFind s' k = treeFind s k := by
  unfold treeFind; rw [h]

theorem absOf_congr {s s' : State} (h : s'.heap = s.heap) (k : Nat) : absOf s' k = absOf s k := by
  unfold absOf; rw [treeFind_congr h, h]

theorem absOf_of_treeFind_some {s : State} {k i : Nat} (h : treeFind s k = some i) :
    absOf s k = some (nodeAt s.heap i).val := by
  unfold absOf; rw [h]; rfl

theorem absOf_of_treeFind_none {s : State} {k : Nat} (h : treeFind s k = none) : absOf s k = none := by
  unfold absOf; rw [h]

/-- the list unlink under the write lock, in the form of `StepK.unlink` -/
theorem step_unlinkLocked {s s' : State} {t i : Nat} {res : KRes} {p : Pending} {inv : Option (Nat × KOp)}
    {bal : Bool} (hl : s.threads[t]? = some ⟨.wUnlinkLocked i res, some p⟩) (hs : step s t inv bal = some s') :
    s' = storeTo s (unlinkOf s i).1 (unlinkOf s i).2 t ⟨.wRestructure (some i) res, some p⟩ := by
  unfold step stepG at hs
  rw [hl] at hs
  refine Option.some.inj (hs.symm.trans ?_)
  unfold unlinkOf
  show some (setT (match predOf (chain s) i with | some pr => _ | none => _) t _) = _
  cases predOf (chain s) i <;> rfl

/-- `step` dissected once and for all. In each case `change … at hs` replaces the unfolded model by the
branch it takes at this program counter, so that the case analysis that follows works on a small term. -/
theorem step_stepK {s s' : State} {t : Nat} {pc : Pc} {call : Option Pending} {inv : Option (Nat × KOp)}
    {bal : Bool} (hl : s.threads[t]? = some ⟨pc, call⟩) (hs : step s t inv bal = some s') :
    StepK s t pc call s' := by
  have hs0 := hs
  unfold step stepG at hs
  rw [hl] at hs
  cases pc with
  | idle =>
    cases inv with
    | none =>
      cases hs
      have : s.threads = s.threads.set t ⟨.idle, call⟩ := by
        obtain ⟨ht, h⟩ := List.getElem?_eq_some_iff.1 hl
        rw [← h, List.set_getElem_self]
      show StepK s t _ _ { s with threads := s.threads, now := s.now + 1 }
      rw [this]
      exact .idle call
    | some ko => cases hs; exact .invoke call ko.1 ko.2
  | rFirst =>
    cases call with
    | none => cases hs
    | some p => cases hs; exact .move p _ _ _ _ _ .rFirst
  | rState cur =>
    cases cur with
    | none =>
      cases call with
      | none => cases hs
      | some p => cases hs; exact .fin p _ _ _ .rMiss
    | some c =>
      cases call with
      | none => cases hs
      | some p =>
        change (if _ then _ else _) = _ at hs
        split at hs
        · rename_i hb; cases hs; exact .move p _ _ _ _ _ (.rLinMode hb)
        · rename_i hb; cases hs; exact .move p _ _ _ _ _ (.rTreeMode (Bool.eq_false_iff.2 hb))
  | rLin c =>
    cases call with
    | none => cases hs
    | some p =>
      change (match s.heap[c]? with
        | none => none
        | some n => if (n.key == p.key) = true then (match p.op with | .has => _ | _ => _) else _) = _ at hs
      split at hs
      · cases hs
      · rename_i n hn
        split at hs
        · rename_i hk
          have hk := beq_iff_eq.1 hk
          split at hs
          · rename_i hop; cases hs; exact .fin p _ _ _ (.rLinHas hn hk hop)
          · rename_i hop; cases hs; exact .move p _ _ _ _ _ (.rLinHit hn hk (fun h => hop h))
        · rename_i hk; cases hs; exact .move p _ _ _ _ _ (.rLinNext hn (fun h => hk (beq_iff_eq.2 h)))
  | rCas c r =>
    cases call with
    | none => cases hs
    | some p =>
      change (if _ then _ else _) = _ at hs
      split at hs
      · rename_i hb
        cases hs
        exact .move p _ _ _ _ _ (.rCasOk (cas_cond hb).1 (cas_cond hb).2.1 (cas_cond hb).2.2)
      · cases hs; exact .move p _ _ _ _ _ .rCasFail
  | rTree =>
    cases call with
    | none => cases hs
    | some p => cases hs; exact .move p _ _ _ _ _ .rTree
  | rRelease hit =>
    cases call with
    | none => cases hs
    | some p =>
      change (match hit, p.op with
        | none, .has => _ | none, _ => _ | some _, .has => _ | some i, _ => _) = _ at hs
      split at hs
      · rename_i hop; cases hs
        have : (match p.op with | .has => KRes.bool false | _ => KRes.none) = .bool false := by rw [hop]
        rw [← this]; exact .fin p _ _ _ .rRelNone
      · rename_i hop; cases hs
        have : (match p.op with | .has => KRes.bool false | _ => KRes.none) = .none := by
          split
          · rename_i h; exact absurd h hop
          · rfl
        rw [← this]; exact .fin p _ _ _ .rRelNone
      · rename_i hop; cases hs; exact .fin p _ _ _ (.rRelHas hop)
      · rename_i hop; cases hs; exact .move p _ _ _ _ _ (.rRelVal (fun h => hop h))
  | rVal i =>
    cases call with
    | none => cases hs
    | some p =>
      change (match s.heap[i]? with | none => none | some n => _) = _ at hs
      split at hs
      · cases hs
      · rename_i n hn; cases hs; exact .fin p _ _ _ (.rVal hn)
  | wMutex =>
    cases call with
    | none => cases hs
    | some p =>
      change (if s.mutex.isSome = true then none else _) = _ at hs
      split at hs
      · cases hs
      · rename_i hm; cases hs; exact .move p _ _ _ _ _ (.wMutex (Option.not_isSome_iff_eq_none.1 hm))
  | wFind =>
    cases call with
    | none => cases hs
    | some p =>
      change (match p.op, treeFind s p.key with
        | .ins _ _, some _ => _ | .ins _ _, none => _ | .tryIns _ _, some _ => _ | .tryIns _ _, none => _
        | .rm, some _ => _ | .rm, none => _ | .cipInc _, some _ => _ | .cipInc _, none => _
        | .cipRm, some _ => _ | .cipRm, none => _ | .get, _ => _ | .has, _ => _) = _ at hs
      split at hs <;> rename_i hop hf
      · cases hs; exact .move p _ _ _ _ _ (.findVal hf (by rw [hop]; rfl))
      · cases hs; exact .move p _ _ _ _ _ (.findPrepend hf)
      · rename_i v vi i
        cases hs
        refine .move p _ _ _ _ _ (.findDone ?_)
        rw [absOf_of_treeFind_some hf, hop]
        exact (fun x : Nat × Nat => (rfl : specStep (some x) (.tryIns v vi) = (some x, .exists_ x.1 x.2))) _
      · cases hs; exact .move p _ _ _ _ _ (.findPrepend hf)
      · cases hs; exact .move p _ _ _ _ _ (.findRemove hf (by rw [hop]; rfl))
      · cases hs; exact .move p _ _ _ _ _ (.findDone (by rw [absOf_of_treeFind_none hf, hop]; rfl))
      · rename_i nvi i
        cases hs
        refine .move p _ _ _ _ _ (.findVal hf ?_)
        rw [hop]
        exact (fun x : Nat × Nat => (rfl : specStep (some x) (.cipInc nvi) =
          (some (x.1 + 1, nvi), .some (x.1 + 1) nvi))) _
      · cases hs; exact .move p _ _ _ _ _ (.findDone (by rw [absOf_of_treeFind_none hf, hop]; rfl))
      · cases hs; exact .move p _ _ _ _ _ (.findRemove hf (by rw [hop]; rfl))
      · cases hs; exact .move p _ _ _ _ _ (.findDone (by rw [absOf_of_treeFind_none hf, hop]; rfl))
      · cases hs
      · cases hs
  | wVal i v res =>
    cases call with
    | none => cases hs
    | some p => cases hs; exact .val p i v res
  | wPrepend =>
    cases call with
    | none => cases hs
    | some p =>
      change (match p.op with | .ins _ _ => _ | .tryIns _ _ => _ | _ => none) = _ at hs
      split at hs
      · rename_i v vi hop; cases hs; exact .prepend p v vi (Or.inl hop)
      · rename_i v vi hop; cases hs; exact .prepend p v vi (Or.inr hop)
      · cases hs
  | wTreeLink x =>
    cases call with
    | none => cases hs
    | some p =>
      cases bal with
      | true => cases hs; exact .treeLink p x true
      | false => cases hs; exact .treeLink p x false
  | wListUnlink i res =>
    cases call with
    | none => cases hs
    | some p => exact .dead p i res s'
  | wUnlinkLocked i res =>
    cases call with
    | none => cases hs
    | some p =>
      cases step_unlinkLocked hl hs0; exact .unlink p i res
  | lrTry rmv res =>
    cases call with
    | none => cases hs
    | some p =>
      change (if _ then _ else _) = _ at hs
      split at hs
      · rename_i hb
        cases hs
        cases rmv <;> exact .move p _ _ _ _ _ (.lrTryOk (cas_cond hb).1 (cas_cond hb).2.1 (cas_cond hb).2.2)
      · cases hs; exact .move p _ _ _ _ _ .lrTryFail
  | lrLoop rmv res =>
    cases call with
    | none => cases hs
    | some p =>
      change (if _ then _ else if _ then _ else none) = _ at hs
      split at hs
      · rename_i hb
        cases hs
        cases rmv <;> exact .move p _ _ _ _ _ (.lrLoopOk (loop_cond hb).1 (loop_cond hb).2)
      · split at hs
        · rename_i hw; cases hs; exact .move p _ _ _ _ _ (.lrLoopWait ((Bool.not_eq_true' _).mp hw))
        · cases hs
  | wRestructure rmv res =>
    cases call with
    | none => cases hs
    | some p =>
      cases rmv with
      | some i => cases hs; exact .untree p i res
      | none => cases hs; exact .move p _ _ _ _ _ .restructNone
  | wUnlockRoot res =>
    cases call with
    | none => cases hs
    | some p => cases hs; exact .move p _ _ _ _ _ .unlockRoot
  | wUnlockM res =>
    cases call with
    | none => cases hs
    | some p => cases hs; exact .fin p _ _ _ .unlockM

end Flurry.Proto.BinT
