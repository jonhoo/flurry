import Flurry.Lemmas.RBInsertFind
/-! # Height of tree bins and cost of a lookup; the checker `treeInvB` run on sample trees -/
namespace Flurry.RB
open T Ctx

theorem bh_height_size (t : T) (n : Nat) (hb : BH t n) (hr : NoRedRed t) :
    height t ≤ 2 * n + (if isRed t then 1 else 0) ∧ 2 ^ n ≤ size t + 1 := by
  induction hb with
  | nil => exact ⟨Nat.le_refl _, Nat.le_refl _⟩
  | @red l e r n h1 h2 ih1 ih2 =>
    obtain ⟨r1, r2, r3⟩ := hr
    have ⟨a1, a2⟩ := ih1 r2
    have ⟨b1, b2⟩ := ih2 r3
    rw [(r1 rfl).1] at a1; rw [(r1 rfl).2] at b1
    exact ⟨Nat.succ_le_succ (Nat.max_le.2 ⟨a1, b1⟩), Nat.le_trans a2 (by simp only [size]; omega)⟩
  | @black l e r n h1 h2 ih1 ih2 =>
    obtain ⟨-, r2, r3⟩ := hr
    have ⟨a1, a2⟩ := ih1 r2
    have ⟨b1, b2⟩ := ih2 r3
    have one (b : Bool) : (if b = true then 1 else 0) ≤ 1 := by cases b <;> decide
    have hl : height l ≤ 2 * n + 1 := Nat.le_trans a1 (Nat.add_le_add_left (one _) _)
    have hr : height r ≤ 2 * n + 1 := Nat.le_trans b1 (Nat.add_le_add_left (one _) _)
    refine ⟨Nat.le_trans (Nat.succ_le_succ (Nat.max_le.2 ⟨hl, hr⟩)) (by omega), ?_⟩
    rw [Nat.pow_succ]; simp only [size]; omega

/-- a tree bin with `n` entries has height at most `2 * log2 (n + 1)`, exponential form -/
theorem height_bound_pow (t : T) (hi : TreeInv t) : 2 ^ ((height t + 1) / 2) ≤ size t + 1 := by
  obtain ⟨-, h2, h3, n, h4⟩ := hi
  have ⟨a, b⟩ := bh_height_size t n h4 h3
  simp [h2] at a
  exact Nat.le_trans (Nat.pow_le_pow_right (by decide) (by omega)) b

theorem height_bound (t : T) (hi : TreeInv t) : height t ≤ 2 * Nat.log2 (size t + 1) := by
  obtain ⟨-, h2, h3, n, h4⟩ := hi
  have ⟨a, b⟩ := bh_height_size t n h4 h3
  simp [h2] at a
  have : n ≤ Nat.log2 (size t + 1) := (Nat.le_log2 (by omega)).2 b
  omega

theorem findNode_cost_log (h k : Nat) (t : T) (hi : TreeInv t) :
    (findNode h k t 0).2 ≤ 4 * Nat.log2 (size t + 1) := by
  have := findNode_cost h k t 0
  have := height_bound t hi
  omega

/-- `TreeInv` is decidable through the checker (not an instance, to avoid clashes; use
`(treeInvB_iff _).1 (by decide)` or `haveI := decTreeInv t`) -/
def decTreeInv (t : T) : Decidable (TreeInv t) := decidable_of_iff _ (treeInvB_iff t)

/-- ten entries with the same hash (a colliding bin) -/
def sampleNodes : List Node :=
  [5, 3, 8, 1, 4, 7, 9, 2, 6, 0].map (fun k => { hash := 17, key := k, ki := k, val := 100 + k, vi := k })

example : sampleNodes.Pairwise (fun a b => ¬(a.hash = b.hash ∧ a.key = b.key)) := by decide +kernel
example : TreeInv (ofList sampleNodes) := (treeInvB_iff _).1 (by decide +kernel)
example : height (ofList sampleNodes) = 4 ∧ size (ofList sampleNodes) = 10 := by decide +kernel
example : (find 17 6 (ofList sampleNodes)).map (·.val) = some 106 := by decide +kernel
example : find 17 11 (ofList sampleNodes) = none := by decide +kernel
example : ∀ x ∈ toList (ofList sampleNodes), ¬(x.hash = 17 ∧ x.key = 11) := by decide +kernel
example : TreeInv (insertNew (ofList sampleNodes) { hash := 17, key := 11, ki := 0, val := 0, vi := 0 }) :=
  (treeInvB_iff _).1 (by decide +kernel)
/-- ascending insertion (the worst case for an unbalanced tree) with mixed hashes -/
example : TreeInv (ofList ((List.range 16).map (fun k => { hash := k / 4, key := k, ki := k, val := k, vi := k }))) :=
  (treeInvB_iff _).1 (by decide +kernel)

end Flurry.RB
