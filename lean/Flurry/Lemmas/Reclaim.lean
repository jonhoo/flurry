import Flurry.Lemmas.ReclaimBasic
import Flurry.Lemmas.ReclaimSafe
import Flurry.Lemmas.ReclaimFree
import Flurry.Lemmas.ReclaimExamples

