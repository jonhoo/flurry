import Flurry.Lemmas.BinGNPBase
import Flurry.Lemmas.BinKStep
/-! # Proto/BinGN: the transitions in normal form

`StepN s t l s'` lists the transitions of thread `t` of `step = stepG true` with explicit successor
states, grouped by what they do to the shared state (as `Lemmas/BinKStep.lean`):
* `move` / `bmove` / `fin` / `bfin` (a call in flight), `kmove` / `kbmove` (treeify and resize
  threads): heap cells other than lock words, the `first` fields, the cells of the tables and the table
  pointer are untouched; the program counter moves, one lock word of a node or the synchronisation
  words of one `TreeBin` may change;
* the stores of `Proto/BinK`: `cas`, `store`, `tval`, `prepend`, `treeLink`, `unlink`, `untree`,
  `untreeify`, `kbuild`, `kstore` (in the cell of the key in generation `g`);
* the resize of generation `s.cur`: `resizeStart` (allocates generation `cur + 1`), and per cell `(cur, j)`:
  `xcasMoved j`, `xbuild j` (list split), `ybuild j` (tree split), `xstoreLow j` (child `(cur+1, j)`),
  `xstoreHigh j` (child `(cur+1, j + 2^cur)`), `xstoreMoved j`; `xcommit`. The choice of the next cell
  (`xNext`) is a `kmove`.
`step_stepN` (`Lemmas/BinGNPStepN.lean`) dissects `step` once and for all. -/
namespace Flurry.Proto.BinGNP
open Flurry.Lin
open Flurry.Proto.BinK (nodeAt binAt lockSet isInsert)

/-- the state with the clock advanced -/
def tick (s : State) : State := { s with now := s.now + 1 }

/-- clock advanced, heap and `TreeBin` table replaced -/
def qst (s : State) (hp : List NodeS) (tb : List TBin) : State :=
  { s with now := s.now + 1, heap := hp, tbins := tb }

/-- the list unlink of node `i` of tree bin `b` -/
def unlinkOf (s : State) (b i : Nat) : State :=
  match predOf (chainOfBin s b) i with
  | some pr => setNode s pr (fun m => { m with next := (nodeAt s.heap i).next })
  | none => setBin s b (fun y => { y with first := (nodeAt s.heap i).next })

/-- the tree's view of key `k` in bin `b` -/
def absTree (s : State) (b k : Nat) : KSt :=
  match treeFind s b k with
  | some i => some (nodeAt s.heap i).val
  | none => none

/-- transitions of a thread with a call in flight that leave the shared state alone but for one lock
word of a node, and do not complete the call: `Move s t p pc pc' heap'` -/
inductive Move (s : State) (t : Nat) (p : Pending) : Pc → Pc → List NodeS → Prop
  | rTable {lo : Bool} : Move s t p (.rTable lo) (.rCell lo s.cur) s.heap
  | rCellMoved {lo : Bool} {g : Nat} : cellOf s g p.key = .moved →
      Move s t p (.rCell lo g) (.rCell lo (g + 1)) s.heap
  | rCellList {lo : Bool} {g : Nat} {h : Nat} : cellOf s g p.key = .list h →
      Move s t p (.rCell lo g) (.rNode (some h)) s.heap
  | rCellTree {lo : Bool} {g : Nat} {b : Nat} : cellOf s g p.key = .tree b →
      Move s t p (.rCell lo g) (if lo then .lFirst b else .rFirst b) s.heap
  | rNodeNext {c : Nat} {n : NodeS} : s.heap[c]? = some n → n.key ≠ p.key →
      Move s t p (.rNode (some c)) (.rNode n.next) s.heap
  | rFirst {b : Nat} : Move s t p (.rFirst b) (.rState b (binAt s.tbins b).first) s.heap
  | rLinMode {b c : Nat} : ((binAt s.tbins b).writer || (binAt s.tbins b).waiter) = true →
      Move s t p (.rState b (some c)) (.rLin b c) s.heap
  | rTreeMode {b c : Nat} : ((binAt s.tbins b).writer || (binAt s.tbins b).waiter) = false →
      Move s t p (.rState b (some c)) (.rCas b c (binAt s.tbins b).readers) s.heap
  | rLinNext {b c : Nat} {n : NodeS} : s.heap[c]? = some n → n.key ≠ p.key →
      Move s t p (.rLin b c) (.rState b n.next) s.heap
  | rLinHit {b c : Nat} {n : NodeS} : s.heap[c]? = some n → n.key = p.key → p.op ≠ .has →
      Move s t p (.rLin b c) (.rVal c) s.heap
  | rCasFail {b c r : Nat} : Move s t p (.rCas b c r) (.rState b (some c)) s.heap
  | rTree {b : Nat} : Move s t p (.rTree b) (.rRelease b (treeFind s b p.key)) s.heap
  | lFirst {b : Nat} : Move s t p (.lFirst b) (.lNode (binAt s.tbins b).first) s.heap
  | lNext {c : Nat} {n : NodeS} : s.heap[c]? = some n → n.key ≠ p.key →
      Move s t p (.lNode (some c)) (.lNode n.next) s.heap
  | lHit {c : Nat} {n : NodeS} : s.heap[c]? = some n → n.key = p.key → p.op ≠ .has →
      Move s t p (.lNode (some c)) (.rVal c) s.heap
  | wTable : Move s t p .wTable (.wCell s.cur) s.heap
  | wCellMoved {g : Nat} : cellOf s g p.key = .moved → Move s t p (.wCell g) (.wCell (g + 1)) s.heap
  | wCellCas {g : Nat} : cellOf s g p.key = .empty → isInsert p.op = true →
      Move s t p (.wCell g) (.wCas g) s.heap
  | wCellList {g : Nat} {h : Nat} : cellOf s g p.key = .list h →
      Move s t p (.wCell g) (.wLock g h) s.heap
  | wCellTree {g : Nat} {b : Nat} : cellOf s g p.key = .tree b →
      Move s t p (.wCell g) (.tMutex g b) s.heap
  | wCasFail {g : Nat} : (cellOf s g p.key ≠ .empty ∨ isInsert p.op = false) →
      Move s t p (.wCas g) (.wCell g) s.heap
  | wLock {g : Nat} {h : Nat} {n : NodeS} : s.heap[h]? = some n → n.lock = none →
      Move s t p (.wLock g h) (.wCheck g h) (lockSet s.heap h (some t))
  | wCheckOk {g : Nat} {h : Nat} : cellOf s g p.key = .list h →
      Move s t p (.wCheck g h) (.wFind g h none (some h)) s.heap
  | wCheckFail {g : Nat} {h : Nat} : cellOf s g p.key ≠ .list h →
      Move s t p (.wCheck g h) (.wUnlock g h .none true) s.heap
  | wFindEnd {g : Nat} {h : Nat} {pred : Option Nat} :
      Move s t p (.wFind g h pred none) (.wStore g h pred none none) s.heap
  | wFindHit {g : Nat} {h : Nat} {pred : Option Nat} {c : Nat} {n : NodeS} : s.heap[c]? = some n →
      n.key = p.key → Move s t p (.wFind g h pred (some c)) (.wStore g h pred (some c) n.next) s.heap
  | wFindNext {g : Nat} {h : Nat} {pred : Option Nat} {c : Nat} {n : NodeS} : s.heap[c]? = some n →
      n.key ≠ p.key → Move s t p (.wFind g h pred (some c)) (.wFind g h (some c) n.next) s.heap
  | wUnlockRetry {g : Nat} {h : Nat} {res : KRes} :
      Move s t p (.wUnlock g h res true) (.wCell g) (lockSet s.heap h none)
  | tCheckOk {g : Nat} {b : Nat} : cellOf s g p.key = .tree b →
      Move s t p (.tCheck g b) (.tFind g b) s.heap
  | tCheckFail {g : Nat} {b : Nat} : cellOf s g p.key ≠ .tree b →
      Move s t p (.tCheck g b) (.tUnlockM g b .none true) s.heap
  | findVal {g : Nat} {b i : Nat} {v : Nat × Nat} {res : KRes} : treeFind s b p.key = some i →
      specStep (some (nodeAt s.heap i).val) p.op = (some v, res) →
      Move s t p (.tFind g b) (.tVal g b i v res) s.heap
  | findInsert {g : Nat} {b : Nat} : treeFind s b p.key = none → isInsert p.op = true →
      Move s t p (.tFind g b) (.lrTry g b .insert .none) s.heap
  | findRemove {g : Nat} {b i : Nat} {res : KRes} : treeFind s b p.key = some i →
      specStep (some (nodeAt s.heap i).val) p.op = (none, res) →
      Move s t p (.tFind g b) (.lrTry g b (.remove i) res) s.heap
  | findDone {g : Nat} {b : Nat} {res : KRes} :
      specStep (absTree s b p.key) p.op = (absTree s b p.key, res) →
      Move s t p (.tFind g b) (.tUnlockM g b res false) s.heap
  | lrTryFail {g : Nat} {b : Nat} {k : After} {res : KRes} :
      Move s t p (.lrTry g b k res) (.lrLoop g b k res) s.heap

/-- transitions of a thread with a call in flight that change the synchronisation words of one
`TreeBin` and do not complete the call: `BMove s t p pc pc' tbins'` -/
inductive BMove (s : State) (t : Nat) (p : Pending) : Pc → Pc → List TBin → Prop
  | rCasOk {b c r : Nat} : (binAt s.tbins b).writer = false → (binAt s.tbins b).waiter = false →
      (binAt s.tbins b).readers = r →
      BMove s t p (.rCas b c r) (.rTree b) (s.tbins.modify b (fun x => { x with readers := x.readers + 1 }))
  | rRelVal {b i : Nat} : p.op ≠ .has →
      BMove s t p (.rRelease b (some i)) (.rVal i) (s.tbins.modify b (fun x => { x with readers := x.readers - 1 }))
  | tMutex {g : Nat} {b : Nat} : (binAt s.tbins b).mutex = none →
      BMove s t p (.tMutex g b) (.tCheck g b) (s.tbins.modify b (fun x => { x with mutex := some t }))
  | lrTryOk {g : Nat} {b : Nat} {k : After} {res : KRes} : (binAt s.tbins b).writer = false →
      (binAt s.tbins b).waiter = false → (binAt s.tbins b).readers = 0 →
      BMove s t p (.lrTry g b k res) (afterLock g b k res) (s.tbins.modify b (fun x => { x with writer := true }))
  | lrLoopOk {g : Nat} {b : Nat} {k : After} {res : KRes} : (binAt s.tbins b).writer = false →
      (binAt s.tbins b).readers = 0 →
      BMove s t p (.lrLoop g b k res) (afterLock g b k res)
        (s.tbins.modify b (fun x => { x with writer := true, waiter := false }))
  | lrLoopWait {g : Nat} {b : Nat} {k : After} {res : KRes} : (binAt s.tbins b).waiter = false →
      BMove s t p (.lrLoop g b k res) (.lrLoop g b k res) (s.tbins.modify b (fun x => { x with waiter := true }))
  | unlockRoot {g : Nat} {b : Nat} {res : KRes} :
      BMove s t p (.tUnlockRoot g b res) (.tUnlockM g b res false)
        (s.tbins.modify b (fun x => { x with writer := false, waiter := false }))
  | tUnlockMRetry {g : Nat} {b : Nat} {res : KRes} :
      BMove s t p (.tUnlockM g b res true) (.wCell g) (s.tbins.modify b (fun x => { x with mutex := none }))

/-- calls that complete without a store: `Fin s p pc res heap'` -/
inductive Fin (s : State) (p : Pending) : Pc → KRes → List NodeS → Prop
  | rCellEmpty {lo : Bool} {g : Nat} : cellOf s g p.key = .empty →
      Fin s p (.rCell lo g) (absentRes p.op) s.heap
  | rNodeMiss : Fin s p (.rNode none) (absentRes p.op) s.heap
  | rNodeHit {c : Nat} {n : NodeS} : s.heap[c]? = some n → n.key = p.key →
      Fin s p (.rNode (some c)) (match p.op with | .has => .bool true | _ => .some n.val.1 n.val.2) s.heap
  | rMiss {b : Nat} : Fin s p (.rState b none) (absentRes p.op) s.heap
  | rLinHas {b c : Nat} {n : NodeS} : s.heap[c]? = some n → n.key = p.key → p.op = .has →
      Fin s p (.rLin b c) (.bool true) s.heap
  | rVal {i : Nat} {n : NodeS} : s.heap[i]? = some n → Fin s p (.rVal i) (.some n.val.1 n.val.2) s.heap
  | lMiss : Fin s p (.lNode none) (absentRes p.op) s.heap
  | lHas {c : Nat} {n : NodeS} : s.heap[c]? = some n → n.key = p.key → p.op = .has →
      Fin s p (.lNode (some c)) (.bool true) s.heap
  | wCellEmpty {g : Nat} : cellOf s g p.key = .empty → isInsert p.op = false →
      Fin s p (.wCell g) .none s.heap
  | wUnlockFin {g : Nat} {h : Nat} {res : KRes} :
      Fin s p (.wUnlock g h res false) res (lockSet s.heap h none)

/-- calls that complete with a change of the synchronisation words of one `TreeBin`:
`BFin s p pc res tbins'` -/
inductive BFin (s : State) (p : Pending) : Pc → KRes → List TBin → Prop
  | rRelNone {b : Nat} : BFin s p (.rRelease b none) (absentRes p.op)
      (s.tbins.modify b (fun x => { x with readers := x.readers - 1 }))
  | rRelHas {b i : Nat} : p.op = .has → BFin s p (.rRelease b (some i)) (.bool true)
      (s.tbins.modify b (fun x => { x with readers := x.readers - 1 }))
  | tUnlockMFin {g : Nat} {b : Nat} {res : KRes} : BFin s p (.tUnlockM g b res false) res
      (s.tbins.modify b (fun x => { x with mutex := none }))

/-- transitions of the treeify thread and of the resizing thread that change at most one lock word
of a node: `KMove s t pc pc' heap'` -/
inductive KMove (s : State) (t : Nat) : Pc → Pc → List NodeS → Prop
  | kTable {k : Nat} : KMove s t (.kTable k) (.kCell s.cur k) s.heap
  | kCellList {g : Nat} {k h : Nat} : cellOf s g k = .list h →
      KMove s t (.kCell g k) (.kLock g k h) s.heap
  | kCellMoved {g : Nat} {k : Nat} : cellOf s g k = .moved → KMove s t (.kCell g k) (.kCell (g + 1) k) s.heap
  | kCellOther {g : Nat} {k : Nat} : (∀ h, cellOf s g k ≠ .list h) → cellOf s g k ≠ .moved →
      KMove s t (.kCell g k) .idle s.heap
  | kLock {g : Nat} {k h : Nat} {n : NodeS} : s.heap[h]? = some n → n.lock = none →
      KMove s t (.kLock g k h) (.kCheck g k h) (lockSet s.heap h (some t))
  | kCheckOk {g : Nat} {k h : Nat} : cellOf s g k = .list h →
      KMove s t (.kCheck g k h) (.kBuild g k h) s.heap
  | kCheckFail {g : Nat} {k h : Nat} : cellOf s g k ≠ .list h →
      KMove s t (.kCheck g k h) (.kUnlock h) s.heap
  | kUnlock {h : Nat} : KMove s t (.kUnlock h) .idle (lockSet s.heap h none)
  | xNextCommit : allMoved s s.cur = true → KMove s t .xNext .xCommit s.heap
  | xNextCell {pick : Nat} : allMoved s s.cur = false → KMove s t .xNext (.xCell (pick % 2 ^ s.cur)) s.heap
  | xCellEmpty {j : Nat} : cellAt s (s.cur, j) = .empty → KMove s t (.xCell j) (.xCasMoved j) s.heap
  | xCellList {j h : Nat} : cellAt s (s.cur, j) = .list h → KMove s t (.xCell j) (.xLock j h) s.heap
  | xCellTree {j b : Nat} : cellAt s (s.cur, j) = .tree b → KMove s t (.xCell j) (.yMutex j b) s.heap
  | xCellMoved {j : Nat} : cellAt s (s.cur, j) = .moved → KMove s t (.xCell j) .xNext s.heap
  | xCasFail {j : Nat} : cellAt s (s.cur, j) ≠ .empty → KMove s t (.xCasMoved j) (.xCell j) s.heap
  | xLock {j h : Nat} {n : NodeS} : s.heap[h]? = some n → n.lock = none →
      KMove s t (.xLock j h) (.xCheck j h) (lockSet s.heap h (some t))
  | xCheckOk {j h : Nat} : cellAt s (s.cur, j) = .list h → KMove s t (.xCheck j h) (.xBuild j h) s.heap
  | xCheckFail {j h : Nat} : cellAt s (s.cur, j) ≠ .list h →
      KMove s t (.xCheck j h) (.xCell j) (lockSet s.heap h none)
  | yCheckOk {j b : Nat} : cellAt s (s.cur, j) = .tree b → KMove s t (.yCheck j b) (.yBuild j b) s.heap
  | xUnlockL {h : Nat} : KMove s t (.xUnlock (.inl h)) .xNext (lockSet s.heap h none)

/-- transitions of the resizing thread that change the mutex of one `TreeBin`:
`KBMove s t pc pc' tbins'` -/
inductive KBMove (s : State) (t : Nat) : Pc → Pc → List TBin → Prop
  | yMutex {j b : Nat} : (binAt s.tbins b).mutex = none →
      KBMove s t (.yMutex j b) (.yCheck j b) (s.tbins.modify b (fun x => { x with mutex := some t }))
  | yCheckFail {j b : Nat} : cellAt s (s.cur, j) ≠ .tree b →
      KBMove s t (.yCheck j b) (.xCell j) (s.tbins.modify b (fun x => { x with mutex := none }))
  | xUnlockT {b : Nat} : KBMove s t (.xUnlock (.inr b)) .xNext (s.tbins.modify b (fun x => { x with mutex := none }))

/-- the state after the copy made by `kBuild` -/
def buildOf (s : State) (h : Nat) : State :=
  { s with
    heap := (copyChain s.heap (chainFrom s.heap s.heap.length (some h))
      (fun src nx => ⟨src.key, src.val, nx, none, true, some s.tbins.length⟩)).1,
    tbins := s.tbins ++ [{ first := (copyChain s.heap (chainFrom s.heap s.heap.length (some h))
      (fun src nx => ⟨src.key, src.val, nx, none, true, some s.tbins.length⟩)).2 }] }

/-- the state after the copy and store of `tUntreeify` -/
def untreeifyOf (s : State) (g : Nat) (k b : Nat) : State :=
  setCell { s with
    heap := (copyChain s.heap (chainOfBin s b) (fun src nx => ⟨src.key, src.val, nx, none, false, none⟩)).1 }
    g k (cellOfHead (copyChain s.heap (chainOfBin s b) (fun src nx => ⟨src.key, src.val, nx, none, false, none⟩)).2)

/-- the list split of `xBuild`: new heap, planned low cell, planned high cell -/
def xsplitOf (s : State) (h : Nat) : List NodeS × Cell × Cell :=
  let r := splitBinB (bitAt s.cur) s.heap (chainFrom s.heap s.heap.length (some h))
  (r.1, cellOfHead r.2.1, cellOfHead r.2.2)

/-- the low nodes / the high nodes of the list of tree bin `b` -/
def lowOf (s : State) (b : Nat) : List Nat := (chainOfBin s b).filter fun i => !bitAt s.cur (s.heap.getD i dflt).key
def highOf (s : State) (b : Nat) : List Nat := (chainOfBin s b).filter fun i => bitAt s.cur (s.heap.getD i dflt).key

/-- the tree split of `yBuild`: the state after both sides, planned low cell, planned high cell -/
def ysplitOf (s : State) (b : Nat) (small small2 : Bool) : State × Cell × Cell :=
  let r1 := splitSide s b (lowOf s b) small (highOf s b).isEmpty
  let r2 := splitSide r1.1 b (highOf s b) small2 (lowOf s b).isEmpty
  (r2.1, r1.2, r2.2)

inductive StepN (s : State) (t : Nat) (l : Local) : State → Prop
  | idle : l.pc = .idle → StepN s t l (setT (tick s) t l)
  | maint (k : Nat) : l.pc = .idle → StepN s t l (setT (tick s) t { l with pc := .kTable k })
  | resizeStart : l.pc = .idle → s.resizing = false →
      StepN s t l { (setT (tick s) t { l with pc := .xNext }) with
        resizing := true, tabs := s.tabs ++ [List.replicate (2 ^ (s.cur + 1)) .empty] }
  | invoke (k : Nat) (op : KOp) (lo : Bool) : l.pc = .idle →
      StepN s t l (setT (tick s) t
        { pc := if isReader op then .rTable lo else .wTable, call := some ⟨k, op, s.now + 1⟩ })
  | move (p : Pending) (pc' : Pc) (hp : List NodeS) : l.call = some p →
      Move s t p l.pc pc' hp → StepN s t l (setT (qst s hp s.tbins) t { l with pc := pc' })
  | bmove (p : Pending) (pc' : Pc) (tb : List TBin) : l.call = some p →
      BMove s t p l.pc pc' tb → StepN s t l (setT (qst s s.heap tb) t { l with pc := pc' })
  | kmove (pc' : Pc) (hp : List NodeS) : l.call = none →
      KMove s t l.pc pc' hp → StepN s t l (setT (qst s hp s.tbins) t { l with pc := pc' })
  | kbmove (pc' : Pc) (tb : List TBin) : l.call = none →
      KBMove s t l.pc pc' tb → StepN s t l (setT (qst s s.heap tb) t { l with pc := pc' })
  | fin (p : Pending) (res : KRes) (hp : List NodeS) : l.call = some p →
      Fin s p l.pc res hp → StepN s t l (finish (qst s hp s.tbins) t p res)
  | bfin (p : Pending) (res : KRes) (tb : List TBin) : l.call = some p →
      BFin s p l.pc res tb → StepN s t l (finish (qst s s.heap tb) t p res)
  | cas (p : Pending) (g : Nat) (v vi : Nat) : l.call = some p → l.pc = .wCas g →
      cellOf s g p.key = .empty → (p.op = .ins v vi ∨ p.op = .tryIns v vi) →
      StepN s t l (finish (setCell (qst s (s.heap ++ [⟨p.key, (v, vi), none, none, false, none⟩]) s.tbins)
        g p.key (.list s.heap.length)) t p .none)
  | store (p : Pending) (g : Nat) (h : Nat) (pred hit hnext : Option Nat) : l.call = some p →
      l.pc = .wStore g h pred hit hnext →
      StepN s t l (setT (storeAt (tick s) g p pred hit hnext).1 t
        { l with pc := .wUnlock g h (storeAt (tick s) g p pred hit hnext).2 false })
  | tval (p : Pending) (g : Nat) (b i : Nat) (v : Nat × Nat) (res : KRes) : l.call = some p →
      l.pc = .tVal g b i v res →
      StepN s t l (setT (setNode (tick s) i (fun n => { n with val := v })) t { l with pc := .tUnlockM g b res false })
  | prepend (p : Pending) (g : Nat) (b v vi : Nat) : l.call = some p → l.pc = .tPrependLocked g b →
      (p.op = .ins v vi ∨ p.op = .tryIns v vi) →
      StepN s t l (setT
        (setBin (qst s (s.heap ++ [⟨p.key, (v, vi), (binAt s.tbins b).first, none, false, some b⟩]) s.tbins)
          b (fun y => { y with first := some s.heap.length })) t
        { l with pc := .tTreeLinkLocked g b s.heap.length })
  | treeLink (p : Pending) (g : Nat) (b x : Nat) : l.call = some p → l.pc = .tTreeLinkLocked g b x →
      StepN s t l (setT (setNode (tick s) x (fun n => { n with inTree := true })) t
        { l with pc := .tUnlockRoot g b .none })
  | unlink (p : Pending) (g : Nat) (b i : Nat) (res : KRes) (small : Bool) : l.call = some p →
      l.pc = .tUnlinkLocked g b i res →
      StepN s t l (setT (unlinkOf (tick s) b i) t
        { l with pc := if small then .tUntreeify g b res else .tRestructure g b i res })
  | untree (p : Pending) (g : Nat) (b i : Nat) (res : KRes) : l.call = some p → l.pc = .tRestructure g b i res →
      StepN s t l (setT (setNode (tick s) i (fun n => { n with inTree := false })) t
        { l with pc := .tUnlockRoot g b res })
  | untreeify (p : Pending) (g : Nat) (b : Nat) (res : KRes) : l.call = some p → l.pc = .tUntreeify g b res →
      StepN s t l (setT (untreeifyOf (tick s) g p.key b) t { l with pc := .tUnlockM g b res false })
  | kbuild (g : Nat) (k h : Nat) : l.call = none → l.pc = .kBuild g k h →
      StepN s t l (setT (buildOf (tick s) h) t { l with pc := .kStore g k h s.tbins.length })
  | kstore (g : Nat) (k h b : Nat) : l.call = none → l.pc = .kStore g k h b →
      StepN s t l (setT (setCell (tick s) g k (.tree b)) t { l with pc := .kUnlock h })
  | xcasMoved (j : Nat) : l.call = none → l.pc = .xCasMoved j → cellAt s (s.cur, j) = .empty →
      StepN s t l (putCell (setT (tick s) t { l with pc := .xNext }) s.cur j .moved)
  | xbuild (j h : Nat) : l.call = none → l.pc = .xBuild j h →
      StepN s t l (setT (qst s (xsplitOf s h).1 s.tbins) t
        { l with pc := .xStoreLow j (.inl h) (xsplitOf s h).2.1 (xsplitOf s h).2.2 })
  | ybuild (j b : Nat) (small small2 : Bool) : l.call = none → l.pc = .yBuild j b →
      StepN s t l (setT (ysplitOf (tick s) b small small2).1 t
        { l with pc := .xStoreLow j (.inr b) (ysplitOf (tick s) b small small2).2.1 (ysplitOf (tick s) b small small2).2.2 })
  | xstoreLow (j : Nat) (unl : Nat ⊕ Nat) (lo hi : Cell) : l.call = none → l.pc = .xStoreLow j unl lo hi →
      StepN s t l (putCell (setT (tick s) t { l with pc := .xStoreHigh j unl hi }) (s.cur + 1) j lo)
  | xstoreHigh (j : Nat) (unl : Nat ⊕ Nat) (hi : Cell) : l.call = none → l.pc = .xStoreHigh j unl hi →
      StepN s t l (putCell (setT (tick s) t { l with pc := .xStoreMoved j unl }) (s.cur + 1) (j + 2 ^ s.cur) hi)
  | xstoreMoved (j : Nat) (unl : Nat ⊕ Nat) : l.call = none → l.pc = .xStoreMoved j unl →
      StepN s t l (putCell (setT (tick s) t { l with pc := .xUnlock unl }) s.cur j .moved)
  | xcommit : l.call = none → l.pc = .xCommit →
      StepN s t l { (setT (tick s) t { l with pc := .idle }) with cur := s.cur + 1, resizing := false }

end Flurry.Proto.BinGNP
