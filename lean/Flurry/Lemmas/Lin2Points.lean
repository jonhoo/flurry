import Flurry.Lemmas.Lin2Search
/-! # Linearization points, sanity lemmas of the per-key specification, examples -/
namespace Flurry.Lin2

theorem replay_append (h : History2) : ∀ (o₁ o₂ : List Nat) (st : KSt),
    replay2 h (o₁ ++ o₂) st = (replay2 h o₁ st).bind (replay2 h o₂)
  | [], o₂, st => by simp [replay2]
  | i :: o₁, o₂, st => by
    cases hc : h[i]? with
    | none => simp [replay2, hc]
    | some c =>
      rw [List.cons_append, replay_cons_some hc, replay_cons_some hc]
      split
      · exact replay_append h o₁ o₂ _
      · simp

/-- if every call `i` has a point `pt i` inside its interval
`[inv, resp]` and replaying the calls in strictly increasing order of their points succeeds, the
history is linearizable.  (Distinctness of the points is the strictness of `hsorted`; `inv ≤ resp`
follows from `hpt`.) -/
theorem lin_of_points {h : History2} {init fin : KSt} (pt : Nat → Nat) (order : List Nat)
    (hpt : ∀ (i : Nat) (hi : i < h.length), h[i].inv ≤ pt i ∧ pt i ≤ h[i].resp)
    (hperm : order.Perm (List.range h.length))
    (hsorted : order.Pairwise (fun a b => pt a < pt b))
    (hrep : replay2 h order init = some fin) : Linearizable2 h init fin := by
  refine linearizable_iff_pairwise.2 ⟨order, hperm, ?_, hrep⟩
  refine hsorted.imp_of_mem ?_
  intro a b ha hb hab
  have ha' : a < h.length := List.mem_range.1 (hperm.subset ha)
  have hb' : b < h.length := List.mem_range.1 (hperm.subset hb)
  refine rtOk_iff.2 ⟨h[a], h[b], List.getElem?_eq_getElem ha', List.getElem?_eq_getElem hb', ?_⟩
  have h1 := hpt a ha'
  have h2 := hpt b hb'
  omega

def pointOrder (h : History2) (pt : Nat → Nat) : List Nat :=
  (List.range h.length).mergeSort (fun a b => decide (pt a ≤ pt b))

theorem pointOrder_perm (h : History2) (pt : Nat → Nat) :
    (pointOrder h pt).Perm (List.range h.length) := List.mergeSort_perm _ _

theorem pointOrder_sorted (h : History2) (pt : Nat → Nat)
    (hinj : ∀ i j, i < h.length → j < h.length → pt i = pt j → i = j) :
    (pointOrder h pt).Pairwise (fun a b => pt a < pt b) := by
  have hle : (pointOrder h pt).Pairwise (fun a b => decide (pt a ≤ pt b) = true) :=
    List.pairwise_mergeSort (le := fun a b => decide (pt a ≤ pt b))
      (by intro a b c; simp only [decide_eq_true_eq]; omega)
      (by intro a b; simp only [Bool.or_eq_true, decide_eq_true_eq]; omega) _
  have hnd : (pointOrder h pt).Pairwise (· ≠ ·) :=
    (pointOrder_perm h pt).nodup_iff.2 List.nodup_range
  refine (hle.and hnd).imp_of_mem ?_
  intro a b ha hb hab
  have ha' : a < h.length := List.mem_range.1 ((pointOrder_perm h pt).subset ha)
  have hb' : b < h.length := List.mem_range.1 ((pointOrder_perm h pt).subset hb)
  have h1 : pt a ≤ pt b := by simpa using hab.1
  have h2 : pt a ≠ pt b := fun he => hab.2 (hinj a b ha' hb' he)
  omega

/-- self-contained form: points inside the intervals, pairwise distinct, and the
replay in point order succeeds. -/
theorem lin_of_points_sorted {h : History2} {init fin : KSt} (pt : Nat → Nat)
    (hpt : ∀ (i : Nat) (hi : i < h.length), h[i].inv ≤ pt i ∧ pt i ≤ h[i].resp)
    (hinj : ∀ i j, i < h.length → j < h.length → pt i = pt j → i = j)
    (hrep : replay2 h (pointOrder h pt) init = some fin) : Linearizable2 h init fin :=
  lin_of_points pt _ hpt (pointOrder_perm h pt) (pointOrder_sorted h pt hinj) hrep

/-- a completed `ins` is seen by a following `get`; after `rm` the key is gone -/
theorem spec_read_after_ins (st : KSt) (v vi : Nat) :
    (specStep2 (specStep2 st (.ins v vi)).1 .get).2 = .some v vi ∧
    (specStep2 (specStep2 st .rm).1 .get).2 = .none ∧
    (specStep2 (specStep2 st .rm).1 .has).2 = .bool false := ⟨rfl, rfl, rfl⟩

theorem spec_has_after_ins (st : KSt) (v vi : Nat) :
    (specStep2 (specStep2 st (.ins v vi)).1 .has).2 = .bool true := rfl

theorem spec_tryIns_keeps (v0 vi0 v vi : Nat) :
    specStep2 (some (v0, vi0)) (.tryIns v vi) = (some (v0, vi0), .exists_ v0 vi0) := rfl

theorem spec_tryIns_absent (v vi : Nat) :
    specStep2 none (.tryIns v vi) = (some (v, vi), .none) := rfl

theorem spec_reads_pure (st : KSt) :
    (specStep2 st .get).1 = st ∧ (specStep2 st .has).1 = st := ⟨rfl, rfl⟩

/-- no resurrection: only `ins`/`tryIns` make an absent key present -/
theorem spec_absent_stays {op : KOp2} (hop : (specStep2 none op).1 ≠ none) :
    (∃ v vi, op = .ins v vi) ∨ (∃ v vi, op = .tryIns v vi) := by
  cases op <;> simp [specStep2] at hop ⊢

/-- the value of a present key changes only by `ins`, `rm`, `cipInc`, `cipRm`, `condRm` -/
theorem spec_present_change {st : KSt} {op : KOp2} (hst : st.isSome = true)
    (hop : (specStep2 st op).1 ≠ st) :
    (∃ v vi, op = .ins v vi) ∨ op = .rm ∨ (∃ n, op = .cipInc n) ∨ op = .cipRm ∨
      (∃ vi, op = .condRm vi) := by
  cases st with
  | none => simp at hst
  | some p => cases op <;> simp [specStep2] at hop ⊢

theorem replay_cipInc {h : History2} (hall : ∀ c ∈ h, ∃ n, c.op = .cipInc n) :
    ∀ (order : List Nat) (v vi : Nat) (fin : KSt),
      replay2 h order (some (v, vi)) = some fin → ∃ vi', fin = some (v + order.length, vi')
  | [], v, vi, fin, hr => by
    simp only [replay2, Option.some.injEq] at hr
    exact ⟨vi, by simp [← hr]⟩
  | i :: rest, v, vi, fin, hr => by
    obtain ⟨c, hc, _, hr'⟩ := replay_cons_eq_some hr
    obtain ⟨n, hn⟩ := hall c (List.mem_of_getElem? hc)
    rw [hn] at hr'
    obtain ⟨vi', hfin⟩ := replay_cipInc hall rest (v + 1) n fin hr'
    exact ⟨vi', by rw [hfin, List.length_cons]; congr 2; omega⟩

/-- concurrent increments are never lost -/
theorem spec_cipInc_counts {h : History2} {v vi : Nat} {fin : KSt}
    (hl : Linearizable2 h (some (v, vi)) fin) (hall : ∀ c ∈ h, ∃ n, c.op = .cipInc n) :
    ∃ vi', fin = some (v + h.length, vi') := by
  obtain ⟨order, hperm, _, hrep⟩ := hl
  obtain ⟨vi', hfin⟩ := replay_cipInc hall order v vi fin hrep
  have : order.length = h.length := by simpa using hperm.length_eq
  exact ⟨vi', by rw [hfin, this]⟩

theorem spec_cipInc_absent (n : Nat) : specStep2 none (.cipInc n) = (none, .none) := rfl

/-- a `get` that may be ordered after every call of `h` and reads the final state can be appended -/
theorem lin_snoc_get {h : History2} {init fin : KSt} {c : Call2}
    (hl : Linearizable2 h init fin) (hop : c.op = .get) (hres : c.res = resOf fin)
    (hlast : ∀ d ∈ h, d.inv ≤ c.resp) : Linearizable2 (h ++ [c]) init fin := by
  refine linearizable_iff_linL.2
    ((linearizable_iff_linL.1 hl).snoc ?_ fun d hd => Nat.not_lt.2 (hlast d hd))
  rintro m rfl
  exact ⟨m, kstep_of_spec (by rw [hop, hres]; rfl), rfl⟩

/-- (needs well-formed intervals, see the counterexample below) a final
`get` invoked after every call of `h` responded, answering the final state, keeps the history
linearizable with the same final state. -/
theorem lin_final_read {h : History2} {init fin : KSt} {c : Call2}
    (hl : Linearizable2 h init fin) (hop : c.op = .get) (hres : c.res = resOf fin)
    (hafter : ∀ d ∈ h, d.resp < c.inv)
    (hwf : ∀ d ∈ h, d.inv ≤ d.resp) (hc : c.inv ≤ c.resp) :
    Linearizable2 (h ++ [c]) init fin := by
  -- `d.inv ≤ d.resp < c.inv ≤ c.resp`
  exact lin_snoc_get hl hop hres fun d hd =>
    Nat.le_trans (hwf d hd) (Nat.le_trans (Nat.le_of_lt (hafter d hd)) hc)

/-- `ins` overlapping a `get` that already sees the value, then `rm` -/
def exLin : History2 :=
  [ ⟨0, .ins 1 10, .none, 0, 3⟩, ⟨1, .get, .some 1 10, 1, 2⟩, ⟨0, .rm, .some 1 10, 4, 5⟩ ]

example : validate exLin [0, 1, 2] none none = true := by decide
example : Linearizable2 exLin none none := validate_sound (by decide : validate exLin [0, 1, 2] none none = true)
example : search exLin none none = some [0, 1, 2] := by decide
/-- the order with the `get` first is rejected (it would read `none`) -/
example : validate exLin [1, 0, 2] none none = false := by decide
/-- an order violating real time is rejected -/
example : validate exLin [2, 0, 1] none none = false := by decide

/-- a `get` returns a value whose `ins` was invoked only after the `get` responded -/
def exNotLin : History2 :=
  [ ⟨0, .get, .some 1 10, 0, 1⟩, ⟨1, .ins 1 10, .none, 2, 3⟩, ⟨0, .has, .bool true, 4, 5⟩ ]

example : search exNotLin none (some (1, 10)) = none := by decide
example : ¬ Linearizable2 exNotLin none (some (1, 10)) := search_eq_none_iff.1 (by decide)
example : ¬ Linearizable2 exNotLin none (some (1, 10)) := by decide

/-- a lost update: two concurrent increments that both report `6` -/
def exLost : History2 :=
  [ ⟨0, .cipInc 1, .some 6 1, 0, 3⟩, ⟨1, .cipInc 2, .some 6 2, 1, 2⟩ ]

example : ∀ fin, fin ∈ [none, some (6, 1), some (6, 2), some (7, 1), some (7, 2)] →
    search exLost (some (5, 0)) fin = none := by decide
example : search [⟨0, .cipInc 1, .some 6 1, 0, 3⟩, ⟨1, .cipInc 2, .some 7 2, 1, 2⟩] (some (5, 0)) (some (7, 2))
    = some [0, 1] := by decide

/-- `lin_final_read` fails without `inv ≤ resp`: a call with `resp < inv` both "responded before"
and "was invoked after" the final read -/
def exBadInterval : History2 := [ ⟨0, .get, .none, 5, 0⟩ ]

example : Linearizable2 exBadInterval none none := by decide
example : ∀ d ∈ exBadInterval, d.resp < (⟨1, .get, .none, 1, 2⟩ : Call2).inv := by decide
example : ¬ Linearizable2 (exBadInterval ++ [⟨1, .get, .none, 1, 2⟩]) none none := by decide

end Flurry.Lin2
