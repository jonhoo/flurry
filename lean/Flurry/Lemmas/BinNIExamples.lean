import Flurry.Proto.BinNI
/-! # Proto/BinNI: the model exercised by execution (random schedule explorer) and kernel-checked runs (C07)

* `explore`: a seeded random scheduler over `BinNI.step` (writers on a few *hot* keys, the other keys are
  only written during a warm-up, resizes whenever none is running, iterators created at random moments
  by idle threads), then a drain; after EVERY step the abstract content of every key is recorded
  (`Trace`: `(time, absOf k for the keys)`); at the end, by brute force on the recorded trace:
  - `check1` (`iter_yield_was_present`): every yield `(k, v)` at time `τ` of an iteration created at `τ0`:
    some recorded state with time in `[τ0, τ]` has `absOf k = some v`;
  - `check2` (`iter_untouched_yielded_once`): for every completed iteration `[τ0, τ1]` and every key: if
    `absOf k` is the same `some v` in all recorded states of the interval, the iteration yields `k`
    exactly once, with `v`; if it is `none` throughout, `k` is not yielded.
* kernel-checked runs: the schedules `schedA`, `schedB`, `schedC` (section "kernel-checked runs" below); the verdict
  on `schedA` is `verdict_A` there, those on `schedB` and `schedC` are `iterator_across_two_resizes` and
  `iterator_on_frozen_list` of `Props/C07BinNI.lean`. -/
namespace Flurry.Proto.BinNI
open Flurry.Lin

structure Act where
  t : Nat
  it : Bool := false
  inv : Option (Nat × KOp) := none
  rz : Bool := false
  pick : Nat := 0
deriving Repr, DecidableEq

abbrev Sched := List Act

def act (s : State) (a : Act) : Option State := step s a.t a.it a.inv a.rz a.pick

/-- the recorded abstract contents: `(time, absOf k for k in keys)` after every step -/
abbrev Trace := List (Nat × List KSt × Nat)

def snap (keys : List Nat) (s : State) : Nat × List KSt × Nat := (s.n.now, keys.map (absOf s), s.n.cur)

/-- run a schedule, recording the abstract contents after every step (latest first) -/
def runT (keys : List Nat) : State → Trace → Sched → Option (State × Trace)
  | s, tr, [] => some (s, tr)
  | s, tr, a :: rest =>
    match act s a with
    | none => none
    | some s' => runT keys s' (snap keys s' :: tr) rest

def run : State → Sched → Option State
  | s, [] => some s
  | s, a :: rest =>
    match act s a with
    | none => none
    | some s' => run s' rest

/-- the recorded contents of key number `i` in the interval `[a, b]` -/
def during (tr : Trace) (i a b : Nat) : List KSt :=
  (tr.filter fun e => a ≤ e.1 && e.1 ≤ b).map fun e => e.2.1.getD i none

def check1 (keys : List Nat) (tr : Trace) (s : State) : Bool :=
  s.yields.all fun y =>
    match keys.idxOf? y.key with
    | none => false
    | some i => (during tr i y.t0 y.time).contains (some y.val)

def yieldsOf (s : State) (t t0 k : Nat) : List (Nat × Nat) :=
  (s.yields.filter fun y => y.tid == t && y.t0 == t0 && y.key == k).map (·.val)

def check2 (keys : List Nat) (tr : Trace) (s : State) : Bool :=
  s.ends.all fun (t, t0, t1) =>
    (List.range keys.length).all fun i =>
      let k := keys.getD i 0
      let d := during tr i t0 t1
      match d.head? with
      | none => false
      | some x =>
        if d.all (· == x) then
          match x with
          | some v => yieldsOf s t t0 k == [v]
          | none => yieldsOf s t t0 k == []
        else true

/-- number of (iteration, key) pairs for which `check2` has something to say: constant `some` / constant `none` -/
def untouchedCount (keys : List Nat) (tr : Trace) (s : State) : Nat × Nat :=
  s.ends.foldl (fun acc (_, t0, t1) =>
    (List.range keys.length).foldl (fun acc i =>
      let d := during tr i t0 t1
      match d.head? with
      | some (some v) => if d.all (· == some v) then (acc.1 + 1, acc.2) else acc
      | some none => if d.all (· == none) then (acc.1, acc.2 + 1) else acc
      | none => acc) acc) (0, 0)

/-- how many generations the table pointer advanced during `[a, b]` -/
def gensDuring (tr : Trace) (a b : Nat) : Nat :=
  let cs := (tr.filter fun e => a ≤ e.1 && e.1 ≤ b).map fun e => e.2.2
  cs.foldl max 0 - cs.foldl min 1000

/-! ## the explorer (`#eval` only) -/

def rngNext (x : Nat) : Nat := (x * 6364136223846793005 + 1442695040888963407) % 18446744073709551616
def rngPick (x n : Nat) : Nat := (x / 4294967296) % n

structure Cfg where
  nthreads : Nat := 4
  keys : List Nat := [0, 1, 2, 3, 4, 5, 6, 7]
  /-- keys written after the warm-up -/
  hot : List Nat := [1, 2, 4]
  /-- the first `warm` calls may be on any key -/
  warm : Nat := 8
  steps : Nat := 400
  calls : Nat := 20
  resizes : Nat := 3
  iters : Nat := 4
  pResize : Nat := 5
  pIter : Nat := 8
  pCall : Nat := 60
  /-- an iterating thread only takes one step out of `slow` when it is scheduled -/
  slow : Nat := 1

def mkOp (r : Nat) (vi : Nat) : KOp :=
  match r % 10 with
  | 0 | 1 | 2 | 3 => .ins (vi % 7) vi
  | 4 | 5 | 6 => .rm
  | 7 => .tryIns (vi % 7) vi
  | 8 => .cipInc vi
  | _ => .get

structure RunOut where
  sched : Sched
  s : State
  tr : Trace
  /-- max over completed iterations of (cur at the end − root generation) — approximated by the final `cur` -/
  blocked : Nat

def oneRun (cfg : Cfg) (seed : Nat) : RunOut := Id.run do
  let mut s := init cfg.nthreads
  let mut tr : Trace := [snap cfg.keys s]
  let mut rng := seed
  let mut sc : Array Act := #[]
  let mut calls := 0
  let mut rzs := 0
  let mut its := 0
  let mut blocked := 0
  for _ in [0:cfg.steps] do
    rng := rngNext rng
    let t := rngPick rng cfg.nthreads
    rng := rngNext rng
    let l := s.n.threads.getD t {}
    let it := s.its.getD t none
    let mut a : Act := { t := t }
    if l.pc == .idle && it.isNone then
      let r := rngPick rng 100
      rng := rngNext rng
      if r < cfg.pResize && !s.n.resizing && rzs < cfg.resizes then
        a := { t := t, rz := true }
        rzs := rzs + 1
      else if r < cfg.pResize + cfg.pIter && its < cfg.iters then
        a := { t := t, it := true }
        its := its + 1
      else if r < cfg.pResize + cfg.pIter + cfg.pCall && calls < cfg.calls then
        let ks := if calls < cfg.warm then cfg.keys else cfg.hot
        let k := ks.getD (rngPick rng ks.length) 0
        rng := rngNext rng
        let op := if calls < cfg.warm then KOp.ins (calls % 7) (100 + calls) else mkOp (rngPick rng 10) (100 + calls)
        a := { t := t, inv := some (k, op) }
        calls := calls + 1
      else continue
    else
      a := { t := t, pick := rngPick rng 64 }
      if it.isSome && cfg.slow > 1 then
        rng := rngNext rng
        if rngPick rng cfg.slow != 0 then continue
    match act s a with
    | none => blocked := blocked + 1
    | some s' =>
      sc := sc.push a
      s := s'
      tr := snap cfg.keys s :: tr
  -- drain
  for _ in [0:800] do
    let mut progress := false
    for t in [0:cfg.nthreads] do
      let l := s.n.threads.getD t {}
      let it := s.its.getD t none
      if l.pc != .idle || it.isSome then
        rng := rngNext rng
        let a : Act := { t := t, pick := rngPick rng 64 }
        match act s a with
        | none => blocked := blocked + 1
        | some s' =>
          sc := sc.push a
          s := s'
          tr := snap cfg.keys s :: tr
          progress := true
    if !progress then break
  return { sched := sc.toList, s := s, tr := tr, blocked := blocked }

structure Out where
  runs : Nat := 0
  bad1 : Option Sched := none
  bad2 : Option Sched := none
  notDrained : Nat := 0
  iterations : Nat := 0
  yields : Nat := 0
  /-- iterations that ended at least 1 / 2 / 3 generations after their root generation was current -/
  across : Nat × Nat × Nat := (0, 0, 0)
  constSome : Nat := 0
  constNone : Nat := 0
  maxGen : Nat := 0

def explore (cfg : Cfg) (seed0 nruns : Nat) : Out := Id.run do
  let mut o : Out := {}
  for i in [0:nruns] do
    let r := oneRun cfg (rngNext (seed0 + 7919 * i))
    let s := r.s
    o := { o with runs := o.runs + 1, iterations := o.iterations + s.ends.length, yields := o.yields + s.yields.length }
    if s.n.cur > o.maxGen then o := { o with maxGen := s.n.cur }
    if s.its.any Option.isSome || s.n.threads.any (fun l => l.pc != .idle) then o := { o with notDrained := o.notDrained + 1 }
    if !check1 cfg.keys r.tr s && o.bad1.isNone then o := { o with bad1 := some r.sched }
    if !check2 cfg.keys r.tr s && o.bad2.isNone then o := { o with bad2 := some r.sched }
    let (a, b) := untouchedCount cfg.keys r.tr s
    for (_, t0, t1) in s.ends do
      let d := gensDuring r.tr t0 t1
      o := { o with across := (o.across.1 + (if d ≥ 1 then 1 else 0), o.across.2.1 + (if d ≥ 2 then 1 else 0),
                                o.across.2.2 + (if d ≥ 3 then 1 else 0)) }
    o := { o with constSome := o.constSome + a, constNone := o.constNone + b }
  return o

def Out.report (o : Out) : String :=
  s!"runs {o.runs}, not drained {o.notDrained}, completed iterations {o.iterations}, yields {o.yields}, " ++
  s!"iterations across >=1/>=2/>=3 commits {o.across.1}/{o.across.2.1}/{o.across.2.2}, " ++
  s!"(iteration,key) untouched-present {o.constSome}, untouched-absent {o.constNone}, max generation {o.maxGen}; " ++
  (match o.bad1 with | none => "check1 OK" | some sc => s!"CHECK1 FAILS: {repr sc}") ++ "; " ++
  (match o.bad2 with | none => "check2 OK" | some sc => s!"CHECK2 FAILS: {repr sc}")

/-! ## kernel-checked runs

Thread 0 performs the calls, thread 1 iterates, thread 2 resizes (twice). `setup` builds the list
`[a: key 1, b: key 2, c: key 3]` in cell `(0,0)`; the two resizes are those of `Lemmas/BinNExamples.lean`
(`(1,0) = [b']`, `(1,1) = [a', c]`; then `(2,2) = [b']`, `(2,1) = [a'']`, `(2,3) = [c]`, `c` re-used twice).

* `schedA` — the iterator is created, loads cell `(0,0)` (the head `a`), sleeps through BOTH resizes, then
  walks the old (frozen) list `a, b, c`: three yields, the re-used node `c` once.
* `schedB` — the iterator is created before the two resizes and takes its first step after them: it
  descends `(0,0) → (1,0) → (2,0), (2,2)`, comes back, `(1,1) → (2,1), (2,3)`: yields `2, 1, 3`, each once.
* `schedC` — as `schedA`, but after the resizes `insert(1) = 9` and `remove(2)` complete before the iterator
  walks on: it yields the OLD pairs `(1,5)`, `(2,6)` (present at its creation) and the untouched key 3 once. -/

def rep (t n : Nat) : Sched := List.replicate n { t := t }
def call (t k : Nat) (op : KOp) : Sched := [{ t := t, inv := some (k, op) }]
def rz (t : Nat) : Sched := [{ t := t, rz := true }]
def mkIt (t : Nat) : Sched := [{ t := t, it := true }]
def xfer (t j : Nat) : Sched := [{ t := t, pick := j }] ++ rep t 8
def commit (t : Nat) : Sched := rep t 2
def setup : Sched :=
  call 0 1 (.ins 5 100) ++ rep 0 3 ++ call 0 2 (.ins 6 101) ++ rep 0 8 ++ call 0 3 (.ins 7 102) ++ rep 0 9
def twoResizes : Sched :=
  rz 2 ++ xfer 2 0 ++ commit 2 ++ rz 2 ++ xfer 2 0 ++ xfer 2 1 ++ commit 2
def keys4 : List Nat := [0, 1, 2, 3]

/-- `check1`, `check2`, the final generation, the completed iterations, the yields `(key, value, time)` in order -/
def verdictI (sc : Sched) : Option (Bool × Bool × Nat × List (Nat × Nat × Nat) × List (Nat × (Nat × Nat) × Nat)) :=
  (runT keys4 (init 4) [snap keys4 (init 4)] sc).map fun (s, tr) =>
    (check1 keys4 tr s, check2 keys4 tr s, s.n.cur, s.ends, s.yields.reverse.map fun (y : Yield) => (y.key, y.val, y.time))

def schedA : Sched := setup ++ mkIt 1 ++ rep 1 1 ++ twoResizes ++ rep 1 4
def schedB : Sched := setup ++ mkIt 1 ++ twoResizes ++ rep 1 11
def schedC : Sched :=
  setup ++ mkIt 1 ++ rep 1 1 ++ twoResizes ++ call 0 1 (.ins 9 104) ++ rep 0 7 ++ call 0 2 .rm ++ rep 0 8 ++ rep 1 4

instance : DecidableEq (List (Nat × Nat × Nat) × List (Nat × (Nat × Nat) × Nat)) := inferInstance

theorem verdict_A : verdictI schedA =
    some (true, true, 2, [(1, 24, 62)], [(1, (5, 100), 59), (2, (6, 101), 60), (3, (7, 102), 61)]) := by decide +kernel

theorem run_reachable {n : Nat} : ∀ (sc : Sched) {s s' : State}, Reachable n s → run s sc = some s' → Reachable n s'
  | [], s, s', hr, h => by simp only [run, Option.some.injEq] at h; exact h ▸ hr
  | a :: rest, s, s', hr, h => by
    simp only [run] at h
    cases hs : act s a with
    | none => rw [hs] at h; cases h
    | some s1 => rw [hs] at h; exact run_reachable rest (.step a.t a.it a.inv a.rz a.pick hr hs) h

/-- a small sample at build time -/
def sample : Out := explore { nthreads := 4, steps := 500, iters := 3, pIter := 30, pResize := 15, calls := 24, slow := 12 } 3 60

#eval IO.println sample.report

end Flurry.Proto.BinNI
