import Flurry.Lemmas.BinNInvDefs
/-! # Proto/BinN: the phase of the resizing thread (`PInv`) across a transition; states with the same memory

`pinv_frame`: a transition of another thread, or of the resizing thread outside the middle phase of a split, keeps
`PInv` if it leaves the two children of the cell being split alone. `pinv_T_none`, `pinv_T_mid`: the transitions of the
resizing thread itself. `SameMem` is a second definition with the body of `BinNHM.SameMem`
(`Lemmas/BinNHMInvFrame.lean`, which this file does not import; no lemma relates the two, and none is needed: no proof
passes from one to the other); its lemmas here are about
`BinN.HInv` and `BinN.Active` and serve `Proto/BinNR` and `Proto/BinNI`, while `BinN.stepK_inv` uses `BinNHM`'s. -/
namespace Flurry.Proto.BinN
open Flurry.Lin
open Flurry.Proto.BinX (NodeS Cell Pending dflt chainFrom cellHead cellOfHead nodeAt nodeAt_of_some getElem?_nodeAt
  nodeAt_append_left IsSeg IsChain chainH absIn KeysDistinct Walk get_set get_set_self get_set_ne)

theorem pcMid_of_not_mid (s : State) (G : Ghost) {pc : Pc} (h : ¬ isMidPc pc) : PcMid s G pc := by
  cases pc <;> first | trivial | exact absurd trivial h

theorem isMidPc_isT {pc : Pc} (h : isMidPc pc) : isT pc := by
  cases pc <;> first | trivial | exact h.elim

/-- `PInv` only concerns the resizing thread in its middle phase -/
theorem pinv_of {s : State} {G : Ghost}
    (h1 : ∀ (t : Nat) (l : Local), s.threads[t]? = some l → isMidPc l.pc → PcMid s G l.pc)
    (h2 : G.mid.isSome = true → ∃ (t : Nat) (l : Local), s.threads[t]? = some l ∧ isMidPc l.pc) : PInv s G := by
  refine ⟨?_, h2⟩
  intro t l hl
  by_cases hm : isMidPc l.pc
  · exact h1 t l hl hm
  · exact pcMid_of_not_mid s G hm

/-- `mid` is set only while the resizing thread is in its middle phase -/
theorem Inv.mid_none {s : State} {G : Ghost} (I : Inv s G) {t : Nat} {l : Local} (hl : s.threads[t]? = some l)
    (hT : isT l.pc) (hnm : ¬ isMidPc l.pc) : G.mid = none := by
  cases hm : G.mid with
  | none => rfl
  | some x =>
    obtain ⟨t1, l1, hl1, hm1⟩ := I.ph.midHas (by rw [hm]; rfl)
    have := I.gen.uniqT _ _ _ _ hl hl1 hT (isMidPc_isT hm1)
    subst this
    rw [hl] at hl1; cases hl1
    exact absurd hm1 hnm

theorem Inv.mid_none_of_not_resizing {s : State} {G : Ghost} (I : Inv s G) (hr : s.resizing = false) : G.mid = none := by
  cases hm : G.mid with
  | none => rfl
  | some x =>
    obtain ⟨t1, l1, hl1, hm1⟩ := I.ph.midHas (by rw [hm]; rfl)
    have := (I.gen.thr t1 l1 hl1).tres (isMidPc_isT hm1)
    rw [hr] at this; cases this

theorem pinv_frame {s s' : State} {G : Ghost} {t : Nat} {l l' : Local} (I : Inv s G) (hl : s.threads[t]? = some l)
    (hthr : s'.threads = s.threads.set t l') (hcur : s'.cur = s.cur)
    (hnm : ¬ isMidPc l.pc) (hnm' : ¬ isMidPc l'.pc)
    (hcells : ∀ j lo hg, G.mid = some (j, lo, hg) → cellAt s' (s.cur + 1) j = cellAt s (s.cur + 1) j ∧
      cellAt s' (s.cur + 1) (j + 2 ^ s.cur) = cellAt s (s.cur + 1) (j + 2 ^ s.cur)) : PInv s' G := by
  refine pinv_of ?_ ?_
  · intro t1 l1 h1 hm1
    rw [hthr] at h1
    rcases get_set h1 with ⟨rfl, rfl⟩ | ⟨n1, h1⟩
    · exact absurd hm1 hnm'
    · have hp := I.ph.pcMid t1 l1 h1
      obtain ⟨pc, call⟩ := l1
      cases pc with
      | tStoreLow =>
        obtain ⟨a, b, c⟩ := hp
        obtain ⟨e1, e2⟩ := hcells _ _ _ a
        exact ⟨a, by rw [hcur, e1]; exact b, by rw [hcur, e2]; exact c⟩
      | tStoreHigh =>
        obtain ⟨lo, a, b, c⟩ := hp
        obtain ⟨e1, e2⟩ := hcells _ _ _ a
        exact ⟨lo, a, by rw [hcur, e1]; exact b, by rw [hcur, e2]; exact c⟩
      | tStoreMoved =>
        obtain ⟨lo, hg, a, b, c⟩ := hp
        obtain ⟨e1, e2⟩ := hcells _ _ _ a
        exact ⟨lo, hg, a, by rw [hcur, e1]; exact b, by rw [hcur, e2]; exact c⟩
      | _ => exact hm1.elim
  · intro hm
    obtain ⟨t1, l1, h1, hm1⟩ := I.ph.midHas hm
    have hne : t1 ≠ t := by
      rintro rfl
      rw [hl] at h1; cases h1
      exact hnm hm1
    exact ⟨t1, l1, by rw [hthr, get_set_ne hne]; exact h1, hm1⟩

theorem pinv_T_none {s s' : State} {G' : Ghost} {t : Nat} {l l' : Local} (Gn : GenInv s)
    (hl : s.threads[t]? = some l) (hT : isT l.pc) (hthr : s'.threads = s.threads.set t l')
    (hnm' : ¬ isMidPc l'.pc) (hm : G'.mid = none) : PInv s' G' := by
  refine pinv_of ?_ (fun h => by rw [hm] at h; cases h)
  intro t1 l1 h1 hm1
  rw [hthr] at h1
  rcases get_set h1 with ⟨rfl, rfl⟩ | ⟨n1, h1⟩
  · exact absurd hm1 hnm'
  · exact absurd (Gn.uniqT _ _ _ _ h1 hl (isMidPc_isT hm1) hT) n1

theorem pinv_T_mid {s s' : State} {G' : Ghost} {t : Nat} {l l' : Local} (Gn : GenInv s)
    (hl : s.threads[t]? = some l) (hT : isT l.pc) (hthr : s'.threads = s.threads.set t l')
    (hp : PcMid s' G' l'.pc) (hm' : isMidPc l'.pc) : PInv s' G' := by
  refine pinv_of ?_ (fun _ => ⟨t, l', by rw [hthr]; exact get_set_self hl, hm'⟩)
  intro t1 l1 h1 hm1
  rw [hthr] at h1
  rcases get_set h1 with ⟨rfl, rfl⟩ | ⟨n1, h1⟩
  · exact hp
  · exact absurd (Gn.uniqT _ _ _ _ h1 hl (isMidPc_isT hm1) hT) n1

def SameMem (s s' : State) : Prop :=
  s'.heap = s.heap ∧ s'.tabs = s.tabs ∧ s'.cur = s.cur ∧ s'.resizing = s.resizing

theorem SameMem.tick (s : State) : SameMem s (tick s) := ⟨rfl, rfl, rfl, rfl⟩
theorem Live_congr' {s s' : State} (m : SameMem s s') (G : Ghost) (i : Nat) : Live s' G i ↔ Live s G i :=
  Live_congr m.1 m.2.1 G i

theorem absOf_sameMem {s s' : State} (m : SameMem s s') (k : Nat) : absOf s' k = absOf s k :=
  absOf_congr_mem m.1 m.2.1 m.2.2.1 k

theorem HInv.sameMem {s s' : State} {G : Ghost} (H : HInv s G) (m : SameMem s s') : HInv s' G :=
  H.congr m.1 m.2.1 m.2.2.1 m.2.2.2

theorem Active.sameMem {s s' : State} {G : Ghost} {id : CellId} (act : Active s G id) (m : SameMem s s') :
    Active s' G id := act.congr m.2.1 m.2.2.1

end Flurry.Proto.BinN
