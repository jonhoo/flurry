import Flurry.Proto.BinW
import Flurry.Lemmas.LinSearch
/-! # Proto/BinW: the re-check of the bin cell is load-bearing (C01)

Two concrete schedules of two threads. Under `stepNoCheck` (a writer trusts the mutex it took without
re-reading the bin cell) both end in a quiescent state whose history is **not** linearizable:

* `schedDoubleRemove`: `insert(0)`; then two `remove(0)` that both loaded the same head. The first
  unlinks the node and unlocks; the second takes the mutex of the *unlinked* node, walks from it,
  "finds" the key and unlinks again: both removes return the value of the single insert.
* `schedLostInsert`: `insert(0)`; then `remove(0)` and `insert(1)` that both loaded the same head. The
  remove empties the bin; the insert locks the unlinked node, walks it, and appends its new node behind
  the unlinked node: `insert(1)` returns "was absent", yet a later `get(1)` finds nothing.

Under `step` (with the re-check) the very same schedules end in linearizable states: the second
writer sees that the bin cell no longer holds the node it locked, unlocks and starts over. -/
namespace Flurry.Proto.BinW
open Flurry.Lin

abbrev Sched := List (Nat × Option (Nat × KOp))

def run (f : State → Nat → Option (Nat × KOp) → Option State) : State → Sched → Option State
  | s, [] => some s
  | s, (t, inv) :: rest =>
    match f s t inv with
    | none => none
    | some s' => run f s' rest

/-- reachability in the variant without the re-check -/
inductive ReachableNoCheck (nthreads : Nat) : State → Prop
  | init : ReachableNoCheck nthreads (init nthreads)
  | step {s s' : State} (t : Nat) (inv : Option (Nat × KOp)) :
      ReachableNoCheck nthreads s → stepNoCheck s t inv = some s' → ReachableNoCheck nthreads s'

theorem run_reachable {n : Nat} : ∀ (sc : Sched) {s s' : State}, Reachable n s → run step s sc = some s' →
    Reachable n s'
  | [], s, s', hr, h => by simp only [run, Option.some.injEq] at h; exact h ▸ hr
  | (t, inv) :: rest, s, s', hr, h => by
    simp only [run] at h
    cases hs : step s t inv with
    | none => rw [hs] at h; cases h
    | some s1 => rw [hs] at h; exact run_reachable rest (.step t inv hr hs) h

theorem run_reachableNoCheck {n : Nat} : ∀ (sc : Sched) {s s' : State}, ReachableNoCheck n s →
    run stepNoCheck s sc = some s' → ReachableNoCheck n s'
  | [], s, s', hr, h => by simp only [run, Option.some.injEq] at h; exact h ▸ hr
  | (t, inv) :: rest, s, s', hr, h => by
    simp only [run] at h
    cases hs : stepNoCheck s t inv with
    | none => rw [hs] at h; cases h
    | some s1 => rw [hs] at h; exact run_reachableNoCheck rest (.step t inv hr hs) h

/-- what we look at in the final state: is it quiescent, and does the exhaustive search find a
linearization of the history of key `k` ending in the abstract content of the bin -/
def verdict (f : State → Nat → Option (Nat × KOp) → Option State) (n : Nat) (sc : Sched) (k : Nat) :
    Option (Bool × Bool) :=
  (run f (init n) sc).map fun s =>
    (s.threads.all (fun l => l.pc == .idle), (search (callsOn s k) none (absOf s k)).isSome)

theorem of_verdict {f : State → Nat → Option (Nat × KOp) → Option State} {n : Nat} {sc : Sched} {k : Nat}
    {b : Bool} (h : verdict f n sc k = some (true, b)) :
    ∃ s, run f (init n) sc = some s ∧ quiescent s ∧ (search (callsOn s k) none (absOf s k)).isSome = b := by
  unfold verdict at h
  cases hr : run f (init n) sc with
  | none => rw [hr] at h; cases h
  | some s =>
    rw [hr] at h
    simp only [Option.map_some, Option.some.injEq, Prod.mk.injEq] at h
    refine ⟨s, rfl, ?_, h.2⟩
    intro l hl
    have := List.all_eq_true.1 h.1 l hl
    simpa using this

/-- `insert(0)` by thread 0 (lock-free CAS into the empty bin); `remove(0)` by both threads, both
load the head; thread 0 locks, walks, unlinks, unlocks; then thread 1 locks the node it saw -/
def schedDoubleRemove : Sched :=
  [ (0, some (0, .ins 5 100)), (0, none), (0, none),
    (0, some (0, .rm)), (1, some (0, .rm)),
    (0, none), (1, none),
    (0, none), (0, none), (0, none), (0, none), (0, none),
    (1, none), (1, none), (1, none), (1, none), (1, none) ]

/-- `insert(0)`; `remove(0)` by thread 0 and `insert(1)` by thread 1, both load the head; thread 0
empties the bin; thread 1 locks the node it saw and goes on; finally `get(1)` by thread 0 -/
def schedLostInsert : Sched :=
  [ (0, some (0, .ins 5 100)), (0, none), (0, none),
    (0, some (0, .rm)), (1, some (1, .ins 7 101)),
    (0, none), (1, none),
    (0, none), (0, none), (0, none), (0, none), (0, none),
    (1, none), (1, none), (1, none), (1, none), (1, none), (1, none),
    (0, some (1, .get)), (0, none), (0, none) ]

theorem verdict_doubleRemove_noCheck : verdict stepNoCheck 2 schedDoubleRemove 0 = some (true, false) := by
  decide

theorem verdict_doubleRemove_check : verdict step 2 schedDoubleRemove 0 = some (true, true) := by
  decide

theorem verdict_lostInsert_noCheck : verdict stepNoCheck 2 schedLostInsert 1 = some (true, false) := by
  decide

theorem verdict_lostInsert_check : verdict step 2 schedLostInsert 1 = some (true, true) := by
  decide

/-- the histories, for the reader: without the re-check both removes return the inserted value -/
theorem doubleRemove_noCheck_history :
    (run stepNoCheck (init 2) schedDoubleRemove).map (fun s => (callsOn s 0, absOf s 0)) =
      some ([⟨0, .ins 5 100, .none, 1, 3⟩, ⟨0, .rm, .some 5 100, 4, 12⟩, ⟨1, .rm, .some 5 100, 5, 17⟩], none) := by
  decide

theorem doubleRemove_check_history :
    (run step (init 2) schedDoubleRemove).map (fun s => (callsOn s 0, absOf s 0)) =
      some ([⟨0, .ins 5 100, .none, 1, 3⟩, ⟨0, .rm, .some 5 100, 4, 12⟩, ⟨1, .rm, .none, 5, 16⟩], none) := by
  decide

/-- without the re-check the insert of key 1 "succeeds" into an unlinked node: the bin stays empty -/
theorem lostInsert_noCheck_history :
    (run stepNoCheck (init 2) schedLostInsert).map (fun s => (callsOn s 1, absOf s 1, s.head)) =
      some ([⟨1, .ins 7 101, .none, 5, 18⟩, ⟨0, .get, .none, 19, 21⟩], none, none) := by
  decide

theorem lostInsert_check_history :
    (run step (init 2) schedLostInsert).map (fun s => (callsOn s 1, absOf s 1)) =
      some ([⟨1, .ins 7 101, .none, 5, 17⟩, ⟨0, .get, .some 7 101, 19, 21⟩], some (7, 101)) := by
  decide

/-- **the re-check is load-bearing (1)**: without it, a reachable quiescent state whose history of
key 0 is not linearizable (two removes return the value of one insert) -/
theorem noCheck_not_linearizable_doubleRemove :
    ∃ s, ReachableNoCheck 2 s ∧ quiescent s ∧ ¬ Lin.Linearizable (callsOn s 0) none (absOf s 0) := by
  obtain ⟨s, hr, hq, hs⟩ := of_verdict verdict_doubleRemove_noCheck
  refine ⟨s, run_reachableNoCheck _ .init hr, hq, search_eq_none_iff.1 ?_⟩
  cases h : search (callsOn s 0) none (absOf s 0) with
  | none => rfl
  | some o => rw [h] at hs; cases hs

/-- **the re-check is load-bearing (2)**: without it, a reachable quiescent state whose history of
key 1 is not linearizable (a completed insert is lost) -/
theorem noCheck_not_linearizable_lostInsert :
    ∃ s, ReachableNoCheck 2 s ∧ quiescent s ∧ ¬ Lin.Linearizable (callsOn s 1) none (absOf s 1) := by
  obtain ⟨s, hr, hq, hs⟩ := of_verdict verdict_lostInsert_noCheck
  refine ⟨s, run_reachableNoCheck _ .init hr, hq, search_eq_none_iff.1 ?_⟩
  cases h : search (callsOn s 1) none (absOf s 1) with
  | none => rfl
  | some o => rw [h] at hs; cases hs

/-- the same schedules with the re-check: every step is enabled, the final state is quiescent and
(as `binw_linearizable_quiescent` says it must be) linearizable — the search finds the witness -/
theorem check_doubleRemove :
    ∃ s, run step (init 2) schedDoubleRemove = some s ∧ Reachable 2 s ∧ quiescent s ∧
      (search (callsOn s 0) none (absOf s 0)).isSome = true := by
  obtain ⟨s, hr, hq, hs⟩ := of_verdict verdict_doubleRemove_check
  exact ⟨s, hr, run_reachable _ .init hr, hq, hs⟩

theorem check_lostInsert :
    ∃ s, run step (init 2) schedLostInsert = some s ∧ Reachable 2 s ∧ quiescent s ∧
      (search (callsOn s 1) none (absOf s 1)).isSome = true := by
  obtain ⟨s, hr, hq, hs⟩ := of_verdict verdict_lostInsert_check
  exact ⟨s, hr, run_reachable _ .init hr, hq, hs⟩

/-- hence the theorem `binw_linearizable_quiescent` is false for the variant without the re-check -/
theorem noCheck_refutes :
    ¬ ∀ (n : Nat) (s : State), ReachableNoCheck n s → quiescent s → ∀ k,
      Lin.Linearizable (callsOn s k) none (absOf s k) := by
  intro hall
  obtain ⟨s, hr, hq, hn⟩ := noCheck_not_linearizable_doubleRemove
  exact hn (hall 2 s hr hq 0)

end Flurry.Proto.BinW
