import Flurry.Lemmas.RBDeleteInv
/-! # The shape test `tooSmall` of `remove_tree_node`, and concrete instances -/
namespace Flurry.RB
namespace Del
open T Ctx

theorem nil_of_BH_zero {t : T} (h : BH t 0) (hr : isRed t = false) : t = nil := by
  rcases t with _ | ⟨_ | _, l, e, r⟩ <;> simp_all

theorem size_BH_zero {t : T} (h : BH t 0) (hn : NoRedRed t) : size t ≤ 1 := by
  rcases t with _ | ⟨_ | _, l, e, r⟩
  · simp [size]
  · simp at h
  · simp only [BH_red, NoRedRed, forall_const] at h hn
    simp [nil_of_BH_zero h.1 hn.1.1, nil_of_BH_zero h.2 hn.1.2, size]

theorem size_BH_one_black {t : T} (h : BH t 1) (hr : isRed t = false) (hn : NoRedRed t) :
    size t ≤ 3 := by
  rcases t with _ | ⟨_ | _, l, e, r⟩
  · simp [size]
  · have h' : BH l 0 ∧ BH r 0 := by simpa using h
    have := size_BH_zero h'.1 hn.2.1
    have := size_BH_zero h'.2 hn.2.2
    simp only [size]; omega
  · simp at hr

theorem size_BH_one {t : T} (h : BH t 1) (hn : NoRedRed t) : size t ≤ 7 := by
  rcases t with _ | ⟨_ | _, l, e, r⟩
  · simp [size]
  · have := size_BH_one_black h rfl hn; omega
  · simp only [BH_red, NoRedRed, forall_const] at h hn
    have := size_BH_one_black h.1 hn.1.1 hn.2.1
    have := size_BH_one_black h.2 hn.1.2 hn.2.2
    simp only [size]; omega

end Del
open Del T Ctx

/-- the shape test only fires on small trees: at most 10 nodes (and 10 is attained, see
`tooSmall_ten`) -/
theorem tooSmall_small {t : T} (hi : TreeInv t) (hs : tooSmall t = true) : size t ≤ 10 := by
  obtain ⟨-, hr, hn, n, hb⟩ := hi
  rcases t with _ | ⟨_ | _, l, e, r⟩
  · simp [size]
  · obtain ⟨k, rfl, hl, hr'⟩ := BH_black.1 hb
    obtain ⟨-, nl, nr⟩ := hn
    rcases r with _ | ⟨rc, rl, re, rr⟩
    · have : k = 0 := by simpa using hr'
      subst this
      have := size_BH_zero hl nl
      simp only [size]; omega
    · rcases l with _ | ⟨lc, ll, le, lr⟩
      · have : k = 0 := by simpa using hl
        subst this
        have := size_BH_zero hr' nr
        simp only [size] at this ⊢; omega
      · rcases ll with _ | ⟨llc, lll, lle, llr⟩
        · cases lc
          · obtain ⟨j, rfl, h1, h2⟩ := BH_black.1 hl
            have : j = 0 := by simpa using h1
            subst this
            have := size_BH_zero h2 nl.2.2
            have := size_BH_one hr' nr
            simp only [size] at this ⊢; omega
          · simp only [BH_red, BH_nil] at hl
            obtain ⟨rfl, h2⟩ := hl
            have := size_BH_zero h2 nl.2.2
            have := size_BH_zero hr' nr
            simp only [size] at this ⊢; omega
        · simp [tooSmall] at hs
  · simp at hr

/-- restructuring only happens on trees with at least 4 nodes (no invariant needed) -/
theorem not_tooSmall_big {t : T} (hs : tooSmall t = false) : 4 ≤ size t := by
  rcases t with _ | ⟨c, _ | ⟨lc, _ | ⟨llc, lll, lle, llr⟩, le, lr⟩, e, _ | ⟨rc, rl, re, rr⟩⟩
  case node.node.node.node => simp only [size]; omega
  all_goals cases hs

namespace Del

def mk (k : Nat) : Node := ⟨7, k, k, k, k⟩

/-- 12 nodes with equal hash, built the way `TreeBin::new` builds them -/
def t12 : T := ofList ((List.range 12).map mk)

/-- the largest tree on which the shape test fires -/
def big10 : T :=
  node false (node false nil (mk 1) (node true nil (mk 2) nil)) (mk 3)
    (node true
      (node false (node true nil (mk 4) nil) (mk 5) (node true nil (mk 6) nil)) (mk 7)
      (node false (node true nil (mk 8) nil) (mk 9) (node true nil (mk 10) nil)))

/-- the smallest tree on which it does not -/
def small4 : T :=
  node false (node false (node true nil (mk 1) nil) (mk 2) nil) (mk 3) (node false nil (mk 4) nil)

/-- a two-node bin: removing the root leaves the red child as root -/
def two : T := node false (node true nil (mk 1) nil) (mk 2) nil

end Del

example : TreeInv t12 ∧ tooSmall t12 = false ∧ size t12 = 12 :=
  ⟨(treeInvB_iff _).1 (by decide +kernel), by decide +kernel, by decide +kernel⟩

/-- the hypotheses of `removeNode_toList` / `removeNode_inv` hold for every key of `t12`, and the
conclusions are confirmed by evaluation -/
example : ∀ k ∈ List.range 12,
    (∃ e ∈ toList t12, e.hash = 7 ∧ e.key = k) ∧
    treeInvB (removeNode 7 k t12) = true ∧
    toList (removeNode 7 k t12) = ((List.range 12).filter (· != k)).map mk := by decide +kernel

example : TreeInv (removeNode 7 5 t12) :=
  removeNode_inv ((treeInvB_iff _).1 (by decide +kernel)) (by decide +kernel) ⟨mk 5, by decide +kernel, rfl, rfl⟩

/-- `tooSmall_small` is sharp -/
theorem tooSmall_ten : TreeInv big10 ∧ tooSmall big10 = true ∧ size big10 = 10 :=
  ⟨(treeInvB_iff _).1 (by decide +kernel), by decide +kernel, by decide +kernel⟩

/-- `not_tooSmall_big` is sharp -/
theorem not_tooSmall_four : TreeInv small4 ∧ tooSmall small4 = false ∧ size small4 = 4 :=
  ⟨(treeInvB_iff _).1 (by decide +kernel), by decide +kernel, by decide +kernel⟩

/-- why `removeNode_inv` needs the shape test (or `removeNode_good`'s side condition): on a root
with one child the result has a red root. The Rust code has the same behaviour
(`balance_deletion` returns at `x == root` without recolouring), but `remove_tree_node` never gets
there because `root.right.is_null()` makes it untreeify first. -/
theorem removeNode_red_root :
    TreeInv two ∧ (∃ e ∈ toList two, e.hash = 7 ∧ e.key = 2) ∧ tooSmall two = true ∧
      isRed (removeNode 7 2 two) = true :=
  ⟨(treeInvB_iff _).1 (by decide +kernel), ⟨mk 2, by decide +kernel, rfl, rfl⟩, by decide +kernel, by decide +kernel⟩

end Flurry.RB
