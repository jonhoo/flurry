import Flurry.Lemmas.BinNGhost
import Flurry.Lemmas.BinNHMInvDefs
/-! # Proto/BinN: the complete structural invariant (`Inv`), the classification of the transitions by their effect
on the memory (`MemStep`, `MemStep.carries`), and what a `MemStep` does to a single node: a node that is not `Live`
stays so and keeps `next` (`dead_step`; also one that leaves the chains, `leave_step`), its value (`MemStep.dead_val`), and
every node keeps its key (`MemStep.key_old`); the heap only grows (`memStep_len`). `Proto/BinNI` and `Proto/BinNR` use
these.

`Inv.rw` gives `BinNHM.RWInv` at the ghost `toM G`. `MemStep` is `BinNHM.MemStep` (`Lemmas/BinNHMInvDefs.lean`) with one
split under way: `memStep_toM` takes a `MemStep` to a `BinNHM.MemStep` at `toM`, the one direction `MemStep.carries`
needs; `Carries` has no lemma of its own and passes through `good_toM` (`Lemmas/BinNGhost.lean`) inside `MemStep.carries`.
`childId` is a second definition with the body of `BinNHM.childId` (`Lemmas/BinNHMGhostMoved.lean`): `childId_eq`. -/
namespace Flurry.Proto.BinN
open Flurry.Lin
open Flurry.Proto.BinX (NodeS Cell Pending dflt chainFrom cellHead cellOfHead nodeAt nodeAt_of_some getElem?_nodeAt
  IsSeg IsChain chainH absIn KeysDistinct Walk get_set get_set_self get_set_ne nextA)

structure Inv (s : State) (G : Ghost) : Prop where
  gen : GenInv s
  heap : HInv s G
  thr : TInv s
  ph : PInv s G
  walk : WInv s

/-- the cell that is being split is validated by the resizing thread -/
theorem Inv.mid_vcell {s : State} {G : Ghost} (I : Inv s G) {j : Nat} (hm : midIdx G = some j) :
    ∃ (t : Nat) (l : Local) (h : Nat), s.threads[t]? = some l ∧ vcell s.cur l = some (s.cur, j, h) ∧ isT l.pc := by
  obtain ⟨lo, hg, hmid⟩ := midIdx_some hm
  obtain ⟨t, l, hl, hmp⟩ := I.ph.midHas (by rw [hmid]; rfl)
  have hp := I.ph.pcMid t l hl
  obtain ⟨pc, call⟩ := l
  cases pc with
  | tStoreLow =>
    obtain ⟨h1, -⟩ := hp
    rw [hmid] at h1; cases h1
    exact ⟨t, _, _, hl, rfl, trivial⟩
  | tStoreHigh =>
    obtain ⟨lo', h1, -⟩ := hp
    rw [hmid] at h1; cases h1
    exact ⟨t, _, _, hl, rfl, trivial⟩
  | tStoreMoved =>
    obtain ⟨lo', hg', h1, -⟩ := hp
    rw [hmid] at h1; cases h1
    exact ⟨t, _, _, hl, rfl, trivial⟩
  | _ => exact hmp.elim

/-- `Proto/BinN`'s structural invariant gives the invariant of the readers and writers at the ghost `toM G`: the
only validated thread on the cell that is being split is the resizing thread (`mutex`) -/
theorem Inv.rw {s : State} {G : Ghost} (I : Inv s G) : BinNHM.RWInv s (BinNHM.toM G) := by
  refine ⟨I.gen, I.heap.toM, I.thr, I.walk, ?_⟩
  intro j hm t1 l1 h h1 hT hv
  obtain ⟨t0, l0, h0, hl0, hv0, hT0⟩ := I.mid_vcell (BinNHM.isMid_toM.1 hm)
  have := I.gen.mutex h1 hl0 hv hv0
  subst this
  rw [h1] at hl0; cases hl0
  exact hT hT0

theorem Inv.active_of_vcell {s : State} {G : Ghost} (I : Inv s G) {t : Nat} {l : Local} {p : Pending} {g h : Nat}
    (hl : s.threads[t]? = some l) (hp : l.call = some p) (hg : genOfPc l.pc = some g) (hT : ¬ isT l.pc)
    (hv : vcell s.cur l = some (g, p.key % 2 ^ g, h)) : Active s G (cellId g p.key) :=
  BinNHM.active_toM.1 (I.rw.active_of_vcell hl hp hg hT hv)

/-- the child of cell `(c, jm)` in generation `c + 1`: the high one for `b = true` -/
def childId (c jm : Nat) (b : Bool) : CellId := (c + 1, if b then jm + 2 ^ c else jm)

theorem childId_eq : childId = BinNHM.childId := rfl

/-- `clear`: see `BinNHM.MemStep` — no transition of `Proto/BinN*` produces it -/
inductive MemStep (s s' : State) (G G' : Ghost) : Prop
  | heap : HeapStep s s' G G' → MemStep s s' G G'
  | moved (jm : Nat) (lo hg : Option Nat) : G.mid = some (jm, lo, hg) → G'.mid = none → G'.cr = G.cr →
      s'.heap = s.heap → s'.cur = s.cur → getCell s' (s.cur, jm) = .moved →
      (∀ id, id ≠ (s.cur, jm) → getCell s' id = getCell s id) →
      (∀ b, SideOK (bitAt s.cur) s.heap G.cr G.fr (chId s (s.cur, jm)) b (chId s (childId s.cur jm b))) →
      MemStep s s' G G'
  | clear (id : CellId) : G' = G → (∀ id', id' ≠ id → chId s' id' = chId s id') →
      (∀ k, LC s' k = if liveId s k = id then [] else LC s k) →
      (∀ j, Live s' G j → Live s G j ∧ j ∉ chId s id) → s'.heap = s.heap → MemStep s s' G G'

def Carries (k : Nat) (s s' : State) (G G' : Ghost) (A A' : Nat → KSt) : Prop :=
  ∀ (inv : Nat) (cur : Option Nat), inv ≤ s.now → Good G A k inv s cur → Good G' A' k inv s' cur

theorem memStep_toM {s s' : State} {G G' : Ghost} (m : MemStep s s' G G') :
    BinNHM.MemStep s s' (BinNHM.toM G) (BinNHM.toM G') := by
  cases m with
  | heap hs => exact .heap (heapStep_toM.2 hs)
  | moved jm lo hg h1 h2 h3 h4 h5 h6 h7 h8 =>
    exact .moved jm lo hg G.fr (BinNHM.toM_mid.2 ⟨h1, rfl⟩)
      (fun j0 x h => by rw [BinNHM.toM_mid_none h2] at h; cases h) h3 h4 h5 h6 h7 (childId_eq ▸ h8)
  | clear id h1 h2 h3 h4 h5 =>
    subst h1
    exact .clear id rfl h2 h3 (fun j hl => (h4 j (BinNHM.live_toM.1 hl)).imp BinNHM.live_toM.2 fun h => h) h5

theorem MemStep.carries {k : Nat} {s s' : State} {G G' : Ghost} {A : Nat → KSt} {x : KSt}
    (m : MemStep s s' G G') (H : HInv s G) (H' : HInv s' G')
    (hnow : s'.now = s.now + 1) (hA : A s.now = absOf s k) : Carries k s s' G G' A (nextA A s.now x) :=
  fun inv cur hinv hg =>
    good_toM.1 (BinNHM.MemStep.carries (memStep_toM m) H.toM H'.toM hnow hA inv cur hinv (good_toM.2 hg))

theorem memStep_len {s s' : State} {G G' : Ghost} (m : MemStep s s' G G') : s.heap.length ≤ s'.heap.length := by
  cases m with
  | heap hs => exact hs.len
  | moved jm lo hg h1 h2 h3 h4 h5 h6 h7 h8 => rw [h4]; exact Nat.le_refl _
  | clear id h1 h2 h3 h4 h5 => rw [h5]; exact Nat.le_refl _

/-- a node that is not `Live` stays so, with its `next` field as it was (its value: `MemStep.dead_val`; its key:
`MemStep.key_old`) -/
theorem dead_step {s s' : State} {G G' : Ghost} (m : MemStep s s' G G') {j : Nat}
    (hj : j < s.heap.length) (hd : ¬ Live s G j) :
    ¬ Live s' G' j ∧ (nodeAt s'.heap j).next = (nodeAt s.heap j).next := by
  cases m with
  | heap hs =>
    obtain ⟨-, h2, h3⟩ := hs.off j hj hd
    exact ⟨h3, h2⟩
  | moved jm lo hg h1 h2 h3 h4 h5 h6 h7 h8 =>
    refine ⟨?_, by rw [h4]⟩
    rintro (⟨id, hid⟩ | ⟨j', lo', hg', hm, -⟩)
    · by_cases hne : id = (s.cur, jm)
      · subst hne
        rw [chId_of_moved h6] at hid
        cases hid
      · apply hd
        refine Or.inl ⟨id, ?_⟩
        unfold chId at hid ⊢
        rw [h4, h7 id hne] at hid
        exact hid
    · rw [h2] at hm; cases hm
  | clear id h1 h2 h3 h4 h5 =>
    subst h1
    exact ⟨fun h => hd (h4 j h).1, by rw [h5]⟩

/-- a node that leaves the chains of the cells is dead afterwards, with its `next` field as it was -/
theorem leave_step {s s' : State} {G G' : Ghost} (m : MemStep s s' G G') {j : Nat}
    (h0 : ∃ id, j ∈ chId s id) (h1 : ¬ ∃ id, j ∈ chId s' id) :
    ¬ Live s' G' j ∧ (nodeAt s'.heap j).next = (nodeAt s.heap j).next := by
  cases m with
  | heap hs =>
    obtain ⟨id, hj⟩ := h0
    obtain ⟨-, h2, h3, -⟩ := hs.unlC id j hj (fun h => h1 ⟨id, h⟩)
    exact ⟨h3, h2⟩
  | moved jm lo hg e1 e2 e3 e4 e5 e6 e7 e8 =>
    refine ⟨?_, by rw [e4]⟩
    rintro (h | ⟨j', lo', hg', hm, -⟩)
    · exact h1 h
    · rw [e2] at hm; cases hm
  | clear id0 e1 e2 e3 e4 e5 =>
    subst e1
    refine ⟨?_, by rw [e5]⟩
    intro hl
    obtain ⟨id, hj⟩ := h0
    by_cases hne : id = id0
    · subst hne
      exact (e4 j hl).2 hj
    · exact h1 ⟨id, by rw [e2 id hne]; exact hj⟩

theorem MemStep.key_old {s s' : State} {G G' : Ghost} (m : MemStep s s' G G') {j : Nat} (hj : j < s.heap.length) :
    (nodeAt s'.heap j).key = (nodeAt s.heap j).key := by
  cases m with
  | heap hs => exact hs.key j hj
  | moved jm lo hg h1 h2 h3 h4 h5 h6 h7 h8 => rw [h4]
  | clear id h1 h2 h3 h4 h5 => rw [h5]

theorem MemStep.dead_val {s s' : State} {G G' : Ghost} (m : MemStep s s' G G') {j : Nat} (hj : j < s.heap.length)
    (hd : ¬ Live s G j) : (nodeAt s'.heap j).val = (nodeAt s.heap j).val := by
  cases m with
  | heap hs => exact (hs.off j hj hd).1
  | moved jm lo hg h1 h2 h3 h4 h5 h6 h7 h8 => rw [h4]
  | clear id h1 h2 h3 h4 h5 => rw [h5]

end Flurry.Proto.BinN
