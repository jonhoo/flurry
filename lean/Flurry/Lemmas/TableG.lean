import Flurry.Lemmas.TableLineages
import Flurry.Proto.TableG
import Flurry.Lemmas.BinGProgInv
import Flurry.Lemmas.BinGLin
import Flurry.Lemmas.LinLocal
/-! # Proto/TableG: a table that is resized once is linearizable as a MAP (C01)

The construction of `Lemmas/TableK.lean` over `Proto/BinG` lineages. A `tick` of a lineage — its clock
advances while a thread acts in another lineage — IS a transition of `Proto/BinG`: the step of a
thread that is idle in that lineage and starts nothing — no call, no treeify, no resize
(`BinG.step b t none false none false false false = some (tick b)`, `tick_is_step`), and
`TableG.step` lets thread `t` act in lineage `i` only while it is idle in every other lineage. Hence
every lineage of a reachable table is literally `BinG.Reachable` (`TblInv.reach`), and all
lineage-level theorems apply to it unchanged.

* `BinG.KeysIn P s`: every key in the lineage's history and in its calls in flight satisfies `P`;
  preserved by `BinG.step` if the invoked key satisfies `P` (`step_keysIn`, over `stepN_call` of
  `Lemmas/BinGProgInv.lean`: a transition changes the acting thread's local state, keeps its call or records it; the
  resize and the treeify threads have no call in flight and record nothing);
* `TblInv m n S`: `m` lineages, each `BinG.Reachable n`, lineage `j` holding keys `k` with
  `lineageOf m k = j` only; `OneBin S`: of two different lineages, a thread is idle in one;
* `proj_mhist`: the projection of the map history on key `k` is the per-key history of lineage
  `lineageOf m k` (as a list, not only up to order: the other lineages contribute nothing);
* `bin_of_key`, `mhist_wf`: what `Props/C01TableG.lean` composes with locality
  (`LinMap.map_linearizable_of_proj`, the statement of `C01.locality`). -/

namespace Flurry.Proto.BinG
open Flurry.Lin
open Flurry.Proto.BinK (get_set)

structure KeysIn (P : Nat → Prop) (s : State) : Prop where
  hist : ∀ x ∈ s.hist, P x.1
  pend : ∀ (t : Nat) (l : Local) (p : Pending), s.threads[t]? = some l → l.call = some p → P p.key

theorem KeysIn.of_prev {P : Nat → Prop} {s s' : State} (K : KeysIn P s)
    (hh : ∀ x ∈ s'.hist, x ∈ s.hist ∨ P x.1)
    (hp : ∀ (t : Nat) (l : Local) (p : Pending), s'.threads[t]? = some l → l.call = some p →
      (∃ l0, s.threads[t]? = some l0 ∧ l0.call = some p) ∨ P p.key) : KeysIn P s' := by
  refine ⟨?_, ?_⟩
  · intro x hx
    rcases hh x hx with h | h
    · exact K.hist x h
    · exact h
  · intro t l p hl hc
    rcases hp t l p hl hc with ⟨l0, h0, hc0⟩ | h
    · exact K.pend t l0 p h0 hc0
    · exact h

theorem step_idle {s s' : State} {t : Nat} {l : Local} {inv : Option (Nat × KOp)} {lo : Bool}
    {mt : Option Nat} {rz sm sm2 : Bool}
    (hl : s.threads[t]? = some l) (hpc : l.pc = .idle) (hs : step s t inv lo mt rz sm sm2 = some s') :
    s'.hist = s.hist ∧ ∃ l', s'.threads = s.threads.set t l' ∧
      (l'.call = l.call ∨ ∃ k op τ, inv = some (k, op) ∧ l'.call = some ⟨k, op, τ⟩) := by
  obtain ⟨pc, call⟩ := l
  simp only at hpc
  subst hpc
  have hself : s.threads = s.threads.set t ⟨.idle, call⟩ := by
    obtain ⟨ht, e⟩ := List.getElem?_eq_some_iff.1 hl
    rw [← e, List.set_getElem_self]
  unfold step stepG at hs
  simp only [hl] at hs
  cases rz with
  | true =>
    simp only [if_true] at hs
    cases hrs : s.resizing with
    | true =>
      simp only [hrs, if_true, Option.some.injEq] at hs
      subst hs
      exact ⟨rfl, ⟨.idle, call⟩, hself, Or.inl rfl⟩
    | false =>
      simp only [hrs, Bool.false_eq_true, if_false, Option.some.injEq] at hs
      subst hs
      exact ⟨rfl, _, rfl, Or.inl rfl⟩
  | false =>
    simp only [Bool.false_eq_true, if_false] at hs
    cases mt with
    | some k =>
      simp only [Option.some.injEq] at hs
      subst hs
      exact ⟨rfl, _, rfl, Or.inl rfl⟩
    | none =>
      simp only at hs
      cases inv with
      | none =>
        simp only [Option.some.injEq] at hs
        subst hs
        exact ⟨rfl, ⟨.idle, call⟩, hself, Or.inl rfl⟩
      | some ko =>
        obtain ⟨k, op⟩ := ko
        simp only [Option.some.injEq] at hs
        subst hs
        exact ⟨rfl, _, rfl, Or.inr ⟨k, op, _, rfl, rfl⟩⟩

theorem step_keysIn {P : Nat → Prop} {s s' : State} {t : Nat} {inv : Option (Nat × KOp)} {lo : Bool}
    {mt : Option Nat} {rz sm sm2 : Bool}
    (K : KeysIn P s) (hinv : ∀ k op, inv = some (k, op) → P k)
    (hs : step s t inv lo mt rz sm sm2 = some s') : KeysIn P s' := by
  cases hl : s.threads[t]? with
  | none =>
    unfold step stepG at hs
    simp only [hl] at hs
    cases hs
  | some l =>
    have keepCase : ∀ l' : Local, s'.threads = s.threads.set t l' → s'.hist = s.hist →
        (l'.call = l.call ∨ ∃ k op τ, inv = some (k, op) ∧ l'.call = some ⟨k, op, τ⟩) → KeysIn P s' := by
      intro l' hthr hhist hcall
      refine K.of_prev (fun x hx => Or.inl (hhist ▸ hx)) ?_
      intro t1 l1 p1 h1 hc1
      rw [hthr] at h1
      rcases get_set h1 with ⟨rfl, rfl⟩ | ⟨_, h1⟩
      · rcases hcall with hc | ⟨k, op, τ, hi, hc⟩
        · exact Or.inl ⟨l, hl, hc ▸ hc1⟩
        · rw [hc] at hc1
          cases hc1
          exact Or.inr (hinv k op hi)
      · exact Or.inl ⟨l1, h1, hc1⟩
    by_cases hpc : l.pc = .idle
    · obtain ⟨hh, l', hthr, hcall⟩ := step_idle hl hpc hs
      exact keepCase l' hthr hh hcall
    · rcases stepN_call (step_stepN hl hs) hpc with ⟨l', hthr, hcall, hhist⟩ | ⟨p, res, hc, hthr, hhist⟩
      · exact keepCase l' hthr hhist (Or.inl hcall)
      · refine K.of_prev ?_ ?_
        · intro x hx
          rw [hhist] at hx
          rcases List.mem_cons.1 hx with rfl | hx
          · exact Or.inr (K.pend t l p hl hc)
          · exact Or.inl hx
        · intro t1 l1 p1 h1 hc1
          rw [hthr] at h1
          rcases get_set h1 with ⟨rfl, rfl⟩ | ⟨_, h1⟩
          · cases hc1
          · exact Or.inl ⟨l1, h1, hc1⟩

theorem step_threads {s s' : State} {t : Nat} {inv : Option (Nat × KOp)} {lo : Bool}
    {mt : Option Nat} {rz sm sm2 : Bool}
    (hs : step s t inv lo mt rz sm sm2 = some s') : ∃ l', s'.threads = s.threads.set t l' := by
  cases hl : s.threads[t]? with
  | none =>
    unfold step stepG at hs
    simp only [hl] at hs
    cases hs
  | some l =>
    by_cases hpc : l.pc = .idle
    · obtain ⟨_, l', hthr, _⟩ := step_idle hl hpc hs
      exact ⟨l', hthr⟩
    · rcases stepN_call (step_stepN hl hs) hpc with ⟨l', hthr, _, _⟩ | ⟨_, _, _, hthr, _⟩
      · exact ⟨l', hthr⟩
      · exact ⟨_, hthr⟩

theorem init_keysIn (P : Nat → Prop) (n : Nat) : KeysIn P (init n) := by
  refine ⟨?_, ?_⟩
  · intro x hx
    simp [init] at hx
  · intro t l p hl hc
    rw [init_threads hl] at hc
    cases hc

end Flurry.Proto.BinG

namespace Flurry.Proto.TableG
open Flurry.Lin Flurry.LinMap

theorem tick_is_step {b : BinG.State} {t : Nat} (h : idleIn b t = true) :
    BinG.step b t none false none false false false = some (tick b) := by
  unfold idleIn at h
  split at h
  · rename_i l hl
    obtain ⟨pc, call⟩ := l
    simp only [beq_iff_eq] at h
    subst h
    unfold BinG.step BinG.stepG
    simp only [hl]
    rfl
  · cases h

/-- `m` lineages, each reachable in `Proto/BinG`, lineage `j` holding only keys of lineage `j` -/
structure TblInv (m n : Nat) (S : State) : Prop where
  len : S.bins.length = m
  reach : ∀ (j : Nat) (b : BinG.State), S.bins[j]? = some b → BinG.Reachable n b
  keys : ∀ (j : Nat) (b : BinG.State), S.bins[j]? = some b → BinG.KeysIn (fun k => lineageOf m k = j) b

theorem init_tblInv (m n : Nat) : TblInv m n (init m n) := by
  refine ⟨by simp [init], ?_, ?_⟩
  · intro j b h
    rw [Lineages.eq_of_getElem?_replicate h]
    exact BinG.Reachable.init
  · intro j b h
    rw [Lineages.eq_of_getElem?_replicate h]
    exact BinG.init_keysIn _ n

theorem step_eq_some {S S' : State} {i t : Nat} {inv : Option (Nat × KOp)} {lo : Bool} {mt : Option Nat}
    {rz sm sm2 : Bool} (hs : step S i t inv lo mt rz sm sm2 = some S') :
    ∃ b b', S.bins[i]? = some b ∧
      ((List.range S.bins.length).all fun j => j == i || idleIn (S.bins.getD j (BinG.init 0)) t) = true ∧
      (∀ k op, inv = some (k, op) → lineageOf S.bins.length k = i) ∧
      (∀ k, mt = some k → lineageOf S.bins.length k = i) ∧
      BinG.step b t inv lo mt rz sm sm2 = some b' ∧ S' = { bins := (S.bins.map tick).set i b' } := by
  unfold step at hs
  cases hb : S.bins[i]? with
  | none => rw [hb] at hs; cases hs
  | some b =>
    rw [hb] at hs
    obtain ⟨h1, hs⟩ := Lineages.guard_some hs
    obtain ⟨h2, hs⟩ := Lineages.guard_some hs
    obtain ⟨h3, hs⟩ := Lineages.guard_some hs
    cases h4 : BinG.step b t inv lo mt rz sm sm2 with
    | none => rw [h4] at hs; cases hs
    | some b' =>
      rw [h4] at hs
      refine ⟨b, b', rfl, h1, ?_, ?_, h4, (Option.some.inj hs).symm⟩
      · rintro k op rfl
        simpa [inLineage] using h2
      · rintro k rfl
        simpa [inLineage] using h3

theorem step_tblInv {m n : Nat} {S S' : State} {i t : Nat} {inv : Option (Nat × KOp)} {lo : Bool}
    {mt : Option Nat} {rz sm sm2 : Bool}
    (I : TblInv m n S) (hs : step S i t inv lo mt rz sm sm2 = some S') : TblInv m n S' := by
  obtain ⟨b, b', hb, hidle, hkey, _, hb', rfl⟩ := step_eq_some hs
  refine ⟨?_, ?_, ?_⟩
  · show ((S.bins.map tick).set i b').length = m
    rw [List.length_set, List.length_map]; exact I.len
  · exact Lineages.forall_of_set_map tick _ (idleIn · t) hidle (P := fun _ c => BinG.Reachable n c) I.reach
      (BinG.Reachable.step t inv lo mt rz sm sm2 (I.reach i b hb) hb')
      fun _ b0 h hid => BinG.Reachable.step t none false none false false false h (tick_is_step hid)
  · exact Lineages.forall_of_set_map tick _ (idleIn · t) hidle I.keys
      (BinG.step_keysIn (I.keys i b hb) (fun k op hinv => by rw [← I.len]; exact hkey k op hinv) hb')
      fun _ _ h _ => ⟨h.hist, h.pend⟩

theorem reachable_tblInv {m n : Nat} {S : State} (hr : Reachable m n S) : TblInv m n S := by
  induction hr with
  | init => exact init_tblInv m n
  | step i t inv lo mt rz sm sm2 _ hs ih => exact step_tblInv ih hs

def OneBin (S : State) : Prop :=
  Lineages.OneBin (fun b : BinG.State => b.threads) (fun l : BinG.Local => l.pc = .idle) S.bins

theorem idleIn_pc {b : BinG.State} {t : Nat} {l : BinG.Local} (h : idleIn b t = true) (hl : b.threads[t]? = some l) :
    l.pc = .idle := by
  unfold idleIn at h
  rw [hl] at h
  simpa using h

theorem init_oneBin (m n : Nat) : OneBin (init m n) :=
  Lineages.OneBin.replicate m
    fun _ _ hl => by rw [BinG.init_threads hl]

theorem step_oneBin {S S' : State} {i t : Nat} {inv : Option (Nat × KOp)} {lo : Bool} {mt : Option Nat}
    {rz sm sm2 : Bool} (O : OneBin S) (hs : step S i t inv lo mt rz sm sm2 = some S') : OneBin S' := by
  obtain ⟨b, b', hb, hidle, _, _, hb', rfl⟩ := step_eq_some hs
  exact Lineages.OneBin.step O tick
    (fun _ => rfl) _ idleIn (fun _ _ _ => idleIn_pc) hb hidle (BinG.step_threads hb')

theorem reachable_oneBin {m n : Nat} {S : State} (hr : Reachable m n S) : OneBin S := by
  induction hr with
  | init => exact init_oneBin m n
  | step i t inv lo mt rz sm sm2 _ hs ih => exact step_oneBin ih hs

/-- key `k` lives in lineage `(k / 2) % m` under its own name -/
def keys (m : Nat) : Lineages.Keys where
  lin := lineageOf m
  loc k := k
  glob _ q := q
  glob_lin_loc _ := rfl

theorem mhist_eq (S : State) : mhist S = Lineages.mhist (keys S.bins.length) (·.hist) S.bins (BinG.init 0) :=
  Lineages.flatten_map_eq_range binCalls S.bins _

theorem own {m n : Nat} {S : State} (I : TblInv m n S) : (keys m).Own Prod.fst (·.hist) S.bins :=
  fun i b hb e he => ⟨(I.keys i b hb).hist e he, rfl⟩

theorem callsOn_other_bin {m n : Nat} {S : State} (I : TblInv m n S) {j : Nat} {b : BinG.State}
    (hb : S.bins[j]? = some b) {k : Nat} (hk : lineageOf m k ≠ j) : BinG.callsOn b k = [] := by
  rw [List.eq_nil_iff_forall_not_mem]
  intro c hc
  rw [BinG.mem_callsOn] at hc
  exact hk ((I.keys j b hb).hist _ hc)

theorem proj_mhist {m n : Nat} {S : State} (I : TblInv m n S) {k : Nat} {b : BinG.State}
    (hb : S.bins[lineageOf m k]? = some b) : proj (mhist S) k = BinG.callsOn b k := by
  rw [mhist_eq, I.len]
  exact Lineages.proj_mhist _ (own I) hb

theorem bin_of_key {m n : Nat} (hm : 0 < m) {S : State} (I : TblInv m n S) (k : Nat) :
    ∃ b, S.bins[lineageOf m k]? = some b ∧ S.bins.getD (lineageOf S.bins.length k) (BinG.init 0) = b := by
  rw [I.len]
  exact Lineages.exists_getD _ (by rw [I.len]; exact Nat.mod_lt _ hm)

theorem mhist_wf {m n : Nat} {S : State} (hr : Reachable m n S) : ∀ c ∈ mhist S, c.call.inv ≤ c.call.resp := by
  intro c hc
  rw [mhist_eq] at hc
  obtain ⟨i, b, q, hb, hmem, -⟩ := Lineages.mem_mhist hc
  exact ((BinG.reachable_inv ((reachable_tblInv hr).reach i b hb)).thr.histTime _ hmem).1

end Flurry.Proto.TableG
